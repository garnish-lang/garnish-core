/-
Lexing of SPELLED literals, part 3 (C14, lexer side): `TokSpelling cc a ty` — the text `a` is the spelling of ONE token of
type `ty` wherever it starts, both when a space follows and when the input ends —, the two ways to establish it
(`TokSpelling.ofPending`: the token is still pending after its last character; `TokSpelling.ofClosed`: its last
character closed it), and what follows from it for one token alone and for `a op b` (`lex_one`, `lex_binop`).
-/
import Garnish.Lemmas.LexSpell2
namespace Garnish.Model.Lexer
open Garnish.Model Garnish.Model.Parser Garnish.Spec

/-- `a = x :: r` spells one token of type `ty`: `x` starts a token, and from there the rest `r` followed by a space,
or by the end of the input, yields exactly that token (at the position where `x` stood) -/
def TokSpelling (cc : CharClass) (a : List Char) (ty : Gen.TokenType) : Prop :=
  ∃ x r st ty0, a = x :: r ∧ ¬ IsBlank x ∧ x ≠ '\n' ∧ Starts cc x st ty0 ∧
    ∀ (σ : Lexer) (p : Nat × Nat) (toks : List LexerToken), At σ st ty0 [x] p (adv p x) 0 0 false →
      (∃ σ', runChars cc (r ++ [' ']) σ toks = .ok (σ', toks ++ [⟨a, ty, p.1, p.2⟩]) ∧
        At σ' .spaces (some .whitespace) [' '] (advs p a) (adv (advs p a) ' ') 0 0 false) ∧
      (∃ σ'', lexLoop cc r σ toks = .ok (toks ++ [⟨a, ty, p.1, p.2⟩], σ''))

/-- the token is still pending after its last character (numbers, symbols, operators, the empty literals) -/
theorem TokSpelling.ofPending (cc : CharClass) (hcc : cc.Sane) (x : Char) (r : List Char) (st st1 : LexingState)
    (ty0 ty1 : Option Gen.TokenType) (ty : Gen.TokenType) (hb : ¬ IsBlank x) (hn : x ≠ '\n') (hst : Starts cc x st ty0)
    (hnt : st1 ≠ .noToken) (hne : ty ≠ .identifier) (hE : Ending cc st1 ty1 (x :: r) ty)
    (hrun : ∀ (σ : Lexer) (p : Nat × Nat) (toks : List LexerToken), At σ st ty0 [x] p (adv p x) 0 0 false →
      ∃ σ', runChars cc r σ toks = .ok (σ', toks) ∧ ∃ sq eq, At σ' st1 ty1 (x :: r) p (advs p (x :: r)) sq eq false) :
    TokSpelling cc (x :: r) ty := by
  refine ⟨x, r, st, ty0, rfl, hb, hn, hst, ?_⟩
  intro σ p toks h
  obtain ⟨σ', hr, sq, eq, h'⟩ := hrun σ p toks h
  constructor
  · obtain ⟨σ2, hp, h2⟩ := tail_blank cc σ' ' ' (Or.inl rfl) h' hE hne
    refine ⟨σ2, ?_, h2⟩
    rw [runChars_append cc r [' '] σ σ' toks toks hr, runChars_some cc ' ' [] σ' σ2 toks _ h'.ok hp h2.ok]
    rfl
  · have e := lexLoop_append cc r [] σ σ' toks toks hr
    rw [List.append_nil] at e
    rw [e]
    exact tail_end cc hcc 2 σ' toks h' hE hnt hne

/-- the last character closed the token (char lists, byte lists) -/
theorem TokSpelling.ofClosed (cc : CharClass) (hcc : cc.Sane) (x : Char) (r : List Char) (st : LexingState)
    (ty0 : Option Gen.TokenType) (ty : Gen.TokenType) (hb : ¬ IsBlank x) (hn : x ≠ '\n') (hst : Starts cc x st ty0)
    (hrun : ∀ (σ : Lexer) (p : Nat × Nat) (toks : List LexerToken), At σ st ty0 [x] p (adv p x) 0 0 false →
      ∃ σ' p0, runChars cc r σ toks = .ok (σ', toks ++ [⟨x :: r, ty, p.1, p.2⟩]) ∧
        At σ' .noToken none [] p0 (advs p (x :: r)) 0 0 false) :
    TokSpelling cc (x :: r) ty := by
  refine ⟨x, r, st, ty0, rfl, hb, hn, hst, ?_⟩
  intro σ p toks h
  obtain ⟨σ', p0, hr, h'⟩ := hrun σ p toks h
  constructor
  · obtain ⟨σ2, hp, h2⟩ := start_step cc σ' ' ' h' (starts_blank cc ' ' (Or.inl rfl))
    refine ⟨σ2, ?_, h2⟩
    rw [runChars_append cc r [' '] σ σ' toks _ hr, runChars_none cc ' ' [] σ' σ2 _ h'.ok hp]
    rfl
  · have e := lexLoop_append cc r [] σ σ' toks _ hr
    rw [List.append_nil] at e
    rw [e]
    exact lexEnd_done cc hcc 3 σ' _ h'.state h'.ok h'.tree

theorem at_init : At (Lexer.init theTree) .noToken none [] (0, 0) (0, 0) 0 0 false := by
  constructor <;> rfl

theorem lex_one (cc : CharClass) (a : List Char) (ty : Gen.TokenType) (h : TokSpelling cc a ty) :
    lex cc a = .ok [⟨a, ty, 0, 0⟩] := by
  obtain ⟨x, r, st, ty0, rfl, hb, hn, hst, H⟩ := h
  obtain ⟨σ1, hp, h1⟩ := start_step cc _ x at_init hst
  obtain ⟨σ'', hl⟩ := (H σ1 (0, 0) [] h1).2
  have hr : runChars cc [x] (Lexer.init theTree) [] = .ok (σ1, []) := by
    rw [runChars_none cc x [] _ σ1 [] rfl hp]; rfl
  have e := lexLoop_append cc [x] r _ σ1 [] [] hr
  apply lex_of_lexFull_eq (σ := σ'')
  rw [lexFull_eq_lexLoop]
  show lexLoop cc ([x] ++ r) _ [] = _
  rw [e, hl]
  rfl

theorem spaces_done {cc : CharClass} {σ : Lexer} {x : Char} {w p0 p sq eq ae}
    (h : At σ .spaces (some .whitespace) w p0 p sq eq ae) (hb : ¬ IsBlank x) (hn : x ≠ '\n') :
    ArmStep cc { σ with charactersLexed := σ.charactersLexed + 1 } x { σ with charactersLexed := σ.charactersLexed + 1 } true :=
  .spDone h.state (by simpa using hn)
    (by have a1 : x ≠ ' ' := fun e => hb (Or.inl e); have a2 : x ≠ '\t' := fun e => hb (Or.inr e); simp [a1, a2])

theorem spaces_end (cc : CharClass) (σ : Lexer) (x : Char) {w p0 p sq eq ae}
    (h : At σ .spaces (some .whitespace) w p0 p sq eq ae) (hb : ¬ IsBlank x) (hn : x ≠ '\n') :
    processChar cc σ x = .ok (bumpColumn (startToken cc (afterEmit { σ with charactersLexed := σ.charactersLexed + 1 }) x) x,
      some ⟨w, .whitespace, p0.1, p0.2⟩) :=
  emit_any cc σ _ x (spaces_done h hb hn) (h.lexed _) (by decide)

theorem spaces_emit (cc : CharClass) (σ : Lexer) (x : Char) {w p0 p sq eq ae st ty}
    (h : At σ .spaces (some .whitespace) w p0 p sq eq ae) (hb : ¬ IsBlank x) (hn : x ≠ '\n') (hst : Starts cc x st ty) :
    ∃ σ', processChar cc σ x = .ok (σ', some ⟨w, .whitespace, p0.1, p0.2⟩) ∧ At σ' st ty [x] p (adv p x) 0 0 ae :=
  emit_step cc σ _ x (spaces_done h hb hn) (h.lexed _) (by decide) hst

theorem lex_binop (cc : CharClass) (a op b : List Char) (tya oty tyb : Gen.TokenType) (ha : TokSpelling cc a tya)
    (ho : TokSpelling cc op oty) (hb : TokSpelling cc b tyb) :
    lex cc (a ++ ' ' :: op ++ ' ' :: b) =
      .ok [⟨a, tya, 0, 0⟩,
           ⟨[' '], .whitespace, (advs (0, 0) a).1, (advs (0, 0) a).2⟩,
           ⟨op, oty, (advs (0, 0) (a ++ [' '])).1, (advs (0, 0) (a ++ [' '])).2⟩,
           ⟨[' '], .whitespace, (advs (0, 0) (a ++ ' ' :: op)).1, (advs (0, 0) (a ++ ' ' :: op)).2⟩,
           ⟨b, tyb, (advs (0, 0) (a ++ ' ' :: op ++ [' '])).1, (advs (0, 0) (a ++ ' ' :: op ++ [' '])).2⟩] := by
  obtain ⟨xa, ra, sta, tya0, rfl, hba, hna, hsta, Ha⟩ := ha
  obtain ⟨xo, ro, sto, tyo0, rfl, hbo, hno, hsto, Ho⟩ := ho
  obtain ⟨xb, rb, stb, tyb0, rfl, hbb, hnb, hstb, Hb⟩ := hb
  obtain ⟨σ1, hp1, h1⟩ := start_step cc _ xa at_init hsta
  have r1 : runChars cc [xa] (Lexer.init theTree) [] = .ok (σ1, []) := by
    rw [runChars_none cc xa [] _ σ1 [] rfl hp1]; rfl
  obtain ⟨σ2, r2, h2⟩ := (Ha σ1 (0, 0) [] h1).1
  obtain ⟨σ3, hp3, h3⟩ := spaces_emit cc σ2 xo h2 hbo hno hsto
  have r3 : ∀ T, runChars cc [xo] σ2 T =
      .ok (σ3, T ++ [⟨[' '], .whitespace, (advs (0, 0) (xa :: ra)).1, (advs (0, 0) (xa :: ra)).2⟩]) := by
    intro T; rw [runChars_some cc xo [] σ2 σ3 T _ h2.ok hp3 h3.ok]; rfl
  obtain ⟨σ4, r4, h4⟩ := (Ho σ3 _ ([] ++ [⟨xa :: ra, tya, 0, 0⟩] ++
    [⟨[' '], .whitespace, (advs (0, 0) (xa :: ra)).1, (advs (0, 0) (xa :: ra)).2⟩]) h3).1
  obtain ⟨σ5, hp5, h5⟩ := spaces_emit cc σ4 xb h4 hbb hnb hstb
  have r5 : ∀ T, runChars cc [xb] σ4 T = .ok (σ5, T ++ [⟨[' '], .whitespace,
      (advs (adv (advs (0, 0) (xa :: ra)) ' ') (xo :: ro)).1, (advs (adv (advs (0, 0) (xa :: ra)) ' ') (xo :: ro)).2⟩]) := by
    intro T; rw [runChars_some cc xb [] σ4 σ5 T _ h4.ok hp5 h5.ok]; rfl
  obtain ⟨σ6, r6⟩ := (Hb σ5 _ ([] ++ [⟨xa :: ra, tya, 0, 0⟩] ++
    [⟨[' '], .whitespace, (advs (0, 0) (xa :: ra)).1, (advs (0, 0) (xa :: ra)).2⟩] ++
    [⟨xo :: ro, oty, (adv (advs (0, 0) (xa :: ra)) ' ').1, (adv (advs (0, 0) (xa :: ra)) ' ').2⟩] ++
    [⟨[' '], .whitespace, (advs (adv (advs (0, 0) (xa :: ra)) ' ') (xo :: ro)).1,
      (advs (adv (advs (0, 0) (xa :: ra)) ' ') (xo :: ro)).2⟩]) h5).2
  have es : (xa :: ra) ++ ' ' :: (xo :: ro) ++ ' ' :: (xb :: rb) =
      [xa] ++ ((ra ++ [' ']) ++ ([xo] ++ ((ro ++ [' ']) ++ ([xb] ++ rb)))) := by simp
  apply lex_of_lexFull_eq (σ := σ6)
  rw [lexFull_eq_lexLoop, es, lexLoop_append cc _ _ _ _ _ _ r1, lexLoop_append cc _ _ _ _ _ _ r2,
    lexLoop_append cc _ _ _ _ _ _ (r3 _), lexLoop_append cc _ _ _ _ _ _ r4, lexLoop_append cc _ _ _ _ _ _ (r5 _), r6]
  simp [advs]

theorem lex_binop_cols (cc : CharClass) (a op b : List Char) (tya oty tyb : Gen.TokenType) (ha : TokSpelling cc a tya)
    (ho : TokSpelling cc op oty) (hb : TokSpelling cc b tyb) (hna : '\n' ∉ a) (hno : '\n' ∉ op) :
    lex cc (a ++ ' ' :: op ++ ' ' :: b) =
      .ok [⟨a, tya, 0, 0⟩, ⟨[' '], .whitespace, 0, a.length⟩, ⟨op, oty, 0, a.length + 1⟩,
           ⟨[' '], .whitespace, 0, a.length + 1 + op.length⟩, ⟨b, tyb, 0, a.length + 1 + op.length + 1⟩] := by
  rw [lex_binop cc a op b tya oty tyb ha ho hb]
  have n1 : '\n' ∉ a ++ [' '] := by simp [hna]
  have n2 : '\n' ∉ a ++ ' ' :: op := by simp [hna, hno]
  have n3 : '\n' ∉ a ++ ' ' :: op ++ [' '] := by simp [hna, hno]
  rw [advs_noNewline _ _ hna, advs_noNewline _ _ n1, advs_noNewline _ _ n2, advs_noNewline _ _ n3]
  simp
  omega

end Garnish.Model.Lexer
