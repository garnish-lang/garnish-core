/-
`nc` / `ncL`: no `custom` anywhere in a value, hereditarily. It is the hereditary class of Lemmas/Her.lean for the leaf test "not
`custom`" (`nc_eq_her`), so its closure under the operations of Abs/Ops and under a machine step (`step_nc`) come from there.
-/
import Garnish.Lemmas.Her
set_option linter.unusedVariables false
namespace Garnish.Lemmas.NoCustom
open Garnish Gen Garnish.Abs

variable {F : Type}

mutual
def nc : Val F → Bool
  | .custom => false
  | .pair l r | .concat l r | .range l r | .slice l r | .part l r => nc l && nc r
  | .list items => ncL items
  | _ => true
def ncL : List (Val F) → Bool
  | [] => true
  | x :: xs => nc x && ncL xs
end

open Garnish.Lemmas.Her Garnish.Lemmas.ValClass

def ncQ : Val F → Bool
  | .custom => false
  | _ => true

instance : LeafOK (ncQ : Val F → Bool) :=
  ⟨rfl, rfl, rfl, fun _ => rfl, fun _ => rfl, fun _ => rfl, fun _ => rfl, fun _ => rfl, fun _ => rfl⟩

mutual
theorem nc_eq_her : ∀ v : Val F, nc v = her ncQ v
  | .pair l r | .concat l r | .range l r | .slice l r | .part l r => by simp only [nc, her, nc_eq_her l, nc_eq_her r]
  | .list items => by simp only [nc, her, ncL_eq_herL items]
  | .custom | .unit | .tru | .fls | .num _ | .char _ | .byte _ | .sym _ | .expr _ | .ext _ | .type _ | .chars _
  | .bytes _ | .symList _ => rfl
theorem ncL_eq_herL : ∀ xs : List (Val F), ncL xs = herL ncQ xs
  | [] => rfl
  | x :: xs => by simp only [ncL, herL, nc_eq_her x, ncL_eq_herL xs]
end

theorem ncL_iff (xs : List (Val F)) : ncL xs = true ↔ ∀ x ∈ xs, nc x = true := by
  simp only [ncL_eq_herL, nc_eq_her, herL_iff]

theorem head_nc {x : Val F} {xs ys : List (Val F)} (h : ncL ys = true) (he : ys = x :: xs) :
    nc x = true ∧ ncL xs = true := by
  subst he; simpa [ncL] using h

section
variable (fo : FloatOps F)

theorem nc_accessInt {idx : Number F} {v x : Val F} (hv : nc v = true) (h : accessInt fo idx v = .some x) :
    nc x = true := by
  rw [nc_eq_her] at hv ⊢; exact her_accessInt fo hv h

theorem nc_accessSym {s : Nat} {v x : Val F} (hv : nc v = true) (h : accessSym s v = .some x) : nc x = true := by
  rw [nc_eq_her] at hv ⊢; exact her_accessSym hv h

theorem nc_getAccess {key v x : Val F} (hv : nc v = true) (h : getAccess fo key v = .some x) : nc x = true := by
  rw [nc_eq_her] at hv ⊢; exact her_getAccess fo hv h

theorem nc_accessPath (ps : List (SymPart F)) (cur x : Val F) (hc : nc cur = true) (h : accessPath fo ps cur = .some x) :
    nc x = true := by
  rw [nc_eq_her] at hc ⊢; exact her_accessPath fo ps cur x hc h

def OutNC : OpOut F → Prop
  | .val v => nc v = true
  | _ => True

theorem outNC_iff (o : OpOut F) : OutNC o ↔ OutHer ncQ o := by
  cases o <;> simp only [OutNC, OutHer, nc_eq_her]

theorem outNC_left {v : Val F} (hv : nc v = true) : OutNC (accessLeftInternal v) :=
  (outNC_iff _).2 (outHer_left (nc_eq_her v ▸ hv))

theorem outNC_right {v : Val F} (hv : nc v = true) : OutNC (accessRightInternal v) :=
  (outNC_iff _).2 (outHer_right (nc_eq_her v ▸ hv))

structure HostNoCustom (host : Host F) : Prop where
  defer : ∀ op l r v, host.defer op l r = some v → nc v = true
  resolve : ∀ y v, host.resolve y = some v → nc v = true
  apply : ∀ n a v, host.apply n a = some v → nc v = true

structure NoCustom (m : MState F) : Prop where
  regs : ncL m.regs = true
  vals : ncL m.vals = true
  frames : ∀ fr ∈ m.frames, ncL fr.saved = true

def ConstsNC (P : Prog F) : Prop := ∀ (k : Nat) (v : Val F), P.consts[k]? = some v → nc v = true

theorem outNC_acc {a : Acc F} (h : ∀ v, a = .some v → nc v = true) :
    OutNC (match a with
      | .some v => OpOut.val v | .none => .val .unit | .unsupported => .err .unsupported | .err e => .err e) := by
  cases a with
  | some v => exact h v rfl
  | none => rfl
  | unsupported => trivial
  | err e => trivial
end

section
variable {fo : FloatOps F} {host : Host F} {P : Prog F}

theorem NoCustom.mk' {m : MState F} {regs vals : List (Val F)} {frames : List (Frame F)} (hr : ncL regs = true)
    (hv : ncL vals = true) (hf : ∀ fr ∈ frames, ncL fr.saved = true) (pc : Nat) (tr : List (HostCall F)) :
    NoCustom (⟨pc, regs, vals, frames, tr⟩ : MState F) := ⟨hr, hv, hf⟩

theorem noCustom_iff {m : MState F} : NoCustom m ↔ HerState ncQ m := by
  constructor <;> exact fun h => ⟨by simpa only [ncL_eq_herL] using h.regs, by simpa only [ncL_eq_herL] using h.vals,
    by simpa only [ncL_eq_herL] using h.frames⟩

theorem HostNoCustom.her (HN : HostNoCustom host) : HostHer ncQ host :=
  ⟨fun op l r v h => nc_eq_her v ▸ HN.defer op l r v h, fun y v h => nc_eq_her v ▸ HN.resolve y v h,
   fun n a v h => nc_eq_her v ▸ HN.apply n a v h⟩

theorem ConstsNC.her (hc : ConstsNC P) : ConstsHer ncQ P := fun k v hk => nc_eq_her v ▸ hc k v hk

theorem step_nc (HN : HostNoCustom host) (hc : ConstsNC P) {s s' : MState F} (hs : NoCustom s)
    (h : StepTo (Abs.step fo host P s) s') : NoCustom s' :=
  noCustom_iff.2 (step_her HN.her hc.her (noCustom_iff.1 hs) h)
end

end Garnish.Lemmas.NoCustom
