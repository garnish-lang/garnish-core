/-
A side-effect block as the operand of a binary operator, both sides.  Shape (`BlockShape`, `blockToks`):
`e trivia* op trivia* [ trivia* body trivia* ]`, followed by `rest`.
  * Parser: `left = last_left` = the operator node; every operator binds looser than 5, so the walk stops at once, the
    SideEffect node becomes the operator's right child (the dangling `right` of the operator already points to it) and has
    no left operand (`OpBlock`: the state after `]`; `OpBlock.tree`: the tree once the operator's right operand is there).
  * `refLoopB`: the block is plugged in as the operand and stays pending (`refStepB_open_pending`, `refStepB_close_pending`);
    between the two block tokens the pass is `refRun` over block-free segments (`stage_seg_run`).
  * `op_block_both`: both sides after `e op [ body ]`, followed by anything.
  * What may follow (`BTail`): the end of the input — the block is the operand; or `trivia* v` — after `]`, `last_left` is
    the SideEffect node; at the start of the next iteration the parser moves `last_left` to that node's parent, the
    operator, and restores `previous_second_def` from it (`step_adjust_eq`); the value then stops at the operator, whose
    `right` already points to the SideEffect node: `parse_token` redirects `right` to the value and hands the old right
    child over as the value's LEFT operand (`parseToken_steal`); `refStepB` does the same to the pending block
    (`refStepB_pend_value`).  `parse_op_block_tail`: for either tail `parse` accepts, the result is a proper tree in token
    order, and it and `refParseB` give `opBlockTree` of the reference trees of `e` and of the body.
Trees without block nodes (`noBG`) and `unB` of a plugged block serve the last step (`refLoopB` ends with `unB`).
-/
import Garnish.Lemmas.ParseBlocksValue
import Garnish.Lemmas.ParserBBlock

namespace Garnish.Spec
open Garnish Garnish.Gen Garnish.Model.Parser Garnish.Abs.Source

def noBG : RTree → Bool
  | .nil => true
  | .node l _ _ r => noBG l && noBG r
  | .group d _ i => !(d == .sideEffect) && noBG i

theorem unB_of_noBG : ∀ t : RTree, noBG t = true → unB t = t
  | .nil, _ => rfl
  | .node l d k r, h => by
    simp only [noBG, Bool.and_eq_true] at h
    simp only [unB, unB_of_noBG l h.1, unB_of_noBG r h.2]
  | .group d k i, h => by
    simp only [noBG, Bool.and_eq_true, Bool.not_eq_true'] at h
    simp only [unB, h.1, Bool.false_eq_true, if_false, unB_of_noBG i h.2]

theorem noBG_of_unB : ∀ t : RTree, unB t = t → noBG t = true
  | .nil, _ => rfl
  | .node l d k r, h => by
    simp only [unB, RTree.node.injEq, true_and] at h
    simp only [noBG, noBG_of_unB l h.1, noBG_of_unB r h.2, Bool.and_self]
  | .group d k i, h => by
    simp only [unB] at h
    split at h
    · cases h
    · rename_i hd
      simp only [RTree.group.injEq, true_and] at h
      simp only [noBG, noBG_of_unB i h, Bool.and_true]
      simpa using hd

theorem noBG_absorb (tbl : Table) (q : Nat) (rtl : Bool) (d : Definition) (k : Nat) :
    ∀ (t t' : RTree), noBG t = true → absorb tbl q rtl d k t = some t' → noBG t' = true
  | .nil, _, _, h => by cases h
  | .group _ _ _, _, _, h => by cases h
  | .node l a ka r, t', hn, h => by
    simp only [noBG, Bool.and_eq_true] at hn
    simp only [absorb] at h
    cases h1 : absorb tbl q rtl d k r with
    | some r' => rw [h1] at h; cases h; simp only [noBG, hn.1, noBG_absorb tbl q rtl d k r r' hn.2 h1, Bool.and_self]
    | none =>
      rw [h1] at h
      cases hp : tbl.prio a with
      | none => rw [hp] at h; cases h
      | some pa =>
        rw [hp] at h
        simp only at h
        split at h
        · cases h; simp [noBG, hn.1, hn.2]
        · cases h

theorem noBG_attach (tbl : Table) (q : Nat) (rtl : Bool) (d : Definition) (k : Nat) (t : RTree) (h : noBG t = true) :
    noBG (attach tbl q rtl d k t) = true := by
  unfold attach
  cases ha : absorb tbl q rtl d k t with
  | some t' => exact noBG_absorb tbl q rtl d k t t' h ha
  | none => simp [noBG, h]

theorem unB_plug : ∀ (A X : RTree), noBG A = true → asProperty X = X → asProperty (unB X) = unB X →
    unB (plug A X) = plug A (unB X)
  | .nil, X, _, _, _ => rfl
  | .group d k i, X, h, _, _ => by simp only [plug]; exact unB_of_noBG _ h
  | .node l d k r, X, h, h1, h2 => by
    simp only [noBG, Bool.and_eq_true] at h
    simp only [plug]
    split
    · simp only [unB, unB_of_noBG l h.1, h1, h2, ite_self]
    · simp only [unB, unB_of_noBG l h.1, unB_plug r X h.2 h1 h2]

theorem bottomIsAccess_eq : ∀ t : RTree, bottomIsAccess t = accessBottom t
  | .nil => rfl
  | .group _ _ _ => rfl
  | .node l d k r => by simp only [bottomIsAccess, accessBottom, bottomIsAccess_eq r]

theorem refStepB_open_pending {o : PToken} (ho : o.type = .startSideEffect) (s : BSt) (hp : s.pend = none)
    (hl : s.f.last = .op ∨ s.f.last = .optOp) (pos : Nat) (rest : List PToken) :
    refStepB Table.gen s pos o rest =
      .ok { f := blockFrame pos, stack := s.f :: s.stack, modes := .pending false :: s.modes, pend := none } := by
  unfold refStepB
  rw [ho]
  have : Table.gen.define TokenType.startSideEffect = (Definition.sideEffect, SecDef.startSideEffect) := rfl
  rcases hl with hl | hl <;> (simp only [this, hp, hl]; rfl)

theorem refStepB_close_pending {c : PToken} (hc : c.type = .endSideEffect) (s : BSt) (gp : Nat) (parent : Frame)
    (st : List Frame) (ms : List BMode) (hctx : s.f.ctx = some (.sideEffect, gp)) (hst : s.stack = parent :: st)
    (hm : s.modes = .pending false :: ms) (hp : s.pend = none) (hl : (s.f.last == .op || s.f.last == .sep) = false)
    (pos : Nat) (rest : List PToken) :
    refStepB Table.gen s pos c rest =
      .ok { f := { parent with cur := plug parent.cur (.group .sideEffect gp s.f.cur), last := parent.last, ws := false,
                               prevSep := false },
            stack := st, modes := ms, pend := some (parent.cur, .group .sideEffect gp s.f.cur, false) } := by
  unfold refStepB
  rw [hc]
  have : Table.gen.define TokenType.endSideEffect = (Definition.drop, SecDef.endSideEffect) := rfl
  simp only [this, hctx, hst, hm, hp, hl]
  rfl

/-- the definition of a value that takes over a pending block (Property after `.`) -/
def stealDef (c : RTree) (d : Definition) : Definition := if bottomIsAccess c && d == .identifier then .property else d

def stolenFrame (f : Frame) (c se : RTree) (d : Definition) (pos : Nat) : Frame :=
  { f with cur := plug c (.node se (stealDef c d) pos .nil), last := .operand, ws := false, prevSep := false }

/-- a value takes the pending block as its left child -/
theorem refStepB_pend_value {v : PToken} (hv : isValueTok v = true) (s : BSt) (c se : RTree)
    (hp : s.pend = some (c, se, false)) (hse : se.isNil = false) (pos : Nat) (rest : List PToken) :
    refStepB Table.gen s pos v rest =
      .ok { s with f := stolenFrame s.f c se (getDefinition v.type).1 pos, pend := none } := by
  unfold isValueTok at hv
  unfold refStepB stolenFrame stealDef
  have hd : Table.gen.define v.type = getDefinition v.type := rfl
  rw [hd]
  generalize getDefinition v.type = ds at hv
  obtain ⟨d, sd⟩ := ds
  simp only [Bool.and_eq_true, Bool.or_eq_true, beq_iff_eq, Bool.not_eq_true'] at hv
  obtain ⟨hs, hnd⟩ := hv
  rcases hs with hs | hs <;> subst hs <;> simp only [hp, hnd, hse, Bool.false_and, Bool.false_eq_true, if_false]

theorem bin3_noblock {op : PToken} (h : isBin3Tok op = true) : noBlockTok op = true := by
  rcases bin3_secdef h with e | e | e <;> exact (noBlock_sec op).2 (by rw [e]; exact ⟨nofun, nofun⟩)

theorem refParse_noBG {toks : List PToken} {t : RTree} (h : refParse Table.gen toks = .ok t)
    (hn : ∀ x ∈ toks, noBlockTok x = true) : noBG t = true :=
  noBG_of_unB t (unB_id hn t (refParse_nodes toks t h))

theorem comp_sideOpen_after_op (s : SecDef)
    (hs : s = .binaryLeftToRight ∨ s = .binaryRightToLeft ∨ s = .optionalBinaryLeftToRight ∨ s = .whitespace ∨
      s = .annotation) : checkComposition s .startSideEffect false = true := by
  rcases hs with rfl | rfl | rfl | rfl | rfl <;> rfl

/-- the state `st2` after `e op [ body ]` (`st1`: the state after `e`, with the tree `E`; `nodes'`, `info`: what
    `parse_token` returned for `op`): the operator node `n = st1.nodes.size` still has its dangling `right = n + 1`, the
    SideEffect node `S` is node `n + 1` with the tree `Eb` of the body below it, and `last_left` is `S` -/
structure OpBlock (e body : Ex) (op o : PToken) (pB : Nat) (st1 : PState) (E : Tree) (re cb q : Nat)
    (nodes' : Array ParseNode) (info : Info) (st2 : PState) (Eb : Tree) (reb : Nat) (S : ParseNode) (tb : RTree) : Prop where
  inv : UInv st1 none none 0 E re cb
  cnt : E.inorder.length + e.garb = st1.nodes.size
  te : refParse Table.gen e.toks = .ok (toRG (dfOf st1.nodes) E)
  hq : priority (getDefinition op.type).1 = some q
  ins : Inserted st1.nodes none 0 (insU st1 cb q ((getDefinition op.type).2 == .binaryRightToLeft) E) nodes' info
  below : ∀ j, j < st1.nodes.size → st2.nodes[j]? = nodes'[j]?
  opn : st2.nodes[st1.nodes.size]? = some ⟨(getDefinition op.type).1, (getDefinition op.type).2, info.parent, info.left,
    some (st1.nodes.size + 1), op⟩
  hS : st2.nodes[st1.nodes.size + 1]? = some S
  Sd : S.definition = .sideEffect
  Sp : S.parent = some st1.nodes.size
  Sl : S.left = none
  Sr : S.right = some reb
  St : S.lexToken = o
  treeB : IsTreeAt st2.nodes (some (st1.nodes.size + 1)) (some reb) Eb
  inB : SortedIn (st1.nodes.size + 1 + 1) st2.nodes.size Eb.inorder
  szB : st1.nodes.size + 1 + 1 < st2.nodes.size
  cntB : Eb.inorder.length + (st1.nodes.size + 1 + 1) + body.garb = st2.nodes.size
  gs : st2.groupStack = #[]
  cg : st2.currentGroup = none
  prev : st2.previousSecondDef = .endSideEffect
  cfl : st2.checkForList = false
  ll : st2.lastLeft = some (st1.nodes.size + 1)
  nnl : st2.nextLastLeft = none
  htb : refParse Table.gen body.toks = .ok tb
  tbE : toRG (dfOf st2.nodes) Eb = tb.shift pB

/-- **the tree once the operator's right operand is complete**: any array that agrees with `nodes'` below the operator
    node and holds the operand `sub` (no lone identifier) as the operator's right subtree -/
theorem OpBlock.tree {e body : Ex} {op o : PToken} {pB : Nat} {st1 : PState} {E : Tree} {re cb q : Nat}
    {nodes' : Array ParseNode} {info : Info} {st2 : PState} {Eb : Tree} {reb : Nat} {S : ParseNode} {tb : RTree}
    (h : OpBlock e body op o pB st1 E re cb q nodes' info st2 Eb reb S tb) (hop : isBin3Tok op = true)
    (arr : Array ParseNode) (sub : Tree) (rlink : Option Nat)
    (hlt : ∀ j, j < st1.nodes.size → arr[j]? = nodes'[j]?)
    (hon : arr[st1.nodes.size]? = some ⟨(getDefinition op.type).1, (getDefinition op.type).2, info.parent, info.left, rlink,
      op⟩)
    (hsub : IsTreeAt arr (some st1.nodes.size) rlink sub)
    (hX : asProperty (toRG (dfOf arr) sub) = toRG (dfOf arr) sub) :
    ∃ re' T, IsTreeAt arr none (some re') T ∧ T.inorder = E.inorder ++ st1.nodes.size :: sub.inorder ∧
      ∀ te, refParse Table.gen e.toks = .ok te →
        toRG (dfOf arr) T =
          plug (attach Table.gen q ((getDefinition op.type).2 == .binaryRightToLeft) (getDefinition op.type).1 op.col te)
            (toRG (dfOf arr) sub) := by
  obtain ⟨re', htree', _⟩ := h.ins.tree arr sub op.col hlt ⟨_, hon, rfl, rfl, rfl, rfl⟩ hsub
  refine ⟨re', _, htree', insertC_inorder .., ?_⟩
  intro te hte
  rw [h.te] at hte; injection hte with hte; subst hte
  obtain ⟨_, _, _, hnb⟩ := bin3_prio20 op.type (by unfold isBin3Tok at hop; exact hop)
  have hdn : dfOf arr st1.nodes.size = (getDefinition op.type).1 := by simp [dfOf, hon]
  exact (attach_toRG h.inv.n h.inv.spine (fun j hj => by rw [hlt j hj]; exact h.ins.defs j hj) hdn hnb q _ op.col sub _
    (plugFn_plug _ _ _ hX)).symm

theorem step_adjust_eq (st sA : PState) (ug : Option Nat) (t : PToken) (il : Bool) (hug : underGroupOf st = .ok ug)
    (hadj : adjustLastLeft st ug = .ok sA) (hsz : sA.nodes.size = st.nodes.size) (hug' : underGroupOf sA = .ok ug)
    (hadj' : adjustLastLeft sA ug = .ok sA) : step st t il = step sA t il := by
  unfold step
  simp only [hug, hadj, hug', hadj', Outcome.bind, hsz]

/-- the new node stops at the node `n` it starts from, and `n` already has a right child `r0`: `r0` becomes the new
    node's left operand -/
theorem parseToken_steal {id q n r0 : Nat} {d : Definition} {right : Option Nat} {nodes : Array ParseNode}
    {ug : Option Nat} {rtl : Bool} {on : ParseNode} (hq : priority d = some q)
    (hw : walkLoop nodes q ug rtl (nodes.size + 1) 0 (some n) (some n) = .ok (some n, some n))
    (hn : nodes[n]? = some on) (hr : on.right = some r0) (hr0 : r0 < nodes.size) :
    ∃ nodes2, parseToken id d (some n) right nodes ug rtl = .ok (nodes2, ⟨d, some n, some r0, right⟩) ∧
      nodes2.size = nodes.size ∧
      ∀ j, nodes2[j]? = if j = r0 then ((if j = n then (nodes[j]?).map (setRight (some id)) else nodes[j]?)).map
                            (setParent (some id))
                        else if j = n then (nodes[j]?).map (setRight (some id)) else nodes[j]? := by
  have hns : n < nodes.size := (Array.getElem?_eq_some_iff.mp hn).1
  obtain ⟨n1, h1⟩ := modifyNode?_isSome (fun p => { p with right := some id }) hns
  have s1 := modifyNode?_size h1
  obtain ⟨n2, h2⟩ := modifyNode?_isSome (a := n1) (fun node => { node with parent := some id }) (show r0 < n1.size by omega)
  have s2 := modifyNode?_size h2
  refine ⟨n2, ?_, by omega, ?_⟩
  · unfold parseToken
    rw [hq]
    simp only [hw, Outcome.bind, beq_self_eq_true, if_true, hn, h1, hr, h2]
  · intro j
    rw [modifyNode?_get h2 j, modifyNode?_get h1 j]
    rfl

theorem trivia_runT : ∀ (ws : List PToken) (st : PState) (ug : Option Nat) (rest : List PToken), TrivOK st →
    st.nextLastLeft = none → underGroupOf st = .ok ug → (∀ w ∈ ws, isTriviaTok w = true) →
    ∃ st', loop st (ws ++ rest) = loop st' rest ∧ st'.nodes = st.nodes ∧ st'.lastLeft = st.lastLeft ∧
      st'.checkForList = st.checkForList ∧ st'.nextLastLeft = none ∧ st'.groupStack = st.groupStack ∧
      st'.currentGroup = st.currentGroup ∧
      (st'.previousSecondDef = st.previousSecondDef ∨ st'.previousSecondDef = .whitespace ∨
        st'.previousSecondDef = .annotation)
  | [], st, _, _, _, hn, _, _ => ⟨st, rfl, rfl, rfl, rfl, hn, rfl, rfl, Or.inl rfl⟩
  | w :: ws, st, ug, rest, ht, hn, hug, hws => by
    have hw := hws w (List.mem_cons_self ..)
    have ht' : TrivOK { st with previousSecondDef := (getDefinition w.type).2, lastToken := w } := ht
    obtain ⟨st', h1, h2, h3, h4, h5, h6, h7, h8⟩ :=
      trivia_runT ws { st with previousSecondDef := (getDefinition w.type).2, lastToken := w } ug rest ht' hn hug
        (fun x hx => hws x (List.mem_cons_of_mem _ hx))
    refine ⟨st', ?_, h2, h3, h4, h5, h6, h7, ?_⟩
    · simp only [List.cons_append, loop]
      rw [step_trivia st w _ hw ht hn, hug]
      simp only [Outcome.bind]
      exact h1
    · rcases h8 with h8 | h8 | h8
      · rw [h8]; exact Or.inr (trivia_secdef hw)
      · exact Or.inr (Or.inl h8)
      · exact Or.inr (Or.inr h8)

theorem comp_value_after_op (s x : SecDef)
    (hs : s = .binaryLeftToRight ∨ s = .binaryRightToLeft ∨ s = .optionalBinaryLeftToRight ∨ s = .whitespace ∨
      s = .annotation) (hx : x = .value ∨ x = .identifier) : checkComposition s x false = true := by
  rcases hs with rfl | rfl | rfl | rfl | rfl <;> rcases hx with rfl | rfl <;> rfl

/-- the hypotheses on the shape `e trivia* op trivia* [ trivia* body trivia* ]` -/
structure BlockShape (F : Fl) (e body : Ex) (op o c : PToken) (ws1 ws2 wsA wsB : List PToken) : Prop where
  he : e.ok F false = true
  hbody : body.ok F false = true
  hop : isBin3Tok op = true
  ho : o.type = .startSideEffect
  hc : c.type = .endSideEffect
  hw1 : ∀ w ∈ ws1, isTriviaTok w = true
  hw2 : ∀ w ∈ ws2, isTriviaTok w = true
  hwA : ∀ w ∈ wsA, isTriviaTok w = true
  hwB : ∀ w ∈ wsB, isTriviaTok w = true

/-- the tokens of that shape, followed by `rest` -/
abbrev blockToks (e body : Ex) (op o c : PToken) (ws1 ws2 wsA wsB rest : List PToken) : List PToken :=
  e.toks ++ (ws1 ++ (op :: (ws2 ++ (o :: (wsA ++ (body.toks ++ (wsB ++ (c :: rest))))))))

/-- **the run over `e op [ body ]`, followed by anything, on both sides**: the parser is in a state `st2` described by
    `OpBlock`; `refLoopB` is in a state `sB` with the block plugged in as the operator's operand and pending -/
theorem op_block_both {F : Fl} {e body : Ex} {op o c : PToken} {ws1 ws2 wsA wsB : List PToken}
    (h : BlockShape F e body op o c ws1 ws2 wsA wsB) (rest : List PToken)
    (hnum : NumberedFrom 0 (blockToks e body op o c ws1 ws2 wsA wsB rest)) :
    ∃ st1 E re cb q nodes' info st2 Eb reb S tb, ∃ sB : BSt,
      loop PState.init (blockToks e body op o c ws1 ws2 wsA wsB rest) = loop st2 rest ∧
      op.col = e.toks.length + ws1.length ∧ o.col = e.toks.length + ws1.length + 1 + ws2.length ∧
      NumberedFrom (e.toks.length + ws1.length + 1 + ws2.length + 1 + wsA.length + body.toks.length + wsB.length + 1)
        rest ∧
      OpBlock e body op o (e.toks.length + ws1.length + 1 + ws2.length + 1 + wsA.length) st1 E re cb q nodes' info st2 Eb
        reb S tb ∧
      refLoopB Table.gen BSt.top 0 (blockToks e body op o c ws1 ws2 wsA wsB rest) =
        refLoopB Table.gen sB
          (e.toks.length + ws1.length + 1 + ws2.length + 1 + wsA.length + body.toks.length + wsB.length + 1) rest ∧
      sB.stack = [] ∧
      sB.pend = some (attach Table.gen q ((getDefinition op.type).2 == .binaryRightToLeft) (getDefinition op.type).1
            (e.toks.length + ws1.length) (toRG (dfOf st1.nodes) E),
          .group .sideEffect (e.toks.length + ws1.length + 1 + ws2.length)
            (tb.shift (e.toks.length + ws1.length + 1 + ws2.length + 1 + wsA.length)), false) ∧
      sB.f.cur = plug (attach Table.gen q ((getDefinition op.type).2 == .binaryRightToLeft) (getDefinition op.type).1
            (e.toks.length + ws1.length) (toRG (dfOf st1.nodes) E))
          (.group .sideEffect (e.toks.length + ws1.length + 1 + ws2.length)
            (tb.shift (e.toks.length + ws1.length + 1 + ws2.length + 1 + wsA.length))) := by
  obtain ⟨he, hbody, hop, ho, hc, hw1, hw2, hwA, hwB⟩ := h
  have hnume := numbered_prefix e.toks _ 0 hnum
  have hn1 := numbered_append e.toks _ 0 hnum
  have hn2 := numbered_append ws1 _ _ hn1
  have hn3 := numbered_append ws2 _ _ hn2.2
  have hn4 := numbered_append wsA _ _ hn3.2
  have hnumB := numbered_prefix body.toks _ _ hn4
  have hn5 := numbered_append wsB _ _ (numbered_append body.toks _ _ hn4)
  simp only [Nat.zero_add] at hn2 hn3 hnumB hn5
  obtain ⟨st1, E, re, cb, hloop, hinv, hgs, hcg, hcnt, hrefE⟩ :=
    ex_run e he (ws1 ++ (op :: (ws2 ++ (o :: (wsA ++ (body.toks ++ (wsB ++ (c :: rest))))))))
  have hte := refParse_of_exprRef e he (hrefE 0 hnume)
  obtain ⟨st1', hloopW1, hinv', hn1', hgs1', hcg1'⟩ :=
    trivia_runU ws1 st1 (op :: (ws2 ++ (o :: (wsA ++ (body.toks ++ (wsB ++ (c :: rest))))))) hinv hw1
  obtain ⟨q, nodes', info, s1, hq, h1, hns1, hO1, hgsS, hcgS, hI⟩ := op_effectU hinv' hop
  rw [insU_congr hn1', hn1'] at hI
  rw [hn1'] at hns1
  have hsz' := hI.size
  have hdefs := hI.defs
  have hs1 : s1.nodes.size = st1.nodes.size + 1 := by rw [hns1]; simp [hsz']
  have hon1 : s1.nodes[st1.nodes.size]? = some ⟨(getDefinition op.type).1, (getDefinition op.type).2, info.parent,
      info.left, some (st1.nodes.size + 1), op⟩ := by rw [hns1, Array.getElem?_push, if_pos hsz'.symm]
  obtain ⟨_, _, _, _, _, _, _, _, _, hp1, _⟩ := step_bin3_stateG st1' s1 op hop hinv'.nnl hinv'.hug hinv'.adjust h1
  -- trivia, `[`: every operator binds looser than 5, so the walk stops at the operator node at once
  obtain ⟨s1', hloopW2, hO1', hns1', _, hll1', hgs1'', hcg1'', hprev1'⟩ :=
    trivia_runB_prev ws2 s1 none (o :: (wsA ++ (body.toks ++ (wsB ++ (c :: rest))))) hO1 (by omega) hw2
  have hs1' : s1'.nodes.size = st1.nodes.size + 1 := by rw [hns1']; exact hs1
  have hll : s1'.lastLeft = some st1.nodes.size := by
    rw [hll1', hO1.lastLeft_eq (by omega), hs1]; rfl
  have hm1 : s1'.nodes[st1.nodes.size]? = some ⟨(getDefinition op.type).1, (getDefinition op.type).2, info.parent,
      info.left, some (st1.nodes.size + 1), op⟩ := by rw [hns1']; exact hon1
  obtain ⟨q0, hq0, hq20, hnb⟩ := bin3_prio20 op.type (by unfold isBin3Tok at hop; exact hop)
  have hqq : q0 = q := by rw [hq0] at hq; injection hq
  have hpt : parseToken s1'.nodes.size .sideEffect s1'.lastLeft (some (s1'.nodes.size + 1)) s1'.nodes none false =
      .ok (s1'.nodes, ⟨.sideEffect, some st1.nodes.size, none, some (s1'.nodes.size + 1)⟩) := by
    rw [hll]
    exact parseToken_top (q := 5) rfl hm1 (walk_top_stop false hm1 hq (Or.inl (by omega))) (by rw [hs1'])
  have hcompS : checkComposition s1'.previousSecondDef .startSideEffect s1'.checkForList = true := by
    rw [hO1'.cfl]
    apply comp_sideOpen_after_op
    rcases hprev1' with h | h | h
    · rw [h, hp1]
      rcases bin3_secdef hop with h' | h' | h'
      · exact Or.inl h'
      · exact Or.inr (Or.inl h')
      · exact Or.inr (Or.inr (Or.inl h'))
    · exact Or.inr (Or.inr (Or.inr (Or.inl h)))
    · exact Or.inr (Or.inr (Or.inr (Or.inr h)))
  have hstepS := step_sideOpen s1' none o ho hO1'.hug hO1'.adj hO1'.nnl hcompS hpt
  have hprios1 : AllPrio s1'.nodes :=
    allPrio_of_defs hinv.n.prios
      (fun j hj => by rw [hns1', hns1, Array.getElem?_push, if_neg (by omega)]; exact hdefs j hj) hs1' hm1 hq
  obtain ⟨st2, Eb, reb, S, hloopB, hbelow, hS, hSd, hSp, hSl, hSr, hSt, htreeB, hinB, hszB, _, hgs2, hprev2, hcfl2,
      hll2, hnnl2, hcg2, hrefB, hcntB⟩ :=
    side_body s1' o c s1'.nodes ⟨.sideEffect, some st1.nodes.size, none, some (s1'.nodes.size + 1)⟩ body wsA wsB rfl rfl
      hO1'.nnl hprios1 hc hbody hwA hwB _ hnumB rest
  rw [hs1'] at hbelow hS htreeB hinB hszB hll2 hcntB
  have hgs0 : s1'.groupStack = #[] := by rw [hgs1'', hgsS, hgs1', hgs]
  obtain ⟨tb, htb1, htb2⟩ := ex_refLoop_shift body hbody hrefB
  have hPloop : loop PState.init (blockToks e body op o c ws1 ws2 wsA wsB rest) = loop st2 rest := by
    rw [hloop, hloopW1]
    simp only [loop]
    rw [isEmpty_append_of_ne ws2 (List.cons_ne_nil _ _), h1]
    simp only [Outcome.bind]
    rw [hloopW2]
    simp only [loop]
    have he2 : (wsA ++ (body.toks ++ (wsB ++ (c :: rest)))).isEmpty = false :=
      isEmpty_append_of_ne wsA (List.append_ne_nil_of_left_ne_nil body.toks_ne _)
    rw [he2, hstepS]
    simp only [Outcome.bind]
    have e3 : wsA ++ (body.toks ++ (wsB ++ (c :: rest))) = wsA ++ (body.toks ++ (wsB ++ [c])) ++ rest := by simp
    rw [e3, hloopB]
  have hB : OpBlock e body op o (e.toks.length + ws1.length + 1 + ws2.length + 1 + wsA.length) st1 E re cb q nodes' info
      st2 Eb reb S tb :=
    ⟨hinv, hcnt, hte, hq, hI,
      fun j hj => by rw [hbelow j (by omega), hns1', hns1, Array.getElem?_push, if_neg (by omega)],
      by rw [hbelow _ (by omega)]; exact hm1, hS, hSd, hSp, hSl, hSr, hSt, htreeB, hinB,
      hszB, hcntB, by rw [hgs2, hgs0], by rw [hcg2, hgs0]; rfl, hprev2, by rw [hcfl2]; exact hO1'.cfl, hll2, hnnl2, htb1,
      htb2⟩
  -- the reference side: the block-free segment `e ws1 op ws2`, the token `[`, the segment `wsA body wsB`, the token `]`
  have hglast0 : ((if e.endsSuffix then Last.suffix else Last.operand) = Last.operand ∨
      (if e.endsSuffix then Last.suffix else Last.operand) = Last.suffix) := by cases e.endsSuffix <;> simp
  let gE : Frame := { Frame.top with cur := toRG (dfOf st1.nodes) E,
                                     last := if e.endsSuffix then .suffix else .operand, ws := false, prevSep := false }
  obtain ⟨b1, hb1⟩ := refSeg_trivia ws1 hw1 (0 + e.toks.length) gE
  let A3 : RTree := attach Table.gen q ((getDefinition op.type).2 == .binaryRightToLeft) (getDefinition op.type).1
    (0 + e.toks.length + ws1.length) (toRG (dfOf st1.nodes) E)
  let F3 : Frame := { ctx := none, cur := A3, last := lastAfter (getDefinition op.type).2, ws := false, prevSep := false }
  obtain ⟨b2, hb2⟩ := refSeg_trivia ws2 hw2 (0 + e.toks.length + ws1.length + 1) F3
  let restA : List PToken := o :: (wsA ++ (body.toks ++ (wsB ++ (c :: rest))))
  have hrun1 : refRun Table.gen Frame.top [] 0 (e.toks ++ (ws1 ++ ([op] ++ ws2))) restA =
      .ok ({ F3 with ws := b2 }, []) :=
    refRun_append_ok (hrefE 0 hnume Frame.top rfl rfl rfl [] _)
      (refRun_append_ok (hb1 [] _)
        (refRun_append_ok (refRun_one (ref_op_stepK { gE with ws := b1 } [] (0 + e.toks.length + ws1.length) q op
          (ws2 ++ restA) hop hq hglast0)) (hb2 [] restA)))
  have hnbE : ∀ x ∈ e.toks, noBlockTok x = true := by
    intro x hx
    have hl := hte
    rw [refParse_ex e he] at hl
    exact refLoop_ok_noblock _ _ _ _ _ hl x hx
  have hnb1 : ∀ t ∈ e.toks ++ (ws1 ++ ([op] ++ ws2)), noBlockTok t = true := by
    intro t ht
    simp only [List.mem_append, List.mem_singleton] at ht
    rcases ht with ht | ht | ht | ht
    · exact hnbE t ht
    · exact trivia_noblock hw1 t ht
    · rw [ht]; exact bin3_noblock hop
    · exact trivia_noblock hw2 t ht
  have e1 := stage_seg_run BSt.top rfl _ hnb1 0 restA _ _ hrun1
  have hlen1 : 0 + (e.toks ++ (ws1 ++ ([op] ++ ws2))).length = e.toks.length + ws1.length + 1 + ws2.length := by
    simp only [List.length_append, List.length_cons, List.length_nil]; omega
  rw [hlen1] at e1
  let s4 : BSt := { BSt.top with f := { F3 with ws := b2 }, stack := [] }
  let s5 : BSt := { f := blockFrame (e.toks.length + ws1.length + 1 + ws2.length), stack := [{ F3 with ws := b2 }],
                    modes := [.pending false], pend := none }
  have hF3l : F3.last = .op ∨ F3.last = .optOp := by
    show lastAfter _ = _ ∨ lastAfter _ = _
    unfold lastAfter; split
    · exact Or.inr rfl
    · exact Or.inl rfl
  have e2 : refLoopB Table.gen s4 (e.toks.length + ws1.length + 1 + ws2.length) restA =
      refLoopB Table.gen s5 (e.toks.length + ws1.length + 1 + ws2.length + 1)
        (wsA ++ (body.toks ++ wsB) ++ (c :: rest)) := by
    have := stage_tok s4 s5 _ o (wsA ++ (body.toks ++ (wsB ++ (c :: rest)))) (refStepB_open_pending ho s4 rfl hF3l _ _)
    rw [this, List.append_assoc, List.append_assoc]
  obtain ⟨b3, hb3⟩ := refSeg_trivia wsA hwA (e.toks.length + ws1.length + 1 + ws2.length + 1)
    (blockFrame (e.toks.length + ws1.length + 1 + ws2.length))
  obtain ⟨gB, hrunB, hgBcur, hgBctx, hgBlast, hnbB⟩ := expr_run body hbody _ hnumB tb htb1
    { blockFrame (e.toks.length + ws1.length + 1 + ws2.length) with ws := b3 } rfl rfl rfl [{ F3 with ws := b2 }]
    (wsB ++ (c :: rest))
  obtain ⟨b4, hb4⟩ := refSeg_trivia wsB hwB
    (e.toks.length + ws1.length + 1 + ws2.length + 1 + wsA.length + body.toks.length) gB
  have hrun2 : refRun Table.gen (blockFrame (e.toks.length + ws1.length + 1 + ws2.length)) [{ F3 with ws := b2 }]
      (e.toks.length + ws1.length + 1 + ws2.length + 1) (wsA ++ (body.toks ++ wsB)) (c :: rest) =
      .ok ({ gB with ws := b4 }, [{ F3 with ws := b2 }]) :=
    refRun_append_ok (hb3 _ _) (refRun_append_ok hrunB (hb4 _ _))
  have hnb2 : ∀ t ∈ wsA ++ (body.toks ++ wsB), noBlockTok t = true := by
    intro t ht
    simp only [List.mem_append] at ht
    rcases ht with ht | ht | ht
    · exact trivia_noblock hwA t ht
    · exact hnbB t ht
    · exact trivia_noblock hwB t ht
  have e3 := stage_seg_run s5 rfl _ hnb2 _ (c :: rest) _ _ hrun2
  have hlen2 : e.toks.length + ws1.length + 1 + ws2.length + 1 + (wsA ++ (body.toks ++ wsB)).length =
      e.toks.length + ws1.length + 1 + ws2.length + 1 + wsA.length + body.toks.length + wsB.length := by
    simp only [List.length_append]; omega
  rw [hlen2] at e3
  let s8 : BSt := { s5 with f := { gB with ws := b4 }, stack := [{ F3 with ws := b2 }] }
  have hlB : (gB.last == Last.op || gB.last == Last.sep) = false := by
    rcases hgBlast with h | h <;> rw [h] <;> rfl
  have e4 := stage_tok s8 _
    (e.toks.length + ws1.length + 1 + ws2.length + 1 + wsA.length + body.toks.length + wsB.length) c rest
    (refStepB_close_pending hc s8 (e.toks.length + ws1.length + 1 + ws2.length) { F3 with ws := b2 } [] [] hgBctx rfl rfl
      rfl hlB _ _)
  have eA : blockToks e body op o c ws1 ws2 wsA wsB rest = (e.toks ++ (ws1 ++ ([op] ++ ws2))) ++ restA := by
    simp only [blockToks, restA, List.append_assoc, List.cons_append, List.nil_append]
  refine ⟨st1, E, re, cb, q, nodes', info, st2, Eb, reb, S, tb, _, hPloop, hn2.1, hn3.1, hn5.2, hB,
    by rw [eA, e1, e2, e3, e4], rfl, ?_, ?_⟩
  · show some (A3, RTree.group .sideEffect _ gB.cur, false) = _
    simp only [A3, hgBcur, Nat.zero_add]
  · show plug A3 (RTree.group .sideEffect _ gB.cur) = _
    simp only [A3, hgBcur, Nat.zero_add]

theorem stealDef_attach (q : Nat) (rtl : Bool) (d : Definition) (k : Nat) (t : RTree) (dv : Definition) :
    stealDef (attach Table.gen q rtl d k t) dv = underDef d dv := by
  unfold stealDef underDef
  rw [bottomIsAccess_eq, (attach_bottom Table.gen q rtl d k t).2]
  cases dv <;> simp

theorem asProperty_left {l r : RTree} {d : Definition} {k : Nat} (h : l.isNil = false) :
    asProperty (.node l d k r) = .node l d k r := by
  unfold asProperty
  split
  · rename_i kk heq
    injection heq with e1 _ _ _
    rw [e1] at h; cases h
  · rfl

/-- what may follow the block: the end of the input, or trivia and a value (which takes the block as its LEFT child) -/
inductive BTail where
  | fin
  | value (ws3 : List PToken) (v : PToken)

def BTail.toks : BTail → List PToken
  | .fin => []
  | .value ws3 v => ws3 ++ [v]

def BTail.ok : BTail → Prop
  | .fin => True
  | .value ws3 v => (∀ w ∈ ws3, isTriviaTok w = true) ∧ isAtom10 v = true

/-- the reference tree of `e op [ body ] tail`, from the reference trees `te` of `e` and `tb` of the body: the block is the
    operator's right operand, or the left child of the value that is -/
def opBlockTree (e body : Ex) (op : PToken) (ws1 ws2 wsA wsB : List PToken) (q : Nat) (te tb : RTree) : BTail → RTree
  | .fin =>
    plug (attach Table.gen q ((getDefinition op.type).2 == .binaryRightToLeft) (getDefinition op.type).1
        (e.toks.length + ws1.length) te)
      (.node .nil .sideEffect (e.toks.length + ws1.length + 1 + ws2.length)
        (tb.shift (e.toks.length + ws1.length + 1 + ws2.length + 1 + wsA.length)))
  | .value ws3 v =>
    plug (attach Table.gen q ((getDefinition op.type).2 == .binaryRightToLeft) (getDefinition op.type).1
        (e.toks.length + ws1.length) te)
      (.node
        (.node .nil .sideEffect (e.toks.length + ws1.length + 1 + ws2.length)
          (tb.shift (e.toks.length + ws1.length + 1 + ws2.length + 1 + wsA.length)))
        (underDef (getDefinition op.type).1 (getDefinition v.type).1)
        (e.toks.length + ws1.length + 1 + ws2.length + 1 + wsA.length + body.toks.length + wsB.length + 1 + ws3.length)
        .nil)

theorem OpBlock.noBG {F : Fl} {e body : Ex} {op o : PToken} {pB : Nat} {st1 : PState} {E : Tree} {re cb q : Nat}
    {nodes' : Array ParseNode} {info : Info} {st2 : PState} {Eb : Tree} {reb : Nat} {S : ParseNode} {tb : RTree}
    (h : OpBlock e body op o pB st1 E re cb q nodes' info st2 Eb reb S tb) (he : e.ok F false = true)
    (hbody : body.ok F false = true) (rtl : Bool) (d : Definition) (k : Nat) :
    Spec.noBG (attach Table.gen q rtl d k (toRG (dfOf st1.nodes) E)) = true ∧ unB tb = tb := by
  have hnbE : ∀ x ∈ e.toks, noBlockTok x = true := by
    intro x hx
    have hl := h.te
    rw [refParse_ex e he] at hl
    exact refLoop_ok_noblock _ _ _ _ _ hl x hx
  have hnbB : ∀ x ∈ body.toks, noBlockTok x = true := by
    intro x hx
    have hl := h.htb
    rw [refParse_ex body hbody] at hl
    exact refLoop_ok_noblock _ _ _ _ _ hl x hx
  exact ⟨noBG_attach Table.gen q rtl d k _ (refParse_noBG h.te hnbE), unB_of_noBG tb (refParse_noBG h.htb hnbB)⟩

/-- **`e op [ body ]` at the end of the input, or followed by a value**: the model of `parse` accepts, the result is a
    proper tree in token order that holds all nodes of the array but the unlinked separator nodes, and both it and `refParseB` give
    `opBlockTree` of the reference trees of `e` and of the body -/
theorem parse_op_block_tail {F : Fl} {e body : Ex} {op o c : PToken} {ws1 ws2 wsA wsB : List PToken}
    (h : BlockShape F e body op o c ws1 ws2 wsA wsB) : ∀ (tail : BTail), tail.ok →
    NumberedFrom 0 (blockToks e body op o c ws1 ws2 wsA wsB tail.toks) →
    ∃ r t te tb q, parse (blockToks e body op o c ws1 ws2 wsA wsB tail.toks) = .ok r ∧ toTree r = some t ∧
      refParse Table.gen e.toks = .ok te ∧ refParse Table.gen body.toks = .ok tb ∧
      priority (getDefinition op.type).1 = some q ∧
      toRG (dfOf r.nodes) t = opBlockTree e body op ws1 ws2 wsA wsB q te tb tail ∧
      refParseB Table.gen (blockToks e body op o c ws1 ws2 wsA wsB tail.toks) =
        .ok (opBlockTree e body op ws1 ws2 wsA wsB q te tb tail) ∧
      SortedIn 0 r.nodes.size t.inorder ∧ t.inorder.length + (e.garb + body.garb) = r.nodes.size
  | .fin, _, hnum => by
    simp only [BTail.toks, opBlockTree, blockToks] at hnum ⊢
    obtain ⟨st1, E, re, cb, q, nodes', info, st2, Eb, reb, S, tb, sB, hloop, hopcol, hocol, _, hB, hBref, hstack, hpend,
      hcur⟩ := op_block_both h [] hnum
    simp only [blockToks] at hloop hBref
    obtain ⟨he, hbody, hop, ho, hc, hw1, hw2, hwA, hwB⟩ := h
    obtain ⟨hA, hutb⟩ := hB.noBG he hbody ((getDefinition op.type).2 == .binaryRightToLeft) (getDefinition op.type).1
      (e.toks.length + ws1.length)
    -- the SideEffect node with the body is the operator's right operand
    have hsub : IsTreeAt st2.nodes (some st1.nodes.size) (some (st1.nodes.size + 1))
        (.node .nil (st1.nodes.size + 1) o.col Eb) :=
      isTreeAt_node S hB.hS hB.Sp (by rw [hB.Sl]; exact .nil _) (by rw [hB.Sr]; exact hB.treeB) (by simp [tokPos, hB.St])
    have hX : toRG (dfOf st2.nodes) (.node .nil (st1.nodes.size + 1) o.col Eb) =
        .node .nil .sideEffect o.col (toRG (dfOf st2.nodes) Eb) := by
      have hdS : dfOf st2.nodes (st1.nodes.size + 1) = .sideEffect := by simp [dfOf, hB.hS, hB.Sd]
      simp only [toRG, hdS]
      rfl
    obtain ⟨re', T, htree', hinT, hrg⟩ := hB.tree hop st2.nodes _ _ hB.below hB.opn hsub (by rw [hX]; rfl)
    have hpos := hB.inv.n.pos
    have hszB := hB.szB
    have hsortedT : SortedIn 0 st2.nodes.size T.inorder := by
      rw [hinT]
      exact hB.inv.n.inord.append_cons (hB.inB.cons (by omega)) (by omega) (by omega)
    obtain ⟨r, hr, ht, hn⟩ := finish_gen (st := st2) (by rw [hB.prev]; exact comp_endSE _) hB.gs htree' hsortedT.nodup
      (by rw [hinT]; exact List.mem_append_left _ hB.inv.n.first) (by omega)
    have e1 : e.toks ++ (ws1 ++ (op :: (ws2 ++ (o :: (wsA ++ (body.toks ++ (wsB ++ [c]))))))) =
        e.toks ++ ((ws1 ++ (op :: (ws2 ++ (o :: (wsA ++ (body.toks ++ wsB)))))) ++ [c]) := by simp
    have hctr : isTrimmable c = false := by simp only [isTrimmable, hc]; rfl
    obtain ⟨hne, hh, hl⟩ := ex_append_ends e he (ws1 ++ (op :: (ws2 ++ (o :: (wsA ++ (body.toks ++ wsB)))))) hctr
    refine ⟨r, T, _, tb, q, ?_, ht, hB.te, hB.htb, hB.hq, ?_, ?_, by rw [hn]; exact hsortedT, ?_⟩
    · rw [e1, parse_notrim hne hh hl, ← e1, hloop]
      exact hr
    · rw [hn, hrg _ hB.te, hX, hopcol, hocol, hB.tbE]
    · rw [e1, refParseB_notrim _ hne hh hl, ← e1, hBref]
      simp only [refLoopB, hstack, List.isEmpty_nil, Bool.not_true, Bool.false_eq_true, if_false, hpend,
        Option.isNone_some, Bool.false_and, Outcome.ok.injEq, hcur]
      rw [unB_plug _ _ hA rfl (by simp only [unB, beq_self_eq_true, if_true]; rfl)]
      simp only [unB, beq_self_eq_true, if_true, unB_shift, hutb]
    · have := hB.cnt
      have := hB.cntB
      rw [hn, hinT]
      simp only [Tree.inorder, List.nil_append, List.length_append, List.length_cons]
      omega
  | .value ws3 v, ⟨hw3, hv⟩, hnum => by
    simp only [BTail.toks, opBlockTree, blockToks] at hnum ⊢
    obtain ⟨st1, E, re, cb, q, nodes', info, st2, Eb, reb, S, tb, sB, hloop, hopcol, hocol, hnum3, hB, hBref, hstack,
      hpend, hcur⟩ := op_block_both h (ws3 ++ [v]) hnum
    simp only [blockToks] at hloop hBref
    obtain ⟨he, hbody, hop, ho, hc, hw1, hw2, hwA, hwB⟩ := h
    obtain ⟨hA, hutb⟩ := hB.noBG he hbody ((getDefinition op.type).2 == .binaryRightToLeft) (getDefinition op.type).1
      (e.toks.length + ws1.length)
    obtain ⟨hsv, hqv⟩ := atom10_facts hv
    obtain ⟨_, av2, _⟩ := prio10_facts hqv
    have hvcol : v.col = e.toks.length + ws1.length + 1 + ws2.length + 1 + wsA.length + body.toks.length + wsB.length + 1 +
        ws3.length := (numbered_append ws3 [v] _ hnum3).1
    have hq := hB.hq
    have hon2 := hB.opn
    have hS := hB.hS
    have hszB := hB.szB
    obtain ⟨_, _, f3, f4⟩ := bin3_def_facts op.type (by unfold isBin3Tok at hop; exact hop)
    obtain ⟨q0, hq0, hq20, _⟩ := bin3_prio20 op.type (by unfold isBin3Tok at hop; exact hop)
    have hqq : q0 = q := by rw [hq0] at hq; injection hq
    have hopsd : (getDefinition op.type).2 = .binaryLeftToRight ∨ (getDefinition op.type).2 = .binaryRightToLeft ∨
        (getDefinition op.type).2 = .optionalBinaryLeftToRight ∨ (getDefinition op.type).2 = .whitespace ∨
        (getDefinition op.type).2 = .annotation := by
      rcases bin3_secdef hop with h' | h' | h'
      · exact Or.inl h'
      · exact Or.inr (Or.inl h')
      · exact Or.inr (Or.inr (Or.inl h'))
    have hug2 : underGroupOf st2 = .ok none := by simp [underGroupOf, hB.cg]
    -- the jump of `last_left` to the operator
    let sA : PState := { st2 with lastLeft := some st1.nodes.size, previousSecondDef := (getDefinition op.type).2 }
    have hadj2 : adjustLastLeft st2 none = .ok sA := by
      unfold adjustLastLeft
      simp [hB.ll, hS, hB.Sd, hB.Sp, hon2, sA]
    have hTA : TrivOK sA := ⟨_, _, rfl, hon2, f3, f4⟩
    have hadjA : adjustLastLeft sA none = .ok sA := adjustLastLeft_trivOK hTA none
    have hugA : underGroupOf sA = .ok none := hug2
    obtain ⟨sA', hloopW3, hnA', hllA', hcflA', hnnlA', hgsA', hcgA', hprevA'⟩ :=
      trivia_runT ws3 sA none [v] hTA hB.nnl hugA hw3
    have hnA'' : sA'.nodes = st2.nodes := hnA'
    have hTA' : TrivOK sA' := ⟨_, _, by rw [hllA'], by rw [hnA'']; exact hon2, f3, f4⟩
    have hugA' : underGroupOf sA' = .ok none := by
      have : sA'.currentGroup = none := by rw [hcgA']; exact hB.cg
      simp [underGroupOf, this]
    have hwv : walkLoop sA'.nodes 10 none false (sA'.nodes.size + 1) 0 (some st1.nodes.size) (some st1.nodes.size) =
        .ok (some st1.nodes.size, some st1.nodes.size) := by
      rw [hnA'']
      exact walk_top_stop false hon2 hq (Or.inl (by omega))
    obtain ⟨nodes3, hpt3, hs3, hg3⟩ := parseToken_steal (id := sA'.nodes.size) (d := (getDefinition v.type).1) (right := none)
      hqv hwv (by rw [hnA'']; exact hon2) rfl (show st1.nodes.size + 1 < sA'.nodes.size by rw [hnA'']; omega)
    have hcompV : checkComposition sA'.previousSecondDef (getDefinition v.type).2 false = true := by
      apply comp_value_after_op _ _ _ hsv
      rcases hprevA' with h | h | h
      · rw [h]; exact hopsd
      · exact Or.inr (Or.inr (Or.inr (Or.inl h)))
      · exact Or.inr (Or.inr (Or.inr (Or.inr h)))
    have hcflA : sA'.checkForList = false := by rw [hcflA']; exact hB.cfl
    obtain ⟨st3, h3⟩ := step_atom_okG sA' v true hsv hcflA hugA' (adjustLastLeft_trivOK hTA' none) hcompV
      ⟨_, _, by rw [hllA']; exact hpt3⟩
    obtain ⟨nodes3', info3, hpt3', hn3, hl3, hc3, hnl3, hgs3, hcg3, hp3⟩ :=
      step_atom_specG sA' st3 v true hsv av2 hcflA hnnlA' hugA' (adjustLastLeft_trivOK hTA' none) h3
    rw [hllA', hpt3] at hpt3'
    injection hpt3' with hpt3'; injection hpt3' with e1 e2; subst e1; subst e2
    simp only at hn3
    have hszA : sA'.nodes.size = st2.nodes.size := by rw [hnA'']
    have hrd : renameDef (getDefinition v.type).1 (some st1.nodes.size) nodes3 =
        underDef (getDefinition op.type).1 (getDefinition v.type).1 := by
      have hn3op : nodes3[st1.nodes.size]? = some (setRight (some sA'.nodes.size)
          ⟨(getDefinition op.type).1, (getDefinition op.type).2, info.parent, info.left, some (st1.nodes.size + 1), op⟩) := by
        rw [hg3, if_neg (by omega), if_pos rfl, hnA'', hon2]; rfl
      unfold renameDef underDef
      cases (getDefinition v.type).1 <;> simp [hn3op, setRight]
    have hV3 : st3.nodes[st2.nodes.size]? = some ⟨underDef (getDefinition op.type).1 (getDefinition v.type).1,
        (getDefinition v.type).2, some st1.nodes.size, some (st1.nodes.size + 1), none, v⟩ := by
      rw [hn3, Array.getElem?_push, if_pos (by rw [hs3, hszA]), hrd]
    have hlt3 : ∀ j, j < st2.nodes.size → st3.nodes[j]? = nodes3[j]? := by
      intro j hj; rw [hn3, Array.getElem?_push, if_neg (by omega)]
    have hop3 : st3.nodes[st1.nodes.size]? = some ⟨(getDefinition op.type).1, (getDefinition op.type).2, info.parent,
        info.left, some st2.nodes.size, op⟩ := by
      rw [hlt3 _ (by omega), hg3, if_neg (by omega), if_pos rfl, hszA, hnA'', hon2]; rfl
    have hS3 : st3.nodes[st1.nodes.size + 1]? = some (setParent (some st2.nodes.size) S) := by
      rw [hlt3 _ (by omega), hg3, if_pos rfl, if_neg (by omega), hszA, hnA'', hS]; rfl
    have hrest3 : ∀ j, j < st2.nodes.size → j ≠ st1.nodes.size → j ≠ st1.nodes.size + 1 → st3.nodes[j]? = st2.nodes[j]? := by
      intro j hj h1' h2'
      rw [hlt3 j hj, hg3, if_neg h2', if_neg h1', hnA'']
    -- the tree: the value is the operator's right operand, the block its left child
    have htreeB3 : IsTreeAt st3.nodes (some (st1.nodes.size + 1)) (some reb) Eb := by
      apply hB.treeB.frame
      intro j hj
      have := hB.inB.2 j hj
      exact hrest3 j this.2 (by omega) (by omega)
    have hsub : IsTreeAt st3.nodes (some st1.nodes.size) (some st2.nodes.size)
        (.node (.node .nil (st1.nodes.size + 1) o.col Eb) st2.nodes.size v.col .nil) := by
      refine isTreeAt_node _ hV3 rfl ?_ (.nil _) rfl
      show IsTreeAt st3.nodes (some st2.nodes.size) (some (st1.nodes.size + 1)) _
      refine isTreeAt_node _ hS3 rfl (by show IsTreeAt _ _ S.left _; rw [hB.Sl]; exact .nil _)
        (by show IsTreeAt _ _ S.right _; rw [hB.Sr]; exact htreeB3) (by simp [tokPos, setParent, hB.St])
    have hX : toRG (dfOf st3.nodes) (.node (.node .nil (st1.nodes.size + 1) o.col Eb) st2.nodes.size v.col .nil) =
        .node (.node .nil .sideEffect o.col (toRG (dfOf st2.nodes) Eb))
          (underDef (getDefinition op.type).1 (getDefinition v.type).1) v.col .nil := by
      have hdS : dfOf st3.nodes (st1.nodes.size + 1) = .sideEffect := by simp [dfOf, hS3, setParent, hB.Sd]
      have hdV : dfOf st3.nodes st2.nodes.size = underDef (getDefinition op.type).1 (getDefinition v.type).1 := by
        simp [dfOf, hV3]
      have hVnb : isBracketDef (underDef (getDefinition op.type).1 (getDefinition v.type).1) = false :=
        prio10_not_bracket (underDef_prio hqv)
      have hcongB : ∀ i ∈ Eb.inorder, dfOf st2.nodes i = dfOf st3.nodes i := by
        intro i hi
        have := hB.inB.2 i hi
        simp only [dfOf, hrest3 i this.2 (by omega) (by omega)]
      simp only [toRG, hdS, hdV, hVnb, Bool.false_eq_true, if_false, toRG_congr _ _ Eb hcongB]
      rfl
    obtain ⟨re', T, htree', hinT, hrg⟩ := hB.tree hop st3.nodes _ _
      (fun j hj => by rw [hrest3 j (by omega) (by omega) (by omega), hB.below j hj]) hop3 hsub (by rw [hX]; rfl)
    have hpos := hB.inv.n.pos
    have hs3' : st3.nodes.size = st2.nodes.size + 1 := by rw [hn3]; simp [hs3, hszA]
    have hinT' : T.inorder = E.inorder ++ st1.nodes.size :: ((st1.nodes.size + 1) :: Eb.inorder ++ [st2.nodes.size]) := by
      rw [hinT]; simp [Tree.inorder]
    have hsortedT : SortedIn 0 st3.nodes.size T.inorder := by
      rw [hinT']
      exact hB.inv.n.inord.append_cons ((hB.inB.cons (by omega)).append_cons (l2 := []) (b := st3.nodes.size)
        ⟨List.Pairwise.nil, fun _ hj => nomatch hj⟩ (by omega) (by omega)) (by omega) (by omega)
    obtain ⟨r, hr, ht, hn⟩ := finish_gen (st := st3)
      (by rw [hp3, hc3]; rcases hsv with h | h <;> rw [h] <;> rfl)
      (by rw [hgs3, hgsA']; exact hB.gs) htree' hsortedT.nodup
      (by rw [hinT]; exact List.mem_append_left _ hB.inv.n.first) (by omega)
    have e1 : e.toks ++ (ws1 ++ (op :: (ws2 ++ (o :: (wsA ++ (body.toks ++ (wsB ++ (c :: (ws3 ++ [v]))))))))) =
        e.toks ++ ((ws1 ++ (op :: (ws2 ++ (o :: (wsA ++ (body.toks ++ (wsB ++ (c :: ws3)))))))) ++ [v]) := by simp
    obtain ⟨hne, hh, hl⟩ := ex_append_ends e he
      (ws1 ++ (op :: (ws2 ++ (o :: (wsA ++ (body.toks ++ (wsB ++ (c :: ws3)))))))) (atom10_not_trimmable hv)
    refine ⟨r, T, _, tb, q, ?_, ht, hB.te, hB.htb, hq, ?_, ?_, by rw [hn]; exact hsortedT, ?_⟩
    · rw [e1, parse_notrim hne hh hl, ← e1, hloop]
      have hjump : loop st2 (ws3 ++ [v]) = loop sA (ws3 ++ [v]) := by
        cases hw : ws3 with
        | nil =>
          simp only [List.nil_append, loop]
          rw [step_adjust_eq st2 sA none v _ hug2 hadj2 rfl hugA hadjA]
        | cons w ws =>
          simp only [List.cons_append, loop]
          rw [step_adjust_eq st2 sA none w _ hug2 hadj2 rfl hugA hadjA]
      rw [hjump, hloopW3]
      simp only [loop, List.isEmpty_nil, h3, Outcome.bind]
      exact hr
    · rw [hn, hrg _ hB.te, hX, hopcol, hocol, hvcol, hB.tbE]
    · rw [e1, refParseB_notrim _ hne hh hl, ← e1, hBref]
      obtain ⟨b, hb⟩ := stage_triv ws3 hw3 sB _ [v]
      rw [hb]
      have hstep := refStepB_pend_value (atom10_valueTok hv) { sB with f := { sB.f with ws := b } } _ _ hpend rfl
        (e.toks.length + ws1.length + 1 + ws2.length + 1 + wsA.length + body.toks.length + wsB.length + 1 + ws3.length) []
      rw [stage_tok _ _ _ v [] hstep]
      simp only [refLoopB, hstack, List.isEmpty_nil, Bool.not_true, Bool.false_eq_true, if_false, stolenFrame,
        Option.isNone_none, Bool.true_and]
      have hlo : (Last.operand == Last.op || Last.operand == Last.sep) = false := rfl
      simp only [hlo, Bool.false_eq_true, if_false, Outcome.ok.injEq]
      rw [unB_plug _ _ hA (asProperty_left rfl) (by simp only [unB]; exact asProperty_left rfl)]
      simp only [unB, beq_self_eq_true, if_true, unB_shift, hutb, stealDef_attach]
    · rw [hn, hinT', hs3']
      simp only [List.length_append, List.length_cons, List.length_nil]
      have := hB.cnt
      have := hB.cntB
      omega

end Garnish.Spec
