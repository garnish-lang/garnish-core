/-
`run_located`, concluded: apply (frames), bodies (restart loops) and the induction on the evaluator's fuel, relative to
`Env` (every body laid out at the jump entry that is its id). The whole-program form is `run_body`, Lemmas/CompileInto.lean.
-/
import Garnish.Lemmas.CompileRunControl
namespace Garnish.Abs
open Garnish Gen Garnish.Spec

variable {F : Type} {fo : FloatOps F} {host : Host F} {P : Prog F} {bodies : List (Nat × Expr F)}

theorem simA_step {fuel : Nat} (env : Env P bodies) (ihB : SimB fo host P bodies fuel) :
    SimA fo host P bodies (fuel + 1) := by
  intro cur instr useRight f x st res st' h pcA rs vs fr hlt
  have hlt' : ¬ (P.instrs.size ≤ pcA + 1) := by omega
  simp only [applyValsS] at h
  simp only [applyStep]
  cases hk : applyKind fo instr useRight f x with
  | enter j input =>
    simp only [hk] at h
    cases hb : lookupBody bodies j with
    | none => simp [hb] at h
    | some body =>
      simp only [hb] at h
      obtain ⟨t, hjt, hloc, hwf, hend⟩ := env.body j body hb
      have hsz := lt_of_getElem? hend
      have hpos := len_pos body
      cases he : evalBodyS fo host bodies j fuel body { st with inp := input } with
      | err e => simp [he] at h
      | fuelOut => simp [he] at h
      | ok p =>
        obtain ⟨v, st1⟩ := p
        simp only [he, Out.ok.injEq, Prod.mk.injEq] at h
        obtain ⟨rfl, rfl⟩ := h
        obtain ⟨rs', hr, _⟩ := ihB j body { st with inp := input } v st1 he t rs (st.inp :: vs) (⟨pcA + 1, rs⟩ :: fr)
          hloc hwf hjt hsz
        have ht : ¬ (P.instrs.size ≤ t) := by omega
        refine ⟨v, ⟨t, rs, input :: st.inp :: vs, ⟨pcA + 1, rs⟩ :: fr, st.trace⟩, rfl, ?_, ?_⟩
        · simp [jumpTarget, hjt, finish, ht, bind, Except.bind]
        · exact hr.snoc (step_endExpression_return hend hlt)
  | external n arg =>
    simp only [hk] at h
    cases ha : host.apply n arg with
    | none =>
      simp only [ha, Out.ok.injEq, Prod.mk.injEq] at h
      obtain ⟨rfl, rfl⟩ := h
      exact ⟨.unit, _, rfl, by simp [finish, hlt', ha], .refl _⟩
    | some v =>
      simp only [ha, Out.ok.injEq, Prod.mk.injEq] at h
      obtain ⟨rfl, rfl⟩ := h
      exact ⟨v, _, rfl, by simp [finish, hlt', ha], .refl _⟩
  | out o =>
    simp only [hk] at h
    rcases settle_cases (host := host) st o with ⟨v, st1, hs⟩ | ⟨e, hs⟩ <;> simp [hs] at h
    obtain ⟨rfl, rfl⟩ := h
    have hp := pushOut_of_settle (host := host) (s := ⟨pcA, rs, st.inp :: vs, fr, st.trace⟩) rfl hs
    have hi := settle_inp hs
    refine ⟨v, ⟨pcA + 1, v :: rs, st.inp :: vs, fr, st1.trace⟩, rfl, by simp [hp, finish, hlt', bind, Except.bind], ?_⟩
    rw [hi]
    exact .refl _

theorem simB_step {fuel : Nat} (ih : SimE fo host P bodies fuel) (ihB : SimB fo host P bodies fuel) :
    SimB fo host P bodies (fuel + 1) := by
  intro cur body st v st' h t rs vs fr hloc hwf hjt hlt
  have hpos := len_pos body
  simp only [evalBodyS] at h
  rcases eval_cases (fo := fo) (host := host) (bodies := bodies) (cur := cur) (fuel := fuel) (x := body) (st := st)
    with ⟨w, st1, hx⟩ | ⟨w, st1, hx⟩ | ⟨e, hx⟩ | hx <;> simp only [hx] at h
  · simp only [Out.ok.injEq, Prod.mk.injEq] at h
    obtain ⟨rfl, rfl⟩ := h
    exact ⟨rs, (ih body cur st _ _ hx cur t rs vs fr t hloc hwf hjt (by omega) hlt).toReach, fun _ => rfl⟩
  · obtain ⟨extra, hr, he⟩ := ih body cur st _ _ hx cur t rs vs fr t hloc hwf hjt (by omega) hlt
    obtain ⟨rs', hr2, he2⟩ := ihB cur body { st1 with inp := w } v st' h t (extra ++ rs) vs fr hloc hwf hjt hlt
    refine ⟨rs', hr.trans hr2, fun ht => ?_⟩
    rw [he2 ht, he ht]
    rfl
  · simp at h
  · simp at h

theorem simE_step {fuel : Nat} (ih : SimE fo host P bodies fuel) (ihL : SimL fo host P bodies fuel)
    (ihC : SimC fo host P bodies fuel) (ihA : SimA fo host P bodies fuel) :
    SimE fo host P bodies (fuel + 1) := by
  intro e
  cases e with
  | lit v => exact sim_lit v
  | input => exact sim_input
  | ident sym => exact sim_ident sym
  | unary op x => exact sim_unary ih ihA op x
  | binary op l r => exact sim_binary ih ihA op l r
  | pair l r => exact sim_pair ih l r
  | applyTo x f => exact sim_applyTo ih ihA x f
  | list items => exact sim_list ihL items
  | cond onTrue c t => exact sim_cond ih onTrue c t
  | chain arms final => exact sim_chain ihC arms final
  | and l r => exact sim_and ih l r
  | or l r => exact sim_or ih l r
  | seq a b => exact sim_seq ih a b
  | sideAfter x b => exact sim_sideAfter ih x b
  | nested id => exact sim_nested id
  | emptyNested => exact sim_emptyNested
  | reapply x => exact sim_reapply ih x
  | prefixApply sym x => exact sim_prefixApply ih ihA sym x
  | suffixApply x sym => exact sim_suffixApply ih ihA x sym
  | infixApply a sym b => exact sim_infixApply ih ihA a sym b

/-- `run_located`: all five simulation statements (for the strict evaluator), for every fuel -/
theorem sim_all (fo : FloatOps F) (host : Host F) {P : Prog F} {bodies : List (Nat × Expr F)} (env : Env P bodies) :
    ∀ fuel, SimE fo host P bodies fuel ∧ SimL fo host P bodies fuel ∧ SimC fo host P bodies fuel ∧
      SimA fo host P bodies fuel ∧ SimB fo host P bodies fuel := by
  intro fuel
  induction fuel with
  | zero =>
    refine ⟨?_, ?_, ?_, ?_, ?_⟩
    · intro e cur st res st' h; simp [evalFS] at h
    · intro cur items st acc r st' h; simp [evalListS] at h
    · intro cur arms final st res st' h; simp [evalChainS] at h
    · intro cur instr useRight f x st res st' h; simp [applyValsS] at h
    · intro cur body st v st' h; simp [evalBodyS] at h
  | succ fuel ih =>
    obtain ⟨ihE, ihL, ihC, ihA, ihB⟩ := ih
    exact ⟨simE_step ihE ihL ihC ihA, simL_step ihE ihL, simC_step ihE ihC, simA_step env ihB, simB_step ihE ihB⟩

theorem run_located (fo : FloatOps F) (host : Host F) {P : Prog F} {bodies : List (Nat × Expr F)} (env : Env P bodies)
    {fuel cur : Nat} {e : Expr F} {st st' : St F} {res : Res F}
    (h : evalFS fo host bodies cur fuel e st = .ok (res, st'))
    {root pc entry : Nat} (rs vs : List (Val F)) (fr : List (Frame F))
    (hloc : Located P root cur pc e) (hwf : wfC e = true)
    (hj : P.jumps[cur]? = some entry) (hent : entry < P.instrs.size) (hlt : pc + len e < P.instrs.size) :
    ResOK fo host P entry pc (pc + len e) (tailR e) rs vs fr st res st' :=
  (sim_all fo host env fuel).1 e cur st res st' h root pc rs vs fr entry hloc hwf hj hent hlt

end Garnish.Abs
