/-
Refinement lemmas for C11: the register work-list algorithm of `perform_equality_check`
(Model/Equality.lean) computes the value-level equality `valEq` (Abs/Ops.lean) of the decoded operands
and restores the register stack.
-/
import Garnish.Model.Equality
import Garnish.Abs.Ops
import Garnish.Lemmas.Eq
namespace Garnish.Lemmas.EqualityRefine
open Garnish Gen Garnish.Abs Garnish.Model.Equality

variable {F : Type} (fo : FloatOps F)

-- `Outcome.ok_bind` and `Outcome.pure_eq_ok` of Lemmas/Outcome, under the names the statements that use this file refer to
@[simp] theorem ok_bind {α β} (a : α) (f : α → Outcome β) : (Outcome.ok a >>= f) = f a := rfl
@[simp] theorem pure_eq_ok {α} (a : α) : (pure a : Outcome α) = .ok a := rfl
@[simp] theorem fetch_some {α} (a : α) : fetch (some a) = .ok a := rfl

theorem symPartEq_eq (a b : SymPart F) : Model.Equality.symPartEq fo a b = Abs.symPartEq fo a b := by
  cases a <;> cases b <;> rfl

theorem cmpIter_nat : ∀ (xs ys : List Nat),
    compareIndexIteratorValues (fun a b => a == b) xs ys = .ok (xs == ys)
  | [], [] => rfl
  | [], _ :: _ => rfl
  | _ :: _, [] => rfl
  | x :: xs, y :: ys => by
    by_cases h : x = y
    · subst h; simp [compareIndexIteratorValues, cmpIter_nat xs ys]
    · simp [compareIndexIteratorValues, h]

theorem cmpIter_sym : ∀ (xs ys : List (SymPart F)),
    compareIndexIteratorValues (Model.Equality.symPartEq fo) xs ys = .ok (symPartsEq fo xs ys)
  | [], [] => rfl
  | [], _ :: _ => rfl
  | _ :: _, [] => rfl
  | x :: xs, y :: ys => by
    cases h : Abs.symPartEq fo x y <;>
      simp [compareIndexIteratorValues, symPartEq_eq, symPartsEq, h, cmpIter_sym xs ys]

theorem cmpListPrim (items : Nat → Option (List Nat)) (getFn : Nat → Option Nat) (la pa : Nat)
    (cs : List Nat) (c : Nat) (h1 : items la = some cs) (h2 : getFn pa = some c) :
    compareListToPrimitive items getFn la pa = .ok (cs == [c]) := by
  unfold compareListToPrimitive
  rw [h1, h2]
  match cs with
  | [] => simp
  | [x] => simp
  | _ :: _ :: _ => simp

theorem list_beq_comm (a b : List Nat) : (a == b) = (b == a) := BEq.comm

/-- `toNat` numbers the constructors in order, so it is injective -/
theorem Ty_toNat_inj (a b : Ty) : (a.toNat == b.toNat) = (a == b) := by
  have idx : ∀ t : Ty, t.toNat = t.ctorIdx := fun t => by cases t <;> rfl
  by_cases h : a = b
  · simp [h]
  · have : a.ctorIdx ≠ b.ctorIdx := fun e => h (by rw [← Ty.ofNat_ctorIdx a, e, Ty.ofNat_ctorIdx])
    rw [idx, idx, beq_eq_false_iff_ne.2 this, beq_eq_false_iff_ne.2 h]

theorem decodes_typeOf {view : StoreView F} {a : Nat} {v : Val F} (h : Decodes view a v) :
    view.typeOf a = some v.typeOf := by
  cases h <;> simp [Val.typeOf, *]

theorem decodesList_append {view : StoreView F} : ∀ {as bs : List Nat} {xs ys : List (Val F)},
    DecodesList view as xs → DecodesList view bs ys → DecodesList view (as ++ bs) (xs ++ ys)
  | [], _, [], _, _, h2 => h2
  | a :: as, _, x :: xs, _, h1, h2 => by
    cases h1 with
    | cons h h' => exact .cons h (decodesList_append h' h2)
  | [], _, _ :: _, _, h1, _ => by cases h1
  | _ :: _, _, [], _, h1, _ => by cases h1

theorem decodesList_take {view : StoreView F} : ∀ {as : List Nat} {vs : List (Val F)} (n : Nat),
    DecodesList view as vs → DecodesList view (as.take n) (vs.take n)
  | _, _, 0, _ => by simpa using DecodesList.nil
  | [], [], _ + 1, .nil => .nil
  | _ :: _, _ :: _, n + 1, .cons h t => .cons h (decodesList_take n t)

theorem decodesList_drop {view : StoreView F} : ∀ {as : List Nat} {vs : List (Val F)} (n : Nat),
    DecodesList view as vs → DecodesList view (as.drop n) (vs.drop n)
  | _, _, 0, h => h
  | [], [], _ + 1, .nil => .nil
  | _ :: _, _ :: _, n + 1, .cons _ t => decodesList_drop n t

theorem decodesList_mem {view : StoreView F} : ∀ {as : List Nat} {vs : List (Val F)}, DecodesList view as vs →
    ∀ a ∈ as, ∃ v ∈ vs, Decodes view a v
  | _, _, .nil, _, h => by cases h
  | _, _, .cons hd tl, a, h => by
    rcases List.mem_cons.mp h with rfl | h'
    · exact ⟨_, List.mem_cons_self, hd⟩
    · obtain ⟨v, hv, d⟩ := decodesList_mem tl a h'
      exact ⟨v, List.mem_cons_of_mem _ hv, d⟩

theorem flatItems_other (v : Val F) (h1 : v.typeOf ≠ .list) (h2 : v.typeOf ≠ .concatenation) :
    flatItems v = [v] := by
  cases v <;> simp_all [flatItems, Val.typeOf]

theorem flatOf_decodes {view : StoreView F} {a : Nat} {items : List Nat} (hf : FlatOf view a items) :
    ∀ {v : Val F}, Decodes view a v → DecodesList view items (flatItems v) := by
  induction hf with
  | list ht hi =>
    intro v hv
    have := decodes_typeOf hv
    cases hv <;> simp_all [Val.typeOf, flatItems]
  | concat ht hc _ _ ihl ihr =>
    intro v hv
    have := decodes_typeOf hv
    cases hv <;> simp_all [Val.typeOf, flatItems]
    exact decodesList_append (ihl (by assumption)) (ihr (by assumption))
  | other ht h1 h2 =>
    intro v hv
    have := decodes_typeOf hv
    rw [ht] at this
    have e : _ = v.typeOf := Option.some.inj this
    rw [flatItems_other v (e ▸ h1) (e ▸ h2)]
    exact .cons hv .nil


theorem normConcat_eq : ∀ (v : Val F), normConcat v = normList (flatItems v)
  | .concat l r => by
    simp only [normConcat, flatItems, normList_append, normConcat_eq l, normConcat_eq r]
  | .list items => by simp [normConcat, flatItems]
  | .unit | .tru | .fls | .num _ | .char _ | .byte _ | .sym _ | .expr _ | .ext _ | .type _ | .chars _
  | .bytes _ | .symList _ | .pair _ _ | .range _ _ | .slice _ _ | .part _ _ | .custom => by
    simp [normConcat, flatItems, normList]

theorem vsizeList_append (xs ys : List (Val F)) : vsizeList (xs ++ ys) = vsizeList xs + vsizeList ys := by
  induction xs with
  | nil => simp [vsizeList]
  | cons x xs ih => simp [vsizeList, ih]; omega

theorem vsizeList_flatItems : ∀ (v : Val F), vsizeList (flatItems v) ≤ vsize v
  | .concat l r => by
    have := vsizeList_flatItems l
    have := vsizeList_flatItems r
    simp only [flatItems, vsizeList_append, vsize]; omega
  | .list items => by simp [flatItems, vsize]
  | .unit | .tru | .fls | .num _ | .char _ | .byte _ | .sym _ | .expr _ | .ext _ | .type _ | .chars _
  | .bytes _ | .symList _ | .pair _ _ | .range _ _ | .slice _ _ | .part _ _ | .custom => by
    simp [flatItems, vsizeList]

theorem noSliceList_append (xs ys : List (Val F)) :
    noSliceList (xs ++ ys) = (noSliceList xs && noSliceList ys) := by
  induction xs with
  | nil => simp [noSliceList]
  | cons x xs ih => simp [noSliceList, ih, Bool.and_assoc]

theorem noSliceList_flatItems : ∀ (v : Val F), noSlice v = true → noSliceList (flatItems v) = true
  | .concat l r, h => by
    simp only [noSlice, Bool.and_eq_true] at h
    simp [flatItems, noSliceList_append, noSliceList_flatItems l h.1, noSliceList_flatItems r h.2]
  | .list items, h => by simpa [flatItems, noSlice] using h
  | .slice _ _, h => by simp [noSlice] at h
  | .pair _ _, h => by simp [flatItems, noSliceList, h]
  | .unit, _ | .tru, _ | .fls, _ | .num _, _ | .char _, _ | .byte _, _ | .sym _, _ | .expr _, _ | .ext _, _
  | .type _, _ | .chars _, _ | .bytes _, _ | .symList _, _ | .range _ _, _ | .part _ _, _ | .custom, _ => by
    simp [flatItems, noSliceList, noSlice]

theorem vsize_pos (v : Val F) : 0 < vsize v := by
  cases v <;> simp [vsize] <;> omega

/-- one pending comparison: `l`/`r` are the addresses, `vl`/`vr` the values they decode to -/
structure Pend (F : Type) where
  l : Nat
  r : Nat
  vl : Val F
  vr : Val F

/-- the registers a list of pending comparisons occupies (first entry on top; right above left) -/
def flat : List (Pend F) → List Nat
  | [] => []
  | p :: ps => p.r :: p.l :: flat ps

def pendSize : List (Pend F) → Nat
  | [] => 0
  | p :: ps => vsize p.vl + vsize p.vr + pendSize ps

def Pend.good (view : StoreView F) (p : Pend F) : Prop :=
  Decodes view p.l p.vl ∧ Decodes view p.r p.vr ∧ NoSlice p.vl ∧ NoSlice p.vr

def pendAll (ps : List (Pend F)) : Bool := ps.all (fun p => valEq fo p.vl p.vr)

theorem flat_append (ps qs : List (Pend F)) : flat (ps ++ qs) = flat ps ++ flat qs := by
  induction ps with
  | nil => rfl
  | cons p ps ih => simp [flat, ih]

theorem pendSize_append (ps qs : List (Pend F)) : pendSize (ps ++ qs) = pendSize ps + pendSize qs := by
  induction ps with
  | nil => simp [pendSize]
  | cons p ps ih => simp [pendSize, ih]; omega

theorem pendAll_append (ps qs : List (Pend F)) : pendAll fo (ps ++ qs) = (pendAll fo ps && pendAll fo qs) := by
  simp [pendAll, List.all_append]

/-- what `push_iterator_values` leaves on the registers: item pairs, the last pushed on top -/
def pendPush (acc : List (Pend F)) : List Nat → List (Val F) → List Nat → List (Val F) → List (Pend F)
  | a :: as, x :: xs, b :: bs, y :: ys => pendPush (⟨a, b, x, y⟩ :: acc) as xs bs ys
  | _, _, _, _ => acc

theorem decodesList_length {view : StoreView F} : ∀ {as : List Nat} {xs : List (Val F)},
    DecodesList view as xs → as.length = xs.length
  | [], [], _ => rfl
  | _ :: _, _ :: _, h => by
    cases h with
    | cons _ h' => simp [decodesList_length h']
  | [], _ :: _, h => by cases h
  | _ :: _, [], h => by cases h

theorem pushIter_spec {view : StoreView F} : ∀ (as : List Nat) (xs : List (Val F)) (bs : List Nat) (ys : List (Val F))
    (acc : List (Pend F)) (regs : List Nat),
    DecodesList view as xs → DecodesList view bs ys →
    pushIteratorValues (flat acc ++ regs) as bs
      = .ok (decide (xs.length = ys.length), flat (pendPush acc as xs bs ys) ++ regs)
  | [], [], [], [], acc, regs, _, _ => by simp [pushIteratorValues, pendPush, matchLastIterValues]
  | [], [], _ :: _, _ :: _, acc, regs, _, _ => by simp [pushIteratorValues, pendPush, matchLastIterValues]
  | _ :: _, _ :: _, [], [], acc, regs, _, _ => by simp [pushIteratorValues, pendPush, matchLastIterValues]
  | a :: as, x :: xs, b :: bs, y :: ys, acc, regs, h1, h2 => by
    cases h1 with
    | cons h1 h1' =>
      cases h2 with
      | cons h2 h2' =>
        have := pushIter_spec as xs bs ys (⟨a, b, x, y⟩ :: acc) regs h1' h2'
        simp only [flat, List.cons_append] at this
        simp [pushIteratorValues, pendPush, this]
  | [], _ :: _, _, _, _, _, h, _ => by cases h
  | _ :: _, [], _, _, _, _, h, _ => by cases h
  | _, _, [], _ :: _, _, _, _, h => by cases h
  | _, _, _ :: _, [], _, _, _, h => by cases h

theorem pendPush_good {view : StoreView F} : ∀ (as : List Nat) (xs : List (Val F)) (bs : List Nat) (ys : List (Val F))
    (acc : List (Pend F)),
    DecodesList view as xs → DecodesList view bs ys → noSliceList xs = true → noSliceList ys = true →
    (∀ p ∈ acc, p.good view) → ∀ p ∈ pendPush acc as xs bs ys, p.good view
  | a :: as, x :: xs, b :: bs, y :: ys, acc, h1, h2, n1, n2, hacc => by
    cases h1 with
    | cons h1 h1' =>
      cases h2 with
      | cons h2 h2' =>
        simp only [noSliceList, Bool.and_eq_true] at n1 n2
        simp only [pendPush]
        apply pendPush_good as xs bs ys _ h1' h2' n1.2 n2.2
        intro p hp
        cases hp with
        | head => exact ⟨h1, h2, n1.1, n2.1⟩
        | tail _ hp => exact hacc p hp
  | [], _, _, _, acc, _, _, _, _, hacc => by simpa [pendPush] using hacc
  | _ :: _, [], _, _, acc, _, _, _, _, hacc => by simpa [pendPush] using hacc
  | _ :: _, _ :: _, [], _, acc, _, _, _, _, hacc => by simpa [pendPush] using hacc
  | _ :: _, _ :: _, _ :: _, [], acc, _, _, _, _, hacc => by simpa [pendPush] using hacc

theorem pendPush_size : ∀ (as : List Nat) (xs : List (Val F)) (bs : List Nat) (ys : List (Val F)) (acc : List (Pend F)),
    pendSize (pendPush acc as xs bs ys) ≤ pendSize acc + vsizeList xs + vsizeList ys
  | a :: as, x :: xs, b :: bs, y :: ys, acc => by
    have := pendPush_size as xs bs ys (⟨a, b, x, y⟩ :: acc)
    simp only [pendPush, pendSize, vsizeList] at this ⊢
    omega
  | [], _, _, _, acc => by simp [pendPush]; omega
  | _ :: _, [], _, _, acc => by simp [pendPush]; omega
  | _ :: _, _ :: _, [], _, acc => by simp [pendPush]; omega
  | _ :: _, _ :: _, _ :: _, [], acc => by simp [pendPush]; omega

/-- the verdict of the length check together with the pending item pairs is the sequence equality -/
theorem pendPush_all {view : StoreView F} : ∀ (as : List Nat) (xs : List (Val F)) (bs : List Nat) (ys : List (Val F))
    (acc : List (Pend F)),
    DecodesList view as xs → DecodesList view bs ys →
    (decide (xs.length = ys.length) && pendAll fo (pendPush acc as xs bs ys))
      = (pendAll fo acc && nvalsEq fo (normList xs) (normList ys))
  | [], [], [], [], acc, _, _ => by simp [pendPush, normList, nvalsEq]
  | [], [], _ :: _, _ :: _, acc, _, _ => by simp [pendPush, normList, nvalsEq]
  | _ :: _, _ :: _, [], [], acc, _, _ => by simp [pendPush, normList, nvalsEq]
  | a :: as, x :: xs, b :: bs, y :: ys, acc, h1, h2 => by
    cases h1 with
    | cons h1 h1' =>
      cases h2 with
      | cons h2 h2' =>
        have := pendPush_all as xs bs ys (⟨a, b, x, y⟩ :: acc) h1' h2'
        simp only [pendPush, normList, nvalsEq, List.length_cons, Nat.add_right_cancel_iff]
        rw [this]
        simp only [pendAll, List.all_cons, valEq]
        cases nvalEq fo (norm x) (norm y) <;> simp
  | [], _ :: _, _, _, _, h, _ => by cases h
  | _ :: _, [], _, _, _, h, _ => by cases h
  | _, _, [], _ :: _, _, _, h => by cases h
  | _, _, _ :: _, [], _, _, h => by cases h


/-- `data_equal` and `rangeEndEqual` read the two types and branch on them: the branch taken -/
theorem dataEqual_types {view : StoreView F} {l r : Nat} {tl tr : Ty} {β} {k : Ty → Ty → Outcome β}
    (hl : view.typeOf l = some tl) (hr : view.typeOf r = some tr) :
    (fetch (view.typeOf l) >>= fun a => fetch (view.typeOf r) >>= fun b => k a b) = k tl tr := by
  rw [hl, hr]; rfl

/-- an end point that is neither unit nor a number equals nothing -/
theorem rangeEnd_other {view : StoreView F} {a1 a2 : Nat} {v1 : Val F} {t2 : Ty} (y : NVal F)
    (h1 : view.typeOf a1 = some v1.typeOf) (h2 : view.typeOf a2 = some t2)
    (hu : v1.typeOf ≠ .unit) (hn : v1.typeOf ≠ .number) :
    rangeEndEqual fo view a1 a2 = .ok (rangeEndEq fo (norm v1) y) := by
  refine (dataEqual_types h1 h2).trans ?_
  have : rangeEndEq fo (norm v1) y = false := by
    cases v1 <;> rw [norm] <;> first | rfl | exact absurd rfl hu | exact absurd rfl hn | (cases y <;> rfl)
  rw [this]
  split <;> first | rfl | exact absurd ‹_› hu | exact absurd ‹_› hn

theorem rangeEnd_spec {view : StoreView F} {a1 a2 : Nat} {v1 v2 : Val F}
    (h1 : Decodes view a1 v1) (h2 : Decodes view a2 v2) :
    rangeEndEqual fo view a1 a2 = .ok (rangeEndEq fo (norm v1) (norm v2)) := by
  have t1 := decodes_typeOf h1
  cases h1 with
  | unit ht => cases h2 <;> refine (dataEqual_types ht ‹_›).trans ?_ <;> simp [rangeEndEq, norm]
  | num ht hn => cases h2 <;> refine (dataEqual_types ht ‹_›).trans ?_ <;> simp [rangeEndEq, norm, *]
  | _ => exact rangeEnd_other fo _ t1 (decodes_typeOf h2) nofun nofun

theorem norm_concat (a b : Val F) : norm (.concat a b) = .seq (normList (flatItems a ++ flatItems b)) := by
  simp [norm, normConcat_eq, normList_append]

/-- what one call of `data_equal` on decoded operands does: it returns a partial verdict `b` and pushes
pending comparisons `qs` of strictly smaller total size, such that the value-level equality of the
operands is `b ∧ all pending pairs equal`. -/
def StepSpec (view : StoreView F) (regs : List Nat) (l r : Nat) (vl vr : Val F) : Prop :=
  ∃ (b : Bool) (qs : List (Pend F)),
    dataEqual fo view regs l r = .ok (b, flat qs ++ regs) ∧
    (∀ q ∈ qs, q.good view) ∧
    pendSize qs < vsize vl + vsize vr ∧
    valEq fo vl vr = (b && pendAll fo qs)

/-- an arm that decides on the spot and pushes nothing -/
theorem step_decided {view : StoreView F} {regs : List Nat} {l r : Nat} {vl vr : Val F}
    (h : dataEqual fo view regs l r = .ok (valEq fo vl vr, regs)) : StepSpec fo view regs l r vl vr := by
  refine ⟨valEq fo vl vr, [], by simpa [flat] using h, by simp, ?_, by simp [pendAll]⟩
  have := vsize_pos vl
  simp [pendSize]; omega

/-- `as` are the addresses the iterator of the list or concatenation `v` yields, `xs` the values they denote -/
structure SeqItems (view : StoreView F) (v : Val F) (as : List Nat) (xs : List (Val F)) : Prop where
  dec : DecodesList view as xs
  noSlice : noSliceList xs = true
  size : vsizeList xs < vsize v
  norm : norm v = .seq (normList xs)

theorem seqItems_list {view : StoreView F} {as : List Nat} {xs : List (Val F)} (hd : DecodesList view as xs)
    (n : NoSlice (.list xs)) : SeqItems view (.list xs) as xs :=
  ⟨hd, by simpa only [NoSlice, noSlice] using n, by simp [vsize], by simp [Abs.norm]⟩

theorem seqItems_concat {view : StoreView F} {a b : Nat} {va vb : Val F} {ia ib : List Nat}
    (ha : Decodes view a va) (hb : Decodes view b vb) (hfa : FlatOf view a ia) (hfb : FlatOf view b ib)
    (n : NoSlice (.concat va vb)) : SeqItems view (.concat va vb) (ia ++ ib) (flatItems va ++ flatItems vb) := by
  simp only [NoSlice, noSlice, Bool.and_eq_true] at n
  have := vsizeList_flatItems va
  have := vsizeList_flatItems vb
  exact ⟨decodesList_append (flatOf_decodes hfa ha) (flatOf_decodes hfb hb),
    by simp [noSliceList_append, noSliceList_flatItems _ n.1, noSliceList_flatItems _ n.2],
    by simp [vsize, vsizeList_append]; omega, norm_concat va vb⟩

/-- an arm that hands two item iterators to `push_iterator_values` -/
theorem step_seq {view : StoreView F} {regs : List Nat} {l r : Nat} {vl vr : Val F}
    {as bs : List Nat} {xs ys : List (Val F)}
    (hde : dataEqual fo view regs l r = pushIteratorValues regs as bs)
    (sl : SeqItems view vl as xs) (sr : SeqItems view vr bs ys) : StepSpec fo view regs l r vl vr := by
  refine ⟨decide (xs.length = ys.length), pendPush [] as xs bs ys, ?_, ?_, ?_, ?_⟩
  · rw [hde]; exact pushIter_spec as xs bs ys [] regs sl.dec sr.dec
  · exact pendPush_good as xs bs ys [] sl.dec sr.dec sl.noSlice sr.noSlice (by simp)
  · have := pendPush_size as xs bs ys ([] : List (Pend F))
    have := sl.size
    have := sr.size
    simp only [pendSize] at *
    omega
  · rw [pendPush_all fo as xs bs ys [] sl.dec sr.dec, valEq, sl.norm, sr.norm]; simp [pendAll, nvalEq]

/-! The verdict of `data_equal` depends first of all on the two types. Types fall into classes, and values
whose types lie in different classes are unequal for `data_equal` and for `valEq` alike; inside a class the
few pairs of types are inspected one by one. -/

/-- the class of a type: a char goes with the char lists, a byte with the byte lists, a concatenation with the
lists; partial applications go with custom data, which equals nothing -/
def cls : Ty → Ty
  | .char => .charList | .byte => .byteList | .concatenation => .list | .partial_ => .custom | t => t

/-- the class a normal form stands for -/
def ncls : NVal F → Ty
  | .atom t _ => t | .num _ => .number | .text _ => .charList | .blob _ => .byteList
  | .symList _ => .symbolList | .pair _ _ => .pair | .seq _ => .list | .range _ _ => .range
  | .opaque => .custom

theorem ncls_norm {v : Val F} (h : NoSlice v) : ncls (norm v) = cls v.typeOf := by
  cases v <;> first | (rw [norm]; rfl) | cases h

theorem nvalEq_cls {x y : NVal F} (h : ncls x ≠ ncls y) : nvalEq fo x y = false := by
  cases x <;> cases y <;> first | rfl | exact absurd rfl h | skip
  rename_i t _ t' _
  have : t ≠ t' := h
  simp [nvalEq, this]

theorem valEq_cls {vl vr : Val F} (nl : NoSlice vl) (nr : NoSlice vr) (h : cls vl.typeOf ≠ cls vr.typeOf) :
    valEq fo vl vr = false :=
  nvalEq_cls fo (by rwa [ncls_norm nl, ncls_norm nr])

theorem typeOf_ne_slice {v : Val F} (h : NoSlice v) : v.typeOf ≠ .slice := by
  intro e
  cases v <;> first | (cases e; done) | cases h

/-- the default arm: types of different classes -/
theorem dataEqual_cls {view : StoreView F} {regs : List Nat} {l r : Nat} {tl tr : Ty}
    (hl : view.typeOf l = some tl) (hr : view.typeOf r = some tr)
    (h : cls tl ≠ cls tr) (nl : tl ≠ .slice) (nr : tr ≠ .slice) :
    dataEqual fo view regs l r = .ok (false, regs) := by
  refine (dataEqual_types hl hr).trans ?_
  split <;> first | rfl | exact absurd rfl h | exact absurd rfl nl | exact absurd rfl nr

theorem dataEqual_step {view : StoreView F} {l r : Nat} {vl vr : Val F} (regs : List Nat)
    (hl : Decodes view l vl) (hr : Decodes view r vr) (nl : NoSlice vl) (nr : NoSlice vr) :
    StepSpec fo view regs l r vl vr := by
  by_cases hc : cls vl.typeOf = cls vr.typeOf
  case neg =>
    apply step_decided
    rw [valEq_cls fo nl nr hc, dataEqual_cls fo (decodes_typeOf hl) (decodes_typeOf hr) hc
      (typeOf_ne_slice nl) (typeOf_ne_slice nr)]
  -- of the pairs of constructors those within one class remain
  cases hl <;> cases hr <;> first | (cases hc; done) | skip
  case pair.pair a b va vb ha hb ht hp c d vc vd hc' hd ht' hp' =>
    simp only [NoSlice, noSlice, Bool.and_eq_true] at nl nr
    refine ⟨true, [⟨b, d, vb, vd⟩, ⟨a, c, va, vc⟩], ?_, ?_, ?_, ?_⟩
    · exact (dataEqual_types ht ht').trans (by simp [hp, hp', flat])
    · intro q hq
      simp only [List.mem_cons, List.mem_nil_iff, or_false] at hq
      rcases hq with rfl | rfl
      · exact ⟨hb, hd, nl.2, nr.2⟩
      · exact ⟨ha, hc', nl.1, nr.1⟩
    · simp [pendSize, vsize]; omega
    · simp [pendAll, valEq, norm, nvalEq, Bool.and_comm]
  case list.list is vs hd ht hi is' vs' hd' ht' hi' =>
    exact step_seq fo ((dataEqual_types ht ht').trans (by simp [hi, hi'])) (seqItems_list hd nl) (seqItems_list hd' nr)
  case list.concat is vs hd ht hi a b va vb ia ib ha hb hfa hfb ht' _ hci =>
    exact step_seq fo ((dataEqual_types ht ht').trans (by simp [hi, hci])) (seqItems_list hd nl)
      (seqItems_concat ha hb hfa hfb nr)
  case concat.list a b va vb ia ib ha hb hfa hfb ht _ hci is vs hd ht' hi =>
    exact step_seq fo ((dataEqual_types ht ht').trans (by simp [hi, hci])) (seqItems_concat ha hb hfa hfb nl)
      (seqItems_list hd nr)
  case concat.concat a b va vb ia ib ha hb hfa hfb ht _ hci a' b' va' vb' ia' ib' ha' hb' hfa' hfb' ht' _ hci' =>
    exact step_seq fo ((dataEqual_types ht ht').trans (by simp [hci, hci'])) (seqItems_concat ha hb hfa hfb nl)
      (seqItems_concat ha' hb' hfa' hfb' nr)
  case range.range s e vs ve hs he ht hg s' e' vs' ve' hs' he' ht' hg' =>
    refine step_decided fo ((dataEqual_types ht ht').trans ?_)
    simp [hg, hg', rangeEnd_spec fo hs hs', rangeEnd_spec fo he he', valEq, norm, nvalEq]
  case char.chars c ht hc' cs ht' hcs =>
    refine step_decided fo ((dataEqual_types ht ht').trans ?_)
    simp [cmpListPrim _ _ _ _ _ _ hcs hc', valEq, norm, nvalEq]
    exact BEq.comm
  case byte.bytes c ht hc' cs ht' hcs =>
    refine step_decided fo ((dataEqual_types ht ht').trans ?_)
    simp [cmpListPrim _ _ _ _ _ _ hcs hc', valEq, norm, nvalEq]
    exact BEq.comm
  case chars.char cs ht hcs c ht' hc' =>
    refine step_decided fo ((dataEqual_types ht ht').trans ?_)
    simp [cmpListPrim _ _ _ _ _ _ hcs hc', valEq, norm, nvalEq]
  case bytes.byte cs ht hcs c ht' hc' =>
    refine step_decided fo ((dataEqual_types ht ht').trans ?_)
    simp [cmpListPrim _ _ _ _ _ _ hcs hc', valEq, norm, nvalEq]
  case slice.slice => cases nl
  -- the other arms compare two leaves of the same type and push nothing
  all_goals
    refine step_decided fo ((dataEqual_types ‹view.typeOf l = _› ‹view.typeOf r = _›).trans ?_)
    simp [compareNat, valEq, norm, nvalEq, cmpIter_nat, cmpIter_sym, Ty_toNat_inj, *]

theorem popTo_append (xs rest : List Nat) : popTo rest.length (xs ++ rest) = rest := by
  induction xs with
  | nil => cases rest <;> simp [popTo]
  | cons x xs ih =>
    have : (x :: (xs ++ rest)).length > rest.length := by simp; omega
    show popTo rest.length (x :: (xs ++ rest)) = rest
    rw [popTo, if_pos this, ih]

/-- invariant of `perform_equality_check`: with pending comparisons `ps` above `rest`, the loop returns
the conjunction of their value-level equalities and leaves exactly `rest` -/
theorem eqLoop_spec {view : StoreView F} (rest : List Nat) : ∀ (fuel : Nat) (ps : List (Pend F)),
    (∀ p ∈ ps, p.good view) → pendSize ps < fuel →
    eqLoop fo view rest.length fuel (flat ps ++ rest) = .ok (pendAll fo ps, rest)
  | 0, _, _, h => by omega
  | fuel + 1, [], _, _ => by simp [eqLoop, flat, pendAll]
  | fuel + 1, p :: ps, hg, hf => by
    obtain ⟨hdl, hdr, nl, nr⟩ := hg p (by simp)
    obtain ⟨b, qs, hde, hq, hsz, hv⟩ := dataEqual_step fo (flat ps ++ rest) hdl hdr nl nr
    have hlen : rest.length < (flat ps ++ rest).length + 1 + 1 := by simp; omega
    simp only [eqLoop, flat, List.cons_append, List.length_cons, gt_iff_lt, hlen, if_true, hde, ok_bind]
    cases b with
    | false =>
      have : pendAll fo (p :: ps) = false := by
        simp only [pendAll, List.all_cons] at hv ⊢
        simp [hv]
      rw [this, ← List.append_assoc, popTo_append]
      rfl
    | true =>
      simp only [pendSize] at hf
      have ih := eqLoop_spec rest fuel (qs ++ ps)
        (by
          intro x hx
          rcases List.mem_append.mp hx with h | h
          · exact hq x h
          · exact hg x (by simp [h]))
        (by rw [pendSize_append]; omega)
      rw [flat_append, List.append_assoc] at ih
      simp only [Bool.not_true, Bool.false_eq_true, if_false]
      rw [ih, pendAll_append]
      simp only [pendAll, List.all_cons] at hv ⊢
      simp [hv]

end Garnish.Lemmas.EqualityRefine
