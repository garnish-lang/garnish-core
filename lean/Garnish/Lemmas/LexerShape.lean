/-
Shape of Symbol and ByteList tokens (lexer half of `C03_front_end_shape_statement`): an invariant of the lexer state
machine, `ShapeInv`, shows that every token `lex` returns with type Symbol has a text `':' :: rest`, and every token
with type ByteList has a text `q` quotes ++ body ++ `q` quotes with `1 ≤ q` and a body that does not start with a
quote (`TokShape`). Model: Garnish.Model.Lexer (the repaired lexer).  (`Shape` / `FloatShape` of LexerC13Core are another matter:
the periods of a number.)
-/
import Garnish.Lemmas.LexerC13
namespace Garnish.Model.Lexer

/-- the shape the builder relies on -/
def TokShape (text : List Char) (ty : Gen.TokenType) : Prop :=
  (ty = .symbol → ∃ rest, text = ':' :: rest) ∧
  (ty = .byteList → ∃ (q : Nat) (body : List Char), 1 ≤ q ∧
    text = List.replicate q '\'' ++ body ++ List.replicate q '\'' ∧ ∀ c, body.head? = some c → c ≠ '\'')

theorem TokShape.other {text : List Char} {ty : Gen.TokenType} (h1 : ty ≠ .symbol) (h2 : ty ≠ .byteList) :
    TokShape text ty := ⟨fun h => absurd h h1, fun h => absurd h h2⟩

/-- a byte list under construction: `q` opening quotes, a non-empty body not starting with a quote, `e < q` quotes
that may turn out to be closing quotes -/
def ByteBody (σ : Lexer) : Prop :=
  ∃ (body : List Char), σ.endQuoteCount < σ.startQuoteCount ∧
    σ.currentCharacters = List.replicate σ.startQuoteCount '\'' ++ body ++ List.replicate σ.endQuoteCount '\'' ∧
    body ≠ [] ∧ ∀ c, body.head? = some c → c ≠ '\''

structure ShapeInv (σ : Lexer) : Prop where
  tree : σ.operatorTree = theTree
  noSymbol : σ.currentTokenType ≠ some .symbol
  byteList : σ.currentTokenType = some .byteList →
    (σ.state = .startByteList ∧ ∃ q, 1 ≤ q ∧ σ.currentCharacters = List.replicate q '\'') ∨
    (σ.state = .byteList ∧ ByteBody σ)
  endQ : σ.state ≠ .charList → σ.state ≠ .byteList → σ.endQuoteCount = 0

theorem ShapeInv.mkOther {σ1 : Lexer} (htr : σ1.operatorTree = theTree) (h1 : σ1.currentTokenType ≠ some .symbol)
    (h2 : σ1.currentTokenType ≠ some .byteList) (h3 : σ1.state ≠ .charList → σ1.state ≠ .byteList → σ1.endQuoteCount = 0) :
    ShapeInv σ1 := ⟨htr, h1, fun h => absurd h h2, h3⟩

theorem notByteList_of_state {σ : Lexer} (hi : ShapeInv σ) (h1 : σ.state ≠ .startByteList) (h2 : σ.state ≠ .byteList) :
    σ.currentTokenType ≠ some .byteList := by
  intro h
  rcases hi.byteList h with ⟨hs, _⟩ | ⟨hs, _⟩
  · exact h1 hs
  · exact h2 hs

theorem emit_other {σ1 : Lexer} (htr : σ1.operatorTree = theTree) (h1 : σ1.currentTokenType ≠ some .symbol)
    (h2 : σ1.currentTokenType ≠ some .byteList) :
    σ1.operatorTree = theTree ∧ ∀ ty, σ1.currentTokenType = some ty → TokShape σ1.currentCharacters ty :=
  ⟨htr, fun ty hty => TokShape.other (fun h => h1 (by rw [hty, h])) (fun h => h2 (by rw [hty, h]))⟩

/-- arms of states other than Operator / Identifier / the two byte list states: the pending type is untouched or
set to a constant other than Symbol / ByteList -/
macro "shape_tac" f:ident hr:ident htr:ident hns:ident hnb:ident he:ident : tactic =>
  `(tactic| (unfold $f at $hr:ident; (try simp only [] at $hr:ident); (repeat' split at $hr:ident);
             all_goals (subst $hr:ident; refine ⟨fun h => ?_, fun h => ?_⟩);
             all_goals first
               | (exfalso; simp at h; done)
               | exact ShapeInv.mkOther $htr (by first | exact $hns | simp)
                   (by first | exact $hnb | simp) (by first | (intro _ _; exact $he) | simp_all)
               | exact emit_other $htr (by first | exact $hns | simp) (by first | exact $hnb | simp)))

theorem symbol_shape {cs : List Char} (h : startsWith cs ':' = true) : ∃ rest, cs = ':' :: rest := by
  cases cs with
  | nil => simp [startsWith] at h
  | cons x r =>
    simp [startsWith] at h
    exact ⟨r, by rw [h]⟩

theorem node_type_not_lexical {cs : List Char} {node : LexerOperatorNode}
    (hw : walkOperator theTree cs = some node) :
    node.tokenType ≠ some .symbol ∧ node.tokenType ≠ some .byteList := by
  constructor <;> intro h
  · have := tree_sound cs node _ hw h
    have hop : isOpType .symbol = true := by
      unfold isOpType; rw [List.any_eq_true]; exact ⟨_, this, by simp⟩
    simp at hop
  · have := tree_sound cs node _ hw h
    have hop : isOpType .byteList = true := by
      unfold isOpType; rw [List.any_eq_true]; exact ⟨_, this, by simp⟩
    simp at hop

theorem head_append_of_ne_nil {body x : List Char} (hne : body ≠ []) (h : ∀ c, body.head? = some c → c ≠ '\'') :
    ∀ c, (body ++ x).head? = some c → c ≠ '\'' := by
  cases body with
  | nil => exact absurd rfl hne
  | cons b r => simpa using h

/-- what an arm hands on: the invariant when it continues the token (on the sentinel, StartByteList stops counting quotes
without a body character: nothing is claimed), a shaped token when it ends it -/
theorem ArmStep.shape {cc : CharClass} {σ σ1 : Lexer} {c : Char} {sn : Bool} (h : ArmStep cc σ c σ1 sn)
    (hi : ShapeInv σ) :
    (sn = false → ¬Sentinel σ c → ShapeInv σ1) ∧
    (sn = true → σ1.operatorTree = theTree ∧
      ∀ ty, σ1.currentTokenType = some ty → TokShape σ1.currentCharacters ty) := by
  have htr := hi.tree
  have hsy := hi.noSymbol
  -- outside the two byte list states the pending type is not ByteList; outside the two list states no quote is counted
  have nb : ∀ {st}, σ.state = st → st ≠ .startByteList → st ≠ .byteList → σ.currentTokenType ≠ some .byteList :=
    fun hs h1 h2 => notByteList_of_state hi (hs ▸ h1) (hs ▸ h2)
  have eq0 : ∀ {st}, σ.state = st → st ≠ .charList → st ≠ .byteList → σ.endQuoteCount = 0 :=
    fun hs h1 h2 => hi.endQ (hs ▸ h1) (hs ▸ h2)
  have cont : ∀ {τ : Lexer}, ShapeInv τ → (false = false → ¬Sentinel σ c → ShapeInv τ) ∧
      (false = true → τ.operatorTree = theTree ∧ ∀ ty, τ.currentTokenType = some ty → TokShape τ.currentCharacters ty) :=
    fun h => ⟨fun _ _ => h, nofun⟩
  have emit : ∀ {τ : Lexer}, (τ.operatorTree = theTree ∧ ∀ ty, τ.currentTokenType = some ty →
      TokShape τ.currentCharacters ty) → (true = false → ¬Sentinel σ c → ShapeInv τ) ∧
      (true = true → τ.operatorTree = theTree ∧ ∀ ty, τ.currentTokenType = some ty → TokShape τ.currentCharacters ty) :=
    fun h => ⟨nofun, fun _ => h⟩
  cases h with
  -- the pending type is kept, or set to a type other than Symbol and ByteList
  | numCont hs | annCont hs | spNewline hs | spBlank hs | idCont hs | lineCont hs | flCont hs | sclQuote hs =>
    exact cont (.mkOther htr hsy (nb hs (by decide) (by decide)) fun _ _ => eq0 hs (by decide) (by decide))
  | numFloat hs | annLine hs | subBlank hs | opIdent hs | opFloat hs =>
    exact cont (.mkOther htr (by simp) (by simp) fun _ _ => eq0 hs (by decide) (by decide))
  | sclBody hs | sclSentinel hs => exact cont (.mkOther htr hsy (nb hs (by decide) (by decide)) fun h _ => absurd rfl h)
  | clQuote hs | clBody hs => exact cont (.mkOther htr hsy (nb hs (by decide) (by decide)) fun h _ => absurd hs h)
  | numDone hs | annDone hs | spDone hs | sclEmpty hs | lineNewline hs | lineSentinel hs | clLast hs | idDone hs | opDone hs
  | flDone hs =>
    exact emit (emit_other htr hsy (nb hs (by decide) (by decide)))
  | spBlankLine | subNewline | subDone => exact emit (emit_other htr (by simp) (by simp))
  | idTick => exact emit (emit_other htr (by split <;> simp) (by split <;> simp))
  -- an operator type is neither
  | opPath hs hw =>
    have := node_type_not_lexical (htr ▸ hw)
    exact cont (.mkOther htr this.1 this.2 fun _ _ => eq0 hs (by decide) (by decide))
  -- a Symbol starts with a colon
  | idSymbol _ _ _ hsym =>
    refine emit ⟨htr, fun ty hty => ?_⟩
    cases hty
    simp only [Bool.and_eq_true] at hsym
    exact ⟨fun _ => symbol_shape hsym.1, nofun⟩
  -- StartByteList counts the opening quotes
  | sblQuote hs hc =>
    refine cont ⟨htr, hsy, fun hty => ?_, fun _ _ => eq0 hs (by decide) (by decide)⟩
    rcases hi.byteList hty with ⟨_, q, hq, hch⟩ | ⟨hs', _⟩
    · exact .inl ⟨hs, q + 1, by omega, by simp [push, hch, hc, List.replicate_succ']⟩
    · rw [hs] at hs'; cases hs'
  | sblEmpty hs _ h2 =>
    -- two quotes and something else: the empty byte list
    refine emit ⟨htr, fun ty hty' => ?_⟩
    by_cases hty : σ.currentTokenType = some .byteList
    · rcases hi.byteList hty with ⟨_, q, hq, hch⟩ | ⟨hs', _⟩
      · rw [hty] at hty'
        cases hty'
        have hq2 : q = 2 := by rw [hch, utf8Len_replicate _ (by decide)] at h2; simpa using h2
        subst hq2
        exact ⟨nofun, fun _ => ⟨1, [], by omega, by rw [hch]; rfl, by simp⟩⟩
      · rw [hs] at hs'; cases hs'
    · exact TokShape.other (fun h => hsy (by rw [hty', h])) (fun h => hty (by rw [hty', h]))
  | sblBody hs hc _ _ =>
    -- the first body character: it is no quote
    have he := eq0 hs (by decide) (by decide)
    refine cont ⟨htr, hsy, fun hty => ?_, fun _ h => absurd rfl h⟩
    rcases hi.byteList hty with ⟨_, q, hq, hch⟩ | ⟨hs', _⟩
    · refine .inr ⟨rfl, [c], ?_, ?_, by simp, ?_⟩
      · simp only [he, hch, utf8Len_replicate _ (show ('\'' : Char).utf8Size = 1 by decide)]; omega
      · simp [push, he, hch, utf8Len_replicate _ (show ('\'' : Char).utf8Size = 1 by decide)]
      · intro x hx; simp at hx; subst hx; simpa using hc
    · rw [hs] at hs'; cases hs'
  | sblSentinel _ _ _ h =>
    simp only [Bool.and_eq_true, beq_iff_eq] at h
    exact ⟨fun _ hns => absurd ⟨h.1, h.2⟩ hns, nofun⟩
  -- ByteList counts the closing quotes
  | blLast hs hc hq =>
    refine emit ⟨htr, fun ty hty' => ?_⟩
    by_cases hty : σ.currentTokenType = some .byteList
    · rcases hi.byteList hty with ⟨hs', _⟩ | ⟨_, body, hlt, hch, hbne, hhead⟩
      · rw [hs] at hs'; cases hs'
      · rw [hty] at hty'
        cases hty'
        have hq : σ.startQuoteCount = σ.endQuoteCount + 1 := by simpa using hq
        have hc : c = '\'' := by simpa using hc
        refine ⟨nofun, fun _ => ⟨σ.startQuoteCount, body, by omega, ?_, hhead⟩⟩
        simp [push, hch, hc, hq, List.replicate_succ']
    · exact TokShape.other (fun h => hsy (by rw [hty', h])) (fun h => hty (by rw [hty', h]))
  | blQuote hs hc hq =>
    refine cont ⟨htr, hsy, fun hty => ?_, fun _ h => absurd hs h⟩
    rcases hi.byteList hty with ⟨hs', _⟩ | ⟨_, body, hlt, hch, hbne, hhead⟩
    · rw [hs] at hs'; cases hs'
    · have hq : ¬σ.startQuoteCount = σ.endQuoteCount + 1 := by simpa using hq
      have hc : c = '\'' := by simpa using hc
      refine .inr ⟨hs, body, ?_, ?_, hbne, hhead⟩
      · simp only []; omega
      · simp [push, hch, hc, List.replicate_succ']
  | blBody hs hc =>
    refine cont ⟨htr, hsy, fun hty => ?_, fun _ h => absurd hs h⟩
    rcases hi.byteList hty with ⟨hs', _⟩ | ⟨_, body, hlt, hch, hbne, hhead⟩
    · rw [hs] at hs'; cases hs'
    · refine .inr ⟨hs, body ++ List.replicate σ.endQuoteCount '\'' ++ [c], ?_, ?_, by simp, ?_⟩
      · simp only []; omega
      · simp [push, hch]
      · rw [List.append_assoc]; exact head_append_of_ne_nil hbne hhead

theorem startToken_shape (cc : CharClass) (σ : Lexer) (c : Char) (htr : σ.operatorTree = theTree)
    (he : σ.endQuoteCount = 0) : ShapeInv (startToken cc σ c) := by
  rcases startToken_cases cc σ c with ⟨st, ty, cs, hc, -, heq⟩ | ⟨-, heq⟩ <;> rw [heq]
  · cases hc
    case operator node hw =>
      have := node_type_not_lexical (htr ▸ hw)
      exact .mkOther htr this.1 this.2 (fun _ _ => he)
    case byteList h => exact ⟨htr, nofun, fun _ => Or.inl ⟨rfl, 1, Nat.le_refl 1, h ▸ rfl⟩, fun _ _ => he⟩
    all_goals exact .mkOther htr nofun nofun (fun _ _ => he)
  · exact .mkOther htr nofun nofun (fun _ _ => he)

theorem dots_shape (cc : CharClass) {σ : Lexer} {c : Char} {node : LexerOperatorNode} (hi : ShapeInv σ)
    (he : σ.endQuoteCount = 0)
    (hw : walkOperator (dots cc σ c).operatorTree (dots cc σ c).currentCharacters = some node) :
    ShapeInv { dots cc σ c with currentTokenType := node.tokenType } := by
  have hsd := startToken_dot cc { σ with tokenStartRow := σ.textRow } hi.tree
  have heq0 : (startToken cc { σ with tokenStartRow := σ.textRow } '.').endQuoteCount = 0 :=
    (startToken_shape cc { σ with tokenStartRow := σ.textRow } '.' hi.tree he).endQ (by rw [hsd.1]; decide)
      (by rw [hsd.1]; decide)
  unfold dots at hw ⊢
  generalize startToken cc { σ with tokenStartRow := σ.textRow } '.' = s1 at hw hsd heq0
  have := node_type_not_lexical (hsd.2.2 ▸ hw)
  exact .mkOther hsd.2.2 this.1 this.2 fun _ _ => heq0

theorem ShapeInv_bump {σ : Lexer} (c : Char) (h : ShapeInv σ) : ShapeInv (bumpColumn σ c) := by
  unfold bumpColumn
  split <;> exact ⟨h.tree, h.noSymbol, h.byteList, h.endQ⟩

theorem ShapeInv_lexed {σ : Lexer} (n : Nat) (h : ShapeInv σ) : ShapeInv { σ with charactersLexed := n } :=
  ⟨h.tree, h.noSymbol, h.byteList, h.endQ⟩

theorem ShapeInv_atEnd {σ : Lexer} (b : Bool) (h : ShapeInv σ) : ShapeInv { σ with atEnd := b } :=
  ⟨h.tree, h.noSymbol, h.byteList, h.endQ⟩

theorem processChar_shape (cc : CharClass) (σ : Lexer) (c : Char) (hi : ShapeInv σ) (σ' : Lexer)
    (ot : Option LexerToken) (h : processChar cc σ c = .ok (σ', ot)) :
    σ'.result = .err ∨ ((¬Sentinel σ c → ShapeInv σ') ∧ ∀ t, ot = some t → TokShape t.text t.tokenType) := by
  have hstep := processChar_pstep cc h
  have hi0 := ShapeInv_lexed (σ.charactersLexed + 1) hi
  have hsent : Sentinel { σ with charactersLexed := σ.charactersLexed + 1 } c ↔ Sentinel σ c := Iff.rfl
  generalize ({ σ with charactersLexed := σ.charactersLexed + 1 } : Lexer) = σ0 at hstep hi0 hsent
  rw [← hsent]
  clear hsent hi h
  cases hstep with
  | fail herr => exact Or.inl herr
  | start hs =>
    exact Or.inr ⟨fun _ => ShapeInv_bump c (startToken_shape cc σ0 c hi0.tree
      (hi0.endQ (by rw [hs]; decide) (by rw [hs]; decide))), nofun⟩
  | cont harm => exact Or.inr ⟨fun hns => ShapeInv_bump c ((harm.shape hi0).1 rfl hns), nofun⟩
  | @emit σ1 ty harm hty =>
    obtain ⟨htr, hemit⟩ := (harm.shape hi0).2 rfl
    refine Or.inr ⟨fun _ => ShapeInv_bump c ?_, fun t ht => ?_⟩
    · -- after a token has been pushed nothing is pending
      unfold restart
      split
      · exact startToken_shape cc _ c htr rfl
      · exact .mkOther htr nofun nofun fun _ _ => rfl
    · cases ht; exact hemit ty hty
  | split hs _ _ hw =>
    refine Or.inr ⟨fun _ => ShapeInv_bump c (dots_shape cc hi0 (hi0.endQ (by rw [hs]; decide) (by rw [hs]; decide)) hw),
      fun t ht => ?_⟩
    cases ht; exact TokShape.other nofun nofun

def AllShaped (toks : List LexerToken) : Prop := ∀ t ∈ toks, TokShape t.text t.tokenType

theorem ShapeInv_init : ShapeInv (Lexer.init theTree) :=
  ⟨init_operatorTree theTree, by simp [Lexer.init], fun h => by simp [Lexer.init] at h, fun _ _ => rfl⟩

theorem lex_tokens_shaped (cc : CharClass) (hcc : cc.Sane) (s : List Char) (toks : List LexerToken)
    (h : lex cc s = .ok toks) : AllShaped toks := by
  obtain ⟨σ, toks0, σ1, ot, hrun, hok, hp, hok1, rfl, -⟩ := lex_ok cc hcc h
  obtain ⟨-, hI⟩ := runChars_induct cc
    (I := fun σ _ toks => σ.atEnd = false ∧ (σ.result = .err ∨ (ShapeInv σ ∧ AllShaped toks)))
    (fun σ _ toks c σ1 ot ⟨ha, hI⟩ hok hp => by
      obtain ⟨hi, hall⟩ := hI.resolve_left (by rw [hok]; nofun)
      refine ⟨(processChar_frame cc _ _ _ _ hp).2.1.trans ha, ?_⟩
      rcases processChar_shape cc σ c hi σ1 ot hp with herr | ⟨hinv, htok⟩
      · exact Or.inl herr
      · refine Or.inr ⟨hinv fun hs => (by have := hs.2; rw [ha] at this; cases this), ?_⟩
        cases ot with
        | none => simpa using hall
        | some t => exact List.forall_mem_append.2 ⟨hall, List.forall_mem_singleton.2 (htok t rfl)⟩)
    s _ σ [] [] toks0 hrun ⟨rfl, Or.inr ⟨ShapeInv_init, nofun⟩⟩
  obtain ⟨hi, hall⟩ := hI.resolve_left (by rw [hok]; nofun)
  rcases processChar_shape cc _ '\x00' (ShapeInv_atEnd true hi) σ1 ot hp with herr | ⟨-, htok⟩
  · rw [hok1] at herr; cases herr
  cases ot with
  | none => simpa using hall
  | some t => exact List.forall_mem_append.2 ⟨hall, List.forall_mem_singleton.2 (htok t rfl)⟩

end Garnish.Model.Lexer
