/-
What one call of `handle_parse_node` does.  `Visit ctx crj ni pn p`: the plan `p` (Lemmas/BuildPlan.lean) is one of the twelve
things a handler call on node `ni` can do in state `ctx`.  The relation has no hypotheses about the parse tree or the state: it
only lists.  The data object of a plan is `emitAll ctx.data evs` for an explicit list of pushes `evs`, so that what a visit
appends (instructions with their metadata, jump entries, constants) is read off a list.  `handleParseNode_plan`:
`handle_parse_node` chooses a plan that is a `Visit` and runs it.  The invariants of the traversal are proved by cases on `Visit`.
`crj` is `current_root_jump`, the jump entry of the root being built; only `nestedEmpty` reads it.
-/
import Garnish.Lemmas.BuildPlan
import Garnish.Spec.WFProg

namespace Garnish.Lemmas.BuildPlan
open Garnish Garnish.Gen Garnish.Model.Parser Garnish.Model.Literals Garnish.Model.Build Garnish.Lemmas.Build
open Garnish.Lemmas.BuildTotal (Good good_bind good_mono good_buildErr good_ite getNode_good isLate)
open Garnish.Lemmas.BuildSeq (Lay layout csOf sufOf oolR isJumpIf)
open Garnish.Spec (opKind)

variable {F : Type}

inductive Ev (F : Type)
  | instr (i : Instruction) (o m : Option Nat)
  /-- a jump entry that is patched when its root is built -/
  | hole
  /-- a jump entry that points at the end of the stream -/
  | here
  | const (v : Val F)

def Ev.apply (d : BState F) : Ev F → BState F
  | .instr i o m => pushInstr d i o m
  | .hole => pushToJumpTable d 0
  | .here => pushToJumpTable d (getInstructionLen d)
  | .const v => (addConst d v).1

def emitAll (d : BState F) (evs : List (Ev F)) : BState F := evs.foldl Ev.apply d

theorem emitAll_cons (d : BState F) (e : Ev F) (evs : List (Ev F)) : emitAll d (e :: evs) = emitAll (e.apply d) evs := rfl

def Ev.meta? : Ev F → Option (Option Nat)
  | .instr _ _ m => some m
  | _ => none

def metas (evs : List (Ev F)) : List (Option Nat) := evs.filterMap Ev.meta?

theorem metadata_emitAll : ∀ (evs : List (Ev F)) (d : BState F),
    (emitAll d evs).metadata.toList = d.metadata.toList ++ metas evs
  | [], d => by simp [emitAll, metas]
  | .instr i o m :: evs, d => by
    rw [emitAll_cons, metadata_emitAll evs, show metas (.instr i o m :: evs) = m :: metas evs from rfl]
    simp [Ev.apply, pushInstr]
  | .hole :: evs, d => metadata_emitAll evs (pushToJumpTable d 0)
  | .here :: evs, d => metadata_emitAll evs (pushToJumpTable d (getInstructionLen d))
  | .const v :: evs, d => metadata_emitAll evs (addConst d v).1

theorem foldl_pushInstr_eq : ∀ (l : List Instr) (d : BState F),
    l.foldl (fun d e => pushInstr d e.1 e.2 none) d = emitAll d (l.map fun e => .instr e.1 e.2 none)
  | [], _ => rfl
  | _ :: rest, _ => foldl_pushInstr_eq rest _

/-- the conditional parent a handler gives to the children it schedules in line -/
def kidParent (d : Definition) (node : BuildNode) (ni : Nat) : Option Nat :=
  if d = .and ∨ d = .or then some ni
  else if d = .elseJump then some (node.conditionalParent.getD ni) else none

/-- the fresh build node `b` of a child `c` scheduled in line by the visit of `ni` -/
structure InlineKid (pn : ParseNode) (node : BuildNode) (ni c : Nat) (b : BuildNode) : Prop where
  pni : b.parseNodeIndex = c
  state : b.state = .uninitialized
  containing : b.containingExpressionJump = node.containingExpressionJump
  jump : b.jumpIndexToUpdate = none
  ends : b.rootEndInstruction = none
  items : b.conditionalItems = #[]
  cp : b.conditionalParent = kidParent pn.definition node ni

/-- the constants of literals: everything a node's text can denote, no `expr` -/
def isLit : Val F → Bool
  | .unit | .fls | .tru | .num _ | .chars _ | .bytes _ | .sym _ => true
  | _ => false

inductive FirstEvs (ctx : Ctx F) (ni : Nat) (pn : ParseNode) : List (Ev F) → Prop
  | none : pn.definition ≠ .sideEffect → FirstEvs ctx ni pn []
  | sideEffect : pn.definition = .sideEffect → FirstEvs ctx ni pn [.instr .startSideEffect none (some ni)]
  | resolve (s : List Char) : pn.definition ≠ .sideEffect →
      FirstEvs ctx ni pn [.const (.sym (parseSymbol s)), .instr .resolve (some ctx.data.consts.size) none]

/-- what the second visit of a definition without an out-of-line child appends -/
inductive SecondEvs (ctx : Ctx F) (ni : Nat) (pn : ParseNode) (node : BuildNode) : List (Ev F) → Prop
  | op {ins : Instruction} (hfree : opKind ins = .free) {x : Nat} (hx : x = ni ∨ x = node.parseNodeIndex) :
      SecondEvs ctx ni pn node [.instr ins none (some x)]
  | reapply : SecondEvs ctx ni pn node
      [.instr .updateValue none (some ni), .instr .jumpTo (some node.containingExpressionJump) (some ni)]
  | infixApply : SecondEvs ctx ni pn node [.instr .makeList (some 2) none, .instr .apply none (some ni)]
  | value {v : Val F} (hv : isLit v = true) {ins : Instruction} (hins : ins = .put ∨ (ins = .resolve ∧ ∃ s, v = .sym s)) :
      SecondEvs ctx ni pn node [.const v, .instr ins (some ctx.data.consts.size) (some ni)]
  /-- a list inside a list of the same kind leaves its items to the outer one -/
  | forwarded (hdef : pn.definition = .list ∨ pn.definition = .commaList) : SecondEvs ctx ni pn node []

inductive Visit (ctx : Ctx F) (crj ni : Nat) (pn : ParseNode) : Plan F → Prop
  /-- first visit: the node is marked and pushed back, its in-line children get fresh nodes and are pushed in the
  arrangement of the definition -/
  | first {node : BuildNode} (hnode : ctx.nodes[ni]? = some (some node)) (hst : node.state = .uninitialized)
      (hk : layout pn.definition ≠ .gr ∧ layout pn.definition ≠ .none)
      {evs : List (Ev F)} (hevs : FirstEvs ctx ni pn evs) (ctl : Bool)
      {sets : List (Nat × BuildNode × String)} (hkeys : sets.map (·.1) = csOf (layout pn.definition) pn.left pn.right)
      (hkid : ∀ q, q ∈ sets → InlineKid pn node ni q.1 q.2.1)
      {x : Nat} (hx : x = ni ∨ x = node.parseNodeIndex) {stack : List Nat}
      (hstack : stack = sufOf (layout pn.definition) x pn.left pn.right) :
      Visit ctx crj ni pn
        ⟨emitAll ctx.data evs, [(ni, { node with state := .initialized, contributesToList := ctl })], sets, stack, []⟩
  | emit {node : BuildNode} (hnode : ctx.nodes[ni]? = some (some node)) (hst : node.state = .initialized)
      (hool : oolR pn.definition = false)
      (hne : pn.definition ≠ .elseJump ∧ pn.definition ≠ .group ∧ pn.definition ≠ .nestedExpression)
      {evs : List (Ev F)} (hevs : SecondEvs ctx ni pn node evs) : Visit ctx crj ni pn ⟨emitAll ctx.data evs, [], [], [], []⟩
  /-- second visit of a list that collects its own items -/
  | listItem {node : BuildNode} (hnode : ctx.nodes[ni]? = some (some node)) (hst : node.state = .initialized)
      (hdef : pn.definition = .list ∨ pn.definition = .commaList) :
      Visit ctx crj ni pn ⟨emitAll ctx.data [.instr .makeList (some node.childCount) (some node.parseNodeIndex)],
        [(ni, { node with childCount := node.childCount + 1 })], [], [], []⟩
  | groupSkip (hdef : pn.definition = .group) (hr : pn.right = none) : Visit ctx crj ni pn ⟨emitAll ctx.data [], [], [], [], []⟩
  /-- a group hands its place to its child -/
  | groupChild {node : BuildNode} (hnode : ctx.nodes[ni]? = some (some node)) (hdef : pn.definition = .group) {r : Nat}
      (hr : pn.right = some r) (site : String) :
      Visit ctx crj ni pn ⟨emitAll ctx.data [], [], [(r, BuildNode.new r node.containingExpressionJump, site)], [r], []⟩
  /-- an empty nested expression names the expression it is written in -/
  | nestedEmpty (hdef : pn.definition = .nestedExpression) (hr : pn.right = none) {c : Nat}
      (hc : (∃ node, ctx.nodes[ni]? = some (some node) ∧ c = node.containingExpressionJump) ∨
        ((∀ node, ctx.nodes[ni]? ≠ some (some node)) ∧ c = crj)) :
      Visit ctx crj ni pn
        ⟨emitAll ctx.data [.const (.expr c), .instr .put (some ctx.data.consts.size) (some ni)], [], [], [], []⟩
  /-- a nested expression becomes a root with a jump entry of its own -/
  | nestedRoot (hdef : pn.definition = .nestedExpression) {r : Nat} (hr : pn.right = some r) (site : String) :
      Visit ctx crj ni pn
        ⟨emitAll ctx.data [.hole, .const (.expr ctx.data.jumps.size), .instr .put (some ctx.data.consts.size) (some ni)],
          [], [(r, BuildNode.newWithJump r ctx.data.jumps.size ctx.data.jumps.size, site)], [], [r]⟩
  /-- second visit of And / Or, and of a JumpIf outside an else-chain: the right child becomes a root, entered through the
  entry allocated first; its terminators end in a jump to the entry allocated last, which points behind this visit -/
  | branch {node : BuildNode} (hnode : ctx.nodes[ni]? = some (some node)) (hst : node.state = .initialized)
      (hlate : isLate pn.definition = true) (hcp : isJumpIf pn.definition = true → node.conditionalParent = none)
      {r : Nat} (hr : pn.right = some r) {ins : Instruction} (hjump : opKind ins = .jump)
      {extra endBefore : List Instr} (hx : ∀ e, e ∈ extra → opKind e.1 = .free)
      (he : ∀ e, e ∈ endBefore → opKind e.1 = .free) (site : String) :
      Visit ctx crj ni pn
        ⟨emitAll (emitAll ctx.data (.hole :: .instr ins (some ctx.data.jumps.size) (some ni) ::
            extra.map fun e => .instr e.1 e.2 none)) [.here], [],
          [(r, BuildNode.newWithJumpAndEnd r node.containingExpressionJump ctx.data.jumps.size
            (endBefore ++ [(.jumpTo, some (emitAll ctx.data (.hole :: .instr ins (some ctx.data.jumps.size) (some ni) ::
              extra.map fun e => .instr e.1 e.2 none)).jumps.size)]), site)], [], [r]⟩
  /-- second visit of a JumpIf inside an else-chain: the arm is recorded at the head of the chain -/
  | arm {node : BuildNode} (hnode : ctx.nodes[ni]? = some (some node)) (hst : node.state = .initialized)
      (hj : isJumpIf pn.definition = true) {r : Nat} (hr : pn.right = some r) {cp : Nat} (hcp : node.conditionalParent = some cp)
      {parent : BuildNode} (hparent : ctx.nodes[cp]? = some (some parent)) {ins : Instruction} (hjump : opKind ins = .jump) :
      Visit ctx crj ni pn ⟨emitAll ctx.data [.hole, .instr ins (some ctx.data.jumps.size) (some ni)],
        [(cp, { parent with conditionalItems := parent.conditionalItems.push ⟨r, ctx.data.jumps.size, (.invalid, none)⟩ })],
        [], [], []⟩
  /-- the same when the head of the chain has no build node: the entry stays, nothing is emitted -/
  | armDropped {node : BuildNode} (hnode : ctx.nodes[ni]? = some (some node)) (hst : node.state = .initialized)
      (hj : isJumpIf pn.definition = true) {r : Nat} (hr : pn.right = some r) {cp : Nat} (hcp : node.conditionalParent = some cp)
      (hno : ∀ parent : BuildNode, ctx.nodes[cp]? ≠ some (some parent)) :
      Visit ctx crj ni pn ⟨emitAll ctx.data [.hole], [], [], [], []⟩
  | elseNoop {node : BuildNode} (hnode : ctx.nodes[ni]? = some (some node)) (hst : node.state = .initialized)
      (hdef : pn.definition = .elseJump) (h : node.conditionalParent ≠ none ∨ node.conditionalItems.size = 0) :
      Visit ctx crj ni pn ⟨emitAll ctx.data [], [], [], [], []⟩
  /-- the head of an else-chain releases the recorded arms as roots -/
  | elseRelease {node : BuildNode} (hnode : ctx.nodes[ni]? = some (some node)) (hst : node.state = .initialized)
      (hdef : pn.definition = .elseJump) (hcp : node.conditionalParent = none) (hpos : node.conditionalItems.size > 0) :
      Visit ctx crj ni pn ⟨emitAll ctx.data [.here], [],
        node.conditionalItems.toList.map
          (fun c => (c.nodeIndex, armNode node.containingExpressionJump ctx.data.jumps.size c, "build.rs:518")),
        [], node.conditionalItems.toList.map (·.nodeIndex)⟩

section plans
variable {ctx : Ctx F} {crj ni : Nat} {pn : ParseNode} {node : BuildNode}

/-- `BuildNode.new` and `new_with_list` for a definition that sets no conditional parent -/
theorem inlineKid_plain {b : BuildNode} {c : Nat} (hd : ¬ (pn.definition = .and ∨ pn.definition = .or) ∧ pn.definition ≠ .elseJump)
    (h1 : b.parseNodeIndex = c) (h2 : b.state = .uninitialized) (h3 : b.containingExpressionJump = node.containingExpressionJump)
    (h4 : b.jumpIndexToUpdate = none) (h5 : b.rootEndInstruction = none) (h6 : b.conditionalItems = #[])
    (h7 : b.conditionalParent = none) : InlineKid pn node ni c b :=
  ⟨h1, h2, h3, h4, h5, h6, by rw [h7, kidParent, if_neg hd.1, if_neg hd.2]⟩

theorem inlineKid_new (hd : ¬ (pn.definition = .and ∨ pn.definition = .or) ∧ pn.definition ≠ .elseJump) (c : Nat) :
    InlineKid pn node ni c (BuildNode.new c node.containingExpressionJump) :=
  inlineKid_plain hd rfl rfl rfl rfl rfl rfl rfl

theorem unaryPlan_visit (hnode : ctx.nodes[ni]? = some (some node)) {child : Option Nat} {mk : Nat → BuildNode} (site : String)
    {second : Outcome (Plan F)}
    (hk : (layout pn.definition = .ln ∧ child = pn.left) ∨ (layout pn.definition = .rn ∧ child = pn.right))
    (hnse : pn.definition ≠ .sideEffect) (hmk : ∀ c, InlineKid pn node ni c (mk c))
    (hs : node.state = .initialized → Good (Visit ctx crj ni pn) second) :
    Good (Visit ctx crj ni pn) (unaryPlan ctx ni node child mk site second) := by
  unfold unaryPlan
  split
  · rename_i hst
    split
    · exact good_buildErr
    · rename_i c
      refine Visit.first hnode hst ?_ (.none hnse) node.contributesToList (sets := kids [c] mk site) ?_
        (forall_kids fun c _ => hmk c) (Or.inr rfl) ?_
      · rcases hk with ⟨h, _⟩ | ⟨h, _⟩ <;> rw [h] <;> decide
      · rcases hk with ⟨h, e⟩ | ⟨h, e⟩ <;> rw [h, ← e] <;> rfl
      · rcases hk with ⟨h, e⟩ | ⟨h, e⟩ <;> rw [h, ← e] <;> rfl
  · rename_i hst; exact hs hst

theorem pairPlan_visit (hnode : ctx.nodes[ni]? = some (some node)) {evs : List (Ev F)} (hevs : FirstEvs ctx ni pn evs)
    {mk : Nat → BuildNode} (site1 site2 : String) {stack : Nat → Nat → List Nat} {second : Outcome (Plan F)}
    (hk : layout pn.definition = .lrn ∨ layout pn.definition = .rln ∨ layout pn.definition = .lnr)
    {x : Nat} (hx : x = ni ∨ x = node.parseNodeIndex)
    (hstack : ∀ r l, stack r l = sufOf (layout pn.definition) x (some l) (some r))
    (hmk : ∀ c, InlineKid pn node ni c (mk c)) (hs : node.state = .initialized → Good (Visit ctx crj ni pn) second) :
    Good (Visit ctx crj ni pn) (pairPlan ni pn node (emitAll ctx.data evs) mk site1 site2 stack second) := by
  unfold pairPlan
  split
  · rename_i hst
    split
    · exact good_buildErr
    · rename_i r hr
      split
      · exact good_buildErr
      · rename_i l hl
        refine Visit.first hnode hst ?_ hevs node.contributesToList (sets := kids [r] mk site1 ++ kids [l] mk site2) ?_
          (List.forall_mem_append.2 ⟨forall_kids fun c _ => hmk c, forall_kids fun c _ => hmk c⟩) hx ?_
        · rcases hk with h | h | h <;> rw [h] <;> decide
        · rw [hr, hl]; rcases hk with h | h | h <;> rw [h] <;> rfl
        · rw [hr, hl]; exact hstack r l
  · rename_i hst; exact hs hst

theorem op_visit (hnode : ctx.nodes[ni]? = some (some node)) (hst : node.state = .initialized) (hool : oolR pn.definition = false)
    (hne : pn.definition ≠ .elseJump ∧ pn.definition ≠ .group ∧ pn.definition ≠ .nestedExpression) {ins : Instruction}
    (hfree : opKind ins = .free) {x : Nat} (hx : x = ni ∨ x = node.parseNodeIndex) :
    Good (Visit ctx crj ni pn) (.ok (emit (pushInstr ctx.data ins none (some x)))) :=
  Visit.emit hnode hst hool hne (.op hfree hx)

/-- what an `add_fn` closure does: nothing, or it adds the constant of a literal and returns its index, which suits the
instruction it is used with -/
def AddsLit (addFn : AddFn F) (ins : Instruction) (pn : ParseNode) : Prop :=
  ∀ d, Sat (fun r => (r = (d, none) ∧ opKind ins = .free) ∨
    ∃ v, isLit v = true ∧ r = ((addConst d v).1, some d.consts.size) ∧ (ins = .put ∨ (ins = .resolve ∧ ∃ s, v = .sym s)))
    (addFn d pn)

theorem valueLikePlan_visit (hnode : ctx.nodes[ni]? = some (some node)) {addFn : AddFn F} {ins : Instruction}
    (hadd : AddsLit addFn ins pn) (hk : layout pn.definition = .lnr) (hool : oolR pn.definition = false)
    (hne : pn.definition ≠ .elseJump ∧ pn.definition ≠ .group ∧ pn.definition ≠ .nestedExpression)
    (hnse : pn.definition ≠ .sideEffect) (hd : ¬ (pn.definition = .and ∨ pn.definition = .or)) :
    Sat (Visit ctx crj ni pn) (valueLikePlan ctx ni pn node addFn ins) := by
  unfold valueLikePlan
  split
  · rename_i hst
    refine Visit.first hnode hst (by rw [hk]; decide) (.none hnse) node.contributesToList (x := ni) ?_
      (List.forall_mem_append.2 ⟨forall_kids fun c _ => inlineKid_new ⟨hd, hne.1⟩ c, forall_kids fun c _ => inlineKid_new ⟨hd, hne.1⟩ c⟩)
      (Or.inl rfl) (by rw [hk]; rfl)
    rw [hk, List.map_append, map_fst_kids, map_fst_kids]; rfl
  · rename_i hst
    refine sat_bind (hadd ctx.data) fun r hr => ?_
    rcases hr with ⟨rfl, hfree⟩ | ⟨v, hv, rfl, hins⟩
    · exact Visit.emit hnode hst hool hne (.op hfree (Or.inl rfl))
    · exact Visit.emit hnode hst hool hne (.value hv hins)

theorem listPlan_visit (hnode : ctx.nodes[ni]? = some (some node)) (hdef : pn.definition = .list ∨ pn.definition = .commaList) :
    Good (Visit ctx crj ni pn) (listPlan ctx ni pn node) := by
  have tab : layout pn.definition = .lrn ∧ oolR pn.definition = false ∧ pn.definition ≠ .elseJump ∧ pn.definition ≠ .group ∧
      pn.definition ≠ .nestedExpression ∧ pn.definition ≠ .sideEffect ∧ ¬ (pn.definition = .and ∨ pn.definition = .or) := by
    rcases hdef with e | e <;> rw [e] <;> decide
  obtain ⟨hk, hool, hne, hng, hnn, hnse, hnl⟩ := tab
  have hkid : ∀ (p : Nat) (d : Definition) (c : Nat),
      InlineKid pn node ni c (BuildNode.newWithList c node.containingExpressionJump p d) :=
    fun _ _ _ => inlineKid_plain ⟨hnl, hne⟩ rfl rfl rfl rfl rfl rfl rfl
  unfold listPlan
  split
  · rename_i hst
    refine Visit.first hnode hst (by rw [hk]; decide) (.none hnse) (listTarget ni pn node).2.2 ?_
      (List.forall_mem_append.2 ⟨forall_kids fun c _ => hkid _ _ c, forall_kids fun c _ => hkid _ _ c⟩) (Or.inr rfl) (by rw [hk]; rfl)
    rw [hk, List.map_append, map_fst_kids, map_fst_kids]; rfl
  · rename_i hst
    refine good_ite (Visit.emit hnode hst hool ⟨hne, hng, hnn⟩ (.forwarded hdef)) ?_
    refine good_bind (getNode_good ctx.nodes ni) fun node2 h2 => ?_
    obtain rfl : node2 = node := by rw [hnode] at h2; cases h2; rfl
    exact Visit.listItem hnode hst hdef

theorem branchPlan_visit (hnode : ctx.nodes[ni]? = some (some node)) (hst : node.state = .initialized)
    (hlate : isLate pn.definition = true) (hcp : isJumpIf pn.definition = true → node.conditionalParent = none)
    {ins : Instruction} (hjump : opKind ins = .jump) {extra endBefore : List Instr} (hx : ∀ e, e ∈ extra → opKind e.1 = .free)
    (he : ∀ e, e ∈ endBefore → opKind e.1 = .free) (site : String) :
    Good (Visit ctx crj ni pn) (branchPlan ctx ni pn node ins extra endBefore site) := by
  unfold branchPlan
  split
  · exact good_buildErr
  · rename_i r hr
    dsimp only
    rw [foldl_pushInstr_eq]
    exact Visit.branch hnode hst hlate hcp hr hjump hx he site

theorem jumpIfPlan_visit (hnode : ctx.nodes[ni]? = some (some node)) {ins : Instruction} (hi : (pn.definition, ins) ∈ jumpIfOps) :
    Good (Visit ctx crj ni pn) (jumpIfPlan ctx ni pn node ins) := by
  have tab : ∀ q, q ∈ jumpIfOps → layout q.1 = .ln ∧ isLate q.1 = true ∧ isJumpIf q.1 = true ∧ q.1 ≠ .sideEffect ∧
      ¬ (q.1 = .and ∨ q.1 = .or) ∧ q.1 ≠ .elseJump ∧ opKind q.2 = .jump := by decide
  obtain ⟨hk, hlate, hj, hnse, hnl, hne, hjump⟩ := tab _ hi
  refine unaryPlan_visit hnode _ (Or.inl ⟨hk, rfl⟩) hnse (fun c => inlineKid_new ⟨hnl, hne⟩ c) fun hst => ?_
  split
  · rename_i cp hcp
    split
    · exact good_buildErr
    · rename_i r hr
      dsimp only
      split
      · rename_i parent hparent
        exact Visit.arm hnode hst hj hr hcp hparent hjump
      · rename_i hno
        exact Visit.armDropped hnode hst hj hr hcp fun parent hp => hno parent hp
  · rename_i hcp
    exact branchPlan_visit hnode hst hlate (fun _ => hcp) hjump
      (fun e he => by rw [List.mem_singleton.1 he]; rfl) (fun _ he => absurd he List.not_mem_nil) _

theorem unaryFixApplyPlan_visit (hnode : ctx.nodes[ni]? = some (some node)) {child : Option Nat}
    (hc : pn.definition = .suffixApply ∧ child = pn.left ∨ pn.definition = .prefixApply ∧ child = pn.right) :
    Good (Visit ctx crj ni pn) (unaryFixApplyPlan ctx ni pn node child) := by
  have tab : ((layout pn.definition = .ln ∧ child = pn.left) ∨ (layout pn.definition = .rn ∧ child = pn.right)) ∧
      oolR pn.definition = false ∧ pn.definition ≠ .elseJump ∧ pn.definition ≠ .group ∧
      pn.definition ≠ .nestedExpression ∧ pn.definition ≠ .sideEffect ∧ ¬ (pn.definition = .and ∨ pn.definition = .or) := by
    rcases hc with ⟨e, h⟩ | ⟨e, h⟩ <;> rw [e] <;> simp [h, layout, oolR, isLate]
  obtain ⟨hk, hool, hne, hng, hnn, hnse, hnl⟩ := tab
  unfold unaryFixApplyPlan
  split
  · rename_i hst
    split
    · exact good_buildErr
    · rename_i c
      refine Visit.first hnode hst ?_ (.resolve _ hnse) node.contributesToList
        (sets := kids [c] (fun r => BuildNode.new r node.containingExpressionJump) "build.rs:664") ?_
        (forall_kids fun c _ => inlineKid_new ⟨hnl, hne⟩ c) (x := ni) (Or.inl rfl) ?_
      · rcases hk with ⟨h, _⟩ | ⟨h, _⟩ <;> rw [h] <;> decide
      · rcases hk with ⟨h, e⟩ | ⟨h, e⟩ <;> rw [h, ← e] <;> rfl
      · rcases hk with ⟨h, e⟩ | ⟨h, e⟩ <;> rw [h, ← e] <;> rfl
  · rename_i hst
    exact op_visit hnode hst hool ⟨hne, hng, hnn⟩ rfl (Or.inl rfl)

theorem sideEffectPlan_visit (hnode : ctx.nodes[ni]? = some (some node)) (hdef : pn.definition = .sideEffect) :
    Good (Visit ctx crj ni pn) (sideEffectPlan ctx ni pn node) := by
  have tab : layout pn.definition = .rn ∧ oolR pn.definition = false ∧ pn.definition ≠ .elseJump ∧ pn.definition ≠ .group ∧
      pn.definition ≠ .nestedExpression ∧ ¬ (pn.definition = .and ∨ pn.definition = .or) := by rw [hdef]; decide
  obtain ⟨hk, hool, hne, hng, hnn, hnl⟩ := tab
  unfold sideEffectPlan
  split
  · rename_i hst
    refine Visit.first hnode hst (by rw [hk]; decide) (.sideEffect hdef) node.contributesToList ?_
      (forall_kids fun c _ => inlineKid_new ⟨hnl, hne⟩ c) (x := ni) (Or.inl rfl) (by rw [hk]; rfl)
    rw [hk, map_fst_kids]; rfl
  · rename_i hst
    exact op_visit hnode hst hool ⟨hne, hng, hnn⟩ rfl (Or.inl rfl)

theorem elseJumpPlan_visit (hnode : ctx.nodes[ni]? = some (some node)) (hdef : pn.definition = .elseJump) :
    Good (Visit ctx crj ni pn) (elseJumpPlan ctx ni pn node) := by
  have hk : layout pn.definition = .lrn := by rw [hdef]; rfl
  refine pairPlan_visit (evs := []) hnode (.none (by rw [hdef]; decide)) _ _ (Or.inl hk) (Or.inr rfl)
    (fun _ _ => by rw [hk]; rfl) (fun c => ⟨rfl, rfl, rfl, rfl, rfl, rfl, ?_⟩) fun hst => ?_
  · rw [hdef, kidParent, if_neg (by decide), if_pos rfl]
    cases node.conditionalParent <;> rfl
  · split
    · rename_i hcp
      exact Visit.elseNoop hnode hst hdef (Or.inl (by rw [hcp]; exact nofun))
    · rename_i hcp
      split
      · rename_i hpos
        exact Visit.elseRelease hnode hst hdef hcp hpos
      · rename_i hsz
        exact Visit.elseNoop hnode hst hdef (Or.inr (by omega))

theorem groupPlan_visit (hdef : pn.definition = .group) : Good (Visit ctx crj ni pn) (groupPlan ctx ni pn) := by
  unfold groupPlan
  split
  · rename_i hr; exact Visit.groupSkip hdef hr
  · rename_i r hr
    exact good_bind (getNode_good ctx.nodes ni) fun node hnode => Visit.groupChild hnode hdef hr _

theorem nestedPlan_visit (hdef : pn.definition = .nestedExpression) : Visit ctx crj ni pn (nestedPlan ctx ni pn crj) := by
  unfold nestedPlan
  split
  · rename_i hr
    refine Visit.nestedEmpty hdef hr ?_
    split
    · rename_i node hnode; exact Or.inl ⟨node, hnode, rfl⟩
    · rename_i hno; exact Or.inr ⟨fun node h => hno node h, rfl⟩
  · rename_i r hr; exact Visit.nestedRoot hdef hr _

end plans

/-- the outcome `o` of a handler call on `ni` comes from choosing a plan that is a visit and running it; the choice fails with
an error value, or as the literal parser of the node fails -/
def Planned (pf : List Char → Option F) (ctx : Ctx F) (crj ni : Nat) (pn : ParseNode) (o : Outcome (Ctx F)) : Prop :=
  ∃ x : Outcome (Plan F), o = Outcome.bind x (·.run ctx) ∧ Sat (Visit ctx crj ni pn) x ∧
    ((∀ addFn, LitArm pf pn addFn → Good (fun _ => True) (addFn ctx.data pn)) → Good (fun _ => True) x) ∧
    ((∀ addFn, LitArm pf pn addFn → SatNP (fun _ => True) (addFn ctx.data pn)) → SatNP (fun _ => True) x)

section arms
variable {pf : List Char → Option F} {ctx : Ctx F} {crj ni : Nat} {pn : ParseNode}

theorem planned_of_good {x : Outcome (Plan F)} (g : Good (Visit ctx crj ni pn) x) :
    Planned pf ctx crj ni pn (Outcome.bind x (·.run ctx)) :=
  ⟨x, rfl, g.sat, fun _ => good_mono g fun _ _ => trivial, fun _ => (good_mono g fun _ _ => trivial).satNP⟩

theorem planned_visit {plan : BuildNode → Outcome (Plan F)}
    (h : ∀ node, ctx.nodes[ni]? = some (some node) → Good (Visit ctx crj ni pn) (plan node)) :
    Planned pf ctx crj ni pn (visit ctx ni plan) := by
  have := planned_of_good (pf := pf) (good_bind (getNode_good ctx.nodes ni) h)
  rwa [Build.bind_assoc] at this

/-- `handle_value_like`: the second visit runs the closure -/
theorem planned_value {addFn : AddFn F} {ins : Instruction} (hadd : AddsLit addFn ins pn) (hk : layout pn.definition = .lnr)
    (hool : oolR pn.definition = false)
    (hne : pn.definition ≠ .elseJump ∧ pn.definition ≠ .group ∧ pn.definition ≠ .nestedExpression)
    (hnse : pn.definition ≠ .sideEffect) (hd : ¬ (pn.definition = .and ∨ pn.definition = .or))
    (hg : (∀ a, LitArm pf pn a → Good (fun _ => True) (a ctx.data pn)) → Good (fun _ => True) (addFn ctx.data pn))
    (hn : (∀ a, LitArm pf pn a → SatNP (fun _ => True) (a ctx.data pn)) → SatNP (fun _ => True) (addFn ctx.data pn)) :
    Planned pf ctx crj ni pn (handleValueLike addFn ins ctx ni pn) := by
  rw [handleValueLike_eq]
  refine ⟨_, Build.bind_assoc.symm, sat_bind (getNode_good _ _).sat fun node hnode =>
    valueLikePlan_visit hnode hadd hk hool hne hnse hd, fun h => ?_, fun h => ?_⟩
  · refine good_bind (getNode_good _ _) fun node _ => ?_
    unfold valueLikePlan
    split
    · trivial
    · exact good_bind (hg h) fun _ _ => trivial
  · refine satNP_bind (getNode_good _ _).satNP fun node _ => ?_
    unfold valueLikePlan
    split
    · trivial
    · exact satNP_bind (hn h) fun _ _ => trivial

theorem litArm_addsLit {addFn : BState F → ParseNode → Outcome (BState F × Nat)} (ha : LitArm pf pn addFn) :
    AddsLit (fun data node => Outcome.bind (addFn data node) fun (data, addr) => .ok (data, some addr)) .put pn := by
  intro d
  have key : Sat (fun r => ∃ v, isLit v = true ∧ r = addConst d v) (addFn d pn) := by
    cases ha with
    | symbol =>
      unfold parseAddSymbolLiteral
      split
      · exact sat_panic
      · exact ⟨.sym _, rfl, rfl⟩
    | number => unfold parseAddNumber; exact sat_bind sat_true fun n _ => ⟨.num n, rfl, rfl⟩
    | charList => unfold parseAddCharList; exact sat_bind sat_true fun n _ => ⟨.chars _, rfl, rfl⟩
    | byteList => unfold parseAddByteList; exact sat_bind sat_true fun n _ => ⟨.bytes _, rfl, rfl⟩
    | unit => exact ⟨.unit, rfl, rfl⟩
    | false => exact ⟨.fls, rfl, rfl⟩
    | true => exact ⟨.tru, rfl, rfl⟩
  refine sat_bind key fun r hr => ?_
  obtain ⟨v, hv, rfl⟩ := hr
  exact Or.inr ⟨v, hv, rfl, Or.inl rfl⟩

theorem valueArm_addsLit {addFn : AddFn F} {ins : Instruction} (ha : ValueArm pn addFn ins) : AddsLit addFn ins pn := by
  intro d
  cases ha with
  | value => exact Or.inl ⟨rfl, rfl⟩
  | terminator => exact Or.inl ⟨rfl, rfl⟩
  | identifier => exact Or.inr ⟨.sym _, rfl, rfl, Or.inr ⟨rfl, _, rfl⟩⟩
  | property => exact Or.inr ⟨.sym _, rfl, rfl, Or.inl rfl⟩

end arms

theorem handleParseNode_plan (pf : List Char → Option F) (ctx : Ctx F) (crj ni : Nat) (pn : ParseNode) :
    Planned pf ctx crj ni pn (handleParseNode pf ctx crj ni pn) := by
  have plain1 : ∀ q, q ∈ prefixOps ++ suffixOps → oolR q.1 = false ∧ (q.1 ≠ .elseJump ∧ q.1 ≠ .group ∧ q.1 ≠ .nestedExpression) ∧
      q.1 ≠ .sideEffect ∧ ¬ (q.1 = .and ∨ q.1 = .or) ∧ opKind q.2 = .free := by decide
  have lay1 : (∀ q, q ∈ prefixOps → layout q.1 = .rn) ∧ (∀ q, q ∈ suffixOps → layout q.1 = .ln) := by decide
  have plain2 : ∀ q, q ∈ binaryOps → layout q.1 = (if q.2.2 then .rln else .lrn) ∧ oolR q.1 = false ∧
      (q.1 ≠ .elseJump ∧ q.1 ≠ .group ∧ q.1 ≠ .nestedExpression) ∧ q.1 ≠ .sideEffect ∧ ¬ (q.1 = .and ∨ q.1 = .or) ∧
      opKind q.2.1 = .free := by decide
  have logical : ∀ q, q ∈ logicalOps → layout q.1 = .ln ∧ isLate q.1 = true ∧ isJumpIf q.1 = false ∧ q.1 ≠ .sideEffect ∧
      (q.1 = .and ∨ q.1 = .or) ∧ opKind q.2 = .jump := by decide
  refine handleParseNode_cases pf ctx crj ni pn ?_ ?_ ?_ ?_ ?_ ?_ ?_ ?_ ?_ ?_ ?_ ?_ ?_ ?_ ?_ ?_ ?_
  · intro addFn ha
    have k : layout pn.definition = .lnr ∧ oolR pn.definition = false ∧
        (pn.definition ≠ .elseJump ∧ pn.definition ≠ .group ∧ pn.definition ≠ .nestedExpression) ∧
        pn.definition ≠ .sideEffect ∧ ¬ (pn.definition = .and ∨ pn.definition = .or) := by
      cases ha <;> (rename_i hd; rw [hd]; decide)
    exact planned_value (litArm_addsLit ha) k.1 k.2.1 k.2.2.1 k.2.2.2.1 k.2.2.2.2
      (fun h => good_bind (h _ ha) fun _ _ => trivial) (fun h => satNP_bind (h _ ha) fun _ _ => trivial)
  · intro addFn ins ha
    have k : layout pn.definition = .lnr ∧ oolR pn.definition = false ∧
        (pn.definition ≠ .elseJump ∧ pn.definition ≠ .group ∧ pn.definition ≠ .nestedExpression) ∧
        pn.definition ≠ .sideEffect ∧ ¬ (pn.definition = .and ∨ pn.definition = .or) := by
      cases ha <;> (rename_i hd; rw [hd]; decide)
    exact planned_value (valueArm_addsLit ha) k.1 k.2.1 k.2.2.1 k.2.2.2.1 k.2.2.2.2
      (fun _ => by cases ha <;> exact trivial) (fun _ => by cases ha <;> exact trivial)
  · intro ins hi
    obtain ⟨hool, hne, hnse, hnl, hfree⟩ := plain1 _ (List.mem_append_left _ hi)
    exact handleUnaryPrefix_eq ins ▸ planned_visit fun node hnode =>
      unaryPlan_visit hnode _ (Or.inr ⟨lay1.1 _ hi, rfl⟩) hnse (fun c => inlineKid_new ⟨hnl, hne.1⟩ c)
        fun hst => op_visit hnode hst hool hne hfree (Or.inr rfl)
  · intro ins hi
    obtain ⟨hool, hne, hnse, hnl, hfree⟩ := plain1 _ (List.mem_append_right _ hi)
    exact handleUnarySuffix_eq ins ▸ planned_visit fun node hnode =>
      unaryPlan_visit hnode _ (Or.inl ⟨lay1.2 _ hi, rfl⟩) hnse (fun c => inlineKid_new ⟨hnl, hne.1⟩ c)
        fun hst => op_visit hnode hst hool hne hfree (Or.inr rfl)
  · intro ins lr hi
    obtain ⟨hk, hool, hne, hnse, hnl, hfree⟩ := plain2 _ hi
    dsimp only at hk hfree
    refine handleBinaryOperationWithPush_eq ins lr ▸ planned_visit fun node hnode =>
      pairPlan_visit (evs := []) hnode (.none hnse) _ _ ?_ (Or.inr rfl) (fun r l => ?_)
        (fun c => inlineKid_new ⟨hnl, hne.1⟩ c) fun hst => op_visit hnode hst hool hne hfree (Or.inr rfl)
    · cases lr
      · exact Or.inl hk
      · exact Or.inr (Or.inl hk)
    · rw [hk]; cases lr <;> rfl
  · intro hdef
    exact handleList_eq ▸ planned_visit fun node hnode => listPlan_visit hnode (hdef.symm.elim Or.inl Or.inr)
  · intro ins hi
    obtain ⟨hk, hlate, hnj, hnse, hlog, hjump⟩ := logical _ hi
    refine handleLogicalBinary_eq ins ▸ planned_visit fun node hnode =>
      unaryPlan_visit hnode _ (Or.inl ⟨hk, rfl⟩) hnse (fun c => ⟨rfl, rfl, rfl, rfl, rfl, rfl, ?_⟩) fun hst =>
        branchPlan_visit hnode hst hlate (fun h => by rw [hnj] at h; cases h) hjump (fun _ he => absurd he List.not_mem_nil)
          (fun e he => by rw [List.mem_singleton.1 he]; rfl) _
    rw [kidParent, if_pos hlog]; rfl
  · intro hdef
    exact handleGroup_eq ▸ planned_of_good (groupPlan_visit hdef)
  · intro hdef
    exact handleSideEffect_eq ▸ planned_visit fun node hnode => sideEffectPlan_visit hnode hdef
  · intro hdef
    exact handleNestedExpression_eq crj ▸ planned_of_good (x := .ok _) (nestedPlan_visit hdef)
  · intro ins hi
    exact handleJumpIf_eq ins ▸ planned_visit fun node hnode => jumpIfPlan_visit hnode hi
  · intro hdef
    exact handleElseJump_eq ▸ planned_visit fun node hnode => elseJumpPlan_visit hnode hdef
  · intro hdef
    have k : layout pn.definition = .rn ∧ oolR pn.definition = false ∧
        (pn.definition ≠ .elseJump ∧ pn.definition ≠ .group ∧ pn.definition ≠ .nestedExpression) ∧
        pn.definition ≠ .sideEffect ∧ ¬ (pn.definition = .and ∨ pn.definition = .or) := by rw [hdef]; decide
    exact handleReapply_eq ▸ planned_visit fun node hnode =>
      unaryPlan_visit hnode _ (Or.inr ⟨k.1, rfl⟩) k.2.2.2.1 (fun c => inlineKid_new ⟨k.2.2.2.2, k.2.2.1.1⟩ c)
        fun hst => Visit.emit hnode hst k.2.1 k.2.2.1 .reapply
  · intro hdef
    have k : layout pn.definition = .lnr ∧ oolR pn.definition = false ∧
        (pn.definition ≠ .elseJump ∧ pn.definition ≠ .group ∧ pn.definition ≠ .nestedExpression) ∧
        pn.definition ≠ .sideEffect ∧ ¬ (pn.definition = .and ∨ pn.definition = .or) := by
      rcases hdef with e | e <;> rw [e] <;> decide
    exact handleSubexpression_eq ▸ planned_visit fun node hnode =>
      pairPlan_visit (evs := []) hnode (.none k.2.2.2.1) _ _ (Or.inr (Or.inr k.1)) (Or.inl rfl) (fun _ _ => by rw [k.1]; rfl)
        (fun c => inlineKid_new ⟨k.2.2.2.2, k.2.2.1.1⟩ c) fun hst => op_visit hnode hst k.2.1 k.2.2.1 rfl (Or.inl rfl)
  · intro child hc
    exact handleUnaryFixApply_eq child ▸ planned_visit fun node hnode => unaryFixApplyPlan_visit hnode hc
  · intro hdef
    have k : layout pn.definition = .lrn ∧ oolR pn.definition = false ∧
        (pn.definition ≠ .elseJump ∧ pn.definition ≠ .group ∧ pn.definition ≠ .nestedExpression) ∧
        pn.definition ≠ .sideEffect ∧ ¬ (pn.definition = .and ∨ pn.definition = .or) := by rw [hdef]; decide
    exact handleInfixApply_eq ▸ planned_visit fun node hnode =>
      pairPlan_visit hnode (.resolve (trimMatches '`' pn.lexToken.text) k.2.2.2.1) _ _ (Or.inl k.1) (Or.inl rfl)
        (fun _ _ => by rw [k.1]; rfl) (fun c => inlineKid_new ⟨k.2.2.2.2, k.2.2.1.1⟩ c)
        fun hst => Visit.emit hnode hst k.2.1 k.2.2.1 .infixApply
  · intro _
    exact planned_of_good (x := buildErr) good_buildErr

end Garnish.Lemmas.BuildPlan
