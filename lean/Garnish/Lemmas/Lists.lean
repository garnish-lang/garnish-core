/-
C16: the list code of the two stores (`Garnish.Store.Lists`) against the specification `Spec.lookup`, the first item keyed by the symbol.
Simple: `end_list` places the items by cyclic probing; the invariant `PlaceInv` shows that the probe always finds a slot, and the
look-up scan finds a keyed item whenever there is one. Basic: `end_list` sorts the association slots stably (`cellLe`, `sortStable`),
and `AddInv` describes the heap while `add_to_list` writes a list. The same Basic code is described a second time, at the cell level
of `optimize`, in Lemmas/OptimizeList (`assocOf`, `expCell`); no theorem relates the two descriptions.
-/
import Garnish.Lemmas.ListFacts
import Garnish.Store.Lists
namespace Garnish.Store.Lists
open Garnish

/-! ## specification -/

namespace Spec
/-- value of the first item that is a pair keyed by symbol `s`; `key a` = `(symbol, value)` of such an item -/
def lookup (key : Nat → Option (Nat × Nat)) (s : Nat) : List Nat → Option Nat
  | [] => none
  | a :: rest =>
    match keyMatch (key a) s with
    | some r => some r
    | none => lookup key s rest
end Spec

/-- the symbol keys among the items determine their values (holds in particular when the keyed items carry
pairwise distinct symbols; the same address may occur more than once) -/
def KeysFunctional (key : Nat → Option (Nat × Nat)) (items : List Nat) : Prop :=
  ∀ a b k r r', a ∈ items → b ∈ items → key a = some (k, r) → key b = some (k, r') → r = r'

/-- items at different positions carry different symbol keys -/
def KeysDistinct (key : Nat → Option (Nat × Nat)) (items : List Nat) : Prop :=
  items.Pairwise (fun a b => ∀ k r k' r', key a = some (k, r) → key b = some (k', r') → k ≠ k')

theorem keyMatch_some {kv : Option (Nat × Nat)} {s r : Nat} :
    keyMatch kv s = some r ↔ kv = some (s, r) := by
  unfold keyMatch
  cases kv with
  | none => simp
  | some p =>
    obtain ⟨v, r'⟩ := p
    by_cases h : v = s <;> simp [h]

theorem KeysDistinct.functional {key : Nat → Option (Nat × Nat)} {items : List Nat}
    (h : KeysDistinct key items) : KeysFunctional key items := by
  induction items with
  | nil => intro a b k r r' ha; simp at ha
  | cons x xs ih =>
    have hp := List.pairwise_cons.mp h
    intro a b k r r' ha hb hka hkb
    rcases List.mem_cons.mp ha with rfl | ha' <;> rcases List.mem_cons.mp hb with rfl | hb'
    · rw [hka] at hkb; cases hkb; rfl
    · exact absurd rfl (hp.1 b hb' k r k r' hka hkb)
    · exact absurd rfl (hp.1 a ha' k r' k r hkb hka)
    · exact ih hp.2 a b k r r' ha' hb' hka hkb

theorem Spec.lookup_eq_findSome (key : Nat → Option (Nat × Nat)) (s : Nat) :
    ∀ items, Spec.lookup key s items = items.findSome? (fun a => keyMatch (key a) s)
  | [] => rfl
  | a :: rest => by
    rw [Spec.lookup, List.findSome?_cons, Spec.lookup_eq_findSome key s rest]; cases keyMatch (key a) s <;> rfl

theorem Spec.lookup_none {key : Nat → Option (Nat × Nat)} {s : Nat} {items : List Nat} :
    Spec.lookup key s items = none ↔ ∀ a ∈ items, keyMatch (key a) s = none := by
  rw [Spec.lookup_eq_findSome, List.findSome?_eq_none_iff]

theorem Spec.lookup_some {key : Nat → Option (Nat × Nat)} {s r : Nat} {items : List Nat}
    (h : Spec.lookup key s items = some r) : ∃ a ∈ items, key a = some (s, r) := by
  rw [Spec.lookup_eq_findSome] at h
  obtain ⟨a, ha, hk⟩ := List.exists_of_findSome?_eq_some h
  exact ⟨a, ha, keyMatch_some.mp hk⟩

/-- under functional keys the specification does not depend on which keyed item is looked at -/
theorem Spec.lookup_of_mem {key : Nat → Option (Nat × Nat)} {s r a : Nat} {items : List Nat}
    (hf : KeysFunctional key items) (ha : a ∈ items) (hk : key a = some (s, r)) :
    Spec.lookup key s items = some r := by
  cases h : Spec.lookup key s items with
  | none =>
    have := (Spec.lookup_none.mp h) a ha
    rw [hk] at this
    simp [keyMatch] at this
  | some r' =>
    obtain ⟨b, hb, hkb⟩ := Spec.lookup_some h
    rw [hf b a s r' r hb ha hkb hk]

/-! ## Simple: cyclic probing -/

theorem nextIdx_lt {n i : Nat} (hn : 0 < n) : nextIdx n i < n := by
  unfold nextIdx; split <;> omega

/-- forward distance from slot `i` to slot `z` on the cycle of length `n` -/
def dist (n i z : Nat) : Nat := if i ≤ z then z - i else z + n - i

theorem dist_next {n i z : Nat} (hi : i < n) (hz : z < n) (hne : i ≠ z) :
    dist n (nextIdx n i) z + 1 = dist n i z := by
  unfold dist nextIdx
  split <;> split <;> split <;> omega

theorem dist_lt {n i z : Nat} (hz : z < n) : dist n i z < n := by
  unfold dist; split <;> omega

theorem probeEmpty_finds {o : Array Nat} {n z : Nat} (hsz : o.size = n) (hz : z < n) (hz0 : o[z]? = some 0) :
    ∀ rem i, i < n → dist n i z ≤ rem → ∃ j, probeEmpty o n rem i = .ok j ∧ j < n ∧ o[j]? = some 0 := by
  intro rem
  induction rem with
  | zero =>
    intro i hi hd
    have hiz : i = z := by
      unfold dist at hd; split at hd <;> omega
    subst hiz
    unfold probeEmpty
    rw [hz0]
    exact ⟨i, by simp, hi, hz0⟩
  | succ rem ih =>
    intro i hi hd
    unfold probeEmpty
    have hlt : i < o.size := by omega
    rw [Array.getElem?_eq_getElem hlt]
    by_cases hv : o[i] = 0
    · simp only [hv, if_true]
      exact ⟨i, rfl, hi, by rw [Array.getElem?_eq_getElem hlt, hv]⟩
    · simp only [hv, if_false]
      have hne : i ≠ z := by
        intro h; subst h
        rw [Array.getElem?_eq_getElem hlt] at hz0
        exact hv (Option.some.inj hz0)
      have := dist_next hi hz hne
      exact ih (nextIdx n i) (nextIdx_lt (by omega)) (by omega)

/-- invariant of the placement loop after the items `placed` have been handled -/
structure PlaceInv (n : Nat) (o : Array Nat) (placed : List Nat) : Prop where
  size : o.size = n
  sound : ∀ (j v : Nat), o[j]? = some v → v ≠ 0 → v ∈ placed
  complete : ∀ (a : Nat), a ∈ placed → a ≠ 0 → ∃ j : Nat, o[j]? = some a
  room : o.count 0 + placed.length = n + placed.count 0

theorem PlaceInv.init (n : Nat) : PlaceInv n (Array.replicate n 0) [] where
  size := by simp
  sound := by
    intro j v h hv
    rw [Array.getElem?_replicate] at h
    split at h <;> simp_all
  complete := by intro a ha; simp at ha
  room := by simp

/-- `end_list`'s placement never reports "Could not place associative value", never indexes out of bounds, and
keeps every non-zero address exactly as a set: the `count > len` guard is dead code. -/
theorem placeAll_ok {n : Nat} : ∀ (rest : List Nat) (o : Array Nat) (placed : List Nat),
    PlaceInv n o placed → placed.length + rest.length = n →
    ∃ o', placeAll n rest o = .ok o' ∧ PlaceInv n o' (placed ++ rest) := by
  intro rest
  induction rest with
  | nil =>
    intro o placed inv _
    exact ⟨o, rfl, by simpa using inv⟩
  | cons item rest ih =>
    intro o placed inv hlen
    simp only [List.length_cons] at hlen
    have hn : 0 < n := by omega
    -- there is an empty slot
    have hroom : 0 < o.count 0 := by have := inv.room; omega
    obtain ⟨z, hz⟩ := Array.mem_iff_getElem?.mp (Array.count_pos_iff.mp hroom)
    have hzn : z < n := by
      have : z < o.size := by
        by_cases h : z < o.size
        · exact h
        · rw [Array.getElem?_eq_none (by omega)] at hz; cases hz
      rw [inv.size] at this; exact this
    have hi : item % n < n := Nat.mod_lt _ hn
    obtain ⟨j, hj, hjn, hj0⟩ := probeEmpty_finds inv.size hzn hz n (item % n) hi (Nat.le_of_lt (dist_lt hzn))
    have hjs : j < o.size := by rw [inv.size]; exact hjn
    have hoj : o[j] = 0 := by
      rw [Array.getElem?_eq_getElem hjs] at hj0; exact Option.some.inj hj0
    have inv' : PlaceInv n (o.set j item hjs) (placed ++ [item]) := {
      size := by rw [Array.size_set]; exact inv.size
      sound := by
        intro i v h hv
        rw [Array.getElem?_set] at h
        split at h
        · cases h; simp
        · exact List.mem_append_left _ (inv.sound i v h hv)
      complete := by
        intro a ha ha0
        rcases List.mem_append.mp ha with h | h
        · obtain ⟨i, hi'⟩ := inv.complete a h ha0
          refine ⟨i, ?_⟩
          rw [Array.getElem?_set]
          split
          · rename_i hji
            subst hji
            rw [hj0] at hi'
            exact absurd (Option.some.inj hi').symm ha0
          · exact hi'
        · simp at h; subst h
          exact ⟨j, by rw [Array.getElem?_set]; simp⟩
      room := by
        rw [Array.count_set hjs, hoj]
        have := inv.room
        simp only [List.length_append, List.length_cons, List.length_nil, List.count_append,
          List.count_cons, List.count_nil]
        simp only [beq_self_eq_true, if_true, beq_iff_eq]
        split <;> omega }
    unfold placeAll
    rw [hj]
    simp only [hjs, dite_true]
    obtain ⟨o', ho', hinv'⟩ := ih (o.set j item hjs) (placed ++ [item]) inv' (by simp; omega)
    exact ⟨o', ho', by simpa using hinv'⟩

/-- at the end of the loop every slot holds an item: a slot is `0` only if address 0 is itself an item
(an item at address 0 never consumes a slot) -/
theorem PlaceInv.slot_mem {n : Nat} {o : Array Nat} {items : List Nat} (inv : PlaceInv n o items)
    (hlen : items.length = n) (j v : Nat) (h : o[j]? = some v) : v ∈ items := by
  by_cases hv : v = 0
  · subst hv
    have hpos : 0 < o.count 0 := Array.count_pos_iff.mpr (Array.mem_iff_getElem?.mpr ⟨j, h⟩)
    have := inv.room
    exact List.count_pos_iff.mp (by omega)
  · exact inv.sound j v h hv

theorem endListSimple_ok (items : List Nat) :
    ∃ o, endListSimple items = .ok (items, o) ∧ PlaceInv items.length o items := by
  obtain ⟨o, ho, hinv⟩ := placeAll_ok items (Array.replicate items.length 0) [] (PlaceInv.init _) (by simp)
  refine ⟨o, ?_, by simpa using hinv⟩
  unfold endListSimple
  rw [ho]

section lookup
variable {view : SView} {key : Nat → Option (Nat × Nat)} {assoc : Array Nat} {s n : Nat}

theorem lookupLoop_absent (hsz : assoc.size = n)
    (hk : ∀ (j a : Nat), assoc[j]? = some a → keyedValue view a = .ok (key a))
    (hno : ∀ (j a : Nat), assoc[j]? = some a → keyMatch (key a) s = none) :
    ∀ rem i, i < n → lookupLoop view assoc s n rem i = .ok none := by
  intro rem
  induction rem with
  | zero =>
    intro i hi
    unfold lookupLoop
    have hlt : i < assoc.size := by omega
    have h1 := Array.getElem?_eq_getElem hlt
    rw [h1]
    simp only [hk i _ h1, hno i _ h1]
  | succ rem ih =>
    intro i hi
    unfold lookupLoop
    have hlt : i < assoc.size := by omega
    have h1 := Array.getElem?_eq_getElem hlt
    rw [h1]
    simp only [hk i _ h1, hno i _ h1]
    exact ih _ (nextIdx_lt (by omega))

/-- a slot `z` holds an item keyed by `s` with value `r`, and every slot keyed by `s` has that value:
the scan returns `r` as soon as the budget reaches `z` -/
theorem lookupLoop_present {z r : Nat} (hsz : assoc.size = n)
    (hk : ∀ (j a : Nat), assoc[j]? = some a → keyedValue view a = .ok (key a))
    (hz : z < n) (hzr : ∃ a, assoc[z]? = some a ∧ keyMatch (key a) s = some r)
    (hall : ∀ (j a r' : Nat), assoc[j]? = some a → keyMatch (key a) s = some r' → r' = r) :
    ∀ rem i, i < n → dist n i z ≤ rem → lookupLoop view assoc s n rem i = .ok (some r) := by
  intro rem
  induction rem with
  | zero =>
    intro i hi hd
    have hiz : i = z := by
      unfold dist at hd; split at hd <;> omega
    subst hiz
    obtain ⟨a, ha, hm⟩ := hzr
    unfold lookupLoop
    rw [ha]
    simp only [hk i a ha, hm]
  | succ rem ih =>
    intro i hi hd
    unfold lookupLoop
    have hlt : i < assoc.size := by omega
    have h1 := Array.getElem?_eq_getElem hlt
    rw [h1]
    simp only [hk i _ h1]
    cases hm : keyMatch (key assoc[i]) s with
    | some r' =>
      simp only []
      rw [hall i _ r' h1 hm]
    | none =>
      simp only []
      have hne : i ≠ z := by
        intro h; subst h
        obtain ⟨a, ha, hma⟩ := hzr
        rw [h1] at ha; cases ha
        rw [hm] at hma; cases hma
      have := dist_next hi hz hne
      exact ih _ (nextIdx_lt (by omega)) (by omega)

end lookup

/-! ## Basic: the stable sort of the association slots -/

/-- `a` may stand in front of `b` in the sorted slots -/
def cellLe (a b : BCell) : Prop := cmpCell a b ≠ .gt

theorem cmpCell_gt_swap {a b : BCell} (h : cmpCell a b = .gt) : cmpCell b a = .lt := by
  cases a <;> cases b <;> simp_all [cmpCell]
  rename_i s1 _ s2 _
  rw [Nat.compare_eq_gt] at h
  rw [Nat.compare_eq_lt]; exact h

theorem cellLe_trans {a b c : BCell} (h1 : cellLe a b) (h2 : cellLe b c) : cellLe a c := by
  unfold cellLe at *
  -- only a keyed cell can have a keyed cell behind it
  cases c with
  | assoc s3 _ =>
    cases b with
    | assoc s2 _ =>
      cases a with
      | assoc s1 _ =>
        have h1' : ¬ s2 < s1 := mt Nat.compare_eq_gt.mpr h1
        have h2' : ¬ s3 < s2 := mt Nat.compare_eq_gt.mpr h2
        exact mt Nat.compare_eq_gt.mp (by omega)
      | _ => exact absurd rfl h1
    | _ => exact absurd rfl h2
  | _ => cases a <;> exact nofun

-- `Store.insertStable_perm` / `sortStable_perm` (Lemmas/Heap) are the same two facts for the sort of the six-block heap's `Cell`
theorem insertStable_perm (x : BCell) (l : List BCell) : (insertStable x l).Perm (x :: l) := by
  induction l with
  | nil => exact List.Perm.refl _
  | cons y ys ih =>
    unfold insertStable
    split
    · exact (List.Perm.cons y ih).trans (List.Perm.swap x y ys)
    · exact List.Perm.refl _

theorem sortStable_perm (l : List BCell) : (sortStable l).Perm l := by
  induction l with
  | nil => exact List.Perm.refl _
  | cons x xs ih =>
    unfold sortStable
    exact (insertStable_perm x _).trans (List.Perm.cons x ih)

theorem insertStable_sorted (x : BCell) (l : List BCell) (h : l.Pairwise cellLe) :
    (insertStable x l).Pairwise cellLe := by
  induction l with
  | nil => simp [insertStable]
  | cons y ys ih =>
    have hp := List.pairwise_cons.mp h
    unfold insertStable
    split
    · rename_i hgt
      refine List.pairwise_cons.mpr ⟨?_, ih hp.2⟩
      intro z hz
      rcases List.mem_cons.mp ((insertStable_perm x ys).mem_iff.mp hz) with rfl | hz'
      · unfold cellLe; rw [cmpCell_gt_swap hgt]; simp
      · exact hp.1 z hz'
    · rename_i hngt
      refine List.pairwise_cons.mpr ⟨?_, h⟩
      intro z hz
      rcases List.mem_cons.mp hz with rfl | hz'
      · exact hngt
      · exact cellLe_trans hngt (hp.1 z hz')

theorem sortStable_sorted (l : List BCell) : (sortStable l).Pairwise cellLe := by
  induction l with
  | nil => simp [sortStable]
  | cons x xs ih => unfold sortStable; exact insertStable_sorted x _ ih

/-! ## Basic: the heap while a list is being built -/

/-- `(symbol, value)` of an item as `add_to_list` reads it from the heap -/
def keyOfB (h : BHeap) (a : Nat) : Option (Nat × Nat) :=
  match h[a]? with
  | some (.pair l r) =>
    match h[l]? with
    | some (.sym s) => some (s, r)
    | _ => none
  | _ => none

def slotOf (h : BHeap) (a : Nat) : BCell :=
  match keyOfB h a with
  | some (s, r) => .assoc s r
  | none => .empty

theorem slotOf_pair_sym {h : BHeap} {a l r s : Nat} (ha : h[a]? = some (.pair l r)) (hl : h[l]? = some (.sym s)) :
    slotOf h a = .assoc s r := by
  simp only [slotOf, keyOfB, ha, hl]

theorem slotOf_not_pair {h : BHeap} {a : Nat} {c : BCell} (ha : h[a]? = some c) (hc : ∀ l r, c ≠ .pair l r) :
    slotOf h a = .empty := by
  unfold slotOf keyOfB
  rw [ha]
  cases c <;> first | rfl | exact absurd rfl (hc _ _)

theorem slotOf_not_sym {h : BHeap} {a l r : Nat} {c : BCell} (ha : h[a]? = some (.pair l r)) (hl : h[l]? = some c)
    (hc : ∀ s, c ≠ .sym s) : slotOf h a = .empty := by
  simp only [slotOf, keyOfB, ha, hl]
  cases c <;> first | rfl | exact absurd rfl (hc _)

structure AddInv (h : BHeap) (n : Nat) (done : List Nat) (g : BHeap) : Prop where
  size : g.size = h.size + 1 + 2 * n
  old : ∀ i, i < h.size → g[i]? = h[i]?
  hdr : g[h.size]? = some (.uninitList n done.length)
  itm : ∀ (i a : Nat), done[i]? = some a → g[h.size + 1 + i]? = some (.listItem a)
  slt : ∀ (i a : Nat), done[i]? = some a → g[h.size + 1 + n + i]? = some (slotOf h a)
  rest : ∀ i, done.length ≤ i → i < n → g[h.size + 1 + n + i]? = some .empty

theorem addToList_step {h g : BHeap} {n : Nat} {done : List Nat} {a : Nat}
    (inv : AddInv h n done g) (hc : done.length < n) (ha : a < h.size)
    (hl : ∀ l r, h[a]? = some (.pair l r) → l < h.size) :
    ∃ g', addToList g h.size a = .ok g' ∧ g'.size = g.size ∧
      ∀ i, g'[i]? = if i = h.size then some (.uninitList n (done.length + 1))
                    else if i = h.size + 1 + done.length then some (.listItem a)
                    else if i = h.size + 1 + n + done.length then some (slotOf h a)
                    else g[i]? := by
  have hsz := inv.size
  have hempty := inv.rest done.length (Nat.le_refl _) hc
  -- the header and the item cell are written first
  generalize hh2 : ((g.setIfInBounds h.size (BCell.uninitList n (done.length + 1))).setIfInBounds
      (h.size + 1 + done.length) (BCell.listItem a)) = h2
  have h2sz : h2.size = g.size := by subst hh2; simp
  have h2get : ∀ i, h2[i]? = if i = h.size then some (BCell.uninitList n (done.length + 1))
      else if i = h.size + 1 + done.length then some (BCell.listItem a) else g[i]? := by
    intro i
    subst hh2
    rw [getElem?_setIfInBounds_lt _ _ (by simp; omega), getElem?_setIfInBounds_lt _ _ (by omega)]
    by_cases e : i = h.size
    · rw [if_neg (by omega), if_pos e.symm, if_pos e]
    · rw [if_neg (Ne.symm e), if_neg e]
      by_cases e2 : i = h.size + 1 + done.length
      · rw [if_pos e2.symm, if_pos e2]
      · rw [if_neg (Ne.symm e2), if_neg e2]
  have hlow : ∀ i, i < h.size → h2[i]? = h[i]? := fun i hi => by
    rw [h2get, if_neg (by omega), if_neg (by omega)]; exact inv.old i hi
  -- the slot is empty unless the third write happens
  have fin2 : slotOf h a = .empty → ∀ i, h2[i]? = if i = h.size then some (BCell.uninitList n (done.length + 1))
      else if i = h.size + 1 + done.length then some (BCell.listItem a)
      else if i = h.size + 1 + n + done.length then some (slotOf h a) else g[i]? := by
    intro hs i
    rw [h2get, hs]
    by_cases e : i = h.size + 1 + n + done.length
    · rw [if_neg (by omega), if_neg (by omega), if_neg (by omega), if_neg (by omega), if_pos e, e, hempty]
    · rw [if_neg e]
  unfold addToList
  rw [inv.hdr]
  simp only [show ¬ (done.length ≥ n) by omega, if_false]
  obtain ⟨c0, hc0⟩ : ∃ c, (g.setIfInBounds h.size (BCell.uninitList n (done.length + 1)))[h.size + 1 + done.length]? = some c :=
    ⟨_, Array.getElem?_eq_getElem (by simp; omega)⟩
  rw [hc0]
  simp only [hh2, hlow a ha]
  split
  · rename_i e; rw [Array.getElem?_eq_getElem ha] at e; cases e
  · rename_i l r e
    rw [hlow l (hl l r e)]
    split
    · rename_i e'; rw [Array.getElem?_eq_getElem (hl l r e)] at e'; cases e'
    · rename_i s e'
      have hp : h2[h.size + 1 + done.length + n]? = some BCell.empty := by
        rw [h2get, if_neg (by omega), if_neg (by omega), ← hempty]; congr 1; omega
      rw [hp]
      refine ⟨_, rfl, by simp [h2sz], fun i => ?_⟩
      rw [getElem?_setIfInBounds_lt _ _ (by omega), h2get, slotOf_pair_sym e e']
      by_cases e3 : i = h.size + 1 + n + done.length
      · rw [if_pos (by omega), if_neg (by omega), if_neg (by omega), if_pos e3]
      · rw [if_neg (by omega), if_neg e3]
    · exact ⟨h2, rfl, h2sz, fin2 (slotOf_not_sym e ‹_› ‹_›)⟩
  · exact ⟨h2, rfl, h2sz, fin2 (slotOf_not_pair ‹_› ‹_›)⟩
theorem startList_inv (h : BHeap) (n : Nat) : AddInv h n [] (startList h n).1 where
  size := by simp [startList]
  old := by
    intro i hi
    simp only [startList]
    rw [Array.getElem?_append, if_pos (by simp; omega), Array.getElem?_push, if_neg (by omega)]
  hdr := by
    simp only [startList]
    rw [Array.getElem?_append, if_pos (by simp), Array.getElem?_push, if_pos rfl]
    rfl
  itm := by intro i a h'; simp at h'
  slt := by intro i a h'; simp at h'
  rest := by
    intro i _ hi
    simp only [startList]
    rw [Array.getElem?_append, if_neg (by simp; omega), Array.getElem?_replicate, if_pos (by simp; omega)]

/-- items are earlier cells, and so is the left of an item that is a pair -/
def ReadableB (h : BHeap) (items : List Nat) : Prop :=
  ∀ a ∈ items, a < h.size ∧ ∀ l r, h[a]? = some (.pair l r) → l < h.size

theorem getElem?_concat_some {α} {l : List α} {a b : α} {i : Nat} (h : (l ++ [a])[i]? = some b) :
    (i < l.length ∧ l[i]? = some b) ∨ (i = l.length ∧ b = a) := by
  rcases Nat.lt_trichotomy i l.length with hi | hi | hi
  · exact .inl ⟨hi, by rwa [List.getElem?_append_left hi] at h⟩
  · subst hi; simp at h; exact .inr ⟨rfl, h.symm⟩
  · rw [List.getElem?_eq_none (by simp; omega)] at h; cases h

theorem addAll_inv {h : BHeap} {n : Nat} : ∀ (rest done : List Nat) (g : BHeap), AddInv h n done g →
    done.length + rest.length = n → ReadableB h rest →
    ∃ g', addAll h.size rest g = .ok g' ∧ AddInv h n (done ++ rest) g' := by
  intro rest
  induction rest with
  | nil => intro done g inv _ _; exact ⟨g, rfl, by simpa using inv⟩
  | cons a rest ih =>
    intro done g inv hlen hread
    simp only [List.length_cons] at hlen
    have hra := hread a List.mem_cons_self
    obtain ⟨g1, hg1, hsz1, hget⟩ := addToList_step inv (by omega) hra.1 hra.2
    have keep : ∀ i, i ≠ h.size → i ≠ h.size + 1 + done.length → i ≠ h.size + 1 + n + done.length →
        g1[i]? = g[i]? := fun i e1 e2 e3 => by rw [hget, if_neg e1, if_neg e2, if_neg e3]
    have inv1 : AddInv h n (done ++ [a]) g1 := {
      size := by rw [hsz1]; exact inv.size
      old := fun i hi => (keep i (by omega) (by omega) (by omega)).trans (inv.old i hi)
      hdr := by rw [hget, if_pos rfl]; simp
      itm := by
        intro i b hb
        rcases getElem?_concat_some hb with ⟨hi, hb⟩ | ⟨rfl, rfl⟩
        · exact (keep _ (by omega) (by omega) (by omega)).trans (inv.itm i b hb)
        · rw [hget, if_neg (by omega), if_pos rfl]
      slt := by
        intro i b hb
        rcases getElem?_concat_some hb with ⟨hi, hb⟩ | ⟨rfl, rfl⟩
        · exact (keep _ (by omega) (by omega) (by omega)).trans (inv.slt i b hb)
        · rw [hget, if_neg (by omega), if_neg (by omega), if_pos rfl]
      rest := by
        intro i hi hin
        simp only [List.length_append, List.length_cons, List.length_nil] at hi
        exact (keep _ (by omega) (by omega) (by omega)).trans (inv.rest i (by omega) hin) }
    obtain ⟨g', hg', inv'⟩ := ih (done ++ [a]) g1 inv1 (by simp; omega)
      (fun b hb => hread b (List.mem_cons_of_mem _ hb))
    refine ⟨g', ?_, by simpa using inv'⟩
    unfold addAll
    rw [hg1]
    exact hg'


end Garnish.Store.Lists
