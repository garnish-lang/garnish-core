/-
List construction cell by cell (`Store.buildList`: `start_list`, `add_to_list` for every item, `end_list` with its sorted
key table).  `expCell base items j p` is the cell expected at position `p` after `j` items; the lemmas named `_exp` say
that an operation takes the block from one such state to the next.  `buildList_spec`, `listBlock_cells`: the store
afterwards is the store before with the block `listBlockOf` appended (header, item slots, sorted key table).  From that:
`buildList_data` (`AppendedData`) and `buildList_wf`.
-/
import Garnish.Lemmas.OptimizeOps
namespace Garnish.BasicOpt
open Garnish

/-- the key-table slot `add_to_list` writes for an item: `AssociativeItem(sym, right)` when the item is a pair whose
left is a symbol, otherwise the slot stays `Empty` -/
def assocOf (cells : Array Cell) (a : Nat) : Cell :=
  match cells[a]? with
  | some (.pair l r) =>
    (match cells[l]? with
     | some (.symbol sym) => .associativeItem sym r
     | _ => .empty)
  | _ => .empty

/-- the cell expected at position `p` after `j` of the items have been added -/
def expCell (base : Array Cell) (items : List Nat) (j p : Nat) : Option Cell :=
  if p < base.size then base[p]? else
  let t := p - base.size
  if t = 0 then some (.uninitializedList items.length j)
  else if t ≤ items.length then
    some (if t - 1 < j then (match items[t - 1]? with | some a => .listItem a | none => .empty) else .empty)
  else if t ≤ 2 * items.length then
    some (if t - 1 - items.length < j then
      (match items[t - 1 - items.length]? with | some a => assocOf base a | none => .empty) else .empty)
  else none

theorem startList_spec {s s' : Store} {n li : Nat} (h : Store.startList s n = .ok (s', li)) :
    li = s.cells.size ∧ s'.cells = s.cells ++ (#[Cell.uninitializedList n 0] ++ (List.replicate (n * 2) Cell.empty).toArray) ∧
      SameFrame s s' := by
  simp only [Store.startList, Outcome.bind_eq_ok', Outcome.pure_eq_ok_iff, Prod.mk.injEq] at h
  obtain ⟨⟨s1, i⟩, hp, s2, hall, hs2, hi⟩ := h
  subst hs2; subst hi
  obtain ⟨hi, hc1, hf1⟩ := push_ok hp
  obtain ⟨hc2, hf2⟩ := pushAll_spec _ _ _ hall
  exact ⟨hi, by rw [hc2, hc1]; apply Array.ext'; simp, hf1.trans hf2⟩

theorem setCell_get {s s' : Store} {i : Nat} {c : Cell} (h : Store.setCell s i c = .ok s') :
    (∀ p, s'.cells[p]? = if p = i then some c else s.cells[p]?) ∧ s'.cells.size = s.cells.size ∧ SameFrame s s' := by
  obtain ⟨hi, hc, hf⟩ := setCell_cells h
  refine ⟨?_, by rw [hc]; simp, hf⟩
  intro p
  rw [hc, Array.getElem?_setIfInBounds]
  by_cases hp : p = i
  · subst hp; simp [hi]
  · have : ¬ i = p := fun h => hp h.symm
    simp [hp, this]

theorem expCell_base {base : Array Cell} {items : List Nat} {j p : Nat} (hp : p < base.size) :
    expCell base items j p = base[p]? := by simp [expCell, hp]

section
variable (base : Array Cell) (items : List Nat) (j : Nat)

theorem expCell_hdr : expCell base items j base.size = some (.uninitializedList items.length j) := by
  simp [expCell]

theorem expCell_item {t : Nat} (ht : t < items.length) :
    expCell base items j (base.size + 1 + t) = some (if t < j then .listItem items[t] else .empty) := by
  have e1 : ¬ base.size + 1 + t < base.size := by omega
  have e2 : base.size + 1 + t - base.size = t + 1 := by omega
  simp [expCell, e1, e2, Nat.succ_le_of_lt ht, ht]

theorem expCell_slot {t : Nat} (ht : t < items.length) :
    expCell base items j (base.size + 1 + items.length + t) =
      some (if t < j then assocOf base items[t] else .empty) := by
  have e1 : ¬ base.size + 1 + items.length + t < base.size := by omega
  have e2 : base.size + 1 + items.length + t - base.size = items.length + t + 1 := by omega
  have e3 : ¬ items.length + t + 1 ≤ items.length := by omega
  have e4 : items.length + t + 1 ≤ 2 * items.length := by omega
  have e5 : items.length + t - items.length = t := by omega
  simp [expCell, e1, e2, e3, e4, e5, ht]

theorem expCell_none {p : Nat} (hp : base.size + 1 + 2 * items.length ≤ p) : expCell base items j p = none := by
  have e1 : ¬ p < base.size := by omega
  have e2 : ¬ p - base.size = 0 := by omega
  have e3 : ¬ p - base.size ≤ items.length := by omega
  have e4 : ¬ p - base.size ≤ 2 * items.length := by omega
  simp [expCell, e1, e2, e3, e4]

/-- the five regions of the block under construction -/
theorem expCell_pos (p : Nat) : p < base.size ∨ p = base.size ∨ (∃ t, t < items.length ∧ p = base.size + 1 + t) ∨
    (∃ t, t < items.length ∧ p = base.size + 1 + items.length + t) ∨ base.size + 1 + 2 * items.length ≤ p := by
  by_cases h1 : p < base.size
  · exact Or.inl h1
  by_cases h2 : p = base.size
  · exact Or.inr (Or.inl h2)
  by_cases h3 : p < base.size + 1 + items.length
  · exact Or.inr (Or.inr (Or.inl ⟨p - (base.size + 1), by omega, by omega⟩))
  by_cases h4 : p < base.size + 1 + 2 * items.length
  · exact Or.inr (Or.inr (Or.inr (Or.inl ⟨p - (base.size + 1 + items.length), by omega, by omega⟩)))
  · exact Or.inr (Or.inr (Or.inr (Or.inr (by omega))))

end

theorem ite_lt_succ {α : Type} {t j : Nat} (h : t ≠ j) (x y : α) :
    (if t < j + 1 then x else y) = if t < j then x else y := by
  by_cases h' : t < j
  · rw [if_pos h', if_pos (by omega)]
  · rw [if_neg h', if_neg (by omega)]

theorem startList_exp {s s' : Store} {items : List Nat} {li : Nat}
    (h : Store.startList s items.length = .ok (s', li)) : ∀ p, s'.cells[p]? = expCell s.cells items 0 p := by
  obtain ⟨_, hc, _⟩ := startList_spec h
  intro p
  have hnew : ∀ u, s'.cells[s.cells.size + u]? =
      (Cell.uninitializedList items.length 0 :: List.replicate (items.length * 2) Cell.empty)[u]? := by
    intro u; rw [hc, Array.getElem?_append_right (by omega), Nat.add_sub_cancel_left, ← Array.getElem?_toList]; simp
  rcases expCell_pos s.cells items p with h1 | rfl | ⟨t, ht, rfl⟩ | ⟨t, ht, rfl⟩ | h1
  · rw [expCell_base h1, hc, Array.getElem?_append_left h1]
  · rw [expCell_hdr]; exact hnew 0
  · rw [expCell_item _ _ _ ht, if_neg (Nat.not_lt_zero t), Nat.add_assoc, hnew, Nat.add_comm 1 t,
      List.getElem?_cons_succ, List.getElem?_replicate, if_pos (by omega)]
  · rw [expCell_slot _ _ _ ht, if_neg (Nat.not_lt_zero t), Nat.add_assoc, Nat.add_assoc, hnew,
      ← Nat.add_assoc, Nat.add_comm 1, Nat.add_assoc, Nat.add_comm 1, ← Nat.add_assoc,
      List.getElem?_cons_succ, List.getElem?_replicate, if_pos (by omega)]
  · rw [expCell_none _ _ _ h1, hc]
    exact Array.getElem?_eq_none (by simp; omega)

theorem expCell_not_symbol {base : Array Cell} {items : List Nat} {j p sym : Nat} (hp : base.size ≤ p) :
    expCell base items j p ≠ some (.symbol sym) := by
  intro h
  rcases expCell_pos base items p with h1 | rfl | ⟨t, ht, rfl⟩ | ⟨t, ht, rfl⟩ | h1
  · omega
  · rw [expCell_hdr] at h; cases h
  · rw [expCell_item _ _ _ ht] at h
    split at h <;> cases h
  · rw [expCell_slot _ _ _ ht] at h
    unfold assocOf at h
    split at h
    · split at h
      · split at h <;> cases h
      · cases h
    · cases h
  · rw [expCell_none _ _ _ h1] at h; cases h

theorem addToList_exp {base : Array Cell} {items : List Nat} {cur cur' : Store} {j a : Nat}
    (hinv : ∀ p, cur.cells[p]? = expCell base items j p) (hj : items[j]? = some a) (ha : a < base.size)
    (h : Store.addToList cur base.size a = .ok cur') :
    (∀ p, cur'.cells[p]? = expCell base items (j + 1) p) ∧ SameFrame cur cur' := by
  have hjn : j < items.length := by
    rcases Nat.lt_or_ge j items.length with h | h
    · exact h
    · rw [List.getElem?_eq_none h] at hj; cases hj
  have hja : items[j] = a := by rw [List.getElem?_eq_getElem hjn] at hj; exact Option.some.inj hj
  have hli : cur.cells[base.size]? = some (.uninitializedList items.length j) := by rw [hinv, expCell_hdr]
  simp only [Store.addToList, Outcome.bind_eq_ok'] at h
  obtain ⟨c0, hg0, h⟩ := h
  have := get_ok hg0
  rw [hli] at this
  simp only [Option.some.injEq] at this
  subst this
  simp only at h
  rw [if_neg (by omega)] at h
  simp only [Outcome.bind_eq_ok'] at h
  obtain ⟨c1, hs1, c2, hs2, citem, hgi, h⟩ := h
  obtain ⟨g1, _, f1⟩ := setCell_get hs1
  obtain ⟨g2, _, f2⟩ := setCell_get hs2
  have hc2 : ∀ p, c2.cells[p]? = if p = base.size + 1 + j then some (.listItem a)
      else if p = base.size then some (.uninitializedList items.length (j + 1)) else cur.cells[p]? := by
    intro p; rw [g2, g1]
  have hitem : base[a]? = some citem := by
    have := get_ok hgi
    rw [hc2, if_neg (by omega), if_neg (by omega), hinv, expCell_base ha] at this
    exact this
  -- the state before the optional key-table write, pointwise
  have hmid : ∀ p, p ≠ base.size + 1 + j + items.length → c2.cells[p]? = expCell base items (j + 1) p := by
    intro p hp
    rw [hc2, hinv]
    rcases expCell_pos base items p with h | rfl | ⟨t, ht, rfl⟩ | ⟨t, ht, rfl⟩ | h
    · rw [if_neg (by omega), if_neg (by omega), expCell_base h, expCell_base h]
    · rw [if_neg (by omega), if_pos rfl, expCell_hdr]
    · rw [expCell_item _ _ _ ht, expCell_item _ _ _ ht, if_neg (by omega : ¬ base.size + 1 + t = base.size)]
      by_cases htj : t = j
      · subst htj; rw [if_pos rfl, if_pos (Nat.lt_succ_self t), hja]
      · rw [if_neg (by omega), ite_lt_succ htj]
    · rw [if_neg (by omega), if_neg (by omega), expCell_slot _ _ _ ht, expCell_slot _ _ _ ht,
        ite_lt_succ (by omega)]
    · rw [if_neg (by omega), if_neg (by omega), expCell_none _ _ _ h, expCell_none _ _ _ h]
  have eslot : base.size + 1 + j + items.length = base.size + 1 + items.length + j := by omega
  have hslot_old : c2.cells[base.size + 1 + j + items.length]? = some .empty := by
    rw [hc2, if_neg (by omega), if_neg (by omega), hinv, eslot, expCell_slot _ _ _ hjn, if_neg (Nat.lt_irrefl j)]
  have hslot_new : expCell base items (j + 1) (base.size + 1 + j + items.length) = some (assocOf base a) := by
    rw [eslot, expCell_slot _ _ _ hjn, if_pos (Nat.lt_succ_self j), hja]
  have noWrite : assocOf base a = .empty → c2 = cur' →
      (∀ p, cur'.cells[p]? = expCell base items (j + 1) p) ∧ SameFrame cur cur' := by
    intro hae hcc
    subst hcc
    refine ⟨fun p => ?_, f1.trans f2⟩
    by_cases hp : p = base.size + 1 + j + items.length
    · subst hp; rw [hslot_old, hslot_new, hae]
    · exact hmid p hp
  split at h
  case h_2 hnp =>
    refine noWrite ?_ (Outcome.pure_eq_ok_iff.mp h)
    unfold assocOf
    rw [hitem]
    split
    · rename_i heq; cases heq; exact (hnp _ _ rfl).elim
    · rfl
  rename_i l r
  -- the item is a pair: the cell `cl` at its left is read from `base`, or it is no symbol
  simp only [Outcome.bind_eq_ok'] at h
  obtain ⟨cl, hgl, h⟩ := h
  have hcl := get_ok hgl
  have hleft : ∀ sym, cl = .symbol sym ↔ base[l]? = some (.symbol sym) := by
    intro sym
    by_cases hl : l < base.size
    · rw [hc2, if_neg (by omega), if_neg (by omega), hinv, expCell_base hl] at hcl
      rw [hcl, Option.some.injEq]
    · have hnb : base[l]? ≠ some (.symbol sym) := by rw [Array.getElem?_eq_none (by omega)]; exact fun e => by cases e
      refine ⟨fun hcs => ?_, fun e => (hnb e).elim⟩
      subst hcs
      exfalso
      by_cases hl2 : l = base.size + 1 + j + items.length
      · subst hl2; rw [hslot_old] at hcl; cases hcl
      · rw [hmid l hl2] at hcl
        exact expCell_not_symbol (by omega) hcl
  split at h
  case h_2 hns =>
    refine noWrite ?_ (Outcome.pure_eq_ok_iff.mp h)
    unfold assocOf
    rw [hitem]
    simp only
    split
    · rename_i sym heq; exact (hns sym ((hleft sym).mpr heq)).elim
    · rfl
  -- left of the pair is a symbol: the key-table slot is written
  rename_i sym
  have hbl := (hleft sym).mp rfl
  obtain ⟨g3, _, f3⟩ := setCell_get h
  refine ⟨fun p => ?_, (f1.trans f2).trans f3⟩
  rw [g3]
  by_cases hp : p = base.size + 1 + j + items.length
  · subst hp
    simp only [if_true]
    rw [hslot_new]
    simp [assocOf, hitem, hbl]
  · simp only [hp, if_false]
    exact hmid p hp

theorem addAll_exp {base : Array Cell} {items : List Nat} : ∀ (rest : List Nat) (j : Nat) (cur cur' : Store),
    items.drop j = rest → (∀ p, cur.cells[p]? = expCell base items j p) → (∀ a ∈ rest, a < base.size) →
    rest.foldlM (fun s a => Store.addToList s base.size a) cur = .ok cur' →
    (∀ p, cur'.cells[p]? = expCell base items (j + rest.length) p) ∧ SameFrame cur cur'
  | [], j, cur, cur', _, hinv, _, h => by
    simp only [List.foldlM_nil, Outcome.pure_eq_ok_iff] at h
    subst h
    exact ⟨by simpa using hinv, SameFrame.rfl' _⟩
  | a :: rest, j, cur, cur', hdrop, hinv, hlt, h => by
    simp only [List.foldlM_cons, Outcome.bind_eq_ok'] at h
    obtain ⟨c1, h1, h2⟩ := h
    have hj : items[j]? = some a := by
      have := congrArg (fun l => l[0]?) hdrop
      simpa using this
    have hdrop' : items.drop (j + 1) = rest := by
      have := congrArg List.tail hdrop
      simpa using this
    obtain ⟨g1, f1⟩ := addToList_exp hinv hj (hlt a (by simp)) h1
    obtain ⟨g2, f2⟩ := addAll_exp rest (j + 1) c1 cur' hdrop' g1 (fun x hx => hlt x (by simp [hx])) h2
    refine ⟨fun p => ?_, f1.trans f2⟩
    rw [g2 p]
    have : j + 1 + rest.length = j + (a :: rest).length := by simp; omega
    rw [this]

theorem setRange_get : ∀ (l : List Cell) (cells : Array Cell) (i p : Nat),
    (Store.setRange cells i l)[p]? =
      if i ≤ p ∧ p < i + l.length ∧ p < cells.size then l[p - i]? else cells[p]?
  | [], cells, i, p => by
    simp only [Store.setRange, List.length_nil, Nat.add_zero]
    rw [if_neg (by omega)]
  | c :: cs, cells, i, p => by
    simp only [Store.setRange]
    rw [setRange_get cs _ (i + 1) p]
    simp only [Array.size_setIfInBounds, List.length_cons, Array.getElem?_setIfInBounds]
    by_cases h1 : i + 1 ≤ p ∧ p < i + 1 + cs.length ∧ p < cells.size
    · rw [if_pos h1, if_pos (by omega)]
      have : p - i = (p - (i + 1)) + 1 := by omega
      rw [this, List.getElem?_cons_succ]
    · rw [if_neg h1]
      by_cases h2 : i = p
      · subst h2
        by_cases h3 : i < cells.size
        · simp [h3]
        · have : cells[i]? = none := Array.getElem?_eq_none (by omega)
          simp [h3, this]
      · simp only [h2, if_false]
        rw [if_neg (by omega)]

theorem setRange_size : ∀ (l : List Cell) (cells : Array Cell) (i : Nat), (Store.setRange cells i l).size = cells.size
  | [], _, _ => rfl
  | _ :: cs, cells, i => by simp only [Store.setRange]; rw [setRange_size cs]; simp

/-- the block `buildList` appends: header, items, sorted key table -/
def listBlockOf (base : Array Cell) (items : List Nat) : List Cell :=
  let slots := items.map (assocOf base)
  Cell.list items.length (slots.filter (fun c => c != .empty)).length ::
    (items.map Cell.listItem ++ slots.mergeSort Store.assocLe)

theorem buildList_spec {s s' : Store} {items : List Nat} {li : Nat} (hlt : ∀ a ∈ items, a < s.cells.size)
    (h : Store.buildList s items = .ok (s', li)) :
    li = s.cells.size ∧ s'.cells = s.cells ++ (listBlockOf s.cells items).toArray ∧ SameFrame s s' := by
  simp only [Store.buildList, Outcome.bind_eq_ok'] at h
  obtain ⟨⟨s1, li1⟩, hstart, s2, hfold, hend⟩ := h
  obtain ⟨hli, hc1, f1⟩ := startList_spec hstart
  subst hli
  have hinv0 := startList_exp hstart
  obtain ⟨hinv, f2⟩ := addAll_exp items 0 s1 s2 (by simp) hinv0 hlt hfold
  simp only [Nat.zero_add] at hinv
  have hsz2 : s2.cells.size = s.cells.size + 1 + 2 * items.length := by
    -- the first position without a cell, the last with one
    have hle : s2.cells.size ≤ s.cells.size + 1 + 2 * items.length := by
      rcases Nat.lt_or_ge (s.cells.size + 1 + 2 * items.length) s2.cells.size with h | h
      · have h1 := hinv (s.cells.size + 1 + 2 * items.length)
        rw [expCell_none _ _ _ (Nat.le_refl _), Array.getElem?_eq_getElem h] at h1; cases h1
      · exact h
    have hge : s.cells.size + 2 * items.length < s2.cells.size := by
      rcases Nat.lt_or_ge (s.cells.size + 2 * items.length) s2.cells.size with h | h
      · exact h
      · have h2 := hinv (s.cells.size + 2 * items.length)
        rw [Array.getElem?_eq_none h] at h2
        rcases Nat.eq_zero_or_pos items.length with hz | hz
        · rw [hz, Nat.mul_zero, Nat.add_zero, expCell_hdr] at h2; cases h2
        · have e : s.cells.size + 2 * items.length = s.cells.size + 1 + items.length + (items.length - 1) := by omega
          rw [e, expCell_slot _ _ _ (by omega)] at h2; cases h2
    omega
  simp only [Store.endList, Outcome.bind_eq_ok'] at hend
  obtain ⟨c0, hg0, hend⟩ := hend
  have hc0 := get_ok hg0
  rw [hinv, expCell_hdr] at hc0
  simp only [Option.some.injEq] at hc0
  subst hc0
  simp only at hend
  rw [if_neg (by omega)] at hend
  split at hend
  · simp at hend
  · simp only [Outcome.bind_eq_ok', Outcome.pure_eq_ok_iff, Prod.mk.injEq] at hend
    obtain ⟨s3, hset, hs', hli'⟩ := hend
    subst hs'; subst hli'
    obtain ⟨g3, _, f3⟩ := setCell_get hset
    -- the slots read by `end_list` are the key-table slots of the items
    have hslots : (List.range items.length).map (fun j => s2.cells.getD (s.cells.size + 1 + items.length + j) Cell.empty) =
        items.map (assocOf s.cells) := by
      apply List.ext_getElem?
      intro t
      simp only [List.getElem?_map, List.getElem?_range']
      by_cases ht : t < items.length
      · have hr : (List.range items.length)[t]? = some t := by simp [ht]
        rw [hr]
        simp only [Option.map_some]
        have hcell := hinv (s.cells.size + 1 + items.length + t)
        rw [expCell_slot _ _ _ ht, if_pos ht] at hcell
        rw [List.getElem?_eq_getElem ht, Option.map_some, Option.some.injEq, Array.getD_eq_getD_getElem?, hcell]
        rfl
      · have hr : (List.range items.length)[t]? = none := by simp; omega
        rw [hr, List.getElem?_eq_none (by omega)]
        rfl
    refine ⟨rfl, ?_, (f1.trans f2).trans f3⟩
    apply Array.ext_getElem?
    intro p
    rw [g3]
    simp only [setRange_get, hslots]
    unfold listBlockOf
    simp only
    by_cases hp0 : p < s.cells.size
    · rw [if_neg (by omega), if_neg (by omega), hinv, expCell_base hp0]
      simp [Array.getElem?_append, hp0]
    · rw [Array.getElem?_append_right (by omega)]
      simp only [List.getElem?_toArray]
      by_cases hp1 : p = s.cells.size
      · subst hp1; simp
      · rw [if_neg hp1]
        obtain ⟨t, ht⟩ : ∃ t, p - s.cells.size = t + 1 := ⟨p - s.cells.size - 1, by omega⟩
        rw [ht, List.getElem?_cons_succ]
        by_cases hp2 : t < items.length
        · rw [if_neg (by omega), hinv]
          rw [List.getElem?_append_left (by simpa using hp2)]
          have e : p = s.cells.size + 1 + t := by omega
          rw [e, expCell_item _ _ _ hp2, if_pos hp2]
          simp [hp2]
        · rw [List.getElem?_append_right (by simpa using Nat.le_of_not_lt hp2)]
          simp only [List.length_map]
          by_cases hp3 : t < 2 * items.length
          · rw [if_pos ⟨by omega, by simp [List.length_mergeSort]; omega, by omega⟩]
            congr 1
            omega
          · rw [if_neg (by simp [List.length_mergeSort]; omega), Array.getElem?_eq_none (by omega),
              List.getElem?_eq_none (by simp [List.length_mergeSort]; omega)]

/-- a key-table slot: an `AssociativeItem` or `Empty` -/
def isAE : Cell → Bool
  | .associativeItem _ _ => true
  | .empty => true
  | _ => false

theorem assocOf_isAE (base : Array Cell) (a : Nat) : isAE (assocOf base a) = true := by
  unfold assocOf
  split
  · split <;> rfl
  · rfl

/-- the symbol a key-table entry is sorted by; every other cell sorts after all entries -/
def assocKey : Cell → Option Nat
  | .associativeItem sym _ => some sym
  | _ => none

theorem assocLe_iff (a b : Cell) :
    Store.assocLe a b = true ↔ ∀ y, assocKey b = some y → ∃ x, assocKey a = some x ∧ x ≤ y := by
  unfold Store.assocLe
  split <;> simp [assocKey]

theorem assocLe_trans (a b c : Cell) (h1 : Store.assocLe a b = true) (h2 : Store.assocLe b c = true) :
    Store.assocLe a c = true := by
  rw [assocLe_iff] at *
  intro z hz
  obtain ⟨y, hy, hyz⟩ := h2 z hz
  obtain ⟨x, hx, hxy⟩ := h1 y hy
  exact ⟨x, hx, Nat.le_trans hxy hyz⟩

theorem assocLe_total (a b : Cell) : (Store.assocLe a b || Store.assocLe b a) = true := by
  rw [Bool.or_eq_true, assocLe_iff, assocLe_iff]
  cases ha : assocKey a with
  | none => exact .inr (by simp)
  | some x =>
    cases hb : assocKey b with
    | none => exact .inl (by simp)
    | some y => simpa using Nat.le_total x y

theorem sorted_prefix : ∀ (L : List Cell), (∀ c ∈ L, isAE c = true) → L.Pairwise (fun a b => Store.assocLe a b = true) →
    ∀ i, i < (L.filter (fun c => c != .empty)).length → ∃ sy d, L[i]? = some (.associativeItem sy d)
  | [], _, _, i, hi => by simp at hi
  | x :: L', hae, hp, i, hi => by
    have hx := hae x (by simp)
    rw [List.pairwise_cons] at hp
    cases x <;> simp [isAE] at hx
    · exfalso
      have hall : ∀ y ∈ L', y = Cell.empty := by
        intro y hy
        have h1 := hp.1 y hy
        have h2 := hae y (by simp [hy])
        cases y <;> simp [isAE] at h2 <;> simp [Store.assocLe] at h1
        rfl
      have : (L'.filter (fun c => c != Cell.empty)) = [] := by
        rw [List.filter_eq_nil_iff]
        intro y hy
        simp [hall y hy]
      simp [this] at hi
    · rename_i sy d
      cases i with
      | zero => exact ⟨sy, d, rfl⟩
      | succ i =>
        have := sorted_prefix L' (fun c hc => hae c (by simp [hc])) hp.2 i (by simpa using hi)
        simpa using this

theorem listItems_read {cells : Array Cell} : ∀ (items : List Nat) (a : Nat),
    (∀ t, t < items.length → cells[a + t]? = (items[t]?).map Cell.listItem) → listItems cells a items.length = some items
  | [], _, _ => rfl
  | x :: xs, a, h => by
    simp only [List.length_cons, listItems]
    have h0 := h 0 (by simp)
    simp only [Nat.add_zero, List.getElem?_cons_zero, Option.map_some] at h0
    rw [h0]
    simp only
    rw [listItems_read xs (a + 1) (fun t ht => by
      have := h (t + 1) (by simp; omega)
      have e : a + (t + 1) = a + 1 + t := by omega
      rw [e] at this
      simpa using this)]
    rfl

theorem assocItems_read {cells : Array Cell} {P : Nat → Prop} : ∀ (k a : Nat),
    (∀ t, t < k → ∃ sy d, cells[a + t]? = some (.associativeItem sy d) ∧ P d) →
    ∃ keys targets, assocItems cells a k = some (keys, targets) ∧ ∀ d ∈ targets, P d
  | 0, _, _ => ⟨[], [], rfl, by simp⟩
  | k + 1, a, h => by
    obtain ⟨sy, d, h0, hd⟩ := h 0 (by omega)
    rw [Nat.add_zero] at h0
    obtain ⟨keys, targets, hr, hall⟩ := assocItems_read k (a + 1) (fun t ht => by
      obtain ⟨sy', d', h1, h2⟩ := h (t + 1) (by omega)
      have e : a + (t + 1) = a + 1 + t := by omega
      rw [e] at h1
      exact ⟨sy', d', h1, h2⟩)
    refine ⟨.associativeItem sy 0 :: keys, d :: targets, ?_, ?_⟩
    · simp only [assocItems, h0, hr, Option.map_some]
    · intro x hx
      rcases List.mem_cons.mp hx with rfl | hx
      · exact hd
      · exact hall x hx

theorem listBlock_cells {A A' : Array Cell} {items : List Nat} (hcells : A' = A ++ (listBlockOf A items).toArray) :
    A'[A.size]? = some (.list items.length ((items.map (assocOf A)).filter (fun c => c != .empty)).length) ∧
    (∀ t, t < items.length → A'[A.size + 1 + t]? = (items[t]?).map Cell.listItem) ∧
    (∀ t, t < items.length →
      A'[A.size + 1 + items.length + t]? = ((items.map (assocOf A)).mergeSort Store.assocLe)[t]?) := by
  have hget : ∀ u, A'[A.size + u]? = (listBlockOf A items)[u]? := by
    intro u
    rw [hcells, Array.getElem?_append_right (by omega)]
    simp
  refine ⟨by simpa [listBlockOf] using hget 0, fun t ht => ?_, fun t ht => ?_⟩
  · have := hget (t + 1)
    rw [show A.size + (t + 1) = A.size + 1 + t by omega] at this
    rw [this]
    simp only [listBlockOf, List.getElem?_cons_succ]
    rw [List.getElem?_append_left (by simpa using ht)]
    simp
  · have := hget (items.length + t + 1)
    rw [show A.size + (items.length + t + 1) = A.size + 1 + items.length + t by omega] at this
    rw [this]
    simp only [listBlockOf, List.getElem?_cons_succ]
    rw [List.getElem?_append_right (by simp)]
    simp

theorem buildList_data {s s' : Store} {items : List Nat} {li : Nat} (hb : Base s)
    (hitems : ∀ a ∈ items, isNode s.cells a = true) (h : Store.buildList s items = .ok (s', li)) :
    AppendedData s s' ∧ li = s.cells.size ∧ isNode s'.cells li = true := by
  have hlt : ∀ a ∈ items, a < s.cells.size := fun a ha => node_lt (hitems a ha)
  obtain ⟨hli, hcells, hf⟩ := buildList_spec hlt h
  subst hli
  obtain ⟨hhdr, hitem, hkey⟩ := listBlock_cells hcells
  have hsize : s'.cells.size = s.cells.size + 1 + 2 * items.length := by
    rw [hcells]; simp [listBlockOf, List.length_mergeSort]; omega
  generalize hslots : items.map (assocOf s.cells) = slots at hhdr hkey
  generalize hL : slots.mergeSort Store.assocLe = L at hkey
  generalize hk : (slots.filter (fun c => c != Cell.empty)).length = k at hhdr
  have hslen : slots.length = items.length := by rw [← hslots]; simp
  have hLlen : L.length = items.length := by rw [← hL, List.length_mergeSort, hslen]
  have hperm : L.Perm slots := by rw [← hL]; exact List.mergeSort_perm _ _
  have hkn : k ≤ items.length := by rw [← hk, ← hslen]; exact List.length_filter_le _ _
  have hLae : ∀ c ∈ L, isAE c = true := by
    intro c hc
    have : c ∈ slots := hperm.mem_iff.mp hc
    rw [← hslots] at this
    simp only [List.mem_map] at this
    obtain ⟨a, _, rfl⟩ := this
    exact assocOf_isAE _ _
  have hLk : (L.filter (fun c => c != Cell.empty)).length = k := by
    rw [← hk]; exact (hperm.filter _).length_eq
  have hsorted : L.Pairwise (fun a b => Store.assocLe a b = true) := by
    rw [← hL]; exact List.pairwise_mergeSort assocLe_trans assocLe_total slots
  have hentry : ∀ sy d, Cell.associativeItem sy d ∈ L → d < s.cells.size ∧ isNode s.cells d = true := by
    intro sy d hm
    have : Cell.associativeItem sy d ∈ slots := hperm.mem_iff.mp hm
    rw [← hslots] at this
    simp only [List.mem_map] at this
    obtain ⟨a, ha, hae⟩ := this
    unfold assocOf at hae
    split at hae
    · rename_i l r hpair
      split at hae
      · simp only [Cell.associativeItem.injEq] at hae
        obtain ⟨_, hr⟩ := hae
        subst hr
        have hsh : shape s.cells a = some ⟨.pair 0 0, [], [l, r]⟩ := shape_of_solo hpair rfl
        have hn := hb.kids hsh (k := r) (by simp)
        exact ⟨node_lt hn, hn⟩
      · cases hae
    · cases hae
  have hli_items := listItems_read (cells := s'.cells) items (s.cells.size + 1) hitem
  obtain ⟨keys, targets, hassoc, htargets⟩ := assocItems_read (cells := s'.cells)
    (P := fun d => d < s.cells.size ∧ isNode s.cells d = true) k (s.cells.size + 1 + items.length) (fun t ht => by
      obtain ⟨sy, d, hLt⟩ := sorted_prefix L hLae hsorted t (by rw [hLk]; exact ht)
      refine ⟨sy, d, by rw [hkey t (by omega)]; exact hLt, hentry sy d (List.mem_of_getElem? hLt)⟩)
  have hshape : shape s'.cells s.cells.size = some ⟨.list items.length k, keys, items ++ targets⟩ := by
    unfold shape
    rw [hhdr]
    simp only [hli_items, hassoc]
  obtain ⟨ha, hnode⟩ := AppendedData.of_unit hb hcells hf hshape
    (fun x hx => by
      rcases List.mem_append.mp hx with h | h
      · exact ⟨hlt x h, hitems x h⟩
      · exact htargets x h)
    (by simp [listOK, hhdr, hkn]) (by simp [svAt, hhdr, isSV]) (fun j hj1 hj2 hj3 => by
      obtain ⟨t, rfl⟩ : ∃ t, j = s.cells.size + 1 + t := ⟨j - (s.cells.size + 1), by omega⟩
      by_cases ht : t < items.length
      · exact ⟨_, by rw [hitem t ht, List.getElem?_eq_getElem ht]; rfl, Or.inl rfl⟩
      · obtain ⟨u, rfl⟩ : ∃ u, t = items.length + u := ⟨t - items.length, by omega⟩
        have hu : u < items.length := by omega
        obtain ⟨c, hcu⟩ : ∃ c, L[u]? = some c := ⟨L[u]'(by omega), by simp [hLlen, hu]⟩
        refine ⟨c, by rw [← Nat.add_assoc, hkey u hu, hcu], ?_⟩
        have hae := hLae c (List.mem_of_getElem? hcu)
        cases c <;> simp [isAE] at hae
        · exact Or.inr rfl
        · exact Or.inl rfl)
  exact ⟨ha, rfl, hnode⟩

theorem buildList_wf {s s' : Store} {items : List Nat} {li : Nat} (hwf : WF s)
    (hitems : ∀ a ∈ items, isNode s.cells a = true) (h : Store.buildList s items = .ok (s', li)) :
    WF s' ∧ li = s.cells.size ∧ isNode s'.cells li = true := by
  obtain ⟨ha, hi, hn⟩ := buildList_data hwf.base hitems h
  exact ⟨hwf.appended ha.toAppended, hi, hn⟩

end Garnish.BasicOpt
