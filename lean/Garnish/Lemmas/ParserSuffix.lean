/-
Suffix operators: the state invariant `SInv` (the last node is a value or a suffix operator), the step of a
suffix-operator token (`step_suffix_okG`), the items `trivia* binop trivia* prefix* value suffix*`
(`SItem`), and the decidable recogniser `frag3` of
  (prefix* value suffix*) (trivia* binop trivia* prefix* value suffix*)*
with its decomposition into items (`frag3_sound`).
-/
import Garnish.Lemmas.ParserBottom
import Garnish.Lemmas.ParserPrefix

namespace Garnish.Spec
open Garnish Garnish.Gen Garnish.Model.Parser

/-- the state after a value or a suffix operator -/
structure SInv (st : PState) (T : Tree) (rt : Nat) : Prop where
  tree : IsTreeAt st.nodes none (some rt) T
  inord : T.inorder = List.range st.nodes.size
  pos : 0 < st.nodes.size
  lastLeft : st.lastLeft = some (st.nodes.size - 1)
  cfl : st.checkForList = false
  nnl : st.nextLastLeft = none
  gs : st.groupStack = #[]
  cg : st.currentGroup = none
  prios : AllPrio st.nodes
  bottom : ∃ nd, st.nodes[st.nodes.size - 1]? = some nd ∧ nd.right = none ∧ nd.definition.isGroupLike = false
  prev : st.previousSecondDef = .value ∨ st.previousSecondDef = .identifier ∨ st.previousSecondDef = .unarySuffix

theorem prio10_not_groupLike {d : Definition} (h : priority d = some 10) : d.isGroupLike = false := by
  revert h; generalize d = e
  revert e; exact Definition.forall_of_all (by decide +kernel)

def isSuffixTok (t : PToken) : Bool := (getDefinition t.type).2 == .unarySuffix

theorem suffix_def_facts (tt : TokenType) (h : (getDefinition tt).2 = SecDef.unarySuffix) :
    ∃ q, priority (getDefinition tt).1 = some q ∧ 10 < q ∧ ((getDefinition tt).1 != Definition.drop) = true ∧
      (getDefinition tt).1 ≠ Definition.identifier ∧ (getDefinition tt).1 ≠ Definition.list ∧
      (getDefinition tt).1.isValueLike = false ∧ (getDefinition tt).1.isGroupLike = false := by
  revert tt; exact TokenType.forall_of_all (by decide +kernel)

theorem step_suffix_okG (st : PState) (s : PToken) (il : Bool) (hs : isSuffixTok s = true) (hnl : st.nextLastLeft = none)
    {ug : Option Nat} (hug : underGroupOf st = .ok ug) (hadj : adjustLastLeft st ug = .ok st)
    (hcomp : checkComposition st.previousSecondDef .unarySuffix st.checkForList = true)
    {nodes' : Array ParseNode} {info : Info}
    (hpt : parseToken st.nodes.size (getDefinition s.type).1 st.lastLeft none st.nodes ug false = .ok (nodes', info)) :
    ∃ st1, step st s il = .ok st1 ∧
      st1.nodes = nodes'.push ⟨(getDefinition s.type).1, .unarySuffix, info.parent, info.left, info.right, s⟩ ∧
      st1.lastLeft = some st.nodes.size ∧ st1.checkForList = false ∧ st1.nextLastLeft = none ∧
      st1.groupStack = st.groupStack ∧ st1.currentGroup = st.currentGroup ∧ st1.previousSecondDef = .unarySuffix := by
  have hsd : (getDefinition s.type).2 = .unarySuffix := by unfold isSuffixTok at hs; simpa using hs
  obtain ⟨_, _, _, f1, f2, _, _, _⟩ := suffix_def_facts s.type hsd
  obtain ⟨_, hdef⟩ := parseToken_size_def hpt
  rw [step_op_eq st s il (by rw [hsd]; rfl) hug hadj, hsd, if_pos hcomp]
  simp only [beq_self_eq_true, if_true, show (SecDef.unarySuffix == SecDef.binaryRightToLeft) = false from rfl, hpt,
    Outcome.bind]
  rw [stepEnd_push _ _ _ _ _ (by rw [hdef]; exact f1) (by exact hnl)]
  exact ⟨_, rfl, by simp only [hdef, renameDef_of_ne f2], rfl, rfl, hnl, rfl, rfl, rfl⟩

/-- `trivia* binop trivia* prefix* value suffix*` -/
structure SItem where
  item : OItem
  sufs : List PToken

def SItem.dec (it : SItem) : List PToken := it.item.dec ++ it.sufs
def SItem.ok (it : SItem) : Prop := it.item.ok ∧ ∀ s ∈ it.sufs, isSuffixTok s = true

def flatDecS : List SItem → List PToken
  | [] => []
  | it :: rest => it.dec ++ flatDecS rest

theorem suffix_not_trimmable {s : PToken} (hs : isSuffixTok s = true) : isTrimmable s = false := by
  unfold isSuffixTok at hs
  unfold isTrimmable
  revert hs; generalize s.type = tt
  revert tt; exact TokenType.forall_of_all (by decide +kernel)

inductive Acc3 where
  | start (ws1 : List PToken)
  | afterOp (ws1 : List PToken) (o : PToken) (ws2 : List PToken)
  | inPre (ws1 : List PToken) (o : PToken) (ws2 pre : List PToken)
  | inSuf (ws1 : List PToken) (o : PToken) (ws2 pre : List PToken) (a : PToken) (sufs : List PToken)

def splitS : Acc3 → List PToken → Option (List SItem)
  | .start [], [] => some []
  | .start (_ :: _), [] => none
  | .afterOp _ _ _, [] => none
  | .inPre _ _ _ _, [] => none
  | .inSuf ws1 o ws2 pre a sufs, [] => some [⟨⟨ws1, o, ws2, pre, a⟩, sufs⟩]
  | .start ws1, t :: rest =>
    if isTriviaTok t then splitS (.start (ws1 ++ [t])) rest
    else if isBinopTok t then splitS (.afterOp ws1 t []) rest else none
  | .afterOp ws1 o ws2, t :: rest =>
    if isTriviaTok t then splitS (.afterOp ws1 o (ws2 ++ [t])) rest
    else if isPrefixTok t then splitS (.inPre ws1 o ws2 [t]) rest
    else if isAtom10 t then splitS (.inSuf ws1 o ws2 [] t []) rest else none
  | .inPre ws1 o ws2 pre, t :: rest =>
    if isPrefixTok t then splitS (.inPre ws1 o ws2 (pre ++ [t])) rest
    else if isAtom10 t then splitS (.inSuf ws1 o ws2 pre t []) rest else none
  | .inSuf ws1 o ws2 pre a sufs, t :: rest =>
    if isSuffixTok t then splitS (.inSuf ws1 o ws2 pre a (sufs ++ [t])) rest
    else if isTriviaTok t then (splitS (.start [t]) rest).map (fun items => ⟨⟨ws1, o, ws2, pre, a⟩, sufs⟩ :: items)
    else if isBinopTok t then (splitS (.afterOp [] t []) rest).map (fun items => ⟨⟨ws1, o, ws2, pre, a⟩, sufs⟩ :: items)
    else none

def Acc3.toks : Acc3 → List PToken
  | .start ws1 => ws1
  | .afterOp ws1 o ws2 => ws1 ++ o :: ws2
  | .inPre ws1 o ws2 pre => ws1 ++ o :: (ws2 ++ pre)
  | .inSuf ws1 o ws2 pre a sufs => ws1 ++ o :: (ws2 ++ (pre ++ a :: sufs))

def Acc3.ok : Acc3 → Prop
  | .start ws1 => ∀ w ∈ ws1, isTriviaTok w = true
  | .afterOp ws1 o ws2 => (∀ w ∈ ws1, isTriviaTok w = true) ∧ isBinopTok o = true ∧ ∀ w ∈ ws2, isTriviaTok w = true
  | .inPre ws1 o ws2 pre =>
    (∀ w ∈ ws1, isTriviaTok w = true) ∧ isBinopTok o = true ∧ (∀ w ∈ ws2, isTriviaTok w = true) ∧
      ∀ p ∈ pre, isPrefixTok p = true
  | .inSuf ws1 o ws2 pre a sufs =>
    (∀ w ∈ ws1, isTriviaTok w = true) ∧ isBinopTok o = true ∧ (∀ w ∈ ws2, isTriviaTok w = true) ∧
      (∀ p ∈ pre, isPrefixTok p = true) ∧ isAtom10 a = true ∧ ∀ s ∈ sufs, isSuffixTok s = true

theorem splitS_sound : ∀ (toks : List PToken) (acc : Acc3) (items : List SItem), acc.ok →
    splitS acc toks = some items → acc.toks ++ toks = flatDecS items ∧ ∀ it ∈ items, it.ok := by
  intro toks
  induction toks with
  | nil =>
    intro acc items hacc h
    cases acc with
    | start ws1 =>
      cases ws1 with
      | nil => simp only [splitS, Option.some.injEq] at h; subst h; simp [Acc3.toks, flatDecS]
      | cons w ws => simp [splitS] at h
    | afterOp ws1 o ws2 => simp [splitS] at h
    | inPre ws1 o ws2 pre => simp [splitS] at h
    | inSuf ws1 o ws2 pre a sufs =>
      simp only [splitS, Option.some.injEq] at h; subst h
      obtain ⟨h1, h2, h3, h4, h5, h6⟩ := hacc
      refine ⟨by simp [Acc3.toks, flatDecS, SItem.dec, OItem.dec], ?_⟩
      intro it hit
      simp only [List.mem_singleton] at hit
      subst hit
      exact ⟨⟨h1, h2, h3, h4, h5⟩, h6⟩
  | cons t rest ih =>
    intro acc items hacc h
    cases acc with
    | start ws1 =>
      simp only [splitS] at h
      split at h
      · rename_i ht
        obtain ⟨e, hok⟩ := ih (.start (ws1 ++ [t])) items (mem_snoc hacc ht) h
        exact ⟨by simpa [Acc3.toks] using e, hok⟩
      · split at h
        · rename_i hb
          obtain ⟨e, hok⟩ := ih (.afterOp ws1 t []) items ⟨hacc, hb, by simp⟩ h
          exact ⟨by simpa [Acc3.toks] using e, hok⟩
        · cases h
    | afterOp ws1 o ws2 =>
      obtain ⟨h1, h2, h3⟩ := hacc
      simp only [splitS] at h
      split at h
      · rename_i ht
        obtain ⟨e, hok⟩ := ih (.afterOp ws1 o (ws2 ++ [t])) items ⟨h1, h2, mem_snoc h3 ht⟩ h
        exact ⟨by simpa [Acc3.toks] using e, hok⟩
      · split at h
        · rename_i hp
          obtain ⟨e, hok⟩ := ih (.inPre ws1 o ws2 [t]) items ⟨h1, h2, h3, by simpa using hp⟩ h
          exact ⟨by simpa [Acc3.toks] using e, hok⟩
        · split at h
          · rename_i ha
            obtain ⟨e, hok⟩ := ih (.inSuf ws1 o ws2 [] t []) items ⟨h1, h2, h3, by simp, ha, by simp⟩ h
            exact ⟨by simpa [Acc3.toks] using e, hok⟩
          · cases h
    | inPre ws1 o ws2 pre =>
      obtain ⟨h1, h2, h3, h4⟩ := hacc
      simp only [splitS] at h
      split at h
      · rename_i hp
        obtain ⟨e, hok⟩ := ih (.inPre ws1 o ws2 (pre ++ [t])) items ⟨h1, h2, h3, mem_snoc h4 hp⟩ h
        exact ⟨by simpa [Acc3.toks] using e, hok⟩
      · split at h
        · rename_i ha
          obtain ⟨e, hok⟩ := ih (.inSuf ws1 o ws2 pre t []) items ⟨h1, h2, h3, h4, ha, by simp⟩ h
          exact ⟨by simpa [Acc3.toks] using e, hok⟩
        · cases h
    | inSuf ws1 o ws2 pre a sufs =>
      obtain ⟨h1, h2, h3, h4, h5, h6⟩ := hacc
      simp only [splitS] at h
      split at h
      · rename_i hs
        obtain ⟨e, hok⟩ := ih (.inSuf ws1 o ws2 pre a (sufs ++ [t])) items ⟨h1, h2, h3, h4, h5, mem_snoc h6 hs⟩ h
        exact ⟨by simpa [Acc3.toks] using e, hok⟩
      · split at h
        · rename_i ht
          cases hrec : splitS (.start [t]) rest with
          | none => simp [hrec] at h
          | some items' =>
            simp only [hrec, Option.map_some, Option.some.injEq] at h
            subst h
            obtain ⟨e, hok⟩ := ih (.start [t]) items' (by intro w hw; simp at hw; subst hw; exact ht) hrec
            simp only [Acc3.toks] at e
            refine ⟨by simp [Acc3.toks, flatDecS, SItem.dec, OItem.dec, ← e], ?_⟩
            intro it hit
            rcases List.mem_cons.mp hit with rfl | hit
            · exact ⟨⟨h1, h2, h3, h4, h5⟩, h6⟩
            · exact hok it hit
        · split at h
          · rename_i hb
            cases hrec : splitS (.afterOp [] t []) rest with
            | none => simp [hrec] at h
            | some items' =>
              simp only [hrec, Option.map_some, Option.some.injEq] at h
              subst h
              obtain ⟨e, hok⟩ := ih (.afterOp [] t []) items' ⟨by simp, hb, by simp⟩ hrec
              simp only [Acc3.toks, List.nil_append] at e
              refine ⟨by simp [Acc3.toks, flatDecS, SItem.dec, OItem.dec, ← e], ?_⟩
              intro it hit
              rcases List.mem_cons.mp hit with rfl | hit
              · exact ⟨⟨h1, h2, h3, h4, h5⟩, h6⟩
              · exact hok it hit
          · cases h

/-- **the stage 3 fragment**: `(prefix* value suffix*) (trivia* binop trivia* prefix* value suffix*)*` -/
def frag3 (toks : List PToken) : Bool :=
  match toks.dropWhile isPrefixTok with
  | a :: rest => isAtom10 a && (splitS (.start []) (rest.dropWhile isSuffixTok)).isSome
  | [] => false

theorem frag3_sound {toks : List PToken} (h : frag3 toks = true) :
    ∃ pre0 a0 sufs0 items, toks = pre0 ++ a0 :: (sufs0 ++ flatDecS items) ∧ (∀ p ∈ pre0, isPrefixTok p = true) ∧
      isAtom10 a0 = true ∧ (∀ s ∈ sufs0, isSuffixTok s = true) ∧ ∀ it ∈ items, it.ok := by
  unfold frag3 at h
  cases hd : toks.dropWhile isPrefixTok with
  | nil => simp [hd] at h
  | cons a rest =>
    simp only [hd, Bool.and_eq_true] at h
    obtain ⟨ha, hs⟩ := h
    obtain ⟨items, hitems⟩ := Option.isSome_iff_exists.mp hs
    obtain ⟨e, hok⟩ := splitS_sound _ (.start []) items (by simp [Acc3.ok]) hitems
    simp only [Acc3.toks, List.nil_append] at e
    refine ⟨toks.takeWhile isPrefixTok, a, rest.takeWhile isSuffixTok, items, ?_, ?_, ha, ?_, hok⟩
    · rw [← e, List.takeWhile_append_dropWhile, ← hd, List.takeWhile_append_dropWhile]
    · intro p hp; exact mem_takeWhile_imp _ _ p hp
    · intro s hs'; exact mem_takeWhile_imp _ _ s hs'

end Garnish.Spec
