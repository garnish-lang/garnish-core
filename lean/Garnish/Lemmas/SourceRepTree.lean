/-
The parser's node array represents the elaborated program: intervals of an in-order numbered index tree, one node,
a node with both children, the induction over the index tree, and `parse_rep`.
-/
import Garnish.Lemmas.SourceRep
import Garnish.Lemmas.ParserBRef
import Garnish.Lemmas.Tree
import Garnish.Lemmas.CompileTreeV

namespace Garnish.Abs.Source
open Garnish Garnish.Gen Garnish.Spec Garnish.Abs Garnish.Abs.Tree Garnish.Model.Parser Garnish.Model.Literals

variable {F : Type}

theorem split_range {l r : List Nat} {i lo hi : Nat} (h : l ++ i :: r = List.range' lo (hi - lo)) :
    lo ≤ i ∧ i < hi ∧ l = List.range' lo (i - lo) ∧ r = List.range' (i + 1) (hi - (i + 1)) := by
  have hlen : l.length + (r.length + 1) = hi - lo := by
    have := congrArg List.length h
    simpa using this
  have e : List.range' lo (hi - lo) = List.range' lo l.length ++ (lo + l.length) :: List.range' (lo + l.length + 1) r.length := by
    rw [← hlen, ← List.range'_append_1, Nat.add_comm r.length 1, ← List.range'_append_1]
    simp [List.range'_one, Nat.add_assoc]
  rw [e] at h
  have hl : l.length = (List.range' lo l.length).length := by simp
  obtain ⟨h1, h2⟩ := List.append_inj h hl
  simp only [List.cons.injEq] at h2
  have ha : i = lo + l.length := h2.1
  have h3 := h2.2
  clear h2 hl h e
  refine ⟨by omega, by omega, ?_, ?_⟩
  · rw [show i - lo = l.length by omega]; exact h1
  · rw [show hi - (i + 1) = r.length by omega, ha]; exact h3

theorem isTreeAt_link_nil {nodes : Array ParseNode} {p link : Option Nat} (h : IsTreeAt nodes p link .nil) : link = none := by
  cases h; rfl

theorem isTreeAt_inv {nodes : Array ParseNode} {p link : Option Nat} {l r : Tree} {i k : Nat}
    (h : IsTreeAt nodes p link (.node l i k r)) :
    link = some i ∧ ∃ n, nodes[i]? = some n ∧ n.parent = p ∧ k = tokPos n ∧ IsTreeAt nodes (some i) n.left l ∧
      IsTreeAt nodes (some i) n.right r := by
  cases h with
  | node _ _ n _ _ h1 h2 h3 h4 => exact ⟨rfl, n, h1, h2, rfl, h3, h4⟩

def rootIdx : Spec.Tree → Nat
  | .node _ i _ _ => i
  | .nil => 0

/-- a bracket node has no left child -/
def bracketsOK (df : Nat → Definition) : Spec.Tree → Bool
  | .nil => true
  | .node l i _ r => (if isBracketDef (df i) then (match l with | .nil => true | _ => false) else true) &&
      bracketsOK df l && bracketsOK df r

theorem toRG_nil_iff (df : Nat → Definition) (t : Spec.Tree) : toRG df t = .nil ↔ t = .nil := by
  cases t with
  | nil => simp [toRG]
  | node l i k r => simp only [toRG]; split <;> simp

theorem dfOf_get {nodes : Array ParseNode} {i : Nat} {n : ParseNode} (h : nodes[i]? = some n) : dfOf nodes i = n.definition := by
  simp [dfOf, h]

theorem rootDef_toRG {nodes : Array ParseNode} {l r : Spec.Tree} {i k : Nat} {n : ParseNode} (h : nodes[i]? = some n) :
    rootDef (toRG (dfOf nodes) (.node l i k r)) = some n.definition := by
  simp only [toRG, dfOf_get h]
  split <;> rfl

theorem treeRT_eq (nodes : Array ParseNode) : ∀ t : Spec.Tree, treeRT nodes t = toRG (dfOf nodes) t
  | .nil => rfl
  | .node l i k r => by
    simp only [treeRT, toRG, treeRT_eq nodes l, treeRT_eq nodes r]
    rfl

theorem shape_of_tree {nodes : Array ParseNode} : ∀ (t : Spec.Tree) (p : Option Nat) (link : Option Nat) (lo hi : Nat),
    t ≠ .nil → IsTreeAt nodes p link t → t.inorder = List.range' lo (hi - lo) → Shape nodes lo hi (rootIdx t)
  | .nil, _, _, _, _, h, _, _ => absurd rfl h
  | .node l i k r, p, link, lo, hi, _, ht, hin => by
    obtain ⟨_, n, hn, _, _, hl, hr⟩ := isTreeAt_inv ht
    simp only [Spec.Tree.inorder] at hin
    obtain ⟨h1, h2, h3, h4⟩ := split_range hin
    simp only [rootIdx]
    cases l with
    | nil =>
      have hlo : lo = i := by
        simp only [Spec.Tree.inorder] at h3
        have := List.range'_eq_nil_iff.1 h3.symm; omega
      subst hlo
      have hnl := isTreeAt_link_nil hl
      cases r with
      | nil =>
        have hhi : hi = lo + 1 := by
          simp only [Spec.Tree.inorder] at h4
          have := List.range'_eq_nil_iff.1 h4.symm; omega
        subst hhi
        exact Shape.leaf hn hnl (isTreeAt_link_nil hr)
      | node rl ri rk rr =>
        obtain ⟨hrl, nr, hnr, hpr, _⟩ := isTreeAt_inv hr
        exact Shape.right hn hnl hrl ⟨nr, hnr, hpr⟩ (shape_of_tree (.node rl ri rk rr) _ _ _ _ (by simp) hr h4)
    | node ll li lk lr =>
      obtain ⟨hll, nl, hnl, hpl, _⟩ := isTreeAt_inv hl
      have sl := shape_of_tree (.node ll li lk lr) _ _ _ _ (by simp) hl h3
      cases r with
      | nil =>
        have hhi : hi = i + 1 := by
          simp only [Spec.Tree.inorder] at h4
          have := List.range'_eq_nil_iff.1 h4.symm; omega
        subst hhi
        exact Shape.left hn hll (isTreeAt_link_nil hr) ⟨nl, hnl, hpl⟩ sl
      | node rl ri rk rr =>
        obtain ⟨hrl, nr, hnr, hpr, _⟩ := isTreeAt_inv hr
        exact Shape.both hn hll hrl ⟨nl, hnl, hpl⟩ ⟨nr, hnr, hpr⟩ sl
          (shape_of_tree (.node rl ri rk rr) _ _ _ _ (by simp) hr h4)

variable (pf : List Char → Option F) (κ : Nat → Nat) (toks : List PToken)

theorem go_leaf (d : Definition) (k : Nat) :
    go pf κ toks (.node .nil d k .nil) = (leafE pf d (textAt toks k)).map (fun e => plain e []) := by
  simp [go]

/-- a `SideEffect` node without left child -/
def isSideNode : RTree → Bool
  | .node .nil d _ _ => d == .sideEffect
  | _ => false

theorem go_pre (d : Definition) (k : Nat) (r : RTree) (hr : r ≠ .nil) (hs : isSideNode r = false) :
    go pf κ toks (.node .nil d k r) = (go pf κ toks r).bind (preE d (textAt toks k)) := by
  cases r with
  | nil => exact absurd rfl hr
  | node l d2 k2 body =>
    cases l with
    | nil =>
      simp only [isSideNode] at hs
      rw [go.eq_5]
      simp only [hs, Bool.false_eq_true, if_false]
      cases go pf κ toks (.node .nil d2 k2 body) <;> rfl
    | node _ _ _ _ =>
      rw [go.eq_6 _ _ _ _ _ _ (by simp) (by simp)]
      cases go pf κ toks _ <;> rfl
    | group _ _ _ =>
      rw [go.eq_6 _ _ _ _ _ _ (by simp) (by simp)]
      cases go pf κ toks _ <;> rfl
  | group _ _ _ =>
    rw [go.eq_6 _ _ _ _ _ _ (by simp) (by simp)]
    cases go pf κ toks _ <;> rfl

theorem go_side (d : Definition) (k k2 : Nat) (body : RTree) :
    go pf κ toks (.node .nil d k (.node .nil .sideEffect k2 body)) =
      (leafE pf d (textAt toks k)).bind (fun e => (go pf κ toks body).bind (fun x => some (plain (.sideAfter e x.e) x.bodies))) := by
  rw [go.eq_5]
  simp only [beq_self_eq_true, if_true]
  cases leafE pf d (textAt toks k) <;> cases go pf κ toks body <;> rfl

theorem go_suf (d : Definition) (k : Nat) (l : RTree) (hl : l ≠ .nil) :
    go pf κ toks (.node l d k .nil) = (go pf κ toks l).bind (sufE d (textAt toks k)) := by
  rw [go.eq_7 _ _ _ _ _ _ hl]
  cases go pf κ toks l <;> rfl

theorem go_bin (d : Definition) (k : Nat) (l r : RTree) (hl : l ≠ .nil) (hr : r ≠ .nil) :
    go pf κ toks (.node l d k r) = (go pf κ toks l).bind (fun a => (go pf κ toks r).bind (fun b =>
      binE d (textAt toks k) (rootIs l d) (rootIs r d) (rootCond l) (rootCond r) (isJumpIf r) a b)) := by
  rw [go.eq_8 _ _ _ _ _ _ _ (fun h _ => hl h) (fun _ _ _ h _ => hl h) hl hr]
  cases go pf κ toks l <;> cases go pf κ toks r <;> rfl

theorem go_group (k : Nat) (inner : RTree) :
    go pf κ toks (.group .group k inner) = (go pf κ toks inner).bind (fun x => some (plain x.e x.bodies)) := by
  cases inner with
  | nil => rw [go.eq_2]; simp [go]
  | node _ _ _ _ => rw [go.eq_3 _ _ _ _ _ _ (by simp)]; simp only [beq_self_eq_true, if_true]; split <;> simp_all
  | group _ _ _ => rw [go.eq_3 _ _ _ _ _ _ (by simp)]; simp only [beq_self_eq_true, if_true]; split <;> simp_all

theorem go_enested (k : Nat) : go pf κ toks (.group .nestedExpression k .nil) = some (plain .emptyNested []) := by
  rw [go.eq_2]; simp

theorem go_nested (k : Nat) (inner : RTree) (h : inner ≠ .nil) :
    go pf κ toks (.group .nestedExpression k inner) =
      (go pf κ toks inner).bind (fun x => some (plain (.nested (κ k)) ((κ k, x.e) :: x.bodies))) := by
  rw [go.eq_3 _ _ _ _ _ _ h]
  simp only [show (Definition.nestedExpression == Definition.group) = false from rfl, beq_self_eq_true, if_true]
  cases go pf κ toks inner <;> simp

end Garnish.Abs.Source

/-! ### one node — what `leafE` / `preE` / `sufE` / `binE` accept
is what the constructors of `Rep` ask for. -/

namespace Garnish.Abs.Source
open Garnish Garnish.Gen Garnish.Spec Garnish.Abs Garnish.Abs.Tree Garnish.Model.Parser Garnish.Model.Literals

variable {F : Type} (pf : List Char → Option F) (nodes : Array ParseNode) (B : List (Nat × Expr F))

/-- what the induction carries for a subtree: it represents the expression; a list node represents its items, a conditional
its arm, a `|>` over conditionals its arms -/
structure Out (lo hi i : Nat) (t' : RTree) (x : Res F) : Prop where
  rep : Rep pf nodes B lo hi i x.e
  items : x.items ≠ [] → ∀ d, rootDef t' = some d → RepItems pf nodes B d lo hi i x.items
  arm : ∀ c, x.arms = [c] → isJumpIf t' = true → RepArm pf nodes B lo hi i c.1 c.2.1 c.2.2
  arms : x.arms ≠ [] → RepArms pf nodes B lo hi i x.arms

variable {pf nodes B}

theorem Out.plain {lo hi i : Nat} {t' : RTree} {e : Expr F} {bs : List (Nat × Expr F)} (h : Rep pf nodes B lo hi i e) :
    Out pf nodes B lo hi i t' (plain e bs) :=
  ⟨h, fun h => absurd rfl h, fun c h => by simp [Source.plain] at h, fun h => absurd rfl h⟩

theorem leaf_leafRep {n : ParseNode} {e : Expr F} (he : leafE pf n.definition n.lexToken.text = some e) : LeafRep pf n e := by
  unfold leafE at he
  split at he
  · cases he; exact .lit (.unit (by assumption))
  · cases he; exact .lit (.tru (by assumption))
  · cases he; exact .lit (.fls (by assumption))
  · split at he
    · cases he; exact .lit (.num (by assumption) (by assumption))
    · cases he
  · split at he
    · cases he; exact .lit (.chars (by assumption) (by assumption))
    · cases he
  · split at he
    · cases he; exact .lit (.bytes (by assumption) (by assumption))
    · cases he
  · split at he
    · cases he; exact .lit (.sym (by assumption) (by assumption))
    · cases he
  · cases he; exact .lit (.prop (by assumption))
  · cases he; exact .input (by assumption)
  · cases he; exact .ident (by assumption)
  · cases he

theorem leaf_rep {i : Nat} {n : ParseNode} {e : Expr F} (hn : nodes[i]? = some n) (hl : n.left = none) (hr : n.right = none)
    (he : leafE pf n.definition n.lexToken.text = some e) : Rep pf nodes B i (i + 1) i e := by
  cases leaf_leafRep he with
  | lit hv => exact .lit hn hl hr hv
  | input hd => exact .input hn hd hl hr
  | ident hd => exact .ident hn hd hl hr

theorem pre_out {hi i ri : Nat} {n : ParseNode} {t' : RTree} {x y : Res F} (hn : nodes[i]? = some n)
    (hr : n.right = some ri) (hx : Rep pf nodes B (i + 1) hi ri x.e)
    (he : preE n.definition n.lexToken.text x = some y) : Out pf nodes B i hi i t' y := by
  unfold preE at he
  split at he
  · cases he; exact Out.plain (Rep.unaryPre hn (by assumption) hr hx)
  · split at he
    · cases he; exact Out.plain (Rep.reapply hn (by simpa using ‹(n.definition == Definition.reapply) = true›) hr hx)
    · split at he
      · cases he
        exact Out.plain (Rep.prefixApply hn (by simpa using ‹(n.definition == Definition.prefixApply) = true›) hr hx)
      · cases he

theorem suf_out {lo i li : Nat} {n : ParseNode} {t' : RTree} {x y : Res F} (hn : nodes[i]? = some n)
    (hl : n.left = some li) (hx : Rep pf nodes B lo i li x.e)
    (he : sufE n.definition n.lexToken.text x = some y) : Out pf nodes B lo (i + 1) i t' y := by
  unfold sufE at he
  split at he
  · cases he; exact Out.plain (Rep.unarySuf hn (by assumption) hl hx)
  · split at he
    · cases he
      exact Out.plain (Rep.suffixApply hn (by simpa using ‹(n.definition == Definition.suffixApply) = true›) hl hx)
    · cases he

theorem notCond_of_root {t : RTree} {j : Nat} (hd : ∀ pn, nodes[j]? = some pn → rootDef t = some pn.definition)
    (h : rootCond t = false) : NotCond nodes j := by
  intro pn hpn
  have := hd pn hpn
  simpa [rootCond, this] using h

theorem notDef_of_root {t : RTree} {j : Nat} {d : Definition}
    (hd : ∀ pn, nodes[j]? = some pn → rootDef t = some pn.definition) (h : rootIs t d = false) : NotDef nodes j d := by
  intro pn hpn e
  have := hd pn hpn
  simp [rootIs, this, e] at h

theorem not_jumpIf_of_root {t : RTree} {d : Definition} (hroot : rootDef t = some d) (h1 : d ≠ .jumpIfTrue)
    (h2 : d ≠ .jumpIfFalse) : isJumpIf t = false := by
  simp [isJumpIf, rootIs, hroot, h1, h2]

theorem list_out {lo hi i li ri : Nat} {n : ParseNode} {tl tr t' : RTree} {a b y : Res F} {d : Definition}
    (hdd : d = .list ∨ d = .commaList) (hn : nodes[i]? = some n) (hd : n.definition = d)
    (hl : n.left = some li) (hr : n.right = some ri) (oa : Out pf nodes B lo i li tl a) (ob : Out pf nodes B (i + 1) hi ri tr b)
    (hdl : ∀ pn, nodes[li]? = some pn → rootDef tl = some pn.definition)
    (hdr : ∀ pn, nodes[ri]? = some pn → rootDef tr = some pn.definition) (hroot : rootDef t' = some d)
    (he : (if rootIs tr d then none
      else if rootIs tl d then
        match a.items with
        | [] => none
        | it :: its => some (⟨.list ((it :: its) ++ [b.e]), a.bodies ++ b.bodies, (it :: its) ++ [b.e], []⟩ : Res F)
      else some ⟨.list [a.e, b.e], a.bodies ++ b.bodies, [a.e, b.e], []⟩) = some y) :
    Out pf nodes B lo hi i t' y := by
  split at he
  · cases he
  · rename_i hrIs
    have nr : NotDef nodes ri d := notDef_of_root hdr (by simpa using hrIs)
    split at he
    · rename_i hlIs
      split at he
      · cases he
      · rename_i it its hit
        cases he
        have hroot' : rootDef tl = some d := by simpa [rootIs] using hlIs
        have hitems := oa.items (by rw [hit]; simp) d hroot'
        rw [hit] at hitems
        have key := RepItems.snoc hn hd hl hr nr hitems ob.rep
        refine ⟨Rep.list hdd key, fun _ d' h' => ?_, fun c h => by simp at h, fun h => absurd rfl h⟩
        rw [hroot] at h'; cases h'; exact key
    · rename_i hlIs
      cases he
      have nl : NotDef nodes li d := notDef_of_root hdl (by simpa using hlIs)
      have key := RepItems.two hn hd hl hr nl nr oa.rep ob.rep
      refine ⟨Rep.list hdd key, fun _ d' h' => ?_, fun c h => by simp at h, fun h => absurd rfl h⟩
      rw [hroot] at h'; cases h'; exact key

theorem cond_out {lo hi i li ri : Nat} {n : ParseNode} {tl tr t' : RTree} {a b : Res F} (onTrue : Bool)
    (hn : nodes[i]? = some n) (hd : n.definition = jumpIfDef onTrue)
    (hl : n.left = some li) (hr : n.right = some ri) (oa : Out pf nodes B lo i li tl a) (ob : Out pf nodes B (i + 1) hi ri tr b) :
    Out pf nodes B lo hi i t' ⟨.cond onTrue a.e b.e, a.bodies ++ b.bodies, [], [(onTrue, a.e, b.e)]⟩ := by
  have key := RepArm.mk hn hd hl hr oa.rep ob.rep
  refine ⟨Rep.cond hn hd hl hr oa.rep ob.rep, fun h => absurd rfl h, fun c h _ => ?_, fun _ => RepArms.one key⟩
  simp only [List.cons.injEq, and_true] at h
  subst h; exact key

theorem chain_out {lo hi i li ri : Nat} {n : ParseNode} {tl tr t' : RTree} {a b y : Res F}
    (hn : nodes[i]? = some n) (hd : n.definition = .elseJump)
    (hl : n.left = some li) (hr : n.right = some ri) (oa : Out pf nodes B lo i li tl a) (ob : Out pf nodes B (i + 1) hi ri tr b)
    (hdr : ∀ pn, nodes[ri]? = some pn → rootDef tr = some pn.definition) (hroot : rootDef t' = some .elseJump)
    (he : (match a.arms with
      | [] => none
      | arm :: arms =>
        if isJumpIf tr then
          match b.arms with
          | [last] => some (⟨.chain ((arm :: arms) ++ [last]) none, a.bodies ++ b.bodies, [], (arm :: arms) ++ [last]⟩ : Res F)
          | _ => none
        else if rootCond tr then none
        else some (plain (.chain (arm :: arms) (some b.e)) (a.bodies ++ b.bodies))) = some y) :
    Out pf nodes B lo hi i t' y := by
  split at he
  · cases he
  · rename_i arm arms harms
    have hA := oa.arms (by rw [harms]; simp)
    rw [harms] at hA
    split at he
    · rename_i hJ
      split at he
      · rename_i last hlast
        cases he
        have hlastArm := ob.arm last hlast hJ
        refine ⟨Rep.chainNoFinal hn hd hl hr hA hlastArm, fun h => absurd rfl h, fun c _ hj => ?_,
          fun _ => RepArms.more hn hd hl hr hA hlastArm⟩
        rw [not_jumpIf_of_root hroot (by decide) (by decide)] at hj
        cases hj
      · cases he
    · split at he
      · cases he
      · rename_i hC
        cases he
        exact Out.plain (Rep.chain hn hd hl hr hA (notCond_of_root hdr (by simpa using hC)) ob.rep)

theorem bin_out {lo hi i li ri : Nat} {n : ParseNode} {tl tr t' : RTree} {a b y : Res F} {d : Definition}
    (hn : nodes[i]? = some n) (hd : n.definition = d) (hl : n.left = some li) (hr : n.right = some ri)
    (oa : Out pf nodes B lo i li tl a) (ob : Out pf nodes B (i + 1) hi ri tr b)
    (hdl : ∀ pn, nodes[li]? = some pn → rootDef tl = some pn.definition)
    (hdr : ∀ pn, nodes[ri]? = some pn → rootDef tr = some pn.definition) (hroot : rootDef t' = some d)
    (he : binE d n.lexToken.text (rootIs tl d) (rootIs tr d) (rootCond tl) (rootCond tr) (isJumpIf tr) a b = some y) :
    Out pf nodes B lo hi i t' y := by
  unfold binE at he
  simp only at he
  split at he
  · rename_i op hop
    cases he
    exact Out.plain (Rep.binary hn (by rw [hd]; exact hop) hl hr oa.rep ob.rep)
  · split at he
    · cases he; exact Out.plain (Rep.pair hn hd hl hr oa.rep ob.rep)
    · cases he; exact Out.plain (Rep.applyTo hn hd hl hr oa.rep ob.rep)
    · cases he; exact Out.plain (Rep.seq hn (Or.inl hd) hl hr oa.rep ob.rep)
    · cases he; exact Out.plain (Rep.seq hn (Or.inr hd) hl hr oa.rep ob.rep)
    · cases he; exact Out.plain (Rep.infixApply hn hd hl hr oa.rep ob.rep)
    · exact list_out (Or.inl rfl) hn hd hl hr oa ob hdl hdr hroot he
    · exact list_out (Or.inr rfl) hn hd hl hr oa ob hdl hdr hroot he
    · cases he; exact cond_out true hn hd hl hr oa ob
    · cases he; exact cond_out false hn hd hl hr oa ob
    · split at he
      · cases he
      · rename_i hC
        cases he
        exact Out.plain (Rep.and hn hd hl hr (notCond_of_root hdl (by simpa using hC)) oa.rep ob.rep)
    · split at he
      · cases he
      · rename_i hC
        cases he
        exact Out.plain (Rep.or hn hd hl hr (notCond_of_root hdl (by simpa using hC)) oa.rep ob.rep)
    · exact chain_out hn hd hl hr oa ob hdr hroot he
    · cases he

end Garnish.Abs.Source

namespace Garnish.Abs.Source
open Garnish Garnish.Gen Garnish.Spec Garnish.Abs Garnish.Abs.Tree Garnish.Model.Parser Garnish.Model.Literals

variable {F : Type} {pf : List Char → Option F} {nodes : Array ParseNode} {B : List (Nat × Expr F)}
  {κ : Nat → Nat} {toks : List PToken}

/-- every node carries the text of the token at its position -/
def Linked (toks : List PToken) (nodes : Array ParseNode) : Prop :=
  ∀ (i : Nat) (n : ParseNode), nodes[i]? = some n → textAt toks (tokPos n) = n.lexToken.text

theorem go_ne_nil {t : RTree} {x : Res F} (h : go pf κ toks t = some x) : t ≠ .nil := by
  intro e; subst e; rw [go.eq_1] at h; cases h

theorem binE_bodies {d : Definition} {text : List Char} {lIs rIs lC rC rJ : Bool} {a b y : Res F}
    (h : binE d text lIs rIs lC rC rJ a b = some y) : y.bodies = a.bodies ++ b.bodies := by
  unfold binE at h
  simp only at h
  repeat' split at h
  all_goals first | (cases h; rfl) | cases h

theorem side_shape {rl rr : Spec.Tree} {ri rk : Nat} {nr : ParseNode} (hnr : nodes[ri]? = some nr)
    (h : isSideNode (toRG (dfOf nodes) (.node rl ri rk rr)) = true) : rl = .nil ∧ nr.definition = .sideEffect := by
  simp only [toRG, dfOf_get hnr] at h
  split at h
  · simp [isSideNode] at h
  · cases rl with
    | nil => simp only [toRG, isSideNode, beq_iff_eq] at h; exact ⟨rfl, h⟩
    | node _ _ _ _ =>
      simp only [toRG] at h
      split at h <;> simp [isSideNode] at h

theorem out_of_tree (hlink : Linked toks nodes) : ∀ (t : Spec.Tree) (p link : Option Nat) (lo hi : Nat) (x : Res F),
    t ≠ .nil → IsTreeAt nodes p link t → t.inorder = List.range' lo (hi - lo) → bracketsOK (dfOf nodes) t = true →
    go pf κ toks (toRG (dfOf nodes) t) = some x → (∀ id b, (id, b) ∈ x.bodies → lookupBody B id = some b) →
    Out pf nodes B lo hi (rootIdx t) (toRG (dfOf nodes) t) x
  | .nil, _, _, _, _, _, h, _, _, _, _, _ => absurd rfl h
  | .node l i k r, p, link, lo, hi, x, _, ht, hin, hbr, hgo, hB => by
    obtain ⟨_, n, hn, _, hk, hl, hr⟩ := isTreeAt_inv ht
    simp only [Spec.Tree.inorder] at hin
    -- the in-order walk `[lo, hi)` is cut at the node: `h3`, `h4` are the walks of the children, over `[lo, i)` and `[i + 1, hi)`.
    -- The cases below are those of `go` (a bracket; then by which children the node has), each rewritten with its equation
    -- (`go_group`, `go_leaf`, `go_pre`, …) and closed by the lemma of that shape (`pre_out`, `suf_out`, `bin_out`).
    obtain ⟨h1, h2, h3, h4⟩ := split_range hin
    simp only [bracketsOK, Bool.and_eq_true, dfOf_get hn] at hbr
    obtain ⟨⟨hbl, hbrl⟩, hbrr⟩ := hbr
    have hroot : rootDef (toRG (dfOf nodes) (.node l i k r)) = some n.definition := rootDef_toRG hn
    have htext : textAt toks k = n.lexToken.text := by rw [hk]; exact hlink i n hn
    simp only [rootIdx]
    revert hgo hroot
    simp only [toRG, dfOf_get hn]
    intro hgo hroot
    by_cases hb : isBracketDef n.definition = true
    · -- a bracket
      simp only [hb, if_true] at hgo hroot hbl ⊢
      have hlnil : l = .nil := by cases l <;> simp_all
      subst hlnil
      have hlo : lo = i := by
        simp only [Spec.Tree.inorder] at h3
        have := List.range'_eq_nil_iff.1 h3.symm; omega
      subst hlo
      have hd : n.definition = .group ∨ n.definition = .nestedExpression := by
        simpa [isBracketDef] using hb
      rcases hd with hd | hd
      · rw [hd] at hgo
        rw [go_group] at hgo
        obtain ⟨x', hx', hx⟩ := Option.bind_eq_some_iff.1 hgo
        cases hx
        have hrne : r ≠ .nil := fun e => go_ne_nil hx' ((toRG_nil_iff _ _).mpr e)
        cases r with
        | nil => exact absurd rfl hrne
        | node rl ri rk rr =>
          obtain ⟨hrl, _⟩ := isTreeAt_inv hr
          have ih := out_of_tree hlink (.node rl ri rk rr) _ _ _ _ x' (by simp) hr h4 hbrr hx' hB
          exact Out.plain (Rep.group hn hd hrl ih.rep)
      · rw [hd] at hgo
        cases r with
        | nil =>
          simp only [toRG] at hgo
          rw [go_enested] at hgo
          cases hgo
          have hhi : hi = lo + 1 := by
            simp only [Spec.Tree.inorder] at h4
            have := List.range'_eq_nil_iff.1 h4.symm; omega
          subst hhi
          exact Out.plain (Rep.emptyNested hn hd (isTreeAt_link_nil hr))
        | node rl ri rk rr =>
          rw [go_nested _ _ _ _ _ (by rw [Ne, toRG_nil_iff]; simp)] at hgo
          obtain ⟨x', hx', hx⟩ := Option.bind_eq_some_iff.1 hgo
          cases hx
          obtain ⟨hrl, _⟩ := isTreeAt_inv hr
          have ih := out_of_tree hlink (.node rl ri rk rr) _ _ _ _ x' (by simp) hr h4 hbrr hx'
            (fun id b hm => hB id b (List.mem_cons_of_mem _ hm))
          exact Out.plain (Rep.nested hn hd hrl (hB _ _ (List.mem_cons_self ..)) ih.rep)
    · -- a value or operator node
      simp only [hb, Bool.false_eq_true, if_false] at hgo hroot ⊢
      cases l with
      | nil =>
        have hlo : lo = i := by
          simp only [Spec.Tree.inorder] at h3
          have := List.range'_eq_nil_iff.1 h3.symm; omega
        subst hlo
        have hnl := isTreeAt_link_nil hl
        cases r with
        | nil =>
          have hhi : hi = lo + 1 := by
            simp only [Spec.Tree.inorder] at h4
            have := List.range'_eq_nil_iff.1 h4.symm; omega
          subst hhi
          simp only [toRG] at hgo ⊢
          rw [go_leaf, htext] at hgo
          cases he : leafE pf n.definition n.lexToken.text with
          | none => rw [he] at hgo; cases hgo
          | some e =>
            rw [he] at hgo; cases hgo
            exact Out.plain (leaf_rep hn hnl (isTreeAt_link_nil hr) he)
        | node rl ri rk rr =>
          have hne : toRG (dfOf nodes) (.node rl ri rk rr) ≠ .nil := by rw [Ne, toRG_nil_iff]; simp
          simp only [show toRG (dfOf nodes) Spec.Tree.nil = RTree.nil from rfl] at hgo ⊢
          obtain ⟨hrl, nr, hnr, _, _, hrL, hrR⟩ := isTreeAt_inv hr
          by_cases hside : isSideNode (toRG (dfOf nodes) (.node rl ri rk rr)) = true
          · -- `v [ body ]`
            obtain ⟨hrlnil, hdse⟩ := side_shape hnr hside
            subst hrlnil
            have hri : ri = lo + 1 := by
              simp only [Spec.Tree.inorder, List.nil_append] at h4
              have := split_range (l := []) h4
              have h5 := List.range'_eq_nil_iff.1 this.2.2.1.symm
              omega
            subst hri
            have h4' : rr.inorder = List.range' (lo + 1 + 1) (hi - (lo + 1 + 1)) := by
              simp only [Spec.Tree.inorder, List.nil_append] at h4
              exact (split_range (l := []) h4).2.2.2
            have hbr2 : bracketsOK (dfOf nodes) rr = true := by
              simp only [bracketsOK, Bool.and_eq_true] at hbrr
              exact hbrr.2
            have hrg : toRG (dfOf nodes) (.node .nil (lo + 1) rk rr) = .node .nil .sideEffect rk (toRG (dfOf nodes) rr) := by
              simp only [toRG, dfOf_get hnr, hdse]
              rfl
            rw [hrg, go_side, htext] at hgo
            obtain ⟨e, he, hgo⟩ := Option.bind_eq_some_iff.1 hgo
            obtain ⟨x', hx', hx⟩ := Option.bind_eq_some_iff.1 hgo
            cases hx
            have hrrne : rr ≠ .nil := fun e => go_ne_nil hx' ((toRG_nil_iff _ _).mpr e)
            cases rr with
            | nil => exact absurd rfl hrrne
            | node rrl rri rrk rrr =>
              obtain ⟨hrrl, _⟩ := isTreeAt_inv hrR
              have ih := out_of_tree hlink (.node rrl rri rrk rrr) _ _ _ _ x' (by simp) hrR h4' hbr2 hx' hB
              exact Out.plain (Rep.side hn hnl hrl (leaf_leafRep he) hnr hdse hrrl ih.rep)
          · rw [go_pre _ _ _ _ _ _ hne (by simpa using hside), htext] at hgo
            obtain ⟨x', hx', hx⟩ := Option.bind_eq_some_iff.1 hgo
            have hbs : ∀ id b, (id, b) ∈ x'.bodies → (id, b) ∈ x.bodies := by
              intro id b hm
              unfold preE at hx
              split at hx
              · cases hx; exact hm
              · split at hx
                · cases hx; exact hm
                · split at hx
                  · cases hx; exact hm
                  · cases hx
            have ih := out_of_tree hlink (.node rl ri rk rr) _ _ _ _ x' (by simp) hr h4 hbrr hx'
              (fun id b hm => hB id b (hbs id b hm))
            exact pre_out hn hrl ih.rep hx
      | node ll li lk lr =>
        have hnel : toRG (dfOf nodes) (.node ll li lk lr) ≠ .nil := by rw [Ne, toRG_nil_iff]; simp
        obtain ⟨hll, _⟩ := isTreeAt_inv hl
        cases r with
        | nil =>
          have hhi : hi = i + 1 := by
            simp only [Spec.Tree.inorder] at h4
            have := List.range'_eq_nil_iff.1 h4.symm; omega
          subst hhi
          simp only [show toRG (dfOf nodes) Spec.Tree.nil = RTree.nil from rfl] at hgo ⊢
          rw [go_suf _ _ _ _ _ _ hnel, htext] at hgo
          obtain ⟨x', hx', hx⟩ := Option.bind_eq_some_iff.1 hgo
          have hbs : ∀ id b, (id, b) ∈ x'.bodies → (id, b) ∈ x.bodies := by
            intro id b hm
            unfold sufE at hx
            split at hx
            · cases hx; exact hm
            · split at hx
              · cases hx; exact hm
              · cases hx
          have ih := out_of_tree hlink (.node ll li lk lr) _ _ _ _ x' (by simp) hl h3 hbrl hx'
            (fun id b hm => hB id b (hbs id b hm))
          exact suf_out hn hll ih.rep hx
        | node rl ri rk rr =>
          have hner : toRG (dfOf nodes) (.node rl ri rk rr) ≠ .nil := by rw [Ne, toRG_nil_iff]; simp
          obtain ⟨hrl, _⟩ := isTreeAt_inv hr
          rw [go_bin _ _ _ _ _ _ _ hnel hner, htext] at hgo
          obtain ⟨a, ha, hgo⟩ := Option.bind_eq_some_iff.1 hgo
          obtain ⟨b, hb', hx⟩ := Option.bind_eq_some_iff.1 hgo
          have hbs := binE_bodies hx
          have iha := out_of_tree hlink (.node ll li lk lr) _ _ _ _ a (by simp) hl h3 hbrl ha
            (fun id b hm => hB id b (hbs ▸ List.mem_append_left _ hm))
          have ihb := out_of_tree hlink (.node rl ri rk rr) _ _ _ _ b (by simp) hr h4 hbrr hb'
            (fun id b hm => hB id b (hbs ▸ List.mem_append_right _ hm))
          exact bin_out hn rfl hll hrl iha ihb (fun pn h => rootDef_toRG h) (fun pn h => rootDef_toRG h) hroot hx

end Garnish.Abs.Source

/-! ### `parse_rep`.

`WellNumbered toks r t` — three facts about the result of `parse` that the proofs behind `parse_fragF` maintain
(`NInv.inord`: the in-order walk is sorted) or that hold by construction of the nodes, but that the exported statements
(`toTree r = some t`, `ProperTree r`) do not contain; all three are decidable (`wellNumbered`):
  * `inord`    the in-order walk of the tree is `0, 1, …, nodes.size - 1`: the nodes are numbered in source order and all
               of them are in the tree (false after a trailing blank line before `}`: the separator node stays in the
               array, unlinked);
  * `linked`   a node carries the text of the token at its position (`lexToken.col`);
  * `brackets` a `( … )` / `{ … }` node has no left child (`toRG` does not look at it). -/

namespace Garnish.Abs.Source
open Garnish Garnish.Gen Garnish.Spec Garnish.Abs Garnish.Abs.Tree Garnish.Model.Parser Garnish.Model.Literals
open Garnish.Model.Build

variable {F : Type} {pf : List Char → Option F} {κ : Nat → Nat} {toks : List PToken}

structure WellNumbered (toks : List PToken) (r : ParseResult) (t : Spec.Tree) : Prop where
  inord : t.inorder = List.range r.nodes.size
  linked : Linked toks r.nodes
  brackets : bracketsOK (dfOf r.nodes) t = true

def linkedB (toks : List PToken) (nodes : Array ParseNode) : Bool :=
  nodes.toList.all (fun n => textAt toks n.lexToken.col == n.lexToken.text)

/-- the executable form of `WellNumbered` -/
def wellNumbered (toks : List PToken) (r : ParseResult) (t : Spec.Tree) : Bool :=
  t.inorder == List.range r.nodes.size && linkedB toks r.nodes && bracketsOK (dfOf r.nodes) t

theorem wellNumbered_sound {r : ParseResult} {t : Spec.Tree} (h : wellNumbered toks r t = true) : WellNumbered toks r t := by
  simp only [wellNumbered, Bool.and_eq_true, beq_iff_eq] at h
  refine ⟨h.1.1, fun i n hn => ?_, h.2⟩
  have := h.1.2
  simp only [linkedB, List.all_eq_true] at this
  have hm : n ∈ r.nodes.toList := by
    rw [Array.mem_toList_iff, Array.mem_iff_getElem?]; exact ⟨i, hn⟩
  simpa [tokPos] using this n hm

theorem lookup_nodup {id : Nat} {b : Expr F} : ∀ (bs : List (Nat × Expr F)), nodupB (bs.map (·.1)) = true →
    (id, b) ∈ bs → lookupBody bs id = some b
  | [], _, h => by cases h
  | (k, c) :: rest, hnd, h => by
    simp only [List.map, nodupB, Bool.and_eq_true, Bool.not_eq_true', List.contains_eq_mem, decide_eq_false_iff_not] at hnd
    simp only [lookupBody]
    rcases List.mem_cons.mp h with e | e
    · cases e; simp
    · have hne : ¬ k = id := by
        intro e'; subst e'
        exact hnd.1 (List.mem_map.mpr ⟨(k, b), e, rfl⟩)
      simp only [beq_iff_eq, hne, if_false]
      exact lookup_nodup rest hnd.2 e

/-- **`parse_rep`**: the node array of a parse result that is a tree (`toTree`) and well numbered represents the program its reference tree
elaborates to (for every naming `κ` of the bodies); the program is body `0` of its table; `build`'s own check of the tree
succeeds -/
theorem parse_rep (r : ParseResult) (t : Spec.Tree) (p : Program F) (ht : toTree r = some t) (hwn : WellNumbered toks r t)
    (hel : elabWith pf κ toks (toRG (dfOf r.nodes) t) = some p) :
    Rep pf r.nodes p.bodies 0 r.nodes.size r.root p.main ∧ lookupBody p.bodies 0 = some p.main ∧
      validateParseTree r.root r.nodes = .ok () := by
  obtain ⟨htree, _⟩ := (toTree_some_iff r t).mp ht
  unfold elabWith at hel
  cases hgo : go pf κ toks (toRG (dfOf r.nodes) t) with
  | none => rw [hgo] at hel; cases hel
  | some x =>
    rw [hgo] at hel
    simp only at hel
    split at hel
    · rename_i hids
      cases hel
      have hne : t ≠ .nil := fun e => go_ne_nil hgo ((toRG_nil_iff _ _).mpr e)
      cases t with
      | nil => exact absurd rfl hne
      | node l i k rt =>
        obtain ⟨hlink, n, hn, hpar, _⟩ := isTreeAt_inv htree
        have hroot : r.root = i := by
          unfold rootLink at hlink
          split at hlink
          · cases hlink
          · cases hlink; rfl
        have hin : (Spec.Tree.node l i k rt).inorder = List.range' 0 (r.nodes.size - 0) := by
          rw [hwn.inord, List.range_eq_range']; rfl
        simp only [idsOK, Bool.and_eq_true, Bool.not_eq_true', List.contains_eq_mem, decide_eq_false_iff_not] at hids
        have hB : ∀ id b, (id, b) ∈ x.bodies → lookupBody ((0, x.e) :: x.bodies) id = some b := by
          intro id b hm
          have hid : ¬ 0 = id := by
            intro e; subst e
            exact hids.1 (List.mem_map.mpr ⟨(0, b), hm, rfl⟩)
          simp only [lookupBody, beq_iff_eq, hid, if_false]
          exact lookup_nodup x.bodies hids.2 hm
        have out := out_of_tree (pf := pf) (κ := κ) hwn.linked (.node l i k rt) none _ 0 r.nodes.size x hne htree hin
          hwn.brackets hgo hB
        rw [hroot]
        refine ⟨out.rep, by simp [lookupBody], ?_⟩
        exact validate_ok (shape_of_tree (.node l i k rt) none _ 0 r.nodes.size hne htree hin) hn hpar
    · cases hel

end Garnish.Abs.Source
