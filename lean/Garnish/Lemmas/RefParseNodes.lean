/-
Every node of the reference tree sits on the token it was made from: a node `(d, k)` of `refParse toks` is a `List` node, or
`toks[k]` exists and `d` is the definition of its type (an Identifier after `.` becomes a Property) — `refParse_nodes`.
Hence a node whose definition reads the token text is never on a Whitespace / Subexpression token.
-/
import Garnish.Lemmas.ElabReads
import Garnish.Lemmas.RefParse

namespace Garnish.Spec
open Garnish Garnish.Gen Garnish.Model.Parser Garnish.Abs.Source

def nodeOK (toks : List PToken) (d : Definition) (k : Nat) : Prop :=
  d = .list ∨ ∃ tok, toks[k]? = some tok ∧
    (d = (getDefinition tok.type).1 ∨ (d = .property ∧ (getDefinition tok.type).1 = .identifier))

def TreeOK (toks : List PToken) (t : RTree) : Prop := ∀ d k, (d, k) ∈ nodeDefs t → nodeOK toks d k

theorem mem_absorb (tbl : Table) (q : Nat) (rtl : Bool) (d : Definition) (k : Nat) (x : Definition × Nat) :
    ∀ (t t' : RTree), absorb tbl q rtl d k t = some t' → x ∈ nodeDefs t' → x = (d, k) ∨ x ∈ nodeDefs t
  | .nil, _, h, _ => by cases h
  | .group _ _ _, _, h, _ => by cases h
  | .node l a ka r, t', h, hx => by
    simp only [absorb] at h
    cases h1 : absorb tbl q rtl d k r with
    | some r' =>
      rw [h1] at h; cases h
      simp only [nodeDefs, List.mem_append, List.mem_cons] at hx ⊢
      rcases hx with hx | hx | hx
      · exact Or.inr (Or.inl hx)
      · exact Or.inr (Or.inr (Or.inl hx))
      · rcases mem_absorb tbl q rtl d k x r r' h1 hx with h2 | h2
        · exact Or.inl h2
        · exact Or.inr (Or.inr (Or.inr h2))
    | none =>
      rw [h1] at h
      cases hp : tbl.prio a with
      | none => rw [hp] at h; cases h
      | some pa =>
        rw [hp] at h
        simp only at h
        split at h
        · cases h
          simp only [nodeDefs, List.mem_append, List.mem_cons, List.not_mem_nil, or_false] at hx ⊢
          rcases hx with hx | hx | hx | hx
          · exact Or.inr (Or.inl hx)
          · exact Or.inr (Or.inr (Or.inl hx))
          · exact Or.inr (Or.inr (Or.inr hx))
          · exact Or.inl hx
        · cases h

theorem attach_ok {toks : List PToken} (tbl : Table) (q : Nat) (rtl : Bool) (d : Definition) (k : Nat) {t : RTree}
    (ht : TreeOK toks t) (hd : nodeOK toks d k) : TreeOK toks (attach tbl q rtl d k t) := by
  intro d' k' hm
  unfold attach at hm
  cases h : absorb tbl q rtl d k t with
  | some t' =>
    rw [h] at hm
    rcases mem_absorb tbl q rtl d k _ t t' h hm with e | e
    · cases e; exact hd
    · exact ht _ _ e
  | none =>
    rw [h] at hm
    simp only [nodeDefs, List.mem_append, List.mem_cons, List.not_mem_nil, or_false] at hm
    rcases hm with e | e
    · exact ht _ _ e
    · cases e; exact hd

theorem plug_ok {toks : List PToken} : ∀ {R : RTree} {X : RTree}, TreeOK toks R → TreeOK toks X →
    TreeOK toks (asProperty X) → TreeOK toks (plug R X)
  | .nil, X, _, hX, _ => hX
  | .group _ _ _, _, hR, _, _ => hR
  | .node l d k r, X, hR, hX, hA => by
    intro d' k' hm
    simp only [plug] at hm
    have hl : ∀ y, y ∈ nodeDefs l → nodeOK toks y.1 y.2 := fun y hy => hR _ _ (nodeDefs_left l d k r hy)
    have hself := hR d k (nodeDefs_self l d k r)
    split at hm
    · simp only [nodeDefs, List.mem_append, List.mem_cons] at hm
      rcases hm with e | e | e
      · exact hl _ e
      · cases e; exact hself
      · split at e
        · exact hA _ _ e
        · exact hX _ _ e
    · simp only [nodeDefs, List.mem_append, List.mem_cons] at hm
      rcases hm with e | e | e
      · exact hl _ e
      · cases e; exact hself
      · exact plug_ok (R := r) (fun a b h => hR a b (nodeDefs_right l d k r h)) hX hA _ _ e

theorem leaf_ok {toks : List PToken} {pos : Nat} {tok : PToken} (h : toks[pos]? = some tok) :
    TreeOK toks (.node .nil (getDefinition tok.type).1 pos .nil) ∧
      TreeOK toks (asProperty (.node .nil (getDefinition tok.type).1 pos .nil)) := by
  constructor
  · intro d k hm
    simp only [nodeDefs, List.nil_append, List.mem_cons, List.not_mem_nil, or_false] at hm
    cases hm
    exact Or.inr ⟨tok, h, Or.inl rfl⟩
  · intro d k hm
    unfold asProperty at hm
    split at hm
    · rename_i kk heq
      simp only [nodeDefs, List.nil_append, List.mem_cons, List.not_mem_nil, or_false] at hm
      cases hm
      injection heq with _ e2 e3 _
      subst e3
      exact Or.inr ⟨tok, h, Or.inr ⟨rfl, e2⟩⟩
    · simp only [nodeDefs, List.nil_append, List.mem_cons, List.not_mem_nil, or_false] at hm
      cases hm
      exact Or.inr ⟨tok, h, Or.inl rfl⟩

/-- every node of a built tree sits on its token: the act of a token carries the definition the table gives its type -/
theorem Built.treeOK {toks : List PToken} {t : RTree} (h : Built Table.gen toks t) : TreeOK toks t := by
  have self : ∀ {k : Nat} {tok : PToken} {d : Definition}, toks[k]? = some tok → d = (Table.gen.define tok.type).1 →
      nodeOK toks d k := fun hk e => Or.inr ⟨_, hk, Or.inl e⟩
  induction h with
  | nil => intro d k hm; simp [nodeDefs] at hm
  | list _ _ ih => exact attach_ok _ _ _ _ _ ih (Or.inl rfl)
  | @operator _ _ tok _ _ _ _ _ _ hk hact ih =>
    have hsec := act_sec Table.gen tok.type; rw [hact] at hsec
    exact attach_ok _ _ _ _ _ ih (self hk hsec.1)
  | @separator _ _ tok _ _ _ hk hact _ ih =>
    have hsec := act_sec Table.gen tok.type; rw [hact] at hsec
    exact attach_ok _ _ _ _ _ ih (self hk hsec.1)
  | @operand _ _ tok _ _ _ hk hact ih =>
    have hsec := act_sec Table.gen tok.type; rw [hact] at hsec
    obtain ⟨hd, _⟩ := hsec
    subst hd
    exact plug_ok ih (leaf_ok hk).1 (leaf_ok hk).2
  | @group t i k tok d _ _ hk hact ih1 ih2 =>
    have hsec := act_sec Table.gen tok.type; rw [hact] at hsec
    have hg : TreeOK toks (.group d k i) := by
      intro d' k' hm
      simp only [nodeDefs, List.mem_cons] at hm
      rcases hm with e | e
      · cases e; exact self hk hsec.1
      · exact ih2 _ _ e
    exact plug_ok ih1 hg hg

theorem refParse_nodes (toks : List PToken) (rt : RTree) (h : refParse Table.gen toks = .ok rt) : TreeOK toks rt :=
  (refParse_built Table.gen toks rt h).treeOK

theorem refParse_text_nodes (toks : List PToken) (rt : RTree) (h : refParse Table.gen toks = .ok rt) :
    ∀ d k, (d, k) ∈ nodeDefs rt → readsText d = true →
      ∀ tok, toks[k]? = some tok → tok.type ≠ .whitespace ∧ tok.type ≠ .subexpression := by
  intro d k hm hr tok htok
  rcases refParse_nodes toks rt h d k hm with e | ⟨tok', htok', e⟩
  · subst e; cases hr
  · rw [htok] at htok'; cases htok'
    constructor
    · intro hw
      rw [hw] at e
      rcases e with e | ⟨e, e2⟩
      · rw [e] at hr; revert hr; decide
      · revert e2; decide
    · intro hw
      rw [hw] at e
      rcases e with e | ⟨e, e2⟩
      · rw [e] at hr; revert hr; decide
      · revert e2; decide

end Garnish.Spec
