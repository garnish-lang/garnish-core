/-
Whole programs: what the layout loop establishes when it starts on a data object that already holds `P0`
(`compileState P0 p`, `compileInto P0 p`), and what that gives for a run from the entry of a body. `compile p` is
`(compileInto Prog.empty p).1` by definition, so every statement here is one about `compile` at `P0 = Prog.empty`.
-/
import Garnish.Lemmas.CompileRunLocated
import Garnish.Lemmas.CompileLoop
import Garnish.Lemmas.CompileNodup
import Garnish.Lemmas.CompileComplete
namespace Garnish.Abs
open Garnish Gen Garnish.Spec

variable {F : Type}

theorem compileState_distinct (P0 : Prog F) (p : Program F) : ((compileState P0 p).done.map (·.patch)).Nodup := by
  have n0 : NInv (startState P0) := ⟨by simp [startState, pats], fun q hq => by simp [startState] at hq⟩
  have n := (layoutRoots_ninv p.bodies (bodiesSize p.bodies + 2) (startState P0) (startState_inv P0) n0).nodup
  rw [pats, List.map_append, List.nodup_append] at n
  exact n.2.1

theorem refIds_nodup : ∀ (l : List (Root F)), (∀ r ∈ l, ∀ id, r.kind = .ref id → r.patch = id) →
    (l.map (·.patch)).Nodup → (l.filterMap refId).Nodup
  | [], _, _ => by simp
  | r :: rs, hl, hn => by
    simp only [List.map_cons, List.nodup_cons] at hn
    have ih := refIds_nodup rs (fun q hq => hl q (List.mem_cons_of_mem _ hq)) hn.2
    simp only [List.filterMap_cons]
    cases hk : refId r with
    | none => exact ih
    | some id =>
      simp only
      rw [List.nodup_cons]
      refine ⟨fun hm => ?_, ih⟩
      obtain ⟨q, hq, hqid⟩ := List.mem_filterMap.1 hm
      have h1 : r.patch = id := hl r List.mem_cons_self id (by
        simp only [refId] at hk; split at hk <;> simp_all)
      have h2 : q.patch = id := hl q (List.mem_cons_of_mem _ hq) id (by
        simp only [refId] at hqid; split at hqid <;> simp_all)
      exact hn.1 (List.mem_map.2 ⟨q, hq, by rw [h2, h1]⟩)

/-- the layout loop finishes within its fuel when the nested bodies are named by their jump entries: every step lays
out one root, the roots' weights are bounded by the sizes of the bodies they name, and distinct roots name distinct
bodies -/
theorem compileState_complete (P0 : Prog F) (p : Program F)
    (hlab : ∀ r ∈ (compileState P0 p).done, ∀ id, r.kind = .ref id → r.patch = id) :
    (compileState P0 p).pending = [] := by
  apply Classical.byContradiction
  intro hne
  have hsteps := layoutRoots_steps p.bodies (bodiesSize p.bodies + 2) (startState P0) (startState_inv P0) hne
  have hbud := layoutRoots_budget p.bodies (bodiesSize p.bodies + 2) (startState P0) (startState_inv P0)
    (by simp [startState, listW, rootW, listC, sumCr])
  have hids := refIds_nodup _ hlab (compileState_distinct P0 p)
  have hsum := sumCr_le p.bodies _ hids
  have htot := totalSize_le p.bodies
  have hd0 : (startState P0).done.length = 0 := by simp [startState]
  simp only [listC] at hbud
  have e : compileState P0 p = layoutRoots p.bodies (bodiesSize p.bodies + 2) (startState P0) := rfl
  rw [← e] at hsteps hbud
  omega

theorem compileInto_env (P0 : Prog F) (p : Program F)
    (wf : ∀ id b, lookupBody p.bodies id = some b → wfC b = true)
    (labels : ∀ r ∈ (compileState P0 p).done, ∀ id, r.kind = .ref id → r.patch = id)
    (covered : ∀ id b, lookupBody p.bodies id = some b → ∃ r ∈ (compileState P0 p).done, r.kind = .ref id) :
    Env (compileInto P0 p).1 p.bodies := by
  obtain ⟨_, _, hdone, _⟩ := layoutRoots_located p.bodies (bodiesSize p.bodies + 2) (startState P0) (startState_inv P0)
    (compileState_complete P0 p labels) (fun r hr => labels r hr) (compileState_distinct P0 p)
  constructor
  intro id b hb
  obtain ⟨r, hr, hk⟩ := covered id b hb
  rcases hdone r hr with h | ⟨⟨hlab, hloc⟩, href⟩
  · simp [startState] at h
  · have hpid : r.patch = id := hlab id hk
    obtain ⟨hcont, hterm⟩ := href id hk
    have hrb : rootBody p.bodies r = some b := by simp [rootBody, hk, hb]
    obtain ⟨tb, hj, hl, hi⟩ := hloc b hrb
    rw [hcont, hpid] at hl
    rw [hpid] at hj
    have hwb := wf id b hb
    rw [hterm, termsAfter_end hl hwb] at hi
    exact ⟨tb, hj, hl, hwb, hi.1⟩

/-- relative to `Env`, for any program text `P`; stated for the strict evaluator, on which the simulation is proved -/
theorem run_body (fo : FloatOps F) (host : Host F) {P : Prog F} {bodies : List (Nat × Expr F)} (env : Env P bodies)
    {e : Nat} {main : Expr F} (hmain : lookupBody bodies e = some main) (htail : tailR main = true)
    {fuel : Nat} {input v : Val F} {st : St F}
    (h : evalBodyS fo host bodies e fuel main ⟨input, []⟩ = .ok (v, st)) :
    ∃ n s, run fo host P n { pc := P.jumps[e]?.getD 0, regs := [], vals := [input], frames := [], trace := [] } = (.halted s, n) ∧
      s.vals = [v] ∧ s.regs = [] ∧ s.frames = [] ∧ s.trace = st.trace := by
  obtain ⟨t, hjt, hloc, hwf, hend⟩ := env.body e main hmain
  have hsz := lt_of_getElem? hend
  obtain ⟨rs', hr, he⟩ := (sim_all fo host env fuel).2.2.2.2 e main ⟨input, []⟩ v st h t [] [] [] hloc hwf hjt hsz
  rw [he htail] at hr
  obtain ⟨n, hn⟩ := hr.run_halts (step_endExpression_halt hend)
  exact ⟨n, _, by rw [hjt]; exact hn, rfl, rfl, rfl, rfl⟩

end Garnish.Abs
