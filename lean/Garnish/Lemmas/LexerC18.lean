/-
For the lexer half of property C18 (Garnish/Props/C18Lex.lean): the lexer model does not depend on its position counters
(`text_row`, `text_column`, `token_start_row`, `token_start_column`, `characters_lexed`), which are only copied into the
emitted tokens.  `PosEq σ σ'` = equal up to those counters; `processChar_congr_inv` is the step.
-/
import Garnish.Lemmas.LexerC13
set_option linter.unusedSimpArgs false
namespace Garnish.Model.Lexer

/-- `σ` with other position counters -/
def setPos (σ : Lexer) (r c tr tc n : Nat) : Lexer :=
  { σ with textRow := r, textColumn := c, tokenStartRow := tr, tokenStartColumn := tc, charactersLexed := n }

/-- the two lexers agree on everything except the position counters -/
def PosEq (σ σ' : Lexer) : Prop := ∃ r c tr tc n, σ' = setPos σ r c tr tc n

theorem PosEq.refl (σ : Lexer) : PosEq σ σ := ⟨σ.textRow, σ.textColumn, σ.tokenStartRow, σ.tokenStartColumn, σ.charactersLexed, rfl⟩

theorem PosEq.symm {σ σ' : Lexer} (h : PosEq σ σ') : PosEq σ' σ := by
  obtain ⟨r, c, tr, tc, n, rfl⟩ := h
  exact ⟨σ.textRow, σ.textColumn, σ.tokenStartRow, σ.tokenStartColumn, σ.charactersLexed, rfl⟩

theorem PosEq.trans {a b c : Lexer} (h1 : PosEq a b) (h2 : PosEq b c) : PosEq a c := by
  obtain ⟨r, c1, tr, tc, n, rfl⟩ := h1
  obtain ⟨r', c', tr', tc', n', rfl⟩ := h2
  exact ⟨r', c', tr', tc', n', rfl⟩

theorem posEq_setPos (σ : Lexer) (r c tr tc n r' c' tr' tc' n' : Nat) :
    PosEq (setPos σ r c tr tc n) (setPos σ r' c' tr' tc' n') := ⟨r', c', tr', tc', n', rfl⟩

/-- a case of an arm is the same case for the lexer with other position counters: no test reads them, no arm writes them -/
theorem ArmStep.setPos {cc : CharClass} {σ σ1 : Lexer} {ch : Char} {sn : Bool} (h : ArmStep cc σ ch σ1 sn)
    (r c tr tc n : Nat) : ArmStep cc (setPos σ r c tr tc n) ch (setPos σ1 r c tr tc n) sn := by
  cases h with
  | opPath h1 h2 => exact .opPath h1 h2
  | opIdent h1 h2 h3 => exact .opIdent h1 h2 h3
  | opFloat h1 h2 h3 h4 => exact .opFloat h1 h2 h3 h4
  | opDone h1 h2 h3 h4 => exact .opDone h1 h2 h3 h4
  | numCont h1 h2 => exact .numCont h1 h2
  | numFloat h1 h2 h3 => exact .numFloat h1 h2 h3
  | numDone h1 h2 h3 => exact .numDone h1 h2 h3
  | idCont h1 h2 => exact .idCont h1 h2
  | idTick h1 h2 h3 => exact .idTick h1 h2 h3
  | idSymbol h1 h2 h3 h4 => exact .idSymbol h1 h2 h3 h4
  | idDone h1 h2 h3 h4 => exact .idDone h1 h2 h3 h4
  | sclEmpty h1 h2 h3 => exact .sclEmpty h1 h2 h3
  | sclBody h1 h2 h3 h4 => exact .sclBody h1 h2 h3 h4
  | sclSentinel h1 h2 h3 h4 => exact .sclSentinel h1 h2 h3 h4
  | sclQuote h1 h2 => exact .sclQuote h1 h2
  | sblEmpty h1 h2 h3 => exact .sblEmpty h1 h2 h3
  | sblBody h1 h2 h3 h4 => exact .sblBody h1 h2 h3 h4
  | sblSentinel h1 h2 h3 h4 => exact .sblSentinel h1 h2 h3 h4
  | sblQuote h1 h2 => exact .sblQuote h1 h2
  | clLast h1 h2 h3 => exact .clLast h1 h2 h3
  | clQuote h1 h2 h3 => exact .clQuote h1 h2 h3
  | clBody h1 h2 => exact .clBody h1 h2
  | blLast h1 h2 h3 => exact .blLast h1 h2 h3
  | blQuote h1 h2 h3 => exact .blQuote h1 h2 h3
  | blBody h1 h2 => exact .blBody h1 h2
  | spBlankLine h1 h2 h3 => exact .spBlankLine h1 h2 h3
  | spNewline h1 h2 h3 => exact .spNewline h1 h2 h3
  | spDone h1 h2 h3 => exact .spDone h1 h2 h3
  | spBlank h1 h2 h3 => exact .spBlank h1 h2 h3
  | subNewline h1 h2 => exact .subNewline h1 h2
  | subBlank h1 h2 h3 => exact .subBlank h1 h2 h3
  | subDone h1 h2 h3 => exact .subDone h1 h2 h3
  | annLine h1 h2 => exact .annLine h1 h2
  | annCont h1 h2 h3 => exact .annCont h1 h2 h3
  | annDone h1 h2 h3 => exact .annDone h1 h2 h3
  | lineNewline h1 h2 => exact .lineNewline h1 h2
  | lineSentinel h1 h2 h3 => exact .lineSentinel h1 h2 h3
  | lineCont h1 h2 h3 => exact .lineCont h1 h2 h3
  | flCont h1 h2 => exact .flCont h1 h2
  | flDone h1 h2 h3 => exact .flDone h1 h2 h3

theorem startToken_setPos (cc : CharClass) (σ : Lexer) (ch : Char) (r c tr tc n : Nat) :
    startToken cc (setPos σ r c tr tc n) ch = setPos (startToken cc σ ch) r c r c n := by
  rw [startToken_eq, startToken_eq]
  dsimp only [setPos]
  cases startKind cc σ.operatorTree σ.atEnd ch <;> rfl

def TokEq (t t' : LexerToken) : Prop := t.text = t'.text ∧ t.tokenType = t'.tokenType

def OptTokEq : Option LexerToken → Option LexerToken → Prop
  | none, none => True
  | some t, some t' => TokEq t t'
  | _, _ => False

def ResEq (p q : Lexer × Option LexerToken) : Prop := PosEq p.1 q.1 ∧ OptTokEq p.2 q.2

theorem posEq_iff (a b : Lexer) : PosEq a b ↔
    (b.operatorTree = a.operatorTree ∧ b.currentCharacters = a.currentCharacters ∧
     b.currentTokenType = a.currentTokenType ∧ b.shouldCreate = a.shouldCreate ∧ b.state = a.state ∧
     b.canFloat = a.canFloat ∧ b.startQuoteCount = a.startQuoteCount ∧ b.endQuoteCount = a.endQuoteCount ∧
     b.couldBeSubExpression = a.couldBeSubExpression ∧ b.result = a.result ∧ b.atEnd = a.atEnd) := by
  constructor
  · rintro ⟨r, c, tr, tc, n, rfl⟩
    exact ⟨rfl, rfl, rfl, rfl, rfl, rfl, rfl, rfl, rfl, rfl, rfl⟩
  · intro h
    refine ⟨b.textRow, b.textColumn, b.tokenStartRow, b.tokenStartColumn, b.charactersLexed, ?_⟩
    cases a; cases b
    simp only [setPos] at h ⊢
    obtain ⟨h1, h2, h3, h4, h5, h6, h7, h8, h9, h10, h11⟩ := h
    subst h1 h2 h3 h4 h5 h6 h7 h8 h9 h10 h11
    rfl

theorem startToken_congr (cc : CharClass) {a b : Lexer} (ch : Char) (h : PosEq a b) :
    PosEq (startToken cc a ch) (startToken cc b ch) := by
  obtain ⟨r, c, tr, tc, n, rfl⟩ := h
  exact ⟨r, c, r, c, n, startToken_setPos cc a ch r c tr tc n⟩

theorem bumpColumn_congr {a b : Lexer} (ch : Char) (h : PosEq a b) : PosEq (bumpColumn a ch) (bumpColumn b ch) := by
  obtain ⟨r, c, tr, tc, n, rfl⟩ := h
  unfold bumpColumn setPos
  split <;> simp [PosEq, setPos]

def StepEq : Step → Step → Prop
  | .cont a nt sn, .cont b nt' sn' => PosEq a b ∧ OptTokEq nt nt' ∧ sn = sn'
  | .returnNone a, .returnNone b => PosEq a b
  | _, _ => False

theorem pushNewToken_pos (σ : Lexer) (r c tr tc n : Nat) :
    StepEq (pushNewToken σ none) (pushNewToken (setPos σ r c tr tc n) none) := by
  unfold pushNewToken canCreateValidToken setPos
  simp only []
  repeat' split
  all_goals simp_all [StepEq, OptTokEq, TokEq, posEq_iff]

theorem finishChar_congr (cc : CharClass) {a b : Lexer} (ch : Char) (sn : Bool) (h : PosEq a b) :
    ResEq (finishChar cc a ch none sn) (finishChar cc b ch none sn) := by
  cases sn with
  | false =>
    simp only [finishChar, Bool.false_eq_true, ↓reduceIte]
    exact ⟨bumpColumn_congr ch h, trivial⟩
  | true =>
    obtain ⟨r, c, tr, tc, n, rfl⟩ := h
    simp only [finishChar, ↓reduceIte]
    have hp := pushNewToken_pos { a with canFloat := !blocksFloat a.currentTokenType } r c tr tc n
    have e : ({ setPos a r c tr tc n with canFloat := !blocksFloat (setPos a r c tr tc n).currentTokenType } : Lexer) =
        setPos { a with canFloat := !blocksFloat a.currentTokenType } r c tr tc n := rfl
    rw [e]
    generalize pushNewToken { a with canFloat := !blocksFloat a.currentTokenType } none = p at hp
    generalize pushNewToken (setPos { a with canFloat := !blocksFloat a.currentTokenType } r c tr tc n) none = q at hp
    cases p <;> cases q <;> simp only [StepEq] at hp
    · rename_i s1 nt1 b1 s2 nt2 b2
      obtain ⟨hpe, hte, _⟩ := hp
      obtain ⟨e0, e3, e2, e4, e1, e5, e6, e7, e8, e9, e10⟩ := (posEq_iff s1 s2).mp hpe
      simp only []
      refine ⟨bumpColumn_congr ch ?_, hte⟩
      rw [e4]
      split
      · apply startToken_congr
        rw [posEq_iff]; simp [*]
      · rw [posEq_iff]; simp [*]
    · exact ⟨hp, trivial⟩

def OutResEq : Outcome (Lexer × Option LexerToken) → Outcome (Lexer × Option LexerToken) → Prop
  | .ok p, .ok q => ResEq p q
  | _, _ => False

theorem dots_setPos (cc : CharClass) (a : Lexer) (ch : Char) (r c tr tc n : Nat) :
    PosEq (dots cc a ch) (dots cc (setPos a r c tr tc n) ch) := by
  have e : ({ setPos a r c tr tc n with tokenStartRow := (setPos a r c tr tc n).textRow } : Lexer) =
      setPos { a with tokenStartRow := a.textRow } r c r tc n := rfl
  unfold dots
  rw [e, startToken_setPos]
  exact ⟨r, c, r, c - 1, n, rfl⟩

/-- `process_char` does not depend on the position counters: they are only copied into tokens. The Float arm also reads
`text_column`, for the `text_column - 1` of the float split: whether it is 0, which `Inv` excludes on both sides. -/
theorem processChar_congr_inv (cc : CharClass) {a b : Lexer} (ch : Char) (h : PosEq a b) (ha : Inv a) (hb : Inv b) :
    OutResEq (processChar cc a ch) (processChar cc b ch) := by
  obtain ⟨r, c, tr, tc, n, rfl⟩ := h
  rw [processChar_eq, processChar_eq]
  have e : ({ setPos a r c tr tc n with charactersLexed := (setPos a r c tr tc n).charactersLexed + 1 } : Lexer) =
      setPos { a with charactersLexed := a.charactersLexed + 1 } r c tr tc (n + 1) := rfl
  rw [e]
  have ha0 : Inv { a with charactersLexed := a.charactersLexed + 1 } := ha
  have hb0 : Inv (setPos { a with charactersLexed := a.charactersLexed + 1 } r c tr tc (n + 1)) := hb
  generalize ({ a with charactersLexed := a.charactersLexed + 1 } : Lexer) = a0 at ha0 hb0 ⊢
  -- the second period of `1..` on the other side
  have other : ∀ {hs : a0.state = .float} {h1 h2}, stateStep cc (setPos a0 r c tr tc (n + 1)) ch = _ :=
    fun {hs h1 h2} => stateStep_split (σ := setPos a0 r c tr tc (n + 1)) hs h1 h2 (by have := hb0 hs; omega)
  obtain ⟨r', c', tr', tc', n', hd⟩ := dots_setPos cc a0 ch r c tr tc (n + 1)
  apply stateStep_cases (σ := a0) (P := fun ra => OutResEq (ra.bind fun st => .ok (st.finish cc ch))
    ((stateStep cc (setPos a0 r c tr tc (n + 1)) ch).bind fun st => .ok (st.finish cc ch)))
  · intro hs
    rw [stateStep_noToken cc ch (show (setPos a0 r c tr tc (n + 1)).state = _ from hs)]
    exact finishChar_congr cc ch false (startToken_congr cc ch ⟨r, c, tr, tc, n + 1, rfl⟩)
  · -- the same case of the same arm on the other side
    intro σ1 sn harm
    rw [(harm.setPos r c tr tc (n + 1)).sound]
    exact finishChar_congr cc ch sn ⟨r, c, tr, tc, n + 1, rfl⟩
  · exact fun hs h0 => absurd (ha0 hs) (by omega)
  · intro node hs h1 h2 _ hw
    rw [other (hs := hs) (h1 := h1) (h2 := h2), hd, show walkOperator (setPos (dots cc a0 ch) r' c' tr' tc' n').operatorTree
      (setPos (dots cc a0 ch) r' c' tr' tc' n').currentCharacters = some node from hw]
    exact ⟨bumpColumn_congr ch ⟨r', c', tr', tc', n', rfl⟩, rfl, rfl⟩
  · intro hs h1 h2 _ hw
    rw [other (hs := hs) (h1 := h1) (h2 := h2), hd, show walkOperator (setPos (dots cc a0 ch) r' c' tr' tc' n').operatorTree
      (setPos (dots cc a0 ch) r' c' tr' tc' n').currentCharacters = none from hw]
    exact ⟨⟨r', c', tr', tc', n', rfl⟩, trivial⟩

theorem processChar_congr (cc : CharClass) {a b : Lexer} (ch : Char) (h : PosEq a b) (hnf : a.state ≠ .float) :
    OutResEq (processChar cc a ch) (processChar cc b ch) :=
  processChar_congr_inv cc ch h (fun hf => absurd hf hnf)
    (fun hf => absurd (((posEq_iff a b).mp h).2.2.2.2.1 ▸ hf) hnf)

end Garnish.Model.Lexer
