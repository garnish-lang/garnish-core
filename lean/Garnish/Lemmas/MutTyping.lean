/-
`optimize` re-points every root to a cell of the right kind: the register head and every `previous` link of a register
cell lead to register cells, likewise for frames, and the registers a frame saved are register cells.  The four typings
of links are instances of `Compacted.kid_kind`: `optimize` keeps every typing of links by labels (copies carry their
labels — `Prov`, Lemmas/MutProv.lean — retained cells are re-pointed along links, and links keep labels:
`Compacted.link_label`); the two heads are looked up along links, so `Compacted.link_kind` types them.
What is kept is `ChainTyped`, which types the links of READABLE frame cells only (`isNode`); the typing fields of `BInv`
(Lemmas/BasicLaws.lean) speak of every frame cell: they give `ChainTyped` (`chainTyped_of_binv`) but are not given back,
and `BInv` after `optimize` is not claimed.
-/
import Garnish.Lemmas.MutOptimize
import Garnish.Lemmas.BasicLaws
namespace Garnish.BasicOpt
open Garnish Garnish.Lemmas.Runtime.Basic

/-- a register cell, by its label -/
def regLabel : Cell → Bool
  | .register _ _ | .registerRoot _ => true
  | _ => false

/-- the kind of the cell at an address -/
def kindAt (K : Cell → Bool) (cells : Array Cell) (a : Nat) : Bool :=
  match cells[a]? with
  | some c => K c
  | none => false

theorem isRegCell_kind (cells : Array Cell) (a : Nat) : isRegCell cells a = kindAt regLabel cells a := by
  unfold isRegCell kindAt
  cases cells[a]? with
  | none => rfl
  | some c => cases c <;> rfl

theorem isFrameCell_kind (cells : Array Cell) (a : Nat) : isFrameCell cells a = kindAt frameKind cells a := by
  unfold isFrameCell kindAt
  cases cells[a]? with
  | none => rfl
  | some c => cases c <;> rfl

theorem shape_chain_cell {cells : Array Cell} {a : Nat} {sh : Shape} (h : shape cells a = some sh) {c : Cell}
    (hc : cells[a]? = some c) :
    (∀ p v, c = Cell.register p v → sh.label = Cell.register 0 0 ∧ sh.kids = [p, v]) ∧
    (∀ p r, c = Cell.frame p r → sh.label = Cell.frame 0 0 ∧ sh.kids = [p, r]) ∧
    (∀ p, c = Cell.frameIndex p → sh.label = Cell.frameIndex 0 ∧ sh.kids = [p]) ∧
    (∀ r, c = Cell.frameRegister r → sh.label = Cell.frameRegister 0 ∧ sh.kids = [r]) := by
  unfold shape at h
  rw [hc] at h
  refine ⟨?_, ?_, ?_, ?_⟩
  · intro p v e; subst e
    simp only [Option.some.injEq] at h; subst h; exact ⟨rfl, rfl⟩
  · intro p r e; subst e
    simp only [Option.map_eq_some_iff] at h; obtain ⟨t, _, rfl⟩ := h; exact ⟨rfl, rfl⟩
  · intro p e; subst e
    simp only [Option.map_eq_some_iff] at h; obtain ⟨t, _, rfl⟩ := h; exact ⟨rfl, rfl⟩
  · intro r e; subst e
    simp only [Option.map_eq_some_iff] at h; obtain ⟨t, _, rfl⟩ := h; exact ⟨rfl, rfl⟩

theorem chain_label_cell {cells : Array Cell} {a : Nat} {sh : Shape} (h : shape cells a = some sh) :
    (sh.label = Cell.register 0 0 → ∃ p v, cells[a]? = some (Cell.register p v)) ∧
    (sh.label = Cell.frame 0 0 → ∃ p r, cells[a]? = some (Cell.frame p r)) ∧
    (sh.label = Cell.frameIndex 0 → ∃ p, cells[a]? = some (Cell.frameIndex p)) ∧
    (sh.label = Cell.frameRegister 0 → ∃ r, cells[a]? = some (Cell.frameRegister r)) := by
  obtain ⟨c, hc, hl⟩ := shape_label h
  rw [hl]
  refine ⟨?_, ?_, ?_, ?_⟩ <;> intro hlab <;> cases c <;> try (cases hlab; done)
  · exact ⟨_, _, hc⟩
  · exact ⟨_, _, hc⟩
  · exact ⟨_, hc⟩
  · exact ⟨_, hc⟩

theorem AllRel.length_eq {α β} {R : α → β → Prop} {l : List α} {l' : List β} (h : AllRel R l l') :
    l.length = l'.length := by
  induction h with
  | nil => rfl
  | cons _ _ ih => simp [ih]

theorem AllRel.get {α β} {R : α → β → Prop} : ∀ {l : List α} {l' : List β}, AllRel R l l' →
    ∀ (n : Nat) (a : α) (b : β), l[n]? = some a → l'[n]? = some b → R a b
  | _, _, .nil, n, a, b, h, _ => by simp at h
  | _, _, .cons hab t, 0, a, b, h1, h2 => by
    simp at h1 h2; subst h1; subst h2; exact hab
  | _, _, .cons hab t, n + 1, a, b, h1, h2 => by
    simp at h1 h2; exact AllRel.get t n a b h1 h2

theorem kindAt_label {K : Cell → Bool} (hK : ∀ c, K c.label = K c) {cells : Array Cell} {a : Nat} {sh : Shape}
    (h : shape cells a = some sh) : kindAt K cells a = K sh.label := by
  obtain ⟨c, hc, hl⟩ := shape_label h
  rw [kindAt, hc, hl, hK]

namespace Compacted
variable {s s' : Store} {roots m : List Nat} {s5 s6 sR : Store} (C : Compacted s s' roots m s5 s6 sR)
include C

theorem link_kind {K : Cell → Bool} (hK : ∀ c, K c.label = K c) {x x' : Nat}
    (hl : Link s6 s.cells.size s5.cells.size x x') (hx : isNode s.cells x = true) (hk : kindAt K s.cells x = true) :
    kindAt K s'.cells x' = true := by
  obtain ⟨sh, hsh⟩ := node_shape hx
  obtain ⟨sh', g1, g2⟩ := C.link_label hl hsh
  rw [kindAt_label hK g1, g2, ← kindAt_label hK hsh]; exact hk

theorem kid_kind (hstale : NoStale s) {K : Cell → Bool} (hK : ∀ c, K c.label = K c) {P : Cell → Prop} {n : Nat}
    (hs : ∀ i sh a, shape s.cells i = some sh → P sh.label → sh.kids[n]? = some a → kindAt K s.cells a = true) :
    ∀ i' sh' b, shape s'.cells i' = some sh' → P sh'.label → sh'.kids[n]? = some b →
      kindAt K s'.cells b = true := by
  have hnode : ∀ {i sh a}, shape s.cells i = some sh → a ∈ sh.kids → ∃ sha, shape s.cells a = some sha :=
    fun hsh ha => node_shape (C.pre.base.kids hsh ha)
  have kindOld : ∀ {a sha}, a < s.retention → shape s.cells a = some sha → kindAt K s.cells a = true →
      kindAt K s'.cells a = true := by
    intro a sha ha hsha hk
    obtain ⟨sh2, g1, g2⟩ := C.label_old ha hsha
    rw [kindAt_label hK g1, g2, ← kindAt_label hK hsha]; exact hk
  intro i' sh' b hsh' hP hb
  have hbm : b ∈ sh'.kids := List.mem_of_getElem? hb
  by_cases hir : i' < s.retention
  · by_cases hon : OnHead s.cells s.currentValue i'
    · -- a re-pointed chain cell: `previous` is retained, `value` is linked
      rcases C.repointed i' hir hon with ⟨p, v, v', h1, h2, h3, _⟩ | ⟨v, v', h1, h2, h3, _⟩
      · have hsh : shape s.cells i' = some ⟨.value 0 0, [], [p, v]⟩ := shape_of_solo h1 rfl
        obtain rfl : sh' = ⟨.value 0 0, [], [p, v']⟩ := solo_of_shape h2 rfl hsh'
        have hpi := C.pre.down i' p v h1
        match n, hb with
        | 0, hb =>
          cases hb
          obtain ⟨sha, hsha⟩ := hnode hsh (a := b) (by simp)
          exact kindOld (by omega) hsha (hs i' _ b hsh hP rfl)
        | 1, hb =>
          cases hb
          obtain ⟨sha, hsha⟩ := hnode hsh (a := v) (by simp)
          exact C.link_kind hK h3 (by simp [isNode, hsha]) (hs i' _ v hsh hP rfl)
      · have hsh : shape s.cells i' = some ⟨.valueRoot 0, [], [v]⟩ := shape_of_solo h1 rfl
        obtain rfl : sh' = ⟨.valueRoot 0, [], [v']⟩ := solo_of_shape h2 rfl hsh'
        match n, hb with
        | 0, hb =>
          cases hb
          obtain ⟨sha, hsha⟩ := hnode hsh (a := v) (by simp)
          exact C.link_kind hK h3 (by simp [isNode, hsha]) (hs i' _ v hsh hP rfl)
    · -- an unchanged cell: its links stay below the retention count
      have hsh : shape s.cells i' = some sh' := by rw [← C.shapeOld hir (C.keepCell i' hir hon)]; exact hsh'
      obtain ⟨sha, hsha⟩ := hnode hsh hbm
      refine kindOld ?_ hsha (hs i' sh' b hsh hP hb)
      cases hsv : svAt s.cells i' with
      | false => have := C.pre.back i' sh' hsh hsv b hbm; omega
      | true =>
        rcases sv_cell hsv with ⟨p, v, hc⟩ | ⟨v, hc⟩
        · obtain rfl : sh' = ⟨.value 0 0, [], [p, v]⟩ := solo_of_shape hc rfl hsh
          have hpi := C.pre.down i' p v hc
          simp at hbm
          rcases hbm with rfl | rfl
          · omega
          · exact (hstale i' b hir (Or.inl ⟨p, hc⟩)).resolve_right hon
        · obtain rfl : sh' = ⟨.valueRoot 0, [], [v]⟩ := solo_of_shape hc rfl hsh
          simp at hbm
          subst hbm
          exact (hstale i' b hir (Or.inr hc)).resolve_right hon
  · -- a copy: it has an original with the same label whose links are the originals of its links
    have hi' := shape_bound hsh'
    have hJ := C.sizeNew hi' (by omega)
    obtain ⟨c, hc, _, hk⟩ := C.fresh _ (by omega) hJ
    have e : s.retention + (i' - s.retention) = i' := by omega
    rcases hk with hn | ⟨sh6, hsh6, _⟩
    · have hcV : s'.cells[i']? = some c := by rw [← e, C.cellNew]; exact hc
      rw [neverNode_shape hcV hn] at hsh'; cases hsh'
    · have h6' := C.shapeNew hJ hsh6
      rw [e, hsh'] at h6'
      cases h6'
      obtain ⟨o, sh, ho, hlab, hrel⟩ := C.prov _ (by omega) hJ sh' hsh6 (List.ne_nil_of_mem hbm)
      obtain ⟨a, ha⟩ : ∃ a, sh.kids[n]? = some a := by
        have : n < sh.kids.length := by rw [hrel.length_eq]; exact (List.getElem?_eq_some_iff.mp hb).1
        exact ⟨sh.kids[n], List.getElem?_eq_getElem this⟩
      have hka := hs o sh a ho (by rw [← hlab]; exact hP) ha
      obtain ⟨sha, hsha⟩ := hnode ho (List.mem_of_getElem? ha)
      rcases AllRel.get hrel n a b ha hb with ⟨rfl, har⟩ | ⟨h1, h2, shx, shx', e3, e4, e5⟩
      · exact kindOld (by rw [← C.ret6]; exact har) hsha hka
      · have := C.shape_slid h1 e4
        have e' : b + (s5.cells.size - s.retention) - (s5.cells.size - s.retention) = b := by omega
        rw [e'] at this
        rw [kindAt_label hK this, e5, ← kindAt_label hK e3]; exact hka

end Compacted

/-- the chain typing of a store: heads and `previous` links of the register and frame chains lead to cells of their
kind, the registers a frame saved are register cells (frame cells: the readable ones, i.e. with their return point) -/
structure ChainTyped (s : Store) : Prop where
  regHead : ∀ a, s.currentRegister = some a → isRegCell s.cells a = true
  regPrev : ∀ (i p v : Nat), s.cells[i]? = some (Cell.register p v) → isRegCell s.cells p = true
  frmHead : ∀ a, s.currentFrame = some a → isFrameCell s.cells a = true
  frmPrev : ∀ (i p : Nat), isNode s.cells i = true →
    ((∃ r, s.cells[i]? = some (Cell.frame p r)) ∨ s.cells[i]? = some (Cell.frameIndex p)) → isFrameCell s.cells p = true
  frmReg : ∀ (i r : Nat), isNode s.cells i = true →
    ((∃ p, s.cells[i]? = some (Cell.frame p r)) ∨ s.cells[i]? = some (Cell.frameRegister r)) → isRegCell s.cells r = true

theorem chainTyped_of_binv {st : Garnish.Model.Runtime.Basic.BState} (h : BInv st) : ChainTyped st.store :=
  ⟨h.regHead, h.regPrev, h.ftyped.head, fun i p _ hc => h.ftyped.prev i p hc, fun i r _ hc => h.ftyped.reg i r hc⟩

theorem optimize_chainTyped {s s' : Store} {roots m : List Nat} (hwf : WFq s) (hroots : rootsOK s roots = true)
    (hstale : NoStale s) (hty : ChainTyped s) (h : Store.optimize s roots = .ok (s', m)) : ChainTyped s' := by
  obtain ⟨s5, s6, sR, C⟩ := optimize_compacted (hwf.optPre hroots) h
  have regK : ∀ c, regLabel c.label = regLabel c := fun c => by cases c <;> rfl
  have frmK : ∀ c, frameKind c.label = frameKind c := fun c => by cases c <;> rfl
  have regPrev := C.kid_kind hstale regK (P := fun l => l = .register 0 0) (n := 0) (by
    intro i sh a hsh hl ha
    obtain ⟨p, v, hc⟩ := (chain_label_cell hsh).1 hl
    rw [((shape_chain_cell hsh hc).1 p v rfl).2] at ha
    cases ha
    rw [← isRegCell_kind]; exact hty.regPrev i a v hc)
  have frmPrev := C.kid_kind hstale frmK (P := fun l => l = .frame 0 0 ∨ l = .frameIndex 0) (n := 0) (by
    intro i sh a hsh hl ha
    rw [← isFrameCell_kind]
    rcases hl with hl | hl
    · obtain ⟨p, r, hc⟩ := (chain_label_cell hsh).2.1 hl
      rw [((shape_chain_cell hsh hc).2.1 p r rfl).2] at ha
      cases ha
      exact hty.frmPrev i a (by simp [isNode, hsh]) (Or.inl ⟨r, hc⟩)
    · obtain ⟨p, hc⟩ := (chain_label_cell hsh).2.2.1 hl
      rw [((shape_chain_cell hsh hc).2.2.1 p rfl).2] at ha
      cases ha
      exact hty.frmPrev i a (by simp [isNode, hsh]) (Or.inr hc))
  have frmReg1 := C.kid_kind hstale regK (P := fun l => l = .frame 0 0) (n := 1) (by
    intro i sh a hsh hl ha
    obtain ⟨p, r, hc⟩ := (chain_label_cell hsh).2.1 hl
    rw [((shape_chain_cell hsh hc).2.1 p r rfl).2] at ha
    cases ha
    rw [← isRegCell_kind]; exact hty.frmReg i a (by simp [isNode, hsh]) (Or.inl ⟨p, hc⟩))
  have frmReg0 := C.kid_kind hstale regK (P := fun l => l = .frameRegister 0) (n := 0) (by
    intro i sh a hsh hl ha
    obtain ⟨r, hc⟩ := (chain_label_cell hsh).2.2.2 hl
    rw [((shape_chain_cell hsh hc).2.2.2 r rfl).2] at ha
    cases ha
    rw [← isRegCell_kind]; exact hty.frmReg i a (by simp [isNode, hsh]) (Or.inr hc))
  refine ⟨?_, ?_, ?_, ?_, ?_⟩
  · intro a' ha'
    rcases C.tail.register with ⟨_, e⟩ | ⟨i, m', e1, e2, hl⟩
    · rw [e] at ha'; cases ha'
    · rw [e2] at ha'; cases ha'
      rw [isRegCell_kind]
      exact C.link_kind regK (C.linkR _ _ hl) (by have := hwf.reg; rw [e1] at this; exact this)
        (by rw [← isRegCell_kind]; exact hty.regHead i e1)
  · intro i p v hc
    rw [isRegCell_kind]
    exact regPrev i ⟨.register 0 0, [], [p, v]⟩ p (shape_of_solo hc rfl) rfl rfl
  · intro a' ha'
    rcases C.tail.frame with ⟨_, e⟩ | ⟨i, m', e1, e2, hl⟩
    · rw [e] at ha'; cases ha'
    · rw [e2] at ha'; cases ha'
      rw [isFrameCell_kind]
      exact C.link_kind frmK (C.linkR _ _ hl) (by have := hwf.frm; rw [e1] at this; exact this)
        (by rw [← isFrameCell_kind]; exact hty.frmHead i e1)
  · intro i p hn hc
    obtain ⟨sh, hsh⟩ := node_shape hn
    rw [isFrameCell_kind]
    rcases hc with ⟨r, hc⟩ | hc
    · obtain ⟨hl, hk⟩ := (shape_chain_cell hsh hc).2.1 p r rfl
      exact frmPrev i sh p hsh (Or.inl hl) (by rw [hk]; rfl)
    · obtain ⟨hl, hk⟩ := (shape_chain_cell hsh hc).2.2.1 p rfl
      exact frmPrev i sh p hsh (Or.inr hl) (by rw [hk]; rfl)
  · intro i r hn hc
    obtain ⟨sh, hsh⟩ := node_shape hn
    rw [isRegCell_kind]
    rcases hc with ⟨p, hc⟩ | hc
    · obtain ⟨hl, hk⟩ := (shape_chain_cell hsh hc).2.1 p r rfl
      exact frmReg1 i sh r hsh hl (by rw [hk]; rfl)
    · obtain ⟨hl, hk⟩ := (shape_chain_cell hsh hc).2.2.2 r rfl
      exact frmReg0 i sh r hsh hl (by rw [hk]; rfl)

end Garnish.BasicOpt
