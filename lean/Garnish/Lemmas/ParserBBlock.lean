/-
Side-effect blocks `[ body ]`, parser side.  The opening token goes through `parse_token` with priority 5 and makes the
SideEffect node `next_parent` / the current group (`step_sideOpen`); the body is an expression of the frame below that
node (`side_body`).
  * `[ body ]` (`parse_block`: the SideEffect node is the root), `v [ body ]` (`parse_value_block_full`: the SideEffect node
    stops at the value node and becomes its right child); the list flag that whitespace after the value has set is saved on the group stack and
    restored by `]`.
A block as the operand of a binary operator (`e op [ body ]`, `e op [ body ] v`): Lemmas/ParseBlocksOp, both sides.
-/
import Garnish.Lemmas.ParserBSyntax
import Garnish.Lemmas.RefParseShift

namespace Garnish.Spec
open Garnish Garnish.Gen Garnish.Model.Parser

/-- the state after `[` -/
def stepSE (st : PState) (o : PToken) (nodes' : Array ParseNode) (info : Info) : PState :=
  { st with nodes := nodes'.push ⟨.sideEffect, .startSideEffect, info.parent, info.left, info.right, o⟩,
            nextParent := some st.nodes.size, lastLeft := some st.nodes.size, checkForList := false,
            currentGroup := some st.groupStack.size,
            groupStack := st.groupStack.push (st.nodes.size, st.checkForList),
            previousSecondDef := .startSideEffect, lastToken := o }

theorem step_sideOpen (st : PState) (ug : Option Nat) (o : PToken) (ho : o.type = .startSideEffect)
    (hug : underGroupOf st = .ok ug) (hadj : adjustLastLeft st ug = .ok st) (hnnl : st.nextLastLeft = none)
    (hcomp : checkComposition st.previousSecondDef .startSideEffect st.checkForList = true)
    {nodes' : Array ParseNode} {info : Info}
    (hpt : parseToken st.nodes.size .sideEffect st.lastLeft (some (st.nodes.size + 1)) st.nodes ug false =
      .ok (nodes', info)) :
    step st o false = .ok (stepSE st o nodes' info) := by
  obtain ⟨hsz, hdef⟩ := parseToken_size_def hpt
  unfold step stepSE
  simp only [hug, hadj, Outcome.bind]
  rw [ho]
  simp only [getDefinition, hcomp, Bool.not_true, Bool.false_eq_true, if_false, dispatch, armStartSideEffect,
    parseTokenLeftToRight, parseTokenSt, hpt, Outcome.bind, pushNode, hdef, hnnl]
  simp [Array.size_push]

theorem openB_stepSE (st : PState) (o : PToken) (nodes' : Array ParseNode) (info : Info)
    (hsz : nodes'.size = st.nodes.size) (hir : info.right = some (st.nodes.size + 1)) (hnnl : st.nextLastLeft = none)
    (hprios : AllPrio nodes') :
    OpenB (stepSE st o nodes' info) (some st.nodes.size) ∧
      FrameStart (stepSE st o nodes' info) (some st.nodes.size) (some st.nodes.size) (st.nodes.size + 1) ∧
      AllPrio (stepSE st o nodes' info).nodes ∧ CGOK (stepSE st o nodes' info) := by
  have hn : (stepSE st o nodes' info).nodes[st.nodes.size]? =
      some ⟨.sideEffect, .startSideEffect, info.parent, info.left, info.right, o⟩ := by
    simp only [stepSE]; rw [Array.getElem?_push, if_pos hsz.symm]
  have hs : (stepSE st o nodes' info).nodes.size = st.nodes.size + 1 := by simp [stepSE, hsz]
  refine ⟨⟨rfl, hnnl, ?_, rfl, ?_, Or.inr ?_, Or.inr (Or.inr (Or.inr (Or.inr (Or.inr (Or.inl rfl)))))⟩, ?_, ?_, ?_⟩
  · simp [underGroupOf, stepSE]
  · exact adjust_noop _ _ (Or.inr ⟨_, _, rfl, hn, Or.inr rfl⟩)
  · refine ⟨⟨.sideEffect, .startSideEffect, info.parent, info.left, info.right, o⟩, 5, by omega, ?_, ?_, rfl, ?_, rfl,
      Or.inr ⟨rfl, ?_⟩⟩
    · rw [hs]; rfl
    · rw [hs, Nat.add_sub_cancel]; exact hn
    · rw [hs]; exact hir
    · rw [hs]; rfl
  · exact .bracket _ ⟨.sideEffect, .startSideEffect, info.parent, info.left, info.right, o⟩ 5 hs rfl hn rfl rfl hir
  · intro i nd hi
    simp only [stepSE, Array.getElem?_push] at hi
    split at hi
    · injection hi with hi; subst hi; exact ⟨5, rfl⟩
    · exact hprios i nd hi
  · unfold CGOK
    simp [stepSE]

/-- **the body of a side-effect block**, from the state after `[` to the state after `]` -/
theorem side_body (stp : PState) (o c : PToken) (nodes' : Array ParseNode) (info : Info) (body : Ex)
    (wsA wsB : List PToken) (hsz : nodes'.size = stp.nodes.size) (hir : info.right = some (stp.nodes.size + 1))
    (hnnl : stp.nextLastLeft = none) (hprios : AllPrio nodes') (hc : c.type = .endSideEffect)
    {F : Fl} (hbody : body.ok F false = true) (hwA : ∀ w ∈ wsA, isTriviaTok w = true) (hwB : ∀ w ∈ wsB, isTriviaTok w = true)
    (pos : Nat) (hnum : NumberedFrom pos body.toks) (rest : List PToken) :
    ∃ (st2 : PState) (E : Tree) (re : Nat) (S : ParseNode),
      loop (stepSE stp o nodes' info) (wsA ++ (body.toks ++ (wsB ++ [c])) ++ rest) = loop st2 rest ∧
      (∀ j, j < stp.nodes.size → st2.nodes[j]? = nodes'[j]?) ∧
      st2.nodes[stp.nodes.size]? = some S ∧ S.definition = .sideEffect ∧ S.parent = info.parent ∧ S.left = info.left ∧
      S.right = some re ∧ S.lexToken = o ∧
      IsTreeAt st2.nodes (some stp.nodes.size) (some re) E ∧
      SortedIn (stp.nodes.size + 1) st2.nodes.size E.inorder ∧
      stp.nodes.size + 1 < st2.nodes.size ∧ AllPrio st2.nodes ∧
      st2.groupStack = stp.groupStack ∧ st2.previousSecondDef = .endSideEffect ∧
      st2.checkForList = stp.checkForList ∧ st2.lastLeft = some stp.nodes.size ∧ st2.nextLastLeft = none ∧
      st2.currentGroup = (if stp.groupStack.isEmpty then none else some (stp.groupStack.size - 1)) ∧
      refLoop Table.gen Frame.top [] pos body.toks = .ok (toRG (dfOf st2.nodes) E) ∧
      E.inorder.length + (stp.nodes.size + 1) + body.garb = st2.nodes.size := by
  obtain ⟨hOO, hfs, hpriosO, hcgO⟩ := openB_stepSE stp o nodes' info hsz hir hnnl hprios
  have hgO : (stepSE stp o nodes' info).nodes[stp.nodes.size]? =
      some ⟨.sideEffect, .startSideEffect, info.parent, info.left, info.right, o⟩ := by
    simp only [stepSE]; rw [Array.getElem?_push, if_pos hsz.symm]
  obtain ⟨sO', hloopA, hOO', hnO', hnpO', hllO', hgsO', hcgO', hprevO'⟩ :=
    trivia_runB_prev wsA (stepSE stp o nodes' info) (some stp.nodes.size) (body.toks ++ (wsB ++ [c]) ++ rest) hOO
      (by simp [stepSE]) hwA
  have hspO : StartPrev sO' := by
    rcases hprevO' with h | h | h
    · exact Or.inr (Or.inr (Or.inl (by rw [h]; rfl)))
    · exact Or.inr (Or.inr (Or.inr (Or.inl h)))
    · exact Or.inr (Or.inr (Or.inr (Or.inr (Or.inl h))))
  have hfs' : FrameStart sO' (some stp.nodes.size) (some stp.nodes.size) (stp.nodes.size + 1) := by
    cases hfs with
    | bracket g G pg h1 h2 h3 h4 h5 h6 =>
      exact .bracket _ G pg (by rw [hnO']; exact h1) (by rw [hnpO']; exact h2) (by rw [hnO']; exact h3) h4 h5 h6
  obtain ⟨stE, E, re, cbE, hloopE, ⟨hinvE, hgsE, hcgE, ⟨ho2E, ho1E⟩, hrdE, hcntE⟩, hrefE⟩ :=
    (ex_ok body false hbody).1 sO' _ _ _ hOO' hfs' (by rw [hnO']; exact hpriosO)
      (by unfold CGOK at hcgO ⊢; rw [hcgO', hgsO']; exact hcgO)
      ⟨_, by rw [hnO']; exact hgO, rfl⟩ hspO ((wsB ++ [c]) ++ rest)
  obtain ⟨G', hG', hGr', hGd', hGp', hGl', hGt', _⟩ := bracket_node hinvE (by rw [hnO']; exact hgO) ho2E
  have hpop : stE.groupStack.pop = stp.groupStack := by rw [hgsE, hgsO']; simp [stepSE]
  obtain ⟨st2, hloopC, hn2, hgs2, hcg2, hcfl2, hll2, hprev2, hnnl2⟩ :=
    close_run (inG := false) hinvE ⟨G', hG', by rw [hGd']; rfl⟩ hG' stp.checkForList
      (by rw [hgsE, hgsO']; simp [stepSE]) c (by rw [hGd']; exact Or.inr (Or.inr ⟨rfl, hc⟩)) wsB
      (fun w hw => by unfold isGFill; rw [hwB w hw]; rfl) rest
  refine ⟨st2, E, re, G', ?_, ?_, by rw [hn2]; exact hG', hGd', hGp', hGl', hGr', hGt', by rw [hn2]; exact hinvE.n.tree,
    by rw [hn2]; exact hinvE.n.inord, by rw [hn2]; exact hinvE.n.pos, by rw [hn2]; exact hinvE.n.prios,
    by rw [hgs2, hpop], by rw [hprev2, hc]; rfl, hcfl2, hll2, hnnl2, by rw [hcg2, hpop], ?_, by rw [hn2]; exact hcntE⟩
  · have e2 : wsA ++ (body.toks ++ (wsB ++ [c])) ++ rest = wsA ++ (body.toks ++ (wsB ++ [c]) ++ rest) := by simp
    have e3 : body.toks ++ (wsB ++ [c]) ++ rest = body.toks ++ ((wsB ++ [c]) ++ rest) := by simp
    rw [e2, hloopA, e3, hloopE, hloopC]
  · intro j hj
    rw [hn2, ho1E j (by omega), hnO']
    simp only [stepSE, Array.getElem?_push]
    rw [if_neg (by omega)]
  · rw [hn2]
    have := (hrefE pos hnum Frame.top rfl rfl rfl).loop [] []
    simp only [List.append_nil] at this
    rw [this]
    unfold refLoop
    cases body.endsSuffix <;> simp

theorem comp_endSE (c : Bool) : checkComposition .endSideEffect .none c = true := by cases c <;> rfl

/-- **`[ body ]`**: the model of `parse` accepts; the result is the SideEffect node with the tree of the body below it -/
theorem parse_block (o c : PToken) (wsA wsB : List PToken) (body : Ex) (ho : o.type = .startSideEffect)
    (hc : c.type = .endSideEffect) {F : Fl} (hbody : body.ok F false = true) (hwA : ∀ w ∈ wsA, isTriviaTok w = true)
    (hwB : ∀ w ∈ wsB, isTriviaTok w = true)
    (hnum : NumberedFrom 0 (o :: (wsA ++ (body.toks ++ (wsB ++ [c]))))) :
    ∃ r t, parse (o :: (wsA ++ (body.toks ++ (wsB ++ [c])))) = .ok r ∧ toTree r = some (.node .nil 0 o.col t) ∧
      dfOf r.nodes 0 = .sideEffect ∧
      refLoop Table.gen Frame.top [] (1 + wsA.length) body.toks = .ok (toRG (dfOf r.nodes) t) := by
  have hnumB : NumberedFrom (1 + wsA.length) body.toks := by
    have h1 : NumberedFrom (0 + 1) (wsA ++ (body.toks ++ (wsB ++ [c]))) := hnum.2
    have h2 := numbered_append wsA _ _ h1
    have h3 := numbered_prefix body.toks _ _ h2
    rw [Nat.zero_add] at h3; exact h3
  have hpt : parseToken PState.init.nodes.size .sideEffect PState.init.lastLeft (some (PState.init.nodes.size + 1))
      PState.init.nodes none false = .ok (#[], ⟨.sideEffect, none, none, some 1⟩) :=
    parseToken_empty (q := 5) rfl
  have hstep := step_sideOpen PState.init none o ho rfl rfl rfl rfl hpt
  obtain ⟨st2, E, re, S, hloop, _, hS, hSd, hSp, hSl, hSr, hSt, htreeE, hinE, hszE, _, hgs2, hprev2, _, _, _, _, href, _⟩ :=
    side_body PState.init o c #[] ⟨.sideEffect, none, none, some 1⟩ body wsA wsB rfl rfl rfl
      (by intro i nd h; simp at h) hc hbody hwA hwB _ hnumB []
  have hsz0 : PState.init.nodes.size = 0 := rfl
  rw [hsz0] at hS htreeE hinE hszE
  simp only [Nat.zero_add] at hinE hszE
  have htree : IsTreeAt st2.nodes none (some 0) (.node .nil 0 o.col E) := by
    refine isTreeAt_node S hS hSp (by rw [hSl]; exact .nil _) (by rw [hSr]; exact htreeE) (by simp [tokPos, hSt])
  have hsorted : SortedIn 0 st2.nodes.size (Tree.node .nil 0 o.col E).inorder := hinE.cons (by omega)
  obtain ⟨r, hr, ht, hn⟩ := finish_gen (st := st2) (by rw [hprev2]; exact comp_endSE _) hgs2 htree hsorted.nodup
    (by simp [Tree.inorder]) (by omega)
  refine ⟨r, E, ?_, ht, by rw [hn]; simp [dfOf, hS, hSd], by rw [hn]; exact href⟩
  have hne : o :: (wsA ++ (body.toks ++ (wsB ++ [c]))) ≠ [] := List.cons_ne_nil _ _
  have e : o :: (wsA ++ (body.toks ++ (wsB ++ [c]))) = (o :: (wsA ++ (body.toks ++ wsB))) ++ [c] := by simp
  rw [parse_notrim hne (by simp only [List.head_cons, isTrimmable, ho]; rfl)
    (by rw [getLast_of_eq_append hne e]; simp only [isTrimmable, hc]; rfl)]
  simp only [loop]
  rw [isEmpty_append_of_ne wsA (List.append_ne_nil_of_left_ne_nil body.toks_ne _), hstep]
  simp only [Outcome.bind]
  have := hloop
  simp only [List.append_nil] at this
  rw [this]
  exact hr

theorem UInv.comp_sideOpen {st : PState} {ug p : Option Nat} {base : Nat} {E : Tree} {re cb : Nat}
    (h : UInv st ug p base E re cb) :
    checkComposition st.previousSecondDef .startSideEffect st.checkForList = true :=
  h.comp _ (by decide)

/-- **`v [ body ]`**: the model of `parse` accepts; the result is the value node, the SideEffect node as its right child,
    and the tree of the body below the SideEffect node -/
theorem parse_value_block_full (v o c : PToken) (ws wsA wsB : List PToken) (body : Ex) (hv : isAtom10 v = true)
    (ho : o.type = .startSideEffect) (hc : c.type = .endSideEffect) {F : Fl} (hbody : body.ok F false = true)
    (hws : ∀ w ∈ ws, isTriviaTok w = true) (hwA : ∀ w ∈ wsA, isTriviaTok w = true)
    (hwB : ∀ w ∈ wsB, isTriviaTok w = true)
    (hnum : NumberedFrom 0 (v :: (ws ++ (o :: (wsA ++ (body.toks ++ (wsB ++ [c]))))))) :
    ∃ r t, parse (v :: (ws ++ (o :: (wsA ++ (body.toks ++ (wsB ++ [c])))))) = .ok r ∧
      toTree r = some (.node .nil 0 v.col (.node .nil 1 o.col t)) ∧ dfOf r.nodes 1 = .sideEffect ∧
      dfOf r.nodes 0 = (getDefinition v.type).1 ∧
      refLoop Table.gen Frame.top [] (1 + ws.length + 1 + wsA.length) body.toks = .ok (toRG (dfOf r.nodes) t) ∧
      SortedIn 0 r.nodes.size (Tree.node .nil 0 v.col (.node .nil 1 o.col t)).inorder ∧
      (Tree.node .nil 0 v.col (.node .nil 1 o.col t)).inorder.length + body.garb = r.nodes.size := by
  obtain ⟨hsa, hqa⟩ := atom10_facts hv
  have hnum1 : NumberedFrom (0 + 1) (ws ++ (o :: (wsA ++ (body.toks ++ (wsB ++ [c]))))) := hnum.2
  have hnum2 := numbered_append ws _ _ hnum1
  have hnum3 := numbered_append wsA _ _ hnum2.2
  have hnumB : NumberedFrom (1 + ws.length + 1 + wsA.length) body.toks := by
    have := numbered_prefix body.toks _ _ hnum3
    rw [Nat.zero_add] at this; exact this
  obtain ⟨stV, hV, hnV, hlV, hcV, hnnlV, hgsV, hcgV, hpV⟩ := value_stepB PState.init none v false openB_init hv
  let V : ParseNode := ⟨underDef (aboveDef PState.init) (getDefinition v.type).1, (getDefinition v.type).2, none, none, none, v⟩
  have hVprio : priority V.definition = some 10 := underDef_prio hqa
  have hnV' : stV.nodes = #[V] := by rw [hnV]; rfl
  have hszV : stV.nodes.size = 1 := by rw [hnV']; rfl
  have hV0 : stV.nodes[0]? = some V := by rw [hnV']; rfl
  have hinvV : UInv stV none none 0 (.node .nil 0 v.col .nil) 0 stV.nodes.size := by
    refine ⟨⟨isTreeAt_node V hV0 rfl (.nil _) (.nil _) rfl, by rw [hszV]; exact sortedIn_range' 0 1 1 (by omega),
      by simp [Tree.inorder], by omega, .top 0, ?_⟩, hnnlV, ?_, ?_, ?_, ?_⟩
    · intro i nd hi
      rw [hnV'] at hi
      cases i with
      | zero => simp at hi; subst hi; exact ⟨10, hVprio⟩
      | succ k => simp at hi
    · simp [underGroupOf, hcgV, PState.init]
    · refine .plain (by rw [hlV, hszV]; rfl) ⟨V, by rw [hszV]; exact hV0, rfl, prio10_not_groupLike hVprio⟩ ?_ ?_
      · rw [hszV]; rfl
      · intro nd hnd
        rw [hszV, hV0] at hnd
        injection hnd with hnd; rw [← hnd]
        show ((getDefinition v.type).2 == SecDef.subexpression) = false
        rcases hsa with h | h <;> rw [h] <;> rfl
    · simp only [SpineG, if_neg (show 0 ≠ stV.nodes.size by omega)]
      have : dfOf stV.nodes 0 = V.definition := by simp [dfOf, hV0]
      rw [this]
      exact ⟨prio10_not_bracket hVprio, trivial⟩
    · rcases hpV with h | h
      · exact Or.inl h
      · exact Or.inr (Or.inl h)
  obtain ⟨stV', hloopW, hinvV', hnV2, hgsV2, hcgV2⟩ :=
    trivia_runU ws stV (o :: (wsA ++ (body.toks ++ (wsB ++ [c])))) hinvV hws
  have hszV' : stV'.nodes.size = 1 := by rw [hnV2]; exact hszV
  have hllV' : stV'.lastLeft = some 0 := by
    have hb := hinvV'.bot
    generalize hcb : stV.nodes.size = cb0 at hb
    cases hb with
    | plain hl _ _ _ => rw [hl, hszV']
    | closed cb G h1 _ _ _ _ _ => omega
  have hw : walkLoop stV'.nodes 5 none false (stV'.nodes.size + 1) 0 (some 0) (some 0) = .ok (some 0, some 0) := by
    unfold walkLoop
    rw [hnV2]
    simp [hV0, hVprio]
  have hq5 : priority Definition.sideEffect = some 5 := rfl
  obtain ⟨nodes', hpt, hg⟩ := parseToken_bottom (id := stV'.nodes.size) (right := some (stV'.nodes.size + 1)) hq5 hw
    (by rw [hnV2]; exact hV0) rfl
  have hsz' : nodes'.size = stV'.nodes.size := (parseToken_size_def hpt).1
  have hn0 : nodes'[0]? = some (setRight (some 1) V) := by
    rw [hg 0, if_pos rfl, hnV2, hV0, hszV]; rfl
  have hstep := step_sideOpen stV' none o ho hinvV'.hug hinvV'.adjust hinvV'.nnl hinvV'.comp_sideOpen
    (by rw [hllV']; exact hpt)
  have hprios' : AllPrio nodes' := by
    intro i nd hi
    cases i with
    | zero => rw [hn0] at hi; injection hi with hi; subst hi; exact ⟨10, hVprio⟩
    | succ k =>
      have : nodes'[k + 1]? = none := by apply Array.getElem?_eq_none; omega
      rw [this] at hi; cases hi
  obtain ⟨st2, E, re, S, hloop, hbelow, hS, hSd, hSp, hSl, hSr, hSt, htreeE, hinE, hszE, _, hgs2, hprev2, _, _, _, _, href, hcntB⟩ :=
    side_body stV' o c nodes' ⟨.sideEffect, some 0, none, some (stV'.nodes.size + 1)⟩ body wsA wsB hsz' rfl hinvV'.nnl hprios'
      hc hbody hwA hwB _ hnumB []
  rw [hszV'] at hbelow hS htreeE hinE hszE hcntB
  have h20 : st2.nodes[0]? = some (setRight (some 1) V) := by rw [hbelow 0 (by omega)]; exact hn0
  have htree : IsTreeAt st2.nodes none (some 0) (.node .nil 0 v.col (.node .nil 1 o.col E)) := by
    refine isTreeAt_node (setRight (some 1) V) h20 rfl (.nil _) ?_ rfl
    show IsTreeAt st2.nodes (some 0) (some 1) _
    exact isTreeAt_node S hS hSp (by rw [hSl]; exact .nil _) (by rw [hSr]; exact htreeE) (by simp [tokPos, hSt])
  have hsorted : SortedIn 0 st2.nodes.size (Tree.node .nil 0 v.col (.node .nil 1 o.col E)).inorder :=
    (hinE.cons (by omega)).cons (by omega)
  obtain ⟨r, hr, ht, hn⟩ := finish_gen (st := st2) (by rw [hprev2]; exact comp_endSE _)
    (by rw [hgs2, hgsV2, hgsV]; rfl) htree hsorted.nodup (by simp [Tree.inorder]) (by omega)
  have hud : underDef (aboveDef PState.init) (getDefinition v.type).1 = (getDefinition v.type).1 := by
    have : aboveDef PState.init = .drop := rfl
    rw [this]; unfold underDef; split <;> rfl
  refine ⟨r, E, ?_, ht, by rw [hn]; simp [dfOf, hS, hSd], by rw [hn]; simp [dfOf, h20, setRight, V, hud],
    by rw [hn]; exact href, by rw [hn]; exact hsorted,
    by rw [hn]; simp only [Tree.inorder, List.nil_append, List.length_cons]; omega⟩
  have hne : v :: (ws ++ (o :: (wsA ++ (body.toks ++ (wsB ++ [c]))))) ≠ [] := List.cons_ne_nil _ _
  have e : v :: (ws ++ (o :: (wsA ++ (body.toks ++ (wsB ++ [c]))))) =
      (v :: (ws ++ (o :: (wsA ++ (body.toks ++ wsB))))) ++ [c] := by simp
  rw [parse_notrim hne (atom10_not_trimmable hv) (by rw [getLast_of_eq_append hne e]; simp only [isTrimmable, hc]; rfl)]
  simp only [loop]
  rw [isEmpty_append_of_ne ws (List.cons_ne_nil _ _), hV]
  simp only [Outcome.bind]
  rw [hloopW]
  simp only [loop]
  rw [isEmpty_append_of_ne wsA (List.append_ne_nil_of_left_ne_nil body.toks_ne _), hstep]
  simp only [Outcome.bind]
  have := hloop
  simp only [List.append_nil] at this
  rw [this]
  exact hr

end Garnish.Spec
