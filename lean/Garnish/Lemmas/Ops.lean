/-
What the operations on values do as far as the types of their operands decide it. `access` and `apply` choose their arm by the pair
of types (`accessArm`, `applyArm`: the match on the two data types in garnish-core's `access` and `apply_internal`), so a fact per
arm is a fact about the 21 × 21 type pairs and is evaluated; `applyArm_case` hands a proof about `applyKind` the arm together with
the shapes of the operands. The tables of Spec/Defined are these tables, so an undefined pair takes the arm that offers to the host.
-/
import Garnish.Abs.Machine
import Garnish.Spec.Defined
import Garnish.Model.Runtime.RefinesApply
import Garnish.Lemmas.Casts
namespace Garnish.Lemmas.Runtime
open Garnish Gen Garnish.Abs Garnish.Model.Runtime

variable {F : Type} (fo : FloatOps F)

theorem typeOf_number {v : Val F} (h : v.typeOf = .number) : ∃ n, v = .num n := by
  cases v <;> simp [Val.typeOf] at h
  exact ⟨_, rfl⟩

theorem typeOf_list {v : Val F} (h : v.typeOf = .list) : ∃ xs, v = .list xs := by
  cases v <;> simp [Val.typeOf] at h
  exact ⟨_, rfl⟩

theorem typeOf_concat {v : Val F} (h : v.typeOf = .concatenation) : ∃ l r, v = .concat l r := by
  cases v <;> simp [Val.typeOf] at h
  exact ⟨_, _, rfl⟩

theorem typeOf_inv_expr {v : Val F} (h : v.typeOf = .expression) : ∃ j, v = .expr j := by
  cases v <;> simp [Val.typeOf] at h; exact ⟨_, rfl⟩
theorem typeOf_inv_ext {v : Val F} (h : v.typeOf = .external) : ∃ n, v = .ext n := by
  cases v <;> simp [Val.typeOf] at h; exact ⟨_, rfl⟩
theorem typeOf_inv_part {v : Val F} (h : v.typeOf = .partial_) : ∃ f x, v = .part f x := by
  cases v <;> simp [Val.typeOf] at h; exact ⟨_, _, rfl⟩
theorem typeOf_inv_range {v : Val F} (h : v.typeOf = .range) : ∃ a b, v = .range a b := by
  cases v <;> simp [Val.typeOf] at h; exact ⟨_, _, rfl⟩
theorem typeOf_inv_slice {v : Val F} (h : v.typeOf = .slice) : ∃ a b, v = .slice a b := by
  cases v <;> simp [Val.typeOf] at h; exact ⟨_, _, rfl⟩
theorem typeOf_inv_sym {v : Val F} (h : v.typeOf = .symbol) : ∃ y, v = .sym y := by
  cases v <;> simp [Val.typeOf] at h; exact ⟨_, rfl⟩
theorem typeOf_inv_symList {v : Val F} (h : v.typeOf = .symbolList) : ∃ ps, v = .symList ps := by
  cases v <;> simp [Val.typeOf] at h; exact ⟨_, rfl⟩

theorem access_arm (vl vr : Val F) :
    Abs.access fo vl vr = match accessArm vl.typeOf vr.typeOf with
      | .merge => (match mergeSymList vl vr with
        | some v => OpOut.val v
        | none => .err .data)
      | .get => (match getAccess fo vr vl with
        | .some v => OpOut.val v
        | .none => .val .unit
        | .unsupported => .defer .access vl vr
        | .err e => .err e)
      | .defer => .defer .access vl vr := by
  unfold Abs.access
  generalize vl.typeOf = tl
  generalize vr.typeOf = tr
  cases tl <;> first | rfl | (cases tr <;> rfl)

theorem applyKind_defer (instr : Instruction) (ur : Bool) (vl vr : Val F)
    (h : applyArm vl.typeOf vr.typeOf = .defer) :
    applyKind fo instr ur vl vr = .out (.defer instr vl vr) := by
  unfold applyKind
  split <;> first | (cases h; done) | rfl

theorem applyArm_inv (tl tr : Ty) :
    (applyArm tl tr = .expression → tl = .expression) ∧ (applyArm tl tr = .external → tl = .external) ∧
    (applyArm tl tr = .partial_ → tl = .partial_) ∧ (applyArm tl tr = .narrow → tl = .range ∧ tr = .range) ∧
    (applyArm tl tr = .sliceNarrow → tl = .slice ∧ tr = .range) ∧
    (applyArm tl tr = .accInt → tr = .number) ∧ (applyArm tl tr = .accSym → tr = .symbol) ∧
    (applyArm tl tr = .path → tl = .list ∧ tr = .symbolList) ∧ (applyArm tl tr = .mkSlice → tr = .range) ∧
    (applyArm tl tr = .merge → (tl = .symbol ∧ tr = .symbolList) ∨ (tl = .symbolList ∧ tr = .symbol) ∨
      (tl = .symbolList ∧ tr = .symbolList)) := by
  revert tl tr
  exact Ty.forall_of_all fun l _ => Ty.forall_of_all (by revert l; decide +kernel)

/-- what `applyKind` is in each arm of `applyArm`, with the shapes of the operands the arm knows -/
def ApplyCase (instr : Instruction) (ur : Bool) (l r : Val F) : ApplyArm → Prop
  | .expression => ∃ j, l = .expr j ∧ applyKind fo instr ur l r = .enter j r
  | .external => ∃ n, l = .ext n ∧ applyKind fo instr ur l r = .external n r
  | .partial_ => ∃ f x, l = .part f x ∧
      ((∃ j, f = .expr j ∧ applyKind fo instr ur l r = .enter j (if ur then .concat x r else x)) ∨
       (f.typeOf ≠ .expression ∧ applyKind fo instr ur l r = .out (.val .unit)))
  | .merge => ((∃ a ps, l = .sym a ∧ r = .symList ps) ∨ (∃ ps a, l = .symList ps ∧ r = .sym a) ∨
        (∃ ps qs, l = .symList ps ∧ r = .symList qs)) ∧
      applyKind fo instr ur l r = (match mergeSymList l r with
        | some v => .out (.val v)
        | none => .out (.err .data))
  | .narrow => ∃ a b c d, l = .range a b ∧ r = .range c d ∧
      applyKind fo instr ur l r = (match narrowRange fo l r with
        | .ok v => .out (.val v)
        | .error e => .out (.err e))
  | .sliceNarrow => ∃ v sr c d, l = .slice v sr ∧ r = .range c d ∧
      applyKind fo instr ur l r = (match narrowRange fo sr r with
        | .ok nr => .out (.val (.slice v nr))
        | .error e => .out (.err e))
  | .accInt => ∃ n, r = .num n ∧ ((∃ ps, l = .symList ps) ∨ (∃ xs, l = .list xs) ∨ (∃ a b, l = .pair a b)) ∧
      applyKind fo instr ur l r = .out (accOut (accessInt fo n l))
  | .accSym => ∃ s, r = .sym s ∧ ((∃ a b, l = .pair a b) ∨ (∃ xs, l = .list xs)) ∧
      applyKind fo instr ur l r = .out (accOut (accessSym s l))
  | .path => ∃ items ps, l = .list items ∧ r = .symList ps ∧ applyKind fo instr ur l r = .out (accOut (accessPath fo ps l))
  | .mkSlice => (∃ c d, r = .range c d) ∧ applyKind fo instr ur l r = .out (.val (.slice l r))
  | .defer => applyKind fo instr ur l r = .out (.defer instr l r)

theorem applyArm_case (instr : Instruction) (ur : Bool) (l r : Val F) :
    ApplyCase fo instr ur l r (applyArm l.typeOf r.typeOf) := by
  obtain ⟨iexp, iext, ipart, inar, isn, iint, isym, ipath, imk, imerge⟩ := applyArm_inv l.typeOf r.typeOf
  have hk : ∀ a : Acc F, (match a with
      | .some v => ApplyKind.out (.val v) | .none => .out (.val .unit)
      | .unsupported => .out (.err .unsupported) | .err e => .out (.err e)) = .out (accOut a) := by
    intro a; cases a <;> rfl
  cases harm : applyArm l.typeOf r.typeOf
  case defer => exact applyKind_defer fo instr ur l r harm
  case expression => obtain ⟨j, rfl⟩ := typeOf_inv_expr (iexp harm); exact ⟨j, rfl, rfl⟩
  case external => obtain ⟨j, rfl⟩ := typeOf_inv_ext (iext harm); exact ⟨j, rfl, rfl⟩
  case partial_ =>
    obtain ⟨f, x, rfl⟩ := typeOf_inv_part (ipart harm)
    refine ⟨f, x, rfl, ?_⟩
    cases f <;> first | exact .inl ⟨_, rfl, rfl⟩ | exact .inr ⟨nofun, rfl⟩
  case narrow =>
    obtain ⟨a, b, rfl⟩ := typeOf_inv_range (inar harm).1
    obtain ⟨c, d, rfl⟩ := typeOf_inv_range (inar harm).2
    exact ⟨a, b, c, d, rfl, rfl, rfl⟩
  case sliceNarrow =>
    obtain ⟨a, b, rfl⟩ := typeOf_inv_slice (isn harm).1
    obtain ⟨c, d, rfl⟩ := typeOf_inv_range (isn harm).2
    exact ⟨a, b, c, d, rfl, rfl, rfl⟩
  case accInt =>
    obtain ⟨n, rfl⟩ := typeOf_number (iint harm)
    cases l <;> first
      | (cases harm; done)
      | exact ⟨n, rfl, .inl ⟨_, rfl⟩, hk _⟩
      | exact ⟨n, rfl, .inr (.inl ⟨_, rfl⟩), hk _⟩
      | exact ⟨n, rfl, .inr (.inr ⟨_, _, rfl⟩), hk _⟩
  case accSym =>
    obtain ⟨y, rfl⟩ := typeOf_inv_sym (isym harm)
    cases l <;> first
      | (cases harm; done)
      | exact ⟨y, rfl, .inl ⟨_, _, rfl⟩, hk _⟩
      | exact ⟨y, rfl, .inr ⟨_, rfl⟩, hk _⟩
  case path =>
    obtain ⟨xs, rfl⟩ := typeOf_list (ipath harm).1
    obtain ⟨ps, rfl⟩ := typeOf_inv_symList (ipath harm).2
    refine ⟨xs, ps, rfl, rfl, ?_⟩
    simp only [applyKind]; generalize accessPath fo _ _ = a; cases a <;> rfl
  case mkSlice =>
    obtain ⟨c, d, rfl⟩ := typeOf_inv_range (imk harm)
    refine ⟨⟨c, d, rfl⟩, ?_⟩
    cases l <;> first | (cases harm; done) | rfl
  case merge =>
    rcases imerge harm with ⟨h1, h2⟩ | ⟨h1, h2⟩ | ⟨h1, h2⟩
    · obtain ⟨y, rfl⟩ := typeOf_inv_sym h1; obtain ⟨ps, rfl⟩ := typeOf_inv_symList h2
      exact ⟨.inl ⟨_, _, rfl, rfl⟩, rfl⟩
    · obtain ⟨ps, rfl⟩ := typeOf_inv_symList h1; obtain ⟨y, rfl⟩ := typeOf_inv_sym h2
      exact ⟨.inr (.inl ⟨_, _, rfl, rfl⟩), rfl⟩
    · obtain ⟨ps, rfl⟩ := typeOf_inv_symList h1; obtain ⟨qs, rfl⟩ := typeOf_inv_symList h2
      exact ⟨.inr (.inr ⟨_, _, rfl, rfl⟩), rfl⟩

theorem geLen_int (i : Int) (n : Nat) : geLen fo (.int i) n = decide (i ≥ n) := by
  rcases partialCmp_int_cases fo i n with ⟨h, e⟩ | ⟨h, e⟩ | ⟨h, e⟩ <;> simp [geLen, e] <;> omega

/-- the same test as Abs/Ops `accessInt` spells it -/
theorem bounds_abs (i : Int) (n : Nat) : (decide (i < 0) || decide (i ≥ (n : Int))) = !decide (0 ≤ i ∧ i < (n : Int)) := by
  by_cases h1 : i < 0 <;> by_cases h2 : i ≥ (n : Int) <;> simp [h1, h2] <;> omega

/-- the item at an integer index: inside `0 ≤ i < length` the item, nothing outside -/
def itemAt {α : Type} (mk : α → Val F) (xs : List α) (i : Int) : Acc F :=
  if 0 ≤ i ∧ i < (xs.length : Int) then (match xs[i.toNat]? with | some x => .some (mk x) | none => .none) else .none

theorem accessInt_chars (i : Int) (cs : List Nat) : accessInt fo (.int i) (.chars cs) = itemAt .char cs i := by
  simp only [accessInt, numLtZero, geLen_int, bounds_abs, itemAt]
  by_cases h : 0 ≤ i ∧ i < (cs.length : Int) <;> simp [h]

theorem accessInt_bytes (i : Int) (cs : List Nat) : accessInt fo (.int i) (.bytes cs) = itemAt .byte cs i := by
  simp only [accessInt, numLtZero, geLen_int, bounds_abs, itemAt]
  by_cases h : 0 ≤ i ∧ i < (cs.length : Int) <;> simp [h]

theorem accessInt_symList (i : Int) (ps : List (SymPart F)) :
    accessInt fo (.int i) (.symList ps) = itemAt symPartVal ps i := by
  simp only [accessInt, numLtZero, geLen_int, bounds_abs, itemAt]
  by_cases h : 0 ≤ i ∧ i < (ps.length : Int) <;> simp [h]
  cases ps[i.toNat] <;> rfl

theorem cmpTail_eq_cmpList : ∀ (xs ys : List Nat) (k : Nat),
    cmpTail xs ys (k + xs.length) (k + ys.length) = Abs.cmpList xs ys
  | [], [], k => by simp [cmpTail, Abs.cmpList]
  | [], y :: ys, k => by
    simp only [cmpTail, Abs.cmpList, List.length_nil, List.length_cons]
    exact Nat.compare_eq_lt.mpr (by omega)
  | x :: xs, [], k => by
    simp only [cmpTail, Abs.cmpList, List.length_nil, List.length_cons]
    exact Nat.compare_eq_gt.mpr (by omega)
  | x :: xs, y :: ys, k => by
    have := cmpTail_eq_cmpList xs ys (k + 1)
    simp only [cmpTail, Abs.cmpList, List.length_cons]
    rw [show k + (xs.length + 1) = k + 1 + xs.length by omega, show k + (ys.length + 1) = k + 1 + ys.length by omega,
      this]

theorem cmpListFrom_zero (a b : List Nat) : cmpListFrom a b 0 0 = Abs.cmpList a b := by
  have := cmpTail_eq_cmpList a b 0
  simpa [cmpListFrom] using this

theorem arithBinary_defer {op : Instruction} {nop : NumOp} {vl vr : Val F} {op' : Instruction} {a b : Val F}
    (h : arithBinary fo op nop vl vr = .defer op' a b) : a = vl ∧ b = vr := by
  unfold arithBinary at h
  split at h <;> cases h
  exact ⟨rfl, rfl⟩

theorem arithUnary_defer {op : Instruction} {nop : NumOp} {v : Val F} {op' : Instruction} {a b : Val F}
    (h : arithUnary fo op nop v = .defer op' a b) : a = v ∧ b = .unit := by
  unfold arithUnary at h
  split at h <;> cases h
  exact ⟨rfl, rfl⟩

theorem makeRange_defer {se ee : Bool} {vl vr : Val F} {op' : Instruction} {a b : Val F}
    (h : Abs.makeRange fo se ee vl vr = .defer op' a b) : a = vl ∧ b = vr := by
  unfold Abs.makeRange at h
  split at h
  · simp only [] at h
    split at h <;> cases h
  · cases h; exact ⟨rfl, rfl⟩

theorem access_defer {vl vr : Val F} {op' : Instruction} {a b : Val F}
    (h : Abs.access fo vl vr = .defer op' a b) : a = vl ∧ b = vr := by
  rw [access_arm] at h
  cases harm : accessArm vl.typeOf vr.typeOf <;> rw [harm] at h <;> simp only [] at h
  · cases hm : mergeSymList vl vr <;> rw [hm] at h <;> cases h
  · cases hg : getAccess fo vr vl <;> rw [hg] at h <;> simp only [] at h <;> cases h
    exact ⟨rfl, rfl⟩
  · cases h; exact ⟨rfl, rfl⟩

theorem leftInternal_defer {v : Val F} {op' : Instruction} {a b : Val F}
    (h : Abs.accessLeftInternal v = .defer op' a b) : a = v ∧ b = .unit := by
  unfold Abs.accessLeftInternal at h
  split at h <;> first | (cases h; done) | (cases h; exact ⟨rfl, rfl⟩)

theorem rightInternal_defer {v : Val F} {op' : Instruction} {a b : Val F}
    (h : Abs.accessRightInternal v = .defer op' a b) : a = v ∧ b = .unit := by
  unfold Abs.accessRightInternal at h
  split at h <;> first | (cases h; done) | (cases h; exact ⟨rfl, rfl⟩)

theorem lengthInternal_defer {v : Val F} {op' : Instruction} {a b : Val F}
    (h : Abs.accessLengthInternal fo v = .defer op' a b) : a = v ∧ b = .unit := by
  unfold Abs.accessLengthInternal at h
  split at h <;> first
    | (cases h; done)
    | (cases h; exact ⟨rfl, rfl⟩)
    | (split at h <;> cases h)

theorem binaryOp_defer {op op' : Instruction} {l r a b : Val F} (h : binaryOp fo op l r = some (.defer op' a b)) :
    a = l ∧ b = r := by
  unfold binaryOp at h
  split at h
  all_goals first
    | (cases h; done)
    | exact arithBinary_defer fo (Option.some.inj h)
    | exact access_defer fo (Option.some.inj h)
    | exact makeRange_defer fo (Option.some.inj h)

theorem unaryOp_defer {op op' : Instruction} {v a b : Val F} (h : unaryOp fo op v = some (.defer op' a b)) :
    a = v ∧ b = .unit := by
  unfold unaryOp at h
  split at h
  all_goals first
    | (cases h; done)
    | exact arithUnary_defer fo (Option.some.inj h)
    | exact leftInternal_defer (Option.some.inj h)
    | exact rightInternal_defer (Option.some.inj h)
    | exact lengthInternal_defer fo (Option.some.inj h)

end Garnish.Lemmas.Runtime

namespace Garnish.Lemmas
open Garnish Gen Garnish.Abs Garnish.Model.Runtime

variable {F : Type} (fo : FloatOps F)

-- `Lemmas.arithBinary_defer`, `arithUnary_defer`, `makeRange_defer`: an operand that is not a number makes the operation defer. The
-- lemmas of the same names in `Lemmas.Runtime` above are another statement: a defer carries the operation's own operands.
theorem arithBinary_defer (op : Instruction) (nop : NumOp) (l r : Val F)
    (h : ¬ (l.typeOf = .number ∧ r.typeOf = .number)) : arithBinary fo op nop l r = .defer op l r := by
  cases l <;> first
    | rfl
    | (cases r <;> first | rfl | (exfalso; apply h; constructor <;> rfl))

theorem arithUnary_defer (op : Instruction) (nop : NumOp) (v : Val F)
    (h : v.typeOf ≠ .number) : arithUnary fo op nop v = .defer op v .unit := by
  cases v <;> first | rfl | (exfalso; apply h; rfl)

theorem makeRange_defer (se ee : Bool) (l r : Val F)
    (h : ¬ (l.typeOf = .number ∧ r.typeOf = .number)) : makeRange fo se ee l r = .defer (rangeInstr se ee) l r := by
  cases l <;> first
    | rfl
    | (cases r <;> first | rfl | (exfalso; apply h; constructor <;> rfl))

theorem definedApply_eq_arm (l r : Ty) : Spec.definedApply l r = (applyArm l r != .defer) := by
  revert l r
  exact Ty.forall_of_all fun l _ => Ty.forall_of_all (by revert l; decide +kernel)

/-- text, bytes and ranges take the look-up arm with a symbol too; the look-up answers "unsupported" there -/
theorem definedAccess_eq_arm (l r : Ty) : Spec.definedAccess l r =
    (accessArm l r != .defer && !(r == .symbol && (l == .charList || l == .byteList || l == .range))) := by
  revert l r
  exact Ty.forall_of_all fun l _ => Ty.forall_of_all (by revert l; decide +kernel)

theorem access_undefined (l r : Val F) (h : Spec.definedAccess l.typeOf r.typeOf = false) :
    access fo l r = .defer .access l r := by
  rw [definedAccess_eq_arm] at h
  by_cases ha : accessArm l.typeOf r.typeOf = .defer
  · rw [Runtime.access_arm, ha]
  · -- text, bytes or a range by symbol
    have hs : r.typeOf = .symbol ∧ (¬ l.typeOf = .charList → ¬ l.typeOf = .byteList → l.typeOf = .range) := by
      simpa [ha] using h
    cases r <;> cases hs.1
    cases l <;> first | rfl | simp [Val.typeOf] at hs

theorem apply_undefined (useRight : Bool) (instr : Instruction) (l r : Val F)
    (h : Spec.definedApply l.typeOf r.typeOf = false) :
    applyKind fo instr useRight l r = .out (.defer instr l r) :=
  Runtime.applyKind_defer fo instr useRight l r (by simpa [definedApply_eq_arm] using h)

theorem leftInternal_undefined (v : Val F) (h : Spec.definedUnary .accessLeftInternal v.typeOf = false) :
    accessLeftInternal v = .defer .accessLeftInternal v .unit := by
  cases v <;> first | rfl | cases h

theorem rightInternal_undefined (v : Val F) (h : Spec.definedUnary .accessRightInternal v.typeOf = false) :
    accessRightInternal v = .defer .accessRightInternal v .unit := by
  cases v <;> first | rfl | cases h

theorem lengthInternal_undefined (v : Val F) (h : Spec.definedUnary .accessLengthInternal v.typeOf = false) :
    accessLengthInternal fo v = .defer .accessLengthInternal v .unit := by
  cases v <;> first | rfl | cases h

end Garnish.Lemmas

namespace Garnish.Abs
open Garnish Gen Garnish.Model.Runtime

variable {F : Type}

theorem lookupSym_eq_findSome (s : Nat) : ∀ xs : List (Val F), lookupSym s xs = xs.findSome? (keyedVal s)
  | [] => rfl
  | x :: xs => by
    rw [List.findSome?_cons, ← lookupSym_eq_findSome s xs]
    cases x <;> try rfl
    rename_i l r
    cases l <;> try rfl
    rename_i k
    simp only [lookupSym, keyedVal]
    cases k == s <;> rfl

theorem keyedVal_some {s : Nat} {x v : Val F} (h : keyedVal s x = some v) : x = .pair (.sym s) v := by
  unfold keyedVal at h
  split at h
  · split at h
    · rename_i hk; cases h; rw [eq_of_beq hk]
    · cases h
  · cases h

end Garnish.Abs
