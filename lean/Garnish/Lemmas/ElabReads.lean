/-
Text-level rewrites, elaboration side (C18). `ReadEq` says what `Abs.Source.go` reads of a reference tree and a token list:
the shape, the definitions, the TEXTS of the tokens at the positions of nodes whose definition uses its text (literals,
identifiers, properties and the three backtick applications) and the names of the nested expressions; `go_readEq`.
Instances: the same tree read from two token lists (`go_congr`, `elaborate_congr`); a tree whose positions are relabelled by
`f` — the synthesized `List` nodes, whose position is never read, get position 0: `relabelL` — read from another token list
(`go_relabel`): the elaboration does not depend on the token positions stored in the tree, only on the texts found there.
-/
import Garnish.Lemmas.SourceRepTree
namespace Garnish.Abs.Source
open Garnish Garnish.Gen Garnish.Spec Garnish.Model.Parser

/-- definitions whose elaboration looks at the token text -/
def readsText : Definition → Bool
  | .number | .charList | .byteList | .symbol | .property | .identifier | .prefixApply | .suffixApply | .infixApply => true
  | _ => false

def nodeDefs : RTree → List (Definition × Nat)
  | .nil => []
  | .node l d k r => nodeDefs l ++ (d, k) :: nodeDefs r
  | .group d k inner => (d, k) :: nodeDefs inner

variable {F : Type} (pf : List Char → Option F)

theorem leafE_congr (d : Definition) (t t' : List Char) (h : readsText d = true → t = t') :
    leafE pf d t = leafE pf d t' := by
  by_cases hr : readsText d = true
  · rw [h hr]
  · unfold leafE
    split <;> first | with_reducible rfl | exact absurd rfl hr

theorem preE_congr (d : Definition) (t t' : List Char) (x : Res F) (h : readsText d = true → t = t') :
    preE d t x = preE d t' x := by
  by_cases hr : readsText d = true
  · rw [h hr]
  · have : (d == .prefixApply) = false := beq_eq_false_iff_ne.mpr fun e => hr (e ▸ rfl)
    simp only [preE, this, Bool.false_eq_true, if_false]

theorem sufE_congr (d : Definition) (t t' : List Char) (x : Res F) (h : readsText d = true → t = t') :
    sufE d t x = sufE d t' x := by
  by_cases hr : readsText d = true
  · rw [h hr]
  · have : (d == .suffixApply) = false := beq_eq_false_iff_ne.mpr fun e => hr (e ▸ rfl)
    simp only [sufE, this, Bool.false_eq_true, if_false]

theorem binE_congr (d : Definition) (t t' : List Char) (b1 b2 b3 b4 b5 : Bool) (x y : Res F)
    (h : readsText d = true → t = t') : binE d t b1 b2 b3 b4 b5 x y = binE d t' b1 b2 b3 b4 b5 x y := by
  by_cases hr : readsText d = true
  · rw [h hr]
  · have hd : d ≠ .infixApply := by
      intro hd; subst hd; exact hr rfl
    unfold binE
    dsimp only
    split
    · rfl
    · split <;> first | exact absurd rfl hd | rfl

theorem nodeDefs_self (l : RTree) (d : Definition) (k : Nat) (r : RTree) : (d, k) ∈ nodeDefs (.node l d k r) := by
  simp [nodeDefs]
theorem nodeDefs_left (l : RTree) (d : Definition) (k : Nat) (r : RTree) {x : Definition × Nat} (h : x ∈ nodeDefs l) :
    x ∈ nodeDefs (.node l d k r) := by simp [nodeDefs, h]
theorem nodeDefs_right (l : RTree) (d : Definition) (k : Nat) (r : RTree) {x : Definition × Nat} (h : x ∈ nodeDefs r) :
    x ∈ nodeDefs (.node l d k r) := by simp [nodeDefs, h]
theorem nodeDefs_inner (d : Definition) (k : Nat) (i : RTree) {x : Definition × Nat} (h : x ∈ nodeDefs i) :
    x ∈ nodeDefs (.group d k i) := by simp [nodeDefs, h]

variable (κ : Nat → Nat) (toks : List PToken)

theorem go_grp (d : Definition) (k : Nat) (i : RTree) :
    go pf κ toks (.group d k i) =
      if d == .group then (go pf κ toks i).bind (fun x => some (plain x.e x.bodies))
      else if d == .nestedExpression then
        (if i.isNil then some (plain .emptyNested [])
         else (go pf κ toks i).bind (fun x => some (plain (.nested (κ k)) ((κ k, x.e) :: x.bodies))))
      else none := by
  cases i with
  | nil =>
    rw [go.eq_2]
    simp only [go.eq_1, RTree.isNil, if_true, Option.bind]
  | node l d' k' r =>
    rw [go.eq_3 _ _ _ _ _ _ (by simp)]
    simp only [RTree.isNil, Bool.false_eq_true, if_false]
    cases go pf κ toks (.node l d' k' r) <;> rfl
  | group d' k' i' =>
    rw [go.eq_3 _ _ _ _ _ _ (by simp)]
    simp only [RTree.isNil, Bool.false_eq_true, if_false]
    cases go pf κ toks (.group d' k' i') <;> rfl

/-- what `go` reads of a tree and a token list: the shape, the definitions, the token text at the nodes whose definition
reads it, the names of the nested expressions -/
inductive ReadEq (toks toks' : List PToken) (κ κ' : Nat → Nat) : RTree → RTree → Prop where
  | nil : ReadEq toks toks' κ κ' .nil .nil
  | node {l l' r r' : RTree} {d : Definition} {k k' : Nat} : ReadEq toks toks' κ κ' l l' → ReadEq toks toks' κ κ' r r' →
      (readsText d = true → textAt toks k = textAt toks' k') → ReadEq toks toks' κ κ' (.node l d k r) (.node l' d k' r')
  | group {i i' : RTree} {d : Definition} {k k' : Nat} : ReadEq toks toks' κ κ' i i' →
      (d = .nestedExpression → κ k = κ' k') → ReadEq toks toks' κ κ' (.group d k i) (.group d k' i')

variable {κ toks} {toks' : List PToken} {κ' : Nat → Nat}

theorem ReadEq.nil_iff {t t' : RTree} (h : ReadEq toks toks' κ κ' t t') : t = .nil ↔ t' = .nil := by
  cases h <;> simp

theorem ReadEq.rootDef {t t' : RTree} (h : ReadEq toks toks' κ κ' t t') : rootDef t = rootDef t' := by
  cases h <;> rfl

theorem ReadEq.isSideNode {t t' : RTree} (h : ReadEq toks toks' κ κ' t t') : isSideNode t = isSideNode t' := by
  cases h with
  | nil => rfl
  | group _ _ => rfl
  | node h1 _ _ => cases h1 <;> rfl

theorem go_readEq : ∀ (t t' : RTree), ReadEq toks toks' κ κ' t t' → go pf κ toks t = go pf κ' toks' t'
  | _, _, .nil => by simp [go.eq_1]
  | .group d k i, .group _ k' i', .group hi hk => by
    have hn : i.isNil = i'.isNil := by cases hi <;> rfl
    rw [go_grp, go_grp, go_readEq i i' hi, hn]
    by_cases hd : d = .nestedExpression
    · rw [hk hd]
    · have hd' : (d == .nestedExpression) = false := by simpa using hd
      simp only [hd', Bool.false_eq_true, if_false]
  | .node l d k r, .node l' _ k' r', .node hl hr ht => by
    have ihl := go_readEq l l' hl
    have ihr := go_readEq r r' hr
    by_cases hln : l = .nil
    · have hln' := hl.nil_iff.mp hln
      subst hln; subst hln'
      by_cases hrn : r = .nil
      · have hrn' := hr.nil_iff.mp hrn
        subst hrn; subst hrn'
        rw [go_leaf, go_leaf, leafE_congr pf d _ _ ht]
      · have hrn' : r' ≠ .nil := fun e => hrn (hr.nil_iff.mpr e)
        by_cases hs : isSideNode r = true
        · cases hr with
          | nil => cases hs
          | group _ _ => cases hs
          | node h1 h2 h3 =>
            cases h1 with
            | node _ _ _ => cases hs
            | group _ _ => cases hs
            | nil =>
              simp only [isSideNode, beq_iff_eq] at hs
              subst hs
              rw [go_side, go_side, leafE_congr pf d _ _ ht, go_readEq _ _ h2]
        · have hs0 : isSideNode r = false := by simpa using hs
          rw [go_pre _ _ _ _ _ _ hrn hs0, go_pre _ _ _ _ _ _ hrn' (hr.isSideNode ▸ hs0), ihr]
          exact congrArg _ (funext fun x => preE_congr d _ _ x ht)
    · have hln' : l' ≠ .nil := fun e => hln (hl.nil_iff.mpr e)
      by_cases hrn : r = .nil
      · have hrn' := hr.nil_iff.mp hrn
        subst hrn; subst hrn'
        rw [go_suf _ _ _ _ _ _ hln, go_suf _ _ _ _ _ _ hln', ihl]
        exact congrArg _ (funext fun x => sufE_congr d _ _ x ht)
      · have hrn' : r' ≠ .nil := fun e => hrn (hr.nil_iff.mpr e)
        rw [go_bin _ _ _ _ _ _ _ hln hrn, go_bin _ _ _ _ _ _ _ hln' hrn', ihl, ihr]
        simp only [rootIs, rootCond, isJumpIf, hl.rootDef, hr.rootDef]
        exact congrArg _ (funext fun a => congrArg _ (funext fun b => binE_congr d _ _ _ _ _ _ _ _ _ ht))

theorem readEq_self (κ : Nat → Nat) (toks toks' : List PToken) : ∀ (t : RTree),
    (∀ d k, (d, k) ∈ nodeDefs t → readsText d = true → textAt toks k = textAt toks' k) → ReadEq toks toks' κ κ t t
  | .nil, _ => .nil
  | .node l d k r, h =>
    .node (readEq_self κ toks toks' l fun d' k' hm => h d' k' (nodeDefs_left _ _ _ _ hm))
      (readEq_self κ toks toks' r fun d' k' hm => h d' k' (nodeDefs_right _ _ _ _ hm)) (h d k (nodeDefs_self _ _ _ _))
  | .group _ _ i, h => .group (readEq_self κ toks toks' i fun d' k' hm => h d' k' (nodeDefs_inner _ _ _ hm)) fun _ => rfl

theorem go_congr (κ : Nat → Nat) (toks toks' : List PToken) (t : RTree)
    (h : ∀ d k, (d, k) ∈ nodeDefs t → readsText d = true → textAt toks k = textAt toks' k) :
    go pf κ toks t = go pf κ toks' t :=
  go_readEq pf t t (readEq_self κ toks toks' t h)

theorem elabWith_congr (κ : Nat → Nat) (toks toks' : List PToken) (t : RTree)
    (h : ∀ d k, (d, k) ∈ nodeDefs t → readsText d = true → textAt toks k = textAt toks' k) :
    elabWith pf κ toks t = elabWith pf κ toks' t := by
  unfold elabWith
  rw [go_congr pf κ toks toks' t h]

theorem elaborate_congr (toks toks' : List PToken) (t : RTree)
    (h : ∀ d k, (d, k) ∈ nodeDefs t → readsText d = true → textAt toks k = textAt toks' k) :
    elaborate pf toks t = elaborate pf toks' t := by
  unfold elaborate elabSrc
  rw [elabWith_congr pf _ toks toks' t h]
  cases elabWith pf (srcName t) toks' t with
  | none => rfl
  | some p0 => exact elabWith_congr pf _ toks toks' t h

end Garnish.Abs.Source

namespace Garnish.Abs.Source
open Garnish Garnish.Gen Garnish.Spec Garnish.Model.Parser

/-- the position given to a node of definition `d` at position `k`: `List` nodes are synthesized, their position is not
read -/
def lp (f : Nat → Nat) (d : Definition) (k : Nat) : Nat := if d == .list then 0 else f k

theorem lp_reads (f : Nat → Nat) (d : Definition) (k : Nat) (h : readsText d = true) : lp f d k = f k := by
  unfold lp
  have : (d == .list) = false := by cases d <;> first | rfl | (exfalso; simp [readsText] at h; done)
  simp [this]

def relabelL (f : Nat → Nat) : RTree → RTree
  | .nil => .nil
  | .node l d k r => .node (relabelL f l) d (lp f d k) (relabelL f r)
  | .group d k inner => .group d (f k) (relabelL f inner)

variable {F : Type} (pf : List Char → Option F)

/-- what the relabelled tree and the other token list must provide at a node -/
def NodeOK (κ κ' : Nat → Nat) (toks toks' : List PToken) (f : Nat → Nat) (d : Definition) (k : Nat) : Prop :=
  (readsText d = true → textAt toks' (f k) = textAt toks k) ∧ (d = .nestedExpression → κ' (f k) = κ k)

theorem readEq_relabel (κ κ' : Nat → Nat) (toks toks' : List PToken) (f : Nat → Nat) : ∀ (t : RTree),
    (∀ d k, (d, k) ∈ nodeDefs t → NodeOK κ κ' toks toks' f d k) → ReadEq toks' toks κ' κ (relabelL f t) t
  | .nil, _ => .nil
  | .node l d k r, h =>
    .node (readEq_relabel κ κ' toks toks' f l fun d' k' hm => h d' k' (nodeDefs_left _ _ _ _ hm))
      (readEq_relabel κ κ' toks toks' f r fun d' k' hm => h d' k' (nodeDefs_right _ _ _ _ hm))
      fun hr => by rw [lp_reads f d k hr]; exact (h d k (nodeDefs_self _ _ _ _)).1 hr
  | .group d k i, h =>
    .group (readEq_relabel κ κ' toks toks' f i fun d' k' hm => h d' k' (nodeDefs_inner _ _ _ hm))
      (h d k (by simp [nodeDefs])).2

theorem go_relabel (κ κ' : Nat → Nat) (toks toks' : List PToken) (f : Nat → Nat) (t : RTree)
    (h : ∀ d k, (d, k) ∈ nodeDefs t → NodeOK κ κ' toks toks' f d k) :
    go pf κ' toks' (relabelL f t) = go pf κ toks t :=
  go_readEq pf _ t (readEq_relabel κ κ' toks toks' f t h)

end Garnish.Abs.Source
