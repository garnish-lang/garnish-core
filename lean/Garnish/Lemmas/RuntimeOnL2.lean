/-
The contract `StoreLawsOnL` and the step lemmas behind `C01_refine_step_onL` (Props/RuntimeRefineOnL.lean): the clauses
of `StoreLawsOn` other than `addToList` / `endList` (`StoreLawsOnNoList`, Props/C19StoreOn.lean), a shadow store that
has the full contract (the idealised `add_to_list` / `end_list` may live in ghost state; for a store with the two
clauses the shadow is the store itself) and the list law in the shape of the runtime's `make_list` (`ListPopLawOn`):
`start_list(len)`, the add loop over the top `len` registers, `len` × `pop_register`, `end_list` answer `Ok` with the
list of the popped registers, bottom-most first.  `handle_makeListL`: the `MakeList` handler against the machine's
table, from the law. Every instruction of `shadowCovered` goes through `refine_step_on4` on the shadow store +
`stepSimOn_shadow` (`refine_step_on_shadow`), `MakeList` comes from the law (`refine_step_makeListL`).
-/
import Garnish.Lemmas.RuntimeOnL1
namespace Garnish.Lemmas.Runtime.OnL
open Garnish Gen Garnish.Abs Garnish.Model.Equality Garnish.Model.Runtime Garnish.Lemmas.Runtime
open Garnish.Props.RuntimeRefine Garnish.Lemmas.Runtime.On Garnish.Props.C19StoreOn

variable {F σ : Type} {S : RStore F σ} {Inv : σ → Prop} {Rd : σ → Nat → Prop} {P : Prog F} {host : Host F}
  (fo : FloatOps F)

/-- the list law in the shape of `make_list`'s calls: from a state with registers `top ++ rest` whose top part
decodes to `tvs` -/
def ListPopLawOn (S : RStore F σ) (Inv : σ → Prop) : Prop :=
  ∀ (top rest : List Nat) (tvs : List (Val F)) (s : σ), Inv s → S.regs s = top ++ rest → Deep S s rest →
    DecodesList (S.view s) top tvs →
    ∃ t0 s1 t1 s2 s3 a s4, S.startList top.length s = .ok (t0, s1) ∧ S.regs s1 = top ++ rest ∧
      makeListAdd S top.length rest.length t0 s1 = .ok (t1, s2) ∧ popRegisters S top.length s2 = .ok ((), s3) ∧
      S.endList t1 s3 = .ok (a, s4) ∧ Decodes (S.view s4) a (.list tvs.reverse) ∧
      Eff S s s4 rest (S.vals s) ∧ Inv s4

structure StoreLawsOnL (S : RStore F σ) (Inv : σ → Prop) (Rd : σ → Nat → Prop) : Prop where
  noList : StoreLawsOnNoList S Inv Rd
  shadow : ∃ X Y, StoreLawsOn (shadow S X Y) Inv Rd
  listPop : ListPopLawOn S Inv

theorem StoreLawsOn.toL (L : StoreLawsOn S Inv Rd) : StoreLawsOnL S Inv Rd where
  noList := { L with }
  shadow := ⟨S.addToList, S.endList, L⟩
  listPop := by
    intro top rest tvs s hi hregs hdp hd
    obtain ⟨t0, s1, h1, e1', b1, i1⟩ := L.startList top.length s hi
    have e1 : EffI S Inv s s1 (S.regs s) (S.vals s) := ⟨e1', i1⟩
    rw [hregs] at e1
    obtain ⟨t1, s2, h2, e2, b2⟩ := Core.makeListAdd_spec L.toK top rest top.length 0 t0 s1 i1 (by omega) e1.regs
      (by rw [b1]; rfl)
    rw [e1.vals] at e2
    obtain ⟨s3, h3, e3, b3⟩ := Core.popRegisters_spec L.toK top rest s2 e2.inv (fun _ => (e1.trans e2).deep hdp) e2.regs
    rw [e2.vals] at e3
    have e03 := (e1.trans e2).trans e3
    obtain ⟨a, s4, h4, d4, e4⟩ := Core.adds_i (L.endList t1 top.reverse tvs.reverse s3 e3.inv (by rw [b3, b2])
      (decodesList_reverse (decodesList_keeps e03.keeps hd)))
    rw [e3.regs, e3.vals] at e4
    exact ⟨t0, s1, t1, s2, s3, a, s4, h1, e1.regs, h2, h3, h4, d4, (e03.trans e4).toEff, (e03.trans e4).inv⟩

section
variable (N : StoreLawsOnNoList S Inv Rd)
include N

theorem makeList_specL (LP : ListPopLawOn S Inv) {s : σ} (top rest : List Nat) (tvs : List (Val F))
    (hregs : S.regs s = top ++ rest) (hd : DecodesList (S.view s) top tvs) (hi : Inv s) (hdp : Deep S s rest) :
    PushedI S Inv s (makeList S top.length s) none rest (.list tvs.reverse) := by
  have hlen : getRegisterLen S s = .ok ((top ++ rest).length, s) := by
    show Outcome.ok ((S.regs s).length, s) = _
    rw [hregs]
  have hnot : ¬ top.length > (top ++ rest).length := by simp
  obtain ⟨t0, s1, t1, s2, s3, a, s4, h1, r1, h2, h3, h4, d4, e4, i4⟩ := LP top rest tvs s hi hregs hdp hd
  have hlen1 : getRegisterLen S s1 = .ok ((top ++ rest).length, s1) := by
    show Outcome.ok ((S.regs s1).length, s1) = _
    rw [r1]
  obtain ⟨s5, h5, e5, i5⟩ := N.pushRegister a s4 i4 (N.readable s4 a _ i4 d4 (by intro h; cases h))
  rw [e4.regs, e4.vals] at e5
  refine ⟨a, s5, ?_, e5.keeps.dec _ _ d4, ⟨e4.trans e5, i5⟩⟩
  have hcount : (top ++ rest).length - ((top ++ rest).length - top.length) = top.length := by simp
  have hstart : (top ++ rest).length - top.length = rest.length := by simp
  rw [makeList, bind_ok hlen]
  simp only [hnot, if_false]
  rw [bind_ok h1, bind_ok hlen1, bind_ok hlen1, hcount, hstart, bind_ok h2, bind_ok h3,
    bind_ok h4, bind_ok h5]; rfl

/-- `MakeList n` against the table, from the list law; a missing operand or too few registers fail on both sides -/
theorem handle_makeListL (LP : ListPopLawOn S Inv) (fuel : Nat) (H : OtherHandlers σ) {s : σ} {m : MState F}
    (hsim : Sim S P s m) (hi : Inv s) {operand : Option Nat} (hok : ∀ n, operand = some n → MDeepN m n) :
    HandlerSimI S Inv P s (dispatch fo S fuel H .makeList operand s) m (handle fo host P m .makeList operand) := by
  simp only [handle]
  split
  · trivial
  rename_i n
  split
  · trivial
  rename_i hn
  have hlen := EqualityRefine.decodesList_length hsim.2.regs
  have hdeep : Deep S s ((S.regs s).drop n) :=
    On.deep_of_sim hsim.2 (EqualityRefine.decodesList_drop n hsim.2.regs) ((hok n rfl).drop (by omega))
  have h := makeList_specL N LP ((S.regs s).take n) ((S.regs s).drop n) (m.regs.take n)
    (List.take_append_drop n _).symm (EqualityRefine.decodesList_take n hsim.2.regs) hi hdeep
  rw [List.length_take, Nat.min_eq_left (by omega)] at h
  obtain ⟨a, s1, h1, d1, e1⟩ := h
  exact Core.handlerSimI_ofEff (md := { m with regs := .list (m.regs.take n).reverse :: m.regs.drop n }) hsim.2 h1 e1
    (.cons d1 (decodesList_keeps e1.keeps (EqualityRefine.decodesList_drop n hsim.2.regs)))
    (decodesList_keeps e1.keeps hsim.2.vals) rfl
    (by simp [hsim.1])

end

/-- the side condition: `MachOKOn4` on the instructions covered -/
def MachOKOnL (S : RStore F σ) (Inv : σ → Prop) (P : Prog F) (fuel : Nat) (m : MState F) (instr : Instruction)
    (operand : Option Nat) : Prop :=
  (shadowCovered instr = true ∨ instr = .makeList) ∧ MachOKOn4 fo S Inv P fuel m instr operand

theorem refine_step_on_shadow {X : Nat → Nat → RM σ Nat} {Y : Nat → RM σ Nat}
    (L₂ : StoreLawsOn (Garnish.Lemmas.Runtime.OnL.shadow S X Y) Inv Rd) (HR : HostRefinesI S Inv host) (fuel : Nat)
    (cast : RM σ (Option Nat)) {s : σ} {m : MState F} (hsim : Sim S P s m) (hi : Inv s) (hl : Loaded S P s)
    {instr : Instruction} {operand : Option Nat} (hfetch : P.instrs[m.pc]? = some (instr, operand))
    (hc : shadowCovered instr = true) (hok : MachOKOn4 fo S Inv P fuel m instr operand) :
    StepSimOn fo host S Inv P fuel (fullHandlers fo S fuel cast) s m := by
  have hok₂ : MachOKOn4 fo (Garnish.Lemmas.Runtime.OnL.shadow S X Y) Inv P fuel m instr operand := by
    cases instr <;> first | exact hok | cases hc
  have hsim₂ : Sim (Garnish.Lemmas.Runtime.OnL.shadow S X Y) P s m := ⟨hsim.1, (simD_shadow X Y).symm ▸ hsim.2⟩
  exact stepSimOn_shadow fo X Y fuel _ _ hsim hfetch (dispatch_shadow fo X Y fuel cast operand instr hc)
    (refine_step_on4 fo L₂ (hostRefinesI_shadow X Y HR) fuel cast hsim₂ hi hl hfetch hok₂)

theorem refine_step_makeListL (N : StoreLawsOnNoList S Inv Rd) (LP : ListPopLawOn S Inv) (fuel : Nat)
    (H : OtherHandlers σ) {s : σ} {m : MState F} (hsim : Sim S P s m) (hi : Inv s)
    {operand : Option Nat} (hfetch : P.instrs[m.pc]? = some (.makeList, operand))
    (hok : ∀ n, operand = some n → MDeepN m n) : StepSimOn fo host S Inv P fuel H s m :=
  (Core.step_of_handle N.setCursor fo fuel H hsim hfetch (handle_makeListL fo N LP fuel H hsim hi hok)).on

end Garnish.Lemmas.Runtime.OnL
