/-
C18: trailing whitespace.  Whitespace / blank-line tokens appended to a token list are removed by the trimming both
parsers start with: `refParse (a ++ ws) = refParse a` and `parse (a ++ ws) = parse a`, for EVERY token list `a`.
-/
import Garnish.Lemmas.RefTrivia

namespace Garnish.Spec
open Garnish Garnish.Gen Garnish.Model.Parser

theorem trimStart_le : ∀ a : List PToken, trimStart a ≤ a.length
  | [] => Nat.le_refl _
  | t :: a => by
    simp only [trimStart, List.length_cons]
    split
    · have := trimStart_le a; omega
    · omega

theorem trimStart_all : ∀ (ws r : List PToken), (∀ w ∈ ws, isTrimmable w = true) →
    trimStart (ws ++ r) = ws.length + trimStart r
  | [], r, _ => by simp
  | w :: ws, r, h => by
    simp only [List.cons_append, trimStart, h w (List.mem_cons_self ..), if_true, List.length_cons]
    rw [trimStart_all ws r (fun x hx => h x (List.mem_cons_of_mem _ hx))]
    omega

theorem trimStart_append_lt : ∀ (a x : List PToken), trimStart a < a.length → trimStart (a ++ x) = trimStart a
  | [], _, h => by simp at h
  | t :: a, x, h => by
    simp only [List.cons_append, trimStart, List.length_cons] at h ⊢
    split
    · rename_i ht
      simp only [ht, if_true] at h
      rw [trimStart_append_lt a x (by omega)]
    · rfl

theorem trimStart_full : ∀ (a : List PToken), trimStart a = a.length → ∀ t ∈ a, isTrimmable t = true
  | [], _, t, ht => by cases ht
  | x :: a, h, t, ht => by
    simp only [trimStart, List.length_cons] at h
    split at h
    · rename_i hx
      rcases List.mem_cons.mp ht with e | e
      · rw [e]; exact hx
      · exact trimStart_full a (by omega) t e
    · omega

/-- the tokens both parsers work on -/
def trimmed (toks : List PToken) : List PToken :=
  (toks.drop (trimStart toks)).take (toks.length - trimStart toks.reverse - trimStart toks)

theorem trailing_facts (a ws : List PToken) (hws : ∀ w ∈ ws, isTrimmable w = true) :
    (a ++ ws).length - trimStart (a ++ ws).reverse = a.length - trimStart a.reverse ∧
      (trimStart a < a.length → trimStart (a ++ ws) = trimStart a) ∧
      (trimStart a = a.length → trimStart (a ++ ws) = a.length + ws.length ∧ trimStart a.reverse = a.length) := by
  have hr : trimStart (a ++ ws).reverse = ws.length + trimStart a.reverse := by
    rw [List.reverse_append]
    have := trimStart_all ws.reverse a.reverse (fun w hw => hws w (List.mem_reverse.mp hw))
    simpa using this
  refine ⟨by rw [hr, List.length_append]; omega, trimStart_append_lt a ws, ?_⟩
  intro hfull
  have hall := trimStart_full a hfull
  constructor
  · have := trimStart_all a ws hall
    rw [this]
    have h2 := trimStart_all ws [] hws
    simp only [List.append_nil] at h2
    have h3 : trimStart ([] : List PToken) = 0 := rfl
    omega
  · have := trimStart_all a.reverse [] (fun w hw => hall w (List.mem_reverse.mp hw))
    simp only [List.append_nil, List.length_reverse] at this
    have h3 : trimStart ([] : List PToken) = 0 := rfl
    omega

theorem trimEnd_eq : ∀ (l : List PToken) (n : Nat), trimStart l ≤ n → trimEnd l n = .ok (n - trimStart l)
  | [], n, _ => by simp [trimEnd, trimStart]
  | t :: l, n, h => by
    simp only [trimEnd, trimStart] at h ⊢
    split
    · rename_i ht
      simp only [ht, if_true] at h
      have hn : n ≠ 0 := by omega
      simp only [hn, if_false]
      rw [trimEnd_eq l (n - 1) (by omega)]
      congr 1; omega
    · simp

theorem trimTokens_eq (toks : List PToken) : trimTokens toks = .ok (trimmed toks) := by
  unfold trimTokens trimmed
  have hre := trimStart_le toks.reverse
  simp only [List.length_reverse] at hre
  rw [trimEnd_eq toks.reverse toks.length hre]
  simp only [Outcome.bind]
  split
  · rename_i hgt
    have : toks.length - trimStart toks.reverse - trimStart toks = 0 := by omega
    rw [this]; simp
  · split
    · omega
    · rfl

theorem trimmed_trailing (a ws : List PToken) (hws : ∀ w ∈ ws, isTrimmable w = true) : trimmed (a ++ ws) = trimmed a := by
  obtain ⟨h1, h2, h3⟩ := trailing_facts a ws hws
  unfold trimmed
  rw [h1]
  have hle := trimStart_le a
  have hre := trimStart_le a.reverse
  simp only [List.length_reverse] at hre
  by_cases hlt : trimStart a < a.length
  · rw [h2 hlt, List.drop_append_of_le_length (by omega), List.take_append_of_le_length (by simp; omega)]
  · have hfull : trimStart a = a.length := by omega
    obtain ⟨h4, h5⟩ := h3 hfull
    rw [h4, h5, hfull]
    simp

/-- `refParse` is `refLoop` on the trimmed list -/
theorem refParse_trailingSpace (tbl : Table) {a b : List PToken} (h : TrailingSpace a b) : refParse tbl b = refParse tbl a := by
  cases h with
  | mk ws hws =>
    obtain ⟨h1, h2, h3⟩ := trailing_facts a ws hws
    have e : ∀ l, refParse tbl l = if trimStart l ≥ l.length - trimStart l.reverse then .ok .nil
        else refLoop tbl Frame.top [] (trimStart l) (trimmed l) := fun _ => rfl
    rw [e, e, trimmed_trailing a ws hws, h1]
    by_cases hlt : trimStart a < a.length
    · rw [h2 hlt]
    · have hre := trimStart_le a
      obtain ⟨h4, h5⟩ := h3 (by omega)
      rw [h4, h5]; simp

theorem parse_trailingSpace {a b : List PToken} (h : TrailingSpace a b) : parse b = parse a := by
  cases h with
  | mk ws hws =>
    unfold parse
    rw [trimTokens_eq, trimTokens_eq, trimmed_trailing a ws hws]

end Garnish.Spec
