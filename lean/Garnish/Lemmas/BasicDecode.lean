/-
`Decodes` (Model/Equality.lean, over `basicView`) and the structural read-back `decode` (Store/BasicCells.lean):
whatever `decode` reads back at an address, the address `Decodes` to it (`decodes_of_decode`), on heaps whose
concatenation cells link downwards (every `WFq` store: `decodes_of_decode_wfq`).
-/
import Garnish.Lemmas.BasicLaws
namespace Garnish.Lemmas.Runtime.Basic
open Garnish Gen Garnish.Model.Equality Garnish.Model.Runtime Garnish.Model.Runtime.Basic Garnish.BasicOpt
open Garnish.Lemmas.Runtime Garnish.Lemmas.EqualityRefine

variable {F : Type} (numOf : Nat → Number F)

theorem listItems_length {cells : Array Cell} : ∀ (n a : Nat) (items : List Nat), listItems cells a n = some items →
    items.length = n
  | 0, _, items, h => by simp only [listItems, Option.some.injEq] at h; rw [← h]; rfl
  | n + 1, a, items, h => by
    simp only [listItems] at h
    cases hc : cells[a]? with
    | none => simp [hc] at h
    | some c =>
      rw [hc] at h
      cases c <;> simp only [] at h <;> try (cases h; done)
      simp only [Option.map_eq_some_iff] at h
      obtain ⟨l, hl, rfl⟩ := h
      simp [listItems_length n _ l hl]

theorem decodesList_of {cells : Array Cell} {f : Nat}
    (ih : ∀ a v, decode numOf cells f a = some v → Decodes (basicView numOf cells) a v) :
    ∀ (as : List Nat) (ts : List Tree) (vs : List (Val F)), allSome (unfold cells f) as = some ts →
      Tree.toVals numOf ts = some vs → DecodesList (basicView numOf cells) as vs
  | [], ts, vs, h1, h2 => by
    simp only [allSome, Option.some.injEq] at h1
    subst h1
    simp only [Tree.toVals, Option.some.injEq] at h2
    subst h2
    exact .nil
  | a :: as, ts, vs, h1, h2 => by
    simp only [allSome] at h1
    cases hu : unfold cells f a with
    | none => simp [hu] at h1
    | some t =>
      cases hr : allSome (unfold cells f) as with
      | none => simp [hu, hr] at h1
      | some ts' =>
        simp only [hu, hr, Option.some.injEq] at h1
        subst h1
        simp only [Tree.toVals] at h2
        cases hv : Tree.toVal numOf t with
        | none => simp [hv] at h2
        | some v =>
          cases hvs : Tree.toVals numOf ts' with
          | none => simp [hv, hvs] at h2
          | some vs' =>
            simp only [hv, hvs, Option.some.injEq] at h2
            subst h2
            exact .cons (ih a v (by simp [decode, hu, hv])) (decodesList_of ih as ts' vs' hr hvs)

theorem two_links {cells : Array Cell} {f : Nat}
    (ih : ∀ a v, decode numOf cells f a = some v → Decodes (basicView numOf cells) a v)
    {l r : Nat} {ts : List Tree} {v : Val F} (g : Val F → Val F → Val F)
    (h1 : allSome (unfold cells f) [l, r] = some ts)
    (h2 : (Tree.toVals numOf ts).bind (fun vs => match vs with | [x, y] => some (g x y) | _ => none) = some v) :
    ∃ x y, v = g x y ∧ Decodes (basicView numOf cells) l x ∧ Decodes (basicView numOf cells) r y := by
  obtain ⟨vs, hvs, hm⟩ := Option.bind_eq_some_iff.mp h2
  cases decodesList_of numOf ih [l, r] ts vs h1 hvs with
  | cons hl tl =>
    cases tl with
    | cons hr tl2 =>
      cases tl2
      cases hm
      exact ⟨_, _, rfl, hl, hr⟩

/-- **what `decode` reads back is what the address `Decodes` to**: cell by cell, the shape of the cell gives the kids
and the inline cells, `Tree.toVal` the value, and the getters of `basicView` read the same cell -/
theorem decodes_of_decode {cells : Array Cell}
    (hcat : ∀ (a l r : Nat), cells[a]? = some (Cell.concatenation l r) → l < a ∧ r < a) :
    ∀ (fuel a : Nat) (v : Val F), decode numOf cells fuel a = some v → Decodes (basicView numOf cells) a v
  | 0, a, v, h => by cases h
  | f + 1, a, v, h => by
    have ih := decodes_of_decode hcat f
    simp only [decode, unfold] at h
    cases hs : shape cells a with
    | none => simp [hs] at h
    | some sh =>
      simp only [hs] at h
      cases hk : allSome (unfold cells f) sh.kids with
      | none => simp [hk] at h
      | some ts =>
        simp only [hk, Option.map_some, Option.bind_some] at h
        obtain ⟨c, hc⟩ := shape_cell hs
        have ht := typeOf_cell (numOf := numOf) hc
        unfold shape at hs
        rw [hc] at hs
        cases c
        case unit => cases hs; cases h; exact .unit ht
        case tru => cases hs; cases h; exact .tru ht
        case fls => cases hs; cases h; exact .fls ht
        case custom => cases hs; cases h; exact .custom ht
        case type t => cases hs; cases h; exact .type ht (by rw [bv_type_, hc])
        case number n => cases hs; cases h; exact .num ht (by rw [bv_number, hc])
        case char x => cases hs; cases h; exact .char ht (by rw [bv_char, hc])
        case byte x => cases hs; cases h; exact .byte ht (by rw [bv_byte, hc])
        case symbol x => cases hs; cases h; exact .sym ht (by rw [bv_symbol, hc])
        case expression x => cases hs; cases h; exact .expr ht (by rw [bv_expression, hc])
        case external x => cases hs; cases h; exact .ext ht (by rw [bv_external, hc])
        case charList n =>
          obtain ⟨inl, hinl, rfl⟩ := Option.map_eq_some_iff.mp hs
          cases h; exact .chars ht (by rw [bv_chars, hc]; simp only [hinl, Option.map_some])
        case byteList n =>
          obtain ⟨inl, hinl, rfl⟩ := Option.map_eq_some_iff.mp hs
          cases h; exact .bytes ht (by rw [bv_bytes, hc]; simp only [hinl, Option.map_some])
        case symbolList n =>
          obtain ⟨inl, hinl, rfl⟩ := Option.map_eq_some_iff.mp hs
          cases h; exact .symList ht (by rw [bv_symList, hc]; simp only [hinl, Option.map_some])
        case pair l r =>
          cases hs
          obtain ⟨x, y, rfl, dl, dr⟩ := two_links numOf ih Val.pair hk h
          exact .pair ht (by rw [bv_pair, hc]) dl dr
        case range l r =>
          cases hs
          obtain ⟨x, y, rfl, dl, dr⟩ := two_links numOf ih Val.range hk h
          exact .range ht (by rw [bv_range, hc]) dl dr
        case slice l r =>
          cases hs
          obtain ⟨x, y, rfl, dl, dr⟩ := two_links numOf ih Val.slice hk h
          exact .slice ht (by rw [bv_slice, hc]) dl dr
        case partial_ l r =>
          cases hs
          obtain ⟨x, y, rfl, dl, dr⟩ := two_links numOf ih Val.part hk h
          exact .part ht (by rw [bv_partial_, hc]) dl dr
        case concatenation l r =>
          cases hs
          obtain ⟨x, y, rfl, dl, dr⟩ := two_links numOf ih Val.concat hk h
          obtain ⟨hl, hr⟩ := hcat _ _ _ hc
          obtain ⟨il, f1, g1⟩ := flat_of_decodes dl
          obtain ⟨ir, f2, g2⟩ := flat_of_decodes dr
          refine .concat ht (by rw [bv_concatenation, hc]) dl dr f1 f2 ?_
          rw [bv_concatItems, hc]
          simp only
          rw [if_pos ⟨hl, hr⟩, flatB_fuel cells _ _ hl, flatB_fuel cells _ _ hr, g1, g2]
        case list n k =>
          dsimp only at hs
          split at hs
          · rename_i items keys targets h1 h2
            cases hs
            obtain ⟨vs, hvs, rfl⟩ := Option.map_eq_some_iff.mp h
            have hd := decodesList_take items.length (decodesList_of numOf ih _ ts vs hk hvs)
            rw [List.take_left' rfl, listItems_length _ _ _ h1] at hd
            exact .list ht (by rw [bv_listItems, hc]; exact h1) hd
          · cases hs
        case frame | frameIndex | frameRegister | frameRoot =>
          obtain ⟨j, _, rfl⟩ := Option.map_eq_some_iff.mp hs
          cases h
        case empty | jumpPoint | instruction | value | valueRoot | register | registerRoot | instructionWithData =>
          cases hs; cases h
        case uninitializedList | listItem | associativeItem | cloneItem | cloneIndexMap => cases hs

theorem decodes_of_decode_wfq {s : Store} (hwf : WFq s) (fuel a : Nat) (v : Val F)
    (h : decode numOf s.cells fuel a = some v) : Decodes (basicView numOf s.cells) a v := by
  refine decodes_of_decode numOf ?_ fuel a v h
  intro a l r hc
  have hsh : shape s.cells a = some ⟨.concatenation 0 0, [], [l, r]⟩ := shape_of_solo hc rfl
  exact ⟨hwf.kid_lt hsh (by simp [svAt, hc, isSV]) (by simp), hwf.kid_lt hsh (by simp [svAt, hc, isSV]) (by simp)⟩

end Garnish.Lemmas.Runtime.Basic
