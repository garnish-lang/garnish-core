/-
Overwriting the `value` link of input-value cells (`get_current_value_mut`, and the re-pointing loop of `optimize`)
changes what those cells read as and nothing else; `WFq` is kept when the new links are readable addresses.
-/
import Garnish.Lemmas.MutWF
import Garnish.Lemmas.OptimizeList
namespace Garnish.BasicOpt
open Garnish

/-- `A'` is `A` with some input-value cells replaced by input-value cells -/
def SVUpd (A A' : Array Cell) : Prop :=
  A'.size = A.size ∧ ∀ j, A'[j]? = A[j]? ∨ (svAt A j = true ∧ svAt A' j = true)

theorem SVUpd.symm {A A' : Array Cell} (h : SVUpd A A') : SVUpd A' A :=
  ⟨h.1.symm, fun j => (h.2 j).elim (fun e => Or.inl e.symm) (fun e => Or.inr ⟨e.2, e.1⟩)⟩

theorem SVUpd.agreeNS {A A' : Array Cell} (h : SVUpd A A') : AgreeNS A A' := by
  intro i c hc hns
  rcases h.2 i with e | ⟨e, _⟩
  · rw [e]; exact hc
  · simp [svAt, hc, hns] at e

theorem SVUpd.svAt_eq {A A' : Array Cell} (h : SVUpd A A') (j : Nat) : svAt A' j = svAt A j := by
  rcases h.2 j with e | ⟨e1, e2⟩
  · simp only [svAt, e]
  · rw [e1, e2]

theorem SVUpd.shape_same {A A' : Array Cell} (h : SVUpd A A') {j : Nat} (hsame : A'[j]? = A[j]?) :
    shape A' j = shape A j := by
  have one : ∀ {B B' : Array Cell}, SVUpd B B' → B'[j]? = B[j]? → ∀ sh, shape B j = some sh → shape B' j = some sh := by
    intro B B' hu hs sh hsh
    cases hsv : svAt B j with
    | false => exact shape_agreeS hu.agreeNS hsh hsv
    | true =>
      rcases sv_cell hsv with ⟨p, v, hc⟩ | ⟨v, hc⟩
      · rw [shape_of_solo hc (sh := ⟨.value 0 0, [], [p, v]⟩) rfl] at hsh
        rw [← hsh]; exact shape_of_solo (by rw [hs]; exact hc) rfl
      · rw [shape_of_solo hc (sh := ⟨.valueRoot 0, [], [v]⟩) rfl] at hsh
        rw [← hsh]; exact shape_of_solo (by rw [hs]; exact hc) rfl
  cases hA : shape A j with
  | some sh => exact one h hsame sh hA
  | none =>
    cases hA' : shape A' j with
    | none => rfl
    | some sh' => rw [one h.symm hsame.symm sh' hA'] at hA; cases hA

theorem SVUpd.isNode_eq {A A' : Array Cell} (h : SVUpd A A') (j : Nat) : isNode A' j = isNode A j := by
  rcases h.2 j with e | ⟨e1, e2⟩
  · simp only [isNode, h.shape_same e]
  · rw [sv_isNode e1, sv_isNode e2]

theorem SVUpd.extract {A A' : Array Cell} (h : SVUpd A A') (r : Nat) : SVUpd (A.extract 0 r) (A'.extract 0 r) := by
  refine ⟨by simp [Array.size_extract, h.1], ?_⟩
  intro j
  have hget : ∀ B : Array Cell, (B.extract 0 r)[j]? = if j < min r B.size then B[j]? else none := by
    intro B
    rw [Array.getElem?_extract]
    simp
  by_cases hj : j < min r A.size
  · have hj' : j < min r A'.size := by rw [h.1]; exact hj
    rcases h.2 j with e | ⟨e1, e2⟩
    · left; rw [hget, hget, if_pos hj, if_pos hj', e]
    · right
      simp only [svAt, hget, if_pos hj, if_pos hj'] at e1 e2 ⊢
      exact ⟨e1, e2⟩
  · have hj' : ¬ j < min r A'.size := by rw [h.1]; exact hj
    left; rw [hget, hget, if_neg hj, if_neg hj']

/-- what an in-place update may do to a cell: nothing, or a new readable `value` link in an input-value cell -/
def Relinked (A A' : Array Cell) (j : Nat) : Prop :=
  A'[j]? = A[j]? ∨
  (∃ p v0 v, A[j]? = some (.value p v0) ∧ A'[j]? = some (.value p v) ∧ isNode A v = true) ∨
  (∃ v0 v, A[j]? = some (.valueRoot v0) ∧ A'[j]? = some (.valueRoot v) ∧ isNode A v = true)

theorem svupd_of_relinked {A A' : Array Cell} (hsz : A'.size = A.size) (h : ∀ j, Relinked A A' j) : SVUpd A A' := by
  refine ⟨hsz, fun j => ?_⟩
  rcases h j with e | ⟨p, v0, v, h1, h2, _⟩ | ⟨v0, v, h1, h2, _⟩
  · exact Or.inl e
  · exact Or.inr ⟨by simp [svAt, h1, isSV], by simp [svAt, h2, isSV]⟩
  · exact Or.inr ⟨by simp [svAt, h1, isSV], by simp [svAt, h2, isSV]⟩

theorem relink_wfq {s s' : Store} (hwf : WFq s) (hsz : s'.cells.size = s.cells.size)
    (hrel : ∀ j, Relinked s.cells s'.cells j) (hret : s'.retention = s.retention) (hsym : s'.symtab = s.symtab)
    (hreg : s'.currentRegister = s.currentRegister) (hval : s'.currentValue = s.currentValue)
    (hfrm : s'.currentFrame = s.currentFrame) : WFq s' := by
  -- re-linking is an `SVUpd`: which addresses are nodes (`hnode`) and which are input-value cells (`hsv`) does not change,
  -- and every cell other than a re-linked one reads as before (`hu.shape_same`).  So each field of `WFq` is the old one,
  -- case by case on `hrel j`: unchanged cell / re-linked `Value` / re-linked `ValueRoot`; only `nodes` looks at the new
  -- link, which is a node by `Relinked`
  have hu := svupd_of_relinked hsz hrel
  have hnode := hu.isNode_eq
  have hsv := hu.svAt_eq
  refine ⟨by rw [hret, hsz]; exact hwf.retLe, ?_, ?_, ?_, ?_, ?_, ?_, ?_, ?_⟩
  · intro j hj
    rw [hsz] at hj
    have hold := hwf.nodes j hj
    rcases hrel j with e | ⟨p, v0, v, h1, h2, h3⟩ | ⟨v0, v, h1, h2, h3⟩
    · obtain ⟨c, hc⟩ : ∃ c, s.cells[j]? = some c := ⟨s.cells[j], by simp [hj]⟩
      have hc' : s'.cells[j]? = some c := by rw [e]; exact hc
      by_cases hcsv : isSV c = true
      · cases c <;> simp [isSV] at hcsv
        · simp only [nodeOKq, hc, Bool.and_eq_true, decide_eq_true_eq] at hold
          simp only [nodeOKq, hc', Bool.and_eq_true, decide_eq_true_eq, hsv, hnode]
          exact hold
        · simp only [nodeOKq, hc] at hold
          simp only [nodeOKq, hc', hnode]
          exact hold
      · have hns : isSV c = false := by simpa using hcsv
        rw [nodeOKq_of_cell hc hns] at hold
        rw [nodeOKq_of_cell hc' hns]
        simp only [nodeOK, hu.shape_same e, hnode]
        exact hold
    · simp only [nodeOKq, h1, Bool.and_eq_true, decide_eq_true_eq] at hold
      simp only [nodeOKq, h2, Bool.and_eq_true, decide_eq_true_eq, hsv, hnode]
      exact ⟨hold.1, h3⟩
    · simp only [nodeOKq, h2, hnode]; exact h3
  · intro j hj
    rw [hsz] at hj
    have hold := hwf.lists j hj
    rcases hrel j with e | ⟨p, v0, v, h1, h2, h3⟩ | ⟨v0, v, h1, h2, h3⟩
    · simp only [listOK, e] at hold ⊢; exact hold
    · simp [listOK, h2]
    · simp [listOK, h2]
  · intro j hj
    rw [hsz] at hj
    have hold := hwf.headers j hj
    rcases hrel j with e | ⟨p, v0, v, h1, h2, h3⟩ | ⟨v0, v, h1, h2, h3⟩
    · simp only [headerOK, e, hnode] at hold ⊢; exact hold
    · simp [headerOK, h2]
    · simp [headerOK, h2]
  · intro j hj
    rw [hret] at hj ⊢
    have hold := hwf.extent j hj
    simp only [extentOK, decide_eq_true_eq] at hold ⊢
    have hjs : j < s.cells.size := by have := hwf.retLe; omega
    have hue := hu.extract s.retention
    have hex : ∀ B : Array Cell, j < B.size → (B.extract 0 s.retention)[j]? = B[j]? := by
      intro B hB
      rw [Array.getElem?_extract]
      simp; omega
    rcases hrel j with e | ⟨p, v0, v, h1, h2, h3⟩ | ⟨v0, v, h1, h2, h3⟩
    · rw [hue.shape_same (by rw [hex _ (by omega), hex _ hjs, e]), hu.shape_same e]; exact hold
    · rw [shape_of_solo (sh := ⟨.value 0 0, [], [p, v]⟩) (by rw [hex _ (by omega)]; exact h2) rfl,
        shape_of_solo (sh := ⟨.value 0 0, [], [p, v]⟩) h2 rfl]
    · rw [shape_of_solo (sh := ⟨.valueRoot 0, [], [v]⟩) (by rw [hex _ (by omega)]; exact h2) rfl,
        shape_of_solo (sh := ⟨.valueRoot 0, [], [v]⟩) h2 rfl]
  · rw [hreg]
    have := hwf.reg
    cases h : s.currentRegister with
    | none => rfl
    | some a => rw [h] at this; simp only [headOK, hnode] at this ⊢; exact this
  · rw [hval]
    have := hwf.val
    cases h : s.currentValue with
    | none => rfl
    | some a => rw [h] at this; simp only [headSV, hsv] at this ⊢; exact this
  · rw [hfrm]
    have := hwf.frm
    cases h : s.currentFrame with
    | none => rfl
    | some a => rw [h] at this; simp only [headOK, hnode] at this ⊢; exact this
  · intro c hc
    rw [hsym] at hc
    have := hwf.syms c hc
    cases c <;> simp only [symOK, hnode] at this ⊢ <;> exact this

theorem setCurrentValue_wfq {s s' : Store} {v : Nat} (hwf : WFq s) (hv : isNode s.cells v = true)
    (h : Store.setCurrentValue s v = .ok s') : WFq s' := by
  unfold Store.setCurrentValue at h
  cases hcur : s.currentValue with
  | none => simp [hcur] at h
  | some i =>
    simp only [hcur] at h
    cases hc : s.cells[i]? with
    | none => simp [hc] at h
    | some c =>
      simp only [hc] at h
      have fin : ∀ c', Store.setCell s i c' = .ok s' →
          ((∃ p v0, c = .value p v0 ∧ c' = .value p v) ∨ (∃ v0, c = .valueRoot v0 ∧ c' = .valueRoot v)) → WFq s' := by
        intro c' hset hk
        obtain ⟨hget, hsz, hf⟩ := setCell_get hset
        refine relink_wfq hwf hsz ?_ hf.1 hf.2.2.1 hf.2.2.2.2.1 hf.2.2.2.1 hf.2.2.2.2.2
        intro j
        by_cases hj : j = i
        · subst hj
          rcases hk with ⟨p, v0, rfl, rfl⟩ | ⟨v0, rfl, rfl⟩
          · exact Or.inr (Or.inl ⟨p, v0, v, hc, by rw [hget]; simp, hv⟩)
          · exact Or.inr (Or.inr ⟨v0, v, hc, by rw [hget]; simp, hv⟩)
        · exact Or.inl (by rw [hget]; simp [hj])
      cases c <;> try (simp at h; done)
      · exact fin _ h (Or.inl ⟨_, _, rfl, rfl⟩)
      · exact fin _ h (Or.inr ⟨_, rfl, rfl⟩)

end Garnish.BasicOpt
