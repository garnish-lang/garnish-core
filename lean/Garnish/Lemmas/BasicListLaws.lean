/-
Clauses of `StoreLawsOn` for `BasicGarnishData`: list construction.
`start_list(n)` satisfies its clause.  `add_to_list` does NOT satisfy `StoreLawsOn.addToList` as stated: Basic's
`start_list(n)` ANNOUNCES the length — `add_to_list` answers `Err` once `n` items are there
(`addToList_clause_false`), and `end_list` answers `Err` before that.  The Basic law is about the whole protocol
`start_list(n)`, exactly `n` × `add_to_list`, `end_list` (= `Store.buildList`), when it answers `Ok` (`buildList_law`):
the address decodes to the list of the items, nothing else is disturbed, the invariant is kept.  (That it DOES answer
`Ok` — under `Fits`, `LayoutOK` and for existing items — is Lemmas/BasicList.lean.)
-/
import Garnish.Lemmas.BasicSymbolLists
import Garnish.Lemmas.MutOps
namespace Garnish.Lemmas.Runtime.Basic
open Garnish Gen Garnish.Model.Equality Garnish.Model.Runtime Garnish.Model.Runtime.Basic Garnish.BasicOpt
open Garnish.Lemmas.Runtime Garnish.Lemmas.EqualityRefine

variable {F : Type}


section
variable {P : Store → Prop} (R : Room P)
include R

theorem pushAll_room {cs : List Cell} {s s' : Store} (hf : P s) (h : Store.pushAll s cs = .ok s') : P s' := by
  obtain ⟨s2, h2, _, _, hf2⟩ := pushAll_total R cs s hf
  rw [h] at h2; cases h2; exact hf2

theorem startList_room {s s' : Store} {n li : Nat} (hf : P s) (h : Store.startList s n = .ok (s', li)) : P s' := by
  simp only [Store.startList, Outcome.bind_eq_ok', Outcome.pure_eq_ok_iff, Prod.mk.injEq] at h
  obtain ⟨⟨s1, i⟩, hp, s2, hall, hs2, _⟩ := h
  subst hs2
  exact pushAll_room R (R.of_push hf hp) hall

theorem addToList_room {s s' : Store} {li a : Nat} (hf : P s) (h : Store.addToList s li a = .ok s') : P s' := by
  simp only [Store.addToList, Outcome.bind_eq_ok'] at h
  obtain ⟨c, _, h⟩ := h
  split at h
  · split at h
    · cases h
    · simp only [Outcome.bind_eq_ok'] at h
      obtain ⟨s1, h1, s2, h2, c2, _, h3⟩ := h
      have f2 := R.setCell (R.setCell hf h1) h2
      split at h3
      · simp only [Outcome.bind_eq_ok'] at h3
        obtain ⟨c3, _, h4⟩ := h3
        split at h4
        · exact R.setCell f2 h4
        · simp only [Outcome.pure_eq_ok_iff] at h4; subst h4; exact f2
      · simp only [Outcome.pure_eq_ok_iff] at h3; subst h3; exact f2
  · cases h

theorem foldl_addToList_room (li : Nat) : ∀ (items : List Nat) (s s' : Store), P s →
    items.foldlM (fun s a => s.addToList li a) s = .ok s' → P s'
  | [], s, s', hf, h => by simp only [List.foldlM, Outcome.pure_eq_ok_iff] at h; subst h; exact hf
  | a :: items, s, s', hf, h => by
    simp only [List.foldlM, Outcome.bind_eq_ok'] at h
    obtain ⟨s1, h1, h2⟩ := h
    exact foldl_addToList_room li items s1 s' (addToList_room R hf h1) h2

theorem endList_room {s s' : Store} {li r : Nat} (hf : P s) (h : Store.endList s li = .ok (s', r)) : P s' := by
  simp only [Store.endList, Outcome.bind_eq_ok'] at h
  obtain ⟨c, _, h⟩ := h
  split at h
  · split at h
    · cases h
    · split at h
      · cases h
      · simp only [Outcome.bind_eq_ok', Outcome.pure_eq_ok_iff, Prod.mk.injEq] at h
        obtain ⟨s1, h1, h2, _⟩ := h
        subst h2
        exact R.setCell (R.cells _ _ hf (by simp [setRange_size])) h1
  · cases h

theorem buildList_room {s s' : Store} {items : List Nat} {li : Nat} (hf : P s)
    (h : Store.buildList s items = .ok (s', li)) : P s' := by
  simp only [Store.buildList, Outcome.bind_eq_ok'] at h
  obtain ⟨⟨s1, li1⟩, h1, s2, h2, h3⟩ := h
  exact endList_room R (foldl_addToList_room R _ _ _ _ (startList_room R hf h1) h2) h3

end


theorem startList_law (nc : NumCode F) {P : Store → Prop} (R : Room P) {st : BState} (hinv : BInvP P st) (n : Nat) :
    ∃ t st', (basicRStore nc).startList n st = .ok (t, st') ∧
      Eff (basicRStore nc) st st' ((basicRStore nc).regs st) ((basicRStore nc).vals st) ∧
      (basicRStore nc).building st' = some (t, []) ∧ BInvP P st' := by
  obtain ⟨s1, hp, hc1, hfr1, hf1⟩ := R.push _ (.uninitializedList n 0) hinv.room
  obtain ⟨s2, hall, hc2, hfr2, hf2⟩ := pushAll_total R (List.replicate (n * 2) Cell.empty) s1 hf1
  have hop : st.store.startList n = .ok (s2, st.store.cells.size) := by
    simp [Store.startList, bind, Outcome.bind, hp, hall, pure]
  have hfr := hfr1.trans hfr2
  have hl : s2.cells.toList = st.store.cells.toList ++ (Cell.uninitializedList n 0 :: List.replicate (n * 2) Cell.empty) := by
    rw [hc2, hc1]; simp
  have hcells : s2.cells = st.store.cells ++ (Cell.uninitializedList n 0 :: List.replicate (n * 2) Cell.empty).toArray := by
    apply Array.ext'; rw [hl]; simp
  have hsub : Sub st.store.cells s2.cells := sub_of_toList hl
  have hw : WFq s2 := by
    refine append_wfq _ hinv.wfq hcells hfr.1 hfr.2.2.1 ?_ ?_ ?_ ?_
    · intro j hj1 hj2
      obtain ⟨c, hc⟩ : ∃ c, s2.cells[j]? = some c := ⟨s2.cells[j], by simp [hj2]⟩
      have hs : SideCell c := by
        have hc' := hc
        rw [← Array.getElem?_toList, hl, List.getElem?_append_right (by simpa using hj1)] at hc'
        have := List.mem_of_getElem? hc'
        simp only [List.mem_cons, List.mem_replicate] at this
        rcases this with rfl | ⟨_, rfl⟩
        · exact .inl rfl
        · exact .inr rfl
      obtain ⟨h1, h2, h3, h4⟩ := sideCell_ok hc hs
      exact ⟨by rw [nodeOKq_of_cell hc (by simpa [svAt, hc] using h4)]; exact h1, h2, h3⟩
    · rw [hfr.2.2.2.2.1, hcells]; exact headOK_appendq hinv.wfq _ hinv.wfq.reg
    · rw [hfr.2.2.2.1, hcells]; exact headSV_append _ hinv.wfq.val
    · rw [hfr.2.2.2.2.2, hcells]; exact headOK_appendq hinv.wfq _ hinv.wfq.frm
  refine ⟨st.store.cells.size, { st with store := s2, building := some (st.store.cells.size, []) }, ?_, ?_, rfl, ?_⟩
  · exact startList_ok nc hop
  · have he := eff_sub nc hinv hsub hfr
    exact ⟨⟨he.keeps.dec, rfl, rfl, rfl, rfl⟩, he.regs, he.vals, rfl, he.frames⟩
  · have hb := hinv.append hl hfr hw hf2 (by
      intro c hc
      simp only [List.mem_cons, List.mem_replicate] at hc
      rcases hc with rfl | ⟨_, rfl⟩ <;> trivial)
    exact ⟨hb.wfq, hb.room, hb.typed⟩

/-- `StoreLawsOn.addToList` is false of `BasicGarnishData`: after `start_list(0)` the construction holds
`building = some (t, [])`, the invariant holds, and `add_to_list` answers `Err` (the announced length is reached) -/
theorem addToList_clause_false (nc : NumCode F) :
    ¬ (∀ t items a st, BInv st → (basicRStore nc).building st = some (t, items) →
        ∃ t' st', (basicRStore nc).addToList t a st = .ok (t', st') ∧
          Eff (basicRStore nc) st st' ((basicRStore nc).regs st) ((basicRStore nc).vals st) ∧
          (basicRStore nc).building st' = some (t', items ++ [a]) ∧ BInv st') := by
  intro h
  obtain ⟨t, st1, h1, _, hb, hi⟩ := startList_law nc room_fits binv_init.toP 0
  have hst : st1.store = (match Store.fresh.startList 0 with | .ok (s, _) => s | _ => Store.fresh) ∧ t = 0 := by
    have : (basicRStore nc).startList 0 BState.init =
        .ok (0, { BState.init with store := (match Store.fresh.startList 0 with | .ok (s, _) => s | _ => Store.fresh),
                                   building := some (0, []) }) := by rfl
    rw [this] at h1
    simp only [Outcome.ok.injEq, Prod.mk.injEq] at h1
    exact ⟨by rw [← h1.2], h1.1.symm⟩
  obtain ⟨t', st', h2, _⟩ := h t [] 0 st1 hi.inv hb
  have herr : (basicRStore nc).addToList t 0 st1 = .err .data := by
    show (match st1.store.addToList t 0 with | .ok s' => _ | .err e => _ | .panic m => _ | .fuelOut => _) = _
    rw [hst.1, hst.2]
    rfl
  rw [herr] at h2
  cases h2

theorem buildList_law (nc : NumCode F) {P : Store → Prop} (R : Room P) {st : BState} (hinv : BInvP P st) {items : List Nat} {vs : List (Val F)}
    (hd : DecodesList ((basicRStore nc).view st) items vs) {s' : Store} {li : Nat}
    (h : st.store.buildList items = .ok (s', li)) :
    li = st.store.cells.size ∧ Decodes (basicView nc.dec s'.cells) li (.list vs) ∧
      Eff (basicRStore nc) st { st with store := s' } ((basicRStore nc).regs st) ((basicRStore nc).vals st) ∧
      BInvP P { st with store := s' } := by
  have hd' : DecodesList (basicView nc.dec st.store.cells) items vs := hd
  have hitems : ∀ a ∈ items, isNode st.store.cells a = true := by
    intro a ha
    obtain ⟨v, _, hv⟩ := decodesList_mem hd' a ha
    exact (decodes_node hinv.wfq hv).2
  have hlt : ∀ a ∈ items, a < st.store.cells.size := fun a ha => node_lt (hitems a ha)
  obtain ⟨hw, hli, hn⟩ := buildList_wfq hinv.wfq hitems h
  obtain ⟨_, hcells, hf⟩ := buildList_spec hlt h
  subst hli
  have hl : s'.cells.toList = st.store.cells.toList ++ listBlockOf st.store.cells items := by rw [hcells]; simp
  have hsub : Sub st.store.cells s'.cells := sub_of_toList hl
  obtain ⟨hk, hitem, _⟩ := listBlock_cells hcells
  have hread := listItems_read (cells := s'.cells) items (st.store.cells.size + 1) hitem
  have he := eff_sub nc hinv hsub hf
  refine ⟨rfl, ?_, he, ?_⟩
  · exact .list (typeOf_cell hk) (by simp [bv_listItems, hk, hread])
      (decodesList_mono (basicView_le _ hsub.agreeNS) hd')
  · refine hinv.append hl hf hw (buildList_room R hinv.room h) ?_
    intro c hc
    simp only [listBlockOf, List.mem_cons, List.mem_append, List.mem_map, List.mem_mergeSort] at hc
    rcases hc with rfl | ⟨a, _, rfl⟩ | ⟨a, _, hca⟩
    · trivial
    · trivial
    · rw [← hca]
      unfold assocOf
      split
      · split <;> trivial
      · trivial

end Garnish.Lemmas.Runtime.Basic
