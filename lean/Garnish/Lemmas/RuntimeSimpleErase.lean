/-
The adders of `simpleRStore` (Model/Runtime/SimpleStore.lean), with the payloads erased (`eraseD`), ARE the constructor
steps `Access.Simple.step` of Model/SimpleBuild.lean (the model of the `SimpleDataList`, on which C07 /
C15 / C19-Simple statements are made): same list, same address — given that the two cache decisions agree
(`HitErases`).  Adder by adder this is `C15_simple_adders_erase` (Props/RuntimeRefineSimple3.lean); here are the two
steps the pushing and the caching adders are made of, `push_erases` and `cacheAdd_erases`.
-/
import Garnish.Model.Runtime.SimpleStore
namespace Garnish.Lemmas.Runtime.Simple
open Garnish Gen Garnish.Model.Equality Garnish.Model.Runtime
open Garnish.Access.Simple (SData SCell SOp step intern pushCell)
variable {F : Type} {hit : List (SimCell F) → SimCell F → Option Nat} {h : SimHost F}

/-- the data list with the payloads erased: the `SData` of Model/AccessSimple.lean -/
def eraseD (cells : List (SimCell F)) : SData := (cells.map erase).toArray

theorem eraseD_push (cells : List (SimCell F)) (c : SimCell F) : eraseD (cells ++ [c]) = (eraseD cells).push (erase c) := by
  simp [eraseD]

theorem eraseD_size (cells : List (SimCell F)) : (eraseD cells).size = cells.length := by simp [eraseD]

/-- the cache decision of the payload-free model is the one made here -/
def HitErases (hit : List (SimCell F) → SimCell F → Option Nat) (hit' : SData → SCell → Option Nat) : Prop :=
  ∀ cells c, hit' (eraseD cells) (erase c) = hit cells c

theorem push_erases {c : SimCell F} {st st' : SimState F} {a : Nat} (hp : SimState.push c st = .ok (a, st')) :
    pushCell (eraseD st.cells) (erase c) = (eraseD st'.cells, a) := by
  simp only [SimState.push] at hp
  cases hp
  simp only [pushCell, eraseD_push, eraseD_size]

theorem cacheAdd_erases {hit' : SData → SCell → Option Nat} (he : HitErases hit hit') {c : SimCell F}
    {st st' : SimState F} {a : Nat} (hp : SimState.cacheAdd hit c st = .ok (a, st')) :
    intern hit' (eraseD st.cells) (erase c) = (eraseD st'.cells, a) := by
  simp only [SimState.cacheAdd] at hp
  have he' := he st.cells c
  simp only [intern]
  cases hh : hit st.cells c with
  | some b => rw [hh] at hp he'; cases hp; rw [he']
  | none => rw [hh] at hp he'; cases hp; rw [he']; simp only [eraseD_push, eraseD_size]

end Garnish.Lemmas.Runtime.Simple
