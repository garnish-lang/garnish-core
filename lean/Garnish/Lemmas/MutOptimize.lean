/-
The anatomy of `optimize` (`Compacted`), for every store that satisfies `OptPre` (`WF`, `WFq`, `WFv`): the compacted
block is the retained prefix — with the retained cells of the current input-value chain re-pointed along links —
followed by well-formed copies whose links lead to retained nodes or to copies at lower addresses.  From it: `optimize`
keeps `WF` and `WFq`.  `WFq` needs `NoStale`: the re-pointing loop walks the current input-value chain only, so a popped
retained cell that refers behind the retention count would keep a stale address; `noStale` is a sound Boolean test for it (`noStale_sound`), and stores whose
links all lead downwards (`WF`) satisfy it.
-/
import Garnish.Lemmas.MutProv
import Garnish.Lemmas.MutSet
import Garnish.Lemmas.OptimizePre
namespace Garnish.BasicOpt
open Garnish

theorem WFq.optPre {s : Store} {roots : List Nat} (hwf : WFq s) (hroots : rootsOK s roots = true) : OptPre s roots :=
  ⟨hwf.base, listsWF_of_lists hwf.lists, fun _ _ hsh hns _ hk => hwf.kid_lt hsh hns hk, hwf.chain.down, hwf.extent, headSV_node hwf.val,
    hwf.syms, hroots⟩

theorem WFv.optPre {s : Store} {roots : List Nat} (hwf : WFv s) (hroots : rootsOKv s roots = true) : OptPre s roots := by
  have hd : ∀ {a}, isData s.cells a = true → isNode s.cells a = true := fun h => (isData_iff.mp h).1
  have hhd : ∀ {o}, headData s.cells o = true → headOK s.cells o = true := by
    intro o h; cases o with
    | none => rfl
    | some a => exact hd h
  refine ⟨⟨hwf.headers, ?_, hhd hwf.reg, hhd hwf.frm⟩, hwf.optHypV.listsWF,
    fun i sh hsh hns k hk => (hwf.optHypV.nodeBack i sh hsh hns k hk).1, hwf.optHypV.chain.down, hwf.extent,
    headSV_node hwf.val, ?_, ?_⟩
  · intro i sh hsh k hk
    obtain ⟨k1, k2, k3⟩ := hwf.kids hsh
    cases hsv : svAt s.cells i with
    | false => exact hd (k1 hsv k hk).2
    | true =>
      rcases sv_cell hsv with ⟨p, v, hc⟩ | ⟨v, hc⟩
      · have e : sh = ⟨.value 0 0, [], [p, v]⟩ := solo_of_shape hc rfl hsh
        subst e
        obtain ⟨_, g2, g3⟩ := k2 p v hc
        simp at hk
        rcases hk with rfl | rfl
        · exact sv_isNode g2
        · exact hd g3
      · have e : sh = ⟨.valueRoot 0, [], [v]⟩ := solo_of_shape hc rfl hsh
        subst e
        simp at hk
        subst hk
        exact hd (k3 _ hc)
  · intro c hc
    have := hwf.syms c hc
    cases c <;> simp only [symOKv, symOK] at this ⊢ <;> first | exact hd this | cases this
  · simp only [rootsOKv, rootsOK, List.all_eq_true] at hroots ⊢
    exact fun r hr => hd (hroots r hr)

theorem repoint_facts {s s6 sR : Store} {cA : Nat} (hdown : ChainDown s.cells)
    (hagree : ∀ (i : Nat) (c : Cell), s.cells[i]? = some c → s6.cells[i]? = some c)
    (hret6 : s6.retention = s.retention)
    (hval : ∀ hd, s.currentValue = some hd → hd < s.cells.size)
    (hR : Store.repointLoop (s6.start + s.cells.size) (s6.start + cA) s.cells.size s6 s.currentValue = .ok sR) :
    Ext 0 s6 sR ∧ sR.cells.size = s6.cells.size ∧
      (∀ j, ¬ (OnHead s.cells s.currentValue j ∧ j < s.retention) → sR.cells[j]? = s6.cells[j]?) ∧
      (∀ j, OnHead s.cells s.currentValue j → j < s.retention → Repointed s.cells s6 sR s.cells.size cA j) := by
  cases hcv : s.currentValue with
  | none =>
    rw [hcv] at hR
    have : sR = s6 := by
      cases hsz : s.cells.size <;> (rw [hsz] at hR; simp only [Store.repointLoop, Outcome.ok.injEq] at hR; exact hR.symm)
    subst this
    exact ⟨Ext.refl _ _, rfl, fun _ _ => rfl, fun j ⟨h, hh', _⟩ => by cases hh'⟩
  | some hd =>
    rw [hcv] at hR
    have hlt : hd < s.cells.size := hval hd hcv
    obtain ⟨eA, eB, eC, eD⟩ := repointLoop_spec hdown (c0 := s.cells.size) (cA := cA)
      s.cells.size s6 sR hd (by omega) hlt
      (fun j hj => by
        have hjl : j < s.cells.size := by omega
        obtain ⟨c, hc⟩ : ∃ c, s.cells[j]? = some c := ⟨s.cells[j], by simp [hjl]⟩
        rw [hc]; exact hagree j c hc) hret6 hR
    refine ⟨eA, eB, ?_, ?_⟩
    · intro j hj
      exact eC j (fun ⟨h1, h2⟩ => hj ⟨⟨hd, rfl, h1⟩, h2⟩)
    · intro j ⟨h', hh', hch⟩ hjr
      cases hh'
      exact eD j hch hjr

theorem onHead_lt {cells : Array Cell} {o : Option Nat} {j : Nat} (h : OnHead cells o j) : j < cells.size := by
  obtain ⟨hd, _, hch⟩ := h
  exact svAt_lt hch.sv

/-- no retained input-value cell off the current chain refers to data behind the retention count -/
def NoStale (s : Store) : Prop :=
  ∀ i v, i < s.retention → ((∃ p, s.cells[i]? = some (.value p v)) ∨ s.cells[i]? = some (.valueRoot v)) →
    v < s.retention ∨ OnHead s.cells s.currentValue i

/-- the anatomy of `optimize`.  `s5`, `s6`, `sR`: the stores after the index phase, the reversed walk and the
re-pointing loop.  The compacted block `s'` is the retained prefix, with the retained cells of the input-value chain
re-pointed along links, followed by the cells of `s6` behind the index list -/
structure Compacted (s s' : Store) (roots m : List Nat) (s5 s6 sR : Store) : Prop where
  pre : OptPre s roots
  retLe : s.retention ≤ s.cells.size
  /-- the finished walk (`k = 0`); the offset is the distance of the slide: the copies stand behind the index list in `s6`
  (from `s5.cells.size`) and behind the retained prefix in `s'` (from `s.retention`) -/
  inv : CInv (s5.cells.size - s.retention) s.cells s5 s.cells.size s5.cells.size 0 s6
  ret6 : s6.retention = s.retention
  sizeGe : s.cells.size ≤ s5.cells.size
  /-- copies exist only when the index list is not empty -/
  indexed : ∀ u, s5.cells.size + u < s6.cells.size → s.cells.size < s5.cells.size
  tail : TailFacts s s' roots m sR s.cells.size s5.cells.size
  /-- heads, roots and symbol names are looked up in `sR` (`tail`), the invariant speaks of `s6`: the re-pointing loop
  rewrites retained chain cells only, so the map entries are the same -/
  linkR : ∀ x x', Link sR s.cells.size s5.cells.size x x' → Link s6 s.cells.size s5.cells.size x x'
  fresh : ∀ j, s5.cells.size ≤ j → j < s6.cells.size → FreshOK (s5.cells.size - s.retention) s6 s5.cells.size j
  prov : Prov (s5.cells.size - s.retention) s.cells s6 s5.cells.size
  cell6 : ∀ i, i < s.cells.size → s6.cells[i]? = s.cells[i]?
  keepCell : ∀ i, i < s.retention → ¬ OnHead s.cells s.currentValue i → s'.cells[i]? = s.cells[i]?
  repointed : ∀ i, i < s.retention → OnHead s.cells s.currentValue i →
    (∃ p v v', s.cells[i]? = some (.value p v) ∧ s'.cells[i]? = some (.value p v') ∧
      Link s6 s.cells.size s5.cells.size v v' ∧ (v < s.retention → v' = v)) ∨
    (∃ v v', s.cells[i]? = some (.valueRoot v) ∧ s'.cells[i]? = some (.valueRoot v') ∧
      Link s6 s.cells.size s5.cells.size v v' ∧ (v < s.retention → v' = v))
  sizeLe : s.retention ≤ s'.cells.size
  cellNew : ∀ u, s'.cells[s.retention + u]? = s6.cells[s5.cells.size + u]?

theorem optimize_compacted {s s' : Store} {roots m : List Nat} (hp : OptPre s roots)
    (h : Store.optimize s roots = .ok (s', m)) : ∃ s5 s6 sR, Compacted s s' roots m s5 s6 sR := by
  obtain ⟨hr, hbody⟩ := optimize_ok h
  obtain ⟨s5, s6, sR, hinv, hc0A, hret6, hstart6, hval6, hR, tf, hidx, hnoidx, hloopX, hret5⟩ :=
    optimizeBody_core hbody hr hp.lists
  have hpre := indexPhase_pre hp hidx
  -- provenance of the copies
  have hprov : Prov (s5.cells.size - s.retention) s.cells s6 s5.cells.size := by
    rcases hloopX with hloop | ⟨e1, e2⟩
    · exact cloneLoop_prov (Nat.le_refl _) hp.lists (Or.inr (by rw [hret5]; omega)) (by rw [hret5]; omega) hpre
        _ _ _ (CInv.init (hidx.ext _)) (fun j h1 h2 => by omega) hloop
    · intro j h1 h2
      rw [e1] at h2; omega
  -- the re-pointing loop touches retained chain cells only
  obtain ⟨eR, hszR, hkeep, hrep⟩ := repoint_facts hp.down hinv.agree0 hret6
    (fun hd h => node_lt (by have := hp.val; rw [h] at this; exact this)) hR
  have hhigh : ∀ j, s.cells.size ≤ j → sR.cells[j]? = s6.cells[j]? :=
    fun j hj => hkeep j (fun ⟨h1, _⟩ => by have := onHead_lt h1; omega)
  refine ⟨s5, s6, sR, hp, hr, hinv, hret6, hc0A, ?_, tf, ?_, hinv.fresh hpre, hprov, fun i hi => hinv.cell_eq hi, ?_, ?_, ?_,
    fun u => by rw [tf.shift u, hhigh _ (by omega)]⟩
  · intro u hu
    rcases Nat.lt_or_ge s.cells.size s5.cells.size with h | h
    · exact h
    · have := hnoidx (by omega); omega
  · exact fun x x' hl => Link.mono (Nat.le_refl _) eR.frame.1.symm (fun j hj1 _ => (hhigh j hj1).symm) hl
  · intro i hi hon
    rw [tf.pre i hi, hkeep i (fun ⟨h1, _⟩ => hon h1), hinv.cell_eq (by omega)]
  · intro i hi hon
    rcases hrep i hon hi with ⟨p, v, v', h1, h2, h3, h4⟩ | ⟨v, v', h1, h2, h3, h4⟩
    · exact Or.inl ⟨p, v, v', h1, by rw [tf.pre i hi]; exact h2, h3, by rw [← hret6]; exact h4⟩
    · exact Or.inr ⟨v, v', h1, by rw [tf.pre i hi]; exact h2, h3, by rw [← hret6]; exact h4⟩
  · rcases Nat.lt_or_ge s'.cells.size s.retention with hlt | hge
    · exfalso
      have h1 := tf.pre s'.cells.size hlt
      rw [Array.getElem?_eq_none (Nat.le_refl _)] at h1
      have hlt2 : s'.cells.size < sR.cells.size := by rw [hszR]; have := hinv.hiLe; omega
      rw [Array.getElem?_eq_getElem hlt2] at h1; cases h1
    · exact hge

namespace Compacted
variable {s s' : Store} {roots m : List Nat} {s5 s6 sR : Store} (C : Compacted s s' roots m s5 s6 sR)
include C

theorem retainedCell {i : Nat} (hi : i < s.retention) : s'.cells[i]? = s.cells[i]? ∨
    (∃ p v v', s.cells[i]? = some (.value p v) ∧ s'.cells[i]? = some (.value p v')) ∨
    (∃ v v', s.cells[i]? = some (.valueRoot v) ∧ s'.cells[i]? = some (.valueRoot v')) := by
  by_cases hon : OnHead s.cells s.currentValue i
  · rcases C.repointed i hi hon with ⟨p, v, v', h1, h2, _⟩ | ⟨v, v', h1, h2, _⟩
    · exact Or.inr (Or.inl ⟨p, v, v', h1, h2⟩)
    · exact Or.inr (Or.inr ⟨v, v', h1, h2⟩)
  · exact Or.inl (C.keepCell i hi hon)

theorem svOld {k : Nat} (hk : k < s.retention) : svAt s'.cells k = svAt s.cells k := by
  rcases C.retainedCell hk with e | ⟨p, v, v', h1, h2⟩ | ⟨v, v', h1, h2⟩
  · simp only [svAt, e]
  · simp [svAt, h1, h2, isSV]
  · simp [svAt, h1, h2, isSV]

theorem prefix_facts :
    SVUpd (s.cells.extract 0 s.retention) (s'.cells.extract 0 s.retention) ∧
    ∀ i, i < s.retention → shape s'.cells i = shape (s'.cells.extract 0 s.retention) i := by
  have hr := C.retLe
  have hP : SVUpd (s.cells.extract 0 s.retention) (s'.cells.extract 0 s.retention) := by
    refine ⟨by rw [size_extract_prefix C.sizeLe, size_extract_prefix hr], fun j => ?_⟩
    by_cases hj : j < s.retention
    · rw [getElem?_extract_prefix _ hj, getElem?_extract_prefix _ hj]
      simp only [svAt, getElem?_extract_prefix _ hj]
      rcases C.retainedCell hj with e | ⟨p, v, v', h1, h2⟩ | ⟨v, v', h1, h2⟩
      · exact Or.inl e
      · exact Or.inr ⟨by simp [h1, isSV], by simp [h2, isSV]⟩
      · exact Or.inr ⟨by simp [h1, isSV], by simp [h2, isSV]⟩
    · left
      rw [Array.getElem?_eq_none (by rw [size_extract_prefix C.sizeLe]; omega),
        Array.getElem?_eq_none (by rw [size_extract_prefix hr]; omega)]
  refine ⟨hP, ?_⟩
  have hPsz : (s'.cells.extract 0 s.retention).size = s.retention := size_extract_prefix C.sizeLe
  have hhP : ∀ i, i < (s'.cells.extract 0 s.retention).size → headerOK (s'.cells.extract 0 s.retention) i = true := by
    intro i hi
    rw [hPsz] at hi
    have hold := C.pre.base.headers i (by omega)
    rcases C.retainedCell hi with e | ⟨p, v, v', h1, h2⟩ | ⟨v, v', h1, h2⟩
    · have hsh : shape (s'.cells.extract 0 s.retention) i = shape s.cells i := by
        have hext := C.pre.extent i hi
        simp only [extentOK, decide_eq_true_eq] at hext
        rw [← hext]
        exact hP.shape_same (by rw [getElem?_extract_prefix _ hi, getElem?_extract_prefix _ hi, e])
      simp only [headerOK, getElem?_extract_prefix _ hi, e, isNode, hsh] at hold ⊢
      exact hold
    · simp [headerOK, getElem?_extract_prefix _ hi, h2]
    · simp [headerOK, getElem?_extract_prefix _ hi, h2]
  have hcellsV : s'.cells = s'.cells.extract 0 s.retention ++
      s'.cells.extract (s'.cells.extract 0 s.retention).size s'.cells.size :=
    prefix_append (by rw [hPsz]; exact C.sizeLe) (fun i hi => by rw [hPsz] at hi; exact (getElem?_extract_prefix _ hi).symm)
  intro i hi
  conv => lhs; rw [hcellsV]
  exact shape_append_eq _ _ hhP (by rw [hPsz]; exact hi)

theorem shapeOld {i : Nat} (hi : i < s.retention) (hsame : s'.cells[i]? = s.cells[i]?) :
    shape s'.cells i = shape s.cells i := by
  obtain ⟨hP, hsh⟩ := C.prefix_facts
  have hext := C.pre.extent i hi
  simp only [extentOK, decide_eq_true_eq] at hext
  rw [hsh i hi, ← hext]
  exact hP.shape_same (by rw [getElem?_extract_prefix _ hi, getElem?_extract_prefix _ hi, hsame])

theorem extent {i : Nat} (hi : i < s.retention) : extentOK s'.cells s.retention i = true := by
  simp only [extentOK, decide_eq_true_eq]
  exact (C.prefix_facts.2 i hi).symm

theorem nodeOld {k : Nat} (hk : k < s.retention) (hn : isNode s.cells k = true) : isNode s'.cells k = true := by
  rcases C.retainedCell hk with e | ⟨p, v, v', h1, h2⟩ | ⟨v, v', h1, h2⟩
  · simp only [isNode, C.shapeOld hk e]; exact hn
  · exact sv_isNode (by simp [svAt, h2, isSV])
  · exact sv_isNode (by simp [svAt, h2, isSV])

theorem shape6 {k : Nat} (hk : k < s.cells.size) : shape s6.cells k = shape s.cells k := by
  have hcells6 : s6.cells = s.cells ++ s6.cells.extract s.cells.size s6.cells.size :=
    prefix_append (Nat.le_trans C.sizeGe C.inv.hiLe) (fun i hi => C.cell6 i hi)
  rw [hcells6]; exact shape_append_eq _ _ C.pre.base.headers hk

theorem shapeNew {u : Nat} {sh : Shape} (hu : s5.cells.size + u < s6.cells.size)
    (hsh : shape s6.cells (s5.cells.size + u) = some sh) : shape s'.cells (s.retention + u) = some sh := by
  have hpos := C.indexed u hu
  -- the last cell of the index list is a map entry, so no frame is read across the boundary
  have hno : framePoint s6.cells s5.cells.size = none := by
    obtain ⟨o2, n2, hc2, _, _⟩ := C.inv.done (s5.cells.size - 1) (by omega) (by omega)
    have e : s5.cells.size = (s5.cells.size - 1) + 1 := by omega
    rw [e]
    simp [framePoint, hc2]
  exact shape_shift (fun t => C.cellNew t) hno hsh

theorem sizeNew {j : Nat} (hj : j < s'.cells.size) (hjr : s.retention ≤ j) :
    s5.cells.size + (j - s.retention) < s6.cells.size := by
  have hc := C.cellNew (j - s.retention)
  have e : s.retention + (j - s.retention) = j := by omega
  rw [e] at hc
  rcases Nat.lt_or_ge (s5.cells.size + (j - s.retention)) s6.cells.size with h | h
  · exact h
  · rw [Array.getElem?_eq_none h, Array.getElem?_eq_getElem hj] at hc; cases hc

theorem label_old {i : Nat} {sh : Shape} (hi : i < s.retention) (hsh : shape s.cells i = some sh) :
    ∃ sh', shape s'.cells i = some sh' ∧ sh'.label = sh.label := by
  by_cases hon : OnHead s.cells s.currentValue i
  · rcases C.repointed i hi hon with ⟨p, v, v', h1, h2, _⟩ | ⟨v, v', h1, h2, _⟩
    · obtain rfl : sh = ⟨.value 0 0, [], [p, v]⟩ := solo_of_shape h1 rfl hsh
      exact ⟨⟨.value 0 0, [], [p, v']⟩, shape_of_solo h2 rfl, rfl⟩
    · obtain rfl : sh = ⟨.valueRoot 0, [], [v]⟩ := solo_of_shape h1 rfl hsh
      exact ⟨⟨.valueRoot 0, [], [v']⟩, shape_of_solo h2 rfl, rfl⟩
  · exact ⟨sh, by rw [C.shapeOld hi (C.keepCell i hi hon)]; exact hsh, rfl⟩

theorem shape_slid {j : Nat} {sh : Shape} (hj : s5.cells.size ≤ j) (hsh : shape s6.cells j = some sh) :
    shape s'.cells (j - (s5.cells.size - s.retention)) = some sh := by
  have := C.sizeGe
  have := C.retLe
  have e1 : j = s5.cells.size + (j - s5.cells.size) := by omega
  have e2 : j - (s5.cells.size - s.retention) = s.retention + (j - s5.cells.size) := by omega
  have hb := shape_bound hsh
  rw [e1] at hsh hb
  rw [e2]; exact C.shapeNew hb hsh

theorem link_label {x x' : Nat} {sh : Shape} (hl : Link s6 s.cells.size s5.cells.size x x')
    (hsh : shape s.cells x = some sh) : ∃ sh', shape s'.cells x' = some sh' ∧ sh'.label = sh.label := by
  rcases C.inv.good_of_link hl with ⟨e, hxr⟩ | ⟨ni, hni1, hni2, hg⟩
  · rw [e]; exact C.label_old (by rw [← C.ret6]; exact hxr) hsh
  · obtain ⟨sh', g1, g2, _⟩ := hg sh hsh
    have := C.shape_slid hni1 g1
    have e : ni - (s5.cells.size - s.retention) = x' := by omega
    rw [e] at this
    exact ⟨sh', this, g2⟩

theorem linkNode {x x' : Nat} (hl : Link s6 s.cells.size s5.cells.size x x') (hx : isNode s.cells x = true) :
    isNode s'.cells x' = true := by
  obtain ⟨sh, hsh⟩ := node_shape hx
  obtain ⟨sh', h1, _⟩ := C.link_label hl hsh
  simp [isNode, h1]

theorem linkSV {x x' : Nat} (hl : Link s6 s.cells.size s5.cells.size x x') (hx : svAt s.cells x = true) :
    svAt s'.cells x' = true := by
  obtain ⟨sh, hsh⟩ := node_shape (sv_isNode hx)
  obtain ⟨sh', h1, h2⟩ := C.link_label hl hsh
  rw [← label_sv h1, h2, label_sv hsh]; exact hx

theorem target {u k' : Nat} (ht : Target (s5.cells.size - s.retention) s6 s5.cells.size k' (s5.cells.size + u)) :
    k' < s.retention + u ∧ isNode s'.cells k' = true := by
  have := C.retLe
  have := C.sizeGe
  rcases ht with ⟨h1, sh2, h2⟩ | ⟨h1, h2, sh2, h3⟩
  · rw [C.ret6] at h1
    rw [C.shape6 (by omega)] at h2
    exact ⟨by omega, C.nodeOld h1 (by simp [isNode, h2])⟩
  · have := C.shape_slid h1 h3
    rw [Nat.add_sub_cancel] at this
    exact ⟨by omega, by simp [isNode, this]⟩

theorem cellsOK {i : Nat} (hi : i < s'.cells.size) :
    listOK s'.cells i = true ∧ headerOK s'.cells i = true ∧
    (s.retention ≤ i ∨ svAt s'.cells i = false → nodeOK s'.cells i = true) := by
  by_cases hir : i < s.retention
  -- a retained cell is the old cell, or an input-value cell with a new `value` link (`retainedCell`): the old cell reads in
  -- `s'` as in `s` (`shapeOld`), its links led downwards to nodes and nodes of the prefix stay nodes (`nodeOld`); of an
  -- input-value cell nothing is claimed
  · have hlt : i < s.cells.size := by have := C.retLe; omega
    rcases C.retainedCell hir with e | ⟨p, v, v', h1, h2⟩ | ⟨v, v', h1, h2⟩
    · refine ⟨?_, ?_, fun hns => ?_⟩
      · have : listOK s.cells i = true := by
          unfold listOK
          split
          · rename_i n k hc; exact decide_eq_true (C.pre.lists i n k hc)
          · rfl
        simpa [listOK, e] using this
      · have := C.pre.base.headers i hlt
        simp only [headerOK, isNode, e, C.shapeOld hir e] at this ⊢
        exact this
      · have hns' : svAt s.cells i = false := by
          rcases hns with h | h
          · omega
          · rwa [C.svOld hir] at h
        cases hsh : shape s.cells i with
        | none => simp [nodeOK, C.shapeOld hir e, hsh]
        | some sh =>
          simp only [nodeOK, C.shapeOld hir e, hsh, List.all_eq_true, Bool.and_eq_true, decide_eq_true_eq]
          intro k hk
          have hki := C.pre.back i sh hsh hns' k hk
          exact ⟨hki, C.nodeOld (by omega) (C.pre.base.kids hsh hk)⟩
    · refine ⟨by simp [listOK, h2], by simp [headerOK, h2], fun hns => ?_⟩
      rcases hns with h | h
      · omega
      · simp [svAt, h2, isSV] at h
    · refine ⟨by simp [listOK, h2], by simp [headerOK, h2], fun hns => ?_⟩
      rcases hns with h | h
      · omega
      · simp [svAt, h2, isSV] at h
  -- a cell behind the prefix is the cell of `s6` at `s5.size + u` (`cellNew`), which is `FreshOK`: never a node, or a node
  -- read the same after the slide (`shapeNew`) whose links are `Target`s, i.e. nodes below it in `s'` (`target`)
  · obtain ⟨u, rfl⟩ : ∃ u, i = s.retention + u := ⟨i - s.retention, by omega⟩
    have hJ : s5.cells.size + u < s6.cells.size := by
      have := C.sizeNew hi (by omega)
      have e : s.retention + u - s.retention = u := by omega
      rw [e] at this; exact this
    obtain ⟨c, hc, hl, hk⟩ := C.fresh (s5.cells.size + u) (by omega) hJ
    have hcV : s'.cells[s.retention + u]? = some c := by rw [C.cellNew]; exact hc
    have hlist : listOK s'.cells (s.retention + u) = true := by
      unfold listOK; rw [hcV]
      cases c <;> first | rfl | (simp only [decide_eq_true_eq]; exact hl _ _ rfl)
    rcases hk with hn | ⟨sh, hsh, hkids⟩
    · exact ⟨hlist, headerOK_of hcV (Or.inl hn), fun _ => by simp [nodeOK, neverNode_shape hcV hn]⟩
    · have hshV := C.shapeNew hJ hsh
      refine ⟨hlist, headerOK_of hcV (Or.inr (by simp [isNode, hshV])), fun _ => ?_⟩
      simp only [nodeOK, hshV, List.all_eq_true, Bool.and_eq_true, decide_eq_true_eq]
      exact fun k' hk' => C.target (hkids k' hk')

theorem retained (hstale : NoStale s) : ∀ i, i < s.retention →
    (s'.cells[i]? = s.cells[i]? ∧ (∀ v, ((∃ p, s.cells[i]? = some (.value p v)) ∨ s.cells[i]? = some (.valueRoot v)) →
      v < s.retention)) ∨
    (∃ p v v', s.cells[i]? = some (.value p v) ∧ s'.cells[i]? = some (.value p v') ∧
      Link s6 s.cells.size s5.cells.size v v') ∨
    (∃ v v', s.cells[i]? = some (.valueRoot v) ∧ s'.cells[i]? = some (.valueRoot v') ∧
      Link s6 s.cells.size s5.cells.size v v') := by
  intro i hi
  by_cases hon : OnHead s.cells s.currentValue i
  · rcases C.repointed i hi hon with ⟨p, v, v', h1, h2, h3, _⟩ | ⟨v, v', h1, h2, h3, _⟩
    · exact Or.inr (Or.inl ⟨p, v, v', h1, h2, h3⟩)
    · exact Or.inr (Or.inr ⟨v, v', h1, h2, h3⟩)
  · exact Or.inl ⟨C.keepCell i hi hon, fun v hv => (hstale i v hi hv).resolve_right hon⟩

end Compacted

theorem optimize_wf {s s' : Store} {roots m : List Nat} (hwf : WF s) (hroots : rootsOK s roots = true)
    (h : Store.optimize s roots = .ok (s', m)) : WF s' ∧ rootsOK s' m = true := by
  obtain ⟨s5, s6, sR, C⟩ := optimize_compacted (hwf.optPre hroots) h
  have hr := hwf.retLe
  have hnodes : ∀ i, i < s'.cells.size → nodeOK s'.cells i = true := by
    intro i hi
    by_cases hns : s.retention ≤ i ∨ svAt s'.cells i = false
    · exact (C.cellsOK hi).2.2 hns
    · -- a retained input-value cell: its links lead downwards, so the re-pointing loop left it as it was
      have hir : i < s.retention := by omega
      have hold := hwf.nodes i (by omega)
      have e : s'.cells[i]? = s.cells[i]? := by
        by_cases hon : OnHead s.cells s.currentValue i
        · rcases C.repointed i hir hon with ⟨p, v, v', h1, h2, _, h4⟩ | ⟨v, v', h1, h2, _, h4⟩
          · have := hwf.optHyp.nodeBack i _ (shape_of_solo h1 (sh := ⟨.value 0 0, [], [p, v]⟩) rfl) v (by simp)
            rw [h1, h2, h4 (by omega)]
          · have := hwf.optHyp.nodeBack i _ (shape_of_solo h1 (sh := ⟨.valueRoot 0, [], [v]⟩) rfl) v (by simp)
            rw [h1, h2, h4 (by omega)]
        · exact C.keepCell i hir hon
      cases hsh : shape s.cells i with
      | none => simp [nodeOK, C.shapeOld hir e, hsh]
      | some sh =>
        simp only [nodeOK, hsh, List.all_eq_true, Bool.and_eq_true, decide_eq_true_eq] at hold
        simp only [nodeOK, C.shapeOld hir e, hsh, List.all_eq_true, Bool.and_eq_true, decide_eq_true_eq]
        exact fun k hk => ⟨(hold k hk).1, C.nodeOld (by have := (hold k hk).1; omega) (hold k hk).2⟩
  obtain ⟨headNode, hsyms, hrootsV⟩ := C.tail.nodes fun x x' hl hx => C.linkNode (C.linkR _ _ hl) hx
  exact ⟨⟨by rw [C.tail.retention]; exact C.sizeLe, hnodes, fun i hi => (C.cellsOK hi).1, fun i hi => (C.cellsOK hi).2.1,
    by rw [C.tail.retention]; exact fun i hi => C.extent hi, headNode hwf.reg C.tail.register,
    headNode hwf.val C.tail.value, headNode hwf.frm C.tail.frame, hsyms hwf.syms⟩, hrootsV hroots⟩

theorem optimize_wfq {s s' : Store} {roots m : List Nat} (hwf : WFq s) (hroots : rootsOK s roots = true)
    (hstale : NoStale s) (h : Store.optimize s roots = .ok (s', m)) : WFq s' ∧ rootsOK s' m = true := by
  obtain ⟨s5, s6, sR, C⟩ := optimize_compacted (hwf.optPre hroots) h
  have hr := hwf.retLe
  have hc0A := C.sizeGe
  have hnodes : ∀ i, i < s'.cells.size → nodeOKq s'.cells i = true := by
    intro i hi
    by_cases hir : i < s.retention
    · have hlt : i < s.cells.size := by omega
      have hold := hwf.nodes i hlt
      rcases C.retained hstale i hir with ⟨e, hv⟩ | ⟨p, v, v', h1, h2, h3⟩ | ⟨v, v', h1, h2, h3⟩
      · obtain ⟨c, hc⟩ : ∃ c, s.cells[i]? = some c := ⟨s.cells[i], by simp [hlt]⟩
        have hc' : s'.cells[i]? = some c := by rw [e]; exact hc
        by_cases hcsv : isSV c = true
        · cases c <;> simp [isSV] at hcsv
          · rename_i p v
            simp only [nodeOKq, hc, Bool.and_eq_true, decide_eq_true_eq] at hold
            simp only [nodeOKq, hc', Bool.and_eq_true, decide_eq_true_eq]
            have hvr := hv v (Or.inl ⟨p, hc⟩)
            exact ⟨⟨hold.1.1, by rw [C.svOld (by omega)]; exact hold.1.2⟩, C.nodeOld hvr hold.2⟩
          · rename_i v
            simp only [nodeOKq, hc] at hold
            simp only [nodeOKq, hc']
            exact C.nodeOld (hv v (Or.inr hc)) hold
        · have hns : isSV c = false := by simpa using hcsv
          rw [nodeOKq_of_cell hc' hns]
          exact (C.cellsOK hi).2.2 (Or.inr (by simp [svAt, hc', hns]))
      · simp only [nodeOKq, h1, Bool.and_eq_true, decide_eq_true_eq] at hold
        simp only [nodeOKq, h2, Bool.and_eq_true, decide_eq_true_eq]
        exact ⟨⟨hold.1.1, by rw [C.svOld (by omega)]; exact hold.1.2⟩, C.linkNode h3 hold.2⟩
      · simp only [nodeOKq, h1] at hold
        simp only [nodeOKq, h2]
        exact C.linkNode h3 hold
    · -- a copy links downwards to nodes; the copy of a `Value` cell continues a chain
      refine nodeOKq_of_nodeOK ((C.cellsOK hi).2.2 (Or.inl (by omega))) fun p' v' hcV => ?_
      have hJ := C.sizeNew hi (by omega)
      have hc : s6.cells[s5.cells.size + (i - s.retention)]? = some (.value p' v') := by
        rw [← C.cellNew, show s.retention + (i - s.retention) = i by omega]; exact hcV
      rcases C.prov.chain hwf.chain C.inv.agree0 (by omega) hc with ⟨q1, q2⟩ | ⟨q1, q2, q3⟩
      · rw [C.ret6] at q1
        rw [C.svOld q1]
        simpa [svAt, C.cell6 p' (by omega)] using q2
      · have e1 : p' + (s5.cells.size - s.retention) = s5.cells.size + (p' + (s5.cells.size - s.retention) - s5.cells.size) := by omega
        have e2 : p' = s.retention + (p' + (s5.cells.size - s.retention) - s5.cells.size) := by omega
        rw [e2]
        simp only [svAt, C.cellNew, ← e1]
        exact q3
  obtain ⟨headNode, hsyms, hrootsV⟩ := C.tail.nodes fun x x' hl hx => C.linkNode (C.linkR _ _ hl) hx
  refine ⟨⟨by rw [C.tail.retention]; exact C.sizeLe, hnodes, fun i hi => (C.cellsOK hi).1, fun i hi => (C.cellsOK hi).2.1,
    by rw [C.tail.retention]; exact fun i hi => C.extent hi, headNode hwf.reg C.tail.register, ?_,
    headNode hwf.frm C.tail.frame, hsyms hwf.syms⟩, hrootsV hroots⟩
  rcases C.tail.value with ⟨_, e⟩ | ⟨i, m', e1, e2, hl⟩
  · rw [e]; rfl
  · rw [e2]
    have := hwf.val
    rw [e1] at this
    exact C.linkSV (C.linkR _ _ hl) this

/-- `i` is on the input-value chain that starts at `head` (at most `fuel` cells are visited) -/
def chainMem (cells : Array Cell) : Nat → Option Nat → Nat → Bool
  | 0, _, _ => false
  | _ + 1, none, _ => false
  | fuel + 1, some h, i =>
    if h = i then svAt cells h else
    match cells[h]? with
    | some (.value p _) => chainMem cells fuel (some p) i
    | _ => false

theorem chainMem_sound (cells : Array Cell) : ∀ (fuel : Nat) (o : Option Nat) (i : Nat),
    chainMem cells fuel o i = true → OnHead cells o i
  | 0, _, _, h => by simp [chainMem] at h
  | _ + 1, none, _, h => by simp [chainMem] at h
  | fuel + 1, some hd, i, h => by
    simp only [chainMem] at h
    split at h
    · rename_i e
      subst e
      exact ⟨hd, rfl, .here h⟩
    · split at h
      · rename_i p v hc
        obtain ⟨h', e, hch⟩ := chainMem_sound cells fuel (some p) i h
        cases e
        exact ⟨hd, rfl, .there hc hch⟩
      · cases h

/-- `NoStale` as a Boolean -/
def noStale (s : Store) : Bool :=
  (List.range s.retention).all (fun i =>
    match s.cells[i]? with
    | some (.value _ v) => decide (v < s.retention) || chainMem s.cells s.cells.size s.currentValue i
    | some (.valueRoot v) => decide (v < s.retention) || chainMem s.cells s.cells.size s.currentValue i
    | _ => true)

theorem noStale_sound {s : Store} (h : noStale s = true) : NoStale s := by
  intro i v hi hc
  simp only [noStale, List.all_eq_true, List.mem_range] at h
  have hh := h i hi
  rcases hc with ⟨p, hc⟩ | hc
  · simp only [hc, Bool.or_eq_true, decide_eq_true_eq] at hh
    exact hh.imp id (chainMem_sound _ _ _ _)
  · simp only [hc, Bool.or_eq_true, decide_eq_true_eq] at hh
    exact hh.imp id (chainMem_sound _ _ _ _)

theorem noStale_of_wf {s : Store} (hwf : WF s) : noStale s = true := by
  simp only [noStale, List.all_eq_true, List.mem_range]
  intro i hi
  have hlt : i < s.cells.size := by have := hwf.retLe; omega
  have hn := hwf.nodes i hlt
  cases hc : s.cells[i]? with
  | none => rfl
  | some c =>
    cases c <;> try rfl
    · rename_i p v
      have hsh : shape s.cells i = some ⟨.value 0 0, [], [p, v]⟩ := shape_of_solo hc rfl
      simp only [nodeOK, hsh, List.all_eq_true, Bool.and_eq_true, decide_eq_true_eq] at hn
      have := (hn v (by simp)).1
      simp only [Bool.or_eq_true, decide_eq_true_eq]
      exact Or.inl (by omega)
    · rename_i v
      have hsh : shape s.cells i = some ⟨.valueRoot 0, [], [v]⟩ := shape_of_solo hc rfl
      simp only [nodeOK, hsh, List.all_eq_true, Bool.and_eq_true, decide_eq_true_eq] at hn
      have := (hn v (by simp)).1
      simp only [Bool.or_eq_true, decide_eq_true_eq]
      exact Or.inl (by omega)

end Garnish.BasicOpt
