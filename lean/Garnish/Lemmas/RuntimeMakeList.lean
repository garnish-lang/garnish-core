/-
Refinement lemmas for `make_list` (list.rs): the add loop, the pop loop, and the handler against the contract of
`start_list` / `add_to_list` / `end_list` (the ghost list under construction of `StoreLaws`).
-/
import Garnish.Lemmas.RuntimeConcat
import Garnish.Model.Runtime.MakeList
namespace Garnish.Lemmas.Runtime
open Garnish Gen Garnish.Abs Garnish.Model.Equality Garnish.Model.Runtime

variable {F σ : Type} {S : RStore F σ}

theorem decodesList_reverse {view : StoreView F} : ∀ {as : List Nat} {vs : List (Val F)},
    DecodesList view as vs → DecodesList view as.reverse vs.reverse
  | [], [], .nil => .nil
  | a :: as, v :: vs, .cons h t => by
    simp only [List.reverse_cons]
    exact EqualityRefine.decodesList_append (decodesList_reverse t) (.cons h .nil)

theorem makeList_short {s : σ} {len : Nat} (h : len > (S.regs s).length) : makeList S len s = .err .state := by
  have hlen : getRegisterLen S s = .ok ((S.regs s).length, s) := rfl
  rw [makeList, bind_ok hlen]
  simp only [h, if_true]; rfl

namespace Core
open On

variable {Inv : σ → Prop} {Rd : σ → Nat → Prop} {K : Prop}

/-- the add loop: the `k`-th round adds the `k`-th of the top registers counted from the bottom -/
theorem makeListAdd_spec (L : LawsK S Inv Rd K) (top rest : List Nat) : ∀ (rem k t : Nat) (s : σ), Inv s →
    rem + k = top.length → S.regs s = top ++ rest → S.building s = some (t, top.reverse.take k) →
    ∃ t' s', makeListAdd S rem (rest.length + k) t s = .ok (t', s') ∧ EffI S Inv s s' (top ++ rest) (S.vals s) ∧
      S.building s' = some (t', top.reverse) := by
  intro rem
  induction rem with
  | zero =>
    intro k t s hi hk hregs hb
    have : top.reverse.take k = top.reverse := List.take_of_length_le (by simp; omega)
    rw [this] at hb
    exact ⟨t, s, rfl, ⟨⟨Keeps.refl S s, hregs, rfl, rfl, rfl⟩, hi⟩, hb⟩
  | succ rem ih =>
    intro k t s hi hk hregs hb
    have hlt : k < top.reverse.length := by simp; omega
    have hget : getRegister S (rest.length + k) s = .ok (some top.reverse[k], s) := by
      show Outcome.ok ((S.regs s).reverse[rest.length + k]?, s) = _
      rw [hregs, List.reverse_append, List.getElem?_append_right (by simp), List.length_reverse,
        Nat.add_sub_cancel_left, List.getElem?_eq_getElem hlt]
    obtain ⟨t1, s1, h1, e1', b1, i1⟩ := L.addToList t _ top.reverse[k] s hi hb
    have e1 : EffI S Inv s s1 (S.regs s) (S.vals s) := ⟨e1', i1⟩
    rw [hregs] at e1
    have hb1 : S.building s1 = some (t1, top.reverse.take (k + 1)) := by
      rw [b1, List.take_add_one, List.getElem?_eq_getElem hlt]; rfl
    obtain ⟨t2, s2, h2, e2, b2⟩ := ih (k + 1) t1 s1 i1 (by omega) e1.regs hb1
    rw [e1.vals] at e2
    refine ⟨t2, s2, ?_, e1.trans e2, b2⟩
    rw [makeListAdd, bind_ok hget]
    simp only []
    rw [bind_ok (pure_apply _ s), bind_ok h1]
    exact h2

theorem popRegisters_spec (L : LawsK S Inv Rd K) : ∀ (top rest : List Nat) (s : σ), Inv s → DeepK K S s rest →
    S.regs s = top ++ rest → ∃ s', popRegisters S top.length s = .ok ((), s') ∧ EffI S Inv s s' rest (S.vals s) ∧
      S.building s' = S.building s
  | [], rest, s, hi, _, hregs => ⟨s, rfl, ⟨⟨Keeps.refl S s, by simpa using hregs, rfl, rfl, rfl⟩, hi⟩, rfl⟩
  | x :: top, rest, s, hi, hdp, hregs => by
    obtain ⟨s1, h1, e1', i1⟩ := L.popRegisterCons s x (top ++ rest) hi hregs (hdp.app top)
    have e1 : EffI S Inv s s1 (top ++ rest) (S.vals s) := ⟨e1', i1⟩
    have hb1 := L.popRegisterBuilding s _ s1 h1
    obtain ⟨s2, h2, e2, hb2⟩ := popRegisters_spec L top rest s1 i1 (e1.deepK hdp) e1.regs
    rw [e1.vals] at e2
    refine ⟨s2, ?_, e1.trans e2, hb2.trans hb1⟩
    show popRegisters S (top.length + 1) s = _
    rw [popRegisters, bind_ok h1]; exact h2

/-- `make_list len` with at least `len` registers: the top `len` registers, bottom-most first, become one list -/
theorem makeList_spec (L : LawsK S Inv Rd K) {s : σ} (top rest : List Nat) (tvs : List (Val F))
    (hregs : S.regs s = top ++ rest) (hd : DecodesList (S.view s) top tvs)
    (hi : Inv s := by inv_tac) (hdp : DeepK K S s rest := by deep_tac) :
    PushedI S Inv s (makeList S top.length s) none rest (.list tvs.reverse) := by
  have hlen : getRegisterLen S s = .ok ((top ++ rest).length, s) := by
    show Outcome.ok ((S.regs s).length, s) = _
    rw [hregs]
  have hnot : ¬ top.length > (top ++ rest).length := by simp
  obtain ⟨t0, s1, h1, e1', b1, i1⟩ := L.startList top.length s hi
  have e1 : EffI S Inv s s1 (S.regs s) (S.vals s) := ⟨e1', i1⟩
  rw [hregs] at e1
  have hlen1 : getRegisterLen S s1 = .ok ((top ++ rest).length, s1) := by
    show Outcome.ok ((S.regs s1).length, s1) = _
    rw [e1.regs]
  obtain ⟨t1, s2, h2, e2, b2⟩ := makeListAdd_spec L top rest top.length 0 t0 s1 i1 (by omega) e1.regs
    (by rw [b1]; rfl)
  rw [e1.vals] at e2
  obtain ⟨s3, h3, e3, b3⟩ := popRegisters_spec L top rest s2 e2.inv ((e1.trans e2).deepK hdp) e2.regs
  rw [e2.vals] at e3
  have e03 := (e1.trans e2).trans e3
  obtain ⟨a, s4, h4, d4, e4⟩ := adds_i (L.endList t1 top.reverse tvs.reverse s3 e3.inv (by rw [b3, b2])
    (decodesList_reverse (decodesList_keeps e03.keeps hd)))
  rw [e3.regs, e3.vals] at e4
  obtain ⟨s5, h5, e5⟩ := pushReg L d4 (fun _ => nofun)
  rw [e4.regs, e4.vals] at e5
  refine ⟨a, s5, ?_, e5.dec d4, (e03.trans e4).trans e5⟩
  have hcount : (top ++ rest).length - ((top ++ rest).length - top.length) = top.length := by simp
  have hstart : (top ++ rest).length - top.length = rest.length + 0 := by simp
  rw [makeList, bind_ok hlen]
  simp only [hnot, if_false]
  rw [bind_ok h1, bind_ok hlen1, bind_ok hlen1, hcount, hstart, bind_ok h2, bind_ok h3,
    bind_ok h4, bind_ok h5]; rfl

end Core

end Garnish.Lemmas.Runtime
