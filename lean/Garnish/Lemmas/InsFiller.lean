/-
A filler token (Whitespace / Annotation) put into a token list behind a token `p`, both in the interior: `InsFiller`.
One fact per stage: no trivia at the ends is kept (`noTrim`, from `noTrim_insert`; `noTrim_sides` for the converse reading: a
trimmable token inside such a list has tokens on both sides), the reference tree is the same up to positions where the
reference parser does not notice the token (`Unnoticed`), and two such trees elaborate to the same program
(`elaborate`: the significant positions behind the token move up by one, the texts found there stay). `SameProg`, the
conclusion of the last two together, is transitive, so several tokens are put in one after the other.
-/
import Garnish.Lemmas.InsFillerSig
import Garnish.Lemmas.ElabRelabel
import Garnish.Lemmas.RefParseNodes
namespace Garnish.Spec
open Garnish Garnish.Gen Garnish.Model.Parser Garnish.Abs.Source

theorem noTrim_insert (a b : List PToken) (w : PToken) (ha : a ≠ []) (hb : b ≠ []) (h : NoTrim (a ++ b)) :
    NoTrim (a ++ w :: b) := by
  obtain ⟨_, h1, h2⟩ := h
  refine ⟨by simp, ?_, ?_⟩
  · cases a with
    | nil => exact absurd rfl ha
    | cons x a' => exact (trimStart_head _ _).mpr ((trimStart_head x (a' ++ b)).mp (by simpa using h1))
  · cases hr : b.reverse with
    | nil => exact absurd (List.reverse_eq_nil_iff.mp hr) hb
    | cons z r =>
      have e1 : (a ++ b).reverse = z :: (r ++ a.reverse) := by rw [List.reverse_append, hr]; rfl
      have e2 : (a ++ w :: b).reverse = z :: (r ++ (w :: a.reverse)) := by
        rw [List.reverse_append, List.reverse_cons, hr]; simp
      rw [e1] at h2
      rw [e2]
      exact (trimStart_head _ _).mpr ((trimStart_head _ _).mp h2)

theorem noTrim_sides (a b : List PToken) (x : PToken) (hx : isTrimmable x = true) (h : NoTrim (a ++ x :: b)) :
    a ≠ [] ∧ b ≠ [] := by
  obtain ⟨_, h1, h2⟩ := h
  constructor
  · intro e; subst e
    have := (trimStart_head x b).mp (by simpa using h1)
    rw [hx] at this; cases this
  · intro e; subst e
    have e1 : (a ++ [x]).reverse = x :: a.reverse := by simp
    rw [e1] at h2
    have := (trimStart_head _ _).mp h2
    rw [hx] at this; cases this

/-- `b = X ++ p :: w :: Y` is `a` with the filler token `w` put in behind `p`; `a` is given up to stored positions and the
texts of whitespace tokens. The facts about trees need the token inside the list: `Y ≠ []`. -/
structure InsFiller (a b X : List PToken) (p w : PToken) (Y : List PToken) : Prop where
  eq : b = X ++ p :: w :: Y
  types : SameTypes a (X ++ p :: Y)
  filler : isFiller w.type = true
  text : ∀ k t, a[k]? = some t → t.type ≠ .whitespace → textAt b (shiftAt (X.length + 1) k) = t.text

/-- where the reference parser does not notice the token: an annotation anywhere, a blank behind a blank, an operator or
an opening bracket -/
def Unnoticed (p w : PToken) : Prop := isAnnTok w = true ∨ (isWsTok w = true ∧ (isWsTok p = true ∨ opLikeBefore p = true))

def SameProg (a b : List PToken) : Prop :=
  NoTrim a → NoTrim b ∧ ∀ rt, refParse Table.gen a = .ok rt → ∃ rt', refParse Table.gen b = .ok rt' ∧
    rt.eraseTok = rt'.eraseTok ∧ ∀ {F : Type} (pf : List Char → Option F), elaborate pf b rt' = elaborate pf a rt

theorem SameProg.trans {a b c : List PToken} (h1 : SameProg a b) (h2 : SameProg b c) : SameProg a c := by
  intro ha
  obtain ⟨hb, k1⟩ := h1 ha
  obtain ⟨hc, k2⟩ := h2 hb
  refine ⟨hc, fun rt hr => ?_⟩
  obtain ⟨rt1, r1, e1, l1⟩ := k1 rt hr
  obtain ⟨rt2, r2, e2, l2⟩ := k2 rt1 r1
  exact ⟨rt2, r2, e1.trans e2, fun pf => (l2 pf).trans (l1 pf)⟩

namespace InsFiller
variable {a b X Y : List PToken} {p w : PToken} (h : InsFiller a b X p w Y)
include h

theorem noTrim (hY : Y ≠ []) (ha : NoTrim a) : NoTrim b := by
  have := noTrim_insert (X ++ [p]) Y w (by simp) hY (by simpa using ha.types h.types)
  rw [h.eq]; simpa using this

/-- two reference trees that agree up to positions elaborate to the same program: their in-order walks are the significant
positions (`refParse_inorder`), which correspond by `shiftAt`, so one tree is a relabelling of the other -/
theorem elaborate {F : Type} (pf : List Char → Option F) (hY : Y ≠ []) (ha : NoTrim a) {rt rt' : RTree}
    (href : refParse Table.gen a = .ok rt) (href' : refParse Table.gen b = .ok rt') (herase : rt.eraseTok = rt'.eraseTok) :
    elaborate pf b rt' = Abs.Source.elaborate pf a rt := by
  have hm : NoTrim (X ++ p :: Y) := ha.types h.types
  have hsig : significant b = (significant a).map (shiftAt (X.length + 1)) := by
    rw [← significant_types h.types ha, h.eq]
    have := significant_insert (X ++ [p]) Y w h.filler (by simpa using hm) (by simpa [h.eq] using h.noTrim hY ha)
    simpa using this
  refine elaborate_relabel pf a b _ rt rt' (shiftAt_inj _)
    (relabel_of_erase_sig _ rt rt' herase (by rw [refParse_inorder _ _ href', refParse_inorder _ _ href, hsig])) ?_
  intro d k hm hr
  rcases refParse_nodes a rt href d k hm with e | ⟨tok, htok, _⟩
  · subst e; cases hr
  · rw [h.text k tok htok (refParse_text_nodes a rt href d k hm hr tok htok).1]
    simp [textAt, htok]

theorem split : ∃ X' p' Y', a = X' ++ p' :: Y' ∧ p'.type = p.type ∧ SameTypes (X' ++ p' :: w :: Y') b := by
  have ht := h.types
  unfold SameTypes at ht
  rw [List.map_append, List.map_cons] at ht
  obtain ⟨X', R, rfl, hX, hR⟩ := List.map_eq_append_iff.mp ht
  obtain ⟨p', Y', rfl, hp, hY⟩ := List.map_eq_cons_iff.mp hR
  refine ⟨X', p', Y', rfl, hp, ?_⟩
  unfold SameTypes
  rw [h.eq]
  simp only [List.map_append, List.map_cons, hX, hp, hY]

theorem addSpace (hw : isWsTok w = true) (hp : isWsTok p = true ∨ opLikeBefore p = true) : AddSpace a b := by
  obtain ⟨X', p', Y', rfl, hty, hs⟩ := h.split
  refine ⟨_, .after X' [] Y' p' w hw ?_ (fun _ hx => by cases hx), hs⟩
  unfold isWsTok opLikeBefore at hp ⊢
  rw [hty]; exact hp

theorem addAnnotation (hw : isAnnTok w = true) : AddAnnotation a b := by
  obtain ⟨X', p', Y', rfl, _, hs⟩ := h.split
  have := AddAnnotation0.mk (X' ++ [p']) Y' w hw
  exact ⟨_, by simpa using this, hs⟩

theorem sameProg (hY : Y ≠ []) (hu : Unnoticed p w) : SameProg a b := by
  intro ha
  have hb := h.noTrim hY ha
  refine ⟨hb, fun rt href => ?_⟩
  have hadd : (refParse Table.gen a).mapT RTree.eraseTok = (refParse Table.gen b).mapT RTree.eraseTok := by
    rcases hu with hw | ⟨hw, hp⟩
    · exact refParse_addAnnotation (h.addAnnotation hw) ha hb
    · exact refParse_addSpace (h.addSpace hw hp) ha hb
  rw [href] at hadd
  cases href' : refParse Table.gen b with
  | ok rt' =>
    rw [href'] at hadd
    have herase : rt.eraseTok = rt'.eraseTok := by injection hadd
    exact ⟨rt', rfl, herase, fun pf => h.elaborate pf hY ha href href' herase⟩
  | err _ => rw [href'] at hadd; cases hadd
  | panic _ => rw [href'] at hadd; cases hadd
  | fuelOut => rw [href'] at hadd; cases hadd

end InsFiller

end Garnish.Spec
