/-
The strict reference evaluator: `Spec.evalF` with one change — an else-chain WITHOUT a final arm in which no arm
matches is an error (`.err .state`) instead of yielding `$`. `build` emits nothing for the missing fall-through (no value
is pushed: DESIGN finding #6), so compiled code and `evalF` agree on such a chain exactly when some arm matches; the
strict evaluator makes "the evaluation never reaches a missing fall-through" a property of the outcome:

  strict_or     evalBodyS … = evalBody … ∨ evalBodyS … = .err .state            (Lemmas/CompileStrictAgree.lean)
  strict_eq     every chain has its final arm → evalBodyS … = evalBody …

The simulation (Lemmas/CompileRun*.lean) is proved for the strict evaluator; the text below is `Spec/Eval.lean`'s
mutual block with the names changed and the one line marked STRICT.
-/
import Garnish.Spec.Eval
namespace Garnish.Spec
open Garnish Gen Garnish.Abs

variable {F : Type} (fo : FloatOps F) (host : Host F)

mutual
/-- evaluate one expression -/
def evalFS (bodies : List (Nat × Expr F)) (cur : Nat) : Nat → Expr F → St F → Out (Res F × St F)
  | 0, _, _ => .fuelOut
  | fuel + 1, e, st =>
    match e with
    | .lit v => .ok (.val v, st)
    | .input => .ok (.val st.inp, st)
    | .ident sym => match resolveVal fo host st sym with
      | .ok (v, st') => .ok (.val v, st')
      | .err e => .err e
      | .fuelOut => .fuelOut
    | .unary op x =>
      match evalFS bodies cur fuel x st with
      | .ok (.val v, st1) =>
        if op == .emptyApply then applyValsS bodies cur fuel .emptyApply false v .unit st1
        else match unaryOp fo op v with
          | some o => match settle host st1 o with
            | .ok (r, st2) => .ok (.val r, st2)
            | .err e => .err e
            | .fuelOut => .fuelOut
          | none => .err .implementation
      | other => other
    | .binary op l r =>
      match evalFS bodies cur fuel l st with
      | .ok (.val vl, st1) =>
        match evalFS bodies cur fuel r st1 with
        | .ok (.val vr, st2) =>
          if op == .apply then applyValsS bodies cur fuel .apply true vl vr st2
          else match binaryOp fo op vl vr with
            | some o => match settle host st2 o with
              | .ok (v, st3) => .ok (.val v, st3)
              | .err e => .err e
              | .fuelOut => .fuelOut
            | none => .err .implementation
        | other => other
      | other => other
    | .pair l r =>
      match evalFS bodies cur fuel r st with
      | .ok (.val vr, st1) =>
        match evalFS bodies cur fuel l st1 with
        | .ok (.val vl, st2) => .ok (.val (.pair vl vr), st2)
        | other => other
      | other => other
    | .applyTo x f =>
      match evalFS bodies cur fuel f st with
      | .ok (.val vf, st1) =>
        match evalFS bodies cur fuel x st1 with
        | .ok (.val vx, st2) => applyValsS bodies cur fuel .apply true vf vx st2
        | other => other
      | other => other
    | .list items =>
      match evalListS bodies cur fuel items st [] with
      | .ok (.inl vs, st1) => .ok (.val (.list vs), st1)
      | .ok (.inr v, st1) => .ok (.restart v, st1)
      | .err e => .err e
      | .fuelOut => .fuelOut
    | .cond onTrue c t =>
      match evalFS bodies cur fuel c st with
      | .ok (.val vc, st1) =>
        if vc.truthy == onTrue then evalFS bodies cur fuel t st1
        else .ok (.val st1.inp, st1)         -- the test failed: the value is the current `$`
      | other => other
    | .chain arms final => evalChainS bodies cur fuel arms final st
    | .and l r =>
      match evalFS bodies cur fuel l st with
      | .ok (.val vl, st1) =>
        if vl.truthy then
          match evalFS bodies cur fuel r st1 with
          | .ok (.val vr, st2) => .ok (.val (Val.ofBool vr.truthy), st2)
          | other => other
        else .ok (.val .fls, st1)
      | other => other
    | .or l r =>
      match evalFS bodies cur fuel l st with
      | .ok (.val vl, st1) =>
        if vl.truthy then .ok (.val .tru, st1)
        else match evalFS bodies cur fuel r st1 with
          | .ok (.val vr, st2) => .ok (.val (Val.ofBool vr.truthy), st2)
          | other => other
      | other => other
    | .seq a b =>
      match evalFS bodies cur fuel a st with
      | .ok (.val va, st1) => evalFS bodies cur fuel b { st1 with inp := va }
      | other => other
    | .sideAfter x body =>
      match evalFS bodies cur fuel x st with
      | .ok (.val vx, st1) =>
        -- the block sees the current `$`; whatever it does to `$` and its value are discarded
        match evalFS bodies cur fuel body st1 with
        | .ok (.val _, st2) => .ok (.val vx, { st2 with inp := st1.inp })
        | other => other
      | other => other
    | .nested id => .ok (.val (.expr id), st)
    | .emptyNested => .ok (.val (.expr cur), st)
    | .reapply x =>
      match evalFS bodies cur fuel x st with
      | .ok (.val v, st1) => .ok (.restart v, st1)
      | other => other
    | .prefixApply sym x =>
      match resolveVal fo host st sym with
      | .ok (vf, st1) =>
        match evalFS bodies cur fuel x st1 with
        | .ok (.val vx, st2) => applyValsS bodies cur fuel .apply true vf vx st2
        | other => other
      | .err e => .err e
      | .fuelOut => .fuelOut
    | .suffixApply x sym =>
      match resolveVal fo host st sym with
      | .ok (vf, st1) =>
        match evalFS bodies cur fuel x st1 with
        | .ok (.val vx, st2) => applyValsS bodies cur fuel .apply true vf vx st2
        | other => other
      | .err e => .err e
      | .fuelOut => .fuelOut
    | .infixApply a sym b =>
      match resolveVal fo host st sym with
      | .ok (vf, st1) =>
        match evalFS bodies cur fuel a st1 with
        | .ok (.val va, st2) =>
          match evalFS bodies cur fuel b st2 with
          | .ok (.val vb, st3) => applyValsS bodies cur fuel .apply true vf (.list [va, vb]) st3
          | other => other
        | other => other
      | .err e => .err e
      | .fuelOut => .fuelOut

/-- list items left to right; a restart inside an item restarts the enclosing body -/
def evalListS (bodies : List (Nat × Expr F)) (cur : Nat) : Nat → List (Expr F) → St F → List (Val F) →
    Out ((List (Val F) ⊕ Val F) × St F)
  | 0, _, _, _ => .fuelOut
  | _ + 1, [], st, acc => .ok (.inl acc.reverse, st)
  | fuel + 1, x :: xs, st, acc =>
    match evalFS bodies cur fuel x st with
    | .ok (.val v, st1) => evalListS bodies cur fuel xs st1 (v :: acc)
    | .ok (.restart v, st1) => .ok (.inr v, st1)
    | .err e => .err e
    | .fuelOut => .fuelOut

/-- else-chain: conditions in order, at most one arm; no arm matches and there is no final expression: an error -/
def evalChainS (bodies : List (Nat × Expr F)) (cur : Nat) : Nat → List (Bool × Expr F × Expr F) → Option (Expr F) → St F →
    Out (Res F × St F)
  | 0, _, _, _ => .fuelOut
  | fuel + 1, [], final, st =>
    match final with
    | some e => evalFS bodies cur fuel e st
    | none => .err .state                 -- STRICT: the missing fall-through is reached
  | fuel + 1, (onTrue, c, t) :: rest, final, st =>
    match evalFS bodies cur fuel c st with
    | .ok (.val vc, st1) =>
      if vc.truthy == onTrue then evalFS bodies cur fuel t st1
      else evalChainS bodies cur fuel rest final st1
    | other => other

/-- apply `f` to `x`: an expression value runs its body in a new frame with `$ := x` -/
def applyValsS (bodies : List (Nat × Expr F)) (cur : Nat) : Nat → Instruction → Bool → Val F → Val F → St F →
    Out (Res F × St F)
  | 0, _, _, _, _, _ => .fuelOut
  | fuel + 1, instr, useRight, f, x, st =>
    match applyKind fo instr useRight f x with
    | .enter j input =>
      match lookupBody bodies j with
      | none => .err .state
      | some body =>
        match evalBodyS bodies j fuel body { st with inp := input } with
        | .ok (v, st1) => .ok (.val v, { st1 with inp := st.inp })
        | .err e => .err e
        | .fuelOut => .fuelOut
    | .external n arg =>
      let st' := { st with trace := HostCall.apply n arg :: st.trace }
      match host.apply n arg with
      | some v => .ok (.val v, st')
      | none => .ok (.val .unit, st')
    | .out o => match settle host st o with
      | .ok (v, st1) => .ok (.val v, st1)
      | .err e => .err e
      | .fuelOut => .fuelOut

/-- run a body to its value, restarting it on `^~` (no new frame, no growth) -/
def evalBodyS (bodies : List (Nat × Expr F)) (cur : Nat) : Nat → Expr F → St F → Out (Val F × St F)
  | 0, _, _ => .fuelOut
  | fuel + 1, body, st =>
    match evalFS bodies cur fuel body st with
    | .ok (.val v, st1) => .ok (v, st1)
    | .ok (.restart v, st1) => evalBodyS bodies cur fuel body { st1 with inp := v }
    | .err e => .err e
    | .fuelOut => .fuelOut
end

/-- whole program, strictly -/
def evalProgramS (fuel : Nat) (p : Program F) (input : Val F) : Out (Val F × St F) :=
  evalBodyS fo host p.bodies 0 fuel p.main { inp := input, trace := [] }

end Garnish.Spec
