/-
The step simulation over the guarded contract `LawsK` (Lemmas/RuntimeLaws.lean), against the table `handle` of
Abs/Machine `step` (Lemmas/MachineTable.lean). `HandlerSimI` says of one handler run what `HandlerSim` and
`HandlerTrace` say, and the invariant: related data, the invariant again, related traces; `StepSimI` does the same for
`StepSim`, `StepSimOn`, `StepTrace`, which are its projections. `Core.step_of_handle` goes from the handler to the step.
The instruction lemmas `Core.handle_X` of the files that read this one state `HandlerSimI … (dispatch … X operand s) m
(handle … m X operand)` for every machine state: where the machine errs the arm of `handle` is an error and nothing is
claimed. Of the store the step itself needs the `setCursor` clause only (`SetCursorLaw`): a contract that lacks other
clauses of `LawsK` (Lemmas/RuntimeOnL2.lean) gives it too.
-/
import Garnish.Model.Runtime.SimT
import Garnish.Lemmas.RuntimeSimData
import Garnish.Lemmas.MachineTable
import Garnish.Lemmas.Ops
namespace Garnish.Lemmas.Runtime
open Garnish Gen Garnish.Abs Garnish.Model.Equality Garnish.Model.Runtime

variable {F σ : Type} {S : RStore F σ} {P : Prog F} {host : Host F}

theorem callRel_mapDec {v1 v2 : StoreView F} (hdec : ∀ a v, Decodes v1 a v → Decodes v2 a v)
    {c : HostCall} {c' : Abs.HostCall F} (h : CallRel v1 c c') : CallRel v2 c c' := by
  cases c <;> cases c' <;> simp only [CallRel] at h ⊢
  · rename_i op l r op' vl vr
    obtain ⟨tl, la⟩ := l
    obtain ⟨tr, ra⟩ := r
    obtain ⟨h1, h2, h3, h4, h5⟩ := h
    exact ⟨h1, h2, h3, hdec _ _ h4, h5.imp (hdec _ _) id⟩
  · exact h
  · exact ⟨h.1, hdec _ _ h.2⟩

theorem traceRel_mapDec {v1 v2 : StoreView F} (hdec : ∀ a v, Decodes v1 a v → Decodes v2 a v) :
    ∀ {t : List HostCall} {t' : List (Abs.HostCall F)}, TraceRel v1 t t' → TraceRel v2 t t'
  | _, _, .nil => .nil
  | _, _, .cons h t => .cons (callRel_mapDec hdec h) (traceRel_mapDec hdec t)

theorem _root_.Garnish.Model.Runtime.HostRefines.toI (HR : HostRefines S host) :
    On.HostRefinesI S (fun _ => True) host :=
  ⟨fun op l r vl vr s _ hl hr => (HR.defer op l r vl vr s hl hr).toI,
    fun op a v s _ ha => (HR.deferUnary op a v s ha).toI, fun y s _ => (HR.resolve y s).toI,
    fun n r vr s _ hr => (HR.apply n r vr s hr).toI⟩

theorem fetch_of_sim {s : σ} {m : MState F} (hsim : Sim S P s m) :
    (RM.read (fun st => S.instruction st (S.cursor st)) : RM σ _) s = .ok (P.instrs[m.pc]?, s) := by
  show Outcome.ok (S.instruction s (S.cursor s), s) = _
  rw [hsim.2.instrs, hsim.1]

namespace On
variable {Inv : σ → Prop} {Rd : σ → Nat → Prop} {K : Prop}

/-- a handler run against the machine's result before `finish`: data, invariant and host trace in one statement -/
def HandlerSimI (S : RStore F σ) (Inv : σ → Prop) (P : Prog F) (s : σ) (res : Outcome (Option Nat × σ))
    (m : MState F) (r : Except ErrClass (MState F × Nat)) : Prop :=
  match r with
  | .ok (md, n) => ∃ next s1, res = .ok (next, s1) ∧ next.getD (S.cursor s + 1) = n ∧ S.cursor s1 = S.cursor s ∧
      SimD S P s1 md.regs md.vals md.frames ∧ DecKept S s s1 ∧ Inv s1 ∧
      (TraceRel (S.view s) (S.trace s) m.trace → TraceRel (S.view s1) (S.trace s1) md.trace)
  | .error _ => True

/-- one address-level step against one machine step: `StepSimOn` and `StepTrace` in one statement -/
def StepSimI (fo : FloatOps F) (host : Host F) (S : RStore F σ) (Inv : σ → Prop) (P : Prog F) (fuel : Nat)
    (H : OtherHandlers σ) (s : σ) (m : MState F) : Prop :=
  match Abs.step fo host P m with
  | .running m' => ∃ s', executeCurrentInstruction fo S fuel H s = .ok (.running, s') ∧ Sim S P s' m' ∧
      DecKept S s s' ∧ Inv s' ∧ (TraceRel (S.view s) (S.trace s) m.trace → TraceRel (S.view s') (S.trace s') m'.trace)
  | .halted m' => ∃ s', executeCurrentInstruction fo S fuel H s = .ok (.end_, s') ∧
      SimD S P s' m'.regs m'.vals m'.frames ∧ DecKept S s s' ∧ Inv s' ∧
      (TraceRel (S.view s) (S.trace s) m.trace → TraceRel (S.view s') (S.trace s') m'.trace)
  | .err _ => True

variable {fo : FloatOps F} {fuel : Nat} {H : OtherHandlers σ} {s : σ} {m : MState F}

theorem StepSimI.on (h : StepSimI fo host S Inv P fuel H s m) : StepSimOn fo host S Inv P fuel H s m := by
  unfold StepSimI at h; unfold StepSimOn
  split <;> simp only [*] at h ⊢
  · obtain ⟨s', h1, h2, h3, h4, _⟩ := h; exact ⟨s', h1, h2, h3, h4⟩
  · obtain ⟨s', h1, h2, h3, h4, _⟩ := h; exact ⟨s', h1, h2, h3, h4⟩

theorem StepSimI.sim (h : StepSimI fo host S Inv P fuel H s m) : StepSim fo host S P fuel H s m := by
  unfold StepSimI at h; unfold StepSim
  split <;> simp only [*] at h ⊢
  · obtain ⟨s', h1, h2, h3, _⟩ := h; exact ⟨s', h1, h2, h3⟩
  · obtain ⟨s', h1, h2, h3, _⟩ := h; exact ⟨s', h1, h2, h3⟩

theorem StepSimI.trace (h : StepSimI fo host S Inv P fuel H s m) : StepTrace fo host S P fuel H s m := by
  intro htr
  unfold StepSimI at h
  revert h
  cases Abs.step fo host P m with
  | err e => intro _; trivial
  | running m' =>
    intro ⟨s', h1, _, _, _, h5⟩ r s'' hex
    rw [h1] at hex; cases hex; exact h5 htr
  | halted m' =>
    intro ⟨s', h1, _, _, _, h5⟩ r s'' hex
    rw [h1] at hex; cases hex; exact h5 htr

theorem StepSimI.both (h : StepSimI fo host S Inv P fuel H s m) :
    StepSim fo host S P fuel H s m ∧ StepTrace fo host S P fuel H s m := ⟨h.sim, h.trace⟩

theorem deep_of_sim {s : σ} {m : MState F} (hd : SimD S P s m.regs m.vals m.frames) {rest : List Nat}
    {rs : List (Val F)} (hl : DecodesList (S.view s) rest rs) (hm : MDeep m rs) : Deep S s rest := by
  intro ret saved fs hf
  have hfr := hd.frames
  rw [hf] at hfr
  generalize hmf : m.frames = mf at hfr
  cases hfr with
  | cons _ hsaved _ =>
    have := hm _ _ hmf
    rw [EqualityRefine.decodesList_length hsaved, EqualityRefine.decodesList_length hl]; exact this

end On

namespace Core
open On
variable {Inv : σ → Prop} {Rd : σ → Nat → Prop} {K : Prop}

theorem advance_spec (hset : SetCursorLaw S Inv) {s1 : σ} (next : Option Nat) (md : MState F) (hi : Inv s1)
    (hd : SimD S P s1 md.regs md.vals md.frames) :
    ∃ r s', advance S next s1 = .ok (r, s') ∧ S.trace s' = S.trace s1 ∧ DecKept S s1 s' ∧ Inv s' ∧
      match finish P (.ok (md, next.getD (S.cursor s1 + 1))) with
      | .running m' => r = .running ∧ Sim S P s' m'
      | .halted m' => r = .end_ ∧ SimD S P s' m'.regs m'.vals m'.frames
      | .err _ => True := by
  rw [advance, bind_ok (read_apply S.cursor s1), bind_ok (read_apply S.instrLen s1), hd.ilen]
  simp only [finish]
  by_cases hge : next.getD (S.cursor s1 + 1) ≥ P.instrs.size
  · simp only [hge, if_true]
    exact ⟨_, s1, rfl, rfl, fun _ _ h => h, hi, rfl, hd⟩
  · simp only [hge, if_false]
    obtain ⟨s2, h2, hc, hdec, hj, hil, hins, _, hregs, hvals, htr, hfr, hinv⟩ :=
      hset (next.getD (S.cursor s1 + 1)) s1
    refine ⟨_, s2, by rw [bind_ok h2]; rfl, htr, hdec, hinv hi, rfl, hc, ?_⟩
    exact ⟨hregs ▸ decodesList_mapDec hdec hd.regs, hvals ▸ decodesList_mapDec hdec hd.vals,
      hfr ▸ framesRel_mapDec hdec hd.frames, fun i => by rw [hins]; exact hd.instrs i,
      fun j => by rw [hj]; exact hd.jumps j, by rw [hil]; exact hd.ilen⟩

theorem step_of_handle (hset : SetCursorLaw S Inv) (fo : FloatOps F) (fuel : Nat) (H : OtherHandlers σ) {s : σ}
    {m : MState F} (hsim : Sim S P s m) {instr : Instruction} {operand : Option Nat}
    (hfetch : P.instrs[m.pc]? = some (instr, operand))
    (hh : HandlerSimI S Inv P s (dispatch fo S fuel H instr operand s) m (handle fo host P m instr operand)) :
    StepSimI fo host S Inv P fuel H s m := by
  unfold StepSimI
  rw [step_eq_handle fo host hfetch]
  have hf := fetch_of_sim hsim
  rw [hfetch] at hf
  cases hr : handle fo host P m instr operand with
  | error e => trivial
  | ok p =>
    obtain ⟨md, n⟩ := p
    rw [hr] at hh
    obtain ⟨next, s1, h1, hn, hc, hd1, hk1, i1, ht1⟩ := hh
    obtain ⟨r, s', h2, htr2, hk2, i2, hfin⟩ := advance_spec (P := P) hset next md i1 hd1
    rw [hc, hn] at hfin
    have hex : executeCurrentInstruction fo S fuel H s = .ok (r, s') := by
      rw [executeCurrentInstruction, bind_ok hf]
      simp only []
      rw [bind_ok h1]; exact h2
    have hk : DecKept S s s' := fun a v h => hk2 a v (hk1 a v h)
    have hfm : ∀ m', finish P (.ok (md, n)) = .running m' ∨ finish P (.ok (md, n)) = .halted m' →
        m'.trace = md.trace := by
      intro m' h; simp only [finish] at h; split at h <;> rcases h with h | h <;> cases h <;> rfl
    cases hfn : finish P (.ok (md, n)) with
    | running m' =>
      rw [hfn] at hfin
      obtain ⟨rfl, hs⟩ := hfin
      exact ⟨s', hex, hs, hk, i2, fun h => by rw [htr2, hfm m' (.inl hfn)]; exact traceRel_mapDec hk2 (ht1 h)⟩
    | halted m' =>
      rw [hfn] at hfin
      obtain ⟨rfl, hs⟩ := hfin
      exact ⟨s', hex, hs, hk, i2, fun h => by rw [htr2, hfm m' (.inr hfn)]; exact traceRel_mapDec hk2 (ht1 h)⟩
    | err e => trivial

theorem step_end (fo : FloatOps F) (fuel : Nat) (H : OtherHandlers σ) {s : σ} {m : MState F} (hsim : Sim S P s m)
    (hi : Inv s) (hfetch : P.instrs[m.pc]? = none) : StepSimI fo host S Inv P fuel H s m := by
  have hf := fetch_of_sim hsim
  rw [hfetch] at hf
  have hstep : Abs.step fo host P m = .halted m := by unfold Abs.step; rw [hfetch]
  unfold StepSimI
  rw [hstep]
  exact ⟨s, by rw [executeCurrentInstruction, bind_ok hf]; rfl, hsim.2, fun _ _ h => h, hi, fun h => h⟩

/-- a host call made as the protocol says, from a state related to the machine's: the handler returns with the
host's answer (or unit) on the registers, everything else related as before; `sh` is the state the host returned -/
theorem hostCall_data {α : Type} {call : RM σ Bool} {ans : Option (Val F)}
    {s0 : σ} {res : Outcome (α × σ)} {next : α} {regs vals : List (Val F)} {frames : List (Frame F)}
    (hans : HostAnswerI S Inv call s0 ans) (hprot : HostProtocolI S Inv call s0 res next)
    (hd0 : SimD S P s0 regs vals frames) :
    ∃ s1, res = .ok (next, s1) ∧ S.cursor s1 = S.cursor s0 ∧ SimD S P s1 (ans.getD .unit :: regs) vals frames ∧
      DecKept S s0 s1 ∧ Inv s1 ∧ ∃ b sh, call s0 = .ok (b, sh) ∧ S.trace s1 = S.trace sh := by
  unfold HostProtocolI at hprot
  cases ans with
  | some v =>
    obtain ⟨a, s1, h1, d1, he⟩ := hans
    rw [h1] at hprot
    exact ⟨s1, hprot, he.keeps.cur, SimD.ofHEff hd0 he.toHEff (.cons d1 (decodesList_keeps he.keeps hd0.regs)),
      he.keeps.dec, he.inv, true, s1, h1, rfl⟩
  | none =>
    obtain ⟨s1, h1, he⟩ := hans
    rw [h1] at hprot
    obtain ⟨u, s2, h2, d2, e2⟩ := hprot he.inv
    have hd1 : SimD S P s1 regs vals frames := SimD.ofHEff hd0 he.toHEff (decodesList_keeps he.keeps hd0.regs)
    exact ⟨s2, h2, e2.keeps.cur.trans he.keeps.cur,
      SimD.ofEff hd1 e2.toEff (.cons d2 (decodesList_keeps e2.keeps hd1.regs)) (decodesList_keeps e2.keeps hd1.vals),
      (he.keeps.trans e2.keeps).dec, e2.inv, false, s1, h1, e2.trace⟩

/-- … and exactly the call `c` is recorded, which the machine records as `c'` -/
theorem hostCall_sim {α : Type} {call : RM σ Bool} {c : HostCall} {c' : Abs.HostCall F} {ans : Option (Val F)}
    {s0 : σ} {res : Outcome (α × σ)} {next : α} {regs vals : List (Val F)} {frames : List (Frame F)}
    (hrec : Records S call c) (hans : HostAnswerI S Inv call s0 ans) (hprot : HostProtocolI S Inv call s0 res next)
    (hd0 : SimD S P s0 regs vals frames) (hc : CallRel (S.view s0) c c') :
    ∃ s1, res = .ok (next, s1) ∧ S.cursor s1 = S.cursor s0 ∧ SimD S P s1 (ans.getD .unit :: regs) vals frames ∧
      DecKept S s0 s1 ∧ Inv s1 ∧
      ∀ mt, TraceRel (S.view s0) (S.trace s0) mt → TraceRel (S.view s1) (S.trace s1) (c' :: mt) := by
  obtain ⟨s1, h1, hc1, hd1, hk1, i1, b, sh, hcall, htr⟩ := hostCall_data hans hprot hd0
  refine ⟨s1, h1, hc1, hd1, hk1, i1, fun mt h => ?_⟩
  rw [htr, hrec s0 b sh hcall]
  exact .cons (callRel_mapDec hk1 hc) (traceRel_mapDec hk1 h)

theorem pushOut_defer (m : MState F) (op : Instruction) (a b : Val F) :
    pushOut host m (.defer op a b) =
      .ok { m with regs := (host.defer op a b).getD .unit :: m.regs, trace := .defer op a b :: m.trace } := by
  simp only [pushOut]; cases host.defer op a b <;> rfl

theorem handlerSimI_ofEff {s s1 : σ} {m md : MState F} {regs0 : List (Val F)} (hd : SimD S P s regs0 m.vals m.frames)
    {res : Outcome (Option Nat × σ)} {next : Option Nat} {R V : List Nat} {n : Nat}
    (h1 : res = .ok (next, s1)) (e : EffI S Inv s s1 R V)
    (hr : DecodesList (S.view s1) R md.regs) (hv : DecodesList (S.view s1) V md.vals) (hf : md.frames = m.frames)
    (hn : next.getD (S.cursor s + 1) = n) (ht : md.trace = m.trace := by rfl) :
    HandlerSimI S Inv P s res m (.ok (md, n)) :=
  ⟨next, s1, h1, hn, e.keeps.cur, hf ▸ SimD.ofEff hd e.toEff hr hv, e.keeps.dec, e.inv,
    fun h => by rw [e.trace, ht]; exact traceRel_mapDec e.keeps.dec h⟩

theorem HandlerSimI.afterEff {s s1 : σ} {R V : List Nat} (e : EffI S Inv s s1 R V) {res : Outcome (Option Nat × σ)}
    {m : MState F} {r : Except ErrClass (MState F × Nat)} (h : HandlerSimI S Inv P s1 res m r) :
    HandlerSimI S Inv P s res m r := by
  cases r with
  | error _ => trivial
  | ok p =>
    obtain ⟨md, n⟩ := p
    obtain ⟨next, s2, h2, hn, hc, hd2, hk2, i2, ht2⟩ := h
    exact ⟨next, s2, h2, by rw [← e.keeps.cur]; exact hn, hc.trans e.keeps.cur, hd2, fun a v x => hk2 a v (e.dec x), i2,
      fun x => ht2 (by rw [e.trace]; exact traceRel_mapDec e.keeps.dec x)⟩

/-- a handler that refines a value-level outcome simulates `pushOut`, data and trace (any number of operands popped:
`rest` / `mrest` are what remains) -/
theorem handlerSimI_of_refines (L : LawsK S Inv Rd K) (HR : HostRefinesI S Inv host) {s : σ} {m : MState F}
    {regs0 : List (Val F)} (hd : SimD S P s regs0 m.vals m.frames)
    {rest : List Nat} {mrest : List (Val F)} (hrest : DecodesList (S.view s) rest mrest)
    {la ra : Nat} {o : OpOut F} {res : Outcome (Option Nat × σ)} {next : Option Nat}
    (hnext : next.getD (S.cursor s + 1) = m.pc + 1)
    (href : RefinesOutI S Inv s res next rest la ra o)
    (hdefer : ∀ op a b, o = .defer op a b →
      Decodes (S.view s) la a ∧ (Decodes (S.view s) ra b ∨ (b = .unit ∧ ra = 0))) :
    HandlerSimI S Inv P s res m (seqR m (pushOut host { m with regs := mrest } o)) := by
  cases o with
  | err e => trivial
  | val v =>
    obtain ⟨a, s1, h1, d1, e1⟩ := href
    exact handlerSimI_ofEff (md := { m with regs := v :: mrest }) hd h1 e1 (.cons d1 (decodesList_keeps e1.keeps hrest))
      (decodesList_keeps e1.keeps hd.vals) rfl hnext
  | defer op a b =>
    obtain ⟨s0, e0, hprot⟩ := href
    obtain ⟨da, db⟩ := hdefer op a b rfl
    have hans : HostAnswerI S Inv (S.deferOp op (a.typeOf, la) (b.typeOf, ra)) s0 (host.defer op a b) := by
      rcases db with db | ⟨rfl, rfl⟩
      · exact HR.defer op la ra a b s0 e0.inv (e0.dec da) (e0.dec db)
      · exact HR.deferUnary op la a s0 e0.inv (e0.dec da)
    obtain ⟨s1, h1, hc1, hd1, hk1, i1, ht1⟩ := hostCall_sim (P := P) (c' := .defer op a b) (L.deferOp op _ _) hans hprot
      (SimD.ofEff hd e0.toEff (decodesList_keeps e0.keeps hrest) (decodesList_keeps e0.keeps hd.vals))
      ⟨rfl, rfl, rfl, e0.dec da, db.imp e0.dec id⟩
    rw [pushOut_defer]
    exact ⟨next, s1, h1, hnext, hc1.trans e0.keeps.cur, hd1, fun x v h => hk1 x v (e0.dec h), i1,
      fun h => ht1 _ (by rw [e0.trace]; exact traceRel_mapDec e0.keeps.dec h)⟩

theorem deepK_of_sim {s : σ} {m : MState F} (hd : SimD S P s m.regs m.vals m.frames) {rest : List Nat}
    {rs : List (Val F)} (hl : DecodesList (S.view s) rest rs) (hm : K → MDeep m rs) : DeepK K S s rest :=
  fun k => deep_of_sim hd hl (hm k)

section
variable (fo : FloatOps F)

theorem handle_binary (L : LawsK S Inv Rd K) (HR : HostRefinesI S Inv host) (fuel : Nat) (H : OtherHandlers σ)
    {s : σ} {m : MState F} (hsim : Sim S P s m) {op : Instruction} (operand : Option Nat) (hgen : isGeneric op = true)
    {vr vl : Val F} {rs : List (Val F)} (hregs : m.regs = vr :: vl :: rs) {o : OpOut F}
    (hu : unaryOp fo op vr = none) (hb : binaryOp fo op vl vr = some o)
    (href : ∀ r l rest, S.regs s = r :: l :: rest → DeepK K S s rest → Decodes (S.view s) l vl →
      Decodes (S.view s) r vr → RefinesOutI S Inv s (dispatch fo S fuel H op operand s) none rest l r o)
    (hm : K → MDeep m rs) :
    HandlerSimI S Inv P s (dispatch fo S fuel H op operand s) m (handle fo host P m op operand) := by
  obtain ⟨hpc, hd⟩ := hsim
  have hdr := hd.regs
  rw [hregs] at hdr
  obtain ⟨r, as1, e1, dr, t1⟩ := decodesList_cons_inv hdr
  obtain ⟨l, rest, e2, dl, t2⟩ := decodesList_cons_inv t1
  subst e2
  rw [handle_generic fo host m operand hgen, handleOp, hregs]
  simp only [hu, hb]
  exact handlerSimI_of_refines L HR hd t2 (by simp [hpc]) (href r l rest e1 (deepK_of_sim hd t2 hm) dl dr)
    (fun op' a b ho => by obtain ⟨rfl, rfl⟩ := binaryOp_defer fo (ho ▸ hb); exact ⟨dl, Or.inl dr⟩)

theorem handle_unary (L : LawsK S Inv Rd K) (HR : HostRefinesI S Inv host) (fuel : Nat) (H : OtherHandlers σ)
    {s : σ} {m : MState F} (hsim : Sim S P s m) {op : Instruction} (operand : Option Nat) (hgen : isGeneric op = true)
    {v : Val F} {rs : List (Val F)} (hregs : m.regs = v :: rs) {o : OpOut F} (hu : unaryOp fo op v = some o)
    (href : ∀ a rest, S.regs s = a :: rest → DeepK K S s rest → Decodes (S.view s) a v →
      RefinesOutI S Inv s (dispatch fo S fuel H op operand s) none rest a 0 o)
    (hm : K → MDeep m rs) :
    HandlerSimI S Inv P s (dispatch fo S fuel H op operand s) m (handle fo host P m op operand) := by
  obtain ⟨hpc, hd⟩ := hsim
  have hdr := hd.regs
  rw [hregs] at hdr
  obtain ⟨a, rest, e1, da, t1⟩ := decodesList_cons_inv hdr
  rw [handle_generic fo host m operand hgen, handleOp, hregs]
  simp only [hu]
  exact handlerSimI_of_refines L HR hd t1 (by simp [hpc]) (href a rest e1 (deepK_of_sim hd t1 hm) da)
    (fun op' x b ho => by obtain ⟨rfl, rfl⟩ := unaryOp_defer fo (ho ▸ hu); exact ⟨da, Or.inr ⟨rfl, rfl⟩⟩)

theorem handle_generic_nil {m : MState F} {op : Instruction} (operand : Option Nat) (hgen : isGeneric op = true)
    (hr : m.regs = []) : handle fo host P m op operand = .error .state := by
  rw [handle_generic fo host m operand hgen, handleOp, hr]

theorem handle_generic_one {m : MState F} {op : Instruction} (operand : Option Nat) (hgen : isGeneric op = true)
    {v : Val F} (hr : m.regs = [v]) (hu : unaryOp fo op v = none) :
    handle fo host P m op operand = .error .state := by
  rw [handle_generic fo host m operand hgen, handleOp, hr]
  simp only [hu]

theorem handle_total_binary {m : MState F} {op : Instruction} (operand : Option Nat) (hgen : isGeneric op = true)
    (hu : ∀ v : Val F, unaryOp fo op v = none) {Q : Except ErrClass (MState F × Nat) → Prop} (herr : ∀ e, Q (.error e))
    (full : ∀ vr vl rs, m.regs = vr :: vl :: rs → Q (handle fo host P m op operand)) :
    Q (handle fo host P m op operand) := by
  cases hr : m.regs with
  | nil => rw [handle_generic_nil fo operand hgen hr]; exact herr _
  | cons vr t =>
    cases t with
    | nil => rw [handle_generic_one fo operand hgen hr (hu vr)]; exact herr _
    | cons vl rs => exact full vr vl rs hr

theorem handle_total_unary {m : MState F} {op : Instruction} (operand : Option Nat) (hgen : isGeneric op = true)
    {Q : Except ErrClass (MState F × Nat) → Prop} (herr : ∀ e, Q (.error e))
    (full : ∀ v rs, m.regs = v :: rs → Q (handle fo host P m op operand)) :
    Q (handle fo host P m op operand) := by
  cases hr : m.regs with
  | nil => rw [handle_generic_nil fo operand hgen hr]; exact herr _
  | cons v rs => exact full v rs hr

end
end Core

/-! ### the data half alone over `StoreLaws` (no invariant, no trace) -/

theorem step_of_handler (L : StoreLaws S) (fo : FloatOps F) (fuel : Nat) (H : OtherHandlers σ) {s : σ} {m : MState F}
    (hsim : Sim S P s m) {instr : Instruction} {operand : Option Nat}
    (hfetch : P.instrs[m.pc]? = some (instr, operand))
    {r : Except ErrClass (MState F × Nat)}
    (hh : HandlerSim S P s (dispatch fo S fuel H instr operand s) r) :
    match finish P r with
    | .running m' => ∃ s', executeCurrentInstruction fo S fuel H s = .ok (.running, s') ∧ Sim S P s' m' ∧
        DecKept S s s'
    | .halted m' => ∃ s', executeCurrentInstruction fo S fuel H s = .ok (.end_, s') ∧
        SimD S P s' m'.regs m'.vals m'.frames ∧ DecKept S s s'
    | .err _ => True := by
  have hf := fetch_of_sim hsim
  rw [hfetch] at hf
  cases r with
  | error e => trivial
  | ok p =>
    obtain ⟨md, n⟩ := p
    obtain ⟨next, s1, h1, hn, hc, hd1, hk1⟩ := hh
    obtain ⟨r, s', h2, _, hk2, _, hfin⟩ := Core.advance_spec (P := P) L.toK.setCursor next md trivial hd1
    rw [hc, hn] at hfin
    have hex : executeCurrentInstruction fo S fuel H s = .ok (r, s') := by
      rw [executeCurrentInstruction, bind_ok hf]
      simp only []
      rw [bind_ok h1]; exact h2
    have hk : DecKept S s s' := fun a v h => hk2 a v (hk1 a v h)
    cases hfn : finish P (.ok (md, n)) with
    | running m' => rw [hfn] at hfin; obtain ⟨rfl, hs⟩ := hfin; exact ⟨s', hex, hs, hk⟩
    | halted m' => rw [hfn] at hfin; obtain ⟨rfl, hs⟩ := hfin; exact ⟨s', hex, hs, hk⟩
    | err e => trivial

section
variable (fo : FloatOps F)

/-- one address-level step against one machine step: related states and related traces -/
def StepBoth (host : Host F) (S : RStore F σ) (P : Prog F) (fuel : Nat) (H : OtherHandlers σ) (s : σ) (m : MState F) :
    Prop :=
  StepSim fo host S P fuel H s m ∧ StepTrace fo host S P fuel H s m

theorem stepSim_of_err (fuel : Nat) (H : OtherHandlers σ) (s : σ) {m : MState F} {e : ErrClass}
    (h : Abs.step fo host P m = .err e) : StepSim fo host S P fuel H s m := by
  unfold StepSim; rw [h]; trivial

theorem stepTrace_of_err (fuel : Nat) (H : OtherHandlers σ) (s : σ) {m : MState F} {e : ErrClass}
    (h : Abs.step fo host P m = .err e) : StepTrace fo host S P fuel H s m := by
  intro _; rw [h]; trivial

/-- the machine errs: `simp` closes the unfolded step -/
macro "machine_errs" fo:term "," fuel:term "," H:term "," s:term "," hfetch:ident "," e:term "," "[" hs:Lean.Parser.Tactic.simpLemma,* "]" : tactic =>
  `(tactic| (refine stepSim_of_err $fo $fuel $H $s (e := $e) ?_; unfold Abs.step; rw [$hfetch:ident]; first | done | simp [$hs,*]))

macro "machine_errsT" fo:term "," fuel:term "," H:term "," s:term "," hfetch:ident "," e:term "," "[" hs:Lean.Parser.Tactic.simpLemma,* "]" : tactic =>
  `(tactic| (refine stepTrace_of_err $fo $fuel $H $s (e := $e) ?_; unfold Abs.step; rw [$hfetch:ident]; first | done | simp [$hs,*]))

end

end Garnish.Lemmas.Runtime
