/-
C18, reference-grammar level: wrapping a complete operand in parentheses.

After the operand `M` (resp. the group `G = ( M' )`) has been plugged into the open operand position of the tree, the two
trees are `BSim`-related: equal up to `( )` nodes off the right spine, and `M` / `G` at the bottom of the spine.  If the
next operator walks over the whole of `M` (`passes`), the trees are `Sim`-related from then on (Lemmas/RefSim).
-/
import Garnish.Lemmas.RefRun

namespace Garnish.Spec
open Garnish Garnish.Gen Garnish.Model.Parser

/-- the bottom of the right spine is an open operand position -/
def openBottom : RTree → Bool
  | .nil => true
  | .group _ _ _ => false
  | .node _ _ _ r => if r.isNil then true else openBottom r

theorem openBottom_eq : ∀ t : RTree, openBottom t = openSpine t
  | .nil => rfl
  | .group _ _ _ => rfl
  | .node _ _ _ r => by simp only [openBottom, openSpine, openBottom_eq r]

/-- the open operand position is the right operand of `.` (an Identifier plugged there becomes a Property) -/
def accessBottom : RTree → Bool
  | .nil => false
  | .group _ _ _ => false
  | .node _ d _ r => if r.isNil then d == .access else accessBottom r

/-- an operator `(q, rtl)` arriving after `M` walks over the whole of `M` -/
def passes (tbl : Table) (q : Nat) (rtl : Bool) (M : RTree) : Bool := (spinePrios tbl M).all (fun pa => !stops q rtl pa)

theorem absorb_none_of_passes (tbl : Table) (q : Nat) (rtl : Bool) (d : Definition) (k : Nat) :
    ∀ M : RTree, passes tbl q rtl M = true → absorb tbl q rtl d k M = none
  | .nil, _ => rfl
  | .group _ _ _, _ => rfl
  | .node l a ka r, h => by
    unfold passes at h
    simp only [spinePrios, List.all_append, Bool.and_eq_true] at h
    simp only [absorb, absorb_none_of_passes tbl q rtl d k r h.2]
    cases hp : tbl.prio a with
    | none => rfl
    | some pa =>
      rw [hp] at h
      simp only [Option.toList, List.all_cons, List.all_nil, Bool.and_true, Bool.not_eq_true'] at h
      simp only [h.1, Bool.false_eq_true, if_false]

theorem stripGroups_eraseTok : ∀ t : RTree, t.eraseTok.stripGroups = t.stripGroups
  | .nil => rfl
  | .node l d k r => by simp only [RTree.eraseTok, RTree.stripGroups, stripGroups_eraseTok l, stripGroups_eraseTok r]
  | .group d k i => by simp only [RTree.eraseTok, RTree.stripGroups, stripGroups_eraseTok i]

/-- `M` resp. `G` at the bottom of the right spine, `EStrip`-related left operands above -/
inductive BSim (M G : RTree) : RTree → RTree → Prop
  | here : BSim M G M G
  | node {l l' r r' : RTree} (d : Definition) (k k' : Nat) : EStrip l l' → BSim M G r r' → BSim M G (.node l d k r) (.node l' d k' r')

theorem BSim.strip {M G t t' : RTree} (hMG : EStrip M G) (h : BSim M G t t') : EStrip t t' := by
  induction h with
  | here => exact hMG
  | node d k k' hl _ ih => unfold EStrip at *; simp only [RTree.stripGroups, hl, ih]

theorem plug_bsim {M G C C' : RTree} (hG : asProperty G = G) (h : Sim EStrip C C') (ho : openBottom C = true)
    (hacc : accessBottom C = false ∨ asProperty M = M) : BSim M G (plug C M) (plug C' G) := by
  induction h with
  | nil => exact .here
  | group d k k' _ => simp [openBottom] at ho
  | node a ka ka' hl hr ih =>
    simp only [plug, ← hr.isNil]
    simp only [openBottom, accessBottom] at ho hacc
    split
    · rename_i hnil
      simp only [hnil, if_true] at hacc
      rcases hacc with hacc | hacc
      · simp only [hacc, Bool.false_eq_true, if_false]; exact .node a ka ka' hl .here
      · simp only [hacc, hG, ite_self]; exact .node a ka ka' hl .here
    · rename_i hnil
      simp only [hnil, Bool.false_eq_true, if_false] at ho hacc
      exact .node a ka ka' hl (ih ho hacc)

theorem absorb_bsim {M G : RTree} (hMG : EStrip M G) (hGg : ∃ d k i, G = .group d k i) (tbl : Table) (q : Nat) (rtl : Bool)
    (d : Definition) (k k' : Nat) (hp : passes tbl q rtl M = true) {t t' : RTree} (h : BSim M G t t') :
    OptRel (Sim EStrip) (absorb tbl q rtl d k t) (absorb tbl q rtl d k' t') := by
  induction h with
  | here =>
    obtain ⟨gd, gk, gi, rfl⟩ := hGg
    rw [absorb_none_of_passes tbl q rtl d k M hp]
    exact True.intro
  | node a ka ka' hl hr ih =>
    rename_i l l' r r'
    simp only [absorb]
    cases h1 : absorb tbl q rtl d k r <;> cases h2 : absorb tbl q rtl d k' r' <;> rw [h1, h2] at ih
    · cases tbl.prio a with
      | none => exact True.intro
      | some pa =>
        simp only
        split
        · exact .node a ka ka' hl (.node d k k' (hr.strip hMG) .nil)
        · exact True.intro
    · exact ih.elim
    · exact ih.elim
    · exact .node a ka ka' hl ih

theorem attach_bsim {M G : RTree} (hMG : EStrip M G) (hGg : ∃ d k i, G = .group d k i) (tbl : Table) (q : Nat) (rtl : Bool)
    (d : Definition) (k k' : Nat) (hp : passes tbl q rtl M = true) {t t' : RTree} (h : BSim M G t t') :
    Sim EStrip (attach tbl q rtl d k t) (attach tbl q rtl d k' t') := by
  have := absorb_bsim hMG hGg tbl q rtl d k k' hp h
  unfold attach
  cases h1 : absorb tbl q rtl d k t <;> cases h2 : absorb tbl q rtl d k' t' <;> rw [h1, h2] at this
  · exact .node d k k' (h.strip hMG) .nil
  · exact this.elim
  · exact this.elim
  · exact this

/-- frames after the operand: both have a complete operand as last item -/
structure FB (M G : RTree) (f f' : Frame) : Prop where
  ctx : f.ctx.map (·.1) = f'.ctx.map (·.1)
  cur : BSim M G f.cur f'.cur
  lastL : f.last = .operand
  lastR : f'.last = .operand
  ws : f.ws = f'.ws
  prevSep : f.prevSep = f'.prevSep

theorem inGroup_of_ctx {f f' : Frame} (h : f.ctx.map (·.1) = f'.ctx.map (·.1)) : f.inGroup = f'.inGroup := by
  rw [Frame.inGroup_eq, Frame.inGroup_eq, h]

/-- the condition on the token that follows the operand -/
def tokPasses (M : RTree) (t : PToken) : Bool :=
  match (getDefinition t.type).2 with
  | .value | .identifier | .unaryPrefix | .startGrouping =>
    match priority .list with
    | some q => passes Table.gen q false M
    | none => true
  | .binaryLeftToRight | .binaryRightToLeft | .unarySuffix | .optionalBinaryLeftToRight | .subexpression =>
    match priority (getDefinition t.type).1 with
    | some q => passes Table.gen q ((getDefinition t.type).2 == .binaryRightToLeft) M
    | none => true
  | _ => true

def isSkipTok (t : PToken) : Bool :=
  (getDefinition t.type).2 == .annotation || (getDefinition t.type).2 == .whitespace ||
    (getDefinition t.type).2 == .subexpression

/-- the first operator that arrives after the operand walks over the whole of it -/
def NextPasses (M : RTree) : List PToken → Bool
  | [] => true
  | t :: r => tokPasses M t && (if isSkipTok t then NextPasses M r else true)

section
variable {M G : RTree}

theorem before_b (hMG : EStrip M G) (hGg : ∃ d k i, G = .group d k i) {f f' : Frame} (h : FB M G f f') (pos pos' : Nat)
    (hp : ∀ q, priority .list = some q → passes Table.gen q false M = true) :
    ORel (FSim EStrip) (beforeOperand Table.gen f pos) (beforeOperand Table.gen f' pos') := by
  unfold beforeOperand
  rw [h.lastL, h.lastR, ← h.ws]
  simp only
  cases f.ws with
  | false => exact rfl
  | true =>
    simp only [if_true]
    cases hq : Table.gen.prio .list with
    | none => exact rfl
    | some q => exact ⟨h.ctx, attach_bsim hMG hGg Table.gen q false .list _ _ (hp q hq) h.cur, rfl, rfl, h.prevSep⟩

theorem operand_of_before {E : RTree → RTree → Prop} (hE : EOK E) {b b' : Outcome Frame} (hb : ORel (FSim E) b b')
    {stack stack' : List Frame} (hs : LSim E stack stack') (pos pos' : Nat) (d : Definition) (l : Last) :
    ORel (SSim E)
      (Outcome.bind b fun f =>
        .ok ({ f with cur := plug f.cur (.node .nil d pos .nil), last := l, ws := false, prevSep := false }, stack))
      (Outcome.bind b' fun f =>
        .ok ({ f with cur := plug f.cur (.node .nil d pos' .nil), last := l, ws := false, prevSep := false }, stack')) := by
  cases b <;> cases b' <;> simp only [ORel] at hb <;> simp only [Outcome.bind, ORel] <;> try exact hb
  exact ⟨⟨hb.ctx, plug_sim (.node d pos pos' (hE.refl _) .nil) (asProperty_leaf_sim hE d pos pos') hb.cur, rfl, rfl, rfl⟩,
    hs⟩

theorem refStep_b (hMG : EStrip M G) (hGg : ∃ d k i, G = .group d k i) {f f' : Frame} (h : FB M G f f')
    {stack stack' : List Frame} (hs : LSim EStrip stack stack') (pos pos' : Nat) (t : PToken) (rest : List PToken)
    (hp : tokPasses M t = true) :
    ORel (fun a b => SSim EStrip a b ∨ (isSkipTok t = true ∧ FB M G a.1 b.1 ∧ LSim EStrip a.2 b.2))
      (refStep Table.gen f stack pos t rest) (refStep Table.gen f' stack' pos' t rest) := by
  -- either `t` is trivia and the operand is still the last item of both frames (`FB` again), or `t` is the first real token
  -- after the operand: `tokPasses` makes it walk over the whole of `M` (a value / prefix / opener there starts the implicit
  -- `List` operator, hence its priority in `tokPasses`), and from then on the frames are `SSim`-related
  have ha : ActSec Table.gen (getDefinition t.type) (Table.gen.act t.type) := act_sec Table.gen t.type
  unfold tokPasses at hp
  unfold isSkipTok
  rw [refStep_eq, refStep_eq]
  have lift : ∀ {a b : Outcome (Frame × List Frame)}, ORel (SSim EStrip) a b →
      ORel (fun a b => SSim EStrip a b ∨ (((getDefinition t.type).2 == .annotation || (getDefinition t.type).2 == .whitespace ||
        (getDefinition t.type).2 == .subexpression) = true ∧ FB M G a.1 b.1 ∧ LSim EStrip a.2 b.2)) a b := by
    intro a b hab
    cases a <;> cases b <;> simp only [ORel] at hab ⊢ <;> first | exact Or.inl hab | exact hab
  have hlist : ((getDefinition t.type).2 = .value ∨ (getDefinition t.type).2 = .identifier ∨
      (getDefinition t.type).2 = .unaryPrefix ∨ (getDefinition t.type).2 = .startGrouping) →
      ∀ q, priority .list = some q → passes Table.gen q false M = true := by
    intro hc q hq
    rcases hc with hc | hc | hc | hc <;> (rw [hc] at hp; simp only [hq] at hp; exact hp)
  cases hact : Table.gen.act t.type <;> rw [hact] at ha <;> simp only [ActSec] at ha <;> simp only [Act.run]
  case fail => exact rfl
  case skip => exact Or.inr ⟨by simp [ha], h, hs⟩
  case space => exact Or.inr ⟨by simp [ha], ⟨h.ctx, h.cur, h.lastL, h.lastR, rfl, h.prevSep⟩, hs⟩
  case operand d l =>
    refine lift (operand_of_before eok_strip (before_b hMG hGg h pos pos' (hlist ?_)) hs pos pos' d l)
    rcases ha.2 with ⟨h1 | h1, _⟩ | ⟨h1, _⟩ <;> simp [h1]
  case opener d =>
    apply lift
    have hb := before_b hMG hGg h pos pos' (hlist (Or.inr (Or.inr (Or.inr ha.2))))
    cases h1 : beforeOperand Table.gen f pos <;> cases h2 : beforeOperand Table.gen f' pos' <;> rw [h1, h2] at hb <;>
      simp only [ORel] at hb <;> simp only [Outcome.bind, ORel] <;> try exact hb
    exact ⟨⟨rfl, .nil, rfl, rfl, rfl⟩, .cons ⟨hb.ctx, hb.cur, hb.last, rfl, hb.prevSep⟩ hs⟩
  case closer =>
    apply lift
    have hc := h.ctx
    cases h1 : f.ctx with
    | none =>
      cases h2 : f'.ctx with
      | none => exact rfl
      | some gp => rw [h1, h2] at hc; cases hc
    | some gp =>
      cases h2 : f'.ctx with
      | none => rw [h1, h2] at hc; cases hc
      | some gp' =>
        obtain ⟨gd, gpos⟩ := gp
        obtain ⟨gd', gpos'⟩ := gp'
        rw [h1, h2] at hc
        simp only [Option.map_some, Option.some.injEq] at hc
        subst hc
        cases hs with
        | nil => exact rfl
        | cons hpar hs' =>
          simp only [h.lastL, h.lastR]
          split
          · exact rfl
          · split
            · exact rfl
            · have hg := Sim.group gd gpos gpos' (h.cur.strip hMG)
              exact ⟨⟨hpar.ctx, plug_sim hg hg hpar.cur, rfl, rfl, rfl⟩, hs'⟩
  case operator d q rtl optional l =>
    apply lift
    obtain ⟨rfl, hq, rfl, _, _, hcl⟩ := ha
    have hq : priority (getDefinition t.type).1 = some q := hq
    have hpq : passes Table.gen q ((getDefinition t.type).2 == .binaryRightToLeft) M = true := by
      rcases hcl with h1 | h1 | h1 | h1 <;> (rw [h1] at hp ⊢; simp only [hq] at hp; exact hp)
    simp only [h.lastL, h.lastR, beq_self_eq_true, Bool.true_or, Bool.not_true, Bool.false_eq_true, if_false]
    exact ⟨⟨h.ctx, attach_bsim hMG hGg Table.gen q _ _ pos pos' hpq h.cur, rfl, rfl, rfl⟩, hs⟩
  case separator d =>
    obtain ⟨rfl, hsub⟩ := ha
    rw [hsub] at hp
    simp only at hp
    simp only [← inGroup_of_ctx h.ctx, ← h.prevSep, h.lastL, h.lastR]
    by_cases h1 : f.inGroup = true
    · simp only [if_pos h1]
      exact Or.inr ⟨by simp [hsub], ⟨h.ctx, h.cur, rfl, rfl, rfl, rfl⟩, hs⟩
    · simp only [if_neg h1]
      by_cases h2 : (f.prevSep || (t.type == .subexpression && closerFollows rest)) = true
      · simp only [if_pos h2]
        exact Or.inr ⟨by simp [hsub], ⟨h.ctx, h.cur, rfl, rfl, h.ws, rfl⟩, hs⟩
      · simp only [if_neg h2]
        have hpr : Table.gen.prio (getDefinition t.type).1 = priority (getDefinition t.type).1 := rfl
        rw [hpr]
        cases hq : priority (getDefinition t.type).1 with
        | none => exact rfl
        | some q =>
          rw [hq] at hp
          exact Or.inl ⟨⟨h.ctx, attach_bsim hMG hGg Table.gen q false _ pos pos' hp h.cur, rfl, rfl, rfl⟩, hs⟩

theorem refLoop_b (hMG : EStrip M G) (hGg : ∃ d k i, G = .group d k i) : ∀ (toks : List PToken) {f f' : Frame}
    {stack stack' : List Frame} (pos pos' : Nat), FB M G f f' → LSim EStrip stack stack' → NextPasses M toks = true →
    (refLoop Table.gen f stack pos toks).mapT RTree.stripGroups = (refLoop Table.gen f' stack' pos' toks).mapT RTree.stripGroups
  | [], f, f', stack, stack', _, _, h, hs, _ => by
    unfold refLoop
    rw [h.lastL, h.lastR]
    cases hs with
    | nil =>
      simp only [List.isEmpty_nil, Bool.not_true, Bool.false_eq_true, if_false]
      have : (Last.operand == Last.op || Last.operand == Last.sep) = false := rfl
      simp only [this, Bool.false_eq_true, if_false, Outcome.mapT]
      exact congrArg _ (h.cur.strip hMG)
    | cons _ _ => rfl
  | t :: rest, f, f', stack, stack', pos, pos', h, hs, hn => by
    simp only [NextPasses, Bool.and_eq_true] at hn
    unfold refLoop
    have hst := refStep_b hMG hGg h hs pos pos' t rest hn.1
    cases h1 : refStep Table.gen f stack pos t rest <;> cases h2 : refStep Table.gen f' stack' pos' t rest <;>
      rw [h1, h2] at hst <;> simp only [ORel] at hst <;> simp only [Outcome.bind, Outcome.mapT]
    · rcases hst with hst | ⟨hsk, hfb, hls⟩
      · exact ORel.map_eq eok_strip (refLoop_sim eok_strip Table.gen rest (pos + 1) (pos' + 1) hst.1 hst.2)
      · simp only [hsk, if_true] at hn
        exact refLoop_b hMG hGg rest (pos + 1) (pos' + 1) hfb hls hn.2
    · rw [hst]
    · rw [hst]

end

end Garnish.Spec
