/-
Clauses of `StoreLawsOn` for `BasicGarnishData`: the register stack and the input-value stack (linked cells in the data block, read
by `regsOf` / `valsOf`; `push_value_stack`, `pop_value_stack`).  Basic version of the push laws: the address pushed is a
readable address (`isNode`; the handlers push nothing else; pushing a dangling address would break `WFq`).  One pop of the register
chain is `pop_step`, stated of the heap model: `pop_register`, the `k` pops of `make_list` (`headAfter`) and their totality
(Lemmas/BasicMakeList.lean) follow it.
-/
import Garnish.Lemmas.BasicLaws
import Garnish.Lemmas.RuntimeBase
namespace Garnish.Lemmas.Runtime.Basic
open Garnish Gen Garnish.Model.Equality Garnish.Model.Runtime Garnish.Model.Runtime.Basic Garnish.BasicOpt
open Garnish.Lemmas.Runtime Garnish.Lemmas.EqualityRefine

variable {F : Type}

theorem liftUnit_ok {f : Store → Outcome Store} {st : BState} {s' : Store} (h : f st.store = .ok s') :
    liftUnit f st = .ok ((), { st with store := s' }) := by simp [liftUnit, h]

theorem liftPop_ok {f : Store → Outcome (Store × Option Nat)} {st : BState} {s' : Store} {o : Option Nat}
    (h : f st.store = .ok (s', o)) : liftPop f st = .ok (o, { st with store := s' }) := by simp [liftPop, h]

theorem pushRegister_law (nc : NumCode F) {P : Store → Prop} (R : Room P) {st : BState} (hinv : BInvP P st) {a : Nat}
    (ha : isNode st.store.cells a = true) :
    ∃ st', (basicRStore nc).pushRegister a st = .ok ((), st') ∧
      Eff (basicRStore nc) st st' (a :: (basicRStore nc).regs st) ((basicRStore nc).vals st) ∧ BInvP P st' := by
  have key : ∀ c, (∀ s1 i, st.store.push c = .ok (s1, i) →
        st.store.pushRegister a = .ok { s1 with currentRegister := some i }) →
      regsOf (st.store.cells.push c) (some st.store.cells.size) =
        a :: regsOf st.store.cells st.store.currentRegister →
      isRegCell (st.store.cells.push c) st.store.cells.size = true → LinkOK st.store.cells c →
      ∃ st', (basicRStore nc).pushRegister a st = .ok ((), st') ∧
        Eff (basicRStore nc) st st' (a :: (basicRStore nc).regs st) ((basicRStore nc).vals st) ∧ BInvP P st' := by
    intro c hop hregs htyped hcl
    obtain ⟨s1, hp, hcells, hf, hroom⟩ := R.push _ c hinv.room
    have hopr := hop s1 _ hp
    have hw := pushRegister_wfq hinv.wfq ha hopr
    have hsub : Sub st.store.cells s1.cells := by rw [hcells]; simpa using sub_append st.store.cells #[c]
    refine ⟨_, liftUnit_ok (f := fun s => s.pushRegister a) hopr, ⟨keeps_sub nc (s' := { s1 with currentRegister := some st.store.cells.size }) hsub,
      ?_, ?_, rfl, ?_⟩, ?_⟩
    · show regsOf s1.cells (some st.store.cells.size) = _
      rw [hcells]; exact hregs
    · exact vals_sub (s' := { s1 with currentRegister := some st.store.cells.size }) hinv hsub hf.2.2.2.1
    · exact frames_sub (s' := { s1 with currentRegister := some st.store.cells.size }) hinv hsub hf.2.2.2.2.2
    · have hl : s1.cells.toList = st.store.cells.toList ++ [c] := by rw [hcells]; simp
      refine hinv.grow (s' := { s1 with currentRegister := some st.store.cells.size }) hl hw
        (R.heads s1 _ s1.currentValue s1.currentFrame hroom) ?_ ?_ (fun _ h => .inl (hf.2.2.2.2.2 ▸ h))
      · intro x hx; rw [List.mem_singleton.1 hx]; exact hcl.sub hsub
      · intro x hx
        simp only [Option.some.injEq] at hx
        exact .inr (by rw [← hx]; show isRegCell s1.cells _ = true; rw [hcells]; exact htyped)
  cases hreg : st.store.currentRegister with
  | none =>
    refine key (.registerRoot a) ?_ ?_ ?_ trivial
    · intro s1 i hp; simp [Store.pushRegister, hreg, hp, bind, Outcome.bind, pure]
    · rw [regsOf_root (v := a) (by simp), hreg]; rfl
    · simp [isRegCell]
  | some p =>
    have hpt := hinv.typed.reg p hreg
    have hplt : p < st.store.cells.size := isRegCell_lt hpt
    refine key (.register p a) ?_ ?_ ?_ hpt
    · intro s1 i hp; simp [Store.pushRegister, hreg, hp, bind, Outcome.bind, pure]
    · rw [regsOf_register (p := p) (v := a) (by simp) hplt, hreg]
      congr 1
      exact regsOf_sub (by simpa using sub_append st.store.cells #[Cell.register p a]) (fun x hx => by cases hx; exact hplt)
    · simp [isRegCell]

/-- the register head after `k` pops (`none` = a pop fails on a malformed head) -/
def headAfter (cells : Array Cell) : Nat → Option Nat → Option (Option Nat)
  | 0, h => some h
  | _ + 1, none => some none
  | k + 1, some i =>
    match cells[i]? with
    | some (.register p _) => headAfter cells k (some p)
    | some (.registerRoot _) => headAfter cells k none
    | _ => none

theorem headAfter_none (cells : Array Cell) : ∀ k, headAfter cells k none = some none
  | 0 => rfl
  | _ + 1 => rfl

theorem headAfter_succ (cells : Array Cell) (k i : Nat) :
    headAfter cells (k + 1) (some i) = (headAfter cells 1 (some i)).bind (headAfter cells k) := by
  simp only [headAfter]
  cases cells[i]? with
  | none => rfl
  | some c => cases c <;> rfl

theorem headAfter_one {cells : Array Cell} {i : Nat} (hi : isRegCell cells i = true) :
    ∃ o', headAfter cells 1 (some i) = some o' := by
  unfold isRegCell at hi
  simp only [headAfter]
  split at hi
  · rename_i h; rw [h]; exact ⟨_, rfl⟩
  · rename_i h; rw [h]; exact ⟨_, rfl⟩
  · cases hi

/-- one pop, from the cell under the head alone; each reader takes the conjunct it needs: the call (`pop_register`), the register
view (on a `WFq` store), the typing of the next head (on a `Typed` store) -/
theorem pop_step {s : Store} {i : Nat} {o' : Option Nat} (h : headAfter s.cells 1 (some i) = some o') :
    ∃ v, (s.currentRegister = some i → s.popRegister = .ok ({ s with currentRegister := o' }, some v)) ∧
      (WFq s → regsOf s.cells (some i) = v :: regsOf s.cells o') ∧
      (Typed s → ∀ a, o' = some a → isRegCell s.cells a = true) := by
  simp only [headAfter] at h
  cases hc : s.cells[i]? with
  | none => rw [hc] at h; cases h
  | some c =>
    rw [hc] at h
    have hget : s.get i = .ok c := by simp [Store.get, hc]
    cases c <;> simp only [Option.some.injEq, reduceCtorEq] at h
    · rename_i p v
      subst h
      refine ⟨v, fun hreg => by simp [Store.popRegister, hreg, hget, bind, Outcome.bind, pure], fun hw => ?_,
        fun ht a ha => ?_⟩
      · have hsh : shape s.cells i = some ⟨.register 0 0, [], [p, v]⟩ := shape_of_solo hc rfl
        exact regsOf_register hc (hw.kid_lt hsh (by simp [svAt, hc, isSV]) (by simp))
      · cases ha; exact ht.link i _ hc
    · rename_i v
      subst h
      exact ⟨v, fun hreg => by simp [Store.popRegister, hreg, hget, bind, Outcome.bind, pure],
        fun _ => regsOf_root hc, fun _ a ha => nomatch ha⟩

theorem popRegister_law (nc : NumCode F) {P : Store → Prop} (R : Room P) {st : BState} (hinv : BInvP P st) :
    ((basicRStore nc).regs st = [] → ∃ st', (basicRStore nc).popRegister st = .ok (none, st') ∧
      Eff (basicRStore nc) st st' [] ((basicRStore nc).vals st) ∧ BInvP P st') ∧
    (∀ a rest, (basicRStore nc).regs st = a :: rest → ∃ st', (basicRStore nc).popRegister st = .ok (some a, st') ∧
      Eff (basicRStore nc) st st' rest ((basicRStore nc).vals st) ∧ BInvP P st') := by
  cases hreg : st.store.currentRegister with
  | none =>
    have hr : (basicRStore nc).regs st = [] := by show regsOf _ st.store.currentRegister = []; rw [hreg]; rfl
    refine ⟨fun _ => ?_, fun a rest h => (by rw [hr] at h; cases h)⟩
    have hop : st.store.popRegister = .ok (st.store, none) := by simp [Store.popRegister, hreg]
    exact ⟨_, liftPop_ok (f := fun s => s.popRegister) hop, hr ▸ Eff.refl (basicRStore nc) st, hinv⟩
  | some i =>
    obtain ⟨o', ho⟩ := headAfter_one (hinv.typed.reg i hreg)
    obtain ⟨v, hpop, hregs, hty⟩ := pop_step ho
    have hregs' : (basicRStore nc).regs st = v :: regsOf st.store.cells o' := by
      show regsOf _ st.store.currentRegister = _
      rw [hreg]; exact hregs hinv.wfq
    refine ⟨fun hnil => (by rw [hregs'] at hnil; cases hnil), fun a rest h => ?_⟩
    rw [hregs'] at h
    obtain ⟨rfl, rfl⟩ := List.cons.inj h
    exact ⟨_, liftPop_ok (f := fun s => s.popRegister) (hpop hreg), ⟨⟨fun _ _ h => h, rfl, rfl, rfl, rfl⟩, rfl, rfl, rfl, rfl⟩,
      hinv.heads R o' _ _ (hty hinv.typed) hinv.wfq.val hinv.frmHead⟩

theorem pushValue_law (nc : NumCode F) {P : Store → Prop} (R : Room P) {st : BState} (hinv : BInvP P st) {a : Nat}
    (ha : isNode st.store.cells a = true) :
    ∃ st', (basicRStore nc).pushValueStack a st = .ok ((), st') ∧
      Eff (basicRStore nc) st st' ((basicRStore nc).regs st) (a :: (basicRStore nc).vals st) ∧ BInvP P st' := by
  have key : ∀ c, (∀ s1 i, st.store.push c = .ok (s1, i) →
        st.store.pushValue a = .ok { s1 with currentValue := some i }) →
      valsOf (st.store.cells.push c) (some st.store.cells.size) =
        a :: valsOf st.store.cells st.store.currentValue →
      LinkOK st.store.cells c →
      ∃ st', (basicRStore nc).pushValueStack a st = .ok ((), st') ∧
        Eff (basicRStore nc) st st' ((basicRStore nc).regs st) (a :: (basicRStore nc).vals st) ∧ BInvP P st' := by
    intro c hop hvals hcl
    obtain ⟨s1, hp, hcells, hf, hroom⟩ := R.push _ c hinv.room
    have hopr := hop s1 _ hp
    have hw := pushValue_wfq hinv.wfq ha hopr
    have hsub : Sub st.store.cells s1.cells := by rw [hcells]; simpa using sub_append st.store.cells #[c]
    refine ⟨_, liftUnit_ok (f := fun s => s.pushValue a) hopr,
      ⟨keeps_sub nc (s' := { s1 with currentValue := some st.store.cells.size }) hsub, ?_, ?_, rfl, ?_⟩, ?_⟩
    · exact regs_sub (s' := { s1 with currentValue := some st.store.cells.size }) hinv hsub hf.2.2.2.2.1
    · show valsOf s1.cells (some st.store.cells.size) = _
      rw [hcells]; exact hvals
    · exact frames_sub (s' := { s1 with currentValue := some st.store.cells.size }) hinv hsub hf.2.2.2.2.2
    · have hl : s1.cells.toList = st.store.cells.toList ++ [c] := by rw [hcells]; simp
      refine hinv.grow (s' := { s1 with currentValue := some st.store.cells.size }) hl hw
        (R.heads s1 s1.currentRegister _ s1.currentFrame hroom) ?_ (fun _ h => .inl (hf.2.2.2.2.1 ▸ h))
        (fun _ h => .inl (hf.2.2.2.2.2 ▸ h))
      intro x hx; rw [List.mem_singleton.1 hx]; exact hcl.sub hsub
  cases hcur : st.store.currentValue with
  | none =>
    refine key (.valueRoot a) ?_ ?_ trivial
    · intro s1 i hp; simp [Store.pushValue, hcur, hp, bind, Outcome.bind, pure]
    · rw [valsOf_root (v := a) (by simp), hcur]; rfl
  | some p =>
    have hps := hinv.wfq.val
    rw [hcur] at hps
    have hplt : p < st.store.cells.size := svAt_lt hps
    refine key (.value p a) ?_ ?_ trivial
    · intro s1 i hp; simp [Store.pushValue, hcur, hp, bind, Outcome.bind, pure]
    · rw [valsOf_value (p := p) (v := a) (by simp) hplt, hcur]
      congr 1
      exact valsOf_sub (by simpa using sub_append st.store.cells #[Cell.value p a]) (fun x hx => by cases hx; exact hplt)

theorem popValue_law (nc : NumCode F) {P : Store → Prop} (R : Room P) {st : BState} (hinv : BInvP P st) :
    ((basicRStore nc).vals st = [] → ∃ st', (basicRStore nc).popValueStack st = .ok (none, st') ∧
      Eff (basicRStore nc) st st' ((basicRStore nc).regs st) [] ∧ BInvP P st') ∧
    (∀ a rest, (basicRStore nc).vals st = a :: rest → ∃ st', (basicRStore nc).popValueStack st = .ok (some a, st') ∧
      Eff (basicRStore nc) st st' ((basicRStore nc).regs st) rest ∧ BInvP P st') := by
  have same : ∀ (o : Option Nat), headSV st.store.cells o = true →
      Eff (basicRStore nc) st { st with store := { st.store with currentValue := o } }
        ((basicRStore nc).regs st) (valsOf st.store.cells o) ∧
      BInvP P { st with store := { st.store with currentValue := o } } := fun o ho =>
    ⟨⟨⟨fun _ _ h => h, rfl, rfl, rfl, rfl⟩, rfl, rfl, rfl, rfl⟩,
      hinv.heads R _ o _ hinv.typed.reg ho hinv.frmHead⟩
  have hpop : (basicRStore nc).popValueStack st =
      .ok ((st.store.popValue).2, { st with store := (st.store.popValue).1 }) := rfl
  cases hcur : st.store.currentValue with
  | none =>
    have hv : (basicRStore nc).vals st = [] := by show valsOf _ st.store.currentValue = []; rw [hcur]; rfl
    have hp : st.store.popValue = (st.store, none) := by simp [Store.popValue, hcur]
    constructor
    · intro _
      refine ⟨st, by rw [hpop, hp], ?_, hinv⟩
      have := Eff.refl (basicRStore nc) st
      rw [hv] at this; exact this
    · intro a rest h; rw [hv] at h; cases h
  | some i =>
    have his := hinv.wfq.val
    rw [hcur] at his
    rcases sv_cell his with ⟨p, v, hc⟩ | ⟨v, hc⟩
    · obtain ⟨hp, hps⟩ := hinv.wfq.chain i p v hc
      have hvals : (basicRStore nc).vals st = v :: valsOf st.store.cells (some p) := by
        show valsOf _ st.store.currentValue = _
        rw [hcur]; exact valsOf_value hc hp
      have hpv : st.store.popValue = ({ st.store with currentValue := some p }, some v) := by
        simp [Store.popValue, hcur, hc]
      obtain ⟨he, hi⟩ := same (some p) hps
      constructor
      · intro hnil; rw [hvals] at hnil; cases hnil
      · intro a rest h
        rw [hvals] at h
        simp only [List.cons.injEq] at h
        obtain ⟨rfl, rfl⟩ := h
        exact ⟨_, by rw [hpop, hpv], he, hi⟩
    · have hvals : (basicRStore nc).vals st = [v] := by
        show valsOf _ st.store.currentValue = _
        rw [hcur]; exact valsOf_root hc
      have hpv : st.store.popValue = ({ st.store with currentValue := none }, some v) := by
        simp [Store.popValue, hcur, hc]
      obtain ⟨he, hi⟩ := same none rfl
      constructor
      · intro hnil; rw [hvals] at hnil; cases hnil
      · intro a rest h
        rw [hvals] at h
        simp only [List.cons.injEq] at h
        obtain ⟨rfl, rfl⟩ := h
        exact ⟨_, by rw [hpop, hpv], he, hi⟩

end Garnish.Lemmas.Runtime.Basic
