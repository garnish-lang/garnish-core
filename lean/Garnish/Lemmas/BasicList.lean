/-
Totality of list construction on `BasicGarnishData`: `start_list(n)`, exactly `n` × `add_to_list`, `end_list` — the
protocol that respects the announced length — answers `Ok` whenever the store has room to grow (`Fits`), the items are
existing addresses whose pair keys exist, and the data block ends inside the heap (`LayoutOK`, the condition of
`end_list`'s slice `&mut data[start .. start + len]`).  The same protocol as a handler over the store interface is
`makeListRM`; on `BasicGarnishData` its adds are the adds of the heap model (`addAllRM_basic`).
-/
import Garnish.Lemmas.BasicListLaws
namespace Garnish.Lemmas.Runtime.Basic
open Garnish Gen Garnish.Model.Equality Garnish.Model.Runtime Garnish.Model.Runtime.Basic Garnish.BasicOpt
open Garnish.Lemmas.Runtime Garnish.Lemmas.EqualityRefine

/-- the data block ends inside the heap (the custom block follows it) -/
def LayoutOK (s : Store) : Prop := s.start + s.size ≤ s.custom.start + s.custom.size

instance (s : Store) : Decidable (LayoutOK s) := by unfold LayoutOK; infer_instance

theorem layout_fresh : LayoutOK Store.fresh := by decide

theorem exp_some (base : Array Cell) (items : List Nat) (j p : Nat) (h1 : base.size ≤ p)
    (h2 : p ≤ base.size + 2 * items.length) : ∃ c, expCell base items j p = some c := by
  unfold expCell
  rw [if_neg (by omega)]
  simp only
  by_cases h3 : p - base.size = 0
  · rw [if_pos h3]; exact ⟨_, rfl⟩
  · rw [if_neg h3]
    by_cases h4 : p - base.size ≤ items.length
    · rw [if_pos h4]; exact ⟨_, rfl⟩
    · rw [if_neg h4, if_pos (by omega)]; exact ⟨_, rfl⟩

theorem exp_lt {base : Array Cell} {items : List Nat} {cur : Store} {j : Nat}
    (hinv : ∀ p, cur.cells[p]? = expCell base items j p) {p : Nat} (h1 : base.size ≤ p)
    (h2 : p ≤ base.size + 2 * items.length) : p < cur.cells.size := by
  obtain ⟨c, hc⟩ := exp_some base items j p h1 h2
  exact lt_of_getElem? (by rw [hinv p]; exact hc)

theorem setCell_ok {s : Store} {i : Nat} (c : Cell) (hi : i < s.cells.size) :
    Store.setCell s i c = .ok { s with cells := s.cells.setIfInBounds i c } := by
  simp [Store.setCell, hi]

theorem addToList_total {base : Array Cell} {items : List Nat} {cur : Store} {j a : Nat}
    (hinv : ∀ p, cur.cells[p]? = expCell base items j p) (hj : items[j]? = some a) (ha : a < base.size)
    (hpair : ∀ l r, base[a]? = some (Cell.pair l r) → l < base.size) :
    ∃ cur', Store.addToList cur base.size a = .ok cur' := by
  have hjn : j < items.length := by
    rcases Nat.lt_or_ge j items.length with h | h
    · exact h
    · rw [List.getElem?_eq_none h] at hj; cases hj
  have hli : cur.cells[base.size]? = some (.uninitializedList items.length j) := by
    rw [hinv]; simp [expCell]
  have hsz0 : base.size < cur.cells.size := exp_lt hinv (Nat.le_refl _) (by omega)
  have hsz1 : base.size + 1 + j < cur.cells.size := exp_lt hinv (by omega) (by omega)
  have hsz2 : base.size + 1 + j + items.length < cur.cells.size := exp_lt hinv (by omega) (by omega)
  have hold : ∀ p, p < base.size → cur.cells[p]? = base[p]? := fun p hp => by rw [hinv p, expCell_base hp]
  -- the two writes
  let s1 : Store := { cur with cells := cur.cells.setIfInBounds base.size (.uninitializedList items.length (j + 1)) }
  let s2 : Store := { s1 with cells := s1.cells.setIfInBounds (base.size + 1 + j) (.listItem a) }
  have h1 : Store.setCell cur base.size (.uninitializedList items.length (j + 1)) = .ok s1 := setCell_ok _ hsz0
  have hs1 : s1.cells.size = cur.cells.size := by simp [s1]
  have h2 : Store.setCell s1 (base.size + 1 + j) (.listItem a) = .ok s2 := setCell_ok _ (by rw [hs1]; exact hsz1)
  have hs2 : s2.cells.size = cur.cells.size := by simp [s2, s1]
  have hold2 : ∀ p, p < base.size → s2.cells[p]? = base[p]? := by
    intro p hp
    show ((cur.cells.setIfInBounds base.size _).setIfInBounds (base.size + 1 + j) _)[p]? = _
    rw [Array.getElem?_setIfInBounds, if_neg (by omega), Array.getElem?_setIfInBounds, if_neg (by omega)]
    exact hold p hp
  obtain ⟨ca, hca⟩ : ∃ c, base[a]? = some c := ⟨base[a], by simp [ha]⟩
  simp only [Store.addToList, bind, Outcome.bind, Store.get, hli, h1, h2]
  rw [if_neg (by omega)]
  simp only [hold2 a ha, hca]
  cases ca with
  | pair l r =>
    have hl := hpair l r hca
    obtain ⟨cl, hcl⟩ : ∃ c, base[l]? = some c := ⟨base[l], by simp [hl]⟩
    simp only [hold2 l hl, hcl]
    cases cl with
    | symbol sym => exact ⟨_, setCell_ok _ (by rw [hs2]; exact hsz2)⟩
    | _ => exact ⟨_, rfl⟩
  | _ => exact ⟨_, rfl⟩

theorem addAll_total {base : Array Cell} {items : List Nat}
    (hpair : ∀ a ∈ items, ∀ l r, base[a]? = some (Cell.pair l r) → l < base.size) :
    ∀ (rest : List Nat) (j : Nat) (cur : Store), items.drop j = rest →
      (∀ p, cur.cells[p]? = expCell base items j p) → (∀ a ∈ rest, a < base.size) →
      ∃ cur', rest.foldlM (fun s a => Store.addToList s base.size a) cur = .ok cur'
  | [], _, cur, _, _, _ => ⟨cur, rfl⟩
  | a :: rest, j, cur, hdrop, hinv, hlt => by
    have hj : items[j]? = some a := by
      have := congrArg (fun l => l[0]?) hdrop
      simpa using this
    have hmem : a ∈ items := List.mem_of_getElem? hj
    obtain ⟨c1, h1⟩ := addToList_total hinv hj (hlt a (by simp)) (hpair a hmem)
    obtain ⟨hinv1, _⟩ := addToList_exp hinv hj (hlt a (by simp)) h1
    have hdrop1 : items.drop (j + 1) = rest := by
      have := congrArg List.tail hdrop
      simpa using this
    obtain ⟨c2, h2⟩ := addAll_total hpair rest (j + 1) c1 hdrop1 hinv1 (fun x hx => hlt x (by simp [hx]))
    exact ⟨c2, by simp [List.foldlM, bind, Outcome.bind, h1, h2]⟩

/-- the operation left the geometry of the data block alone -/
def Geo (s s' : Store) : Prop := s'.start = s.start ∧ s'.size = s.size ∧ s'.custom = s.custom ∧ s'.grow = s.grow

theorem Geo.layout {s s' : Store} (h : Geo s s') (hl : LayoutOK s) : LayoutOK s' := by
  unfold LayoutOK at hl ⊢; rw [h.1, h.2.1, h.2.2.1]; exact hl

/-- a push keeps the data block inside the heap (the custom block moves with the growth step) -/
theorem push_layout {s s' : Store} {c : Cell} {i : Nat} (hl : LayoutOK s) (h : s.push c = .ok (s', i)) : LayoutOK s' := by
  unfold Store.push at h
  simp only at h
  unfold LayoutOK at hl ⊢
  split at h
  · split at h
    · simp at h
    · simp only [Outcome.ok.injEq, Prod.mk.injEq] at h
      obtain ⟨hs, _⟩ := h
      subst hs
      simp only
      omega
  · simp only [Outcome.ok.injEq, Prod.mk.injEq] at h
    obtain ⟨hs, _⟩ := h
    subst hs
    exact hl

theorem layout_heads {s : Store} (hl : LayoutOK s) (r v f : Option Nat) :
    LayoutOK { s with currentRegister := r, currentValue := v, currentFrame := f } := hl

/-- room and layout together are room: only a push moves the geometry of the data block -/
theorem room_fitsL : Room (fun s => Fits s ∧ LayoutOK s) where
  push s c h := by
    obtain ⟨s', hp, hc, hfr, hf⟩ := room_fits.push s c h.1
    exact ⟨s', hp, hc, hfr, hf, push_layout h.2 hp⟩
  cells s cells' h hs := ⟨room_fits.cells s cells' h.1 hs, h.2⟩
  heads _ _ _ _ h := h

theorem endList_total {base : Array Cell} {items : List Nat} {cur : Store}
    (hinv : ∀ p, cur.cells[p]? = expCell base items items.length p) (hf : Fits cur) (hl : LayoutOK cur) :
    ∃ s' r, Store.endList cur base.size = .ok (s', r) := by
  have hli : cur.cells[base.size]? = some (.uninitializedList items.length items.length) := by
    rw [hinv]; simp [expCell]
  have hsz : base.size + 2 * items.length < cur.cells.size := exp_lt hinv (by omega) (Nat.le_refl _)
  have hchk : ¬ (cur.start + (base.size + 1 + items.length) + items.length > cur.custom.start + cur.custom.size) := by
    have := hf.1
    unfold LayoutOK at hl
    omega
  simp only [Store.endList, bind, Outcome.bind, Store.get, hli]
  rw [if_neg (by omega), if_neg hchk]
  simp only [Store.setCell, setRange_size]
  rw [if_pos (by omega)]
  exact ⟨_, _, rfl⟩

theorem buildList_total {s : Store} {items : List Nat} (hf : Fits s) (hl : LayoutOK s)
    (hlt : ∀ a ∈ items, a < s.cells.size)
    (hpair : ∀ a ∈ items, ∀ l r, s.cells[a]? = some (Cell.pair l r) → l < s.cells.size) :
    ∃ s' li, Store.buildList s items = .ok (s', li) ∧ LayoutOK s' := by
  obtain ⟨s1, hp, hc1, hf1⟩ := push_total (.uninitializedList items.length 0) hf
  obtain ⟨s2, hall, hc2, hfr2, hf2⟩ := pushAll_total room_fits (List.replicate (items.length * 2) Cell.empty) s1 hf1
  have hstart : s.startList items.length = .ok (s2, s.cells.size) := by
    simp [Store.startList, bind, Outcome.bind, hp, hall, pure]
  have hinv0 := startList_exp hstart
  obtain ⟨s3, hfold⟩ := addAll_total hpair items 0 s2 (by simp) hinv0 hlt
  obtain ⟨hinv3, _⟩ := addAll_exp items 0 s2 s3 (by simp) hinv0 hlt hfold
  simp only [Nat.zero_add] at hinv3
  have hr3 := foldl_addToList_room room_fitsL _ _ _ _ (startList_room room_fitsL ⟨hf, hl⟩ hstart) hfold
  obtain ⟨s4, r, hend⟩ := endList_total hinv3 hr3.1 hr3.2
  exact ⟨s4, r, by simp [Store.buildList, bind, Outcome.bind, hstart, hfold, hend], (endList_room room_fitsL hr3 hend).2⟩

section
variable {F σ : Type}

def addAllRM (S : RStore F σ) : List Nat → Nat → RM σ Nat
  | [], t => RM.pure t
  | a :: as, t => RM.bind (S.addToList t a) (addAllRM S as)

/-- the protocol that respects the announcement: `start_list(items.length)`, the items, `end_list` -/
def makeListRM (S : RStore F σ) (items : List Nat) : RM σ Nat :=
  RM.bind (S.startList items.length) (fun t => RM.bind (addAllRM S items t) (fun t' => S.endList t'))

/-- the adds of the Basic store are the adds of the heap model (the ghost `building` is updated on the side) -/
theorem addAllRM_basic (nc : NumCode F) (t : Nat) : ∀ (items : List Nat) (st : BState) (s' : Store),
    items.foldlM (fun s a => s.addToList t a) st.store = .ok s' →
    ∃ bl, addAllRM (basicRStore nc) items t st = .ok (t, { st with store := s', building := bl })
  | [], st, s', h => by
    simp only [List.foldlM, Outcome.pure_eq_ok_iff] at h
    subst h
    exact ⟨st.building, rfl⟩
  | a :: items, st, s', h => by
    simp only [List.foldlM, Outcome.bind_eq_ok'] at h
    obtain ⟨s1, h1, h2⟩ := h
    have hstep := addToList_ok nc h1
    obtain ⟨bl, ih⟩ := addAllRM_basic nc t items
      { st with store := s1, building := st.building.map (fun b => (t, b.2 ++ [a])) } s' h2
    exact ⟨bl, by simp only [addAllRM, RM.bind, hstep]; rw [ih]⟩

end

end Garnish.Lemmas.Runtime.Basic
