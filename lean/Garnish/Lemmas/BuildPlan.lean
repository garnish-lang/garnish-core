/-
One call of a `handle_*` function in normal form.  A handler decides on a `Plan` (the new data object, write-backs through
`&mut` references, `nodes[i] = Some(..)` assignments, pushes on the two work lists) and carries it out; only the assignments
can panic.  All handlers but two first read the build node of the node they visit: `handleX_eq : handleX .. = visit ctx ni
(xPlan ..)`; `handleGroup_eq` reads it only when there is a right child, `handleNestedExpression_eq` has no read that can fail;
`handle_value_primitive` is `handle_value_like` with a wrapped closure and is unfolded where it is used.  The tables of the
definitions are here too (`layout` with `csOf` / `sufOf`, `isLate`, `oolR`, `emits`).  What a plan can be: Lemmas/BuildVisit.lean.
Four namespaces: `BuildTotal` (`assign`, `AllNodes`, `isLate`), `BuildSeq` (`Lay` … `csOf`), `BuildAttr` (`emits`, `attributable`),
`BuildPlan` (the plans).
-/
import Garnish.Lemmas.ListFacts
import Garnish.Lemmas.BuildOutcome

namespace Garnish.Lemmas.BuildTotal
open Garnish Garnish.Gen Garnish.Model.Parser Garnish.Model.Literals Garnish.Model.Build Garnish.Lemmas.Build

/-- `nodes[i] = Some(b)` for the listed pairs, in order -/
def assign (nodes : Nodes) (asg : List (Nat × BuildNode)) : Nodes :=
  asg.foldl (fun N p => putNode N p.1 p.2) nodes

theorem getElem?_putNode (nodes : Nodes) (i : Nat) (b : BuildNode) (x : Nat) :
    (putNode nodes i b)[x]? = if i = x then (if i < nodes.size then some (some b) else none) else nodes[x]? := by
  unfold putNode
  rw [Array.getElem?_setIfInBounds]

theorem get_putNode_some {nodes : Nodes} {i x : Nat} {b bn : BuildNode} (h : (putNode nodes i b)[x]? = some (some bn)) :
    (x = i ∧ bn = b) ∨ (x ≠ i ∧ nodes[x]? = some (some bn)) := by
  rw [getElem?_putNode] at h
  split at h
  · rename_i e
    split at h
    · cases h; exact Or.inl ⟨e.symm, rfl⟩
    · cases h
  · rename_i e; exact Or.inr ⟨fun e' => e e'.symm, h⟩

theorem size_putNode (nodes : Nodes) (i : Nat) (b : BuildNode) : (putNode nodes i b).size = nodes.size := by
  simp [putNode]

theorem assign_size : ∀ (asg : List (Nat × BuildNode)) (nodes : Nodes), (assign nodes asg).size = nodes.size := by
  intro asg
  induction asg with
  | nil => intro nodes; rfl
  | cons p rest ih => intro nodes; simp only [assign, List.foldl_cons] at ih ⊢; rw [ih]; exact size_putNode _ _ _

theorem assign_append (nodes : Nodes) (l l' : List (Nat × BuildNode)) : assign nodes (l ++ l') = assign (assign nodes l) l' :=
  List.foldl_append

theorem assign_get : ∀ (asg : List (Nat × BuildNode)) (nodes : Nodes) (x : Nat) (v : Option BuildNode),
    (assign nodes asg)[x]? = some v →
    (∃ b, (x, b) ∈ asg ∧ v = some b) ∨ (nodes[x]? = some v ∧ ∀ b, (x, b) ∉ asg) := by
  intro asg
  induction asg with
  | nil => intro nodes x v h; exact Or.inr ⟨h, fun b hb => by cases hb⟩
  | cons p rest ih =>
    intro nodes x v h
    obtain ⟨i, b⟩ := p
    simp only [assign, List.foldl_cons] at ih h
    rcases ih (putNode nodes i b) x v h with ⟨b', hb', hv⟩ | ⟨hget, hno⟩
    · exact Or.inl ⟨b', List.mem_cons_of_mem _ hb', hv⟩
    · rw [getElem?_putNode] at hget
      split at hget
      · rename_i hix
        subst hix
        split at hget
        · cases hget; exact Or.inl ⟨b, List.mem_cons_self, rfl⟩
        · cases hget
      · rename_i hix
        refine Or.inr ⟨hget, fun b' hb' => ?_⟩
        rcases List.mem_cons.1 hb' with h1 | h1
        · cases h1; exact hix rfl
        · exact hno b' h1

theorem setNodeIdx_eq {nodes : Nodes} {i : Nat} (hi : i < nodes.size) (b : BuildNode) (site : String) :
    setNodeIdx nodes i b site = .ok (putNode nodes i b) := by
  unfold setNodeIdx putNode
  rw [dif_pos hi]
  simp [Array.setIfInBounds, hi]

def AllNodes (B : BuildNode → Prop) (nodes : Nodes) : Prop :=
  ∀ (i : Nat) (bn : BuildNode), nodes[i]? = some (some bn) → B bn

section allNodes
variable {B : BuildNode → Prop} {nodes : Nodes}

theorem allNodes_replicate (B : BuildNode → Prop) (n : Nat) : AllNodes B (Array.replicate n none) := by
  intro i b h
  simp [Array.getElem?_replicate] at h

theorem allNodes_putNode (h : AllNodes B nodes) (i : Nat) {b : BuildNode} (hb : B b) : AllNodes B (putNode nodes i b) := by
  intro k b' hk
  rcases get_putNode_some hk with ⟨_, rfl⟩ | ⟨_, hk⟩
  · exact hb
  · exact h k b' hk

theorem allNodes_assign : ∀ (asg : List (Nat × BuildNode)) {nodes : Nodes}, AllNodes B nodes →
    (∀ q, q ∈ asg → B q.2) → AllNodes B (assign nodes asg) := by
  intro asg
  induction asg with
  | nil => intro nodes h _; exact h
  | cons q rest ih =>
    intro nodes h hq
    exact ih (allNodes_putNode h _ (hq q List.mem_cons_self)) fun q' hq' => hq q' (List.mem_cons_of_mem _ hq')

theorem getNode_good (nodes : Nodes) (i : Nat) : Good (fun node => nodes[i]? = some (some node)) (getNode nodes i) := by
  unfold getNode
  split
  · rename_i b hb; exact hb
  · exact good_buildErr

theorem afterHandle_cases (nodes : Nodes) (ni : Nat) :
    Good (fun N => N = nodes ∨ ∃ (node parent : BuildNode) (p : Nat), nodes[ni]? = some (some node) ∧
        (putNode nodes ni { node with contributesToList := false })[p]? = some (some parent) ∧
        N = putNode (putNode nodes ni { node with contributesToList := false }) p { parent with childCount := parent.childCount + 1 })
      (afterHandle nodes ni) := by
  unfold afterHandle
  split
  · rename_i node hnode
    split
    · split
      · exact good_bind (getNode_good _ _) fun parent hp => Or.inr ⟨node, parent, _, hnode, hp, rfl⟩
      · exact Or.inl rfl
    · exact Or.inl rfl
  · exact Or.inl rfl

theorem afterHandle_all (h : AllNodes B nodes) (h1 : ∀ b c, B b → B { b with contributesToList := c })
    (h2 : ∀ b x, B b → B { b with childCount := x }) (ni : Nat) :
    Good (fun N => N.size = nodes.size ∧ AllNodes B N) (afterHandle nodes ni) := by
  refine good_mono (afterHandle_cases nodes ni) fun N hN => ?_
  rcases hN with rfl | ⟨node, parent, p, hnode, hp, rfl⟩
  · exact ⟨rfl, h⟩
  · have hn1 := allNodes_putNode h ni (h1 node false (h ni node hnode))
    exact ⟨by rw [size_putNode, size_putNode], allNodes_putNode hn1 _ (h2 _ _ (hn1 _ _ hp))⟩

end allNodes

/-- definitions whose handler schedules the right child in its second visit -/
def isLate (d : Definition) : Bool :=
  d == .jumpIfTrue || d == .jumpIfFalse || d == .and || d == .or

end Garnish.Lemmas.BuildTotal

namespace Garnish.Lemmas.BuildSeq
open Garnish Garnish.Gen Garnish.Lemmas.BuildTotal

/-- the arrangement a first visit pushes; the letters give the order of emission (`l` left child, `r` right child, `n` the node
itself); table with the definitions of each arrangement: header of Lemmas/BuildSeq.lean -/
inductive Lay where
  | lrn | rln | lnr | ln | rn | gr | none
deriving DecidableEq, Repr

def layout (d : Definition) : Lay :=
  match d with
  | .pair | .applyTo => .rln
  | .addition | .subtraction | .multiplicationSign | .division | .access | .range | .startExclusiveRange | .endExclusiveRange
  | .exclusiveRange | .exponentialSign | .remainder | .integerDivision | .bitwiseAnd | .bitwiseOr | .bitwiseXor
  | .bitwiseRightShift | .bitwiseLeftShift | .xor | .typeEqual | .typeCast | .equality | .inequality | .lessThan
  | .lessThanOrEqual | .greaterThan | .greaterThanOrEqual | .apply | .partialApply | .concatenation | .infixApply
  | .list | .commaList | .elseJump => .lrn
  | .subexpression | .expressionSeparator | .unit | .false | .true | .number | .charList | .byteList | .symbol | .value
  | .identifier | .property | .expressionTerminator => .lnr
  | .emptyApply | .accessRightInternal | .accessLengthInternal | .suffixApply | .or | .and | .jumpIfFalse | .jumpIfTrue => .ln
  | .absoluteValue | .opposite | .bitwiseNot | .not | .tis | .typeOf | .accessLeftInternal | .prefixApply | .reapply
  | .sideEffect => .rn
  | .group => .gr
  | .nestedExpression | .drop => .none

/-- the left child is scheduled on `stack` -/
def inlL : Lay → Bool
  | .lrn | .rln | .lnr | .ln => true
  | _ => false
/-- the right child is scheduled on `stack` -/
def inlR : Lay → Bool
  | .lrn | .rln | .lnr | .rn | .gr => true
  | _ => false
/-- the right child is scheduled above the node (emitted before the node's second visit) -/
def preR : Lay → Bool
  | .lrn | .rln | .rn => true
  | _ => false
/-- the right child is emitted out of line -/
def oolR (d : Definition) : Bool := isLate d || d == .nestedExpression

theorem oolR_cases {d : Definition} (h : oolR d = true) :
    d = .jumpIfTrue ∨ d = .jumpIfFalse ∨ d = .and ∨ d = .or ∨ d = .nestedExpression := by
  simpa [oolR, isLate, or_assoc] using h

theorem oolR_layout {d : Definition} (h : oolR d = true) : layout d ≠ .gr ∧ d ≠ .subexpression := by
  rcases oolR_cases h with e | e | e | e | e <;> subst e <;> exact ⟨by decide, by decide⟩

theorem oolR_not_inlR {d : Definition} (h : oolR d = true) : inlR (layout d) = false := by
  rcases oolR_cases h with e | e | e | e | e <;> subst e <;> rfl

def isLogical (d : Definition) : Bool := d == .and || d == .or
def isJumpIf (d : Definition) : Bool := d == .jumpIfTrue || d == .jumpIfFalse
/-- owners that always push their out-of-line child in their own last visit -/
def isDirect (d : Definition) : Bool := isLogical d || d == .nestedExpression

theorem jumpIf_isLate {d : Definition} (h : isJumpIf d = true) : isLate d = true := by
  simp only [isJumpIf, Bool.or_eq_true, beq_iff_eq] at h
  rcases h with h | h <;> subst h <;> rfl

/-- the arrangement pushed by the first visit, bottom first -/
def sufOf (k : Lay) (ni : Nat) (ol or_ : Option Nat) : List Nat :=
  match k with
  | .lrn => ni :: (or_.toList ++ ol.toList)
  | .rln => ni :: (ol.toList ++ or_.toList)
  | .lnr => or_.toList ++ ni :: ol.toList
  | .ln => ni :: ol.toList
  | .rn => ni :: or_.toList
  | .gr => or_.toList
  | .none => []

/-- the children pushed by the first visit -/
def csOf (k : Lay) (ol or_ : Option Nat) : List Nat :=
  match k with
  | .lrn | .rln | .lnr => or_.toList ++ ol.toList
  | .ln => ol.toList
  | .rn | .gr => or_.toList
  | .none => []

theorem mem_csOf {k : Lay} {ol or_ : Option Nat} {c : Nat} :
    c ∈ csOf k ol or_ ↔ (ol = some c ∧ inlL k = true) ∨ (or_ = some c ∧ inlR k = true) := by
  cases k <;> simp [csOf, inlL, inlR, or_comm]

theorem csOf_nodup (k : Lay) {ol or_ : Option Nat} (hne : ∀ l r, ol = some l → or_ = some r → l ≠ r) :
    (csOf k ol or_).Nodup := by
  have h1 : ∀ o : Option Nat, o.toList.Nodup := fun o => by cases o <;> simp
  have h2 : (or_.toList ++ ol.toList).Nodup :=
    List.nodup_append.2 ⟨h1 _, h1 _, fun r hr l hl e => hne l r (by simpa using hl) (by simpa using hr) e.symm⟩
  cases k
  case none => exact List.nodup_nil
  all_goals first | exact h2 | exact h1 _

theorem sufOf_perm {k : Lay} (hk : k ≠ .gr ∧ k ≠ .none) (ni : Nat) (ol or_ : Option Nat) :
    (sufOf k ni ol or_).Perm (ni :: csOf k ol or_) := by
  cases k with
  | lrn | ln | rn => exact .refl _
  | rln => exact .cons _ List.perm_append_comm
  | lnr => exact List.perm_middle
  | gr => exact absurd rfl hk.1
  | none => exact absurd rfl hk.2

end Garnish.Lemmas.BuildSeq

namespace Garnish.Lemmas.BuildAttr
open Garnish Garnish.Gen Garnish.Model.Parser Garnish.Model.Build Garnish.Lemmas.Build
open Garnish.Lemmas.BuildTotal (assign getElem?_putNode)

/-- definitions whose handler attributes at least one instruction to the node whenever it handles it to the end -/
def emits (d : Definition) : Bool := !(d == .group || d == .elseJump || d == .list || d == .commaList)

/-- nodes that must be attributed after a successful build: everything except the forwarding definitions and
`Subexpression` (which the validation allows to stay outside the tree) -/
def attributable (d : Definition) : Bool := emits d && d != .subexpression

theorem assign_some : ∀ (asg : List (Nat × BuildNode)) (nodes : Nodes) (x : Nat) (b0 : BuildNode),
    nodes[x]? = some (some b0) → ∃ b, (assign nodes asg)[x]? = some (some b) := by
  intro asg
  induction asg with
  | nil => intro nodes x b0 h; exact ⟨b0, h⟩
  | cons p rest ih =>
    intro nodes x b0 h
    obtain ⟨i, b⟩ := p
    simp only [assign, List.foldl_cons] at ih ⊢
    have hx : x < nodes.size := lt_of_getElem? h
    rcases Classical.em (i = x) with hix | hix
    · subst hix
      exact ih (putNode nodes i b) i b (by rw [getElem?_putNode, if_pos rfl, if_pos hx])
    · exact ih (putNode nodes i b) x b0 (by rw [getElem?_putNode, if_neg hix]; exact h)

end Garnish.Lemmas.BuildAttr

namespace Garnish.Lemmas.BuildPlan
open Garnish Garnish.Gen Garnish.Model.Parser Garnish.Model.Literals Garnish.Model.Build Garnish.Lemmas.Build
open Garnish.Lemmas.BuildTotal (Good good_bind assign assign_size assign_append setNodeIdx_eq size_putNode AllNodes allNodes_assign)

variable {F : Type}

/-- what one handler call does -/
structure Plan (F : Type) where
  data : BState F
  /-- write-backs through the `&mut BuildNode`s the handler holds -/
  puts : List (Nat × BuildNode)
  /-- `nodes[i] = Some(b)`, with the label of the site; done after the write-backs -/
  sets : List (Nat × BuildNode × String)
  /-- pushed on `stack`, in order -/
  stack : List Nat
  /-- pushed on `root_stack`, in order -/
  roots : List Nat

/-- the assignments of a plan, continuation-passing so that a handler's own chain of `setNodeIdx` is an instance -/
def setAll {α : Type} (nodes : Nodes) : List (Nat × BuildNode × String) → (Nodes → Outcome α) → Outcome α
  | [], k => k nodes
  | (i, b, site) :: rest, k => Outcome.bind (setNodeIdx nodes i b site) fun nodes => setAll nodes rest k

def Plan.finish (p : Plan F) (ctx : Ctx F) (nodes : Nodes) : Ctx F :=
  { data := p.data, nodes := nodes, rootStack := p.roots.foldl Array.push ctx.rootStack,
    stack := p.stack.foldl Array.push ctx.stack }

/-- the state after a plan none of whose assignments panics -/
def Plan.apply (p : Plan F) (ctx : Ctx F) : Ctx F :=
  p.finish ctx (assign (assign ctx.nodes p.puts) (p.sets.map fun q => (q.1, q.2.1)))

def Plan.run (p : Plan F) (ctx : Ctx F) : Outcome (Ctx F) :=
  setAll (assign ctx.nodes p.puts) p.sets fun nodes => .ok (p.finish ctx nodes)

theorem toList_foldl_push {α : Type} (l : List α) (a : Array α) : (l.foldl Array.push a).toList = a.toList ++ l := by
  rw [List.foldl_push_eq_append']; simp

theorem setAll_of_lt {α : Type} (k : Nodes → Outcome α) : ∀ (sets : List (Nat × BuildNode × String)) (nodes : Nodes),
    (∀ q, q ∈ sets → q.1 < nodes.size) → setAll nodes sets k = k (assign nodes (sets.map fun q => (q.1, q.2.1))) := by
  intro sets
  induction sets with
  | nil => intro nodes _; rfl
  | cons q rest ih =>
    intro nodes h
    obtain ⟨i, b, site⟩ := q
    simp only [setAll, setNodeIdx_eq (h _ List.mem_cons_self), bind_ok]
    exact ih _ fun q hq => by rw [size_putNode]; exact h q (List.mem_cons_of_mem _ hq)

theorem Plan.run_of_lt {p : Plan F} {ctx : Ctx F} (h : ∀ q, q ∈ p.sets → q.1 < ctx.nodes.size) : p.run ctx = .ok (p.apply ctx) :=
  setAll_of_lt _ p.sets _ fun q hq => by rw [assign_size]; exact h q hq

theorem setAll_outcome {α : Type} (k : Nodes → Outcome α) : ∀ (sets : List (Nat × BuildNode × String)) (nodes : Nodes),
    (∀ q, q ∈ sets → q.1 < nodes.size) ∨ ∃ s, setAll nodes sets k = .panic s := by
  intro sets
  induction sets with
  | nil => intro nodes; exact Or.inl fun q hq => by cases hq
  | cons q rest ih =>
    intro nodes
    obtain ⟨i, b, site⟩ := q
    rcases Nat.lt_or_ge i nodes.size with hi | hi
    · rcases ih (putNode nodes i b) with h | ⟨s, h⟩
      · refine Or.inl fun q hq => ?_
        rcases List.mem_cons.1 hq with e | e
        · subst e; exact hi
        · rw [← size_putNode nodes i b]; exact h q e
      · exact Or.inr ⟨s, by simp only [setAll, setNodeIdx_eq hi, bind_ok]; exact h⟩
    · exact Or.inr ⟨site, by simp [setAll, setNodeIdx, Nat.not_lt.2 hi, Outcome.bind]⟩

theorem Plan.run_outcome (p : Plan F) (ctx : Ctx F) :
    ((∀ q, q ∈ p.sets → q.1 < ctx.nodes.size) ∧ p.run ctx = .ok (p.apply ctx)) ∨ ∃ s, p.run ctx = .panic s := by
  rcases setAll_outcome (fun nodes => Outcome.ok (p.finish ctx nodes)) p.sets (assign ctx.nodes p.puts) with h | h
  · have h' : ∀ q, q ∈ p.sets → q.1 < ctx.nodes.size := fun q hq => by rw [← assign_size p.puts]; exact h q hq
    exact Or.inl ⟨h', Plan.run_of_lt h'⟩
  · exact Or.inr h

theorem Plan.run_sat {p : Plan F} {ctx : Ctx F} {P : Ctx F → Prop} (h : (∀ q, q ∈ p.sets → q.1 < ctx.nodes.size) → P (p.apply ctx)) :
    Sat P (p.run ctx) := by
  rcases p.run_outcome ctx with ⟨hlt, e⟩ | ⟨s, e⟩ <;> rw [e]
  · exact h hlt
  · exact sat_panic

theorem Plan.run_good {p : Plan F} {ctx : Ctx F} {P : Ctx F → Prop} (hlt : ∀ q, q ∈ p.sets → q.1 < ctx.nodes.size)
    (h : P (p.apply ctx)) : Good P (p.run ctx) := by
  rw [Plan.run_of_lt hlt]; exact h

theorem Plan.apply_stack (p : Plan F) (ctx : Ctx F) : (p.apply ctx).stack.toList = ctx.stack.toList ++ p.stack :=
  toList_foldl_push _ _

theorem Plan.apply_roots (p : Plan F) (ctx : Ctx F) : (p.apply ctx).rootStack.toList = ctx.rootStack.toList ++ p.roots :=
  toList_foldl_push _ _

theorem Plan.apply_nodes (p : Plan F) (ctx : Ctx F) :
    (p.apply ctx).nodes = assign ctx.nodes (p.puts ++ p.sets.map fun q => (q.1, q.2.1)) :=
  (assign_append _ _ _).symm

theorem Plan.apply_size (p : Plan F) (ctx : Ctx F) : (p.apply ctx).nodes.size = ctx.nodes.size := by
  simp only [Plan.apply, Plan.finish, assign_size]

theorem Plan.apply_all {B : BuildNode → Prop} {p : Plan F} {ctx : Ctx F} (h : AllNodes B ctx.nodes)
    (hp : ∀ q, q ∈ p.puts → B q.2) (hs : ∀ q, q ∈ p.sets → B q.2.1) : AllNodes B (p.apply ctx).nodes :=
  allNodes_assign _ (allNodes_assign _ h hp) (List.forall_mem_map.2 hs)

def emit (data : BState F) : Plan F := ⟨data, [], [], [], []⟩

/-- first visit: the node is written back, a fresh build node is assigned to every scheduled child -/
def firstVisit (data : BState F) (ni : Nat) (node : BuildNode) (kids : List (Nat × BuildNode × String)) (stack : List Nat) :
    Plan F := ⟨data, [(ni, node)], kids, stack, []⟩

/-- a fresh build node `mk c` for each of the children `cs`, assigned at `site` -/
def kids (cs : List Nat) (mk : Nat → BuildNode) (site : String) : List (Nat × BuildNode × String) :=
  cs.map fun c => (c, mk c, site)

theorem forall_kids {Q : Nat → BuildNode → Prop} {cs : List Nat} {mk : Nat → BuildNode} {site : String}
    (h : ∀ c, c ∈ cs → Q c (mk c)) : ∀ q, q ∈ kids cs mk site → Q q.1 q.2.1 := by
  intro q hq
  obtain ⟨c, hc, rfl⟩ := List.mem_map.1 hq
  exact h c hc

theorem map_fst_kids (cs : List Nat) (mk : Nat → BuildNode) (site : String) : (kids cs mk site).map (·.1) = cs := by
  simp [kids, Function.comp_def]

section plans
variable (ctx : Ctx F) (ni : Nat) (pn : ParseNode) (node : BuildNode)

def valueLikePlan (addFn : AddFn F) (ins : Instruction) : Outcome (Plan F) :=
  match node.state with
  | .uninitialized =>
    .ok (firstVisit ctx.data ni { node with state := .initialized }
      (kids pn.right.toList (.new · node.containingExpressionJump) "build.rs:841" ++
        kids pn.left.toList (.new · node.containingExpressionJump) "build.rs:851")
      (pn.right.toList ++ ni :: pn.left.toList))
  | .initialized =>
    Outcome.bind (addFn ctx.data pn) fun (data, o) => .ok (emit (pushInstr data ins o (some ni)))

/-- the handlers that schedule one required child `child` in their first visit, with a fresh node `mk c` -/
def unaryPlan (child : Option Nat) (mk : Nat → BuildNode) (site : String) (second : Outcome (Plan F)) : Outcome (Plan F) :=
  match node.state with
  | .uninitialized =>
    match child with
    | none => buildErr
    | some c => .ok (firstVisit ctx.data ni { node with state := .initialized } (kids [c] mk site) [node.parseNodeIndex, c])
  | .initialized => second

/-- the handlers that schedule both children (required) in their first visit, each with a fresh node `mk c`;
`stack right left` is what they push on `stack` -/
def pairPlan (data : BState F) (mk : Nat → BuildNode) (site1 site2 : String) (stack : Nat → Nat → List Nat)
    (second : Outcome (Plan F)) : Outcome (Plan F) :=
  match node.state with
  | .uninitialized =>
    match pn.right with
    | none => buildErr
    | some right =>
    match pn.left with
    | none => buildErr
    | some left =>
      .ok (firstVisit data ni { node with state := .initialized } (kids [right] mk site1 ++ kids [left] mk site2)
        (stack right left))
  | .initialized => second

def binaryPlan (ins : Instruction) (leftRight : Bool) : Outcome (Plan F) :=
  pairPlan ni pn node ctx.data (.new · node.containingExpressionJump) "build.rs:969" "build.rs:970"
    (fun right left => node.parseNodeIndex :: (if leftRight then [left, right] else [right, left]))
    (.ok (emit (pushInstr ctx.data ins none (some node.parseNodeIndex))))

/-- where the items of a List / CommaList node are collected: in the enclosing list of the same kind if there is one
    (then the node itself does not contribute an item), else in the node itself -/
def listTarget : Nat × Definition × Bool :=
  match node.listParent with
  | some (parent, definition) =>
    if definition == pn.definition then (parent, definition, false)
    else (ni, pn.definition, true)
  | none => (ni, pn.definition, true)

def listPlan : Outcome (Plan F) :=
  match node.state with
  | .uninitialized =>
    let t := listTarget ni pn node
    .ok (firstVisit ctx.data ni { node with state := .initialized, contributesToList := t.2.2 }
      (kids pn.right.toList (.newWithList · node.containingExpressionJump t.1 t.2.1) "build.rs:1013" ++
        kids pn.left.toList (.newWithList · node.containingExpressionJump t.1 t.2.1) "build.rs:1020")
      (node.parseNodeIndex :: (pn.right.toList ++ pn.left.toList)))
  | .initialized =>
    let sameAsParent :=
      match node.listParent with
      | some (_, definition) => definition == pn.definition
      | none => false
    if sameAsParent then .ok (emit ctx.data)
    else
      Outcome.bind (getNode ctx.nodes ni) fun node =>
        .ok ⟨pushInstr ctx.data .makeList (some node.childCount) (some node.parseNodeIndex),
          [(ni, { node with childCount := node.childCount + 1 })], [], [], []⟩

/-- second visit of `handle_logical_binary`, and of `handle_jump_if` outside an else-chain (`extra` = its `PutValue`):
    the right child becomes a root that is entered through the jump entry `jumpIndex` allocated here -/
def branchPlan (ins : Instruction) (extra : List Instr) (endBefore : List Instr) (site : String) : Outcome (Plan F) :=
  match pn.right with
  | none => buildErr
  | some right =>
    let jumpIndex := getJumpTableLen ctx.data
    let data := pushInstr (pushToJumpTable ctx.data 0) ins (some jumpIndex) (some ni)
    let data := extra.foldl (fun d e => pushInstr d e.1 e.2 none) data
    let jumpToIndex := getJumpTableLen data
    .ok ⟨pushToJumpTable data (getInstructionLen data), [],
      kids [right] (.newWithJumpAndEnd · node.containingExpressionJump jumpIndex (endBefore ++ [(.jumpTo, some jumpToIndex)])) site,
      [], [right]⟩

def logicalBinaryPlan (ins : Instruction) : Outcome (Plan F) :=
  unaryPlan ctx ni node pn.left (fun l => BuildNode.newWithConditional l node.containingExpressionJump ni) "build.rs:762"
    (branchPlan ctx ni pn node ins [] [(.tis, none)] "build.rs:777")

/-- `handle_jump_if`: inside an else-chain the arm is recorded at the head of the chain -/
def jumpIfPlan (ins : Instruction) : Outcome (Plan F) :=
  unaryPlan ctx ni node pn.left (fun l => BuildNode.new l node.containingExpressionJump) "build.rs:699"
    (match node.conditionalParent with
    | some conditionalParent =>
      match pn.right with
      | none => buildErr
      | some right =>
        let jumpIndex := getJumpTableLen ctx.data
        let data := pushToJumpTable ctx.data 0
        match ctx.nodes[conditionalParent]? with
        | some (some parent) =>
          let item : ConditionItem := ⟨right, jumpIndex, (.invalid, none)⟩
          .ok ⟨pushInstr data ins (some jumpIndex) (some ni),
            [(conditionalParent, { parent with conditionalItems := parent.conditionalItems.push item })], [], [], []⟩
        | _ => .ok (emit data)
    | none => branchPlan ctx ni pn node ins [(.putValue, none)] [] "build.rs:730")

def unaryFixApplyPlan (child : Option Nat) : Outcome (Plan F) :=
  match node.state with
  | .uninitialized =>
    match child with
    | none => buildErr
    | some right =>
      let r := parseAddSymbol ctx.data (trimMatches '`' pn.lexToken.text)
      .ok (firstVisit (pushInstr r.1 .resolve (some r.2) none) ni { node with state := .initialized }
        (kids [right] (.new · node.containingExpressionJump) "build.rs:664") [ni, right])
  | .initialized => .ok (emit (pushInstr ctx.data .apply none (some ni)))

def groupPlan : Outcome (Plan F) :=
  match pn.right with
  | none => .ok (emit ctx.data)
  | some right =>
    Outcome.bind (getNode ctx.nodes ni) fun node =>
      .ok ⟨ctx.data, [], kids [right] (.new · node.containingExpressionJump) "build.rs:400", [right], []⟩

def sideEffectPlan : Outcome (Plan F) :=
  match node.state with
  | .uninitialized =>
    .ok (firstVisit (pushInstr ctx.data .startSideEffect none (some ni)) ni { node with state := .initialized }
      (kids pn.right.toList (.new · node.containingExpressionJump) "build.rs:422")
      (ni :: pn.right.toList))
  | .initialized => .ok (emit (pushInstr ctx.data .endSideEffect none (some ni)))

def nestedPlan (currentRootJump : Nat) : Plan F :=
  match pn.right with
  | none =>
    let containing :=
      match ctx.nodes[ni]? with
      | some (some node) => node.containingExpressionJump
      | _ => currentRootJump
    let r := addConst ctx.data (.expr containing)
    emit (pushInstr r.1 .put (some r.2) (some ni))
  | some right =>
    let jumpIndex := getJumpTableLen ctx.data
    let r := addConst (pushToJumpTable ctx.data 0) (.expr jumpIndex)
    ⟨pushInstr r.1 .put (some r.2) (some ni), [],
      kids [right] (.newWithJump · jumpIndex jumpIndex) "build.rs:446", [], [right]⟩

/-- the root that `ElseJump` makes of a recorded arm -/
def armNode (containing jumpToIndex : Nat) (c : ConditionItem) : BuildNode :=
  BuildNode.newWithJumpAndEnd c.nodeIndex containing c.jumpIndexToUpdate [(.jumpTo, some jumpToIndex)]

/-- the ElseJump arm: the head of an else-chain releases the recorded arms as roots in its second visit -/
def elseJumpPlan : Outcome (Plan F) :=
  pairPlan ni pn node ctx.data
    (.newWithConditional · node.containingExpressionJump
      (match node.conditionalParent with
        | some parent => parent
        | none => ni)) "build.rs:490/494" "build.rs:491/495"
    (fun right left => [node.parseNodeIndex, right, left])
    (match node.conditionalParent with
    | some _ => .ok (emit ctx.data)
    | none =>
      if node.conditionalItems.size > 0 then
        let items := node.conditionalItems.toList
        .ok ⟨pushToJumpTable ctx.data (getInstructionLen ctx.data), [],
          items.map (fun c => (c.nodeIndex, armNode node.containingExpressionJump (getJumpTableLen ctx.data) c, "build.rs:518")),
          [], items.map (·.nodeIndex)⟩
      else .ok (emit ctx.data))

def reapplyPlan : Outcome (Plan F) :=
  unaryPlan ctx ni node pn.right (fun r => BuildNode.new r node.containingExpressionJump) "build.rs:539"
    (.ok (emit (pushInstr (pushInstr ctx.data .updateValue none (some ni)) .jumpTo (some node.containingExpressionJump) (some ni))))

def subexpressionPlan : Outcome (Plan F) :=
  pairPlan ni pn node ctx.data (.new · node.containingExpressionJump) "build.rs:567" "build.rs:568"
    (fun right left => [right, ni, left]) (.ok (emit (pushInstr ctx.data .updateValue none (some ni))))

def infixApplyPlan : Outcome (Plan F) :=
  pairPlan ni pn node
    (pushInstr (parseAddSymbol ctx.data (trimMatches '`' pn.lexToken.text)).1 .resolve
      (some (parseAddSymbol ctx.data (trimMatches '`' pn.lexToken.text)).2) none)
    (.new · node.containingExpressionJump) "build.rs:619" "build.rs:620" (fun right left => [ni, right, left])
    (.ok (emit (pushInstr (pushInstr ctx.data .makeList (some 2) none) .apply none (some ni))))

end plans

section equations
variable {ctx : Ctx F} {ni : Nat} {pn : ParseNode}

/-- a handler that starts by reading the build node of the visited node -/
def visit (ctx : Ctx F) (ni : Nat) (plan : BuildNode → Outcome (Plan F)) : Outcome (Ctx F) :=
  Outcome.bind (getNode ctx.nodes ni) fun node => Outcome.bind (plan node) (·.run ctx)

theorem handleValueLike_eq (addFn : AddFn F) (ins : Instruction) :
    handleValueLike addFn ins ctx ni pn = visit ctx ni (valueLikePlan ctx ni pn · addFn ins) := by
  refine congrArg _ (funext fun node => ?_)
  show _ = Outcome.bind (valueLikePlan ..) _
  unfold valueLikePlan
  cases node.state
  · cases pn.right <;> cases pn.left <;> simp only [bind_ok, Build.bind_assoc] <;> rfl
  · simp only [bind_ok, Build.bind_assoc]; rfl

theorem handleUnaryPrefix_eq (ins : Instruction) :
    handleUnaryPrefix ins ctx ni pn = visit ctx ni fun node =>
      unaryPlan ctx ni node pn.right (fun r => BuildNode.new r node.containingExpressionJump) "build.rs:914"
        (.ok (emit (pushInstr ctx.data ins none (some node.parseNodeIndex)))) := by
  refine congrArg _ (funext fun node => ?_)
  show _ = Outcome.bind (unaryPlan ..) _
  unfold unaryPlan
  cases node.state
  · cases pn.right <;> rfl
  · rfl

theorem handleUnarySuffix_eq (ins : Instruction) :
    handleUnarySuffix ins ctx ni pn = visit ctx ni fun node =>
      unaryPlan ctx ni node pn.left (fun l => BuildNode.new l node.containingExpressionJump) "build.rs:884"
        (.ok (emit (pushInstr ctx.data ins none (some node.parseNodeIndex)))) := by
  refine congrArg _ (funext fun node => ?_)
  show _ = Outcome.bind (unaryPlan ..) _
  unfold unaryPlan
  cases node.state
  · cases pn.left <;> rfl
  · rfl

theorem handleBinaryOperationWithPush_eq (ins : Instruction) (lr : Bool) :
    handleBinaryOperationWithPush ins lr ctx ni pn = visit ctx ni (binaryPlan ctx ni pn · ins lr) := by
  refine congrArg _ (funext fun node => ?_)
  show _ = Outcome.bind (pairPlan ..) _
  unfold pairPlan
  cases node.state
  · cases pn.right
    · rfl
    · cases pn.left
      · rfl
      · cases lr <;> rfl
  · rfl

theorem handleList_eq : handleList ctx ni pn = visit ctx ni (listPlan ctx ni pn) := by
  refine congrArg _ (funext fun node => ?_)
  show _ = Outcome.bind (listPlan ..) _
  unfold listPlan
  cases node.state
  · cases pn.right <;> cases pn.left <;> simp only [bind_ok, Build.bind_assoc] <;> rfl
  · cases node.listParent <;> dsimp only <;> split <;> first | rfl | (simp only [Build.bind_assoc]; rfl)

theorem handleLogicalBinary_eq (ins : Instruction) :
    handleLogicalBinary ins ctx ni pn = visit ctx ni (logicalBinaryPlan ctx ni pn · ins) := by
  refine congrArg _ (funext fun node => ?_)
  show _ = Outcome.bind (unaryPlan ..) _
  unfold unaryPlan
  cases node.state
  · cases pn.left <;> rfl
  · show _ = Outcome.bind (branchPlan ..) _
    unfold branchPlan
    cases pn.right <;> rfl

theorem handleJumpIf_eq (ins : Instruction) :
    handleJumpIf ins ctx ni pn = visit ctx ni (jumpIfPlan ctx ni pn · ins) := by
  refine congrArg _ (funext fun node => ?_)
  show _ = Outcome.bind (unaryPlan ..) _
  unfold unaryPlan
  cases node.state
  · cases pn.left <;> rfl
  · unfold branchPlan
    cases pn.right
    · cases node.conditionalParent <;> rfl
    · cases node.conditionalParent with
      | none => rfl
      | some cp =>
        dsimp only
        generalize ctx.nodes[cp]? = o
        rcases o with _ | _ | _ <;> rfl

theorem handleUnaryFixApply_eq (child : Option Nat) :
    handleUnaryFixApply child ctx ni pn = visit ctx ni (unaryFixApplyPlan ctx ni pn · child) := by
  refine congrArg _ (funext fun node => ?_)
  show _ = Outcome.bind (unaryFixApplyPlan ..) _
  unfold unaryFixApplyPlan
  cases node.state
  · cases child <;> rfl
  · rfl

theorem handleGroup_eq : handleGroup ctx ni pn = Outcome.bind (groupPlan ctx ni pn) (·.run ctx) := by
  unfold handleGroup groupPlan
  cases pn.right
  · rfl
  · simp only [bind_ok, Build.bind_assoc]; rfl

theorem handleSideEffect_eq : handleSideEffect ctx ni pn = visit ctx ni (sideEffectPlan ctx ni pn) := by
  refine congrArg _ (funext fun node => ?_)
  show _ = Outcome.bind (sideEffectPlan ..) _
  unfold sideEffectPlan
  cases node.state
  · cases pn.right <;> rfl
  · rfl

theorem handleNestedExpression_eq (crj : Nat) :
    handleNestedExpression ctx crj ni pn = (nestedPlan ctx ni pn crj).run ctx := by
  unfold handleNestedExpression nestedPlan
  cases pn.right <;> rfl

theorem handleReapply_eq : handleReapply ctx ni pn = visit ctx ni (reapplyPlan ctx ni pn) := by
  refine congrArg _ (funext fun node => ?_)
  show _ = Outcome.bind (unaryPlan ..) _
  unfold unaryPlan
  cases node.state
  · cases pn.right <;> rfl
  · rfl

theorem handleSubexpression_eq : handleSubexpression ctx ni pn = visit ctx ni (subexpressionPlan ctx ni pn) := by
  refine congrArg _ (funext fun node => ?_)
  show _ = Outcome.bind (pairPlan ..) _
  unfold pairPlan
  cases node.state
  · cases pn.right
    · rfl
    · cases pn.left <;> rfl
  · rfl

theorem handleInfixApply_eq : handleInfixApply ctx ni pn = visit ctx ni (infixApplyPlan ctx ni pn) := by
  refine congrArg _ (funext fun node => ?_)
  show _ = Outcome.bind (pairPlan ..) _
  unfold pairPlan
  cases node.state
  · cases pn.right
    · rfl
    · cases pn.left <;> rfl
  · rfl


theorem elseJumpItems_eq (containing jumpToIndex : Nat) : ∀ (items : List ConditionItem) (rs : Array Nat)
    (acc : Array (Nat × BuildNode)), elseJumpItems containing jumpToIndex items rs acc =
      ((items.map (·.nodeIndex)).foldl Array.push rs,
       (items.map fun c => (c.nodeIndex, armNode containing jumpToIndex c)).foldl Array.push acc) := by
  intro items
  induction items with
  | nil => intro rs acc; rfl
  | cons c rest ih => intro rs acc; exact ih _ _

theorem assignNewItems_bind {α : Type} (k : Nodes → Outcome α) : ∀ (l : List (Nat × BuildNode)) (nodes : Nodes),
    Outcome.bind (assignNewItems nodes l) k = setAll nodes (l.map fun q => (q.1, q.2, "build.rs:518")) k := by
  intro l
  induction l with
  | nil => intro nodes; rfl
  | cons q rest ih =>
    intro nodes
    simp only [assignNewItems, Build.bind_assoc, ih]
    rfl

theorem handleElseJump_eq : handleElseJump ctx ni pn = visit ctx ni (elseJumpPlan ctx ni pn) := by
  refine congrArg _ (funext fun node => ?_)
  show _ = Outcome.bind (pairPlan ..) _
  unfold pairPlan
  cases node.state
  · cases pn.right
    · rfl
    · cases pn.left <;> rfl
  · cases node.conditionalParent
    · dsimp only
      split
      · rw [elseJumpItems_eq]
        dsimp only
        rw [assignNewItems_bind, toList_foldl_push]
        show setAll _ (List.map _ (List.map _ _)) _ = _
        rw [List.map_map]
        rfl
      · rfl
    · rfl

end equations

/-- definition, instruction -/
def prefixOps : List (Definition × Instruction) :=
  [(.absoluteValue, .absoluteValue), (.opposite, .opposite), (.bitwiseNot, .bitwiseNot), (.not, .not), (.tis, .tis),
   (.typeOf, .typeOf), (.accessLeftInternal, .accessLeftInternal)]

def suffixOps : List (Definition × Instruction) :=
  [(.emptyApply, .emptyApply), (.accessRightInternal, .accessRightInternal), (.accessLengthInternal, .accessLengthInternal)]

/-- definition, instruction, whether the left operand is pushed first on `stack`: `true` for Pair / ApplyTo only, whose RIGHT
operand is therefore evaluated first (`layout`: `rln`) -/
def binaryOps : List (Definition × Instruction × Bool) :=
  [(.addition, .add, false), (.subtraction, .subtract, false), (.multiplicationSign, .multiply, false),
   (.division, .divide, false), (.access, .access, false), (.range, .makeRange, false),
   (.startExclusiveRange, .makeStartExclusiveRange, false), (.endExclusiveRange, .makeEndExclusiveRange, false),
   (.exclusiveRange, .makeExclusiveRange, false), (.exponentialSign, .power, false), (.remainder, .remainder, false),
   (.integerDivision, .integerDivide, false), (.bitwiseAnd, .bitwiseAnd, false), (.bitwiseOr, .bitwiseOr, false),
   (.bitwiseXor, .bitwiseXor, false), (.bitwiseRightShift, .bitwiseShiftRight, false),
   (.bitwiseLeftShift, .bitwiseShiftLeft, false), (.xor, .xor, false), (.typeEqual, .typeEqual, false),
   (.typeCast, .applyType, false), (.equality, .equal, false), (.inequality, .notEqual, false),
   (.lessThan, .lessThan, false), (.lessThanOrEqual, .lessThanOrEqual, false), (.greaterThan, .greaterThan, false),
   (.greaterThanOrEqual, .greaterThanOrEqual, false), (.apply, .apply, false), (.partialApply, .partialApply, false),
   (.concatenation, .concat, false), (.pair, .makePair, true), (.applyTo, .apply, true)]

def logicalOps : List (Definition × Instruction) := [(.or, .or), (.and, .and)]

def jumpIfOps : List (Definition × Instruction) := [(.jumpIfFalse, .jumpIfFalse), (.jumpIfTrue, .jumpIfTrue)]

/-- the literal definitions with the closure that adds their constant -/
inductive LitArm (pf : List Char → Option F) (pn : ParseNode) : (BState F → ParseNode → Outcome (BState F × Nat)) → Prop
  | unit : pn.definition = .unit → LitArm pf pn addUnit
  | false : pn.definition = .false → LitArm pf pn addFalse
  | true : pn.definition = .true → LitArm pf pn addTrue
  | number : pn.definition = .number → LitArm pf pn (parseAddNumber pf)
  | charList : pn.definition = .charList → LitArm pf pn (parseAddCharList pf)
  | byteList : pn.definition = .byteList → LitArm pf pn (parseAddByteList pf)
  | symbol : pn.definition = .symbol → LitArm pf pn parseAddSymbolLiteral

/-- the other definitions handled by `handle_value_like`, with closure and instruction -/
inductive ValueArm (pn : ParseNode) : AddFn F → Instruction → Prop
  | value : pn.definition = .value → ValueArm pn (fun data _ => .ok (data, none)) .putValue
  | identifier : pn.definition = .identifier → ValueArm pn parseAddSymbolText .resolve
  | property : pn.definition = .property → ValueArm pn parseAddSymbolText .put
  | terminator : pn.definition = .expressionTerminator → ValueArm pn (fun data _ => .ok (data, none)) .endExpression

theorem handleParseNode_cases (pf : List Char → Option F) (ctx : Ctx F) (crj ni : Nat) (pn : ParseNode)
    {motive : Outcome (Ctx F) → Prop}
    (lit : ∀ addFn, LitArm pf pn addFn → motive (handleValuePrimitive addFn ctx ni pn))
    (value : ∀ addFn ins, ValueArm pn addFn ins → motive (handleValueLike addFn ins ctx ni pn))
    (pre : ∀ ins, (pn.definition, ins) ∈ prefixOps → motive (handleUnaryPrefix ins ctx ni pn))
    (suf : ∀ ins, (pn.definition, ins) ∈ suffixOps → motive (handleUnarySuffix ins ctx ni pn))
    (bin : ∀ ins lr, (pn.definition, ins, lr) ∈ binaryOps → motive (handleBinaryOperationWithPush ins lr ctx ni pn))
    (list : pn.definition = .commaList ∨ pn.definition = .list → motive (handleList ctx ni pn))
    (logical : ∀ ins, (pn.definition, ins) ∈ logicalOps → motive (handleLogicalBinary ins ctx ni pn))
    (group : pn.definition = .group → motive (handleGroup ctx ni pn))
    (sideEffect : pn.definition = .sideEffect → motive (handleSideEffect ctx ni pn))
    (nested : pn.definition = .nestedExpression → motive (handleNestedExpression ctx crj ni pn))
    (jumpIf : ∀ ins, (pn.definition, ins) ∈ jumpIfOps → motive (handleJumpIf ins ctx ni pn))
    (elseJump : pn.definition = .elseJump → motive (handleElseJump ctx ni pn))
    (reapply : pn.definition = .reapply → motive (handleReapply ctx ni pn))
    (sub : pn.definition = .subexpression ∨ pn.definition = .expressionSeparator → motive (handleSubexpression ctx ni pn))
    (fixApply : ∀ child, pn.definition = .suffixApply ∧ child = pn.left ∨ pn.definition = .prefixApply ∧ child = pn.right →
      motive (handleUnaryFixApply child ctx ni pn))
    (infixApply : pn.definition = .infixApply → motive (handleInfixApply ctx ni pn))
    (drop : pn.definition = .drop → motive buildErr) :
    motive (handleParseNode pf ctx crj ni pn) := by
  unfold handleParseNode
  split
  -- the arms in the order of the `match`
  iterate 7 exact lit _ (by constructor; assumption)
  iterate 4 exact value _ _ (by constructor; assumption)
  iterate 7 exact pre _ (by rename_i hd; rw [hd]; decide)
  iterate 3 exact suf _ (by rename_i hd; rw [hd]; decide)
  iterate 31 exact bin _ _ (by rename_i hd; rw [hd]; decide)
  iterate 2 exact list (by rename_i hd; simp [hd])
  iterate 2 exact logical _ (by rename_i hd; rw [hd]; decide)
  · exact group ‹_›
  · exact sideEffect ‹_›
  · exact nested ‹_›
  iterate 2 exact jumpIf _ (by rename_i hd; rw [hd]; decide)
  · exact elseJump ‹_›
  · exact reapply ‹_›
  iterate 2 exact sub (by rename_i hd; simp [hd])
  iterate 2 exact fixApply _ (by rename_i hd; simp [hd])
  · exact infixApply ‹_›
  · exact drop ‹_›

end Garnish.Lemmas.BuildPlan
