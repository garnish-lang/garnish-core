/-
The roots that the layout loop lays out have pairwise distinct jump entries — for every program (`emit` gives every root
it pushes a jump entry of its own): the invariant `NInv` of the loop; `compileState_distinct` (Lemmas/CompileInto.lean)
reads the conclusion off it.
-/
import Garnish.Lemmas.CompileDepthLoop
namespace Garnish.Abs
open Garnish Gen Garnish.Spec

variable {F : Type}

def pats (l : List (Root F)) : List Nat := l.map (·.patch)

/-- the roots a stretch pushes have placeholders of their own (`hn`: `out_nodup`), allocated above those of the roots
pending before (`RootNew`'s slot); so have the arm placeholders `idx` of an else-chain being emitted -/
theorem Wrote.nodup_idx {cur : Nat} {s s' : LState F} {o : Out F} {idx : List Nat} (h : Wrote s s' o) (hp : PendOK s)
    (hr : RootsNew cur s.pos o) (hi : ∀ j ∈ idx, s.jumps.size ≤ j) (hn : (o.pats ++ idx).Nodup)
    (hs : (pats s.pending).Nodup) : (pats s'.pending ++ idx).Nodup := by
  have e : pats s'.pending = o.pats ++ pats s.pending := by rw [h.pending]; simp [pats, Out.pats]
  rw [e, List.append_assoc]
  refine (List.perm_append_comm.append_left _).nodup_iff.1 ?_
  rw [← List.append_assoc]
  refine nodup_sep (m := s.jumps.size) hn hs (fun x hx => ?_) (fun x hx => ?_)
  · exact (List.mem_append.1 hx).elim (fun hx => (hr.pats_lt x hx).1) (hi x)
  · obtain ⟨q, hq, rfl⟩ := List.mem_map.1 hx
    exact hp q hq

theorem Wrote.nodup {cur : Nat} {s s' : LState F} {o : Out F} (h : Wrote s s' o) (hp : PendOK s) (hr : RootsNew cur s.pos o)
    (hn : o.pats.Nodup) (hs : (pats s.pending).Nodup) : (pats s'.pending).Nodup := by
  simpa using h.nodup_idx (idx := []) hp hr (fun _ h => by cases h) (by simpa using hn) hs

theorem emit_nodup (root cur : Nat) (e : Expr F) (s : LState F) (hp : PendOK s) (h : (pats s.pending).Nodup) :
    (pats (emit root cur e s).pending).Nodup :=
  (emit_wrote root cur e s).nodup hp (out_roots cur e _) (out_nodup cur e _) h

theorem emitList_nodup (root cur : Nat) : ∀ (items : List (Expr F)) (s : LState F), cur < s.jumps.size → PendOK s →
    (pats s.pending).Nodup → (pats (emitList root cur items s).pending).Nodup :=
  fun items s _ hp h => (emitList_wrote root cur items s).nodup hp (outList_roots cur items _) (outList_nodup cur items _) h

theorem emitArms_nodup (root cur : Nat) : ∀ (arms : List (Bool × Expr F × Expr F)) (s : LState F), cur < s.jumps.size →
    PendOK s → (pats s.pending).Nodup →
    (pats (emitArms root cur arms s).1.pending ++ (emitArms root cur arms s).2.map (·.2)).Nodup := by
  intro arms s _ hp h
  obtain ⟨hw, he⟩ := emitArms_wrote root cur arms s
  obtain ⟨hr, hi⟩ := outArms_roots cur arms s.pos
  rw [he]
  refine hw.nodup_idx hp hr (fun j hj => ?_) (outArms_nodup cur arms _) h
  obtain ⟨it, hit, rfl⟩ := List.mem_map.1 hj
  exact (hi it hit).lt.1

section loop
variable (bodies : List (Nat × Expr F))

/-- the jump entries of the roots pending and laid out are pairwise distinct and allocated -/
structure NInv (s : LState F) : Prop where
  nodup : (pats (s.pending ++ s.done)).Nodup
  done : ∀ q ∈ s.done, q.patch < s.jumps.size

theorem layoutRoot_ninv {s : LState F} {r : Root F} {rest : List (Root F)} (inv : Inv s) (n : NInv s) (hp : s.pending = r :: rest) :
    NInv (layoutRoot bodies r { s with pending := rest }) := by
  have hr_mem : r ∈ s.pending := by rw [hp]; exact List.mem_cons_self
  obtain ⟨s1, s2, st, he⟩ := layoutRoot_anatomy bodies (rest := rest) (inv.cont r hr_mem)
  rw [he]
  have s1_jsize := st.jsize
  have hp1 : PendOK s1 := (st.inv inv hp).pend
  have hn0 := n.nodup
  rw [hp, pats, List.map_append, List.map_cons, List.nodup_append] at hn0
  obtain ⟨hn1, hn2, hn3⟩ := hn0
  have hrestN : (pats s1.pending).Nodup := by rw [st.pending]; exact (List.nodup_cons.1 hn1).2
  have hn2' : (pats s2.pending).Nodup := by
    rw [st.body]
    simp only [bodyState]
    cases rootBody bodies r with
    | none => exact hrestN
    | some b => exact emit_nodup r.patch r.containing b s1 hp1 hrestN
  have p12 := st.pre
  have p1' := st.pre'
  have hpend := (addTerms_pending s.instrs.size s2.instrs.back? r.term s2).1
  -- `r` goes from pending to done; a root pending after the step was pending before (distinct from the others by `n`) or
  -- is new, and then its placeholder is a jump entry allocated by this step (`Pre.pend`): above that of `r` and of the roots done
  refine ⟨?_, fun q hq => ?_⟩
  · rw [hpend, p1'.done, st.done, pats, List.map_append, List.nodup_append]
    refine ⟨hn2', ?_, fun a ha b hb => ?_⟩
    · rw [List.map_cons, List.nodup_cons]
      refine ⟨fun hm => ?_, hn2⟩
      exact hn3 r.patch (by simp) r.patch hm rfl
    · obtain ⟨q, hq, rfl⟩ := List.mem_map.1 ha
      simp only [List.map_cons, List.mem_cons] at hb
      rcases p12.pend q hq with h' | ⟨h', _⟩
      · rw [st.pending] at h'
        rcases hb with rfl | hb
        · intro e
          have := (List.nodup_cons.1 hn1).1
          exact this (List.mem_map.2 ⟨q, h', e⟩)
        · exact hn3 q.patch (by simp only [List.map_cons, List.mem_cons]; exact .inr (List.mem_map.2 ⟨q, h', rfl⟩)) b hb
      · rcases hb with rfl | hb
        · have := inv.pend r hr_mem; omega
        · obtain ⟨q', hq', rfl⟩ := List.mem_map.1 hb
          have := n.done q' hq'; omega
  · rw [p1'.done, st.done] at hq
    have := p1'.jsize
    simp only [List.mem_cons] at hq
    rcases hq with rfl | hq
    · have := inv.pend q hr_mem; omega
    · have := n.done q hq; omega

theorem layoutRoots_ninv (fuel : Nat) (s : LState F) (inv : Inv s) (n : NInv s) : NInv (layoutRoots bodies fuel s) :=
  layoutRoots_rule bodies (fun inv' n' hp => layoutRoot_ninv bodies inv' n' hp) fuel s inv n

end loop

end Garnish.Abs
