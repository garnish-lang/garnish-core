/-
`WFq` is kept by the operations that append cells or move a head: the public `add_*` value constructors, text and
byte lists, lists, symbol names and symbol lists, the register / input-value / frame stacks, the retention count.
Those that append cells follow from the description of the appended cells (Lemmas/OptimizeOps.lean, OptimizeList.lean)
by `WFq.appended` (`push_value_stack`: `WFq.appended_chain`, the new cell continues the chain); pops go through
`WFq.withHeads`, the retention count and the symbol table field by field.
-/
import Garnish.Lemmas.MutWF
import Garnish.Lemmas.OptimizeList
namespace Garnish.BasicOpt
open Garnish

theorem push_solo_wfq {s s' : Store} {c : Cell} {i : Nat} {sh : Shape} (hwf : WFq s) (hso : soloShape c = some sh)
    (hns : isSV c = false) (hk : ∀ k ∈ sh.kids, k < s.cells.size ∧ isNode s.cells k = true)
    (hp : s.push c = .ok (s', i)) : WFq s' ∧ i = s.cells.size ∧ isNode s'.cells i = true := by
  obtain ⟨ha, hi, hn⟩ := push_solo_data hwf.base hso hns hk hp
  exact ⟨hwf.appended ha, hi, hn⟩

theorem pushRegister_wfq {s s' : Store} {v : Nat} (hwf : WFq s) (hv : isNode s.cells v = true)
    (h : Store.pushRegister s v = .ok s') : WFq s' :=
  hwf.appended (pushRegister_data hwf.base hv h)

/-- the new cell continues the chain -/
theorem pushValue_wfq {s s' : Store} {v : Nat} (hwf : WFq s) (hv : isNode s.cells v = true)
    (h : Store.pushValue s v = .ok s') : WFq s' := by
  have hvlt : v < s.cells.size := node_lt hv
  simp only [Store.pushValue, Outcome.bind_eq_ok', Outcome.pure_eq_ok_iff] at h
  obtain ⟨⟨s1, i⟩, hp, hs'⟩ := h
  subst hs'
  obtain ⟨c, hpc, hkind⟩ : ∃ c, s.push c = .ok (s1, i) ∧
      ((∃ p, c = .value p v ∧ s.currentValue = some p) ∨ (c = .valueRoot v ∧ s.currentValue = none)) := by
    cases hcur : s.currentValue with
    | none => rw [hcur] at hp; exact ⟨_, hp, Or.inr ⟨rfl, rfl⟩⟩
    | some p => rw [hcur] at hp; exact ⟨_, hp, Or.inl ⟨p, rfl, rfl⟩⟩
  obtain ⟨hi, hc, _⟩ := push_ok hpc
  have hget : s1.cells[s.cells.size]? = some c := by rw [hc]; simp
  have hnew : ∀ {j}, s.cells.size ≤ j → j < s1.cells.size → j = s.cells.size := fun h1 h2 => by
    rw [hc] at h2; simp at h2; omega
  have hprev : ∀ p, s.currentValue = some p → svAt s.cells p = true := fun p hcur => by
    have := hwf.val; rw [hcur] at this; exact this
  have ha : Appended s s1 := by
    rcases hkind with ⟨p, rfl, hcur⟩ | ⟨rfl, _⟩
    · exact (push_solo_appended (sh := ⟨.value 0 0, [], [p, v]⟩) hwf.base rfl (by
        intro k hk
        simp at hk
        rcases hk with rfl | rfl
        · exact ⟨svAt_lt (hprev _ hcur), sv_isNode (hprev _ hcur)⟩
        · exact ⟨hvlt, hv⟩) hpc).1
    · exact (push_solo_appended (sh := ⟨.valueRoot 0, [], [v]⟩) hwf.base rfl
        (by intro k hk; simp at hk; subst hk; exact ⟨hvlt, hv⟩) hpc).1
  have hw1 : WFq s1 := hwf.appended_chain ha fun j p' v' hj hcj => by
    rw [hnew hj (lt_of_getElem? hcj), hget] at hcj
    rcases hkind with ⟨p, rfl, hcur⟩ | ⟨rfl, _⟩
    · cases hcj
      rw [hc, ← Array.append_singleton, svAt_append _ _ (svAt_lt (hprev _ hcur))]; exact hprev _ hcur
    · cases hcj
  have hsv : isSV c = true := by rcases hkind with ⟨p, rfl, _⟩ | ⟨rfl, _⟩ <;> rfl
  exact hw1.withHeads _ _ _ hw1.reg (by rw [hi]; simp [headSV, svAt, hget, hsv]) hw1.frm

theorem retainAll_wfq {s : Store} (hwf : WFq s) : WFq s.retainAll := by
  refine ⟨Nat.le_refl _, hwf.nodes, hwf.lists, hwf.headers, ?_, hwf.reg, hwf.val, hwf.frm, hwf.syms⟩
  intro i _
  simp [extentOK, Store.retainAll, Store.cursor]

theorem setRetention_wfq {s : Store} {n : Nat} (hwf : WFq s) (hn : n ≤ s.cells.size)
    (hext : ∀ i, i < n → extentOK s.cells n i = true) : WFq (s.setRetention n) :=
  ⟨hn, hwf.nodes, hwf.lists, hwf.headers, hext, hwf.reg, hwf.val, hwf.frm, hwf.syms⟩

theorem popRegister_wfq {s s' : Store} {r : Option Nat} (hwf : WFq s) (h : Store.popRegister s = .ok (s', r)) :
    WFq s' ∧ (∀ v, r = some v → isNode s'.cells v = true) := by
  obtain ⟨g, rfl, hg, hr⟩ := popRegister_heads hwf.base h
  exact ⟨hwf.withHeads g _ _ hg hwf.val hwf.frm, hr⟩

/-- the head moves down the chain -/
theorem popValue_wfq {s : Store} (hwf : WFq s) :
    WFq (Store.popValue s).1 ∧ (∀ v, (Store.popValue s).2 = some v → isNode s.cells v = true) := by
  unfold Store.popValue
  cases hcur : s.currentValue with
  | none => exact ⟨hwf, fun v hv => by cases hv⟩
  | some i =>
    simp only
    cases hc : s.cells[i]? with
    | none => exact ⟨hwf, fun v hv => by cases hv⟩
    | some c =>
      cases c <;> simp only [] <;> try exact ⟨hwf, fun v hv => by cases hv⟩
      · rename_i p v
        have hsh : shape s.cells i = some ⟨.value 0 0, [], [p, v]⟩ := shape_of_solo hc rfl
        exact ⟨hwf.withHeads _ _ _ hwf.reg (hwf.chain i p v hc).2 hwf.frm,
          fun v' hv' => by cases hv'; exact hwf.kid_node hsh (by simp)⟩
      · rename_i v
        have hsh : shape s.cells i = some ⟨.valueRoot 0, [], [v]⟩ := shape_of_solo hc rfl
        exact ⟨hwf.withHeads _ _ _ hwf.reg rfl hwf.frm, fun v' hv' => by cases hv'; exact hwf.kid_node hsh (by simp)⟩

theorem popFrame_wfq {s s' : Store} {r : Option Nat} (hwf : WFq s) (h : Store.popFrame s = .ok (s', r)) : WFq s' := by
  obtain ⟨g, f, rfl, hg, hf⟩ := popFrame_heads hwf.base h
  exact hwf.withHeads g _ f hg hwf.val hf

theorem inline_block_wfq {s s' : Store} {hdr : Cell} {items : List Cell} (hwf : WFq s)
    (hcells : s'.cells = s.cells ++ (#[hdr] ++ items.toArray)) (hf : SameFrame s s')
    (hkind : (hdr = .charList items.length ∧ ∀ c ∈ items, isChar c = true) ∨
             (hdr = .byteList items.length ∧ ∀ c ∈ items, isByte c = true) ∨
             (hdr = .symbolList items.length ∧ ∀ c ∈ items, isSymPart c = true)) :
    WFq s' ∧ isNode s'.cells s.cells.size = true := by
  obtain ⟨ha, hn⟩ := inline_block_data hwf.base hcells hf hkind
  exact ⟨hwf.appended ha, hn⟩

theorem addInline_wfq {s s' : Store} {hdr : Cell} {items : List Cell} {a : Nat} (hwf : WFq s)
    (hkind : (hdr = .charList items.length ∧ ∀ c ∈ items, isChar c = true) ∨
             (hdr = .byteList items.length ∧ ∀ c ∈ items, isByte c = true))
    (h : Store.addInline s hdr items = .ok (s', a)) : WFq s' ∧ a = s.cells.size ∧ isNode s'.cells a = true := by
  obtain ⟨ha, hi, hn⟩ := addInline_data hwf.base hkind h
  exact ⟨hwf.appended ha, hi, hn⟩

theorem pushFrame_wfq {s s' : Store} {ret : Nat} (hwf : WFq s) (h : Store.pushFrame s ret = .ok s') : WFq s' :=
  hwf.appended (pushFrame_data hwf.base h)

theorem pushSymbol_wfq {s : Store} {sym di : Nat} (hwf : WFq s) (hd : isNode s.cells di = true) :
    WFq (Store.pushSymbol s sym di) := by
  obtain ⟨hcells, hret, hreg, hval, hfrm, hsym⟩ := pushSymbol_spec s sym di
  refine ⟨by rw [hcells, hret]; exact hwf.retLe, by rw [hcells]; exact hwf.nodes, by rw [hcells]; exact hwf.lists,
    by rw [hcells]; exact hwf.headers, by rw [hcells, hret]; exact hwf.extent, by rw [hcells, hreg]; exact hwf.reg,
    by rw [hcells, hval]; exact hwf.val, by rw [hcells, hfrm]; exact hwf.frm, ?_⟩
  intro c hc
  rw [hcells]
  rcases hsym c hc with h | rfl
  · exact hwf.syms c h
  · simpa [symOK] using hd

theorem parseAddSymbol_wfq {s s' : Store} {sym : Nat} {name : List Nat} {a : Nat} (hwf : WFq s)
    (h : Store.parseAddSymbol s sym name = .ok (s', a)) : WFq s' ∧ isNode s'.cells a = true := by
  simp only [Store.parseAddSymbol, Outcome.bind_eq_ok', Outcome.pure_eq_ok_iff, Prod.mk.injEq] at h
  obtain ⟨⟨s1, si⟩, hp, ⟨s2, li⟩, hin, hs', ha⟩ := h
  subst hs'; subst ha
  obtain ⟨hw1, hsi, hn1⟩ := push_solo_wfq (sh := ⟨.symbol sym, [], []⟩) hwf rfl rfl (by intro k hk; simp at hk) hp
  obtain ⟨hw2, hli, hn2⟩ := addInline_wfq hw1 (Or.inl ⟨by simp, by
    intro c hc
    simp only [List.mem_map] at hc
    obtain ⟨x, _, rfl⟩ := hc
    rfl⟩) hin
  refine ⟨pushSymbol_wfq hw2 hn2, ?_⟩
  rw [(pushSymbol_spec s2 sym li).1]
  exact addInline_node hw1.headers hn1 hin

theorem mergeToSymbolList_wfq {s s' : Store} {first second i : Nat} (hwf : WFq s)
    (hn1 : isNode s.cells first = true) (hn2 : isNode s.cells second = true)
    (h : Store.mergeToSymbolList s first second = .ok (s', i)) : WFq s' ∧ isNode s'.cells i = true := by
  obtain ⟨ha, hn⟩ := mergeToSymbolList_data hwf.base hn1 hn2 h
  exact ⟨hwf.appended ha, hn⟩

theorem buildList_wfq {s s' : Store} {items : List Nat} {li : Nat} (hwf : WFq s)
    (hitems : ∀ a ∈ items, isNode s.cells a = true) (h : Store.buildList s items = .ok (s', li)) :
    WFq s' ∧ li = s.cells.size ∧ isNode s'.cells li = true := by
  obtain ⟨ha, hi, hn⟩ := buildList_data hwf.base hitems h
  exact ⟨hwf.appended ha, hi, hn⟩

end Garnish.BasicOpt
