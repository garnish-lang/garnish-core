/-
C04, builder half — evaluation order: every handler call is a `Step` (its arrangement agrees with `layout`, its phase update is the
one of Lemmas/BuildTotalStep.lean), so `FInv` — `SInv`, the side-effect brackets, and `ADone`: a finished node whose definition emits
is attributed — holds through the run; `SeqFacts` is what it gives at the end of a successful `build`.
-/
import Garnish.Lemmas.BuildSeqInv
namespace Garnish.Lemmas.BuildSeq
open Garnish Garnish.Gen Garnish.Model.Parser Garnish.Model.Literals Garnish.Model.Build Garnish.Lemmas.Build
open Garnish.Lemmas.BuildTotal
open Garnish.Lemmas.BuildPlan (armNode)
open Garnish.Lemmas.BuildOrder (Above above_append_left above_append_mem above_append_right above_mem above_irrefl
  above_top_false above_init Attr Moving nm1 nm2 nm3 nmr get_append attr_append)
open Garnish.Lemmas.BuildAttr (emits)

variable {F : Type} {root : Nat} {tree : Array ParseNode} {G : Nat → Prop} {m0 : Nat}

/-- what the order invariant needs to know about the arrangement pushed by a visit -/
structure Conf (tree : Array ParseNode) (ni : Nat) (vni : Phase) (cs suf : List Nat) : Prop where
  hinl : ∀ c, c ∈ cs → ILink tree ni c
  hord : ∀ a b, Ord tree ni a b → a ∈ cs → b ∈ cs ∧ Above suf a b
  hpre : ∀ c, PreC tree ni c → c ∈ cs → vni = .p2 ∧ Above suf c ni
  hpost : ∀ c, PostC tree ni c → c ∈ cs → Above suf ni c

theorem conf_nil (tree : Array ParseNode) (ni : Nat) (vni : Phase) (suf : List Nat) : Conf tree ni vni [] suf :=
  ⟨(fun c hc => by cases hc), (fun a b _ hc => by cases hc), (fun c _ hc => by cases hc), (fun c _ hc => by cases hc)⟩

theorem above_head {v u : Nat} {s2 : List Nat} (h : u ∈ s2) : Above (v :: s2) u v := ⟨[], s2, rfl, h⟩
theorem above_mid {w v u : Nat} {s2 : List Nat} (h : u ∈ s2) : Above (w :: v :: s2) u v := ⟨[w], s2, rfl, h⟩

theorem ilink_iff_csOf {ni : Nat} {pn : ParseNode} (hpn : tree[ni]? = some pn) {ol or_ : Option Nat} (hl : pn.left = ol)
    (hr : pn.right = or_) {k : Lay} (hk : layout pn.definition = k) {c : Nat} : ILink tree ni c ↔ c ∈ csOf k ol or_ := by
  subst hl hr hk
  rw [mem_csOf]
  exact ⟨fun ⟨pn', h1, h2⟩ => by rw [hpn] at h1; cases h1; exact h2, fun h => ⟨pn, hpn, h⟩⟩

theorem conf_layout {ni : Nat} {pn : ParseNode} (hpn : tree[ni]? = some pn) {ol or_ : Option Nat} (hl : pn.left = ol)
    (hr : pn.right = or_) {k : Lay} (hk : layout pn.definition = k) (vni : Phase) (hvk : k ≠ .gr → vni = .p2) :
    Conf tree ni vni (csOf k ol or_) (sufOf k ni ol or_) := by
  refine ⟨fun c hc => (ilink_iff_csOf hpn hl hr hk).2 hc, fun a b hab _ => ?_, fun c hc _ => ?_, fun c hc _ => ?_⟩
  · obtain ⟨pn', L, R, h1, h2, h3, h4⟩ := hab
    rw [hpn] at h1; cases h1
    rw [hl] at h2; rw [hr] at h3
    subst h2; subst h3
    rw [hk] at h4
    rcases h4 with ⟨hk', ha', hb'⟩ | ⟨hk', ha', hb'⟩
    · subst hk'; subst ha'; subst hb'
      exact ⟨by simp [csOf], above_mid (by simp)⟩
    · subst ha'; subst hb'
      rcases hk' with hk' | hk' <;> subst hk'
      · exact ⟨by simp [csOf], above_mid (by simp)⟩
      · exact ⟨by simp [csOf], above_head (by simp)⟩
  · obtain ⟨pn', h1, h2⟩ := hc
    rw [hpn] at h1; cases h1
    rw [hk, hl, hr] at h2
    have hg : k ≠ .gr := by
      intro e; subst e
      rcases h2 with ⟨_, h⟩ | ⟨_, h⟩ <;> simp [inlL, preR] at h
    refine ⟨hvk hg, ?_⟩
    cases k <;> cases ol <;> cases or_ <;> simp [inlL, preR] at h2 <;> simp [sufOf] <;>
      first
        | (subst h2; first | exact above_head (by simp) | exact above_mid (by simp))
        | (rcases h2 with h | h <;> subst h <;> first | exact above_head (by simp) | exact above_mid (by simp))
  · obtain ⟨pn', h1, h2, h3⟩ := hc
    rw [hpn] at h1; cases h1
    rw [hk] at h3; subst h3
    rw [hr] at h2; subst h2
    cases ol <;> simp [sufOf] <;> exact above_head (by simp)

theorem mkStep (V : Validated root tree G) {ph : Nat → Phase} {ctx ctx' : Ctx F} (hinv : Inv root tree G ph ctx)
    {ni : Nat} (hG : G ni) (hph : ph ni = .p1 ∨ ph ni = .p2) {pn : ParseNode} (hpn : tree[ni]? = some pn)
    {M M' : Array (Option Nat)}
    (vni : Phase) (hv : vni = .p2 ∨ vni = .p3) (hv2 : vni = .p2 → ph ni = .p1)
    (cs rs suf : List Nat) (asg : List (Nat × BuildNode)) (l : List (Option Nat))
    (hS : ctx'.stack.toList = ctx.stack.toList ++ suf) (hN : ctx'.nodes = assign ctx.nodes asg)
    (hM : M'.toList = M.toList ++ l) (hl : ∀ m, m ∈ l → m = none ∨ m = some ni)
    (hsufni : vni = .p2 → ni ∈ suf) (hsufcs : ∀ c, c ∈ cs → c ∈ suf)
    (hnodup' : ctx'.stack.toList.Nodup)
    (hcr : (cs ++ rs).Nodup)
    (hchild : ∀ c, c ∈ cs ++ rs → IsChild tree ni c ∧ (LateRight tree ni c → vni = .p3) ∧ (ph ni = .p2 → LateRight tree ni c))
    (hasgkeys : ∀ q, q ∈ asg → q.1 = ni ∨ (q.1 ∈ cs ++ rs ∧ q.2.state = .uninitialized))
    (hasgall : ∀ c, c ∈ cs ++ rs → ∃ b, (c, b) ∈ asg)
    (hcs1 : cs ≠ [] → ph ni = .p1) (conf : Conf tree ni vni cs suf)
    (hattr : some ni ∈ l → vni = .p3 ∨ pn.definition = .sideEffect) (hse : pn.definition = .sideEffect → some ni ∈ l)
    (hool : ∀ c, c ∈ rs → OolChild tree ni c) :
    Step root tree G ph (stepPhase ph ni vni cs rs) ctx ctx' ni pn vni cs rs suf l M M' := by
  have hfr := children_fresh V hinv hG hph (cs ++ rs) hchild
  have hdisj : ∀ c, c ∈ cs → c ∉ rs := fun c hc hr => (List.nodup_append.1 hcr).2.2 c hc c hr rfl
  refine ⟨V, hinv, hG, hph, hpn, hv, hv2, stepPhase_ni, fun c hc => stepPhase_cs hc (hfr c (List.mem_append_left _ hc)).2.2.1,
    ?_, fun x hxn hx => stepPhase_other hxn hx, hS, hM, hl, hsufni, hsufcs, hnodup',
    (fun c hc => ⟨(hfr c (List.mem_append_left _ hc)).1, (hfr c (List.mem_append_left _ hc)).2.2.1,
      (hfr c (List.mem_append_left _ hc)).2.2.2⟩),
    (fun c hc => ⟨Or.inl (hfr c (List.mem_append_right _ hc)).1, (hfr c (List.mem_append_right _ hc)).2.2.1⟩),
    ?_, hcs1, conf.hinl, conf.hord, conf.hpre, conf.hpost, hattr, hse, fun c hc _ => hool c hc⟩
  · intro c hc
    rw [stepPhase_rs hc (fun hcc => hdisj c hcc hc) (hfr c (List.mem_append_right _ hc)).2.2.1]
    exact ⟨nofun, nofun, nofun⟩
  · intro x bn hx _ hxn
    rw [hN] at hx
    rcases assign_get asg ctx.nodes x _ hx with ⟨b, hb, hvb⟩ | ⟨hold, hno⟩
    · cases hvb
      rcases hasgkeys _ hb with h | ⟨h1, h2⟩
      · exact absurd h hxn
      · exact ⟨fun _ => h2, fun hm => absurd h1 hm⟩
    · refine ⟨fun hm => ?_, fun _ => ⟨bn, hold, rfl⟩⟩
      obtain ⟨b, hb⟩ := hasgall x hm
      exact absurd hb (hno b)

theorem oolR_not_sideEffect {d : Definition} (h : oolR d = true) : d ≠ .sideEffect := by
  intro e; subst e; simp [oolR, isLate] at h

/-- `handle_jump_if`, second visit under a conditional parent -/
theorem mkStep_cond (V : Validated root tree G) {ph : Nat → Phase} {ctx ctx' : Ctx F} (hinv : Inv root tree G ph ctx)
    {ni : Nat} (hG : G ni) (hph : ph ni = .p1 ∨ ph ni = .p2) {pn : ParseNode} (hpn : tree[ni]? = some pn)
    {M M' : Array (Option Nat)} (hnd : (ctx.stack.toList ++ [ni]).Nodup)
    {r : Nat} (hr : pn.right = some r) (hlate : isLate pn.definition = true)
    {cp : Nat} {parent : BuildNode} (hcp : ctx.nodes[cp]? = some (some parent)) (item : ConditionItem)
    (l : List (Option Nat)) (hS : ctx'.stack = ctx.stack)
    (hN : ctx'.nodes = putNode ctx.nodes cp { parent with conditionalItems := parent.conditionalItems.push item })
    (hM : M'.toList = M.toList ++ l) (hl : ∀ m, m ∈ l → m = none ∨ m = some ni) :
    Step root tree G ph (condPhase ph ni r cp) ctx ctx' ni pn .p3 [] [r] [] l M M' := by
  obtain ⟨hr0, _, hrn, _⟩ := children_fresh V hinv hG hph (vni := .p3) [r]
    (List.forall_mem_singleton.2 ⟨⟨pn, hpn, .inr hr⟩, fun _ => rfl, fun _ => ⟨pn, hpn, hr, hlate⟩⟩) r (List.mem_singleton_self r)
  have hool : oolR pn.definition = true := by simp [oolR, hlate]
  have hc := conf_nil tree ni .p3 []
  obtain ⟨ps, hni', hr'⟩ := condPhase_phaseStep (cp := cp) hph hr0 hrn
  refine ⟨V, hinv, hG, hph, hpn, Or.inr rfl, (fun h => by cases h), hni', (fun c hc => by cases hc),
    List.forall_mem_singleton.2 (by rw [hr']; exact ⟨nofun, nofun, nofun⟩), ps.other,
    by rw [hS]; simp, hM, hl, (fun h => by cases h), (fun c hc => by cases hc), by rw [hS]; exact (List.nodup_append.1 hnd).1,
    (fun c hc => by cases hc), ?_, ?_, (fun h => absurd rfl h), hc.hinl, hc.hord, hc.hpre, hc.hpost, (fun _ => Or.inl rfl),
    (fun h => absurd h (oolR_not_sideEffect hool)), ?_⟩
  · intro c hc
    have : c = r := by simpa using hc
    subst this
    exact ⟨Or.inl hr0, hrn⟩
  · intro x bn hx hxp hxn
    refine ⟨fun hm => ?_, fun hm => ?_⟩
    · have : x = r := by simpa using hm
      subst this
      rw [hr'] at hxp; rcases hxp with h | h <;> cases h
    · rcases get_putNode_some (hN ▸ hx) with ⟨rfl, rfl⟩ | ⟨_, hx⟩
      · exact ⟨parent, hcp, rfl⟩
      · exact ⟨bn, hx, rfl⟩
  · intro c hc _
    have : c = r := by simpa using hc
    subst this
    exact ⟨pn, hpn, hr, hool⟩

/-- the head of an else-chain releases its arms -/
theorem mkStep_else (V : Validated root tree G) {ph : Nat → Phase} {ctx ctx' : Ctx F} (hinv : Inv root tree G ph ctx)
    {ni : Nat} (hG : G ni) (hph : ph ni = .p1 ∨ ph ni = .p2) {pn : ParseNode} (hpn : tree[ni]? = some pn)
    (hnse : pn.definition ≠ .sideEffect)
    {M M' : Array (Option Nat)} (hnd : (ctx.stack.toList ++ [ni]).Nodup)
    {node : BuildNode} (hnode : ctx.nodes[ni]? = some (some node)) (containing jumpToIndex : Nat)
    (l : List (Option Nat)) (hS : ctx'.stack = ctx.stack)
    (hN : ctx'.nodes = assign ctx.nodes (node.conditionalItems.toList.map fun it => (it.nodeIndex, armNode containing jumpToIndex it)))
    (hM : M'.toList = M.toList ++ l) (hl : ∀ m, m ∈ l → m = none ∨ m = some ni) :
    Step root tree G ph (elsePhase ph ni (node.conditionalItems.toList.map (·.nodeIndex))) ctx ctx' ni pn .p3 []
      (node.conditionalItems.toList.map (·.nodeIndex)) [] l M M' := by
  have hni3 : ph ni ≠ .p3 := Act.ne3 hph
  have hidx : ∀ x, x ∈ node.conditionalItems.toList.map (·.nodeIndex) → ph x = .pc ni ∧ x ≠ ni := by
    intro x hx
    obtain ⟨it, hit, hxe⟩ := List.mem_map.1 hx
    subst hxe
    have := (hinv.items ni node hnode hni3 it hit).2
    refine ⟨this, fun e => ?_⟩
    rw [e] at this
    rcases hph with h1 | h1 <;> rw [h1] at this <;> cases this
  have hc := conf_nil tree ni .p3 []
  obtain ⟨ps, hni', hpr⟩ := elsePhase_phaseStep hph fun x hx => (hidx x hx).1
  refine ⟨V, hinv, hG, hph, hpn, Or.inr rfl, (fun h => by cases h), hni', (fun c hc => by cases hc),
    fun c hc => by rw [hpr c hc]; exact ⟨nofun, nofun, nofun⟩, ps.other,
    by rw [hS]; simp, hM, hl, (fun h => by cases h), (fun c hc => by cases hc), by rw [hS]; exact (List.nodup_append.1 hnd).1,
    (fun c hc => by cases hc), ?_, ?_, (fun h => absurd rfl h), hc.hinl, hc.hord, hc.hpre, hc.hpost, (fun _ => Or.inl rfl),
    (fun h => absurd h hnse), ?_⟩
  · intro c hc
    exact ⟨Or.inr ⟨ni, (hidx c hc).1⟩, (hidx c hc).2⟩
  · intro x bn hx _ hxn
    rw [hN] at hx
    rcases assign_get _ ctx.nodes x _ hx with ⟨b, hb, hvb⟩ | ⟨hold, hno⟩
    · cases hvb
      obtain ⟨it, hit, he⟩ := List.mem_map.1 hb
      simp only [Prod.mk.injEq] at he
      obtain ⟨h1, h2⟩ := he
      refine ⟨fun _ => by rw [← h2]; rfl, fun hm => ?_⟩
      exact absurd (by simpa using List.mem_map.2 ⟨it, hit, h1⟩) hm
    · refine ⟨fun hm => ?_, fun _ => ⟨bn, hold, rfl⟩⟩
      have hm' : x ∈ node.conditionalItems.toList.map (·.nodeIndex) := by simpa using hm
      obtain ⟨it, hit, he⟩ := List.mem_map.1 hm'
      subst he
      exact absurd (List.mem_map.2 ⟨it, hit, rfl⟩) (hno (armNode containing jumpToIndex it))
  · intro c hc h0
    rw [(hidx c hc).1] at h0; cases h0

theorem sinv_putNode_same {ph : Nat → Phase} {S : List Nat} {nodes : Nodes} {M : Array (Option Nat)}
    (ho : SInv root tree G m0 ph S nodes M) {i : Nat} {bn bn' : BuildNode} (hb : nodes[i]? = some (some bn))
    (hs : bn'.state = bn.state) : SInv root tree G m0 ph S (putNode nodes i bn') M := by
  obtain ⟨h1, h2, h3, h4, h5, h6, h7, h8, h9, h10, h11, h12⟩ := ho
  refine ⟨h1, h2, h3, h4, h5, h6, h7, h8, h9, h10, fun x b hx hp => ?_, h12⟩
  rcases get_putNode_some hx with ⟨rfl, rfl⟩ | ⟨_, hx⟩
  · rw [hs]; exact h11 x bn hb hp
  · exact h11 x b hx hp

theorem sinv_meta_none {ph : Nat → Phase} {S : List Nat} {nodes : Nodes} {M M' : Array (Option Nat)}
    (ho : SInv root tree G m0 ph S nodes M) (l : List (Option Nat)) (hM : M'.toList = M.toList ++ l)
    (hl : ∀ m, m ∈ l → m = none) : SInv root tree G m0 ph S nodes M' := by
  have hattr : ∀ x, Attr m0 M' x → Attr m0 M x := by
    intro x h
    rcases attr_append hM h with h1 | h1
    · exact h1
    · have := hl _ h1; cases this
  obtain ⟨h1, h2, h3, h4, h5, h6, h7, h8, h9, h10, h11, h12⟩ := ho
  exact ⟨h1, h2, fun x hx => h3 x (hattr x hx), fun y pn hy hb ha => h4 y pn hy hb (hattr y ha), h5, h6, h7, h8, h9, h10,
    h11, h12.append_none hM hl⟩

theorem binv_meta_none {ph : Nat → Phase} {M M' : Array (Option Nat)} (hb : BInv tree G m0 ph M) (l : List (Option Nat))
    (hM : M'.toList = M.toList ++ l) (hl : ∀ m, m ∈ l → m = none) : BInv tree G m0 ph M' := by
  have hold : ∀ {k : Nat} {x : Nat}, M'[k]? = some (some x) → M[k]? = some (some x) := by
    intro k x h
    rcases get_append hM h with ⟨_, h1⟩ | ⟨_, h1⟩
    · exact h1
    · have := hl _ h1; cases this
  refine ⟨?_, ?_, ?_⟩
  · intro y pn hy hd hyv
    obtain ⟨k, hk, hm⟩ := hb.started y pn hy hd hyv
    exact ⟨k, hk, get_old hM hm⟩
  · intro y pn c x kx hy hpy hd hc hdc hkx hmx
    obtain ⟨ky, h1, h2, h3⟩ := hb.before y pn c x kx hy hpy hd hc hdc hkx (hold hmx)
    exact ⟨ky, h1, h2, get_old hM h3⟩
  · intro y pn c x kx hy hpy hd hc hdc hkx hmx hy3
    obtain ⟨ky, h1, h2⟩ := hb.after y pn c x kx hy hpy hd hc hdc hkx (hold hmx) hy3
    exact ⟨ky, h1, get_old hM h2⟩

/-! ## the outer loop pops a root onto an empty inner work list -/

theorem idesc_ilink (V : Validated root tree G) {y a x : Nat} (hy : G y) (ha : ILink tree y a) (h : IDesc tree a x) :
    ∃ w, G w ∧ ILink tree w x := by
  cases h with
  | refl => exact ⟨y, hy, ha⟩
  | @step w _ h1 h2 => exact ⟨w, idesc_G V (child_facts V hy ha.isChild).1 h1, h2⟩

theorem pop_sinv (V : Validated root tree G) {ph : Nat → Phase} {ctx : Ctx F} (hinv : Inv root tree G ph ctx) {r : Nat}
    (hb : ctx.rootStack.back? = some r) {nodes : Nodes} {M : Array (Option Nat)}
    (ho : SInv root tree G m0 ph [] nodes M) : SInv root tree G m0 (popPhase ph r) [r] nodes M := by
  have hmem : r ∈ ctx.rootStack.toList := by rw [toList_of_back hb]; simp
  obtain ⟨hrG, hrp⟩ := hinv.rootOk r hmem
  have hr' : popPhase ph r r = .p1 := by simp [popPhase]
  have hother : ∀ x, x ≠ r → popPhase ph r x = ph x := by intro x hx; simp [popPhase, hx]
  have hnone : ∀ x, ¬ Act ph x := fun x hx => by have := ho.onStack x hx; cases this
  -- the only active node is r
  have hact : ∀ x, Act (popPhase ph r) x → x = r := by
    intro x hx
    rcases Classical.em (x = r) with e | e
    · exact e
    · rw [Act, hother x e] at hx; exact absurd hx (hnone x)
  have hvis : ∀ x, (popPhase ph r x = .p2 ∨ popPhase ph r x = .p3) → x ≠ r ∧ (ph x = .p2 ∨ ph x = .p3) := by
    intro x hx
    have hxr : x ≠ r := fun e => by subst e; rw [hr'] at hx; rcases hx with h | h <;> cases h
    rw [hother x hxr] at hx; exact ⟨hxr, hx⟩
  -- r is not an in-line child
  have hrnl : ∀ w, G w → ¬ ILink tree w r := fun w hw hl => (ho.inl w r hw hl).1 hrp
  have hnod : ∀ y a, G y → ILink tree y a → ¬ IDesc tree a r := by
    intro y a hy ha hd
    obtain ⟨w, hw, hl⟩ := idesc_ilink V hy ha hd
    exact hrnl w hw hl
  refine ⟨by simp, ?_, ?_, ?_, ?_, ?_, ?_, ?_, ?_, ?_, ?_, ho.ord⟩
  · intro x hx; rw [hact x hx]; simp
  · intro x hx
    have hp := ho.attrVisited x hx
    have hxr : x ≠ r := fun e => by subst e; rw [hrp] at hp; rcases hp with h | h <;> cases h
    rw [hother x hxr]; exact hp
  · intro y pn hy hnse ha
    have hp := ho.attrLast y pn hy hnse ha
    have hyr : y ≠ r := fun e => by subst e; rw [hrp] at hp; cases hp
    rw [hother y hyr]; exact hp
  · intro y c hy hc
    rcases Classical.em (c = r) with e | e
    · subst e; exact absurd hc (hrnl y hy)
    · rw [hother c e]; exact ho.inl y c hy hc
  · intro y a b x hy hord hda hx
    rw [hact x hx] at hda; exact absurd hda (hnod y a hy hord.left)
  · intro y c x hy hc hdc hx
    rw [hact x hx] at hdc; exact absurd hdc (hnod y c hy hc.ilink)
  · intro y c z hy hc hdc hz _
    rw [hact z hz] at hdc; exact absurd hdc (hnod y c hy hc.ilink)
  · intro y c z hy hc hdc hzv
    obtain ⟨_, hzv0⟩ := hvis z hzv
    have h3 := ho.postAfter y c z hy hc hdc hzv0
    have hyr : y ≠ r := fun e => by subst e; rw [hrp] at h3; cases h3
    rw [hother y hyr]; exact h3
  · intro ρ y q x hρ hdy hool hq hdx hx
    have hxr := hact x hx
    subst hxr
    have hyG := idesc_G V hρ hdy
    -- ρ = x, since x is not an in-line child
    have hρx : ρ = x := by
      cases hdx with
      | refl => rfl
      | @step w _ h1 h2 => exact absurd h2 (hrnl w (idesc_G V hρ h1))
    subst hρx
    have hq0 : ph q ≠ .p0 := by
      rcases Classical.em (q = ρ) with e | e
      · subst e; rw [hrp]; intro h; cases h
      · rw [hother q e] at hq; rcases hq with h | h | h <;> rw [h] <;> intro h' <;> cases h'
    have hyv := child_visited V hinv hyG hool.isChild hq0
    have hy0 : ph y ≠ .p0 := by rcases hyv with h | h <;> rw [h] <;> intro h' <;> cases h'
    rcases idesc_climb V hinv hρ hdy hy0 with h | h
    · subst h; rw [hrp] at hyv; rcases hyv with h | h <;> cases h
    · rw [hrp] at h; rcases h with h | h <;> cases h
  · intro x bn hx hxp
    rcases Classical.em (x = r) with e | e
    · subst e; exact ho.uninit x bn hx (Or.inr hrp)
    · rw [hother x e] at hxp; exact ho.uninit x bn hx hxp

theorem pop_binv {ph : Nat → Phase} {r : Nat} (hrp : ph r = .pr) {M : Array (Option Nat)} (hb : BInv tree G m0 ph M) :
    BInv tree G m0 (popPhase ph r) M := by
  have hvis : ∀ x, (popPhase ph r x = .p2 ∨ popPhase ph r x = .p3) → ph x = popPhase ph r x := by
    intro x hx
    rcases Classical.em (x = r) with e | e
    · subst e; simp [popPhase] at hx
    · simp [popPhase, e]
  refine ⟨?_, hb.before, ?_⟩
  · intro y pn hy hd hyv
    exact hb.started y pn hy hd (by rw [hvis y hyv]; exact hyv)
  · intro y pn c x kx hy hpy hd hc hdc hkx hmx hy3
    exact hb.after y pn c x kx hy hpy hd hc hdc hkx hmx (by rw [hvis y (Or.inr hy3)]; exact hy3)

/-- a finished node whose definition emits has an instruction of this build attributed to it -/
def ADone (tree : Array ParseNode) (m0 : Nat) (ph : Nat → Phase) (M : Array (Option Nat)) : Prop :=
  ∀ (x : Nat) (pn : ParseNode), tree[x]? = some pn → emits pn.definition = true → ph x = .p3 → Attr m0 M x

/-- the only node that finishes in a step is the visited one, and its last visit emits -/
theorem step_adone {ph ph' : Nat → Phase} {ctx ctx' : Ctx F} {ni : Nat} {pn : ParseNode} {vni : Phase} {cs rs suf : List Nat}
    {l : List (Option Nat)} {M M' : Array (Option Nat)}
    (st : Step root tree G ph ph' ctx ctx' ni pn vni cs rs suf l M M') (hm0 : m0 ≤ M.size)
    (hemit : vni = .p3 → emits pn.definition = true → some ni ∈ l) (h : ADone tree m0 ph M) :
    ADone tree m0 ph' M' := by
  intro x xn hx he h3
  rcases st.vis' (Or.inr h3) with e | ⟨_, _, hsame⟩
  · subst e
    rw [st.hpn] at hx; cases hx
    obtain ⟨k, hk, hm⟩ := get_new st.hM (hemit (by rw [← st.hni']; exact h3) he)
    exact ⟨k, by omega, hm⟩
  · obtain ⟨k, hk, hm⟩ := h x xn hx he (by rw [← hsame]; exact h3)
    exact ⟨k, hk, get_old st.hM hm⟩

theorem adone_mono {ph ph' : Nat → Phase} {M M' : Array (Option Nat)} {l : List (Option Nat)} (h : ADone tree m0 ph M)
    (hph : ∀ x, ph' x = .p3 → ph x = .p3) (hM : M'.toList = M.toList ++ l) : ADone tree m0 ph' M' := by
  intro x xn hx he h3
  obtain ⟨k, hk, hm⟩ := h x xn hx he (hph x h3)
  exact ⟨k, hk, get_old hM hm⟩

/-- the order invariant with the side-effect brackets and the attribution of the finished nodes -/
def FInv (root : Nat) (tree : Array ParseNode) (G : Nat → Prop) (m0 : Nat) (ph : Nat → Phase) (S : List Nat)
    (nodes : Nodes) (M : Array (Option Nat)) : Prop :=
  SInv root tree G m0 ph S nodes M ∧ BInv tree G m0 ph M ∧ m0 ≤ M.size ∧ ADone tree m0 ph M

theorem step_finv {ph ph' : Nat → Phase} {ctx ctx' : Ctx F} {ni : Nat} {pn : ParseNode} {vni : Phase} {cs rs suf : List Nat}
    {l : List (Option Nat)} {M M' : Array (Option Nat)}
    (st : Step root tree G ph ph' ctx ctx' ni pn vni cs rs suf l M M')
    (hemit : vni = .p3 → emits pn.definition = true → some ni ∈ l)
    (h : FInv root tree G m0 ph (ctx.stack.toList ++ [ni]) ctx.nodes M) :
    FInv root tree G m0 ph' ctx'.stack.toList ctx'.nodes M' := by
  refine ⟨step_sinv st h.1, step_binv st h.1 h.2.2.1 h.2.1, ?_, step_adone st h.2.2.1 hemit h.2.2.2⟩
  have := congrArg List.length st.hM
  simp only [Array.length_toList, List.length_append] at this
  have := h.2.2.1
  omega

theorem finv_putNode_same {ph : Nat → Phase} {S : List Nat} {nodes : Nodes} {M : Array (Option Nat)}
    (ho : FInv root tree G m0 ph S nodes M) {i : Nat} {bn bn' : BuildNode} (hb : nodes[i]? = some (some bn))
    (hs : bn'.state = bn.state) : FInv root tree G m0 ph S (putNode nodes i bn') M :=
  ⟨sinv_putNode_same ho.1 hb hs, ho.2⟩

theorem finv_meta_none {ph : Nat → Phase} {S : List Nat} {nodes : Nodes} {M M' : Array (Option Nat)}
    (ho : FInv root tree G m0 ph S nodes M) (l : List (Option Nat)) (hM : M'.toList = M.toList ++ l)
    (hl : ∀ m, m ∈ l → m = none) : FInv root tree G m0 ph S nodes M' := by
  refine ⟨sinv_meta_none ho.1 l hM hl, binv_meta_none ho.2.1 l hM hl, ?_, adone_mono ho.2.2.2 (fun _ h => h) hM⟩
  have := congrArg List.length hM
  simp only [Array.length_toList, List.length_append] at this
  have := ho.2.2.1
  omega

/-- `y` is a node of the tree: reachable from `root`, or not a `Subexpression` (the only definition that
`validate_parse_tree` allows to stay outside the tree) -/
def InTree (tree : Array ParseNode) (root y : Nat) : Prop :=
  Sub tree root y ∨ ∃ pn, tree[y]? = some pn ∧ pn.definition ≠ .subexpression

theorem inTree_G (V : Validated root tree G) {y : Nat} (h : InTree tree root y) : G y := by
  rcases h with h | ⟨pn, h1, h2⟩
  · exact sub_G V V.rootIn h
  · exact def_G V h1 h2

/-- what a successful build guarantees about the order of the metadata records it appended -/
def SeqFacts (tree : Array ParseNode) (root m0 : Nat) (M : Array (Option Nat)) : Prop :=
  Ordered (Prec tree (InTree tree root)) m0 M ∧
  (∀ (y : Nat) (pn : ParseNode) (c x kx : Nat), InTree tree root y → tree[y]? = some pn → pn.definition = .sideEffect →
    ILink tree y c → IDesc tree c x → m0 ≤ kx → M[kx]? = some (some x) →
    (∃ ky, m0 ≤ ky ∧ ky < kx ∧ M[ky]? = some (some y)) ∧ (∃ ky, kx < ky ∧ M[ky]? = some (some y)))

end Garnish.Lemmas.BuildSeq
