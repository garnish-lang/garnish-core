/-
One clone step of `clone_index_stack`, every arm: links, the list arm, the combined lemma `cloneCell_copy` (the copy
and what else the step appends).
-/
import Garnish.Lemmas.OptimizeShape
namespace Garnish.BasicOpt
open Garnish


theorem cloneCell_shape {s0 : Array Cell} {cur cur2 : Store} {ls le index ni : Nat} {c : Cell} {sh : Shape}
    (hA : ∀ (i : Nat) (c : Cell), s0[i]? = some c → cur.cells[i]? = some c)
    (hc : s0[index]? = some c) (hsh : shape s0 index = some sh)
    (hnl : ∀ n k, c ≠ .list n k)
    (hclone : Store.cloneCell cur ls le index c = .ok (cur2, ni)) :
    (∃ sh', shape cur2.cells ni = some sh' ∧ sh'.label = sh.label ∧ sh'.inl = sh.inl ∧
      AllRel (fun x x' => Store.lookup cur ls le x = .ok x') sh.kids sh'.kids) ∧ Others cur cur2 ni := by
  cases hso : soloShape c with
  | some x =>
    have : sh = x := solo_of_shape hc hso hsh
    subst this
    exact cloneCell_shape_solo hso hclone
  | none =>
    cases c <;> simp only [soloShape] at hso <;> try (simp at hso; done)
    · exact cloneCell_shape_inline hA hc hsh (Or.inr (Or.inr ⟨_, rfl⟩)) hclone
    · exact cloneCell_shape_inline hA hc hsh (Or.inl ⟨_, rfl⟩) hclone
    · exact cloneCell_shape_inline hA hc hsh (Or.inr (Or.inl ⟨_, rfl⟩)) hclone
    · exact absurd rfl (hnl _ _)
    all_goals first
      | (unfold shape at hsh; rw [hc] at hsh; simp at hsh; done)
      | exact cloneCell_shape_frame hA hc hsh (Or.inl ⟨_, _, rfl⟩) hclone
      | exact cloneCell_shape_frame hA hc hsh (Or.inr (Or.inl ⟨_, rfl⟩)) hclone
      | exact cloneCell_shape_frame hA hc hsh (Or.inr (Or.inr (Or.inl ⟨_, rfl⟩))) hclone
      | exact cloneCell_shape_frame hA hc hsh (Or.inr (Or.inr (Or.inr rfl))) hclone

theorem findMap_some {cells : Array Cell} {idx nw : Nat} : ∀ (n lo : Nat), Store.findMap cells idx lo n = some nw →
    ∃ j, lo ≤ j ∧ j < lo + n ∧ cells[j]? = some (.cloneIndexMap idx nw)
  | 0, lo, h => by simp [Store.findMap] at h
  | n + 1, lo, h => by
    simp only [Store.findMap] at h
    split at h
    · rename_i o nw' hcell
      split at h
      · rename_i ho
        simp only [Option.some.injEq] at h
        subst h; subst ho
        exact ⟨lo, Nat.le_refl _, by omega, hcell⟩
      · obtain ⟨j, h1, h2, h3⟩ := findMap_some n (lo + 1) h
        exact ⟨j, by omega, by omega, h3⟩
    · obtain ⟨j, h1, h2, h3⟩ := findMap_some n (lo + 1) h
      exact ⟨j, by omega, by omega, h3⟩

/-- `x ↦ x'` is a link the clone loop has established: retained, or a map entry at a processed position -/
def Link (cur : Store) (lo hi : Nat) (x x' : Nat) : Prop :=
  (x' = x ∧ x < cur.retention) ∨ ∃ j, lo ≤ j ∧ j < hi ∧ cur.cells[j]? = some (.cloneIndexMap x x')

theorem lookupOpt_link {cur : Store} {lo hi x x' : Nat}
    (h : Store.lookupOpt cur (cur.start + lo) (cur.start + hi) x = .ok (some x')) : Link cur lo hi x x' := by
  unfold Store.lookupOpt at h
  split at h
  · simp only [Outcome.ok.injEq, Option.some.injEq] at h
    subst h; exact Or.inl ⟨rfl, by assumption⟩
  · split at h
    · simp at h
    · split at h
      · simp at h
      · simp only [Outcome.ok.injEq] at h
        have e1 : cur.start + lo - cur.start = lo := by omega
        have e2 : cur.start + hi - cur.start = hi := by omega
        rw [e1, e2] at h
        obtain ⟨j, h1, h2, h3⟩ := findMap_some _ _ h
        exact Or.inr ⟨j, h1, by omega, h3⟩

theorem lookup_link {cur : Store} {lo hi x x' : Nat}
    (h : Store.lookup cur (cur.start + lo) (cur.start + hi) x = .ok x') : Link cur lo hi x x' := by
  simp only [Store.lookup, Outcome.bind_eq_ok'] at h
  obtain ⟨o, ho, h2⟩ := h
  cases o with
  | none => simp at h2
  | some v =>
    simp only [Outcome.pure_eq_ok_iff] at h2
    subst h2
    exact lookupOpt_link ho

/-- a link looked up in `cur` or in `cur` with cells appended -/
def LinkVia (cur : Store) (ls le x x' : Nat) : Prop := ∃ st, Ext cur.cells.size cur st ∧ Store.lookup st ls le x = .ok x'

inductive SlotRel (L : Nat → Nat → Prop) : Cell → Cell → Prop where
  | item {x x'} : L x x' → SlotRel L (.listItem x) (.listItem x')
  | assoc {sy x x'} : L x x' → SlotRel L (.associativeItem sy x) (.associativeItem sy x')
  | empty : SlotRel L .empty .empty

theorem SlotRel.imp {L M : Nat → Nat → Prop} (h : ∀ a b, L a b → M a b) {c c' : Cell} :
    SlotRel L c c' → SlotRel M c c'
  | .item hl => .item (h _ _ hl)
  | .assoc hl => .assoc (h _ _ hl)
  | .empty => .empty

theorem SlotRel.side {L : Nat → Nat → Prop} {c c' : Cell} : SlotRel L c c' → SideCell c'
  | .item _ => Or.inl rfl
  | .assoc _ => Or.inl rfl
  | .empty => Or.inr rfl

theorem cloneSlots_spec (ls le : Nat) : ∀ (m : Nat) (s s' : Store) (i : Nat),
    Store.cloneSlots ls le s i m = .ok s' →
      Ext s.cells.size s s' ∧ s'.cells.size = s.cells.size + m ∧ ∀ t, t < m →
        ∃ c', s'.cells[s.cells.size + t]? = some c' ∧ SideCell c' ∧
          (i + t < s.cells.size → ∃ c, s.cells[i + t]? = some c ∧ SlotRel (LinkVia s ls le) c c')
  | 0, s, s', i, h => by
    simp only [Store.cloneSlots, Outcome.ok.injEq] at h
    subst h
    exact ⟨Ext.refl _ _, rfl, fun t ht => by omega⟩
  | m + 1, s, s', i, h => by
    simp only [Store.cloneSlots, Outcome.bind_eq_ok'] at h
    obtain ⟨c, hg, h2⟩ := h
    have hc := get_ok hg
    have tail : ∀ (c' : Cell) (s1 : Store) (i1 : Nat), SlotRel (LinkVia s ls le) c c' → s.push c' = .ok (s1, i1) →
        Store.cloneSlots ls le s1 (i + 1) m = .ok s' →
        Ext s.cells.size s s' ∧ s'.cells.size = s.cells.size + (m + 1) ∧ ∀ t, t < m + 1 →
          ∃ c', s'.cells[s.cells.size + t]? = some c' ∧ SideCell c' ∧
            (i + t < s.cells.size → ∃ c, s.cells[i + t]? = some c ∧ SlotRel (LinkVia s ls le) c c') := by
      intro c' s1 i1 hrel hpush hrest
      obtain ⟨_, hcells, _⟩ := push_ok hpush
      have g1 : Ext s.cells.size s s1 := push_ext _ hpush
      obtain ⟨g2, hsz2, ih⟩ := cloneSlots_spec ls le m s1 s' (i + 1) hrest
      have hsz : s1.cells.size = s.cells.size + 1 := by rw [hcells]; simp
      refine ⟨g1.trans (g2.weaken g1.mono), by omega, ?_⟩
      intro t ht
      cases t with
      | zero =>
        refine ⟨c', ?_, hrel.side, fun _ => ⟨c, by simpa using hc, hrel⟩⟩
        rw [Nat.add_zero, g2.keep _ (by omega) (by omega), hcells]
        simp
      | succ t =>
        obtain ⟨d', hd', hside, hrel'⟩ := ih t (by omega)
        refine ⟨d', ?_, hside, fun hit => ?_⟩
        · have : s.cells.size + (t + 1) = s1.cells.size + t := by omega
          rw [this]; exact hd'
        · obtain ⟨d, hd, hr⟩ := hrel' (by omega)
          refine ⟨d, ?_, SlotRel.imp (fun a b ⟨st, hst, hl⟩ => ⟨st, g1.trans (hst.weaken g1.mono), hl⟩) hr⟩
          rw [← g1.keep _ (by omega) (by omega)]
          have : i + (t + 1) = i + 1 + t := by omega
          rw [this]; exact hd
    split at h2
    · simp only [Outcome.bind_eq_ok'] at h2
      obtain ⟨item', hl, ⟨s1, i1⟩, hpush, hrest⟩ := h2
      exact tail _ s1 i1 (.item ⟨s, Ext.refl _ _, hl⟩) hpush hrest
    · simp only [Outcome.bind_eq_ok'] at h2
      obtain ⟨item', hl, ⟨s1, i1⟩, hpush, hrest⟩ := h2
      exact tail _ s1 i1 (.assoc ⟨s, Ext.refl _ _, hl⟩) hpush hrest
    · simp only [Outcome.bind_eq_ok'] at h2
      obtain ⟨⟨s1, i1⟩, hpush, hrest⟩ := h2
      exact tail _ s1 i1 .empty hpush hrest
    · simp at h2

theorem listItems_build {L : Nat → Nat → Prop} {s0 cells2 : Array Cell} : ∀ (n a b : Nat) (items : List Nat),
    listItems s0 a n = some items →
    (∀ t, t < n → ∀ c, s0[a + t]? = some c → ∃ c', cells2[b + t]? = some c' ∧ SlotRel L c c') →
    ∃ items', listItems cells2 b n = some items' ∧ AllRel L items items'
  | 0, a, b, items, h, _ => by
    simp only [listItems, Option.some.injEq] at h
    subst h
    exact ⟨[], by simp [listItems], .nil⟩
  | n + 1, a, b, items, h, hs => by
    simp only [listItems] at h
    cases hc : s0[a]? with
    | none => simp [hc] at h
    | some c =>
    obtain ⟨c', hc', hrel⟩ := hs 0 (by omega) c hc
    simp only [Nat.add_zero] at hc'
    rw [hc] at h
    cases hrel with
    | item hl =>
      simp only [Option.map_eq_some_iff] at h
      obtain ⟨rest, hrest, rfl⟩ := h
      obtain ⟨rest', hr', hall⟩ := listItems_build n (a + 1) (b + 1) rest hrest (fun t ht d hd => by
        have ea : a + 1 + t = a + (t + 1) := by omega
        have eb : b + 1 + t = b + (t + 1) := by omega
        rw [ea] at hd; rw [eb]
        exact hs (t + 1) (by omega) d hd)
      refine ⟨_ :: rest', ?_, .cons hl hall⟩
      simp only [listItems, hc', hr', Option.map_some]
    | assoc _ => simp at h
    | empty => simp at h

theorem assocItems_build {L : Nat → Nat → Prop} {s0 cells2 : Array Cell} : ∀ (n a b : Nat) (keys : List Cell)
    (targets : List Nat), assocItems s0 a n = some (keys, targets) →
    (∀ t, t < n → ∀ c, s0[a + t]? = some c → ∃ c', cells2[b + t]? = some c' ∧ SlotRel L c c') →
    ∃ targets', assocItems cells2 b n = some (keys, targets') ∧ AllRel L targets targets'
  | 0, a, b, keys, targets, h, _ => by
    simp only [assocItems, Option.some.injEq, Prod.mk.injEq] at h
    obtain ⟨h1, h2⟩ := h
    subst h1; subst h2
    exact ⟨[], by simp [assocItems], .nil⟩
  | n + 1, a, b, keys, targets, h, hs => by
    simp only [assocItems] at h
    cases hc : s0[a]? with
    | none => simp [hc] at h
    | some c =>
    obtain ⟨c', hc', hrel⟩ := hs 0 (by omega) c hc
    simp only [Nat.add_zero] at hc'
    rw [hc] at h
    cases hrel with
    | assoc hl =>
      simp only [Option.map_eq_some_iff] at h
      obtain ⟨⟨ks, js⟩, hrest, heq⟩ := h
      simp only [Prod.mk.injEq] at heq
      obtain ⟨hk, hj⟩ := heq
      subst hk; subst hj
      obtain ⟨rest', hr', hall⟩ := assocItems_build n (a + 1) (b + 1) ks js hrest (fun t ht d hd => by
        have ea : a + 1 + t = a + (t + 1) := by omega
        have eb : b + 1 + t = b + (t + 1) := by omega
        rw [ea] at hd; rw [eb]
        exact hs (t + 1) (by omega) d hd)
      refine ⟨_ :: rest', ?_, .cons hl hall⟩
      simp only [assocItems, hc', hr', Option.map_some]
    | item _ => simp at h
    | empty => simp at h

theorem AllRel.append {α β} {R : α → β → Prop} : ∀ {l1 : List α} {l1' : List β} {l2 : List α} {l2' : List β},
    AllRel R l1 l1' → AllRel R l2 l2' → AllRel R (l1 ++ l2) (l1' ++ l2')
  | _, _, _, _, .nil, h2 => h2
  | _, _, _, _, .cons hab t, h2 => .cons hab (AllRel.append t h2)


theorem assocItems_cell {cells : Array Cell} : ∀ (n a : Nat) (r : List Cell × List Nat), assocItems cells a n = some r →
    ∀ t, t < n → ∃ c, cells[a + t]? = some c
  | 0, _, _, _, t, ht => by omega
  | n + 1, a, r, h, t, ht => by
    simp only [assocItems] at h
    cases hc : cells[a]? with
    | none => simp [hc] at h
    | some c =>
      cases t with
      | zero => exact ⟨c, by simpa using hc⟩
      | succ t =>
        rw [hc] at h
        cases c <;> simp only [] at h <;> try (simp at h; done)
        simp only [Option.map_eq_some_iff] at h
        obtain ⟨rest, hrest, _⟩ := h
        obtain ⟨d, hd⟩ := assocItems_cell n (a + 1) rest hrest t (by omega)
        exact ⟨d, by have : a + (t + 1) = a + 1 + t := by omega
                     rw [this]; exact hd⟩

theorem cloneCell_shape_list {s0 : Array Cell} {cur cur2 : Store} {ls le index ni n k : Nat} {sh : Shape}
    (hA : ∀ (i : Nat) (c : Cell), s0[i]? = some c → cur.cells[i]? = some c)
    (hc : s0[index]? = some (.list n k)) (hsh : shape s0 index = some sh) (hkn : k ≤ n)
    (hclone : Store.cloneCell cur ls le index (.list n k) = .ok (cur2, ni)) :
    (∃ sh', shape cur2.cells ni = some sh' ∧ sh'.label = sh.label ∧ sh'.inl = sh.inl ∧
      AllRel (LinkVia cur ls le) sh.kids sh'.kids) ∧ Others cur cur2 ni := by
  unfold shape at hsh
  rw [hc] at hsh
  simp only at hsh
  split at hsh
  · rename_i items keys targets h1 h2
    simp only [Option.some.injEq] at hsh
    subst hsh
    simp only [Store.cloneCell, Outcome.bind_eq_ok', Outcome.pure_eq_ok_iff, Prod.mk.injEq] at hclone
    obtain ⟨⟨s1, li⟩, hpush, s2, hslots, hs2, hli⟩ := hclone
    subst hs2; subst hli
    obtain ⟨hi, hcells, _⟩ := push_ok hpush
    have g1 : Ext cur.cells.size cur s1 := push_ext _ hpush
    have hsz : s1.cells.size = cur.cells.size + 1 := by rw [hcells]; simp
    obtain ⟨g2, hsz2, spec⟩ := cloneSlots_spec ls le (n * 2) s1 s2 (index + 1) hslots
    have slot : ∀ u, u < n * 2 → ∀ d, s0[index + 1 + u]? = some d →
        ∃ c', s2.cells[li + 1 + u]? = some c' ∧ SlotRel (LinkVia cur ls le) d c' := by
      intro u hu d hd
      have hcur := hA _ d hd
      have hlt : index + 1 + u < cur.cells.size := by
        exact lt_of_getElem? hcur
      obtain ⟨c', e2, _, hrel⟩ := spec u hu
      obtain ⟨c, e1, e3⟩ := hrel (by omega)
      rw [g1.keep _ hlt hlt, hcur] at e1
      simp only [Option.some.injEq] at e1
      subst e1
      refine ⟨c', ?_, SlotRel.imp (fun a b ⟨st, hst, hl⟩ => ⟨st, g1.trans (hst.weaken g1.mono), hl⟩) e3⟩
      have : li + 1 + u = s1.cells.size + u := by omega
      rw [this]; exact e2
    obtain ⟨items', hit, hitrel⟩ := listItems_build n (index + 1) (li + 1) items h1 (fun t ht d hd => slot t (by omega) d hd)
    obtain ⟨targets', htg, htgrel⟩ := assocItems_build k (index + 1 + n) (li + 1 + n) keys targets h2 (fun t ht d hd => by
      have e : index + 1 + n + t = index + 1 + (n + t) := by omega
      have e' : li + 1 + n + t = li + 1 + (n + t) := by omega
      rw [e']
      rw [e] at hd
      exact slot (n + t) (by omega) d hd)
    have hhdr : s2.cells[li]? = some (.list n k) := by
      rw [g2.keep li (by omega) (by omega), hcells, hi]; simp
    refine ⟨⟨⟨.list n k, keys, items' ++ targets'⟩, ?_, rfl, rfl, AllRel.append hitrel htgrel⟩, ?_⟩
    · unfold shape
      rw [hhdr]
      simp only [hit, htg]
    · intro j hj1 hj2 hj3
      obtain ⟨t, rfl⟩ : ∃ t, j = s1.cells.size + t := ⟨j - s1.cells.size, by omega⟩
      obtain ⟨c', e2, hside, _⟩ := spec t (by omega)
      exact ⟨c', e2, hside⟩
  · simp at hsh

/-- lists need `k ≤ n`: the key table lies within the copied slots -/
theorem cloneCell_copy {s0 : Array Cell} {cur cur2 : Store} {ls le index ni : Nat} {c : Cell} {sh : Shape}
    (hA : ∀ (i : Nat) (c : Cell), s0[i]? = some c → cur.cells[i]? = some c)
    (hc : s0[index]? = some c) (hsh : shape s0 index = some sh)
    (hwf : ∀ n k, c = .list n k → k ≤ n)
    (hclone : Store.cloneCell cur ls le index c = .ok (cur2, ni)) :
    (∃ sh', shape cur2.cells ni = some sh' ∧ sh'.label = sh.label ∧ sh'.inl = sh.inl ∧
      AllRel (LinkVia cur ls le) sh.kids sh'.kids) ∧ Others cur cur2 ni := by
  by_cases hl : ∃ n k, c = .list n k
  · obtain ⟨n, k, rfl⟩ := hl
    exact cloneCell_shape_list hA hc hsh (hwf n k rfl) hclone
  · obtain ⟨⟨sh', g1, g2, g3, g4⟩, ho⟩ := cloneCell_shape hA hc hsh (fun n k h => hl ⟨n, k, h⟩) hclone
    exact ⟨⟨sh', g1, g2, g3, AllRel.imp (fun a b hab => ⟨cur, Ext.refl _ _, hab⟩) g4⟩, ho⟩

/-- list headers whose key-table length does not exceed the list length (what `end_list` produces) -/
def ListsWF (cells : Array Cell) : Prop := ∀ (i n k : Nat), cells[i]? = some (.list n k) → k ≤ n

end Garnish.BasicOpt
