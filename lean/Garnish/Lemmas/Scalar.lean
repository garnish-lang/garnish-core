/-
The SCALAR class: values without structure and without text (`scalar`), the instructions that build no container and look nothing
up (`scalarInstr`). Scalars are closed under what those instructions compute (`scalar_closed`), so one step of a program of the scalar
class keeps every value a scalar (`step_scalar`); in a scalar state the residual side condition `DynOK` of every such instruction
holds (`dynOK_of_scalar`): comparisons and equality of scalars need fuel 1 resp. 3, `Apply` on scalars enters a body, asks the host
or defers.
-/
import Garnish.Lemmas.DynOK
import Garnish.Lemmas.DynFree
set_option linter.unusedVariables false
namespace Garnish.Lemmas.Scalar
open Garnish Gen Garnish.Abs

variable {F : Type} (fo : FloatOps F)

def scalar : Val F → Bool
  | .unit | .tru | .fls | .num _ | .char _ | .byte _ | .sym _ | .expr _ | .ext _ | .type _ => true
  | _ => false

def scalarL : List (Val F) → Bool
  | [] => true
  | x :: xs => scalar x && scalarL xs

open Garnish.Lemmas.ValClass

theorem scalarL_iff : ∀ (xs : List (Val F)), scalarL xs = true ↔ ∀ x ∈ xs, scalar x = true
  | [] => by simp [scalarL]
  | x :: xs => by simp [scalarL, scalarL_iff xs]

theorem head_scalar {x : Val F} {xs ys : List (Val F)} (h : scalarL ys = true) (he : ys = x :: xs) :
    scalar x = true ∧ scalarL xs = true := by subst he; simpa [scalarL] using h

theorem scalar_ofBool (b : Bool) : scalar (Val.ofBool b : Val F) = true := by cases b <;> rfl

def scalarInstr : Instruction → Bool
  | .makePair | .makeList | .concat | .partialApply | .makeRange | .makeStartExclusiveRange
  | .makeEndExclusiveRange | .makeExclusiveRange | .access | .resolve | .accessLengthInternal => false
  | _ => true

theorem scalar_numResult (o : Option (Number F)) : scalar (numResult o) = true := by cases o <;> rfl

theorem outScalar_arithUnary (op : Instruction) (nop : NumOp) (v : Val F) :
    OutIn (scalar · = true) (arithUnary fo op nop v) := by
  unfold arithUnary
  split
  · exact scalar_numResult _
  · trivial

theorem outScalar_arithBinary (op : Instruction) (nop : NumOp) (l r : Val F) :
    OutIn (scalar · = true) (arithBinary fo op nop l r) := by
  unfold arithBinary
  split
  · exact scalar_numResult _
  · trivial

theorem outScalar_unaryOp {op : Instruction} {v : Val F} {o : OpOut F} (hop : scalarInstr op = true)
    (hv : scalar v = true) (h : unaryOp fo op v = some o) : OutIn (scalar · = true) o := by
  unfold unaryOp at h
  split at h <;> cases h <;> first
    | (cases hop; done)
    | exact outScalar_arithUnary fo _ _ _
    | exact scalar_ofBool _
    | rfl
    | (cases v <;> first | trivial | (cases hv; done))

theorem scalar_cmpOp (accept : Ordering → Bool) (l r : Val F) : scalar (cmpOp fo accept l r) = true := by
  unfold cmpOp
  split <;> first | exact scalar_ofBool _ | rfl

theorem outScalar_binaryOp {op : Instruction} {l r : Val F} {o : OpOut F} (hop : scalarInstr op = true)
    (h : binaryOp fo op l r = some o) : OutIn (scalar · = true) o := by
  unfold binaryOp at h
  split at h <;> cases h <;> first
    | (cases hop; done)
    | exact outScalar_arithBinary fo _ _ _ _
    | exact scalar_ofBool _
    | exact scalar_cmpOp fo _ _ _
    | (show scalar (typeEqual l r) = true; unfold typeEqual; exact scalar_ofBool _)

theorem applyKind_scalar (instr : Instruction) (ur : Bool) {l r : Val F} (hl : scalar l = true) (hr : scalar r = true) :
    KindIn (scalar · = true) (applyKind fo instr ur l r) := by
  generalize hk : applyKind fo instr ur l r = k
  unfold applyKind at hk
  simp only [] at hk
  split at hk <;> first | (cases hl; done) | (cases hr; done) | (subst hk; first | exact hr | trivial)

theorem scalar_closed : Closed fo (scalar · = true) (scalarInstr · = true) where
  unit := rfl
  tru := rfl
  fls := rfl
  unary hop hv h := outScalar_unaryOp fo hop hv h
  binary hop _ _ h := outScalar_binaryOp fo hop h
  kind instr ur _ _ hl hr := applyKind_scalar fo instr ur hl hr
  pair hop := by cases hop
  list hop := by cases hop
  lookup hop := by cases hop

section
variable {fo : FloatOps F} {host : Host F} {P : Prog F}

structure HostScalar (host : Host F) : Prop where
  defer : ∀ op l r v, host.defer op l r = some v → scalar v = true
  resolve : ∀ y v, host.resolve y = some v → scalar v = true
  apply : ∀ n a v, host.apply n a = some v → scalar v = true

structure ScalarState (m : MState F) : Prop where
  regs : scalarL m.regs = true
  vals : scalarL m.vals = true
  frames : ∀ fr ∈ m.frames, scalarL fr.saved = true

theorem ScalarState.mk' {m : MState F} {regs vals : List (Val F)} {frames : List (Frame F)} (hr : scalarL regs = true)
    (hv : scalarL vals = true) (hf : ∀ fr ∈ frames, scalarL fr.saved = true) (pc : Nat) (tr : List (HostCall F)) :
    ScalarState (⟨pc, regs, vals, frames, tr⟩ : MState F) := ⟨hr, hv, hf⟩

theorem scalarState_iff {m : MState F} : ScalarState m ↔ StateIn (scalar · = true) m :=
  ⟨fun h => ⟨(scalarL_iff _).1 h.regs, (scalarL_iff _).1 h.vals, fun fr hfr => (scalarL_iff _).1 (h.frames fr hfr)⟩,
   fun h => ⟨(scalarL_iff _).2 h.regs, (scalarL_iff _).2 h.vals, fun fr hfr => (scalarL_iff _).2 (h.frames fr hfr)⟩⟩

theorem HostScalar.in (HN : HostScalar host) : HostIn (scalar · = true) host := ⟨HN.defer, HN.resolve, HN.apply⟩

theorem step_scalar (HN : HostScalar host) (hc : ∀ (k : Nat) (v : Val F), P.consts[k]? = some v → scalar v = true)
    (hin : ∀ (pc : Nat) (i : Instruction) (o : Option Nat), P.instrs[pc]? = some (i, o) → scalarInstr i = true)
    {s s' : MState F} (hs : ScalarState s)
    (h : StepTo (Abs.step fo host P s) s') : ScalarState s' :=
  scalarState_iff.2 (step_in (scalar_closed fo) HN.in hc hin (scalarState_iff.1 hs) h)
end

section
open Garnish.Model.Equality Garnish.Model.Runtime Garnish.Lemmas.Runtime
open Garnish.Lemmas.Runtime.On Garnish.Lemmas.NoCustom Garnish.Props.RuntimeRefine
variable {σ : Type}

theorem textLen_scalar {v : Val F} (h : scalar v = true) : textLen v = 0 := by
  cases v <;> first | rfl | (cases h; done)

theorem noSlice_scalar {v : Val F} (h : scalar v = true) : NoSlice v := by
  cases v <;> first | rfl | (cases h; done)

theorem vsize_scalar {v : Val F} (h : scalar v = true) : vsize v = 1 := by
  cases v <;> first | rfl | (cases h; done)

theorem compareDomain_scalar {vl vr : Val F} {fuel : Nat} (hl : scalar vl = true) (hr : scalar vr = true)
    (hf : 1 ≤ fuel) : CompareDomain fo fuel vl vr := by
  refine ⟨by rw [textLen_scalar hl]; omega, by rw [textLen_scalar hr]; omega,
    by rw [textLen_scalar hl, textLen_scalar hr]; simpa using hf, ?_⟩
  apply C12_compareValsR_agrees
  intro lv lr rv rr h1 _ _
  subst h1; cases hl

theorem equalDomain_scalar {vl vr : Val F} {fuel : Nat} (hl : scalar vl = true) (hr : scalar vr = true)
    (hf : 3 ≤ fuel) : EqualDomain fuel vl vr :=
  ⟨noSlice_scalar hl, noSlice_scalar hr, by unfold eqFuel; rw [vsize_scalar hl, vsize_scalar hr]; omega⟩

theorem applyDomain_scalar {vl vr : Val F} {fuel : Nat} (hl : scalar vl = true) (hr : scalar vr = true) :
    ApplyDomain fo fuel vl vr := by
  unfold ApplyDomain
  cases vl <;> first | (cases hl; done) | trivial | (cases vr <;> first | (cases hr; done) | trivial)

theorem applyDyn_scalar (S : RStore F σ) (Inv : σ → Prop) (ur : Bool) {vl vr : Val F} (hl : scalar vl = true)
    (hr : scalar vr = true) : ApplyDyn fo S Inv ur vl vr := by
  unfold ApplyDyn
  cases vl <;> first | (cases hl; done) | trivial | (cases vr <;> first | (cases hr; done) | trivial)

theorem dynOK_of_scalar (S : RStore F σ) (Inv : σ → Prop) (P : Prog F) {fuel : Nat} (hf : 3 ≤ fuel) {m : MState F}
    (hs : ScalarState m) {i : Instruction} (o : Option Nat) (hi : scalarInstr i = true) :
    DynOK fo S Inv P fuel m i o := by
  have two : ∀ vr vl rs, m.regs = vr :: vl :: rs → scalar vr = true ∧ scalar vl = true := fun vr vl rs h =>
    ⟨(head_scalar hs.regs h).1, (head_scalar (head_scalar hs.regs h).2 rfl).1⟩
  unfold DynOK
  split <;> first
    | trivial
    | (cases hi; done)
    | exact fun vr vl rs h => compareDomain_scalar fo (two vr vl rs h).2 (two vr vl rs h).1 (by omega)
    | exact fun vr vl rs h => equalDomain_scalar (two vr vl rs h).2 (two vr vl rs h).1 hf
    | exact fun vr vl rs h => ⟨applyDomain_scalar fo (two vr vl rs h).2 (two vr vl rs h).1,
        applyDyn_scalar fo S Inv true (two vr vl rs h).2 (two vr vl rs h).1⟩
    | exact fun vl rs h => ⟨applyDomain_scalar fo (head_scalar hs.regs h).1 rfl,
        applyDyn_scalar fo S Inv false (head_scalar hs.regs h).1 rfl⟩

theorem nc_of_scalar {v : Val F} (h : scalar v = true) : nc v = true := by
  cases v <;> first | rfl | (cases h; done)

theorem hostNoCustom_of_scalar {host : Host F} (h : HostScalar host) : HostNoCustom host :=
  ⟨fun op l r v hv => nc_of_scalar (h.defer op l r v hv), fun y v hv => nc_of_scalar (h.resolve y v hv),
    fun n a v hv => nc_of_scalar (h.apply n a v hv)⟩

theorem hostScalar_declining : HostScalar (Host.declining : Host F) :=
  ⟨fun _ _ _ _ h => (by cases h), fun _ _ h => (by cases h), fun _ _ _ h => (by cases h)⟩
end

end Garnish.Lemmas.Scalar
