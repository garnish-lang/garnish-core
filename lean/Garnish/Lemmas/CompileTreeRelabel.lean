/-
`Rep` does not depend on how the nested bodies are named: renaming the ids in the program (`rlE`, `rlBodies` of
Lemmas/CompileRelabelEval.lean) leaves the representation relation intact.  This is what lets a source text be built into an
object that already holds other programs: there its bodies are named by the jump entries they get THERE
(`rlProgram (shJ P0) p`), and the same node array represents the renamed program.
-/
import Garnish.Lemmas.CompileTree
import Garnish.Lemmas.CompileRelabelEval
namespace Garnish.Abs.Tree
open Garnish Garnish.Gen Garnish.Spec Garnish.Abs Garnish.Model.Parser Garnish.Model.Literals Garnish.Model.Build

variable {F : Type} {pf : List Char → Option F} {tree : Array ParseNode} {bodies : List (Nat × Expr F)} {ρ : Nat → Nat}

theorem LitRep.rl_eq {pn : ParseNode} {v : Val F} (h : LitRep pf pn v) : Val.rl ρ v = v := by
  cases h <;> rfl

theorem LeafRep.rl_eq {pn : ParseNode} {x : Expr F} (h : LeafRep pf pn x) : rlE ρ x = x := by
  cases h with
  | lit hv => simp only [rlE, LitRep.rl_eq hv]
  | input _ => rfl
  | ident _ => rfl

theorem rlEs_append (a b : List (Expr F)) : rlEs ρ (a ++ b) = rlEs ρ a ++ rlEs ρ b := by
  induction a with
  | nil => rfl
  | cons x xs ih => simp [rlEs, ih]

theorem rlArms_append (a b : List (Bool × Expr F × Expr F)) : rlArms ρ (a ++ b) = rlArms ρ a ++ rlArms ρ b := by
  induction a with
  | nil => rfl
  | cons x xs ih => obtain ⟨t, c, e⟩ := x; simp [rlArms, ih]

theorem rl_all (hρ : ∀ a b, ρ a = ρ b → a = b) :
    (∀ {lo hi i : Nat} {e : Expr F}, Rep pf tree bodies lo hi i e → Rep pf tree (rlBodies ρ bodies) lo hi i (rlE ρ e)) ∧
    (∀ {d : Definition} {lo hi i : Nat} {items : List (Expr F)},
      RepItems pf tree bodies d lo hi i items → RepItems pf tree (rlBodies ρ bodies) d lo hi i (rlEs ρ items)) ∧
    (∀ {lo hi i : Nat} {arms : List (Bool × Expr F × Expr F)},
      RepArms pf tree bodies lo hi i arms → RepArms pf tree (rlBodies ρ bodies) lo hi i (rlArms ρ arms)) ∧
    (∀ {lo hi i : Nat} {t : Bool} {c e : Expr F},
      RepArm pf tree bodies lo hi i t c e → RepArm pf tree (rlBodies ρ bodies) lo hi i t (rlE ρ c) (rlE ρ e)) := by
  let M1 := fun (lo hi i : Nat) (e : Expr F) (_ : Rep pf tree bodies lo hi i e) =>
    Rep pf tree (rlBodies ρ bodies) lo hi i (rlE ρ e)
  let M2 := fun (d : Definition) (lo hi i : Nat) (items : List (Expr F)) (_ : RepItems pf tree bodies d lo hi i items) =>
    RepItems pf tree (rlBodies ρ bodies) d lo hi i (rlEs ρ items)
  let M3 := fun (lo hi i : Nat) (arms : List (Bool × Expr F × Expr F)) (_ : RepArms pf tree bodies lo hi i arms) =>
    RepArms pf tree (rlBodies ρ bodies) lo hi i (rlArms ρ arms)
  let M4 := fun (lo hi i : Nat) (t : Bool) (c e : Expr F) (_ : RepArm pf tree bodies lo hi i t c e) =>
    RepArm pf tree (rlBodies ρ bodies) lo hi i t (rlE ρ c) (rlE ρ e)
  -- the four recursors applied to the same 28 premises, as in `Rep.sim` (Lemmas/CompileTreeBuild.lean), and for the same reason
  refine ⟨@Rep.rec F pf tree bodies M1 M2 M3 M4 ?group ?lit ?input ?ident ?unaryPre ?unarySuf ?binary ?pair ?applyTo ?list ?seq ?reapply ?prefixApply
      ?suffixApply ?infixApply ?side ?nested ?emptyNested ?cond ?and ?or ?chain ?chainNoFinal ?two ?snoc ?one ?more ?mk,
    @RepItems.rec F pf tree bodies M1 M2 M3 M4 ?group ?lit ?input ?ident ?unaryPre ?unarySuf ?binary ?pair ?applyTo ?list ?seq ?reapply ?prefixApply
      ?suffixApply ?infixApply ?side ?nested ?emptyNested ?cond ?and ?or ?chain ?chainNoFinal ?two ?snoc ?one ?more ?mk,
    @RepArms.rec F pf tree bodies M1 M2 M3 M4 ?group ?lit ?input ?ident ?unaryPre ?unarySuf ?binary ?pair ?applyTo ?list ?seq ?reapply ?prefixApply
      ?suffixApply ?infixApply ?side ?nested ?emptyNested ?cond ?and ?or ?chain ?chainNoFinal ?two ?snoc ?one ?more ?mk,
    @RepArm.rec F pf tree bodies M1 M2 M3 M4 ?group ?lit ?input ?ident ?unaryPre ?unarySuf ?binary ?pair ?applyTo ?list ?seq ?reapply ?prefixApply
      ?suffixApply ?infixApply ?side ?nested ?emptyNested ?cond ?and ?or ?chain ?chainNoFinal ?two ?snoc ?one ?more ?mk⟩
  case group => exact fun h hd hr _ ih => .group h hd hr ih
  case lit => exact fun h hl hr hv => by simp only [M1, rlE, LitRep.rl_eq hv]; exact .lit h hl hr hv
  case input => exact fun h hd hl hr => .input h hd hl hr
  case ident => exact fun h hd hl hr => .ident h hd hl hr
  case unaryPre => exact fun h hop hr _ ih => .unaryPre h hop hr ih
  case unarySuf => exact fun h hop hl _ ih => .unarySuf h hop hl ih
  case binary => exact fun h hop hl hr _ _ iha ihb => .binary h hop hl hr iha ihb
  case pair => exact fun h hd hl hr _ _ iha ihb => .pair h hd hl hr iha ihb
  case applyTo => exact fun h hd hl hr _ _ iha ihb => .applyTo h hd hl hr iha ihb
  case list => exact fun hd _ ih => .list hd ih
  case seq => exact fun h hd hl hr _ _ iha ihb => .seq h hd hl hr iha ihb
  case reapply => exact fun h hd hr _ ih => .reapply h hd hr ih
  case prefixApply => exact fun h hd hr _ ih => .prefixApply h hd hr ih
  case suffixApply => exact fun h hd hl _ ih => .suffixApply h hd hl ih
  case infixApply => exact fun h hd hl hr _ _ iha ihb => .infixApply h hd hl hr iha ihb
  case side =>
    exact fun h hl hr hx hps hd hrb _ ih => by simp only [M1, rlE, LeafRep.rl_eq hx]; exact .side h hl hr hx hps hd hrb ih
  case nested => exact fun h hd hr hbody _ ih => .nested h hd hr (by rw [lookupBody_rl hρ, hbody]; rfl) ih
  case emptyNested => exact fun h hd hr => .emptyNested h hd hr
  case cond => exact fun h hd hl hr _ _ iha ihb => .cond h hd hl hr iha ihb
  case and => exact fun h hd hl hr hn _ _ iha ihb => .and h hd hl hr hn iha ihb
  case or => exact fun h hd hl hr hn _ _ iha ihb => .or h hd hl hr hn iha ihb
  case chain => exact fun h hd hl hr _ hn _ iha ihb => .chain h hd hl hr iha hn ihb
  case chainNoFinal =>
    exact fun h hd hl hr _ _ iha ihb => by simp only [M1, rlE, rlArms_append, rlArms]; exact .chainNoFinal h hd hl hr iha ihb
  case two => exact fun h hd hl hr n1 n2 _ _ iha ihb => .two h hd hl hr n1 n2 iha ihb
  case snoc => exact fun h hd hl hr n _ _ iha ihb => by simp only [M2, rlEs_append, rlEs]; exact .snoc h hd hl hr n iha ihb
  case one => exact fun _ ih => .one ih
  case more => exact fun h hd hl hr _ _ iha ihb => by simp only [M3, rlArms_append, rlArms]; exact .more h hd hl hr iha ihb
  case mk => exact fun h hd hl hr _ _ iha ihb => .mk h hd hl hr iha ihb

theorem Rep.rl (hρ : ∀ a b, ρ a = ρ b → a = b) : ∀ {lo hi i : Nat} {e : Expr F}, Rep pf tree bodies lo hi i e →
    Rep pf tree (rlBodies ρ bodies) lo hi i (rlE ρ e) := (rl_all hρ).1
theorem RepItems.rl (hρ : ∀ a b, ρ a = ρ b → a = b) : ∀ {d : Definition} {lo hi i : Nat} {items : List (Expr F)},
    RepItems pf tree bodies d lo hi i items → RepItems pf tree (rlBodies ρ bodies) d lo hi i (rlEs ρ items) := (rl_all hρ).2.1
theorem RepArms.rl (hρ : ∀ a b, ρ a = ρ b → a = b) : ∀ {lo hi i : Nat} {arms : List (Bool × Expr F × Expr F)},
    RepArms pf tree bodies lo hi i arms → RepArms pf tree (rlBodies ρ bodies) lo hi i (rlArms ρ arms) := (rl_all hρ).2.2.1
theorem RepArm.rl (hρ : ∀ a b, ρ a = ρ b → a = b) : ∀ {lo hi i : Nat} {t : Bool} {c e : Expr F},
    RepArm pf tree bodies lo hi i t c e → RepArm pf tree (rlBodies ρ bodies) lo hi i t (rlE ρ c) (rlE ρ e) := (rl_all hρ).2.2.2

end Garnish.Abs.Tree
