/-
C04, builder half — the order of the out-of-line parts: one handler call (`StepL`), the root pop and the neutral updates keep
the invariant `LInv` of Lemmas/BuildLifo4.lean (`stepL_linv`, `pop_linv`).
-/
import Garnish.Lemmas.BuildLifo4
namespace Garnish.Lemmas.BuildSeq
open Garnish Garnish.Gen Garnish.Model.Parser Garnish.Model.Literals Garnish.Model.Build Garnish.Lemmas.Build
open Garnish.Lemmas.BuildTotal
open Garnish.Lemmas.BuildOrder (Above above_append_left above_append_mem above_append_right above_mem above_irrefl
  above_top_false above_init Attr Moving nm1 nm2 nm3 nmr get_append attr_append)

variable {F : Type} {root : Nat} {tree : Array ParseNode} {G : Nat → Prop} {m0 : Nat}
variable {ph ph' : Nat → Phase} {ctx ctx' : Ctx F} {ni : Nat} {pn : ParseNode} {vni : Phase} {cs rs suf rsuf : List Nat}
  {l : List (Option Nat)} {M M' : Array (Option Nat)}

theorem CP.pre : ∀ {x cp : Nat}, CP tree G root x cp → ∃ c, PreC tree cp c ∧ IDesc tree c x
  | _, _, .logical (pn := pn) h1 h2 h3 =>
    ⟨_, ⟨pn, h1, Or.inl ⟨h3, by rw [(late_layout (logical_isLate h2)).1]; rfl⟩⟩, IDesc.refl _⟩
  | _, _, .inherit h1 h2 h3 h4 =>
    let ⟨c, hc, hd⟩ := CP.pre h4
    ⟨c, hc, IDesc.step hd (else_ilink h1 h2 h3)⟩
  | _, _, .top (pn := pn) h1 h2 h3 _ =>
    ⟨_, ⟨pn, h1, by
      rcases h3 with h | h
      · exact Or.inl ⟨h, by rw [h2]; rfl⟩
      · exact Or.inr ⟨h, by rw [h2]; rfl⟩⟩, IDesc.refl _⟩

theorem CP.head : ∀ {x cp : Nat} {sn : ParseNode}, CP tree G root x cp → tree[cp]? = some sn → sn.definition = .elseJump →
    NCP tree G root cp
  | _, _, _, .logical h1 h2 _, hs, hd => by
    rw [h1] at hs; cases hs
    rw [hd] at h2; exact absurd h2 (by simp [isLogical])
  | _, _, _, .inherit _ _ _ h4, hs, hd => CP.head h4 hs hd
  | _, _, _, .top _ _ _ h4, _, _ => h4

theorem Arm.sched {r s k : Nat} (h : Arm tree G root r s k) : Sched tree G root r s k := by
  obtain ⟨pn, h1, h2, h3, h4, h5⟩ := h
  exact ⟨pn, h1, h2, Or.inr ⟨h3, h4, h5⟩⟩

theorem Sched.cases {r s k : Nat} (h : Sched tree G root r s k) :
    (s = k ∧ ∃ pn, tree[k]? = some pn ∧ pn.right = some r ∧
      (isDirect pn.definition = true ∨ (isJumpIf pn.definition = true ∧ NCP tree G root k))) ∨ Arm tree G root r s k := by
  obtain ⟨pn, h1, h2, h3⟩ := h
  rcases h3 with ⟨e, h4⟩ | ⟨h4, h5, h6⟩
  · exact Or.inl ⟨e, pn, h1, h2, h4⟩
  · exact Or.inr ⟨pn, h1, h2, h4, h5, h6⟩

theorem Sched.idesc {r s k : Nat} (h : Sched tree G root r s k) : IDesc tree s k := by
  rcases h.cases with ⟨e, _⟩ | ⟨pn, _, _, _, h4, _⟩
  · subst e; exact IDesc.refl _
  · exact h4.idesc

theorem jumpIf_not_else {d : Definition} (h : isJumpIf d = true) : d ≠ .elseJump := by
  intro e; subst e; simp [isJumpIf] at h
theorem direct_not_else {d : Definition} (h : isDirect d = true) : d ≠ .elseJump := by
  intro e; subst e; simp [isDirect, isLogical] at h

theorem cpdyn_none (V : Validated root tree G) {x : Nat} {o : Option Nat} (h : CPdyn tree G root x o) :
    o = none ↔ NCP tree G root x := by
  cases o with
  | none => exact ⟨fun _ => h, fun _ => rfl⟩
  | some cp => exact ⟨nofun, fun hn => absurd hn (CP.excl V h)⟩

theorem cpdyn_some (V : Validated root tree G) {x cp : Nat} {o : Option Nat} (h : CPdyn tree G root x o) :
    o = some cp ↔ CP tree G root x cp := by
  cases o with
  | none => exact ⟨nofun, fun hc => absurd h (CP.excl V hc)⟩
  | some cp' => exact ⟨fun e => by cases e; exact h, fun hc => by rw [CP.unique V h hc]⟩

theorem Arm.not_self (V : Validated root tree G) {r s k : Nat} {pn : ParseNode} (h : Arm tree G root r s k) (hpn : tree[k]? = some pn)
    (hd : isDirect pn.definition = true ∨ (isJumpIf pn.definition = true ∧ NCP tree G root k)) : False := by
  obtain ⟨kn, g1, _, g3, g4, _⟩ := h
  rw [hpn] at g1; cases g1
  rcases hd with hd | ⟨_, hn⟩
  · rw [jumpIf_not_direct g3] at hd; cases hd
  · exact CP.excl V g4 hn

theorem StepL.ne0 (sl : StepL root tree G ph ph' ctx ctx' ni pn vni cs rs suf rsuf l M M') {x : Nat} (h : ph x ≠ .p0) :
    ph' x ≠ .p0 := by
  rcases sl.st.cases x with hx | ⟨_, h0⟩ | ⟨hx, _⟩ | ⟨h1, h2⟩
  · subst hx; rw [sl.st.hni']; rcases sl.st.hv with e | e <;> rw [e] <;> intro h' <;> cases h'
  · exact absurd h0 h
  · rcases sl.hrsph x hx with e | ⟨o, e⟩ <;> rw [e] <;> intro h' <;> cases h'
  · rw [sl.st.hother x h1 h2]; exact h

theorem StepL.settled (sl : StepL root tree G ph ph' ctx ctx' ni pn vni cs rs suf rsuf l M M') {x : Nat} (h0 : ph x ≠ .p0)
    (hc : ∀ o, ph x ≠ .pc o) : ph' x ≠ .p0 ∧ (∀ o, ph' x ≠ .pc o) ∧ (x ≠ ni → ph' x = ph x) := by
  have hnm : ¬ Moving ph x := by
    intro hm; rcases hm with hm | ⟨o, hm⟩
    · exact h0 hm
    · exact hc o hm
  rcases Classical.em (x = ni) with e | e
  · subst e
    refine ⟨sl.ne0 h0, fun o => ?_, fun h => absurd rfl h⟩
    rw [sl.st.hni']; rcases sl.st.hv with e | e <;> rw [e] <;> intro h' <;> cases h'
  · have := sl.st.keep hnm e
    exact ⟨by rw [this]; exact h0, fun o => by rw [this]; exact hc o, fun _ => this⟩

theorem cp_head_p2 (V : Validated root tree G) {ctx0 : Ctx F} (hinv : Inv root tree G ph ctx0) {S : List Nat} {nodes : Nodes}
    (ho : SInv root tree G m0 ph S nodes M) {x cp : Nat} (hx : Act ph x) (h : CP tree G root x cp) : ph cp = .p2 := by
  obtain ⟨c, hc, hd⟩ := h.pre
  have hcp := h.inG V
  rcases idesc_parent_visited V hinv hcp hc.ilink.isChild hd hx.ne0 with h2 | h3
  · exact h2
  · exact absurd hx (ho.preDone cp c x hcp hc hd h3)

/-- an in-line child that is scheduled and has nothing active below it is finished, with everything in line below it -/
theorem all_done (V : Validated root tree G) {S R : List Nat} {nodes : Nodes}
    (ho : SInv root tree G m0 ph S nodes M) (hl : LInv root tree G m0 ph nodes R M) {w a : Nat} (hw : G w) (ha : ILink tree w a)
    (ha0 : ph a ≠ .p0) (hna : ∀ x, IDesc tree a x → ¬ Act ph x) : ∀ x, IDesc tree a x → ph x = .p3 := by
  have key : ∀ y c, G y → ILink tree y c → ph c ≠ .p0 → ¬ Act ph c → ph c = .p3 := by
    intro y c hy hc h0 hact
    have h1 := ho.inl y c hy hc
    cases hp : ph c with
    | p0 => exact absurd hp h0
    | pc o => exact absurd hp (h1.2 o)
    | pr => exact absurd hp h1.1
    | p1 => exact absurd (Or.inl hp) hact
    | p2 => exact absurd (Or.inr hp) hact
    | p3 => rfl
  have haG := (child_facts V hw ha.isChild).1
  intro x hx
  induction hx with
  | refl => exact key w a hw ha ha0 (hna a (IDesc.refl a))
  | @step u x hu hlk ih =>
    have huG := idesc_G V haG hu
    exact key u x huG hlk (hl.sched u x huG hlk (Or.inr ih)) (hna x (IDesc.step hu hlk))

/-- `y1` finishes before `ni`, and `ni` is finishing now: `y1` is finished -/
theorem last_done (sl : StepL root tree G ph ph' ctx ctx' ni pn vni cs rs suf rsuf l M M')
    (ho : SInv root tree G m0 ph (ctx.stack.toList ++ [ni]) ctx.nodes M)
    (hl : LInv root tree G m0 ph ctx.nodes ctx.rootStack.toList M) (hv3 : vni = .p3) {y1 : Nat} (hy1 : G y1)
    (h : LastB tree G y1 ni) : ph y1 = .p3 := by
  have V := sl.st.V
  have hinv := sl.st.hinv
  have hact := sl.st.hph
  have hact0 : ph ni ≠ .p0 := hact.ne0
  rcases h with ⟨w, a, b, hw, hord, hda, hdb⟩ | ⟨c, hc, hdc⟩ | ⟨c, hc, hdc⟩
  · have hbG := (child_facts V hw hord.right.isChild).1
    have hna : ∀ x, IDesc tree a x → ¬ Act ph x := by
      intro x hx hax
      obtain ⟨hb1, hab⟩ := ho.sibAbove w a b x hw hord hx hax
      rcases idesc_climb V hinv hbG hdb hact.ne0 with e | e
      · subst e; exact above_top_false ho.nodup hab
      · rw [hb1] at e; rcases e with e | e <;> cases e
    have hwv := idesc_parent_visited V hinv hw hord.right.isChild hdb hact.ne0
    exact all_done V ho hl hw hord.left (hl.sched w a hw hord.left hwv) hna y1 hda
  · have hna : ∀ x, IDesc tree c x → ¬ Act ph x := fun x hx hax => above_top_false ho.nodup (ho.preAbove ni c x sl.st.hG hc hx hax).2
    have hp2 : ph ni = .p2 := by
      rcases hact with h1 | h2
      · have hcs := sl.hall h1 c hc.ilink
        have := (sl.st.hpre c hc hcs).1
        rw [hv3] at this; cases this
      · exact h2
    exact all_done V ho hl sl.st.hG hc.ilink (hl.sched ni c sl.st.hG hc.ilink (Or.inl hp2)) hna y1 hdc
  · rcases hact with h1 | h2
    · rcases idesc_parent_visited V hinv hy1 hc.ilink.isChild hdc hact0 with e | e
      · exact absurd (ho.postBelow y1 c ni hy1 hc hdc (Or.inl h1) e) (above_top_false ho.nodup)
      · exact e
    · exact ho.postAfter y1 c ni hy1 hc hdc (Or.inl h2)

theorem stepL_reach (sl : StepL root tree G ph ph' ctx ctx' ni pn vni cs rs suf rsuf l M M')
    (hl : LInv root tree G m0 ph ctx.nodes ctx.rootStack.toList M) : ∀ x, ph' x ≠ .p0 → Sub tree root x := by
  intro x hx
  have hni := hl.reach ni sl.st.hph.ne0
  rcases sl.st.cases x with e | ⟨e, _⟩ | ⟨e, hm⟩ | ⟨h1, h2⟩
  · subst e; exact hni
  · exact Sub.step hni (sl.st.hfreshcs x e).2.2
  · rcases hm with h0 | ⟨o, ho'⟩
    · exact Sub.step hni (sl.st.hool x e h0).isChild
    · exact hl.reach x (by rw [ho']; intro h; cases h)
  · rw [sl.st.hother x h1 h2] at hx; exact hl.reach x hx

theorem stepL_noNode (sl : StepL root tree G ph ph' ctx ctx' ni pn vni cs rs suf rsuf l M M')
    (hl : LInv root tree G m0 ph ctx.nodes ctx.rootStack.toList M) :
    ∀ (x : Nat), (ph' x = .p0 ∨ ∃ o, ph' x = .pc o) → ∀ (bn : BuildNode), ctx'.nodes[x]? ≠ some (some bn) := by
  intro x hx bn' hb
  -- x was unscheduled or recorded before the step
  have hold : ph x = .p0 ∨ ∃ o, ph x = .pc o := by
    rcases sl.st.cases x with e | ⟨_, h0⟩ | ⟨_, hm⟩ | ⟨h1, h2⟩
    · subst e
      rw [sl.st.hni'] at hx
      rcases hx with h | ⟨o, h⟩ <;> rcases sl.st.hv with e | e <;> rw [e] at h <;> cases h
    · exact Or.inl h0
    · exact hm
    · rw [sl.st.hother x h1 h2] at hx; exact hx
  have hno := hl.noNode x hold
  obtain ⟨hmem, _, _⟩ := sl.hnNew x bn' hb hno
  rcases hmem with hc | ⟨_, hr⟩
  · rw [sl.st.hcs' x hc] at hx; rcases hx with h | ⟨o, h⟩ <;> cases h
  · rw [hr] at hx; rcases hx with h | ⟨o, h⟩ <;> cases h

theorem stepL_hasNode (sl : StepL root tree G ph ph' ctx ctx' ni pn vni cs rs suf rsuf l M M')
    (hl : LInv root tree G m0 ph ctx.nodes ctx.rootStack.toList M) :
    ∀ (x : Nat), ph' x ≠ .p0 → (∀ o, ph' x ≠ .pc o) → ∃ bn : BuildNode, ctx'.nodes[x]? = some (some bn) := by
  intro x h0 hc
  have hold : ph x ≠ .p0 → (∀ o, ph x ≠ .pc o) → ∃ bn : BuildNode, ctx'.nodes[x]? = some (some bn) := by
    intro a b
    obtain ⟨bn, hb⟩ := hl.hasNode x a b
    exact sl.hnKeep x bn hb
  rcases sl.st.cases x with e | ⟨e, _⟩ | ⟨e, _⟩ | ⟨h1, h2⟩
  · subst e
    exact hold sl.st.hph.ne0 (fun o h => by rcases sl.st.hph with e | e <;> rw [e] at h <;> cases h)
  · exact sl.hnGet x (Or.inl e)
  · rcases sl.hrsph x e with hp | ⟨o, hp⟩
    · exact sl.hnGet x (Or.inr ⟨e, hp⟩)
    · exact absurd hp (hc o)
  · have := sl.st.hother x h1 h2
    rw [this] at h0
    exact hold h0 (fun o h => hc o (by rw [this]; exact h))

theorem stepL_cpOk (sl : StepL root tree G ph ph' ctx ctx' ni pn vni cs rs suf rsuf l M M')
    (hl : LInv root tree G m0 ph ctx.nodes ctx.rootStack.toList M) :
    ∀ (x : Nat) (bn : BuildNode), ctx'.nodes[x]? = some (some bn) → CPdyn tree G root x bn.conditionalParent := by
  intro x bn' hb
  rcases Classical.em (∃ bn0 : BuildNode, ctx.nodes[x]? = some (some bn0)) with h | h
  · obtain ⟨bn, h1, h2, _⟩ := sl.hnOld x bn' hb h
    rw [h2]; exact hl.cpOk x bn h1
  · exact (sl.hnNew x bn' hb (fun bn hbn => h ⟨bn, hbn⟩)).2.2

theorem stepL_onRoot (sl : StepL root tree G ph ph' ctx ctx' ni pn vni cs rs suf rsuf l M M')
    (hl : LInv root tree G m0 ph ctx.nodes ctx.rootStack.toList M) : ∀ x, ph' x = .pr → x ∈ ctx'.rootStack.toList := by
  intro x hx
  rw [sl.hR]
  rcases sl.st.wait' (Or.inl hx) with e | ⟨_, _, hsame⟩
  · exact List.mem_append_right _ ((sl.hrsuf x).2 ⟨e, hx⟩)
  · rw [hsame] at hx; exact List.mem_append_left _ (hl.onRoot x hx)

theorem stepL_sched (sl : StepL root tree G ph ph' ctx ctx' ni pn vni cs rs suf rsuf l M M')
    (hl : LInv root tree G m0 ph ctx.nodes ctx.rootStack.toList M) :
    ∀ y c, G y → ILink tree y c → (ph' y = .p2 ∨ ph' y = .p3) → ph' c ≠ .p0 := by
  intro y c hy hc hyv
  rcases sl.st.vis' hyv with e | ⟨_, hyv0, _⟩
  · subst e
    rcases sl.st.hph with h1 | h2
    · rw [sl.st.hcs' c (sl.hall h1 c hc)]; intro h; cases h
    · exact sl.ne0 (hl.sched y c hy hc (Or.inl h2))
  · exact sl.ne0 (hl.sched y c hy hc hyv0)

theorem stepL_recd (sl : StepL root tree G ph ph' ctx ctx' ni pn vni cs rs suf rsuf l M M')
    (hl : LInv root tree G m0 ph ctx.nodes ctx.rootStack.toList M) :
    ∀ x o, ph' x = .pc o → ∃ (k : Nat) (kn : ParseNode) (bn : BuildNode), tree[k]? = some kn ∧ isJumpIf kn.definition = true ∧
      kn.right = some x ∧ CP tree G root k o ∧ ph' k = .p3 ∧ ctx'.nodes[o]? = some (some bn) ∧ x ∈ itemsOf bn := by
  intro x o hx
  have hold : ph x = .pc o → ph' x = .pc o → ∃ (k : Nat) (kn : ParseNode) (bn : BuildNode), tree[k]? = some kn ∧
      isJumpIf kn.definition = true ∧ kn.right = some x ∧ CP tree G root k o ∧ ph' k = .p3 ∧
      ctx'.nodes[o]? = some (some bn) ∧ x ∈ itemsOf bn := by
    intro hp _
    obtain ⟨k, kn, bn, h1, h2, h3, h4, h5, h6, h7⟩ := hl.recd x o hp
    have hkn : k ≠ ni := fun e => sl.st.hph.ne3 (e ▸ h5)
    obtain ⟨bn', hb'⟩ := sl.hnKeep o bn h6
    obtain ⟨bn0, hb0, _, hit⟩ := sl.hnOld o bn' hb' ⟨bn, h6⟩
    rw [h6] at hb0; cases hb0
    refine ⟨k, kn, bn', h1, h2, h3, h4, by rw [sl.st.keep (nm3 h5) hkn]; exact h5, hb', ?_⟩
    rcases hit with e | ⟨c, _, _, e⟩ <;> rw [e]
    · exact h7
    · exact List.mem_append_left _ h7
  rcases sl.st.wait' (Or.inr ⟨o, hx⟩) with e | ⟨_, _, hsame⟩
  · rcases sl.hrsFrom x e with ⟨h0, hr⟩ | ⟨_, _, hp, _⟩
    · obtain ⟨hj, bn, parent, hn, hcp, hpar, bn', hb', hit⟩ := sl.hcond x o e hx
      have hv3 := sl.hrs3 (List.ne_nil_of_mem e)
      refine ⟨ni, pn, bn', sl.st.hpn, hj, hr, ?_, by rw [sl.st.hni']; exact hv3, hb', by rw [hit]; simp⟩
      have := hl.cpOk ni bn hn
      rw [hcp] at this; exact this
    · rw [hp] at hx; cases hx
  · exact hold (hsame ▸ hx) hx

theorem Arm.kG (V : Validated root tree G) {r s k : Nat} (h : Arm tree G root r s k) : G k := by
  obtain ⟨pn, h1, _, h3, _⟩ := h
  exact jumpIf_G V h1 h3

theorem Arm.ool {r s k : Nat} (h : Arm tree G root r s k) : OolChild tree k r := h.sched.ool

theorem StepL.node (sl : StepL root tree G ph ph' ctx ctx' ni pn vni cs rs suf rsuf l M M')
    (hl : LInv root tree G m0 ph ctx.nodes ctx.rootStack.toList M) : ∃ bn : BuildNode, ctx.nodes[ni]? = some (some bn) :=
  hl.hasNode ni sl.st.hph.ne0 (fun o h => by rcases sl.st.hph with e | e <;> rw [e] at h <;> cases h)

theorem StepL.armNode (sl : StepL root tree G ph ph' ctx ctx' ni pn vni cs rs suf rsuf l M M')
    (ho : SInv root tree G m0 ph (ctx.stack.toList ++ [ni]) ctx.nodes M)
    (hl : LInv root tree G m0 ph ctx.nodes ctx.rootStack.toList M) {s : Nat} (hcp : CP tree G root ni s) :
    ∃ bn parent : BuildNode, ctx.nodes[ni]? = some (some bn) ∧ bn.conditionalParent = some s ∧ ph s = .p2 ∧
      ctx.nodes[s]? = some (some parent) := by
  obtain ⟨bn, hn⟩ := sl.node hl
  have hdyn := hl.cpOk ni bn hn
  have hs2 := cp_head_p2 sl.st.V sl.st.hinv ho sl.st.hph hcp
  obtain ⟨parent, hpar⟩ := hl.hasNode s (by rw [hs2]; intro h; cases h) (fun o h => by rw [hs2] at h; cases h)
  cases hc : bn.conditionalParent with
  | none => rw [hc] at hdyn; exact absurd hdyn (fun hn' => CP.excl sl.st.V hcp hn')
  | some cp' =>
    rw [hc] at hdyn
    have := CP.unique sl.st.V hdyn hcp
    subst this
    exact ⟨bn, parent, hn, hc, hs2, hpar⟩

theorem recd_owner (V : Validated root tree G) {nodes : Nodes} {R : List Nat}
    (hl : LInv root tree G m0 ph nodes R M) {r s k o : Nat} (ha : Arm tree G root r s k) (hp : ph r = .pc o) :
    o = s ∧ ph k = .p3 ∧ ∃ bn : BuildNode, nodes[s]? = some (some bn) ∧ r ∈ itemsOf bn := by
  obtain ⟨k', kn, bn, h1, h2, h3, h4, h5, h6, h7⟩ := hl.recd r o hp
  obtain ⟨pn, g1, g2, g3, g4, _⟩ := ha
  have hk'G : G k' := jumpIf_G V h1 h2
  have hkG : G k := jumpIf_G V g1 g3
  have := parent_unique V hk'G hkG ⟨kn, h1, Or.inr h3⟩ ⟨pn, g1, Or.inr g2⟩
  subst this
  have := CP.unique V h4 g4
  subst this
  exact ⟨rfl, h5, bn, h6, h7⟩

/-- what a handler call does with an out-of-line node, in static terms: the visited node pushes its own out-of-line child
(it is its scheduler), or records it at the head `cp` of its else-chain, or is such a head and releases a recorded arm -/
theorem StepL.rs_cases (sl : StepL root tree G ph ph' ctx ctx' ni pn vni cs rs suf rsuf l M M')
    (hl : LInv root tree G m0 ph ctx.nodes ctx.rootStack.toList M) {x : Nat} (hx : x ∈ rs) :
    vni = .p3 ∧
    ((ph x = .p0 ∧ OolChild tree ni x ∧ ph' x = .pr ∧
        (isDirect pn.definition = true ∨ (isJumpIf pn.definition = true ∧ NCP tree G root ni))) ∨
     (ph x = .p0 ∧ OolChild tree ni x ∧ ∃ cp, ph' x = .pc cp ∧ isJumpIf pn.definition = true ∧ CP tree G root ni cp) ∨
     (ph x = .pc ni ∧ ph' x = .pr ∧ pn.definition = .elseJump ∧ NCP tree G root ni ∧ ∃ k, Arm tree G root x ni k ∧ ph k = .p3)) := by
  have V := sl.st.V
  refine ⟨sl.hrs3 (List.ne_nil_of_mem hx), ?_⟩
  obtain ⟨bn, hn⟩ := sl.node hl
  have hdyn := hl.cpOk ni bn hn
  rcases sl.hrsFrom x hx with ⟨h0, hr⟩ | ⟨hpc, hdef, hpr, hnone⟩
  · have hool := sl.st.hool x hx h0
    rcases sl.hrsph x hx with hpr | ⟨cp, hpc⟩
    · exact Or.inl ⟨h0, hool, hpr, (sl.hdirect x hx h0 hpr bn hn).imp id fun ⟨hj, hnone⟩ => ⟨hj, (cpdyn_none V hdyn).1 hnone⟩⟩
    · obtain ⟨hj, bn', _, hn', hcp, _⟩ := sl.hcond x cp hx hpc
      rw [hn] at hn'; cases hn'
      exact Or.inr (Or.inl ⟨h0, hool, cp, hpc, hj, (cpdyn_some V hdyn).1 hcp⟩)
  · obtain ⟨k, kn, _, q1, q2, q3, q4, q5, _⟩ := hl.recd x ni hpc
    exact Or.inr (Or.inr ⟨hpc, hpr, hdef, (cpdyn_none V hdyn).1 (hnone bn hn), k, ⟨kn, q1, q3, q2, q4, pn, sl.st.hpn, hdef⟩, q5⟩)

theorem stepL_armRec (sl : StepL root tree G ph ph' ctx ctx' ni pn vni cs rs suf rsuf l M M')
    (ho : SInv root tree G m0 ph (ctx.stack.toList ++ [ni]) ctx.nodes M)
    (hl : LInv root tree G m0 ph ctx.nodes ctx.rootStack.toList M) :
    ∀ r s k, Arm tree G root r s k → ph' k = .p3 → ph' r ≠ .p0 := by
  intro r s k ha hk3
  rcases sl.st.vis' (Or.inr hk3) with e | ⟨_, hkv, hsame⟩
  · subst e
    have hv3 : vni = .p3 := by rw [← sl.st.hni']; exact hk3
    obtain ⟨kn, g1, g2, g3, g4, _⟩ := ha
    rw [sl.st.hpn] at g1; cases g1
    obtain ⟨bn, parent, hn, hcp, _, hpar⟩ := sl.armNode ho hl g4
    have := ((sl.hlast hv3 r bn g2 hn).2 g3 s parent hcp hpar).2
    rw [this]; intro h; cases h
  · rw [hsame] at hk3
    exact sl.ne0 (hl.armRec r s k ha hk3)

theorem stepL_armLate (sl : StepL root tree G ph ph' ctx ctx' ni pn vni cs rs suf rsuf l M M')
    (hl : LInv root tree G m0 ph ctx.nodes ctx.rootStack.toList M) :
    ∀ r s k, Arm tree G root r s k → (ph' r = .pr ∨ ph' r = .p1 ∨ ph' r = .p2 ∨ ph' r = .p3) → ph' s = .p3 := by
  intro r s k ha hr
  have V := sl.st.V
  have hkG := ha.kG V
  have keep3 : ph s = .p3 → ph' s = .p3 := by
    intro h3
    have hsn : s ≠ ni := fun e => sl.st.hph.ne3 (e ▸ h3)
    rw [sl.st.keep (nm3 h3) hsn]; exact h3
  rcases sl.st.cases r with e | ⟨e, _⟩ | ⟨e, _⟩ | ⟨h1, h2⟩
  · subst e
    refine keep3 (hl.armLate r s k ha ?_)
    rcases sl.st.hph with h | h
    · exact Or.inr (Or.inl h)
    · exact Or.inr (Or.inr (Or.inl h))
  · have := sl.st.parent_cs hkG ha.ool.isChild e
    subst this
    exact absurd (sl.st.hinl r e) (ool_not_ilink V hkG ha.ool)
  · obtain ⟨hv3, hc⟩ := sl.rs_cases hl e
    rcases hc with ⟨_, ho, _, hd⟩ | ⟨_, _, cp, hpc, _⟩ | ⟨hpc, _⟩
    · have hkni := parent_unique V hkG sl.st.hG ha.ool.isChild ho.isChild
      subst hkni
      exact (ha.not_self V sl.st.hpn hd).elim
    · rw [hpc] at hr; rcases hr with h | h | h | h <;> cases h
    · rw [← (recd_owner V hl ha hpc).1, sl.st.hni']; exact hv3
  · rw [sl.st.hother r h1 h2] at hr
    exact keep3 (hl.armLate r s k ha hr)

theorem stepL_pushed (sl : StepL root tree G ph ph' ctx ctx' ni pn vni cs rs suf rsuf l M M')
    (ho : SInv root tree G m0 ph (ctx.stack.toList ++ [ni]) ctx.nodes M)
    (hl : LInv root tree G m0 ph ctx.nodes ctx.rootStack.toList M) :
    ∀ r s k, Sched tree G root r s k → ph' s = .p3 → ph' r ≠ .p0 ∧ ∀ o, ph' r ≠ .pc o := by
  intro r s k hs hs3
  have V := sl.st.V
  have hpr : ph' r = .pr → ph' r ≠ .p0 ∧ ∀ o, ph' r ≠ .pc o := by
    intro h; rw [h]; exact ⟨(fun h' => by cases h'), (fun o h' => by cases h')⟩
  rcases sl.st.vis' (Or.inr hs3) with e | ⟨_, _, hsame⟩
  · subst e
    have hv3 : vni = .p3 := by rw [← sl.st.hni']; exact hs3
    obtain ⟨bn, hn⟩ := sl.node hl
    rcases hs.cases with ⟨e, kn, g1, g2, g3⟩ | ha
    · subst e
      rw [sl.st.hpn] at g1; cases g1
      exact hpr ((sl.hlast hv3 r bn g2 hn).1 (g3.imp id fun ⟨hj, hncp⟩ => ⟨hj, (cpdyn_none V (hl.cpOk s bn hn)).2 hncp⟩)).2
    · -- an arm of the chain whose head is finishing
      have hkG := ha.kG V
      obtain ⟨kn, g1, g2, g3, g4, sn, g5, g6⟩ := ha
      rw [sl.st.hpn] at g5; cases g5
      obtain ⟨c, hc, hd⟩ := g4.pre
      have hk3 := last_done sl ho hl hv3 hkG (Or.inr (Or.inl ⟨c, hc, hd⟩))
      have ha : Arm tree G root r s k := ⟨kn, g1, g2, g3, g4, pn, sl.st.hpn, g6⟩
      have hr0 := hl.armRec r s k ha hk3
      rcases Classical.em (∃ o, ph r = .pc o) with ⟨o, hpc⟩ | hnpc
      · obtain ⟨e', _, bn', hb', hmem⟩ := recd_owner V hl ha hpc
        rw [hn] at hb'; cases hb'
        have := sl.helse hv3 g6 bn hn ((cpdyn_none V (hl.cpOk s bn hn)).2 (g4.head sl.st.hpn g6))
        exact hpr ((sl.hrsuf r).1 (by rw [this]; exact hmem)).2
      · have := sl.settled hr0 (fun o h => hnpc ⟨o, h⟩)
        exact ⟨this.1, this.2.1⟩
  · rw [hsame] at hs3
    obtain ⟨h0, hc⟩ := hl.pushed r s k hs hs3
    have := sl.settled h0 hc
    exact ⟨this.1, this.2.1⟩

theorem stepL_armsOrd (sl : StepL root tree G ph ph' ctx ctx' ni pn vni cs rs suf rsuf l M M')
    (ho : SInv root tree G m0 ph (ctx.stack.toList ++ [ni]) ctx.nodes M)
    (hl : LInv root tree G m0 ph ctx.nodes ctx.rootStack.toList M) :
    ∀ (r1 r2 s k1 k2 : Nat) (bn : BuildNode), Arm tree G root r1 s k1 → Arm tree G root r2 s k2 → LastB tree G k1 k2 →
      ph' r2 = .pc s → ctx'.nodes[s]? = some (some bn) → ph' r1 = .pc s ∧ Above (itemsOf bn) r2 r1 := by
  intro r1 r2 s k1 k2 bn' ha1 ha2 hlast hr2 hb'
  have V := sl.st.V
  -- r1 keeps the phase `pc s` unless the head `s` releases its arms in this step, and then `r2` is released too
  have keep1 : ph r1 = .pc s → ph r2 = .pc s ∨ r2 ∈ rs → ph' r1 = .pc s := by
    intro hp1 _
    rcases sl.st.cases r1 with e | ⟨_, h0⟩ | ⟨e, _⟩ | ⟨h1, h2⟩
    · subst e; rcases sl.st.hph with h | h <;> rw [h] at hp1 <;> cases hp1
    · rw [h0] at hp1; cases hp1
    · rcases sl.hrsFrom r1 e with ⟨h0, _⟩ | ⟨hpc, hdef, _, hnone⟩
      · rw [h0] at hp1; cases hp1
      · rw [hp1] at hpc
        have hsn : s = ni := by cases hpc; rfl
        subst hsn
        obtain ⟨bn, hn⟩ := sl.node hl
        have hv3 := sl.hrs3 (List.ne_nil_of_mem e)
        have hsuf := sl.helse hv3 hdef bn hn (hnone bn hn)
        -- r2 is recorded at s as well
        have hr2s : ph r2 = .pc s := by
          rcases sl.st.wait' (Or.inr ⟨s, hr2⟩) with e2 | ⟨_, _, hsame⟩
          · -- a child of `s` is not pushed out of line: `s` is an ElseJump
            rcases (sl.rs_cases hl e2).2 with ⟨_, _, h, _⟩ | ⟨_, ⟨pn', q1, _, q3⟩, _⟩ | ⟨h, _⟩
            · rw [h] at hr2; cases hr2
            · rw [sl.st.hpn] at q1; cases q1
              rw [hdef] at q3; cases q3
            · exact h
          · rw [hsame] at hr2; exact hr2
        obtain ⟨_, _, bn2, hb2, hmem⟩ := recd_owner V hl ha2 hr2s
        rw [hn] at hb2; cases hb2
        have := ((sl.hrsuf r2).1 (by rw [hsuf]; exact hmem)).2
        rw [this] at hr2; cases hr2
    · rw [sl.st.hother r1 h1 h2]; exact hp1
  rcases sl.st.wait' (Or.inr ⟨s, hr2⟩) with e | ⟨_, _, hsame⟩
  · rcases sl.hrsFrom r2 e with ⟨h0, hright⟩ | ⟨_, _, hp, _⟩
    · -- r2 is recorded in this step: its owner is the visited node
      have hk2 := parent_unique V (ha2.kG V) sl.st.hG ha2.ool.isChild ⟨pn, sl.st.hpn, Or.inr hright⟩
      subst hk2
      have hv3 := sl.hrs3 (List.ne_nil_of_mem e)
      have hk13 := last_done sl ho hl hv3 (ha1.kG V) hlast
      have hr10 := hl.armRec r1 s k1 ha1 hk13
      obtain ⟨kn, _, _, _, g4, _⟩ := ha2
      have hs2 := cp_head_p2 V sl.st.hinv ho sl.st.hph g4
      have hpc1 : ph r1 = .pc s := by
        cases hp : ph r1 with
        | p0 => exact absurd hp hr10
        | pc o => obtain ⟨e', _⟩ := recd_owner V hl ha1 hp; rw [e']
        | pr => have := hl.armLate r1 s k1 ha1 (Or.inl hp); rw [hs2] at this; cases this
        | p1 => have := hl.armLate r1 s k1 ha1 (Or.inr (Or.inl hp)); rw [hs2] at this; cases this
        | p2 => have := hl.armLate r1 s k1 ha1 (Or.inr (Or.inr (Or.inl hp))); rw [hs2] at this; cases this
        | p3 => have := hl.armLate r1 s k1 ha1 (Or.inr (Or.inr (Or.inr hp))); rw [hs2] at this; cases this
      obtain ⟨_, _, bn0, hb0, hmem⟩ := recd_owner V hl ha1 hpc1
      obtain ⟨_, bn, parent, _, _, hpar, bn'', hb'', hit⟩ := sl.hcond r2 s e hr2
      rw [hb'] at hb''; cases hb''
      rw [hb0] at hpar; cases hpar
      refine ⟨keep1 hpc1 (Or.inr e), ?_⟩
      rw [hit]; exact above_append_mem hmem (by simp)
    · rw [hp] at hr2; cases hr2
  · rw [hsame] at hr2
    obtain ⟨_, _, bn0, hb0, _⟩ := recd_owner V hl ha2 hr2
    obtain ⟨bn, hb, _, hit⟩ := sl.hnOld s bn' hb' ⟨bn0, hb0⟩
    obtain ⟨hp1, hab⟩ := hl.armsOrd r1 r2 s k1 k2 bn ha1 ha2 hlast hr2 hb
    refine ⟨keep1 hp1 (Or.inl hr2), ?_⟩
    rcases hit with e | ⟨c, _, _, e⟩ <;> rw [e]
    · exact hab
    · exact above_append_left hab

theorem Rel.facts (V : Validated root tree G) {r1 r2 : Nat} (h : Rel tree G root r1 r2) :
    G r1 ∧ G r2 ∧ ∀ w, G w → ¬ ILink tree w r2 := by
  obtain ⟨ρ, s1, k1, s2, k2, hρ, h1, h2, h3, h4, _⟩ := h
  have hk1 := idesc_G V (idesc_G V hρ h1) h3.idesc
  have hk2 := idesc_G V (idesc_G V hρ h2) h4.idesc
  refine ⟨(child_facts V hk1 h3.ool.isChild).1, (child_facts V hk2 h4.ool.isChild).1, fun w hw hl => ?_⟩
  have := parent_unique V hw hk2 hl.isChild h4.ool.isChild
  subst this
  exact ool_not_ilink V hw h4.ool hl

/-- the node on top of the work list, still being visited: nothing below a root that was pushed earlier is attributed yet -/
theorem lifo_key (V : Validated root tree G) {ph : Nat → Phase} {ctx : Ctx F} (hinv : Inv root tree G ph ctx) {S0 R : List Nat}
    {x : Nat} {nodes : Nodes} {M : Array (Option Nat)} (ho : SInv root tree G m0 ph (S0 ++ [x]) nodes M)
    (hl : LInv root tree G m0 ph nodes R M) (hx : Act ph x) {z : Nat} (hp : PrecL tree G root x z) :
    ¬ Attr m0 M z ∧ z ≠ x := by
  obtain ⟨r1, r2, hrel, hsx, hsz⟩ := hp
  have hr1 := hl.lifoA r1 r2 x hrel hsx hx
  have hr1G := (hrel.facts V).1
  suffices hkey : (ph z = .p1 ∨ ph z = .p2 ∨ ph z = .p3) → False by
    refine ⟨fun ha => hkey (Or.inr (ho.attrVisited z ha)), fun e => hkey ?_⟩
    subst e
    rcases hx with h | h
    · exact Or.inl h
    · exact Or.inr (Or.inl h)
  intro hzv
  have hz0 : ph z ≠ .p0 := by rcases hzv with h | h | h <;> rw [h] <;> intro h' <;> cases h'
  rcases sub_climb V hinv hr1G hsz hz0 with e | e
  · subst e; rw [hr1] at hzv; rcases hzv with h | h | h <;> cases h
  · rw [hr1] at e; rcases e with e | e <;> cases e

theorem stepL_lifoA (sl : StepL root tree G ph ph' ctx ctx' ni pn vni cs rs suf rsuf l M M')
    (hl : LInv root tree G m0 ph ctx.nodes ctx.rootStack.toList M) :
    ∀ r1 r2 x, Rel tree G root r1 r2 → Sub tree r2 x → Act ph' x → ph' r1 = .pr := by
  intro r1 r2 x hrel hsx hact
  have V := sl.st.V
  obtain ⟨_, hr2G, hr2nl⟩ := hrel.facts V
  rcases sl.st.act' hact with ⟨e, _, _⟩ | ⟨e, _, _, hch⟩ | ⟨_, _, hax, _⟩
  · subst e; exact sl.st.keepR (hl.lifoA r1 r2 x hrel hsx sl.st.hph)
  · have hne : x ≠ r2 := fun e' => hr2nl ni sl.st.hG (e' ▸ sl.st.hinl x e)
    exact sl.st.keepR (hl.lifoA r1 r2 ni hrel (sub_parent V hr2G hsx hne sl.st.hG hch) sl.st.hph)
  · exact sl.st.keepR (hl.lifoA r1 r2 x hrel hsx hax)

theorem stepL_lifoR (sl : StepL root tree G ph ph' ctx ctx' ni pn vni cs rs suf rsuf l M M')
    (ho : SInv root tree G m0 ph (ctx.stack.toList ++ [ni]) ctx.nodes M)
    (hl : LInv root tree G m0 ph ctx.nodes ctx.rootStack.toList M) :
    ∀ r1 r2 x, Rel tree G root r1 r2 → Sub tree r2 x → ph' x = .pr → ph' r1 = .pr ∧ Above ctx'.rootStack.toList x r1 := by
  intro r1 r2 x hrel hsx hxp
  have V := sl.st.V
  obtain ⟨hr1G, hr2G, hr2nl⟩ := hrel.facts V
  rcases sl.st.wait' (Or.inl hxp) with e | ⟨_, _, hsame⟩
  · -- x is pushed in this step
    have hxs : x ∈ rsuf := (sl.hrsuf x).2 ⟨e, hxp⟩
    have hv3 := sl.hrs3 (List.ne_nil_of_mem e)
    have fromPR : ph r1 = .pr → ph' r1 = .pr ∧ Above ctx'.rootStack.toList x r1 := fun h =>
      ⟨sl.st.keepR h, by rw [sl.hR]; exact above_append_mem (hl.onRoot r1 h) hxs⟩
    have viaNi : Sub tree r2 ni → ph' r1 = .pr ∧ Above ctx'.rootStack.toList x r1 := fun h =>
      fromPR (hl.lifoA r1 r2 ni hrel h sl.st.hph)
    obtain ⟨ρ, s1, k1, s2, k2, hρ, hd1, hd2, hs1, hs2, hdisj⟩ := hrel
    have hs1G := idesc_G V hρ hd1
    have hk2G := idesc_G V (idesc_G V hρ hd2) hs2.idesc
    have hrel' : Rel tree G root r1 r2 := ⟨ρ, s1, k1, s2, k2, hρ, hd1, hd2, hs1, hs2, hdisj⟩
    -- the case of a scheduler that finished before the visited node
    have viaLast : s2 = ni → LastB tree G s1 ni → ph' r1 = .pr ∧ Above ctx'.rootStack.toList x r1 := by
      intro es hlb
      subst es
      have hs13 := last_done sl ho hl hv3 hs1G hlb
      obtain ⟨h0, hc⟩ := hl.pushed r1 s1 k1 hs1 hs13
      refine fromPR ?_
      cases hp : ph r1 with
      | p0 => exact absurd hp h0
      | pc o => exact absurd hp (hc o)
      | pr => rfl
      | p1 => exact absurd sl.st.hph (ho.owner ρ k1 r1 s2 hρ (hd1.trans hs1.idesc) hs1.ool (Or.inl hp) hd2)
      | p2 => exact absurd sl.st.hph (ho.owner ρ k1 r1 s2 hρ (hd1.trans hs1.idesc) hs1.ool (Or.inr (Or.inl hp)) hd2)
      | p3 => exact absurd sl.st.hph (ho.owner ρ k1 r1 s2 hρ (hd1.trans hs1.idesc) hs1.ool (Or.inr (Or.inr hp)) hd2)
    obtain ⟨bn, hn⟩ := sl.node hl
    rcases (sl.rs_cases hl e).2 with ⟨_, hox, _, hdir⟩ | ⟨_, _, cp, hpc, _⟩ | ⟨hpc, _, hdef, hncp, k', hak', _⟩
    · -- x is the out-of-line child of the visited node, which pushes it itself
      rcases Classical.em (x = r2) with e2 | e2
      · subst e2
        have hk2 := parent_unique V hk2G sl.st.hG hs2.ool.isChild hox.isChild
        subst hk2
        have hs2k : s2 = k2 := hs2.cases.elim And.left fun ha => (ha.not_self V sl.st.hpn hdir).elim
        subst hs2k
        rcases hdisj with hlb | ⟨es, hlb⟩
        · exact viaLast rfl hlb
        · subst es
          -- both are scheduled by the visited node: impossible
          exfalso
          rcases hs1.cases with ⟨e', _⟩ | ⟨_, _, _, _, _, sn, g5, g6⟩
          · subst e'; exact lastB_irrefl V (hl.reach s1 sl.st.hph.ne0) hlb
          · rw [sl.st.hpn] at g5; cases g5
            exact hdir.elim (fun hd => direct_not_else hd g6) fun hj => jumpIf_not_else hj.1 g6
      · exact viaNi (sub_parent V hr2G hsx e2 sl.st.hG hox.isChild)
    · rw [hpc] at hxp; cases hxp
    · -- x was a recorded arm of the visited node, which is the head of an else-chain
      have hk'G := hak'.kG V
      rcases Classical.em (x = r2) with e2 | e2
      · subst e2
        have hk2 := parent_unique V hk2G hk'G hs2.ool.isChild hak'.ool.isChild
        subst hk2
        have ha2 : Arm tree G root x s2 k2 :=
          hs2.cases.elim (fun ⟨_, _, g1, _, g3⟩ => (hak'.not_self V g1 g3).elim) id
        have hs2ni := (recd_owner V hl ha2 hpc).1
        subst hs2ni
        rcases hdisj with hlb | ⟨es, hlb⟩
        · exact viaLast rfl hlb
        · subst es
          rcases hs1.cases with ⟨e', kn', g1, _, g3⟩ | ha1
          · exfalso
            subst e'
            rw [sl.st.hpn] at g1; cases g1
            exact g3.elim (fun hd => direct_not_else hd hdef) fun hj => jumpIf_not_else hj.1 hdef
          · obtain ⟨hp1, hab⟩ := hl.armsOrd r1 x s1 k1 k2 bn ha1 ha2 hlb hpc hn
            have hsuf := sl.helse hv3 hdef bn hn ((cpdyn_none V (hl.cpOk s1 bn hn)).2 hncp)
            obtain ⟨_, _, bn1, hb1, hmem1⟩ := recd_owner V hl ha1 hp1
            rw [hn] at hb1; cases hb1
            refine ⟨((sl.hrsuf r1).1 (by rw [hsuf]; exact hmem1)).2, ?_⟩
            rw [sl.hR, hsuf]; exact above_append_right hab
      · have hk' := sub_parent V hr2G hsx e2 hk'G hak'.ool.isChild
        obtain ⟨_, _, _, _, q4, _⟩ := hak'
        exact viaNi (sub_of_idesc V sl.st.hG hr2G hr2nl q4.idesc hk')
  · rw [hsame] at hxp
    obtain ⟨hp, hab⟩ := hl.lifoR r1 r2 x hrel hsx hxp
    exact ⟨sl.st.keepR hp, by rw [sl.hR]; exact above_append_left hab⟩

theorem stepL_schedEx (sl : StepL root tree G ph ph' ctx ctx' ni pn vni cs rs suf rsuf l M M')
    (hl : LInv root tree G m0 ph ctx.nodes ctx.rootStack.toList M) :
    ∀ k r, G k → OolChild tree k r → (ph' r = .pr ∨ ph' r = .p1 ∨ ph' r = .p2 ∨ ph' r = .p3) →
      ∃ s, Sched tree G root r s k := by
  intro k r hk hool hr
  have V := sl.st.V
  rcases sl.st.cases r with e | ⟨e, _⟩ | ⟨e, _⟩ | ⟨h1, h2⟩
  · subst e
    refine hl.schedEx k r hk hool ?_
    rcases sl.st.hph with h | h
    · exact Or.inr (Or.inl h)
    · exact Or.inr (Or.inr (Or.inl h))
  · have := sl.st.parent_cs hk hool.isChild e
    subst this
    exact absurd (sl.st.hinl r e) (ool_not_ilink V hk hool)
  · rcases (sl.rs_cases hl e).2 with ⟨_, ho, _, hd⟩ | ⟨_, _, cp, hpc, _⟩ | ⟨_, _, _, _, k', ha, _⟩
    · rw [parent_unique V hk sl.st.hG hool.isChild ho.isChild]
      obtain ⟨pn', h1, h2, _⟩ := ho
      rw [sl.st.hpn] at h1; cases h1
      exact ⟨ni, pn, sl.st.hpn, h2, Or.inl ⟨rfl, hd⟩⟩
    · rw [hpc] at hr; rcases hr with h | h | h | h <;> cases h
    · rw [parent_unique V hk (ha.kG V) hool.isChild ha.ool.isChild]; exact ⟨ni, ha.sched⟩
  · rw [sl.st.hother r h1 h2] at hr
    exact hl.schedEx k r hk hool hr

theorem stepL_ignored (sl : StepL root tree G ph ph' ctx ctx' ni pn vni cs rs suf rsuf l M M')
    (hl : LInv root tree G m0 ph ctx.nodes ctx.rootStack.toList M) :
    ∀ y c, G y → IsChild tree y c → ¬ ILink tree y c → ¬ OolChild tree y c → ph' c = .p0 := by
  intro y c hy hc hnl hno
  have V := sl.st.V
  have hold := hl.ignored y c hy hc hnl hno
  rcases sl.st.cases c with e | ⟨e, _⟩ | ⟨e, hm⟩ | ⟨h1, h2⟩
  · subst e; exact absurd hold sl.st.hph.ne0
  · have := sl.st.parent_cs hy hc e
    subst this
    exact absurd (sl.st.hinl c e) hnl
  · rcases sl.hrsFrom c e with ⟨h0, _⟩ | ⟨hpc, _⟩
    · have hoo := sl.st.hool c e h0
      have := parent_unique V hy sl.st.hG hc hoo.isChild
      subst this
      exact absurd hoo hno
    · rw [hold] at hpc; cases hpc
  · rw [sl.st.hother c h1 h2]; exact hold

theorem stepL_linv (sl : StepL root tree G ph ph' ctx ctx' ni pn vni cs rs suf rsuf l M M')
    (ho : SInv root tree G m0 ph (ctx.stack.toList ++ [ni]) ctx.nodes M)
    (hl : LInv root tree G m0 ph ctx.nodes ctx.rootStack.toList M) :
    LInv root tree G m0 ph' ctx'.nodes ctx'.rootStack.toList M' := by
  refine ⟨stepL_reach sl hl, stepL_noNode sl hl, stepL_hasNode sl hl, stepL_cpOk sl hl, stepL_onRoot sl hl, stepL_sched sl hl,
    stepL_recd sl hl, stepL_pushed sl ho hl, stepL_armRec sl ho hl, stepL_armLate sl hl, stepL_lifoR sl ho hl,
    stepL_lifoA sl hl, stepL_armsOrd sl ho hl, stepL_schedEx sl hl, stepL_ignored sl hl, ?_,
    Ordered.append hl.ordL sl.st.hM sl.st.hl fun _ z hp => lifo_key sl.st.V sl.st.hinv ho hl sl.st.hph hp⟩
  intro x xn hx hd hattr
  rcases attr_append sl.st.hM hattr with h | h
  · exact hl.noGroup x xn hx hd h
  · rcases sl.st.hl _ h with h' | h'
    · cases h'
    · cases h'
      rw [sl.st.hpn] at hx; cases hx
      exact sl.hgroup hd h

theorem pop_linv {ph : Nat → Phase} {ctx : Ctx F} (hinv : Inv root tree G ph ctx) {r0 : Nat}
    (hb : ctx.rootStack.back? = some r0) {nodes : Nodes} {M : Array (Option Nat)}
    (ho : SInv root tree G m0 ph [] nodes M) (hl : LInv root tree G m0 ph nodes ctx.rootStack.toList M) :
    LInv root tree G m0 (popPhase ph r0) nodes ctx.rootStack.pop.toList M := by
  have hR := toList_of_back hb
  have hnd : (ctx.rootStack.pop.toList ++ [r0]).Nodup := by rw [← hR]; exact hinv.rootNodup
  have hmem : r0 ∈ ctx.rootStack.toList := by rw [hR]; simp
  obtain ⟨_, hrp⟩ := hinv.rootOk r0 hmem
  have hr' : popPhase ph r0 r0 = .p1 := by simp [popPhase]
  have hother : ∀ x, x ≠ r0 → popPhase ph r0 x = ph x := by intro x hx; simp [popPhase, hx]
  have hnone : ∀ x, ¬ Act ph x := fun x hx => by have := ho.onStack x hx; cases this
  -- a phase other than p1 is the old phase
  have hold : ∀ x, popPhase ph r0 x ≠ .p1 → x ≠ r0 ∧ popPhase ph r0 x = ph x := by
    intro x hx
    have : x ≠ r0 := fun e => hx (e ▸ hr')
    exact ⟨this, hother x this⟩
  have h3 : ∀ x, ph x = .p3 → popPhase ph r0 x = .p3 := by
    intro x hx
    have : x ≠ r0 := fun e => by rw [e, hrp] at hx; cases hx
    rw [hother x this]; exact hx
  have hne0 : ∀ x, ph x ≠ .p0 → popPhase ph r0 x ≠ .p0 := by
    intro x hx
    rcases Classical.em (x = r0) with e | e
    · rw [e, hr']; intro h; cases h
    · rw [hother x e]; exact hx
  have hnpc : ∀ x, (∀ o, ph x ≠ .pc o) → ∀ o, popPhase ph r0 x ≠ .pc o := by
    intro x hx o
    rcases Classical.em (x = r0) with e | e
    · rw [e, hr']; intro h; cases h
    · rw [hother x e]; exact hx o
  refine ⟨?_, ?_, ?_, hl.cpOk, ?_, ?_, ?_, ?_, ?_, ?_, ?_, ?_, ?_, ?_, ?_, hl.noGroup, hl.ordL⟩
  · intro x hx
    rcases Classical.em (x = r0) with e | e
    · exact hl.reach x (by rw [e, hrp]; intro h; cases h)
    · rw [hother x e] at hx; exact hl.reach x hx
  · intro x hx
    have := hold x (by rcases hx with h | ⟨o, h⟩ <;> rw [h] <;> intro h' <;> cases h')
    rw [this.2] at hx; exact hl.noNode x hx
  · intro x h0 hc
    rcases Classical.em (x = r0) with e | e
    · exact hl.hasNode x (by rw [e, hrp]; intro h; cases h) (fun o h => by rw [e, hrp] at h; cases h)
    · rw [hother x e] at h0
      exact hl.hasNode x h0 (fun o h => hc o (by rw [hother x e]; exact h))
  · intro x hx
    obtain ⟨hxr, hsame⟩ := hold x (by rw [hx]; intro h; cases h)
    rw [hsame] at hx
    have := hl.onRoot x hx
    rw [hR] at this
    rcases List.mem_append.1 this with h | h
    · exact h
    · simp only [List.mem_singleton] at h; exact absurd h hxr
  · intro y c hy hc hyv
    obtain ⟨_, hsame⟩ := hold y (by rcases hyv with h | h <;> rw [h] <;> intro h' <;> cases h')
    rw [hsame] at hyv
    exact hne0 c (hl.sched y c hy hc hyv)
  · intro x o hx
    obtain ⟨_, hsame⟩ := hold x (by rw [hx]; intro h; cases h)
    rw [hsame] at hx
    obtain ⟨k, kn, bn, g1, g2, g3, g4, g5, g6, g7⟩ := hl.recd x o hx
    exact ⟨k, kn, bn, g1, g2, g3, g4, h3 k g5, g6, g7⟩
  · intro r s k hs hs3
    obtain ⟨_, hsame⟩ := hold s (by rw [hs3]; intro h; cases h)
    rw [hsame] at hs3
    obtain ⟨a, b⟩ := hl.pushed r s k hs hs3
    exact ⟨hne0 r a, hnpc r b⟩
  · intro r s k ha hk3
    obtain ⟨_, hsame⟩ := hold k (by rw [hk3]; intro h; cases h)
    rw [hsame] at hk3
    exact hne0 r (hl.armRec r s k ha hk3)
  · intro r s k ha hr
    refine h3 s (hl.armLate r s k ha ?_)
    rcases Classical.em (r = r0) with e | e
    · rw [e]; exact Or.inl hrp
    · rw [hother r e] at hr; exact hr
  · intro r1 r2 x hrel hsx hxp
    obtain ⟨hxr, hsame⟩ := hold x (by rw [hxp]; intro h; cases h)
    rw [hsame] at hxp
    obtain ⟨hp, hab⟩ := hl.lifoR r1 r2 x hrel hsx hxp
    rw [hR] at hab
    have hr1 : r1 ≠ r0 := fun e => above_top_false hnd (e ▸ hab)
    exact ⟨by rw [hother r1 hr1]; exact hp, above_init hab hxr⟩
  · intro r1 r2 x hrel hsx hact
    have hx : x = r0 := by
      rcases Classical.em (x = r0) with e | e
      · exact e
      · rw [Act, hother x e] at hact; exact absurd hact (hnone x)
    subst hx
    obtain ⟨hp, hab⟩ := hl.lifoR r1 r2 x hrel hsx hrp
    rw [hR] at hab
    have hr1 : r1 ≠ x := fun e => above_irrefl hnd (e ▸ hab)
    rw [hother r1 hr1]; exact hp
  · intro r1 r2 s k1 k2 bn ha1 ha2 hlb hr2 hbn
    obtain ⟨_, hsame⟩ := hold r2 (by rw [hr2]; intro h; cases h)
    rw [hsame] at hr2
    obtain ⟨hp, hab⟩ := hl.armsOrd r1 r2 s k1 k2 bn ha1 ha2 hlb hr2 hbn
    have hr1 : r1 ≠ r0 := fun e => by rw [e, hrp] at hp; cases hp
    exact ⟨by rw [hother r1 hr1]; exact hp, hab⟩
  · intro k r hk hool hr
    refine hl.schedEx k r hk hool ?_
    rcases Classical.em (r = r0) with e | e
    · rw [e]; exact Or.inl hrp
    · rw [hother r e] at hr; exact hr
  · intro y c hy hc hnl hno
    have h0 := hl.ignored y c hy hc hnl hno
    have hcr : c ≠ r0 := fun e => by rw [e, hrp] at h0; cases h0
    rw [hother c hcr]; exact h0

/-- `LInv` looks at the build nodes only through their existence, `conditional_parent` and `conditional_items` -/
theorem linv_nodes {ph : Nat → Phase} {R : List Nat} {nodes nodes' : Nodes} {M : Array (Option Nat)}
    (hl : LInv root tree G m0 ph nodes R M)
    (h1 : ∀ (x : Nat) (bn' : BuildNode), nodes'[x]? = some (some bn') → ∃ bn : BuildNode, nodes[x]? = some (some bn) ∧
      bn'.conditionalParent = bn.conditionalParent ∧ itemsOf bn' = itemsOf bn)
    (h2 : ∀ (x : Nat) (bn : BuildNode), nodes[x]? = some (some bn) → ∃ bn' : BuildNode, nodes'[x]? = some (some bn')) :
    LInv root tree G m0 ph nodes' R M := by
  refine ⟨hl.reach, ?_, ?_, ?_, hl.onRoot, hl.sched, ?_, hl.pushed, hl.armRec, hl.armLate, hl.lifoR, hl.lifoA, ?_, hl.schedEx,
    hl.ignored, hl.noGroup, hl.ordL⟩
  · intro x hx bn' hb'
    obtain ⟨bn, hb, _⟩ := h1 x bn' hb'
    exact hl.noNode x hx bn hb
  · intro x h0 hc
    obtain ⟨bn, hb⟩ := hl.hasNode x h0 hc
    exact h2 x bn hb
  · intro x bn' hb'
    obtain ⟨bn, hb, hc, _⟩ := h1 x bn' hb'
    rw [hc]; exact hl.cpOk x bn hb
  · intro x o hx
    obtain ⟨k, kn, bn, g1, g2, g3, g4, g5, g6, g7⟩ := hl.recd x o hx
    obtain ⟨bn', hb'⟩ := h2 o bn g6
    obtain ⟨bn0, hb0, _, hit⟩ := h1 o bn' hb'
    rw [g6] at hb0; cases hb0
    exact ⟨k, kn, bn', g1, g2, g3, g4, g5, hb', by rw [hit]; exact g7⟩
  · intro r1 r2 s k1 k2 bn' ha1 ha2 hlb hr2 hb'
    obtain ⟨bn, hb, _, hit⟩ := h1 s bn' hb'
    rw [hit]; exact hl.armsOrd r1 r2 s k1 k2 bn ha1 ha2 hlb hr2 hb

theorem linv_putNode_same {ph : Nat → Phase} {R : List Nat} {nodes : Nodes} {M : Array (Option Nat)}
    (hl : LInv root tree G m0 ph nodes R M) {i : Nat} {bn bn' : BuildNode} (hb : nodes[i]? = some (some bn))
    (hc : bn'.conditionalParent = bn.conditionalParent) (hi : bn'.conditionalItems = bn.conditionalItems) :
    LInv root tree G m0 ph (putNode nodes i bn') R M := by
  have hlt : i < nodes.size := lt_of_getElem? hb
  refine linv_nodes hl (fun x b hx => ?_) (fun x b hx => ?_)
  · rcases get_putNode_some hx with ⟨rfl, rfl⟩ | ⟨_, hx⟩
    · exact ⟨bn, hb, hc, by simp [itemsOf, hi]⟩
    · exact ⟨b, hx, rfl, rfl⟩
  · rw [getElem?_putNode]
    rcases Classical.em (i = x) with hix | hix
    · rw [if_pos hix, if_pos hlt]; exact ⟨bn', rfl⟩
    · rw [if_neg hix]; exact ⟨b, hx⟩

theorem linv_meta_none {ph : Nat → Phase} {R : List Nat} {nodes : Nodes} {M M' : Array (Option Nat)}
    (hl : LInv root tree G m0 ph nodes R M) (l : List (Option Nat)) (hM : M'.toList = M.toList ++ l)
    (hn : ∀ m, m ∈ l → m = none) : LInv root tree G m0 ph nodes R M' := by
  refine ⟨hl.reach, hl.noNode, hl.hasNode, hl.cpOk, hl.onRoot, hl.sched, hl.recd, hl.pushed, hl.armRec, hl.armLate, hl.lifoR,
    hl.lifoA, hl.armsOrd, hl.schedEx, hl.ignored, ?_, Ordered.append_none hl.ordL hM hn⟩
  intro x xn hx hd hattr
  rcases attr_append hM hattr with h | h
  · exact hl.noGroup x xn hx hd h
  · have := hn _ h; cases this

end Garnish.Lemmas.BuildSeq
