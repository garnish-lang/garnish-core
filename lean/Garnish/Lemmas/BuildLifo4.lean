/-
C04, builder half — the order of the out-of-line parts: the invariant `LInv` (build nodes, `conditional_parent`,
recorded arms, positions on `root_stack`) and the description of one handler call with what it does to them (`StepL`).
-/
import Garnish.Lemmas.BuildLifo
namespace Garnish.Lemmas.BuildSeq
open Garnish Garnish.Gen Garnish.Model.Parser Garnish.Model.Literals Garnish.Model.Build Garnish.Lemmas.Build
open Garnish.Lemmas.BuildTotal
open Garnish.Lemmas.BuildOrder (Above Attr Moving)

/-- the nodes recorded in `conditional_items` -/
def itemsOf (bn : BuildNode) : List Nat := bn.conditionalItems.toList.map (·.nodeIndex)

/-- `r` is an arm of the else-chain with head `s`: the out-of-line child of the JumpIf… `k`, whose conditional parent is `s` -/
def Arm (tree : Array ParseNode) (P : Nat → Prop) (root r s k : Nat) : Prop :=
  ∃ pn, tree[k]? = some pn ∧ pn.right = some r ∧ isJumpIf pn.definition = true ∧ CP tree P root k s ∧
    ∃ sn, tree[s]? = some sn ∧ sn.definition = .elseJump

structure LInv (root : Nat) (tree : Array ParseNode) (G : Nat → Prop) (m0 : Nat) (ph : Nat → Phase) (nodes : Nodes)
    (R : List Nat) (M : Array (Option Nat)) : Prop where
  reach : ∀ x, ph x ≠ .p0 → Sub tree root x
  noNode : ∀ (x : Nat), (ph x = .p0 ∨ ∃ o, ph x = .pc o) → ∀ (bn : BuildNode), nodes[x]? ≠ some (some bn)
  hasNode : ∀ (x : Nat), ph x ≠ .p0 → (∀ o, ph x ≠ .pc o) → ∃ bn : BuildNode, nodes[x]? = some (some bn)
  cpOk : ∀ (x : Nat) (bn : BuildNode), nodes[x]? = some (some bn) → CPdyn tree G root x bn.conditionalParent
  onRoot : ∀ x, ph x = .pr → x ∈ R
  sched : ∀ y c, G y → ILink tree y c → (ph y = .p2 ∨ ph y = .p3) → ph c ≠ .p0
  recd : ∀ x o, ph x = .pc o → ∃ (k : Nat) (pn : ParseNode) (bn : BuildNode), tree[k]? = some pn ∧ isJumpIf pn.definition = true ∧ pn.right = some x ∧
    CP tree G root k o ∧ ph k = .p3 ∧ nodes[o]? = some (some bn) ∧ x ∈ itemsOf bn
  pushed : ∀ r s k, Sched tree G root r s k → ph s = .p3 → ph r ≠ .p0 ∧ ∀ o, ph r ≠ .pc o
  armRec : ∀ r s k, Arm tree G root r s k → ph k = .p3 → ph r ≠ .p0
  armLate : ∀ r s k, Arm tree G root r s k → (ph r = .pr ∨ ph r = .p1 ∨ ph r = .p2 ∨ ph r = .p3) → ph s = .p3
  lifoR : ∀ r1 r2 x, Rel tree G root r1 r2 → Sub tree r2 x → ph x = .pr → ph r1 = .pr ∧ Above R x r1
  lifoA : ∀ r1 r2 x, Rel tree G root r1 r2 → Sub tree r2 x → Act ph x → ph r1 = .pr
  armsOrd : ∀ (r1 r2 s k1 k2 : Nat) (bn : BuildNode), Arm tree G root r1 s k1 → Arm tree G root r2 s k2 → LastB tree G k1 k2 → ph r2 = .pc s →
    nodes[s]? = some (some bn) → ph r1 = .pc s ∧ Above (itemsOf bn) r2 r1
  schedEx : ∀ k r, G k → OolChild tree k r → (ph r = .pr ∨ ph r = .p1 ∨ ph r = .p2 ∨ ph r = .p3) →
    ∃ s, Sched tree G root r s k
  ignored : ∀ y c, G y → IsChild tree y c → ¬ ILink tree y c → ¬ OolChild tree y c → ph c = .p0
  noGroup : ∀ (x : Nat) (pn : ParseNode), tree[x]? = some pn → pn.definition = .group → ¬ Attr m0 M x
  ordL : ∀ x z, PrecL tree G root x z → ∀ kx kz : Nat, m0 ≤ kx → m0 ≤ kz → M[kx]? = some (some x) → M[kz]? = some (some z) →
    kx < kz

/-- one handler call, with what it does to `root_stack`, to the build nodes and to the out-of-line child -/
structure StepL {F : Type} (root : Nat) (tree : Array ParseNode) (G : Nat → Prop) (ph ph' : Nat → Phase) (ctx ctx' : Ctx F)
    (ni : Nat) (pn : ParseNode) (vni : Phase) (cs rs suf rsuf : List Nat) (l : List (Option Nat))
    (M M' : Array (Option Nat)) : Prop where
  st : Step root tree G ph ph' ctx ctx' ni pn vni cs rs suf l M M'
  hR : ctx'.rootStack.toList = ctx.rootStack.toList ++ rsuf
  hrsuf : ∀ c, c ∈ rsuf ↔ (c ∈ rs ∧ ph' c = .pr)
  hrsph : ∀ c, c ∈ rs → ph' c = .pr ∨ ∃ o, ph' c = .pc o
  hrs3 : rs ≠ [] → vni = .p3
  hall : ph ni = .p1 → ∀ c, ILink tree ni c → c ∈ cs
  hrsFrom : ∀ c, c ∈ rs → (ph c = .p0 ∧ pn.right = some c) ∨ (ph c = .pc ni ∧ pn.definition = .elseJump ∧ ph' c = .pr ∧
    ∀ (bn : BuildNode), ctx.nodes[ni]? = some (some bn) → bn.conditionalParent = none)
  hdirect : ∀ c, c ∈ rs → ph c = .p0 → ph' c = .pr → ∀ (bn : BuildNode), ctx.nodes[ni]? = some (some bn) →
    isDirect pn.definition = true ∨ (isJumpIf pn.definition = true ∧ bn.conditionalParent = none)
  hcond : ∀ c cp, c ∈ rs → ph' c = .pc cp → isJumpIf pn.definition = true ∧ ∃ (bn parent : BuildNode),
    ctx.nodes[ni]? = some (some bn) ∧ bn.conditionalParent = some cp ∧ ctx.nodes[cp]? = some (some parent) ∧
    ∃ bn' : BuildNode, ctx'.nodes[cp]? = some (some bn') ∧ itemsOf bn' = itemsOf parent ++ [c]
  hlast : vni = .p3 → ∀ (r : Nat) (bn : BuildNode), pn.right = some r → ctx.nodes[ni]? = some (some bn) →
    ((isDirect pn.definition = true ∨ (isJumpIf pn.definition = true ∧ bn.conditionalParent = none)) → r ∈ rs ∧ ph' r = .pr) ∧
    (isJumpIf pn.definition = true → ∀ (cp : Nat) (parent : BuildNode), bn.conditionalParent = some cp → ctx.nodes[cp]? = some (some parent) →
      r ∈ rs ∧ ph' r = .pc cp)
  helse : vni = .p3 → pn.definition = .elseJump → ∀ (bn : BuildNode), ctx.nodes[ni]? = some (some bn) → bn.conditionalParent = none →
    rsuf = itemsOf bn
  hnOld : ∀ (x : Nat) (bn' : BuildNode), ctx'.nodes[x]? = some (some bn') → (∃ bn0 : BuildNode, ctx.nodes[x]? = some (some bn0)) →
    ∃ bn : BuildNode, ctx.nodes[x]? = some (some bn) ∧ bn'.conditionalParent = bn.conditionalParent ∧
      (itemsOf bn' = itemsOf bn ∨ ∃ c, c ∈ rs ∧ ph' c = .pc x ∧ itemsOf bn' = itemsOf bn ++ [c])
  hnNew : ∀ (x : Nat) (bn' : BuildNode), ctx'.nodes[x]? = some (some bn') → (∀ bn : BuildNode, ctx.nodes[x]? ≠ some (some bn)) →
    (x ∈ cs ∨ (x ∈ rs ∧ ph' x = .pr)) ∧ itemsOf bn' = [] ∧ CPdyn tree G root x bn'.conditionalParent
  hnKeep : ∀ (x : Nat) (bn : BuildNode), ctx.nodes[x]? = some (some bn) → ∃ bn' : BuildNode, ctx'.nodes[x]? = some (some bn')
  hnGet : ∀ (c : Nat), (c ∈ cs ∨ (c ∈ rs ∧ ph' c = .pr)) → ∃ bn' : BuildNode, ctx'.nodes[c]? = some (some bn')
  hgroup : pn.definition = .group → some ni ∉ l

end Garnish.Lemmas.BuildSeq
