/-
The budget of the layout loop, from which `compileState_complete` (Lemmas/CompileInto.lean) concludes that the loop
finishes within its fuel `bodiesSize bodies + 2` (Abs/Compile.lean) when the nested bodies are named by their jump entries.
A pending root weighs the size of its expression (a nested id weighs 1); laying out a root costs one step and
replaces its weight by that of the roots it pushes, which is at least one less — except for a nested body, whose
size is paid once per id, because the ids laid out are distinct.
-/
import Garnish.Lemmas.CompileNodup
namespace Garnish.Abs
open Garnish Gen Garnish.Spec

variable {F : Type}

theorem Wrote.weight {s s' : LState F} {o : Out F} (h : Wrote s s' o) : listW s'.pending = o.weight + listW s.pending := by
  rw [h.pending, listW_append]; rfl

theorem emit_weight (root cur : Nat) : ∀ (e : Expr F) (s : LState F),
    listW (emit root cur e s).pending + 1 ≤ listW s.pending + exprSize e :=
  fun e s => by rw [(emit_wrote root cur e s).weight]; have := out_weight cur e s.pos; omega

theorem emitList_weight (root cur : Nat) : ∀ (items : List (Expr F)) (s : LState F),
    listW (emitList root cur items s).pending ≤ listW s.pending + exprsSize items :=
  fun items s => by rw [(emitList_wrote root cur items s).weight]; have := outList_weight cur items s.pos; omega

theorem emitArms_weight (root cur : Nat) : ∀ (arms : List (Bool × Expr F × Expr F)) (s : LState F),
    listW (emitArms root cur arms s).1.pending + itemsW (emitArms root cur arms s).2 ≤ listW s.pending + armsSize arms :=
  fun arms s => by
    have h := emitArms_wrote root cur arms s
    rw [h.1.weight, h.2]; have := outArms_weight cur arms s.pos; omega

section loop
variable (bodies : List (Nat × Expr F))

/-- what laying out a nested body may cost: the size of the body its id names -/
def cr (id : Nat) : Nat :=
  match lookupBody bodies id with
  | some b => exprSize b
  | none => 0

def refId (r : Root F) : Option Nat :=
  match r.kind with
  | .ref id => some id
  | .code _ => none

def sumCr : List Nat → Nat
  | [] => 0
  | id :: ids => cr bodies id + sumCr ids

def listC (l : List (Root F)) : Nat := sumCr bodies (l.filterMap refId)

theorem layoutRoot_budget {s : LState F} {r : Root F} {rest : List (Root F)} (hp : s.pending = r :: rest)
    (hc : r.containing < s.jumps.size)
    (q : s.done.length + listW s.pending ≤ listC bodies s.done + 1) :
    (layoutRoot bodies r { s with pending := rest }).done.length + listW (layoutRoot bodies r { s with pending := rest }).pending
      ≤ listC bodies (layoutRoot bodies r { s with pending := rest }).done + 1 := by
  obtain ⟨s1, s2, st, he⟩ := layoutRoot_anatomy bodies (rest := rest) hc
  rw [he, (addTerms_pending _ _ _ _).1, (addTerms_pre _ _ _ _).done, st.pre.done, st.done]
  rw [hp] at q
  simp only [listW] at q
  have hw : match rootBody bodies r with
      | some b => listW s2.pending + 1 ≤ listW rest + exprSize b
      | none => listW s2.pending = listW rest := by
    rw [st.body]
    simp only [bodyState]
    cases rootBody bodies r with
    | none => simp only [st.pending]
    | some b => have := emit_weight r.patch r.containing b s1; rw [st.pending] at this; exact this
  simp only [List.length_cons, listC, List.filterMap_cons]
  cases hk : r.kind with
  | code e =>
    have hb : rootBody bodies r = some e := by simp [rootBody, hk]
    rw [hb] at hw
    simp only [refId, hk, rootW] at q ⊢
    simp only [listC] at q
    omega
  | ref id =>
    simp only [refId, hk, sumCr, rootW] at q ⊢
    simp only [listC] at q
    cases hl : lookupBody bodies id with
    | none =>
      have hb : rootBody bodies r = none := by simp [rootBody, hk, hl]
      rw [hb] at hw
      simp only [cr, hl]
      omega
    | some b =>
      have hb : rootBody bodies r = some b := by simp [rootBody, hk, hl]
      rw [hb] at hw
      simp only [cr, hl]
      omega

theorem layoutRoots_budget (fuel : Nat) (s : LState F) (inv : Inv s)
    (q : s.done.length + listW s.pending ≤ listC bodies s.done + 1) :
    (layoutRoots bodies fuel s).done.length + listW (layoutRoots bodies fuel s).pending
      ≤ listC bodies (layoutRoots bodies fuel s).done + 1 :=
  layoutRoots_rule bodies (I := fun t => t.done.length + listW t.pending ≤ listC bodies t.done + 1)
    (fun inv' q' hp => layoutRoot_budget bodies hp (inv'.cont _ (by rw [hp]; exact List.mem_cons_self)) q') fuel s inv q

/-- if roots are still pending at the end, every unit of fuel laid out one root -/
theorem layoutRoots_steps : ∀ (fuel : Nat) (s : LState F), Inv s → (layoutRoots bodies fuel s).pending ≠ [] →
    (layoutRoots bodies fuel s).done.length = s.done.length + fuel
  | 0, s, _, _ => rfl
  | fuel + 1, s, inv, h => by
    cases hp : s.pending with
    | nil => simp only [layoutRoots, hp] at h; exact absurd rfl h
    | cons r rest =>
      simp only [layoutRoots, hp] at h ⊢
      obtain ⟨inv', _, _, _, hdone, _⟩ := layoutRoot_facts bodies inv hp
      rw [layoutRoots_steps fuel _ inv' h, hdone]
      simp; omega

def totalSize : List (Nat × Expr F) → Nat
  | [] => 0
  | (_, b) :: rest => exprSize b + totalSize rest

theorem totalSize_le : ∀ (bs : List (Nat × Expr F)), totalSize bs ≤ bodiesSize bs
  | [] => Nat.le_refl _
  | (_, b) :: rest => by have := totalSize_le rest; simp only [totalSize, bodiesSize]; omega

theorem cr_cons (k : Nat) (b : Expr F) (rest : List (Nat × Expr F)) (x : Nat) :
    cr ((k, b) :: rest) x = if k = x then exprSize b else cr rest x := by
  simp only [cr, lookupBody]
  by_cases h : k = x
  · subst h; simp
  · have hb : (k == x) = false := by simpa using h
    simp [hb, h]

theorem sumCr_cons_table (k : Nat) (b : Expr F) (rest : List (Nat × Expr F)) : ∀ (ids : List Nat), ids.Nodup →
    sumCr ((k, b) :: rest) ids ≤ (if k ∈ ids then exprSize b else 0) + sumCr rest ids
  | [], _ => by simp [sumCr]
  | x :: xs, hn => by
    obtain ⟨hx, hxs⟩ := List.nodup_cons.1 hn
    have ih := sumCr_cons_table k b rest xs hxs
    simp only [sumCr]
    rw [cr_cons]
    by_cases hkx : k = x
    · subst hkx
      have hk : k ∉ xs := hx
      simp only [hk, if_false] at ih
      simp only [if_true, List.mem_cons, true_or]
      omega
    · have hm : (k ∈ x :: xs) ↔ k ∈ xs := by simp [hkx]
      simp only [hkx, if_false, hm]
      omega

theorem sumCr_nil (ids : List Nat) : sumCr ([] : List (Nat × Expr F)) ids = 0 := by
  induction ids with
  | nil => rfl
  | cons x xs ih => simp [sumCr, cr, lookupBody, ih]

theorem sumCr_le : ∀ (bs : List (Nat × Expr F)) (ids : List Nat), ids.Nodup → sumCr bs ids ≤ totalSize bs
  | [], ids, _ => by rw [sumCr_nil]; exact Nat.zero_le _
  | (k, b) :: rest, ids, hn => by
    have h1 := sumCr_cons_table k b rest ids hn
    have h2 := sumCr_le rest ids hn
    simp only [totalSize]
    split at h1 <;> omega

end loop

end Garnish.Abs
