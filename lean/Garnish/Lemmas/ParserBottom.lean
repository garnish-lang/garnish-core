/-
The node at the bottom of the right spine may stop the next operator.
  * `walk_insertB` (`B`: the bottom node stops the operator): the array-level insertion lemma for that case (the new operator
    becomes the right child of the bottom node and has no left operand),
  * `parseToken_bottom`: what `parse_token` does then (`parent == true_left`, so `true_left` is unset).
-/
import Garnish.Lemmas.ParserFrag
import Garnish.Lemmas.ParserAccept

namespace Garnish.Spec
open Garnish Garnish.Gen Garnish.Model.Parser

theorem walk_insertB (nodes : Array ParseNode) (q : Nat) (rtl : Bool) (n ko : Nat) (sub : Tree) (rlink : Option Nat) :
    ∀ {p link : Option Nat} {t : Tree}, IsTreeAt nodes p link t → ∀ i, link = some i → t.inorder.Nodup →
      ∀ b, t.inorder.getLast? = some b → stops q rtl (prioAt nodes b) = true →
        (∃ nb, nodes[b]? = some nb ∧ nb.right = none) ∧
        ∃ t', absorbS (prioAt nodes) q rtl n ko sub t = some t' ∧
          ∀ arr : Array ParseNode, (∀ j ∈ t.inorder, j ≠ b → arr[j]? = nodes[j]?) →
            arr[b]? = (nodes[b]?).map (setRight (some n)) → NewOpS arr n ko sub (some b) none rlink →
            IsTreeAt arr p link t' := by
  intro p link t h
  induction h with
  | nil p => intro i hi; cases hi
  | node p i nd l r hn hpar hl hr _ ihr =>
    intro i' hi' hnd b hb hstop
    injection hi' with hi'; subst hi'
    simp only [Tree.inorder] at hnd hb
    rw [List.nodup_append] at hnd
    obtain ⟨ndl, ndir, hdisj⟩ := hnd
    rw [List.nodup_cons] at ndir
    obtain ⟨hir, ndr⟩ := ndir
    have hil : i ∉ l.inorder := fun hm => hdisj i hm i (List.mem_cons_self ..) rfl
    cases hrl : nd.right with
    | none =>
      rw [hrl] at hr
      cases hr
      simp only [Tree.inorder, List.getLast?_concat, Option.some.injEq] at hb
      subst hb
      refine ⟨⟨nd, hn, hrl⟩, ?_⟩
      refine ⟨.node l i (tokPos nd) (newOpS .nil n ko sub), by simp [absorbS, hstop], ?_⟩
      intro arr hfr hb' hnew
      rw [hn] at hb'
      refine isTreeAt_node (setRight (some n) nd) hb' hpar ?_ ?_ rfl
      · exact hl.frame (fun j hj => hfr j (by simp [Tree.inorder, hj]) (fun e => hil (e ▸ hj)))
      · exact newOpS_isTreeAt hnew (.nil _)
    | some ri =>
      have hr' := hr
      rw [hrl] at hr'
      have hrne : r.inorder ≠ [] := by
        cases hr' with
        | node _ _ _ _ _ _ _ _ _ => simp [Tree.inorder]
      have hbr : r.inorder.getLast? = some b := by
        rw [show i :: r.inorder = [i] ++ r.inorder from rfl, ← List.append_assoc, List.getLast?_append] at hb
        cases hg : r.inorder.getLast? with
        | none => simp at hg; exact absurd hg hrne
        | some z => rw [hg] at hb; simpa using hb
      have hbmem : b ∈ r.inorder := List.mem_of_getLast? hbr
      obtain ⟨hnb, r', habs, harr⟩ := ihr ri hrl ndr b hbr hstop
      refine ⟨hnb, .node l i (tokPos nd) r', by simp [absorbS, habs], ?_⟩
      intro arr hfr hb' hnew
      have hib : i ≠ b := fun e => hir (e ▸ hbmem)
      refine isTreeAt_node nd (by rw [hfr i (by simp [Tree.inorder]) hib]; exact hn) hpar ?_ ?_ rfl
      · exact hl.frame (fun j hj => hfr j (by simp [Tree.inorder, hj])
          (fun e => hdisj j hj b (List.mem_cons_of_mem _ hbmem) e))
      · exact harr arr (fun j hj => hfr j (by simp [Tree.inorder, hj])) hb' hnew

end Garnish.Spec

namespace Garnish.Model.Parser
open Garnish Garnish.Gen

theorem parseToken_bottom {id q b : Nat} {d : Definition} {left right : Option Nat} {nodes : Array ParseNode}
    {ug : Option Nat} {rtl : Bool} {nb : ParseNode} (hq : priority d = some q)
    (hw : walkLoop nodes q ug rtl (nodes.size + 1) 0 left left = .ok (some b, some b))
    (hb : nodes[b]? = some nb) (hbr : nb.right = none) :
    ∃ nodes', parseToken id d left right nodes ug rtl = .ok (nodes', ⟨d, some b, none, right⟩) ∧
      ∀ j, nodes'[j]? = if j = b then (nodes[j]?).map (setRight (some id)) else nodes[j]? := by
  have hbs : b < nodes.size := (Array.getElem?_eq_some_iff.mp hb).1
  obtain ⟨n2, h2⟩ := modifyNode?_isSome (fun p => { p with right := some id }) hbs
  refine ⟨n2, ?_, modifyNode?_get h2⟩
  unfold parseToken
  rw [hq]
  simp only [hw, Outcome.bind, beq_self_eq_true, if_true, hb, h2, hbr]

end Garnish.Model.Parser
