/-
The expression syntax `Ex` of the fragments with brackets, the induction over it (`ex_ok`), the end of the parse
(`finish_U`, `finish_gen`), the parse-level theorem `parse_ex`, the decidable recognisers (`fragF`), and a trailing comma as
the very last token of the input (`parse_ex_comma`, recogniser `fragTC` for `expr trivia* ,`).

  operand ::= prefix* value
            | prefix* ( fill* expr gfill* )          -- inside ( ): separators are whitespace
            | prefix* { fill* expr trivia* }         -- directly after { separators are dropped
            | prefix* { fill* expr trivia* blank-line fill* }      -- trailing blank line: node unlinked again (`brT`)
            | prefix* open fill* expr trivia* , trivia* close       -- trailing comma before the closer (`brC`, flag C)
  expr    ::= operand | expr trivia* binop trivia* operand | expr suffix
            | optop trivia* operand                  -- leading `,` / infix identifier (`lead`, flag C)
            | expr gfill+ operand                    -- implicit list (flag L): at least one whitespace token (inside ( ) with
                                                     -- flag S: or a separator) among the gfill, and `expr` ends in no suffix operator
            | expr trivia* separator fill* operand   -- outside of ( ) (flag S)
  fill = trivia or separator;  gfill = trivia, inside ( ) also separators.  What exactly is asked is `Ex.ok`.
Flags: `L` implicit lists, `C` `,` / infix identifiers (as binary operators, leading, or trailing before a closer), `S` separators.
`garb`: the number of separator nodes the parser pushes and unlinks again; the `c` of `OpdOK c` / `ExprOK c` (Lemmas/ParserBRef,
ParserBExpr) counts them.  Suffixes: `U` a state that satisfies `UInv` (after an operand), `C` the walk starts at a closed bracket
`cb`, `K` a step of the reference parser with an arbitrary stack.
-/
import Garnish.Lemmas.ListFacts
import Garnish.Lemmas.ParserBOpt

namespace Garnish.Spec
open Garnish Garnish.Gen Garnish.Model.Parser

inductive Ex where
  | atom (pre : List PToken) (a : PToken)
  | br (pre : List PToken) (o : PToken) (wsA : List PToken) (e : Ex) (wsB : List PToken) (c : PToken)
  | brT (pre : List PToken) (o : PToken) (wsA : List PToken) (e : Ex) (ws1 : List PToken) (t : PToken)
      (ws2 : List PToken) (c : PToken)
  | bin (e : Ex) (ws1 : List PToken) (op : PToken) (ws2 : List PToken) (x : Ex)
  | suf (e : Ex) (s : PToken)
  | lst (e : Ex) (ws : List PToken) (x : Ex)
  | sep (e : Ex) (ws1 : List PToken) (t : PToken) (ws2 : List PToken) (x : Ex)
  | brC (pre : List PToken) (o : PToken) (wsA : List PToken) (e : Ex) (ws1 : List PToken) (k : PToken)
      (wsB : List PToken) (c : PToken)
  | lead (op : PToken) (ws : List PToken) (x : Ex)

structure Fl where
  L : Bool
  C : Bool
  S : Bool
deriving DecidableEq, Repr

namespace Ex

def toks : Ex → List PToken
  | atom pre a => pre ++ [a]
  | br pre o wsA e wsB c => pre ++ (o :: (wsA ++ (e.toks ++ (wsB ++ [c]))))
  | brT pre o wsA e ws1 t ws2 c => pre ++ (o :: (wsA ++ (e.toks ++ (ws1 ++ (t :: (ws2 ++ [c]))))))
  | bin e ws1 op ws2 x => e.toks ++ (ws1 ++ (op :: (ws2 ++ x.toks)))
  | suf e s => e.toks ++ [s]
  | lst e ws x => e.toks ++ (ws ++ x.toks)
  | sep e ws1 t ws2 x => e.toks ++ (ws1 ++ (t :: (ws2 ++ x.toks)))
  | brC pre o wsA e ws1 k wsB c => pre ++ (o :: (wsA ++ (e.toks ++ (ws1 ++ (k :: (wsB ++ [c]))))))
  | lead op ws x => op :: (ws ++ x.toks)

/-- number of nodes the parser pushes and unlinks again: the trailing blank lines before a `}` -/
def garb : Ex → Nat
  | atom _ _ => 0
  | br _ _ _ e _ _ => e.garb
  | brT _ _ _ e _ _ _ _ => e.garb + 1
  | bin e _ _ _ x => e.garb + x.garb
  | suf e _ => e.garb
  | lst e _ x => e.garb + x.garb
  | sep e _ _ _ x => e.garb + x.garb
  | brC _ _ _ e _ _ _ _ => e.garb
  | lead _ _ x => x.garb

def isOpd : Ex → Bool
  | atom .. => true
  | br .. => true
  | brT .. => true
  | brC .. => true
  | _ => false

def endsSuffix : Ex → Bool
  | suf .. => true
  | _ => false

def closeMatches (o c : PToken) : Bool :=
  (o.type == .startGroup && c.type == .endGroup) || (o.type == .startExpression && c.type == .endExpression)

/-- the bracket `o` opens a `( )` group -/
def opensGroup (o : PToken) : Bool := (getDefinition o.type).1 == .group

/-- well-formedness inside a frame (`inG`: the frame is a `( )` group) -/
def ok (F : Fl) : Bool → Ex → Bool
  | _, atom pre a => pre.all isPrefixTok && isAtom10 a
  | _, br pre o wsA e wsB c =>
    pre.all isPrefixTok && isOpenTok o && closeMatches o c && wsA.all (fun w => isTriviaTok w || (F.S && isSepTok w)) &&
      e.ok F (opensGroup o) && wsB.all (isGFill (F.S && opensGroup o))
  | _, brT pre o wsA e ws1 t ws2 c =>
    F.S && !opensGroup o && pre.all isPrefixTok && isOpenTok o && closeMatches o c && wsA.all isFillTok &&
      e.ok F false && ws1.all isTriviaTok && t.type == .subexpression && ws2.all isFillTok
  | inG, bin e ws1 op ws2 x =>
    e.ok F inG && ws1.all isTriviaTok && (isBinopTok op || (F.C && isOptTok op)) && ws2.all isTriviaTok && x.isOpd &&
      x.ok F inG
  | inG, suf e s => e.ok F inG && isSuffixTok s
  | inG, lst e ws x =>
    F.L && e.ok F inG && !e.endsSuffix && ws.all (isGFill (F.S && inG)) &&
      ws.any (fun w => w.type == .whitespace || (F.S && inG && isSepTok w)) && x.isOpd && x.ok F inG
  | inG, sep e ws1 t ws2 x =>
    F.S && !inG && e.ok F inG && ws1.all isTriviaTok && isSepTok t && ws2.all isFillTok && x.isOpd && x.ok F inG
  | _, brC pre o wsA e ws1 k wsB c =>
    F.C && pre.all isPrefixTok && isOpenTok o && closeMatches o c && wsA.all (fun w => isTriviaTok w || (F.S && isSepTok w)) &&
      e.ok F (opensGroup o) && ws1.all isTriviaTok && isCommaTok k && wsB.all isTriviaTok
  | inG, lead op ws x => F.C && isOptTok op && ws.all isTriviaTok && x.isOpd && x.ok F inG

theorem toks_ne : ∀ e : Ex, e.toks ≠ []
  | atom pre a => by simp [toks]
  | br pre o wsA e wsB c => by simp [toks]
  | brT .. => by simp [toks]
  | bin e ws1 op ws2 x => by simp [toks]
  | suf e s => by simp [toks]
  | lst e ws x => by simp [toks, toks_ne e]
  | sep e ws1 t ws2 x => by simp [toks]
  | brC .. => by simp [toks]
  | lead .. => by simp [toks]

end Ex

theorem bin3_of_ok {C : Bool} {op : PToken} (h : (isBinopTok op || (C && isOptTok op)) = true) : isBin3Tok op = true := by
  unfold isBin3Tok
  unfold isBinopTok isOptTok at h
  simp only [Bool.or_eq_true, Bool.and_eq_true] at h ⊢
  rcases h with h | ⟨_, h⟩
  · exact Or.inl h
  · exact Or.inr h

theorem closeMatches_isCloseFor {o c : PToken} (h : Ex.closeMatches o c = true) :
    isCloseFor (getDefinition o.type).1 c := by
  unfold Ex.closeMatches at h
  simp only [Bool.or_eq_true, Bool.and_eq_true, beq_iff_eq] at h
  rcases h with ⟨h1, h2⟩ | ⟨h1, h2⟩
  · exact Or.inl ⟨by rw [h1]; rfl, h2⟩
  · exact Or.inr ⟨by rw [h1]; rfl, h2⟩

theorem fill_of_triv_or {S : Bool} {w : PToken} (h : (isTriviaTok w || (S && isSepTok w)) = true) : isFillTok w = true := by
  unfold isFillTok
  simp only [Bool.or_eq_true, Bool.and_eq_true] at h ⊢
  rcases h with h | ⟨_, h⟩
  · exact Or.inl h
  · exact Or.inr h

theorem gfill_mono {a b : Bool} {w : PToken} (hab : a = true → b = true) (h : isGFill a w = true) : isGFill b w = true := by
  unfold isGFill at h ⊢
  simp only [Bool.or_eq_true, Bool.and_eq_true] at h ⊢
  rcases h with h | ⟨h1, h2⟩
  · exact Or.inl h
  · exact Or.inr ⟨hab h1, h2⟩

theorem opd_head_class {t : PToken} (h : isPrefixTok t = true ∨ isAtom10 t = true ∨ isOpenTok t = true) (r : List PToken) :
    closerFollows (t :: r) = false := by
  cases hc : isFiller t.type || isSeparator t.type || isCloser t.type with
  | false =>
    simp only [Bool.or_eq_false_iff] at hc
    simp only [closerFollows, hc.1.1, hc.1.2, hc.2, Bool.or_self, Bool.false_eq_true, if_false]
  | true =>
    -- none of the eight filler, separator and closer token types starts an operand
    exfalso
    simp only [isFiller, isSeparator, isCloser, Bool.or_eq_true, beq_iff_eq] at hc
    unfold isPrefixTok isAtom10 isOpenTok at h
    rcases hc with (((hc | hc) | hc) | (hc | hc)) | ((hc | hc) | hc) <;> rw [hc] at h <;> revert h <;> decide

theorem opd_head {F : Fl} {inG : Bool} : ∀ x : Ex, x.ok F inG = true → x.isOpd = true →
    ∃ t r, x.toks = t :: r ∧ (((isPrefixTok t = true ∨ isOpenTok t = true) ∧ r ≠ []) ∨ (isAtom10 t = true ∧ r = [] ∧ x.garb = 0))
  | .atom [] a, h, _ => by
    simp only [Ex.ok, Bool.and_eq_true, List.all_eq_true] at h
    exact ⟨a, [], rfl, Or.inr ⟨h.2, rfl, rfl⟩⟩
  | .atom (p :: ps) a, h, _ => by
    simp only [Ex.ok, Bool.and_eq_true, List.all_eq_true] at h
    exact ⟨p, ps ++ [a], rfl, Or.inl ⟨Or.inl (h.1 p (List.mem_cons_self ..)), by simp⟩⟩
  | .br [] o wsA e wsB c, h, _ => by
    simp only [Ex.ok, Bool.and_eq_true, List.all_eq_true] at h
    exact ⟨o, _, rfl, Or.inl ⟨Or.inr h.1.1.1.1.2, by simp⟩⟩
  | .br (p :: ps) o wsA e wsB c, h, _ => by
    simp only [Ex.ok, Bool.and_eq_true, List.all_eq_true] at h
    exact ⟨p, _, rfl, Or.inl ⟨Or.inl (h.1.1.1.1.1 p (List.mem_cons_self ..)), by simp⟩⟩
  | .brT [] o wsA e ws1 t ws2 c, h, _ => by
    simp only [Ex.ok, Bool.and_eq_true, List.all_eq_true] at h
    exact ⟨o, _, rfl, Or.inl ⟨Or.inr h.1.1.1.1.1.1.2, by simp⟩⟩
  | .brT (p :: ps) o wsA e ws1 t ws2 c, h, _ => by
    simp only [Ex.ok, Bool.and_eq_true, List.all_eq_true] at h
    exact ⟨p, _, rfl, Or.inl ⟨Or.inl (h.1.1.1.1.1.1.1.2 p (List.mem_cons_self ..)), by simp⟩⟩
  | .brC [] o wsA e ws1 k wsB c, h, _ => by
    simp only [Ex.ok, Bool.and_eq_true, List.all_eq_true] at h
    exact ⟨o, _, rfl, Or.inl ⟨Or.inr h.1.1.1.1.1.1.2, by simp⟩⟩
  | .brC (p :: ps) o wsA e ws1 k wsB c, h, _ => by
    simp only [Ex.ok, Bool.and_eq_true, List.all_eq_true] at h
    exact ⟨p, _, rfl, Or.inl ⟨Or.inl (h.1.1.1.1.1.1.1.2 p (List.mem_cons_self ..)), by simp⟩⟩
  | .bin _ _ _ _ _, _, hc => by simp [Ex.isOpd] at hc
  | .suf _ _, _, hc => by simp [Ex.isOpd] at hc
  | .lst _ _ _, _, hc => by simp [Ex.isOpd] at hc
  | .sep _ _ _ _ _, _, hc => by simp [Ex.isOpd] at hc
  | .lead _ _ _, _, hc => by simp [Ex.isOpd] at hc

theorem listOpd_of_ex {F : Fl} {inG : Bool} (x : Ex) (h : x.ok F inG = true) (ho : x.isOpd = true)
    (hx : OpdOK x.garb x.toks) : ListOpdOK x.garb x.toks := by
  obtain ⟨t, r, htr, hcl⟩ := opd_head x h ho
  rw [htr] at hx ⊢
  rcases hcl with ⟨hcl, hr⟩ | ⟨hcl, hr⟩
  · exact listOpd_po hx hr hcl
  · obtain ⟨hr, hg⟩ := hr
    subst hr; rw [hg]; exact listOpd_value t hcl

/-- **the induction over the expression syntax** -/
theorem ex_ok {F : Fl} : ∀ (e : Ex) (inG : Bool), e.ok F inG = true →
    ExprOK e.garb inG e.toks e.endsSuffix ∧ (e.isOpd = true → OpdOK e.garb e.toks)
  | .atom pre a, _, h => by
    simp only [Ex.ok, Bool.and_eq_true, List.all_eq_true] at h
    have := opd_atom pre a h.1 h.2
    exact ⟨expr_first this, fun _ => this⟩
  | .br pre o wsA e wsB c, _, h => by
    simp only [Ex.ok, Bool.and_eq_true, List.all_eq_true] at h
    obtain ⟨⟨⟨⟨⟨h1, h2⟩, h3⟩, h4⟩, h5⟩, h6⟩ := h
    have ih := (ex_ok e (Ex.opensGroup o) h5).1
    have := opd_bracket pre o c wsA wsB ih h1 h2 (closeMatches_isCloseFor h3) (fun w hw => fill_of_triv_or (h4 w hw))
      (fun w hw => gfill_mono (fun hh => by simp only [Bool.and_eq_true] at hh; exact hh.2) (h6 w hw)) e.toks_ne
    exact ⟨expr_first this, fun _ => this⟩
  | .brT pre o wsA e ws1 t ws2 c, _, h => by
    simp only [Ex.ok, Bool.and_eq_true, List.all_eq_true, Bool.not_eq_true', beq_iff_eq] at h
    obtain ⟨⟨⟨⟨⟨⟨⟨⟨⟨_, h0⟩, h1⟩, h2⟩, h3⟩, h4⟩, h5⟩, h6⟩, h7⟩, h8⟩ := h
    have ih := (ex_ok e false h5).1
    have := opd_bracket_trail pre o c t wsA ws1 ws2 h0 ih h1 h2 (closeMatches_isCloseFor h3) h4 h6 h7 h8 e.toks_ne
    exact ⟨expr_first this, fun _ => this⟩
  | .bin e ws1 op ws2 x, inG, h => by
    simp only [Ex.ok, Bool.and_eq_true, List.all_eq_true] at h
    obtain ⟨⟨⟨⟨⟨h1, h2⟩, h3⟩, h4⟩, h5⟩, h6⟩ := h
    have ihe := (ex_ok e inG h1).1
    have ihx := (ex_ok x inG h6).2 h5
    exact ⟨expr_bin ihe ihx (bin3_of_ok h3) h2 h4 x.toks_ne, fun hc => by simp [Ex.isOpd] at hc⟩
  | .suf e s, inG, h => by
    simp only [Ex.ok, Bool.and_eq_true] at h
    have ihe := (ex_ok e inG h.1).1
    exact ⟨expr_suf ihe s h.2, fun hc => by simp [Ex.isOpd] at hc⟩
  | .lst e ws x, inG, h => by
    simp only [Ex.ok, Bool.and_eq_true, List.all_eq_true, List.any_eq_true, Bool.not_eq_true'] at h
    obtain ⟨⟨⟨⟨⟨⟨_, h1⟩, h2⟩, h3⟩, h4⟩, h5⟩, h6⟩ := h
    have ihe := (ex_ok e inG h1).1
    rw [h2] at ihe
    have ihx := (ex_ok x inG h6).2 h5
    refine ⟨expr_list ihe (listOpd_of_ex x h6 h5 ihx)
      (fun w hw => gfill_mono (fun hh => by simp only [Bool.and_eq_true] at hh; exact hh.2) (h3 w hw)) ?_,
      fun hc => by simp [Ex.isOpd] at hc⟩
    obtain ⟨w, hw, hwt⟩ := h4
    refine ⟨w, hw, ?_⟩
    unfold setsList
    simp only [Bool.or_eq_true, Bool.and_eq_true, beq_iff_eq] at hwt ⊢
    rcases hwt with hwt | ⟨_, hwt⟩
    · exact Or.inl hwt
    · exact Or.inr hwt
  | .sep e ws1 t ws2 x, inG, h => by
    simp only [Ex.ok, Bool.and_eq_true, List.all_eq_true, Bool.not_eq_true'] at h
    obtain ⟨⟨⟨⟨⟨⟨⟨_, h0⟩, h1⟩, h2⟩, h3⟩, h4⟩, h5⟩, h6⟩ := h
    subst h0
    have ihe := (ex_ok e false h1).1
    have ihx := (ex_ok x false h6).2 h5
    obtain ⟨th, tr, htr, hcl⟩ := opd_head x h6 h5
    have hcl' : isPrefixTok th = true ∨ isAtom10 th = true ∨ isOpenTok th = true := by
      rcases hcl with ⟨h | h, _⟩ | ⟨h, _⟩
      · exact Or.inl h
      · exact Or.inr (Or.inr h)
      · exact Or.inr (Or.inl h)
    exact ⟨expr_sep ihe ihx h3 h2 h4 x.toks_ne (fun r => by rw [htr]; exact opd_head_class hcl' _),
      fun hc => by simp [Ex.isOpd] at hc⟩
  | .brC pre o wsA e ws1 k wsB c, _, h => by
    simp only [Ex.ok, Bool.and_eq_true, List.all_eq_true] at h
    obtain ⟨⟨⟨⟨⟨⟨⟨⟨_, h1⟩, h2⟩, h3⟩, h4⟩, h5⟩, h6⟩, h7⟩, h8⟩ := h
    have ih := (ex_ok e (Ex.opensGroup o) h5).1
    have := opd_bracket_comma pre o c k wsA ws1 wsB ih h1 h2 (closeMatches_isCloseFor h3)
      (fun w hw => fill_of_triv_or (h4 w hw)) h6 h7 h8 e.toks_ne
    exact ⟨expr_first this, fun _ => this⟩
  | .lead op ws x, inG, h => by
    simp only [Ex.ok, Bool.and_eq_true, List.all_eq_true] at h
    obtain ⟨⟨⟨⟨_, h1⟩, h2⟩, h3⟩, h4⟩ := h
    have ihx := (ex_ok x inG h4).2 h3
    exact ⟨expr_lead ihx h1 h2 x.toks_ne, fun hc => by simp [Ex.isOpd] at hc⟩

theorem opt_not_trimmable {op : PToken} (h : isOptTok op = true) : isTrimmable op = false := by
  unfold isOptTok at h
  cases hc : isTrimmable op with
  | false => rfl
  | true =>
    simp only [isTrimmable, Bool.or_eq_true, beq_iff_eq] at hc
    rcases hc with hc | hc <;> rw [hc] at h <;> cases h

theorem open_not_trimmable {o : PToken} (h : isOpenTok o = true) : isTrimmable o = false := by
  unfold isOpenTok at h
  unfold isTrimmable
  simp only [Bool.or_eq_true, beq_iff_eq] at h
  rcases h with h | h <;> rw [h] <;> rfl

theorem close_not_trimmable {o c : PToken} (h : Ex.closeMatches o c = true) : isTrimmable c = false := by
  unfold Ex.closeMatches at h
  unfold isTrimmable
  simp only [Bool.or_eq_true, Bool.and_eq_true, beq_iff_eq] at h
  rcases h with ⟨_, h⟩ | ⟨_, h⟩ <;> rw [h] <;> rfl

theorem ex_head {F : Fl} : ∀ (e : Ex) (inG : Bool), e.ok F inG = true → ∃ t rest, e.toks = t :: rest ∧ isTrimmable t = false
  | .atom pre a, _, h => by
    simp only [Ex.ok, Bool.and_eq_true, List.all_eq_true] at h
    cases pre with
    | nil => exact ⟨a, [], rfl, atom10_not_trimmable h.2⟩
    | cons p ps => exact ⟨p, ps ++ [a], rfl, prefix_not_trimmable (h.1 p (List.mem_cons_self ..))⟩
  | .br pre o wsA e wsB c, _, h => by
    simp only [Ex.ok, Bool.and_eq_true, List.all_eq_true] at h
    obtain ⟨⟨⟨⟨⟨h1, h2⟩, h3⟩, h4⟩, h5⟩, h6⟩ := h
    cases pre with
    | nil => exact ⟨o, _, rfl, open_not_trimmable h2⟩
    | cons p ps => exact ⟨p, _, rfl, prefix_not_trimmable (h1 p (List.mem_cons_self ..))⟩
  | .brT pre o wsA e ws1 t ws2 c, _, h => by
    simp only [Ex.ok, Bool.and_eq_true, List.all_eq_true] at h
    cases pre with
    | nil => exact ⟨o, _, rfl, open_not_trimmable h.1.1.1.1.1.1.2⟩
    | cons p ps => exact ⟨p, _, rfl, prefix_not_trimmable (h.1.1.1.1.1.1.1.2 p (List.mem_cons_self ..))⟩
  | .bin e ws1 op ws2 x, inG, h => by
    simp only [Ex.ok, Bool.and_eq_true, List.all_eq_true] at h
    obtain ⟨t, rest, h1, h2⟩ := ex_head e inG h.1.1.1.1.1
    exact ⟨t, rest ++ (ws1 ++ (op :: (ws2 ++ x.toks))), by simp [Ex.toks, h1], h2⟩
  | .suf e s, inG, h => by
    simp only [Ex.ok, Bool.and_eq_true] at h
    obtain ⟨t, rest, h1, h2⟩ := ex_head e inG h.1
    exact ⟨t, rest ++ [s], by simp [Ex.toks, h1], h2⟩
  | .lst e ws x, inG, h => by
    simp only [Ex.ok, Bool.and_eq_true] at h
    obtain ⟨t, rest, h1, h2⟩ := ex_head e inG h.1.1.1.1.1.2
    exact ⟨t, rest ++ (ws ++ x.toks), by simp [Ex.toks, h1], h2⟩
  | .sep e ws1 t ws2 x, inG, h => by
    simp only [Ex.ok, Bool.and_eq_true] at h
    obtain ⟨t', rest, h1, h2⟩ := ex_head e inG h.1.1.1.1.1.2
    exact ⟨t', rest ++ (ws1 ++ (t :: (ws2 ++ x.toks))), by simp [Ex.toks, h1], h2⟩
  | .brC pre o wsA e ws1 k wsB c, _, h => by
    simp only [Ex.ok, Bool.and_eq_true, List.all_eq_true] at h
    cases pre with
    | nil => exact ⟨o, _, rfl, open_not_trimmable h.1.1.1.1.1.1.2⟩
    | cons p ps => exact ⟨p, _, rfl, prefix_not_trimmable (h.1.1.1.1.1.1.1.2 p (List.mem_cons_self ..))⟩
  | .lead op ws x, _, h => by
    simp only [Ex.ok, Bool.and_eq_true] at h
    exact ⟨op, _, rfl, opt_not_trimmable h.1.1.1.2⟩

theorem ex_last {F : Fl} : ∀ (e : Ex) (inG : Bool), e.ok F inG = true → ∃ init t, e.toks = init ++ [t] ∧ isTrimmable t = false
  | .atom pre a, _, h => by
    simp only [Ex.ok, Bool.and_eq_true, List.all_eq_true] at h
    exact ⟨pre, a, rfl, atom10_not_trimmable h.2⟩
  | .br pre o wsA e wsB c, _, h => by
    simp only [Ex.ok, Bool.and_eq_true, List.all_eq_true] at h
    obtain ⟨⟨⟨⟨⟨h1, h2⟩, h3⟩, h4⟩, h5⟩, h6⟩ := h
    exact ⟨pre ++ (o :: (wsA ++ (e.toks ++ wsB))), c, by simp [Ex.toks], close_not_trimmable h3⟩
  | .brT pre o wsA e ws1 t ws2 c, _, h => by
    simp only [Ex.ok, Bool.and_eq_true, List.all_eq_true] at h
    exact ⟨pre ++ (o :: (wsA ++ (e.toks ++ (ws1 ++ (t :: ws2))))), c, by simp [Ex.toks],
      close_not_trimmable h.1.1.1.1.1.2⟩
  | .bin e ws1 op ws2 x, inG, h => by
    simp only [Ex.ok, Bool.and_eq_true, List.all_eq_true] at h
    obtain ⟨init, t, h1, h2⟩ := ex_last x inG h.2
    exact ⟨e.toks ++ (ws1 ++ (op :: (ws2 ++ init))), t, by simp [Ex.toks, h1], h2⟩
  | .suf e s, _, h => by
    simp only [Ex.ok, Bool.and_eq_true] at h
    exact ⟨e.toks, s, rfl, suffix_not_trimmable h.2⟩
  | .lst e ws x, inG, h => by
    simp only [Ex.ok, Bool.and_eq_true] at h
    obtain ⟨init, t, h1, h2⟩ := ex_last x inG h.2
    exact ⟨e.toks ++ (ws ++ init), t, by simp [Ex.toks, h1], h2⟩
  | .sep e ws1 t ws2 x, inG, h => by
    simp only [Ex.ok, Bool.and_eq_true] at h
    obtain ⟨init, t', h1, h2⟩ := ex_last x inG h.2
    exact ⟨e.toks ++ (ws1 ++ (t :: (ws2 ++ init))), t', by simp [Ex.toks, h1], h2⟩
  | .brC pre o wsA e ws1 k wsB c, _, h => by
    simp only [Ex.ok, Bool.and_eq_true, List.all_eq_true] at h
    exact ⟨pre ++ (o :: (wsA ++ (e.toks ++ (ws1 ++ (k :: wsB))))), c, by simp [Ex.toks],
      close_not_trimmable h.1.1.1.1.1.2⟩
  | .lead op ws x, inG, h => by
    simp only [Ex.ok, Bool.and_eq_true] at h
    obtain ⟨init, t', h1, h2⟩ := ex_last x inG h.2
    exact ⟨op :: (ws ++ init), t', by simp [Ex.toks, h1], h2⟩

theorem finish_gen {st : PState} {T : Tree} {rt : Nat}
    (hcomp : checkComposition st.previousSecondDef .none st.checkForList = true) (hgs : st.groupStack = #[])
    (htree : IsTreeAt st.nodes none (some rt) T) (hnd : T.inorder.Nodup) (h0 : 0 ∈ T.inorder) (hpos : 0 < st.nodes.size) :
    ∃ r, finish st = .ok r ∧ toTree r = some T ∧ r.nodes = st.nodes := by
  have hsome : ∃ nd0, st.nodes[0]? = some nd0 := by
    cases hnd0 : st.nodes[0]? with
    | none => rw [Array.getElem?_eq_none_iff] at hnd0; omega
    | some nd => exact ⟨nd, rfl⟩
  obtain ⟨nd0, hnd0⟩ := hsome
  have hne : st.nodes.isEmpty = false := by
    cases hsz : st.nodes.isEmpty with
    | false => rfl
    | true =>
      have h2 : st.nodes = #[] := by simpa using hsz
      rw [h2] at hpos; simp at hpos
  refine ⟨{ root := rt, nodes := st.nodes }, ?_, ?_, rfl⟩
  · unfold finish
    rw [hcomp, hgs]
    simp only [Bool.not_true, Bool.false_eq_true, if_false, hne,
      show (#[] : Array (Nat × Bool)).isEmpty = true from rfl, hnd0, rootLoop_ok htree hnd 0 nd0 h0 hnd0,
      Outcome.bind]
  · rw [toTree_some_iff]
    refine ⟨?_, hnd⟩
    simp only [rootLink, hne, Bool.false_eq_true, if_false]
    exact htree

theorem finish_U {stF : PState} {E : Tree} {re cb : Nat} (hinv : UInv stF none none 0 E re cb)
    (hgs : stF.groupStack = #[]) :
    ∃ r, finish stF = .ok r ∧ toTree r = some E ∧ r.nodes = stF.nodes :=
  finish_gen (hinv.comp .none (by decide)) hgs hinv.n.tree hinv.n.inord.nodup hinv.n.first hinv.n.pos

theorem openB_init : OpenB PState.init none :=
  ⟨rfl, rfl, rfl, rfl, rfl, Or.inl ⟨rfl, rfl⟩, Or.inl rfl⟩

theorem ex_trim {F : Fl} (e : Ex) (hok : e.ok F false = true) :
    isTrimmable (e.toks.head e.toks_ne) = false ∧ isTrimmable (e.toks.getLast e.toks_ne) = false := by
  obtain ⟨th, trest, hth, hthn⟩ := ex_head e false hok
  obtain ⟨tinit, tl, htl, htln⟩ := ex_last e false hok
  refine ⟨?_, ?_⟩
  · have : e.toks.head e.toks_ne = th := by simp [hth]
    rw [this]; exact hthn
  · have : e.toks.getLast e.toks_ne = tl := by simp [htl]
    rw [this]; exact htln

theorem refParse_ex {F : Fl} (e : Ex) (hok : e.ok F false = true) :
    refParse Table.gen e.toks = refLoop Table.gen Frame.top [] 0 e.toks :=
  refParse_noTrim Table.gen ⟨e.toks_ne, (trim_id _ e.toks_ne (ex_trim e hok).1 (ex_trim e hok).2).2⟩

theorem ex_refLoop_shift {F : Fl} (e : Ex) (hok : e.ok F false = true) {k : Nat} {x : RTree}
    (h : refLoop Table.gen Frame.top [] k e.toks = .ok x) : ∃ rt, refParse Table.gen e.toks = .ok rt ∧ x = rt.shift k := by
  rw [refLoop_top_shift, ← refParse_ex e hok] at h
  cases hr : refParse Table.gen e.toks with
  | ok rt => rw [hr] at h; exact ⟨rt, rfl, (Outcome.ok.inj h).symm⟩
  | _ => rw [hr] at h; cases h

theorem getLast_of_eq_append {l init : List PToken} {t : PToken} (hne : l ≠ []) (h : l = init ++ [t]) :
    l.getLast hne = t := by subst h; simp

theorem parse_notrim {toks : List PToken} (hne : toks ≠ []) (hh : isTrimmable (toks.head hne) = false)
    (hl : isTrimmable (toks.getLast hne) = false) : parse toks = Outcome.bind (loop PState.init toks) finish := by
  have he : toks.isEmpty = false := isEmpty_append_of_ne [] hne
  unfold parse
  rw [(trim_id _ hne hh hl).1]
  simp only [Outcome.bind, he, Bool.false_eq_true, if_false]

theorem ex_append_ends {F : Fl} (e : Ex) (hok : e.ok F false = true) (mid : List PToken) {z : PToken}
    (hz : isTrimmable z = false) :
    ∃ hne : e.toks ++ (mid ++ [z]) ≠ [], isTrimmable ((e.toks ++ (mid ++ [z])).head hne) = false ∧
      isTrimmable ((e.toks ++ (mid ++ [z])).getLast hne) = false := by
  obtain ⟨th, trest, hth, hthn⟩ := ex_head e false hok
  have hne : e.toks ++ (mid ++ [z]) ≠ [] := List.append_ne_nil_of_left_ne_nil e.toks_ne _
  refine ⟨hne, ?_, ?_⟩
  · have : (e.toks ++ (mid ++ [z])).head hne = th := by simp [hth]
    rw [this]; exact hthn
  · rw [getLast_of_eq_append hne (List.append_assoc ..).symm]; exact hz

/-- **an expression of the fragment at the start of the input**, whatever the positions of its tokens: the state after it
    satisfies `UInv` at top level; when the tokens are numbered, the reference parser has read them to the reference tree -/
theorem ex_run {F : Fl} (e : Ex) (hok : e.ok F false = true) (rest : List PToken) :
    ∃ (st1 : PState) (E : Tree) (re cb : Nat),
      loop PState.init (e.toks ++ rest) = loop st1 rest ∧ UInv st1 none none 0 E re cb ∧ st1.groupStack = #[] ∧
      st1.currentGroup = none ∧ E.inorder.length + e.garb = st1.nodes.size ∧
      ∀ pos, NumberedFrom pos e.toks → ExprRef false pos e.toks (toRG (dfOf st1.nodes) E) e.endsSuffix := by
  obtain ⟨st1, E, re, cb, hloop, h, href⟩ :=
    (ex_ok e false hok).1 PState.init none none 0 openB_init (.top rfl rfl) (by intro i nd h; simp [PState.init] at h) rfl
      rfl (Or.inl rfl) rest
  exact ⟨st1, E, re, cb, hloop, h.inv, h.gs, h.cg, h.cnt, href⟩

theorem refParse_of_exprRef {F : Fl} (e : Ex) (hok : e.ok F false = true) {T : RTree}
    (h : ExprRef false 0 e.toks T e.endsSuffix) : refParse Table.gen e.toks = .ok T := by
  have := (h Frame.top rfl rfl rfl).loop [] []
  simp only [List.append_nil] at this
  rw [refParse_ex e hok, this]
  unfold refLoop
  cases e.endsSuffix <;> simp

/-- **syntax form of the stage theorems**: for an expression of the fragment the model of `parse` accepts, the result is a
    proper tree whose nodes come in token order and are all nodes of the array but the `garb` unlinked separator nodes; and when the
    tokens are numbered from 0 it is the reference tree -/
theorem parse_ex_full {F : Fl} (e : Ex) (hok : e.ok F false = true) :
    ∃ r t, parse e.toks = .ok r ∧ toTree r = some t ∧ SortedIn 0 r.nodes.size t.inorder ∧
      t.inorder.length + e.garb = r.nodes.size ∧
      (NumberedFrom 0 e.toks → refParse Table.gen e.toks = .ok (toRG (dfOf r.nodes) t)) := by
  obtain ⟨st1, E, re, cb, hloop, hinv, hgs, _, hcnt, href⟩ := ex_run e hok []
  simp only [List.append_nil] at hloop
  obtain ⟨r, hr, ht, hn⟩ := finish_U hinv hgs
  refine ⟨r, E, ?_, ht, by rw [hn]; exact hinv.n.inord, by rw [hn]; exact hcnt,
    fun hnum => by rw [hn]; exact refParse_of_exprRef e hok (href 0 hnum)⟩
  rw [parse_notrim e.toks_ne (ex_trim e hok).1 (ex_trim e hok).2, hloop]
  exact hr

theorem parse_ex {F : Fl} (e : Ex) (hok : e.ok F false = true) (hnum : NumberedFrom 0 e.toks) :
    ∃ r t, parse e.toks = .ok r ∧ toTree r = some t ∧ refParse Table.gen e.toks = .ok (toRG (dfOf r.nodes) t) := by
  obtain ⟨r, t, h1, h2, _, _, h5⟩ := parse_ex_full e hok
  exact ⟨r, t, h1, h2, h5 hnum⟩

inductive PMode where
  | opd
  | tail (e : Ex) (inG : Bool)
  | expr (inG : Bool)

def isCloserTok (t : PToken) : Bool :=
  t.type == .endGroup || t.type == .endExpression || t.type == .endSideEffect

/-- recursive-descent recogniser with fuel: returns the syntax tree and the unconsumed tokens -/
def parseG (F : Fl) : Nat → PMode → List PToken → Option (Ex × List PToken)
  | 0, _, _ => none
  | fuel + 1, .expr inG, toks =>
    match toks with
    | [] => none
    | t :: r =>
      if F.C && isOptTok t then
        let ws := r.takeWhile isTriviaTok
        match parseG F fuel .opd (r.dropWhile isTriviaTok) with
        | none => none
        | some (x, r2) => parseG F fuel (.tail (.lead t ws x) inG) r2
      else
        match parseG F fuel .opd toks with
        | none => none
        | some (x, r2) => parseG F fuel (.tail x inG) r2
  | fuel + 1, .opd, toks =>
    let pre := toks.takeWhile isPrefixTok
    match toks.dropWhile isPrefixTok with
    | [] => none
    | a :: r =>
      if isAtom10 a then some (.atom pre a, r)
      else if isOpenTok a then
        let fillA := fun w => isTriviaTok w || (F.S && isSepTok w)
        let wsA := r.takeWhile fillA
        match parseG F fuel (.expr (Ex.opensGroup a)) (r.dropWhile fillA) with
        | none => none
        | some (e, r3) =>
          let fillB := isGFill (F.S && Ex.opensGroup a)
          let wsB := r3.takeWhile fillB
          match r3.dropWhile fillB with
          | [] => none
          | c :: r5 =>
            if Ex.closeMatches a c then some (.br pre a wsA e wsB c, r5)
            else if F.S && !Ex.opensGroup a && c.type == .subexpression then
              let ws2 := r5.takeWhile isFillTok
              match r5.dropWhile isFillTok with
              | [] => none
              | c2 :: r6 => if Ex.closeMatches a c2 then some (.brT pre a wsA e wsB c ws2 c2, r6) else none
            else if F.C && isCommaTok c then
              let wsC := r5.takeWhile isTriviaTok
              match r5.dropWhile isTriviaTok with
              | [] => none
              | c2 :: r6 => if Ex.closeMatches a c2 then some (.brC pre a wsA e wsB c wsC c2, r6) else none
            else none
      else none
  | fuel + 1, .tail e inG, toks =>
    let fillG := isGFill (F.S && inG)
    let ws := toks.takeWhile fillG
    match toks.dropWhile fillG with
    | [] => some (e, toks)
    | t :: r1 =>
      if isBinopTok t || (F.C && isOptTok t) then
        let ws2 := r1.takeWhile isTriviaTok
        match r1.dropWhile isTriviaTok with
        | [] => some (e, toks)
        | h :: r2 =>
          if isCloserTok h then some (e, toks)
          else
            match parseG F fuel .opd (h :: r2) with
            | none => none
            | some (x, r3) => parseG F fuel (.tail (.bin e ws t ws2 x) inG) r3
      else if ws.isEmpty && isSuffixTok t then parseG F fuel (.tail (.suf e t) inG) r1
      else if F.L && !e.endsSuffix && ws.any (fun w => w.type == .whitespace || (F.S && inG && isSepTok w)) &&
          (isPrefixTok t || isAtom10 t || isOpenTok t) then
        match parseG F fuel .opd (t :: r1) with
        | none => none
        | some (x, r3) => parseG F fuel (.tail (.lst e ws x) inG) r3
      else if F.S && !inG && isSepTok t then
        let ws2 := r1.takeWhile isFillTok
        match r1.dropWhile isFillTok with
        | [] => some (e, toks)
        | h :: r2 =>
          if isPrefixTok h || isAtom10 h || isOpenTok h then
            match parseG F fuel .opd (h :: r2) with
            | none => none
            | some (x, r3) => parseG F fuel (.tail (.sep e ws t ws2 x) inG) r3
          else some (e, toks)
      else some (e, toks)

def exOf (F : Fl) (toks : List PToken) : Option Ex :=
  match parseG F (3 * toks.length + 6) (.expr false) toks with
  | some (e, []) => some e
  | _ => none

/-- the fragment with brackets and the features `F` -/
def fragF (F : Fl) (toks : List PToken) : Bool :=
  match exOf F toks with
  | some e => e.ok F false && decide (e.toks = toks)
  | none => false

theorem fragF_sound {F : Fl} {toks : List PToken} (h : fragF F toks = true) :
    ∃ e : Ex, e.ok F false = true ∧ e.toks = toks := by
  unfold fragF at h
  cases he : exOf F toks with
  | none => simp [he] at h
  | some e =>
    simp only [he, Bool.and_eq_true, decide_eq_true_eq] at h
    exact ⟨e, h.1, h.2⟩

/-- groups and nested expressions -/
def frag5 (toks : List PToken) : Bool := fragF ⟨false, false, false⟩ toks
/-- … and implicit space lists -/
def frag6 (toks : List PToken) : Bool := fragF ⟨true, false, false⟩ toks
/-- … and `,` / infix identifiers between two operands -/
def frag7 (toks : List PToken) : Bool := fragF ⟨true, true, false⟩ toks
/-- … and separators (blank lines, `;`) -/
def frag8 (toks : List PToken) : Bool := fragF ⟨true, true, true⟩ toks

/-- **the stage theorems**: acceptance, proper tree, reference tree -/
theorem parse_fragF {F : Fl} (toks : List PToken) (hf : fragF F toks = true) (hnum : NumberedFrom 0 toks) :
    ∃ r t, parse toks = .ok r ∧ toTree r = some t ∧ refParse Table.gen toks = .ok (toRG (dfOf r.nodes) t) := by
  obtain ⟨e, hok, rfl⟩ := fragF_sound hf
  exact parse_ex e hok hnum

/-- **an expression followed by a comma at the very end**: the comma keeps its left operand only -/
theorem parse_ex_comma_full {F : Fl} (e : Ex) (hok : e.ok F false = true) (ws1 : List PToken) (k : PToken)
    (hw1 : ∀ w ∈ ws1, isTriviaTok w = true) (hk : isCommaTok k = true)
    (hnum : NumberedFrom 0 (e.toks ++ (ws1 ++ [k]))) :
    ∃ r t, parse (e.toks ++ (ws1 ++ [k])) = .ok r ∧ toTree r = some t ∧
      refParse Table.gen (e.toks ++ (ws1 ++ [k])) = .ok (toRG (dfOf r.nodes) t) ∧
      SortedIn 0 r.nodes.size t.inorder ∧ t.inorder.length + e.garb = r.nodes.size := by
  obtain ⟨hk3, hkd⟩ := comma_facts hk
  have hne : e.toks ++ (ws1 ++ [k]) ≠ [] := List.append_ne_nil_of_left_ne_nil e.toks_ne _
  obtain ⟨th, trest, hth, hthn⟩ := ex_head e false hok
  have hhead : isTrimmable ((e.toks ++ (ws1 ++ [k])).head hne) = false := by
    have : (e.toks ++ (ws1 ++ [k])).head hne = th := by simp [hth]
    rw [this]; exact hthn
  have hktr : isTrimmable k = false := by
    unfold isCommaTok at hk
    have : k.type = .comma := by simpa using hk
    simp only [isTrimmable, this]; rfl
  have hlast : isTrimmable ((e.toks ++ (ws1 ++ [k])).getLast hne) = false := by
    rw [getLast_of_eq_append hne (List.append_assoc ..).symm]; exact hktr
  have hnume := numbered_prefix e.toks _ 0 hnum
  have hnumK := numbered_append ws1 [k] _ (numbered_append e.toks _ 0 hnum)
  have hkcol : k.col = 0 + e.toks.length + ws1.length := hnumK.1
  obtain ⟨st1, E, re, cb, hloop, hinv, hgs, hcg, hcnt, href⟩ := ex_run e hok (ws1 ++ [k])
  obtain ⟨st1', hloopW, hinv', hn1', hgs1', hcg1'⟩ := trivia_runU ws1 st1 [k] hinv hw1
  obtain ⟨nodes', info, hpt, hir, hI, _⟩ := core_effectU hinv' .commaList 900 false none rfl (by omega)
  have hsz' := hI.size
  have hpt' : parseToken st1'.nodes.size (getDefinition k.type).1 st1'.lastLeft none st1'.nodes none
      ((getDefinition k.type).2 == .binaryRightToLeft) = .ok (nodes', info) := by rw [hkd]; exact hpt
  obtain ⟨st2, h2, hn2, hl2, hc2, hnl2, hgs2, hcg2, hp2, _⟩ := step_bin3_okG st1' k true hk3 hinv'.nnl hinv'.hug hinv'.adjust
    (hinv'.comp_binop _ (by rw [hkd]; exact Or.inr (Or.inr rfl))) (by rw [if_pos rfl]; exact hpt')
  rw [hkd, hir] at hn2
  simp only at hn2
  have hs2 : st2.nodes.size = st1'.nodes.size + 1 := by rw [hn2]; simp [hsz']
  have hC2 : st2.nodes[st1'.nodes.size]? =
      some ⟨.commaList, .optionalBinaryLeftToRight, info.parent, info.left, none, k⟩ := by
    rw [hn2, Array.getElem?_push, if_pos hsz'.symm]
  have hlt2 : ∀ j, j < st1'.nodes.size → st2.nodes[j]? = nodes'[j]? := by
    intro j hj; rw [hn2, Array.getElem?_push, if_neg (by omega)]
  obtain ⟨re', hN, hin2, hdefs2⟩ := hI.closeNil hinv' hlt2 hC2 rfl rfl rfl hs2 (q' := 900) rfl
  have hsorted := hN.inord
  obtain ⟨r, hr, ht, hn⟩ := finish_gen (st := st2) (by rw [hp2, hc2, hkd]; rfl) (by rw [hgs2, hgs1', hgs]) hN.tree
    hN.inord.nodup hN.first hN.pos
  refine ⟨r, _, ?_, ht, ?_, by rw [hn]; exact hsorted, ?_⟩
  rotate_left 2
  · have hpos := hinv'.n.pos
    rw [hn, hin2, hs2, hn1']
    simp only [List.length_append, List.length_cons, List.length_nil]
    omega
  · rw [parse_notrim hne hhead hlast, hloop, hloopW]
    simp only [loop, List.isEmpty_nil, h2, Outcome.bind]
    exact hr
  · let fE : Frame :=
      { Frame.top with cur := toRG (dfOf st1.nodes) E, last := (if e.endsSuffix then Last.suffix else Last.operand),
                       ws := false, prevSep := false }
    obtain ⟨b1, hb1⟩ := refSeg_trivia ws1 hw1 (0 + e.toks.length) fE
    have hst := ref_op_stepK { fE with ws := b1 } [] (0 + e.toks.length + ws1.length) 900 k [] hk3 (by rw [hkd]; rfl)
      (by cases e.endsSuffix <;> simp [fE])
    have hrun := refLoop_of_run
      (refRun_append_ok (href 0 hnume Frame.top rfl rfl rfl [] _) (refRun_append_ok (hb1 [] _) (refRun_one hst)))
    rw [List.append_nil] at hrun
    rw [refParse_noTrim Table.gen ⟨hne, (trim_id _ hne hhead hlast).2⟩, hrun, hkd]
    unfold refLoop
    have hdn : dfOf st2.nodes st1'.nodes.size = .commaList := by simp [dfOf, hC2]
    have hcur : attach Table.gen 900 false Definition.commaList (0 + e.toks.length + ws1.length) (toRG (dfOf st1.nodes) E) =
        toRG (dfOf st2.nodes) (insertC cb (prioAt st1'.nodes) 900 false st1'.nodes.size k.col .nil E) := by
      rw [← hn1', hkcol]
      exact attach_toRG_nil hinv'.n hinv'.spine hdefs2 hdn rfl 900 false _
    have hrtl : (SecDef.optionalBinaryLeftToRight == SecDef.binaryRightToLeft) = false := rfl
    simp only [fE, hrtl, hcur, lastAfter, hn]
    simp
    rfl

theorem parse_ex_comma {F : Fl} (e : Ex) (hok : e.ok F false = true) (ws1 : List PToken) (k : PToken)
    (hw1 : ∀ w ∈ ws1, isTriviaTok w = true) (hk : isCommaTok k = true)
    (hnum : NumberedFrom 0 (e.toks ++ (ws1 ++ [k]))) :
    ∃ r t, parse (e.toks ++ (ws1 ++ [k])) = .ok r ∧ toTree r = some t ∧
      refParse Table.gen (e.toks ++ (ws1 ++ [k])) = .ok (toRG (dfOf r.nodes) t) := by
  obtain ⟨r, t, h1, h2, h3, _⟩ := parse_ex_comma_full e hok ws1 k hw1 hk hnum
  exact ⟨r, t, h1, h2, h3⟩

/-- `expr trivia* ,` -/
def fragTC (F : Fl) (toks : List PToken) : Bool :=
  match toks.reverse with
  | [] => false
  | k :: r =>
    isCommaTok k && fragF F (r.dropWhile isTriviaTok).reverse

theorem fragTC_sound {F : Fl} {toks : List PToken} (h : fragTC F toks = true) :
    ∃ (e : Ex) (ws1 : List PToken) (k : PToken), e.ok F false = true ∧ (∀ w ∈ ws1, isTriviaTok w = true) ∧
      isCommaTok k = true ∧ toks = e.toks ++ (ws1 ++ [k]) := by
  unfold fragTC at h
  cases hr : toks.reverse with
  | nil => rw [hr] at h; cases h
  | cons k r =>
    rw [hr] at h
    simp only [Bool.and_eq_true] at h
    obtain ⟨e, hok, he⟩ := fragF_sound h.2
    refine ⟨e, (r.takeWhile isTriviaTok).reverse, k, hok, ?_, h.1, ?_⟩
    · intro w hw
      rw [List.mem_reverse] at hw
      exact mem_takeWhile_imp _ _ _ hw
    · have : toks = (k :: r).reverse := by rw [← hr, List.reverse_reverse]
      rw [this, he]
      have hsplit : r.reverse = (r.dropWhile isTriviaTok).reverse ++ (r.takeWhile isTriviaTok).reverse := by
        rw [← List.reverse_append, List.takeWhile_append_dropWhile]
      simp [hsplit]

end Garnish.Spec
