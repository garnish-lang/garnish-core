/-
C09: what each operation of `SimpleNumber` means on two integers in `i32` range (`intSpec`: the closed formulas of Spec/Num, `none`
on overflow, never a wrapped value) and the one exactness theorem over it (`apply_int`). `partialCmp_int_cases` is the trichotomy of
two integers under `partial_cmp`; the `num*_int` tests of Lemmas/Casts and Lemmas/Ops are read off it.
-/
import Garnish.Spec.Num
set_option linter.unusedSimpArgs false
namespace Garnish.Lemmas
open Garnish Garnish.Number

theorem wrap_of_inRange {x : Int} (h : InRange x) : wrap x = x := by
  unfold InRange at h; unfold wrap; omega

theorem ovf_eq (x : Int) : ovf x = if InRange x then (x, false) else (wrap x, true) := by
  unfold ovf
  by_cases h : InRange x
  · simp [h, wrap_of_inRange h]
  · simp [h]

theorem exact_eq_some {x r : Int} : Spec.exact x = some r ↔ x = r ∧ InRange r := by
  unfold Spec.exact; split <;> simp_all <;> rintro rfl <;> assumption

theorem exact_eq_none {x : Int} : Spec.exact x = none ↔ ¬ InRange x := by
  unfold Spec.exact; split <;> simp_all

variable {F : Type} (fo : FloatOps F)

theorem map_int_eq_some {o : Option Int} {r : Int} : o.map (Number.int (F := F)) = some (.int r) ↔ o = some r := by
  cases o <;> simp

theorem doOp_int (iop : Int → Int → Int × Bool) (fop : F → F → F) (a b : Int) :
    doOp fo iop fop (.int a) (.int b) = if (iop a b).2 then none else some (.int (iop a b).1) := by
  simp [doOp]

theorem exact_map (x : Int) :
    (Spec.exact x).map (Number.int (F := F)) = if InRange x then some (.int x) else none := by
  unfold Spec.exact; split <;> simp

theorem tdiv_inRange_iff (a b : Int) (ha : InRange a) (hb : InRange b) (hb0 : b ≠ 0) :
    InRange (Int.tdiv a b) ↔ ¬ (a = -2147483648 ∧ b = -1) := by
  constructor
  · rintro h ⟨rfl, rfl⟩
    revert h; decide
  · intro h
    unfold InRange at *
    have hab : (Int.tdiv a b).natAbs ≤ a.natAbs := by
      rw [Int.natAbs_tdiv]; exact Nat.div_le_self _ _
    by_cases hb1 : b = -1
    · subst hb1
      have : a ≠ -2147483648 := fun h' => h ⟨h', rfl⟩
      have : Int.tdiv a (-1) = -a := by simp [Int.tdiv_neg]
      omega
    · by_cases hb2 : b = 1
      · subst hb2; simp; omega
      · -- |b| ≥ 2 so |a / b| ≤ |a| / 2
        have h2 : (Int.tdiv a b).natAbs ≤ a.natAbs / 2 := by
          rw [Int.natAbs_tdiv]
          have : 2 ≤ b.natAbs := by omega
          exact Nat.div_le_div_left this (by omega)
        omega

theorem pow_natAbs_ge (a : Int) (n : Nat) (ha : 2 ≤ a.natAbs) : 2 ^ n ≤ (a ^ n).natAbs := by
  rw [Int.natAbs_pow]
  exact Nat.pow_le_pow_left ha n

theorem powExact_eq (a : Int) (n : Nat) :
    powExact a n = if InRange (a ^ n) then some (a ^ n) else none := by
  unfold powExact
  -- `powExact` answers 0, 1 and -1 in closed form and refuses every exponent from 32 on: for the three bases the closed form is the
  -- power, and any other base has |a| ≥ 2, so |a ^ n| ≥ 2 ^ 32 is out of range as soon as n ≥ 32
  by_cases h0 : a = 0
  · subst h0
    cases n with
    | zero => simp; decide
    | succ n => simp [Int.zero_pow]; decide
  by_cases h1 : a = 1
  · subst h1
    have : InRange 1 := by decide
    simp [Int.one_pow, this]
  by_cases hm1 : a = -1
  · subst hm1
    simp only [h0, h1, if_false, if_true]
    have hsq : ∀ k : Nat, (-1 : Int) ^ (2 * k) = 1 := by
      intro k; rw [Int.pow_mul]; simp [Int.one_pow]
    have hr1 : InRange 1 := by decide
    have hrm1 : InRange (-1) := by decide
    rcases Nat.mod_two_eq_zero_or_one n with he | ho
    · have hn : n = 2 * (n / 2) := by omega
      have : (-1 : Int) ^ n = 1 := by rw [hn]; exact hsq _
      simp [he, this, hr1]
    · have hn : n = 2 * (n / 2) + 1 := by omega
      have : (-1 : Int) ^ n = -1 := by rw [hn, Int.pow_succ, hsq]; simp
      simp [ho, this, hrm1]
  simp only [h0, h1, hm1, if_false]
  by_cases hn : 32 ≤ n
  · simp only [hn, if_true]
    have h2 : 2 ≤ a.natAbs := by omega
    have := pow_natAbs_ge a n h2
    have h32 : 2 ^ 32 ≤ 2 ^ n := Nat.pow_le_pow_right (by omega) hn
    have : ¬ InRange (a ^ n) := by
      unfold InRange; omega
    simp [this]
  · simp [hn]

theorem bv_toInt_inRange (v : BitVec 32) : InRange v.toInt := by
  have h1 := BitVec.le_toInt v
  have h2 := BitVec.toInt_lt (x := v)
  unfold InRange
  simp at h1 h2
  omega

theorem ediv_pow2_inRange (a : Int) (k : Nat) (ha : InRange a) : InRange (a / ((2 ^ k : Nat) : Int)) := by
  have hp : 0 < 2 ^ k := Nat.pow_pos (by decide)
  have hpz : (0:Int) < ((2 ^ k : Nat) : Int) := by omega
  have hna := Int.natAbs_ediv a ((2 ^ k : Nat) : Int)
  have hnb : (((2 ^ k : Nat) : Int)).natAbs = 2 ^ k := by simp
  rw [hnb] at hna
  by_cases h0 : 0 ≤ a
  · have h1 := Int.ediv_nonneg h0 (Int.le_of_lt hpz)
    have h2 := Int.ediv_le_self ((2 ^ k : Nat) : Int) h0
    unfold InRange at *; omega
  · have hq : a / ((2 ^ k : Nat) : Int) < 0 := Int.ediv_neg_of_neg_of_pos (by omega) hpz
    have hle : a.natAbs / 2 ^ k ≤ a.natAbs := Nat.div_le_self _ _
    by_cases hk : k = 0
    · subst hk; simp; exact ha
    · have h2 : 2 ≤ 2 ^ k := by
        have : 2 ^ 1 ≤ 2 ^ k := Nat.pow_le_pow_right (by decide) (by omega)
        simpa using this
      have h3 : a.natAbs / 2 ^ k ≤ a.natAbs / 2 := Nat.div_le_div_left h2 (by decide)
      have h4 : (a / ((2 ^ k : Nat) : Int)).natAbs ≤ a.natAbs / 2 + 1 := by
        rw [hna]; split <;> omega
      unfold InRange at *; omega

/-- the shifts have no float form: stated without `FloatOps` -/
theorem shl_int (a b : Int) (_ha : InRange a) (_hb : InRange b) :
    bitwiseShiftLeft (F := F) (.int a) (.int b) = (Spec.shl a b).map .int := by
  simp only [bitwiseShiftLeft, Spec.shl]
  by_cases h : b < 0 ∨ 31 < b
  · have : ¬ (0 ≤ b ∧ b ≤ 31) := by omega
    simp [h, this]
  · have : (0 ≤ b ∧ b ≤ 31) := by omega
    simp [h, this]

theorem shr_int (a b : Int) (_ha : InRange a) (_hb : InRange b) :
    bitwiseShiftRight (F := F) (.int a) (.int b) = (Spec.shr a b).map .int := by
  simp only [bitwiseShiftRight, Spec.shr]
  by_cases h : b < 0 ∨ 31 < b
  · have : ¬ (0 ≤ b ∧ b ≤ 31) := by omega
    simp [h, this]
  · have : (0 ≤ b ∧ b ≤ 31) := by omega
    simp only [h, this, if_false, if_true, Option.map_some, Int.shiftRight_eq_div_pow]
    congr 2
    rw [Int.fdiv_eq_ediv_of_nonneg]
    · simp
    · exact Int.pow_nonneg (show (0:Int) ≤ 2 by decide)

/-- what each of the 17 operations means on two `i32` operands (a unary operation ignores the second) -/
def intSpec : NumOp → Int → Int → Option Int
  | .plus, a, b => Spec.add a b | .subtract, a, b => Spec.sub a b | .multiply, a, b => Spec.mul a b
  | .divide, a, b => Spec.div a b | .integerDivide, a, b => Spec.div a b | .power, a, b => Spec.pow a b
  | .remainder, a, b => Spec.rem a b
  | .absoluteValue, a, _ => Spec.abs a | .opposite, a, _ => Spec.neg a
  | .increment, a, _ => Spec.inc a | .decrement, a, _ => Spec.dec a
  | .bitwiseNot, a, _ => some (~~~ BitVec.ofInt 32 a).toInt
  | .bitwiseAnd, a, b => some (BitVec.ofInt 32 a &&& BitVec.ofInt 32 b).toInt
  | .bitwiseOr, a, b => some (BitVec.ofInt 32 a ||| BitVec.ofInt 32 b).toInt
  | .bitwiseXor, a, b => some (BitVec.ofInt 32 a ^^^ BitVec.ofInt 32 b).toInt
  | .bitwiseShiftLeft, a, b => Spec.shl a b | .bitwiseShiftRight, a, b => Spec.shr a b

theorem apply_int (op : NumOp) (a b : Int) (ha : InRange a) (hb : InRange b) :
    Number.apply fo op (.int a) (.int b) = (intSpec op a b).map .int := by
  cases op <;> simp only [Number.apply, intSpec]
  case plus => simp only [plus, doOp_int, overflowingAdd, ovf_eq, Spec.add, exact_map]; split <;> simp_all
  case subtract => simp only [subtract, doOp_int, overflowingSub, ovf_eq, Spec.sub, exact_map]; split <;> simp_all
  case multiply => simp only [multiply, doOp_int, overflowingMul, ovf_eq, Spec.mul, exact_map]; split <;> simp_all
  case divide =>
    simp only [divide, isZeroNum, doOp_int, overflowingDiv, ovf_eq, Spec.div]
    by_cases hb0 : b = 0
    · simp [hb0]
    · simp only [hb0, beq_iff_eq, if_false, exact_map]
      split <;> simp_all
  case integerDivide =>
    simp only [integerDivide, isZeroNum, overflowingDiv, ovf_eq, Spec.div]
    by_cases hb0 : b = 0
    · simp [hb0]
    · simp only [hb0, beq_iff_eq, if_false, exact_map]
      split <;> simp_all
  case power =>
    simp only [power, Spec.pow]
    by_cases hb0 : b < 0
    · simp [hb0]
    · simp only [hb0, if_false, powExact_eq, exact_map]
      split <;> simp
  case remainder =>
    simp only [remainder, isZeroNum, doOp_int, overflowingRem, Spec.rem]
    by_cases hb0 : b = 0
    · simp [hb0]
    · simp only [hb0, beq_iff_eq, if_false]
      have := tdiv_inRange_iff a b ha hb hb0
      by_cases hc : a = -2147483648 ∧ b = -1
      · have h' : ¬ InRange (Int.tdiv a b) := by rw [this]; simpa using hc
        simp only [if_pos hc, if_neg h']; rfl
      · have h' : InRange (Int.tdiv a b) := by rw [this]; exact hc
        simp only [if_neg hc, if_pos h']; rfl
  case absoluteValue =>
    have : (if a < 0 then -a else a) = (a.natAbs : Int) := by omega
    simp only [absoluteValue, overflowingAbs, ovf_eq, Spec.abs, exact_map, this]
    split <;> simp_all
  case opposite => simp only [opposite, overflowingNeg, ovf_eq, Spec.neg, exact_map]; split <;> simp_all
  case increment => simp only [increment, overflowingAdd, ovf_eq, Spec.inc, exact_map]; split <;> simp_all
  case decrement => simp only [decrement, overflowingSub, ovf_eq, Spec.dec, exact_map]; split <;> simp_all
  case bitwiseNot | bitwiseAnd | bitwiseOr | bitwiseXor => rfl
  case bitwiseShiftLeft => exact shl_int a b ha hb
  case bitwiseShiftRight => exact shr_int a b ha hb

theorem intSpec_inRange {op : NumOp} {a b r : Int} (ha : InRange a) (hb : InRange b)
    (h : intSpec op a b = some r) : InRange r := by
  have ex : ∀ {x : Int}, Spec.exact x = some r → InRange r := fun h => (exact_eq_some.1 h).2
  cases op <;> simp only [intSpec, Spec.add, Spec.sub, Spec.mul, Spec.abs, Spec.neg, Spec.inc, Spec.dec] at h
  case plus | subtract | multiply | absoluteValue | opposite | increment | decrement => exact ex h
  case divide | integerDivide => unfold Spec.div at h; split at h; cases h; exact ex h
  case power => unfold Spec.pow at h; split at h; cases h; exact ex h
  case remainder =>
    unfold Spec.rem at h
    split at h; cases h
    split at h <;> cases h
    -- |a tmod b| < |b|
    have h1 : (Int.tmod a b).natAbs < b.natAbs := by
      rw [Int.natAbs_tmod]; exact Nat.mod_lt _ (by omega)
    unfold InRange at *; omega
  case bitwiseNot | bitwiseAnd | bitwiseOr | bitwiseXor => cases h; exact bv_toInt_inRange _
  case bitwiseShiftLeft =>
    unfold Spec.shl at h; split at h <;> cases h
    unfold wrap InRange; omega
  case bitwiseShiftRight =>
    unfold Spec.shr at h; split at h <;> cases h
    rw [Int.fdiv_eq_ediv_of_nonneg _ (Int.pow_nonneg (by decide))]
    simpa using ediv_pow2_inRange a b.toNat ha

theorem partialCmp_int_cases (a b : Int) :
    (a < b ∧ Number.partialCmp fo (.int a) (.int b) = some .lt) ∨ (a = b ∧ Number.partialCmp fo (.int a) (.int b) = some .eq) ∨
      (b < a ∧ Number.partialCmp fo (.int a) (.int b) = some .gt) := by
  simp only [Number.partialCmp]
  rcases Int.lt_trichotomy a b with h | h | h
  · exact .inl ⟨h, congrArg some (Int.compare_eq_lt.2 h)⟩
  · exact .inr (.inl ⟨h, congrArg some (Int.compare_eq_eq.2 h)⟩)
  · exact .inr (.inr ⟨h, congrArg some (Int.compare_eq_gt.2 h)⟩)

theorem increment_of_inRange {a : Int} (h : InRange (a + 1)) : Number.increment fo (.int a) = some (.int (a + 1)) := by
  simp [Number.increment, Number.overflowingAdd, ovf_eq, h]

theorem doOp_finite {intOp : Int → Int → Int × Bool} {floatOp : F → F → F} {l r : Number F} {f : F}
    (h : doOp fo intOp floatOp l r = some (.float f)) : fo.isFinite f = true := by
  cases l <;> cases r <;> simp only [doOp] at h <;> split at h <;> simp_all

end Garnish.Lemmas
