/-
Text-level rewrites, lexer side (C18): an annotation `@name` inserted inside a run of blanks, directly before a
blank `c`. From inside the Whitespace token (`InWhitespace σ cs`) the text `@name` ends that token with the text `cs`, is
one Annotation token, and the blank starts a new Whitespace token; from there the lexer differs from the one that read
the blank without the annotation only in the pending text (`cs ++ [c]` / `[c]`), positions, and the fields that are dead
inside a whitespace token (`WsRel`). Hence (`lexLoop_annotation`): the whitespace token `W` of the original text is split
into `cs`, the annotation and the rest of `W`, everything else has the same types and texts.
-/
import Garnish.Lemmas.LexPadOperator
namespace Garnish.Model.Lexer
open Garnish.Model Garnish.Model.Parser Garnish.Spec

structure CharClass.SaneAt (cc : CharClass) : Prop where
  atN : cc.isNumeric '@' = false
  atA : cc.isAlphanumeric '@' = false

theorem atFacts : walkOperator theTree ['@'] = none := walk_none_of_not_mem [] '@' (by decide)

theorem starts_at (cc : CharClass) (hcc : cc.SaneAt) : Starts cc '@' .annotation (some .annotation) := by
  exact .of_plain atFacts fun _ => by simp [startPlain, isAsciiWhitespace, isIdentifierChar, hcc.atN, hcc.atA]

theorem sameTT_cons_left {t : LexerToken} {l r : List LexerToken} (h : SameTT (t :: l) r) :
    ∃ t' l', r = t' :: l' ∧ t'.tokenType = t.tokenType ∧ t'.text = t.text ∧ SameTT l l' := by
  cases r with
  | nil => simp [SameTT] at h
  | cons t' l' =>
    simp only [SameTT, List.map_cons, List.cons.injEq, Prod.mk.injEq] at h
    exact ⟨t', l', rfl, h.1.1.symm, h.1.2.symm, h.2⟩

theorem lexLoop_annotation (cc : CharClass) (hcc : cc.SaneBlank) (hat : cc.SaneAt) (σ : Lexer) (cs name : List Char)
    (c : Char) (b : List Char) (toks : List LexerToken) (hw : InWhitespace σ cs) (htr : σ.operatorTree = theTree)
    (hae : σ.atEnd = false) (hname : ∀ x ∈ name, cc.isAlphanumeric x = true ∨ x = '_') (hc : IsBlank c)
    (T : List LexerToken) (σf : Lexer) (hT : lexLoop cc (c :: b) σ toks = .ok (T, σf)) :
    ∃ T' σf' W W2 rest rest', lexLoop cc ('@' :: (name ++ c :: b)) σ toks = .ok (T', σf') ∧ T = toks ++ W :: rest ∧
      T' = toks ++ ⟨cs, .whitespace, σ.tokenStartRow, σ.tokenStartColumn⟩ ::
        ⟨'@' :: name, .annotation, σ.textRow, σ.textColumn⟩ :: W2 :: rest' ∧
      W.text = cs ++ W2.text ∧ W2.tokenType = W.tokenType ∧
      (W.tokenType = .whitespace ∨ W.tokenType = .subexpression) ∧ SameTT rest rest' := by
  obtain ⟨⟨w1, w2, w3, w4, w5⟩, wty⟩ := hw
  have hA : At σ .spaces (some .whitespace) cs (σ.tokenStartRow, σ.tokenStartColumn) (σ.textRow, σ.textColumn)
      σ.startQuoteCount σ.endQuoteCount false := ⟨w1, wty, w2, rfl, rfl, rfl, rfl, w4, w5, htr, hae, rfl, rfl⟩
  -- the original text: the blank continues the token
  obtain ⟨σ1, hp1, hw1, hpe⟩ := inWhitespace_blank cc σ cs c ⟨⟨w1, w2, w3, w4, w5⟩, wty⟩ hc
  have hR : lexLoop cc (c :: b) σ toks = lexLoop cc b σ1 toks := by
    simp only [lexLoop, isErr_of_ok w5, hp1, Bool.false_eq_true, ↓reduceIte]
  rw [hR] at hT
  -- the text with the annotation
  obtain ⟨σ2, hp2, h2⟩ := spaces_emit cc σ '@' hA (by unfold IsBlank; decide) (by decide) (starts_at cc hat)
  have hnameB : ∀ x ∈ name, (cc.isAlphanumeric x || x == '_') = true ∧ x ≠ '@' := by
    intro x hx
    rcases hname x hx with h | h
    · exact ⟨by simp [h], fun e => by rw [e, hat.atA] at h; cases h⟩
    · exact ⟨by simp [h], by rw [h]; decide⟩
  obtain ⟨σ3, r3, h3⟩ := run_ind cc
    (fun cs' p σ' => At σ' .annotation (some .annotation) cs' (σ.textRow, σ.textColumn) p 0 0 false)
    (fun _ x => (cc.isAlphanumeric x || x == '_') = true ∧ x ≠ '@') (fun _ _ _ h => h.ok)
    (fun cs' p σ' x h hx => h.cont (.annCont h.state (by simp [hx.2]) hx.1) h.state h.type (congrArg (· ++ [x]) h.chars) h.sq h.eq)
    name ['@'] _ σ2 (toks ++ [⟨cs, .whitespace, σ.tokenStartRow, σ.tokenStartColumn⟩]) h2
    (fun u x v e => hnameB x (by simp [e]))
  have hE := ending_plain cc hcc .annotation .annotation ('@' :: name) (Or.inr (Or.inr (Or.inr (Or.inl rfl)))) (by decide)
  obtain ⟨e, hs4, he4⟩ := hE _ c _ _ _ _ _ (ender_of_blank hc) (h3.lexed (σ3.charactersLexed + 1))
  obtain ⟨σ4, hp4, h4, hcb4⟩ := emit_step_couldBe cc σ3 e c hs4 he4 (by decide) (starts_blank cc c hc)
  have hrun : runChars cc ('@' :: (name ++ [c])) σ toks = .ok (σ4, toks ++ [⟨cs, .whitespace, σ.tokenStartRow, σ.tokenStartColumn⟩] ++
      [⟨'@' :: name, .annotation, σ.textRow, σ.textColumn⟩]) := by
    rw [runChars_some cc '@' _ σ σ2 toks _ w5 hp2 h2.ok, runChars_append cc name [c] σ2 σ3 _ _ r3,
      runChars_some cc c [] σ3 σ4 _ _ h3.ok hp4 h4.ok]
    rfl
  have hR' : lexLoop cc ('@' :: (name ++ c :: b)) σ toks = lexLoop cc b σ4
      (toks ++ [⟨cs, .whitespace, σ.tokenStartRow, σ.tokenStartColumn⟩] ++ [⟨'@' :: name, .annotation, σ.textRow, σ.textColumn⟩]) := by
    have := lexLoop_append cc ('@' :: (name ++ [c])) b σ σ4 toks _ hrun
    rw [← this]
    simp
  -- the two lexers after the blank
  have hrel : WsRel σ1 σ4 cs [] [c] := by
    obtain ⟨e0, e2, e4, e1, e5, e6, e7, e8, e9, e10⟩ := posEq_erase hpe
    refine ⟨?_, Or.inl hw1.wsA.state, fun _ => ⟨h4.type.trans hw1.type.symm, Or.inl hw1.type⟩, hw1.wsA.chars,
      by simp [h4.chars]⟩
    rw [posEq_iff]
    refine ⟨?_, rfl, rfl, ?_, ?_, rfl, rfl, rfl, ?_, ?_, ?_⟩
    · show σ4.operatorTree = σ1.operatorTree
      rw [h4.tree, e0, htr]
    · show σ4.shouldCreate = σ1.shouldCreate
      rw [h4.create, hw1.wsA.create]
    · show σ4.state = σ1.state
      rw [h4.state, hw1.wsA.state]
    · show σ4.couldBeSubExpression = σ1.couldBeSubExpression
      rw [hcb4, hw1.wsA.couldBe]
    · show σ4.result = σ1.result
      rw [h4.ok, hw1.wsA.ok]
    · show σ4.atEnd = σ1.atEnd
      rw [h4.atEnd, e10, hae]
  -- the rest of the input `b`: from `σ1` and `σ4` with the same tokens so far the outcomes differ in the pending whitespace
  -- text only (`h_iii`); from `σ4` with the two token lists emitted so far they agree up to positions (`h_iv`)
  have h_iii := lexLoop_ws cc hcc.toSane toks cs [] b _ σ4 [c] hrel (inv_of_spaces hw1.wsA.state) (inv_of_spaces h4.state)
  have h_iv := lexLoop_congr cc hcc.toSane toks
    (toks ++ [⟨cs, .whitespace, σ.tokenStartRow, σ.tokenStartColumn⟩] ++ [⟨'@' :: name, .annotation, σ.textRow, σ.textColumn⟩])
    b σ4 σ4 [] [] (PosEq.refl _) (inv_of_spaces h4.state) (inv_of_spaces h4.state) (SameTT.refl [])
  simp only [List.append_nil] at h_iv
  rw [hR']
  rw [hT] at h_iii
  cases hq2 : lexLoop cc b σ4 toks with
  | ok q2 =>
    rw [hq2] at h_iii h_iv
    simp only [WsOut] at h_iii
    obtain ⟨t, t', z', rest, rest', e1, e2, ety, ews, et, et'⟩ := h_iii
    obtain ⟨hz, hss⟩ : t'.text = [] ++ z' ∧ SameTT rest rest' := et'
    cases hq3 : lexLoop cc b σ4 (toks ++ [⟨cs, .whitespace, σ.tokenStartRow, σ.tokenStartColumn⟩] ++
        [⟨'@' :: name, .annotation, σ.textRow, σ.textColumn⟩]) with
    | ok q3 =>
      rw [hq3] at h_iv
      simp only [OutSameExt] at h_iv
      obtain ⟨r1, r2, f1, f2, hs12⟩ := h_iv
      have hr1 : r1 = t' :: rest' := by
        rw [e2] at f1
        exact (List.append_cancel_left f1).symm
      rw [hr1] at hs12
      obtain ⟨t'', rest'', hr2, hty2, htx2, hs2⟩ := sameTT_cons_left hs12
      refine ⟨q3.1, q3.2, t, t'', rest, rest'', rfl, e1, by rw [f2, hr2]; simp, ?_, ?_, ews, Eq.trans hss hs2⟩
      · rw [et, htx2, hz]; simp
      · rw [hty2, ← ety]
    | err _ => rw [hq3] at h_iv; simp [OutSameExt] at h_iv
    | panic _ => rw [hq3] at h_iv; simp [OutSameExt] at h_iv
    | fuelOut => rw [hq3] at h_iv; simp [OutSameExt] at h_iv
  | err _ => rw [hq2] at h_iii; simp [WsOut] at h_iii
  | panic _ => rw [hq2] at h_iii; simp [WsOut] at h_iii
  | fuelOut => rw [hq2] at h_iii; simp [WsOut] at h_iii

end Garnish.Model.Lexer
