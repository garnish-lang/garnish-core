/-
Fragment membership depends on the token TYPES only: the recogniser `parseG` commutes with every map of tokens that keeps
the token type (`parseG_map`); hence `fragF`, `fragFN`, `fragTC`, `fragTCN`, `frag9N` are invariant under such maps; two
numbered lists with the same token types are related by such a map, hence `frag_of_sameTypes`.
-/
import Garnish.Lemmas.ParseNumbered
import Garnish.Lemmas.RefTrivia

namespace Garnish.Spec
open Garnish Garnish.Gen Garnish.Model.Parser

def Ex.map (f : PToken → PToken) : Ex → Ex
  | .atom pre a => .atom (pre.map f) (f a)
  | .br pre o wsA e wsB c => .br (pre.map f) (f o) (wsA.map f) (e.map f) (wsB.map f) (f c)
  | .brT pre o wsA e ws1 t ws2 c => .brT (pre.map f) (f o) (wsA.map f) (e.map f) (ws1.map f) (f t) (ws2.map f) (f c)
  | .bin e ws1 op ws2 x => .bin (e.map f) (ws1.map f) (f op) (ws2.map f) (x.map f)
  | .suf e s => .suf (e.map f) (f s)
  | .lst e ws x => .lst (e.map f) (ws.map f) (x.map f)
  | .sep e ws1 t ws2 x => .sep (e.map f) (ws1.map f) (f t) (ws2.map f) (x.map f)
  | .brC pre o wsA e ws1 k wsB c => .brC (pre.map f) (f o) (wsA.map f) (e.map f) (ws1.map f) (f k) (wsB.map f) (f c)
  | .lead op ws x => .lead (f op) (ws.map f) (x.map f)

def PMode.map (f : PToken → PToken) : PMode → PMode
  | .opd => .opd
  | .tail e inG => .tail (e.map f) inG
  | .expr inG => .expr inG

section
variable {f : PToken → PToken}

theorem takeWhile_mapT (p : PToken → Bool) (hp : ∀ t, p (f t) = p t) :
    ∀ l : List PToken, (l.map f).takeWhile p = (l.takeWhile p).map f :=
  fun l => by rw [List.takeWhile_map, show p ∘ f = p from funext hp]

theorem dropWhile_mapT (p : PToken → Bool) (hp : ∀ t, p (f t) = p t) :
    ∀ l : List PToken, (l.map f).dropWhile p = (l.dropWhile p).map f :=
  fun l => by rw [List.dropWhile_map, show p ∘ f = p from funext hp]

theorem all_mapT (p : PToken → Bool) (hp : ∀ t, p (f t) = p t) (l : List PToken) : (l.map f).all p = l.all p := by
  rw [List.all_map, show p ∘ f = p from funext hp]

theorem any_mapT (p : PToken → Bool) (hp : ∀ t, p (f t) = p t) (l : List PToken) : (l.map f).any p = l.any p := by
  rw [List.any_map, show p ∘ f = p from funext hp]

theorem Ex.endsSuffix_map (e : Ex) : (e.map f).endsSuffix = e.endsSuffix := by cases e <;> rfl
theorem Ex.isOpd_map (e : Ex) : (e.map f).isOpd = e.isOpd := by cases e <;> rfl

variable (hf : ∀ t, (f t).type = t.type)
include hf

theorem tp_trivia (t : PToken) : isTriviaTok (f t) = isTriviaTok t := by simp only [isTriviaTok, hf]
theorem tp_prefix (t : PToken) : isPrefixTok (f t) = isPrefixTok t := by simp only [isPrefixTok, hf]
theorem tp_atom (t : PToken) : isAtom10 (f t) = isAtom10 t := by simp only [isAtom10, hf]
theorem tp_open (t : PToken) : isOpenTok (f t) = isOpenTok t := by simp only [isOpenTok, hf]
theorem tp_sep (t : PToken) : isSepTok (f t) = isSepTok t := by simp only [isSepTok, hf]
theorem tp_opt (t : PToken) : isOptTok (f t) = isOptTok t := by simp only [isOptTok, hf]
theorem tp_binop (t : PToken) : isBinopTok (f t) = isBinopTok t := by simp only [isBinopTok, hf]
theorem tp_suffix (t : PToken) : isSuffixTok (f t) = isSuffixTok t := by simp only [isSuffixTok, hf]
theorem tp_comma (t : PToken) : isCommaTok (f t) = isCommaTok t := by simp only [isCommaTok, hf]
theorem tp_closer (t : PToken) : isCloserTok (f t) = isCloserTok t := by simp only [isCloserTok, hf]
theorem tp_fill (t : PToken) : isFillTok (f t) = isFillTok t := by simp only [isFillTok, tp_trivia hf, tp_sep hf]
theorem tp_gfill (b : Bool) (t : PToken) : isGFill b (f t) = isGFill b t := by
  simp only [isGFill, tp_trivia hf, tp_sep hf]
theorem tp_opens (t : PToken) : Ex.opensGroup (f t) = Ex.opensGroup t := by simp only [Ex.opensGroup, hf]
theorem tp_close (a c : PToken) : Ex.closeMatches (f a) (f c) = Ex.closeMatches a c := by
  simp only [Ex.closeMatches, hf]
theorem tp_fillA (S : Bool) (t : PToken) :
    (fun w => isTriviaTok w || (S && isSepTok w)) (f t) = (fun w => isTriviaTok w || (S && isSepTok w)) t := by
  simp only [tp_trivia hf, tp_sep hf]
theorem tp_lstws (S inG : Bool) (t : PToken) :
    (fun w : PToken => w.type == .whitespace || (S && inG && isSepTok w)) (f t) =
      (fun w : PToken => w.type == .whitespace || (S && inG && isSepTok w)) t := by
  simp only [hf, tp_sep hf]

def mapRes (f : PToken → PToken) (x : Option (Ex × List PToken)) : Option (Ex × List PToken) :=
  x.map (fun p => (p.1.map f, p.2.map f))

omit hf in
theorem mapRes_none : mapRes f none = none := rfl
omit hf in
theorem mapRes_some (e : Ex) (r : List PToken) : mapRes f (some (e, r)) = some (e.map f, r.map f) := rfl

omit hf in
/-- `mapRes f` goes through an `if`; used instead of `split`, which is slow on the body of `parseG` -/
theorem ite_mapRes {c : Prop} [Decidable c] {a b a' b' : Option (Ex × List PToken)} (h1 : a = mapRes f a')
    (h2 : b = mapRes f b') : (if c then a else b) = mapRes f (if c then a' else b') := by
  split <;> assumption

theorem parseG_map (F : Fl) : ∀ (fuel : Nat) (mode : PMode) (toks : List PToken),
    parseG F fuel (mode.map f) (toks.map f) = mapRes f (parseG F fuel mode toks)
  | 0, _, _ => by simp only [parseG]; rfl
  | fuel + 1, .expr inG, toks => by
    simp only [PMode.map, parseG]
    cases toks with
    | nil => rfl
    | cons t r =>
      simp only [List.map_cons, tp_opt hf]
      refine ite_mapRes ?_ ?_
      · rw [dropWhile_mapT _ (tp_trivia hf), takeWhile_mapT _ (tp_trivia hf)]
        have ih := parseG_map F fuel .opd (r.dropWhile isTriviaTok)
        simp only [PMode.map] at ih
        rw [ih]
        cases parseG F fuel .opd (r.dropWhile isTriviaTok) with
        | none => rfl
        | some p =>
          obtain ⟨x, r2⟩ := p
          simp only [mapRes_some]
          exact parseG_map F fuel (.tail (.lead t (r.takeWhile isTriviaTok) x) inG) r2
      · have ih := parseG_map F fuel .opd (t :: r)
        simp only [PMode.map, List.map_cons] at ih
        rw [ih]
        cases parseG F fuel .opd (t :: r) with
        | none => rfl
        | some p =>
          obtain ⟨x, r2⟩ := p
          simp only [mapRes_some]
          exact parseG_map F fuel (.tail x inG) r2
  | fuel + 1, .opd, toks => by
    simp only [PMode.map, parseG]
    rw [dropWhile_mapT _ (tp_prefix hf), takeWhile_mapT _ (tp_prefix hf)]
    cases toks.dropWhile isPrefixTok with
    | nil => rfl
    | cons a r =>
      simp only [List.map_cons, tp_atom hf, tp_open hf, tp_opens hf]
      refine ite_mapRes ?_ ?_
      · rfl
      · refine ite_mapRes ?_ ?_
        · rw [dropWhile_mapT _ (tp_fillA hf F.S), takeWhile_mapT _ (tp_fillA hf F.S)]
          have ih := parseG_map F fuel (.expr (Ex.opensGroup a))
            (r.dropWhile (fun w => isTriviaTok w || (F.S && isSepTok w)))
          simp only [PMode.map] at ih
          rw [ih]
          cases parseG F fuel (.expr (Ex.opensGroup a)) (r.dropWhile (fun w => isTriviaTok w || (F.S && isSepTok w))) with
          | none => rfl
          | some p =>
            obtain ⟨e, r3⟩ := p
            simp only [mapRes_some]
            rw [dropWhile_mapT _ (tp_gfill hf _), takeWhile_mapT _ (tp_gfill hf _)]
            cases r3.dropWhile (isGFill (F.S && Ex.opensGroup a)) with
            | nil => rfl
            | cons c r5 =>
              simp only [List.map_cons, tp_close hf, hf, tp_comma hf]
              refine ite_mapRes ?_ ?_
              · rfl
              · refine ite_mapRes ?_ ?_
                · rw [dropWhile_mapT _ (tp_fill hf), takeWhile_mapT _ (tp_fill hf)]
                  cases r5.dropWhile isFillTok with
                  | nil => rfl
                  | cons c2 r6 =>
                    simp only [List.map_cons, tp_close hf]
                    exact ite_mapRes rfl rfl
                · refine ite_mapRes ?_ ?_
                  · rw [dropWhile_mapT _ (tp_trivia hf), takeWhile_mapT _ (tp_trivia hf)]
                    cases r5.dropWhile isTriviaTok with
                    | nil => rfl
                    | cons c2 r6 =>
                      simp only [List.map_cons, tp_close hf]
                      exact ite_mapRes rfl rfl
                  · rfl
        · rfl
  | fuel + 1, .tail e inG, toks => by
    simp only [PMode.map, parseG]
    rw [dropWhile_mapT _ (tp_gfill hf _), takeWhile_mapT _ (tp_gfill hf _)]
    cases toks.dropWhile (isGFill (F.S && inG)) with
    | nil => rfl
    | cons t r1 =>
      simp only [List.map_cons, tp_binop hf, tp_opt hf, tp_suffix hf, tp_prefix hf, tp_atom hf, tp_open hf, tp_sep hf,
        Ex.endsSuffix_map, List.isEmpty_map, any_mapT (fun w : PToken => w.type == .whitespace || (F.S && inG && isSepTok w)) (tp_lstws hf F.S inG)]
      refine ite_mapRes ?_ ?_
      · rw [dropWhile_mapT _ (tp_trivia hf), takeWhile_mapT _ (tp_trivia hf)]
        cases r1.dropWhile isTriviaTok with
        | nil => rfl
        | cons h r2 =>
          simp only [List.map_cons, tp_closer hf]
          refine ite_mapRes ?_ ?_
          · rfl
          · have ih := parseG_map F fuel .opd (h :: r2)
            simp only [PMode.map, List.map_cons] at ih
            rw [ih]
            cases parseG F fuel .opd (h :: r2) with
            | none => rfl
            | some p =>
              obtain ⟨x, r3⟩ := p
              simp only [mapRes_some]
              exact parseG_map F fuel (.tail (.bin e (toks.takeWhile (isGFill (F.S && inG))) t
                (r1.takeWhile isTriviaTok) x) inG) r3
      · refine ite_mapRes ?_ ?_
        · exact parseG_map F fuel (.tail (.suf e t) inG) r1
        · refine ite_mapRes ?_ ?_
          · have ih := parseG_map F fuel .opd (t :: r1)
            simp only [PMode.map, List.map_cons] at ih
            rw [ih]
            cases parseG F fuel .opd (t :: r1) with
            | none => rfl
            | some p =>
              obtain ⟨x, r3⟩ := p
              simp only [mapRes_some]
              exact parseG_map F fuel (.tail (.lst e (toks.takeWhile (isGFill (F.S && inG))) x) inG) r3
          · refine ite_mapRes ?_ ?_
            · rw [dropWhile_mapT _ (tp_fill hf), takeWhile_mapT _ (tp_fill hf)]
              cases r1.dropWhile isFillTok with
              | nil => rfl
              | cons h r2 =>
                simp only [List.map_cons, tp_prefix hf, tp_atom hf, tp_open hf]
                refine ite_mapRes ?_ ?_
                · have ih := parseG_map F fuel .opd (h :: r2)
                  simp only [PMode.map, List.map_cons] at ih
                  rw [ih]
                  cases parseG F fuel .opd (h :: r2) with
                  | none => rfl
                  | some p =>
                    obtain ⟨x, r3⟩ := p
                    simp only [mapRes_some]
                    exact parseG_map F fuel (.tail (.sep e (toks.takeWhile (isGFill (F.S && inG))) t
                      (r1.takeWhile isFillTok) x) inG) r3
                · rfl
            · rfl

end

section
variable {f : PToken → PToken}

theorem Ex.toks_map : ∀ e : Ex, (e.map f).toks = e.toks.map f
  | .atom pre a => by simp [Ex.map, Ex.toks]
  | .br pre o wsA e wsB c => by simp [Ex.map, Ex.toks, Ex.toks_map e]
  | .brT pre o wsA e ws1 t ws2 c => by simp [Ex.map, Ex.toks, Ex.toks_map e]
  | .bin e ws1 op ws2 x => by simp [Ex.map, Ex.toks, Ex.toks_map e, Ex.toks_map x]
  | .suf e s => by simp [Ex.map, Ex.toks, Ex.toks_map e]
  | .lst e ws x => by simp [Ex.map, Ex.toks, Ex.toks_map e, Ex.toks_map x]
  | .sep e ws1 t ws2 x => by simp [Ex.map, Ex.toks, Ex.toks_map e, Ex.toks_map x]
  | .brC pre o wsA e ws1 k wsB c => by simp [Ex.map, Ex.toks, Ex.toks_map e]
  | .lead op ws x => by simp [Ex.map, Ex.toks, Ex.toks_map x]

theorem Ex.garb_map : ∀ e : Ex, (e.map f).garb = e.garb
  | .atom _ _ => rfl
  | .br _ _ _ e _ _ => by simp only [Ex.map, Ex.garb, Ex.garb_map e]
  | .brT _ _ _ e _ _ _ _ => by simp only [Ex.map, Ex.garb, Ex.garb_map e]
  | .bin e _ _ _ x => by simp only [Ex.map, Ex.garb, Ex.garb_map e, Ex.garb_map x]
  | .suf e _ => by simp only [Ex.map, Ex.garb, Ex.garb_map e]
  | .lst e _ x => by simp only [Ex.map, Ex.garb, Ex.garb_map e, Ex.garb_map x]
  | .sep e _ _ _ x => by simp only [Ex.map, Ex.garb, Ex.garb_map e, Ex.garb_map x]
  | .brC _ _ _ e _ _ _ _ => by simp only [Ex.map, Ex.garb, Ex.garb_map e]
  | .lead _ _ x => by simp only [Ex.map, Ex.garb, Ex.garb_map x]

variable (hf : ∀ t, (f t).type = t.type)
include hf

theorem Ex.ok_map (F : Fl) : ∀ (e : Ex) (inG : Bool), (e.map f).ok F inG = e.ok F inG
  | .atom pre a, _ => by simp only [Ex.map, Ex.ok, all_mapT _ (tp_prefix hf), tp_atom hf]
  | .br pre o wsA e wsB c, _ => by
    simp only [Ex.map, Ex.ok, all_mapT _ (tp_prefix hf), tp_open hf, tp_close hf, all_mapT (fun w => isTriviaTok w || (F.S && isSepTok w)) (tp_fillA hf F.S),
      tp_opens hf, Ex.ok_map F e, all_mapT _ (tp_gfill hf _)]
  | .brT pre o wsA e ws1 t ws2 c, _ => by
    simp only [Ex.map, Ex.ok, all_mapT _ (tp_prefix hf), tp_open hf, tp_close hf, all_mapT _ (tp_fill hf),
      tp_opens hf, Ex.ok_map F e, all_mapT _ (tp_trivia hf), hf]
  | .bin e ws1 op ws2 x, inG => by
    simp only [Ex.map, Ex.ok, Ex.ok_map F e, Ex.ok_map F x, all_mapT _ (tp_trivia hf), tp_binop hf, tp_opt hf,
      Ex.isOpd_map]
  | .suf e s, inG => by simp only [Ex.map, Ex.ok, Ex.ok_map F e, tp_suffix hf]
  | .lst e ws x, inG => by
    simp only [Ex.map, Ex.ok, Ex.ok_map F e, Ex.ok_map F x, Ex.endsSuffix_map, all_mapT _ (tp_gfill hf _),
      any_mapT (fun w : PToken => w.type == .whitespace || (F.S && inG && isSepTok w)) (tp_lstws hf F.S inG), Ex.isOpd_map]
  | .sep e ws1 t ws2 x, inG => by
    simp only [Ex.map, Ex.ok, Ex.ok_map F e, Ex.ok_map F x, all_mapT _ (tp_trivia hf), tp_sep hf,
      all_mapT _ (tp_fill hf), Ex.isOpd_map]
  | .brC pre o wsA e ws1 k wsB c, _ => by
    simp only [Ex.map, Ex.ok, all_mapT _ (tp_prefix hf), tp_open hf, tp_close hf, all_mapT (fun w => isTriviaTok w || (F.S && isSepTok w)) (tp_fillA hf F.S),
      tp_opens hf, Ex.ok_map F e, all_mapT _ (tp_trivia hf), tp_comma hf]
  | .lead op ws x, inG => by
    simp only [Ex.map, Ex.ok, Ex.ok_map F x, tp_opt hf, all_mapT _ (tp_trivia hf), Ex.isOpd_map]

theorem exOf_map (F : Fl) (toks : List PToken) : exOf F (toks.map f) = (exOf F toks).map (Ex.map f) := by
  unfold exOf
  have := parseG_map hf F (3 * toks.length + 6) (.expr false) toks
  simp only [PMode.map] at this
  rw [List.length_map, this]
  cases parseG F (3 * toks.length + 6) (.expr false) toks with
  | none => rfl
  | some p =>
    obtain ⟨e, r⟩ := p
    cases r with
    | nil => rfl
    | cons a r => rfl

theorem fragF_map {F : Fl} {toks : List PToken} (h : fragF F toks = true) : fragF F (toks.map f) = true := by
  unfold fragF at h ⊢
  rw [exOf_map hf]
  cases he : exOf F toks with
  | none => rw [he] at h; cases h
  | some e =>
    rw [he] at h
    simp only [Bool.and_eq_true, decide_eq_true_eq, Option.map_some] at h ⊢
    exact ⟨by rw [Ex.ok_map hf]; exact h.1, by rw [Ex.toks_map, h.2]⟩

theorem fragFN_map {F : Fl} {toks : List PToken} (h : fragFN F toks = true) : fragFN F (toks.map f) = true := by
  unfold fragFN at h ⊢
  rw [exOf_map hf]
  cases he : exOf F toks with
  | none => rw [he] at h; cases h
  | some e =>
    rw [he] at h
    simp only [Bool.and_eq_true, decide_eq_true_eq, Option.map_some, beq_iff_eq] at h ⊢
    exact ⟨⟨by rw [Ex.ok_map hf]; exact h.1.1, by rw [Ex.toks_map, h.1.2]⟩, by rw [Ex.garb_map]; exact h.2⟩

theorem fragTC_map {F : Fl} {toks : List PToken} (h : fragTC F toks = true) : fragTC F (toks.map f) = true := by
  unfold fragTC at h ⊢
  rw [← List.map_reverse]
  cases hr : toks.reverse with
  | nil => rw [hr] at h; cases h
  | cons k r =>
    rw [hr] at h
    simp only [List.map_cons, Bool.and_eq_true, tp_comma hf] at h ⊢
    refine ⟨h.1, ?_⟩
    rw [dropWhile_mapT _ (tp_trivia hf), ← List.map_reverse]
    exact fragF_map hf h.2

theorem fragTCN_map {F : Fl} {toks : List PToken} (h : fragTCN F toks = true) : fragTCN F (toks.map f) = true := by
  unfold fragTCN at h ⊢
  rw [← List.map_reverse]
  cases hr : toks.reverse with
  | nil => rw [hr] at h; cases h
  | cons k r =>
    rw [hr] at h
    simp only [List.map_cons, Bool.and_eq_true, tp_comma hf] at h ⊢
    refine ⟨h.1, ?_⟩
    rw [dropWhile_mapT _ (tp_trivia hf), ← List.map_reverse]
    exact fragFN_map hf h.2

end

/-- replace a token by the token of `b` at its position, if that has the same type -/
def retok (b : List PToken) (t : PToken) : PToken :=
  match b[t.col]? with
  | some t' => if t'.type = t.type then t' else t
  | none => t

theorem retok_type (b : List PToken) (t : PToken) : (retok b t).type = t.type := by
  unfold retok
  split
  · split
    · assumption
    · rfl
  · rfl

theorem map_retok : ∀ (a b pre : List PToken), NumberedFrom pre.length a → SameTypes a b →
    a.map (retok (pre ++ b)) = b
  | [], [], _, _, _ => rfl
  | [], _ :: _, _, _, h => by simp [SameTypes] at h
  | _ :: _, [], _, _, h => by simp [SameTypes] at h
  | x :: a, y :: b, pre, hn, hs => by
    simp only [SameTypes, List.map_cons, List.cons.injEq] at hs
    have hx : retok (pre ++ y :: b) x = y := by
      unfold retok
      rw [hn.1, List.getElem?_append_right (Nat.le_refl _)]
      simp [hs.1]
    have ih := map_retok a b (pre ++ [y]) (by simpa using hn.2) hs.2
    simp only [List.append_assoc, List.cons_append, List.nil_append] at ih
    rw [List.map_cons, hx, ih]

theorem frag_of_sameTypes {P : List PToken → Bool}
    (hP : ∀ (f : PToken → PToken), (∀ t, (f t).type = t.type) → ∀ toks, P toks = true → P (toks.map f) = true)
    {a b : List PToken} (ha : NumberedFrom 0 a) (hb : NumberedFrom 0 b) (h : SameTypes a b) : P a = P b := by
  have e1 : a.map (retok b) = b := map_retok a b [] ha h
  have e2 : b.map (retok a) = a := map_retok b a [] hb h.symm
  cases hpa : P a with
  | true => rw [← e1]; exact (hP _ (retok_type b) a hpa).symm
  | false =>
    cases hpb : P b with
    | false => rfl
    | true =>
      have := hP _ (retok_type a) b hpb
      rw [e2, hpa] at this; cases this

theorem frag9N_map {f : PToken → PToken} (hf : ∀ t, (f t).type = t.type) (toks : List PToken)
    (h : frag9N toks = true) : frag9N (toks.map f) = true := by
  unfold frag9N at h ⊢
  rcases Bool.or_eq_true _ _ |>.mp h with h | h
  · rw [fragFN_map hf h]; rfl
  · rw [fragTCN_map hf h]; simp

end Garnish.Spec
