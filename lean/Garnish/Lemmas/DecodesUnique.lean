/-
`Decodes` is functional: an address denotes at most one value.
-/
import Garnish.Lemmas.EqualityRefine
namespace Garnish.Lemmas.Runtime
open Garnish Gen Garnish.Model.Equality
open Garnish.Lemmas.EqualityRefine (decodes_typeOf)

variable {F : Type}

/-- By induction on the first derivation. The types at `a` agree (`ht`), so the second value has the same head
constructor and the second derivation ends in the same rule; the getter, or the induction hypothesis, settles the rest. -/
theorem decodes_unique {view : StoreView F} {a : Nat} {v v' : Val F} (h : Decodes view a v)
    (h' : Decodes view a v') : v = v' := by
  induction h using Decodes.rec
    (motive_2 := fun as vs _ => ∀ vs', DecodesList view as vs' → vs = vs') generalizing v'
  case unit h | tru h | fls h | custom h =>
    have ht := Option.some.inj (h.symm.trans (decodes_typeOf h'))
    cases v' <;> cases ht
    rfl
  case num h g | char h g | byte h g | sym h g | expr h g | ext h g | type h g | chars h g | bytes h g | symList h g =>
    have ht := Option.some.inj (h.symm.trans (decodes_typeOf h'))
    cases v' <;> cases ht
    cases h'; rename_i g2; rw [g] at g2; cases g2; rfl
  case pair h g _ _ ihl ihr | range h g _ _ ihl ihr | slice h g _ _ ihl ihr | part h g _ _ ihl ihr =>
    have ht := Option.some.inj (h.symm.trans (decodes_typeOf h'))
    cases v' <;> cases ht
    cases h'; rename_i g2 dl2 dr2; rw [g] at g2; cases g2; rw [ihl dl2, ihr dr2]
  case concat h g _ _ _ _ _ ihl ihr =>
    have ht := Option.some.inj (h.symm.trans (decodes_typeOf h'))
    cases v' <;> cases ht
    cases h' with
    | concat h2 g2 dl2 dr2 _ _ _ => rw [g] at g2; cases g2; rw [ihl dl2, ihr dr2]
  case list h g _ ih =>
    have ht := Option.some.inj (h.symm.trans (decodes_typeOf h'))
    cases v' <;> cases ht
    cases h' with
    | list h2 g2 dl2 => rw [g] at g2; cases g2; rw [ih _ dl2]
  case nil h2 => cases h2; rfl
  case cons ih iht _ h2 => cases h2 with | cons d t => rw [ih d, iht _ t]

theorem decodesList_unique {view : StoreView F} : ∀ {as : List Nat} {vs vs' : List (Val F)},
    DecodesList view as vs → DecodesList view as vs' → vs = vs'
  | [], _, _, .nil, .nil => rfl
  | _ :: _, _, _, .cons h t, .cons h2 t2 => by rw [decodes_unique h h2, decodesList_unique t t2]

end Garnish.Lemmas.Runtime
