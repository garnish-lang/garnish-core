/-
The addresses of the constants the builder adds to a fresh `BasicGarnishData` (observed on the crate: lex → parse → build into
`BasicGarnishData::new(NoOpCompanion)`, operands and data block printed).

Basic shares NOTHING and preallocates nothing: every `add_*` / `parse_add_*` call pushes onto the data block
(`push_to_data_block`, Store/BasicCells.lean `Store.push`) and answers with the index of the first cell it pushed —
  `add_unit` / `add_true` / `add_false` / `add_number` / `add_expression`   one cell;
  `parse_add_char_list` / `parse_add_byte_list`                              `CharList(n)` / `ByteList(n)` and the `n` items;
  `parse_add_symbol(text)`                                                   `Symbol(s)`, then the text: `CharList(n)` and its chars
                                                                             (and an entry of the symbol table, another block).
So the builder's path is NOT Simple's up to the cache decision: there is no hit decision, `()` / `$!` / `$?` literals are
pushed like everything else, and a constant occupies `1`, `1 + n` or `2 + n` cells.  The text of a symbol is not part of the
statement-level builder model's constant (`Val.sym s`), so the replay takes it as a parameter: `symText k` = the text
handed to the `k`-th call when that call is a `parse_add_symbol` (`ConstsAgree` holds for any choice).

`basicBuilderData symText P` reads the data block cell by cell as values (the head cell of a constant as the constant, an
item cell as `Char` / `Byte`, a symbol's text as the char list it is), `basicBuilderAddr symText P` is the map "index of
the model's constant ↦ address of its head cell".
-/
import Garnish.Lemmas.BuilderIntern
import Garnish.Model.Runtime.BasicStore
import Garnish.Lemmas.BasicListLaws
namespace Garnish.Lemmas.BasicBuilderIntern
open Garnish Garnish.Gen Garnish.Abs Garnish.BasicOpt Garnish.Model.Runtime.Basic
open Garnish.Lemmas.Runtime.On

variable {F : Type}

/-- the cells one constant occupies, read as values; `txt` is the text of a symbol -/
def footprint (txt : List Nat) : Val F → List (Val F)
  | .chars cs => .chars cs :: cs.map .char
  | .bytes bs => .bytes bs :: bs.map .byte
  | .sym s => .sym s :: .chars txt :: txt.map .char
  | v => [v]

theorem footprint_cons (txt : List Nat) (v : Val F) : ∃ rest, footprint txt v = v :: rest := by
  cases v <;> exact ⟨_, rfl⟩

/-- the calls in order (`k` = index of the first): the data block they leave and the addresses they returned -/
def addAllB (symText : Nat → List Nat) : Nat → List (Val F) → List (Val F) → List (Val F) × List Nat
  | _, [], C => (C, [])
  | k, v :: vs, C =>
    ((addAllB symText (k + 1) vs (C ++ footprint (symText k) v)).1,
      C.length :: (addAllB symText (k + 1) vs (C ++ footprint (symText k) v)).2)

def basicBuilderData (symText : Nat → List Nat) (P : Prog F) : Array (Val F) := (addAllB symText 0 P.consts.toList []).1.toArray

def basicBuilderAddr (symText : Nat → List Nat) (P : Prog F) (k : Nat) : Nat :=
  ((addAllB symText 0 P.consts.toList []).2[k]?).getD ((addAllB symText 0 P.consts.toList []).1.length + k)

theorem addAllB_spec (symText : Nat → List Nat) : ∀ (vs : List (Val F)) (k : Nat) (C : List (Val F)),
    C <+: (addAllB symText k vs C).1 ∧ (addAllB symText k vs C).2.length = vs.length ∧
      ∀ (i : Nat) (v : Val F), vs[i]? = some v →
        ∃ a, (addAllB symText k vs C).2[i]? = some a ∧ (addAllB symText k vs C).1[a]? = some v := by
  intro vs
  induction vs with
  | nil => intro k C; exact ⟨List.prefix_rfl, rfl, fun i v h => by cases h⟩
  | cons v vs ih =>
    intro k C
    obtain ⟨g1, g2, g3⟩ := ih (k + 1) (C ++ footprint (symText k) v)
    refine ⟨(List.prefix_append C _).trans g1, by simp [addAllB, g2], fun i w hi => ?_⟩
    cases i with
    | zero =>
      simp only [List.getElem?_cons_zero, Option.some.injEq] at hi
      subst hi
      obtain ⟨rest, hr⟩ := footprint_cons (symText k) v
      obtain ⟨t, ht⟩ := g1
      refine ⟨C.length, rfl, ?_⟩
      show (addAllB symText (k + 1) vs (C ++ footprint (symText k) v)).1[C.length]? = some v
      rw [← ht, hr]; simp
    | succ i =>
      simp only [List.getElem?_cons_succ] at hi
      obtain ⟨a, ha1, ha2⟩ := g3 i w hi
      exact ⟨a, by simpa [addAllB] using ha1, ha2⟩

theorem basic_builder_constsAgree (symText : Nat → List Nat) (P : Prog F) :
    ConstsAgree (basicBuilderAddr symText P) (basicBuilderData symText P) P := by
  obtain ⟨_, hlen, hget⟩ := addAllB_spec symText P.consts.toList 0 ([] : List (Val F))
  exact BuilderIntern.constsAgree_of_replay (data := (addAllB symText 0 P.consts.toList []).1.toArray) hlen
    (fun k v hk => by simpa using hget k v hk)

theorem addAllB_single (symText : Nat → List Nat) : ∀ (vs : List (Val F)) (k : Nat) (C : List (Val F)),
    (∀ v, v ∈ vs → ∀ t, footprint t v = [v]) →
    ∀ i, i < vs.length → (addAllB symText k vs C).2[i]? = some (C.length + i) := by
  intro vs
  induction vs with
  | nil => intro k C _ i hi; cases hi
  | cons v vs ih =>
    intro k C hs i hi
    cases i with
    | zero => simp [addAllB]
    | succ i =>
      have := ih (k + 1) (C ++ footprint (symText k) v) (fun w hw => hs w (List.mem_cons_of_mem _ hw)) i
        (by simpa using hi)
      rw [hs v List.mem_cons_self] at this
      simp only [addAllB, List.getElem?_cons_succ]
      rw [hs v List.mem_cons_self, this]
      simp; omega

theorem basicBuilderAddr_single (symText : Nat → List Nat) (P : Prog F)
    (hs : ∀ v, v ∈ P.consts.toList → ∀ t, footprint t v = [v]) (k : Nat) (hk : k < P.consts.size) :
    basicBuilderAddr symText P k = k := by
  unfold basicBuilderAddr
  rw [addAllB_single symText P.consts.toList 0 [] hs k (by simpa using hk)]
  simp


/-- the cells one constant occupies in the data block -/
def cellsOf (nc : NumCode F) (txt : List Nat) : Val F → List Cell
  | .unit => [.unit] | .tru => [.tru] | .fls => [.fls]
  | .num n => [.number (nc.enc n)] | .char c => [.char c] | .byte b => [.byte b]
  | .sym s => .symbol s :: .charList txt.length :: txt.map .char
  | .expr j => [.expression j] | .ext n => [.external n] | .type t => [.type t]
  | .chars cs => .charList cs.length :: cs.map .char
  | .bytes bs => .byteList bs.length :: bs.map .byte
  | _ => [.custom]

theorem cellsOf_length (nc : NumCode F) (txt : List Nat) (v : Val F) :
    (cellsOf nc txt v).length = (footprint txt v).length := by
  cases v <;> simp [cellsOf, footprint]

/-- `push_to_data_block` for each cell -/
def pushAll : Store → List Cell → Outcome Store
  | s, [] => .ok s
  | s, c :: cs =>
    match s.push c with
    | .ok (s', _) => pushAll s' cs
    | .err e => .err e
    | .panic m => .panic m
    | .fuelOut => .fuelOut

/-- the calls in order on the heap model: each answers with the cursor before its pushes -/
def replayB (nc : NumCode F) (symText : Nat → List Nat) : Nat → List (Val F) → Store → Outcome (Store × List Nat)
  | _, [], s => .ok (s, [])
  | k, v :: vs, s =>
    match pushAll s (cellsOf nc (symText k) v) with
    | .ok s' =>
      match replayB nc symText (k + 1) vs s' with
      | .ok (s'', as) => .ok (s'', s.cells.size :: as)
      | .err e => .err e
      | .panic m => .panic m
      | .fuelOut => .fuelOut
    | .err e => .err e
    | .panic m => .panic m
    | .fuelOut => .fuelOut

/-- the data block can grow -/
def Roomy (s : Store) : Prop := 0 < s.grow ∧ s.cells.size ≤ s.size

/-- `Roomy` is `Fits` (Lemmas/OptimizeLimit.lean) and `pushAll` is `Store.pushAll`: the pushes succeed by `pushAll_total` -/
theorem pushAll_eq : ∀ (l : List Cell) (s : Store), pushAll s l = Store.pushAll s l
  | [], _ => rfl
  | c :: cs, s => by
    simp only [pushAll, Store.pushAll, bind, Outcome.bind]
    cases s.push c with
    | ok p => exact pushAll_eq cs p.1
    | err e => rfl
    | panic m => rfl
    | fuelOut => rfl

theorem pushAll_roomy (l : List Cell) (s : Store) (h : Roomy s) :
    ∃ s', pushAll s l = .ok s' ∧ s'.cells = s.cells ++ l.toArray ∧ Roomy s' := by
  obtain ⟨s', h1, h2, _, h3⟩ := Garnish.Lemmas.Runtime.Basic.pushAll_total Garnish.Lemmas.Runtime.Basic.room_fits l s ⟨h.2, h.1⟩
  exact ⟨s', by rw [pushAll_eq, h1], h2, h3.2, h3.1⟩

theorem basic_replay_is_push (nc : NumCode F) (symText : Nat → List Nat) : ∀ (vs : List (Val F)) (k : Nat) (C : List (Val F))
    (s : Store), Roomy s → s.cells.size = C.length →
    ∃ s', replayB nc symText k vs s = .ok (s', (addAllB symText k vs C).2) ∧
      s'.cells.size = (addAllB symText k vs C).1.length ∧ Roomy s' := by
  intro vs
  induction vs with
  | nil => intro k C s h hs; exact ⟨s, rfl, hs, h⟩
  | cons v vs ih =>
    intro k C s h hs
    obtain ⟨s1, h1, h2, h3⟩ := pushAll_roomy (cellsOf nc (symText k) v) s h
    have hs1 : s1.cells.size = (C ++ footprint (symText k) v).length := by
      rw [h2]; simp [hs, cellsOf_length]
    obtain ⟨s2, g1, g2, g3⟩ := ih (k + 1) _ s1 h3 hs1
    refine ⟨s2, ?_, g2, g3⟩
    simp only [replayB, h1, g1, addAllB, hs]

theorem roomy_fresh : Roomy Store.fresh := ⟨by decide, by decide⟩

end Garnish.Lemmas.BasicBuilderIntern
