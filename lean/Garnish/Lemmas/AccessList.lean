/-
List items, the concatenation iterator (termination measure `stackWeight`), association slices and the slicing conversions of
BasicGarnishData: no panic on well-formed stores.
-/
import Garnish.Lemmas.AccessBasic
namespace Garnish.Access
open Garnish
open Garnish.BasicOpt (Cell)

theorem asList_cases (c : Cell) : (∃ n k, c = .list n k ∧ asList c = .ok (n, k)) ∨ asList c = .err .data := by
  cases c <;> simp [asList]

theorem getListItem_spec {h : Heap} (wf : h.WF) (la : Nat) (ix : Num) :
    Safe (getListItem h la ix) ∧
    ∀ n k, la < h.cursor → h.cell la = some (.list n k) →
      ∃ items, collectItems (h.cellsAt (la + 1) n) = .ok items ∧ items.length = n ∧
        getListItem h la ix =
          if ix.ltZero then .ok none else if usizeFrom ix ≥ n then .err .data else .ok items[usizeFrom ix]? := by
  have main : ∀ n k, la < h.cursor → h.cell la = some (.list n k) →
      ∃ items, collectItems (h.cellsAt (la + 1) n) = .ok items ∧ items.length = n ∧
        getListItem h la ix =
          if ix.ltZero then .ok none else if usizeFrom ix ≥ n then .err .data else .ok items[usizeFrom ix]? := by
    intro n k hla hc
    obtain ⟨ys, hys, an⟩ := (fits_items wf).announced la _ n hla hc (by simp [asListLen, asList])
    refine ⟨ys, hys, an.length, ?_⟩
    unfold getListItem
    rw [getData_lt wf hla hc]; simp only [bind_ok, asList]
    by_cases hneg : ix.ltZero = true
    · simp [hneg]
    · simp only [hneg, if_false, Bool.false_eq_true]
      by_cases hge : usizeFrom ix ≥ n
      · simp only [hge, if_true]
      · simp only [hge, if_false]
        obtain ⟨c', y, hrd, hp, hy⟩ := an.read wf (j := usizeFrom ix) (by omega)
        obtain ⟨a, hia, hrd⟩ := Outcome.bind_eq_ok.1 hrd
        rw [hia]; simp only [bind_ok]
        rw [hrd]; simp only [bind_ok, asListItem_of hp, hy]
  refine ⟨?_, main⟩
  rcases getData_cases wf la with ⟨_, h1⟩ | ⟨hla, c, hc, h1⟩
  · unfold getListItem; rw [h1]; exact safe_err _
  · rcases asList_cases c with ⟨n, k, rfl, _⟩ | he
    · obtain ⟨ys, _, _, h2⟩ := main n k hla hc
      rw [h2]
      split
      · exact safe_ok _
      · split
        · exact safe_err _
        · exact safe_ok _
    · unfold getListItem; rw [h1]; simp only [bind_ok, he, bind_err]; exact safe_err _

theorem getListItemIter_safe {h : Heap} (wf : h.WF) (li : Nat) (s e : Num) : Safe (getListItemIter h li s e) := by
  rw [getListItemIter_eq]; exact (genIter_spec wf (bad_err _) (fits_items wf) _ li s e).1

theorem vecSlice_ok {α} (items : List α) {a b : Nat} (site : String) (h1 : a ≤ b) (h2 : b ≤ items.length) :
    vecSlice items a b site = .ok (items.extract a b) := by
  have n1 : ¬ a > b := by omega
  have n2 : ¬ b > items.length := by omega
  simp [vecSlice, n1, n2, List.extract_eq_take_drop]

theorem concatLoop_noPanic {h : Heap} (wf : h.WF) : ∀ fuel stack acc, NoPanic (concatLoop h fuel stack acc) := by
  intro fuel
  induction fuel with
  | zero => intro stack acc; cases stack <;> simp [concatLoop, noPanic_ok, noPanic_fuelOut]
  | succ fuel ih =>
    intro stack acc
    cases stack with
    | nil => simp [concatLoop, noPanic_ok]
    | cons index stack =>
      unfold concatLoop
      apply noPanic_bind (getData_safe wf index).noPanic
      intro c _
      split
      · exact ih _ _
      · exact noPanic_bind (getListItemIter_safe wf _ _ _).noPanic (fun _ _ => ih _ _)
      · exact ih _ _

/-- weight of the work list: the loop's potential (a concatenation refers to two earlier cells) -/
def stackWeight (stack : List Nat) : Nat := (stack.map (fun x => 3 ^ x)).sum

theorem pow3_pair {l r i : Nat} (hl : l < i) (hr : r < i) : 3 ^ l + 3 ^ r < 3 ^ i := by
  obtain ⟨j, rfl⟩ : ∃ j, i = j + 1 := ⟨i - 1, by omega⟩
  have h1 : 3 ^ l ≤ 3 ^ j := Nat.pow_le_pow_right (by omega) (by omega)
  have h2 : 3 ^ r ≤ 3 ^ j := Nat.pow_le_pow_right (by omega) (by omega)
  have h3 : 0 < 3 ^ j := Nat.pow_pos (by omega)
  rw [Nat.pow_succ]; omega

theorem concatLoop_safe {h : Heap} (wf : h.WF) : ∀ fuel stack acc, stackWeight stack ≤ fuel → Safe (concatLoop h fuel stack acc) := by
  intro fuel
  induction fuel with
  | zero =>
    intro stack acc hw
    cases stack with
    | nil => exact safe_ok _
    | cons x xs =>
      have : 0 < 3 ^ x := Nat.pow_pos (by omega)
      simp [stackWeight] at hw <;> omega
  | succ fuel ih =>
    intro stack acc hw
    cases stack with
    | nil => exact safe_ok _
    | cons index stack =>
      have hpos : 0 < 3 ^ index := Nat.pow_pos (by omega)
      have hw' : 3 ^ index + stackWeight stack ≤ fuel + 1 := by simpa [stackWeight] using hw
      unfold concatLoop
      rcases getData_cases wf index with ⟨_, h1⟩ | ⟨hi, c, hc, h1⟩
      · rw [h1]; exact safe_err _
      · rw [h1]; simp only [bind_ok]
        split
        · rename_i l r
          have := wf.cellOK hi hc
          simp only [cellOK, Bool.and_eq_true, decide_eq_true_eq] at this
          have := pow3_pair this.1 this.2
          apply ih
          simp only [stackWeight, List.map_cons, List.sum_cons] at hw' ⊢
          omega
        · apply safe_bind (getListItemIter_safe wf _ _ _)
          intro items _
          apply ih; omega
        · apply ih; omega

theorem getConcatenationIter_noPanic {h : Heap} (wf : h.WF) (fuel index : Nat) (s e : Num) :
    NoPanic (getConcatenationIter h fuel index s e) := by
  unfold getConcatenationIter
  apply noPanic_bind (getData_safe wf index).noPanic; intro c _
  apply noPanic_bind; · cases c <;> simp [asConcatenation, noPanic_ok, noPanic_err]
  intro _ _
  apply noPanic_bind (concatLoop_noPanic wf _ _ _); intro items _
  rw [vecSlice_ok items _ (by omega) (by omega)]; exact noPanic_ok _

theorem getConcatenationIter_safe {h : Heap} (wf : h.WF) {fuel index : Nat} (hf : 3 ^ index ≤ fuel) (s e : Num) :
    Safe (getConcatenationIter h fuel index s e) ∧
    ∀ items, concatLoop h fuel [index] [] = .ok items → (∃ l r, h.cell index = some (.concatenation l r)) → index < h.cursor →
      getConcatenationIter h fuel index s e = .ok (items.extract (extentLo s items.length) (extentHi s e items.length)) := by
  constructor
  · unfold getConcatenationIter
    apply safe_bind (getData_safe wf index); intro c _
    apply safe_bind; · cases c <;> simp [asConcatenation, safe_ok, safe_err]
    intro _ _
    apply safe_bind (concatLoop_safe wf _ _ _ (by simpa [stackWeight] using hf)); intro items _
    rw [vecSlice_ok items _ (by omega) (by omega)]; exact safe_ok _
  · intro items hitems ⟨l, r, hc⟩ hi
    unfold getConcatenationIter
    rw [getData_lt wf hi hc]; simp only [bind_ok, asConcatenation, hitems]
    rw [vecSlice_ok items _ (by omega) (by omega)]
    rfl

theorem getAssociationSlice_safe {h : Heap} (wf : h.WF) (li : Nat) : Safe (getAssociationSlice h li) := by
  unfold getAssociationSlice
  rcases getData_cases wf li with ⟨_, h1⟩ | ⟨hi, c, hc, h1⟩
  · rw [h1]; exact safe_err _
  · rw [h1]; simp only [bind_ok]
    rcases asList_cases c with ⟨n, k, rfl, ha⟩ | he
    · have := wf.cellOK hi hc
      simp only [cellOK, Bool.and_eq_true, decide_eq_true_eq] at this
      have h1 := wf.1; have h2 := wf.2.1
      rw [ha]; simp only [bind_ok]
      rw [uadd_ok (by omega)]; simp only [bind_ok]
      rw [uadd_ok (by omega)]; simp only [bind_ok]
      rw [uadd_ok (by omega)]; simp only [bind_ok]
      rw [uadd_ok (by omega)]; simp only [bind_ok]
      rw [rawSlice_ok h _ (by omega) (by omega)]; exact safe_ok _
    · rw [he]; exact safe_err _

/-- conversions/bytes.rs slices the heap at the block-relative address: inside the allocation all the same -/
theorem convertBytesSlice_safe {h : Heap} (wf : h.WF) (from_ : Nat) : Safe (convertBytesSlice h from_) := by
  unfold convertBytesSlice
  rcases getData_cases wf from_ with ⟨_, h1⟩ | ⟨hi, c, hc, h1⟩
  · rw [h1]; exact safe_err _
  · rw [h1]; simp only [bind_ok]
    have hk := wf.cellOK hi hc
    have h1 := wf.1; have h2 := wf.2.1
    split
    all_goals first
      | exact safe_ok _
      | (simp only [cellOK, Bool.and_eq_true, decide_eq_true_eq] at hk
         rw [uadd_ok (by omega)]; simp only [bind_ok]
         rw [uadd_ok (by omega)]; simp only [bind_ok]
         rw [rawSlice_ok h _ (by omega) (by omega)]; exact safe_ok _)

/-- the `for i in from + 1 .. from + 1 + length` loops of the conversions read announced cells only -/
theorem inlineCellsAt_safe {h : Heap} (wf : h.WF) (from_ : Nat) : ∀ n, from_ + n < h.cursor → Safe (inlineCellsAt h from_ n) := by
  intro n
  induction n with
  | zero => intro _; exact safe_ok _
  | succ n ih =>
    intro hn
    unfold inlineCellsAt
    apply safe_bind (ih (by omega)); intro cs _
    have h1 := wf.1; have h2 := wf.2.1
    rw [uadd_ok (by omega)]; simp only [bind_ok]
    rw [uadd_ok (by omega)]; simp only [bind_ok]
    exact safe_bind (getData_safe wf _) (fun _ _ => safe_ok _)

theorem leBytesFill_safe : ∀ (bytes : List Nat) (i : Nat) (arr : Array Nat), i + bytes.length ≤ arr.size → Safe (leBytesFill bytes i arr) := by
  intro bytes
  induction bytes with
  | nil => intro i arr _; exact safe_ok _
  | cons b rest ih =>
    intro i arr hl
    unfold leBytesFill
    have : i < arr.size := by simp at hl; omega
    simp only [this, dite_true]
    apply ih; simp at hl ⊢; omega

/-- conversions/number.rs: the length test guards the index into `[0; 4]`, for every byte list -/
theorem bytesToI32_safe (bytes : List Nat) : Safe (bytesToI32 bytes) := by
  unfold bytesToI32
  split
  · exact safe_ok _
  · exact safe_bind (leBytesFill_safe bytes 0 _ (by simp; omega)) (fun _ _ => safe_ok _)

/-- conversions/string.rs: `end - 1` cannot underflow (`end = from + 1 + length ≥ 1`) -/
theorem separatorAfter_safe {from_ length : Nat} (i : Nat) (hb : from_ + 1 + length ≤ USIZE_MAX) :
    Safe (separatorAfter from_ length i) := by
  unfold separatorAfter
  rw [uadd_ok (by omega)]; simp only [bind_ok]
  rw [uadd_ok (by omega)]; simp only [bind_ok]
  rw [usub_ok (by omega)]; exact safe_ok _

end Garnish.Access
