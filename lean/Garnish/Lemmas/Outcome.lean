/-
Lemmas of the `Outcome` monad (Model/Outcome.lean): how `bind` computes on each of the four outcomes, and what a bind that ended in
`ok` went through (`bind_eq_ok`). A model function that writes the four arms out by hand is brought into `bind` form by a one-line
equation next to the proof that needs it.
-/
import Garnish.Model.Outcome
namespace Garnish.Outcome

variable {α β : Type}

@[simp] theorem bind_ok (a : α) (f : α → Outcome β) : (Outcome.ok a).bind f = f a := rfl
@[simp] theorem bind_err (e : ErrClass) (f : α → Outcome β) : (Outcome.err e : Outcome α).bind f = .err e := rfl
@[simp] theorem bind_panic (m : String) (f : α → Outcome β) : (Outcome.panic m : Outcome α).bind f = .panic m := rfl
@[simp] theorem bind_fuelOut (f : α → Outcome β) : (Outcome.fuelOut : Outcome α).bind f = .fuelOut := rfl
@[simp] theorem ok_bind (a : α) (f : α → Outcome β) : (Outcome.ok a >>= f) = f a := rfl
@[simp] theorem pure_eq_ok (a : α) : (pure a : Outcome α) = .ok a := rfl

theorem bind_eq_ok {x : Outcome α} {f : α → Outcome β} {b : β} :
    x.bind f = .ok b ↔ ∃ a, x = .ok a ∧ f a = .ok b := by
  cases x <;> simp [Outcome.bind]

theorem bind_eq_ok' {x : Outcome α} {f : α → Outcome β} {b : β} :
    (x >>= f) = .ok b ↔ ∃ a, x = .ok a ∧ f a = .ok b := bind_eq_ok

theorem bind_congr {x : Outcome α} {f g : α → Outcome β} (h : ∀ a, x = .ok a → f a = g a) : x.bind f = x.bind g := by
  cases x <;> first | rfl | exact h _ rfl

theorem pure_eq_ok_iff {a b : α} : (pure a : Outcome α) = .ok b ↔ a = b := by
  simp [pure]

theorem isOk_iff {x : Outcome α} : x.isOk = true ↔ ∃ a, x = .ok a := by
  cases x <;> simp [Outcome.isOk]

theorem bind_isOk {x : Outcome α} {f : α → Outcome β} :
    (x.bind f).isOk = true ↔ ∃ a, x = .ok a ∧ (f a).isOk = true := by
  cases x <;> simp [Outcome.bind, Outcome.isOk]

end Garnish.Outcome
