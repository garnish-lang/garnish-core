/-
`run_located`, continued: lists, identifier application, and the constructs with out-of-line bodies:
conditionals, else-chains, `&&`/`||`.
-/
import Garnish.Lemmas.ListFacts
import Garnish.Lemmas.CompileRun
namespace Garnish.Abs
open Garnish Gen Garnish.Spec

variable {F : Type} {fo : FloatOps F} {host : Host F} {P : Prog F} {bodies : List (Nat × Expr F)}

theorem simL_step {fuel : Nat} (ih : SimE fo host P bodies fuel) (ihL : SimL fo host P bodies fuel) :
    SimL fo host P bodies (fuel + 1) := by
  intro cur items st acc r st' h root pc rs0 vs fr entry hloc hwf hj hent hlt
  cases items with
  | nil =>
    simp only [evalListS, Out.ok.injEq, Prod.mk.injEq] at h
    obtain ⟨rfl, rfl⟩ := h
    exact ⟨[], by simp, rfl, by simpa [lenList] using Reach.refl _⟩
  | cons x xs =>
    simp only [LocatedList] at hloc
    simp only [wfCList, Bool.and_eq_true] at hwf
    simp only [lenList] at hlt
    simp only [evalListS] at h
    rcases eval_cases (fo := fo) (host := host) (bodies := bodies) (cur := cur) (fuel := fuel) (x := x) (st := st)
      with ⟨w, st1, hx⟩ | ⟨w, st1, hx⟩ | ⟨e, hx⟩ | hx <;> simp only [hx] at h
    · have ihx := (ih x cur st _ _ hx root pc rs0 vs fr entry hloc.1 hwf.1 hj hent (by omega)).toReach
      have ihr := ihL cur xs st1 (w :: acc) r st' h root (pc + len x) (w :: rs0) vs fr entry hloc.2 hwf.2
        hj hent (by omega)
      cases r with
      | inl vals =>
        obtain ⟨nv, hv, hn, hr⟩ := ihr
        refine ⟨w :: nv, by simp [hv], by simp [hn], ?_⟩
        have e1 : pc + lenList (x :: xs) = pc + len x + lenList xs := by simp only [lenList]; omega
        have e2 : (w :: nv).reverse ++ rs0 = nv.reverse ++ w :: rs0 := by simp
        rw [e1, e2]
        exact ihx.trans hr
      | inr v =>
        obtain ⟨extra, hr⟩ := ihr
        refine ⟨extra ++ [w], ?_⟩
        have : extra ++ [w] ++ rs0 = extra ++ w :: rs0 := by simp
        rw [this]
        exact ihx.trans hr
    · simp only [Out.ok.injEq, Prod.mk.injEq] at h
      obtain ⟨rfl, rfl⟩ := h
      obtain ⟨extra, hr, _⟩ := ih x cur st _ _ hx root pc rs0 vs fr entry hloc.1 hwf.1 hj hent (by omega)
      exact ⟨extra, hr⟩
    · simp at h
    · simp at h

theorem sim_list {fuel : Nat} (ihL : SimL fo host P bodies fuel)
    (items : List (Expr F)) : SimAt fo host P bodies (fuel + 1) (.list items) := by
  intro cur st res st' h root pc rs vs fr entry hloc hwf hj hent hlt
  have h0 := h
  simp only [Located] at hloc
  obtain ⟨hll, hi⟩ := hloc
  simp only [wfC] at hwf
  have hend : pc + len (.list items) = pc + lenList items + 1 := by simp only [len]; omega
  rw [hend] at hlt ⊢
  simp only [evalFS] at h
  cases hl : evalListS fo host bodies cur fuel items st [] with
  | err e => simp [hl] at h
  | fuelOut => simp [hl] at h
  | ok p =>
    obtain ⟨r, st1⟩ := p
    have ihr := ihL cur items st [] r st1 hl root pc rs vs fr entry hll hwf hj hent (by omega)
    cases r with
    | inl vals =>
      simp only [hl, Out.ok.injEq, Prod.mk.injEq] at h
      obtain ⟨rfl, rfl⟩ := h
      obtain ⟨nv, hv, hn, hr⟩ := ihr
      simp only [List.reverse_nil, List.nil_append] at hv
      subst hv
      refine ResOK.ofReach (hr.snoc ?_)
      have hs := step_makeList (fo := fo) (host := host) (P := P) (pc := pc + lenList items)
        (regs := vals.reverse ++ rs) (vs := st1.inp :: vs) (fr := fr) (tr := st1.trace) hi hlt (by simp [hn])
      rw [hs]
      have h1 : (vals.reverse ++ rs).take items.length = vals.reverse := List.take_left' (by simp [hn])
      have h2 : (vals.reverse ++ rs).drop items.length = rs := List.drop_left' (by simp [hn])
      rw [h1, h2, List.reverse_reverse]
    | inr v =>
      simp only [hl, Out.ok.injEq, Prod.mk.injEq] at h
      obtain ⟨rfl, rfl⟩ := h
      obtain ⟨extra, hr⟩ := ihr
      exact ⟨extra, hr, fun ht => (noR_sound (by simpa [tailR] using ht) h0).elim⟩

theorem sim_prefixApply {fuel : Nat} (ih : SimE fo host P bodies fuel) (ihA : SimA fo host P bodies fuel)
    (sym : Nat) (x : Expr F) : SimAt fo host P bodies (fuel + 1) (.prefixApply sym x) := by
  intro cur st res st' h root pc rs vs fr entry hloc hwf hj hent hlt
  have h0 := h
  simp only [Located] at hloc
  obtain ⟨⟨k, hi0, hc⟩, hlx, hi⟩ := hloc
  simp only [wfC] at hwf
  have hend : pc + len (.prefixApply sym x) = pc + 1 + len x + 1 := by simp only [len]; omega
  rw [hend] at hlt ⊢
  simp only [evalFS] at h
  rcases resolveVal_cases (fo := fo) (host := host) st sym with ⟨wf, st1, hr⟩ | ⟨e, hr⟩ <;> simp only [hr] at h
  · have hinp := resolveVal_inp hr
    have h1 : Reach fo host P ⟨pc, rs, st.inp :: vs, fr, st.trace⟩ ⟨pc + 1, wf :: rs, st1.inp :: vs, fr, st1.trace⟩ := by
      rw [hinp]; exact .single (step_resolve hi0 hc (by omega) rfl rfl hr)
    rcases ih.bind h (wf :: rs) vs fr hlx hwf hj hent (by omega) with ⟨wx, st2, ihx, hk⟩ | ⟨w, rfl, _, hrx⟩
    · obtain ⟨v, rfl, hr⟩ := apply_reach ihA hk (regs := wx :: wf :: rs) (rs := rs) hlt (step_apply hi)
      exact ResOK.ofReach ((h1.trans ihx).trans hr)
    · exact ResOK.sub_restart (pend := [wf]) h1 hrx (fun ht => (noR_sound (by simpa [tailR] using ht) h0).elim)
  · simp at h

/-- the simulation statement looks at an expression only through its evaluation, its layout, its length and its
tail positions -/
theorem SimAt.congr {fuel : Nat} {e e' : Expr F} (h : SimAt fo host P bodies fuel e)
    (hev : ∀ cur st, evalFS fo host bodies cur fuel e' st = evalFS fo host bodies cur fuel e st)
    (hloc : ∀ root cur pc, Located P root cur pc e' → Located P root cur pc e)
    (hwf : wfC e' = true → wfC e = true) (hlen : len e' = len e) (htail : tailR e' = tailR e) :
    SimAt fo host P bodies fuel e' := by
  intro cur st res st' he root pc rs vs fr entry hl hw hj hent hlt
  rw [hlen] at hlt ⊢
  rw [htail]
  exact h cur st res st' (hev cur st ▸ he) root pc rs vs fr entry (hloc _ _ _ hl) (hwf hw) hj hent hlt

/-- suffix application is laid out and evaluated as prefix application -/
theorem sim_suffixApply {fuel : Nat} (ih : SimE fo host P bodies fuel) (ihA : SimA fo host P bodies fuel)
    (x : Expr F) (sym : Nat) : SimAt fo host P bodies (fuel + 1) (.suffixApply x sym) :=
  (sim_prefixApply ih ihA sym x).congr (fun _ _ => by simp only [evalFS])
    (fun _ _ _ h => by unfold Located at h ⊢; exact h) (fun h => by simpa only [wfC] using h) rfl rfl

theorem sim_infixApply {fuel : Nat} (ih : SimE fo host P bodies fuel) (ihA : SimA fo host P bodies fuel)
    (a : Expr F) (sym : Nat) (b : Expr F) : SimAt fo host P bodies (fuel + 1) (.infixApply a sym b) := by
  intro cur st res st' h root pc rs vs fr entry hloc hwf hj hent hlt
  have h0 := h
  simp only [Located] at hloc
  obtain ⟨⟨k, hi0, hc⟩, hla, hlb, hi1, hi2⟩ := hloc
  simp only [wfC, Bool.and_eq_true] at hwf
  have hend : pc + len (.infixApply a sym b) = pc + 1 + len a + len b + 1 + 1 := by simp only [len]; omega
  rw [hend] at hlt ⊢
  simp only [evalFS] at h
  rcases resolveVal_cases (fo := fo) (host := host) st sym with ⟨wf, st1, hr⟩ | ⟨e, hr⟩ <;> simp only [hr] at h
  · have hinp := resolveVal_inp hr
    have h1 : Reach fo host P ⟨pc, rs, st.inp :: vs, fr, st.trace⟩ ⟨pc + 1, wf :: rs, st1.inp :: vs, fr, st1.trace⟩ := by
      rw [hinp]; exact .single (step_resolve hi0 hc (by omega) rfl rfl hr)
    rcases ih.bind h (wf :: rs) vs fr hla hwf.1 hj hent (by omega) with ⟨wa, st2, iha, hk⟩ | ⟨w, rfl, _, hra⟩
    · rcases ih.bind hk (wa :: wf :: rs) vs fr hlb hwf.2 hj hent (by omega) with ⟨wb, st3, ihb, hk⟩ | ⟨w, rfl, _, hrb⟩
      · have hml := step_makeList (fo := fo) (host := host) (P := P) (pc := pc + 1 + len a + len b)
          (regs := wb :: wa :: wf :: rs) (vs := st3.inp :: vs) (fr := fr) (tr := st3.trace) hi1 (by omega) (by simp)
        simp only [List.take_succ_cons, List.take_zero, List.reverse_cons, List.reverse_nil, List.nil_append,
          List.cons_append, List.drop_succ_cons, List.drop_zero] at hml
        obtain ⟨v, rfl, hr⟩ := apply_reach ihA hk (regs := .list [wa, wb] :: wf :: rs) (rs := rs) hlt (step_apply hi2)
        exact ResOK.ofReach ((((h1.trans iha).trans ihb).snoc hml).trans hr)
      · exact ResOK.sub_restart (pend := [wa, wf]) (h1.trans iha) hrb
          (fun ht => (noR_sound (by simpa [tailR] using ht) h0).elim)
    · exact ResOK.sub_restart (pend := [wf]) h1 hra (fun ht => (noR_sound (by simpa [tailR] using ht) h0).elim)
  · simp at h

/-- the body of a conditional or of an arm of an else-chain: laid out at `tb`, it returns to the join -/
theorem branch_body {fuel : Nat} (ih : SimE fo host P bodies fuel) {cur : Nat} {t : Expr F} {st st' : St F} {res : Res F}
    (h : evalFS fo host bodies cur fuel t st = .ok (res, st'))
    {j tb join pcJoin entry : Nat} {rs vs : List (Val F)} {fr : List (Frame F)}
    (hlt : Located P j cur tb t)
    (hterm : InstrsAt P (tb + len t) (termsAfter P (tb + len t) [(.jumpTo, some join)]))
    (hwf : wfC t = true) (hjoin : P.jumps[join]? = some pcJoin)
    (hpj : pcJoin < P.instrs.size) (hj : P.jumps[cur]? = some entry) (hent : entry < P.instrs.size) :
    tb < P.instrs.size ∧ ResOK fo host P entry tb pcJoin (tailR t) rs vs fr st res st' := by
  rw [termsAfter_jump] at hterm
  simp only [InstrsAt, and_true] at hterm
  have hsz := lt_of_getElem? hterm
  have := len_pos t
  refine ⟨by omega, ?_⟩
  have ihx := ih t cur st res st' h j tb rs vs fr entry hlt hwf hj hent hsz
  cases res with
  | val v => exact ResOK.ofReach (ihx.toReach.snoc (step_jumpTo hterm hjoin hpj))
  | restart v => exact ihx

/-- one conditional arm — the condition `c`, `JumpIf` to the out-of-line body `t`, which returns to the join — for what the
evaluator does when the test fails (`K`; the machine goes on at `pc + len c + 1`): `c ?> t`, and an arm of an else-chain
with or without a final arm -/
theorem sim_arm {fuel : Nat} (ih : SimE fo host P bodies fuel) {cur : Nat} {onTrue : Bool} {c t : Expr F} {st st' : St F}
    {res : Res F} {K : St F → Out (Res F × St F)}
    (h : (match evalFS fo host bodies cur fuel c st with
      | .ok (.val vc, st1) => if vc.truthy == onTrue then evalFS fo host bodies cur fuel t st1 else K st1
      | other => other) = .ok (res, st'))
    {root pc pcEnd entry join j tb : Nat} {rs vs : List (Val F)} {fr : List (Frame F)} {tail tailK : Bool}
    (hlc : Located P root cur pc c) (hi1 : P.instrs[pc + len c]? = some (jumpIf onTrue, some j)) (hjj : P.jumps[j]? = some tb)
    (hlt' : Located P j cur tb t)
    (hterm : InstrsAt P (tb + len t) (termsAfter P (tb + len t) [(.jumpTo, some join)]))
    (hwc : wfC c = true) (hwt : wfC t = true) (hjoin : P.jumps[join]? = some pcEnd)
    (hj : P.jumps[cur]? = some entry) (hent : entry < P.instrs.size) (hlt : pcEnd < P.instrs.size)
    (hlt2 : pc + len c + 1 < P.instrs.size) (ht : tail = true → noR c = true ∧ tailR t = true ∧ tailK = true)
    (hK : ∀ st1, K st1 = .ok (res, st') → ResOK fo host P entry (pc + len c + 1) pcEnd tailK rs vs fr st1 res st') :
    ResOK fo host P entry pc pcEnd tail rs vs fr st res st' := by
  rcases ih.bind h rs vs fr hlc hwc hj hent (by omega) with ⟨wc, st1, ihc, hk⟩ | ⟨w, rfl, hx, hr⟩
  · obtain ⟨htb, hb⟩ : tb < P.instrs.size ∧ ∀ {st1 : St F}, evalFS fo host bodies cur fuel t st1 = .ok (res, st') →
        ResOK fo host P entry tb pcEnd (tailR t) rs vs fr st1 res st' := by
      have hterm' := hterm
      rw [termsAfter_jump] at hterm'
      simp only [InstrsAt, and_true] at hterm'
      have := lt_of_getElem? hterm'
      exact ⟨by omega, fun ht => (branch_body ih ht hlt' hterm hwt hjoin hlt hj hent).2⟩
    have hjmp := step_jumpIf (fo := fo) (host := host) (rs := rs) (vs := st1.inp :: vs) (fr := fr) (tr := st1.trace)
      (d := wc) hi1 hjj htb hlt2
    split at hk
    · rename_i htr
      simp only [htr, if_true] at hjmp
      exact ResOK.after (ihc.snoc hjmp) (hb hk) (fun h => (ht h).2.1)
    · rename_i htr
      simp only [htr, Bool.false_eq_true, if_false] at hjmp
      exact ResOK.after (ihc.snoc hjmp) (hK st1 hk) (fun h => (ht h).2.2)
  · exact ResOK.sub_restart (pend := []) (.refl _) hr (fun h => (noR_sound (ht h).1 hx).elim)

theorem sim_cond {fuel : Nat} (ih : SimE fo host P bodies fuel)
    (onTrue : Bool) (c t : Expr F) : SimAt fo host P bodies (fuel + 1) (.cond onTrue c t) := by
  intro cur st res st' h root pc rs vs fr entry hloc hwf hj hent hlt
  simp only [Located] at hloc
  obtain ⟨hlc, j, join, tb, hi1, hi2, hjj, hjoin, hne, hlt', hterm⟩ := hloc
  simp only [wfC, Bool.and_eq_true] at hwf
  have hend : pc + len (.cond onTrue c t) = pc + len c + 2 := by simp only [len]; omega
  rw [hend] at hlt ⊢
  simp only [evalFS] at h
  refine sim_arm (tailK := true) ih h hlc hi1 hjj hlt' hterm hwf.1 hwf.2 hjoin hj hent hlt (by omega)
    (fun ht => by simp only [tailR, Bool.and_eq_true] at ht; exact ⟨ht.1, ht.2, rfl⟩) (fun st1 hk => ?_)
  simp only [Out.ok.injEq, Prod.mk.injEq] at hk
  obtain ⟨rfl, rfl⟩ := hk
  exact ResOK.ofReach (.single (step_putValue hi2 (by omega)))

theorem simC_step {fuel : Nat} (ih : SimE fo host P bodies fuel) (ihC : SimC fo host P bodies fuel) :
    SimC fo host P bodies (fuel + 1) := by
  intro cur arms final st res st' h root pc rs vs fr entry join pcEnd hla hlf hwa hwf hend hjoin hj hent hlt
  cases arms with
  | nil =>
    cases final with
    | none => simp [evalChainS] at h
    | some fe =>
      simp only [evalChainS] at h
      simp only [lenArms, Nat.add_zero, tailRArms, Bool.true_and] at hlf hend ⊢
      subst hend
      exact ih fe cur st res st' h root pc rs vs fr entry hlf hwf hj hent hlt
  | cons arm rest =>
    obtain ⟨onTrue, c, t⟩ := arm
    obtain ⟨hjoin, hne⟩ := hjoin (by simp)
    simp only [LocatedArms] at hla
    obtain ⟨hlc, ⟨j, tb, hi1, hjj, hlt', hterm⟩, hlr⟩ := hla
    simp only [wfCArms, Bool.and_eq_true] at hwa
    have hla' : pc + lenArms ((onTrue, c, t) :: rest) = pc + len c + 1 + lenArms rest := by simp only [lenArms]; omega
    rw [hla'] at hlf hend
    simp only [evalChainS] at h
    refine sim_arm ih h hlc hi1 hjj hlt' hterm hwa.1.1 hwa.1.2 hjoin hj hent hlt (by omega)
      (tailK := tailRArms rest && match (generalizing := false) final with | some e => tailR e | none => true)
      (fun ht => by simp only [tailRArms, Bool.and_eq_true] at ht ⊢; exact ⟨ht.1.1.1, ht.1.1.2, ht.1.2, ht.2⟩)
      (fun st1 hk => ihC cur rest final st1 res st' hk root (pc + len c + 1) rs vs fr entry join pcEnd hlr hlf hwa.2 hwf hend
        (fun _ => ⟨hjoin, hne⟩) hj hent hlt)

theorem sim_chain {fuel : Nat} (ihC : SimC fo host P bodies fuel)
    (arms : List (Bool × Expr F × Expr F)) (final : Option (Expr F)) :
    SimAt fo host P bodies (fuel + 1) (.chain arms final) := by
  intro cur st res st' h root pc rs vs fr entry hloc hwf hj hent hlt
  rw [Located_chain] at hloc
  obtain ⟨join, hla, hlf, hjoin⟩ := hloc
  simp only [wfC_chain, Bool.and_eq_true] at hwf
  simp only [evalFS] at h
  rw [tailR_chain]
  have hend : pc + len (.chain arms final) =
      pc + lenArms arms + (match (generalizing := false) final with | some fe => len fe | none => 0) := by
    rw [len_chain]
    cases final with
    | some fe => simp only; omega
    | none =>
      cases arms with
      | nil => cases fuel <;> simp [evalChainS] at h
      | cons a rest => simp only; omega
  exact ihC cur arms final st res st' h root pc rs vs fr entry join _ hla
    (by cases final <;> first | exact hlf | trivial) hwf.1 hwf.2 hend hjoin hj hent hlt

/-- the right operand of `&&` / `||`: laid out at `tb`, followed by `Tis` and the jump to the join -/
theorem logical_body {fuel : Nat} (ih : SimE fo host P bodies fuel) {cur : Nat} {r : Expr F} {st st' : St F} {res : Res F}
    (h : evalFS fo host bodies cur fuel r st = .ok (res, st'))
    {j tb join pcJoin entry : Nat} {rs vs : List (Val F)} {fr : List (Frame F)}
    (hlr : Located P j cur tb r)
    (hterm : InstrsAt P (tb + len r) (termsAfter P (tb + len r) [(.tis, none), (.jumpTo, some join)]))
    (hwf : wfC r = true)
    (hjoin : P.jumps[join]? = some pcJoin)
    (hpj : pcJoin < P.instrs.size) (hj : P.jumps[cur]? = some entry) (hent : entry < P.instrs.size) :
    tb < P.instrs.size ∧
    match res with
    | .val v => Reach fo host P ⟨tb, rs, st.inp :: vs, fr, st.trace⟩
        ⟨pcJoin, Val.ofBool v.truthy :: rs, st'.inp :: vs, fr, st'.trace⟩
    | .restart v => ResOK fo host P entry tb pcJoin (tailR r) rs vs fr st (.restart v) st' := by
  have hpos := len_pos r
  rw [termsAfter_tis] at hterm
  simp only [InstrsAt, and_true] at hterm
  obtain ⟨ht1, ht2⟩ := hterm
  have hsz := lt_of_getElem? ht1
  have hsz2 := lt_of_getElem? ht2
  refine ⟨by omega, ?_⟩
  have ihx := ih r cur st res st' h j tb rs vs fr entry hlr hwf hj hent hsz
  cases res with
  | val v =>
    have hs : settle host st' (.val (Val.ofBool v.truthy)) = .ok (Val.ofBool v.truthy, st') := rfl
    have htis := step_unary (fo := fo) (host := host) (P := P) (rs := rs) (vs := st'.inp :: vs) (fr := fr)
      (x := v) ht1 hsz2 (by rfl) rfl hs
    exact (ihx.toReach.snoc htis).snoc (step_jumpTo ht2 hjoin hpj)
  | restart v => exact ihx

/-- `&&` and `||`: the instruction `instr` after the left operand goes on to the out-of-line right operand when the
left value's truth is `go`, and otherwise leaves the boolean `!go` -/
theorem sim_logical {fuel : Nat} (ih : SimE fo host P bodies fuel) {e l r : Expr F} {instr : Instruction} {go : Bool}
    (hev : ∀ cur st, evalFS fo host bodies cur (fuel + 1) e st =
      match evalFS fo host bodies cur fuel l st with
      | .ok (.val vl, st1) =>
        if vl.truthy = go then
          match evalFS fo host bodies cur fuel r st1 with
          | .ok (.val vr, st2) => .ok (.val (Val.ofBool vr.truthy), st2)
          | other => other
        else .ok (.val (Val.ofBool (!go)), st1)
      | other => other)
    (hloc : ∀ root cur pc, Located P root cur pc e → Located P root cur pc l ∧ ∃ j join tb,
      P.instrs[pc + len l]? = some (instr, some j) ∧
      P.jumps[j]? = some tb ∧ P.jumps[join]? = some (pc + len l + 1) ∧ join ≠ cur ∧
      Located P j cur tb r ∧ InstrsAt P (tb + len r) (termsAfter P (tb + len r) [(.tis, none), (.jumpTo, some join)]))
    (hwfe : wfC e = true → wfC l = true ∧ wfC r = true) (hlen : len e = len l + 1)
    (htail : tailR e = true → noR l = true ∧ tailR r = true)
    (hstep : ∀ {pc j t : Nat} {d : Val F} {rs vs : List (Val F)} {fr : List (Frame F)} {tr : List (HostCall F)},
      P.instrs[pc]? = some (instr, some j) → P.jumps[j]? = some t → t < P.instrs.size → pc + 1 < P.instrs.size →
      step fo host P ⟨pc, d :: rs, vs, fr, tr⟩ =
        (if d.truthy = go then .running ⟨t, rs, vs, fr, tr⟩ else .running ⟨pc + 1, Val.ofBool (!go) :: rs, vs, fr, tr⟩)) :
    SimAt fo host P bodies (fuel + 1) e := by
  intro cur st res st' h root pc rs vs fr entry hloc' hwf hj hent hlt
  obtain ⟨hll, j, join, tb, hi1, hjj, hjoin, hne, hlr, hterm⟩ := hloc _ _ _ hloc'
  obtain ⟨wfl, wfr⟩ := hwfe hwf
  rw [hlen, ← Nat.add_assoc] at hlt ⊢
  rw [hev] at h
  have htb : tb < P.instrs.size := by
    have hterm' := hterm
    rw [termsAfter_tis] at hterm'
    simp only [InstrsAt, and_true] at hterm'
    have := lt_of_getElem? hterm'.1; omega
  rcases ih.bind h rs vs fr hll wfl hj hent (by omega) with ⟨wl, st1, ihl, hk⟩ | ⟨w, rfl, hx, hr⟩
  · have hjmp := hstep (rs := rs) (vs := st1.inp :: vs) (fr := fr) (tr := st1.trace) (d := wl) hi1 hjj htb (by omega)
    split at hk
    · rename_i htr
      rw [if_pos htr] at hjmp
      cases hy : evalFS fo host bodies cur fuel r st1 with
      | ok p =>
        obtain ⟨rr, st2⟩ := p
        obtain ⟨_, hb⟩ := logical_body (rs := rs) (vs := vs) (fr := fr) ih hy hlr hterm wfr hjoin hlt hj hent
        cases rr <;> simp only [hy, Out.ok.injEq, Prod.mk.injEq] at hk <;> obtain ⟨rfl, rfl⟩ := hk
        · exact ResOK.ofReach ((ihl.snoc hjmp).trans hb)
        · exact ResOK.sub_restart (pend := []) (ihl.snoc hjmp) hb (fun ht => ⟨(htail ht).2, rfl⟩)
      | err e => simp [hy] at hk
      | fuelOut => simp [hy] at hk
    · rename_i htr
      rw [if_neg htr] at hjmp
      simp only [Out.ok.injEq, Prod.mk.injEq] at hk
      obtain ⟨rfl, rfl⟩ := hk
      exact ResOK.ofReach (ihl.snoc hjmp)
  · exact ResOK.sub_restart (pend := []) (.refl _) hr (fun ht => (noR_sound (htail ht).1 hx).elim)

theorem sim_and {fuel : Nat} (ih : SimE fo host P bodies fuel)
    (l r : Expr F) : SimAt fo host P bodies (fuel + 1) (.and l r) :=
  sim_logical ih (l := l) (r := r) (instr := .and) (go := true) (fun _ _ => by simp only [evalFS]; rfl)
    (fun _ _ _ h => by unfold Located at h; exact h) (fun h => by simpa only [wfC, Bool.and_eq_true] using h) rfl
    (fun ht => by simpa only [tailR, Bool.and_eq_true] using ht) step_and

theorem sim_or {fuel : Nat} (ih : SimE fo host P bodies fuel)
    (l r : Expr F) : SimAt fo host P bodies (fuel + 1) (.or l r) :=
  sim_logical ih (l := l) (r := r) (instr := .or) (go := false)
    (fun cur st => by
      simp only [evalFS]
      rcases evalFS fo host bodies cur fuel l st with ⟨⟨vl | vl, st1⟩⟩ | e | _
      · cases h : vl.truthy <;> simp only [h, if_true] <;> rfl
      all_goals rfl)
    (fun _ _ _ h => by unfold Located at h; exact h) (fun h => by simpa only [wfC, Bool.and_eq_true] using h) rfl
    (fun ht => by simpa only [tailR, Bool.and_eq_true] using ht)
    (fun hi hj h1 h2 => by rw [step_or hi hj h1 h2]; cases Val.truthy _ <;> rfl)

end Garnish.Abs
