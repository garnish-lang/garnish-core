/-
C04, builder half — evaluation order: the static shape of every handler (`layout`, defined in Lemmas/BuildPlan.lean) and the
in-line descendants of a node; the order invariant over them is `SInv` (Lemmas/BuildSeqInv.lean).

Every handler of `handle_parse_node` that schedules children on `stack` does so in the node's first visit, in a fixed
arrangement (`layout`, bottom of the work list on the left, `N` = the node itself, which is pushed back when its own
instruction is emitted in a second visit):
  lrn  [N, R, L]   left, right, node      binary operators, InfixApply, List / CommaList, ElseJump
  rln  [N, L, R]   right, left, node      Pair, ApplyTo
  lnr  [R, N, L]   left, node, right      Subexpression, ExpressionSeparator, value-like nodes (with side-effect blocks)
  ln   [N, L]      left, node             unary suffix, SuffixApply, And / Or, JumpIfTrue / JumpIfFalse (right: out of line)
  rn   [N, R]      right, node            unary prefix, PrefixApply, Reapply, SideEffect
  gr   [R]         right (no own visit)   Group
  none []                                  NestedExpression (right: out of line), Drop
A child that is not mentioned is never looked at by the handler.  The right child of And / Or / JumpIf… and of a
NestedExpression is emitted out of line: it is pushed on `root_stack` and built after the root that contains its owner.
-/
import Garnish.Lemmas.BuildOrder
namespace Garnish.Lemmas.BuildSeq
open Garnish Garnish.Gen Garnish.Model.Parser Garnish.Model.Literals Garnish.Model.Build Garnish.Lemmas.Build
open Garnish.Lemmas.BuildTotal
open Garnish.Lemmas.BuildOrder (Above above_append_left above_append_mem above_append_right above_mem above_irrefl
  above_top_false above_init Attr inlineBinary isB BChild Desc)

/-- `c` is a child of `y` that `y`'s handler schedules on `stack` -/
def ILink (tree : Array ParseNode) (y c : Nat) : Prop :=
  ∃ pn, tree[y]? = some pn ∧
    ((pn.left = some c ∧ inlL (layout pn.definition) = true) ∨ (pn.right = some c ∧ inlR (layout pn.definition) = true))

/-- `a`, `b` are the two in-line children of `y`, `a` the one that is emitted first -/
def Ord (tree : Array ParseNode) (y a b : Nat) : Prop :=
  ∃ pn l r, tree[y]? = some pn ∧ pn.left = some l ∧ pn.right = some r ∧
    ((layout pn.definition = .rln ∧ a = r ∧ b = l) ∨
     ((layout pn.definition = .lrn ∨ layout pn.definition = .lnr) ∧ a = l ∧ b = r))

/-- `c` is an in-line child of `y` that is emitted before `y`'s second visit -/
def PreC (tree : Array ParseNode) (y c : Nat) : Prop :=
  ∃ pn, tree[y]? = some pn ∧
    ((pn.left = some c ∧ inlL (layout pn.definition) = true) ∨ (pn.right = some c ∧ preR (layout pn.definition) = true))

/-- `c` is an in-line child of `y` that is emitted after `y`'s second visit -/
def PostC (tree : Array ParseNode) (y c : Nat) : Prop :=
  ∃ pn, tree[y]? = some pn ∧ pn.right = some c ∧ layout pn.definition = .lnr

/-- `r` is the child of `y` that is emitted out of line -/
def OolChild (tree : Array ParseNode) (y r : Nat) : Prop :=
  ∃ pn, tree[y]? = some pn ∧ pn.right = some r ∧ oolR pn.definition = true

/-- in-line descendants: reached through in-line links only -/
inductive IDesc (tree : Array ParseNode) : Nat → Nat → Prop
  | refl (a : Nat) : IDesc tree a a
  | step {a w x : Nat} : IDesc tree a w → ILink tree w x → IDesc tree a x

/-- all descendants -/
inductive Sub (tree : Array ParseNode) : Nat → Nat → Prop
  | refl (a : Nat) : Sub tree a a
  | step {a w x : Nat} : Sub tree a w → IsChild tree w x → Sub tree a x

section statics
variable {tree : Array ParseNode}

theorem ILink.isChild {y c : Nat} (h : ILink tree y c) : IsChild tree y c := by
  obtain ⟨pn, h1, h2⟩ := h
  rcases h2 with ⟨h3, _⟩ | ⟨h3, _⟩
  · exact ⟨pn, h1, Or.inl h3⟩
  · exact ⟨pn, h1, Or.inr h3⟩

theorem preR_inlR {k : Lay} (h : preR k = true) : inlR k = true := by cases k <;> simp [preR] at h <;> rfl

theorem PreC.ilink {y c : Nat} (h : PreC tree y c) : ILink tree y c := by
  obtain ⟨pn, h1, h2⟩ := h
  rcases h2 with ⟨h3, h4⟩ | ⟨h3, h4⟩
  · exact ⟨pn, h1, Or.inl ⟨h3, h4⟩⟩
  · exact ⟨pn, h1, Or.inr ⟨h3, preR_inlR h4⟩⟩

theorem PostC.ilink {y c : Nat} (h : PostC tree y c) : ILink tree y c := by
  obtain ⟨pn, h1, h2, h3⟩ := h
  exact ⟨pn, h1, Or.inr ⟨h2, by rw [h3]; rfl⟩⟩

theorem Ord.left {y a b : Nat} (h : Ord tree y a b) : ILink tree y a := by
  obtain ⟨pn, l, r, h1, hl, hr, h2⟩ := h
  rcases h2 with ⟨hk, ha, _⟩ | ⟨hk, ha, _⟩
  · subst ha; exact ⟨pn, h1, Or.inr ⟨hr, by rw [hk]; rfl⟩⟩
  · subst ha; exact ⟨pn, h1, Or.inl ⟨hl, by rcases hk with hk | hk <;> rw [hk] <;> rfl⟩⟩

theorem Ord.right {y a b : Nat} (h : Ord tree y a b) : ILink tree y b := by
  obtain ⟨pn, l, r, h1, hl, hr, h2⟩ := h
  rcases h2 with ⟨hk, _, hb⟩ | ⟨hk, _, hb⟩
  · subst hb; exact ⟨pn, h1, Or.inl ⟨hl, by rw [hk]; rfl⟩⟩
  · subst hb; exact ⟨pn, h1, Or.inr ⟨hr, by rcases hk with hk | hk <;> rw [hk] <;> rfl⟩⟩

theorem ilink_ord {y a b : Nat} (ha : ILink tree y a) (hb : ILink tree y b) (hab : a ≠ b) :
    Ord tree y a b ∨ Ord tree y b a := by
  obtain ⟨yn, hyn, ha⟩ := ha
  obtain ⟨yn', hyn', hb⟩ := hb
  rw [hyn] at hyn'; cases hyn'
  have key : ∀ {l r : Nat}, yn.left = some l → inlL (layout yn.definition) = true → yn.right = some r →
      inlR (layout yn.definition) = true → Ord tree y l r ∨ Ord tree y r l := by
    intro l r hl kl hr kr
    cases hk : layout yn.definition <;> rw [hk] at kl kr <;> first | cases kl | skip
    all_goals first | cases kr | skip
    · exact Or.inl ⟨yn, l, r, hyn, hl, hr, Or.inr ⟨Or.inl hk, rfl, rfl⟩⟩
    · exact Or.inr ⟨yn, l, r, hyn, hl, hr, Or.inl ⟨hk, rfl, rfl⟩⟩
    · exact Or.inl ⟨yn, l, r, hyn, hl, hr, Or.inr ⟨Or.inr hk, rfl, rfl⟩⟩
  rcases ha with ⟨g1, g2⟩ | ⟨g1, g2⟩ <;> rcases hb with ⟨g3, g4⟩ | ⟨g3, g4⟩
  · rw [g1] at g3; cases g3; exact absurd rfl hab
  · exact key g1 g2 g3 g4
  · exact (key g3 g4 g1 g2).symm
  · rw [g1] at g3; cases g3; exact absurd rfl hab

theorem ilink_pre_post {y c : Nat} (h : ILink tree y c) :
    PreC tree y c ∨ PostC tree y c ∨ ∃ yn, tree[y]? = some yn ∧ layout yn.definition = .gr := by
  obtain ⟨yn, hyn, hc⟩ := h
  rcases hc with hc | ⟨hr, hk⟩
  · exact Or.inl ⟨yn, hyn, Or.inl hc⟩
  · cases hlay : layout yn.definition <;> rw [hlay] at hk <;> first | cases hk | skip
    · exact Or.inl ⟨yn, hyn, Or.inr ⟨hr, by rw [hlay]; rfl⟩⟩
    · exact Or.inl ⟨yn, hyn, Or.inr ⟨hr, by rw [hlay]; rfl⟩⟩
    · exact Or.inr (Or.inl ⟨yn, hyn, hr, hlay⟩)
    · exact Or.inl ⟨yn, hyn, Or.inr ⟨hr, by rw [hlay]; rfl⟩⟩
    · exact Or.inr (Or.inr ⟨yn, hyn, hlay⟩)

theorem layout_gr {d : Definition} (h : layout d = .gr) : d = .group := by
  cases d <;> first | rfl | cases h

theorem OolChild.isChild {y r : Nat} (h : OolChild tree y r) : IsChild tree y r := by
  obtain ⟨pn, h1, h2, _⟩ := h; exact ⟨pn, h1, Or.inr h2⟩

theorem IDesc.sub {a x : Nat} (h : IDesc tree a x) : Sub tree a x := by
  induction h with
  | refl => exact Sub.refl _
  | step _ hl ih => exact Sub.step ih hl.isChild

theorem IDesc.trans {a b c : Nat} (h1 : IDesc tree a b) (h2 : IDesc tree b c) : IDesc tree a c := by
  induction h2 with
  | refl => exact h1
  | step _ hl ih => exact IDesc.step ih hl

theorem Sub.trans {a b c : Nat} (h1 : Sub tree a b) (h2 : Sub tree b c) : Sub tree a c := by
  induction h2 with
  | refl => exact h1
  | step _ hl ih => exact Sub.step ih hl

theorem sub_head {a z : Nat} (h : Sub tree a z) : z = a ∨ ∃ c, IsChild tree a c ∧ Sub tree c z := by
  induction h with
  | refl => exact Or.inl rfl
  | @step u z _ hl ih =>
    rcases ih with e | ⟨c, hc, hd⟩
    · subst e; exact Or.inr ⟨z, hl, Sub.refl z⟩
    · exact Or.inr ⟨c, hc, Sub.step hd hl⟩

theorem sub_split {a x z : Nat} (hx : Sub tree a x) (hz : Sub tree a z) :
    Sub tree x z ∨ Sub tree z x ∨
    ∃ y c1 c2, Sub tree a y ∧ IsChild tree y c1 ∧ IsChild tree y c2 ∧ c1 ≠ c2 ∧ Sub tree c1 x ∧ Sub tree c2 z := by
  induction hx with
  | refl => exact Or.inl hz
  | @step w x hw hl ih =>
    rcases ih with h | h | ⟨y, a', b, h1, h2, h3, h4, h5, h6⟩
    · rcases sub_head h with e | ⟨c, hc, hd⟩
      · subst e; exact Or.inr (Or.inl (Sub.step (Sub.refl z) hl))
      · rcases Classical.em (c = x) with e | e
        · subst e; exact Or.inl hd
        · exact Or.inr (Or.inr ⟨w, x, c, hw, hl, hc, fun e' => e e'.symm, Sub.refl x, hd⟩)
    · exact Or.inr (Or.inl (Sub.step h hl))
    · exact Or.inr (Or.inr ⟨y, a', b, h1, h2, h3, h4, Sub.step h5 hl, h6⟩)

theorem inlineBinary_layout {d : Definition} {b : Bool} (h : inlineBinary d = some b) :
    layout d = if b then .rln else .lrn := by
  unfold inlineBinary at h
  split at h <;> cases h <;> rfl

theorem isB_layout {d : Definition} (h : isB d = true) :
    (inlineBinary d = some true ∧ layout d = .rln) ∨ (inlineBinary d ≠ some true ∧ layout d = .lrn) := by
  cases hb : inlineBinary d with
  | some b =>
    cases b
    · exact Or.inr ⟨nofun, inlineBinary_layout hb⟩
    · exact Or.inl ⟨rfl, inlineBinary_layout hb⟩
  | none =>
    simp only [isB, hb, Option.isSome_none, Bool.false_or, Bool.or_eq_true, beq_iff_eq] at h
    rcases h with h | h <;> subst h <;> exact Or.inr ⟨nofun, rfl⟩

theorem isB_inl {d : Definition} (h : isB d = true) :
    inlL (layout d) = true ∧ inlR (layout d) = true ∧ preR (layout d) = true := by
  rcases isB_layout h with ⟨_, e⟩ | ⟨_, e⟩ <;> rw [e] <;> exact ⟨rfl, rfl, rfl⟩

theorem bchild_ilink {y c : Nat} (h : BChild tree y c) : ILink tree y c := by
  obtain ⟨pn, h1, h2, h3⟩ := h
  exact ⟨pn, h1, h3.imp (⟨·, (isB_inl h2).1⟩) (⟨·, (isB_inl h2).2.1⟩)⟩

theorem bchild_preC {y c : Nat} (h : BChild tree y c) : PreC tree y c := by
  obtain ⟨pn, h1, h2, h3⟩ := h
  exact ⟨pn, h1, h3.imp (⟨·, (isB_inl h2).1⟩) (⟨·, (isB_inl h2).2.2⟩)⟩

theorem desc_idesc {a x : Nat} (h : Desc tree a x) : IDesc tree a x := by
  induction h with
  | refl => exact IDesc.refl _
  | step _ hc ih => exact IDesc.step ih (bchild_ilink hc)

end statics

section tree
variable {root : Nat} {tree : Array ParseNode} {G : Nat → Prop}

theorem ool_not_ilink (V : Validated root tree G) {y r : Nat} (hy : G y) (ho : OolChild tree y r) : ¬ ILink tree y r := by
  intro hi
  obtain ⟨pn, h1, h2, h3⟩ := ho
  obtain ⟨pn', h1', h4⟩ := hi
  rw [h1] at h1'; cases h1'
  rcases h4 with ⟨h5, _⟩ | ⟨_, h6⟩
  · exact left_ne_right V hy h1 h5 h2 rfl
  · rw [oolR_not_inlR h3] at h6; cases h6

theorem sub_G (V : Validated root tree G) {a x : Nat} (ha : G a) (h : Sub tree a x) : G x := by
  induction h with
  | refl => exact ha
  | step _ hc ih => exact (child_facts V ih hc).1

theorem idesc_G (V : Validated root tree G) {a x : Nat} (ha : G a) (h : IDesc tree a x) : G x := sub_G V ha h.sub

theorem def_G (V : Validated root tree G) {y : Nat} {pn : ParseNode} (hy : tree[y]? = some pn)
    (hd : pn.definition ≠ .subexpression) : G y :=
  Classical.byContradiction fun h => hd (V.rest y pn hy h)

theorem idesc_parent (V : Validated root tree G) {a x w : Nat} (ha : G a) (h : IDesc tree a x) (hne : x ≠ a) (hw : G w)
    (hc : IsChild tree w x) : IDesc tree a w ∧ ILink tree w x := by
  cases h with
  | refl => exact absurd rfl hne
  | @step _ w' h1 h2 =>
    have := parent_unique V (idesc_G V ha h1) hw h2.isChild hc
    subst this
    exact ⟨h1, h2⟩

end tree

end Garnish.Lemmas.BuildSeq

/-! ### in-line paths below one node: the names Props/C04Eval*.lean read them by -/

namespace Garnish.Props.C04Order
open Garnish.Model.Parser Garnish.Lemmas.BuildSeq

variable {tree : Array ParseNode}

theorem idesc_head {w z : Nat} (h : IDesc tree w z) :
    z = w ∨ ∃ c, ILink tree w c ∧ IDesc tree c z := by
  induction h with
  | refl => exact Or.inl rfl
  | @step u z _ hl ih =>
    rcases ih with e | ⟨c, hc, hd⟩
    · subst e; exact Or.inr ⟨z, hl, IDesc.refl z⟩
    · exact Or.inr ⟨c, hc, IDesc.step hd hl⟩

theorem idesc_split {ρ x z : Nat} (hx : IDesc tree ρ x) (hz : IDesc tree ρ z) :
    IDesc tree x z ∨ IDesc tree z x ∨
    ∃ y a b, IDesc tree ρ y ∧ ILink tree y a ∧ ILink tree y b ∧ a ≠ b ∧ IDesc tree a x ∧ IDesc tree b z := by
  induction hx with
  | refl => exact Or.inl hz
  | @step w x hw hl ih =>
    rcases ih with h | h | ⟨y, a, b, h1, h2, h3, h4, h5, h6⟩
    · rcases idesc_head h with e | ⟨c, hc, hd⟩
      · subst e; exact Or.inr (Or.inl (IDesc.step (IDesc.refl z) hl))
      · rcases Classical.em (c = x) with e | e
        · subst e; exact Or.inl hd
        · exact Or.inr (Or.inr ⟨w, x, c, hw, hl, hc, fun e' => e e'.symm, IDesc.refl x, hd⟩)
    · exact Or.inr (Or.inl (IDesc.step h hl))
    · exact Or.inr (Or.inr ⟨y, a, b, h1, h2, h3, h4, IDesc.step h5 hl, h6⟩)

theorem idesc_order {ρ x z : Nat} (hx : IDesc tree ρ x) (hz : IDesc tree ρ z) (hne : x ≠ z) :
    (∃ y a b, IDesc tree ρ y ∧ Ord tree y a b ∧
      ((IDesc tree a x ∧ IDesc tree b z) ∨ (IDesc tree a z ∧ IDesc tree b x))) ∨
    (∃ c, ILink tree x c ∧ IDesc tree c z) ∨ (∃ c, ILink tree z c ∧ IDesc tree c x) := by
  rcases idesc_split hx hz with h | h | ⟨y, a, b, hy, ha, hb, hab, hax, hbz⟩
  · exact Or.inr (Or.inl ((idesc_head h).resolve_left fun e => hne e.symm))
  · exact Or.inr (Or.inr ((idesc_head h).resolve_left hne))
  · rcases ilink_ord ha hb hab with ho | ho
    · exact Or.inl ⟨y, a, b, hy, ho, Or.inl ⟨hax, hbz⟩⟩
    · exact Or.inl ⟨y, b, a, hy, ho, Or.inr ⟨hbz, hax⟩⟩

end Garnish.Props.C04Order
