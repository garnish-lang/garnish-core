/-
`refParseB` is a conservative extension of `refParse`: on token lists without `[` / `]` tokens the two agree
(`refParseB_conservative`).
-/
import Garnish.Spec.RefParseB
import Garnish.Lemmas.RefParseNodes
import Garnish.Lemmas.RefParseShift

namespace Garnish.Spec
open Garnish Garnish.Gen Garnish.Model.Parser Garnish.Abs.Source

/-- the token is not a side-effect bracket -/
def noBlockTok (t : PToken) : Bool := !(t.type == .startSideEffect || t.type == .endSideEffect)

/-- the side-effect brackets are the tokens of the two side-effect classes -/
theorem noBlock_sec (t : PToken) : noBlockTok t = true ↔
    (getDefinition t.type).2 ≠ .startSideEffect ∧ (getDefinition t.type).2 ≠ .endSideEffect := by
  unfold noBlockTok
  generalize t.type = ty
  revert ty
  exact TokenType.forall_of_all (by decide)

theorem refStepB_noblock {t : PToken} (h : noBlockTok t = true) (s : BSt) (hp : s.pend = none) (pos : Nat)
    (rest : List PToken) :
    refStepB Table.gen s pos t rest = liftStep s none (refStep Table.gen s.f s.stack pos t rest) := by
  obtain ⟨h1, h2⟩ := (noBlock_sec t).1 h
  unfold refStepB
  have hd : Table.gen.define t.type = getDefinition t.type := rfl
  rw [hd]
  generalize getDefinition t.type = ds at h1 h2
  obtain ⟨d, sd⟩ := ds
  simp only at h1 h2 ⊢
  cases sd <;> first | exact absurd rfl h1 | exact absurd rfl h2 | simp only [hp]

theorem refLoopB_noblock : ∀ (toks : List PToken) (s : BSt) (pos : Nat), s.pend = none →
    (∀ t ∈ toks, noBlockTok t = true) →
    refLoopB Table.gen s pos toks = (refLoop Table.gen s.f s.stack pos toks).mapT unB
  | [], s, pos, hp, _ => by
    unfold refLoopB refLoop
    simp only [hp, Option.isNone_none, Bool.true_and]
    split
    · rfl
    · split <;> rfl
  | t :: rest, s, pos, hp, h => by
    unfold refLoopB refLoop
    rw [refStepB_noblock (h t (List.mem_cons_self ..)) s hp]
    cases hs : refStep Table.gen s.f s.stack pos t rest with
    | ok fs =>
      obtain ⟨f', stack'⟩ := fs
      simp only [liftStep, Outcome.bind]
      exact refLoopB_noblock rest _ (pos + 1) rfl (fun x hx => h x (List.mem_cons_of_mem _ hx))
    | _ => rfl

/-- a tree whose nodes all sit on tokens that are not `[` contains no block node -/
theorem unB_id {toks : List PToken} (hn : ∀ t ∈ toks, noBlockTok t = true) :
    ∀ t : RTree, TreeOK toks t → unB t = t
  | .nil, _ => rfl
  | .node l d k r, h => by
    simp only [unB]
    rw [unB_id hn l (fun a b hm => h a b (nodeDefs_left l d k r hm)),
      unB_id hn r (fun a b hm => h a b (nodeDefs_right l d k r hm))]
  | .group d k i, h => by
    simp only [unB]
    have hd : (d == Definition.sideEffect) = false := by
      cases hd : d == Definition.sideEffect with
      | false => rfl
      | true =>
        have hde : d = .sideEffect := by simpa using hd
        subst hde
        rcases h .sideEffect k (by simp [nodeDefs]) with e | ⟨tok, htok, e⟩
        · cases e
        · have hm : tok ∈ toks := List.mem_of_getElem? htok
          have := hn tok hm
          unfold noBlockTok at this
          rcases e with e | ⟨e, _⟩
          · revert this e; cases tok.type <;> intro this e <;> cases e <;> cases this
          · cases e
    rw [hd]
    simp only [Bool.false_eq_true, if_false]
    rw [unB_id hn i (fun a b hm => h a b (nodeDefs_inner d k i hm))]

/-- **conservative extension** -/
theorem refParseB_conservative (toks : List PToken) (hn : ∀ t ∈ toks, noBlockTok t = true) :
    refParseB Table.gen toks = refParse Table.gen toks := by
  have key : refParseB Table.gen toks = (refParse Table.gen toks).mapT unB := by
    unfold refParseB refParse
    simp only
    split
    · rfl
    · exact refLoopB_noblock _ BSt.top _ rfl
        (fun t ht => hn t (List.mem_of_mem_drop (List.mem_of_mem_take ht)))
  rw [key]
  cases hr : refParse Table.gen toks with
  | ok rt => simp only [Outcome.mapT]; rw [unB_id hn rt (refParse_nodes toks rt hr)]
  | _ => rfl

end Garnish.Spec
