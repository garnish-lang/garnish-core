/-
Refinement lemmas for logical.rs: `not`, `tis`, `xor`, `and`, `or` against Abs/Ops, and the two conditional jumps of jumps.rs,
over `LawsK`.
-/
import Garnish.Lemmas.RuntimeLaws
import Garnish.Model.Runtime.Logical
import Garnish.Model.Runtime.Jumps
namespace Garnish.Lemmas.Runtime
open Garnish Gen Garnish.Abs Garnish.Model.Equality Garnish.Model.Runtime

variable {F σ : Type} {S : RStore F σ}

theorem isTrueValue_of {s : σ} {a : Nat} {v : Val F} (h : Decodes (S.view s) a v) :
    isTrueValue S a s = .ok (v.truthy, s) := by
  rw [isTrueValue, bind_ok (getDataType_of h)]
  cases v <;> rfl

namespace Core
open On

variable {Inv : σ → Prop} {Rd : σ → Nat → Prop} {K : Prop}

/-- a unary tester: pop the operand, push the boolean `f (truthy v)` -/
theorem tester (L : LawsK S Inv Rd K) {s : σ} {a : Nat} {v : Val F} {rest : List Nat} (f : Bool → Bool)
    (hregs : S.regs s = a :: rest) (h : Decodes (S.view s) a v)
    (hi : Inv s := by inv_tac) (hd : DeepK K S s rest := by deep_tac) :
    PushedI S Inv s ((do let addr ← nextRef S; let result ← isTrueValue S addr; pushBoolean S (f result); pure none :
      RM σ (Option Nat)) s) none rest (Val.ofBool (f v.truthy)) := by
  obtain ⟨s1, h1, e1⟩ := nextRef_cons L hregs
  obtain ⟨b, s2, h2, d2, e2⟩ := pushBoolean_spec L (f v.truthy) s1
  rw [e1.regs, e1.vals] at e2
  refine ⟨b, s2, ?_, d2, e1.trans e2⟩
  rw [bind_ok h1, bind_ok (isTrueValue_of (e1.dec h)), bind_ok h2]; rfl

theorem not_spec (L : LawsK S Inv Rd K) {s : σ} {a : Nat} {v : Val F} {rest : List Nat}
    (hregs : S.regs s = a :: rest) (h : Decodes (S.view s) a v)
    (hi : Inv s := by inv_tac) (hd : DeepK K S s rest := by deep_tac) :
    PushedI S Inv s (Model.Runtime.not S s) none rest (Val.ofBool (!v.truthy)) := tester L (fun b => !b) hregs h

theorem tis_spec (L : LawsK S Inv Rd K) {s : σ} {a : Nat} {v : Val F} {rest : List Nat}
    (hregs : S.regs s = a :: rest) (h : Decodes (S.view s) a v)
    (hi : Inv s := by inv_tac) (hd : DeepK K S s rest := by deep_tac) :
    PushedI S Inv s (tis S s) none rest (Val.ofBool v.truthy) := tester L (fun b => b) hregs h

theorem xor_spec (L : LawsK S Inv Rd K) {s : σ} {r l : Nat} {vr vl : Val F} {rest : List Nat}
    (hregs : S.regs s = r :: l :: rest) (hl : Decodes (S.view s) l vl) (hr : Decodes (S.view s) r vr)
    (hi : Inv s := by inv_tac) (hd : DeepK K S s rest := by deep_tac) :
    PushedI S Inv s (Model.Runtime.xor S s) none rest (Val.ofBool (vl.truthy != vr.truthy)) := by
  obtain ⟨s1, h1, e1⟩ := nextTwoRawRef_cons L hregs
  have hb : xorResult vr.truthy vl.truthy = (vl.truthy != vr.truthy) := by
    cases vl.truthy <;> cases vr.truthy <;> rfl
  obtain ⟨b, s2, h2, d2, e2⟩ := pushBoolean_spec L (vl.truthy != vr.truthy) s1
  rw [e1.regs, e1.vals] at e2
  refine ⟨b, s2, ?_, d2, e1.trans e2⟩
  rw [Model.Runtime.xor, bind_ok h1]
  simp only []
  rw [bind_ok (isTrueValue_of (e1.dec hr)), bind_ok (isTrueValue_of (e1.dec hl)), hb,
    bind_ok h2]; rfl

/-- `and`: a true operand is consumed and the handler jumps to the right operand's code (state error when
the jump table has no such entry); a false operand is replaced by `false` and execution continues -/
theorem and_spec (L : LawsK S Inv Rd K) {s : σ} {a : Nat} {v : Val F} {rest : List Nat} (j : Nat)
    (hregs : S.regs s = a :: rest) (h : Decodes (S.view s) a v)
    (hi : Inv s := by inv_tac) (hd : DeepK K S s rest := by deep_tac) :
    if v.truthy then
      match S.jumpTable s j with
      | some t => PoppedI S Inv s (Model.Runtime.and S j s) (some t) rest
      | none => Model.Runtime.and S j s = .err .state
    else PushedI S Inv s (Model.Runtime.and S j s) none rest .fls := by
  obtain ⟨s1, h1, e1⟩ := nextRef_cons L hregs
  have ht := isTrueValue_of (e1.dec h)
  cases hv : v.truthy <;> rw [hv] at ht
  · obtain ⟨b, s2, h2, d2, e2⟩ := pushBoolean_spec L false s1
    rw [e1.regs, e1.vals] at e2
    refine ⟨b, s2, ?_, d2, e1.trans e2⟩
    rw [Model.Runtime.and, bind_ok h1, bind_ok ht]
    simp only []
    rw [bind_ok h2]; rfl
  · have hj : S.jumpTable s1 j = S.jumpTable s j := by rw [e1.keeps.jump]
    simp only [if_true]
    cases hjt : S.jumpTable s j with
    | some t =>
      refine ⟨s1, ?_, e1⟩
      rw [Model.Runtime.and, bind_ok h1, bind_ok ht]
      simp only []
      rw [bind_ok (getFromJumpTable_apply j s1), hj, hjt]; rfl
    | none =>
      rw [Model.Runtime.and, bind_ok h1, bind_ok ht]
      simp only []
      rw [bind_ok (getFromJumpTable_apply j s1), hj, hjt]; rfl

theorem or_spec (L : LawsK S Inv Rd K) {s : σ} {a : Nat} {v : Val F} {rest : List Nat} (j : Nat)
    (hregs : S.regs s = a :: rest) (h : Decodes (S.view s) a v)
    (hi : Inv s := by inv_tac) (hd : DeepK K S s rest := by deep_tac) :
    if v.truthy then PushedI S Inv s (Model.Runtime.or S j s) none rest .tru
    else
      match S.jumpTable s j with
      | some t => PoppedI S Inv s (Model.Runtime.or S j s) (some t) rest
      | none => Model.Runtime.or S j s = .err .state := by
  obtain ⟨s1, h1, e1⟩ := nextRef_cons L hregs
  have ht := isTrueValue_of (e1.dec h)
  cases hv : v.truthy <;> rw [hv] at ht
  · have hj : S.jumpTable s1 j = S.jumpTable s j := by rw [e1.keeps.jump]
    simp only [Bool.false_eq_true, if_false]
    cases hjt : S.jumpTable s j with
    | some t =>
      refine ⟨s1, ?_, e1⟩
      rw [Model.Runtime.or, bind_ok h1, bind_ok ht]
      simp only []
      rw [bind_ok (getFromJumpTable_apply j s1), hj, hjt]; rfl
    | none =>
      rw [Model.Runtime.or, bind_ok h1, bind_ok ht]
      simp only []
      rw [bind_ok (getFromJumpTable_apply j s1), hj, hjt]; rfl
  · obtain ⟨b, s2, h2, d2, e2⟩ := pushBoolean_spec L true s1
    rw [e1.regs, e1.vals] at e2
    refine ⟨b, s2, ?_, d2, e1.trans e2⟩
    rw [Model.Runtime.or, bind_ok h1, bind_ok ht]
    simp only []
    rw [bind_ok h2]; rfl

/-! ### jumps.rs: the two conditional jumps -/

theorem jumpIfTrue_spec (L : LawsK S Inv Rd K) {s : σ} {a : Nat} {v : Val F} {rest : List Nat} {j t : Nat}
    (hj : S.jumpTable s j = some t) (hregs : S.regs s = a :: rest) (h : Decodes (S.view s) a v)
    (hi : Inv s := by inv_tac) (hd : DeepK K S s rest := by deep_tac) :
    PoppedI S Inv s (jumpIfTrue S j s) (if v.truthy then some t else none) rest := by
  obtain ⟨s1, h1, e1⟩ := nextRef_cons L hregs
  refine ⟨s1, ?_, e1⟩
  rw [jumpIfTrue, bind_ok (getFromJumpTable_apply j s), hj]
  simp only []
  rw [bind_ok (pure_apply t s), bind_ok h1, bind_ok (getDataType_of (e1.dec h))]
  cases v <;> rfl

theorem jumpIfFalse_spec (L : LawsK S Inv Rd K) {s : σ} {a : Nat} {v : Val F} {rest : List Nat} {j t : Nat}
    (hj : S.jumpTable s j = some t) (hregs : S.regs s = a :: rest) (h : Decodes (S.view s) a v)
    (hi : Inv s := by inv_tac) (hd : DeepK K S s rest := by deep_tac) :
    PoppedI S Inv s (jumpIfFalse S j s) (if v.truthy then none else some t) rest := by
  obtain ⟨s1, h1, e1⟩ := nextRef_cons L hregs
  refine ⟨s1, ?_, e1⟩
  rw [jumpIfFalse, bind_ok (getFromJumpTable_apply j s), hj]
  simp only []
  rw [bind_ok (pure_apply t s), bind_ok h1, bind_ok (getDataType_of (e1.dec h))]
  cases v <;> rfl

end Core

end Garnish.Lemmas.Runtime
