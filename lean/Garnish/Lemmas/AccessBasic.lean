/-
The text-like values of BasicGarnishData (and, for the iterators, lists: `asListLen`, `getListItemIter_eq`).  `Fits h hdr proj bad`
— not the `Fits` of Lemmas/OptimizeLimit.lean — says that a header projection fits a collector on the heap `h`.  Under it the item
getters are one function `genItem` (`getCharListItem_eq`, …; `genItem_spec`), the iterator constructors one function `genIter`
(`genIter_spec`) over the extent arithmetic (`extentLo`, `extentHi`; when `extentsToStartEnd` panics: `extentsToStartEnd_panics_iff`).
-/
import Garnish.Lemmas.AccessItems
namespace Garnish.Access
open Garnish
open Garnish.BasicOpt (Cell)

/-- `get_char_list_item` / `get_byte_list_item` / `get_symbol_list_item` share this body -/
def genItem {β : Type} (h : Heap) (hdr : Cell → Outcome Nat) (asX : Cell → Outcome β) (la : Nat) (ix : Num) : Outcome (Option β) :=
  (h.getData la).bind fun c => (hdr c).bind fun len =>
  let index := usizeFrom ix
  if index ≥ len then .ok none else
  (itemAddr la index).bind fun a => (h.getData a).bind fun c => (asX c).bind fun x => .ok (some x)

theorem getCharListItem_eq (h : Heap) (la : Nat) (ix : Num) : getCharListItem h la ix = genItem h asCharList asChar la ix := rfl
theorem getByteListItem_eq (h : Heap) (la : Nat) (ix : Num) : getByteListItem h la ix = genItem h asByteList asByte la ix := rfl
theorem getSymbolListItem_eq (h : Heap) (la : Nat) (ix : Num) : getSymbolListItem h la ix = genItem h asSymbolList asPart la ix := rfl

/-- what makes a header projection fit a collector: it answers a length or `Err`, and a well-formed header
announces cells the collector accepts -/
structure Fits {β : Type} (h : Heap) (hdr : Cell → Outcome Nat) (proj : Cell → Option β) (bad : Outcome (List β)) : Prop where
  hdr_cases : ∀ c, (∃ n, hdr c = .ok n) ∨ hdr c = .err .data
  announced : ∀ i c n, i < h.cursor → h.cell i = some c → hdr c = .ok n →
    ∃ ys, collectWith proj bad (h.cellsAt (i + 1) n) = .ok ys ∧ Announced h i n ys proj

theorem fits_of_cellOK {β : Type} {h : Heap} (wf : h.WF) {hdr : Cell → Outcome Nat} {proj : Cell → Option β}
    {bad : Outcome (List β)} (hbad : ∀ ys, bad ≠ .ok ys) (hcases : ∀ c, (∃ n, hdr c = .ok n) ∨ hdr c = .err .data)
    (hok : ∀ i c n, hdr c = .ok n → cellOK h i c = true →
      i + n < h.cursor ∧ isOk (collectWith proj bad (h.cellsAt (i + 1) n)) = true) : Fits h hdr proj bad where
  hdr_cases := hcases
  announced i c n hi hc hn := by
    obtain ⟨h1, h2⟩ := hok i c n hn (wf.cellOK hi hc)
    exact announced_of hbad wf h1 h2

theorem fits_chars {h : Heap} (wf : h.WF) : Fits h asCharList charOf (.panic "garnish_impl.rs:get_char_list_iter: as_char().unwrap() on a cell that is not a Char") :=
  fits_of_cellOK wf (bad_panic _) (fun c => by cases c <;> simp [asCharList]) fun i c n hn hok => by
    cases c <;> simp [asCharList] at hn
    subst hn
    simp only [cellOK, Bool.and_eq_true, decide_eq_true_eq] at hok
    exact hok

theorem fits_bytes {h : Heap} (wf : h.WF) : Fits h asByteList byteOf (.panic "garnish_impl.rs:get_byte_list_iter: as_byte().unwrap() on a cell that is not a Byte") :=
  fits_of_cellOK wf (bad_panic _) (fun c => by cases c <;> simp [asByteList]) fun i c n hn hok => by
    cases c <;> simp [asByteList] at hn
    subst hn
    simp only [cellOK, Bool.and_eq_true, decide_eq_true_eq] at hok
    exact hok

theorem fits_parts {h : Heap} (wf : h.WF) : Fits h asSymbolList partOf (.err .data) :=
  fits_of_cellOK wf (bad_err _) (fun c => by cases c <;> simp [asSymbolList]) fun i c n hn hok => by
    cases c <;> simp [asSymbolList] at hn
    subst hn
    simp only [cellOK, Bool.and_eq_true, decide_eq_true_eq] at hok
    exact hok

/-- `as_list()?.0` -/
def asListLen (c : Cell) : Outcome Nat := (asList c).bind fun p => .ok p.1

theorem fits_items {h : Heap} (wf : h.WF) : Fits h asListLen itemOf (.err .data) :=
  fits_of_cellOK wf (bad_err _) (fun c => by cases c <;> simp [asListLen, asList]) fun i c n hn hok => by
    cases c <;> simp [asListLen, asList] at hn
    subst hn
    simp only [cellOK, Bool.and_eq_true, decide_eq_true_eq] at hok
    exact ⟨by omega, hok.2⟩

section gen
variable {β : Type} {h : Heap} {hdr : Cell → Outcome Nat} {proj : Cell → Option β} {bad : Outcome (List β)}
  {asX : Cell → Outcome β}

theorem genItem_spec (wf : h.WF) (fit : Fits h hdr proj bad) (hproj : ∀ c x, proj c = some x → asX c = .ok x)
    (la : Nat) (ix : Num) :
    Safe (genItem h hdr asX la ix) ∧
    ∀ c n, la < h.cursor → h.cell la = some c → hdr c = .ok n →
      ∃ ys, collectWith proj bad (h.cellsAt (la + 1) n) = .ok ys ∧ ys.length = n ∧
        genItem h hdr asX la ix = .ok ys[usizeFrom ix]? := by
  have main : ∀ c n, la < h.cursor → h.cell la = some c → hdr c = .ok n →
      ∃ ys, collectWith proj bad (h.cellsAt (la + 1) n) = .ok ys ∧ ys.length = n ∧
        genItem h hdr asX la ix = .ok ys[usizeFrom ix]? := by
    intro c n hla hc hn
    obtain ⟨ys, hys, an⟩ := fit.announced la c n hla hc hn
    refine ⟨ys, hys, an.length, ?_⟩
    unfold genItem
    rw [getData_lt wf hla hc]; simp only [bind_ok, hn]
    by_cases hge : usizeFrom ix ≥ n
    · simp only [hge, if_true]
      rw [List.getElem?_eq_none (by rw [an.length]; exact hge)]
    · simp only [hge, if_false]
      obtain ⟨c', y, hrd, hp, hy⟩ := an.read wf (j := usizeFrom ix) (by omega)
      obtain ⟨a, hia, hrd⟩ := Outcome.bind_eq_ok.1 hrd
      rw [hia]; simp only [bind_ok]
      rw [hrd]; simp only [bind_ok, hproj c' y hp, hy]
  refine ⟨?_, main⟩
  rcases getData_cases wf la with ⟨_, h1⟩ | ⟨hla, c, hc, h1⟩
  · unfold genItem; rw [h1]; exact safe_err _
  · rcases fit.hdr_cases c with ⟨n, hn⟩ | he
    · obtain ⟨ys, _, _, h2⟩ := main c n hla hc hn
      rw [h2]; exact safe_ok _
    · unfold genItem; rw [h1]; simp only [bind_ok, he, bind_err]; exact safe_err _

end gen

/-- the first and one-past-the-last position an extent selects in a sequence of `len` items:
`min start len` and `max (min end len) (min start len)` (a descending extent is empty) -/
def extentLo (s : Num) (len : Nat) : Nat := min (usizeFrom s) len
def extentHi (s e : Num) (len : Nat) : Nat := max (min (usizeFrom e) len) (extentLo s len)

theorem extentLo_le_hi (s e : Num) (len : Nat) : extentLo s len ≤ extentHi s e len := by unfold extentHi; omega
theorem extentHi_le_len (s e : Num) (len : Nat) : extentHi s e len ≤ len := by unfold extentHi extentLo; omega

theorem extentsToStartEnd_ok (s e : Num) {base len : Nat} (hb : base + 1 + len ≤ USIZE_MAX) :
    extentsToStartEnd s e base len = .ok (base + 1 + extentLo s len, base + 1 + extentHi s e len) := by
  unfold extentsToStartEnd
  rw [uadd_ok (by omega)]; simp only [bind_ok]
  rw [uadd_ok (by have : min (usizeFrom s) len ≤ len := Nat.min_le_right _ _; omega)]; simp only [bind_ok]
  rw [uadd_ok (by have : min (usizeFrom e) len ≤ len := Nat.min_le_right _ _; omega)]; simp only [bind_ok]
  unfold extentHi extentLo
  congr 2; omega

/-- the cast values are `min`-ed with the length before they are added: no overflow when the announced cells exist -/
theorem extentsToStartEnd_panics_iff (s e : Num) (base len : Nat) :
    (∃ m, extentsToStartEnd s e base len = .panic m) ↔
      USIZE_MAX < base + 1 + max (min (usizeFrom s) len) (min (usizeFrom e) len) := by
  unfold extentsToStartEnd uadd
  by_cases h1 : base + 1 ≤ USIZE_MAX
  · simp only [h1, if_true, bind_ok]
    by_cases h2 : base + 1 + min (usizeFrom s) len ≤ USIZE_MAX
    · simp only [h2, if_true, bind_ok]
      by_cases h3 : base + 1 + min (usizeFrom e) len ≤ USIZE_MAX
      · simp only [h3, if_true, bind_ok]; simp; omega
      · simp only [h3, if_false, bind_panic]; simp; omega
    · simp only [h2, if_false, bind_panic]; simp; omega
  · simp only [h1, if_false, bind_panic]; simp; omega

/-- the four data-block iterator constructors share this body -/
def genIter {β : Type} (h : Heap) (hdr : Cell → Outcome Nat) (proj : Cell → Option β) (bad : Outcome (List β)) (site : String)
    (li : Nat) (s e : Num) : Outcome (List β) :=
  (h.getData li).bind fun c => (hdr c).bind fun len =>
  (uadd h.dstart li).bind fun base =>
  (extentsToStartEnd s e base len).bind fun se =>
  (h.rawSlice se.1 se.2 site).bind (collectWith proj bad)

theorem getCharListIter_eq (h : Heap) (li : Nat) (s e : Num) :
    getCharListIter h li s e = genIter h asCharList charOf (.panic "garnish_impl.rs:get_char_list_iter: as_char().unwrap() on a cell that is not a Char") "garnish_impl.rs:get_char_list_iter" li s e := rfl
theorem getByteListIter_eq (h : Heap) (li : Nat) (s e : Num) :
    getByteListIter h li s e = genIter h asByteList byteOf (.panic "garnish_impl.rs:get_byte_list_iter: as_byte().unwrap() on a cell that is not a Byte") "garnish_impl.rs:get_byte_list_iter" li s e := rfl
theorem getListItemIter_eq (h : Heap) (li : Nat) (s e : Num) :
    getListItemIter h li s e = genIter h asListLen itemOf (.err .data) "garnish_impl.rs:get_list_item_iter" li s e := by
  unfold getListItemIter genIter asListLen collectItems
  cases h.getData li with
  | ok c => simp only [bind_ok]; cases asList c <;> rfl
  | _ => rfl

theorem getSymbolListIter_eq (h : Heap) (li : Nat) (s e : Num) :
    getSymbolListIter h li s e = genIter h asSymbolList partOf (.err .data) "garnish_impl.rs:get_symbol_list_iter" li s e := by
  unfold getSymbolListIter genIter extentsToStartEnd collectParts
  cases h.getData li with
  | ok c =>
    simp only [bind_ok]
    cases asSymbolList c with
    | ok len =>
      simp only [bind_ok]
      cases uadd h.dstart li with
      | ok base =>
        simp only [bind_ok]
        cases uadd base 1 with
        | ok b1 =>
          simp only [bind_ok]
          cases uadd b1 (min (usizeFrom s) len) with
          | ok st =>
            simp only [bind_ok]
            cases uadd b1 (min (usizeFrom e) len) <;> rfl
          | _ => rfl
        | _ => rfl
      | _ => rfl
    | _ => rfl
  | _ => rfl

section gen
variable {β : Type} {h : Heap} {hdr : Cell → Outcome Nat} {proj : Cell → Option β} {bad : Outcome (List β)}

theorem genIter_spec (wf : h.WF) (hbad : ∀ ys, bad ≠ .ok ys) (fit : Fits h hdr proj bad) (site : String)
    (li : Nat) (s e : Num) :
    Safe (genIter h hdr proj bad site li s e) ∧
    ∀ c n, li < h.cursor → h.cell li = some c → hdr c = .ok n →
      ∃ ys, collectWith proj bad (h.cellsAt (li + 1) n) = .ok ys ∧ ys.length = n ∧
        genIter h hdr proj bad site li s e = .ok (ys.extract (extentLo s n) (extentHi s e n)) := by
  have main : ∀ c n, li < h.cursor → h.cell li = some c → hdr c = .ok n →
      ∃ ys, collectWith proj bad (h.cellsAt (li + 1) n) = .ok ys ∧ ys.length = n ∧
        genIter h hdr proj bad site li s e = .ok (ys.extract (extentLo s n) (extentHi s e n)) := by
    intro c n hli hc hn
    obtain ⟨ys, hys, an⟩ := fit.announced li c n hli hc hn
    refine ⟨ys, hys, an.length, ?_⟩
    have h1 := wf.1; have h2 := wf.2.1; have h3 := an.below
    unfold genIter
    rw [getData_lt wf hli hc]; simp only [bind_ok, hn]
    rw [uadd_ok (by omega)]; simp only [bind_ok]
    rw [extentsToStartEnd_ok s e (by omega)]; simp only [bind_ok]
    have hlo := extentLo_le_hi s e n
    have hhi := extentHi_le_len s e n
    rw [rawSlice_ok h site (by omega) (by omega)]; simp only [bind_ok]
    have := cellsAt_sub h (li + 1) n (extentLo s n) (extentHi s e n) hhi
    have e1 : h.dstart + li + 1 + extentLo s n = h.dstart + (li + 1) + extentLo s n := by omega
    have e2 : h.dstart + li + 1 + extentHi s e n = h.dstart + (li + 1) + extentHi s e n := by omega
    rw [e1, e2, this]
    exact collectWith_extract proj bad hbad hys _ _
  refine ⟨?_, main⟩
  rcases getData_cases wf li with ⟨_, h1⟩ | ⟨hli, c, hc, h1⟩
  · unfold genIter; rw [h1]; exact safe_err _
  · rcases fit.hdr_cases c with ⟨n, hn⟩ | he
    · obtain ⟨ys, _, _, h2⟩ := main c n hli hc hn
      rw [h2]; exact safe_ok _
    · unfold genIter; rw [h1]; simp only [bind_ok, he, bind_err]; exact safe_err _

end gen

theorem extract_descending {α} (xs : List α) (s e : Num) (n : Nat) (h : min (usizeFrom e) n ≤ min (usizeFrom s) n) :
    xs.extract (extentLo s n) (extentHi s e n) = [] := by
  unfold extentHi extentLo
  simp [List.extract_eq_take_drop]; omega

end Garnish.Access
