/-
Text-level rewrites, elaboration side (C18), after Lemmas/ElabReads.lean: two reference trees that are equal after erasing
the positions (`SameShape`; recursions over two such trees go by induction on it) and whose in-order lists of significant
positions correspond by `f` are relabellings of each other (`relabel_of_erase_sig`); then they elaborate to the same
program when the texts at the text-reading nodes correspond and `f` is injective — the names of the nested expressions are
their ranks among the `{` (`elaborate_relabel`).
-/
import Garnish.Lemmas.ElabReads
import Garnish.Lemmas.RefSim
namespace Garnish.Abs.Source
open Garnish Garnish.Gen Garnish.Spec Garnish.Model.Parser

/-- two trees that differ in the stored positions only -/
inductive SameShape : RTree → RTree → Prop
  | nil : SameShape .nil .nil
  | node {l l' r r' : RTree} (d : Definition) (k k' : Nat) : SameShape l l' → SameShape r r' →
      SameShape (.node l d k r) (.node l' d k' r')
  | group {i i' : RTree} (d : Definition) (k k' : Nat) : SameShape i i' → SameShape (.group d k i) (.group d k' i')

theorem sameShape_of_erase : ∀ a b : RTree, a.eraseTok = b.eraseTok → SameShape a b
  | .nil, .nil, _ => .nil
  | .node l d k r, .node l' d' k' r', h => by
    simp only [RTree.eraseTok, RTree.node.injEq] at h
    obtain ⟨hl, rfl, _, hr⟩ := h
    exact .node d k k' (sameShape_of_erase l l' hl) (sameShape_of_erase r r' hr)
  | .group d k i, .group d' k' i', h => by
    simp only [RTree.eraseTok, RTree.group.injEq] at h
    obtain ⟨rfl, _, hi⟩ := h
    exact .group d k k' (sameShape_of_erase i i' hi)
  | .nil, .node _ _ _ _, h => by simp [RTree.eraseTok] at h
  | .nil, .group _ _ _, h => by simp [RTree.eraseTok] at h
  | .node _ _ _ _, .nil, h => by simp [RTree.eraseTok] at h
  | .node _ _ _ _, .group _ _ _, h => by simp [RTree.eraseTok] at h
  | .group _ _ _, .nil, h => by simp [RTree.eraseTok] at h
  | .group _ _ _, .node _ _ _ _, h => by simp [RTree.eraseTok] at h

theorem SameShape.sig_length {a b : RTree} (h : SameShape a b) : a.inorderSig.length = b.inorderSig.length := by
  induction h with
  | nil => rfl
  | node d k k' _ _ ih1 ih2 =>
    simp only [RTree.inorderSig, List.length_append, ih1, ih2]
    split <;> rfl
  | group d k k' _ ih => simp [RTree.inorderSig, ih]

theorem SameShape.relabel (f : Nat → Nat) {a b : RTree} (h : SameShape a b) :
    b.inorderSig = a.inorderSig.map f → relabelL f a = relabelL id b := by
  induction h with
  | nil => intro _; rfl
  | node d k k' hl _ ih1 ih2 =>
    intro hs
    simp only [RTree.inorderSig, List.map_append, List.append_assoc] at hs
    obtain ⟨h1, h2⟩ := List.append_inj hs (by rw [List.length_map]; exact hl.sig_length.symm)
    obtain ⟨h3, h4⟩ := List.append_inj h2 (by split <;> rfl)
    simp only [relabelL, ih1 h1, ih2 h4, RTree.node.injEq, true_and, and_true]
    unfold lp
    by_cases hdl : (d == Definition.list) = true
    · simp [hdl]
    · simp only [hdl] at h3 ⊢
      simpa using h3.symm
  | group d k k' _ ih =>
    intro hs
    simp only [RTree.inorderSig, List.map_cons, List.cons.injEq] at hs
    simp only [relabelL, ih hs.2, hs.1, id]

theorem relabel_of_erase_sig (f : Nat → Nat) (a b : RTree) (he : a.eraseTok = b.eraseTok)
    (hs : b.inorderSig = a.inorderSig.map f) : relabelL f a = relabelL id b :=
  (sameShape_of_erase a b he).relabel f hs

theorem isNil_relabelL (g : Nat → Nat) (t : RTree) : (relabelL g t).isNil = t.isNil := by
  cases t <;> rfl

theorem braces_relabelL (g : Nat → Nat) : ∀ t : RTree, braces (relabelL g t) = (braces t).map g
  | .nil => rfl
  | .node l d k r => by simp [relabelL, braces, braces_relabelL g l, braces_relabelL g r]
  | .group d k i => by
    simp only [relabelL, braces, isNil_relabelL, braces_relabelL g i, List.map_append]
    split <;> simp

theorem idxOf_map_inj {f : Nat → Nat} (hf : ∀ x y, f x = f y → x = y) (k : Nat) :
    ∀ l : List Nat, (l.map f).idxOf (f k) = l.idxOf k
  | [] => rfl
  | x :: l => by
    simp only [List.map_cons, List.idxOf_cons]
    by_cases h : x = k
    · simp [h]
    · have h' : ¬ f x = f k := fun e => h (hf _ _ e)
      have e1 : (f x == f k) = false := by simpa using h'
      have e2 : (x == k) = false := by simpa using h
      simp [e1, e2, idxOf_map_inj hf k l]

variable {F : Type} (pf : List Char → Option F)

theorem elabWith_relabel (κ κ' : Nat → Nat) (toks toks' : List PToken) (f : Nat → Nat) (a b : RTree)
    (hshape : relabelL f a = relabelL id b)
    (h : ∀ d k, (d, k) ∈ nodeDefs a → NodeOK κ κ' toks toks' f d k) :
    elabWith pf κ' toks' b = elabWith pf κ toks a := by
  have h1 := go_relabel pf κ κ' toks toks' f a h
  have h2 := go_relabel pf κ' κ' toks' toks' id b (fun d k _ => ⟨fun _ => rfl, fun _ => rfl⟩)
  unfold elabWith
  rw [← h2, ← hshape, h1]

theorem elaborate_relabel (toks toks' : List PToken) (f : Nat → Nat) (a b : RTree)
    (hf : ∀ x y, f x = f y → x = y) (hshape : relabelL f a = relabelL id b)
    (htext : ∀ d k, (d, k) ∈ nodeDefs a → readsText d = true → textAt toks' (f k) = textAt toks k) :
    elaborate pf toks' b = elaborate pf toks a := by
  have hb : braces b = (braces a).map f := by
    have := congrArg braces hshape
    rw [braces_relabelL, braces_relabelL] at this
    simpa using this.symm
  have hname : ∀ k, srcName b (f k) = srcName a k := fun k => by
    unfold srcName
    rw [hb, idxOf_map_inj hf]
  have h1 : elabSrc pf toks' b = elabSrc pf toks a :=
    elabWith_relabel pf _ _ toks toks' f a b hshape (fun d k hm => ⟨htext d k hm, fun _ => hname k⟩)
  unfold elaborate
  rw [h1]
  cases elabSrc pf toks a with
  | none => rfl
  | some p0 =>
    exact elabWith_relabel pf _ _ toks toks' f a b hshape
      (fun d k hm => ⟨htext d k hm, fun _ => by simp only [hname k]⟩)

end Garnish.Abs.Source
