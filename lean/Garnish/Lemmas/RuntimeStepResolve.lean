/-
The step simulation, `Resolve` against Abs/Machine `resolveStep`: the key is found in the input value, or the context
is asked — a symbol key goes to the host's `resolve` (`Core.hostCall_sim`), any other key gives unit.
-/
import Garnish.Lemmas.RuntimeStepControl
import Garnish.Lemmas.RuntimeResolve
namespace Garnish.Lemmas.Runtime
open Garnish Gen Garnish.Abs Garnish.Model.Equality Garnish.Model.Runtime Garnish.Props.RuntimeRefine

variable {F σ : Type} {S : RStore F σ} {P : Prog F} {host : Host F}

/-- what Abs/Machine `resolveStep` pushes when the key is not found in the input value -/
def contextValue (host : Host F) (key : Val F) : Val F :=
  match key with
  | .sym sy => (host.resolve sy).getD .unit
  | _ => .unit

/-- the machine's trace after the context half of `resolveStep` -/
def contextTrace (key : Val F) (mt : List (Abs.HostCall F)) : List (Abs.HostCall F) :=
  match key with
  | .sym sy => Abs.HostCall.resolve sy :: mt
  | _ => mt

section
variable (fo : FloatOps F) (host : Host F)

theorem resolveStep_context_eq (m : MState F) (key : Val F)
    (hin : (match m.vals with
      | [] => True
      | cur :: _ => getAccess fo key cur = .none ∨ getAccess fo key cur = .unsupported)) :
    resolveStep fo host m key =
      .ok { m with regs := contextValue host key :: m.regs, trace := contextTrace key m.trace } := by
  obtain ⟨pc, regs, vals, frames, trace⟩ := m
  have fin : ∀ (X : Except ErrClass (MState F)),
      X = (match key with
        | .sym sy =>
          match host.resolve sy with
          | some v => .ok ⟨pc, v :: regs, vals, frames, Abs.HostCall.resolve sy :: trace⟩
          | none => .ok ⟨pc, .unit :: regs, vals, frames, Abs.HostCall.resolve sy :: trace⟩
        | _ => .ok ⟨pc, .unit :: regs, vals, frames, trace⟩) →
      X = .ok ⟨pc, contextValue host key :: regs, vals, frames, contextTrace key trace⟩ := by
    rintro _ rfl
    cases key
    case sym sy => simp only [contextValue, contextTrace]; cases host.resolve sy <;> rfl
    all_goals rfl
  apply fin
  unfold resolveStep
  cases vals with
  | nil => cases key <;> rfl
  | cons cur vs =>
    simp only [] at hin
    rcases hin with h | h <;> simp only [h] <;> cases key <;> rfl

end

namespace Core
open On
variable {Inv : σ → Prop} {Rd : σ → Nat → Prop} {K : Prop}

theorem handlerSimI_resolveContext (L : LawsK S Inv Rd K) (HR : HostRefinesI S Inv host) {s : σ} {m : MState F}
    (hsim : Sim S P s m) {res : Outcome (Option Nat × σ)} {key : Val F} (h : ResolveContextI S Inv s res none key) :
    HandlerSimI S Inv P s res m
      (.ok ({ m with regs := contextValue host key :: m.regs, trace := contextTrace key m.trace }, m.pc + 1)) := by
  obtain ⟨s0, e0, hk⟩ := h
  have hd0 : SimD S P s0 m.regs m.vals m.frames :=
    SimD.ofEff hsim.2 e0.toEff (decodesList_keeps e0.keeps hsim.2.regs) (decodesList_keeps e0.keeps hsim.2.vals)
  have unitCase : contextValue host key = .unit → contextTrace key m.trace = m.trace →
      PushedI S Inv s0 res none (S.regs s0) .unit → HandlerSimI S Inv P s res m
        (.ok ({ m with regs := contextValue host key :: m.regs, trace := contextTrace key m.trace }, m.pc + 1)) := by
    intro hv ht ⟨u, s1, h1, d1, e1⟩
    rw [hv, ht]
    rw [e0.vals] at e1
    exact handlerSimI_ofEff (md := { m with regs := .unit :: m.regs }) hsim.2 h1 (e0.trans e1)
      (.cons d1 (decodesList_keeps e1.keeps hd0.regs)) (decodesList_keeps (e0.trans e1).keeps hsim.2.vals) rfl (by simp [hsim.1])
  cases key
  case sym sy =>
    obtain ⟨s1, h1, hc1, hd1, hk1, i1, ht1⟩ := hostCall_sim (P := P) (c' := .resolve sy) (L.resolve sy)
      (HR.resolve sy s0 e0.inv) hk hd0 rfl
    exact ⟨none, s1, h1, by simp [hsim.1], hc1.trans e0.keeps.cur, hd1, fun x v h => hk1 x v (e0.dec h), i1,
      fun h => ht1 _ (by rw [e0.trace]; exact traceRel_mapDec e0.keeps.dec h)⟩
  all_goals exact unitCase rfl rfl hk

/-- `Resolve k`, whatever the operand and the constants are, given what the handler does with the outcome of the
look-up of the key in the input value (`hlook`: the conclusion of `Core.resolve_spec`) -/
theorem handle_resolve_of (fo : FloatOps F) (L : LawsK S Inv Rd K) (HR : HostRefinesI S Inv host) (fuel : Nat)
    (H : OtherHandlers σ) {s : σ} {m : MState F} (hsim : Sim S P s m) (hi : Inv s) (operand : Option Nat)
    (hdk : ∀ k key, operand = some k → P.consts[k]? = some key → Decodes (S.view s) k key)
    (hdom : ∀ k key, operand = some k → P.consts[k]? = some key → ∀ cur vs, m.vals = cur :: vs → AccessDomain cur)
    (hlook : ∀ k key, operand = some k → P.consts[k]? = some key → ∀ c cs cur vs, S.vals s = c :: cs →
      m.vals = cur :: vs → Decodes (S.view s) c cur →
      match getAccess fo key cur with
      | .some v => PushedI S Inv s (Model.Runtime.resolve fo S fuel k s) none (S.regs s) v
      | .none => ResolveContextI S Inv s (Model.Runtime.resolve fo S fuel k s) none key
      | .unsupported => ResolveContextI S Inv s (Model.Runtime.resolve fo S fuel k s) none key
      | .err e => e ≠ .unsupported → Model.Runtime.resolve fo S fuel k s = .err e) :
    HandlerSimI S Inv P s (dispatch fo S fuel H .resolve operand s) m (handle fo host P m .resolve operand) := by
  simp only [handle]
  split
  · trivial
  rename_i k
  split
  · trivial
  rename_i key hc
  have hdk := hdk k key rfl hc
  show HandlerSimI S Inv P s (Model.Runtime.resolve fo S fuel k s) m _
  have hvals := hsim.2.vals
  cases hmv : m.vals with
  | nil =>
    rw [hmv] at hvals
    have hsv : S.vals s = [] := by
      generalize S.vals s = sv at hvals
      cases hvals; rfl
    rw [resolveStep_context_eq fo host m key (by rw [hmv]; trivial)]
    exact handlerSimI_resolveContext L HR hsim (resolve_no_input_spec fo L fuel hsv hdk hi)
  | cons cur vs =>
    rw [hmv] at hvals
    obtain ⟨c, cs, hsv, dc, _⟩ := decodesList_cons_inv hvals
    have h := hlook k key rfl hc c cs cur vs hsv hmv dc
    cases hga : getAccess fo key cur with
    | some v =>
      rw [hga] at h
      obtain ⟨a, s1, h1, d1, e1⟩ := h
      have : resolveStep fo host m key = .ok { m with regs := v :: m.regs } := by
        unfold resolveStep; simp only [hmv, hga]
      rw [this]
      exact handlerSimI_ofEff (md := { m with regs := v :: m.regs }) hsim.2 h1 e1
        (.cons d1 (decodesList_keeps e1.keeps hsim.2.regs)) (decodesList_keeps e1.keeps hsim.2.vals) rfl (by simp [hsim.1])
    | none =>
      rw [hga] at h
      rw [resolveStep_context_eq fo host m key (by rw [hmv]; exact Or.inl hga)]
      exact handlerSimI_resolveContext L HR hsim h
    | unsupported =>
      rw [hga] at h
      rw [resolveStep_context_eq fo host m key (by rw [hmv]; exact Or.inr hga)]
      exact handlerSimI_resolveContext L HR hsim h
    | err e =>
      -- the machine errs (inside the domain never with the "not modelled" marker): nothing to show
      have hne := getAccess_ne_unsupportedErr fo (key := key) (hdom k key rfl hc cur vs hmv)
      rw [hga] at hne
      have : resolveStep fo host m key = .error e := by
        unfold resolveStep
        simp only [hmv, hga]
        cases e <;> first | rfl | exact absurd rfl hne
      rw [this]; trivial

/-- `Resolve k` with the look-up of `get_access_addr` -/
theorem handle_resolve (fo : FloatOps F) (L : LawsK S Inv Rd K) (HR : HostRefinesI S Inv host) (fuel : Nat)
    (H : OtherHandlers σ) {s : σ} {m : MState F} (hsim : Sim S P s m) (hi : Inv s) (operand : Option Nat)
    (hok : ∀ k, operand = some k → ResolveOK fo S P fuel s m k)
    (hx : ∀ k key, operand = some k → P.consts[k]? = some key → ∀ cur vs, m.vals = cur :: vs → (K → ncConcat cur) ∧
      ((∀ y, key = .sym y → ∀ vs, cur ≠ .list vs) ∨ ListSymOn S Inv) ∧ ∀ v, getAccess fo key cur = .some v → K → v ≠ .custom)
    (hm : K → MDeepN m 0) :
    HandlerSimI S Inv P s (dispatch fo S fuel H .resolve operand s) m (handle fo host P m .resolve operand) := by
  have hdp : DeepK K S s (S.regs s) :=
    deepK_of_sim hsim.2 hsim.2.regs (fun kk fr frs hf => by have := hm kk fr frs hf; omega)
  refine handle_resolve_of fo L HR fuel H hsim hi operand (fun k key hk hc => (hok k hk key hc).1)
    (fun k key hk hc cur vs hv => ((hok k hk key hc).2 cur vs hv).1) (fun k key hk hc c cs cur vs hsv hmv dc => ?_)
  obtain ⟨hdk, hdom⟩ := hok k hk key hc
  obtain ⟨hd1, hfu, hkey⟩ := hdom cur vs hmv
  obtain ⟨hnc, hls, hres⟩ := hx k key hk hc cur vs hmv
  exact resolve_spec fo L fuel hsv hdk (getAccessAddr_spec fo L fuel hdk dc hd1 hkey hfu hnc hls hi hdp) hres hi

end Core

end Garnish.Lemmas.Runtime
