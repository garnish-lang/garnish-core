/-
The `Access` and `Resolve` handler and step lemmas of the relativised refinement chain under the look-up hypothesis "the list looked
into has distinct keys" + `ListSymDistinctOn S Inv` (Lemmas/SimpleListSym.lean) — the form that can be discharged for
SimpleGarnishData. The handler lemmas are `Core.access_of_lookup` / `Core.resolve_spec` at the look-up `getAccessAddr_spec_distinct`.
Coverage group 4 with that look-up condition for `Access` and `Resolve`: `LookupOnD`, `MachOKOn4D`, `refine_step_on4D`; every other
instruction keeps its `MachOKOn4` condition.
-/
import Garnish.Lemmas.RuntimeRun
import Garnish.Lemmas.SimpleListSym
namespace Garnish.Lemmas.Runtime.On
open Garnish Gen Garnish.Abs Garnish.Model.Equality Garnish.Model.Runtime Garnish.Lemmas.Runtime
open Garnish.Props.RuntimeRefine Garnish.Lemmas.Runtime.SimpleSym

variable {F σ : Type} {S : RStore F σ} {Inv : σ → Prop} {Rd : σ → Nat → Prop} {P : Prog F} {host : Host F}
  (fo : FloatOps F)

theorem access_spec_d (L : StoreLawsOn S Inv Rd) (LS : ListSymDistinctOn S Inv) (fuel : Nat) {s : σ} {r l : Nat} {vr vl : Val F} {rest : List Nat}
    (hregs : S.regs s = r :: l :: rest) (hl : Decodes (S.view s) l vl) (hr : Decodes (S.view s) r vr)
    (hd : accessArm vl.typeOf vr.typeOf = .get → AccessDomain vl ∧ accessFuel vl ≤ fuel ∧
      ∀ n, vr = .num n → (∃ i, n = .int i) ∧ RangeOrdered fo n vl)
    (hx : accessArm vl.typeOf vr.typeOf = .get → ncConcat vl ∧
      (∀ y, vr = .sym y → ∀ vs, vl = .list vs → DistinctKeys vs) ∧ ∀ v, getAccess fo vr vl = .some v → v ≠ .custom)
    (hmg : accessArm vl.typeOf vr.typeOf = .merge → (∀ n, vl ≠ .num n) ∧ (∀ n, vr ≠ .num n))
    (hinv : Inv s := by inv_tac) (hdp : Deep S s rest := by deep_tac) :
    RefinesOutI S Inv s (Model.Runtime.access fo S fuel s) none rest l r (Abs.access fo vl vr) :=
  Core.access_of_lookup fo L.toK fuel hregs hl hr (fun harm => (hd harm).1)
    (fun harm _ e0 => getAccessAddr_spec_distinct fo L LS fuel (e0.dec hr) (e0.dec hl) (hd harm).1 (hd harm).2.2
      (hd harm).2.1 (hx harm).1 (hx harm).2.1 e0.inv (deep_regs_of e0 hdp))
    (fun harm v hv _ => (hx harm).2.2 v hv) (fun harm _ => hmg harm) hinv fun _ => hdp

theorem C17_refine_resolve_d (L : StoreLawsOn S Inv Rd) (LS : ListSymDistinctOn S Inv) (fuel : Nat) {s : σ} {data c : Nat} {vs : List Nat} {key cur : Val F}
    (hv : S.vals s = c :: vs) (hk : Decodes (S.view s) data key) (hc : Decodes (S.view s) c cur)
    (hd : AccessDomain cur) (hkey : ∀ n, key = .num n → (∃ i, n = .int i) ∧ RangeOrdered fo n cur)
    (hf : accessFuel cur ≤ fuel) (hnc : ncConcat cur)
    (hls : ∀ y, key = .sym y → ∀ vs, cur = .list vs → DistinctKeys vs)
    (hres : ∀ v, getAccess fo key cur = .some v → v ≠ .custom)
    (hinv : Inv s := by inv_tac) (hdp : Deep S s (S.regs s) := by deep_tac) :
    match getAccess fo key cur with
    | .some v => PushedI S Inv s (Model.Runtime.resolve fo S fuel data s) none (S.regs s) v
    | .none => ResolveContextI S Inv s (Model.Runtime.resolve fo S fuel data s) none key
    | .unsupported => ResolveContextI S Inv s (Model.Runtime.resolve fo S fuel data s) none key
    | .err e => e ≠ .unsupported → Model.Runtime.resolve fo S fuel data s = .err e :=
  Core.resolve_spec fo L.toK fuel hv hk (getAccessAddr_spec_distinct fo L LS fuel hk hc hd hkey hf hnc hls)
    (fun v hv _ => hres v hv)

/-- `LookupOn` without a store hypothesis: no `custom` node in a concatenation that is iterated, a LIST looked into
with a symbol key has pairwise different symbol keys, the value found is not `custom` -/
def LookupOnD (key cur : Val F) : Prop :=
  ncConcat cur ∧ (∀ y, key = .sym y → ∀ vs, cur = .list vs → DistinctKeys vs) ∧
    ∀ v, getAccess fo key cur = .some v → v ≠ .custom

/-- `MachOKOn4` with `LookupOnD` for `Access` and `Resolve` -/
def MachOKOn4D (S : RStore F σ) (Inv : σ → Prop) (P : Prog F) (fuel : Nat) (m : MState F) (instr : Instruction)
    (operand : Option Nat) : Prop :=
  match instr with
  | .access => MDeepN m 2 ∧ ∀ vr vl rs, m.regs = vr :: vl :: rs → AccessOK fo fuel vl vr ∧
      (accessArm vl.typeOf vr.typeOf = .get → LookupOnD fo vr vl) ∧
      (accessArm vl.typeOf vr.typeOf = .merge → (∀ n, vl ≠ .num n) ∧ (∀ n, vr ≠ .num n))
  | .resolve => MDeepN m 0 ∧ ∀ k key, operand = some k → P.consts[k]? = some key →
      ∀ cur vs, m.vals = cur :: vs → (AccessDomain cur ∧ accessFuel cur ≤ fuel ∧
        ∀ n, key = .num n → (∃ i, n = .int i) ∧ RangeOrdered fo n cur) ∧ LookupOnD fo key cur
  | _ => MachOKOn4 fo S Inv P fuel m instr operand

theorem refine_step_on4D (L : StoreLawsOn S Inv Rd) (LS : ListSymDistinctOn S Inv) (HR : HostRefinesI S Inv host)
    (fuel : Nat) (cast : RM σ (Option Nat)) {s : σ} {m : MState F} (hsim : Sim S P s m) (hi : Inv s)
    (hl : Loaded S P s) {instr : Instruction} {operand : Option Nat}
    (hfetch : P.instrs[m.pc]? = some (instr, operand)) (hok : MachOKOn4D fo S Inv P fuel m instr operand) :
    StepSimOn fo host S Inv P fuel (fullHandlers fo S fuel cast) s m := by
  cases instr
  case access =>
    refine (Core.step_of_handle L.setCursor fo fuel _ hsim hfetch ?_).on
    exact Core.handle_total_binary fo operand rfl (fun _ => rfl) (fun _ => trivial) (fun vr vl rs hr => by
      obtain ⟨hd, hx, hmg⟩ := hok.2 vr vl rs hr
      exact Core.handle_binary fo L.toK HR fuel _ hsim operand rfl hr (o := Abs.access fo vl vr) rfl rfl
        (fun r l rest hrr hdp dl dr => access_spec_d fo L LS fuel hrr dl dr hd hx hmg hi (hdp trivial))
        (fun _ => hok.1.two hr))
  case resolve =>
    have hdp : Deep S s (S.regs s) :=
      deep_of_sim hsim.2 hsim.2.regs (fun fr frs hf => by have := hok.1 fr frs hf; omega)
    refine (Core.step_of_handle L.setCursor fo fuel _ hsim hfetch (Core.handle_resolve_of fo L.toK HR fuel _ hsim hi operand
      (fun k key _ hc => hl k key hc) (fun k key hk hc cur vs hv => (hok.2 k key hk hc cur vs hv).1.1)
      (fun k key hk hc c cs cur vs hsv hmv dc => ?_))).on
    obtain ⟨⟨hd1, hfu, hkey⟩, hnc, hls, hres⟩ := hok.2 k key hk hc cur vs hmv
    exact C17_refine_resolve_d fo L LS fuel hsv (hl k key hc) dc hd1 hkey hfu hnc hls hres
  all_goals exact refine_step_on4 fo L HR fuel cast hsim hi hl hfetch hok

end Garnish.Lemmas.Runtime.On
