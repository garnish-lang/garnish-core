/-
Branch targets lie ahead. The instructions that can transfer control into an out-of-line root — `JumpIfTrue`,
`JumpIfFalse`, `And`, `Or` — always name a jump entry that `emit` has just allocated for a root it pushes; the root is
laid out after the root that contains the instruction is complete (main line AND terminators). Hence in the compiled
program: `instrs[i] = (branch, some j)` → `jumps[j] = some t` with `i + 1 < t` (`BranchFwd`, `compile_branchFwd`): neither the branch
instruction nor the instruction after it belongs to the code it may jump to (used by C10 "in context").
-/
import Garnish.Lemmas.CompileDepthLoop
namespace Garnish.Abs
open Garnish Gen Garnish.Spec

variable {F : Type}

/-- the branch instructions written from `s` to `s'` name new jump entries, each the placeholder of a root pending in
`s'` (or one of the arm placeholders `idx` of the else-chain being emitted); new roots have terminators -/
structure BF (idx : List Nat) (s s' : LState F) : Prop where
  br : ∀ i op j, s.instrs.size ≤ i → s'.instrs[i]? = some (op, some j) → isBranch op = true →
    s.jumps.size ≤ j ∧ ((∃ q ∈ s'.pending, q.patch = j) ∨ j ∈ idx)
  roots : ∀ q ∈ s'.pending, q ∈ s.pending ∨ (q.term ≠ [] ∧ ∀ t ∈ q.term, isBranch t.1 = false ∧ t.1 ≠ .putValue)

theorem BF.refl (idx : List Nat) (s : LState F) : BF idx s s :=
  ⟨fun i _ _ hi hx _ => (by rw [Array.getElem?_eq_none hi] at hx; cases hx), fun _ h => .inl h⟩

theorem BF.pushJump {idx : List Nat} (s : LState F) (t : Nat) : BF idx s (s.pushJump t) :=
  ⟨fun i _ _ hi hx _ => (by simp only [LState.pushJump] at hx; rw [Array.getElem?_eq_none hi] at hx; cases hx), fun _ h => .inl h⟩

theorem BF.pushBranch (s : LState F) (i : Instruction) (j : Nat) (hj : s.jumps.size ≤ j) : BF [j] s (s.push i (some j)) where
  br k op j' hk hx hb := by
    simp only [LState.push, Array.getElem?_push] at hx
    split at hx
    · simp only [Option.some.injEq, Prod.mk.injEq] at hx
      obtain ⟨_, rfl⟩ := hx
      exact ⟨hj, .inr (by simp)⟩
    · rw [Array.getElem?_eq_none hk] at hx; cases hx
  roots _ hq := .inl hq

/-- the branch instructions of a stretch name placeholders of roots it pushes or of `idx` (`InstrNew`); a root it pushes
ends in `JumpTo`, `Tis; JumpTo` or `EndExpression` (`RootNew`) -/
theorem Wrote.bf {cur : Nat} {s s' : LState F} {o : Out F} {idx : List Nat} (h : Wrote s s' o)
    (hn : AllNew cur s.pos o idx) (hr : RootsNew cur s.pos o) : BF idx s s' where
  br i op j hi hx hb := by
    rw [h.instrs, Array.getElem?_append_right hi] at hx
    rcases hn _ (List.mem_of_getElem? (by simpa using hx)) with h0 | ⟨_, h0⟩ | h0 | ⟨_, a, _⟩ | ⟨j', _, b, c, d⟩
    · cases h0
    · cases h0; cases hb
    · cases h0; cases hb
    · rcases a with a | a <;> (simp only at a; rw [a] at hb; cases hb)
    · cases b
      refine ⟨c.lt.1, d.imp (fun ⟨r, hr', e⟩ => ⟨r.1, ?_, e⟩) id⟩
      rw [h.pending]; exact List.mem_append_left _ (List.mem_map_of_mem hr')
  roots q hq := by
    rw [h.pending, List.mem_append] at hq
    rcases hq with hm | hm
    · obtain ⟨r, hr', rfl⟩ := List.mem_map.1 hm
      rcases (hr r hr').2 with ⟨_, _, _, _, _, _, tm | tm⟩ | ⟨_, _, _, tm⟩ <;> rw [tm] <;> exact .inr (by simp [isBranch])
    · exact .inl hm

theorem emit_bf (root cur : Nat) (e : Expr F) (s : LState F) : BF [] s (emit root cur e s) :=
  (emit_wrote root cur e s).bf (out_new cur e _) (out_roots cur e _)

theorem emitList_bf (root cur : Nat) : ∀ (items : List (Expr F)) (s : LState F), cur < s.jumps.size →
    BF [] s (emitList root cur items s) :=
  fun items s _ => (emitList_wrote root cur items s).bf (outList_new cur items _) (outList_roots cur items _)

theorem emitArms_bf (root cur : Nat) : ∀ (arms : List (Bool × Expr F × Expr F)) (s : LState F), cur < s.jumps.size →
    BF ((emitArms root cur arms s).2.map (·.2)) s (emitArms root cur arms s).1 := by
  intro arms s _
  obtain ⟨hw, he⟩ := emitArms_wrote root cur arms s
  rw [he]
  exact hw.bf (outArms_new cur arms _) (outArms_roots cur arms _).1

theorem addTerms_mem (start : Nat) (last : Option Instr) : ∀ (terms : List Instr) (s : LState F) (i : Nat) (x : Instr),
    s.instrs.size ≤ i → (addTerms start last terms s).instrs[i]? = some x → x ∈ terms
  | [], s, i, x, hi, hx => by simp only [addTerms] at hx; rw [Array.getElem?_eq_none hi] at hx; cases hx
  | t :: ts, s, i, x, hi, hx => by
    simp only [addTerms] at hx
    split at hx
    · exact List.mem_cons_of_mem _ (addTerms_mem start last ts s i x hi hx)
    · by_cases h : i = s.instrs.size
      · have p := addTerms_pre start last ts (s.push t.1 t.2)
        rw [p.instrs i (by simp [h])] at hx
        simp only [LState.push, h, Array.getElem?_push_size, Option.some.injEq] at hx
        rw [← hx]; exact List.mem_cons_self
      · exact List.mem_cons_of_mem _ (addTerms_mem start last ts _ i x (by simp; omega) hx)

/-- when the last instruction is not an `EndExpression`, no terminator is skipped: something is appended -/
theorem addTerms_grows (start : Nat) (last : Option Instr) (hl : ∀ t, last = some t → t.1 ≠ .endExpression) :
    ∀ (terms : List Instr) (s : LState F), terms ≠ [] → s.instrs.size < (addTerms start last terms s).instrs.size
  | [], _, h => absurd rfl h
  | t :: ts, s, _ => by
    simp only [addTerms]
    have hn : ¬ (last = some t ∧ t.1 = .endExpression ∧ s.instrs.size > start) := fun h => hl t h.1 h.2.1
    rw [if_neg hn]
    have := (addTerms_pre start last ts (s.push t.1 t.2)).isize
    simp only [LState.push, Array.size_push] at this ⊢
    omega

/-- what the loop maintains about the branch instructions: a resolved target lies beyond the instruction after the
branch — and beyond the `PutValue` after that, if there is one (the conditional's "test failed" continuation) -/
structure FInv (s : LState F) : Prop where
  res : ∀ i op j, s.instrs[i]? = some (op, some j) → isBranch op = true →
    (∃ q ∈ s.pending, q.patch = j) ∨
    (∃ t, s.jumps[j]? = some t ∧ i + 1 < t ∧ t ≤ s.instrs.size ∧ (s.instrs[i + 1]? = some (.putValue, none) → i + 2 < t))
  ahead : ∀ q ∈ s.pending, ∀ i op, s.instrs[i]? = some (op, some q.patch) → isBranch op = true →
    i + 1 < s.instrs.size ∧ (s.instrs[i + 1]? = some (.putValue, none) → i + 2 < s.instrs.size)
  terms : ∀ q ∈ s.pending, q.term ≠ [] ∧ ∀ t ∈ q.term, isBranch t.1 = false ∧ t.1 ≠ .putValue

section loop
variable (bodies : List (Nat × Expr F))

theorem layoutRoot_finv {s : LState F} {r : Root F} {rest : List (Root F)} (inv : Inv s) (fi : FInv s)
    (hp : s.pending = r :: rest) : FInv (layoutRoot bodies r { s with pending := rest }) := by
  have hr_mem : r ∈ s.pending := by rw [hp]; exact List.mem_cons_self
  have hrest : ∀ q ∈ rest, q ∈ s.pending := fun q hq => by rw [hp]; exact List.mem_cons_of_mem _ hq
  have hrp : r.patch < s.jumps.size := inv.pend r hr_mem
  obtain ⟨hrt1, hrt2⟩ := fi.terms r hr_mem
  obtain ⟨s1, s2, st, he⟩ := layoutRoot_anatomy bodies (rest := rest) (inv.cont r hr_mem)
  rw [he]
  have s1_jsize := st.jsize
  have res1 : ∀ i op j, s.instrs[i]? = some (op, some j) → isBranch op = true →
      (∃ q ∈ rest, q.patch = j) ∨
      (∃ t, s1.jumps[j]? = some t ∧ i + 1 < t ∧ t ≤ s.instrs.size ∧ (s.instrs[i + 1]? = some (.putValue, none) → i + 2 < t)) := by
    intro i op j hx hb
    by_cases hj : j = r.patch
    · subst hj
      obtain ⟨a1, a2⟩ := fi.ahead r hr_mem i op hx hb
      refine .inr ⟨s.instrs.size, ?_, a1, Nat.le_refl _, a2⟩
      rw [st.jumps]; simp [Array.getElem?_setIfInBounds, hrp]
    · rcases fi.res i op j hx hb with ⟨q, hq, e⟩ | ⟨t, ht, hlt, hle, hpv⟩
      · rw [hp, List.mem_cons] at hq
        rcases hq with rfl | hq
        · exact absurd e.symm hj
        · exact .inl ⟨q, hq, e⟩
      · refine .inr ⟨t, ?_, hlt, hle, hpv⟩
        rw [st.jumps, Array.getElem?_setIfInBounds_ne (Ne.symm hj)]; exact ht
  have bf : BF [] s1 s2 := by
    rw [st.body]
    simp only [bodyState]
    cases rootBody bodies r with
    | none => exact .refl _ s1
    | some b => exact emit_bf r.patch r.containing b s1
  have p12 := st.pre
  have p23 := addTerms_pre s.instrs.size s2.instrs.back? r.term s2
  have hpend3 := (addTerms_pending s.instrs.size s2.instrs.back? r.term s2).1
  have hmem3 := addTerms_mem s.instrs.size s2.instrs.back? r.term s2
  have hgrow3 := fun hl => addTerms_grows s.instrs.size s2.instrs.back? hl r.term s2
  generalize hs3 : addTerms s.instrs.size s2.instrs.back? r.term s2 = s3 at p23 hpend3 hmem3 hgrow3
  have p13 := p12.trans p23
  have i13 := p13.isize
  have i12 := p12.isize
  have i23 := p23.isize
  rw [st.instrs] at i13 i12
  have old3 : ∀ i, i < s.instrs.size → s3.instrs[i]? = s.instrs[i]? := fun i hi => by
    rw [p13.instrs i (by rw [st.instrs]; exact hi), st.instrs]
  -- a terminator is neither a branch nor a `PutValue`
  have hterm : ∀ i x, s2.instrs.size ≤ i → s3.instrs[i]? = some x → isBranch x.1 = false ∧ x.1 ≠ .putValue :=
    fun i x hi hx => hrt2 x (hmem3 i x hi hx)
  have hnew : ∀ i op j, s.instrs.size ≤ i → s3.instrs[i]? = some (op, some j) → isBranch op = true →
      i < s2.instrs.size ∧ s1.jumps.size ≤ j ∧ ∃ q ∈ s2.pending, q.patch = j := by
    intro i op j hi hx hb
    by_cases hlt : i < s2.instrs.size
    · rw [p23.instrs i hlt] at hx
      obtain ⟨k1, k2⟩ := bf.br i op j (by rw [st.instrs]; exact hi) hx hb
      rcases k2 with k2 | k2
      · exact ⟨hlt, k1, k2⟩
      · cases k2
    · have := (hterm i _ (by omega) hx).1
      simp only at this
      rw [hb] at this; cases this
  -- a new branch instruction is followed by an instruction of the same root, and a `PutValue` after it by another one
  have hfollow : ∀ i op j, s.instrs.size ≤ i → s3.instrs[i]? = some (op, some j) → isBranch op = true →
      i + 1 < s3.instrs.size ∧ (s3.instrs[i + 1]? = some (.putValue, none) → i + 2 < s3.instrs.size) := by
    intro i op j hi hx hb
    obtain ⟨hi2, _, _⟩ := hnew i op j hi hx hb
    have hx2 : s2.instrs[i]? = some (op, some j) := by rw [← p23.instrs i hi2]; exact hx
    have hlast : ∀ k y, k + 1 = s2.instrs.size → s2.instrs[k]? = some y → y.1 ≠ .endExpression →
        s2.instrs.size < s3.instrs.size := by
      intro k y hk hy hne
      refine hgrow3 (fun t ht => ?_) hrt1
      have : s2.instrs.back? = some y := by
        have : s2.instrs.size - 1 = k := by omega
        simp only [Array.back?, this]; exact hy
      rw [this] at ht; cases ht; exact hne
    constructor
    · by_cases h : i + 1 < s2.instrs.size
      · omega
      · have := hlast i _ (by omega) hx2 (by intro h'; simp only at h'; rw [h'] at hb; cases hb)
        omega
    · intro hpv
      by_cases h : i + 1 < s2.instrs.size
      · by_cases h2 : i + 2 < s2.instrs.size
        · omega
        · rw [p23.instrs (i + 1) h] at hpv
          have := hlast (i + 1) _ (by omega) hpv (by simp)
          omega
      · exact absurd rfl (hterm (i + 1) _ (by omega) hpv).2
  refine ⟨fun i op j hx hb => ?_, fun q hq i op hx hb => ?_, fun q hq => ?_⟩
  · by_cases hlt : i < s.instrs.size
    · rw [old3 i hlt] at hx
      rcases res1 i op j hx hb with ⟨q, hq, e⟩ | ⟨t, ht, h1, h2, h3⟩
      · exact .inl ⟨q, by rw [hpend3]; exact p12.keep q (by rw [st.pending]; exact hq), e⟩
      · refine .inr ⟨t, ?_, h1, by omega, fun hpv => h3 ?_⟩
        · have hjlt : j < s1.jumps.size := (Array.getElem?_eq_some_iff.mp ht).1
          rw [p13.jumps j hjlt]; exact ht
        · rw [old3 (i + 1) (by omega)] at hpv; exact hpv
    · obtain ⟨_, _, q, hq, e⟩ := hnew i op j (by omega) hx hb
      exact .inl ⟨q, by rw [hpend3]; exact hq, e⟩
  · rw [hpend3] at hq
    by_cases hlt : i < s.instrs.size
    · -- an old instruction naming `q.patch`: `q` is an old pending root
      rw [old3 i hlt] at hx
      have hq_old : q ∈ rest := by
        rcases p12.pend q hq with h | ⟨h, _⟩
        · rw [st.pending] at h; exact h
        · exfalso
          rcases res1 i op q.patch hx hb with ⟨q', hq', e⟩ | ⟨t, ht, _⟩
          · have := inv.pend q' (hrest q' hq'); omega
          · have := (Array.getElem?_eq_some_iff.mp ht).1; omega
      obtain ⟨a1, a2⟩ := fi.ahead q (hrest q hq_old) i op hx hb
      refine ⟨by omega, fun hpv => ?_⟩
      rw [old3 (i + 1) a1] at hpv
      have := a2 hpv
      omega
    · exact hfollow i op q.patch (by omega) hx hb
  · rw [hpend3] at hq
    rcases bf.roots q hq with h | h
    · rw [st.pending] at h; exact fi.terms q (hrest q h)
    · exact h

theorem layoutRoots_finv (fuel : Nat) (s : LState F) (inv : Inv s) (fi : FInv s) : FInv (layoutRoots bodies fuel s) :=
  layoutRoots_rule bodies (fun inv' fi' hp => layoutRoot_finv bodies inv' fi' hp) fuel s inv fi

end loop

/-- in the program text: a branch instruction's target lies beyond the instruction that follows it (and beyond a
`PutValue` following that one) -/
def BranchFwd (P : Prog F) : Prop :=
  ∀ i op j, P.instrs[i]? = some (op, some j) → isBranch op = true →
    ∃ t, P.jumps[j]? = some t ∧ i + 1 < t ∧ t ≤ P.instrs.size ∧ (P.instrs[i + 1]? = some (.putValue, none) → i + 2 < t)

theorem startState_finv (P0 : Prog F) (h0 : BranchFwd P0) : FInv (startState P0) where
  res i op j hx hb := by
    obtain ⟨t, ht, h1, hle, h2⟩ := h0 i op j hx hb
    have hjlt := (Array.getElem?_eq_some_iff.mp ht).1
    have hi := (Array.getElem?_eq_some_iff.mp hx).1
    refine .inr ⟨t, ?_, h1, ?_, h2⟩
    · simp only [startState]
      rw [Array.getElem?_push_lt hjlt, ← ht]
      exact (Array.getElem?_eq_getElem hjlt).symm
    · simpa [startState] using hle
  ahead q hq i op hx hb := by
    simp only [startState, List.mem_singleton] at hq
    subst hq
    obtain ⟨t, ht, _⟩ := h0 i op _ hx hb
    have := (Array.getElem?_eq_some_iff.mp ht).1
    simp at this
  terms q hq := by
    simp only [startState, List.mem_singleton] at hq
    subst hq
    simp [isBranch]

theorem compile_branchFwd (P0 : Prog F) (p : Program F) (h0 : BranchFwd P0) (hc : (compileState P0 p).pending = []) :
    BranchFwd (compileState P0 p).toProg := by
  have fi := layoutRoots_finv p.bodies (bodiesSize p.bodies + 2) (startState P0) (startState_inv P0) (startState_finv P0 h0)
  intro i op j hx hb
  rcases fi.res i op j hx hb with ⟨q, hq, _⟩ | ⟨t, ht, h1, hle, h2⟩
  · have : (compileState P0 p).pending = [] := hc
    simp only [compileState] at this
    rw [this] at hq; cases hq
  · exact ⟨t, ht, h1, hle, h2⟩

end Garnish.Abs
