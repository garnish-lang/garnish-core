/-
The runtime's own accessors (`index_*`, `access_with_integer`, `access_with_symbol`, range arithmetic) over ANY data object whose
accessors are total (`Iface.OK`, `Iface.ListsTotal`): no panic; the two shipped data objects are such objects (`basicIface_ok`,
`simpleIface_ok`).
-/
import Garnish.Lemmas.AccessList
import Garnish.Lemmas.AccessSimple
import Garnish.Model.AccessRuntime
namespace Garnish.Access.Runtime
open Garnish Garnish.Access
open Garnish.Gen (Ty)

theorem rangeLen_eq (s e : Int) :
    rangeLen s e = if InRange (e - s) ∧ InRange (e - s + 1) then .ok (e - s + 1) else .err .number := by
  unfold rangeLen numSub numInc numPlus
  by_cases h1 : InRange (e - s)
  · by_cases h2 : InRange (e - s + 1) <;> simp [h1, h2]
  · simp [h1]

theorem rangeLen_safe (s e : Int) : Safe (rangeLen s e) := by
  rw [rangeLen_eq]; split
  · exact safe_ok _
  · exact safe_err _

theorem numPlus_safe (a b : Int) : Safe (numPlus a b) := by
  unfold numPlus; split
  · exact safe_ok _
  · exact safe_err _

theorem numSub_safe (a b : Int) : Safe (numSub a b) := by
  unfold numSub; split
  · exact safe_ok _
  · exact safe_err _

theorem sizeToNumber_inRange (n : Nat) : InRange (sizeToNumber n) := by
  unfold sizeToNumber wrap InRange; omega

theorem sizeToNumber_le (n : Nat) : sizeToNumber n ≤ n := by
  unfold sizeToNumber wrap; omega

theorem sizeToNumber_small {n : Nat} (h : n ≤ 2147483647) : sizeToNumber n = n := by
  unfold sizeToNumber wrap; omega

/-- every accessor the runtime calls answers `Ok` or `Err`, and the numbers it hands out are `i32` values -/
structure Iface.OK (d : Iface) : Prop where
  typeOf : ∀ a, Safe (d.typeOf a)
  getPair : ∀ a, Safe (d.getPair a)
  getRange : ∀ a, Safe (d.getRange a)
  getSlice : ∀ a, Safe (d.getSlice a)
  getConcat : ∀ a, Safe (d.getConcat a)
  getNumber : ∀ a, Safe (d.getNumber a)
  numberInRange : ∀ a v, d.getNumber a = .ok v → InRange v
  getSymbol : ∀ a, Safe (d.getSymbol a)
  listLen : ∀ a, Safe (d.listLen a)
  listItem : ∀ a ix, Safe (d.listItem a ix)
  charLen : ∀ a, Safe (d.charLen a)
  charItem : ∀ a ix, Safe (d.charItem a ix)
  byteLen : ∀ a, Safe (d.byteLen a)
  byteItem : ∀ a ix, Safe (d.byteItem a ix)
  symLen : ∀ a, Safe (d.symLen a)
  symItem : ∀ a ix, Safe (d.symItem a ix)

/-- below its length a list always has an item (`get_list_item` never says `None` there): what keeps the
`unimplemented!` of `iterate_concatenation_mut` unreachable -/
def Iface.ListsTotal (d : Iface) : Prop :=
  ∀ r len i, d.listLen r = .ok len → i < len → d.listItem r (.int (sizeToNumber i)) ≠ .ok none

section
variable {d : Iface}

theorem getRangeNums_safe (ok : d.OK) (addr : Nat) : Safe (getRangeNums d addr) := by
  unfold getRangeNums
  apply safe_bind (ok.getRange addr); intro p _
  apply safe_bind (ok.typeOf _); intro ts _
  apply safe_bind (ok.typeOf _); intro te _
  split
  · apply safe_bind (ok.getNumber _); intro s _
    apply safe_bind (ok.getNumber _); intro e _
    exact safe_bind (rangeLen_safe _ _) (fun _ _ => safe_ok _)
  · exact safe_err _

theorem getRangeNums_inRange (ok : d.OK) {addr : Nat} {s e len : Int} (h : getRangeNums d addr = .ok (s, e, len)) :
    InRange s ∧ InRange e ∧ len = e - s + 1 ∧ InRange len := by
  unfold getRangeNums at h
  obtain ⟨p, _, h⟩ := Outcome.bind_eq_ok.1 h
  obtain ⟨ts, _, h⟩ := Outcome.bind_eq_ok.1 h
  obtain ⟨te, _, h⟩ := Outcome.bind_eq_ok.1 h
  split at h
  · obtain ⟨s', h3, h⟩ := Outcome.bind_eq_ok.1 h
    obtain ⟨e', h4, h⟩ := Outcome.bind_eq_ok.1 h
    rw [rangeLen_eq] at h
    split at h
    · rename_i hc
      simp only [bind_ok, Outcome.ok.injEq, Prod.mk.injEq] at h
      obtain ⟨rfl, rfl, rfl⟩ := h
      exact ⟨ok.numberInRange _ _ h3, ok.numberInRange _ _ h4, rfl, hc.2⟩
    · simp at h
  · simp at h

theorem indexList_safe (ok : d.OK) (list : Nat) (ix : Int) : Safe (indexList d list ix) := by
  unfold indexList; split
  · exact safe_ok _
  · apply safe_bind (ok.listLen list); intro len _
    split
    · exact safe_ok _
    · apply safe_bind (ok.listItem _ _); intro r _
      split <;> exact safe_ok _

theorem indexCharList_safe (ok : d.OK) (list : Nat) (ix : Int) : Safe (indexCharList d list ix) := by
  unfold indexCharList; split
  · exact safe_ok _
  · apply safe_bind (ok.charLen list); intro len _
    split
    · exact safe_ok _
    · apply safe_bind (ok.charItem _ _); intro r _
      split <;> exact safe_ok _

theorem indexByteList_safe (ok : d.OK) (list : Nat) (ix : Int) : Safe (indexByteList d list ix) := by
  unfold indexByteList; split
  · exact safe_ok _
  · apply safe_bind (ok.byteLen list); intro len _
    split
    · exact safe_ok _
    · apply safe_bind (ok.byteItem _ _); intro r _
      split <;> exact safe_ok _

theorem indexSymbolList_safe (ok : d.OK) (list : Nat) (ix : Int) : Safe (indexSymbolList d list ix) := by
  unfold indexSymbolList; split
  · exact safe_ok _
  · apply safe_bind (ok.symLen list); intro len _
    split
    · exact safe_ok _
    · apply safe_bind (ok.symItem _ _); intro r _
      split <;> exact safe_ok _

theorem listScan_safe (ok : d.OK) (r : Nat) (index : Nat) (target : Int) {len : Nat}
    (tot : ∀ i, i < len → d.listItem r (.int (sizeToNumber i)) ≠ .ok none) :
    ∀ rem i, i + rem ≤ len → Safe (listScan d r index target rem i) := by
  intro rem
  induction rem with
  | zero => intro i _; exact safe_ok _
  | succ rem ih =>
    intro i hi
    unfold listScan
    simp only
    apply safe_bind (ok.listItem _ _); intro it hit
    cases it with
    | none => exact absurd hit (tot i (by omega))
    | some item =>
      simp only
      split
      · split
        · exact safe_ok _
        · exact ih _ (by omega)
      · exact safe_err _

/-- `iterate_concatenation_mut`: no panic while the running index stays a `usize`; `M` bounds the list lengths, so
that takes `2^64 / M` iterations -/
theorem concatFind_noPanic (ok : d.OK) (tot : d.ListsTotal) (target : Int) {M : Nat} (hM1 : 1 ≤ M)
    (hM : ∀ r len, d.listLen r = .ok len → len ≤ M) :
    ∀ fuel stack index, index + fuel * M ≤ USIZE_MAX → NoPanic (concatFind d target fuel stack index) := by
  intro fuel
  induction fuel with
  | zero => intro stack index _; cases stack <;> simp [concatFind, noPanic_ok, noPanic_fuelOut]
  | succ fuel ih =>
    intro stack index hb
    have hb' : index + M + fuel * M ≤ USIZE_MAX := by rw [Nat.succ_mul] at hb; omega
    cases stack with
    | nil => simp [concatFind, noPanic_ok]
    | cons r stack =>
      unfold concatFind
      apply noPanic_bind (ok.typeOf r).noPanic; intro t _
      split
      · apply noPanic_bind (ok.getConcat r).noPanic; intro p _
        exact ih _ _ (by omega)
      · apply noPanic_bind (ok.listLen r).noPanic; intro len hlen
        apply noPanic_bind (listScan_safe ok r index target (fun i hi => tot r len i hlen hi) len 0 (by omega)).noPanic
        intro f _
        split
        · exact noPanic_ok _
        · have := hM r len hlen
          rw [uadd_ok (by omega)]; simp only [bind_ok]
          exact ih _ _ (by omega)
      · split
        · exact noPanic_ok _
        · rw [uadd_ok (by omega)]; simp only [bind_ok]
          exact ih _ _ (by omega)

theorem indexConcatenation_noPanic (ok : d.OK) (tot : d.ListsTotal) {M : Nat} (hM1 : 1 ≤ M)
    (hM : ∀ r len, d.listLen r = .ok len → len ≤ M) {fuel : Nat} (hf : fuel * M ≤ USIZE_MAX) (addr : Nat) (ix : Int) :
    NoPanic (indexConcatenation d fuel addr ix) := by
  unfold indexConcatenation
  apply noPanic_bind (ok.getConcat addr).noPanic; intro p _
  exact concatFind_noPanic ok tot ix hM1 hM fuel _ 0 (by omega)

theorem accessWithInteger_noPanic (ok : d.OK) (tot : d.ListsTotal) {M : Nat} (hM1 : 1 ≤ M)
    (hM : ∀ r len, d.listLen r = .ok len → len ≤ M) {fuel : Nat} (hf : fuel * M ≤ USIZE_MAX) (ix : Int) (value : Nat) :
    NoPanic (accessWithInteger d fuel ix value) := by
  unfold accessWithInteger
  apply noPanic_bind (ok.typeOf value).noPanic; intro t _
  split
  · split
    · apply noPanic_bind (ok.getPair value).noPanic; intro p _
      apply noPanic_bind (ok.typeOf _).noPanic; intro tl _
      split <;> exact noPanic_ok _
    · exact noPanic_ok _
  · exact (indexList_safe ok _ _).noPanic
  · exact (indexCharList_safe ok _ _).noPanic
  · exact (indexByteList_safe ok _ _).noPanic
  · exact (indexSymbolList_safe ok _ _).noPanic
  · apply noPanic_bind (ok.getRange value).noPanic; intro p _
    apply noPanic_bind (ok.typeOf _).noPanic; intro ts _
    apply noPanic_bind (ok.typeOf _).noPanic; intro te _
    split
    · apply noPanic_bind (ok.getNumber _).noPanic; intro s _
      apply noPanic_bind (ok.getNumber _).noPanic; intro e _
      apply noPanic_bind (rangeLen_safe _ _).noPanic; intro len _
      split
      · exact noPanic_ok _
      · exact noPanic_bind (numPlus_safe _ _).noPanic (fun _ _ => noPanic_ok _)
    · exact noPanic_ok _
  · apply noPanic_bind (ok.getSlice value).noPanic; intro p _
    apply noPanic_bind (getRangeNums_safe ok _).noPanic; intro r _
    apply noPanic_bind (numPlus_safe _ _).noPanic; intro adjusted _
    apply noPanic_bind (ok.typeOf _).noPanic; intro tv _
    split
    · exact (indexList_safe ok _ _).noPanic
    · exact (indexCharList_safe ok _ _).noPanic
    · exact (indexByteList_safe ok _ _).noPanic
    · exact indexConcatenation_noPanic ok tot hM1 hM hf _ _
    · exact noPanic_err _
  · exact indexConcatenation_noPanic ok tot hM1 hM hf _ _
  · exact noPanic_err _

end

section
variable {d : Iface}

theorem keyedValue_safe (ok : d.OK) (addr sym : Nat) : Safe (keyedValue d addr sym) := by
  unfold keyedValue
  apply safe_bind (ok.typeOf addr); intro t _
  split
  · apply safe_bind (ok.getPair addr); intro p _
    apply safe_bind (ok.typeOf _); intro tl _
    split
    · exact safe_bind (ok.getSymbol _) (fun _ _ => safe_ok _)
    · exact safe_ok _
  · exact safe_ok _

/-- `clampEnd`: `Ok` with an end below `i32::MAX`, or a number error (only for `length = i32::MIN`, which no length is) -/
theorem clampEnd_cases {end_ length : Int} (he : InRange end_) (hl : InRange length) :
    (∃ e, clampEnd end_ length = .ok e ∧ e < 2147483647 ∧ InRange e ∧ e ≤ end_ ∧ e < max length (end_ + 1)) ∨ clampEnd end_ length = .err .number := by
  unfold InRange at he hl
  unfold clampEnd numSub
  by_cases h : end_ ≥ length
  · simp only [h, if_true]
    by_cases h2 : InRange (length - 1)
    · simp only [h2, if_true]
      unfold InRange at h2
      exact .inl ⟨_, rfl, by omega, by unfold InRange; omega, by omega, by omega⟩
    · simp [h2]
  · simp only [h, if_false]
    exact .inl ⟨_, rfl, by omega, by unfold InRange; omega, by omega, by omega⟩

/-- the increment never fails: the clamped end is below `i32::MAX` -/
theorem sliceScan_safe (ok : d.OK) (value sym : Nat) {end_ : Int} (he : end_ < 2147483647) :
    ∀ fuel i item, InRange i → (end_ - i + 1).toNat ≤ fuel → Safe (sliceScan d value sym end_ fuel i item) := by
  intro fuel
  induction fuel with
  | zero =>
    intro i item _ hf
    unfold sliceScan
    have : ¬ i ≤ end_ := by omega
    simp only [this, if_false]; exact safe_ok _
  | succ fuel ih =>
    intro i item hi hf
    unfold sliceScan
    split
    · rename_i hle
      apply safe_bind (ok.listItem _ _); intro li _
      apply safe_bind
      · unfold scanItem; split
        · exact safe_bind (keyedValue_safe ok _ _) (fun _ _ => safe_ok _)
        · exact safe_ok _
      intro item' _
      unfold InRange at hi
      have hin : InRange (i + 1) := by unfold InRange; omega
      simp only [numInc, numPlus, hin, if_true, bind_ok]
      exact ih _ _ hin (by omega)
    · exact safe_ok _

theorem sliceScan_ok_fuel (value sym : Nat) (end_ : Int) :
    ∀ fuel i item r, sliceScan d value sym end_ fuel i item = .ok r → (end_ - i + 1).toNat ≤ fuel := by
  intro fuel
  induction fuel with
  | zero =>
    intro i item r h
    unfold sliceScan at h
    split at h
    · cases h
    · omega
  | succ fuel ih =>
    intro i item r h
    unfold sliceScan at h
    split at h
    · rename_i hle
      obtain ⟨li, _, h⟩ := Outcome.bind_eq_ok.1 h
      obtain ⟨item', _, h⟩ := Outcome.bind_eq_ok.1 h
      unfold numInc numPlus at h
      split at h
      · simp only [bind_ok] at h
        have := ih _ _ _ h
        omega
      · simp at h
    · omega

theorem accessSliceListSymbol_safe (ok : d.OK) (value range sym : Nat) : Safe (accessSliceListSymbol d value range sym) := by
  unfold accessSliceListSymbol
  cases hr : getRangeNums d range with
  | ok r =>
    obtain ⟨s, e, len⟩ := r
    obtain ⟨hs, he, _, _⟩ := getRangeNums_inRange ok hr
    simp only [bind_ok]
    apply safe_bind (ok.listLen value); intro n _
    rcases clampEnd_cases he (sizeToNumber_inRange n) with ⟨e', h1, h2, _, _, _⟩ | h1
    · rw [h1]; simp only [bind_ok]
      exact sliceScan_safe ok value sym h2 _ _ _ hs (by unfold sliceScanSteps; omega)
    · rw [h1]; exact safe_err _
  | err e => exact safe_err _
  | panic m => exact absurd hr ((getRangeNums_safe ok range).noPanic m)
  | fuelOut => rcases getRangeNums_safe ok range with ⟨_, h⟩ | ⟨_, h⟩ <;> rw [hr] at h <;> cases h

end

theorem basicIface_ok {h : Heap} (wf : h.WF) (intOf : Nat → Option Int) (hint : ∀ n v, intOf n = some v → InRange v) :
    (basicIface h intOf).OK where
  typeOf a := safe_bind (getData_safe wf a) (fun _ _ => safe_ok _)
  getPair a := safe_bind (getData_safe wf a) (fun c _ => by split <;> first | exact safe_ok _ | exact safe_err _)
  getRange a := safe_bind (getData_safe wf a) (fun c _ => by split <;> first | exact safe_ok _ | exact safe_err _)
  getSlice a := safe_bind (getData_safe wf a) (fun c _ => by split <;> first | exact safe_ok _ | exact safe_err _)
  getConcat a := safe_bind (getData_safe wf a) (fun c _ => by split <;> first | exact safe_ok _ | exact safe_err _)
  getNumber a := safe_bind (getData_safe wf a) (fun c _ => by
    split
    · split <;> first | exact safe_ok _ | exact safe_err _
    · exact safe_err _)
  numberInRange a v hv := by
    simp only [basicIface] at hv
    obtain ⟨c, _, hv⟩ := Outcome.bind_eq_ok.1 hv
    split at hv
    · split at hv
      · rename_i hi; cases hv; exact hint _ _ hi
      · cases hv
    · cases hv
  getSymbol a := safe_bind (getData_safe wf a) (fun c _ => by split <;> first | exact safe_ok _ | exact safe_err _)
  listLen a := safe_bind (getData_safe wf a) (fun c _ => by
    cases c <;> simp [asList, safe_ok, safe_err])
  listItem a ix := (getListItem_spec wf a ix).1
  charLen a := safe_bind (getData_safe wf a) (fun c _ => by cases c <;> simp [asCharList, safe_ok, safe_err])
  charItem a ix := by
    show Safe (getCharListItem h a ix)
    rw [getCharListItem_eq]; exact (genItem_spec wf (fits_chars wf) (fun _ _ => asChar_of) a ix).1
  byteLen a := safe_bind (getData_safe wf a) (fun c _ => by cases c <;> simp [asByteList, safe_ok, safe_err])
  byteItem a ix := by
    show Safe (getByteListItem h a ix)
    rw [getByteListItem_eq]; exact (genItem_spec wf (fits_bytes wf) (fun _ _ => asByte_of) a ix).1
  symLen a := safe_bind (getData_safe wf a) (fun c _ => by cases c <;> simp [asSymbolList, safe_ok, safe_err])
  symItem a ix := by
    show Safe (getSymbolListItem h a ix)
    rw [getSymbolListItem_eq]; exact (genItem_spec wf (fits_parts wf) (fun _ _ => asPart_of) a ix).1

theorem simpleIface_ok {d : Simple.SData} (wf : Simple.WF d) : (simpleIface d).OK where
  typeOf a := safe_bind (Simple.get_safe d a) (fun _ _ => safe_ok _)
  getPair a := safe_bind (Simple.get_safe d a) (fun c _ => by split <;> first | exact safe_ok _ | exact safe_err _)
  getRange a := safe_bind (Simple.get_safe d a) (fun c _ => by split <;> first | exact safe_ok _ | exact safe_err _)
  getSlice a := safe_bind (Simple.get_safe d a) (fun c _ => by split <;> first | exact safe_ok _ | exact safe_err _)
  getConcat a := safe_bind (Simple.get_safe d a) (fun c _ => by split <;> first | exact safe_ok _ | exact safe_err _)
  getNumber a := safe_bind (Simple.get_safe d a) (fun c _ => by split <;> first | exact safe_ok _ | exact safe_err _)
  numberInRange a v hv := by
    simp only [simpleIface, Simple.get] at hv
    split at hv
    · rename_i c hc
      simp only [bind_ok] at hv
      split at hv
      · cases hv; exact wf.int hc
      · cases hv
      · cases hv
    · cases hv
  getSymbol a := safe_bind (Simple.get_safe d a) (fun c _ => by split <;> first | exact safe_ok _ | exact safe_err _)
  listLen a := safe_bind (Simple.get_safe d a) (fun c _ => by cases c <;> simp [Simple.asList, safe_ok, safe_err])
  listItem a ix := Simple.getListItem_safe d a ix
  charLen a := safe_bind (Simple.get_safe d a) (fun c _ => by cases c <;> simp [Simple.asChars, safe_ok, safe_err])
  charItem a ix := Simple.getCharListItem_safe d a ix
  byteLen a := safe_bind (Simple.get_safe d a) (fun c _ => by cases c <;> simp [Simple.asBytes, safe_ok, safe_err])
  byteItem a ix := Simple.getByteListItem_safe d a ix
  symLen a := safe_bind (Simple.get_safe d a) (fun c _ => by cases c <;> simp [Simple.asSyms, safe_ok, safe_err])
  symItem a ix := safe_bind (Simple.getSymbolListItem_safe d a ix) (fun _ _ => safe_ok _)

theorem basic_listLen {h : Heap} (wf : h.WF) {intOf : Nat → Option Int} {r len : Nat}
    (hl : (basicIface h intOf).listLen r = .ok len) : r < h.cursor ∧ ∃ k, h.cell r = some (.list len k) ∧ r + len + k < h.cursor := by
  simp only [basicIface, getListLen] at hl
  rcases getData_cases wf r with ⟨_, h1⟩ | ⟨hi, c, hc, h1⟩
  · rw [h1] at hl; cases hl
  · rw [h1] at hl; simp only [bind_ok] at hl
    rcases asList_cases c with ⟨n, k, rfl, ha⟩ | he
    · rw [ha] at hl; simp only [bind_ok, Outcome.ok.injEq] at hl; subst hl
      have := wf.cellOK hi hc
      simp only [cellOK, Bool.and_eq_true, decide_eq_true_eq] at this
      exact ⟨hi, k, hc, this.1⟩
    · rw [he] at hl; cases hl

/-- a data block of fewer than `2^31` cells: `size_to_number` is exact on every index -/
theorem basic_listsTotal {h : Heap} (wf : h.WF) (intOf : Nat → Option Int) (hsmall : h.cursor ≤ 2147483647) :
    (basicIface h intOf).ListsTotal := by
  intro r len i hl hi
  obtain ⟨hr, k, hc, hb⟩ := basic_listLen wf hl
  obtain ⟨items, _, hlen, hget⟩ := (getListItem_spec wf r (.int (sizeToNumber i))).2 len k hr hc
  show getListItem h r (.int (sizeToNumber i)) ≠ .ok none
  rw [hget, sizeToNumber_small (by omega)]
  have h1 : (Num.int (i : Int)).ltZero = false := by simp [Num.ltZero]
  have h2 : usizeFrom (Num.int (i : Int)) = i := by simp [usizeFrom]
  have h3 : ¬ i ≥ len := by omega
  simp only [h1, h2, h3, if_false, Bool.false_eq_true]
  rw [List.getElem?_eq_getElem (by omega)]
  intro hh; cases hh

theorem basic_listLen_le {h : Heap} (wf : h.WF) (intOf : Nat → Option Int) :
    ∀ r len, (basicIface h intOf).listLen r = .ok len → len ≤ h.cursor := by
  intro r len hl
  obtain ⟨_, k, _, hb⟩ := basic_listLen wf hl
  omega

theorem simple_listLen {d : Simple.SData} {r len : Nat} (hl : (simpleIface d).listLen r = .ok len) :
    ∃ items, d[r]? = some (.list items) ∧ items.length = len := by
  simp only [simpleIface, Simple.getListLen, Simple.get] at hl
  split at hl
  · rename_i c hc
    simp only [bind_ok] at hl
    cases c <;> simp [Simple.asList] at hl
    exact ⟨_, hc, hl⟩
  · cases hl

theorem simple_listsTotal {d : Simple.SData} (hs : Simple.ShortLists d) : (simpleIface d).ListsTotal := by
  intro r len i hl hi
  obtain ⟨items, hc, hlen⟩ := simple_listLen hl
  have hm : Simple.SCell.list items ∈ d.toList := by
    rw [← Array.getElem?_toList] at hc; exact List.mem_of_getElem? hc
  have hshort := hs _ hm
  simp only [Simple.shortCell, decide_eq_true_eq] at hshort
  show Simple.getListItem d r (.int (sizeToNumber i)) ≠ .ok none
  simp only [Simple.getListItem, Simple.get, hc, bind_ok, Simple.asList]
  rw [sizeToNumber_small (by omega)]
  have : Simple.asUsize (i : Int) = i := by unfold Simple.asUsize; omega
  rw [this, List.getElem?_eq_getElem (by omega)]
  intro hh; cases hh

/-- the runtime's guard keeps the data object's `Err(InvalidListItemIndex)` from being reached -/
theorem indexList_basic {h : Heap} (wf : h.WF) (intOf : Nat → Option Int) {list n k : Nat} (hl : list < h.cursor)
    (hc : h.cell list = some (.list n k)) (ix : Int) :
    ∃ items, collectItems (h.cellsAt (list + 1) n) = .ok items ∧
      indexList (basicIface h intOf) list ix =
        .ok (if ix < 0 ∨ ix ≥ sizeToNumber n then .none else match items[ix.toNat]? with | some a => .addr a | none => .unit) := by
  obtain ⟨items, hit, hlen, hget⟩ := (getListItem_spec wf list (.int ix)).2 n k hl hc
  refine ⟨items, hit, ?_⟩
  unfold indexList
  by_cases hneg : ix < 0
  · simp [hneg]
  · simp only [hneg, if_false, false_or]
    have hll : (basicIface h intOf).listLen list = .ok n := by
      simp only [basicIface, getListLen, getData_lt wf hl hc, bind_ok, asList]
    rw [hll]; simp only [bind_ok]
    by_cases hge : ix ≥ sizeToNumber n
    · simp [hge]
    · simp only [hge, if_false]
      show (getListItem h list (.int ix)).bind _ = _
      rw [hget]
      have hle := sizeToNumber_le n
      have h1 : (Num.int ix).ltZero = false := by simp [Num.ltZero]; omega
      have h2 : usizeFrom (Num.int ix) = ix.toNat := by simp [usizeFrom]; omega
      have h3 : ¬ ix.toNat ≥ n := by omega
      simp only [h1, h2, h3, if_false, Bool.false_eq_true, bind_ok]
      rw [List.getElem?_eq_getElem (by omega)]

end Garnish.Access.Runtime
