/-
Lexer half of C18, loop level: `lex` does not depend on the position counters (`lexLoop_congr`): two runs from
lexers that agree up to positions, on the same remaining input, both fail or both succeed with token lists that
agree in types and texts.
-/
import Garnish.Lemmas.LexerC18
namespace Garnish.Model.Lexer

/-- same length, and token by token the same type and text -/
def SameTT (l l' : List LexerToken) : Prop :=
  l.map (fun t => (t.tokenType, t.text)) = l'.map (fun t => (t.tokenType, t.text))

theorem SameTT.refl (l : List LexerToken) : SameTT l l := rfl

theorem SameTT_snoc {l l' : List LexerToken} {t t' : LexerToken} (h : SameTT l l') (ht : TokEq t t') :
    SameTT (l ++ [t]) (l' ++ [t']) := by
  unfold SameTT at *
  simp only [List.map_append, List.map_cons, List.map_nil, h, ht.1, ht.2]

/-- both runs fail, or both succeed with token lists `l0 ++ rest` / `l0' ++ rest'` whose new parts have the same
types and texts -/
def OutSameExt (l0 l0' : List LexerToken) :
    Outcome (List LexerToken × Lexer) → Outcome (List LexerToken × Lexer) → Prop
  | .ok p, .ok q => ∃ rest rest', p.1 = l0 ++ rest ∧ q.1 = l0' ++ rest' ∧ SameTT rest rest'
  | .err _, .err _ => True
  | .fuelOut, .fuelOut => True
  | _, _ => False

def OutSame : Outcome (List LexerToken × Lexer) → Outcome (List LexerToken × Lexer) → Prop := OutSameExt [] []

theorem lexFinish_same {a b : Lexer} {l0 l0' m m' : List LexerToken} (h : a.result = b.result) (hl : SameTT m m') :
    OutSameExt l0 l0' (lexFinish a (l0 ++ m)) (lexFinish b (l0' ++ m')) := by
  unfold lexFinish
  rw [h]
  cases b.result
  · exact ⟨m, m', rfl, rfl, hl⟩
  · trivial

theorem processChar_pair (cc : CharClass) (hcc : cc.Sane) {a b : Lexer} (ch : Char) (h : PosEq a b) (ha : Inv a)
    (hb : Inv b) :
    ∃ a1 b1 ot ot', processChar cc a ch = .ok (a1, ot) ∧ processChar cc b ch = .ok (b1, ot') ∧
      PosEq a1 b1 ∧ OptTokEq ot ot' ∧ Inv a1 ∧ Inv b1 := by
  obtain ⟨a1, ot, hpa, hia⟩ := processChar_ok cc hcc a ch ha
  obtain ⟨b1, ot', hpb, hib⟩ := processChar_ok cc hcc b ch hb
  have := processChar_congr_inv cc ch h ha hb
  rw [hpa, hpb] at this
  exact ⟨a1, b1, ot, ot', hpa, hpb, this.1, this.2, hia, hib⟩

theorem lexEnd_congr (cc : CharClass) (hcc : cc.Sane) (l0 l0' : List LexerToken) :
    ∀ (fuel : Nat) (a b : Lexer) (l l' : List LexerToken),
    PosEq a b → Inv a → Inv b → SameTT l l' →
    OutSameExt l0 l0' (lexEnd cc fuel a (l0 ++ l)) (lexEnd cc fuel b (l0' ++ l'))
  | 0, _, _, _, _, _, _, _, _ => by simp [lexEnd, OutSameExt]
  | fuel + 1, a, b, l, l', h, ha, hb, hl => by
    obtain ⟨e0, e3, e2, e4, e1, e5, e6, e7, e8, e9, e10⟩ := (posEq_iff a b).mp h
    simp only [lexEnd]
    have hEb : b.result.isErr = a.result.isErr := by rw [e9]
    rw [hEb]
    by_cases hE : a.result.isErr = true
    · rw [if_pos hE, if_pos hE]
      exact lexFinish_same e9.symm hl
    · rw [if_neg hE, if_neg hE]
      have hpe : PosEq { a with atEnd := true } { b with atEnd := true } := by rw [posEq_iff]; simp [*]
      obtain ⟨a1, b1, ot, ot', hpa, hpb, hp1, hot, hia, hib⟩ :=
        processChar_pair cc hcc '\x00' hpe (Inv_congr rfl rfl ha) (Inv_congr rfl rfl hb)
      (try simp only [])
      rw [hpa, hpb]
      obtain ⟨f0, f3, f2, f4, f1, f5, f6, f7, f8, f9, f10⟩ := (posEq_iff a1 b1).mp hp1
      cases ot <;> cases ot' <;> simp only [OptTokEq] at hot
      · (try simp only [])
        rw [f3, f9]
        split
        · exact lexFinish_same rfl hl
        · exact lexFinish_same f9.symm hl
      · simp only []
        rw [f9]
        cases a1.result with
        | err => simp [OutSameExt]
        | ok =>
          simp only [List.append_assoc]
          exact lexEnd_congr cc hcc l0 l0' fuel a1 b1 _ _ hp1 hia hib (SameTT_snoc hl hot)

theorem lexLoop_congr (cc : CharClass) (hcc : cc.Sane) (l0 l0' : List LexerToken) :
    ∀ (input : List Char) (a b : Lexer) (l l' : List LexerToken),
    PosEq a b → Inv a → Inv b → SameTT l l' →
    OutSameExt l0 l0' (lexLoop cc input a (l0 ++ l)) (lexLoop cc input b (l0' ++ l'))
  | [], a, b, l, l', h, ha, hb, hl => by
    simp only [lexLoop]
    exact lexEnd_congr cc hcc l0 l0' endFuel a b l l' h ha hb hl
  | c :: rest, a, b, l, l', h, ha, hb, hl => by
    -- two runs in lock step, failures included: an induction of its own (`runChars_induct` follows one successful run)
    obtain ⟨e0, e3, e2, e4, e1, e5, e6, e7, e8, e9, e10⟩ := (posEq_iff a b).mp h
    simp only [lexLoop]
    have hEb : b.result.isErr = a.result.isErr := by rw [e9]
    rw [hEb]
    by_cases hE : a.result.isErr = true
    · rw [if_pos hE, if_pos hE]
      exact lexFinish_same e9.symm hl
    · rw [if_neg hE, if_neg hE]
      obtain ⟨a1, b1, ot, ot', hpa, hpb, hp1, hot, hia, hib⟩ := processChar_pair cc hcc c h ha hb
      rw [hpa, hpb]
      obtain ⟨f0, f3, f2, f4, f1, f5, f6, f7, f8, f9, f10⟩ := (posEq_iff a1 b1).mp hp1
      cases ot <;> cases ot' <;> simp only [OptTokEq] at hot
      · exact lexLoop_congr cc hcc l0 l0' rest a1 b1 l l' hp1 hia hib hl
      · simp only []
        rw [f9]
        cases a1.result with
        | err => simp [OutSameExt]
        | ok =>
          simp only [List.append_assoc]
          exact lexLoop_congr cc hcc l0 l0' rest a1 b1 _ _ hp1 hia hib (SameTT_snoc hl hot)

end Garnish.Model.Lexer
