/-
Side conditions from the static analysis of Props/C06Static.lean. `arityOf` is the `needs n` of `C06.edges`; `Good` gives `MDeepN` at the
instruction's arity, and an `EndExpression` with no frame left has exactly one register (`deep_of_balanced`). A coverage predicate
that holds in every reachable state holds along every run (`runOKG_of_reach`); for groups 0–1 the side conditions are the depth
conditions plus "no custom" (`machOKOn1_of`). Side conditions move along the relocation `reloc`
(`runOKG_reloc`, `machOKOn1_reloc`).
-/
import Garnish.Props.C06Static
import Garnish.Lemmas.RuntimeRun
import Garnish.Lemmas.RuntimeReloc
namespace Garnish.Lemmas.Runtime.On
open Garnish Gen Garnish.Abs Garnish.Model.Equality Garnish.Model.Runtime Garnish.Lemmas.Runtime
open Garnish.Props.C06

variable {F : Type} {P : Prog F} {host : Host F} {fo : FloatOps F}

def arityOf (i : Instruction) (o : Option Nat) : Nat :=
  match i with
  | .put | .putValue | .resolve | .invalid | .startSideEffect | .jumpTo | .applyType => 0
  | .pushValue | .updateValue | .endSideEffect | .jumpIfTrue | .jumpIfFalse | .and | .or | .reapply | .emptyApply
  | .endExpression => 1
  | .apply | .makePair => 2
  | .makeList => o.getD 0
  | op => if isUnaryOp op then 1 else if isBinaryOp op then 2 else 0

/-- the arm of `edges` and of `arityOf` shared by the operators -/
theorem arity_le_of_opEdges {op : Instruction} {k : Nat} {r1 r2 es : List (Nat × Nat)}
    (he : (if isUnaryOp op then (if 1 ≤ k then some r1 else none)
      else if isBinaryOp op then (if 2 ≤ k then some r2 else none) else none) = some es) :
    (if isUnaryOp op then 1 else if isBinaryOp op then 2 else 0) ≤ k := by
  split at he
  · rw [if_pos ‹_›]; exact (needs_some he).1
  · split at he
    · rw [if_neg ‹_›, if_pos ‹_›]; exact (needs_some he).1
    · cases he

theorem arity_le_of_edges {pc k : Nat} {i : Instruction} {o : Option Nat} {es : List (Nat × Nat)}
    (hi : P.instrs[pc]? = some (i, o)) (he : edges P pc k = some es) : arityOf i o ≤ k := by
  simp only [edges, hi] at he
  cases i
  case put | putValue | resolve | invalid | startSideEffect | jumpTo | applyType => exact Nat.zero_le _
  case pushValue | updateValue | endSideEffect | emptyApply | apply | makePair => exact (needs_some he).1
  case jumpIfTrue | jumpIfFalse | and | or | reapply =>
    cases ht : (o.bind fun j => P.jumps[j]?) with
    | none => rw [ht] at he; cases he
    | some t => rw [ht] at he; exact (needs_some he).1
  case endExpression =>
    have he : (if k = 1 then some [] else none) = some es := he
    split at he
    · exact Nat.le_of_eq (Eq.symm ‹_›)
    · cases he
  case makeList =>
    cases o with
    | none => cases he
    | some n => exact (needs_some he).1
  all_goals exact arity_le_of_opEdges he

theorem mdeepN_of_good {d : Array (Option Nat)} {s : MState F} (hg : Good P d s) {k : Nat}
    (hk : k ≤ s.regs.length - base s.frames) : MDeepN s k := by
  intro fr frs hf
  have hb := hg.1
  rw [hf] at hb hk
  simp only [base] at hb hk
  omega

theorem deep_of_balanced {entry : Nat} {d : Array (Option Nat)} (h : absDepth P entry = some d)
    (hentry : entry < P.instrs.size) (vals : List (Val F)) (tr : List (HostCall F)) {s : MState F}
    (hr : ReachK fo host P (entry :: exprEntries P) ⟨entry, [], vals, [], tr⟩ s)
    {i : Instruction} {o : Option Nat} (hi : P.instrs[s.pc]? = some (i, o)) :
    MDeepN s (arityOf i o) ∧ (i = .endExpression → s.frames = [] → ∃ r, s.regs = [r]) := by
  have hg := absDepth_sound (fo := fo) (host := host) h hentry vals tr hr
  obtain ⟨es, he⟩ := absDepth_operands_present (fo := fo) (host := host) h hentry vals tr hr
  refine ⟨mdeepN_of_good hg (arity_le_of_edges hi he), fun hie hf => ?_⟩
  subst hie
  have h1 := absDepth_endExpression_one (fo := fo) (host := host) h hentry vals tr hr hi
  rw [hf] at h1
  simp only [base] at h1
  match hs : s.regs, h1 with
  | [r], _ => exact ⟨r, rfl⟩

theorem runOKG_of_reach (ok : MState F → Instruction → Option Nat → Prop) (entries : List Nat) (s0 : MState F)
    (hok : ∀ s, ReachK fo host P entries s0 s → ∀ i o, P.instrs[s.pc]? = some (i, o) → ok s i o)
    (hcalls : ∀ s s', ReachK fo host P entries s0 s → Abs.step fo host P s = .running s' →
      s'.frames.length = s.frames.length + 1 → s'.pc ∈ entries) :
    ∀ (n : Nat) (s : MState F), ReachK fo host P entries s0 s → RunOKG fo ok host P n s
  | 0, _, _ => trivial
  | n + 1, s, hr => ⟨fun i o hf => hok s hr i o hf,
      fun m' hst => runOKG_of_reach ok entries s0 hok hcalls n m' (.snoc hr hst (hcalls s m' hr hst))⟩

def NoCustomTop (m : MState F) : Prop := (∀ v ∈ m.regs, v ≠ .custom) ∧ ∀ v ∈ m.vals, v ≠ .custom

/-- the instructions of coverage groups 0 and 1 (no call, no look-up, no comparison) -/
def inG1 : Instruction → Bool
  | .invalid | .put | .putValue | .pushValue | .updateValue | .jumpTo | .jumpIfTrue | .jumpIfFalse | .endExpression
  | .add | .subtract | .multiply | .divide | .integerDivide | .power | .remainder | .bitwiseAnd | .bitwiseOr
  | .bitwiseXor | .bitwiseShiftLeft | .bitwiseShiftRight | .xor | .opposite | .absoluteValue | .bitwiseNot | .not
  | .tis | .and | .or => true
  | _ => false

theorem machOKOn1_of {m : MState F} {i : Instruction} {o : Option Nat} (hin : inG1 i = true)
    (hconst : ∀ (k : Nat) (v : Val F), P.consts[k]? = some v → v ≠ Val.custom) (hnc : NoCustomTop m)
    (hdeep : MDeepN m (arityOf i o)) (hend : i = .endExpression → m.frames = [] → ∃ r, m.regs = [r]) :
    MachOKOn1 P m i o := by
  have top : ∀ r rs, m.regs = r :: rs → r ≠ .custom := fun r rs h => hnc.1 r (by rw [h]; exact List.mem_cons_self ..)
  have one : arityOf i o = 1 → ∀ r rs, m.regs = r :: rs → MDeep m rs := fun h1 r rs hr => (h1 ▸ hdeep).one hr
  cases i <;> first
    | (cases hin; done)
    | exact hdeep
    | trivial
    | (intro k v hk hc; exact hconst k v hc)
    | (intro v vs h; exact hnc.2 v (by rw [h]; exact List.mem_cons_self ..))
    | (intro r rs h; exact ⟨top r rs h, one rfl r rs h⟩)
    | (intro r rs h; exact one rfl r rs h)
    | (intro r rs h
       exact ⟨top r rs h, one rfl r rs h, fun hf => by
         obtain ⟨x, hx⟩ := hend rfl hf
         rw [hx] at h; cases h; rfl⟩)

theorem reloc_fetch (P : Prog F) (pc : Nat) : (reloc P).instrs[pc]? = (P.instrs[pc]?).map relocI := by
  simp [reloc]

theorem runOKG_reloc (ok ok' : MState F → Instruction → Option Nat → Prop)
    (h : ∀ m i o, P.instrs[m.pc]? = some (i, o) → ok' m i o → ok m (relocI (i, o)).1 (relocI (i, o)).2) :
    ∀ (n : Nat) (m : MState F), RunOKG fo ok' host P n m → RunOKG fo ok host (reloc P) n m
  | 0, _, _ => trivial
  | n + 1, m, hr => by
    obtain ⟨h1, h2⟩ := hr
    refine ⟨fun i o hf => ?_, fun m' hst => runOKG_reloc ok ok' h n m' (h2 m' (by rw [← step_reloc]; exact hst))⟩
    rw [reloc_fetch] at hf
    cases hp : P.instrs[m.pc]? with
    | none => rw [hp] at hf; cases hf
    | some p =>
      rw [hp] at hf
      obtain ⟨i0, o0⟩ := p
      have : relocI (i0, o0) = (i, o) := by simpa using hf
      have := h m i0 o0 hp (h1 i0 o0 hp)
      rw [‹relocI (i0, o0) = (i, o)›] at this
      exact this

theorem machOKOn1_reloc {m : MState F} {i : Instruction} {o : Option Nat} (h : MachOKOn1 P m i o) :
    MachOKOn1 (reloc P) m (relocI (i, o)).1 (relocI (i, o)).2 := by
  -- of the two relocated instructions, `Put k` and `Resolve k`, only the former has a condition on the constants here
  cases i
  case put =>
    cases o with
    | none => exact fun k v hk _ => nomatch hk
    | some k0 => intro k v hk hc; cases hk; rw [reloc_const] at hc; exact h _ v rfl hc
  case resolve => cases o <;> exact h
  all_goals exact h

end Garnish.Lemmas.Runtime.On
