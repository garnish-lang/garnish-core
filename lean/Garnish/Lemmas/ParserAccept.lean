/-
Acceptance: in the situations of the operator fragment `parse_token` and `step` do return `.ok`
(every index they touch is in range, every priority lookup succeeds, the capped walks end), and so does the root walk of
`finish` on a node array that represents a tree (`rootLoop_ok`).  The step lemmas hold for any `under_group`
(`parseToken_atom_okG`, `step_atom_okG`; `step_binop_specG` / `step_binop_nextParentG` are `step_bin3_stateG` of
Lemmas/ParserSteps for the two classes `isBinopTok`, `step_binop_okG` is read off `step_op_eq`).
-/
import Garnish.Lemmas.ParserSteps
import Garnish.Lemmas.Tree

namespace Garnish.Spec
open Garnish Garnish.Gen Garnish.Model.Parser

theorem parseToken_atom_okG {ug : Option Nat} {m qo : Nat} {d : Definition} {right : Option Nat} {nodes : Array ParseNode}
    {rtl : Bool} {on : ParseNode} (hq : priority d = some 10) (hm : nodes[m]? = some on)
    (hqo : priority on.definition = some qo) (hlt : 10 < qo) (hor : on.right = some nodes.size) :
    ∃ nodes' info, parseToken nodes.size d (some m) right nodes ug rtl = .ok (nodes', info) := by
  have hms : m < nodes.size := (Array.getElem?_eq_some_iff.mp hm).1
  obtain ⟨n2, h2⟩ := modifyNode?_isSome (fun p => { p with right := some nodes.size }) hms
  have s2 := modifyNode?_size h2
  have hw : walkLoop nodes 10 ug rtl (nodes.size + 1) 0 (some m) (some m) = .ok (some m, some m) := by
    unfold walkLoop
    simp [hm, hqo, hlt]
  unfold parseToken
  rw [hq]
  simp only [hw, Outcome.bind, beq_self_eq_true, if_true, hm, h2, hor]
  rw [modifyNode?_none (by omega)]
  exact ⟨_, _, rfl⟩

/-- `step_bin3_stateG` for the two binary classes `isBinopTok` and a token that is not the last one -/
theorem step_binop_specG (st st1 : PState) (o : PToken) (ho : isBinopTok o = true) (hnl : st.nextLastLeft = none)
    {ug : Option Nat} (hug : underGroupOf st = .ok ug) (hadj : adjustLastLeft st ug = .ok st) (h : step st o false = .ok st1) :
    ∃ nodes' info,
      parseToken st.nodes.size (getDefinition o.type).1 st.lastLeft (some (st.nodes.size + 1)) st.nodes ug
        ((getDefinition o.type).2 == .binaryRightToLeft) = .ok (nodes', info) ∧
      st1.nodes = nodes'.push ⟨(getDefinition o.type).1, (getDefinition o.type).2, info.parent, info.left, info.right, o⟩ ∧
      st1.lastLeft = some st.nodes.size ∧ st1.checkForList = false ∧ st1.nextLastLeft = none ∧
      st1.groupStack = st.groupStack ∧ st1.currentGroup = st.currentGroup ∧ st1.previousSecondDef = (getDefinition o.type).2 :=
  let ⟨nodes', info, h1, h2, h3, h4, h5, h6, h7, h8, _⟩ := step_bin3_stateG st st1 o (bin3_of_binop ho) hnl hug hadj h
  ⟨nodes', info, by simpa using h1, h2, h3, h4, h5, h6, h7, h8⟩

theorem step_binop_okG (st : PState) (o : PToken) (ho : isBinopTok o = true) {ug : Option Nat} (hug : underGroupOf st = .ok ug)
    (hadj : adjustLastLeft st ug = .ok st)
    (hcomp : checkComposition st.previousSecondDef (getDefinition o.type).2 st.checkForList = true)
    (hpt : ∃ nodes' info, parseToken st.nodes.size (getDefinition o.type).1 st.lastLeft (some (st.nodes.size + 1)) st.nodes ug
        ((getDefinition o.type).2 == .binaryRightToLeft) = .ok (nodes', info)) :
    ∃ st1, step st o false = .ok st1 := by
  obtain ⟨nodes', info, hpt⟩ := hpt
  unfold isBinopTok at ho
  have hns : ((getDefinition o.type).2 == SecDef.unarySuffix) = false := by
    simp only [Bool.or_eq_true, beq_iff_eq] at ho
    rcases ho with ho | ho <;> rw [ho] <;> rfl
  rw [step_op_eq st o false (by unfold isOpSec; rw [ho]; rfl) hug hadj, if_pos hcomp, hns]
  simp only [Bool.false_eq_true, if_false, hpt, Outcome.bind]
  exact ⟨_, rfl⟩

theorem step_binop_nextParentG (st st1 : PState) (o : PToken) (ho : isBinopTok o = true) (hnl : st.nextLastLeft = none)
    {ug : Option Nat} (hug : underGroupOf st = .ok ug) (hadj : adjustLastLeft st ug = .ok st) (h : step st o false = .ok st1) :
    st1.nextParent = some st.nodes.size :=
  let ⟨_, _, _, _, _, _, _, _, _, _, h9⟩ := step_bin3_stateG st st1 o (bin3_of_binop ho) hnl hug hadj h; h9

theorem step_atom_okG (st : PState) (a : PToken) (il : Bool)
    (hs : (getDefinition a.type).2 = .value ∨ (getDefinition a.type).2 = .identifier)
    (hc : st.checkForList = false) {ug : Option Nat} (hug : underGroupOf st = .ok ug) (hadj : adjustLastLeft st ug = .ok st)
    (hcomp : checkComposition st.previousSecondDef (getDefinition a.type).2 false = true)
    (hpt : ∃ nodes' info, parseToken st.nodes.size (getDefinition a.type).1 st.lastLeft none st.nodes ug false =
        .ok (nodes', info)) :
    ∃ st1, step st a il = .ok st1 := by
  obtain ⟨nodes', info, hpt⟩ := hpt
  rw [step_atom_eq st a il hs hc hug hadj, if_pos hcomp, hpt]
  exact ⟨_, rfl⟩

/-- climbing from a node of the tree reaches the root within `depth` steps, so the capped root walk of `finish` succeeds -/
theorem rootLoop_climb {nodes : Array ParseNode} {p link : Option Nat} {t : Tree} (h : IsTreeAt nodes p link t) :
    ∀ i ni, link = some i → nodes[i]? = some ni → ∀ x nx, x ∈ t.inorder → nodes[x]? = some nx →
      ∃ d, d + 1 ≤ t.depth ∧ ∀ fuel count, d ≤ fuel → count + d ≤ nodes.size →
        rootLoop nodes fuel count x nx = rootLoop nodes (fuel - d) (count + d) i ni := by
  induction h with
  | nil p => intro i ni hi; cases hi
  | node p i nd l r hn hpar hl hr ihl ihr =>
    intro i' ni hi' hni x nx hx hnx
    injection hi' with hi'; subst hi'
    rw [hn] at hni; injection hni with hni; subst hni
    simp only [Tree.inorder, List.mem_append, List.mem_cons] at hx
    have climb : ∀ (sub : Tree) (ci : Nat), IsTreeAt nodes (some i) (some ci) sub → sub.depth ≤ max l.depth r.depth →
        (∀ cn, nodes[ci]? = some cn → ∃ d, d + 1 ≤ sub.depth ∧ ∀ fuel count, d ≤ fuel → count + d ≤ nodes.size →
          rootLoop nodes fuel count x nx = rootLoop nodes (fuel - d) (count + d) ci cn) →
        ∃ d, d + 1 ≤ (Tree.node l i (tokPos nd) r).depth ∧ ∀ fuel count, d ≤ fuel → count + d ≤ nodes.size →
          rootLoop nodes fuel count x nx = rootLoop nodes (fuel - d) (count + d) i nd := by
      intro sub ci hsub hdep hrec
      cases hsub with
      | node _ _ cn sl sr hcn hcp _ _ =>
        obtain ⟨d, hd, hclimb⟩ := hrec cn hcn
        refine ⟨d + 1, by simp only [Tree.depth]; omega, ?_⟩
        intro fuel count hf hc
        rw [hclimb fuel count (by omega) (by omega)]
        have hfd : fuel - d = (fuel - d - 1) + 1 := by omega
        rw [hfd]
        conv => lhs; unfold rootLoop
        simp only [hcp, hn]
        have hle : ¬ (count + d + 1 > nodes.size) := by omega
        simp only [hle, if_false]
        have e1 : fuel - d - 1 = fuel - (d + 1) := by omega
        have e2 : count + d + 1 = count + (d + 1) := by omega
        rw [e1, e2]
    rcases hx with hx | hx | hx
    · cases hll : nd.left with
      | none => rw [hll] at hl; cases hl; simp [Tree.inorder] at hx
      | some li =>
        rw [hll] at hl
        exact climb l li hl (Nat.le_max_left _ _) (fun cn hcn => ihl li cn hll hcn x nx hx hnx)
    · subst hx
      rw [hn] at hnx; injection hnx with hnx; subst hnx
      exact ⟨0, by simp [Tree.depth], fun fuel count _ _ => by simp⟩
    · cases hrl : nd.right with
      | none => rw [hrl] at hr; cases hr; simp [Tree.inorder] at hx
      | some ri =>
        rw [hrl] at hr
        exact climb r ri hr (Nat.le_max_right _ _) (fun cn hcn => ihr ri cn hrl hcn x nx hx hnx)

theorem rootLoop_ok {nodes : Array ParseNode} {rt : Nat} {t : Tree} (h : IsTreeAt nodes none (some rt) t)
    (hnd : t.inorder.Nodup) (x : Nat) (nx : ParseNode) (hx : x ∈ t.inorder) (hnx : nodes[x]? = some nx) :
    rootLoop nodes (nodes.size + 1) 0 x nx = .ok rt := by
  cases h with
  | node _ _ nrt l r hn hp hl hr =>
    have h' : IsTreeAt nodes none (some rt) (.node l rt (tokPos nrt) r) := .node none rt nrt l r hn hp hl hr
    obtain ⟨d, hd, hclimb⟩ := rootLoop_climb h' rt nrt rfl hn x nx hx hnx
    have hsz : (Tree.node l rt (tokPos nrt) r).depth ≤ nodes.size :=
      Nat.le_trans (Tree.depth_le_size _) (h'.size_le hnd)
    rw [hclimb (nodes.size + 1) 0 (by omega) (by omega)]
    have : nodes.size + 1 - d = (nodes.size - d) + 1 := by omega
    rw [this]
    unfold rootLoop
    simp [hp]

end Garnish.Spec
