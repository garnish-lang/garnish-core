/-
The elaboration of a reference-grammar tree (Spec/RefParse.lean `RTree`, as `refParse` returns it and as
`toRG (dfOf r.nodes) t` / `treeToRG r t` reads it off the node array of `parse`) into the abstract program of
Abs/Compile.lean.

`elabWith pf κ toks t`: one bottom-up pass (`go`).  A node is read by its definition and by which children it has:
  no child      value nodes — unit / true / false, number / text / byte list (Model/Literals on the text of token `tok` of
                `toks`, with the same float parser `pf` as `build`), symbol, property, `$`, identifier
  right only    prefix operators (table of `handle_parse_node`), `^~`, prefix identifier application;
                a VALUE node whose right child is a `SideEffect` node without left child: `v [ body ]`, the side-effect block
                after a value (`.sideAfter v body`)
  left only     suffix operators, suffix identifier application
  both          binary operators, `=`, `~>`, blank line / `;`, `List` / `CommaList` (a left spine of nodes of the same
                definition is ONE list), `?>` / `!>`, `|>` (a left spine is ONE else-chain; a conditional as the right
                child of the top `|>` is its last arm, anything else its final arm), `&&`, `||`, infix identifier application
  ( … )         transparent;   { }  the empty nested expression;   { body }  `.nested (κ tok)` and the body `(κ tok, body)`
                in the table of bodies (`κ`: how bodies are named, from the position of their `{`).
`none` — exactly what `Abs.Tree.Rep` cannot represent:
  * side-effect blocks anywhere but directly after a literal / `$` / identifier: `[b] v` (the block is the LEFT child of the
    value), `(e) [b]` and `v [b] [c]` (the builder never looks at the `left` of a SideEffect node: the group content / the
    first block is not compiled), `[ ]` without body; the expression terminator, Unknown / Drop nodes;
  * an operator with a missing operand (leading / trailing `,`, leading infix identifier, a separator without operand);
  * a value node whose text does not parse (number out of range, bad escape, …);
  * a conditional or else-chain as the DIRECT left operand of `&&` / `||` or as direct final arm of an else-chain
    (`a ?> b |> c |> d`), a `|>` whose left operand is neither a conditional nor a chain of conditionals (`5 |> 6`);
  * a list node as the direct right child of a list node of the same definition;
  * two bodies with the same name, or a body named `0` (the name of the program itself).
`elabSrc` names the bodies 1, 2, … in source order (the numbering of the generator, tools/gen/proggen.py `Numbering`);
`elaborate` (`elab` is a Lean keyword) names them by the jump entries `compile` gives them (what `C01.WFProgram` asks for).
-/
import Garnish.Spec.RefParse
import Garnish.Lemmas.CompileTree
namespace Garnish.Abs.Source
open Garnish Garnish.Gen Garnish.Spec Garnish.Abs Garnish.Abs.Tree Garnish.Model.Parser Garnish.Model.Literals

variable {F : Type}

/-- what `go` knows about a subtree -/
structure Res (F : Type) where
  e : Expr F
  /-- the bodies of the nested expressions in the subtree, in source order -/
  bodies : List (Nat × Expr F)
  /-- root = list node: its items -/
  items : List (Expr F)
  /-- root = conditional: this arm; root = `|>` over conditionals only: the arms -/
  arms : List (Bool × Expr F × Expr F)

def rootDef : RTree → Option Definition
  | .nil => none
  | .node _ d _ _ => some d
  | .group d _ _ => some d

def rootIs (t : RTree) (d : Definition) : Bool := rootDef t == some d

def rootCond (t : RTree) : Bool :=
  match rootDef t with
  | some d => condDef d
  | none => false

def textAt (toks : List PToken) (k : Nat) : List Char :=
  match toks[k]? with
  | some t => t.text
  | none => []

variable (pf : List Char → Option F)

/-- a value node -/
def leafE (d : Definition) (text : List Char) : Option (Expr F) :=
  match d with
  | .unit => some (.lit .unit)
  | .true => some (.lit .tru)
  | .false => some (.lit .fls)
  | .number => match parseSimpleNumber pf text with
    | .ok n => some (.lit (.num n))
    | _ => none
  | .charList => match parseCharList pf text with
    | .ok cs => some (.lit (.chars (cs.map Char.toNat)))
    | _ => none
  | .byteList => match parseByteList pf text with
    | .ok bs => some (.lit (.bytes bs))
    | _ => none
  | .symbol => match dropFirstByte text with
    | some rest => some (.lit (.sym (parseSymbol rest)))
    | none => none
  | .property => some (.lit (.sym (parseSymbol text)))
  | .value => some .input
  | .identifier => some (.ident (parseSymbol text))
  | _ => none

def plain (e : Expr F) (bodies : List (Nat × Expr F)) : Res F := ⟨e, bodies, [], []⟩

/-- a node with only a right child -/
def preE (d : Definition) (text : List Char) (x : Res F) : Option (Res F) :=
  match prefixOp d with
  | some op => some (plain (.unary op x.e) x.bodies)
  | none =>
    if d == .reapply then some (plain (.reapply x.e) x.bodies)
    else if d == .prefixApply then some (plain (.prefixApply (parseSymbol (trimMatches '`' text)) x.e) x.bodies)
    else none

/-- a node with only a left child -/
def sufE (d : Definition) (text : List Char) (x : Res F) : Option (Res F) :=
  match suffixOp d with
  | some op => some (plain (.unary op x.e) x.bodies)
  | none =>
    if d == .suffixApply then some (plain (.suffixApply x.e (parseSymbol (trimMatches '`' text))) x.bodies)
    else none

/-- a node with both children; `lIs` / `rIs`: the definition of the child's root is that of this node, `lC` / `rC`: the
child's root is a conditional or `|>` node, `rJ`: the right child's root is a conditional -/
def binE (d : Definition) (text : List Char) (lIs rIs lC rC rJ : Bool) (a b : Res F) : Option (Res F) :=
  let bs := a.bodies ++ b.bodies
  match binOp d with
  | some op => some (plain (.binary op a.e b.e) bs)
  | none =>
    match d with
    | .pair => some (plain (.pair a.e b.e) bs)
    | .applyTo => some (plain (.applyTo a.e b.e) bs)
    | .subexpression => some (plain (.seq a.e b.e) bs)
    | .expressionSeparator => some (plain (.seq a.e b.e) bs)
    | .infixApply => some (plain (.infixApply a.e (parseSymbol (trimMatches '`' text)) b.e) bs)
    | .list | .commaList =>
      if rIs then none
      else if lIs then
        match a.items with
        | [] => none
        | it :: its => some ⟨.list ((it :: its) ++ [b.e]), bs, (it :: its) ++ [b.e], []⟩
      else some ⟨.list [a.e, b.e], bs, [a.e, b.e], []⟩
    | .jumpIfTrue => some ⟨.cond true a.e b.e, bs, [], [(true, a.e, b.e)]⟩
    | .jumpIfFalse => some ⟨.cond false a.e b.e, bs, [], [(false, a.e, b.e)]⟩
    | .and => if lC then none else some (plain (.and a.e b.e) bs)
    | .or => if lC then none else some (plain (.or a.e b.e) bs)
    | .elseJump =>
      match a.arms with
      | [] => none
      | arm :: arms =>
        if rJ then
          match b.arms with
          | [last] => some ⟨.chain ((arm :: arms) ++ [last]) none, bs, [], (arm :: arms) ++ [last]⟩
          | _ => none
        else if rC then none
        else some (plain (.chain (arm :: arms) (some b.e)) bs)
    | _ => none

def isJumpIf (t : RTree) : Bool := rootIs t .jumpIfTrue || rootIs t .jumpIfFalse

variable (κ : Nat → Nat) (toks : List PToken)

def go : RTree → Option (Res F)
  | .nil => none
  | .group d k inner =>
    if d == .group then
      match go inner with
      | some x => some (plain x.e x.bodies)
      | none => none
    else if d == .nestedExpression then
      match inner with
      | .nil => some (plain .emptyNested [])
      | _ =>
        match go inner with
        | some x => some (plain (.nested (κ k)) ((κ k, x.e) :: x.bodies))
        | none => none
    else none
  | .node .nil d k .nil => (leafE pf d (textAt toks k)).map (fun e => plain e [])
  | .node .nil d k (.node .nil d2 k2 body) =>
    if d2 == .sideEffect then
      -- `v [ body ]`: a value node over a SideEffect node over the body
      match leafE pf d (textAt toks k), go body with
      | some e, some x => some (plain (.sideAfter e x.e) x.bodies)
      | _, _ => none
    else
      match go (.node .nil d2 k2 body) with
      | some x => preE d (textAt toks k) x
      | none => none
  | .node .nil d k r =>
    match go r with
    | some x => preE d (textAt toks k) x
    | none => none
  | .node l d k .nil =>
    match go l with
    | some x => sufE d (textAt toks k) x
    | none => none
  | .node l d k r =>
    match go l, go r with
    | some a, some b => binE d (textAt toks k) (rootIs l d) (rootIs r d) (rootCond l) (rootCond r) (isJumpIf r) a b
    | _, _ => none

def nodupB : List Nat → Bool
  | [] => true
  | a :: l => !l.contains a && nodupB l

def idsOK (ids : List Nat) : Bool := !ids.contains 0 && nodupB ids

/-- the program of a reference tree, bodies named by `κ` -/
def elabWith (t : RTree) : Option (Program F) :=
  match go pf κ toks t with
  | some x => if idsOK (x.bodies.map (·.1)) then some { main := x.e, bodies := (0, x.e) :: x.bodies } else none
  | none => none

/-- the reference tree read off a node array along an index tree (`toRG (dfOf nodes)` of Lemmas/ParserBRef.lean, restated here
so that the driver need not import the parser proofs; `treeRT_eq`, Lemmas/SourceRepTree.lean) -/
def treeRT (nodes : Array ParseNode) : Spec.Tree → RTree
  | .nil => .nil
  | .node l i k r =>
    let d := ((nodes[i]?).map (·.definition)).getD .drop
    if d == .group || d == .nestedExpression then .group d k (treeRT nodes r) else .node (treeRT nodes l) d k (treeRT nodes r)

/-- the positions of the `{` of the non-empty nested expressions, in source order -/
def braces : RTree → List Nat
  | .nil => []
  | .node l _ _ r => braces l ++ braces r
  | .group d k inner => (if d == .nestedExpression && !inner.isNil then [k] else []) ++ braces inner

/-- source order: 1, 2, … -/
def srcName (t : RTree) (k : Nat) : Nat := (braces t).idxOf k + 1

/-- **the elaboration with the bodies numbered in source order** (the AST of the generator) -/
def elabSrc (t : RTree) : Option (Program F) := elabWith pf (srcName t) toks t

/-- the names `compile` gives: body `id` of `p` is laid out as the root that patches jump entry `canonName p id` -/
def canonName (p : Program F) (id : Nat) : Nat :=
  let ids := (compileState Prog.empty p).done.filterMap (fun r =>
    match r.kind with
    | .ref i => some (i, r.patch)
    | .code _ => none)
  ((ids.find? (fun q => q.1 == id)).map (·.2)).getD id

/-- **the elaboration**: bodies named by their jump entries -/
def elaborate (t : RTree) : Option (Program F) :=
  match elabSrc pf toks t with
  | some p0 => elabWith pf (fun k => canonName p0 (srcName t k)) toks t
  | none => none

end Garnish.Abs.Source
