/-
The descendants of a node of a proper tree (`Spec.IsTreeAt`) and the in-order walk: with an increasing in-order walk
(`C02_parse_inorder_range`: the parser numbers the nodes in in-order) everything below the left child of a node has a
smaller index and everything below its right child a larger one.
-/
import Garnish.Lemmas.BuildSeq
import Garnish.Lemmas.Tree
namespace Garnish.Lemmas.TreeOrder
open Garnish Garnish.Gen Garnish.Spec Garnish.Model.Parser
open Garnish.Lemmas.BuildTotal (IsChild)
open Garnish.Lemmas.BuildSeq (Sub)

variable {nodes : Array ParseNode}

theorem sub_mem {p : Option Nat} {i : Nat} {t : Tree} (h : IsTreeAt nodes p (some i) t) {x : Nat} (hs : Sub nodes i x) :
    x ∈ t.inorder := by
  induction hs with
  | refl => exact h.root_mem
  | step _ hc ih => exact let ⟨_, h1, h2⟩ := hc; h.child_mem ih h1 h2

theorem mem_sub {p link : Option Nat} {t : Tree} (h : IsTreeAt nodes p link t) :
    ∀ i, link = some i → ∀ x, x ∈ t.inorder → Sub nodes i x := by
  induction h with
  | nil => intro i hi; cases hi
  | node p i n l r hn hp hl hr ihl ihr =>
    intro i' hi x hx
    cases hi
    simp only [Tree.inorder, List.mem_append, List.mem_cons] at hx
    rcases hx with hx | hx | hx
    · cases hleft : n.left with
      | none => rw [hleft] at hl; cases hl; cases hx
      | some c => exact Sub.trans (Sub.step (Sub.refl i) ⟨n, hn, Or.inl hleft⟩) (ihl c hleft x hx)
    · subst hx; exact Sub.refl x
    · cases hright : n.right with
      | none => rw [hright] at hr; cases hr; cases hx
      | some c => exact Sub.trans (Sub.step (Sub.refl i) ⟨n, hn, Or.inr hright⟩) (ihr c hright x hx)

theorem inorder_sides {p link : Option Nat} {t : Tree} (h : IsTreeAt nodes p link t) :
    t.inorder.Pairwise (· < ·) → ∀ y, y ∈ t.inorder → ∀ yn, nodes[y]? = some yn →
      (∀ c x, yn.left = some c → Sub nodes c x → x < y) ∧ (∀ c z, yn.right = some c → Sub nodes c z → y < z) := by
  induction h with
  | nil => intro _ y hy; cases hy
  | node p i n l r hn hp hl hr ihl ihr =>
    intro hpw y hy yn hyn
    simp only [Tree.inorder] at hpw hy
    have hpl := (List.pairwise_append.1 hpw).1
    have hpr := (List.pairwise_cons.1 (List.pairwise_append.1 hpw).2.1).2
    have hli : ∀ a, a ∈ l.inorder → a < i := fun a ha => (List.pairwise_append.1 hpw).2.2 a ha i (by simp)
    have hir : ∀ b, b ∈ r.inorder → i < b := fun b hb => (List.pairwise_cons.1 (List.pairwise_append.1 hpw).2.1).1 b hb
    simp only [List.mem_append, List.mem_cons] at hy
    rcases hy with hy | hy | hy
    · exact ihl hpl y hy yn hyn
    · subst hy
      rw [hn] at hyn; cases hyn
      refine ⟨fun c x hc hs => ?_, fun c z hc hs => ?_⟩
      · rw [hc] at hl; exact hli x (sub_mem hl hs)
      · rw [hc] at hr; exact hir z (sub_mem hr hs)
    · exact ihr hpr y hy yn hyn

end Garnish.Lemmas.TreeOrder
