/-
C04, builder half — the order of the out-of-line parts: every handler call keeps the order invariant `FInv` and `LInv`
(`PreL` → `PostL`).  `handle_parse_node` chooses a plan that is a `Visit` (Lemmas/BuildVisit.lean) and runs it; each of the twelve
visits is one of the visit lemmas of Lemmas/BuildLifoVisit (`visit_postL`).  Namespace `Garnish.Lemmas.BuildSeq`, as in all
Lemmas/BuildSeq* and Lemmas/BuildLifo* files.
-/
import Garnish.Lemmas.BuildLifoVisit
import Garnish.Lemmas.BuildVisit
namespace Garnish.Lemmas.BuildSeq
open Garnish Garnish.Gen Garnish.Model.Parser Garnish.Model.Literals Garnish.Model.Build Garnish.Lemmas.Build
open Garnish.Lemmas.BuildTotal Garnish.Lemmas.BuildPlan
open Garnish.Lemmas.BuildAttr (emits)

variable {F : Type} {root : Nat} {tree : Array ParseNode} {G : Nat → Prop} {m0 : Nat}

theorem logical_not_else {d : Definition} (h : isLogical d = true) : d ≠ .elseJump := by
  intro e; subst e; simp [isLogical] at h

theorem late_cases {d : Definition} (h : isLate d = true) : isLogical d = true ∨ isJumpIf d = true := by
  simpa [isLate, isLogical, isJumpIf, or_assoc, or_comm, or_left_comm] using h

theorem nool_last {nodes : Nodes} {ni : Nat} {pn : ParseNode} (h : oolR pn.definition = false) :
    ∀ (r : Nat) (bn : BuildNode), pn.right = some r → nodes[ni]? = some (some bn) →
      ((isDirect pn.definition = true ∨ (isJumpIf pn.definition = true ∧ bn.conditionalParent = none)) → False) ∧
      (isJumpIf pn.definition = true → ∀ (cp : Nat) (parent : BuildNode), bn.conditionalParent = some cp →
        nodes[cp]? = some (some parent) → False) := by
  have h1 : ¬ (isDirect pn.definition = true ∨ isJumpIf pn.definition = true) := fun h' => by
    rw [(oolR_iff _).2 h'] at h; cases h
  intro r bn _ _
  exact ⟨fun h' => h1 (h'.imp id And.left), fun h' => absurd (Or.inr h') h1⟩

theorem no_right_last {nodes : Nodes} {ni : Nat} {pn : ParseNode} (hr : pn.right = none) :
    ∀ (r : Nat) (bn : BuildNode), pn.right = some r → nodes[ni]? = some (some bn) →
      ((isDirect pn.definition = true ∨ (isJumpIf pn.definition = true ∧ bn.conditionalParent = none)) → False) ∧
      (isJumpIf pn.definition = true → ∀ (cp : Nat) (parent : BuildNode), bn.conditionalParent = some cp →
        nodes[cp]? = some (some parent) → False) := by
  intro r bn h; rw [hr] at h; cases h

theorem no_ilink_right_none {ni : Nat} {pn : ParseNode} (hpn : tree[ni]? = some pn) (hl : inlL (layout pn.definition) = false)
    (hr : pn.right = none ∨ inlR (layout pn.definition) = false) : ∀ c, ¬ ILink tree ni c := by
  intro c ⟨pn', h1, h2⟩
  rw [hpn] at h1; cases h1
  rcases h2 with ⟨_, h⟩ | ⟨h, h'⟩
  · rw [hl] at h; cases h
  · rcases hr with hr | hr
    · rw [hr] at h; cases h
    · rw [hr] at h'; cases h'

section evs
variable {ctx : Ctx F} {ni : Nat} {pn : ParseNode} {node : BuildNode} {evs : List (Ev F)}

theorem firstEvs_metas (h : FirstEvs ctx ni pn evs) :
    (∀ m, m ∈ metas evs → m = none ∨ m = some ni) ∧ (some ni ∈ metas evs ↔ pn.definition = .sideEffect) := by
  cases h with
  | none hnse => exact ⟨fun _ hm => absurd hm List.not_mem_nil, fun hm => absurd hm List.not_mem_nil, fun hd => absurd hd hnse⟩
  | sideEffect hd => exact ⟨fun m hm => Or.inr (List.mem_singleton.1 hm), fun _ => hd, fun _ => List.mem_singleton.2 rfl⟩
  | resolve s hnse =>
    exact ⟨fun m hm => Or.inl (List.mem_singleton.1 hm), fun hm => (nomatch (List.mem_singleton.1 hm : some ni = none)),
      fun hd => absurd hd hnse⟩

theorem secondEvs_metas (h : SecondEvs ctx ni pn node evs) (hpni : node.parseNodeIndex = ni) :
    (∀ m, m ∈ metas evs → m = none ∨ m = some ni) ∧ (emits pn.definition = true → some ni ∈ metas evs) := by
  have hx : ∀ {x : Nat}, x = ni ∨ x = node.parseNodeIndex → x = ni := fun h => h.elim id fun e => e.trans hpni
  cases h with
  | op _ h => rw [hx h]; exact ⟨fun m hm => Or.inr (List.mem_singleton.1 hm), fun _ => List.mem_singleton.2 rfl⟩
  | reapply =>
    exact ⟨fun m hm => Or.inr ((List.mem_cons.1 hm).elim id List.mem_singleton.1), fun _ => List.mem_cons_self⟩
  | infixApply =>
    exact ⟨fun m hm => (List.mem_cons.1 hm).imp id List.mem_singleton.1, fun _ => List.mem_cons_of_mem _ (List.mem_singleton.2 rfl)⟩
  | value _ _ => exact ⟨fun m hm => Or.inr (List.mem_singleton.1 hm), fun _ => List.mem_singleton.2 rfl⟩
  | forwarded hdef =>
    refine ⟨fun _ hm => absurd hm List.not_mem_nil, fun he => ?_⟩
    rcases hdef with e | e <;> rw [e] at he <;> exact absurd he (by decide)

theorem metas_free (l : List Instr) : ∀ m, m ∈ metas (l.map fun e => (Ev.instr e.1 e.2 none : Ev F)) → m = none := by
  intro m hm
  induction l with
  | nil => exact nomatch hm
  | cons e rest ih =>
    rcases List.mem_cons.1 hm with h | h
    · exact h
    · exact ih h

end evs

section
variable {ph : Nat → Phase} {ctx : Ctx F} {crj ni : Nat} {pn : ParseNode}

/-- a plan whose result, if none of its assignments panics, has the three invariants again -/
def PlanL (root : Nat) (tree : Array ParseNode) (G : Nat → Prop) (m0 : Nat) (ph : Nat → Phase) (ctx : Ctx F) (pl : Plan F) : Prop :=
  (∀ q, q ∈ pl.sets → q.1 < ctx.nodes.size) → PostL root tree G m0 ph (pl.apply ctx)

/-- the conditional parent that a first visit writes into the build node of an in-line child is the static one -/
theorem PreL.kidCP (p : PreL root tree G m0 ph ctx ni pn) {node : BuildNode} (hnode : ctx.nodes[ni]? = some (some node)) {c : Nat}
    (hc : c ∈ csOf (layout pn.definition) pn.left pn.right) : CPdyn tree G root c (kidParent pn.definition node ni) := by
  have hc' : pn.left = some c ∨ pn.right = some c := (mem_csOf.1 hc).imp And.left And.left
  unfold kidParent
  split
  · rename_i hlog
    have hlog' : isLogical pn.definition = true := by simpa [isLogical] using hlog
    refine CP.logical p.pre.hpn hlog' ?_
    rcases mem_csOf.1 hc with ⟨h, _⟩ | ⟨_, h⟩
    · exact h
    · rw [(late_layout (logical_isLate hlog')).1] at h; cases h
  · rename_i hnlog
    have hnlog' : ¬ (isLogical pn.definition = true ∧ pn.left = some c) := fun h => hnlog (by simpa [isLogical] using h.1)
    split
    · rename_i hdef
      have hdyn := p.linv.cpOk ni node hnode
      cases hcp : node.conditionalParent with
      | some cp => rw [hcp] at hdyn; exact CP.inherit p.pre.hpn hdef hc' hdyn
      | none => rw [hcp] at hdyn; exact CP.top p.pre.hpn hdef hc' hdyn
    · rename_i hne
      exact p.ncp hc' hne hnlog'

theorem visit_postL (p : PreL root tree G m0 ph ctx ni pn) {pl : Plan F} (v : Visit ctx crj ni pn pl) :
    PlanL root tree G m0 ph ctx pl := by
  intro _
  cases v with
  | @first node hnode hst hk evs hevs ctl sets hkeys hkid x hx stack hstack =>
    have hpni := p.pre.pni hnode
    have hxe : x = ni := hx.elim id fun e => e.trans hpni
    obtain ⟨hl, hse⟩ := firstEvs_metas hevs
    refine p.firstVisitLay hnode hst rfl hk rfl rfl { node with state := .initialized, contributesToList := ctl }
      (sets.map fun q => (q.1, q.2.1)) (metas evs) (metadata_emitAll evs ctx.data) hl
      (by rw [Plan.apply_stack, hstack, hxe]) rfl (Plan.apply_nodes _ _) (by rw [List.map_map]; exact hkeys)
      ⟨hpni, rfl, rfl, rfl⟩ (fun q hq => ?_) hse.1 hse.2
    obtain ⟨q', hq', rfl⟩ := List.mem_map.1 hq
    have k := hkid q' hq'
    exact ⟨k.pni, k.state, k.items, by rw [k.cp]; exact p.kidCP hnode (hkeys ▸ List.mem_map_of_mem hq')⟩
  | @emit node hnode hst hool hne evs hevs =>
    obtain ⟨hl, hemit⟩ := secondEvs_metas hevs (p.pre.pni hnode)
    exact p.lastVisit [] (metas evs) (metadata_emitAll evs ctx.data) hl rfl rfl (Plan.apply_nodes _ _) (fun _ h => nomatch h)
      (fun h => hemit (by rw [h]; rfl)) hemit (fun h => absurd h (p.notP1 hnode hst)) (nool_last hool)
      (fun h => absurd h hne.1) (fun h => absurd h hne.2.1)
  | @listItem node hnode hst hdef =>
    have hpni := p.pre.pni hnode
    have tab : oolR pn.definition = false ∧ pn.definition ≠ .sideEffect ∧ pn.definition ≠ .elseJump ∧ pn.definition ≠ .group := by
      rcases hdef with e | e <;> rw [e] <;> decide
    refine p.lastVisit [(ni, _)] [some ni] ((metadata_emitAll _ ctx.data).trans (by rw [hpni]; rfl)) (fun m hm => Or.inr (List.mem_singleton.1 hm)) rfl rfl
      (Plan.apply_nodes _ _) (fun q hq => ?_) (fun h => absurd h tab.2.1) (fun _ => List.mem_singleton.2 rfl)
      (fun h => absurd h (p.notP1 hnode hst)) (nool_last tab.1) (fun h => absurd h tab.2.2.1) (fun h => absurd h tab.2.2.2)
    rw [List.mem_singleton.1 hq]; exact ⟨hpni, rfl, node, hnode, rfl, rfl⟩
  | groupSkip hdef hr =>
    exact p.lastVisit [] [] (metadata_emitAll [] ctx.data) (fun _ h => nomatch h) rfl rfl (Plan.apply_nodes _ _)
      (fun _ h => nomatch h) (fun h => by rw [hdef] at h; cases h)
      (fun h => by rw [hdef] at h; exact absurd h (by decide))
      (fun _ => no_ilink_right_none p.pre.hpn (by rw [hdef]; rfl) (Or.inl hr)) (no_right_last hr)
      (fun h => by rw [hdef] at h; cases h) (fun _ h => nomatch h)
  | @groupChild node hnode hdef r hr site =>
    have hp1 : ph ni = .p1 := p.pre.hph.elim id fun h => absurd hdef (p.pre.inv.p2two ni pn p.pre.hpn h).1
    exact p.stackVisit hr hp1 hdef _ rfl rfl rfl rfl rfl rfl rfl rfl
  | nestedEmpty hdef hr hc =>
    exact p.lastVisit [] [some ni] (metadata_emitAll _ ctx.data) (fun m hm => Or.inr (List.mem_singleton.1 hm)) rfl rfl
      (Plan.apply_nodes _ _) (fun _ h => nomatch h) (fun h => by rw [hdef] at h; cases h)
      (fun _ => List.mem_singleton.2 rfl)
      (fun _ => no_ilink_right_none p.pre.hpn (by rw [hdef]; rfl) (Or.inl hr)) (no_right_last hr)
      (fun h => by rw [hdef] at h; cases h) (fun h => by rw [hdef] at h; cases h)
  | @nestedRoot hdef r hr site =>
    exact p.rootVisit hr (fun h2 => absurd hdef (p.pre.inv.p2two ni pn p.pre.hpn h2).2) (by rw [hdef]; rfl) _ rfl rfl rfl rfl
      [some ni] (metadata_emitAll _ ctx.data) (fun m hm => Or.inr (List.mem_singleton.1 hm)) (List.mem_singleton.2 rfl) rfl rfl rfl
      (fun _ => no_ilink_right_none p.pre.hpn (by rw [hdef]; rfl) (Or.inr (by rw [hdef]; rfl)))
      (fun _ _ => Or.inl (by rw [hdef]; rfl))
  | @branch node hnode hst hlate hcp r hr ins hjump extra endBefore hx he site =>
    refine p.rootVisit hr (fun _ => hlate) (by simp [oolR, hlate]) _ rfl rfl rfl rfl
      (some ni :: (metas (extra.map fun e => (Ev.instr e.1 e.2 none : Ev F)) ++ []))
      ((metadata_emitAll _ _).trans (by rw [metadata_emitAll, List.append_assoc]; rfl)) (fun m hm => ?_) List.mem_cons_self rfl rfl rfl
      (fun h => absurd h (p.notP1 hnode hst)) (fun bn hn => ?_)
    · rcases List.mem_cons.1 hm with h | h
      · exact Or.inr h
      · rw [List.append_nil] at h; exact Or.inl (metas_free extra m h)
    · rw [hnode] at hn; cases hn
      exact (late_cases hlate).imp (fun h => by simp [isDirect, h]) fun h => ⟨h, hcp h⟩
  | @arm node hnode hst hj r hr cp hcp parent hparent ins hjump =>
    exact p.condVisit hr (jumpIf_isLate hj) hj hnode hst hcp hparent _ rfl [some ni] (metadata_emitAll _ ctx.data)
      (fun m hm => Or.inr (List.mem_singleton.1 hm)) (List.mem_singleton.2 rfl) rfl rfl rfl
  | @armDropped node hnode hst hj r hr cp hcp hno =>
    obtain ⟨parent, hpar⟩ := p.cpNode hnode hcp
    exact absurd hpar (hno parent)
  | @elseNoop node hnode hst hdef h =>
    exact p.lastVisit [] [] (metadata_emitAll [] ctx.data) (fun _ h => nomatch h) rfl rfl (Plan.apply_nodes _ _)
      (fun _ h => nomatch h) (fun h => by rw [hdef] at h; cases h)
      (fun h => by rw [hdef] at h; exact absurd h (by decide)) (fun h => absurd h (p.notP1 hnode hst))
      (nool_last (by rw [hdef]; rfl))
      (fun _ bn hn hc => by
        rw [hnode] at hn; cases hn
        rcases h with h | h
        · exact absurd hc h
        · simp [itemsOf, Array.eq_empty_of_size_eq_zero h])
      (fun h => by rw [hdef] at h; cases h)
  | @elseRelease node hnode hst hdef hcp hpos =>
    refine p.elseVisit hdef hnode hst hcp node.containingExpressionJump ctx.data.jumps.size [] (metadata_emitAll _ ctx.data)
      (fun _ h => nomatch h) rfl (Plan.apply_roots _ _) ?_
    rw [Plan.apply_nodes, List.map_map]; rfl

theorem handleParseNode_lifo (parseFloat : List Char → Option F) (p : PreL root tree G m0 ph ctx ni pn) (crj : Nat) :
    Sat (PostL root tree G m0 ph) (handleParseNode parseFloat ctx crj ni pn) := by
  obtain ⟨x, e, hv, _⟩ := handleParseNode_plan parseFloat ctx crj ni pn
  rw [e]
  exact sat_bind hv fun _ hpl => Plan.run_sat (visit_postL p hpl)

end

end Garnish.Lemmas.BuildSeq
