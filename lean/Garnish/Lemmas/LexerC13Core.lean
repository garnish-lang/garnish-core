/-
For property C13 (Garnish/Props/C13.lean): the invariant `Core` of the lexer model — the texts of the emitted tokens
followed by the pending characters are the input read so far, and every token stands at the position of its first character — and
`processChar_core`: `process_char` keeps it or records an error.  An arm treats a regular character in one of three ways
(`ArmKind`); the float split `1..` is the one step outside them (`FloatSplit`).
(LexerC13Core, LexerC13Loop, LexerC13Blank, LexerC13Tree, LexerC13: each imports the previous one.)
-/
import Garnish.Lemmas.Lexer
set_option linter.unusedSimpArgs false
namespace Garnish.Model.Lexer


/-- position after reading `p`: (number of `'\n'`, number of characters after the last `'\n'`) -/
def posOf (p : List Char) : Nat × Nat :=
  (p.count '\n', (p.reverse.takeWhile (· != '\n')).length)

theorem posOf_nil : posOf [] = (0, 0) := rfl

theorem posOf_snoc (p : List Char) (c : Char) :
    posOf (p ++ [c]) = if c = '\n' then ((posOf p).1 + 1, 0) else ((posOf p).1, (posOf p).2 + 1) := by
  unfold posOf
  by_cases h : c = '\n'
  · subst h; simp
  · simp [h, List.count_append]

def textsOf (toks : List LexerToken) : List Char := (toks.map (·.text)).flatten

@[simp] theorem textsOf_nil : textsOf [] = [] := rfl
theorem textsOf_snoc (toks : List LexerToken) (t : LexerToken) : textsOf (toks ++ [t]) = textsOf toks ++ t.text := by
  simp [textsOf]

/-- every token's row/column is the position of its first character, `p` being the text before the tokens -/
def TokPosFrom : List Char → List LexerToken → Prop
  | _, [] => True
  | p, t :: ts => (t.row, t.column) = posOf p ∧ TokPosFrom (p ++ t.text) ts

theorem TokPosFrom_snoc : ∀ (p : List Char) (ts : List LexerToken) (t : LexerToken),
    TokPosFrom p ts → (t.row, t.column) = posOf (p ++ textsOf ts) → TokPosFrom p (ts ++ [t])
  | p, [], t, _, h => by simpa [TokPosFrom] using h
  | p, t0 :: ts, t, h0, h => by
    simp only [List.cons_append, TokPosFrom] at h0 ⊢
    refine ⟨h0.1, TokPosFrom_snoc _ ts t h0.2 ?_⟩
    simpa [textsOf, List.append_assoc] using h

def Sentinel (σ : Lexer) (c : Char) : Prop := c = '\x00' ∧ σ.atEnd = true

/-- extra sanity of the Unicode tables: `'.'` is neither numeric nor alphanumeric -/
structure CharClass.Sane2 (cc : CharClass) : Prop extends cc.Sane where
  dotNumeric : cc.isNumeric '.' = false
  dotAlphanumeric : cc.isAlphanumeric '.' = false

/-- the fields `start_token` leaves alone, and the token start it sets (the text position) -/
structure StartFrame (σ σ2 : Lexer) : Prop where
  textRow : σ2.textRow = σ.textRow
  textColumn : σ2.textColumn = σ.textColumn
  tokenStartRow : σ2.tokenStartRow = σ.textRow
  tokenStartColumn : σ2.tokenStartColumn = σ.textColumn
  shouldCreate : σ2.shouldCreate = σ.shouldCreate
  atEnd : σ2.atEnd = σ.atEnd
  operatorTree : σ2.operatorTree = σ.operatorTree

theorem startToken_startFrame (cc : CharClass) (σ : Lexer) (c : Char) : StartFrame σ (startToken cc σ c) := by
  rw [startToken_eq]
  split <;> constructor <;> rfl

theorem startToken_effect (cc : CharClass) (σ : Lexer) (c : Char) (hok : σ.result = .ok) :
    (startToken cc σ c).result = .err ∨
    ((startToken cc σ c).result = .ok ∧ (startToken cc σ c).state = .noToken ∧
        (startToken cc σ c).currentCharacters = [] ∧ Sentinel σ c) ∨
    ((startToken cc σ c).result = .ok ∧ (startToken cc σ c).state ≠ .noToken ∧ (startToken cc σ c).state ≠ .float ∧
        (startToken cc σ c).currentCharacters = [c] ∧
        ((startToken cc σ c).state = .number → cc.isNumeric c = true)) := by
  rcases startToken_cases cc σ c with ⟨st, ty, cs, hc, -, he⟩ | ⟨-, he⟩ <;> rw [he]
  · cases hc
    case sentinel h0 hat => exact Or.inr (Or.inl ⟨hok, rfl, rfl, h0, hat⟩)
    case number h => exact Or.inr (Or.inr ⟨hok, nofun, nofun, rfl, fun _ => h⟩)
    all_goals exact Or.inr (Or.inr ⟨hok, nofun, nofun, rfl, nofun⟩)
  · exact Or.inl rfl

/-- shape of the characters of a float under construction: `a.b`, no other period; `.b` needs a digit -/
def FloatShape (cs : List Char) : Prop :=
  ∃ a b, cs = a ++ '.' :: b ∧ '.' ∉ a ∧ '.' ∉ b ∧ (a = [] → b ≠ [])

def Shape (σ : Lexer) : Prop :=
  (σ.state = .number → '.' ∉ σ.currentCharacters) ∧ (σ.state = .float → FloatShape σ.currentCharacters)

/-- fields the arms of `process_char` (other than NoToken and the float split) leave alone -/
structure ArmFrame (σ σ1 : Lexer) : Prop where
  textRow : σ1.textRow = σ.textRow
  textColumn : σ1.textColumn = σ.textColumn
  tokenStartRow : σ1.tokenStartRow = σ.tokenStartRow
  tokenStartColumn : σ1.tokenStartColumn = σ.tokenStartColumn
  result : σ1.result = σ.result
  atEnd : σ1.atEnd = σ.atEnd
  operatorTree : σ1.operatorTree = σ.operatorTree

/-- the three ways an arm treats a regular character: continue the token with it, end the token before it,
end the token with it -/
def ArmKind (σ : Lexer) (c : Char) (σ1 : Lexer) (sn : Bool) : Prop :=
  (sn = false ∧ σ1.shouldCreate = true ∧ σ1.currentCharacters = σ.currentCharacters ++ [c] ∧
      σ1.state ≠ .noToken ∧ Shape σ1) ∨
  (sn = true ∧ σ1.shouldCreate = true ∧ σ1.currentCharacters = σ.currentCharacters ∧ σ1.state ≠ .noToken) ∨
  (sn = true ∧ σ1.shouldCreate = false ∧ σ1.currentCharacters = σ.currentCharacters ++ [c] ∧ σ1.state ≠ .noToken)

/-- `hr : arm … = r`: unfold, split, substitute, simplify -/
macro "arm_tac" f:ident hr:ident : tactic =>
  `(tactic| (unfold $f at $hr:ident; (try simp only [] at $hr:ident); (repeat' split at $hr:ident);
             all_goals (subst $hr:ident; simp_all [ArmEff, ArmKind, Shape, push, Sentinel, armFrame_iff])))

@[simp] theorem pop_push (s : List Char) (c : Char) : pop (push s c) = s := by
  simp [pop, push]

theorem utf8Len_append (a b : List Char) : utf8Len (a ++ b) = utf8Len a + utf8Len b := by
  induction a with
  | nil => simp [utf8Len]
  | cons x r ih => simp [utf8Len, ih]; omega

theorem utf8Len_replicate (Q : Char) (hQ : Q.utf8Size = 1) : ∀ n, utf8Len (List.replicate n Q) = n
  | 0 => rfl
  | n + 1 => by rw [List.replicate_succ, utf8Len, hQ, utf8Len_replicate Q hQ n]; omega

theorem sane2_ne_dot {cc : CharClass} (hcc : cc.Sane2) {c : Char}
    (h : (cc.isNumeric c || c == '_' || cc.isAlphanumeric c) = true) : c ≠ '.' := by
  intro hc; subst hc
  simp [hcc.dotNumeric, hcc.dotAlphanumeric] at h

theorem FloatShape_push {cs : List Char} {c : Char} (h : FloatShape cs) (hc : c ≠ '.') : FloatShape (cs ++ [c]) := by
  obtain ⟨a, b, rfl, ha, hb, hab⟩ := h
  refine ⟨a, b ++ [c], by simp, ha, ?_, fun _ => by simp⟩
  simp only [List.mem_append, List.mem_singleton, not_or]
  exact ⟨hb, fun h => hc h.symm⟩

theorem FloatShape_of_number {cs : List Char} (h : '.' ∉ cs) (hne : cs ≠ []) : FloatShape (cs ++ ['.']) :=
  ⟨cs, [], rfl, h, by simp, fun h0 => absurd h0 hne⟩

theorem FloatShape_dot_digit {cs : List Char} {c : Char} (hne : cs ≠ []) (hs : startsWith (cs ++ [c]) '.' = true)
    (hl : utf8Len (cs ++ [c]) = 2) (hc : c ≠ '.') : FloatShape (cs ++ [c]) := by
  cases cs with
  | nil => exact absurd rfl hne
  | cons x r =>
    have hx : x = '.' := by simpa [startsWith] using hs
    subst hx
    have h1 := Char.utf8Size_pos c
    have h2 : ('.' : Char).utf8Size = 1 := by decide
    rw [utf8Len_append] at hl
    simp only [utf8Len, h2] at hl
    have hr : r = [] := utf8Len_eq_zero (by omega)
    subst hr
    exact ⟨[], [c], rfl, by simp, by simpa using fun h => hc h.symm, fun _ => by simp⟩

theorem ArmStep.armFrame {cc : CharClass} {σ σ1 : Lexer} {c : Char} {sn : Bool} (h : ArmStep cc σ c σ1 sn) :
    ArmFrame σ σ1 := by
  cases h <;> exact ⟨rfl, rfl, rfl, rfl, rfl, rfl, rfl⟩

theorem Shape.of_state {τ : Lexer} {st : LexingState} (h : τ.state = st) (h1 : st ≠ .number) (h2 : st ≠ .float) :
    Shape τ :=
  ⟨fun e => absurd (h.symm.trans e) h1, fun e => absurd (h.symm.trans e) h2⟩

theorem ArmStep.kind {cc : CharClass} (hcc : cc.Sane2) {σ σ1 : Lexer} {c : Char} {sn : Bool} (h : ArmStep cc σ c σ1 sn)
    (hc : σ.shouldCreate = true) (hne : σ.currentCharacters ≠ []) (hsh : Shape σ) (hns : ¬Sentinel σ c) :
    ArmKind σ c σ1 sn := by
  have hnt := h.notNoToken.2
  cases h with
  -- the character continues the token; the state is kept or set, and is neither Number nor Float
  | opPath hs | idCont hs | sclQuote hs | sblQuote hs | clQuote hs | clBody hs | blQuote hs | blBody hs | spBlank hs
  | annCont hs | lineCont hs =>
    exact .inl ⟨rfl, hc, rfl, hnt, .of_state hs (by decide) (by decide)⟩
  | opIdent | sclBody | sblBody | spNewline | subBlank | annLine =>
    exact .inl ⟨rfl, hc, rfl, hnt, .of_state rfl nofun nofun⟩
  -- … or is Number or Float: no period in a number, one period in a float
  | numCont hs h =>
    refine .inl ⟨rfl, hc, rfl, hnt, fun _ => ?_, fun e => by rw [show σ.state = _ from e] at hs; cases hs⟩
    simp only [push, List.mem_append, List.mem_singleton, not_or]
    exact ⟨hsh.1 hs, (sane2_ne_dot hcc h).symm⟩
  | numFloat hs _ h =>
    have hd : c = '.' := by simp only [Bool.and_eq_true, beq_iff_eq] at h; exact h.1
    exact .inl ⟨rfl, hc, rfl, hnt, nofun, fun _ => hd ▸ FloatShape_of_number (hsh.1 hs) hne⟩
  | opFloat hs _ _ h =>
    simp only [push, Bool.and_eq_true, beq_iff_eq] at h
    have hd : c ≠ '.' := fun hd => by rw [hd, hcc.dotNumeric] at h; exact absurd h.1.2 nofun
    exact .inl ⟨rfl, hc, rfl, hnt, nofun, fun _ => FloatShape_dot_digit hne h.1.1.1 h.1.1.2 hd⟩
  | flCont hs h =>
    exact .inl ⟨rfl, hc, rfl, hnt, fun e => (by rw [show σ.state = _ from e] at hs; cases hs),
      fun _ => FloatShape_push (hsh.2 hs) (sane2_ne_dot hcc h)⟩
  -- (on the sentinel the two quote-counting arms keep the token without the character)
  | sclSentinel _ _ _ h | sblSentinel _ _ _ h =>
    simp only [Bool.and_eq_true, beq_iff_eq] at h
    exact absurd ⟨h.1, h.2⟩ hns
  -- the token ends before the character
  | opDone => exact .inr (.inl ⟨rfl, hc, pop_push _ _, hnt⟩)
  | numDone | idSymbol | idDone | sclEmpty | sblEmpty | spDone | subDone | annDone | lineSentinel | flDone =>
    exact .inr (.inl ⟨rfl, hc, rfl, hnt⟩)
  -- the token ends with the character
  | idTick | clLast | blLast | spBlankLine | subNewline | lineNewline => exact .inr (.inr ⟨rfl, rfl, rfl, hnt⟩)

theorem trimMatches_number {a : List Char} (hne : a ≠ []) (hnd : '.' ∉ a) : trimMatches (a ++ ['.']) '.' = a := by
  unfold trimMatches
  cases a with
  | nil => exact absurd rfl hne
  | cons x r =>
    have hx : x ≠ '.' := by intro h; subst h; simp at hnd
    rw [List.cons_append, List.dropWhile_cons_of_neg (by simpa using hx)]
    rw [← List.cons_append, List.reverse_append]
    simp only [List.reverse_cons, List.reverse_nil, List.nil_append, List.singleton_append]
    rw [List.dropWhile_cons_of_pos (by rfl)]
    -- the reversed number starts with its last character, which is not a period
    cases hrev : (r.reverse ++ [x]) with
    | nil => simp at hrev
    | cons y ys =>
      have hy : y ∈ x :: r := by
        have : y ∈ r.reverse ++ [x] := by rw [hrev]; simp
        simpa [or_comm] using this
      have hyd : y ≠ '.' := by intro h; subst h; exact hnd hy
      rw [List.dropWhile_cons_of_neg (by simpa using hyd), ← hrev]
      simp

theorem FloatShape_endsWith {cs : List Char} (h : FloatShape cs) (he : endsWith cs '.' = true) :
    ∃ a, cs = a ++ ['.'] ∧ a ≠ [] ∧ '.' ∉ a := by
  obtain ⟨a, b, rfl, ha, hb, hab⟩ := h
  have hb0 : b = [] := by
    cases hbl : b.getLast? with
    | none => simpa using hbl
    | some y =>
      have hy : y ∈ b := List.mem_of_getLast? hbl
      have : (a ++ '.' :: b).getLast? = some y := by
        cases b with
        | nil => simp at hbl
        | cons z zs => simp [List.getLast?_append, List.getLast?_cons_cons] at hbl ⊢; simp [hbl]
      simp [endsWith, this] at he
      subst he
      exact absurd hy hb
  subst hb0
  refine ⟨a, rfl, ?_, ha⟩
  intro h0; exact hab h0 rfl

/-- the float split: `1.` followed by `.` emits the number and continues as the range operator `..` -/
structure FloatSplit (σ : Lexer) (a : List Char) (σ1 : Lexer) : Prop where
  chars0 : σ.currentCharacters = a ++ ['.']
  ane : a ≠ []
  anodot : '.' ∉ a
  chars : σ1.currentCharacters = ['.', '.']
  tokenStartRow : σ1.tokenStartRow = σ.textRow
  tokenStartColumn : σ1.tokenStartColumn = σ.textColumn - 1
  textRow : σ1.textRow = σ.textRow
  textColumn : σ1.textColumn = σ.textColumn
  shouldCreate : σ1.shouldCreate = σ.shouldCreate
  result : σ1.result = .ok
  notNoToken : σ1.state ≠ .noToken
  notFloat : σ1.state ≠ .float
  notNumber : σ1.state ≠ .number
  atEnd : σ1.atEnd = σ.atEnd
  operatorTree : σ1.operatorTree = σ.operatorTree

theorem dots_split (cc : CharClass) (hcc : cc.Sane2) {σ : Lexer} {c : Char} (hs : σ.state = .float) (hsh : Shape σ)
    (hok : σ.result = .ok) (h2 : (c == '.' && endsWith σ.currentCharacters '.') = true) :
    (dots cc σ c).result = .err ∨
    ∃ a, trimMatches σ.currentCharacters '.' = a ∧ ∀ ty, FloatSplit σ a { dots cc σ c with currentTokenType := ty } := by
  simp only [Bool.and_eq_true, beq_iff_eq] at h2
  obtain ⟨rfl, hends⟩ := h2
  obtain ⟨a, ha, hane, hand⟩ := FloatShape_endsWith (hsh.2 hs) hends
  have hfr := startToken_startFrame cc { σ with tokenStartRow := σ.textRow } '.'
  have heff := startToken_effect cc { σ with tokenStartRow := σ.textRow } '.' hok
  unfold dots
  generalize startToken cc { σ with tokenStartRow := σ.textRow } '.' = st at hfr heff
  rcases heff with herr | ⟨_, _, _, hsent⟩ | ⟨hrok, hnt, hnf, hchars, hnum⟩
  · exact Or.inl herr
  · exact absurd hsent.1 (by decide)
  · refine Or.inr ⟨a, by rw [ha, trimMatches_number hane hand], fun ty => ?_⟩
    have hnn : st.state ≠ .number := fun h => by
      have := hnum h; rw [hcc.dotNumeric] at this; cases this
    exact ⟨ha, hane, hand, by simp [push, hchars], hfr.tokenStartRow, rfl, hfr.textRow, hfr.textColumn, hfr.shouldCreate,
      hrok, hnt, hnf, hnn, hfr.atEnd, hfr.operatorTree⟩

/-- state of the lexer after `consumed` has been read and `toks` have been emitted (and no error recorded) -/
structure Core (σ : Lexer) (consumed : List Char) (toks : List LexerToken) : Prop where
  lossless : textsOf toks ++ σ.currentCharacters = consumed
  nonempty : ∀ t ∈ toks, t.text ≠ []
  noTok : σ.state = .noToken → σ.currentCharacters = []
  tok : σ.state ≠ .noToken → σ.currentCharacters ≠ []
  tokPos : TokPosFrom [] toks
  startPos : σ.state ≠ .noToken → (σ.tokenStartRow, σ.tokenStartColumn) = posOf (textsOf toks)
  textPos : (σ.textRow, σ.textColumn) = posOf consumed
  shape : Shape σ
  create : σ.shouldCreate = true
  ok : σ.result = .ok

theorem bumpColumn_textPos (σ : Lexer) (c : Char) (consumed : List Char)
    (h : (σ.textRow, σ.textColumn) = posOf consumed) :
    ((bumpColumn σ c).textRow, (bumpColumn σ c).textColumn) = posOf (consumed ++ [c]) := by
  rw [posOf_snoc, ← h]
  unfold bumpColumn
  by_cases hc : c = '\n' <;> simp [hc]

@[simp] theorem bumpColumn_tokenStartRow (σ : Lexer) (c : Char) : (bumpColumn σ c).tokenStartRow = σ.tokenStartRow := by
  unfold bumpColumn; split <;> rfl
@[simp] theorem bumpColumn_tokenStartColumn (σ : Lexer) (c : Char) :
    (bumpColumn σ c).tokenStartColumn = σ.tokenStartColumn := by
  unfold bumpColumn; split <;> rfl
@[simp] theorem bumpColumn_shouldCreate (σ : Lexer) (c : Char) : (bumpColumn σ c).shouldCreate = σ.shouldCreate := by
  unfold bumpColumn; split <;> rfl
@[simp] theorem bumpColumn_atEnd (σ : Lexer) (c : Char) : (bumpColumn σ c).atEnd = σ.atEnd := by
  unfold bumpColumn; split <;> rfl

theorem Shape_bump {σ : Lexer} {c : Char} (h : Shape σ) : Shape (bumpColumn σ c) := by
  unfold Shape at *; simpa using h

theorem Core_start (cc : CharClass) (hcc : cc.Sane2) (σ2 : Lexer) (c : Char) (consumed : List Char)
    (toks : List LexerToken)
    (hlos : textsOf toks = consumed) (hne : ∀ t ∈ toks, t.text ≠ []) (hpos : TokPosFrom [] toks)
    (htext : (σ2.textRow, σ2.textColumn) = posOf consumed) (hcr : σ2.shouldCreate = true) (hok : σ2.result = .ok)
    (hns : ¬Sentinel σ2 c) :
    (bumpColumn (startToken cc σ2 c) c).result = .err ∨
    Core (bumpColumn (startToken cc σ2 c) c) (consumed ++ [c]) toks := by
  have hfr := startToken_startFrame cc σ2 c
  rcases startToken_effect cc σ2 c hok with herr | ⟨_, _, _, hsent⟩ | ⟨hrok, hnt, hnf, hchars, hnum⟩
  · exact Or.inl (by simpa using herr)
  · exact absurd hsent hns
  · refine Or.inr ⟨?_, hne, ?_, ?_, hpos, ?_, ?_, ?_, ?_, ?_⟩
    · simp [hchars, hlos]
    · intro h; simp at h; exact absurd h hnt
    · intro _; simp [hchars]
    · intro _
      simp only [bumpColumn_tokenStartRow, bumpColumn_tokenStartColumn, hfr.tokenStartRow, hfr.tokenStartColumn]
      rw [hlos]; exact htext
    · apply bumpColumn_textPos
      rw [hfr.textRow, hfr.textColumn]; exact htext
    · apply Shape_bump
      refine ⟨fun h => ?_, fun h => absurd h hnf⟩
      rw [hchars]
      have hn := hnum h
      intro hmem
      simp at hmem
      subst hmem
      rw [hcc.dotNumeric] at hn; cases hn
    · simp [hfr.shouldCreate, hcr]
    · simpa using hrok

theorem TokPosFrom_emit {σ : Lexer} {consumed : List Char} {toks : List LexerToken} (hcore : Core σ consumed toks)
    (hst : σ.state ≠ .noToken) (text : List Char) (ty : Gen.TokenType) :
    TokPosFrom [] (toks ++ [⟨text, ty, σ.tokenStartRow, σ.tokenStartColumn⟩]) := by
  apply TokPosFrom_snoc _ _ _ hcore.tokPos
  simpa using hcore.startPos hst

theorem Core_lexed {σ : Lexer} {consumed : List Char} {toks : List LexerToken} (n : Nat)
    (h : Core σ consumed toks) : Core { σ with charactersLexed := n } consumed toks :=
  ⟨h.1, h.2, h.3, h.4, h.5, h.6, h.7, h.8, h.9, h.10⟩

theorem floatSplit_core (σ : Lexer) (consumed : List Char) (toks : List LexerToken) (hcore : Core σ consumed toks)
    (hst : σ.state ≠ .noToken) (a : List Char) (σ1 : Lexer) (hsp : FloatSplit σ a σ1) :
    Core (bumpColumn σ1 '.') (consumed ++ ['.'])
      (toks ++ [⟨a, .number, σ.tokenStartRow, σ.tokenStartColumn⟩]) := by
  have hcons : consumed = (textsOf toks ++ a) ++ ['.'] := by
    rw [← hcore.lossless, hsp.chars0, List.append_assoc]
  refine ⟨?_, ?_, ?_, ?_, TokPosFrom_emit hcore hst _ _, ?_, ?_, ?_, ?_, ?_⟩
  · simp [textsOf_snoc, hsp.chars, hcons]
  · exact List.forall_mem_append.2 ⟨hcore.nonempty, List.forall_mem_singleton.2 hsp.ane⟩
  · intro h; simp at h; exact absurd h hsp.notNoToken
  · intro _; simp [hsp.chars]
  · intro _
    simp only [bumpColumn_tokenStartRow, bumpColumn_tokenStartColumn, hsp.tokenStartRow, hsp.tokenStartColumn,
      textsOf_snoc]
    have htp := hcore.textPos
    rw [hcons, posOf_snoc] at htp
    simp only [show ¬ (('.' : Char) = '\n') by decide, ↓reduceIte] at htp
    have h1 : σ.textRow = (posOf (textsOf toks ++ a)).1 := congrArg Prod.fst htp
    have h2 : σ.textColumn = (posOf (textsOf toks ++ a)).2 + 1 := congrArg Prod.snd htp
    rw [h1, h2]; simp
  · apply bumpColumn_textPos
    rw [hsp.textRow, hsp.textColumn]; exact hcore.textPos
  · apply Shape_bump
    exact ⟨fun h => absurd h hsp.notNumber, fun h => absurd h hsp.notFloat⟩
  · simp [hsp.shouldCreate, hcore.create]
  · simpa using hsp.result

theorem processChar_core (cc : CharClass) (hcc : cc.Sane2) (σ : Lexer) (c : Char) (consumed : List Char)
    (toks : List LexerToken) (hcore : Core σ consumed toks) (hns : ¬Sentinel σ c)
    (σ' : Lexer) (ot : Option LexerToken) (h : processChar cc σ c = .ok (σ', ot)) :
    σ'.result = .err ∨ Core σ' (consumed ++ [c]) (toks ++ ot.toList) := by
  have hstep := processChar_pstep cc h
  have hcore0 := Core_lexed (σ.charactersLexed + 1) hcore
  generalize hσ0 : ({ σ with charactersLexed := σ.charactersLexed + 1 } : Lexer) = σ0 at hstep hcore0
  have hns0 : ¬Sentinel σ0 c := by subst hσ0; exact hns
  clear hσ0 hcore hns h
  -- what an arm does to the pending characters (`ArmKind`), and the fields it leaves alone
  have eff : ∀ {σ1 sn}, ArmStep cc σ0 c σ1 sn → σ0.state ≠ .noToken ∧ ArmFrame σ0 σ1 ∧ ArmKind σ0 c σ1 sn := fun harm =>
    have hnt := harm.notNoToken.1
    ⟨hnt, harm.armFrame, harm.kind hcc hcore0.create (hcore0.tok hnt) hcore0.shape hns0⟩
  cases hstep with
  | fail herr => exact Or.inl herr
  | start hs =>
    simp only [Option.toList_none, List.append_nil]
    apply Core_start cc hcc σ0 c consumed toks ?_ hcore0.nonempty hcore0.tokPos hcore0.textPos hcore0.create
      hcore0.ok hns0
    have := hcore0.lossless
    rwa [hcore0.noTok hs, List.append_nil] at this
  | @cont σ1 harm =>
    obtain ⟨hst, hfr, hk⟩ := eff harm
    rcases hk with ⟨-, hcr, hch, hnt, hsh⟩ | ⟨h, -⟩ | ⟨h, -⟩ <;> try cases h
    right
    simp only [Option.toList_none, List.append_nil]
    refine ⟨?_, hcore0.nonempty, ?_, ?_, hcore0.tokPos, ?_, ?_, Shape_bump hsh, by simpa using hcr,
      by simpa [hfr.result] using hcore0.ok⟩
    · simp [hch, ← hcore0.lossless]
    · intro h; simp at h; exact absurd h hnt
    · intro _; simp [hch]
    · intro _
      simp only [bumpColumn_tokenStartRow, bumpColumn_tokenStartColumn, hfr.tokenStartRow, hfr.tokenStartColumn]
      exact hcore0.startPos hst
    · apply bumpColumn_textPos
      rw [hfr.textRow, hfr.textColumn]; exact hcore0.textPos
  | @emit σ1 ty harm hty =>
    obtain ⟨hst, hfr, hk⟩ := eff harm
    have hemit : TokPosFrom [] (toks ++ [pendingTok σ1 ty]) := by
      unfold pendingTok; rw [hfr.tokenStartRow, hfr.tokenStartColumn]; exact TokPosFrom_emit hcore0 hst _ _
    simp only [Option.toList_some]
    rcases hk with ⟨h, -⟩ | ⟨-, hcr, hch, hnt⟩ | ⟨-, hcr, hch, hnt⟩ <;> try cases h
    · -- the token ends before `c`, which starts the next one
      simp only [restart, hcr, ↓reduceIte]
      apply Core_start cc hcc
      · rw [textsOf_snoc]; simp only [pendingTok, hch]; exact hcore0.lossless
      · exact List.forall_mem_append.2 ⟨hcore0.nonempty,
          List.forall_mem_singleton.2 (by simp only [pendingTok, hch]; exact hcore0.tok hst)⟩
      · exact hemit
      · simp only [afterEmit, hfr.textRow, hfr.textColumn]; exact hcore0.textPos
      · exact hcr
      · rfl
      · intro hs; exact hns0 ⟨hs.1, by simpa [afterEmit, hfr.atEnd] using hs.2⟩
    · -- the token ends with `c`
      right
      simp only [restart, hcr, Bool.false_eq_true, ↓reduceIte]
      refine ⟨?_, ?_, ?_, ?_, hemit, ?_, ?_, ?_, by simp, by simp [afterEmit]⟩
      · simp [textsOf_snoc, pendingTok, hch, afterEmit, ← hcore0.lossless]
      · exact List.forall_mem_append.2 ⟨hcore0.nonempty, List.forall_mem_singleton.2 (by simp [pendingTok, hch])⟩
      · intro _; simp [afterEmit]
      · intro h; simp [afterEmit] at h
      · intro h; simp [afterEmit] at h
      · apply bumpColumn_textPos
        simp only [afterEmit, hfr.textRow, hfr.textColumn]; exact hcore0.textPos
      · apply Shape_bump
        exact ⟨fun h => by simp [afterEmit] at h, fun h => by simp [afterEmit] at h⟩
  | @split node hs h2 _ hw =>
    have hnt : σ0.state ≠ .noToken := by rw [hs]; decide
    rcases dots_split cc hcc hs hcore0.shape hcore0.ok h2 with herr | ⟨a, ha, hsp⟩
    · exact Or.inl (by simpa using herr)
    · have hc : c = '.' := by simp only [Bool.and_eq_true, beq_iff_eq] at h2; exact h2.1
      subst hc
      rw [ha]
      exact Or.inr (by simpa using floatSplit_core σ0 consumed toks hcore0 hnt a _ (hsp node.tokenType))

end Garnish.Model.Lexer
