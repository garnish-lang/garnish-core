/-
Refinement lemmas for apply.rs, part 3: entering an expression (`Expression` arm, `Partial` arm over an expression),
the `Partial` arm over anything else.
-/
import Garnish.Lemmas.RuntimeApply2
namespace Garnish.Lemmas.Runtime
open Garnish Gen Garnish.Abs Garnish.Model.Equality Garnish.Model.Runtime

variable {F σ : Type} {S : RStore F σ} (fo : FloatOps F)

theorem getExpression_of {s : σ} {a j : Nat} (h : Decodes (S.view s) a (.expr j)) :
    getExpression S a s = .ok (j, s) := by
  cases h with
  | expr _ hn => simp [getExpression, RM.lift, hn, fetch, Outcome.ofOption, Outcome.bind]

theorem jumpPoint_apply (j : Nat) (s : σ) :
    jumpPoint S j s = match S.jumpTable s j with
      | some t => .ok (t, s)
      | none => .err .state := by
  rw [jumpPoint, bind_ok (getFromJumpTable_apply j s)]
  cases S.jumpTable s j <;> rfl

theorem partial_of {s : σ} {a : Nat} {vf vx : Val F} (h : Decodes (S.view s) a (.part vf vx)) :
    ∃ x y, (S.view s).partial_ a = some (x, y) ∧ Decodes (S.view s) x vf ∧ Decodes (S.view s) y vx := by
  cases h with
  | part _ hr ds de => exact ⟨_, _, hr, ds, de⟩

theorem getPartial_of {s : σ} {a x y : Nat} (h : (S.view s).partial_ a = some (x, y)) :
    getPartial S a s = .ok ((x, y), s) := by
  simp [getPartial, RM.lift, h, fetch, Outcome.ofOption, Outcome.bind]

namespace Core
open On

variable {Inv : σ → Prop} {Rd : σ → Nat → Prop} {K : Prop}

theorem apply_expression_spec (L : LawsK S Inv Rd K) (fuel : Nat) (instr : Instruction) (ur : Bool)
    {s : σ} {r l j : Nat} {vr : Val F} {rest : List Nat}
    (hregs : S.regs s = r :: l :: rest) (hl : Decodes (S.view s) l (.expr j)) (hr : Decodes (S.view s) r vr)
    (hvr : K → vr ≠ .custom)
    (hinv : Inv s := by inv_tac) (hdp : DeepK K S s rest := by deep_tac) :
    EnteredI S Inv s (applyInternal fo S fuel instr ur s) rest j vr := by
  obtain ⟨s0, e0, hl0, hr0, hp⟩ := applyInternal_prefix fo L fuel instr ur hregs hl hr
  rw [hp]
  simp only [Val.typeOf, applyMatch]
  rw [bind_apply, bind_ok (getExpression_of hl0), bind_apply, jumpPoint_apply, e0.keeps.jump]
  unfold EnteredI
  cases hj : S.jumpTable s j with
  | none => rfl
  | some t =>
    simp only []
    obtain ⟨s1, h1, e1⟩ := pushVal L hr0 hvr
    rw [e0.regs, e0.vals] at e1
    obtain ⟨s2, h2, f2⟩ := pushFrm L (S.cursor s + 1) s1
    have e01 := e0.trans e1
    rw [e1.regs, e1.vals, e1.frames, e0.frames] at f2
    refine ⟨r, s2, ?_, f2.dec (e1.dec hr0), e01.toF.trans f2⟩
    rw [bind_ok h1, bind_ok (read_apply S.cursor s1), e01.keeps.cur, bind_ok h2]; rfl

/-- the `Partial` arm over an expression: the stored input (concatenated with the argument for `Apply`, alone
for `EmptyApply`) becomes the input value -/
theorem apply_partial_expression_spec (L : LawsK S Inv Rd K) (fuel : Nat) (instr : Instruction) (ur : Bool)
    {s : σ} {r l j : Nat} {vr input : Val F} {rest : List Nat}
    (hregs : S.regs s = r :: l :: rest) (hl : Decodes (S.view s) l (.part (.expr j) input))
    (hr : Decodes (S.view s) r vr)
    (hin : K → (if ur then Val.concat input vr else input) ≠ .custom)
    (hns : ur = true → K → (∀ x y, input ≠ .slice x y) ∧ (∀ x y, vr ≠ .slice x y))
    (hinv : Inv s := by inv_tac) (hdp : DeepK K S s rest := by deep_tac) :
    EnteredI S Inv s (applyInternal fo S fuel instr ur s) rest j (if ur then .concat input vr else input) := by
  obtain ⟨s0, e0, hl0, hr0, hp⟩ := applyInternal_prefix fo L fuel instr ur hregs hl hr
  obtain ⟨ea, ia, hpa, de, di⟩ := partial_of hl0
  rw [hp]
  simp only [Val.typeOf, applyMatch]
  rw [bind_ok2 (getPartial_of hpa)]
  simp only []
  rw [bind_ok2 (getDataType_of de)]
  simp only [Val.typeOf]
  -- the input value: `add_concatenation(input, right)` or `input`
  have hval : ∃ va s1, ((if ur = true then S.addConcatenation ia r else pure ia : RM σ Nat) s0 = .ok (va, s1)) ∧
      Decodes (S.view s1) va (if ur then .concat input vr else input) ∧ EffI S Inv s0 s1 (S.regs s0) (S.vals s0) := by
    cases ur with
    | false => exact ⟨ia, s0, rfl, di, EffI.refl s0 (by inv_tac)⟩
    | true =>
      obtain ⟨va, s1, h1, d1, e1⟩ := adds_i (L.addConcatenation ia r input vr s0 (by inv_tac) di hr0 (fun k => (hns rfl k).1) (fun k => (hns rfl k).2))
      exact ⟨va, s1, h1, d1, e1⟩
  obtain ⟨va, s1, h1, d1, e1⟩ := hval
  rw [e0.regs, e0.vals] at e1
  have e01 := e0.trans e1
  obtain ⟨s2, h2, e2⟩ := pushVal L d1 hin
  rw [e1.regs, e1.vals] at e2
  have e02 := e01.trans e2
  have de2 : Decodes (S.view s2) ea (.expr j) := (e1.trans e2).dec de
  have body : ∀ (m : RM σ Nat), m s0 = .ok (va, s1) →
      EnteredI S Inv s (((do
          let value ← m
          S.pushValueStack value
          let expression ← getExpression S ea
          let n ← jumpPoint S expression
          let c ← RM.read S.cursor
          S.pushFrame (c + 1)
          pure n : RM σ Nat) >>= fun n => pure (some n)) s0) rest j (if ur then .concat input vr else input) := by
    intro m hm
    rw [bind_ok2 hm, bind_ok2 h2, bind_ok2 (getExpression_of de2), bind_apply, bind_apply, jumpPoint_apply,
      e02.keeps.jump]
    unfold EnteredI
    cases hj : S.jumpTable s j with
    | none => rfl
    | some t =>
      simp only []
      obtain ⟨s3, h3, f3⟩ := pushFrm L (S.cursor s + 1) s2
      rw [e2.regs, e2.vals, e2.frames, e1.frames, e0.frames] at f3
      refine ⟨va, s3, ?_, f3.dec (e2.dec d1), e02.toF.trans f3⟩
      rw [bind_ok (read_apply S.cursor s2), e02.keeps.cur, bind_ok h3]; rfl
  cases ur with
  | false =>
    have := body (pure ia) h1
    simp only [Bool.false_eq_true, if_false] at this ⊢; exact this
  | true =>
    have := body (S.addConcatenation ia r) h1
    simp only [if_true] at this ⊢; exact this

theorem apply_partial_other_spec (L : LawsK S Inv Rd K) (fuel : Nat) (instr : Instruction) (ur : Bool)
    {s : σ} {r l : Nat} {vr vf input : Val F} {rest : List Nat}
    (hregs : S.regs s = r :: l :: rest) (hl : Decodes (S.view s) l (.part vf input))
    (hr : Decodes (S.view s) r vr) (hne : vf.typeOf ≠ .expression)
    (hinv : Inv s := by inv_tac) (hdp : DeepK K S s rest := by deep_tac) :
    applyKind fo instr ur (.part vf input) vr = .out (.val .unit) ∧
    PushedI S Inv s (applyInternal fo S fuel instr ur s) (some (S.cursor s + 1)) rest .unit := by
  obtain ⟨s0, e0, hl0, hr0, hp⟩ := applyInternal_prefix fo L fuel instr ur hregs hl hr
  obtain ⟨ea, ia, hpa, de, di⟩ := partial_of hl0
  refine ⟨by cases vf <;> first | rfl | exact absurd rfl hne, ?_⟩
  rw [hp]
  simp only [Val.typeOf, applyMatch]
  rw [bind_apply, bind_ok (getPartial_of hpa)]
  simp only []
  rw [bind_ok (getDataType_of de)]
  obtain ⟨a, s1, h1, d1, e1⟩ := adds_i (L.addUnit s0 (by inv_tac))
  obtain ⟨s2, h2, e2⟩ := pushReg L d1 (fun _ => nofun)
  rw [e1.regs, e1.vals, e0.regs, e0.vals] at e2
  refine ⟨a, s2, ?_, e2.dec d1, (e0.trans e1).trans e2⟩
  generalize vf.typeOf = t at hne ⊢
  cases t
  case expression => exact absurd rfl hne
  all_goals (simp only []; rw [bind_ok h1, bind_ok h2]; rfl)

end Core

end Garnish.Lemmas.Runtime
