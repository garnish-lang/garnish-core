/-
Clauses of `StoreLawsOn` for `BasicGarnishData`: the frame chain (`push_frame`, `pop_frame`), and
`*get_current_value_mut() = r` — the top input-value cell is overwritten in place; registers, frames and every `Decodes`
fact are untouched.
-/
import Garnish.Lemmas.BasicStacks
import Garnish.Lemmas.MutOps
import Garnish.Lemmas.MutSet
namespace Garnish.Lemmas.Runtime.Basic
open Garnish Gen Garnish.Model.Equality Garnish.Model.Runtime Garnish.Model.Runtime.Basic Garnish.BasicOpt
open Garnish.Lemmas.Runtime Garnish.Lemmas.EqualityRefine

variable {F : Type}


theorem framesOf_frame {cells : Array Cell} {a p r : Nat} (hc : cells[a]? = some (Cell.frame p r)) (hp : p < a) :
    framesOf cells (some a) = (retOf cells a, regsOf cells (some r)) :: framesOf cells (some p) := by
  have h1 : frameChain cells (a + 1) a =
      (retOf cells a, regsOf cells (some r)) :: (if p < a then frameChain cells a p else []) := by
    simp only [frameChain, hc]
  show frameChain cells (a + 1) a = _ :: frameChain cells (p + 1) p
  rw [h1, if_pos hp, frameChain_fuel cells a p hp]

theorem framesOf_index {cells : Array Cell} {a p : Nat} (hc : cells[a]? = some (Cell.frameIndex p)) (hp : p < a) :
    framesOf cells (some a) = (retOf cells a, []) :: framesOf cells (some p) := by
  have h1 : frameChain cells (a + 1) a = (retOf cells a, []) :: (if p < a then frameChain cells a p else []) := by
    simp only [frameChain, hc]
  show frameChain cells (a + 1) a = _ :: frameChain cells (p + 1) p
  rw [h1, if_pos hp, frameChain_fuel cells a p hp]

theorem framesOf_freg {cells : Array Cell} {a r : Nat} (hc : cells[a]? = some (Cell.frameRegister r)) :
    framesOf cells (some a) = [(retOf cells a, regsOf cells (some r))] := by
  show frameChain cells (a + 1) a = _
  simp only [frameChain, hc]

theorem framesOf_root {cells : Array Cell} {a : Nat} (hc : cells[a]? = some Cell.frameRoot) :
    framesOf cells (some a) = [(retOf cells a, [])] := by
  show frameChain cells (a + 1) a = _
  simp only [frameChain, hc]

theorem pushFrame_law (nc : NumCode F) {P : Store → Prop} (R : Room P) {st : BState} (hinv : BInvP P st) (j : Nat) :
    ∃ st', (basicRStore nc).pushFrame j st = .ok ((), st') ∧
      FEff (basicRStore nc) st st' ((basicRStore nc).regs st) ((basicRStore nc).vals st)
        ((j, (basicRStore nc).regs st) :: (basicRStore nc).frames st) ∧ BInvP P st' := by
  obtain ⟨s1, hp1, hc1, hf1, room1⟩ := R.push _ (.jumpPoint j) hinv.room
  -- the frame cell
  let c : Cell := match st.store.currentFrame, st.store.currentRegister with
    | some f, some r => Cell.frame f r
    | some f, none => .frameIndex f
    | none, some r => .frameRegister r
    | none, none => .frameRoot
  obtain ⟨s2, hp2, hc2, hf2, room2⟩ := R.push _ c room1
  have hf := hf1.trans hf2
  have hsz1 : s1.cells.size = st.store.cells.size + 1 := by rw [hc1]; simp
  have hcells : s2.cells = (st.store.cells.push (.jumpPoint j)).push c := by rw [hc2, hc1]
  have hop : st.store.pushFrame j = .ok { s2 with currentFrame := some (st.store.cells.size + 1) } := by
    have e1 : s1.currentFrame = st.store.currentFrame := hf1.2.2.2.2.2
    have e2 : s1.currentRegister = st.store.currentRegister := hf1.2.2.2.2.1
    simp only [Store.pushFrame, bind, Outcome.bind, hp1, e1, e2, pure]
    have hp2' := hp2
    revert hp2'
    simp only [c]
    cases st.store.currentFrame <;> cases st.store.currentRegister <;> intro hp2' <;> simp only [hp2', hsz1]
  have hw := pushFrame_wfq hinv.wfq hop
  have hl : s2.cells.toList = st.store.cells.toList ++ [Cell.jumpPoint j, c] := by rw [hcells]; simp
  have hsub : Sub st.store.cells s2.cells := sub_of_toList hl
  have hn0 : s2.cells[st.store.cells.size]? = some (Cell.jumpPoint j) := by
    rw [hcells, Array.getElem?_push]; simp
  have hn1 : s2.cells[st.store.cells.size + 1]? = some c := by rw [hcells]; exact get_push2 _ _ _
  have hret : retOf s2.cells (st.store.cells.size + 1) = j := by simp only [retOf, hn0]
  have hregsR : ∀ r, st.store.currentRegister = some r →
      regsOf s2.cells (some r) = (basicRStore nc).regs st := by
    intro r hr
    show _ = regsOf st.store.cells st.store.currentRegister
    rw [hr]; exact regsOf_sub hsub (fun x hx => by cases hx; exact hinv.regLt hr)
  have hframesF : ∀ f, st.store.currentFrame = some f →
      framesOf s2.cells (some f) = (basicRStore nc).frames st := by
    intro f hf'
    show _ = framesOf st.store.cells st.store.currentFrame
    rw [hf']; exact framesOf_sub hsub hinv.saved (fun x hx => by cases hx; exact hinv.frmLt hf')
  have hframes : framesOf s2.cells (some (st.store.cells.size + 1)) =
      (j, (basicRStore nc).regs st) :: (basicRStore nc).frames st := by
    cases hcf : st.store.currentFrame with
    | none =>
      have hfr0 : (basicRStore nc).frames st = [] := by
        show framesOf _ st.store.currentFrame = []; rw [hcf]; rfl
      cases hcr : st.store.currentRegister with
      | none =>
        have hce : c = Cell.frameRoot := by simp only [c, hcf, hcr]
        have hr0 : (basicRStore nc).regs st = [] := by show regsOf _ st.store.currentRegister = []; rw [hcr]; rfl
        rw [framesOf_root (by rw [hn1, hce]), hret, hfr0, hr0]
      | some r =>
        have hce : c = Cell.frameRegister r := by simp only [c, hcf, hcr]
        rw [framesOf_freg (r := r) (by rw [hn1, hce]), hret, hfr0, hregsR r hcr]
    | some f =>
      cases hcr : st.store.currentRegister with
      | none =>
        have hce : c = Cell.frameIndex f := by simp only [c, hcf, hcr]
        have hr0 : (basicRStore nc).regs st = [] := by show regsOf _ st.store.currentRegister = []; rw [hcr]; rfl
        rw [framesOf_index (p := f) (by rw [hn1, hce]) (by have := hinv.frmLt hcf; omega), hret, hframesF f hcf, hr0]
      | some r =>
        have hce : c = Cell.frame f r := by simp only [c, hcf, hcr]
        rw [framesOf_frame (p := f) (r := r) (by rw [hn1, hce]) (by have := hinv.frmLt hcf; omega), hret,
          hframesF f hcf, hregsR r hcr]
  refine ⟨_, liftUnit_ok (f := fun s => s.pushFrame j) hop,
    ⟨keeps_sub nc (s' := { s2 with currentFrame := some (st.store.cells.size + 1) }) hsub, ?_, ?_, rfl, hframes⟩, ?_⟩
  · exact regs_sub (s' := { s2 with currentFrame := some (st.store.cells.size + 1) }) hinv hsub hf.2.2.2.2.1
  · exact vals_sub (s' := { s2 with currentFrame := some (st.store.cells.size + 1) }) hinv hsub hf.2.2.2.1
  · refine hinv.grow (s' := { s2 with currentFrame := some (st.store.cells.size + 1) }) hl hw
      (R.heads s2 s2.currentRegister s2.currentValue _ room2) ?_ (fun _ h => .inl (hf.2.2.2.2.1 ▸ h)) ?_
    · intro x hx
      simp only [List.mem_cons, List.mem_nil_iff, or_false] at hx
      rcases hx with rfl | rfl
      · trivial
      · refine LinkOK.sub hsub ?_
        simp only [c]
        cases hcf : st.store.currentFrame <;> cases hcr : st.store.currentRegister
        · trivial
        · exact hinv.typed.reg _ hcr
        · exact hinv.typed.frm _ hcf
        · exact ⟨hinv.typed.frm _ hcf, hinv.typed.reg _ hcr⟩
    · intro a ha
      simp only [Option.some.injEq] at ha
      subst ha
      refine .inr ?_
      show isFrameCell s2.cells _ = true
      unfold isFrameCell
      rw [hn1]
      simp only [c]
      cases st.store.currentFrame <;> cases st.store.currentRegister <;> rfl

theorem frame_point {cells : Array Cell} {i : Nat} (hf : isFrameCell cells i = true) (hn : isNode cells i = true) :
    ∃ k pt, i = k + 1 ∧ cells[k]? = some (Cell.jumpPoint pt) := by
  obtain ⟨sh, hsh⟩ := node_shape hn
  unfold isFrameCell at hf
  cases hc : cells[i]? with
  | none => simp [hc] at hf
  | some c =>
    rw [hc] at hf
    unfold shape at hsh
    rw [hc] at hsh
    cases c <;> simp at hf <;> (
      simp only [Option.map_eq_some_iff] at hsh
      obtain ⟨jp, hjp, _⟩ := hsh
      cases i with
      | zero => simp [framePoint] at hjp
      | succ k =>
        simp only [framePoint] at hjp
        cases hk : cells[k]? with
        | none => simp [hk] at hjp
        | some d =>
          rw [hk] at hjp
          cases d <;> simp at hjp
          exact ⟨k, _, rfl, hk⟩)

theorem popFrame_law (nc : NumCode F) {P : Store → Prop} (R : Room P) {st : BState} (hinv : BInvP P st) :
    ((basicRStore nc).frames st = [] → ∃ st', (basicRStore nc).popFrame st = .ok (none, st') ∧
      Eff (basicRStore nc) st st' ((basicRStore nc).regs st) ((basicRStore nc).vals st) ∧ BInvP P st') ∧
    (∀ ret saved fs, (basicRStore nc).frames st = (ret, saved) :: fs →
      ∃ st', (basicRStore nc).popFrame st = .ok (some ret, st') ∧
        FEff (basicRStore nc) st st' saved ((basicRStore nc).vals st) fs ∧ BInvP P st') := by
  -- moving the two heads, cells untouched
  have same : ∀ (fo ro : Option Nat), (∀ x, fo = some x → isFrameCell st.store.cells x = true ∧ isNode st.store.cells x = true) →
      (∀ x, ro = some x → isRegCell st.store.cells x = true) →
      FEff (basicRStore nc) st { st with store := { st.store with currentFrame := fo, currentRegister := ro } }
        (regsOf st.store.cells ro) ((basicRStore nc).vals st) (framesOf st.store.cells fo) ∧
      BInvP P { st with store := { st.store with currentFrame := fo, currentRegister := ro } } := by
    intro fo ro hfo hro
    exact ⟨⟨⟨fun _ _ h => h, rfl, rfl, rfl, rfl⟩, rfl, rfl, rfl, rfl⟩, hinv.heads R ro _ fo hro hinv.wfq.val hfo⟩
  cases hcf : st.store.currentFrame with
  | none =>
    have hfr : (basicRStore nc).frames st = [] := by show framesOf _ st.store.currentFrame = []; rw [hcf]; rfl
    have hop : st.store.popFrame = .ok (st.store, none) := by simp [Store.popFrame, hcf]
    constructor
    · intro _
      exact ⟨_, liftPop_ok (f := fun s => s.popFrame) hop, Eff.refl (basicRStore nc) st, hinv⟩
    · intro ret saved fs h; rw [hfr] at h; cases h
  | some i =>
    have hfc := hinv.typed.frm i hcf
    have hnode : isNode st.store.cells i = true := by have := hinv.wfq.frm; rw [hcf] at this; exact this
    obtain ⟨k, pt, rfl, hk⟩ := frame_point hfc hnode
    have hret : retOf st.store.cells (k + 1) = pt := by simp only [retOf, hk]
    have hjb : Store.jumpBefore st.store (k + 1) = .ok pt := by
      simp [Store.jumpBefore, Store.get, hk, bind, Outcome.bind, pure]
    obtain ⟨sh, hsh⟩ := node_shape hnode
    have hkid : ∀ x ∈ sh.kids, isNode st.store.cells x = true := fun x hx => hinv.wfq.kid_node hsh hx
    unfold isFrameCell at hfc
    cases hc : st.store.cells[k + 1]? with
    | none => simp [hc] at hfc
    | some c =>
      rw [hc] at hfc
      have hget : st.store.get (k + 1) = .ok c := by simp [Store.get, hc]
      have hnsv : svAt st.store.cells (k + 1) = false := by
        cases c <;> simp at hfc <;> simp [svAt, hc, isSV]
      have hklt : ∀ x ∈ sh.kids, x < k + 1 := fun x hx => hinv.wfq.kid_lt hsh hnsv hx
      have hshc := hsh
      unfold shape at hshc
      rw [hc] at hshc
      have fin : ∀ (fo ro : Option Nat),
          st.store.popFrame = .ok ({ st.store with currentFrame := fo, currentRegister := ro }, some pt) →
          (basicRStore nc).frames st = (pt, regsOf st.store.cells ro) :: framesOf st.store.cells fo →
          (∀ x, fo = some x → isFrameCell st.store.cells x = true ∧ isNode st.store.cells x = true) →
          (∀ x, ro = some x → isRegCell st.store.cells x = true) →
          ((basicRStore nc).frames st = [] → ∃ st', (basicRStore nc).popFrame st = .ok (none, st') ∧
            Eff (basicRStore nc) st st' ((basicRStore nc).regs st) ((basicRStore nc).vals st) ∧ BInvP P st') ∧
          (∀ ret saved fs, (basicRStore nc).frames st = (ret, saved) :: fs →
            ∃ st', (basicRStore nc).popFrame st = .ok (some ret, st') ∧
              FEff (basicRStore nc) st st' saved ((basicRStore nc).vals st) fs ∧ BInvP P st') := by
        intro fo ro hop hfr hfo hro
        obtain ⟨he, hi⟩ := same fo ro hfo hro
        constructor
        · intro hnil; rw [hfr] at hnil; cases hnil
        · intro ret saved fs h
          rw [hfr] at h
          simp only [List.cons.injEq, Prod.mk.injEq] at h
          obtain ⟨⟨rfl, rfl⟩, rfl⟩ := h
          exact ⟨_, liftPop_ok (f := fun s => s.popFrame) hop, he, hi⟩
      have hfrs : (basicRStore nc).frames st = framesOf st.store.cells (some (k + 1)) := by
        show framesOf _ st.store.currentFrame = _; rw [hcf]
      cases c <;> simp at hfc
      · rename_i p r
        simp only [Option.map_eq_some_iff] at hshc
        obtain ⟨jp, _, rfl⟩ := hshc
        have hp := hklt p (by simp)
        refine fin (some p) (some r) (by simp [Store.popFrame, hcf, hjb, hget, bind, Outcome.bind, pure])
          (by rw [hfrs, framesOf_frame hc hp, hret]) ?_ ?_
        · intro x hx; cases hx
          exact ⟨(hinv.typed.link _ _ hc).1, hkid p (by simp)⟩
        · intro x hx; cases hx; exact (hinv.typed.link _ _ hc).2
      · rename_i p
        simp only [Option.map_eq_some_iff] at hshc
        obtain ⟨jp, _, rfl⟩ := hshc
        have hp := hklt p (by simp)
        refine fin (some p) none (by simp [Store.popFrame, hcf, hjb, hget, bind, Outcome.bind, pure])
          (by rw [hfrs, framesOf_index hc hp, hret]; rfl) ?_ ?_
        · intro x hx; cases hx
          exact ⟨hinv.typed.link _ _ hc, hkid p (by simp)⟩
        · intro x hx; cases hx
      · rename_i r
        refine fin none (some r) (by simp [Store.popFrame, hcf, hjb, hget, bind, Outcome.bind, pure])
          (by rw [hfrs, framesOf_freg hc, hret]; rfl) ?_ ?_
        · intro x hx; cases hx
        · intro x hx; cases hx; exact hinv.typed.link _ _ hc
      · refine fin none none (by simp [Store.popFrame, hcf, hjb, hget, bind, Outcome.bind, pure])
          (by rw [hfrs, framesOf_root hc, hret]; rfl) ?_ ?_
        · intro x hx; cases hx
        · intro x hx; cases hx

theorem isSV_shape {c : Cell} (h : isSV c = true) : (∃ p v, c = .value p v) ∨ ∃ v, c = .valueRoot v := by
  cases c <;> try cases h
  · exact .inl ⟨_, _, rfl⟩
  · exact .inr ⟨_, rfl⟩

/-- at any address the two arrays of an `SVUpd` (Lemmas/MutSet.lean: input-value cells replaced by input-value cells)
hold the same cell, or an input-value cell each -/
theorem _root_.Garnish.BasicOpt.SVUpd.cases {cells cells' : Array Cell} (h : SVUpd cells cells') (a : Nat) :
    cells'[a]? = cells[a]? ∨
      ∃ c c', cells[a]? = some c ∧ cells'[a]? = some c' ∧ isSV c = true ∧ isSV c' = true := by
  rcases h.2 a with he | ⟨hold, hnew⟩
  · exact .inl he
  · unfold svAt at hold hnew
    cases hc : cells[a]? with
    | none => rw [hc] at hold; cases hold
    | some c =>
      cases hc' : cells'[a]? with
      | none => rw [hc'] at hnew; cases hnew
      | some c' => rw [hc] at hold; rw [hc'] at hnew; exact .inr ⟨c, c', rfl, rfl, hold, hnew⟩

/-! What follows reads the cells by a `match` that sends all input-value cells to its default arm, so it reads the
same in both arrays. -/

theorem isRegCell_svupd {cells cells' : Array Cell} (h : SVUpd cells cells') (a : Nat) :
    isRegCell cells' a = isRegCell cells a := by
  unfold Basic.isRegCell
  rcases h.cases a with he | ⟨c, c', hc, hc', hs, hs'⟩
  · rw [he]
  · rw [hc, hc']; rcases isSV_shape hs with ⟨_, _, rfl⟩ | ⟨_, rfl⟩ <;> rcases isSV_shape hs' with ⟨_, _, rfl⟩ | ⟨_, rfl⟩ <;> rfl

theorem isFrameCell_svupd {cells cells' : Array Cell} (h : SVUpd cells cells') (a : Nat) :
    isFrameCell cells' a = isFrameCell cells a := by
  unfold Basic.isFrameCell
  rcases h.cases a with he | ⟨c, c', hc, hc', hs, hs'⟩
  · rw [he]
  · rw [hc, hc']; rcases isSV_shape hs with ⟨_, _, rfl⟩ | ⟨_, rfl⟩ <;> rcases isSV_shape hs' with ⟨_, _, rfl⟩ | ⟨_, rfl⟩ <;> rfl

/-- **overwriting an input-value cell** keeps the typing: no link leads to one, and it carries none -/
theorem Typed.updSV {s s' : Store} (ht : Typed s) (hu : SVUpd s.cells s'.cells)
    (hr : s'.currentRegister = s.currentRegister) (hf : s'.currentFrame = s.currentFrame) : Typed s' := by
  have congr : ∀ {c : Cell}, LinkOK s.cells c → LinkOK s'.cells c := by
    intro c h
    cases c <;> first | trivial | (simp only [LinkOK, isRegCell_svupd hu, isFrameCell_svupd hu]; exact h)
  refine ⟨fun a ha => ?_, fun a ha => ?_, fun j c hc => ?_⟩
  · rw [isRegCell_svupd hu]; exact ht.reg a (hr ▸ ha)
  · rw [isFrameCell_svupd hu]; exact ht.frm a (hf ▸ ha)
  · rcases hu.cases j with he | ⟨c0, c', h0, h', hs, hs'⟩
    · exact congr (ht.link j c (he ▸ hc))
    · rw [h'] at hc; cases hc
      rcases isSV_shape hs' with ⟨_, _, rfl⟩ | ⟨_, rfl⟩ <;> trivial

theorem regChain_svupd {cells cells' : Array Cell} (h : SVUpd cells cells') :
    ∀ (f a : Nat), regChain cells' f a = regChain cells f a
  | 0, _ => rfl
  | f + 1, a => by
    have ih : Basic.regChain cells' f = Basic.regChain cells f := funext (regChain_svupd h f)
    simp only [Basic.regChain, ih]
    rcases h.cases a with he | ⟨c, c', hc, hc', hs, hs'⟩
    · rw [he]
    · rw [hc, hc']; rcases isSV_shape hs with ⟨_, _, rfl⟩ | ⟨_, rfl⟩ <;> rcases isSV_shape hs' with ⟨_, _, rfl⟩ | ⟨_, rfl⟩ <;> rfl

theorem regsOf_svupd {cells cells' : Array Cell} (h : SVUpd cells cells') (o : Option Nat) :
    regsOf cells' o = regsOf cells o := by
  cases o with
  | none => rfl
  | some a => exact regChain_svupd h _ a

theorem retOf_svupd {cells cells' : Array Cell} (h : SVUpd cells cells') (a : Nat) :
    retOf cells' a = retOf cells a := by
  cases a with
  | zero => rfl
  | succ k =>
    simp only [Basic.retOf]
    rcases h.cases k with he | ⟨c, c', hc, hc', hs, hs'⟩
    · rw [he]
    · rw [hc, hc']; rcases isSV_shape hs with ⟨_, _, rfl⟩ | ⟨_, rfl⟩ <;> rcases isSV_shape hs' with ⟨_, _, rfl⟩ | ⟨_, rfl⟩ <;> rfl

theorem frameChain_svupd {cells cells' : Array Cell} (h : SVUpd cells cells') :
    ∀ (f a : Nat), frameChain cells' f a = frameChain cells f a
  | 0, _ => rfl
  | f + 1, a => by
    have ih : Basic.frameChain cells' f = Basic.frameChain cells f := funext (frameChain_svupd h f)
    simp only [Basic.frameChain, retOf_svupd h, regsOf_svupd h, ih]
    rcases h.cases a with he | ⟨c, c', hc, hc', hs, hs'⟩
    · rw [he]
    · rw [hc, hc']; rcases isSV_shape hs with ⟨_, _, rfl⟩ | ⟨_, rfl⟩ <;> rcases isSV_shape hs' with ⟨_, _, rfl⟩ | ⟨_, rfl⟩ <;> rfl

theorem framesOf_svupd {cells cells' : Array Cell} (h : SVUpd cells cells') (o : Option Nat) :
    framesOf cells' o = framesOf cells o := by
  cases o with
  | none => rfl
  | some a => exact frameChain_svupd h _ a

theorem setCurrent_law (nc : NumCode F) {P : Store → Prop} (R : Room P) {st : BState} (hinv : BInvP P st) (r : Nat) :
    ((basicRStore nc).vals st = [] → ∃ st', (basicRStore nc).setCurrentValue r st = .ok (false, st') ∧
      Eff (basicRStore nc) st st' ((basicRStore nc).regs st) [] ∧ BInvP P st') ∧
    (∀ a rest, isNode st.store.cells r = true → (basicRStore nc).vals st = a :: rest →
      ∃ st', (basicRStore nc).setCurrentValue r st = .ok (true, st') ∧
        Eff (basicRStore nc) st st' ((basicRStore nc).regs st) (r :: rest) ∧ BInvP P st') := by
  cases hcur : st.store.currentValue with
  | none =>
    have hv : (basicRStore nc).vals st = [] := by show valsOf _ st.store.currentValue = []; rw [hcur]; rfl
    have hop : st.store.setCurrentValue r = .err .state := by simp [Store.setCurrentValue, hcur]
    constructor
    · intro _
      refine ⟨st, ?_, ?_, hinv⟩
      · show (match st.store.setCurrentValue r with | .ok s' => _ | .err _ => _ | .panic m => _ | .fuelOut => _) = _
        rw [hop]
      · have := Eff.refl (basicRStore nc) st
        rw [hv] at this; exact this
    · intro a rest _ h; rw [hv] at h; cases h
  | some i =>
    have his := hinv.wfq.val
    rw [hcur] at his
    have hilt : i < st.store.cells.size := svAt_lt his
    -- both kinds of head cell (`Value(p, v)`, `ValueRoot(v)`) at once: `c'` is the head cell with `r` in place of `v`
    have main : ∀ (c' : Cell) (p : Option Nat) (v : Nat),
        (match p with | some p => st.store.cells[i]? = some (Cell.value p v) ∧ c' = Cell.value p r ∧ p < i
                      | none => st.store.cells[i]? = some (Cell.valueRoot v) ∧ c' = Cell.valueRoot r) →
        st.store.setCurrentValue r = Store.setCell st.store i c' →
        ((basicRStore nc).vals st = [] → ∃ st', (basicRStore nc).setCurrentValue r st = .ok (false, st') ∧
          Eff (basicRStore nc) st st' ((basicRStore nc).regs st) [] ∧ BInvP P st') ∧
        (∀ a rest, isNode st.store.cells r = true → (basicRStore nc).vals st = a :: rest →
          ∃ st', (basicRStore nc).setCurrentValue r st = .ok (true, st') ∧
            Eff (basicRStore nc) st st' ((basicRStore nc).regs st) (r :: rest) ∧ BInvP P st') := by
      intro c' p v hkind hop
      have hvals : (basicRStore nc).vals st = v :: (match p with | some p => valsOf st.store.cells (some p) | none => []) := by
        show valsOf _ st.store.currentValue = _
        rw [hcur]
        cases p with
        | some p => exact valsOf_value hkind.1 hkind.2.2
        | none => exact valsOf_root hkind.1
      constructor
      · intro hnil; rw [hvals] at hnil; cases hnil
      · intro a rest hr hv
        rw [hvals] at hv
        simp only [List.cons.injEq] at hv
        obtain ⟨rfl, hrest⟩ := hv
        let s' : Store := { st.store with cells := st.store.cells.setIfInBounds i c' }
        have hset : Store.setCell st.store i c' = .ok s' := by simp [Store.setCell, hilt, s']
        have hopr : st.store.setCurrentValue r = .ok s' := by rw [hop, hset]
        have hw := setCurrentValue_wfq hinv.wfq hr hopr
        have hget : ∀ j, s'.cells[j]? = if j = i then some c' else st.store.cells[j]? := by
          intro j
          show (st.store.cells.setIfInBounds i c')[j]? = _
          rw [Array.getElem?_setIfInBounds]
          by_cases hj : j = i
          · subst hj; simp [hilt]
          · simp [hj, Ne.symm hj]
        have hc'sv : isSV c' = true := by
          cases p with
          | some p => rw [hkind.2.1]; rfl
          | none => rw [hkind.2]; rfl
        -- the one cell written is an input-value cell before and after (`SVUpd`): registers, frames, `Decodes` facts and the
        -- typing of the chains do not see it
        have hu : SVUpd st.store.cells s'.cells :=
          ⟨by simp [s'], fun j => by
            by_cases hj : j = i
            · subst hj; exact .inr ⟨his, by simp [svAt, hget, hc'sv]⟩
            · exact .inl (by rw [hget, if_neg hj])⟩
        have hvals' : valsOf s'.cells (some i) = r :: rest := by
          cases p with
          | some p =>
            obtain ⟨_, hce, hpi⟩ := hkind
            have hci : s'.cells[i]? = some (Cell.value p r) := by rw [hget, if_pos rfl, hce]
            rw [valsOf_value hci hpi, ← hrest]
            exact congrArg (r :: ·) (valChain_congr _ p (fun j hj => by rw [hget, if_neg (by omega)]))
          | none =>
            obtain ⟨_, hce⟩ := hkind
            have hci : s'.cells[i]? = some (Cell.valueRoot r) := by rw [hget, if_pos rfl, hce]
            rw [valsOf_root hci, ← hrest]
        refine ⟨{ st with store := s' }, ?_, ⟨keeps_agree nc hu.agreeNS, ?_, ?_, rfl, ?_⟩, ?_⟩
        · exact setCurrentValue_ok nc hopr
        · show regsOf s'.cells s'.currentRegister = regsOf st.store.cells st.store.currentRegister
          exact regsOf_svupd hu _
        · show valsOf s'.cells st.store.currentValue = _
          rw [hcur]; exact hvals'
        · show framesOf s'.cells s'.currentFrame = framesOf st.store.cells st.store.currentFrame
          exact framesOf_svupd hu _
        · exact ⟨hw, R.cells _ _ hinv.room (by simp), hinv.typed.updSV hu rfl rfl⟩
    rcases sv_cell his with ⟨p, v, hc⟩ | ⟨v, hc⟩
    · exact main (.value p r) (some p) v ⟨hc, rfl, (hinv.wfq.chain i p v hc).1⟩
        (by simp [Store.setCurrentValue, hcur, hc])
    · exact main (.valueRoot r) none v ⟨hc, rfl⟩ (by simp [Store.setCurrentValue, hcur, hc])

end Garnish.Lemmas.Runtime.Basic
