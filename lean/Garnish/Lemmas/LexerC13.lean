/-
For property C13: every operator token is followed in the input by a character that continues no path of the operator tree, or
ends where the input ends (`OpWitFrom` / `OpEndFrom`, carried along a run by `Inv2`; `lex_final2`).  From it: longest match
(`lex_longest_match`); and the lexer does not fall back to a shorter spelling (`processChar_no_backtracking`).
The invariants of the lexer, by name: `Inv` (Lemmas/Lexer: the column in the Float state; its step is `processChar_inv2`, which
has nothing to do with `Inv2`), `Core` (LexerC13Core), `Typed` (LexerC13Tree), and `Inv2` here = the tree, `Typed`, the facts
about the tokens emitted so far; the step of `Inv2` is `processChar_typed`.
-/
import Garnish.Lemmas.LexerC13Tree
namespace Garnish.Model.Lexer

/-- every operator token among `ts` (starting at offset `o` of `consumed`) is followed in `consumed` by a character
that continues no path of the operator tree -/
def OpWitFrom (consumed : List Char) : Nat → List LexerToken → Prop
  | _, [] => True
  | o, t :: ts =>
    (isOpType t.tokenType = true →
      ∃ d, consumed[o + t.text.length]? = some d ∧ walkOperator theTree (t.text ++ [d]) = none) ∧
    OpWitFrom consumed (o + t.text.length) ts

/-- same, but an operator token may also end exactly at the end of the input -/
def OpEndFrom (s : List Char) : Nat → List LexerToken → Prop
  | _, [] => True
  | o, t :: ts =>
    (isOpType t.tokenType = true →
      (∃ d, s[o + t.text.length]? = some d ∧ walkOperator theTree (t.text ++ [d]) = none) ∨
      o + t.text.length = s.length) ∧
    OpEndFrom s (o + t.text.length) ts

theorem OpWitFrom_mono (consumed x : List Char) : ∀ (o : Nat) (ts : List LexerToken),
    OpWitFrom consumed o ts → OpWitFrom (consumed ++ x) o ts
  | _, [], _ => trivial
  | o, t :: ts, h => by
    refine ⟨fun hop => ?_, OpWitFrom_mono consumed x _ ts h.2⟩
    obtain ⟨d, hd, hw⟩ := h.1 hop
    refine ⟨d, ?_, hw⟩
    have hlt : o + t.text.length < consumed.length := by
      rcases Nat.lt_or_ge (o + t.text.length) consumed.length with hlt | hge
      · exact hlt
      · rw [List.getElem?_eq_none hge] at hd
        cases hd
    rw [List.getElem?_append_left hlt]; exact hd

theorem OpWitFrom_snoc (consumed : List Char) : ∀ (o : Nat) (ts : List LexerToken) (t : LexerToken),
    OpWitFrom consumed o ts →
    (isOpType t.tokenType = true →
      ∃ d, consumed[o + (textsOf ts).length + t.text.length]? = some d ∧
        walkOperator theTree (t.text ++ [d]) = none) →
    OpWitFrom consumed o (ts ++ [t])
  | o, [], t, _, h => by simpa [OpWitFrom] using h
  | o, t0 :: ts, t, h0, h => by
    refine ⟨h0.1, OpWitFrom_snoc consumed _ ts t h0.2 ?_⟩
    intro hop
    obtain ⟨d, hd, hw⟩ := h hop
    refine ⟨d, ?_, hw⟩
    have : o + (textsOf (t0 :: ts)).length = o + t0.text.length + (textsOf ts).length := by
      simp [textsOf]; omega
    rw [← this]; exact hd

theorem OpEnd_of_wit (s : List Char) : ∀ (o : Nat) (ts : List LexerToken), OpWitFrom s o ts → OpEndFrom s o ts
  | _, [], _ => trivial
  | _, _ :: ts, h => ⟨fun hop => Or.inl (h.1 hop), OpEnd_of_wit s _ ts h.2⟩

theorem OpEndFrom_snoc_end (s : List Char) : ∀ (o : Nat) (ts : List LexerToken) (t : LexerToken),
    OpEndFrom s o ts → o + (textsOf ts).length + t.text.length = s.length → OpEndFrom s o (ts ++ [t])
  | o, [], t, _, h => by
    refine ⟨fun _ => Or.inr ?_, trivial⟩
    simpa using h
  | o, t0 :: ts, t, h0, h => by
    refine ⟨h0.1, OpEndFrom_snoc_end s _ ts t h0.2 ?_⟩
    have : o + (textsOf (t0 :: ts)).length = o + t0.text.length + (textsOf ts).length := by
      simp [textsOf]; omega
    rw [← this]; exact h

structure Inv2 (cc : CharClass) (σ : Lexer) (consumed : List Char) (toks : List LexerToken) : Prop where
  tree : σ.operatorTree = theTree
  typed : Typed cc σ
  toksOk : ∀ t ∈ toks, TokOk cc t.text t.tokenType
  opWit : OpWitFrom consumed 0 toks

theorem Typed_congr {cc : CharClass} {σ σ' : Lexer} (h1 : σ'.state = σ.state)
    (h2 : σ'.currentTokenType = σ.currentTokenType) (h3 : σ'.currentCharacters = σ.currentCharacters)
    (h : Typed cc σ) : Typed cc σ' := by
  obtain ⟨a, b, c, d⟩ := h
  constructor
  · rw [h1, h2, h3]; exact a
  · rw [h1, h2]; exact b
  · rw [h1, h2]; exact c
  · rw [h1, h3]; exact d

@[simp] theorem bumpColumn_type (σ : Lexer) (c : Char) : (bumpColumn σ c).currentTokenType = σ.currentTokenType := by
  unfold bumpColumn; split <;> rfl
@[simp] theorem bumpColumn_tree (σ : Lexer) (c : Char) : (bumpColumn σ c).operatorTree = σ.operatorTree := by
  unfold bumpColumn; split <;> rfl

theorem Typed_bump {cc : CharClass} {σ : Lexer} (c : Char) (h : Typed cc σ) : Typed cc (bumpColumn σ c) :=
  Typed_congr (by simp) (by simp) (by simp) h

theorem Inv2_lexed {cc : CharClass} {σ : Lexer} {consumed : List Char} {toks : List LexerToken} (n : Nat)
    (h : Inv2 cc σ consumed toks) : Inv2 cc { σ with charactersLexed := n } consumed toks :=
  ⟨h.tree, Typed_congr (σ := σ) rfl rfl rfl h.typed, h.toksOk, h.opWit⟩

theorem processChar_typed (cc : CharClass) (hcc : cc.Sane2) (σ : Lexer) (c : Char) (consumed : List Char)
    (toks : List LexerToken) (hcore : Core σ consumed toks) (hinv2 : Inv2 cc σ consumed toks)
    (hns : ¬Sentinel σ c) (σ' : Lexer) (ot : Option LexerToken) (h : processChar cc σ c = .ok (σ', ot)) :
    σ'.result = .err ∨ Inv2 cc σ' (consumed ++ [c]) (toks ++ ot.toList) := by
  have hstep := processChar_pstep cc h
  have hcore0 := Core_lexed (σ.charactersLexed + 1) hcore
  have hinv20 := Inv2_lexed (σ.charactersLexed + 1) hinv2
  generalize hσ0 : ({ σ with charactersLexed := σ.charactersLexed + 1 } : Lexer) = σ0 at hstep hcore0 hinv20
  have hns0 : ¬Sentinel σ0 c := by subst hσ0; exact hns
  clear hσ0 hcore hns hinv2 h
  have ht := hinv20.typed
  have htr := hinv20.tree
  have mono := OpWitFrom_mono consumed [c] 0 toks hinv20.opWit
  cases hstep with
  | fail herr => exact Or.inl herr
  | start hs =>
    rcases startToken_typed cc σ0 c htr with herr | htyped
    · exact Or.inl (by simpa using herr)
    · refine Or.inr ⟨?_, Typed_bump c htyped, by simpa using hinv20.toksOk, by simpa using mono⟩
      rw [bumpColumn_tree, (startToken_startFrame cc σ0 c).operatorTree]; exact htr
  | @cont σ1 harm =>
    refine Or.inr ⟨?_, Typed_bump c ((harm.typed ht htr hcore0.create).1 rfl), by simpa using hinv20.toksOk,
      by simpa using mono⟩
    rw [bumpColumn_tree, harm.armFrame.operatorTree]; exact htr
  | @emit σ1 ty harm htyeq =>
    have htree1 : σ1.operatorTree = theTree := harm.armFrame.operatorTree.trans htr
    have hemit := (harm.typed ht htr hcore0.create).2 rfl ty htyeq
    simp only [Option.toList_some]
    rcases harm.kind hcc hcore0.create (hcore0.tok harm.notNoToken.1) hcore0.shape hns0 with
      ⟨h, -⟩ | ⟨-, hcr, hch, -⟩ | ⟨-, hcr, hch, -⟩ <;> try cases h
    · -- the token ends before `c`: `c` is the character after it
      simp only [restart, hcr, ↓reduceIte]
      rcases startToken_typed cc (afterEmit σ1) c htree1 with herr | htyped
      · exact Or.inl (by simpa using herr)
      · refine Or.inr ⟨?_, Typed_bump c htyped, List.forall_mem_append.2 ⟨hinv20.toksOk, List.forall_mem_singleton.2 hemit.1⟩, ?_⟩
        · rw [bumpColumn_tree, (startToken_startFrame cc (afterEmit σ1) c).operatorTree]; exact htree1
        · apply OpWitFrom_snoc _ _ _ _ mono
          intro hop
          refine ⟨c, ?_, (hemit.2 hop).1⟩
          have hlen : 0 + (textsOf toks).length + σ1.currentCharacters.length = consumed.length := by
            rw [hch, ← hcore0.lossless]; simp
          simp only [pendingTok, hlen]
          simp
    · -- the token ends with `c`: it is no operator token
      simp only [restart, hcr, Bool.false_eq_true, ↓reduceIte]
      refine Or.inr ⟨by rw [bumpColumn_tree]; exact htree1, Typed_bump c (Typed.noToken rfl rfl),
        List.forall_mem_append.2 ⟨hinv20.toksOk, List.forall_mem_singleton.2 hemit.1⟩, OpWitFrom_snoc _ _ _ _ mono fun hop => ?_⟩
      have := (hemit.2 hop).2
      rw [hcr] at this; cases this
  | @split node hs h2 _ hw =>
    obtain ⟨htyped, htree'⟩ := dots_typed cc htr hw
    refine Or.inr ⟨by rw [bumpColumn_tree]; exact htree', Typed_bump c htyped, List.forall_mem_append.2 ⟨hinv20.toksOk, List.forall_mem_singleton.2 ?_⟩,
      OpWitFrom_snoc _ _ _ _ mono fun hop => by simp at hop⟩
    exact ⟨fun h => by simp at h, fun _ x hx => ht.chars (by rw [hs]; rfl) x (trimMatches_mem _ _ _ hx)⟩

/-- result of a successful `lex`, second part: every token is fine and every operator token is followed by a
character that continues no path of the operator tree, or ends at the end of the input -/
structure Final2 (cc : CharClass) (toks : List LexerToken) (s : List Char) : Prop where
  toksOk : ∀ t ∈ toks, TokOk cc t.text t.tokenType
  opEnd : OpEndFrom s 0 toks

theorem Inv2_init (cc : CharClass) : Inv2 cc (Lexer.init theTree) [] [] :=
  ⟨init_operatorTree theTree, Typed.noToken rfl rfl, by simp, trivial⟩

theorem Inv2.run {cc : CharClass} (hcc : cc.Sane2) {x : List Char} {σ0 σ : Lexer} {c0 : List Char}
    {t0 toks : List LexerToken} (hc : Core σ0 c0 t0) (h2 : Inv2 cc σ0 c0 t0) (ha : σ0.atEnd = false)
    (h : runChars cc x σ0 t0 = .ok (σ, toks)) :
    σ.result = .err ∨ (Core σ (c0 ++ x) toks ∧ Inv2 cc σ (c0 ++ x) toks) :=
  (runChars_induct cc
    (I := fun σ c t => σ.atEnd = false ∧ (σ.result = .err ∨ (Core σ c t ∧ Inv2 cc σ c t)))
    (fun σ c t ch σ1 ot ⟨ha, hI⟩ hok hp => by
      obtain ⟨hc, h2⟩ := hI.resolve_left (by rw [hok]; nofun)
      have hns : ¬Sentinel σ ch := fun hs => by have := hs.2; rw [ha] at this; cases this
      refine ⟨(processChar_frame cc _ _ _ _ hp).2.1.trans ha, ?_⟩
      rcases processChar_core cc hcc σ ch c t hc hns σ1 ot hp with herr | hc1
      · exact Or.inl herr
      rcases processChar_typed cc hcc σ ch c t hc h2 hns σ1 ot hp with herr | h21
      · exact Or.inl herr
      · exact Or.inr ⟨hc1, h21⟩)
    x σ0 σ c0 t0 toks h ⟨ha, Or.inr ⟨hc, h2⟩⟩).2

theorem lex_final2 (cc : CharClass) (hcc : cc.Sane2) (s : List Char) (toks : List LexerToken)
    (h : lex cc s = .ok toks) : Final2 cc toks s := by
  obtain ⟨σ, toks0, σ1, ot, hrun, hok, hp, hok1, rfl, -⟩ := lex_ok cc hcc.toSane h
  obtain ⟨hcore, hinv2⟩ := ((Inv2_init cc).run hcc (Core_init theTree) rfl hrun).resolve_left
    (by rw [hok]; nofun)
  rw [List.nil_append] at hcore hinv2
  cases ot with
  | none => simpa using Final2.mk hinv2.toksOk (OpEnd_of_wit _ _ _ hinv2.opWit)
  | some t =>
    -- the token pushed by the sentinel step is fine and ends where the input ends
    rcases processChar_sentinel cc (Core_atEnd true hcore) hp hok1 nofun with ⟨h, -⟩ | ⟨σa, ty, -, -, -, -, hty, ht, harm⟩
    · cases h
    cases ht
    have htok := ((harm.typed (Typed_congr (σ := σ) rfl rfl rfl hinv2.typed) hinv2.tree hcore.create).2 rfl ty hty).1
    refine ⟨List.forall_mem_append.2 ⟨hinv2.toksOk, List.forall_mem_singleton.2 htok⟩, OpEndFrom_snoc_end _ _ _ _ (OpEnd_of_wit _ _ _ hinv2.opWit) ?_⟩
    have := (lex_final cc hcc s _ h).lossless
    rw [Option.toList_some, textsOf_snoc] at this
    rw [← this]; simp

theorem OpEndFrom_get (s : List Char) : ∀ (o : Nat) (toks : List LexerToken), OpEndFrom s o toks →
    ∀ (i : Nat) (hi : i < toks.length), isOpType toks[i].tokenType = true →
      (∃ d, s[o + (textsOf (toks.take i)).length + toks[i].text.length]? = some d ∧
        walkOperator theTree (toks[i].text ++ [d]) = none) ∨
      o + (textsOf (toks.take i)).length + toks[i].text.length = s.length
  | o, [], _, i, hi, _ => by simp at hi
  | o, t :: ts, h, 0, _, hop => by simpa [textsOf] using h.1 hop
  | o, t :: ts, h, i + 1, hi, hop => by
    have := OpEndFrom_get s (o + t.text.length) ts h.2 i (by simpa using hi) (by simpa using hop)
    have e : (textsOf (t :: List.take i ts)).length = t.text.length + (textsOf (List.take i ts)).length := by
      simp [textsOf]
    simp only [List.take_succ_cons, List.getElem_cons_succ]
    rw [e, ← Nat.add_assoc]
    exact this

theorem lex_longest_match (cc : CharClass) (hcc : cc.Sane2) (s : List Char) (toks : List LexerToken)
    (h : lex cc s = .ok toks) (i : Nat) (hi : i < toks.length) (hop : isOpType toks[i].tokenType = true) :
    (toks[i].text, toks[i].tokenType) ∈ Garnish.Gen.LexTables.operatorChars ∧
    ∀ sp ty, (sp, ty) ∈ Garnish.Gen.LexTables.operatorChars → toks[i].text.length < sp.length →
      ¬ sp <+: s.drop (textsOf (toks.take i)).length := by
  have hf := lex_final cc hcc s toks h
  have hf2 := lex_final2 cc hcc s toks h
  obtain ⟨node, hw, hnty⟩ := (hf2.toksOk toks[i] (List.getElem_mem hi)).op hop
  refine ⟨tree_sound _ node _ hw hnty, ?_⟩
  intro sp ty hsp hlen hpre
  -- the input from the token's start is the token's text followed by the rest
  have ht : toks = toks.take i ++ toks[i] :: toks.drop (i + 1) := by
    rw [← List.drop_eq_getElem_cons hi, List.take_append_drop]
  have hs : s = textsOf (toks.take i) ++ (toks[i].text ++ textsOf (toks.drop (i + 1))) :=
    calc s = textsOf toks := hf.lossless.symm
      _ = textsOf (toks.take i ++ toks[i] :: toks.drop (i + 1)) := congrArg textsOf ht
      _ = _ := by simp only [textsOf, List.map_append, List.map_cons, List.flatten_append, List.flatten_cons]
  have hdrop : s.drop (textsOf (toks.take i)).length = toks[i].text ++ textsOf (toks.drop (i + 1)) := by
    conv => lhs; rw [hs]
    simp
  rw [hdrop] at hpre
  obtain ⟨r, hr⟩ := hpre
  -- `sp` is longer than the text, so it extends it by at least one character
  rcases List.append_eq_append_iff.mp hr with ⟨k, hk1, hk2⟩ | ⟨k, hk1, hk2⟩
  · -- text = sp ++ k : impossible, sp is longer
    have : toks[i].text.length = sp.length + k.length := by rw [hk1]; simp
    omega
  · cases k with
    | nil => simp at hk1; rw [hk1] at hlen; omega
    | cons d k' =>
      -- the next character of the input is `d`
      have hnext : s[0 + (textsOf (toks.take i)).length + toks[i].text.length]? = some d := by
        have hs' : s = (textsOf (toks.take i) ++ toks[i].text) ++ (d :: (k' ++ r)) := by
          rw [hs, hk2]; simp
        rw [hs', List.getElem?_append_right (by simp)]
        simp
      rcases OpEndFrom_get s 0 toks hf2.opEnd i hi hop with ⟨d', hd', hnone⟩ | hend
      · rw [hnext] at hd'
        simp only [Option.some.injEq] at hd'
        subst hd'
        obtain ⟨m, hm⟩ := table_prefix_path sp ty (toks[i].text ++ [d]) k' hsp (by rw [hk1]; simp)
        rw [hm] at hnone; cases hnone
      · have hl := congrArg List.length hs
        simp only [List.length_append] at hl
        have hl2 := congrArg List.length hk2
        simp only [List.length_append, List.length_cons] at hl2
        omega

/-- greedy without backtracking, exactly: in the Operator state, when the characters read so far are a path of the
tree without a token type (a proper prefix of spellings only, e.g. `>.` or `?`), and the next character neither
continues a path nor triggers one of the two documented switches (`_`-prefixed identifier, `.digit` float), then
`process_char` records the error "No token" — the lexer does not fall back to a shorter spelling -/
theorem processChar_no_backtracking (cc : CharClass) (σ : Lexer) (c : Char) (hs : σ.state = .operator)
    (hty : σ.currentTokenType = none)
    (hpath : walkOperator σ.operatorTree (σ.currentCharacters ++ [c]) = none)
    (hident : ¬(startsWith (σ.currentCharacters ++ [c]) '_' = true ∧ isIdentifier cc (σ.currentCharacters ++ [c]) = true))
    (hfloat : ¬(startsWith (σ.currentCharacters ++ [c]) '.' = true ∧ utf8Len (σ.currentCharacters ++ [c]) = 2 ∧
                cc.isNumeric c = true ∧ σ.canFloat = true)) :
    ∃ σ1, processChar cc σ c = .ok (σ1, none) ∧ σ1.result = .err := by
  have h1 : (startsWith (push σ.currentCharacters c) '_' && isIdentifier cc (push σ.currentCharacters c)) = false := by
    simpa [push] using hident
  have h2 : (startsWith (push σ.currentCharacters c) '.' && utf8Len (push σ.currentCharacters c) == 2
      && cc.isNumeric c && σ.canFloat) = false := by
    simp only [push, Bool.and_eq_false_iff, beq_eq_false_iff_ne, ne_eq]
    simp only [not_and, Bool.not_eq_true] at hfloat
    by_cases a : startsWith (σ.currentCharacters ++ [c]) '.' = true
    · by_cases b : utf8Len (σ.currentCharacters ++ [c]) = 2
      · by_cases d : cc.isNumeric c = true
        · exact Or.inr (hfloat a b d)
        · exact Or.inl (Or.inr (by simpa using d))
      · exact Or.inl (Or.inl (Or.inr b))
    · exact Or.inl (Or.inl (Or.inl (by simpa using a)))
  simp only [processChar, stateStep, hs, Step.ofPair, armOperator, currentOperator, push, hpath]
  simp only [push] at h1 h2
  simp only [h1, h2, Bool.false_eq_true, ↓reduceIte, finishChar, pushNewToken, canCreateValidToken, hty, pop_append_singleton]
  simp [LexResult.isOk]

end Garnish.Model.Lexer
