/-
Refinement lemmas for apply.rs, part 4: the `(List, SymbolList)` arm — the path loop refines Abs/Ops `accessPath`;
then all arms together: `apply_internal` refines Abs/Ops `applyKind` (`Core.applyInternal_refines`).
-/
import Garnish.Lemmas.RuntimeApply3
import Garnish.Model.Runtime.StepDomain
namespace Garnish.Lemmas.Runtime
open Garnish Gen Garnish.Abs Garnish.Model.Equality Garnish.Model.Runtime

variable {F σ : Type} {S : RStore F σ} (fo : FloatOps F)

theorem accessPath_cons (p : SymPart F) (ps : List (SymPart F)) (cur : Val F) :
    accessPath fo (p :: ps) cur = match pathLookup fo p cur with
      | .some v => accessPath fo ps v
      | .none => .some .unit
      | .unsupported => .some .unit
      | .err e => .err e := by
  cases p <;> rfl

theorem symList_fetch {s : σ} {a : Nat} {ps : List (SymPart F)} (h : Decodes (S.view s) a (.symList ps)) :
    getSymbolListIter S a s = .ok (ps, s) := by
  cases h with
  | symList _ hp => simp [getSymbolListIter, RM.lift, hp, fetch, Outcome.ofOption, Outcome.bind]

namespace On

variable {Inv : σ → Prop}

/-- along the path: no `custom` node in a concatenation that is looked into; a symbol step into a list needs the
store's `get_list_item_with_symbol` clause -/
def PathOn (S : RStore F σ) (Inv : σ → Prop) : List (SymPart F) → Val F → Prop
  | [], _ => True
  | p :: ps, cur => ncConcat cur ∧ ((∀ y, p = .sym y → ∀ vs, cur ≠ .list vs) ∨ ListSymOn S Inv) ∧
      ∀ v, pathLookup fo p cur = .some v → PathOn S Inv ps v

/-- `PathOn` with its `custom` clause demanded only under `K` -/
def PathK (K : Prop) (S : RStore F σ) (Inv : σ → Prop) : List (SymPart F) → Val F → Prop
  | [], _ => True
  | p :: ps, cur => (K → ncConcat cur) ∧ ((∀ y, p = .sym y → ∀ vs, cur ≠ .list vs) ∨ ListSymOn S Inv) ∧
      ∀ v, pathLookup fo p cur = .some v → PathK K S Inv ps v

theorem PathOn.toK {K : Prop} : ∀ {ps : List (SymPart F)} {cur : Val F}, PathOn fo S Inv ps cur → PathK fo K S Inv ps cur
  | [], _, _ => trivial
  | _ :: _, _, ⟨h1, h2, h3⟩ => ⟨fun _ => h1, h2, fun v hv => (h3 v hv).toK⟩

/-- where `K` fails and the store has the `get_list_item_with_symbol` clause nothing else is asked of the path -/
theorem pathK_of_not {K : Prop} (hk : ¬ K) (hls : ListSymOn S Inv) :
    ∀ (ps : List (SymPart F)) (cur : Val F), PathK fo K S Inv ps cur
  | [], _ => trivial
  | _ :: ps, _ => ⟨fun k => absurd k hk, .inr hls, fun v _ => pathK_of_not hk hls ps v⟩

end On

namespace Core
open On

variable {Inv : σ → Prop} {Rd : σ → Nat → Prop} {K : Prop}

theorem applyPathStep_spec (L : LawsK S Inv Rd K) (fuel : Nat) {s : σ} {a : Nat} {cur : Val F} (p : SymPart F)
    (h : Decodes (S.view s) a cur) (hd : AccessDomain cur) (hfu : accessFuel cur ≤ fuel)
    (hk : ∀ n, p = .num n → (∃ i, n = .int i) ∧ RangeOrdered fo n cur)
    (hnc : K → ncConcat cur) (hls : (∀ y, p = .sym y → ∀ vs, cur ≠ .list vs) ∨ ListSymOn S Inv)
    (hinv : Inv s := by inv_tac) (hdp : DeepK K S s (S.regs s) := by deep_tac) :
    match pathLookup fo p cur with
    | .some v => ∃ x s', applyPathStep fo S fuel p a s = .ok (some x, s') ∧ Decodes (S.view s') x v ∧
        EffI S Inv s s' (S.regs s) (S.vals s)
    | .none => ∃ s', applyPathStep fo S fuel p a s = .ok (none, s') ∧ EffI S Inv s s' (S.regs s) (S.vals s)
    | .unsupported => applyPathStep fo S fuel p a s = .ok (none, s)
    | .err e => applyPathStep fo S fuel p a s = .err e := by
  have hacc : AccOutI S Inv s (pathAccess fo S fuel p a s) (pathLookup fo p cur) := by
    cases p with
    | sym y => exact accessWithSymbol_spec fo L fuel y h hd hfu hnc (hls.imp (fun f => f y rfl) id)
    | num n =>
      obtain ⟨⟨i, rfl⟩, hro⟩ := hk n rfl
      exact accessWithInteger_spec fo L fuel i h hd hro hfu hnc
  have hne : pathLookup fo p cur ≠ .err .unsupported := by
    cases p with
    | sym y => exact getAccess_ne_unsupportedErr fo (key := .sym y) hd
    | num n => exact getAccess_ne_unsupportedErr fo (key := .num n) hd
  unfold applyPathStep
  cases hx : pathLookup fo p cur with
  | some v =>
    rw [hx] at hacc
    obtain ⟨x, s1, h1, d1, e1⟩ := hacc
    exact ⟨x, s1, by simp only [h1], d1, e1⟩
  | none =>
    rw [hx] at hacc
    obtain ⟨s1, h1, e1⟩ := hacc
    exact ⟨s1, by simp only [h1], e1⟩
  | unsupported =>
    rw [hx] at hacc
    simp only [AccOutI] at hacc
    simp only [hacc, beq_self_eq_true, if_true]
  | err e =>
    rw [hx] at hacc hne
    simp only [AccOutI] at hacc
    have : (e == ErrClass.unsupported) = false := by
      cases e <;> first | rfl | exact absurd rfl hne
    simp only [hacc, this, Bool.false_eq_true, if_false]

theorem applyPathLoop_spec (L : LawsK S Inv Rd K) (fuel : Nat) : ∀ (ps : List (SymPart F)) (cur : Val F) (s : σ) (a : Nat),
    Inv s → DeepK K S s (S.regs s) → PathK fo K S Inv ps cur → Decodes (S.view s) a cur → PathDomain fo fuel ps cur →
    match accessPath fo ps cur with
    | .some v => ∃ x s', applyPathLoop fo S fuel ps a s = .ok (x, s') ∧ Decodes (S.view s') x v ∧
        EffI S Inv s s' (S.regs s) (S.vals s)
    | .err e => applyPathLoop fo S fuel ps a s = .err e
    | _ => True
  | [], cur, s, a, hinv, _, _, h, _ => ⟨a, s, rfl, h, EffI.refl s hinv⟩
  | p :: ps, cur, s, a, hinv, hdp, hpo, h, hd => by
    obtain ⟨hdom, hfu, hk, hnext⟩ := hd
    obtain ⟨hnc, hls, hponext⟩ := hpo
    have hstep := applyPathStep_spec fo L fuel p h hdom hfu hk hnc hls
    rw [accessPath_cons, applyPathLoop]
    cases hx : pathLookup fo p cur with
    | some v =>
      rw [hx] at hstep
      obtain ⟨x, s1, h1, d1, e1⟩ := hstep
      have ih := applyPathLoop_spec L fuel ps v s1 x e1.inv (deepK_regs_of e1 hdp) (hponext v hx) d1 (hnext v hx)
      simp only []
      rw [bind_ok h1]
      simp only []
      cases hy : accessPath fo ps v with
      | some w =>
        rw [hy] at ih
        obtain ⟨y, s2, h2, d2, e2⟩ := ih
        rw [e1.regs, e1.vals] at e2
        exact ⟨y, s2, h2, d2, e1.trans e2⟩
      | err e => rw [hy] at ih; exact ih
      | none => trivial
      | unsupported => trivial
    | none =>
      rw [hx] at hstep
      obtain ⟨s1, h1, e1⟩ := hstep
      obtain ⟨u, s2, h2, d2, e2⟩ := adds_i (L.addUnit s1 (by inv_tac))
      rw [e1.regs, e1.vals] at e2
      simp only []
      exact ⟨u, s2, by rw [bind_ok h1]; exact h2, d2, e1.trans e2⟩
    | unsupported =>
      rw [hx] at hstep
      obtain ⟨u, s2, h2, d2, e2⟩ := adds_i (L.addUnit s (by inv_tac))
      simp only []
      exact ⟨u, s2, by rw [bind_ok hstep]; exact h2, d2, e2⟩
    | err e =>
      rw [hx] at hstep
      simp only []
      exact bind_err hstep

theorem apply_path_spec (L : LawsK S Inv Rd K) (fuel : Nat) (instr : Instruction) (ur : Bool)
    {s : σ} {r l : Nat} {items : List (Val F)} {ps : List (SymPart F)} {rest : List Nat}
    (hregs : S.regs s = r :: l :: rest) (hl : Decodes (S.view s) l (.list items))
    (hr : Decodes (S.view s) r (.symList ps)) (hd : PathDomain fo fuel ps (.list items))
    (hpo : PathK fo K S Inv ps (.list items)) (hres : ∀ v, accessPath fo ps (.list items) = .some v → K → v ≠ .custom)
    (hinv : Inv s := by inv_tac) (hdp : DeepK K S s rest := by deep_tac) :
    applyKind fo instr ur (.list items) (.symList ps) = .out (accOut (accessPath fo ps (.list items))) ∧
    RefinesOutI S Inv s (applyInternal fo S fuel instr ur s) (some (S.cursor s + 1)) rest l r
      (accOut (accessPath fo ps (.list items))) := by
  obtain ⟨s0, e0, hl0, hr0, hp⟩ := applyInternal_prefix fo L fuel instr ur hregs hl hr
  have hpath := applyPathLoop_spec fo L fuel ps (.list items) s0 l e0.inv (deepK_regs_of e0 hdp) hpo hl0 hd
  refine ⟨by simp only [applyKind]; cases accessPath fo ps (.list items) <;> rfl, ?_⟩
  rw [hp]
  simp only [Val.typeOf, applyMatch]
  rw [bind_ok2 (symList_fetch hr0)]
  have hne : ∀ (qs : List (SymPart F)) (c : Val F), accessPath fo qs c ≠ .none ∧ accessPath fo qs c ≠ .unsupported := by
    intro qs
    induction qs with
    | nil => intro c; exact ⟨nofun, nofun⟩
    | cons q qs ih =>
      intro c
      rw [accessPath_cons]
      cases pathLookup fo q c <;> first | exact ih _ | exact ⟨nofun, nofun⟩
  cases hx : accessPath fo ps (.list items) with
  | some v =>
    rw [hx] at hpath
    obtain ⟨x, s1, h1, d1, e1⟩ := hpath
    obtain ⟨s2, h2, e2⟩ := pushReg L d1 (hres v hx)
    rw [e1.regs, e1.vals, e0.regs, e0.vals] at e2
    exact ⟨x, s2, by rw [bind_ok2 h1, bind_ok2 h2]; rfl, e2.dec d1, (e0.trans e1).trans e2⟩
  | err e =>
    rw [hx] at hpath
    show _ = Outcome.err e
    rw [bind_apply, bind_err hpath]
  | none => exact absurd hx (hne ps _).1
  | unsupported => exact absurd hx (hne ps _).2

end Core

theorem accOut_not_defer (a : Acc F) (op : Instruction) (x y : Val F) : accOut a ≠ .defer op x y := by
  cases a <;> intro h <;> cases h

namespace On

variable {Inv : σ → Prop} {Rd : σ → Nat → Prop} {K : Prop}

/-- `ApplyDomainOn` (Lemmas/RuntimeStepAll.lean) with its `custom` / slice clauses demanded only under `K` -/
def ApplyDomainK (fo : FloatOps F) (K : Prop) (S : RStore F σ) (Inv : σ → Prop) (ur : Bool) (vl vr : Val F) : Prop :=
  match applyArm vl.typeOf vr.typeOf with
  | .accInt => ∀ i, vr = .num (.int i) → ∀ v, accessInt fo (.int i) vl = .some v → K → v ≠ .custom
  | .accSym => ((∀ vs, vl ≠ .list vs) ∨ ListSymOn S Inv) ∧
      ∀ y, vr = .sym y → ∀ v, accessSym y vl = .some v → K → v ≠ .custom
  | .path => ∀ items ps, vl = .list items → vr = .symList ps → PathK fo K S Inv ps (.list items) ∧
      ∀ v, accessPath fo ps (.list items) = .some v → K → v ≠ .custom
  | .expression => K → vr ≠ .custom
  | .partial_ => ∀ j input, vl = .part (.expr j) input → (K → (if ur then Val.concat input vr else input) ≠ .custom) ∧
      (ur = true → K → (∀ x y, input ≠ .slice x y) ∧ (∀ x y, vr ≠ .slice x y))
  | _ => True

/-- what `apply_internal` does, by the kind of application (Abs/Ops `applyKind` at the operands `vl`, `vr` found at `l`,
`r`): a value-level outcome, which defers only the operands themselves; the host's `apply` with the argument; entering
an expression -/
def ApplyOutI (S : RStore F σ) (Inv : σ → Prop) (s : σ) (res : Outcome (Option Nat × σ)) (rest : List Nat)
    (l r : Nat) (vl vr : Val F) : ApplyKind F → Prop
  | .out o => RefinesOutI S Inv s res (some (S.cursor s + 1)) rest l r o ∧ ∀ op a b, o = .defer op a b → a = vl ∧ b = vr
  | .external n arg => arg = vr ∧
      ∃ s0, EffI S Inv s s0 rest (S.vals s) ∧ ApplyProtocolI S Inv s0 res (some (S.cursor s + 1)) n r
  | .enter j input => EnteredI S Inv s res rest j input

theorem applyDomainK_of_not (fo : FloatOps F) (hk : ¬ K) (hls : ListSymOn S Inv) (ur : Bool) (vl vr : Val F) :
    ApplyDomainK fo K S Inv ur vl vr := by
  unfold ApplyDomainK
  split
  · exact fun _ _ _ _ k => absurd k hk
  · exact ⟨.inr hls, fun _ _ _ _ k => absurd k hk⟩
  · exact fun items ps _ _ => ⟨pathK_of_not fo hk hls _ _, fun _ _ k => absurd k hk⟩
  · exact fun k => absurd k hk
  · exact fun _ _ _ => ⟨fun k => absurd k hk, fun _ k => absurd k hk⟩
  · trivial

end On

namespace Core
open On

variable {Inv : σ → Prop} {Rd : σ → Nat → Prop} {K : Prop}

theorem applyInternal_refines (L : LawsK S Inv Rd K) (fuel : Nat) (instr : Instruction) (ur : Bool)
    {s : σ} {r l : Nat} {rest : List Nat} {vr vl : Val F} (hregs : S.regs s = r :: l :: rest)
    (dl : Decodes (S.view s) l vl) (dr : Decodes (S.view s) r vr)
    (hdom : ApplyDomain fo fuel vl vr) (hdomK : ApplyDomainK fo K S Inv ur vl vr)
    (hinv : Inv s := by inv_tac) (hdp : DeepK K S s rest := by deep_tac) :
    ApplyOutI S Inv s (applyInternal fo S fuel instr ur s) rest l r vl vr (applyKind fo instr ur vl vr) := by
  have hc := applyArm_case fo instr ur vl vr
  unfold ApplyDomain at hdom
  unfold ApplyDomainK at hdomK
  cases harm : applyArm vl.typeOf vr.typeOf <;> rw [harm] at hdom hdomK hc
  case defer =>
    rw [hc]
    exact ⟨apply_defer_spec fo L fuel instr ur hregs dl dr harm, fun _ _ _ h => by cases h; exact ⟨rfl, rfl⟩⟩
  case merge =>
    obtain ⟨v, hk, href⟩ := apply_merge_spec fo L fuel instr ur hregs dl dr harm
    rw [hk]; exact ⟨href, fun _ _ _ h => by cases h⟩
  case mkSlice =>
    obtain ⟨hk, href⟩ := apply_mkSlice_spec fo L fuel instr ur hregs dl dr harm
    rw [hk]; exact ⟨href, fun _ _ _ h => by cases h⟩
  case narrow =>
    obtain ⟨os, oe, bs, be, rfl, rfl, -⟩ := hc
    have href := apply_narrow_spec fo L fuel instr ur hregs dl dr
    rw [show applyKind fo instr ur (.range os oe) (.range bs be) = .out (match Abs.narrowRange fo (.range os oe) (.range bs be) with
       | .ok v => .val v
       | .error e => .err e) by
      simp only [applyKind]; cases Abs.narrowRange fo (.range os oe) (.range bs be) <;> rfl]
    exact ⟨href, fun op a b h => by cases hx : Abs.narrowRange fo (.range os oe) (.range bs be) <;> rw [hx] at h <;> cases h⟩
  case sliceNarrow =>
    obtain ⟨v, sr, bs, be, rfl, rfl, -⟩ := hc
    obtain ⟨os, oe, rfl⟩ := hdom v sr rfl
    have href := apply_sliceNarrow_spec fo L fuel instr ur hregs dl dr
    rw [show applyKind fo instr ur (.slice v (.range os oe)) (.range bs be) = .out (match Abs.narrowRange fo (.range os oe) (.range bs be) with
       | .ok nr => .val (.slice v nr)
       | .error e => .err e) by
      simp only [applyKind]; cases Abs.narrowRange fo (.range os oe) (.range bs be) <;> rfl]
    exact ⟨href, fun op a b h => by cases hx : Abs.narrowRange fo (.range os oe) (.range bs be) <;> rw [hx] at h <;> cases h⟩
  case accInt =>
    obtain ⟨hd, i, rfl⟩ := hdom
    obtain ⟨hk, href⟩ := apply_accInt_spec fo L fuel instr ur hregs dl dr harm hd (hdomK i rfl)
    rw [hk]; exact ⟨href, fun op a b h => absurd h (accOut_not_defer _ op a b)⟩
  case accSym =>
    obtain ⟨y, rfl, -⟩ := hc
    obtain ⟨hk, href⟩ := apply_accSym_spec fo L fuel instr ur hregs dl dr harm hdom hdomK.1 (hdomK.2 y rfl)
    rw [hk]; exact ⟨href, fun op a b h => absurd h (accOut_not_defer _ op a b)⟩
  case path =>
    obtain ⟨items, ps, rfl, rfl, -⟩ := hc
    obtain ⟨hk, href⟩ := apply_path_spec fo L fuel instr ur hregs dl dr (hdom items ps rfl rfl)
      (hdomK items ps rfl rfl).1 (hdomK items ps rfl rfl).2
    rw [hk]; exact ⟨href, fun op a b h => absurd h (accOut_not_defer _ op a b)⟩
  case external =>
    obtain ⟨n, rfl, -⟩ := hc
    exact ⟨rfl, apply_external_spec fo L fuel instr ur hregs dl dr⟩
  case expression =>
    obtain ⟨j, rfl, -⟩ := hc
    exact apply_expression_spec fo L fuel instr ur hregs dl dr hdomK
  case partial_ =>
    obtain ⟨f, x, rfl, -⟩ := hc
    by_cases hfe : f.typeOf = .expression
    · obtain ⟨j, rfl⟩ := typeOf_inv_expr hfe
      exact apply_partial_expression_spec fo L fuel instr ur hregs dl dr (hdomK j x rfl).1 (hdomK j x rfl).2
    · obtain ⟨hk, href⟩ := apply_partial_other_spec fo L fuel instr ur hregs dl dr hfe
      rw [hk]; exact ⟨href, fun _ _ _ h => by cases h⟩

end Core

end Garnish.Lemmas.Runtime
