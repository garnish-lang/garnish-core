/-
`ListSymOn` is false of BasicGarnishData (`basic_not_listSymOn`): a list with two equal symbol keys (`dupCells`) on which the
binary search answers with the second.
-/
import Garnish.Props.C19StoreOn
namespace Garnish.Lemmas.Runtime.BasicSym
open Garnish Gen Garnish.Model.Equality Garnish.Model.Runtime Garnish.Model.Runtime.Basic Garnish.BasicOpt
open Garnish.Lemmas.Runtime.Basic

variable {F : Type}

/-- the data block as building `(:k = ()), (:k = $?)` with `k = 5` leaves it (written out, not derived from a run):
symbol, unit, pair, true, pair, then the list header `List(2, 2)`, its two items and its two association cells (stable sort:
insertion order among equal keys) -/
def dupCells : Array Cell :=
  #[.symbol 5, .unit, .pair 0 1, .tru, .pair 0 3, .list 2 2, .listItem 2, .listItem 4, .associativeItem 5 1, .associativeItem 5 3]

def dupB : BState :=
  { BState.init with store := { Store.fresh with cells := dupCells, size := 10 } }

theorem mem_dup {i : Nat} {c : Cell} (h : dupCells[i]? = some c) : c ∈ dupCells.toList := by
  rw [← Array.getElem?_toList] at h; exact List.mem_of_getElem? h

theorem dupB_inv : BInv dupB := by
  refine ⟨by decide, by decide, ?_, ?_, ?_, ⟨?_, ?_, ?_⟩⟩
  · intro a h; cases h
  · intro i p v h; have := mem_dup h; simp [dupCells] at this
  · intro i p r h; rcases h with h | h <;> (have := mem_dup h; simp [dupCells] at this)
  · intro a h; cases h
  · intro i p h; rcases h with ⟨r, h⟩ | h <;> (have := mem_dup h; simp [dupCells] at this)
  · intro i r h; rcases h with ⟨p, h⟩ | h <;> (have := mem_dup h; simp [dupCells] at this)

/-- **`ListSymOn` is false of `BasicGarnishData`**: the binary search over the key table ends on the LAST of equal
keys (`if key > sym { base } else { mid }`), the table is sorted stably, so the second item's value is returned where
the contract asks for the first (the real store answers the same: LIST suite, `(l (p (s 5) U) (p (s 5) T))`, `sym:5` = `T`) -/
theorem basic_not_listSymOn (nc : NumCode F) : ¬ ListSymOn (basicRStore nc) BInv := by
  intro hls
  have hd : DecodesList ((basicRStore nc).view dupB) [2, 4] [.pair (.sym 5) .unit, .pair (.sym 5) .tru] :=
    .cons (.pair rfl rfl (.sym rfl rfl) (.unit rfl)) (.cons (.pair rfl rfl (.sym rfl rfl) (.tru rfl)) .nil)
  have := hls dupB 5 [2, 4] _ 5 dupB_inv rfl hd
  simp only [Abs.lookupSym, beq_self_eq_true, if_true] at this
  obtain ⟨r, h1, h2⟩ := this
  have hr : (basicRStore nc).listItemWithSymbol dupB 5 5 = .ok (some 3) := by
    show listItemWithSymbolB dupCells 5 5 = .ok (some 3)
    rfl
  rw [hr] at h1
  cases h1
  cases h2 with
  | unit ht =>
    have : (some Ty.true : Option Ty) = some Ty.unit := ht
    cases this

end Garnish.Lemmas.Runtime.BasicSym
