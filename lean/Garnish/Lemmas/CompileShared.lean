/-
C20 at the compile level, lemmas: what is `Located` in a program stays `Located` in every program that extends it
(same instructions, jump entries, constants wherever the smaller one has them); and where the roots the layout loop
lays out get their jump entries (`roots_range`).
-/
import Garnish.Lemmas.CompileRunLocated
import Garnish.Lemmas.CompileComplete
import Garnish.Props.C20
namespace Garnish.Abs
open Garnish Gen Garnish.Spec Garnish.Props.C20

variable {F : Type}

theorem InstrsAt_extends {P P' : Prog F} (h : Extends P P') : ∀ {l : List Instr} {pc : Nat}, InstrsAt P pc l → InstrsAt P' pc l
  | [], _, _ => trivial
  | _ :: _, _, hi => ⟨h.instrs _ _ hi.1, InstrsAt_extends h hi.2⟩

mutual
theorem Located_extends {P P' : Prog F} (h : Extends P P') (root cur : Nat) : ∀ (e : Expr F) (pc : Nat),
    Located P root cur pc e → Located P' root cur pc e
  | .lit v, pc, hl => by
    simp only [Located] at hl ⊢; obtain ⟨k, h1, h2⟩ := hl; exact ⟨k, h.instrs _ _ h1, h.consts _ _ h2⟩
  | .input, pc, hl => by simp only [Located] at hl ⊢; exact h.instrs _ _ hl
  | .ident sym, pc, hl => by
    simp only [Located] at hl ⊢; obtain ⟨k, h1, h2⟩ := hl; exact ⟨k, h.instrs _ _ h1, h.consts _ _ h2⟩
  | .nested id, pc, hl => by
    simp only [Located] at hl ⊢; obtain ⟨k, h1, h2⟩ := hl; exact ⟨k, h.instrs _ _ h1, h.consts _ _ h2⟩
  | .emptyNested, pc, hl => by
    simp only [Located] at hl ⊢; obtain ⟨k, h1, h2⟩ := hl; exact ⟨k, h.instrs _ _ h1, h.consts _ _ h2⟩
  | .unary op x, pc, hl => by
    simp only [Located] at hl ⊢; exact ⟨Located_extends h root cur x _ hl.1, h.instrs _ _ hl.2⟩
  | .binary op l r, pc, hl => by
    simp only [Located] at hl ⊢
    exact ⟨Located_extends h root cur l _ hl.1, Located_extends h root cur r _ hl.2.1, h.instrs _ _ hl.2.2⟩
  | .pair l r, pc, hl => by
    simp only [Located] at hl ⊢
    exact ⟨Located_extends h root cur r _ hl.1, Located_extends h root cur l _ hl.2.1, h.instrs _ _ hl.2.2⟩
  | .applyTo x f, pc, hl => by
    simp only [Located] at hl ⊢
    exact ⟨Located_extends h root cur f _ hl.1, Located_extends h root cur x _ hl.2.1, h.instrs _ _ hl.2.2⟩
  | .list items, pc, hl => by
    simp only [Located] at hl ⊢; exact ⟨LocatedList_extends h root cur items _ hl.1, h.instrs _ _ hl.2⟩
  | .cond onTrue c t, pc, hl => by
    simp only [Located] at hl ⊢
    obtain ⟨hc, j, join, tb, h1, h2, h3, h4, h5, h6, h7⟩ := hl
    rw [termsAfter_jump] at h7
    exact ⟨Located_extends h root cur c _ hc, j, join, tb, h.instrs _ _ h1, h.instrs _ _ h2, h.jumps _ _ h3, h.jumps _ _ h4, h5,
      Located_extends h j cur t _ h6, by rw [termsAfter_jump]; exact InstrsAt_extends h h7⟩
  | .and l r, pc, hl => by
    simp only [Located] at hl ⊢
    obtain ⟨hc, j, join, tb, h1, h3, h4, h5, h6, h7⟩ := hl
    rw [termsAfter_tis] at h7
    exact ⟨Located_extends h root cur l _ hc, j, join, tb, h.instrs _ _ h1, h.jumps _ _ h3, h.jumps _ _ h4, h5,
      Located_extends h j cur r _ h6, by rw [termsAfter_tis]; exact InstrsAt_extends h h7⟩
  | .or l r, pc, hl => by
    simp only [Located] at hl ⊢
    obtain ⟨hc, j, join, tb, h1, h3, h4, h5, h6, h7⟩ := hl
    rw [termsAfter_tis] at h7
    exact ⟨Located_extends h root cur l _ hc, j, join, tb, h.instrs _ _ h1, h.jumps _ _ h3, h.jumps _ _ h4, h5,
      Located_extends h j cur r _ h6, by rw [termsAfter_tis]; exact InstrsAt_extends h h7⟩
  | .seq a b, pc, hl => by
    simp only [Located] at hl ⊢
    exact ⟨Located_extends h root cur a _ hl.1, h.instrs _ _ hl.2.1, Located_extends h root cur b _ hl.2.2⟩
  | .sideAfter x b, pc, hl => by
    simp only [Located] at hl ⊢
    exact ⟨Located_extends h root cur x _ hl.1, h.instrs _ _ hl.2.1, Located_extends h root cur b _ hl.2.2.1,
      h.instrs _ _ hl.2.2.2⟩
  | .reapply x, pc, hl => by
    simp only [Located] at hl ⊢
    exact ⟨Located_extends h root cur x _ hl.1, h.instrs _ _ hl.2.1, h.instrs _ _ hl.2.2⟩
  | .prefixApply sym x, pc, hl => by
    simp only [Located] at hl ⊢
    obtain ⟨⟨k, h1, h2⟩, h3, h4⟩ := hl
    exact ⟨⟨k, h.instrs _ _ h1, h.consts _ _ h2⟩, Located_extends h root cur x _ h3, h.instrs _ _ h4⟩
  | .suffixApply x sym, pc, hl => by
    simp only [Located] at hl ⊢
    obtain ⟨⟨k, h1, h2⟩, h3, h4⟩ := hl
    exact ⟨⟨k, h.instrs _ _ h1, h.consts _ _ h2⟩, Located_extends h root cur x _ h3, h.instrs _ _ h4⟩
  | .infixApply a sym b, pc, hl => by
    simp only [Located] at hl ⊢
    obtain ⟨⟨k, h1, h2⟩, h3, h4, h5, h6⟩ := hl
    exact ⟨⟨k, h.instrs _ _ h1, h.consts _ _ h2⟩, Located_extends h root cur a _ h3, Located_extends h root cur b _ h4,
      h.instrs _ _ h5, h.instrs _ _ h6⟩
  | .chain arms none, pc, hl => by
    rw [Located_chain] at hl ⊢
    obtain ⟨join, h1, h2, h3⟩ := hl
    refine ⟨join, LocatedArms_extends h root cur join arms _ h1, ?_, fun hne => ⟨h.jumps _ _ (h3 hne).1, (h3 hne).2⟩⟩
    cases arms with
    | nil => exact h.instrs _ _ h2
    | cons a as => trivial
  | .chain arms (some e), pc, hl => by
    rw [Located_chain] at hl ⊢
    obtain ⟨join, h1, h2, h3⟩ := hl
    exact ⟨join, LocatedArms_extends h root cur join arms _ h1, Located_extends h root cur e _ h2,
      fun hne => ⟨h.jumps _ _ (h3 hne).1, (h3 hne).2⟩⟩

theorem LocatedList_extends {P P' : Prog F} (h : Extends P P') (root cur : Nat) : ∀ (items : List (Expr F)) (pc : Nat),
    LocatedList P root cur pc items → LocatedList P' root cur pc items
  | [], _, _ => by simp [LocatedList]
  | x :: xs, pc, hl => by
    simp only [LocatedList] at hl ⊢
    exact ⟨Located_extends h root cur x _ hl.1, LocatedList_extends h root cur xs _ hl.2⟩

theorem LocatedArms_extends {P P' : Prog F} (h : Extends P P') (root cur join : Nat) :
    ∀ (arms : List (Bool × Expr F × Expr F)) (pc : Nat),
    LocatedArms P root cur join pc arms → LocatedArms P' root cur join pc arms
  | [], _, _ => by simp [LocatedArms]
  | (b, c, t) :: rest, pc, hl => by
    simp only [LocatedArms] at hl ⊢
    obtain ⟨hc, ⟨j, tb, h1, h2, h3, h4⟩, hr⟩ := hl
    rw [termsAfter_jump] at h4
    exact ⟨Located_extends h root cur c _ hc, ⟨j, tb, h.instrs _ _ h1, h.jumps _ _ h2, Located_extends h j cur t _ h3,
      by rw [termsAfter_jump]; exact InstrsAt_extends h h4⟩, LocatedArms_extends h root cur join rest _ hr⟩
end

theorem Env_extends {P P' : Prog F} {bodies : List (Nat × Expr F)} (h : Extends P P') (env : Env P bodies) : Env P' bodies := by
  constructor
  intro id b hb
  obtain ⟨t, h1, h2, h3, h4⟩ := env.body id b hb
  exact ⟨t, h.jumps _ _ h1, Located_extends h id id b t h2, h3, h.instrs _ _ h4⟩

theorem _root_.Garnish.Props.C20.Extends.refl (P : Prog F) : Extends P P := ⟨fun _ _ h => h, fun _ _ h => h, fun _ _ h => h⟩

theorem _root_.Garnish.Props.C20.Extends.trans {A B C : Prog F} (h1 : Extends A B) (h2 : Extends B C) : Extends A C :=
  ⟨fun i x h => h2.instrs i x (h1.instrs i x h), fun i x h => h2.jumps i x (h1.jumps i x h),
   fun i x h => h2.consts i x (h1.consts i x h)⟩

section loop
variable (bodies : List (Nat × Expr F))

/-- every root laid out from `s` on gets a jump entry `≥ lo` (when the pending ones have) that points at or after
the instructions `s` holds -/
theorem roots_range (lo : Nat) : ∀ (fuel : Nat) (s : LState F), Inv s →
    (layoutRoots bodies fuel s).pending = [] →
    (∀ q ∈ (layoutRoots bodies fuel s).done, LabelOK q) →
    ((layoutRoots bodies fuel s).done.map (·.patch)).Nodup →
    (∀ r ∈ s.pending, lo ≤ r.patch) → lo ≤ s.jumps.size →
    ∀ r ∈ (layoutRoots bodies fuel s).done, r ∈ s.done ∨
      (lo ≤ r.patch ∧ ∃ t, (layoutRoots bodies fuel s).jumps[r.patch]? = some t ∧ s.instrs.size ≤ t)
  | 0, s, _, _, _, _, _, _ => fun r hr => .inl hr
  | fuel + 1, s, inv, hc, hlab, hnd, hlo, hjs => by
    cases hp : s.pending with
    | nil => intro r hr; simp only [layoutRoots, hp] at hr; exact .inl hr
    | cons r0 rest =>
      have hj := head_jump bodies inv hp hc hlab hnd
      obtain ⟨inv', _, hjs', hpend', hdone', _, _, hisz'⟩ := layoutRoot_facts bodies inv hp
      simp only [layoutRoots, hp] at hc hlab hnd hj ⊢
      have ih := roots_range lo fuel _ inv' hc hlab hnd (fun q hq => by
        rcases hpend' q hq with h | h
        · exact hlo q (by rw [hp]; exact List.mem_cons_of_mem _ h)
        · omega) (by omega)
      intro r hr
      rcases ih r hr with h | ⟨h1, t, h2, h3⟩
      · rw [hdone'] at h
        simp only [List.mem_cons] at h
        rcases h with rfl | h
        · exact .inr ⟨hlo r (by rw [hp]; exact List.mem_cons_self), _, hj, Nat.le_refl _⟩
        · exact .inl h
      · exact .inr ⟨h1, t, h2, by omega⟩

end loop

end Garnish.Abs
