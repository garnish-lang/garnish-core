/-
Operator fragment with trivia (stage 4): `value (trivia* binop trivia* value)*` where trivia = Whitespace, Annotation,
LineAnnotation tokens, as a list of items (`WItem`); the decidable recogniser `frag4` and its decomposition into items
(`frag4_sound`); `AfterAtom`: the five facts about the state after a value token that make trivia invisible;
`strip_loop` / `parse_frag4_strip`: the result of `parse` is the same when the trivia is removed (C18 on this fragment).
-/
import Garnish.Lemmas.ParserFrag
import Garnish.Lemmas.ParserTrivia

namespace Garnish.Spec
open Garnish Garnish.Gen Garnish.Model.Parser

/-- `trivia* binop trivia* value` -/
structure WItem where
  ws1 : List PToken
  op : PToken
  ws2 : List PToken
  atom : PToken

def WItem.dec (it : WItem) : List PToken := it.ws1 ++ it.op :: (it.ws2 ++ [it.atom])
def WItem.ok (it : WItem) : Prop :=
  (∀ w ∈ it.ws1, isTriviaTok w = true) ∧ isBinopTok it.op = true ∧ (∀ w ∈ it.ws2, isTriviaTok w = true) ∧
    isAtom10 it.atom = true

def flatDec : List WItem → List PToken
  | [] => []
  | it :: rest => it.dec ++ flatDec rest
def flatStrip : List WItem → List PToken
  | [] => []
  | it :: rest => it.op :: it.atom :: flatStrip rest

theorem flatDec_isEmpty (items : List WItem) : (flatDec items).isEmpty = (flatStrip items).isEmpty := by
  cases items with
  | nil => rfl
  | cons it rest =>
    simp only [flatDec, flatStrip, WItem.dec]
    cases it.ws1 <;> rfl

theorem isAtomTok_of_atom10 {a : PToken} (ha : isAtom10 a = true) : isAtomTok a = true := by
  obtain ⟨hs, hq⟩ := atom10_facts ha
  unfold isAtomTok
  simp only [Bool.and_eq_true, Bool.or_eq_true, beq_iff_eq]
  exact ⟨hs, by rw [hq]; rfl⟩

theorem prio10_valueLike {d : Definition} (h : priority d = some 10) : d.isValueLike = true := by
  revert h; generalize d = e
  revert e; exact Definition.forall_of_all (by decide +kernel)

theorem composition_atom_binop (sp so : SecDef) (hp : sp = .value ∨ sp = .identifier)
    (ho : so = .binaryLeftToRight ∨ so = .binaryRightToLeft) : checkComposition sp so false = true := by
  rcases hp with rfl | rfl <;> rcases ho with rfl | rfl <;> rfl

/-- what the token loop needs to know of the state after a value token of the fragment, to see that trivia is invisible -/
structure AfterAtom (st : PState) : Prop where
  atom : AtomOK st
  nnl : st.nextLastLeft = none
  cfl : st.checkForList = false
  cg : st.currentGroup = none
  prev : st.previousSecondDef = .value ∨ st.previousSecondDef = .identifier

theorem renameDef_cases (d : Definition) (p : Option Nat) (nodes : Array ParseNode) :
    renameDef d p nodes = d ∨ (d = .identifier ∧ renameDef d p nodes = .property) := by
  unfold renameDef
  split
  · split
    · exact Or.inl rfl
    · split
      · exact Or.inr ⟨rfl, rfl⟩
      · exact Or.inl rfl
  · exact Or.inl rfl

theorem afterAtom_of_step {st st1 : PState} {a : PToken} {il : Bool} (ha : isAtom10 a = true)
    (hc : st.checkForList = false) (hnl : st.nextLastLeft = none) (hcg : st.currentGroup = none)
    (hadj : adjustLastLeft st none = .ok st) (h : step st a il = .ok st1) : AfterAtom st1 := by
  obtain ⟨hsa, hqa⟩ := atom10_facts ha
  obtain ⟨_, a2, a3⟩ := prio10_facts hqa
  have hu : underGroupOf st = .ok none := by simp [underGroupOf, hcg]
  obtain ⟨nodes', info, hpt, hn, hl, hc1, hnl1, _, hcg1, hp⟩ := step_atom_specG st st1 a il hsa a2 hc hnl hu hadj h
  have hq : priority (renameDef (getDefinition a.type).1 info.parent nodes') = some 10 := by
    rcases renameDef_cases (getDefinition a.type).1 info.parent nodes' with e | ⟨e1, e2⟩
    · rw [e]; exact hqa
    · rw [e2]; rfl
  refine ⟨⟨st.nodes.size, ⟨renameDef (getDefinition a.type).1 info.parent nodes', (getDefinition a.type).2,
    info.parent, info.left, info.right, a⟩, hl, ?_, prio10_valueLike hq, (prio10_facts hq).1⟩, hnl1, hc1, hcg1.trans hcg,
    by rw [hp]; exact hsa⟩
  rw [hn, Array.getElem?_push, if_pos (parseToken_size_def hpt).1.symm]

theorem afterAtom_pair {st st1 st2 : PState} {o a : PToken} {il : Bool} (hinv : AfterAtom st) (ho : isBinopTok o = true)
    (ha : isAtom10 a = true) (h1 : step st o false = .ok st1) (h2 : step st1 a il = .ok st2) : AfterAtom st2 := by
  obtain ⟨c1, c2, c3, _⟩ := step_binop_post st st1 o false ho hinv.nnl h1
  obtain ⟨_, _, _, _, _, _, _, _, hcg1, _⟩ := step_bin3_stateG st st1 o (bin3_of_binop ho) hinv.nnl
    (by simp [underGroupOf, hinv.cg]) (adjustLastLeft_atomOK hinv.atom none) h1
  exact afterAtom_of_step ha c1 c2 (hcg1.trans hinv.cg) (adjustLastLeft_trivOK c3 none) h2

theorem afterAtom_first {a : PToken} {il : Bool} {st0 : PState} (ha : isAtom10 a = true)
    (h : step PState.init a il = .ok st0) : AfterAtom st0 :=
  afterAtom_of_step ha rfl rfl rfl rfl h

theorem item_loop_eq {st : PState} (hinv : AfterAtom st) (it : WItem) (hok : it.ok) (rest : List PToken) :
    loop st (it.dec ++ rest) =
      Outcome.bind (step st it.op false) fun st1 => Outcome.bind (step st1 it.atom rest.isEmpty) fun st2 => loop st2 rest := by
  obtain ⟨hw1, ho, hw2, ha⟩ := hok
  have hadj := adjustLastLeft_atomOK hinv.atom none
  have hug : underGroupOf st = .ok none := by simp [underGroupOf, hinv.cg]
  have hso := binop_secdef ho
  have hsa := (atom10_facts ha).1
  have e1 : it.dec ++ rest = it.ws1 ++ it.op :: (it.ws2 ++ it.atom :: rest) := by simp [WItem.dec]
  rw [e1, loop_trivia_then_binop it.op _ ho it.ws1 st hw1 hinv.atom hinv.nnl hug
    (by rw [hinv.cfl]; exact composition_atom_binop _ _ hinv.prev hso)]
  simp only [loop]
  have he : (it.ws2 ++ it.atom :: rest).isEmpty = false := by cases it.ws2 <;> rfl
  rw [he]
  refine Outcome.bind_congr fun st1 h1 => ?_
  obtain ⟨p1, p2, p3, p4⟩ := step_binop_post st st1 it.op false ho hinv.nnl h1
  rw [loop_trivia_then_atom it.atom rest (isAtomTok_of_atom10 ha) it.ws2 st1 hw2 p3 p1 p2
    (fun sw hsw => by rw [p4, composition_trivia_then_atom _ _ hsw hsa, composition_binop_atom _ _ hso hsa])]
  rfl

theorem numbered_append : ∀ (l1 l2 : List PToken) (k : Nat), NumberedFrom k (l1 ++ l2) →
    NumberedFrom (k + l1.length) l2
  | [], l2, k, h => by simpa using h
  | t :: l1, l2, k, h => by
    have := numbered_append l1 l2 (k + 1) h.2
    simp only [List.length_cons]
    have e : k + 1 + l1.length = k + (l1.length + 1) := by omega
    rw [← e]; exact this

theorem strip_loop : ∀ (items : List WItem) (st : PState), AfterAtom st →
    (∀ it ∈ items, it.ok) → loop st (flatDec items) = loop st (flatStrip items)
  | [], _, _, _ => rfl
  | it :: items, st, hinv, hoks => by
    have hok := hoks it (List.mem_cons_self ..)
    simp only [flatDec, flatStrip]
    rw [item_loop_eq hinv it hok]
    simp only [loop, List.isEmpty_cons]
    rw [flatDec_isEmpty]
    refine Outcome.bind_congr fun st1 h1 => Outcome.bind_congr fun st2 h2 => ?_
    exact strip_loop items st2 (afterAtom_pair hinv hok.2.1 hok.2.2.2 h1 h2) (fun x hx => hoks x (List.mem_cons_of_mem _ hx))

theorem last_atom_items : ∀ (items : List WItem) (a0 : PToken), isAtom10 a0 = true → (∀ it ∈ items, it.ok) →
    isAtom10 ((a0 :: flatDec items).getLast (by simp)) = true
  | [], a0, h0, _ => by simpa [flatDec] using h0
  | it :: items, a0, _, h => by
    have hok := h it (List.mem_cons_self ..)
    have := last_atom_items items it.atom hok.2.2.2 (fun x hx => h x (List.mem_cons_of_mem _ hx))
    have e : a0 :: flatDec (it :: items) = (a0 :: (it.ws1 ++ it.op :: it.ws2)) ++ (it.atom :: flatDec items) := by
      simp [flatDec, WItem.dec]
    simp only [e]
    rw [List.getLast_append_of_ne_nil _ (by simp)]
    exact this

theorem parse_items_strip (a0 : PToken) (items : List WItem) (ha0 : isAtom10 a0 = true) (hoks : ∀ it ∈ items, it.ok) :
    parse (a0 :: flatDec items) = parse (a0 :: flatStrip items) := by
  have hoks' : ∀ it ∈ items.map (fun it => (⟨[], it.op, [], it.atom⟩ : WItem)), it.ok := by
    intro it hit
    obtain ⟨it0, h0, rfl⟩ := List.mem_map.mp hit
    have := hoks it0 h0
    exact ⟨by simp, this.2.1, by simp, this.2.2.2⟩
  have hstrip : ∀ l : List WItem, flatDec (l.map (fun it => (⟨[], it.op, [], it.atom⟩ : WItem))) = flatStrip l := by
    intro l; induction l with
    | nil => rfl
    | cons x xs ih => simp [flatDec, flatStrip, WItem.dec, ih]
  obtain ⟨htrim, _, _⟩ := trim_id (a0 :: flatDec items) (by simp) (atom10_not_trimmable ha0)
    (atom10_not_trimmable (last_atom_items items a0 ha0 hoks))
  obtain ⟨htrim2, _, _⟩ := trim_id (a0 :: flatStrip items) (by simp) (atom10_not_trimmable ha0)
    (by rw [← hstrip]; exact atom10_not_trimmable (last_atom_items _ a0 ha0 hoks'))
  unfold parse
  rw [htrim, htrim2]
  simp only [Outcome.bind_ok, List.isEmpty_cons, Bool.false_eq_true, if_false, loop]
  rw [flatDec_isEmpty]
  congr 1
  exact Outcome.bind_congr fun st0 h0 => strip_loop items st0 (afterAtom_first ha0 h0) hoks

def splitAux : (ws1 : List PToken) → (cur : Option (PToken × List PToken)) → List PToken → Option (List WItem)
  | [], none, [] => some []
  | _ :: _, none, [] => none
  | _, some _, [] => none
  | ws1, none, t :: rest =>
    if isTriviaTok t then splitAux (ws1 ++ [t]) none rest
    else if isBinopTok t then splitAux ws1 (some (t, [])) rest else none
  | ws1, some (o, ws2), t :: rest =>
    if isTriviaTok t then splitAux ws1 (some (o, ws2 ++ [t])) rest
    else if isAtom10 t then (splitAux [] none rest).map (fun items => ⟨ws1, o, ws2, t⟩ :: items) else none

/-- **the stage 4 fragment**: `value (trivia* binop trivia* value)*`, trivia = Whitespace / Annotation / LineAnnotation -/
def frag4 : List PToken → Bool
  | a :: rest => isAtom10 a && (splitAux [] none rest).isSome
  | [] => false

def accPrefix (ws1 : List PToken) : Option (PToken × List PToken) → List PToken
  | none => ws1
  | some (o, ws2) => ws1 ++ o :: ws2

theorem splitAux_sound : ∀ (toks ws1 : List PToken) (cur : Option (PToken × List PToken)) (items : List WItem),
    (∀ w ∈ ws1, isTriviaTok w = true) →
    (∀ o ws2, cur = some (o, ws2) → isBinopTok o = true ∧ ∀ w ∈ ws2, isTriviaTok w = true) →
    splitAux ws1 cur toks = some items → accPrefix ws1 cur ++ toks = flatDec items ∧ ∀ it ∈ items, it.ok := by
  intro toks
  induction toks with
  | nil =>
    intro ws1 cur items _ _ h
    cases cur with
    | none =>
      cases ws1 with
      | nil => simp only [splitAux, Option.some.injEq] at h; subst h; simp [accPrefix, flatDec]
      | cons w ws => simp [splitAux] at h
    | some c => cases ws1 <;> simp [splitAux] at h
  | cons t rest ih =>
    intro ws1 cur items hw1 hcur h
    cases cur with
    | none =>
      simp only [splitAux] at h
      split at h
      · rename_i ht
        obtain ⟨e, hok⟩ := ih (ws1 ++ [t]) none items
          (by intro w hw; rcases List.mem_append.mp hw with hw | hw
              · exact hw1 w hw
              · simp at hw; subst hw; exact ht)
          (by intro o ws2 hc; cases hc) h
        exact ⟨by simpa [accPrefix] using e, hok⟩
      · split at h
        · rename_i hb
          obtain ⟨e, hok⟩ := ih ws1 (some (t, [])) items hw1
            (by intro o ws2 hc; injection hc with hc; injection hc with e1 e2; subst e1; subst e2; exact ⟨hb, by simp⟩) h
          exact ⟨by simpa [accPrefix] using e, hok⟩
        · cases h
    | some c =>
      obtain ⟨o, ws2⟩ := c
      obtain ⟨hob, hw2⟩ := hcur o ws2 rfl
      simp only [splitAux] at h
      split at h
      · rename_i ht
        obtain ⟨e, hok⟩ := ih ws1 (some (o, ws2 ++ [t])) items hw1
          (by intro o' ws2' hc; injection hc with hc; injection hc with e1 e2; subst e1; subst e2
              refine ⟨hob, ?_⟩
              intro w hw; rcases List.mem_append.mp hw with hw | hw
              · exact hw2 w hw
              · simp at hw; subst hw; exact ht) h
        exact ⟨by simpa [accPrefix] using e, hok⟩
      · split at h
        · rename_i ha
          cases hrec : splitAux [] none rest with
          | none => simp [hrec] at h
          | some items' =>
            simp only [hrec, Option.map_some, Option.some.injEq] at h
            subst h
            obtain ⟨e, hok⟩ := ih [] none items' (by simp) (by intro o ws2 hc; cases hc) hrec
            refine ⟨?_, ?_⟩
            · simp only [accPrefix, List.nil_append] at e
              simp [accPrefix, flatDec, WItem.dec, e]
            · intro it hit
              rcases List.mem_cons.mp hit with rfl | hit
              · exact ⟨hw1, hob, hw2, ha⟩
              · exact hok it hit
        · cases h

theorem frag4_sound {toks : List PToken} (h : frag4 toks = true) :
    ∃ a0 items, toks = a0 :: flatDec items ∧ isAtom10 a0 = true ∧ ∀ it ∈ items, it.ok := by
  cases toks with
  | nil => simp [frag4] at h
  | cons a rest =>
    simp only [frag4, Bool.and_eq_true] at h
    obtain ⟨ha, hs⟩ := h
    obtain ⟨items, hitems⟩ := Option.isSome_iff_exists.mp hs
    obtain ⟨e, hok⟩ := splitAux_sound rest [] none items (by simp) (by intro o ws2 hc; cases hc) hitems
    exact ⟨a, items, by simpa [accPrefix] using congrArg (a :: ·) e, ha, hok⟩

def stripTrivia (toks : List PToken) : List PToken := toks.filter (fun t => !isTriviaTok t)

theorem binop_not_trivia {o : PToken} (ho : isBinopTok o = true) : isTriviaTok o = false := by
  unfold isBinopTok at ho
  unfold isTriviaTok
  revert ho; generalize o.type = tt
  revert tt; exact TokenType.forall_of_all (by decide +kernel)

theorem atom10_not_trivia {a : PToken} (ha : isAtom10 a = true) : isTriviaTok a = false := by
  obtain ⟨hs, _⟩ := atom10_facts ha
  unfold isTriviaTok
  revert hs; generalize a.type = tt
  revert tt; exact TokenType.forall_of_all (by decide +kernel)

theorem stripTrivia_flatDec : ∀ items : List WItem, (∀ it ∈ items, it.ok) → stripTrivia (flatDec items) = flatStrip items
  | [], _ => rfl
  | it :: items, h => by
    obtain ⟨hw1, ho, hw2, ha⟩ := h it (List.mem_cons_self ..)
    have ih := stripTrivia_flatDec items (fun x hx => h x (List.mem_cons_of_mem _ hx))
    have f1 : it.ws1.filter (fun t => !isTriviaTok t) = [] := by
      rw [List.filter_eq_nil_iff]; intro w hw; simp [hw1 w hw]
    have f2 : it.ws2.filter (fun t => !isTriviaTok t) = [] := by
      rw [List.filter_eq_nil_iff]; intro w hw; simp [hw2 w hw]
    unfold stripTrivia at ih ⊢
    simp only [flatDec, flatStrip, WItem.dec, List.filter_append, List.filter_cons, f1, f2, binop_not_trivia ho,
      atom10_not_trivia ha, Bool.not_false, if_true, List.nil_append, List.filter_nil, ih]
    simp

theorem parse_frag4_strip (toks : List PToken) (hf : frag4 toks = true) : parse toks = parse (stripTrivia toks) := by
  obtain ⟨a0, items, rfl, ha0, hoks⟩ := frag4_sound hf
  have : stripTrivia (a0 :: flatDec items) = a0 :: flatStrip items := by
    have := stripTrivia_flatDec items hoks
    unfold stripTrivia at this ⊢
    simp [List.filter_cons, atom10_not_trivia ha0, this]
  rw [this]
  exact parse_items_strip a0 items ha0 hoks

end Garnish.Spec
