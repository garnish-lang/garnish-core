/-
C04, builder half — the order of the out-of-line parts: the concrete phase updates of Lemmas/BuildTotalStep.lean as `StepL`, and the
visit lemmas through which the handlers are checked (`PreL.step` and its instances: a first visit in the arrangement `k`, a last
visit, the visits that schedule out of line).

One handler call is described three times, for three invariants: `PhaseStep` (Lemmas/BuildTotalStep.lean: what happens to the
ghost phases, for `Inv`), `Step` (Lemmas/BuildSeqInv.lean: the same facts about the phases once more, with the work list and the
metadata records, for `SInv`; `Conf` collects its fields that say that the pushed arrangement agrees with `layout`), `StepL`
(Lemmas/BuildLifo4.lean: a `Step`, field `st`, with what happens to `root_stack` and the build nodes, for `LInv`).  `PreL.step`
produces all three from one list of side conditions.
-/
import Garnish.Lemmas.BuildLifoInv
namespace Garnish.Lemmas.BuildSeq
open Garnish Garnish.Gen Garnish.Model.Parser Garnish.Model.Literals Garnish.Model.Build Garnish.Lemmas.Build
open Garnish.Lemmas.BuildTotal
open Garnish.Lemmas.BuildPlan (armNode)
open Garnish.Lemmas.BuildOrder (Above Attr Moving)
open Garnish.Lemmas.BuildAttr (assign_some emits)

variable {F : Type} {root : Nat} {tree : Array ParseNode} {G : Nat → Prop} {m0 : Nat}
variable {ph : Nat → Phase} {ctx : Ctx F} {ni : Nat} {pn : ParseNode}

theorem assign_mem : ∀ (asg : List (Nat × BuildNode)) (nodes : Nodes) (c : Nat) (b : BuildNode), (c, b) ∈ asg → c < nodes.size →
    ∃ b', (assign nodes asg)[c]? = some (some b') := by
  intro asg
  induction asg with
  | nil => intro nodes c b h; cases h
  | cons p rest ih =>
    intro nodes c b h hlt
    obtain ⟨i, b0⟩ := p
    simp only [assign, List.foldl_cons] at ih ⊢
    rcases List.mem_cons.1 h with e | e
    · cases e
      exact assign_some rest (putNode nodes c b) c b (by rw [getElem?_putNode, if_pos rfl, if_pos hlt])
    · exact ih (putNode nodes i b0) c b e (by rw [size_putNode]; exact hlt)

/-- the phase update of `step_inv_exp` with what it does to `root_stack` and the build nodes -/
theorem mkStepL {ph : Nat → Phase} {ctx ctx' : Ctx F} {ni : Nat} {pn : ParseNode} {vni : Phase} {cs rs suf : List Nat}
    {l : List (Option Nat)} {M M' : Array (Option Nat)}
    (st : Step root tree G ph (stepPhase ph ni vni cs rs) ctx ctx' ni pn vni cs rs suf l M M')
    (asg : List (Nat × BuildNode)) (hN : ctx'.nodes = assign ctx.nodes asg)
    (hR : ctx'.rootStack.toList = ctx.rootStack.toList ++ rs)
    (hdisj : ∀ c, c ∈ cs → c ∉ rs) (hrs3 : rs ≠ [] → vni = .p3)
    (hall : ph ni = .p1 → ∀ c, ILink tree ni c → c ∈ cs)
    (hrs0 : ∀ c, c ∈ rs → ph c = .p0 ∧ pn.right = some c)
    (hdirect : rs ≠ [] → ∀ (bn : BuildNode), ctx.nodes[ni]? = some (some bn) →
      isDirect pn.definition = true ∨ (isJumpIf pn.definition = true ∧ bn.conditionalParent = none))
    (hlast : vni = .p3 → ∀ (r : Nat) (bn : BuildNode), pn.right = some r → ctx.nodes[ni]? = some (some bn) →
      ((isDirect pn.definition = true ∨ (isJumpIf pn.definition = true ∧ bn.conditionalParent = none)) → r ∈ rs) ∧
      (isJumpIf pn.definition = true → ∀ (cp : Nat) (parent : BuildNode), bn.conditionalParent = some cp →
        ctx.nodes[cp]? = some (some parent) → False))
    (helse : vni = .p3 → pn.definition = .elseJump → ∀ (bn : BuildNode), ctx.nodes[ni]? = some (some bn) →
      bn.conditionalParent = none → rs = itemsOf bn)
    (hnoNode : ∀ c, c ∈ cs ++ rs → ∀ (bn : BuildNode), ctx.nodes[c]? ≠ some (some bn))
    (hlt : ∀ c, c ∈ cs ++ rs → c < ctx.nodes.size)
    (hasgkeys : ∀ q, q ∈ asg → q.1 = ni ∨ q.1 ∈ cs ++ rs)
    (hasgall : ∀ c, c ∈ cs ++ rs → ∃ b, (c, b) ∈ asg)
    (hasgni : ∀ q, q ∈ asg → q.1 = ni → ∃ bn : BuildNode, ctx.nodes[ni]? = some (some bn) ∧
      q.2.conditionalParent = bn.conditionalParent ∧ q.2.conditionalItems = bn.conditionalItems)
    (hasgnew : ∀ q, q ∈ asg → q.1 ≠ ni → q.2.conditionalItems = #[] ∧ CPdyn tree G root q.1 q.2.conditionalParent)
    (hgroup : pn.definition = .group → some ni ∉ l) :
    StepL root tree G ph (stepPhase ph ni vni cs rs) ctx ctx' ni pn vni cs rs suf rs l M M' := by
  have hrspr : ∀ c, c ∈ rs → stepPhase ph ni vni cs rs c = .pr := by
    intro c hc
    have h1 : c ≠ ni := (st.hfreshrs c hc).2
    have h2 : c ∉ cs := fun h => hdisj c h hc
    simp [stepPhase, h1, h2, hc]
  refine ⟨st, hR, fun c => ⟨fun h => ⟨h, hrspr c h⟩, fun h => h.1⟩, fun c hc => Or.inl (hrspr c hc), hrs3, hall,
    fun c hc => Or.inl (hrs0 c hc), fun c hc _ _ bn hn => hdirect (List.ne_nil_of_mem hc) bn hn, ?_, ?_, helse, ?_, ?_, ?_, ?_, hgroup⟩
  · intro c cp hc hp
    rw [hrspr c hc] at hp; cases hp
  · intro hv3 r bn hr hn
    obtain ⟨h1, h2⟩ := hlast hv3 r bn hr hn
    exact ⟨fun h => ⟨h1 h, hrspr r (h1 h)⟩, fun hj cp parent hcp hpar => absurd (h2 hj cp parent hcp hpar) id⟩
  · intro x bn' hb' ⟨bn0, hb0⟩
    rw [hN] at hb'
    rcases assign_get asg ctx.nodes x _ hb' with ⟨b, hb, hvb⟩ | ⟨hold, _⟩
    · cases hvb
      rcases hasgkeys _ hb with h | h
      · obtain ⟨bn, g1, g2, g3⟩ := hasgni _ hb h
        have hx : x = ni := h
        subst hx
        have g3' : bn'.conditionalItems = bn.conditionalItems := g3
        exact ⟨bn, g1, g2, Or.inl (by simp [itemsOf, g3'])⟩
      · exact absurd hb0 (hnoNode x h bn0)
    · exact ⟨bn', hold, rfl, Or.inl rfl⟩
  · intro x bn' hb' hno
    rw [hN] at hb'
    rcases assign_get asg ctx.nodes x _ hb' with ⟨b, hb, hvb⟩ | ⟨hold, _⟩
    · cases hvb
      have hxn : x ≠ ni := by
        intro e
        obtain ⟨bn, g1, _⟩ := hasgni _ hb e
        exact hno bn (e ▸ g1)
      have hmem : x ∈ cs ++ rs := by
        rcases hasgkeys _ hb with h | h
        · exact absurd h hxn
        · exact h
      obtain ⟨g1, g2⟩ := hasgnew _ hb hxn
      have g1' : bn'.conditionalItems = #[] := g1
      refine ⟨?_, by simp [itemsOf, g1'], g2⟩
      rcases List.mem_append.1 hmem with h | h
      · exact Or.inl h
      · exact Or.inr ⟨h, hrspr x h⟩
    · exact absurd hold (hno bn')
  · intro x bn hb
    rw [hN]; exact assign_some asg ctx.nodes x bn hb
  · intro c hc
    have hmem : c ∈ cs ++ rs := by
      rcases hc with h | ⟨h, _⟩
      · exact List.mem_append_left _ h
      · exact List.mem_append_right _ h
    obtain ⟨b, hb⟩ := hasgall c hmem
    rw [hN]; exact assign_mem asg ctx.nodes c b hb (hlt c hmem)

/-- `handle_jump_if`, second visit under a conditional parent: the arm is recorded at the parent -/
theorem mkStepL_cond {ph : Nat → Phase} {ctx ctx' : Ctx F} {ni : Nat} {pn : ParseNode} {r cp : Nat} {l : List (Option Nat)}
    {M M' : Array (Option Nat)}
    (st : Step root tree G ph (condPhase ph ni r cp) ctx ctx' ni pn .p3 [] [r] [] l M M')
    (hr : pn.right = some r) (hj : isJumpIf pn.definition = true) {node parent : BuildNode}
    (hnode : ctx.nodes[ni]? = some (some node)) (hcpn : node.conditionalParent = some cp)
    (hcp : ctx.nodes[cp]? = some (some parent)) (item : ConditionItem) (hitem : item.nodeIndex = r)
    (hR : ctx'.rootStack = ctx.rootStack)
    (hN : ctx'.nodes = putNode ctx.nodes cp { parent with conditionalItems := parent.conditionalItems.push item })
    (hp2 : ph ni ≠ .p1) (hr0 : ph r = .p0) :
    StepL root tree G ph (condPhase ph ni r cp) ctx ctx' ni pn .p3 [] [r] [] [] l M M' := by
  have hrn : r ≠ ni := (st.hfreshrs r (by simp)).2
  have hr' : condPhase ph ni r cp r = .pc cp := by simp [condPhase, hrn]
  have hcplt := lt_of_getElem? hcp
  have hget : ctx'.nodes[cp]? = some (some { parent with conditionalItems := parent.conditionalItems.push item }) := by
    rw [hN, getElem?_putNode, if_pos rfl, if_pos hcplt]
  have hmem : ∀ c, c ∈ [r] → c = r := fun c hc => by simpa using hc
  refine ⟨st, by rw [hR]; simp, fun c => ⟨(fun h => by cases h), (fun h => ?_)⟩, (fun c hc => Or.inr ⟨cp, by rw [hmem c hc]; exact hr'⟩),
    fun _ => rfl, (fun h => absurd h hp2), (fun c hc => Or.inl (by rw [hmem c hc]; exact ⟨hr0, hr⟩)), ?_, ?_, ?_, ?_, ?_, ?_, ?_, ?_,
    (fun h => by rw [h] at hj; simp [isJumpIf] at hj)⟩
  · have := hmem c h.1
    rw [this, hr'] at h; cases h.2
  · intro c hc _ hp
    rw [hmem c hc, hr'] at hp; cases hp
  · intro c cp' hc hp
    rw [hmem c hc, hr'] at hp
    cases hp
    exact ⟨hj, node, parent, hnode, hcpn, hcp, _, hget, by rw [hmem c hc]; simp [itemsOf, hitem]⟩
  · intro _ r' bn hr'' hn
    rw [hr] at hr''; cases hr''
    rw [hnode] at hn; cases hn
    refine ⟨fun h => ?_, fun _ cp' parent' hc' _ => ?_⟩
    · rcases h with h | ⟨_, h⟩
      · rw [jumpIf_not_direct hj] at h; cases h
      · rw [hcpn] at h; cases h
    · rw [hcpn] at hc'; cases hc'
      exact ⟨by simp, hr'⟩
  · intro _ hd
    exact absurd hd (jumpIf_not_else hj)
  · intro x bn' hb' _
    rcases get_putNode_some (hN ▸ hb') with ⟨rfl, rfl⟩ | ⟨_, hb'⟩
    · exact ⟨parent, hcp, rfl, Or.inr ⟨r, by simp, hr', by simp [itemsOf, hitem]⟩⟩
    · exact ⟨bn', hb', rfl, Or.inl rfl⟩
  · intro x bn' hb' hno
    rcases get_putNode_some (hN ▸ hb') with ⟨rfl, _⟩ | ⟨_, hb'⟩
    · exact absurd hcp (hno parent)
    · exact absurd hb' (hno bn')
  · intro x bn hb
    rcases Classical.em (cp = x) with e | e
    · subst e; exact ⟨_, hget⟩
    · rw [hN, getElem?_putNode, if_neg e]; exact ⟨bn, hb⟩
  · intro c hc
    rcases hc with h | ⟨h, h'⟩
    · cases h
    · rw [hmem c h, hr'] at h'; cases h'

/-- the head of an else-chain releases its arms -/
theorem mkStepL_else {ph : Nat → Phase} {ctx ctx' : Ctx F} {ni : Nat} {pn : ParseNode} {node : BuildNode} {l : List (Option Nat)}
    {M M' : Array (Option Nat)}
    (st : Step root tree G ph (elsePhase ph ni (node.conditionalItems.toList.map (·.nodeIndex))) ctx ctx' ni pn .p3 []
      (node.conditionalItems.toList.map (·.nodeIndex)) [] l M M')
    (hdef : pn.definition = .elseJump) (hnode : ctx.nodes[ni]? = some (some node)) (hcpn : node.conditionalParent = none)
    (containing jumpToIndex : Nat)
    (hR : ctx'.rootStack.toList = ctx.rootStack.toList ++ node.conditionalItems.toList.map (·.nodeIndex))
    (hN : ctx'.nodes = assign ctx.nodes (node.conditionalItems.toList.map fun it => (it.nodeIndex, armNode containing jumpToIndex it)))
    (hp2 : ph ni ≠ .p1)
    (hidx : ∀ x, x ∈ node.conditionalItems.toList.map (·.nodeIndex) → ph x = .pc ni ∧ x ≠ ni ∧ x < ctx.nodes.size ∧
      NCP tree G root x ∧ ∀ (bn : BuildNode), ctx.nodes[x]? ≠ some (some bn)) :
    StepL root tree G ph (elsePhase ph ni (node.conditionalItems.toList.map (·.nodeIndex))) ctx ctx' ni pn .p3 []
      (node.conditionalItems.toList.map (·.nodeIndex)) [] (node.conditionalItems.toList.map (·.nodeIndex)) l M M' := by
  have hpr : ∀ c, c ∈ node.conditionalItems.toList.map (·.nodeIndex) →
      elsePhase ph ni (node.conditionalItems.toList.map (·.nodeIndex)) c = .pr := by
    intro c hc
    have := (hidx c hc).2.1
    simp [elsePhase, this, hc]
  have hnj : isJumpIf pn.definition = false := by rw [hdef]; rfl
  have hnd : isDirect pn.definition = false := by rw [hdef]; rfl
  have hkey : ∀ q, q ∈ node.conditionalItems.toList.map (fun it => (it.nodeIndex, armNode containing jumpToIndex it)) →
      q.1 ∈ node.conditionalItems.toList.map (·.nodeIndex) ∧ q.2.conditionalItems = #[] ∧ q.2.conditionalParent = none := by
    intro q hq
    obtain ⟨it, hit, he⟩ := List.mem_map.1 hq
    subst he
    exact ⟨List.mem_map.2 ⟨it, hit, rfl⟩, rfl, rfl⟩
  refine ⟨st, hR, fun c => ⟨fun h => ⟨h, hpr c h⟩, fun h => h.1⟩, fun c hc => Or.inl (hpr c hc), fun _ => rfl,
    fun h => absurd h hp2, fun c hc => Or.inr ⟨(hidx c hc).1, hdef, hpr c hc, fun bn hn => ?_⟩, ?_, ?_, ?_, ?_, ?_, ?_, ?_, ?_,
    (fun h => by rw [hdef] at h; cases h)⟩
  · rw [hnode] at hn; cases hn; exact hcpn
  · intro c hc h0
    rw [(hidx c hc).1] at h0; cases h0
  · intro c cp hc hp
    rw [hpr c hc] at hp; cases hp
  · intro _ r bn _ _
    refine ⟨fun h => ?_, fun h => ?_⟩
    · rcases h with h | ⟨h, _⟩
      · rw [hnd] at h; cases h
      · rw [hnj] at h; cases h
    · rw [hnj] at h; cases h
  · intro _ _ bn hn _
    rw [hnode] at hn; cases hn; rfl
  · intro x bn' hb' ⟨bn0, hb0⟩
    rw [hN] at hb'
    rcases assign_get _ ctx.nodes x _ hb' with ⟨b, hb, hvb⟩ | ⟨hold, _⟩
    · exact absurd hb0 ((hidx x (hkey _ hb).1).2.2.2.2 bn0)
    · exact ⟨bn', hold, rfl, Or.inl rfl⟩
  · intro x bn' hb' hno
    rw [hN] at hb'
    rcases assign_get _ ctx.nodes x _ hb' with ⟨b, hb, hvb⟩ | ⟨hold, _⟩
    · cases hvb
      obtain ⟨h1, h2, h3⟩ := hkey _ hb
      have h2' : bn'.conditionalItems = #[] := h2
      have h3' : bn'.conditionalParent = none := h3
      refine ⟨Or.inr ⟨h1, hpr x h1⟩, by simp [itemsOf, h2'], ?_⟩
      rw [h3']; exact (hidx x h1).2.2.2.1
    · exact absurd hold (hno bn')
  · intro x bn hb
    rw [hN]; exact assign_some _ ctx.nodes x bn hb
  · intro c hc
    rcases hc with h | ⟨h, _⟩
    · cases h
    · obtain ⟨it, hit, he⟩ := List.mem_map.1 h
      rw [hN]
      exact assign_mem _ ctx.nodes c (armNode containing jumpToIndex it)
        (List.mem_map.2 ⟨it, hit, by simp [he]⟩) (hidx c h).2.2.1

/-- what holds when a handler is called for the node `ni` (popped from `stack`): `Pre` of Lemmas/BuildTotalHandlers (validated
tree, ghost phases `ph`, `ni` in its first or second visit), the order invariant `FInv` with `ni` still counted on top of the work
list, and `LInv`; `m0` is the number of metadata records before this build: only records from `m0` on are spoken of -/
structure PreL (root : Nat) (tree : Array ParseNode) (G : Nat → Prop) (m0 : Nat) (ph : Nat → Phase) (ctx : Ctx F) (ni : Nat)
    (pn : ParseNode) : Prop where
  pre : Pre root tree G ph ctx ni pn
  inv : FInv root tree G m0 ph (ctx.stack.toList ++ [ni]) ctx.nodes ctx.data.metadata
  linv : LInv root tree G m0 ph ctx.nodes ctx.rootStack.toList ctx.data.metadata

/-- what a handler establishes: new ghost phases with a smaller measure (`total`), and all three invariants again -/
def PostL (root : Nat) (tree : Array ParseNode) (G : Nat → Prop) (m0 : Nat) (ph : Nat → Phase) (ctx' : Ctx F) : Prop :=
  ∃ ph', Inv root tree G ph' ctx' ∧ total ph' tree.size < total ph tree.size ∧
    FInv root tree G m0 ph' ctx'.stack.toList ctx'.nodes ctx'.data.metadata ∧
    LInv root tree G m0 ph' ctx'.nodes ctx'.rootStack.toList ctx'.data.metadata

theorem oolR_not_else {d : Definition} (h : oolR d = true) : d ≠ .elseJump := by
  intro e; subst e; simp [oolR, isLate] at h

theorem PreL.notP1 (p : PreL root tree G m0 ph ctx ni pn) {node : BuildNode} (hnode : ctx.nodes[ni]? = some (some node))
    (hst : node.state = .initialized) : ph ni ≠ .p1 := by
  intro h
  have := p.inv.1.uninit ni node hnode (Or.inl h)
  rw [hst] at this; cases this

/-- the conditional parent named by the build node has a build node itself (it is in its second visit): `handle_jump_if` never
finds the slot empty and drops the arm -/
theorem PreL.cpNode (p : PreL root tree G m0 ph ctx ni pn) {node : BuildNode} (hnode : ctx.nodes[ni]? = some (some node)) {cp : Nat}
    (hcp : node.conditionalParent = some cp) : ∃ parent : BuildNode, ctx.nodes[cp]? = some (some parent) := by
  have hdyn := p.linv.cpOk ni node hnode
  rw [hcp] at hdyn
  have h2 := cp_head_p2 p.pre.V p.pre.inv p.inv.1 p.pre.hph hdyn
  exact p.linv.hasNode cp (by rw [h2]; nofun) (fun o h => by rw [h2] at h; cases h)

theorem PreL.ncp (p : PreL root tree G m0 ph ctx ni pn) {c : Nat} (hc : pn.left = some c ∨ pn.right = some c)
    (hne : pn.definition ≠ .elseJump) (hnl : ¬ (isLogical pn.definition = true ∧ pn.left = some c)) : NCP tree G root c :=
  NCP.other p.pre.hG p.pre.hpn hc hne hnl

/-- one visit described by the phase `vni` it leaves the node in, the children `cs` / `rs` it schedules on `stack` / as roots,
the assignments `asg` and the metadata records `l`: the three invariants hold again.  (`step_inv_exp`, `mkStep`, `mkStepL`
and the two step lemmas, with every side condition stated once.) -/
theorem PreL.step (p : PreL root tree G m0 ph ctx ni pn) {ctx' : Ctx F} (vni : Phase) (hv : vni = .p2 ∨ vni = .p3)
    (hv2 : vni = .p2 → ph ni = .p1 ∧ pn.definition ≠ .group ∧ pn.definition ≠ .nestedExpression)
    (cs rs suf : List Nat) (asg : List (Nat × BuildNode)) (l : List (Option Nat))
    (hS : ctx'.stack.toList = ctx.stack.toList ++ suf) (hR : ctx'.rootStack.toList = ctx.rootStack.toList ++ rs)
    (hN : ctx'.nodes = assign ctx.nodes asg)
    (hM : ctx'.data.metadata.toList = ctx.data.metadata.toList ++ l) (hl : ∀ m, m ∈ l → m = none ∨ m = some ni)
    (hsuf : ∀ x, x ∈ suf ↔ (x = ni ∧ vni = .p2) ∨ x ∈ cs) (hsufN : ni ∉ cs → cs.Nodup → suf.Nodup) (hcr : (cs ++ rs).Nodup)
    (hchild : ∀ c, c ∈ cs ++ rs → IsChild tree ni c ∧ (LateRight tree ni c → vni = .p3) ∧ (ph ni = .p2 → LateRight tree ni c))
    (hasg : ∀ q, q ∈ asg → q.2.parseNodeIndex = q.1 ∧
      ((q.1 = ni ∧ (vni = .p2 → q.2.state = .initialized) ∧ ∃ bn, ctx.nodes[ni]? = some (some bn) ∧
          q.2.conditionalItems = bn.conditionalItems ∧ q.2.conditionalParent = bn.conditionalParent) ∨
       (q.1 ∈ cs ++ rs ∧ q.2.state = .uninitialized ∧ q.2.conditionalItems = #[] ∧
          CPdyn tree G root q.1 q.2.conditionalParent)))
    (hasgni : vni = .p2 → ∃ b, (ni, b) ∈ asg) (hasgall : ∀ c, c ∈ cs ++ rs → ∃ b, (c, b) ∈ asg)
    (hcs1 : cs ≠ [] → ph ni = .p1) (conf : Conf tree ni vni cs suf)
    (hattr : some ni ∈ l → vni = .p3 ∨ pn.definition = .sideEffect) (hse : pn.definition = .sideEffect → some ni ∈ l)
    (hemit : vni = .p3 → emits pn.definition = true → some ni ∈ l) (hgroup : pn.definition = .group → some ni ∉ l)
    (hool : ∀ c, c ∈ rs → pn.right = some c ∧ oolR pn.definition = true) (hrs3 : rs ≠ [] → vni = .p3)
    (hall : ph ni = .p1 → ∀ c, ILink tree ni c → c ∈ cs)
    (hdirect : rs ≠ [] → ∀ (bn : BuildNode), ctx.nodes[ni]? = some (some bn) →
      isDirect pn.definition = true ∨ (isJumpIf pn.definition = true ∧ bn.conditionalParent = none))
    (hlast : vni = .p3 → ∀ (r : Nat) (bn : BuildNode), pn.right = some r → ctx.nodes[ni]? = some (some bn) →
      ((isDirect pn.definition = true ∨ (isJumpIf pn.definition = true ∧ bn.conditionalParent = none)) → r ∈ rs) ∧
      (isJumpIf pn.definition = true → ∀ (cp : Nat) (parent : BuildNode), bn.conditionalParent = some cp →
        ctx.nodes[cp]? = some (some parent) → False))
    (helse : vni = .p3 → pn.definition = .elseJump → ∀ (bn : BuildNode), ctx.nodes[ni]? = some (some bn) →
      bn.conditionalParent = none → rs = itemsOf bn) :
    PostL root tree G m0 ph ctx' := by
  have hfr := children_fresh p.pre.V p.pre.inv p.pre.hG p.pre.hph (cs ++ rs) hchild
  have h1 := step_inv_exp p.pre.V p.pre.inv p.pre.hG p.pre.hph p.pre.hns p.pre.hpn vni hv hv2 cs rs suf rs asg hS hR hN
    (fun x hx => (hsuf x).1 hx) hsufN (fun _ h => h) (fun h => h) hcr hchild (fun q hq => (hasg q hq).1)
    (fun q hq => (hasg q hq).2.imp (fun ⟨a, b, bn, c, d, _⟩ => ⟨a, b, bn, c, d⟩) fun ⟨a, _, c, _⟩ => ⟨a, c⟩) hasgni
  have st := mkStep (M := ctx.data.metadata) (M' := ctx'.data.metadata) p.pre.V p.pre.inv p.pre.hG p.pre.hph p.pre.hpn vni hv
    (fun h => (hv2 h).1) cs rs suf asg l hS hN hM hl (fun h => (hsuf ni).2 (Or.inl ⟨rfl, h⟩)) (fun c hc => (hsuf c).2 (Or.inr hc))
    h1.1.stackNodup hcr hchild (fun q hq => (hasg q hq).2.imp And.left fun ⟨a, b, _⟩ => ⟨a, b⟩) hasgall hcs1 conf hattr hse
    (fun c hc => ⟨pn, p.pre.hpn, hool c hc⟩)
  have hni : ∀ q, q ∈ asg → q.1 ∈ cs ++ rs → q.1 ≠ ni := fun q _ hm => (hfr q.1 hm).2.2.1
  have sl := mkStepL st asg hN hR (hdisj := fun c hc hr => (List.nodup_append.1 hcr).2.2 c hc c hr rfl) hrs3 hall
    (hrs0 := fun c hc => ⟨(hfr c (List.mem_append_right _ hc)).1, (hool c hc).1⟩) hdirect hlast helse
    (hnoNode := fun c hc bn => p.linv.noNode c (Or.inl (hfr c hc).1) bn) (hlt := fun c hc => p.pre.child_lt (hfr c hc).2.2.2)
    (hasgkeys := fun q hq => (hasg q hq).2.imp And.left And.left) hasgall
    (hasgni := fun q hq hqn => by
      rcases (hasg q hq).2 with ⟨_, _, bn, a, b, c⟩ | ⟨hm, _⟩
      · exact ⟨bn, a, c, b⟩
      · exact absurd hqn (hni q hq hm))
    (hasgnew := fun q hq hqn => by
      rcases (hasg q hq).2 with ⟨e, _⟩ | ⟨_, _, a, b⟩
      · exact absurd e hqn
      · exact ⟨a, b⟩)
    hgroup
  exact ⟨_, h1.1, h1.2, step_finv st hemit p.inv, stepL_linv sl p.inv.1 p.linv⟩

/-- a first visit in the arrangement `k` of the handler: the node is marked `Initialized`, the in-line children `csOf k` get
the fresh build nodes `kids`, and `sufOf k` is pushed on the work list -/
theorem PreL.firstVisitLay (p : PreL root tree G m0 ph ctx ni pn) {ctx' : Ctx F} {node : BuildNode}
    (hnode : ctx.nodes[ni]? = some (some node)) (hst : node.state = .uninitialized)
    {k : Lay} (hk : layout pn.definition = k) (hkn : k ≠ .gr ∧ k ≠ .none) {ol or_ : Option Nat} (hol : pn.left = ol)
    (hor : pn.right = or_) (nb : BuildNode) (kids : List (Nat × BuildNode)) (l : List (Option Nat))
    (hM : ctx'.data.metadata.toList = ctx.data.metadata.toList ++ l) (hl : ∀ m, m ∈ l → m = none ∨ m = some ni)
    (hS : ctx'.stack.toList = ctx.stack.toList ++ sufOf k ni ol or_) (hR : ctx'.rootStack = ctx.rootStack)
    (hN : ctx'.nodes = assign ctx.nodes ((ni, nb) :: kids)) (hkeys : kids.map (·.1) = csOf k ol or_)
    (hnb : nb.parseNodeIndex = ni ∧ nb.state = .initialized ∧ nb.conditionalItems = node.conditionalItems ∧
      nb.conditionalParent = node.conditionalParent)
    (hf : ∀ q, q ∈ kids → q.2.parseNodeIndex = q.1 ∧ q.2.state = .uninitialized ∧ q.2.conditionalItems = #[] ∧
      CPdyn tree G root q.1 q.2.conditionalParent)
    (hattr : some ni ∈ l → pn.definition = .sideEffect) (hse : pn.definition = .sideEffect → some ni ∈ l) :
    PostL root tree G m0 ph ctx' := by
  have hp1 := p.pre.p1 hnode hst
  have hd : pn.definition ≠ .group ∧ pn.definition ≠ .nestedExpression := by
    subst hk; exact ⟨fun e => hkn.1 (by rw [e]; rfl), fun e => hkn.2 (by rw [e]; rfl)⟩
  have hperm := sufOf_perm hkn ni ol or_
  -- `step_inv_exp`, `mkStep` and `mkStepL` speak of `cs ++ rs` (in-line and out-of-line children); here `rs = []`
  have hcs : (csOf k ol or_ ++ []).Nodup := by
    rw [List.append_nil]
    exact csOf_nodup k (fun l r hl hr => p.pre.lr_ne (hol.trans hl) (hor.trans hr))
  have happ : ∀ c, c ∈ csOf k ol or_ ++ [] → c ∈ csOf k ol or_ := fun c hc => by rwa [List.append_nil] at hc
  -- an in-line child is not the late right child
  have hchild : ∀ c, c ∈ csOf k ol or_ ++ [] → IsChild tree ni c ∧ (LateRight tree ni c → Phase.p2 = .p3) ∧
      (ph ni = .p2 → LateRight tree ni c) := by
    intro c hc
    have hic := p.pre.inline_child (c := c) (by subst hk hol hor; exact happ c hc)
    exact ⟨hic.1, fun hl => absurd hl hic.2, fun h => by rw [hp1] at h; cases h⟩
  have hkid : ∀ q, q ∈ kids → q.1 ∈ csOf k ol or_ ++ [] := fun q hq => by
    rw [List.append_nil, ← hkeys]; exact List.mem_map_of_mem hq
  refine p.step .p2 (Or.inl rfl) (fun _ => ⟨hp1, hd⟩) (csOf k ol or_) [] (sufOf k ni ol or_) ((ni, nb) :: kids) l hS
    (by rw [hR]; simp) hN hM hl (fun x => by simp [hperm.mem_iff]) (fun h1 h2 => hperm.nodup_iff.2 (List.nodup_cons.2 ⟨h1, h2⟩))
    hcs hchild (fun q hq => ?_) (fun _ => ⟨nb, List.mem_cons_self⟩) (fun c hc => ?_) (fun _ => hp1)
    (conf_layout p.pre.hpn hol hor hk .p2 (fun _ => rfl)) (fun h => Or.inr (hattr h)) hse (fun h => nomatch h)
    (fun h => absurd h hd.1) (fun _ hc => nomatch hc) (fun h => absurd rfl h)
    (fun _ c => (ilink_iff_csOf p.pre.hpn hol hor hk).1) (fun h => absurd rfl h) (fun h => nomatch h) (fun h => nomatch h)
  · rcases List.mem_cons.1 hq with e | hq
    · subst e; exact ⟨hnb.1, Or.inl ⟨rfl, fun _ => hnb.2.1, node, hnode, hnb.2.2⟩⟩
    · exact ⟨(hf q hq).1, Or.inr ⟨hkid q hq, (hf q hq).2⟩⟩
  · rw [List.append_nil, ← hkeys] at hc
    obtain ⟨q, hq, rfl⟩ := List.mem_map.1 hc
    exact ⟨q.2, List.mem_cons_of_mem _ hq⟩

/-- a last visit that schedules nothing; it may rewrite the node's own build node -/
theorem PreL.lastVisit (p : PreL root tree G m0 ph ctx ni pn) {ctx' : Ctx F} (asg : List (Nat × BuildNode))
    (l : List (Option Nat))
    (hM : ctx'.data.metadata.toList = ctx.data.metadata.toList ++ l) (hl : ∀ m, m ∈ l → m = none ∨ m = some ni)
    (hS : ctx'.stack = ctx.stack) (hR : ctx'.rootStack = ctx.rootStack) (hN : ctx'.nodes = assign ctx.nodes asg)
    (hasg : ∀ q, q ∈ asg → q.2.parseNodeIndex = q.1 ∧ q.1 = ni ∧ ∃ bn, ctx.nodes[ni]? = some (some bn) ∧
      q.2.conditionalItems = bn.conditionalItems ∧ q.2.conditionalParent = bn.conditionalParent)
    (hse : pn.definition = .sideEffect → some ni ∈ l) (hemit : emits pn.definition = true → some ni ∈ l)
    (hnl1 : ph ni = .p1 → ∀ c, ¬ ILink tree ni c)
    (hlast : ∀ (r : Nat) (bn : BuildNode), pn.right = some r → ctx.nodes[ni]? = some (some bn) →
      ((isDirect pn.definition = true ∨ (isJumpIf pn.definition = true ∧ bn.conditionalParent = none)) → False) ∧
      (isJumpIf pn.definition = true → ∀ (cp : Nat) (parent : BuildNode), bn.conditionalParent = some cp →
        ctx.nodes[cp]? = some (some parent) → False))
    (helse : pn.definition = .elseJump → ∀ (bn : BuildNode), ctx.nodes[ni]? = some (some bn) → bn.conditionalParent = none →
      [] = itemsOf bn)
    (hgr : pn.definition = .group → some ni ∉ l) : PostL root tree G m0 ph ctx' :=
  p.step .p3 (Or.inr rfl) (fun h => nomatch h) [] [] [] asg l (by rw [hS]; simp) (by rw [hR]; simp) hN hM hl (fun x => by simp)
    (fun _ _ => List.nodup_nil) List.nodup_nil (fun _ hc => nomatch hc)
    (fun q hq => ⟨(hasg q hq).1, Or.inl ⟨(hasg q hq).2.1, fun h => (nomatch h), (hasg q hq).2.2⟩⟩) (fun h => nomatch h)
    (fun _ hc => nomatch hc) (fun h => absurd rfl h) (conf_nil tree ni .p3 []) (fun _ => Or.inl rfl) hse (fun _ => hemit) hgr
    (fun _ hc => nomatch hc) (fun h => absurd rfl h) (fun h c hc => absurd hc (hnl1 h c)) (fun h => absurd rfl h)
    (fun _ r bn hr hn => ⟨fun h => absurd h (hlast r bn hr hn).1, (hlast r bn hr hn).2⟩) (fun _ => helse)

/-- a last visit that makes the right child, which is emitted out of line, a pending root -/
theorem PreL.rootVisit (p : PreL root tree G m0 ph ctx ni pn) {ctx' : Ctx F} {r : Nat} (hr : pn.right = some r)
    (hlate : ph ni = .p2 → isLate pn.definition = true) (hoolr : oolR pn.definition = true)
    (b : BuildNode) (hb : b.parseNodeIndex = r) (hbi : b.conditionalItems = #[]) (hbu : b.state = .uninitialized)
    (hbc : b.conditionalParent = none)
    (l : List (Option Nat))
    (hM : ctx'.data.metadata.toList = ctx.data.metadata.toList ++ l) (hl : ∀ m, m ∈ l → m = none ∨ m = some ni)
    (hemit : some ni ∈ l)
    (hS : ctx'.stack = ctx.stack) (hR : ctx'.rootStack = ctx.rootStack.push r) (hN : ctx'.nodes = putNode ctx.nodes r b)
    (hnl1 : ph ni = .p1 → ∀ c, ¬ ILink tree ni c)
    (hdirect : ∀ (bn : BuildNode), ctx.nodes[ni]? = some (some bn) →
      isDirect pn.definition = true ∨ (isJumpIf pn.definition = true ∧ bn.conditionalParent = none)) :
    PostL root tree G m0 ph ctx' := by
  have hncp : NCP tree G root r :=
    p.ncp (Or.inr hr) (oolR_not_else hoolr) (fun ⟨_, hleft⟩ => p.pre.lr_ne hleft hr rfl)
  refine p.step .p3 (Or.inr rfl) (fun h => nomatch h) [] [r] [] [(r, b)] l (by rw [hS]; simp) (by rw [hR]; simp) (by rw [hN]; rfl)
    hM hl (fun x => by simp) (fun _ _ => List.nodup_nil) (List.pairwise_singleton _ _)
    (List.forall_mem_singleton.2 ⟨p.pre.childR hr, fun _ => rfl, fun h2 => p.pre.lateRight (hlate h2) hr⟩)
    (List.forall_mem_singleton.2 ⟨hb, Or.inr ⟨List.mem_singleton.2 rfl, hbu, hbi, by rw [hbc]; exact hncp⟩⟩) (fun h => nomatch h)
    (List.forall_mem_singleton.2 ⟨b, List.mem_singleton.2 rfl⟩) (fun h => absurd rfl h) (conf_nil tree ni .p3 [])
    (fun _ => Or.inl rfl) (fun h => absurd h (oolR_not_sideEffect hoolr)) (fun _ _ => hemit)
    (fun h => by rw [h] at hoolr; cases hoolr) (List.forall_mem_singleton.2 ⟨hr, hoolr⟩) (fun _ => rfl)
    (fun h c hc => absurd hc (hnl1 h c)) (fun _ => hdirect) (fun _ r' bn hr' hn => ?_) (fun _ hd => absurd hd (oolR_not_else hoolr))
  rw [hr] at hr'; cases hr'
  refine ⟨fun _ => List.mem_singleton.2 rfl, fun hj cp parent hcp _ => ?_⟩
  rcases hdirect bn hn with h | ⟨_, h⟩
  · rw [jumpIf_not_direct hj] at h; cases h
  · rw [h] at hcp; cases hcp

/-- the visit of a Group: its child takes its place on the work list -/
theorem PreL.stackVisit (p : PreL root tree G m0 ph ctx ni pn) {ctx' : Ctx F} {r : Nat} (hr : pn.right = some r)
    (hp1 : ph ni = .p1) (hdef : pn.definition = .group)
    (b : BuildNode) (hb : b.parseNodeIndex = r) (hbi : b.conditionalItems = #[]) (hbu : b.state = .uninitialized)
    (hbc : b.conditionalParent = none)
    (hD : ctx'.data = ctx.data)
    (hS : ctx'.stack = ctx.stack.push r) (hR : ctx'.rootStack = ctx.rootStack) (hN : ctx'.nodes = putNode ctx.nodes r b) :
    PostL root tree G m0 ph ctx' := by
  have hk : layout pn.definition = .gr := by rw [hdef]; rfl
  have hncp : NCP tree G root r :=
    p.ncp (Or.inr hr) (by rw [hdef]; nofun) (fun ⟨h, _⟩ => by rw [hdef] at h; cases h)
  exact p.step .p3 (Or.inr rfl) (fun h => nomatch h) [r] [] [r] [(r, b)] [] (by rw [hS]; simp) (by rw [hR]; simp) (by rw [hN]; rfl)
    (by rw [hD]; simp) (fun _ hm => nomatch hm) (fun x => by simp) (fun _ h => h) (List.pairwise_singleton _ _)
    (List.forall_mem_singleton.2 ⟨p.pre.childR hr, fun _ => rfl, fun h2 => by rw [hp1] at h2; cases h2⟩)
    (List.forall_mem_singleton.2 ⟨hb, Or.inr ⟨List.mem_singleton.2 rfl, hbu, hbi, by rw [hbc]; exact hncp⟩⟩) (fun h => nomatch h)
    (List.forall_mem_singleton.2 ⟨b, List.mem_singleton.2 rfl⟩) (fun _ => hp1)
    (conf_layout p.pre.hpn rfl hr hk .p3 (fun h => absurd rfl h)) (fun h => nomatch h) (fun h => by rw [hdef] at h; cases h)
    (fun _ h => by rw [hdef] at h; exact absurd h (by decide)) (fun _ h => nomatch h) (fun _ hc => nomatch hc)
    (fun h => absurd rfl h) (fun _ c => (ilink_iff_csOf p.pre.hpn rfl hr hk).1) (fun h => absurd rfl h)
    (fun _ r' bn _ _ => by rw [hdef]; exact ⟨fun h => (by rcases h with h | ⟨h, _⟩ <;> cases h), fun h => (by cases h)⟩)
    (fun _ hd => by rw [hdef] at hd; cases hd)

theorem PreL.condVisit (p : PreL root tree G m0 ph ctx ni pn) {ctx' : Ctx F} {r : Nat} (hr : pn.right = some r)
    (hlate : isLate pn.definition = true) (hj : isJumpIf pn.definition = true) {node : BuildNode}
    (hnode : ctx.nodes[ni]? = some (some node)) (hst : node.state = .initialized)
    {cp : Nat} (hcpn : node.conditionalParent = some cp) {parent : BuildNode} (hcp : ctx.nodes[cp]? = some (some parent))
    (item : ConditionItem) (hitem : item.nodeIndex = r) (l : List (Option Nat))
    (hM : ctx'.data.metadata.toList = ctx.data.metadata.toList ++ l) (hl : ∀ m, m ∈ l → m = none ∨ m = some ni)
    (hemit : some ni ∈ l) (hS : ctx'.stack = ctx.stack) (hR : ctx'.rootStack = ctx.rootStack)
    (hN : ctx'.nodes = putNode ctx.nodes cp { parent with conditionalItems := parent.conditionalItems.push item }) :
    PostL root tree G m0 ph ctx' := by
  have h1 := cond_inv_exp p.pre.V p.pre.inv p.pre.hG p.pre.hph p.pre.hns p.pre.hpn hr hlate hcp item hitem hS hR hN
  have st := mkStep_cond (M := ctx.data.metadata) (M' := ctx'.data.metadata) p.pre.V p.pre.inv p.pre.hG p.pre.hph p.pre.hpn
    p.inv.1.nodup hr hlate hcp item l hS hN hM hl
  have hr0 : ph r = .p0 := (children_fresh p.pre.V p.pre.inv p.pre.hG p.pre.hph (vni := .p3) [r]
    (List.forall_mem_singleton.2 ⟨⟨pn, p.pre.hpn, .inr hr⟩, fun _ => rfl, fun _ => ⟨pn, p.pre.hpn, hr, hlate⟩⟩) r
    (List.mem_singleton_self r)).1
  have sl := mkStepL_cond st hr hj hnode hcpn hcp item hitem hR hN (p.notP1 hnode hst) hr0
  exact ⟨_, h1.1, h1.2, step_finv st (fun _ _ => hemit) p.inv, stepL_linv sl p.inv.1 p.linv⟩

theorem PreL.elseVisit (p : PreL root tree G m0 ph ctx ni pn) {ctx' : Ctx F} (hdef : pn.definition = .elseJump)
    {node : BuildNode} (hnode : ctx.nodes[ni]? = some (some node)) (hst : node.state = .initialized)
    (hcpn : node.conditionalParent = none) (containing jumpToIndex : Nat) (l : List (Option Nat))
    (hM : ctx'.data.metadata.toList = ctx.data.metadata.toList ++ l) (hl : ∀ m, m ∈ l → m = none ∨ m = some ni)
    (hS : ctx'.stack = ctx.stack)
    (hR : ctx'.rootStack.toList = ctx.rootStack.toList ++ node.conditionalItems.toList.map (·.nodeIndex))
    (hN : ctx'.nodes = assign ctx.nodes (node.conditionalItems.toList.map fun it => (it.nodeIndex, armNode containing jumpToIndex it))) :
    PostL root tree G m0 ph ctx' := by
  have hnse : pn.definition ≠ .sideEffect := by rw [hdef]; decide
  have h1 := else_inv_exp p.pre.V p.pre.inv p.pre.hG p.pre.hph p.pre.hns hnode containing jumpToIndex hS hR hN
  have st := mkStep_else (M := ctx.data.metadata) (M' := ctx'.data.metadata) p.pre.V p.pre.inv p.pre.hG p.pre.hph p.pre.hpn hnse
    p.inv.1.nodup hnode containing jumpToIndex l hS hN hM hl
  have hni3 : ph ni ≠ .p3 := Act.ne3 p.pre.hph
  have hidx : ∀ x, x ∈ node.conditionalItems.toList.map (·.nodeIndex) → ph x = .pc ni ∧ x ≠ ni ∧ x < ctx.nodes.size ∧
      NCP tree G root x ∧ ∀ (bn : BuildNode), ctx.nodes[x]? ≠ some (some bn) := by
    intro x hx
    obtain ⟨it, hit, hxe⟩ := List.mem_map.1 hx
    subst hxe
    obtain ⟨hxG, hpc⟩ := p.pre.inv.items ni node hnode hni3 it hit
    have hxn : it.nodeIndex ≠ ni := by
      intro e; rw [e] at hpc
      rcases p.pre.hph with h1 | h1 <;> rw [h1] at hpc <;> cases hpc
    refine ⟨hpc, hxn, by rw [p.pre.inv.size]; exact G_lt p.pre.V hxG, ?_, p.linv.noNode _ (Or.inr ⟨ni, hpc⟩)⟩
    obtain ⟨k, kn, _, q1, q2, q3, _⟩ := p.linv.recd _ ni hpc
    have hkG : G k := jumpIf_G p.pre.V q1 q2
    refine NCP.other hkG q1 (Or.inr q3) (jumpIf_not_else q2) (fun ⟨h, _⟩ => ?_)
    rw [jumpIf_not_logical q2] at h; cases h
  have sl := mkStepL_else st hdef hnode hcpn containing jumpToIndex hR hN (p.notP1 hnode hst) hidx
  exact ⟨_, h1.1, h1.2, step_finv st (fun _ h => by rw [hdef] at h; exact absurd h (by decide)) p.inv, stepL_linv sl p.inv.1 p.linv⟩

end Garnish.Lemmas.BuildSeq
