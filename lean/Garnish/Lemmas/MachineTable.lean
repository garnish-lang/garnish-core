/-
The table of Abs/Machine `step`: what one instruction does to the machine state before `finish` decides between
running and halted (`handle`), with `step = finish ∘ handle` (`step_eq_handle`). An arm of `handle` at a given
instruction reduces by computation, so a statement about `step` at one instruction is a statement about one arm.
The instructions of `unaryOp` / `binaryOp` share the arm `handleOp` (`isGeneric`, `step_generic`).
-/
import Garnish.Abs.Machine
namespace Garnish.Lemmas.Runtime
open Garnish Gen Garnish.Abs

variable {F : Type} {P : Prog F}

/-- `seqNext` before `finish` -/
def seqR (m : MState F) (x : Except ErrClass (MState F)) : Except ErrClass (MState F × Nat) :=
  match x with
  | .ok s' => .ok (s', m.pc + 1)
  | .error e => .error e

theorem seqNext_eq (m : MState F) (x : Except ErrClass (MState F)) : seqNext P m x = finish P (seqR m x) := by
  cases x <;> rfl

/-- the instructions Abs/Machine `step` handles in its last arm (through `unaryOp` / `binaryOp`) -/
def isGeneric : Instruction → Bool
  | .invalid | .put | .putValue | .pushValue | .updateValue | .startSideEffect | .endSideEffect | .jumpTo
  | .jumpIfTrue | .jumpIfFalse | .and | .or | .endExpression | .apply | .emptyApply | .reapply | .makeList
  | .resolve | .makePair | .applyType => false
  | _ => true

section
variable {host : Host F} (fo : FloatOps F)

theorem step_generic {m : MState F} {op : Instruction} {operand : Option Nat}
    (hfetch : P.instrs[m.pc]? = some (op, operand)) (hgen : isGeneric op = true) :
    Abs.step fo host P m =
      match m.regs with
      | [] => .err .state
      | top :: rest =>
        match unaryOp fo op top with
        | some o => seqNext P m (pushOut host { m with regs := rest } o)
        | none =>
          match rest with
          | [] => .err .state
          | l :: rs =>
            match binaryOp fo op l top with
            | some o => seqNext P m (pushOut host { m with regs := rs } o)
            | none => .err .implementation := by
  unfold Abs.step
  rw [hfetch]
  cases op <;> first | (cases hgen; done) | rfl

theorem step_generic_binary {m : MState F} {op : Instruction} {operand : Option Nat}
    (hfetch : P.instrs[m.pc]? = some (op, operand)) (hgen : isGeneric op = true)
    {vr vl : Val F} {rs : List (Val F)} (hregs : m.regs = vr :: vl :: rs) {o : OpOut F}
    (hu : unaryOp fo op vr = none) (hb : binaryOp fo op vl vr = some o) :
    Abs.step fo host P m = seqNext P m (pushOut host { m with regs := rs } o) := by
  rw [step_generic fo hfetch hgen, hregs]
  simp only [hu, hb]

end

section
variable (fo : FloatOps F) (host : Host F)

/-- the arm of `step` shared by the instructions of `unaryOp` / `binaryOp`, before `finish` -/
def handleOp (s : MState F) (op : Instruction) : Except ErrClass (MState F × Nat) :=
  match s.regs with
  | [] => .error .state
  | top :: rest =>
    match unaryOp fo op top with
    | some o => seqR s (pushOut host { s with regs := rest } o)
    | none =>
      match rest with
      | [] => .error .state
      | l :: rs =>
        match binaryOp fo op l top with
        | some o => seqR s (pushOut host { s with regs := rs } o)
        | none => .error .implementation

/-- the arms of `Abs.step` without its tail `finish`, as `dispatch` (Model/Runtime/Execute.lean) is the `match instruction`
of `execute_current_instruction` without the tail `advance`: a handler is compared with an arm, `advance` with `finish` -/
def handle (P : Prog F) (s : MState F) (instr : Instruction) (operand : Option Nat) :
    Except ErrClass (MState F × Nat) :=
  let seq := seqR s
  let jump (j : Nat) (k : Nat → Except ErrClass (MState F × Nat)) : Except ErrClass (MState F × Nat) :=
    match jumpTarget P j with
    | .ok t => k t
    | .error e => .error e
  match instr with
  | .invalid => seq (.ok s)
  | .put => match operand with
    | none => .error .implementation
    | some k => match P.consts[k]? with
      | some v => seq (.ok { s with regs := v :: s.regs })
      | none => .error .state
  | .putValue => match s.vals with
    | [] => seq (.ok { s with regs := .unit :: s.regs })
    | v :: _ => seq (.ok { s with regs := v :: s.regs })
  | .pushValue => match s.regs with
    | [] => .error .state
    | r :: rs => seq (.ok { s with regs := rs, vals := r :: s.vals })
  | .updateValue => match s.regs with
    | [] => .error .state
    | r :: rs => match s.vals with
      | [] => .error .state
      | _ :: vs => seq (.ok { s with regs := rs, vals := r :: vs })
  | .startSideEffect => match s.vals with
    | [] => seq (.ok { s with vals := [.unit] })
    | v :: vs => seq (.ok { s with vals := v :: v :: vs })
  | .endSideEffect => match s.vals with
    | [] => .error .state
    | _ :: vs => match s.regs with
      | [] => .error .state
      | _ :: rs => seq (.ok { s with vals := vs, regs := rs })
  | .jumpTo => match operand with
    | none => .error .implementation
    | some j => jump j fun t => .ok (s, t)
  | .jumpIfTrue => match operand with
    | none => .error .implementation
    | some j => jump j fun t => match s.regs with
      | [] => .error .state
      | d :: rs => .ok ({ s with regs := rs }, if d.truthy then t else s.pc + 1)
  | .jumpIfFalse => match operand with
    | none => .error .implementation
    | some j => jump j fun t => match s.regs with
      | [] => .error .state
      | d :: rs => .ok ({ s with regs := rs }, if d.truthy then s.pc + 1 else t)
  | .and => match operand with
    | none => .error .implementation
    | some j => match s.regs with
      | [] => .error .state
      | d :: rs =>
        if d.truthy then jump j fun t => .ok ({ s with regs := rs }, t)
        else seq (.ok { s with regs := .fls :: rs })
  | .or => match operand with
    | none => .error .implementation
    | some j => match s.regs with
      | [] => .error .state
      | d :: rs =>
        if d.truthy then seq (.ok { s with regs := .tru :: rs })
        else jump j fun t => .ok ({ s with regs := rs }, t)
  | .endExpression => match s.regs with
    | [] => .error .state
    | r :: rs => match s.frames with
      | [] => match s.vals with
        | [] => .error .state
        | _ :: vs => .ok ({ s with regs := rs, vals := r :: vs }, P.instrs.size)
      | fr :: frs => .ok ({ s with regs := r :: fr.saved, vals := s.vals.tail, frames := frs }, fr.ret)
  | .apply => match s.regs with
    | r :: l :: rs => applyStep fo host P { s with regs := rs } .apply true l r
    | _ => .error .state
  | .emptyApply => match s.regs with
    | l :: rs => applyStep fo host P { s with regs := rs } .emptyApply false l .unit
    | _ => .error .state
  | .reapply => match operand with
    | none => .error .implementation
    | some j => match s.regs with
      | [] => .error .state
      | v :: rs => jump j fun t => match s.vals with
        | [] => .error .state
        | _ :: vs => .ok ({ s with regs := rs, vals := v :: vs }, t)
  | .makeList => match operand with
    | none => .error .implementation
    | some n =>
      if n > s.regs.length then .error .state
      else seq (.ok { s with regs := .list (s.regs.take n).reverse :: s.regs.drop n })
  | .resolve => match operand with
    | none => .error .implementation
    | some k => match P.consts[k]? with
      | none => .error .state
      | some key => seq (resolveStep fo host s key)
  | .makePair => match s.regs with
    | l :: r :: rs => seq (.ok { s with regs := .pair l r :: rs })
    | _ => .error .state
  | .applyType => .error .unsupported
  | op => handleOp fo host s op

theorem handle_generic (m : MState F) {op : Instruction} (operand : Option Nat) (hgen : isGeneric op = true) :
    handle fo host P m op operand = handleOp fo host m op := by
  cases op <;> first | rfl | (cases hgen; done)

theorem step_eq_handle {m : MState F} {instr : Instruction} {operand : Option Nat}
    (hfetch : P.instrs[m.pc]? = some (instr, operand)) :
    Abs.step fo host P m = finish P (handle fo host P m instr operand) := by
  -- both sides are the same tree of matches: split the machine's side arm by arm, the table's side reduces along
  cases hgen : isGeneric instr
  · unfold Abs.step
    rw [hfetch]
    clear hfetch
    obtain ⟨pc, regs, vals, frames, trace⟩ := m
    cases instr <;> first | (cases hgen; done) | simp only [handle, seqNext_eq]
    all_goals (repeat' (split <;> (try simp only [*])))
    all_goals first | rfl | (simp only [finish, ge_iff_le, Nat.le_refl, if_true]; done)
  · rw [step_generic fo hfetch hgen, handle_generic fo host m operand hgen, handleOp]
    repeat' (split <;> (try simp only [*]))
    all_goals first | rfl | exact seqNext_eq _ _

end

end Garnish.Lemmas.Runtime
