/-
Totality of the emitting traversal of `build`: `handle_parse_node`, the two loops, `build`.
-/
import Garnish.Lemmas.BuildTotalHandlers
namespace Garnish.Lemmas.BuildTotal
open Garnish Garnish.Gen Garnish.Model.Parser Garnish.Model.Literals Garnish.Model.Build Garnish.Lemmas.Build

variable {F : Type} {root : Nat} {tree : Array ParseNode} {G : Nat → Prop}

open Garnish.Lemmas.BuildPlan

section
variable (parseFloat : List Char → Option F) {pn : ParseNode}

theorem litArm_good (hlit : LitSafe parseFloat pn) {addFn : BState F → ParseNode → Outcome (BState F × Nat)}
    (ha : LitArm parseFloat pn addFn) (d : BState F) : Good (fun _ => True) (addFn d pn) := by
  cases ha with
  | number => exact good_bind (parseNumberInternal_good parseFloat _ _) fun _ _ => trivial
  | charList => exact good_bind (parseCharList_good parseFloat _) fun _ _ => trivial
  | byteList hd => exact good_bind (hlit.byteList hd) fun _ _ => trivial
  | symbol hd =>
    unfold parseAddSymbolLiteral
    split
    · exact absurd ‹_› (hlit.symbol hd)
    · exact trivial
  | _ => exact trivial

theorem handleParseNode_total {ph : Nat → Phase} {ctx : Ctx F} {ni : Nat} {pn : ParseNode} (p : Pre root tree G ph ctx ni pn)
    (hlit : LitSafe parseFloat pn) (crj : Nat) :
    Good (Post root tree G ph) (handleParseNode parseFloat ctx crj ni pn) := by
  obtain ⟨x, e, hv, hg, _⟩ := handleParseNode_plan parseFloat ctx crj ni pn
  rw [e]
  exact plan_total (good_of_sat (sat_mono hv fun _ v => v.total p) (hg fun _ ha => litArm_good parseFloat hlit ha _))

theorem afterHandle_good {ph : Nat → Phase} {ctx : Ctx F} (h : Inv root tree G ph ctx) (ni : Nat) :
    Good (fun nodes => Inv root tree G ph ({ ctx with nodes := nodes } : Ctx F)) (afterHandle ctx.nodes ni) := by
  refine good_mono (afterHandle_cases ctx.nodes ni) fun N hN => ?_
  rcases hN with rfl | ⟨node, parent, p, hnode, hp, rfl⟩
  · exact inv_congr h rfl rfl rfl
  · have h1 : Inv root tree G ph ({ ctx with nodes := putNode ctx.nodes ni { node with contributesToList := false } } : Ctx F) :=
      inv_putNode_same (bn' := { node with contributesToList := false }) h hnode rfl rfl rfl rfl rfl rfl
    exact inv_putNode_same (bn' := { parent with childCount := parent.childCount + 1 }) h1 hp rfl rfl rfl rfl rfl rfl

theorem innerLoop_total (V : Validated root tree G)
    (hlit : ∀ (i : Nat) (pn : ParseNode), tree[i]? = some pn → LitSafe parseFloat pn) (crj : Nat) :
    ∀ (fuel : Nat) (ph : Nat → Phase) (ctx : Ctx F), Inv root tree G ph ctx → total ph tree.size < fuel →
      Good (fun r => ∃ ph', Inv root tree G ph' r.1 ∧ total ph' tree.size < r.2 ∧ total ph' tree.size ≤ total ph tree.size)
        (innerLoop parseFloat tree crj fuel ctx) := by
  intro fuel
  induction fuel with
  | zero => intro ph ctx _ hlt; omega
  | succ k ih =>
    intro ph ctx h hlt
    unfold innerLoop
    split
    · exact ⟨ph, h, hlt, Nat.le_refl _⟩
    · rename_i ni hback
      obtain ⟨hpop, hns, hG, hph⟩ := inv_pop_stack h hback
      split
      · exact good_buildErr
      · rename_i pn hpn
        have p : Pre root tree G ph ({ ctx with stack := ctx.stack.pop } : Ctx F) ni pn := ⟨V, hpop, hG, hph, hns, hpn⟩
        refine good_bind (handleParseNode_total parseFloat p (hlit ni pn hpn) crj) (fun ctx1 h1 => ?_)
        obtain ⟨ph1, hinv1, hlt1⟩ := h1
        refine good_bind (afterHandle_good hinv1 ni) (fun nodes hnodes => ?_)
        refine good_mono (ih ph1 _ hnodes (by omega)) (fun r hr => ?_)
        obtain ⟨ph', h1', h2', h3'⟩ := hr
        exact ⟨ph', h1', h2', by omega⟩

theorem rootLoop_total (V : Validated root tree G)
    (hlit : ∀ (i : Nat) (pn : ParseNode), tree[i]? = some pn → LitSafe parseFloat pn) :
    ∀ (rootFuel stepFuel : Nat) (ph : Nat → Phase) (ctx : Ctx F), Inv root tree G ph ctx →
      total ph tree.size < rootFuel → total ph tree.size < stepFuel →
      Good (fun _ => True) (Garnish.Model.Build.rootLoop parseFloat tree rootFuel stepFuel ctx) := by
  intro rootFuel
  induction rootFuel with
  | zero => intro _ ph ctx _ hlt _; omega
  | succ k ih =>
    intro stepFuel ph ctx h hlt1 hlt2
    unfold Garnish.Model.Build.rootLoop
    split
    · exact trivial
    · rename_i r hback
      dsimp only
      refine good_bind (rootJump_cases _ _ _) (fun res _ => ?_)
      obtain ⟨data, crj⟩ := res
      dsimp only
      obtain ⟨hinv1, hdec1⟩ := inv_pop_root_exp (ctx' := (⟨data, ctx.nodes, ctx.rootStack.pop, #[r]⟩ : Ctx F)) V h hback rfl rfl rfl
      refine good_bind (innerLoop_total parseFloat V hlit crj stepFuel _ _ hinv1 (by omega)) (fun res2 h2 => ?_)
      obtain ⟨ctx2, fuel2⟩ := res2
      obtain ⟨ph2, hinv2, hlt2', hle2⟩ := h2
      dsimp only at hinv2 hlt2' hle2 ⊢
      exact ih fuel2 ph2 _ (inv_congr hinv2 rfl rfl rfl) (by omega) hlt2'

theorem buildCore_total (V : Validated root tree G)
    (hlit : ∀ (i : Nat) (pn : ParseNode), tree[i]? = some pn → LitSafe parseFloat pn) (data : BState F) :
    Good (fun _ => True) (buildCore parseFloat (defaultFuel tree.size) root tree data) := by
  unfold buildCore
  dsimp only
  have hroot : root < tree.size := G_lt V V.rootIn
  rw [setNodeIdx_eq (by simpa using hroot)]
  simp only [bind_ok]
  let ph0 : Nat → Phase := fun x => if x = root then .pr else .p0
  have htot : total ph0 tree.size < defaultFuel tree.size := by
    have := total_le ph0 tree.size
    unfold defaultFuel; omega
  refine good_bind (rootLoop_total parseFloat V hlit _ _ ph0 _ (inv_start V data) htot htot) (fun ctx _ => ?_)
  split
  · exact trivial
  · exact good_buildErr

theorem build_total (hlit : ∀ (i : Nat) (pn : ParseNode), tree[i]? = some pn → LitSafe parseFloat pn) (data : BState F) :
    Good (fun _ => True) (build parseFloat (defaultFuel tree.size) root tree data) := by
  unfold build
  split
  · exact trivial
  · exact good_bind (validateParseTree_good root tree) fun _ ⟨_, V⟩ => buildCore_total parseFloat V hlit data

end

end Garnish.Lemmas.BuildTotal
