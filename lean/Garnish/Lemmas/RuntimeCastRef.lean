/-
`StoreLawsC` is satisfiable: the list-backed reference store (Model/Runtime/RefStore.lean) with conversions that answer
as Abs/Casts says for either data implementation. `Decodes` is functional (`decodes_unique`), so "the value at an
address" is well defined; the text / symbol conversions take it by choice (they are specification-level objects: the
point is that the hypotheses of `C08_refine_type_cast` can all hold at once), the number / byte-list conversions are
computable.
-/
import Garnish.Lemmas.RuntimeCastArms
import Garnish.Lemmas.DecodesUnique
import Garnish.Lemmas.RuntimeRefStore
namespace Garnish.Lemmas.Runtime
open Garnish Gen Garnish.Abs Garnish.Model.Equality Garnish.Model.Runtime
open Garnish.Lemmas.EqualityRefine (decodes_typeOf)

variable {F : Type}


/-- the value at an address, if it denotes one -/
noncomputable def refValAt (cells : List (RCell F)) (a : Nat) : Option (Val F) :=
  open Classical in if h : ∃ v, Decodes (refView cells) a v then some (Classical.choose h) else none

theorem refValAt_of {cells : List (RCell F)} {a : Nat} {v : Val F} (h : Decodes (refView cells) a v) :
    refValAt cells a = some v := by
  have hex : ∃ v, Decodes (refView cells) a v := ⟨v, h⟩
  simp only [refValAt, hex, dite_true]
  rw [decodes_unique (Classical.choose_spec hex) h]

def numCell (cs : List Nat) : RCell F :=
  match parseI32 cs with
  | some v => .num (.int v)
  | none => .unit

/-- conversions that answer as Abs/Casts does for the data implementation `env.store` -/
noncomputable def refCastOps (env : CastEnv F) : CastOps (RefState F) where
  addNumberFrom a := fun st =>
    match st.cells[a]? with
    | some (.chars cs) => RefState.add (numCell cs) st
    | _ => RefState.add .unit st
  addCharListFrom a := fun st =>
    match refValAt st.cells a with
    | some v => (match textOf env v with
      | .ok t => RefState.add (.chars t) st
      | .error e => .err e)
    | none => .err .data
  addByteListFrom a := fun st =>
    match env.store with
    | .basic => .ok (a, st)
    | .simple => (match st.cells[a]? with
      | some .unit => RefState.add (.bytes []) st
      | _ => .err .data)
  addSymbolFrom a := fun st =>
    match refValAt st.cells a with
    | some v => (match textOf env v with
      | .ok t => RefState.add (.sym (match env.store with
          | .simple => symbolOfText t
          | .basic => symbolOfText (trimColons t))) st
      | .error e => .err e)
    | none => .err .data

variable (host : RefHost F)

theorem cell_of_decodes_chars {cells : List (RCell F)} {a : Nat} {cs : List Nat}
    (h : Decodes (refView cells) a (.chars cs)) : cells[a]? = some (.chars cs) := by
  cases h with
  | chars ht hc =>
    rw [rv_chars] at hc
    generalize cells[a]? = oc at hc
    cases oc with
    | none => cases hc
    | some c => cases c <;> simp at hc; rw [hc]

theorem add_keeps_building (c : RCell F) (st : RefState F) (a : Nat) (st' : RefState F)
    (h : RefState.add c st = .ok (a, st')) : st'.building = st.building := by
  simp only [RefState.add, Outcome.ok.injEq, Prod.mk.injEq] at h
  obtain ⟨_, rfl⟩ := h; rfl

theorem refStore_lawsC (env : CastEnv F) : StoreLawsC (refStore host) (refCastOps env) env where
  toStoreLaws := refStore_laws host
  addNumberFrom st a cs hd := by
    have hc := cell_of_decodes_chars hd
    show Adds (refStore host) (fun st => match st.cells[a]? with
      | some (.chars cs) => RefState.add (numCell cs) st
      | _ => RefState.add .unit st) st (numberOut cs)
    have : (fun st : RefState F => match st.cells[a]? with
      | some (.chars cs) => RefState.add (numCell cs) st
      | _ => RefState.add .unit st) st = RefState.add (numCell cs) st := by simp only [hc]
    unfold Adds
    rw [this]
    unfold numCell numberOut
    cases parseI32 cs with
    | none => exact (refStore_laws host).addUnit st
    | some v => exact (refStore_laws host).addNumber (.int v) st
  addCharListFrom st a v hd := by
    have hv := refValAt_of hd
    unfold textOut
    cases ht : textOf env v with
    | ok t =>
      show Adds (refStore host) ((refCastOps env).addCharListFrom a) st (.chars t)
      have : (refCastOps env).addCharListFrom a st = RefState.add (.chars t) st := by
        show (match refValAt st.cells a with
          | some v => (match textOf env v with
            | .ok t => RefState.add (.chars t) st
            | .error e => .err e)
          | none => .err .data) = _
        rw [hv]; simp only [ht]
      unfold Adds
      rw [this]
      exact adds_add host st (.chars t) (.chars t)
        (.chars (by simp only [rv_typeOf, List.getElem?_concat_length, RCell.ty])
          (by simp only [rv_chars, List.getElem?_concat_length]))
    | error e =>
      show (refCastOps env).addCharListFrom a st = .err e
      show (match refValAt st.cells a with
          | some v => (match textOf env v with
            | .ok t => RefState.add (.chars t) st
            | .error e => .err e)
          | none => .err .data) = _
      rw [hv]; simp only [ht]
  addByteListFrom st a v hd := by
    unfold byteListFrom
    cases hs : env.store with
    | basic =>
      show Adds (refStore host) ((refCastOps env).addByteListFrom a) st v
      refine ⟨a, st, ?_, hd, Eff.refl _ st⟩
      show (match env.store with
        | .basic => Outcome.ok (a, st)
        | .simple => (match st.cells[a]? with
          | some .unit => RefState.add (.bytes []) st
          | _ => .err .data)) = _
      rw [hs]
    | simple =>
      have hop : (refCastOps env).addByteListFrom a st = (match st.cells[a]? with
          | some .unit => RefState.add (.bytes []) st
          | _ => .err .data) := by
        show (match env.store with
          | .basic => Outcome.ok (a, st)
          | .simple => (match st.cells[a]? with
            | some .unit => RefState.add (.bytes []) st
            | _ => .err .data)) = _
        rw [hs]
      have hty := decodes_typeOf hd
      change (refView st.cells).typeOf a = _ at hty
      rw [rv_typeOf] at hty
      generalize hcell : st.cells[a]? = oc at hty hop
      cases oc with
      | none => cases hty
      | some c =>
        simp only [Option.some.injEq] at hty
        cases v with
        | unit =>
          cases c <;> cases hty
          show Adds (refStore host) ((refCastOps env).addByteListFrom a) st (.bytes [])
          unfold Adds
          rw [hop]
          exact adds_add host st (.bytes []) (.bytes [])
            (.bytes (by simp only [rv_typeOf, List.getElem?_concat_length, RCell.ty])
              (by simp only [rv_bytes, List.getElem?_concat_length]))
        | _ =>
          show (refCastOps env).addByteListFrom a st = .err .data
          rw [hop]
          split
          · rename_i heq; cases heq; cases hty
          · rfl
  addSymbolFrom st a v hd := by
    have hv := refValAt_of hd
    have hop : (refCastOps env).addSymbolFrom a st = (match textOf env v with
        | .ok t => RefState.add (.sym (match env.store with
            | .simple => symbolOfText t
            | .basic => symbolOfText (trimColons t))) st
        | .error e => .err e) := by
      show (match refValAt st.cells a with
        | some v => (match textOf env v with
          | .ok t => RefState.add (.sym (match env.store with
              | .simple => symbolOfText t
              | .basic => symbolOfText (trimColons t))) st
          | .error e => .err e)
        | none => .err .data) = _
      rw [hv]
    unfold symbolFrom
    cases ht : textOf env v with
    | error e => show (refCastOps env).addSymbolFrom a st = .err e; rw [hop, ht]
    | ok t =>
      rw [ht] at hop
      simp only [] at hop ⊢
      cases hs : env.store with
      | simple =>
        show Adds (refStore host) ((refCastOps env).addSymbolFrom a) st (.sym (symbolOfText t))
        unfold Adds
        rw [hop, hs]
        exact (refStore_laws host).addSymbol _ st
      | basic =>
        show Adds (refStore host) ((refCastOps env).addSymbolFrom a) st (.sym (symbolOfText (trimColons t)))
        unfold Adds
        rw [hop, hs]
        exact (refStore_laws host).addSymbol _ st
  buildAddUnit st a st' h := add_keeps_building _ st a st' h
  buildAddNumber n st a st' h := add_keeps_building _ st a st' h
  buildAddChar c st a st' h := add_keeps_building _ st a st' h
  buildAddByte b st a st' h := add_keeps_building _ st a st' h
  buildAddSymbol y st a st' h := add_keeps_building _ st a st' h
  buildPushRegister x st u st' h := by
    change (Outcome.ok ((), { st with regs := x :: st.regs }) : Outcome (Unit × RefState F)) = .ok (u, st') at h
    simp only [Outcome.ok.injEq, Prod.mk.injEq] at h
    obtain ⟨_, rfl⟩ := h; rfl

end Garnish.Lemmas.Runtime
