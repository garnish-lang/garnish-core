/-
Lexer half of C18, whitespace: inserting or removing spaces/tabs inside an existing Whitespace token changes only
that token's text (`lexLoop_whitespace_local`). Two lexers inside the same whitespace token whose pending texts differ in
a prefix (`WsRel`; positions, `can_float`, the quote counters and, in the Subexpression state, the pending type may differ
too: `eraseW`) are run in lock step (`processChar_ws`, from `ArmStep.ws`) until the token is emitted; from then on they agree up to positions and
`lexLoop_congr` applies.
-/
import Garnish.Lemmas.LexerC18Loop
namespace Garnish.Model.Lexer

def eraseChars (σ : Lexer) : Lexer := { σ with currentCharacters := [] }

/-- forget the pending characters and the three fields a whitespace token neither reads nor hands on: `can_float` and the
two quote counters are overwritten when the token ends -/
def eraseWs (σ : Lexer) : Lexer :=
  { σ with currentCharacters := [], canFloat := false, startQuoteCount := 0, endQuoteCount := 0 }

theorem posEq_erase {a b : Lexer} (h : PosEq (eraseChars a) (eraseChars b)) :
    b.operatorTree = a.operatorTree ∧ b.currentTokenType = a.currentTokenType ∧ b.shouldCreate = a.shouldCreate ∧
    b.state = a.state ∧ b.canFloat = a.canFloat ∧ b.startQuoteCount = a.startQuoteCount ∧
    b.endQuoteCount = a.endQuoteCount ∧ b.couldBeSubExpression = a.couldBeSubExpression ∧ b.result = a.result ∧
    b.atEnd = a.atEnd := by
  obtain ⟨e0, e3, e2, e4, e1, e5, e6, e7, e8, e9, e10⟩ := (posEq_iff _ _).mp h
  exact ⟨e0, e2, e4, e1, e5, e6, e7, e8, e9, e10⟩

theorem posEq_eraseWs {a b : Lexer} (h : PosEq (eraseWs a) (eraseWs b)) :
    b.operatorTree = a.operatorTree ∧ b.currentTokenType = a.currentTokenType ∧ b.shouldCreate = a.shouldCreate ∧
    b.state = a.state ∧ b.couldBeSubExpression = a.couldBeSubExpression ∧ b.result = a.result ∧ b.atEnd = a.atEnd := by
  obtain ⟨e0, -, e2, e4, e1, -, -, -, e8, e9, e10⟩ := (posEq_iff _ _).mp h
  exact ⟨e0, e2, e4, e1, e8, e9, e10⟩

theorem PosEq.eraseWs {a b : Lexer} (h : PosEq (eraseChars a) (eraseChars b)) : PosEq (eraseWs a) (eraseWs b) := by
  obtain ⟨e0, e2, e4, e1, e5, e6, e7, e8, e9, e10⟩ := posEq_erase h
  rw [posEq_iff]; simp [Lexer.eraseWs, *]

/-- forget what the Spaces / Subexpression arms neither read nor hand on: the pending characters and TYPE (Subexpression
assigns the type anew), `can_float` and the two quote counters -/
def eraseW (σ : Lexer) : Lexer :=
  { σ with currentCharacters := [], currentTokenType := none, canFloat := false, startQuoteCount := 0, endQuoteCount := 0 }

theorem eraseW_bump (σ : Lexer) (c : Char) : eraseW (bumpColumn σ c) = bumpColumn (eraseW σ) c := by
  unfold bumpColumn eraseW; split <;> rfl

theorem posEq_eraseW {a b : Lexer} (h : PosEq (eraseW a) (eraseW b)) :
    b.operatorTree = a.operatorTree ∧ b.shouldCreate = a.shouldCreate ∧
    b.state = a.state ∧ b.couldBeSubExpression = a.couldBeSubExpression ∧ b.result = a.result ∧ b.atEnd = a.atEnd := by
  obtain ⟨e0, -, -, e4, e1, -, -, -, e8, e9, e10⟩ := (posEq_iff _ _).mp h
  exact ⟨e0, e4, e1, e8, e9, e10⟩

theorem eraseW_of_eraseWs {a b : Lexer} (h : PosEq (eraseWs a) (eraseWs b)) : PosEq (eraseW a) (eraseW b) := by
  obtain ⟨e0, e2, e4, e1, e8, e9, e10⟩ := posEq_eraseWs h
  rw [posEq_iff]; simp [eraseW, *]

/-- two lexers inside the same whitespace token whose pending texts differ in a prefix (`u` / `u'`) only; in the
Subexpression state the pending types may differ as well -/
structure WsRel (σ σ' : Lexer) (u u' z : List Char) : Prop where
  pos : PosEq (eraseW σ) (eraseW σ')
  ws : σ.state = .spaces ∨ σ.state = .subexpression
  type : σ.state = .spaces → σ'.currentTokenType = σ.currentTokenType ∧
    (σ.currentTokenType = some .whitespace ∨ σ.currentTokenType = some .subexpression)
  chars : σ.currentCharacters = u ++ z
  chars' : σ'.currentCharacters = u' ++ z

/-- outcome of one character on two such lexers -/
def WsStep (σ1 σ1' : Lexer) (ot ot' : Option LexerToken) (u u' z : List Char) (c : Char) : Prop :=
  (ot = none ∧ ot' = none ∧ WsRel σ1 σ1' u u' (z ++ [c])) ∨
  (∃ t t' z', ot = some t ∧ ot' = some t' ∧ t.tokenType = t'.tokenType ∧
    (t.tokenType = .whitespace ∨ t.tokenType = .subexpression) ∧
    t.text = u ++ z' ∧ t'.text = u' ++ z' ∧ PosEq σ1 σ1')

/-- after a token has been pushed the two lexers agree up to positions: the three fields are set anew -/
theorem afterEmit_posEq {a b : Lexer} (h : PosEq (eraseWs a) (eraseWs b)) : PosEq (afterEmit a) (afterEmit b) := by
  obtain ⟨e0, e2, e4, e1, e8, e9, e10⟩ := posEq_eraseWs h
  rw [posEq_iff]; simp [afterEmit, *]

theorem finishChar_wsType (cc : CharClass) (σ1 : Lexer) (c : Char) (hnt : σ1.state ≠ .noToken) (ty : Gen.TokenType)
    (hty : σ1.currentTokenType = some ty) (hws : ty = .whitespace ∨ ty = .subexpression) :
    finishChar cc σ1 c none true =
      (bumpColumn (if σ1.shouldCreate then startToken cc (afterEmit σ1) c
                   else { afterEmit σ1 with shouldCreate := true }) c,
       some ⟨σ1.currentCharacters, ty, σ1.tokenStartRow, σ1.tokenStartColumn⟩) := by
  have hne : (σ1.state != LexingState.noToken) = true := by simpa using hnt
  rcases hws with rfl | rfl <;>
    simp only [finishChar, ↓reduceIte, pushNewToken, hne, canCreateValidToken, hty, LexResult.isOk, afterEmit]

theorem finishChar_ws_pair (cc : CharClass) (a b : Lexer) (c : Char) (h : PosEq (eraseWs a) (eraseWs b))
    (hnt : a.state ≠ .noToken) (ty : Gen.TokenType) (hty : a.currentTokenType = some ty)
    (hws : ty = .whitespace ∨ ty = .subexpression) :
    ∃ a1 b1 t t', finishChar cc a c none true = (a1, some t) ∧ finishChar cc b c none true = (b1, some t') ∧
      PosEq a1 b1 ∧ t.tokenType = ty ∧ t'.tokenType = ty ∧ t.text = a.currentCharacters ∧ t'.text = b.currentCharacters := by
  obtain ⟨e0, e2, e4, e1, e8, e9, e10⟩ := posEq_eraseWs h
  have hntb : b.state ≠ .noToken := by rw [e1]; exact hnt
  have htyb : b.currentTokenType = some ty := by rw [e2]; exact hty
  refine ⟨_, _, _, _, finishChar_wsType cc a c hnt ty hty hws, finishChar_wsType cc b c hntb ty htyb hws, ?_, rfl, rfl, rfl, rfl⟩
  apply bumpColumn_congr
  rw [e4]
  have hae := afterEmit_posEq h
  split
  · exact startToken_congr cc c hae
  · obtain ⟨f0, f3, f2, f4, f1, f5, f6, f7, f8, f9, f10⟩ := (posEq_iff _ _).mp hae
    rw [posEq_iff]; simp [*]

/-- what the Spaces / Subexpression arms do to two lexers that differ in pending characters and positions only -/
structure WsArm (a b : Lexer) (c : Char) (p q : Lexer × Bool) : Prop where
  sn : p.2 = q.2
  pos : PosEq (eraseWs p.1) (eraseWs q.1)
  chars : (p.1.currentCharacters = a.currentCharacters ++ [c] ∧ q.1.currentCharacters = b.currentCharacters ++ [c]) ∨
          (p.2 = true ∧ p.1.currentCharacters = a.currentCharacters ∧ q.1.currentCharacters = b.currentCharacters)
  ws : p.1.state = .spaces ∨ p.1.state = .subexpression
  type : p.1.currentTokenType = some .whitespace ∨ p.1.currentTokenType = some .subexpression

theorem stateStep_spaces (cc : CharClass) (σ : Lexer) (c : Char) (hs : σ.state = .spaces) :
    stateStep cc σ c = Step.ofPair (armSpaces σ c) := by
  unfold stateStep; rw [hs]

theorem stateStep_subexpression (cc : CharClass) (σ : Lexer) (c : Char) (hs : σ.state = .subexpression) :
    stateStep cc σ c = Step.ofPair (armSubexpression σ c) := by
  unfold stateStep; rw [hs]

/-- a case of the Spaces or Subexpression arm is the same case for a lexer that agrees in the six fields these arms
read or hand on unchanged (and, in Spaces, in the pending type): the pending characters, the positions, `can_float` and
the quote counters do not matter -/
theorem ArmStep.ws {cc : CharClass} {a b σ1 : Lexer} {c : Char} {sn : Bool} (h : ArmStep cc a c σ1 sn)
    (hs : a.state = .spaces ∨ a.state = .subexpression)
    (e0 : b.operatorTree = a.operatorTree) (e4 : b.shouldCreate = a.shouldCreate) (e1 : b.state = a.state)
    (e8 : b.couldBeSubExpression = a.couldBeSubExpression) (e9 : b.result = a.result) (e10 : b.atEnd = a.atEnd)
    (hty : a.state = .spaces → b.currentTokenType = a.currentTokenType ∧
      (a.currentTokenType = some .whitespace ∨ a.currentTokenType = some .subexpression)) :
    ∃ τ1, ArmStep cc b c τ1 sn ∧ WsArm a b c (σ1, sn) (τ1, sn) := by
  cases h with
  | spBlankLine hs' h1 h2 =>
    exact ⟨_, .spBlankLine (e1.trans hs') h1 (e8.trans h2), rfl, by rw [posEq_iff]; simp [eraseWs, e0, e1, e8, e9, e10],
      .inl ⟨rfl, rfl⟩, .inl hs', .inr rfl⟩
  | spNewline hs' h1 h2 =>
    exact ⟨_, .spNewline (e1.trans hs') h1 (e8.trans h2), rfl,
      by rw [posEq_iff]; simp [eraseWs, e0, e4, e8, e9, e10, (hty hs').1], .inl ⟨rfl, rfl⟩, .inr rfl, (hty hs').2⟩
  | spDone hs' h1 h2 =>
    exact ⟨_, .spDone (e1.trans hs') h1 h2, rfl, by rw [posEq_iff]; simp [eraseWs, e0, e4, e1, e8, e9, e10, (hty hs').1],
      .inr ⟨rfl, rfl, rfl⟩, .inl hs', (hty hs').2⟩
  | spBlank hs' h1 h2 =>
    exact ⟨_, .spBlank (e1.trans hs') h1 h2, rfl, by rw [posEq_iff]; simp [eraseWs, e0, e4, e1, e8, e9, e10, (hty hs').1],
      .inl ⟨rfl, rfl⟩, .inl hs', (hty hs').2⟩
  | subNewline hs' h1 =>
    exact ⟨_, .subNewline (e1.trans hs') h1, rfl, by rw [posEq_iff]; simp [eraseWs, e0, e1, e8, e9, e10],
      .inl ⟨rfl, rfl⟩, .inr hs', .inr rfl⟩
  | subBlank hs' h1 h2 =>
    exact ⟨_, .subBlank (e1.trans hs') h1 h2, rfl, by rw [posEq_iff]; simp [eraseWs, e0, e4, e9, e10],
      .inl ⟨rfl, rfl⟩, .inl rfl, .inl rfl⟩
  | subDone hs' h1 h2 =>
    exact ⟨_, .subDone (e1.trans hs') h1 h2, rfl, by rw [posEq_iff]; simp [eraseWs, e0, e4, e1, e9, e10],
      .inr ⟨rfl, rfl, rfl⟩, .inr hs', .inl rfl⟩
  | _ =>
    have h0 := ‹a.state = _›
    rcases hs with hs | hs <;> rw [hs] at h0 <;> cases h0

theorem finish_ws (cc : CharClass) (a b : Lexer) (c : Char) (u u' z : List Char) (p q : Lexer × Bool)
    (ha : a.currentCharacters = u ++ z) (hb : b.currentCharacters = u' ++ z) (h : WsArm a b c p q) :
    ∃ σ1 σ1' ot ot', finishChar cc p.1 c none p.2 = (σ1, ot) ∧ finishChar cc q.1 c none q.2 = (σ1', ot') ∧
      WsStep σ1 σ1' ot ot' u u' z c := by
  obtain ⟨hsn, hpos, hchars, hws, htype⟩ := h
  rw [← hsn]
  cases hp2 : p.2 with
  | false =>
    refine ⟨_, _, _, _, by simp only [finishChar, Bool.false_eq_true, ↓reduceIte]; rfl,
      by simp only [finishChar, Bool.false_eq_true, ↓reduceIte]; rfl, Or.inl ⟨rfl, rfl, ?_⟩⟩
    rcases hchars with ⟨h1, h2⟩ | ⟨h0, _⟩
    · refine ⟨?_, by simpa using hws, fun _ => ⟨by simpa using (posEq_eraseWs hpos).2.1, by simpa using htype⟩, ?_, ?_⟩
      · rw [eraseW_bump, eraseW_bump]; exact bumpColumn_congr c (eraseW_of_eraseWs hpos)
      · simp [h1, ha]
      · simp [h2, hb]
    · rw [hp2] at h0; cases h0
  | true =>
    have hnt : p.1.state ≠ .noToken := by rcases hws with h | h <;> (rw [h]; decide)
    obtain ⟨ty, hty, hwty⟩ : ∃ ty, p.1.currentTokenType = some ty ∧ (ty = .whitespace ∨ ty = .subexpression) := by
      rcases htype with h | h
      · exact ⟨_, h, .inl rfl⟩
      · exact ⟨_, h, .inr rfl⟩
    obtain ⟨a1, b1, t, t', h1, h2, hpe, ht1, ht2, htx1, htx2⟩ := finishChar_ws_pair cc p.1 q.1 c hpos hnt ty hty hwty
    refine ⟨a1, b1, some t, some t', h1, h2, Or.inr ?_⟩
    rcases hchars with ⟨c1, c2⟩ | ⟨_, c1, c2⟩
    · exact ⟨t, t', z ++ [c], rfl, rfl, by rw [ht1, ht2], ht1 ▸ hwty, by simp [htx1, c1, ha], by simp [htx2, c2, hb], hpe⟩
    · exact ⟨t, t', z, rfl, rfl, by rw [ht1, ht2], ht1 ▸ hwty, by simp [htx1, c1, ha], by simp [htx2, c2, hb], hpe⟩

theorem processChar_ws (cc : CharClass) (σ σ' : Lexer) (u u' z : List Char) (c : Char) (h : WsRel σ σ' u u' z) :
    ∃ σ1 σ1' ot ot', processChar cc σ c = .ok (σ1, ot) ∧ processChar cc σ' c = .ok (σ1', ot') ∧
      WsStep σ1 σ1' ot ot' u u' z c := by
  obtain ⟨hpos, hws, hty, hch, hch'⟩ := h
  obtain ⟨e0, e4, e1, e8, e9, e10⟩ := posEq_eraseW hpos
  obtain ⟨p, hp⟩ : ∃ p, stateStep cc { σ with charactersLexed := σ.charactersLexed + 1 } c = Step.ofPair p := by
    rcases hws with hs | hs
    · exact ⟨_, stateStep_spaces cc _ c hs⟩
    · exact ⟨_, stateStep_subexpression cc _ c hs⟩
  have harm := ArmStep.of_ofPair (by rcases hws with hs | hs <;> (rw [show _ = σ.state from rfl, hs]; nofun)) hp
  obtain ⟨τ1, hb, hw⟩ := harm.ws (b := { σ' with charactersLexed := σ'.charactersLexed + 1 }) hws e0 e4 e1 e8 e9 e10 hty
  rw [processChar_eq, processChar_eq, harm.sound, hb.sound]
  obtain ⟨σ1, σ1', ot, ot', h1, h2, hstep⟩ := finish_ws cc { σ with charactersLexed := σ.charactersLexed + 1 }
    { σ' with charactersLexed := σ'.charactersLexed + 1 } c u u' z (p.1, p.2) (τ1, p.2) hch hch' hw
  exact ⟨σ1, σ1', ot, ot', congrArg Outcome.ok h1, congrArg Outcome.ok h2, hstep⟩

/-- results of two runs that started inside the same whitespace token: both fail, or both succeed with
`toks ++ t :: rest` / `toks ++ t' :: rest'` where `t`, `t'` are the whitespace token (texts `u ++ z'` / `u' ++ z'`, same
type) and `rest`, `rest'` agree in types and texts -/
def WsOut (toks : List LexerToken) (u u' : List Char) :
    Outcome (List LexerToken × Lexer) → Outcome (List LexerToken × Lexer) → Prop
  | .ok p, .ok q => ∃ t t' z' rest rest', p.1 = toks ++ t :: rest ∧ q.1 = toks ++ t' :: rest' ∧
      t.tokenType = t'.tokenType ∧ (t.tokenType = .whitespace ∨ t.tokenType = .subexpression) ∧
      t.text = u ++ z' ∧ t'.text = u' ++ z' ∧ SameTT rest rest'
  | .err _, .err _ => True
  | .fuelOut, .fuelOut => True
  | _, _ => False

theorem wsOut_of_ext {toks : List LexerToken} {u u' z' : List Char} {t t' : LexerToken}
    {r r' : Outcome (List LexerToken × Lexer)} (hty : t.tokenType = t'.tokenType)
    (hws : t.tokenType = .whitespace ∨ t.tokenType = .subexpression) (h1 : t.text = u ++ z') (h2 : t'.text = u' ++ z')
    (h : OutSameExt (toks ++ [t]) (toks ++ [t']) r r') : WsOut toks u u' r r' := by
  cases r <;> cases r' <;> simp only [OutSameExt, WsOut] at h ⊢
  obtain ⟨rest, rest', e1, e2, hs⟩ := h
  exact ⟨t, t', z', rest, rest', by simp [e1], by simp [e2], hty, hws, h1, h2, hs⟩

theorem utf8Len_pos_of_ne_nil {cs : List Char} (h : cs ≠ []) : utf8Len cs > 0 :=
  Nat.pos_of_ne_zero fun e => h (utf8Len_eq_zero e)

theorem WsRel_atEnd {σ σ' : Lexer} {u u' z : List Char} (h : WsRel σ σ' u u' z) :
    WsRel { σ with atEnd := true } { σ' with atEnd := true } u u' z := by
  obtain ⟨hpos, hws, hty, hch, hch'⟩ := h
  obtain ⟨e0, e4, e1, e8, e9, e10⟩ := posEq_eraseW hpos
  exact ⟨by rw [posEq_iff]; simp [eraseW, *], hws, hty, hch, hch'⟩


theorem lexEnd_ws (cc : CharClass) (hcc : cc.Sane) (toks : List LexerToken) (u u' : List Char) :
    ∀ (fuel : Nat) (σ σ' : Lexer) (z : List Char), WsRel σ σ' u u' z → Inv σ → Inv σ' →
      WsOut toks u u' (lexEnd cc fuel σ toks) (lexEnd cc fuel σ' toks)
  | 0, _, _, _, _, _, _ => by simp [lexEnd, WsOut]
  | fuel + 1, σ, σ', z, h, hi, hi' => by
    obtain ⟨e0, e4, e1, e8, e9, e10⟩ := posEq_eraseW h.pos
    simp only [lexEnd]
    have hEb : σ'.result.isErr = σ.result.isErr := by rw [e9]
    rw [hEb]
    by_cases hE : σ.result.isErr = true
    · rw [if_pos hE, if_pos hE]
      have hr := isErr_true_iff.mp hE
      rw [lexFinish_err _ hr, lexFinish_err _ (by rw [e9]; exact hr)]
      trivial
    · rw [if_neg hE, if_neg hE]
      (try simp only [])
      obtain ⟨σ1, σ1', ot, ot', h1, h2, hstep⟩ := processChar_ws cc _ _ u u' z '\x00' (WsRel_atEnd h)
      have hia : Inv { σ with atEnd := true } := Inv_congr rfl rfl hi
      have hia' : Inv { σ' with atEnd := true } := Inv_congr rfl rfl hi'
      have hi1 := processChar_inv2 cc hcc _ _ _ _ hia h1
      have hi1' := processChar_inv2 cc hcc _ _ _ _ hia' h2
      rw [h1, h2]
      rcases hstep with ⟨rfl, rfl, hrel⟩ | ⟨t, t', z', rfl, rfl, hty, hwst, ht1, ht2, hpe⟩
      · -- nothing emitted: both runs end with an unterminated token
        simp only []
        obtain ⟨f0, f4, f1, f8, f9, f10⟩ := posEq_eraseW hrel.pos
        have hl1 : utf8Len σ1.currentCharacters > 0 := utf8Len_pos_of_ne_nil (by rw [hrel.chars]; simp)
        have hl2 : utf8Len σ1'.currentCharacters > 0 := utf8Len_pos_of_ne_nil (by rw [hrel.chars']; simp)
        cases hr : σ1.result with
        | ok =>
          have hr' : σ1'.result = .ok := by rw [f9]; exact hr
          simp only [hl1, hl2, hr', LexResult.isOk, decide_true, Bool.and_self, ↓reduceIte]
          rw [lexFinish_err _ rfl, lexFinish_err _ rfl]; trivial
        | err =>
          have hr' : σ1'.result = .err := by rw [f9]; exact hr
          simp only [hr', LexResult.isOk, Bool.and_false, Bool.false_eq_true, ↓reduceIte]
          rw [lexFinish_err _ hr, lexFinish_err _ hr']; trivial
      · simp only []
        obtain ⟨f0, f3, f2, f4, f1, f5, f6, f7, f8, f9, f10⟩ := (posEq_iff σ1 σ1').mp hpe
        rw [f9]
        cases σ1.result with
        | err => trivial
        | ok =>
          simp only []
          have := lexEnd_congr cc hcc (toks ++ [t]) (toks ++ [t']) fuel σ1 σ1' [] [] hpe hi1 hi1' (SameTT.refl [])
          simp only [List.append_nil] at this
          exact wsOut_of_ext hty hwst ht1 ht2 this

theorem lexLoop_ws (cc : CharClass) (hcc : cc.Sane) (toks : List LexerToken) (u u' : List Char) :
    ∀ (input : List Char) (σ σ' : Lexer) (z : List Char), WsRel σ σ' u u' z → Inv σ → Inv σ' →
      WsOut toks u u' (lexLoop cc input σ toks) (lexLoop cc input σ' toks)
  | [], σ, σ', z, h, hi, hi' => by
    simp only [lexLoop]
    exact lexEnd_ws cc hcc toks u u' endFuel σ σ' z h hi hi'
  | c :: rest, σ, σ', z, h, hi, hi' => by
    -- the lock step of `lexLoop_congr`, under `WsRel` until the whitespace token is out; from there on `lexLoop_congr` itself
    obtain ⟨e0, e4, e1, e8, e9, e10⟩ := posEq_eraseW h.pos
    simp only [lexLoop]
    have hEb : σ'.result.isErr = σ.result.isErr := by rw [e9]
    rw [hEb]
    by_cases hE : σ.result.isErr = true
    · rw [if_pos hE, if_pos hE]
      have hr := isErr_true_iff.mp hE
      rw [lexFinish_err _ hr, lexFinish_err _ (by rw [e9]; exact hr)]
      trivial
    · rw [if_neg hE, if_neg hE]
      obtain ⟨σ1, σ1', ot, ot', h1, h2, hstep⟩ := processChar_ws cc σ σ' u u' z c h
      have hi1 := processChar_inv2 cc hcc _ _ _ _ hi h1
      have hi1' := processChar_inv2 cc hcc _ _ _ _ hi' h2
      rw [h1, h2]
      rcases hstep with ⟨rfl, rfl, hrel⟩ | ⟨t, t', z', rfl, rfl, hty, hwst, ht1, ht2, hpe⟩
      · exact lexLoop_ws cc hcc toks u u' rest σ1 σ1' _ hrel hi1 hi1'
      · simp only []
        obtain ⟨f0, f3, f2, f4, f1, f5, f6, f7, f8, f9, f10⟩ := (posEq_iff σ1 σ1').mp hpe
        rw [f9]
        cases σ1.result with
        | err => trivial
        | ok =>
          simp only []
          have := lexLoop_congr cc hcc (toks ++ [t]) (toks ++ [t']) rest σ1 σ1' [] [] hpe hi1 hi1' (SameTT.refl [])
          simp only [List.append_nil] at this
          exact wsOut_of_ext hty hwst ht1 ht2 this


/-- the lexer is inside a Whitespace token without newline whose text so far is `cs` -/
structure InWhitespace (σ : Lexer) (cs : List Char) : Prop where
  wsA : WsA σ cs
  type : σ.currentTokenType = some .whitespace

theorem inWhitespace_blank (cc : CharClass) (σ : Lexer) (cs : List Char) (c : Char) (h : InWhitespace σ cs)
    (hc : IsBlank c) :
    ∃ σ1, processChar cc σ c = .ok (σ1, none) ∧ InWhitespace σ1 (cs ++ [c]) ∧
      PosEq (eraseChars σ) (eraseChars σ1) := by
  obtain ⟨σ1, hp, hw⟩ := wsA_blank cc σ cs c h.wsA hc
  have e := processChar_cont (cc := cc) (.spBlank h.wsA.state (blank_tests hc).1 (blank_tests hc).2.1)
  rw [hp] at e
  cases e
  exact ⟨_, hp, ⟨hw, by simp [h.type]⟩, by rw [posEq_iff]; simp [bumpColumn, eraseChars]; split <;> simp⟩

theorem inWhitespace_run (cc : CharClass) (ws : List Char) (σ : Lexer) (cs : List Char) (toks : List LexerToken)
    (h : InWhitespace σ cs) (hb : ∀ c ∈ ws, IsBlank c) :
    ∃ σ1, runChars cc ws σ toks = .ok (σ1, toks) ∧ InWhitespace σ1 (cs ++ ws) ∧ PosEq (eraseChars σ) (eraseChars σ1) :=
  runChars_cont cc (fun cs τ => InWhitespace τ cs ∧ PosEq (eraseChars σ) (eraseChars τ)) IsBlank (fun _ _ h => h.1.wsA.ok)
    (fun cs τ x h hx => let ⟨τ1, hp, h1, hpe⟩ := inWhitespace_blank cc τ cs x h.1 hx; ⟨τ1, hp, h1, h.2.trans hpe⟩)
    ws cs σ toks ⟨h, PosEq.refl _⟩ hb

theorem inv_of_spaces {σ : Lexer} (h : σ.state = .spaces) : Inv σ := fun hf => by rw [h] at hf; cases hf

theorem lexLoop_whitespace_local (cc : CharClass) (hcc : cc.Sane) (σ : Lexer) (cs r r' b : List Char)
    (toks : List LexerToken) (h : InWhitespace σ cs) (hr : ∀ c ∈ r, IsBlank c) (hr' : ∀ c ∈ r', IsBlank c) :
    WsOut toks (cs ++ r) (cs ++ r') (lexLoop cc (r ++ b) σ toks) (lexLoop cc (r' ++ b) σ toks) := by
  obtain ⟨σ1, hrun1, hin1, hpe1⟩ := inWhitespace_run cc r σ cs toks h hr
  obtain ⟨σ1', hrun1', hin1', hpe1'⟩ := inWhitespace_run cc r' σ cs toks h hr'
  rw [lexLoop_append cc r b σ σ1 toks toks hrun1, lexLoop_append cc r' b σ σ1' toks toks hrun1']
  have hrel : WsRel σ1 σ1' (cs ++ r) (cs ++ r') [] :=
    ⟨eraseW_of_eraseWs (hpe1.symm.trans hpe1').eraseWs, Or.inl hin1.wsA.state, fun _ => ⟨hin1'.type.trans hin1.type.symm, Or.inl hin1.type⟩,
      by simp [hin1.wsA.chars],
      by simp [hin1'.wsA.chars]⟩
  exact lexLoop_ws cc hcc toks _ _ b σ1 σ1' [] hrel (inv_of_spaces hin1.wsA.state) (inv_of_spaces hin1'.wsA.state)

def inWhitespaceB (σ : Lexer) (cs : List Char) : Bool :=
  σ.state == .spaces && σ.currentCharacters == cs && σ.couldBeSubExpression == false && σ.shouldCreate == true &&
  σ.result == .ok && σ.currentTokenType == some .whitespace

theorem inWhitespace_of_check {σ : Lexer} {cs : List Char} (h : inWhitespaceB σ cs = true) : InWhitespace σ cs := by
  simp only [inWhitespaceB, Bool.and_eq_true, beq_iff_eq] at h
  obtain ⟨⟨⟨⟨⟨h1, h2⟩, h3⟩, h4⟩, h5⟩, h6⟩ := h
  exact ⟨⟨h1, h2, h3, h4, h5⟩, h6⟩

end Garnish.Model.Lexer
