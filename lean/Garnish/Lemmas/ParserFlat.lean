/-
The bracket-free stages of Props/C02Parse.lean (`frag1` .. `frag4`: values, prefix and suffix operators,
binary operators, trivia; the recognisers stand in ParserFrag, ParserPrefix, ParserSuffix, ParserFrag4) as instances
of the theorem about syntax trees (`parse_ex_full`, Lemmas/ParserBSyntax): a list of one of these fragments has the flat shape
`prefix* value suffix* (trivia* binop trivia* prefix* value suffix*)*` (`FlatShape`), the flat shape is the token list of a
left-nested syntax tree of `.atom` / `.suf` / `.bin` nodes (`itemsEx`), and since no token of it opens a bracket the
reference tree has no `group` node, so that reading the parser's tree with or without brackets (`toRG` / `toRd`) is the same.
Acceptance and the proper tree do not depend on the positions the tokens carry (`parse_flat_full`, `parse_frag4_ok`).
-/
import Garnish.Lemmas.ParserBSyntax
import Garnish.Lemmas.RefParseNodes

namespace Garnish.Spec
open Garnish Garnish.Gen Garnish.Model.Parser Garnish.Abs.Source

theorem toRG_eq_toRd_of_treeOK {toks : List PToken} (df : Nat → Definition)
    (hnb : ∀ tok ∈ toks, isBracketDef (getDefinition tok.type).1 = false) :
    ∀ t : Tree, TreeOK toks (toRG df t) → toRG df t = toRd df t
  | .nil, _ => rfl
  | .node l i k r, h => by
    cases hb : isBracketDef (df i) with
    | true =>
      -- a `group` node would sit on a token whose definition is a bracket
      simp only [toRG, hb, if_true] at h
      rcases h (df i) k (by simp [nodeDefs]) with e | ⟨tok, ht, e | ⟨e, _⟩⟩
      · rw [e] at hb; exact absurd hb (by decide)
      · rw [e, hnb tok (List.mem_of_getElem? ht)] at hb; cases hb
      · rw [e] at hb; exact absurd hb (by decide)
    | false =>
      simp only [toRG, hb, Bool.false_eq_true, if_false, toRd] at h ⊢
      rw [toRG_eq_toRd_of_treeOK df hnb l (fun d k hm => h d k (by simp [nodeDefs, hm])),
        toRG_eq_toRd_of_treeOK df hnb r (fun d k hm => h d k (by simp [nodeDefs, hm]))]

/-- `prefix* value suffix* (trivia* binop trivia* prefix* value suffix*)*` -/
def FlatShape (toks : List PToken) : Prop :=
  ∃ pre0 a0 sufs0 items, toks = pre0 ++ a0 :: (sufs0 ++ flatDecS items) ∧ (∀ p ∈ pre0, isPrefixTok p = true) ∧
    isAtom10 a0 = true ∧ (∀ s ∈ sufs0, isSuffixTok s = true) ∧ ∀ it ∈ items, SItem.ok it

def sufEx (e : Ex) : List PToken → Ex
  | [] => e
  | s :: ss => sufEx (.suf e s) ss

def itemsEx (e : Ex) : List SItem → Ex
  | [] => e
  | it :: rest =>
    itemsEx (sufEx (.bin e it.item.ws1 it.item.op it.item.ws2 (.atom it.item.pre it.item.atom)) it.sufs) rest

theorem sufEx_toks : ∀ (ss : List PToken) (e : Ex), (sufEx e ss).toks = e.toks ++ ss
  | [], e => by simp [sufEx]
  | s :: ss, e => by simp [sufEx, sufEx_toks ss, Ex.toks]

theorem sufEx_ok {F : Fl} : ∀ (ss : List PToken) (e : Ex), e.ok F false = true → (∀ s ∈ ss, isSuffixTok s = true) →
    (sufEx e ss).ok F false = true
  | [], _, he, _ => he
  | s :: ss, e, he, hs =>
    sufEx_ok ss (.suf e s) (by simp [Ex.ok, he, hs s (List.mem_cons_self ..)])
      (fun x hx => hs x (List.mem_cons_of_mem _ hx))

theorem itemsEx_toks : ∀ (items : List SItem) (e : Ex), (itemsEx e items).toks = e.toks ++ flatDecS items
  | [], e => by simp [itemsEx, flatDecS]
  | it :: rest, e => by
    simp [itemsEx, itemsEx_toks rest, sufEx_toks, Ex.toks, flatDecS, SItem.dec, OItem.dec]

theorem itemsEx_ok {F : Fl} : ∀ (items : List SItem) (e : Ex), e.ok F false = true → (∀ it ∈ items, SItem.ok it) →
    (itemsEx e items).ok F false = true
  | [], _, he, _ => he
  | it :: rest, e, he, hok => by
    obtain ⟨⟨h1, h2, h3, h4, h5⟩, h6⟩ := hok it (List.mem_cons_self ..)
    refine itemsEx_ok rest _ (sufEx_ok _ _ ?_ h6) (fun x hx => hok x (List.mem_cons_of_mem _ hx))
    simp only [Ex.ok, Ex.isOpd, he, h2, h5, Bool.true_and, Bool.and_true, Bool.true_or, Bool.and_eq_true, List.all_eq_true]
    exact ⟨⟨h1, h3⟩, h4⟩

theorem flat_not_bracket {t : PToken}
    (h : (isPrefixTok t || isAtom10 t || isSuffixTok t || isBinopTok t || isTriviaTok t) = true) :
    isBracketDef (getDefinition t.type).1 = false := by
  unfold isPrefixTok isAtom10 isSuffixTok isBinopTok isTriviaTok at h
  revert h; generalize t.type = tt
  revert tt; exact TokenType.forall_of_all (by decide +kernel)

theorem flatShape_not_bracket {toks : List PToken} (h : FlatShape toks) :
    ∀ tok ∈ toks, isBracketDef (getDefinition tok.type).1 = false := by
  obtain ⟨pre0, a0, sufs0, items, rfl, hpre, ha, hsufs, hoks⟩ := h
  have hitems : ∀ tok ∈ flatDecS items, isBracketDef (getDefinition tok.type).1 = false := by
    induction items with
    | nil => intro tok hm; cases hm
    | cons it rest ih =>
      obtain ⟨⟨h1, h2, h3, h4, h5⟩, h6⟩ := hoks it (List.mem_cons_self ..)
      intro tok hm
      simp only [flatDecS, SItem.dec, OItem.dec, List.mem_append, List.mem_cons, List.not_mem_nil, or_false] at hm
      rcases hm with ((hm | rfl | hm | hm | rfl) | hm) | hm
      · exact flat_not_bracket (by simp [h1 tok hm])
      · exact flat_not_bracket (by simp [h2])
      · exact flat_not_bracket (by simp [h3 tok hm])
      · exact flat_not_bracket (by simp [h4 tok hm])
      · exact flat_not_bracket (by simp [h5])
      · exact flat_not_bracket (by simp [h6 tok hm])
      · exact ih (fun x hx => hoks x (List.mem_cons_of_mem _ hx)) tok hm
  intro tok hm
  simp only [List.mem_append, List.mem_cons] at hm
  rcases hm with hm | rfl | hm | hm
  · exact flat_not_bracket (by simp [hpre tok hm])
  · exact flat_not_bracket (by simp [ha])
  · exact flat_not_bracket (by simp [hsufs tok hm])
  · exact hitems tok hm

theorem parse_flat_full {toks : List PToken} (hf : FlatShape toks) :
    ∃ r t, parse toks = .ok r ∧ toTree r = some t ∧
      (NumberedFrom 0 toks → refParse Table.gen toks = .ok (toRd (dfOf r.nodes) t)) := by
  have hnb := flatShape_not_bracket hf
  obtain ⟨pre0, a0, sufs0, items, rfl, hpre, ha, hsufs, hoks⟩ := hf
  have hok : (itemsEx (sufEx (.atom pre0 a0) sufs0) items).ok ⟨false, false, false⟩ false = true :=
    itemsEx_ok _ _ (sufEx_ok _ _ (by simp [Ex.ok, ha, List.all_eq_true]; exact hpre) hsufs) hoks
  have htoks : (itemsEx (sufEx (.atom pre0 a0) sufs0) items).toks = pre0 ++ a0 :: (sufs0 ++ flatDecS items) := by
    simp [itemsEx_toks, sufEx_toks, Ex.toks]
  obtain ⟨r, t, h1, h2, _, _, h3⟩ := parse_ex_full _ hok
  rw [htoks] at h1 h3
  refine ⟨r, t, h1, h2, fun hnum => ?_⟩
  rw [← toRG_eq_toRd_of_treeOK _ hnb t (refParse_nodes _ _ (h3 hnum))]
  exact h3 hnum

theorem parse_flat {toks : List PToken} (hf : FlatShape toks) (hnum : NumberedFrom 0 toks) :
    ∃ r t, parse toks = .ok r ∧ toTree r = some t ∧ refParse Table.gen toks = .ok (toRd (dfOf r.nodes) t) :=
  let ⟨r, t, h1, h2, h3⟩ := parse_flat_full hf; ⟨r, t, h1, h2, h3 hnum⟩

theorem frag3_flat {toks : List PToken} (h : frag3 toks = true) : FlatShape toks := frag3_sound h

theorem flatDecS_ofO : ∀ items : List OItem, flatDecS (items.map (⟨·, []⟩)) = flatDecO items
  | [] => rfl
  | it :: rest => by simp [flatDecO, flatDecS, SItem.dec, flatDecS_ofO rest]

theorem frag2_flat {toks : List PToken} (h : frag2 toks = true) : FlatShape toks := by
  obtain ⟨pre0, a0, items, rfl, hpre, ha, hoks⟩ := frag2_sound h
  refine ⟨pre0, a0, [], items.map (⟨·, []⟩), by rw [flatDecS_ofO, List.nil_append], hpre, ha, by simp, ?_⟩
  intro it hit
  obtain ⟨it0, h0, rfl⟩ := List.mem_map.mp hit
  exact ⟨hoks it0 h0, by simp⟩

theorem flatDecS_ofW : ∀ items : List WItem,
    flatDecS (items.map (fun it => ⟨⟨it.ws1, it.op, it.ws2, [], it.atom⟩, []⟩)) = flatDec items
  | [] => rfl
  | it :: rest => by simp [flatDec, flatDecS, SItem.dec, OItem.dec, WItem.dec, flatDecS_ofW rest]

theorem frag4_flat {toks : List PToken} (h : frag4 toks = true) : FlatShape toks := by
  obtain ⟨a0, items, rfl, ha, hoks⟩ := frag4_sound h
  refine ⟨[], a0, [], _, by rw [flatDecS_ofW, List.nil_append, List.nil_append], by simp, ha, by simp, ?_⟩
  intro it hit
  obtain ⟨it0, h0, rfl⟩ := List.mem_map.mp hit
  obtain ⟨h1, h2, h3, h4⟩ := hoks it0 h0
  exact ⟨⟨h1, h2, h3, by simp, h4⟩, by simp⟩

theorem opAtoms_items : ∀ rest : List PToken, opAtoms rest = true →
    ∃ items : List SItem, rest = flatDecS items ∧ ∀ it ∈ items, SItem.ok it
  | [], _ => ⟨[], rfl, by simp⟩
  | [_], h => by simp [opAtoms] at h
  | o :: a :: rest, h => by
    simp only [opAtoms, Bool.and_eq_true] at h
    obtain ⟨items, rfl, hoks⟩ := opAtoms_items rest h.2
    refine ⟨⟨⟨[], o, [], [], a⟩, []⟩ :: items, by simp [flatDecS, SItem.dec, OItem.dec], ?_⟩
    intro it hit
    rcases List.mem_cons.mp hit with rfl | hit
    · exact ⟨⟨by simp, h.1.1, by simp, by simp, h.1.2⟩, by simp⟩
    · exact hoks it hit

theorem frag1_flat {toks : List PToken} (h : frag1 toks = true) : FlatShape toks := by
  cases toks with
  | nil => simp [frag1] at h
  | cons a0 rest =>
    simp only [frag1, Bool.and_eq_true] at h
    obtain ⟨items, rfl, hoks⟩ := opAtoms_items rest h.2
    exact ⟨[], a0, [], items, by simp, by simp, h.1, by simp, hoks⟩

theorem parse_flat_of_ok {toks : List PToken} (hf : FlatShape toks) (hnum : NumberedFrom 0 toks) (r : ParseResult)
    (h : parse toks = .ok r) : ∃ t, toTree r = some t ∧ refParse Table.gen toks = .ok (toRd (dfOf r.nodes) t) := by
  obtain ⟨r', t, h1, h2, h3⟩ := parse_flat hf hnum
  rw [h] at h1; cases h1
  exact ⟨t, h2, h3⟩

theorem parse_frag4_ok (toks : List PToken) (hf : frag4 toks = true) : ∃ r, parse toks = .ok r :=
  let ⟨r, _, h, _⟩ := parse_flat_full (frag4_flat hf); ⟨r, h⟩

end Garnish.Spec
