/-
Brackets: `parse_token` for a new operator on a frame that satisfies `NInv`.  After `)` / `}` the parser's `last_left` is
the bracket node `cb`, which sits at the bottom of the right spine of the frame's tree *as far as the walk is concerned*:
the content of the bracket hangs below it but is never visited.  `rspineUpC` is the right spine from `cb` upwards (a parent
`Chain` that ends below the open bracket: `chain_of_treeC`, `walkLoop_chain`); `absorbC`, `insertC` are
`absorbS`, `insertS` that stop descending at `cb` (and never stop the operator at `cb`: every operator binds looser than a
bracket); `walk_insertC` is the array-level insertion lemma for this walk.  `core_effectC`: the walk starts at `cb` and an
inner node stops the operator, or it passes the whole frame at top level (new root), or it passes the whole frame inside a
bracket (the walk stops at the bracket node, whose `right` is redirected).  `core_effectB`: the walk starts at the last
node; either that node stops the operator (the walk ends at its first node), or it is passed like a `cb` (`absorbC_last`).
-/
import Garnish.Lemmas.ParserBFrame

namespace Garnish.Spec
open Garnish Garnish.Gen Garnish.Model.Parser

/-- `cb` lies on the right spine -/
def OnSpine (cb : Nat) : Tree → Prop
  | .nil => False
  | .node _ i _ r => i = cb ∨ OnSpine cb r

/-- the right spine from `cb` upwards -/
def rspineUpC (cb : Nat) : Tree → List Nat
  | .nil => []
  | .node _ i _ r => if i = cb then [i] else rspineUpC cb r ++ [i]

/-- `absorbS` for a walk that starts at `cb` (and passes it) -/
def absorbC (cb : Nat) (pr : Nat → Nat) (q : Nat) (rtl : Bool) (n ko : Nat) (sub : Tree) : Tree → Option Tree
  | .nil => none
  | .node l i k r =>
    if i = cb then none
    else
      match absorbC cb pr q rtl n ko sub r with
      | some r' => some (.node l i k r')
      | none => if stops q rtl (pr i) then some (.node l i k (newOpS r n ko sub)) else none

def insertC (cb : Nat) (pr : Nat → Nat) (q : Nat) (rtl : Bool) (n ko : Nat) (sub : Tree) (t : Tree) : Tree :=
  match absorbC cb pr q rtl n ko sub t with
  | some t' => t'
  | none => newOpS t n ko sub

theorem absorbC_inorder (cb : Nat) (pr : Nat → Nat) (q : Nat) (rtl : Bool) (n ko : Nat) (sub : Tree) :
    ∀ t t', absorbC cb pr q rtl n ko sub t = some t' → t'.inorder = t.inorder ++ n :: sub.inorder := by
  intro t
  induction t with
  | nil => intro t' h; simp [absorbC] at h
  | node l i k r _ ihr =>
    intro t' h
    simp only [absorbC] at h
    split at h
    · cases h
    · cases hr : absorbC cb pr q rtl n ko sub r with
      | some r' =>
        simp only [hr, Option.some.injEq] at h; subst h
        simp [Tree.inorder, ihr r' hr]
      | none =>
        simp only [hr] at h
        split at h
        · simp only [Option.some.injEq] at h; subst h
          simp [Tree.inorder, newOpS]
        · cases h

theorem insertC_inorder (cb : Nat) (pr : Nat → Nat) (q : Nat) (rtl : Bool) (n ko : Nat) (sub t : Tree) :
    (insertC cb pr q rtl n ko sub t).inorder = t.inorder ++ n :: sub.inorder := by
  unfold insertC
  cases h : absorbC cb pr q rtl n ko sub t with
  | some t' => exact absorbC_inorder cb pr q rtl n ko sub t t' h
  | none => simp [newOpS, Tree.inorder]

theorem absorbC_eq_absorbS (cb : Nat) (pr : Nat → Nat) (q : Nat) (rtl : Bool) (n ko : Nat) (sub : Tree) :
    ∀ t : Tree, cb ∉ t.inorder → absorbC cb pr q rtl n ko sub t = absorbS pr q rtl n ko sub t
  | .nil, _ => rfl
  | .node l i k r, h => by
    have hi : i ≠ cb := fun e => h (by simp [Tree.inorder, e])
    simp only [absorbC, absorbS, if_neg hi,
      absorbC_eq_absorbS cb pr q rtl n ko sub r (fun hm => h (by simp [Tree.inorder, hm]))]
    cases absorbS pr q rtl n ko sub r <;> rfl

theorem insertC_eq_insertS (cb : Nat) (pr : Nat → Nat) (q : Nat) (rtl : Bool) (n ko : Nat) (sub t : Tree)
    (h : cb ∉ t.inorder) : insertC cb pr q rtl n ko sub t = insertS pr q rtl n ko sub t := by
  unfold insertC insertS
  rw [absorbC_eq_absorbS cb pr q rtl n ko sub t h]
  cases absorbS pr q rtl n ko sub t <;> rfl

theorem rspineUpC_head (cb : Nat) : ∀ t : Tree, OnSpine cb t → (rspineUpC cb t).head? = some cb
  | .nil, h => by cases h
  | .node l i k r, h => by
    simp only [rspineUpC]
    split
    · rename_i hi; simp [hi]
    · rename_i hi
      have hr : OnSpine cb r := by rcases h with h | h; exact absurd h hi; exact h
      have := rspineUpC_head cb r hr
      rw [List.head?_append, this]; rfl

theorem rspineUpC_length (cb : Nat) (t : Tree) : (rspineUpC cb t).length ≤ t.inorder.length := by
  induction t with
  | nil => simp [rspineUpC, Tree.inorder]
  | node l i k r _ ihr =>
    simp only [rspineUpC, Tree.inorder, List.length_append, List.length_cons]
    split
    · simp only [List.length_cons, List.length_nil]; omega
    · simp only [List.length_append, List.length_cons, List.length_nil]; omega

theorem onSpine_mem (cb : Nat) : ∀ t : Tree, OnSpine cb t → cb ∈ t.inorder
  | .nil, h => by cases h
  | .node l i k r, h => by
    rcases h with h | h
    · simp [Tree.inorder, h]
    · simp [Tree.inorder, onSpine_mem cb r h]

theorem chain_of_treeC {nodes : Array ParseNode} (hp : AllPrio nodes) (e : Option Nat) (cb : Nat) {p link : Option Nat} {t : Tree}
    (h : IsTreeAt nodes p link t) (he : ∀ g, e = some g → g ∉ t.inorder) :
    ∀ above : List Nat, Chain nodes e above → p = (above.head?).or e → Chain nodes e (rspineUpC cb t ++ above) := by
  induction h with
  | nil p => intro above hc _; simpa [rspineUpC] using hc
  | node p i nd l r hn hpar _ hr _ ihr =>
    intro above hc hpa
    obtain ⟨q, hq⟩ := hp i nd hn
    have hi : Chain nodes e (i :: above) :=
      ⟨⟨nd, q, hn, hq, by rw [hpar, hpa]⟩, fun h => he i h (by simp [Tree.inorder]), hc⟩
    simp only [rspineUpC]
    split
    · exact hi
    · simp only [List.append_assoc, List.singleton_append]
      exact ihr (fun g hg hm => he g hg (by simp [Tree.inorder, hm])) (i :: above) hi rfl

/-- **the walk from the closed bracket `cb` and the insertion** -/
theorem walk_insertC (nodes : Array ParseNode) (q : Nat) (rtl : Bool) (n ko : Nat) (sub : Tree) (rlink : Option Nat)
    (cb : Nat) (hns : stops q rtl (prioAt nodes cb) = false) :
    ∀ {p link : Option Nat} {t : Tree}, IsTreeAt nodes p link t → ∀ i, link = some i → t.inorder.Nodup →
      OnSpine cb t → ∀ tl0 : Option Nat,
      (∀ tl x, walkSpec nodes q rtl tl0 (rspineUpC cb t) = (tl, some x) →
        ∃ tlv t' nx, tl = some tlv ∧ tlv ∈ t.inorder ∧ x ∈ t.inorder ∧ tlv ≠ x ∧ nodes[x]? = some nx ∧
          nx.right = some tlv ∧ absorbC cb (prioAt nodes) q rtl n ko sub t = some t' ∧
          ∀ arr : Array ParseNode, (∀ j ∈ t.inorder, j ≠ tlv → j ≠ x → arr[j]? = nodes[j]?) →
            arr[tlv]? = (nodes[tlv]?).map (setParent (some n)) → arr[x]? = (nodes[x]?).map (setRight (some n)) →
            NewOpS arr n ko sub (some x) (some tlv) rlink → IsTreeAt arr p link t') ∧
      (∀ tl, walkSpec nodes q rtl tl0 (rspineUpC cb t) = (tl, none) →
        tl = some i ∧ absorbC cb (prioAt nodes) q rtl n ko sub t = none ∧
          ∀ arr : Array ParseNode, (∀ j ∈ t.inorder, j ≠ i → arr[j]? = nodes[j]?) →
            arr[i]? = (nodes[i]?).map (setParent (some n)) → IsTreeAt arr (some n) link t) := by
  intro p link t h
  induction h with
  | nil p => intro i hi; cases hi
  | node p i nd l r hn hpar hl hr _ ihr =>
    intro i' hi' hnd hon tl0
    injection hi' with hi'; subst hi'
    simp only [Tree.inorder] at hnd
    rw [List.nodup_append] at hnd
    obtain ⟨ndl, ndir, hdisj⟩ := hnd
    rw [List.nodup_cons] at ndir
    obtain ⟨hir, ndr⟩ := ndir
    have hil : i ∉ l.inorder := fun hm => hdisj i hm i (List.mem_cons_self ..) rfl
    -- the reparented version of the whole subtree (used in both `none` conclusions)
    have reparent : ∀ arr : Array ParseNode,
        (∀ j ∈ (Tree.node l i (tokPos nd) r).inorder, j ≠ i → arr[j]? = nodes[j]?) →
        arr[i]? = (nodes[i]?).map (setParent (some n)) →
        IsTreeAt arr (some n) (some i) (.node l i (tokPos nd) r) := by
      intro arr hfr hi
      rw [hn] at hi
      refine isTreeAt_node (setParent (some n) nd) hi rfl ?_ ?_ rfl
      · exact hl.frame (fun j hj => hfr j (by simp [Tree.inorder, hj]) (fun e => hil (e ▸ hj)))
      · exact hr.frame (fun j hj => hfr j (by simp [Tree.inorder, hj]) (fun e => hir (e ▸ hj)))
    by_cases hic : i = cb
    · -- the walk starts here and passes
      have hstop : (decide (q < prioAt nodes i) || (q == prioAt nodes i && rtl)) = false := by rw [hic]; exact hns
      simp only [rspineUpC, if_pos hic, walkSpec, hstop, Bool.false_eq_true, if_false]
      constructor
      · intro tl x hw; injection hw with _ h2; cases h2
      · intro tl hw
        injection hw with h1 _
        refine ⟨h1.symm, ?_, reparent⟩
        simp [absorbC, hic]
    · have honr : OnSpine cb r := by rcases hon with h | h; exact absurd h hic; exact h
      cases hrl : nd.right with
      | none =>
        rw [hrl] at hr
        cases hr
        cases honr
      | some ri =>
        have hr' := hr
        rw [hrl] at hr'
        obtain ⟨ihS, ihN⟩ := ihr ri hrl ndr honr tl0
        simp only [rspineUpC, if_neg hic, walkSpec_append]
        cases hw : walkSpec nodes q rtl tl0 (rspineUpC cb r) with
        | mk tlr parr =>
          cases parr with
          | some x =>
            obtain ⟨tlv, r', nx, e1, m1, m2, ne, hx, hxr, habs, harr⟩ := ihS tlr x hw
            constructor
            · intro tl x' hw'
              simp only at hw'
              injection hw' with h1 h2
              injection h2 with h2
              subst h1; subst h2
              refine ⟨tlv, .node l i (tokPos nd) r', nx, e1, by simp [Tree.inorder, m1], by simp [Tree.inorder, m2], ne, hx,
                hxr, by simp [absorbC, hic, habs], ?_⟩
              intro arr hfr htl hxx hnew
              have hitl : i ≠ tlv := fun e => hir (e ▸ m1)
              have hix : i ≠ x := fun e => hir (e ▸ m2)
              refine isTreeAt_node nd (by rw [hfr i (by simp [Tree.inorder]) hitl hix]; exact hn) hpar ?_ ?_ rfl
              · exact hl.frame (fun j hj => hfr j (by simp [Tree.inorder, hj])
                  (fun e => hdisj j hj tlv (List.mem_cons_of_mem _ m1) e)
                  (fun e => hdisj j hj x (List.mem_cons_of_mem _ m2) e))
              · exact harr arr (fun j hj => hfr j (by simp [Tree.inorder, hj])) htl hxx hnew
            · intro tl hw'; simp only at hw'; injection hw' with _ h2; cases h2
          | none =>
            obtain ⟨etl, habs, harr⟩ := ihN tlr hw
            subst etl
            simp only [walkSpec]
            by_cases hs : (decide (q < prioAt nodes i) || (q == prioAt nodes i && rtl)) = true
            · simp only [hs, if_true]
              constructor
              · intro tl x' hw'
                injection hw' with h1 h2
                injection h2 with h2
                subst h1; subst h2
                have hri : ri ∈ r.inorder := hr'.root_mem
                have hne : ri ≠ i := fun e => hir (e ▸ hri)
                refine ⟨ri, .node l i (tokPos nd) (newOpS r n ko sub), nd, rfl, by simp [Tree.inorder, hri],
                  by simp [Tree.inorder], hne, hn, hrl, ?_, ?_⟩
                · have : stops q rtl (prioAt nodes i) = true := hs
                  simp [absorbC, hic, habs, this]
                · intro arr hfr htl hxx hnew
                  rw [hn] at hxx
                  refine isTreeAt_node (setRight (some n) nd) hxx hpar ?_ ?_ rfl
                  · exact hl.frame (fun j hj => hfr j (by simp [Tree.inorder, hj])
                      (fun e => hdisj j hj ri (List.mem_cons_of_mem _ hri) e) (fun e => hil (e ▸ hj)))
                  · show IsTreeAt arr (some i) (some n) (newOpS r n ko sub)
                    refine newOpS_isTreeAt hnew ?_
                    have := harr arr (fun j hj hjr => hfr j (by simp [Tree.inorder, hj]) hjr (fun e => hir (e ▸ hj))) htl
                    rw [hrl] at this
                    exact this
              · intro tl hw'; injection hw' with _ h2; cases h2
            · have hs' : (decide (q < prioAt nodes i) || (q == prioAt nodes i && rtl)) = false := by
                simpa using hs
              simp only [hs', Bool.false_eq_true, if_false]
              constructor
              · intro tl x' hw'; injection hw' with _ h2; cases h2
              · intro tl hw'
                injection hw' with h1 _
                have : stops q rtl (prioAt nodes i) = false := hs'
                exact ⟨h1.symm, by simp [absorbC, hic, habs, this], reparent⟩

/-- what lies outside the frame: the bracket node (if any) is just below it and not in its tree, an array that changes only
    nodes of the tree leaves the outside alone, and the bracket node keeps its data -/
theorem NInv.outside {nodes : Array ParseNode} {ug p : Option Nat} {base : Nat} {E : Tree} {re : Nat}
    (hinv : NInv nodes ug p base E re) :
    (∀ g, p = some g → g + 1 = base ∧ g ∉ E.inorder ∧ ∃ G pg, nodes[g]? = some G ∧
      G.definition.isGroupLike = true ∧ priority G.definition = some pg ∧ G.right = some re) ∧
    (∀ (nodes' : Array ParseNode), (∀ j, j ∉ E.inorder → nodes'[j]? = nodes[j]?) →
      (∀ j, j < base → (nodes'[j]?).map (setRight none) = (nodes[j]?).map (setRight none)) ∧
      (∀ j, j + 1 < base → nodes'[j]? = nodes[j]?)) ∧
    (∀ (arr nodes' : Array ParseNode), (∀ j, j < nodes.size → arr[j]? = nodes'[j]?) →
      (∀ j, j ∉ E.inorder → nodes'[j]? = nodes[j]?) →
      ∀ g, p = some g → ∃ G', arr[g]? = some G' ∧ G'.right = some re ∧ G'.definition.isGroupLike = true ∧
        ∃ pg, priority G'.definition = some pg) := by
  have hge_of_mem : ∀ j, j ∈ E.inorder → base ≤ j := fun j hj => (hinv.mem j hj).1
  obtain ⟨htree, hin, hfirst, hpos, hframe, hprios⟩ := hinv
  have hgfacts : ∀ g, p = some g → g + 1 = base ∧ g ∉ E.inorder ∧ ∃ G pg, nodes[g]? = some G ∧
      G.definition.isGroupLike = true ∧ priority G.definition = some pg ∧ G.right = some re := by
    intro g hg
    cases hframe with
    | top re => cases hg
    | bracket g' re G pg hG hgl hpg hGr =>
      injection hg with hg; subst hg
      exact ⟨rfl, fun hm => by have := hge_of_mem _ hm; omega, G, pg, hG, hgl, hpg, hGr⟩
  have houter_same : ∀ (nodes' : Array ParseNode), (∀ j, j ∉ E.inorder → nodes'[j]? = nodes[j]?) →
      (∀ j, j < base → (nodes'[j]?).map (setRight none) = (nodes[j]?).map (setRight none)) ∧
      (∀ j, j + 1 < base → nodes'[j]? = nodes[j]?) := by
    intro nodes' h
    have hn : ∀ j, j < base → j ∉ E.inorder := fun j hj hm => by have := hge_of_mem j hm; omega
    exact ⟨fun j hj => by rw [h j (hn j hj)], fun j hj => h j (hn j (by omega))⟩
  have hframe_same : ∀ (arr nodes' : Array ParseNode), (∀ j, j < nodes.size → arr[j]? = nodes'[j]?) →
      (∀ j, j ∉ E.inorder → nodes'[j]? = nodes[j]?) →
      ∀ g, p = some g → ∃ G', arr[g]? = some G' ∧ G'.right = some re ∧ G'.definition.isGroupLike = true ∧
        ∃ pg, priority G'.definition = some pg := by
    intro arr nodes' hlt hsame g hg
    obtain ⟨_, hgE, G, pg, hG, hgl, hpg, hGr⟩ := hgfacts g hg
    have hgs : g < nodes.size := (Array.getElem?_eq_some_iff.mp hG).1
    exact ⟨G, by rw [hlt g hgs, hsame g hgE]; exact hG, hGr, hgl, pg, hpg⟩
  exact ⟨hgfacts, houter_same, hframe_same⟩

theorem core_effectC {nodes : Array ParseNode} {ug p : Option Nat} {base : Nat} {E : Tree} {re : Nat}
    (hinv : NInv nodes ug p base E re) (cb : Nat) (hsp : OnSpine cb E)
    (d : Definition) (q : Nat) (rtl : Bool) (right : Option Nat) (hq : priority d = some q)
    (hns : stops q rtl (prioAt nodes cb) = false) :
    ∃ (nodes' : Array ParseNode) (info : Info),
      parseToken nodes.size d (some cb) right nodes ug rtl = .ok (nodes', info) ∧
      info.right = right ∧
      (∀ j, j < nodes.size → (nodes'[j]?).map (·.definition) = (nodes[j]?).map (·.definition)) ∧
      (∀ j, j < base → (nodes'[j]?).map (setRight none) = (nodes[j]?).map (setRight none)) ∧
      (∀ j, j + 1 < base → nodes'[j]? = nodes[j]?) ∧
      (∀ (arr : Array ParseNode) (sub : Tree) (ko : Nat) {rlink : Option Nat}, (∀ j, j < nodes.size → arr[j]? = nodes'[j]?) →
        (∃ on, arr[nodes.size]? = some on ∧ on.parent = info.parent ∧ on.left = info.left ∧ on.right = rlink ∧
          tokPos on = ko) →
        IsTreeAt arr (some nodes.size) rlink sub →
        ∃ re', FrameTree arr p re' (insertC cb (prioAt nodes) q rtl nodes.size ko sub E)) ∧
      ((∀ g, p = some g → info.parent.isSome = true) ∧ ∀ P, info.parent = some P →
        ∃ l, info.left = some l ∧ l < nodes.size ∧ P < nodes.size ∧ l ≠ P ∧
          ∀ j, (if j = P then (nodes'[j]?).map (setRight (some l))
                else if j = l then (nodes'[j]?).map (setParent (some P)) else nodes'[j]?) = nodes[j]?) := by
  have hmemE := hinv.mem
  obtain ⟨htree, hin, hfirst, hpos, hframe, hprios⟩ := hinv
  have hhead : (rspineUpC cb E).head? = some cb := rspineUpC_head cb E hsp
  have hlen : (rspineUpC cb E).length + base ≤ nodes.size := by
    have := rspineUpC_length cb E; have := hin.length_le' (by omega); omega
  have hnd : E.inorder.Nodup := hin.nodup
  have hlt_of_mem : ∀ j, j ∈ E.inorder → j < nodes.size := fun j hj => (hmemE j hj).2
  have hge_of_mem : ∀ j, j ∈ E.inorder → base ≤ j := fun j hj => (hmemE j hj).1
  have hwalk : walkLoop nodes q ug rtl (nodes.size + 1) 0 (some cb) (some cb) =
      .ok ((walkSpec nodes q rtl (some cb) (rspineUpC cb E)).1,
           (walkSpec nodes q rtl (some cb) (rspineUpC cb E)).2.or p) := by
    obtain ⟨hup, hpG⟩ : ug = p ∧ ∀ g, p = some g → g + 1 = base ∧ ∃ G pg, nodes[g]? = some G ∧
        G.definition.isGroupLike = true ∧ priority G.definition = some pg := by
      cases hframe with
      | top re => exact ⟨rfl, fun g h => by cases h⟩
      | bracket g re G pg hG hgl hpg hGr => exact ⟨rfl, fun g' h => by cases h; exact ⟨rfl, G, pg, hG, hgl, hpg⟩⟩
    have hchain : Chain nodes p (rspineUpC cb E) := by
      have := chain_of_treeC hprios p cb htree (fun g hg hm => by have := hge_of_mem g hm; have := (hpG g hg).1; omega) []
        trivial rfl
      simpa using this
    have := walkLoop_chain nodes q rtl p (fun g hg => (hpG g hg).2) (rspineUpC cb E) (nodes.size + 1) 0 (some cb) hchain
      (by omega) (by omega)
    rw [hhead] at this
    rw [hup]
    exact this
  obtain ⟨hgfacts, houter_same, hframe_same⟩ := NInv.outside ⟨htree, hin, hfirst, hpos, hframe, hprios⟩
  rcases hw : walkSpec nodes q rtl (some cb) (rspineUpC cb E) with ⟨tl, par⟩
  rw [hw] at hwalk
  cases par with
  | some x =>
    simp only [Option.or] at hwalk
    obtain ⟨hS0, _⟩ := walk_insertC nodes q rtl nodes.size 0 .nil none cb hns htree re rfl hnd hsp
      (some cb)
    obtain ⟨tlv, _, nx, e1, m1, m2, ne, hx, hxr, _, _⟩ := hS0 tl x hw
    subst e1
    obtain ⟨nodes', h, hg⟩ := parseToken_stop (id := nodes.size) (right := right) hq hwalk ne hx hxr (hlt_of_mem tlv m1)
    have hsame : ∀ j, j ∉ E.inorder → nodes'[j]? = nodes[j]? := by
      intro j hj
      rw [hg j, if_neg (fun (e : j = tlv) => hj (e ▸ m1)), if_neg (fun (e : j = x) => hj (e ▸ m2))]
    obtain ⟨ho1, ho2⟩ := houter_same nodes' hsame
    refine ⟨nodes', _, h, rfl, ?_, ho1, ho2, ?_, ?_⟩
    rotate_left 2
    · refine ⟨fun _ _ => rfl, ?_⟩
      intro P hP
      injection hP with hP; subst hP
      obtain ⟨nt, hnt, hntp⟩ := htree.right_child_parent m2 hx hxr
      exact ⟨tlv, rfl, hlt_of_mem tlv m1, hlt_of_mem _ m2, ne, undo_stop ne hx hxr hnt hntp hg⟩
    · intro j _
      rw [hg j]
      split
      · exact map_def_setParent _ _
      · split
        · exact map_def_setRight _ _
        · rfl
    · intro arr sub ko rlink hlt hon hsub
      obtain ⟨hS, _⟩ := walk_insertC nodes q rtl nodes.size ko sub rlink cb hns htree re rfl hnd hsp
        (some cb)
      obtain ⟨tlv', t', nx', e1', _, _, _, _, _, habs, harr⟩ := hS (some tlv) x hw
      injection e1' with e1'; subst e1'
      refine ⟨re, ?_, hframe_same arr nodes' hlt hsame⟩
      unfold insertC; rw [habs]
      apply harr arr
      · intro j hj h1 h2
        rw [hlt j (hlt_of_mem j hj), hg j, if_neg h1, if_neg h2]
      · rw [hlt tlv (hlt_of_mem tlv m1), hg tlv, if_pos rfl]
      · rw [hlt x (hlt_of_mem x m2), hg x, if_neg (fun e => ne e.symm), if_pos rfl]
      · obtain ⟨on, o1, o2, o3, o4, o5⟩ := hon
        exact ⟨⟨on, o1, o2, o3, o4, o5⟩, hsub⟩
  | none =>
    obtain ⟨_, hN0⟩ := walk_insertC nodes q rtl nodes.size 0 .nil none cb hns htree re rfl hnd hsp
      (some cb)
    obtain ⟨e1, _, _⟩ := hN0 tl hw
    subst e1
    have hre : re < nodes.size := hlt_of_mem re htree.root_mem
    cases hp : p with
    | none =>
      -- top level: the operator becomes the root
      subst hp
      simp only [Option.or] at hwalk
      obtain ⟨nodes', h, hg⟩ := parseToken_root (id := nodes.size) (right := right) hq hwalk hre
      have hsame : ∀ j, j ∉ E.inorder → nodes'[j]? = nodes[j]? := by
        intro j hj; rw [hg j, if_neg (fun (e : j = re) => hj (e ▸ htree.root_mem))]
      obtain ⟨ho1, ho2⟩ := houter_same nodes' hsame
      refine ⟨nodes', _, h, rfl, ?_, ho1, ho2, ?_, ?_⟩
      rotate_left 2
      · exact ⟨fun g hg => (by cases hg), fun P hP => (by cases hP)⟩
      · intro j _
        rw [hg j]
        split
        · exact map_def_setParent _ _
        · rfl
      · intro arr sub ko rlink hlt hon hsub
        obtain ⟨_, hN⟩ := walk_insertC nodes q rtl nodes.size ko sub rlink cb hns htree re rfl hnd hsp
          (some cb)
        obtain ⟨_, habs, harr⟩ := hN (some re) hw
        refine ⟨nodes.size, ?_, fun g hg => by cases hg⟩
        unfold insertC; rw [habs]
        obtain ⟨on, o1, o2, o3, o4, o5⟩ := hon
        apply newOpS_isTreeAt (llink := some re) (rlink := rlink)
        · exact ⟨⟨on, o1, o2, o3, o4, o5⟩, hsub⟩
        · apply harr arr
          · intro j hj h1
            rw [hlt j (hlt_of_mem j hj), hg j, if_neg h1]
          · rw [hlt re hre, hg re, if_pos rfl]
    | some g =>
      -- inside a bracket: the walk stops at the bracket node, whose `right` is redirected to the operator
      subst hp
      simp only [Option.or] at hwalk
      obtain ⟨_, hgE, G, pg, hG, hgl, hpg, hGr⟩ := hgfacts g rfl
      have hgs : g < nodes.size := (Array.getElem?_eq_some_iff.mp hG).1
      have hne : re ≠ g := fun e => hgE (e ▸ htree.root_mem)
      obtain ⟨nodes', h, hg⟩ := parseToken_stop (id := nodes.size) (right := right) hq hwalk hne hG hGr hre
      refine ⟨nodes', _, h, rfl, ?_, ?_, ?_, ?_, ?_⟩
      rotate_left 4
      · refine ⟨fun _ _ => rfl, ?_⟩
        intro P hP
        injection hP with hP; subst hP
        obtain ⟨nt, hnt, hntp⟩ : ∃ nt, nodes[re]? = some nt ∧ nt.parent = some g := by
          cases htree with
          | node _ _ nd _ _ h1 h2 _ _ => exact ⟨nd, h1, h2⟩
        exact ⟨re, rfl, hre, hgs, hne, undo_stop hne hG hGr hnt hntp hg⟩
      · intro j _
        rw [hg j]
        split
        · exact map_def_setParent _ _
        · split
          · exact map_def_setRight _ _
          · rfl
      · intro j hj
        rw [hg j]
        have hjre : j ≠ re := fun e => by have := hge_of_mem re htree.root_mem; omega
        rw [if_neg hjre]
        split
        · exact map_setRight_setRight _ _ _
        · rfl
      · intro j hj
        rw [hg j, if_neg (fun e => by have := hge_of_mem re htree.root_mem; omega),
          if_neg (fun e => by have := (hgfacts g rfl).1; omega)]
      · intro arr sub ko rlink hlt hon hsub
        obtain ⟨_, hN⟩ := walk_insertC nodes q rtl nodes.size ko sub rlink cb hns htree re rfl hnd hsp
          (some cb)
        obtain ⟨_, habs, harr⟩ := hN (some re) hw
        have hGarr : arr[g]? = some (setRight (some nodes.size) G) := by
          rw [hlt g hgs, hg g, if_neg (fun e => hne e.symm), if_pos rfl, hG]; rfl
        refine ⟨nodes.size, ?_, ?_⟩
        · unfold insertC; rw [habs]
          obtain ⟨on, o1, o2, o3, o4, o5⟩ := hon
          apply newOpS_isTreeAt (llink := some re) (rlink := rlink)
          · exact ⟨⟨on, o1, o2, o3, o4, o5⟩, hsub⟩
          · apply harr arr
            · intro j hj h1
              have hjg : j ≠ g := fun e => hgE (e ▸ hj)
              rw [hlt j (hlt_of_mem j hj), hg j, if_neg h1, if_neg hjg]
            · rw [hlt re hre, hg re, if_pos rfl]
        · intro g' hg'
          injection hg' with hg'; subst hg'
          exact ⟨_, hGarr, rfl, hgl, pg, hpg⟩

theorem getLast?_append_cons' {α : Type} (l1 l2 : List α) (n : α) : (l1 ++ n :: l2).getLast? = (n :: l2).getLast? := by
  rw [List.getLast?_append]
  rw [List.getLast?_eq_some_getLast (List.cons_ne_nil n l2)]
  rfl

theorem inorder_getLast?_node (l : Tree) (i k : Nat) (r : Tree) (hr : r.inorder ≠ []) :
    (Tree.node l i k r).inorder.getLast? = r.inorder.getLast? := by
  simp only [Tree.inorder]
  rw [getLast?_append_cons', List.getLast?_cons_of_ne_nil hr]

theorem onSpine_of_last : ∀ (t : Tree) {b : Nat}, t.inorder.getLast? = some b → OnSpine b t
  | .nil, _, h => by simp [Tree.inorder] at h
  | .node l i k .nil, b, h => by
    have : i = b := by simpa [Tree.inorder] using h
    exact Or.inl this
  | .node l i k (.node l2 i2 k2 r2), b, h => by
    refine Or.inr (onSpine_of_last (.node l2 i2 k2 r2) ?_)
    rw [← h, inorder_getLast?_node l i k _ (by simp [Tree.inorder])]

/-- a walk that starts at the bottom of the right spine and passes it is the plain walk -/
theorem absorbC_last (pr : Nat → Nat) (q : Nat) (rtl : Bool) (n ko : Nat) (sub : Tree) :
    ∀ (t : Tree) {b : Nat}, t.inorder.getLast? = some b → t.inorder.Nodup → stops q rtl (pr b) = false →
      absorbC b pr q rtl n ko sub t = absorbS pr q rtl n ko sub t
  | .nil, _, _, _, _ => rfl
  | .node l i k .nil, b, h, _, hns => by
    have : i = b := by simpa [Tree.inorder] using h
    subst this
    simp [absorbC, absorbS, hns]
  | .node l i k (.node l2 i2 k2 r2), b, h, hnd, hns => by
    have hlr : (Tree.node l2 i2 k2 r2).inorder.getLast? = some b := by
      rw [← h, inorder_getLast?_node l i k _ (by simp [Tree.inorder])]
    have hbr : b ∈ (Tree.node l2 i2 k2 r2).inorder := List.mem_of_getLast? hlr
    simp only [Tree.inorder] at hnd hbr
    have hib : i ≠ b := by
      intro e; subst e
      have := (List.nodup_append.mp hnd).2.1
      exact (List.nodup_cons.mp this).1 hbr
    have hndr : (Tree.node l2 i2 k2 r2).inorder.Nodup := by
      have := (List.nodup_append.mp hnd).2.1
      exact (List.nodup_cons.mp this).2
    rw [absorbC, if_neg hib, absorbC_last pr q rtl n ko sub (.node l2 i2 k2 r2) hlr hndr hns]
    rfl
theorem core_effectB {nodes : Array ParseNode} {ug p : Option Nat} {base : Nat} {E : Tree} {re : Nat}
    (hinv : NInv nodes ug p base E re) (hlastT : E.inorder.getLast? = some (nodes.size - 1))
    (d : Definition) (q : Nat) (rtl : Bool) (right : Option Nat) (hq : priority d = some q) :
    ∃ (nodes' : Array ParseNode) (info : Info),
      parseToken nodes.size d (some (nodes.size - 1)) right nodes ug rtl = .ok (nodes', info) ∧
      info.right = right ∧
      (∀ j, j < nodes.size → (nodes'[j]?).map (·.definition) = (nodes[j]?).map (·.definition)) ∧
      (∀ j, j < base → (nodes'[j]?).map (setRight none) = (nodes[j]?).map (setRight none)) ∧
      (∀ j, j + 1 < base → nodes'[j]? = nodes[j]?) ∧
      (∀ (arr : Array ParseNode) (sub : Tree) (ko : Nat) {rlink : Option Nat}, (∀ j, j < nodes.size → arr[j]? = nodes'[j]?) →
        (∃ on, arr[nodes.size]? = some on ∧ on.parent = info.parent ∧ on.left = info.left ∧ on.right = rlink ∧
          tokPos on = ko) →
        IsTreeAt arr (some nodes.size) rlink sub →
        ∃ re', FrameTree arr p re' (insertS (prioAt nodes) q rtl nodes.size ko sub E)) ∧
      (stops q rtl (prioAt nodes (nodes.size - 1)) = false → (∀ g, p = some g → info.parent.isSome = true) ∧ ∀ P, info.parent = some P →
        ∃ l, info.left = some l ∧ l < nodes.size ∧ P < nodes.size ∧ l ≠ P ∧
          ∀ j, (if j = P then (nodes'[j]?).map (setRight (some l))
                else if j = l then (nodes'[j]?).map (setParent (some P)) else nodes'[j]?) = nodes[j]?) := by
  have hmemE := hinv.mem
  obtain ⟨htree, hin, hfirst, hpos, hframe, hprios⟩ := hinv
  have hnd : E.inorder.Nodup := hin.nodup
  have hlt_of_mem : ∀ j, j ∈ E.inorder → j < nodes.size := fun j hj => (hmemE j hj).2
  have hge_of_mem : ∀ j, j ∈ E.inorder → base ≤ j := fun j hj => (hmemE j hj).1
  obtain ⟨hgfacts, houter_same, hframe_same⟩ := NInv.outside ⟨htree, hin, hfirst, hpos, hframe, hprios⟩
  by_cases hstopB : stops q rtl (prioAt nodes (nodes.size - 1)) = true
  · -- the bottom node stops the operator
    obtain ⟨⟨nb, hnb, hnbr⟩, _⟩ := walk_insertB nodes q rtl nodes.size 0 .nil none htree re rfl hnd _ hlastT hstopB
    obtain ⟨pb, hpb⟩ := hprios _ nb hnb
    have hwalk : walkLoop nodes q ug rtl (nodes.size + 1) 0 (some (nodes.size - 1)) (some (nodes.size - 1)) =
        .ok (some (nodes.size - 1), some (nodes.size - 1)) := by
      have hs : (decide (q < pb) || (q == pb && rtl)) = true := by simpa [prioAt, hnb, hpb, stops] using hstopB
      unfold walkLoop
      simp only [hnb, hpb, hs, Bool.true_or, if_true]
    obtain ⟨nodes', h, hg⟩ := parseToken_bottom (id := nodes.size) (right := right) hq hwalk hnb hnbr
    have hbmem : nodes.size - 1 ∈ E.inorder := List.mem_of_getLast? hlastT
    have hsame : ∀ j, j ∉ E.inorder → nodes'[j]? = nodes[j]? := by
      intro j hj; rw [hg j, if_neg (fun (e : j = nodes.size - 1) => hj (e ▸ hbmem))]
    obtain ⟨ho1, ho2⟩ := houter_same nodes' hsame
    refine ⟨nodes', _, h, rfl, ?_, ho1, ho2, ?_, ?_⟩
    rotate_left 2
    · intro hns; rw [hns] at hstopB; cases hstopB
    · intro j _
      rw [hg j]
      split
      · exact map_def_setRight _ _
      · rfl
    · intro arr sub ko rlink hlt hon hsub
      obtain ⟨_, t', habs, harr⟩ := walk_insertB nodes q rtl nodes.size ko sub rlink htree re rfl hnd _ hlastT hstopB
      refine ⟨re, ?_, hframe_same arr nodes' hlt hsame⟩
      unfold insertS; rw [habs]
      have hbl : nodes.size - 1 < nodes.size := by omega
      apply harr arr
      · intro j hj h1
        rw [hlt j (hlt_of_mem j hj), hg j, if_neg h1]
      · rw [hlt _ hbl, hg _, if_pos rfl]
      · obtain ⟨on, o1, o2, o3, o4, o5⟩ := hon
        exact ⟨⟨on, o1, o2, o3, o4, o5⟩, hsub⟩
  · -- otherwise the walk starts at the bottom node and passes it
    have hns : stops q rtl (prioAt nodes (nodes.size - 1)) = false := by simpa using hstopB
    obtain ⟨nodes', info, h1, h2, h3, h4, h5, h6, h7⟩ := core_effectC ⟨htree, hin, hfirst, hpos, hframe, hprios⟩
      (nodes.size - 1) (onSpine_of_last E hlastT) d q rtl right hq hns
    refine ⟨nodes', info, h1, h2, h3, h4, h5, ?_, fun _ => h7⟩
    intro arr sub ko rlink hlt hon hsub
    obtain ⟨re', hre'⟩ := h6 arr sub ko hlt hon hsub
    refine ⟨re', ?_⟩
    unfold insertC at hre'
    rw [absorbC_last _ _ _ _ _ _ E hlastT hnd hns] at hre'
    exact hre'

end Garnish.Spec
