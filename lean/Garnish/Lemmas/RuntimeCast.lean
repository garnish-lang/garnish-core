/-
Refinement lemmas for casting.rs: the prefix of `type_cast` (operands, types, corrected target type), the arms without loops,
and the list-building loops (`while let Some(part)`, the range loop of /repo 5455df2, `list_from_char_list` /
`list_from_byte_list`, the list-slice loop) against the ghost list under construction of `StoreLaws` (`Built`) and the
value-level enumerations (`rangeItems` of Abs/Casts, `intsFrom` of Lemmas/Casts) — the last three on integer extents that lie
inside the sequence (outside it the two data implementations differ and the trait promises nothing: `Indexes`,
Model/Runtime/Store.lean).
-/
import Garnish.Model.Runtime.CastLaws
import Garnish.Lemmas.RuntimeData
import Garnish.Lemmas.RuntimeCmp
import Garnish.Lemmas.RuntimeMakeList
import Garnish.Lemmas.RuntimeStepApply
import Garnish.Lemmas.Casts
namespace Garnish.Lemmas.Runtime
open Garnish Gen Garnish.Abs Garnish.Model.Equality Garnish.Model.Runtime
variable {F σ : Type} {S : RStore F σ} (fo : FloatOps F)


theorem correctedType_spec {s0 : σ} {r : Nat} {vr : Val F} (hr : Decodes (S.view s0) r vr) :
    correctedType S r vr.typeOf s0 = .ok (castTarget vr, s0) := by
  cases hr <;> try rfl
  rename_i t _ ht
  simp [correctedType, Val.typeOf, castGetType, RM.lift, ht, fetch, Outcome.ofOption, Outcome.bind, castTarget]

theorem typeCast_prefix (L : StoreLaws S) (C : CastOps σ) (fuel : Nat) {s : σ} {r l : Nat} {vr vl : Val F}
    {rest : List Nat} (hregs : S.regs s = r :: l :: rest) (hl : Decodes (S.view s) l vl)
    (hr : Decodes (S.view s) r vr) :
    ∃ s0, Eff S s s0 rest (S.vals s) ∧ Decodes (S.view s0) l vl ∧ Decodes (S.view s0) r vr ∧
      typeCast fo S C fuel s =
        (castBody fo S C fuel l r vl.typeOf (castTarget vr) >>= fun _ => pure (none : Option Nat)) s0 := by
  obtain ⟨s0, h0, e0⟩ := nextTwoRawRef_cons L hregs
  refine ⟨s0, e0, e0.dec hl, e0.dec hr, ?_⟩
  rw [typeCast, bind_ok h0]
  simp only []
  rw [bind_ok (getDataType_of (e0.dec hl)), bind_ok (getDataType_of (e0.dec hr)),
    bind_ok (correctedType_spec (e0.dec hr))]


/-- an adder, `push_register`, then `Ok(None)` -/
theorem castPush (L : StoreLaws S) {s s0 : σ} {rest : List Nat} {m : RM σ Nat} {v : Val F}
    (e0 : Eff S s s0 rest (S.vals s)) (ha : Adds S m s0 v) :
    Pushed S s (((do let r ← m; S.pushRegister r : RM σ Unit) >>= fun _ => pure (none : Option Nat)) s0)
      none rest v := by
  obtain ⟨ad, s2, h2, d2, e2⟩ := ha
  obtain ⟨s3, h3, e3⟩ := L.pushRegister ad s2
  rw [e2.regs, e2.vals, e0.regs, e0.vals] at e3
  exact ⟨ad, s3, by rw [bind_ok2 h2, bind_ok h3]; rfl, e3.dec d2, (e0.trans e2).trans e3⟩

/-- `push_unit` then `Ok(None)` -/
theorem castPushUnit (L : StoreLaws S) {s s0 : σ} {rest : List Nat} (e0 : Eff S s s0 rest (S.vals s)) :
    Pushed S s ((pushUnit S >>= fun _ => pure (none : Option Nat)) s0) none rest .unit :=
  castPush L e0 (L.addUnit s0)

/-- `push_register(left)` then `Ok(None)` -/
theorem castPushLeft (L : StoreLaws S) {s s0 : σ} {rest : List Nat} {l : Nat} {vl : Val F}
    (e0 : Eff S s s0 rest (S.vals s)) (hl : Decodes (S.view s0) l vl) :
    Pushed S s ((S.pushRegister l >>= fun _ => pure (none : Option Nat)) s0) none rest vl := by
  obtain ⟨s3, h3, e3⟩ := L.pushRegister l s0
  rw [e0.regs, e0.vals] at e3
  exact ⟨l, s3, by rw [bind_ok h3]; rfl, e3.dec hl, e0.trans e3⟩

/-- a delegated conversion, `push_register`, `Ok(None)` -/
theorem castConv (L : StoreLaws S) {s s0 : σ} {rest : List Nat} {m : RM σ Nat} {o : OpOut F} {la ra : Nat}
    (e0 : Eff S s s0 rest (S.vals s)) (hc : ConvOut S m s0 o) :
    RefinesCast S s (((do let r ← m; S.pushRegister r : RM σ Unit) >>= fun _ => pure (none : Option Nat)) s0)
      none rest la ra o := by
  cases o with
  | val w => exact castPush L e0 hc
  | err e =>
    show _ = Outcome.err e
    have hc' : m s0 = .err e := hc
    rw [bind_apply, bind_err hc']
  | defer op a b => exact absurd hc id

theorem primitiveCast_some (L : StoreLaws S) {A B : Type} {s s0 : σ} {rest : List Nat} {addr : Nat}
    {get : Nat → RM σ A} {cast : A → Option B} {add : B → RM σ Nat} {x : A} {y : B} {v : Val F}
    (e0 : Eff S s s0 rest (S.vals s)) (hg : get addr s0 = .ok (x, s0)) (hcast : cast x = some y)
    (ha : Adds S (add y) s0 v) :
    Pushed S s ((primitiveCast S addr get cast add >>= fun _ => pure (none : Option Nat)) s0) none rest v := by
  have := castPush L e0 ha
  rw [primitiveCast, bind_ok2 hg]
  simp only [hcast]
  exact this

theorem primitiveCast_none (L : StoreLaws S) {A B : Type} {s s0 : σ} {rest : List Nat} {addr : Nat}
    {get : Nat → RM σ A} {cast : A → Option B} {add : B → RM σ Nat} {x : A}
    (e0 : Eff S s s0 rest (S.vals s)) (hg : get addr s0 = .ok (x, s0)) (hcast : cast x = none) :
    Pushed S s ((primitiveCast S addr get cast add >>= fun _ => pure (none : Option Nat)) s0) none rest .unit := by
  have := castPushUnit L e0
  rw [primitiveCast, bind_ok2 hg]
  simp only [hcast]
  exact this

/-- what a building loop establishes: it returned a token, only data was added, and the construction now holds the
old items followed by new ones denoting `vs` -/
def Built (S : RStore F σ) (s : σ) (res : Outcome (Nat × σ)) (items : List Nat) (vs : List (Val F)) : Prop :=
  ∃ t' s' new, res = .ok (t', s') ∧ Eff S s s' (S.regs s) (S.vals s) ∧ S.building s' = some (t', items ++ new) ∧
    DecodesList (S.view s') new vs

/-- an adder of list items: it adds a value denoting `mk c` and leaves a list under construction alone -/
structure ItemAdder {β : Type} (S : RStore F σ) (add : β → RM σ Nat) (mk : β → Val F) : Prop where
  adds : ∀ c s, Adds S (add c) s (mk c)
  keeps : ∀ c s a s', add c s = .ok (a, s') → S.building s' = S.building s

theorem numLe_eq (a b : Number F) : Model.Runtime.numLe fo a b = Abs.numLe fo a b := rfl
theorem numLt_eq (a b : Number F) : Model.Runtime.numLt fo a b = Abs.numLt fo a b := rfl

theorem addItem_step (L : StoreLaws S) {m : RM σ Nat} {v : Val F} {s : σ} {t : Nat} {items : List Nat}
    (ha : Adds S m s v) (hk : ∀ a s', m s = .ok (a, s') → S.building s' = S.building s)
    (hb : S.building s = some (t, items)) :
    ∃ a t1 s1 s2, m s = .ok (a, s1) ∧ S.addToList t a s1 = .ok (t1, s2) ∧ Eff S s s2 (S.regs s) (S.vals s) ∧
      S.building s2 = some (t1, items ++ [a]) ∧ Decodes (S.view s2) a v := by
  obtain ⟨a, s1, h1, d1, e1⟩ := ha
  have hb1 : S.building s1 = some (t, items) := (hk a s1 h1).trans hb
  obtain ⟨t1, s2, h2, e2, b2⟩ := L.addToList t items a s1 hb1
  rw [e1.regs, e1.vals] at e2
  exact ⟨a, t1, s1, s2, h1, h2, e1.trans e2, b2, e2.dec d1⟩

theorem built_cons {s s2 : σ} {res : Outcome (Nat × σ)} {items : List Nat} {a : Nat} {v : Val F} {vs : List (Val F)}
    (e : Eff S s s2 (S.regs s) (S.vals s)) (d : Decodes (S.view s2) a v)
    (h : Built S s2 res (items ++ [a]) vs) : Built S s res items (v :: vs) := by
  obtain ⟨t', s', new, hr, e', b', d'⟩ := h
  rw [e.regs, e.vals] at e'
  exact ⟨t', s', a :: new, hr, e.trans e', by rw [b']; simp, .cons (e'.dec d) d'⟩


theorem fuel_succ {n fuel : Nat} (h : n + 1 ≤ fuel) : ∃ k, fuel = k + 1 :=
  Nat.exists_eq_add_one_of_ne_zero (Nat.ne_of_gt (Nat.lt_of_lt_of_le (Nat.succ_pos n) h))

theorem symListLoop_spec (L : StoreLaws S) (hsy : ItemAdder S S.addSymbol (Val.sym (F := F)))
    (hnu : ItemAdder S S.addNumber (Val.num (F := F))) :
    ∀ (ps : List (SymPart F)) (t : Nat) (items : List Nat) (s : σ), S.building s = some (t, items) →
      Built S s (symListLoop S ps t s) items (ps.map symPartVal)
  | [], t, items, s, hb => ⟨t, s, [], rfl, Eff.refl S s, by simpa using hb, .nil⟩
  | p :: ps, t, items, s, hb => by
    cases p with
    | sym y =>
      obtain ⟨a, t1, s1, s2, h1, h2, e2, b2, d2⟩ := addItem_step L (hsy.adds y s) (hsy.keeps y s) hb
      have ih := symListLoop_spec L hsy hnu ps t1 (items ++ [a]) s2 b2
      have : symListLoop S (.sym y :: ps) t s = symListLoop S ps t1 s2 := by
        rw [symListLoop]; simp only []; rw [bind_ok h1, bind_ok h2]
      rw [this]
      exact built_cons e2 d2 ih
    | num n =>
      obtain ⟨a, t1, s1, s2, h1, h2, e2, b2, d2⟩ := addItem_step L (hnu.adds n s) (hnu.keeps n s) hb
      have ih := symListLoop_spec L hsy hnu ps t1 (items ++ [a]) s2 b2
      have : symListLoop S (.num n :: ps) t s = symListLoop S ps t1 s2 := by
        rw [symListLoop]; simp only []; rw [bind_ok h1, bind_ok h2]
      rw [this]
      exact built_cons e2 d2 ih


/-- the loop of /repo 5455df2 pushes exactly the numbers Abs/Casts `rangeItems` enumerates, or fails as it does -/
theorem rangeListLoop_spec (L : StoreLaws S) (hnu : ItemAdder S S.addNumber (Val.num (F := F))) (len : Nat)
    (e : Number F) : ∀ (n fuel added : Nat) (count : Number F) (t : Nat) (items : List Nat) (s : σ),
      len = added + n → n + 1 ≤ fuel → S.building s = some (t, items) →
      match rangeItems fo n count e with
      | .ok xs => Built S s (rangeListLoop fo S len e fuel added count t s) items (xs.map .num)
      | .error err => rangeListLoop fo S len e fuel added count t s = .err err := by
  intro n
  induction n with
  | zero =>
    intro fuel added count t items s hlen hf hb
    obtain ⟨fuel, rfl⟩ := fuel_succ hf
    have hnot : ¬ added < len := by omega
    simp only [rangeItems, rangeListLoop, hnot, decide_false, Bool.false_and, Bool.false_eq_true, if_false]
    exact ⟨t, s, [], rfl, Eff.refl S s, by simpa using hb, .nil⟩
  | succ n ih =>
    intro fuel added count t items s hlen hf hb
    obtain ⟨fuel, rfl⟩ := fuel_succ hf
    have hlt : added < len := by omega
    cases n with
    | zero =>
      simp only [rangeItems, rangeListLoop, hlt, decide_true, Bool.true_and, numLe_eq]
      by_cases hle : Abs.numLe fo count e = true
      · simp only [hle, if_true]
        obtain ⟨a, t1, s1, s2, h1, h2, e2, b2, d2⟩ := addItem_step L (hnu.adds count s) (hnu.keeps count s) hb
        have hnot : ¬ added + 1 < len := by omega
        have ih0 := ih fuel (added + 1) count t1 (items ++ [a]) s2 (by omega) (by omega) b2
        simp only [rangeItems] at ih0
        rw [bind_ok h1, bind_ok h2]
        simp only [hnot, if_false]
        rw [bind_ok (pure_apply count s2)]
        exact built_cons e2 d2 ih0
      · simp only [hle, if_false, Bool.false_eq_true]
        exact ⟨t, s, [], rfl, Eff.refl S s, by simpa using hb, .nil⟩
    | succ n =>
      simp only [rangeItems, rangeListLoop, hlt, decide_true, Bool.true_and, numLe_eq]
      by_cases hle : Abs.numLe fo count e = true
      · simp only [hle, if_true]
        obtain ⟨a, t1, s1, s2, h1, h2, e2, b2, d2⟩ := addItem_step L (hnu.adds count s) (hnu.keeps count s) hb
        have hlt2 : added + 1 < len := by omega
        rw [bind_ok h1, bind_ok h2]
        simp only [hlt2, if_true]
        cases hinc : Number.increment fo count with
        | none =>
          simp only []
          rw [bind_err (orNumErr_none s2)]
        | some c' =>
          simp only []
          rw [bind_ok (orNumErr_some c' s2)]
          have ih0 := ih fuel (added + 1) c' t1 (items ++ [a]) s2 (by omega) (by omega) b2
          cases hri : rangeItems fo (n + 1) c' e with
          | error err => rw [hri] at ih0; simp only [] at ih0 ⊢; exact ih0
          | ok xs =>
            rw [hri] at ih0
            simp only [] at ih0 ⊢
            exact built_cons e2 d2 ih0
      · simp only [hle, if_false, Bool.false_eq_true]
        exact ⟨t, s, [], rfl, Eff.refl S s, by simpa using hb, .nil⟩

theorem intsFrom_map_segment {α β : Type} (xs : List α) (g : α → β) (d : α) :
    ∀ (k i : Nat), i + k ≤ xs.length →
      (intsFrom (i : Int) k).map (fun j => g (xs[j.toNat]?.getD d)) = ((xs.drop i).take k).map g
  | 0, i, _ => by simp [intsFrom]
  | k + 1, i, h => by
    have hi : i < xs.length := by omega
    have ih := intsFrom_map_segment xs g d k (i + 1) (by omega)
    rw [List.drop_eq_getElem_cons hi, List.take_succ_cons]
    simp only [intsFrom, List.map_cons, Int.toNat_natCast, List.getElem?_eq_getElem hi, Option.getD_some]
    congr 1

/-- the `while count < end` loop over indices `i … e-1` inside the sequence `xs` stored at `addr` -/
theorem listFromLoop_spec (L : StoreLaws S) {item : σ → Nat → Number F → Outcome (Option Nat)}
    {add : Nat → RM σ Nat} {mk : Nat → Val F} (hadd : ItemAdder S add mk) (addr : Nat) (vseq : Val F)
    (xs : List Nat) (hmax : xs.length ≤ 2147483647)
    (hitem : ∀ s, Decodes (S.view s) addr vseq → ∀ i, i < xs.length → item s addr (.int i) = .ok xs[i]?)
    (e : Int) (he : e ≤ xs.length) :
    ∀ (k fuel i t : Nat) (items : List Nat) (s : σ), k = (e - i).toNat → k + 1 ≤ fuel →
      Decodes (S.view s) addr vseq → S.building s = some (t, items) →
      Built S s (listFromLoop fo S item add addr (.int e) fuel (.int i) t s) items (((xs.drop i).take k).map mk) := by
  intro k
  induction k with
  | zero =>
    intro fuel i t items s hk hf hd hb
    obtain ⟨fuel, rfl⟩ := fuel_succ hf
    have hnot : ¬ (i : Int) < e := by omega
    have hc : Model.Runtime.numLt fo (.int (i : Int)) (.int e) = false := by rw [numLt_int]; simp [hnot]
    simp only [listFromLoop, hc, Bool.false_eq_true, if_false]
    exact ⟨t, s, [], rfl, Eff.refl S s, by simpa using hb, by simpa using DecodesList.nil⟩
  | succ k ih =>
    intro fuel i t items s hk hf hd hb
    obtain ⟨fuel, rfl⟩ := fuel_succ hf
    have hlt : (i : Int) < e := by omega
    have hi : i < xs.length := by omega
    have hget : RM.readR (fun st => item st addr (.int (i : Int))) s = .ok (some xs[i], s) := by
      apply readR_ok; rw [hitem s hd i hi, List.getElem?_eq_getElem hi]
    obtain ⟨a, t1, s1, s2, h1, h2, e2, b2, d2⟩ := addItem_step L (hadd.adds xs[i] s) (hadd.keeps xs[i] s) hb
    have hinc : Number.increment fo (.int (i : Int)) = some (.int (((i + 1 : Nat)) : Int)) := by
      rw [cast_increment_int fo (i : Int) (by omega) (by omega)]; congr 2
    have ih0 := ih fuel (i + 1) t1 (items ++ [a]) s2 (by omega) (by omega) (e2.dec hd) b2
    rw [List.drop_eq_getElem_cons hi, List.take_succ_cons, List.map_cons]
    have hc : Model.Runtime.numLt fo (.int (i : Int)) (.int e) = true := by rw [numLt_int]; simp [hlt]
    simp only [listFromLoop, hc, if_true]
    rw [bind_ok hget]
    simp only []
    rw [bind_ok h1, bind_ok h2, hinc, bind_ok (orNumErr_some _ s2)]
    exact built_cons e2 d2 ih0

/-- the `while i <= end` loop of the list-slice arm over indices `i … e` inside the list -/
theorem sliceListLoop_spec (L : StoreLaws S) (value : Nat) (vs : List (Val F)) (hmax : vs.length ≤ 2147483647)
    (e : Int) (he : e < vs.length) :
    ∀ (k fuel i t : Nat) (items : List Nat) (s : σ), k = (e + 1 - i).toNat → k + 1 ≤ fuel →
      Decodes (S.view s) value (.list vs) → S.building s = some (t, items) →
      Built S s (sliceListLoop fo S value (.int e) fuel (.int i) t s) items ((vs.drop i).take k) := by
  intro k
  induction k with
  | zero =>
    intro fuel i t items s hk hf hd hb
    obtain ⟨fuel, rfl⟩ := fuel_succ hf
    have hnot : ¬ (i : Int) ≤ e := by omega
    have hc : Model.Runtime.numLe fo (.int (i : Int)) (.int e) = false := by rw [numLe_eq, numLe_int]; simp [hnot]
    simp only [sliceListLoop, hc, Bool.false_eq_true, if_false]
    exact ⟨t, s, [], rfl, Eff.refl S s, by simpa using hb, by simpa using DecodesList.nil⟩
  | succ k ih =>
    intro fuel i t items s hk hf hd hb
    obtain ⟨fuel, rfl⟩ := fuel_succ hf
    have hle : (i : Int) ≤ e := by omega
    have hi : i < vs.length := by omega
    obtain ⟨addrs, hli, hdl⟩ := listItems_of hd
    have hal := EqualityRefine.decodesList_length hdl
    have hia : i < addrs.length := by omega
    obtain ⟨_, hget0⟩ := L.listIdx s value addrs hli
    obtain ⟨_, dx⟩ := decodesList_getElem hdl i hia
    have hget : RM.readR (fun st => S.listItem st value (.int (i : Int))) s = .ok (some addrs[i], s) := by
      apply readR_ok; rw [hget0 i hia, List.getElem?_eq_getElem hia]
    obtain ⟨t1, s2, h2, e2, b2⟩ := L.addToList t items addrs[i] s hb
    have hinc : Number.increment fo (.int (i : Int)) = some (.int (((i + 1 : Nat)) : Int)) := by
      rw [cast_increment_int fo (i : Int) (by omega) (by omega)]; congr 2
    have ih0 := ih fuel (i + 1) t1 (items ++ [addrs[i]]) s2 (by omega) (by omega) (e2.dec hd) b2
    rw [List.drop_eq_getElem_cons hi, List.take_succ_cons]
    have hc : Model.Runtime.numLe fo (.int (i : Int)) (.int e) = true := by rw [numLe_eq, numLe_int]; simp [hle]
    simp only [sliceListLoop, hc, if_true]
    rw [bind_ok hget]
    simp only []
    rw [bind_ok (pure_apply _ s), bind_ok h2, hinc, bind_ok (orNumErr_some _ s2)]
    exact built_cons e2 (e2.dec dx) ih0

/-- `start_list`, a building loop, `end_list`, `push_register`, `Ok(None)` -/
theorem buildTail (L : StoreLaws S) {s s0 : σ} {rest : List Nat} {n : Nat} {vs : List (Val F)}
    {loop : Nat → RM σ Nat} (e0 : Eff S s s0 rest (S.vals s))
    (hloop : ∀ t s1, Eff S s0 s1 (S.regs s0) (S.vals s0) → S.building s1 = some (t, []) →
      Built S s1 (loop t s1) [] vs) :
    Pushed S s (((do
      let listIndex ← S.startList n
      let listIndex ← loop listIndex
      let r ← S.endList listIndex
      S.pushRegister r : RM σ Unit) >>= fun _ => pure (none : Option Nat)) s0) none rest (.list vs) := by
  obtain ⟨t0, s1, h1, e1, b1⟩ := L.startList n s0
  obtain ⟨t2, s2, new, h2, e2, b2, d2⟩ := hloop t0 s1 e1 b1
  rw [e1.regs, e1.vals, e0.regs, e0.vals] at e2
  rw [bind_ok2 h1, bind_ok2 h2]
  exact castPush L (e0.trans (e1.trans e2)) (L.endList t2 new vs s2 (by simpa using b2) d2)

end Garnish.Lemmas.Runtime
