/-
Facts about lists, arrays and options that mention nothing of the development and are not in core under a name of their own. Each is
stated once, here, for every module that needs it.
-/
namespace Garnish

theorem lt_of_getElem? {α : Type} {a : Array α} {i : Nat} {x : α} (h : a[i]? = some x) : i < a.size :=
  (Array.getElem?_eq_some_iff.1 h).1

theorem getElem?_setIfInBounds_lt {α : Type} {xs : Array α} {i : Nat} (j : Nat) (v : α) (hi : i < xs.size) :
    (xs.setIfInBounds i v)[j]? = if i = j then some v else xs[j]? := by
  rw [Array.getElem?_setIfInBounds, if_pos hi]

theorem getElem?_append_of_some {α : Type} (a b : Array α) (i : Nat) (x : α) (h : a[i]? = some x) :
    (a ++ b)[i]? = some x := by
  rw [Array.getElem?_append_left (lt_of_getElem? h)]; exact h

theorem mem_takeWhile_imp {α : Type} (p : α → Bool) : ∀ (l : List α) (x : α), x ∈ l.takeWhile p → p x = true
  | [], _, h => by cases h
  | a :: l, x, h => by
    simp only [List.takeWhile_cons] at h
    split at h
    · rename_i ha
      rcases List.mem_cons.mp h with rfl | h
      · exact ha
      · exact mem_takeWhile_imp p l x h
    · cases h

theorem takeWhile_eq_self {α : Type} (p : α → Bool) : ∀ (l : List α), (∀ x, x ∈ l → p x = true) → l.takeWhile p = l
  | [], _ => rfl
  | a :: rest, h => by
    rw [List.takeWhile_cons, h a List.mem_cons_self, if_pos rfl,
      takeWhile_eq_self p rest fun x hx => h x (List.mem_cons_of_mem _ hx)]

theorem mem_snoc {α : Type} {P : α → Prop} {l : List α} {t : α} (hl : ∀ x ∈ l, P x) (ht : P t) : ∀ x ∈ l ++ [t], P x :=
  List.forall_mem_append.2 ⟨hl, List.forall_mem_singleton.2 ht⟩

theorem forall_mem_pair {α : Type} {P : α → Prop} {a b : α} (ha : P a) (hb : P b) : ∀ x ∈ [a, b], P x :=
  List.forall_mem_cons.2 ⟨ha, List.forall_mem_singleton.2 hb⟩

theorem count_set_of_ne {α : Type} [BEq α] [LawfulBEq α] {l : List α} {i : Nat} {a b : α} (h : l[i]? = some a)
    (hab : b ≠ a) : (l.set i b).count a + 1 = l.count a := by
  obtain ⟨hi, rfl⟩ := List.getElem?_eq_some_iff.1 h
  have hpos : 0 < l.count l[i] := List.count_pos_iff.2 (List.getElem_mem hi)
  rw [List.count_set hi]
  simp [hab]

theorem back_none_size {α : Type} {a : Array α} (h : a.back? = none) : a.size = 0 :=
  Array.size_eq_zero_iff.2 (Array.back?_eq_none_iff.1 h)

theorem toList_nil_of_back_none {α : Type} {a : Array α} (h : a.back? = none) : a.toList = [] := by
  rw [Array.back?_eq_none_iff.1 h]

theorem toList_of_back {α : Type} {a : Array α} {x : α} (h : a.back? = some x) : a.toList = a.pop.toList ++ [x] := by
  obtain ⟨ys, rfl⟩ := Array.back?_eq_some_iff.1 h
  simp

theorem back_some_size_pos {α : Type} {a : Array α} {x : α} (h : a.back? = some x) : 0 < a.size := by
  obtain ⟨ys, rfl⟩ := Array.back?_eq_some_iff.1 h
  simp

theorem back_of_toList {α : Type} {a : Array α} {l : List α} {x : α} (h : a.toList = l ++ [x]) :
    a.back? = some x ∧ a.pop.toList = l := by
  have : a = l.toArray.push x := by apply Array.ext'; simpa using h
  subst this
  simp

theorem mem_of_back {α : Type} {a : Array α} {x i : α} (h : a.back? = some x) (hi : i ∈ a.toList) :
    i = x ∨ i ∈ a.pop.toList := by
  rw [toList_of_back h] at hi
  simpa [or_comm] using hi

end Garnish
