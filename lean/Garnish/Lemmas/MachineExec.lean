/-
What an instruction that does not fail does to the machine state, as a relation: `Exec fo host P s i o s1 n` has one constructor
per arm of the table `handle` (Lemmas/MachineTable.lean) that succeeds, with the facts about `s` that arm has established, the
state `s1` it leaves and the next cursor `n`. `exec_of_handle` inverts the table; `step_stepped`: a step fails, stops for want of
an instruction, or is an `Exec` followed by `finish` (`exec_of_running`: the form for a step that goes on). An invariant of the machine is then a `cases` with one line per constructor
and no failing arm to dispose of. `exec_of_running`, `finish_running` and `finish_running_lt` are in namespace `Garnish.Props.C06`,
beside the depth analysis of Props/C06Static.lean that reads them.
-/
import Garnish.Lemmas.MachineTable
namespace Garnish.Abs
open Garnish Gen Garnish.Lemmas.Runtime

variable {F : Type} (fo : FloatOps F) (host : Host F) (P : Prog F)

inductive Exec (s : MState F) : Instruction → Option Nat → MState F → Nat → Prop
  | invalid {o} : Exec s .invalid o s (s.pc + 1)
  | put {k v} (hc : P.consts[k]? = some v) : Exec s .put (some k) { s with regs := v :: s.regs } (s.pc + 1)
  | putValueNil {o} (hv : s.vals = []) : Exec s .putValue o { s with regs := .unit :: s.regs } (s.pc + 1)
  | putValue {o v vs} (hv : s.vals = v :: vs) : Exec s .putValue o { s with regs := v :: s.regs } (s.pc + 1)
  | pushValue {o r rs} (hr : s.regs = r :: rs) : Exec s .pushValue o { s with regs := rs, vals := r :: s.vals } (s.pc + 1)
  | updateValue {o r rs x vs} (hr : s.regs = r :: rs) (hv : s.vals = x :: vs) :
      Exec s .updateValue o { s with regs := rs, vals := r :: vs } (s.pc + 1)
  | startNil {o} (hv : s.vals = []) : Exec s .startSideEffect o { s with vals := [.unit] } (s.pc + 1)
  | start {o v vs} (hv : s.vals = v :: vs) : Exec s .startSideEffect o { s with vals := v :: v :: vs } (s.pc + 1)
  | endSide {o x vs r rs} (hv : s.vals = x :: vs) (hr : s.regs = r :: rs) :
      Exec s .endSideEffect o { s with vals := vs, regs := rs } (s.pc + 1)
  | jumpTo {j t} (hj : jumpTarget P j = .ok t) : Exec s .jumpTo (some j) s t
  | jumpIfTrue {j t d rs} (hj : jumpTarget P j = .ok t) (hr : s.regs = d :: rs) :
      Exec s .jumpIfTrue (some j) { s with regs := rs } (if d.truthy then t else s.pc + 1)
  | jumpIfFalse {j t d rs} (hj : jumpTarget P j = .ok t) (hr : s.regs = d :: rs) :
      Exec s .jumpIfFalse (some j) { s with regs := rs } (if d.truthy then s.pc + 1 else t)
  | andJump {j t d rs} (hr : s.regs = d :: rs) (hd : d.truthy = true) (hj : jumpTarget P j = .ok t) :
      Exec s .and (some j) { s with regs := rs } t
  | andFalse {j d rs} (hr : s.regs = d :: rs) (hd : d.truthy = false) :
      Exec s .and (some j) { s with regs := .fls :: rs } (s.pc + 1)
  | orTrue {j d rs} (hr : s.regs = d :: rs) (hd : d.truthy = true) :
      Exec s .or (some j) { s with regs := .tru :: rs } (s.pc + 1)
  | orJump {j t d rs} (hr : s.regs = d :: rs) (hd : d.truthy = false) (hj : jumpTarget P j = .ok t) :
      Exec s .or (some j) { s with regs := rs } t
  /-- the last `EndExpression`: the next cursor lies beyond the program, so `finish` halts -/
  | top {o r rs x vs} (hr : s.regs = r :: rs) (hf : s.frames = []) (hv : s.vals = x :: vs) :
      Exec s .endExpression o { s with regs := rs, vals := r :: vs } P.instrs.size
  | ret {o r rs fr frs} (hr : s.regs = r :: rs) (hf : s.frames = fr :: frs) :
      Exec s .endExpression o { s with regs := r :: fr.saved, vals := s.vals.tail, frames := frs } fr.ret
  | apply {o r l rs s1 n} (hr : s.regs = r :: l :: rs)
      (ha : applyStep fo host P { s with regs := rs } .apply true l r = .ok (s1, n)) : Exec s .apply o s1 n
  | emptyApply {o l rs s1 n} (hr : s.regs = l :: rs)
      (ha : applyStep fo host P { s with regs := rs } .emptyApply false l .unit = .ok (s1, n)) : Exec s .emptyApply o s1 n
  | reapply {j t v rs x vs} (hr : s.regs = v :: rs) (hj : jumpTarget P j = .ok t) (hv : s.vals = x :: vs) :
      Exec s .reapply (some j) { s with regs := rs, vals := v :: vs } t
  | makeList {n} (hn : ¬ n > s.regs.length) :
      Exec s .makeList (some n) { s with regs := .list (s.regs.take n).reverse :: s.regs.drop n } (s.pc + 1)
  | resolve {k key s1} (hc : P.consts[k]? = some key) (h : resolveStep fo host s key = .ok s1) :
      Exec s .resolve (some k) s1 (s.pc + 1)
  | makePair {o l r rs} (hr : s.regs = l :: r :: rs) : Exec s .makePair o { s with regs := .pair l r :: rs } (s.pc + 1)
  | unary {op o top rest out s1} (hg : isGeneric op = true) (hr : s.regs = top :: rest)
      (hu : unaryOp fo op top = some out) (hp : pushOut host { s with regs := rest } out = .ok s1) : Exec s op o s1 (s.pc + 1)
  | binary {op o top l rs out s1} (hg : isGeneric op = true) (hr : s.regs = top :: l :: rs) (hu : unaryOp fo op top = none)
      (hb : binaryOp fo op l top = some out) (hp : pushOut host { s with regs := rs } out = .ok s1) :
      Exec s op o s1 (s.pc + 1)

/-- a step that does not fail: no instruction at the cursor, or an `Exec` followed by `finish` -/
inductive Stepped (s : MState F) : StepRes F → Prop
  | off (hf : P.instrs[s.pc]? = none) : Stepped s (.halted s)
  | exec {i o s1 n} (hf : P.instrs[s.pc]? = some (i, o)) (h : Exec fo host P s i o s1 n) :
      Stepped s (finish P (.ok (s1, n)))

variable {fo host P}

theorem seqR_ok {s s1 : MState F} {n : Nat} {x : Except ErrClass (MState F)} (h : seqR s x = .ok (s1, n)) :
    x = .ok s1 ∧ n = s.pc + 1 := by
  cases x with
  | error e => cases h
  | ok s' => cases h; exact ⟨rfl, rfl⟩

theorem exec_of_handle {s s1 : MState F} {i : Instruction} {o : Option Nat} {n : Nat}
    (h : handle fo host P s i o = .ok (s1, n)) : Exec fo host P s i o s1 n := by
  cases hg : isGeneric i with
  | true =>
    rw [handle_generic fo host s o hg, handleOp] at h
    split at h
    · cases h
    · rename_i top rest hr
      split at h
      · obtain ⟨hp, rfl⟩ := seqR_ok h
        exact .unary hg hr ‹_› hp
      · split at h
        · cases h
        · split at h
          · obtain ⟨hp, rfl⟩ := seqR_ok h
            exact .binary hg hr ‹_› ‹_› hp
          · cases h
  | false =>
    -- the named arms: a jump that has no target fails, so `jumpTarget` is decided first
    have jump : ∀ {j : Nat} {k : Nat → Except ErrClass (MState F × Nat)},
        (match jumpTarget P j with | .ok t => k t | .error e => .error e) = .ok (s1, n) →
        ∃ t, jumpTarget P j = .ok t ∧ k t = .ok (s1, n) := by
      intro j k h
      cases hj : jumpTarget P j with
      | error e => rw [hj] at h; cases h
      | ok t => rw [hj] at h; exact ⟨t, rfl, h⟩
    cases i <;> first | (cases hg; done) | simp only [handle] at h
    case invalid => cases h; exact .invalid
    case put =>
      split at h
      · cases h
      · split at h
        · cases h; exact .put ‹_›
        · cases h
    case putValue =>
      split at h
      · cases h; exact .putValueNil ‹_›
      · cases h; exact .putValue ‹_›
    case pushValue =>
      split at h
      · cases h
      · cases h; exact .pushValue ‹_›
    case updateValue =>
      split at h
      · cases h
      · split at h
        · cases h
        · cases h; exact .updateValue ‹_› ‹_›
    case startSideEffect =>
      split at h
      · cases h; exact .startNil ‹_›
      · cases h; exact .start ‹_›
    case endSideEffect =>
      split at h
      · cases h
      · split at h
        · cases h
        · cases h; exact .endSide ‹_› ‹_›
    case jumpTo =>
      split at h
      · cases h
      · obtain ⟨t, hj, h⟩ := jump h
        cases h; exact .jumpTo hj
    case jumpIfTrue =>
      split at h
      · cases h
      · obtain ⟨t, hj, h⟩ := jump h
        split at h
        · cases h
        · cases h; exact .jumpIfTrue hj ‹_›
    case jumpIfFalse =>
      split at h
      · cases h
      · obtain ⟨t, hj, h⟩ := jump h
        split at h
        · cases h
        · cases h; exact .jumpIfFalse hj ‹_›
    case and =>
      split at h
      · cases h
      · split at h
        · cases h
        · rename_i d rs hr
          split at h
          · obtain ⟨t, hj, h⟩ := jump h
            cases h; exact .andJump hr ‹_› hj
          · cases h; exact .andFalse hr (Bool.eq_false_iff.2 ‹_›)
    case or =>
      split at h
      · cases h
      · split at h
        · cases h
        · rename_i d rs hr
          split at h
          · cases h; exact .orTrue hr ‹_›
          · obtain ⟨t, hj, h⟩ := jump h
            cases h; exact .orJump hr (Bool.eq_false_iff.2 ‹_›) hj
    case endExpression =>
      split at h
      · cases h
      · split at h
        · split at h
          · cases h
          · cases h; exact .top ‹_› ‹_› ‹_›
        · cases h; exact .ret ‹_› ‹_›
    case apply =>
      split at h
      · exact .apply ‹_› h
      · cases h
    case emptyApply =>
      split at h
      · exact .emptyApply ‹_› h
      · cases h
    case reapply =>
      split at h
      · cases h
      · split at h
        · cases h
        · rename_i v rs hr
          obtain ⟨t, hj, h⟩ := jump h
          split at h
          · cases h
          · cases h; exact .reapply hr hj ‹_›
    case makeList =>
      split at h
      · cases h
      · split at h
        · cases h
        · cases h; exact .makeList ‹_›
    case resolve =>
      split at h
      · cases h
      · split at h
        · cases h
        · obtain ⟨hp, rfl⟩ := seqR_ok h
          exact .resolve ‹_› hp
    case makePair =>
      split at h
      · cases h; exact .makePair ‹_›
      · cases h
    case applyType => cases h

theorem step_stepped (s : MState F) : (∃ e, step fo host P s = .err e) ∨ Stepped fo host P s (step fo host P s) := by
  cases hf : P.instrs[s.pc]? with
  | none => exact .inr (by unfold step; rw [hf]; exact .off hf)
  | some q =>
    rw [step_eq_handle fo host (instr := q.1) (operand := q.2) hf]
    cases hh : handle fo host P s q.1 q.2 with
    | error e => exact .inl ⟨e, rfl⟩
    | ok r => exact .inr (.exec hf (exec_of_handle hh))

theorem stepped_of_running {s s' : MState F} (h : step fo host P s = .running s' ∨ step fo host P s = .halted s') :
    Stepped fo host P s (step fo host P s) := by
  rcases step_stepped (fo := fo) (host := host) (P := P) s with ⟨e, he⟩ | hs
  · rw [he] at h; rcases h with h | h <;> cases h
  · exact hs

theorem jumpTarget_ok {j t : Nat} (h : jumpTarget P j = .ok t) : P.jumps[j]? = some t := by
  unfold jumpTarget at h; split at h <;> cases h; assumption

theorem resolveStep_len {s s1 : MState F} {key : Val F} (h : resolveStep fo host s key = .ok s1) :
    s1.regs.length = s.regs.length + 1 ∧ s1.frames = s.frames := by
  unfold resolveStep at h
  simp only [] at h
  split at h
  · cases h
  · cases h; exact ⟨rfl, rfl⟩
  · split at h
    · split at h <;> cases h <;> exact ⟨rfl, rfl⟩
    · cases h; exact ⟨rfl, rfl⟩

theorem applyStep_shape {s s1 : MState F} {instr : Instruction} {ur : Bool} {l r : Val F} {n : Nat}
    (h : applyStep fo host P s instr ur l r = .ok (s1, n)) :
    (s1.regs = s.regs ∧ s1.frames = ⟨s.pc + 1, s.regs⟩ :: s.frames) ∨
      (s1.regs.length = s.regs.length + 1 ∧ s1.frames = s.frames ∧ n = s.pc + 1) := by
  unfold applyStep at h
  split at h
  · cases hj : jumpTarget P _ with
    | error e => rw [hj] at h; cases h
    | ok t => rw [hj] at h; cases h; exact .inl ⟨rfl, rfl⟩
  · simp only [] at h
    split at h <;> cases h <;> exact .inr ⟨rfl, rfl, rfl⟩
  · cases hp : pushOut host s _ with
    | error e => rw [hp] at h; cases h
    | ok s2 =>
      rw [hp] at h
      cases h
      cases ‹OpOut F› with
      | val v => cases hp; exact .inr ⟨rfl, rfl, rfl⟩
      | defer op a b => simp only [pushOut] at hp; split at hp <;> cases hp <;> exact .inr ⟨rfl, rfl, rfl⟩
      | err e => cases hp

end Garnish.Abs

namespace Garnish.Props.C06
open Garnish Gen Garnish.Abs

variable {F : Type} {fo : FloatOps F} {host : Host F}

theorem finish_running {P : Prog F} {s1 s' : MState F} {n : Nat} (h : finish P (.ok (s1, n)) = .running s') :
    s' = { s1 with pc := n } := by
  simp only [finish] at h
  split at h <;> simp at h
  exact h.symm

theorem finish_running_lt {P : Prog F} {s1 s' : MState F} {n : Nat} (h : finish P (.ok (s1, n)) = .running s') :
    n < P.instrs.size := by
  simp only [finish] at h
  split at h <;> simp at h
  omega

theorem exec_of_running {P : Prog F} {s s' : MState F} (hs : step fo host P s = .running s') :
    ∃ i o s1 n, P.instrs[s.pc]? = some (i, o) ∧ Exec fo host P s i o s1 n ∧ n < P.instrs.size ∧ s' = { s1 with pc := n } := by
  have hst := stepped_of_running (.inl hs)
  rw [hs] at hst
  generalize hr : StepRes.running s' = r at hst
  cases hst with
  | off hf => cases hr
  | exec hf hx => exact ⟨_, _, _, _, hf, hx, finish_running_lt hr.symm, finish_running hr.symm⟩

end Garnish.Props.C06
