/-
C04, builder half — order of the instructions: the notions shared by the order invariants of Lemmas/BuildSeq*.lean and the
statements of Props/C04Build.lean: positions on the work list, the inline nodes of the sibling-order statements, attribution of
an instruction to a node.
-/
import Garnish.Lemmas.BuildTotalHandlers
namespace Garnish.Lemmas.BuildOrder
open Garnish Garnish.Gen Garnish.Model.Parser Garnish.Model.Literals Garnish.Model.Build Garnish.Lemmas.Build
open Garnish.Lemmas.BuildTotal

/-- `u` lies above `v` (was pushed later) -/
def Above (S : List Nat) (u v : Nat) : Prop := ∃ s1 s2, S = s1 ++ v :: s2 ∧ u ∈ s2

theorem above_append_left {S T : List Nat} {u v : Nat} (h : Above S u v) : Above (S ++ T) u v := by
  obtain ⟨s1, s2, hs, hu⟩ := h
  exact ⟨s1, s2 ++ T, by rw [hs]; simp, List.mem_append_left _ hu⟩

theorem above_append_mem {S T : List Nat} {u v : Nat} (hv : v ∈ S) (hu : u ∈ T) : Above (S ++ T) u v := by
  obtain ⟨s1, s2, hs⟩ := List.append_of_mem hv
  exact ⟨s1, s2 ++ T, by rw [hs]; simp, List.mem_append_right _ hu⟩

theorem above_append_right {S T : List Nat} {u v : Nat} (h : Above T u v) : Above (S ++ T) u v := by
  obtain ⟨s1, s2, hs, hu⟩ := h
  exact ⟨S ++ s1, s2, by rw [hs]; simp, hu⟩

theorem above_mem {S : List Nat} {u v : Nat} (h : Above S u v) : u ∈ S ∧ v ∈ S := by
  obtain ⟨s1, s2, hs, hu⟩ := h
  subst hs
  exact ⟨by simp [hu], by simp⟩

theorem above_irrefl {S : List Nat} (hn : S.Nodup) {u : Nat} : ¬ Above S u u := by
  intro ⟨s1, s2, hs, hu⟩
  subst hs
  have := (List.nodup_append.1 hn).2.1
  exact (List.nodup_cons.1 this).1 hu

theorem above_split {S0 s1 s2 : List Nat} {x v : Nat} (hs : S0 ++ [x] = s1 ++ v :: s2) (hne : s2 ≠ []) :
    ∃ t, s2 = t ++ [x] ∧ S0 = s1 ++ v :: t := by
  have hlast := List.dropLast_concat_getLast hne
  rw [← hlast, ← List.cons_append, ← List.append_assoc] at hs
  have h := List.append_inj' hs rfl
  exact ⟨s2.dropLast, by rw [List.singleton_inj.1 h.2]; exact hlast.symm, h.1⟩

theorem above_top_false {S0 : List Nat} {x u : Nat} (hn : (S0 ++ [x]).Nodup) : ¬ Above (S0 ++ [x]) u x := by
  intro ⟨s1, s2, hs, hu⟩
  obtain ⟨t, rfl, _⟩ := above_split hs (List.ne_nil_of_mem hu)
  rw [hs] at hn
  exact (List.nodup_cons.1 (List.nodup_append.1 hn).2.1).1 (List.mem_append_right _ (List.mem_singleton_self x))

theorem above_ne_top {S0 : List Nat} {x u v : Nat} (hn : (S0 ++ [x]).Nodup) (h : Above (S0 ++ [x]) u v) : v ≠ x :=
  fun e => above_top_false hn (e ▸ h)

theorem above_init {S0 : List Nat} {x u v : Nat} (h : Above (S0 ++ [x]) u v) (hux : u ≠ x) : Above S0 u v := by
  obtain ⟨s1, s2, hs, hu⟩ := h
  obtain ⟨t, rfl, e⟩ := above_split hs (List.ne_nil_of_mem hu)
  exact ⟨s1, t, e, (List.mem_append.1 hu).resolve_right fun h => hux (List.mem_singleton.1 h)⟩

/-- definitions whose handler schedules both operands on `stack` in one visit and emits its own instruction last, and
whether the right operand is emitted first (`Pair`, `ApplyTo`) -/
def inlineBinary (d : Definition) : Option Bool :=
  match d with
  | .pair => some true
  | .applyTo => some true
  | .addition | .subtraction | .multiplicationSign | .division | .access | .range | .startExclusiveRange | .endExclusiveRange
  | .exclusiveRange | .exponentialSign | .remainder | .integerDivision | .bitwiseAnd | .bitwiseOr | .bitwiseXor
  | .bitwiseRightShift | .bitwiseLeftShift | .xor | .typeEqual | .typeCast | .equality | .inequality | .lessThan
  | .lessThanOrEqual | .greaterThan | .greaterThanOrEqual | .apply | .partialApply | .concatenation | .infixApply => some false
  | _ => none

/-- inline nodes: inline binary operators and lists -/
def isB (d : Definition) : Bool := (inlineBinary d).isSome || d == .list || d == .commaList

/-- `c` is an operand of the inline node `y` -/
def BChild (tree : Array ParseNode) (y c : Nat) : Prop :=
  ∃ pn, tree[y]? = some pn ∧ isB pn.definition = true ∧ (pn.left = some c ∨ pn.right = some c)

/-- descendants through inline nodes -/
inductive Desc (tree : Array ParseNode) : Nat → Nat → Prop
  | refl (a : Nat) : Desc tree a a
  | step {a w x : Nat} : Desc tree a w → BChild tree w x → Desc tree a x

theorem BChild.isChild {tree : Array ParseNode} {y c : Nat} (h : BChild tree y c) : IsChild tree y c := by
  obtain ⟨pn, h1, _, h3⟩ := h; exact ⟨pn, h1, h3⟩

variable {F : Type} {root : Nat} {tree : Array ParseNode} {G : Nat → Prop} {m0 : Nat}

/-- an instruction appended by this build names `x` -/
def Attr (m0 : Nat) (M : Array (Option Nat)) (x : Nat) : Prop := ∃ k, m0 ≤ k ∧ M[k]? = some (some x)

theorem get_append {M M' : Array (Option Nat)} {l : List (Option Nat)} (hM : M'.toList = M.toList ++ l) {k : Nat} {v : Option Nat}
    (h : M'[k]? = some v) : (k < M.size ∧ M[k]? = some v) ∨ (M.size ≤ k ∧ v ∈ l) := by
  have h1 : M'.toList[k]? = some v := by simpa using h
  rw [hM] at h1
  rcases Nat.lt_or_ge k M.size with hk | hk
  · rw [List.getElem?_append_left (by simpa using hk)] at h1
    exact Or.inl ⟨hk, by simpa using h1⟩
  · rw [List.getElem?_append_right (by simpa using hk)] at h1
    exact Or.inr ⟨hk, List.mem_of_getElem? h1⟩

theorem attr_append {M M' : Array (Option Nat)} {l : List (Option Nat)} (hM : M'.toList = M.toList ++ l) {x : Nat}
    (h : Attr m0 M' x) : Attr m0 M x ∨ some x ∈ l := by
  obtain ⟨k, hk, hm⟩ := h
  rcases get_append hM hm with ⟨_, h1⟩ | ⟨_, h1⟩
  · exact Or.inl ⟨k, hk, h1⟩
  · exact Or.inr h1

/-- phases a node can be moved out of by the visit of another node -/
def Moving (ph : Nat → Phase) (x : Nat) : Prop := ph x = .p0 ∨ ∃ o, ph x = .pc o

theorem nm1 {ph : Nat → Phase} {x : Nat} (h : ph x = .p1) : ¬ Moving ph x := by
  intro hm; rcases hm with hm | ⟨o, hm⟩ <;> rw [h] at hm <;> cases hm
theorem nm2 {ph : Nat → Phase} {x : Nat} (h : ph x = .p2) : ¬ Moving ph x := by
  intro hm; rcases hm with hm | ⟨o, hm⟩ <;> rw [h] at hm <;> cases hm
theorem nm3 {ph : Nat → Phase} {x : Nat} (h : ph x = .p3) : ¬ Moving ph x := by
  intro hm; rcases hm with hm | ⟨o, hm⟩ <;> rw [h] at hm <;> cases hm
theorem nmr {ph : Nat → Phase} {x : Nat} (h : ph x = .pr) : ¬ Moving ph x := by
  intro hm; rcases hm with hm | ⟨o, hm⟩ <;> rw [h] at hm <;> cases hm

end Garnish.Lemmas.BuildOrder
