/-
Totality of the emitting traversal of `build`: every visit of a handler (Lemmas/BuildVisit.lean) keeps the invariant and
lowers the potential (`Visit.total`), through one lemma per kind of phase update.
-/
import Garnish.Lemmas.BuildTotalStep
namespace Garnish.Lemmas.BuildTotal
open Garnish Garnish.Gen Garnish.Model.Parser Garnish.Model.Literals Garnish.Model.Build Garnish.Lemmas.Build

variable {F : Type} {root : Nat} {tree : Array ParseNode} {G : Nat → Prop}

section literals
variable (parseFloat : List Char → Option F)

/-- what the builder needs of the literal text of one node: the two slicing operations of the literal layer succeed
(`&text[1..]` of a Symbol, and `parse_byte_list` — whose only failure mode besides `Err` is its byte-offset slice) -/
structure LitSafe (pn : ParseNode) : Prop where
  symbol : pn.definition = .symbol → dropFirstByte pn.lexToken.text ≠ none
  byteList : pn.definition = .byteList → Good (fun _ => True) (parseByteList parseFloat pn.lexToken.text)

end literals

open Garnish.Lemmas.BuildPlan

/-- what is known when a handler is called on the node `ni` just popped from `stack` -/
structure Pre (root : Nat) (tree : Array ParseNode) (G : Nat → Prop) (ph : Nat → Phase) (ctx : Ctx F) (ni : Nat)
    (pn : ParseNode) : Prop where
  V : Validated root tree G
  inv : Inv root tree G ph ctx
  hG : G ni
  hph : ph ni = .p1 ∨ ph ni = .p2
  hns : ni ∉ ctx.stack.toList
  hpn : tree[ni]? = some pn

/-- what a handler establishes -/
def Post (root : Nat) (tree : Array ParseNode) (G : Nat → Prop) (ph : Nat → Phase) (ctx' : Ctx F) : Prop :=
  ∃ ph', Inv root tree G ph' ctx' ∧ total ph' tree.size < total ph tree.size

section pre
variable {ph : Nat → Phase} {ctx : Ctx F} {ni : Nat} {pn : ParseNode}

theorem Pre.childL (p : Pre root tree G ph ctx ni pn) {l : Nat} (hl : pn.left = some l) : IsChild tree ni l :=
  ⟨pn, p.hpn, Or.inl hl⟩
theorem Pre.childR (p : Pre root tree G ph ctx ni pn) {r : Nat} (hr : pn.right = some r) : IsChild tree ni r :=
  ⟨pn, p.hpn, Or.inr hr⟩
theorem Pre.child_lt (p : Pre root tree G ph ctx ni pn) {c : Nat} (hc : IsChild tree ni c) : c < ctx.nodes.size := by
  rw [p.inv.size]; exact G_lt p.V (child_facts p.V p.hG hc).1
theorem Pre.lr_ne (p : Pre root tree G ph ctx ni pn) {l r : Nat} (hl : pn.left = some l) (hr : pn.right = some r) : l ≠ r :=
  left_ne_right p.V p.hG p.hpn hl hr
theorem Pre.p1 (p : Pre root tree G ph ctx ni pn) {node : BuildNode} (hnode : ctx.nodes[ni]? = some (some node))
    (hst : node.state = .uninitialized) : ph ni = .p1 := by
  rcases p.hph with h | h
  · exact h
  · have := p.inv.init ni node hnode h; rw [hst] at this; cases this
theorem Pre.pni (p : Pre root tree G ph ctx ni pn) {node : BuildNode} (hnode : ctx.nodes[ni]? = some (some node)) :
    node.parseNodeIndex = ni := p.inv.pni ni node hnode
theorem Pre.lateRight (p : Pre root tree G ph ctx ni pn) (hl : isLate pn.definition = true) {r : Nat} (hr : pn.right = some r) :
    LateRight tree ni r := ⟨pn, p.hpn, hr, hl⟩
theorem Pre.left_notLate (p : Pre root tree G ph ctx ni pn) {l : Nat} (hl : pn.left = some l) : ¬ LateRight tree ni l := by
  intro ⟨pn', h1, h2, _⟩
  rw [p.hpn] at h1; cases h1
  exact p.lr_ne hl h2 rfl

open Garnish.Lemmas.BuildSeq (layout csOf mem_csOf oolR oolR_not_inlR) in
theorem Pre.inline_child (p : Pre root tree G ph ctx ni pn) {c : Nat} (hc : c ∈ csOf (layout pn.definition) pn.left pn.right) :
    IsChild tree ni c ∧ ¬ LateRight tree ni c := by
  rcases mem_csOf.1 hc with ⟨h, _⟩ | ⟨h, hi⟩
  · exact ⟨p.childL h, p.left_notLate h⟩
  · refine ⟨p.childR h, fun ⟨pn', h1, _, h3⟩ => ?_⟩
    rw [p.hpn] at h1; cases h1
    rw [oolR_not_inlR (by simp [oolR, h3])] at hi; cases hi

/-- a plan none of whose assignments panics and whose result keeps the invariant with a smaller potential -/
def PlanPost (root : Nat) (tree : Array ParseNode) (G : Nat → Prop) (ph : Nat → Phase) (ctx : Ctx F) (p : Plan F) : Prop :=
  (∀ q, q ∈ p.sets → q.1 < ctx.nodes.size) ∧ Post root tree G ph (p.apply ctx)

theorem plan_total {x : Outcome (Plan F)} (hx : Good (PlanPost root tree G ph ctx) x) :
    Good (Post root tree G ph) (Outcome.bind x (·.run ctx)) :=
  good_bind hx fun _ hp => Plan.run_good hp.1 hp.2

/-- a visit that finishes the node and at most rewrites its own build node (conditional items kept) -/
theorem last_total (p : Pre root tree G ph ctx ni pn) (d : BState F) {puts : List (Nat × BuildNode)}
    (hputs : ∀ q, q ∈ puts → q.2.parseNodeIndex = q.1 ∧ q.1 = ni ∧
      ∃ bn, ctx.nodes[ni]? = some (some bn) ∧ q.2.conditionalItems = bn.conditionalItems) :
    Good (PlanPost root tree G ph ctx) (.ok ⟨d, puts, [], [], []⟩) :=
  ⟨(fun _ hq => nomatch hq),
    ⟨_, step_inv_exp p.V p.inv p.hG p.hph p.hns p.hpn .p3 (Or.inr rfl) (fun h => nomatch h) [] [] [] [] puts
      (Plan.apply_stack _ _) (Plan.apply_roots _ _) ((Plan.apply_nodes _ _).trans (congrArg _ (List.append_nil _)))
      (fun _ hx => nomatch hx) (fun _ _ => List.nodup_nil) (fun _ hx => nomatch hx) (fun _ => List.nodup_nil) List.nodup_nil
      (fun _ hc => nomatch hc) (fun q hq => (hputs q hq).1)
      (fun q hq => Or.inl ⟨(hputs q hq).2.1, (fun h => nomatch h), (hputs q hq).2.2⟩) (fun h => nomatch h)⟩⟩

theorem emit_total (p : Pre root tree G ph ctx ni pn) (d : BState F) : Good (PlanPost root tree G ph ctx) (.ok (emit d)) :=
  last_total p d fun _ hq => nomatch hq

/-- first visit: the node goes to phase p2 and is pushed back, the children `sets` are scheduled -/
theorem first_total (p : Pre root tree G ph ctx ni pn) {node : BuildNode} (hnode : ctx.nodes[ni]? = some (some node))
    (hst : node.state = .uninitialized) (hd : pn.definition ≠ .group ∧ pn.definition ≠ .nestedExpression) (d : BState F)
    {n1 : BuildNode} (h1 : n1.state = .initialized) (h2 : n1.conditionalItems = node.conditionalItems)
    (h3 : n1.parseNodeIndex = ni) {sets : List (Nat × BuildNode × String)} {stack : List Nat}
    (hperm : stack.Perm (ni :: sets.map (·.1))) (hnd : (sets.map (·.1)).Nodup)
    (hk : ∀ q, q ∈ sets → (IsChild tree ni q.1 ∧ ¬ LateRight tree ni q.1) ∧ q.2.1.parseNodeIndex = q.1 ∧
      q.2.1.conditionalItems = #[]) :
    Good (PlanPost root tree G ph ctx) (.ok (firstVisit d ni n1 sets stack)) := by
  have hp1 := p.p1 hnode hst
  refine ⟨fun q hq => p.child_lt (hk q hq).1.1, ?_⟩
  refine ⟨_, step_inv_exp p.V p.inv p.hG p.hph p.hns p.hpn .p2 (Or.inl rfl) (fun _ => ⟨hp1, hd⟩) (sets.map (·.1)) [] stack []
    ((ni, n1) :: sets.map fun q => (q.1, q.2.1)) (Plan.apply_stack _ _) (Plan.apply_roots _ _) (Plan.apply_nodes _ _)
    (fun x hx => (List.mem_cons.1 (hperm.mem_iff.1 hx)).imp_left fun e => ⟨e, rfl⟩)
    (fun hni hn => hperm.nodup_iff.2 (List.nodup_cons.2 ⟨hni, hn⟩)) (fun _ hx => nomatch hx) (fun _ => List.nodup_nil)
    (by rw [List.append_nil]; exact hnd) (fun c hc => ?_) (fun q hq => ?_) (fun q hq => ?_) (fun _ => ⟨n1, List.mem_cons_self⟩)⟩
  · rw [List.append_nil] at hc
    obtain ⟨q, hq, rfl⟩ := List.mem_map.1 hc
    exact ⟨(hk q hq).1.1, fun hl => absurd hl (hk q hq).1.2, fun h2 => by rw [hp1] at h2; cases h2⟩
  · rcases List.mem_cons.1 hq with rfl | hq
    · exact h3
    · obtain ⟨q', hq', rfl⟩ := List.mem_map.1 hq
      exact (hk q' hq').2.1
  · rcases List.mem_cons.1 hq with rfl | hq
    · exact Or.inl ⟨rfl, fun _ => h1, node, hnode, h2⟩
    · obtain ⟨q', hq', rfl⟩ := List.mem_map.1 hq
      exact Or.inr ⟨by rw [List.append_nil]; exact List.mem_map.2 ⟨q', hq', rfl⟩, (hk q' hq').2.2⟩

/-- a visit that finishes the node and schedules its right child, on `stack` (`toRoot = false`) or as a new root -/
theorem single_total (p : Pre root tree G ph ctx ni pn) {r : Nat} (hr : pn.right = some r)
    (hlate : ph ni = .p2 → isLate pn.definition = true) (d : BState F) {mk : Nat → BuildNode}
    (hmk : (mk r).parseNodeIndex = r ∧ (mk r).conditionalItems = #[]) (site : String) (toRoot : Bool) :
    Good (PlanPost root tree G ph ctx)
      (.ok ⟨d, [], kids [r] mk site, if toRoot then [] else [r], if toRoot then [r] else []⟩) := by
  refine ⟨fun _ hq => List.mem_singleton.1 hq ▸ p.child_lt (p.childR hr), ?_⟩
  have hchild : ∀ c, c ∈ [r] → IsChild tree ni c ∧ (LateRight tree ni c → Phase.p3 = .p3) ∧ (ph ni = .p2 → LateRight tree ni c) :=
    List.forall_mem_singleton.2 ⟨p.childR hr, fun _ => rfl, fun h2 => p.lateRight (hlate h2) hr⟩
  have hasg : ∀ q, q ∈ [(r, mk r)] → q.2.parseNodeIndex = q.1 ∧ q.1 ∈ [r] ∧ q.2.conditionalItems = #[] :=
    List.forall_mem_singleton.2 ⟨hmk.1, List.mem_singleton_self r, hmk.2⟩
  cases toRoot
  · exact ⟨_, step_inv_exp p.V p.inv p.hG p.hph p.hns p.hpn .p3 (Or.inr rfl) (fun h => nomatch h) [r] [] [r] [] [(r, mk r)]
      (Plan.apply_stack _ _) (Plan.apply_roots _ _) (Plan.apply_nodes _ _) (fun _ hx => Or.inr hx) (fun _ h => h)
      (fun _ hx => nomatch hx) (fun _ => List.nodup_nil) (List.pairwise_singleton _ _) hchild (fun q hq => (hasg q hq).1)
      (fun q hq => Or.inr (hasg q hq).2) (fun h => nomatch h)⟩
  · exact ⟨_, step_inv_exp p.V p.inv p.hG p.hph p.hns p.hpn .p3 (Or.inr rfl) (fun h => nomatch h) [] [r] [] [r] [(r, mk r)]
      (Plan.apply_stack _ _) (Plan.apply_roots _ _) (Plan.apply_nodes _ _) (fun _ hx => nomatch hx) (fun _ _ => List.nodup_nil)
      (fun _ hx => hx) (fun h => h) (List.pairwise_singleton _ _) hchild (fun q hq => (hasg q hq).1)
      (fun q hq => Or.inr (hasg q hq).2) (fun h => nomatch h)⟩

open Garnish.Lemmas.BuildSeq (layout csOf sufOf isJumpIf csOf_nodup sufOf_perm jumpIf_isLate) in
/-- a first visit by `first_total` (the arrangement is a permutation of the node and its in-line children, none of which is
the late right child), the others by `last_total`, `single_total`, `cond_inv_exp`, `else_inv_exp` -/
theorem _root_.Garnish.Lemmas.BuildPlan.Visit.total {crj : Nat} {p : Plan F} (pre : Pre root tree G ph ctx ni pn)
    (v : Visit ctx crj ni pn p) : PlanPost root tree G ph ctx p := by
  have hni3 : ph ni ≠ .p3 := by rcases pre.hph with h1 | h1 <;> rw [h1] <;> intro h <;> cases h
  cases v with
  | @first node hnode hst hk evs hevs ctl sets hkeys hkid x hx stack hstack =>
    have hpni := pre.pni hnode
    have hxni : x = ni := hx.elim id (fun e => e.trans hpni)
    refine first_total pre hnode hst ⟨fun e => hk.1 (e ▸ rfl), fun e => hk.2 (e ▸ rfl)⟩ _
      (n1 := { node with state := .initialized, contributesToList := ctl }) (by rfl) (by rfl) hpni ?_ ?_ ?_
    · rw [hstack, hkeys, hxni]; exact sufOf_perm hk _ _ _
    · rw [hkeys]; exact csOf_nodup _ fun l r hl hr => pre.lr_ne hl hr
    · exact fun q hq => ⟨pre.inline_child (hkeys ▸ List.mem_map_of_mem hq), (hkid q hq).pni, (hkid q hq).items⟩
  | emit => exact emit_total pre _
  | @listItem node hnode =>
    exact last_total pre _ (List.forall_mem_singleton.2 ⟨pre.pni (node := node) hnode, rfl, node, hnode, rfl⟩)
  | groupSkip => exact emit_total pre _
  | @groupChild node hnode hdef r hr site =>
    have hp1 : ph ni = .p1 := pre.hph.elim id fun h => absurd hdef (pre.inv.p2two ni pn pre.hpn h).1
    exact single_total pre hr (fun h2 => by rw [hp1] at h2; cases h2) _ (mk := (BuildNode.new · node.containingExpressionJump))
      ⟨rfl, rfl⟩ site false
  | nestedEmpty => exact emit_total pre _
  | nestedRoot hdef hr site =>
    exact single_total pre hr (fun h2 => absurd hdef (pre.inv.p2two ni pn pre.hpn h2).2) _
      (mk := (BuildNode.newWithJump · ctx.data.jumps.size ctx.data.jumps.size)) ⟨rfl, rfl⟩ site true
  | @branch node hnode hst hlate hcp r hr ins hjump extra endBefore hx he site =>
    exact single_total pre hr (fun _ => hlate) _ (mk := fun c => BuildNode.newWithJumpAndEnd c node.containingExpressionJump
      ctx.data.jumps.size (endBefore ++ [(.jumpTo, some (emitAll ctx.data (.hole :: .instr ins (some ctx.data.jumps.size) (some ni) ::
        extra.map fun e => .instr e.1 e.2 none)).jumps.size)])) ⟨rfl, rfl⟩ site true
  | arm hnode hst hj hr hcp hparent =>
    exact ⟨(fun _ hq => nomatch hq), _, cond_inv_exp pre.V pre.inv pre.hG pre.hph pre.hns pre.hpn hr (jumpIf_isLate hj) hparent _ rfl rfl rfl rfl⟩
  | armDropped => exact emit_total pre _
  | elseNoop => exact emit_total pre _
  | @elseRelease node hnode hst hdef hcp hpos =>
    refine ⟨fun q hq => ?_, ⟨_, else_inv_exp pre.V pre.inv pre.hG pre.hph pre.hns hnode node.containingExpressionJump
      ctx.data.jumps.size rfl (Plan.apply_roots _ _) ?_⟩⟩
    · obtain ⟨it, hit, rfl⟩ := List.mem_map.1 hq
      rw [pre.inv.size]
      exact G_lt pre.V (pre.inv.items ni node hnode hni3 it hit).1
    · rw [Plan.apply_nodes]
      show assign ctx.nodes (List.map _ (List.map _ _)) = _
      rw [List.map_map]
      rfl

end pre

end Garnish.Lemmas.BuildTotal
