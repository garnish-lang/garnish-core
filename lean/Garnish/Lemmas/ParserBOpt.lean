/-
Operators with optional operands.  A trailing comma before a closing bracket, `prefix* ( fill* E trivia* , trivia* )`: the
comma is processed like a binary operator (its `right` points to the next node id); the EndGrouping arm then finds
`last_left` to be an optional node and resets its `right` (`step_close_opt`), so the comma ends up with a left operand only.
(Infix identifiers are not `is_optional`: without right operand their `right` would stay dangling — not in the fragment.)
A leading `,` / infix identifier at the start of a frame's expression (`expr_lead`): `parse_token` is called with
`left = last_left` = the bracket that opened the frame (or nothing at the very beginning): the walk stops there at once
(`is_our_group`), `parent == true_left` unsets the left operand, and the node is pushed as the first node of the frame with
a dangling `right` — like a prefix operator.
-/
import Garnish.Lemmas.ParserBBracket
import Garnish.Lemmas.Outcome

namespace Garnish.Spec
open Garnish Garnish.Gen Garnish.Model.Parser

/-- the optional-node branch of `endGroupingFixLastLeft` -/
theorem endFix_opt (st : PState) (g n : Nat) (C : ParseNode) (hsz : st.nodes.size = n + 1) (hl : st.lastLeft = some n)
    (hC : st.nodes[n]? = some C) (hCd : C.definition = .commaList) :
    ∃ nodes2, endGroupingFixLastLeft st (n + 1) g = .ok { st with nodes := nodes2 } ∧ nodes2.size = n + 1 ∧
      ∀ j, nodes2[j]? = if j = n then some { C with right := none } else st.nodes[j]? := by
  have hopt : C.definition.isOptional = true := by rw [hCd]; rfl
  obtain ⟨n1, h1⟩ := modifyNode?_isSome (a := st.nodes) (fun _ => { C with right := none }) (show n < st.nodes.size by omega)
  refine ⟨n1, ?_, by rw [modifyNode?_size h1]; exact hsz, ?_⟩
  · have hns : (C.definition == Definition.subexpression) = false := by rw [hCd]; rfl
    unfold endGroupingFixLastLeft
    simp only [hl, hC, hopt, Bool.true_or, if_true, h1, hns, Bool.false_and, Bool.false_eq_true, if_false]
  · intro j
    rw [modifyNode?_get h1 j]
    split
    · rename_i hj; subst hj; rw [hC]; rfl
    · rfl

/-- **the closing bracket on a state whose last node is a comma**: the comma's `right` is reset -/
theorem step_close_opt (st : PState) (g n : Nat) (C G : ParseNode) (fl : Bool) (c : PToken) (il : Bool)
    (hug : underGroupOf st = .ok (some g)) (hadj : adjustLastLeft st (some g) = .ok st) (hnnl : st.nextLastLeft = none)
    (hcomp : checkComposition st.previousSecondDef (getDefinition c.type).2 st.checkForList = true)
    (hback : st.groupStack.back? = some (g, fl)) (hG : st.nodes[g]? = some G) (hcl : closes G.definition c)
    (hsz : st.nodes.size = n + 1) (hl : st.lastLeft = some n) (hC : st.nodes[n]? = some C)
    (hCd : C.definition = .commaList) :
    ∃ nodes2, step st c il = .ok (stepCU st g fl c nodes2) ∧ nodes2.size = n + 1 ∧
      ∀ j, nodes2[j]? = if j = n then some { C with right := none } else st.nodes[j]? := by
  apply step_close_fix st g G fl c il _ hug hadj hnnl hcomp hback hG hcl
  intro stx h1 h2
  have := endFix_opt stx g n C (by rw [h2]; exact hsz) (by rw [h1]; exact hl) (by rw [h2]; exact hC) hCd
  rw [h2] at this
  rw [hsz]; exact this

def isCommaTok (t : PToken) : Bool := t.type == .comma

theorem comma_facts {k : PToken} (hk : isCommaTok k = true) :
    isBin3Tok k = true ∧ getDefinition k.type = (.commaList, .optionalBinaryLeftToRight) := by
  unfold isCommaTok at hk
  have : k.type = .comma := by simpa using hk
  unfold isBin3Tok
  rw [this]; exact ⟨rfl, rfl⟩

theorem comp_close_after_comma (s : SecDef) (hs : s = .optionalBinaryLeftToRight ∨ s = .whitespace ∨ s = .annotation)
    (c : Bool) : checkComposition s .endGrouping c = true := by
  rcases hs with rfl | rfl | rfl <;> cases c <;> rfl

/-- `trivia* , trivia* )` after the content: the comma keeps its left operand only -/
theorem closing_comma {d : Definition} {ls : Bool} {c k : PToken} {ws1 wsB : List PToken} (hc : isCloseFor d c)
    (hw1 : ∀ w ∈ ws1, isTriviaTok w = true) (hk : isCommaTok k = true) (hwB : ∀ w ∈ wsB, isTriviaTok w = true) :
    Closing d ls (ws1 ++ (k :: (wsB ++ [c]))) 0 := by
  intro stE g E re cbE G' hinvE hkE hG' hGd' hGr' hback rest
  obtain ⟨hk3, hkd⟩ := comma_facts hk
  obtain ⟨stE1, hloopW1, hinvE1, hnE1, hgsE1, hcgE1⟩ := trivia_runU ws1 stE ((k :: (wsB ++ [c])) ++ rest) hinvE hw1
  obtain ⟨q, nodes', info, s1, hq, h1, hn1, hO1, hgs1, hcg1, hI⟩ := op_effectU hinvE1 hk3
  have hsz' := hI.size
  have hdefs := hI.defs
  rw [hkd] at hq hn1 hI
  simp only at hq hn1 hI
  have hq900 : q = 900 := by injection hq with hq; exact hq.symm
  have hs1 : s1.nodes.size = stE1.nodes.size + 1 := by rw [hn1]; simp [hsz']
  have hC1 : s1.nodes[stE1.nodes.size]? = some ⟨.commaList, .optionalBinaryLeftToRight, info.parent, info.left,
      some (stE1.nodes.size + 1), k⟩ := by rw [hn1, Array.getElem?_push, if_pos hsz'.symm]
  have hprevs1 : s1.previousSecondDef = .optionalBinaryLeftToRight := by
    -- the operator step sets `previous_second_def` to the operator's class
    obtain ⟨_, _, _, _, _, _, _, _, _, hp, _⟩ := step_bin3_stateG stE1 s1 k hk3 hinvE1.nnl hinvE1.hug hinvE1.adjust h1
    rw [hkd] at hp; exact hp
  obtain ⟨s1', hloopW2, hO1', hn1', _, hll1', hgs1', hcg1', hprev1'⟩ :=
    trivia_runB_prev wsB s1 (some g) ([c] ++ rest) hO1 (by omega) hwB
  have hsE : g + 1 < stE.nodes.size := hinvE.n.pos
  have hnE1s : stE1.nodes.size = stE.nodes.size := by rw [hnE1]
  obtain ⟨G1, hG1, hG1d⟩ : ∃ G1, s1'.nodes[g]? = some G1 ∧ G1.definition = d := by
    rw [hn1', hn1, Array.getElem?_push, if_neg (by omega), ← hGd']
    exact node_of_defs (hdefs g (by omega)) (by rw [hnE1]; exact hG')
  have hsd : (getDefinition c.type).2 = .endGrouping := isCloseFor_secdef hc
  have hgs : s1'.groupStack = stE.groupStack := by rw [hgs1', hgs1, hgsE1]
  have hcompC : checkComposition s1'.previousSecondDef (getDefinition c.type).2 s1'.checkForList = true := by
    rw [hsd]; apply comp_close_after_comma
    rcases hprev1' with h | h | h
    · left; rw [h]; exact hprevs1
    · exact Or.inr (Or.inl h)
    · exact Or.inr (Or.inr h)
  obtain ⟨nodes2, hclose, hs2, hg2⟩ := step_close_opt s1' g stE1.nodes.size _ G1 false c
    rest.isEmpty hO1'.hug hO1'.adj hO1'.nnl hcompC (by rw [hgs]; exact hback) hG1 (by rw [hG1d]; exact isCloseFor_closes hc)
    (by rw [hn1']; exact hs1) (by rw [hll1']; exact hO1.lastLeft_eq (by omega) ▸ (by rw [hs1]; rfl))
    (by rw [hn1']; exact hC1) rfl
  -- the content of the bracket: the comma with a left operand only
  have hlt2 : ∀ j, j < stE1.nodes.size → nodes2[j]? = nodes'[j]? := by
    intro j hj
    rw [hg2 j, if_neg (by omega), hn1', hn1, Array.getElem?_push, if_neg (by omega)]
  have hC2 : nodes2[stE1.nodes.size]? = some ⟨.commaList, .optionalBinaryLeftToRight, info.parent, info.left, none, k⟩ := by
    rw [hg2, if_pos rfl]
  obtain ⟨re', hnE2, hin1, hdefs2⟩ := hI.closeNil hinvE1 hlt2 hC2 rfl rfl rfl hs2 (q' := 900) rfl
  have hprios2 := hnE2.prios
  obtain ⟨G2, hG2, hGr2⟩ : ∃ G2, nodes2[g]? = some G2 ∧ G2.right = some re' := by
    cases hnE2.frame with
    | bracket _ _ G pg hG _ _ hGr => exact ⟨G, hG, hGr⟩
  have hG2eq : setRight none G2 = setRight none G' := by
    have h1' := hI.outer.upto g (by omega)
    rw [← hlt2 _ (by omega), hG2, hnE1, hG'] at h1'
    simpa only [Option.map_some, Option.some.injEq] using h1'
  refine ⟨stepCU s1' g false c nodes2, nodes2, _, re', G2, ?_, hnE2,
    fun j hj => by rw [hlt2 j (by omega), hI.outer.same j (by omega), hnE1], hG2, hGr2, hG2eq, fun _ _ => rfl, Nat.le_refl _,
    hprios2, hO1'.nnl, by show s1'.groupStack.pop = _; rw [hgs],
    by show (if s1'.groupStack.pop.isEmpty then none else some (s1'.groupStack.pop.size - 1)) = _; rw [hgs], rfl, hsd,
    by show _ = _ + nodes2.size; rw [hin1, hs2, List.length_append]; simp only [List.length_cons, List.length_nil]; omega,
    ?_⟩
  · have e4 : (ws1 ++ (k :: (wsB ++ [c]))) ++ rest = ws1 ++ ((k :: (wsB ++ [c])) ++ rest) := by simp
    rw [e4, hloopW1]
    simp only [List.cons_append, loop]
    have he' : (wsB ++ [c] ++ rest).isEmpty = false := by
      rw [List.append_assoc]; exact isEmpty_append_of_ne wsB (List.cons_ne_nil _ _)
    rw [he', h1]
    simp only [Outcome.bind]
    rw [List.append_assoc, hloopW2]
    simp only [List.cons_append, List.nil_append, loop, hclose, Outcome.bind]
  · intro pos hnum gp parent stack restR
    have hkcol : k.col = pos + ws1.length := (numbered_append ws1 _ _ hnum).1
    let fE : Frame :=
      { ctx := some (d, gp), cur := toRG (dfOf stE.nodes) E, last := (if ls then Last.suffix else Last.operand),
        ws := false, prevSep := false }
    obtain ⟨b1, hb1⟩ := refSeg_trivia ws1 hw1 pos fE
    let fE1 : Frame := { fE with ws := b1 }
    let fK : Frame :=
      { fE1 with cur := attach Table.gen 900 (SecDef.optionalBinaryLeftToRight == SecDef.binaryRightToLeft)
                   Definition.commaList (pos + ws1.length) fE1.cur,
                 last := lastAfter SecDef.optionalBinaryLeftToRight, ws := false, prevSep := false }
    obtain ⟨bB, hbB⟩ := refSeg_trivia wsB hwB (pos + ws1.length + 1) fK
    have hdn2 : dfOf nodes2 stE1.nodes.size = .commaList := by simp [dfOf, hC2]
    have hcur : attach Table.gen 900 false Definition.commaList (pos + ws1.length) (toRG (dfOf stE.nodes) E) =
        toRG (dfOf nodes2) (insertC cbE (prioAt stE1.nodes) q false stE1.nodes.size k.col .nil E) := by
      rw [← hnE1, hkcol, hq900]
      exact attach_toRG_nil hinvE1.n hinvE1.spine hdefs2 hdn2 rfl 900 false _
    refine refRun_append_ok (hb1 _ _) ?_
    have e : k :: (wsB ++ [c]) = [k] ++ (wsB ++ [c]) := rfl
    have hst := ref_op_stepK fE1 (parent :: stack) (pos + ws1.length) 900 k (wsB ++ [c] ++ restR) hk3 (by rw [hkd]; rfl)
      (by cases ls <;> simp [fE1, fE])
    rw [hkd] at hst
    rw [e]
    refine refRun_append_ok (refRun_one hst) ?_
    refine refRun_append_ok (hbB _ _) (refRun_one ?_)
    rw [ref_close_stepK _ _ stack _ c restR d gp rfl hc rfl]
    have hrtl : (SecDef.optionalBinaryLeftToRight == SecDef.binaryRightToLeft) = false := rfl
    simp only [fK, fE1, fE, hrtl, hcur]
    rfl

/-- `prefix* ( fill* E trivia* , trivia* )` / `prefix* { .. }` is a complete operand -/
theorem opd_bracket_comma {n : Nat} {inner : List PToken} {ls : Bool} (pre : List PToken) (o c k : PToken)
    (wsA ws1 wsB : List PToken) (hin : ExprOK n ((getDefinition o.type).1 == .group) inner ls)
    (hpre : ∀ p ∈ pre, isPrefixTok p = true) (ho : isOpenTok o = true)
    (hc : isCloseFor (getDefinition o.type).1 c) (hwA : ∀ w ∈ wsA, isFillTok w = true)
    (hw1 : ∀ w ∈ ws1, isTriviaTok w = true) (hk : isCommaTok k = true) (hwB : ∀ w ∈ wsB, isTriviaTok w = true)
    (hne : inner ≠ []) :
    OpdOK n (pre ++ (o :: (wsA ++ (inner ++ (ws1 ++ (k :: (wsB ++ [c]))))))) :=
  opd_prefixes (opd_bracket_gen o wsA hin ho hwA hne (closing_comma hc hw1 hk hwB)) (List.cons_ne_nil _ _) pre hpre

/-- `,` and infix identifiers -/
def isOptTok (t : PToken) : Bool := (getDefinition t.type).2 == .optionalBinaryLeftToRight

theorem StartPrev.comp_opt {st : PState} (h : StartPrev st) :
    checkComposition st.previousSecondDef .optionalBinaryLeftToRight false = true := by
  rcases h with h | h | h | h | h | h <;> rw [h] <;> rfl

theorem opt_facts {op : PToken} (h : isOptTok op = true) :
    isBin3Tok op = true ∧ (getDefinition op.type).2 = .optionalBinaryLeftToRight := by
  unfold isOptTok at h
  have hs : (getDefinition op.type).2 = .optionalBinaryLeftToRight := by simpa using h
  unfold isBin3Tok
  exact ⟨by simp [hs], hs⟩

theorem ref_opt_leadK (f : Frame) (stack : List Frame) (pos q : Nat) (op : PToken) (rest : List PToken)
    (hop : isOptTok op = true) (hq : priority (getDefinition op.type).1 = some q) (hl : f.last = .start) :
    refStep Table.gen f stack pos op rest =
      .ok ({ f with cur := attach Table.gen q false (getDefinition op.type).1 pos f.cur, last := .optOp, ws := false,
                    prevSep := false }, stack) := by
  have hs : (Table.gen.define op.type).2 = .optionalBinaryLeftToRight := (opt_facts hop).2
  rw [refStep_eq, operator_act Table.gen (Or.inr (Or.inr hs)) hq, hs]
  simp only [Act.run, hl, lastAfter]
  rfl

/-- **a leading `,` / infix identifier, then the first operand of the frame** -/
theorem expr_lead {c : Nat} {inG : Bool} {x ws : List PToken} {op : PToken} (hx : OpdOK c x) (hop : isOptTok op = true)
    (hws : ∀ w ∈ ws, isTriviaTok w = true) (hxne : x ≠ []) :
    ExprOK c inG (op :: (ws ++ x)) false := by
  intro st0 ug p base hO hfs hprios hcg _ hsp rest
  obtain ⟨hop3, hsd⟩ := opt_facts hop
  obtain ⟨q, hq, hq20, hnb⟩ := bin3_prio20 op.type (by unfold isBin3Tok at hop3; exact hop3)
  obtain ⟨_, _, f3, f4⟩ := bin3_def_facts op.type (by unfold isBin3Tok at hop3; exact hop3)
  obtain ⟨hbase, hp⟩ := hfs.base_eq
  have hrtl : ((getDefinition op.type).2 == SecDef.binaryRightToLeft) = false := by rw [hsd]; rfl
  have hpt : parseToken st0.nodes.size (getDefinition op.type).1 st0.lastLeft (some (st0.nodes.size + 1)) st0.nodes ug
      ((getDefinition op.type).2 == .binaryRightToLeft) =
      .ok (st0.nodes, ⟨(getDefinition op.type).1, st0.lastLeft, none, some (st0.nodes.size + 1)⟩) := by
    rw [hrtl]
    cases hfs with
    | top h1 _ =>
      have hl : st0.lastLeft = none := by
        rcases hO.top with ⟨h, _⟩ | ⟨_, _, hpos, _⟩
        · exact h
        · rw [h1] at hpos; simp at hpos
      rw [hl, h1]; exact parseToken_empty hq
    | bracket g G pg h1 _ hG hgl hpg hGr =>
      have hl : st0.lastLeft = some g := by rw [hO.lastLeft_eq (by omega), h1]; rfl
      rw [hl]
      exact parseToken_top hq hG (walk_top_stop false hG hpg (Or.inr ⟨hgl, rfl⟩)) (by rw [hGr, h1])
  obtain ⟨st1, h1, hn1, hl1, hc1, hnl1, hgs1, hcg1, hp1, hnp1⟩ :=
    step_bin3_okG st0 op false hop3 hO.nnl hO.hug hO.adj (by rw [hO.cfl, hsd]; exact hsp.comp_opt) hpt
  simp only at hn1
  have hs1 : st1.nodes.size = st0.nodes.size + 1 := by rw [hn1]; simp
  have hC1 : st1.nodes[st0.nodes.size]? = some ⟨(getDefinition op.type).1, (getDefinition op.type).2, st0.lastLeft, none,
      some (st0.nodes.size + 1), op⟩ := by rw [hn1]; simp
  have hug1 : underGroupOf st1 = .ok ug := by
    have := hO.hug; simp only [underGroupOf, hgs1, hcg1] at this ⊢; exact this
  have hO1 : OpenB st1 ug := by
    refine ⟨hc1, hnl1, hug1, by rw [hnp1, hl1], ?_, Or.inr ?_, ?_⟩
    · exact adjust_noop st1 ug (Or.inr ⟨_, _, hl1, hC1, Or.inl (not_sideEffect_of_not_groupLike f4)⟩)
    · exact ⟨_, q, by omega, by rw [hl1, hs1]; rfl, by rw [hs1, Nat.add_sub_cancel]; exact hC1, hq, by rw [hs1], f3,
        Or.inl ⟨by omega, f4⟩⟩
    · rw [hp1, hsd]
      exact Or.inr (Or.inr (Or.inr (Or.inr (Or.inr (Or.inr (Or.inr (Or.inr (Or.inl rfl))))))))
  have hprios1 : AllPrio st1.nodes := by
    intro i nd hi
    rw [hn1, Array.getElem?_push] at hi
    split at hi
    · injection hi with hi; subst hi; exact ⟨q, hq⟩
    · exact hprios i nd hi
  obtain ⟨st1', hloopW, hO1', hn1', hnp1', _, hgs1', hcg1'⟩ :=
    trivia_runB ws st1 ug (x ++ rest) hO1 (by omega) hws (by simp [hxne])
  have hcg1ok : CGOK st1' := by
    unfold CGOK at hcg ⊢
    rw [hcg1', hgs1', hcg1, hgs1]; exact hcg
  obtain ⟨st2, sub, cb', P, hloopX, hres, hP, hcntX, hrefX⟩ :=
    hx st1' ug hO1' (by rw [hn1']; exact hprios1) hcg1ok rest
  have hres1 : OpdRes st1 st2 sub cb' := hres.transfer hn1'.symm hnp1'.symm hgs1'.symm hcg1'.symm
  have hC2 : st2.nodes[st0.nodes.size]? = some ⟨(getDefinition op.type).1, (getDefinition op.type).2, st0.lastLeft, none,
      some (st0.nodes.size + 1), op⟩ := by rw [hres1.below _ (by omega)]; exact hC1
  have hbelow : ∀ j, j < st0.nodes.size → st2.nodes[j]? = st0.nodes[j]? := by
    intro j hj
    rw [hres1.below j (by omega), hn1, Array.getElem?_push, if_neg (by omega)]
  have hsub := hres1.tree
  rw [hnp1, hs1] at hsub
  have hsubin := hres1.inord
  rw [hs1] at hsubin
  have hsubne : sub.inorder ≠ [] := List.ne_nil_of_mem hres1.tree.root_mem
  have hcbge := hres1.cb_ge
  have hdn : dfOf st2.nodes st0.nodes.size = (getDefinition op.type).1 := by simp [dfOf, hC2]
  have htree2 : IsTreeAt st2.nodes p (some base) (.node .nil st0.nodes.size op.col sub) := by
    rw [hbase]
    refine isTreeAt_node _ hC2 (by rw [hp, hO.link]) (.nil _) hsub rfl
  have hinv2 : UInv st2 ug p base (.node .nil st0.nodes.size op.col sub) base cb' := by
    have hsz2 := hres1.size
    refine ⟨⟨htree2, ?_, by rw [hbase]; simp [Tree.inorder], by omega, ?_, hres1.prios⟩, hres1.nnl, hres1.hug hug1, ?_,
      ?_, hres1.prev6⟩
    · simp only [Tree.inorder, List.nil_append]
      rw [hbase]
      exact (show SortedIn st0.nodes.size st0.nodes.size [] from ⟨List.Pairwise.nil, fun j hj => by cases hj⟩).append_cons
        hsubin (Nat.le_refl _) (by omega)
    · cases hfs with
      | top _ _ => exact .top 0
      | bracket g G pg h1' _ hG hgl hpg hGr =>
        exact .bracket g (g + 1) G pg (by rw [hbelow g (by omega)]; exact hG) hgl hpg hGr
    · cases hres1.bot with
      | plain hl hb h3 h4 =>
        refine .plain hl hb ?_ h4
        simp only [Tree.inorder, List.nil_append]
        rw [List.getLast?_cons_of_ne_nil hsubne]; exact h3
      | closed _ G h1' h2 h3 h4 h5 h6 => exact .closed _ G h1' h2 h3 h4 (Or.inr h5) h6
    · simp only [SpineG, if_neg (show st0.nodes.size ≠ cb' by omega), hdn]
      exact ⟨hnb, hres1.spine⟩
  refine ⟨st2, _, base, cb', ?_, ⟨hinv2, by rw [hres1.gs, hgs1], by rw [hres1.cg, hcg1],
    .of_below fun j hj => hbelow j (by omega), fun _ => hres.ready,
    by simp only [Tree.inorder, List.nil_append, List.length_cons]; rw [hn1'] at hcntX; omega⟩, ?_⟩
  · simp only [List.cons_append, loop]
    have he' : (ws ++ x ++ rest).isEmpty = false := by
      rw [List.append_assoc]; exact isEmpty_append_of_ne ws (List.append_ne_nil_of_left_ne_nil hxne _)
    rw [he', h1]
    simp only [Outcome.bind]
    rw [List.append_assoc, hloopW, hloopX]
  · intro pos hnum f hc hl _ stack restR
    have hopcol : op.col = pos := hnum.1
    let fL : Frame :=
      { f with cur := attach Table.gen q false (getDefinition op.type).1 pos f.cur, last := Last.optOp, ws := false,
               prevSep := false }
    obtain ⟨b, hb⟩ := refSeg_trivia ws hws (pos + 1) fL
    have habove : aboveDef st1' = (getDefinition op.type).1 := by
      unfold aboveDef; rw [hn1', hs1, Nat.add_sub_cancel, hC1]; rfl
    have hcur : P (attach Table.gen q false (getDefinition op.type).1 pos f.cur) =
        toRG (dfOf st2.nodes) (.node .nil st0.nodes.size op.col sub) := by
      rw [hc]
      have : attach Table.gen q false (getDefinition op.type).1 pos RTree.nil =
          .node .nil (getDefinition op.type).1 pos .nil := rfl
      rw [this]
      have hf := hP.fresh .nil pos
      rw [habove] at hf
      rw [hf]
      simp only [toRG, hdn, hnb, Bool.false_eq_true, if_false, hopcol]
    have e : op :: (ws ++ x) = [op] ++ (ws ++ x) := rfl
    rw [e]
    refine refRun_append_ok (refRun_one (ref_opt_leadK f stack pos q op _ hop hq hl)) ?_
    refine refRun_append_ok (hb _ _) ?_
    refine (hrefX _ (numbered_append ws x _ hnum.2) { fL with ws := b } (Or.inr (Or.inr (Or.inl rfl))) stack restR).trans ?_
    simp only [fL]
    rw [hcur]
    rfl

end Garnish.Spec
