/-
Brackets: frames.  The node part `NInv` of the frame-local invariant (the tokens of the innermost open bracket, or of the
whole input, processed so far form the tree `E` hanging below `p`; the frames of the outer brackets are only known to stay
untouched); a walk of `parse_token` that stops at the node it starts from, which may be the open bracket (`walk_top_stop`;
the walk up a whole spine is `walkLoop_chain` of Lemmas/ParserInv, used in Lemmas/ParserBClosed); and the open operand
position with an arbitrary `under_group` (`OpenB`): the prefix-operator step (`OpenB.stepP`), the value that closes an
operand, trivia (`OpenB` is closed under trivia tokens), the opening bracket `(` / `{`.
A frame is given by three parameters that only take the values `ug = p = none, base = 0` (top level) and
`ug = p = some g, base = g + 1` (inside the open bracket node `g`; `FrameOK`): `ug` is the model's `under_group`, `p` the parent
the frame's tree hangs below, `base` the first node id of the frame; lemmas about the model alone speak of `ug`, lemmas about
trees of `p` and `base`.  Suffix `B` in `OpenB`, `value_stepB`, `step_openB`, `trivia_runB`: for any `under_group` (in
`walk_insertB`, `core_effectB`, `parseToken_bottom` of other files it is the bottom node of the right spine).
-/
import Garnish.Lemmas.ParserSuffix

namespace Garnish.Spec
open Garnish Garnish.Gen Garnish.Model.Parser

/-- where the tokens processed so far hang: at top level (`p = none`) or below the open bracket node `g` -/
inductive FrameOK (nodes : Array ParseNode) : Option Nat → Option Nat → Nat → Nat → Prop
  | top (re : Nat) : FrameOK nodes none none 0 re
  | bracket (g re : Nat) (G : ParseNode) (pg : Nat) :
      nodes[g]? = some G → G.definition.isGroupLike = true → priority G.definition = some pg → G.right = some re →
      FrameOK nodes (some g) (some g) (g + 1) re

/-- `l` is strictly increasing with all elements in `[a, b)` (the in-order index list of a frame's tree: node ids come in
    token order; ids of unlinked nodes may be missing) -/
def SortedIn (a b : Nat) (l : List Nat) : Prop := l.Pairwise (· < ·) ∧ ∀ j ∈ l, a ≤ j ∧ j < b

theorem SortedIn.nodup {a b : Nat} {l : List Nat} (h : SortedIn a b l) : l.Nodup :=
  h.1.imp (fun hlt => Nat.ne_of_lt hlt)

theorem SortedIn.length_le {a b : Nat} : ∀ {l : List Nat}, SortedIn a b l → l.length + a ≤ b ∨ l = []
  | [], _ => Or.inr rfl
  | x :: l, h => by
    left
    have hx := h.2 x (List.mem_cons_self ..)
    have htail : SortedIn (x + 1) b l := by
      refine ⟨(List.pairwise_cons.mp h.1).2, fun j hj => ⟨?_, (h.2 j (List.mem_cons_of_mem _ hj)).2⟩⟩
      exact (List.pairwise_cons.mp h.1).1 j hj
    rcases htail.length_le with h' | h'
    · simp only [List.length_cons]; omega
    · subst h'; simp only [List.length_cons, List.length_nil]; omega

theorem SortedIn.length_le' {a b : Nat} {l : List Nat} (h : SortedIn a b l) (hab : a ≤ b) : l.length + a ≤ b := by
  rcases h.length_le with h' | h'
  · exact h'
  · subst h'; simpa using hab

theorem SortedIn.mono {a b a' b' : Nat} {l : List Nat} (h : SortedIn a b l) (ha : a' ≤ a) (hb : b ≤ b') :
    SortedIn a' b' l :=
  ⟨h.1, fun j hj => ⟨Nat.le_trans ha (h.2 j hj).1, Nat.lt_of_lt_of_le (h.2 j hj).2 hb⟩⟩

theorem sortedIn_range' (a k b : Nat) (h : a + k ≤ b) : SortedIn a b (List.range' a k) := by
  refine ⟨List.pairwise_lt_range', fun j hj => ?_⟩
  rw [List.mem_range'_1] at hj
  omega

theorem SortedIn.append_cons {a n b : Nat} {l1 l2 : List Nat} (h1 : SortedIn a n l1) (h2 : SortedIn (n + 1) b l2)
    (han : a ≤ n) (hnb : n < b) : SortedIn a b (l1 ++ n :: l2) := by
  refine ⟨?_, ?_⟩
  · rw [List.pairwise_append]
    refine ⟨h1.1, ?_, ?_⟩
    · rw [List.pairwise_cons]
      exact ⟨fun j hj => by have := (h2.2 j hj).1; omega, h2.1⟩
    · intro x hx y hy
      have hxn := (h1.2 x hx).2
      rcases List.mem_cons.mp hy with e | e
      · omega
      · have := (h2.2 y e).1; omega
  · intro j hj
    rcases List.mem_append.mp hj with e | e
    · have := h1.2 j e; omega
    · rcases List.mem_cons.mp e with e | e
      · omega
      · have := h2.2 j e; omega

theorem SortedIn.cons {a b : Nat} {l : List Nat} (h : SortedIn (a + 1) b l) (hab : a < b) : SortedIn a b (a :: l) :=
  (show SortedIn a a [] from ⟨List.Pairwise.nil, fun _ hj => nomatch hj⟩).append_cons h (Nat.le_refl _) hab

theorem node_of_defs {nodes arr : Array ParseNode} {g : Nat} {G : ParseNode}
    (hd : (arr[g]?).map (·.definition) = (nodes[g]?).map (·.definition)) (hG : nodes[g]? = some G) :
    ∃ G1, arr[g]? = some G1 ∧ G1.definition = G.definition := by
  rw [hG] at hd
  cases hn : arr[g]? with
  | none => rw [hn] at hd; cases hd
  | some G1 =>
    rw [hn] at hd
    simp only [Option.map_some, Option.some.injEq] at hd
    exact ⟨G1, rfl, hd⟩

theorem allPrio_of_defs {nodes arr : Array ParseNode} (hp : AllPrio nodes)
    (hdefs : ∀ j, j < nodes.size → (arr[j]?).map (·.definition) = (nodes[j]?).map (·.definition))
    (hsz : arr.size = nodes.size + 1) {nd : ParseNode} {q : Nat} (hn : arr[nodes.size]? = some nd)
    (hq : priority nd.definition = some q) : AllPrio arr := by
  intro i x hi
  by_cases c1 : i < nodes.size
  · cases hsi : nodes[i]? with
    | none => rw [Array.getElem?_eq_none_iff] at hsi; omega
    | some nd0 =>
      obtain ⟨G1, h1, h2⟩ := node_of_defs (hdefs i c1) hsi
      rw [hi] at h1; injection h1 with h1; subst h1
      rw [h2]; exact hp i nd0 hsi
  · by_cases c2 : i = nodes.size
    · subst c2; rw [hn] at hi; injection hi with hi; subst hi; exact ⟨q, hq⟩
    · have : arr[i]? = none := by apply Array.getElem?_eq_none; omega
      rw [this] at hi; cases hi

/-- **frame-local invariant, node part**: the nodes of the frame (ids from `base`) form the tree `E` (root `re`) hanging
    below `p` (`p = none`: top level; `p = some g`: the open bracket `g = base - 1`); `ug` is `under_group` -/
structure NInv (nodes : Array ParseNode) (ug p : Option Nat) (base : Nat) (E : Tree) (re : Nat) : Prop where
  tree : IsTreeAt nodes p (some re) E
  inord : SortedIn base nodes.size E.inorder
  first : base ∈ E.inorder
  pos : base < nodes.size
  frame : FrameOK nodes ug p base re
  prios : AllPrio nodes

theorem NInv.mem {nodes : Array ParseNode} {ug p : Option Nat} {base : Nat} {E : Tree} {re : Nat}
    (h : NInv nodes ug p base E re) (j : Nat) (hj : j ∈ E.inorder) : base ≤ j ∧ j < nodes.size :=
  h.inord.2 j hj

theorem SInv.toN {st : PState} {T : Tree} {rt : Nat} (h : SInv st T rt) : NInv st.nodes none none 0 T rt :=
  ⟨h.tree, by rw [h.inord, List.range_eq_range']; exact sortedIn_range' 0 _ _ (by omega),
    by rw [h.inord]; exact List.mem_range.mpr h.pos, h.pos, .top rt, h.prios⟩

theorem map_setRight_setRight (v w : Option Nat) (o : Option ParseNode) :
    (o.map (setRight v)).map (setRight w) = o.map (setRight w) := by cases o <;> rfl

/-- what the continuation of `core_effectB` delivers: the frame's new tree, and the bracket node still pointing to its root -/
def FrameTree (arr : Array ParseNode) (p : Option Nat) (re' : Nat) (E' : Tree) : Prop :=
  IsTreeAt arr p (some re') E' ∧
    ∀ g, p = some g → ∃ G', arr[g]? = some G' ∧ G'.right = some re' ∧ G'.definition.isGroupLike = true ∧
      ∃ pg, priority G'.definition = some pg

theorem IsTreeAt.right_child_parent {nodes : Array ParseNode} {p link : Option Nat} {t : Tree}
    (h : IsTreeAt nodes p link t) : ∀ {j i : Nat} {n : ParseNode}, j ∈ t.inorder → nodes[j]? = some n → n.right = some i →
      ∃ ni, nodes[i]? = some ni ∧ ni.parent = some j := by
  induction h with
  | nil p => intro j i n hj; cases hj
  | node p i0 nd l r hn hpar hl hr ihl ihr =>
    intro j i n hj hnj hri
    by_cases hji : j = i0
    · subst hji
      rw [hn] at hnj; injection hnj with hnj; subst hnj
      rw [hri] at hr
      cases hr with
      | node _ _ ni _ _ h1 h2 _ _ => exact ⟨ni, h1, h2⟩
    · simp only [Tree.inorder, List.mem_append, List.mem_cons] at hj
      rcases hj with hj | hj | hj
      · exact ihl hj hnj hri
      · exact absurd hj hji
      · exact ihr hj hnj hri

/-- unlinking the operator again restores the array: `x.right := tlv`, `tlv.parent := x` -/
theorem undo_stop {nodes nodes' : Array ParseNode} {n tlv x : Nat} {nx nt : ParseNode} (hne : tlv ≠ x)
    (hx : nodes[x]? = some nx) (hxr : nx.right = some tlv) (ht : nodes[tlv]? = some nt) (htp : nt.parent = some x)
    (hg : ∀ j, nodes'[j]? = if j = tlv then (nodes[j]?).map (setParent (some n))
                      else if j = x then (nodes[j]?).map (setRight (some n)) else nodes[j]?) :
    ∀ j, (if j = x then (nodes'[j]?).map (setRight (some tlv))
          else if j = tlv then (nodes'[j]?).map (setParent (some x)) else nodes'[j]?) = nodes[j]? := by
  intro j
  by_cases hjx : j = x
  · subst hjx
    rw [if_pos rfl, hg j, if_neg (fun e => hne e.symm), if_pos rfl, hx]
    simp only [Option.map_some, Option.some.injEq]
    cases nx; simp_all [setRight]
  · rw [if_neg hjx]
    by_cases hjt : j = tlv
    · subst hjt
      rw [if_pos rfl, hg j, if_pos rfl, ht]
      simp only [Option.map_some, Option.some.injEq]
      cases nt; simp_all [setParent]
    · rw [if_neg hjt, hg j, if_neg hjt, if_neg hjx]

/-- definition of the last node (`Drop` if there is none) -/
def aboveDef (st : PState) : Definition := ((st.nodes[st.nodes.size - 1]?).map (·.definition)).getD .drop

/-- open operand position with `under_group = ug`; the node on top may be the open bracket itself -/
structure OpenB (st : PState) (ug : Option Nat) : Prop where
  cfl : st.checkForList = false
  nnl : st.nextLastLeft = none
  hug : underGroupOf st = .ok ug
  link : st.nextParent = st.lastLeft
  adj : adjustLastLeft st ug = .ok st
  top : (st.lastLeft = none ∧ st.nodes = #[]) ∨
    (∃ nd q, 0 < st.nodes.size ∧ st.lastLeft = some (st.nodes.size - 1) ∧ st.nodes[st.nodes.size - 1]? = some nd ∧
      priority nd.definition = some q ∧ nd.right = some st.nodes.size ∧ nd.definition.isValueLike = false ∧
      ((10 < q ∧ nd.definition.isGroupLike = false) ∨
        (nd.definition.isGroupLike = true ∧ ug = some (st.nodes.size - 1))))
  prev : st.previousSecondDef = .none ∨ st.previousSecondDef = .binaryLeftToRight ∨
    st.previousSecondDef = .binaryRightToLeft ∨ st.previousSecondDef = .unaryPrefix ∨
    st.previousSecondDef = .startGrouping ∨ st.previousSecondDef = .startSideEffect ∨
    st.previousSecondDef = .whitespace ∨ st.previousSecondDef = .annotation ∨
    st.previousSecondDef = .optionalBinaryLeftToRight ∨ st.previousSecondDef = .subexpression

/-- in an open operand position a prefix operator, an opening bracket or a value may follow: a part of the composition
    table, evaluated -/
theorem OpenB.comp {st : PState} {ug : Option Nat} (h : OpenB st ug) (x : SecDef)
    (hx : x ∈ [SecDef.unaryPrefix, .startGrouping, .value, .identifier]) :
    checkComposition st.previousSecondDef x false = true := by
  have htab : ∀ s ∈ [SecDef.none, .binaryLeftToRight, .binaryRightToLeft, .unaryPrefix, .startGrouping, .startSideEffect,
      .whitespace, .annotation, .optionalBinaryLeftToRight, .subexpression],
      ∀ y ∈ [SecDef.unaryPrefix, .startGrouping, .value, .identifier], checkComposition s y false = true := by
    decide +kernel
  exact htab _ (by rcases h.prev with h | h | h | h | h | h | h | h | h | h <;> rw [h] <;> decide) x hx

theorem OpenB.comp_prefix {st : PState} {ug : Option Nat} (h : OpenB st ug) :
    checkComposition st.previousSecondDef .unaryPrefix false = true := h.comp _ (by decide)

theorem OpenB.comp_open {st : PState} {ug : Option Nat} (h : OpenB st ug) :
    checkComposition st.previousSecondDef .startGrouping false = true := h.comp _ (by decide)

theorem OpenB.comp_atom {st : PState} {ug : Option Nat} (h : OpenB st ug) (s : SecDef) (hs : s = .value ∨ s = .identifier) :
    checkComposition st.previousSecondDef s false = true := by
  rcases hs with rfl | rfl <;> exact h.comp _ (by decide)

theorem OpenB.stepP {st : PState} {ug : Option Nat} (h : OpenB st ug) (p : PToken) (hp : isPrefixTok p = true) :
    OpenB (stepP st p) ug := by
  have hs : (getDefinition p.type).2 = .unaryPrefix := by unfold isPrefixTok at hp; simpa using hp
  obtain ⟨q, hq, hq10, _, _, _, f3, f4⟩ := prefix_def_facts p.type hs
  have hn : (Garnish.Spec.stepP st p).nodes[st.nodes.size]? =
      some ⟨(getDefinition p.type).1, .unaryPrefix, st.nextParent, none, some (st.nodes.size + 1), p⟩ := by
    simp [Garnish.Spec.stepP]
  refine ⟨h.cfl, h.nnl, h.hug, rfl, ?_, Or.inr ?_, Or.inr (Or.inr (Or.inr (Or.inl rfl)))⟩
  · exact adjust_noop _ _ (Or.inr ⟨_, _, rfl, hn, Or.inl (not_sideEffect_of_not_groupLike f4)⟩)
  · refine ⟨⟨(getDefinition p.type).1, .unaryPrefix, st.nextParent, none, some (st.nodes.size + 1), p⟩, q, ?_, ?_, ?_, hq,
      ?_, f3, Or.inl ⟨hq10, f4⟩⟩
    · simp [Garnish.Spec.stepP]
    · simp [Garnish.Spec.stepP]
    · simp [Garnish.Spec.stepP]
    · simp [Garnish.Spec.stepP]

theorem isEmpty_append_of_ne {α : Type} (l : List α) {r : List α} (h : r ≠ []) : (l ++ r).isEmpty = false := by
  cases l with
  | cons => rfl
  | nil => cases r with
    | cons => rfl
    | nil => exact absurd rfl h

/-- the walk stops at the node `m` it starts from: an operator that binds looser, or the open bracket -/
theorem walk_top_stop {nodes : Array ParseNode} {ug : Option Nat} {m qo q : Nat} {on : ParseNode} (rtl : Bool)
    (hm : nodes[m]? = some on) (hqo : priority on.definition = some qo)
    (hst : q < qo ∨ (on.definition.isGroupLike = true ∧ ug = some m)) :
    walkLoop nodes q ug rtl (nodes.size + 1) 0 (some m) (some m) = .ok (some m, some m) := by
  unfold walkLoop
  rcases hst with hlt | ⟨hg, hu⟩
  · simp [hm, hqo, hlt]
  · subst hu; simp [hm, hqo, hg]

/-- a new node directly after the node `m` it stops at (whose `right` already points to the new node's id) -/
theorem parseToken_top {ug : Option Nat} {m q : Nat} {d : Definition} {right : Option Nat} {nodes : Array ParseNode}
    {rtl : Bool} {on : ParseNode} (hq : priority d = some q) (hm : nodes[m]? = some on)
    (hw : walkLoop nodes q ug rtl (nodes.size + 1) 0 (some m) (some m) = .ok (some m, some m))
    (hor : on.right = some nodes.size) :
    parseToken nodes.size d (some m) right nodes ug rtl = .ok (nodes, ⟨d, some m, none, right⟩) := by
  have hms : m < nodes.size := (Array.getElem?_eq_some_iff.mp hm).1
  obtain ⟨n2, h2⟩ := modifyNode?_isSome (fun p => { p with right := some nodes.size }) hms
  have s2 := modifyNode?_size h2
  have g2 := modifyNode?_get h2
  have hn2 : n2 = nodes := by
    apply Array.ext_getElem?
    intro j
    rw [g2 j]
    by_cases hj : j = m
    · subst hj
      simp only [if_true, hm, Option.map_some]
      congr 1
      cases on
      simp_all
    · simp [hj]
  unfold parseToken
  rw [hq]
  simp only [hw, Outcome.bind, beq_self_eq_true, if_true, hm, h2, hor]
  rw [modifyNode?_none (by omega), hn2]

/-- the very first token -/
theorem parseToken_empty {ug : Option Nat} {d : Definition} {q : Nat} {right : Option Nat} {rtl : Bool}
    (hq : priority d = some q) :
    parseToken 0 d none right #[] ug rtl = .ok (#[], ⟨d, none, none, right⟩) := by
  unfold parseToken
  rw [hq]
  unfold walkLoop
  simp [Outcome.bind]

/-- the value token that closes an operand (general `under_group`; also as the very first token) -/
theorem value_stepB (st : PState) (ug : Option Nat) (a : PToken) (il : Bool) (h : OpenB st ug) (ha : isAtom10 a = true) :
    ∃ st2, step st a il = .ok st2 ∧
      st2.nodes = st.nodes.push ⟨underDef (aboveDef st) (getDefinition a.type).1, (getDefinition a.type).2, st.lastLeft,
        none, none, a⟩ ∧
      st2.lastLeft = some st.nodes.size ∧ st2.checkForList = false ∧ st2.nextLastLeft = none ∧
      st2.groupStack = st.groupStack ∧ st2.currentGroup = st.currentGroup ∧
      (st2.previousSecondDef = .value ∨ st2.previousSecondDef = .identifier) := by
  obtain ⟨hsa, hqa⟩ := atom10_facts ha
  obtain ⟨_, a2, _⟩ := prio10_facts hqa
  have hpt : parseToken st.nodes.size (getDefinition a.type).1 st.lastLeft none st.nodes ug false =
      .ok (st.nodes, ⟨(getDefinition a.type).1, st.lastLeft, none, none⟩) := by
    rcases h.top with ⟨h1, h2⟩ | ⟨nd, q, _, hl, hnd, hq, hr, _, hst⟩
    · rw [h1, h2]; exact parseToken_empty hqa
    · rw [hl]
      exact parseToken_top hqa hnd (walk_top_stop false hnd hq (hst.imp (·.1) id)) hr
  obtain ⟨st2, h2⟩ := step_atom_okG st a il hsa h.cfl h.hug h.adj (h.comp_atom _ hsa) ⟨_, _, hpt⟩
  obtain ⟨nodes'', info2, hpt2, hn2, hl2, hc2, hnl2, hgs2, hcg2, hp2⟩ :=
    step_atom_specG st st2 a il hsa a2 h.cfl h.nnl h.hug h.adj h2
  rw [hpt] at hpt2
  injection hpt2 with hpt2; injection hpt2 with e1 e2; subst e1; subst e2
  have hrd : renameDef (getDefinition a.type).1 st.lastLeft st.nodes = underDef (aboveDef st) (getDefinition a.type).1 := by
    unfold renameDef underDef aboveDef
    rcases h.top with ⟨h1, h2⟩ | ⟨nd, q, _, hl, hnd, _⟩
    · rw [h1, h2]; cases (getDefinition a.type).1 <;> simp
    · rw [hl]; cases (getDefinition a.type).1 <;> simp [hnd]
  refine ⟨st2, h2, ?_, hl2, hc2, hnl2, hgs2, hcg2, by rw [hp2]; exact hsa⟩
  rw [hn2, hrd]

theorem OpenB.lastLeft_eq {st : PState} {ug : Option Nat} (h : OpenB st ug) (hpos : 0 < st.nodes.size) :
    st.lastLeft = some (st.nodes.size - 1) := by
  rcases h.top with ⟨_, h2⟩ | ⟨nd, q, _, hl, _⟩
  · rw [h2] at hpos; simp at hpos
  · exact hl

/-- a trivia token in an open operand position (not at the very start): only `previous_second_def` and `last_token` change -/
theorem step_triviaB (st : PState) (ug : Option Nat) (w : PToken) (il : Bool) (hw : isTriviaTok w = true)
    (h : OpenB st ug) (hpos : 0 < st.nodes.size) :
    step st w il = .ok { st with previousSecondDef := (getDefinition w.type).2, lastToken := w } := by
  rcases h.top with ⟨_, h2⟩ | ⟨n, q, _, hl, hn, _, _, hv, hst⟩
  · rw [h2] at hpos; simp at hpos
  rw [step_trivia_node w il hw h.hug h.adj h.nnl hl hn]
  have : listAfter n (st.nodes.size - 1) ug = false := by
    unfold listAfter
    rcases hst with ⟨_, hg⟩ | ⟨_, hg⟩ <;> simp [hv, hg]
  simp [this]

theorem OpenB.noop_data {st : PState} {ug : Option Nat} (h : OpenB st ug) :
    st.lastLeft = none ∨ ∃ i nd, st.lastLeft = some i ∧ st.nodes[i]? = some nd ∧
      ((nd.definition == Definition.sideEffect) = false ∨ st.lastLeft = ug) := by
  rcases h.top with ⟨h1, _⟩ | ⟨nd, q, _, hl, hnd, _, _, _, hst⟩
  · exact Or.inl h1
  · refine Or.inr ⟨_, nd, hl, hnd, ?_⟩
    rcases hst with ⟨_, hg⟩ | ⟨_, hg⟩
    · exact Or.inl (not_sideEffect_of_not_groupLike hg)
    · exact Or.inr (by rw [hl, hg])

theorem OpenB.setPrev {st : PState} {ug : Option Nat} (h : OpenB st ug) (sd : SecDef)
    (hsd : sd = .whitespace ∨ sd = .annotation ∨ sd = .subexpression) (w : PToken) :
    OpenB { st with previousSecondDef := sd, lastToken := w } ug := by
  refine ⟨h.cfl, h.nnl, h.hug, h.link, adjust_noop _ ug h.noop_data, h.top, ?_⟩
  rcases hsd with h | h | h
  · exact Or.inr (Or.inr (Or.inr (Or.inr (Or.inr (Or.inr (Or.inl h))))))
  · exact Or.inr (Or.inr (Or.inr (Or.inr (Or.inr (Or.inr (Or.inr (Or.inl h)))))))
  · exact Or.inr (Or.inr (Or.inr (Or.inr (Or.inr (Or.inr (Or.inr (Or.inr (Or.inr h))))))))

theorem OpenB.trivia {st : PState} {ug : Option Nat} (h : OpenB st ug) (w : PToken) (hw : isTriviaTok w = true) :
    OpenB { st with previousSecondDef := (getDefinition w.type).2, lastToken := w } ug :=
  h.setPrev _ ((trivia_secdef hw).imp_right Or.inl) w

/-- a run of trivia tokens in an open operand position; `previous_second_def` afterwards is that of the last token -/
theorem trivia_runB_prev : ∀ (ws : List PToken) (st : PState) (ug : Option Nat) (rest : List PToken), OpenB st ug →
    0 < st.nodes.size → (∀ w ∈ ws, isTriviaTok w = true) →
    ∃ st', loop st (ws ++ rest) = loop st' rest ∧ OpenB st' ug ∧ st'.nodes = st.nodes ∧ st'.nextParent = st.nextParent ∧
      st'.lastLeft = st.lastLeft ∧ st'.groupStack = st.groupStack ∧ st'.currentGroup = st.currentGroup ∧
      (st'.previousSecondDef = st.previousSecondDef ∨ st'.previousSecondDef = .whitespace ∨
        st'.previousSecondDef = .annotation)
  | [], st, _, _, h, _, _ => ⟨st, rfl, h, rfl, rfl, rfl, rfl, rfl, Or.inl rfl⟩
  | w :: ws, st, ug, rest, h, hpos, hws => by
    have hw := hws w (List.mem_cons_self ..)
    obtain ⟨st', h1, h2, h3, h4, h5, h6, h7, h8⟩ :=
      trivia_runB_prev ws { st with previousSecondDef := (getDefinition w.type).2, lastToken := w } ug rest (h.trivia w hw)
        hpos (fun x hx => hws x (List.mem_cons_of_mem _ hx))
    refine ⟨st', ?_, h2, h3, h4, h5, h6, h7, ?_⟩
    · simp only [List.cons_append, loop]
      rw [step_triviaB st ug w _ hw h hpos]
      simp only [Outcome.bind]
      exact h1
    · rcases h8 with h8 | h8 | h8
      · rw [h8]; exact Or.inr (trivia_secdef hw)
      · exact Or.inr (Or.inl h8)
      · exact Or.inr (Or.inr h8)

theorem trivia_runB (ws : List PToken) (st : PState) (ug : Option Nat) (rest : List PToken) (h : OpenB st ug)
    (hpos : 0 < st.nodes.size) (hws : ∀ w ∈ ws, isTriviaTok w = true) (_ : rest ≠ []) :
    ∃ st', loop st (ws ++ rest) = loop st' rest ∧ OpenB st' ug ∧ st'.nodes = st.nodes ∧ st'.nextParent = st.nextParent ∧
      st'.lastLeft = st.lastLeft ∧ st'.groupStack = st.groupStack ∧ st'.currentGroup = st.currentGroup := by
  obtain ⟨st', h1, h2, h3, h4, h5, h6, h7, _⟩ := trivia_runB_prev ws st ug rest h hpos hws
  exact ⟨st', h1, h2, h3, h4, h5, h6, h7⟩

def isOpenTok (t : PToken) : Bool := t.type == .startGroup || t.type == .startExpression

/-- the state after an opening bracket in operand position -/
def stepO (st : PState) (o : PToken) : PState :=
  { st with nodes := st.nodes.push ⟨(getDefinition o.type).1, .startGrouping, st.nextParent, none, some (st.nodes.size + 1), o⟩,
            currentGroup := some st.groupStack.size, groupStack := st.groupStack.push (st.nodes.size, false),
            nextParent := some st.nodes.size, lastLeft := some st.nodes.size, previousSecondDef := .startGrouping,
            lastToken := o }

theorem open_def_facts {o : PToken} (ho : isOpenTok o = true) :
    (getDefinition o.type).2 = .startGrouping ∧
      ((getDefinition o.type).1 = .group ∨ (getDefinition o.type).1 = .nestedExpression) := by
  unfold isOpenTok at ho
  simp only [Bool.or_eq_true, beq_iff_eq] at ho
  rcases ho with h | h <;> rw [h] <;> simp [getDefinition]

/-- **an opening bracket in operand position** (list flag clear, not the last token): the bracket node is pushed as the
    right child of `next_parent` with a dangling `right`, and becomes `next_parent` / `last_left` / the current group -/
theorem step_openB (st : PState) (ug : Option Nat) (o : PToken) (ho : isOpenTok o = true) (h : OpenB st ug) :
    step st o false = .ok (stepO st o) := by
  obtain ⟨hs, hd⟩ := open_def_facts ho
  have hc := h.cfl
  have hcomp := h.comp_open
  unfold step stepO
  simp only [h.hug, h.adj, Outcome.bind]
  generalize getDefinition o.type = ds at hs hd ⊢
  obtain ⟨d, s⟩ := ds
  simp only at hs hd ⊢
  subst hs
  rcases hd with hd | hd <;> subst hd <;>
  · simp only [hc, hcomp, Bool.not_true, Bool.false_eq_true, if_false, dispatch, armStartGrouping, pushNode, h.nnl]
    simp [Array.size_push]

theorem OpenB.stepO {st : PState} {ug : Option Nat} (h : OpenB st ug) (o : PToken) (ho : isOpenTok o = true) :
    OpenB (stepO st o) (some st.nodes.size) := by
  obtain ⟨hs, hd⟩ := open_def_facts ho
  have hn : (Garnish.Spec.stepO st o).nodes[st.nodes.size]? =
      some ⟨(getDefinition o.type).1, .startGrouping, st.nextParent, none, some (st.nodes.size + 1), o⟩ := by
    simp [Garnish.Spec.stepO]
  have hgl : (getDefinition o.type).1.isGroupLike = true := by rcases hd with hd | hd <;> rw [hd] <;> rfl
  have hvl : (getDefinition o.type).1.isValueLike = false := by rcases hd with hd | hd <;> rw [hd] <;> rfl
  have hse : ((getDefinition o.type).1 == Definition.sideEffect) = false := by rcases hd with hd | hd <;> rw [hd] <;> rfl
  have hpr : priority (getDefinition o.type).1 = some 20 := by rcases hd with hd | hd <;> rw [hd] <;> rfl
  refine ⟨h.cfl, h.nnl, ?_, rfl, ?_, Or.inr ?_, Or.inr (Or.inr (Or.inr (Or.inr (Or.inl rfl))))⟩
  · simp [underGroupOf, Garnish.Spec.stepO]
  · exact adjust_noop _ _ (Or.inr ⟨_, _, rfl, hn, Or.inl hse⟩)
  · refine ⟨⟨(getDefinition o.type).1, .startGrouping, st.nextParent, none, some (st.nodes.size + 1), o⟩, 20, ?_, ?_, ?_,
      hpr, ?_, hvl, Or.inr ⟨hgl, ?_⟩⟩
    · simp [Garnish.Spec.stepO]
    · simp [Garnish.Spec.stepO]
    · simp [Garnish.Spec.stepO]
    · simp [Garnish.Spec.stepO]
    · simp [Garnish.Spec.stepO]

end Garnish.Spec
