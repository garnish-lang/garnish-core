/-
Separators (blank-line `Subexpression` tokens and `;`).  What the Subexpression arm does depends on the innermost open
bracket: inside a `( )` group a separator is whitespace (`setup_space_list_check(.., under_group)`); elsewhere it is
dropped when `last_left` is itself a separator or the `{` that opened the frame, and is otherwise a binary operator of
priority 1000 / 990 (`sepState`, `sep_stepU`).  After a separator inside a group `previous_second_def` is `Subexpression`,
which `UInv` does not allow (a binary operator may not follow): `FInv` is `UInv` up to `previous_second_def`, closed under
trivia and — inside a group — separator tokens.  The closing bracket directly after a blank-line separator
(`step_close_unlink`: the EndGrouping arm unlinks the separator node — its left operand goes back to where the separator
was inserted; the node stays in the array, unreachable), and the reference parser's separator steps.
-/
import Garnish.Lemmas.ParserBExpr

namespace Garnish.Spec
open Garnish Garnish.Gen Garnish.Model.Parser

theorem sep_def_facts (tt : TokenType) (h : (getDefinition tt).2 = SecDef.subexpression) :
    ∃ q, priority (getDefinition tt).1 = some q ∧ 20 < q ∧ ((getDefinition tt).1 != Definition.drop) = true ∧
      (getDefinition tt).1 ≠ Definition.identifier ∧ isBracketDef (getDefinition tt).1 = false ∧
      (getDefinition tt).1.isValueLike = false ∧ (getDefinition tt).1.isGroupLike = false := by
  cases tt <;> cases h <;> decide

theorem group_facts {st : PState} {ug : Option Nat} {inG : Bool} (hug : underGroupOf st = .ok ug)
    (hk : KindOK st ug inG) :
    (st.currentGroup = none ∧ ug = none ∧ inG = false) ∨
      (∃ c g fl G, st.currentGroup = some c ∧ st.groupStack[c]? = some (g, fl) ∧ ug = some g ∧
        st.nodes[g]? = some G ∧ (G.definition == Definition.group) = inG) := by
  unfold underGroupOf at hug
  cases hcg : st.currentGroup with
  | none =>
    rw [hcg] at hug
    injection hug with hug
    subst hug
    exact Or.inl ⟨rfl, rfl, hk⟩
  | some c =>
    rw [hcg] at hug
    simp only at hug
    cases hgs : st.groupStack[c]? with
    | none => rw [hgs] at hug; cases hug
    | some gf =>
      obtain ⟨g, fl⟩ := gf
      rw [hgs] at hug
      injection hug with hug
      subst hug
      obtain ⟨G, hG, hd⟩ := hk
      exact Or.inr ⟨c, g, fl, G, rfl, hgs, rfl, hG, hd⟩

/-- inside a group a separator is whitespace -/
theorem armSub_group {st : PState} {ug : Option Nat} (hug : underGroupOf st = .ok ug) (hk : KindOK st ug true)
    (id : Nat) (d : Definition) (ar : Option Nat) :
    armSubexpression st id d ar ug = setupSpaceListCheck st ug := by
  rcases group_facts hug hk with ⟨_, _, h⟩ | ⟨c, g, fl, G, h1, h2, _, h4, h5⟩
  · cases h
  · have hd : G.definition = .group := by simpa using h5
    unfold armSubexpression
    simp [h1, h2, h4, hd, Outcome.bind]

theorem armSub_other {st : PState} {ug : Option Nat} (hug : underGroupOf st = .ok ug) (hk : KindOK st ug false)
    (id : Nat) (d : Definition) (ar : Option Nat) (b : Nat) (nb : ParseNode) (hl : st.lastLeft = some b)
    (hb : st.nodes[b]? = some nb) (hopt : nb.definition.isOptional = false ∨ nb.right = none) :
    ∃ gd gi, ((ug = none ∧ gd = .drop) ∨ ug = some gi) ∧
      (∀ g, ug = some g → ∃ G, st.nodes[g]? = some G ∧ G.definition = gd) ∧
      armSubexpression st id d ar ug =
        (if (nb.secondaryDefinition == .subexpression || (gd == .nestedExpression && gi == b)) then
          .ok ({ st with nextLastLeft := st.lastLeft }, ⟨.drop, none, none, none⟩)
        else parseTokenLeftToRight { st with nextParent := some id } id d st.lastLeft ar ug) := by
  have hsame : modifyNode? st.nodes b
      (fun _ => if nb.definition.isOptional = true then { nb with right := none } else nb) = some st.nodes := by
    have e : (if nb.definition.isOptional = true then { nb with right := none } else nb) = nb := by
      rcases hopt with h | h
      · simp [h]
      · split
        · cases nb; simp_all
        · rfl
    rw [e]; exact modifyNode?_same hb
  have hnb : (if nb.definition.isOptional = true then { nb with right := none } else nb).secondaryDefinition =
      nb.secondaryDefinition := by split <;> rfl
  rcases group_facts hug hk with ⟨h1, h2, _⟩ | ⟨c, g, fl, G, h1, h2, h3, h4, h5⟩
  · refine ⟨.drop, 0, Or.inl ⟨h2, rfl⟩, ?_, ?_⟩
    · intro g hg; rw [h2] at hg; cases hg
    · unfold armSubexpression
      simp only [h1, Outcome.bind, hl, hb, hsame, hnb]
      have : (Definition.drop == Definition.group) = false := rfl
      simp only [this, Bool.false_eq_true, if_false]
  · have hd : (G.definition == Definition.group) = false := h5
    refine ⟨G.definition, g, Or.inr h3, ?_, ?_⟩
    · intro g' hg'; rw [h3] at hg'; injection hg' with hg'; subst hg'; exact ⟨G, h4, rfl⟩
    · unfold armSubexpression
      simp only [h1, h2, h4, Outcome.bind, hl, hb, hsame, hnb, hd, Bool.false_eq_true, if_false]

/-- the state after a separator that is processed as an operator -/
def sepState (st : PState) (t : PToken) (nodes' : Array ParseNode) (info : Info) : PState :=
  { st with nodes := nodes'.push ⟨(getDefinition t.type).1, .subexpression, info.parent, info.left, info.right, t⟩,
            nextParent := some st.nodes.size, lastLeft := some st.nodes.size, checkForList := false,
            previousSecondDef := .subexpression, lastToken := t }

theorem UInv.bottom_node {st : PState} {ug p : Option Nat} {base : Nat} {E : Tree} {re cb : Nat}
    (h : UInv st ug p base E re cb) :
    ∃ b nb, st.lastLeft = some b ∧ st.nodes[b]? = some nb ∧ base ≤ b ∧
      (nb.definition.isOptional = false ∨ nb.right = none) ∧ (nb.secondaryDefinition == SecDef.subexpression) = false := by
  cases h.bot with
  | plain hl hb hlast hsec =>
    obtain ⟨nd, hnd, hr, _⟩ := hb
    have hm : st.nodes.size - 1 ∈ E.inorder := List.mem_of_getLast? hlast
    exact ⟨_, nd, hl, hnd, (h.n.mem _ hm).1, Or.inr hr, hsec nd hnd⟩
  | closed cb G _ hl hG hbr hsp hsec =>
    have hm := onSpine_mem cb E hsp
    exact ⟨cb, G, hl, hG, (h.n.mem _ hm).1, Or.inl (bracket_facts hbr).2.2.2.2.1, hsec⟩

theorem UInv.sep_not_dropped {st : PState} {ug p : Option Nat} {base : Nat} {E : Tree} {re cb : Nat}
    (hinv : UInv st ug p base E re cb) {b : Nat} {nb : ParseNode} (hbb : base ≤ b)
    (hsec : (nb.secondaryDefinition == SecDef.subexpression) = false) {gd : Definition} {gi : Nat}
    (hgi : (ug = none ∧ gd = .drop) ∨ ug = some gi) :
    (nb.secondaryDefinition == SecDef.subexpression || (gd == Definition.nestedExpression && gi == b)) = false := by
  rw [hsec, Bool.false_or, Bool.and_eq_false_iff]
  rcases hgi with ⟨_, h⟩ | h
  · left; rw [h]; rfl
  · right
    rw [beq_eq_false_iff_ne]
    intro e
    subst e
    cases hinv.n.frame with
    | top re => cases h
    | bracket g re' G pg _ _ _ _ => injection h with h; omega

/-- **a separator after an operand, outside of groups**: an operator step -/
theorem step_sep_op {st : PState} {ug p : Option Nat} {base : Nat} {E : Tree} {re cb : Nat}
    (hinv : UInv st ug p base E re cb) (hk : KindOK st ug false) (t : PToken) (ht : isSepTok t = true)
    {nodes' : Array ParseNode} {info : Info}
    (hpt : parseToken st.nodes.size (getDefinition t.type).1 st.lastLeft (some (st.nodes.size + 1)) st.nodes ug false =
      .ok (nodes', info)) :
    step st t false = .ok (sepState st t nodes' info) := by
  have hs : (getDefinition t.type).2 = .subexpression := by unfold isSepTok at ht; simpa using ht
  obtain ⟨q, hq, _, f1, f2, _, _, _⟩ := sep_def_facts t.type hs
  obtain ⟨hsz, hdef⟩ := parseToken_size_def hpt
  obtain ⟨b, nb, hl, hb, hbb, hopt, hsec⟩ := hinv.bottom_node
  obtain ⟨gd, gi, hgi, _, harm⟩ := armSub_other (st := { st with previousSecondDef := SecDef.subexpression })
    hinv.hug hk st.nodes.size (getDefinition t.type).1 (some (st.nodes.size + 1)) b nb hl hb hopt
  have hnot := hinv.sep_not_dropped hbb hsec hgi
  rw [step_eq st t false hinv.hug hinv.adjust, hs, if_pos (hinv.comp .subexpression (by decide))]
  simp only [dispatch, harm, hnot, Bool.false_eq_true, if_false, parseTokenLeftToRight, parseTokenSt, hpt, Outcome.bind]
  rw [stepEnd_push _ _ _ _ _ (by rw [hdef]; exact f1) (by exact hinv.nnl)]
  simp only [hdef, renameDef_of_ne f2, sepState]

theorem prio_le_1000 {d : Definition} {q : Nat} (h : priority d = some q) : q ≤ 1000 := by
  cases d <;> cases h <;> decide

theorem prioAt_le_1000 (nodes : Array ParseNode) (j : Nat) : prioAt nodes j ≤ 1000 := by
  unfold prioAt
  split
  · rename_i n _
    cases hp : priority n.definition with
    | none => simp
    | some q => simpa using prio_le_1000 hp
  · omega

/-- **a separator after an operand, outside of groups, and what follows** (the analogue of `bin_stepU`); for a blank-line
    separator also how to unlink it again -/
theorem sep_stepU {st : PState} {ug p : Option Nat} {base : Nat} {E : Tree} {re cb : Nat}
    (hinv : UInv st ug p base E re cb) (hk : KindOK st ug false) (t : PToken) (ht : isSepTok t = true) :
    ∃ (q : Nat) (nodes' : Array ParseNode) (info : Info),
      priority (getDefinition t.type).1 = some q ∧ step st t false = .ok (sepState st t nodes' info) ∧
      info.right = some (st.nodes.size + 1) ∧ Inserted st.nodes p base (insU st cb q false E) nodes' info ∧
      OpPos st ug p base E cb q false (getDefinition t.type).1 t.col (sepState st t nodes' info) ∧
      ((getDefinition t.type).1 = .subexpression → (∀ g, p = some g → info.parent.isSome = true) ∧
        ∀ P, info.parent = some P →
        ∃ l, info.left = some l ∧ l < st.nodes.size ∧ P < st.nodes.size ∧ l ≠ P ∧
          ∀ j, (if j = P then (nodes'[j]?).map (setRight (some l))
                else if j = l then (nodes'[j]?).map (setParent (some P)) else nodes'[j]?) = st.nodes[j]?) := by
  have hs : (getDefinition t.type).2 = .subexpression := by unfold isSepTok at ht; simpa using ht
  obtain ⟨q, hq, hq20, _, _, hnb, f3, f4⟩ := sep_def_facts t.type hs
  obtain ⟨nodes', info, hpt, hir, hI, hundo⟩ :=
    core_effectU hinv (getDefinition t.type).1 q false (some (st.nodes.size + 1)) hq hq20
  have hsz' := hI.size
  have hstep := step_sep_op hinv hk t ht hpt
  have hS : (sepState st t nodes' info).nodes[st.nodes.size]? =
      some ⟨(getDefinition t.type).1, .subexpression, info.parent, info.left, info.right, t⟩ := by
    simp only [sepState]; rw [Array.getElem?_push, if_pos hsz'.symm]
  have hsS : (sepState st t nodes' info).nodes.size = st.nodes.size + 1 := by simp [sepState, hsz']
  have hO : OpenB (sepState st t nodes' info) ug := by
    refine ⟨rfl, hinv.nnl, hinv.hug, rfl,
      adjust_noop _ _ (Or.inr ⟨_, _, rfl, hS, Or.inl (not_sideEffect_of_not_groupLike f4)⟩), Or.inr ?_,
      Or.inr (Or.inr (Or.inr (Or.inr (Or.inr (Or.inr (Or.inr (Or.inr (Or.inr rfl))))))))⟩
    exact ⟨_, q, by omega, by rw [hsS]; rfl, by rw [hsS, Nat.add_sub_cancel]; exact hS, hq, by rw [hsS]; exact hir, f3,
      Or.inl ⟨by omega, f4⟩⟩
  have hn1 : (sepState st t nodes' info).nodes =
      nodes'.push ⟨(getDefinition t.type).1, .subexpression, info.parent, info.left, some (st.nodes.size + 1), t⟩ := by
    simp only [sepState, hir]
  refine ⟨q, nodes', info, hq, hstep, hir, hI,
    operand_closeU hinv (getDefinition t.type).1 .subexpression t q false hq hnb nodes' info hI _ hn1 hO rfl rfl, ?_⟩
  intro hd
  apply hundo
  intro _
  have hq1000 : q = 1000 := by rw [hd] at hq; injection hq with hq; exact hq.symm
  rw [hq1000]
  have := prioAt_le_1000 st.nodes (st.nodes.size - 1)
  simp only [stops, Bool.and_false, Bool.or_false, decide_eq_false_iff_not]
  omega

/-- the node on top allows a separator to be skipped: the open `(` (whitespace), the open `{` or a separator node (dropped) -/
def SkipTop (st : PState) (ug : Option Nat) (inG : Bool) : Prop :=
  ∃ nd, st.nodes[st.nodes.size - 1]? = some nd ∧ nd.definition.isOptional = false ∧
    ((ug = some (st.nodes.size - 1) ∧ (inG = true ∨ nd.definition = .nestedExpression)) ∨
      (inG = false ∧ (nd.secondaryDefinition == SecDef.subexpression) = true))

def FillPrev (st : PState) : Prop :=
  st.previousSecondDef = .startGrouping ∨ st.previousSecondDef = .subexpression ∨
    st.previousSecondDef = .whitespace ∨ st.previousSecondDef = .annotation

theorem FillPrev.comp {st : PState} (h : FillPrev st) : checkComposition st.previousSecondDef .subexpression false = true := by
  rcases h with h | h | h | h <;> rw [h] <;> rfl

/-- a separator directly after `(` / `{` or after another separator changes nothing but `previous_second_def` / `last_token` -/
theorem step_sep_skipB (st : PState) (ug : Option Nat) (inG : Bool) (t : PToken) (il : Bool) (ht : isSepTok t = true)
    (hO : OpenB st ug) (hk : KindOK st ug inG) (hpos : 0 < st.nodes.size) (htop : SkipTop st ug inG) (hfp : FillPrev st) :
    step st t il = .ok { st with previousSecondDef := .subexpression, lastToken := t } := by
  have hs : (getDefinition t.type).2 = .subexpression := by unfold isSepTok at ht; simpa using ht
  obtain ⟨nd, hnd, hopt, hcase⟩ := htop
  have hl := hO.lastLeft_eq hpos
  have hvl : nd.definition.isValueLike = false := by
    rcases hO.top with ⟨_, h2⟩ | ⟨nd', q, _, _, hnd', _, _, hv, _⟩
    · rw [h2] at hpos; simp at hpos
    · rw [hnd] at hnd'; injection hnd' with hnd'; rw [hnd']; exact hv
  have hcomp : checkComposition st.previousSecondDef .subexpression st.checkForList = true := by
    rw [hO.cfl]; exact hfp.comp
  rw [step_eq st t il hO.hug hO.adj, hs, if_pos hcomp]
  cases inG with
  | true =>
    have hug' : ug = some (st.nodes.size - 1) := by
      rcases hcase with ⟨h, _⟩ | ⟨h, _⟩
      · exact h
      · cases h
    have harm := armSub_group (st := { st with previousSecondDef := SecDef.subexpression }) hO.hug hk st.nodes.size
      (getDefinition t.type).1 (if il = true then none else some (st.nodes.size + 1))
    simp only [dispatch]
    rw [harm]
    simp only [setupSpaceListCheck, hl, hnd, hvl, hug', bne_self_eq_false, Bool.and_false, Bool.or_self,
      Outcome.bind, Bool.false_eq_true, if_false]
    rw [stepEnd_drop _ _ _ _ _ _ _ (st.nodes.size - 1) rfl]
    simp only [hO.nnl]
  | false =>
    obtain ⟨gd, gi, hgi, hgG, harm⟩ := armSub_other (st := { st with previousSecondDef := SecDef.subexpression })
      hO.hug hk st.nodes.size (getDefinition t.type).1 (if il = true then none else some (st.nodes.size + 1))
      (st.nodes.size - 1) nd hl hnd (Or.inl hopt)
    have hdrop : (nd.secondaryDefinition == SecDef.subexpression ||
        (gd == Definition.nestedExpression && gi == st.nodes.size - 1)) = true := by
      rcases hcase with ⟨h1, h2⟩ | ⟨_, h2⟩
      · rcases h2 with h2 | h2
        · cases h2
        · obtain ⟨G, hG, hGd⟩ := hgG _ h1
          have hG' : st.nodes[st.nodes.size - 1]? = some G := hG
          rw [hnd] at hG'; injection hG' with hG'
          rcases hgi with ⟨h, _⟩ | h
          · rw [h1] at h; cases h
          · rw [h1] at h; injection h with h
            rw [← hGd, ← hG', h2, ← h]; simp
      · rw [h2]; rfl
    simp only [dispatch]
    rw [harm]
    simp only [hdrop, if_true, Outcome.bind]
    rw [stepEnd_drop _ _ _ _ _ _ _ (st.nodes.size - 1) (by exact hl)]
    simp only [hO.nnl, hl]

def isFillTok (t : PToken) : Bool := isTriviaTok t || isSepTok t

theorem skip_runB (ug : Option Nat) (inG : Bool) : ∀ (ws : List PToken) (st : PState) (rest : List PToken),
    OpenB st ug → KindOK st ug inG → 0 < st.nodes.size → SkipTop st ug inG → FillPrev st →
    (∀ w ∈ ws, isFillTok w = true) →
    ∃ st', loop st (ws ++ rest) = loop st' rest ∧ OpenB st' ug ∧ st'.nodes = st.nodes ∧ st'.nextParent = st.nextParent ∧
      st'.lastLeft = st.lastLeft ∧ st'.groupStack = st.groupStack ∧ st'.currentGroup = st.currentGroup ∧ FillPrev st'
  | [], st, _, h, _, _, _, hfp, _ => ⟨st, rfl, h, rfl, rfl, rfl, rfl, rfl, hfp⟩
  | w :: ws, st, rest, h, hk, hpos, htop, hfp, hws => by
    have hw := hws w (List.mem_cons_self ..)
    unfold isFillTok at hw
    have hstep : ∃ sd, (sd = .whitespace ∨ sd = .annotation ∨ sd = .subexpression) ∧
        step st w (ws ++ rest).isEmpty = .ok { st with previousSecondDef := sd, lastToken := w } := by
      by_cases htr : isTriviaTok w = true
      · exact ⟨_, (trivia_secdef htr).elim Or.inl (fun h => Or.inr (Or.inl h)), step_triviaB st ug w _ htr h hpos⟩
      · have hsp : isSepTok w = true := by simpa [htr] using hw
        exact ⟨_, Or.inr (Or.inr rfl), step_sep_skipB st ug inG w _ hsp h hk hpos htop hfp⟩
    obtain ⟨sd, hsd, hstep⟩ := hstep
    have hfp' : FillPrev { st with previousSecondDef := sd, lastToken := w } := by
      rcases hsd with h | h | h
      · exact Or.inr (Or.inr (Or.inl h))
      · exact Or.inr (Or.inr (Or.inr h))
      · exact Or.inr (Or.inl h)
    obtain ⟨st', h1, h2, h3, h4, h5, h6, h7, h8⟩ :=
      skip_runB ug inG ws { st with previousSecondDef := sd, lastToken := w } rest (h.setPrev sd hsd w) hk hpos htop hfp'
        (fun x hx => hws x (List.mem_cons_of_mem _ hx))
    refine ⟨st', ?_, h2, h3, h4, h5, h6, h7, h8⟩
    simp only [List.cons_append, loop]
    rw [hstep]
    simp only [Outcome.bind]
    exact h1

theorem UInv.ready_cond {st : PState} {ug p : Option Nat} {base : Nat} {E : Tree} {re cb : Nat}
    (hinv : UInv st ug p base E re cb) (hr : Ready st) :
    ∃ i n, st.lastLeft = some i ∧ st.nodes[i]? = some n ∧
      (n.definition.isValueLike || (n.definition.isGroupLike && some i != ug)) = true := by
  obtain ⟨i, n, hl, hn, hc⟩ := hr
  refine ⟨i, n, hl, hn, ?_⟩
  rcases hc with hc | hc
  · simp [hc]
  · have hgl := (bracket_facts hc).2.1
    have hne : some i ≠ ug := by
      intro e
      subst e
      have hfr := hinv.n.frame
      cases hfr with
      | bracket g re' G pg _ _ _ _ =>
        -- `i` would be both the closed bracket inside the frame and the open bracket below it
        cases hb : hinv.bot with
        | plain hl' hb' _ _ =>
          obtain ⟨nd, hnd, _, hng⟩ := hb'
          rw [hl] at hl'; injection hl' with hl'
          rw [← hl', hn] at hnd; injection hnd with hnd
          rw [← hnd, hgl] at hng; cases hng
        | closed cb' G' _ hl' _ _ hsp _ =>
          rw [hl] at hl'; injection hl' with hl'
          have hm := onSpine_mem _ E hsp
          have := (hinv.n.mem _ hm).1
          omega
    simp [hgl, hne]

/-- a step looks at `previous_second_def` only through the composition check -/
theorem step_prev_indep (st : PState) (ug : Option Nat) (s' : SecDef) (t : PToken) (il : Bool)
    (hug : underGroupOf st = .ok ug) (hadj : adjustLastLeft st ug = .ok st)
    (hadj' : adjustLastLeft { st with previousSecondDef := s' } ug = .ok { st with previousSecondDef := s' })
    (hc : checkComposition st.previousSecondDef (getDefinition t.type).2 st.checkForList =
      checkComposition s' (getDefinition t.type).2 st.checkForList) :
    step st t il = step { st with previousSecondDef := s' } t il := by
  rw [step_eq st t il hug hadj, step_eq { st with previousSecondDef := s' } t il hug hadj', hc]

def normP (st : PState) : PState := { st with previousSecondDef := .whitespace }

/-- `UInv` up to `previous_second_def`, which may also be `Subexpression` -/
structure FInv (st : PState) (ug p : Option Nat) (base : Nat) (E : Tree) (re cb : Nat) : Prop where
  inv : UInv (normP st) ug p base E re cb
  prev : st.previousSecondDef = .value ∨ st.previousSecondDef = .identifier ∨ st.previousSecondDef = .unarySuffix ∨
    st.previousSecondDef = .endGrouping ∨ st.previousSecondDef = .whitespace ∨ st.previousSecondDef = .annotation ∨
    st.previousSecondDef = .subexpression

theorem bot_congr {st st' : PState} {E : Tree} {cb : Nat} (h : Bot st E cb) (hn : st'.nodes = st.nodes)
    (hl : st'.lastLeft = st.lastLeft) : Bot st' E cb := by
  cases h with
  | plain h1 h2 h3 h4 =>
    have : st.nodes.size = st'.nodes.size := by rw [hn]
    rw [this]
    exact .plain (by rw [hl, hn]; exact h1) (by rw [hn]; exact h2) (by rw [hn]; exact h3) (by rw [hn]; exact h4)
  | closed cb G h1 h2 h3 h4 h5 h6 =>
    exact .closed cb G (by rw [hn]; exact h1) (by rw [hl]; exact h2) (by rw [hn]; exact h3) h4 h5 h6

theorem UInv.toF {st : PState} {ug p : Option Nat} {base : Nat} {E : Tree} {re cb : Nat}
    (h : UInv st ug p base E re cb) : FInv st ug p base E re cb := by
  refine ⟨⟨h.n, h.nnl, h.hug, bot_congr h.bot rfl rfl, h.spine, Or.inr (Or.inr (Or.inr (Or.inr (Or.inl rfl))))⟩, ?_⟩
  rcases h.prev with h | h | h | h | h | h
  · exact Or.inl h
  · exact Or.inr (Or.inl h)
  · exact Or.inr (Or.inr (Or.inl h))
  · exact Or.inr (Or.inr (Or.inr (Or.inl h)))
  · exact Or.inr (Or.inr (Or.inr (Or.inr (Or.inl h))))
  · exact Or.inr (Or.inr (Or.inr (Or.inr (Or.inr (Or.inl h)))))

theorem FInv.adjust {st : PState} {ug p : Option Nat} {base : Nat} {E : Tree} {re cb : Nat}
    (h : FInv st ug p base E re cb) (s : SecDef) :
    adjustLastLeft { st with previousSecondDef := s } ug = .ok { st with previousSecondDef := s } := by
  obtain ⟨i, nd, h1, h2, h3⟩ := h.inv.bot.noop_data
  exact adjust_noop _ ug (Or.inr ⟨i, nd, h1, h2, Or.inl h3⟩)

theorem FInv.adjust' {st : PState} {ug p : Option Nat} {base : Nat} {E : Tree} {re cb : Nat}
    (h : FInv st ug p base E re cb) : adjustLastLeft st ug = .ok st :=
  h.adjust st.previousSecondDef

theorem FInv.hug {st : PState} {ug p : Option Nat} {base : Nat} {E : Tree} {re cb : Nat}
    (h : FInv st ug p base E re cb) : underGroupOf st = .ok ug := h.inv.hug

theorem FInv.comp_eq {st : PState} {ug p : Option Nat} {base : Nat} {E : Tree} {re cb : Nat}
    (h : FInv st ug p base E re cb) (x : SecDef)
    (hx : x = .whitespace ∨ x = .annotation ∨ x = .subexpression ∨ x = .endGrouping ∨ x = .endSideEffect) (c : Bool) :
    checkComposition st.previousSecondDef x c = checkComposition .whitespace x c := by
  -- a finite part of the composition table, evaluated
  have htab : ∀ s ∈ [SecDef.value, .identifier, .unarySuffix, .endGrouping, .whitespace, .annotation, .subexpression],
      ∀ y ∈ [SecDef.whitespace, .annotation, .subexpression, .endGrouping, .endSideEffect], ∀ b : Bool,
        checkComposition s y b = checkComposition .whitespace y b := by decide +kernel
  exact htab _ (by rcases h.prev with h | h | h | h | h | h | h <;> simp [h]) _
    (by rcases hx with rfl | rfl | rfl | rfl | rfl <;> simp) c

/-- a trivia token, or — inside a group — a separator, after an operand: only the list flag, `previous_second_def` and
    `last_token` change -/
theorem step_fillU {st : PState} {ug p : Option Nat} {base : Nat} {E : Tree} {re cb : Nat} {inG : Bool}
    (hinv : UInv st ug p base E re cb) (hk : KindOK st ug inG) (w : PToken) (il : Bool)
    (hw : isTriviaTok w = true ∨ (inG = true ∧ isSepTok w = true)) :
    ∃ c, step st w il =
        .ok { st with checkForList := c, previousSecondDef := (getDefinition w.type).2, lastToken := w } ∧
      (st.checkForList = true → c = true) ∧
      (Ready st → (w.type = .whitespace ∨ isSepTok w = true) → c = true) := by
  have hadj := hinv.adjust
  have hug := hinv.hug
  have hnl := hinv.nnl
  obtain ⟨i, n, hl, hn, _⟩ := hinv.bot.noop_data
  have hrc : Ready st → listAfter n i ug = true := by
    intro hr
    obtain ⟨i', n', hl', hn', hc⟩ := hinv.ready_cond hr
    rw [hl] at hl'; injection hl' with hl'; subst hl'
    rw [hn] at hn'; injection hn' with hn'; subst hn'
    exact hc
  rcases hw with hw | ⟨hg, hw⟩
  · refine ⟨_, step_trivia_node w il hw hug hadj hnl hl hn, fun h => by simp [h], fun hr hx => ?_⟩
    rcases hx with hx | hx
    · simp [hx, hrc hr]
    · -- a separator is no trivia token
      exfalso
      unfold isSepTok at hx
      rcases trivia_secdef hw with e | e <;> rw [e] at hx <;> cases hx
  · -- inside a group a separator is whitespace
    subst hg
    have hs : (getDefinition w.type).2 = .subexpression := by unfold isSepTok at hw; simpa using hw
    cases hds : getDefinition w.type with
    | mk d sd =>
      rw [hds] at hs
      simp only at hs
      subst hs
      have hdisp : dispatch { st with previousSecondDef := .subexpression } st.nodes.size w d .subexpression
          (if il = true then none else some (st.nodes.size + 1)) ug =
          setupSpaceListCheck { st with previousSecondDef := .subexpression } ug := by
        simp only [dispatch]
        exact armSub_group (st := { st with previousSecondDef := SecDef.subexpression }) hug hk _ _ _
      have hcomp := hinv.comp .subexpression (by decide)
      unfold step
      simp only [hug, Outcome.bind, hadj, hds, hcomp, Bool.not_true, Bool.false_eq_true, if_false, hdisp]
      cases hcnd : listAfter n i ug with
      | true =>
        refine ⟨true, ?_, fun _ => rfl, fun _ _ => rfl⟩
        unfold listAfter at hcnd
        simp only [setupSpaceListCheck, hl, hn, hcnd, if_true, Outcome.bind, pushNode, bne_self_eq_false,
          Bool.false_eq_true, if_false]
        simp [hnl]
      | false =>
        refine ⟨st.checkForList, ?_, fun h => h, fun hr => by rw [hrc hr] at hcnd; cases hcnd⟩
        unfold listAfter at hcnd
        simp only [setupSpaceListCheck, hl, hn, hcnd, Outcome.bind, pushNode, bne_self_eq_false,
          Bool.false_eq_true, if_false]
        simp [hnl]

theorem step_fillF {st : PState} {ug p : Option Nat} {base : Nat} {E : Tree} {re cb : Nat} {inG : Bool}
    (hinv : FInv st ug p base E re cb) (hk : KindOK st ug inG) (w : PToken) (il : Bool)
    (hw : isTriviaTok w = true ∨ (inG = true ∧ isSepTok w = true)) :
    ∃ c, step st w il =
        .ok { st with checkForList := c, previousSecondDef := (getDefinition w.type).2, lastToken := w } ∧
      (st.checkForList = true → c = true) ∧
      (Ready st → (w.type = .whitespace ∨ isSepTok w = true) → c = true) := by
  have hsd : (getDefinition w.type).2 = .whitespace ∨ (getDefinition w.type).2 = .annotation ∨
      (getDefinition w.type).2 = .subexpression ∨ (getDefinition w.type).2 = .endGrouping ∨
      (getDefinition w.type).2 = .endSideEffect := by
    rcases hw with hw | ⟨_, hw⟩
    · rcases trivia_secdef hw with h | h
      · exact Or.inl h
      · exact Or.inr (Or.inl h)
    · unfold isSepTok at hw; exact Or.inr (Or.inr (Or.inl (by simpa using hw)))
  have hindep := step_prev_indep st ug .whitespace w il hinv.hug hinv.adjust' (hinv.adjust _)
    (hinv.comp_eq _ hsd _)
  obtain ⟨c, h1, h2, h3⟩ := step_fillU (st := normP st) hinv.inv hk w il hw
  exact ⟨c, by rw [hindep]; exact h1, h2, h3⟩

theorem FInv.fill {st : PState} {ug p : Option Nat} {base : Nat} {E : Tree} {re cb : Nat}
    (h : FInv st ug p base E re cb) (c : Bool) (sd : SecDef)
    (hsd : sd = .whitespace ∨ sd = .annotation ∨ sd = .subexpression) (w : PToken) :
    FInv { st with checkForList := c, previousSecondDef := sd, lastToken := w } ug p base E re cb := by
  refine ⟨⟨h.inv.n, h.inv.nnl, h.inv.hug, bot_congr h.inv.bot rfl rfl, h.inv.spine,
    Or.inr (Or.inr (Or.inr (Or.inr (Or.inl rfl))))⟩, ?_⟩
  rcases hsd with h | h | h
  · exact Or.inr (Or.inr (Or.inr (Or.inr (Or.inl h))))
  · exact Or.inr (Or.inr (Or.inr (Or.inr (Or.inr (Or.inl h)))))
  · exact Or.inr (Or.inr (Or.inr (Or.inr (Or.inr (Or.inr h)))))

/-- the tokens that are whitespace for the innermost frame -/
def isGFill (inG : Bool) (t : PToken) : Bool := isTriviaTok t || (inG && isSepTok t)

def setsList (t : PToken) : Bool := t.type == .whitespace || isSepTok t

theorem fill_runU {ug p : Option Nat} {base : Nat} {E : Tree} {re cb : Nat} (inG : Bool) :
    ∀ (ws : List PToken) (st : PState) (rest : List PToken), FInv st ug p base E re cb → KindOK st ug inG →
    (∀ w ∈ ws, isGFill inG w = true) →
    ∃ st', loop st (ws ++ rest) = loop st' rest ∧ FInv st' ug p base E re cb ∧ st'.nodes = st.nodes ∧
      st'.groupStack = st.groupStack ∧ st'.currentGroup = st.currentGroup ∧ st'.lastLeft = st.lastLeft ∧
      st'.nextLastLeft = st.nextLastLeft ∧
      st'.lastToken = (ws.getLast?).getD st.lastToken ∧
      st'.previousSecondDef = ((ws.getLast?).map (fun w => (getDefinition w.type).2)).getD st.previousSecondDef ∧
      (Ready st → (st.checkForList = true ∨ ∃ w ∈ ws, setsList w = true) → st'.checkForList = true)
  | [], st, _, h, _, _ => by
    refine ⟨st, rfl, h, rfl, rfl, rfl, rfl, rfl, rfl, rfl, fun _ hc => ?_⟩
    rcases hc with hc | ⟨w, hw, _⟩
    · exact hc
    · cases hw
  | w :: ws, st, rest, h, hk, hws => by
    have hw := hws w (List.mem_cons_self ..)
    have hw' : isTriviaTok w = true ∨ (inG = true ∧ isSepTok w = true) := by
      unfold isGFill at hw
      simp only [Bool.or_eq_true, Bool.and_eq_true] at hw
      exact hw
    obtain ⟨c, hstep, hc1, hc2⟩ := step_fillF h hk w (ws ++ rest).isEmpty hw'
    have hsd : (getDefinition w.type).2 = .whitespace ∨ (getDefinition w.type).2 = .annotation ∨
        (getDefinition w.type).2 = .subexpression := by
      rcases hw' with hw' | ⟨_, hw'⟩
      · rcases trivia_secdef hw' with h | h
        · exact Or.inl h
        · exact Or.inr (Or.inl h)
      · unfold isSepTok at hw'; exact Or.inr (Or.inr (by simpa using hw'))
    obtain ⟨st', h1, h2, h3, h4, h5, h6, h6', h7, h8, h9⟩ :=
      fill_runU inG ws { st with checkForList := c, previousSecondDef := (getDefinition w.type).2, lastToken := w } rest
        (h.fill c _ hsd w) hk (fun x hx => hws x (List.mem_cons_of_mem _ hx))
    refine ⟨st', ?_, h2, h3, h4, h5, h6, h6', ?_, ?_, ?_⟩
    · simp only [List.cons_append, loop]
      rw [hstep]
      simp only [Outcome.bind]
      exact h1
    · rw [h7]
      cases ws with
      | nil => rfl
      | cons w2 ws2 => rw [List.getLast?_cons_cons]; exact getD_getLast_cons' _ _ _ _
    · rw [h8]
      cases ws with
      | nil => rfl
      | cons w2 ws2 => rw [List.getLast?_cons_cons]; exact getD_map_getLast_cons' _ _ _ _ _
    · intro hr hc
      apply h9 hr
      rcases hc with hc | ⟨w', hw', hwt⟩
      · exact Or.inl (hc1 hc)
      · rcases List.mem_cons.mp hw' with e | e
        · subst e
          left
          apply hc2 hr
          unfold setsList at hwt
          simp only [Bool.or_eq_true, beq_iff_eq] at hwt
          exact hwt
        · exact Or.inr ⟨w', e, hwt⟩
where
  getD_getLast_cons' {α : Type} (a : α) (l : List α) (x y : α) :
      ((a :: l).getLast?).getD x = ((a :: l).getLast?).getD y := by
    rw [List.getLast?_eq_some_getLast (List.cons_ne_nil a l)]; rfl
  getD_map_getLast_cons' {α β : Type} (f : α → β) (a : α) (l : List α) (x y : β) :
      (((a :: l).getLast?).map f).getD x = (((a :: l).getLast?).map f).getD y := by
    rw [List.getLast?_eq_some_getLast (List.cons_ne_nil a l)]; rfl

theorem step_closeF {st : PState} {g : Nat} {E : Tree} {re cb : Nat} (hinv : FInv st (some g) (some g) (g + 1) E re cb)
    (G : ParseNode) (hG : st.nodes[g]? = some G) (fl : Bool) (hback : st.groupStack.back? = some (g, fl)) (c : PToken)
    (hcl : closes G.definition c) (il : Bool) :
    step st c il = .ok (stepC st g fl c) := by
  have hsd : (getDefinition c.type).2 = .endGrouping ∨ (getDefinition c.type).2 = .endSideEffect := by
    rcases hcl with ⟨_, h⟩ | ⟨_, h⟩ | ⟨_, h⟩ <;> rw [h] <;> simp [getDefinition]
  have hindep := step_prev_indep st (some g) .whitespace c il hinv.hug hinv.adjust' (hinv.adjust _)
    (hinv.comp_eq _ (hsd.elim (fun h => Or.inr (Or.inr (Or.inr (Or.inl h)))) (fun h => Or.inr (Or.inr (Or.inr (Or.inr h))))) _)
  rw [hindep]
  exact step_closeU (st := normP st) hinv.inv G hG fl hback c hcl il

/-- the unlinking branch of `endGroupingFixLastLeft` (the trailing-subexpression drop of Model/Parser) -/
theorem endFix_unlink (st : PState) (g n l P : Nat) (S : ParseNode) (hsz : st.nodes.size = n + 1)
    (hl : st.lastLeft = some n) (hS : st.nodes[n]? = some S) (hSd : S.definition = .subexpression)
    (hSr : S.right = some (n + 1)) (hSp : S.parent = some P) (hSl : S.left = some l) (hln : l < n) (hPn : P < n)
    (hng : n ≠ g) :
    ∃ nodes2, endGroupingFixLastLeft st (n + 1) g = .ok { st with nodes := nodes2 } ∧ nodes2.size = n + 1 ∧
      ∀ j, nodes2[j]? = if j = P then ((if j = l then (st.nodes[j]?).map (setParent (some P)) else st.nodes[j]?)).map
                            (setRight (some l))
                         else if j = l then (st.nodes[j]?).map (setParent (some P)) else st.nodes[j]? := by
  have hng' : (n == g) = false := by simpa using hng
  have hopt : S.definition.isOptional = false := by rw [hSd]; rfl
  obtain ⟨n1, h1⟩ := modifyNode?_isSome (a := st.nodes) (fun nd => { nd with parent := some P }) (show l < st.nodes.size by omega)
  have s1 := modifyNode?_size h1
  obtain ⟨n2, h2⟩ := modifyNode?_isSome (a := n1) (fun nd => { nd with right := some l }) (show P < n1.size by omega)
  have s2 := modifyNode?_size h2
  refine ⟨n2, ?_, by omega, ?_⟩
  · unfold endGroupingFixLastLeft
    simp only [hl, hS, hng', Bool.or_false, hopt, Bool.false_eq_true, if_false]
    rw [modifyNode?_same hS]
    simp only [hSd, hSr, beq_self_eq_true, Bool.and_self, if_true, hSl, hSp, h1, h2]
  · intro j
    rw [modifyNode?_get h2 j, modifyNode?_get h1 j]
    rfl

/-- **the closing bracket on a state whose last node is a blank-line separator**: the separator node `n` is unlinked -/
theorem step_close_unlink (st : PState) (g n l P : Nat) (S G : ParseNode) (fl : Bool) (c : PToken) (il : Bool)
    (hug : underGroupOf st = .ok (some g)) (hadj : adjustLastLeft st (some g) = .ok st) (hnnl : st.nextLastLeft = none)
    (hcomp : checkComposition st.previousSecondDef (getDefinition c.type).2 st.checkForList = true)
    (hback : st.groupStack.back? = some (g, fl)) (hG : st.nodes[g]? = some G) (hcl : closes G.definition c)
    (hsz : st.nodes.size = n + 1) (hl : st.lastLeft = some n) (hS : st.nodes[n]? = some S)
    (hSd : S.definition = .subexpression) (hSr : S.right = some (n + 1)) (hSp : S.parent = some P)
    (hSl : S.left = some l) (hln : l < n) (hPn : P < n) (hng : n ≠ g) :
    ∃ nodes2, step st c il = .ok (stepCU st g fl c nodes2) ∧ nodes2.size = n + 1 ∧
      ∀ j, nodes2[j]? = if j = P then ((if j = l then (st.nodes[j]?).map (setParent (some P)) else st.nodes[j]?)).map
                            (setRight (some l))
                         else if j = l then (st.nodes[j]?).map (setParent (some P)) else st.nodes[j]? := by
  apply step_close_fix st g G fl c il _ hug hadj hnnl hcomp hback hG hcl
  intro stx h1 h2
  have := endFix_unlink stx g n l P S (by rw [h2]; exact hsz) (by rw [h1]; exact hl) (by rw [h2]; exact hS) hSd hSr hSp hSl
    hln hPn hng
  rw [h2] at this
  rw [hsz]; exact this

theorem sep_token_facts {t : PToken} (ht : isSepTok t = true) :
    (t.type = .subexpression ∨ t.type = .expressionSeparator) ∧ isFiller t.type = false ∧ isSeparator t.type = true ∧
      isCloser t.type = false := by
  unfold isSepTok at ht
  revert ht
  cases t.type <;> intro ht <;> cases ht <;> decide

theorem trivia_token_facts {t : PToken} (ht : isTriviaTok t = true) : isFiller t.type = true := by
  unfold isTriviaTok at ht
  simp only [Bool.or_eq_true, beq_iff_eq] at ht
  rcases ht with (h | h) | h <;> rw [h] <;> rfl

/-- skipping trivia and separators, `closerFollows` looks at the first other token -/
theorem closerFollows_skip : ∀ (ws : List PToken) (rest : List PToken), (∀ w ∈ ws, isFillTok w = true) →
    closerFollows (ws ++ rest) = closerFollows rest
  | [], _, _ => rfl
  | w :: ws, rest, h => by
    have hw := h w (List.mem_cons_self ..)
    unfold isFillTok at hw
    have : (isFiller w.type || isSeparator w.type) = true := by
      by_cases htr : isTriviaTok w = true
      · simp [trivia_token_facts htr]
      · have hsp : isSepTok w = true := by simpa [htr] using hw
        simp [(sep_token_facts hsp).2.2.1]
    simp only [List.cons_append, closerFollows, this, if_true]
    exact closerFollows_skip ws rest (fun x hx => h x (List.mem_cons_of_mem _ hx))

/-- a separator that becomes a node (outside of groups, after an operand, not before a closer) -/
theorem ref_sep_stepK (f : Frame) (stack : List Frame) (pos q : Nat) (t : PToken) (rest : List PToken)
    (ht : isSepTok t = true) (hq : priority (getDefinition t.type).1 = some q) (hig : f.inGroup = false)
    (hps : f.prevSep = false) (hcf : closerFollows rest = false) (hl : f.last = .operand ∨ f.last = .suffix) :
    refStep Table.gen f stack pos t rest =
      .ok ({ f with cur := attach Table.gen q false (getDefinition t.type).1 pos f.cur, last := .sep, ws := false,
                    prevSep := true }, stack) := by
  have hq' : Table.gen.prio (Table.gen.define t.type).1 = some q := hq
  have hno : (f.last == .op) = false := by rcases hl with h | h <;> rw [h] <;> rfl
  rw [refStep_eq, separator_act Table.gen (eq_of_beq ht)]
  simp only [Act.run, hig, hps, hcf, hno, hq', Bool.and_false, Bool.or_false, Bool.false_eq_true, if_false]
  rfl

/-- a blank-line separator before a closer is dropped -/
theorem ref_sep_trailK (f : Frame) (stack : List Frame) (pos : Nat) (t : PToken) (rest : List PToken)
    (ht : t.type = .subexpression) (hig : f.inGroup = false) (hcf : closerFollows rest = true) :
    refStep Table.gen f stack pos t rest = .ok ({ f with prevSep := true }, stack) := by
  rw [refStep_eq, separator_act Table.gen (by rw [ht]; rfl)]
  simp only [Act.run, hig, hcf, ht, beq_self_eq_true, Bool.and_true, Bool.or_true, Bool.false_eq_true, if_false, if_true]

/-- a run of trivia and separators where the reference parser keeps nothing (in a group, or after a separator / `{`) -/
theorem refSeg_fillTok (ws : List PToken) (hws : ∀ w ∈ ws, isFillTok w = true) (pos : Nat) (f : Frame)
    (hf : f.inGroup = true ∨ f.prevSep = true) : ∃ b, RefSeg pos ws f { f with ws := b } := by
  refine ⟨_, refSeg_fill ws pos f fun w hw => ?_⟩
  have := hws w hw
  unfold isFillTok at this
  simp only [Bool.or_eq_true] at this
  exact this.elim Or.inl fun h => Or.inr ⟨h, hf⟩

end Garnish.Spec
