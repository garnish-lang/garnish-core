/-
C06 static half on compiled code: the layout loop and the ghost depths. The depths are only appended
(`DApp`), and every pending root, when it is laid out, starts with an instruction entered at the depth recorded
for it (`RootD`) — for every program, well formed or not.
Then one step of the layout loop, seen from the final state — where the root
starts (`head_jump`), and `monoD`: the ghost depths of a state are still there at the end, and every pending root
starts at the depth recorded for it.
-/
import Garnish.Lemmas.CompileEdges
namespace Garnish.Abs
open Garnish Gen Garnish.Spec Garnish.Props.C06

variable {F : Type}

theorem addTerms_pending (start : Nat) (last : Option Instr) (terms : List Instr) (s : LState F) :
    (addTerms start last terms s).pending = s.pending ∧ (addTerms start last terms s).pendDep = s.pendDep :=
  addTerms_rule (R := fun s s' => s'.pending = s.pending ∧ s'.pendDep = s.pendDep) (fun _ => ⟨rfl, rfl⟩)
    (fun h1 h2 => ⟨h2.1.trans h1.1, h2.2.trans h1.2⟩) start last terms s fun _ _ _ => ⟨rfl, rfl⟩

theorem addTerms_consts (start : Nat) (last : Option Instr) (terms : List Instr) (s : LState F) :
    (addTerms start last terms s).consts = s.consts :=
  addTerms_rule (R := fun s s' => s'.consts = s.consts) (fun _ => rfl) (fun h1 h2 => h2.trans h1) start last terms s
    fun _ _ _ => rfl

theorem addTerms_appD (start : Nat) (last : Option Instr) (terms : List Instr) (s : LState F) :
    AppD s (addTerms start last terms s) :=
  addTerms_rule .refl .trans start last terms s fun _ _ u => .push u _ _

theorem addTerms_al (start : Nat) (last : Option Instr) (terms : List Instr) (s : LState F) (h : Al s) :
    Al (addTerms start last terms s) :=
  addTerms_rule (R := fun s s' => Al s → Al s') (fun _ h => h) (fun h1 h2 h => h2 (h1 h)) start last terms s
    (fun _ _ _ h => h.push _ _) h

theorem addTerms_cons_push {start : Nat} {last : Option Instr} {t : Instr} {ts : List Instr} {s : LState F}
    (h : ¬ (last = some t ∧ t.1 = .endExpression)) :
    addTerms start last (t :: ts) s = addTerms start last ts (s.push t.1 t.2) := by
  simp only [addTerms]
  rw [if_neg (fun hc => h ⟨hc.1, hc.2.1⟩)]

/-- ghost depths only appended -/
def DApp (s s' : LState F) : Prop :=
  (∀ i, i < s.depths.size → s'.depths[i]? = s.depths[i]?) ∧ s.depths.size ≤ s'.depths.size

theorem AppD.toDApp {s s' : LState F} (h : AppD s s') : DApp s s' := ⟨h.depths, h.dsize⟩

theorem DApp.trans {a b c : LState F} (h1 : DApp a b) (h2 : DApp b c) : DApp a c :=
  ⟨fun i hi => by rw [h2.1 i (by have := h1.2; omega), h1.1 i hi], Nat.le_trans h1.2 h2.2⟩

structure DInv (s : LState F) : Prop where
  al : Al s
  zlen : s.pendDep.length = s.pending.length

section loop
variable (bodies : List (Nat × Expr F))

/-- what one layout step does to the ghost state: the root starts at the depth recorded for it -/
theorem layoutRoot_ghost {r : Root F} {s : LState F} {dr : Nat} {drest : List Nat} (hd : s.pendDep = dr :: drest)
    (hal : Al s) (hcont : r.containing < s.jumps.size) (href : RefOK r) :
    Al (layoutRoot bodies r s) ∧ DApp s (layoutRoot bodies r s) ∧
    (layoutRoot bodies r s).depths[s.instrs.size]? = some dr ∧
    (∀ p ∈ s.pending.zip drest, p ∈ (layoutRoot bodies r s).pending.zip (layoutRoot bodies r s).pendDep) ∧
    (layoutRoot bodies r s).pendDep.length + s.pending.length = (layoutRoot bodies r s).pending.length + drest.length := by
  obtain ⟨s1, s2, st, he⟩ := layoutRoot_anatomy bodies (s := s) (rest := s.pending) hcont
  have he : layoutRoot bodies r s = _ := he
  rw [he]
  have s1_dep : s1.dep = dr := by rw [st.dep, hd]; rfl
  have s1_pd : s1.pendDep = drest := by rw [st.pendDep, hd]; rfl
  have al1 : Al s1 := by simp only [Al, st.instrs, st.depths]; exact hal
  have hbody : Al s2 ∧ AppD s1 s2 ∧
      s2.pendDep.length + s1.pending.length = s2.pending.length + s1.pendDep.length ∧
      ((rootBody bodies r).isSome → s2.depths[s1.instrs.size]? = some s1.dep ∧ s1.instrs.size < s2.instrs.size) ∧
      ((rootBody bodies r) = none → s2 = s1) := by
    rw [st.body]
    simp only [bodyState]
    cases hb : rootBody bodies r with
    | none => exact ⟨al1, .refl _, Nat.add_comm _ _, fun h => by simp at h, fun _ => rfl⟩
    | some b =>
      have ds := emit_dstep r.patch r.containing b s1
      have hz := (emit_pre r.patch r.containing b s1 st.cont).2
      have := len_pos b
      exact ⟨(emit_wrote r.patch r.containing b s1).al al1, ds.app, ds.zlen,
        fun _ => ⟨emit_first r.patch r.containing b s1 al1, by simp only; omega⟩, fun h => by cases h⟩
  obtain ⟨al2, app12, zl12, hfirst, hnone⟩ := hbody
  have appT := addTerms_appD s.instrs.size s2.instrs.back? r.term s2
  have alT := addTerms_al s.instrs.size s2.instrs.back? r.term s2 al2
  obtain ⟨pT, pdT⟩ := addTerms_pending s.instrs.size s2.instrs.back? r.term s2
  refine ⟨alT, ?_, ?_, ?_, ?_⟩
  · have := (app12.trans appT).toDApp
    exact ⟨fun i hi => by rw [this.1 i (by rw [st.depths]; exact hi), st.depths], by rw [← st.depths]; exact this.2⟩
  · cases hb : rootBody bodies r with
    | some b =>
      obtain ⟨h1, _⟩ := hfirst (by simp [hb])
      rw [st.instrs, s1_dep] at h1
      exact first_app h1 appT
    | none =>
      have e2 := hnone hb
      rw [e2]
      -- no body: a nested id without a body in the table; the root is its `EndExpression`
      have hk : ∃ id, r.kind = .ref id := by
        simp only [rootBody] at hb
        cases hk : r.kind with
        | code e => simp [hk] at hb
        | ref id => exact ⟨id, rfl⟩
      obtain ⟨id, hk⟩ := hk
      have ht := (href id hk).2
      rw [ht]
      have hne : ¬ (s1.instrs.back? = some (Instruction.endExpression, (none : Option Nat)) ∧ True ∧
          s1.instrs.size > s.instrs.size) := by
        intro hc; rw [st.instrs] at hc; omega
      simp only [addTerms]
      rw [if_neg hne]
      have := first_push al1 .endExpression none
      rw [st.instrs, s1_dep] at this
      exact this
  · intro p hp
    rw [pT, pdT]
    refine app12.keepZ p ?_
    rw [st.pending, s1_pd]; exact hp
  · rw [pT, pdT]
    rw [st.pending, s1_pd] at zl12
    exact zl12

/-- in the final state the jump entry of the root laid out first holds the address at which its layout began -/
theorem head_jump {fuel : Nat} {s : LState F} {r : Root F} {rest : List (Root F)} (inv : Inv s) (hp : s.pending = r :: rest)
    (hc : (layoutRoots bodies (fuel + 1) s).pending = [])
    (hlab : ∀ q ∈ (layoutRoots bodies (fuel + 1) s).done, LabelOK q)
    (hnd : ((layoutRoots bodies (fuel + 1) s).done.map (·.patch)).Nodup) :
    (layoutRoots bodies (fuel + 1) s).jumps[r.patch]? = some s.instrs.size := by
  obtain ⟨inv', hj, hjs, _, hdone, _, _, _⟩ := layoutRoot_facts bodies inv hp
  simp only [layoutRoots, hp] at hc hlab hnd ⊢
  obtain ⟨ev', _, _, l', hl', hmem'⟩ := layoutRoots_located bodies fuel _ inv' hc hlab hnd
  have hrp : r.patch < s.jumps.size := inv.pend r (by rw [hp]; exact List.mem_cons_self)
  rw [ev'.jumps r.patch (by omega) ?_, hj]
  intro q hq heq
  have hq' := hmem' q hq
  rw [hl', hdone, List.map_append, List.nodup_append] at hnd
  exact hnd.2.2 q.patch (List.mem_map.2 ⟨q, hq', rfl⟩) r.patch (by simp) heq

/-- the ghost invariant across one step of the loop, with what `layoutRoot_ghost` says of the step -/
theorem DInv.step {s : LState F} {r : Root F} {rest : List (Root F)} (dinv : DInv s) (inv : Inv s) (hp : s.pending = r :: rest) :
    ∃ dr drest, s.pendDep = dr :: drest ∧ DInv (layoutRoot bodies r { s with pending := rest }) ∧
      DApp s (layoutRoot bodies r { s with pending := rest }) ∧
      (layoutRoot bodies r { s with pending := rest }).depths[s.instrs.size]? = some dr ∧
      ∀ p ∈ rest.zip drest, p ∈ (layoutRoot bodies r { s with pending := rest }).pending.zip
        (layoutRoot bodies r { s with pending := rest }).pendDep := by
  have hz := dinv.zlen
  rw [hp] at hz
  obtain ⟨dr, drest, hpd⟩ : ∃ dr drest, s.pendDep = dr :: drest := by
    cases h : s.pendDep with
    | nil => rw [h] at hz; simp at hz
    | cons dr drest => exact ⟨dr, drest, rfl⟩
  have hr_mem : r ∈ s.pending := by rw [hp]; exact List.mem_cons_self
  obtain ⟨al', dapp, hfirst, hkeep, hzl⟩ := layoutRoot_ghost bodies (r := r) (s := { s with pending := rest })
    (dr := dr) (drest := drest) hpd dinv.al (inv.cont r hr_mem) (inv.ref r hr_mem)
  rw [hpd] at hz
  exact ⟨dr, drest, hpd, ⟨al', by simp only [List.length_cons] at hz; simp only at hzl; omega⟩, dapp, hfirst, hkeep⟩

theorem monoD : ∀ (fuel : Nat) (s : LState F), Inv s → DInv s →
    (layoutRoots bodies fuel s).pending = [] →
    (∀ q ∈ (layoutRoots bodies fuel s).done, LabelOK q) →
    ((layoutRoots bodies fuel s).done.map (·.patch)).Nodup →
    DApp s (layoutRoots bodies fuel s) ∧ Al (layoutRoots bodies fuel s) ∧
    (∀ p ∈ s.pending.zip s.pendDep, RootD (layoutRoots bodies fuel s) p.1 p.2)
  | 0, s, _, dinv, hc, _, _ => by
    simp only [layoutRoots] at hc ⊢
    exact ⟨⟨fun _ _ => rfl, Nat.le_refl _⟩, dinv.al, by simp [hc]⟩
  | fuel + 1, s, inv, dinv, hc, hlab, hnd => by
    cases hp : s.pending with
    | nil =>
      simp only [layoutRoots, hp] at hc ⊢
      exact ⟨⟨fun _ _ => rfl, Nat.le_refl _⟩, dinv.al, by simp⟩
    | cons r rest =>
      have hj := head_jump bodies inv hp hc hlab hnd
      obtain ⟨inv', _, _, _, _, _, _, _⟩ := layoutRoot_facts bodies inv hp
      obtain ⟨dr, drest, hpd, dinv', dapp, hfirst, hkeep⟩ := dinv.step bodies inv hp
      simp only [layoutRoots, hp] at hc hlab hnd hj ⊢
      obtain ⟨dappF, alF, hrootsF⟩ := monoD fuel _ inv' dinv' hc hlab hnd
      refine ⟨DApp.trans dapp dappF, alF, fun p hpm => ?_⟩
      simp only [hpd, List.zip_cons_cons, List.mem_cons] at hpm
      rcases hpm with rfl | hpm
      · intro tb htb
        rw [hj] at htb
        simp only [Option.some.injEq] at htb
        subst htb
        right
        have hlt := (Array.getElem?_eq_some_iff.mp hfirst).1
        rw [dappF.1 _ hlt]
        exact hfirst
      · exact hrootsF p (hkeep p hpm)

end loop

end Garnish.Abs
