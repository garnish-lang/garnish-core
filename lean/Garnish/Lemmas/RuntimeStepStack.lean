/-
The step simulation, the instructions Abs/Machine `step` lists by name and that only move addresses — `Invalid`, `Put`,
`PutValue`, `PushValue`, `UpdateValue`, the side-effect brackets, `MakePair`, `MakeList`: the handlers over `LawsK`
(`Core.put_spec` …), then each instruction for every machine state (`Core.handle_put` …). A value that is pushed on a
stack must be decodable and, under `K`, not `custom` (`LawsK.readable`); a pop needs `MDeep` under `K`.
-/
import Garnish.Lemmas.RuntimeStepCore
import Garnish.Props.RuntimeRefineData
import Garnish.Lemmas.RuntimeMakeList
import Garnish.Props.RuntimeRefineMakeList
import Garnish.Props.RuntimeRefineApply
namespace Garnish.Lemmas.Runtime
open Garnish Gen Garnish.Abs Garnish.Model.Equality Garnish.Model.Runtime

variable {F σ : Type} {S : RStore F σ} {P : Prog F} {host : Host F}

namespace Core
open On
variable {Inv : σ → Prop} {Rd : σ → Nat → Prop} {K : Prop}

/-! ### put.rs and sideeffect.rs over `LawsK` -/

section
variable (L : LawsK S Inv Rd K)
include L

theorem put_spec {s : σ} {i : Nat} {v : Val F} (hk : i < S.dataLen s) (hd : Decodes (S.view s) i v)
    (hv : K → v ≠ .custom) (hi : Inv s := by inv_tac) :
    ∃ s', put S i s = .ok (none, s') ∧ EffI S Inv s s' (i :: S.regs s) (S.vals s) := by
  rw [put, bind_ok (read_apply S.dataLen s)]
  have hdec : decide (i ≥ S.dataLen s) = false := by simp; omega
  obtain ⟨s1, h1, e1⟩ := pushReg L hd hv
  simp only [hdec]
  exact ⟨s1, by rw [bind_ok h1]; rfl, e1⟩

theorem putValue_nil {s : σ} (hv : S.vals s = []) (hi : Inv s := by inv_tac) :
    PushedI S Inv s (putValue S s) none (S.regs s) .unit := by
  have hg : getCurrentValue S s = .ok ((S.vals s).head?, s) := rfl
  obtain ⟨a, s1, h1, d1, e1⟩ := pushUnit_spec L s
  refine ⟨a, s1, ?_, d1, e1⟩
  rw [putValue, bind_ok hg, hv]
  simp only [List.head?_nil]
  rw [bind_ok h1]; rfl

theorem putValue_cons {s : σ} {a : Nat} {as : List Nat} {v : Val F} (hv : S.vals s = a :: as)
    (hd : Decodes (S.view s) a v) (hc : K → v ≠ .custom) (hi : Inv s := by inv_tac) :
    ∃ s', putValue S s = .ok (none, s') ∧ EffI S Inv s s' (a :: S.regs s) (S.vals s) := by
  have hg : getCurrentValue S s = .ok ((S.vals s).head?, s) := rfl
  obtain ⟨s1, h1, e1⟩ := pushReg L hd hc
  refine ⟨s1, ?_, e1⟩
  rw [putValue, bind_ok hg, hv]
  simp only [List.head?_cons]
  rw [bind_ok h1]; rfl

theorem pushValue_spec {s : σ} {r : Nat} {rest : List Nat} {v : Val F}
    (hregs : S.regs s = r :: rest) (hdr : Decodes (S.view s) r v) (hv : K → v ≠ .custom)
    (hi : Inv s := by inv_tac) (hd : DeepK K S s rest := by deep_tac) :
    ∃ s', pushValue S s = .ok (none, s') ∧ EffI S Inv s s' rest (r :: S.vals s) := by
  obtain ⟨s0, h0, e0⟩ := nextRef_cons L hregs
  obtain ⟨s1, h1, e1⟩ := pushVal L (e0.dec hdr) hv
  rw [e0.regs, e0.vals] at e1
  exact ⟨s1, by rw [pushValue, bind_ok h0, bind_ok h1]; rfl, e0.trans e1⟩

theorem updateValue_spec {s : σ} {r x : Nat} {rest xs : List Nat} {v : Val F}
    (hregs : S.regs s = r :: rest) (hvals : S.vals s = x :: xs) (hdr : Decodes (S.view s) r v)
    (hv : K → v ≠ .custom) (hi : Inv s := by inv_tac) (hd : DeepK K S s rest := by deep_tac) :
    ∃ s', updateValue S s = .ok (none, s') ∧ EffI S Inv s s' rest (r :: xs) := by
  obtain ⟨s0, h0, e0⟩ := nextRef_cons L hregs
  obtain ⟨s1, h1, e1, i1⟩ := L.setCurrentCons r s0 x xs e0.inv (L.readable s0 r v e0.inv (e0.dec hdr) hv)
    (by rw [e0.vals, hvals])
  rw [e0.regs] at e1
  refine ⟨s1, ?_, e0.trans ⟨e1, i1⟩⟩
  rw [updateValue, bind_ok h0, bind_ok h1]; rfl

theorem startSideEffect_nil {s : σ} (hv : S.vals s = []) (hi : Inv s := by inv_tac) :
    ∃ a s', startSideEffect S s = .ok (none, s') ∧ Decodes (S.view s') a .unit ∧ EffI S Inv s s' (S.regs s) [a] := by
  have hg : getCurrentValue S s = .ok ((S.vals s).head?, s) := rfl
  obtain ⟨a, s1, h1, d1, e1⟩ := adds_i (L.addUnit s hi)
  obtain ⟨s2, h2, e2⟩ := pushVal L d1 (fun _ => nofun)
  rw [e1.regs, e1.vals, hv] at e2
  refine ⟨a, s2, ?_, e2.dec d1, e1.trans e2⟩
  rw [startSideEffect, bind_ok hg, hv]
  simp only [List.head?_nil]; rw [bind_ok h1, bind_ok h2]; rfl

theorem startSideEffect_cons {s : σ} {a : Nat} {as : List Nat} {v : Val F} (hv : S.vals s = a :: as)
    (hd : Decodes (S.view s) a v) (hc : K → v ≠ .custom) (hi : Inv s := by inv_tac) :
    ∃ s', startSideEffect S s = .ok (none, s') ∧ EffI S Inv s s' (S.regs s) (a :: a :: as) := by
  have hg : getCurrentValue S s = .ok ((S.vals s).head?, s) := rfl
  obtain ⟨s1, h1, e1⟩ := pushVal L hd hc
  rw [hv] at e1
  refine ⟨s1, ?_, e1⟩
  rw [startSideEffect, bind_ok hg, hv]
  simp only [List.head?_cons]; rw [bind_ok h1]; rfl

theorem endSideEffect_cons {s : σ} {x r : Nat} {vs rs : List Nat} (hv : S.vals s = x :: vs) (hr : S.regs s = r :: rs)
    (hi : Inv s := by inv_tac) (hd : DeepK K S s rs := by deep_tac) :
    ∃ s', endSideEffect S s = .ok (none, s') ∧ EffI S Inv s s' rs vs := by
  obtain ⟨s1, h1, e1⟩ := popValCons L hv
  obtain ⟨s2, h2, e2⟩ := popReg L (e1.regs.trans hr)
  rw [e1.vals] at e2
  refine ⟨s2, ?_, e1.trans e2⟩
  rw [endSideEffect, bind_ok h1]
  simp only []
  rw [bind_ok h2]; rfl

end

section
variable (fo : FloatOps F) (L : LawsK S Inv Rd K) (fuel : Nat) (H : OtherHandlers σ) {s : σ} {m : MState F}
  (hsim : Sim S P s m) (hi : Inv s) (operand : Option Nat)
include L hsim hi

omit L in
theorem handle_invalid :
    HandlerSimI S Inv P s (dispatch fo S fuel H .invalid operand s) m (handle fo host P m .invalid operand) :=
  ⟨none, s, rfl, by simp [hsim.1], rfl, hsim.2, fun _ _ h => h, hi, fun h => h⟩

theorem handle_put (hok : ∀ k, operand = some k → PutOK S P s k)
    (hk : K → ∀ k v, operand = some k → P.consts[k]? = some v → v ≠ .custom) :
    HandlerSimI S Inv P s (dispatch fo S fuel H .put operand s) m (handle fo host P m .put operand) := by
  simp only [handle]
  split
  · trivial
  rename_i k
  split
  · rename_i v hc
    obtain ⟨hlt, hdv⟩ := hok k rfl v hc
    obtain ⟨s1, h1, e1⟩ := put_spec L hlt hdv (fun kk => hk kk k v rfl hc) hi
    exact handlerSimI_ofEff (md := { m with regs := v :: m.regs }) hsim.2 h1 e1
      (.cons (e1.dec hdv) (decodesList_keeps e1.keeps hsim.2.regs)) (decodesList_keeps e1.keeps hsim.2.vals) rfl
      (by simp [hsim.1])
  · trivial

theorem handle_putValue (hk : K → ∀ v vs, m.vals = v :: vs → v ≠ .custom) :
    HandlerSimI S Inv P s (dispatch fo S fuel H .putValue operand s) m (handle fo host P m .putValue operand) := by
  simp only [handle]
  have hv := hsim.2.vals
  split
  · rename_i hmv
    rw [hmv] at hv
    have hsv : S.vals s = [] := by generalize S.vals s = sv at hv; cases hv; rfl
    obtain ⟨a, s1, h1, d1, e1⟩ := putValue_nil L hsv hi
    exact handlerSimI_ofEff (md := { m with regs := .unit :: m.regs }) hsim.2 h1 e1
      (.cons d1 (decodesList_keeps e1.keeps hsim.2.regs)) (decodesList_keeps e1.keeps hsim.2.vals) rfl (by simp [hsim.1])
  · rename_i v vs hmv
    rw [hmv] at hv
    obtain ⟨a, as, hsv, da, _⟩ := decodesList_cons_inv hv
    obtain ⟨s1, h1, e1⟩ := putValue_cons L hsv da (fun kk => hk kk v vs hmv) hi
    exact handlerSimI_ofEff (md := { m with regs := v :: m.regs }) hsim.2 h1 e1
      (.cons (e1.dec da) (decodesList_keeps e1.keeps hsim.2.regs)) (decodesList_keeps e1.keeps hsim.2.vals) rfl
      (by simp [hsim.1])

theorem handle_pushValue (hk : K → ∀ r rs, m.regs = r :: rs → r ≠ .custom ∧ MDeep m rs) :
    HandlerSimI S Inv P s (dispatch fo S fuel H .pushValue operand s) m (handle fo host P m .pushValue operand) := by
  simp only [handle]
  split
  · trivial
  · rename_i v rs hregs
    have hr := hsim.2.regs
    rw [hregs] at hr
    obtain ⟨a, rest, hsr, da, t⟩ := decodesList_cons_inv hr
    obtain ⟨s1, h1, e1⟩ := pushValue_spec L hsr da (fun k => (hk k v rs hregs).1) hi
      (deepK_of_sim hsim.2 t fun k => (hk k v rs hregs).2)
    exact handlerSimI_ofEff (md := { m with regs := rs, vals := v :: m.vals }) hsim.2 h1 e1
      (decodesList_keeps e1.keeps t) (.cons (e1.dec da) (decodesList_keeps e1.keeps hsim.2.vals)) rfl (by simp [hsim.1])

theorem handle_updateValue (hk : K → ∀ r rs, m.regs = r :: rs → r ≠ .custom ∧ MDeep m rs) :
    HandlerSimI S Inv P s (dispatch fo S fuel H .updateValue operand s) m (handle fo host P m .updateValue operand) := by
  simp only [handle]
  split
  · trivial
  rename_i v rs hregs
  split
  · trivial
  rename_i x vs hvals
  have hr := hsim.2.regs
  rw [hregs] at hr
  obtain ⟨a, rest, hsr, da, t⟩ := decodesList_cons_inv hr
  have hv := hsim.2.vals
  rw [hvals] at hv
  obtain ⟨b, bs, hsv, _, tv⟩ := decodesList_cons_inv hv
  obtain ⟨s1, h1, e1⟩ := updateValue_spec L hsr hsv da (fun k => (hk k v rs hregs).1) hi
    (deepK_of_sim hsim.2 t fun k => (hk k v rs hregs).2)
  exact handlerSimI_ofEff (md := { m with regs := rs, vals := v :: vs }) hsim.2 h1 e1
    (decodesList_keeps e1.keeps t) (.cons (e1.dec da) (decodesList_keeps e1.keeps tv)) rfl (by simp [hsim.1])

theorem handle_startSideEffect (hk : K → ∀ v vs, m.vals = v :: vs → v ≠ .custom) :
    HandlerSimI S Inv P s (dispatch fo S fuel H .startSideEffect operand s) m
      (handle fo host P m .startSideEffect operand) := by
  simp only [handle]
  have hv := hsim.2.vals
  split
  · rename_i hmv
    rw [hmv] at hv
    have hsv : S.vals s = [] := by generalize S.vals s = sv at hv; cases hv; rfl
    obtain ⟨a, s1, h1, d1, e1⟩ := startSideEffect_nil L hsv hi
    exact handlerSimI_ofEff (md := { m with vals := [.unit] }) hsim.2 h1 e1
      (decodesList_keeps e1.keeps hsim.2.regs) (.cons d1 .nil) rfl (by simp [hsim.1])
  · rename_i v vs hmv
    rw [hmv] at hv
    obtain ⟨a, as, hsv, da, ta⟩ := decodesList_cons_inv hv
    obtain ⟨s1, h1, e1⟩ := startSideEffect_cons L hsv da (fun kk => hk kk v vs hmv) hi
    exact handlerSimI_ofEff (md := { m with vals := v :: v :: vs }) hsim.2 h1 e1
      (decodesList_keeps e1.keeps hsim.2.regs)
      (.cons (e1.dec da) (.cons (e1.dec da) (decodesList_keeps e1.keeps ta))) rfl (by simp [hsim.1])

theorem handle_endSideEffect (hk : K → MDeepN m 1) :
    HandlerSimI S Inv P s (dispatch fo S fuel H .endSideEffect operand s) m
      (handle fo host P m .endSideEffect operand) := by
  simp only [handle]
  split
  · trivial
  rename_i x vs hvals
  split
  · trivial
  rename_i v rs hregs
  have hr := hsim.2.regs
  rw [hregs] at hr
  obtain ⟨a, rest, hsr, _, t⟩ := decodesList_cons_inv hr
  have hv := hsim.2.vals
  rw [hvals] at hv
  obtain ⟨b, bs, hsv, _, tv⟩ := decodesList_cons_inv hv
  obtain ⟨s1, h1, e1⟩ := endSideEffect_cons L hsv hsr hi (deepK_of_sim hsim.2 t fun k => (hk k).one hregs)
  exact handlerSimI_ofEff (md := { m with vals := vs, regs := rs }) hsim.2 h1 e1
    (decodesList_keeps e1.keeps t) (decodesList_keeps e1.keeps tv) rfl (by simp [hsim.1])

/-- `MakePair`: the left component is on top -/
theorem handle_makePair (hk : K → MDeepN m 2) :
    HandlerSimI S Inv P s (dispatch fo S fuel H .makePair operand s) m (handle fo host P m .makePair operand) := by
  simp only [handle]
  split
  · rename_i vl vr rs hregs
    have hr := hsim.2.regs
    rw [hregs] at hr
    obtain ⟨l, as1, e1, dl, t1⟩ := decodesList_cons_inv hr
    obtain ⟨r, rest, rfl, dr, t2⟩ := decodesList_cons_inv t1
    obtain ⟨a, s1, h1, d1, ef⟩ := C06_refine_make_pair L e1 dl dr hi (deepK_of_sim hsim.2 t2 fun k => (hk k).two hregs)
    exact handlerSimI_ofEff (md := { m with regs := .pair vl vr :: rs }) hsim.2 h1 ef
      (.cons d1 (decodesList_keeps ef.keeps t2)) (decodesList_keeps ef.keeps hsim.2.vals) rfl (by simp [hsim.1])
  · trivial

theorem handle_makeList (hk : K → ∀ n, operand = some n → MDeepN m n) :
    HandlerSimI S Inv P s (dispatch fo S fuel H .makeList operand s) m (handle fo host P m .makeList operand) := by
  simp only [handle]
  split
  · trivial
  rename_i n
  split
  · trivial
  rename_i hn
  have hlen := EqualityRefine.decodesList_length hsim.2.regs
  have hn' : n ≤ (S.regs s).length := by omega
  have h := makeList_spec L ((S.regs s).take n) ((S.regs s).drop n) (m.regs.take n) (List.take_append_drop n _).symm
    (EqualityRefine.decodesList_take n hsim.2.regs) hi
    (deepK_of_sim hsim.2 (EqualityRefine.decodesList_drop n hsim.2.regs) fun k => (hk k n rfl).drop (by omega))
  rw [List.length_take, Nat.min_eq_left hn'] at h
  obtain ⟨a, s1, h1, d1, e1⟩ := h
  exact handlerSimI_ofEff (md := { m with regs := .list (m.regs.take n).reverse :: m.regs.drop n }) hsim.2 h1 e1
    (.cons d1 (decodesList_keeps e1.keeps (EqualityRefine.decodesList_drop n hsim.2.regs)))
    (decodesList_keeps e1.keeps hsim.2.vals) rfl
    (by simp [hsim.1])

end
end Core

end Garnish.Lemmas.Runtime
