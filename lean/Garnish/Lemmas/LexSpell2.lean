/-
Lexing of SPELLED literals, part 2 (C14, lexer side): how a token starts (`Starts`), how a pending token ends — by a blank
after it or by the end of the input (`Ending`, `tail_blank`, `tail_end`) —, and runs of continuing characters (`run_ind`).
-/
import Garnish.Lemmas.LexSpell
namespace Garnish.Model.Lexer
open Garnish.Model Garnish.Model.Parser Garnish.Spec

/-- `start_token` on `x` starts a token in state `st` with pending type `ty` -/
def Starts (cc : CharClass) (x : Char) (st : LexingState) (ty : Option Gen.TokenType) : Prop :=
  ∀ σ : Lexer, σ.operatorTree = theTree →
    startToken cc σ x = { σ with currentCharacters := [x], currentTokenType := ty, tokenStartRow := σ.textRow, tokenStartColumn := σ.textColumn, state := st }

theorem Starts.of_plain {cc : CharClass} {x : Char} {st : LexingState} {ty : Option Gen.TokenType}
    (hw : walkOperator theTree [x] = none) (h : ∀ atEnd, startPlain cc atEnd x = some (st, ty, [x])) :
    Starts cc x st ty :=
  fun σ htr => by rw [startToken_eq, htr, startKind_plain cc _ hw, h]

theorem starts_blank (cc : CharClass) (c : Char) (hc : IsBlank c) : Starts cc c .spaces (some .whitespace) :=
  fun σ h => startToken_blank cc σ c hc h

theorem canCreate_ok (e : Lexer) (ty : Gen.TokenType) (h : e.currentTokenType = some ty) (hne : ty ≠ .identifier) :
    canCreateValidToken { e with canFloat := !blocksFloat e.currentTokenType } = .ok := by
  unfold canCreateValidToken
  simp only [h]

theorem emit_any (cc : CharClass) (σ e : Lexer) (x : Char) {st ty cs p0 p sq eq ae}
    (ha : ArmStep cc { σ with charactersLexed := σ.charactersLexed + 1 } x e true)
    (he : At e st (some ty) cs p0 p sq eq ae) (hne : ty ≠ .identifier) :
    processChar cc σ x = .ok (bumpColumn (startToken cc (afterEmit e) x) x, some ⟨cs, ty, p0.1, p0.2⟩) := by
  rw [processChar_emit (σ1 := e) ha (canCreate_ok e ty he.type hne) he.type, restart, if_pos he.create, pendingTok, he.chars,
    he.srow, he.scol]

theorem emit_step_couldBe (cc : CharClass) (σ e : Lexer) (x : Char) {st ty cs p0 p sq eq ae st' ty'}
    (ha : ArmStep cc { σ with charactersLexed := σ.charactersLexed + 1 } x e true)
    (he : At e st (some ty) cs p0 p sq eq ae) (hne : ty ≠ .identifier) (hst : Starts cc x st' ty') :
    ∃ σ', processChar cc σ x = .ok (σ', some ⟨cs, ty, p0.1, p0.2⟩) ∧ At σ' st' ty' [x] p (adv p x) 0 0 ae ∧
      σ'.couldBeSubExpression = false := by
  have hp := emit_any cc σ e x ha he hne
  rw [hst (afterEmit e) (by simp only [afterEmit]; exact he.tree)] at hp
  refine ⟨_, hp, At.bump ?_ x, by unfold bumpColumn; split <;> rfl⟩
  obtain ⟨h1, h2, h3, h4, h5, h6, h7, h8, h9, h10, h11, h12, h13⟩ := he
  exact ⟨rfl, rfl, rfl, h6, h7, h6, h7, h8, rfl, h10, h11, rfl, rfl⟩

theorem emit_step (cc : CharClass) (σ e : Lexer) (x : Char) {st ty cs p0 p sq eq ae st' ty'}
    (ha : ArmStep cc { σ with charactersLexed := σ.charactersLexed + 1 } x e true)
    (he : At e st (some ty) cs p0 p sq eq ae) (hne : ty ≠ .identifier) (hst : Starts cc x st' ty') :
    ∃ σ', processChar cc σ x = .ok (σ', some ⟨cs, ty, p0.1, p0.2⟩) ∧ At σ' st' ty' [x] p (adv p x) 0 0 ae :=
  let ⟨σ', hp, hA, _⟩ := emit_step_couldBe cc σ e x ha he hne hst
  ⟨σ', hp, hA⟩

theorem start_step (cc : CharClass) (σ : Lexer) (x : Char) {p0 p ae st ty} (h : At σ .noToken none [] p0 p 0 0 ae)
    (hst : Starts cc x st ty) :
    ∃ σ', processChar cc σ x = .ok (σ', none) ∧ At σ' st ty [x] p (adv p x) 0 0 ae := by
  have hp := processChar_noToken cc σ x h.state
  rw [hst _ (h.lexed (σ.charactersLexed + 1)).tree] at hp
  refine ⟨_, hp, At.bump ?_ x⟩
  obtain ⟨h1, h2, h3, h4, h5, h6, h7, h8, h9, h10, h11, h12, h13⟩ := h
  exact ⟨rfl, rfl, rfl, h6, h7, h6, h7, h8, h9, h10, h11, h12, h13⟩

theorem close_charList (cc : CharClass) (σ : Lexer) {t cs p0 p sq eq ae} (h : At σ .charList (some t) cs p0 p sq eq ae)
    (hq : sq = eq + 1) (hne : t ≠ .identifier) :
    ∃ σ', processChar cc σ '"' = .ok (σ', some ⟨cs ++ ['"'], t, p0.1, p0.2⟩) ∧
      At σ' .noToken none [] p0 (adv p '"') 0 0 ae := by
  refine ⟨_, h.emit (cc := cc) (.clLast h.state rfl (by rw [h.sq, h.eq]; simpa using hq)) h.type hne
    (congrArg (· ++ ['"']) h.chars), At.bump ?_ '"'⟩
  exact ⟨rfl, rfl, rfl, h.srow, h.scol, h.trow, h.tcol, rfl, rfl, h.tree, h.atEnd, rfl, rfl⟩

theorem close_byteList (cc : CharClass) (σ : Lexer) {t cs p0 p sq eq ae} (h : At σ .byteList (some t) cs p0 p sq eq ae)
    (hq : sq = eq + 1) (hne : t ≠ .identifier) :
    ∃ σ', processChar cc σ '\'' = .ok (σ', some ⟨cs ++ ['\''], t, p0.1, p0.2⟩) ∧
      At σ' .noToken none [] p0 (adv p '\'') 0 0 ae := by
  refine ⟨_, h.emit (cc := cc) (.blLast h.state rfl (by rw [h.sq, h.eq]; simpa using hq)) h.type hne
    (congrArg (· ++ ['\'']) h.chars), At.bump ?_ '\''⟩
  exact ⟨rfl, rfl, rfl, h.srow, h.scol, h.trow, h.tcol, rfl, rfl, h.tree, h.atEnd, rfl, rfl⟩

/-- in state `st` with text `cs`, every `Ender` (space, tab, sentinel, newline) ends the pending token, with type `ty` -/
def Ending (cc : CharClass) (st : LexingState) (ty0 : Option Gen.TokenType) (cs : List Char) (ty : Gen.TokenType) : Prop :=
  ∀ (τ : Lexer) (c : Char) (p0 p : Nat × Nat) (sq eq : Nat) (ae : Bool), Ender c → At τ st ty0 cs p0 p sq eq ae →
    ∃ e, ArmStep cc τ c e true ∧ At e st (some ty) cs p0 p sq eq ae

theorem ender_of_blank {c : Char} (hc : IsBlank c) : Ender c := by
  rcases hc with h | h
  · exact Or.inl h
  · exact Or.inr (Or.inl h)

theorem tail_blank (cc : CharClass) (σ : Lexer) (c : Char) (hc : IsBlank c) {st ty0 cs p0 p sq eq ae ty}
    (h : At σ st ty0 cs p0 p sq eq ae) (hE : Ending cc st ty0 cs ty) (hne : ty ≠ .identifier) :
    ∃ σ', processChar cc σ c = .ok (σ', some ⟨cs, ty, p0.1, p0.2⟩) ∧
      At σ' .spaces (some .whitespace) [c] p (adv p c) 0 0 ae := by
  obtain ⟨e, ha, he⟩ := hE _ c _ _ _ _ _ (ender_of_blank hc) (h.lexed (σ.charactersLexed + 1))
  exact emit_step cc σ e c ha he hne (starts_blank cc c hc)

theorem tail_end (cc : CharClass) (hcc : cc.Sane) (fuel : Nat) (σ : Lexer) (toks : List LexerToken)
    {st ty0 cs p0 p sq eq ty} (h : At σ st ty0 cs p0 p sq eq false) (hE : Ending cc st ty0 cs ty) (hnt : st ≠ .noToken)
    (hne : ty ≠ .identifier) :
    ∃ σ'', lexEnd cc (fuel + 2) σ toks = .ok (toks ++ [⟨cs, ty, p0.1, p0.2⟩], σ'') := by
  obtain ⟨e, ha, he⟩ := hE _ '\x00' _ _ _ _ _ (Or.inr (Or.inr (Or.inl rfl))) ((h.setAtEnd true).lexed (σ.charactersLexed + 1))
  obtain ⟨σ1, hf, hs1, _, hr1, ht1⟩ := finishChar_sentinel cc hcc e (by rw [he.state]; exact hnt) ty
    (canCreate_ok e ty he.type hne) he.type he.tree he.create he.atEnd
  have hp : processChar cc { σ with atEnd := true } '\x00' = .ok (σ1, some ⟨cs, ty, p0.1, p0.2⟩) := by
    rw [processChar_arm ha, hf, he.chars, he.srow, he.scol]
  exact lexEnd_emit_done cc hcc fuel σ σ1 toks _ h.ok hp hs1 hr1 ht1

theorem ending_plain (cc : CharClass) (hcc : cc.SaneBlank) (st : LexingState) (ty : Gen.TokenType) (cs : List Char)
    (hs : PlainState st) (hid : st ≠ .identifier) : Ending cc st (some ty) cs ty := by
  intro τ c p0 p sq eq ae hc h
  have ha := armStep_ender cc hcc τ c hc (by rw [h.state]; exact hs) h.tree
  have he : endOf τ = τ := by unfold endOf; rw [if_neg (by rw [h.state]; exact hid)]
  rw [he] at ha
  exact ⟨τ, ha, h⟩

theorem ending_symbol (cc : CharClass) (hcc : cc.SaneBlank) (name : List Char) (hn : name.head? ≠ some ':')
    (ty0 : Option Gen.TokenType) : Ending cc .identifier ty0 (':' :: name) .symbol := by
  intro τ c p0 p sq eq ae hc h
  have ha := armStep_ender cc hcc τ c hc (by rw [h.state]; exact Or.inr (Or.inr (Or.inl rfl))) h.tree
  have hcond : (startsWith τ.currentCharacters ':' && τ.currentCharacters[1]? != some ':') = true := by
    rw [h.chars]
    cases name with
    | nil => rfl
    | cons y r =>
      have : y ≠ ':' := fun e => hn (by simp [e])
      simp [startsWith, this]
  have he : endOf τ = { τ with currentTokenType := some .symbol } := by
    unfold endOf symFix; rw [if_pos h.state, if_pos hcond]
  rw [he] at ha
  refine ⟨_, ha, ?_⟩
  obtain ⟨h1, h2, h3, h4, h5, h6, h7, h8, h9, h10, h11, h12, h13⟩ := h
  exact ⟨h1, rfl, h3, h4, h5, h6, h7, h8, h9, h10, h11, h12, h13⟩

theorem ending_emptyCharList (cc : CharClass) (hcc : cc.SaneBlank) (ty : Gen.TokenType) :
    Ending cc .startCharList (some ty) ['"', '"'] ty := fun τ c p0 p sq eq ae hc h =>
  ⟨τ, .sclEmpty h.state (by simpa using (ender_facts hcc hc).2.2.2.2.2.2.2.1) (by rw [h.chars]; rfl), h⟩

theorem ending_emptyByteList (cc : CharClass) (hcc : cc.SaneBlank) (ty : Gen.TokenType) :
    Ending cc .startByteList (some ty) ['\'', '\''] ty := fun τ c p0 p sq eq ae hc h =>
  ⟨τ, .sblEmpty h.state (by simpa using (ender_facts hcc hc).2.2.2.2.2.2.2.2) (by rw [h.chars]; rfl), h⟩

/-- a run of characters each of which continues the token: `I` is kept, no token comes out -/
theorem run_ind (cc : CharClass) (I : List Char → Nat × Nat → Lexer → Prop) (R : List Char → Char → Prop)
    (hok : ∀ cs p σ, I cs p σ → σ.result = .ok)
    (step : ∀ cs p σ x, I cs p σ → R cs x → ∃ σ', processChar cc σ x = .ok (σ', none) ∧ I (cs ++ [x]) (adv p x) σ') :
    ∀ (xs cs : List Char) (p : Nat × Nat) (σ : Lexer) (toks : List LexerToken), I cs p σ →
      (∀ u x v, xs = u ++ x :: v → R (cs ++ u) x) →
      ∃ σ', runChars cc xs σ toks = .ok (σ', toks) ∧ I (cs ++ xs) (advs p xs) σ'
  | [], cs, p, σ, toks, h, _ => ⟨σ, rfl, by simpa [advs] using h⟩
  | x :: xs, cs, p, σ, toks, h, hR => by
    obtain ⟨σ1, hp, h1⟩ := step cs p σ x h (by simpa using hR [] x xs rfl)
    obtain ⟨σ', hr, h'⟩ := run_ind cc I R hok step xs (cs ++ [x]) (adv p x) σ1 toks h1
      (fun u y v e => by have := hR (x :: u) y v (by simp [e]); simpa using this)
    refine ⟨σ', by rw [runChars_none cc x xs σ σ1 toks (hok _ _ _ h) hp]; exact hr, ?_⟩
    rw [advs_cons]
    simpa using h'

end Garnish.Model.Lexer
