/-
The stack readers of Model/Runtime/BasicStore.lean: independence of the fuel (the chains walk downwards), the
reading of one head cell (`regsOf_register`, `valsOf_value`, …), and the frame chain under appended cells (`framesOf_sub`; the
other two readers are in Lemmas/BasicView.lean).
-/
import Garnish.Lemmas.BasicView
namespace Garnish.Lemmas.Runtime.Basic
open Garnish Gen Garnish.Model.Equality Garnish.Model.Runtime Garnish.Model.Runtime.Basic Garnish.BasicOpt

theorem regChain_fuel (cells : Array Cell) : ∀ (f a : Nat), a < f → regChain cells f a = regChain cells (a + 1) a := by
  intro f
  induction f using Nat.strongRecOn with
  | _ f ih =>
    intro a ha
    cases f with
    | zero => omega
    | succ f =>
      simp only [regChain]
      cases cells[a]? with
      | none => rfl
      | some c =>
        cases c <;> try rfl
        rename_i p v
        simp only
        by_cases hp : p < a
        · simp only [hp, if_true]
          rw [ih f (by omega) p (by omega), ih a (by omega) p hp]
        · simp [hp]

theorem valChain_fuel (cells : Array Cell) : ∀ (f a : Nat), a < f → valChain cells f a = valChain cells (a + 1) a := by
  intro f
  induction f using Nat.strongRecOn with
  | _ f ih =>
    intro a ha
    cases f with
    | zero => omega
    | succ f =>
      simp only [valChain]
      cases cells[a]? with
      | none => rfl
      | some c =>
        cases c <;> try rfl
        rename_i p v
        simp only
        by_cases hp : p < a
        · simp only [hp, if_true]
          rw [ih f (by omega) p (by omega), ih a (by omega) p hp]
        · simp [hp]

theorem frameChain_fuel (cells : Array Cell) : ∀ (f a : Nat), a < f → frameChain cells f a = frameChain cells (a + 1) a := by
  intro f
  induction f using Nat.strongRecOn with
  | _ f ih =>
    intro a ha
    cases f with
    | zero => omega
    | succ f =>
      simp only [frameChain]
      cases cells[a]? with
      | none => rfl
      | some c =>
        cases c <;> try rfl
        · rename_i p r
          simp only
          by_cases hp : p < a
          · simp only [hp, if_true]
            rw [ih f (by omega) p (by omega), ih a (by omega) p hp]
          · simp [hp]
        · rename_i p
          simp only
          by_cases hp : p < a
          · simp only [hp, if_true]
            rw [ih f (by omega) p (by omega), ih a (by omega) p hp]
          · simp [hp]

theorem regsOf_register {cells : Array Cell} {a p v : Nat} (hc : cells[a]? = some (.register p v)) (hp : p < a) :
    regsOf cells (some a) = v :: regsOf cells (some p) := by
  have h1 : regChain cells (a + 1) a = v :: (if p < a then regChain cells a p else []) := by
    simp only [regChain, hc]
  show regChain cells (a + 1) a = v :: regChain cells (p + 1) p
  rw [h1, if_pos hp, regChain_fuel cells a p hp]

theorem regsOf_root {cells : Array Cell} {a v : Nat} (hc : cells[a]? = some (.registerRoot v)) :
    regsOf cells (some a) = [v] := by
  simp only [regsOf, regChain, hc]

theorem valsOf_value {cells : Array Cell} {a p v : Nat} (hc : cells[a]? = some (.value p v)) (hp : p < a) :
    valsOf cells (some a) = v :: valsOf cells (some p) := by
  have h1 : valChain cells (a + 1) a = v :: (if p < a then valChain cells a p else []) := by
    simp only [valChain, hc]
  show valChain cells (a + 1) a = v :: valChain cells (p + 1) p
  rw [h1, if_pos hp, valChain_fuel cells a p hp]

theorem valsOf_root {cells : Array Cell} {a v : Nat} (hc : cells[a]? = some (.valueRoot v)) :
    valsOf cells (some a) = [v] := by
  simp only [valsOf, valChain, hc]

theorem frameChain_sub {cells cells' : Array Cell} (h : Sub cells cells')
    (hk : ∀ (i p r : Nat), (cells[i]? = some (Cell.frame p r) ∨ cells[i]? = some (Cell.frameRegister r)) → r < cells.size) :
    ∀ (fuel a : Nat), a < cells.size → frameChain cells' fuel a = frameChain cells fuel a
  | 0, _, _ => rfl
  | fuel + 1, a, ha => by
    simp only [frameChain, h.get ha, retOf_sub h ha]
    cases hc : cells[a]? with
    | none => rfl
    | some c =>
      cases c <;> try rfl
      · rename_i p r
        simp only
        rw [regsOf_sub h (o := some r) (fun x hx => by cases hx; exact hk a p r (Or.inl hc))]
        by_cases hp : p < a
        · simp only [hp, if_true]; rw [frameChain_sub h hk fuel p (by omega)]
        · simp [hp]
      · rename_i p
        simp only
        by_cases hp : p < a
        · simp only [hp, if_true]; rw [frameChain_sub h hk fuel p (by omega)]
        · simp [hp]
      · rename_i r
        simp only
        rw [regsOf_sub h (o := some r) (fun x hx => by cases hx; exact hk a 0 r (Or.inr hc))]

theorem framesOf_sub {cells cells' : Array Cell} (h : Sub cells cells')
    (hk : ∀ (i p r : Nat), (cells[i]? = some (Cell.frame p r) ∨ cells[i]? = some (Cell.frameRegister r)) → r < cells.size)
    {o : Option Nat} (ho : ∀ a, o = some a → a < cells.size) : framesOf cells' o = framesOf cells o := by
  cases o with
  | none => rfl
  | some a => exact frameChain_sub h hk _ a (ho a rfl)

end Garnish.Lemmas.Runtime.Basic
