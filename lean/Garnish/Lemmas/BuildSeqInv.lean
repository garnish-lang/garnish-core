/-
C04, builder half — evaluation order: the order invariant `SInv` with its key consequence `prec_key`, the description of one
handler call (`Step`), and the proof that such a call keeps `SInv` (`step_sinv`) and the side-effect brackets `BInv`
(`step_binv`).  `Inv` in the Lemmas/BuildSeq* and Lemmas/BuildLifo* files is `BuildTotal.Inv`, the invariant of the ghost phases
(Lemmas/BuildTotalBase.lean); `Build.Inv` is not used in them.
-/
import Garnish.Lemmas.BuildSeq
namespace Garnish.Lemmas.BuildSeq
open Garnish Garnish.Gen Garnish.Model.Parser Garnish.Model.Literals Garnish.Model.Build Garnish.Lemmas.Build
open Garnish.Lemmas.BuildTotal
open Garnish.Lemmas.BuildOrder (Above above_append_left above_append_mem above_append_right above_mem above_irrefl
  above_top_false above_ne_top above_init Attr get_append Moving nm1 nm2 nm3 nmr attr_append)

variable {F : Type} {root : Nat} {tree : Array ParseNode} {G : Nat → Prop} {m0 : Nat}
variable {ph ph' : Nat → Phase} {ctx ctx' : Ctx F} {ni : Nat} {pn : ParseNode} {vni : Phase} {cs rs suf : List Nat}
  {l : List (Option Nat)} {M M' : Array (Option Nat)}

/-- the node is between its first and its last visit, or about to be visited for the first time: it is on `stack` -/
def Act (ph : Nat → Phase) (x : Nat) : Prop := ph x = .p1 ∨ ph x = .p2

theorem Act.ne0 {ph : Nat → Phase} {x : Nat} (h : Act ph x) : ph x ≠ .p0 := by
  rcases h with h | h <;> rw [h] <;> intro h' <;> cases h'
theorem Act.ne3 {ph : Nat → Phase} {x : Nat} (h : Act ph x) : ph x ≠ .p3 := by
  rcases h with h | h <;> rw [h] <;> intro h' <;> cases h'
theorem Act.nepr {ph : Nat → Phase} {x : Nat} (h : Act ph x) : ph x ≠ .pr := by
  rcases h with h | h <;> rw [h] <;> intro h' <;> cases h'
theorem not_act_of_23 {ph : Nat → Phase} {x : Nat} (h : ph x = .p2 ∨ ph x = .p3) (h1 : ph x ≠ .p2) : ¬ Act ph x := by
  intro ha
  rcases h with h | h
  · exact h1 h
  · exact ha.ne3 h

/-- everything attributed to `x` has to precede everything attributed to `z`; `P` says which indices are nodes of the tree -/
def Prec (tree : Array ParseNode) (P : Nat → Prop) (x z : Nat) : Prop :=
  (∃ y a b, P y ∧ Ord tree y a b ∧ IDesc tree a x ∧ IDesc tree b z) ∨
  (∃ y c pn, P y ∧ PreC tree y c ∧ tree[y]? = some pn ∧ pn.definition ≠ .sideEffect ∧ IDesc tree c x ∧ z = y) ∨
  (∃ y c, P y ∧ PostC tree y c ∧ IDesc tree c z ∧ x = y) ∨
  (∃ ρ y r, P ρ ∧ IDesc tree ρ y ∧ OolChild tree y r ∧ IDesc tree ρ x ∧ Sub tree r z)

theorem Prec.mono {tree : Array ParseNode} {P Q : Nat → Prop} (h : ∀ y, P y → Q y) {x z : Nat} (hp : Prec tree P x z) :
    Prec tree Q x z := by
  rcases hp with ⟨y, a, b, h0, h1⟩ | ⟨y, c, pn, h0, h1⟩ | ⟨y, c, h0, h1⟩ | ⟨ρ, y, r, h0, h1⟩
  · exact Or.inl ⟨y, a, b, h _ h0, h1⟩
  · exact Or.inr (Or.inl ⟨y, c, pn, h _ h0, h1⟩)
  · exact Or.inr (Or.inr (Or.inl ⟨y, c, h _ h0, h1⟩))
  · exact Or.inr (Or.inr (Or.inr ⟨ρ, y, r, h _ h0, h1⟩))

/-- the records of this build (those from `m0` on) respect `P`: every record of `x` precedes every record of `z` when `P x z` -/
def Ordered (P : Nat → Nat → Prop) (m0 : Nat) (M : Array (Option Nat)) : Prop :=
  ∀ x z, P x z → ∀ kx kz : Nat, m0 ≤ kx → m0 ≤ kz → M[kx]? = some (some x) → M[kz]? = some (some z) → kx < kz

theorem Ordered.init (P : Nat → Nat → Prop) (M : Array (Option Nat)) : Ordered P M.size M :=
  fun _ _ _ kx _ hkx _ hmx _ => by rw [Array.getElem?_eq_none hkx] at hmx; cases hmx

theorem Ordered.append {P : Nat → Nat → Prop} {m0 : Nat} {M M' : Array (Option Nat)} {l : List (Option Nat)} {ni : Nat}
    (h : Ordered P m0 M) (hM : M'.toList = M.toList ++ l) (hl : ∀ m, m ∈ l → m = none ∨ m = some ni)
    (key : some ni ∈ l → ∀ z, P ni z → ¬ Attr m0 M z ∧ z ≠ ni) : Ordered P m0 M' := by
  intro x z hp kx kz hkx hkz hmx hmz
  rcases get_append hM hmx with ⟨hx1, hx2⟩ | ⟨hx1, hx2⟩
  · rcases get_append hM hmz with ⟨hz1, hz2⟩ | ⟨hz1, _⟩
    · exact h x z hp kx kz hkx hkz hx2 hz2
    · omega
  · rcases hl _ hx2 with e | e <;> cases e
    obtain ⟨hna, hzn⟩ := key hx2 z hp
    rcases get_append hM hmz with ⟨_, hz2⟩ | ⟨_, hz2⟩
    · exact absurd ⟨kz, hkz, hz2⟩ hna
    · rcases hl _ hz2 with e | e <;> cases e
      exact absurd rfl hzn

theorem Ordered.append_none {P : Nat → Nat → Prop} {m0 : Nat} {M M' : Array (Option Nat)} {l : List (Option Nat)}
    (h : Ordered P m0 M) (hM : M'.toList = M.toList ++ l) (hl : ∀ m, m ∈ l → m = none) : Ordered P m0 M' :=
  h.append (ni := 0) hM (fun m hm => Or.inl (hl m hm)) (fun hm => nomatch hl _ hm)

/-! ### the order invariant (at the head of the inner loop; `S` is the whole work list) -/

structure SInv (root : Nat) (tree : Array ParseNode) (G : Nat → Prop) (m0 : Nat) (ph : Nat → Phase) (S : List Nat)
    (nodes : Nodes) (M : Array (Option Nat)) : Prop where
  nodup : S.Nodup
  onStack : ∀ x, Act ph x → x ∈ S
  attrVisited : ∀ x, Attr m0 M x → ph x = .p2 ∨ ph x = .p3
  attrLast : ∀ (y : Nat) (pn : ParseNode), tree[y]? = some pn → pn.definition ≠ .sideEffect → Attr m0 M y → ph y = .p3
  inl : ∀ y c, G y → ILink tree y c → ph c ≠ .pr ∧ ∀ o, ph c ≠ .pc o
  sibAbove : ∀ y a b x, G y → Ord tree y a b → IDesc tree a x → Act ph x → ph b = .p1 ∧ Above S x b
  preAbove : ∀ y c x, G y → PreC tree y c → IDesc tree c x → Act ph x → ph y = .p2 ∧ Above S x y
  postBelow : ∀ y c z, G y → PostC tree y c → IDesc tree c z → Act ph z → ph y = .p2 → Above S y z
  postAfter : ∀ y c z, G y → PostC tree y c → IDesc tree c z → (ph z = .p2 ∨ ph z = .p3) → ph y = .p3
  owner : ∀ ρ y r x, G ρ → IDesc tree ρ y → OolChild tree y r → (ph r = .p1 ∨ ph r = .p2 ∨ ph r = .p3) → IDesc tree ρ x →
    ¬ Act ph x
  uninit : ∀ (x : Nat) (bn : BuildNode), nodes[x]? = some (some bn) → (ph x = .p1 ∨ ph x = .pr) → bn.state = .uninitialized
  ord : Ordered (Prec tree G) m0 M

/-- once the later sibling has been visited nothing below the earlier one is active: an active one would keep it waiting -/
theorem SInv.sibDone {S : List Nat} {nodes : Nodes} {M : Array (Option Nat)} (ho : SInv root tree G m0 ph S nodes M) :
    ∀ y a b x, G y → Ord tree y a b → IDesc tree a x → (ph b = .p2 ∨ ph b = .p3) → ¬ Act ph x :=
  fun y a b x hy hord hd hb hact => by
    rw [(ho.sibAbove y a b x hy hord hd hact).1] at hb; rcases hb with h | h <;> cases h

theorem SInv.preDone {S : List Nat} {nodes : Nodes} {M : Array (Option Nat)} (ho : SInv root tree G m0 ph S nodes M) :
    ∀ y c x, G y → PreC tree y c → IDesc tree c x → ph y = .p3 → ¬ Act ph x :=
  fun y c x hy hc hd h3 hact => by rw [(ho.preAbove y c x hy hc hd hact).1] at h3; cases h3

theorem child_visited (V : Validated root tree G) {ctx : Ctx F} (hinv : Inv root tree G ph ctx) {y c : Nat} (hy : G y)
    (hc : IsChild tree y c) (hc0 : ph c ≠ .p0) : ph y = .p2 ∨ ph y = .p3 := by
  have hcG := (child_facts V hy hc).1
  rcases hinv.fresh c hcG hc0 with h1 | ⟨p, hp, hpc, hs, _⟩
  · exact absurd h1 (child_ne_root V hy hc)
  · have := parent_unique V hp hy hpc hc
    subst this; exact hs

theorem sub_climb (V : Validated root tree G) {ctx : Ctx F} (hinv : Inv root tree G ph ctx) {b z : Nat} (hb : G b)
    (h : Sub tree b z) (hz : ph z ≠ .p0) : z = b ∨ ph b = .p2 ∨ ph b = .p3 := by
  induction h with
  | refl => exact Or.inl rfl
  | @step w x hw hc ih =>
    have hwG := sub_G V hb hw
    have hs := child_visited V hinv hwG hc hz
    have hw0 : ph w ≠ .p0 := by rcases hs with h | h <;> rw [h] <;> intro h' <;> cases h'
    rcases ih hw0 with h2 | h2
    · subst h2; exact Or.inr hs
    · exact Or.inr h2

theorem idesc_climb (V : Validated root tree G) {ctx : Ctx F} (hinv : Inv root tree G ph ctx) {b z : Nat} (hb : G b)
    (h : IDesc tree b z) (hz : ph z ≠ .p0) : z = b ∨ ph b = .p2 ∨ ph b = .p3 := sub_climb V hinv hb h.sub hz

theorem idesc_parent_visited (V : Validated root tree G) {ctx : Ctx F} (hinv : Inv root tree G ph ctx) {y c z : Nat} (hy : G y)
    (hc : IsChild tree y c) (h : IDesc tree c z) (hz : ph z ≠ .p0) : ph y = .p2 ∨ ph y = .p3 := by
  have hcG := (child_facts V hy hc).1
  refine child_visited V hinv hy hc ?_
  rcases idesc_climb V hinv hcG h hz with h1 | h1
  · subst h1; exact hz
  · rcases h1 with h | h <;> rw [h] <;> intro h' <;> cases h'

/-- the node on top of the work list, still being visited: nothing that has to come after it is attributed yet -/
theorem prec_key (V : Validated root tree G) {ctx : Ctx F} (hinv : Inv root tree G ph ctx) {S0 : List Nat} {x : Nat}
    {nodes : Nodes} {M : Array (Option Nat)} (ho : SInv root tree G m0 ph (S0 ++ [x]) nodes M)
    (hx : Act ph x) {z : Nat} (hp : Prec tree G x z) : ¬ Attr m0 M z ∧ z ≠ x := by
  suffices hkey : (Attr m0 M z ∨ z = x) → False from ⟨fun h => hkey (Or.inl h), fun h => hkey (Or.inr h)⟩
  intro hz
  have hz0 : ph z ≠ .p0 := by
    rcases hz with h | h
    · rcases ho.attrVisited z h with h' | h' <;> rw [h'] <;> intro h'' <;> cases h''
    · rw [h]; exact hx.ne0
  rcases hp with ⟨y, a, b, hy, hord, hda, hdb⟩ | ⟨y, c, pn, hy, hc, hpn, hnse, hdc, hzy⟩ | ⟨y, c, hy, hc, hdc, hxy⟩ |
    ⟨ρ, y, r, hρ, hdy, hool, hdx, hsub⟩
  · have hbG := (child_facts V hy hord.right.isChild).1
    have hbv : ph b = .p2 ∨ ph b = .p3 := by
      rcases idesc_climb V hinv hbG hdb hz0 with h1 | h1
      · subst h1
        rcases hz with h | h
        · exact ho.attrVisited z h
        · subst h
          exact absurd (ho.sibAbove y a z z hy hord hda hx).2 (above_irrefl ho.nodup)
      · exact h1
    exact ho.sibDone y a b x hy hord hda hbv hx
  · subst hzy
    rcases hz with h | h
    · exact ho.preDone z c x hy hc hdc (ho.attrLast z pn hpn hnse h) hx
    · subst h
      exact above_irrefl ho.nodup (ho.preAbove z c z hy hc hdc hx).2
  · subst hxy
    rcases hz with h | h
    · exact hx.ne3 (ho.postAfter x c z hy hc hdc (ho.attrVisited z h))
    · subst h
      rcases idesc_parent_visited V hinv hy hc.ilink.isChild hdc hz0 with h2 | h3
      · exact above_irrefl ho.nodup (ho.postBelow z c z hy hc hdc hx h2)
      · exact hx.ne3 h3
  · have hyG := idesc_G V hρ hdy
    have hrG := (child_facts V hyG hool.isChild).1
    have hr : ph r = .p1 ∨ ph r = .p2 ∨ ph r = .p3 := by
      rcases sub_climb V hinv hrG hsub hz0 with h1 | h1
      · subst h1
        rcases hz with h | h
        · exact Or.inr (ho.attrVisited z h)
        · subst h
          rcases hx with h' | h'
          · exact Or.inl h'
          · exact Or.inr (Or.inl h')
      · exact Or.inr h1
    exact ho.owner ρ y r x hρ hdy hool hr hdx hx

/-- one handler call: the visited node `ni` (on top of the work list) moves to `vni`, the children `cs` are pushed (phase
p1) in the arrangement `suf`, the children `rs` leave p0 / pc for a phase outside {p1, p2, p3}, the metadata grows by `l`,
which names at most `ni`; the arrangement agrees with `layout` -/
structure Step (root : Nat) (tree : Array ParseNode) (G : Nat → Prop) (ph ph' : Nat → Phase) (ctx ctx' : Ctx F) (ni : Nat)
    (pn : ParseNode) (vni : Phase) (cs rs suf : List Nat) (l : List (Option Nat)) (M M' : Array (Option Nat)) : Prop where
  V : Validated root tree G
  hinv : Inv root tree G ph ctx
  hG : G ni
  hph : Act ph ni
  hpn : tree[ni]? = some pn
  hv : vni = .p2 ∨ vni = .p3
  hv2 : vni = .p2 → ph ni = .p1
  hni' : ph' ni = vni
  hcs' : ∀ c, c ∈ cs → ph' c = .p1
  hrsN : ∀ c, c ∈ rs → ph' c ≠ .p1 ∧ ph' c ≠ .p2 ∧ ph' c ≠ .p3
  hother : ∀ x, x ≠ ni → x ∉ cs ++ rs → ph' x = ph x
  hS : ctx'.stack.toList = ctx.stack.toList ++ suf
  hM : M'.toList = M.toList ++ l
  hl : ∀ m, m ∈ l → m = none ∨ m = some ni
  hsufni : vni = .p2 → ni ∈ suf
  hsufcs : ∀ c, c ∈ cs → c ∈ suf
  hnodup' : ctx'.stack.toList.Nodup
  hfreshcs : ∀ c, c ∈ cs → ph c = .p0 ∧ c ≠ ni ∧ IsChild tree ni c
  hfreshrs : ∀ c, c ∈ rs → Moving ph c ∧ c ≠ ni
  huninit : ∀ (x : Nat) (bn : BuildNode), ctx'.nodes[x]? = some (some bn) → (ph' x = .p1 ∨ ph' x = .pr) → x ≠ ni →
    (x ∈ cs ++ rs → bn.state = .uninitialized) ∧
    (x ∉ cs ++ rs → ∃ bn0, ctx.nodes[x]? = some (some bn0) ∧ bn.state = bn0.state)
  hcs1 : cs ≠ [] → ph ni = .p1
  hinl : ∀ c, c ∈ cs → ILink tree ni c
  hord : ∀ a b, Ord tree ni a b → a ∈ cs → b ∈ cs ∧ Above suf a b
  hpre : ∀ c, PreC tree ni c → c ∈ cs → vni = .p2 ∧ Above suf c ni
  hpost : ∀ c, PostC tree ni c → c ∈ cs → Above suf ni c
  hattr : some ni ∈ l → vni = .p3 ∨ pn.definition = .sideEffect
  hse : pn.definition = .sideEffect → some ni ∈ l
  hool : ∀ c, c ∈ rs → ph c = .p0 → OolChild tree ni c

namespace Step

theorem keep (st : Step root tree G ph ph' ctx ctx' ni pn vni cs rs suf l M M') {x : Nat} (hx : ¬ Moving ph x) (hxn : x ≠ ni) :
    ph' x = ph x := by
  refine st.hother x hxn (fun hm => hx ?_)
  rcases List.mem_append.1 hm with h | h
  · exact Or.inl (st.hfreshcs x h).1
  · exact (st.hfreshrs x h).1

theorem keepAct (st : Step root tree G ph ph' ctx ctx' ni pn vni cs rs suf l M M') {x : Nat} (hx : Act ph x) (hxn : x ≠ ni) :
    ph' x = ph x := by
  rcases hx with h | h
  · exact st.keep (nm1 h) hxn
  · exact st.keep (nm2 h) hxn

theorem keep23 (st : Step root tree G ph ph' ctx ctx' ni pn vni cs rs suf l M M') {x : Nat} (hx : ph x = .p2 ∨ ph x = .p3)
    (hxn : x ≠ ni) : ph' x = ph x := by
  rcases hx with h | h
  · exact st.keep (nm2 h) hxn
  · exact st.keep (nm3 h) hxn

theorem keepR (st : Step root tree G ph ph' ctx ctx' ni pn vni cs rs suf l M M') {x : Nat} (h : ph x = .pr) : ph' x = .pr := by
  rw [st.keep (nmr h) fun e => st.hph.nepr (e ▸ h)]; exact h

theorem vni_ne1 (st : Step root tree G ph ph' ctx ctx' ni pn vni cs rs suf l M M') : vni ≠ .p1 := by
  intro h; rcases st.hv with h' | h' <;> rw [h'] at h <;> cases h

theorem cases (st : Step root tree G ph ph' ctx ctx' ni pn vni cs rs suf l M M') (x : Nat) :
    x = ni ∨ (x ∈ cs ∧ ph x = .p0) ∨ (x ∈ rs ∧ Moving ph x) ∨ (x ≠ ni ∧ x ∉ cs ++ rs) := by
  rcases Classical.em (x = ni) with h | h
  · exact Or.inl h
  · rcases Classical.em (x ∈ cs) with h1 | h1
    · exact Or.inr (Or.inl ⟨h1, (st.hfreshcs x h1).1⟩)
    · rcases Classical.em (x ∈ rs) with h2 | h2
      · exact Or.inr (Or.inr (Or.inl ⟨h2, (st.hfreshrs x h2).1⟩))
      · exact Or.inr (Or.inr (Or.inr ⟨h, fun hm => by rcases List.mem_append.1 hm with h3 | h3 <;> contradiction⟩))

theorem act' (st : Step root tree G ph ph' ctx ctx' ni pn vni cs rs suf l M M') {x : Nat} (h : Act ph' x) :
    (x = ni ∧ vni = .p2 ∧ ph ni = .p1) ∨ (x ∈ cs ∧ ph x = .p0 ∧ x ≠ ni ∧ IsChild tree ni x) ∨
    (x ≠ ni ∧ x ∉ cs ∧ Act ph x ∧ ph' x = ph x) := by
  rcases st.cases x with hx | ⟨hx, h0⟩ | ⟨hx, _⟩ | ⟨h1, h2⟩
  · subst hx
    rw [Act, st.hni'] at h
    rcases h with h | h
    · exact absurd h st.vni_ne1
    · exact Or.inl ⟨rfl, h, st.hv2 h⟩
  · exact Or.inr (Or.inl ⟨hx, h0, (st.hfreshcs x hx).2.1, (st.hfreshcs x hx).2.2⟩)
  · rcases h with h | h
    · exact absurd h (st.hrsN x hx).1
    · exact absurd h (st.hrsN x hx).2.1
  · have := st.hother x h1 h2
    refine Or.inr (Or.inr ⟨h1, fun hc => h2 (List.mem_append_left _ hc), ?_, this⟩)
    rw [Act, this] at h; exact h

theorem vis' (st : Step root tree G ph ph' ctx ctx' ni pn vni cs rs suf l M M') {x : Nat} (h : ph' x = .p2 ∨ ph' x = .p3) :
    x = ni ∨ (x ≠ ni ∧ (ph x = .p2 ∨ ph x = .p3) ∧ ph' x = ph x) := by
  rcases st.cases x with hx | ⟨hx, _⟩ | ⟨hx, _⟩ | ⟨h1, h2⟩
  · exact Or.inl hx
  · rw [st.hcs' x hx] at h; rcases h with h | h <;> cases h
  · rcases h with h | h
    · exact absurd h (st.hrsN x hx).2.1
    · exact absurd h (st.hrsN x hx).2.2
  · have := st.hother x h1 h2
    rw [this] at h
    exact Or.inr ⟨h1, h, this⟩

theorem wait' (st : Step root tree G ph ph' ctx ctx' ni pn vni cs rs suf l M M') {x : Nat} (h : ph' x = .pr ∨ ∃ o, ph' x = .pc o) :
    x ∈ rs ∨ (x ≠ ni ∧ x ∉ cs ++ rs ∧ ph' x = ph x) := by
  rcases st.cases x with hx | ⟨hx, _⟩ | ⟨hx, _⟩ | ⟨h1, h2⟩
  · subst hx
    rw [st.hni'] at h
    rcases st.hv with e | e <;> rw [e] at h <;> rcases h with h | ⟨_, h⟩ <;> cases h
  · rw [st.hcs' x hx] at h; rcases h with h | ⟨_, h⟩ <;> cases h
  · exact Or.inl hx
  · exact Or.inr ⟨h1, h2, st.hother x h1 h2⟩

theorem lift (st : Step root tree G ph ph' ctx ctx' ni pn vni cs rs suf l M M') {u v : Nat}
    (h : Above (ctx.stack.toList ++ [ni]) u v) (hu : u ≠ ni) : Above ctx'.stack.toList u v := by
  rw [st.hS]; exact above_append_left (above_init h hu)

theorem liftTop (st : Step root tree G ph ph' ctx ctx' ni pn vni cs rs suf l M M') {nodes : Nodes}
    (ho : SInv root tree G m0 ph (ctx.stack.toList ++ [ni]) nodes M) {v u : Nat}
    (h : Above (ctx.stack.toList ++ [ni]) ni v) (hs : u ∈ suf) : Above ctx'.stack.toList u v := by
  have hv' := (above_mem h).2
  have hvn : v ≠ ni := fun e => above_irrefl ho.nodup (e ▸ h)
  have : v ∈ ctx.stack.toList := by
    rcases List.mem_append.1 hv' with h1 | h1
    · exact h1
    · simp only [List.mem_singleton] at h1; exact absurd h1 hvn
  rw [st.hS]; exact above_append_mem this hs

theorem idesc_cs (st : Step root tree G ph ph' ctx ctx' ni pn vni cs rs suf l M M') {a x : Nat} (ha : G a)
    (h : IDesc tree a x) (hx : x ∈ cs) : x = a ∨ (IDesc tree a ni ∧ ILink tree ni x) := by
  rcases Classical.em (x = a) with e | e
  · exact Or.inl e
  · exact Or.inr (idesc_parent st.V ha h e st.hG (st.hfreshcs x hx).2.2)

theorem parent_cs (st : Step root tree G ph ph' ctx ctx' ni pn vni cs rs suf l M M') {y c : Nat} (hy : G y)
    (hc : IsChild tree y c) (hm : c ∈ cs) : y = ni :=
  parent_unique st.V hy st.hG hc (st.hfreshcs c hm).2.2

end Step

theorem step_sibAbove (st : Step root tree G ph ph' ctx ctx' ni pn vni cs rs suf l M M')
    (ho : SInv root tree G m0 ph (ctx.stack.toList ++ [ni]) ctx.nodes M) :
    ∀ y a b x, G y → Ord tree y a b → IDesc tree a x → Act ph' x → ph' b = .p1 ∧ Above ctx'.stack.toList x b := by
  intro y a b x hy hord hda hact
  have haG := (child_facts st.V hy hord.left.isChild).1
  rcases st.act' hact with ⟨hx, hv2, _⟩ | ⟨hx, _, _, _⟩ | ⟨hxn, _, hactx, _⟩
  · subst hx
    obtain ⟨hb1, hab⟩ := ho.sibAbove y a b x hy hord hda st.hph
    exact ⟨by rw [st.keep (nm1 hb1) (above_ne_top ho.nodup hab)]; exact hb1, st.liftTop ho hab (st.hsufni hv2)⟩
  · rcases st.idesc_cs haG hda hx with e | ⟨hdn, _⟩
    · subst e
      have := st.parent_cs hy hord.left.isChild hx
      subst this
      obtain ⟨hbcs, hab⟩ := st.hord x b hord hx
      exact ⟨st.hcs' b hbcs, by rw [st.hS]; exact above_append_right hab⟩
    · obtain ⟨hb1, hab⟩ := ho.sibAbove y a b ni hy hord hdn st.hph
      exact ⟨by rw [st.keep (nm1 hb1) (above_ne_top ho.nodup hab)]; exact hb1, st.liftTop ho hab (st.hsufcs x hx)⟩
  · obtain ⟨hb1, hab⟩ := ho.sibAbove y a b x hy hord hda hactx
    exact ⟨by rw [st.keep (nm1 hb1) (above_ne_top ho.nodup hab)]; exact hb1, st.lift hab hxn⟩

theorem step_preAbove (st : Step root tree G ph ph' ctx ctx' ni pn vni cs rs suf l M M')
    (ho : SInv root tree G m0 ph (ctx.stack.toList ++ [ni]) ctx.nodes M) :
    ∀ y c x, G y → PreC tree y c → IDesc tree c x → Act ph' x → ph' y = .p2 ∧ Above ctx'.stack.toList x y := by
  intro y c x hy hc hdc hact
  have hcG := (child_facts st.V hy hc.ilink.isChild).1
  rcases st.act' hact with ⟨hx, hv2, _⟩ | ⟨hx, _, _, _⟩ | ⟨hxn, _, hactx, _⟩
  · subst hx
    obtain ⟨hy2, hab⟩ := ho.preAbove y c x hy hc hdc st.hph
    exact ⟨by rw [st.keep (nm2 hy2) (above_ne_top ho.nodup hab)]; exact hy2, st.liftTop ho hab (st.hsufni hv2)⟩
  · rcases st.idesc_cs hcG hdc hx with e | ⟨hdn, _⟩
    · subst e
      have := st.parent_cs hy hc.ilink.isChild hx
      subst this
      obtain ⟨hv2', hab⟩ := st.hpre x hc hx
      exact ⟨by rw [st.hni']; exact hv2', by rw [st.hS]; exact above_append_right hab⟩
    · obtain ⟨hy2, hab⟩ := ho.preAbove y c ni hy hc hdn st.hph
      exact ⟨by rw [st.keep (nm2 hy2) (above_ne_top ho.nodup hab)]; exact hy2, st.liftTop ho hab (st.hsufcs x hx)⟩
  · obtain ⟨hy2, hab⟩ := ho.preAbove y c x hy hc hdc hactx
    exact ⟨by rw [st.keep (nm2 hy2) (above_ne_top ho.nodup hab)]; exact hy2, st.lift hab hxn⟩

theorem step_postBelow (st : Step root tree G ph ph' ctx ctx' ni pn vni cs rs suf l M M')
    (ho : SInv root tree G m0 ph (ctx.stack.toList ++ [ni]) ctx.nodes M) :
    ∀ y c z, G y → PostC tree y c → IDesc tree c z → Act ph' z → ph' y = .p2 → Above ctx'.stack.toList y z := by
  intro y c z hy hc hdc hact hy2
  have hcG := (child_facts st.V hy hc.ilink.isChild).1
  -- if `y` is the visited node it is in its first visit, so nothing below `c` is scheduled
  have hyni : ∀ z', IDesc tree c z' → ph z' ≠ .p0 → ph ni = .p1 → y ≠ ni := by
    intro z' hd hz0 hp1 e
    subst e
    rcases idesc_parent_visited st.V st.hinv hy hc.ilink.isChild hd hz0 with h | h <;> rw [hp1] at h <;> cases h
  rcases st.act' hact with ⟨hz, _, hp1⟩ | ⟨hz, _, _, _⟩ | ⟨hzn, _, hactz, _⟩
  · subst hz
    have hyn := hyni z hdc st.hph.ne0 hp1
    rcases st.vis' (Or.inl hy2) with e | ⟨_, _, hsame⟩
    · exact absurd e hyn
    · rw [hsame] at hy2
      exact absurd (ho.postBelow y c z hy hc hdc st.hph hy2) (above_top_false ho.nodup)
  · rcases st.idesc_cs hcG hdc hz with e | ⟨hdn, _⟩
    · subst e
      have := st.parent_cs hy hc.ilink.isChild hz
      subst this
      rw [st.hS]; exact above_append_right (st.hpost z hc hz)
    · have hp1 := st.hcs1 (List.ne_nil_of_mem hz)
      have hyn := hyni ni hdn st.hph.ne0 hp1
      rcases st.vis' (Or.inl hy2) with e | ⟨_, _, hsame⟩
      · exact absurd e hyn
      · rw [hsame] at hy2
        exact absurd (ho.postBelow y c ni hy hc hdn st.hph hy2) (above_top_false ho.nodup)
  · rcases st.vis' (Or.inl hy2) with e | ⟨hyn, _, hsame⟩
    · subst e
      have hv2 : vni = .p2 := by rw [← st.hni']; exact hy2
      exact absurd rfl (hyni z hdc hactz.ne0 (st.hv2 hv2))
    · rw [hsame] at hy2
      exact st.lift (ho.postBelow y c z hy hc hdc hactz hy2) hyn

theorem step_postAfter (st : Step root tree G ph ph' ctx ctx' ni pn vni cs rs suf l M M')
    (ho : SInv root tree G m0 ph (ctx.stack.toList ++ [ni]) ctx.nodes M) :
    ∀ y c z, G y → PostC tree y c → IDesc tree c z → (ph' z = .p2 ∨ ph' z = .p3) → ph' y = .p3 := by
  intro y c z hy hc hdc hzv
  rcases st.vis' hzv with hz | ⟨_, hzv0, _⟩
  · subst hz
    rcases idesc_parent_visited st.V st.hinv hy hc.ilink.isChild hdc st.hph.ne0 with h2 | h3
    · exact absurd (ho.postBelow y c z hy hc hdc st.hph h2) (above_top_false ho.nodup)
    · have hyn : y ≠ z := fun e => st.hph.ne3 (e ▸ h3)
      rw [st.keep (nm3 h3) hyn]; exact h3
  · have h3 := ho.postAfter y c z hy hc hdc hzv0
    have hyn : y ≠ ni := fun e => st.hph.ne3 (e ▸ h3)
    rw [st.keep (nm3 h3) hyn]; exact h3

theorem step_owner (st : Step root tree G ph ph' ctx ctx' ni pn vni cs rs suf l M M')
    (ho : SInv root tree G m0 ph (ctx.stack.toList ++ [ni]) ctx.nodes M) :
    ∀ ρ y r x, G ρ → IDesc tree ρ y → OolChild tree y r → (ph' r = .p1 ∨ ph' r = .p2 ∨ ph' r = .p3) → IDesc tree ρ x →
      ¬ Act ph' x := by
  intro ρ y r x hρ hdy hool hr hdx hact
  have hyG := idesc_G st.V hρ hdy
  have hr0 : ph r = .p1 ∨ ph r = .p2 ∨ ph r = .p3 := by
    rcases st.cases r with h | ⟨h, _⟩ | ⟨h, _⟩ | ⟨h1, h2⟩
    · subst h
      rcases st.hph with h | h
      · exact Or.inl h
      · exact Or.inr (Or.inl h)
    · have := st.parent_cs hyG hool.isChild h
      subst this
      exact absurd (st.hinl r h) (ool_not_ilink st.V hyG hool)
    · rcases hr with h' | h' | h'
      · exact absurd h' (st.hrsN r h).1
      · exact absurd h' (st.hrsN r h).2.1
      · exact absurd h' (st.hrsN r h).2.2
    · rw [st.hother r h1 h2] at hr; exact hr
  have hold := fun x' (hd : IDesc tree ρ x') => ho.owner ρ y r x' hρ hdy hool hr0 hd
  rcases st.act' hact with ⟨hx, _, _⟩ | ⟨hx, hx0, _, _⟩ | ⟨_, _, hactx, _⟩
  · subst hx; exact hold x hdx st.hph
  · rcases st.idesc_cs hρ hdx hx with e | ⟨hdn, _⟩
    · subst e
      have hrne : ph r ≠ .p0 := by rcases hr0 with h | h | h <;> rw [h] <;> intro h' <;> cases h'
      have hyv := child_visited st.V st.hinv hyG hool.isChild hrne
      have hy0 : ph y ≠ .p0 := by rcases hyv with h | h <;> rw [h] <;> intro h' <;> cases h'
      rcases idesc_climb st.V st.hinv hρ hdy hy0 with h | h
      · subst h; exact hy0 hx0
      · rw [hx0] at h; rcases h with h | h <;> cases h
    · exact hold ni hdn st.hph
  · exact hold x hdx hactx

theorem step_inl (st : Step root tree G ph ph' ctx ctx' ni pn vni cs rs suf l M M')
    (ho : SInv root tree G m0 ph (ctx.stack.toList ++ [ni]) ctx.nodes M) :
    ∀ y c, G y → ILink tree y c → ph' c ≠ .pr ∧ ∀ o, ph' c ≠ .pc o := by
  intro y c hy hc
  rcases st.cases c with h | ⟨h, _⟩ | ⟨h, hm⟩ | ⟨h1, h2⟩
  · subst h
    rw [st.hni']
    rcases st.hv with h | h <;> rw [h] <;> exact ⟨(fun h' => by cases h'), (fun o h' => by cases h')⟩
  · rw [st.hcs' c h]; exact ⟨(fun h' => by cases h'), (fun o h' => by cases h')⟩
  · rcases hm with h0 | ⟨o, ho'⟩
    · have hoo := st.hool c h h0
      have := parent_unique st.V hy st.hG hc.isChild hoo.isChild
      subst this
      exact absurd hc (ool_not_ilink st.V hy hoo)
    · exact absurd ho' ((ho.inl y c hy hc).2 o)
  · rw [st.hother c h1 h2]; exact ho.inl y c hy hc

theorem step_sinv (st : Step root tree G ph ph' ctx ctx' ni pn vni cs rs suf l M M')
    (ho : SInv root tree G m0 ph (ctx.stack.toList ++ [ni]) ctx.nodes M) :
    SInv root tree G m0 ph' ctx'.stack.toList ctx'.nodes M' := by
  refine ⟨st.hnodup', ?_, ?_, ?_, step_inl st ho, step_sibAbove st ho, step_preAbove st ho,
    step_postBelow st ho, step_postAfter st ho, step_owner st ho, ?_, ?_⟩
  · -- onStack
    intro x hx
    rcases st.act' hx with ⟨h, hv2, _⟩ | ⟨h, _, _, _⟩ | ⟨h1, _, hact, _⟩
    · subst h; rw [st.hS]; exact List.mem_append_right _ (st.hsufni hv2)
    · rw [st.hS]; exact List.mem_append_right _ (st.hsufcs x h)
    · have := ho.onStack x hact
      rw [st.hS]
      rcases List.mem_append.1 this with h3 | h3
      · exact List.mem_append_left _ h3
      · simp only [List.mem_singleton] at h3; exact absurd h3 h1
  · -- attrVisited
    intro x hx
    rcases attr_append st.hM hx with h | h
    · have hp := ho.attrVisited x h
      rcases Classical.em (x = ni) with hxn | hxn
      · subst hxn; rw [st.hni']; exact st.hv
      · rw [st.keep23 hp hxn]; exact hp
    · rcases st.hl _ h with h' | h'
      · cases h'
      · cases h'; rw [st.hni']; exact st.hv
  · -- attrLast
    intro y pn' hy hnse hattr
    rcases attr_append st.hM hattr with h | h
    · have hp := ho.attrLast y pn' hy hnse h
      have hyn : y ≠ ni := fun e => st.hph.ne3 (e ▸ hp)
      rw [st.keep (nm3 hp) hyn]; exact hp
    · rcases st.hl _ h with h' | h'
      · cases h'
      · cases h'
        rw [st.hpn] at hy; cases hy
        rw [st.hni']
        rcases st.hattr h with h3 | h3
        · exact h3
        · exact absurd h3 hnse
  · -- uninit
    intro x bn hx hxp
    rcases Classical.em (x = ni) with hxn | hxn
    · subst hxn
      rw [st.hni'] at hxp
      rcases hxp with h' | h'
      · exact absurd h' st.vni_ne1
      · rcases st.hv with h'' | h'' <;> rw [h''] at h' <;> cases h'
    · obtain ⟨h1, h2⟩ := st.huninit x bn hx hxp hxn
      rcases Classical.em (x ∈ cs ++ rs) with hm | hm
      · exact h1 hm
      · obtain ⟨bn0, hb0, hst⟩ := h2 hm
        rw [hst]
        rw [st.hother x hxn hm] at hxp
        exact ho.uninit x bn0 hb0 hxp
  · exact ho.ord.append st.hM st.hl fun _ z hp => prec_key st.V st.hinv ho st.hph hp

/-! ### side-effect blocks: the body lies between the two instructions of the block node -/

structure BInv (tree : Array ParseNode) (G : Nat → Prop) (m0 : Nat) (ph : Nat → Phase) (M : Array (Option Nat)) : Prop where
  started : ∀ (y : Nat) (pn : ParseNode), tree[y]? = some pn → pn.definition = .sideEffect → (ph y = .p2 ∨ ph y = .p3) →
    Attr m0 M y
  before : ∀ (y : Nat) (pn : ParseNode) (c x kx : Nat), G y → tree[y]? = some pn → pn.definition = .sideEffect → ILink tree y c →
    IDesc tree c x → m0 ≤ kx → M[kx]? = some (some x) → ∃ ky, m0 ≤ ky ∧ ky < kx ∧ M[ky]? = some (some y)
  after : ∀ (y : Nat) (pn : ParseNode) (c x kx : Nat), G y → tree[y]? = some pn → pn.definition = .sideEffect → ILink tree y c →
    IDesc tree c x → m0 ≤ kx → M[kx]? = some (some x) → ph y = .p3 → ∃ ky, kx < ky ∧ M[ky]? = some (some y)

theorem sideEffect_prec {y c : Nat} {pn : ParseNode} (hy : tree[y]? = some pn) (hd : pn.definition = .sideEffect)
    (hc : ILink tree y c) : PreC tree y c := by
  obtain ⟨pn', h1, h2⟩ := hc
  rw [hy] at h1; cases h1
  rcases h2 with ⟨_, h3⟩ | ⟨h3, _⟩
  · rw [hd] at h3; cases h3
  · exact ⟨pn, hy, Or.inr ⟨h3, by rw [hd]; rfl⟩⟩

theorem get_old {M M' : Array (Option Nat)} {l : List (Option Nat)} (hM : M'.toList = M.toList ++ l) {k : Nat} {v : Option Nat}
    (h : M[k]? = some v) : M'[k]? = some v := by
  have : M' = M ++ l.toArray := Array.ext' (by simpa using hM)
  rw [this]; exact getElem?_append_of_some _ _ k v h

theorem get_new {M M' : Array (Option Nat)} {l : List (Option Nat)} (hM : M'.toList = M.toList ++ l) {v : Option Nat}
    (h : v ∈ l) : ∃ k, M.size ≤ k ∧ M'[k]? = some v := by
  obtain ⟨i, hi, hv⟩ := List.getElem_of_mem h
  refine ⟨M.size + i, Nat.le_add_right _ _, ?_⟩
  have : M'.toList[M.size + i]? = some v := by
    rw [hM, List.getElem?_append_right (by simp)]
    simp [hv, hi]
  simpa using this

theorem step_binv (st : Step root tree G ph ph' ctx ctx' ni pn vni cs rs suf l M M')
    (ho : SInv root tree G m0 ph (ctx.stack.toList ++ [ni]) ctx.nodes M) (hm0 : m0 ≤ M.size) (hb : BInv tree G m0 ph M) :
    BInv tree G m0 ph' M' := by
  have hmono : ∀ y, Attr m0 M y → Attr m0 M' y := fun y ⟨k, hk, hm⟩ => ⟨k, hk, get_old st.hM hm⟩
  refine ⟨?_, ?_, ?_⟩
  · intro y pn' hy hd hyv
    rcases st.vis' hyv with e | ⟨_, hyv0, _⟩
    · subst e
      rw [st.hpn] at hy; cases hy
      obtain ⟨k, hk, hm⟩ := get_new st.hM (st.hse hd)
      exact ⟨k, by omega, hm⟩
    · exact hmono y (hb.started y pn' hy hd hyv0)
  · intro y pn' c x kx hy hpy hd hc hdc hkx hmx
    rcases get_append st.hM hmx with ⟨_, hx2⟩ | ⟨hx1, hx2⟩
    · obtain ⟨ky, h1, h2, h3⟩ := hb.before y pn' c x kx hy hpy hd hc hdc hkx hx2
      exact ⟨ky, h1, h2, get_old st.hM h3⟩
    · rcases st.hl _ hx2 with h | h
      · cases h
      · cases h
        have hyv := idesc_parent_visited st.V st.hinv hy hc.isChild hdc st.hph.ne0
        obtain ⟨ky, h1, h2⟩ := hb.started y pn' hpy hd hyv
        exact ⟨ky, h1, by have := lt_of_getElem? h2; omega, get_old st.hM h2⟩
  · intro y pn' c x kx hy hpy hd hc hdc hkx hmx hy3
    have hpc := sideEffect_prec hpy hd hc
    rcases get_append st.hM hmx with ⟨hx1, hx2⟩ | ⟨_, hx2⟩
    · rcases st.vis' (Or.inr hy3) with e | ⟨_, _, hsame⟩
      · subst e
        rw [st.hpn] at hpy; cases hpy
        obtain ⟨k, hk, hm⟩ := get_new st.hM (st.hse hd)
        exact ⟨k, by omega, hm⟩
      · rw [hsame] at hy3
        obtain ⟨ky, h1, h2⟩ := hb.after y pn' c x kx hy hpy hd hc hdc hkx hx2 hy3
        exact ⟨ky, h1, get_old st.hM h2⟩
    · rcases st.hl _ hx2 with h | h
      · cases h
      · cases h
        -- a new record for the visited node `x`, which lies below `c`
        rcases st.vis' (Or.inr hy3) with e | ⟨_, _, hsame⟩
        · have := (ho.preAbove y c ni hy hpc hdc st.hph).2
          rw [e] at this
          exact absurd this (above_irrefl ho.nodup)
        · rw [hsame] at hy3
          exact absurd st.hph (ho.preDone y c ni hy hpc hdc hy3)

end Garnish.Lemmas.BuildSeq
