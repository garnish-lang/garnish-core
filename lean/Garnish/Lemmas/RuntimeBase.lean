/-
Base lemmas for the runtime refinement (Props/RuntimeRefine*.lean): the `RM` monad, composition of effects, the
getters on decodable addresses.
-/
import Garnish.Model.Runtime.Utilities
import Garnish.Lemmas.EqualityRefine
namespace Garnish.Lemmas.Runtime
open Garnish Gen Garnish.Abs Garnish.Model.Equality Garnish.Model.Runtime
open Garnish.Lemmas.EqualityRefine (decodes_typeOf)

variable {F σ : Type} {S : RStore F σ}

theorem bind_apply {α β} (x : RM σ α) (f : α → RM σ β) (s : σ) :
    (x >>= f) s = match x s with
      | .ok (a, s') => f a s'
      | .err e => .err e
      | .panic p => .panic p
      | .fuelOut => .fuelOut := rfl

theorem bind_ok {α β} {x : RM σ α} {f : α → RM σ β} {s s' : σ} {a : α} (h : x s = .ok (a, s')) :
    (x >>= f) s = f a s' := by rw [bind_apply, h]

theorem bind_err {α β} {x : RM σ α} {f : α → RM σ β} {s : σ} {e : ErrClass} (h : x s = .err e) :
    (x >>= f) s = .err e := by rw [bind_apply, h]

theorem bind_ok2 {α β γ} {x : RM σ α} {f : α → RM σ β} {g : β → RM σ γ} {s s' : σ} {a : α}
    (h : x s = .ok (a, s')) : ((x >>= f) >>= g) s = (f a >>= g) s' := by
  rw [bind_apply, bind_ok h, ← bind_apply]

@[simp] theorem pure_apply {α} (a : α) (s : σ) : (pure a : RM σ α) s = .ok (a, s) := rfl
@[simp] theorem fail_apply {α} (e : ErrClass) (s : σ) : (RM.fail e : RM σ α) s = .err e := rfl
@[simp] theorem stateError_apply {α} (s : σ) : (stateError : RM σ α) s = .err .state := rfl
@[simp] theorem read_apply {α} (f : σ → α) (s : σ) : (RM.read f) s = .ok (f s, s) := rfl
theorem readR_ok {α} {g : σ → Outcome α} {s : σ} {a : α} (h : g s = .ok a) : RM.readR g s = .ok (a, s) := by
  simp [RM.readR, h, Outcome.bind]
theorem readR_err {α} {g : σ → Outcome α} {s : σ} {e : ErrClass} (h : g s = .err e) : RM.readR g s = .err e := by
  simp [RM.readR, h, Outcome.bind]
@[simp] theorem orNumErr_some {α} (a : α) (s : σ) : (orNumErr (some a) : RM σ α) s = .ok (a, s) := rfl
@[simp] theorem orNumErr_none {α} (s : σ) : (orNumErr (none : Option α) : RM σ α) s = .err .number := rfl

theorem _root_.Garnish.Model.Runtime.Keeps.refl (S : RStore F σ) (s : σ) : Keeps S s s := ⟨fun _ _ h => h, rfl, rfl, rfl, rfl⟩

theorem _root_.Garnish.Model.Runtime.Keeps.trans {s s1 s2 : σ} (h1 : Keeps S s s1) (h2 : Keeps S s1 s2) : Keeps S s s2 :=
  ⟨fun a v h => h2.dec a v (h1.dec a v h), h2.jump.trans h1.jump, h2.ilen.trans h1.ilen, h2.cur.trans h1.cur,
    h2.instr.trans h1.instr⟩

theorem _root_.Garnish.Model.Runtime.Eff.refl (S : RStore F σ) (s : σ) : Eff S s s (S.regs s) (S.vals s) := ⟨Keeps.refl S s, rfl, rfl, rfl, rfl⟩

theorem _root_.Garnish.Model.Runtime.Eff.trans {s s1 s2 : σ} {R1 V1 R2 V2 : List Nat} (h1 : Eff S s s1 R1 V1) (h2 : Eff S s1 s2 R2 V2) :
    Eff S s s2 R2 V2 :=
  ⟨h1.keeps.trans h2.keeps, h2.regs, h2.vals, h2.trace.trans h1.trace, h2.frames.trans h1.frames⟩

theorem _root_.Garnish.Model.Runtime.Eff.toF {s s' : σ} {R V : List Nat} (h : Eff S s s' R V) :
    FEff S s s' R V (S.frames s) := ⟨h.keeps, h.regs, h.vals, h.trace, h.frames⟩

theorem _root_.Garnish.Model.Runtime.FEff.trans {s s1 s2 : σ} {R1 V1 R2 V2 : List Nat} {Fr1 Fr2 : List (Nat × List Nat)}
    (h1 : FEff S s s1 R1 V1 Fr1) (h2 : FEff S s1 s2 R2 V2 Fr2) : FEff S s s2 R2 V2 Fr2 :=
  ⟨h1.keeps.trans h2.keeps, h2.regs, h2.vals, h2.trace.trans h1.trace, h2.frames⟩

theorem _root_.Garnish.Model.Runtime.FEff.thenEff {s s1 s2 : σ} {R1 V1 R2 V2 : List Nat} {Fr1 : List (Nat × List Nat)}
    (h1 : FEff S s s1 R1 V1 Fr1) (h2 : Eff S s1 s2 R2 V2) : FEff S s s2 R2 V2 Fr1 :=
  ⟨h1.keeps.trans h2.keeps, h2.regs, h2.vals, h2.trace.trans h1.trace, h2.frames.trans h1.frames⟩

theorem _root_.Garnish.Model.Runtime.Eff.after {s s1 s2 : σ} {R1 V1 : List Nat} (h1 : Eff S s s1 R1 V1)
    {R2 V2 : List Nat → List Nat} (h2 : Eff S s1 s2 (R2 (S.regs s1)) (V2 (S.vals s1))) :
    Eff S s s2 (R2 R1) (V2 V1) := by
  have := h1.trans h2
  rwa [h1.regs, h1.vals] at this

theorem _root_.Garnish.Model.Runtime.Eff.dec {s s' : σ} {R V : List Nat} (h : Eff S s s' R V) {a : Nat} {v : Val F}
    (d : Decodes (S.view s) a v) : Decodes (S.view s') a v := h.keeps.dec a v d

theorem getDataType_of {s : σ} {a : Nat} {v : Val F} (h : Decodes (S.view s) a v) :
    getDataType S a s = .ok (v.typeOf, s) := by
  simp [getDataType, RM.lift, decodes_typeOf h, fetch, Outcome.ofOption, Outcome.bind]

theorem getNumber_of {s : σ} {a : Nat} {n : Number F} (h : Decodes (S.view s) a (.num n)) :
    getNumber S a s = .ok (n, s) := by
  cases h with
  | num _ hn => simp [getNumber, RM.lift, hn, fetch, Outcome.ofOption, Outcome.bind]

theorem getFromJumpTable_apply (j : Nat) (s : σ) : getFromJumpTable S j s = .ok (S.jumpTable s j, s) := rfl

theorem decodesList_mapDec {v1 v2 : StoreView F} (hdec : ∀ a v, Decodes v1 a v → Decodes v2 a v) :
    ∀ {ps : List Nat} {pvs : List (Val F)}, DecodesList v1 ps pvs → DecodesList v2 ps pvs
  | [], [], .nil => .nil
  | _ :: _, _ :: _, .cons h t => .cons (hdec _ _ h) (decodesList_mapDec hdec t)

theorem decodesList_keeps {s s' : σ} (k : Keeps S s s') {ps : List Nat} {pvs : List (Val F)}
    (h : DecodesList (S.view s) ps pvs) : DecodesList (S.view s') ps pvs := decodesList_mapDec k.dec h

end Garnish.Lemmas.Runtime
