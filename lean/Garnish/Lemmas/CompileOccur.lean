/-
Occurrences: `Sub x e` — `x` occurs in `e` (in its main line or in one of its out-of-line roots; not inside a nested
`{ }` body, which is a body of its own). An occurrence of a located expression is located (`Located_sub`), with the
side conditions that the simulation needs.
-/
import Garnish.Lemmas.CompileRunLocated
namespace Garnish.Abs
open Garnish Gen Garnish.Spec

variable {F : Type}

inductive Sub : Expr F → Expr F → Prop where
  | refl (e : Expr F) : Sub e e
  | unary {x a : Expr F} (op : Instruction) : Sub x a → Sub x (.unary op a)
  | binaryL {x l : Expr F} (op : Instruction) (r : Expr F) : Sub x l → Sub x (.binary op l r)
  | binaryR {x r : Expr F} (op : Instruction) (l : Expr F) : Sub x r → Sub x (.binary op l r)
  | pairL {x l : Expr F} (r : Expr F) : Sub x l → Sub x (.pair l r)
  | pairR {x r : Expr F} (l : Expr F) : Sub x r → Sub x (.pair l r)
  | applyToX {x a : Expr F} (f : Expr F) : Sub x a → Sub x (.applyTo a f)
  | applyToF {x f : Expr F} (a : Expr F) : Sub x f → Sub x (.applyTo a f)
  | list {x a : Expr F} {items : List (Expr F)} : a ∈ items → Sub x a → Sub x (.list items)
  | condC {x c : Expr F} (b : Bool) (t : Expr F) : Sub x c → Sub x (.cond b c t)
  | condT {x t : Expr F} (b : Bool) (c : Expr F) : Sub x t → Sub x (.cond b c t)
  | chainC {x c t : Expr F} {b : Bool} {arms : List (Bool × Expr F × Expr F)} (final : Option (Expr F)) :
      (b, c, t) ∈ arms → Sub x c → Sub x (.chain arms final)
  | chainT {x c t : Expr F} {b : Bool} {arms : List (Bool × Expr F × Expr F)} (final : Option (Expr F)) :
      (b, c, t) ∈ arms → Sub x t → Sub x (.chain arms final)
  | chainF {x fe : Expr F} (arms : List (Bool × Expr F × Expr F)) : Sub x fe → Sub x (.chain arms (some fe))
  | andL {x l : Expr F} (r : Expr F) : Sub x l → Sub x (.and l r)
  | andR {x r : Expr F} (l : Expr F) : Sub x r → Sub x (.and l r)
  | orL {x l : Expr F} (r : Expr F) : Sub x l → Sub x (.or l r)
  | orR {x r : Expr F} (l : Expr F) : Sub x r → Sub x (.or l r)
  | seqL {x a : Expr F} (b : Expr F) : Sub x a → Sub x (.seq a b)
  | seqR {x b : Expr F} (a : Expr F) : Sub x b → Sub x (.seq a b)
  | sideL {x a : Expr F} (b : Expr F) : Sub x a → Sub x (.sideAfter a b)
  | sideR {x b : Expr F} (a : Expr F) : Sub x b → Sub x (.sideAfter a b)
  | reapply {x a : Expr F} : Sub x a → Sub x (.reapply a)
  | prefixApply {x a : Expr F} (sym : Nat) : Sub x a → Sub x (.prefixApply sym a)
  | suffixApply {x a : Expr F} (sym : Nat) : Sub x a → Sub x (.suffixApply a sym)
  | infixL {x a : Expr F} (sym : Nat) (b : Expr F) : Sub x a → Sub x (.infixApply a sym b)
  | infixR {x b : Expr F} (sym : Nat) (a : Expr F) : Sub x b → Sub x (.infixApply a sym b)

/-- a located occurrence with what the simulation needs to know about it -/
def Occ (P : Prog F) (cur : Nat) (x : Expr F) : Prop :=
  ∃ root pc, Located P root cur pc x ∧ wfC x = true ∧ pc + len x < P.instrs.size

theorem locList_mem {P : Prog F} {root cur : Nat} {a : Expr F} : ∀ (items : List (Expr F)) (pc : Nat),
    LocatedList P root cur pc items → a ∈ items → ∃ pc', Located P root cur pc' a ∧ pc' + len a ≤ pc + lenList items
  | [], _, _, h => by cases h
  | x :: xs, pc, hl, h => by
    simp only [LocatedList] at hl
    rcases List.mem_cons.1 h with rfl | h
    · exact ⟨pc, hl.1, by simp only [lenList]; omega⟩
    · obtain ⟨pc', h1, h2⟩ := locList_mem xs (pc + len x) hl.2 h
      exact ⟨pc', h1, by simp only [lenList]; omega⟩

theorem wfCList_mem {a : Expr F} : ∀ (items : List (Expr F)), wfCList items = true → a ∈ items → wfC a = true
  | [], _, h => by cases h
  | x :: xs, hw, h => by
    simp only [wfCList, Bool.and_eq_true] at hw
    rcases List.mem_cons.1 h with rfl | h
    · exact hw.1
    · exact wfCList_mem xs hw.2 h

theorem enFreeList_mem {a : Expr F} : ∀ (items : List (Expr F)), enFreeList items = true → a ∈ items → enFree a = true
  | [], _, h => by cases h
  | x :: xs, hw, h => by
    simp only [enFreeList, Bool.and_eq_true] at hw
    rcases List.mem_cons.1 h with rfl | h
    · exact hw.1
    · exact enFreeList_mem xs hw.2 h

theorem locArms_mem {P : Prog F} {root cur join : Nat} {b : Bool} {c t : Expr F} :
    ∀ (arms : List (Bool × Expr F × Expr F)) (pc : Nat), LocatedArms P root cur join pc arms → (b, c, t) ∈ arms →
    (∃ pc', Located P root cur pc' c ∧ pc' + len c < P.instrs.size) ∧
    (∃ j tb, Located P j cur tb t ∧ tb + len t < P.instrs.size)
  | [], _, _, h => by cases h
  | (b', c', t') :: rest, pc, hl, h => by
    simp only [LocatedArms] at hl
    obtain ⟨hlc, ⟨j, tb, hi, _, hlt, hterm⟩, hr⟩ := hl
    rcases List.mem_cons.1 h with heq | h
    · simp only [Prod.mk.injEq] at heq
      obtain ⟨rfl, rfl, rfl⟩ := heq
      rw [termsAfter_jump] at hterm
      simp only [InstrsAt, and_true] at hterm
      exact ⟨⟨pc, hlc, lt_of_getElem? hi⟩, ⟨j, tb, hlt, lt_of_getElem? hterm⟩⟩
    · exact locArms_mem rest _ hr h

theorem wfCArms_mem {b : Bool} {c t : Expr F} : ∀ (arms : List (Bool × Expr F × Expr F)), wfCArms arms = true →
    (b, c, t) ∈ arms → wfC c = true ∧ wfC t = true
  | [], _, h => by cases h
  | (b', c', t') :: rest, hw, h => by
    simp only [wfCArms, Bool.and_eq_true] at hw
    rcases List.mem_cons.1 h with heq | h
    · simp only [Prod.mk.injEq] at heq
      obtain ⟨rfl, rfl, rfl⟩ := heq
      exact ⟨hw.1.1, hw.1.2⟩
    · exact wfCArms_mem rest hw.2 h

theorem enFreeArms_mem {b : Bool} {c t : Expr F} : ∀ (arms : List (Bool × Expr F × Expr F)), enFreeArms arms = true →
    (b, c, t) ∈ arms → enFree c = true
  | [], _, h => by cases h
  | (b', c', t') :: rest, hw, h => by
    simp only [enFreeArms, Bool.and_eq_true] at hw
    rcases List.mem_cons.1 h with heq | h
    · simp only [Prod.mk.injEq] at heq
      obtain ⟨rfl, rfl, rfl⟩ := heq
      exact hw.1.1
    · exact enFreeArms_mem rest hw.2 h

theorem Located_sub {P : Prog F} {cur : Nat} {x e : Expr F} (h : Sub x e) : Occ P cur e → Occ P cur x := by
  induction h with
  | refl => exact id
  | unary op _ ih =>
    rintro ⟨root, pc, hl, hw, hlt⟩
    simp only [Located] at hl
    simp only [wfC, Bool.and_eq_true] at hw
    exact ih ⟨root, pc, hl.1, hw.2, lt_of_getElem? hl.2⟩
  | binaryL op r _ ih =>
    rintro ⟨root, pc, hl, hw, hlt⟩
    simp only [Located] at hl
    simp only [wfC, Bool.and_eq_true] at hw
    have := lt_of_getElem? hl.2.2
    have := len_pos r
    exact ih ⟨root, pc, hl.1, hw.1.2, by omega⟩
  | binaryR op l _ ih =>
    rintro ⟨root, pc, hl, hw, hlt⟩
    simp only [Located] at hl
    simp only [wfC, Bool.and_eq_true] at hw
    exact ih ⟨root, _, hl.2.1, hw.2,
      lt_of_getElem? hl.2.2⟩
  | pairL r _ ih =>
    rintro ⟨root, pc, hl, hw, hlt⟩
    simp only [Located] at hl
    simp only [wfC, Bool.and_eq_true] at hw
    exact ih ⟨root, _, hl.2.1, hw.1,
      lt_of_getElem? hl.2.2⟩
  | pairR l _ ih =>
    rintro ⟨root, pc, hl, hw, hlt⟩
    simp only [Located] at hl
    simp only [wfC, Bool.and_eq_true] at hw
    have := lt_of_getElem? hl.2.2
    have := len_pos l
    exact ih ⟨root, pc, hl.1, hw.2, by omega⟩
  | applyToX f _ ih =>
    rintro ⟨root, pc, hl, hw, hlt⟩
    simp only [Located] at hl
    simp only [wfC, Bool.and_eq_true] at hw
    exact ih ⟨root, _, hl.2.1, hw.1,
      lt_of_getElem? hl.2.2⟩
  | @applyToF f a _ ih =>
    rintro ⟨root, pc, hl, hw, hlt⟩
    simp only [Located] at hl
    simp only [wfC, Bool.and_eq_true] at hw
    have := lt_of_getElem? hl.2.2
    have := len_pos a
    exact ih ⟨root, pc, hl.1, hw.2, by omega⟩
  | @list a items hmem _ ih =>
    rintro ⟨root, pc, hl, hw, hlt⟩
    simp only [Located] at hl
    simp only [wfC] at hw
    obtain ⟨pc', h1, h2⟩ := locList_mem items pc hl.1 hmem
    have := lt_of_getElem? hl.2
    exact ih ⟨root, pc', h1, wfCList_mem items hw hmem, by omega⟩
  | condC b t _ ih =>
    rintro ⟨root, pc, hl, hw, hlt⟩
    simp only [Located] at hl
    simp only [wfC, Bool.and_eq_true] at hw
    obtain ⟨hlc, j, join, tb, hi, _⟩ := hl
    exact ih ⟨root, pc, hlc, hw.1,
      lt_of_getElem? hi⟩
  | @condT t b c _ ih =>
    rintro ⟨root, pc, hl, hw, hlt⟩
    simp only [Located] at hl
    simp only [wfC, Bool.and_eq_true] at hw
    obtain ⟨_, j, join, tb, _, _, _, _, _, hlt', hterm⟩ := hl
    rw [termsAfter_jump] at hterm
    simp only [InstrsAt, and_true] at hterm
    exact ih ⟨j, tb, hlt', hw.2, lt_of_getElem? hterm⟩
  | @chainC c t b arms final hmem _ ih =>
    rintro ⟨root, pc, hl, hw, hlt⟩
    rw [Located_chain] at hl
    rw [wfC_chain] at hw
    simp only [Bool.and_eq_true] at hw
    obtain ⟨join, hla, _, _⟩ := hl
    obtain ⟨⟨pc', h1, h2⟩, _⟩ := locArms_mem arms pc hla hmem
    exact ih ⟨root, pc', h1, (wfCArms_mem arms hw.1 hmem).1, h2⟩
  | @chainT c t b arms final hmem _ ih =>
    rintro ⟨root, pc, hl, hw, hlt⟩
    rw [Located_chain] at hl
    rw [wfC_chain] at hw
    simp only [Bool.and_eq_true] at hw
    obtain ⟨join, hla, _, _⟩ := hl
    obtain ⟨_, ⟨j, tb, h1, h2⟩⟩ := locArms_mem arms pc hla hmem
    obtain ⟨_, w2⟩ := wfCArms_mem arms hw.1 hmem
    exact ih ⟨j, tb, h1, w2, h2⟩
  | @chainF fe arms _ ih =>
    rintro ⟨root, pc, hl, hw, hlt⟩
    rw [Located_chain] at hl
    rw [wfC_chain] at hw
    simp only [Bool.and_eq_true] at hw
    obtain ⟨join, _, hlf, _⟩ := hl
    have hend : pc + len (.chain arms (some fe)) = pc + lenArms arms + len fe := by rw [len_chain]; simp only; omega
    exact ih ⟨root, _, hlf, hw.2,
      by omega⟩
  | andL r _ ih =>
    rintro ⟨root, pc, hl, hw, hlt⟩
    simp only [Located] at hl
    simp only [wfC, Bool.and_eq_true] at hw
    obtain ⟨hll, j, join, tb, hi, _⟩ := hl
    exact ih ⟨root, pc, hll, hw.1,
      lt_of_getElem? hi⟩
  | @andR r l _ ih =>
    rintro ⟨root, pc, hl, hw, hlt⟩
    simp only [Located] at hl
    simp only [wfC, Bool.and_eq_true] at hw
    obtain ⟨_, j, join, tb, _, _, _, _, hlr, hterm⟩ := hl
    rw [termsAfter_tis] at hterm
    simp only [InstrsAt, and_true] at hterm
    exact ih ⟨j, tb, hlr, hw.2, lt_of_getElem? hterm.1⟩
  | orL r _ ih =>
    rintro ⟨root, pc, hl, hw, hlt⟩
    simp only [Located] at hl
    simp only [wfC, Bool.and_eq_true] at hw
    obtain ⟨hll, j, join, tb, hi, _⟩ := hl
    exact ih ⟨root, pc, hll, hw.1,
      lt_of_getElem? hi⟩
  | @orR r l _ ih =>
    rintro ⟨root, pc, hl, hw, hlt⟩
    simp only [Located] at hl
    simp only [wfC, Bool.and_eq_true] at hw
    obtain ⟨_, j, join, tb, _, _, _, _, hlr, hterm⟩ := hl
    rw [termsAfter_tis] at hterm
    simp only [InstrsAt, and_true] at hterm
    exact ih ⟨j, tb, hlr, hw.2, lt_of_getElem? hterm.1⟩
  | seqL b _ ih =>
    rintro ⟨root, pc, hl, hw, hlt⟩
    simp only [Located] at hl
    simp only [wfC, Bool.and_eq_true] at hw
    exact ih ⟨root, pc, hl.1, hw.1,
      lt_of_getElem? hl.2.1⟩
  | @seqR b a _ ih =>
    rintro ⟨root, pc, hl, hw, hlt⟩
    simp only [Located] at hl
    simp only [wfC, Bool.and_eq_true] at hw
    have hend : pc + len (.seq a b) = pc + len a + 1 + len b := by simp only [len]; omega
    exact ih ⟨root, _, hl.2.2, hw.2, by omega⟩
  | sideL b _ ih =>
    rintro ⟨root, pc, hl, hw, hlt⟩
    simp only [Located] at hl
    simp only [wfC, Bool.and_eq_true] at hw
    exact ih ⟨root, pc, hl.1, hw.1.1,
      lt_of_getElem? hl.2.1⟩
  | sideR a _ ih =>
    rintro ⟨root, pc, hl, hw, hlt⟩
    simp only [Located] at hl
    simp only [wfC, Bool.and_eq_true] at hw
    exact ih ⟨root, _, hl.2.2.1, hw.1.2,
      lt_of_getElem? hl.2.2.2⟩
  | reapply _ ih =>
    rintro ⟨root, pc, hl, hw, hlt⟩
    simp only [Located] at hl
    simp only [wfC] at hw
    exact ih ⟨root, pc, hl.1, hw, lt_of_getElem? hl.2.1⟩
  | prefixApply sym _ ih =>
    rintro ⟨root, pc, hl, hw, hlt⟩
    simp only [Located] at hl
    simp only [wfC] at hw
    exact ih ⟨root, _, hl.2.1, hw, lt_of_getElem? hl.2.2⟩
  | suffixApply sym _ ih =>
    rintro ⟨root, pc, hl, hw, hlt⟩
    simp only [Located] at hl
    simp only [wfC] at hw
    exact ih ⟨root, _, hl.2.1, hw, lt_of_getElem? hl.2.2⟩
  | @infixL a sym b _ ih =>
    rintro ⟨root, pc, hl, hw, hlt⟩
    simp only [Located] at hl
    simp only [wfC, Bool.and_eq_true] at hw
    have := lt_of_getElem? hl.2.2.2.1
    have := len_pos b
    exact ih ⟨root, _, hl.2.1, hw.1, by omega⟩
  | infixR sym a _ ih =>
    rintro ⟨root, pc, hl, hw, hlt⟩
    simp only [Located] at hl
    simp only [wfC, Bool.and_eq_true] at hw
    exact ih ⟨root, _, hl.2.2.1, hw.2,
      lt_of_getElem? hl.2.2.2.1⟩

theorem Occ.ofEnv {P : Prog F} {bodies : List (Nat × Expr F)} (env : Env P bodies) {id : Nat} {b : Expr F}
    (hb : lookupBody bodies id = some b) : Occ P id b := by
  obtain ⟨t, _, hloc, hwf, hend⟩ := env.body id b hb
  exact ⟨id, t, hloc, hwf, lt_of_getElem? hend⟩

end Garnish.Abs
