/-
The run. `run_follows` is the run induction, once, for any relation a step theorem maintains. `RunOKG ok`: the coverage
predicate `ok` holds along a run; `executeLoop_spec_gen`: a step theorem for the instructions `ok` allows (over any store,
with any invariant `Inv`) gives the run theorem for the runs `ok` allows. Its instances: `executeLoop_spec_on`
(relativised contract, first coverage group `MachOKOn`) and `executeLoop_spec` (the unrelativised contract: trivial
invariant, `ok := MachOK`, the constants loaded).
-/
import Garnish.Model.Runtime.Run
import Garnish.Props.RuntimeRefineTrace
import Garnish.Lemmas.RuntimeStepAll
import Garnish.Props.RuntimeRefineStep
namespace Garnish.Lemmas.Runtime
open Garnish Gen Garnish.Abs Garnish.Model.Equality Garnish.Model.Runtime Garnish.Props.RuntimeRefine

variable {F σ : Type} {S : RStore F σ} {P : Prog F} {host : Host F} (fo : FloatOps F)

/-- with the constants loaded, the machine-only side condition is the whole side condition -/
theorem stepOKF_of_machOK (L : StoreLawsRun S) {fuel : Nat} {s : σ} {m : MState F} {instr : Instruction}
    {operand : Option Nat} (hl : Loaded S P s) (h : MachOK fo P fuel m instr operand) :
    StepOKF fo S P fuel s m instr operand := by
  cases instr <;> first
    | exact h
    | trivial
    | (intro k hk v hv; exact ⟨L.dataBound s k v (hl k v hv), hl k v hv⟩)
    | (intro k hk key hkey; exact ⟨hl k key hkey, h k key hk hkey⟩)

theorem loaded_kept {s s' : σ} (hl : Loaded S P s) (hk : DecKept S s s') : Loaded S P s' :=
  fun k v h => hk k v (hl k v h)

theorem runOK_of_static (fuel : Nat) (hs : StaticOK P) : ∀ (n : Nat) (m : MState F), RunOK fo host P fuel n m
  | 0, _ => trivial
  | n + 1, m => ⟨fun instr operand hf => by
      have := hs m.pc instr operand hf
      cases instr <;> first | trivial | (simp [isDynamic] at this),
    fun m' _ => runOK_of_static fuel hs n m'⟩

/-- The run induction, once. `R` relates the two states while the run goes on, `D` when it has ended, `ok n` says the
next `n` steps are covered; a step theorem in these terms gives the run theorem. -/
theorem run_follows {R D : σ → MState F → Prop} {ok : Nat → MState F → Prop} (fuel : Nat) (H : OtherHandlers σ)
    (hnext : ∀ n m m1, ok (n + 1) m → Abs.step fo host P m = .running m1 → ok n m1)
    (hstep : ∀ n s m, R s m → ok (n + 1) m →
      match Abs.step fo host P m with
      | .running m1 => ∃ s1, executeCurrentInstruction fo S fuel H s = .ok (.running, s1) ∧ R s1 m1
      | .halted m1 => ∃ s1, executeCurrentInstruction fo S fuel H s = .ok (.end_, s1) ∧ D s1 m1
      | .err _ => True) :
    ∀ (n : Nat) (s : σ) (m : MState F), R s m → ok n m →
      ∀ (m' : MState F) (k : Nat), Abs.run fo host P n m = (.halted m', k) →
        ∃ s', executeLoop fo S fuel H n s = .ok ((.end_, k), s') ∧ D s' m' := by
  intro n
  induction n with
  | zero => intro s m _ _ m' k h; simp [Abs.run] at h
  | succ n ih =>
    intro s m hr hok m' k hrun
    have hs := hstep n s m hr hok
    rw [Abs.run] at hrun
    cases hst : Abs.step fo host P m with
    | running m1 =>
      rw [hst] at hs hrun
      obtain ⟨s1, h1, hr1⟩ := hs
      simp only [] at hrun
      cases hrn : Abs.run fo host P n m1 with
      | mk r k' =>
        rw [hrn] at hrun
        simp only [Prod.mk.injEq] at hrun
        obtain ⟨rfl, rfl⟩ := hrun
        obtain ⟨s2, h2, hd2⟩ := ih s1 m1 hr1 (hnext n m m1 hok hst) m' k' hrn
        refine ⟨s2, ?_, hd2⟩
        rw [executeLoop, bind_ok h1]
        simp only []
        rw [bind_ok h2]; rfl
    | halted m1 =>
      rw [hst] at hs hrun
      obtain ⟨s1, h1, hd1⟩ := hs
      simp only [Prod.mk.injEq, StepRes.halted.injEq] at hrun
      obtain ⟨rfl, rfl⟩ := hrun
      exact ⟨s1, by rw [executeLoop, bind_ok h1]; rfl, hd1⟩
    | err e =>
      rw [hst] at hrun
      simp at hrun

theorem step_both_loaded (L : StoreLawsRun S) (HR : HostRefines S host) (fuel : Nat) (cast : RM σ (Option Nat))
    {s : σ} {m : MState F} (hsim : Sim S P s m) (hl : Loaded S P s)
    (hmach : ∀ instr operand, P.instrs[m.pc]? = some (instr, operand) → MachOK fo P fuel m instr operand) :
    StepBoth fo host S P fuel (fullHandlers fo S fuel cast) s m := by
  cases hf : P.instrs[m.pc]? with
  | none => exact ⟨C01_refine_step_end fo fuel _ hsim hf, C17_refine_step_trace_end fo fuel _ hsim hf⟩
  | some p =>
    obtain ⟨instr, operand⟩ := p
    exact refine_step_full_both fo L.toStoreLaws HR fuel cast hsim hf (stepOKF_of_machOK fo L hl (hmach instr operand hf))

end Garnish.Lemmas.Runtime

namespace Garnish.Lemmas.Runtime.On
open Garnish Gen Garnish.Abs Garnish.Model.Equality Garnish.Model.Runtime Garnish.Lemmas.Runtime
open Garnish.Props.RuntimeRefine

variable {F σ : Type} {S : RStore F σ} {Inv : σ → Prop} {Rd : σ → Nat → Prop} {P : Prog F} {host : Host F}
  (fo : FloatOps F)

theorem stepSimOn_of_err (fuel : Nat) (H : OtherHandlers σ) (s : σ) {m : MState F} {e : ErrClass}
    (h : Abs.step fo host P m = .err e) : StepSimOn fo host S Inv P fuel H s m := by
  unfold StepSimOn; rw [h]; trivial

macro "machine_errs_on" fo:term "," fuel:term "," H:term "," s:term "," hfetch:ident "," e:term "," "[" hs:Lean.Parser.Tactic.simpLemma,* "]" : tactic =>
  `(tactic| (refine stepSimOn_of_err $fo $fuel $H $s (e := $e) ?_; unfold Abs.step; rw [$hfetch:ident]; first | done | simp [$hs,*]))

/-- the side conditions along a run of `n` steps -/
def RunOKOn (host : Host F) (P : Prog F) : Nat → MState F → Prop
  | 0, _ => True
  | n + 1, m =>
    (∀ instr operand, P.instrs[m.pc]? = some (instr, operand) → MachOKOn P m instr operand) ∧
    ∀ m', Abs.step fo host P m = .running m' → RunOKOn host P n m'

theorem refine_step_end_on (fuel : Nat) (H : OtherHandlers σ) {s : σ} {m : MState F} (hsim : Sim S P s m) (hi : Inv s)
    (hfetch : P.instrs[m.pc]? = none) : StepSimOn fo host S Inv P fuel H s m :=
  (Core.step_end fo fuel H hsim hi hfetch).on

/-- the coverage predicate `ok` holds at every instruction a run of `n` steps executes -/
def RunOKG (ok : MState F → Instruction → Option Nat → Prop) (host : Host F) (P : Prog F) : Nat → MState F → Prop
  | 0, _ => True
  | n + 1, m =>
    (∀ instr operand, P.instrs[m.pc]? = some (instr, operand) → ok m instr operand) ∧
    ∀ m', Abs.step fo host P m = .running m' → RunOKG ok host P n m'

section
variable {fo} {ok : MState F → Instruction → Option Nat → Prop} {m m' : MState F} {i : Instruction} {o : Option Nat}

theorem RunOKG.step (hf : P.instrs[m.pc]? = some (i, o)) (hok : ok m i o) (hst : Abs.step fo host P m = .running m')
    (hr : ∀ k, RunOKG fo ok host P k m') : ∀ k, RunOKG fo ok host P k m
  | 0 => trivial
  | k + 1 => ⟨fun _ _ hf' => by rw [hf] at hf'; cases hf'; exact hok, fun _ h => by rw [hst] at h; cases h; exact hr k⟩

theorem RunOKG.halt (hf : P.instrs[m.pc]? = some (i, o)) (hok : ok m i o) (hst : Abs.step fo host P m = .halted m') :
    ∀ k, RunOKG fo ok host P k m
  | 0 => trivial
  | _ + 1 => ⟨fun _ _ hf' => by rw [hf] at hf'; cases hf'; exact hok, fun _ h => by rw [hst] at h; cases h⟩
end

theorem runOKOn_of_runOKG : ∀ (k : Nat) (m : MState F), RunOKG fo (MachOKOn P) host P k m → RunOKOn fo host P k m
  | 0, _, _ => trivial
  | k + 1, _, h => ⟨h.1, fun m' hst => runOKOn_of_runOKG k m' (h.2 m' hst)⟩

theorem runOKG_of_runOKOn : ∀ (k : Nat) (m : MState F), RunOKOn fo host P k m → RunOKG fo (MachOKOn P) host P k m
  | 0, _, _ => trivial
  | k + 1, _, h => ⟨h.1, fun m' hst => runOKG_of_runOKOn k m' (h.2 m' hst)⟩

theorem runOKG_of_runOK (fuel : Nat) :
    ∀ (k : Nat) (m : MState F), RunOK fo host P fuel k m → RunOKG fo (MachOK fo P fuel) host P k m
  | 0, _, _ => trivial
  | k + 1, _, h => ⟨h.1, fun m' hst => runOKG_of_runOK fuel k m' (h.2 m' hst)⟩

/-- MULTI-STEP: the address-level loop follows the machine's run to its end; the invariant holds at the end -/
theorem executeLoop_spec_gen (ok : MState F → Instruction → Option Nat → Prop) (fuel : Nat) (H : OtherHandlers σ)
    (hstep : ∀ (s : σ) (m : MState F) instr operand, Sim S P s m → Inv s → Loaded S P s →
      P.instrs[m.pc]? = some (instr, operand) → ok m instr operand → StepSimOn fo host S Inv P fuel H s m) :
    ∀ (n : Nat) (s : σ) (m : MState F), Sim S P s m → Inv s → Loaded S P s → RunOKG fo ok host P n m →
      ∀ (m' : MState F) (k : Nat), Abs.run fo host P n m = (.halted m', k) →
        ∃ s', executeLoop fo S fuel H n s = .ok ((.end_, k), s') ∧
          SimD S P s' m'.regs m'.vals m'.frames ∧ DecKept S s s' ∧ Inv s' := by
  intro n s m hsim hi hl hok m' k hrun
  refine run_follows fo (R := fun s1 m1 => Sim S P s1 m1 ∧ Inv s1 ∧ Loaded S P s1 ∧ DecKept S s s1)
    (D := fun s1 m1 => SimD S P s1 m1.regs m1.vals m1.frames ∧ DecKept S s s1 ∧ Inv s1) (ok := RunOKG fo ok host P)
    fuel H (fun _ _ m1 h hst => h.2 m1 hst) (fun _ s1 m1 ⟨hs1, i1, hl1, hk1⟩ h => ?_)
    n s m ⟨hsim, hi, hl, fun _ _ x => x⟩ hok m' k hrun
  have hss : StepSimOn fo host S Inv P fuel H s1 m1 := by
    cases hf : P.instrs[m1.pc]? with
    | none => exact refine_step_end_on fo fuel H hs1 i1 hf
    | some p => exact hstep s1 m1 p.1 p.2 hs1 i1 hl1 hf (h.1 p.1 p.2 hf)
  unfold StepSimOn at hss
  revert hss
  cases Abs.step fo host P m1 with
  | running m2 =>
    intro ⟨s2, h2, hs2, hk2, i2⟩
    exact ⟨s2, h2, hs2, i2, loaded_kept hl1 hk2, fun a v x => hk2 a v (hk1 a v x)⟩
  | halted m2 =>
    intro ⟨s2, h2, hd2, hk2, i2⟩
    exact ⟨s2, h2, hd2, fun a v x => hk2 a v (hk1 a v x), i2⟩
  | err e => intro _; trivial

theorem executeLoop_spec_on (L : StoreLawsOn S Inv Rd) (fuel : Nat) (H : OtherHandlers σ) :
    ∀ (n : Nat) (s : σ) (m : MState F), Sim S P s m → Inv s → Loaded S P s → RunOKOn fo host P n m →
      ∀ (m' : MState F) (k : Nat), Abs.run fo host P n m = (.halted m', k) →
        ∃ s', executeLoop fo S fuel H n s = .ok ((.end_, k), s') ∧
          SimD S P s' m'.regs m'.vals m'.frames ∧ DecKept S s s' ∧ Inv s' :=
  fun n s m hsim hi hl hok =>
    executeLoop_spec_gen fo (MachOKOn P) fuel H (fun _ _ _ _ hs hi hl hf hk => refine_step_on fo L fuel H hs hi hl hf hk)
      n s m hsim hi hl (runOKG_of_runOKOn fo n m hok)

theorem simD_final {s' : σ} {m' : MState F} (hd : SimD S P s' m'.regs m'.vals m'.frames) {v : Val F}
    (hv : m'.vals = [v]) (hr : m'.regs = []) (hf : m'.frames = []) :
    ∃ a, S.vals s' = [a] ∧ Decodes (S.view s') a v ∧ S.regs s' = [] ∧ S.frames s' = [] := by
  have hvals := hd.vals
  rw [hv] at hvals
  obtain ⟨a, as, e1, da, t⟩ := decodesList_cons_inv hvals
  have has : as = [] := by cases t; rfl
  have hregs := hd.regs
  rw [hr] at hregs
  have hfr := hd.frames
  rw [hf] at hfr
  refine ⟨a, by rw [e1, has], da, ?_, ?_⟩
  · generalize S.regs s' = rs at hregs; cases hregs; rfl
  · generalize S.frames s' = fs at hfr; cases hfr; rfl

end Garnish.Lemmas.Runtime.On

namespace Garnish.Lemmas.Runtime
open Garnish Gen Garnish.Abs Garnish.Model.Equality Garnish.Model.Runtime Garnish.Props.RuntimeRefine

variable {F σ : Type} {S : RStore F σ} {P : Prog F} {host : Host F} (fo : FloatOps F)

theorem stepSimOn_of_stepSim {fuel : Nat} {H : OtherHandlers σ} {s : σ} {m : MState F}
    (h : StepSim fo host S P fuel H s m) : On.StepSimOn fo host S (fun _ => True) P fuel H s m := by
  unfold StepSim at h; unfold On.StepSimOn
  revert h
  cases Abs.step fo host P m <;> simp only [and_true] <;> exact id

theorem executeLoop_spec (L : StoreLawsRun S) (HR : HostRefines S host) (fuel : Nat) (cast : RM σ (Option Nat))
    (n : Nat) (s : σ) (m : MState F) (hsim : Sim S P s m) (hl : Loaded S P s) (hok : RunOK fo host P fuel n m)
    (m' : MState F) (k : Nat) (hrun : Abs.run fo host P n m = (.halted m', k)) :
    ∃ s', executeLoop fo S fuel (fullHandlers fo S fuel cast) n s = .ok ((.end_, k), s') ∧
      SimD S P s' m'.regs m'.vals m'.frames ∧ DecKept S s s' := by
  obtain ⟨s', h1, h2, h3, _⟩ := On.executeLoop_spec_gen (Inv := fun _ => True) fo (MachOK fo P fuel) fuel _
    (fun s m i o hs _ hl hf hk => stepSimOn_of_stepSim fo
      (refine_step_full_both fo L.toStoreLaws HR fuel cast hs hf (stepOKF_of_machOK fo L hl hk)).1)
    n s m hsim trivial hl (On.runOKG_of_runOK fo fuel n m hok) m' k hrun
  exact ⟨s', h1, h2, h3⟩

end Garnish.Lemmas.Runtime
