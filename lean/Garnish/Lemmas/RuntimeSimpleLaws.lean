/-
`SimpleGarnishData` as a store: the clauses of the contract beyond the adders.  Frames are `StackFrame` cells on the register
`Vec`, so `pop_register` refuses one on top (`TopOpen`) and `pop_frame` without a frame drains the registers;
`merge_to_symbol_list` answers `Err` on a number operand where `Abs.mergeSymList` merges.  `StoreLaws` as stated is NOT met in
four places: `merge_number_left_errs`, `pop_dangling_errs`, `pop_under_frame_errs`, `popFrameNil_fails`.
-/
import Garnish.Lemmas.RuntimeSimple
namespace Garnish.Lemmas.Runtime.Simple
open Garnish Gen Garnish.Model.Equality Garnish.Model.Runtime Garnish.Lemmas.Runtime

section
variable {F : Type} {hit : List (SimCell F) → SimCell F → Option Nat} {h : SimHost F}

theorem sym_inv {cells : List (SimCell F)} {a s : Nat} (hd : Decodes (simView cells) a (.sym s : Val F)) :
    cells[a]? = some (.sym s) := by
  cases hd with
  | sym _ hs => exact cell_of_symbol hs

theorem symList_inv {cells : List (SimCell F)} {a : Nat} {ps : List (SymPart F)}
    (hd : Decodes (simView cells) a (.symList ps)) : ∃ ss, cells[a]? = some (.symList ss) ∧ ps = ss.map SymPart.sym := by
  cases hd with
  | symList _ hs => exact cell_of_symList hs

theorem num_inv {cells : List (SimCell F)} {a : Nat} {n : Number F} (hd : Decodes (simView cells) a (.num n)) :
    cells[a]? = some (.num n) := by
  cases hd with
  | num _ hs => exact cell_of_number hs

theorem addsI_congr {m m' : RM (SimState F) Nat} {st : SimState F} {v : Val F} (he : m st = m' st)
    (ha : AddsI hit h m' st v) : AddsI hit h m st v := by
  obtain ⟨a, st', h1, rest⟩ := ha; exact ⟨a, st', he ▸ h1, rest⟩

section merge
variable {st : SimState F} (hinv : SInv st) {l r : Nat} {vl vr v : Val F}
  (hl : Decodes (simView st.cells) l vl) (hr : Decodes (simView st.cells) r vr)
include hinv hl hr

theorem merge_law (hm : Abs.mergeSymList vl vr = some v) (nl : ∀ n, vl ≠ .num n) (nr : ∀ n, vr ≠ .num n) :
    AddsI hit h ((simpleRStore hit h).mergeToSymbolList l r) st v := by
  have new : ∀ ss : List Nat, AddsI hit h (SimState.push (.symList ss)) st (.symList (ss.map SymPart.sym)) :=
    fun ss => push_adds hinv _ (dec_symList (new_cell _ _))
  cases vl with
  | num n => exact absurd rfl (nl n)
  | sym s1 =>
    have h1 := sym_inv hl
    cases vr with
    | num n => exact absurd rfl (nr n)
    | sym s2 =>
      cases hm
      exact addsI_congr (by simp only [simpleRStore, h1, sym_inv hr]) (new [s1, s2])
    | symList ps =>
      cases hm
      obtain ⟨ss, h2, rfl⟩ := symList_inv hr
      exact addsI_congr (by simp only [simpleRStore, h1, h2]) (new (s1 :: ss))
    | _ => cases hm
  | symList ps =>
    obtain ⟨ss1, h1, rfl⟩ := symList_inv hl
    cases vr with
    | num n => exact absurd rfl (nr n)
    | sym s2 =>
      cases hm
      have := new (ss1 ++ [s2]); rw [List.map_append] at this
      exact addsI_congr (by simp only [simpleRStore, h1, sym_inv hr]) this
    | symList ps2 =>
      cases hm
      obtain ⟨ss2, h2, rfl⟩ := symList_inv hr
      have := new (ss1 ++ ss2); rw [List.map_append] at this
      exact addsI_congr (by simp only [simpleRStore, h1, h2]) this
    | _ => cases hm
  | _ => cases hm

end merge

/-- where the contract asks for a merge (`Abs.mergeSymList` accepts numbers as parts), Simple answers `Err` -/
theorem merge_number_left_errs {st : SimState F} {l r : Nat} {n : Number F} (hl : Decodes (simView st.cells) l (.num n)) :
    (simpleRStore hit h).mergeToSymbolList l r st = .err .data := by
  have h1 := num_inv hl
  simp only [simpleRStore, h1]


theorem startList_law {st : SimState F} (hinv : SInv st) (n : Nat) :
    ∃ t st', (simpleRStore hit h).startList n st = .ok (t, st') ∧
      Eff (simpleRStore hit h) st st' ((simpleRStore hit h).regs st) ((simpleRStore hit h).vals st) ∧
      (simpleRStore hit h).building st' = some (t, []) ∧ SInv st' :=
  ⟨0, { st with currentList := some [] }, rfl, eff_ext hinv (ext_refl _) rfl rfl rfl rfl rfl rfl, rfl,
    sinv_ext hinv (ext_refl _) rfl⟩

theorem addToList_law {st : SimState F} (hinv : SInv st) {t : Nat} {items : List Nat} (a : Nat)
    (hb : (simpleRStore hit h).building st = some (t, items)) :
    ∃ t' st', (simpleRStore hit h).addToList t a st = .ok (t', st') ∧
      Eff (simpleRStore hit h) st st' ((simpleRStore hit h).regs st) ((simpleRStore hit h).vals st) ∧
      (simpleRStore hit h).building st' = some (t', items ++ [a]) ∧ SInv st' := by
  simp only [simpleRStore] at hb
  cases hc : st.currentList with
  | none => rw [hc] at hb; cases hb
  | some xs =>
    rw [hc] at hb; cases hb
    refine ⟨0, { st with currentList := some (items ++ [a]) }, ?_,
      eff_ext hinv (ext_refl _) rfl rfl rfl rfl rfl rfl, rfl, sinv_ext hinv (ext_refl _) rfl⟩
    simp only [simpleRStore, hc]

theorem dec_list {cells : List (SimCell F)} {a : Nat} {items : List Nat} {vs : List (Val F)}
    (hc : cells[a]? = some (.list items)) (hd : DecodesList (simView cells) items vs) :
    Decodes (simView cells) a (.list vs) :=
  .list (typeOf_cell hc) (by dsimp only [simView]; rw [hc]) hd

theorem endList_law {st : SimState F} (hinv : SInv st) {t : Nat} {items : List Nat} {vs : List (Val F)}
    (hb : (simpleRStore hit h).building st = some (t, items)) (hd : DecodesList (simView st.cells) items vs) :
    AddsI hit h ((simpleRStore hit h).endList t) st (.list vs) := by
  simp only [simpleRStore] at hb
  cases hc : st.currentList with
  | none => rw [hc] at hb; cases hb
  | some xs =>
    rw [hc] at hb; cases hb
    refine addsI_congr ?_ (push_adds hinv (.list items)
      (dec_list (new_cell _ _) (decodesList_mono (viewLe_ext (ext_append _ _)) hd)))
    simp only [simpleRStore, hc, SimState.push]

theorem popRegisterBuilding_law {st st' : SimState F} {o : Option Nat}
    (hp : (simpleRStore hit h).popRegister st = .ok (o, st')) :
    (simpleRStore hit h).building st' = (simpleRStore hit h).building st := by
  simp only [simpleRStore] at hp ⊢
  cases hr : st.register with
  | nil => simp only [hr] at hp; cases hp; rfl
  | cons a rest =>
    simp only [hr] at hp
    split at hp <;> cases hp
    rfl


theorem rangeTyped_law (st : SimState F) (a : Nat) (p : Nat × Nat)
    (hr : ((simpleRStore hit h).view st).range a = some p) :
    ((simpleRStore hit h).view st).typeOf a = some .range :=
  typeOf_cell (cell_of_range hr)

theorem simIdx_nat (i : Nat) : simIdx (i : Int) = i := by
  unfold simIdx; rw [if_pos (Int.natCast_nonneg i)]; exact Int.toNat_natCast i

theorem simIdx_eq (v : Int) (hv : v < 18446744073709551616) : simIdx v = Access.Simple.asUsize v := by
  unfold simIdx Access.Simple.asUsize
  split
  · rw [Int.emod_eq_of_lt (by assumption) hv]
  · rfl

theorem listIdx_law (st : SimState F) :
    Indexes ((simpleRStore hit h).listLen st) ((simpleRStore hit h).listItem st)
      ((simpleRStore hit h).view st).listItems := by
  intro a xs hx
  have hc := cell_of_listItems hx
  simp only [simpleRStore, hc]
  exact ⟨trivial, fun i _ => by simp only [simIdx_nat]⟩

theorem charIdx_law (st : SimState F) :
    Indexes ((simpleRStore hit h).charLen st) ((simpleRStore hit h).charItem st)
      ((simpleRStore hit h).view st).chars := by
  intro a xs hx
  have hc := cell_of_chars hx
  simp only [simpleRStore, hc]
  exact ⟨trivial, fun i hi => by simp only [simIdx_nat, List.getElem?_eq_getElem hi]⟩

theorem byteIdx_law (st : SimState F) :
    Indexes ((simpleRStore hit h).byteLen st) ((simpleRStore hit h).byteItem st)
      ((simpleRStore hit h).view st).bytes := by
  intro a xs hx
  have hc := cell_of_bytes hx
  simp only [simpleRStore, hc]
  exact ⟨trivial, fun i hi => by simp only [simIdx_nat, List.getElem?_eq_getElem hi]⟩

theorem symIdx_law (st : SimState F) :
    Indexes ((simpleRStore hit h).symLen st) ((simpleRStore hit h).symItem st)
      ((simpleRStore hit h).view st).symList := by
  intro a xs hx
  obtain ⟨ss, hc, rfl⟩ := cell_of_symList hx
  simp only [simpleRStore, hc]
  refine ⟨by simp only [List.length_map], fun i hi => ?_⟩
  rw [List.length_map] at hi
  simp only [simIdx_nat, List.getElem?_eq_getElem hi, List.getElem?_map, Option.map]
end

section
variable {F : Type} {hit : List (SimCell F) → SimCell F → Option Nat} {h : SimHost F}

local notation "S" => simpleRStore hit h

theorem keeps_same {st st' : SimState F} (hcells : st'.cells = st.cells) (hj : st'.jumps = st.jumps)
    (hi : st'.instrs = st.instrs) (hc : st'.cursor = st.cursor) : Keeps (simpleRStore hit h) st st' :=
  keeps_ext (by rw [hcells]; exact ext_refl _) hj hi hc

/-- the top of the register `Vec` is not a `StackFrame` (`pop_register` refuses one) -/
def TopOpen (st : SimState F) : Prop :=
  match st.register with
  | [] => True
  | a :: _ => isFrame st.cells a = false

theorem flatRegs_cons_open {cells : List (SimCell F)} {a : Nat} {rest : List Nat} (ha : isFrame cells a = false) :
    flatRegs cells (a :: rest) = a :: flatRegs cells rest := by
  unfold flatRegs; rw [List.filter_cons, ha]; rfl

theorem flatRegs_cons_frame {cells : List (SimCell F)} {a : Nat} {rest : List Nat} (ha : isFrame cells a = true) :
    flatRegs cells (a :: rest) = flatRegs cells rest := by
  unfold flatRegs; rw [List.filter_cons, ha]; rfl

theorem framesOf_cons_open {cells : List (SimCell F)} {a : Nat} {rest : List Nat} (ha : isFrame cells a = false) :
    framesOf cells (a :: rest) = framesOf cells rest := by
  unfold isFrame at ha
  rw [framesOf]
  cases hc : cells[a]? with
  | none => rfl
  | some c => rw [hc] at ha; cases c <;> first | rfl | cases ha

theorem framesOf_cons_frame {cells : List (SimCell F)} {a : Nat} {rest : List Nat} (ha : isFrame cells a = true) :
    ∃ ret, framesOf cells (a :: rest) = (ret, flatRegs cells rest) :: framesOf cells rest := by
  unfold isFrame at ha
  rw [framesOf]
  cases hc : cells[a]? with
  | none => rw [hc] at ha; cases ha
  | some c => rw [hc] at ha; cases c <;> first | (cases ha; done) | exact ⟨_, rfl⟩

theorem pushRegister_law {st : SimState F} (hinv : SInv st) {a : Nat} (ha : a < st.cells.length)
    (hf : isFrame st.cells a = false) :
    ∃ st', (S).pushRegister a st = .ok ((), st') ∧ Eff (S) st st' (a :: (S).regs st) ((S).vals st) ∧ SInv st' ∧
      TopOpen st' := by
  refine ⟨{ st with register := a :: st.register }, rfl, ⟨keeps_same rfl rfl rfl rfl, ?_, rfl, rfl, ?_⟩,
    ⟨hinv.seeded, ?_⟩, hf⟩
  · exact flatRegs_cons_open hf
  · exact framesOf_cons_open hf
  · intro b hb
    cases hb with
    | head => exact ha
    | tail _ hb => exact hinv.regs b hb

theorem register_nil_of {st : SimState F} (ho : TopOpen st) (hr : (S).regs st = []) : st.register = [] := by
  cases hreg : st.register with
  | nil => rfl
  | cons a rest =>
    unfold TopOpen at ho; rw [hreg] at ho
    have : (S).regs st = a :: flatRegs st.cells rest := by
      show flatRegs st.cells st.register = _
      rw [hreg]; exact flatRegs_cons_open ho
    rw [hr] at this; cases this

theorem popRegisterNil_law {st : SimState F} (ho : TopOpen st) (hr : (S).regs st = []) :
    ∃ st', (S).popRegister st = .ok (none, st') ∧ Eff (S) st st' [] ((S).vals st) ∧ st' = st := by
  have hreg := register_nil_of ho hr
  refine ⟨st, ?_, ⟨keeps_same rfl rfl rfl rfl, hr, rfl, rfl, rfl⟩, rfl⟩
  simp only [simpleRStore, hreg]

theorem popRegisterCons_law {st : SimState F} (hinv : SInv st) (ho : TopOpen st) {a : Nat} {rest : List Nat}
    (hr : (S).regs st = a :: rest) :
    ∃ st', (S).popRegister st = .ok (some a, st') ∧ Eff (S) st st' rest ((S).vals st) ∧ SInv st' := by
  cases hreg : st.register with
  | nil =>
    have : (S).regs st = [] := by show flatRegs st.cells st.register = _; rw [hreg]; rfl
    rw [hr] at this; cases this
  | cons b below =>
    unfold TopOpen at ho; rw [hreg] at ho
    have hflat : (S).regs st = b :: flatRegs st.cells below := by
      show flatRegs st.cells st.register = _
      rw [hreg]; exact flatRegs_cons_open ho
    rw [hr] at hflat
    obtain ⟨rfl, rfl⟩ := List.cons.inj hflat
    have hb : a < st.cells.length := hinv.regs a (by rw [hreg]; exact List.mem_cons_self ..)
    have hcell : st.cells[a]? = some st.cells[a] := List.getElem?_eq_getElem hb
    refine ⟨{ st with register := below }, ?_, ⟨keeps_same rfl rfl rfl rfl, rfl, rfl, rfl, ?_⟩, ⟨hinv.seeded, ?_⟩⟩
    · have ho' : isFrame st.cells a = false := ho
      unfold isFrame at ho'
      simp only [simpleRStore, hreg]
      generalize st.cells[a]? = oc at hcell ho'
      cases hcell
      generalize st.cells[a] = c at ho'
      cases c <;> first | rfl | cases ho'
    · show framesOf st.cells below = framesOf st.cells st.register
      rw [hreg]; exact (framesOf_cons_open ho).symm
    · intro c hc; exact hinv.regs c (by rw [hreg]; exact List.mem_cons_of_mem _ hc)


theorem setCursor_law (n : Nat) (st : SimState F) :
    ∃ st', (S).setInstructionCursor n st = .ok ((), st') ∧ (S).cursor st' = n ∧
      (∀ a v, Decodes ((S).view st) a v → Decodes ((S).view st') a v) ∧ (S).jumpTable st' = (S).jumpTable st ∧
      (S).instrLen st' = (S).instrLen st ∧ (S).instruction st' = (S).instruction st ∧
      (S).dataLen st' = (S).dataLen st ∧
      (S).regs st' = (S).regs st ∧ (S).vals st' = (S).vals st ∧ (S).trace st' = (S).trace st ∧
      (S).frames st' = (S).frames st :=
  ⟨{ st with cursor := n }, rfl, rfl, fun _ _ hd => hd, rfl, rfl, rfl, rfl, rfl, rfl, rfl, rfl⟩

theorem records_law (c : HostCall) : Records (S) (SimState.hostCall h c) c := by
  intro st b st' hcall
  simp only [SimState.hostCall] at hcall
  cases hcall; rfl
end

section
variable {F : Type} {hit : List (SimCell F) → SimCell F → Option Nat} {h : SimHost F}

local notation "S" => simpleRStore hit h

theorem isFrame_new (cells : List (SimCell F)) (j : Nat) : isFrame (cells ++ [.stackFrame j]) cells.length = true := by
  unfold isFrame; rw [new_cell]

theorem pushFrame_law {st : SimState F} (hinv : SInv st) (j : Nat) :
    ∃ st', (S).pushFrame j st = .ok ((), st') ∧
      FEff (S) st st' ((S).regs st) ((S).vals st) ((j, (S).regs st) :: (S).frames st) ∧ SInv st' ∧
      st'.currentList = st.currentList := by
  have hext := ext_append st.cells (.stackFrame j)
  refine ⟨{ st with cells := st.cells ++ [.stackFrame j], register := st.cells.length :: st.register }, rfl,
    ⟨keeps_ext hext rfl rfl rfl, ?_, rfl, rfl, ?_⟩, ⟨(sinv_ext hinv hext (st' := { st with cells := _ }) rfl).seeded, ?_⟩,
    rfl⟩
  · show flatRegs _ (st.cells.length :: st.register) = flatRegs st.cells st.register
    rw [flatRegs_cons_frame (isFrame_new _ _)]; exact flatRegs_ext hext hinv.regs
  · show framesOf _ (st.cells.length :: st.register) = _
    rw [framesOf, new_cell]
    show (j, flatRegs _ st.register) :: framesOf _ st.register = _
    rw [flatRegs_ext hext hinv.regs, framesOf_ext hext hinv.regs]; rfl
  · intro b hb
    show b < (st.cells ++ [SimCell.stackFrame j]).length
    rw [List.length_append]
    cases hb with
    | head => simp
    | tail _ hb => have := hinv.regs b hb; simp; omega

theorem popFrameGo_frames {cells : List (SimCell F)} : ∀ {reg : List Nat}, RegsOK cells reg →
    (framesOf cells reg = [] → popFrameGo cells reg = .ok (none, [])) ∧
    ∀ {ret : Nat} {saved : List Nat} {fs : List (Nat × List Nat)}, framesOf cells reg = (ret, saved) :: fs →
      ∃ rest, popFrameGo cells reg = .ok (some ret, rest) ∧ flatRegs cells rest = saved ∧ framesOf cells rest = fs ∧
        RegsOK cells rest := by
  intro reg
  induction reg with
  | nil => exact fun _ => ⟨fun _ => rfl, by intro _ _ _ hf; cases hf⟩
  | cons a below ih =>
    intro hok
    have ha : a < cells.length := hok a (List.mem_cons_self ..)
    have hb : RegsOK cells below := fun b hb => hok b (List.mem_cons_of_mem _ hb)
    have hcell : cells[a]? = some cells[a] := List.getElem?_eq_getElem ha
    rw [framesOf, popFrameGo]
    generalize cells[a]? = oc at hcell
    cases hcell
    generalize cells[a] = c
    cases c
    case stackFrame r => exact ⟨fun hf => (by cases hf), by intro _ _ _ hf; cases hf; exact ⟨below, rfl, rfl, rfl, hb⟩⟩
    all_goals exact ih hb

theorem popFrameCons_law {st : SimState F} (hinv : SInv st) {ret : Nat} {saved : List Nat}
    {fs : List (Nat × List Nat)} (hf : (S).frames st = (ret, saved) :: fs) :
    ∃ st', (S).popFrame st = .ok (some ret, st') ∧ FEff (S) st st' saved ((S).vals st) fs ∧ SInv st' ∧
      st'.currentList = st.currentList := by
  obtain ⟨rest, hgo, h1, h2, h3⟩ := (popFrameGo_frames hinv.regs).2 hf
  refine ⟨{ st with register := rest }, ?_, ⟨keeps_same rfl rfl rfl rfl, h1, rfl, rfl, h2⟩, ⟨hinv.seeded, h3⟩, rfl⟩
  simp only [simpleRStore, hgo]

theorem popFrame_drains {st : SimState F} (hinv : SInv st) (hf : (S).frames st = []) :
    (S).popFrame st = .ok (none, { st with register := [] }) := by
  have hgo := (popFrameGo_frames hinv.regs).1 hf
  simp only [simpleRStore, hgo]

/-- so `StoreLaws.popFrameNil` holds when there is no register (with one it fails: `popFrameNil_fails`) -/
theorem popFrameNil_law {st : SimState F} (hinv : SInv st) (hf : (S).frames st = []) (hr : (S).regs st = []) :
    ∃ st', (S).popFrame st = .ok (none, st') ∧ Eff (S) st st' ((S).regs st) ((S).vals st) ∧ SInv st' :=
  ⟨_, popFrame_drains hinv hf, ⟨keeps_same rfl rfl rfl rfl, hr.symm, rfl, rfl, hf.symm⟩,
    ⟨hinv.seeded, fun _ hb => by cases hb⟩⟩

theorem dataBound_law (st : SimState F) (a : Nat) (v : Val F) (hd : Decodes ((S).view st) a v) : a < (S).dataLen st :=
  dec_lt hd


theorem sinv_init : SInv (SimState.init : SimState F) :=
  ⟨⟨rfl, rfl, rfl⟩, fun _ hb => by cases hb⟩

/-- `push_register` takes any number; `pop_register` then looks the address up: a register that is no data address
makes it fail, where `StoreLaws.pushRegister` / `popRegisterCons` (for ALL `a`) promise `Some(a)` -/
theorem pop_dangling_errs (st : SimState F) {a : Nat} (ha : st.cells.length ≤ a) :
    ∃ st', (S).pushRegister a st = .ok ((), st') ∧ (S).popRegister st' = .err .data := by
  refine ⟨_, rfl, ?_⟩
  simp only [simpleRStore, List.getElem?_eq_none_iff.mpr ha]

/-- after `push_frame` the top of the register `Vec` is the `StackFrame`: `pop_register` fails although the contract's
register view (unchanged by `push_frame`) is not empty -/
theorem pop_under_frame_errs {st : SimState F} (j : Nat) :
    ∃ st', (S).pushFrame j st = .ok ((), st') ∧ (S).popRegister st' = .err .data := by
  refine ⟨_, rfl, ?_⟩
  simp only [simpleRStore, new_cell]

/-- `StoreLaws.popFrameNil` fails in a state that satisfies `SInv`: one register, no frame -/
theorem popFrameNil_fails :
    ∃ st : SimState F, SInv st ∧ (S).frames st = [] ∧
      ¬ ∃ st', (S).popFrame st = .ok (none, st') ∧ Eff (S) st st' ((S).regs st) ((S).vals st) := by
  have hinv : SInv { (SimState.init : SimState F) with register := [0] } := ⟨⟨rfl, rfl, rfl⟩, by
    intro b hb; cases hb with
    | head => exact Nat.zero_lt_succ _
    | tail _ hb => cases hb⟩
  refine ⟨_, hinv, rfl, ?_⟩
  rintro ⟨st', hp, he⟩
  rw [popFrame_drains hinv rfl] at hp
  cases hp
  cases he.regs
end

end Garnish.Lemmas.Runtime.Simple
