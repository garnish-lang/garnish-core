/-
The reversed walk of `clone_index_stack`: the loop invariant (`CInv`), one iteration (`cloneLoop_one`), `clone_data` phase
by phase (`cloneData_walk`) and `cloneData_preserves`.
-/
import Garnish.Lemmas.OptimizeArms
import Garnish.Lemmas.OptimizeIndex
namespace Garnish.BasicOpt
open Garnish

/-- `n` is a faithful copy of `o`: same label, same inline cells, links established by the loop -/
def CloneOf (s0 : Array Cell) (cur : Store) (lo hi o n : Nat) : Prop :=
  ∀ sh, shape s0 o = some sh → ∃ sh', shape cur.cells n = some sh' ∧ sh'.label = sh.label ∧ sh'.inl = sh.inl ∧
    AllRel (Link cur lo hi) sh.kids sh'.kids

/-- what a map entry `(o, n)` means: `o` is retained and kept in place, or `n + off` is the position of a
faithful copy behind the index list (`off` = the distance the copies are slid down afterwards) -/
def Good (off : Nat) (s0 : Array Cell) (cur : Store) (lo hi o n : Nat) : Prop :=
  (n = o ∧ o < cur.retention) ∨ ∃ ni, hi ≤ ni ∧ n + off = ni ∧ CloneOf s0 cur lo hi o ni

/-- heaps without list cells (no theorem needs it: `cloneCell_shape_list` covers the list arm under
`ListsWF`) -/
def NoLists (cells : Array Cell) : Prop := ∀ (i n k : Nat), cells[i]? ≠ some (.list n k)

/-- where a link of a freshly copied cell at position `j` may lead: to a readable retained address, or (after
the slide by `off`) to a readable cell that was copied earlier -/
def Target (off : Nat) (cur : Store) (hi k' j : Nat) : Prop :=
  (k' < cur.retention ∧ ∃ sh, shape cur.cells k' = some sh) ∨
  (hi ≤ k' + off ∧ k' + off < j ∧ ∃ sh, shape cur.cells (k' + off) = some sh)

/-- a cell behind the index list: a list header has `k ≤ n`; it is never a node, or it is a node whose links are
`Target`s -/
def FreshOK (off : Nat) (cur : Store) (hi j : Nat) : Prop :=
  ∃ c, cur.cells[j]? = some c ∧ (∀ n k, c = .list n k → k ≤ n) ∧
    (neverNode c = true ∨ ∃ sh, shape cur.cells j = some sh ∧ ∀ k' ∈ sh.kids, Target off cur hi k' j)

/-- what the index phase guarantees when it is started on nodes of a block whose links lead to nodes -/
def FreshPre (s0 : Array Cell) (s1 : Store) (top hi : Nat) : Prop :=
  KidsNodes s0 ∧ ∀ j, top ≤ j → j < hi → ∀ o, s1.cells[j]? = some (.cloneItem o) → ∃ sh, shape s0 o = some sh

theorem Target.mono {off : Nat} {cur cur' : Store} {hi k' j : Nat} (hret : cur'.retention = cur.retention)
    (hag : AgreeNC cur.cells cur'.cells) (h : Target off cur hi k' j) : Target off cur' hi k' j := by
  rcases h with ⟨h1, sh, h2⟩ | ⟨h1, h2, sh, h3⟩
  · exact Or.inl ⟨by rw [hret]; exact h1, sh, shape_agree hag h2⟩
  · exact Or.inr ⟨h1, h2, sh, shape_agree hag h3⟩

theorem FreshOK.mono {off : Nat} {cur cur' : Store} {hi j : Nat} (hcell : cur'.cells[j]? = cur.cells[j]?)
    (hret : cur'.retention = cur.retention) (hag : AgreeNC cur.cells cur'.cells) (h : FreshOK off cur hi j) :
    FreshOK off cur' hi j := by
  obtain ⟨c, h1, h2, h3⟩ := h
  refine ⟨c, by rw [hcell]; exact h1, h2, ?_⟩
  rcases h3 with h3 | ⟨sh, h4, h5⟩
  · exact Or.inl h3
  · exact Or.inr ⟨sh, shape_agree hag h4, fun k' hk' => (h5 k' hk').mono hret hag⟩

/-- invariant of the reversed walk: positions `≥ top + k` of the index list are processed.  `s0`: the cells the walk was
started on (never rewritten); `s1`: the store after the index phase, whose index list occupies `top .. hi`; `cur`: the
store now, `k` entries to go; `off`: the distance the copies are slid down afterwards (0 for `clone_data`) -/
structure CInv (off : Nat) (s0 : Array Cell) (s1 : Store) (top hi k : Nat) (cur : Store) : Prop where
  agree0 : ∀ (i : Nat) (c : Cell), s0[i]? = some c → cur.cells[i]? = some c
  start : cur.start = s1.start
  ret : cur.retention = s1.retention
  hiLe : hi ≤ cur.cells.size
  bound : top + k ≤ hi
  pending : ∀ j, j < top + k → j < hi → cur.cells[j]? = s1.cells[j]?
  done : ∀ j, top + k ≤ j → j < hi → ∃ o n, cur.cells[j]? = some (.cloneIndexMap o n) ∧
    s1.cells[j]? = some (.cloneItem o) ∧ Good off s0 cur (top + k) hi o n
  fresh : FreshPre s0 s1 top hi → ∀ j, hi ≤ j → j < cur.cells.size → FreshOK off cur hi j

theorem CInv.cell_eq {off : Nat} {s0 : Array Cell} {s1 cur : Store} {top hi k i : Nat}
    (hinv : CInv off s0 s1 top hi k cur) (h : i < s0.size) : cur.cells[i]? = s0[i]? := by
  rw [Array.getElem?_eq_getElem h]
  exact hinv.agree0 i _ (Array.getElem?_eq_getElem h)

theorem Link.mono {cur cur' : Store} {lo lo' hi x x' : Nat} (hlo : lo' ≤ lo) (hret : cur'.retention = cur.retention)
    (hcells : ∀ j, lo ≤ j → j < hi → cur'.cells[j]? = cur.cells[j]?) (h : Link cur lo hi x x') :
    Link cur' lo' hi x x' := by
  rcases h with ⟨h1, h2⟩ | ⟨j, h1, h2, h3⟩
  · exact Or.inl ⟨h1, by rw [hret]; exact h2⟩
  · exact Or.inr ⟨j, by omega, h2, by rw [hcells j h1 h2]; exact h3⟩

theorem CInv.good_of_link {off : Nat} {s0 : Array Cell} {s1 cur : Store} {top hi x x' : Nat}
    (hinv : CInv off s0 s1 top hi 0 cur) (hl : Link cur top hi x x') : Good off s0 cur top hi x x' := by
  rcases hl with ⟨rfl, hxr⟩ | ⟨j, hj1, hj2, hjc⟩
  · exact Or.inl ⟨rfl, hxr⟩
  · obtain ⟨o, n, hcell, _, hg⟩ := hinv.done j (by omega) hj2
    rw [hjc] at hcell
    cases hcell
    exact hg

theorem Good.mono {off : Nat} {s0 : Array Cell} {cur cur' : Store} {lo lo' hi o n : Nat} (hlo : lo' ≤ lo)
    (hret : cur'.retention = cur.retention)
    (hcells : ∀ j, lo ≤ j → j < hi → cur'.cells[j]? = cur.cells[j]?)
    (hag : AgreeNC cur.cells cur'.cells) (h : Good off s0 cur lo hi o n) : Good off s0 cur' lo' hi o n := by
  rcases h with ⟨h1, h2⟩ | ⟨ni, hni1, hni2, h⟩
  · exact Or.inl ⟨h1, by rw [hret]; exact h2⟩
  · refine Or.inr ⟨ni, hni1, hni2, ?_⟩
    intro sh hsh
    obtain ⟨sh', h1, h2, h3, h4⟩ := h sh hsh
    exact ⟨sh', shape_agree hag h1, h2, h3, AllRel.imp (fun a b hab => Link.mono hlo hret hcells hab) h4⟩

theorem pushLast_ge : ∀ (cs : List Cell) (s s' : Store) (last r : Nat), cs ≠ [] →
    Store.pushLast s cs last = .ok (s', r) → s.cells.size ≤ r
  | [], _, _, _, _, h, _ => absurd rfl h
  | [c], s, s', last, r, _, h => by
    simp only [Store.pushLast, Outcome.bind_eq_ok'] at h
    obtain ⟨⟨s1, i1⟩, h1, h2⟩ := h
    simp only [Outcome.ok.injEq, Prod.mk.injEq] at h2
    have := (push_ok h1).1
    omega
  | c :: d :: cs, s, s', last, r, _, h => by
    simp only [Store.pushLast, Outcome.bind_eq_ok'] at h
    obtain ⟨⟨s1, i1⟩, h1, h2⟩ := h
    have := pushLast_ge (d :: cs) s1 s' i1 r (by simp) (by simpa [Store.pushLast, Outcome.bind_eq_ok'] using h2)
    have hsz := (push_ext 0 h1).mono
    omega

theorem relink_ne {s : Store} {ls le index : Nat} {c : Cell} {cs : List Cell}
    (h : Store.relink s ls le index c = .ok cs) : cs ≠ [] := by
  cases c <;> simp only [Store.relink, Outcome.bind_eq_ok', Outcome.pure_eq_ok_iff] at h <;> try (simp at h; done)
  all_goals (
    first
      | (obtain ⟨_, _, _, _, _, _, h⟩ := h; subst h; simp)
      | (obtain ⟨_, _, _, _, h⟩ := h; subst h; simp)
      | (obtain ⟨_, _, h⟩ := h; subst h; simp))

theorem cloneCell_index_ge {s s' : Store} {ls le index r : Nat} {c : Cell}
    (h : Store.cloneCell s ls le index c = .ok (s', r)) : s.cells.size ≤ r := by
  unfold Store.cloneCell at h
  split at h
  all_goals first
    | (have := (push_ok h).1; omega)
    | (simp only [Outcome.bind_eq_ok', Outcome.pure_eq_ok_iff, Prod.mk.injEq] at h
       obtain ⟨⟨s1, i1⟩, h1, s2, h2, h3, h4⟩ := h
       have := (push_ok h1).1
       omega)
    | (simp at h; done)
    | (simp only [Outcome.bind_eq_ok'] at h
       obtain ⟨cells, h1, h2⟩ := h
       exact pushLast_ge _ _ _ _ _ (relink_ne h1) h2)

theorem setCell_cells {s s' : Store} {i : Nat} {c : Cell} (h : Store.setCell s i c = .ok s') :
    i < s.cells.size ∧ s'.cells = s.cells.setIfInBounds i c ∧ SameFrame s s' := by
  unfold Store.setCell at h
  split at h
  · simp only [Outcome.ok.injEq] at h
    subst h
    exact ⟨by assumption, rfl, SameFrame.rfl' _⟩
  · simp at h

/-- what one iteration of the reversed walk does: entry `index` at position `top + k` gets the mapping `nw`
(store `cur2`: after the optional copy; `s2`: after the map entry is written) -/
structure CStep (off : Nat) (s0 : Array Cell) (s1 : Store) (top hi k : Nat) (cur : Store) (index : Nat)
    (cur2 : Store) (nw : Nat) (s2 : Store) : Prop where
  item : cur.cells[top + k]? = some (.cloneItem index)
  ext : Ext (top + k + 1) cur cur2
  keep : ∀ j, j < cur.cells.size → cur2.cells[j]? = cur.cells[j]?
  good : Good off s0 cur2 (top + k + 1) hi index nw
  news : FreshPre s0 s1 top hi → ∀ j, cur.cells.size ≤ j → j < cur2.cells.size →
    j = nw + off ∨ ∃ d, cur2.cells[j]? = some d ∧ SideCell d
  other : ∀ j, j ≠ top + k → s2.cells[j]? = cur2.cells[j]?
  size2 : s2.cells.size = cur2.cells.size
  frame2 : SameFrame cur2 s2
  agree2 : AgreeNC cur2.cells s2.cells

/-- `off = 0` is `clone_data`; for `optimize` the offset is applied to every new index because the retention count lies
below the index list -/
theorem cloneLoop_one {off : Nat} {s0 : Array Cell} {s1 : Store} {top hi : Nat} (htop : s0.size ≤ top)
    (hnl : ListsWF s0) (hcase : off = 0 ∨ s1.retention ≤ hi) (k : Nat) (cur s' : Store)
    (hinv : CInv off s0 s1 top hi (k + 1) cur)
    (h : Store.cloneLoop off (s1.start + hi) top (k + 1) cur = .ok s') :
    ∃ index cur2 nw s2, CStep off s0 s1 top hi k cur index cur2 nw s2 ∧ CInv off s0 s1 top hi k s2 ∧
      Store.cloneLoop off (s1.start + hi) top k s2 = .ok s' := by
  simp only [Store.cloneLoop, Outcome.bind_eq_ok'] at h
  obtain ⟨ci, hgi, h2⟩ := h
  have hci := get_ok hgi
  split at h2
  · rename_i index
    simp only [Outcome.bind_eq_ok'] at h2
    obtain ⟨existing, hex, ⟨cur2, nw⟩, h3, s2, hset, hrest⟩ := h2
    have hstart : cur.start + (top + k) + 1 = cur.start + (top + k + 1) := by omega
    rw [hstart, ← hinv.start] at hex
    rw [hstart, ← hinv.start] at h3
    -- `key`: what the optional clone produces (store `cur2`, mapping `nw`) before the map entry is written at `top + k`;
    -- after it, the fields of `CInv` for `k` are re-established with `setCell` changing that one cell
    have key : Ext (top + k + 1) cur cur2 ∧ (∀ j, j < cur.cells.size → cur2.cells[j]? = cur.cells[j]?) ∧
        Good off s0 cur2 (top + k + 1) hi index nw ∧
        (FreshPre s0 s1 top hi → ∀ j, cur.cells.size ≤ j → j < cur2.cells.size → FreshOK off cur2 hi j) ∧
        (FreshPre s0 s1 top hi → ∀ j, cur.cells.size ≤ j → j < cur2.cells.size →
          j = nw + off ∨ ∃ d, cur2.cells[j]? = some d ∧ SideCell d) := by
      -- a mapping that exists already is retained or was written by a processed position, whose `Good` is `hinv.done`;
      -- otherwise the cell is cloned: the copy stands at `nw + off` and its looked-up links become `Link`s the same way
      cases existing with
      | some j' =>
        simp only [pure, Outcome.ok.injEq, Prod.mk.injEq] at h3
        obtain ⟨hc2, hni⟩ := h3
        subst hc2; subst hni
        refine ⟨Ext.refl _ _, fun _ _ => rfl, ?_, fun _ j h1 h2 => by omega, fun _ j h1 h2 => by omega⟩
        rcases lookupOpt_link hex with ⟨h1, h1'⟩ | ⟨j, h1, h2, hcell⟩
        · exact Or.inl ⟨h1, h1'⟩
        · obtain ⟨o, n, hcell', _, hgood⟩ := hinv.done j (by omega) h2
          rw [hcell] at hcell'
          simp only [Option.some.injEq, Cell.cloneIndexMap.injEq] at hcell'
          obtain ⟨ho, hn⟩ := hcell'
          subst ho; subst hn
          have hk : top + (k + 1) = top + k + 1 := by omega
          rw [hk] at hgood
          exact hgood
      | none =>
        simp only [Outcome.bind_eq_ok'] at h3
        obtain ⟨c, hgc, ⟨cur2', ni'⟩, hclone, h4⟩ := h3
        have hge := cloneCell_index_ge hclone
        have hext := cloneCell_ext (top + k + 1) hclone
        -- the branch `ni' < retention` of the loop is dead: the copy lies behind `hi`, and `retention ≤ hi` unless `off = 0`
        have hni : cur2' = cur2 ∧ nw + off = ni' := by
          split at h4
          · rename_i hlt
            simp only [pure, Outcome.ok.injEq, Prod.mk.injEq] at h4
            refine ⟨h4.1, ?_⟩
            rcases hcase with h0 | hr
            · omega
            · have e1 := hext.frame.1
              have e2 := hinv.ret
              have e3 := hinv.hiLe
              exfalso
              have hlt' : ni' < cur2'.retention := hlt
              omega
          · split at h4
            · simp at h4
            · simp only [pure, Outcome.ok.injEq, Prod.mk.injEq] at h4
              refine ⟨h4.1, ?_⟩
              omega
        obtain ⟨hc2, hni⟩ := hni
        subst hc2
        have hkeep : ∀ j, j < cur.cells.size → cur2'.cells[j]? = cur.cells[j]? :=
          fun j hj => (cloneCell_ext (j + 1) hclone).keep j (by omega) hj
        have hagc : AgreeNC cur.cells cur2'.cells := by
          intro j d hj _
          have hjl : j < cur.cells.size := lt_of_getElem? hj
          rw [hkeep j hjl]; exact hj
        have hi_lt' : top + k < hi := by have := hinv.bound; omega
        -- the copy, for whatever node the item names …
        have hcopy : ∀ sh, shape s0 index = some sh →
            (∃ sh', shape cur2'.cells ni' = some sh' ∧ sh'.label = sh.label ∧ sh'.inl = sh.inl ∧
              AllRel (LinkVia cur (cur.start + (top + k + 1)) (cur.start + hi)) sh.kids sh'.kids) ∧
            Others cur cur2' ni' := by
          intro sh hsh
          obtain ⟨c0, hc0⟩ := shape_cell hsh
          have hcc : c = c0 := by
            have := hinv.agree0 index c0 hc0
            rw [get_ok hgc] at this
            exact Option.some.inj this
          subst hcc
          exact cloneCell_copy hinv.agree0 hc0 hsh (fun n k hck => hnl index n k (by rw [hc0, hck])) hclone
        -- … and it names one when the index list names nodes only
        have hitem : FreshPre s0 s1 top hi → ∃ sh, shape s0 index = some sh := fun hpre =>
          hpre.2 (top + k) (by omega) hi_lt' index (by rw [← hinv.pending (top + k) (by omega) hi_lt']; exact hci)
        refine ⟨hext, hkeep, Or.inr ⟨ni', by have := hinv.hiLe; omega, hni, ?_⟩, ?_, ?_⟩
        rotate_left
        · intro hpre j hj1 hj2
          have hkn := hpre.1
          obtain ⟨sh, hsh⟩ := hitem hpre
          obtain ⟨⟨sh', g1, g2, g3, g4⟩, hoth⟩ := hcopy sh hsh
          by_cases hjn : j = ni'
          · subst hjn
            obtain ⟨c'', hc''⟩ := shape_cell g1
            refine ⟨c'', hc'', ?_, Or.inr ⟨sh', g1, ?_⟩⟩
            · intro n k' hck
              subst hck
              have hl1 : sh'.label = .list n k' := by
                unfold shape at g1; rw [hc''] at g1
                simp only at g1
                split at g1
                · simp only [Option.some.injEq] at g1; rw [← g1]
                · simp at g1
              have := label_list hsh (by rw [← g2]; exact hl1)
              exact hnl index n k' this
            · intro k' hk'
              obtain ⟨x, hx, st, hgr, hab⟩ := AllRel.right_mem g4 k' hk'
              obtain ⟨shx, hshx⟩ := hkn index sh hsh x hx
              have hxcur : ∃ sh2, shape cur2'.cells x = some sh2 :=
                ⟨shx, shape_agree hagc (shape_agree (agreeNC_of_all hinv.agree0) hshx)⟩
              rw [← hgr.frame.2.1] at hab
              have hl := lookup_link hab
              rcases hl with ⟨h1, h2⟩ | ⟨j', h1, h2, h3⟩
              · subst h1
                exact Or.inl ⟨by rw [hext.frame.1, ← hgr.frame.1]; exact h2, hxcur⟩
              · rw [hgr.keep j' (by have := hinv.hiLe; omega) (by have := hinv.hiLe; omega)] at h3
                obtain ⟨o, n, hcell', _, hgood⟩ := hinv.done j' (by omega) h2
                rw [h3] at hcell'
                simp only [Option.some.injEq, Cell.cloneIndexMap.injEq] at hcell'
                obtain ⟨ho, hn⟩ := hcell'
                subst ho; subst hn
                rcases hgood with ⟨e1, e2⟩ | ⟨ni2, e1, e2, e3⟩
                · subst e1
                  exact Or.inl ⟨by rw [hext.frame.1]; exact e2, hxcur⟩
                · obtain ⟨sh2, f1, _, _, _⟩ := e3 shx hshx
                  have hb := shape_bound f1
                  exact Or.inr ⟨by omega, by omega, sh2, by rw [e2]; exact shape_agree hagc f1⟩
          · obtain ⟨d, hd, hside⟩ := hoth j hj1 hj2 hjn
            refine ⟨d, hd, ?_, ?_⟩
            · intro n k' hdk
              subst hdk
              rcases hside with h | h
              · simp [neverNode] at h
              · simp [isLeafCell, soloShape] at h
            · rcases hside with h | h
              · exact Or.inl h
              · exact Or.inr ⟨_, shape_of_solo hd h, fun k' hk' => by simp at hk'⟩
        · intro hpre j hj1 hj2
          obtain ⟨sh, hsh⟩ := hitem hpre
          by_cases hjn : j = ni'
          · exact Or.inl (by omega)
          · exact Or.inr ((hcopy sh hsh).2 j hj1 hj2 hjn)
        intro sh hsh
        obtain ⟨⟨sh', g1, g2, g3, g4⟩, _⟩ := hcopy sh hsh
        refine ⟨sh', g1, g2, g3, AllRel.imp (fun a b ⟨st, hgr, hab⟩ => ?_) g4⟩
        rw [← hgr.frame.2.1] at hab
        have hl := lookup_link hab
        exact Link.mono (Nat.le_refl _) (hext.frame.1.trans hgr.frame.1.symm)
          (fun j hj1 hj2 => (hkeep j (by have := hinv.hiLe; omega)).trans
            (hgr.keep j (by have := hinv.hiLe; omega) (by have := hinv.hiLe; omega)).symm) hl
    obtain ⟨hext, hkeep, hgood, hfresh2, hnews⟩ := key
    obtain ⟨hilt, hcells2, hframe2⟩ := setCell_cells hset
    have hi_lt : top + k < hi := by have := hinv.bound; omega
    have hcur2i : cur2.cells[top + k]? = some (.cloneItem index) := by
      rw [hkeep _ (by have := hinv.hiLe; omega)]; exact hci
    -- only the `CloneItem` at `top + k` changes between `cur2` and `s2`
    have hag2 : AgreeNC cur2.cells s2.cells := by
      intro j d hj hne
      rw [hcells2]
      by_cases hji : j = top + k
      · subst hji
        rw [hcur2i] at hj
        exact absurd (Option.some.inj hj).symm (hne index)
      · simp [Ne.symm hji, hj]
    have hother : ∀ j, j ≠ top + k → s2.cells[j]? = cur2.cells[j]? := by
      intro j hj
      rw [hcells2]
      simp [Ne.symm hj]
    have hinv2 : CInv off s0 s1 top hi k s2 := by
      refine ⟨?_, ?_, ?_, ?_, by omega, ?_, ?_, ?_⟩
      rotate_right
      · intro hpre j hj1 hj2
        have hsz2 : s2.cells.size = cur2.cells.size := by rw [hcells2]; simp
        have hagc : AgreeNC cur.cells cur2.cells := by
          intro j' d hj' _
          have hjl : j' < cur.cells.size := lt_of_getElem? hj'
          rw [hkeep j' hjl]; exact hj'
        by_cases hold : j < cur.cells.size
        · have f1 := (hinv.fresh hpre j hj1 hold).mono (hkeep j hold) hext.frame.1 hagc
          exact f1.mono (hother j (by omega)) hframe2.1 hag2
        · exact (hfresh2 hpre j (by omega) (by omega)).mono (hother j (by omega)) hframe2.1 hag2
      · intro j d hj
        have hjlt : j < s0.size := lt_of_getElem? hj
        have h1 := hinv.agree0 j d hj
        have hjc : j < cur.cells.size := lt_of_getElem? h1
        rw [hother j (by omega), hkeep j hjc]; exact h1
      · rw [hframe2.2.1, hext.frame.2.1]; exact hinv.start
      · rw [hframe2.1, hext.frame.1]; exact hinv.ret
      · rw [hcells2]; simp; exact Nat.le_trans hinv.hiLe hext.mono
      · intro j hj1 hj2
        rw [hother j (by omega), hkeep j (by have := hinv.hiLe; omega)]
        exact hinv.pending j (by omega) hj2
      · intro j hj1 hj2
        have hcellsJ : ∀ j', top + k + 1 ≤ j' → j' < hi → s2.cells[j']? = cur2.cells[j']? :=
          fun j' h1 _ => hother j' (by omega)
        by_cases hji : j = top + k
        · subst hji
          refine ⟨index, nw, ?_, ?_, Good.mono (by omega) hframe2.1 hcellsJ hag2 hgood⟩
          · rw [hcells2]
            simp [hilt]
          · rw [← hinv.pending (top + k) (by omega) hi_lt]; exact hci
        · obtain ⟨o, n, hcell, hs1, hg⟩ := hinv.done j (by omega) hj2
          have hk : top + (k + 1) = top + k + 1 := by omega
          rw [hk] at hg
          refine ⟨o, n, ?_, hs1, ?_⟩
          · rw [hother j hji, hkeep j (by have := hinv.hiLe; omega)]; exact hcell
          · have hg2 : Good off s0 cur2 (top + k + 1) hi o n :=
              Good.mono (Nat.le_refl _) hext.frame.1
                (fun j' h1 h2 => hkeep j' (by have := hinv.hiLe; omega))
                (fun j' d hj' _ => by
                  have : j' < cur.cells.size := lt_of_getElem? hj'
                  rw [hkeep j' this]; exact hj') hg
            exact Good.mono (by omega) hframe2.1 hcellsJ hag2 hg2
    exact ⟨index, cur2, nw, s2, ⟨hci, hext, hkeep, hgood, hnews, hother, by rw [hcells2]; simp, hframe2, hag2⟩, hinv2, hrest⟩
  · simp at h2

theorem cloneLoop_step_inv {off : Nat} {s0 : Array Cell} {s1 : Store} {top hi : Nat} (htop : s0.size ≤ top)
    (hnl : ListsWF s0) (hcase : off = 0 ∨ s1.retention ≤ hi) :
    ∀ (k : Nat) (cur s' : Store), CInv off s0 s1 top hi k cur →
      Store.cloneLoop off (s1.start + hi) top k cur = .ok s' → CInv off s0 s1 top hi 0 s'
  | 0, cur, s', hinv, h => by
    simp only [Store.cloneLoop, Outcome.ok.injEq] at h
    subst h; exact hinv
  | k + 1, cur, s', hinv, h => by
    obtain ⟨_, _, _, s2, _, hinv2, hrest⟩ := cloneLoop_one htop hnl hcase k cur s' hinv h
    exact cloneLoop_step_inv htop hnl hcase k s2 s' hinv2 hrest


theorem CInv.init {off : Nat} {s s1 : Store} (e : Ext s.cells.size s s1) :
    CInv off s.cells s1 s.cells.size s1.cells.size (s1.cells.size - s.cells.size) s1 := by
  have := e.mono
  refine ⟨?_, rfl, rfl, Nat.le_refl _, by omega, fun _ _ _ => rfl, fun j hj1 hj2 => by omega, fun _ j h1 h2 => by omega⟩
  intro i c hc
  have hi : i < s.cells.size := lt_of_getElem? hc
  rw [e.keep i hi hi]; exact hc

theorem cloneData_walk {s s' : Store} {a r : Nat} (h : Store.cloneData s a = .ok (s', r)) (hlw : ListsWF s.cells) :
    ∃ s1, Store.createIndexStack s a = .ok (s1, s.cells.size) ∧ Ext s.cells.size s s1 ∧
      s1.cells[s.cells.size]? = some (.cloneItem a) ∧
      Store.cloneLoop 0 (s1.start + s1.cells.size) s.cells.size (s1.cells.size - s.cells.size) s1 = .ok s' ∧
      CInv 0 s.cells s1 s.cells.size s1.cells.size 0 s' ∧
      s'.cells[s.cells.size]? = some (.cloneIndexMap a r) ∧ Good 0 s.cells s' s.cells.size s1.cells.size a r := by
  simp only [Store.cloneData, Outcome.bind_eq_ok'] at h
  obtain ⟨⟨s1, st⟩, h1, h2⟩ := h
  obtain ⟨e1, rfl⟩ := createIndexStack_ext s.cells.size h1
  have hhead := createIndexStack_head h1
  simp only [Store.cloneIndexStack, Outcome.bind_eq_ok'] at h2
  obtain ⟨s2, hloop, c, hgt, h3⟩ := h2
  have hloop' : Store.cloneLoop 0 (s1.start + s1.cells.size) s.cells.size (s1.cells.size - s.cells.size) s1 = .ok s2 := by
    simpa [Store.cursor] using hloop
  have hinv := cloneLoop_step_inv (Nat.le_refl _) hlw (Or.inl rfl) _ _ _ (CInv.init e1) hloop'
  obtain ⟨o, n, hcell, hs1, hgood⟩ := hinv.done s.cells.size (by omega) (lt_of_getElem? hhead)
  rw [hhead] at hs1
  simp only [Option.some.injEq, Cell.cloneItem.injEq] at hs1
  subst hs1
  have hc := get_ok hgt
  rw [hcell] at hc
  simp only [Option.some.injEq] at hc
  subst hc
  simp only [pure, Outcome.ok.injEq, Prod.mk.injEq] at h3
  obtain ⟨rfl, rfl⟩ := h3
  exact ⟨s1, h1, e1, hhead, hloop', hinv, hcell, by simpa using hgood⟩

theorem cloneData_preserves {s s' : Store} {a r : Nat} (h : Store.cloneData s a = .ok (s', r))
    (hnl : ListsWF s.cells) (hd : Dec s.cells a) : ∀ fuel, unfold s.cells fuel a = unfold s'.cells fuel r := by
  obtain ⟨s1, _, _, hhead, _, hinv, hcell, _⟩ := cloneData_walk h hnl
  have hsize : s.cells.size < s1.cells.size := lt_of_getElem? hhead
  have hag : AgreeNC s.cells s'.cells := agreeNC_of_all hinv.agree0
  intro fuel
  refine bisim_unfold s.cells s'.cells
    (fun x x' => Dec s.cells x ∧ (x' = x ∨ ∃ j, s.cells.size ≤ j ∧ j < s1.cells.size ∧
      s'.cells[j]? = some (.cloneIndexMap x x'))) ?_ fuel a r ⟨hd, Or.inr ⟨_, Nat.le_refl _, hsize, hcell⟩⟩
  intro x x' ⟨hdx, hx⟩
  obtain ⟨sh, hsh, hk⟩ := hdx.shape
  have ident : ∃ s_1 s'_1, shape s.cells x = some s_1 ∧ shape s'.cells x = some s'_1 ∧ s_1.label = s'_1.label ∧
      s_1.inl = s'_1.inl ∧ AllRel (fun x x' => Dec s.cells x ∧ (x' = x ∨ ∃ j, s.cells.size ≤ j ∧ j < s1.cells.size ∧
        s'.cells[j]? = some (.cloneIndexMap x x'))) s_1.kids s'_1.kids :=
    ⟨sh, sh, hsh, shape_agree hag hsh, rfl, rfl, allRel_refl_of _ (fun k hkm => ⟨hk k hkm, Or.inl rfl⟩)⟩
  rcases hx with rfl | ⟨j, hj1, hj2, hjc⟩
  · exact ident
  · obtain ⟨o', n', hcell', _, hg⟩ := hinv.done j (by omega) hj2
    rw [hjc] at hcell'
    simp only [Option.some.injEq, Cell.cloneIndexMap.injEq] at hcell'
    obtain ⟨ho, hn⟩ := hcell'
    subst ho; subst hn
    rcases hg with ⟨rfl, _⟩ | ⟨ni, _, hni, hg⟩
    · exact ident
    · simp only [Nat.add_zero] at hni
      subst hni
      obtain ⟨sh', g1, g2, g3, g4⟩ := hg sh hsh
      refine ⟨sh, sh', hsh, g1, g2.symm, g3.symm, AllRel.imp_mem (fun k k' hkm hl => ⟨hk k hkm, ?_⟩) g4⟩
      rcases hl with ⟨h1, _⟩ | ⟨j', h1, h2, h3⟩
      · exact Or.inl h1
      · exact Or.inr ⟨j', by omega, h2, h3⟩

end Garnish.BasicOpt
