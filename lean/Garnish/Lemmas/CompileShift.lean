/-
Position independence of the structured compiler: compiling the renamed program (body ids shifted by the number of jump
entries of `P0`) into an object that holds `P0` goes through the same states as compiling the program alone, shifted:
instructions after `P0`'s with their operands shifted, constants after `P0`'s renamed, the same roots shifted.
Used for: `WFProgram p → WFProgramAt P0 (rlProgram (shJ P0) p)`.
Renaming the body ids does not change the shape predicates (`noR`, `tailR`, `enFree`, `wfE`), the sizes, or which
bodies the table has.
-/
import Garnish.Lemmas.CompileRelabelEval
import Garnish.Lemmas.CompileLoop
import Garnish.Lemmas.CompileDepthLoop
namespace Garnish.Abs
open Garnish Gen Garnish.Spec

variable {F : Type} (P0 : Prog F)

/-- the shift of jump entries -/
def shJ (n : Nat) : Nat := P0.jumps.size + n

theorem shJ_inj : ∀ a b, shJ P0 a = shJ P0 b → a = b := fun a b h => by simp only [shJ] at h; omega

def shOp (i : Instruction) (n : Nat) : Nat :=
  match i with
  | .put | .resolve => P0.consts.size + n
  | .jumpTo | .jumpIfTrue | .jumpIfFalse | .and | .or | .reapply => P0.jumps.size + n
  | _ => n

def shI (x : Instr) : Instr := (x.1, x.2.map (shOp P0 x.1))

theorem shI_inj (x y : Instr) (h : shI P0 x = shI P0 y) : x = y := by
  obtain ⟨i, o⟩ := x
  obtain ⟨i', o'⟩ := y
  simp only [shI, Prod.mk.injEq] at h
  obtain ⟨rfl, h2⟩ := h
  cases o <;> cases o' <;> simp only [Option.map_none, Option.map_some, Option.some.injEq] at h2 <;> try cases h2
  · rfl
  · rename_i a b
    have : a = b := by
      cases i <;> simp only [shOp] at h2 <;> omega
    subst this; rfl

def shKind : RootKind F → RootKind F
  | .code e => .code (rlE (shJ P0) e)
  | .ref id => .ref (shJ P0 id)

def shRoot (r : Root F) : Root F := ⟨shKind P0 r.kind, shJ P0 r.patch, r.term.map (shI P0), shJ P0 r.containing⟩

/-- the state of the shared build is the shifted state of the build alone (jump VALUES are not compared: placeholders) -/
structure Sh (s s' : LState F) : Prop where
  instrs : s'.instrs = P0.instrs ++ s.instrs.map (shI P0)
  jsize : s'.jumps.size = shJ P0 s.jumps.size
  consts : s'.consts = P0.consts ++ s.consts.map (Val.rl (shJ P0))
  pending : s'.pending = s.pending.map (shRoot P0)
  done : s'.done = s.done.map (shRoot P0)

variable {P0}

theorem Sh.isize {s s' : LState F} (h : Sh P0 s s') : s'.instrs.size = P0.instrs.size + s.instrs.size := by
  rw [h.instrs]; simp

theorem Sh.csize {s s' : LState F} (h : Sh P0 s s') : s'.consts.size = P0.consts.size + s.consts.size := by
  rw [h.consts]; simp

theorem Sh.push {s s' : LState F} (h : Sh P0 s s') (i : Instruction) (d : Option Nat) :
    Sh P0 (s.push i d) (s'.push i (d.map (shOp P0 i))) where
  instrs := by simp [LState.push, h.instrs, shI]
  jsize := h.jsize
  consts := h.consts
  pending := h.pending
  done := h.done

theorem Sh.push_none {s s' : LState F} (h : Sh P0 s s') (i : Instruction) : Sh P0 (s.push i none) (s'.push i none) :=
  h.push i none

theorem Sh.pushConst {s s' : LState F} (h : Sh P0 s s') (i : Instruction) (v : Val F) (hi : i = .put ∨ i = .resolve) :
    Sh P0 (s.pushConst i v) (s'.pushConst i (Val.rl (shJ P0) v)) where
  instrs := by
    rcases hi with rfl | rfl <;> simp [LState.pushConst, h.instrs, shI, shOp, h.csize]
  jsize := h.jsize
  consts := by simp [LState.pushConst, h.consts]
  pending := h.pending
  done := h.done

theorem Sh.pushJump {s s' : LState F} (h : Sh P0 s s') (t t' : Nat) : Sh P0 (s.pushJump t) (s'.pushJump t') where
  instrs := h.instrs
  jsize := by simp only [LState.pushJump, Array.size_push, h.jsize, shJ]; omega
  consts := h.consts
  pending := h.pending
  done := h.done

theorem Sh.pushRoot {s s' : LState F} (h : Sh P0 s s') (r : Root F) : Sh P0 (s.pushRoot r) (s'.pushRoot (shRoot P0 r)) where
  instrs := h.instrs
  jsize := h.jsize
  consts := h.consts
  pending := by simp [LState.pushRoot, h.pending]
  done := h.done

theorem shOp_jumpIf (b : Bool) (n : Nat) : shOp P0 (jumpIf b) n = shJ P0 n := by cases b <;> rfl

theorem condTail_sh {s s' : LState F} (h : Sh P0 s s') (cur : Nat) (onTrue : Bool) (t : Expr F) :
    Sh P0 (condTail cur onTrue t s) (condTail (shJ P0 cur) onTrue (rlE (shJ P0) t) s') := by
  simp only [condTail]
  have h1 := ((h.pushJump 0 0).push (jumpIf onTrue) (some s.jumps.size)).push_none .putValue
  simp only [Option.map_some, shOp_jumpIf] at h1
  have e1 : shJ P0 s.jumps.size = s'.jumps.size := h.jsize.symm
  rw [e1] at h1
  have h2 := (h1.pushRoot ⟨.code t, s.jumps.size, [(.jumpTo, some (((s.pushJump 0).push (jumpIf onTrue) (some s.jumps.size)).push .putValue none).jumps.size)], cur⟩).pushJump
    (((s.pushJump 0).push (jumpIf onTrue) (some s.jumps.size)).push .putValue none).instrs.size
    (((s'.pushJump 0).push (jumpIf onTrue) (some s'.jumps.size)).push .putValue none).instrs.size
  have e2 : shRoot P0 ⟨.code t, s.jumps.size, [(.jumpTo, some (((s.pushJump 0).push (jumpIf onTrue) (some s.jumps.size)).push .putValue none).jumps.size)], cur⟩ =
      ⟨.code (rlE (shJ P0) t), s'.jumps.size, [(.jumpTo, some (((s'.pushJump 0).push (jumpIf onTrue) (some s'.jumps.size)).push .putValue none).jumps.size)], shJ P0 cur⟩ := by
    simp only [shRoot, shKind, e1, List.map_cons, List.map_nil, shI, Option.map_some, shOp]
    have := h1.jsize
    simp only [shJ] at this ⊢
    rw [this]
  rw [e2] at h2
  exact h2

theorem logicalTail_sh {s s' : LState F} (h : Sh P0 s s') (cur : Nat) (instr : Instruction) (hi : instr = .and ∨ instr = .or)
    (r : Expr F) : Sh P0 (logicalTail cur instr r s) (logicalTail (shJ P0 cur) instr (rlE (shJ P0) r) s') := by
  simp only [logicalTail]
  have h1 := (h.pushJump 0 0).push instr (some s.jumps.size)
  have e0 : shOp P0 instr s.jumps.size = shJ P0 s.jumps.size := by rcases hi with rfl | rfl <;> rfl
  simp only [Option.map_some, e0] at h1
  have e1 : shJ P0 s.jumps.size = s'.jumps.size := h.jsize.symm
  rw [e1] at h1
  have h2 := (h1.pushRoot ⟨.code r, s.jumps.size, [(.tis, none), (.jumpTo, some ((s.pushJump 0).push instr (some s.jumps.size)).jumps.size)], cur⟩).pushJump
    ((s.pushJump 0).push instr (some s.jumps.size)).instrs.size
    ((s'.pushJump 0).push instr (some s'.jumps.size)).instrs.size
  have e2 : shRoot P0 ⟨.code r, s.jumps.size, [(.tis, none), (.jumpTo, some ((s.pushJump 0).push instr (some s.jumps.size)).jumps.size)], cur⟩ =
      ⟨.code (rlE (shJ P0) r), s'.jumps.size, [(.tis, none), (.jumpTo, some ((s'.pushJump 0).push instr (some s'.jumps.size)).jumps.size)], shJ P0 cur⟩ := by
    simp only [shRoot, shKind, e1, List.map_cons, List.map_nil, shI, Option.map_some, Option.map_none, shOp]
    have := h1.jsize
    simp only [shJ] at this ⊢
    rw [this]
  rw [e2] at h2
  exact h2

def shItems (items : List (Expr F × Nat)) : List (Expr F × Nat) := items.map (fun it => (rlE (shJ P0) it.1, shJ P0 it.2))

theorem armRoots_sh (cur join : Nat) (items : List (Expr F × Nat)) :
    armRoots (shJ P0 cur) (shJ P0 join) (shItems (P0 := P0) items) = (armRoots cur join items).map (shRoot P0) := by
  simp only [armRoots, shItems, List.map_map, List.map_reverse]
  congr 1

theorem finishChain_sh {s s' : LState F} (h : Sh P0 s s') (cur : Nat) (items : List (Expr F × Nat)) :
    Sh P0 (finishChain cur s items) (finishChain (shJ P0 cur) s' (shItems (P0 := P0) items)) := by
  cases items with
  | nil => simpa [finishChain, shItems] using h
  | cons it its =>
    have hj := h.pushJump s.instrs.size s'.instrs.size
    have e := armRoots_sh (P0 := P0) cur s.jumps.size (it :: its)
    simp only [shItems, List.map_cons] at e
    simp only [finishChain, shItems, List.map_cons]
    exact ⟨hj.instrs, hj.jsize, hj.consts, by
      show armRoots _ s'.jumps.size _ ++ s'.pending = _
      rw [h.jsize, e, h.pending]; simp, hj.done⟩

theorem chainNoFinal_sh {s s' : LState F} (h : Sh P0 s s') (arms : List (Bool × Expr F × Expr F)) :
    Sh P0 (chainNoFinal arms s) (chainNoFinal (rlArms (shJ P0) arms) s') := by
  cases arms with
  | nil => simpa [chainNoFinal, rlArms] using h.push_none .putValue
  | cons a rest => obtain ⟨b, c, t⟩ := a; simpa [chainNoFinal, rlArms] using h

theorem rlEs_length (ρ : Nat → Nat) : ∀ (l : List (Expr F)), (rlEs ρ l).length = l.length
  | [] => rfl
  | x :: xs => by simp [rlEs, rlEs_length ρ xs]

mutual
theorem emit_sh (root cur : Nat) : ∀ (e : Expr F) (s s' : LState F), Sh P0 s s' →
    Sh P0 (emit root cur e s) (emit (shJ P0 root) (shJ P0 cur) (rlE (shJ P0) e) s')
  | .lit v, s, s', h => by simp only [emit, rlE]; exact h.pushConst _ _ (.inl rfl)
  | .input, s, s', h => by simp only [emit, rlE]; exact h.push_none _
  | .ident sym, s, s', h => by
    simp only [emit, rlE]
    have := h.pushConst .resolve (.sym sym) (.inr rfl)
    simpa [Val.rl] using this
  | .unary op x, s, s', h => by simp only [emit, rlE]; exact (emit_sh root cur x s s' h).push_none _
  | .binary op a b, s, s', h | .pair b a, s, s', h | .applyTo b a, s, s', h => by
    simp only [emit, rlE]; exact (emit_sh root cur b _ _ (emit_sh root cur a s s' h)).push_none _
  | .list items, s, s', h => by
    simp only [emit, rlE, rlEs_length]
    have := (emitList_sh root cur items s s' h).push .makeList (some items.length)
    simpa [shOp] using this
  | .cond onTrue c t, s, s', h => by
    simp only [emit, rlE]; exact condTail_sh (emit_sh root cur c s s' h) cur onTrue t
  | .chain arms none, s, s', h => by
    simp only [emit, rlE]
    have ha := emitArms_sh root cur arms s s' h
    rw [ha.2]
    exact finishChain_sh (chainNoFinal_sh ha.1 arms) cur _
  | .chain arms (some e), s, s', h => by
    simp only [emit, rlE]
    have ha := emitArms_sh root cur arms s s' h
    rw [ha.2]
    exact finishChain_sh (emit_sh root cur e _ _ ha.1) cur _
  | .and l r, s, s', h => by
    simp only [emit, rlE]; exact logicalTail_sh (emit_sh root cur l s s' h) cur .and (.inl rfl) r
  | .or l r, s, s', h => by
    simp only [emit, rlE]; exact logicalTail_sh (emit_sh root cur l s s' h) cur .or (.inr rfl) r
  | .seq a b, s, s', h => by
    simp only [emit, rlE]; exact emit_sh root cur b _ _ ((emit_sh root cur a s s' h).push_none _)
  | .sideAfter x body, s, s', h => by
    simp only [emit, rlE]
    exact (emit_sh root cur body _ _ ((emit_sh root cur x s s' h).push_none _)).push_none _
  | .nested id, s, s', h => by
    simp only [emit, rlE]
    have h1 := ((h.pushJump 0 0).pushConst .put (.expr s.jumps.size) (.inl rfl)).pushRoot
      ⟨.ref id, s.jumps.size, [(.endExpression, none)], s.jumps.size⟩
    have e1 : shJ P0 s.jumps.size = s'.jumps.size := h.jsize.symm
    simpa [Val.rl, shRoot, shKind, shI, e1] using h1
  | .emptyNested, s, s', h => by
    simp only [emit, rlE]
    have := h.pushConst .put (.expr cur) (.inl rfl)
    simpa [Val.rl] using this
  | .reapply x, s, s', h => by
    simp only [emit, rlE]
    have := ((emit_sh root cur x s s' h).push_none .updateValue).push .jumpTo (some cur)
    simpa [shOp, shJ] using this
  | .prefixApply sym x, s, s', h | .suffixApply x sym, s, s', h => by
    simp only [emit, rlE]
    have h1 := h.pushConst .resolve (.sym sym) (.inr rfl)
    simp only [Val.rl] at h1
    exact (emit_sh root cur x _ _ h1).push_none _
  | .infixApply a sym b, s, s', h => by
    simp only [emit, rlE]
    have h1 := h.pushConst .resolve (.sym sym) (.inr rfl)
    simp only [Val.rl] at h1
    have := ((emit_sh root cur b _ _ (emit_sh root cur a _ _ h1)).push .makeList (some 2)).push_none .apply
    simpa [shOp] using this
theorem emitList_sh (root cur : Nat) : ∀ (items : List (Expr F)) (s s' : LState F), Sh P0 s s' →
    Sh P0 (emitList root cur items s) (emitList (shJ P0 root) (shJ P0 cur) (rlEs (shJ P0) items) s')
  | [], s, s', h => by simpa [emitList, rlEs] using h
  | x :: xs, s, s', h => by
    simp only [emitList, rlEs]; exact emitList_sh root cur xs _ _ (emit_sh root cur x s s' h)
theorem emitArms_sh (root cur : Nat) : ∀ (arms : List (Bool × Expr F × Expr F)) (s s' : LState F), Sh P0 s s' →
    Sh P0 (emitArms root cur arms s).1 (emitArms (shJ P0 root) (shJ P0 cur) (rlArms (shJ P0) arms) s').1 ∧
    (emitArms (shJ P0 root) (shJ P0 cur) (rlArms (shJ P0) arms) s').2 = shItems (P0 := P0) (emitArms root cur arms s).2
  | [], s, s', h => by simpa [emitArms, rlArms, shItems] using h
  | (onTrue, c, t) :: rest, s, s', h => by
    simp only [emitArms, rlArms]
    have h1 := emit_sh root cur c s s' h
    have h2 := (h1.pushJump 0 0).push (jumpIf onTrue) (some (emit root cur c s).jumps.size)
    simp only [Option.map_some, shOp_jumpIf] at h2
    have e1 : shJ P0 (emit root cur c s).jumps.size = (emit (shJ P0 root) (shJ P0 cur) (rlE (shJ P0) c) s').jumps.size :=
      h1.jsize.symm
    rw [e1] at h2
    have ih := emitArms_sh root cur rest _ _ h2
    refine ⟨ih.1, ?_⟩
    rw [ih.2]
    simp [shItems, e1]
end

theorem addTerms_sh {start start' : Nat} {last last' : Option Instr} (hst : start' = P0.instrs.size + start)
    (hl : last' = last.map (shI P0)) : ∀ (terms : List Instr) (s s' : LState F), Sh P0 s s' → s.instrs.size > start →
    Sh P0 (addTerms start last terms s) (addTerms start' last' (terms.map (shI P0)) s')
  | [], s, s', h, _ => by simpa [addTerms] using h
  | t :: ts, s, s', h, hgt => by
    simp only [addTerms, List.map_cons]
    have hc : (last' = some (shI P0 t) ∧ (shI P0 t).1 = .endExpression ∧ s'.instrs.size > start') ↔
        (last = some t ∧ t.1 = .endExpression ∧ s.instrs.size > start) := by
      have e1 : (last' = some (shI P0 t)) ↔ (last = some t) := by
        rw [hl]
        cases last with
        | none => simp
        | some x =>
          simp only [Option.map_some, Option.some.injEq]
          exact ⟨fun e => shI_inj P0 _ _ e, fun e => by rw [e]⟩
      have e2 : s'.instrs.size > start' ↔ s.instrs.size > start := by rw [h.isize, hst]; omega
      rw [e1, e2]; rfl
    by_cases hcond : last = some t ∧ t.1 = .endExpression ∧ s.instrs.size > start
    · rw [if_pos hcond, if_pos (hc.mpr hcond)]
      exact addTerms_sh hst hl ts s s' h hgt
    · rw [if_neg hcond, if_neg (fun x => hcond (hc.mp x))]
      refine addTerms_sh hst hl ts _ _ (h.push t.1 t.2) ?_
      simp only [LState.push, Array.size_push]; omega

theorem back_sh {s s' : LState F} (h : Sh P0 s s') (hpos : 0 < s.instrs.size) :
    s'.instrs.back? = s.instrs.back?.map (shI P0) := by
  rw [h.instrs]
  simp only [Array.back?, Array.size_append, Array.size_map]
  have e : P0.instrs.size + s.instrs.size - 1 = P0.instrs.size + (s.instrs.size - 1) := by omega
  rw [e, Array.getElem?_append_right (by omega)]
  simp

section loop
variable (bodies : List (Nat × Expr F))

theorem layoutRoot_sh {s s' : LState F} {r : Root F} {rest : List (Root F)} (h : Sh P0 s s') (inv : Inv s)
    (hp : s.pending = r :: rest) :
    Sh P0 (layoutRoot bodies r { s with pending := rest })
      (layoutRoot (rlBodies (shJ P0) bodies) (shRoot P0 r) { s' with pending := rest.map (shRoot P0) }) := by
  have hr_mem : r ∈ s.pending := by rw [hp]; exact List.mem_cons_self
  have hcont := inv.cont r hr_mem
  have href := inv.ref r hr_mem
  obtain ⟨s1, s2, st, he⟩ := layoutRoot_anatomy bodies (rest := rest) hcont
  obtain ⟨s1', s2', st', he'⟩ := layoutRoot_anatomy (rlBodies (shJ P0) bodies) (s := s') (r := shRoot P0 r)
    (rest := rest.map (shRoot P0)) (by simp only [shRoot, h.jsize, shJ]; omega)
  rw [he, he', st.body, st'.body]
  have h1 : Sh P0 s1 s1' :=
    ⟨by rw [st'.instrs, st.instrs]; exact h.instrs, by rw [st'.jsize, st.jsize]; exact h.jsize,
     by rw [st'.consts, st.consts]; exact h.consts, by rw [st'.pending, st.pending], by rw [st'.done, st.done, h.done]; rfl⟩
  have s1_jsize := st.jsize
  have hst : s1'.instrs.size = P0.instrs.size + s1.instrs.size := h1.isize
  have hbody : rootBody (rlBodies (shJ P0) bodies) (shRoot P0 r) = (rootBody bodies r).map (rlE (shJ P0)) := by
    simp only [rootBody, shRoot, shKind]
    cases r.kind with
    | code e => rfl
    | ref id => exact lookupBody_rl (shJ_inj P0) bodies id
  simp only [bodyState, hbody]
  cases hb : rootBody bodies r with
  | some b =>
    simp only [Option.map_some]
    have h2 := emit_sh (P0 := P0) r.patch r.containing b s1 s1' h1
    have hsz := (emit_pre r.patch r.containing b s1 (by omega)).2
    have hpos := len_pos b
    have := addTerms_sh hst (back_sh h2 (by omega)) r.term _ _ h2 (by omega)
    rw [st.instrs, st'.instrs] at this
    exact this
  | none =>
    simp only [Option.map_none]
    have hterm : r.term = [(.endExpression, none)] := by
      simp only [rootBody] at hb
      cases hk : r.kind with
      | code e => rw [hk] at hb; cases hb
      | ref id => exact (href id hk).2
    rw [hterm]
    simp only [shRoot, hterm, List.map_cons, List.map_nil, addTerms]
    rw [if_neg (fun x => by have := x.2.2; rw [st.instrs] at this; omega),
      if_neg (fun x => by have := x.2.2; rw [st'.instrs] at this; omega)]
    exact h1.push _ _

theorem layoutRoots_sh : ∀ (fuel : Nat) (s s' : LState F), Sh P0 s s' → Inv s →
    Sh P0 (layoutRoots bodies fuel s) (layoutRoots (rlBodies (shJ P0) bodies) fuel s')
  | 0, s, s', h, _ => by simpa [layoutRoots] using h
  | fuel + 1, s, s', h, inv => by
    cases hp : s.pending with
    | nil =>
      have hp' : s'.pending = [] := by rw [h.pending, hp]; rfl
      simpa [layoutRoots, hp, hp'] using h
    | cons r rest =>
      have hp' : s'.pending = shRoot P0 r :: rest.map (shRoot P0) := by rw [h.pending, hp]; rfl
      simp only [layoutRoots, hp, hp']
      exact layoutRoots_sh fuel _ _ (layoutRoot_sh bodies h inv hp) (layoutRoot_facts bodies inv hp).1

end loop

end Garnish.Abs

namespace Garnish.Abs
open Garnish Gen Garnish.Spec

variable {F : Type} (ρ : Nat → Nat)

mutual
/-- none of these reads an id, and of a literal only whether it is an expression value, which `Val.rl` keeps -/
theorem shape_rl : ∀ (e : Expr F), noR (rlE ρ e) = noR e ∧ tailR (rlE ρ e) = tailR e ∧ enFree (rlE ρ e) = enFree e ∧
    wfE (rlE ρ e) = wfE e ∧ exprSize (rlE ρ e) = exprSize e
  | .lit v => by cases v <;> simp [rlE, Val.rl, noR, tailR, enFree, wfE, exprSize]
  | .input | .ident _ | .nested _ | .emptyNested => by simp [rlE, noR, tailR, enFree, wfE, exprSize]
  | .unary _ x | .reapply x | .prefixApply _ x | .suffixApply x _ => by
    have := shape_rl x
    simp [rlE, noR, tailR, enFree, wfE, exprSize, this]
  | .binary _ l r | .pair l r | .applyTo l r | .cond _ l r | .and l r | .or l r | .seq l r
  | .sideAfter l r | .infixApply l _ r => by
    have hl := shape_rl l
    have hr := shape_rl r
    simp [rlE, noR, tailR, enFree, wfE, exprSize, hl, hr]
  | .list items => by
    have := shapeList_rl items
    simp [rlE, noR, tailR, enFree, wfE, exprSize, this]
  | .chain arms none => by
    have := shapeArms_rl arms
    simp [rlE, noR_chain, tailR_chain, enFree_chain, wfE_chain, exprSize, this]
  | .chain arms (some e) => by
    have ha := shapeArms_rl arms
    have he := shape_rl e
    simp [rlE, noR_chain, tailR_chain, enFree_chain, wfE_chain, exprSize, ha, he]
theorem shapeList_rl : ∀ (l : List (Expr F)), noRList (rlEs ρ l) = noRList l ∧ enFreeList (rlEs ρ l) = enFreeList l ∧
    wfEList (rlEs ρ l) = wfEList l ∧ exprsSize (rlEs ρ l) = exprsSize l
  | [] => by simp [rlEs]
  | x :: xs => by
    have hx := shape_rl x
    have hxs := shapeList_rl xs
    simp [rlEs, noRList, enFreeList, wfEList, exprsSize, hx, hxs]
theorem shapeArms_rl : ∀ (l : List (Bool × Expr F × Expr F)), noRArms (rlArms ρ l) = noRArms l ∧
    tailRArms (rlArms ρ l) = tailRArms l ∧ enFreeArms (rlArms ρ l) = enFreeArms l ∧ wfEArms (rlArms ρ l) = wfEArms l ∧
    armsSize (rlArms ρ l) = armsSize l
  | [] => by simp [rlArms]
  | (_, c, t) :: rest => by
    have hc := shape_rl c
    have ht := shape_rl t
    have hrest := shapeArms_rl rest
    simp [rlArms, noRArms, tailRArms, enFreeArms, wfEArms, armsSize, hc, ht, hrest]
end

theorem noR_rl : ∀ (e : Expr F), noR (rlE ρ e) = noR e := fun e => (shape_rl ρ e).1
theorem noRList_rl : ∀ (l : List (Expr F)), noRList (rlEs ρ l) = noRList l := fun l => (shapeList_rl ρ l).1
theorem noRArms_rl : ∀ (l : List (Bool × Expr F × Expr F)), noRArms (rlArms ρ l) = noRArms l := fun l => (shapeArms_rl ρ l).1

theorem tailR_rl : ∀ (e : Expr F), tailR (rlE ρ e) = tailR e := fun e => (shape_rl ρ e).2.1
theorem tailRArms_rl : ∀ (l : List (Bool × Expr F × Expr F)), tailRArms (rlArms ρ l) = tailRArms l :=
  fun l => (shapeArms_rl ρ l).2.1

theorem enFree_rl : ∀ (e : Expr F), enFree (rlE ρ e) = enFree e := fun e => (shape_rl ρ e).2.2.1
theorem enFreeList_rl : ∀ (l : List (Expr F)), enFreeList (rlEs ρ l) = enFreeList l := fun l => (shapeList_rl ρ l).2.1
theorem enFreeArms_rl : ∀ (l : List (Bool × Expr F × Expr F)), enFreeArms (rlArms ρ l) = enFreeArms l :=
  fun l => (shapeArms_rl ρ l).2.2.1

theorem wfE_rl : ∀ (e : Expr F), wfE (rlE ρ e) = wfE e := fun e => (shape_rl ρ e).2.2.2.1
theorem wfEList_rl : ∀ (l : List (Expr F)), wfEList (rlEs ρ l) = wfEList l := fun l => (shapeList_rl ρ l).2.2.1
theorem wfEArms_rl : ∀ (l : List (Bool × Expr F × Expr F)), wfEArms (rlArms ρ l) = wfEArms l :=
  fun l => (shapeArms_rl ρ l).2.2.2.1

theorem exprSize_rl : ∀ (e : Expr F), exprSize (rlE ρ e) = exprSize e := fun e => (shape_rl ρ e).2.2.2.2
theorem exprsSize_rl : ∀ (l : List (Expr F)), exprsSize (rlEs ρ l) = exprsSize l := fun l => (shapeList_rl ρ l).2.2.2
theorem armsSize_rl : ∀ (l : List (Bool × Expr F × Expr F)), armsSize (rlArms ρ l) = armsSize l :=
  fun l => (shapeArms_rl ρ l).2.2.2.2

theorem bodiesSize_rl : ∀ (l : List (Nat × Expr F)), bodiesSize (rlBodies ρ l) = bodiesSize l
  | [] => by simp [rlBodies]
  | (k, b) :: rest => by simp [rlBodies, bodiesSize, exprSize_rl, bodiesSize_rl rest]

theorem lookupBody_rl_inv : ∀ (l : List (Nat × Expr F)) (id' : Nat) (b' : Expr F), lookupBody (rlBodies ρ l) id' = some b' →
    ∃ id b, id' = ρ id ∧ b' = rlE ρ b ∧ lookupBody l id = some b
  | [], _, _, h => by simp [rlBodies, lookupBody] at h
  | (k, b) :: rest, id', b', h => by
    simp only [rlBodies, lookupBody] at h
    by_cases hk : (ρ k == id') = true
    · rw [if_pos hk] at h
      refine ⟨k, b, (beq_iff_eq.mp hk).symm, by cases h; rfl, by simp [lookupBody]⟩
    · rw [if_neg hk] at h
      obtain ⟨id, b2, h1, h2, h3⟩ := lookupBody_rl_inv rest id' b' h
      refine ⟨id, b2, h1, h2, ?_⟩
      simp only [lookupBody]
      have : ¬ (k == id) = true := fun e => hk (by rw [h1, beq_iff_eq.mp e]; simp)
      rw [if_neg this]; exact h3

end Garnish.Abs
