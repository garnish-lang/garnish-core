/-
The generated enumerations are finite: a decidable statement about every `TokenType`, `Definition` or `SecDef` follows
from the same statement about the members of the generated list `X.all`, which the kernel checks by evaluation
(`revert x; exact X.forall_of_all (by decide +kernel)`).  Facts that read off the parser's tables (`getDefinition`,
`priority`, `checkComposition`) are proved this way.
-/
import Garnish.Gen.Enums

namespace Garnish.Gen

theorem TokenType.mem_all (t : TokenType) : t ∈ TokenType.all :=
  List.mem_of_getElem? (by cases t <;> decide +kernel : TokenType.all[t.ctorIdx]? = some t)

theorem TokenType.forall_of_all {P : TokenType → Prop} (h : ∀ t ∈ TokenType.all, P t) (t : TokenType) : P t :=
  h t (TokenType.mem_all t)

theorem Definition.mem_all (d : Definition) : d ∈ Definition.all :=
  List.mem_of_getElem? (by cases d <;> decide +kernel : Definition.all[d.ctorIdx]? = some d)

theorem Definition.forall_of_all {P : Definition → Prop} (h : ∀ d ∈ Definition.all, P d) (d : Definition) : P d :=
  h d (Definition.mem_all d)

theorem SecDef.mem_all (s : SecDef) : s ∈ SecDef.all :=
  List.mem_of_getElem? (by cases s <;> decide +kernel : SecDef.all[s.ctorIdx]? = some s)

theorem SecDef.forall_of_all {P : SecDef → Prop} (h : ∀ s ∈ SecDef.all, P s) (s : SecDef) : P s :=
  h s (SecDef.mem_all s)

end Garnish.Gen
