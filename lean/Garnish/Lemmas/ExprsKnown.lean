/-
`ExprsKnown`: the hereditary class "every `Expression` value names a body the depth analysis knows" (`exprQ`); leaf constants are known.
A step that pushes a frame is an `Apply` / `EmptyApply` entering the body of an `Expression` operand (read off `Abs.Exec`), so
`ReachK`'s call condition follows from `ExprsKnown` (`calls_known`). The declarations are in namespace `Garnish.Lemmas.Her`, beside
the class they instantiate.
-/
import Garnish.Lemmas.DynOK
import Garnish.Lemmas.Ops
namespace Garnish.Lemmas.Her
open Garnish Gen Garnish.Abs Garnish.Props.C06

section
variable {F : Type} {fo : FloatOps F} {host : Host F} {P : Prog F}

def exprQ (P : Prog F) : Val F → Bool
  | .expr j => match P.jumps[j]? with
    | some t => (exprEntries P).contains t
    | none => true
  | _ => true

instance (P : Prog F) : LeafOK (exprQ P) :=
  ⟨rfl, rfl, rfl, fun _ => rfl, fun _ => rfl, fun _ => rfl, fun _ => rfl, fun _ => rfl, fun _ => rfl⟩

abbrev ExprsKnown (P : Prog F) (m : MState F) : Prop := HerState (exprQ P) m

abbrev HostExprsKnown (P : Prog F) (host : Host F) : Prop := HostHer (exprQ P) host

def leafV : Val F → Bool
  | .pair _ _ | .list _ | .concat _ _ | .range _ _ | .slice _ _ | .part _ _ => false
  | _ => true

/-- `exprEntries` collects exactly the entries of the `Expression` constants -/
theorem consts_exprsKnown (hleaf : ∀ (k : Nat) (v : Val F), P.consts[k]? = some v → leafV v = true) :
    ConstsHer (exprQ P) P := by
  intro k v hk
  have hl := hleaf k v hk
  cases v <;> first | rfl | (cases hl; done) | skip
  case expr j =>
    show exprQ P (.expr j) = true
    simp only [exprQ]
    cases hj : P.jumps[j]? with
    | none => rfl
    | some t =>
      simp only [List.contains_iff_mem] 
      simp only [exprEntries, List.mem_filterMap]
      exact ⟨.expr j, List.mem_of_getElem? (by simpa using hk), hj⟩

theorem step_exprsKnown (HN : HostExprsKnown P host) (hc : ConstsHer (exprQ P) P) {s s' : MState F}
    (hs : ExprsKnown P s) (h : Abs.step fo host P s = .running s' ∨ Abs.step fo host P s = .halted s') :
    ExprsKnown P s' := step_her HN hc hs h

theorem applyKind_enter {instr : Instruction} {ur : Bool} {l r input : Val F} {j : Nat}
    (h : applyKind fo instr ur l r = .enter j input) : l = .expr j ∨ ∃ x, l = .part (.expr j) x := by
  have hc := Runtime.applyArm_case fo instr ur l r
  cases harm : Model.Runtime.applyArm l.typeOf r.typeOf <;> rw [harm] at hc
  case expression => obtain ⟨j', rfl, e⟩ := hc; rw [e] at h; cases h; exact .inl rfl
  case partial_ =>
    obtain ⟨f, x, rfl, ⟨j', rfl, e⟩ | ⟨_, e⟩⟩ := hc <;> rw [e] at h <;> cases h
    exact .inr ⟨_, rfl⟩
  case external => obtain ⟨_, _, e⟩ := hc; rw [e] at h; cases h
  case merge => rw [hc.2] at h; split at h <;> cases h
  case narrow | sliceNarrow => obtain ⟨_, _, _, _, _, _, e⟩ := hc; rw [e] at h; split at h <;> cases h
  case accInt | accSym => obtain ⟨_, _, _, e⟩ := hc; rw [e] at h; cases h
  case path => obtain ⟨_, _, _, _, e⟩ := hc; rw [e] at h; cases h
  case mkSlice => rw [hc.2] at h; cases h
  case defer => rw [hc] at h; cases h

theorem her_part_expr {q : Val F → Bool} {j : Nat} {x : Val F} (h : her q (.part (.expr j) x) = true) :
    q (.expr j) = true := by
  simp [her] at h; exact h.1

/-- what `apply_internal` does to the frames: a frame is pushed only when an expression body is entered, and then the
new cursor is the jump-table entry of an `Expression` value that was the left operand -/
theorem applyStep_frames {s s1 : MState F} {instr : Instruction} {ur : Bool} {l r : Val F} {n : Nat}
    (hl : her (exprQ P) l = true) (h : applyStep fo host P s instr ur l r = .ok (s1, n))
    (hgrow : s1.frames.length = s.frames.length + 1) : n ∈ exprEntries P := by
  unfold applyStep at h
  cases hk : applyKind fo instr ur l r with
  | enter j input =>
    rw [hk] at h
    simp only [] at h
    cases hj : jumpTarget P j with
    | error e => rw [hj] at h; cases h
    | ok t =>
      rw [hj] at h
      cases h
      have hq : exprQ P (.expr j) = true := by
        rcases applyKind_enter hk with rfl | ⟨x, rfl⟩
        · exact hl
        · exact her_part_expr hl
      unfold jumpTarget at hj
      cases hjj : P.jumps[j]? with
      | none => rw [hjj] at hj; cases hj
      | some t' =>
        rw [hjj] at hj
        cases hj
        simp only [exprQ, hjj] at hq
        exact List.contains_iff_mem.mp hq
  | external m arg =>
    rw [hk] at h
    simp only [] at h
    cases ha : host.apply m arg <;> rw [ha] at h <;> cases h <;> simp at hgrow
  | out o =>
    rw [hk] at h
    simp only [] at h
    cases hp : pushOut host s o with
    | error e => rw [hp] at h; cases h
    | ok s2 =>
      rw [hp] at h
      cases h
      have := (pushOut_len hp).2.1
      rw [this] at hgrow
      omega

theorem calls_known {s s' : MState F} (hk : ExprsKnown P s) (hs : Abs.step fo host P s = .running s')
    (hgrow : s'.frames.length = s.frames.length + 1) : s'.pc ∈ exprEntries P := by
  obtain ⟨i, o, s1, n, _, he, _, rfl⟩ := exec_of_running hs
  have regs := (herL_iff _).1 hk.regs
  cases he with
  | apply hr ha => exact applyStep_frames (regs _ (by rw [hr]; simp)) ha hgrow
  | emptyApply hr ha => exact applyStep_frames (regs _ (by rw [hr]; simp)) ha hgrow
  | ret _ hfr => rw [hfr] at hgrow; simp at hgrow; omega
  | resolve _ h => have := (resolveStep_len h).2; simp only [this] at hgrow; omega
  | unary _ _ _ hp | binary _ _ _ _ hp => have := (pushOut_len hp).2.1; simp only [this] at hgrow; omega
  | _ => simp at hgrow

end

section
open Garnish.Model.Equality Garnish.Model.Runtime Garnish.Lemmas.Runtime
open Garnish.Lemmas.Runtime.On Garnish.Lemmas.NoCustom
variable {F σ : Type} {fo : FloatOps F} {host : Host F} {S : RStore F σ} {Inv : σ → Prop} {P : Prog F}

theorem exprsKnown_reach (HE : HostExprsKnown P host) (hce : ConstsHer (exprQ P) P) {entries : List Nat}
    {s0 s : MState F} (h0 : ExprsKnown P s0) (hr : ReachK fo host P entries s0 s) : ExprsKnown P s := by
  induction hr with
  | refl => exact h0
  | snoc _ hs _ ih => exact step_exprsKnown HE hce ih (Or.inl hs)

end

end Garnish.Lemmas.Her
