/-
For property C13: the operator tree of `Lexer::new` against the regenerated operator table (`tree_sound`, `tree_complete`:
checks on the nodes of the tree down to its depth), and the invariant `Typed`: state, pending token type and pending
characters belong together (`ArmStep.typed`: every arm keeps it, and a token it ends is fine).
-/
import Garnish.Lemmas.LexerC13Blank
namespace Garnish.Model.Lexer

/-- all nodes of the tree down to depth `fuel`, with the path leading to them -/
def pathsFuel : Nat → LexerOperatorNode → List Char → List (List Char × LexerOperatorNode)
  | 0, n, p => [(p, n)]
  | f + 1, n, p => (p, n) :: n.children.flatMap (fun kc => pathsFuel f kc.2 (p ++ [kc.1]))

theorem mapGet_mem {β : Type} : ∀ (m : List (Char × β)) (k : Char) (v : β), mapGet m k = some v → (k, v) ∈ m
  | [], _, _, h => by simp [mapGet] at h
  | (k0, v0) :: r, k, v, h => by
    simp only [mapGet] at h
    split at h
    · rename_i hk
      have : k0 = k := by simpa using hk
      subst this
      simp only [Option.some.injEq] at h
      subst h; simp
    · exact List.mem_cons_of_mem _ (mapGet_mem r k v h)

theorem pathsFuel_self (f : Nat) (n : LexerOperatorNode) (p : List Char) : (p, n) ∈ pathsFuel f n p := by
  cases f <;> simp [pathsFuel]

theorem walk_mem_paths : ∀ (cs : List Char) (f : Nat) (t n : LexerOperatorNode) (p : List Char),
    walkOperator t cs = some n → cs.length ≤ f → (p ++ cs, n) ∈ pathsFuel f t p
  | [], f, t, n, p, h, _ => by
    simp only [walkOperator, Option.some.injEq] at h
    subst h; simpa using pathsFuel_self f t p
  | c :: r, 0, t, n, p, h, hl => by simp at hl
  | c :: r, f + 1, t, n, p, h, hl => by
    simp only [walkOperator] at h
    cases hg : t.getChild c with
    | none => rw [hg] at h; cases h
    | some ch =>
      rw [hg] at h
      have hmem := mapGet_mem _ _ _ hg
      have := walk_mem_paths r f ch n (p ++ [c]) h (by simpa using hl)
      simp only [pathsFuel, List.mem_cons, List.mem_flatMap]
      right
      exact ⟨(c, ch), hmem, by simpa [List.append_assoc] using this⟩

theorem walk_append : ∀ (a b : List Char) (t n : LexerOperatorNode), walkOperator t (a ++ b) = some n →
    ∃ m, walkOperator t a = some m ∧ walkOperator m b = some n
  | [], b, t, n, h => ⟨t, rfl, h⟩
  | c :: a, b, t, n, h => by
    simp only [List.cons_append, walkOperator] at h ⊢
    cases hg : t.getChild c with
    | none => rw [hg] at h; cases h
    | some ch => rw [hg] at h; exact walk_append a b ch n h

/-- the tree is at most 4 deep -/
def depthCheck : Bool :=
  (pathsFuel 4 theTree []).all fun pn => pn.1.length < 4 || pn.2.children.isEmpty

theorem depthCheck_true : depthCheck = true := by rw [depthCheck, theTree_eq]; decide +kernel

theorem walk_length_le (cs : List Char) (n : LexerOperatorNode) (h : walkOperator theTree cs = some n) :
    cs.length ≤ 4 := by
  by_cases hl : cs.length ≤ 4
  · exact hl
  · exfalso
    have hsplit : cs = cs.take 4 ++ cs.drop 4 := (List.take_append_drop 4 cs).symm
    rw [hsplit] at h
    obtain ⟨m, hm, hn⟩ := walk_append _ _ _ _ h
    have hlen : (cs.take 4).length = 4 := by simp; omega
    have hmem := walk_mem_paths (cs.take 4) 4 theTree m [] hm (by omega)
    have hd := depthCheck_true
    unfold depthCheck at hd
    rw [List.all_eq_true] at hd
    have := hd _ hmem
    simp only [List.nil_append, hlen, Nat.lt_irrefl, decide_false, Bool.false_or] at this
    cases hdrop : cs.drop 4 with
    | nil => have : (cs.drop 4).length = 0 := by rw [hdrop]; rfl
             simp at this; omega
    | cons x r =>
      rw [hdrop] at hn
      simp only [walkOperator, LexerOperatorNode.getChild] at hn
      have hch : m.children = [] := by simpa [List.isEmpty_iff] using this
      rw [hch] at hn
      simp [mapGet] at hn

/-- every typed node of the tree is an entry of the regenerated table -/
def typedNodesInTable : Bool :=
  (pathsFuel 4 theTree []).all fun pn =>
    match pn.2.tokenType with
    | none => true
    | some ty => Garnish.Gen.LexTables.operatorChars.contains (pn.1, ty)

theorem typedNodesInTable_true : typedNodesInTable = true := by rw [typedNodesInTable, theTree_eq]; decide +kernel

theorem tree_sound (cs : List Char) (n : LexerOperatorNode) (ty : Gen.TokenType)
    (h : walkOperator theTree cs = some n) (hty : n.tokenType = some ty) :
    (cs, ty) ∈ Garnish.Gen.LexTables.operatorChars := by
  have hmem := walk_mem_paths cs 4 theTree n [] h (walk_length_le cs n h)
  have hc := typedNodesInTable_true
  unfold typedNodesInTable at hc
  rw [List.all_eq_true] at hc
  have := hc _ hmem
  simp only [List.nil_append, hty] at this
  simpa using this

theorem tree_complete {sp : List Char} {ty : Gen.TokenType} (h : (sp, ty) ∈ Garnish.Gen.LexTables.operatorChars) :
    ∃ n, walkOperator theTree sp = some n ∧ n.tokenType = some ty := by
  have := List.all_eq_true.1 (tableRecognised_true) _ h
  cases hw : walkOperator theTree sp with
  | none => rw [hw] at this; cases this
  | some n => rw [hw] at this; exact ⟨n, rfl, by simpa using this⟩

theorem table_prefix_path (sp : List Char) (ty : Gen.TokenType) (a b : List Char)
    (h : (sp, ty) ∈ Garnish.Gen.LexTables.operatorChars) (hab : sp = a ++ b) :
    ∃ m, walkOperator theTree a = some m := by
  obtain ⟨n, hw, -⟩ := tree_complete h
  rw [hab] at hw
  obtain ⟨m, hm, _⟩ := walk_append a b theTree n hw
  exact ⟨m, hm⟩

def isOpType (ty : Gen.TokenType) : Bool := Garnish.Gen.LexTables.operatorChars.any (fun p => p.2 == ty)

@[simp] theorem isOpType_whitespace : isOpType .whitespace = false := by decide
@[simp] theorem isOpType_subexpression : isOpType .subexpression = false := by decide
@[simp] theorem isOpType_number : isOpType .number = false := by decide
@[simp] theorem isOpType_identifier : isOpType .identifier = false := by decide
@[simp] theorem isOpType_symbol : isOpType .symbol = false := by decide
@[simp] theorem isOpType_suffixIdentifier : isOpType .suffixIdentifier = false := by decide
@[simp] theorem isOpType_prefixIdentifier : isOpType .prefixIdentifier = false := by decide
@[simp] theorem isOpType_infixIdentifier : isOpType .infixIdentifier = false := by decide
@[simp] theorem isOpType_annotation : isOpType .annotation = false := by decide
@[simp] theorem isOpType_lineAnnotation : isOpType .lineAnnotation = false := by decide
@[simp] theorem isOpType_charList : isOpType .charList = false := by decide
@[simp] theorem isOpType_byteList : isOpType .byteList = false := by decide

/-- literal / comment token types: their text may contain anything -/
def isLitType (ty : Gen.TokenType) : Bool := ty == .charList || ty == .byteList || ty == .lineAnnotation

def isLitState (s : LexingState) : Bool :=
  s == .charList || s == .startCharList || s == .byteList || s == .startByteList || s == .lineAnnotation

/-- `c` occurs in some path of the operator tree (a spelling of the table or a prefix of one) -/
def InOperatorPath (c : Char) : Prop := ∃ cs, c ∈ cs ∧ (walkOperator theTree cs).isSome = true

def CanStartOrContinue (cc : CharClass) (c : Char) : Prop :=
  cc.isAlphanumeric c = true ∨ cc.isNumeric c = true ∨ isAsciiWhitespace c = true ∨
  c = '_' ∨ c = ':' ∨ c = '.' ∨ c = '`' ∨ c = '@' ∨ c = '"' ∨ c = '\'' ∨ InOperatorPath c

theorem ok_alnum {cc : CharClass} {c : Char} (h : cc.isAlphanumeric c = true) : CanStartOrContinue cc c := Or.inl h
theorem ok_num {cc : CharClass} {c : Char} (h : cc.isNumeric c = true) : CanStartOrContinue cc c := Or.inr (Or.inl h)
theorem ok_ws {cc : CharClass} {c : Char} (h : isAsciiWhitespace c = true) : CanStartOrContinue cc c :=
  Or.inr (Or.inr (Or.inl h))
theorem ok_under (cc : CharClass) : CanStartOrContinue cc '_' := by simp [CanStartOrContinue]
theorem ok_colon (cc : CharClass) : CanStartOrContinue cc ':' := by simp [CanStartOrContinue]
theorem ok_dot (cc : CharClass) : CanStartOrContinue cc '.' := by simp [CanStartOrContinue]
theorem ok_backtick (cc : CharClass) : CanStartOrContinue cc '`' := by simp [CanStartOrContinue]
theorem ok_at (cc : CharClass) : CanStartOrContinue cc '@' := by simp [CanStartOrContinue]
theorem ok_path {cc : CharClass} {c : Char} (h : InOperatorPath c) : CanStartOrContinue cc c := by
  simp [CanStartOrContinue, h]
theorem ok_nua {cc : CharClass} {c : Char} (h : (cc.isNumeric c || c == '_' || cc.isAlphanumeric c) = true) :
    CanStartOrContinue cc c := by
  simp only [Bool.or_eq_true, beq_iff_eq] at h
  rcases h with (h | h) | h
  · exact ok_num h
  · subst h; exact ok_under cc
  · exact ok_alnum h
theorem ok_identChar {cc : CharClass} {c : Char} (h : isIdentifierChar cc c = true) : CanStartOrContinue cc c := by
  simp only [isIdentifierChar, Bool.or_eq_true, beq_iff_eq] at h
  rcases h with (h | h) | h
  · exact ok_alnum h
  · subst h; exact ok_under cc
  · subst h; exact ok_colon cc
theorem ok_blank {cc : CharClass} {c : Char} (h : c = ' ' ∨ c = '\t') : CanStartOrContinue cc c := by
  rcases h with rfl | rfl <;> exact ok_ws (by decide)

theorem ok_snoc {cc : CharClass} {cs : List Char} {c : Char} (h : ∀ x ∈ cs, CanStartOrContinue cc x)
    (hc : CanStartOrContinue cc c) : ∀ x ∈ cs ++ [c], CanStartOrContinue cc x :=
  List.forall_mem_append.2 ⟨h, List.forall_mem_singleton.2 hc⟩

theorem path_chars_ok {cc : CharClass} {cs : List Char} {n : LexerOperatorNode}
    (h : walkOperator theTree cs = some n) : ∀ x ∈ cs, CanStartOrContinue cc x :=
  fun x hx => ok_path ⟨cs, hx, by simp [h]⟩

/-- relation between the state, the pending token type and the pending characters -/
structure Typed (cc : CharClass) (σ : Lexer) : Prop where
  op : σ.state = .operator → ∃ node, walkOperator theTree σ.currentCharacters = some node ∧
        σ.currentTokenType = node.tokenType
  nonOp : σ.state ≠ .operator → σ.state ≠ .noToken → ∃ ty, σ.currentTokenType = some ty ∧ isOpType ty = false
  lit : isLitState σ.state = true → ∃ ty, σ.currentTokenType = some ty ∧ isLitType ty = true
  chars : isLitState σ.state = false → ∀ c ∈ σ.currentCharacters, CanStartOrContinue cc c

/-- what is known about an emitted token -/
structure TokOk (cc : CharClass) (text : List Char) (ty : Gen.TokenType) : Prop where
  op : isOpType ty = true → ∃ node, walkOperator theTree text = some node ∧ node.tokenType = some ty
  chars : isLitType ty = false → ∀ c ∈ text, CanStartOrContinue cc c

/-- an arm that ends the token (`start_new`): the token about to be emitted is fine, and an operator token is ended
by a character `c` that is not part of it and continues no path of the tree -/
def EmitOk (cc : CharClass) (σ1 : Lexer) (c : Char) : Prop :=
  ∀ ty, σ1.currentTokenType = some ty →
    TokOk cc σ1.currentCharacters ty ∧
    (isOpType ty = true → walkOperator theTree (σ1.currentCharacters ++ [c]) = none ∧ σ1.shouldCreate = true)

def ArmTyped (cc : CharClass) (c : Char) (p : Lexer × Bool) : Prop :=
  (p.2 = false → Typed cc p.1) ∧ (p.2 = true → EmitOk cc p.1 c)

theorem typed_nonOp_emit {cc : CharClass} {σ1 : Lexer} {c : Char} {ty0 : Gen.TokenType}
    (hty : σ1.currentTokenType = some ty0) (hno : isOpType ty0 = false)
    (hch : isLitType ty0 = false → ∀ x ∈ σ1.currentCharacters, CanStartOrContinue cc x) : EmitOk cc σ1 c := by
  intro ty h
  rw [hty] at h
  simp only [Option.some.injEq] at h
  subst h
  exact ⟨⟨fun h => (by rw [hno] at h; cases h), hch⟩, fun h => (by rw [hno] at h; cases h)⟩

theorem Typed.mkPlain {cc : CharClass} {σ1 : Lexer} (hs1 : σ1.state ≠ .operator) (hl : isLitState σ1.state = false)
    (ty : Gen.TokenType) (hty : σ1.currentTokenType = some ty) (hno : isOpType ty = false)
    (hch : ∀ x ∈ σ1.currentCharacters, CanStartOrContinue cc x) : Typed cc σ1 :=
  ⟨fun h => absurd h hs1, fun _ _ => ⟨ty, hty, hno⟩, fun h => (by rw [hl] at h; cases h), fun _ => hch⟩

theorem Typed.mkLit {cc : CharClass} {σ1 : Lexer} (hs1 : σ1.state ≠ .operator) (hl : isLitState σ1.state = true)
    (ty : Gen.TokenType) (hty : σ1.currentTokenType = some ty) (hno : isOpType ty = false)
    (hlt : isLitType ty = true) : Typed cc σ1 :=
  ⟨fun h => absurd h hs1, fun _ _ => ⟨ty, hty, hno⟩, fun _ => ⟨ty, hty, hlt⟩, fun h => (by rw [hl] at h; cases h)⟩

theorem Typed.mkOp {cc : CharClass} {σ1 : Lexer} (hs1 : σ1.state = .operator) (node : LexerOperatorNode)
    (hw : walkOperator theTree σ1.currentCharacters = some node) (hty : σ1.currentTokenType = node.tokenType) :
    Typed cc σ1 :=
  ⟨fun _ => ⟨node, hw, hty⟩, fun h => absurd hs1 h, fun h => (by rw [hs1] at h; simp [isLitState] at h),
   fun _ => path_chars_ok hw⟩

theorem Typed.noToken {cc : CharClass} {σ1 : Lexer} (hs1 : σ1.state = .noToken) (hch : σ1.currentCharacters = []) :
    Typed cc σ1 :=
  ⟨fun h => (by rw [hs1] at h; cases h), fun _ h => absurd hs1 h, fun h => (by rw [hs1] at h; simp [isLitState] at h),
   fun _ => (by rw [hch]; simp)⟩

theorem ArmTyped.cont {cc : CharClass} {c : Char} {σ1 : Lexer} (h : Typed cc σ1) : ArmTyped cc c (σ1, false) :=
  ⟨fun _ => h, fun h => Bool.noConfusion h⟩

theorem ArmTyped.emit {cc : CharClass} {c : Char} {σ1 : Lexer} (h : EmitOk cc σ1 c) : ArmTyped cc c (σ1, true) :=
  ⟨fun h => Bool.noConfusion h, fun _ => h⟩

theorem Typed.litType {cc : CharClass} {σ : Lexer} (ht : Typed cc σ) (hl : isLitState σ.state = true)
    (hop : σ.state ≠ .operator) (hnt : σ.state ≠ .noToken) :
    ∃ ty, σ.currentTokenType = some ty ∧ isOpType ty = false ∧ isLitType ty = true := by
  obtain ⟨ty, hty, hno⟩ := ht.nonOp hop hnt
  obtain ⟨ty', hty', hlt⟩ := ht.lit hl
  rw [hty] at hty'; cases hty'
  exact ⟨ty, hty, hno, hlt⟩

theorem ArmStep.typed {cc : CharClass} {σ σ1 : Lexer} {c : Char} {sn : Bool} (h : ArmStep cc σ c σ1 sn)
    (ht : Typed cc σ) (htr : σ.operatorTree = theTree) (hcr : σ.shouldCreate = true) : ArmTyped cc c (σ1, sn) := by
  have hnt := h.notNoToken.1
  have plain : σ.state ≠ .operator → ∃ ty, σ.currentTokenType = some ty ∧ isOpType ty = false := fun h => ht.nonOp h hnt
  have hch : isLitState σ.state = false → ∀ x ∈ σ.currentCharacters, CanStartOrContinue cc x := ht.chars
  have lit : isLitState σ.state = true → ∃ ty, σ.currentTokenType = some ty ∧ isOpType ty = false ∧ isLitType ty = true :=
    fun hl => ht.litType hl (fun h => by rw [h] at hl; cases hl) hnt
  have hnl : ∀ {x : Char}, (x == '\n') = true → CanStartOrContinue cc x := fun h => by
    rw [beq_iff_eq.mp h]; exact ok_ws (by decide)
  cases h with
  | opPath hs hw => exact .cont (.mkOp (by simp [hs]) _ (htr ▸ hw) rfl)
  | opIdent hs _ h =>
    obtain ⟨node0, hw0, -⟩ := ht.op hs
    have hid : isIdentifierChar cc c = true := by
      simp only [Bool.and_eq_true, isIdentifier, push, List.all_append, List.all_cons, List.all_nil, Bool.and_true] at h
      exact h.2.2
    exact .cont (.mkPlain (by simp) (by simp [isLitState]) .identifier rfl (by simp)
      (ok_snoc (path_chars_ok hw0) (ok_identChar hid)))
  | opFloat hs _ _ h =>
    obtain ⟨node0, hw0, -⟩ := ht.op hs
    have hnum : cc.isNumeric c = true := by simp only [Bool.and_eq_true] at h; exact h.1.2
    exact .cont (.mkPlain (by simp) (by simp [isLitState]) .number rfl (by simp) (ok_snoc (path_chars_ok hw0) (ok_num hnum)))
  | opDone hs hw _ _ =>
    obtain ⟨node0, hw0, hty0⟩ := ht.op hs
    refine .emit fun ty hty => ?_
    simp only [pop_push] at hty ⊢
    rw [hty0] at hty
    exact ⟨⟨fun _ => ⟨node0, hw0, hty⟩, fun _ => path_chars_ok hw0⟩, fun _ => ⟨htr ▸ hw, hcr⟩⟩
  | numCont hs h =>
    obtain ⟨ty, hty, hno⟩ := plain (by simp [hs])
    exact .cont (.mkPlain (by simp [hs]) (by simp [hs, isLitState]) ty hty hno (ok_snoc (hch (by rw [hs]; rfl)) (ok_nua h)))
  | numFloat hs _ h =>
    have : c = '.' := by simp at h; exact h.1
    subst this
    exact .cont (.mkPlain (by simp) (by simp [isLitState]) .number rfl (by simp) (ok_snoc (hch (by rw [hs]; rfl)) (ok_dot cc)))
  | numDone hs _ _ =>
    obtain ⟨ty, hty, hno⟩ := plain (by simp [hs])
    exact .emit (typed_nonOp_emit hty hno (fun _ => hch (by rw [hs]; rfl)))
  | flCont hs h =>
    obtain ⟨ty, hty, hno⟩ := plain (by simp [hs])
    exact .cont (.mkPlain (by simp [hs]) (by simp [hs, isLitState]) ty hty hno (ok_snoc (hch (by rw [hs]; rfl)) (ok_nua h)))
  | flDone hs _ _ =>
    obtain ⟨ty, hty, hno⟩ := plain (by simp [hs])
    exact .emit (typed_nonOp_emit hty hno (fun _ => hch (by rw [hs]; rfl)))
  | idCont hs h =>
    obtain ⟨ty, hty, hno⟩ := plain (by simp [hs])
    exact .cont (.mkPlain (by simp [hs]) (by simp [hs, isLitState]) ty hty hno (ok_snoc (hch (by rw [hs]; rfl)) (ok_identChar h)))
  | idTick hs _ h =>
    have : c = '`' := by simpa using h
    subst this
    refine .emit ?_
    split <;> exact typed_nonOp_emit rfl (by simp) (fun _ => ok_snoc (hch (by rw [hs]; rfl)) (ok_backtick cc))
  | idSymbol hs _ _ _ => exact .emit (typed_nonOp_emit rfl (by simp) (fun _ => hch (by rw [hs]; rfl)))
  | idDone hs _ _ _ =>
    obtain ⟨ty, hty, hno⟩ := plain (by simp [hs])
    exact .emit (typed_nonOp_emit hty hno (fun _ => hch (by rw [hs]; rfl)))
  | annLine hs _ => exact .cont (.mkLit (by simp) (by simp [isLitState]) .lineAnnotation rfl (by simp) (by simp [isLitType]))
  | annCont hs _ h =>
    obtain ⟨ty, hty, hno⟩ := plain (by simp [hs])
    have hc : CanStartOrContinue cc c := by
      simp only [Bool.or_eq_true, beq_iff_eq] at h
      rcases h with h | h
      · exact ok_alnum h
      · subst h; exact ok_under cc
    exact .cont (.mkPlain (by simp [hs]) (by simp [hs, isLitState]) ty hty hno (ok_snoc (hch (by rw [hs]; rfl)) hc))
  | annDone hs _ _ =>
    obtain ⟨ty, hty, hno⟩ := plain (by simp [hs])
    exact .emit (typed_nonOp_emit hty hno (fun _ => hch (by rw [hs]; rfl)))
  | spBlankLine hs h _ => exact .emit (typed_nonOp_emit rfl (by simp) (fun _ => ok_snoc (hch (by rw [hs]; rfl)) (hnl h)))
  | spNewline hs h _ =>
    obtain ⟨ty, hty, hno⟩ := plain (by simp [hs])
    exact .cont (.mkPlain (by simp) (by simp [isLitState]) ty hty hno (ok_snoc (hch (by rw [hs]; rfl)) (hnl h)))
  | spDone hs _ _ =>
    obtain ⟨ty, hty, hno⟩ := plain (by simp [hs])
    exact .emit (typed_nonOp_emit hty hno (fun _ => hch (by rw [hs]; rfl)))
  | spBlank hs _ h =>
    obtain ⟨ty, hty, hno⟩ := plain (by simp [hs])
    have hb : c = ' ' ∨ c = '\t' := by
      simp only [bne_iff_ne, ne_eq, Bool.and_eq_true, not_and, Decidable.not_not] at h
      by_cases h1 : c = ' '
      · exact Or.inl h1
      · exact Or.inr (h h1)
    exact .cont (.mkPlain (by simp [hs]) (by simp [hs, isLitState]) ty hty hno (ok_snoc (hch (by rw [hs]; rfl)) (ok_blank hb)))
  | subNewline hs h =>
    exact .emit (typed_nonOp_emit rfl (by simp) (fun _ => ok_snoc (hch (by rw [hs]; rfl)) (ok_ws (by simp at h; exact h.1))))
  | subBlank hs _ h =>
    have hb : c = ' ' ∨ c = '\t' := by simp only [Bool.or_eq_true, beq_iff_eq] at h; exact h.symm
    exact .cont (.mkPlain (by simp) (by simp [isLitState]) .whitespace rfl (by simp) (ok_snoc (hch (by rw [hs]; rfl)) (ok_blank hb)))
  | subDone hs _ _ => exact .emit (typed_nonOp_emit rfl (by simp) (fun _ => hch (by rw [hs]; rfl)))
  -- the literal states keep their (literal) type; their text is not constrained
  | sclEmpty hs | clLast hs | sblEmpty hs | blLast hs | lineNewline hs | lineSentinel hs =>
    obtain ⟨ty, hty, hno, hlt⟩ := lit (by rw [hs]; rfl)
    exact .emit (typed_nonOp_emit hty hno fun h => by rw [hlt] at h; cases h)
  | sclBody hs | sclSentinel hs | sclQuote hs | clQuote hs | clBody hs | sblBody hs | sblSentinel hs | sblQuote hs | blQuote hs
  | blBody hs | lineCont hs =>
    obtain ⟨ty, hty, hno, hlt⟩ := lit (by rw [hs]; rfl)
    exact .cont (.mkLit (by simp [hs]) (by simp [hs, isLitState]) ty hty hno hlt)

theorem startToken_typed (cc : CharClass) (σ : Lexer) (c : Char) (htr : σ.operatorTree = theTree) :
    (startToken cc σ c).result = .err ∨ Typed cc (startToken cc σ c) := by
  rcases startToken_cases cc σ c with ⟨st, ty, cs, hc, -, he⟩ | ⟨-, he⟩ <;> rw [he]
  · right
    have one : ∀ {x}, CanStartOrContinue cc x → ∀ y ∈ [x], CanStartOrContinue cc y := by simp
    cases hc
    case operator node hw => exact .mkOp rfl node (htr ▸ hw) rfl
    case spaces h =>
      exact .mkPlain nofun rfl .whitespace rfl rfl (one (ok_ws (by rcases h with rfl | rfl | rfl <;> decide)))
    case newline h => exact .mkPlain nofun rfl .subexpression rfl rfl (one (ok_ws h))
    case number h => exact .mkPlain nofun rfl .number rfl rfl (one (ok_num h))
    case identifier h => exact .mkPlain nofun rfl .identifier rfl rfl (one (ok_identChar h))
    case suffix h => exact .mkPlain nofun rfl .suffixIdentifier rfl rfl (one (h ▸ ok_backtick cc))
    case annotation h => exact .mkPlain nofun rfl .annotation rfl rfl (one (h ▸ ok_at cc))
    case charList => exact .mkLit nofun rfl .charList rfl rfl rfl
    case byteList => exact .mkLit nofun rfl .byteList rfl rfl rfl
    case sentinel => exact .noToken rfl rfl
  · exact Or.inl rfl

theorem startToken_dot (cc : CharClass) (σ : Lexer) (htr : σ.operatorTree = theTree) :
    (startToken cc σ '.').state = .operator ∧ (startToken cc σ '.').currentCharacters = ['.'] ∧
    (startToken cc σ '.').operatorTree = theTree := by
  have hdot : (walkOperator theTree ['.']).isSome = true := by rw [theTree_eq]; decide
  obtain ⟨node, hw⟩ := Option.isSome_iff_exists.mp hdot
  rw [← htr] at hw
  rw [startToken_eq, startKind_operator cc _ hw]
  exact ⟨rfl, rfl, htr⟩

theorem trimMatches_mem (cs : List Char) (d x : Char) (h : x ∈ trimMatches cs d) : x ∈ cs := by
  unfold trimMatches at h
  have h1 : x ∈ ((cs.dropWhile (· == d)).reverse.dropWhile (· == d)) := by simpa using h
  have h2 := (List.dropWhile_sublist _).subset h1
  have h3 : x ∈ cs.dropWhile (· == d) := by simpa using h2
  exact (List.dropWhile_sublist _).subset h3

theorem dots_typed (cc : CharClass) {σ : Lexer} {c : Char} {node : LexerOperatorNode} (htr : σ.operatorTree = theTree)
    (hw : walkOperator (dots cc σ c).operatorTree (dots cc σ c).currentCharacters = some node) :
    Typed cc { dots cc σ c with currentTokenType := node.tokenType } ∧ (dots cc σ c).operatorTree = theTree := by
  have hsd := startToken_dot cc { σ with tokenStartRow := σ.textRow } htr
  unfold dots at hw ⊢
  generalize startToken cc { σ with tokenStartRow := σ.textRow } '.' = s1 at hw hsd
  exact ⟨.mkOp hsd.1 node (by rw [← hsd.2.2]; exact hw) rfl, hsd.2.2⟩

end Garnish.Model.Lexer
