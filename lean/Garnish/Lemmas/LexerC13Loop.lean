/-
For property C13: how an arm treats the end-of-input sentinel (`ArmStep.atNul`, `processChar_sentinel`), `Core` along a run
(`Core.run`), and `lex_final`: a successful `lex` returns a lossless, non-empty, correctly positioned token list.
-/
import Garnish.Lemmas.LexerC13Core
set_option linter.unusedSimpArgs false
namespace Garnish.Model.Lexer

macro "end_tac" f:ident hr:ident hcc:ident : tactic =>
  `(tactic| (unfold $f at $hr:ident; (try simp only [] at $hr:ident); (repeat' split at $hr:ident);
             all_goals (subst $hr:ident; simp_all [ArmEnd, push, armFrame_iff, nul_not_ws, isIdentifierChar, isIdentifier,
                          CharClass.Sane.nulNumeric $hcc, CharClass.Sane.nulAlphanumeric $hcc])))

macro "end_tac0" f:ident hr:ident : tactic =>
  `(tactic| (unfold $f at $hr:ident; (try simp only [] at $hr:ident); (repeat' split at $hr:ident);
             all_goals (subst $hr:ident; simp_all [ArmEnd, push, armFrame_iff, nul_not_ws])))

@[simp] theorem pop_append_singleton (s : List Char) (c : Char) : pop (s ++ [c]) = s := by
  simp [pop]

theorem ArmStep.atNul {cc : CharClass} {σ σ1 : Lexer} {sn : Bool} (h : ArmStep cc σ '\x00' σ1 sn)
    (hc : σ.shouldCreate = true) (hne : σ.currentCharacters ≠ []) :
    (sn = false ∧ σ1.currentCharacters ≠ []) ∨
    (sn = true ∧ σ1.shouldCreate = true ∧ σ1.currentCharacters = σ.currentCharacters) := by
  cases h with
  -- the token goes on
  | opPath | opIdent | opFloat | numCont | numFloat | idCont | sclBody | sclQuote | sblBody | sblQuote | clQuote | clBody
  | blQuote | blBody | spNewline | spBlank | subBlank | annLine | annCont | lineCont | flCont =>
    exact .inl ⟨rfl, by simp [push]⟩
  | sclSentinel | sblSentinel => exact .inl ⟨rfl, hne⟩
  -- the token ends before the sentinel
  | opDone => exact .inr ⟨rfl, hc, pop_push _ _⟩
  | numDone | idSymbol | idDone | sclEmpty | sblEmpty | spDone | subDone | annDone | lineSentinel | flDone =>
    exact .inr ⟨rfl, hc, rfl⟩
  -- `'\0'` is none of the characters that end a token by joining it
  | idTick _ _ h | clLast _ h | blLast _ h | spBlankLine _ h | subNewline _ h | lineNewline _ h =>
    exact absurd h (by decide)

/-- result of the lexer: what `lex` returns once the input is exhausted -/
structure Final (toks : List LexerToken) (consumed : List Char) : Prop where
  lossless : textsOf toks = consumed
  nonempty : ∀ t ∈ toks, t.text ≠ []
  tokPos : TokPosFrom [] toks

theorem Core.final {σ : Lexer} {consumed : List Char} {toks : List LexerToken} (h : Core σ consumed toks)
    (hs : σ.state = .noToken) : Final toks consumed := by
  refine ⟨?_, h.nonempty, h.tokPos⟩
  have := h.lossless
  rwa [h.noTok hs, List.append_nil] at this

theorem Core.final_emit {σ : Lexer} {consumed : List Char} {toks : List LexerToken} (h : Core σ consumed toks)
    (hs : σ.state ≠ .noToken) (ty : Gen.TokenType) :
    Final (toks ++ [⟨σ.currentCharacters, ty, σ.tokenStartRow, σ.tokenStartColumn⟩]) consumed :=
  ⟨by rw [textsOf_snoc]; exact h.lossless, List.forall_mem_append.2 ⟨h.nonempty, List.forall_mem_singleton.2 (h.tok hs)⟩,
    TokPosFrom_emit h hs _ _⟩

theorem processChar_sentinel (cc : CharClass) {σ σ' : Lexer} {consumed : List Char}
    {toks : List LexerToken} {ot : Option LexerToken} (hcore : Core σ consumed toks)
    (h : processChar cc σ '\x00' = .ok (σ', ot)) (hok : σ'.result = .ok)
    (hnone : ot = none → σ'.currentCharacters = []) :
    (ot = none ∧ σ.state = .noToken) ∨
    ∃ σ1 ty, σ.state ≠ .noToken ∧ σ1.currentCharacters = σ.currentCharacters ∧ σ1.tokenStartRow = σ.tokenStartRow ∧
      σ1.tokenStartColumn = σ.tokenStartColumn ∧ σ1.currentTokenType = some ty ∧ ot = some (pendingTok σ1 ty) ∧
      ArmStep cc { σ with charactersLexed := σ.charactersLexed + 1 } '\x00' σ1 true := by
  cases processChar_pstep cc h with
  | fail herr => rw [hok] at herr; cases herr
  | start hs => exact Or.inl ⟨rfl, hs⟩
  | cont harm =>
    rcases harm.atNul hcore.create (hcore.tok harm.notNoToken.1) with ⟨-, hne⟩ | ⟨h, -⟩
    · exact absurd (by simpa using hnone rfl) hne
    · cases h
  | @emit σ1 ty harm hty =>
    have hfr := harm.armFrame
    rcases harm.atNul hcore.create (hcore.tok harm.notNoToken.1) with ⟨h, -⟩ | ⟨-, -, hch⟩
    · cases h
    · exact Or.inr ⟨σ1, ty, harm.notNoToken.1, hch, hfr.tokenStartRow, hfr.tokenStartColumn, hty, rfl, harm⟩
  | split _ h2 => simp at h2

theorem Core_atEnd {σ : Lexer} {consumed : List Char} {toks : List LexerToken} (b : Bool)
    (h : Core σ consumed toks) : Core { σ with atEnd := b } consumed toks :=
  ⟨h.1, h.2, h.3, h.4, h.5, h.6, h.7, h.8, h.9, h.10⟩

theorem lexEnd_err (cc : CharClass) (fuel : Nat) (σ : Lexer) (toks : List LexerToken) (h : σ.result = .err) :
    lexEnd cc (fuel + 1) σ toks = .err .syntax := by
  simp [lexEnd, h, LexResult.isErr, lexFinish]

theorem lexLoop_err (cc : CharClass) (input : List Char) (σ : Lexer) (toks : List LexerToken)
    (h : σ.result = .err) : lexLoop cc input σ toks = .err .syntax := by
  cases input with
  | nil => simp only [lexLoop, endFuel]; exact lexEnd_err cc 3 σ toks h
  | cons c rest => simp [lexLoop, h, LexResult.isErr, lexFinish]

theorem Core_init (t : LexerOperatorNode) : Core (Lexer.init t) [] [] :=
  ⟨rfl, by simp, fun _ => rfl, fun h => absurd rfl h, trivial, fun h => absurd rfl h, rfl,
   ⟨fun h => by simp [Lexer.init] at h, fun h => by simp [Lexer.init] at h⟩, rfl, rfl⟩

/-- the invariants along a run (the last step may have recorded an error) -/
theorem Core.run {cc : CharClass} (hcc : cc.Sane2) {x : List Char} {σ0 σ : Lexer} {c0 : List Char}
    {t0 toks : List LexerToken} (hc : Core σ0 c0 t0) (hi : Inv σ0) (ha : σ0.atEnd = false)
    (h : runChars cc x σ0 t0 = .ok (σ, toks)) :
    (σ.result = .err ∨ Core σ (c0 ++ x) toks) ∧ Inv σ ∧ σ.atEnd = false ∧ σ.operatorTree = σ0.operatorTree :=
  runChars_induct cc
    (I := fun σ c t => (σ.result = .err ∨ Core σ c t) ∧ Inv σ ∧ σ.atEnd = false ∧ σ.operatorTree = σ0.operatorTree)
    (fun σ c t ch σ1 ot ⟨hc, hi, ha, ht⟩ hok hp => by
      have hf := processChar_frame cc _ _ _ _ hp
      have hc : Core σ c t := hc.resolve_left (by rw [hok]; nofun)
      exact ⟨processChar_core cc hcc σ ch c t hc (fun hs => by have := hs.2; rw [ha] at this; cases this) σ1 ot hp,
        processChar_inv2 cc hcc.toSane _ _ _ _ hi hp, hf.2.1.trans ha, hf.1.trans ht⟩)
    x σ0 σ c0 t0 toks h ⟨Or.inr hc, hi, ha, rfl⟩

theorem lex_final (cc : CharClass) (hcc : cc.Sane2) (s : List Char) (toks : List LexerToken)
    (h : lex cc s = .ok toks) : Final toks s := by
  obtain ⟨σ, toks0, σ1, ot, hrun, hok, hp, hok1, rfl, hnone⟩ := lex_ok cc hcc.toSane h
  obtain ⟨hcore, -⟩ := (Core_init theTree).run hcc (Inv_init _) rfl hrun
  have hcore : Core σ s toks0 := by simpa using hcore.resolve_left (by rw [hok]; nofun)
  rcases processChar_sentinel cc (Core_atEnd true hcore) hp hok1 hnone with
    ⟨rfl, hs⟩ | ⟨σa, ty, hst, hch, hr, hcl, -, rfl, -⟩
  · simpa using hcore.final hs
  · simp only [Option.toList_some, pendingTok, hch, hr, hcl]
    exact hcore.final_emit hst ty

/-- the Unicode predicates of the Rust std, from the generated range tables -/
def rustTables : CharClass := ⟨Garnish.Gen.CharRanges.isAlphanumeric, Garnish.Gen.CharRanges.isNumeric⟩

theorem rustTables_sane2 : rustTables.Sane2 :=
  { rustTables_sane with dotNumeric := by decide +kernel, dotAlphanumeric := by decide +kernel }

theorem TokPosFrom_get : ∀ (p : List Char) (toks : List LexerToken), TokPosFrom p toks →
    ∀ (i : Nat) (h : i < toks.length), (toks[i].row, toks[i].column) = posOf (p ++ textsOf (toks.take i))
  | p, [], _, i, h => by simp at h
  | p, t :: ts, hp, 0, _ => by simpa [TokPosFrom] using hp.1
  | p, t :: ts, hp, i + 1, h => by
    have := TokPosFrom_get (p ++ t.text) ts hp.2 i (by simpa using h)
    simpa [textsOf, List.append_assoc] using this

theorem textsOf_take_prefix (toks : List LexerToken) (s : List Char) (h : textsOf toks = s) (i : Nat) :
    textsOf (toks.take i) = s.take (textsOf (toks.take i)).length := by
  have : s = textsOf (toks.take i) ++ textsOf (toks.drop i) := by
    rw [← h]
    simp only [textsOf, ← List.flatten_append, ← List.map_append, List.take_append_drop]
  rw [this, List.take_left']
  rfl

end Garnish.Model.Lexer
