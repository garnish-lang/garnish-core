/-
`clone_data` keeps `WF` and `WFq`: the copies are well-formed cells whose links lead to retained nodes or to copies
made earlier, and the copies of input-value cells are chained (Lemmas/MutProv.lean).
-/
import Garnish.Lemmas.MutProv
import Garnish.Lemmas.MutOps
import Garnish.Lemmas.OptimizePre
namespace Garnish.BasicOpt
open Garnish

theorem cloneData_appended {s s' : Store} {a r : Nat} (hb : Base s) (hlw : ListsWF s.cells)
    (hr : s.retention ≤ s.cells.size) (ha : isNode s.cells a = true) (h : Store.cloneData s a = .ok (s', r)) :
    Appended s s' ∧ isNode s'.cells r = true ∧
      (ChainWF s.cells → ∀ j p v, s.cells.size ≤ j → s'.cells[j]? = some (.value p v) → svAt s'.cells p = true) := by
  have hext0 := cloneData_original_untouched h
  obtain ⟨sha, hsha⟩ := node_shape ha
  obtain ⟨s1, h1, e1, hhead, hloop, hinv, hcell, hgood⟩ := cloneData_walk h hlw
  have hsize : s.cells.size < s1.cells.size := lt_of_getElem? hhead
  have hkn : KidsNodes s.cells := fun i sh hsh k hk => node_shape (hb.kids hsh hk)
  have hin0 : ItemsNodes s.cells s.cells.size s := ⟨fun _ _ h => h, fun j h1 h2 => by omega⟩
  have hin1 := createIndexStack_nodes hkn hin0 (Nat.le_refl _) hsha h1
  have hpre : FreshPre s.cells s1 s.cells.size s1.cells.size := by
    refine ⟨hkn, ?_⟩
    intro j hj1 hj2 o ho
    obtain ⟨o', sh, h3, h4⟩ := hin1.items j hj1 hj2
    rw [ho] at h3
    simp only [Option.some.injEq, Cell.cloneItem.injEq] at h3
    subst h3; exact ⟨sh, h4⟩
  have hprov : Prov 0 s.cells s' s1.cells.size :=
    cloneLoop_prov (Nat.le_refl _) hlw (Or.inl rfl) (by rw [e1.frame.1]; omega) hpre _ _ _ (CInv.init e1)
      (fun j h1 h2 => by omega) hloop
  have hretle : s'.retention ≤ s1.cells.size := by
    rw [hinv.ret, e1.frame.1]; omega
  have hrnode : isNode s'.cells r = true := by
    rcases hgood with ⟨e, _⟩ | ⟨ni, _, hni, hcl⟩
    · subst e
      simp [isNode, shape_agree (agreeNC_of_all hinv.agree0) hsha]
    · simp only [Nat.add_zero] at hni
      subst hni
      obtain ⟨sh', g1, _⟩ := hcl sha hsha
      simp [isNode, g1]
  have hcells : s'.cells = s.cells ++ s'.cells.extract s.cells.size s'.cells.size :=
    prefix_append hext0.mono (fun i hi => hext0.keep i hi hi)
  refine ⟨Appended.of_frame hb hcells hext0.frame fun j hj1 hj2 => ?_, hrnode, fun hchain j p v hj hc => ?_⟩
  · by_cases hjh : j < s1.cells.size
    · obtain ⟨o, n', hc', _, _⟩ := hinv.done j (by omega) hjh
      have hsh : shape s'.cells j = none := neverNode_shape hc' rfl
      exact ⟨by simp [nodeOK, hsh], by simp [listOK, hc'], by simp [headerOK, hc']⟩
    · exact freshOK_local hretle (by omega) (hinv.fresh hpre j (by omega) hj2)
  · by_cases hjh : j < s1.cells.size
    · obtain ⟨o, n', hc', _, _⟩ := hinv.done j (by omega) hjh
      rw [hc'] at hc; cases hc
    · rcases hprov.chain hchain hinv.agree0 (by omega) hc with ⟨_, h⟩ | ⟨_, _, h⟩
      · exact h
      · simpa using h

theorem cloneData_wf {s s' : Store} {a r : Nat} (hwf : WF s) (ha : isNode s.cells a = true)
    (h : Store.cloneData s a = .ok (s', r)) : WF s' ∧ isNode s'.cells r = true := by
  obtain ⟨hap, hn, _⟩ := cloneData_appended hwf.base hwf.optHyp.listsWF hwf.retLe ha h
  exact ⟨hwf.appended hap, hn⟩

theorem cloneData_wfq {s s' : Store} {a r : Nat} (hwf : WFq s) (ha : isNode s.cells a = true)
    (h : Store.cloneData s a = .ok (s', r)) : WFq s' ∧ isNode s'.cells r = true := by
  obtain ⟨hap, hn, hch⟩ := cloneData_appended hwf.base (listsWF_of_lists hwf.lists) hwf.retLe ha h
  exact ⟨hwf.appended_chain hap (hch hwf.chain), hn⟩

end Garnish.BasicOpt
