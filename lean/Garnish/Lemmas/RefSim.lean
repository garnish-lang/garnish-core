/-
C18, reference-grammar level: the reference parser never looks at the token positions it stores, nor below the right spine
of the tree it is building.  `Sim E a b`: the trees `a` and `b` have the same right spine (same definitions, positions
free) and `E`-related parts off the spine (left operands, bracket contents).  `refStep` / `refLoop` map `Sim`-related
frames to `Sim`-related frames (`refStep_sim`, `refLoop_sim`).  Instances of `E`: equality after erasing the token
positions (`RTree.eraseTok`), and equality after also removing `( )` group nodes (`RTree.stripGroups`).
-/
import Garnish.Lemmas.RefParseShift

namespace Garnish.Spec
open Garnish Garnish.Gen Garnish.Model.Parser

/-- forget the token positions -/
def RTree.eraseTok : RTree → RTree
  | .nil => .nil
  | .node l d _ r => .node l.eraseTok d 0 r.eraseTok
  | .group d _ inner => .group d 0 inner.eraseTok

/-- forget the token positions and remove the `( )` group nodes (nested expressions `{ }` stay) -/
def RTree.stripGroups : RTree → RTree
  | .nil => .nil
  | .node l d _ r => .node l.stripGroups d 0 r.stripGroups
  | .group d _ inner => if d == .group then inner.stripGroups else .group d 0 inner.stripGroups

/-- same right spine, `E`-related parts off the spine -/
inductive Sim (E : RTree → RTree → Prop) : RTree → RTree → Prop
  | nil : Sim E .nil .nil
  | node {l l' r r' : RTree} (d : Definition) (k k' : Nat) : E l l' → Sim E r r' → Sim E (.node l d k r) (.node l' d k' r')
  | group {i i' : RTree} (d : Definition) (k k' : Nat) : E i i' → Sim E (.group d k i) (.group d k' i')

/-- what the simulation needs of the relation used off the spine -/
structure EOK (E : RTree → RTree → Prop) : Prop where
  refl : ∀ a, E a a
  ofSim : ∀ a b, Sim E a b → E a b

theorem Sim.rfl' {E : RTree → RTree → Prop} (h : EOK E) : ∀ a, Sim E a a
  | .nil => .nil
  | .node l d k r => .node d k k (h.refl l) (Sim.rfl' h r)
  | .group d k i => .group d k k (h.refl i)

def EErase (a b : RTree) : Prop := a.eraseTok = b.eraseTok
def EStrip (a b : RTree) : Prop := a.stripGroups = b.stripGroups

theorem eok_erase : EOK EErase where
  refl := fun _ => rfl
  ofSim := by
    intro a b h
    induction h with
    | nil => rfl
    | node d k k' hl _ ih => unfold EErase at *; simp only [RTree.eraseTok, hl, ih]
    | group d k k' hi => unfold EErase at *; simp only [RTree.eraseTok, hi]

theorem eok_strip : EOK EStrip where
  refl := fun _ => rfl
  ofSim := by
    intro a b h
    induction h with
    | nil => rfl
    | node d k k' hl _ ih => unfold EStrip at *; simp only [RTree.stripGroups, hl, ih]
    | group d k k' hi => unfold EStrip at *; simp only [RTree.stripGroups, hi]

section
variable {E : RTree → RTree → Prop}

theorem Sim.isNil {a b : RTree} (h : Sim E a b) : a.isNil = b.isNil := by cases h <;> rfl

def OptRel (R : RTree → RTree → Prop) : Option RTree → Option RTree → Prop
  | some a, some b => R a b
  | none, none => True
  | _, _ => False

theorem absorb_sim (hE : EOK E) (tbl : Table) (q : Nat) (rtl : Bool) (d : Definition) (k k' : Nat) {t t' : RTree}
    (h : Sim E t t') : OptRel (Sim E) (absorb tbl q rtl d k t) (absorb tbl q rtl d k' t') := by
  induction h with
  | nil => exact True.intro
  | group d0 k0 k0' hi => exact True.intro
  | node a ka ka' hl hr ih =>
    rename_i l l' r r'
    simp only [absorb]
    cases h1 : absorb tbl q rtl d k r with
    | some r1 =>
      cases h2 : absorb tbl q rtl d k' r' with
      | some r2 => rw [h1, h2] at ih; exact .node a ka ka' hl ih
      | none => rw [h1, h2] at ih; exact ih.elim
    | none =>
      cases h2 : absorb tbl q rtl d k' r' with
      | some r2 => rw [h1, h2] at ih; exact ih.elim
      | none =>
        cases tbl.prio a with
        | none => exact True.intro
        | some pa =>
          simp only
          split
          · exact .node a ka ka' hl (.node d k k' (hE.ofSim _ _ hr) .nil)
          · exact True.intro

theorem attach_sim (hE : EOK E) (tbl : Table) (q : Nat) (rtl : Bool) (d : Definition) (k k' : Nat) {t t' : RTree}
    (h : Sim E t t') : Sim E (attach tbl q rtl d k t) (attach tbl q rtl d k' t') := by
  have := absorb_sim hE tbl q rtl d k k' h
  unfold attach
  cases h1 : absorb tbl q rtl d k t <;> cases h2 : absorb tbl q rtl d k' t' <;> rw [h1, h2] at this
  · exact .node d k k' (hE.ofSim _ _ h) .nil
  · exact this.elim
  · exact this.elim
  · exact this

theorem asProperty_leaf_sim (hE : EOK E) (d : Definition) (k k' : Nat) :
    Sim E (asProperty (.node .nil d k .nil)) (asProperty (.node .nil d k' .nil)) := by
  unfold asProperty
  cases d <;> exact .node _ k k' (hE.refl _) .nil

/-- `hax`: the operand becomes a Property below an access node -/
theorem plug_sim {x x' : RTree} (hx : Sim E x x') (hax : Sim E (asProperty x) (asProperty x')) {R R' : RTree}
    (h : Sim E R R') : Sim E (plug R x) (plug R' x') := by
  induction h with
  | nil => exact hx
  | group d0 k0 k0' hi => exact .group d0 k0 k0' hi
  | node a ka ka' hl hr ih =>
    simp only [plug, hr.isNil]
    split
    · split
      · exact .node a ka ka' hl hax
      · exact .node a ka ka' hl hx
    · exact .node a ka ka' hl ih

/-- frames: same bracket kind, `Sim`-related trees, same flags -/
structure FSim (E : RTree → RTree → Prop) (f f' : Frame) : Prop where
  ctx : f.ctx.map (·.1) = f'.ctx.map (·.1)
  cur : Sim E f.cur f'.cur
  last : f.last = f'.last
  ws : f.ws = f'.ws
  prevSep : f.prevSep = f'.prevSep

theorem FSim.rfl' (hE : EOK E) (f : Frame) : FSim E f f := ⟨rfl, Sim.rfl' hE _, rfl, rfl, rfl⟩

theorem FSim.inGroup {f f' : Frame} (h : FSim E f f') : f.inGroup = f'.inGroup := by
  rw [Frame.inGroup_eq, Frame.inGroup_eq, h.ctx]

/-- relation on outcomes: related values, or the same failure -/
def ORel {α β : Type} (R : α → β → Prop) : Outcome α → Outcome β → Prop
  | .ok a, .ok b => R a b
  | .err e, .err e' => e = e'
  | .panic s, .panic s' => s = s'
  | .fuelOut, .fuelOut => True
  | _, _ => False

theorem ORel.of_ok {α β : Type} {R : α → β → Prop} {a : α} {y : Outcome β} (h : ORel R (.ok a) y) :
    ∃ b, y = .ok b ∧ R a b := by
  cases y <;> simp only [ORel] at h
  exact ⟨_, rfl, h⟩

theorem FSim.ctx_of {f f' : Frame} (h : FSim E f f') {d : Definition} {p : Nat} (hc : f.ctx = some (d, p)) :
    ∃ q, f'.ctx = some (d, q) := by
  have := h.ctx
  rw [hc] at this
  cases hgc : f'.ctx with
  | none => rw [hgc] at this; cases this
  | some dp =>
    rw [hgc] at this
    simp only [Option.map_some, Option.some.injEq] at this
    exact ⟨dp.2, by rw [this]⟩

/-- stacks of related frames -/
inductive LSim (E : RTree → RTree → Prop) : List Frame → List Frame → Prop
  | nil : LSim E [] []
  | cons {f f' : Frame} {s s' : List Frame} : FSim E f f' → LSim E s s' → LSim E (f :: s) (f' :: s')

theorem LSim.rfl' {E : RTree → RTree → Prop} (hE : EOK E) : ∀ s, LSim E s s
  | [] => .nil
  | f :: s => .cons (FSim.rfl' hE f) (LSim.rfl' hE s)

def SSim (E : RTree → RTree → Prop) (fs fs' : Frame × List Frame) : Prop :=
  FSim E fs.1 fs'.1 ∧ LSim E fs.2 fs'.2

theorem beforeOperand_sim (hE : EOK E) (tbl : Table) {f f' : Frame} (h : FSim E f f') (pos pos' : Nat) :
    ORel (FSim E) (beforeOperand tbl f pos) (beforeOperand tbl f' pos') := by
  unfold beforeOperand
  rw [← h.last, ← h.ws]
  cases f.last <;> simp only [ORel] <;> try exact h
  cases f.ws with
  | false => exact rfl
  | true =>
    simp only [if_true]
    cases tbl.prio .list with
    | none => exact rfl
    | some q => exact ⟨h.ctx, attach_sim hE tbl q false .list _ _ h.cur, rfl, rfl, h.prevSep⟩

/-- the positions `pos`, `pos'` are unrelated -/
theorem refStep_sim (hE : EOK E) (tbl : Table) {f f' : Frame} (h : FSim E f f') {stack stack' : List Frame}
    (hs : LSim E stack stack') (pos pos' : Nat) (t : PToken) (rest : List PToken) :
    ORel (SSim E) (refStep tbl f stack pos t rest) (refStep tbl f' stack' pos' t rest) := by
  rw [refStep_eq, refStep_eq]
  cases tbl.act t.type <;> simp only [Act.run]
  case fail => exact rfl
  case skip => exact ⟨h, hs⟩
  case space => exact ⟨⟨h.ctx, h.cur, h.last, rfl, h.prevSep⟩, hs⟩
  case operand d l =>
    have hb := beforeOperand_sim hE tbl h pos pos'
    cases h1 : beforeOperand tbl f pos <;> cases h2 : beforeOperand tbl f' pos' <;> rw [h1, h2] at hb <;>
      simp only [ORel] at hb <;> simp only [Outcome.bind, ORel] <;> try exact hb
    exact ⟨⟨hb.ctx, plug_sim (.node d pos pos' (hE.refl _) .nil) (asProperty_leaf_sim hE d pos pos') hb.cur, rfl, rfl,
      rfl⟩, hs⟩
  case opener d =>
    have hb := beforeOperand_sim hE tbl h pos pos'
    cases h1 : beforeOperand tbl f pos <;> cases h2 : beforeOperand tbl f' pos' <;> rw [h1, h2] at hb <;>
      simp only [ORel] at hb <;> simp only [Outcome.bind, ORel] <;> try exact hb
    exact ⟨⟨rfl, .nil, rfl, rfl, rfl⟩, .cons ⟨hb.ctx, hb.cur, hb.last, rfl, hb.prevSep⟩ hs⟩
  case closer =>
    have hc := h.ctx
    cases h1 : f.ctx with
    | none =>
      cases h2 : f'.ctx with
      | none => exact rfl
      | some gp => rw [h1, h2] at hc; cases hc
    | some gp =>
      cases h2 : f'.ctx with
      | none => rw [h1, h2] at hc; cases hc
      | some gp' =>
        obtain ⟨gd, gpos⟩ := gp
        obtain ⟨gd', gpos'⟩ := gp'
        rw [h1, h2] at hc
        simp only [Option.map_some, Option.some.injEq] at hc
        subst hc
        cases hs with
        | nil => exact rfl
        | cons hp hs' =>
          simp only [← h.last]
          split
          · exact rfl
          · split
            · exact rfl
            · have hg := Sim.group gd gpos gpos' (hE.ofSim _ _ h.cur)
              exact ⟨⟨hp.ctx, plug_sim hg hg hp.cur, rfl, rfl, rfl⟩, hs'⟩
  case operator d q rtl optional last =>
    rw [← h.last]
    split
    · exact rfl
    · exact ⟨⟨h.ctx, attach_sim hE tbl q _ d pos pos' h.cur, rfl, rfl, rfl⟩, hs⟩
  case separator d =>
    simp only [← h.inGroup, ← h.prevSep, ← h.last]
    split
    · exact ⟨⟨h.ctx, h.cur, rfl, rfl, rfl⟩, hs⟩
    · split
      · exact ⟨⟨h.ctx, h.cur, rfl, h.ws, rfl⟩, hs⟩
      · split
        · exact rfl
        · cases tbl.prio d with
          | none => exact rfl
          | some q => exact ⟨⟨h.ctx, attach_sim hE tbl q false d pos pos' h.cur, rfl, rfl, rfl⟩, hs⟩

theorem refLoop_sim (hE : EOK E) (tbl : Table) : ∀ (toks : List PToken) {f f' : Frame} {stack stack' : List Frame}
    (pos pos' : Nat), FSim E f f' → LSim E stack stack' →
    ORel (Sim E) (refLoop tbl f stack pos toks) (refLoop tbl f' stack' pos' toks)
  | [], f, f', stack, stack', _, _, h, hs => by
    unfold refLoop
    rw [← h.last]
    cases hs with
    | nil =>
      simp only [List.isEmpty_nil, Bool.not_true, Bool.false_eq_true, if_false]
      split
      · exact rfl
      · exact h.cur
    | cons _ _ => exact rfl
  | t :: rest, f, f', stack, stack', pos, pos', h, hs => by
    unfold refLoop
    have hst := refStep_sim hE tbl h hs pos pos' t rest
    cases h1 : refStep tbl f stack pos t rest <;> cases h2 : refStep tbl f' stack' pos' t rest <;> rw [h1, h2] at hst <;>
      simp only [ORel] at hst <;> simp only [Outcome.bind, ORel] <;> try exact hst
    exact refLoop_sim hE tbl rest (pos + 1) (pos' + 1) hst.1 hst.2

end

theorem ORel.map_eq {g : RTree → RTree} (hE : EOK (fun a b => g a = g b)) {a b : Outcome RTree}
    (h : ORel (Sim (fun a b => g a = g b)) a b) : a.mapT g = b.mapT g := by
  cases a <;> cases b <;> simp only [ORel] at h <;> simp only [Outcome.mapT]
  · exact congrArg _ (hE.ofSim _ _ h)
  · rw [h]
  · rw [h]

end Garnish.Spec
