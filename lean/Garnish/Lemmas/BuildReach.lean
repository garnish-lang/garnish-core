/-
The states the two work-list loops of `build` pass through.  `Reach pf tree c0 loc ctx`: the traversal started in `c0` can be
in state `ctx` at the place `loc`.  Four rules: the start, popping a root (`rootJump`), one iteration of the inner loop (pop,
`handle_parse_node`, the list counters), leaving the inner loop (the terminators).  `buildCore_reach` walks the loops once; a
property of the result that holds whatever else happens (`Sat`) is then proved by induction on `Reach`, one case per rule.  The
properties that say something happens (no panic, termination) walk the loops themselves (Lemmas/Build.lean,
Lemmas/BuildTotalLoops.lean).  `crj` is `current_root_jump`, the jump entry through which the root being built is entered.
-/
import Garnish.Lemmas.BuildVisit

namespace Garnish.Lemmas.Build
open Garnish

theorem sat_bind_eq {α β : Type} {x : Outcome α} {f : α → Outcome β} {R : β → Prop} (h : ∀ a, x = .ok a → Sat R (f a)) :
    Sat R (Outcome.bind x f) := by
  cases x with
  | ok a => exact h a rfl
  | _ => trivial

theorem Sat.of_eq {α : Type} {P : α → Prop} {x : Outcome α} {a : α} (h : Sat P x) (e : x = .ok a) : P a := by
  subst e; exact h

end Garnish.Lemmas.Build

namespace Garnish.Lemmas.BuildPlan
open Garnish Garnish.Gen Garnish.Model.Parser Garnish.Model.Literals Garnish.Model.Build Garnish.Lemmas.Build

variable {F : Type}

/-- where the traversal stands: at the head of the outer loop, or at the head of the inner loop of root `r`, entered through
the jump entry `crj` when the stream had `rs` instructions -/
inductive Loc
  | head
  | inner (r crj rs : Nat)

/-- the terminators of root `r` -/
def endOf (nodes : Nodes) (r : Nat) : List Instr :=
  match nodes[r]? with
  | some (some node) =>
    match node.rootEndInstruction with
    | some endInstruction => endInstruction
    | none => [(.endExpression, none)]
  | _ => [(.endExpression, none)]

/-- `data.get_instruction_iter().last()` -/
def lastInstr (d : BState F) : Option Instr := if d.instrs.size == 0 then none else d.instrs[d.instrs.size - 1]?

theorem lastInstr_eq_back (d : BState F) : lastInstr d = d.instrs.back? := by
  unfold lastInstr
  rw [Array.back?_eq_getElem?]
  split
  · rename_i h
    have : d.instrs.size = 0 := by simpa using h
    rw [Array.getElem?_eq_none (by omega)]
  · rfl

inductive Reach (pf : List Char → Option F) (tree : Array ParseNode) (c0 : Ctx F) : Loc → Ctx F → Prop
  | init : Reach pf tree c0 .head c0
  | enter {ctx : Ctx F} {r : Nat} {d : BState F} {crj : Nat} : Reach pf tree c0 .head ctx → ctx.rootStack.back? = some r →
      rootJump ctx.data ctx.nodes r = .ok (d, crj) →
      Reach pf tree c0 (.inner r crj (getInstructionLen d)) ⟨d, ctx.nodes, ctx.rootStack.pop, #[r]⟩
  | step {r crj rs : Nat} {ctx c1 : Ctx F} {ni : Nat} {pn : ParseNode} {N : Nodes} : Reach pf tree c0 (.inner r crj rs) ctx →
      ctx.stack.back? = some ni → tree[ni]? = some pn →
      handleParseNode pf { ctx with stack := ctx.stack.pop } crj ni pn = .ok c1 → afterHandle c1.nodes ni = .ok N →
      Reach pf tree c0 (.inner r crj rs) { c1 with nodes := N }
  | leave {r crj rs : Nat} {ctx : Ctx F} : Reach pf tree c0 (.inner r crj rs) ctx → ctx.stack.back? = none →
      Reach pf tree c0 .head { ctx with data := pushEndInstructions (lastInstr ctx.data) rs ctx.data (endOf ctx.nodes r) }

variable (pf : List Char → Option F) {tree : Array ParseNode} {c0 : Ctx F}

theorem innerLoop_reach {r crj rs : Nat} : ∀ (fuel : Nat) (ctx : Ctx F), Reach pf tree c0 (.inner r crj rs) ctx →
    Sat (fun q => Reach pf tree c0 (.inner r crj rs) q.1 ∧ q.1.stack.back? = none) (innerLoop pf tree crj fuel ctx) := by
  intro fuel
  induction fuel with
  | zero => intro _ _; exact sat_fuelOut
  | succ k ih =>
    intro ctx h
    unfold innerLoop
    split
    · rename_i hnone; exact ⟨h, hnone⟩
    · rename_i ni hb
      split
      · exact sat_buildErr
      · rename_i pn hpn
        exact sat_bind_eq fun c1 h1 => sat_bind_eq fun N hN => ih _ (.step h hb hpn h1 hN)

theorem rootLoop_reach : ∀ (rootFuel stepFuel : Nat) (ctx : Ctx F), Reach pf tree c0 .head ctx →
    Sat (fun c => Reach pf tree c0 .head c ∧ c.rootStack.back? = none)
      (Garnish.Model.Build.rootLoop pf tree rootFuel stepFuel ctx) := by
  intro rootFuel
  induction rootFuel with
  | zero => intro _ _ _; exact sat_fuelOut
  | succ k ih =>
    intro stepFuel ctx h
    unfold Garnish.Model.Build.rootLoop
    split
    · rename_i hnone; exact ⟨h, hnone⟩
    · rename_i r hb
      refine sat_bind_eq fun q hq => ?_
      obtain ⟨d, crj⟩ := q
      refine sat_bind (innerLoop_reach pf stepFuel _ (.enter h hb hq)) fun q2 h2 => ?_
      obtain ⟨ctx2, fuel2⟩ := q2
      exact ih _ _ (.leave h2.1 h2.2)

theorem rootJump_cases (data : BState F) (nodes : Nodes) (rootIndex : Nat) :
    BuildTotal.Good (fun r => r = (pushToJumpTable data (getInstructionLen data), getJumpTableLen data) ∨
      ∃ node, nodes[rootIndex]? = some (some node) ∧ node.jumpIndexToUpdate = some r.2 ∧
        setJump? data r.2 (getInstructionLen data) = some r.1) (rootJump data nodes rootIndex) := by
  unfold rootJump
  dsimp only
  split
  · rename_i node hnode
    split
    · rename_i index hidx
      split
      · rename_i d' hset; exact Or.inr ⟨node, hnode, hidx, hset⟩
      · exact BuildTotal.good_buildErr
    · exact Or.inl rfl
  · exact Or.inl rfl

theorem setJump?_fields {d d' : BState F} {i v : Nat} (h : setJump? d i v = some d') :
    d'.instrs = d.instrs ∧ d'.consts = d.consts ∧ d'.metadata = d.metadata := by
  unfold setJump? at h
  split at h <;> cases h
  exact ⟨rfl, rfl, rfl⟩

/-- `∃ l`, not `endL`: a terminator equal to the last instruction is left out -/
theorem pushEndInstructions_emitAll (last : Option Instr) (rs : Nat) : ∀ (endL : List Instr) (data : BState F),
    ∃ l : List Instr, pushEndInstructions last rs data endL = emitAll data (l.map fun e => .instr e.1 e.2 none) := by
  intro endL
  induction endL with
  | nil => intro data; exact ⟨[], rfl⟩
  | cons e rest ih =>
    intro data
    have push : ∃ l : List Instr, pushEndInstructions last rs (pushInstr data e.1 e.2 none) rest =
        emitAll data (l.map fun e => .instr e.1 e.2 none) :=
      let ⟨l, h⟩ := ih (pushInstr data e.1 e.2 none); ⟨e :: l, h⟩
    unfold pushEndInstructions
    split
    · split
      · exact ih data
      · exact push
    · exact push

/-- the first state of the outer loop -/
def startCtx (root : Nat) (tree : Array ParseNode) (d0 : BState F) : Ctx F :=
  ⟨d0, putNode (Array.replicate tree.size none) root (BuildNode.new root d0.jumps.size), #[root], #[]⟩

theorem startCtx_get {root : Nat} {tree : Array ParseNode} {d0 : BState F} {x : Nat} {bn : BuildNode}
    (h : (startCtx root tree d0).nodes[x]? = some (some bn)) : x = root ∧ bn = BuildNode.new root d0.jumps.size := by
  rcases BuildTotal.get_putNode_some h with e | ⟨_, h⟩
  · exact e
  · simp [Array.getElem?_replicate] at h

theorem setNodeIdx_ok {nodes N : Nodes} {i : Nat} {b : BuildNode} {site : String} (h : setNodeIdx nodes i b site = .ok N) :
    i < nodes.size ∧ N = putNode nodes i b := by
  rcases Nat.lt_or_ge i nodes.size with hi | hi
  · rw [BuildTotal.setNodeIdx_eq hi] at h; cases h; exact ⟨hi, rfl⟩
  · simp [setNodeIdx, Nat.not_lt.2 hi] at h

theorem buildCore_reach (fuel root : Nat) (tree : Array ParseNode) (d0 : BState F) :
    Sat (fun q => root < tree.size ∧ ∃ ctx, Reach pf tree (startCtx root tree d0) .head ctx ∧ ctx.rootStack.back? = none ∧
        allScheduled ctx.nodes tree = true ∧ q = (ctx.data, d0.jumps.size))
      (buildCore pf fuel root tree d0) := by
  unfold buildCore
  refine sat_bind_eq fun N hN => ?_
  obtain ⟨hlt, rfl⟩ := setNodeIdx_ok hN
  refine sat_bind (rootLoop_reach pf (c0 := startCtx root tree d0) fuel fuel _ .init) fun ctx hctx => ?_
  split
  · rename_i hall; exact ⟨by simpa using hlt, ctx, hctx.1, hctx.2, hall, rfl⟩
  · exact sat_buildErr

end Garnish.Lemmas.BuildPlan

namespace Garnish.Lemmas.BuildAttr
open Garnish Garnish.Gen Garnish.Model.Parser Garnish.Model.Literals Garnish.Model.Build Garnish.Lemmas.Build

variable {F : Type} {tree : Array ParseNode}

theorem rootJump_meta (data : BState F) (nodes : Nodes) (rootIndex : Nat) :
    Sat (fun r => r.1.metadata = data.metadata) (rootJump data nodes rootIndex) := by
  refine sat_mono (BuildPlan.rootJump_cases data nodes rootIndex).sat fun r h => ?_
  rcases h with rfl | ⟨_, _, _, hset⟩
  · rfl
  · exact (BuildPlan.setJump?_fields hset).2.2

theorem allScheduled_get {nodes : Nodes} (hsz : nodes.size = tree.size) (h : allScheduled nodes tree = true) {x : Nat} {pn : ParseNode}
    (hx : tree[x]? = some pn) (hd : pn.definition ≠ .subexpression) : ∃ bn, nodes[x]? = some (some bn) := by
  have hxlt : x < tree.size := lt_of_getElem? hx
  unfold allScheduled at h
  rw [List.all_eq_true] at h
  have hn : nodes.toList[x]? = some nodes[x] := by simp [hsz, hxlt]
  have hmem : (nodes[x], pn) ∈ nodes.toList.zip tree.toList := by
    rw [List.mem_iff_getElem?]
    exact ⟨x, List.getElem?_zip_eq_some.2 ⟨hn, by simpa using hx⟩⟩
  have := h _ hmem
  cases ho : nodes[x]'(by omega) with
  | none =>
    rw [ho] at this
    simp at this
    exact absurd this hd
  | some bn => exact ⟨bn, by simp [hsz, hxlt, ho]⟩

end Garnish.Lemmas.BuildAttr
