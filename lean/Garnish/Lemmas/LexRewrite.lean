/-
Text-level rewrites, lexer side (C18): conversion of lexer tokens to parser tokens (`Garnish.Model.toP`), the text
rewrite `TextAddSpace` (a run of spaces/tabs inside an existing Whitespace token is replaced by another run) and its
transfer through `lex`: the token list changes in the text of ONE token of type Whitespace / Subexpression only, hence the parser's input keeps
its token types (`SameTypes`) and its numbering (`NumberedFrom 0`).
-/
import Garnish.Lemmas.LexerC18Ws
import Garnish.Model.Tokens
import Garnish.Lemmas.RefTrivia
import Garnish.Lemmas.ParserFrag
namespace Garnish.Model.Lexer
open Garnish.Model Garnish.Model.Parser Garnish.Spec

theorem toPFrom_numbered : ∀ (k : Nat) (l : List LexerToken), NumberedFrom k (toPFrom k l)
  | _, [] => trivial
  | k, _ :: rest => ⟨rfl, toPFrom_numbered (k + 1) rest⟩

theorem toP_numbered (l : List LexerToken) : NumberedFrom 0 (toP l) := toPFrom_numbered 0 l

theorem toPFrom_types : ∀ (k : Nat) (l : List LexerToken), (toPFrom k l).map (·.type) = l.map (·.tokenType)
  | _, [] => rfl
  | k, t :: rest => by simp [toPFrom, toPFrom_types (k + 1) rest]

theorem toPFrom_texts : ∀ (k : Nat) (l : List LexerToken), (toPFrom k l).map (·.text) = l.map (·.text)
  | _, [] => rfl
  | k, t :: rest => by simp [toPFrom, toPFrom_texts (k + 1) rest]

theorem toPFrom_length : ∀ (k : Nat) (l : List LexerToken), (toPFrom k l).length = l.length
  | _, [] => rfl
  | k, t :: rest => by simp [toPFrom, toPFrom_length (k + 1) rest]

theorem toPFrom_congr : ∀ (k : Nat) (l l' : List LexerToken), SameTT l l' → toPFrom k l = toPFrom k l'
  | _, [], [], _ => rfl
  | _, [], _ :: _, h => by simp [SameTT] at h
  | _, _ :: _, [], h => by simp [SameTT] at h
  | k, t :: rest, t' :: rest', h => by
    simp only [SameTT, List.map_cons, List.cons.injEq, Prod.mk.injEq] at h
    obtain ⟨⟨h1, h2⟩, h3⟩ := h
    simp only [toPFrom, h1, h2, toPFrom_congr (k + 1) rest rest' h3]

theorem toPFrom_append (k : Nat) (a b : List LexerToken) :
    toPFrom k (a ++ b) = toPFrom k a ++ toPFrom (k + a.length) b := by
  induction a generalizing k with
  | nil => simp [toPFrom]
  | cons t r ih => simp [toPFrom, ih, Nat.add_assoc, Nat.add_comm 1]

/-- `t'` is `t` with the text of ONE token of type Whitespace / Subexpression replaced (rows / columns of the later tokens may differ) -/
def OneWsChanged (t t' : List LexerToken) : Prop :=
  ∃ pre x x' rest rest', t = pre ++ x :: rest ∧ t' = pre ++ x' :: rest' ∧ x.tokenType = x'.tokenType ∧
    (x.tokenType = .whitespace ∨ x.tokenType = .subexpression) ∧ SameTT rest rest'

theorem OneWsChanged.parserInput {t t' : List LexerToken} (h : OneWsChanged t t') :
    ∃ pre x x' rest, Garnish.Model.toP t = pre ++ x :: rest ∧ Garnish.Model.toP t' = pre ++ x' :: rest ∧ x.type = x'.type ∧ x.col = x'.col ∧
      (x.type = .whitespace ∨ x.type = .subexpression) := by
  obtain ⟨pre, x, x', rest, rest', rfl, rfl, hty, hws, hs⟩ := h
  refine ⟨toPFrom 0 pre, ⟨x.text, x.tokenType, 0, 0 + pre.length⟩, ⟨x'.text, x'.tokenType, 0, 0 + pre.length⟩,
    toPFrom (0 + pre.length + 1) rest, ?_, ?_, hty, rfl, hws⟩
  · simp [Garnish.Model.toP, toPFrom_append, toPFrom]
  · simp only [Garnish.Model.toP, toPFrom_append, toPFrom]
    rw [toPFrom_congr _ rest' rest (Eq.symm hs)]

theorem OneWsChanged.sameTypes {t t' : List LexerToken} (h : OneWsChanged t t') : SameTypes (toP t) (toP t') := by
  obtain ⟨pre, x, x', rest, h1, h2, hty, _, _⟩ := h.parserInput
  simp [SameTypes, h1, h2, hty]

/-- after the prefix `p` the lexer is inside a Whitespace token (no newline yet) whose text so far is `cs` -/
def InWsAfter (cc : CharClass) (p cs : List Char) : Prop :=
  ∃ σ toks, runChars cc p (Lexer.init theTree) [] = .ok (σ, toks) ∧ InWhitespace σ cs

def inWsAfterB (cc : CharClass) (p cs : List Char) : Bool :=
  match runChars cc p (Lexer.init theTree) [] with
  | .ok (σ, _) => inWhitespaceB σ cs
  | _ => false

theorem inWsAfter_of_check {cc : CharClass} {p cs : List Char} (h : inWsAfterB cc p cs = true) : InWsAfter cc p cs := by
  unfold inWsAfterB at h
  cases hr : runChars cc p (Lexer.init theTree) [] with
  | ok r => obtain ⟨σ, toks⟩ := r; rw [hr] at h; exact ⟨σ, toks, hr, inWhitespace_of_check h⟩
  | err e => rw [hr] at h; cases h
  | panic m => rw [hr] at h; cases h
  | fuelOut => rw [hr] at h; cases h

/-- **the text rewrite**: `s = p ++ r ++ b` and `s' = p ++ r' ++ b` where `r`, `r'` are runs of spaces/tabs (either may
be empty) and `p` ends inside a Whitespace token — i.e. spaces/tabs are inserted into, or removed from, an existing run
of spaces/tabs that the lexer reads as whitespace (the run keeps at least the part `cs` that lies in `p`).
The guard `InWsAfter` refers to the lexer model (a space inside a char list is not whitespace); `inWsAfterB` decides it. -/
def TextAddSpace (cc : CharClass) (s s' : List Char) : Prop :=
  ∃ p cs r r' b, InWsAfter cc p cs ∧ (∀ c ∈ r, c = ' ' ∨ c = '\t') ∧ (∀ c ∈ r', c = ' ' ∨ c = '\t') ∧
    s = p ++ (r ++ b) ∧ s' = p ++ (r' ++ b)

theorem TextAddSpace.symm {cc : CharClass} {s s' : List Char} (h : TextAddSpace cc s s') : TextAddSpace cc s' s := by
  obtain ⟨p, cs, r, r', b, h1, h2, h3, h4, h5⟩ := h
  exact ⟨p, cs, r', r, b, h1, h3, h2, h5, h4⟩

theorem oneWsChanged_of_wsOut {T : List LexerToken} {u u' : List Char} {t : List LexerToken} {σf : Lexer}
    {R : Outcome (List LexerToken × Lexer)} (h : WsOut T u u' (.ok (t, σf)) R) :
    ∃ t' σ', R = .ok (t', σ') ∧ OneWsChanged t t' := by
  cases R with
  | ok q =>
    obtain ⟨t', σ'⟩ := q
    simp only [WsOut] at h
    obtain ⟨x, x', z', rest, rest', e1, e2, hty, hws, _, _, hs⟩ := h
    exact ⟨t', σ', rfl, T, x, x', rest, rest', e1, e2, hty, hws, hs⟩
  | err e => simp [WsOut] at h
  | panic m => simp [WsOut] at h
  | fuelOut => simp [WsOut] at h

theorem lex_textAddSpace (cc : CharClass) (hcc : cc.Sane) {s s' : List Char} {t : List LexerToken}
    (hl : lex cc s = .ok t) (h : TextAddSpace cc s s') : ∃ t', lex cc s' = .ok t' ∧ OneWsChanged t t' := by
  obtain ⟨p, cs, r, r', b, ⟨σ, toks, hrun, hin⟩, hr, hr', rfl, rfl⟩ := h
  obtain ⟨σf, hfull⟩ := lex_of_lexFull hl
  rw [lexFull_append cc p (r ++ b) hrun] at hfull
  have hw := lexLoop_whitespace_local cc hcc σ cs r r' b toks hin hr hr'
  rw [hfull] at hw
  obtain ⟨t', σ', hR, hone⟩ := oneWsChanged_of_wsOut hw
  exact ⟨t', lex_of_lexFull_eq ((lexFull_append cc p (r' ++ b) hrun).trans hR), hone⟩

end Garnish.Model.Lexer
