/-
C11: `nvalEq` (equality on normalised values) is reflexive, symmetric and transitive on clean values (no NaN: `numClean`), given
the float equality laws `FloatEqLaws`.
-/
import Garnish.Abs.Ops
namespace Garnish.Lemmas
open Garnish Gen Garnish.Abs

variable {F : Type} (fo : FloatOps F)

theorem normList_append (xs ys : List (Val F)) : normList (xs ++ ys) = normList xs ++ normList ys := by
  induction xs with
  | nil => simp [normList]
  | cons x xs ih => simp [normList, ih]

/-- equality laws of IEEE doubles that `==` on numbers relies on (hypotheses, not axioms) -/
structure FloatEqLaws (fo : FloatOps F) : Prop where
  refl : ∀ a, fo.isNaN a = false → fo.feq a a = true
  symm : ∀ a b, fo.feq a b = fo.feq b a
  trans : ∀ a b c, fo.feq a b = true → fo.feq b c = true → fo.feq a c = true
  /-- `f64::from(i32)` is exact, hence injective, on the i32 range -/
  ofInt_inj : ∀ a b : Int, InRange a → InRange b → fo.feq (fo.ofInt a) (fo.ofInt b) = true → a = b

def numClean : Number F → Bool
  | .int a => decide (InRange a)
  | .float f => !fo.isNaN f

def symPartClean : SymPart F → Bool
  | .sym _ => true
  | .num n => numClean fo n

mutual
/-- values `==` is an equivalence on: no NaN, integers in the i32 range, no slice/partial/custom, range
end points unit or number -/
def NVal.clean : NVal F → Bool
  | .atom _ _ => true
  | .num n => numClean fo n
  | .text _ => true
  | .blob _ => true
  | .symList ps => ps.all (symPartClean fo)
  | .pair l r => NVal.clean l && NVal.clean r
  | .seq items => NVal.cleanList items
  | .range s e => NVal.cleanEnd s && NVal.cleanEnd e
  | .opaque => false
def NVal.cleanList : List (NVal F) → Bool
  | [] => true
  | x :: xs => NVal.clean x && NVal.cleanList xs
def NVal.cleanEnd : NVal F → Bool
  | .atom .unit _ => true
  | .num n => numClean fo n
  | _ => false
end

theorem numEq_refl (h : FloatEqLaws fo) (n : Number F) (hc : numClean fo n = true) : Number.numEq fo n n = true := by
  cases n with
  | int a => simp [Number.numEq]
  | float f => simp [numClean] at hc; simp [Number.numEq, h.refl f hc]

theorem numEq_symm (h : FloatEqLaws fo) (a b : Number F) : Number.numEq fo a b = Number.numEq fo b a := by
  cases a <;> cases b <;> simp only [Number.numEq, h.symm]
  exact BEq.comm

theorem numEq_trans (h : FloatEqLaws fo) (a b c : Number F) (ha : numClean fo a = true) (hc : numClean fo c = true)
    (h1 : Number.numEq fo a b = true) (h2 : Number.numEq fo b c = true) : Number.numEq fo a c = true := by
  cases a with
  | int x =>
    cases b with
    | int y =>
      have : x = y := by simpa [Number.numEq] using h1
      subst this; exact h2
    | float f =>
      cases c with
      | int z =>
        simp only [Number.numEq] at h1 h2 ⊢
        simp only [numClean, decide_eq_true_eq] at ha hc
        have := h.ofInt_inj x z ha hc (h.trans _ _ _ h1 h2)
        simp [this]
      | float g => simp only [Number.numEq] at h1 h2 ⊢; exact h.trans _ _ _ h1 h2
  | float f =>
    cases b with
    | int y =>
      cases c with
      | int z =>
        have : y = z := by simpa [Number.numEq] using h2
        subst this; exact h1
      | float g => simp only [Number.numEq] at h1 h2 ⊢; exact h.trans _ _ _ h1 h2
    | float g =>
      cases c <;> (simp only [Number.numEq] at h1 h2 ⊢; exact h.trans _ _ _ h1 h2)

theorem symPartEq_refl (h : FloatEqLaws fo) (p : SymPart F) (hc : symPartClean fo p = true) : symPartEq fo p p = true := by
  cases p with
  | sym s => simp [symPartEq]
  | num n => exact numEq_refl fo h n hc

theorem symPartsEq_refl (h : FloatEqLaws fo) : ∀ (ps : List (SymPart F)), ps.all (symPartClean fo) = true → symPartsEq fo ps ps = true
  | [], _ => rfl
  | p :: ps, hc => by
    simp [List.all_cons] at hc
    simp [symPartsEq, symPartEq_refl fo h p hc.1, symPartsEq_refl h ps (by simpa using hc.2)]

theorem symPartEq_symm (h : FloatEqLaws fo) (a b : SymPart F) : symPartEq fo a b = symPartEq fo b a := by
  cases a <;> cases b <;> simp only [symPartEq, numEq_symm fo h]
  exact BEq.comm

theorem symPartsEq_symm (h : FloatEqLaws fo) : ∀ (a b : List (SymPart F)), symPartsEq fo a b = symPartsEq fo b a
  | [], [] => rfl
  | [], _ :: _ => rfl
  | _ :: _, [] => rfl
  | x :: xs, y :: ys => by simp [symPartsEq, symPartEq_symm fo h x y, symPartsEq_symm h xs ys]

theorem symPartEq_trans (h : FloatEqLaws fo) (a b c : SymPart F) (ha : symPartClean fo a = true) (hc : symPartClean fo c = true)
    (h1 : symPartEq fo a b = true) (h2 : symPartEq fo b c = true) : symPartEq fo a c = true := by
  cases a <;> cases b <;> cases c <;> simp [symPartEq, symPartClean] at *
  · omega
  · exact numEq_trans fo h _ _ _ ha hc h1 h2

theorem symPartsEq_trans (h : FloatEqLaws fo) : ∀ (a b c : List (SymPart F)),
    a.all (symPartClean fo) = true → c.all (symPartClean fo) = true →
    symPartsEq fo a b = true → symPartsEq fo b c = true → symPartsEq fo a c = true
  | [], [], [], _, _, _, _ => rfl
  | [], [], _ :: _, _, _, _, h2 => by simp [symPartsEq] at h2
  | [], _ :: _, _, _, _, h1, _ => by simp [symPartsEq] at h1
  | _ :: _, [], _, _, _, h1, _ => by simp [symPartsEq] at h1
  | _ :: _, _ :: _, [], _, _, _, h2 => by simp [symPartsEq] at h2
  | x :: xs, y :: ys, z :: zs, ha, hc, h1, h2 => by
    simp [symPartsEq, List.all_cons] at *
    exact ⟨symPartEq_trans fo h x y z ha.1 hc.1 h1.1 h2.1,
      symPartsEq_trans h xs ys zs (by simpa using ha.2) (by simpa using hc.2) h1.2 h2.2⟩


theorem rangeEndEq_refl (h : FloatEqLaws fo) (x : NVal F) (hc : NVal.cleanEnd fo x = true) : rangeEndEq fo x x = true := by
  cases x with
  | atom t n => cases t <;> simp_all [rangeEndEq, NVal.cleanEnd]
  | num n => exact numEq_refl fo h n (by simpa [NVal.cleanEnd] using hc)
  | _ => simp [NVal.cleanEnd] at hc

theorem rangeEndEq_symm (h : FloatEqLaws fo) (x y : NVal F) : rangeEndEq fo x y = rangeEndEq fo y x := by
  cases x <;> cases y <;> simp only [rangeEndEq, Bool.and_comm]
  exact numEq_symm fo h _ _

theorem rangeEndEq_trans (h : FloatEqLaws fo) (x y z : NVal F) (hx : NVal.cleanEnd fo x = true) (hz : NVal.cleanEnd fo z = true)
    (h1 : rangeEndEq fo x y = true) (h2 : rangeEndEq fo y z = true) : rangeEndEq fo x z = true := by
  cases x <;> cases y <;> simp [rangeEndEq] at h1 <;> cases z <;> simp [rangeEndEq] at h2 ⊢
  · exact ⟨h1.1, h2.2⟩
  · exact numEq_trans fo h _ _ _ (by simpa [NVal.cleanEnd] using hx) (by simpa [NVal.cleanEnd] using hz) h1 h2

mutual
theorem nvalEq_refl (h : FloatEqLaws fo) : ∀ (x : NVal F), NVal.clean fo x = true → nvalEq fo x x = true
  | .atom t n, _ => by simp [nvalEq]
  | .num n, hc => by simp only [nvalEq]; exact numEq_refl fo h n (by simpa [NVal.clean] using hc)
  | .text _, _ => by simp [nvalEq]
  | .blob _, _ => by simp [nvalEq]
  | .symList ps, hc => by simp only [nvalEq]; exact symPartsEq_refl fo h ps (by simpa [NVal.clean] using hc)
  | .pair l r, hc => by
    simp only [NVal.clean, Bool.and_eq_true] at hc
    simp [nvalEq, nvalEq_refl h l hc.1, nvalEq_refl h r hc.2]
  | .seq items, hc => by
    simp only [NVal.clean] at hc
    simp only [nvalEq]; exact nvalsEq_refl h items hc
  | .range s e, hc => by
    simp only [NVal.clean, Bool.and_eq_true] at hc
    simp [nvalEq, rangeEndEq_refl fo h s hc.1, rangeEndEq_refl fo h e hc.2]
  | .opaque, hc => by simp [NVal.clean] at hc
theorem nvalsEq_refl (h : FloatEqLaws fo) : ∀ (xs : List (NVal F)), NVal.cleanList fo xs = true → nvalsEq fo xs xs = true
  | [], _ => by simp [nvalsEq]
  | x :: xs, hc => by
    simp only [NVal.cleanList, Bool.and_eq_true] at hc
    simp [nvalsEq, nvalEq_refl h x hc.1, nvalsEq_refl h xs hc.2]
end

mutual
theorem nvalEq_symm (h : FloatEqLaws fo) : ∀ (x y : NVal F), nvalEq fo x y = nvalEq fo y x
  | .atom t n, y => by
    cases y with
    | atom t' n' => simp only [nvalEq, BEq.comm (a := t), BEq.comm (a := n)]
    | _ => rfl
  | .num a, y => by
    cases y with
    | num b => exact numEq_symm fo h a b
    | _ => rfl
  | .text a, y => by
    cases y with
    | text b => exact BEq.comm
    | _ => rfl
  | .blob a, y => by
    cases y with
    | blob b => exact BEq.comm
    | _ => rfl
  | .symList a, y => by
    cases y with
    | symList b => exact symPartsEq_symm fo h a b
    | _ => rfl
  | .pair l r, y => by
    cases y with
    | pair l' r' => simp only [nvalEq, nvalEq_symm h l l', nvalEq_symm h r r']
    | _ => rfl
  | .seq a, y => by
    cases y with
    | seq b => exact nvalsEq_symm h a b
    | _ => rfl
  | .range s e, y => by
    cases y with
    | range s' e' => simp only [nvalEq, rangeEndEq_symm fo h s s', rangeEndEq_symm fo h e e']
    | _ => rfl
  | .opaque, y => by cases y <;> rfl
theorem nvalsEq_symm (h : FloatEqLaws fo) : ∀ (xs ys : List (NVal F)), nvalsEq fo xs ys = nvalsEq fo ys xs
  | [], [] => rfl
  | [], _ :: _ => rfl
  | _ :: _, [] => rfl
  | x :: xs, y :: ys => by simp only [nvalsEq, nvalEq_symm h x y, nvalsEq_symm h xs ys]
end

/- In each arm the middle and the right value are cut down to the constructor of the left one: against any other
constructor `nvalEq` evaluates to `false`. -/
mutual
theorem nvalEq_trans (h : FloatEqLaws fo) : ∀ (x y z : NVal F), NVal.clean fo x = true → NVal.clean fo z = true →
    nvalEq fo x y = true → nvalEq fo y z = true → nvalEq fo x z = true
  | .atom t n, y, z, _, _, h1, h2 => by
    cases y <;> try cases h1
    cases z <;> try cases h2
    simp [nvalEq] at h1 h2 ⊢
    exact ⟨h1.1.trans h2.1, h1.2.trans h2.2⟩
  | .num a, y, z, hx, hz, h1, h2 => by
    cases y <;> try cases h1
    cases z <;> try cases h2
    exact numEq_trans fo h _ _ _ hx hz h1 h2
  | .text a, y, z, _, _, h1, h2 => by
    cases y <;> try cases h1
    cases z <;> try cases h2
    simp [nvalEq] at h1 h2 ⊢
    exact h1.trans h2
  | .blob a, y, z, _, _, h1, h2 => by
    cases y <;> try cases h1
    cases z <;> try cases h2
    simp [nvalEq] at h1 h2 ⊢
    exact h1.trans h2
  | .symList a, y, z, hx, hz, h1, h2 => by
    cases y <;> try cases h1
    cases z <;> try cases h2
    exact symPartsEq_trans fo h _ _ _ hx hz h1 h2
  | .pair l r, y, z, hx, hz, h1, h2 => by
    cases y <;> try cases h1
    cases z <;> try cases h2
    simp only [NVal.clean, Bool.and_eq_true] at hx hz
    simp only [nvalEq, Bool.and_eq_true] at h1 h2 ⊢
    exact ⟨nvalEq_trans h l _ _ hx.1 hz.1 h1.1 h2.1, nvalEq_trans h r _ _ hx.2 hz.2 h1.2 h2.2⟩
  | .seq a, y, z, hx, hz, h1, h2 => by
    cases y <;> try cases h1
    cases z <;> try cases h2
    exact nvalsEq_trans h a _ _ hx hz h1 h2
  | .range s e, y, z, hx, hz, h1, h2 => by
    cases y <;> try cases h1
    cases z <;> try cases h2
    simp only [NVal.clean, Bool.and_eq_true] at hx hz
    simp only [nvalEq, Bool.and_eq_true] at h1 h2 ⊢
    exact ⟨rangeEndEq_trans fo h _ _ _ hx.1 hz.1 h1.1 h2.1, rangeEndEq_trans fo h _ _ _ hx.2 hz.2 h1.2 h2.2⟩
  | .opaque, _, _, hx, _, _, _ => by cases hx
theorem nvalsEq_trans (h : FloatEqLaws fo) : ∀ (xs ys zs : List (NVal F)), NVal.cleanList fo xs = true → NVal.cleanList fo zs = true →
    nvalsEq fo xs ys = true → nvalsEq fo ys zs = true → nvalsEq fo xs zs = true
  | [], [], [], _, _, _, _ => rfl
  | [], [], _ :: _, _, _, _, h2 => by cases h2
  | [], _ :: _, _, _, _, h1, _ => by cases h1
  | _ :: _, [], _, _, _, h1, _ => by cases h1
  | _ :: _, _ :: _, [], _, _, _, h2 => by cases h2
  | x :: xs, y :: ys, z :: zs, hx, hz, h1, h2 => by
    simp only [NVal.cleanList, Bool.and_eq_true] at hx hz
    simp only [nvalsEq, Bool.and_eq_true] at h1 h2 ⊢
    exact ⟨nvalEq_trans h x y z hx.1 hz.1 h1.1 h2.1, nvalsEq_trans h xs ys zs hx.2 hz.2 h1.2 h2.2⟩
end

end Garnish.Lemmas
