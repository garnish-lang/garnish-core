/-
Brackets: the state invariant `UInv` after an operand or a suffix operator inside a frame (top level or an open bracket) —
`last_left` is the last node (a value / suffix operator) or a closed bracket `cb` —, closed under trivia tokens.  What
`parse_token` does for a new operator node is said once (`Inserted`, from `core_effectU`: old definitions, the frame rule
`Outer`, and the frame's tree once the node and its right subtree are there).  A closing token on the bracket it matches is
`step_close_eq`, then the fix-up of `last_left` (`step_close_fix` when it changes the nodes, `step_closeU` when not).  An
operand (`OpdRes`) completes a frame as its first operand (`uinv_first`) or as the right operand of an inserted operator node:
`OpPos` is the open operand position behind such a node, whose field `close` turns any complete operand into the invariant
for the tree with both inserted.
Priorities: a larger number binds looser; a value has 10, binary and suffix operators more than 20 (`bin3_prio20`,
`suffix_prio20`), `[` 5, the implicit `List` 220, the separators 1000 / 990.
-/
import Garnish.Lemmas.ParserBClosed

namespace Garnish.Spec
open Garnish Garnish.Gen Garnish.Model.Parser

def isBracketDef (d : Definition) : Bool := d == .group || d == .nestedExpression

theorem bracket_facts {d : Definition} (h : isBracketDef d = true) :
    priority d = some 20 ∧ d.isGroupLike = true ∧ (d == Definition.sideEffect) = false ∧ d.isValueLike = false ∧
      d.isOptional = false ∧ (d == Definition.subexpression) = false := by
  cases d <;> cases h <;> decide

theorem prio10_not_bracket {d : Definition} (h : priority d = some 10) : isBracketDef d = false := by
  cases d <;> cases h <;> decide

theorem not_bracket_of_not_groupLike {d : Definition} (h : d.isGroupLike = false) : isBracketDef d = false := by
  cases d <;> cases h <;> rfl

theorem bin3_prio20 (tt : TokenType)
    (h : ((getDefinition tt).2 == SecDef.binaryLeftToRight || (getDefinition tt).2 == SecDef.binaryRightToLeft ||
      (getDefinition tt).2 == SecDef.optionalBinaryLeftToRight) = true) :
    ∃ q, priority (getDefinition tt).1 = some q ∧ 20 < q ∧ isBracketDef (getDefinition tt).1 = false := by
  cases tt <;> cases h <;> decide

theorem binop_prio20 (tt : TokenType)
    (h : ((getDefinition tt).2 == SecDef.binaryLeftToRight || (getDefinition tt).2 == SecDef.binaryRightToLeft) = true) :
    ∃ q, priority (getDefinition tt).1 = some q ∧ 20 < q ∧ isBracketDef (getDefinition tt).1 = false :=
  bin3_prio20 tt (by rw [h]; rfl)

theorem bin3_secdef {o : PToken} (ho : isBin3Tok o = true) :
    (getDefinition o.type).2 = .binaryLeftToRight ∨ (getDefinition o.type).2 = .binaryRightToLeft ∨
      (getDefinition o.type).2 = .optionalBinaryLeftToRight := by
  unfold isBin3Tok at ho; simpa [Bool.or_eq_true, beq_iff_eq, or_assoc] using ho

theorem suffix_prio20 (tt : TokenType) (h : (getDefinition tt).2 = SecDef.unarySuffix) :
    ∃ q, priority (getDefinition tt).1 = some q ∧ 20 < q ∧ isBracketDef (getDefinition tt).1 = false := by
  cases tt <;> cases h <;> decide

theorem stops_twenty {q : Nat} (rtl : Bool) (h : 20 < q) : stops q rtl 20 = false := by
  simp only [stops, Bool.or_eq_false_iff, decide_eq_false_iff_not, Bool.and_eq_false_iff, beq_eq_false_iff_ne]
  exact ⟨by omega, Or.inl (by omega)⟩

/-- on the right spine only `cb` (where the spine ends as far as walks are concerned) is a bracket -/
def SpineG (df : Nat → Definition) (cb : Nat) : Tree → Prop
  | .nil => True
  | .node _ i _ r => if i = cb then isBracketDef (df i) = true else isBracketDef (df i) = false ∧ SpineG df cb r

theorem SpineG.congr {df df' : Nat → Definition} {cb : Nat} : ∀ {t : Tree}, (∀ i ∈ t.inorder, df i = df' i) →
    SpineG df cb t → SpineG df' cb t
  | .nil, _, _ => trivial
  | .node l i k r, h, hs => by
    have hi := h i (by simp [Tree.inorder])
    simp only [SpineG] at hs ⊢
    split
    · rename_i hc; rw [if_pos hc] at hs; rw [← hi]; exact hs
    · rename_i hc; rw [if_neg hc] at hs
      exact ⟨by rw [← hi]; exact hs.1, SpineG.congr (fun j hj => h j (by simp [Tree.inorder, hj])) hs.2⟩

theorem spineG_newOp {df : Nat → Definition} {cb n ko : Nat} {s sub : Tree} (hn : n ≠ cb)
    (hdn : isBracketDef (df n) = false) (hsub : SpineG df cb sub) : SpineG df cb (newOpS s n ko sub) := by
  simp only [newOpS, SpineG, if_neg hn]; exact ⟨hdn, hsub⟩

theorem spineG_absorbC {df : Nat → Definition} {cb0 cb : Nat} {pr : Nat → Nat} {q : Nat} {rtl : Bool} {n ko : Nat}
    {sub : Tree} (hn : n ≠ cb) (hdn : isBracketDef (df n) = false) (hsub : SpineG df cb sub) :
    ∀ (t t' : Tree), cb ∉ t.inorder → SpineG df cb0 t → absorbC cb0 pr q rtl n ko sub t = some t' → SpineG df cb t'
  | .nil, _, _, _, h => by simp [absorbC] at h
  | .node l i k r, t', hcb, hs, h => by
    have hi : i ≠ cb := fun e => hcb (by simp [Tree.inorder, e])
    have hcbr : cb ∉ r.inorder := fun hm => hcb (by simp [Tree.inorder, hm])
    simp only [absorbC] at h
    split at h
    · cases h
    · rename_i hc
      simp only [SpineG, if_neg hc] at hs
      cases hr : absorbC cb0 pr q rtl n ko sub r with
      | some r' =>
        simp only [hr, Option.some.injEq] at h; subst h
        simp only [SpineG, if_neg hi]
        exact ⟨hs.1, spineG_absorbC hn hdn hsub r r' hcbr hs.2 hr⟩
      | none =>
        simp only [hr] at h
        split at h
        · simp only [Option.some.injEq] at h; subst h
          simp only [SpineG, if_neg hi]
          exact ⟨hs.1, spineG_newOp hn hdn hsub⟩
        · cases h

theorem spineG_insertC {df : Nat → Definition} {cb0 cb : Nat} {pr : Nat → Nat} {q : Nat} {rtl : Bool} {n ko : Nat}
    {sub t : Tree} (hn : n ≠ cb) (hdn : isBracketDef (df n) = false) (hsub : SpineG df cb sub) (hcb : cb ∉ t.inorder)
    (hs : SpineG df cb0 t) : SpineG df cb (insertC cb0 pr q rtl n ko sub t) := by
  unfold insertC
  cases h : absorbC cb0 pr q rtl n ko sub t with
  | some t' => exact spineG_absorbC hn hdn hsub t t' hcb hs h
  | none => exact spineG_newOp hn hdn hsub

theorem onSpine_absorbC {cb0 cb : Nat} {pr : Nat → Nat} {q : Nat} {rtl : Bool} {n ko : Nat} {sub : Tree}
    (hsub : OnSpine cb sub) :
    ∀ (t t' : Tree), absorbC cb0 pr q rtl n ko sub t = some t' → OnSpine cb t'
  | .nil, _, h => by simp [absorbC] at h
  | .node l i k r, t', h => by
    simp only [absorbC] at h
    split at h
    · cases h
    · cases hr : absorbC cb0 pr q rtl n ko sub r with
      | some r' =>
        simp only [hr, Option.some.injEq] at h; subst h
        exact Or.inr (onSpine_absorbC hsub r r' hr)
      | none =>
        simp only [hr] at h
        split at h
        · simp only [Option.some.injEq] at h; subst h
          exact Or.inr (Or.inr hsub)
        · cases h

theorem onSpine_insertC {cb0 cb : Nat} {pr : Nat → Nat} {q : Nat} {rtl : Bool} {n ko : Nat} {sub t : Tree}
    (hsub : OnSpine cb sub) : OnSpine cb (insertC cb0 pr q rtl n ko sub t) := by
  unfold insertC
  cases h : absorbC cb0 pr q rtl n ko sub t with
  | some t' => exact onSpine_absorbC hsub t t' h
  | none => exact Or.inr hsub

/-- what `last_left` points to after an operand or a suffix operator; `cb` = the closed bracket, or `nodes.size` if the
    last node is a value or a suffix operator -/
inductive Bot (st : PState) (E : Tree) : Nat → Prop
  | plain : st.lastLeft = some (st.nodes.size - 1) →
      (∃ nd, st.nodes[st.nodes.size - 1]? = some nd ∧ nd.right = none ∧ nd.definition.isGroupLike = false) →
      E.inorder.getLast? = some (st.nodes.size - 1) →
      (∀ nd, st.nodes[st.nodes.size - 1]? = some nd → (nd.secondaryDefinition == SecDef.subexpression) = false) →
      Bot st E st.nodes.size
  | closed (cb : Nat) (G : ParseNode) : cb < st.nodes.size → st.lastLeft = some cb → st.nodes[cb]? = some G →
      isBracketDef G.definition = true → OnSpine cb E →
      (G.secondaryDefinition == SecDef.subexpression) = false → Bot st E cb

/-- **frame-local invariant** after an operand or a suffix operator (closed under trivia tokens) -/
structure UInv (st : PState) (ug p : Option Nat) (base : Nat) (E : Tree) (re cb : Nat) : Prop where
  n : NInv st.nodes ug p base E re
  nnl : st.nextLastLeft = none
  hug : underGroupOf st = .ok ug
  bot : Bot st E cb
  spine : SpineG (dfOf st.nodes) cb E
  prev : st.previousSecondDef = .value ∨ st.previousSecondDef = .identifier ∨ st.previousSecondDef = .unarySuffix ∨
    st.previousSecondDef = .endGrouping ∨ st.previousSecondDef = .whitespace ∨ st.previousSecondDef = .annotation

theorem Bot.noop_data {st : PState} {E : Tree} {cb : Nat} (h : Bot st E cb) :
    ∃ i nd, st.lastLeft = some i ∧ st.nodes[i]? = some nd ∧ (nd.definition == Definition.sideEffect) = false := by
  cases h with
  | plain hl hb _ _ =>
    obtain ⟨nd, h1, _, h3⟩ := hb
    exact ⟨_, nd, hl, h1, not_sideEffect_of_not_groupLike h3⟩
  | closed cb G _ hl hG hbr _ _ => exact ⟨_, G, hl, hG, (bracket_facts hbr).2.2.1⟩

theorem UInv.adjust {st : PState} {ug p : Option Nat} {base : Nat} {E : Tree} {re cb : Nat}
    (h : UInv st ug p base E re cb) : adjustLastLeft st ug = .ok st := by
  obtain ⟨i, nd, h1, h2, h3⟩ := h.bot.noop_data
  exact adjust_noop st ug (Or.inr ⟨i, nd, h1, h2, Or.inl h3⟩)

theorem UInv.cb_not_mem {st : PState} {ug p : Option Nat} {base : Nat} {E : Tree} {re cb : Nat}
    (h : UInv st ug p base E re cb) : st.nodes.size ∉ E.inorder := fun hm => by
  have := (h.n.mem _ hm).2; omega

/-- what `previous_second_def` may be after an operand -/
def afterOpd : List SecDef := [.value, .identifier, .unarySuffix, .endGrouping, .whitespace, .annotation]

/-- what may follow an operand, whatever the list flag: the part of the composition table the invariant needs -/
def followsOpd : List SecDef :=
  [.binaryLeftToRight, .binaryRightToLeft, .optionalBinaryLeftToRight, .unarySuffix, .endGrouping, .endSideEffect,
   .subexpression, .none, .startSideEffect]

theorem afterOpd_comp : ∀ s ∈ afterOpd, ∀ x ∈ followsOpd, ∀ c : Bool, checkComposition s x c = true := by decide +kernel

theorem UInv.prev_mem {st : PState} {ug p : Option Nat} {base : Nat} {E : Tree} {re cb : Nat}
    (h : UInv st ug p base E re cb) : st.previousSecondDef ∈ afterOpd := by
  rcases h.prev with h | h | h | h | h | h <;> rw [h] <;> decide

theorem UInv.comp {st : PState} {ug p : Option Nat} {base : Nat} {E : Tree} {re cb : Nat}
    (h : UInv st ug p base E re cb) (x : SecDef) (hx : x ∈ followsOpd) :
    checkComposition st.previousSecondDef x st.checkForList = true :=
  afterOpd_comp _ h.prev_mem x hx _

theorem UInv.comp_binop {st : PState} {ug p : Option Nat} {base : Nat} {E : Tree} {re cb : Nat}
    (h : UInv st ug p base E re cb) (so : SecDef)
    (ho : so = .binaryLeftToRight ∨ so = .binaryRightToLeft ∨ so = .optionalBinaryLeftToRight) :
    checkComposition st.previousSecondDef so st.checkForList = true := by
  rcases ho with rfl | rfl | rfl <;> exact h.comp _ (by decide)

/-- the frame rule: the nodes outside the frame that starts at `base` are untouched, the bracket node `base - 1` that opened
    it up to its `right` -/
structure Outer (base : Nat) (a b : Array ParseNode) : Prop where
  upto : ∀ j, j < base → (b[j]?).map (setRight none) = (a[j]?).map (setRight none)
  same : ∀ j, j + 1 < base → b[j]? = a[j]?

theorem Outer.trans {base : Nat} {a b c : Array ParseNode} (h1 : Outer base a b) (h2 : Outer base b c) : Outer base a c :=
  ⟨fun j hj => by rw [h2.upto j hj, h1.upto j hj], fun j hj => by rw [h2.same j hj, h1.same j hj]⟩

theorem Outer.of_below {base : Nat} {a b : Array ParseNode} (h : ∀ j, j < base → b[j]? = a[j]?) : Outer base a b :=
  ⟨fun j hj => by rw [h j hj], fun j hj => h j (by omega)⟩

/-- **what `parse_token` has done for a new operator node** (id `nodes.size`, not pushed yet) on a frame with the tree `E`:
    the array `nodes'` it returns has the old definitions and an untouched outside, and once the node is there with a tree
    `sub` under its `right`, the frame holds `T ko sub` (`ko`: the node's token position) -/
structure Inserted (nodes : Array ParseNode) (p : Option Nat) (base : Nat) (T : Nat → Tree → Tree)
    (nodes' : Array ParseNode) (info : Info) : Prop where
  size : nodes'.size = nodes.size
  defs : ∀ j, j < nodes.size → (nodes'[j]?).map (·.definition) = (nodes[j]?).map (·.definition)
  outer : Outer base nodes nodes'
  tree : ∀ (arr : Array ParseNode) (sub : Tree) (ko : Nat) {rlink : Option Nat},
    (∀ j, j < nodes.size → arr[j]? = nodes'[j]?) →
    (∃ on, arr[nodes.size]? = some on ∧ on.parent = info.parent ∧ on.left = info.left ∧ on.right = rlink ∧
      tokPos on = ko) →
    IsTreeAt arr (some nodes.size) rlink sub → ∃ re', FrameTree arr p re' (T ko sub)

/-- the tree after an operator of priority `q` has been inserted behind `E` -/
abbrev insU (st : PState) (cb q : Nat) (rtl : Bool) (E : Tree) (ko : Nat) (sub : Tree) : Tree :=
  insertC cb (prioAt st.nodes) q rtl st.nodes.size ko sub E

theorem insU_congr {st st' : PState} (h : st'.nodes = st.nodes) (cb q : Nat) (rtl : Bool) (E : Tree) :
    insU st' cb q rtl E = insU st cb q rtl E := by unfold insU; rw [h]

/-- `parse_token` for a new operator of priority > 20 on a state that satisfies `UInv`; when the operator is not stopped
    by the last node, also how to unlink it again -/
theorem core_effectU {st : PState} {ug p : Option Nat} {base : Nat} {E : Tree} {re cb : Nat}
    (hinv : UInv st ug p base E re cb) (d : Definition) (q : Nat) (rtl : Bool) (right : Option Nat)
    (hq : priority d = some q) (hq20 : 20 < q) :
    ∃ (nodes' : Array ParseNode) (info : Info),
      parseToken st.nodes.size d st.lastLeft right st.nodes ug rtl = .ok (nodes', info) ∧
      info.right = right ∧ Inserted st.nodes p base (insU st cb q rtl E) nodes' info ∧
      ((cb = st.nodes.size → stops q rtl (prioAt st.nodes (st.nodes.size - 1)) = false) → (∀ g, p = some g → info.parent.isSome = true) ∧ ∀ P, info.parent = some P →
        ∃ l, info.left = some l ∧ l < st.nodes.size ∧ P < st.nodes.size ∧ l ≠ P ∧
          ∀ j, (if j = P then (nodes'[j]?).map (setRight (some l))
                else if j = l then (nodes'[j]?).map (setParent (some P)) else nodes'[j]?) = st.nodes[j]?) := by
  have hnm := hinv.cb_not_mem
  cases hb : hinv.bot with
  | plain hl _ hlastE _ =>
    obtain ⟨nodes', info, h1, h2, h3, h4, h5, h6, h7⟩ := core_effectB hinv.n hlastE d q rtl right hq
    have h1' : parseToken st.nodes.size d st.lastLeft right st.nodes ug rtl = .ok (nodes', info) := by rw [hl]; exact h1
    refine ⟨nodes', info, h1', h2, ⟨(parseToken_size_def h1').1, h3, ⟨h4, h5⟩, ?_⟩, fun hs => h7 (hs rfl)⟩
    intro arr sub ko rlink ha hon hsub
    obtain ⟨re', hre'⟩ := h6 arr sub ko ha hon hsub
    exact ⟨re', by show FrameTree arr p re' (insertC _ _ _ _ _ _ _ _); rw [insertC_eq_insertS _ _ _ _ _ _ _ _ hnm]; exact hre'⟩
  | closed cb G _ hl hG hbr hsp _ =>
    have hns : stops q rtl (prioAt st.nodes cb) = false := by
      have : prioAt st.nodes cb = 20 := by simp [prioAt, hG, (bracket_facts hbr).1]
      rw [this]; exact stops_twenty rtl hq20
    obtain ⟨nodes', info, h1, h2, h3, h4, h5, h6, h7⟩ := core_effectC hinv.n cb hsp d q rtl right hq hns
    have h1' : parseToken st.nodes.size d st.lastLeft right st.nodes ug rtl = .ok (nodes', info) := by rw [hl]; exact h1
    exact ⟨nodes', info, h1', h2, ⟨(parseToken_size_def h1').1, h3, ⟨h4, h5⟩, h6⟩, fun _ => h7⟩

/-- **an operator node without right operand**: any array that agrees with `nodes'` below the node and holds the node with
    `right = none` satisfies the node part of the invariant for the tree with the node inserted -/
theorem Inserted.closeNil {st : PState} {ug p : Option Nat} {base : Nat} {E : Tree} {re cb q q' : Nat} {rtl : Bool}
    {nodes' : Array ParseNode} {info : Info} (hinv : UInv st ug p base E re cb)
    (hI : Inserted st.nodes p base (insU st cb q rtl E) nodes' info) {arr : Array ParseNode} {on : ParseNode}
    (hlt : ∀ j, j < st.nodes.size → arr[j]? = nodes'[j]?) (hon : arr[st.nodes.size]? = some on)
    (hp : on.parent = info.parent) (hl : on.left = info.left) (hr : on.right = none)
    (hsz : arr.size = st.nodes.size + 1) (hq : priority on.definition = some q') :
    ∃ re', NInv arr ug p base (insU st cb q rtl E (tokPos on) .nil) re' ∧
      (insU st cb q rtl E (tokPos on) .nil).inorder = E.inorder ++ [st.nodes.size] ∧
      ∀ j, j < st.nodes.size → (arr[j]?).map (·.definition) = (st.nodes[j]?).map (·.definition) := by
  obtain ⟨re', htree', hfr'⟩ := hI.tree arr .nil (tokPos on) hlt ⟨on, hon, hp, hl, hr, rfl⟩ (.nil _)
  have hdefs1 : ∀ j, j < st.nodes.size → (arr[j]?).map (·.definition) = (st.nodes[j]?).map (·.definition) :=
    fun j hj => by rw [hlt j hj]; exact hI.defs j hj
  have hin1 : (insU st cb q rtl E (tokPos on) .nil).inorder = E.inorder ++ [st.nodes.size] := by
    show (insertC _ _ _ _ _ _ _ _).inorder = _; rw [insertC_inorder]; rfl
  have hpos := hinv.n.pos
  refine ⟨re', ⟨htree', ?_, by rw [hin1]; exact List.mem_append_left _ hinv.n.first, by omega, ?_,
    allPrio_of_defs hinv.n.prios hdefs1 hsz hon hq⟩, hin1, hdefs1⟩
  · rw [hin1, hsz]
    exact hinv.n.inord.append_cons (l2 := []) ⟨List.Pairwise.nil, fun _ hj => nomatch hj⟩ (by omega) (by omega)
  · cases hinv.n.frame with
    | top re => exact .top re'
    | bracket g re G pg hG hgl hpg hGr =>
      obtain ⟨G', hG', hGr', hgl', pg', hpg'⟩ := hfr' g rfl
      exact .bracket g re' G' pg' hG' hgl' hpg' hGr'

theorem op_effectU {st : PState} {ug p : Option Nat} {base : Nat} {E : Tree} {re cb : Nat} {o : PToken}
    (hinv : UInv st ug p base E re cb) (ho : isBin3Tok o = true) :
    ∃ (q : Nat) (nodes' : Array ParseNode) (info : Info) (st1 : PState),
      priority (getDefinition o.type).1 = some q ∧ step st o false = .ok st1 ∧
      st1.nodes = nodes'.push ⟨(getDefinition o.type).1, (getDefinition o.type).2, info.parent, info.left,
        some (st.nodes.size + 1), o⟩ ∧
      OpenB st1 ug ∧ st1.groupStack = st.groupStack ∧ st1.currentGroup = st.currentGroup ∧
      Inserted st.nodes p base (insU st cb q ((getDefinition o.type).2 == .binaryRightToLeft) E) nodes' info := by
  have ho' := ho
  unfold isBin3Tok at ho'
  obtain ⟨q, hq, hq20, _⟩ := bin3_prio20 o.type ho'
  obtain ⟨f1, f2, f3, f4⟩ := bin3_def_facts o.type ho'
  have hso := bin3_secdef ho
  obtain ⟨nodes', info, hpt, hir, hI, _⟩ := core_effectU hinv (getDefinition o.type).1 q
    ((getDefinition o.type).2 == .binaryRightToLeft) (some (st.nodes.size + 1)) hq hq20
  obtain ⟨st1, h1, hn1, hl1, hc1, hnl1, hgs1, hcg1, hp1, hnp1⟩ :=
    step_bin3_okG st o false ho hinv.nnl hinv.hug hinv.adjust (hinv.comp_binop _ hso) hpt
  have hsz' := hI.size
  rw [hir] at hn1
  refine ⟨q, nodes', info, st1, hq, h1, hn1, ?_, hgs1, hcg1, hI⟩
  have hs1 : st1.nodes.size = st.nodes.size + 1 := by rw [hn1]; simp [hsz']
  have hon1 : st1.nodes[st.nodes.size]? = some ⟨(getDefinition o.type).1, (getDefinition o.type).2, info.parent,
      info.left, some (st.nodes.size + 1), o⟩ := by
    rw [hn1, Array.getElem?_push, if_pos hsz'.symm]
  have hug1 : underGroupOf st1 = .ok ug := by
    have := hinv.hug; simp only [underGroupOf, hgs1, hcg1] at this ⊢; exact this
  refine ⟨hc1, hnl1, hug1, by rw [hnp1, hl1], ?_, Or.inr ?_, ?_⟩
  · exact adjust_noop st1 ug (Or.inr ⟨_, _, hl1, hon1, Or.inl (not_sideEffect_of_not_groupLike f4)⟩)
  · refine ⟨⟨(getDefinition o.type).1, (getDefinition o.type).2, info.parent, info.left, some (st.nodes.size + 1), o⟩,
      q, by omega, by rw [hl1, hs1]; rfl, ?_, hq, by rw [hs1], f3, Or.inl ⟨by omega, f4⟩⟩
    rw [hs1, Nat.add_sub_cancel]; exact hon1
  · rw [hp1]
    rcases hso with h | h | h <;> rw [h] <;> simp

/-- **a suffix-operator token** on a state that satisfies `UInv`: the new state satisfies `UInv` for `insertC .. nil E` -/
theorem suffix_effectU {st : PState} {ug p : Option Nat} {base : Nat} {E : Tree} {re cb : Nat}
    (hinv : UInv st ug p base E re cb) (s : PToken) (il : Bool) (hs : isSuffixTok s = true) :
    ∃ (q : Nat) (st1 : PState) (re' : Nat), priority (getDefinition s.type).1 = some q ∧ step st s il = .ok st1 ∧
      UInv st1 ug p base (insU st cb q false E s.col .nil) re' st1.nodes.size ∧
      st1.nodes.size = st.nodes.size + 1 ∧ st1.groupStack = st.groupStack ∧ st1.currentGroup = st.currentGroup ∧
      (∀ j, j < st.nodes.size → (st1.nodes[j]?).map (·.definition) = (st.nodes[j]?).map (·.definition)) ∧
      Outer base st.nodes st1.nodes ∧ dfOf st1.nodes st.nodes.size = (getDefinition s.type).1 := by
  have hsd : (getDefinition s.type).2 = .unarySuffix := by unfold isSuffixTok at hs; simpa using hs
  obtain ⟨q, hq, hq20, hnb⟩ := suffix_prio20 s.type hsd
  obtain ⟨_, _, _, _, _, _, f3, f4⟩ := suffix_def_facts s.type hsd
  obtain ⟨nodes', info, hpt, hir, hI, _⟩ := core_effectU hinv (getDefinition s.type).1 q false none hq hq20
  obtain ⟨st1, h1, hn1, hl1, hc1, hnl1, hgs1, hcg1, hp1⟩ :=
    step_suffix_okG st s il hs hinv.nnl hinv.hug hinv.adjust (hinv.comp _ (by decide)) hpt
  have hsz' := hI.size
  rw [hir] at hn1
  have hs1 : st1.nodes.size = st.nodes.size + 1 := by rw [hn1]; simp [hsz']
  have hon : st1.nodes[st.nodes.size]? =
      some ⟨(getDefinition s.type).1, .unarySuffix, info.parent, info.left, none, s⟩ := by
    rw [hn1, Array.getElem?_push, if_pos hsz'.symm]
  have hlt : ∀ j, j < st.nodes.size → st1.nodes[j]? = nodes'[j]? := by
    intro j hj; rw [hn1, Array.getElem?_push, if_neg (by omega)]
  obtain ⟨re', hN, hin1, hdefs1⟩ := hI.closeNil hinv hlt hon rfl rfl rfl hs1 hq
  have hbase := hinv.n.pos
  have hdn : dfOf st1.nodes st.nodes.size = (getDefinition s.type).1 := by simp [dfOf, hon]
  refine ⟨q, st1, re', hq, h1, ?_, hs1, hgs1, hcg1, hdefs1,
    ⟨fun j hj => by rw [hlt j (by omega)]; exact hI.outer.upto j hj,
      fun j hj => by rw [hlt j (by omega)]; exact hI.outer.same j hj⟩, hdn⟩
  have hug1 : underGroupOf st1 = .ok ug := by
    have := hinv.hug; simp only [underGroupOf, hgs1, hcg1] at this ⊢; exact this
  refine ⟨hN, hnl1, hug1, ?_, ?_, Or.inr (Or.inr (Or.inl hp1))⟩
  · refine .plain (by rw [hl1, hs1]; rfl) ⟨_, by rw [hs1, Nat.add_sub_cancel]; exact hon, rfl, f4⟩ ?_ ?_
    · have hin1' : (insU st cb q false E s.col .nil).inorder = E.inorder ++ [st.nodes.size] := hin1
      rw [hin1', hs1, Nat.add_sub_cancel]; simp
    · intro nd hnd
      rw [hs1, Nat.add_sub_cancel, hon] at hnd
      injection hnd with hnd; rw [← hnd]; rfl
  · have hcong : ∀ i ∈ E.inorder, dfOf st.nodes i = dfOf st1.nodes i := by
      intro i hi
      have := hdefs1 i (hinv.n.mem i hi).2
      simp only [dfOf, this]
    apply spineG_insertC (by omega) (by rw [hdn]; exact hnb)
      (show SpineG (dfOf st1.nodes) st1.nodes.size Tree.nil from trivial)
    · intro hm; have := (hinv.n.mem _ hm).2; omega
    · exact hinv.spine.congr hcong

theorem step_triviaU {st : PState} {ug p : Option Nat} {base : Nat} {E : Tree} {re cb : Nat}
    (hinv : UInv st ug p base E re cb) (w : PToken) (il : Bool) (hw : isTriviaTok w = true) :
    ∃ c, step st w il =
      .ok { st with checkForList := c, previousSecondDef := (getDefinition w.type).2, lastToken := w } := by
  obtain ⟨i, n, hl, hn, _⟩ := hinv.bot.noop_data
  exact ⟨_, step_trivia_node w il hw hinv.hug hinv.adjust hinv.nnl hl hn⟩

theorem UInv.trivia {st : PState} {ug p : Option Nat} {base : Nat} {E : Tree} {re cb : Nat}
    (h : UInv st ug p base E re cb) (c : Bool) (w : PToken) (hw : isTriviaTok w = true) :
    UInv { st with checkForList := c, previousSecondDef := (getDefinition w.type).2, lastToken := w } ug p base E re cb := by
  refine ⟨h.n, h.nnl, h.hug, ?_, h.spine, ?_⟩
  · cases h.bot with
    | plain hl hb h3 h4 => exact .plain hl hb h3 h4
    | closed cb G h1 h2 h3 h4 h5 h6 => exact .closed cb G h1 h2 h3 h4 h5 h6
  · rcases trivia_secdef hw with h | h
    · exact Or.inr (Or.inr (Or.inr (Or.inr (Or.inl h))))
    · exact Or.inr (Or.inr (Or.inr (Or.inr (Or.inr h))))

theorem trivia_runU {ug p : Option Nat} {base : Nat} {E : Tree} {re cb : Nat} :
    ∀ (ws : List PToken) (st : PState) (rest : List PToken), UInv st ug p base E re cb →
    (∀ w ∈ ws, isTriviaTok w = true) →
    ∃ st', loop st (ws ++ rest) = loop st' rest ∧ UInv st' ug p base E re cb ∧ st'.nodes = st.nodes ∧
      st'.groupStack = st.groupStack ∧ st'.currentGroup = st.currentGroup
  | [], st, _, h, _ => ⟨st, rfl, h, rfl, rfl, rfl⟩
  | w :: ws, st, rest, h, hws => by
    have hw := hws w (List.mem_cons_self ..)
    obtain ⟨c, hc⟩ := step_triviaU h w (ws ++ rest).isEmpty hw
    obtain ⟨st', h1, h2, h3, h4, h5⟩ :=
      trivia_runU ws { st with checkForList := c, previousSecondDef := (getDefinition w.type).2, lastToken := w } rest
        (h.trivia c w hw) (fun x hx => hws x (List.mem_cons_of_mem _ hx))
    refine ⟨st', ?_, h2, h3, h4, h5⟩
    simp only [List.cons_append, loop]
    rw [hc]
    simp only [Outcome.bind]
    exact h1

theorem modifyNode?_same {a : Array ParseNode} {i : Nat} {nd : ParseNode} (h : a[i]? = some nd) :
    modifyNode? a i (fun _ => nd) = some a := by
  have hi : i < a.size := (Array.getElem?_eq_some_iff.mp h).1
  obtain ⟨a', h'⟩ := modifyNode?_isSome (fun _ => nd) hi
  rw [h']
  congr 1
  apply Array.ext_getElem?
  intro j
  rw [modifyNode?_get h' j]
  split
  · rename_i hj; subst hj; rw [h]; rfl
  · rfl

/-- "check last left for optional": a no-op when `last_left` is a value / suffix operator / closed bracket -/
theorem endFix_noop (st : PState) (id g b : Nat) (nb : ParseNode) (hl : st.lastLeft = some b)
    (hb : st.nodes[b]? = some nb) (hbg : b ≠ g)
    (hA : nb.right = none ∨ (nb.definition.isOptional = false ∧ (nb.definition == Definition.subexpression) = false)) :
    endGroupingFixLastLeft st id g = .ok st := by
  have hbg' : (b == g) = false := by simpa using hbg
  unfold endGroupingFixLastLeft
  simp only [hl, hb, hbg', Bool.or_false]
  rcases hA with hr | ⟨ho, hs⟩
  · have e : (if nb.definition.isOptional = true then { nb with right := none } else nb) = nb := by
      split
      · cases nb; simp_all
      · rfl
    rw [e, modifyNode?_same hb]
    simp only [hr]
    cases st; simp_all
  · simp only [ho, Bool.false_eq_true, if_false]
    rw [modifyNode?_same hb]
    simp only [hs]
    cases st; simp_all

theorem UInv.comp_close {st : PState} {ug p : Option Nat} {base : Nat} {E : Tree} {re cb : Nat}
    (h : UInv st ug p base E re cb) (sc : SecDef) (hc : sc = .endGrouping ∨ sc = .endSideEffect) :
    checkComposition st.previousSecondDef sc st.checkForList = true := by
  rcases hc with rfl | rfl <;> exact h.comp _ (by decide)

/-- the closing token that matches a bracket definition -/
def closes (d : Definition) (c : PToken) : Prop :=
  (d = .group ∧ c.type = .endGroup) ∨ (d = .nestedExpression ∧ c.type = .endExpression) ∨
    (d = .sideEffect ∧ c.type = .endSideEffect)

/-- **a closing token on the bracket it matches**: the group stack is popped, the list flag restored, then the fix-up of
    `last_left` and the end of the iteration -/
theorem step_close_eq (st : PState) (c : PToken) (il : Bool) {ug : Option Nat} (hug : underGroupOf st = .ok ug)
    (hadj : adjustLastLeft st ug = .ok st) {g : Nat} {fl : Bool} {G : ParseNode} (hback : st.groupStack.back? = some (g, fl))
    (hG : st.nodes[g]? = some G) (hcl : closes G.definition c)
    (hcomp : checkComposition st.previousSecondDef (getDefinition c.type).2 st.checkForList = true) :
    step st c il =
      Outcome.bind (endGroupingFixLastLeft
        { st with previousSecondDef := (getDefinition c.type).2, groupStack := st.groupStack.pop, nextLastLeft := some g,
                  checkForList := fl,
                  currentGroup := if st.groupStack.pop.isEmpty then none else some (st.groupStack.pop.size - 1) }
        st.nodes.size g) fun st' => .ok (stepEnd st' ⟨.drop, none, none, none⟩ (getDefinition c.type).2 c st.nodes.size) := by
  rw [step_eq st c il hug hadj, if_pos hcomp]
  have hsd : (getDefinition c.type).2 = .endGrouping ∨ (getDefinition c.type).2 = .endSideEffect := by
    rcases hcl with ⟨_, h⟩ | ⟨_, h⟩ | ⟨_, h⟩ <;> rw [h] <;> simp [getDefinition]
  have harm : ∀ ar, dispatch { st with previousSecondDef := (getDefinition c.type).2 } st.nodes.size c (getDefinition c.type).1
      (getDefinition c.type).2 ar ug = armEndGrouping { st with previousSecondDef := (getDefinition c.type).2 } st.nodes.size c := by
    intro ar; rcases hsd with h | h <;> rw [h] <;> rfl
  rw [harm]
  rcases hcl with ⟨k1, k2⟩ | ⟨k1, k2⟩ | ⟨k1, k2⟩ <;>
  · simp only [armEndGrouping, hback, hG, k1, k2, Outcome.bind, bne_self_eq_false, Bool.false_eq_true, if_false]
    cases endGroupingFixLastLeft _ st.nodes.size g <;> rfl

/-- the state after a closing bracket whose fix-up of `last_left` leaves the node array `nodes2` -/
def stepCU (st : PState) (g : Nat) (fl : Bool) (c : PToken) (nodes2 : Array ParseNode) : PState :=
  { st with nodes := nodes2, groupStack := st.groupStack.pop, checkForList := fl,
            currentGroup := if st.groupStack.pop.isEmpty then none else some (st.groupStack.pop.size - 1),
            lastLeft := some g, previousSecondDef := (getDefinition c.type).2, lastToken := c }

/-- the state after a closing bracket that leaves the node array as it is -/
def stepC (st : PState) (g : Nat) (fl : Bool) (c : PToken) : PState := stepCU st g fl c st.nodes

/-- **the closing bracket when `endGroupingFixLastLeft` changes the node array** (to some `nodes2` with the property `Q`;
    the fix looks at `last_left` and the nodes only) -/
theorem step_close_fix (st : PState) (g : Nat) (G : ParseNode) (fl : Bool) (c : PToken) (il : Bool)
    (Q : Array ParseNode → Prop)
    (hug : underGroupOf st = .ok (some g)) (hadj : adjustLastLeft st (some g) = .ok st) (hnnl : st.nextLastLeft = none)
    (hcomp : checkComposition st.previousSecondDef (getDefinition c.type).2 st.checkForList = true)
    (hback : st.groupStack.back? = some (g, fl)) (hG : st.nodes[g]? = some G) (hcl : closes G.definition c)
    (hfix : ∀ stx : PState, stx.lastLeft = st.lastLeft → stx.nodes = st.nodes →
      ∃ nodes2, endGroupingFixLastLeft stx st.nodes.size g = .ok { stx with nodes := nodes2 } ∧ Q nodes2) :
    ∃ nodes2, step st c il = .ok (stepCU st g fl c nodes2) ∧ Q nodes2 := by
  obtain ⟨nodes2, hf, hQ⟩ := hfix
    { st with previousSecondDef := (getDefinition c.type).2, groupStack := st.groupStack.pop, nextLastLeft := some g,
              checkForList := fl,
              currentGroup := if st.groupStack.pop.isEmpty then none else some (st.groupStack.pop.size - 1) } rfl rfl
  refine ⟨nodes2, ?_, hQ⟩
  rw [step_close_eq st c il hug hadj hback hG hcl hcomp, hf]
  simp only [Outcome.bind]
  rw [stepEnd_drop _ _ _ _ _ _ _ g rfl]
  simp only [stepCU, hnnl]

/-- **the closing bracket** of the frame `g` after an operand or a suffix operator: nothing changes in the node array,
    the group stack is popped, the list flag restored, and `last_left` becomes the bracket node -/
theorem step_closeU {st : PState} {g : Nat} {E : Tree} {re cb : Nat} (hinv : UInv st (some g) (some g) (g + 1) E re cb)
    (G : ParseNode) (hG : st.nodes[g]? = some G) (fl : Bool) (hback : st.groupStack.back? = some (g, fl)) (c : PToken)
    (hcl : closes G.definition c) (il : Bool) :
    step st c il = .ok (stepC st g fl c) := by
  have hsd : (getDefinition c.type).2 = .endGrouping ∨ (getDefinition c.type).2 = .endSideEffect := by
    rcases hcl with ⟨_, h⟩ | ⟨_, h⟩ | ⟨_, h⟩ <;> rw [h] <;> simp [getDefinition]
  have hfix : ∀ (stx : PState), stx.lastLeft = st.lastLeft → stx.nodes = st.nodes →
      endGroupingFixLastLeft stx st.nodes.size g = .ok stx := by
    intro stx h1 h2
    cases hinv.bot with
    | plain hl hb _ _ =>
      obtain ⟨nd, hnd, hr, _⟩ := hb
      have hpos := hinv.n.pos
      exact endFix_noop stx _ g _ nd (by rw [h1, hl]) (by rw [h2]; exact hnd) (by omega) (Or.inl hr)
    | closed cb G' hlt hl hG' hbr hsp _ =>
      have hm := onSpine_mem cb E hsp
      have := (hinv.n.mem cb hm).1
      have hf := bracket_facts hbr
      exact endFix_noop stx _ g _ G' (by rw [h1, hl]) (by rw [h2]; exact hG') (by omega) (Or.inr ⟨hf.2.2.2.2.1, hf.2.2.2.2.2⟩)
  rw [step_close_eq st c il hinv.hug hinv.adjust hback hG hcl (hinv.comp_close _ hsd)]
  rw [hfix _ (by rfl) (by rfl)]
  simp only [Outcome.bind]
  rw [stepEnd_drop _ _ _ _ _ _ _ g rfl]
  simp only [stepC, stepCU, hinv.nnl]

/-- `last_left` is a value or a closed bracket: whitespace after it starts an implicit list -/
def Ready (st : PState) : Prop :=
  ∃ i n, st.lastLeft = some i ∧ st.nodes[i]? = some n ∧
    (n.definition.isValueLike = true ∨ isBracketDef n.definition = true)

/-- the result of an operand that started in the open position `st1`: its nodes form the tree `sub` hanging at the
    dangling `right` pointer of the node above -/
structure OpdRes (st1 st2 : PState) (sub : Tree) (cb : Nat) : Prop where
  below : ∀ j, j < st1.nodes.size → st2.nodes[j]? = st1.nodes[j]?
  size : st1.nodes.size < st2.nodes.size
  tree : IsTreeAt st2.nodes st1.nextParent (some st1.nodes.size) sub
  inord : SortedIn st1.nodes.size st2.nodes.size sub.inorder
  nnl : st2.nextLastLeft = none
  gs : st2.groupStack = st1.groupStack
  cg : st2.currentGroup = st1.currentGroup
  bot : Bot st2 sub cb
  spine : SpineG (dfOf st2.nodes) cb sub
  prios : AllPrio st2.nodes
  prev : st2.previousSecondDef = .value ∨ st2.previousSecondDef = .identifier ∨ st2.previousSecondDef = .endGrouping
  ready : Ready st2

theorem OpdRes.prev6 {st1 st2 : PState} {sub : Tree} {cb : Nat} (h : OpdRes st1 st2 sub cb) :
    st2.previousSecondDef = .value ∨ st2.previousSecondDef = .identifier ∨ st2.previousSecondDef = .unarySuffix ∨
    st2.previousSecondDef = .endGrouping ∨ st2.previousSecondDef = .whitespace ∨ st2.previousSecondDef = .annotation := by
  rcases h.prev with h | h | h
  · exact Or.inl h
  · exact Or.inr (Or.inl h)
  · exact Or.inr (Or.inr (Or.inr (Or.inl h)))

theorem OpdRes.hug {st1 st2 : PState} {sub : Tree} {cb : Nat} {ug : Option Nat} (h : OpdRes st1 st2 sub cb)
    (hu : underGroupOf st1 = .ok ug) : underGroupOf st2 = .ok ug := by
  simp only [underGroupOf, h.gs, h.cg] at hu ⊢; exact hu

theorem OpdRes.cb_ge {st1 st2 : PState} {sub : Tree} {cb : Nat} (h : OpdRes st1 st2 sub cb) : st1.nodes.size ≤ cb := by
  cases h.bot with
  | plain _ _ _ _ => exact Nat.le_of_lt h.size
  | closed cb G _ _ _ _ hsp _ =>
    have hm := onSpine_mem cb sub hsp
    exact (h.inord.2 cb hm).1

/-- where a frame starts: at the very beginning, or right after its opening bracket `g` -/
inductive FrameStart (st0 : PState) : Option Nat → Option Nat → Nat → Prop
  | top : st0.nodes = #[] → st0.nextParent = none → FrameStart st0 none none 0
  | bracket (g : Nat) (G : ParseNode) (pg : Nat) : st0.nodes.size = g + 1 → st0.nextParent = some g →
      st0.nodes[g]? = some G → G.definition.isGroupLike = true → priority G.definition = some pg →
      G.right = some (g + 1) → FrameStart st0 (some g) (some g) (g + 1)

theorem FrameStart.base_eq {st0 : PState} {ug p : Option Nat} {base : Nat} (h : FrameStart st0 ug p base) :
    base = st0.nodes.size ∧ p = st0.nextParent := by
  cases h with
  | top h1 h2 => rw [h1, h2]; exact ⟨rfl, rfl⟩
  | bracket g G pg h1 h2 _ _ _ _ => rw [h1, h2]; exact ⟨rfl, rfl⟩

theorem uinv_first {st0 st2 : PState} {ug p : Option Nat} {base : Nat} {sub : Tree} {cb : Nat}
    (hfs : FrameStart st0 ug p base) (hug : underGroupOf st0 = .ok ug) (hres : OpdRes st0 st2 sub cb) :
    UInv st2 ug p base sub base cb := by
  obtain ⟨hb, hp⟩ := hfs.base_eq
  refine ⟨⟨by rw [hb, hp]; exact hres.tree, by rw [hb]; exact hres.inord, by rw [hb]; exact hres.tree.root_mem,
      by rw [hb]; exact hres.size, ?_, hres.prios⟩,
    hres.nnl, hres.hug hug, hres.bot, hres.spine, hres.prev6⟩
  cases hfs with
  | top _ _ => exact .top 0
  | bracket g G pg h1 h2 hG hgl hpg hGr =>
    exact .bracket g (g + 1) G pg (by rw [hres.below g (by omega)]; exact hG) hgl hpg hGr

theorem OpdRes.transfer {s s' s2 : PState} {sub : Tree} {cb : Nat} (h : OpdRes s s2 sub cb) (h1 : s'.nodes = s.nodes)
    (h2 : s'.nextParent = s.nextParent) (h3 : s'.groupStack = s.groupStack) (h4 : s'.currentGroup = s.currentGroup) :
    OpdRes s' s2 sub cb :=
  ⟨by rw [h1]; exact h.below, by rw [h1]; exact h.size, by rw [h1, h2]; exact h.tree, by rw [h1]; exact h.inord, h.nnl,
    by rw [h3]; exact h.gs, by rw [h4]; exact h.cg, h.bot, h.spine, h.prios, h.prev, h.ready⟩

/-- **`s1` is the open operand position behind an operator node** `(d, ko)` of priority `q` that has been inserted after
    the tree `E` of the frame in `st`: any complete operand closes it to the invariant for the tree with the operator and
    that operand inserted -/
structure OpPos (st : PState) (ug p : Option Nat) (base : Nat) (E : Tree) (cb q : Nat) (rtl : Bool) (d : Definition)
    (ko : Nat) (s1 : PState) : Prop where
  openB : OpenB s1 ug
  prios : AllPrio s1.nodes
  size : s1.nodes.size = st.nodes.size + 1
  gs : s1.groupStack = st.groupStack
  cg : s1.currentGroup = st.currentGroup
  above : aboveDef s1 = d
  close : ∀ (st2 : PState) (sub : Tree) (cb' : Nat), OpdRes s1 st2 sub cb' →
    ∃ re', UInv st2 ug p base (insU st cb q rtl E ko sub) re' cb' ∧
      (∀ j, j < st.nodes.size → (st2.nodes[j]?).map (·.definition) = (st.nodes[j]?).map (·.definition)) ∧
      Outer base st.nodes st2.nodes ∧ dfOf st2.nodes st.nodes.size = d

/-- trivia behind the operator: a state with the same nodes, `next_parent` and groups that is still an open position -/
theorem OpPos.transfer {st : PState} {ug p : Option Nat} {base : Nat} {E : Tree} {cb q : Nat} {rtl : Bool} {d : Definition}
    {ko : Nat} {s1 s1' : PState} (h : OpPos st ug p base E cb q rtl d ko s1) (hO : OpenB s1' ug)
    (hn : s1'.nodes = s1.nodes) (hnp : s1'.nextParent = s1.nextParent) (hgs : s1'.groupStack = s1.groupStack)
    (hcg : s1'.currentGroup = s1.currentGroup) : OpPos st ug p base E cb q rtl d ko s1' :=
  ⟨hO, by rw [hn]; exact h.prios, by rw [hn]; exact h.size, by rw [hgs]; exact h.gs, by rw [hcg]; exact h.cg,
    by rw [← h.above]; unfold aboveDef; rw [hn],
    fun st2 sub cb' hres => h.close st2 sub cb' (hres.transfer hn.symm hnp.symm hgs.symm hcg.symm)⟩

/-- an operator node `(d, tok)` has been inserted after the frame's tree `E` and `st1` is the open operand position behind
    it -/
theorem operand_closeU {st : PState} {ug p : Option Nat} {base : Nat} {E : Tree} {re cb : Nat}
    (hinv : UInv st ug p base E re cb) (d : Definition) (sd : SecDef) (tok : PToken) (q : Nat) (rtl : Bool)
    (hq : priority d = some q) (hnb : isBracketDef d = false) (nodes' : Array ParseNode) (info : Info)
    (hI : Inserted st.nodes p base (insU st cb q rtl E) nodes' info) (st1 : PState)
    (hn1 : st1.nodes = nodes'.push ⟨d, sd, info.parent, info.left, some (st.nodes.size + 1), tok⟩)
    (hO1 : OpenB st1 ug) (hgs1 : st1.groupStack = st.groupStack) (hcg1 : st1.currentGroup = st.currentGroup) :
    OpPos st ug p base E cb q rtl d tok.col st1 := by
  have hsz' := hI.size
  have hs1 : st1.nodes.size = st.nodes.size + 1 := by rw [hn1]; simp [hsz']
  have hon1 : st1.nodes[st.nodes.size]? = some ⟨d, sd, info.parent, info.left, some (st.nodes.size + 1), tok⟩ := by
    rw [hn1, Array.getElem?_push, if_pos hsz'.symm]
  have hlt1 : ∀ j, j < st.nodes.size → st1.nodes[j]? = nodes'[j]? := by
    intro j hj; rw [hn1, Array.getElem?_push, if_neg (by omega)]
  have hprios1 : AllPrio st1.nodes :=
    allPrio_of_defs hinv.n.prios (fun j hj => by rw [hlt1 j hj]; exact hI.defs j hj) hs1 hon1 hq
  have habove : aboveDef st1 = d := by
    unfold aboveDef; rw [hs1, Nat.add_sub_cancel, hon1]; rfl
  refine ⟨hO1, hprios1, hs1, hgs1, hcg1, habove, ?_⟩
  intro st2 sub cb' hres
  have hbase := hinv.n.pos
  have hlt2 : ∀ j, j < st.nodes.size → st2.nodes[j]? = nodes'[j]? := by
    intro j hj; rw [hres.below j (by omega), hlt1 j hj]
  have hon2 : st2.nodes[st.nodes.size]? = some ⟨d, sd, info.parent, info.left, some (st.nodes.size + 1), tok⟩ := by
    rw [hres.below _ (by omega), hon1]
  have hnp1 : st1.nextParent = some st.nodes.size := by
    rw [hO1.link, hO1.lastLeft_eq (by omega), hs1]; rfl
  have hsub := hres.tree
  rw [hnp1, hs1] at hsub
  obtain ⟨re', htree', hfr'⟩ := hI.tree st2.nodes sub tok.col hlt2 ⟨_, hon2, rfl, rfl, rfl, rfl⟩ hsub
  have hdefs2 : ∀ j, j < st.nodes.size → (st2.nodes[j]?).map (·.definition) = (st.nodes[j]?).map (·.definition) := by
    intro j hj; rw [hlt2 j hj]; exact hI.defs j hj
  have hdn : dfOf st2.nodes st.nodes.size = d := by simp [dfOf, hon2]
  refine ⟨re', ?_, hdefs2, ⟨fun j hj => by rw [hlt2 j (by omega)]; exact hI.outer.upto j hj,
    fun j hj => by rw [hlt2 j (by omega)]; exact hI.outer.same j hj⟩, hdn⟩
  have hsz2 := hres.size
  have hframe2 : FrameOK st2.nodes ug p base re' := by
    cases hinv.n.frame with
    | top re => exact .top re'
    | bracket g re G pg hG hgl hpg hGr =>
      obtain ⟨G', hG', hGr', hgl', pg', hpg'⟩ := hfr' g rfl
      exact .bracket g re' G' pg' hG' hgl' hpg' hGr'
  have hcbge := hres.cb_ge
  have hsubin := hres.inord
  rw [hs1] at hsubin
  have hsubne : sub.inorder ≠ [] := List.ne_nil_of_mem hres.tree.root_mem
  have hinI : (insU st cb q rtl E tok.col sub).inorder = E.inorder ++ st.nodes.size :: sub.inorder := insertC_inorder ..
  refine ⟨⟨htree', ?_, ?_, by omega, hframe2, hres.prios⟩, hres.nnl, hres.hug hO1.hug, ?_, ?_, hres.prev6⟩
  · rw [hinI]
    exact hinv.n.inord.append_cons hsubin (by omega) (by omega)
  · rw [hinI]; exact List.mem_append_left _ hinv.n.first
  · cases hres.bot with
    | plain hl hb h3 h4 =>
      refine .plain hl hb ?_ h4
      rw [hinI, getLast?_append_cons', List.getLast?_cons_of_ne_nil hsubne]
      exact h3
    | closed _ G h1 h2 h3 h4 h5 h6 => exact .closed _ G h1 h2 h3 h4 (onSpine_insertC h5) h6
  · have hcong : ∀ i ∈ E.inorder, dfOf st.nodes i = dfOf st2.nodes i := by
      intro i hi
      have := hdefs2 i (hinv.n.mem i hi).2
      simp only [dfOf, this]
    apply spineG_insertC (by omega) (by rw [hdn]; exact hnb) hres.spine
    · intro hm; have := (hinv.n.mem _ hm).2; omega
    · exact hinv.spine.congr hcong

theorem bin_stepU {st : PState} {ug p : Option Nat} {base : Nat} {E : Tree} {re cb : Nat} {o : PToken}
    (hinv : UInv st ug p base E re cb) (ho : isBin3Tok o = true) :
    ∃ (q : Nat) (st1 : PState), priority (getDefinition o.type).1 = some q ∧ step st o false = .ok st1 ∧
      OpPos st ug p base E cb q ((getDefinition o.type).2 == .binaryRightToLeft) (getDefinition o.type).1 o.col st1 := by
  obtain ⟨q, nodes', info, st1, hq, h1, hn1, hO1, hgs1, hcg1, hI⟩ := op_effectU hinv ho
  obtain ⟨_, _, _, hnb⟩ := bin3_prio20 o.type (by unfold isBin3Tok at ho; exact ho)
  exact ⟨q, st1, hq, h1, operand_closeU hinv (getDefinition o.type).1 (getDefinition o.type).2 o q
    ((getDefinition o.type).2 == .binaryRightToLeft) hq hnb nodes' info hI st1 hn1 hO1 hgs1 hcg1⟩

end Garnish.Spec
