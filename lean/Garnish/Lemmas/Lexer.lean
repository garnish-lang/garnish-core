/-
Lemmas about the lexer model (Garnish.Model.Lexer = the lexer with the repair patches lexfix-1..5), proved for the
model as it is.  What an arm of `process_char` can do and what `process_char` can do are stated once, as relations
(`ArmStep`, `PStep`); an invariant of the lexer is one case distinction on them, and `runChars_induct` carries it along a
run.  `Inv` (Float state ⇒ `1 ≤ text_column`) is the fact the Rust code silently relies on: with it the
`text_column - 1` underflow (lexer.rs:473) is unreachable.
The cases are stated with `startKind` / `StartCase` (what `start_token` decides from a first character), `restart`, `afterEmit`,
`pendingTok` (the lexer and the token after an arm has ended the pending token) and `dots` (the second period of `1..`).
Assumption on the Unicode tables (`CharClass.Sane`): `'\0'` and `'\n'` are neither numeric nor alphanumeric;
`rustTables_sane` proves it for the generated tables.  Stronger hypotheses on the tables are introduced where they are first
needed: `Sane2` (LexerC13Core), `SaneWs` (LexerC13Blank), `SaneBlank` (LexEnder), `Lit` (LexSpell4), `SaneAt` (LexAnnotation).
-/
import Garnish.Model.Lexer
import Garnish.Gen.CharRanges
import Garnish.Lemmas.Outcome
namespace Garnish.Model.Lexer


structure CharClass.Sane (cc : CharClass) : Prop where
  nulNumeric : cc.isNumeric '\x00' = false
  nulAlphanumeric : cc.isAlphanumeric '\x00' = false
  nlNumeric : cc.isNumeric '\n' = false
  nlAlphanumeric : cc.isAlphanumeric '\n' = false

def Inv (s : Lexer) : Prop :=
  s.state = .float → 1 ≤ s.textColumn

/-- what `start_token` decides from a first character `c` that does not begin an operator: the new state, the
pending token type and `current_characters`; `none` is "Invalid start to token" -/
def startPlain (cc : CharClass) (atEnd : Bool) (c : Char) : Option (LexingState × Option Gen.TokenType × List Char) :=
  if c == ' ' || c == '\t' || c == '\r' then some (.spaces, some .whitespace, [c])
  else if isAsciiWhitespace c then some (.subexpression, some .subexpression, [c])
  else if cc.isNumeric c then some (.number, some .number, [c])
  else if isIdentifierChar cc c then some (.identifier, some .identifier, [c])
  else if c == '`' then some (.identifier, some .suffixIdentifier, [c])
  else if c == '@' then some (.annotation, some .annotation, [c])
  else if c == '"' then some (.startCharList, some .charList, [c])
  else if c == '\'' then some (.startByteList, some .byteList, [c])
  else if c == '\x00' && atEnd then some (.noToken, none, [])
  else none

/-- what `start_token` decides from the first character `c` of a token. Only the operator tree and `at_end` enter. -/
def startKind (cc : CharClass) (tree : LexerOperatorNode) (atEnd : Bool) (c : Char) :
    Option (LexingState × Option Gen.TokenType × List Char) :=
  match walkOperator tree [c] with
  | some node => some (.operator, node.tokenType, [c])
  | none => startPlain cc atEnd c

/- The two equations of `startKind` are stated for any tree: when the concrete tree of `Lexer::new` stands under the
`match`, `simp` and the kernel are apt to build it from the table in order to decide the `match`. -/
theorem startKind_operator (cc : CharClass) {tree : LexerOperatorNode} (atEnd : Bool) {c : Char}
    {node : LexerOperatorNode} (hw : walkOperator tree [c] = some node) :
    startKind cc tree atEnd c = some (.operator, node.tokenType, [c]) := by
  rw [startKind, hw]

theorem startKind_plain (cc : CharClass) {tree : LexerOperatorNode} (atEnd : Bool) {c : Char}
    (hw : walkOperator tree [c] = none) : startKind cc tree atEnd c = startPlain cc atEnd c := by
  rw [startKind, hw]

/-- `by_if h : p` decides the `if p then _ else _` of the goal by a case distinction on `p`.
(`split` simplifies the whole chain of `if`s below the one it decides, and its cost doubles with every further
link of the chain.) -/
macro "by_if " h:ident " : " p:term : tactic =>
  `(tactic| (by_cases $h:ident : $p <;> first | simp only [if_pos (show $p from $h)] | simp only [if_neg $h]))

theorem startToken_eq (cc : CharClass) (σ : Lexer) (c : Char) :
    startToken cc σ c =
      match startKind cc σ.operatorTree σ.atEnd c with
      | some (st, ty, cs) =>
        { σ with tokenStartRow := σ.textRow, tokenStartColumn := σ.textColumn,
                 state := st, currentTokenType := ty, currentCharacters := cs }
      | none =>
        { σ with tokenStartRow := σ.textRow, tokenStartColumn := σ.textColumn,
                 currentTokenType := none, currentCharacters := [c], result := .err } := by
  simp only [startToken, startKind, startPlain, currentOperator, push, List.nil_append]
  cases walkOperator _ [c] with
  | some n => rfl
  | none =>
    dsimp only
    by_if h : (c == ' ' || c == '\t' || c == '\r') = true
    by_if h : isAsciiWhitespace c = true
    by_if h : cc.isNumeric c = true
    by_if h : isIdentifierChar cc c = true
    by_if h : (c == '`') = true
    by_if h : (c == '@') = true
    by_if h : (c == '"') = true
    by_if h : (c == '\'') = true
    by_if h : (c == '\x00' && σ.atEnd) = true

/-- the branches of `startKind`, each with the test that selects it (the failed tests before it are left out) -/
inductive StartCase (cc : CharClass) (tree : LexerOperatorNode) (atEnd : Bool) (c : Char) :
    LexingState → Option Gen.TokenType → List Char → Prop
  | operator {node} : walkOperator tree [c] = some node → StartCase cc tree atEnd c .operator node.tokenType [c]
  | spaces : c = ' ' ∨ c = '\t' ∨ c = '\r' → StartCase cc tree atEnd c .spaces (some .whitespace) [c]
  | newline : isAsciiWhitespace c = true → StartCase cc tree atEnd c .subexpression (some .subexpression) [c]
  | number : cc.isNumeric c = true → StartCase cc tree atEnd c .number (some .number) [c]
  | identifier : isIdentifierChar cc c = true → StartCase cc tree atEnd c .identifier (some .identifier) [c]
  | suffix : c = '`' → StartCase cc tree atEnd c .identifier (some .suffixIdentifier) [c]
  | annotation : c = '@' → StartCase cc tree atEnd c .annotation (some .annotation) [c]
  | charList : c = '"' → StartCase cc tree atEnd c .startCharList (some .charList) [c]
  | byteList : c = '\'' → StartCase cc tree atEnd c .startByteList (some .byteList) [c]
  | sentinel : c = '\x00' → atEnd = true → StartCase cc tree atEnd c .noToken none []

theorem startKind_some {cc : CharClass} {tree : LexerOperatorNode} {atEnd : Bool} {c : Char} {st ty cs}
    (h : startKind cc tree atEnd c = some (st, ty, cs)) : StartCase cc tree atEnd c st ty cs := by
  revert h
  cases hw : walkOperator tree [c] with
  | some n => rw [startKind_operator cc atEnd hw]; rintro ⟨⟩; exact .operator hw
  | none =>
    rw [startKind_plain cc atEnd hw, startPlain]
    by_if h : (c == ' ' || c == '\t' || c == '\r') = true
    · rintro ⟨⟩; exact .spaces (by simpa [or_assoc] using h)
    by_if h : isAsciiWhitespace c = true
    · rintro ⟨⟩; exact .newline h
    by_if h : cc.isNumeric c = true
    · rintro ⟨⟩; exact .number h
    by_if h : isIdentifierChar cc c = true
    · rintro ⟨⟩; exact .identifier h
    by_if h : (c == '`') = true
    · rintro ⟨⟩; exact .suffix (by simpa using h)
    by_if h : (c == '@') = true
    · rintro ⟨⟩; exact .annotation (by simpa using h)
    by_if h : (c == '"') = true
    · rintro ⟨⟩; exact .charList (by simpa using h)
    by_if h : (c == '\'') = true
    · rintro ⟨⟩; exact .byteList (by simpa using h)
    by_if h : (c == '\x00' && atEnd) = true
    · rintro ⟨⟩
      rw [Bool.and_eq_true, beq_iff_eq] at h
      exact .sentinel h.1 h.2
    · rintro ⟨⟩

theorem startToken_cases (cc : CharClass) (σ : Lexer) (c : Char) :
    (∃ st ty cs, StartCase cc σ.operatorTree σ.atEnd c st ty cs ∧
      startKind cc σ.operatorTree σ.atEnd c = some (st, ty, cs) ∧
      startToken cc σ c = { σ with tokenStartRow := σ.textRow, tokenStartColumn := σ.textColumn,
                                   state := st, currentTokenType := ty, currentCharacters := cs }) ∨
    (startKind cc σ.operatorTree σ.atEnd c = none ∧
      startToken cc σ c = { σ with tokenStartRow := σ.textRow, tokenStartColumn := σ.textColumn,
                                   currentTokenType := none, currentCharacters := [c], result := .err }) := by
  rw [startToken_eq]
  cases hk : startKind cc σ.operatorTree σ.atEnd c with
  | none => exact Or.inr ⟨rfl, rfl⟩
  | some k => exact Or.inl ⟨k.1, k.2.1, k.2.2, startKind_some hk, rfl, rfl⟩

theorem startToken_float (cc : CharClass) (s : Lexer) (c : Char)
    (h : (startToken cc s c).state = .float) : s.state = .float ∧ (startToken cc s c).textColumn = s.textColumn := by
  rcases startToken_cases cc s c with ⟨st, ty, cs, hc, -, he⟩ | ⟨-, he⟩ <;> rw [he] at h ⊢
  · cases hc <;> cases h
  · exact ⟨h, rfl⟩

@[simp] theorem bumpColumn_state (s : Lexer) (c : Char) : (bumpColumn s c).state = s.state := by
  unfold bumpColumn; split <;> rfl
@[simp] theorem bumpColumn_chars (s : Lexer) (c : Char) : (bumpColumn s c).currentCharacters = s.currentCharacters := by
  unfold bumpColumn; split <;> rfl
theorem bumpColumn_ne_nl (s : Lexer) (c : Char) (h : c ≠ '\n') : (bumpColumn s c).textColumn = s.textColumn + 1 := by
  unfold bumpColumn; simp [h]

theorem sane_ne_nl {cc : CharClass} (hcc : cc.Sane) {c : Char}
    (h : (cc.isNumeric c || c == '_' || cc.isAlphanumeric c) = true) : c ≠ '\n' := by
  intro hc; subst hc
  simp [hcc.nlNumeric, hcc.nlAlphanumeric] at h

theorem numeric_bump {cc : CharClass} (hcc : cc.Sane) (s : Lexer) {c : Char} (h : cc.isNumeric c = true) :
    1 ≤ (bumpColumn s c).textColumn := by
  have : c ≠ '\n' := by
    intro hc; subst hc; rw [hcc.nlNumeric] at h; cases h
  rw [bumpColumn_ne_nl s c this]; omega

/-- what the arm of a state other than NoToken can do with `c` (for Float: when it neither splits `1..` nor fails): the
lexer it returns and `start_new`, each case under the state and the tests that select it -/
inductive ArmStep (cc : CharClass) (σ : Lexer) (c : Char) : Lexer → Bool → Prop
  | opPath {node} : σ.state = .operator → walkOperator σ.operatorTree (push σ.currentCharacters c) = some node →
      ArmStep cc σ c { σ with currentCharacters := push σ.currentCharacters c, currentTokenType := node.tokenType } false
  | opIdent : σ.state = .operator → walkOperator σ.operatorTree (push σ.currentCharacters c) = none →
      (startsWith (push σ.currentCharacters c) '_' && isIdentifier cc (push σ.currentCharacters c)) = true →
      ArmStep cc σ c { σ with currentCharacters := push σ.currentCharacters c, currentTokenType := some .identifier,
                              state := .identifier } false
  | opFloat : σ.state = .operator → walkOperator σ.operatorTree (push σ.currentCharacters c) = none →
      ¬(startsWith (push σ.currentCharacters c) '_' && isIdentifier cc (push σ.currentCharacters c)) = true →
      (startsWith (push σ.currentCharacters c) '.' && utf8Len (push σ.currentCharacters c) == 2 && cc.isNumeric c &&
        σ.canFloat) = true →
      ArmStep cc σ c { σ with currentCharacters := push σ.currentCharacters c, currentTokenType := some .number,
                              state := .float } false
  | opDone : σ.state = .operator → walkOperator σ.operatorTree (push σ.currentCharacters c) = none →
      ¬(startsWith (push σ.currentCharacters c) '_' && isIdentifier cc (push σ.currentCharacters c)) = true →
      ¬(startsWith (push σ.currentCharacters c) '.' && utf8Len (push σ.currentCharacters c) == 2 && cc.isNumeric c &&
        σ.canFloat) = true →
      ArmStep cc σ c { σ with currentCharacters := pop (push σ.currentCharacters c) } true
  | numCont : σ.state = .number → (cc.isNumeric c || c == '_' || cc.isAlphanumeric c) = true →
      ArmStep cc σ c { σ with currentCharacters := push σ.currentCharacters c } false
  | numFloat : σ.state = .number → ¬(cc.isNumeric c || c == '_' || cc.isAlphanumeric c) = true →
      (c == '.' && σ.canFloat) = true →
      ArmStep cc σ c { σ with currentCharacters := push σ.currentCharacters c, currentTokenType := some .number,
                              state := .float } false
  | numDone : σ.state = .number → ¬(cc.isNumeric c || c == '_' || cc.isAlphanumeric c) = true →
      ¬(c == '.' && σ.canFloat) = true → ArmStep cc σ c σ true
  | idCont : σ.state = .identifier → isIdentifierChar cc c = true →
      ArmStep cc σ c { σ with currentCharacters := push σ.currentCharacters c } false
  | idTick : σ.state = .identifier → ¬isIdentifierChar cc c = true → (c == '`') = true →
      ArmStep cc σ c { σ with
            currentCharacters := push σ.currentCharacters c
            shouldCreate := false
            currentTokenType :=
              some (if σ.currentTokenType == some .suffixIdentifier then .infixIdentifier else .prefixIdentifier) } true
  | idSymbol : σ.state = .identifier → ¬isIdentifierChar cc c = true → ¬(c == '`') = true →
      (startsWith σ.currentCharacters ':' && σ.currentCharacters[1]? != some ':') = true →
      ArmStep cc σ c { σ with currentTokenType := some .symbol } true
  | idDone : σ.state = .identifier → ¬isIdentifierChar cc c = true → ¬(c == '`') = true →
      ¬(startsWith σ.currentCharacters ':' && σ.currentCharacters[1]? != some ':') = true → ArmStep cc σ c σ true
  | sclEmpty : σ.state = .startCharList → (c != '"') = true → (utf8Len σ.currentCharacters == 2) = true →
      ArmStep cc σ c σ true
  | sclBody : σ.state = .startCharList → (c != '"') = true → ¬(utf8Len σ.currentCharacters == 2) = true →
      ¬(c == '\x00' && σ.atEnd) = true →
      ArmStep cc σ c { σ with startQuoteCount := utf8Len σ.currentCharacters, state := .charList,
                              currentCharacters := push σ.currentCharacters c } false
  | sclSentinel : σ.state = .startCharList → (c != '"') = true → ¬(utf8Len σ.currentCharacters == 2) = true →
      (c == '\x00' && σ.atEnd) = true →
      ArmStep cc σ c { σ with startQuoteCount := utf8Len σ.currentCharacters, state := .charList } false
  | sclQuote : σ.state = .startCharList → c = '"' →
      ArmStep cc σ c { σ with currentCharacters := push σ.currentCharacters c } false
  | sblEmpty : σ.state = .startByteList → (c != '\'') = true → (utf8Len σ.currentCharacters == 2) = true →
      ArmStep cc σ c σ true
  | sblBody : σ.state = .startByteList → (c != '\'') = true → ¬(utf8Len σ.currentCharacters == 2) = true →
      ¬(c == '\x00' && σ.atEnd) = true →
      ArmStep cc σ c { σ with startQuoteCount := utf8Len σ.currentCharacters, state := .byteList,
                              currentCharacters := push σ.currentCharacters c } false
  | sblSentinel : σ.state = .startByteList → (c != '\'') = true → ¬(utf8Len σ.currentCharacters == 2) = true →
      (c == '\x00' && σ.atEnd) = true →
      ArmStep cc σ c { σ with startQuoteCount := utf8Len σ.currentCharacters, state := .byteList } false
  | sblQuote : σ.state = .startByteList → c = '\'' →
      ArmStep cc σ c { σ with currentCharacters := push σ.currentCharacters c } false
  | clLast : σ.state = .charList → (c == '"') = true → (σ.startQuoteCount == σ.endQuoteCount + 1) = true →
      ArmStep cc σ c { σ with endQuoteCount := σ.endQuoteCount + 1, currentCharacters := push σ.currentCharacters c,
                              shouldCreate := false } true
  | clQuote : σ.state = .charList → (c == '"') = true → ¬(σ.startQuoteCount == σ.endQuoteCount + 1) = true →
      ArmStep cc σ c { σ with endQuoteCount := σ.endQuoteCount + 1, currentCharacters := push σ.currentCharacters c } false
  | clBody : σ.state = .charList → ¬(c == '"') = true →
      ArmStep cc σ c { σ with endQuoteCount := 0, currentCharacters := push σ.currentCharacters c } false
  | blLast : σ.state = .byteList → (c == '\'') = true → (σ.startQuoteCount == σ.endQuoteCount + 1) = true →
      ArmStep cc σ c { σ with endQuoteCount := σ.endQuoteCount + 1, currentCharacters := push σ.currentCharacters c,
                              shouldCreate := false } true
  | blQuote : σ.state = .byteList → (c == '\'') = true → ¬(σ.startQuoteCount == σ.endQuoteCount + 1) = true →
      ArmStep cc σ c { σ with endQuoteCount := σ.endQuoteCount + 1, currentCharacters := push σ.currentCharacters c } false
  | blBody : σ.state = .byteList → ¬(c == '\'') = true →
      ArmStep cc σ c { σ with endQuoteCount := 0, currentCharacters := push σ.currentCharacters c } false
  | spBlankLine : σ.state = .spaces → (c == '\n') = true → σ.couldBeSubExpression = true →
      ArmStep cc σ c { σ with currentTokenType := some .subexpression, currentCharacters := push σ.currentCharacters c,
                              shouldCreate := false } true
  | spNewline : σ.state = .spaces → (c == '\n') = true → σ.couldBeSubExpression = false →
      ArmStep cc σ c { σ with currentCharacters := push σ.currentCharacters c, state := .subexpression } false
  | spDone : σ.state = .spaces → ¬(c == '\n') = true → (c != ' ' && c != '\t') = true → ArmStep cc σ c σ true
  | spBlank : σ.state = .spaces → ¬(c == '\n') = true → ¬(c != ' ' && c != '\t') = true →
      ArmStep cc σ c { σ with currentCharacters := push σ.currentCharacters c } false
  | subNewline : σ.state = .subexpression → (isAsciiWhitespace c && !(c == '\t' || c == ' ')) = true →
      ArmStep cc σ c { σ with currentCharacters := push σ.currentCharacters c, currentTokenType := some .subexpression,
                              shouldCreate := false } true
  | subBlank : σ.state = .subexpression → ¬(isAsciiWhitespace c && !(c == '\t' || c == ' ')) = true →
      (c == '\t' || c == ' ') = true →
      ArmStep cc σ c { σ with currentTokenType := some .whitespace, couldBeSubExpression := true,
                              currentCharacters := push σ.currentCharacters c, state := .spaces } false
  | subDone : σ.state = .subexpression → ¬(isAsciiWhitespace c && !(c == '\t' || c == ' ')) = true →
      ¬(c == '\t' || c == ' ') = true →
      ArmStep cc σ c { σ with currentTokenType := some .whitespace, couldBeSubExpression := true } true
  | annLine : σ.state = .annotation → (c == '@' && utf8Len σ.currentCharacters == 1) = true →
      ArmStep cc σ c { σ with currentCharacters := push σ.currentCharacters c, state := .lineAnnotation,
                              currentTokenType := some .lineAnnotation } false
  | annCont : σ.state = .annotation → ¬(c == '@' && utf8Len σ.currentCharacters == 1) = true →
      (cc.isAlphanumeric c || c == '_') = true →
      ArmStep cc σ c { σ with currentCharacters := push σ.currentCharacters c } false
  | annDone : σ.state = .annotation → ¬(c == '@' && utf8Len σ.currentCharacters == 1) = true →
      ¬(cc.isAlphanumeric c || c == '_') = true → ArmStep cc σ c σ true
  | lineNewline : σ.state = .lineAnnotation → (c == '\n') = true →
      ArmStep cc σ c { σ with currentCharacters := push σ.currentCharacters c, shouldCreate := false } true
  | lineSentinel : σ.state = .lineAnnotation → ¬(c == '\n') = true → (c == '\x00' && σ.atEnd) = true →
      ArmStep cc σ c σ true
  | lineCont : σ.state = .lineAnnotation → ¬(c == '\n') = true → ¬(c == '\x00' && σ.atEnd) = true →
      ArmStep cc σ c { σ with currentCharacters := push σ.currentCharacters c } false
  | flCont : σ.state = .float → (cc.isNumeric c || c == '_' || cc.isAlphanumeric c) = true →
      ArmStep cc σ c { σ with currentCharacters := push σ.currentCharacters c } false
  | flDone : σ.state = .float → ¬(cc.isNumeric c || c == '_' || cc.isAlphanumeric c) = true →
      ¬(c == '.' && endsWith σ.currentCharacters '.') = true → ArmStep cc σ c σ true

/-- the lexer in which the Float arm, on the second period of `1..`, starts the range operator: `start_token` on the first
period, one column back, then the second period -/
def dots (cc : CharClass) (σ : Lexer) (c : Char) : Lexer :=
  let s := startToken cc { σ with tokenStartRow := σ.textRow } '.'
  { s with tokenStartColumn := σ.textColumn - 1, currentCharacters := push s.currentCharacters c }

/-- the `match self.state` of `process_char` as an eliminator: only the Float arm, on the second period of `1..`, does more
than `ArmStep` lists (`split`, `noRange`, or the panic at column 0) -/
theorem stateStep_cases {cc : CharClass} {σ : Lexer} {c : Char} {P : Outcome Step → Prop}
    (start : σ.state = .noToken → P (.ok (.cont (startToken cc σ c) none false)))
    (arm : ∀ σ1 sn, ArmStep cc σ c σ1 sn → P (.ok (.cont σ1 none sn)))
    (panic : σ.state = .float → σ.textColumn = 0 → P (.panic "lexer.rs:473 text_column - 1"))
    (split : ∀ node, σ.state = .float → ¬(cc.isNumeric c || c == '_' || cc.isAlphanumeric c) = true →
      (c == '.' && endsWith σ.currentCharacters '.') = true → ¬σ.textColumn = 0 →
      walkOperator (dots cc σ c).operatorTree (dots cc σ c).currentCharacters = some node →
      P (.ok (.cont { dots cc σ c with currentTokenType := node.tokenType }
        (some ⟨trimMatches σ.currentCharacters '.', .number, σ.tokenStartRow, σ.tokenStartColumn⟩) false)))
    (noRange : σ.state = .float → ¬(cc.isNumeric c || c == '_' || cc.isAlphanumeric c) = true →
      (c == '.' && endsWith σ.currentCharacters '.') = true → ¬σ.textColumn = 0 →
      walkOperator (dots cc σ c).operatorTree (dots cc σ c).currentCharacters = none →
      P (.ok (.returnNone { dots cc σ c with result := .err }))) :
    P (stateStep cc σ c) := by
  unfold stateStep
  cases hs : σ.state <;> dsimp only
  case noToken => exact start hs
  case float =>
    unfold armFloat
    by_if h1 : (cc.isNumeric c || c == '_' || cc.isAlphanumeric c) = true
    · exact arm _ _ (.flCont hs h1)
    by_if h2 : (c == '.' && endsWith σ.currentCharacters '.') = true
    · by_if h3 : σ.textColumn = 0
      · exact panic hs h3
      · change P (match walkOperator (dots cc σ c).operatorTree (dots cc σ c).currentCharacters with
          | some node => _ | none => _)
        cases hw : walkOperator (dots cc σ c).operatorTree (dots cc σ c).currentCharacters with
        | some node => exact split node hs h1 h2 h3 hw
        | none => exact noRange hs h1 h2 h3 hw
    · exact arm _ _ (.flDone hs h1 h2)
  case operator =>
    unfold armOperator
    dsimp only [currentOperator]
    cases hw : walkOperator σ.operatorTree (push σ.currentCharacters c) with
    | some node => exact arm _ _ (.opPath hs hw)
    | none =>
      dsimp only
      by_if h1 : (startsWith (push σ.currentCharacters c) '_' && isIdentifier cc (push σ.currentCharacters c)) = true
      · exact arm _ _ (.opIdent hs hw h1)
      by_if h2 : (startsWith (push σ.currentCharacters c) '.' && utf8Len (push σ.currentCharacters c) == 2 &&
          cc.isNumeric c && σ.canFloat) = true
      · exact arm _ _ (.opFloat hs hw h1 h2)
      · exact arm _ _ (.opDone hs hw h1 h2)
  case number =>
    unfold armNumber
    by_if h1 : (cc.isNumeric c || c == '_' || cc.isAlphanumeric c) = true
    · exact arm _ _ (.numCont hs h1)
    by_if h2 : (c == '.' && σ.canFloat) = true
    · exact arm _ _ (.numFloat hs h1 h2)
    · exact arm _ _ (.numDone hs h1 h2)
  case identifier =>
    unfold armIdentifier
    by_if h1 : isIdentifierChar cc c = true
    · exact arm _ _ (.idCont hs h1)
    by_if h2 : (c == '`') = true
    · exact arm _ _ (.idTick hs h1 h2)
    by_if h3 : (startsWith σ.currentCharacters ':' && σ.currentCharacters[1]? != some ':') = true
    · exact arm _ _ (.idSymbol hs h1 h2 h3)
    · exact arm _ _ (.idDone hs h1 h2 h3)
  case startCharList =>
    unfold armStartCharList
    by_cases h1 : (c != '"') = true
    · by_cases h2 : (utf8Len σ.currentCharacters == 2) = true
      · simp only [h1, h2, if_true, Bool.not_true, Bool.false_and, Bool.false_eq_true, if_false]
        exact arm _ _ (.sclEmpty hs h1 h2)
      · by_cases h3 : (c == '\x00' && σ.atEnd) = true
        · simp only [h1, h2, h3, if_true, if_false, Bool.not_false, Bool.not_true, Bool.and_false, Bool.false_eq_true]
          exact arm _ _ (.sclSentinel hs h1 h2 h3)
        · simp only [h1, h2, h3, if_true, if_false, Bool.not_false, Bool.and_self, Bool.false_eq_true]
          exact arm _ _ (.sclBody hs h1 h2 h3)
    · have hc : c = '"' := by simpa using h1
      subst hc
      simp only [h1]
      exact arm _ _ (.sclQuote hs rfl)
  case startByteList =>
    unfold armStartByteList
    by_cases h1 : (c != '\'') = true
    · by_cases h2 : (utf8Len σ.currentCharacters == 2) = true
      · simp only [h1, h2, if_true, Bool.not_true, Bool.false_and, Bool.false_eq_true, if_false]
        exact arm _ _ (.sblEmpty hs h1 h2)
      · by_cases h3 : (c == '\x00' && σ.atEnd) = true
        · simp only [h1, h2, h3, if_true, if_false, Bool.not_false, Bool.not_true, Bool.and_false, Bool.false_eq_true]
          exact arm _ _ (.sblSentinel hs h1 h2 h3)
        · simp only [h1, h2, h3, if_true, if_false, Bool.not_false, Bool.and_self, Bool.false_eq_true]
          exact arm _ _ (.sblBody hs h1 h2 h3)
    · have hc : c = '\'' := by simpa using h1
      subst hc
      simp only [h1]
      exact arm _ _ (.sblQuote hs rfl)
  case charList =>
    unfold armCharList
    by_if h1 : (c == '"') = true
    · by_if h2 : (σ.startQuoteCount == σ.endQuoteCount + 1) = true
      · exact arm _ _ (.clLast hs h1 h2)
      · exact arm _ _ (.clQuote hs h1 h2)
    · exact arm _ _ (.clBody hs h1)
  case byteList =>
    unfold armByteList
    by_if h1 : (c == '\'') = true
    · by_if h2 : (σ.startQuoteCount == σ.endQuoteCount + 1) = true
      · exact arm _ _ (.blLast hs h1 h2)
      · exact arm _ _ (.blQuote hs h1 h2)
    · exact arm _ _ (.blBody hs h1)
  case spaces =>
    unfold armSpaces
    by_if h1 : (c == '\n') = true
    · cases h2 : σ.couldBeSubExpression
      · have := arm _ _ (.spNewline hs h1 h2); rwa [h2] at this
      · have := arm _ _ (.spBlankLine hs h1 h2); rwa [h2] at this
    by_if h2 : (c != ' ' && c != '\t') = true
    · exact arm _ _ (.spDone hs h1 h2)
    · exact arm _ _ (.spBlank hs h1 h2)
  case subexpression =>
    unfold armSubexpression
    by_if h1 : (isAsciiWhitespace c && !(c == '\t' || c == ' ')) = true
    · exact arm _ _ (.subNewline hs h1)
    by_if h2 : (c == '\t' || c == ' ') = true
    · exact arm _ _ (.subBlank hs h1 h2)
    · exact arm _ _ (.subDone hs h1 h2)
  case annotation =>
    unfold armAnnotation
    by_if h1 : (c == '@' && utf8Len σ.currentCharacters == 1) = true
    · exact arm _ _ (.annLine hs h1)
    by_if h2 : (cc.isAlphanumeric c || c == '_') = true
    · exact arm _ _ (.annCont hs h1 h2)
    · exact arm _ _ (.annDone hs h1 h2)
  case lineAnnotation =>
    unfold armLineAnnotation
    by_if h1 : (c == '\n') = true
    · exact arm _ _ (.lineNewline hs h1)
    by_if h2 : (c == '\x00' && σ.atEnd) = true
    · exact arm _ _ (.lineSentinel hs h1 h2)
    · exact arm _ _ (.lineCont hs h1 h2)

theorem ArmStep.sound {cc : CharClass} {σ σ1 : Lexer} {c : Char} {sn : Bool} (h : ArmStep cc σ c σ1 sn) :
    stateStep cc σ c = .ok (.cont σ1 none sn) := by
  cases h
  case sclEmpty hs h1 h2 => simp [stateStep, hs, Step.ofPair, armStartCharList, h1, h2]
  case sclBody hs h1 h2 h3 => simp [stateStep, hs, Step.ofPair, armStartCharList, h1, h2, h3]
  case sclSentinel hs h1 h2 h3 => simp [stateStep, hs, Step.ofPair, armStartCharList, h1, h2, h3]
  case sclQuote hs h1 => subst h1; simp [stateStep, hs, Step.ofPair, armStartCharList]
  case sblEmpty hs h1 h2 => simp [stateStep, hs, Step.ofPair, armStartByteList, h1, h2]
  case sblBody hs h1 h2 h3 => simp [stateStep, hs, Step.ofPair, armStartByteList, h1, h2, h3]
  case sblSentinel hs h1 h2 h3 => simp [stateStep, hs, Step.ofPair, armStartByteList, h1, h2, h3]
  case sblQuote hs h1 => subst h1; simp [stateStep, hs, Step.ofPair, armStartByteList]
  case flCont hs h1 => simp only [stateStep, hs, armFloat, if_pos h1]
  case flDone hs h1 h2 => simp only [stateStep, hs, armFloat, if_neg h1, if_neg h2]
  case subNewline hs h1 => simp only [stateStep, hs, Step.ofPair, armSubexpression, if_pos h1]
  case subBlank hs h1 h2 => simp only [stateStep, hs, Step.ofPair, armSubexpression, if_neg h1, if_pos h2]
  case subDone hs h1 h2 => simp only [stateStep, hs, Step.ofPair, armSubexpression, if_neg h1, if_neg h2]
  all_goals
    simp only [stateStep, Step.ofPair, armOperator, armNumber, armIdentifier, armCharList, armByteList, armSpaces,
      armAnnotation, armLineAnnotation, currentOperator, *, ↓reduceIte, Bool.false_eq_true]

theorem stateStep_split {cc : CharClass} {σ : Lexer} {c : Char} (hs : σ.state = .float)
    (h1 : ¬(cc.isNumeric c || c == '_' || cc.isAlphanumeric c) = true)
    (h2 : (c == '.' && endsWith σ.currentCharacters '.') = true) (h3 : ¬σ.textColumn = 0) :
    stateStep cc σ c = match walkOperator (dots cc σ c).operatorTree (dots cc σ c).currentCharacters with
      | some node => .ok (.cont { dots cc σ c with currentTokenType := node.tokenType }
          (some ⟨trimMatches σ.currentCharacters '.', .number, σ.tokenStartRow, σ.tokenStartColumn⟩) false)
      | none => .ok (.returnNone { dots cc σ c with result := .err }) := by
  unfold stateStep
  rw [hs]
  simp only [armFloat, if_neg h1, if_pos h2, if_neg h3]
  rfl

theorem ArmStep.notNoToken {cc : CharClass} {σ σ1 : Lexer} {c : Char} {sn : Bool} (h : ArmStep cc σ c σ1 sn) :
    σ.state ≠ .noToken ∧ σ1.state ≠ .noToken := by
  -- an arm sets the state or keeps it
  cases h <;> have hs := ‹σ.state = _› <;> exact ⟨fun e => (by rw [hs] at e; cases e),
    fun e => (by first | cases e | (change σ.state = _ at e; rw [hs] at e; cases e))⟩

theorem ArmStep.of_ofPair {cc : CharClass} {σ : Lexer} {c : Char} {p : Lexer × Bool} (hnt : σ.state ≠ .noToken)
    (h : stateStep cc σ c = Step.ofPair p) : ArmStep cc σ c p.1 p.2 := by
  obtain ⟨p1, p2⟩ := p
  revert h
  apply stateStep_cases (P := fun r => r = .ok (.cont p1 none p2) → ArmStep cc σ c p1 p2)
  · exact fun hs => absurd hs hnt
  · rintro σ1 sn harm ⟨⟩; exact harm
  · rintro - - ⟨⟩
  · rintro node - - - - - ⟨⟩
  · rintro - - - - - ⟨⟩

def Step.finish (cc : CharClass) (c : Char) : Step → Lexer × Option LexerToken
  | .cont s nt sn => finishChar cc s c nt sn
  | .returnNone s => (s, none)

theorem processChar_eq (cc : CharClass) (σ : Lexer) (c : Char) :
    processChar cc σ c =
      (stateStep cc { σ with charactersLexed := σ.charactersLexed + 1 } c).bind fun st => .ok (st.finish cc c) := by
  unfold processChar
  dsimp only
  cases stateStep cc { σ with charactersLexed := σ.charactersLexed + 1 } c with
  | ok st => cases st <;> rfl
  | _ => rfl

theorem processChar_eq_ok {cc : CharClass} {σ σ' : Lexer} {c : Char} {ot : Option LexerToken}
    (h : processChar cc σ c = .ok (σ', ot)) :
    ∃ st, stateStep cc { σ with charactersLexed := σ.charactersLexed + 1 } c = .ok st ∧ st.finish cc c = (σ', ot) := by
  rw [processChar_eq] at h
  obtain ⟨st, hst, h⟩ := Outcome.bind_eq_ok.1 h
  exact ⟨st, hst, Outcome.ok.inj h⟩

/-- what an arm must guarantee: if no new token is started, the invariant holds after the column increment -/
def ArmGood (c : Char) (p : Lexer × Bool) : Prop :=
  (p.2 = false → Inv (bumpColumn p.1 c)) ∧ (p.2 = true → Inv p.1)

theorem ArmGood.of_state {σ1 : Lexer} {c : Char} {sn : Bool} (h : σ1.state ≠ .float) : ArmGood c (σ1, sn) :=
  ⟨fun _ e => absurd (by rwa [bumpColumn_state] at e) h, fun _ e => absurd e h⟩

theorem ArmStep.good {cc : CharClass} (hcc : cc.Sane) {σ σ1 : Lexer} {c : Char} {sn : Bool} (h : ArmStep cc σ c σ1 sn)
    (hi : Inv σ) : ArmGood c (σ1, sn) := by
  cases h
  -- Float stays Float
  case flCont hs h => exact ⟨fun _ _ => by rw [bumpColumn_ne_nl _ _ (sane_ne_nl hcc h)]; omega, nofun⟩
  case flDone hs _ _ => exact ⟨nofun, fun _ => hi⟩
  -- the two ways into Float: after a digit, after a period
  case opFloat hs _ _ h =>
    exact ⟨fun _ _ => numeric_bump hcc _ (by simp only [Bool.and_eq_true] at h; exact h.1.2), nofun⟩
  case numFloat hs _ h =>
    have hc : c = '.' := by simp only [Bool.and_eq_true, beq_iff_eq] at h; exact h.1
    exact ⟨fun _ _ => by rw [bumpColumn_ne_nl _ _ (by rw [hc]; decide)]; omega, nofun⟩
  -- no other case ends in Float: the arm sets another state or keeps the one it is in
  all_goals
    have hs := ‹σ.state = _›
    exact .of_state fun e => by first | cases e | (change σ.state = _ at e; rw [hs] at e; cases e)

theorem Inv_congr {s s' : Lexer} (h1 : s'.state = s.state) (h2 : s'.textColumn = s.textColumn)
    (h : Inv s) : Inv s' := by
  unfold Inv at *
  rw [h1, h2]; exact h

theorem pushNewToken_returnNone (s : Lexer) (nt : Option LexerToken) (s' : Lexer)
    (h : pushNewToken s nt = .returnNone s') :
    s'.state = s.state ∧ s'.textColumn = s.textColumn := by
  unfold pushNewToken at h
  simp only [] at h
  repeat' split at h
  all_goals simp_all
  all_goals (subst h; simp)

/-- `Step` results that keep the invariant through the rest of `process_char` -/
def StepGood (c : Char) : Step → Prop
  | .cont s' _ startNew => ArmGood c (s', startNew)
  | .returnNone s' => Inv s'

theorem finishChar_inv (cc : CharClass) (s : Lexer) (c : Char) (nt : Option LexerToken) (sn : Bool)
    (h : ArmGood c (s, sn)) : Inv (finishChar cc s c nt sn).1 := by
  cases sn with
  | false => simp only [finishChar]; exact h.1 rfl
  | true =>
    have hi : Inv s := h.2 rfl
    simp only [finishChar, ↓reduceIte]
    cases hp : pushNewToken { s with canFloat := !blocksFloat s.currentTokenType } nt with
    | returnNone s' =>
      obtain ⟨h1, h2⟩ := pushNewToken_returnNone _ _ _ hp
      exact Inv_congr h1 h2 hi
    | cont s' nt' b =>
      simp only []
      split
      · intro h
        rw [bumpColumn_state] at h
        have := (startToken_float cc _ c h).1
        simp at this
      · intro h
        simp at h

theorem processChar_ok (cc : CharClass) (hcc : cc.Sane) (s : Lexer) (c : Char) (hi : Inv s) :
    ∃ s' t, processChar cc s c = .ok (s', t) ∧ Inv s' := by
  rw [processChar_eq]
  have hi0 : Inv { s with charactersLexed := s.charactersLexed + 1 } := hi
  generalize ({ s with charactersLexed := s.charactersLexed + 1 } : Lexer) = σ at hi0 ⊢
  have : ∃ st, stateStep cc σ c = .ok st ∧ StepGood c st := by
    apply stateStep_cases (P := fun r => ∃ st, r = .ok st ∧ StepGood c st)
    · refine fun hs => ⟨_, rfl, fun _ h => ?_, nofun⟩
      rw [bumpColumn_state] at h
      exact absurd (startToken_float cc σ c h).1 (by rw [hs]; nofun)
    · exact fun σ1 sn harm => ⟨_, rfl, harm.good hcc hi0⟩
    · exact fun hs h0 => absurd (hi0 hs) (by omega)
    · refine fun node _ _ h2 _ _ => ⟨_, rfl, fun _ _ => ?_, nofun⟩
      have hc : c = '.' := by simp only [Bool.and_eq_true, beq_iff_eq] at h2; exact h2.1
      rw [bumpColumn_ne_nl _ _ (by rw [hc]; decide)]; omega
    · refine fun hs _ _ _ _ => ⟨_, rfl, fun h => ?_⟩
      have := startToken_float cc { σ with tokenStartRow := σ.textRow } '.' h
      exact this.2 ▸ hi0 hs
  obtain ⟨st, hst, hgood⟩ := this
  rw [hst]
  cases st with
  | cont s' nt sn => exact ⟨_, _, rfl, finishChar_inv cc s' c nt sn hgood⟩
  | returnNone s' => exact ⟨_, _, rfl, hgood⟩

theorem processChar_inv2 (cc : CharClass) (hcc : cc.Sane) (σ σ1 : Lexer) (c : Char) (ot : Option LexerToken)
    (hi : Inv σ) (h : processChar cc σ c = .ok (σ1, ot)) : Inv σ1 := by
  obtain ⟨s, t, hp, his⟩ := processChar_ok cc hcc σ c hi
  rw [hp] at h
  simp only [Outcome.ok.injEq, Prod.mk.injEq] at h
  rw [← h.1]; exact his

/-- fields no arm of `process_char` writes -/
def Frame (s s' : Lexer) : Prop :=
  s'.operatorTree = s.operatorTree ∧ s'.atEnd = s.atEnd ∧ s'.charactersLexed = s.charactersLexed

theorem Frame.refl (s : Lexer) : Frame s s := ⟨rfl, rfl, rfl⟩
theorem Frame.trans {a b c : Lexer} (h1 : Frame a b) (h2 : Frame b c) : Frame a c := by
  unfold Frame at *
  exact ⟨h2.1.trans h1.1, h2.2.1.trans h1.2.1, h2.2.2.trans h1.2.2⟩

/-- `hr : f … = r`: unfold `f`, split every branch, substitute, close by `simp` -/
macro "frame_tac" f:ident hr:ident : tactic =>
  `(tactic| (unfold $f at $hr:ident; (try simp only [] at $hr:ident); (repeat' split at $hr:ident);
             all_goals (subst $hr:ident; simp [Frame])))

theorem startToken_frame (cc : CharClass) (s : Lexer) (c : Char) : Frame s (startToken cc s c) := by
  rw [startToken_eq]
  split <;> exact ⟨rfl, rfl, rfl⟩

def Step.lexer : Step → Lexer
  | .cont s _ _ => s
  | .returnNone s => s

theorem ArmStep.frame {cc : CharClass} {σ σ1 : Lexer} {c : Char} {sn : Bool} (h : ArmStep cc σ c σ1 sn) : Frame σ σ1 := by
  cases h <;> exact ⟨rfl, rfl, rfl⟩

theorem dots_frame (cc : CharClass) (σ : Lexer) (c : Char) : Frame σ (dots cc σ c) :=
  startToken_frame cc { σ with tokenStartRow := σ.textRow } '.'

theorem bumpColumn_frame (s : Lexer) (c : Char) : Frame s (bumpColumn s c) := by
  generalize hr : bumpColumn s c = r
  frame_tac bumpColumn hr

theorem pushNewToken_frame (s : Lexer) (nt : Option LexerToken) : Frame s (pushNewToken s nt).lexer := by
  generalize hr : pushNewToken s nt = r
  unfold pushNewToken at hr
  simp only [] at hr
  repeat' split at hr
  all_goals (subst hr; simp [Frame, Step.lexer])

theorem finishChar_frame (cc : CharClass) (s : Lexer) (c : Char) (nt : Option LexerToken) (sn : Bool) :
    Frame s (finishChar cc s c nt sn).1 := by
  cases sn with
  | false => simp only [finishChar]; exact bumpColumn_frame s c
  | true =>
    simp only [finishChar, ↓reduceIte]
    have hp := pushNewToken_frame { s with canFloat := !blocksFloat s.currentTokenType } nt
    have h0 : Frame s { s with canFloat := !blocksFloat s.currentTokenType } := ⟨rfl, rfl, rfl⟩
    cases hpe : pushNewToken { s with canFloat := !blocksFloat s.currentTokenType } nt with
    | returnNone s' =>
      rw [hpe] at hp
      exact h0.trans hp
    | cont s' nt' b =>
      rw [hpe] at hp
      simp only [Step.lexer] at hp
      simp only []
      refine (h0.trans hp).trans (Frame.trans ?_ (bumpColumn_frame _ c))
      split
      · exact Frame.trans ⟨rfl, rfl, rfl⟩ (startToken_frame cc _ c)
      · exact ⟨rfl, rfl, rfl⟩

theorem processChar_frame (cc : CharClass) (s s' : Lexer) (c : Char) (t : Option LexerToken)
    (h : processChar cc s c = .ok (s', t)) :
    s'.operatorTree = s.operatorTree ∧ s'.atEnd = s.atEnd ∧ s'.charactersLexed = s.charactersLexed + 1 := by
  obtain ⟨st, hst, hfin⟩ := processChar_eq_ok h
  have : Frame { s with charactersLexed := s.charactersLexed + 1 } st.lexer := by
    revert hst
    apply stateStep_cases (P := fun r => r = .ok st → Frame _ st.lexer)
    · rintro - ⟨⟩; exact startToken_frame cc _ c
    · rintro σ1 sn harm ⟨⟩; exact harm.frame
    · rintro - - ⟨⟩
    · rintro node - - - - - ⟨⟩; exact dots_frame cc _ c
    · rintro - - - - - ⟨⟩; exact dots_frame cc _ c
  cases st with
  | cont s1 nt sn =>
    have h2 := finishChar_frame cc s1 c nt sn
    rw [show finishChar cc s1 c nt sn = (s', t) from hfin] at h2
    exact this.trans h2
  | returnNone s1 => cases hfin; exact this

@[simp] theorem bumpColumn_result (σ : Lexer) (c : Char) : (bumpColumn σ c).result = σ.result := by
  unfold bumpColumn; split <;> rfl
theorem startToken_result_err (cc : CharClass) (σ : Lexer) (c : Char) (h : σ.result = .err) :
    (startToken cc σ c).result = .err := by
  rw [startToken_eq]
  split
  · exact h
  · rfl

/-- the lexer right after a token has been pushed (the `set default for new` block) -/
def afterEmit (σ1 : Lexer) : Lexer :=
  { σ1 with canFloat := !blocksFloat σ1.currentTokenType, result := .ok, state := .noToken,
            currentCharacters := [], currentTokenType := none, startQuoteCount := 0, endQuoteCount := 0,
            couldBeSubExpression := false }

/-- the token pushed when an arm ends the pending token with type `ty` -/
def pendingTok (σ : Lexer) (ty : Gen.TokenType) : LexerToken :=
  ⟨σ.currentCharacters, ty, σ.tokenStartRow, σ.tokenStartColumn⟩

/-- after a token has been pushed: `c` starts the next token, unless the arm took it into the token
(`should_create = false`) -/
def restart (cc : CharClass) (σ1 : Lexer) (c : Char) : Lexer :=
  if σ1.shouldCreate then startToken cc (afterEmit σ1) c else { afterEmit σ1 with shouldCreate := true }

/-- what `process_char` can do with `c` in `σ` (`characters_lexed` already counted): record an error; start a token;
continue the pending token; push it and start again; split `1..` -/
inductive PStep (cc : CharClass) (σ : Lexer) (c : Char) : Lexer → Option LexerToken → Prop
  | fail {σ'} : σ'.result = .err → PStep cc σ c σ' none
  | start : σ.state = .noToken → PStep cc σ c (bumpColumn (startToken cc σ c) c) none
  | cont {σ1} : ArmStep cc σ c σ1 false → PStep cc σ c (bumpColumn σ1 c) none
  | emit {σ1 ty} : ArmStep cc σ c σ1 true → σ1.currentTokenType = some ty →
      PStep cc σ c (bumpColumn (restart cc σ1 c) c) (some (pendingTok σ1 ty))
  | split {node} : σ.state = .float → (c == '.' && endsWith σ.currentCharacters '.') = true → 1 ≤ σ.textColumn →
      walkOperator (dots cc σ c).operatorTree (dots cc σ c).currentCharacters = some node →
      PStep cc σ c (bumpColumn { dots cc σ c with currentTokenType := node.tokenType } c)
        (some ⟨trimMatches σ.currentCharacters '.', .number, σ.tokenStartRow, σ.tokenStartColumn⟩)

theorem finishChar_emit (cc : CharClass) {σ1 : Lexer} (c : Char) {ty : Gen.TokenType} (hnt : σ1.state ≠ .noToken)
    (hv : canCreateValidToken σ1 = .ok) (hty : σ1.currentTokenType = some ty) :
    finishChar cc σ1 c none true = (bumpColumn (restart cc σ1 c) c, some (pendingTok σ1 ty)) := by
  have hne : (σ1.state != LexingState.noToken) = true := by simpa using hnt
  have hv' : canCreateValidToken { σ1 with canFloat := !blocksFloat σ1.currentTokenType } = .ok := hv
  simp only [finishChar, ↓reduceIte, pushNewToken, hne]
  simp only [hv', LexResult.isOk, ↓reduceIte]
  simp only [hty, restart, afterEmit, pendingTok]

/-- `can_create_valid_token` fails on `_` or `:` alone (no identifier); the recorded error stays through `start_token` -/
theorem finishChar_fail (cc : CharClass) {σ1 : Lexer} (c : Char) (hnt : σ1.state ≠ .noToken)
    (h : canCreateValidToken σ1 = .err ∨ σ1.currentTokenType = none) :
    (finishChar cc σ1 c none true).1.result = .err ∧ (finishChar cc σ1 c none true).2 = none := by
  have hne : (σ1.state != LexingState.noToken) = true := by simpa using hnt
  simp only [finishChar, ↓reduceIte, pushNewToken, hne]
  cases hcv : canCreateValidToken { σ1 with canFloat := !blocksFloat σ1.currentTokenType } with
  | err =>
    simp only [LexResult.isOk, Bool.false_eq_true, ↓reduceIte]
    refine ⟨?_, by simp⟩
    split
    · simp only [bumpColumn_result]; exact startToken_result_err cc _ c rfl
    · simp
  | ok =>
    rcases h with h | h
    · exact absurd (show canCreateValidToken σ1 = .ok from hcv) (by rw [h]; nofun)
    · simp only [LexResult.isOk, ↓reduceIte, h]
      constructor <;> simp

theorem PStep.ofArm {cc : CharClass} {σ σ1 : Lexer} {c : Char} {sn : Bool} (harm : ArmStep cc σ c σ1 sn) :
    PStep cc σ c (finishChar cc σ1 c none sn).1 (finishChar cc σ1 c none sn).2 := by
  cases sn with
  | false => exact .cont harm
  | true =>
    have hnt := harm.notNoToken.2
    have fail := fun h => finishChar_fail cc c hnt h
    cases hcv : canCreateValidToken σ1 with
    | err => rw [(fail (.inl hcv)).2]; exact .fail (fail (.inl hcv)).1
    | ok =>
      cases hty : σ1.currentTokenType with
      | none => rw [(fail (.inr hty)).2]; exact .fail (fail (.inr hty)).1
      | some ty => rw [finishChar_emit cc c hnt hcv hty]; exact .emit harm hty

theorem processChar_pstep (cc : CharClass) {σ σ' : Lexer} {c : Char} {ot : Option LexerToken}
    (h : processChar cc σ c = .ok (σ', ot)) : PStep cc { σ with charactersLexed := σ.charactersLexed + 1 } c σ' ot := by
  obtain ⟨st, hst, hfin⟩ := processChar_eq_ok h
  generalize ({ σ with charactersLexed := σ.charactersLexed + 1 } : Lexer) = σ0 at hst ⊢
  have : PStep cc σ0 c (st.finish cc c).1 (st.finish cc c).2 := by
    revert hst
    apply stateStep_cases (P := fun r => r = .ok st → PStep cc σ0 c (st.finish cc c).1 (st.finish cc c).2)
    · rintro hs ⟨⟩; exact .start hs
    · rintro σ1 sn harm ⟨⟩; exact .ofArm harm
    · rintro - - ⟨⟩
    · rintro node hs - h2 h3 hw ⟨⟩; exact .split hs h2 (by omega) hw
    · rintro - - - - - ⟨⟩; exact .fail rfl
  rwa [hfin] at this

theorem processChar_arm {cc : CharClass} {σ σ1 : Lexer} {c : Char} {sn : Bool}
    (h : ArmStep cc { σ with charactersLexed := σ.charactersLexed + 1 } c σ1 sn) :
    processChar cc σ c = .ok (finishChar cc σ1 c none sn) := by
  rw [processChar_eq, h.sound]; rfl

theorem processChar_cont {cc : CharClass} {σ σ1 : Lexer} {c : Char}
    (h : ArmStep cc { σ with charactersLexed := σ.charactersLexed + 1 } c σ1 false) :
    processChar cc σ c = .ok (bumpColumn σ1 c, none) := by
  rw [processChar_arm h]; rfl

theorem processChar_emit {cc : CharClass} {σ σ1 : Lexer} {c : Char} {ty : Gen.TokenType}
    (h : ArmStep cc { σ with charactersLexed := σ.charactersLexed + 1 } c σ1 true)
    (hv : canCreateValidToken σ1 = .ok) (hty : σ1.currentTokenType = some ty) :
    processChar cc σ c = .ok (bumpColumn (restart cc σ1 c) c, some (pendingTok σ1 ty)) := by
  rw [processChar_arm h, finishChar_emit cc c h.notNoToken.2 hv hty]

def TreeOk (t : LexerOperatorNode) : Prop := walkOperator t ['\x00'] = none

/-- the operator tree of `Lexer::new` -/
def theTree : LexerOperatorNode :=
  match createOperatorTree Garnish.Gen.LexTables.operatorChars with
  | .ok t => t
  | _ => .mk '\x00' none []

/- `theTree` written out. Every evaluation of the lexer on a concrete input would otherwise make the kernel build the
operator tree from the table again (more work than lexing the input); evaluations start from `lex_eq` or rewrite with
`theTree_eq` first. If the table changes, `createOperatorTree_eq` fails and the text below is to be printed again. -/
def treeLit : LexerOperatorNode :=
  .mk '\x00' none [
    ('+', .mk '+' (some .plusSign) [('+', .mk '+' (some .absoluteValue) [])]),
    ('-', .mk '-' (some .subtraction) [('-', .mk '-' (some .opposite) [])]),
    ('*', .mk '*' (some .multiplicationSign) [('*', .mk '*' (some .exponentialSign) [])]),
    ('/', .mk '/' (some .division) [('/', .mk '/' (some .integerDivision) [])]),
    ('%', .mk '%' (some .remainder) []),
    ('!', .mk '!' (some .bitwiseNot) [('!', .mk '!' (some .not) []), ('>', .mk '>' (some .jumpIfFalse) []),
      ('=', .mk '=' (some .inequality) [])]),
    ('&', .mk '&' (some .bitwiseAnd) [('&', .mk '&' (some .and) [])]),
    ('|', .mk '|' (some .bitwiseOr) [('|', .mk '|' (some .or) []), ('>', .mk '>' (some .elseJump) [])]),
    ('^', .mk '^' (some .bitwiseXor) [('^', .mk '^' (some .xor) []), ('~', .mk '~' (some .reapply) [])]),
    ('<', .mk '<' (some .lessThan) [('<', .mk '<' (some .bitwiseLeftShift) []), ('~', .mk '~' (some .apply) []),
      ('=', .mk '=' (some .lessThanOrEqual) []), ('>', .mk '>' (some .concatenation) [])]),
    ('>', .mk '>' (some .greaterThan) [('>', .mk '>' (some .bitwiseRightShift) []),
      ('=', .mk '=' (some .greaterThanOrEqual) []),
      ('.', .mk '.' none [('.', .mk '.' (some .startExclusiveRange) [('<', .mk '<' (some .exclusiveRange) [])])])]),
    ('?', .mk '?' none [('?', .mk '?' (some .tis) []), ('>', .mk '>' (some .jumpIfTrue) [])]),
    ('(', .mk '(' (some .startGroup) [(')', .mk ')' (some .unitLiteral) [])]),
    ('{', .mk '{' (some .startExpression) []),
    ('}', .mk '}' (some .endExpression) []),
    (')', .mk ')' (some .endGroup) []),
    ('[', .mk '[' (some .startSideEffect) []),
    (']', .mk ']' (some .endSideEffect) []),
    ('$', .mk '$' (some .value) [('?', .mk '?' (some .true) []), ('!', .mk '!' (some .false) [])]),
    (',', .mk ',' (some .comma) []),
    ('~', .mk '~' (some .partialApply) [('>', .mk '>' (some .applyTo) []), ('~', .mk '~' (some .emptyApply) []),
      ('#', .mk '#' (some .typeCast) [])]),
    ('#', .mk '#' (some .typeOf) [('=', .mk '=' (some .typeEqual) [])]),
    ('=', .mk '=' (some .pair) [('=', .mk '=' (some .equality) [])]),
    ('.', .mk '.' (some .period) [('_', .mk '_' (some .rightInternal) []),
      ('|', .mk '|' (some .lengthInternal) []),
      ('.', .mk '.' (some .range) [('<', .mk '<' (some .endExclusiveRange) [])])]),
    ('_', .mk '_' none [('.', .mk '.' (some .leftInternal) [])]),
    (';', .mk ';' (some .expressionSeparator) [(';', .mk ';' (some .expressionTerminator) [])])]

/- (As a lemma: proved by `rfl` at `theTree` the kernel would unfold `theTree`, i.e. build the tree.) -/
theorem init_operatorTree (t : LexerOperatorNode) : (Lexer.init t).operatorTree = t := rfl

theorem createOperatorTree_eq : createOperatorTree Garnish.Gen.LexTables.operatorChars = .ok treeLit := by rfl

theorem theTree_eq : theTree = treeLit := by rw [theTree, createOperatorTree_eq]

/-- `Lexer::new` does not panic (the `unreachable!()`s of `create_operator_tree`) -/
theorem new_eq : Lexer.new = .ok (Lexer.init theTree) := by rw [Lexer.new, theTree_eq, createOperatorTree_eq]

theorem walk_none_of_isNone {t : LexerOperatorNode} {cs : List Char} (h : (walkOperator t cs).isNone = true) :
    walkOperator t cs = none := by
  cases hw : walkOperator t cs with
  | none => rfl
  | some n => rw [hw] at h; cases h

theorem operatorTree_TreeOk : TreeOk theTree := by
  rw [theTree_eq]; exact walk_none_of_isNone (by decide)

theorem init_treeOk : TreeOk (Lexer.init theTree).operatorTree := by
  rw [init_operatorTree]; exact operatorTree_TreeOk

theorem Inv_init (t : LexerOperatorNode) : Inv (Lexer.init t) := fun h => by simp [Lexer.init] at h

/- `lex` and `lexFull` in terms of the loop. (They are unfolded by `rw`: what `unfold` and `simp` build makes the
kernel evaluate `Lexer.new`, that is, build the operator tree.) -/
theorem lexFull_eq_lexLoop (cc : CharClass) (s : List Char) : lexFull cc s = lexLoop cc s (Lexer.init theTree) [] := by
  rw [lexFull, new_eq]

theorem lex_eq (cc : CharClass) (s : List Char) :
    lex cc s = (lexLoop cc s (Lexer.init treeLit) []).bind fun p => .ok p.1 := by
  rw [lex, lexFull_eq_lexLoop, theTree_eq]
  cases lexLoop cc s (Lexer.init treeLit) [] <;> rfl

theorem rustTables_sane :
    CharClass.Sane ⟨Garnish.Gen.CharRanges.isAlphanumeric, Garnish.Gen.CharRanges.isNumeric⟩ where
  nulNumeric := by decide +kernel
  nulAlphanumeric := by decide +kernel
  nlNumeric := by decide +kernel
  nlAlphanumeric := by decide +kernel

theorem startKind_nul (cc : CharClass) (hcc : cc.Sane) {tree : LexerOperatorNode} (ht : TreeOk tree) :
    startKind cc tree true '\x00' = some (.noToken, none, []) := by
  rw [startKind_plain cc true ht]
  simp [startPlain, isAsciiWhitespace, isIdentifierChar, hcc.nulNumeric, hcc.nulAlphanumeric]

theorem startToken_nul_full (cc : CharClass) (hcc : cc.Sane) (σ : Lexer) (ht : TreeOk σ.operatorTree)
    (hat : σ.atEnd = true) :
    (startToken cc σ '\x00').state = .noToken ∧ (startToken cc σ '\x00').currentCharacters = [] ∧
    (startToken cc σ '\x00').result = σ.result := by
  rw [startToken_eq, hat, startKind_nul cc hcc ht]
  exact ⟨rfl, rfl, rfl⟩

theorem processChar_nul_some (cc : CharClass) (hcc : cc.Sane) (s s' : Lexer) (t : LexerToken)
    (ht : TreeOk s.operatorTree) (hat : s.atEnd = true)
    (h : processChar cc s '\x00' = .ok (s', some t)) : s'.state = .noToken := by
  generalize hot : some t = ot at h
  cases processChar_pstep cc h with
  | fail | start | cont => cases hot
  | @emit σ1 ty harm =>
    -- `'\0'` starts no token
    have hf := harm.frame
    rw [bumpColumn_state, restart]
    split
    · exact (startToken_nul_full cc hcc (afterEmit σ1) (show TreeOk σ1.operatorTree from hf.1 ▸ ht)
        (show σ1.atEnd = true from hf.2.1 ▸ hat)).1
    · rfl
  | split _ h2 => simp at h2

theorem stateStep_noToken (cc : CharClass) {σ : Lexer} (c : Char) (hs : σ.state = .noToken) :
    stateStep cc σ c = .ok (.cont (startToken cc σ c) none false) := by
  unfold stateStep; rw [hs]; rfl

theorem processChar_noToken (cc : CharClass) (σ : Lexer) (c : Char) (hs : σ.state = .noToken) :
    processChar cc σ c =
      .ok (bumpColumn (startToken cc { σ with charactersLexed := σ.charactersLexed + 1 } c) c, none) := by
  rw [processChar_eq, stateStep_noToken cc c (show ({ σ with charactersLexed := σ.charactersLexed + 1 } : Lexer).state = _ from hs)]
  rfl

theorem processChar_noToken_none (cc : CharClass) (s s' : Lexer) (c : Char) (t : Option LexerToken)
    (hs : s.state = .noToken) (h : processChar cc s c = .ok (s', t)) : t = none := by
  rw [processChar_noToken cc s c hs] at h
  cases h; rfl

/-- `lex`'s loop on a prefix of the input (the same steps as `lexLoop`, without the end-of-input phase) -/
def runChars (cc : CharClass) : List Char → Lexer → List LexerToken → Outcome (Lexer × List LexerToken)
  | [], σ, toks => .ok (σ, toks)
  | c :: rest, σ, toks =>
    if σ.result.isErr then .err .syntax else
    match processChar cc σ c with
    | .ok (σ1, some t) =>
      match σ1.result with
      | .err => .err .syntax
      | .ok => runChars cc rest σ1 (toks ++ [t])
    | .ok (σ1, none) => runChars cc rest σ1 toks
    | .err e => .err e
    | .panic s => .panic s
    | .fuelOut => .fuelOut

theorem runChars_append (cc : CharClass) : ∀ (x y : List Char) (σ σ1 : Lexer) (toks toks1 : List LexerToken),
    runChars cc x σ toks = .ok (σ1, toks1) → runChars cc (x ++ y) σ toks = runChars cc y σ1 toks1
  | [], y, σ, σ1, toks, toks1, h => by
    simp only [runChars, Outcome.ok.injEq, Prod.mk.injEq] at h
    obtain ⟨rfl, rfl⟩ := h; rfl
  | c :: x, y, σ, σ1, toks, toks1, h => by
    simp only [runChars] at h
    simp only [List.cons_append, runChars]
    split at h
    · cases h
    · rename_i hE
      simp only [hE, Bool.false_eq_true, ↓reduceIte]
      cases hp : processChar cc σ c with
      | ok r =>
        obtain ⟨σ2, ot⟩ := r
        rw [hp] at h
        cases ot with
        | none => exact runChars_append cc x y σ2 σ1 toks toks1 h
        | some t =>
          simp only [] at h ⊢
          cases hr : σ2.result with
          | err => rw [hr] at h; cases h
          | ok => rw [hr] at h; exact runChars_append cc x y σ2 σ1 _ toks1 h
      | err e => rw [hp] at h; cases h
      | panic m => rw [hp] at h; cases h
      | fuelOut => rw [hp] at h; cases h

theorem lexFinish_ok {σ σ' : Lexer} {toks toks' : List LexerToken} (h : lexFinish σ toks = .ok (toks', σ')) :
    toks' = toks ∧ σ.result = .ok := by
  unfold lexFinish at h
  cases hr : σ.result <;> rw [hr] at h <;> simp at h
  exact ⟨h.1.symm, rfl⟩

theorem isErr_of_ok {σ : Lexer} (h : σ.result = .ok) : σ.result.isErr = false := by rw [h]; rfl

theorem lexFinish_err {σ : Lexer} (l : List LexerToken) (h : σ.result = .err) : lexFinish σ l = .err .syntax := by
  simp [lexFinish, h]

theorem isErr_true_iff {σ : Lexer} : σ.result.isErr = true ↔ σ.result = .err := by
  cases h : σ.result <;> simp [LexResult.isErr]

theorem runChars_none (cc : CharClass) (c : Char) (rest : List Char) (σ σ1 : Lexer) (toks : List LexerToken)
    (hok : σ.result = .ok) (hp : processChar cc σ c = .ok (σ1, none)) :
    runChars cc (c :: rest) σ toks = runChars cc rest σ1 toks := by
  simp [runChars, isErr_of_ok hok, hp]

theorem runChars_some (cc : CharClass) (c : Char) (rest : List Char) (σ σ1 : Lexer) (toks : List LexerToken)
    (t : LexerToken) (hok : σ.result = .ok) (hp : processChar cc σ c = .ok (σ1, some t)) (hok1 : σ1.result = .ok) :
    runChars cc (c :: rest) σ toks = runChars cc rest σ1 (toks ++ [t]) := by
  simp [runChars, isErr_of_ok hok, hp, hok1]

/-- a step lemma "the character continues the token" (state `I`, indexed by the pending text; characters `P`) lifts to a run -/
theorem runChars_cont (cc : CharClass) (I : List Char → Lexer → Prop) (P : Char → Prop)
    (hok : ∀ cs σ, I cs σ → σ.result = .ok)
    (step : ∀ cs σ x, I cs σ → P x → ∃ σ', processChar cc σ x = .ok (σ', none) ∧ I (cs ++ [x]) σ') :
    ∀ (xs cs : List Char) (σ : Lexer) (toks : List LexerToken), I cs σ → (∀ x ∈ xs, P x) →
      ∃ σ', runChars cc xs σ toks = .ok (σ', toks) ∧ I (cs ++ xs) σ'
  | [], cs, σ, toks, h, _ => ⟨σ, rfl, by simpa using h⟩
  | x :: xs, cs, σ, toks, h, hP => by
    obtain ⟨σ1, hp, h1⟩ := step cs σ x h (hP x (by simp))
    obtain ⟨σ', hr, h'⟩ := runChars_cont cc I P hok step xs (cs ++ [x]) σ1 toks h1 (fun y hy => hP y (by simp [hy]))
    exact ⟨σ', by rw [runChars_none cc x xs σ σ1 toks (hok _ _ h) hp]; exact hr, by simpa using h'⟩

theorem utf8Len_eq_zero {a : List Char} (h : utf8Len a = 0) : a = [] := by
  cases a with
  | nil => rfl
  | cons x r =>
    have := Char.utf8Size_pos x
    simp [utf8Len] at h; omega

theorem lexLoop_eq (cc : CharClass) : ∀ (x : List Char) (σ : Lexer) (toks : List LexerToken),
    lexLoop cc x σ toks = (runChars cc x σ toks).bind fun p => lexEnd cc endFuel p.1 p.2
  | [], σ, toks => rfl
  | c :: x, σ, toks => by
    simp only [lexLoop, runChars]
    by_cases hE : σ.result.isErr = true
    · rw [if_pos hE, if_pos hE, lexFinish_err _ (isErr_true_iff.mp hE)]; rfl
    · rw [if_neg hE, if_neg hE]
      cases hp : processChar cc σ c with
      | ok r =>
        obtain ⟨σ1, ot⟩ := r
        cases ot with
        | none => exact lexLoop_eq cc x σ1 toks
        | some t =>
          dsimp only
          cases σ1.result with
          | err => rfl
          | ok => exact lexLoop_eq cc x σ1 _
      | err e => rfl
      | panic m => rfl
      | fuelOut => rfl

theorem lexLoop_append (cc : CharClass) : ∀ (x rest : List Char) (σ σ1 : Lexer) (toks toks1 : List LexerToken),
    runChars cc x σ toks = .ok (σ1, toks1) → lexLoop cc (x ++ rest) σ toks = lexLoop cc rest σ1 toks1 :=
  fun x rest σ σ1 toks toks1 h => by
    rw [lexLoop_eq, runChars_append cc x rest σ σ1 toks toks1 h, ← lexLoop_eq]

/-- the one induction over a run: what every `process_char` call from a state without a recorded error keeps
(`consumed` is the input read so far), the run keeps -/
theorem runChars_induct (cc : CharClass) {I : Lexer → List Char → List LexerToken → Prop}
    (step : ∀ σ consumed toks c σ1 ot, I σ consumed toks → σ.result = .ok → processChar cc σ c = .ok (σ1, ot) →
      I σ1 (consumed ++ [c]) (toks ++ ot.toList)) :
    ∀ (x : List Char) (σ σ1 : Lexer) (consumed : List Char) (toks toks1 : List LexerToken),
      runChars cc x σ toks = .ok (σ1, toks1) → I σ consumed toks → I σ1 (consumed ++ x) toks1
  | [], σ, σ1, consumed, toks, toks1, h, hI => by
    cases h; simpa using hI
  | c :: x, σ, σ1, consumed, toks, toks1, h, hI => by
    simp only [runChars] at h
    by_cases hE : σ.result.isErr = true
    · rw [if_pos hE] at h; cases h
    rw [if_neg hE] at h
    have hok : σ.result = .ok := by
      cases hr : σ.result with
      | ok => rfl
      | err => exact absurd (isErr_true_iff.mpr hr) hE
    rw [show consumed ++ c :: x = (consumed ++ [c]) ++ x by simp]
    cases hp : processChar cc σ c with
    | ok r =>
      obtain ⟨σ2, ot⟩ := r
      rw [hp] at h
      have hI2 := step σ consumed toks c σ2 ot hI hok hp
      cases ot with
      | none => exact runChars_induct cc step x σ2 σ1 _ toks toks1 h (by simpa using hI2)
      | some t =>
        dsimp only at h
        cases hr : σ2.result with
        | err => rw [hr] at h; cases h
        | ok => rw [hr] at h; exact runChars_induct cc step x σ2 σ1 _ _ toks1 h hI2
    | err e => rw [hp] at h; cases h
    | panic m => rw [hp] at h; cases h
    | fuelOut => rw [hp] at h; cases h

theorem runChars_frame (cc : CharClass) (x : List Char) (σ σ1 : Lexer) (toks toks1 : List LexerToken)
    (h : runChars cc x σ toks = .ok (σ1, toks1)) : σ1.operatorTree = σ.operatorTree ∧ σ1.atEnd = σ.atEnd :=
  runChars_induct cc (I := fun τ _ _ => τ.operatorTree = σ.operatorTree ∧ τ.atEnd = σ.atEnd)
    (fun _ _ _ _ _ _ hI _ hp =>
      have hf := processChar_frame cc _ _ _ _ hp
      ⟨hf.1.trans hI.1, hf.2.1.trans hI.2⟩)
    x σ σ1 [] toks toks1 h ⟨rfl, rfl⟩

theorem runChars_prefix (cc : CharClass) (x : List Char) (σ σ1 : Lexer) (toks toks1 : List LexerToken)
    (h : runChars cc x σ toks = .ok (σ1, toks1)) : ∃ post, toks1 = toks ++ post :=
  runChars_induct cc (I := fun _ _ t => ∃ post, t = toks ++ post)
    (fun _ _ _ _ _ ot hI _ _ => by
      obtain ⟨post, rfl⟩ := hI
      exact ⟨post ++ ot.toList, by simp⟩)
    x σ σ1 [] toks toks1 h ⟨[], by simp⟩

theorem lexEnd_second (cc : CharClass) (fuel : Nat) (σ σ' : Lexer) (toks toks' : List LexerToken)
    (hs : σ.state = .noToken) (h : lexEnd cc (fuel + 1) σ toks = .ok (toks', σ')) : toks' = toks := by
  simp only [lexEnd] at h
  split at h
  · exact (lexFinish_ok h).1
  · cases hp : processChar cc { σ with atEnd := true } '\x00' with
    | ok r =>
      obtain ⟨σ1, ot⟩ := r
      have hnone := processChar_noToken_none cc _ _ _ _ (by simpa using hs) hp
      subst hnone
      rw [hp] at h
      simp only [] at h
      exact (lexFinish_ok h).1
    | err e => rw [hp] at h; cases h
    | panic m => rw [hp] at h; cases h
    | fuelOut => rw [hp] at h; cases h

theorem lexEnd_ok (cc : CharClass) (hcc : cc.Sane) (fuel : Nat) (σ σ' : Lexer) (toks toks' : List LexerToken)
    (htree : TreeOk σ.operatorTree) (h : lexEnd cc (fuel + 2) σ toks = .ok (toks', σ')) :
    σ.result = .ok ∧ ∃ σ1 ot, processChar cc { σ with atEnd := true } '\x00' = .ok (σ1, ot) ∧ σ1.result = .ok ∧
      toks' = toks ++ ot.toList ∧ (ot = none → σ1.currentCharacters = []) := by
  rw [show fuel + 2 = (fuel + 1) + 1 from rfl, lexEnd] at h
  by_cases hE : σ.result.isErr = true
  · rw [if_pos hE, lexFinish_err _ (isErr_true_iff.mp hE)] at h; cases h
  rw [if_neg hE] at h
  dsimp only at h
  have hok : σ.result = .ok := by
    cases hr : σ.result with
    | ok => rfl
    | err => exact absurd (isErr_true_iff.mpr hr) hE
  refine ⟨hok, ?_⟩
  cases hp : processChar cc { σ with atEnd := true } '\x00' with
  | ok r =>
    obtain ⟨σ1, ot⟩ := r
    rw [hp] at h
    refine ⟨σ1, ot, rfl, ?_⟩
    cases ot with
    | none =>
      dsimp only at h
      obtain ⟨rfl, hres⟩ := lexFinish_ok h
      -- a lingering token would have been turned into an error
      by_cases hl : (decide (utf8Len σ1.currentCharacters > 0) && σ1.result.isOk) = true
      · rw [if_pos hl] at hres; cases hres
      · rw [if_neg hl] at hres
        refine ⟨hres, by simp, fun _ => ?_⟩
        rw [hres] at hl
        exact utf8Len_eq_zero (by simpa [LexResult.isOk] using hl)
    | some t =>
      dsimp only at h
      have hs1 := processChar_nul_some cc hcc { σ with atEnd := true } σ1 t htree rfl hp
      cases hr : σ1.result with
      | err => rw [hr] at h; cases h
      | ok =>
        rw [hr] at h
        exact ⟨rfl, by simpa using lexEnd_second cc fuel σ1 σ' _ toks' hs1 h, nofun⟩
  | err e => rw [hp] at h; cases h
  | panic m => rw [hp] at h; cases h
  | fuelOut => rw [hp] at h; cases h

theorem lexLoop_ok (cc : CharClass) (hcc : cc.Sane) {x : List Char} {σ0 σ' : Lexer} {toks0 toks' : List LexerToken}
    (htree : TreeOk σ0.operatorTree) (h : lexLoop cc x σ0 toks0 = .ok (toks', σ')) :
    ∃ σ toks σ1 ot, runChars cc x σ0 toks0 = .ok (σ, toks) ∧ σ.result = .ok ∧
      processChar cc { σ with atEnd := true } '\x00' = .ok (σ1, ot) ∧ σ1.result = .ok ∧
      toks' = toks ++ ot.toList ∧ (ot = none → σ1.currentCharacters = []) := by
  rw [lexLoop_eq] at h
  obtain ⟨⟨σ, toks⟩, hr, h⟩ := Outcome.bind_eq_ok.1 h
  have htree1 : TreeOk σ.operatorTree := by rw [(runChars_frame cc x σ0 σ toks0 toks hr).1]; exact htree
  obtain ⟨hok, σ1, ot, hp, hok1, htoks, hnone⟩ := lexEnd_ok cc hcc 2 σ σ' toks toks' htree1 h
  exact ⟨σ, toks, σ1, ot, hr, hok, hp, hok1, htoks, hnone⟩

theorem lex_of_lexFull_eq {cc : CharClass} {s : List Char} {t : List LexerToken} {σ : Lexer}
    (h : lexFull cc s = .ok (t, σ)) : lex cc s = .ok t := by
  rw [lex, h]

theorem lex_of_lexFull {cc : CharClass} {s : List Char} {t : List LexerToken} (h : lex cc s = .ok t) :
    ∃ σ, lexFull cc s = .ok (t, σ) := by
  rw [lex] at h
  cases hf : lexFull cc s with
  | ok r => obtain ⟨a, σ⟩ := r; rw [hf] at h; cases h; exact ⟨σ, rfl⟩
  | err e => rw [hf] at h; cases h
  | panic m => rw [hf] at h; cases h
  | fuelOut => rw [hf] at h; cases h

theorem lexFull_append (cc : CharClass) (p q : List Char) {σ : Lexer} {toks : List LexerToken}
    (hrun : runChars cc p (Lexer.init theTree) [] = .ok (σ, toks)) : lexFull cc (p ++ q) = lexLoop cc q σ toks := by
  rw [lexFull_eq_lexLoop, lexLoop_append cc p q _ σ [] toks hrun]

theorem lexLoop_of_lex {cc : CharClass} {s : List Char} {t : List LexerToken} (h : lex cc s = .ok t) :
    ∃ σ, lexLoop cc s (Lexer.init theTree) [] = .ok (t, σ) := by
  obtain ⟨σ, hf⟩ := lex_of_lexFull h
  exact ⟨σ, by rw [← lexFull_eq_lexLoop]; exact hf⟩

theorem lex_ok (cc : CharClass) (hcc : cc.Sane) {s : List Char} {toks' : List LexerToken} (h : lex cc s = .ok toks') :
    ∃ σ toks σ1 ot, runChars cc s (Lexer.init theTree) [] = .ok (σ, toks) ∧ σ.result = .ok ∧
      processChar cc { σ with atEnd := true } '\x00' = .ok (σ1, ot) ∧ σ1.result = .ok ∧
      toks' = toks ++ ot.toList ∧ (ot = none → σ1.currentCharacters = []) := by
  obtain ⟨σ', hl⟩ := lexLoop_of_lex h
  exact lexLoop_ok cc hcc init_treeOk hl

/-- what `lex` can return from a state with `n` characters lexed so far: an error, or `Ok` after
`k + 1` or `k + 2` further `process_char` calls -/
def LexTotal (r : Outcome (List LexerToken × Lexer)) (n k : Nat) : Prop :=
  r = .err .syntax ∨
  ∃ toks s', r = .ok (toks, s') ∧ (s'.charactersLexed = n + k + 1 ∨ s'.charactersLexed = n + k + 2)

theorem lexFinish_total (s : Lexer) (toks : List LexerToken) :
    lexFinish s toks = .err .syntax ∨ lexFinish s toks = .ok (toks, s) := by
  unfold lexFinish
  cases s.result <;> simp

theorem lexEnd_noToken (cc : CharClass) (hcc : cc.Sane) (fuel : Nat) (s : Lexer) (toks : List LexerToken)
    (hi : Inv s) (hs : s.state = .noToken) (hres : s.result = .ok) :
    lexEnd cc (fuel + 1) s toks = .err .syntax ∨
    ∃ toks' s', lexEnd cc (fuel + 1) s toks = .ok (toks', s') ∧ s'.charactersLexed = s.charactersLexed + 1 := by
  have hE : s.result.isErr = false := by rw [hres]; rfl
  simp only [lexEnd, hE, Bool.false_eq_true, ↓reduceIte]
  have hi0 : Inv { s with atEnd := true } := Inv_congr rfl rfl hi
  obtain ⟨s1, t1, hp, _⟩ := processChar_ok cc hcc _ '\x00' hi0
  have ht1 := processChar_noToken_none cc _ _ _ _ (by simpa using hs) hp
  subst ht1
  have hf := processChar_frame cc _ _ _ _ hp
  rw [hp]
  simp only []
  split
  · rcases lexFinish_total { s1 with result := .err } toks with h | h
    · exact Or.inl h
    · exact Or.inr ⟨_, _, h, by simpa using hf.2.2⟩
  · rcases lexFinish_total s1 toks with h | h
    · exact Or.inl h
    · exact Or.inr ⟨_, _, h, by simpa using hf.2.2⟩

theorem lexEnd_total (cc : CharClass) (hcc : cc.Sane) (fuel : Nat) (s : Lexer) (toks : List LexerToken)
    (hi : Inv s) (ht : TreeOk s.operatorTree) :
    LexTotal (lexEnd cc (fuel + 2) s toks) s.charactersLexed 0 := by
  rw [show fuel + 2 = (fuel + 1) + 1 from rfl, lexEnd]
  by_cases hE : s.result.isErr = true
  · have : s.result = .err := by cases h : s.result <;> simp [h, LexResult.isErr] at hE ⊢
    simp [this, LexResult.isErr, lexFinish, LexTotal]
  simp only [hE, Bool.false_eq_true, ↓reduceIte]
  have hi0 : Inv { s with atEnd := true } := Inv_congr rfl rfl hi
  obtain ⟨s1, t1, hp, hi1⟩ := processChar_ok cc hcc _ '\x00' hi0
  have hf := processChar_frame cc _ _ _ _ hp
  simp only [] at hf
  rw [hp]
  cases t1 with
  | none =>
    simp only []
    split
    · rcases lexFinish_total { s1 with result := .err } toks with h | h
      · exact Or.inl h
      · exact Or.inr ⟨_, _, h, Or.inl (by simpa using hf.2.2)⟩
    · rcases lexFinish_total s1 toks with h | h
      · exact Or.inl h
      · exact Or.inr ⟨_, _, h, Or.inl (by simpa using hf.2.2)⟩
  | some t =>
    simp only []
    have hs1 := processChar_nul_some cc hcc _ _ _ (by simpa using ht) rfl hp
    cases hres : s1.result with
    | err => exact Or.inl rfl
    | ok =>
      simp only []
      rcases lexEnd_noToken cc hcc fuel s1 (toks ++ [t]) hi1 hs1 hres with h | ⟨toks', s', h, hn⟩
      · exact Or.inl h
      · refine Or.inr ⟨toks', s', h, Or.inr ?_⟩
        rw [hn, hf.2.2]

theorem runChars_total (cc : CharClass) (hcc : cc.Sane) : ∀ (x : List Char) (σ : Lexer) (toks : List LexerToken), Inv σ →
    runChars cc x σ toks = .err .syntax ∨ ∃ σ1 toks1, runChars cc x σ toks = .ok (σ1, toks1) ∧ Inv σ1 ∧
      σ1.operatorTree = σ.operatorTree ∧ σ1.charactersLexed = σ.charactersLexed + x.length
  | [], σ, toks, hi => .inr ⟨σ, toks, rfl, hi, rfl, rfl⟩
  | c :: x, σ, toks, hi => by
    simp only [runChars]
    by_cases hE : σ.result.isErr = true
    · exact .inl (if_pos hE)
    rw [if_neg hE]
    obtain ⟨σ1, ot, hp, hi1⟩ := processChar_ok cc hcc σ c hi
    have hf := processChar_frame cc _ _ _ _ hp
    rw [hp]
    have step : ∀ t, runChars cc x σ1 t = .err .syntax ∨ ∃ σ2 toks2, runChars cc x σ1 t = .ok (σ2, toks2) ∧ Inv σ2 ∧
        σ2.operatorTree = σ.operatorTree ∧ σ2.charactersLexed = σ.charactersLexed + (c :: x).length := fun t =>
      (runChars_total cc hcc x σ1 t hi1).imp id fun ⟨σ2, t2, h, hi2, ht, hn⟩ =>
        ⟨σ2, t2, h, hi2, ht.trans hf.1, by rw [hn, hf.2.2, List.length_cons]; omega⟩
    cases ot with
    | none => exact step toks
    | some t =>
      dsimp only
      cases σ1.result with
      | err => exact .inl rfl
      | ok => exact step _

theorem lexLoop_total (cc : CharClass) (hcc : cc.Sane) (input : List Char) (s : Lexer) (toks : List LexerToken)
    (hi : Inv s) (ht : TreeOk s.operatorTree) : LexTotal (lexLoop cc input s toks) s.charactersLexed input.length := by
  rw [lexLoop_eq]
  rcases runChars_total cc hcc input s toks hi with h | ⟨σ1, toks1, h, hi1, ht1, hn⟩ <;> rw [h]
  · exact .inl rfl
  · have := lexEnd_total cc hcc 2 σ1 toks1 hi1 (ht1 ▸ ht)
    rwa [hn] at this

/-- the `+ 2`: when the first `'\0'` produced a token, the `'\0'` is pushed through a second time -/
theorem lexFull_total (cc : CharClass) (hcc : cc.Sane) (input : List Char) :
    lexFull cc input = .err .syntax ∨
    ∃ toks s', lexFull cc input = .ok (toks, s') ∧
      (s'.charactersLexed = input.length + 1 ∨ s'.charactersLexed = input.length + 2) := by
  rw [lexFull_eq_lexLoop]
  rcases lexLoop_total cc hcc input (Lexer.init theTree) [] (Inv_init _) init_treeOk with h | ⟨a, b, h, hn⟩
  · exact Or.inl h
  · exact Or.inr ⟨a, b, h, by simpa [Lexer.init] using hn⟩

theorem lex_total (cc : CharClass) (hcc : cc.Sane) (input : List Char) :
    lex cc input = .err .syntax ∨ ∃ toks, lex cc input = .ok toks := by
  rcases lexFull_total cc hcc input with h | ⟨a, b, h, _⟩
  · rw [lex, h]; exact Or.inl rfl
  · rw [lex, h]; exact Or.inr ⟨a, rfl⟩

/-- `characters_lexed` after a successful `lex` (0 otherwise) -/
def callsOf (r : Outcome (List LexerToken × Lexer)) : Nat :=
  match r with
  | .ok (_, s') => s'.charactersLexed
  | _ => 0

/-- both counts occur, so "`input.length + 1` calls" alone would be false: `""` takes 1 call, `"+"` takes 3 -/
theorem charactersLexed_examples :
    callsOf (lexFull ⟨Garnish.Gen.CharRanges.isAlphanumeric, Garnish.Gen.CharRanges.isNumeric⟩ []) = 1 ∧
    callsOf (lexFull ⟨Garnish.Gen.CharRanges.isAlphanumeric, Garnish.Gen.CharRanges.isNumeric⟩ ['+']) = 3 := by
  simp only [lexFull_eq_lexLoop, theTree_eq]
  decide +kernel

end Garnish.Model.Lexer
