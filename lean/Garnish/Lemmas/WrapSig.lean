/-
Parentheses and the significant positions. In `pre ++ ( :: v :: ) :: post` the positions before the `(` stay, the `(` is a new
significant position, `v` moves up by one, everything behind by two (`significant_wrapValue`).
In a reference tree the `( )` nodes are exactly the significant positions that carry a `(` token (`KindOK`, from
`refParse_nodes`), so the in-order walk of the tree WITHOUT its parentheses is the in-order walk with those positions
filtered out (`sig_ungroup`); for the value wrap the filtered walks correspond under `wrapPos`.
Hence the reference trees of the two lists, parentheses removed, are relabellings of each other (`wrapPos`) that carry the
same token texts and elaborate to the same program (`elaborate_wrapValue_ungroup`); and a tree with redundant parentheses
elaborates like the tree without them (`elaborate_ungroup`).
-/
import Garnish.Lemmas.InsFillerSig
import Garnish.Lemmas.RefWrap3
import Garnish.Lemmas.WrapElab
import Garnish.Lemmas.RefParseNodes
import Garnish.Lemmas.ElabRelabel
import Garnish.Lemmas.RefParseInorder
namespace Garnish.Spec
open Garnish Garnish.Gen Garnish.Model.Parser

/-- where position `k` of `pre ++ v :: post` is in `pre ++ ( :: v :: ) :: post` (`n = pre.length`) -/
def wrapPos (n k : Nat) : Nat := if k < n then k else if k = n then n + 1 else k + 2

theorem wrapPos_inj (n : Nat) : ∀ x y, wrapPos n x = wrapPos n y → x = y := by
  intro x y h
  unfold wrapPos at h
  split at h <;> split at h <;> (try split at h) <;> (try split at h) <;> omega

/-- the significant positions of the wrapped list, from those of the original one -/
def wrapSig (n k : Nat) : List Nat := if k = n then [n, n + 1] else [wrapPos n k]

theorem valTok_step {v : PToken} (hv : isValueTok v = true) (cf : Bool) (st : List Bracket) (prev : PrevTok) :
    stepE v.type cf st prev = (true, st, .other) := by
  obtain ⟨h1, h2, h3, h4⟩ := value_scan hv
  simp [stepE, h1, h2, h3, h4]

theorem closerFollows_value {v : PToken} (hv : isValueTok v = true) (rest : List PToken) : closerFollows (v :: rest) = false := by
  obtain ⟨h1, h2, _, h4⟩ := value_scan hv
  simp [closerFollows, h1, h2, h4]

theorem map_eq_flatMap {f : Nat → Nat} {g : Nat → List Nat} : ∀ (l : List Nat), (∀ x ∈ l, g x = [f x]) → l.map f = l.flatMap g
  | [], _ => rfl
  | x :: l, h => by
    simp only [List.map_cons, List.flatMap_cons, h x (List.mem_cons_self ..), List.singleton_append]
    rw [map_eq_flatMap l (fun y hy => h y (List.mem_cons_of_mem _ hy))]

theorem scan_wrapValue {o v c : PToken} (ho : o.type = .startGroup) (hc : c.type = .endGroup) (hv : isValueTok v = true) :
    ∀ (pre post : List PToken) (pos : Nat) (st : List Bracket) (prev : PrevTok),
    significantScan (pre ++ o :: v :: c :: post) pos st prev =
      (significantScan (pre ++ v :: post) pos st prev).flatMap (wrapSig (pos + pre.length))
  | [], post, pos, st, prev => by
    have ho' : ∀ cf, stepE o.type cf st prev = (true, .group :: st, .other) := fun cf => by rw [ho]; rfl
    have hc' : ∀ cf st', stepE c.type cf (Bracket.group :: st') .other = (false, st', .other) := fun cf st' => by rw [hc]; rfl
    simp only [List.nil_append, List.length_nil, Nat.add_zero]
    rw [scan_cons, ho', scan_cons, valTok_step hv, scan_cons, hc', scan_cons, valTok_step hv]
    simp only [if_true, Bool.false_eq_true, if_false, List.nil_append, List.singleton_append, List.flatMap_cons]
    rw [show pos + 1 + 1 + 1 = (pos + 1) + 1 + 1 from rfl, scan_shift, scan_shift]
    simp only [wrapSig, if_true, List.cons_append, List.nil_append, List.cons.injEq, true_and]
    rw [List.map_map]
    refine map_eq_flatMap _ (fun x hx => ?_)
    have := scan_ge post (pos + 1) st .other x hx
    unfold wrapSig wrapPos
    rw [if_neg (by omega), if_neg (by omega), if_neg (by omega)]
    rfl
  | x :: pre, post, pos, st, prev => by
    simp only [List.cons_append]
    rw [scan_cons, scan_cons,
      closerFollows_append_congr ((closerFollows_open ho _).trans (closerFollows_value hv post).symm) pre,
      scan_wrapValue ho hc hv pre post (pos + 1)]
    have e : pos + 1 + pre.length = pos + (x :: pre).length := by simp; omega
    rw [e, List.flatMap_append]
    congr 1
    split
    · have h1 : ¬ pos = pos + (x :: pre).length := by simp
      have h2 : pos < pos + (x :: pre).length := by simp
      simp [wrapSig, wrapPos, h1, h2]
    · rfl

theorem significant_wrapValue {pre post : List PToken} {o v c : PToken} (ho : o.type = .startGroup) (hc : c.type = .endGroup)
    (hv : isValueTok v = true) (h : NoTrim (pre ++ v :: post)) (h' : NoTrim (pre ++ o :: v :: c :: post)) :
    significant (pre ++ o :: v :: c :: post) = (significant (pre ++ v :: post)).flatMap (wrapSig pre.length) := by
  rw [significant_noTrim h, significant_noTrim h', scan_wrapValue ho hc hv]
  simp

end Garnish.Spec

namespace Garnish.Abs.Source
open Garnish Garnish.Gen Garnish.Spec Garnish.Abs Garnish.Abs.Tree Garnish.Model.Parser Garnish.Model.Literals

/-- position `k` carries a `(` token -/
def isOG (toks : List PToken) (k : Nat) : Bool :=
  match toks[k]? with
  | some t => t.type == .startGroup
  | none => false

/-- on the tree without parentheses and positions: no value / operator node is called `Group`, every bracket node left is a
nested expression -/
def strippedOK : RTree → Bool
  | .nil => true
  | .node l d _ r => d != .group && strippedOK l && strippedOK r
  | .group d _ i => d == .nestedExpression && strippedOK i

/-- the `( )` nodes are the nodes on `(` tokens (a `List` node is synthesized and has no token of its own: exempt) -/
def KindOK (toks : List PToken) : RTree → Prop
  | .nil => True
  | .node l d k r => KindOK toks l ∧ KindOK toks r ∧ (d ≠ .list → isOG toks k = false)
  | .group d k i => KindOK toks i ∧ (d == .group) = isOG toks k

theorem def_startGroup : ∀ ty : TokenType, (getDefinition ty).1 = .group ↔ ty = .startGroup :=
  TokenType.forall_of_all (by decide)

theorem kindOK_of {toks : List PToken} : ∀ (t : RTree), TreeOK toks t → strippedOK t.stripGroups = true → KindOK toks t
  | .nil, _, _ => trivial
  | .node l d k r, ht, hq => by
    simp only [RTree.stripGroups, strippedOK, Bool.and_eq_true, bne_iff_ne] at hq
    refine ⟨kindOK_of l (fun d' k' hm => ht d' k' (nodeDefs_left _ _ _ _ hm)) hq.1.2,
      kindOK_of r (fun d' k' hm => ht d' k' (nodeDefs_right _ _ _ _ hm)) hq.2, fun hdl => ?_⟩
    -- `TreeOK`: the node is a synthesized `List` node, or it sits on a token whose type gives its definition; a `(` token
    -- gives `Group`, which `strippedOK` rules out for a value / operator node
    rcases ht d k (nodeDefs_self _ _ _ _) with h | ⟨tok, htok, h⟩
    · exact absurd h hdl
    · simp only [isOG, htok]
      cases hty : (tok.type == TokenType.startGroup)
      · rfl
      · have e : tok.type = .startGroup := by simpa using hty
        rw [e] at h
        rcases h with h | ⟨_, h⟩
        · exact absurd h hq.1.1
        · cases h
  | .group d k i, ht, hq => by
    have hti : TreeOK toks i := fun d' k' hm => ht d' k' (nodeDefs_inner _ _ _ hm)
    have hn := ht d k (by simp [nodeDefs])
    simp only [RTree.stripGroups] at hq
    by_cases hd : (d == .group) = true
    · simp only [hd, if_true] at hq
      refine ⟨kindOK_of i hti hq, ?_⟩
      have hd' : d = .group := by simpa using hd
      subst hd'
      rcases hn with h | ⟨tok, htok, h⟩
      · cases h
      · simp only [isOG, htok]
        rcases h with h | ⟨h, _⟩
        · rw [(def_startGroup tok.type).mp h.symm]; rfl
        · cases h
    · have hd' : (d == .group) = false := by simpa using hd
      simp only [hd', Bool.false_eq_true, if_false, strippedOK, Bool.and_eq_true, beq_iff_eq] at hq
      refine ⟨kindOK_of i hti hq.2, ?_⟩
      rw [hd']
      obtain ⟨rfl, _⟩ := hq
      rcases hn with h | ⟨tok, htok, h⟩
      · cases h
      · simp only [isOG, htok]
        rcases h with h | ⟨h, _⟩
        · cases hty : (tok.type == TokenType.startGroup)
          · rfl
          · have e : tok.type = .startGroup := by simpa using hty
            rw [e] at h; cases h
        · cases h

theorem sig_ungroup {toks : List PToken} : ∀ (t : RTree), KindOK toks t →
    (ungroup t).inorderSig = t.inorderSig.filter (fun k => !isOG toks k)
  | .nil, _ => rfl
  | .node l d k r, h => by
    obtain ⟨h1, h2, h3⟩ := h
    simp only [ungroup, RTree.inorderSig, List.filter_append, sig_ungroup l h1, sig_ungroup r h2]
    congr 2
    by_cases hd : (d == .list) = true
    · simp [hd]
    · have hd' : d ≠ .list := by simpa using hd
      simp [hd, h3 hd']
  | .group d k i, h => by
    obtain ⟨h1, h2⟩ := h
    simp only [ungroup]
    by_cases hd : (d == .group) = true
    · rw [hd] at h2
      simp [hd, RTree.inorderSig, ← h2, sig_ungroup i h1]
    · have hd' : (d == .group) = false := by simpa using hd
      rw [hd'] at h2
      simp [hd', RTree.inorderSig, ← h2, sig_ungroup i h1]

variable {F : Type} (pf : List Char → Option F)

theorem get_wrap (pre post : List PToken) (o v c : PToken) (k : Nat) :
    (pre ++ o :: v :: c :: post)[wrapPos pre.length k]? = (pre ++ v :: post)[k]? := by
  unfold wrapPos
  by_cases h1 : k < pre.length
  · rw [if_pos h1, List.getElem?_append_left h1, List.getElem?_append_left h1]
  · rw [if_neg h1]
    by_cases h2 : k = pre.length
    · subst h2
      rw [if_pos rfl, List.getElem?_append_right (by omega), List.getElem?_append_right (by omega)]
      simp
    · rw [if_neg h2, List.getElem?_append_right (by omega), List.getElem?_append_right (by omega)]
      obtain ⟨j, rfl⟩ : ∃ j, k = pre.length + 1 + j := ⟨k - pre.length - 1, by omega⟩
      have e1 : pre.length + 1 + j + 2 - pre.length = j + 3 := by omega
      have e2 : pre.length + 1 + j - pre.length = j + 1 := by omega
      rw [e1, e2]
      rfl

theorem isOG_wrap (pre post : List PToken) (o v c : PToken) (k : Nat) :
    isOG (pre ++ o :: v :: c :: post) (wrapPos pre.length k) = isOG (pre ++ v :: post) k := by
  simp only [isOG, get_wrap]

theorem isOG_open (pre post : List PToken) (o v c : PToken) (ho : o.type = .startGroup) :
    isOG (pre ++ o :: v :: c :: post) pre.length = true := by
  simp [isOG, ho]

theorem filter_wrap (pre post : List PToken) (o v c : PToken) (ho : o.type = .startGroup) : ∀ (L : List Nat),
    (L.flatMap (wrapSig pre.length)).filter (fun k => !isOG (pre ++ o :: v :: c :: post) k) =
      (L.filter (fun k => !isOG (pre ++ v :: post) k)).map (wrapPos pre.length)
  | [] => rfl
  | k :: L => by
    rw [List.flatMap_cons, List.filter_append, filter_wrap pre post o v c ho L, List.filter_cons]
    have hk := isOG_wrap pre post o v c k
    have hop := isOG_open pre post o v c ho
    by_cases hkn : k = pre.length
    · subst hkn
      have e : wrapPos pre.length pre.length = pre.length + 1 := by simp [wrapPos]
      rw [e] at hk
      simp only [wrapSig, if_true, List.filter_cons, hop, Bool.not_true, Bool.false_eq_true, if_false, hk, List.filter_nil]
      split <;> simp [e]
    · simp only [wrapSig, hkn, if_false, List.filter_cons, hk, List.filter_nil]
      split <;> simp

theorem elaborate_wrapValue_ungroup {pre post : List PToken} {o v c : PToken} (ho : o.type = .startGroup)
    (hc : c.type = .endGroup) (hv : isValueTok v = true) (hn : NoTrim (pre ++ v :: post))
    (hn' : NoTrim (pre ++ o :: v :: c :: post)) {T T' : RTree} (href : refParse Table.gen (pre ++ v :: post) = .ok T)
    (href' : refParse Table.gen (pre ++ o :: v :: c :: post) = .ok T') (hT : T.stripGroups = T'.stripGroups)
    (hQ : strippedOK T.stripGroups = true) :
    elaborate pf (pre ++ o :: v :: c :: post) (ungroup T') = elaborate pf (pre ++ v :: post) (ungroup T) := by
  have kT := kindOK_of T (refParse_nodes _ _ href) hQ
  have kT' := kindOK_of T' (refParse_nodes _ _ href') (by rw [← hT]; exact hQ)
  have hsig : (ungroup T').inorderSig = (ungroup T).inorderSig.map (wrapPos pre.length) := by
    rw [sig_ungroup T' kT', sig_ungroup T kT, refParse_inorder _ _ href', refParse_inorder _ _ href,
      significant_wrapValue ho hc hv hn hn', filter_wrap pre post o v c ho]
  have hshape := relabel_of_erase_sig (wrapPos pre.length) (ungroup T) (ungroup T')
    (by rw [eraseTok_ungroup, eraseTok_ungroup]; exact hT) hsig
  refine elaborate_relabel pf _ _ (wrapPos pre.length) (ungroup T) (ungroup T') (wrapPos_inj _) hshape ?_
  intro d k _ _
  simp only [textAt, get_wrap]

theorem braces_ungroup : ∀ (t : RTree), safe t = true → braces (ungroup t) = braces t
  | .nil, _ => rfl
  | .node l d k r, h => by
    simp only [safe, Bool.and_eq_true] at h
    simp only [ungroup, braces, braces_ungroup l h.1.1.1, braces_ungroup r h.1.1.2]
  | .group d k i, h => by
    simp only [safe, Bool.and_eq_true] at h
    have ih := braces_ungroup i h.1
    simp only [ungroup]
    by_cases hd : (d == .group) = true
    · have hd' : d = .group := by simpa using hd
      subst hd'
      simp [braces, ih]
    · have hd' : (d == .group) = false := by simpa using hd
      simp only [hd', Bool.false_eq_true, if_false, braces, ih]
      rw [isNil_ungroup i h.1]

theorem elabWith_ungroup (κ : Nat → Nat) (toks : List PToken) (t : RTree) (hs : safe t = true) :
    elabWith pf κ toks t = elabWith pf κ toks (ungroup t) := by
  unfold elabWith
  rw [go_ungroup pf κ toks t hs]
  cases go pf κ toks (ungroup t) with
  | none => rfl
  | some x => simp [fixP_e, fixP_bodies]

theorem elaborate_ungroup (toks : List PToken) (t : RTree) (hs : safe t = true) :
    elaborate pf toks t = elaborate pf toks (ungroup t) := by
  have hname : srcName (ungroup t) = srcName t := by
    funext k; simp only [srcName, braces_ungroup t hs]
  have h1 : elabSrc pf toks t = elabSrc pf toks (ungroup t) := by
    unfold elabSrc; rw [hname]; exact elabWith_ungroup pf _ toks t hs
  unfold elaborate
  rw [h1, hname]
  cases elabSrc pf toks (ungroup t) with
  | none => rfl
  | some p0 => exact elabWith_ungroup pf _ toks t hs

end Garnish.Abs.Source
