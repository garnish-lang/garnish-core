/-
One-literal sources and `literal operator literal` sources, for every token text, so that the value-level theorems about
literals (C14) and operators (C09 / C11 / C12) can be composed with `C01_text_correct_blocks`.  The parser's side is the
theorem about syntax trees (`parse_ex_range`, Lemmas/ParseNumbered, from `parse_ex_full`): the one token is an `Ex.atom`, the
five tokens an `Ex.bin` of two atoms; the reference tree is the run of the reference parser over them, step by step
(`ref_atom_stepK`, `refStep_whitespace`, `ref_op_stepK`); the elaboration is evaluated on that tree.  Of a literal / operator token
type only the facts `LitTok` / `OpTok` are used.
-/
import Garnish.Props.C01Blocks
import Garnish.Props.C14
namespace Garnish.Abs.Source
open Garnish Garnish.Gen Garnish.Spec Garnish.Abs Garnish.Abs.Tree Garnish.Model Garnish.Model.Parser
open Garnish.Model.Lexer Garnish.Model.Literals Garnish.Model.Build Garnish.Props.C01Build Garnish.Props.C01Source
open Garnish.Props.C02Numbered Garnish.Props.C01Text Garnish.Props.C01Blocks

variable {F : Type} {pf : List Char → Option F}

/-- the literal token types and the definitions of their value nodes -/
def litDef : TokenType → Option Definition
  | .number => some .number
  | .charList => some .charList
  | .byteList => some .byteList
  | .symbol => some .symbol
  | .unitLiteral => some .unit
  | .true => some .true
  | .false => some .false
  | _ => none

def litProg (v : Val F) : Program F := ⟨.lit v, [(0, .lit v)]⟩
def binProg (op : Instruction) (a b : Val F) : Program F := ⟨.binary op (.lit a) (.lit b), [(0, .binary op (.lit a) (.lit b))]⟩

theorem leafE_spellNumber (pf : List Char → Option F) (r n : Nat) (seps : List Nat) (hr2 : 2 ≤ r) (hr36 : r ≤ 36) (hn : n ≤ 2147483647)
    (hv : Garnish.Spec.Spell.ValidSeps r n seps) :
    leafE pf .number (Garnish.Spec.Spell.spellNumber r n seps) = some (.lit (.num (.int n))) := by
  simp only [leafE, Garnish.Props.C14.C14_number_value pf r n seps hr2 hr36 hn hv]

theorem leafE_quoteCharList (pf : List Char → Option F) (q : Nat) (body cs : List Char) (h : body.head? ≠ some '"')
    (hu : Garnish.Spec.Spell.unescape (Garnish.Lemmas.Literals.uniModel pf) q body = .ok cs) :
    leafE pf .charList (Garnish.Spec.Spell.quoteCharList q body) = some (.lit (.chars (cs.map Char.toNat))) := by
  simp only [leafE, Garnish.Props.C14.C14_charlist_exact pf q body h, hu]

theorem leafE_lit_wf {d : Definition} {tx : List Char} {v : Val F} (h : leafE pf d tx = some (.lit v)) :
    wfE (Expr.lit v : Expr F) = true := by
  unfold leafE at h
  repeat' split at h
  all_goals first | (cases h; rfl) | cases h

theorem litProg_done (v : Val F) : (compileState Prog.empty (litProg v)).done = [⟨.ref 0, 0, [(.endExpression, none)], 0⟩] := rfl

theorem litProg_wf (v : Val F) (hw : wfE (Expr.lit v : Expr F) = true) : Garnish.Props.C01.WFProgram (litProg v) :=
  .ofCheck rfl (litProg_done v) (by simp [Garnish.Props.C01.wfCheck, litProg, hw, tailR, noR])

/-- whatever the operator: the terminators change neither `done` nor `pending`, and two literals push no root -/
theorem binProg_done (op : Instruction) (a b : Val F) :
    (compileState Prog.empty (binProg op a b)).done = [⟨.ref 0, 0, [(.endExpression, none)], 0⟩] := by
  rw [compileState, binProg, bodiesSize, layoutRoots]
  simp only [startState, Prog.empty]
  rw [layoutRoots_nil]
  · rw [layoutRoot, (addTerms_pre _ _ _ _).done]
    rfl
  · rw [layoutRoot, (addTerms_pending _ _ _ _).1]
    rfl

theorem binProg_wf (op : Instruction) (a b : Val F) (hop : binOK op = true) (ha : wfE (Expr.lit a : Expr F) = true)
    (hb : wfE (Expr.lit b : Expr F) = true) : Garnish.Props.C01.WFProgram (binProg op a b) :=
  .ofCheck rfl (binProg_done op a b) (by simp [Garnish.Props.C01.wfCheck, binProg, wfE, hop, ha, hb, tailR, noR])

/-- a literal token: a value token of priority 10 that `trim_tokens` keeps and that is no identifier -/
structure LitTok (t : PToken) (d : Definition) : Prop where
  defn : getDefinition t.type = (d, .value)
  prio : priority d = some 10
  ne_ident : d ≠ .identifier
  keep : isTrimmable t = false

theorem litDef_tok {ty : TokenType} {d : Definition} (h : litDef ty = some d) (tx : List Char) (row col : Nat) :
    LitTok ⟨tx, ty, row, col⟩ d := by
  unfold litDef at h
  split at h <;> cases h <;> exact ⟨rfl, rfl, by decide, rfl⟩

theorem LitTok.atom10 {t : PToken} {d : Definition} (h : LitTok t d) : isAtom10 t = true := by
  simp [isAtom10, h.defn, h.prio]

theorem LitTok.def_eq {t : PToken} {d : Definition} (h : LitTok t d) : (getDefinition t.type).1 = d := by rw [h.defn]

theorem one_token (tx : List Char) (ty : TokenType) (d : Definition) (hd : litDef ty = some d) (v : Val F)
    (hv : leafE pf d tx = some (.lit v)) :
    ∃ r t, parse [⟨tx, ty, 0, 0⟩] = .ok r ∧ toTree r = some t ∧ t.inorder = List.range r.nodes.size ∧
      elaborate pf [⟨tx, ty, 0, 0⟩] (refTreeOf r t) = some (litProg v) := by
  have la := litDef_tok hd tx 0 0
  obtain ⟨r, t, h1, h2, h3, h4⟩ := parse_ex_range (F := ⟨false, false, false⟩) (Spec.Ex.atom [] ⟨tx, ty, 0, 0⟩)
    (by simp [Spec.Ex.ok, la.atom10]) rfl (by simp [Spec.Ex.toks, NumberedFrom])
  refine ⟨r, t, h1, h2, h3, ?_⟩
  have h4' : refParse Table.gen [⟨tx, ty, 0, 0⟩] = .ok (refTreeOf r t) := h4
  rw [refParse_noTrim Table.gen ⟨by simp, by simp [trimStart, la.keep], by simp [trimStart, la.keep]⟩] at h4'
  simp only [refLoop, Outcome.bind] at h4'
  rw [ref_atom_stepK _ _ _ _ _ la.atom10 (Or.inr (Or.inl rfl))] at h4'
  simp [la.def_eq, Frame.top, plug] at h4'
  rw [← h4']
  simp [elaborate, elabSrc, elabWith, go_leaf, textAt, hv, plain, idsOK, nodupB, litProg]

end Garnish.Abs.Source

namespace Garnish.Abs.Source
open Garnish Garnish.Gen Garnish.Spec Garnish.Abs Garnish.Abs.Tree Garnish.Model Garnish.Model.Parser
open Garnish.Model.Lexer Garnish.Model.Literals Garnish.Model.Build Garnish.Props.C01Build Garnish.Props.C01Source

variable {F : Type} {pf : List Char → Option F}

/-- the literal token types whose nodes are plain value nodes with text -/
def litDef4 : TokenType → Option Definition
  | .number => some .number
  | .charList => some .charList
  | .byteList => some .byteList
  | .symbol => some .symbol
  | _ => none

/-- binary operator tokens: the definition of the node and the instruction -/
def opTok : TokenType → Option (Definition × Instruction)
  | .plusSign => some (.addition, .add)
  | .subtraction => some (.subtraction, .subtract)
  | .multiplicationSign => some (.multiplicationSign, .multiply)
  | .division => some (.division, .divide)
  | .integerDivision => some (.integerDivision, .integerDivide)
  | .exponentialSign => some (.exponentialSign, .power)
  | .remainder => some (.remainder, .remainder)
  | .bitwiseAnd => some (.bitwiseAnd, .bitwiseAnd)
  | .bitwiseOr => some (.bitwiseOr, .bitwiseOr)
  | .bitwiseXor => some (.bitwiseXor, .bitwiseXor)
  | .bitwiseLeftShift => some (.bitwiseLeftShift, .bitwiseShiftLeft)
  | .bitwiseRightShift => some (.bitwiseRightShift, .bitwiseShiftRight)
  | .equality => some (.equality, .equal)
  | .inequality => some (.inequality, .notEqual)
  | .lessThan => some (.lessThan, .lessThan)
  | .lessThanOrEqual => some (.lessThanOrEqual, .lessThanOrEqual)
  | .greaterThan => some (.greaterThan, .greaterThan)
  | .greaterThanOrEqual => some (.greaterThanOrEqual, .greaterThanOrEqual)
  | _ => none

theorem opTok_binOp {oty : TokenType} {d : Definition} {op : Instruction} (h : opTok oty = some (d, op)) :
    binOp d = some op ∧ binOK op = true := by
  unfold opTok at h
  split at h <;> cases h <;> exact ⟨rfl, rfl⟩

theorem litDef4_litDef {ty : TokenType} {d : Definition} (h : litDef4 ty = some d) : litDef ty = some d := by
  unfold litDef4 at h
  split at h <;> cases h <;> rfl

/-- a binary operator token: left to right, binding less tightly than a value (priority above 10) -/
structure OpTok (t : PToken) (d : Definition) (q : Nat) : Prop where
  defn : getDefinition t.type = (d, .binaryLeftToRight)
  prio : priority d = some q
  above : 10 < q

theorem opTok_tok {oty : TokenType} {p : Definition × Instruction} (h : opTok oty = some p) (tx : List Char) (row col : Nat) :
    ∃ q, OpTok ⟨tx, oty, row, col⟩ p.1 q := by
  unfold opTok at h
  split at h <;> cases h <;> exact ⟨_, rfl, rfl, by decide⟩

theorem OpTok.binop {t : PToken} {d : Definition} {q : Nat} (h : OpTok t d q) : isBinopTok t = true := by
  simp [isBinopTok, h.defn]

/-- the tokens of `a op b` -/
def fiveToks (ta w1 to w2 tb : List Char) (tya oty tyb : TokenType) : List PToken :=
  [⟨ta, tya, 0, 0⟩, ⟨w1, .whitespace, 0, 1⟩, ⟨to, oty, 0, 2⟩, ⟨w2, .whitespace, 0, 3⟩, ⟨tb, tyb, 0, 4⟩]

theorem refParse_five {A W1 O W2 B : PToken} {da dop db : Definition} {q : Nat} (la : LitTok A da) (hW1 : isWsTok W1 = true)
    (lo : OpTok O dop q) (hW2 : isWsTok W2 = true) (lb : LitTok B db) :
    refParse Table.gen [A, W1, O, W2, B] = .ok (.node (.node .nil da 0 .nil) dop 2 (.node .nil db 4 .nil)) := by
  have e3 : (getDefinition O.type).1 = dop := by rw [lo.defn]
  have e4 : (getDefinition O.type).2 = .binaryLeftToRight := by rw [lo.defn]
  have hq : priority (getDefinition O.type).1 = some q := by rw [e3]; exact lo.prio
  have hna : asProperty (.node .nil db 4 .nil) = .node .nil db 4 .nil := by
    have := lb.ne_ident
    unfold asProperty; split <;> simp_all
  have hpa : Table.gen.prio da = some 10 := la.prio
  have hst : stops q false 10 = false := by have := lo.above; simp [stops]; omega
  have hrl : (SecDef.binaryLeftToRight == SecDef.binaryRightToLeft) = false := rfl
  rw [refParse_noTrim Table.gen ⟨by simp, by simp [trimStart, la.keep], by simp [trimStart, lb.keep]⟩]
  simp only [refLoop, Outcome.bind]
  rw [ref_atom_stepK _ _ _ _ _ la.atom10 (Or.inr (Or.inl rfl))]
  simp only [refStep_whitespace (w := W1) hW1]
  rw [ref_op_stepK _ _ _ q _ _ (bin3_of_binop lo.binop) hq (Or.inl rfl)]
  simp only [refStep_whitespace (w := W2) hW2]
  rw [ref_atom_stepK _ _ _ _ _ lb.atom10 (lastAfter_open _)]
  simp [la.def_eq, lb.def_eq, e3, e4, Frame.top, plug, attach, absorb, hpa, hrl, hst, hna, RTree.isNil]

theorem five_tokens (ta w1 to w2 tb : List Char) (tya oty tyb : TokenType) (da dop db : Definition) (op : Instruction)
    (hda : litDef tya = some da) (hdb : litDef tyb = some db) (hop : opTok oty = some (dop, op)) :
    ∃ r t, parse (fiveToks ta w1 to w2 tb tya oty tyb) = .ok r ∧ toTree r = some t ∧ t.inorder = List.range r.nodes.size ∧
      refTreeOf r t = .node (.node .nil da 0 .nil) dop 2 (.node .nil db 4 .nil) := by
  have la := litDef_tok hda ta 0 0
  have lb := litDef_tok hdb tb 0 4
  obtain ⟨q, lo⟩ := opTok_tok hop to 0 2
  obtain ⟨r, t, h1, h2, h3, h4⟩ := parse_ex_range (F := ⟨false, false, false⟩)
    (Spec.Ex.bin (.atom [] ⟨ta, tya, 0, 0⟩) [⟨w1, .whitespace, 0, 1⟩] ⟨to, oty, 0, 2⟩ [⟨w2, .whitespace, 0, 3⟩]
      (.atom [] ⟨tb, tyb, 0, 4⟩))
    (by simp [Spec.Ex.ok, Spec.Ex.isOpd, la.atom10, lb.atom10, lo.binop, isTriviaTok]) rfl (by simp [Spec.Ex.toks, NumberedFrom])
  have h4' : refParse Table.gen (fiveToks ta w1 to w2 tb tya oty tyb) = .ok (refTreeOf r t) := h4
  rw [fiveToks, refParse_five la rfl lo rfl lb] at h4'
  exact ⟨r, t, h1, h2, h3, (Outcome.ok.inj h4').symm⟩

theorem five_elab (ta w1 to w2 tb : List Char) (tya oty tyb : TokenType) (da dop db : Definition) (op : Instruction)
    (hop : binOp dop = some op) (va vb : Val F) (ha : leafE pf da ta = some (.lit va)) (hb : leafE pf db tb = some (.lit vb)) :
    elaborate pf (fiveToks ta w1 to w2 tb tya oty tyb) (.node (.node .nil da 0 .nil) dop 2 (.node .nil db 4 .nil)) =
      some (binProg op va vb) := by
  simp [elaborate, elabSrc, elabWith, go_bin, go_leaf, textAt, fiveToks, ha, hb, plain, binE, hop, idsOK, nodupB, binProg]

end Garnish.Abs.Source
