/-
Refinement lemmas for casting.rs: the arms of `castBody`, each against the corresponding arm of Abs/Casts `castCore`, and
`type_cast` against `castOp` on the domain `CastDomain` (`typeCast_refines`).  `iterate_concatenation_mut` is taken as a whole
with a state-carrying check (Lemmas/RuntimeCastConcat.lean): the three closures `type_cast` passes (`concatenation_len`'s, the
add-all closure, the windowed closure of the slice arm) select on values what `flatItems` and Abs/Casts `concatWindow` say.
The `(Slice, List)` arm goes by the type of the sliced value: a list, a text, a byte list (integer extents inside the sequence:
`SegOK`), a concatenation (any number extent), anything that is no sequence (unit).
-/
import Garnish.Lemmas.RuntimeCast
import Garnish.Lemmas.RuntimeCastConcat
set_option linter.unusedVariables false
namespace Garnish.Lemmas.Runtime
open Garnish Gen Garnish.Abs Garnish.Model.Equality Garnish.Model.Runtime

section
variable {F σ : Type} {S : RStore F σ} {C : CastOps σ} {env : CastEnv F} (fo : FloatOps F)

theorem _root_.Garnish.Model.Runtime.StoreLawsC.numAdder (L : StoreLawsC S C env) : ItemAdder S S.addNumber (Val.num (F := F)) :=
  ⟨L.addNumber, L.buildAddNumber⟩
theorem _root_.Garnish.Model.Runtime.StoreLawsC.symAdder (L : StoreLawsC S C env) : ItemAdder S S.addSymbol (Val.sym (F := F)) :=
  ⟨L.addSymbol, L.buildAddSymbol⟩
theorem _root_.Garnish.Model.Runtime.StoreLawsC.charAdder (L : StoreLawsC S C env) : ItemAdder S S.addChar (Val.char (F := F)) :=
  ⟨L.addChar, L.buildAddChar⟩
theorem _root_.Garnish.Model.Runtime.StoreLawsC.byteAdder (L : StoreLawsC S C env) : ItemAdder S S.addByte (Val.byte (F := F)) :=
  ⟨L.addByte, L.buildAddByte⟩

theorem numberToSize_eq (n : Number F) : (numberToSize fo n).getD 0 = numToSize fo n := by cases n <;> rfl
theorem numberToSize_some (n : Number F) : numberToSize fo n = some (numToSize fo n) := by cases n <;> rfl

theorem buildList_simple (declared : Nat) (items : List (Val F)) :
    buildList .simple declared items = .val (.list items) := rfl

theorem buildList_exact (st : StoreKind) (items : List (Val F)) :
    buildList st items.length items = .val (.list items) := by cases st <;> simp [buildList]

theorem rangeToList_nonnum (st : StoreKind) {a b : Val F} (hn : ¬ (a.typeOf = .number ∧ b.typeOf = .number)) :
    rangeToList fo st a b = .err .state := by
  cases a <;> first | rfl | (cases b <;> first | rfl | exact absurd ⟨rfl, rfl⟩ hn)


theorem castBody_symbolListList (L : StoreLawsC S C env) (fuel : Nat) {s s0 : σ} {rest : List Nat} {l r : Nat}
    {ps : List (SymPart F)} (e0 : Eff S s s0 rest (S.vals s)) (hl : Decodes (S.view s0) l (.symList ps)) :
    Pushed S s ((castBody fo S C fuel l r .symbolList .list >>= fun _ => pure (none : Option Nat)) s0) none rest
      (.list (ps.map symPartVal)) := by
  have hiter : getSymbolListIter S l s0 = .ok (ps, s0) := by
    simp [getSymbolListIter, RM.lift, symList_of hl, fetch, Outcome.ofOption, Outcome.bind]
  obtain ⟨hlen, _⟩ := L.symIdx s0 l ps (symList_of hl)
  have := buildTail (n := ps.length) L.toStoreLaws e0
    (fun t s1 _ hb => symListLoop_spec L.toStoreLaws L.symAdder L.numAdder ps t [] s1 hb)
  have harm : castArm .symbolList .list = .symbolListList := rfl
  unfold castBody
  rw [harm]
  simp only []
  rw [bind_ok2 hiter, bind_ok2 (readR_ok (g := fun st => S.symLen st l) hlen)]
  exact this

theorem castBody_rangeList (L : StoreLawsC S C env) (fuel : Nat) {s s0 : σ} {rest : List Nat} {l r : Nat}
    {a b : Val F} (e0 : Eff S s s0 rest (S.vals s)) (hl : Decodes (S.view s0) l (.range a b))
    (hfuel : ∀ x y len, a = .num x → b = .num y → Abs.rangeLen fo x y = some len → numToSize fo len + 1 ≤ fuel) :
    RefinesCast S s ((castBody fo S C fuel l r .range .list >>= fun _ => pure (none : Option Nat)) s0) none rest l r
      (rangeToList fo .simple a b) := by
  have harm : castArm .range .list = .rangeList := rfl
  unfold castBody
  rw [harm]
  simp only []
  by_cases hn : a.typeOf = .number ∧ b.typeOf = .number
  · obtain ⟨x, rfl⟩ := typeOf_number hn.1
    obtain ⟨y, rfl⟩ := typeOf_number hn.2
    cases hlen : Abs.rangeLen fo x y with
    | none =>
      have hg : getRange fo S l s0 = .err .number := by rw [getRange_num fo hl, hlen]
      simp only [rangeToList, hlen]
      exact bind_err (bind_err hg)
    | some len =>
      have hg : getRange fo S l s0 = .ok ((x, y, len), s0) := by rw [getRange_num fo hl, hlen]
      have hf := hfuel x y len rfl rfl hlen
      have hloop := fun t s1 (hb : S.building s1 = some (t, [])) =>
        rangeListLoop_spec fo L.toStoreLaws L.numAdder (numToSize fo len) y (numToSize fo len) fuel 0 x t [] s1
          (by omega) hf hb
      rw [bind_ok2 hg]
      simp only [rangeToList, hlen, numberToSize_eq]
      cases hri : rangeItems fo (numToSize fo len) x y with
      | ok xs =>
        simp only [hri] at hloop
        simp only [buildList_simple]
        exact buildTail (n := numToSize fo len) L.toStoreLaws e0 (fun t s1 _ hb => hloop t s1 hb)
      | error err =>
        simp only [hri] at hloop
        obtain ⟨t0, s1, h1, e1, b1⟩ := L.startList (numToSize fo len) s0
        show _ = Outcome.err err
        rw [bind_ok2 h1]
        exact bind_err (bind_err (hloop t0 s1 b1))
  · rw [rangeToList_nonnum fo _ hn]
    exact bind_err (bind_err (getRange_nonnum fo hl hn))

theorem listFromSeq_full (L : StoreLaws S) {len : σ → Nat → Outcome Nat}
    {item : σ → Nat → Number F → Outcome (Option Nat)} {add : Nat → RM σ Nat} {mk : Nat → Val F}
    (hadd : ItemAdder S add mk) (fuel : Nat) {s s0 : σ} {rest : List Nat} (addr : Nat) (vseq : Val F) (xs : List Nat)
    (hmax : xs.length ≤ 2147483647)
    (e0 : Eff S s s0 rest (S.vals s)) (hd : Decodes (S.view s0) addr vseq)
    {seq : σ → Nat → Option (List Nat)} (hidx : ∀ s, Indexes (len s) (item s) (seq s))
    (hseq : ∀ s, Decodes (S.view s) addr vseq → seq s addr = some xs)
    (i : Nat) (e : Int) (he : e ≤ xs.length) (hfuel : (e - i).toNat + 1 ≤ fuel) :
    Pushed S s ((listFromSeq fo S len item add fuel addr (.int (i : Int)) (.int e) >>= fun _ => pure (none : Option Nat)) s0)
      none rest (.list (((xs.drop i).take (e - i).toNat).map mk)) := by
  rw [listFromSeq, bind_ok2 (readR_ok (g := fun st => len st addr) (hidx s0 addr xs (hseq s0 hd)).1)]
  exact buildTail L e0 (fun t s1 e1 hb =>
    listFromLoop_spec fo L hadd addr vseq xs hmax (fun s hd => (hidx s addr xs (hseq s hd)).2) e he (e - i).toNat fuel i t []
      s1 rfl hfuel (e1.dec hd) hb)

theorem castBody_charListList (L : StoreLawsC S C env) (fuel : Nat) {s s0 : σ} {rest : List Nat} {l r : Nat}
    {cs : List Nat} (e0 : Eff S s s0 rest (S.vals s)) (hl : Decodes (S.view s0) l (.chars cs))
    (hmax : cs.length ≤ 2147483647) (hfuel : cs.length + 1 ≤ fuel) :
    Pushed S s ((castBody fo S C fuel l r .charList .list >>= fun _ => pure (none : Option Nat)) s0) none rest
      (.list (cs.map .char)) := by
  have hlen := (L.charIdx s0 l cs (chars_of hl)).1
  have := listFromSeq_full fo L.toStoreLaws L.charAdder fuel l (.chars cs) cs hmax e0 hl L.charIdx (fun _ => chars_of) 0 cs.length
    (Int.le_refl _) (by simpa using hfuel)
  have harm : castArm .charList .list = .charListList := rfl
  unfold castBody
  rw [harm]
  simp only []
  rw [bind_ok2 (readR_ok (g := fun st => S.charLen st l) hlen), sizeToNumber_small hmax]
  simpa [listFromCharList] using this

theorem castBody_byteListList (L : StoreLawsC S C env) (fuel : Nat) {s s0 : σ} {rest : List Nat} {l r : Nat}
    {bs : List Nat} (e0 : Eff S s s0 rest (S.vals s)) (hl : Decodes (S.view s0) l (.bytes bs))
    (hmax : bs.length ≤ 2147483647) (hfuel : bs.length + 1 ≤ fuel) :
    Pushed S s ((castBody fo S C fuel l r .byteList .list >>= fun _ => pure (none : Option Nat)) s0) none rest
      (.list (bs.map .byte)) := by
  have hlen := (L.byteIdx s0 l bs (bytes_of hl)).1
  have := listFromSeq_full fo L.toStoreLaws L.byteAdder fuel l (.bytes bs) bs hmax e0 hl L.byteIdx (fun _ => bytes_of) 0 bs.length
    (Int.le_refl _) (by simpa using hfuel)
  have harm : castArm .byteList .list = .byteListList := rfl
  unfold castBody
  rw [harm]
  simp only []
  rw [bind_ok2 (readR_ok (g := fun st => S.byteLen st l) hlen), sizeToNumber_small hmax]
  simpa [listFromByteList] using this

theorem castBody_charListChar (L : StoreLawsC S C env) (fuel : Nat) {s s0 : σ} {rest : List Nat} {l r : Nat}
    {cs : List Nat} (e0 : Eff S s s0 rest (S.vals s)) (hl : Decodes (S.view s0) l (.chars cs)) :
    Pushed S s ((castBody fo S C fuel l r .charList .char >>= fun _ => pure (none : Option Nat)) s0) none rest
      (oneChar cs) := by
  have hlen := (L.charIdx s0 l cs (chars_of hl)).1
  have hiter : getCharListIter S l s0 = .ok (cs, s0) := by
    simp [getCharListIter, RM.lift, chars_of hl, fetch, Outcome.ofOption, Outcome.bind]
  have harm : castArm .charList .char = .charListChar := rfl
  unfold castBody
  rw [harm]
  simp only []
  rw [bind_ok2 (readR_ok (g := fun st => S.charLen st l) hlen)]
  cases cs with
  | nil => simp only [List.length_nil, Nat.zero_ne_one, if_false]; exact castPushUnit L.toStoreLaws e0
  | cons c cs =>
    cases cs with
    | nil =>
      simp only [List.length_cons, List.length_nil, Nat.zero_add, if_true]
      rw [bind_ok2 hiter]
      simp only [List.head?_cons]
      exact castPush L.toStoreLaws e0 (L.addChar c s0)
    | cons c2 cs =>
      have : ¬ (c :: c2 :: cs).length = 1 := by simp
      simp only [this, if_false]
      exact castPushUnit L.toStoreLaws e0
end

section
variable {F σ α : Type} {S : RStore F σ} (fo : FloatOps F)

/-- `iterate_concatenation_mut` on a concatenation, with a state-carrying check; the borrowed registers are given back -/
theorem iterateConcatenation_pick (L : StoreLaws S) {checkFn : α → Number F → Nat → RM σ (Option Nat × α)}
    {dec : Nat → Pick} {Q : α → List Nat → σ → Prop} (hp : PickRefines S checkFn dec Q) (fuel : Nat)
    {s : σ} {addr : Nat} {vl vr : Val F} (h : Decodes (S.view s) addr (.concat vl vr))
    (hf : nodes vl + nodes vr + 1 ≤ fuel) (hb : (flatItems vl ++ flatItems vr).length ≤ 2147483647)
    (acc : α) (built : List Nat) (hq : Q acc built s) :
    ∃ r idx' acc' s' new, iterateConcatenation fo S false fuel addr checkFn acc s = .ok (((r, idx'), acc'), s') ∧
      Eff S s s' (S.regs s) (S.vals s) ∧ Q acc' (built ++ new) s' ∧
      DecodesList (S.view s') new (pickItems dec 0 (flatItems vl ++ flatItems vr)) ∧
      (pickStops dec 0 (flatItems vl ++ flatItems vr) = false → idx' = (flatItems vl ++ flatItems vr).length) := by
  have hvis : visit false (.concat vl vr) = flatItems vl ++ flatItems vr := by simp [visit, visit_false]
  obtain ⟨r, idx', acc', s', new, h1, e1, q1, d1, hm⟩ :=
    Core.iterateConcatenation_walk fo L.toK false hp.walk fuel h hf (by rw [hvis]; exact hb) nofun acc built hq trivial nofun
  rw [hvis] at d1 hm
  rw [taken_pick] at d1
  refine ⟨r, idx', acc', s', new, h1, e1.toEff, q1, d1, fun hno => ?_⟩
  rw [← firstHit_pick] at hno
  cases hfh : firstHit (pickChk dec) 0 (flatItems vl ++ flatItems vr) with
  | some w => rw [hfh] at hno; cases hno
  | none => rw [hfh] at hm; exact hm.2


theorem pickItems_skip (xs : List (Val F)) : ∀ k, pickItems (fun _ => Pick.skip) k xs = [] := by
  induction xs with
  | nil => intro k; rfl
  | cons x xs ih => intro k; simp [pickItems, ih]

theorem pickStops_skip (xs : List (Val F)) : ∀ k, pickStops (fun _ => Pick.skip) k xs = false := by
  induction xs with
  | nil => intro k; rfl
  | cons x xs ih => intro k; simp [pickStops, ih]

theorem pickItems_add (xs : List (Val F)) : ∀ k, pickItems (fun _ => Pick.add) k xs = xs := by
  induction xs with
  | nil => intro k; rfl
  | cons x xs ih => intro k; simp [pickItems, ih]

theorem pickStops_add (xs : List (Val F)) : ∀ k, pickStops (fun _ => Pick.add) k xs = false := by
  induction xs with
  | nil => intro k; rfl
  | cons x xs ih => intro k; simp [pickStops, ih]

/-- the closure of `concatenation_len` -/
theorem lenFn_refines : PickRefines S (fun (_ : Unit) (_ : Number F) (_ : Nat) => (pure (none, ()) : RM σ (Option Nat × Unit)))
    (fun _ => Pick.skip) (fun _ _ _ => True) where
  skip _ _ _ _ _ _ _ _ := rfl
  stop _ _ _ _ _ _ h _ := by cases h
  add _ _ _ _ _ _ h _ := by cases h
  pop _ _ _ _ _ _ _ := trivial
  push _ _ _ _ _ _ _ _ := trivial

theorem castConcatenationLen_spec (L : StoreLaws S) (fuel : Nat) {s : σ} {addr : Nat} {vl vr : Val F}
    (h : Decodes (S.view s) addr (.concat vl vr)) (hf : nodes vl + nodes vr + 1 ≤ fuel)
    (hb : (flatItems vl ++ flatItems vr).length ≤ 2147483647) :
    ∃ s', castConcatenationLen fo S fuel addr s = .ok ((flatItems vl ++ flatItems vr).length, s') ∧
      Eff S s s' (S.regs s) (S.vals s) := by
  obtain ⟨r, idx', acc', s', new, h1, e1, _, _, hidx⟩ :=
    iterateConcatenation_pick fo L (lenFn_refines (S := S)) fuel h hf hb () [] trivial
  refine ⟨s', ?_, e1⟩
  rw [castConcatenationLen, bind_ok h1, hidx (pickStops_skip _ 0)]; rfl

/-- the closure that adds every visited item to the list under construction -/
theorem addFn_refines (L : StoreLaws S)
    (hpush : ∀ x s u s', S.pushRegister x s = .ok (u, s') → S.building s' = S.building s) :
    PickRefines S (fun (listIndex : Nat) (_ : Number F) (addr : Nat) => (do
        let listIndex ← S.addToList listIndex addr
        pure (none, listIndex) : RM σ (Option Nat × Nat)))
      (fun _ => Pick.add) (fun acc built s => S.building s = some (acc, built)) where
  skip _ _ _ _ _ _ h _ := by cases h
  stop _ _ _ _ _ _ h _ := by cases h
  add s acc built k addr _ _ hq := by
    obtain ⟨t', s', h1, e1, b1⟩ := L.addToList acc built addr s hq
    exact ⟨t', s', by rw [bind_ok h1]; rfl, e1, b1⟩
  pop s acc built o s' hq h := (L.popRegisterBuilding s o s' h).trans hq
  push s acc built x u s' hq h := (hpush x s u s' h).trans hq

/-- the decision of the windowed closure of the slice arm -/
def winDec (start end_ : Number F) (k : Nat) : Pick :=
  if Model.Runtime.numLt fo (.int k) start then .skip
  else if Model.Runtime.numGt fo (.int k) end_ then .stop
  else .add

theorem winFn_refines (L : StoreLaws S)
    (hpush : ∀ x s u s', S.pushRegister x s = .ok (u, s') → S.building s' = S.building s) (start end_ : Number F) :
    PickRefines S (fun (listIndex : Nat) (currentIndex : Number F) (addr : Nat) => (do
        if Model.Runtime.numLt fo currentIndex start then pure (none, listIndex)
        else if Model.Runtime.numGt fo currentIndex end_ then pure (some addr, listIndex)
        else do
          let listIndex ← S.addToList listIndex addr
          pure (none, listIndex) : RM σ (Option Nat × Nat)))
      (winDec fo start end_) (fun acc built s => S.building s = some (acc, built)) where
  skip s acc built k addr _ hd _ := by
    unfold winDec at hd
    by_cases h1 : Model.Runtime.numLt fo (.int k) start = true
    · simp only [h1, if_true]; rfl
    · by_cases h2 : Model.Runtime.numGt fo (.int k) end_ = true
      · simp only [h1, h2, if_true] at hd; cases hd
      · simp only [h1, h2] at hd; cases hd
  stop s acc built k addr _ hd _ := by
    unfold winDec at hd
    by_cases h1 : Model.Runtime.numLt fo (.int k) start = true
    · simp only [h1, if_true] at hd; cases hd
    · by_cases h2 : Model.Runtime.numGt fo (.int k) end_ = true
      · simp only [h1, h2, if_true, if_false, Bool.false_eq_true]; rfl
      · simp only [h1, h2] at hd; cases hd
  add s acc built k addr _ hd hq := by
    unfold winDec at hd
    by_cases h1 : Model.Runtime.numLt fo (.int k) start = true
    · simp only [h1, if_true] at hd; cases hd
    · by_cases h2 : Model.Runtime.numGt fo (.int k) end_ = true
      · simp only [h1, h2, if_true] at hd; cases hd
      · obtain ⟨t', s', h1', e1, b1⟩ := L.addToList acc built addr s hq
        refine ⟨t', s', ?_, e1, b1⟩
        simp only [h1, h2, if_false, Bool.false_eq_true]
        rw [bind_ok h1']; rfl
  pop s acc built o s' hq h := (L.popRegisterBuilding s o s' h).trans hq
  push s acc built x u s' hq h := (hpush x s u s' h).trans hq

theorem pickItems_win (start end_ : Number F) : ∀ (xs : List (Val F)) (k : Nat),
    pickItems (winDec fo start end_) k xs = concatWindow fo start end_ xs k
  | [], k => rfl
  | x :: xs, k => by
    have ih := pickItems_win start end_ xs (k + 1)
    simp only [pickItems, concatWindow, winDec]
    have e1 : Model.Runtime.numLt fo (.int (k : Int)) start = Abs.numLt fo (.int (k : Int)) start := rfl
    have e2 : Model.Runtime.numGt fo (.int (k : Int)) end_ = Abs.numGt fo (.int (k : Int)) end_ := rfl
    rw [e1, e2]
    by_cases h1 : Abs.numLt fo (.int (k : Int)) start = true
    · simp only [h1, if_true]; exact ih
    · by_cases h2 : Abs.numGt fo (.int (k : Int)) end_ = true
      · simp only [h1, h2, if_true, if_false, Bool.false_eq_true]
      · simp only [h1, h2, if_false, Bool.false_eq_true]; rw [← ih]
end

section
variable {F σ : Type} {S : RStore F σ} {C : CastOps σ} {env : CastEnv F} (fo : FloatOps F)

/-- an integer extent `a ..= b` that lies inside a sequence of length `n` (possibly empty: `b < a`; the start is at most the length) -/
def SegOK (fuel n : Nat) (s e : Number F) : Prop :=
  ∃ a b : Int, s = .int a ∧ e = .int b ∧ 0 ≤ a ∧ a ≤ n ∧ -1 ≤ b ∧ b < n ∧ n < 2147483647 ∧
    (b + 1 - a).toNat + 1 ≤ fuel

/-- the slices the refinement covers -/
def SliceDomain (fuel : Nat) (x rng : Val F) : Prop :=
  ∀ s e len, rng = .range (.num s) (.num e) → Abs.rangeLen fo s e = some len →
    match x with
    | .list vs => SegOK fuel vs.length s e
    | .chars cs => SegOK fuel cs.length s e
    | .bytes bs => SegOK fuel bs.length s e
    | .concat a b => nodes a + nodes b + 1 ≤ fuel ∧ (flatItems a ++ flatItems b).length ≤ 2147483647
    | _ => True


theorem sliceToList_nonrange (st : StoreKind) (x : Val F) {rng : Val F} (h : rng.typeOf ≠ .range) :
    sliceToList fo st x rng = .err .data := by
  cases rng <;> first | rfl | (exfalso; exact h rfl)

theorem sliceToList_nonnum (st : StoreKind) (x : Val F) {a b : Val F}
    (hn : ¬ (a.typeOf = .number ∧ b.typeOf = .number)) : sliceToList fo st x (.range a b) = .err .state := by
  cases a <;> first | rfl | (cases b <;> first | rfl | exact absurd ⟨rfl, rfl⟩ hn)

theorem segOK_facts {fuel n : Nat} {s e len : Number F} (h : SegOK fuel n s e) (hlen : Abs.rangeLen fo s e = some len) :
    ∃ a b : Int, s = .int a ∧ e = .int b ∧ 0 ≤ a ∧ a ≤ n ∧ -1 ≤ b ∧ b < n ∧ n < 2147483647 ∧
      numToSize fo len = (b - a + 1).toNat ∧ a = (a.toNat : Int) ∧
      (b + 1 - ((a.toNat : Nat) : Int)).toNat = (b - a + 1).toNat ∧
      (b + 1 - ((a.toNat : Nat) : Int)).toNat + 1 ≤ fuel ∧ -2147483649 ≤ b ∧ b < 2147483647 := by
  obtain ⟨a, b, rfl, rfl, h0, hamax, hb, hbn, hn, hf⟩ := h
  have hl1 : InRange (b - a) := by unfold InRange; omega
  have hl2 : InRange (b - a + 1) := by unfold InRange; omega
  rw [rangeLen_int fo a b hl1 hl2] at hlen
  cases hlen
  exact ⟨a, b, rfl, rfl, h0, hamax, hb, hbn, hn, rfl, by omega, by omega, by omega, by omega, by omega⟩

theorem sliceToList_list (vs : List (Val F)) (a b : Int) (h0 : 0 ≤ a) (hb : -1 ≤ b) (hbn : b < vs.length)
    (hn : vs.length < 2147483647) (ha : a ≤ vs.length) :
    sliceToList fo .simple (.list vs) (.range (.num (.int a)) (.num (.int b))) =
      .val (.list ((vs.drop a.toNat).take (b - a + 1).toNat)) := by
  have hl1 : InRange (b - a) := by unfold InRange; omega
  have hl2 : InRange (b - a + 1) := by unfold InRange; omega
  have hcount := countLoop_int fo ((b - a + 1).toNat + 1) a b (by omega) (by omega) (Nat.le_succ _)
  have hget : ∀ j ∈ intsFrom a (b - a + 1).toNat,
      sliceListItem fo .simple vs (.int j) = .ok ((fun j : Int => vs[j.toNat]?.getD Val.unit) j) := by
    intro j hj
    have := mem_intsFrom _ _ _ hj
    have hj0 : ¬ j < 0 := by omega
    simp [sliceListItem, hj0]
  simp only [sliceToList, rangeLen_int fo a b hl1 hl2, numToSize,
    sliceLoop_simple_int fo false _ _ a b _ _ hcount hget]
  have hseg := intsFrom_map_segment vs (fun v => v) Val.unit (b - a + 1).toNat a.toNat (by omega)
  rw [show ((a.toNat : Nat) : Int) = a by omega] at hseg
  rw [hseg, List.map_id']

/-- a text / byte-list slice inside the sequence: its elements (`mk` = `.char` / `.byte`) -/
theorem sliceLoop_seq (mk : Nat → Val F) (xs : List Nat) (declared : Nat) (a b : Int) (h0 : 0 ≤ a)
    (hbn : b < xs.length) (hn : xs.length < 2147483647) (ha : a ≤ xs.length) :
    sliceLoop fo .simple true (b - a + 1).toNat declared (.int a) (.int (b + 1)) (sliceSeqItem fo .simple mk xs) =
      .val (.list (((xs.drop a.toNat).take (b - a + 1).toNat).map mk)) := by
  have hcount := countLoop_int_strict fo ((b - a + 1).toNat + 1) a (b + 1) (by omega) (by omega) (by omega)
  rw [show (b + 1 - a).toNat = (b - a + 1).toNat by omega] at hcount
  have hget : ∀ j ∈ intsFrom a (b - a + 1).toNat,
      sliceSeqItem fo .simple mk xs (.int j) = .ok ((fun j : Int => mk (xs[j.toNat]?.getD 0)) j) := by
    intro j hj
    have := mem_intsFrom _ _ _ hj
    have hj0 : ¬ j < 0 := by omega
    have hlt : j.toNat < xs.length := by omega
    simp [sliceSeqItem, hj0, List.getElem?_eq_getElem hlt]
  rw [sliceLoop_simple_int fo true _ _ a (b + 1) _ _ hcount hget]
  have hseg := intsFrom_map_segment xs mk 0 (b - a + 1).toNat a.toNat (by omega)
  rw [show ((a.toNat : Nat) : Int) = a by omega] at hseg
  rw [hseg]

theorem sliceToList_chars (cs : List Nat) (a b : Int) (h0 : 0 ≤ a) (hb : -1 ≤ b) (hbn : b < cs.length)
    (hn : cs.length < 2147483647) (ha : a ≤ cs.length) :
    sliceToList fo .simple (.chars cs) (.range (.num (.int a)) (.num (.int b))) =
      .val (.list (((cs.drop a.toNat).take (b - a + 1).toNat).map .char)) := by
  have hl1 : InRange (b - a) := by unfold InRange; omega
  have hl2 : InRange (b - a + 1) := by unfold InRange; omega
  simp only [sliceToList, rangeLen_int fo a b hl1 hl2, numToSize, cast_increment_int fo b (by omega) (by omega),
    sliceLoop_seq fo .char cs _ a b h0 hbn hn ha]

theorem sliceToList_bytes (bs : List Nat) (a b : Int) (h0 : 0 ≤ a) (hb : -1 ≤ b) (hbn : b < bs.length)
    (hn : bs.length < 2147483647) (ha : a ≤ bs.length) :
    sliceToList fo .simple (.bytes bs) (.range (.num (.int a)) (.num (.int b))) =
      .val (.list (((bs.drop a.toNat).take (b - a + 1).toNat).map .byte)) := by
  have hl1 : InRange (b - a) := by unfold InRange; omega
  have hl2 : InRange (b - a + 1) := by unfold InRange; omega
  simp only [sliceToList, rangeLen_int fo a b hl1 hl2, numToSize, cast_increment_int fo b (by omega) (by omega),
    sliceLoop_seq fo .byte bs _ a b h0 hbn hn ha]


theorem listLen_of (L : StoreLaws S) {s : σ} {a : Nat} {vs : List (Val F)} (h : Decodes (S.view s) a (.list vs)) :
    S.listLen s a = .ok vs.length := by
  obtain ⟨items, hli, hdl⟩ := listItems_of h
  rw [(L.listIdx s a items hli).1, EqualityRefine.decodesList_length hdl]

theorem castBody_sliceList (L : StoreLawsC S C env) (fuel : Nat) {s s0 : σ} {rest : List Nat} {l r : Nat}
    {x rng : Val F} (e0 : Eff S s s0 rest (S.vals s)) (hl : Decodes (S.view s0) l (.slice x rng))
    (hdom : SliceDomain fo fuel x rng) :
    RefinesCast S s ((castBody fo S C fuel l r .slice .list >>= fun _ => pure (none : Option Nat)) s0) none rest l r
      (sliceToList fo .simple x rng) := by
  have harm : castArm .slice .list = .sliceList := rfl
  cases hl with
  | @slice _ va ra _ _ _ hs dv dr =>
  unfold castBody
  rw [harm]
  simp only []
  rw [bind_ok2 (getSlice_of hs)]
  simp only []
  by_cases hr : rng.typeOf = .range
  · obtain ⟨a, b, rfl⟩ := typeOf_inv_range hr
    by_cases hn : a.typeOf = .number ∧ b.typeOf = .number
    · obtain ⟨sn, rfl⟩ := typeOf_number hn.1
      obtain ⟨en, rfl⟩ := typeOf_number hn.2
      cases hlen : Abs.rangeLen fo sn en with
      | none =>
        have hg : getRange fo S ra s0 = .err .number := by rw [getRange_num fo dr, hlen]
        simp only [sliceToList, hlen]
        exact bind_err (bind_err hg)
      | some len =>
        have hg : getRange fo S ra s0 = .ok ((sn, en, len), s0) := by rw [getRange_num fo dr, hlen]
        have hd := hdom sn en len rfl hlen
        rw [bind_ok2 hg]
        simp only []
        rw [bind_ok2 (getDataType_of dv)]
        -- by the type of the sliced value.  For a list, a text, a byte list `SegOK` puts the extent inside the sequence: the
        -- value side is the segment (`sliceToList_*`), the code side the building loop over the same indices
        cases x
        case list vs =>
          obtain ⟨a, b, rfl, rfl, h0, han, hb, hbn, hnn, _, haeq, hk, hf, hb1, hb2⟩ := segOK_facts fo hd hlen
          rw [sliceToList_list fo vs a b h0 hb hbn hnn han]
          simp only [Val.typeOf]
          rw [bind_ok2 (readR_ok (g := fun st => S.listLen st va) (listLen_of L.toStoreLaws dv))]
          have := buildTail (n := vs.length) L.toStoreLaws e0 (fun t s1 e1 hb1 =>
            sliceListLoop_spec fo L.toStoreLaws va vs (Nat.le_of_lt hnn) b hbn _ fuel a.toNat t [] s1 rfl hf
              (e1.dec dv) hb1)
          rw [hk, ← haeq] at this
          exact this
        case chars cs =>
          obtain ⟨a, b, rfl, rfl, h0, han, hb, hbn, hnn, _, haeq, hk, hf, hb1, hb2⟩ := segOK_facts fo hd hlen
          rw [sliceToList_chars fo cs a b h0 hb hbn hnn han]
          simp only [Val.typeOf]
          rw [cast_increment_int fo b hb1 hb2, bind_ok2 (orNumErr_some _ s0)]
          have := listFromSeq_full fo L.toStoreLaws L.charAdder fuel va (.chars cs) cs (Nat.le_of_lt hnn) e0 dv L.charIdx
            (fun _ => chars_of) a.toNat (b + 1) hbn hf
          rw [hk, ← haeq] at this
          exact this
        case bytes bs =>
          obtain ⟨a, b, rfl, rfl, h0, han, hb, hbn, hnn, _, haeq, hk, hf, hb1, hb2⟩ := segOK_facts fo hd hlen
          rw [sliceToList_bytes fo bs a b h0 hb hbn hnn han]
          simp only [Val.typeOf]
          rw [cast_increment_int fo b hb1 hb2, bind_ok2 (orNumErr_some _ s0)]
          have := listFromSeq_full fo L.toStoreLaws L.byteAdder fuel va (.bytes bs) bs (Nat.le_of_lt hnn) e0 dv L.byteIdx
            (fun _ => bytes_of) a.toNat (b + 1) hbn hf
          rw [hk, ← haeq] at this
          exact this
        -- a concatenation: any number extent; the windowed closure picks what `concatWindow` keeps of the flat items
        case concat ca cb =>
          obtain ⟨hfu, hmx⟩ := hd
          have hval : sliceToList fo .simple (.concat ca cb) (.range (.num sn) (.num en)) =
              .val (.list (concatWindow fo sn en (flatItems ca ++ flatItems cb) 0)) := by
            simp only [sliceToList, hlen, buildList]
          rw [hval]
          simp only [Val.typeOf]
          rw [numberToSize_some, bind_ok2 (orNumErr_some _ s0)]
          obtain ⟨t0, s1, h1, e1, b1⟩ := L.startList (numToSize fo len) s0
          obtain ⟨rr, idx', acc', s2, new, h2, e2, q2, d2, _⟩ :=
            iterateConcatenation_pick fo L.toStoreLaws (winFn_refines fo L.toStoreLaws L.buildPushRegister sn en) fuel
              (e1.dec dv) hfu hmx t0 [] b1
          rw [pickItems_win] at d2
          rw [e1.regs, e1.vals, e0.regs, e0.vals] at e2
          rw [bind_ok2 h1, bind_ok2 h2]
          exact castPush L.toStoreLaws (e0.trans (e1.trans e2)) (L.endList acc' new _ s2 (by simpa using q2) d2)
        all_goals
          simp only [sliceToList, hlen, Val.typeOf]
          exact castPushUnit L.toStoreLaws e0
    · rw [sliceToList_nonnum fo _ _ hn]
      exact bind_err (bind_err (getRange_nonnum fo dr hn))
  · rw [sliceToList_nonrange fo _ _ hr]
    exact bind_err (bind_err (getRange_nonrange fo L.rangeTyped dr hr))
/-- the operands for which `type_cast` is proved to refine `castOp`.
* The list-construction contract of `StoreLaws` (`start_list` / `add_to_list` / `end_list`) does not check the
  announced length — that is SimpleGarnishData's behaviour; BasicGarnishData's strict protocol is outside `StoreLaws`.
  Where the number of items can differ from the announced length (range → list with float ends, slice → list) the
  value-level model is therefore taken at `store = simple`.
* loops need fuel for their rounds; `size_to_number` is exact below i32::MAX;
* slices of lists / texts / byte lists: integer extents inside the sliced sequence (`SliceDomain`; outside, the two data
  implementations differ and the trait promises nothing);
* concatenations (as the source, or sliced): fuel for the register work-list (one round per node) and at most i32::MAX
  items (the running index is a `Data::Number`). -/
def CastDomain (env : CastEnv F) (fuel : Nat) (vl vr : Val F) : Prop :=
  match castArm vl.typeOf (castTarget vr) with
  | .rangeList => env.store = .simple ∧
      ∀ x y len, vl = .range (.num x) (.num y) → Abs.rangeLen fo x y = some len → numToSize fo len + 1 ≤ fuel
  | .charListList => ∀ cs, vl = .chars cs → cs.length ≤ 2147483647 ∧ cs.length + 1 ≤ fuel
  | .byteListList => ∀ bs, vl = .bytes bs → bs.length ≤ 2147483647 ∧ bs.length + 1 ≤ fuel
  | .sliceList => env.store = .simple ∧ ∀ x rng, vl = .slice x rng → SliceDomain fo fuel x rng
  | .concatenationList => ∀ a b, vl = .concat a b →
      nodes a + nodes b + 1 ≤ fuel ∧ (flatItems a ++ flatItems b).length ≤ 2147483647
  | _ => True

theorem castCore_number (env : CastEnv F) (cs : List Nat) (vr : Val F) :
    castCore fo env (.chars cs) vr .number = .val (numberOut cs) := by
  simp only [castCore, numberOut]; cases parseI32 cs <;> rfl

theorem castCore_charListChar (env : CastEnv F) (cs : List Nat) (vr : Val F) :
    castCore fo env (.chars cs) vr .char = .val (oneChar cs) := by
  cases cs with
  | nil => rfl
  | cons c cs => cases cs <;> rfl

/-- `(Concatenation, List)`: `concatenation_len`, `start_list`, one `add_to_list` per visited item, `end_list` -/
theorem castBody_concatenationList (L : StoreLawsC S C env) (fuel : Nat) {s s0 : σ} {rest : List Nat} {l r : Nat}
    {ca cb : Val F} (e0 : Eff S s s0 rest (S.vals s)) (hl : Decodes (S.view s0) l (.concat ca cb))
    (hfu : nodes ca + nodes cb + 1 ≤ fuel) (hmx : (flatItems ca ++ flatItems cb).length ≤ 2147483647) :
    Pushed S s ((castBody fo S C fuel l r .concatenation .list >>= fun _ => pure (none : Option Nat)) s0) none rest
      (.list (flatItems ca ++ flatItems cb)) := by
  have harm : castArm .concatenation .list = .concatenationList := rfl
  unfold castBody
  rw [harm]
  simp only []
  obtain ⟨s1, h1, e1⟩ := castConcatenationLen_spec fo L.toStoreLaws fuel hl hfu hmx
  obtain ⟨t0, s2, h2, e2, b2⟩ := L.startList (flatItems ca ++ flatItems cb).length s1
  rw [e1.regs, e1.vals] at e2
  obtain ⟨rr, idx', acc', s3, new, h3, e3, q3, d3, _⟩ :=
    iterateConcatenation_pick fo L.toStoreLaws (addFn_refines L.toStoreLaws L.buildPushRegister) fuel
      ((e1.trans e2).dec hl) hfu hmx t0 [] b2
  rw [pickItems_add] at d3
  rw [e2.regs, e2.vals, e0.regs, e0.vals] at e3
  rw [bind_ok2 h1, bind_ok2 h2, bind_ok2 h3]
  exact castPush L.toStoreLaws (e0.trans ((e1.trans e2).trans e3)) (L.endList acc' new _ s3 (by simpa using q3) d3)

theorem typeCast_refines (L : StoreLawsC S C env) (fuel : Nat) {s : σ} {r l : Nat} {vr vl : Val F}
    {rest : List Nat} (hregs : S.regs s = r :: l :: rest) (hl : Decodes (S.view s) l vl)
    (hr : Decodes (S.view s) r vr) (hdom : CastDomain fo env fuel vl vr) :
    RefinesCast S s (typeCast fo S C fuel s) none rest l r (castOp fo env vl vr) := by
  obtain ⟨s0, e0, hl0, hr0, heq⟩ := typeCast_prefix fo L.toStoreLaws C fuel hregs hl hr
  rw [heq]
  by_cases hty : vl.typeOf = castTarget vr
  · rw [castOp, if_pos hty, castBody, castArm_of_eq hty]
    exact castPushLeft L.toStoreLaws e0 hl0
  · rw [castOp_of_ne fo env hty]
    -- both sides go by one table: the code dispatches on `castArm`, and `castArm_case` (Lemmas/Casts.lean) says what `castCore`
    -- is on each arm
    have hc := castArm_case fo env vl vr (castTarget vr)
    unfold CastDomain at hdom
    cases harm : castArm vl.typeOf (castTarget vr) <;> rw [harm] at hc hdom
    case noop => exact absurd hc hty
    case falseOut =>
      rw [hc, castBody, harm]
      exact castPush L.toStoreLaws e0 (L.addFalse s0)
    case trueOut =>
      rw [hc, castBody, harm]
      exact castPush L.toStoreLaws e0 (L.addTrue s0)
    case unitOut =>
      rw [hc, castBody, harm]
      exact castPushUnit L.toStoreLaws e0
    case deferOp =>
      rw [hc, castBody, harm]
      exact ⟨s0, e0, deferOrUnit_spec L.toStoreLaws s0 _ _ _ none⟩
    case toCharList =>
      rw [hc, castBody, harm]
      exact castConv L.toStoreLaws e0 (L.addCharListFrom s0 l vl hl0)
    case toByteList =>
      rw [hc, castBody, harm]
      exact castConv L.toStoreLaws e0 (L.addByteListFrom s0 l vl hl0)
    case toSymbol =>
      rw [hc, castBody, harm]
      exact castConv L.toStoreLaws e0 (L.addSymbolFrom s0 l vl hl0)
    case charListNumber =>
      obtain ⟨hrt, cs, rfl⟩ := hc
      rw [hrt] at harm ⊢; rw [castCore_number]; unfold castBody; rw [harm]
      exact castPush L.toStoreLaws e0 (L.addNumberFrom s0 l cs hl0)
    case numberChar =>
      obtain ⟨hrt, n, rfl⟩ := hc
      rw [hrt] at harm ⊢; unfold castBody; rw [harm]
      cases n with
      | int v => exact primitiveCast_some L.toStoreLaws e0 (getNumber_of hl0) rfl (L.addChar _ s0)
      | float f => exact primitiveCast_none L.toStoreLaws e0 (getNumber_of hl0) rfl
    case numberByte =>
      obtain ⟨hrt, n, rfl⟩ := hc
      rw [hrt] at harm ⊢; unfold castBody; rw [harm]
      cases n with
      | int v =>
        by_cases hv : 0 ≤ v ∧ v ≤ 255
        · have hcast : numberToByte (F := F) (.int v) = some v.toNat := by simp [numberToByte, hv]
          have hcore : castCore fo env (.num (.int v)) vr .byte = .val (.byte v.toNat) := by simp [castCore, hv]
          rw [hcore]
          exact primitiveCast_some L.toStoreLaws e0 (getNumber_of hl0) hcast (L.addByte _ s0)
        · have hcast : numberToByte (F := F) (.int v) = none := by simp [numberToByte, hv]
          have hcore : castCore fo env (.num (.int v)) vr .byte = .val .unit := by simp [castCore, hv]
          rw [hcore]
          exact primitiveCast_none L.toStoreLaws e0 (getNumber_of hl0) hcast
      | float f => exact primitiveCast_none L.toStoreLaws e0 (getNumber_of hl0) rfl
    case charNumber =>
      obtain ⟨hrt, c, rfl⟩ := hc
      rw [hrt] at harm ⊢; unfold castBody; rw [harm]
      exact primitiveCast_some L.toStoreLaws e0 (getChar_of hl0) rfl (L.addNumber _ s0)
    case charByte =>
      obtain ⟨hrt, c, rfl⟩ := hc
      rw [hrt] at harm ⊢; unfold castBody; rw [harm]
      exact primitiveCast_some L.toStoreLaws e0 (getChar_of hl0) rfl (L.addByte _ s0)
    case byteNumber =>
      obtain ⟨hrt, b, rfl⟩ := hc
      rw [hrt] at harm ⊢; unfold castBody; rw [harm]
      exact primitiveCast_some L.toStoreLaws e0 (getByte_of hl0) rfl (L.addNumber _ s0)
    case byteChar =>
      obtain ⟨hrt, b, rfl⟩ := hc
      rw [hrt] at harm ⊢; unfold castBody; rw [harm]
      exact primitiveCast_some L.toStoreLaws e0 (getByte_of hl0) rfl (L.addChar _ s0)
    case charListChar =>
      obtain ⟨hrt, cs, rfl⟩ := hc
      rw [hrt, castCore_charListChar]
      exact castBody_charListChar fo L fuel e0 hl0
    case symbolListList =>
      obtain ⟨hrt, ps, rfl⟩ := hc
      rw [hrt]
      have hcore : castCore fo env (.symList ps) vr .list = .val (.list (ps.map symPartVal)) := by
        simp only [castCore]; rw [← List.length_map (f := symPartVal)]; exact buildList_exact _ _
      rw [hcore]
      exact castBody_symbolListList fo L fuel e0 hl0
    case rangeList =>
      obtain ⟨hrt, a, b, rfl⟩ := hc
      obtain ⟨hst, hfuel⟩ := hdom
      rw [hrt]
      have hcore : castCore fo env (.range a b) vr .list = rangeToList fo .simple a b := by
        simp only [castCore, hst]
      rw [hcore]
      exact castBody_rangeList fo L fuel e0 hl0 (fun x y len ha hb hlen => hfuel x y len (by rw [ha, hb]) hlen)
    case charListList =>
      obtain ⟨hrt, cs, rfl⟩ := hc
      obtain ⟨hmax, hfuel⟩ := hdom cs rfl
      rw [hrt]
      have hcore : castCore fo env (.chars cs) vr .list = .val (.list (cs.map .char)) := by
        simp only [castCore]; rw [← List.length_map (f := Val.char)]; exact buildList_exact _ _
      rw [hcore]
      exact castBody_charListList fo L fuel e0 hl0 hmax hfuel
    case byteListList =>
      obtain ⟨hrt, bs, rfl⟩ := hc
      obtain ⟨hmax, hfuel⟩ := hdom bs rfl
      rw [hrt]
      have hcore : castCore fo env (.bytes bs) vr .list = .val (.list (bs.map .byte)) := by
        simp only [castCore]; rw [← List.length_map (f := Val.byte)]; exact buildList_exact _ _
      rw [hcore]
      exact castBody_byteListList fo L fuel e0 hl0 hmax hfuel
    case concatenationList =>
      obtain ⟨hrt, ca, cb, rfl⟩ := hc
      obtain ⟨hfu, hmx⟩ := hdom ca cb rfl
      rw [hrt]
      have hcore : castCore fo env (.concat ca cb) vr .list = .val (.list (flatItems ca ++ flatItems cb)) := by
        simp only [castCore]; exact buildList_exact _ _
      rw [hcore]
      exact castBody_concatenationList fo L fuel e0 hl0 hfu hmx
    case sliceList =>
      obtain ⟨hrt, x, rng, rfl⟩ := hc
      obtain ⟨hst, hsd⟩ := hdom
      rw [hrt]
      have hcore : castCore fo env (.slice x rng) vr .list = sliceToList fo .simple x rng := by
        simp only [castCore, hst]
      rw [hcore]
      exact castBody_sliceList fo L fuel e0 hl0 (hsd x rng rfl)
end

end Garnish.Lemmas.Runtime
