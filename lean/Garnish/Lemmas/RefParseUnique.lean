/-
Uniqueness: the precedence condition `PrecOK` determines the tree (atoms, closed brackets as atoms, binary operators).
-/
import Garnish.Lemmas.RefParse

namespace Garnish.Spec
open Garnish Garnish.Gen Garnish.Model.Parser

theorem stops_false_le {q pa : Nat} {rtl : Bool} (h : stops q rtl pa = false) : pa ≤ q := by
  simp only [stops, Bool.or_eq_false_iff, decide_eq_false_iff_not] at h
  omega

theorem stops_true_le {q pa : Nat} {rtl : Bool} (h : stops q rtl pa = true) : q ≤ pa := by
  simp only [stops, Bool.or_eq_true, decide_eq_true_eq, Bool.and_eq_true, beq_iff_eq] at h
  omega

theorem stops_self {q : Nat} {rtl : Bool} : stops q rtl q = rtl := by
  simp [stops]

theorem items_leaf {l r : RTree} (d : Definition) (k : Nat) (h : (l.isNil && r.isNil) = true) :
    items (.node l d k r) = [.atom (.node l d k r)] := by
  simp [items, h]

theorem items_op {l r : RTree} (d : Definition) (k : Nat) (h : (l.isNil && r.isNil) = false) :
    items (.node l d k r) = items l ++ .op d k :: items r := by
  simp [items, h]

/-- every operator of `t` has a priority ≤ `n` -/
def OpsLe (tbl : Table) (t : RTree) (n : Nat) : Prop :=
  ∀ d k, Item.op d k ∈ items t → ∃ p, tbl.prio d = some p ∧ p ≤ n

theorem binFrag_not_nil {t : RTree} (h : binFrag t = true) : t.isNil = false := by
  cases t <;> simp_all [binFrag, RTree.isNil]

/-- in a `PrecOK` tree of the fragment priorities do not increase downwards -/
theorem opsLe_of_top (tbl : Table) (rtlf : Definition → Bool) :
    ∀ t : RTree, binFrag t = true → allPrio tbl t = true → PrecOK tbl rtlf t → ∀ n,
      (∀ l d k r p, t = .node l d k r → (l.isNil && r.isNil) = false → tbl.prio d = some p → p ≤ n) → OpsLe tbl t n := by
  intro t
  induction t with
  | nil => intro _ _ _ n _ d k hm; simp [items] at hm
  | group gd gk inner _ => intro _ _ _ n _ d k hm; simp [items] at hm
  | node l d k r ihl ihr =>
    intro hb ha hok n htop d' k' hm
    cases hleaf : (l.isNil && r.isNil) with
    | true => rw [items_leaf d k hleaf] at hm; simp at hm
    | false =>
      rw [items_op d k hleaf] at hm
      simp only [binFrag, hleaf, Bool.false_or, Bool.and_eq_true] at hb
      simp only [allPrio, Bool.and_eq_true] at ha
      obtain ⟨⟨hpd, hal⟩, har⟩ := ha
      obtain ⟨p, hp⟩ := Option.isSome_iff_exists.mp hpd
      have hpn : p ≤ n := htop l d k r p rfl hleaf hp
      cases hok with
      | node _ _ _ _ hl hr hL hR =>
        have hopl : OpsLe tbl l p := by
          apply ihl hb.1 hal hl p
          intro ll dl kl rl pl hl' _ hpl
          subst hl'
          have : pl ∈ spinePrios tbl (.node ll dl kl rl) := by simp [spinePrios, hpl]
          exact stops_false_le (hL p hp pl this)
        have hopr : OpsLe tbl r p := by
          apply ihr hb.2 har hr p
          intro lc dc kc rc pc hr' hnl hpc
          subst hr'
          have hbr := hb.2
          simp only [binFrag, hnl, Bool.false_or, Bool.and_eq_true] at hbr
          exact stops_true_le (hR lc dc kc rc pc p rfl (binFrag_not_nil hbr.1) hpc hp)
        simp only [List.mem_append, List.mem_cons] at hm
        rcases hm with hm | hm | hm
        · obtain ⟨p', hp', hle⟩ := hopl d' k' hm; exact ⟨p', hp', Nat.le_trans hle hpn⟩
        · injection hm with h1 h2; subst h1; exact ⟨p, hp, hpn⟩
        · obtain ⟨p', hp', hle⟩ := hopr d' k' hm; exact ⟨p', hp', Nat.le_trans hle hpn⟩

theorem node_facts (tbl : Table) (rtlf : Definition → Bool) (hc : Consistent tbl rtlf) (l : RTree) (d : Definition) (k : Nat)
    (r : RTree) (hleaf : (l.isNil && r.isNil) = false) (hb : binFrag (.node l d k r) = true)
    (ha : allPrio tbl (.node l d k r) = true) (hok : PrecOK tbl rtlf (.node l d k r)) :
    ∃ p, tbl.prio d = some p ∧ OpsLe tbl l p ∧ OpsLe tbl r p ∧
      (∀ d' k', Item.op d' k' ∈ items r → tbl.prio d' = some p → rtlf d' = true) ∧
      (∀ d' k', Item.op d' k' ∈ items l → tbl.prio d' = some p → rtlf d = false) := by
  have hb' := hb
  simp only [binFrag, hleaf, Bool.false_or, Bool.and_eq_true] at hb'
  have ha' := ha
  simp only [allPrio, Bool.and_eq_true] at ha'
  obtain ⟨⟨hpd, hal⟩, har⟩ := ha'
  obtain ⟨p, hp⟩ := Option.isSome_iff_exists.mp hpd
  have hall : OpsLe tbl (.node l d k r) p :=
    opsLe_of_top tbl rtlf _ hb ha hok p (by
      intro l' d' k' r' p' he _ hp'
      injection he with h1 h2 h3 h4
      subst h2
      rw [hp] at hp'; injection hp' with hp'; omega)
  have hopl : OpsLe tbl l p := by
    intro d' k' hm; exact hall d' k' (by rw [items_op d k hleaf]; simp [hm])
  have hopr : OpsLe tbl r p := by
    intro d' k' hm; exact hall d' k' (by rw [items_op d k hleaf]; simp [hm])
  cases hok with
  | node _ _ _ _ hl hr hL hR =>
    refine ⟨p, hp, hopl, hopr, ?_, ?_⟩
    · intro d' k' hm hp'
      cases r with
      | nil => simp [items] at hm
      | group gd gk inner => simp [items] at hm
      | node lc dc kc rc =>
        cases hlr : (lc.isNil && rc.isNil) with
        | true => rw [items_leaf dc kc hlr] at hm; simp at hm
        | false =>
          have hbr := hb'.2
          have hbr' := hbr
          simp only [binFrag, hlr, Bool.false_or, Bool.and_eq_true] at hbr'
          have har' := har
          simp only [allPrio, Bool.and_eq_true] at har'
          obtain ⟨pc, hpc⟩ := Option.isSome_iff_exists.mp har'.1.1
          have hstop := hR lc dc kc rc pc p rfl (binFrag_not_nil hbr'.1) hpc hp
          have h1 : pc ≤ p := stops_true_le hstop
          have hrall : OpsLe tbl (.node lc dc kc rc) pc :=
            opsLe_of_top tbl rtlf _ hbr har hr pc (by
              intro l' d'' k'' r' p'' he _ hp''
              injection he with e1 e2 e3 e4
              subst e2
              rw [hpc] at hp''; injection hp'' with hp''; omega)
          obtain ⟨p2, hp2, hle2⟩ := hrall d' k' hm
          rw [hp'] at hp2; injection hp2 with hp2; subst hp2
          have hpcp : pc = p := by omega
          subst hpcp
          rw [stops_self] at hstop
          rw [hc d' dc pc hp' hpc]; exact hstop
    · intro d' k' hm hp'
      cases l with
      | nil => simp [items] at hm
      | group gd gk inner => simp [items] at hm
      | node ll dl kl rl =>
        cases hll : (ll.isNil && rl.isNil) with
        | true => rw [items_leaf dl kl hll] at hm; simp at hm
        | false =>
          have hal' := hal
          simp only [allPrio, Bool.and_eq_true] at hal'
          obtain ⟨pl, hpl⟩ := Option.isSome_iff_exists.mp hal'.1.1
          have hmem : pl ∈ spinePrios tbl (.node ll dl kl rl) := by simp [spinePrios, hpl]
          have hns := hL p hp pl hmem
          have h1 : pl ≤ p := stops_false_le hns
          have hlall : OpsLe tbl (.node ll dl kl rl) pl :=
            opsLe_of_top tbl rtlf _ hb'.1 hal hl pl (by
              intro l' d'' k'' r' p'' he _ hp''
              injection he with e1 e2 e3 e4
              subst e2
              rw [hpl] at hp''; injection hp'' with hp''; omega)
          obtain ⟨p2, hp2, hle2⟩ := hlall d' k' hm
          rw [hp'] at hp2; injection hp2 with hp2; subst hp2
          have hplp : pl = p := by omega
          subst hplp
          rw [stops_self] at hns
          exact hns

theorem op_mem_items_isOp {t : RTree} {d : Definition} {k : Nat} (h : Item.op d k ∈ items t) :
    ∃ l d' k' r, t = .node l d' k' r ∧ (l.isNil && r.isNil) = false := by
  cases t with
  | nil => simp [items] at h
  | group gd gk inner => simp [items] at h
  | node l d' k' r =>
    cases hl : (l.isNil && r.isNil) with
    | true => rw [items_leaf d' k' hl] at h; simp at h
    | false => exact ⟨l, d', k', r, rfl, hl⟩

/-- **the precedence condition determines the tree**: two trees of the fragment (atoms, closed brackets as atoms, binary
    operators that all have a priority) with the same in-order item sequence that both satisfy `PrecOK` are equal,
    for any table in which operators of equal priority group the same way -/
theorem precOK_unique (tbl : Table) (rtlf : Definition → Bool) (hc : Consistent tbl rtlf) :
    ∀ (t1 t2 : RTree), binFrag t1 = true → binFrag t2 = true → allPrio tbl t1 = true → allPrio tbl t2 = true →
      PrecOK tbl rtlf t1 → PrecOK tbl rtlf t2 → items t1 = items t2 → t1 = t2 := by
  intro t1
  induction t1 with
  | nil => intro t2 hb1; simp [binFrag] at hb1
  | group gd gk inner _ =>
    intro t2 _ hb2 _ _ _ _ hi
    cases t2 with
    | nil => simp [binFrag] at hb2
    | group gd2 gk2 inner2 =>
      simp only [items, List.cons.injEq, and_true] at hi
      injection hi
    | node l2 d2 k2 r2 =>
      cases hl : (l2.isNil && r2.isNil) with
      | true => rw [items_leaf d2 k2 hl] at hi; simp [items] at hi
      | false =>
        have : Item.op d2 k2 ∈ items (RTree.group gd gk inner) := by rw [hi, items_op d2 k2 hl]; simp
        simp [items] at this
  | node l1 d1 k1 r1 ihl ihr =>
    intro t2 hb1 hb2 ha1 ha2 hok1 hok2 hi
    cases hl1 : (l1.isNil && r1.isNil) with
    | true =>
      rw [items_leaf d1 k1 hl1] at hi
      cases t2 with
      | nil => simp [binFrag] at hb2
      | group gd2 gk2 inner2 => simp [items] at hi
      | node l2 d2 k2 r2 =>
        cases hl2 : (l2.isNil && r2.isNil) with
        | true =>
          rw [items_leaf d2 k2 hl2] at hi
          simp only [List.cons.injEq, and_true] at hi
          injection hi
        | false =>
          have : Item.op d2 k2 ∈ [Item.atom (RTree.node l1 d1 k1 r1)] := by rw [hi, items_op d2 k2 hl2]; simp
          simp at this
    | false =>
      have hmem1 : Item.op d1 k1 ∈ items t2 := by rw [← hi, items_op d1 k1 hl1]; simp
      obtain ⟨l2, d2, k2, r2, ht2, hl2⟩ := op_mem_items_isOp hmem1
      subst ht2
      rw [items_op d1 k1 hl1, items_op d2 k2 hl2] at hi
      obtain ⟨p1, hp1, hopl1, hopr1, hR1, hL1⟩ := node_facts tbl rtlf hc l1 d1 k1 r1 hl1 hb1 ha1 hok1
      obtain ⟨p2, hp2, hopl2, hopr2, hR2, hL2⟩ := node_facts tbl rtlf hc l2 d2 k2 r2 hl2 hb2 ha2 hok2
      have hb1' := hb1
      simp only [binFrag, hl1, Bool.false_or, Bool.and_eq_true] at hb1'
      have hb2' := hb2
      simp only [binFrag, hl2, Bool.false_or, Bool.and_eq_true] at hb2'
      have ha1' := ha1
      simp only [allPrio, Bool.and_eq_true] at ha1'
      have ha2' := ha2
      simp only [allPrio, Bool.and_eq_true] at ha2'
      rcases List.append_eq_append_iff.mp hi with ⟨m, hm1, hm2⟩ | ⟨m, hm1, hm2⟩
      · -- items l2 = items l1 ++ m,  op1 :: items r1 = m ++ op2 :: items r2
        cases m with
        | nil =>
          simp only [List.append_nil, List.nil_append, List.cons.injEq] at hm1 hm2
          obtain ⟨hop, hr⟩ := hm2
          injection hop with e1 e2
          subst e1; subst e2
          cases hok1 with
          | node _ _ _ _ hl1' hr1' _ _ =>
            cases hok2 with
            | node _ _ _ _ hl2' hr2' _ _ =>
              rw [ihl l2 hb1'.1 hb2'.1 ha1'.1.2 ha2'.1.2 hl1' hl2' hm1.symm,
                  ihr r2 hb1'.2 hb2'.2 ha1'.2 ha2'.2 hr1' hr2' hr]
        | cons x m' =>
          simp only [List.cons_append, List.cons.injEq] at hm2
          obtain ⟨hx, hr⟩ := hm2
          subst hx
          have h2in : Item.op d2 k2 ∈ items r1 := by rw [hr]; simp
          have h1in : Item.op d1 k1 ∈ items l2 := by rw [hm1]; simp
          obtain ⟨q2, hq2, hle2⟩ := hopr1 d2 k2 h2in
          obtain ⟨q1, hq1, hle1⟩ := hopl2 d1 k1 h1in
          rw [hp2] at hq2; injection hq2 with hq2; subst hq2
          rw [hp1] at hq1; injection hq1 with hq1; subst hq1
          have : p1 = p2 := by omega
          subst this
          have t := hR1 d2 k2 h2in hp2
          have f := hL2 d1 k1 h1in hp1
          rw [t] at f; cases f
      · -- items l1 = items l2 ++ m,  op2 :: items r2 = m ++ op1 :: items r1
        cases m with
        | nil =>
          simp only [List.append_nil, List.nil_append, List.cons.injEq] at hm1 hm2
          obtain ⟨hop, hr⟩ := hm2
          injection hop with e1 e2
          subst e1; subst e2
          cases hok1 with
          | node _ _ _ _ hl1' hr1' _ _ =>
            cases hok2 with
            | node _ _ _ _ hl2' hr2' _ _ =>
              rw [ihl l2 hb1'.1 hb2'.1 ha1'.1.2 ha2'.1.2 hl1' hl2' hm1,
                  ihr r2 hb1'.2 hb2'.2 ha1'.2 ha2'.2 hr1' hr2' hr.symm]
        | cons x m' =>
          simp only [List.cons_append, List.cons.injEq] at hm2
          obtain ⟨hx, hr⟩ := hm2
          subst hx
          have h1in : Item.op d1 k1 ∈ items r2 := by rw [hr]; simp
          have h2in : Item.op d2 k2 ∈ items l1 := by rw [hm1]; simp
          obtain ⟨q1, hq1, hle1⟩ := hopr2 d1 k1 h1in
          obtain ⟨q2, hq2, hle2⟩ := hopl1 d2 k2 h2in
          rw [hp1] at hq1; injection hq1 with hq1; subst hq1
          rw [hp2] at hq2; injection hq2 with hq2; subst hq2
          have : p1 = p2 := by omega
          subst this
          have t := hR2 d1 k1 h1in hp1
          have f := hL1 d2 k2 h2in hp2
          rw [t] at f; cases f

end Garnish.Spec
