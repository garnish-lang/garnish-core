/-
Classes of values the machine does not leave. `Closed fo p ok` says that the operations behind the instructions `ok` produce values
in `p` from operands in `p`; then one step of a program made of such instructions keeps every value of the state in `p` (`step_in`).
The hereditary classes of Lemmas/Her.lean (among them "no `custom`", Lemmas/NoCustom.lean) and the scalars of Lemmas/Scalar.lean are
the instances.
-/
import Garnish.Lemmas.MachineExec
namespace Garnish.Lemmas.ValClass
open Garnish Gen Garnish.Abs

variable {F : Type} {fo : FloatOps F} {host : Host F} {P : Prog F} {p : Val F → Prop} {ok : Instruction → Prop}

def OutIn (p : Val F → Prop) : OpOut F → Prop
  | .val v => p v
  | _ => True

/-- what `applyKind` hands on is in the class -/
def KindIn (p : Val F → Prop) : ApplyKind F → Prop
  | .enter _ input => p input
  | .external _ arg => p arg
  | .out o => OutIn p o

/-- the class `p` is closed under what the instructions `ok` compute -/
structure Closed (fo : FloatOps F) (p : Val F → Prop) (ok : Instruction → Prop) : Prop where
  unit : p .unit
  tru : p .tru
  fls : p .fls
  unary : ∀ {op v o}, ok op → p v → unaryOp fo op v = some o → OutIn p o
  binary : ∀ {op l r o}, ok op → p l → p r → binaryOp fo op l r = some o → OutIn p o
  kind : ∀ instr ur {l r}, p l → p r → KindIn p (applyKind fo instr ur l r)
  pair : ok .makePair → ∀ {l r}, p l → p r → p (.pair l r)
  list : ok .makeList → ∀ {xs}, (∀ x ∈ xs, p x) → p (.list xs)
  lookup : ok .resolve → ∀ {key cur x}, p cur → getAccess fo key cur = .some x → p x

structure HostIn (p : Val F → Prop) (host : Host F) : Prop where
  defer : ∀ op l r v, host.defer op l r = some v → p v
  resolve : ∀ y v, host.resolve y = some v → p v
  apply : ∀ n a v, host.apply n a = some v → p v

structure StateIn (p : Val F → Prop) (m : MState F) : Prop where
  regs : ∀ v ∈ m.regs, p v
  vals : ∀ v ∈ m.vals, p v
  frames : ∀ fr ∈ m.frames, ∀ v ∈ fr.saved, p v

def StepTo (r : StepRes F) (s' : MState F) : Prop := r = .running s' ∨ r = .halted s'

theorem in_cons {x : Val F} {xs : List (Val F)} (hx : p x) (hxs : ∀ v ∈ xs, p v) : ∀ v ∈ x :: xs, p v :=
  List.forall_mem_cons.2 ⟨hx, hxs⟩

theorem in_head {x : Val F} {xs ys : List (Val F)} (h : ∀ v ∈ ys, p v) (he : ys = x :: xs) : p x ∧ ∀ v ∈ xs, p v :=
  List.forall_mem_cons.1 (he ▸ h)

theorem finish_in {s1 s' : MState F} {n : Nat} (h1 : StateIn p s1) (h : StepTo (finish P (.ok (s1, n))) s') :
    StateIn p s' := by
  unfold finish at h
  simp only [] at h
  split at h <;> rcases h with h | h <;> cases h <;> exact ⟨h1.regs, h1.vals, h1.frames⟩

theorem pushOut_in (C : Closed fo p ok) (HN : HostIn p host) {s s' : MState F} {o : OpOut F} (hs : StateIn p s)
    (ho : OutIn p o) (h : pushOut host s o = .ok s') : StateIn p s' := by
  cases o with
  | val v => cases h; exact ⟨in_cons ho hs.regs, hs.vals, hs.frames⟩
  | defer op l r =>
    simp only [pushOut] at h
    cases hd : host.defer op l r with
    | some v => rw [hd] at h; cases h; exact ⟨in_cons (HN.defer op l r v hd) hs.regs, hs.vals, hs.frames⟩
    | none => rw [hd] at h; cases h; exact ⟨in_cons C.unit hs.regs, hs.vals, hs.frames⟩
  | err e => cases h

theorem resolveStep_in (C : Closed fo p ok) (hok : ok .resolve) (HN : HostIn p host) {s s' : MState F} {key : Val F}
    (hs : StateIn p s) (h : resolveStep fo host s key = .ok s') : StateIn p s' := by
  unfold resolveStep at h
  simp only [] at h
  split at h
  · cases h
  · rename_i v hv
    cases h
    refine ⟨in_cons ?_ hs.regs, hs.vals, hs.frames⟩
    split at hv
    · cases hv
    · rename_i cur rest hvals
      split at hv
      · rename_i x hx; cases hv; exact C.lookup hok (in_head hs.vals hvals).1 hx
      all_goals cases hv
  · split at h
    · split at h
      · rename_i v hv; cases h; exact ⟨in_cons (HN.resolve _ v hv) hs.regs, hs.vals, hs.frames⟩
      · cases h; exact ⟨in_cons C.unit hs.regs, hs.vals, hs.frames⟩
    · cases h; exact ⟨in_cons C.unit hs.regs, hs.vals, hs.frames⟩

theorem applyStep_in (C : Closed fo p ok) (HN : HostIn p host) {s s' : MState F} {instr : Instruction} {ur : Bool}
    {l r : Val F} {n : Nat} (hs : StateIn p s) (hl : p l) (hr : p r)
    (h : applyStep fo host P s instr ur l r = .ok (s', n)) : StateIn p s' := by
  have hk := C.kind instr ur hl hr
  unfold applyStep at h
  cases hkk : applyKind fo instr ur l r with
  | enter j input =>
    rw [hkk] at h hk
    simp only [] at h
    cases hj : jumpTarget P j with
    | error e => rw [hj] at h; cases h
    | ok t =>
      rw [hj] at h
      cases h
      exact ⟨hs.regs, in_cons hk hs.vals, List.forall_mem_cons.2 ⟨hs.regs, hs.frames⟩⟩
  | external m arg =>
    rw [hkk] at h
    simp only [] at h
    cases ha : host.apply m arg with
    | some v => rw [ha] at h; cases h; exact ⟨in_cons (HN.apply m arg v ha) hs.regs, hs.vals, hs.frames⟩
    | none => rw [ha] at h; cases h; exact ⟨in_cons C.unit hs.regs, hs.vals, hs.frames⟩
  | out o =>
    rw [hkk] at h hk
    simp only [] at h
    cases hp : pushOut host s o with
    | error e => rw [hp] at h; cases h
    | ok s1 => rw [hp] at h; cases h; exact pushOut_in C HN hs hk hp

theorem exec_in (C : Closed fo p ok) (HN : HostIn p host) (hc : ∀ (k : Nat) (v : Val F), P.consts[k]? = some v → p v)
    {s s1 : MState F} {i : Instruction} {o : Option Nat} {n : Nat} (hok : ok i) (hs : StateIn p s)
    (h : Exec fo host P s i o s1 n) : StateIn p s1 := by
  have keep : ∀ {regs vals : List (Val F)}, (∀ v ∈ regs, p v) → (∀ v ∈ vals, p v) →
      StateIn p ({ s with regs := regs, vals := vals } : MState F) := fun hr hv => ⟨hr, hv, hs.frames⟩
  cases h with
  | invalid | jumpTo => exact hs
  | put hk => exact keep (in_cons (hc _ _ hk) hs.regs) hs.vals
  | putValueNil => exact keep (in_cons C.unit hs.regs) hs.vals
  | putValue hv => exact keep (in_cons (in_head hs.vals hv).1 hs.regs) hs.vals
  | pushValue hr => exact keep (in_head hs.regs hr).2 (in_cons (in_head hs.regs hr).1 hs.vals)
  | updateValue hr hv => exact keep (in_head hs.regs hr).2 (in_cons (in_head hs.regs hr).1 (in_head hs.vals hv).2)
  | startNil => exact keep hs.regs (in_cons C.unit (by simp))
  | start hv => exact keep hs.regs (in_cons (in_head hs.vals hv).1 (in_cons (in_head hs.vals hv).1 (in_head hs.vals hv).2))
  | endSide hv hr => exact keep (in_head hs.regs hr).2 (in_head hs.vals hv).2
  | jumpIfTrue _ hr | jumpIfFalse _ hr | andJump hr | orJump hr => exact keep (in_head hs.regs hr).2 hs.vals
  | andFalse hr => exact keep (in_cons C.fls (in_head hs.regs hr).2) hs.vals
  | orTrue hr => exact keep (in_cons C.tru (in_head hs.regs hr).2) hs.vals
  | top hr _ hv => exact keep (in_head hs.regs hr).2 (in_cons (in_head hs.regs hr).1 (in_head hs.vals hv).2)
  | ret hr hf =>
    obtain ⟨h3, h4⟩ := List.forall_mem_cons.1 (hf ▸ hs.frames)
    exact ⟨in_cons (in_head hs.regs hr).1 h3, fun v hv => hs.vals v (List.mem_of_mem_tail hv), h4⟩
  | apply hr ha =>
    obtain ⟨h1, h23⟩ := in_head hs.regs hr
    exact applyStep_in C HN (keep (in_head h23 rfl).2 hs.vals) (in_head h23 rfl).1 h1 ha
  | emptyApply hr ha => exact applyStep_in C HN (keep (in_head hs.regs hr).2 hs.vals) (in_head hs.regs hr).1 C.unit ha
  | reapply hr _ hv => exact keep (in_head hs.regs hr).2 (in_cons (in_head hs.regs hr).1 (in_head hs.vals hv).2)
  | makeList =>
    exact keep (in_cons (C.list hok fun x hx => hs.regs x (List.mem_of_mem_take (List.mem_reverse.1 hx)))
      fun x hx => hs.regs x (List.mem_of_mem_drop hx)) hs.vals
  | resolve _ h => exact resolveStep_in C hok HN hs h
  | makePair hr =>
    obtain ⟨h1, h23⟩ := in_head hs.regs hr
    exact keep (in_cons (C.pair hok h1 (in_head h23 rfl).1) (in_head h23 rfl).2) hs.vals
  | unary _ hr hu hp =>
    exact pushOut_in C HN (s := { s with regs := _ }) ⟨(in_head hs.regs hr).2, hs.vals, hs.frames⟩
      (C.unary hok (in_head hs.regs hr).1 hu) hp
  | binary _ hr _ hb hp =>
    obtain ⟨h1, h23⟩ := in_head hs.regs hr
    exact pushOut_in C HN (s := { s with regs := _ }) ⟨(in_head h23 rfl).2, hs.vals, hs.frames⟩
      (C.binary hok (in_head h23 rfl).1 h1 hb) hp

theorem step_in (C : Closed fo p ok) (HN : HostIn p host) (hc : ∀ (k : Nat) (v : Val F), P.consts[k]? = some v → p v)
    (hin : ∀ (pc : Nat) (i : Instruction) (o : Option Nat), P.instrs[pc]? = some (i, o) → ok i)
    {s s' : MState F} (hs : StateIn p s) (h : StepTo (Abs.step fo host P s) s') : StateIn p s' := by
  have hst := stepped_of_running h
  generalize Abs.step fo host P s = r at h hst
  cases hst with
  | off => rcases h with h | h <;> cases h; exact hs
  | exec hf he => exact finish_in (exec_in C HN hc (hin _ _ _ hf) hs he) h

end Garnish.Lemmas.ValClass
