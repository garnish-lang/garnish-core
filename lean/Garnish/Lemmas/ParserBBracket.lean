/-
Bracketed operands, and separators between an expression and an operand.  An opening bracket with the trivia / separators
after it (inside `( )` whitespace, directly after `{` dropped: `bracket_open`), the operand that a closed bracket is
(`bracket_result`), and what may close a bracket as ONE notion, `Closing`: plainly (`closing_plain`), after a trailing blank
line in `{ }` (`closing_trail`: the separator node is inserted and then unlinked again by the EndGrouping arm; it stays in the
array, unreachable from the root), after a comma (Lemmas/ParserBOpt); `opd_bracket_gen` is the operand for any of them.
`expr_sep`: a separator between an expression and an operand of a frame that is not a group (a binary operator of priority
1000 / 990; further separators after it are dropped).
-/
import Garnish.Lemmas.ParserBList

namespace Garnish.Spec
open Garnish Garnish.Gen Garnish.Model.Parser

theorem inGroup_ctx (d : Definition) (k : Nat) (cur : RTree) (l : Last) (ws ps : Bool) :
    ({ ctx := some (d, k), cur := cur, last := l, ws := ws, prevSep := ps } : Frame).inGroup = (d == .group) := by
  cases d <;> rfl

theorem FillPrev.comp_close {st : PState} (h : FillPrev st) (sc : SecDef) (hc : sc = .endGrouping ∨ sc = .endSideEffect)
    (c : Bool) : checkComposition st.previousSecondDef sc c = true := by
  rcases h with h | h | h | h <;> rw [h] <;> rcases hc with rfl | rfl <;> cases c <;> rfl

/-- the whitespace of a frame, on the reference side (no claim about the `ws` flag) -/
theorem refSeg_gfill (inG : Bool) (ws : List PToken) (pos : Nat) (f : Frame) (hig : f.inGroup = inG)
    (hws : ∀ w ∈ ws, isGFill inG w = true) : ∃ b, RefSeg pos ws f { f with ws := b } := by
  refine ⟨_, refSeg_fill ws pos f fun w hw => ?_⟩
  have := hws w hw
  unfold isGFill at this
  simp only [Bool.or_eq_true, Bool.and_eq_true] at this
  exact this.elim Or.inl fun h => Or.inr ⟨h.2, Or.inl (by rw [hig]; exact h.1)⟩

theorem bracket_open (st1 : PState) (ug : Option Nat) (o : PToken) (wsA tail rest : List PToken)
    (hO : OpenB st1 ug) (hprios : AllPrio st1.nodes) (ho : isOpenTok o = true)
    (hwA : ∀ w ∈ wsA, isFillTok w = true) (htail : tail ≠ []) :
    ∃ sO', loop st1 (o :: (wsA ++ tail) ++ rest) = loop sO' (tail ++ rest) ∧
      OpenB sO' (some st1.nodes.size) ∧
      FrameStart sO' (some st1.nodes.size) (some st1.nodes.size) (st1.nodes.size + 1) ∧
      AllPrio sO'.nodes ∧ CGOK sO' ∧
      KindOK sO' (some st1.nodes.size) ((getDefinition o.type).1 == .group) ∧
      sO'.nodes = st1.nodes.push ⟨(getDefinition o.type).1, .startGrouping, st1.nextParent, none,
        some (st1.nodes.size + 1), o⟩ ∧
      sO'.groupStack = st1.groupStack.push (st1.nodes.size, false) ∧ StartPrev sO' := by
  obtain ⟨hsO, hdO⟩ := open_def_facts ho
  have hbrO : isBracketDef (getDefinition o.type).1 = true := by rcases hdO with h | h <;> rw [h] <;> rfl
  have hfO := bracket_facts hbrO
  have hOO := hO.stepO o ho
  have hgO : (stepO st1 o).nodes[st1.nodes.size]? =
      some ⟨(getDefinition o.type).1, .startGrouping, st1.nextParent, none, some (st1.nodes.size + 1), o⟩ := by
    simp [stepO]
  have hsO1 : (stepO st1 o).nodes.size = st1.nodes.size + 1 := by simp [stepO]
  have hkO : KindOK (stepO st1 o) (some st1.nodes.size) ((getDefinition o.type).1 == .group) := ⟨_, hgO, rfl⟩
  have htopO : SkipTop (stepO st1 o) (some st1.nodes.size) ((getDefinition o.type).1 == .group) := by
    refine ⟨_, by rw [hsO1, Nat.add_sub_cancel]; exact hgO, hfO.2.2.2.2.1, Or.inl ⟨by rw [hsO1]; rfl, ?_⟩⟩
    rcases hdO with h | h
    · left; rw [h]; rfl
    · right; exact h
  obtain ⟨sO', hloopA, hOO', hnO', hnpO', _, hgsO', hcgO', hfpO'⟩ :=
    skip_runB (some st1.nodes.size) ((getDefinition o.type).1 == .group) wsA (stepO st1 o)
      (tail ++ rest) hOO hkO (by omega) htopO (Or.inl rfl) hwA
  refine ⟨sO', ?_, hOO', ?_, ?_, ?_, ?_, by rw [hnO']; rfl, by rw [hgsO']; simp [stepO], ?_⟩
  · simp only [List.cons_append, loop]
    have he' : (wsA ++ tail ++ rest).isEmpty = false := by
      rw [List.append_assoc]; exact isEmpty_append_of_ne wsA (List.append_ne_nil_of_left_ne_nil htail _)
    rw [he', step_openB st1 ug o ho hO]
    simp only [Outcome.bind]
    rw [List.append_assoc, hloopA]
  · exact .bracket _ _ 20 (by rw [hnO']; exact hsO1) (by rw [hnpO']; rfl) (by rw [hnO']; exact hgO) hfO.2.1 hfO.1 rfl
  · rw [hnO']
    intro i nd hi
    simp only [stepO, Array.getElem?_push] at hi
    split at hi
    · injection hi with hi; subst hi; exact ⟨20, hfO.1⟩
    · exact hprios i nd hi
  · unfold CGOK
    rw [hcgO', hgsO']
    simp [stepO]
  · obtain ⟨G, hG, hd⟩ := hkO
    exact ⟨G, by rw [hnO']; exact hG, hd⟩
  · rcases hfpO' with h | h | h | h
    · exact Or.inr (Or.inl h)
    · exact Or.inr (Or.inr (Or.inr (Or.inr (Or.inr h))))
    · exact Or.inr (Or.inr (Or.inr (Or.inl h)))
    · exact Or.inr (Or.inr (Or.inr (Or.inr (Or.inl h))))

theorem ref_bracket_open (o : PToken) (wsA : List PToken) (pos : Nat)
    (ho : isOpenTok o = true) (hwA : ∀ w ∈ wsA, isFillTok w = true)
    (f : Frame) (stack : List Frame) (hf : OpenLast f.last) (rest : List PToken) :
    ∃ bA, refRun Table.gen f stack pos (o :: wsA) rest =
      .ok ({ ctx := some ((getDefinition o.type).1, pos), cur := .nil, last := .start, ws := bA,
             prevSep := (getDefinition o.type).1 == .nestedExpression }, { f with ws := false } :: stack) := by
  obtain ⟨_, hdO⟩ := open_def_facts ho
  let fO : Frame :=
    { ctx := some ((getDefinition o.type).1, pos), cur := RTree.nil, last := Last.start, ws := false,
      prevSep := (getDefinition o.type).1 == .nestedExpression }
  have hfO : fO.inGroup = true ∨ fO.prevSep = true := by
    rcases hdO with hd | hd
    · left; show Frame.inGroup _ = true; rw [inGroup_ctx, hd]; rfl
    · right; show ((getDefinition o.type).1 == Definition.nestedExpression) = true; rw [hd]; rfl
  obtain ⟨bA, hbA⟩ := refSeg_fillTok wsA hwA (pos + 1) fO hfO
  exact ⟨bA, refRun_append_ok (a := [o]) (refRun_one (ref_open_stepK f stack pos o _ ho hf)) (hbA _ rest)⟩

/-- **the operand that a closed bracket is**: `st2` is the state after the closing bracket, `arrE` the array that held the
    tree `E` of the content -/
theorem bracket_result (st1 : PState) (o : PToken) (ho : isOpenTok o = true)
    (arrE : Array ParseNode) (E : Tree) (re : Nat)
    (hnE : NInv arrE (some st1.nodes.size) (some st1.nodes.size) (st1.nodes.size + 1) E re)
    (hagree : ∀ j, j < st1.nodes.size → arrE[j]? = st1.nodes[j]?)
    (G' : ParseNode) (hG' : arrE[st1.nodes.size]? = some G') (hGr' : G'.right = some re)
    (hGd' : G'.definition = (getDefinition o.type).1) (hGp' : G'.parent = st1.nextParent)
    (hGl' : G'.left = none) (hGt' : G'.lexToken = o) (hGs' : G'.secondaryDefinition = .startGrouping)
    (st2 : PState) (hn2 : ∀ j, j < arrE.size → st2.nodes[j]? = arrE[j]?) (hsz2 : arrE.size ≤ st2.nodes.size)
    (hprios2 : AllPrio st2.nodes) (hnnl2 : st2.nextLastLeft = none) (hgs2 : st2.groupStack = st1.groupStack)
    (hcg2 : st2.currentGroup = st1.currentGroup) (hll2 : st2.lastLeft = some st1.nodes.size)
    (hprev2 : st2.previousSecondDef = .endGrouping) (dm : Definition) :
    OpdRes st1 st2 (.node .nil st1.nodes.size o.col E) st1.nodes.size ∧
      PlugFn (dfOf st2.nodes) dm (.node .nil st1.nodes.size o.col E)
        (fun R => plug R (.group (getDefinition o.type).1 o.col (toRG (dfOf arrE) E))) := by
  obtain ⟨hsO, hdO⟩ := open_def_facts ho
  have hbrO : isBracketDef (getDefinition o.type).1 = true := by rcases hdO with h | h <;> rw [h] <;> rfl
  have hsE : st1.nodes.size + 1 < arrE.size := hnE.pos
  have hXtree : IsTreeAt arrE st1.nextParent (some st1.nodes.size) (.node .nil st1.nodes.size o.col E) := by
    refine isTreeAt_node G' hG' hGp' (by rw [hGl']; exact .nil _) ?_ (by simp [tokPos, hGt'])
    rw [hGr']
    exact hnE.tree
  have hgdef : dfOf arrE st1.nodes.size = (getDefinition o.type).1 := by simp [dfOf, hG', hGd']
  have hin : SortedIn st1.nodes.size arrE.size (Tree.node .nil st1.nodes.size o.col E).inorder :=
    hnE.inord.cons (by omega)
  have hag2 : ∀ j ∈ (Tree.node .nil st1.nodes.size o.col E).inorder, st2.nodes[j]? = arrE[j]? :=
    fun j hj => hn2 j (hin.2 j hj).2
  have hdf2 : ∀ j ∈ (Tree.node .nil st1.nodes.size o.col E).inorder, dfOf arrE j = dfOf st2.nodes j := by
    intro j hj; simp only [dfOf, hag2 j hj]
  have hspE : SpineG (dfOf arrE) st1.nodes.size (.node .nil st1.nodes.size o.col E) := by
    simp only [SpineG, if_true, hgdef]
    exact hbrO
  have hG2 : st2.nodes[st1.nodes.size]? = some G' := by rw [hn2 _ (by omega)]; exact hG'
  have hX : toRG (dfOf st2.nodes) (.node .nil st1.nodes.size o.col E) =
      .group (getDefinition o.type).1 o.col (toRG (dfOf arrE) E) := by
    rw [← toRG_congr _ _ _ hdf2]
    simp only [toRG, hgdef, hbrO, if_true]
  constructor
  · refine ⟨?_, by omega, hXtree.frame hag2, hin.mono (Nat.le_refl _) hsz2, hnnl2, hgs2, hcg2, ?_, hspE.congr hdf2, hprios2,
      Or.inr (Or.inr hprev2), ⟨_, G', hll2, hG2, Or.inr (by rw [hGd']; exact hbrO)⟩⟩
    · intro j hj
      rw [hn2 j (by omega), hagree j hj]
    · exact .closed _ G' (by omega) hll2 hG2 (by rw [hGd']; exact hbrO) (Or.inl rfl) (by rw [hGs']; rfl)
  · rw [← hX]
    exact plugFn_plug _ _ _ (by rw [hX]; rfl)

theorem bracket_node {sO' stE : PState} {g : Nat} {E : Tree} {re cbE : Nat} {G : ParseNode}
    (hinvE : UInv stE (some g) (some g) (g + 1) E re cbE) (hgO : sO'.nodes[g]? = some G)
    (ho2E : ∀ j, j < g + 1 → (stE.nodes[j]?).map (setRight none) = (sO'.nodes[j]?).map (setRight none)) :
    ∃ G', stE.nodes[g]? = some G' ∧ G'.right = some re ∧ G'.definition = G.definition ∧ G'.parent = G.parent ∧
      G'.left = G.left ∧ G'.lexToken = G.lexToken ∧ G'.secondaryDefinition = G.secondaryDefinition := by
  cases hfr : hinvE.n.frame with
  | bracket g re' G' pg hG' _ _ hGr =>
    refine ⟨G', hG', hGr, ?_⟩
    have := ho2E g (by omega)
    rw [hG', hgO] at this
    simp only [Option.map_some, Option.some.injEq] at this
    obtain ⟨e1, e2, e3, e4, e5⟩ := setRight_none_eq this
    exact ⟨e1, e2, e3, e4, e5⟩

/-- reference side of a closing run that starts at position `pos`: the frame of the bracket `d` with the tree `T` is
    popped, and its parent receives the group with the tree `T'` -/
def ClosingRef (d : Definition) (ls : Bool) (pos : Nat) (tailC : List PToken) (T T' : RTree) : Prop :=
  ∀ (gp : Nat) (parent : Frame) (stack : List Frame) (rest : List PToken),
    refRun Table.gen
        { ctx := some (d, gp), cur := T, last := if ls then .suffix else .operand, ws := false, prevSep := false }
        (parent :: stack) pos tailC rest =
      .ok ({ parent with cur := plug parent.cur (.group d gp T'), last := .operand, ws := false, prevSep := false }, stack)

/-- **what closes a bracket `d`**: the tokens `tailC` after the content `E` of the frame `g`, the last of them the closing
    bracket.  The parser gets from the state `stE` after the content to a state `st2` whose nodes extend an array `arrE` in
    which the frame holds a tree `E'` below the bracket node (`extra` nodes stay unlinked); the reference parser closes its
    frame with the reference tree of `E'`. -/
def Closing (d : Definition) (ls : Bool) (tailC : List PToken) (extra : Nat) : Prop :=
  ∀ {stE : PState} {g : Nat} {E : Tree} {re cbE : Nat} {G' : ParseNode},
    UInv stE (some g) (some g) (g + 1) E re cbE → KindOK stE (some g) (d == .group) →
    stE.nodes[g]? = some G' → G'.definition = d → G'.right = some re → stE.groupStack.back? = some (g, false) →
    ∀ rest : List PToken,
    ∃ (st2 : PState) (arrE : Array ParseNode) (E' : Tree) (re' : Nat) (G2 : ParseNode),
      loop stE (tailC ++ rest) = loop st2 rest ∧
      NInv arrE (some g) (some g) (g + 1) E' re' ∧ (∀ j, j < g → arrE[j]? = stE.nodes[j]?) ∧
      arrE[g]? = some G2 ∧ G2.right = some re' ∧ setRight none G2 = setRight none G' ∧
      (∀ j, j < arrE.size → st2.nodes[j]? = arrE[j]?) ∧ arrE.size ≤ st2.nodes.size ∧ AllPrio st2.nodes ∧
      st2.nextLastLeft = none ∧ st2.groupStack = stE.groupStack.pop ∧
      st2.currentGroup = (if stE.groupStack.pop.isEmpty then none else some (stE.groupStack.pop.size - 1)) ∧
      st2.lastLeft = some g ∧ st2.previousSecondDef = .endGrouping ∧
      E'.inorder.length + extra + stE.nodes.size = E.inorder.length + st2.nodes.size ∧
      ∀ (pos : Nat), NumberedFrom pos tailC →
        ClosingRef d ls pos tailC (toRG (dfOf stE.nodes) E) (toRG (dfOf arrE) E')

/-- **a bracketed operand**: `o fill* E tailC`, where `tailC` closes the bracket -/
theorem opd_bracket_gen {k extra : Nat} {inner tailC : List PToken} {ls : Bool} (o : PToken)
    (wsA : List PToken) (hin : ExprOK k ((getDefinition o.type).1 == .group) inner ls)
    (ho : isOpenTok o = true) (hwA : ∀ w ∈ wsA, isFillTok w = true)
    (hne : inner ≠ []) (hC : Closing (getDefinition o.type).1 ls tailC extra) :
    OpdOK (k + extra) (o :: (wsA ++ (inner ++ tailC))) := by
  intro st1 ug hO hprios hcg rest
  obtain ⟨sO', hloopO, hOO', hfs, hpriosO, hcgO, hkO, hnO', hgsO', hspO⟩ :=
    bracket_open st1 ug o wsA (inner ++ tailC) rest hO hprios ho hwA (List.append_ne_nil_of_left_ne_nil hne _)
  have hgO : sO'.nodes[st1.nodes.size]? = some ⟨(getDefinition o.type).1, .startGrouping,
      st1.nextParent, none, some (st1.nodes.size + 1), o⟩ := by rw [hnO']; simp
  obtain ⟨stE, E, re, cbE, hloopE, ⟨hinvE, hgsE, hcgE, ⟨ho2E, ho1E⟩, hrdE, hcntE⟩, hrefE⟩ :=
    hin sO' _ _ _ hOO' hfs hpriosO hcgO hkO hspO (tailC ++ rest)
  have hkE : KindOK stE (some st1.nodes.size) ((getDefinition o.type).1 == .group) :=
    hkO.transfer (base := st1.nodes.size + 1) (fun g hg => by injection hg with hg; omega) ho2E
  obtain ⟨G', hG', hGr', hGd', hGp', hGl', hGt', hGs'⟩ := bracket_node hinvE hgO ho2E
  have hgsE' : stE.groupStack = st1.groupStack.push (st1.nodes.size, false) := by rw [hgsE, hgsO']
  obtain ⟨st2, arrE, E', re', G2, hloopC, hnE, hagC, hG2, hGr2, hG2eq, hn2, hsz2, hprios2, hnnl2, hgs2, hcg2, hll2, hprev2,
      hcntC, hrefC⟩ := hC hinvE hkE hG' hGd' hGr' (by rw [hgsE']; simp) rest
  obtain ⟨e1, e2, e3, e4, e5⟩ := setRight_none_eq hG2eq
  have hpop : stE.groupStack.pop = st1.groupStack := by rw [hgsE']; simp
  have hagree : ∀ j, j < st1.nodes.size → arrE[j]? = st1.nodes[j]? := by
    intro j hj
    rw [hagC j hj, ho1E j (by omega), hnO', Array.getElem?_push, if_neg (by omega)]
  obtain ⟨hres, hP⟩ := bracket_result st1 o ho arrE E' re' hnE hagree G2 hG2 hGr2 (by rw [e1, hGd'])
    (by rw [e2, hGp']) (by rw [e3, hGl']) (by rw [e4, hGt']) (by rw [e5, hGs']) st2 hn2 hsz2 hprios2 hnnl2
    (by rw [hgs2, hpop]) (by rw [hcg2, hpop]; exact hcg.symm) hll2 hprev2 (aboveDef st1)
  refine ⟨st2, _, _, _, ?_, hres, hP, ?_, ?_⟩
  · have e3 : inner ++ tailC ++ rest = inner ++ (tailC ++ rest) := List.append_assoc ..
    rw [hloopO, e3, hloopE, hloopC]
  · simp only [Tree.inorder, List.nil_append, List.length_cons]
    omega
  · intro pos hnum f hf stack restR
    have hnumA := numbered_append wsA _ _ hnum.2
    have hlen : pos + (o :: wsA).length = pos + 1 + wsA.length := by simp only [List.length_cons]; omega
    obtain ⟨bA, hO⟩ := ref_bracket_open o wsA pos ho hwA f stack hf (inner ++ tailC ++ restR)
    have e : o :: (wsA ++ (inner ++ tailC)) = (o :: wsA) ++ (inner ++ tailC) := rfl
    rw [e, hnum.1]
    refine refRun_append_ok hO ?_
    rw [hlen]
    exact refRun_append_ok (hrefE _ (numbered_prefix inner _ _ hnumA) _ rfl rfl (inGroup_ctx _ _ _ _ _ _) _ _)
      (hrefC _ (numbered_append inner _ _ hnumA) _ _ _ _)

/-- **the whitespace of a frame and the token that closes it** (any of `)` `}` `]`; `fl`: the list flag saved when the frame
    was opened): the node array stays, the frame is popped, `last_left` is the bracket node -/
theorem close_run {stE : PState} {g : Nat} {E : Tree} {re cbE : Nat} {G' : ParseNode} {inG : Bool}
    (hinvE : UInv stE (some g) (some g) (g + 1) E re cbE) (hkE : KindOK stE (some g) inG) (hG' : stE.nodes[g]? = some G')
    (fl : Bool) (hback : stE.groupStack.back? = some (g, fl)) (c : PToken) (hcl : closes G'.definition c)
    (wsB : List PToken) (hwB : ∀ w ∈ wsB, isGFill inG w = true) (rest : List PToken) :
    ∃ st2, loop stE (wsB ++ [c] ++ rest) = loop st2 rest ∧ st2.nodes = stE.nodes ∧
      st2.groupStack = stE.groupStack.pop ∧
      st2.currentGroup = (if stE.groupStack.pop.isEmpty then none else some (stE.groupStack.pop.size - 1)) ∧
      st2.checkForList = fl ∧ st2.lastLeft = some g ∧ st2.previousSecondDef = (getDefinition c.type).2 ∧
      st2.nextLastLeft = none := by
  obtain ⟨stE', hloopB, hinvE', hnE', hgsE', _, _, _, _, _, _⟩ :=
    fill_runU inG wsB stE ([c] ++ rest) hinvE.toF hkE hwB
  have hclose := step_closeF hinvE' G' (by rw [hnE']; exact hG') fl (by rw [hgsE']; exact hback) c hcl rest.isEmpty
  refine ⟨stepC stE' g fl c, ?_, hnE', by show stE'.groupStack.pop = _; rw [hgsE'],
    by show (if stE'.groupStack.pop.isEmpty then none else some (stE'.groupStack.pop.size - 1)) = _; rw [hgsE'],
    rfl, rfl, rfl, hinvE'.inv.nnl⟩
  rw [List.append_assoc, hloopB]
  simp only [List.cons_append, List.nil_append, loop, hclose, Outcome.bind]

/-- `gfill* )` / `trivia* }` after the content -/
theorem closing_plain {d : Definition} {ls : Bool} {c : PToken} {wsB : List PToken} (hc : isCloseFor d c)
    (hwB : ∀ w ∈ wsB, isGFill (d == .group) w = true) : Closing d ls (wsB ++ [c]) 0 := by
  intro stE g E re cbE G' hinvE hkE hG' hGd' hGr' hback rest
  obtain ⟨st2, hloop, hn2, hgs2, hcg2, _, hll2, hprev2, hnnl2⟩ :=
    close_run hinvE hkE hG' false hback c (by rw [hGd']; exact isCloseFor_closes hc) wsB hwB rest
  refine ⟨st2, stE.nodes, E, re, G', hloop, hinvE.n, fun _ _ => rfl, hG', hGr', rfl, fun j _ => by rw [hn2],
    by rw [hn2]; exact Nat.le_refl _, by rw [hn2]; exact hinvE.n.prios, hnnl2, hgs2, hcg2, hll2,
    by rw [hprev2]; exact isCloseFor_secdef hc, by rw [hn2]; rfl, ?_⟩
  intro pos _ gp parent stack restR
  obtain ⟨bB, hbB⟩ := refSeg_gfill (d == .group) wsB pos
    { ctx := some (d, gp), cur := toRG (dfOf stE.nodes) E, last := if ls then .suffix else .operand, ws := false,
      prevSep := false } (inGroup_ctx _ _ _ _ _ _) hwB
  refine refRun_append_ok (hbB _ _) (refRun_one ?_)
  rw [ref_close_stepK _ _ stack _ c restR d gp rfl hc (by cases ls <;> rfl)]

/-- `prefix* ( fill* E gfill* )` / `prefix* { fill* E trivia* }` is a complete operand -/
theorem opd_bracket {k : Nat} {inner : List PToken} {ls : Bool} (pre : List PToken) (o c : PToken) (wsA wsB : List PToken)
    (hin : ExprOK k ((getDefinition o.type).1 == .group) inner ls)
    (hpre : ∀ p ∈ pre, isPrefixTok p = true) (ho : isOpenTok o = true)
    (hc : isCloseFor (getDefinition o.type).1 c) (hwA : ∀ w ∈ wsA, isFillTok w = true)
    (hwB : ∀ w ∈ wsB, isGFill ((getDefinition o.type).1 == .group) w = true) (hne : inner ≠ []) :
    OpdOK k (pre ++ (o :: (wsA ++ (inner ++ (wsB ++ [c]))))) :=
  opd_prefixes (opd_bracket_gen o wsA hin ho hwA hne (closing_plain hc hwB)) (List.cons_ne_nil _ _) pre hpre

theorem sep_not_optional (tt : TokenType) (h : (getDefinition tt).2 = SecDef.subexpression) :
    (getDefinition tt).1.isOptional = false := by
  cases tt <;> cases h <;> decide

theorem sep_open {st : PState} {ug p : Option Nat} {base : Nat} {E : Tree} {re cb : Nat}
    (hinv : UInv st ug p base E re cb) (hk : KindOK st ug false) (t : PToken) (ht : isSepTok t = true)
    (nodes' : Array ParseNode) (info : Info)
    (hsz' : nodes'.size = st.nodes.size)
    (hdefs : ∀ j, j < st.nodes.size → (nodes'[j]?).map (·.definition) = (st.nodes[j]?).map (·.definition)) :
    (sepState st t nodes' info).nodes[st.nodes.size]? =
        some ⟨(getDefinition t.type).1, .subexpression, info.parent, info.left, info.right, t⟩ ∧
      (sepState st t nodes' info).nodes.size = st.nodes.size + 1 ∧ KindOK (sepState st t nodes' info) ug false ∧
      SkipTop (sepState st t nodes' info) ug false ∧ FillPrev (sepState st t nodes' info) := by
  have hS : (sepState st t nodes' info).nodes[st.nodes.size]? =
      some ⟨(getDefinition t.type).1, .subexpression, info.parent, info.left, info.right, t⟩ := by
    simp only [sepState]; rw [Array.getElem?_push, if_pos hsz'.symm]
  have hs : (sepState st t nodes' info).nodes.size = st.nodes.size + 1 := by simp [sepState, hsz']
  refine ⟨hS, hs, ?_, ?_, Or.inr (Or.inl rfl)⟩
  · apply hk.congr
    intro g hg
    have hgl : g < st.nodes.size := by
      cases hinv.n.frame with
      | top re => cases hg
      | bracket g' re' G pg _ _ _ _ => injection hg with hg; have := hinv.n.pos; omega
    simp only [sepState]
    rw [Array.getElem?_push, if_neg (by omega)]
    exact hdefs g hgl
  · refine ⟨_, by rw [hs, Nat.add_sub_cancel]; exact hS, ?_, Or.inr ⟨rfl, rfl⟩⟩
    show (getDefinition t.type).1.isOptional = false
    exact sep_not_optional t.type (by unfold isSepTok at ht; simpa using ht)

/-- a separator outside of groups, trivia / further separators (which are dropped), and then an operand -/
theorem opStep_sep {t : PToken} {ws2 x : List PToken} (ht : isSepTok t = true) (hw2 : ∀ w ∈ ws2, isFillTok w = true)
    (hxne : x ≠ []) (hxh : ∀ r, closerFollows (x ++ r) = false) : OpStep false t ws2 x false := by
  have hs : (getDefinition t.type).2 = .subexpression := by unfold isSepTok at ht; simpa using ht
  obtain ⟨_, _, _, _, _, hnb, _, _⟩ := sep_def_facts t.type hs
  refine ⟨hnb, ?_, ?_⟩
  · intro st ug p base E re cb hinv hk rest
    obtain ⟨q, nodes', info, hq, h1, hir, hI, hpos, _⟩ := sep_stepU hinv hk t ht
    obtain ⟨hS1, hs1, hk1, htop1, hfp1⟩ := sep_open hinv hk t ht nodes' info hI.size hI.defs
    obtain ⟨s1', hloopW2, hO1', hn1', hnp1', _, hgs1', hcg1', _⟩ :=
      skip_runB ug false ws2 (sepState st t nodes' info) (x ++ rest) hpos.openB hk1 (by omega) htop1 hfp1 hw2
    refine ⟨q, s1', hq, ?_, hpos.transfer hO1' hn1' hnp1' hgs1' hcg1'⟩
    simp only [loop]
    rw [isEmpty_append_of_ne ws2 (List.append_ne_nil_of_left_ne_nil hxne _), h1]
    simp only [Outcome.bind]
    exact hloopW2
  · intro f stack pos q restR hq hig hps hl
    have hcf : closerFollows (ws2 ++ (x ++ restR)) = false := by rw [closerFollows_skip ws2 _ hw2]; exact hxh restR
    obtain ⟨b2, hb2⟩ := refSeg_fillTok ws2 hw2 (pos + 1)
      { f with cur := attach Table.gen q false (getDefinition t.type).1 pos f.cur, last := Last.sep, ws := false,
               prevSep := true } (Or.inr rfl)
    exact ⟨.sep, b2, true, Or.inr (Or.inr (Or.inr rfl)),
      refRun_append_ok (a := [t]) (refRun_one (ref_sep_stepK f stack pos q t _ ht hq hig hps hcf hl)) (hb2 stack _)⟩

/-- an expression, a separator (with trivia before and trivia / further separators after it), and an operand -/
theorem expr_sep {c1 c2 : Nat} {e x ws1 ws2 : List PToken} {ls : Bool} {t : PToken} (he : ExprOK c1 false e ls)
    (hx : OpdOK c2 x)
    (ht : isSepTok t = true) (hw1 : ∀ w ∈ ws1, isTriviaTok w = true) (hw2 : ∀ w ∈ ws2, isFillTok w = true)
    (hxne : x ≠ []) (hxh : ∀ r, closerFollows (x ++ r) = false) :
    ExprOK (c1 + c2) false (e ++ (ws1 ++ (t :: (ws2 ++ x)))) false :=
  expr_op he hx hw1 (opStep_sep ht hw2 hxne hxh)

theorem closer_follows {d : Definition} {c : PToken} (hc : isCloseFor d c) (r : List PToken) :
    closerFollows (c :: r) = true := by
  rcases hc with ⟨_, h⟩ | ⟨_, h⟩ <;> simp [closerFollows, h, isFiller, isSeparator, isCloser]

/-- `trivia* blank-line fill* }` after the content of a nested expression: the separator node is unlinked again -/
theorem closing_trail {d : Definition} {ls : Bool} {c t : PToken} {ws1 ws2 : List PToken}
    (hng : (d == Definition.group) = false) (hc : isCloseFor d c) (hw1 : ∀ w ∈ ws1, isTriviaTok w = true)
    (ht : t.type = .subexpression) (hw2 : ∀ w ∈ ws2, isFillTok w = true) :
    Closing d ls (ws1 ++ (t :: (ws2 ++ [c]))) 1 := by
  intro stE g E re cbE G' hinvE hkE hG' hGd' hGr' hback rest
  rw [hng] at hkE
  have htsep : isSepTok t = true := by unfold isSepTok; rw [ht]; rfl
  have htd : (getDefinition t.type).1 = .subexpression := by rw [ht]; rfl
  obtain ⟨stE1, hloopW1, hinvE1, hnE1, hgsE1, hcgE1⟩ := trivia_runU ws1 stE ((t :: (ws2 ++ [c])) ++ rest) hinvE hw1
  have hkE1 : KindOK stE1 (some g) false := hkE.congr (fun g _ => by rw [hnE1])
  obtain ⟨q, nodes', info, hq, h1, hir, hI, hpos, hundo⟩ := sep_stepU hinvE1 hkE1 t htsep
  have hsz' := hI.size
  have hdefs := hI.defs
  have hO1 := hpos.openB
  obtain ⟨hS1, hs1, hk1, htop1, hfp1⟩ := sep_open hinvE1 hkE1 t htsep nodes' info hsz' hdefs
  obtain ⟨hpar, hundo⟩ := hundo htd
  have hparS := hpar _ rfl
  obtain ⟨P, hP⟩ : ∃ P, info.parent = some P := by
    cases hp : info.parent with
    | none => rw [hp] at hparS; cases hparS
    | some P => exact ⟨P, rfl⟩
  obtain ⟨l, hl, hln, hPn, hlP, hun⟩ := hundo P hP
  obtain ⟨s1', hloopW2, hO1', hn1', _, hll1', hgs1', hcg1', hfp1'⟩ :=
    skip_runB (some g) false ws2 (sepState stE1 t nodes' info) ([c] ++ rest) hO1 hk1 (by omega) htop1 hfp1 hw2
  have hsE : g + 1 < stE.nodes.size := hinvE.n.pos
  have hnE1s : stE1.nodes.size = stE.nodes.size := by rw [hnE1]
  obtain ⟨G1, hG1, hG1d⟩ : ∃ G1, s1'.nodes[g]? = some G1 ∧ G1.definition = d := by
    rw [hn1']
    simp only [sepState]
    rw [Array.getElem?_push, if_neg (by omega), ← hGd']
    exact node_of_defs (hdefs g (by omega)) (by rw [hnE1]; exact hG')
  have hsd : (getDefinition c.type).2 = .endGrouping := isCloseFor_secdef hc
  have hgs : s1'.groupStack = stE.groupStack := by rw [hgs1']; show stE1.groupStack = _; rw [hgsE1]
  obtain ⟨nodes2, hclose, hs2, hg2⟩ := step_close_unlink s1' g stE1.nodes.size l P
    ⟨(getDefinition t.type).1, .subexpression, info.parent, info.left, info.right, t⟩ G1 false c rest.isEmpty
    hO1'.hug hO1'.adj hO1'.nnl (hfp1'.comp_close _ (Or.inl hsd) _) (by rw [hgs]; exact hback) hG1
    (by rw [hG1d]; exact isCloseFor_closes hc)
    (by rw [hn1']; exact hs1) (by rw [hll1']; rfl) (by rw [hn1']; exact hS1) htd hir hP hl hln hPn (by omega)
  have hn2 : ∀ j, j < stE.nodes.size → nodes2[j]? = stE.nodes[j]? := by
    intro j hj
    have hjn : j < stE1.nodes.size := by omega
    have hs1j : s1'.nodes[j]? = nodes'[j]? := by
      rw [hn1']; simp only [sepState]; rw [Array.getElem?_push, if_neg (by omega)]
    have hPs : s1'.nodes[P]? = nodes'[P]? := by
      rw [hn1']; simp only [sepState]; rw [Array.getElem?_push, if_neg (by omega)]
    rw [hg2 j, ← hnE1, ← hun j]
    by_cases hjP : j = P
    · subst hjP
      rw [if_pos rfl, if_pos rfl, if_neg (fun e => hlP e.symm), hPs]
    · rw [if_neg hjP, if_neg hjP, hs1j]
  have hprios2 : AllPrio nodes2 :=
    allPrio_of_defs hinvE.n.prios (fun j hj => by rw [hn2 j hj]) (by omega)
      (by rw [← hnE1s, hg2, if_neg (by omega), if_neg (by omega), hn1']; exact hS1) hq
  refine ⟨stepCU s1' g false c nodes2, stE.nodes, E, re, G', ?_, hinvE.n, fun _ _ => rfl, hG', hGr', rfl, hn2,
    by show _ ≤ nodes2.size; omega, hprios2, hO1'.nnl, by show s1'.groupStack.pop = _; rw [hgs],
    by show (if s1'.groupStack.pop.isEmpty then none else some (s1'.groupStack.pop.size - 1)) = _; rw [hgs], rfl, hsd,
    by show _ = _ + nodes2.size; omega, ?_⟩
  · have e4 : (ws1 ++ (t :: (ws2 ++ [c]))) ++ rest = ws1 ++ ((t :: (ws2 ++ [c])) ++ rest) := by simp
    rw [e4, hloopW1]
    simp only [List.cons_append, loop]
    have he' : (ws2 ++ [c] ++ rest).isEmpty = false := by
      rw [List.append_assoc]; exact isEmpty_append_of_ne ws2 (List.cons_ne_nil _ _)
    rw [he', h1]
    simp only [Outcome.bind]
    rw [List.append_assoc, hloopW2]
    simp only [List.cons_append, List.nil_append, loop, hclose, Outcome.bind]
  · intro pos _ gp parent stack restR
    let fE : Frame :=
      { ctx := some (d, gp), cur := toRG (dfOf stE.nodes) E, last := (if ls then Last.suffix else Last.operand),
        ws := false, prevSep := false }
    obtain ⟨b1, hb1⟩ := refSeg_trivia ws1 hw1 pos fE
    let fE1 : Frame := { fE with ws := b1 }
    have hig1 : fE1.inGroup = false := by show Frame.inGroup _ = false; rw [inGroup_ctx]; exact hng
    have hcf : closerFollows (ws2 ++ [c] ++ restR) = true := by
      rw [List.append_assoc, closerFollows_skip ws2 _ hw2]; exact closer_follows hc restR
    obtain ⟨bT, hbT⟩ := refSeg_fillTok ws2 hw2 (pos + ws1.length + 1) { fE1 with prevSep := true } (Or.inr rfl)
    refine refRun_append_ok (hb1 _ _) ?_
    have e : t :: (ws2 ++ [c]) = [t] ++ (ws2 ++ [c]) := rfl
    rw [e]
    refine refRun_append_ok (refRun_one (ref_sep_trailK fE1 _ _ t _ ht hig1 hcf)) ?_
    refine refRun_append_ok (hbT _ _) (refRun_one ?_)
    rw [ref_close_stepK _ _ stack _ c restR d gp rfl hc (by cases ls <;> rfl)]

theorem opd_bracket_trail {k : Nat} {inner : List PToken} {ls : Bool} (pre : List PToken) (o c t : PToken)
    (wsA ws1 ws2 : List PToken) (hng : ((getDefinition o.type).1 == Definition.group) = false)
    (hin : ExprOK k false inner ls) (hpre : ∀ p ∈ pre, isPrefixTok p = true) (ho : isOpenTok o = true)
    (hc : isCloseFor (getDefinition o.type).1 c) (hwA : ∀ w ∈ wsA, isFillTok w = true)
    (hw1 : ∀ w ∈ ws1, isTriviaTok w = true) (ht : t.type = .subexpression) (hw2 : ∀ w ∈ ws2, isFillTok w = true)
    (hne : inner ≠ []) :
    OpdOK (k + 1) (pre ++ (o :: (wsA ++ (inner ++ (ws1 ++ (t :: (ws2 ++ [c]))))))) :=
  opd_prefixes (opd_bracket_gen o wsA (by rw [hng]; exact hin) ho hwA hne (closing_trail hng hc hw1 ht hw2))
    (List.cons_ne_nil _ _) pre hpre

end Garnish.Spec
