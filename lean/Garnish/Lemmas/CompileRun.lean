/-
Compile correctness, the simulation: `run_located`. If the main line of `e` is `Located` at `pc` in the program
`P`, the flat machine started at `pc` — with any operands below, any input-value stack below the current
value, any frames and any trace so far — does what the strict evaluator `evalFS` says (Lemmas/CompileStrict.lean:
`evalF` with a missing fall-through of an else-chain as an error; `strict_eq`: the same on `wfE` programs; the
statements ask `wfC`, which is `wfE` without the final arm): it reaches the end of the
main line with the value pushed, or (restart) the entry of the containing body with `$` replaced.
Induction on the evaluator's fuel, so loops (`^~`) and recursion through apply are covered.
Each lemma: the construct at fuel + 1 from the induction hypotheses at fuel.
-/
import Garnish.Lemmas.CompileLast
namespace Garnish.Abs
open Garnish Gen Garnish.Spec

variable {F : Type}

/-- every body of the program's table is laid out at the jump entry that is its id, followed by `EndExpression` -/
structure Env (P : Prog F) (bodies : List (Nat × Expr F)) : Prop where
  body : ∀ id b, lookupBody bodies id = some b → ∃ t, P.jumps[id]? = some t ∧ Located P id id t b ∧
    wfC b = true ∧ P.instrs[t + len b]? = some (.endExpression, none)

section
variable (fo : FloatOps F) (host : Host F) (P : Prog F) (bodies : List (Nat × Expr F))

/-- what the machine does for an evaluation result: `pcEnd` = end of the main line, `entry` = address of the
containing body (where a restart goes), `tail` = the expression is in tail position (a restart leaves no
operands behind) -/
def ResOK (entry pc pcEnd : Nat) (tail : Bool) (rs vs : List (Val F)) (fr : List (Frame F)) (st : St F)
    (res : Res F) (st' : St F) : Prop :=
  match res with
  | .val v => Reach fo host P ⟨pc, rs, st.inp :: vs, fr, st.trace⟩ ⟨pcEnd, v :: rs, st'.inp :: vs, fr, st'.trace⟩
  | .restart v => ∃ extra, Reach fo host P ⟨pc, rs, st.inp :: vs, fr, st.trace⟩ ⟨entry, extra ++ rs, v :: vs, fr, st'.trace⟩ ∧
      (tail = true → extra = [])

/-- the simulation statements, one per function of the evaluator (`evalFS`: `SimAt` / `SimE`, `evalListS`: `SimL`,
`evalChainS`: `SimC`, `applyValsS`: `SimA`, `evalBodyS`: `SimB`), each for one amount of fuel -/
def SimAt (fuel : Nat) (e : Expr F) : Prop :=
  ∀ cur st res st', evalFS fo host bodies cur fuel e st = .ok (res, st') →
  ∀ root pc rs vs fr entry, Located P root cur pc e → wfC e = true →
  P.jumps[cur]? = some entry → entry < P.instrs.size → pc + len e < P.instrs.size →
  ResOK fo host P entry pc (pc + len e) (tailR e) rs vs fr st res st'

def SimE (fuel : Nat) : Prop := ∀ e, SimAt fo host P bodies fuel e

def SimL (fuel : Nat) : Prop :=
  ∀ cur items st acc r st', evalListS fo host bodies cur fuel items st acc = .ok (r, st') →
  ∀ root pc rs0 vs fr entry, LocatedList P root cur pc items → wfCList items = true →
  P.jumps[cur]? = some entry → entry < P.instrs.size → pc + lenList items < P.instrs.size →
  match r with
  | .inl vals => ∃ nv, vals = acc.reverse ++ nv ∧ nv.length = items.length ∧
      Reach fo host P ⟨pc, rs0, st.inp :: vs, fr, st.trace⟩
        ⟨pc + lenList items, nv.reverse ++ rs0, st'.inp :: vs, fr, st'.trace⟩
  | .inr v => ∃ extra, Reach fo host P ⟨pc, rs0, st.inp :: vs, fr, st.trace⟩ ⟨entry, extra ++ rs0, v :: vs, fr, st'.trace⟩

/-- else-chain, with or without a final arm, from any arm on; `pcEnd` is the end of the chain (without a final arm under the
strict evaluator some arm matches: the empty chain is an error) -/
def SimC (fuel : Nat) : Prop :=
  ∀ cur arms final st res st', evalChainS fo host bodies cur fuel arms final st = .ok (res, st') →
  ∀ root pc rs vs fr entry join pcEnd, LocatedArms P root cur join pc arms →
  (match final with | some fe => Located P root cur (pc + lenArms arms) fe | none => True) →
  wfCArms arms = true → (match final with | some fe => wfC fe | none => true) = true →
  pcEnd = pc + lenArms arms + (match final with | some fe => len fe | none => 0) →
  (arms ≠ [] → P.jumps[join]? = some pcEnd ∧ join ≠ cur) →
  P.jumps[cur]? = some entry → entry < P.instrs.size → pcEnd < P.instrs.size →
  ResOK fo host P entry pc pcEnd (tailRArms arms && match final with | some e => tailR e | none => true) rs vs fr st res st'

def SimA (fuel : Nat) : Prop :=
  ∀ cur instr useRight f x st res st', applyValsS fo host bodies cur fuel instr useRight f x st = .ok (res, st') →
  ∀ pcA rs vs fr, pcA + 1 < P.instrs.size →
  ∃ v s1, res = .val v ∧
    finish P (applyStep fo host P ⟨pcA, rs, st.inp :: vs, fr, st.trace⟩ instr useRight f x) = .running s1 ∧
    Reach fo host P s1 ⟨pcA + 1, v :: rs, st'.inp :: vs, fr, st'.trace⟩

def SimB (fuel : Nat) : Prop :=
  ∀ cur body st v st', evalBodyS fo host bodies cur fuel body st = .ok (v, st') →
  ∀ t rs vs fr, Located P cur cur t body → wfC body = true → P.jumps[cur]? = some t →
  t + len body < P.instrs.size →
  ∃ rs', Reach fo host P ⟨t, rs, st.inp :: vs, fr, st.trace⟩ ⟨t + len body, v :: rs', st'.inp :: vs, fr, st'.trace⟩ ∧
    (tailR body = true → rs' = rs)
end

variable {fo : FloatOps F} {host : Host F} {P : Prog F} {bodies : List (Nat × Expr F)}

/-- a restart of a sub-expression is a restart of the whole: the operands pending at that point stay behind -/
theorem ResOK.sub_restart {entry pc pcEnd pc' pcEnd' : Nat} {tail tail' : Bool} {rs pend vs : List (Val F)}
    {fr : List (Frame F)} {st0 st st' : St F} {v : Val F}
    (pre : Reach fo host P ⟨pc, rs, st0.inp :: vs, fr, st0.trace⟩ ⟨pc', pend ++ rs, st.inp :: vs, fr, st.trace⟩)
    (sub : ResOK fo host P entry pc' pcEnd' tail' (pend ++ rs) vs fr st (.restart v) st')
    (ht : tail = true → tail' = true ∧ pend = []) :
    ResOK fo host P entry pc pcEnd tail rs vs fr st0 (.restart v) st' := by
  obtain ⟨extra, hr, he⟩ := sub
  refine ⟨extra ++ pend, ?_, ?_⟩
  · rw [List.append_assoc]; exact pre.trans hr
  · intro h
    obtain ⟨h1, h2⟩ := ht h
    simp [he h1, h2]

theorem settle_cases (st : St F) (o : OpOut F) :
    (∃ v st1, settle host st o = .ok (v, st1)) ∨ (∃ e, settle host st o = .err e) := by
  cases o with
  | val v => exact .inl ⟨v, st, rfl⟩
  | defer op l r =>
    simp only [settle]
    cases host.defer op l r <;> simp
  | err e => exact .inr ⟨e, rfl⟩

theorem evalF_inp_trace_val {cur fuel : Nat} {x : Expr F} {st st1 : St F} {v : Val F}
    (_ : evalFS fo host bodies cur fuel x st = .ok (.val v, st1)) : True := trivial

/-- a constant is one `Put` -/
theorem sim_put {fuel : Nat} {e : Expr F} {w : Nat → Val F}
    (hev : ∀ cur st, evalFS fo host bodies cur (fuel + 1) e st = .ok (.val (w cur), st))
    (hloc : ∀ {root cur pc}, Located P root cur pc e → ∃ k, P.instrs[pc]? = some (.put, some k) ∧ P.consts[k]? = some (w cur))
    (hlen : len e = 1) : SimAt fo host P bodies (fuel + 1) e := by
  intro cur st res st' h root pc rs vs fr entry hl _ _ _ hlt
  rw [hev, Out.ok.injEq, Prod.mk.injEq] at h
  obtain ⟨rfl, rfl⟩ := h
  obtain ⟨k, hi, hc⟩ := hloc hl
  rw [hlen] at hlt ⊢
  exact .single (step_put hi hc hlt)

theorem sim_lit {fuel : Nat} (v : Val F) : SimAt fo host P bodies (fuel + 1) (.lit v) :=
  sim_put (w := fun _ => v) (fun _ _ => by simp only [evalFS]) (fun h => by simpa only [Located] using h) rfl

theorem sim_nested {fuel : Nat} (id : Nat) : SimAt fo host P bodies (fuel + 1) (.nested id) :=
  sim_put (w := fun _ => .expr id) (fun _ _ => by simp only [evalFS]) (fun h => by simpa only [Located] using h) rfl

theorem sim_emptyNested {fuel : Nat} : SimAt fo host P bodies (fuel + 1) (.emptyNested) :=
  sim_put (w := fun cur => .expr cur) (fun _ _ => by simp only [evalFS]) (fun h => by simpa only [Located] using h) rfl

theorem sim_input {fuel : Nat} : SimAt fo host P bodies (fuel + 1) (.input) := by
  intro cur st res st' h root pc rs vs fr entry hloc _ _ _ hlt
  simp only [evalFS, Out.ok.injEq, Prod.mk.injEq] at h
  obtain ⟨rfl, rfl⟩ := h
  simp only [Located] at hloc
  simp only [len] at hlt ⊢
  exact .single (step_putValue hloc hlt)

theorem sim_ident {fuel : Nat} (sym : Nat) : SimAt fo host P bodies (fuel + 1) (.ident sym) := by
  intro cur st res st' h root pc rs vs fr entry hloc _ _ _ hlt
  simp only [evalFS] at h
  simp only [Located] at hloc
  obtain ⟨k, hi, hc⟩ := hloc
  simp only [len] at hlt ⊢
  rcases resolveVal_cases (fo := fo) (host := host) st sym with ⟨w, st1, hr⟩ | ⟨e, hr⟩ <;> simp [hr] at h
  obtain ⟨rfl, rfl⟩ := h
  have := resolveVal_inp hr
  simp only [ResOK, this]
  exact .single (step_resolve hi hc hlt rfl rfl hr)

theorem ResOK.toReach {entry pc pcEnd : Nat} {tail : Bool} {rs vs : List (Val F)} {fr : List (Frame F)}
    {st st' : St F} {v : Val F} (h : ResOK fo host P entry pc pcEnd tail rs vs fr st (.val v) st') :
    Reach fo host P ⟨pc, rs, st.inp :: vs, fr, st.trace⟩ ⟨pcEnd, v :: rs, st'.inp :: vs, fr, st'.trace⟩ := h

theorem ResOK.ofReach {entry pc pcEnd : Nat} {tail : Bool} {rs vs : List (Val F)} {fr : List (Frame F)}
    {st st' : St F} {v : Val F}
    (h : Reach fo host P ⟨pc, rs, st.inp :: vs, fr, st.trace⟩ ⟨pcEnd, v :: rs, st'.inp :: vs, fr, st'.trace⟩) :
    ResOK fo host P entry pc pcEnd tail rs vs fr st (.val v) st' := h

theorem apply_reach {fuel cur : Nat} (ihA : SimA fo host P bodies fuel) {instr : Instruction} {useRight : Bool}
    {f x : Val F} {st st' : St F} {res : Res F}
    (h : applyValsS fo host bodies cur fuel instr useRight f x st = .ok (res, st'))
    {pcA : Nat} {regs rs vs : List (Val F)} {fr : List (Frame F)} (hlt : pcA + 1 < P.instrs.size)
    (hstep : step fo host P ⟨pcA, regs, st.inp :: vs, fr, st.trace⟩ =
      finish P (applyStep fo host P ⟨pcA, rs, st.inp :: vs, fr, st.trace⟩ instr useRight f x)) :
    ∃ v, res = .val v ∧
      Reach fo host P ⟨pcA, regs, st.inp :: vs, fr, st.trace⟩ ⟨pcA + 1, v :: rs, st'.inp :: vs, fr, st'.trace⟩ := by
  obtain ⟨v, s1, rfl, hs1, hr⟩ := ihA cur instr useRight f x st res st' h pcA rs vs fr hlt
  exact ⟨v, rfl, .next (by rw [hstep]; exact hs1) hr⟩

/-- a sub-evaluation whose value the evaluator goes on with (`k`), every other outcome handed through: the machine
reaches the end of the sub-expression with the value pushed and the evaluator goes on, or the sub-expression restarts -/
theorem SimE.bind {fuel : Nat} (ih : SimE fo host P bodies fuel) {x : Expr F} {cur : Nat} {st st' : St F} {res : Res F}
    {k : Val F → St F → Out (Res F × St F)}
    (h : (match evalFS fo host bodies cur fuel x st with | .ok (.val v, st1) => k v st1 | other => other) = .ok (res, st'))
    {root pc entry : Nat} (rs vs : List (Val F)) (fr : List (Frame F)) (hloc : Located P root cur pc x) (hwf : wfC x = true)
    (hj : P.jumps[cur]? = some entry) (hent : entry < P.instrs.size) (hlt : pc + len x < P.instrs.size) :
    (∃ w st1, Reach fo host P ⟨pc, rs, st.inp :: vs, fr, st.trace⟩ ⟨pc + len x, w :: rs, st1.inp :: vs, fr, st1.trace⟩ ∧
      k w st1 = .ok (res, st')) ∨
    (∃ w, res = .restart w ∧ evalFS fo host bodies cur fuel x st = .ok (.restart w, st') ∧
      ResOK fo host P entry pc (pc + len x) (tailR x) rs vs fr st (.restart w) st') := by
  rcases eval_cases (fo := fo) (host := host) (bodies := bodies) (cur := cur) (fuel := fuel) (x := x) (st := st)
    with ⟨w, st1, hx⟩ | ⟨w, st1, hx⟩ | ⟨e, hx⟩ | hx <;> simp only [hx] at h
  · exact .inl ⟨w, st1, (ih x cur st _ _ hx root pc rs vs fr entry hloc hwf hj hent hlt).toReach, h⟩
  · simp only [Out.ok.injEq, Prod.mk.injEq] at h
    obtain ⟨rfl, rfl⟩ := h
    exact .inr ⟨w, rfl, hx, ih x cur st _ _ hx root pc rs vs fr entry hloc hwf hj hent hlt⟩
  · simp at h
  · simp at h

/-- a sub-expression in tail position of the whole, after the machine has got to its start: its outcome is the whole's -/
theorem ResOK.after {entry pc pc' pcEnd : Nat} {tail tail' : Bool} {rs vs : List (Val F)} {fr : List (Frame F)}
    {st0 st st' : St F} {res : Res F}
    (pre : Reach fo host P ⟨pc, rs, st0.inp :: vs, fr, st0.trace⟩ ⟨pc', rs, st.inp :: vs, fr, st.trace⟩)
    (sub : ResOK fo host P entry pc' pcEnd tail' rs vs fr st res st') (ht : tail = true → tail' = true) :
    ResOK fo host P entry pc pcEnd tail rs vs fr st0 res st' := by
  cases res with
  | val v => exact ResOK.ofReach (pre.trans sub.toReach)
  | restart v => exact ResOK.sub_restart (pend := []) pre sub (fun h => ⟨ht h, rfl⟩)

theorem sim_unary {fuel : Nat} (ih : SimE fo host P bodies fuel) (ihA : SimA fo host P bodies fuel)
    (op : Instruction) (x : Expr F) : SimAt fo host P bodies (fuel + 1) (.unary op x) := by
  intro cur st res st' h root pc rs vs fr entry hloc hwf hj hent hlt
  have h0 := h
  simp only [Located] at hloc
  obtain ⟨hlx, hi⟩ := hloc
  simp only [wfC, Bool.and_eq_true] at hwf
  have hend : pc + len (.unary op x) = pc + len x + 1 := by simp only [len]; omega
  rw [hend] at hlt ⊢
  simp only [evalFS] at h
  rcases ih.bind h rs vs fr hlx hwf.2 hj hent (by omega) with ⟨w, st1, ihx, hk⟩ | ⟨w, rfl, _, hr⟩
  · split at hk
    · rename_i hop
      have : op = .emptyApply := by simpa using hop
      subst this
      obtain ⟨v, rfl, hr⟩ := apply_reach ihA hk (regs := w :: rs) (rs := rs) hlt (step_emptyApply hi)
      exact ResOK.ofReach (ihx.trans hr)
    · split at hk
      · rename_i o hu
        rcases settle_cases (host := host) st1 o with ⟨v, st2, hs⟩ | ⟨e, hs⟩ <;> simp [hs] at hk
        obtain ⟨rfl, rfl⟩ := hk
        have := settle_inp hs
        simp only [ResOK, this]
        exact ihx.snoc (step_unary hi hlt hu rfl hs)
      · simp at hk
  · exact ResOK.sub_restart (pend := []) (.refl _) hr (fun ht => (noR_sound (by simpa [tailR] using ht) h0).elim)

/-- two operands `x1`, `x2`, evaluated and laid out in this order, then one instruction `op` that the evaluator mirrors
by `K` on the two values -/
theorem sim_two {fuel : Nat} (ih : SimE fo host P bodies fuel) {e x1 x2 : Expr F} {op : Instruction}
    {K : Nat → Val F → Val F → St F → Out (Res F × St F)}
    (hev : ∀ cur st, evalFS fo host bodies cur (fuel + 1) e st =
      match evalFS fo host bodies cur fuel x1 st with
      | .ok (.val w1, st1) =>
        match evalFS fo host bodies cur fuel x2 st1 with
        | .ok (.val w2, st2) => K cur w1 w2 st2
        | other => other
      | other => other)
    (hloc : ∀ root cur pc, Located P root cur pc e →
      Located P root cur pc x1 ∧ Located P root cur (pc + len x1) x2 ∧ P.instrs[pc + len x1 + len x2]? = some (op, none))
    (hwfe : wfC e = true → wfC x1 = true ∧ wfC x2 = true)
    (hlen : len e = len x1 + len x2 + 1) (htail : tailR e = true → noR e = true)
    (hK : ∀ {cur w1 w2 st2 res st'}, K cur w1 w2 st2 = .ok (res, st') → wfC e = true →
      ∀ {pcA : Nat} {rs vs : List (Val F)} {fr : List (Frame F)}, P.instrs[pcA]? = some (op, none) →
      pcA + 1 < P.instrs.size → ∃ v, res = .val v ∧
        Reach fo host P ⟨pcA, w2 :: w1 :: rs, st2.inp :: vs, fr, st2.trace⟩ ⟨pcA + 1, v :: rs, st'.inp :: vs, fr, st'.trace⟩) :
    SimAt fo host P bodies (fuel + 1) e := by
  intro cur st res st' h root pc rs vs fr entry hloc' hwf hj hent hlt
  have h0 := h
  obtain ⟨hl1, hl2, hi⟩ := hloc _ _ _ hloc'
  obtain ⟨w1, w2⟩ := hwfe hwf
  rw [hlen, ← Nat.add_assoc, ← Nat.add_assoc] at hlt ⊢
  rw [hev] at h
  rcases ih.bind h rs vs fr hl1 w1 hj hent (by omega) with ⟨v1, st1, ih1, h⟩ | ⟨w, rfl, _, hr⟩
  · rcases ih.bind h (v1 :: rs) vs fr hl2 w2 hj hent (by omega) with ⟨v2, st2, ih2, h⟩ | ⟨w, rfl, _, hr⟩
    · obtain ⟨v, rfl, hr⟩ := hK h hwf (rs := rs) (vs := vs) (fr := fr) hi hlt
      exact ResOK.ofReach ((ih1.trans ih2).trans hr)
    · exact ResOK.sub_restart (pend := [v1]) ih1 hr (fun ht => (noR_sound (htail ht) h0).elim)
  · exact ResOK.sub_restart (pend := []) (.refl _) hr (fun ht => (noR_sound (htail ht) h0).elim)

theorem sim_binary {fuel : Nat} (ih : SimE fo host P bodies fuel) (ihA : SimA fo host P bodies fuel)
    (op : Instruction) (l r : Expr F) : SimAt fo host P bodies (fuel + 1) (.binary op l r) := by
  refine sim_two ih (x1 := l) (x2 := r) (op := op) (fun _ _ => by simp only [evalFS]; rfl)
    (fun _ _ _ h => by unfold Located at h; exact h)
    (fun h => by simp only [wfC, Bool.and_eq_true] at h; exact ⟨h.1.2, h.2⟩) rfl (fun ht => by simpa [tailR] using ht) ?_
  intro cur wl wr st2 res st' h hwf pcA rs vs fr hi hlt
  simp only [wfC, Bool.and_eq_true] at hwf
  split at h
  · rename_i hop
    have : op = .apply := by simpa using hop
    subst this
    exact apply_reach ihA h hlt (step_apply hi)
  · rename_i hop
    split at h
    · rename_i o hb
      rcases settle_cases (host := host) st2 o with ⟨v, st3, hs⟩ | ⟨e, hs⟩ <;> simp [hs] at h
      obtain ⟨rfl, rfl⟩ := h
      have hmp : op ≠ .makePair := by
        intro hc; subst hc; simp [binOK] at hwf
      rw [settle_inp hs]
      exact ⟨v, rfl, .single (step_binary hi hlt hb (by simpa using hop) hmp rfl hs)⟩
    · simp at h

theorem sim_pair {fuel : Nat} (ih : SimE fo host P bodies fuel)
    (l r : Expr F) : SimAt fo host P bodies (fuel + 1) (.pair l r) := by
  refine sim_two ih (x1 := r) (x2 := l) (op := .makePair) (K := fun _ vr vl st2 => .ok (.val (.pair vl vr), st2))
    (fun _ _ => by simp only [evalFS]; rfl) (fun _ _ _ h => by unfold Located at h; exact h)
    (fun h => by simp only [wfC, Bool.and_eq_true] at h; exact ⟨h.2, h.1⟩) (congrArg (· + 1) (Nat.add_comm ..))
    (fun ht => by simpa [tailR] using ht) ?_
  intro cur vr vl st2 res st' h _ pcA rs vs fr hi hlt
  simp only [Out.ok.injEq, Prod.mk.injEq] at h
  obtain ⟨rfl, rfl⟩ := h
  exact ⟨_, rfl, .single (step_makePair hi hlt)⟩

theorem sim_applyTo {fuel : Nat} (ih : SimE fo host P bodies fuel) (ihA : SimA fo host P bodies fuel)
    (x f : Expr F) : SimAt fo host P bodies (fuel + 1) (.applyTo x f) :=
  sim_two ih (x1 := f) (x2 := x) (op := .apply) (fun _ _ => by simp only [evalFS]; rfl)
    (fun _ _ _ h => by unfold Located at h; exact h)
    (fun h => by simp only [wfC, Bool.and_eq_true] at h; exact ⟨h.2, h.1⟩) (congrArg (· + 1) (Nat.add_comm ..))
    (fun ht => by simpa [tailR] using ht) (fun h _ _ _ _ _ hi hlt => apply_reach ihA h hlt (step_apply hi))

theorem sim_seq {fuel : Nat} (ih : SimE fo host P bodies fuel)
    (a b : Expr F) : SimAt fo host P bodies (fuel + 1) (.seq a b) := by
  intro cur st res st' h root pc rs vs fr entry hloc hwf hj hent hlt
  simp only [Located] at hloc
  obtain ⟨hla, hi, hlb⟩ := hloc
  simp only [wfC, Bool.and_eq_true] at hwf
  have hend : pc + len (.seq a b) = pc + len a + 1 + len b := by simp only [len]; omega
  rw [hend] at hlt ⊢
  simp only [evalFS] at h
  rcases ih.bind h rs vs fr hla hwf.1 hj hent (by omega) with ⟨wa, st1, iha, h⟩ | ⟨w, rfl, hx, hr⟩
  · exact ResOK.after (st := { st1 with inp := wa }) (iha.snoc (step_updateValue hi (by omega)))
      (ih b cur { st1 with inp := wa } res st' h root (pc + len a + 1) rs vs fr entry hlb hwf.2 hj hent (by omega))
      (fun ht => by simp only [tailR, Bool.and_eq_true] at ht; exact ht.2)
  · refine ResOK.sub_restart (pend := []) (.refl _) hr (fun ht => ?_)
    simp only [tailR, Bool.and_eq_true] at ht
    exact (noR_sound ht.1 hx).elim

theorem sim_sideAfter {fuel : Nat} (ih : SimE fo host P bodies fuel)
    (x b : Expr F) : SimAt fo host P bodies (fuel + 1) (.sideAfter x b) := by
  intro cur st res st' h root pc rs vs fr entry hloc hwf hj hent hlt
  have h0 := h
  simp only [Located] at hloc
  obtain ⟨hlx, hi1, hlb, hi2⟩ := hloc
  simp only [wfC, Bool.and_eq_true] at hwf
  have hend : pc + len (.sideAfter x b) = pc + len x + 1 + len b + 1 := by simp only [len]; omega
  rw [hend] at hlt ⊢
  simp only [evalFS] at h
  rcases ih.bind h rs vs fr hlx hwf.1.1 hj hent (by omega) with ⟨wx, st1, ihx, h⟩ | ⟨w, rfl, _, hr⟩
  · have hst := ihx.snoc (step_startSideEffect hi1 (by omega))
    rcases ih.bind h (wx :: rs) (st1.inp :: vs) fr hlb hwf.1.2 hj hent (by omega) with ⟨wb, st2, ihb, h⟩ | ⟨w, rfl, hy, _⟩
    · simp only [Out.ok.injEq, Prod.mk.injEq] at h
      obtain ⟨rfl, rfl⟩ := h
      exact ResOK.ofReach ((hst.trans ihb).snoc (step_endSideEffect hi2 hlt))
    · exact (noR_sound hwf.2 hy).elim
  · exact ResOK.sub_restart (pend := []) (.refl _) hr (fun ht => (noR_sound (by simpa [tailR] using ht) h0).elim)

theorem sim_reapply {fuel : Nat} (ih : SimE fo host P bodies fuel)
    (x : Expr F) : SimAt fo host P bodies (fuel + 1) (.reapply x) := by
  intro cur st res st' h root pc rs vs fr entry hloc hwf hj hent hlt
  simp only [Located] at hloc
  obtain ⟨hlx, hi1, hi2⟩ := hloc
  simp only [wfC] at hwf
  have hend : pc + len (.reapply x) = pc + len x + 2 := by simp only [len]; omega
  rw [hend] at hlt ⊢
  simp only [evalFS] at h
  rcases ih.bind h rs vs fr hlx hwf hj hent (by omega) with ⟨w, st1, ihx, h⟩ | ⟨w, rfl, hx, hr⟩
  · simp only [Out.ok.injEq, Prod.mk.injEq] at h
    obtain ⟨rfl, rfl⟩ := h
    exact ⟨[], (ihx.snoc (step_updateValue hi1 (by omega))).snoc (step_jumpTo hi2 hj hent), fun _ => rfl⟩
  · refine ResOK.sub_restart (pend := []) (.refl _) hr (fun ht => ?_)
    simp only [tailR] at ht
    exact (noR_sound ht hx).elim

end Garnish.Abs
