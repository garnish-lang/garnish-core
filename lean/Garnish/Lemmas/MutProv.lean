/-
Provenance of the cells behind the index list of `clone_index_stack`: every new node with links is the copy of a
node of the original block with the same label, and each of its links is the image of the corresponding link of
the original (the retained address itself, or a copy with the same label at a lower address).
Consequence: the copies of input-value cells form a chain again (`previous` of a copy is an input-value cell).
-/
import Garnish.Lemmas.MutWF
namespace Garnish.BasicOpt
open Garnish

/-- where the link `x'` of a fresh copy at `j` comes from -/
def LinkF (off : Nat) (s0 : Array Cell) (cur : Store) (hi j x x' : Nat) : Prop :=
  (x' = x ∧ x < cur.retention) ∨
  (hi ≤ x' + off ∧ x' + off < j ∧ ∃ shx shx', shape s0 x = some shx ∧ shape cur.cells (x' + off) = some shx' ∧
    shx'.label = shx.label)

/-- every node with links behind the index list is the copy of a node of `s0`, link by link (header of this file) -/
def Prov (off : Nat) (s0 : Array Cell) (cur : Store) (hi : Nat) : Prop :=
  ∀ j, hi ≤ j → j < cur.cells.size → ∀ sh', shape cur.cells j = some sh' → sh'.kids ≠ [] →
    ∃ o sh, shape s0 o = some sh ∧ sh'.label = sh.label ∧ AllRel (LinkF off s0 cur hi j) sh.kids sh'.kids

theorem LinkF.mono {off : Nat} {s0 : Array Cell} {cur cur' : Store} {hi j x x' : Nat}
    (hret : cur'.retention = cur.retention) (hag : AgreeNC cur.cells cur'.cells) (h : LinkF off s0 cur hi j x x') :
    LinkF off s0 cur' hi j x x' := by
  rcases h with ⟨h1, h2⟩ | ⟨h1, h2, shx, shx', h3, h4, h5⟩
  · exact Or.inl ⟨h1, by rw [hret]; exact h2⟩
  · exact Or.inr ⟨h1, h2, shx, shx', h3, shape_agree hag h4, h5⟩

theorem label_sv {cells : Array Cell} {a : Nat} {sh : Shape} (h : shape cells a = some sh) :
    isSV sh.label = svAt cells a := by
  obtain ⟨c, hc, hl⟩ := shape_label h
  rw [hl, svAt, hc]
  cases c <;> rfl

theorem label_value {cells : Array Cell} {a : Nat} {sh : Shape} (h : shape cells a = some sh)
    (hl : sh.label = .value 0 0) : ∃ p v, cells[a]? = some (.value p v) ∧ sh.kids = [p, v] := by
  obtain ⟨c, hc, hl'⟩ := shape_label h
  rw [hl'] at hl
  cases c <;> first | cases hl | skip
  rename_i p v
  exact ⟨p, v, hc, by rw [shape_of_solo hc (sh := ⟨.value 0 0, [], [p, v]⟩) rfl] at h; cases h; rfl⟩

theorem cloneLoop_prov {off : Nat} {s0 : Array Cell} {s1 : Store} {top hi : Nat} (htop : s0.size ≤ top)
    (hnl : ListsWF s0) (hcase : off = 0 ∨ s1.retention ≤ hi) (hoff : s1.retention + off ≤ hi)
    (hpre : FreshPre s0 s1 top hi) :
    ∀ (k : Nat) (cur s' : Store), CInv off s0 s1 top hi k cur → Prov off s0 cur hi →
      Store.cloneLoop off (s1.start + hi) top k cur = .ok s' → Prov off s0 s' hi
  | 0, cur, s', _, hp, h => by
    simp only [Store.cloneLoop, Outcome.ok.injEq] at h
    subst h; exact hp
  | k + 1, cur, s', hinv, hp, h => by
    obtain ⟨index, cur2, nw, s2, st, hinv2, hrest⟩ := cloneLoop_one htop hnl hcase k cur s' hinv h
    refine cloneLoop_prov htop hnl hcase hoff hpre k s2 s' hinv2 ?_ hrest
    have hagc : AgreeNC cur.cells cur2.cells := by
      intro j' d hj' _
      have hjl : j' < cur.cells.size := lt_of_getElem? hj'
      rw [st.keep j' hjl]; exact hj'
    have hret2 : cur2.retention = cur.retention := st.ext.frame.1
    have hret3 : s2.retention = cur2.retention := st.frame2.1
    intro j hj1 hj2 sh' hsh' hkids
    rw [st.size2] at hj2
    by_cases hold : j < cur.cells.size
    -- a cell that was there before the step reads as before: its provenance is kept, along links that stay links
    · obtain ⟨c, hc, _, hk⟩ := hinv.fresh hpre j hj1 hold
      rcases hk with hn | ⟨sh, hsh, _⟩
      · exfalso
        have h2 : cur2.cells[j]? = some c := by rw [st.keep j hold]; exact hc
        have h3 : s2.cells[j]? = some c := by rw [st.other j (by have := hinv.bound; omega)]; exact h2
        rw [neverNode_shape h3 hn] at hsh'; cases hsh'
      · have hfw : shape s2.cells j = some sh := shape_agree st.agree2 (shape_agree hagc hsh)
        rw [hfw] at hsh'
        simp only [Option.some.injEq] at hsh'
        subst hsh'
        obtain ⟨o, sh0, h1, h2, h3⟩ := hp j hj1 hold sh hsh hkids
        exact ⟨o, sh0, h1, h2, AllRel.imp (fun a b hab =>
          (hab.mono hret2 hagc).mono hret3 st.agree2) h3⟩
    -- a cell the step appended with links is the copy (`st.good`) of the item `index`; each of its links was looked up
    -- (`LinkVia`): retained, or found in a map entry at a processed position, whose `Good` names an earlier copy
    · rcases st.news hpre j (by omega) hj2 with hjn | ⟨d, hd, hside⟩
      · rcases st.good with ⟨e1, e2⟩ | ⟨ni, hni1, hni2, hcl⟩
        · exfalso
          have : cur2.retention = s1.retention := by rw [hret2]; exact hinv.ret
          omega
        · have hjni : j = ni := by omega
          subst hjni
          obtain ⟨hkn, hitems⟩ := hpre
          have hi_lt : top + k < hi := by have := hinv.bound; omega
          obtain ⟨sh, hsh⟩ := hitems (top + k) (by omega) hi_lt index (by
            rw [← hinv.pending (top + k) (by omega) hi_lt]; exact st.item)
          obtain ⟨sh'', g1, g2, _, g4⟩ := hcl sh hsh
          have hfw : shape s2.cells j = some sh'' := shape_agree st.agree2 g1
          rw [hfw] at hsh'
          simp only [Option.some.injEq] at hsh'
          subst hsh'
          refine ⟨index, sh, hsh, g2, AllRel.imp_mem (fun x x' hx hl => ?_) g4⟩
          rcases hl with ⟨h1, h2⟩ | ⟨jm, h1, h2, h3⟩
          · exact Or.inl ⟨h1, by rw [hret3]; exact h2⟩
          · rw [st.keep jm (by have := hinv.hiLe; omega)] at h3
            obtain ⟨o, n, hcell, _, hgood⟩ := hinv.done jm (by omega) h2
            rw [h3] at hcell
            simp only [Option.some.injEq, Cell.cloneIndexMap.injEq] at hcell
            obtain ⟨ho, hn⟩ := hcell
            subst ho; subst hn
            rcases hgood with ⟨e1, e2⟩ | ⟨ni2, f1, f2, f3⟩
            · exact Or.inl ⟨e1, by rw [hret3, hret2]; exact e2⟩
            · obtain ⟨shx, hshx⟩ := hkn index sh hsh x hx
              obtain ⟨sh2, q1, q2, _, _⟩ := f3 shx hshx
              have hb := shape_bound q1
              exact Or.inr ⟨by omega, by omega, shx, sh2, hshx,
                by rw [f2]; exact shape_agree st.agree2 (shape_agree hagc q1), q2⟩
      · exfalso
        have h3 : s2.cells[j]? = some d := by rw [st.other j (by have := hinv.bound; omega)]; exact hd
        rcases hside with hn | hl
        · rw [neverNode_shape h3 hn] at hsh'; cases hsh'
        · rw [shape_of_solo h3 hl] at hsh'
          simp only [Option.some.injEq] at hsh'
          subst hsh'
          exact hkids rfl

theorem Prov.chain {off : Nat} {s0 : Array Cell} {cur : Store} {hi : Nat} (hp : Prov off s0 cur hi)
    (hchain : ChainWF s0) (hagree : ∀ (i : Nat) (c : Cell), s0[i]? = some c → cur.cells[i]? = some c)
    {j p' v' : Nat} (hj : hi ≤ j) (hc : cur.cells[j]? = some (.value p' v')) :
    (p' < cur.retention ∧ svAt cur.cells p' = true) ∨
    (hi ≤ p' + off ∧ p' + off < j ∧ svAt cur.cells (p' + off) = true) := by
  have hjl : j < cur.cells.size := lt_of_getElem? hc
  have hsh : shape cur.cells j = some ⟨.value 0 0, [], [p', v']⟩ := shape_of_solo hc rfl
  obtain ⟨o, sh, h1, h2, h3⟩ := hp j hj hjl _ hsh (by simp)
  obtain ⟨p, v, hco, hk⟩ := label_value h1 h2.symm
  rw [hk] at h3
  have hpsv := (hchain o p v hco).2
  cases h3 with
  | cons hab _ =>
    rcases hab with ⟨e1, e2⟩ | ⟨e1, e2, shx, shx', e3, e4, e5⟩
    · subst e1
      left
      refine ⟨e2, ?_⟩
      rcases sv_cell hpsv with ⟨a, b, hcp⟩ | ⟨b, hcp⟩
      · simp [svAt, hagree _ _ hcp, isSV]
      · simp [svAt, hagree _ _ hcp, isSV]
    · right
      refine ⟨e1, e2, ?_⟩
      rw [← label_sv e4, e5, label_sv e3]; exact hpsv

end Garnish.BasicOpt
