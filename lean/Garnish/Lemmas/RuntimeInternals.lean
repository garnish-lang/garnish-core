/-
Refinement lemmas for `type_of`, `type_equal`, the `equal` / `not_equal` wrapper around the read-only model of
`perform_equality_check`, and internals.rs (`access_left_internal`, `access_right_internal`, `access_length_internal`;
`concatenation_len`: with a check function that never answers the work-list of Lemmas/RuntimeConcat2.lean counts every
flattened item and gives all registers back, `Core.concatenationLen_spec`).
-/
import Garnish.Lemmas.RuntimeMakeList
import Garnish.Model.Runtime.StepDomainFull
import Garnish.Lemmas.RuntimeConcat2
import Garnish.Lemmas.RuntimeData
import Garnish.Lemmas.RuntimeAccess2
import Garnish.Lemmas.RuntimeApply2
import Garnish.Model.Runtime.Internals
import Garnish.Props.C11Refine
namespace Garnish.Lemmas.Runtime
open Garnish Gen Garnish.Abs Garnish.Model.Equality Garnish.Model.Runtime

variable {F σ : Type} {S : RStore F σ} (fo : FloatOps F)

theorem getType_of {s : σ} {a : Nat} {t : Ty} (h : Decodes (S.view s) a (.type t)) : getType S a s = .ok (t, s) := by
  cases h with
  | type _ hn => simp [getType, RM.lift, hn, fetch, Outcome.ofOption, Outcome.bind]

theorem getConcatenation_of {s : σ} {a x y : Nat} (h : (S.view s).concatenation a = some (x, y)) :
    getConcatenation S a s = .ok ((x, y), s) := by
  simp [getConcatenation, RM.lift, h, fetch, Outcome.ofOption, Outcome.bind]

/-- the check of `concatenation_len`: never answers -/
def noCheck : Unit → Number F → Nat → RM σ (Option Nat × Unit) := fun _ _ _ => pure (none, ())

theorem noCheck_refines : CheckRefines S (noCheck (F := F) (σ := σ)) (fun _ _ => none) :=
  fun _ _ _ _ _ _ => ⟨none, rfl, rfl⟩

theorem firstHit_none : ∀ (k : Nat) (xs : List (Val F)), firstHit (fun _ _ => (none : Option (Val F))) k xs = none
  | _, [] => rfl
  | k, _ :: xs => by simp [firstHit, firstHit_none (k + 1) xs]

namespace Core
open On

variable {Inv : σ → Prop} {Rd : σ → Nat → Prop} {K : Prop}

/-- `concatenation_len` counts the flattened items: its check never answers, so the walk ends with every item counted -/
theorem concatenationLen_spec (L : LawsK S Inv Rd K) (fuel : Nat) {s : σ} {addr : Nat} {vl vr : Val F}
    (h : Decodes (S.view s) addr (.concat vl vr)) (hf : nodes vl + nodes vr + 1 ≤ fuel)
    (hb : (flatItems vl ++ flatItems vr).length ≤ 2147483647) (hnc : K → ncNodes (.concat vl vr))
    (hinv : Inv s := by inv_tac) (hdp : DeepK K S s (S.regs s) := by deep_tac) :
    ∃ s', concatenationLen fo S fuel addr s = .ok ((flatItems vl ++ flatItems vr).length, s') ∧
      EffI S Inv s s' (S.regs s) (S.vals s) := by
  have hvis : visit false (.concat vl vr) = flatItems vl ++ flatItems vr := by simp [visit, visit_false]
  obtain ⟨r, idx', _, s', _, h1, e1, _, _, hm⟩ :=
    iterateConcatenation_walk fo L false (noCheck_refines (S := S)).walk fuel h hf (by rw [hvis]; exact hb) hnc () [] trivial
  rw [firstHit_none, hvis] at hm
  obtain ⟨_, rfl⟩ := hm
  refine ⟨s', ?_, e1⟩
  have h1' : iterateConcatenation fo S false fuel addr
      (fun (_ : Unit) (_ : Number F) (_ : Nat) => (pure (none, ()) : RM σ (Option Nat × Unit))) () s = _ := h1
  rw [concatenationLen, bind_ok h1']; rfl

theorem typeOfH_spec (L : LawsK S Inv Rd K) {s : σ} {a : Nat} {v : Val F} {rest : List Nat}
    (hregs : S.regs s = a :: rest) (h : Decodes (S.view s) a v)
    (hinv : Inv s := by inv_tac) (hdp : DeepK K S s rest := by deep_tac) :
    PushedI S Inv s (typeOfH S s) none rest (.type v.typeOf) := by
  obtain ⟨s0, h0, e0⟩ := nextRef_cons L hregs
  rw [typeOfH, bind_ok h0, bind_ok (getDataType_of (e0.dec h))]
  exact addPushTail L e0 (adds_i (L.addType v.typeOf s0 (by inv_tac))) (fun _ => nofun)

theorem typeEqualH_spec (L : LawsK S Inv Rd K) {s : σ} {r l : Nat} {vr vl : Val F} {rest : List Nat}
    (hregs : S.regs s = r :: l :: rest) (hl : Decodes (S.view s) l vl) (hr : Decodes (S.view s) r vr)
    (hinv : Inv s := by inv_tac) (hdp : DeepK K S s rest := by deep_tac) :
    PushedI S Inv s (typeEqualH S s) none rest (Abs.typeEqual vl vr) := by
  obtain ⟨s0, h0, e0⟩ := nextTwoRawRef_cons L hregs
  have hr0 := e0.dec hr
  rw [typeEqualH, bind_ok h0]
  simp only []
  rw [bind_ok (getDataType_of (e0.dec hl)), bind_ok (getDataType_of hr0)]
  have key : ∀ (rt : Ty), Abs.typeEqual vl vr = Val.ofBool (vl.typeOf == rt) →
      PushedI S Inv s ((do pushBoolean S (vl.typeOf == rt); pure none : RM σ (Option Nat)) s0) none rest
        (Abs.typeEqual vl vr) := by
    intro rt hrt
    obtain ⟨x, s2, h2, d2, e2⟩ := pushBoolean_spec L (vl.typeOf == rt) s0
    rw [e0.regs, e0.vals] at e2
    rw [hrt]
    exact ⟨x, s2, by rw [bind_ok h2]; rfl, d2, e0.trans e2⟩
  by_cases ht : vr.typeOf = .type_
  · cases vr <;> simp [Val.typeOf] at ht
    rename_i t
    have hb : ((Val.type t : Val F).typeOf == Ty.type_) = true := rfl
    simp only [hb, if_true]
    rw [bind_ok (getType_of hr0)]
    exact key t rfl
  · have hb : (vr.typeOf == Ty.type_) = false := by
      cases vr <;> first | rfl | exact absurd rfl ht
    simp only [hb, Bool.false_eq_true, if_false]
    rw [bind_ok (pure_apply _ s0)]
    refine key vr.typeOf ?_
    cases vr <;> first | rfl | exact absurd rfl ht

/-- `equal` / `not_equal` through the read-only model: C11's verdict, two registers consumed -/
theorem equalH_spec (L : LawsK S Inv Rd K) (fuel : Nat) (negate : Bool) {s : σ} {r l : Nat} {vr vl : Val F}
    {rest : List Nat} (hregs : S.regs s = r :: l :: rest) (hl : Decodes (S.view s) l vl)
    (hr : Decodes (S.view s) r vr) (nl : NoSlice vl) (nr : NoSlice vr) (hf : eqFuel vl vr ≤ fuel)
    (hinv : Inv s := by inv_tac) (hdp : DeepK K S s rest := by deep_tac) :
    PushedI S Inv s (equalH fo S fuel negate s) none rest
      (Val.ofBool (if negate then !valEq fo vl vr else valEq fo vl vr)) := by
  have hc := Garnish.Props.C11Refine.C11_equal_refines_fuel fo (S.view s) l r vl vr rest hl hr nl nr fuel hf
  rw [← hregs] at hc
  have hpop : (S.regs s).length - rest.length = [r, l].length := by rw [hregs]; simp; omega
  obtain ⟨s1, h1, e1, _⟩ := popRegisters_spec L [r, l] rest s hinv hdp hregs
  obtain ⟨x, s2, h2, d2, e2⟩ := pushBoolean_spec L (if negate then !valEq fo vl vr else valEq fo vl vr) s1
  rw [e1.regs, e1.vals] at e2
  refine ⟨x, s2, ?_, d2, e1.trans e2⟩
  unfold equalH
  rw [hc]
  simp only []
  rw [hpop, bind_ok h1, bind_ok h2]; rfl

/-- an existing address is pushed after the operand was popped -/
theorem pushExisting (L : LawsK S Inv Rd K) {s s0 : σ} {rest : List Nat} {x : Nat} {v : Val F}
    (e0 : EffI S Inv s s0 rest (S.vals s)) (d : Decodes (S.view s0) x v) (hv : K → v ≠ .custom) :
    PushedI S Inv s ((do S.pushRegister x; pure none : RM σ (Option Nat)) s0) none rest v := by
  obtain ⟨s1, h1, e1⟩ := pushReg L d hv
  rw [e0.regs, e0.vals] at e1
  exact ⟨x, s1, by rw [bind_ok h1]; rfl, e1.dec d, e0.trans e1⟩

theorem pushUnitTail (L : LawsK S Inv Rd K) {s s0 : σ} {rest : List Nat} (e0 : EffI S Inv s s0 rest (S.vals s)) :
    PushedI S Inv s ((do pushUnit S; pure none : RM σ (Option Nat)) s0) none rest .unit := by
  obtain ⟨x, s1, h1, d1, e1⟩ := pushUnit_spec L s0
  rw [e0.regs, e0.vals] at e1
  exact ⟨x, s1, by rw [bind_ok h1]; rfl, d1, e0.trans e1⟩

theorem accessLeftInternalH_spec (L : LawsK S Inv Rd K) {s : σ} {a : Nat} {v : Val F} {rest : List Nat}
    (hregs : S.regs s = a :: rest) (h : Decodes (S.view s) a v)
    (hres : ∀ x, Abs.accessLeftInternal v = .val x → K → x ≠ .custom)
    (hinv : Inv s := by inv_tac) (hdp : DeepK K S s rest := by deep_tac) :
    RefinesOutI S Inv s (accessLeftInternalH S s) none rest a 0 (Abs.accessLeftInternal v) := by
  obtain ⟨s0, h0, e0⟩ := nextRef_cons L hregs
  have h' := e0.dec h
  rw [accessLeftInternalH, bind_ok h0, bind_ok (getDataType_of h')]
  cases v
  case pair vl vr =>
    cases h' with
    | pair _ hp dl dr =>
      simp only [Val.typeOf]
      rw [bind_ok (getPair_of hp)]
      exact pushExisting L e0 dl (hres _ rfl)
  case range vs ve =>
    cases h' with
    | range _ hrg ds de =>
      simp only [Val.typeOf]
      rw [bind_ok (getRangeRaw_of hrg)]
      simp only []
      rw [bind_ok (getDataType_of ds)]
      cases vs
      case num n => exact pushExisting L e0 ds (hres _ rfl)
      all_goals exact pushUnitTail L e0
  case slice vv vr =>
    cases h' with
    | slice _ hs dv dr =>
      simp only [Val.typeOf]
      rw [bind_ok (getSlice_of hs)]
      exact pushExisting L e0 dv (hres _ rfl)
  case concat vl vr =>
    cases h' with
    | concat _ hc dl dr _ _ _ =>
      simp only [Val.typeOf]
      rw [bind_ok (getConcatenation_of hc)]
      exact pushExisting L e0 dl (hres _ rfl)
  all_goals exact ⟨s0, e0, deferOrUnit_spec L s0 .accessLeftInternal _ _ none⟩

theorem accessRightInternalH_spec (L : LawsK S Inv Rd K) {s : σ} {a : Nat} {v : Val F} {rest : List Nat}
    (hregs : S.regs s = a :: rest) (h : Decodes (S.view s) a v)
    (hres : ∀ x, Abs.accessRightInternal v = .val x → K → x ≠ .custom)
    (hinv : Inv s := by inv_tac) (hdp : DeepK K S s rest := by deep_tac) :
    RefinesOutI S Inv s (accessRightInternalH S s) none rest a 0 (Abs.accessRightInternal v) := by
  obtain ⟨s0, h0, e0⟩ := nextRef_cons L hregs
  have h' := e0.dec h
  rw [accessRightInternalH, bind_ok h0, bind_ok (getDataType_of h')]
  cases v
  case pair vl vr =>
    cases h' with
    | pair _ hp dl dr =>
      simp only [Val.typeOf]
      rw [bind_ok (getPair_of hp)]
      exact pushExisting L e0 dr (hres _ rfl)
  case range vs ve =>
    cases h' with
    | range _ hrg ds de =>
      simp only [Val.typeOf]
      rw [bind_ok (getRangeRaw_of hrg)]
      simp only []
      rw [bind_ok (getDataType_of de)]
      cases ve
      case num n => exact pushExisting L e0 de (hres _ rfl)
      all_goals exact pushUnitTail L e0
  case slice vv vr =>
    cases h' with
    | slice _ hs dv dr =>
      simp only [Val.typeOf]
      rw [bind_ok (getSlice_of hs)]
      exact pushExisting L e0 dr (hres _ rfl)
  case concat vl vr =>
    cases h' with
    | concat _ hc dl dr _ _ _ =>
      simp only [Val.typeOf]
      rw [bind_ok (getConcatenation_of hc)]
      exact pushExisting L e0 dr (hres _ rfl)
  all_goals exact ⟨s0, e0, deferOrUnit_spec L s0 .accessRightInternal _ _ none⟩

theorem pushLenTail (L : LawsK S Inv Rd K) {s s0 : σ} {rest : List Nat} (e0 : EffI S Inv s s0 rest (S.vals s)) (n : Nat)
    (hn : n ≤ 2147483647) :
    PushedI S Inv s ((do pushNumber S (sizeToNumber n); pure none : RM σ (Option Nat)) s0) none rest
      (.num (.int (n : Int))) := by
  obtain ⟨x, s1, h1, d1, e1⟩ := pushNumber_spec L (sizeToNumber n : Number F) s0
  rw [e0.regs, e0.vals] at e1
  rw [sizeToNumber_small hn] at d1
  exact ⟨x, s1, by rw [bind_ok h1]; rfl, d1, e0.trans e1⟩

theorem rangeLenTail (L : LawsK S Inv Rd K) {s s0 : σ} {rest : List Nat} {la ra : Nat}
    (e0 : EffI S Inv s s0 rest (S.vals s)) (x y : Number F) :
    RefinesOutI S Inv s ((do
        let result ← Model.Runtime.rangeLen fo x y
        let addr ← S.addNumber result
        S.pushRegister addr
        pure none : RM σ (Option Nat)) s0) none rest la ra
      (match Abs.rangeLen fo x y with
       | some n => .val (.num n)
       | none => .err .number) := by
  rw [bind_apply, rangeLen_rm]
  cases Abs.rangeLen fo x y with
  | none => rfl
  | some n =>
    simp only []
    exact addPushTail L e0 (adds_i (L.addNumber n s0 (by inv_tac))) (fun _ => nofun)

theorem accessLengthInternalH_spec (L : LawsK S Inv Rd K) (fuel : Nat) {s : σ} {a : Nat} {v : Val F} {rest : List Nat}
    (hregs : S.regs s = a :: rest) (h : Decodes (S.view s) a v) (hd : LengthDomain v) (hf : accessFuel v ≤ fuel)
    (hnc : K → ncConcat v)
    (hinv : Inv s := by inv_tac) (hdp : DeepK K S s rest := by deep_tac) :
    RefinesOutI S Inv s (accessLengthInternalH fo S fuel s) none rest a 0 (Abs.accessLengthInternal fo v) := by
  obtain ⟨s0, h0, e0⟩ := nextRef_cons L hregs
  have h' := e0.dec h
  rw [accessLengthInternalH, bind_ok h0, bind_ok (getDataType_of h')]
  cases v
  case pair vl vr =>
    cases h' with
    | pair _ hp dl dr =>
      simp only [Val.typeOf]
      rw [bind_ok (getPair_of hp)]
      simp only []
      rw [bind_ok (getDataType_of dl)]
      cases vl
      case sym k =>
        obtain ⟨x, s1, h1, d1, e1⟩ := pushNumber_spec L (.int 1 : Number F) s0
        rw [e0.regs, e0.vals] at e1
        exact ⟨x, s1, by simp only [Val.typeOf]; rw [bind_ok h1]; rfl, d1, e0.trans e1⟩
      all_goals exact pushUnitTail L e0
  case list vs =>
    obtain ⟨items, hi, hdl⟩ := listItems_of h'
    have hl := EqualityRefine.decodesList_length hdl
    obtain ⟨hlen', _⟩ := L.listIdx s0 a items hi
    simp only [Val.typeOf]
    rw [bind_ok (readR_ok (g := fun st => S.listLen st a) hlen'), hl]
    exact pushLenTail L e0 vs.length hd
  case chars cs =>
    obtain ⟨hlen', _⟩ := L.charIdx s0 a cs (chars_of h')
    simp only [Val.typeOf]
    rw [bind_ok (readR_ok (g := fun st => S.charLen st a) hlen')]
    exact pushLenTail L e0 cs.length hd
  case bytes cs =>
    obtain ⟨hlen', _⟩ := L.byteIdx s0 a cs (bytes_of h')
    simp only [Val.typeOf]
    rw [bind_ok (readR_ok (g := fun st => S.byteLen st a) hlen')]
    exact pushLenTail L e0 cs.length hd
  case range vs ve =>
    cases h' with
    | range _ hrg ds de =>
      simp only [Val.typeOf]
      rw [bind_ok (getRangeRaw_of hrg)]
      simp only []
      rw [bind_ok (getDataType_of de), bind_ok (getDataType_of ds)]
      by_cases hn : vs.typeOf = .number ∧ ve.typeOf = .number
      · obtain ⟨x, rfl⟩ := typeOf_number hn.1
        obtain ⟨y, rfl⟩ := typeOf_number hn.2
        simp only [Val.typeOf, Abs.accessLengthInternal]
        rw [bind_ok (getNumber_of ds), bind_ok (getNumber_of de)]
        exact rangeLenTail fo L e0 x y
      · have e1 : Abs.accessLengthInternal fo (.range vs ve) = .val .unit := by
          cases vs <;> first | rfl | (cases ve <;> first | rfl | exact absurd ⟨rfl, rfl⟩ hn)
        rw [e1]
        generalize vs.typeOf = t1 at hn ⊢
        generalize ve.typeOf = t2 at hn ⊢
        split
        · exact absurd ⟨rfl, rfl⟩ hn
        · exact pushUnitTail L e0
  case slice vv sr =>
    obtain ⟨ra, rb, rfl⟩ := hd
    cases h' with
    | slice _ hs dv dsr =>
      cases dsr with
      | range _ hrg ds de =>
        simp only [Val.typeOf]
        rw [bind_ok (getSlice_of hs)]
        simp only []
        rw [bind_ok (getRangeRaw_of hrg)]
        simp only []
        rw [bind_ok (getDataType_of ds), bind_ok (getDataType_of de)]
        by_cases hn : ra.typeOf = .number ∧ rb.typeOf = .number
        · obtain ⟨x, rfl⟩ := typeOf_number hn.1
          obtain ⟨y, rfl⟩ := typeOf_number hn.2
          simp only [Val.typeOf, Abs.accessLengthInternal]
          rw [bind_ok (getNumber_of ds), bind_ok (getNumber_of de)]
          exact rangeLenTail fo L e0 x y
        · have e1 : Abs.accessLengthInternal fo (.slice vv (.range ra rb)) = .err .state := by
            cases ra <;> first | rfl | (cases rb <;> first | rfl | exact absurd ⟨rfl, rfl⟩ hn)
          rw [e1]
          generalize ra.typeOf = t1 at hn ⊢
          generalize rb.typeOf = t2 at hn ⊢
          split
          · exact absurd ⟨rfl, rfl⟩ hn
          · rfl
  case concat vl vr =>
    have hd' : (flatItems vl ++ flatItems vr).length ≤ 2147483647 := hd
    obtain ⟨s1, h1, e1⟩ := concatenationLen_spec fo L fuel h' hf hd' hnc
    rw [e0.regs, e0.vals] at e1
    simp only [Val.typeOf]
    rw [bind_ok h1]
    rw [sizeToNumber_small hd']
    exact addPushTail L (e0.trans e1) (adds_i (L.addNumber _ s1 (by inv_tac))) (fun _ => nofun)
  all_goals exact ⟨s0, e0, deferOrUnit_spec L s0 .accessLengthInternal _ _ none⟩

end Core

end Garnish.Lemmas.Runtime
