/-
Brackets, reference side: the reference tree of an index tree with brackets (`toRG`), `attach` versus `insertC`
(`insertC_toRG`), the steps of the reference parser with an arbitrary bracket stack, its run over a segment of the input
(`RefSeg pos toks f g`: from frame `f` to frame `g` whatever the stack and the following tokens; `refSeg_fill`: skipped tokens
only set the `ws` flag), and what a complete operand does to the frame's tree (`PlugFn`).  Complete operands on both
sides, `OpdOK toks`: from any open operand position the tokens `toks` are processed to a complete operand (`OpdRes`), and the reference parser plugs the corresponding reference tree into
its frame (`OpdRef`; only this half needs the tokens to be numbered: the parser stores columns, the reference parser
counts); a value token is such an operand (`opd_value`), and so is a prefix operator before one (`opd_prefix`; `PlugFn.prefix`:
one more `plug` before the operand's own), hence `prefix* value` (`opd_atom`).
-/
import Garnish.Lemmas.ParserBInv
import Garnish.Lemmas.RefRun

namespace Garnish.Spec
open Garnish Garnish.Gen Garnish.Model.Parser

/-- reference tree of an index tree; a node whose definition is a bracket becomes a `group` node -/
def toRG (df : Nat → Definition) : Tree → RTree
  | .nil => .nil
  | .node l i k r =>
    if isBracketDef (df i) then .group (df i) k (toRG df r) else .node (toRG df l) (df i) k (toRG df r)

theorem toRG_congr (df df' : Nat → Definition) : ∀ t : Tree, (∀ i ∈ t.inorder, df i = df' i) → toRG df t = toRG df' t
  | .nil, _ => rfl
  | .node l i k r, h => by
    simp only [toRG]
    rw [toRG_congr df df' l (fun j hj => h j (by simp [Tree.inorder, hj])),
      toRG_congr df df' r (fun j hj => h j (by simp [Tree.inorder, hj])), h i (by simp [Tree.inorder])]

theorem toRG_eq_toRd (df : Nat → Definition) : ∀ t : Tree, (∀ i ∈ t.inorder, isBracketDef (df i) = false) →
    toRG df t = toRd df t
  | .nil, _ => rfl
  | .node l i k r, h => by
    simp only [toRG, toRd, h i (by simp [Tree.inorder]), Bool.false_eq_true, if_false]
    rw [toRG_eq_toRd df l (fun j hj => h j (by simp [Tree.inorder, hj])),
      toRG_eq_toRd df r (fun j hj => h j (by simp [Tree.inorder, hj]))]

theorem toRG_isNil (df : Nat → Definition) (t : Tree) (h : t ≠ .nil) : (toRG df t).isNil = false := by
  cases t with
  | nil => exact absurd rfl h
  | node l i k r => simp only [toRG]; split <;> rfl

/-- what a complete operand does to the frame's tree `cur` -/
structure PlugFn (df : Nat → Definition) (dm : Definition) (sub : Tree) (P : RTree → RTree) : Prop where
  node : ∀ (l : RTree) (a : Definition) (k : Nat) (R : RTree), R.isNil = false → P (.node l a k R) = .node l a k (P R)
  fresh : ∀ (l : RTree) (k : Nat), P (.node l dm k .nil) = .node l dm k (toRG df sub)
  nil : dm ≠ .access → P .nil = toRG df sub

/-- `attach` then the operand = `insertC` with the operand subtree -/
theorem absorb_toRG (df : Nat → Definition) (pr : Nat → Nat) (q : Nat) (rtl : Bool) (n ko : Nat) (sub : Tree) (cb : Nat)
    (P : RTree → RTree) (hP : PlugFn df (df n) sub P) (hdn : isBracketDef (df n) = false) :
    ∀ t : Tree, (∀ i ∈ t.inorder, Table.gen.prio (df i) = some (pr i)) → SpineG df cb t →
      match absorb Table.gen q rtl (df n) ko (toRG df t), absorbC cb pr q rtl n ko sub t with
      | some R', some t' => P R' = toRG df t' ∧ R'.isNil = false
      | none, none => True
      | _, _ => False := by
  intro t
  induction t with
  | nil => intro _ _; simp [toRG, absorb, absorbC]
  | node l i k r _ ihr =>
    intro hp hs
    have hpr : ∀ j ∈ r.inorder, Table.gen.prio (df j) = some (pr j) :=
      fun j hj => hp j (by simp [Tree.inorder, hj])
    have hpi : Table.gen.prio (df i) = some (pr i) := hp i (by simp [Tree.inorder])
    simp only [SpineG] at hs
    by_cases hic : i = cb
    · rw [if_pos hic] at hs
      subst hic
      simp [toRG, hs, absorb, absorbC]
    · rw [if_neg hic] at hs
      have ih := ihr hpr hs.2
      simp only [toRG, hs.1, Bool.false_eq_true, if_false, absorb, absorbC, if_neg hic]
      cases hR : absorb Table.gen q rtl (df n) ko (toRG df r) with
      | some R' =>
        cases hI : absorbC cb pr q rtl n ko sub r with
        | some r' =>
          simp only [hR, hI] at ih ⊢
          obtain ⟨h1, h2⟩ := ih
          refine ⟨?_, rfl⟩
          rw [hP.node _ _ _ R' h2, h1]
          simp [toRG, hs.1]
        | none => simp [hR, hI] at ih
      | none =>
        cases hI : absorbC cb pr q rtl n ko sub r with
        | some r' => simp [hR, hI] at ih
        | none =>
          simp only [hpi]
          by_cases hst : stops q rtl (pr i) = true
          · simp only [hst, if_true]
            refine ⟨?_, rfl⟩
            rw [hP.node _ _ _ _ (by rfl), hP.fresh]
            simp [toRG, hs.1, hdn, newOpS]
          · simp [hst]

theorem insertC_toRG (df : Nat → Definition) (pr : Nat → Nat) (q : Nat) (rtl : Bool) (n ko : Nat) (sub : Tree) (cb : Nat)
    (P : RTree → RTree) (hP : PlugFn df (df n) sub P) (hdn : isBracketDef (df n) = false)
    (t : Tree) (hp : ∀ i ∈ t.inorder, Table.gen.prio (df i) = some (pr i)) (hs : SpineG df cb t) :
    P (attach Table.gen q rtl (df n) ko (toRG df t)) = toRG df (insertC cb pr q rtl n ko sub t) := by
  have h := absorb_toRG df pr q rtl n ko sub cb P hP hdn t hp hs
  unfold attach insertC
  cases hR : absorb Table.gen q rtl (df n) ko (toRG df t) with
  | some R' =>
    cases hI : absorbC cb pr q rtl n ko sub t with
    | some t' => simp only [hR, hI] at h; exact h.1
    | none => simp [hR, hI] at h
  | none =>
    cases hI : absorbC cb pr q rtl n ko sub t with
    | some t' => simp [hR, hI] at h
    | none =>
      simp only [hP.fresh]
      simp [toRG, hdn, newOpS]

/-- the reference parser runs over the segment `toks` from the frame `f` to the frame `g`, whatever is on the stack below
    and whatever follows -/
def RefSeg (pos : Nat) (toks : List PToken) (f g : Frame) : Prop :=
  ∀ (stack : List Frame) (rest : List PToken), refRun Table.gen f stack pos toks rest = .ok (g, stack)

theorem RefSeg.nil (pos : Nat) (f : Frame) : RefSeg pos [] f f := fun _ _ => rfl

/-- one segment after the other, also when the stack changes in between or the run depends on what follows -/
theorem refRun_append_ok {a b rest : List PToken} {f g h : Frame} {S S' S'' : List Frame} {pos : Nat}
    (h1 : refRun Table.gen f S pos a (b ++ rest) = .ok (g, S'))
    (h2 : refRun Table.gen g S' (pos + a.length) b rest = .ok (h, S'')) :
    refRun Table.gen f S pos (a ++ b) rest = .ok (h, S'') := by
  rw [refRun_append, h1]; exact h2

theorem RefSeg.append {pos : Nat} {a b : List PToken} {f g h : Frame} (h1 : RefSeg pos a f g)
    (h2 : RefSeg (pos + a.length) b g h) : RefSeg pos (a ++ b) f h :=
  fun stack rest => refRun_append_ok (h1 stack (b ++ rest)) (h2 stack rest)

theorem refRun_one {pos : Nat} {t : PToken} {f g : Frame} {S S' : List Frame} {rest : List PToken}
    (h : refStep Table.gen f S pos t rest = .ok (g, S')) : refRun Table.gen f S pos [t] rest = .ok (g, S') := by
  simp only [refRun, List.nil_append, h, Outcome.bind]

theorem RefSeg.one {pos : Nat} {t : PToken} {f g : Frame}
    (h : ∀ stack rest, refStep Table.gen f stack pos t rest = .ok (g, stack)) : RefSeg pos [t] f g :=
  fun stack rest => refRun_one (h stack rest)

theorem refLoop_of_run {pos : Nat} {toks rest : List PToken} {f g : Frame} {S S' : List Frame}
    (h : refRun Table.gen f S pos toks rest = .ok (g, S')) :
    refLoop Table.gen f S pos (toks ++ rest) = refLoop Table.gen g S' (pos + toks.length) rest := by
  rw [refLoop_append, h]; rfl

theorem RefSeg.loop {pos : Nat} {toks : List PToken} {f g : Frame} (h : RefSeg pos toks f g) (stack : List Frame)
    (rest : List PToken) :
    refLoop Table.gen f stack pos (toks ++ rest) = refLoop Table.gen g stack (pos + toks.length) rest :=
  refLoop_of_run (h stack rest)

def isSepTok (t : PToken) : Bool := (getDefinition t.type).2 == .subexpression

/-- the tokens the frame `f` skips: trivia, and separators inside a `( )` group or directly after a separator / `{` -/
def skippedBy (f : Frame) (w : PToken) : Prop :=
  isTriviaTok w = true ∨ (isSepTok w = true ∧ (f.inGroup = true ∨ f.prevSep = true))

/-- the skipped tokens after which the next operand is a list item -/
def setsWs (f : Frame) (w : PToken) : Bool := w.type == .whitespace || (f.inGroup && isSepTok w)

/-- **a run of skipped tokens only sets the `ws` flag** -/
theorem refSeg_fill : ∀ (ws : List PToken) (pos : Nat) (f : Frame), (∀ w ∈ ws, skippedBy f w) →
    RefSeg pos ws f { f with ws := f.ws || ws.any (setsWs f) }
  | [], pos, f, _ => by
    have : ({ f with ws := f.ws || [].any (setsWs f) } : Frame) = f := by cases f; simp
    rw [this]; exact RefSeg.nil pos f
  | w :: ws, pos, f, h => by
    have hw := h w (List.mem_cons_self ..)
    have hstep : ∀ stack rest, refStep Table.gen f stack pos w rest = .ok ({ f with ws := f.ws || setsWs f w }, stack) := by
      intro stack rest
      rw [refStep_eq]
      rcases hw with htr | ⟨hsp, hf⟩
      · have ha : Table.gen.act w.type = (if w.type == .whitespace then .space else .skip) ∧ isSepTok w = false := by
          unfold isSepTok; rcases trivia_types htr with h | h | h <;> rw [h] <;> exact ⟨rfl, rfl⟩
        rw [ha.1]
        simp only [setsWs, ha.2, Bool.and_false, Bool.or_false]
        cases w.type == TokenType.whitespace <;> simp only [Act.run, Bool.or_true, Bool.or_false] <;> rfl
      · have hs : (getDefinition w.type).2 = .subexpression := eq_of_beq hsp
        have hnw : (w.type == TokenType.whitespace) = false := by
          cases hc : w.type == TokenType.whitespace with
          | false => rfl
          | true => rw [beq_iff_eq] at hc; rw [hc] at hs; cases hs
        rw [separator_act Table.gen hs]
        simp only [Act.run, setsWs, hsp, hnw, Bool.false_or, Bool.and_true]
        by_cases hig : f.inGroup = true
        · simp [hig]
        · have hps : f.prevSep = true := by rcases hf with h | h; exact absurd h hig; exact h
          have : ({ f with prevSep := true } : Frame) = { f with ws := f.ws || false } := by cases f; simp_all
          simp [hig, hps, this]
    have ih := refSeg_fill ws (pos + 1) { f with ws := f.ws || setsWs f w } (fun x hx => h x (List.mem_cons_of_mem _ hx))
    have e : ({ f with ws := f.ws || (w :: ws).any (setsWs f) } : Frame) =
        { ({ f with ws := f.ws || setsWs f w } : Frame) with
          ws := ({ f with ws := f.ws || setsWs f w } : Frame).ws ||
            ws.any (setsWs { f with ws := f.ws || setsWs f w }) } := by
      simp only [List.any_cons, Bool.or_assoc]; rfl
    rw [e]
    exact (RefSeg.one hstep).append ih

theorem refSeg_trivia (ws : List PToken) (hws : ∀ w ∈ ws, isTriviaTok w = true) (pos : Nat) (f : Frame) :
    ∃ b, RefSeg pos ws f { f with ws := b } :=
  ⟨_, refSeg_fill ws pos f (fun w hw => Or.inl (hws w hw))⟩

/-- the reference parser expects an operand -/
def OpenLast (l : Last) : Prop := l = .op ∨ l = .start ∨ l = .optOp ∨ l = .sep

theorem lastAfter_open (s : SecDef) : OpenLast (lastAfter s) := by
  unfold lastAfter; split
  · exact Or.inr (Or.inr (Or.inl rfl))
  · exact Or.inl rfl

theorem openLast_before {f : Frame} (hg : OpenLast f.last) (pos : Nat) : beforeOperand Table.gen f pos = .ok f :=
  beforeOperand_open _ f pos (by rcases hg with h | h | h | h <;> rw [h] <;> simp)
    (by rcases hg with h | h | h | h <;> rw [h] <;> simp)

theorem ref_op_stepK (f : Frame) (stack : List Frame) (pos q : Nat) (o : PToken) (rest : List PToken)
    (ho : isBin3Tok o = true) (hq : priority (getDefinition o.type).1 = some q)
    (hl : f.last = .operand ∨ f.last = .suffix) :
    refStep Table.gen f stack pos o rest =
      .ok ({ f with cur := attach Table.gen q ((getDefinition o.type).2 == .binaryRightToLeft) (getDefinition o.type).1 pos f.cur,
                    last := lastAfter (getDefinition o.type).2, ws := false, prevSep := false }, stack) := by
  rw [refStep_eq, operator_act Table.gen (bin3_secdef ho) hq]
  exact Act.run_operator _ hl ..

theorem ref_suffix_stepK (f : Frame) (stack : List Frame) (pos q : Nat) (s : PToken) (rest : List PToken)
    (hs : isSuffixTok s = true) (hq : priority (getDefinition s.type).1 = some q)
    (hl : f.last = .operand ∨ f.last = .suffix) :
    refStep Table.gen f stack pos s rest =
      .ok ({ f with cur := attach Table.gen q false (getDefinition s.type).1 pos f.cur, last := .suffix, ws := false,
                    prevSep := false }, stack) := by
  rw [refStep_eq, suffix_act Table.gen (eq_of_beq hs) hq]
  exact Act.run_operator _ hl ..

theorem ref_prefix_stepK (g : Frame) (stack : List Frame) (pos : Nat) (p : PToken) (rest : List PToken)
    (hp : isPrefixTok p = true) (hg : OpenLast g.last) :
    refStep Table.gen g stack pos p rest =
      .ok ({ g with cur := plug g.cur (.node .nil (getDefinition p.type).1 pos .nil), last := .op, ws := false,
                    prevSep := false }, stack) := by
  rw [refStep_eq, operand_act Table.gen (l := .op) (Or.inr ⟨eq_of_beq hp, rfl⟩)]
  simp only [Act.run, openLast_before hg, Outcome.bind]
  rfl

theorem ref_atom_stepK (g : Frame) (stack : List Frame) (pos : Nat) (a : PToken) (rest : List PToken)
    (ha : isAtom10 a = true) (hg : OpenLast g.last) :
    refStep Table.gen g stack pos a rest =
      .ok ({ g with cur := plug g.cur (.node .nil (getDefinition a.type).1 pos .nil), last := .operand, ws := false,
                    prevSep := false }, stack) := by
  obtain ⟨hsa, hqa⟩ := atom10_facts ha
  rw [refStep_eq, operand_act Table.gen (l := .operand) (Or.inl ⟨hsa, rfl, prio10_not_special hqa⟩)]
  simp only [Act.run, openLast_before hg, Outcome.bind]
  rfl

theorem ref_open_stepK (g : Frame) (stack : List Frame) (pos : Nat) (o : PToken) (rest : List PToken)
    (ho : isOpenTok o = true) (hg : OpenLast g.last) :
    refStep Table.gen g stack pos o rest =
      .ok ({ ctx := some ((getDefinition o.type).1, pos), cur := .nil, last := .start, ws := false,
             prevSep := (getDefinition o.type).1 == .nestedExpression }, { g with ws := false } :: stack) := by
  rw [refStep_eq, opener_act Table.gen (open_def_facts ho).1]
  simp only [Act.run, openLast_before hg, Outcome.bind]
  rfl

def isCloseFor (d : Definition) (c : PToken) : Prop :=
  (d = .group ∧ c.type = .endGroup) ∨ (d = .nestedExpression ∧ c.type = .endExpression)

theorem closeFor_act {gd : Definition} {c : PToken} (hc : isCloseFor gd c) :
    Table.gen.act c.type = .closer ∧ (closerFor gd != some c.type) = false := by
  rcases hc with ⟨rfl, h⟩ | ⟨rfl, h⟩ <;> rw [h] <;> exact ⟨rfl, rfl⟩

theorem ref_close_stepK (f parent : Frame) (stack : List Frame) (pos : Nat) (c : PToken) (rest : List PToken)
    (gd : Definition) (gpos : Nat) (hctx : f.ctx = some (gd, gpos)) (hc : isCloseFor gd c)
    (hl : (f.last == .op || f.last == .sep) = false) :
    refStep Table.gen f (parent :: stack) pos c rest =
      .ok ({ parent with cur := plug parent.cur (.group gd gpos f.cur), last := .operand, ws := false,
                         prevSep := false }, stack) := by
  rw [refStep_eq, (closeFor_act hc).1]
  exact Act.run_closer _ hctx (closeFor_act hc).2 hl ..

theorem plugLeaves_isNil_false : ∀ (xs : List (Definition × Nat)) (R : RTree), R.isNil = false →
    (plugLeaves R xs).isNil = false
  | [], _, h => h
  | (_, _) :: xs, R, h => plugLeaves_isNil_false xs _ (plug_isNil_false R _ h)

/-- prefix nodes around a primary -/
def wrapR : List (Definition × Nat) → RTree → RTree
  | [], Y => Y
  | (d, k) :: ps, Y => .node .nil d k (wrapR ps Y)

theorem plug_wrap_group (gd : Definition) (gk : Nat) (inner : RTree) :
    ∀ (ps : List (Definition × Nat)) (l : RTree) (dA : Definition) (k : Nat),
      (∀ p ∈ ps, p.1 ≠ Definition.identifier ∧ p.1 ≠ Definition.access) →
      plug (plugLeaves (.node l dA k .nil) ps) (.group gd gk inner) = .node l dA k (wrapR ps (.group gd gk inner))
  | [], l, dA, k, _ => by
    simp only [plugLeaves, plug, RTree.isNil, if_true, wrapR]
    congr 1
    split <;> rfl
  | (d, kd) :: ps, l, dA, k, h => by
    have hd := h (d, kd) (List.mem_cons_self ..)
    have hud : underDef dA d = d := by unfold underDef; cases d <;> first | rfl | exact absurd rfl hd.1
    simp only [plugLeaves, plug_fresh, hud]
    rw [plugLeaves_node _ _ _ _ _ (by rfl)]
    have hnn : (plugLeaves (.node .nil d kd .nil) ps).isNil = false := plugLeaves_isNil_false ps _ (by rfl)
    have : plug (.node l dA k (plugLeaves (.node .nil d kd .nil) ps)) (.group gd gk inner) =
        .node l dA k (plug (plugLeaves (.node .nil d kd .nil) ps) (.group gd gk inner)) := by
      simp [plug, hnn]
    rw [this, plug_wrap_group gd gk inner ps .nil d kd (fun p hp => h p (List.mem_cons_of_mem _ hp))]
    rfl

/-- `current_group` is the top of the group stack -/
def CGOK (st : PState) : Prop :=
  st.currentGroup = if st.groupStack.isEmpty then none else some (st.groupStack.size - 1)

/-- the kind of the innermost frame: inside a `( )` group or not -/
def KindOK (st : PState) (ug : Option Nat) (inG : Bool) : Prop :=
  match ug with
  | none => inG = false
  | some g => ∃ G, st.nodes[g]? = some G ∧ (G.definition == Definition.group) = inG

theorem KindOK.congr {st st' : PState} {ug : Option Nat} {inG : Bool} (h : KindOK st ug inG)
    (hd : ∀ g, ug = some g → (st'.nodes[g]?).map (·.definition) = (st.nodes[g]?).map (·.definition)) :
    KindOK st' ug inG := by
  cases ug with
  | none => exact h
  | some g =>
    obtain ⟨G, hG, hdef⟩ := h
    obtain ⟨G1, h1, h2⟩ := node_of_defs (hd g rfl) hG
    exact ⟨G1, h1, by rw [h2]; exact hdef⟩

theorem KindOK.transfer {st0 st1 : PState} {ug : Option Nat} {inG : Bool} {base : Nat} (h : KindOK st0 ug inG)
    (hb : ∀ g, ug = some g → g < base)
    (ho : ∀ j, j < base → (st1.nodes[j]?).map (setRight none) = (st0.nodes[j]?).map (setRight none)) :
    KindOK st1 ug inG :=
  h.congr fun g hg => by rw [← map_def_setRight none, ho g (hb g hg), map_def_setRight]

theorem underDef_not_access {dl : Definition} (da : Definition) (h : dl ≠ .access) : underDef dl da = da := by
  have : (dl == Definition.access) = false := by simpa using h
  unfold underDef
  cases da <;> simp [this]

theorem plugFn_leaf (df : Nat → Definition) (dm da : Definition) (n k : Nat) (hdn : df n = underDef dm da)
    (hnb : isBracketDef (underDef dm da) = false) :
    PlugFn df dm (.node .nil n k .nil) (fun R => plug R (.node .nil da k .nil)) := by
  have hsub : toRG df (.node .nil n k .nil) = .node .nil (underDef dm da) k .nil := by
    simp only [toRG, hdn, hnb, Bool.false_eq_true, if_false]
  refine ⟨fun l a k' R hR => by simp [plug, hR], fun l k' => by rw [plug_fresh, hsub], fun h => ?_⟩
  rw [hsub, underDef_not_access da h]; rfl

/-- an operand that is no lone identifier is plugged in as it is -/
theorem plugFn_plug (df : Nat → Definition) (dm : Definition) (sub : Tree)
    (h : asProperty (toRG df sub) = toRG df sub) : PlugFn df dm sub (fun R => plug R (toRG df sub)) := by
  refine ⟨?_, ?_, ?_⟩
  · intro l a k R hR
    simp [plug, hR]
  · intro l k
    simp only [plug, RTree.isNil, if_true]
    congr 1
    split
    · exact h
    · rfl
  · intro _; rfl

/-- a prefix operator `dp` (node `n`) on top of a complete operand: one more `plug` before the operand's own -/
theorem PlugFn.prefix {df : Nat → Definition} {dm dp : Definition} {n kp : Nat} {sub : Tree} {P : RTree → RTree}
    (hP : PlugFn df dp sub P) (hdn : df n = dp) (hnb : isBracketDef dp = false) (hid : dp ≠ .identifier)
    (hac : dp ≠ .access) :
    PlugFn df dm (.node .nil n kp sub) (fun R => P (plug R (.node .nil dp kp .nil))) := by
  have hud : ∀ dA, underDef dA dp = dp := fun dA => by unfold underDef; cases dp <;> first | rfl | exact absurd rfl hid
  have hsub : toRG df (.node .nil n kp sub) = .node .nil dp kp (toRG df sub) := by
    simp only [toRG, hdn, hnb, Bool.false_eq_true, if_false]
  refine ⟨?_, ?_, ?_⟩
  · intro l a k R hR
    have : plug (.node l a k R) (.node .nil dp kp .nil) = .node l a k (plug R (.node .nil dp kp .nil)) := by
      simp [plug, hR]
    simp only [this]
    exact hP.node l a k _ (plug_isNil_false R _ hR)
  · intro l k
    simp only [plug_fresh, hud]
    rw [hP.node l dm k _ (by rfl), hP.fresh, hsub]
  · intro _
    have : plug RTree.nil (.node .nil dp kp .nil) = .node .nil dp kp .nil := rfl
    simp only [this]
    rw [hP.fresh, hsub]

/-- reference side of a complete operand that starts at position `pos`: from any frame that expects an operand the
    reference parser plugs `P` into the frame's tree -/
def OpdRef (pos : Nat) (toks : List PToken) (P : RTree → RTree) : Prop :=
  ∀ f : Frame, OpenLast f.last →
    RefSeg pos toks f { f with cur := P f.cur, last := .operand, ws := false, prevSep := false }

/-- **the tokens `toks` form a complete operand**, on both sides; positions matter on the reference side only, which counts
    them, where the parser reads the tokens' columns -/
def OpdOK (c : Nat) (toks : List PToken) : Prop :=
  ∀ (st1 : PState) (ug : Option Nat), OpenB st1 ug → AllPrio st1.nodes → CGOK st1 → ∀ (rest : List PToken),
    ∃ (st2 : PState) (sub : Tree) (cb : Nat) (P : RTree → RTree),
      loop st1 (toks ++ rest) = loop st2 rest ∧ OpdRes st1 st2 sub cb ∧
      PlugFn (dfOf st2.nodes) (aboveDef st1) sub P ∧
      sub.inorder.length + st1.nodes.size + c = st2.nodes.size ∧
      ∀ (pos : Nat), NumberedFrom pos toks → OpdRef pos toks P

theorem numbered_prefix : ∀ (l1 l2 : List PToken) (k : Nat), NumberedFrom k (l1 ++ l2) → NumberedFrom k l1
  | [], _, _, _ => trivial
  | _ :: l1, l2, k, h => ⟨h.1, numbered_prefix l1 l2 (k + 1) h.2⟩

theorem numbered_ext : ∀ (l1 l2 : List PToken) (k : Nat), NumberedFrom k l1 → NumberedFrom (k + l1.length) l2 →
    NumberedFrom k (l1 ++ l2)
  | [], _, _, _, h => by simpa using h
  | _ :: l1, l2, k, h1, h2 => by
    refine ⟨h1.1, numbered_ext l1 l2 (k + 1) h1.2 ?_⟩
    simp only [List.length_cons] at h2
    have e : k + 1 + l1.length = k + (l1.length + 1) := by omega
    rw [e]; exact h2

theorem opd_value (a : PToken) (ha : isAtom10 a = true) : OpdOK 0 [a] := by
  intro st1 ug hO hprios _ rest
  obtain ⟨hsa, hqa⟩ := atom10_facts ha
  obtain ⟨st2, h2, hn2, ll2, c2, n2, g2, cg2, p2⟩ := value_stepB st1 ug a rest.isEmpty hO ha
  have hVprio : priority (underDef (aboveDef st1) (getDefinition a.type).1) = some 10 := underDef_prio hqa
  have hs2 : st2.nodes.size = st1.nodes.size + 1 := by rw [hn2]; simp
  have hleaf : st2.nodes[st1.nodes.size]? = some ⟨underDef (aboveDef st1) (getDefinition a.type).1,
      (getDefinition a.type).2, st1.lastLeft, none, none, a⟩ := by rw [hn2]; simp
  have hlt2 : ∀ j, j < st1.nodes.size → st2.nodes[j]? = st1.nodes[j]? := by
    intro j hj; rw [hn2, Array.getElem?_push, if_neg (by omega)]
  have hdf : dfOf st2.nodes st1.nodes.size = underDef (aboveDef st1) (getDefinition a.type).1 := by simp [dfOf, hleaf]
  refine ⟨st2, .node .nil st1.nodes.size a.col .nil, st2.nodes.size,
    fun R => plug R (.node .nil (getDefinition a.type).1 a.col .nil), ?_, ?_, ?_,
    by simp only [Tree.inorder, List.nil_append, List.length_cons, List.length_nil]; omega, ?_⟩
  · simp only [List.cons_append, List.nil_append, loop, h2, Outcome.bind]
  · refine ⟨hlt2, by omega, isTreeAt_node _ hleaf (by rw [hO.link]) (.nil _) (.nil _) rfl, ?_, n2, g2, cg2, ?_, ?_, ?_, ?_,
      ⟨_, _, ll2, hleaf, Or.inl (prio10_valueLike hVprio)⟩⟩
    · rw [hs2]; exact sortedIn_range' st1.nodes.size 1 _ (by omega)
    · refine .plain (by rw [ll2, hs2]; rfl) ⟨_, by rw [hs2, Nat.add_sub_cancel]; exact hleaf, rfl,
        prio10_not_groupLike hVprio⟩ (by rw [hs2]; rfl) ?_
      intro nd hnd
      rw [hs2, Nat.add_sub_cancel, hleaf] at hnd
      injection hnd with hnd; rw [← hnd]
      rcases hsa with h | h <;> rw [h] <;> rfl
    · simp only [SpineG, if_neg (show st1.nodes.size ≠ st2.nodes.size by omega), hdf]
      exact ⟨prio10_not_bracket hVprio, trivial⟩
    · exact allPrio_of_defs hprios (fun j hj => by rw [hlt2 j hj]) hs2 hleaf hVprio
    · rcases p2 with h | h
      · exact Or.inl h
      · exact Or.inr (Or.inl h)
  · exact plugFn_leaf _ _ _ _ _ hdf (prio10_not_bracket hVprio)
  · intro pos hnum f hf
    rw [hnum.1]
    exact RefSeg.one fun stack rest => ref_atom_stepK f stack pos a rest ha hf

/-- **a prefix operator before a complete operand**: the operand's tree hangs below the operator's node -/
theorem opd_prefix {c : Nat} {x : List PToken} (p : PToken) (hp : isPrefixTok p = true) (hx : OpdOK c x) (hxne : x ≠ []) :
    OpdOK c (p :: x) := by
  intro st1 ug hO hprios hcg rest
  have hs : (getDefinition p.type).2 = .unaryPrefix := by unfold isPrefixTok at hp; simpa using hp
  obtain ⟨q, hq, _, _, f2, f3, _, f5⟩ := prefix_def_facts p.type hs
  have hnb := not_bracket_of_not_groupLike f5
  have hsP : (stepP st1 p).nodes.size = st1.nodes.size + 1 := by simp [stepP]
  have hnP : (stepP st1 p).nodes[st1.nodes.size]? =
      some ⟨(getDefinition p.type).1, .unaryPrefix, st1.nextParent, none, some (st1.nodes.size + 1), p⟩ := by
    simp [stepP]
  have hltP : ∀ j, j < st1.nodes.size → (stepP st1 p).nodes[j]? = st1.nodes[j]? := by
    intro j hj; simp only [stepP]; rw [Array.getElem?_push, if_neg (by omega)]
  obtain ⟨st2, sub, cb, P, hloop, hres, hP, hcnt, href⟩ :=
    hx (stepP st1 p) ug (hO.stepP p hp) (allPrio_of_defs hprios (fun j hj => by rw [hltP j hj]) hsP hnP hq) hcg rest
  have hn2 : st2.nodes[st1.nodes.size]? =
      some ⟨(getDefinition p.type).1, .unaryPrefix, st1.nextParent, none, some (st1.nodes.size + 1), p⟩ := by
    rw [hres.below _ (by omega)]; exact hnP
  have hdn : dfOf st2.nodes st1.nodes.size = (getDefinition p.type).1 := by simp [dfOf, hn2]
  have hcb := hres.cb_ge
  have hsubne : sub.inorder ≠ [] := List.ne_nil_of_mem hres.tree.root_mem
  have habove : aboveDef (stepP st1 p) = (getDefinition p.type).1 := by
    unfold aboveDef; rw [hsP, Nat.add_sub_cancel, hnP]; rfl
  refine ⟨st2, .node .nil st1.nodes.size p.col sub, cb,
    fun R => P (plug R (.node .nil (getDefinition p.type).1 p.col .nil)), ?_, ?_, ?_, ?_, ?_⟩
  · simp only [List.cons_append, loop]
    have he : (x ++ rest).isEmpty = false := isEmpty_append_of_ne [] (List.append_ne_nil_of_left_ne_nil hxne rest)
    rw [he, step_prefix_eqG st1 p hp hO.cfl hO.nnl hO.hug hO.adj hO.comp_prefix]
    exact hloop
  · refine ⟨fun j hj => ?_, by have := hres.size; omega, ?_, ?_, hres.nnl, hres.gs, hres.cg, ?_, ?_, hres.prios,
      hres.prev, hres.ready⟩
    · rw [hres.below j (by omega)]; exact hltP j hj
    · refine isTreeAt_node _ hn2 rfl (.nil _) ?_ rfl
      have := hres.tree; rw [hsP] at this; exact this
    · have := hres.inord; rw [hsP] at this
      exact this.cons (by have := hres.size; omega)
    · cases hres.bot with
      | plain hl hb h3 h4 =>
        refine .plain hl hb ?_ h4
        simp only [Tree.inorder, List.nil_append]
        rw [List.getLast?_cons_of_ne_nil hsubne]; exact h3
      | closed _ G h1 h2 h3 h4 h5 h6 => exact .closed _ G h1 h2 h3 h4 (Or.inr h5) h6
    · simp only [SpineG, if_neg (show st1.nodes.size ≠ cb by omega), hdn]
      exact ⟨hnb, hres.spine⟩
  · exact (habove ▸ hP).prefix hdn hnb f2 f3
  · simp only [Tree.inorder, List.nil_append, List.length_cons]; omega
  · intro pos hnum f hf
    rw [hnum.1]
    exact (RefSeg.one fun stack rest => ref_prefix_stepK f stack pos p rest hp hf).append (href _ hnum.2 _ (Or.inl rfl))

theorem opd_prefixes {c : Nat} {x : List PToken} (hx : OpdOK c x) (hxne : x ≠ []) :
    ∀ pre : List PToken, (∀ p ∈ pre, isPrefixTok p = true) → OpdOK c (pre ++ x)
  | [], _ => hx
  | p :: pre, h =>
    opd_prefix p (h p (List.mem_cons_self ..)) (opd_prefixes hx hxne pre (fun q hq => h q (List.mem_cons_of_mem _ hq)))
      (List.append_ne_nil_of_right_ne_nil _ hxne)

/-- `prefix* value` is a complete operand -/
theorem opd_atom (pre : List PToken) (a : PToken) (hpre : ∀ p ∈ pre, isPrefixTok p = true) (ha : isAtom10 a = true) :
    OpdOK 0 (pre ++ [a]) :=
  opd_prefixes (opd_value a ha) (List.cons_ne_nil _ _) pre hpre

end Garnish.Spec
