/-
C18, reference-grammar level: inserting trivia tokens. An annotation token changes nothing (`refLoop_annotation`); a
whitespace token only sets the `ws` flag of the current frame, and the flag is read only when an operand starts directly
after a complete operand (`beforeOperand`) — so it is irrelevant after an operator / opener (`refLoop_ws_irrelevant`),
before an operator / closer (`refStep_ws_next`) and next to another whitespace token. `refLoop_prefix` extends a local
equivalence of two continuations to any common prefix; the reference parser reads token types only (`refLoop_types`).
The licensed rewrites are relations on token lists: `AddSpace`, `AddAnnotation` (`AddLineAnnotation`), closed under changes
of token texts and stored positions (`SameTypes`: the inserted token shifts the positions of the tokens behind it), with
their invariance theorems `refParse_addSpace`, `refParse_addAnnotation` for lists that need no trimming (`NoTrim`);
`TrailingSpace` is defined here, its theorem is in Lemmas/RefTrailing.lean.
-/
import Garnish.Lemmas.RefSim
namespace Garnish.Spec
open Garnish Garnish.Gen Garnish.Model.Parser

/-- the frames below are not looked at, unless a closer arrives with nothing above them -/
theorem refStep_frame (tbl : Table) (f : Frame) (S base : List Frame) (pos : Nat) (t : PToken) (rest : List PToken)
    (h : S ≠ [] ∨ tbl.act t.type ≠ .closer) :
    refStep tbl f (S ++ base) pos t rest = (refStep tbl f S pos t rest).mapT (fun p => (p.1, p.2 ++ base)) := by
  rw [refStep_eq, refStep_eq]
  generalize tbl.act t.type = a at h
  cases a <;> simp only [Act.run]
  case fail | skip | space => rfl
  case operand d l => cases beforeOperand tbl f pos <;> rfl
  case opener d => cases beforeOperand tbl f pos <;> rfl
  case closer =>
    cases S with
    | nil => simp at h
    | cons parent S =>
      cases f.ctx with
      | none => rfl
      | some gp =>
        simp only [List.cons_append]
        by_cases h1 : (closerFor gp.1 != some t.type) = true
        · simp only [if_pos h1]; rfl
        · simp only [if_neg h1]
          by_cases h2 : (f.last == .op || f.last == .sep) = true
          · simp only [if_pos h2]; rfl
          · simp only [if_neg h2]; rfl
  case operator d q rtl optional l => split <;> rfl
  case separator d =>
    by_cases h1 : f.inGroup = true
    · simp only [if_pos h1]; rfl
    · simp only [if_neg h1]
      by_cases h2 : (f.prevSep || (t.type == .subexpression && closerFollows rest)) = true
      · simp only [if_pos h2]; rfl
      · simp only [if_neg h2]
        by_cases h3 : (f.last == .op) = true
        · simp only [if_pos h3]; rfl
        · simp only [if_neg h3]; cases tbl.prio d <;> rfl

/-! ### `closerFollows` and the `rest` argument of `refStep` -/

theorem closerFollows_append_congr {A B : List PToken} (h : closerFollows A = closerFollows B) :
    ∀ x : List PToken, closerFollows (x ++ A) = closerFollows (x ++ B)
  | [] => h
  | t :: x => by
    simp only [List.cons_append, closerFollows]
    split
    · exact closerFollows_append_congr h x
    · rfl

theorem refStep_rest_congr (tbl : Table) (f : Frame) (stack : List Frame) (pos : Nat) (t : PToken) {r r' : List PToken}
    (h : closerFollows r = closerFollows r') : refStep tbl f stack pos t r = refStep tbl f stack pos t r' := by
  unfold refStep
  rw [h]

theorem refLoop_prefix {R : RTree → RTree → Prop} (hR : ∀ a, R a a) (tbl : Table) {A B : List PToken}
    (hc : closerFollows A = closerFollows B)
    (h : ∀ f stack pos, ORel R (refLoop tbl f stack pos A) (refLoop tbl f stack pos B)) :
    ∀ (pre : List PToken) f stack pos, ORel R (refLoop tbl f stack pos (pre ++ A)) (refLoop tbl f stack pos (pre ++ B))
  | [], f, stack, pos => h f stack pos
  | t :: pre, f, stack, pos => by
    simp only [List.cons_append, refLoop]
    rw [refStep_rest_congr tbl f stack pos t (closerFollows_append_congr hc pre)]
    cases refStep tbl f stack pos t (pre ++ B) with
    | ok fs => obtain ⟨f', stack'⟩ := fs; exact refLoop_prefix hR tbl hc h pre f' stack' (pos + 1)
    | err e => exact rfl
    | panic s => exact rfl
    | fuelOut => exact True.intro

theorem ORel.rfl' {R : RTree → RTree → Prop} (hR : ∀ a, R a a) : ∀ o : Outcome RTree, ORel R o o
  | .ok a => hR a
  | .err _ => rfl
  | .panic _ => rfl
  | .fuelOut => True.intro

def SameTypes (a b : List PToken) : Prop := a.map (·.type) = b.map (·.type)

theorem closerFollows_types : ∀ {a b : List PToken}, SameTypes a b → closerFollows a = closerFollows b
  | [], [], _ => rfl
  | [], _ :: _, h => by simp [SameTypes] at h
  | _ :: _, [], h => by simp [SameTypes] at h
  | t :: a, t' :: b, h => by
    simp only [SameTypes, List.map_cons, List.cons.injEq] at h
    simp only [closerFollows, h.1]
    rw [closerFollows_types (a := a) (b := b) h.2]

theorem refStep_types (tbl : Table) (f : Frame) (stack : List Frame) (pos : Nat) {t t' : PToken} {r r' : List PToken}
    (ht : t.type = t'.type) (hr : SameTypes r r') : refStep tbl f stack pos t r = refStep tbl f stack pos t' r' := by
  unfold refStep
  rw [ht, closerFollows_types hr]

theorem refLoop_types (tbl : Table) : ∀ {a b : List PToken}, SameTypes a b → ∀ f stack pos,
    refLoop tbl f stack pos a = refLoop tbl f stack pos b
  | [], [], _, _, _, _ => rfl
  | [], _ :: _, h, _, _, _ => by simp [SameTypes] at h
  | _ :: _, [], h, _, _, _ => by simp [SameTypes] at h
  | t :: a, t' :: b, h, f, stack, pos => by
    simp only [SameTypes, List.map_cons, List.cons.injEq] at h
    simp only [refLoop]
    rw [refStep_types tbl f stack pos h.1 h.2]
    exact Outcome.bind_congr fun fs _ => refLoop_types tbl h.2 fs.1 fs.2 (pos + 1)

theorem SameTypes.append {a a' b b' : List PToken} (h1 : SameTypes a a') (h2 : SameTypes b b') :
    SameTypes (a ++ b) (a' ++ b') := by
  unfold SameTypes at *; simp [h1, h2]

theorem SameTypes.rfl' (a : List PToken) : SameTypes a a := rfl

def isAnnTok (t : PToken) : Bool := t.type == .annotation || t.type == .lineAnnotation
def isWsTok (t : PToken) : Bool := t.type == .whitespace

theorem annTok_def {t : PToken} (h : isAnnTok t = true) : (Table.gen.define t.type).2 = .annotation := by
  unfold isAnnTok at h
  simp only [Bool.or_eq_true, beq_iff_eq] at h
  rcases h with h | h <;> rw [h] <;> rfl

theorem wsTok_def {t : PToken} (h : isWsTok t = true) : (Table.gen.define t.type).2 = .whitespace := by
  unfold isWsTok at h
  simp only [beq_iff_eq] at h
  rw [h]; rfl

theorem refStep_annotation {w : PToken} (hw : isAnnTok w = true) (f : Frame) (stack : List Frame) (pos : Nat)
    (rest : List PToken) : refStep Table.gen f stack pos w rest = .ok (f, stack) := by
  rw [refStep_eq, skip_act _ (annTok_def hw)]; rfl

theorem refStep_whitespace {w : PToken} (hw : isWsTok w = true) (f : Frame) (stack : List Frame) (pos : Nat)
    (rest : List PToken) : refStep Table.gen f stack pos w rest = .ok ({ f with ws := true }, stack) := by
  rw [refStep_eq, space_act _ (wsTok_def hw)]; rfl

theorem closerFollows_filler {w : PToken} (hw : isFiller w.type = true) (rest : List PToken) :
    closerFollows (w :: rest) = closerFollows rest := by
  simp [closerFollows, hw]

theorem annTok_filler {w : PToken} (hw : isAnnTok w = true) : isFiller w.type = true := by
  unfold isAnnTok at hw; unfold isFiller
  simp only [Bool.or_eq_true] at hw ⊢
  rcases hw with h | h
  · exact Or.inl (Or.inr h)
  · exact Or.inr h

theorem wsTok_filler {w : PToken} (hw : isWsTok w = true) : isFiller w.type = true := by
  unfold isWsTok at hw; unfold isFiller
  simp [hw]

theorem refLoop_annotation {w : PToken} (hw : isAnnTok w = true) (pre post : List PToken) (f : Frame) (stack : List Frame)
    (pos : Nat) :
    ORel (Sim EErase) (refLoop Table.gen f stack pos (pre ++ post)) (refLoop Table.gen f stack pos (pre ++ w :: post)) := by
  apply refLoop_prefix (Sim.rfl' eok_erase) Table.gen (closerFollows_filler (annTok_filler hw) post).symm
  intro f stack pos
  simp only [refLoop, refStep_annotation hw, Outcome.bind]
  exact refLoop_sim eok_erase Table.gen post pos (pos + 1) (FSim.rfl' eok_erase f) (LSim.rfl' eok_erase stack)

theorem beforeOperand_open (tbl : Table) (f : Frame) (pos : Nat) (h1 : f.last ≠ .operand) (h2 : f.last ≠ .suffix) :
    beforeOperand tbl f pos = .ok f := by
  unfold beforeOperand
  cases hl : f.last <;> simp_all

theorem beforeOperand_suffix (tbl : Table) (f : Frame) (pos : Nat) (h : f.last = .suffix) :
    beforeOperand tbl f pos = .err .unsupported := by
  unfold beforeOperand
  rw [h]

theorem operand_ws (tbl : Table) (f : Frame) (stack : List Frame) (pos : Nat) (d : Definition) (l : Last)
    (hl : f.last ≠ .operand) :
    (Outcome.bind (beforeOperand tbl { f with ws := true } pos) fun f =>
        (.ok ({ f with cur := plug f.cur (.node .nil d pos .nil), last := l, ws := false, prevSep := false }, stack) :
          Outcome (Frame × List Frame))) =
      Outcome.bind (beforeOperand tbl f pos) fun f =>
        .ok ({ f with cur := plug f.cur (.node .nil d pos .nil), last := l, ws := false, prevSep := false }, stack) := by
  by_cases hs : f.last = .suffix
  · rw [beforeOperand_suffix tbl f pos hs, beforeOperand_suffix tbl _ pos (show ({ f with ws := true } : Frame).last = _ from hs)]
  · rw [beforeOperand_open tbl f pos hl hs, beforeOperand_open tbl { f with ws := true } pos hl hs]
    rfl

theorem refStep_ws (tbl : Table) (f : Frame) (stack : List Frame) (pos : Nat) (t : PToken) (rest : List PToken)
    (hl : f.last ≠ .operand) :
    refStep tbl { f with ws := true } stack pos t rest = refStep tbl f stack pos t rest ∨
      ∃ f1, f1.last ≠ .operand ∧ refStep tbl f stack pos t rest = .ok (f1, stack) ∧
        refStep tbl { f with ws := true } stack pos t rest = .ok ({ f1 with ws := true }, stack) := by
  rw [refStep_eq, refStep_eq]
  cases tbl.act t.type
  case skip => exact Or.inr ⟨f, hl, rfl, rfl⟩
  case operand d l => exact Or.inl (operand_ws tbl f stack pos d l hl)
  case opener d =>
    left
    dsimp only [Act.run]
    by_cases hs : f.last = .suffix
    · rw [beforeOperand_suffix tbl f pos hs,
        beforeOperand_suffix tbl _ pos (show ({ f with ws := true } : Frame).last = _ from hs)]
    · rw [beforeOperand_open tbl f pos hl hs, beforeOperand_open tbl { f with ws := true } pos hl hs]
      rfl
  case separator d =>
    dsimp only [Act.run]
    have hig : ({ f with ws := true } : Frame).inGroup = f.inGroup := rfl
    rw [hig]
    by_cases h1 : f.inGroup = true
    · rw [if_pos h1, if_pos h1]; exact Or.inl rfl
    · rw [if_neg h1, if_neg h1]
      by_cases h2 : (f.prevSep || (t.type == .subexpression && closerFollows rest)) = true
      · rw [if_pos h2, if_pos h2]; exact Or.inr ⟨{ f with prevSep := true }, hl, rfl, rfl⟩
      · rw [if_neg h2, if_neg h2]; exact Or.inl rfl
  all_goals exact Or.inl rfl

theorem refLoop_ws_irrelevant (tbl : Table) : ∀ (toks : List PToken) (f : Frame) (stack : List Frame) (pos : Nat),
    f.last ≠ .operand → refLoop tbl { f with ws := true } stack pos toks = refLoop tbl f stack pos toks
  | [], f, stack, pos, _ => rfl
  | t :: rest, f, stack, pos, hl => by
    simp only [refLoop]
    rcases refStep_ws tbl f stack pos t rest hl with h | ⟨f1, hl1, h1, h2⟩
    · rw [h]
    · rw [h1, h2]
      simp only [Outcome.bind]
      exact refLoop_ws_irrelevant tbl rest f1 stack (pos + 1) hl1

/-- tokens after which the last item of the frame is not a complete operand -/
def opLikeBefore (p : PToken) : Bool :=
  let s := (getDefinition p.type).2
  s == .binaryLeftToRight || s == .binaryRightToLeft || s == .unaryPrefix || s == .optionalBinaryLeftToRight ||
    s == .startGrouping || s == .unarySuffix

/-- tokens that do not read the `ws` flag and reset it -/
def opLikeAfter (n : PToken) : Bool :=
  let s := (getDefinition n.type).2
  s == .binaryLeftToRight || s == .binaryRightToLeft || s == .unarySuffix || s == .optionalBinaryLeftToRight ||
    s == .endGrouping

theorem refStep_last_open {p : PToken} (hp : opLikeBefore p = true) (f : Frame) (stack : List Frame) (pos : Nat)
    (rest : List PToken) {f1 : Frame} {stack1 : List Frame} (h : refStep Table.gen f stack pos p rest = .ok (f1, stack1)) :
    f1.last ≠ .operand := by
  have hs := stepOk_of_refStep h
  have ha : ActSec Table.gen (getDefinition p.type) (Table.gen.act p.type) := act_sec Table.gen p.type
  unfold opLikeBefore at hp
  generalize Table.gen.act p.type = a at hs ha
  cases hs <;> simp only [ActSec] at ha
  case operand d l g hb =>
    rcases ha.2 with ⟨h1 | h1, _⟩ | ⟨_, rfl⟩
    · rw [h1] at hp; cases hp
    · rw [h1] at hp; cases hp
    · simp
  case opener => simp
  case operator d q rtl optional l hl => exact ha.2.2.2.2.1
  all_goals first
    | (rw [ha] at hp; cases hp)
    | (rw [ha.2] at hp; cases hp)

theorem refStep_ws_next {n : PToken} (hn : opLikeAfter n = true) (f : Frame) (stack : List Frame) (pos : Nat)
    (rest : List PToken) :
    refStep Table.gen { f with ws := true } stack pos n rest = refStep Table.gen f stack pos n rest := by
  have ha : ActSec Table.gen (getDefinition n.type) (Table.gen.act n.type) := act_sec Table.gen n.type
  unfold opLikeAfter at hn
  rw [refStep_eq, refStep_eq]
  cases hact : Table.gen.act n.type <;> rw [hact] at ha <;> simp only [ActSec] at ha
  case operand d l => rcases ha.2 with ⟨h1 | h1, _⟩ | ⟨h1, _⟩ <;> (rw [h1] at hn; cases hn)
  case fail | closer | operator => rfl
  all_goals first
    | (rw [ha] at hn; cases hn)
    | (rw [ha.2] at hn; cases hn)

/-- the list starts and ends with a token that `trim_tokens` keeps -/
def NoTrim (toks : List PToken) : Prop := toks ≠ [] ∧ trimStart toks = 0 ∧ trimStart toks.reverse = 0

theorem trimStart_head (x : PToken) (l : List PToken) : trimStart (x :: l) = 0 ↔ isTrimmable x = false := by
  simp only [trimStart]
  split <;> simp_all

theorem refParse_noTrim (tbl : Table) {toks : List PToken} (h : NoTrim toks) :
    refParse tbl toks = refLoop tbl Frame.top [] 0 toks := by
  obtain ⟨hne, h1, h2⟩ := h
  unfold refParse
  simp only [h1, h2]
  have hlen : ¬ (0 ≥ toks.length) := by
    have := List.length_pos_iff.mpr hne; omega
  simp only [List.drop_zero, Nat.sub_zero, List.take_length, hlen, if_false]

theorem trimStart_types : ∀ {a b : List PToken}, SameTypes a b → trimStart a = trimStart b
  | [], [], _ => rfl
  | [], _ :: _, h => by simp [SameTypes] at h
  | _ :: _, [], h => by simp [SameTypes] at h
  | t :: a, t' :: b, h => by
    simp only [SameTypes, List.map_cons, List.cons.injEq] at h
    have e : isTrimmable t = isTrimmable t' := by simp only [isTrimmable, h.1]
    rw [trimStart, trimStart, trimStart_types (a := a) (b := b) h.2, e]

theorem SameTypes.reverse {a b : List PToken} (h : SameTypes a b) : SameTypes a.reverse b.reverse := by
  unfold SameTypes at *; simp [List.map_reverse, h]

theorem SameTypes.length {a b : List PToken} (h : SameTypes a b) : a.length = b.length := by
  have := congrArg List.length h; simpa using this

theorem SameTypes.symm {a b : List PToken} (h : SameTypes a b) : SameTypes b a := Eq.symm h

theorem SameTypes.take {a b : List PToken} (h : SameTypes a b) (n : Nat) : SameTypes (a.take n) (b.take n) := by
  unfold SameTypes at *; rw [List.map_take, List.map_take, h]

theorem SameTypes.drop {a b : List PToken} (h : SameTypes a b) (n : Nat) : SameTypes (a.drop n) (b.drop n) := by
  unfold SameTypes at *; rw [List.map_drop, List.map_drop, h]

theorem refParse_types (tbl : Table) {a b : List PToken} (h : SameTypes a b) : refParse tbl a = refParse tbl b := by
  unfold refParse
  simp only [trimStart_types h, trimStart_types h.reverse, h.length]
  split
  · rfl
  · exact refLoop_types tbl ((h.drop _).take _) _ _ _

theorem NoTrim.types {a b : List PToken} (h : NoTrim a) (hs : SameTypes a b) : NoTrim b := by
  obtain ⟨h0, h1, h2⟩ := h
  refine ⟨?_, by rw [← trimStart_types hs]; exact h1, by rw [← trimStart_types hs.reverse]; exact h2⟩
  intro hb; apply h0
  have := hs.length; rw [hb] at this
  exact List.eq_nil_of_length_eq_zero this

theorem refLoop_anns : ∀ (anns : List PToken), (∀ a ∈ anns, isAnnTok a = true) → ∀ (f : Frame) (stack : List Frame) (pos : Nat)
    (X : List PToken), refLoop Table.gen f stack pos (anns ++ X) = refLoop Table.gen f stack (pos + anns.length) X
  | [], _, _, _, _, _ => rfl
  | a :: anns, h, f, stack, pos, X => by
    simp only [List.cons_append, refLoop, refStep_annotation (h a (List.mem_cons_self ..)), Outcome.bind]
    rw [refLoop_anns anns (fun x hx => h x (List.mem_cons_of_mem _ hx))]
    congr 1
    simp only [List.length_cons]; omega

theorem closerFollows_anns : ∀ (anns : List PToken), (∀ a ∈ anns, isAnnTok a = true) → ∀ X : List PToken,
    closerFollows (anns ++ X) = closerFollows X
  | [], _, _ => rfl
  | a :: anns, h, X => by
    rw [List.cons_append, closerFollows_filler (annTok_filler (h a (List.mem_cons_self ..)))]
    exact closerFollows_anns anns (fun x hx => h x (List.mem_cons_of_mem _ hx)) X

/-- exact form: the same tokens plus the inserted one -/
inductive AddSpace0 : List PToken → List PToken → Prop
  | after (pre anns post : List PToken) (p w : PToken) : isWsTok w = true →
      (isWsTok p = true ∨ opLikeBefore p = true) → (∀ a ∈ anns, isAnnTok a = true) →
      AddSpace0 (pre ++ p :: (anns ++ post)) (pre ++ p :: (anns ++ w :: post))
  | before (pre anns post : List PToken) (w n : PToken) : isWsTok w = true →
      (isWsTok n = true ∨ opLikeAfter n = true) → (∀ a ∈ anns, isAnnTok a = true) →
      AddSpace0 (pre ++ (anns ++ n :: post)) (pre ++ w :: (anns ++ n :: post))

def AddSpace (a b : List PToken) : Prop := ∃ b0, AddSpace0 a b0 ∧ SameTypes b0 b

inductive AddAnnotation0 : List PToken → List PToken → Prop
  | mk (pre post : List PToken) (w : PToken) : isAnnTok w = true → AddAnnotation0 (pre ++ post) (pre ++ w :: post)

def AddAnnotation (a b : List PToken) : Prop := ∃ b0, AddAnnotation0 a b0 ∧ SameTypes b0 b

/-- a comment line: the inserted token is a LineAnnotation -/
def AddLineAnnotation (a b : List PToken) : Prop :=
  ∃ pre post w b0, w.type = .lineAnnotation ∧ a = pre ++ post ∧ b0 = pre ++ w :: post ∧ SameTypes b0 b

inductive TrailingSpace : List PToken → List PToken → Prop
  | mk (a ws : List PToken) : (∀ w ∈ ws, isTrimmable w = true) → TrailingSpace a (a ++ ws)

theorem AddLineAnnotation.toAdd {a b : List PToken} (h : AddLineAnnotation a b) : AddAnnotation a b := by
  obtain ⟨pre, post, w, b0, hw, rfl, rfl, hs⟩ := h
  exact ⟨_, .mk pre post w (by simp [isAnnTok, hw]), hs⟩

theorem refLoop_addSpace0 {a b : List PToken} (h : AddSpace0 a b) (f : Frame) (stack : List Frame) (pos : Nat) :
    ORel (Sim EErase) (refLoop Table.gen f stack pos a) (refLoop Table.gen f stack pos b) := by
  have hrefl := Sim.rfl' eok_erase
  -- `after`: the flag that `w` sets is already set (behind a blank) or is not read (`refLoop_ws_irrelevant`);
  -- `before`: the next token resets it without reading it (`refStep_ws_next`)
  cases h with
  | after pre anns post p w hw hp hanns =>
    apply refLoop_prefix hrefl Table.gen
    · cases hq : isFiller p.type || isSeparator p.type with
      | false => simp [closerFollows, hq]
      | true =>
        simp only [closerFollows, hq, if_true]
        rw [closerFollows_anns anns hanns, closerFollows_anns anns hanns, closerFollows_filler (wsTok_filler hw)]
    · intro f stack pos
      simp only [refLoop]
      have hr : refStep Table.gen f stack pos p (anns ++ post) = refStep Table.gen f stack pos p (anns ++ w :: post) := by
        apply refStep_rest_congr
        rw [closerFollows_anns anns hanns, closerFollows_anns anns hanns, closerFollows_filler (wsTok_filler hw)]
      rw [hr]
      cases hst : refStep Table.gen f stack pos p (anns ++ w :: post) with
      | err e => exact rfl
      | panic s => exact rfl
      | fuelOut => exact True.intro
      | ok fs =>
        obtain ⟨f1, stack1⟩ := fs
        simp only [Outcome.bind]
        rw [refLoop_anns anns hanns, refLoop_anns anns hanns]
        simp only [refLoop, refStep_whitespace hw, Outcome.bind]
        have hsim := refLoop_sim eok_erase Table.gen post (pos + 1 + anns.length) (pos + 1 + anns.length + 1)
          (FSim.rfl' eok_erase f1) (LSim.rfl' eok_erase stack1)
        rcases hp with hp | hp
        · -- after whitespace: the flag is already set
          rw [refStep_whitespace hp] at hst
          injection hst with hst; injection hst with e1 e2
          have : ({ f1 with ws := true } : Frame) = f1 := by rw [← e1]
          rw [this]; exact hsim
        · rw [refLoop_ws_irrelevant Table.gen post f1 stack1 _ (refStep_last_open hp f stack pos _ hst)]
          exact hsim
  | before pre anns post w n hw hn hanns =>
    apply refLoop_prefix hrefl Table.gen
    · rw [closerFollows_filler (wsTok_filler hw)]
    · intro f stack pos
      rw [refLoop_anns anns hanns]
      simp only [refLoop, refStep_whitespace hw, Outcome.bind]
      rw [refLoop_anns anns hanns]
      simp only [refLoop]
      have hstep : refStep Table.gen { f with ws := true } stack (pos + 1 + anns.length) n post =
          refStep Table.gen f stack (pos + 1 + anns.length) n post := by
        rcases hn with hn | hn
        · rw [refStep_whitespace hn, refStep_whitespace hn]
        · exact refStep_ws_next hn f stack _ post
      rw [hstep]
      have hsim := refStep_sim eok_erase Table.gen (FSim.rfl' eok_erase f) (LSim.rfl' eok_erase stack)
        (pos + anns.length) (pos + 1 + anns.length) n post
      cases h1 : refStep Table.gen f stack (pos + anns.length) n post <;>
        cases h2 : refStep Table.gen f stack (pos + 1 + anns.length) n post <;> rw [h1, h2] at hsim <;>
        simp only [ORel] at hsim <;> simp only [Outcome.bind, ORel] <;> try exact hsim
      exact refLoop_sim eok_erase Table.gen post _ _ hsim.1 hsim.2

theorem refParse_addSpace {a b : List PToken} (h : AddSpace a b) (ha : NoTrim a) (hb : NoTrim b) :
    (refParse Table.gen a).mapT RTree.eraseTok = (refParse Table.gen b).mapT RTree.eraseTok := by
  obtain ⟨b0, h0, hs⟩ := h
  rw [← refParse_types Table.gen hs, refParse_noTrim Table.gen ha, refParse_noTrim Table.gen (hb.types hs.symm)]
  exact ORel.map_eq eok_erase (refLoop_addSpace0 h0 Frame.top [] 0)

theorem refParse_addAnnotation {a b : List PToken} (h : AddAnnotation a b) (ha : NoTrim a) (hb : NoTrim b) :
    (refParse Table.gen a).mapT RTree.eraseTok = (refParse Table.gen b).mapT RTree.eraseTok := by
  obtain ⟨b0, ⟨pre, post, w, hw⟩, hs⟩ := h
  rw [← refParse_types Table.gen hs, refParse_noTrim Table.gen ha, refParse_noTrim Table.gen (hb.types hs.symm)]
  exact ORel.map_eq eok_erase (refLoop_annotation hw pre post Frame.top [] 0)

end Garnish.Spec
