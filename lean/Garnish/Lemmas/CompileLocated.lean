/-
Compile correctness, the layout: `located_of_out` — where the stretch `out cur e p` sits in a program (`Holds`) and the
roots it pushes are located, the main line of `e` is `Located`; `emit_located` is that, at the end of the layout, for what
`emit` wrote.
-/
import Garnish.Lemmas.CompileLayout

namespace Garnish.Abs
open Garnish Gen Garnish.Spec

variable {F : Type} {bodies : List (Nat × Expr F)} {sF : LState F}

theorem instr_cast {P : Prog F} {a b : Nat} {x : Option Instr} (h : P.instrs[a]? = x) (e : a = b) : P.instrs[b]? = x := e ▸ h

/-- a pushed piece of code that is located: what `Located` asks about an out-of-line body -/
theorem RootLocated.code {P : Prog F} {t : Expr F} {j : Nat} {term : List Instr} {c : Nat}
    (h : RootLocated bodies P ⟨.code t, j, term, c⟩) :
    ∃ tb, P.jumps[j]? = some tb ∧ Located P j c tb t ∧ InstrsAt P (tb + len t) (termsAfter P (tb + len t) term) :=
  h.2 t rfl

/-- the roots that the end of an else-chain pushes are the arm bodies -/
theorem arms_located {P : Prog F} {cur : Nat} {a : Out F} {p : Pos} {items : List (Expr F × Nat)}
    (hr : ∀ r ∈ (a.seq p (finishOut cur items)).roots, RootLocated bodies P r.1) :
    ∀ it ∈ items, ∃ tb, P.jumps[it.2]? = some tb ∧ Located P it.2 cur tb it.1 ∧
      InstrsAt P (tb + len it.1) (termsAfter P (tb + len it.1) [(.jumpTo, some (p.after a).nj)]) := by
  intro it hit
  refine (hr (⟨.code it.1, it.2, [(.jumpTo, some (p.after a).nj)], cur⟩, (p.after a).dep - 1) ?_).code
  cases items with
  | nil => cases hit
  | cons it0 its =>
    simp only [Out.seq_roots, List.mem_append, finishOut, armRoots, List.mem_map, List.mem_reverse]
    exact .inl ⟨_, ⟨it, hit, rfl⟩, rfl⟩

section
variable {P : Prog F} {root cur : Nat}

mutual
theorem located_of_out : ∀ (e : Expr F) (p : Pos), cur < p.nj → Holds P p (out cur e p) →
    (∀ r ∈ (out cur e p).roots, RootLocated bodies P r.1) → Located P root cur p.ni e
  | .lit v, p, _, h, _ | .ident sym, p, _, h, _ | .emptyNested, p, _, h, _ => by
    simp only [Located]; exact h.constI
  | .input, p, _, h, _ => by simp only [Located]; simpa using h.instrs 0 _ rfl
  | .nested id, p, _, h, hr => by
    simp only [Located]
    -- the nested body is named by its jump entry
    have hid : p.nj = id := (hr (⟨.ref id, p.nj, [(.endExpression, none)], p.nj⟩, 0) (by simp [out])).1 id rfl
    exact ⟨p.nc, by simpa using h.instrs 0 _ rfl, by simpa [hid] using h.consts 0 _ rfl⟩
  | .unary op x, p, hc, h, hr => by
    simp only [out] at h hr
    simp only [Located]
    exact ⟨located_of_out x p hc h.left (fun r m => hr r (by simp [m])), by rw [← after_ni cur]; exact h.lastI⟩
  | .binary op a b, p, hc, h, hr | .pair b a, p, hc, h, hr | .applyTo b a, p, hc, h, hr => by
    simp only [out] at h hr
    simp only [Located]
    have ha := located_of_out a p hc h.left.left (fun q m => hr q (by simp [m]))
    have hb := located_of_out b _ (by simp [Pos.after]; omega) h.left.right (fun q m => hr q (by simp [m]))
    rw [after_ni] at hb
    exact ⟨ha, hb, instr_cast h.lastI (by simp [Pos.after, out_len, Nat.add_assoc])⟩
  | .list items, p, hc, h, hr => by
    simp only [out] at h hr
    simp only [Located]
    exact ⟨locatedList_of_out items p hc h.left (fun r m => hr r (by simp [m])), by rw [← afterList_ni cur]; exact h.lastI⟩
  | .cond onTrue c t, p, hc, h, hr => by
    simp only [out] at h hr
    simp only [Located]
    have hcc := located_of_out c p hc h.left (fun q m => hr q (by simp [m]))
    have h2 := h.right
    obtain ⟨tb, hj, hl, ht⟩ := (hr (⟨.code t, (p.after (out cur c p)).nj, [(.jumpTo, some ((p.after (out cur c p)).nj + 1))], cur⟩,
      (p.after (out cur c p)).dep - 1) (by simp [condOut])).code
    have i1 := h2.instrs 0 _ rfl
    have i2 := h2.instrs 1 _ rfl
    have jj := h2.jumps 1 _ rfl
    rw [after_ni] at i1 i2 jj
    exact ⟨hcc, _, _, tb, i1, i2, hj, jj, by simp [Pos.after]; omega, hl, ht⟩
  | .and l r, p, hc, h, hr | .or l r, p, hc, h, hr => by
    simp only [out] at h hr
    simp only [Located]
    have hl := located_of_out l p hc h.left (fun q m => hr q (by simp [m]))
    have h2 := h.right
    obtain ⟨tb, hj, hlr, ht⟩ := (hr _ (List.mem_append.2 (.inl (List.mem_singleton.2 rfl)))).code
    have i1 := h2.instrs 0 _ rfl
    have jj := h2.jumps 1 _ rfl
    rw [after_ni] at i1 jj
    exact ⟨hl, _, _, tb, i1, hj, jj, by simp [Pos.after]; omega, hlr, ht⟩
  | .seq a b, p, hc, h, hr => by
    simp only [out] at h hr
    simp only [Located]
    have ha := located_of_out a p hc h.left.left (fun q m => hr q (by simp [m]))
    have hb := located_of_out b _ (by simp [Pos.after]; omega) h.right (fun q m => hr q (by simp [m]))
    have hi := h.left.lastI
    rw [after_ni] at hi
    refine ⟨ha, hi, ?_⟩
    simpa [Pos.after, out_len, oI, Nat.add_assoc] using hb
  | .sideAfter x b, p, hc, h, hr => by
    simp only [out] at h hr
    simp only [Located]
    have hx := located_of_out x p hc h.left.left.left (fun q m => hr q (by simp [m]))
    have hb := located_of_out b _ (by simp [Pos.after]; omega) h.left.right (fun q m => hr q (by simp [m]))
    have hi := h.left.left.lastI
    rw [after_ni] at hi
    refine ⟨hx, hi, ?_, instr_cast h.lastI (by simp [Pos.after, out_len, oI]; omega)⟩
    simpa [Pos.after, out_len, oI, Nat.add_assoc] using hb
  | .reapply x, p, hc, h, hr => by
    simp only [out] at h hr
    simp only [Located]
    have hx := located_of_out x p hc h.left.left (fun q m => hr q (by simp [m]))
    have hi := h.left.lastI
    rw [after_ni] at hi
    exact ⟨hx, hi, instr_cast h.lastI (by simp [Pos.after, out_len, oI, Nat.add_assoc])⟩
  | .prefixApply sym x, p, hc, h, hr | .suffixApply x sym, p, hc, h, hr => by
    simp only [out] at h hr
    simp only [Located]
    have hx := located_of_out x _ (by simpa [Pos.after, oC] using hc) h.left.right (fun q m => hr q (by simp [m]))
    refine ⟨h.left.left.constI, ?_, instr_cast h.lastI (by simp [Pos.after, out_len, oC]; omega)⟩
    simpa [Pos.after, oC] using hx
  | .infixApply a sym b, p, hc, h, hr => by
    simp only [out] at h hr
    simp only [Located]
    have ha := located_of_out a _ (by simpa [Pos.after, oC] using hc) h.left.left.left.right (fun q m => hr q (by simp [m]))
    have hb := located_of_out b _ (by simp [Pos.after]; omega) h.left.left.right (fun q m => hr q (by simp [m]))
    refine ⟨h.left.left.left.left.constI, ?_, ?_, instr_cast h.left.lastI (by simp [Pos.after, out_len, oC]; omega),
      instr_cast h.lastI (by simp [Pos.after, out_len, oC, oI]; omega)⟩
    · simpa [Pos.after, oC] using ha
    · simpa [Pos.after, out_len, oC, Nat.add_assoc, Nat.add_comm] using hb
  | .chain [] none, p, _, h, _ => by
    simp only [out, outArms] at h
    rw [Located_chain]
    exact ⟨0, by simp [LocatedArms], by simpa [Pos.after] using h.left.right.instrs 0 _ rfl, fun hne => absurd rfl hne⟩
  | .chain (arm :: rest) none, p, hc, h, hr => by
    simp only [out] at h hr
    rw [Located_chain]
    obtain ⟨it0, its, hits⟩ : ∃ it0 its, (outArms cur (arm :: rest) p).2 = it0 :: its := by
      obtain ⟨b, c, t⟩ := arm; exact ⟨_, _, rfl⟩
    have harm := arms_located hr
    have jj := h.right.jumps 0 (p.after ((outArms cur (arm :: rest) p).1 ++ noFinalOut (arm :: rest))).ni (by rw [hits]; rfl)
    refine ⟨_, locatedArms_of_out (arm :: rest) p _ hc h.left.left (fun r m => hr r (by simp [m])) harm, trivial,
      fun _ => ⟨?_, by simp [Pos.after]; omega⟩⟩
    rw [len_chain]
    simpa [Pos.after, outArms_len, noFinalOut] using jj
  | .chain arms (some e), p, hc, h, hr => by
    simp only [out] at h hr
    rw [Located_chain]
    have he := located_of_out e _ (by simp [Pos.after]; omega) h.left.right (fun r m => hr r (by simp [m]))
    rw [afterArms_ni] at he
    cases arms with
    | nil => exact ⟨0, by simp [LocatedArms], he, fun hne => absurd rfl hne⟩
    | cons arm rest =>
      obtain ⟨it0, its, hits⟩ : ∃ it0 its, (outArms cur (arm :: rest) p).2 = it0 :: its := by
        obtain ⟨b, c, t⟩ := arm; exact ⟨_, _, rfl⟩
      have harm := arms_located hr
      have jj := h.right.jumps 0 (p.after ((outArms cur (arm :: rest) p).1.seq p (out cur e))).ni (by rw [hits]; rfl)
      refine ⟨_, locatedArms_of_out (arm :: rest) p _ hc h.left.left (fun r m => hr r (by simp [m])) harm, he,
        fun _ => ⟨?_, by simp [Pos.after]; omega⟩⟩
      rw [len_chain]
      simpa [Pos.after, outArms_len, out_len, Nat.add_assoc] using jj

theorem locatedList_of_out : ∀ (items : List (Expr F)) (p : Pos), cur < p.nj → Holds P p (outList cur items p) →
    (∀ r ∈ (outList cur items p).roots, RootLocated bodies P r.1) → LocatedList P root cur p.ni items
  | [], _, _, _, _ => by simp [LocatedList]
  | x :: xs, p, hc, h, hr => by
    simp only [outList] at h hr
    simp only [LocatedList]
    have hx := located_of_out x p hc h.left (fun q m => hr q (by simp [m]))
    have hxs := locatedList_of_out xs _ (by simp [Pos.after]; omega) h.right (fun q m => hr q (by simp [m]))
    rw [after_ni] at hxs
    exact ⟨hx, hxs⟩

/-- the arm bodies are located once the chain is finished: `harm` -/
theorem locatedArms_of_out : ∀ (arms : List (Bool × Expr F × Expr F)) (p : Pos) (join : Nat), cur < p.nj →
    Holds P p (outArms cur arms p).1 → (∀ r ∈ (outArms cur arms p).1.roots, RootLocated bodies P r.1) →
    (∀ it ∈ (outArms cur arms p).2, ∃ tb, P.jumps[it.2]? = some tb ∧ Located P it.2 cur tb it.1 ∧
      InstrsAt P (tb + len it.1) (termsAfter P (tb + len it.1) [(.jumpTo, some join)])) →
    LocatedArms P root cur join p.ni arms
  | [], _, _, _, _, _, _ => by simp [LocatedArms]
  | (onTrue, c, t) :: rest, p, join, hc, h, hr, harm => by
    simp only [outArms] at h hr harm
    simp only [LocatedArms]
    have hcc := located_of_out c p hc h.left.left (fun q m => hr q (by simp [m]))
    obtain ⟨tb, h1, h2, h3⟩ := harm (t, (p.after (out cur c p)).nj) List.mem_cons_self
    have i1 := h.left.right.instrs 0 _ rfl
    rw [after_ni] at i1
    have hrest := locatedArms_of_out rest _ join (by simp [Pos.after]; omega) h.right (fun q m => hr q (by simp [m]))
      (fun it hit => harm it (List.mem_cons_of_mem _ hit))
    refine ⟨hcc, ⟨_, tb, i1, h1, h2, h3⟩, ?_⟩
    simpa [Pos.after, out_len, armOut, Nat.add_assoc] using hrest
end
end

/-- what is known about one arm body of an else-chain once its root is located -/
def ArmLoc (sF : LState F) (cur join : Nat) (it : Expr F × Nat) : Prop :=
  ∃ tb, sF.toProg.jumps[it.2]? = some tb ∧ Located sF.toProg it.2 cur tb it.1 ∧
    InstrsAt sF.toProg (tb + len it.1) (termsAfter sF.toProg (tb + len it.1) [(.jumpTo, some join)])

section
variable {root cur : Nat}

/-- the roots a stretch pushed are pending at the end of the emission, so located in the final state -/
theorem roots_located {s t' sM : LState F} {o : Out F} {idx : List Nat} (hw : Wrote s t' o)
    (hslot : ∀ r ∈ o.roots, SlotAt s.pos o r.1.patch) (hwi : Within s.jumps.size t' sM idx)
    (hroots : ∀ r ∈ sM.pending, s.jumps.size ≤ r.patch → RootLocated bodies sF.toProg r) :
    ∀ r ∈ o.roots, RootLocated bodies sF.toProg r.1 := fun r hr =>
  hroots r.1 (hwi.1.keep _ (by rw [hw.pending]; exact List.mem_append.2 (.inl (List.mem_map_of_mem hr)))) (hslot r hr).lt.1

theorem emit_located (e : Expr F) (s sM : LState F) (hc : cur < s.jumps.size) (hp : PendOK s)
    (hwi : Within s.jumps.size (emit root cur e s) sM []) (hev : Ev sM sF)
    (hroots : ∀ r ∈ sM.pending, s.jumps.size ≤ r.patch → RootLocated bodies sF.toProg r) :
    Located sF.toProg root cur s.instrs.size e :=
  have hw := emit_wrote root cur e s
  have hs := fun r hr => (out_roots cur e s.pos r hr).1
  located_of_out e s.pos hc (Holds.final hw hp hs (fun _ h => by cases h) hwi hev) (roots_located hw hs hwi hroots)

theorem emitList_located : ∀ (items : List (Expr F)) (s sM : LState F), cur < s.jumps.size → PendOK s →
    Within s.jumps.size (emitList root cur items s) sM [] → Ev sM sF →
    (∀ r ∈ sM.pending, s.jumps.size ≤ r.patch → RootLocated bodies sF.toProg r) →
    LocatedList sF.toProg root cur s.instrs.size items := fun items s sM hc hp hwi hev hroots =>
  have hw := emitList_wrote root cur items s
  have hs := fun r hr => (outList_roots cur items s.pos r hr).1
  locatedList_of_out items s.pos hc (Holds.final hw hp hs (fun _ h => by cases h) hwi hev) (roots_located hw hs hwi hroots)

theorem emitArms_located : ∀ (arms : List (Bool × Expr F × Expr F)) (s sM : LState F) (join : Nat),
    cur < s.jumps.size → PendOK s →
    Within s.jumps.size (emitArms root cur arms s).1 sM ((emitArms root cur arms s).2.map (·.2)) → Ev sM sF →
    (∀ r ∈ sM.pending, s.jumps.size ≤ r.patch → RootLocated bodies sF.toProg r) →
    (∀ it ∈ (emitArms root cur arms s).2, ArmLoc sF cur join it) →
    LocatedArms sF.toProg root cur join s.instrs.size arms := by
  intro arms s sM join hc hp hwi hev hroots harm
  obtain ⟨hw, he⟩ := emitArms_wrote root cur arms s
  obtain ⟨hr, hi⟩ := outArms_roots cur arms s.pos
  rw [he] at hwi harm
  have hs := fun r hr' => (hr r hr').1
  exact locatedArms_of_out arms s.pos join hc
    (Holds.final hw hp hs (fun j hj => by obtain ⟨it, hit, rfl⟩ := List.mem_map.1 hj; exact hi it hit) hwi hev)
    (roots_located hw hs hwi hroots) harm

end

end Garnish.Abs
