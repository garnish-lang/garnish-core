/-
List construction with register pops in between — the exact shape of the runtime's `make_list`:
`start_list(n)`, `n` × `add_to_list`, `k` × `pop_register`, `end_list`.  On BasicGarnishData `pop_register` moves the
register head and writes no cell, `end_list` writes cells and reads no head (`popsRM_basic`, `endList_reg`): that the pops commute with the construction is
`basic_listPhases` / `basic_listRun` (Props/C19ListOn.lean).
-/
import Garnish.Lemmas.BasicList
namespace Garnish.Lemmas.Runtime.Basic
open Garnish Gen Garnish.Model.Equality Garnish.Model.Runtime Garnish.Model.Runtime.Basic Garnish.BasicOpt
open Garnish.Lemmas.Runtime Garnish.Lemmas.EqualityRefine

variable {F σ : Type}

/-- `while count < k { pop_register()?; count += 1 }` -/
def popsRM (S : RStore F σ) : Nat → RM σ Unit
  | 0 => RM.pure ()
  | k + 1 => RM.bind S.popRegister (fun _ => popsRM S k)

theorem popRegisters_eq_popsRM (S : RStore F σ) : ∀ n : Nat, popRegisters S n = popsRM S n
  | 0 => rfl
  | n + 1 => by
    show (do let _ ← S.popRegister; popRegisters S n : RM σ Unit) = RM.bind S.popRegister (fun _ => popsRM S n)
    rw [popRegisters_eq_popsRM S n]; rfl

/-- `make_list`'s use of the list interface: the adds, then the pops, then `end_list` -/
def makeListPopRM (S : RStore F σ) (items : List Nat) (k : Nat) : RM σ Nat :=
  RM.bind (S.startList items.length) (fun t => RM.bind (addAllRM S items t) (fun t' =>
    RM.bind (popsRM S k) (fun _ => S.endList t')))

theorem headAfter_sub {cells cells' : Array Cell} (h : Sub cells cells') :
    ∀ (k : Nat) (o o' : Option Nat), headAfter cells k o = some o' → headAfter cells' k o = some o'
  | 0, _, _, hh => hh
  | k + 1, none, _, hh => hh
  | k + 1, some i, o', hh => by
    simp only [headAfter] at hh ⊢
    cases hc : cells[i]? with
    | none => simp [hc] at hh
    | some c =>
      rw [hc] at hh
      rw [h i c hc]
      cases c <;> simp only [] at hh ⊢ <;> first | (cases hh; done) | exact headAfter_sub h k _ _ hh

theorem popsRM_basic (nc : NumCode F) : ∀ (k : Nat) (st : BState) (o' : Option Nat),
    headAfter st.store.cells k st.store.currentRegister = some o' →
    popsRM (basicRStore nc) k st = .ok ((), { st with store := { st.store with currentRegister := o' } })
  | 0, st, o', h => by
    simp only [headAfter, Option.some.injEq] at h
    subst h; rfl
  | k + 1, st, o', h => by
    cases hr : st.store.currentRegister with
    | none =>
      rw [hr, headAfter_none] at h
      have hpop : (basicRStore nc).popRegister st = .ok (none, st) :=
        liftPop_ok (f := fun s => s.popRegister) (by simp [Store.popRegister, hr])
      have ih := popsRM_basic nc k st o' (by rw [hr, headAfter_none]; exact h)
      simp only [popsRM, RM.bind, hpop]
      exact ih
    | some i =>
      rw [hr, headAfter_succ] at h
      obtain ⟨o1, h1, hk⟩ := Option.bind_eq_some_iff.mp h
      obtain ⟨v, hpop, _⟩ := pop_step h1
      have ih := popsRM_basic nc k { st with store := { st.store with currentRegister := o1 } } o' hk
      have hpop' : (basicRStore nc).popRegister st = .ok (some v, _) :=
        liftPop_ok (f := fun s => s.popRegister) (hpop hr)
      simp only [popsRM, RM.bind, hpop']
      exact ih

theorem headAfter_total {s : Store} (hw : WFq s) (ht : Typed s) :
    ∀ (k : Nat) (o : Option Nat), (∀ a, o = some a → isRegCell s.cells a = true) →
      ∃ o', headAfter s.cells k o = some o' ∧ (∀ a, o' = some a → isRegCell s.cells a = true) ∧
        regsOf s.cells o' = (regsOf s.cells o).drop k
  | 0, o, ho => ⟨o, rfl, ho, by simp⟩
  | k + 1, none, _ => ⟨none, rfl, (fun a h => by cases h), (by simp [regsOf])⟩
  | k + 1, some i, ho => by
    obtain ⟨o1, h1⟩ := headAfter_one (ho i rfl)
    obtain ⟨v, _, hregs, hty⟩ := pop_step h1
    obtain ⟨o', h2, h3, h4⟩ := headAfter_total hw ht k o1 (hty ht)
    refine ⟨o', by rw [headAfter_succ, h1]; exact h2, h3, ?_⟩
    rw [h4, hregs hw]; rfl

theorem endList_reg {s s' : Store} {li r : Nat} (x : Option Nat) (h : Store.endList s li = .ok (s', r)) :
    Store.endList { s with currentRegister := x } li = .ok ({ s' with currentRegister := x }, r) := by
  simp only [Store.endList, Outcome.bind_eq_ok'] at h
  obtain ⟨c, hg, h⟩ := h
  have hc := get_ok hg
  split at h
  · rename_i len count
    split at h
    · cases h
    · rename_i h1
      split at h
      · cases h
      · rename_i h2
        simp only [Outcome.bind_eq_ok', Outcome.pure_eq_ok_iff, Prod.mk.injEq] at h
        obtain ⟨s5, h5, h6, h7⟩ := h
        subst h6; subst h7
        unfold Store.setCell at h5
        split at h5
        · rename_i hilt
          simp only [Outcome.ok.injEq] at h5
          subst h5
          simp only [Store.endList, bind, Outcome.bind, Store.get, hc]
          rw [if_neg h1, if_neg h2]
          simp only [Store.setCell]
          rw [if_pos hilt]
          rfl
        · cases h5
  · cases h

end Garnish.Lemmas.Runtime.Basic
