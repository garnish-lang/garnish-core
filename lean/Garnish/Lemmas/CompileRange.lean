/-
C20 at the compile level, "own pieces": the instructions that `emit` writes refer only to jump entries `≥ lo` (when
the containing body and the jump table are), the `Expression` constants it allocates name such entries, the
constants its `Put`/`Resolve` refer to are the ones it allocated, and the roots it pushes are again of this kind.
-/
import Garnish.Lemmas.CompileShared
namespace Garnish.Abs
open Garnish Gen Garnish.Spec

variable {F : Type}

def jumpOperand : Instr → Option Nat
  | (.jumpTo, some j) | (.jumpIfTrue, some j) | (.jumpIfFalse, some j) | (.and, some j) | (.or, some j)
  | (.reapply, some j) => some j
  | _ => none

/-- a pending root of the program being compiled: own jump entry, own containing body, own join, well-formed piece -/
def RootOwn (lo : Nat) (r : Root F) : Prop :=
  lo ≤ r.patch ∧ lo ≤ r.containing ∧ (∀ j, (Instruction.jumpTo, some j) ∈ r.term → lo ≤ j) ∧
  (∀ b, r.kind = .code b → wfE b = true) ∧
  (∀ t ∈ r.term, (∃ j, t = (.jumpTo, some j)) ∨ t = (.tis, none) ∨ t = (.endExpression, none))

structure RangeOK (lo : Nat) (s s' : LState F) : Prop where
  ops : ∀ i x j, s.instrs.size ≤ i → s'.instrs[i]? = some x → jumpOperand x = some j → lo ≤ j
  exprs : ∀ k j, s.consts.size ≤ k → s'.consts[k]? = some (.expr j) → lo ≤ j
  cidx : ∀ i ins k, s.instrs.size ≤ i → s'.instrs[i]? = some (ins, some k) → (ins = .put ∨ ins = .resolve) → s.consts.size ≤ k
  roots : ∀ r ∈ s'.pending, r ∈ s.pending ∨ RootOwn lo r

/-- the pieces written from `s` on are the program's own -/
structure Own (lo : Nat) (s s' : LState F) : Prop where
  ops : ∀ i x j, s.instrs.size ≤ i → s'.instrs[i]? = some x → jumpOperand x = some j → lo ≤ j
  exprs : ∀ k j, s.consts.size ≤ k → s'.consts[k]? = some (.expr j) → lo ≤ j
  cidx : ∀ i ins k, s.instrs.size ≤ i → s'.instrs[i]? = some (ins, some k) → (ins = .put ∨ ins = .resolve) → s.consts.size ≤ k

theorem RangeOK.own {lo : Nat} {s s' : LState F} (h : RangeOK lo s s') : Own lo s s' := ⟨h.ops, h.exprs, h.cidx⟩

theorem Own.trans {lo : Nat} {a b c : LState F} (h1 : Own lo a b) (h2 : Own lo b c)
    (pi : ∀ i, i < b.instrs.size → c.instrs[i]? = b.instrs[i]?) (pc : ∀ k, k < b.consts.size → c.consts[k]? = b.consts[k]?)
    (q : a.consts.size ≤ b.consts.size) : Own lo a c where
  ops i x j hi hx hj := by
    by_cases hlt : i < b.instrs.size
    · rw [pi i hlt] at hx; exact h1.ops i x j hi hx hj
    · exact h2.ops i x j (by omega) hx hj
  exprs k j hk hx := by
    by_cases hlt : k < b.consts.size
    · rw [pc k hlt] at hx; exact h1.exprs k j hk hx
    · exact h2.exprs k j (by omega) hx
  cidx i ins k hi hx ho := by
    by_cases hlt : i < b.instrs.size
    · rw [pi i hlt] at hx; exact h1.cidx i ins k hi hx ho
    · have := h2.cidx i ins k (by omega) hx ho; omega

theorem RangeOK.trans {lo : Nat} {a b c : LState F} (h1 : RangeOK lo a b) (h2 : RangeOK lo b c) (p : App b c)
    (q : a.consts.size ≤ b.consts.size) :
    RangeOK lo a c :=
  let o := h1.own.trans h2.own p.instrs p.consts q
  ⟨o.ops, o.exprs, o.cidx, fun r hr => (h2.roots r hr).elim (h1.roots r) .inr⟩

theorem RangeOK.refl (lo : Nat) (s : LState F) : RangeOK lo s s where
  ops i x j hi hx _ := by rw [Array.getElem?_eq_none hi] at hx; cases hx
  exprs k j hk hx := by rw [Array.getElem?_eq_none hk] at hx; cases hx
  cidx i ins k hi hx _ := by rw [Array.getElem?_eq_none hi] at hx; cases hx
  roots r hr := .inl hr

theorem RangeOK.push {lo : Nat} (s : LState F) (i : Instruction) (d : Option Nat)
    (h : ∀ j, jumpOperand (i, d) = some j → lo ≤ j) (hc : i ≠ .put ∧ i ≠ .resolve) : RangeOK lo s (s.push i d) where
  ops k x j hk hx hj := by
    simp only [LState.push, Array.getElem?_push] at hx
    split at hx
    · simp only [Option.some.injEq] at hx; subst hx; exact h j hj
    · rw [Array.getElem?_eq_none hk] at hx; cases hx
  exprs k j hk hx := by simp only [LState.push] at hx; rw [Array.getElem?_eq_none hk] at hx; cases hx
  cidx k ins c hk hx ho := by
    simp only [LState.push, Array.getElem?_push] at hx
    split at hx
    · simp only [Option.some.injEq, Prod.mk.injEq] at hx
      rcases ho with rfl | rfl
      · exact absurd hx.1 hc.1
      · exact absurd hx.1 hc.2
    · rw [Array.getElem?_eq_none hk] at hx; cases hx
  roots r hr := .inl hr

theorem jumpOperand_none (i : Instruction) : jumpOperand (i, none) = none := by cases i <;> rfl

/-- `RangeOK` together with `Pre` (so that steps compose) -/
structure RP (lo : Nat) (s t : LState F) : Prop where
  r : RangeOK lo s t
  p : Pre s t

theorem RP.trans {lo : Nat} {a b c : LState F} (h1 : RP lo a b) (h2 : RP lo b c) : RP lo a c :=
  ⟨h1.r.trans h2.r h2.p.toApp h1.p.csize, h1.p.trans h2.p⟩

theorem RP.refl (lo : Nat) (s : LState F) : RP lo s s := ⟨.refl lo s, .refl s⟩

theorem RP.push {lo : Nat} (s : LState F) (i : Instruction) (d : Option Nat)
    (h : ∀ j, jumpOperand (i, d) = some j → lo ≤ j) (hc : i ≠ .put ∧ i ≠ .resolve) : RP lo s (s.push i d) :=
  ⟨.push s i d h hc, .push s i d⟩

/-- what a stretch appends is the program's own when the stretch starts above `lo`: read off the kinds of its
instructions (`InstrNew`), constants (`ConstNew`) and roots (`RootNew`) -/
theorem Wrote.range {lo cur : Nat} {s s' : LState F} {o : Out F} {idx : List Nat} (h : Wrote s s' o)
    (hlo : lo ≤ s.jumps.size) (hcur : lo ≤ cur) (hn : AllNew cur s.pos o idx) (hr : RootsNew cur s.pos o)
    (hw : OutWF cur o) : RangeOK lo s s' := by
  have mem : ∀ i x, s.instrs.size ≤ i → s'.instrs[i]? = some x → InstrNew cur s.pos o idx x := by
    intro i x hi hx
    rw [h.instrs, Array.getElem?_append_right hi] at hx
    exact hn x (List.mem_of_getElem? (by simpa using hx))
  -- the five cases of `mem` are the disjuncts of `InstrNew`: no operand, `MakeList n`, the restart `JumpTo cur`, a
  -- `Put` / `Resolve` of a constant of the stretch, a branch to a placeholder of the stretch
  refine ⟨fun i x j hi hx hj => ?_, fun k j hk hx => ?_, fun i ins k hi hx ho => ?_, fun r hr' => ?_⟩
  · rcases mem i x hi hx with h0 | ⟨n, rfl⟩ | rfl | ⟨k, a, b, _, _⟩ | ⟨j', a, b, c, _⟩
    · obtain ⟨ins, d⟩ := x; cases h0; rw [jumpOperand_none] at hj; cases hj
    · cases hj
    · cases hj; exact hcur
    · obtain ⟨ins, d⟩ := x; cases b; rcases a with rfl | rfl <;> cases hj
    · obtain ⟨ins, d⟩ := x; cases b
      have : jumpOperand (ins, some j') = some j' := by cases ins <;> first | rfl | cases a
      rw [this] at hj; cases hj; exact Nat.le_trans hlo c.lt.1
  · rw [h.consts, Array.getElem?_append_right hk] at hx
    rcases hw.consts _ (List.mem_of_getElem? (by simpa using hx)) j rfl with rfl | ⟨r, hr', rfl, _⟩
    · exact hcur
    · exact Nat.le_trans hlo (hr r hr').1.lt.1
  · rcases mem i _ hi hx with h0 | ⟨n, h0⟩ | h0 | ⟨k', _, b, c, _⟩ | ⟨j', a, b, _, _⟩
    · cases h0
    · cases h0; rcases ho with ho | ho <;> cases ho
    · cases h0; rcases ho with ho | ho <;> cases ho
    · cases b; exact c
    · rcases ho with rfl | rfl <;> cases a
  · rw [h.pending, List.mem_append] at hr'
    rcases hr' with hm | hm
    · obtain ⟨q, hq, rfl⟩ := List.mem_map.1 hm
      obtain ⟨h1, h3⟩ := hr q hq
      have hp := Nat.le_trans hlo h1.lt.1
      refine .inr ⟨hp, ?_, ?_, fun b hb => hw.roots q hq b hb, ?_⟩
      · rcases h3 with ⟨_, _, _, hc', _⟩ | ⟨_, _, hc', _⟩ <;> rw [hc'] <;> assumption
      · intro j hj
        rcases h3 with ⟨_, join, _, _, j1, _, tm | tm⟩ | ⟨_, _, _, tm⟩ <;> rw [tm] at hj <;> simp at hj
        all_goals subst hj; exact Nat.le_trans hlo j1
      · intro t ht
        rcases h3 with ⟨_, join, _, _, _, _, tm | tm⟩ | ⟨_, _, _, tm⟩ <;> rw [tm] at ht <;> simp at ht
        · exact .inl ⟨_, ht⟩
        · exact ht.elim (fun e => .inr (.inl e)) (fun e => .inl ⟨_, e⟩)
        · exact .inr (.inr ht)
    · exact .inl hm

theorem emit_range (lo root cur : Nat) (hcur : lo ≤ cur) (e : Expr F) (s : LState F)
    (hlo : lo ≤ s.jumps.size) (hc : cur < s.jumps.size) (hw : wfE e = true) : RP lo s (emit root cur e s) :=
  ⟨(emit_wrote root cur e s).range hlo hcur (out_new cur e _) (out_roots cur e _) (out_wf cur e _ hw),
   (emit_pre root cur e s hc).1⟩

theorem emitList_range (lo root cur : Nat) (hroot : lo ≤ root) (hcur : lo ≤ cur) : ∀ (items : List (Expr F)) (s : LState F),
    lo ≤ s.jumps.size → cur < s.jumps.size → wfEList items = true → RP lo s (emitList root cur items s) :=
  fun items s hlo hc hw =>
    ⟨(emitList_wrote root cur items s).range hlo hcur (outList_new cur items _) (outList_roots cur items _)
      (outList_wf cur items _ hw), (emitList_wrote root cur items s).pre hc (outList_roots cur items _)⟩

theorem emitArms_range (lo root cur : Nat) (hroot : lo ≤ root) (hcur : lo ≤ cur) :
    ∀ (arms : List (Bool × Expr F × Expr F)) (s : LState F),
    lo ≤ s.jumps.size → cur < s.jumps.size → wfEArms arms = true →
    RP lo s (emitArms root cur arms s).1 ∧ ∀ it ∈ (emitArms root cur arms s).2, lo ≤ it.2 ∧ wfE it.1 = true := by
  intro arms s hlo hc hw
  obtain ⟨hwr, he⟩ := emitArms_wrote root cur arms s
  obtain ⟨hr, hi⟩ := outArms_roots cur arms s.pos
  obtain ⟨hwf, hiw⟩ := outArms_wf cur arms s.pos hw
  refine ⟨⟨hwr.range hlo hcur (outArms_new cur arms _) hr hwf, hwr.pre hc hr⟩, fun it hit => ?_⟩
  rw [he] at hit
  exact ⟨Nat.le_trans hlo (hi it hit).lt.1, hiw it hit⟩

theorem addTerms_range {lo : Nat} (start : Nat) (last : Option Instr) (terms : List Instr) (s : LState F)
    (h : ∀ t ∈ terms, (∃ j, t = (Instruction.jumpTo, some j) ∧ lo ≤ j) ∨ t = (.tis, none) ∨ t = (.endExpression, none)) :
    RP lo s (addTerms start last terms s) :=
  addTerms_rule (.refl lo) .trans start last terms s fun t ht u => by
    refine RP.push u t.1 t.2 ?_ ?_
    · intro j hj
      rcases h t ht with ⟨j', rfl, hlo⟩ | rfl | rfl
      · simp [jumpOperand] at hj; omega
      · simp [jumpOperand] at hj
      · simp [jumpOperand] at hj
    · rcases h t ht with ⟨j', rfl, _⟩ | rfl | rfl <;> simp

section loop
variable (bodies : List (Nat × Expr F))

theorem layoutRoot_own {lo : Nat} {s : LState F} {r : Root F} {rest : List (Root F)} (inv : Inv s) (hp : s.pending = r :: rest)
    (hown : ∀ q ∈ s.pending, RootOwn lo q) (hlo : lo ≤ s.jumps.size)
    (hprog : ∀ id b, lookupBody bodies id = some b → wfE b = true) :
    Own lo s (layoutRoot bodies r { s with pending := rest }) ∧
    (∀ q ∈ (layoutRoot bodies r { s with pending := rest }).pending, RootOwn lo q) ∧
    s.consts.size ≤ (layoutRoot bodies r { s with pending := rest }).consts.size := by
  have hr_mem : r ∈ s.pending := by rw [hp]; exact List.mem_cons_self
  obtain ⟨ho1, ho2, ho3, ho4, ho5⟩ := hown r hr_mem
  obtain ⟨s1, s2, st, he⟩ := layoutRoot_anatomy bodies (rest := rest) (inv.cont r hr_mem)
  rw [he]
  have j1 := st.jsize
  have h12 : RP lo s1 s2 := by
    rw [st.body]
    simp only [bodyState]
    cases hb : rootBody bodies r with
    | none => exact .refl lo s1
    | some b =>
      have hwb : wfE b = true := by
        simp only [rootBody] at hb
        cases hk : r.kind with
        | code e => rw [hk] at hb; simp only [Option.some.injEq] at hb; subst hb; exact ho4 e hk
        | ref id => rw [hk] at hb; exact hprog id b hb
      exact emit_range lo r.patch r.containing ho2 b s1 (by omega) st.cont hwb
  have hT := addTerms_range (lo := lo) s.instrs.size s2.instrs.back? r.term s2 (fun t ht => by
    rcases ho5 t ht with ⟨j, rfl⟩ | h | h
    · exact .inl ⟨j, rfl, ho3 j ht⟩
    · exact .inr (.inl h)
    · exact .inr (.inr h))
  have h1T := h12.trans hT
  refine ⟨⟨fun i x j hi hx hj => h1T.r.ops i x j (by rw [st.instrs]; exact hi) hx hj,
    fun k j hk hx => h1T.r.exprs k j (by rw [st.consts]; exact hk) hx,
    fun i ins k hi hx ho => by have := h1T.r.cidx i ins k (by rw [st.instrs]; exact hi) hx ho; rw [st.consts] at this; exact this⟩,
    fun q hq => ?_, by have := h1T.p.csize; rw [st.consts] at this; exact this⟩
  rcases h1T.r.roots q hq with h | h
  · rw [st.pending] at h; exact hown q (by rw [hp]; exact List.mem_cons_of_mem _ h)
  · exact h

theorem layoutRoots_own {lo : Nat} (fuel : Nat) (s : LState F) (inv : Inv s) (hown : ∀ q ∈ s.pending, RootOwn lo q)
    (hlo : lo ≤ s.jumps.size) (hprog : ∀ id b, lookupBody bodies id = some b → wfE b = true) :
    Own lo s (layoutRoots bodies fuel s) :=
  (layoutRoots_rule bodies
    (I := fun t => Own lo s t ∧ (∀ q ∈ t.pending, RootOwn lo q) ∧ lo ≤ t.jumps.size ∧ s.consts.size ≤ t.consts.size)
    (fun inv' ⟨o, hown', hlo', hcs⟩ hp => by
      obtain ⟨o1, hown1, hcs1⟩ := layoutRoot_own bodies inv' hp hown' hlo' hprog
      have ev := layoutRoot_ev bodies inv' hp
      exact ⟨o.trans o1 ev.instrs ev.consts hcs, hown1, Nat.le_trans hlo' ev.jsize, Nat.le_trans hcs hcs1⟩)
    fuel s inv ⟨(RangeOK.refl lo s).own, hown, hlo, Nat.le_refl _⟩).1

end loop

end Garnish.Abs
