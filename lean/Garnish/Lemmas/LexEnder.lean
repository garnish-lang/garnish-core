/-
How a pending token ends (C18 text rewrites and C14 spellings, lexer side): in the "plain" states (Number, Float,
Identifier, Annotation, Operator) a space, a tab, the end-of-input sentinel and a newline (`Ender`) take the ending case of
the arm and leave `endOf σ` — the lexer as it is, except that a symbol gets its type (`armStep_ender`) — none of them is a character of an operator spelling (`opChars`,
the one sweep over the operator tree). `ender_step` says what an ender then does to the pending token, by `pendingType`, a
function of the state, the pending text and the pending type alone (`pendingType_congr`). `BaseOK` is a lexer between tokens; there a blank starts a Whitespace token
(`base_blank`).
-/
import Garnish.Lemmas.LexRewrite
namespace Garnish.Model.Lexer
open Garnish.Model Garnish.Model.Parser Garnish.Spec

/-- the characters that end a pending token of a plain state -/
def Ender (x : Char) : Prop := x = ' ' ∨ x = '\t' ∨ x = '\x00' ∨ x = '\n'

structure CharClass.SaneBlank (cc : CharClass) : Prop extends cc.Sane where
  spaceA : cc.isAlphanumeric ' ' = false
  tabA : cc.isAlphanumeric '\t' = false
  spaceN : cc.isNumeric ' ' = false
  tabN : cc.isNumeric '\t' = false

theorem ender_facts {cc : CharClass} (hcc : cc.SaneBlank) {x : Char} (hx : Ender x) :
    cc.isAlphanumeric x = false ∧ cc.isNumeric x = false ∧ x ≠ '_' ∧ x ≠ ':' ∧ x ≠ '.' ∧ x ≠ '`' ∧ x ≠ '@' ∧ x ≠ '"' ∧
    x ≠ '\'' := by
  rcases hx with rfl | rfl | rfl | rfl
  · exact ⟨hcc.spaceA, hcc.spaceN, by decide, by decide, by decide, by decide, by decide, by decide, by decide⟩
  · exact ⟨hcc.tabA, hcc.tabN, by decide, by decide, by decide, by decide, by decide, by decide, by decide⟩
  · exact ⟨hcc.nulAlphanumeric, hcc.nulNumeric, by decide, by decide, by decide, by decide, by decide, by decide, by decide⟩
  · exact ⟨hcc.nlAlphanumeric, hcc.nlNumeric, by decide, by decide, by decide, by decide, by decide, by decide, by decide⟩

def opChars : List Char :=
  ['+', '-', '*', '/', '%', '!', '>', '=', '&', '|', '^', '~', '<', '.', '?', '(', ')', '{', '}', '[', ']', '$', ',', '#',
   '_', ';']

/-- every character on a path of the operator tree is one of them (the one sweep over the tree) -/
theorem paths_opChars : (pathsFuel 4 theTree []).all (fun pn => pn.1.all opChars.contains) = true := by
  rw [theTree_eq]; decide +kernel

theorem walk_none_of_not_mem (cs : List Char) (x : Char) (hx : x ∉ opChars) : walkOperator theTree (cs ++ [x]) = none := by
  cases hw : walkOperator theTree (cs ++ [x]) with
  | none => rfl
  | some n =>
    exfalso
    have hmem := walk_mem_paths (cs ++ [x]) 4 theTree n [] hw (walk_length_le _ n hw)
    have hc := paths_opChars
    rw [List.all_eq_true] at hc
    have := hc _ hmem
    simp only [List.nil_append, List.all_eq_true, List.contains_eq_mem, decide_eq_true_eq] at this
    exact hx (this x (by simp))

theorem walk_ender_none (cs : List Char) (x : Char) (hx : Ender x) : walkOperator theTree (cs ++ [x]) = none :=
  walk_none_of_not_mem cs x (by rcases hx with rfl | rfl | rfl | rfl <;> decide)

/-- what the Identifier arm leaves when the token ends: a symbol gets its type -/
def symFix (σ : Lexer) : Lexer :=
  if startsWith σ.currentCharacters ':' && σ.currentCharacters[1]? != some ':' then
    { σ with currentTokenType := some .symbol } else σ

/-- the lexer after the arm, when an ender ends the pending token -/
def endOf (σ : Lexer) : Lexer := if σ.state = .identifier then symFix σ else σ

/-- states in which the enders end the pending token in the same way -/
def PlainState (s : LexingState) : Prop :=
  s = .number ∨ s = .float ∨ s = .identifier ∨ s = .annotation ∨ s = .operator

theorem armStep_ender (cc : CharClass) (hcc : cc.SaneBlank) (σ : Lexer) (x : Char) (hx : Ender x)
    (hs : PlainState σ.state) (htr : σ.operatorTree = theTree) : ArmStep cc σ x (endOf σ) true := by
  obtain ⟨hA, hN, h_, hcol, hdot, hbt, hat, _, _⟩ := ender_facts hcc hx
  have hx_ : (x == '_') = false := by simpa using h_
  have hxdot : (x == '.') = false := by simpa using hdot
  have hid : isIdentifierChar cc x = false := by
    have hxc : (x == ':') = false := by simpa using hcol
    simp [isIdentifierChar, hA, hx_, hxc]
  have hnum : ¬(cc.isNumeric x || x == '_' || cc.isAlphanumeric x) = true := by simp [hN, hx_, hA]
  unfold endOf
  rcases hs with hs | hs | hs | hs | hs
  · rw [if_neg (by rw [hs]; decide)]; exact .numDone hs hnum (by simp [hxdot])
  · rw [if_neg (by rw [hs]; decide)]; exact .flDone hs hnum (by simp [hxdot])
  · rw [if_pos hs]
    unfold symFix
    split
    · exact .idSymbol hs (by simp [hid]) (by simpa using hbt) ‹_›
    · exact .idDone hs (by simp [hid]) (by simpa using hbt) ‹_›
  · rw [if_neg (by rw [hs]; decide)]; exact .annDone hs (by simpa using fun e => absurd e hat) (by simp [hA, hx_])
  · rw [if_neg (by rw [hs]; decide)]
    have hw : walkOperator σ.operatorTree (push σ.currentCharacters x) = none := by
      rw [htr]; exact walk_ender_none _ x hx
    have := ArmStep.opDone (cc := cc) hs hw (by simp [push, isIdentifier, hid]) (by simp [hN])
    rwa [pop_push] at this

theorem endOf_fields (σ : Lexer) :
    (endOf σ).currentCharacters = σ.currentCharacters ∧ (endOf σ).state = σ.state ∧
    (endOf σ).tokenStartRow = σ.tokenStartRow ∧ (endOf σ).tokenStartColumn = σ.tokenStartColumn ∧
    (endOf σ).shouldCreate = σ.shouldCreate ∧ (endOf σ).operatorTree = σ.operatorTree ∧ (endOf σ).atEnd = σ.atEnd := by
  unfold endOf symFix
  split
  · split <;> exact ⟨rfl, rfl, rfl, rfl, rfl, rfl, rfl⟩
  · exact ⟨rfl, rfl, rfl, rfl, rfl, rfl, rfl⟩

theorem endOf_type_congr {σ τ : Lexer} (h1 : τ.state = σ.state) (h2 : τ.currentCharacters = σ.currentCharacters)
    (h3 : τ.currentTokenType = σ.currentTokenType) : (endOf τ).currentTokenType = (endOf σ).currentTokenType := by
  unfold endOf symFix
  rw [h1, h2]
  split
  · split
    · rfl
    · exact h3
  · exact h3

theorem canCreate_congr {σ τ : Lexer} (h2 : τ.currentCharacters = σ.currentCharacters)
    (h3 : τ.currentTokenType = σ.currentTokenType) :
    canCreateValidToken { τ with canFloat := !blocksFloat τ.currentTokenType } =
    canCreateValidToken { σ with canFloat := !blocksFloat σ.currentTokenType } := by
  unfold canCreateValidToken
  simp only [h2, h3]

/-- the type with which an ender ends the pending token of a plain state, `none` if the token cannot be created; it depends
on the state, the pending text and the pending type only (`pendingType_congr`) -/
def pendingType (σ : Lexer) : Option Gen.TokenType :=
  if canCreateValidToken { endOf σ with canFloat := !blocksFloat (endOf σ).currentTokenType } = .ok then
    (endOf σ).currentTokenType
  else none

theorem pendingType_congr {σ τ : Lexer} (h1 : τ.state = σ.state) (h2 : τ.currentCharacters = σ.currentCharacters)
    (h3 : τ.currentTokenType = σ.currentTokenType) : pendingType τ = pendingType σ := by
  unfold pendingType
  rw [canCreate_congr (by rw [(endOf_fields τ).1, (endOf_fields σ).1, h2]) (endOf_type_congr h1 h2 h3),
    endOf_type_congr h1 h2 h3]

theorem ender_step (cc : CharClass) (hcc : cc.SaneBlank) (σ : Lexer) (x : Char) (hx : Ender x) (hs : PlainState σ.state)
    (htr : σ.operatorTree = theTree) (hcr : σ.shouldCreate = true) :
    (pendingType σ = none → ∃ σ1, processChar cc σ x = .ok (σ1, none) ∧ σ1.result = .err) ∧
    (∀ ty, pendingType σ = some ty → processChar cc σ x =
      .ok (bumpColumn (startToken cc (afterEmit (endOf { σ with charactersLexed := σ.charactersLexed + 1 })) x) x,
        some (pendingTok σ ty))) := by
  have hp := processChar_arm (armStep_ender cc hcc { σ with charactersLexed := σ.charactersLexed + 1 } x hx hs htr)
  generalize hτ : ({ σ with charactersLexed := σ.charactersLexed + 1 } : Lexer) = τ at hp
  have hpt : pendingType σ = pendingType τ := by
    rw [← hτ]; exact (pendingType_congr (σ := σ) (τ := { σ with charactersLexed := σ.charactersLexed + 1 }) rfl rfl rfl).symm
  obtain ⟨f1, f2, f3, f4, f5, _, _⟩ := endOf_fields τ
  have hnt : (endOf τ).state ≠ .noToken := by
    rw [f2, ← hτ]; show σ.state ≠ _; rcases hs with h | h | h | h | h <;> (rw [h]; decide)
  rw [hpt]
  unfold pendingType
  constructor
  · intro hnone
    have hb := finishChar_fail cc x hnt (σ1 := endOf τ) (by
      by_cases hcv : canCreateValidToken { endOf τ with canFloat := !blocksFloat (endOf τ).currentTokenType } = .ok
      · rw [if_pos hcv] at hnone; exact Or.inr hnone
      · left; cases h : canCreateValidToken { endOf τ with canFloat := !blocksFloat (endOf τ).currentTokenType } with
        | ok => exact absurd h hcv
        | err => exact h)
    exact ⟨_, hp.trans (congrArg Outcome.ok (Prod.ext rfl hb.2)), hb.1⟩
  · intro ty hty
    by_cases hcv : canCreateValidToken { endOf τ with canFloat := !blocksFloat (endOf τ).currentTokenType } = .ok
    · rw [if_pos hcv] at hty
      rw [hp, finishChar_emit cc x hnt hcv hty, restart, if_pos (by rw [f5, ← hτ]; exact hcr), pendingTok, f1, f3, f4, ← hτ]
      rfl
    · rw [if_neg hcv] at hty; cases hty

theorem canCreate_atEnd (s : Lexer) (b : Bool) :
    canCreateValidToken { ({ s with atEnd := b } : Lexer) with canFloat := !blocksFloat s.currentTokenType } =
    canCreateValidToken { s with canFloat := !blocksFloat s.currentTokenType } := rfl

theorem bumpColumn_state' (σ : Lexer) (c : Char) : (bumpColumn σ c).state = σ.state := bumpColumn_state σ c

theorem afterEmit_sentinel (cc : CharClass) (hcc : cc.Sane) (s : Lexer) (htr : s.operatorTree = theTree) (hat : s.atEnd = true) :
    (bumpColumn (startToken cc (afterEmit s) '\x00') '\x00').state = .noToken ∧
    (bumpColumn (startToken cc (afterEmit s) '\x00') '\x00').currentCharacters = [] ∧
    (bumpColumn (startToken cc (afterEmit s) '\x00') '\x00').result = .ok ∧
    (bumpColumn (startToken cc (afterEmit s) '\x00') '\x00').operatorTree = theTree := by
  simp only [bumpColumn_state, bumpColumn_chars, bumpColumn_result, bumpColumn_tree]
  have hn := startToken_nul_full cc hcc (afterEmit s)
    (by simp only [afterEmit]; rw [htr]; exact operatorTree_TreeOk) (by simpa [afterEmit] using hat)
  have hfr := startToken_startFrame cc (afterEmit s) '\x00'
  exact ⟨hn.1, hn.2.1, by rw [hn.2.2]; rfl, by rw [hfr.operatorTree]; simpa [afterEmit] using htr⟩

/-- `sa` is the lexer with `at_end` set -/
theorem finishChar_sentinel (cc : CharClass) (hcc : cc.Sane) (sa : Lexer) (hnt : sa.state ≠ .noToken) (ty : Gen.TokenType)
    (hcv : canCreateValidToken { sa with canFloat := !blocksFloat sa.currentTokenType } = .ok)
    (hty : sa.currentTokenType = some ty) (htr : sa.operatorTree = theTree) (hcr : sa.shouldCreate = true)
    (hat : sa.atEnd = true) :
    ∃ σ1, finishChar cc sa '\x00' none true =
        (σ1, some ⟨sa.currentCharacters, ty, sa.tokenStartRow, sa.tokenStartColumn⟩) ∧
      σ1.state = .noToken ∧ σ1.currentCharacters = [] ∧ σ1.result = .ok ∧ σ1.operatorTree = theTree := by
  refine ⟨_, finishChar_emit cc '\x00' hnt hcv hty, ?_⟩
  rw [restart, if_pos hcr]
  exact afterEmit_sentinel cc hcc sa htr hat

/-- a lexer between tokens from which the next token is started -/
structure BaseOK (B : Lexer) : Prop where
  tree : B.operatorTree = theTree
  create : B.shouldCreate = true
  ok : B.result = .ok
  couldBe : B.couldBeSubExpression = false

theorem afterEmit_baseOK (e : Lexer) (htr : e.operatorTree = theTree) (hcr : e.shouldCreate = true) :
    BaseOK (afterEmit e) := ⟨by simpa [afterEmit] using htr, by simpa [afterEmit] using hcr, rfl, rfl⟩

theorem base_blank (cc : CharClass) (B : Lexer) (c : Char) (hc : IsBlank c) (hB : BaseOK B) :
    InWhitespace (bumpColumn (startToken cc B c) c) [c] ∧ (bumpColumn (startToken cc B c) c).operatorTree = theTree ∧
    PosEq (eraseW (bumpColumn (startToken cc B c) c)) (eraseW { B with state := .spaces }) := by
  rw [startToken_blank cc B c hc hB.tree]
  rcases hc with rfl | rfl
  all_goals
    refine ⟨⟨⟨?_, ?_, ?_, ?_, ?_⟩, ?_⟩, ?_, ?_⟩
    all_goals first
      | (rw [posEq_iff]; simp [bumpColumn, eraseW])
      | simp [bumpColumn, hB.tree, hB.create, hB.ok, hB.couldBe]

theorem afterEmit_blank (cc : CharClass) (s : Lexer) (c : Char) (hc : IsBlank c) (htr : s.operatorTree = theTree)
    (hcr : s.shouldCreate = true) :
    InWhitespace (bumpColumn (startToken cc (afterEmit s) c) c) [c] ∧
    (bumpColumn (startToken cc (afterEmit s) c) c).operatorTree = theTree ∧
    (bumpColumn (startToken cc (afterEmit s) c) c).atEnd = s.atEnd := by
  obtain ⟨h1, h2, h3⟩ := base_blank cc (afterEmit s) c hc (afterEmit_baseOK s htr hcr)
  exact ⟨h1, h2, (posEq_eraseW h3).2.2.2.2.2.symm⟩

theorem processChar_nul_done (cc : CharClass) (hcc : cc.Sane) (σa : Lexer) (hs : σa.state = .noToken)
    (hat : σa.atEnd = true) (htr : σa.operatorTree = theTree) (hok : σa.result = .ok) :
    ∃ σ1, processChar cc σa '\x00' = .ok (σ1, none) ∧ σ1.currentCharacters = [] ∧ σ1.result = .ok := by
  rw [processChar_noToken cc σa '\x00' hs]
  have hn := startToken_nul_full cc hcc { σa with charactersLexed := σa.charactersLexed + 1 }
    (by simp only []; rw [htr]; exact operatorTree_TreeOk) hat
  exact ⟨_, rfl, by rw [bumpColumn_chars]; exact hn.2.1, by rw [bumpColumn_result, hn.2.2]; exact hok⟩

theorem lexEnd_done (cc : CharClass) (hcc : cc.Sane) (fuel : Nat) (σ : Lexer) (toks : List LexerToken)
    (hs : σ.state = .noToken) (hok : σ.result = .ok) (htr : σ.operatorTree = theTree) :
    ∃ σ', lexEnd cc (fuel + 1) σ toks = .ok (toks, σ') := by
  obtain ⟨σ1, hp, h1, h2⟩ := processChar_nul_done cc hcc { σ with atEnd := true } hs rfl htr hok
  simp only [lexEnd, isErr_of_ok hok, Bool.false_eq_true, ↓reduceIte]
  rw [hp]
  simp only [h1, utf8Len, Nat.lt_irrefl, decide_false, Bool.false_and, Bool.false_eq_true, ↓reduceIte]
  exact ⟨σ1, by simp [lexFinish, h2]⟩

theorem lexEnd_emit_done (cc : CharClass) (hcc : cc.Sane) (fuel : Nat) (σ σ1 : Lexer) (toks : List LexerToken)
    (t : LexerToken) (hok : σ.result = .ok) (hp : processChar cc { σ with atEnd := true } '\x00' = .ok (σ1, some t))
    (hs1 : σ1.state = .noToken) (hr1 : σ1.result = .ok) (ht1 : σ1.operatorTree = theTree) :
    ∃ σ', lexEnd cc (fuel + 2) σ toks = .ok (toks ++ [t], σ') := by
  rw [show fuel + 2 = (fuel + 1) + 1 from rfl, lexEnd]
  simp only [isErr_of_ok hok, Bool.false_eq_true, ↓reduceIte]
  rw [hp]
  simp only [hr1]
  exact lexEnd_done cc hcc fuel σ1 _ hs1 hr1 ht1

end Garnish.Model.Lexer
