/-
Helper lemmas for Props/C07Access: outcomes that are `ok` or `err` (`Safe`) or at least no panic (`NoPanic`), `usize`
arithmetic, slices of lists and the per-cell collectors of Model/Access.lean.  The bounds-checked getter and the slices of
the heap are in Lemmas/AccessItems.lean.
-/
import Garnish.Model.Access
import Garnish.Lemmas.Outcome
namespace Garnish.Access
open Garnish
open Garnish.BasicOpt (Cell)

/-- the outcome is a value or an `Err` the host can handle: not a panic, not out of fuel -/
def Safe {α : Type} (o : Outcome α) : Prop := (∃ a, o = .ok a) ∨ (∃ e, o = .err e)

/-- not a panic (a fuel-bounded loop may still run out of fuel) -/
def NoPanic {α : Type} (o : Outcome α) : Prop := ∀ m, o ≠ .panic m

theorem Safe.noPanic {α} {o : Outcome α} (h : Safe o) : NoPanic o := by
  intro m hm; rcases h with ⟨a, h⟩ | ⟨e, h⟩ <;> simp [h] at hm

theorem safe_ok {α} (a : α) : Safe (Outcome.ok a) := .inl ⟨a, rfl⟩
theorem safe_err {α} (e : ErrClass) : Safe (Outcome.err e : Outcome α) := .inr ⟨e, rfl⟩

theorem safe_bind {α β} {x : Outcome α} {f : α → Outcome β} (hx : Safe x) (hf : ∀ a, x = .ok a → Safe (f a)) :
    Safe (x.bind f) := by
  rcases hx with ⟨a, h⟩ | ⟨e, h⟩
  · subst h; exact hf a rfl
  · subst h; exact safe_err e

theorem noPanic_ok {α} (a : α) : NoPanic (Outcome.ok a) := by intro m h; cases h
theorem noPanic_err {α} (e : ErrClass) : NoPanic (Outcome.err e : Outcome α) := by intro m h; cases h
theorem noPanic_fuelOut {α} : NoPanic (Outcome.fuelOut : Outcome α) := by intro m h; cases h

theorem noPanic_bind {α β} {x : Outcome α} {f : α → Outcome β} (hx : NoPanic x) (hf : ∀ a, x = .ok a → NoPanic (f a)) :
    NoPanic (x.bind f) := by
  cases x with
  | ok a => exact hf a rfl
  | err e => exact noPanic_err e
  | panic m => exact absurd rfl (hx m)
  | fuelOut => exact noPanic_fuelOut

@[simp] theorem bind_ok {α β} (a : α) (f : α → Outcome β) : (Outcome.ok a).bind f = f a := rfl
@[simp] theorem bind_err {α β} (e : ErrClass) (f : α → Outcome β) : (Outcome.err e : Outcome α).bind f = .err e := rfl
@[simp] theorem bind_panic {α β} (m : String) (f : α → Outcome β) : (Outcome.panic m : Outcome α).bind f = .panic m := rfl
@[simp] theorem bind_fuelOut {α β} (f : α → Outcome β) : (Outcome.fuelOut : Outcome α).bind f = .fuelOut := rfl

theorem uadd_ok {a b : Nat} (h : a + b ≤ USIZE_MAX) : uadd a b = .ok (a + b) := by simp [uadd, h]
theorem usub_ok {a b : Nat} (h : b ≤ a) : usub a b = .ok (a - b) := by simp [usub, h]

theorem uadd_panics_iff (a b : Nat) : (∃ m, uadd a b = .panic m) ↔ USIZE_MAX < a + b := by
  unfold uadd; split <;> simp <;> omega

theorem extract_sub {α} (xs : List α) {a b a' b' : Nat} (h1 : a ≤ a') (h3 : b' ≤ b) :
    xs.extract a' b' = (xs.extract a b).extract (a' - a) (b' - a) := by
  simp only [List.extract_eq_take_drop, List.drop_take, List.drop_drop, List.take_take]
  congr 1
  · omega
  · congr 1; omega

theorem mem_extract {α} {xs : List α} {a b : Nat} {x : α} (h : x ∈ xs.extract a b) : x ∈ xs := by
  rw [List.extract_eq_take_drop] at h
  exact List.mem_of_mem_drop (List.mem_of_mem_take h)

theorem map_extract {α β} (f : α → β) (xs : List α) (a b : Nat) : (xs.extract a b).map f = (xs.map f).extract a b := by
  simp [List.extract_eq_take_drop, List.map_take, List.map_drop]

theorem length_extract {α} (xs : List α) {a b : Nat} (h2 : b ≤ xs.length) : (xs.extract a b).length = b - a := by
  simp [List.extract_eq_take_drop]; omega

section collect
variable {β : Type} (proj : Cell → Option β) (bad : Outcome (List β))

theorem collectWith_ok_iff (hbad : ∀ ys, bad ≠ .ok ys) (xs : List Cell) (ys : List β) :
    collectWith proj bad xs = .ok ys ↔ xs.map proj = ys.map some := by
  induction xs generalizing ys with
  | nil => cases ys <;> simp [collectWith]
  | cons c rest ih =>
    unfold collectWith
    cases hp : proj c with
    | none =>
      simp only [List.map_cons, hp]
      constructor
      · intro h; exact absurd h (hbad ys)
      · intro h; cases ys <;> simp at h
    | some b =>
      simp only [List.map_cons, hp, Outcome.bind_eq_ok, ih]
      constructor
      · rintro ⟨bs, h, e⟩; cases e; simp [h]
      · intro h
        cases ys with
        | nil => simp at h
        | cons y ys' =>
          simp only [List.map_cons, List.cons.injEq, Option.some.injEq] at h
          obtain ⟨rfl, h2⟩ := h
          exact ⟨ys', h2, rfl⟩

theorem collectWith_extract (hbad : ∀ ys, bad ≠ .ok ys) {xs : List Cell} {ys : List β}
    (h : collectWith proj bad xs = .ok ys) (a b : Nat) :
    collectWith proj bad (xs.extract a b) = .ok (ys.extract a b) := by
  rw [collectWith_ok_iff proj bad hbad] at h ⊢
  rw [map_extract, map_extract, h]

theorem collectWith_cases (xs : List Cell) : (∃ ys, collectWith proj bad xs = .ok ys) ∨ collectWith proj bad xs = bad := by
  induction xs with
  | nil => exact .inl ⟨[], rfl⟩
  | cons c rest ih =>
    unfold collectWith
    cases hp : proj c with
    | none => exact .inr rfl
    | some b =>
      rcases ih with ⟨ys, h⟩ | h
      · exact .inl ⟨b :: ys, by simp [h]⟩
      · rw [h]
        cases bad with
        | ok ys => exact .inl ⟨b :: ys, rfl⟩
        | err e => exact .inr rfl
        | panic m => exact .inr rfl
        | fuelOut => exact .inr rfl

end collect

end Garnish.Access
