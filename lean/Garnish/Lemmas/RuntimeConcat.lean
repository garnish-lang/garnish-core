/-
Refinement lemmas for traits/src/helpers/concatenation.rs, part 1: the inner list loop and the outer register work-list
of `iterate_concatenation_mut_with_method` visit the flattened items in order, each with its running index, until the
check function answers; sufficient fuel = number of nodes + 1. Proved once (`iterListLoop_walk`, `iterLoop_walk`) for a
check that may carry state and change the store (`WalkRefines`: it takes items — `taken` — and ends at its first hit,
`firstHit`; `visit`, `nodes`, `firstHit`: Model/Runtime/ConcatSpec.lean); a read-only check (`CheckRefines`,
Model/Runtime/RefinesApply.lean) is the case that takes nothing (`CheckRefines.walk`), the decisions per index of
casting.rs another (Lemmas/RuntimeCastConcat.lean).
-/
import Garnish.Lemmas.RuntimeAccess
import Garnish.Model.Runtime.RefinesApply
import Garnish.Lemmas.Ops
namespace Garnish.Lemmas.Runtime
open Garnish Gen Garnish.Abs Garnish.Model.Equality Garnish.Model.Runtime

variable {F σ : Type} {S : RStore F σ} (fo : FloatOps F)

theorem firstHit_append (vchk : Nat → Val F → Option (Val F)) : ∀ (k : Nat) (xs ys : List (Val F)),
    firstHit vchk k (xs ++ ys) = match firstHit vchk k xs with
      | some w => some w
      | none => firstHit vchk (k + xs.length) ys
  | k, [], ys => by simp [firstHit]
  | k, x :: xs, ys => by
    simp only [List.cons_append, firstHit]
    cases vchk k x with
    | some w => rfl
    | none =>
      simp only []
      rw [firstHit_append vchk (k + 1) xs ys]
      simp only [List.length_cons]
      rw [show k + 1 + xs.length = k + (xs.length + 1) by omega]

theorem nodes_pos (v : Val F) : 0 < nodes v := by cases v <;> simp [nodes] <;> omega

theorem plus_nat (a b : Nat) (h : a + b ≤ 2147483647) :
    Number.plus fo (.int (a : Int)) (.int (b : Int)) = some (.int ((a + b : Nat) : Int)) := by
  have hr : InRange ((a : Int) + (b : Int)) := by unfold InRange; omega
  simp [Number.plus, Number.doOp, Number.overflowingAdd, Lemmas.ovf_eq, hr]

theorem visit_other (rev : Bool) {v : Val F} (h1 : v.typeOf ≠ .list) (h2 : v.typeOf ≠ .concatenation) :
    visit rev v = [v] := by
  cases v <;> first | rfl | exact absurd rfl h1 | exact absurd rfl h2

theorem nodes_other {v : Val F} (h2 : v.typeOf ≠ .concatenation) : nodes v = 1 := by
  cases v <;> first | rfl | exact absurd rfl h2

theorem length_le_nodesAll {view : StoreView F} : ∀ {ps : List Nat} {pvs : List (Val F)},
    DecodesList view ps pvs → ps.length ≤ nodesAll pvs
  | [], [], .nil => Nat.le_refl _
  | _ :: _, v :: _, .cons _ t => by
    have := length_le_nodesAll t
    have := nodes_pos v
    simp only [List.length_cons, nodesAll]; omega

theorem concat_of {s : σ} {a : Nat} {vl vr : Val F} (h : Decodes (S.view s) a (.concat vl vr)) :
    ∃ x y, (S.view s).concatenation a = some (x, y) ∧ Decodes (S.view s) x vl ∧ Decodes (S.view s) y vr := by
  cases h with
  | concat _ hc dl dr _ _ _ => exact ⟨_, _, hc, dl, dr⟩

theorem getMethod_of (rev : Bool) {s : σ} {a x y : Nat} (h : (S.view s).concatenation a = some (x, y)) :
    getMethod S rev a s = .ok ((if rev then (y, x) else (x, y)), s) := by
  have : getConcatenation S a s = .ok ((x, y), s) := by
    simp [getConcatenation, RM.lift, h, fetch, Outcome.ofOption, Outcome.bind]
  rw [getMethod, bind_ok this]; rfl

/-- the items a walk takes before its first hit: the check `vchk` ends the walk where it answers, `take` says which of
the items passed over are taken -/
def taken (vchk : Nat → Val F → Option (Val F)) (take : Nat → Val F → Bool) : Nat → List (Val F) → List (Val F)
  | _, [] => []
  | k, v :: vs =>
    match vchk k v with
    | some _ => []
    | none => if take k v then v :: taken vchk take (k + 1) vs else taken vchk take (k + 1) vs

theorem taken_append (vchk : Nat → Val F → Option (Val F)) (take : Nat → Val F → Bool) :
    ∀ (k : Nat) (xs ys : List (Val F)),
      taken vchk take k (xs ++ ys) = match firstHit vchk k xs with
        | some _ => taken vchk take k xs
        | none => taken vchk take k xs ++ taken vchk take (k + xs.length) ys
  | k, [], ys => by simp [taken, firstHit]
  | k, x :: xs, ys => by
    have ih := taken_append vchk take (k + 1) xs ys
    have hk : k + 1 + xs.length = k + (xs.length + 1) := by omega
    simp only [List.cons_append, taken, firstHit, List.length_cons]
    cases vchk k x with
    | some w => rfl
    | none =>
      simp only [ih, hk]
      cases firstHit vchk (k + 1) xs <;> cases take k x <;> simp

namespace On

variable {Inv : σ → Prop}

/-- no node of a concatenation tree is `custom` (a `custom` operand cannot be shown readable: in Simple a `StackFrame`
cell also has type Custom) -/
def ncNodes : Val F → Prop
  | .concat l r => ncNodes l ∧ ncNodes r
  | .custom => False
  | _ => True

theorem ncNodes_ne {v : Val F} (h : ncNodes v) : v ≠ .custom := by
  intro hv; subst hv; exact h

def ncAll (vs : List (Val F)) : Prop := ∀ v ∈ vs, ncNodes v

theorem ncAll_cons2 {a b : Val F} {vs : List (Val F)} (ha : ncNodes a) (hb : ncNodes b) (h : ncAll vs) :
    ncAll (a :: b :: vs) := by
  intro x hx
  rcases List.mem_cons.mp hx with rfl | hx
  · exact ha
  · rcases List.mem_cons.mp hx with rfl | hx
    · exact hb
    · exact h x hx

/-- the contract of a check function that may carry state and change the store: where the value-level check `vchk`
answers it answers with an address of that value; elsewhere it passes, taking the item where `take` says so — an
effect that keeps the invariant `Q` of its state and of what has been taken; the work-list's own register traffic
does not disturb `Q` -/
structure WalkRefines {α : Type} (S : RStore F σ) (Inv : σ → Prop)
    (checkFn : α → Number F → Nat → RM σ (Option Nat × α)) (vchk : Nat → Val F → Option (Val F))
    (take : Nat → Val F → Bool) (Q : α → List Nat → σ → Prop) : Prop where
  hit : ∀ s acc built k addr v w, k ≤ 2147483647 → Decodes (S.view s) addr v → vchk k v = some w → Q acc built s →
    ∃ x, checkFn acc (.int k) addr s = .ok ((some x, acc), s) ∧ Decodes (S.view s) x w
  skip : ∀ s acc built k addr v, k ≤ 2147483647 → Decodes (S.view s) addr v → vchk k v = none → take k v = false →
    Q acc built s → checkFn acc (.int k) addr s = .ok ((none, acc), s)
  add : ∀ s acc built k addr v, k ≤ 2147483647 → Decodes (S.view s) addr v → vchk k v = none → take k v = true →
    Inv s → Q acc built s →
    ∃ acc' s', checkFn acc (.int k) addr s = .ok ((none, acc'), s') ∧ EffI S Inv s s' (S.regs s) (S.vals s) ∧
      Q acc' (built ++ [addr]) s'
  pop : ∀ s acc built o s', Q acc built s → S.popRegister s = .ok (o, s') → Q acc built s'
  push : ∀ s acc built x u s', Q acc built s → S.pushRegister x s = .ok (u, s') → Q acc built s'

/-- what one run of the outer loop establishes: the registers above `base` are what is left of the work-list, the
items taken decode to `taken …`, and the result is the first hit — or none, with the work-list used up and every item
counted -/
def WalkOut {α : Type} (S : RStore F σ) (Inv : σ → Prop) (vchk : Nat → Val F → Option (Val F))
    (take : Nat → Val F → Bool) (Q : α → List Nat → σ → Prop) (rev : Bool) (base : List Nat) (s : σ)
    (res : Outcome (((Option Nat × Nat) × α) × σ)) (index : Nat) (built : List Nat) (pvs : List (Val F)) : Prop :=
  ∃ r idx' acc' s' extra new, res = .ok (((r, idx'), acc'), s') ∧
    EffI S Inv s s' (extra ++ base) (S.vals s) ∧ extra.length ≤ nodesAll pvs ∧ Q acc' (built ++ new) s' ∧
    DecodesList (S.view s') new (taken vchk take index (visitAll rev pvs)) ∧
    match firstHit vchk index (visitAll rev pvs) with
    | some w => ∃ a, r = some a ∧ Decodes (S.view s') a w
    | none => r = none ∧ extra = [] ∧ idx' = index + (visitAll rev pvs).length

end On

namespace Core
open On

variable {Inv : σ → Prop} {Rd : σ → Nat → Prop} {K : Prop}

section walk
variable {α : Type} {checkFn : α → Number F → Nat → RM σ (Option Nat × α)} {vchk : Nat → Val F → Option (Val F)}
  {take : Nat → Val F → Bool} {Q : α → List Nat → σ → Prop}

/-- the inner `while i < len` over one list operand -/
theorem iterListLoop_walk (L : LawsK S Inv Rd K) (hp : WalkRefines S Inv checkFn vchk take Q)
    (r : Nat) (vs : List (Val F)) (index : Nat) (hb : index + vs.length ≤ 2147483647) :
    ∀ (rem i : Nat) (acc : α) (built : List Nat) (s : σ), rem + i = vs.length → Inv s →
      Decodes (S.view s) r (.list vs) → Q acc built s →
      ∃ o acc' s' new, iterListLoop fo S checkFn r index rem i acc s = .ok ((o, acc'), s') ∧
        EffI S Inv s s' (S.regs s) (S.vals s) ∧ Q acc' (built ++ new) s' ∧
        DecodesList (S.view s') new (taken vchk take (index + i) (vs.drop i)) ∧
        match firstHit vchk (index + i) (vs.drop i) with
        | some w => ∃ a, o = some a ∧ Decodes (S.view s') a w
        | none => o = none := by
  intro rem
  induction rem with
  | zero =>
    intro i acc built s hri hinv hd hq
    have : vs.drop i = [] := List.drop_eq_nil_of_le (by omega)
    exact ⟨none, acc, s, [], rfl, EffI.refl s hinv, by simpa using hq, by rw [this]; exact .nil, by rw [this]; rfl⟩
  | succ rem ih =>
    intro i acc built s hri hinv hd hq
    have hlt' : i < vs.length := by omega
    obtain ⟨items, hi, hdl⟩ := listItems_of hd
    have hl := EqualityRefine.decodesList_length hdl
    have hlt : i < items.length := by omega
    obtain ⟨_, hget⟩ := L.listIdx s r items hi
    obtain ⟨_, dv⟩ := decodesList_getElem hdl i hlt
    have hsz : (sizeToNumber i : Number F) = .int i := sizeToNumber_small (by omega)
    have hsx : (sizeToNumber index : Number F) = .int index := sizeToNumber_small (by omega)
    have hg := hget i hlt
    rw [List.getElem?_eq_getElem hlt] at hg
    have hdrop : vs.drop i = vs[i] :: vs.drop (i + 1) := List.drop_eq_getElem_cons hlt'
    have hk : index + i ≤ 2147483647 := by omega
    rw [iterListLoop]
    simp only [hsz, hsx]
    rw [bind_ok (readR_ok (g := fun st => S.listItem st r (.int i)) hg)]
    simp only []
    rw [bind_ok (pure_apply items[i] s), plus_nat fo index i (by omega), bind_ok (orNumErr_some _ s)]
    rw [hdrop]
    simp only [taken, firstHit]
    cases hv : vchk (index + i) vs[i] with
    | some w =>
      obtain ⟨x, hx, dx⟩ := hp.hit s acc built (index + i) items[i] vs[i] w hk dv hv hq
      rw [bind_ok hx]
      exact ⟨some x, acc, s, [], rfl, EffI.refl s hinv, by simpa using hq, .nil, x, rfl, dx⟩
    | none =>
      simp only []
      cases ht : take (index + i) vs[i] with
      | false =>
        rw [bind_ok (hp.skip s acc built (index + i) items[i] vs[i] hk dv hv ht hq)]
        simp only [Bool.false_eq_true, if_false]
        obtain ⟨o2, acc2, s2, new2, h2, e2, q2, d2, st2⟩ := ih (i + 1) acc built s (by omega) hinv hd hq
        rw [show index + (i + 1) = index + i + 1 by omega] at d2 st2
        exact ⟨o2, acc2, s2, new2, h2, e2, q2, d2, st2⟩
      | true =>
        obtain ⟨acc1, s1, h1, e1, q1⟩ := hp.add s acc built (index + i) items[i] vs[i] hk dv hv ht hinv hq
        rw [bind_ok h1]
        simp only [if_true]
        obtain ⟨o2, acc2, s2, new2, h2, e2, q2, d2, st2⟩ :=
          ih (i + 1) acc1 (built ++ [items[i]]) s1 (by omega) e1.inv (e1.dec hd) q1
        rw [show index + (i + 1) = index + i + 1 by omega] at d2 st2
        rw [e1.regs, e1.vals] at e2
        exact ⟨o2, acc2, s2, items[i] :: new2, h2, e1.trans e2, by simpa using q2,
          .cons ((e1.trans e2).dec dv) d2, st2⟩

/-- the outer `while get_register_len() > start_register`: the work-list visits the flattened items in order, the
check sees each with its running index -/
theorem iterLoop_walk (L : LawsK S Inv Rd K) (rev : Bool) (hp : WalkRefines S Inv checkFn vchk take Q)
    (base : List Nat) :
    ∀ (fuel : Nat) (ps : List Nat) (pvs : List (Val F)) (index : Nat) (acc : α) (built : List Nat) (s : σ),
      Inv s → DeepK K S s base → (K → ncAll pvs) →
      S.regs s = ps ++ base → DecodesList (S.view s) ps pvs → nodesAll pvs + 1 ≤ fuel →
      index + (visitAll rev pvs).length ≤ 2147483647 → Q acc built s →
      WalkOut S Inv vchk take Q rev base s (iterLoop fo S rev checkFn base.length fuel index acc s) index built pvs := by
  intro fuel
  induction fuel with
  | zero => intro ps pvs index acc built s _ _ _ _ _ hf _ _; omega
  | succ fuel ih =>
    intro ps pvs index acc built s hinv hdb hnc hregs hd hf hb hq
    have hlen : getRegisterLen S s = .ok ((ps ++ base).length, s) := by
      show Outcome.ok ((S.regs s).length, s) = _
      rw [hregs]
    rw [iterLoop, bind_ok hlen]
    cases hd with
    | nil =>
      simp only [List.nil_append, Nat.lt_irrefl, gt_iff_lt, if_false]
      exact ⟨none, index, acc, s, [], [], rfl, ⟨⟨Keeps.refl S s, by simpa using hregs, rfl, rfl, rfl⟩, hinv⟩,
        Nat.le_refl _, by simpa using hq, .nil, rfl, rfl, rfl⟩
    | cons dp dps =>
      rename_i p ps' v vs
      have hgt : (p :: ps' ++ base).length > base.length := by simp; omega
      simp only [hgt, if_true]
      have hncv : K → ncNodes v := fun k => hnc k v (List.mem_cons_self ..)
      have hncs : K → ncAll vs := fun k x hx => hnc k x (List.mem_cons_of_mem _ hx)
      obtain ⟨s1, h1, e1⟩ := popReg L hregs hinv (hdb.app ps')
      have hq1 := hp.pop s acc built _ s1 hq h1
      rw [bind_ok h1]
      simp only []
      have dp1 := e1.dec dp
      have dps1 := decodesList_keeps e1.keeps dps
      rw [bind_ok (getDataType_of dp1)]
      have hvl := length_le_nodesAll dps
      by_cases hcat : v.typeOf = .concatenation
      · -- a nested concatenation: push its operands, the one to visit first on top
        obtain ⟨vl, vr, rfl⟩ := typeOf_concat hcat
        obtain ⟨la, ra, hc, dl, dr⟩ := concat_of dp1
        simp only [Val.typeOf]
        rw [bind_ok2 (getMethod_of rev hc)]
        have two : ∀ (x y : Nat) (vx vy : Val F), Decodes (S.view s1) x vx → Decodes (S.view s1) y vy →
            (K → ncNodes vx) → (K → ncNodes vy) → visit rev (.concat vl vr) = visit rev vx ++ visit rev vy →
            nodes vx + nodes vy = nodes vl + nodes vr →
            WalkOut S Inv vchk take Q rev base s
              (((do S.pushRegister y; S.pushRegister x; pure ((none, index), acc) :
                  RM σ ((Option Nat × Nat) × α)) >>= fun (x : (Option Nat × Nat) × α) =>
                match x with
                | ((tempResult, index), acc) =>
                  match tempResult with
                  | some _ => pure ((tempResult, index), acc)
                  | none => iterLoop fo S rev checkFn base.length fuel index acc) s1)
              index built (.concat vl vr :: vs) := by
          intro x y vx vy dx dy nx ny hvis hnod
          obtain ⟨s2, h2, e2⟩ := pushReg L dy (fun k => ncNodes_ne (ny k))
          have hq2 := hp.push s1 acc built y _ s2 hq1 h2
          rw [e1.regs, e1.vals] at e2
          obtain ⟨s3, h3, e3⟩ := pushReg L (e2.dec dx) (fun k => ncNodes_ne (nx k))
          have hq3 := hp.push s2 acc built x _ s3 hq2 h3
          rw [e2.regs, e2.vals] at e3
          rw [bind_ok2 h2, bind_ok2 h3, bind_ok (pure_apply _ s3)]
          simp only []
          have e03 := (e1.trans e2).trans e3
          have key := ih (x :: y :: ps') (vx :: vy :: vs) index acc built s3 e3.inv (e03.deepK hdb)
            (fun k => ncAll_cons2 (nx k) (ny k) (hncs k)) e3.regs
            (.cons ((e2.trans e3).dec dx) (.cons ((e2.trans e3).dec dy) (decodesList_keeps (e2.trans e3).keeps dps1)))
            (by simp only [nodesAll, nodes] at hf ⊢; omega)
            (by simpa [visitAll, hvis, List.append_assoc] using hb) hq3
          obtain ⟨r, idx', acc', s', extra, new, hr, er, hx, hqq, hdd, hm⟩ := key
          rw [e3.vals] at er
          refine ⟨r, idx', acc', s', extra, new, hr, e03.trans er,
            by simp only [nodesAll, nodes] at hx ⊢; omega, hqq, ?_, ?_⟩
          · simpa [visitAll, hvis, List.append_assoc] using hdd
          · simpa [visitAll, hvis, List.append_assoc] using hm
        cases rev with
        | false =>
          simp only [Bool.false_eq_true, if_false]
          exact two la ra vl vr dl dr (fun k => (hncv k).1) (fun k => (hncv k).2) (by simp [visit]) rfl
        | true =>
          simp only [if_true]
          exact two ra la vr vl dr dl (fun k => (hncv k).2) (fun k => (hncv k).1) (by simp [visit]) (by omega)
      · by_cases hlist : v.typeOf = .list
        · -- a list operand: the inner loop over its items
          obtain ⟨xs, rfl⟩ := typeOf_list hlist
          obtain ⟨items, hi, hdl⟩ := listItems_of dp1
          have hl := EqualityRefine.decodesList_length hdl
          obtain ⟨hlen', _⟩ := L.listIdx s1 p items hi
          have hb' : index + xs.length ≤ 2147483647 := by
            simp only [visitAll, visit, List.length_append] at hb; omega
          obtain ⟨o, acc2, s2, new2, ho, e2, q2, d2, st2⟩ :=
            iterListLoop_walk fo L hp p xs index hb' xs.length 0 acc built s1 (by omega) e1.inv dp1 hq1
          simp only [Nat.add_zero, List.drop_zero] at d2 st2
          rw [e1.regs, e1.vals] at e2
          simp only [Val.typeOf]
          rw [bind_ok2 (readR_ok (g := fun st => S.listLen st p) hlen'), hl, bind_ok2 ho, bind_ok (pure_apply _ s2)]
          have hta := taken_append vchk take index xs (visitAll rev vs)
          have hfa := firstHit_append vchk index xs (visitAll rev vs)
          cases hfx : firstHit vchk index xs with
          | some w =>
            rw [hfx] at st2 hta hfa
            obtain ⟨a, rfl, da⟩ := st2
            simp only []
            refine ⟨some a, index + xs.length, acc2, s2, ps', new2, rfl, e1.trans e2,
              by simp only [nodesAll, nodes]; omega, q2, ?_, ?_⟩
            · simp only [visitAll, visit, hta]; exact d2
            · simp only [visitAll, visit, hfa]; exact ⟨a, rfl, da⟩
          | none =>
            rw [hfx] at st2 hta hfa
            subst st2
            simp only []
            have key := ih ps' vs (index + xs.length) acc2 (built ++ new2) s2 e2.inv ((e1.trans e2).deepK hdb) hncs
              e2.regs (decodesList_keeps e2.keeps dps1)
              (by simp only [nodesAll, nodes] at hf ⊢; omega)
              (by simp only [visitAll, visit, List.length_append] at hb; omega) q2
            obtain ⟨r, idx', acc', s', extra, new, hr, er, hx, hqq, hdd, hm⟩ := key
            rw [e2.vals] at er
            refine ⟨r, idx', acc', s', extra, new2 ++ new, hr, (e1.trans e2).trans er,
              by simp only [nodesAll, nodes]; omega, by simpa [List.append_assoc] using hqq, ?_, ?_⟩
            · simp only [visitAll, visit, hta]
              exact EqualityRefine.decodesList_append (decodesList_keeps er.keeps d2) hdd
            · simp only [visitAll, visit, hfa]
              cases hfv : firstHit vchk (index + xs.length) (visitAll rev vs) with
              | some w => rw [hfv] at hm; exact hm
              | none =>
                rw [hfv] at hm
                obtain ⟨h1', h2', h3'⟩ := hm
                exact ⟨h1', h2', by simp only [List.length_append]; omega⟩
        · -- any other value is one item
          have hvis := visit_other rev hlist hcat
          have hb' : index ≤ 2147483647 := by omega
          have hsx : (sizeToNumber index : Number F) = .int index := sizeToNumber_small hb'
          have hn1 : nodes v = 1 := nodes_other hcat
          have hb2 : index + 1 + (visitAll rev vs).length ≤ 2147483647 := by
            simp only [visitAll, hvis, List.length_append, List.length_singleton] at hb; omega
          have hvall : visitAll rev (v :: vs) = v :: visitAll rev vs := by
            simp only [visitAll, hvis, List.singleton_append]
          -- what the rest of the walk gives, after the item has been passed over
          have rest : ∀ (acc1 : α) (built1 : List Nat) (s2 : σ) (new1 : List Nat),
              EffI S Inv s s2 (ps' ++ base) (S.vals s) → Q acc1 (built ++ new1) s2 →
              DecodesList (S.view s2) new1 (if take index v then [v] else []) → vchk index v = none →
              WalkOut S Inv vchk take Q rev base s
                (iterLoop fo S rev checkFn base.length fuel (index + 1) acc1 s2) index built (v :: vs) := by
            intro acc1 built1 s2 new1 e2 q2 d1 hv
            have key := ih ps' vs (index + 1) acc1 (built ++ new1) s2 e2.inv (e2.deepK hdb) hncs e2.regs
              (decodesList_keeps e2.keeps dps) (by simp only [nodesAll] at hf ⊢; omega) hb2 q2
            obtain ⟨r, idx', acc', s', extra, new, hr, er, hx, hqq, hdd, hm⟩ := key
            rw [e2.vals] at er
            refine ⟨r, idx', acc', s', extra, new1 ++ new, hr, e2.trans er, by simp only [nodesAll]; omega,
              by simpa [List.append_assoc] using hqq, ?_, ?_⟩
            · rw [hvall]
              simp only [taken, hv]
              cases ht : take index v <;> rw [ht] at d1 <;> cases d1
              · simpa using hdd
              · rename_i d1 dn; cases dn
                exact .cons (er.dec d1) hdd
            · rw [hvall]
              simp only [firstHit, hv]
              cases hfv : firstHit vchk (index + 1) (visitAll rev vs) with
              | some w => rw [hfv] at hm; exact hm
              | none =>
                rw [hfv] at hm
                obtain ⟨h1', h2', h3'⟩ := hm
                exact ⟨h1', h2', by simp only [List.length_cons]; omega⟩
          generalize hty : v.typeOf = t at hcat hlist
          split
          · exact absurd rfl hcat
          · exact absurd rfl hlist
          · rw [hsx]
            cases hv : vchk index v with
            | some w =>
              obtain ⟨x, hx, dx⟩ := hp.hit s1 acc built index p v w hb' dp1 hv hq1
              rw [bind_ok2 hx, bind_ok (pure_apply _ s1)]
              simp only []
              refine ⟨some x, index + 1, acc, s1, ps', [], rfl, e1, by simp only [nodesAll]; omega, by simpa using hq1,
                ?_, ?_⟩
              · rw [hvall]; simp only [taken, hv]; exact .nil
              · rw [hvall]; simp only [firstHit, hv]; exact ⟨x, rfl, dx⟩
            | none =>
              cases ht : take index v with
              | false =>
                rw [bind_ok2 (hp.skip s1 acc built index p v hb' dp1 hv ht hq1), bind_ok (pure_apply _ s1)]
                simp only []
                exact rest acc built s1 [] e1 (by simpa using hq1) (by rw [ht]; exact .nil) hv
              | true =>
                obtain ⟨acc1, s2, h2, e2, q2⟩ := hp.add s1 acc built index p v hb' dp1 hv ht e1.inv hq1
                rw [e1.regs, e1.vals] at e2
                rw [bind_ok2 h2, bind_ok (pure_apply _ s2)]
                simp only []
                exact rest acc1 built s2 [p] (e1.trans e2) q2 (by rw [ht]; exact .cons (e2.dec dp1) .nil) hv

end walk

/-- a read-only check is a check that takes nothing and has no state to keep -/
theorem _root_.Garnish.Model.Runtime.CheckRefines.walk {checkFn : Unit → Number F → Nat → RM σ (Option Nat × Unit)}
    {vchk : Nat → Val F → Option (Val F)} (hchk : CheckRefines S checkFn vchk) :
    WalkRefines S Inv checkFn vchk (fun _ _ => false) (fun _ _ _ => True) where
  hit s _ _ k addr v w hk dv hv _ := by
    obtain ⟨o, hc, hres⟩ := hchk s k addr v hk dv
    rw [hv] at hres
    obtain ⟨a, rfl, da⟩ := hres
    exact ⟨a, hc, da⟩
  skip s _ _ k addr v hk dv hv _ _ := by
    obtain ⟨o, hc, hres⟩ := hchk s k addr v hk dv
    rw [hv] at hres
    subst hres
    exact hc
  add _ _ _ _ _ _ _ _ _ ht := nomatch ht
  pop _ _ _ _ _ _ _ := trivial
  push _ _ _ _ _ _ _ _ := trivial

end Core

end Garnish.Lemmas.Runtime
