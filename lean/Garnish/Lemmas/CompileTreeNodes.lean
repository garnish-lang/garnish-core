/-
The tie between the two builder models: the simulation, construct by construct — leaves, operators with one operand
(`sim_one_childF`) and two (`sim_two_children`, `sim_binaryWP`), `;`, groups and nested expressions, a side-effect block after a
value, conditionals and logical operators (`sim_branch`), lists (`SimPart`, `sim_list`).
A first visit and a later visit that only emits are read off the handler's plan (Lemmas/BuildPlan.lean; `first_visit_plan`,
`emit_visit_plan` of Lemmas/CompileTreeSim.lean): the lemma of a construct names the plan. The handler itself is unfolded for the
second visit of a value node (`leaf_second`), for the nodes that are visited once (`sim_group`, `sim_emptyNested`, `sim_nested`)
and for the second visits that write a root or rewrite the node's own entry (`sim_cond`, `sim_logical`, `sim_list`).
-/
import Garnish.Lemmas.CompileTreeSim

namespace Garnish.Abs.Tree
open Garnish Garnish.Gen Garnish.Spec Garnish.Abs Garnish.Model.Parser Garnish.Model.Literals Garnish.Model.Build
open Garnish.Lemmas.BuildPlan hiding emit

variable {F : Type} {pf : List Char → Option F} {tree : Array ParseNode} {bodies : List (Nat × Expr F)}

theorem leaf_second {i : Nat} {pn : ParseNode} {x : Expr F} (hx : LeafRep pf pn x) :
    (∃ ins, valueInstr pn.definition = some ins) ∧
    (∀ (crj root cur : Nat) (data : BState F) (nodes : Nodes) (RS S : Array Nat) (s : LState F) (b : BuildNode),
      nodes[i]? = some (some b) → b.state = .initialized → DataEq data s →
      ∃ data', handleParseNode pf ⟨data, nodes, RS, S⟩ crj i pn = .ok ⟨data', nodes, RS, S⟩ ∧
        DataEq data' (emit root cur x s) ∧ (emit root cur x s).pending = s.pending) ∧
    (∀ root cur s, s.jumps.size ≤ (emit root cur x s).jumps.size) := by
  cases hx with
  | input hd =>
    refine ⟨⟨.putValue, by rw [hd]; rfl⟩, ?_, fun _ _ _ => Nat.le_refl _⟩
    intro crj root cur data nodes RS S s b hb hs hdat
    refine ⟨pushInstr data .putValue none (some i), ?_, ?_, rfl⟩
    · simp only [handleParseNode, hd, handleValueLike, getNode, hb, Outcome.bind, hs]
    · simp only [emit]; exact hdat.push _ _ _
  | ident hd =>
    refine ⟨⟨.resolve, by rw [hd]; rfl⟩, ?_, fun _ _ _ => Nat.le_refl _⟩
    intro crj root cur data nodes RS S s b hb hs hdat
    refine ⟨pushInstr (addConst data (.sym (parseSymbol pn.lexToken.text))).1 .resolve
      (some (addConst data (.sym (parseSymbol pn.lexToken.text))).2) (some i), ?_, ?_, rfl⟩
    · simp only [handleParseNode, hd, handleValueLike, getNode, hb, Outcome.bind, hs, parseAddSymbolText, parseAddSymbol]
    · simp only [emit]; exact hdat.pushConst _ _ _
  | @lit v hv =>
    have hdef : valueInstr pn.definition = some .put := by cases hv <;> simp_all [valueInstr]
    refine ⟨⟨.put, hdef⟩, ?_, fun _ _ _ => Nat.le_refl _⟩
    intro crj root cur data nodes RS S s b hb hs hdat
    refine ⟨pushInstr (addConst data v).1 .put (some (addConst data v).2) (some i), ?_, ?_, rfl⟩
    · cases hv with
      | unit h => simp only [handleParseNode, h, handleValuePrimitive, handleValueLike, getNode, hb, Outcome.bind, hs, addUnit]
      | tru h => simp only [handleParseNode, h, handleValuePrimitive, handleValueLike, getNode, hb, Outcome.bind, hs, addTrue]
      | fls h => simp only [handleParseNode, h, handleValuePrimitive, handleValueLike, getNode, hb, Outcome.bind, hs, addFalse]
      | num h hp =>
        simp only [handleParseNode, h, handleValuePrimitive, handleValueLike, getNode, hb, Outcome.bind, hs, parseAddNumber, hp]
      | chars h hp =>
        simp only [handleParseNode, h, handleValuePrimitive, handleValueLike, getNode, hb, Outcome.bind, hs, parseAddCharList, hp]
      | bytes h hp =>
        simp only [handleParseNode, h, handleValuePrimitive, handleValueLike, getNode, hb, Outcome.bind, hs, parseAddByteList, hp]
      | sym h hp =>
        simp only [handleParseNode, h, handleValuePrimitive, handleValueLike, getNode, hb, Outcome.bind, hs,
          parseAddSymbolLiteral, hp, parseAddSymbol]
      | prop h =>
        simp only [handleParseNode, h, handleValueLike, getNode, hb, Outcome.bind, hs, parseAddSymbolText, parseAddSymbol]
    · simp only [emit]; exact hdat.pushConst _ _ _

theorem sim_leaf {i : Nat} {pn : ParseNode} {x : Expr F} (hpn : tree[i]? = some pn) (hl : pn.left = none) (hr : pn.right = none)
    (hx : LeafRep pf pn x) : SimAt pf tree bodies i (i + 1) i x := by
  obtain ⟨⟨ins, hins⟩, h2, _⟩ := leaf_second (i := i) hx
  exact ⟨.leaf hpn, leaf_sim hpn hins hl hr h2⟩

end Garnish.Abs.Tree

namespace Garnish.Abs.Tree
open Garnish Garnish.Gen Garnish.Spec Garnish.Abs Garnish.Model.Parser Garnish.Model.Literals Garnish.Model.Build
open Garnish.Lemmas.BuildPlan hiding emit

variable {F : Type} {pf : List Char → Option F}

section
variable {crj i : Nat} {pn : ParseNode}

theorem prefix_handler {op : Instruction} (hop : prefixOp pn.definition = some op) (ctx : Ctx F) :
    handleParseNode pf ctx crj i pn = handleUnaryPrefix op ctx i pn := by
  unfold prefixOp at hop
  split at hop <;> cases hop <;> rename_i hd <;> simp only [handleParseNode, hd]

theorem suffix_handler {op : Instruction} (hop : suffixOp pn.definition = some op) (ctx : Ctx F) :
    handleParseNode pf ctx crj i pn = handleUnarySuffix op ctx i pn := by
  unfold suffixOp at hop
  split at hop <;> cases hop <;> rename_i hd <;> simp only [handleParseNode, hd]

theorem binOp_handler {op : Instruction} (hop : binOp pn.definition = some op) (ctx : Ctx F) :
    handleParseNode pf ctx crj i pn = handleBinaryOperationWithPush op false ctx i pn := by
  unfold binOp at hop
  split at hop <;> cases hop <;> rename_i hd <;> simp only [handleParseNode, hd, handleBinaryOperation]

end

end Garnish.Abs.Tree

namespace Garnish.Abs.Tree
open Garnish Garnish.Gen Garnish.Spec Garnish.Abs Garnish.Model.Parser Garnish.Model.Literals Garnish.Model.Build
open Garnish.Lemmas.BuildPlan hiding emit

variable {F : Type} {pf : List Char → Option F} {tree : Array ParseNode} {bodies : List (Nat × Expr F)}

theorem Pre.child {nodes : Nodes} {lo hi c cur : Nat} (cp : Option Nat) (p : BuildNode) (hsz : nodes.size = tree.size)
    (hc : nodes[c]? = some (some (mkNode c cur none (Ex.ofCond cp)))) (hcond : (∃ x, cp = some x) → NotCond tree c) :
    Pre tree nodes lo hi c cur none (Ex.ofCond cp) p :=
  ⟨hsz, hc, fun _ _ h => (by cases h), hcond⟩

theorem ival_succ (i hi : Nat) (h : i < hi) (x : Nat) : (x = i ∨ Ival (i + 1) hi x) ↔ Ival i hi x := by
  simp only [Ival]; omega

/-- **a node with one operand scheduled inline**: the plan of its first visit schedules `c` (and may emit: `preD`), the
plan of its second visit emits (`postD`) -/
theorem sim_one_childF {lo hi clo chi i c : Nat} {g : Nat → Nat → LState F → LState F} {x : Expr F} {pn : ParseNode}
    {pre_ : LState F → LState F} {post : Nat → LState F → LState F} {site : String}
    {plan : Ctx F → BuildNode → Outcome (Plan F)} {preD : BState F → BState F} {postD : Nat → BState F → BState F}
    (hpn : tree[i]? = some pn) (hpos : (lo = i ∧ clo = i + 1 ∧ chi = hi) ∨ (clo = lo ∧ chi = i ∧ hi = i + 1))
    (hh : ∀ crj (ctx : Ctx F), handleParseNode pf ctx crj i pn = visit ctx i (plan ctx))
    (hfirst : ∀ (ctx : Ctx F) (b : BuildNode), b.state = .uninitialized → b.parseNodeIndex = i →
      plan ctx b = .ok (firstVisit (preD ctx.data) i (visited b) [(c, BuildNode.new c b.containingExpressionJump, site)] [i, c]))
    (hsecond : ∀ (ctx : Ctx F) (b : BuildNode), b.state = .initialized → b.parseNodeIndex = i →
      plan ctx b = .ok (Lemmas.BuildPlan.emit (postD b.containingExpressionJump ctx.data)))
    (hpreD : ∀ data s, DataEq data s → DataEq (preD data) (pre_ s))
    (hpostD : ∀ cur data s, DataEq data s → DataEq (postD cur data) (post cur s))
    (hpre_p : ∀ s, (pre_ s).pending = s.pending) (hpre_j : ∀ s, s.jumps.size ≤ (pre_ s).jumps.size)
    (hpost_p : ∀ cur s, (post cur s).pending = s.pending)
    (hemit : ∀ root cur s, g root cur s = post cur (emit root cur x (pre_ s)))
    (ih : SimAt pf tree bodies clo chi c x) : Within tree lo hi i ∧ SimF pf tree bodies lo hi i g := by
  obtain ⟨⟨hci, hct⟩, ih⟩ := ih
  have hin : lo ≤ i ∧ i < hi := by rcases hpos with ⟨rfl, rfl, rfl⟩ | ⟨rfl, rfl, rfl⟩ <;> omega
  have hiv : ∀ y, (y = i ∨ Ival clo chi y) ↔ Ival lo hi y := by
    rcases hpos with ⟨rfl, rfl, rfl⟩ | ⟨rfl, rfl, rfl⟩ <;> intro y <;> simp only [Ival] <;> omega
  have hni : ¬ Ival clo chi i := by rcases hpos with ⟨rfl, rfl, rfl⟩ | ⟨rfl, rfl, rfl⟩ <;> simp only [Ival] <;> omega
  refine ⟨⟨hin, lt_of_getElem? hpn⟩, ?_⟩
  intro crj root cur data nodes RS S s lp cp pbn pre hdat hcur
  have hic : i ≠ c := fun h => hni (h ▸ hci)
  have hcin := (hiv c).1 (.inr hci)
  obtain ⟨A, st1, op, hAc⟩ := first_visit_plan pre hin hpn (hh crj _) (hfirst _ _ rfl rfl)
    (fun q hq => by cases List.mem_singleton.1 hq; exact ⟨hcin.1, hcin.2, Ne.symm hic, hct⟩) (List.pairwise_singleton _ _)
  have preC : Pre tree A clo chi c cur none Ex.none pbn :=
    Pre.child none pbn (by rw [op.size, pre.size]) (hAc _ List.mem_cons_self) (fun ⟨_, h⟩ => by cases h)
  obtain ⟨k1, data1, C, RS1, R1, stC, hk1, hd1, hrs1, hp1, done1, _⟩ :=
    ih crj root cur _ A RS (S.push i) (pre_ s) none Ex.none pbn preC (hpreD _ _ hdat) (by have := hpre_j s; omega)
  have hCi : C[i]? = some (some (node1 i cur lp cp)) := by
    rw [done1.frame i hni (fun _ _ h => by cases h)]; exact op.self
  have st2 := emit_visit_plan (lp := lp) (data := data1) (RS := RS1) (S := S) hpn hCi (hh crj _) (hsecond _ _ rfl rfl) rfl rfl
  have hkk : k1 + wsum R1 ≤ 2 * (hi - lo) - 2 := by
    have a1 : Ival lo hi clo := (hiv clo).1 (.inr ⟨Nat.le_refl _, by omega⟩)
    have a2 : Ival lo hi (chi - 1) := (hiv (chi - 1)).1 (.inr ⟨by omega, by omega⟩)
    have a3 : ¬ (clo ≤ i ∧ i < chi) := hni
    simp only [Ival] at a1 a2
    omega
  exact ⟨1 + k1 + 1, _, C, RS1, R1, (st1.trans stC).trans st2, by have := hin.1; have := hin.2; omega,
    by rw [hemit]; exact hpostD _ _ _ hd1, hrs1, by rw [hemit, hpost_p, hp1, hpre_p],
    (op.close pre done1 (fun y ⟨q, hq, e⟩ => by cases List.mem_singleton.1 hq; exact e ▸ hci) hni
      (fun y hy => (hiv y).1 (.inr hy)) hin).cong hiv, ⟨_, hCi, rfl⟩⟩

theorem sim_unaryPre {hi i r : Nat} {op : Instruction} {x : Expr F} {pn : ParseNode} (hpn : tree[i]? = some pn)
    (hop : prefixOp pn.definition = some op) (hr : pn.right = some r)
    (ih : SimAt pf tree bodies (i + 1) hi r x) : SimAt pf tree bodies i hi i (.unary op x) :=
  sim_one_childF (pre_ := id) (post := fun _ s => s.push op none) (preD := id) (postD := fun _ d => pushInstr d op none (some i))
    hpn (.inl ⟨rfl, rfl, rfl⟩)
    (fun _ ctx => by rw [prefix_handler hop, handleUnaryPrefix_eq])
    (fun ctx b hs hpi => by subst hpi; simp only [unaryPlan, hs, hr]; rfl) (fun ctx b hs hpi => by subst hpi; simp only [unaryPlan, hs])
    (fun _ _ h => h) (fun _ _ _ h => h.push _ _ _)
    (fun _ => rfl) (fun _ => Nat.le_refl _) (fun _ _ => rfl) (fun _ _ _ => by simp only [emit, id]) ih

theorem sim_unarySuf {lo i l : Nat} {op : Instruction} {x : Expr F} {pn : ParseNode} (hpn : tree[i]? = some pn)
    (hop : suffixOp pn.definition = some op) (hl : pn.left = some l)
    (ih : SimAt pf tree bodies lo i l x) : SimAt pf tree bodies lo (i + 1) i (.unary op x) :=
  sim_one_childF (pre_ := id) (post := fun _ s => s.push op none) (preD := id) (postD := fun _ d => pushInstr d op none (some i))
    hpn (.inr ⟨rfl, rfl, rfl⟩)
    (fun _ ctx => by rw [suffix_handler hop, handleUnarySuffix_eq])
    (fun ctx b hs hpi => by subst hpi; simp only [unaryPlan, hs, hl]; rfl) (fun ctx b hs hpi => by subst hpi; simp only [unaryPlan, hs])
    (fun _ _ h => h) (fun _ _ _ h => h.push _ _ _)
    (fun _ => rfl) (fun _ => Nat.le_refl _) (fun _ _ => rfl) (fun _ _ _ => by simp only [emit, id]) ih

theorem sim_reapply {hi i r : Nat} {x : Expr F} {pn : ParseNode} (hpn : tree[i]? = some pn)
    (hd : pn.definition = .reapply) (hr : pn.right = some r)
    (ih : SimAt pf tree bodies (i + 1) hi r x) : SimAt pf tree bodies i hi i (.reapply x) :=
  sim_one_childF (pre_ := id) (post := fun cur s => (s.push .updateValue none).push .jumpTo (some cur)) (preD := id)
    (postD := fun cur d => pushInstr (pushInstr d .updateValue none (some i)) .jumpTo (some cur) (some i))
    hpn (.inl ⟨rfl, rfl, rfl⟩) (fun _ ctx => by simp only [handleParseNode, hd]; exact handleReapply_eq)
    (fun ctx b hs hpi => by subst hpi; simp only [reapplyPlan, unaryPlan, hs, hr]; rfl)
    (fun ctx b hs _ => by simp only [reapplyPlan, unaryPlan, hs])
    (fun _ _ h => h) (fun _ _ _ h => (h.push _ _ _).push _ _ _)
    (fun _ => rfl) (fun _ => Nat.le_refl _) (fun _ _ => rfl) (fun _ _ _ => by simp only [emit, id]) ih

theorem sim_fixApply {lo hi clo chi i c : Nat} {x e : Expr F} {pn : ParseNode} (hpn : tree[i]? = some pn)
    (hh : ∀ crj (ctx : Ctx F), handleParseNode pf ctx crj i pn = handleUnaryFixApply (some c) ctx i pn)
    (hpos : (lo = i ∧ clo = i + 1 ∧ chi = hi) ∨ (clo = lo ∧ chi = i ∧ hi = i + 1))
    (hemit : ∀ root cur s, emit root cur e s =
      (emit root cur x (s.pushConst .resolve (.sym (parseSymbol (trimMatches '`' pn.lexToken.text))))).push .apply none)
    (ih : SimAt pf tree bodies clo chi c x) : SimAt pf tree bodies lo hi i e :=
  sim_one_childF (pre_ := fun s => s.pushConst .resolve (.sym (parseSymbol (trimMatches '`' pn.lexToken.text))))
    (post := fun _ s => s.push .apply none)
    (preD := fun d => pushInstr (parseAddSymbol d (trimMatches '`' pn.lexToken.text)).1 .resolve
      (some (parseAddSymbol d (trimMatches '`' pn.lexToken.text)).2) none)
    (postD := fun _ d => pushInstr d .apply none (some i)) hpn hpos
    (fun _ ctx => by rw [hh, handleUnaryFixApply_eq])
    (fun ctx b hs _ => by simp only [unaryFixApplyPlan, hs]; rfl) (fun ctx b hs _ => by simp only [unaryFixApplyPlan, hs])
    (fun _ _ h => h.pushConst .resolve _ none) (fun _ _ _ h => h.push _ _ _)
    (fun _ => rfl) (fun _ => by simp [LState.pushConst]) (fun _ _ => rfl) hemit ih

theorem sim_prefixApply {hi i r : Nat} {x : Expr F} {pn : ParseNode} (hpn : tree[i]? = some pn)
    (hd : pn.definition = .prefixApply) (hr : pn.right = some r) (ih : SimAt pf tree bodies (i + 1) hi r x) :
    SimAt pf tree bodies i hi i (.prefixApply (parseSymbol (trimMatches '`' pn.lexToken.text)) x) :=
  sim_fixApply hpn (fun _ _ => by simp only [handleParseNode, hd, hr]) (.inl ⟨rfl, rfl, rfl⟩) (fun _ _ _ => by simp only [emit]) ih

theorem sim_suffixApply {lo i l : Nat} {x : Expr F} {pn : ParseNode} (hpn : tree[i]? = some pn)
    (hd : pn.definition = .suffixApply) (hl : pn.left = some l) (ih : SimAt pf tree bodies lo i l x) :
    SimAt pf tree bodies lo (i + 1) i (.suffixApply x (parseSymbol (trimMatches '`' pn.lexToken.text))) :=
  sim_fixApply hpn (fun _ _ => by simp only [handleParseNode, hd, hl]) (.inr ⟨rfl, rfl, rfl⟩) (fun _ _ _ => by simp only [emit]) ih

/-- **a node with two operands scheduled inline**; `c1` is popped first. The operands lie on either side of the node. -/
theorem sim_two_children {lo hi lo1 hi1 lo2 hi2 i c1 c2 ca cb : Nat} {e e1 e2 : Expr F} {pn : ParseNode}
    {pre_ : LState F → LState F} {post : Nat → LState F → LState F} {sa sb : String}
    {plan : Ctx F → BuildNode → Outcome (Plan F)} {preD : BState F → BState F} {postD : Nat → BState F → BState F}
    (hpn : tree[i]? = some pn)
    (hpos : (lo1 = lo ∧ hi1 = i ∧ lo2 = i + 1 ∧ hi2 = hi) ∨ (lo2 = lo ∧ hi2 = i ∧ lo1 = i + 1 ∧ hi1 = hi))
    (hh : ∀ crj (ctx : Ctx F), handleParseNode pf ctx crj i pn = visit ctx i (plan ctx))
    (hab : (ca = c1 ∧ cb = c2) ∨ (ca = c2 ∧ cb = c1))
    (hfirst : ∀ (ctx : Ctx F) (b : BuildNode), b.state = .uninitialized → b.parseNodeIndex = i →
      plan ctx b = .ok (firstVisit (preD ctx.data) i (visited b)
        [(ca, BuildNode.new ca b.containingExpressionJump, sa), (cb, BuildNode.new cb b.containingExpressionJump, sb)] [i, c2, c1]))
    (hsecond : ∀ (ctx : Ctx F) (b : BuildNode), b.state = .initialized → b.parseNodeIndex = i →
      plan ctx b = .ok (Lemmas.BuildPlan.emit (postD b.containingExpressionJump ctx.data)))
    (hpreD : ∀ data s, DataEq data s → DataEq (preD data) (pre_ s))
    (hpostD : ∀ cur data s, DataEq data s → DataEq (postD cur data) (post cur s))
    (hpre_p : ∀ s, (pre_ s).pending = s.pending) (hpre_j : ∀ s, s.jumps.size ≤ (pre_ s).jumps.size)
    (hpost_p : ∀ cur s, (post cur s).pending = s.pending)
    (hemit : ∀ root cur s, emit root cur e s = post cur (emit root cur e2 (emit root cur e1 (pre_ s))))
    (ih1 : SimAt pf tree bodies lo1 hi1 c1 e1) (ih2 : SimAt pf tree bodies lo2 hi2 c2 e2) : SimAt pf tree bodies lo hi i e := by
  obtain ⟨⟨hc1, hc1t⟩, ih1⟩ := ih1
  obtain ⟨⟨hc2, hc2t⟩, ih2⟩ := ih2
  have hin : lo ≤ i ∧ i < hi := by rcases hpos with ⟨rfl, rfl, rfl, rfl⟩ | ⟨rfl, rfl, rfl, rfl⟩ <;> omega
  have hiv : ∀ y, (y = i ∨ (Ival lo1 hi1 y ∨ Ival lo2 hi2 y)) ↔ Ival lo hi y := by
    rcases hpos with ⟨rfl, rfl, rfl, rfl⟩ | ⟨rfl, rfl, rfl, rfl⟩ <;> intro y <;> simp only [Ival] <;> omega
  have hni1 : ¬ Ival lo1 hi1 i := by rcases hpos with ⟨rfl, rfl, rfl, rfl⟩ | ⟨rfl, rfl, rfl, rfl⟩ <;> simp only [Ival] <;> omega
  have hni2 : ¬ Ival lo2 hi2 i := by rcases hpos with ⟨rfl, rfl, rfl, rfl⟩ | ⟨rfl, rfl, rfl, rfl⟩ <;> simp only [Ival] <;> omega
  have hdisj : ∀ y, Ival lo1 hi1 y → Ival lo2 hi2 y → False := by
    rcases hpos with ⟨rfl, rfl, rfl, rfl⟩ | ⟨rfl, rfl, rfl, rfl⟩ <;> intro y <;> simp only [Ival] <;> omega
  have hsz : (hi1 - lo1) + (hi2 - lo2) + 1 ≤ hi - lo := by
    rcases hpos with ⟨rfl, rfl, rfl, rfl⟩ | ⟨rfl, rfl, rfl, rfl⟩ <;> omega
  refine ⟨⟨hin, lt_of_getElem? hpn⟩, ?_⟩
  intro crj root cur data nodes RS S s lp cp pbn pre hdat hcur
  have hic1 : i ≠ c1 := fun h => hni1 (h ▸ hc1)
  have hic2 : i ≠ c2 := fun h => hni2 (h ▸ hc2)
  have h12 : c1 ≠ c2 := fun h => hdisj c1 hc1 (h ▸ hc2)
  have hin1 := (hiv c1).1 (.inr (.inl hc1))
  have hin2 := (hiv c2).1 (.inr (.inr hc2))
  obtain ⟨A, st1, op, hA⟩ := first_visit_plan pre hin hpn (hh crj _) (hfirst _ _ rfl rfl)
    (fun q hq => by
      simp only [List.mem_cons, List.not_mem_nil, or_false] at hq
      rcases hab with ⟨rfl, rfl⟩ | ⟨rfl, rfl⟩ <;> rcases hq with rfl | rfl <;>
        first | exact ⟨hin1.1, hin1.2, Ne.symm hic1, hc1t⟩ | exact ⟨hin2.1, hin2.2, Ne.symm hic2, hc2t⟩)
    (by rcases hab with ⟨rfl, rfl⟩ | ⟨rfl, rfl⟩ <;> simp [h12, Ne.symm h12])
  have hA1 : A[c1]? = some (some (BuildNode.new c1 cur)) := by
    rcases hab with ⟨rfl, rfl⟩ | ⟨rfl, rfl⟩
    · exact hA _ List.mem_cons_self
    · exact hA _ (List.mem_cons_of_mem _ List.mem_cons_self)
  have hA2 : A[c2]? = some (some (BuildNode.new c2 cur)) := by
    rcases hab with ⟨rfl, rfl⟩ | ⟨rfl, rfl⟩
    · exact hA _ (List.mem_cons_of_mem _ List.mem_cons_self)
    · exact hA _ List.mem_cons_self
  have preC1 : Pre tree A lo1 hi1 c1 cur none Ex.none pbn :=
    Pre.child none pbn (by rw [op.size, pre.size]) hA1 (fun ⟨_, h⟩ => by cases h)
  obtain ⟨k1, data1, B, RS1, R1, stB, hk1, hd1, hrs1, hp1, done1, _⟩ :=
    ih1 crj root cur _ A RS ((S.push i).push c2) (pre_ s) none Ex.none pbn preC1 (hpreD _ _ hdat) (by have := hpre_j s; omega)
  have hj1 : cur < (emit root cur e1 (pre_ s)).jumps.size := by
    have := (emit_wrote root cur e1 (pre_ s)).jsize
    have := hpre_j s; omega
  have preC2 : Pre tree B lo2 hi2 c2 cur none Ex.none pbn :=
    Pre.child none pbn (by rw [done1.size, op.size, pre.size])
      (by rw [done1.frame c2 (fun h => hdisj c2 h hc2) (fun _ _ h => by cases h)]; exact hA2) (fun ⟨_, h⟩ => by cases h)
  obtain ⟨k2, data2, C, RS2, R2, stC, hk2, hd2, hrs2, hp2, done2, _⟩ :=
    ih2 crj root cur data1 B RS1 (S.push i) _ none Ex.none pbn preC2 hd1 hj1
  have done12 := done1.trans (n3 := 0) done2 hdisj
  have hni : ¬ (Ival lo1 hi1 i ∨ Ival lo2 hi2 i) := fun h => h.elim hni1 hni2
  have hCi : C[i]? = some (some (node1 i cur lp cp)) := by
    rw [done12.frame i hni (fun _ _ h => by cases h)]; exact op.self
  have st2 := emit_visit_plan (lp := lp) (data := data2) (RS := RS2) (S := S) hpn hCi (hh crj _) (hsecond _ _ rfl rfl) rfl rfl
  exact ⟨1 + k1 + k2 + 1, _, C, RS2, R2 ++ R1, ((st1.trans stB).trans stC).trans st2,
    (by simp only [wsum_append] at *; omega), by rw [hemit]; exact hpostD _ _ _ hd2, by rw [hrs2, hrs1]; simp,
    by rw [hemit, hpost_p, hp2, hp1, hpre_p]; simp,
    (op.close pre done12 (fun y ⟨q, hq, e⟩ => by
        simp only [List.mem_cons, List.not_mem_nil, or_false] at hq
        rcases hab with ⟨rfl, rfl⟩ | ⟨rfl, rfl⟩ <;> rcases hq with rfl | rfl <;> subst e <;>
          first | exact .inl hc1 | exact .inr hc2) hni
      (fun y hy => (hiv y).1 (.inr hy)) hin).cong hiv, ⟨_, hCi, rfl⟩⟩

theorem ival_split (lo hi i : Nat) (h : lo ≤ i ∧ i < hi) (y : Nat) :
    (y = i ∨ (Ival lo i y ∨ Ival (i + 1) hi y)) ↔ Ival lo hi y := by
  simp only [Ival]; omega

/-- the operands of a node scheduled by `handle_binary_operation_with_push`; `lr` = right operand first -/
theorem sim_binaryWP {lo hi i l r : Nat} {ins : Instruction} {lr : Bool} {e a b : Expr F} {pn : ParseNode}
    (hpn : tree[i]? = some pn)
    (hh : ∀ crj (ctx : Ctx F), handleParseNode pf ctx crj i pn = handleBinaryOperationWithPush ins lr ctx i pn)
    (hl : pn.left = some l) (hr : pn.right = some r)
    (hemit : ∀ root cur s, emit root cur e s =
      (if lr then emit root cur a (emit root cur b s) else emit root cur b (emit root cur a s)).push ins none)
    (iha : SimAt pf tree bodies lo i l a) (ihb : SimAt pf tree bodies (i + 1) hi r b) : SimAt pf tree bodies lo hi i e := by
  have hh' : ∀ crj (ctx : Ctx F), handleParseNode pf ctx crj i pn = visit ctx i (binaryPlan ctx i pn · ins lr) :=
    fun crj ctx => by rw [hh, handleBinaryOperationWithPush_eq]
  have hsecond : ∀ (ctx : Ctx F) (b : BuildNode), b.state = .initialized → b.parseNodeIndex = i →
      binaryPlan ctx i pn b ins lr =
        .ok (Lemmas.BuildPlan.emit ((fun (_ : Nat) d => pushInstr d ins none (some i)) b.containingExpressionJump ctx.data)) :=
    fun ctx b hs hpi => by subst hpi; simp only [binaryPlan, pairPlan, hs]
  cases lr with
  | false =>
    exact sim_two_children (pre_ := id) (post := fun _ s => s.push ins none) (preD := id) (c1 := l) (c2 := r) (e1 := a) (e2 := b)
      hpn (.inl ⟨rfl, rfl, rfl, rfl⟩) hh' (.inr ⟨rfl, rfl⟩) (fun ctx b hs hpi => by subst hpi; simp only [binaryPlan, pairPlan, hs, hl, hr, Bool.false_eq_true, if_false, if_true]; rfl) hsecond
      (fun _ _ h => h) (fun _ _ _ h => h.push _ _ _) (fun _ => rfl) (fun _ => Nat.le_refl _) (fun _ _ => rfl)
      (fun root cur s => by rw [hemit]; rfl) iha ihb
  | true =>
    exact sim_two_children (pre_ := id) (post := fun _ s => s.push ins none) (preD := id) (c1 := r) (c2 := l) (e1 := b) (e2 := a)
      hpn (.inr ⟨rfl, rfl, rfl, rfl⟩) hh' (.inl ⟨rfl, rfl⟩) (fun ctx b hs hpi => by subst hpi; simp only [binaryPlan, pairPlan, hs, hl, hr, Bool.false_eq_true, if_false, if_true]; rfl) hsecond
      (fun _ _ h => h) (fun _ _ _ h => h.push _ _ _) (fun _ => rfl) (fun _ => Nat.le_refl _) (fun _ _ => rfl)
      (fun root cur s => by rw [hemit]; rfl) ihb iha

theorem sim_binary {lo hi i l r : Nat} {op : Instruction} {a b : Expr F} {pn : ParseNode} (hpn : tree[i]? = some pn)
    (hop : binOp pn.definition = some op) (hl : pn.left = some l) (hr : pn.right = some r)
    (iha : SimAt pf tree bodies lo i l a) (ihb : SimAt pf tree bodies (i + 1) hi r b) :
    SimAt pf tree bodies lo hi i (.binary op a b) :=
  sim_binaryWP (lr := false) hpn (fun crj ctx => binOp_handler hop ctx) hl hr
    (fun _ _ _ => by simp only [emit]; rfl) iha ihb

theorem sim_pair {lo hi i l r : Nat} {a b : Expr F} {pn : ParseNode} (hpn : tree[i]? = some pn)
    (hd : pn.definition = .pair) (hl : pn.left = some l) (hr : pn.right = some r)
    (iha : SimAt pf tree bodies lo i l a) (ihb : SimAt pf tree bodies (i + 1) hi r b) :
    SimAt pf tree bodies lo hi i (.pair a b) :=
  sim_binaryWP (ins := .makePair) (lr := true) hpn (fun crj ctx => by simp only [handleParseNode, hd]) hl hr
    (fun _ _ _ => by simp only [emit]; rfl) iha ihb

theorem sim_applyTo {lo hi i l r : Nat} {x f : Expr F} {pn : ParseNode} (hpn : tree[i]? = some pn)
    (hd : pn.definition = .applyTo) (hl : pn.left = some l) (hr : pn.right = some r)
    (ihx : SimAt pf tree bodies lo i l x) (ihf : SimAt pf tree bodies (i + 1) hi r f) :
    SimAt pf tree bodies lo hi i (.applyTo x f) :=
  sim_binaryWP (ins := .apply) (lr := true) hpn (fun crj ctx => by simp only [handleParseNode, hd]) hl hr
    (fun _ _ _ => by simp only [emit]; rfl) ihx ihf

theorem sim_infixApply {lo hi i l r : Nat} {a b : Expr F} {pn : ParseNode} (hpn : tree[i]? = some pn)
    (hd : pn.definition = .infixApply) (hl : pn.left = some l) (hr : pn.right = some r)
    (iha : SimAt pf tree bodies lo i l a) (ihb : SimAt pf tree bodies (i + 1) hi r b) :
    SimAt pf tree bodies lo hi i (.infixApply a (parseSymbol (trimMatches '`' pn.lexToken.text)) b) :=
  sim_two_children (pre_ := fun s => s.pushConst .resolve (.sym (parseSymbol (trimMatches '`' pn.lexToken.text))))
    (post := fun _ s => (s.push .makeList (some 2)).push .apply none)
    (preD := fun d => pushInstr (parseAddSymbol d (trimMatches '`' pn.lexToken.text)).1 .resolve
      (some (parseAddSymbol d (trimMatches '`' pn.lexToken.text)).2) none)
    (postD := fun _ d => pushInstr (pushInstr d .makeList (some 2) none) .apply none (some i))
    (c1 := l) (c2 := r) (e1 := a) (e2 := b)
    hpn (.inl ⟨rfl, rfl, rfl, rfl⟩) (fun _ ctx => by simp only [handleParseNode, hd]; exact handleInfixApply_eq) (.inr ⟨rfl, rfl⟩)
    (fun ctx b hs _ => by simp only [infixApplyPlan, pairPlan, hs, hl, hr]; rfl)
    (fun ctx b hs _ => by simp only [infixApplyPlan, pairPlan, hs])
    (fun _ _ h => h.pushConst .resolve _ none) (fun _ _ _ h => (h.push .makeList (some 2) none).push .apply none (some i))
    (fun _ => rfl) (fun _ => by simp [LState.pushConst]) (fun _ _ => rfl) (fun root cur s => by simp only [emit]) iha ihb

/-- `a ; b` (and the blank line): the left operand, then the node's second visit (`UpdateValue`), then the right operand -/
theorem sim_seq {lo hi i l r : Nat} {a b : Expr F} {pn : ParseNode} (hpn : tree[i]? = some pn)
    (hd : pn.definition = .subexpression ∨ pn.definition = .expressionSeparator) (hl : pn.left = some l) (hr : pn.right = some r)
    (iha : SimAt pf tree bodies lo i l a) (ihb : SimAt pf tree bodies (i + 1) hi r b) :
    SimAt pf tree bodies lo hi i (.seq a b) := by
  refine ⟨.both hpn iha.1 ihb.1, ?_⟩
  obtain ⟨⟨hli, hlt⟩, iha⟩ := iha
  obtain ⟨⟨hri, hrt⟩, ihb⟩ := ihb
  have hh : ∀ crj (ctx : Ctx F), handleParseNode pf ctx crj i pn = visit ctx i (subexpressionPlan ctx i pn) := by
    intro crj ctx; rw [← handleSubexpression_eq]; rcases hd with hd | hd <;> simp only [handleParseNode, hd]
  intro crj root cur data nodes RS S s lp cp pbn pre hdat hcur
  obtain ⟨A, st1, op, hA⟩ := first_visit_plan (W := [r, i, l]) (dataF := data)
    (sets := [(r, BuildNode.new r cur, "build.rs:567"), (l, BuildNode.new l cur, "build.rs:568")])
    pre ⟨by omega, by omega⟩ hpn (hh crj _) (by simp only [subexpressionPlan, pairPlan, hl, hr]; rfl)
    (by simp only [List.mem_cons, List.not_mem_nil, or_false]; rintro q (rfl | rfl) <;> simp only <;> omega)
    (by simp; omega)
  have hAr := hA _ List.mem_cons_self
  have hAl := hA _ (List.mem_cons_of_mem _ List.mem_cons_self)
  have preL : Pre tree A lo i l cur none Ex.none pbn :=
    Pre.child none pbn (by rw [op.size, pre.size]) hAl (fun ⟨_, h⟩ => by cases h)
  obtain ⟨k1, data1, B, RS1, R1, stB, hk1, hd1, hrs1, hp1, done1, _⟩ :=
    iha crj root cur data A RS ((S.push r).push i) s none Ex.none pbn preL hdat hcur
  have hj1 : cur < ((emit root cur a s).push .updateValue none).jumps.size := by
    have := (emit_wrote root cur a s).jsize
    simp; omega
  have hBi : B[i]? = some (some (node1 i cur lp cp)) := by
    rw [done1.frame i (by simp only [Ival]; omega) (fun _ _ h => by cases h)]; exact op.self
  have st2 := emit_visit_plan (lp := lp) (data := data1) (RS := RS1) (S := S.push r) hpn hBi (hh crj _)
    (dataZ := pushInstr data1 .updateValue none (some i)) rfl rfl rfl
  have preR : Pre tree B (i + 1) hi r cur none Ex.none pbn :=
    Pre.child none pbn (by rw [done1.size, op.size, pre.size])
      (by rw [done1.frame r (by simp only [Ival]; omega) (fun _ _ h => by cases h)]; exact hAr) (fun ⟨_, h⟩ => by cases h)
  obtain ⟨k2, data2, C, RS2, R2, stC, hk2, hd2, hrs2, hp2, done2, _⟩ :=
    ihb crj root cur _ B RS1 S _ none Ex.none pbn preR (hd1.push .updateValue none (some i)) hj1
  have done12 := done1.trans (n3 := 0) done2 (fun y h1 h2 => by simp only [Ival] at h1 h2; omega)
  exact ⟨1 + k1 + 1 + k2, data2, C, RS2, R2 ++ R1, ((st1.trans stB).trans st2).trans stC,
    (by simp only [wsum_nil, wsum_append, wsum_cons] at *; omega), by simp only [emit]; exact hd2, by rw [hrs2, hrs1]; simp,
    by simp only [emit]; rw [hp2]; simp only [LState.push]; rw [hp1]; simp,
    (op.close pre done12 (fun y ⟨q, hq, e⟩ => by
        simp only [List.mem_cons, List.not_mem_nil, or_false] at hq
        rcases hq with rfl | rfl <;> subst e
        · exact .inr hri
        · exact .inl hli)
      (fun h => by simp only [Ival] at h; omega) (fun y hy => by simp only [Ival] at hy; omega) ⟨by omega, by omega⟩).cong
      (ival_split lo hi i ⟨by omega, by omega⟩),
    ⟨_, by rw [done2.frame i (by simp only [Ival]; omega) (fun _ _ h => by cases h)]; exact hBi, rfl⟩⟩

/-- `( e )`: the group node forwards to its content; its own build node stays as it is -/
theorem sim_group {hi i r : Nat} {e : Expr F} {pn : ParseNode} (hpn : tree[i]? = some pn) (hd : pn.definition = .group)
    (hr : pn.right = some r) (ih : SimAt pf tree bodies (i + 1) hi r e) : SimAt pf tree bodies i hi i e := by
  refine ⟨.right (k := 0) hpn ih.1, ?_⟩
  obtain ⟨⟨hri, hrt⟩, ih⟩ := ih
  intro crj root cur data nodes RS S s lp cp pbn pre hdat hcur
  have hrlt : r < nodes.size := by rw [pre.size]; exact hrt
  have hhF : handleParseNode pf ⟨data, nodes, RS, S⟩ crj i pn =
      .ok ⟨data, putNode nodes r (BuildNode.new r cur), RS, S.push r⟩ := by
    simp only [handleParseNode, hd, handleGroup, hr, getNode, pre.node, Outcome.bind]
    rw [Lemmas.BuildTotal.setNodeIdx_eq hrlt]
    rfl
  obtain ⟨A, st1, op, hAc⟩ := visit_open (Cs := (· = r)) pre ⟨Nat.le_refl _, by omega⟩ hpn hhF (by simp)
    (by rw [get_putNode_ne (by omega)]; exact pre.node) rfl rfl (fun y _ h2 => get_putNode_ne (Ne.symm h2) _)
    (fun y hy => by subst hy; omega)
  have preC : Pre tree A (i + 1) hi r cur none Ex.none pbn :=
    Pre.child none pbn (by rw [op.size, pre.size]) (by rw [hAc r (by omega) rfl, get_putNode_same hrlt]; rfl)
      (fun ⟨_, h⟩ => by cases h)
  obtain ⟨k1, data1, C, RS1, R1, stC, hk1, hd1, hrs1, hp1, done1, _⟩ := ih crj root cur data A RS S s none Ex.none pbn preC hdat hcur
  have hni : ¬ Ival (i + 1) hi i := by simp only [Ival]; omega
  exact ⟨1 + k1, data1, C, RS1, R1, st1.trans stC, (by omega), hd1, hrs1, hp1,
    (op.close pre done1 (fun y hy => hy ▸ hri) hni (fun y hy => by simp only [Ival] at hy; omega) ⟨Nat.le_refl _, by omega⟩).cong
      (ival_succ i hi (by omega)),
    ⟨_, by rw [done1.frame i hni (fun _ _ h => by cases h)]; exact op.self, rfl⟩⟩

/-- `{ }`: the value names the containing expression -/
theorem sim_emptyNested {i : Nat} {pn : ParseNode} (hpn : tree[i]? = some pn) (hd : pn.definition = .nestedExpression)
    (hr : pn.right = none) : SimAt pf tree bodies i (i + 1) i .emptyNested := by
  refine ⟨.leaf hpn, ?_⟩
  intro crj root cur data nodes RS S s lp cp pbn pre hdat hcur
  have hhF : handleParseNode pf ⟨data, nodes, RS, S⟩ crj i pn =
      .ok ⟨pushInstr (addConst data (.expr cur)).1 .put (some (addConst data (.expr cur)).2) (some i), nodes, RS, S⟩ := by
    simp only [handleParseNode, hd, handleNestedExpression, hr, pre.node]
    rfl
  obtain ⟨A, st1, op, _⟩ := visit_open (Cs := fun _ => False) pre ⟨Nat.le_refl _, by omega⟩ hpn hhF rfl pre.node rfl rfl
    (fun _ _ _ => rfl) (fun _ h => h.elim)
  refine ⟨1, _, A, RS, [], st1, (by simp only [wsum_nil]; omega), by simp only [emit]; exact hdat.pushConst _ _ _, by simp, rfl,
    (op.close pre (Done.nil pbn 0 A) (fun _ h => h) id (fun _ h => h.elim) ⟨Nat.le_refl _, by omega⟩).cong (fun x => ?_), ⟨_, op.self, rfl⟩⟩
  simp only [or_false, Ival]; omega

theorem sim_nested {hi i r id : Nat} {b : Expr F} {pn : ParseNode} (hpn : tree[i]? = some pn)
    (hd : pn.definition = .nestedExpression) (hr : pn.right = some r) (hw : Within tree (i + 1) hi r)
    (hbody : lookupBody bodies id = some b) (hrep : Rep pf tree bodies (i + 1) hi r b) :
    SimAt pf tree bodies i hi i (.nested id) := by
  refine ⟨.right (k := 0) hpn hw, ?_⟩
  obtain ⟨hri, hrt⟩ := hw
  intro crj root cur data nodes RS S s lp cp pbn pre hdat hcur
  have hrlt : r < nodes.size := by rw [pre.size]; exact hrt
  have hj : data.jumps.size = s.jumps.size := by rw [hdat.jumps]
  have hhF : handleParseNode pf ⟨data, nodes, RS, S⟩ crj i pn =
      .ok ⟨pushInstr (addConst (pushToJumpTable data 0) (.expr s.jumps.size)).1 .put
        (some (addConst (pushToJumpTable data 0) (.expr s.jumps.size)).2) (some i),
        putNode nodes r (BuildNode.newWithJump r s.jumps.size s.jumps.size), RS.push r, S⟩ := by
    simp only [handleParseNode, hd, handleNestedExpression, hr, getJumpTableLen, hj, Outcome.bind]
    rw [Lemmas.BuildTotal.setNodeIdx_eq hrlt]
  obtain ⟨A, st1, op, hAc⟩ := visit_open (Cs := (· = r)) pre ⟨Nat.le_refl _, by omega⟩ hpn hhF (by simp)
    (by rw [get_putNode_ne (by omega)]; exact pre.node) rfl rfl (fun y _ h2 => get_putNode_ne (Ne.symm h2) _)
    (fun y hy => by subst hy; omega)
  -- the body is a root of its own
  have doneR := (Done.nil (pf := pf) (tree := tree) (bodies := bodies) pbn 0 A).addRoot (C' := A) (r := r) (rlo := i + 1) (rhi := hi)
    (root := ⟨.ref id, s.jumps.size, [(.endExpression, none)], s.jumps.size⟩) hri rfl
    (by rw [hAc r (by omega) rfl, get_putNode_same hrlt]; rfl) (fun _ _ => rfl) ⟨b, hbody, hrep, rfl, rfl⟩ (fun _ h => h.elim)
  refine ⟨1, _, A, RS.push r, [⟨r, i + 1, hi, ⟨.ref id, s.jumps.size, [(.endExpression, none)], s.jumps.size⟩⟩], st1,
    (by simp only [wsum_nil, wsum_cons]; omega), ?_, by simp, by simp [emit, LState.pushRoot, LState.pushConst, LState.pushJump],
    (op.close pre doneR (fun y hy => .inr (hy ▸ hri)) (fun h => h.elim False.elim (fun h => by simp only [Ival] at h; omega))
      (fun y hy => hy.elim False.elim (fun h => by simp only [Ival] at h; omega)) ⟨Nat.le_refl _, by omega⟩).cong (fun x => ?_), ⟨_, op.self, rfl⟩⟩
  · simp only [emit]
    have := (hdat.pushJump 0).pushConst .put (.expr s.jumps.size) (some i)
    exact ⟨this.instrs, this.jumps, this.consts⟩
  · simp only [false_or]; exact ival_succ i hi (by omega) x

/-! ### a side-effect block after a value — `v [ body ]`.
The value node schedules its right child (the `SideEffect` node) BELOW itself on the work list: first visit of the value,
second visit of the value (`Put` / `PutValue` / `Resolve`), then the `SideEffect` node: `StartSideEffect`, the body,
`EndSideEffect`. -/

theorem sim_sideNode {hi i b : Nat} {body : Expr F} {ps : ParseNode} (hps : tree[i]? = some ps)
    (hd : ps.definition = .sideEffect) (hr : ps.right = some b) (ih : SimAt pf tree bodies (i + 1) hi b body) :
    Within tree i hi i ∧ SimF pf tree bodies i hi i (fun root cur s =>
      (emit root cur body (s.push .startSideEffect none)).push .endSideEffect none) :=
  sim_one_childF (pre_ := fun s => s.push .startSideEffect none) (post := fun _ s => s.push .endSideEffect none)
    (preD := fun d => pushInstr d .startSideEffect none (some i)) (postD := fun _ d => pushInstr d .endSideEffect none (some i))
    hps (.inl ⟨rfl, rfl, rfl⟩) (fun _ ctx => by simp only [handleParseNode, hd]; exact handleSideEffect_eq)
    (fun ctx b hs _ => by simp only [sideEffectPlan, hs, hr]; rfl) (fun ctx b hs _ => by simp only [sideEffectPlan, hs])
    (fun _ _ h => h.push _ _ _) (fun _ _ _ h => h.push _ _ _)
    (fun _ => rfl) (fun _ => Nat.le_refl _) (fun _ _ => rfl) (fun _ _ _ => rfl) ih

theorem sim_leaf_side {hi i : Nat} {pn : ParseNode} {ins : Instruction} {x e : Expr F}
    {g : Nat → Nat → LState F → LState F} (hpn : tree[i]? = some pn)
    (hd : valueInstr pn.definition = some ins) (hl : pn.left = none) (hr : pn.right = some (i + 1))
    (h2 : ∀ (crj root cur : Nat) (data : BState F) (nodes : Nodes) (RS S : Array Nat) (s : LState F) (b : BuildNode),
      nodes[i]? = some (some b) → b.state = .initialized → DataEq data s →
      ∃ data', handleParseNode pf ⟨data, nodes, RS, S⟩ crj i pn = .ok ⟨data', nodes, RS, S⟩ ∧
        DataEq data' (emit root cur x s) ∧ (emit root cur x s).pending = s.pending)
    (hj : ∀ root cur s, s.jumps.size ≤ (emit root cur x s).jumps.size)
    (hemit : ∀ root cur s, emit root cur e s = g root cur (emit root cur x s))
    (ih : Within tree (i + 1) hi (i + 1) ∧ SimF pf tree bodies (i + 1) hi (i + 1) g) : SimAt pf tree bodies i hi i e := by
  refine ⟨.right (k := 0) hpn ih.1, ?_⟩
  obtain ⟨⟨⟨_, hhi⟩, hct⟩, ih⟩ := ih
  intro crj root cur data nodes RS S s lp cp pbn pre hdat hcur
  have hni : ¬ Ival (i + 1) hi i := by simp only [Ival]; omega
  obtain ⟨addFn, hh⟩ := value_handler (pf := pf) hd crj i
  obtain ⟨A, st1, op, hAc⟩ := first_visit_plan (W := [i + 1, i]) (sets := [(i + 1, BuildNode.new (i + 1) cur, "build.rs:841")])
    pre ⟨Nat.le_refl _, by omega⟩ hpn (hh _) (by simp only [valueLikePlan, hl, hr]; rfl)
    (fun q hq => by cases List.mem_singleton.1 hq; exact ⟨by omega, hhi, by omega, hct⟩) (List.pairwise_singleton _ _)
  obtain ⟨data2, hh2, hd2, hp2⟩ := h2 crj root cur data A RS (S.push (i + 1)) s _ op.self rfl hdat
  have st2 := second_visit (lp := lp) (crj := crj) hpn hh2 op.self rfl rfl
  have preC : Pre tree A (i + 1) hi (i + 1) cur none Ex.none pbn :=
    Pre.child none pbn (by rw [op.size, pre.size]) (hAc _ List.mem_cons_self) (fun ⟨_, h⟩ => by cases h)
  obtain ⟨k1, dataZ, C, RS1, R1, stC, hk1, hdZ, hrs1, hp1, done1, _⟩ :=
    ih crj root cur data2 A RS S (emit root cur x s) none Ex.none pbn preC hd2 (by have := hj root cur s; omega)
  have hCi : C[i]? = some (some (node1 i cur lp cp)) := by
    rw [done1.frame i hni (fun _ _ h => by cases h)]; exact op.self
  exact ⟨1 + 1 + k1, dataZ, C, RS1, R1, (st1.trans st2).trans stC, by omega, by rw [hemit]; exact hdZ, hrs1,
    by rw [hemit, hp1, hp2],
    (op.close pre done1 (fun y ⟨q, hq, e⟩ => by cases List.mem_singleton.1 hq; exact e ▸ ⟨Nat.le_refl _, hhi⟩) hni
      (fun y hy => by simp only [Ival] at hy; omega) ⟨Nat.le_refl _, by omega⟩).cong
      (ival_succ i hi (by omega)), ⟨_, hCi, rfl⟩⟩

theorem sim_sideAt {hi i b : Nat} {x body : Expr F} {pn ps : ParseNode} (hpn : tree[i]? = some pn) (hl : pn.left = none)
    (hr : pn.right = some (i + 1)) (hx : LeafRep pf pn x) (hps : tree[i + 1]? = some ps) (hd : ps.definition = .sideEffect)
    (hrb : ps.right = some b) (ih : SimAt pf tree bodies (i + 2) hi b body) : SimAt pf tree bodies i hi i (.sideAfter x body) := by
  obtain ⟨⟨ins, hins⟩, h2, hj⟩ := leaf_second (i := i) hx
  exact sim_leaf_side hpn hins hl hr h2 hj (fun _ _ _ => by simp only [emit]) (sim_sideNode hps hd hrb ih)

theorem sim_side {hi i b : Nat} {x body : Expr F} {pn ps : ParseNode} (hpn : tree[i]? = some pn) (hl : pn.left = none)
    (hr : pn.right = some (i + 1)) (hx : LeafRep pf pn x) (hps : tree[i + 1]? = some ps) (hd : ps.definition = .sideEffect)
    (hrb : ps.right = some b) (hbi : i + 2 ≤ b ∧ b < hi) (hbt : b < tree.size)
    (ih : SimT pf tree bodies (i + 2) hi b body) : SimT pf tree bodies i hi i (.sideAfter x body) :=
  (sim_sideAt hpn hl hr hx hps hd hrb ⟨⟨hbi, hbt⟩, ih⟩).2

/-- **a node whose left operand is inline and whose right operand becomes a pending root at the second visit** -/
theorem sim_branch {lo hi i l r : Nat} {e c t : Expr F} {pn : ParseNode} {cpc : Option Nat}
    {tail : Nat → LState F → LState F} {R : Nat → LState F → Root F} {plan : Ctx F → BuildNode → Outcome (Plan F)} {site : String}
    (hpn : tree[i]? = some pn) (hw : Within tree (i + 1) hi r) (hcpc : (∃ x, cpc = some x) → NotCond tree l)
    (hh : ∀ crj (ctx : Ctx F), handleParseNode pf ctx crj i pn = visit ctx i (plan ctx))
    (hfirst : ∀ (ctx : Ctx F) (b : BuildNode), b.state = .uninitialized → b.parseNodeIndex = i →
      plan ctx b = .ok (firstVisit ctx.data i (visited b)
        [(l, mkNode l b.containingExpressionJump none (Ex.ofCond cpc), site)] [i, l]))
    (hsecond : ∀ (crj cur : Nat) (data : BState F) (nodes : Nodes) (RS S : Array Nat) (b : BuildNode) (s1 : LState F),
      nodes[i]? = some (some b) → b.state = .initialized → b.parseNodeIndex = i → b.containingExpressionJump = cur →
      ((∃ x, b.conditionalParent = some x) → NotCond tree i) → r < nodes.size → DataEq data s1 →
      ∃ dataZ, handleParseNode pf ⟨data, nodes, RS, S⟩ crj i pn =
          .ok ⟨dataZ, putNode nodes r (bnOfRoot r (R cur s1)), RS.push r, S⟩ ∧ DataEq dataZ (tail cur s1))
    (htail_p : ∀ cur s1, (tail cur s1).pending = R cur s1 :: s1.pending)
    (hkind : ∀ cur s1, (R cur s1).kind = .code t)
    (hemit : ∀ root cur s, emit root cur e s = tail cur (emit root cur c s))
    (hrep : Rep pf tree bodies (i + 1) hi r t)
    (ih : SimAt pf tree bodies lo i l c) : SimAt pf tree bodies lo hi i e := by
  refine ⟨.both hpn ih.1 hw, ?_⟩
  obtain ⟨⟨hli, hlt⟩, ih⟩ := ih
  obtain ⟨hri, hrt⟩ := hw
  intro crj root cur data nodes RS S s lp cp pbn pre hdat hcur
  have hrlt : r < nodes.size := by rw [pre.size]; exact hrt
  obtain ⟨A, st1, op, hAl⟩ := first_visit_plan pre ⟨by omega, by omega⟩ hpn (hh crj _) (hfirst _ _ rfl rfl)
    (fun q hq => by cases List.mem_singleton.1 hq; exact ⟨hli.1, by omega, by omega, hlt⟩) (List.pairwise_singleton _ _)
  have preC : Pre tree A lo i l cur none (Ex.ofCond cpc) pbn :=
    Pre.child cpc pbn (by rw [op.size, pre.size]) (hAl _ List.mem_cons_self) hcpc
  obtain ⟨k1, data1, C, RS1, R1, stC, hk1, hd1, hrs1, hp1, done1, _⟩ :=
    ih crj root cur data A RS (S.push i) s none (Ex.ofCond cpc) pbn preC hdat hcur
  have hCi : C[i]? = some (some (node1 i cur lp cp)) := by
    rw [done1.frame i (by simp only [Ival]; omega) (fun _ _ h => by cases h)]; exact op.self
  have hCsz : C.size = nodes.size := by rw [done1.size, op.size]
  obtain ⟨dataZ, hhZ, hdZ⟩ := hsecond crj cur data1 C RS1 S _ (emit root cur c s) hCi rfl rfl rfl
    (fun hx => pre.cond hx) (by rw [hCsz]; exact hrlt) hd1
  generalize hZ : putNode C r (bnOfRoot r (R cur (emit root cur c s))) = Z at hhZ
  have hZi : Z[i]? = some (some (node1 i cur lp cp)) := by rw [← hZ, get_putNode_ne (by omega)]; exact hCi
  have st2 := second_visit (lp := lp) (crj := crj) hpn hhZ hZi rfl rfl
  refine ⟨1 + k1 + 1, dataZ, Z, RS1.push r, ⟨r, i + 1, hi, R cur (emit root cur c s)⟩ :: R1, (st1.trans stC).trans st2,
    (by simp only [wsum_cons] at *; omega), by rw [hemit]; exact hdZ, by simp [hrs1], by rw [hemit, htail_p, hp1]; simp, ?_, ⟨_, hZi, rfl⟩⟩
  have doneZ := done1.addRoot (C' := Z) (rlo := i + 1) (rhi := hi) (root := R cur (emit root cur c s)) hri
    (by rw [← hZ]; simp) (by rw [← hZ, get_putNode_same (by rw [hCsz]; exact hrlt)])
    (fun y hy => by rw [← hZ, get_putNode_ne (Ne.symm hy)]) (by simp only [RepRoot, hkind]; exact hrep)
    (fun y hy => by simp only [Ival] at hy ⊢; omega)
  exact (op.close pre doneZ (fun y ⟨q, hq, e⟩ => by cases List.mem_singleton.1 hq; exact .inl (e ▸ hli))
    (fun h => by simp only [Ival] at h; omega)
    (fun y hy => by simp only [Ival] at hy; omega) ⟨by omega, by omega⟩).cong (ival_split lo hi i ⟨by omega, by omega⟩)

theorem jumpIf_instr (onTrue : Bool) (ctx : Ctx F) (crj i : Nat) (pn : ParseNode) (hd : pn.definition = jumpIfDef onTrue) :
    handleParseNode pf ctx crj i pn = handleJumpIf (jumpIf onTrue) ctx i pn := by
  cases onTrue <;> simp only [jumpIfDef] at hd <;> simp only [handleParseNode, hd, jumpIf] <;> rfl

theorem sim_cond {lo hi i l r : Nat} {onTrue : Bool} {c t : Expr F} {pn : ParseNode} (hpn : tree[i]? = some pn)
    (hd : pn.definition = jumpIfDef onTrue) (hl : pn.left = some l) (hr : pn.right = some r) (hw : Within tree (i + 1) hi r)
    (hrep : Rep pf tree bodies (i + 1) hi r t) (ih : SimAt pf tree bodies lo i l c) :
    SimAt pf tree bodies lo hi i (.cond onTrue c t) := by
  have hcd : condDef pn.definition = true := by rw [hd]; cases onTrue <;> rfl
  refine sim_branch (cpc := none) (tail := fun cur s1 => condTail cur onTrue t s1)
    (R := fun cur s1 => ⟨.code t, s1.jumps.size,
      [(.jumpTo, some (((s1.pushJump 0).push (jumpIf onTrue) (some s1.jumps.size)).push .putValue none).jumps.size)], cur⟩)
    hpn hw (fun ⟨_, h⟩ => by cases h)
    (fun crj ctx => by rw [jumpIf_instr onTrue _ crj i pn hd, handleJumpIf_eq])
    (fun ctx b hs hpi => by subst hpi; simp only [jumpIfPlan, unaryPlan, hs, hl]; rfl) ?_ (fun _ _ => rfl) (fun _ _ => rfl)
    (fun _ _ _ => by simp only [emit]) hrep ih
  intro crj cur data nodes RS S b s1 hb hs hpi hc hcp hrlt hdat
  have hcpn : b.conditionalParent = none := by
    cases hcpb : b.conditionalParent with
    | none => rfl
    | some x => have := hcp ⟨x, hcpb⟩ pn hpn; rw [hcd] at this; cases this
  refine ⟨pushToJumpTable (pushInstr (pushInstr (pushToJumpTable data 0) (jumpIf onTrue) (some (getJumpTableLen data)) (some i))
      .putValue none none) (getInstructionLen (pushInstr (pushInstr (pushToJumpTable data 0) (jumpIf onTrue)
        (some (getJumpTableLen data)) (some i)) .putValue none none)), ?_, ?_⟩
  · rw [jumpIf_instr onTrue _ crj i pn hd]
    simp only [handleJumpIf, getNode, hb, Outcome.bind, hs, hr, hcpn]
    rw [Lemmas.BuildTotal.setNodeIdx_eq hrlt]
    simp only [bnOfRoot, hc, getJumpTableLen, getInstructionLen, pushInstr, pushToJumpTable, LState.push, LState.pushJump,
      hdat.jumps, Array.size_push]
  · simp only [condTail]
    have := ((((hdat.pushJump 0).push (jumpIf onTrue) (some s1.jumps.size) (some i)).push .putValue none none))
    refine ⟨?_, ?_, this.consts⟩
    · simpa [LState.pushRoot, LState.pushJump, pushToJumpTable, getJumpTableLen, hdat.jumps] using this.instrs
    · simp only [LState.pushRoot, LState.pushJump, LState.push, pushToJumpTable, pushInstr, getInstructionLen, getJumpTableLen,
        hdat.jumps, hdat.instrs]

theorem sim_logical {lo hi i l r : Nat} {instr : Instruction} {e a b : Expr F} {pn : ParseNode} (hpn : tree[i]? = some pn)
    (hh : ∀ crj (ctx : Ctx F), handleParseNode pf ctx crj i pn = handleLogicalBinary instr ctx i pn)
    (hl : pn.left = some l) (hr : pn.right = some r) (hw : Within tree (i + 1) hi r) (hnc : NotCond tree l)
    (hemit : ∀ root cur s, emit root cur e s = logicalTail cur instr b (emit root cur a s))
    (hrep : Rep pf tree bodies (i + 1) hi r b) (ih : SimAt pf tree bodies lo i l a) : SimAt pf tree bodies lo hi i e := by
  refine sim_branch (cpc := some i) (tail := fun cur s1 => logicalTail cur instr b s1)
    (R := fun cur s1 => ⟨.code b, s1.jumps.size,
      [(.tis, none), (.jumpTo, some ((s1.pushJump 0).push instr (some s1.jumps.size)).jumps.size)], cur⟩)
    hpn hw (fun _ => hnc) (fun crj ctx => by rw [hh, handleLogicalBinary_eq])
    (fun ctx b hs hpi => by subst hpi; simp only [logicalBinaryPlan, unaryPlan, hs, hl]; rfl) ?_ (fun _ _ => rfl) (fun _ _ => rfl) hemit hrep ih
  intro crj cur data nodes RS S b s1 hb hs hpi hc _ hrlt hdat
  refine ⟨pushToJumpTable (pushInstr (pushToJumpTable data 0) instr (some (getJumpTableLen data)) (some i))
    (getInstructionLen (pushInstr (pushToJumpTable data 0) instr (some (getJumpTableLen data)) (some i))), ?_, ?_⟩
  · rw [hh]
    simp only [handleLogicalBinary, getNode, hb, Outcome.bind, hs, hr]
    rw [Lemmas.BuildTotal.setNodeIdx_eq hrlt]
    simp only [bnOfRoot, hc, getJumpTableLen, getInstructionLen, pushInstr, pushToJumpTable, LState.push, LState.pushJump,
      hdat.jumps, Array.size_push]
  · simp only [logicalTail]
    have := (hdat.pushJump 0).push instr (some s1.jumps.size) (some i)
    refine ⟨?_, ?_, this.consts⟩
    · simpa [LState.pushRoot, LState.pushJump, pushToJumpTable, getJumpTableLen, hdat.jumps] using this.instrs
    · simp only [LState.pushRoot, LState.pushJump, LState.push, pushToJumpTable, pushInstr, getInstructionLen, getJumpTableLen,
        hdat.jumps, hdat.instrs]

theorem sim_and {lo hi i l r : Nat} {a b : Expr F} {pn : ParseNode} (hpn : tree[i]? = some pn) (hd : pn.definition = .and)
    (hl : pn.left = some l) (hr : pn.right = some r) (hw : Within tree (i + 1) hi r) (hnc : NotCond tree l)
    (hrep : Rep pf tree bodies (i + 1) hi r b) (ih : SimAt pf tree bodies lo i l a) :
    SimAt pf tree bodies lo hi i (.and a b) :=
  sim_logical (instr := .and) hpn (fun _ _ => by simp only [handleParseNode, hd]) hl hr hw hnc
    (fun _ _ _ => by simp only [emit]) hrep ih

theorem sim_or {lo hi i l r : Nat} {a b : Expr F} {pn : ParseNode} (hpn : tree[i]? = some pn) (hd : pn.definition = .or)
    (hl : pn.left = some l) (hr : pn.right = some r) (hw : Within tree (i + 1) hi r) (hnc : NotCond tree l)
    (hrep : Rep pf tree bodies (i + 1) hi r b) (ih : SimAt pf tree bodies lo i l a) :
    SimAt pf tree bodies lo hi i (.or a b) :=
  sim_logical (instr := .or) hpn (fun _ _ => by simp only [handleParseNode, hd]) hl hr hw hnc
    (fun _ _ _ => by simp only [emit]) hrep ih

end Garnish.Abs.Tree

namespace Garnish.Abs.Tree
open Garnish Garnish.Gen Garnish.Spec Garnish.Abs Garnish.Model.Parser Garnish.Model.Literals Garnish.Model.Build
open Garnish.Lemmas.BuildPlan hiding emit

variable {F : Type}

theorem emitList_append (root cur : Nat) : ∀ (xs ys : List (Expr F)) (s : LState F),
    emitList root cur (xs ++ ys) s = emitList root cur ys (emitList root cur xs s)
  | [], ys, s => by simp [emitList]
  | x :: xs, ys, s => by simp only [List.cons_append, emitList]; exact emitList_append root cur xs ys _

variable (pf : List Char → Option F) (tree : Array ParseNode) (bodies : List (Nat × Expr F))

/-- a part of a list of definition `d` — an item, or an inner node of the spine — scheduled with the list node `top` as
its list parent: its items are emitted in order and counted at `top` -/
def SimPart (d : Definition) (lo hi c : Nat) (items : List (Expr F)) : Prop :=
  ∀ (crj root cur top : Nat) (data : BState F) (nodes : Nodes) (RS S : Array Nat) (s : LState F) (tb : BuildNode),
    nodes.size = tree.size → nodes[c]? = some (some (mkNode c cur (some (top, d)) Ex.none)) →
    (top < lo ∨ hi ≤ top) → nodes[top]? = some (some tb) → DataEq data s → cur < s.jumps.size →
    ∃ (k : Nat) (data' : BState F) (nodes' : Nodes) (RS' : Array Nat) (newR : List (RRec F)),
      Steps pf tree crj k ⟨data, nodes, RS, S.push c⟩ ⟨data', nodes', RS', S⟩ ∧ k + wsum newR ≤ 2 * (hi - lo) ∧
      DataEq data' (emitList root cur items s) ∧
      RS'.toList = RS.toList ++ (newR.map (·.idx)).reverse ∧
      (emitList root cur items s).pending = newR.map (·.root) ++ s.pending ∧
      Done pf tree bodies (Ival lo hi) (some (top, d)) tb items.length nodes nodes' newR

variable {pf tree bodies}

theorem SimPart.item {d : Definition} {lo hi c : Nat} {a : Expr F} (hnd : NotDef tree c d) (ih : SimAt pf tree bodies lo hi c a) :
    Within tree lo hi c ∧ SimPart pf tree bodies d lo hi c [a] := by
  refine ⟨ih.1, ?_⟩
  obtain ⟨_, ih⟩ := ih
  intro crj root cur top data nodes RS S s tb hsz hc htop htb hdat hcur
  have pre : Pre tree nodes lo hi c cur (some (top, d)) Ex.none tb :=
    ⟨hsz, hc, fun par d' h => by cases h; exact ⟨htop, htb, hnd⟩, fun ⟨_, h⟩ => by cases h⟩
  obtain ⟨k, data', nodes', RS', newR, st, hk, hd, hrs, hp, done, _⟩ := ih crj root cur data nodes RS S s _ Ex.none tb pre hdat hcur
  exact ⟨k, data', nodes', RS', newR, st, hk, by simpa [emitList] using hd, hrs, by simpa [emitList] using hp, done⟩

theorem handleList_of_def {crj i : Nat} {pn : ParseNode} (hd : pn.definition = .list ∨ pn.definition = .commaList) (ctx : Ctx F) :
    handleParseNode pf ctx crj i pn = handleList ctx i pn := by
  rcases hd with hd | hd <;> simp only [handleParseNode, hd]

theorem items_children {d : Definition} {lo hi m l r : Nat} {itemsL : List (Expr F)} {b : Expr F}
    (hli : lo ≤ l ∧ l < m) (hri : m + 1 ≤ r ∧ r < hi)
    (ihl : SimPart pf tree bodies d lo m l itemsL) (ihr : SimPart pf tree bodies d (m + 1) hi r [b])
    (crj root cur top : Nat) (data : BState F) (A : Nodes) (RS S' : Array Nat) (s : LState F) (tb : BuildNode)
    (hsz : A.size = tree.size) (hAl : A[l]? = some (some (mkNode l cur (some (top, d)) Ex.none)))
    (hAr : A[r]? = some (some (mkNode r cur (some (top, d)) Ex.none)))
    (htop : (top < lo ∨ hi ≤ top) ∨ top = m) (htb : A[top]? = some (some tb)) (hdat : DataEq data s) (hcur : cur < s.jumps.size) :
    ∃ (k : Nat) (data' : BState F) (C : Nodes) (RS' : Array Nat) (newR : List (RRec F)),
      Steps pf tree crj k ⟨data, A, RS, (S'.push r).push l⟩ ⟨data', C, RS', S'⟩ ∧ k + wsum newR ≤ 2 * ((m - lo) + (hi - (m + 1))) ∧
      DataEq data' (emitList root cur (itemsL ++ [b]) s) ∧
      RS'.toList = RS.toList ++ (newR.map (·.idx)).reverse ∧
      (emitList root cur (itemsL ++ [b]) s).pending = newR.map (·.root) ++ s.pending ∧
      Done pf tree bodies (fun x => Ival lo m x ∨ Ival (m + 1) hi x) (some (top, d)) tb (itemsL.length + 1) A C newR := by
  have ht1 : top < lo ∨ m ≤ top := by omega
  have ht2 : top < m + 1 ∨ hi ≤ top := by omega
  obtain ⟨k1, data1, B, RS1, R1, stB, hk1, hd1, hrs1, hp1, done1⟩ :=
    ihl crj root cur top data A RS (S'.push r) s tb hsz hAl ht1 htb hdat hcur
  have hj1 : cur < (emitList root cur itemsL s).jumps.size := by
    have := (emitList_wrote root cur itemsL s).jsize; omega
  have hBr : B[r]? = some (some (mkNode r cur (some (top, d)) Ex.none)) := by
    rw [done1.frame r (by simp only [Ival]; omega) (fun par d' h => by cases h; omega)]; exact hAr
  obtain ⟨k2, data2, C, RS2, R2, stC, hk2, hd2, hrs2, hp2, done2⟩ :=
    ihr crj root cur top data1 B RS1 S' _ _ (by rw [done1.size, hsz]) hBr ht2 (done1.parent top d rfl) hd1 hj1
  refine ⟨k1 + k2, data2, C, RS2, R2 ++ R1, stB.trans stC, (by simp only [wsum_nil, wsum_append, wsum_cons] at *; omega), ?_, ?_, ?_, ?_⟩
  · rw [emitList_append]; exact hd2
  · rw [hrs2, hrs1]; simp
  · rw [emitList_append, hp2, hp1]; simp
  · exact done1.transP done2 (fun y h1 h2 => by simp only [Ival] at h1 h2; omega)
      (fun par d' h => by cases h; simp only [Ival]; omega)

theorem SimPart.spine {d : Definition} {lo hi m l r : Nat} {itemsL : List (Expr F)} {b : Expr F} {pn : ParseNode}
    (hpn : tree[m]? = some pn) (hd : pn.definition = d) (hdl : d = .list ∨ d = .commaList)
    (hl : pn.left = some l) (hr : pn.right = some r)
    (ihl : Within tree lo m l ∧ SimPart pf tree bodies d lo m l itemsL)
    (ihr : Within tree (m + 1) hi r ∧ SimPart pf tree bodies d (m + 1) hi r [b]) :
    Within tree lo hi m ∧ SimPart pf tree bodies d lo hi m (itemsL ++ [b]) := by
  refine ⟨.both hpn ihl.1 ihr.1, ?_⟩
  obtain ⟨⟨hli, hlt⟩, ihl⟩ := ihl
  obtain ⟨⟨hri, hrt⟩, ihr⟩ := ihr
  intro crj root cur top data nodes RS S s tb hsz hm htop htb hdat hcur
  have hh : ∀ ctx : Ctx F, handleParseNode pf ctx crj m pn = visit ctx m (listPlan ctx m pn) :=
    fun ctx => by rw [handleList_of_def (by rw [hd]; exact hdl) ctx, handleList_eq]
  -- first visit: the node does not count, its children get `top` as list parent
  obtain ⟨A, st1, e1, e2, eA, e5⟩ := first_step_plan (W := [m, r, l]) (dataF := data)
    (nb := { mkNode m cur (some (top, d)) Ex.none with state := .initialized, contributesToList := false })
    (sets := [(r, mkNode r cur (some (top, d)) Ex.none, "build.rs:1013"), (l, mkNode l cur (some (top, d)) Ex.none, "build.rs:1020")])
    hpn hm (hh _) (by simp only [listPlan, listTarget, mkNode, hd, beq_self_eq_true, if_true, hl, hr]; rfl)
    (by simp only [List.mem_cons, List.not_mem_nil, or_false]; rintro q (rfl | rfl) <;> simp only [hsz] <;> omega)
    (by simp; omega) (.inl rfl)
  have e4 := eA _ List.mem_cons_self
  have e3 := eA _ (List.mem_cons_of_mem _ List.mem_cons_self)
  have e5 : ∀ y, y ≠ m → y ≠ l → y ≠ r → A[y]? = nodes[y]? := fun y h1 h2 h3 =>
    e5 y h1 (by simp only [List.mem_cons, List.not_mem_nil, or_false]; rintro q (rfl | rfl) <;> exact Ne.symm ‹_›)
  have hAtop : A[top]? = some (some tb) := by rw [e5 top (by omega) (by omega) (by omega)]; exact htb
  obtain ⟨k, data', C, RS', newR, stC, hk, hd', hrs, hp, done⟩ :=
    items_children hli hri ihl ihr crj root cur top data A RS (S.push m) s tb (by rw [e1, hsz]) e3 e4 (.inl htop) hAtop hdat hcur
  have hCm := (done.frame m (fun h => by simp only [Ival] at h; omega) (fun par d' h => by cases h; omega)).trans e2
  have st2 := emit_step_plan (data := data') (dataZ := data') (RS := RS') (S := S) hpn hCm (hh _)
    (by simp only [listPlan, mkNode, hd, beq_self_eq_true, if_true]) (.inl rfl)
  refine ⟨1 + k + 1, data', C, RS', newR, (st1.trans stC).trans st2, (by omega), hd', hrs, hp, ?_⟩
  have := (done.wrapP (m := m) (N := nodes) e1 (fun x h1 h2 => ?_) ⟨_, e2⟩ (fun h => by simp only [Ival] at h; omega)
    (by omega)).cong (ival_split lo hi m ⟨by omega, by omega⟩)
  · simpa using this
  · exact e5 x h1 (fun e => h2 (.inl (by subst e; exact hli))) (fun e => h2 (.inr (by subst e; exact hri)))

/-- **the list node at the top of the spine**: schedules its parts with itself as list parent, and at its second visit
emits `MakeList` with the number of items that have counted themselves -/
theorem sim_list {d : Definition} {lo hi i l r : Nat} {itemsL : List (Expr F)} {b : Expr F} {pn : ParseNode}
    (hpn : tree[i]? = some pn) (hd : pn.definition = d) (hdl : d = .list ∨ d = .commaList)
    (hl : pn.left = some l) (hr : pn.right = some r)
    (ihl : Within tree lo i l ∧ SimPart pf tree bodies d lo i l itemsL)
    (ihr : Within tree (i + 1) hi r ∧ SimPart pf tree bodies d (i + 1) hi r [b]) :
    SimAt pf tree bodies lo hi i (.list (itemsL ++ [b])) := by
  refine ⟨.both hpn ihl.1 ihr.1, ?_⟩
  obtain ⟨⟨hli, hlt⟩, ihl⟩ := ihl
  obtain ⟨⟨hri, hrt⟩, ihr⟩ := ihr
  intro crj root cur data nodes RS S s lp cp pbn pre hdat hcur
  have hilt : i < nodes.size := lt_of_getElem? pre.node
  have hh : ∀ ctx : Ctx F, handleParseNode pf ctx crj i pn = handleList ctx i pn :=
    fun ctx => handleList_of_def (by rw [hd]; exact hdl) ctx
  -- the outer list parent (if any) is a list of another kind
  have hsame : ∀ par d', lp = some (par, d') → (d' == pn.definition) = false := fun par d' h => by
    have := (pre.par par d' h).2.2 pn hpn
    simp only [beq_eq_false_iff_ne]
    exact fun e => this e.symm
  obtain ⟨A, st1, op, hA⟩ := first_visit_plan (W := [i, r, l]) (dataF := data)
    (sets := [(r, mkNode r cur (some (i, d)) Ex.none, "build.rs:1013"), (l, mkNode l cur (some (i, d)) Ex.none, "build.rs:1020")])
    pre ⟨by omega, by omega⟩ hpn (by rw [hh, handleList_eq])
    (by
      cases hlp : lp with
      | none => simp only [listPlan, listTarget, mkNode, hl, hr, hd]; rfl
      | some pd =>
        have hs' : (pd.2 == d) = false := hd ▸ hsame pd.1 pd.2 hlp
        simp only [listPlan, listTarget, mkNode, hd, hs', Bool.false_eq_true, if_false, hl, hr]; rfl)
    (by simp only [List.mem_cons, List.not_mem_nil, or_false]; rintro q (rfl | rfl) <;> simp only <;> omega)
    (by simp; omega)
  have hAr := hA _ List.mem_cons_self
  have hAl := hA _ (List.mem_cons_of_mem _ List.mem_cons_self)
  obtain ⟨k, data', C, RS', newR, stC, hk, hd', hrs, hp, done⟩ :=
    items_children hli hri ihl ihr crj root cur i data A RS (S.push i) s (node1 i cur lp cp) (by rw [op.size, pre.size])
      hAl hAr (.inr rfl) op.self hdat hcur
  have hCi := done.parent i d rfl
  have hCsz : C.size = nodes.size := by rw [done.size, op.size]
  generalize hbz : ({ node1 i cur lp cp with childCount := (node1 i cur lp cp).childCount + (itemsL.length + 1) } : BuildNode) = bz at hCi
  have hhZ : handleParseNode pf ⟨data', C, RS', S⟩ crj i pn =
      .ok ⟨pushInstr data' .makeList (some (itemsL.length + 1)) (some i), putNode C i { bz with childCount := bz.childCount + 1 }, RS', S⟩ := by
    rw [hh]
    simp only [handleList, getNode, hCi, Outcome.bind]
    rw [← hbz]
    cases hlp : lp with
    | none => simp only [node1, mkNode, BuildNode.new, Bool.false_eq_true, if_false, Nat.zero_add]
    | some pd =>
      obtain ⟨par, d'⟩ := pd
      simp only [node1, mkNode, BuildNode.new, hsame par d' hlp, Bool.false_eq_true, if_false, Nat.zero_add]
  generalize hZ : putNode C i { bz with childCount := bz.childCount + 1 } = Z at hhZ
  have hZi : Z[i]? = some (some { bz with childCount := bz.childCount + 1 }) := by
    rw [← hZ, get_putNode_same (by rw [hCsz]; exact hilt)]
  have st2 := second_visit (lp := lp) (crj := crj) hpn hhZ hZi (by rw [← hbz]; rfl) (by rw [← hbz]; rfl)
  refine ⟨1 + k + 1, _, Z, RS', newR, (st1.trans stC).trans st2, by omega, ?_, hrs, ?_, ?_,
    ⟨_, hZi, by rw [← hbz]; rfl⟩⟩
  · simp only [emit]
    have := hd'.push .makeList (some (itemsL.length + 1)) (some i)
    simpa using this
  · simp only [emit]; exact hp
  · exact (op.closeTop pre done (fun _ _ e => by cases e; rfl) (fun y h => by rw [← hZ, get_putNode_ne (Ne.symm h)]) ⟨_, hZi⟩
      (by rw [← hZ]; simp) (fun y ⟨q, hq, e⟩ => by
        simp only [List.mem_cons, List.not_mem_nil, or_false] at hq
        rcases hq with rfl | rfl <;> subst e
        · exact .inr hri
        · exact .inl hli)
      (fun h => by simp only [Ival] at h; omega) (fun y hy => by simp only [Ival] at hy; omega) ⟨by omega, by omega⟩).cong
      (ival_split lo hi i ⟨by omega, by omega⟩)

end Garnish.Abs.Tree
