/-
The step simulation, control flow — `JumpTo`, `JumpIfTrue`, `JumpIfFalse`, `And`, `Or`, `Reapply`, `EndExpression` (at
top level and returning from a call): `reapply` and `end_expression` over `LawsK` (the conditional jumps, `and`, `or` are
in Lemmas/RuntimeLogic.lean), then each instruction for every machine state.
-/
import Garnish.Lemmas.RuntimeStepStack
import Garnish.Props.RuntimeRefineLogic
namespace Garnish.Lemmas.Runtime
open Garnish Gen Garnish.Abs Garnish.Model.Equality Garnish.Model.Runtime Garnish.Props.RuntimeRefine

variable {F σ : Type} {S : RStore F σ} {P : Prog F} {host : Host F}

theorem jumpTarget_some {j t : Nat} (h : P.jumps[j]? = some t) : jumpTarget P j = .ok t := by
  simp [jumpTarget, h]

theorem jumpTarget_none {j : Nat} (h : P.jumps[j]? = none) : jumpTarget P j = .error .state := by
  simp [jumpTarget, h]

namespace Core
open On
variable {Inv : σ → Prop} {Rd : σ → Nat → Prop} {K : Prop}

section
variable (L : LawsK S Inv Rd K)
include L

theorem reapply_spec (j : Nat) {s : σ} {a x t : Nat} {rest xs : List Nat} {v : Val F}
    (hregs : S.regs s = a :: rest) (hj : S.jumpTable s j = some t) (hv : S.vals s = x :: xs)
    (hd : Decodes (S.view s) a v) (hc : K → v ≠ .custom)
    (hi : Inv s := by inv_tac) (hdp : DeepK K S s rest := by deep_tac) :
    ∃ s', reapply S j s = .ok (some t, s') ∧ EffI S Inv s s' rest (a :: xs) := by
  obtain ⟨s0, h0, e0⟩ := nextRef_cons L hregs
  obtain ⟨s1, h1, e1⟩ := popValCons L (e0.vals.trans hv)
  obtain ⟨s2, h2, e2⟩ := pushVal L ((e0.trans e1).dec hd) hc
  rw [e1.regs, e1.vals, e0.regs] at e2
  refine ⟨s2, ?_, (e0.trans e1).trans e2⟩
  rw [reapply, bind_ok h0, bind_apply, jumpPoint_apply, e0.keeps.jump, hj]
  simp only []
  rw [bind_ok h1]
  simp only []
  rw [bind_ok h2]; rfl

/-- `end_expression` with no frame: the result becomes the input value; the registers that remain stay, or — under `K`
only (`pop_frame` of Simple drains them) — are all gone -/
theorem endExpression_top {s : σ} {r x : Nat} {rest xs : List Nat} {v : Val F}
    (hregs : S.regs s = r :: rest) (hf : S.frames s = []) (hvals : S.vals s = x :: xs)
    (hdr : Decodes (S.view s) r v) (hv : K → v ≠ .custom)
    (hi : Inv s := by inv_tac) (hd : DeepK K S s rest := by deep_tac) :
    ∃ s' R, endExpression S s = .ok (some (S.instrLen s), s') ∧ EffI S Inv s s' R (r :: xs) ∧
      (R = rest ∨ K ∧ R = []) := by
  obtain ⟨s0, h0, e0⟩ := nextRef_cons L hregs
  obtain ⟨s1, R, h1, e1, hR, i1⟩ := L.popFrameNil s0 e0.inv (by rw [e0.frames, hf])
  rw [e0.vals] at e1
  have e01 := e0.trans ⟨e1, i1⟩
  obtain ⟨s2, h2, e2, i2⟩ := L.setCurrentCons r s1 x xs i1 (L.readable s1 r v i1 (e01.dec hdr) hv)
    (by rw [e1.vals, hvals])
  rw [e1.regs] at e2
  refine ⟨s2, R, ?_, e01.trans ⟨e2, i2⟩, by rw [e0.regs] at hR; exact hR⟩
  rw [endExpression, bind_ok h0, bind_ok h1]
  simp only []
  rw [bind_ok h2]
  simp only []
  rw [bind_ok (read_apply S.instrLen s2), (e01.trans ⟨e2, i2⟩).keeps.ilen]; rfl

theorem endExpression_return {s : σ} {r ret : Nat} {rest saved : List Nat} {fs : List (Nat × List Nat)} {v : Val F}
    (hregs : S.regs s = r :: rest) (hf : S.frames s = (ret, saved) :: fs)
    (hdr : Decodes (S.view s) r v) (hv : K → v ≠ .custom)
    (hi : Inv s := by inv_tac) (hd : DeepK K S s rest := by deep_tac) :
    ∃ s', endExpression S s = .ok (some ret, s') ∧ FEffI S Inv s s' (r :: saved) (S.vals s).tail fs := by
  obtain ⟨s0, h0, e0⟩ := nextRef_cons L hregs
  obtain ⟨s1, h1, e1, i1⟩ := L.popFrameCons s0 ret saved fs e0.inv (by rw [e0.frames, hf])
  rw [e0.vals] at e1
  have e01 : FEffI S Inv s s1 saved (S.vals s) fs := e0.toF.trans ⟨e1, i1⟩
  have hpv : ∃ o2 s2, S.popValueStack s1 = .ok (o2, s2) ∧ EffI S Inv s1 s2 saved (S.vals s).tail := by
    cases hvs : S.vals s with
    | nil =>
      obtain ⟨s2, h2, e2⟩ := popValNil L (by rw [e1.vals, hvs]) i1
      rw [e1.regs] at e2
      exact ⟨none, s2, h2, e2⟩
    | cons x xs =>
      obtain ⟨s2, h2, e2⟩ := popValCons L (by rw [e1.vals, hvs]) i1
      rw [e1.regs] at e2
      exact ⟨some x, s2, h2, e2⟩
  obtain ⟨o2, s2, h2, e2⟩ := hpv
  have e02 := e01.thenEff e2
  obtain ⟨s3, h3, e3⟩ := pushReg L (e02.dec hdr) hv
  rw [e2.regs, e2.vals] at e3
  refine ⟨s3, ?_, e02.thenEff e3⟩
  rw [endExpression, bind_ok h0, bind_ok h1]
  simp only []
  rw [bind_ok h2, bind_ok h3]; rfl

end

section
variable (fo : FloatOps F) (L : LawsK S Inv Rd K) (fuel : Nat) (H : OtherHandlers σ) {s : σ} {m : MState F}
  (hsim : Sim S P s m) (hi : Inv s) (operand : Option Nat)
include L hsim hi

omit L in
theorem handle_jumpTo :
    HandlerSimI S Inv P s (dispatch fo S fuel H .jumpTo operand s) m (handle fo host P m .jumpTo operand) := by
  simp only [handle]
  split
  · trivial
  rename_i j
  cases hj : P.jumps[j]? with
  | none => rw [jumpTarget_none hj]; trivial
  | some t =>
    rw [jumpTarget_some hj]
    have h := C10_refine_jump (S := S) j s
    rw [hsim.2.jumps, hj] at h
    exact ⟨some t, s, h, rfl, rfl, hsim.2, fun _ _ h => h, hi, fun h => h⟩

theorem handle_jumpIfTrue (hk : K → ∀ r rs, m.regs = r :: rs → MDeep m rs) :
    HandlerSimI S Inv P s (dispatch fo S fuel H .jumpIfTrue operand s) m (handle fo host P m .jumpIfTrue operand) := by
  simp only [handle]
  split
  · trivial
  rename_i j
  cases hj : P.jumps[j]? with
  | none => rw [jumpTarget_none hj]; trivial
  | some t =>
    rw [jumpTarget_some hj]
    simp only []
    split
    · trivial
    rename_i d rs hregs
    have hr := hsim.2.regs
    rw [hregs] at hr
    obtain ⟨a, rest, hsr, da, tl⟩ := decodesList_cons_inv hr
    obtain ⟨s1, h1, e1⟩ := jumpIfTrue_spec L (by rw [hsim.2.jumps, hj]) hsr da hi
      (deepK_of_sim hsim.2 tl fun k => hk k d rs hregs)
    exact handlerSimI_ofEff (md := { m with regs := rs }) hsim.2 h1 e1 (decodesList_keeps e1.keeps tl)
      (decodesList_keeps e1.keeps hsim.2.vals) rfl (by cases d.truthy <;> simp [hsim.1])

theorem handle_jumpIfFalse (hk : K → ∀ r rs, m.regs = r :: rs → MDeep m rs) :
    HandlerSimI S Inv P s (dispatch fo S fuel H .jumpIfFalse operand s) m (handle fo host P m .jumpIfFalse operand) := by
  simp only [handle]
  split
  · trivial
  rename_i j
  cases hj : P.jumps[j]? with
  | none => rw [jumpTarget_none hj]; trivial
  | some t =>
    rw [jumpTarget_some hj]
    simp only []
    split
    · trivial
    rename_i d rs hregs
    have hr := hsim.2.regs
    rw [hregs] at hr
    obtain ⟨a, rest, hsr, da, tl⟩ := decodesList_cons_inv hr
    obtain ⟨s1, h1, e1⟩ := jumpIfFalse_spec L (by rw [hsim.2.jumps, hj]) hsr da hi
      (deepK_of_sim hsim.2 tl fun k => hk k d rs hregs)
    exact handlerSimI_ofEff (md := { m with regs := rs }) hsim.2 h1 e1 (decodesList_keeps e1.keeps tl)
      (decodesList_keeps e1.keeps hsim.2.vals) rfl (by cases d.truthy <;> simp [hsim.1])

theorem handle_and (hk : K → MDeepN m 1) :
    HandlerSimI S Inv P s (dispatch fo S fuel H .and operand s) m (handle fo host P m .and operand) := by
  simp only [handle]
  split
  · trivial
  rename_i j
  split
  · trivial
  rename_i d rs hregs
  have hr := hsim.2.regs
  rw [hregs] at hr
  obtain ⟨a, rest, hsr, da, tl⟩ := decodesList_cons_inv hr
  have h := and_spec L j hsr da hi (deepK_of_sim hsim.2 tl fun k => (hk k).one hregs)
  cases hd : d.truthy with
  | true =>
    rw [hd, hsim.2.jumps] at h
    simp only [if_true] at h ⊢
    cases hj : P.jumps[j]? with
    | none => rw [jumpTarget_none hj]; trivial
    | some t =>
      rw [hj] at h
      rw [jumpTarget_some hj]
      obtain ⟨s1, h1, e1⟩ := h
      exact handlerSimI_ofEff (md := { m with regs := rs }) hsim.2 h1 e1 (decodesList_keeps e1.keeps tl)
        (decodesList_keeps e1.keeps hsim.2.vals) rfl rfl
  | false =>
    rw [hd] at h
    simp only [Bool.false_eq_true, if_false] at h ⊢
    obtain ⟨b, s1, h1, d1, e1⟩ := h
    exact handlerSimI_ofEff (md := { m with regs := .fls :: rs }) hsim.2 h1 e1 (.cons d1 (decodesList_keeps e1.keeps tl))
      (decodesList_keeps e1.keeps hsim.2.vals) rfl (by simp [hsim.1])

theorem handle_or (hk : K → MDeepN m 1) :
    HandlerSimI S Inv P s (dispatch fo S fuel H .or operand s) m (handle fo host P m .or operand) := by
  simp only [handle]
  split
  · trivial
  rename_i j
  split
  · trivial
  rename_i d rs hregs
  have hr := hsim.2.regs
  rw [hregs] at hr
  obtain ⟨a, rest, hsr, da, tl⟩ := decodesList_cons_inv hr
  have h := or_spec L j hsr da hi (deepK_of_sim hsim.2 tl fun k => (hk k).one hregs)
  cases hd : d.truthy with
  | false =>
    rw [hd, hsim.2.jumps] at h
    simp only [Bool.false_eq_true, if_false] at h ⊢
    cases hj : P.jumps[j]? with
    | none => rw [jumpTarget_none hj]; trivial
    | some t =>
      rw [hj] at h
      rw [jumpTarget_some hj]
      obtain ⟨s1, h1, e1⟩ := h
      exact handlerSimI_ofEff (md := { m with regs := rs }) hsim.2 h1 e1 (decodesList_keeps e1.keeps tl)
        (decodesList_keeps e1.keeps hsim.2.vals) rfl rfl
  | true =>
    rw [hd] at h
    simp only [if_true] at h ⊢
    obtain ⟨b, s1, h1, d1, e1⟩ := h
    exact handlerSimI_ofEff (md := { m with regs := .tru :: rs }) hsim.2 h1 e1 (.cons d1 (decodesList_keeps e1.keeps tl))
      (decodesList_keeps e1.keeps hsim.2.vals) rfl (by simp [hsim.1])

theorem handle_reapply (hk : K → MDeepN m 1 ∧ ∀ v rs, m.regs = v :: rs → v ≠ .custom) :
    HandlerSimI S Inv P s (dispatch fo S fuel H .reapply operand s) m (handle fo host P m .reapply operand) := by
  simp only [handle]
  split
  · trivial
  rename_i j
  split
  · trivial
  rename_i v rs hregs
  cases hj : P.jumps[j]? with
  | none => rw [jumpTarget_none hj]; trivial
  | some t =>
    rw [jumpTarget_some hj]
    simp only []
    split
    · trivial
    rename_i x vs hvals
    have hr := hsim.2.regs
    rw [hregs] at hr
    obtain ⟨a, rest, hsr, da, tl⟩ := decodesList_cons_inv hr
    have hv := hsim.2.vals
    rw [hvals] at hv
    obtain ⟨b, bs, hsv, _, tv⟩ := decodesList_cons_inv hv
    obtain ⟨s1, h1, e1⟩ := reapply_spec L j hsr (by rw [hsim.2.jumps, hj]) hsv da (fun k => (hk k).2 v rs hregs) hi
      (deepK_of_sim hsim.2 tl fun k => (hk k).1.one hregs)
    exact handlerSimI_ofEff (md := { m with regs := rs, vals := v :: vs }) hsim.2 h1 e1 (decodesList_keeps e1.keeps tl)
      (.cons (e1.dec da) (decodesList_keeps e1.keeps tv)) rfl rfl

theorem handle_endExpression
    (hk : K → ∀ r rs, m.regs = r :: rs → r ≠ .custom ∧ MDeep m rs ∧ (m.frames = [] → rs = [])) :
    HandlerSimI S Inv P s (dispatch fo S fuel H .endExpression operand s) m
      (handle fo host P m .endExpression operand) := by
  simp only [handle]
  split
  · trivial
  rename_i v rs hregs
  have hr := hsim.2.regs
  rw [hregs] at hr
  obtain ⟨a, rest, hsr, da, tl⟩ := decodesList_cons_inv hr
  have hdeep : DeepK K S s rest := deepK_of_sim hsim.2 tl fun k => (hk k v rs hregs).2.1
  have hf := hsim.2.frames
  split
  · rename_i hframes
    rw [hframes] at hf
    have hsf : S.frames s = [] := by generalize S.frames s = sf at hf; cases hf; rfl
    split
    · trivial
    rename_i x vs hvals
    have hv := hsim.2.vals
    rw [hvals] at hv
    obtain ⟨b, bs, hsv, _, tv⟩ := decodesList_cons_inv hv
    obtain ⟨s1, R, h1, e1, hR⟩ := endExpression_top L hsr hsf hsv da (fun k => (hk k v rs hregs).1) hi hdeep
    have hRd : DecodesList (S.view s) R rs := by
      rcases hR with rfl | ⟨k, rfl⟩
      · exact tl
      · rw [(hk k v rs hregs).2.2 hframes]; exact .nil
    exact handlerSimI_ofEff (md := { m with regs := rs, vals := v :: vs }) hsim.2 h1 e1 (decodesList_keeps e1.keeps hRd)
      (.cons (e1.dec da) (decodesList_keeps e1.keeps tv)) rfl (by simp [hsim.2.ilen])
  · rename_i fr frs hframes
    rw [hframes] at hf
    generalize hsf : S.frames s = sf at hf
    cases hf with
    | cons hret hsaved hrest =>
      rename_i ret saved fs
      obtain ⟨s1, h1, e1⟩ := endExpression_return L hsr hsf da (fun k => (hk k v rs hregs).1) hi hdeep
      have hvt : DecodesList (S.view s) (S.vals s).tail m.vals.tail := by
        rw [← List.drop_one, ← List.drop_one]; exact EqualityRefine.decodesList_drop 1 hsim.2.vals
      exact ⟨some ret, s1, h1, by simp [hret], e1.keeps.cur,
        SimD.ofFEff hsim.2 e1.toFEff (.cons (e1.dec da) (decodesList_keeps e1.keeps hsaved))
          (decodesList_keeps e1.keeps hvt) (framesRel_keeps e1.keeps hrest),
        e1.keeps.dec, e1.inv, fun h => by rw [e1.trace]; exact traceRel_mapDec e1.keeps.dec h⟩

end
end Core

end Garnish.Lemmas.Runtime
