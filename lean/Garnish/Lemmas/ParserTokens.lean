/-
Every function of Garnish.Model.Parser, once, for every token list (no fragment): `SPost P o` says that the call returns
(`ok` or `err`: neither a modelled panic site nor the recursion fuel is hit) and that an `ok` result satisfies `P`.
The two loops that are not `for` loops and `trim_tokens` are the only places where `panic` / `fuelOut` occur in the model;
every other function passes `SPost` on.  The postcondition carried through is an invariant of the node vector: nodes are
created only by `pushNode` (the current token, a definition obtained from its type) and by `pushListNode` (definition List,
the token before its right operand — `last_token`, an input token whenever the list flag is set); all other writes touch
`parent` / `right` only, and `left` is written only when a node is created.  It is stated for a specification `NodeSpec` of
tokens and nodes (`parse_ngood`); its instances are `parse_safe` (Lemmas/Parser.lean), `parse_good` (parser half of
`C03_front_end_shape_statement`) and `Num.parse_lgood` (`Num.`: what the numbering theorems of Lemmas/ParseNumbered and
Props/C02Numbered read).
-/
import Garnish.Model.Parser
import Garnish.Lemmas.EnumAll
namespace Garnish.Model.Parser
open Garnish Garnish.Gen

/-- neither `panic` nor `fuelOut` -/
def Safe {α : Type} : Outcome α → Prop
  | .ok _ => True
  | .err _ => True
  | .panic _ => False
  | .fuelOut => False

@[simp] theorem safe_ok {α : Type} (a : α) : Safe (Outcome.ok a) := trivial
@[simp] theorem safe_err {α : Type} (e : ErrClass) : Safe (Outcome.err e : Outcome α) := trivial
@[simp] theorem safe_implErr {α : Type} : Safe (implErr : Outcome α) := trivial
@[simp] theorem safe_syntaxErr {α : Type} : Safe (syntaxErr : Outcome α) := trivial
@[simp] theorem not_safe_panic {α : Type} (s : String) : ¬ Safe (Outcome.panic s : Outcome α) := id
@[simp] theorem not_safe_fuelOut {α : Type} : ¬ Safe (Outcome.fuelOut : Outcome α) := id

theorem Safe.ne_panic {α : Type} {o : Outcome α} (h : Safe o) (s : String) : o ≠ .panic s := by
  intro e; subst e; exact h
theorem Safe.ne_fuelOut {α : Type} {o : Outcome α} (h : Safe o) : o ≠ .fuelOut := by
  intro e; subst e; exact h

/-! ### the parent walk of `parse_token`: the Rust cap fires before the fuel runs out -/

theorem walkLoop_safe (nodes : Array ParseNode) (myPriority : Nat) (underGroup : Option Nat) (rightToLeft : Bool) :
    ∀ (fuel count : Nat) (trueLeft currentLeft : Option Nat),
      count ≤ nodes.size → nodes.size + 1 ≤ fuel + count →
      Safe (walkLoop nodes myPriority underGroup rightToLeft fuel count trueLeft currentLeft) := by
  intro fuel
  induction fuel with
  | zero =>
    intro count trueLeft currentLeft h1 h2
    omega
  | succ fuel ih =>
    intro count trueLeft currentLeft h1 h2
    cases currentLeft with
    | none => unfold walkLoop; simp
    | some leftIndex =>
      unfold walkLoop
      dsimp only
      cases hn : nodes[leftIndex]? with
      | none => simp
      | some n =>
        dsimp only
        cases hp : priority n.definition with
        | none => simp
        | some theirPriority =>
          dsimp only
          repeat' split
          all_goals first | (simp; done) | (apply ih <;> omega)

/-- the reverse loop runs at most `tokens.len()` times, so `end -= 1` never underflows, and `end` only decreases -/
theorem trimEnd_ok : ∀ (rev : List PToken) (end_ : Nat), rev.length ≤ end_ →
    ∃ e, trimEnd rev end_ = .ok e ∧ e ≤ end_ := by
  intro rev
  induction rev with
  | nil => intro end_ _; exact ⟨end_, rfl, Nat.le_refl _⟩
  | cons t rest ih =>
    intro end_ h
    simp only [List.length_cons] at h
    unfold trimEnd
    split
    · have h0 : end_ ≠ 0 := by omega
      simp only [h0, if_false]
      obtain ⟨e, he, hle⟩ := ih (end_ - 1) (by omega)
      exact ⟨e, he, by omega⟩
    · exact ⟨end_, rfl, Nat.le_refl _⟩

/-! ### the root walk: the Rust cap fires before the fuel runs out -/

theorem rootLoop_safe (nodes : Array ParseNode) :
    ∀ (fuel count root : Nat) (node : ParseNode),
      count ≤ nodes.size → nodes.size + 1 ≤ fuel + count → Safe (rootLoop nodes fuel count root node) := by
  intro fuel
  induction fuel with
  | zero => intro count root node h1 h2; omega
  | succ fuel ih =>
    intro count root node h1 h2
    unfold rootLoop
    cases hp : node.parent with
    | none => simp
    | some i =>
      dsimp only
      cases hn : nodes[i]? with
      | none => simp
      | some parent =>
        dsimp only
        repeat' split
        all_goals first | (simp; done) | (apply ih <;> omega)

/-- postcondition on `ok` results only (true of a panic): the form in which the instances below are used -/
def Post {α : Type} (P : α → Prop) : Outcome α → Prop
  | .ok a => P a
  | _ => True

@[simp] theorem post_ok {α : Type} (P : α → Prop) (a : α) : Post P (.ok a) ↔ P a := Iff.rfl
@[simp] theorem post_err {α : Type} (P : α → Prop) (e : ErrClass) : Post P (.err e) := trivial
@[simp] theorem post_panic {α : Type} (P : α → Prop) (s : String) : Post P (.panic s) := trivial
@[simp] theorem post_fuelOut {α : Type} (P : α → Prop) : Post P (.fuelOut : Outcome α) := trivial

theorem post_bind {α β : Type} {x : Outcome α} {f : α → Outcome β} {P : α → Prop} {Q : β → Prop}
    (hx : Post P x) (hf : ∀ a, P a → Post Q (f a)) : Post Q (Outcome.bind x f) := by
  cases x with
  | ok a => exact hf a hx
  | err e => trivial
  | panic s => trivial
  | fuelOut => trivial

theorem post_mono {α : Type} {x : Outcome α} {P Q : α → Prop} (hx : Post P x) (h : ∀ a, P a → Q a) : Post Q x := by
  cases x <;> simp_all [Post]

/-- the call returns (neither `panic` nor `fuelOut`), and an `ok` result satisfies `P` -/
def SPost {α : Type} (P : α → Prop) : Outcome α → Prop
  | .ok a => P a
  | .err _ => True
  | _ => False

@[simp] theorem spost_ok {α : Type} (P : α → Prop) (a : α) : SPost P (.ok a) ↔ P a := Iff.rfl
@[simp] theorem spost_err {α : Type} (P : α → Prop) (e : ErrClass) : SPost P (.err e) := trivial
@[simp] theorem spost_implErr {α : Type} (P : α → Prop) : SPost P (implErr : Outcome α) := trivial
@[simp] theorem spost_syntaxErr {α : Type} (P : α → Prop) : SPost P (syntaxErr : Outcome α) := trivial

theorem SPost.safe {α : Type} {P : α → Prop} {o : Outcome α} (h : SPost P o) : Safe o := by
  cases o <;> first | trivial | exact h

theorem SPost.post {α : Type} {P : α → Prop} {o : Outcome α} (h : SPost P o) : Post P o := by
  cases o <;> first | trivial | exact h

theorem spost_of_safe {α : Type} {o : Outcome α} (h : Safe o) : SPost (fun _ => True) o := by
  cases o <;> first | trivial | exact h

theorem spost_bind {α β : Type} {x : Outcome α} {f : α → Outcome β} {P : α → Prop} {Q : β → Prop}
    (hx : SPost P x) (hf : ∀ a, P a → SPost Q (f a)) : SPost Q (Outcome.bind x f) := by
  cases x with
  | ok a => exact hf a hx
  | err e => trivial
  | panic s => exact hx
  | fuelOut => exact hx

theorem spost_mono {α : Type} {x : Outcome α} {P Q : α → Prop} (hx : SPost P x) (h : ∀ a, P a → Q a) : SPost Q x := by
  cases x <;> simp_all [SPost]

theorem spost_and {α : Type} {x : Outcome α} {A B : α → Prop} (h1 : SPost A x) (h2 : SPost B x) :
    SPost (fun a => A a ∧ B a) x := by
  cases x <;> simp_all [SPost]

/-- the definition an arm returns is the one it was given, or Drop -/
def InfoOk (d : Definition) (info : Info) : Prop := info.definition = d ∨ info.definition = .drop

/-- what is asked of the tokens (`T`) and of a node's definition and token (`R`) so that `R` holds of every node the parser
    creates from tokens that satisfy `T` -/
structure NodeSpec where
  T : PToken → Prop
  R : Definition → PToken → Prop
  list : ∀ t d, T t → d = .list ∨ d = .drop → R d t
  own : ∀ t, T t → R (getDefinition t.type).1 t
  prop : ∀ t, T t → (getDefinition t.type).1 = .identifier → R .property t

def Num.isBr (d : Definition) : Bool := d == .group || d == .nestedExpression

section
variable (K : NodeSpec)

def NGood (pn : ParseNode) : Prop := K.R pn.definition pn.lexToken ∧ (Num.isBr pn.definition = true → pn.left = none)

def AllN (nodes : Array ParseNode) : Prop := ∀ (i : Nat) (pn : ParseNode), nodes[i]? = some pn → NGood K pn

theorem allN_empty : AllN K #[] := by intro i pn h; simp at h

theorem allN_push {nodes : Array ParseNode} {pn : ParseNode} (h : AllN K nodes) (hp : NGood K pn) :
    AllN K (nodes.push pn) := by
  intro i x hx
  rw [Array.getElem?_push] at hx
  split at hx
  · cases hx; exact hp
  · exact h i x hx

theorem allN_modify {nodes nodes' : Array ParseNode} {i : Nat} {f : ParseNode → ParseNode}
    (h : AllN K nodes) (hf : ∀ n, nodes[i]? = some n → NGood K (f n))
    (hm : modifyNode? nodes i f = some nodes') : AllN K nodes' := by
  unfold modifyNode? at hm
  split at hm
  · rename_i hi
    cases hm
    intro j x hx
    rw [Array.getElem?_set] at hx
    split at hx
    · cases hx
      exact hf _ (by simp [hi])
    · exact h j x hx
  · cases hm

theorem ngood_parent {n : ParseNode} (p : Option Nat) (h : NGood K n) : NGood K { n with parent := p } := h
theorem ngood_right {n : ParseNode} (p : Option Nat) (h : NGood K n) : NGood K { n with right := p } := h

theorem parseToken_ngood (id : Nat) (definition : Definition) (left right : Option Nat) (nodes : Array ParseNode)
    (underGroup : Option Nat) (rtl : Bool) (h : AllN K nodes) :
    SPost (fun r => AllN K r.1 ∧ InfoOk definition r.2)
      (parseToken id definition left right nodes underGroup rtl) := by
  unfold parseToken
  split
  · simp
  · apply spost_bind (P := fun _ => True)
    · exact spost_of_safe (walkLoop_safe nodes _ underGroup rtl (nodes.size + 1) 0 left left (Nat.zero_le _) (Nat.le_refl _))
    · intro a _
      dsimp only
      apply spost_bind (P := fun ns => AllN K ns)
      · split
        · simpa using h
        · split
          · simp
          · rename_i hm
            simp only [spost_ok]
            exact allN_modify K h (fun n hn => ngood_parent K _ (h _ n hn)) hm
      · intro ns hns
        split
        · simp [hns, InfoOk]
        · split
          · simp
          · split
            · simp
            · rename_i hm
              have h2 := allN_modify K hns (fun n hn => ngood_right K _ (hns _ n hn)) hm
              split
              · simp [h2, InfoOk]
              · split
                · simp [h2, InfoOk]
                · rename_i hm3
                  have h3 := allN_modify K h2 (fun n hn => ngood_parent K _ (h2 _ n hn)) hm3
                  simp [h3, InfoOk]

def NStOk (d : Definition) (r : PState × Info) : Prop := AllN K r.1.nodes ∧ InfoOk d r.2

theorem parseTokenSt_ngood (st : PState) (id : Nat) (definition : Definition) (left right underGroup : Option Nat)
    (rtl : Bool) (h : AllN K st.nodes) :
    SPost (NStOk K definition) (parseTokenSt st id definition left right underGroup rtl) := by
  unfold parseTokenSt
  apply spost_bind (parseToken_ngood K id definition left right st.nodes underGroup rtl h)
  intro a ha
  simpa [NStOk] using ha

theorem ngood_of_infoOk_list {info : Info} (h : InfoOk .list info) (sd : SecDef) (p l r : Option Nat) (t : PToken)
    (ht : K.T t) : NGood K ⟨info.definition, sd, p, l, r, t⟩ := by
  refine ⟨K.list t _ ht h, fun hb => ?_⟩
  rcases h with h | h <;> (simp only [] at hb; rw [h] at hb; cases hb)

theorem pushListNode_ngood (st : PState) (id ourId : Nat) (underGroup : Option Nat) (h : AllN K st.nodes)
    (hK : K.T st.lastToken) : SPost (fun st' => AllN K st'.nodes) (pushListNode st id ourId underGroup) := by
  unfold pushListNode parseTokenLeftToRight parseTokenSt
  apply spost_bind (P := fun r => AllN K r.1.nodes ∧ InfoOk .list r.2 ∧ r.1.lastToken = st.lastToken)
  · apply spost_bind (parseToken_ngood K id .list st.lastLeft (some ourId) st.nodes underGroup false h)
    intro a ha
    exact ⟨ha.1, ha.2, rfl⟩
  · intro a ha
    obtain ⟨h1, h2, h3⟩ := ha
    simp only [spost_ok]
    exact allN_push K h1 (ngood_of_infoOk_list K h2 _ _ _ _ _ (by rw [h3]; exact hK))

theorem parseValueLike_ngood (st : PState) (id : Nat) (definition : Definition) (underGroup : Option Nat)
    (h : AllN K st.nodes) (hL : st.checkForList = true → K.T st.lastToken) :
    SPost (NStOk K definition) (parseValueLike st id definition underGroup) := by
  unfold parseValueLike
  split
  · rename_i hc
    apply spost_bind (pushListNode_ngood K st id (id + 1) underGroup h (hL hc))
    intro st' hst'
    exact parseTokenSt_ngood K _ _ _ _ _ _ false hst'
  · exact parseTokenSt_ngood K _ _ _ _ _ _ false h

theorem setupSpaceListCheck_ngood (st : PState) (cg : Option Nat) (d : Definition) (h : AllN K st.nodes) :
    SPost (NStOk K d) (setupSpaceListCheck st cg) := by
  unfold setupSpaceListCheck
  apply spost_bind (P := fun st' => AllN K st'.nodes)
  · repeat' split
    all_goals (try dsimp only)
    all_goals (repeat' split)
    all_goals simp [h]
  · intro st' hst'
    simp [NStOk, InfoOk, hst']

theorem adjustLastLeft_ngood (st : PState) (ug : Option Nat) (h : AllN K st.nodes) :
    SPost (fun st' => AllN K st'.nodes) (adjustLastLeft st ug) := by
  unfold adjustLastLeft
  repeat' split
  all_goals (try dsimp only)
  all_goals (repeat' split)
  all_goals simp [h]

theorem armUnaryPrefix_ngood (st : PState) (currentId : Nat) (definition : Definition) (ar ug : Option Nat)
    (h : AllN K st.nodes) (hL : st.checkForList = true → K.T st.lastToken) :
    SPost (NStOk K definition) (armUnaryPrefix st currentId definition ar ug) := by
  unfold armUnaryPrefix
  dsimp only
  split
  · rename_i hc
    apply spost_bind (pushListNode_ngood K st currentId (currentId + 1) ug h (hL hc))
    intro st' hst'
    simp [NStOk, InfoOk, hst']
  · simp [NStOk, InfoOk, h]

theorem armStartGrouping_ngood (st : PState) (currentId : Nat) (definition : Definition) (ar ug : Option Nat)
    (h : AllN K st.nodes) (hL : st.checkForList = true → K.T st.lastToken) :
    SPost (fun r => NStOk K definition r ∧ r.2.left = none) (armStartGrouping st currentId definition ar ug) := by
  unfold armStartGrouping
  dsimp only
  split
  · rename_i hc
    refine spost_bind (pushListNode_ngood K _ currentId (currentId + 1) ug ?_ ?_) ?_
    · simpa using h
    · exact hL hc
    · intro st' hst'
      simp [NStOk, InfoOk, hst']
  · simp [NStOk, InfoOk, h]

theorem armStartSideEffect_ngood (st : PState) (currentId : Nat) (definition : Definition) (ar ug : Option Nat)
    (h : AllN K st.nodes) : SPost (NStOk K definition) (armStartSideEffect st currentId definition ar ug) := by
  unfold armStartSideEffect
  dsimp only
  apply spost_bind (parseTokenSt_ngood K _ currentId definition _ ar ug false (by simpa using h))
  intro a ha
  obtain ⟨h1, h2⟩ := ha
  simp [NStOk, h1, h2]

theorem endGroupingFixLastLeft_ngood (st : PState) (currentId endedGroup : Nat) (h : AllN K st.nodes) :
    SPost (fun st' => AllN K st'.nodes) (endGroupingFixLastLeft st currentId endedGroup) := by
  unfold endGroupingFixLastLeft
  split
  · simpa using h
  · split
    · simp
    · rename_i left hll _ leftNode0 hget
      dsimp only
      have hg0 : NGood K leftNode0 := h _ _ hget
      have hgl : NGood K (if (leftNode0.definition.isOptional || left == endedGroup) = true
          then { leftNode0 with right := none } else leftNode0) := by
        split
        · exact hg0
        · exact hg0
      generalize (if (leftNode0.definition.isOptional || left == endedGroup) = true
          then { leftNode0 with right := none } else leftNode0) = leftNode at hgl ⊢
      split
      · simp
      · rename_i nodes1 hm1
        have h1 := allN_modify K h (fun _ _ => hgl) hm1
        split
        · split
          · simpa using h1
          · split
            · simp
            · rename_i nodes2 hm2
              have h2 := allN_modify K h1 (fun n hn => ngood_parent K _ (h1 _ n hn)) hm2
              split
              · simpa using h2
              · split
                · simp
                · rename_i nodes3 hm3
                  simpa using allN_modify K h2 (fun n hn => ngood_right K _ (h2 _ n hn)) hm3
        · simpa using h1

theorem armEndGrouping_ngood (st : PState) (currentId : Nat) (token : PToken) (d : Definition)
    (h : AllN K st.nodes) : SPost (NStOk K d) (armEndGrouping st currentId token) := by
  unfold armEndGrouping
  split
  · simp
  · dsimp only
    split
    · simp
    · apply spost_bind (P := fun _ => True)
      · repeat' split
        all_goals simp
      · intro et _
        split
        · simp
        · apply spost_bind (endGroupingFixLastLeft_ngood K _ currentId _ (by simpa using h))
          intro st' hst'
          simp [NStOk, InfoOk, hst']

theorem armSubexpression_ngood (st : PState) (currentId : Nat) (definition : Definition) (ar ug : Option Nat)
    (h : AllN K st.nodes) : SPost (NStOk K definition) (armSubexpression st currentId definition ar ug) := by
  unfold armSubexpression
  apply spost_bind (P := fun _ => True)
  · repeat' split
    all_goals simp
  · intro r _
    dsimp only
    split
    · exact setupSpaceListCheck_ngood K st ug definition h
    · apply spost_bind (P := fun p => AllN K p.1.nodes)
      · split
        · simpa using h
        · split
          · simp
          · rename_i left hll _ leftNode0 hget
            (try dsimp only)
            have hg0 : NGood K leftNode0 := h _ _ hget
            have hgl : NGood K (if leftNode0.definition.isOptional = true
                then { leftNode0 with right := none } else leftNode0) := by
              split <;> exact hg0
            generalize (if leftNode0.definition.isOptional = true
                then { leftNode0 with right := none } else leftNode0) = leftNode at hgl ⊢
            split
            · simp
            · rename_i nodes1 hm1
              simpa using allN_modify K h (fun _ _ => hgl) hm1
      · intro p hp
        split
        · simp [NStOk, InfoOk, hp]
        · exact parseTokenSt_ngood K _ _ _ _ _ _ false (by simpa using hp)

theorem dispatch_ngood (st : PState) (currentId : Nat) (token : PToken) (definition : Definition) (sd : SecDef)
    (ar ug : Option Nat) (h : AllN K st.nodes) (hL : st.checkForList = true → K.T st.lastToken)
    (hbr : Num.isBr definition = true → sd = .startGrouping) :
    SPost (fun r => NStOk K definition r ∧ (Num.isBr definition = true → r.2.left = none))
      (dispatch st currentId token definition sd ar ug) := by
  have lift : ∀ {x : Outcome (PState × Info)}, sd ≠ .startGrouping → SPost (NStOk K definition) x →
      SPost (fun r => NStOk K definition r ∧ (Num.isBr definition = true → r.2.left = none)) x :=
    fun hne hx => spost_mono hx (fun r hr => ⟨hr, fun hb => absurd (hbr hb) hne⟩)
  unfold dispatch
  split
  · simp
  · exact lift (by simp) (setupSpaceListCheck_ngood K st ug definition h)
  · exact lift (by simp) (by simp [NStOk, InfoOk, h])
  · exact lift (by simp) (parseValueLike_ngood K st currentId definition ug h hL)
  · exact lift (by simp) (parseValueLike_ngood K st currentId definition ug h hL)
  · exact lift (by simp) (parseTokenSt_ngood K _ _ _ _ _ _ true (by simpa using h))
  · exact lift (by simp) (parseTokenSt_ngood K _ _ _ _ _ _ false (by simpa using h))
  · exact lift (by simp) (parseTokenSt_ngood K _ _ _ _ _ _ false (by simpa using h))
  · exact lift (by simp) (armUnaryPrefix_ngood K st currentId definition ar ug h hL)
  · exact lift (by simp) (parseTokenSt_ngood K _ _ _ _ _ _ false (by simpa using h))
  · exact spost_mono (armStartGrouping_ngood K st currentId definition ar ug h hL) (fun r hr => ⟨hr.1, fun _ => hr.2⟩)
  · exact lift (by simp) (armStartSideEffect_ngood K st currentId definition ar ug h)
  · exact lift (by simp) (armEndGrouping_ngood K st currentId token definition h)
  · exact lift (by simp) (armEndGrouping_ngood K st currentId token definition h)
  · exact lift (by simp) (armSubexpression_ngood K st currentId definition ar ug h)

theorem bracket_token (ty : TokenType) (h : Num.isBr (getDefinition ty).1 = true) : (getDefinition ty).2 = .startGrouping := by
  revert ty; exact TokenType.forall_of_all (by decide +kernel)

theorem pushNode_ngood (st : PState) (info : Info) (sd : SecDef) (token : PToken) (h : AllN K st.nodes)
    (hi : InfoOk (getDefinition token.type).1 info) (hleft : Num.isBr (getDefinition token.type).1 = true → info.left = none)
    (ht : K.T token) : AllN K (pushNode st info sd token).nodes := by
  unfold pushNode
  split
  · rename_i hnd
    dsimp only
    apply allN_push K h
    have hdef : info.definition = (getDefinition token.type).1 := by
      rcases hi with hi | hi
      · exact hi
      · rw [hi] at hnd; simp at hnd
    refine ⟨?_, fun hb => ?_⟩
    · -- the stored definition is the token's own, or Property for an Identifier
      simp only []
      split
      · rename_i heq
        split
        · rw [heq, ← heq, hdef]; exact K.own _ ht
        · split
          · exact K.prop _ ht (by rw [← hdef]; exact heq)
          · rw [heq, ← heq, hdef]; exact K.own _ ht
      · rw [hdef]; exact K.own _ ht
    · simp only [] at hb ⊢
      split at hb
      · rename_i heq
        split at hb
        · rw [heq] at hb; simp [Num.isBr] at hb
        · split at hb
          · simp [Num.isBr] at hb
          · rw [heq] at hb; simp [Num.isBr] at hb
      · exact hleft (by rw [← hdef]; exact hb)
  · exact h

theorem adjustLastLeft_fields (st : PState) (ug : Option Nat) :
    SPost (fun st' => st'.checkForList = st.checkForList ∧ st'.lastToken = st.lastToken) (adjustLastLeft st ug) := by
  unfold adjustLastLeft
  repeat' split
  all_goals (try dsimp only)
  all_goals (repeat' split)
  all_goals simp

theorem step_ngood (st : PState) (token : PToken) (isLast : Bool) (h : AllN K st.nodes)
    (hL : st.checkForList = true → K.T st.lastToken) (ht : K.T token) :
    SPost (fun st' => AllN K st'.nodes ∧ K.T st'.lastToken) (step st token isLast) := by
  unfold step
  dsimp only
  apply spost_bind (P := fun _ => True)
  · unfold underGroupOf; repeat' split
    all_goals simp
  · intro ug _
    apply spost_bind (spost_and (adjustLastLeft_ngood K st ug h) (adjustLastLeft_fields st ug))
    intro st1 hst1
    obtain ⟨hst1, hc1, hl1⟩ := hst1
    split
    · simp
    · apply spost_bind (dispatch_ngood K _ _ token (getDefinition token.type).1 (getDefinition token.type).2 _ ug
        (by simpa using hst1) (by intro hc; show K.T st1.lastToken; rw [hl1]; exact hL (by rw [← hc1]; exact hc))
        (bracket_token token.type))
      intro r hr
      obtain ⟨⟨h1, h2⟩, h3⟩ := hr
      have hp := pushNode_ngood K r.1 r.2 (getDefinition token.type).2 token h1 h2 h3 ht
      simp only [spost_ok]
      split <;> exact ⟨by simpa using hp, ht⟩

theorem loop_ngood : ∀ (tokens : List PToken) (st : PState), AllN K st.nodes → (st.checkForList = true → K.T st.lastToken) →
    (∀ t ∈ tokens, K.T t) → SPost (fun st' => AllN K st'.nodes) (loop st tokens)
  | [], st, h, _, _ => by simpa [loop] using h
  | t :: rest, st, h, hL, ht => by
    unfold loop
    apply spost_bind (step_ngood K st t rest.isEmpty h hL (ht t (by simp)))
    intro st' hst'
    exact loop_ngood rest st' hst'.1 (fun _ => hst'.2) (fun x hx => ht x (by simp [hx]))

theorem trimTokens_sub (tokens : List PToken) :
    SPost (fun r => ∀ t ∈ r, t ∈ tokens) (trimTokens tokens) := by
  unfold trimTokens
  obtain ⟨e, he, hle⟩ := trimEnd_ok tokens.reverse tokens.length (by simp)
  rw [he]
  simp only [Outcome.bind]
  split
  · simp
  · split
    · omega
    · simp only [spost_ok]
      intro t ht
      exact List.mem_of_mem_drop (List.mem_of_mem_take ht)

theorem finish_ngood (st : PState) (h : AllN K st.nodes) : SPost (fun r => AllN K r.nodes) (finish st) := by
  unfold finish
  repeat' split
  all_goals (try simp [h])
  all_goals (apply spost_bind (P := fun _ => True))
  all_goals first
    | exact spost_of_safe (rootLoop_safe _ _ _ _ _ (Nat.zero_le _) (Nat.le_refl _))
    | (intro _ _; simp [h])

theorem parse_ngood (tokens : List PToken) (ht : ∀ t ∈ tokens, K.T t) :
    SPost (fun r => AllN K r.nodes) (parse tokens) := by
  unfold parse
  apply spost_bind (trimTokens_sub tokens)
  intro trimmed htr
  split
  · simpa using allN_empty K
  · apply spost_bind (loop_ngood K trimmed PState.init (by simpa [PState.init] using allN_empty K)
      (by intro hc; simp [PState.init] at hc) (fun t h => ht t (htr t h)))
    intro st hst
    exact finish_ngood K st hst
end

def Good (S B : PToken → Prop) (pn : ParseNode) : Prop :=
  (pn.definition = .symbol → S pn.lexToken) ∧ (pn.definition = .byteList → B pn.lexToken)

def AllGood (S B : PToken → Prop) (nodes : Array ParseNode) : Prop :=
  ∀ (i : Nat) (pn : ParseNode), nodes[i]? = some pn → Good S B pn

def TokGood (S B : PToken → Prop) (t : PToken) : Prop := (t.type = .symbol → S t) ∧ (t.type = .byteList → B t)

theorem getDefinition_symbol (ty : TokenType) (h : (getDefinition ty).1 = .symbol) : ty = .symbol := by
  revert ty; exact TokenType.forall_of_all (by decide +kernel)

theorem getDefinition_byteList (ty : TokenType) (h : (getDefinition ty).1 = .byteList) : ty = .byteList := by
  revert ty; exact TokenType.forall_of_all (by decide +kernel)

theorem parse_good (S B : PToken → Prop) (tokens : List PToken) (ht : ∀ t ∈ tokens, TokGood S B t) :
    Post (fun r => AllGood S B r.nodes) (parse tokens) :=
  post_mono (parse_ngood
    { T := TokGood S B
      R := fun d t => (d = .symbol → S t) ∧ (d = .byteList → B t)
      list := fun _ _ _ hd => by rcases hd with rfl | rfl <;> exact ⟨fun h => (nomatch h), fun h => (nomatch h)⟩
      own := fun t h => ⟨fun hd => h.1 (getDefinition_symbol _ hd), fun hd => h.2 (getDefinition_byteList _ hd)⟩
      prop := fun _ _ _ => ⟨fun h => (nomatch h), fun h => (nomatch h)⟩ } tokens ht).post
    (fun _ h i pn hp => (h i pn hp).1)

theorem Num.parse_lgood (K : PToken → Prop) (tokens : List PToken) (ht : ∀ t ∈ tokens, K t) :
    Post (fun r => ∀ (i : Nat) (pn : ParseNode), r.nodes[i]? = some pn →
      K pn.lexToken ∧ (Num.isBr pn.definition = true → pn.left = none)) (parse tokens) :=
  (parse_ngood ⟨K, fun _ t => K t, fun _ _ h _ => h, fun _ h => h, fun _ h _ => h⟩ tokens ht).post

def NodeSpec.any : NodeSpec :=
  ⟨fun _ => True, fun _ _ => True, fun _ _ _ _ => trivial, fun _ _ => trivial, fun _ _ _ => trivial⟩

end Garnish.Model.Parser
