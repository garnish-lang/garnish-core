/-
Text-level rewrites, lexer side (C18): blanks directly before a newline ("trailing whitespace on a line").
A newline ends the pending token of a plain state like a blank does (`Ender`, `ender_step`); right after the first newline
of a whitespace run the two lexers (`"\n"` pending with type Subexpression, `w ++ "\n"` pending with type Whitespace) are
related by `WsRel` (in the Subexpression state the pending types may differ: the arm assigns the type anew on the next
character), so `lexLoop_ws` applies (`newline_vs_blanks_newline`).
`lex_trailing_line`: the token lists differ in the text of one whitespace token only.
-/
import Garnish.Lemmas.LexTrailing
namespace Garnish.Model.Lexer
open Garnish.Model Garnish.Model.Parser Garnish.Spec

theorem base_newline (cc : CharClass) (B : Lexer) (hB : BaseOK B) :
    (bumpColumn (startToken cc B '\n') '\n').state = .subexpression ∧
    (bumpColumn (startToken cc B '\n') '\n').currentCharacters = ['\n'] ∧
    PosEq (eraseW (bumpColumn (startToken cc B '\n') '\n')) (eraseW { B with state := .subexpression }) := by
  rw [startToken_newline cc B hB.tree]
  refine ⟨by simp [bumpColumn], by simp [bumpColumn], ?_⟩
  rw [posEq_iff]; simp [bumpColumn, eraseW]

theorem inWhitespace_newline (cc : CharClass) (σ : Lexer) (cs : List Char) (h : InWhitespace σ cs) :
    ∃ σ1, processChar cc σ '\n' = .ok (σ1, none) ∧ σ1.state = .subexpression ∧ σ1.currentCharacters = cs ++ ['\n'] ∧
      PosEq (eraseW σ1) (eraseW { σ with state := .subexpression }) := by
  obtain ⟨⟨h1, h2, h3, h4, h5⟩, hty⟩ := h
  simp only [processChar, stateStep, h1, Step.ofPair, armSpaces, finishChar, h3]
  refine ⟨_, rfl, by simp [bumpColumn], by simp [bumpColumn, push, h2], ?_⟩
  rw [posEq_iff]; simp [bumpColumn, eraseW]

/-- from a base lexer: `\n` on one side, blanks then `\n` on the other, reach `WsRel`-related lexers without emitting -/
theorem newline_vs_blanks_newline (cc : CharClass) (B : Lexer) (c : Char) (r : List Char) (hc : IsBlank c)
    (hr : ∀ x ∈ r, IsBlank x) (hB : BaseOK B) (T : List LexerToken) :
    ∃ σn', runChars cc (r ++ ['\n']) (bumpColumn (startToken cc B c) c) T = .ok (σn', T) ∧
      WsRel (bumpColumn (startToken cc B '\n') '\n') σn' [] (c :: r) ['\n'] ∧
      Inv (bumpColumn (startToken cc B '\n') '\n') ∧ Inv σn' := by
  obtain ⟨hX1, hX2, hX3⟩ := base_newline cc B hB
  obtain ⟨hY1, hY2, hY3⟩ := base_blank cc B c hc hB
  obtain ⟨σ3, hrun3, hin3, hpe3⟩ := inWhitespace_run cc r _ [c] T hY1 hr
  obtain ⟨σn', hp, hs', hch', hpe'⟩ := inWhitespace_newline cc σ3 _ hin3
  have hrun : runChars cc (r ++ ['\n']) (bumpColumn (startToken cc B c) c) T = .ok (σn', T) := by
    rw [runChars_append cc r ['\n'] _ σ3 T T hrun3, runChars_none cc '\n' [] σ3 σn' T hin3.wsA.ok hp]
    rfl
  refine ⟨σn', hrun, ⟨?_, .inr hX1, (fun h => by rw [hX1] at h; cases h), (by rw [hX2]; rfl), (by rw [hch']; simp)⟩,
    (fun h => by rw [hX1] at h; cases h), (fun h => by rw [hs'] at h; cases h)⟩
  -- the fields the whitespace arms read agree, through the base lexer
  obtain ⟨a0, a4, a1, a8, a9, a10⟩ := posEq_eraseW hX3
  obtain ⟨b0, b4, b1, b8, b9, b10⟩ := posEq_eraseW hY3
  obtain ⟨c0, c2, c4, c1, c5, c6, c7, c8, c9, c10⟩ := posEq_erase hpe3
  obtain ⟨d0, d4, d1, d8, d9, d10⟩ := posEq_eraseW hpe'
  simp only [] at a0 a4 a1 a8 a9 a10 b0 b4 b1 b8 b9 b10 d0 d4 d1 d8 d9 d10
  rw [posEq_iff]
  simp only [eraseW]
  refine ⟨?_, trivial, trivial, ?_, ?_, trivial, trivial, trivial, ?_, ?_, ?_⟩
  · rw [← d0, c0, ← b0, a0]
  · rw [← d4, c4, ← b4, a4]
  · rw [hs', hX1]
  · rw [← d8, c8, ← b8, a8]
  · rw [← d9, c9, ← b9, a9]
  · rw [← d10, c10, ← b10, a10]


/-- `OneWsChanged` includes that the changed token keeps its type; on the Rust tables it is Whitespace before a single
newline and Subexpression before a blank line (Props/C18Text3.lean `exLine_single`, `exLine_blank`) -/
theorem lex_trailing_line (cc : CharClass) (hcc : cc.SaneBlank) (hcc2 : cc.Sane2) (p : List Char) (c : Char)
    (r b : List Char) (hc : IsBlank c) (hr : ∀ x ∈ r, IsBlank x) (σ : Lexer) (toks : List LexerToken)
    (hrun : runChars cc p (Lexer.init theTree) [] = .ok (σ, toks)) (hG : TrailState σ) (t : List LexerToken)
    (hl : lex cc (p ++ '\n' :: b) = .ok t) :
    ∃ t', lex cc (p ++ c :: (r ++ '\n' :: b)) = .ok t' ∧ OneWsChanged t t' := by
  obtain ⟨hok, hcr, hinv, hat, htr, σf, hfull⟩ := prefix_facts cc hcc2 p ('\n' :: b) σ toks hrun t hl
  have e2 : lexFull cc (p ++ c :: (r ++ '\n' :: b)) = lexLoop cc (c :: (r ++ '\n' :: b)) σ toks :=
    lexFull_append cc p _ hrun
  suffices hsuff : ∃ T u u', WsOut T u u' (lexLoop cc ('\n' :: b) σ toks) (lexLoop cc (c :: (r ++ '\n' :: b)) σ toks) by
    obtain ⟨T, u, u', hw⟩ := hsuff
    rw [hfull] at hw
    obtain ⟨t', σ', hR, hone⟩ := oneWsChanged_of_wsOut hw
    exact ⟨t', lex_of_lexFull_eq (e2.trans hR), hone⟩
  have hsplit : r ++ '\n' :: b = (r ++ ['\n']) ++ b := by simp
  simp only [lexLoop, isErr_of_ok hok, Bool.false_eq_true, ↓reduceIte]
  rcases hG with hplain | ⟨hnt, hcb⟩
  ·
    have hsn := ender_step cc hcc σ '\n' (Or.inr (Or.inr (Or.inr rfl))) hplain htr hcr
    have hsc := ender_step cc hcc σ c (by rcases hc with h | h; exact Or.inl h; exact Or.inr (Or.inl h)) hplain htr hcr
    cases hpt : pendingType σ with
    | none =>
      -- the newline records an error: the original text would not lex
      exfalso
      obtain ⟨σ1, hp1, he1⟩ := hsn.1 hpt
      simp only [lexLoop, isErr_of_ok hok, Bool.false_eq_true, ↓reduceIte, hp1] at hfull
      rw [lexLoop_err cc b σ1 toks he1] at hfull
      cases hfull
    | some ty =>
      rw [hsn.2 ty hpt, hsc.2 ty hpt]
      have hτ : ∃ τ : Lexer, τ = { σ with charactersLexed := σ.charactersLexed + 1 } ∧ τ.operatorTree = theTree ∧
          τ.shouldCreate = true := ⟨_, rfl, htr, hcr⟩
      obtain ⟨τ, eτ, htrτ, hcrτ⟩ := hτ
      rw [← eτ]
      obtain ⟨_, _, _, _, f5, f6, _⟩ := endOf_fields τ
      have hB := afterEmit_baseOK (endOf τ) (f6.trans htrτ) (f5.trans hcrτ)
      simp only []
      obtain ⟨σn', hrunr, hsub, hiX, hiN⟩ := newline_vs_blanks_newline cc (afterEmit (endOf τ)) c r hc hr hB
        (toks ++ [pendingTok σ ty])
      obtain ⟨_, _, hX3⟩ := base_newline cc (afterEmit (endOf τ)) hB
      obtain ⟨hY1, _, _⟩ := base_blank cc (afterEmit (endOf τ)) c hc hB
      have hXok : (bumpColumn (startToken cc (afterEmit (endOf τ)) '\n') '\n').result = .ok := by
        have := (posEq_eraseW hX3).2.2.2.2.1
        simp only [] at this
        rw [← this]; rfl
      rw [hXok, hY1.wsA.ok]
      simp only []
      rw [hsplit, lexLoop_append cc (r ++ ['\n']) b _ σn' _ _ hrunr]
      exact ⟨_, [], c :: r, lexLoop_ws cc hcc.toSane _ [] (c :: r) b _ σn' ['\n'] hsub hiX hiN⟩
  ·
    have hB : BaseOK { σ with charactersLexed := σ.charactersLexed + 1 } := ⟨htr, hcr, hok, hcb⟩
    rw [processChar_noToken cc σ '\n' hnt, processChar_noToken cc σ c hnt]
    simp only []
    obtain ⟨σn', hrunr, hsub, hiX, hiN⟩ := newline_vs_blanks_newline cc _ c r hc hr hB toks
    rw [hsplit, lexLoop_append cc (r ++ ['\n']) b _ σn' _ _ hrunr]
    exact ⟨_, [], c :: r, lexLoop_ws cc hcc.toSane _ [] (c :: r) b _ σn' ['\n'] hsub hiX hiN⟩
end Garnish.Model.Lexer
