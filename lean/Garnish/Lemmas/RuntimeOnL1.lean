/-
The relativised chain for stores whose `add_to_list` / `end_list` do not satisfy the two unrestricted list clauses of
`StoreLawsOn` (BasicGarnishData: `start_list(n)` announces the length).  `shadow S X Y` is `S` with other
`add_to_list` / `end_list` operations; every view and every other operation is `S`'s.  For every instruction whose
handler does not reach the two operations the dispatcher on `shadow S X Y` IS the dispatcher on `S`
(`dispatch_shadow`), so a step theorem proved for the shadow store (over the full contract `StoreLawsOn`) is a step
theorem for `S` (`stepSimOn_shadow`).  `shadowCovered`: the instructions for which `dispatch_shadow` is proved here —
all but `MakeList` (treated separately from the list law, RuntimeOnL2) and `Access`, `AccessLengthInternal`,
`Apply`, `EmptyApply`, `Resolve` (their handlers do not call the list operations either, but the equation needs
congruence lemmas for the fuel-recursive helpers `iterateConcatenation`, `applyPathLoop`, …: RuntimeOnL3 has them for
`AccessLengthInternal`, `ds_accessLengthInternal`; the other four are open).
-/
import Garnish.Props.RuntimeRefineOn4
import Garnish.Props.C19StoreOn
namespace Garnish.Lemmas.Runtime.OnL
open Garnish Gen Garnish.Abs Garnish.Model.Equality Garnish.Model.Runtime Garnish.Lemmas.Runtime
open Garnish.Props.RuntimeRefine Garnish.Lemmas.Runtime.On Garnish.Props.C19StoreOn

variable {F σ : Type} {S : RStore F σ} {Inv : σ → Prop} {Rd : σ → Nat → Prop} {P : Prog F} {host : Host F}
  (fo : FloatOps F)

/-- `S` with other `add_to_list` / `end_list` operations: every other field, every view is `S`'s -/
@[reducible] def shadow (S : RStore F σ) (X : Nat → Nat → RM σ Nat) (Y : Nat → RM σ Nat) : RStore F σ :=
  { S with addToList := X, endList := Y }

theorem shadow_self (S : RStore F σ) : shadow S S.addToList S.endList = S := rfl

section
variable (X : Nat → Nat → RM σ Nat) (Y : Nat → RM σ Nat)

theorem keeps_shadow : Keeps (shadow S X Y) = Keeps S := by
  funext s s'; exact propext ⟨fun h => ⟨h.dec, h.jump, h.ilen, h.cur, h.instr⟩, fun h => ⟨h.dec, h.jump, h.ilen, h.cur, h.instr⟩⟩

theorem heff_shadow : HEff (shadow S X Y) = HEff S := by
  funext s s' r
  exact propext ⟨fun h => ⟨keeps_shadow X Y ▸ h.keeps, h.regs, h.vals, h.frames⟩,
    fun h => ⟨(keeps_shadow X Y).symm ▸ h.keeps, h.regs, h.vals, h.frames⟩⟩

theorem heffI_shadow : HEffI (shadow S X Y) Inv = HEffI S Inv := by
  funext s s' r
  exact propext ⟨fun h => ⟨heff_shadow X Y ▸ h.toHEff, h.inv⟩, fun h => ⟨(heff_shadow X Y).symm ▸ h.toHEff, h.inv⟩⟩

theorem simD_shadow : SimD (shadow S X Y) P = SimD S P := by
  funext s r v f
  exact propext ⟨fun h => ⟨h.regs, h.vals, h.frames, h.instrs, h.jumps, h.ilen⟩,
    fun h => ⟨h.regs, h.vals, h.frames, h.instrs, h.jumps, h.ilen⟩⟩

theorem hostAnswerI_shadow : HostAnswerI (shadow S X Y) Inv = HostAnswerI S Inv := by
  funext call s ans
  cases ans <;> simp only [HostAnswerI, heffI_shadow]

theorem hostRefinesI_shadow (HR : HostRefinesI S Inv host) : HostRefinesI (shadow S X Y) Inv host :=
  ⟨fun op l r vl vr s hi hl hr => by rw [hostAnswerI_shadow]; exact HR.defer op l r vl vr s hi hl hr,
   fun op a v s hi ha => by rw [hostAnswerI_shadow]; exact HR.deferUnary op a v s hi ha,
   fun y s hi => by rw [hostAnswerI_shadow]; exact HR.resolve y s hi,
   fun n r vr s hi hr => by rw [hostAnswerI_shadow]; exact HR.apply n r vr s hi hr⟩

/-- the contract of a shadow store from the clauses of `S` other than the two list clauses and the two list clauses
of the shadow operations -/
theorem storeLawsOn_shadow (N : StoreLawsOnNoList S Inv Rd)
    (hadd : ∀ t items a s, Inv s → S.building s = some (t, items) →
      ∃ t' s', X t a s = .ok (t', s') ∧ Eff S s s' (S.regs s) (S.vals s) ∧
        S.building s' = some (t', items ++ [a]) ∧ Inv s')
    (hend : ∀ t items vs s, Inv s → S.building s = some (t, items) → DecodesList (S.view s) items vs →
      AddsOn S Inv (Y t) s (.list vs)) : StoreLawsOn (shadow S X Y) Inv Rd :=
  N.override S.listItemWithSymbol X Y hadd hend
end

theorem popRegisters_shadow (X : Nat → Nat → RM σ Nat) (Y : Nat → RM σ Nat) : ∀ n : Nat,
    popRegisters (shadow S X Y) n = popRegisters S n
  | 0 => rfl
  | n + 1 => by
    show (do let _ ← S.popRegister; popRegisters (shadow S X Y) n : RM σ Unit) = _
    rw [popRegisters_shadow X Y n]; rfl

theorem equalH_shadow (X : Nat → Nat → RM σ Nat) (Y : Nat → RM σ Nat) (fuel : Nat) (b : Bool) :
    equalH fo (shadow S X Y) fuel b = equalH fo S fuel b := by
  funext s
  unfold equalH
  show (match performEqualityCheck fo fuel (S.view s) (S.regs s) with
    | .ok (eq, regs') => _ | .err e => _ | .panic p => _ | .fuelOut => _) = _
  cases performEqualityCheck fo fuel (S.view s) (S.regs s) with
  | ok p =>
    obtain ⟨eq, regs'⟩ := p
    show (do popRegisters (shadow S X Y) ((S.regs s).length - regs'.length)
             pushBoolean S (if b then !eq else eq); pure none : RM σ (Option Nat)) s = _
    rw [popRegisters_shadow]
  | err e => rfl
  | panic p => rfl
  | fuelOut => rfl

/-- the instructions for which the dispatcher does not see the difference between `S` and a shadow of `S` -/
def shadowCovered : Instruction → Bool
  | .makeList | .access | .accessLengthInternal | .apply | .emptyApply | .resolve => false
  | _ => true

variable (X : Nat → Nat → RM σ Nat) (Y : Nat → RM σ Nat) (fuel : Nat) (cast : RM σ (Option Nat)) (operand : Option Nat)

theorem dispatch_shadow (instr : Instruction) (h : shadowCovered instr = true) :
    dispatch fo (shadow S X Y) fuel (fullHandlers fo (shadow S X Y) fuel cast) instr operand =
      dispatch fo S fuel (fullHandlers fo S fuel cast) instr operand := by
  -- a covered handler mentions neither `addToList` nor `endList`, so it is the same term for both stores; only
  -- `Equal` / `NotEqual` recurse (over `popRegisters`) and need `equalH_shadow`
  cases instr
  case equal | notEqual => exact equalH_shadow fo X Y fuel _
  all_goals first | (cases h; done) | rfl

omit fuel cast operand in
theorem stepSimOn_shadow (fuel : Nat) (H₂ H : OtherHandlers σ) {s : σ} {m : MState F}
    (hsim : Sim S P s m) {instr : Instruction} {operand : Option Nat}
    (hfetch : P.instrs[m.pc]? = some (instr, operand))
    (hd : dispatch fo (shadow S X Y) fuel H₂ instr operand = dispatch fo S fuel H instr operand)
    (h : StepSimOn fo host (shadow S X Y) Inv P fuel H₂ s m) : StepSimOn fo host S Inv P fuel H s m := by
  have hf := fetch_of_sim hsim
  rw [hfetch] at hf
  have hex : executeCurrentInstruction fo (shadow S X Y) fuel H₂ s = executeCurrentInstruction fo S fuel H s := by
    have hf₂ : (RM.read (fun st => (shadow S X Y).instruction st ((shadow S X Y).cursor st)) : RM σ _) s =
        .ok (some (instr, operand), s) := hf
    rw [executeCurrentInstruction, bind_ok hf₂, executeCurrentInstruction, bind_ok hf]
    simp only []
    rw [hd]; rfl
  unfold StepSimOn at h ⊢
  rw [hex] at h
  revert h
  cases Abs.step fo host P m with
  | running m' =>
    intro h; obtain ⟨s', h1, h2, h3, h4⟩ := h
    exact ⟨s', h1, ⟨h2.1, simD_shadow (S := S) (P := P) X Y ▸ h2.2⟩, h3, h4⟩
  | halted m' =>
    intro h; obtain ⟨s', h1, h2, h3, h4⟩ := h
    exact ⟨s', h1, simD_shadow (S := S) (P := P) X Y ▸ h2, h3, h4⟩
  | err e => intro _; trivial

end Garnish.Lemmas.Runtime.OnL
