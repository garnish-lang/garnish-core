/-
Compile correctness: the layout loop. One step is taken apart once (`layoutRoot_anatomy`: the root taken up, its
main line, its terminators), and an invariant of the step is an invariant of the loop (`layoutRoots_rule`).
`layoutRoots_located`: when the loop has laid out all pending roots, every root it laid out is located in the final
program: its jump entry holds its address, its main line is `Located` there, its terminators follow.
-/
import Garnish.Lemmas.CompileLocated
namespace Garnish.Abs
open Garnish Gen Garnish.Spec

variable {F : Type}

def ArrAt (a : Array Instr) : Nat → List Instr → Prop
  | _, [] => True
  | pc, t :: ts => a[pc]? = some t ∧ ArrAt a (pc + 1) ts

theorem addTerms_rule {R : LState F → LState F → Prop} (refl : ∀ s, R s s) (trans : ∀ {a b c}, R a b → R b c → R a c)
    (start : Nat) (last : Option Instr) : ∀ (terms : List Instr) (s : LState F),
    (∀ t ∈ terms, ∀ u, R u (u.push t.1 t.2)) → R s (addTerms start last terms s)
  | [], s, _ => refl s
  | t :: ts, s, h => by
    have ih := fun u => addTerms_rule refl trans start last ts u (fun t' ht' => h t' (List.mem_cons_of_mem _ ht'))
    simp only [addTerms]
    split
    · exact ih s
    · exact trans (h t List.mem_cons_self s) (ih _)

theorem addTerms_pre (start : Nat) (last : Option Instr) (terms : List Instr) (s : LState F) :
    Pre s (addTerms start last terms s) :=
  addTerms_rule .refl .trans start last terms s fun _ _ u => .push u _ _

theorem addTerms_spec (start : Nat) (last : Option Instr) : ∀ (terms : List Instr) (s : LState F),
    start < s.instrs.size →
    ArrAt (addTerms start last terms s).instrs s.instrs.size
      (terms.filter (fun t => !(decide (last = some t) && decide (t.1 = .endExpression))))
  | [], s, _ => trivial
  | t :: ts, s, hs => by
    simp only [addTerms]
    by_cases hskip : last = some t ∧ t.1 = .endExpression
    · have hc : last = some t ∧ t.1 = .endExpression ∧ s.instrs.size > start := ⟨hskip.1, hskip.2, hs⟩
      rw [if_pos hc]
      have : (!(decide (last = some t) && decide (t.1 = .endExpression))) = false := by simp [hskip.1, hskip.2]
      rw [List.filter_cons_of_neg (by simp [this])]
      exact addTerms_spec start last ts s hs
    · have hc : ¬ (last = some t ∧ t.1 = .endExpression ∧ s.instrs.size > start) := fun h => hskip ⟨h.1, h.2.1⟩
      rw [if_neg hc]
      have : (!(decide (last = some t) && decide (t.1 = .endExpression))) = true := by
        simp only [Bool.not_eq_true', Bool.and_eq_false_iff, decide_eq_false_iff_not]
        by_cases h1 : last = some t
        · exact .inr (fun h2 => hskip ⟨h1, h2⟩)
        · exact .inl h1
      rw [List.filter_cons_of_pos
        (p := fun t => !(decide (last = some t) && decide (t.1 = .endExpression))) (l := ts) (a := t) this]
      have ih := addTerms_spec start last ts (s.push t.1 t.2) (by simp; omega)
      refine ⟨?_, by simpa using ih⟩
      have p := addTerms_pre start last ts (s.push t.1 t.2)
      rw [p.instrs s.instrs.size (by simp)]
      simp [LState.push]

theorem ArrAt.instrsAt {a : Array Instr} {P : Prog F} : ∀ {l : List Instr} {pc : Nat}, ArrAt a pc l →
    (∀ i, i < a.size → P.instrs[i]? = a[i]?) → InstrsAt P pc l
  | [], _, _, _ => trivial
  | t :: ts, pc, h, hp => by
    refine ⟨?_, ArrAt.instrsAt h.2 hp⟩
    rw [hp pc (Array.getElem?_eq_some_iff.mp h.1).1]
    exact h.1

/-- the state after the main line of the root (nothing is emitted for a nested id without a body) -/
def bodyState (bodies : List (Nat × Expr F)) (r : Root F) (s1 : LState F) : LState F :=
  match rootBody bodies r with
  | some b => emit r.patch r.containing b s1
  | none => s1

theorem layoutRoot_eq (bodies : List (Nat × Expr F)) (r : Root F) (s : LState F) :
    layoutRoot bodies r s =
      let s1 : LState F := { s with jumps := s.jumps.setIfInBounds r.patch s.instrs.size, done := r :: s.done,
                                     dep := s.pendDep.headD 0, pendDep := s.pendDep.tail }
      let s2 := bodyState bodies r s1
      addTerms s1.instrs.size s2.instrs.back? r.term s2 := by
  simp only [layoutRoot, rootBody, bodyState]
  cases r.kind with
  | code e => rfl
  | ref id => cases lookupBody bodies id <;> rfl

/-- what the loop maintains about the pending roots -/
structure Inv (s : LState F) : Prop where
  pend : PendOK s
  cont : ∀ r ∈ s.pending, r.containing < s.jumps.size
  ref : ∀ r ∈ s.pending, RefOK r

theorem Inv.of_pre {s t : LState F} (h : Inv s) (p : Pre s t) : Inv t where
  pend := h.pend.of_pre p
  cont r hr := by
    rcases p.pend r hr with h' | ⟨_, _, h3, _⟩
    · have := h.cont r h'; have := p.jsize; omega
    · exact h3
  ref r hr := by
    rcases p.pend r hr with h' | ⟨_, _, _, h4⟩
    · exact h.ref r h'
    · exact h4

theorem startState_inv (P0 : Prog F) : Inv (startState P0) := by
  refine ⟨fun r hr => ?_, fun r hr => ?_, fun r hr => ?_⟩ <;>
    simp only [startState, List.mem_singleton] at hr <;> subst hr
  · simp [startState]
  · simp [startState]
  · intro id _; exact ⟨rfl, rfl⟩

section loop
variable (bodies : List (Nat × Expr F))

/-- one step of the layout loop taken apart: `s1` is `s` with the root `r` taken up — its jump entry patched with the
address at which it is laid out, `r` done, its start depth current; `s2` is `s1` after the main line of `r`; the step ends
with the terminators of `r` added to `s2` (`layoutRoot_anatomy`) -/
structure LayoutStep (s : LState F) (r : Root F) (rest : List (Root F)) (s1 s2 : LState F) : Prop where
  instrs : s1.instrs = s.instrs
  consts : s1.consts = s.consts
  jumps : s1.jumps = s.jumps.setIfInBounds r.patch s.instrs.size
  pending : s1.pending = rest
  done : s1.done = r :: s.done
  depths : s1.depths = s.depths
  dep : s1.dep = s.pendDep.headD 0
  pendDep : s1.pendDep = s.pendDep.tail
  cont : r.containing < s1.jumps.size
  body : s2 = bodyState bodies r s1
  pre : Pre s1 s2

theorem layoutRoot_anatomy {s : LState F} {r : Root F} {rest : List (Root F)} (hc : r.containing < s.jumps.size) :
    ∃ s1 s2, LayoutStep bodies s r rest s1 s2 ∧
      layoutRoot bodies r { s with pending := rest } = addTerms s.instrs.size s2.instrs.back? r.term s2 := by
  let s1 : LState F := { s with pending := rest, jumps := s.jumps.setIfInBounds r.patch s.instrs.size, done := r :: s.done,
                                dep := s.pendDep.headD 0, pendDep := s.pendDep.tail }
  have hc1 : r.containing < s1.jumps.size := by simpa [s1] using hc
  refine ⟨s1, bodyState bodies r s1, ⟨rfl, rfl, rfl, rfl, rfl, rfl, rfl, rfl, hc1, rfl, ?_⟩, layoutRoot_eq bodies r _⟩
  simp only [bodyState]
  cases rootBody bodies r with
  | none => exact .refl _
  | some b => exact (emit_pre r.patch r.containing b s1 hc1).1

variable {bodies}
variable {s s1 s2 : LState F} {r : Root F} {rest : List (Root F)}

theorem LayoutStep.jsize (st : LayoutStep bodies s r rest s1 s2) : s1.jumps.size = s.jumps.size := by rw [st.jumps]; simp

theorem LayoutStep.inv (st : LayoutStep bodies s r rest s1 s2) (inv : Inv s) (hp : s.pending = r :: rest) : Inv s1 := by
  have hrest : ∀ q ∈ s1.pending, q ∈ s.pending := fun q hq => by rw [hp]; rw [st.pending] at hq; exact List.mem_cons_of_mem _ hq
  exact ⟨fun q hq => by rw [st.jsize]; exact inv.pend q (hrest q hq), fun q hq => by rw [st.jsize]; exact inv.cont q (hrest q hq),
    fun q hq => inv.ref q (hrest q hq)⟩

theorem LayoutStep.popEv (st : LayoutStep bodies s r rest s1 s2) (hp : s.pending = r :: rest) : Ev s s1 where
  instrs i _ := by rw [st.instrs]
  isize := by rw [st.instrs]; exact Nat.le_refl _
  consts i _ := by rw [st.consts]
  csize := by rw [st.consts]; exact Nat.le_refl _
  jumps i _ hn := by rw [st.jumps, Array.getElem?_setIfInBounds_ne (hn r (by rw [hp]; exact List.mem_cons_self))]
  jsize := by rw [st.jsize]; exact Nat.le_refl _
  pend q hq := .inl (by rw [hp]; rw [st.pending] at hq; exact List.mem_cons_of_mem _ hq)

theorem LayoutStep.pre' (st : LayoutStep bodies s r rest s1 s2) : Pre s1 (addTerms s.instrs.size s2.instrs.back? r.term s2) :=
  st.pre.trans (addTerms_pre _ _ _ _)

variable (bodies)

theorem layoutRoot_ev {s : LState F} {r : Root F} {rest : List (Root F)} (inv : Inv s) (hp : s.pending = r :: rest) :
    Ev s (layoutRoot bodies r { s with pending := rest }) := by
  obtain ⟨s1, s2, st, he⟩ := layoutRoot_anatomy bodies (rest := rest) (inv.cont r (by rw [hp]; exact List.mem_cons_self))
  rw [he]
  exact (st.popEv hp).trans st.pre'.toEv

/-- layout facts of one step that do not look at the final state, for the inductions over the loop -/
theorem layoutRoot_facts {s : LState F} {r : Root F} {rest : List (Root F)} (inv : Inv s) (hp : s.pending = r :: rest) :
    let s' := layoutRoot bodies r { s with pending := rest }
    Inv s' ∧ s'.jumps[r.patch]? = some s.instrs.size ∧ s.jumps.size ≤ s'.jumps.size ∧
    (∀ q ∈ s'.pending, q ∈ rest ∨ s.jumps.size ≤ q.patch) ∧ s'.done = r :: s.done ∧ (∀ q ∈ rest, q ∈ s'.pending) ∧
    (∀ i, i < s.instrs.size → s'.instrs[i]? = s.instrs[i]?) ∧ s.instrs.size ≤ s'.instrs.size := by
  have hr_mem : r ∈ s.pending := by rw [hp]; exact List.mem_cons_self
  have hrp : r.patch < s.jumps.size := inv.pend r hr_mem
  obtain ⟨s1, s2, st, he⟩ := layoutRoot_anatomy bodies (rest := rest) (inv.cont r hr_mem)
  simp only
  rw [he]
  have p := st.pre'
  have j1 := st.jsize
  refine ⟨(st.inv inv hp).of_pre p, ?_, ?_, ?_, ?_, ?_, ?_, ?_⟩
  · rw [p.jumps r.patch (by omega), st.jumps]
    simp [hrp]
  · have := p.jsize; omega
  · intro q hq
    rcases p.pend q hq with h | ⟨h, _⟩
    · rw [st.pending] at h; exact .inl h
    · exact .inr (by omega)
  · rw [p.done, st.done]
  · intro q hq; exact p.keep q (by rw [st.pending]; exact hq)
  · intro i hi; rw [p.instrs i (by rw [st.instrs]; exact hi), st.instrs]
  · have := p.isize; rw [st.instrs] at this; exact this

theorem layoutRoots_nil {bodies : List (Nat × Expr F)} (fc : Nat) {s : LState F} (h : s.pending = []) :
    layoutRoots bodies fc s = s := by
  cases fc <;> simp [layoutRoots, h]

theorem layoutRoots_step (fuel : Nat) {s : LState F} {r : Root F} {rest : List (Root F)} (h : s.pending = r :: rest) :
    layoutRoots bodies (fuel + 1) s = layoutRoots bodies fuel (layoutRoot bodies r { s with pending := rest }) := by
  rw [layoutRoots, h]

theorem layoutRoots_rule {I : LState F → Prop}
    (step : ∀ {s : LState F} {r : Root F} {rest : List (Root F)}, Inv s → I s → s.pending = r :: rest →
      I (layoutRoot bodies r { s with pending := rest })) :
    ∀ (fuel : Nat) (s : LState F), Inv s → I s → I (layoutRoots bodies fuel s)
  | 0, _, _, h => h
  | fuel + 1, s, inv, h => by
    cases hp : s.pending with
    | nil => rw [layoutRoots_nil _ hp]; exact h
    | cons r rest =>
      rw [layoutRoots_step bodies fuel hp]
      exact layoutRoots_rule step fuel _ (layoutRoot_facts bodies inv hp).1 (step inv h hp)

theorem layoutRoots_ev (fuel : Nat) (s : LState F) (inv : Inv s) : Ev s (layoutRoots bodies fuel s) :=
  layoutRoots_rule bodies (I := Ev s) (fun inv' h hp => h.trans (layoutRoot_ev bodies inv' hp)) fuel s inv (.refl s)

/-- the conclusion of `layoutRoots_located` for the run of the loop that starts in `s` and ends in `Fs` -/
def LayoutOK (s Fs : LState F) : Prop :=
  Ev s Fs ∧ (∀ r ∈ s.pending, RootLocated bodies Fs.toProg r ∧ RefOK r) ∧
  (∀ r ∈ Fs.done, r ∈ s.done ∨ (RootLocated bodies Fs.toProg r ∧ RefOK r)) ∧
  ∃ l, Fs.done = l ++ s.done ∧ ∀ r ∈ s.pending, r ∈ l

theorem layoutRoots_located : ∀ (fuel : Nat) (s : LState F), Inv s →
    (layoutRoots bodies fuel s).pending = [] →
    (∀ r ∈ (layoutRoots bodies fuel s).done, LabelOK r) →
    ((layoutRoots bodies fuel s).done.map (·.patch)).Nodup →
    LayoutOK bodies s (layoutRoots bodies fuel s)
  | 0, s, _, hc, _, _ => by
    simp only [layoutRoots] at hc ⊢
    exact ⟨.refl s, by simp [hc], fun r hr => .inl hr, [], rfl, by simp [hc]⟩
  | fuel + 1, s, inv, hc, hlab, hnd => by
    cases hp : s.pending with
    | nil =>
      simp only [layoutRoots, hp] at hc ⊢
      exact ⟨.refl s, by simp [hp], fun r hr => .inl hr, [], rfl, by simp [hp]⟩
    | cons r rest =>
      simp only [layoutRoots, hp] at hc hlab hnd ⊢
      have hr_mem : r ∈ s.pending := by rw [hp]; exact List.mem_cons_self
      have hrp : r.patch < s.jumps.size := inv.pend r hr_mem
      obtain ⟨s1, s2, st, he⟩ := layoutRoot_anatomy bodies (rest := rest) (inv.cont r hr_mem)
      rw [he] at hc hlab hnd ⊢
      have inv1 := st.inv inv hp
      have j1 := st.jsize
      have p2' := addTerms_pre s.instrs.size s2.instrs.back? r.term s2
      have evs : Ev s (addTerms s.instrs.size s2.instrs.back? r.term s2) := (st.popEv hp).trans st.pre'.toEv
      generalize hs' : addTerms s.instrs.size s2.instrs.back? r.term s2 = s' at *
      have p1' : Pre s1 s' := st.pre.trans p2'
      have inv' : Inv s' := inv1.of_pre p1'
      obtain ⟨ev', hloc', hdone', l', hl', hmem'⟩ := layoutRoots_located fuel s' inv' hc hlab hnd
      generalize hFs : layoutRoots bodies fuel s' = Fs at *
      have j1' := p1'.jsize
      have hdist : ∀ q ∈ s'.pending, q.patch ≠ r.patch := by
        intro q hq heq
        have hq' := hmem' q hq
        rw [hl', p1'.done, st.done, List.map_append, List.nodup_append] at hnd
        exact hnd.2.2 q.patch (List.mem_map.2 ⟨q, hq', rfl⟩) r.patch (by simp) heq
      have hr_done : r ∈ Fs.done := by rw [hl', p1'.done, st.done]; simp
      have hr_loc : RootLocated bodies Fs.toProg r := by
        refine ⟨hlab r hr_done, fun b hb => ?_⟩
        have hs2b : s2 = emit r.patch r.containing b s1 := by rw [st.body]; simp only [bodyState, hb]
        obtain ⟨_, z2⟩ := emit_pre r.patch r.containing b s1 st.cont
        rw [← hs2b] at z2
        have hpos := len_pos b
        refine ⟨s.instrs.size, ?_, ?_, ?_⟩
        · rw [toProg_jumps, ev'.jumps r.patch (by omega) hdist, p1'.jumps r.patch (by omega), st.jumps]
          simp [hrp]
        · have hw : Within s1.jumps.size (emit r.patch r.containing b s1) s' [] := by
            rw [← hs2b]; exact p2'.within _
          have := emit_located (bodies := bodies) (sF := Fs) b s1 s' st.cont inv1.pend hw ev'
            (fun q hq _ => (hloc' q hq).1)
          rw [st.instrs] at this
          exact this
        · have hspec := addTerms_spec s.instrs.size s2.instrs.back? r.term s2 (by rw [st.instrs] at z2; omega)
          rw [hs'] at hspec
          have hia := hspec.instrsAt (P := Fs.toProg) (fun i hi => ev'.instrs i hi)
          rw [z2, st.instrs] at hia
          have hlast : Fs.toProg.instrs[s.instrs.size + len b - 1]? = s2.instrs.back? := by
            rw [toProg_instrs, ev'.instrs _ (by have := p2'.isize; rw [st.instrs] at z2; omega),
              p2'.instrs _ (by rw [st.instrs] at z2; omega), Array.back?_eq_getElem?, z2, st.instrs]
          simp only [termsAfter, hlast]
          exact hia
      refine ⟨evs.trans ev', fun q hq => ?_, fun q hq => ?_, l' ++ [r], ?_, fun q hq => ?_⟩
      · rw [hp] at hq
        simp only [List.mem_cons] at hq
        rcases hq with rfl | hq
        · exact ⟨hr_loc, inv.ref _ hr_mem⟩
        · exact hloc' q (p1'.keep q (by rw [st.pending]; exact hq))
      · rcases hdone' q hq with h | h
        · rw [p1'.done, st.done, List.mem_cons] at h
          rcases h with rfl | h
          · exact .inr ⟨hr_loc, inv.ref _ hr_mem⟩
          · exact .inl h
        · exact .inr h
      · rw [hl', p1'.done, st.done]; simp
      · rw [hp] at hq
        simp only [List.mem_cons] at hq
        rcases hq with rfl | hq
        · simp
        · exact List.mem_append.2 (.inl (hmem' q (p1'.keep q (by rw [st.pending]; exact hq))))

end loop

end Garnish.Abs
