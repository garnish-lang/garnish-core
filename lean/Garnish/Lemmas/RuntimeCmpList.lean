/-
Refinement lemmas for comparison.rs: the index loop of `cmp_list` computes Abs/Ops `cmpTail` /
`cmpListFrom` (for integer start indexes inside the item getter's contract), with a sufficient fuel.
-/
import Garnish.Lemmas.RuntimeBase
import Garnish.Lemmas.Num
import Garnish.Lemmas.Ops
import Garnish.Model.Runtime.Comparison
import Garnish.Model.Runtime.CompareSpec
namespace Garnish.Lemmas.Runtime
open Garnish Gen Garnish.Abs Garnish.Model.Equality Garnish.Model.Runtime

variable {F σ : Type} {S : RStore F σ} (fo : FloatOps F)

theorem increment_nat (i : Nat) (h : (i : Int) + 1 ≤ 2147483647) :
    Number.increment fo (.int (i : Int)) = some (.int ((i + 1 : Nat) : Int)) :=
  Lemmas.increment_of_inRange fo (by unfold InRange; omega)

theorem numLt_int (x y : Int) : Model.Runtime.numLt fo (.int x) (.int y) = decide (x < y) := by
  rcases Lemmas.partialCmp_int_cases fo x y with ⟨h, e⟩ | ⟨h, e⟩ | ⟨h, e⟩ <;> simp [Model.Runtime.numLt, e] <;> omega

theorem compare_cast (n m : Nat) : compare (n : Int) (m : Int) = compare n m := by
  rcases Nat.lt_trichotomy n m with h | h | h
  · rw [Nat.compare_eq_lt.mpr h, Int.compare_eq_lt]; omega
  · subst h; simp
  · rw [Nat.compare_eq_gt.mpr h, Int.compare_eq_gt]; omega

theorem cmpListLoop_spec (getFunc : σ → Nat → Number F → Outcome (Option Nat)) (left right : Nat) (s0 : σ)
    (a b : List Nat) (ha : a.length ≤ 2147483647) (hb : b.length ≤ 2147483647)
    (hgl : ∀ i, i < a.length → getFunc s0 left (.int i) = .ok a[i]?)
    (hgr : ∀ i, i < b.length → getFunc s0 right (.int i) = .ok b[i]?) :
    ∀ (fuel i j : Nat), min (a.length - i) (b.length - j) + 1 ≤ fuel →
      cmpListLoop fo getFunc left right (.int a.length) (.int b.length) fuel (.int i) (.int j) s0
        = .ok (some (cmpTail (a.drop i) (b.drop j) a.length b.length), s0) := by
  intro fuel
  induction fuel with
  | zero => intro i j h; omega
  | succ fuel ih =>
    intro i j hf
    rw [cmpListLoop]
    simp only [numLt_int]
    by_cases hc : i < a.length ∧ j < b.length
    · have h1 : ((i : Int) < (a.length : Int)) := by omega
      have h2 : ((j : Int) < (b.length : Int)) := by omega
      simp only [h1, h2, decide_true, Bool.and_self, if_true]
      obtain ⟨x, ea, gx⟩ : ∃ x, a.drop i = x :: a.drop (i + 1) ∧ a[i]? = some x :=
        ⟨_, List.drop_eq_getElem_cons hc.1, List.getElem?_eq_getElem hc.1⟩
      obtain ⟨y, eb, gy⟩ : ∃ y, b.drop j = y :: b.drop (j + 1) ∧ b[j]? = some y :=
        ⟨_, List.drop_eq_getElem_cons hc.2, List.getElem?_eq_getElem hc.2⟩
      rw [ea, eb, cmpTail]
      have gl := readR_ok (g := fun s => getFunc s left (Number.int (i : Int))) (hgl i hc.1)
      have gr := readR_ok (g := fun s => getFunc s right (Number.int (j : Int))) (hgr j hc.2)
      rw [bind_ok gl, bind_ok gr, gx, gy]
      simp only [optCmp]
      rcases Nat.lt_trichotomy x y with h | h | h
      · rw [Nat.compare_eq_lt.mpr h]; simp [h]
      · have hcmp : compare x y = .eq := Nat.compare_eq_eq.mpr h
        have n1 : ¬ x < y := by omega
        have n2 : ¬ x > y := by omega
        rw [hcmp]
        simp only [n1, n2, if_false]
        have i1 := increment_nat fo i (by omega)
        have i2 := increment_nat fo j (by omega)
        rw [i1, bind_ok (orNumErr_some _ s0), i2, bind_ok (orNumErr_some _ s0)]
        exact ih (i + 1) (j + 1) (by omega)
      · rw [Nat.compare_eq_gt.mpr h]
        have : ¬ x < y := by omega
        simp [this, h]
    · have hcc : ¬ (decide ((i : Int) < (a.length : Int)) && decide ((j : Int) < (b.length : Int))) = true := by
        simp only [Bool.and_eq_true, decide_eq_true_eq]
        intro ⟨x, y⟩; exact hc ⟨by omega, by omega⟩
      simp only [hcc]
      have : cmpTail (a.drop i) (b.drop j) a.length b.length = compare a.length b.length := by
        by_cases h1 : i < a.length
        · have h2 : ¬ j < b.length := fun h => hc ⟨h1, h⟩
          rw [List.drop_eq_nil_of_le (Nat.le_of_not_lt h2)]
          cases a.drop i <;> simp [cmpTail]
        · rw [List.drop_eq_nil_of_le (Nat.le_of_not_lt h1)]
          simp [cmpTail]
      rw [this]
      simp [Number.partialCmp, compare_cast]

theorem cmpList_spec (getFunc : σ → Nat → Number F → Outcome (Option Nat)) (lenFunc : σ → Nat → Outcome Nat)
    (seq : Nat → Option (List Nat)) (s0 : σ) (hI : Indexes (lenFunc s0) (getFunc s0) seq)
    (left right : Nat) (a b : List Nat) (hsa : seq left = some a) (hsb : seq right = some b)
    (ha : a.length ≤ 2147483647) (hb : b.length ≤ 2147483647) (i j fuel : Nat)
    (hf : min a.length b.length + 1 ≤ fuel) :
    Model.Runtime.cmpList fo fuel left right (.int i) (.int j) getFunc lenFunc s0 = .ok (some (cmpListFrom a b i j), s0) := by
  obtain ⟨hl1, hg1⟩ := hI left a hsa
  obtain ⟨hl2, hg2⟩ := hI right b hsb
  have w1 : (sizeToNumber a.length : Number F) = .int a.length := by
    simp only [sizeToNumber]; rw [Lemmas.wrap_of_inRange (by unfold InRange; omega)]
  have w2 : (sizeToNumber b.length : Number F) = .int b.length := by
    simp only [sizeToNumber]; rw [Lemmas.wrap_of_inRange (by unfold InRange; omega)]
  rw [Model.Runtime.cmpList, bind_ok (readR_ok (g := fun s => lenFunc s left) hl1),
    bind_ok (readR_ok (g := fun s => lenFunc s right) hl2)]
  simp only [w1, w2]
  exact cmpListLoop_spec fo getFunc left right s0 a b ha hb hg1 hg2 fuel i j (by omega)

end Garnish.Lemmas.Runtime
