/-
`dispatch_shadow` for `AccessLengthInternal`: congruence of the fuel-recursive concatenation iteration under `shadow`.
-/
import Garnish.Lemmas.RuntimeOnL1
namespace Garnish.Lemmas.Runtime.OnL
open Garnish Gen Garnish.Abs Garnish.Model.Equality Garnish.Model.Runtime Garnish.Lemmas.Runtime
open Garnish.Props.RuntimeRefine Garnish.Lemmas.Runtime.On

variable {F σ : Type} {S : RStore F σ} (fo : FloatOps F)
variable (X : Nat → Nat → RM σ Nat) (Y : Nat → RM σ Nat)

theorem iterListLoop_shadow {α : Type} (checkFn : α → Number F → Nat → RM σ (Option Nat × α)) (r index : Nat) :
    ∀ rem : Nat, iterListLoop fo (shadow S X Y) checkFn r index rem = iterListLoop fo S checkFn r index rem
  | 0 => rfl
  | rem + 1 => by
    funext i acc
    unfold iterListLoop
    rw [iterListLoop_shadow checkFn r index rem]

theorem iterLoop_shadow {α : Type} (rev : Bool) (checkFn : α → Number F → Nat → RM σ (Option Nat × α)) (sr : Nat) :
    ∀ fuel : Nat, iterLoop fo (shadow S X Y) rev checkFn sr fuel = iterLoop fo S rev checkFn sr fuel
  | 0 => rfl
  | fuel + 1 => by
    funext index acc
    unfold iterLoop
    rw [iterLoop_shadow rev checkFn sr fuel]
    simp only [iterListLoop_shadow]
    rfl

theorem clearBorrowed_shadow (sr : Nat) : ∀ fuel : Nat, clearBorrowed (shadow S X Y) sr fuel = clearBorrowed S sr fuel
  | 0 => rfl
  | fuel + 1 => by
    unfold clearBorrowed
    rw [clearBorrowed_shadow sr fuel]
    rfl

theorem iterateConcatenation_shadow {α : Type} (rev : Bool) (fuel addr : Nat)
    (checkFn : α → Number F → Nat → RM σ (Option Nat × α)) (acc : α) :
    iterateConcatenation fo (shadow S X Y) rev fuel addr checkFn acc = iterateConcatenation fo S rev fuel addr checkFn acc := by
  unfold iterateConcatenation
  simp only [iterLoop_shadow, clearBorrowed_shadow]
  rfl

theorem accessLengthInternalH_shadow (fuel : Nat) :
    accessLengthInternalH fo (shadow S X Y) fuel = accessLengthInternalH fo S fuel := by
  unfold accessLengthInternalH concatenationLen
  simp only [iterateConcatenation_shadow]
  rfl

theorem ds_accessLengthInternal (fuel : Nat) (cast : RM σ (Option Nat)) (operand : Option Nat) :
    dispatch fo (shadow S X Y) fuel (fullHandlers fo (shadow S X Y) fuel cast) .accessLengthInternal operand =
      dispatch fo S fuel (fullHandlers fo S fuel cast) .accessLengthInternal operand :=
  accessLengthInternalH_shadow fo X Y fuel

end Garnish.Lemmas.Runtime.OnL
