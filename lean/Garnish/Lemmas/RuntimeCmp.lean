/-
Refinement lemmas for comparison.rs: `get_range`, the Slice/Slice arm, the whole type-pair `match` of
`perform_comparison` against the code-faithful value-level comparison `compareValsR`, and the comparison handlers. Of the
contract the match uses only the getters' clauses. The statements are over `LawsK` (namespace `Core`) only; they are read
off for `StoreLaws` in Props/RuntimeRefineCompare.lean and for `StoreLawsOn` in Lemmas/RuntimeOnHandlers.lean, which state
them with `cmpFuel`.
-/
import Garnish.Lemmas.RuntimeCmpList
import Garnish.Lemmas.RuntimeArith
namespace Garnish.Lemmas.Runtime
open Garnish Gen Garnish.Abs Garnish.Model.Equality Garnish.Model.Runtime

variable {F σ : Type} {S : RStore F σ} (fo : FloatOps F)

theorem getRangeRaw_of {s : σ} {a x y : Nat} (h : (S.view s).range a = some (x, y)) :
    getRangeRaw S a s = .ok ((x, y), s) := by
  simp [getRangeRaw, RM.lift, h, fetch, Outcome.ofOption, Outcome.bind]

theorem getRangeRaw_none {s : σ} {a : Nat} (h : (S.view s).range a = none) :
    getRangeRaw S a s = .err .data := by
  simp [getRangeRaw, RM.lift, h, fetch, Outcome.ofOption, Outcome.bind]

theorem rangeLen_rm (s e : Number F) (s0 : σ) :
    (Model.Runtime.rangeLen fo s e : RM σ (Number F)) s0 = match Abs.rangeLen fo s e with
      | some len => .ok (len, s0)
      | none => .err .number := by
  simp only [Model.Runtime.rangeLen, Abs.rangeLen]
  cases h1 : Number.subtract fo e s with
  | none => rfl
  | some d =>
    rw [bind_ok (orNumErr_some d s0)]
    simp only []
    cases h2 : Number.increment fo d <;> rfl

theorem getSlice_of {s : σ} {a x y : Nat} (h : (S.view s).slice a = some (x, y)) :
    getSlice S a s = .ok ((x, y), s) := by
  simp [getSlice, RM.lift, h, fetch, Outcome.ofOption, Outcome.bind]

theorem getChar_of {s : σ} {a c : Nat} (h : Decodes (S.view s) a (.char c)) : getChar S a s = .ok (c, s) := by
  cases h with
  | char _ hn => simp [getChar, RM.lift, hn, fetch, Outcome.ofOption, Outcome.bind]

theorem getByte_of {s : σ} {a c : Nat} (h : Decodes (S.view s) a (.byte c)) : getByte S a s = .ok (c, s) := by
  cases h with
  | byte _ hn => simp [getByte, RM.lift, hn, fetch, Outcome.ofOption, Outcome.bind]

theorem chars_of {s : σ} {a : Nat} {cs : List Nat} (h : Decodes (S.view s) a (.chars cs)) :
    (S.view s).chars a = some cs := by cases h; assumption

theorem bytes_of {s : σ} {a : Nat} {cs : List Nat} (h : Decodes (S.view s) a (.bytes cs)) :
    (S.view s).bytes a = some cs := by cases h; assumption

theorem rangeStartR_state {vs ve : Val F} (hn : ¬ (vs.typeOf = .number ∧ ve.typeOf = .number)) :
    rangeStartR fo (.range vs ve) = .error .state := by
  unfold rangeStartR
  split
  · rename_i h; cases h; exact absurd ⟨rfl, rfl⟩ hn
  · rfl
  · rename_i h; exact (h _ _ rfl).elim

theorem getRange_num {s0 : σ} {ra : Nat} {x y : Number F}
    (h : Decodes (S.view s0) ra (.range (.num x) (.num y))) :
    getRange fo S ra s0 = match Abs.rangeLen fo x y with
      | some len => .ok ((x, y, len), s0)
      | none => .err .number := by
  cases h with
  | range _ hrange ds de =>
    rw [getRange, bind_ok (getRangeRaw_of hrange)]
    simp only []
    rw [bind_ok (getDataType_of ds), bind_ok (getDataType_of de)]
    simp only [Val.typeOf]
    rw [bind_ok (getNumber_of ds), bind_ok (getNumber_of de), bind_apply, rangeLen_rm]
    cases Abs.rangeLen fo x y <;> rfl

theorem getRange_nonnum {s0 : σ} {ra : Nat} {a b : Val F} (h : Decodes (S.view s0) ra (.range a b))
    (hn : ¬ (a.typeOf = .number ∧ b.typeOf = .number)) : getRange fo S ra s0 = .err .state := by
  cases h with
  | range _ hrange ds de =>
    rw [getRange, bind_ok (getRangeRaw_of hrange)]
    simp only []
    rw [bind_ok (getDataType_of ds), bind_ok (getDataType_of de)]
    generalize a.typeOf = t1 at hn ⊢
    generalize b.typeOf = t2 at hn ⊢
    cases t1
    case number =>
      cases t2
      case number => exact absurd ⟨rfl, rfl⟩ hn
      all_goals rfl
    all_goals rfl

theorem getRange_nonrange (hrt : ∀ s a p, (S.view s).range a = some p → (S.view s).typeOf a = some .range)
    {s0 : σ} {ra : Nat} {v : Val F} (h : Decodes (S.view s0) ra v) (hr : v.typeOf ≠ .range) :
    getRange fo S ra s0 = .err .data := by
  have : (S.view s0).range ra = none := by
    cases hx : (S.view s0).range ra with
    | none => rfl
    | some p =>
      have := hrt s0 ra p hx
      rw [EqualityRefine.decodes_typeOf h] at this
      exact absurd (Option.some.inj this) hr
  rw [getRange, bind_err (getRangeRaw_none this)]

namespace Core
open On

variable {Inv : σ → Prop} {Rd : σ → Nat → Prop} {K : Prop}

theorem getRange_spec (L : LawsK S Inv Rd K) {s0 : σ} {ra : Nat} {vr : Val F} (h : Decodes (S.view s0) ra vr) :
    match rangeStartR fo vr with
    | .ok s1 => ∃ e len, getRange fo S ra s0 = .ok ((s1, e, len), s0)
    | .error e => getRange fo S ra s0 = .err e := by
  by_cases hr : vr.typeOf = .range
  · obtain ⟨a, b, rfl⟩ := typeOf_inv_range hr
    by_cases hn : a.typeOf = .number ∧ b.typeOf = .number
    · obtain ⟨x, rfl⟩ := typeOf_number hn.1
      obtain ⟨y, rfl⟩ := typeOf_number hn.2
      rw [getRange_num fo h]
      simp only [rangeStartR]
      cases Abs.rangeLen fo x y with
      | none => rfl
      | some len => exact ⟨y, len, rfl⟩
    · rw [rangeStartR_state fo hn]; exact getRange_nonnum fo h hn
  · rw [show rangeStartR fo vr = .error .data by
      unfold rangeStartR; split <;> first | exact absurd rfl hr | rfl]
    exact getRange_nonrange fo L.rangeTyped h hr

/-- the shared body of the two text arms of the Slice/Slice `match` -/
theorem sliceGo_spec (L : LawsK S Inv Rd K) (s0 : σ) (fuel : Nat) (falseOrd : Ordering)
    (getFunc : σ → Nat → Number F → Outcome (Option Nat)) (lenFunc : σ → Nat → Outcome Nat)
    (seq : Nat → Option (List Nat)) (hI : Indexes (lenFunc s0) (getFunc s0) seq)
    {lva lra rva rra : Nat} {a b : List Nat} {lr rr : Val F}
    (hsa : seq lva = some a) (hsb : seq rva = some b)
    (dlr : Decodes (S.view s0) lra lr) (drr : Decodes (S.view s0) rra rr)
    (ha : a.length ≤ 2147483647) (hb : b.length ≤ 2147483647) (hf : min a.length b.length + 1 ≤ fuel) :
    let body : RM σ (Option Ordering) := do
      let (start1, _, _) ← getRange fo S lra
      let (start2, _, _) ← getRange fo S rra
      Model.Runtime.cmpList fo fuel lva rva start1 start2 getFunc lenFunc
    CmpOutcome (sliceGoR fo a b lr rr) falseOrd (body s0) s0 := by
  intro body
  unfold CmpOutcome sliceGoR
  have g1 := getRange_spec fo L dlr
  have g2 := getRange_spec fo L drr
  cases h1 : rangeStartR fo lr with
  | error e => rw [h1] at g1; simp only [] at g1 ⊢; exact bind_err g1
  | ok s1 =>
    rw [h1] at g1
    obtain ⟨e1, len1, g1⟩ := g1
    cases h2 : rangeStartR fo rr with
    | error e =>
      rw [h2] at g2; simp only [] at g2 ⊢
      show (getRange fo S lra >>= _) s0 = _
      rw [bind_ok g1]; exact bind_err g2
    | ok s2 =>
      rw [h2] at g2
      obtain ⟨e2, len2, g2⟩ := g2
      simp only []
      cases s1 with
      | float f => simp [cmpFromR]
      | int i =>
        cases s2 with
        | float f => simp [cmpFromR]
        | int j =>
          by_cases hij : 0 ≤ i ∧ 0 ≤ j
          · simp only [cmpFromR, hij, and_self, if_true, Option.map]
            show (getRange fo S lra >>= _) s0 = _
            rw [bind_ok g1]
            simp only []
            rw [bind_ok g2]
            simp only []
            have ei : i = (i.toNat : Int) := by omega
            have ej : j = (j.toNat : Int) := by omega
            rw [ei, ej]
            simp only [Int.toNat_natCast]
            exact cmpList_spec fo getFunc lenFunc seq s0 hI lva rva a b hsa hsb ha hb _ _ fuel hf
          · simp [cmpFromR, hij]

theorem sliceComparison_spec (L : LawsK S Inv Rd K) (s0 : σ) (fuel : Nat) (falseOrd : Ordering)
    {lva lra rva rra : Nat} {lv lr rv rr : Val F}
    (dlv : Decodes (S.view s0) lva lv) (drv : Decodes (S.view s0) rva rv)
    (dlr : Decodes (S.view s0) lra lr) (drr : Decodes (S.view s0) rra rr)
    (ha : textLen lv ≤ 2147483647) (hb : textLen rv ≤ 2147483647)
    (hf : min (textLen lv) (textLen rv) + 1 ≤ fuel) :
    CmpOutcome (compareSlicesR fo lv lr rv rr) falseOrd
      (sliceComparison fo S fuel falseOrd lva lra rva rra lv.typeOf rv.typeOf s0) s0 := by
  cases lv with
  | bytes a =>
    cases rv with
    | bytes b =>
      exact sliceGo_spec fo L s0 fuel falseOrd S.byteItem S.byteLen _ (L.byteIdx s0) (bytes_of dlv) (bytes_of drv) dlr drr
        ha hb hf
    | _ => rfl
  | chars a =>
    cases rv with
    | chars b =>
      exact sliceGo_spec fo L s0 fuel falseOrd S.charItem S.charLen _ (L.charIdx s0) (chars_of dlv) (chars_of drv) dlr drr
        ha hb hf
    | _ => rfl
  | _ => rfl

theorem comparisonMatch_spec (L : LawsK S Inv Rd K) (s0 : σ) (fuel : Nat) (falseOrd : Ordering)
    {left right : Nat} {vl vr : Val F}
    (hl : Decodes (S.view s0) left vl) (hr : Decodes (S.view s0) right vr)
    (ha : textLen vl ≤ 2147483647) (hb : textLen vr ≤ 2147483647)
    (hf : min (textLen vl) (textLen vr) + 1 ≤ fuel) :
    CmpOutcome (compareValsR fo vl vr) falseOrd
      (comparisonMatch fo S fuel falseOrd left right vl.typeOf vr.typeOf s0) s0 := by
  cases vl with
  | num a =>
    cases vr with
    | num b =>
      show (getNumber S left >>= _) s0 = _
      rw [bind_ok (getNumber_of hl), bind_ok (getNumber_of hr)]
      simp only [compareVals]
      cases Number.partialCmp fo a b <;> rfl
    | _ => rfl
  | char a =>
    cases vr with
    | char b =>
      show (getChar S left >>= _) s0 = _
      rw [bind_ok (getChar_of hl), bind_ok (getChar_of hr)]; rfl
    | _ => rfl
  | byte a =>
    cases vr with
    | byte b =>
      show (getByte S left >>= _) s0 = _
      rw [bind_ok (getByte_of hl), bind_ok (getByte_of hr)]; rfl
    | _ => rfl
  | chars a =>
    cases vr with
    | chars b =>
      show Model.Runtime.cmpList fo fuel left right (.int 0) (.int 0) S.charItem S.charLen s0 = _
      have := cmpList_spec fo S.charItem S.charLen _ s0 (L.charIdx s0) left right a b (chars_of hl) (chars_of hr)
        ha hb 0 0 fuel hf
      simp only [Int.natCast_zero] at this
      rw [this, cmpListFrom_zero]; rfl
    | _ => rfl
  | bytes a =>
    cases vr with
    | bytes b =>
      show Model.Runtime.cmpList fo fuel left right (.int 0) (.int 0) S.byteItem S.byteLen s0 = _
      have := cmpList_spec fo S.byteItem S.byteLen _ s0 (L.byteIdx s0) left right a b (bytes_of hl) (bytes_of hr)
        ha hb 0 0 fuel hf
      simp only [Int.natCast_zero] at this
      rw [this, cmpListFrom_zero]; rfl
    | _ => rfl
  | slice lv lr =>
    cases vr with
    | slice rv rr =>
      cases hl with
      | slice _ hsl dlv dlr =>
        cases hr with
        | slice _ hsr drv drr =>
          have := sliceComparison_spec fo L s0 fuel falseOrd dlv drv dlr drr ha hb hf
          show CmpOutcome (compareSlicesR fo lv lr rv rr) falseOrd ((getSlice S left >>= _) s0) s0
          rw [bind_ok (getSlice_of hsl)]
          simp only []
          rw [bind_ok (getSlice_of hsr)]
          simp only []
          rw [bind_ok (getDataType_of dlv), bind_ok (getDataType_of drv)]
          exact this
    | _ => rfl
  | _ => rfl

/-- `perform_comparison`: both operands popped, nothing else touched, and the `Option<Ordering>` is the one of
the value-level comparison (`foreign` ↦ the caller's `false_ord`, `unordered` ↦ `None`), or its error -/
theorem performComparison_spec (L : LawsK S Inv Rd K) (falseOrd : Ordering)
    {s : σ} {r l : Nat} {vr vl : Val F} {rest : List Nat}
    (hregs : S.regs s = r :: l :: rest) (hl : Decodes (S.view s) l vl) (hr : Decodes (S.view s) r vr)
    (ha : textLen vl ≤ 2147483647) (hb : textLen vr ≤ 2147483647) (fuel : Nat) (hf : min (textLen vl) (textLen vr) + 1 ≤ fuel)
    (hi : Inv s := by inv_tac) (hd : DeepK K S s rest := by deep_tac) :
    match compareValsR fo vl vr with
    | some (.ok c) => PoppedI S Inv s (performComparison fo S fuel falseOrd s) (ordOf falseOrd c) rest
    | some (.error e) => performComparison fo S fuel falseOrd s = .err e
    | none => True := by
  obtain ⟨s0, h0, e0⟩ := nextTwoRawRef_cons L hregs
  have hl0 := e0.dec hl
  have hr0 := e0.dec hr
  have hm := comparisonMatch_spec fo L s0 fuel falseOrd hl0 hr0 ha hb hf
  have hp : performComparison fo S fuel falseOrd s
      = comparisonMatch fo S fuel falseOrd l r vl.typeOf vr.typeOf s0 := by
    rw [performComparison, bind_ok h0]
    simp only []
    rw [bind_ok (getDataType_of hl0), bind_ok (getDataType_of hr0)]
  unfold CmpOutcome at hm
  cases hc : compareValsR fo vl vr with
  | none => trivial
  | some x =>
    rw [hc] at hm
    cases x with
    | ok c => exact ⟨s0, by rw [hp]; exact hm, e0⟩
    | error e => simp only [] at hm ⊢; rw [hp]; exact hm

/-- a comparison handler: `perform_comparison(false_ord)` then `push_boolean(test(result))` / `push_unit`, for a
`test` that rejects `false_ord` -/
theorem comparisonHandler_spec (L : LawsK S Inv Rd K) (test : Ordering → Bool) (falseOrd : Ordering)
    (htest : test falseOrd = false)
    {s : σ} {r l : Nat} {vr vl : Val F} {rest : List Nat}
    (hregs : S.regs s = r :: l :: rest) (hl : Decodes (S.view s) l vl) (hr : Decodes (S.view s) r vr)
    (ha : textLen vl ≤ 2147483647) (hb : textLen vr ≤ 2147483647) (fuel : Nat) (hf : min (textLen vl) (textLen vr) + 1 ≤ fuel)
    (hi : Inv s := by inv_tac) (hd : DeepK K S s rest := by deep_tac) :
    let handler : RM σ (Option Nat) := do pushComparison S test (← performComparison fo S fuel falseOrd)
    match compareValsR fo vl vr with
    | some (.ok c) => PushedI S Inv s (handler s) none rest (cmpValOf test c)
    | some (.error e) => handler s = .err e
    | none => True := by
  intro handler
  have hp := performComparison_spec fo L falseOrd hregs hl hr ha hb fuel hf
  cases hc : compareValsR fo vl vr with
  | none => trivial
  | some x =>
    rw [hc] at hp
    cases x with
    | error e => simp only [] at hp ⊢; exact bind_err hp
    | ok c =>
      simp only [] at hp ⊢
      obtain ⟨s0, h0, e0⟩ := hp
      show PushedI S Inv s ((performComparison fo S fuel falseOrd >>= _) s) none rest _
      rw [bind_ok h0]
      cases c with
      | foreign =>
        obtain ⟨x, s2, h2, d2, e2⟩ := pushBoolean_spec L (test falseOrd) s0
        rw [e0.regs, e0.vals] at e2
        rw [htest] at d2
        exact ⟨x, s2, by simp only [ordOf, pushComparison]; rw [bind_ok h2]; rfl, d2, e0.trans e2⟩
      | unordered =>
        obtain ⟨x, s2, h2, d2, e2⟩ := pushUnit_spec L s0
        rw [e0.regs, e0.vals] at e2
        exact ⟨x, s2, by simp only [ordOf, pushComparison]; rw [bind_ok h2]; rfl, d2, e0.trans e2⟩
      | ord o =>
        obtain ⟨x, s2, h2, d2, e2⟩ := pushBoolean_spec L (test o) s0
        rw [e0.regs, e0.vals] at e2
        exact ⟨x, s2, by simp only [ordOf, pushComparison]; rw [bind_ok h2]; rfl, d2, e0.trans e2⟩

end Core

end Garnish.Lemmas.Runtime
