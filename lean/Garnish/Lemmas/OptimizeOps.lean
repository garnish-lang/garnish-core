/-
`WF` (Lemmas/OptimizeWF.lean) is an invariant of the public operations the OPT / CLONE scripts use to build a store:
`BasicGarnishData::new`, the scalar / pair-like `add_*` (`push_solo_wf`), text and bytes, the three stack pushes and pops,
`retain_all_current_data`, `pop_frame`, `parse_add_symbol` (symbol-name table), `merge_to_symbol_list`
(lists: Lemmas/OptimizeList.lean).  The operations that append cells are described once, for `WF` and `WFq` alike
(`Base`, `Appended`, `AppendedData`: section "Appending cells"); pops, the retention count and the symbol table go
through `withHeads` or field by field.  `merge_to_symbol_list` is `addInline` of the parts of its operands (`SymParts`,
`mergeToSymbolList_eq`).
-/
import Garnish.Lemmas.OptimizeWF
import Garnish.Lemmas.OptimizeInPlace
namespace Garnish.BasicOpt
open Garnish

theorem WF_fresh : WF Store.fresh := by decide

theorem agree_append (A B : Array Cell) : AgreeNC A (A ++ B) := by
  intro i c hc _
  have hi : i < A.size := lt_of_getElem? hc
  rw [Array.getElem?_append_left hi]; exact hc

theorem framePoint_append (A B : Array Cell) {i : Nat} (hi : i < A.size) : framePoint (A ++ B) i = framePoint A i := by
  cases i with
  | zero => rfl
  | succ j => simp only [framePoint]; rw [Array.getElem?_append_left (by omega)]

theorem shape_append_eq (A B : Array Cell) (hh : ∀ i, i < A.size → headerOK A i = true) {i : Nat} (hi : i < A.size) :
    shape (A ++ B) i = shape A i := by
  cases h : shape A i with
  | some sh => exact shape_agree (agree_append A B) h
  | none =>
    have hhd := hh i hi
    unfold shape at h ⊢
    rw [Array.getElem?_append_left hi]
    obtain ⟨d, hd⟩ : ∃ d, A[i]? = some d := ⟨A[i], by simp [hi]⟩
    rw [hd] at h ⊢
    simp only [headerOK, hd, isNode] at hhd
    cases d <;> simp only [] at h ⊢ <;> first
      | (simp at h; done)
      | rfl
      | (rw [framePoint_append A B hi]; exact h)
      | (exfalso
         have : shape A i = none := by unfold shape; rw [hd]; exact h
         rw [this] at hhd; simp at hhd)

theorem isNode_append (A B : Array Cell) (hh : ∀ i, i < A.size → headerOK A i = true) {i : Nat} (hi : i < A.size) :
    isNode (A ++ B) i = isNode A i := by
  simp only [isNode, shape_append_eq A B hh hi]

theorem nodeOK_append (A B : Array Cell) (hh : ∀ i, i < A.size → headerOK A i = true) {i : Nat} (hi : i < A.size) :
    nodeOK (A ++ B) i = nodeOK A i := by
  simp only [nodeOK, shape_append_eq A B hh hi]
  cases shape A i with
  | none => rfl
  | some sh =>
    simp only
    apply List.all_congr rfl
    intro k
    by_cases hk : k < i
    · rw [isNode_append A B hh (by omega)]
    · simp [hk]

theorem extract_append_prefix (A B : Array Cell) {r : Nat} (hr : r ≤ A.size) : (A ++ B).extract 0 r = A.extract 0 r := by
  rw [Array.extract_append, Nat.sub_eq_zero_of_le hr, Nat.zero_sub, Array.extract_zero, Array.append_empty]

/-- the fields of `WF` and of `WFq` that do not read the links of a node, after a block of cells is appended -/
theorem append_fields {s s' : Store} (B : Array Cell) (hh : ∀ i, i < s.cells.size → headerOK s.cells i = true)
    (hle : s.retention ≤ s.cells.size) (hl : ∀ i, i < s.cells.size → listOK s.cells i = true)
    (he : ∀ i, i < s.retention → extentOK s.cells s.retention i = true)
    (hs : ∀ c ∈ s.symtab.toList, symOK s.cells c = true)
    (hcells : s'.cells = s.cells ++ B) (hret : s'.retention = s.retention) (hsym : s'.symtab = s.symtab)
    (hnew : ∀ i, s.cells.size ≤ i → i < s'.cells.size → listOK s'.cells i = true ∧ headerOK s'.cells i = true) :
    s'.retention ≤ s'.cells.size ∧ (∀ i, i < s'.cells.size → listOK s'.cells i = true) ∧
      (∀ i, i < s'.cells.size → headerOK s'.cells i = true) ∧
      (∀ i, i < s'.retention → extentOK s'.cells s'.retention i = true) ∧
      ∀ c ∈ s'.symtab.toList, symOK s'.cells c = true := by
  refine ⟨?_, ?_, ?_, ?_, ?_⟩
  · rw [hret, hcells]; simp; omega
  · intro i hi
    by_cases hold : i < s.cells.size
    · have := hl i hold
      simp only [listOK, hcells, Array.getElem?_append_left hold] at this ⊢
      exact this
    · exact (hnew i (by omega) hi).1
  · intro i hi
    by_cases hold : i < s.cells.size
    · have := hh i hold
      simp only [headerOK, hcells, Array.getElem?_append_left hold, isNode_append _ _ hh hold] at this ⊢
      exact this
    · exact (hnew i (by omega) hi).2
  · intro i hi
    rw [hret] at hi ⊢
    have := he i hi
    simp only [extentOK, decide_eq_true_eq] at this ⊢
    rw [hcells, extract_append_prefix _ _ hle, shape_append_eq _ _ hh (by omega)]
    exact this
  · intro c hc
    rw [hsym] at hc
    have := hs c hc
    cases c <;> simp only [symOK] at this ⊢ <;> try (simp at this; done)
    rw [hcells, isNode_append _ _ hh (node_lt this)]; exact this

theorem append_wf {s s' : Store} (B : Array Cell) (hwf : WF s) (hcells : s'.cells = s.cells ++ B)
    (hret : s'.retention = s.retention) (hsym : s'.symtab = s.symtab)
    (hnew : ∀ i, s.cells.size ≤ i → i < s'.cells.size →
      nodeOK s'.cells i = true ∧ listOK s'.cells i = true ∧ headerOK s'.cells i = true)
    (hreg : headOK s'.cells s'.currentRegister = true) (hval : headOK s'.cells s'.currentValue = true)
    (hfrm : headOK s'.cells s'.currentFrame = true) : WF s' := by
  obtain ⟨f1, f2, f3, f4, f5⟩ := append_fields B hwf.headers hwf.retLe hwf.lists hwf.extent hwf.syms hcells hret hsym
    fun i h1 h2 => (hnew i h1 h2).2
  refine ⟨f1, fun i hi => ?_, f2, f3, f4, hreg, hval, hfrm, f5⟩
  by_cases hold : i < s.cells.size
  · rw [hcells, nodeOK_append _ _ hwf.headers hold]; exact hwf.nodes i hold
  · exact (hnew i (by omega) hi).1

theorem headOK_append {A : Array Cell} (hh : ∀ i, i < A.size → headerOK A i = true) (B : Array Cell) {o : Option Nat}
    (h : headOK A o = true) : headOK (A ++ B) o = true := by
  cases o with
  | none => rfl
  | some a =>
    simp only [headOK] at h ⊢
    rw [isNode_append _ _ hh (node_lt h)]; exact h

theorem kid_node {s : Store} (hwf : WF s) {i : Nat} {sh : Shape} (hsh : shape s.cells i = some sh) {k : Nat}
    (hk : k ∈ sh.kids) : isNode s.cells k = true := by
  have := hwf.nodes i (shape_bound hsh)
  simp only [nodeOK, hsh, List.all_eq_true, Bool.and_eq_true, decide_eq_true_eq] at this
  exact (this k hk).2

/-! ### Appending cells

The operations that build values append cells and leave the old ones alone.  What they need of the store they start
from is the same for `WF` and for `WFq` (Lemmas/MutWF.lean): `Base`.  What they produce is described once, by
`Appended` / `AppendedData`; `WF.appended` and `WFq.appended` turn that into the two invariants. -/

structure Base (s : Store) : Prop where
  headers : ∀ i, i < s.cells.size → headerOK s.cells i = true
  kids : ∀ {i : Nat} {sh : Shape}, shape s.cells i = some sh → ∀ {k : Nat}, k ∈ sh.kids → isNode s.cells k = true
  reg : headOK s.cells s.currentRegister = true
  frm : headOK s.cells s.currentFrame = true

theorem WF.base {s : Store} (hwf : WF s) : Base s :=
  ⟨hwf.headers, fun hsh _ hk => kid_node hwf hsh hk, hwf.reg, hwf.frm⟩

/-- `s'` is `s` with cells appended, each well formed where it stands; the register and frame heads may have moved
to other nodes -/
structure Appended (s s' : Store) : Prop where
  cells : ∃ B, s'.cells = s.cells ++ B
  retention : s'.retention = s.retention
  symtab : s'.symtab = s.symtab
  value : s'.currentValue = s.currentValue
  block : ∀ j, s.cells.size ≤ j → j < s'.cells.size →
    nodeOK s'.cells j = true ∧ listOK s'.cells j = true ∧ headerOK s'.cells j = true
  reg : headOK s'.cells s'.currentRegister = true
  frm : headOK s'.cells s'.currentFrame = true

/-- `Appended`, and none of the new cells is an input-value cell -/
structure AppendedData (s s' : Store) : Prop extends Appended s s' where
  nsv : ∀ j, s.cells.size ≤ j → j < s'.cells.size → svAt s'.cells j = false

theorem Appended.of_frame {s s' : Store} (hb : Base s) {B : Array Cell} (hcells : s'.cells = s.cells ++ B)
    (hf : SameFrame s s')
    (hblock : ∀ j, s.cells.size ≤ j → j < s'.cells.size →
      nodeOK s'.cells j = true ∧ listOK s'.cells j = true ∧ headerOK s'.cells j = true) : Appended s s' :=
  ⟨⟨B, hcells⟩, hf.1, hf.2.2.1, hf.2.2.2.1, hblock,
    by rw [hf.2.2.2.2.1, hcells]; exact headOK_append hb.headers B hb.reg,
    by rw [hf.2.2.2.2.2, hcells]; exact headOK_append hb.headers B hb.frm⟩

theorem AppendedData.withHeads {s s' : Store} (h : AppendedData s s') (r f : Option Nat)
    (hr : headOK s'.cells r = true) (hf : headOK s'.cells f = true) :
    AppendedData s { s' with currentRegister := r, currentFrame := f } :=
  ⟨⟨h.cells, h.retention, h.symtab, h.value, h.block, hr, hf⟩, h.nsv⟩

theorem sideCell_ok {cells : Array Cell} {j : Nat} {c : Cell} (hc : cells[j]? = some c) (h : SideCell c) :
    nodeOK cells j = true ∧ listOK cells j = true ∧ headerOK cells j = true ∧ svAt cells j = false := by
  rcases h with h | h
  · refine ⟨by simp [nodeOK, neverNode_shape hc h], ?_, ?_, ?_⟩ <;>
      (simp only [listOK, headerOK, svAt, hc]; cases c <;> first | rfl | cases h)
  · refine ⟨by simp [nodeOK, shape_of_solo hc h], ?_, ?_, ?_⟩ <;>
      (simp only [listOK, headerOK, svAt, hc]; cases c <;> first | rfl | (simp [isLeafCell, soloShape] at h))

theorem Appended.of_unit {s s' : Store} (hb : Base s) {B : Array Cell} (hcells : s'.cells = s.cells ++ B)
    (hf : SameFrame s s') {a : Nat} {sh : Shape} (hsh : shape s'.cells a = some sh)
    (hkids : ∀ k ∈ sh.kids, k < s.cells.size ∧ isNode s.cells k = true) (hlist : listOK s'.cells a = true)
    (hside : ∀ j, s.cells.size ≤ j → j < s'.cells.size → j ≠ a → ∃ c, s'.cells[j]? = some c ∧ SideCell c) :
    Appended s s' ∧ isNode s'.cells a = true := by
  have hnode : isNode s'.cells a = true := by simp [isNode, hsh]
  refine ⟨Appended.of_frame hb hcells hf fun j hj1 hj2 => ?_, hnode⟩
  by_cases hj : j = a
  · subst hj
    refine ⟨?_, hlist, by unfold headerOK; split <;> first | exact hnode | rfl⟩
    simp only [nodeOK, hsh, List.all_eq_true, Bool.and_eq_true, decide_eq_true_eq]
    intro k hk
    obtain ⟨h1, h2⟩ := hkids k hk
    exact ⟨by omega, by rw [hcells, isNode_append _ _ hb.headers h1]; exact h2⟩
  · obtain ⟨c, hc, hs⟩ := hside j hj1 hj2 hj
    obtain ⟨g1, g2, g3, _⟩ := sideCell_ok hc hs
    exact ⟨g1, g2, g3⟩

theorem AppendedData.of_unit {s s' : Store} (hb : Base s) {B : Array Cell} (hcells : s'.cells = s.cells ++ B)
    (hf : SameFrame s s') {a : Nat} {sh : Shape} (hsh : shape s'.cells a = some sh)
    (hkids : ∀ k ∈ sh.kids, k < s.cells.size ∧ isNode s.cells k = true) (hlist : listOK s'.cells a = true)
    (hns : svAt s'.cells a = false)
    (hside : ∀ j, s.cells.size ≤ j → j < s'.cells.size → j ≠ a → ∃ c, s'.cells[j]? = some c ∧ SideCell c) :
    AppendedData s s' ∧ isNode s'.cells a = true := by
  obtain ⟨ha, hn⟩ := Appended.of_unit hb hcells hf hsh hkids hlist hside
  refine ⟨⟨ha, fun j hj1 hj2 => ?_⟩, hn⟩
  by_cases hj : j = a
  · subst hj; exact hns
  · obtain ⟨c, hc, hs⟩ := hside j hj1 hj2 hj
    exact (sideCell_ok hc hs).2.2.2

theorem WF.appended {s s' : Store} (hwf : WF s) (h : Appended s s') : WF s' := by
  obtain ⟨B, hB⟩ := h.cells
  exact append_wf B hwf hB h.retention h.symtab h.block h.reg
    (by rw [h.value, hB]; exact headOK_append hwf.headers B hwf.val) h.frm

theorem solo_plain {c : Cell} {sh : Shape} (hso : soloShape c = some sh) {cells : Array Cell} {j : Nat}
    (hget : cells[j]? = some c) : listOK cells j = true ∧ headerOK cells j = true := by
  simp only [listOK, headerOK, hget]
  cases c <;> simp only [soloShape] at hso ⊢ <;> first | exact ⟨trivial, trivial⟩ | (simp at hso)

/-- `add_unit` … `add_pair`, `add_range`, `add_slice`, `add_partial`, `add_concatenation`, and the cells pushed by
`push_register` / `push_value_stack` -/
theorem push_solo_appended {s s' : Store} {c : Cell} {i : Nat} {sh : Shape} (hb : Base s) (hso : soloShape c = some sh)
    (hk : ∀ k ∈ sh.kids, k < s.cells.size ∧ isNode s.cells k = true) (hp : s.push c = .ok (s', i)) :
    Appended s s' ∧ i = s.cells.size ∧ isNode s'.cells i = true := by
  obtain ⟨hi, hc, hf⟩ := push_ok hp
  have hget : s'.cells[s.cells.size]? = some c := by rw [hc]; simp
  obtain ⟨ha, hn⟩ := Appended.of_unit hb (B := #[c]) (by rw [hc]; simp) hf (a := s.cells.size)
    (by rw [hc]; exact shape_push_solo _ _ _ hso) hk (solo_plain hso hget).1
    (fun j hj1 hj2 hj3 => by rw [hc] at hj2; simp at hj2; omega)
  exact ⟨ha, hi, by rw [hi]; exact hn⟩

theorem push_solo_data {s s' : Store} {c : Cell} {i : Nat} {sh : Shape} (hb : Base s) (hso : soloShape c = some sh)
    (hns : isSV c = false) (hk : ∀ k ∈ sh.kids, k < s.cells.size ∧ isNode s.cells k = true)
    (hp : s.push c = .ok (s', i)) : AppendedData s s' ∧ i = s.cells.size ∧ isNode s'.cells i = true := by
  obtain ⟨ha, hi, hn⟩ := push_solo_appended hb hso hk hp
  refine ⟨⟨ha, fun j hj1 hj2 => ?_⟩, hi, hn⟩
  obtain ⟨_, hc, _⟩ := push_ok hp
  have hj : j = s.cells.size := by rw [hc] at hj2; simp at hj2; omega
  subst hj
  simp [svAt, hc, hns]

theorem push_solo_wf {s s' : Store} {c : Cell} {i : Nat} {sh : Shape} (hwf : WF s) (hso : soloShape c = some sh)
    (hk : ∀ k ∈ sh.kids, k < s.cells.size ∧ isNode s.cells k = true) (hp : s.push c = .ok (s', i)) :
    WF s' ∧ i = s.cells.size ∧ isNode s'.cells i = true := by
  obtain ⟨ha, hi, hn⟩ := push_solo_appended hwf.base hso hk hp
  exact ⟨hwf.appended ha, hi, hn⟩

theorem WF.withHeads {s : Store} (hwf : WF s) (r v f : Option Nat) (hr : headOK s.cells r = true)
    (hv : headOK s.cells v = true) (hf : headOK s.cells f = true) :
    WF { s with currentRegister := r, currentValue := v, currentFrame := f } :=
  ⟨hwf.retLe, hwf.nodes, hwf.lists, hwf.headers, hwf.extent, hr, hv, hf, hwf.syms⟩

theorem pushRegister_data {s s' : Store} {v : Nat} (hb : Base s) (hv : isNode s.cells v = true)
    (h : Store.pushRegister s v = .ok s') : AppendedData s s' := by
  have hvlt : v < s.cells.size := node_lt hv
  simp only [Store.pushRegister, Outcome.bind_eq_ok', Outcome.pure_eq_ok_iff] at h
  obtain ⟨⟨s1, i⟩, hp, hs'⟩ := h
  subst hs'
  cases hreg : s.currentRegister with
  | none =>
    rw [hreg] at hp
    obtain ⟨ha, _, hn⟩ := push_solo_data (sh := ⟨.registerRoot 0, [], [v]⟩) hb rfl rfl
      (by intro k hk; simp at hk; subst hk; exact ⟨hvlt, hv⟩) hp
    exact ha.withHeads _ _ hn ha.frm
  | some p =>
    rw [hreg] at hp
    have hpn := hb.reg
    rw [hreg] at hpn
    obtain ⟨ha, _, hn⟩ := push_solo_data (sh := ⟨.register 0 0, [], [p, v]⟩) hb rfl rfl
      (by intro k hk
          simp at hk
          rcases hk with rfl | rfl
          · exact ⟨node_lt hpn, hpn⟩
          · exact ⟨hvlt, hv⟩) hp
    exact ha.withHeads _ _ hn ha.frm

theorem pushRegister_wf {s s' : Store} {v : Nat} (hwf : WF s) (hv : isNode s.cells v = true)
    (h : Store.pushRegister s v = .ok s') : WF s' :=
  hwf.appended (pushRegister_data hwf.base hv h).toAppended

theorem pushValue_wf {s s' : Store} {v : Nat} (hwf : WF s) (hv : isNode s.cells v = true)
    (h : Store.pushValue s v = .ok s') : WF s' := by
  have hvlt : v < s.cells.size := node_lt hv
  simp only [Store.pushValue, Outcome.bind_eq_ok', Outcome.pure_eq_ok_iff] at h
  obtain ⟨⟨s1, i⟩, hp, hs'⟩ := h
  subst hs'
  cases hcur : s.currentValue with
  | none =>
    rw [hcur] at hp
    obtain ⟨hw, _, hn⟩ := push_solo_wf (sh := ⟨.valueRoot 0, [], [v]⟩) hwf rfl
      (by intro k hk; simp at hk; subst hk; exact ⟨hvlt, hv⟩) hp
    exact hw.withHeads _ _ _ hw.reg hn hw.frm
  | some p =>
    rw [hcur] at hp
    have hpn := hwf.val
    rw [hcur] at hpn
    obtain ⟨hw, _, hn⟩ := push_solo_wf (sh := ⟨.value 0 0, [], [p, v]⟩) hwf rfl
      (by intro k hk
          simp at hk
          rcases hk with rfl | rfl
          · exact ⟨node_lt hpn, hpn⟩
          · exact ⟨hvlt, hv⟩) hp
    exact hw.withHeads _ _ _ hw.reg hn hw.frm

theorem retainAll_wf {s : Store} (hwf : WF s) : WF s.retainAll := by
  refine ⟨Nat.le_refl _, hwf.nodes, hwf.lists, hwf.headers, ?_, hwf.reg, hwf.val, hwf.frm, hwf.syms⟩
  intro i _
  simp [extentOK, Store.retainAll, Store.cursor]

theorem popRegister_heads {s s' : Store} {r : Option Nat} (hb : Base s) (h : Store.popRegister s = .ok (s', r)) :
    ∃ g, s' = { s with currentRegister := g } ∧ headOK s.cells g = true ∧ ∀ v, r = some v → isNode s.cells v = true := by
  unfold Store.popRegister at h
  cases hreg : s.currentRegister with
  | none =>
    simp only [hreg, Outcome.ok.injEq, Prod.mk.injEq] at h
    obtain ⟨h1, h2⟩ := h
    subst h1; subst h2
    exact ⟨_, rfl, hb.reg, fun v hv => by cases hv⟩
  | some i =>
    simp only [hreg, Outcome.bind_eq_ok'] at h
    obtain ⟨c, hg, h2⟩ := h
    have hc := get_ok hg
    cases c <;> simp only [Outcome.pure_eq_ok_iff, Prod.mk.injEq] at h2 <;> try (simp at h2; done)
    · rename_i p v
      obtain ⟨h1, h2⟩ := h2
      subst h1; subst h2
      have hsh : shape s.cells i = some ⟨.register 0 0, [], [p, v]⟩ := shape_of_solo hc rfl
      exact ⟨_, rfl, hb.kids hsh (by simp), fun v' hv' => by cases hv'; exact hb.kids hsh (by simp)⟩
    · rename_i v
      obtain ⟨h1, h2⟩ := h2
      subst h1; subst h2
      have hsh : shape s.cells i = some ⟨.registerRoot 0, [], [v]⟩ := shape_of_solo hc rfl
      exact ⟨_, rfl, rfl, fun v' hv' => by cases hv'; exact hb.kids hsh (by simp)⟩

theorem popRegister_wf {s s' : Store} {r : Option Nat} (hwf : WF s) (h : Store.popRegister s = .ok (s', r)) :
    WF s' ∧ (∀ v, r = some v → isNode s'.cells v = true) := by
  obtain ⟨g, rfl, hg, hr⟩ := popRegister_heads hwf.base h
  exact ⟨hwf.withHeads g _ _ hg hwf.val hwf.frm, hr⟩

theorem popValue_wf {s : Store} (hwf : WF s) :
    WF (Store.popValue s).1 ∧ (∀ v, (Store.popValue s).2 = some v → isNode s.cells v = true) := by
  unfold Store.popValue
  cases hcur : s.currentValue with
  | none => exact ⟨hwf, fun v hv => by cases hv⟩
  | some i =>
    simp only
    cases hc : s.cells[i]? with
    | none => exact ⟨hwf, fun v hv => by cases hv⟩
    | some c =>
      cases c <;> simp only [] <;> try exact ⟨hwf, fun v hv => by cases hv⟩
      · rename_i p v
        have hsh : shape s.cells i = some ⟨.value 0 0, [], [p, v]⟩ := shape_of_solo hc rfl
        exact ⟨hwf.withHeads _ _ _ hwf.reg (kid_node hwf hsh (by simp)) hwf.frm,
          fun v' hv' => by cases hv'; exact kid_node hwf hsh (by simp)⟩
      · rename_i v
        have hsh : shape s.cells i = some ⟨.valueRoot 0, [], [v]⟩ := shape_of_solo hc rfl
        exact ⟨hwf.withHeads _ _ _ hwf.reg rfl hwf.frm, fun v' hv' => by cases hv'; exact kid_node hwf hsh (by simp)⟩

theorem frame_shape_push (A : Array Cell) (p : Nat) (c : Cell) (sh : Shape)
    (hc : (∃ f r, c = .frame f r ∧ sh = ⟨.frame 0 0, [.jumpPoint p], [f, r]⟩) ∨
          (∃ f, c = .frameIndex f ∧ sh = ⟨.frameIndex 0, [.jumpPoint p], [f]⟩) ∨
          (∃ r, c = .frameRegister r ∧ sh = ⟨.frameRegister 0, [.jumpPoint p], [r]⟩) ∨
          (c = .frameRoot ∧ sh = ⟨.frameRoot, [.jumpPoint p], []⟩)) :
    shape ((A.push (.jumpPoint p)).push c) (A.size + 1) = some sh := by
  rcases hc with ⟨f, r, rfl, rfl⟩ | ⟨f, rfl, rfl⟩ | ⟨r, rfl, rfl⟩ | ⟨rfl, rfl⟩
  all_goals unfold shape
  all_goals rw [get_push2]
  all_goals simp [framePoint_push2]

theorem pushFrame_data {s s' : Store} {ret : Nat} (hb : Base s) (h : Store.pushFrame s ret = .ok s') :
    AppendedData s s' := by
  simp only [Store.pushFrame, Outcome.bind_eq_ok', Outcome.pure_eq_ok_iff] at h
  obtain ⟨⟨s1, i0⟩, hp1, ⟨s2, i⟩, hp2, hs'⟩ := h
  subst hs'
  obtain ⟨_, hc1, hf1⟩ := push_ok hp1
  obtain ⟨hi2, hc2, hf2⟩ := push_ok hp2
  have hf := hf1.trans hf2
  have hsz1 : s1.cells.size = s.cells.size + 1 := by rw [hc1]; simp
  -- the frame cell and its shape, by the four combinations of heads
  have key : ∃ c sh, s2.cells = (s.cells.push (.jumpPoint ret)).push c ∧
      isSV c = false ∧
      shape ((s.cells.push (.jumpPoint ret)).push c) (s.cells.size + 1) = some sh ∧
      (∀ k ∈ sh.kids, k < s.cells.size ∧ isNode s.cells k = true) ∧
      (∀ (cells : Array Cell) (j : Nat), cells[j]? = some c → listOK cells j = true ∧ headerOK cells j = true) := by
    have hfr := hb.frm
    have hrg := hb.reg
    rw [hf1.2.2.2.2.2, hf1.2.2.2.2.1] at hc2
    cases hcf : s.currentFrame with
    | none =>
      cases hcr : s.currentRegister with
      | none =>
        rw [hcf, hcr] at hc2
        exact ⟨_, _, by rw [hc2, hc1], rfl, frame_shape_push _ _ _ _ (Or.inr (Or.inr (Or.inr ⟨rfl, rfl⟩))),
          by intro k hk; simp at hk, by intro cells j h; simp [listOK, headerOK, h]⟩
      | some r =>
        rw [hcf, hcr] at hc2
        rw [hcr] at hrg
        exact ⟨_, _, by rw [hc2, hc1], rfl, frame_shape_push _ _ _ _ (Or.inr (Or.inr (Or.inl ⟨r, rfl, rfl⟩))),
          by intro k hk; simp at hk; subst hk; exact ⟨node_lt hrg, hrg⟩,
          by intro cells j h; simp [listOK, headerOK, h]⟩
    | some f =>
      rw [hcf] at hfr
      cases hcr : s.currentRegister with
      | none =>
        rw [hcf, hcr] at hc2
        exact ⟨_, _, by rw [hc2, hc1], rfl, frame_shape_push _ _ _ _ (Or.inr (Or.inl ⟨f, rfl, rfl⟩)),
          by intro k hk; simp at hk; subst hk; exact ⟨node_lt hfr, hfr⟩,
          by intro cells j h; simp [listOK, headerOK, h]⟩
      | some r =>
        rw [hcf, hcr] at hc2
        rw [hcr] at hrg
        exact ⟨_, _, by rw [hc2, hc1], rfl, frame_shape_push _ _ _ _ (Or.inl ⟨f, r, rfl, rfl⟩),
          by intro k hk
             simp at hk
             rcases hk with rfl | rfl
             · exact ⟨node_lt hfr, hfr⟩
             · exact ⟨node_lt hrg, hrg⟩,
          by intro cells j h; simp [listOK, headerOK, h]⟩
  obtain ⟨c, sh, hcells2, hcns, hshape, hkids, hplain⟩ := key
  have hcells : s2.cells = s.cells ++ #[.jumpPoint ret, c] := by rw [hcells2]; apply Array.ext'; simp
  have hi : i = s.cells.size + 1 := by rw [hi2, hsz1]
  have hnodeNew : isNode s2.cells (s.cells.size + 1) = true := by rw [hcells2]; simp [isNode, hshape]
  have hsz : s2.cells.size = s.cells.size + 2 := by rw [hcells]; simp
  have hget0 : s2.cells[s.cells.size]? = some (.jumpPoint ret) := by rw [hcells2, Array.getElem?_push]; simp
  have hget1 : s2.cells[s.cells.size + 1]? = some c := by rw [hcells2]; exact get_push2 _ _ _
  obtain ⟨ha, _⟩ := AppendedData.of_unit hb hcells hf (a := s.cells.size + 1) (by rw [hcells2]; exact hshape) hkids
    (hplain _ _ hget1).1 (by simp [svAt, hget1, hcns])
    (fun j hj1 hj2 hj3 => ⟨.jumpPoint ret, by rw [show j = s.cells.size by omega]; exact hget0, Or.inr rfl⟩)
  exact ha.withHeads _ _ ha.reg (by rw [hi]; exact hnodeNew)

theorem pushFrame_wf {s s' : Store} {ret : Nat} (hwf : WF s) (h : Store.pushFrame s ret = .ok s') : WF s' :=
  hwf.appended (pushFrame_data hwf.base h).toAppended

theorem inline_block_data {s s' : Store} {hdr : Cell} {items : List Cell} (hb : Base s)
    (hcells : s'.cells = s.cells ++ (#[hdr] ++ items.toArray)) (hf : SameFrame s s')
    (hkind : (hdr = .charList items.length ∧ ∀ c ∈ items, isChar c = true) ∨
             (hdr = .byteList items.length ∧ ∀ c ∈ items, isByte c = true) ∨
             (hdr = .symbolList items.length ∧ ∀ c ∈ items, isSymPart c = true)) :
    AppendedData s s' ∧ isNode s'.cells s.cells.size = true := by
  have hlist : s'.cells.toList = (s.cells.toList ++ [hdr]) ++ items ++ [] := by rw [hcells]; simp
  have hhdr : s'.cells[s.cells.size]? = some hdr := by
    rw [← Array.getElem?_toList, hlist]; simp
  have hsize : s'.cells.size = s.cells.size + 1 + items.length := by rw [hcells]; simp; omega
  have hshape : shape s'.cells s.cells.size = some ⟨hdr, items, []⟩ := by
    rcases hkind with ⟨rfl, hall'⟩ | ⟨rfl, hall'⟩ | ⟨rfl, hall'⟩
    · have hread := inlineCells_suffix (p := isChar) items _ [] s'.cells hall' hlist
      simp only [List.length_append, List.length_singleton, Array.length_toList] at hread
      unfold shape; rw [hhdr]; simp only [hread, Option.map_some]
    · have hread := inlineCells_suffix (p := isByte) items _ [] s'.cells hall' hlist
      simp only [List.length_append, List.length_singleton, Array.length_toList] at hread
      unfold shape; rw [hhdr]; simp only [hread, Option.map_some]
    · have hread := inlineCells_suffix (p := isSymPart) items _ [] s'.cells hall' hlist
      simp only [List.length_append, List.length_singleton, Array.length_toList] at hread
      unfold shape; rw [hhdr]; simp only [hread, Option.map_some]
  refine AppendedData.of_unit hb hcells hf hshape (by intro k hk; simp at hk) ?_ ?_ ?_
  · simp only [listOK, hhdr]
    rcases hkind with ⟨rfl, _⟩ | ⟨rfl, _⟩ | ⟨rfl, _⟩ <;> rfl
  · simp only [svAt, hhdr]
    rcases hkind with ⟨rfl, _⟩ | ⟨rfl, _⟩ | ⟨rfl, _⟩ <;> rfl
  · intro j hj1 hj2 hj3
    obtain ⟨t, rfl⟩ : ∃ t, j = s.cells.size + 1 + t := ⟨j - (s.cells.size + 1), by omega⟩
    obtain ⟨c, hct⟩ : ∃ c, items[t]? = some c := ⟨items[t]'(by omega), by simp⟩
    refine ⟨c, ?_, sideCell_of_pred ?_⟩
    · rw [← Array.getElem?_toList, hlist, List.append_nil]
      have e : s.cells.size + 1 + t = (s.cells.toList ++ [hdr]).length + t := by simp
      rw [e, List.getElem?_append_right (Nat.le_add_right _ _)]
      simpa using hct
    · have hmem : c ∈ items := List.mem_of_getElem? hct
      rcases hkind with ⟨_, hall'⟩ | ⟨_, hall'⟩ | ⟨_, hall'⟩
      · exact Or.inl (hall' _ hmem)
      · exact Or.inr (Or.inl (hall' _ hmem))
      · exact Or.inr (Or.inr (hall' _ hmem))

/-- `add_string` / `parse_add_char_list` / `add_byte_slice` -/
theorem addInline_data {s s' : Store} {hdr : Cell} {items : List Cell} {a : Nat} (hb : Base s)
    (hkind : (hdr = .charList items.length ∧ ∀ c ∈ items, isChar c = true) ∨
             (hdr = .byteList items.length ∧ ∀ c ∈ items, isByte c = true))
    (h : Store.addInline s hdr items = .ok (s', a)) :
    AppendedData s s' ∧ a = s.cells.size ∧ isNode s'.cells a = true := by
  simp only [Store.addInline, Outcome.bind_eq_ok', Outcome.pure_eq_ok_iff, Prod.mk.injEq] at h
  obtain ⟨⟨s1, i⟩, hp, s2, hall, hs2, hia⟩ := h
  subst hs2; subst hia
  obtain ⟨hi, hc1, hf1⟩ := push_ok hp
  obtain ⟨hc2, hf2⟩ := pushAll_spec _ _ _ hall
  have hcells : s2.cells = s.cells ++ (#[hdr] ++ items.toArray) := by
    rw [hc2, hc1]; apply Array.ext'; simp
  obtain ⟨ha, hn⟩ := inline_block_data hb hcells (hf1.trans hf2) (by
    rcases hkind with h | h
    · exact Or.inl h
    · exact Or.inr (Or.inl h))
  exact ⟨ha, hi, by rw [hi]; exact hn⟩

theorem addInline_wf {s s' : Store} {hdr : Cell} {items : List Cell} {a : Nat} (hwf : WF s)
    (hkind : (hdr = .charList items.length ∧ ∀ c ∈ items, isChar c = true) ∨
             (hdr = .byteList items.length ∧ ∀ c ∈ items, isByte c = true))
    (h : Store.addInline s hdr items = .ok (s', a)) : WF s' ∧ a = s.cells.size ∧ isNode s'.cells a = true := by
  obtain ⟨ha, hi, hn⟩ := addInline_data hwf.base hkind h
  exact ⟨hwf.appended ha.toAppended, hi, hn⟩

theorem popFrame_heads {s s' : Store} {r : Option Nat} (hb : Base s) (h : Store.popFrame s = .ok (s', r)) :
    ∃ g f, s' = { s with currentRegister := g, currentFrame := f } ∧ headOK s.cells g = true ∧
      headOK s.cells f = true := by
  unfold Store.popFrame at h
  cases hcf : s.currentFrame with
  | none =>
    simp only [hcf, Outcome.ok.injEq, Prod.mk.injEq] at h
    rw [← h.1]; exact ⟨_, _, rfl, hb.reg, hb.frm⟩
  | some i =>
    simp only [hcf, Outcome.bind_eq_ok'] at h
    obtain ⟨ret, _, c, hg, h2⟩ := h
    have hc := get_ok hg
    have hfn := hb.frm
    rw [hcf] at hfn
    simp only [headOK, isNode, Option.isSome_iff_exists] at hfn
    obtain ⟨sh, hsh⟩ := hfn
    have hkid : ∀ k ∈ sh.kids, isNode s.cells k = true := fun k hk => hb.kids hsh hk
    unfold shape at hsh
    rw [hc] at hsh
    cases c <;> simp only [Outcome.pure_eq_ok_iff, Prod.mk.injEq] at h2 <;> try (simp at h2; done)
    all_goals obtain ⟨h2, _⟩ := h2
    all_goals subst h2
    all_goals simp only [Option.map_eq_some_iff] at hsh
    all_goals obtain ⟨jp, _, rfl⟩ := hsh
    · exact ⟨_, _, rfl, hkid _ (by simp), hkid _ (by simp)⟩
    · exact ⟨_, _, rfl, rfl, hkid _ (by simp)⟩
    · exact ⟨_, _, rfl, hkid _ (by simp), rfl⟩
    · exact ⟨_, _, rfl, rfl, rfl⟩

theorem popFrame_wf {s s' : Store} {r : Option Nat} (hwf : WF s) (h : Store.popFrame s = .ok (s', r)) : WF s' := by
  obtain ⟨g, f, rfl, hg, hf⟩ := popFrame_heads hwf.base h
  exact hwf.withHeads g _ f hg hwf.val hf

theorem pushSymbol_spec (s : Store) (sym di : Nat) :
    (Store.pushSymbol s sym di).cells = s.cells ∧ (Store.pushSymbol s sym di).retention = s.retention ∧
    (Store.pushSymbol s sym di).currentRegister = s.currentRegister ∧
    (Store.pushSymbol s sym di).currentValue = s.currentValue ∧
    (Store.pushSymbol s sym di).currentFrame = s.currentFrame ∧
    ∀ c ∈ (Store.pushSymbol s sym di).symtab.toList, c ∈ s.symtab.toList ∨ c = .associativeItem sym di := by
  unfold Store.pushSymbol
  simp only
  split <;> refine ⟨rfl, rfl, rfl, rfl, rfl, fun c hc => ?_⟩ <;>
    simpa only [List.mem_mergeSort, List.mem_append, List.mem_singleton] using hc

theorem pushSymbol_wf {s : Store} {sym di : Nat} (hwf : WF s) (hd : isNode s.cells di = true) :
    WF (Store.pushSymbol s sym di) := by
  obtain ⟨hcells, hret, hreg, hval, hfrm, hsym⟩ := pushSymbol_spec s sym di
  refine ⟨by rw [hcells, hret]; exact hwf.retLe, by rw [hcells]; exact hwf.nodes, by rw [hcells]; exact hwf.lists,
    by rw [hcells]; exact hwf.headers, by rw [hcells, hret]; exact hwf.extent, by rw [hcells, hreg]; exact hwf.reg,
    by rw [hcells, hval]; exact hwf.val, by rw [hcells, hfrm]; exact hwf.frm, ?_⟩
  intro c hc
  rw [hcells]
  rcases hsym c hc with h | rfl
  · exact hwf.syms c h
  · simpa [symOK] using hd

theorem addInline_node {s s' : Store} {hdr : Cell} {items : List Cell} {a k : Nat}
    (hh : ∀ i, i < s.cells.size → headerOK s.cells i = true) (hk : isNode s.cells k = true)
    (h : Store.addInline s hdr items = .ok (s', a)) : isNode s'.cells k = true := by
  simp only [Store.addInline, Outcome.bind_eq_ok', Outcome.pure_eq_ok_iff, Prod.mk.injEq] at h
  obtain ⟨⟨s1, i⟩, hp, s2, hall, hs2, _⟩ := h
  subst hs2
  obtain ⟨_, hc1, _⟩ := push_ok hp
  obtain ⟨hc2, _⟩ := pushAll_spec _ _ _ hall
  have : s2.cells = s.cells ++ (#[hdr] ++ items.toArray) := by rw [hc2, hc1]; apply Array.ext'; simp
  rw [this, isNode_append _ _ hh (node_lt hk)]; exact hk

theorem parseAddSymbol_wf {s s' : Store} {sym : Nat} {name : List Nat} {a : Nat} (hwf : WF s)
    (h : Store.parseAddSymbol s sym name = .ok (s', a)) : WF s' ∧ isNode s'.cells a = true := by
  simp only [Store.parseAddSymbol, Outcome.bind_eq_ok', Outcome.pure_eq_ok_iff, Prod.mk.injEq] at h
  obtain ⟨⟨s1, si⟩, hp, ⟨s2, li⟩, hin, hs', ha⟩ := h
  subst hs'; subst ha
  obtain ⟨hw1, hsi, hn1⟩ := push_solo_wf (sh := ⟨.symbol sym, [], []⟩) hwf rfl (by intro k hk; simp at hk) hp
  obtain ⟨hw2, hli, hn2⟩ := addInline_wf hw1 (Or.inl ⟨by simp, by
    intro c hc
    simp only [List.mem_map] at hc
    obtain ⟨x, _, rfl⟩ := hc
    rfl⟩) hin
  refine ⟨pushSymbol_wf hw2 hn2, ?_⟩
  rw [(pushSymbol_spec s2 sym li).1]
  exact addInline_node hw1.headers hn1 hin

theorem agreeNC_append_toList {A B : Array Cell} {l : List Cell} (h : B.toList = A.toList ++ l) : AgreeNC A B := by
  intro i c hc _
  have hi : i < A.size := lt_of_getElem? hc
  rw [← Array.getElem?_toList, h, List.getElem?_append_left (by simpa using hi), Array.getElem?_toList]; exact hc

theorem symList_parts {cells : Array Cell} {a n : Nat} (hc : cells[a]? = some (.symbolList n))
    (hn : isNode cells a = true) : ∃ l, inlineCells cells isSymPart (a + 1) n = some l := by
  simp only [isNode, Option.isSome_iff_exists] at hn
  obtain ⟨sh, hsh⟩ := hn
  unfold shape at hsh
  rw [hc] at hsh
  simp only [Option.map_eq_some_iff] at hsh
  obtain ⟨l, hl, _⟩ := hsh
  exact ⟨l, hl⟩

/-- the parts an operand of `merge_to_symbol_list` contributes: its own cell, or the inline cells of a symbol list -/
inductive SymParts (cells : Array Cell) (a : Nat) : List Cell → Prop where
  | part {c : Cell} : cells[a]? = some c → isSymPart c = true → SymParts cells a [c]
  | list {n : Nat} {p : List Cell} : cells[a]? = some (.symbolList n) →
      inlineCells cells isSymPart (a + 1) n = some p → SymParts cells a p

theorem isSymPart_cases {c : Cell} (h : isSymPart c = true) : (∃ x, c = .symbol x) ∨ ∃ x, c = .number x := by
  unfold isSymPart at h
  split at h
  · exact .inl ⟨_, rfl⟩
  · exact .inr ⟨_, rfl⟩
  · cases h

theorem SymParts.all {cells : Array Cell} {a : Nat} {p : List Cell} (h : SymParts cells a p) :
    ∀ c ∈ p, isSymPart c = true := by
  cases h with
  | part _ hc => intro c hm; simp at hm; subst hm; exact hc
  | list _ hi => exact (inlineCells_props _ _ _ hi).2

/-- the same outcome, a failing `push` included -/
theorem mergeToSymbolList_eq {s : Store} {f g : Nat} {p1 p2 : List Cell} (h1 : SymParts s.cells f p1)
    (h2 : SymParts s.cells g p2) :
    Store.mergeToSymbolList s f g = Store.addInline s (.symbolList (p1.length + p2.length)) (p1 ++ p2) := by
  -- in a store that holds the cells of `s` and more, copying inline cells of `s` is pushing them
  have copy : ∀ {t : Store} {pre : List Cell}, t.cells.toList = s.cells.toList ++ pre → ∀ {a n : Nat} {ps : List Cell},
      inlineCells s.cells isSymPart a n = some ps → Store.copyCells t a n = Store.pushAll t ps :=
    fun ht _ _ _ hi => copyCells_eq_pushAll (by intro x; rfl) _ _ _ _
      (inlineCells_agree (agreeNC_append_toList ht) _ (by intro x; rfl) _ _ _ hi)
  have one : ∀ {hdr : Cell} {s1 : Store} {i1 : Nat}, s.push hdr = .ok (s1, i1) →
      s1.cells.toList = s.cells.toList ++ [hdr] := fun hp => by rw [(push_ok hp).2.1]; simp
  rcases h1 with ⟨hf, ha⟩ | ⟨hf, hi1⟩ <;> rcases h2 with ⟨hg, hb⟩ | ⟨hg, hi2⟩
  all_goals simp only [Store.mergeToSymbolList, Store.addInline, Store.get, hf, hg, Outcome.ok_bind]
  · rcases isSymPart_cases ha with ⟨x, rfl⟩ | ⟨x, rfl⟩ <;> rcases isSymPart_cases hb with ⟨y, rfl⟩ | ⟨y, rfl⟩
    all_goals (
      simp only [isSymPart, Bool.and_self, if_true, List.length_singleton]
      refine Outcome.bind_congr fun ⟨s1, i1⟩ _ => ?_
      simp only [List.singleton_append, Store.pushAll]
      cases s1.push _ with
      | ok r => simp only [Outcome.ok_bind]; cases r.1.push _ <;> rfl
      | err e => rfl
      | panic m => rfl
      | fuelOut => rfl)
  · obtain ⟨rfl, _⟩ := inlineCells_props _ _ _ hi2
    rcases isSymPart_cases ha with ⟨x, rfl⟩ | ⟨x, rfl⟩
    all_goals (
      simp only [isSymPart, if_true, List.length_singleton, Nat.add_comm 1 p2.length]
      refine Outcome.bind_congr fun ⟨s1, i1⟩ hp => ?_
      simp only [List.singleton_append, Store.pushAll]
      cases hq : s1.push _ with
      | ok r =>
        have h2' := (push_ok (show s1.push _ = .ok (r.1, r.2) by rw [hq])).2.1
        obtain ⟨pre, hpre⟩ : ∃ pre, r.1.cells.toList = s.cells.toList ++ pre :=
          ⟨_, by rw [h2', Array.toList_push, one hp, List.append_assoc]⟩
        simp only [Outcome.ok_bind, copy hpre hi2]
      | err e => rfl
      | panic m => rfl
      | fuelOut => rfl)
  · obtain ⟨rfl, _⟩ := inlineCells_props _ _ _ hi1
    rcases isSymPart_cases hb with ⟨y, rfl⟩ | ⟨y, rfl⟩
    all_goals (
      simp only [isSymPart, if_true, List.length_singleton]
      refine Outcome.bind_congr fun ⟨s1, i1⟩ hp => ?_
      simp only [copy (one hp) hi1, pushAll_append]
      cases Store.pushAll s1 p1 with
      | ok s2 => simp only [Outcome.ok_bind, Outcome.bind_ok, Store.pushAll]; cases s2.push _ <;> rfl
      | err e => rfl
      | panic m => rfl
      | fuelOut => rfl)
  · obtain ⟨rfl, _⟩ := inlineCells_props _ _ _ hi1
    obtain ⟨rfl, _⟩ := inlineCells_props _ _ _ hi2
    refine Outcome.bind_congr fun ⟨s1, i1⟩ hp => ?_
    simp only [copy (one hp) hi1, pushAll_append]
    cases hq : Store.pushAll s1 p1 with
    | ok s2 =>
      have h2' : s2.cells.toList = s.cells.toList ++ (Cell.symbolList (p1.length + p2.length) :: p1) := by
        rw [(pushAll_spec _ _ _ hq).1]; simp [one hp]
      simp only [Outcome.ok_bind, Outcome.bind_ok, copy h2' hi2]
    | err e => rfl
    | panic m => rfl
    | fuelOut => rfl

theorem mergeToSymbolList_unit {s : Store} {f g : Nat} {a b : Cell} (hf : s.cells[f]? = some a) (hg : s.cells[g]? = some b)
    (hbad : (isSymPart a = false ∧ ∀ n, a ≠ .symbolList n) ∨ (isSymPart b = false ∧ ∀ n, b ≠ .symbolList n)) :
    Store.mergeToSymbolList s f g = s.push .unit := by
  simp only [Store.mergeToSymbolList, Store.get, hf, hg, Outcome.ok_bind]
  split
  · rcases hbad with ⟨_, h⟩ | ⟨_, h⟩ <;> exact absurd rfl (h _)
  · rcases hbad with ⟨_, h⟩ | ⟨hb, _⟩
    · exact absurd rfl (h _)
    · simp [hb]
  · rcases hbad with ⟨ha, _⟩ | ⟨_, h⟩
    · simp [ha]
    · exact absurd rfl (h _)
  · rcases hbad with ⟨ha, _⟩ | ⟨hb, _⟩
    · simp [ha]
    · simp [hb]

theorem symParts_cases {cells : Array Cell} {a : Nat} {c : Cell} (hc : cells[a]? = some c) (hn : isNode cells a = true) :
    (∃ p, SymParts cells a p) ∨ (isSymPart c = false ∧ ∀ n, c ≠ .symbolList n) := by
  cases hp : isSymPart c with
  | true => exact .inl ⟨_, .part hc hp⟩
  | false =>
    by_cases hl : ∃ n, c = .symbolList n
    · obtain ⟨n, rfl⟩ := hl
      obtain ⟨l, hl⟩ := symList_parts hc hn
      exact .inl ⟨l, .list hc hl⟩
    · exact .inr ⟨rfl, fun n h => hl ⟨n, h⟩⟩

theorem mergeToSymbolList_data {s s' : Store} {first second i : Nat} (hb : Base s)
    (hn1 : isNode s.cells first = true) (hn2 : isNode s.cells second = true)
    (h : Store.mergeToSymbolList s first second = .ok (s', i)) : AppendedData s s' ∧ isNode s'.cells i = true := by
  obtain ⟨a, hca⟩ := shape_cell (node_shape hn1).choose_spec
  obtain ⟨b, hcb⟩ := shape_cell (node_shape hn2).choose_spec
  have unit : (isSymPart a = false ∧ ∀ n, a ≠ .symbolList n) ∨ (isSymPart b = false ∧ ∀ n, b ≠ .symbolList n) →
      AppendedData s s' ∧ isNode s'.cells i = true := by
    intro hbad
    rw [mergeToSymbolList_unit hca hcb hbad] at h
    obtain ⟨hw, _, hn⟩ := push_solo_data (sh := ⟨.unit, [], []⟩) hb rfl rfl (by intro k hk; simp at hk) h
    exact ⟨hw, hn⟩
  rcases symParts_cases hca hn1 with ⟨p1, h1⟩ | h1
  · rcases symParts_cases hcb hn2 with ⟨p2, h2⟩ | h2
    · rw [mergeToSymbolList_eq h1 h2] at h
      simp only [Store.addInline, Outcome.bind_eq_ok', Outcome.pure_eq_ok_iff, Prod.mk.injEq] at h
      obtain ⟨⟨s1, i1⟩, hp, s2, hall, rfl, rfl⟩ := h
      obtain ⟨rfl, hc1, hf1⟩ := push_ok hp
      obtain ⟨hc2, hf2⟩ := pushAll_spec _ _ _ hall
      refine inline_block_data (hdr := .symbolList (p1.length + p2.length)) (items := p1 ++ p2) hb
        (by rw [hc2, hc1]; apply Array.ext'; simp) (hf1.trans hf2) (Or.inr (Or.inr ⟨by simp, fun c hc => ?_⟩))
      rcases List.mem_append.mp hc with h | h
      · exact h1.all c h
      · exact h2.all c h
    · exact unit (.inr h2)
  · exact unit (.inl h1)

theorem mergeToSymbolList_wf {s s' : Store} {first second i : Nat} (hwf : WF s)
    (hn1 : isNode s.cells first = true) (hn2 : isNode s.cells second = true)
    (h : Store.mergeToSymbolList s first second = .ok (s', i)) : WF s' ∧ isNode s'.cells i = true := by
  obtain ⟨ha, hn⟩ := mergeToSymbolList_data hwf.base hn1 hn2 h
  exact ⟨hwf.appended ha.toAppended, hn⟩

end Garnish.BasicOpt
