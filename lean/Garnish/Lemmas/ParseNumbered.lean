/-
The nodes of a parse result are numbered in in-order, and — apart from the separator nodes the parser pushes for a
trailing blank line before `}` and unlinks again — all of them are in the tree: for an expression `e` of the fragment
  `t.inorder` is strictly increasing, below `r.nodes.size`, and `t.inorder.length + e.garb = r.nodes.size`
(`e.garb` = the number of trailing blank lines before a `}`), hence `t.inorder = List.range r.nodes.size` when `e.garb = 0`
(`parse_ex_range`: with the reference tree, the form the builder's side takes — Lemmas/SourceLit).
The count is maintained by the induction of Lemmas/ParserBRef … ParserBOpt (`OpdOK c`, `ExprOK c`, `ListOpdOK c`).
`frag9N`: the decidable fragment on which the numbering is complete — the lists of `frag9` without a trailing blank line
before a `}` (decided on the syntax tree the recogniser `exOf` builds: `Ex.garb = 0`) — and the three facts of
`WellNumbered` at the level of `parse` / `toTree`.
-/
import Garnish.Lemmas.ParserBSyntax
import Garnish.Lemmas.ParserTokens

namespace Garnish.Spec
open Garnish Garnish.Gen Garnish.Model.Parser

theorem sorted_eq_range' : ∀ (l : List Nat) (a : Nat), l.Pairwise (· < ·) → (∀ j ∈ l, a ≤ j ∧ j < a + l.length) →
    l = List.range' a l.length
  | [], _, _, _ => rfl
  | x :: l, a, hp, hb => by
    have hp' := List.pairwise_cons.mp hp
    have hxb := hb x (List.mem_cons_self ..)
    simp only [List.length_cons] at hxb hb
    have ih := sorted_eq_range' l (x + 1) hp'.2 (fun y hy => by
      have h1 := hp'.1 y hy
      have h2 := hb y (List.mem_cons_of_mem _ hy)
      omega)
    have hxa : x = a := by
      cases hl : l with
      | nil => rw [hl] at hxb; simp only [List.length_nil] at hxb; omega
      | cons y ys =>
        have hpos0 : 0 < l.length := by rw [hl]; simp
        have hmem : x + 1 + (l.length - 1) ∈ List.range' (x + 1) l.length := by
          rw [List.mem_range'_1]
          omega
        rw [← ih] at hmem
        have := hb _ (List.mem_cons_of_mem _ hmem)
        have hpos : 0 < l.length := by rw [hl]; simp
        omega
    subst hxa
    rw [List.length_cons, List.range'_succ, ← ih]

theorem sortedIn_full {n : Nat} {l : List Nat} (h : SortedIn 0 n l) (hlen : l.length = n) : l = List.range n := by
  have := sorted_eq_range' l 0 h.1 (fun j hj => by have := h.2 j hj; omega)
  rw [this, hlen, List.range_eq_range']

theorem parse_ex_range {F : Fl} (e : Ex) (hok : e.ok F false = true) (hg : e.garb = 0) (hnum : NumberedFrom 0 e.toks) :
    ∃ r t, parse e.toks = .ok r ∧ toTree r = some t ∧ t.inorder = List.range r.nodes.size ∧
      refParse Table.gen e.toks = .ok (toRG (dfOf r.nodes) t) := by
  obtain ⟨r, t, h1, h2, h3, h4, h5⟩ := parse_ex_full e hok
  exact ⟨r, t, h1, h2, sortedIn_full h3 (by omega), h5 hnum⟩

/-- `fragF` without trailing blank lines before `}` -/
def fragFN (F : Fl) (toks : List PToken) : Bool :=
  match exOf F toks with
  | some e => e.ok F false && decide (e.toks = toks) && e.garb == 0
  | none => false

theorem fragFN_sound {F : Fl} {toks : List PToken} (h : fragFN F toks = true) :
    ∃ e : Ex, e.ok F false = true ∧ e.toks = toks ∧ e.garb = 0 := by
  unfold fragFN at h
  cases he : exOf F toks with
  | none => simp [he] at h
  | some e =>
    simp only [he, Bool.and_eq_true, decide_eq_true_eq, beq_iff_eq] at h
    exact ⟨e, h.1.1, h.1.2, h.2⟩

theorem fragFN_sub {F : Fl} {toks : List PToken} (h : fragFN F toks = true) : fragF F toks = true := by
  unfold fragFN at h
  unfold fragF
  cases he : exOf F toks with
  | none => simp [he] at h
  | some e =>
    simp only [he, Bool.and_eq_true] at h ⊢
    exact h.1

/-- `expr trivia* ,` without trailing blank lines before `}` -/
def fragTCN (F : Fl) (toks : List PToken) : Bool :=
  match toks.reverse with
  | [] => false
  | k :: r => isCommaTok k && fragFN F (r.dropWhile isTriviaTok).reverse

theorem fragTCN_sub {F : Fl} {toks : List PToken} (h : fragTCN F toks = true) : fragTC F toks = true := by
  unfold fragTCN at h
  unfold fragTC
  cases hr : toks.reverse with
  | nil => rw [hr] at h; cases h
  | cons k r =>
    rw [hr] at h
    simp only [Bool.and_eq_true] at h ⊢
    exact ⟨h.1, fragFN_sub h.2⟩

theorem fragTCN_sound {F : Fl} {toks : List PToken} (h : fragTCN F toks = true) :
    ∃ (e : Ex) (ws1 : List PToken) (k : PToken), e.ok F false = true ∧ e.garb = 0 ∧ (∀ w ∈ ws1, isTriviaTok w = true) ∧
      isCommaTok k = true ∧ toks = e.toks ++ (ws1 ++ [k]) := by
  unfold fragTCN at h
  cases hr : toks.reverse with
  | nil => rw [hr] at h; cases h
  | cons k r =>
    rw [hr] at h
    simp only [Bool.and_eq_true] at h
    obtain ⟨e, hok, he, hg⟩ := fragFN_sound h.2
    refine ⟨e, (r.takeWhile isTriviaTok).reverse, k, hok, hg, ?_, h.1, ?_⟩
    · intro w hw
      rw [List.mem_reverse] at hw
      exact mem_takeWhile_imp _ _ _ hw
    · have : toks = (k :: r).reverse := by rw [← hr, List.reverse_reverse]
      rw [this, he]
      have hsplit : r.reverse = (r.dropWhile isTriviaTok).reverse ++ (r.takeWhile isTriviaTok).reverse := by
        rw [← List.reverse_append, List.takeWhile_append_dropWhile]
      simp [hsplit]

/-- `frag9` without a trailing blank line before a `}` -/
def frag9N (toks : List PToken) : Bool := fragFN ⟨true, true, true⟩ toks || fragTCN ⟨true, true, true⟩ toks

theorem parse_inorder_range {toks : List PToken} (hf : frag9N toks = true) (hnum : NumberedFrom 0 toks)
    {r : ParseResult} {t : Tree} (hp : parse toks = .ok r) (ht : toTree r = some t) :
    t.inorder = List.range r.nodes.size := by
  unfold frag9N at hf
  rcases Bool.or_eq_true _ _ |>.mp hf with h | h
  · obtain ⟨e, hok, rfl, hg⟩ := fragFN_sound h
    obtain ⟨r', t', h1, h2, h3, _⟩ := parse_ex_range e hok hg hnum
    rw [hp] at h1; cases h1
    rw [ht] at h2; cases h2
    exact h3
  · obtain ⟨e, ws1, k, hok, hg, hw1, hk, rfl⟩ := fragTCN_sound h
    obtain ⟨r', t', h1, h2, _, h3, h4⟩ := parse_ex_comma_full e hok ws1 k hw1 hk hnum
    rw [hp] at h1; cases h1
    rw [ht] at h2; cases h2
    exact sortedIn_full h3 (by rw [hg] at h4; exact h4)

theorem numbered_get : ∀ (toks : List PToken) (k : Nat) (t : PToken), NumberedFrom k toks → t ∈ toks →
    toks[t.col - k]? = some t
  | [], _, _, _, h => by cases h
  | x :: rest, k, t, hn, h => by
    rcases List.mem_cons.mp h with e | e
    · subst e
      have : t.col = k := hn.1
      simp [this]
    · have ih := numbered_get rest (k + 1) t hn.2 e
      have hge : k + 1 ≤ t.col := by
        have := (List.getElem?_eq_some_iff.mp ih).1
        -- from the recursive call the index is in range; positions grow
        exact numbered_ge rest (k + 1) t hn.2 e
      have e2 : t.col - k = (t.col - (k + 1)) + 1 := by omega
      rw [e2, List.getElem?_cons_succ]; exact ih
where
  numbered_ge : ∀ (toks : List PToken) (k : Nat) (t : PToken), NumberedFrom k toks → t ∈ toks → k ≤ t.col
    | [], _, _, _, h => by cases h
    | x :: rest, k, t, hn, h => by
      rcases List.mem_cons.mp h with e | e
      · subst e; exact Nat.le_of_eq hn.1.symm
      · have := numbered_ge rest (k + 1) t hn.2 e; omega

theorem parse_nodes_facts {toks : List PToken} (hnum : NumberedFrom 0 toks) {r : ParseResult} (hp : parse toks = .ok r) :
    ∀ (i : Nat) (n : ParseNode), r.nodes[i]? = some n →
      toks[n.lexToken.col]? = some n.lexToken ∧ (Num.isBr n.definition = true → n.left = none) := by
  have := Num.parse_lgood (fun t => toks[t.col]? = some t) toks (fun t ht => by
    have := numbered_get toks 0 t hnum ht
    simpa using this)
  rw [hp] at this
  exact this

theorem bracket_left_nil {nodes : Array ParseNode} (hb : ∀ (i : Nat) (n : ParseNode), nodes[i]? = some n →
      Num.isBr n.definition = true → n.left = none) :
    ∀ {p link : Option Nat} {t : Tree}, IsTreeAt nodes p link t →
      ∀ l i k rt, t = .node l i k rt → Num.isBr (dfOf nodes i) = true → l = .nil := by
  intro p link t h
  cases h with
  | nil => intro l i k rt e; cases e
  | node p i n l r hn hp hl hr =>
    intro l' i' k' rt' e hbr
    cases e
    have hd : dfOf nodes i = n.definition := by simp [dfOf, hn]
    rw [hd] at hbr
    have := hb i n hn hbr
    rw [this] at hl
    cases hl
    rfl

end Garnish.Spec
