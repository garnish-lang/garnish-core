/-
Refinement lemmas for apply.rs, part 2: the arms that add one value and push it (merge, slice, narrowed range,
narrowed slice) and the look-up arms (`access_with_integer`, `access_with_symbol`).
-/
import Garnish.Lemmas.RuntimeApply
namespace Garnish.Lemmas.Runtime
open Garnish Gen Garnish.Abs Garnish.Model.Equality Garnish.Model.Runtime

variable {F σ : Type} {S : RStore F σ} (fo : FloatOps F)

theorem slice_of {s : σ} {a : Nat} {v vr : Val F} (h : Decodes (S.view s) a (.slice v vr)) :
    ∃ x y, (S.view s).slice a = some (x, y) ∧ Decodes (S.view s) x v ∧ Decodes (S.view s) y vr := by
  cases h with
  | slice _ hr ds de => exact ⟨_, _, hr, ds, de⟩

namespace Core
open On

variable {Inv : σ → Prop} {Rd : σ → Nat → Prop} {K : Prop}

/-- an adder, `push_register`, then `next_instruction` -/
theorem addPushNext (L : LawsK S Inv Rd K) {s s0 : σ} {rest : List Nat} {m : RM σ Nat} {v : Val F} (next : Nat)
    (e0 : EffI S Inv s s0 rest (S.vals s))
    (ha : ∃ a s', m s0 = .ok (a, s') ∧ Decodes (S.view s') a v ∧ EffI S Inv s0 s' (S.regs s0) (S.vals s0))
    (hv : K → v ≠ .custom) :
    PushedI S Inv s (((do let x ← m; S.pushRegister x; pure next : RM σ Nat) >>= fun n => pure (some n)) s0)
      (some next) rest v := by
  obtain ⟨ad, s2, h2, d2, e2⟩ := ha
  obtain ⟨s3, h3, e3⟩ := pushReg L d2 hv
  rw [e2.regs, e2.vals, e0.regs, e0.vals] at e3
  exact ⟨ad, s3, by rw [bind_apply, bind_ok h2, bind_ok h3]; rfl, e3.dec d2, (e0.trans e2).trans e3⟩

theorem apply_merge_spec (L : LawsK S Inv Rd K) (fuel : Nat) (instr : Instruction) (ur : Bool)
    {s : σ} {r l : Nat} {vr vl : Val F} {rest : List Nat}
    (hregs : S.regs s = r :: l :: rest) (hl : Decodes (S.view s) l vl) (hr : Decodes (S.view s) r vr)
    (harm : applyArm vl.typeOf vr.typeOf = .merge)
    (hinv : Inv s := by inv_tac) (hdp : DeepK K S s rest := by deep_tac) :
    ∃ v, applyKind fo instr ur vl vr = .out (.val v) ∧
      PushedI S Inv s (applyInternal fo S fuel instr ur s) (some (S.cursor s + 1)) rest v := by
  obtain ⟨s0, e0, hl0, hr0, hp⟩ := applyInternal_prefix fo L fuel instr ur hregs hl hr
  have key : ∀ v, mergeSymList vl vr = some v → (∀ n, vl ≠ .num n) → (∀ n, vr ≠ .num n) → (K → v ≠ .custom) →
      PushedI S Inv s (((do let x ← S.mergeToSymbolList l r; S.pushRegister x; pure (S.cursor s + 1) : RM σ Nat)
        >>= fun n => pure (some n)) s0) (some (S.cursor s + 1)) rest v :=
    fun v hv hnl hnr hvc => addPushNext L _ e0 (adds_i (L.mergeSome l r vl vr v s0 e0.inv hl0 hr0 hv (fun _ => hnl) (fun _ => hnr))) hvc
  rw [hp]
  have hc := applyArm_case fo instr ur vl vr
  rw [harm] at hc
  rcases hc.1 with ⟨a, ps, rfl, rfl⟩ | ⟨ps, a, rfl, rfl⟩ | ⟨ps, qs, rfl, rfl⟩ <;>
    exact ⟨_, rfl, key _ rfl (by intro n h; cases h) (by intro n h; cases h) (fun _ => nofun)⟩

theorem apply_mkSlice_spec (L : LawsK S Inv Rd K) (fuel : Nat) (instr : Instruction) (ur : Bool)
    {s : σ} {r l : Nat} {vr vl : Val F} {rest : List Nat}
    (hregs : S.regs s = r :: l :: rest) (hl : Decodes (S.view s) l vl) (hr : Decodes (S.view s) r vr)
    (harm : applyArm vl.typeOf vr.typeOf = .mkSlice)
    (hinv : Inv s := by inv_tac) (hdp : DeepK K S s rest := by deep_tac) :
    applyKind fo instr ur vl vr = .out (.val (.slice vl vr)) ∧
      PushedI S Inv s (applyInternal fo S fuel instr ur s) (some (S.cursor s + 1)) rest (.slice vl vr) := by
  obtain ⟨s0, e0, hl0, hr0, hp⟩ := applyInternal_prefix fo L fuel instr ur hregs hl hr
  have key : PushedI S Inv s (((do let x ← S.addSlice l r; S.pushRegister x; pure (S.cursor s + 1) : RM σ Nat)
        >>= fun n => pure (some n)) s0) (some (S.cursor s + 1)) rest (.slice vl vr) :=
    addPushNext L _ e0 (adds_i (L.addSlice l r vl vr s0 (by inv_tac) hl0 hr0)) (fun _ => nofun)
  rw [hp]
  have hc := applyArm_case fo instr ur vl vr
  rw [harm] at hc
  obtain ⟨c, d, rfl⟩ := hc.1
  cases vl <;> first
    | (cases harm; done)
    | exact ⟨rfl, key⟩

theorem apply_narrow_spec (L : LawsK S Inv Rd K) (fuel : Nat) (instr : Instruction) (ur : Bool)
    {s : σ} {r l : Nat} {os oe bs be : Val F} {rest : List Nat}
    (hregs : S.regs s = r :: l :: rest) (hl : Decodes (S.view s) l (.range os oe))
    (hr : Decodes (S.view s) r (.range bs be))
    (hinv : Inv s := by inv_tac) (hdp : DeepK K S s rest := by deep_tac) :
    RefinesOutI S Inv s (applyInternal fo S fuel instr ur s) (some (S.cursor s + 1)) rest l r
      (match Abs.narrowRange fo (.range os oe) (.range bs be) with
       | .ok v => .val v
       | .error e => .err e) := by
  obtain ⟨s0, e0, hl0, hr0, hp⟩ := applyInternal_prefix fo L fuel instr ur hregs hl hr
  have hn := narrowRange_spec fo L hl0 hr0
  rw [hp]
  cases hx : Abs.narrowRange fo (.range os oe) (.range bs be) with
  | ok v =>
    rw [hx] at hn
    have hvc : v ≠ .custom := by
      intro hc; subst hc
      unfold Abs.narrowRange at hx
      repeat' split at hx
      all_goals first | (cases hx; done) | skip
    exact addPushNext L _ e0 hn fun _ => hvc
  | error e =>
    rw [hx] at hn
    show ((do let x ← Model.Runtime.narrowRange fo S l r; S.pushRegister x; pure (S.cursor s + 1) : RM σ Nat)
        >>= fun n => pure (some n)) s0 = .err e
    rw [bind_apply, bind_err hn]

theorem apply_sliceNarrow_spec (L : LawsK S Inv Rd K) (fuel : Nat) (instr : Instruction) (ur : Bool)
    {s : σ} {r l : Nat} {v os oe bs be : Val F} {rest : List Nat}
    (hregs : S.regs s = r :: l :: rest) (hl : Decodes (S.view s) l (.slice v (.range os oe)))
    (hr : Decodes (S.view s) r (.range bs be))
    (hinv : Inv s := by inv_tac) (hdp : DeepK K S s rest := by deep_tac) :
    RefinesOutI S Inv s (applyInternal fo S fuel instr ur s) (some (S.cursor s + 1)) rest l r
      (match Abs.narrowRange fo (.range os oe) (.range bs be) with
       | .ok nr => .val (.slice v nr)
       | .error e => .err e) := by
  obtain ⟨s0, e0, hl0, hr0, hp⟩ := applyInternal_prefix fo L fuel instr ur hregs hl hr
  obtain ⟨va, ra, hsl, dv, dsr⟩ := slice_of hl0
  have hn := narrowRange_spec fo L dsr hr0
  rw [hp]
  simp only [Val.typeOf, applyMatch]
  cases hx : Abs.narrowRange fo (.range os oe) (.range bs be) with
  | ok nr =>
    rw [hx] at hn
    obtain ⟨na, s1, h1, d1, e1⟩ := hn
    obtain ⟨sa, s2, h2, d2, e2⟩ := adds_i (L.addSlice va na v nr s1 (by inv_tac) (e1.dec dv) d1)
    obtain ⟨s3, h3, e3⟩ := pushReg L d2 (fun _ => nofun)
    rw [e1.regs, e1.vals] at e2
    rw [e2.regs, e2.vals, e0.regs, e0.vals] at e3
    refine ⟨sa, s3, ?_, e3.dec d2, ((e0.trans e1).trans e2).trans e3⟩
    rw [bind_apply, bind_ok (getSlice_of hsl)]
    simp only []
    rw [bind_ok h1, bind_ok h2, bind_ok h3]; rfl
  | error e =>
    rw [hx] at hn
    show _ = Outcome.err e
    rw [bind_apply, bind_ok (getSlice_of hsl)]
    simp only []
    rw [bind_err hn]

/-- a look-up followed by `None => push_unit, Some(i) => push_register(i)` and `next_instruction` -/
theorem lookupPushNext (L : LawsK S Inv Rd K) {s s0 : σ} {rest : List Nat} {l r : Nat} {m : RM σ (Option Nat)} {a : Acc F}
    (next : Nat) (e0 : EffI S Inv s s0 rest (S.vals s)) (ha : AccOutI S Inv s0 (m s0) a)
    (hres : ∀ v, a = .some v → K → v ≠ .custom) :
    RefinesOutI S Inv s (((do pushOptional S (← m); pure next : RM σ Nat) >>= fun n => pure (some n)) s0)
      (some next) rest l r (accOut a) := by
  cases a with
  | some v =>
    obtain ⟨x, s1, h1, d1, e1⟩ := ha
    obtain ⟨s2, h2, e2⟩ := pushReg L d1 (hres v rfl)
    rw [e1.regs, e1.vals, e0.regs, e0.vals] at e2
    exact ⟨x, s2, by rw [bind_apply, bind_ok h1]; simp only [pushOptional]; rw [bind_ok h2]; rfl, e2.dec d1,
      (e0.trans e1).trans e2⟩
  | none =>
    obtain ⟨s1, h1, e1⟩ := ha
    obtain ⟨x, s2, h2, d2, e2⟩ := pushUnit_spec L s1
    rw [e1.regs, e1.vals, e0.regs, e0.vals] at e2
    exact ⟨x, s2, by rw [bind_apply, bind_ok h1]; simp only [pushOptional]; rw [bind_ok h2]; rfl, d2,
      (e0.trans e1).trans e2⟩
  | unsupported =>
    simp only [AccOutI] at ha
    show _ = Outcome.err ErrClass.unsupported
    rw [bind_apply, bind_err ha]
  | err e =>
    simp only [AccOutI] at ha
    show _ = Outcome.err e
    rw [bind_apply, bind_err ha]

theorem apply_accInt_spec (L : LawsK S Inv Rd K) (fuel : Nat) (instr : Instruction) (ur : Bool)
    {s : σ} {r l : Nat} {vl : Val F} {i : Int} {rest : List Nat}
    (hregs : S.regs s = r :: l :: rest) (hl : Decodes (S.view s) l vl) (hr : Decodes (S.view s) r (.num (.int i)))
    (harm : applyArm vl.typeOf .number = .accInt) (hd : AccessDomain vl)
    (hres : ∀ v, accessInt fo (.int i) vl = .some v → K → v ≠ .custom)
    (hinv : Inv s := by inv_tac) (hdp : DeepK K S s rest := by deep_tac) :
    applyKind fo instr ur vl (.num (.int i)) = .out (accOut (accessInt fo (.int i) vl)) ∧
    RefinesOutI S Inv s (applyInternal fo S fuel instr ur s) (some (S.cursor s + 1)) rest l r
      (accOut (accessInt fo (.int i) vl)) := by
  have hc := applyArm_case fo instr ur vl (.num (.int i))
  rw [show applyArm vl.typeOf (Val.num (Number.int i) : Val F).typeOf = .accInt from harm] at hc
  obtain ⟨n, hn, hshape, hk⟩ := hc
  cases hn
  obtain ⟨s0, e0, hl0, hr0, hp⟩ := applyInternal_prefix fo L fuel instr ur hregs hl hr
  refine ⟨hk, ?_⟩
  rw [hp]
  -- the three kinds of left operand of the arm: nothing loops, no range is read
  rcases hshape with ⟨ps, rfl⟩ | ⟨xs, rfl⟩ | ⟨a, b, rfl⟩
  all_goals
    have ha := accessWithInteger_spec fo L fuel i hl0 hd (fun a b len hv => by cases hv) (Nat.zero_le _) fun _ => trivial
    have := lookupPushNext (l := l) (r := r) L (S.cursor s + 1) e0 ha hres
    show RefinesOutI S Inv s (((do
        let num ← getNumber S r
        pushOptional S (← accessWithInteger fo S fuel num l)
        pure (S.cursor s + 1) : RM σ Nat) >>= fun n => pure (some n)) s0) (some (S.cursor s + 1)) rest l r _
    rw [bind_apply, bind_ok (getNumber_of hr0)]
    rw [bind_apply] at this
    exact this

theorem apply_accSym_spec (L : LawsK S Inv Rd K) (fuel : Nat) (instr : Instruction) (ur : Bool)
    {s : σ} {r l y : Nat} {vl : Val F} {rest : List Nat}
    (hregs : S.regs s = r :: l :: rest) (hl : Decodes (S.view s) l vl) (hr : Decodes (S.view s) r (.sym y))
    (harm : applyArm vl.typeOf .symbol = .accSym) (hd : AccessDomain vl)
    (hls : (∀ vs, vl ≠ .list vs) ∨ ListSymOn S Inv) (hres : ∀ v, accessSym y vl = .some v → K → v ≠ .custom)
    (hinv : Inv s := by inv_tac) (hdp : DeepK K S s rest := by deep_tac) :
    applyKind fo instr ur vl (.sym y) = .out (accOut (accessSym y vl)) ∧
    RefinesOutI S Inv s (applyInternal fo S fuel instr ur s) (some (S.cursor s + 1)) rest l r
      (accOut (accessSym y vl)) := by
  have hc := applyArm_case fo instr ur vl (.sym y)
  rw [show applyArm vl.typeOf (Val.sym y : Val F).typeOf = .accSym from harm] at hc
  obtain ⟨y', hy, hshape, hk⟩ := hc
  cases hy
  obtain ⟨s0, e0, hl0, hr0, hp⟩ := applyInternal_prefix fo L fuel instr ur hregs hl hr
  refine ⟨hk, ?_⟩
  rw [hp]
  rcases hshape with ⟨a, b, rfl⟩ | ⟨xs, rfl⟩
  all_goals
    have ha := accessWithSymbol_spec fo L fuel y hl0 hd (Nat.zero_le _) (fun _ => trivial) hls
    have := lookupPushNext (l := l) (r := r) L (S.cursor s + 1) e0 ha hres
    show RefinesOutI S Inv s (((do
        let sym ← getSymbol S r
        pushOptional S (← accessWithSymbol fo S fuel sym l)
        pure (S.cursor s + 1) : RM σ Nat) >>= fun n => pure (some n)) s0) (some (S.cursor s + 1)) rest l r _
    rw [bind_apply, bind_ok (getSymbol_of hr0)]
    rw [bind_apply] at this
    exact this

end Core

end Garnish.Lemmas.Runtime
