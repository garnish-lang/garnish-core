/-
Index trees (`Spec.Tree`) between the model of `parse` and the reference parser.  Tree level (nothing there mentions node
arrays): the insertion that one (binary operator, operand) pair performs (`absorbI` for a single leaf, `absorbS` / `insertS` for
an operand subtree), the reading `toRd` of an index tree as a reference tree, the leaves a run of prefix operators and a value
plug into the reference tree (`plugLeaves`), the definition a leaf gets below an Access node (`underDef`).  Node arrays that
represent index trees (`Spec.IsTreeAt`): agreement on the nodes of a tree is enough (`IsTreeAt.frame`), and `NewOpS`: a new
operator node whose right operand is an arbitrary subtree hanging at index `n+1`.
-/
import Garnish.Lemmas.RefParse
import Garnish.Lemmas.Tree
import Garnish.Lemmas.ParserSteps

namespace Garnish.Spec
open Garnish Garnish.Gen Garnish.Model.Parser

/-- the subtree a (binary operator `n`, atom `n+1`) pair puts on top of `s` -/
def newOp (s : Tree) (n ko ka : Nat) : Tree := .node s n ko (.node .nil (n + 1) ka .nil)

/-- insertion of the pair, walking up the right spine from the bottom; `pr i` = priority of node `i`;
    `none` = the walk passed the whole tree -/
def absorbI (pr : Nat → Nat) (q : Nat) (rtl : Bool) (n ko ka : Nat) : Tree → Option Tree
  | .nil => none
  | .node l i k r =>
    match absorbI pr q rtl n ko ka r with
    | some r' => some (.node l i k r')
    | none => if stops q rtl (pr i) then some (.node l i k (newOp r n ko ka)) else none

/-- reference tree of an index tree; `df i` = definition of node `i` -/
def toRd (df : Nat → Definition) : Tree → RTree
  | .nil => .nil
  | .node l i k r => .node (toRd df l) (df i) k (toRd df r)

theorem toRd_isNil (df : Nat → Definition) (t : Tree) : (toRd df t).isNil = true ↔ t = .nil := by
  cases t <;> simp [toRd, RTree.isNil]

def newOpS (s : Tree) (n ko : Nat) (sub : Tree) : Tree := .node s n ko sub

/-- `absorbI` with an arbitrary right operand `sub` for the new operator `n` -/
def absorbS (pr : Nat → Nat) (q : Nat) (rtl : Bool) (n ko : Nat) (sub : Tree) : Tree → Option Tree
  | .nil => none
  | .node l i k r =>
    match absorbS pr q rtl n ko sub r with
    | some r' => some (.node l i k r')
    | none => if stops q rtl (pr i) then some (.node l i k (newOpS r n ko sub)) else none

def insertS (pr : Nat → Nat) (q : Nat) (rtl : Bool) (n ko : Nat) (sub : Tree) (t : Tree) : Tree :=
  match absorbS pr q rtl n ko sub t with
  | some t' => t'
  | none => newOpS t n ko sub

/-- one `plug` per leaf `(definition, position)` -/
def plugLeaves (R : RTree) : List (Definition × Nat) → RTree
  | [] => R
  | (d, k) :: rest => plugLeaves (plug R (.node .nil d k .nil)) rest

theorem plug_isNil_false (R x : RTree) (h : R.isNil = false) : (plug R x).isNil = false := by
  cases R with
  | nil => simp [RTree.isNil] at h
  | group d k inner => rfl
  | node l d k r => simp only [plug]; split <;> rfl

theorem plugLeaves_node (l : RTree) (a : Definition) (k : Nat) :
    ∀ (xs : List (Definition × Nat)) (R : RTree), R.isNil = false →
      plugLeaves (.node l a k R) xs = .node l a k (plugLeaves R xs)
  | [], R, _ => rfl
  | (d, kd) :: rest, R, h => by
    simp only [plugLeaves]
    have : plug (.node l a k R) (.node .nil d kd .nil) = .node l a k (plug R (.node .nil d kd .nil)) := by
      simp [plug, h]
    rw [this]
    exact plugLeaves_node l a k rest _ (plug_isNil_false R _ h)

/-- definition stored for a leaf plugged below a node of definition `dAbove` -/
def underDef (dAbove d : Definition) : Definition :=
  match d with
  | .identifier => if dAbove == .access then .property else d
  | d => d

theorem plug_fresh (l : RTree) (dAbove : Definition) (k : Nat) (d : Definition) (kd : Nat) :
    plug (.node l dAbove k .nil) (.node .nil d kd .nil) = .node l dAbove k (.node .nil (underDef dAbove d) kd .nil) := by
  simp only [plug, RTree.isNil, if_true]
  congr 1
  unfold underDef asProperty
  cases d <;> (split <;> simp_all)

theorem IsTreeAt.frame {nodes arr : Array ParseNode} {p link : Option Nat} {t : Tree} (h : IsTreeAt nodes p link t)
    (ha : ∀ j ∈ t.inorder, arr[j]? = nodes[j]?) : IsTreeAt arr p link t := by
  induction h with
  | nil p => exact .nil p
  | node p i n l r hn hp _ _ ihl ihr =>
    refine .node p i n l r ?_ hp (ihl ?_) (ihr ?_)
    · rw [ha i (by simp [Tree.inorder])]; exact hn
    · intro j hj; exact ha j (by simp [Tree.inorder, hj])
    · intro j hj; exact ha j (by simp [Tree.inorder, hj])

theorem isTreeAt_node {arr : Array ParseNode} {p : Option Nat} {i k : Nat} {l r : Tree} (nd : ParseNode)
    (h1 : arr[i]? = some nd) (h2 : nd.parent = p) (hl : IsTreeAt arr (some i) nd.left l)
    (hr : IsTreeAt arr (some i) nd.right r) (hk : tokPos nd = k) : IsTreeAt arr p (some i) (.node l i k r) := by
  subst hk; exact .node p i nd l r h1 h2 hl hr

theorem walkSpec_append (nodes : Array ParseNode) (q : Nat) (rtl : Bool) :
    ∀ (a b : List Nat) (tl : Option Nat),
      walkSpec nodes q rtl tl (a ++ b) =
        match walkSpec nodes q rtl tl a with
        | (tl', some x) => (tl', some x)
        | (tl', none) => walkSpec nodes q rtl tl' b := by
  intro a
  induction a with
  | nil => intro b tl; simp [walkSpec]
  | cons y rest ih =>
    intro b tl
    simp only [List.cons_append, walkSpec]
    split
    · rfl
    · exact ih b (some y)

/-- the operator node `n` (parent `par`, `left = llink`, `right = rlink`) and the operand subtree `sub` hanging at `rlink`
    (`rlink = some (n+1)` for a binary operator, `none` with `sub = nil` for a suffix operator) -/
structure NewOpS (arr : Array ParseNode) (n ko : Nat) (sub : Tree) (par llink rlink : Option Nat) : Prop where
  op : ∃ on, arr[n]? = some on ∧ on.parent = par ∧ on.left = llink ∧ on.right = rlink ∧ tokPos on = ko
  sub : IsTreeAt arr (some n) rlink sub

theorem newOpS_isTreeAt {arr : Array ParseNode} {n ko : Nat} {sub : Tree} {par llink rlink : Option Nat} {s : Tree}
    (hnew : NewOpS arr n ko sub par llink rlink) (hs : IsTreeAt arr (some n) llink s) :
    IsTreeAt arr par (some n) (newOpS s n ko sub) := by
  obtain ⟨on, h1, h2, h3, h4, h5⟩ := hnew.op
  refine isTreeAt_node on h1 h2 (by rw [h3]; exact hs) ?_ h5
  rw [h4]
  exact hnew.sub

end Garnish.Spec
