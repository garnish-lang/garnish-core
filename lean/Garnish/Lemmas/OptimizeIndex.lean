/-
The index phase (`create_index_stack`): every item it lists is a node of the block it was started on, provided
it is started on a node and the links of nodes lead to nodes.
-/
import Garnish.Lemmas.OptimizeShape
namespace Garnish.BasicOpt
open Garnish

/-- the links of nodes lead to nodes -/
def KidsNodes (s0 : Array Cell) : Prop :=
  ∀ (i : Nat) (sh : Shape), shape s0 i = some sh → ∀ k ∈ sh.kids, ∃ sh2, shape s0 k = some sh2

/-- every cell from `top` on is a `CloneItem` naming a node of `s0`, and the cells of `s0` are still there -/
structure ItemsNodes (s0 : Array Cell) (top : Nat) (cur : Store) : Prop where
  agree : ∀ (i : Nat) (c : Cell), s0[i]? = some c → cur.cells[i]? = some c
  items : ∀ j, top ≤ j → j < cur.cells.size → ∃ o sh, cur.cells[j]? = some (.cloneItem o) ∧ shape s0 o = some sh

theorem ItemsNodes.push {s0 : Array Cell} {top : Nat} {cur cur' : Store} {o i : Nat} {sh : Shape}
    (h : ItemsNodes s0 top cur) (ho : shape s0 o = some sh)
    (hp : cur.push (.cloneItem o) = .ok (cur', i)) : ItemsNodes s0 top cur' := by
  obtain ⟨_, hc, _⟩ := push_ok hp
  refine ⟨?_, ?_⟩
  · intro j c hj
    have := h.agree j c hj
    have hlt : j < cur.cells.size := lt_of_getElem? this
    rw [hc, Array.getElem?_push]; simp [Nat.ne_of_lt hlt, this]
  · intro j hj1 hj2
    rw [hc] at hj2 ⊢
    simp only [Array.size_push] at hj2
    by_cases hj : j = cur.cells.size
    · subst hj; exact ⟨o, sh, by simp, ho⟩
    · obtain ⟨o', sh', h1, h2⟩ := h.items j hj1 (by omega)
      exact ⟨o', sh', by rw [Array.getElem?_push]; simp [hj, h1], h2⟩

theorem pushListItems_nodes {s0 : Array Cell} {top : Nat} (hk : KidsNodes s0) :
    ∀ (n : Nat) (cur cur' : Store) (i : Nat) (items : List Nat), ItemsNodes s0 top cur →
      listItems s0 i n = some items → (∀ a ∈ items, ∃ sh, shape s0 a = some sh) →
      Store.pushListItems cur i n = .ok cur' → ItemsNodes s0 top cur'
  | 0, cur, cur', i, items, hin, _, _, h => by
    simp only [Store.pushListItems, Outcome.ok.injEq] at h
    subst h; exact hin
  | n + 1, cur, cur', i, items, hin, hl, hall, h => by
    simp only [listItems] at hl
    cases hc : s0[i]? with
    | none => simp [hc] at hl
    | some c =>
      rw [hc] at hl
      cases c <;> simp only [] at hl <;> try (simp at hl; done)
      rename_i item
      simp only [Option.map_eq_some_iff] at hl
      obtain ⟨rest, hrest, rfl⟩ := hl
      simp only [Store.pushListItems, Outcome.bind_eq_ok'] at h
      obtain ⟨c', hg, h2⟩ := h
      have hcc := get_ok hg
      rw [hin.agree i _ hc] at hcc
      simp only [Option.some.injEq] at hcc
      subst hcc
      simp only [Outcome.bind_eq_ok'] at h2
      obtain ⟨⟨s1, i1⟩, hp, h3⟩ := h2
      obtain ⟨sh, hsh⟩ := hall item (by simp)
      exact pushListItems_nodes hk n s1 cur' (i + 1) rest (hin.push hsh hp) hrest
        (fun a ha => hall a (by simp [ha])) h3

theorem pushChildren_nodes {s0 : Array Cell} {top : Nat} (hk : KidsNodes s0)
    {cur cur' : Store} {index : Nat} {c : Cell} {sh : Shape} (hin : ItemsNodes s0 top cur)
    (hc : s0[index]? = some c) (hsh : shape s0 index = some sh)
    (h : Store.pushChildren cur index c = .ok cur') : ItemsNodes s0 top cur' := by
  have hkids := hk index sh hsh
  have p1 : ∀ {a : Nat}, (∃ sh2, shape s0 a = some sh2) → Store.push1 cur a = .ok cur' → ItemsNodes s0 top cur' := by
    intro a ⟨sh2, ha⟩ h
    simp only [Store.push1, Outcome.bind_eq_ok', Outcome.pure_eq_ok_iff] at h
    obtain ⟨⟨s1, i1⟩, hp, rfl⟩ := h
    exact hin.push ha hp
  have p2 : ∀ {a b : Nat}, (∃ sh2, shape s0 a = some sh2) → (∃ sh2, shape s0 b = some sh2) →
      Store.push2 cur a b = .ok cur' → ItemsNodes s0 top cur' := by
    intro a b ⟨sha, ha⟩ ⟨shb, hb⟩ h
    simp only [Store.push2, Outcome.bind_eq_ok', Outcome.pure_eq_ok_iff] at h
    obtain ⟨⟨s1, i1⟩, hp1, ⟨s2, i2⟩, hp2, rfl⟩ := h
    exact (hin.push ha hp1).push hb hp2
  unfold shape at hsh
  rw [hc] at hsh
  unfold Store.pushChildren at h
  cases c <;> simp only [] at h hsh <;> try (simp at hsh; done)
  all_goals first
    | (simp only [Outcome.ok.injEq] at h; subst h; exact hin)
    | (simp only [Option.some.injEq] at hsh; subst hsh
       exact p2 (hkids _ (by simp)) (hkids _ (by simp)) h)
    | (simp only [Option.some.injEq] at hsh; subst hsh
       exact p1 (hkids _ (by simp)) h)
    | (simp only [Option.map_eq_some_iff] at hsh
       obtain ⟨jp, _, rfl⟩ := hsh
       first
         | exact p2 (hkids _ (by simp)) (hkids _ (by simp)) h
         | exact p1 (hkids _ (by simp)) h
         | (simp only [Outcome.ok.injEq] at h; subst h; exact hin))
    | (split at hsh
       · rename_i items keys targets h1 h2
         simp only [Option.some.injEq] at hsh
         subst hsh
         exact pushListItems_nodes hk _ _ _ _ items hin h1
           (fun a ha => hkids a (by simp [ha])) h
       · simp at hsh)

theorem indexLoop_nodes {s0 : Array Cell} {top : Nat} (hk : KidsNodes s0) (maxIter : Nat) :
    ∀ (fuel : Nat) (cur cur' : Store) (current it : Nat), ItemsNodes s0 top cur → top ≤ current →
      Store.indexLoop maxIter fuel cur current it = .ok cur' → ItemsNodes s0 top cur'
  | 0, _, _, _, _, _, _, h => by simp [Store.indexLoop] at h
  | fuel + 1, cur, cur', current, it, hin, hcur, h => by
    simp only [Store.indexLoop] at h
    split at h
    · rename_i hlt
      simp only [Store.cursor] at hlt
      simp only [Outcome.bind_eq_ok'] at h
      obtain ⟨ci, hgi, h2⟩ := h
      have hci := get_ok hgi
      obtain ⟨o, sh, ho, hsh⟩ := hin.items current hcur hlt
      rw [ho] at hci
      simp only [Option.some.injEq] at hci
      subst hci
      simp only [Outcome.bind_eq_ok'] at h2
      obtain ⟨c, hgc, s1, hpc, h3⟩ := h2
      obtain ⟨c0, hc0⟩ := shape_cell hsh
      have hcc : c = c0 := by
        have := hin.agree o c0 hc0
        rw [get_ok hgc] at this
        exact Option.some.inj this
      subst hcc
      split at h3
      · simp at h3
      · exact indexLoop_nodes hk maxIter fuel s1 cur' (current + 1) (it + 1) (pushChildren_nodes hk hin hc0 hsh hpc)
          (by omega) h3
    · simp only [Outcome.ok.injEq] at h
      subst h; exact hin

theorem createIndexStack_nodes {s0 : Array Cell} {top : Nat} (hk : KidsNodes s0)
    {cur cur' : Store} {frm st : Nat} {sh : Shape} (hin : ItemsNodes s0 top cur) (hle : top ≤ cur.cells.size)
    (hfrm : shape s0 frm = some sh) (h : Store.createIndexStack cur frm = .ok (cur', st)) :
    ItemsNodes s0 top cur' := by
  simp only [Store.createIndexStack, Outcome.bind_eq_ok', Outcome.pure_eq_ok_iff, Prod.mk.injEq] at h
  obtain ⟨⟨s1, i1⟩, hp, s2, hl, hs2, _⟩ := h
  subst hs2
  have hi1 := (push_ok hp).1
  exact indexLoop_nodes hk _ _ _ _ _ _ (hin.push hfrm hp) (by simp only at hi1 ⊢; omega) hl

end Garnish.BasicOpt
