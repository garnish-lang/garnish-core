/-
From the `NoCustom` invariant to the coverage predicate of the relativised refinement: `NoCustom` gives the side conditions `≠ custom`,
`ncNodes`, `ncConcat`, `NoCustomTop`; what remains is the dynamic condition `DynOK`, and `machOKOn4_of` assembles `MachOKOn4` from the
depth facts, `NoCustom`, custom-free constants and `DynOK`. `runOKOn4_of_balanced` is the static discharge for the whole instruction
set; the coverage predicate moves along `reloc`. The declarations are in namespace `Garnish.Lemmas.NoCustom`: the file continues
Lemmas/NoCustom.lean.
-/
import Garnish.Lemmas.NoCustom
import Garnish.Lemmas.RuntimeOnBalanced
namespace Garnish.Lemmas.NoCustom
open Garnish Gen Garnish.Abs Garnish.Model.Equality Garnish.Model.Runtime Garnish.Lemmas.Runtime
open Garnish.Lemmas.Runtime.On Garnish.Props.C06

section
variable {F : Type} {fo : FloatOps F} {host : Host F} {P : Prog F}

theorem nc_ne {v : Val F} (h : nc v = true) : v ≠ .custom := by
  intro hv; subst hv; cases h

theorem ncNodes_of_nc : ∀ (v : Val F), nc v = true → ncNodes v
  | .concat l r, h => by simp [nc] at h; exact ⟨ncNodes_of_nc l h.1, ncNodes_of_nc r h.2⟩
  | .custom, h => by cases h
  | .unit, _ | .tru, _ | .fls, _ | .num _, _ | .char _, _ | .byte _, _ | .sym _, _ | .expr _, _ | .ext _, _
  | .type _, _ | .chars _, _ | .bytes _, _ | .symList _, _ | .pair _ _, _ | .list _, _ | .range _ _, _
  | .slice _ _, _ | .part _ _, _ => trivial

theorem ncConcat_of_nc {v : Val F} (h : nc v = true) : ncConcat v := by
  cases v <;> first | trivial | (simp [nc] at h; exact ⟨ncNodes_of_nc _ h.1, ncNodes_of_nc _ h.2⟩)

theorem noCustomTop_of {m : MState F} (h : NoCustom m) : NoCustomTop m :=
  ⟨fun v hv => nc_ne ((ncL_iff _).mp h.regs v hv), fun v hv => nc_ne ((ncL_iff _).mp h.vals v hv)⟩

theorem noCustom_reach (HN : HostNoCustom host) (hc : ConstsNC P) {entries : List Nat} {s0 s : MState F}
    (h0 : NoCustom s0) (hr : ReachK fo host P entries s0 s) : NoCustom s := by
  induction hr with
  | refl => exact h0
  | snoc _ hs _ ih => exact step_nc HN hc ih (Or.inl hs)

theorem noCustom_start {entry : Nat} {vals : List (Val F)} {tr : List (HostCall F)} (hv : ncL vals = true) :
    NoCustom (⟨entry, [], vals, [], tr⟩ : MState F) := ⟨rfl, hv, fun _ h => by cases h⟩
end

section
variable {F σ : Type} (fo : FloatOps F)

/-- a symbol look-up into a LIST needs the store's `get_list_item_with_symbol` clause -/
def ListSymAlt (S : RStore F σ) (Inv : σ → Prop) (key cur : Val F) : Prop :=
  (∀ y, key = .sym y → ∀ vs, cur ≠ .list vs) ∨ ListSymOn S Inv

/-- the `ListSymAlt` condition along a path -/
def PathLS (S : RStore F σ) (Inv : σ → Prop) : List (SymPart F) → Val F → Prop
  | [], _ => True
  | p :: ps, cur => ((∀ y, p = .sym y → ∀ vs, cur ≠ .list vs) ∨ ListSymOn S Inv) ∧
      ∀ v, pathLookup fo p cur = .some v → PathLS S Inv ps v

/-- what remains of `ApplyDomainOn` once "no custom" is known -/
def ApplyDyn (S : RStore F σ) (Inv : σ → Prop) (ur : Bool) (vl vr : Val F) : Prop :=
  match applyArm vl.typeOf vr.typeOf with
  | .accSym => (∀ vs, vl ≠ .list vs) ∨ ListSymOn S Inv
  | .path => ∀ items ps, vl = .list items → vr = .symList ps → PathLS fo S Inv ps (.list items)
  | .partial_ => ∀ j input, vl = .part (.expr j) input → ur = true →
      (∀ x y, input ≠ .slice x y) ∧ (∀ x y, vr ≠ .slice x y)
  | _ => True

/-- **the residual DYNAMIC side condition** of the relativised refinement, once the depth conditions come from stack
balance and the "no custom" conditions from the `NoCustom` invariant. It demands, per instruction:
* comparisons: `CompareDomain` (texts shorter than 2^31, fuel ≥ the shorter length + 1, the code-faithful comparison
  agrees with Abs/Ops — i.e. no slice of text / bytes with a range `sliceStart` rejects);
* `Concat`: neither operand is a slice;
* `Apply` / `EmptyApply`: `ApplyDomain` (look-up arms: `AccessDomain`, integer key; path: `PathDomain`; slice over a
  range) and `ApplyDyn` (symbol look-up into a list only with `ListSymOn`; `input <> argument` without slice operands);
* `Access`: `AccessOK` (sequences shorter than 2^31, fuel, integer keys, ordered ranges), `ListSymAlt`, merge arm without
  number operands;
* `Resolve`: the same look-up domain for the key in the current input value;
* `Equal` / `NotEqual`: `EqualDomain` (no slices, fuel); `AccessLengthInternal`: `LengthDomain`, fuel.
Every other instruction: nothing. -/
def DynOK (S : RStore F σ) (Inv : σ → Prop) (P : Prog F) (fuel : Nat) (m : MState F) (instr : Instruction)
    (operand : Option Nat) : Prop :=
  match instr with
  | .lessThan | .lessThanOrEqual | .greaterThan | .greaterThanOrEqual =>
    ∀ vr vl rs, m.regs = vr :: vl :: rs → CompareDomain fo fuel vl vr
  | .concat => ∀ vr vl rs, m.regs = vr :: vl :: rs → (∀ x y, vl ≠ .slice x y) ∧ (∀ x y, vr ≠ .slice x y)
  | .apply => ∀ vr vl rs, m.regs = vr :: vl :: rs → ApplyDomain fo fuel vl vr ∧ ApplyDyn fo S Inv true vl vr
  | .emptyApply => ∀ vl rs, m.regs = vl :: rs → ApplyDomain fo fuel vl .unit ∧ ApplyDyn fo S Inv false vl .unit
  | .access => ∀ vr vl rs, m.regs = vr :: vl :: rs → AccessOK fo fuel vl vr ∧
      (accessArm vl.typeOf vr.typeOf = .get → ListSymAlt S Inv vr vl) ∧
      (accessArm vl.typeOf vr.typeOf = .merge → (∀ n, vl ≠ .num n) ∧ (∀ n, vr ≠ .num n))
  | .resolve => ∀ k key, operand = some k → P.consts[k]? = some key → ∀ cur vs, m.vals = cur :: vs →
      (AccessDomain cur ∧ accessFuel cur ≤ fuel ∧ ∀ n, key = .num n → (∃ i, n = .int i) ∧ RangeOrdered fo n cur) ∧
      ListSymAlt S Inv key cur
  | .equal | .notEqual => ∀ vr vl rs, m.regs = vr :: vl :: rs → EqualDomain fuel vl vr
  | .accessLengthInternal => ∀ v rs, m.regs = v :: rs → LengthDomain v ∧ accessFuel v ≤ fuel
  | _ => True

variable {S : RStore F σ} {Inv : σ → Prop}

theorem nc_pathLookup {p : SymPart F} {cur v : Val F} (hc : nc cur = true) (h : pathLookup fo p cur = .some v) :
    nc v = true := by
  cases p with
  | sym y => exact nc_accessSym hc h
  | num n => exact nc_accessInt fo hc h

theorem pathOn_of : ∀ (ps : List (SymPart F)) (cur : Val F), nc cur = true → PathLS fo S Inv ps cur →
    PathOn fo S Inv ps cur
  | [], _, _, _ => trivial
  | _ :: ps, _, hc, h => ⟨ncConcat_of_nc hc, h.1, fun v hv => pathOn_of ps v (nc_pathLookup fo hc hv) (h.2 v hv)⟩

theorem applyDomainOn_of {ur : Bool} {vl vr : Val F} (hl : nc vl = true) (hr : nc vr = true)
    (h : ApplyDyn fo S Inv ur vl vr) : ApplyDomainOn fo S Inv ur vl vr := by
  unfold ApplyDomainOn
  unfold ApplyDyn at h
  cases harm : applyArm vl.typeOf vr.typeOf <;> rw [harm] at h <;> simp only [] at h ⊢
  case accInt => exact fun i _ v hv => nc_ne (nc_accessInt fo hl hv)
  case accSym => exact ⟨h, fun y _ v hv => nc_ne (nc_accessSym hl hv)⟩
  case path =>
    intro items ps h1 h2
    subst h1
    exact ⟨pathOn_of fo ps _ hl (h items ps rfl h2), fun v hv => nc_ne (nc_accessPath fo ps _ v hl hv)⟩
  case expression => exact nc_ne hr
  case partial_ =>
    intro j input h1
    subst h1
    refine ⟨?_, h j input rfl⟩
    cases ur
    · simp [nc] at hl; exact nc_ne hl
    · intro hc; cases hc

theorem lookupOn_of {key cur : Val F} (hc : nc cur = true) (h : ListSymAlt S Inv key cur) : LookupOn fo S Inv key cur :=
  ⟨ncConcat_of_nc hc, h, fun _ hv => nc_ne (nc_getAccess fo hc hv)⟩
end

section
variable {F σ : Type} (fo : FloatOps F) {S : RStore F σ} {Inv : σ → Prop} {P : Prog F}

theorem machOKOn4_of {fuel : Nat} {m : MState F} {i : Instruction} {o : Option Nat}
    (hdeep : MDeepN m (arityOf i o)) (hend : i = .endExpression → m.frames = [] → ∃ r, m.regs = [r])
    (hnc : NoCustom m) (hc : ConstsNC P) (hdyn : DynOK fo S Inv P fuel m i o) :
    MachOKOn4 fo S Inv P fuel m i o := by
  have top : ∀ r rs, m.regs = r :: rs → r ≠ .custom := fun r rs h => nc_ne (head_nc hnc.regs h).1
  have vtop : ∀ v vs, m.vals = v :: vs → v ≠ .custom := fun v vs h => nc_ne (head_nc hnc.vals h).1
  have nc1 : ∀ r rs, m.regs = r :: rs → nc r = true := fun r rs h => (head_nc hnc.regs h).1
  have nc2 : ∀ a b rs, m.regs = a :: b :: rs → nc a = true ∧ nc b = true := fun a b rs h =>
    ⟨(head_nc hnc.regs h).1, (head_nc (head_nc hnc.regs h).2 rfl).1⟩
  have one : arityOf i o = 1 → ∀ r rs, m.regs = r :: rs → MDeep m rs := fun h1 r rs hr => (h1 ▸ hdeep).one hr
  cases i
  case invalid => trivial
  case jumpTo => trivial
  case applyType => trivial
  case put => exact fun k v _ hk => nc_ne (hc k v hk)
  case putValue => exact vtop
  case startSideEffect => exact vtop
  case pushValue => exact fun r rs h => ⟨top r rs h, one rfl r rs h⟩
  case updateValue => exact fun r rs h => ⟨top r rs h, one rfl r rs h⟩
  case jumpIfTrue => exact fun r rs h => one rfl r rs h
  case jumpIfFalse => exact fun r rs h => one rfl r rs h
  case endExpression =>
    exact fun r rs h => ⟨top r rs h, one rfl r rs h, fun hf => by
      obtain ⟨x, hx⟩ := hend rfl hf
      rw [hx] at h; cases h; rfl⟩
  case lessThan => exact ⟨hdeep, hdyn⟩
  case lessThanOrEqual => exact ⟨hdeep, hdyn⟩
  case greaterThan => exact ⟨hdeep, hdyn⟩
  case greaterThanOrEqual => exact ⟨hdeep, hdyn⟩
  case concat => exact ⟨hdeep, hdyn⟩
  case makeList => exact fun n hn => by subst hn; exact hdeep
  case apply =>
    refine ⟨hdeep, fun vr vl rs h => ?_⟩
    obtain ⟨h1, h2⟩ := hdyn vr vl rs h
    exact ⟨h1, applyDomainOn_of fo (nc2 vr vl rs h).2 (nc2 vr vl rs h).1 h2⟩
  case emptyApply =>
    refine ⟨hdeep, fun vl rs h => ?_⟩
    obtain ⟨h1, h2⟩ := hdyn vl rs h
    exact ⟨h1, applyDomainOn_of fo (nc1 vl rs h) rfl h2⟩
  case reapply => exact ⟨hdeep, top⟩
  case access =>
    refine ⟨hdeep, fun vr vl rs h => ?_⟩
    obtain ⟨h1, h2, h3⟩ := hdyn vr vl rs h
    exact ⟨h1, fun hg => lookupOn_of fo (nc2 vr vl rs h).2 (h2 hg), h3⟩
  case resolve =>
    refine ⟨hdeep, fun k key hk hkey cur vs hv => ?_⟩
    obtain ⟨h1, h2⟩ := hdyn k key hk hkey cur vs hv
    exact ⟨h1, lookupOn_of fo (head_nc hnc.vals hv).1 h2⟩
  case equal => exact ⟨hdeep, hdyn⟩
  case notEqual => exact ⟨hdeep, hdyn⟩
  case accessLeftInternal =>
    refine ⟨hdeep, fun v rs h x hx => ?_⟩
    have := outNC_left (nc1 v rs h)
    rw [hx] at this
    exact nc_ne this
  case accessRightInternal =>
    refine ⟨hdeep, fun v rs h x hx => ?_⟩
    have := outNC_right (nc1 v rs h)
    rw [hx] at this
    exact nc_ne this
  case accessLengthInternal =>
    exact ⟨hdeep, fun v rs h => ⟨(hdyn v rs h).1, (hdyn v rs h).2, ncConcat_of_nc (nc1 v rs h)⟩⟩
  all_goals exact hdeep
end

section
variable {F σ : Type} {fo : FloatOps F} {host : Host F} {S : RStore F σ} {Inv : σ → Prop} {P : Prog F}

theorem runOKOn4_of_balanced {entry : Nat} {d : Array (Option Nat)} (h : absDepth P entry = some d)
    (hentry : entry < P.instrs.size) (vals : List (Val F)) (tr : List (HostCall F)) (fuel : Nat)
    (HN : HostNoCustom host) (hc : ConstsNC P) (hv : ncL vals = true)
    (hdyn : ∀ s, ReachK fo host P (entry :: exprEntries P) ⟨entry, [], vals, [], tr⟩ s → ∀ i o,
      P.instrs[s.pc]? = some (i, o) → DynOK fo S Inv P fuel s i o)
    (hcalls : ∀ s s', ReachK fo host P (entry :: exprEntries P) ⟨entry, [], vals, [], tr⟩ s →
      Abs.step fo host P s = .running s' → s'.frames.length = s.frames.length + 1 → s'.pc ∈ entry :: exprEntries P)
    (n : Nat) : RunOKG fo (MachOKOn4 fo S Inv P fuel) host P n ⟨entry, [], vals, [], tr⟩ :=
  runOKG_of_reach (MachOKOn4 fo S Inv P fuel) (entry :: exprEntries P) _
    (fun s hr i o hf => by
      obtain ⟨hd, he⟩ := deep_of_balanced (fo := fo) (host := host) h hentry vals tr hr hf
      exact machOKOn4_of fo hd he (noCustom_reach HN hc (noCustom_start hv) hr) hc (hdyn s hr i o hf))
    hcalls n _ (.refl _)

theorem machOKOn4_reloc {fuel : Nat} {m : MState F} {i : Instruction} {o : Option Nat}
    (h : MachOKOn4 fo S Inv P fuel m i o) :
    MachOKOn4 fo S Inv (reloc P) fuel m (relocI (i, o)).1 (relocI (i, o)).2 := by
  -- only `Put k` and `Resolve k` are relocated, and only their conditions mention the constants
  cases i
  case put =>
    cases o with
    | none => exact fun k v hk _ => nomatch hk
    | some k0 => intro k v hk hc; cases hk; rw [reloc_const] at hc; exact h _ v rfl hc
  case resolve =>
    cases o with
    | none => exact ⟨h.1, fun k key hk _ => nomatch hk⟩
    | some k0 => exact ⟨h.1, fun k key hk hc => by cases hk; rw [reloc_const] at hc; exact h.2 _ key rfl hc⟩
  all_goals exact h

theorem constsNC_reloc (hc : ConstsNC P) : ConstsNC (reloc P) := by
  intro k v hk
  match k with
  | 0 => simp [reloc] at hk; subst hk; rfl
  | 1 => simp [reloc] at hk; subst hk; rfl
  | 2 => simp [reloc] at hk; subst hk; rfl
  | k + 3 => rw [reloc_const] at hk; exact hc k v hk
end

end Garnish.Lemmas.NoCustom
