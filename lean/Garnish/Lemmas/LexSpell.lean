/-
Lexing of SPELLED literals, part 1 (C14, lexer side): an explicit description of the lexer in the middle of a token
(`At`: state, pending type and text, start of the token, position in the text, quote counters) and one step of
`process_char` from `At` to `At` for any case of an arm (`ArmStep`): `At.cont` for a case that continues the token,
`At.emit` for one that ends it. How the next token starts: LexSpell2.
-/
import Garnish.Lemmas.LexEnder
namespace Garnish.Model.Lexer
open Garnish.Model Garnish.Model.Parser Garnish.Spec

/-- row and column after one more character: the tail of `process_char` -/
def adv (p : Nat × Nat) (x : Char) : Nat × Nat := if x == '\n' then (p.1 + 1, 0) else (p.1, p.2 + 1)

def advs (p : Nat × Nat) (xs : List Char) : Nat × Nat := xs.foldl adv p

theorem advs_cons (p : Nat × Nat) (x : Char) (xs : List Char) : advs p (x :: xs) = advs (adv p x) xs := rfl

theorem advs_append (p : Nat × Nat) (xs ys : List Char) : advs p (xs ++ ys) = advs (advs p xs) ys := by
  simp [advs, List.foldl_append]

theorem advs_snoc (p : Nat × Nat) (xs : List Char) (x : Char) : advs p (xs ++ [x]) = adv (advs p xs) x := by
  rw [advs_append]; rfl

theorem advs_noNewline : ∀ (xs : List Char) (p : Nat × Nat), '\n' ∉ xs → advs p xs = (p.1, p.2 + xs.length)
  | [], p, _ => rfl
  | x :: xs, p, h => by
    have hx : (x == '\n') = false := by
      have : x ≠ '\n' := fun e => h (by simp [e])
      simpa using this
    rw [advs_cons, advs_noNewline xs _ (fun m => h (List.mem_cons_of_mem _ m))]
    simp only [adv, hx, Bool.false_eq_true, ↓reduceIte, List.length_cons]
    congr 1; omega

/-- the lexer in the middle of a token that started at `p0`, the text position is `p`; nothing went wrong so far -/
structure At (σ : Lexer) (st : LexingState) (ty : Option Gen.TokenType) (cs : List Char) (p0 p : Nat × Nat)
    (sq eq : Nat) (ae : Bool) : Prop where
  state : σ.state = st
  type : σ.currentTokenType = ty
  chars : σ.currentCharacters = cs
  srow : σ.tokenStartRow = p0.1
  scol : σ.tokenStartColumn = p0.2
  trow : σ.textRow = p.1
  tcol : σ.textColumn = p.2
  create : σ.shouldCreate = true
  ok : σ.result = .ok
  tree : σ.operatorTree = theTree
  atEnd : σ.atEnd = ae
  sq : σ.startQuoteCount = sq
  eq : σ.endQuoteCount = eq

theorem At.lexed {σ : Lexer} {st ty cs p0 p sq eq ae} (h : At σ st ty cs p0 p sq eq ae) (n : Nat) :
    At { σ with charactersLexed := n } st ty cs p0 p sq eq ae :=
  ⟨h.state, h.type, h.chars, h.srow, h.scol, h.trow, h.tcol, h.create, h.ok, h.tree, h.atEnd, h.sq, h.eq⟩

theorem At.setAtEnd {σ : Lexer} {st ty cs p0 p sq eq ae} (h : At σ st ty cs p0 p sq eq ae) (b : Bool) :
    At { σ with atEnd := b } st ty cs p0 p sq eq b :=
  ⟨h.state, h.type, h.chars, h.srow, h.scol, h.trow, h.tcol, h.create, h.ok, h.tree, rfl, h.sq, h.eq⟩

theorem At.bump {e : Lexer} {st ty cs p0 p sq eq ae} (h : At e st ty cs p0 p sq eq ae) (x : Char) :
    At (bumpColumn e x) st ty cs p0 (adv p x) sq eq ae := by
  obtain ⟨h1, h2, h3, h4, h5, h6, h7, h8, h9, h10, h11, h12, h13⟩ := h
  unfold bumpColumn adv
  split
  · exact ⟨h1, h2, h3, h4, h5, congrArg (· + 1) h6, rfl, h8, h9, h10, h11, h12, h13⟩
  · exact ⟨h1, h2, h3, h4, h5, h6, congrArg (· + 1) h7, h8, h9, h10, h11, h12, h13⟩

theorem ArmStep.create_cont {cc : CharClass} {σ σ1 : Lexer} {c : Char} (h : ArmStep cc σ c σ1 false) :
    σ1.shouldCreate = σ.shouldCreate := by
  cases h <;> rfl

/-- one continuing case of an arm, from `At` to `At`: the arm keeps the frame part (`ArmStep.armFrame`); the token part
(state, type, text, quote counters) is read off the case -/
theorem At.cont {cc : CharClass} {σ e : Lexer} {x : Char} {st ty cs p0 p sq eq ae st' ty' cs' sq' eq'}
    (h : At σ st ty cs p0 p sq eq ae)
    (ha : ArmStep cc { σ with charactersLexed := σ.charactersLexed + 1 } x e false)
    (h1 : e.state = st') (h2 : e.currentTokenType = ty') (h3 : e.currentCharacters = cs')
    (h4 : e.startQuoteCount = sq') (h5 : e.endQuoteCount = eq') :
    ∃ σ', processChar cc σ x = .ok (σ', none) ∧ At σ' st' ty' cs' p0 (adv p x) sq' eq' ae := by
  have f := ha.armFrame
  exact ⟨_, processChar_cont ha, At.bump ⟨h1, h2, h3, f.tokenStartRow.trans h.srow, f.tokenStartColumn.trans h.scol,
    f.textRow.trans h.trow, f.textColumn.trans h.tcol, ha.create_cont.trans h.create, f.result.trans h.ok,
    f.operatorTree.trans h.tree, f.atEnd.trans h.atEnd, h4, h5⟩ x⟩

theorem At.emit {cc : CharClass} {σ e : Lexer} {x : Char} {st ty0 cs0 p0 p sq eq ae ty cs}
    (h : At σ st ty0 cs0 p0 p sq eq ae)
    (ha : ArmStep cc { σ with charactersLexed := σ.charactersLexed + 1 } x e true)
    (h2 : e.currentTokenType = some ty) (hne : ty ≠ .identifier) (h3 : e.currentCharacters = cs) :
    processChar cc σ x = .ok (bumpColumn (restart cc e x) x, some ⟨cs, ty, p0.1, p0.2⟩) := by
  have f := ha.armFrame
  rw [processChar_emit ha (by unfold canCreateValidToken; simp only [h2]) h2, pendingTok, h3, f.tokenStartRow,
    f.tokenStartColumn]
  show Outcome.ok (_, some (LexerToken.mk cs ty σ.tokenStartRow σ.tokenStartColumn)) = _
  rw [h.srow, h.scol]

theorem not_sentinel {σ : Lexer} {x : Char} (h : σ.atEnd = false) : ¬(x == '\x00' && σ.atEnd) = true := by simp [h]

end Garnish.Model.Lexer
