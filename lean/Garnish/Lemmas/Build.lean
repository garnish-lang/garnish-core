/-
Theorems about the builder model (Garnish/Model/Build.lean).  `build_appends_only` (the core of C20: what the start state
holds is a prefix of the result and no jump entry below the initial length is modified; every tree, fuel and start state) and
`build_no_panic` (links in range, symbol / byte-list texts that avoid the two slicing panics of the literal layer) are
invariants of the two work-list loops, read off the twelve visits of Lemmas/BuildVisit.lean (`Visit.inv`, `Visit.np`).
`validateParseTree_good`: the validation pass returns, and a successful one establishes `Validated`; that the emitting
traversal of a validated tree terminates within `defaultFuel` is `build_total` in Lemmas/BuildTotalLoops.lean.
-/
import Garnish.Lemmas.ListFacts
import Garnish.Lemmas.BuildReach
namespace Garnish.Lemmas.Build
open Garnish Garnish.Gen Garnish.Model.Parser Garnish.Model.Literals Garnish.Model.Build

variable {F : Type}

structure Ext (d0 d : BState F) : Prop where
  instrs : ∃ l, d.instrs.toList = d0.instrs.toList ++ l
  consts : ∃ l, d.consts.toList = d0.consts.toList ++ l
  metadata : ∃ l, d.metadata.toList = d0.metadata.toList ++ l
  jumpsSize : d0.jumps.size ≤ d.jumps.size
  jumpsLow : ∀ i, i < d0.jumps.size → d.jumps[i]? = d0.jumps[i]?

theorem Ext.refl (d : BState F) : Ext d d :=
  ⟨⟨[], by simp⟩, ⟨[], by simp⟩, ⟨[], by simp⟩, Nat.le_refl _, fun _ _ => rfl⟩

theorem ext_pushInstr {d0 d : BState F} (h : Ext d0 d) (i : Instruction) (o m : Option Nat) : Ext d0 (pushInstr d i o m) := by
  obtain ⟨⟨l1, h1⟩, h2, ⟨l3, h3⟩, h4, h5⟩ := h
  exact ⟨⟨l1 ++ [(i, o)], by simp [pushInstr, h1]⟩, h2, ⟨l3 ++ [m], by simp [pushInstr, h3]⟩, h4, h5⟩

theorem ext_pushToJumpTable {d0 d : BState F} (h : Ext d0 d) (v : Nat) : Ext d0 (pushToJumpTable d v) := by
  obtain ⟨h1, h2, h3, h4, h5⟩ := h
  refine ⟨h1, h2, h3, ?_, ?_⟩
  · simp [pushToJumpTable]; omega
  · intro i hi
    have : i < d.jumps.size := by omega
    simp [pushToJumpTable, Array.getElem?_push, Nat.ne_of_lt this, h5 i hi]

theorem ext_addConst {d0 d : BState F} (h : Ext d0 d) (v : Val F) : Ext d0 (addConst d v).1 := by
  obtain ⟨h1, ⟨l2, h2⟩, h3, h4, h5⟩ := h
  exact ⟨h1, ⟨l2 ++ [v], by simp [addConst, h2]⟩, h3, h4, h5⟩

theorem ext_setJump {d0 d d' : BState F} (h : Ext d0 d) {i v : Nat} (hi : d0.jumps.size ≤ i)
    (hs : setJump? d i v = some d') : Ext d0 d' := by
  obtain ⟨h1, h2, h3, h4, h5⟩ := h
  unfold setJump? at hs
  split at hs
  · cases hs
    refine ⟨h1, h2, h3, by simpa using h4, ?_⟩
    intro k hk
    have : i ≠ k := by omega
    simp [this, h5 k hk]
  · cases hs

/-- the jump entries a build node will have patched (its own and those of its recorded arms) are at or above `j0` -/
def BnOk (j0 : Nat) (n : BuildNode) : Prop :=
  (∀ j, n.jumpIndexToUpdate = some j → j0 ≤ j) ∧ (∀ c, c ∈ n.conditionalItems.toList → j0 ≤ c.jumpIndexToUpdate)

theorem bnOk_congr {j0 : Nat} {n n' : BuildNode} (h : BnOk j0 n) (h1 : n'.jumpIndexToUpdate = n.jumpIndexToUpdate)
    (h2 : n'.conditionalItems = n.conditionalItems) : BnOk j0 n' := by
  unfold BnOk at *; rw [h1, h2]; exact h

theorem bnOk_new (j0 a b : Nat) : BnOk j0 (BuildNode.new a b) := by simp [BnOk, BuildNode.new]
theorem bnOk_newWithJump {j0 j : Nat} (a b : Nat) (h : j0 ≤ j) : BnOk j0 (BuildNode.newWithJump a b j) := by
  simp [BnOk, BuildNode.newWithJump, BuildNode.new]; exact h
theorem bnOk_newWithJumpAndEnd {j0 j : Nat} (a b : Nat) (e : List Instr) (h : j0 ≤ j) :
    BnOk j0 (BuildNode.newWithJumpAndEnd a b j e) := by
  simp [BnOk, BuildNode.newWithJumpAndEnd, BuildNode.new]; exact h

theorem ext_addConst_eq {d0 d d' : BState F} {v : Val F} {a : Nat} (heq : addConst d v = (d', a)) (h : Ext d0 d) : Ext d0 d' := by
  have := ext_addConst h v; rw [heq] at this; exact this

theorem ext_parseAddSymbol_eq {d0 d d' : BState F} {s : List Char} {a : Nat} (heq : parseAddSymbol d s = (d', a)) (h : Ext d0 d) :
    Ext d0 d' := ext_addConst_eq heq h

section handlers
open Garnish.Lemmas.BuildPlan Garnish.Lemmas.BuildTotal

/-- the invariant of the two work-list loops -/
def Inv (d0 : BState F) (ctx : Ctx F) : Prop := Ext d0 ctx.data ∧ AllNodes (BnOk d0.jumps.size) ctx.nodes

/-- what a plan has to satisfy for `Inv d0` to survive it -/
structure PlanInv (d0 : BState F) (p : Plan F) : Prop where
  data : Ext d0 p.data
  puts : ∀ q, q ∈ p.puts → BnOk d0.jumps.size q.2
  sets : ∀ q, q ∈ p.sets → BnOk d0.jumps.size q.2.1

variable {d0 : BState F} {ctx : Ctx F} {ni : Nat} {pn : ParseNode} {node : BuildNode}

theorem plan_inv (h : Inv d0 ctx) {x : Outcome (Plan F)} (hx : Sat (PlanInv d0) x) : Sat (Inv d0) (Outcome.bind x (·.run ctx)) :=
  sat_bind hx fun _ hp => Plan.run_sat fun _ => And.intro hp.data (Plan.apply_all h.2 hp.puts hp.sets)

theorem ext_emitAll : ∀ (evs : List (Ev F)) {d : BState F}, Ext d0 d → Ext d0 (emitAll d evs)
  | [], _, h => h
  | .instr _ _ _ :: evs, _, h => ext_emitAll evs (ext_pushInstr h _ _ _)
  | .hole :: evs, _, h => ext_emitAll evs (ext_pushToJumpTable h _)
  | .here :: evs, _, h => ext_emitAll evs (ext_pushToJumpTable h _)
  | .const _ :: evs, _, h => ext_emitAll evs (ext_addConst h _)

theorem planInv_emitAll {d : BState F} {evs : List (Ev F)} {puts : List (Nat × BuildNode)} {sets : List (Nat × BuildNode × String)}
    {stack roots : List Nat} (hd : Ext d0 d) (hp : ∀ q, q ∈ puts → BnOk d0.jumps.size q.2)
    (hs : ∀ q, q ∈ sets → BnOk d0.jumps.size q.2.1) : PlanInv d0 ⟨emitAll d evs, puts, sets, stack, roots⟩ :=
  ⟨ext_emitAll evs hd, hp, hs⟩

theorem _root_.Garnish.Lemmas.BuildPlan.InlineKid.bnOk {c : Nat} {b : BuildNode} (k : InlineKid pn node ni c b) (j0 : Nat) : BnOk j0 b :=
  ⟨fun j hj => (by rw [k.jump] at hj; cases hj), fun c hc => (by rw [k.items] at hc; cases hc)⟩

/-- every jump index a visit hands to a build node was allocated by this build: by the visit itself, or it was recorded
at the node the visit reads it from -/
theorem _root_.Garnish.Lemmas.BuildPlan.Visit.inv {crj : Nat} {p : Plan F} (h : Inv d0 ctx) (v : Visit ctx crj ni pn p) : PlanInv d0 p := by
  cases v with
  | first hnode _ _ _ _ _ hkid =>
    exact planInv_emitAll h.1 (List.forall_mem_singleton.2 (bnOk_congr (h.2 _ _ hnode) (by rfl) (by rfl))) fun q hq => (hkid q hq).bnOk _
  | emit => exact planInv_emitAll h.1 (fun _ hq => nomatch hq) (fun _ hq => nomatch hq)
  | listItem hnode =>
    exact planInv_emitAll h.1 (List.forall_mem_singleton.2 (bnOk_congr (h.2 _ _ hnode) (by rfl) (by rfl))) (fun _ hq => nomatch hq)
  | groupSkip => exact planInv_emitAll h.1 (fun _ hq => nomatch hq) (fun _ hq => nomatch hq)
  | groupChild => exact planInv_emitAll h.1 (fun _ hq => nomatch hq) (List.forall_mem_singleton.2 (bnOk_new _ _ _))
  | nestedEmpty => exact planInv_emitAll h.1 (fun _ hq => nomatch hq) (fun _ hq => nomatch hq)
  | nestedRoot => exact planInv_emitAll h.1 (fun _ hq => nomatch hq) (List.forall_mem_singleton.2 (bnOk_newWithJump _ _ h.1.jumpsSize))
  | branch =>
    exact planInv_emitAll (ext_emitAll _ h.1) (fun _ hq => nomatch hq)
      (List.forall_mem_singleton.2 (bnOk_newWithJumpAndEnd _ _ _ h.1.jumpsSize))
  | arm _ _ _ _ _ hparent =>
    have hp : BnOk d0.jumps.size _ := h.2 _ _ hparent
    refine planInv_emitAll h.1 (List.forall_mem_singleton.2 ⟨hp.1, fun c hc => ?_⟩) (fun _ hq => nomatch hq)
    rcases List.mem_append.1 (Array.toList_push ▸ hc) with hc | hc
    · exact hp.2 c hc
    · exact List.mem_singleton.1 hc ▸ h.1.jumpsSize
  | armDropped => exact planInv_emitAll h.1 (fun _ hq => nomatch hq) (fun _ hq => nomatch hq)
  | elseNoop => exact planInv_emitAll h.1 (fun _ hq => nomatch hq) (fun _ hq => nomatch hq)
  | elseRelease hnode =>
    refine planInv_emitAll h.1 (fun _ hq => nomatch hq) fun q hq => ?_
    obtain ⟨c, hc, rfl⟩ := List.mem_map.1 hq
    exact bnOk_newWithJumpAndEnd _ _ _ ((h.2 _ _ hnode).2 c hc)

variable (parseFloat : List Char → Option F)

theorem handleParseNode_inv (h : Inv d0 ctx) (crj ni : Nat) (pn : ParseNode) :
    Sat (Inv d0) (handleParseNode parseFloat ctx crj ni pn) := by
  obtain ⟨x, e, hv, _⟩ := handleParseNode_plan parseFloat ctx crj ni pn
  rw [e]
  exact plan_inv h (sat_mono hv fun _ v => v.inv h)

theorem rootJump_sat {data : BState F} {nodes : Nodes} (hd : Ext d0 data) (hn : AllNodes (BnOk d0.jumps.size) nodes) (rootIndex : Nat) :
    Sat (fun r => Ext d0 r.1) (rootJump data nodes rootIndex) := by
  refine sat_mono (rootJump_cases data nodes rootIndex).sat fun r h => ?_
  rcases h with rfl | ⟨node, hnode, hidx, hset⟩
  · exact ext_pushToJumpTable hd _
  · exact ext_setJump hd ((hn _ _ hnode).1 _ hidx) hset

theorem pushEndInstructions_ext (last : Option Instr) (rootStart : Nat) : ∀ (l : List Instr) (data : BState F), Ext d0 data →
    Ext d0 (pushEndInstructions last rootStart data l) := by
  intro l data h
  obtain ⟨l', e⟩ := pushEndInstructions_emitAll last rootStart l data
  rw [e]; exact ext_emitAll _ h

theorem reach_inv {tree : Array ParseNode} {c0 : Ctx F} (h0 : Inv d0 c0) {loc : Loc} {ctx : Ctx F}
    (h : Reach parseFloat tree c0 loc ctx) : Inv d0 ctx := by
  induction h with
  | init => exact h0
  | enter _ _ hj ih => exact ⟨(rootJump_sat ih.1 ih.2 _).of_eq hj, ih.2⟩
  | @step r crj rs ctx c1 ni pn N _ _ _ hh ha ih =>
    have h1 := (handleParseNode_inv parseFloat (ctx := { ctx with stack := ctx.stack.pop }) ih crj ni pn).of_eq hh
    exact ⟨h1.1, ((afterHandle_all h1.2 (fun _ _ hb => bnOk_congr hb rfl rfl) (fun _ _ hb => bnOk_congr hb rfl rfl) ni).sat.of_eq ha).2⟩
  | leave _ _ ih => exact ⟨pushEndInstructions_ext _ _ _ _ ih.1, ih.2⟩

theorem buildCore_ext (fuel parseRoot : Nat) (parseTree : Array ParseNode) (data : BState F) :
    Sat (fun r => Ext data r.1) (buildCore parseFloat fuel parseRoot parseTree data) := by
  refine sat_mono (buildCore_reach parseFloat fuel parseRoot parseTree data) fun _ ⟨_, ctx, hr, _, _, e⟩ => ?_
  subst e
  have h0 : Inv data (startCtx parseRoot parseTree data) :=
    ⟨Ext.refl data, allNodes_putNode (allNodes_replicate _ _) _ (bnOk_new _ _ _)⟩
  exact (reach_inv parseFloat h0 hr).1

theorem build_ext (fuel parseRoot : Nat) (parseTree : Array ParseNode) (data : BState F) :
    Sat (fun r => Ext data r.1) (build parseFloat fuel parseRoot parseTree data) := by
  unfold build
  split
  · exact ext_pushInstr (ext_pushToJumpTable (Ext.refl data) _) _ _ _
  · exact sat_bind (Q := fun _ => True) sat_true (fun _ _ => buildCore_ext parseFloat _ _ _ _)

end handlers

theorem build_appends_only (parseFloat : List Char → Option F) (fuel parseRoot : Nat) (parseTree : Array ParseNode)
    (data data' : BState F) (entry : Nat) (h : build parseFloat fuel parseRoot parseTree data = .ok (data', entry)) :
    data.instrs.toList <+: data'.instrs.toList ∧ data.consts.toList <+: data'.consts.toList ∧
    data.metadata.toList <+: data'.metadata.toList ∧ data.jumps.size ≤ data'.jumps.size ∧
    (∀ i, i < data.jumps.size → data'.jumps[i]? = data.jumps[i]?) := by
  have := build_ext parseFloat fuel parseRoot parseTree data
  rw [h] at this
  obtain ⟨⟨l1, h1⟩, ⟨l2, h2⟩, ⟨l3, h3⟩, h4, h5⟩ := this
  exact ⟨⟨l1, h1.symm⟩, ⟨l2, h2.symm⟩, ⟨l3, h3.symm⟩, h4, h5⟩

/-- every arm recorded at a build node names a node below `n` (its index is assigned to when the chain is released) -/
def BnNP (n : Nat) (bn : BuildNode) : Prop := ∀ c, c ∈ bn.conditionalItems.toList → c.nodeIndex < n

def NodesNP (n : Nat) (nodes : Nodes) : Prop := nodes.size = n ∧ BuildTotal.AllNodes (BnNP n) nodes

/-- the links of one parse node are in range -/
def PnOk (n : Nat) (pn : ParseNode) : Prop :=
  (∀ l, pn.left = some l → l < n) ∧ (∀ r, pn.right = some r → r < n)

theorem bnNP_congr {n : Nat} {b b' : BuildNode} (h : BnNP n b) (h2 : b'.conditionalItems = b.conditionalItems) : BnNP n b' := by
  unfold BnNP at *; rw [h2]; exact h

theorem bnNP_of_empty {n : Nat} {b : BuildNode} (h : b.conditionalItems = #[]) : BnNP n b := by
  intro c hc; rw [h] at hc; cases hc

section plansNP
open Garnish.Lemmas.BuildPlan Garnish.Lemmas.BuildTotal

/-- what a plan has to satisfy not to panic and to keep `NodesNP n` -/
structure PlanNP (n : Nat) (p : Plan F) : Prop where
  puts : ∀ q, q ∈ p.puts → BnNP n q.2
  sets : ∀ q, q ∈ p.sets → q.1 < n ∧ BnNP n q.2.1

variable {n : Nat} {ctx : Ctx F} {ni : Nat} {pn : ParseNode} {node : BuildNode}

abbrev NPost (n : Nat) : Ctx F → Prop := fun c => NodesNP n c.nodes

theorem plan_np (hn : NodesNP n ctx.nodes) {x : Outcome (Plan F)} (hx : SatNP (PlanNP n) x) :
    SatNP (NPost n) (Outcome.bind x (·.run ctx)) := by
  refine satNP_bind hx fun p hp => ?_
  rw [Plan.run_of_lt fun q hq => hn.1 ▸ (hp.sets q hq).1]
  exact ⟨(p.apply_size ctx).trans hn.1, Plan.apply_all hn.2 hp.puts fun q hq => (hp.sets q hq).2⟩

/-- a visit assigns to children of the node, whose links are in range, and to recorded arms -/
theorem _root_.Garnish.Lemmas.BuildPlan.Visit.np {crj : Nat} {p : Plan F} (hn : NodesNP n ctx.nodes) (hp : PnOk n pn)
    (v : Visit ctx crj ni pn p) : PlanNP n p := by
  cases v with
  | first hnode _ _ _ _ hkeys hkid =>
    refine PlanNP.mk (List.forall_mem_singleton.2 (bnNP_congr (hn.2 _ _ hnode) (by rfl))) fun q hq => ⟨?_, bnNP_of_empty (hkid q hq).items⟩
    rcases BuildSeq.mem_csOf.1 (hkeys ▸ List.mem_map_of_mem hq) with ⟨h, _⟩ | ⟨h, _⟩
    · exact hp.1 _ h
    · exact hp.2 _ h
  | emit => exact PlanNP.mk (fun _ hq => nomatch hq) (fun _ hq => nomatch hq)
  | listItem hnode => exact PlanNP.mk (List.forall_mem_singleton.2 (bnNP_congr (hn.2 _ _ hnode) (by rfl))) (fun _ hq => nomatch hq)
  | groupSkip => exact PlanNP.mk (fun _ hq => nomatch hq) (fun _ hq => nomatch hq)
  | groupChild _ _ hr => exact PlanNP.mk (fun _ hq => nomatch hq) (List.forall_mem_singleton.2 ⟨hp.2 _ hr, bnNP_of_empty rfl⟩)
  | nestedEmpty => exact PlanNP.mk (fun _ hq => nomatch hq) (fun _ hq => nomatch hq)
  | nestedRoot _ hr => exact PlanNP.mk (fun _ hq => nomatch hq) (List.forall_mem_singleton.2 ⟨hp.2 _ hr, bnNP_of_empty rfl⟩)
  | branch _ _ _ _ hr => exact PlanNP.mk (fun _ hq => nomatch hq) (List.forall_mem_singleton.2 ⟨hp.2 _ hr, bnNP_of_empty rfl⟩)
  | arm _ _ _ hr _ hparent =>
    refine PlanNP.mk (List.forall_mem_singleton.2 fun c hc => ?_) (fun _ hq => nomatch hq)
    rcases List.mem_append.1 (Array.toList_push ▸ hc) with hc | hc
    · exact hn.2 _ _ hparent c hc
    · exact List.mem_singleton.1 hc ▸ hp.2 _ hr
  | armDropped => exact PlanNP.mk (fun _ hq => nomatch hq) (fun _ hq => nomatch hq)
  | elseNoop => exact PlanNP.mk (fun _ hq => nomatch hq) (fun _ hq => nomatch hq)
  | elseRelease hnode =>
    refine PlanNP.mk (fun _ hq => nomatch hq) fun q hq => ?_
    obtain ⟨c, hc, rfl⟩ := List.mem_map.1 hq
    exact ⟨hn.2 _ _ hnode c hc, bnNP_of_empty rfl⟩

end plansNP

/-- what `build_no_panic` needs of one parse node: links in range, and literal texts on which the two literal parsers
    that can panic (`&text[1..]` of a symbol, the `&input[q..len-q]` slice of a multi-quote byte list) do not -/
structure NodeSafe (parseFloat : List Char → Option F) (n : Nat) (pn : ParseNode) : Prop where
  links : PnOk n pn
  symbol : pn.definition = .symbol → dropFirstByte pn.lexToken.text ≠ none
  byteList : pn.definition = .byteList → ∀ s, parseByteList parseFloat pn.lexToken.text ≠ .panic s

section handlersNP
variable {n : Nat} {ctx : Ctx F} {ni : Nat} {pn : ParseNode}
variable (parseFloat : List Char → Option F)

def TreeSafe (parseTree : Array ParseNode) : Prop :=
  ∀ (i : Nat) (pn : ParseNode), parseTree[i]? = some pn → NodeSafe parseFloat parseTree.size pn

open Garnish.Lemmas.BuildPlan Garnish.Lemmas.BuildTotal

theorem litArm_np (hs : NodeSafe parseFloat n pn) {addFn : BState F → ParseNode → Outcome (BState F × Nat)}
    (ha : LitArm parseFloat pn addFn) (d : BState F) : SatNP (fun _ => True) (addFn d pn) := by
  cases ha with
  | number => exact satNP_bind (BuildTotal.parseNumberInternal_good parseFloat _ _).satNP fun _ _ => trivial
  | charList => exact satNP_bind (BuildTotal.parseCharList_good parseFloat _).satNP fun _ _ => trivial
  | byteList hd => exact satNP_bind (satNP_of_noPanic (hs.byteList hd)) fun _ _ => trivial
  | symbol hd =>
    unfold parseAddSymbolLiteral
    split
    · exact absurd ‹_› (hs.symbol hd)
    · exact trivial
  | _ => exact trivial

theorem handleParseNode_np (hn : NodesNP n ctx.nodes) {pn : ParseNode} (hs : NodeSafe parseFloat n pn) (crj ni : Nat) :
    SatNP (NPost n) (handleParseNode parseFloat ctx crj ni pn) := by
  obtain ⟨x, e, hv, _, hnp⟩ := handleParseNode_plan parseFloat ctx crj ni pn
  rw [e]
  exact plan_np hn (satNP_of_sat (sat_mono hv fun _ v => v.np hn hs.links) (hnp fun _ ha => litArm_np parseFloat hs ha _))

theorem innerLoop_np {parseTree : Array ParseNode} (ht : TreeSafe parseFloat parseTree) (crj : Nat) :
    ∀ (stepFuel : Nat) (ctx : Ctx F), NodesNP parseTree.size ctx.nodes →
      SatNP (fun r => NodesNP parseTree.size r.1.nodes) (innerLoop parseFloat parseTree crj stepFuel ctx) := by
  intro stepFuel
  induction stepFuel with
  | zero => intro ctx _; exact satNP_fuelOut
  | succ k ih =>
    intro ctx h
    unfold innerLoop
    split
    · exact h
    · split
      · exact satNP_buildErr
      · rename_i pn hpn
        have h' : NodesNP parseTree.size ({ ctx with stack := ctx.stack.pop } : Ctx F).nodes := h
        refine satNP_bind (handleParseNode_np parseFloat h' (ht _ _ hpn) crj _) (fun ctx1 h1 => ?_)
        refine satNP_bind (afterHandle_all h1.2 (fun _ _ hb => bnNP_congr hb rfl) (fun _ _ hb => bnNP_congr hb rfl) _).satNP
          (fun nodes hnodes => ?_)
        exact ih _ ⟨hnodes.1.trans h1.1, hnodes.2⟩

theorem rootLoop_np {parseTree : Array ParseNode} (ht : TreeSafe parseFloat parseTree) :
    ∀ (rootFuel stepFuel : Nat) (ctx : Ctx F), NodesNP parseTree.size ctx.nodes →
      SatNP (fun _ => True) (Garnish.Model.Build.rootLoop parseFloat parseTree rootFuel stepFuel ctx) := by
  intro rootFuel
  induction rootFuel with
  | zero => intro _ ctx _; exact satNP_fuelOut
  | succ k ih =>
    intro stepFuel ctx h
    unfold Garnish.Model.Build.rootLoop
    split
    · exact trivial
    · dsimp only
      refine satNP_bind (rootJump_cases _ _ _).satNP (fun r _ => ?_)
      obtain ⟨data, crj⟩ := r
      dsimp only
      refine satNP_bind (innerLoop_np parseFloat ht crj stepFuel _ h) (fun r2 h2 => ?_)
      obtain ⟨ctx2, fuel2⟩ := r2
      dsimp only
      exact ih _ _ h2

end handlersNP

/-- the traversal itself (everything after `validate_parse_tree`).  Number and char-list literals need no hypothesis:
`parseNumberInternal_good`, `parseCharList_good` -/
theorem buildCore_no_panic (parseFloat : List Char → Option F) (fuel parseRoot : Nat) (parseTree : Array ParseNode) (data : BState F)
    (hroot : parseRoot < parseTree.size) (ht : TreeSafe parseFloat parseTree) :
    SatNP (fun _ => True) (buildCore parseFloat fuel parseRoot parseTree data) := by
  unfold buildCore
  dsimp only
  rw [BuildTotal.setNodeIdx_eq (by simpa using hroot), bind_ok]
  refine satNP_bind (rootLoop_np parseFloat ht fuel fuel _ ⟨by simp [BuildTotal.size_putNode],
    BuildTotal.allNodes_putNode (BuildTotal.allNodes_replicate _ _) _ (bnNP_of_empty rfl)⟩) (fun _ _ => ?_)
  split
  · exact trivial
  · exact satNP_buildErr

/-! ## the validation pass

`build` runs `validateParseTree` with fuel `nodes.size + 1`.  Every iteration of its loop pops one index and every push marks
a fresh node, so `stack.size + #unvisited` drops by one per iteration and the fuel is never used up; no step can panic; and
every marked node is on the stack or has both its links checked (`VInv`).  One walk over the loop gives all three. -/

open Garnish.Lemmas.BuildTotal (Good good_bind good_mono good_buildErr)

def countFalse (v : Array Bool) : Nat := v.toList.count false

theorem countFalse_le (v : Array Bool) : countFalse v ≤ v.size := by
  unfold countFalse
  have := List.count_le_length (a := false) (l := v.toList)
  simpa using this

theorem measure_mark {visited : Array Bool} {child : Nat} (stack : Array Nat) (h : visited[child]? = some false) :
    (stack.push child).size + countFalse (visited.setIfInBounds child true) = stack.size + countFalse visited := by
  have hl : visited.toList[child]? = some false := by simpa using h
  have := count_set_of_ne (b := true) hl nofun
  simp only [countFalse, Array.toList_setIfInBounds, Array.size_push]
  omega

/-- `c` is a proper child of node `i`: it exists and names `i` as its parent -/
def ChildOk (tree : Array ParseNode) (G : Nat → Prop) (i : Nat) (child : Option Nat) : Prop :=
  ∀ c, child = some c → G c ∧ ∃ cn, tree[c]? = some cn ∧ cn.parent = some i

/-- node `i` exists and both its links are proper children inside `G` -/
def Closed (tree : Array ParseNode) (G : Nat → Prop) (i : Nat) : Prop :=
  ∃ pn, tree[i]? = some pn ∧ ChildOk tree G i pn.left ∧ ChildOk tree G i pn.right ∧
    ∀ a b, pn.left = some a → pn.right = some b → a ≠ b

theorem childOk_none {tree : Array ParseNode} {G : Nat → Prop} {i : Nat} {child : Option Nat} (h : child = none) :
    ChildOk tree G i child := fun c hc => by rw [h] at hc; cases hc

/-- what `validate_parse_tree` has checked: `G` (the nodes it marked) is a tree with root `root` whose links are mutual;
the last loop of the validation accepts unmarked nodes only if they are `Subexpression`s (`rest`) -/
structure Validated (root : Nat) (tree : Array ParseNode) (G : Nat → Prop) : Prop where
  rootIn : G root
  rootParent : ∃ pn : ParseNode, tree[root]? = some pn ∧ pn.parent = none
  closed : ∀ i, G i → Closed tree G i
  rest : ∀ (i : Nat) (pn : ParseNode), tree[i]? = some pn → ¬ G i → pn.definition = .subexpression

def Vis (v : Array Bool) (i : Nat) : Prop := v[i]? = some true

theorem vis_set {v : Array Bool} {c i : Nat} (h : Vis v i) : Vis (v.setIfInBounds c true) i := by
  unfold Vis at *
  rw [Array.getElem?_setIfInBounds]
  split
  · rename_i hci
    subst hci
    have : c < v.size := lt_of_getElem? h
    simp [this]
  · exact h

theorem vis_set_self {v : Array Bool} {c : Nat} {b : Bool} (h : v[c]? = some b) : Vis (v.setIfInBounds c true) c := by
  unfold Vis
  rw [Array.getElem?_setIfInBounds]
  have : c < v.size := lt_of_getElem? h
  simp [this]

theorem vis_of_set {v : Array Bool} {c i : Nat} (h : Vis (v.setIfInBounds c true) i) : i = c ∨ Vis v i := by
  unfold Vis at *
  rw [Array.getElem?_setIfInBounds] at h
  split at h
  · rename_i hci; exact Or.inl hci.symm
  · exact Or.inr h

theorem closed_mono {tree : Array ParseNode} {G G' : Nat → Prop} (h : ∀ i, G i → G' i) {i : Nat} (hc : Closed tree G i) :
    Closed tree G' i := by
  obtain ⟨pn, h1, h2, h3, h4⟩ := hc
  exact ⟨pn, h1, fun c hc => ⟨h c (h2 c hc).1, (h2 c hc).2⟩, fun c hc => ⟨h c (h3 c hc).1, (h3 c hc).2⟩, h4⟩

theorem validateChild_good (nodes : Array ParseNode) (index : Nat) (visited : Array Bool) (stack : Array Nat) (child : Nat) :
    Good (fun r => (∃ cn, nodes[child]? = some cn ∧ cn.parent = some index) ∧ visited[child]? = some false ∧
      r = (visited.setIfInBounds child true, stack.push child)) (validateChild nodes index visited stack child) := by
  unfold validateChild
  split
  · rename_i cn cv hn hv
    split
    · exact good_buildErr
    · rename_i hp
      split
      · exact good_buildErr
      · rename_i hcv
        refine ⟨⟨cn, hn, by simpa using hp⟩, ?_, rfl⟩
        rw [hv]; simp at hcv; rw [hcv]
  · exact good_buildErr

/-- the loop invariant: every visited node is still on the stack or closed -/
def VInv (tree : Array ParseNode) (visited : Array Bool) (stack : Array Nat) : Prop :=
  ∀ i, Vis visited i → i ∈ stack.toList ∨ Closed tree (Vis visited) i

/-- what the check of one link establishes, from the state `(visited, stack)` before it -/
def LinkPost (tree : Array ParseNode) (index : Nat) (link : Option Nat) (visited : Array Bool) (stack : Array Nat)
    (r : Array Bool × Array Nat) : Prop :=
  (∀ i, Vis visited i → Vis r.1 i) ∧ r.1.size = visited.size ∧ ChildOk tree (Vis r.1) index link ∧
  (∀ i, Vis r.1 i → Vis visited i ∨ i ∈ r.2.toList) ∧ (∀ i, i ∈ stack.toList → i ∈ r.2.toList) ∧
  r.2.size + countFalse r.1 = stack.size + countFalse visited ∧ ∀ c, link = some c → visited[c]? = some false

theorem linkPost_none (tree : Array ParseNode) (index : Nat) (visited : Array Bool) (stack : Array Nat) :
    LinkPost tree index none visited stack (visited, stack) :=
  ⟨fun _ h => h, rfl, childOk_none rfl, fun _ hi => Or.inl hi, fun _ hi => hi, rfl, nofun⟩

theorem validateChild_link (tree : Array ParseNode) (index : Nat) (visited : Array Bool) (stack : Array Nat) (c : Nat) :
    Good (LinkPost tree index (some c) visited stack) (validateChild tree index visited stack c) := by
  refine good_mono (validateChild_good tree index visited stack c) (fun r hr => ?_)
  obtain ⟨⟨cn, hcn, hpar⟩, hvf, hr⟩ := hr
  subst hr
  refine ⟨fun i hi => vis_set hi, by simp, fun c' hc' => ?_, fun i hi => ?_, fun i hi => ?_, measure_mark stack hvf,
    fun c' hc' => by cases hc'; exact hvf⟩
  · cases hc'
    exact ⟨vis_set_self hvf, cn, hcn, hpar⟩
  · rcases vis_of_set hi with h | h
    · subst h; exact Or.inr (by simp)
    · exact Or.inl h
  · simp only [Array.toList_push, List.mem_append]; exact Or.inl hi

theorem validateLoop_good (tree : Array ParseNode) : ∀ (fuel : Nat) (visited : Array Bool) (stack : Array Nat),
    VInv tree visited stack → stack.size + countFalse visited < fuel →
    Good (fun v => (∀ i, Vis visited i → Vis v i) ∧ v.size = visited.size ∧ ∀ i, Vis v i → Closed tree (Vis v) i)
      (validateLoop tree fuel visited stack) := by
  intro fuel
  induction fuel with
  | zero => intro _ _ _ h; omega
  | succ k ih =>
    intro visited stack hinv hfuel
    unfold validateLoop
    split
    · rename_i hnone
      refine ⟨fun _ h => h, rfl, fun i hi => ?_⟩
      rcases hinv i hi with h1 | h1
      · have : stack.toList = [] := by
          apply List.eq_nil_of_length_eq_zero; simpa using back_none_size hnone
        rw [this] at h1; cases h1
      · exact h1
    · rename_i index hback
      have hpos := back_some_size_pos hback
      split
      · exact good_buildErr
      · rename_i node hnode
        dsimp only
        refine good_bind (Q := LinkPost tree index node.left visited stack.pop) ?_ (fun r1 h1 => ?_)
        · split
          · rename_i hl; rw [hl]; exact linkPost_none _ _ _ _
          · rename_i c hl; rw [hl]; exact validateChild_link _ _ _ _ c
        obtain ⟨v1, s1⟩ := r1
        obtain ⟨m1, sz1, cl1, nw1, st1, ms1, _⟩ := h1
        dsimp only at m1 sz1 cl1 nw1 st1 ms1 ⊢
        refine good_bind (Q := LinkPost tree index node.right v1 s1) ?_ (fun r2 h2 => ?_)
        · split
          · rename_i hl; rw [hl]; exact linkPost_none _ _ _ _
          · rename_i c hl; rw [hl]; exact validateChild_link _ _ _ _ c
        obtain ⟨v2, s2⟩ := r2
        obtain ⟨m2, sz2, cl2, nw2, st2, ms2, fr2⟩ := h2
        dsimp only at m2 sz2 cl2 nw2 st2 ms2 ⊢
        -- the two children differ: the left one is marked when the right one is checked
        have dist : ∀ a b, node.left = some a → node.right = some b → a ≠ b := by
          intro a b ha hb hab
          subst hab
          have := (cl1 a ha).1
          unfold Vis at this
          rw [fr2 a hb] at this; cases this
        have hinv2 : VInv tree v2 s2 := by
          intro i hi
          rcases nw2 i hi with h | h
          · rcases nw1 i h with h' | h'
            · rcases hinv i h' with h'' | h''
              · rcases mem_of_back hback h'' with h3 | h3
                · subst h3
                  exact Or.inr ⟨node, hnode, fun c hc => ⟨m2 c (cl1 c hc).1, (cl1 c hc).2⟩, cl2, dist⟩
                · exact Or.inl (st2 i (st1 i h3))
              · exact Or.inr (closed_mono (fun j hj => m2 j (m1 j hj)) h'')
            · exact Or.inl (st2 i h')
          · exact Or.inl h
        have hsz : stack.pop.size = stack.size - 1 := by simp
        refine good_mono (ih v2 s2 hinv2 (by omega)) (fun v hv => ?_)
        exact ⟨fun i hi => hv.1 i (m2 i (m1 i hi)), by rw [hv.2.1, sz2, sz1], hv.2.2⟩

/-- `validate_parse_tree` returns, and when it returns `ok` the nodes it marked form a tree with mutual links -/
theorem validateParseTree_good (root : Nat) (tree : Array ParseNode) :
    Good (fun _ => ∃ G : Nat → Prop, Validated root tree G) (validateParseTree root tree) := by
  unfold validateParseTree
  split
  · exact good_buildErr
  · rename_i node hnode
    split
    · exact good_buildErr
    · rename_i hparent
      dsimp only
      have hlt : root < tree.size := lt_of_getElem? hnode
      have hroot0 : (Array.replicate tree.size false)[root]? = some false := by simp [hlt]
      have hinv0 : VInv tree ((Array.replicate tree.size false).setIfInBounds root true) #[root] := by
        intro i hi
        rcases vis_of_set hi with h1 | h1
        · subst h1; exact Or.inl (by simp)
        · unfold Vis at h1
          rw [Array.getElem?_replicate] at h1
          split at h1 <;> cases h1
      -- one entry on the stack; the root is marked, so at most size - 1 unvisited nodes remain
      have hfuel : (#[root] : Array Nat).size + countFalse ((Array.replicate tree.size false).setIfInBounds root true) <
          tree.size + 1 := by
        have h1 := measure_mark #[] hroot0
        have h2 := countFalse_le (Array.replicate tree.size false)
        simp only [Array.size_replicate] at h2
        simp only [List.push_toArray, List.nil_append, List.size_toArray, List.length_cons, List.length_nil] at h1 ⊢
        omega
      refine good_bind (validateLoop_good tree (tree.size + 1) _ _ hinv0 hfuel) (fun v hv => ?_)
      obtain ⟨k1, k2, k3⟩ := hv
      split
      · rename_i hall
        refine ⟨Vis v, k1 root (vis_set_self hroot0), ⟨node, hnode, hparent⟩, k3, ?_⟩
        intro i pn hpn hnot
        have hi : i < tree.size := lt_of_getElem? hpn
        have hvsz : v.size = tree.size := by rw [k2]; simp
        have hvi : v.toList[i]? = some v[i] := by
          simp [hvsz, hi]
        rw [List.all_eq_true] at hall
        have hmem : (pn, v[i]) ∈ tree.toList.zip v.toList := by
          rw [List.mem_iff_getElem?]
          exact ⟨i, List.getElem?_zip_eq_some.2 ⟨by simpa using hpn, hvi⟩⟩
        have := hall _ hmem
        simp only [Bool.or_eq_true, beq_iff_eq] at this
        rcases this with h1 | h1
        · exact absurd (show Vis v i by unfold Vis; simp [hvsz, hi, h1]) hnot
        · exact h1
      · exact good_buildErr

theorem validateParseTree_ok {root : Nat} {tree : Array ParseNode} (h : validateParseTree root tree = .ok ()) :
    ∃ G : Nat → Prop, Validated root tree G := by
  have := validateParseTree_good root tree
  rw [h] at this
  exact this

theorem validateParseTree_links {root : Nat} {tree : Array ParseNode} (h : validateParseTree root tree = .ok ()) :
    root < tree.size ∧ ∃ G : Nat → Prop, G root ∧
      ∀ i, G i → ∃ pn, tree[i]? = some pn ∧ (∀ c, pn.left = some c → c < tree.size ∧ G c) ∧
        (∀ c, pn.right = some c → c < tree.size ∧ G c) := by
  obtain ⟨G, hG⟩ := validateParseTree_ok h
  have lt_of_some : ∀ {i : Nat} {pn : ParseNode}, tree[i]? = some pn → i < tree.size := by
    intro i pn hp
    exact lt_of_getElem? hp
  obtain ⟨pn, hpn, _⟩ := hG.rootParent
  refine ⟨lt_of_some hpn, G, hG.rootIn, fun i hi => ?_⟩
  obtain ⟨pn, h1, h2, h3, _⟩ := hG.closed i hi
  refine ⟨pn, h1, fun c hc => ?_, fun c hc => ?_⟩
  · obtain ⟨g, cn, hcn, _⟩ := h2 c hc; exact ⟨lt_of_some hcn, g⟩
  · obtain ⟨g, cn, hcn, _⟩ := h3 c hc; exact ⟨lt_of_some hcn, g⟩

theorem build_no_panic (parseFloat : List Char → Option F) (fuel parseRoot : Nat) (parseTree : Array ParseNode) (data : BState F)
    (hroot : parseRoot < parseTree.size) (ht : TreeSafe parseFloat parseTree) (s : String) :
    build parseFloat fuel parseRoot parseTree data ≠ .panic s := by
  apply satNP_noPanic (P := fun _ => True)
  unfold build
  split
  · exact trivial
  · exact satNP_bind (validateParseTree_good _ _).satNP (fun _ _ => buildCore_no_panic parseFloat _ _ _ _ hroot ht)

end Garnish.Lemmas.Build
