/-
The emitter in closed form. `emit root cur e s` is `s` with a fixed stretch appended: `out cur e s.pos`, a function of
the expression and of where the tables stand (`Pos`: the three sizes and the ghost depth, the operand depth that
`LState.dep` of Abs/Compile.lean records). `Wrote s s' o` says that `s'` is `s` with the stretch `o` appended — all eight
fields of the state; `emit_wrote` is the induction over `emit` that shows it. (Two other developments unfold `emit`
construct by construct: `emit_sh` of Lemmas/CompileShift.lean, which relates two runs of `emit`, on a program and on the
renamed program, and the builder simulation of Lemmas/CompileTree*.lean, which relates `emit` to the steps of `build`.)
Everything else about one run of `emit` is a fact about the stretch `out cur e p`, proved by induction over `e` without
any state:
its length (`out_len`), the depth it leaves (`out_endD`), what kind of instruction it writes (`out_new`), what roots it
pushes (`out_roots`: placeholder, join, kind, terminators; `out_nodup`: distinct placeholders; `out_weight`: their size), and, for a
well-formed expression, which expression constants it allocates and that the pieces pushed are well formed (`out_wf`).
-/
import Garnish.Lemmas.CompileBase
namespace Garnish.Abs
open Garnish Gen Garnish.Spec

variable {F : Type}

/-- what a stretch of emission appends -/
structure Out (F : Type) where
  instrs : List Instr := []
  /-- `none`: the placeholder of a pushed root (patched when the root is laid out); `some t`: a join entry -/
  jumps : List (Option Nat) := []
  consts : List (Val F) := []
  /-- the roots pushed, most recent first, each with the depth at which it starts -/
  roots : List (Root F × Nat) := []

/-- where the tables stand: the sizes of instructions, jump entries, constants, and the ghost depth -/
structure Pos where
  ni : Nat
  nj : Nat
  nc : Nat
  dep : Nat

/-- ghost depths at which the instructions of a stretch entered at depth `k` are entered -/
def scanD : List Instr → Nat → List Nat
  | [], _ => []
  | x :: xs, k => k :: scanD xs (fall x.1 x.2 k)

/-- ghost depth after a stretch entered at depth `k` -/
def endD : List Instr → Nat → Nat
  | [], k => k
  | x :: xs, k => endD xs (fall x.1 x.2 k)

theorem scanD_append : ∀ (a b : List Instr) (k : Nat), scanD (a ++ b) k = scanD a k ++ scanD b (endD a k)
  | [], _, _ => rfl
  | x :: xs, b, k => by simp [scanD, endD, scanD_append xs b]

theorem endD_append : ∀ (a b : List Instr) (k : Nat), endD (a ++ b) k = endD b (endD a k)
  | [], _, _ => rfl
  | x :: xs, b, k => by simp [endD, endD_append xs b]

theorem scanD_length : ∀ (l : List Instr) (k : Nat), (scanD l k).length = l.length
  | [], _ => rfl
  | _ :: xs, k => by simp [scanD, scanD_length xs]

def Out.app (a b : Out F) : Out F :=
  ⟨a.instrs ++ b.instrs, a.jumps ++ b.jumps, a.consts ++ b.consts, b.roots ++ a.roots⟩

instance : Append (Out F) := ⟨Out.app⟩

@[simp] theorem Out.append_instrs (a b : Out F) : (a ++ b).instrs = a.instrs ++ b.instrs := rfl
@[simp] theorem Out.append_jumps (a b : Out F) : (a ++ b).jumps = a.jumps ++ b.jumps := rfl
@[simp] theorem Out.append_consts (a b : Out F) : (a ++ b).consts = a.consts ++ b.consts := rfl
@[simp] theorem Out.append_roots (a b : Out F) : (a ++ b).roots = b.roots ++ a.roots := rfl

def Pos.after (p : Pos) (o : Out F) : Pos :=
  ⟨p.ni + o.instrs.length, p.nj + o.jumps.length, p.nc + o.consts.length, endD o.instrs p.dep⟩

def LState.pos (s : LState F) : Pos := ⟨s.instrs.size, s.jumps.size, s.consts.size, s.dep⟩

def Out.seq (a : Out F) (p : Pos) (b : Pos → Out F) : Out F := a ++ b (p.after a)

@[simp] theorem Out.seq_instrs (a : Out F) (p : Pos) (f : Pos → Out F) :
    (a.seq p f).instrs = a.instrs ++ (f (p.after a)).instrs := rfl
@[simp] theorem Out.seq_jumps (a : Out F) (p : Pos) (f : Pos → Out F) :
    (a.seq p f).jumps = a.jumps ++ (f (p.after a)).jumps := rfl
@[simp] theorem Out.seq_consts (a : Out F) (p : Pos) (f : Pos → Out F) :
    (a.seq p f).consts = a.consts ++ (f (p.after a)).consts := rfl
@[simp] theorem Out.seq_roots (a : Out F) (p : Pos) (f : Pos → Out F) :
    (a.seq p f).roots = (f (p.after a)).roots ++ a.roots := rfl

theorem Pos.after_app (p : Pos) (a b : Out F) : p.after (a ++ b) = (p.after a).after b := by
  simp [Pos.after, Nat.add_assoc, endD_append]

theorem Pos.after_seq (p : Pos) (a : Out F) (f : Pos → Out F) :
    p.after (a.seq p f) = (p.after a).after (f (p.after a)) := Pos.after_app p a _

theorem Pos.after_nj (p : Pos) (a : Out F) : p.nj ≤ (p.after a).nj := Nat.le_add_right _ _

def oI (i : Instruction) (d : Option Nat) : Out F := { instrs := [(i, d)] }
def oC (p : Pos) (i : Instruction) (v : Val F) : Out F := { instrs := [(i, some p.nc)], consts := [v] }

@[simp] theorem oI_instrs (i : Instruction) (d : Option Nat) : (oI i d : Out F).instrs = [(i, d)] := rfl
@[simp] theorem oC_instrs (p : Pos) (i : Instruction) (v : Val F) : (oC p i v).instrs = [(i, some p.nc)] := rfl

/-- `condTail`, from the position after the condition -/
def condOut (cur : Nat) (onTrue : Bool) (t : Expr F) (p : Pos) : Out F :=
  ⟨[(jumpIf onTrue, some p.nj), (.putValue, none)], [none, some (p.ni + 2)], [],
   [(⟨.code t, p.nj, [(.jumpTo, some (p.nj + 1))], cur⟩, p.dep - 1)]⟩

/-- `logicalTail`, from the position after the left operand -/
def logicalOut (cur : Nat) (i : Instruction) (r : Expr F) (p : Pos) : Out F :=
  ⟨[(i, some p.nj)], [none, some (p.ni + 1)], [],
   [(⟨.code r, p.nj, [(.tis, none), (.jumpTo, some (p.nj + 1))], cur⟩, fall i (some p.nj) p.dep - 1)]⟩

/-- `finishChain` -/
def finishOut (cur : Nat) (items : List (Expr F × Nat)) (p : Pos) : Out F :=
  match items with
  | [] => {}
  | it :: its => { jumps := [some p.ni], roots := (armRoots cur p.nj (it :: its)).map (·, p.dep - 1) }

/-- `chainNoFinal` -/
def noFinalOut (arms : List (Bool × Expr F × Expr F)) : Out F :=
  match arms with
  | [] => oI .putValue none
  | _ :: _ => {}

/-- the `JumpIf` after the condition of an arm of an else-chain, with its placeholder -/
def armOut (onTrue : Bool) (p : Pos) : Out F := ⟨[(jumpIf onTrue, some p.nj)], [none], [], []⟩

mutual
def out (cur : Nat) : Expr F → Pos → Out F
  | .lit v, p => oC p .put v
  | .input, _ => oI .putValue none
  | .ident sym, p => oC p .resolve (.sym sym)
  | .unary op x, p => out cur x p ++ oI op none
  | .binary op l r, p => (out cur l p).seq p (out cur r) ++ oI op none
  | .pair l r, p => (out cur r p).seq p (out cur l) ++ oI .makePair none
  | .applyTo x f, p => (out cur f p).seq p (out cur x) ++ oI .apply none
  | .list items, p => outList cur items p ++ oI .makeList (some items.length)
  | .cond onTrue c t, p => (out cur c p).seq p (condOut cur onTrue t)
  | .chain arms none, p =>
    let r := outArms cur arms p
    (r.1 ++ noFinalOut arms).seq p (finishOut cur r.2)
  | .chain arms (some e), p =>
    let r := outArms cur arms p
    (r.1.seq p (out cur e)).seq p (finishOut cur r.2)
  | .and l r, p => (out cur l p).seq p (logicalOut cur .and r)
  | .or l r, p => (out cur l p).seq p (logicalOut cur .or r)
  | .seq a b, p => (out cur a p ++ oI .updateValue none).seq p (out cur b)
  | .sideAfter x body, p => (out cur x p ++ oI .startSideEffect none).seq p (out cur body) ++ oI .endSideEffect none
  | .nested id, p => ⟨[(.put, some p.nc)], [none], [.expr p.nj], [(⟨.ref id, p.nj, [(.endExpression, none)], p.nj⟩, 0)]⟩
  | .emptyNested, p => oC p .put (.expr cur)
  | .reapply x, p => out cur x p ++ oI .updateValue none ++ oI .jumpTo (some cur)
  | .prefixApply sym x, p => (oC p .resolve (.sym sym)).seq p (out cur x) ++ oI .apply none
  | .suffixApply x sym, p => (oC p .resolve (.sym sym)).seq p (out cur x) ++ oI .apply none
  | .infixApply a sym b, p =>
    ((oC p .resolve (.sym sym)).seq p (out cur a)).seq p (out cur b) ++ oI .makeList (some 2) ++ oI .apply none
def outList (cur : Nat) : List (Expr F) → Pos → Out F
  | [], _ => {}
  | x :: xs, p => (out cur x p).seq p (outList cur xs)
/-- with the arm bodies and the jump entries to patch, as `emitArms` returns them -/
def outArms (cur : Nat) : List (Bool × Expr F × Expr F) → Pos → Out F × List (Expr F × Nat)
  | [], _ => ({}, [])
  | (onTrue, c, t) :: rest, p =>
    let b := (out cur c p).seq p (armOut onTrue)
    let r := outArms cur rest (p.after b)
    (b ++ r.1, (t, (p.after (out cur c p)).nj) :: r.2)
end

/-- `s'` is `s` with `o` appended -/
structure Wrote (s s' : LState F) (o : Out F) : Prop where
  instrs : s'.instrs = s.instrs ++ o.instrs.toArray
  jumps : s'.jumps = s.jumps ++ (o.jumps.map (·.getD 0)).toArray
  consts : s'.consts = s.consts ++ o.consts.toArray
  pending : s'.pending = o.roots.map (·.1) ++ s.pending
  done : s'.done = s.done
  depths : s'.depths = s.depths ++ (scanD o.instrs s.dep).toArray
  dep : s'.dep = endD o.instrs s.dep
  pendDep : s'.pendDep = o.roots.map (·.2) ++ s.pendDep

theorem Wrote.pos {s s' : LState F} {o : Out F} (h : Wrote s s' o) : s'.pos = s.pos.after o := by
  simp [LState.pos, Pos.after, h.instrs, h.jumps, h.consts, h.dep]

theorem Wrote.refl (s : LState F) : Wrote s s {} := ⟨by simp, by simp, by simp, rfl, rfl, by simp [scanD], rfl, rfl⟩

theorem Wrote.trans {a b c : LState F} {o1 o2 : Out F} (h1 : Wrote a b o1) (h2 : Wrote b c o2) : Wrote a c (o1 ++ o2) :=
  ⟨by rw [h2.instrs, h1.instrs]; simp, by rw [h2.jumps, h1.jumps]; simp, by rw [h2.consts, h1.consts]; simp,
   by rw [h2.pending, h1.pending]; simp, by rw [h2.done, h1.done],
   by rw [h2.depths, h1.depths, h1.dep]; simp [scanD_append], by rw [h2.dep, h1.dep]; simp [endD_append],
   by rw [h2.pendDep, h1.pendDep]; simp⟩

theorem Wrote.seq {a b c : LState F} {o1 : Out F} {f : Pos → Out F} (h1 : Wrote a b o1) (h2 : Wrote b c (f b.pos)) :
    Wrote a c (o1.seq a.pos f) := by
  rw [h1.pos] at h2; exact h1.trans h2

theorem Wrote.push (s : LState F) (i : Instruction) (d : Option Nat) : Wrote s (s.push i d) (oI i d) :=
  ⟨by simp [LState.push, oI], by simp [LState.push, oI], by simp [LState.push, oI], rfl, rfl,
   by simp [LState.push, oI, scanD], rfl, rfl⟩

theorem Wrote.pushConst (s : LState F) (i : Instruction) (v : Val F) (hi : i = .put ∨ i = .resolve) :
    Wrote s (s.pushConst i v) (oC s.pos i v) :=
  ⟨by simp [LState.pushConst, oC, LState.pos], by simp [LState.pushConst, oC], by simp [LState.pushConst, oC], rfl, rfl,
   by simp [LState.pushConst, oC, scanD], by rcases hi with rfl | rfl <;> rfl, rfl⟩

theorem push2_eq {α : Type} (a : Array α) (x y : α) : (a.push x).push y = a ++ #[x, y] := by
  apply Array.toList_inj.1; simp

theorem fall_jumpIf (b : Bool) (o : Option Nat) (k : Nat) : fall (jumpIf b) o k = k - 1 := by cases b <;> rfl
theorem fall_putValue (o : Option Nat) (k : Nat) : fall .putValue o k = k + 1 := rfl

theorem map_pair_fst {α β : Type} (l : List α) (d : β) : (l.map (·, d)).map (·.1) = l := by simp [Function.comp_def]
theorem map_pair_snd {α β : Type} (l : List α) (d : β) : (l.map (·, d)).map (·.2) = List.replicate l.length d := by
  induction l with
  | nil => rfl
  | cons x xs ih => simp [List.replicate_succ, ih]

theorem condTail_wrote (cur : Nat) (b : Bool) (t : Expr F) (s : LState F) :
    Wrote s (condTail cur b t s) (condOut cur b t s.pos) :=
  ⟨by simp [condTail, condOut, LState.push, LState.pushJump, LState.pushRoot, LState.pos, push2_eq],
   by simp [condTail, condOut, LState.push, LState.pushJump, LState.pushRoot, LState.pos, push2_eq],
   by simp [condTail, condOut, LState.push, LState.pushJump, LState.pushRoot],
   by simp [condTail, condOut, LState.push, LState.pushJump, LState.pushRoot, LState.pos], rfl,
   by simp [condTail, condOut, LState.push, LState.pushJump, LState.pushRoot, scanD, push2_eq, LState.pos],
   by simp [condTail, condOut, LState.push, LState.pushJump, LState.pushRoot, endD, LState.pos],
   by simp [condTail, condOut, LState.push, LState.pushJump, LState.pushRoot, LState.pos, fall_jumpIf, fall_putValue]⟩

theorem logicalTail_wrote (cur : Nat) (i : Instruction) (r : Expr F) (s : LState F) :
    Wrote s (logicalTail cur i r s) (logicalOut cur i r s.pos) :=
  ⟨by simp [logicalTail, logicalOut, LState.push, LState.pushJump, LState.pushRoot, LState.pos],
   by simp [logicalTail, logicalOut, LState.push, LState.pushJump, LState.pushRoot, LState.pos, push2_eq],
   by simp [logicalTail, logicalOut, LState.push, LState.pushJump, LState.pushRoot],
   by simp [logicalTail, logicalOut, LState.push, LState.pushJump, LState.pushRoot, LState.pos], rfl,
   by simp [logicalTail, logicalOut, LState.push, LState.pushJump, LState.pushRoot, scanD, LState.pos],
   by simp [logicalTail, logicalOut, LState.push, LState.pushJump, LState.pushRoot, endD, LState.pos],
   by simp [logicalTail, logicalOut, LState.push, LState.pushJump, LState.pushRoot, LState.pos]⟩

theorem finishChain_wrote (cur : Nat) (items : List (Expr F × Nat)) (s : LState F) :
    Wrote s (finishChain cur s items) (finishOut cur items s.pos) := by
  cases items with
  | nil => exact .refl s
  | cons it its =>
    exact ⟨by simp [finishChain, finishOut, LState.pushJump], by simp [finishChain, finishOut, LState.pushJump, LState.pos],
      by simp [finishChain, finishOut, LState.pushJump],
      by simp only [finishChain, finishOut, LState.pushJump, LState.pos, map_pair_fst], rfl,
      by simp [finishChain, finishOut, LState.pushJump, scanD], by simp [finishChain, finishOut, LState.pushJump, endD],
      by simp only [finishChain, finishOut, LState.pushJump, LState.pos, map_pair_snd]; simp [armRoots]⟩

theorem chainNoFinal_wrote (arms : List (Bool × Expr F × Expr F)) (s : LState F) :
    Wrote s (chainNoFinal arms s) (noFinalOut arms) := by
  cases arms with
  | nil => exact .push s _ _
  | cons a as => exact .refl s

theorem armJump_wrote (onTrue : Bool) (s : LState F) :
    Wrote s ((s.pushJump 0).push (jumpIf onTrue) (some s.jumps.size)) (armOut onTrue s.pos) :=
  ⟨by simp [LState.push, LState.pushJump, LState.pos, armOut], by simp [LState.push, LState.pushJump, armOut],
   by simp [LState.push, LState.pushJump, armOut], rfl, rfl, by simp [LState.push, LState.pushJump, scanD, armOut],
   by simp [LState.push, LState.pushJump, endD, LState.pos, armOut], rfl⟩

mutual
theorem emit_wrote (root cur : Nat) : ∀ (e : Expr F) (s : LState F), Wrote s (emit root cur e s) (out cur e s.pos)
  | .lit v, s | .emptyNested, s => .pushConst s _ _ (.inl rfl)
  | .ident sym, s => .pushConst s _ _ (.inr rfl)
  | .input, s => .push s _ _
  | .unary op x, s => (emit_wrote root cur x s).trans (.push _ _ _)
  | .binary op a b, s | .pair b a, s | .applyTo b a, s =>
    ((emit_wrote root cur a s).seq (emit_wrote root cur b _)).trans (.push _ _ _)
  | .list items, s => (emitList_wrote root cur items s).trans (.push _ _ _)
  | .cond onTrue c t, s => (emit_wrote root cur c s).seq (condTail_wrote cur onTrue t _)
  | .and l r, s => (emit_wrote root cur l s).seq (logicalTail_wrote cur .and r _)
  | .or l r, s => (emit_wrote root cur l s).seq (logicalTail_wrote cur .or r _)
  | .seq a b, s => ((emit_wrote root cur a s).trans (.push _ _ _)).seq (emit_wrote root cur b _)
  | .sideAfter x b, s =>
    (((emit_wrote root cur x s).trans (.push _ _ _)).seq (emit_wrote root cur b _)).trans (.push _ _ _)
  | .reapply x, s => ((emit_wrote root cur x s).trans (.push _ _ _)).trans (.push _ _ _)
  | .prefixApply sym x, s | .suffixApply x sym, s =>
    ((Wrote.pushConst s _ _ (.inr rfl)).seq (emit_wrote root cur x _)).trans (.push _ _ _)
  | .infixApply a sym b, s =>
    ((((Wrote.pushConst s _ _ (.inr rfl)).seq (emit_wrote root cur a _)).seq (emit_wrote root cur b _)).trans (.push _ _ _)).trans
      (.push _ _ _)
  | .nested id, s =>
    ⟨by simp [emit, out, LState.pushConst, LState.pushJump, LState.pushRoot, LState.pos],
     by simp [emit, out, LState.pushConst, LState.pushJump, LState.pushRoot],
     by simp [emit, out, LState.pushConst, LState.pushJump, LState.pushRoot, LState.pos],
     by simp [emit, out, LState.pushConst, LState.pushJump, LState.pushRoot, LState.pos], rfl,
     by simp [emit, out, LState.pushConst, LState.pushJump, LState.pushRoot, scanD],
     by simp [emit, out, LState.pushConst, LState.pushJump, LState.pushRoot, endD, fall],
     by simp [emit, out, LState.pushConst, LState.pushJump, LState.pushRoot]⟩
  | .chain arms none, s => by
    have h := emitArms_wrote root cur arms s
    simp only [emit, out]
    rw [← h.2]
    exact (h.1.trans (chainNoFinal_wrote arms _)).seq (finishChain_wrote cur _ _)
  | .chain arms (some e), s => by
    have h := emitArms_wrote root cur arms s
    simp only [emit, out]
    rw [← h.2]
    exact (h.1.seq (emit_wrote root cur e _)).seq (finishChain_wrote cur _ _)
theorem emitList_wrote (root cur : Nat) : ∀ (items : List (Expr F)) (s : LState F),
    Wrote s (emitList root cur items s) (outList cur items s.pos)
  | [], s => .refl s
  | x :: xs, s => (emit_wrote root cur x s).seq (emitList_wrote root cur xs _)
theorem emitArms_wrote (root cur : Nat) : ∀ (arms : List (Bool × Expr F × Expr F)) (s : LState F),
    Wrote s (emitArms root cur arms s).1 (outArms cur arms s.pos).1 ∧ (emitArms root cur arms s).2 = (outArms cur arms s.pos).2
  | [], s => ⟨.refl s, rfl⟩
  | (onTrue, c, t) :: rest, s => by
    have h1 := emit_wrote root cur c s
    have h2 := h1.seq (armJump_wrote onTrue _)
    have ih := emitArms_wrote root cur rest
      (((emit root cur c s).pushJump 0).push (jumpIf onTrue) (some (emit root cur c s).jumps.size))
    rw [h2.pos] at ih
    simp only [emitArms, outArms]
    exact ⟨h2.trans ih.1, by rw [ih.2, ← h1.pos]; rfl⟩
end

@[simp] theorem finishOut_instrs (cur : Nat) (items : List (Expr F × Nat)) (p : Pos) : (finishOut cur items p).instrs = [] := by
  cases items <;> rfl

theorem noFinalOut_instrs (arms : List (Bool × Expr F × Expr F)) :
    (noFinalOut arms : Out F).instrs = match arms with | [] => [(.putValue, none)] | _ :: _ => [] := by
  cases arms <;> rfl

mutual
theorem out_len (cur : Nat) : ∀ (e : Expr F) (p : Pos), (out cur e p).instrs.length = len e
  | .lit _, _ | .input, _ | .ident _, _ | .nested _, _ | .emptyNested, _ => rfl
  | .unary _ x, p | .reapply x, p => by simp [out, len, out_len cur x]
  | .binary _ a b, p | .pair b a, p | .applyTo b a, p => by simp [out, len, out_len cur a, out_len cur b]; omega
  | .list items, p => by simp [out, len, outList_len cur items]
  | .cond _ c _, p => by simp [out, len, out_len cur c, condOut]
  | .and l _, p | .or l _, p => by simp [out, len, out_len cur l, logicalOut]
  | .seq a b, p | .sideAfter a b, p => by simp [out, len, out_len cur a, out_len cur b]; omega
  | .prefixApply _ x, p | .suffixApply x _, p => by simp [out, len, out_len cur x]; omega
  | .infixApply a _ b, p => by simp [out, len, out_len cur a, out_len cur b]; omega
  | .chain [] none, p => by simp [out, outArms, len_chain, lenArms, noFinalOut_instrs]
  | .chain (arm :: rest) none, p => by simp [out, len_chain, outArms_len cur (arm :: rest), noFinalOut_instrs]
  | .chain arms (some e), p => by simp [out, len_chain, outArms_len cur arms, out_len cur e]
theorem outList_len (cur : Nat) : ∀ (items : List (Expr F)) (p : Pos), (outList cur items p).instrs.length = lenList items
  | [], _ => rfl
  | x :: xs, p => by simp [outList, lenList, out_len cur x, outList_len cur xs]
theorem outArms_len (cur : Nat) : ∀ (arms : List (Bool × Expr F × Expr F)) (p : Pos),
    (outArms cur arms p).1.instrs.length = lenArms arms
  | [], _ => rfl
  | (_, c, _) :: rest, p => by simp [outArms, lenArms, out_len cur c, outArms_len cur rest, armOut]; omega
end

theorem after_ni (cur : Nat) (e : Expr F) (p : Pos) : (p.after (out cur e p)).ni = p.ni + len e := by
  simp [Pos.after, out_len]
theorem afterList_ni (cur : Nat) (items : List (Expr F)) (p : Pos) : (p.after (outList cur items p)).ni = p.ni + lenList items := by
  simp [Pos.after, outList_len]
theorem afterArms_ni (cur : Nat) (arms : List (Bool × Expr F × Expr F)) (p : Pos) :
    (p.after (outArms cur arms p).1).ni = p.ni + lenArms arms := by
  simp [Pos.after, outArms_len]

theorem fall_un {op : Instruction} {o : Option Nat} {k : Nat} (h : unOK op = true) : fall op o k = k := by
  cases op <;> cases h <;> rfl

theorem fall_bin {op : Instruction} {o : Option Nat} {k : Nat} (h : binOK op = true) : fall op o (k + 2) = k + 1 := by
  cases op <;> cases h <;> rfl

mutual
theorem out_endD (cur : Nat) : ∀ (e : Expr F) (p : Pos) (k : Nat), wfE e = true → endD (out cur e p).instrs k = k + 1
  | .lit _, _, _, _ | .input, _, _, _ | .ident _, _, _, _ | .nested _, _, _, _ | .emptyNested, _, _, _ => rfl
  | .unary op x, p, k, hw => by
    simp only [wfE, Bool.and_eq_true] at hw
    simp [out, endD_append, endD, out_endD cur x p k hw.2, fall_un hw.1]
  | .binary op a b, p, k, hw => by
    simp only [wfE, Bool.and_eq_true] at hw
    simp [out, endD_append, endD, out_endD cur a p k hw.1.2, out_endD cur b _ _ hw.2, fall_bin hw.1.1]
  | .pair b a, p, k, hw | .applyTo b a, p, k, hw => by
    simp only [wfE, Bool.and_eq_true] at hw
    simp [out, endD_append, endD, out_endD cur a p k hw.2, out_endD cur b _ _ hw.1, fall]
  | .list items, p, k, hw => by
    simp only [wfE] at hw
    simp [out, endD_append, endD, outList_endD cur items p k hw, fall]
  | .cond _ c _, p, k, hw => by
    simp only [wfE, Bool.and_eq_true] at hw
    simp [out, endD_append, out_endD cur c p k hw.1, condOut, endD, fall_jumpIf, fall_putValue]
  | .and l _, p, k, hw | .or l _, p, k, hw => by
    simp only [wfE, Bool.and_eq_true] at hw
    simp [out, endD_append, endD, out_endD cur l p k hw.1, logicalOut, fall]
  | .seq a b, p, k, hw => by
    simp only [wfE, Bool.and_eq_true] at hw
    simp [out, endD_append, endD, out_endD cur a p k hw.1, out_endD cur b _ _ hw.2, fall]
  | .sideAfter a b, p, k, hw => by
    simp only [wfE, Bool.and_eq_true] at hw
    simp [out, endD_append, endD, out_endD cur a p k hw.1.1, out_endD cur b _ _ hw.1.2, fall]
  | .reapply x, p, k, hw => by
    simp only [wfE] at hw
    simp [out, endD_append, endD, out_endD cur x p k hw, fall]
  | .prefixApply _ x, p, k, hw | .suffixApply x _, p, k, hw => by
    simp only [wfE] at hw
    simp [out, endD_append, endD, out_endD cur x _ _ hw, fall]
  | .infixApply a _ b, p, k, hw => by
    simp only [wfE, Bool.and_eq_true] at hw
    simp [out, endD_append, endD, out_endD cur a _ _ hw.1, out_endD cur b _ _ hw.2, fall]
  | .chain arms none, _, _, hw => by simp [wfE_chain] at hw
  | .chain arms (some e), p, k, hw => by
    simp only [wfE_chain, Bool.and_eq_true] at hw
    simp [out, endD_append, outArms_endD cur arms p k hw.1, out_endD cur e _ _ hw.2]
theorem outList_endD (cur : Nat) : ∀ (items : List (Expr F)) (p : Pos) (k : Nat), wfEList items = true →
    endD (outList cur items p).instrs k = k + items.length
  | [], _, _, _ => rfl
  | x :: xs, p, k, hw => by
    simp only [wfEList, Bool.and_eq_true] at hw
    simp [outList, endD_append, out_endD cur x p k hw.1, outList_endD cur xs _ _ hw.2]; omega
theorem outArms_endD (cur : Nat) : ∀ (arms : List (Bool × Expr F × Expr F)) (p : Pos) (k : Nat), wfEArms arms = true →
    endD (outArms cur arms p).1.instrs k = k
  | [], _, _, _ => rfl
  | (_, c, _) :: rest, p, k, hw => by
    simp only [wfEArms, Bool.and_eq_true] at hw
    simp [outArms, endD_append, endD, armOut, out_endD cur c p k hw.1.1, fall_jumpIf, outArms_endD cur rest _ _ hw.2]
end

/-- `j` is a placeholder among the jump entries of `o`, written at `p` -/
def SlotAt (p : Pos) (o : Out F) (j : Nat) : Prop := ∃ i, j = p.nj + i ∧ o.jumps[i]? = some none

theorem SlotAt.left {p : Pos} {a b : Out F} {j : Nat} (h : SlotAt p a j) : SlotAt p (a ++ b) j := by
  obtain ⟨i, h1, h2⟩ := h
  exact ⟨i, h1, by rw [Out.append_jumps, List.getElem?_append_left (List.getElem?_eq_some_iff.1 h2).1]; exact h2⟩

theorem SlotAt.right {p : Pos} {a b : Out F} {j : Nat} (h : SlotAt (p.after a) b j) : SlotAt p (a ++ b) j := by
  obtain ⟨i, h1, h2⟩ := h
  exact ⟨a.jumps.length + i, by simp [Pos.after] at h1; omega, by
    rw [Out.append_jumps, List.getElem?_append_right (by omega)]; simpa using h2⟩

theorem SlotAt.lt {p : Pos} {o : Out F} {j : Nat} (h : SlotAt p o j) : p.nj ≤ j ∧ j < (p.after o).nj := by
  obtain ⟨i, h1, h2⟩ := h
  have := (List.getElem?_eq_some_iff.1 h2).1
  simp only [Pos.after]; omega

/-- a root pushed by the stretch `o` written at `p`: its placeholder is one of `o`'s; it is a piece of the body `cur`
that returns to a join among `o`'s entries, or a nested body -/
def RootNew (cur : Nat) (p : Pos) (o : Out F) (r : Root F) : Prop :=
  SlotAt p o r.patch ∧
  ((∃ t join, r.kind = .code t ∧ r.containing = cur ∧ p.nj ≤ join ∧ join < (p.after o).nj ∧
      (r.term = [(.jumpTo, some join)] ∨ r.term = [(.tis, none), (.jumpTo, some join)])) ∨
   (∃ id, r.kind = .ref id ∧ r.containing = r.patch ∧ r.term = [(.endExpression, none)]))

theorem RootNew.left {cur : Nat} {p : Pos} {a b : Out F} {r : Root F} (h : RootNew cur p a r) : RootNew cur p (a ++ b) r := by
  refine ⟨h.1.left, h.2.imp ?_ id⟩
  rintro ⟨t, join, k, c, j1, j2, tm⟩
  exact ⟨t, join, k, c, j1, by rw [Pos.after_app]; exact Nat.lt_of_lt_of_le j2 (Pos.after_nj _ _), tm⟩

theorem RootNew.right {cur : Nat} {p : Pos} {a b : Out F} {r : Root F} (h : RootNew cur (p.after a) b r) :
    RootNew cur p (a ++ b) r := by
  refine ⟨h.1.right, h.2.imp ?_ id⟩
  rintro ⟨t, join, k, c, j1, j2, tm⟩
  exact ⟨t, join, k, c, Nat.le_trans (Pos.after_nj _ _) j1, by rw [Pos.after_app]; exact j2, tm⟩

def RootsNew (cur : Nat) (p : Pos) (o : Out F) : Prop := ∀ r ∈ o.roots, RootNew cur p o r.1

/-- the second stretch may push roots whose placeholders the first allocated (the arm bodies of an else-chain) -/
theorem RootsNew.seq' {cur : Nat} {p : Pos} {a : Out F} {f : Pos → Out F} (ha : RootsNew cur p a)
    (hb : ∀ r ∈ (f (p.after a)).roots, RootNew cur p (a ++ f (p.after a)) r.1) : RootsNew cur p (a.seq p f) := by
  intro r hr
  simp only [Out.seq_roots, List.mem_append] at hr
  rcases hr with hr | hr
  · exact hb r hr
  · exact (ha r hr).left

theorem RootsNew.seq {cur : Nat} {p : Pos} {a : Out F} {f : Pos → Out F} (ha : RootsNew cur p a)
    (hb : RootsNew cur (p.after a) (f (p.after a))) : RootsNew cur p (a.seq p f) :=
  ha.seq' (fun r hr => (hb r hr).right)

theorem RootsNew.app {cur : Nat} {p : Pos} {a b : Out F} (ha : RootsNew cur p a) (hb : RootsNew cur (p.after a) b) :
    RootsNew cur p (a ++ b) := RootsNew.seq (f := fun _ => b) ha hb

theorem RootsNew.nil {cur : Nat} {p : Pos} {o : Out F} (h : o.roots = []) : RootsNew cur p o := by
  intro r hr; rw [h] at hr; cases hr

theorem RootsNew.thenI {cur : Nat} {p : Pos} {a : Out F} {i : Instruction} {d : Option Nat} (ha : RootsNew cur p a) :
    RootsNew cur p (a ++ oI i d) := ha.app (.nil rfl)

theorem condOut_roots (cur : Nat) (onTrue : Bool) (t : Expr F) (p : Pos) : RootsNew cur p (condOut cur onTrue t p) := by
  intro r hr
  simp only [condOut, List.mem_singleton] at hr
  subst hr
  exact ⟨⟨0, rfl, rfl⟩, .inl ⟨t, _, rfl, rfl, Nat.le_succ _, by simp [Pos.after, condOut], .inl rfl⟩⟩

theorem logicalOut_roots (cur : Nat) (i : Instruction) (x : Expr F) (p : Pos) : RootsNew cur p (logicalOut cur i x p) := by
  intro r hr
  simp only [logicalOut, List.mem_singleton] at hr
  subst hr
  exact ⟨⟨0, rfl, rfl⟩, .inl ⟨x, _, rfl, rfl, Nat.le_succ _, by simp [Pos.after, logicalOut], .inr rfl⟩⟩

/-- the arm bodies become roots when the chain is finished; their placeholders were allocated with their conditions -/
theorem finishOut_roots {cur : Nat} {p : Pos} {a : Out F} {items : List (Expr F × Nat)} (hit : ∀ it ∈ items, SlotAt p a it.2) :
    ∀ r ∈ (finishOut cur items (p.after a)).roots, RootNew cur p (a ++ finishOut cur items (p.after a)) r.1 := by
  cases items with
  | nil => intro r hr; cases hr
  | cons it its =>
    intro r hr
    simp only [finishOut, armRoots, List.mem_map, List.mem_reverse] at hr
    obtain ⟨_, ⟨it', hin, rfl⟩, rfl⟩ := hr
    exact ⟨(hit it' hin).left, .inl ⟨_, (p.after a).nj, rfl, rfl, Pos.after_nj _ _,
      by rw [Pos.after_app]; simp [Pos.after, finishOut], .inl rfl⟩⟩

mutual
theorem out_roots (cur : Nat) : ∀ (e : Expr F) (p : Pos), RootsNew cur p (out cur e p)
  | .lit _, _ | .input, _ | .ident _, _ | .emptyNested, _ => .nil rfl
  | .nested id, p => by
    intro r hr
    simp only [out, List.mem_singleton] at hr
    subst hr
    exact ⟨⟨0, rfl, rfl⟩, .inr ⟨id, rfl, rfl, rfl⟩⟩
  | .unary _ x, p => (out_roots cur x p).thenI
  | .reapply x, p => (out_roots cur x p).thenI.thenI
  | .binary _ a b, p | .pair b a, p | .applyTo b a, p => ((out_roots cur a p).seq (out_roots cur b _)).thenI
  | .list items, p => (outList_roots cur items p).thenI
  | .cond onTrue c t, p => (out_roots cur c p).seq (condOut_roots _ _ _ _)
  | .and l r, p | .or l r, p => (out_roots cur l p).seq (logicalOut_roots _ _ _ _)
  | .seq a b, p => (out_roots cur a p).thenI.seq (out_roots cur b _)
  | .sideAfter a b, p => ((out_roots cur a p).thenI.seq (out_roots cur b _)).thenI
  | .prefixApply _ x, p | .suffixApply x _, p => ((RootsNew.nil rfl).seq (out_roots cur x _)).thenI
  | .infixApply a _ b, p => ((((RootsNew.nil rfl).seq (out_roots cur a _)).seq (out_roots cur b _)).thenI).thenI
  | .chain arms none, p => by
    have h := outArms_roots cur arms p
    simp only [out]
    exact RootsNew.seq' (h.1.app (.nil (by cases arms <;> rfl))) (finishOut_roots (fun it hit => (h.2 it hit).left))
  | .chain arms (some e), p => by
    have h := outArms_roots cur arms p
    simp only [out]
    exact RootsNew.seq' (h.1.seq (out_roots cur e _)) (finishOut_roots (fun it hit => (h.2 it hit).left))
theorem outList_roots (cur : Nat) : ∀ (items : List (Expr F)) (p : Pos), RootsNew cur p (outList cur items p)
  | [], _ => .nil rfl
  | x :: xs, p => (out_roots cur x p).seq (outList_roots cur xs _)
theorem outArms_roots (cur : Nat) : ∀ (arms : List (Bool × Expr F × Expr F)) (p : Pos),
    RootsNew cur p (outArms cur arms p).1 ∧ ∀ it ∈ (outArms cur arms p).2, SlotAt p (outArms cur arms p).1 it.2
  | [], _ => ⟨.nil rfl, fun _ h => by cases h⟩
  | (onTrue, c, t) :: rest, p => by
    have ih := outArms_roots cur rest (p.after ((out cur c p).seq p (armOut onTrue)))
    simp only [outArms]
    refine ⟨(((out_roots cur c p).seq (.nil rfl)).app ih.1), fun it hit => ?_⟩
    simp only [List.mem_cons] at hit
    rcases hit with rfl | hit
    · exact SlotAt.left (SlotAt.right ⟨0, rfl, rfl⟩)
    · exact (ih.2 it hit).right
end

def Out.pats (o : Out F) : List Nat := o.roots.map (·.1.patch)

@[simp] theorem Out.pats_append (a b : Out F) : (a ++ b).pats = b.pats ++ a.pats := by simp [Out.pats]
@[simp] theorem Out.pats_seq (a : Out F) (p : Pos) (f : Pos → Out F) : (a.seq p f).pats = (f (p.after a)).pats ++ a.pats :=
  Out.pats_append a _

theorem RootsNew.pats_lt {cur : Nat} {p : Pos} {o : Out F} (h : RootsNew cur p o) :
    ∀ x ∈ o.pats, p.nj ≤ x ∧ x < (p.after o).nj := by
  intro x hx
  obtain ⟨r, hr, rfl⟩ := List.mem_map.1 hx
  exact (h r hr).1.lt

theorem finishOut_pats (cur : Nat) (items : List (Expr F × Nat)) (q : Pos) :
    (finishOut cur items q).pats = (items.map (·.2)).reverse := by
  cases items with
  | nil => rfl
  | cons it its => simp [finishOut, Out.pats, armRoots, Function.comp_def]

theorem nodup_rev {α : Type} {l : List α} (h : l.Nodup) : l.reverse.Nodup := by
  rw [List.Nodup, List.pairwise_reverse]
  exact h.imp (fun hab e => hab e.symm)

/-- a later stretch allocates above an earlier one -/
theorem nodup_sep {l1 l2 : List Nat} {m : Nat} (h1 : l1.Nodup) (h2 : l2.Nodup) (a : ∀ x ∈ l1, m ≤ x) (b : ∀ x ∈ l2, x < m) :
    (l1 ++ l2).Nodup :=
  List.nodup_append.2 ⟨h1, h2, fun x hx y hy e => by have := a x hx; have := b y hy; omega⟩

theorem Out.nodup_seq {cur : Nat} {p : Pos} {a : Out F} {f : Pos → Out F} (ha : RootsNew cur p a)
    (hb : RootsNew cur (p.after a) (f (p.after a))) (na : a.pats.Nodup) (nb : (f (p.after a)).pats.Nodup) :
    (a.seq p f).pats.Nodup := by
  rw [Out.pats_seq]
  exact nodup_sep nb na (fun x hx => (hb.pats_lt x hx).1) (fun x hx => (ha.pats_lt x hx).2)

/-- the end of an else-chain: the arm placeholders `I`, allocated with the conditions (`A`), become roots after the final arm (`E`) -/
theorem nodup_chain {I E A : List Nat} {m : Nat} (hAI : (A ++ I).Nodup) (hE : E.Nodup) (hEm : ∀ x ∈ E, m ≤ x)
    (hA : ∀ x ∈ A, x < m) (hI : ∀ x ∈ I, x < m) : (I.reverse ++ (E ++ A)).Nodup := by
  obtain ⟨nA, nI, dAI⟩ := List.nodup_append.1 hAI
  refine List.nodup_append.2 ⟨nodup_rev nI, nodup_sep hE nA hEm hA, fun x hx y hy e => ?_⟩
  rw [List.mem_reverse] at hx
  rcases List.mem_append.1 hy with hy | hy
  · have := hEm y hy; have := hI x hx; omega
  · exact dAI y hy x hx e.symm

/-- one more arm: its condition's roots `C` lie below its placeholder `j`, the later arms (`R`, `I`) above -/
theorem nodup_arm {R C I : List Nat} {j : Nat} (hRI : (R ++ I).Nodup) (hC : C.Nodup) (hge : ∀ x ∈ R ++ I, j < x)
    (hlt : ∀ x ∈ C, x < j) : ((R ++ C) ++ j :: I).Nodup := by
  obtain ⟨nR, nI, dRI⟩ := List.nodup_append.1 hRI
  refine List.nodup_append.2 ⟨nodup_sep nR hC (fun x hx => Nat.le_of_lt (hge x (List.mem_append.2 (.inl hx)))) hlt,
    List.nodup_cons.2 ⟨fun h => Nat.lt_irrefl _ (hge j (List.mem_append.2 (.inr h))), nI⟩, fun x hx y hy e => ?_⟩
  rcases List.mem_append.1 hx with hx | hx <;> rcases List.mem_cons.1 hy with rfl | hy
  · exact Nat.lt_irrefl _ (e ▸ hge x (List.mem_append.2 (.inl hx)))
  · exact dRI x hx y hy e
  · exact Nat.lt_irrefl _ (e ▸ hlt x hx)
  · have := hlt x hx; have := hge y (List.mem_append.2 (.inr hy)); omega

mutual
theorem out_nodup (cur : Nat) : ∀ (e : Expr F) (p : Pos), (out cur e p).pats.Nodup
  | .lit _, _ | .input, _ | .ident _, _ | .emptyNested, _ => List.nodup_nil
  | .nested _, _ => by simp [out, Out.pats]
  | .unary _ x, p => by simpa [out, Out.pats, oI] using out_nodup cur x p
  | .reapply x, p => by simpa [out, Out.pats, oI] using out_nodup cur x p
  | .binary _ a b, p | .pair b a, p | .applyTo b a, p => by
    have := Out.nodup_seq (out_roots cur a p) (out_roots cur b _) (out_nodup cur a p) (out_nodup cur b _)
    simpa [out, Out.pats, oI] using this
  | .list items, p => by simpa [out, Out.pats, oI] using outList_nodup cur items p
  | .cond onTrue c t, p => Out.nodup_seq (out_roots cur c p) (condOut_roots _ _ _ _) (out_nodup cur c p) (by simp [condOut, Out.pats])
  | .and l r, p | .or l r, p =>
    Out.nodup_seq (out_roots cur l p) (logicalOut_roots _ _ _ _) (out_nodup cur l p) (by simp [logicalOut, Out.pats])
  | .seq a b, p => by
    have := Out.nodup_seq (a := out cur a p ++ oI .updateValue none) (f := out cur b) (out_roots cur a p).thenI
      (out_roots cur b _) (by simpa [Out.pats, oI] using out_nodup cur a p) (out_nodup cur b _)
    simpa [out] using this
  | .sideAfter a b, p => by
    have := Out.nodup_seq (a := out cur a p ++ oI .startSideEffect none) (f := out cur b) (out_roots cur a p).thenI
      (out_roots cur b _) (by simpa [Out.pats, oI] using out_nodup cur a p) (out_nodup cur b _)
    simpa [out, Out.pats, oI] using this
  | .prefixApply sym x, p | .suffixApply x sym, p => by
    simpa [out, Out.pats, oI, oC, Out.seq] using out_nodup cur x (p.after (oC p .resolve (.sym sym)))
  | .infixApply a sym b, p => by
    have := Out.nodup_seq (a := (oC p .resolve (.sym sym)).seq p (out cur a)) (f := out cur b)
      ((RootsNew.nil rfl).seq (out_roots cur a _)) (out_roots cur b _)
      (by simpa [Out.pats, oC, Out.seq] using out_nodup cur a (p.after (oC p .resolve (.sym sym)))) (out_nodup cur b _)
    simpa [out, Out.pats, oI] using this
  | .chain arms none, p => by
    have h := outArms_nodup cur arms p
    have hr := outArms_roots cur arms p
    simp only [out, Out.pats_seq, finishOut_pats]
    have e : ((outArms cur arms p).1 ++ noFinalOut arms).pats = [] ++ (outArms cur arms p).1.pats := by
      cases arms <;> simp [noFinalOut, Out.pats, oI]
    rw [e]
    exact nodup_chain (m := (p.after (outArms cur arms p).1).nj) h List.nodup_nil (fun _ h => by cases h)
      (fun x hx => (hr.1.pats_lt x hx).2) (fun x hx => by
        obtain ⟨it, hit, rfl⟩ := List.mem_map.1 hx; exact (hr.2 it hit).lt.2)
  | .chain arms (some e), p => by
    have h := outArms_nodup cur arms p
    have hr := outArms_roots cur arms p
    simp only [out, Out.pats_seq, finishOut_pats]
    exact nodup_chain (m := (p.after (outArms cur arms p).1).nj) h (out_nodup cur e _)
      (fun x hx => ((out_roots cur e _).pats_lt x hx).1) (fun x hx => (hr.1.pats_lt x hx).2) (fun x hx => by
        obtain ⟨it, hit, rfl⟩ := List.mem_map.1 hx; exact (hr.2 it hit).lt.2)
theorem outList_nodup (cur : Nat) : ∀ (items : List (Expr F)) (p : Pos), (outList cur items p).pats.Nodup
  | [], _ => List.nodup_nil
  | x :: xs, p => Out.nodup_seq (out_roots cur x p) (outList_roots cur xs _) (out_nodup cur x p) (outList_nodup cur xs _)
theorem outArms_nodup (cur : Nat) : ∀ (arms : List (Bool × Expr F × Expr F)) (p : Pos),
    ((outArms cur arms p).1.pats ++ (outArms cur arms p).2.map (·.2)).Nodup
  | [], _ => List.nodup_nil
  | (onTrue, c, t) :: rest, p => by
    have ih := outArms_nodup cur rest (p.after ((out cur c p).seq p (armOut onTrue)))
    have hr := outArms_roots cur rest (p.after ((out cur c p).seq p (armOut onTrue)))
    have e : (p.after ((out cur c p).seq p (armOut onTrue))).nj = (p.after (out cur c p)).nj + 1 := by
      simp [Pos.after, armOut, Nat.add_assoc]
    simp only [outArms, Out.pats_append, Out.pats_seq, List.map_cons]
    have e2 : (armOut onTrue (p.after (out cur c p)) : Out F).pats = [] := rfl
    rw [e2, List.nil_append]
    refine nodup_arm ih (out_nodup cur c p) (fun x hx => ?_) (fun x hx => ((out_roots cur c p).pats_lt x hx).2)
    rcases List.mem_append.1 hx with hx | hx
    · have := (hr.1.pats_lt x hx).1; omega
    · obtain ⟨it, hit, rfl⟩ := List.mem_map.1 hx
      have := (hr.2 it hit).lt.1; omega
end

def isBranch : Instruction → Bool
  | .jumpIfTrue | .jumpIfFalse | .and | .or => true
  | _ => false

theorem isBranch_jumpIf (b : Bool) : isBranch (jumpIf b) = true := by cases b <;> rfl

/-- an instruction of the stretch `o` written at `p`: no operand, a list length, the restart jump, one of `o`'s constants,
or a branch to one of `o`'s placeholders — that of a root `o` pushes, or one of the arm placeholders `idx` of the
else-chain being emitted -/
def InstrNew (cur : Nat) (p : Pos) (o : Out F) (idx : List Nat) (x : Instr) : Prop :=
  x.2 = none ∨ (∃ n, x = (.makeList, some n)) ∨ x = (.jumpTo, some cur) ∨
  (∃ k, (x.1 = .put ∨ x.1 = .resolve) ∧ x.2 = some k ∧ p.nc ≤ k ∧ k < (p.after o).nc) ∨
  (∃ j, isBranch x.1 = true ∧ x.2 = some j ∧ SlotAt p o j ∧ ((∃ r ∈ o.roots, r.1.patch = j) ∨ j ∈ idx))

theorem InstrNew.left {cur : Nat} {p : Pos} {a b : Out F} {idx : List Nat} {x : Instr} (h : InstrNew cur p a idx x) :
    InstrNew cur p (a ++ b) idx x := by
  rcases h with h | h | h | ⟨k, a1, a2, a3, a4⟩ | ⟨j, a1, a2, a3, a4⟩
  · exact .inl h
  · exact .inr (.inl h)
  · exact .inr (.inr (.inl h))
  · exact .inr (.inr (.inr (.inl ⟨k, a1, a2, a3, by simp only [Pos.after] at a4 ⊢; simp; omega⟩)))
  · exact .inr (.inr (.inr (.inr ⟨j, a1, a2, a3.left, a4.imp (fun ⟨r, hr, e⟩ => ⟨r, by simp [hr], e⟩) id⟩)))

theorem InstrNew.right {cur : Nat} {p : Pos} {a b : Out F} {idx : List Nat} {x : Instr}
    (h : InstrNew cur (p.after a) b idx x) : InstrNew cur p (a ++ b) idx x := by
  rcases h with h | h | h | ⟨k, a1, a2, a3, a4⟩ | ⟨j, a1, a2, a3, a4⟩
  · exact .inl h
  · exact .inr (.inl h)
  · exact .inr (.inr (.inl h))
  · exact .inr (.inr (.inr (.inl ⟨k, a1, a2, by simp only [Pos.after] at a3; omega, by rw [Pos.after_app]; exact a4⟩)))
  · exact .inr (.inr (.inr (.inr ⟨j, a1, a2, a3.right, a4.imp (fun ⟨r, hr, e⟩ => ⟨r, by simp [hr], e⟩) id⟩)))

theorem InstrNew.mono {cur : Nat} {p : Pos} {o : Out F} {idx idx' : List Nat} {x : Instr} (h : InstrNew cur p o idx x)
    (hi : ∀ j ∈ idx, (∃ r ∈ o.roots, r.1.patch = j) ∨ j ∈ idx') : InstrNew cur p o idx' x := by
  rcases h with h | h | h | h | ⟨j, a1, a2, a3, a4⟩
  · exact .inl h
  · exact .inr (.inl h)
  · exact .inr (.inr (.inl h))
  · exact .inr (.inr (.inr (.inl h)))
  · exact .inr (.inr (.inr (.inr ⟨j, a1, a2, a3, a4.elim .inl (hi j)⟩)))

def AllNew (cur : Nat) (p : Pos) (o : Out F) (idx : List Nat) : Prop := ∀ x ∈ o.instrs, InstrNew cur p o idx x

theorem AllNew.app {cur : Nat} {p : Pos} {a b : Out F} {idx : List Nat} (ha : AllNew cur p a idx)
    (hb : AllNew cur (p.after a) b idx) : AllNew cur p (a ++ b) idx := by
  intro x hx
  simp only [Out.append_instrs, List.mem_append] at hx
  exact hx.elim (fun h => (ha x h).left) (fun h => (hb x h).right)

theorem AllNew.seq {cur : Nat} {p : Pos} {a : Out F} {f : Pos → Out F} {idx : List Nat} (ha : AllNew cur p a idx)
    (hb : AllNew cur (p.after a) (f (p.after a)) idx) : AllNew cur p (a.seq p f) idx := ha.app hb

theorem AllNew.nil {cur : Nat} {p : Pos} {o : Out F} {idx : List Nat} (h : o.instrs = []) : AllNew cur p o idx := by
  intro x hx; rw [h] at hx; cases hx

theorem AllNew.one {cur : Nat} {p : Pos} {idx : List Nat} {i : Instruction} {d : Option Nat}
    (h : InstrNew cur p (oI i d : Out F) idx (i, d)) : AllNew cur p (oI i d : Out F) idx := by
  intro x hx
  simp only [oI_instrs, List.mem_singleton] at hx
  subst hx; exact h

theorem AllNew.op {cur : Nat} {p : Pos} {a : Out F} {idx : List Nat} {i : Instruction} (ha : AllNew cur p a idx) :
    AllNew cur p (a ++ oI i none) idx := ha.app (.one (.inl rfl))

theorem AllNew.const {cur : Nat} {idx : List Nat} (p : Pos) (i : Instruction) (v : Val F) (hi : i = .put ∨ i = .resolve) :
    AllNew cur p (oC p i v) idx := by
  intro x hx
  simp only [oC_instrs, List.mem_singleton] at hx
  subst hx
  exact .inr (.inr (.inr (.inl ⟨p.nc, hi, rfl, Nat.le_refl _, by simp [Pos.after, oC]⟩)))

theorem AllNew.mono {cur : Nat} {p : Pos} {o : Out F} {idx idx' : List Nat} (h : AllNew cur p o idx)
    (hi : ∀ j ∈ idx, (∃ r ∈ o.roots, r.1.patch = j) ∨ j ∈ idx') : AllNew cur p o idx' :=
  fun x hx => (h x hx).mono hi

theorem condOut_new (cur : Nat) (onTrue : Bool) (t : Expr F) (p : Pos) : AllNew cur p (condOut cur onTrue t p) [] := by
  intro x hx
  simp only [condOut, List.mem_cons, List.not_mem_nil, or_false] at hx
  rcases hx with rfl | rfl
  · exact .inr (.inr (.inr (.inr ⟨p.nj, isBranch_jumpIf _, rfl, ⟨0, rfl, rfl⟩, .inl ⟨_, List.mem_singleton.2 rfl, rfl⟩⟩)))
  · exact .inl rfl

theorem logicalOut_new (cur : Nat) {i : Instruction} (hi : isBranch i = true) (x : Expr F) (p : Pos) :
    AllNew cur p (logicalOut cur i x p) [] := by
  intro y hy
  simp only [logicalOut, List.mem_singleton] at hy
  subst hy
  exact .inr (.inr (.inr (.inr ⟨p.nj, hi, rfl, ⟨0, rfl, rfl⟩, .inl ⟨_, List.mem_singleton.2 rfl, rfl⟩⟩)))

theorem finishOut_patch {cur : Nat} {q : Pos} {items : List (Expr F × Nat)} {it : Expr F × Nat} (hit : it ∈ items) :
    ∃ r ∈ (finishOut cur items q).roots, r.1.patch = it.2 := by
  cases items with
  | nil => cases hit
  | cons it0 its =>
    refine ⟨(⟨.code it.1, it.2, [(.jumpTo, some q.nj)], cur⟩, q.dep - 1), ?_, rfl⟩
    simp only [finishOut, armRoots, List.mem_map, List.mem_reverse]
    exact ⟨_, ⟨it, hit, rfl⟩, rfl⟩

theorem AllNew.finish {cur : Nat} {p : Pos} {a : Out F} {items : List (Expr F × Nat)}
    (ha : AllNew cur p a (items.map (·.2))) : AllNew cur p (a.seq p (finishOut cur items)) [] := by
  refine AllNew.mono (ha.seq (.nil (finishOut_instrs _ _ _))) (fun j hj => .inl ?_)
  obtain ⟨it, hit, rfl⟩ := List.mem_map.1 hj
  obtain ⟨r, hr, e⟩ := finishOut_patch (cur := cur) (q := p.after a) hit
  exact ⟨r, by simp [hr], e⟩

mutual
theorem out_new (cur : Nat) : ∀ (e : Expr F) (p : Pos), AllNew cur p (out cur e p) []
  | .lit v, p | .emptyNested, p => .const p _ _ (.inl rfl)
  | .ident sym, p => .const p _ _ (.inr rfl)
  | .input, p => .one (.inl rfl)
  | .nested id, p => by
    intro x hx
    simp only [out, List.mem_singleton] at hx
    subst hx
    exact .inr (.inr (.inr (.inl ⟨p.nc, .inl rfl, rfl, Nat.le_refl _, by simp [Pos.after, out]⟩)))
  | .unary _ x, p => (out_new cur x p).op
  | .reapply x, p => (out_new cur x p).op.app (.one (.inr (.inr (.inl rfl))))
  | .binary _ a b, p | .pair b a, p | .applyTo b a, p => ((out_new cur a p).seq (out_new cur b _)).op
  | .list items, p => (outList_new cur items p).app (.one (.inr (.inl ⟨_, rfl⟩)))
  | .cond onTrue c t, p => (out_new cur c p).seq (condOut_new _ _ _ _)
  | .and l r, p => (out_new cur l p).seq (logicalOut_new cur rfl _ _)
  | .or l r, p => (out_new cur l p).seq (logicalOut_new cur rfl _ _)
  | .seq a b, p => (out_new cur a p).op.seq (out_new cur b _)
  | .sideAfter a b, p => ((out_new cur a p).op.seq (out_new cur b _)).op
  | .prefixApply _ x, p | .suffixApply x _, p => ((AllNew.const p _ _ (.inr rfl)).seq (out_new cur x _)).op
  | .infixApply a _ b, p =>
    ((((AllNew.const p _ _ (.inr rfl)).seq (out_new cur a _)).seq (out_new cur b _)).app (.one (.inr (.inl ⟨_, rfl⟩)))).op
  | .chain arms none, p => by
    simp only [out]
    refine AllNew.finish ((outArms_new cur arms p).app ?_)
    cases arms with
    | nil => exact .one (.inl rfl)
    | cons a as => exact .nil rfl
  | .chain arms (some e), p => by
    simp only [out]
    exact AllNew.finish ((outArms_new cur arms p).seq ((out_new cur e _).mono (fun _ h => by cases h)))
theorem outList_new (cur : Nat) : ∀ (items : List (Expr F)) (p : Pos), AllNew cur p (outList cur items p) []
  | [], _ => .nil rfl
  | x :: xs, p => (out_new cur x p).seq (outList_new cur xs _)
theorem outArms_new (cur : Nat) : ∀ (arms : List (Bool × Expr F × Expr F)) (p : Pos),
    AllNew cur p (outArms cur arms p).1 ((outArms cur arms p).2.map (·.2))
  | [], _ => .nil rfl
  | (onTrue, c, t) :: rest, p => by
    simp only [outArms, List.map_cons]
    refine AllNew.app (AllNew.seq ((out_new cur c p).mono (fun _ h => by cases h)) ?_)
      ((outArms_new cur rest _).mono (fun j hj => .inr (List.mem_cons_of_mem _ hj)))
    intro x hx
    simp only [armOut, List.mem_singleton] at hx
    subst hx
    exact .inr (.inr (.inr (.inr ⟨_, isBranch_jumpIf _, rfl, ⟨0, rfl, rfl⟩, .inr List.mem_cons_self⟩)))
end

/-- an expression constant names the body being compiled (`{ }`) or a nested body pushed as a root -/
def ConstNew (cur : Nat) (o : Out F) (v : Val F) : Prop :=
  ∀ j, v = .expr j → j = cur ∨ ∃ r ∈ o.roots, r.1.patch = j ∧ ∃ id, r.1.kind = .ref id

structure OutWF (cur : Nat) (o : Out F) : Prop where
  consts : ∀ v ∈ o.consts, ConstNew cur o v
  roots : ∀ r ∈ o.roots, ∀ b, r.1.kind = .code b → wfE b = true

theorem OutWF.app {cur : Nat} {a b : Out F} (ha : OutWF cur a) (hb : OutWF cur b) : OutWF cur (a ++ b) where
  consts v hv j hj := by
    simp only [Out.append_consts, List.mem_append] at hv
    rcases hv with hv | hv
    · exact (ha.consts v hv j hj).imp id (fun ⟨r, hr, e⟩ => ⟨r, by simp [hr], e⟩)
    · exact (hb.consts v hv j hj).imp id (fun ⟨r, hr, e⟩ => ⟨r, by simp [hr], e⟩)
  roots r hr := by
    simp only [Out.append_roots, List.mem_append] at hr
    exact hr.elim (hb.roots r) (ha.roots r)

theorem OutWF.nil {cur : Nat} {o : Out F} (hc : o.consts = []) (hr : o.roots = []) : OutWF cur o :=
  ⟨fun v hv => (by rw [hc] at hv; cases hv), fun r h => (by rw [hr] at h; cases h)⟩

theorem OutWF.thenI {cur : Nat} {a : Out F} {i : Instruction} {d : Option Nat} (ha : OutWF cur a) : OutWF cur (a ++ oI i d) :=
  ha.app (.nil rfl rfl)

theorem OutWF.const {cur : Nat} (p : Pos) (i : Instruction) {v : Val F} (hv : ∀ j, v = .expr j → j = cur) :
    OutWF cur (oC p i v) :=
  ⟨fun w hw j hj => (by simp only [oC, List.mem_singleton] at hw; subst hw; exact .inl (hv j hj)), fun r h => (by cases h)⟩

theorem OutWF.root {cur : Nat} (is : List Instr) (js : List (Option Nat)) (r : Root F) (d : Nat) {t : Expr F}
    (hk : r.kind = .code t) (hw : wfE t = true) : OutWF cur (⟨is, js, [], [(r, d)]⟩ : Out F) :=
  ⟨fun v hv => (by cases hv), fun q hq b hb => by
    simp only [List.mem_singleton] at hq; subst hq; rw [hk] at hb; cases hb; exact hw⟩

theorem finishOut_wf {cur : Nat} {q : Pos} {items : List (Expr F × Nat)} (hit : ∀ it ∈ items, wfE it.1 = true) :
    OutWF cur (finishOut cur items q) := by
  cases items with
  | nil => exact .nil rfl rfl
  | cons it its =>
    refine ⟨fun v hv => (by cases hv), fun r hr b hb => ?_⟩
    simp only [finishOut, armRoots, List.mem_map, List.mem_reverse] at hr
    obtain ⟨_, ⟨it', hin, rfl⟩, rfl⟩ := hr
    cases hb
    exact hit it' hin

mutual
theorem out_wf (cur : Nat) : ∀ (e : Expr F) (p : Pos), wfE e = true → OutWF cur (out cur e p)
  | .lit v, p, hw => .const p _ (fun j hj => by subst hj; simp [wfE] at hw)
  | .ident sym, p, _ => .const p _ (fun j hj => by cases hj)
  | .emptyNested, p, _ => .const p _ (fun j hj => by cases hj; rfl)
  | .input, _, _ => .nil rfl rfl
  | .nested id, p, _ =>
    ⟨fun v hv j hj => by
      simp only [out, List.mem_singleton] at hv; subst hv; cases hj
      exact .inr ⟨_, List.mem_singleton.2 rfl, rfl, id, rfl⟩,
     fun r hr b hb => by simp only [out, List.mem_singleton] at hr; subst hr; cases hb⟩
  | .unary _ x, p, hw => by
    simp only [wfE, Bool.and_eq_true] at hw
    exact (out_wf cur x p hw.2).thenI
  | .reapply x, p, hw => by
    simp only [wfE] at hw
    exact (out_wf cur x p hw).thenI.thenI
  | .binary _ a b, p, hw => by
    simp only [wfE, Bool.and_eq_true] at hw
    exact ((out_wf cur a p hw.1.2).app (out_wf cur b _ hw.2)).thenI
  | .pair b a, p, hw | .applyTo b a, p, hw => by
    simp only [wfE, Bool.and_eq_true] at hw
    exact ((out_wf cur a p hw.2).app (out_wf cur b _ hw.1)).thenI
  | .list items, p, hw => by
    simp only [wfE] at hw
    exact (outList_wf cur items p hw).thenI
  | .cond onTrue c t, p, hw => by
    simp only [wfE, Bool.and_eq_true] at hw
    exact (out_wf cur c p hw.1).app (.root _ _ _ _ rfl hw.2)
  | .and l r, p, hw | .or l r, p, hw => by
    simp only [wfE, Bool.and_eq_true] at hw
    exact (out_wf cur l p hw.1).app (.root _ _ _ _ rfl hw.2)
  | .seq a b, p, hw => by
    simp only [wfE, Bool.and_eq_true] at hw
    exact (out_wf cur a p hw.1).thenI.app (out_wf cur b _ hw.2)
  | .sideAfter a b, p, hw => by
    simp only [wfE, Bool.and_eq_true] at hw
    exact ((out_wf cur a p hw.1.1).thenI.app (out_wf cur b _ hw.1.2)).thenI
  | .prefixApply _ x, p, hw | .suffixApply x _, p, hw => by
    simp only [wfE] at hw
    exact ((OutWF.const p _ (fun j hj => by cases hj)).app (out_wf cur x _ hw)).thenI
  | .infixApply a _ b, p, hw => by
    simp only [wfE, Bool.and_eq_true] at hw
    exact ((((OutWF.const p _ (fun j hj => by cases hj)).app (out_wf cur a _ hw.1)).app (out_wf cur b _ hw.2)).thenI).thenI
  | .chain arms none, _, hw => by simp [wfE_chain] at hw
  | .chain arms (some e), p, hw => by
    simp only [wfE_chain, Bool.and_eq_true] at hw
    have h := outArms_wf cur arms p hw.1
    exact ((h.1.app (out_wf cur e _ hw.2)).app (finishOut_wf h.2))
theorem outList_wf (cur : Nat) : ∀ (items : List (Expr F)) (p : Pos), wfEList items = true → OutWF cur (outList cur items p)
  | [], _, _ => .nil rfl rfl
  | x :: xs, p, hw => by
    simp only [wfEList, Bool.and_eq_true] at hw
    exact (out_wf cur x p hw.1).app (outList_wf cur xs _ hw.2)
theorem outArms_wf (cur : Nat) : ∀ (arms : List (Bool × Expr F × Expr F)) (p : Pos), wfEArms arms = true →
    OutWF cur (outArms cur arms p).1 ∧ ∀ it ∈ (outArms cur arms p).2, wfE it.1 = true
  | [], _, _ => ⟨.nil rfl rfl, fun _ h => by cases h⟩
  | (onTrue, c, t) :: rest, p, hw => by
    simp only [wfEArms, Bool.and_eq_true] at hw
    have ih := outArms_wf cur rest (p.after ((out cur c p).seq p (armOut onTrue))) hw.2
    refine ⟨((out_wf cur c p hw.1.1).app (.nil rfl rfl)).app ih.1, fun it hit => ?_⟩
    simp only [outArms, List.mem_cons] at hit
    rcases hit with rfl | hit
    · exact hw.1.2
    · exact ih.2 it hit
end

def rootW (r : Root F) : Nat :=
  match r.kind with
  | .code e => exprSize e
  | .ref _ => 1

def listW : List (Root F) → Nat
  | [] => 0
  | r :: rs => rootW r + listW rs

theorem listW_append (a b : List (Root F)) : listW (a ++ b) = listW a + listW b := by
  induction a with
  | nil => simp [listW]
  | cons x xs ih => simp [listW, ih]; omega

theorem listW_reverse (a : List (Root F)) : listW a.reverse = listW a := by
  induction a with
  | nil => rfl
  | cons x xs ih => simp [listW, listW_append, ih]; omega

def itemsW : List (Expr F × Nat) → Nat
  | [] => 0
  | it :: its => exprSize it.1 + itemsW its

theorem listW_armRoots (cur join : Nat) (items : List (Expr F × Nat)) : listW (armRoots cur join items) = itemsW items := by
  simp only [armRoots]
  rw [listW_reverse]
  induction items with
  | nil => rfl
  | cons it its ih => simp [listW, itemsW, rootW, ih]

def Out.weight (o : Out F) : Nat := listW (o.roots.map (·.1))

@[simp] theorem Out.weight_append (a b : Out F) : (a ++ b).weight = b.weight + a.weight := by
  simp [Out.weight, listW_append]
@[simp] theorem Out.weight_seq (a : Out F) (p : Pos) (f : Pos → Out F) : (a.seq p f).weight = (f (p.after a)).weight + a.weight :=
  Out.weight_append a _
@[simp] theorem oI_weight (i : Instruction) (d : Option Nat) : (oI i d : Out F).weight = 0 := rfl
@[simp] theorem oC_weight (p : Pos) (i : Instruction) (v : Val F) : (oC p i v).weight = 0 := rfl

@[simp] theorem finishOut_weight (cur : Nat) (items : List (Expr F × Nat)) (q : Pos) : (finishOut cur items q).weight = itemsW items := by
  cases items with
  | nil => rfl
  | cons it its => simp only [finishOut, Out.weight, map_pair_fst, listW_armRoots]

mutual
/-- a root pushed weighs the size of its expression, a nested id 1: less than what the expression that pushes them weighs -/
theorem out_weight (cur : Nat) : ∀ (e : Expr F) (p : Pos), (out cur e p).weight + 1 ≤ exprSize e
  | .lit _, _ | .input, _ | .ident _, _ | .emptyNested, _ => by simp [out, exprSize]
  | .nested _, _ => by simp [out, exprSize, Out.weight, listW, rootW]
  | .unary _ x, p | .reapply x, p => by have := out_weight cur x p; simp [out, exprSize]; omega
  | .prefixApply sym x, p | .suffixApply x sym, p => by
    have := out_weight cur x (p.after (oC p .resolve (.sym sym : Val F))); simp [out, exprSize]; omega
  | .binary _ a b, p | .pair b a, p | .applyTo b a, p => by
    have h1 := out_weight cur a p
    have h2 := out_weight cur b (p.after (out cur a p))
    simp [out, exprSize]; omega
  | .infixApply a sym b, p => by
    have h1 := out_weight cur a (p.after (oC p .resolve (.sym sym : Val F)))
    have h2 := out_weight cur b (p.after ((oC p .resolve (.sym sym : Val F)).seq p (out cur a)))
    simp [out, exprSize] at h2 ⊢; omega
  | .seq a b, p => by
    have h1 := out_weight cur a p
    have h2 := out_weight cur b (p.after (out cur a p ++ oI .updateValue none))
    simp [out, exprSize]; omega
  | .sideAfter a b, p => by
    have h1 := out_weight cur a p
    have h2 := out_weight cur b (p.after (out cur a p ++ oI .startSideEffect none))
    simp [out, exprSize]; omega
  | .list items, p => by have := outList_weight cur items p; simp [out, exprSize]; omega
  | .cond _ c _, p | .and c _, p | .or c _, p => by
    have := out_weight cur c p; simp [out, exprSize, condOut, logicalOut, Out.weight, listW, rootW] at this ⊢; omega
  | .chain arms none, p => by
    have h1 := outArms_weight cur arms p
    have : (noFinalOut arms : Out F).weight = 0 := by cases arms <;> rfl
    simp [out, exprSize, this]; omega
  | .chain arms (some e), p => by
    have h1 := outArms_weight cur arms p
    have h2 := out_weight cur e (p.after (outArms cur arms p).1)
    simp [out, exprSize]; omega
theorem outList_weight (cur : Nat) : ∀ (items : List (Expr F)) (p : Pos), (outList cur items p).weight ≤ exprsSize items
  | [], _ => Nat.le_refl _
  | x :: xs, p => by
    have h1 := out_weight cur x p
    have h2 := outList_weight cur xs (p.after (out cur x p))
    simp [outList, exprsSize]; omega
theorem outArms_weight (cur : Nat) : ∀ (arms : List (Bool × Expr F × Expr F)) (p : Pos),
    (outArms cur arms p).1.weight + itemsW (outArms cur arms p).2 ≤ armsSize arms
  | [], _ => Nat.le_refl _
  | (onTrue, c, t) :: rest, p => by
    have h1 := out_weight cur c p
    have h2 := outArms_weight cur rest (p.after ((out cur c p).seq p (armOut onTrue)))
    have : (armOut onTrue (p.after (out cur c p)) : Out F).weight = 0 := rfl
    simp [outArms, armsSize, itemsW, this]; omega
end

end Garnish.Abs
