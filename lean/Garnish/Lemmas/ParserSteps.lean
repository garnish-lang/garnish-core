/-
What `parse_token` and one `step` of the parser model do in the situations of the operator fragment: the result of
`parse_token` as an equation, with the node array it returns read entry by entry (the new operator stops below a node `x`, or
passes the whole spine), and the state after a binary-operator / value token in terms of `parseToken`, in both directions
(`step_bin3_stateG` from a successful step, `step_bin3_okG` from the result of `parse_token`).  A lemma whose name ends in `G`
holds for any `under_group` (`underGroupOf st = .ok ug`, so inside brackets too); `bin3`: the three classes of binary operators
`isBin3Tok`.
-/
import Garnish.Lemmas.ParserInv

namespace Garnish.Model.Parser
open Garnish Garnish.Gen

def setParent (v : Option Nat) (nd : ParseNode) : ParseNode := { nd with parent := v }
def setRight (v : Option Nat) (nd : ParseNode) : ParseNode := { nd with right := v }

theorem modifyNode?_get {a a' : Array ParseNode} {i : Nat} {f : ParseNode → ParseNode}
    (h : modifyNode? a i f = some a') (j : Nat) : a'[j]? = if j = i then (a[j]?).map f else a[j]? := by
  unfold modifyNode? at h
  split at h
  · rename_i hi
    injection h with h; subst h
    by_cases hj : j = i
    · subst hj; simp [hi]
    · have : i ≠ j := fun e => hj e.symm
      simp [hj, Array.getElem?_set, this]
  · cases h

theorem modifyNode?_none {a : Array ParseNode} {i : Nat} {f : ParseNode → ParseNode} (h : a.size ≤ i) :
    modifyNode? a i f = none := by
  unfold modifyNode?
  split
  · omega
  · rfl

theorem modifyNode?_isSome {a : Array ParseNode} {i : Nat} (f : ParseNode → ParseNode) (h : i < a.size) :
    ∃ a', modifyNode? a i f = some a' := by
  unfold modifyNode?
  simp [h]

/-- the new operator passes the whole right spine and becomes the root: only the old root is re-parented -/
theorem parseToken_root {id q rt : Nat} {d : Definition} {left right : Option Nat} {nodes : Array ParseNode}
    {ug : Option Nat} {rtl : Bool} (hq : priority d = some q)
    (hw : walkLoop nodes q ug rtl (nodes.size + 1) 0 left left = .ok (some rt, none)) (hrt : rt < nodes.size) :
    ∃ nodes', parseToken id d left right nodes ug rtl = .ok (nodes', ⟨d, none, some rt, right⟩) ∧
      ∀ j, nodes'[j]? = if j = rt then (nodes[j]?).map (setParent (some id)) else nodes[j]? := by
  obtain ⟨n1, h1⟩ := modifyNode?_isSome (fun node => { node with parent := some id }) hrt
  refine ⟨n1, ?_, modifyNode?_get h1⟩
  unfold parseToken
  rw [hq]
  have hne : ((none : Option Nat) == some rt) = false := rfl
  simp only [hw, Outcome.bind, hne, Bool.false_eq_true, if_false, h1]

/-- the new operator stops below `x`, whose right subtree (root `tlv`) becomes its left operand -/
theorem parseToken_stop {id q tlv x : Nat} {d : Definition} {left right : Option Nat} {nodes : Array ParseNode}
    {ug : Option Nat} {rtl : Bool} {nx : ParseNode} (hq : priority d = some q)
    (hw : walkLoop nodes q ug rtl (nodes.size + 1) 0 left left = .ok (some tlv, some x)) (hne : tlv ≠ x)
    (hx : nodes[x]? = some nx) (hxr : nx.right = some tlv) (htl : tlv < nodes.size) :
    ∃ nodes', parseToken id d left right nodes ug rtl = .ok (nodes', ⟨d, some x, some tlv, right⟩) ∧
      ∀ j, nodes'[j]? = if j = tlv then (nodes[j]?).map (setParent (some id))
                        else if j = x then (nodes[j]?).map (setRight (some id)) else nodes[j]? := by
  have hxs : x < nodes.size := (Array.getElem?_eq_some_iff.mp hx).1
  obtain ⟨n1, h1⟩ := modifyNode?_isSome (fun node => { node with parent := some id }) htl
  have s1 := modifyNode?_size h1
  have g1 := modifyNode?_get h1
  have hx1 : n1[x]? = some nx := by rw [g1 x, if_neg (fun e => hne e.symm)]; exact hx
  obtain ⟨n2, h2⟩ := modifyNode?_isSome (a := n1) (i := x) (fun p => { p with right := some id }) (by omega)
  have s2 := modifyNode?_size h2
  have g2 := modifyNode?_get h2
  obtain ⟨n3, h3⟩ := modifyNode?_isSome (a := n2) (i := tlv) (fun node => { node with parent := some id }) (by omega)
  have g3 := modifyNode?_get h3
  refine ⟨n3, ?_, fun j => ?_⟩
  · unfold parseToken
    rw [hq]
    have hne' : ((some x : Option Nat) == some tlv) = false := by
      rw [beq_eq_false_iff_ne]; intro e; injection e with e; exact hne e.symm
    simp only [hw, Outcome.bind, hne', Bool.false_eq_true, if_false, h1, hx1, h2, hxr, h3]
  · rw [g3 j, g2 j, g1 j]
    by_cases h1 : j = tlv
    · subst h1; simp [hne, Option.map_map]; rfl
    · by_cases h2 : j = x
      · subst h2; simp [h1]; rfl
      · simp [h1, h2]

end Garnish.Model.Parser

namespace Garnish.Spec
open Garnish Garnish.Gen Garnish.Model.Parser

/-- a value directly after the operator node `m` (whose `right` already points to the value's id) -/
theorem parseToken_atomG {ug : Option Nat} {m qo : Nat} {d : Definition} {right : Option Nat} {nodes nodes' : Array ParseNode}
    {rtl : Bool} {info : Info} {on : ParseNode} (hq : priority d = some 10) (hm : nodes[m]? = some on)
    (hqo : priority on.definition = some qo) (hlt : 10 < qo) (hor : on.right = some nodes.size)
    (h : parseToken nodes.size d (some m) right nodes ug rtl = .ok (nodes', info)) :
    info = ⟨d, some m, none, right⟩ ∧ ∀ j : Nat, nodes'[j]? = nodes[j]? := by
  unfold parseToken at h
  have hw : walkLoop nodes 10 ug rtl (nodes.size + 1) 0 (some m) (some m) = .ok (some m, some m) := by
    unfold walkLoop
    simp [hm, hqo, hlt]
  simp only [hq] at h
  obtain ⟨⟨tl, par⟩, hw', h⟩ := Outcome.bind_eq_ok.1 h
  rw [hw] at hw'
  injection hw' with hw'; injection hw' with e1 e2; subst e1; subst e2
  simp only [beq_self_eq_true, if_true, Outcome.bind, hm] at h
  split at h
  · cases h
  · rename_i nodes2 hm2
    have g2 := modifyNode?_get hm2
    simp only [hor] at h
    have hsz := modifyNode?_size hm2
    rw [modifyNode?_none (by omega)] at h
    injection h with h; injection h with e1 e2
    subst e1
    refine ⟨e2.symm, ?_⟩
    intro j
    rw [g2 j]
    by_cases hj : j = m
    · subst hj
      simp only [if_true, hm, Option.map_some]
      congr 1
      cases on
      simp_all
    · simp [hj]

theorem step_bin3_stateG (st st1 : PState) (o : PToken) {il : Bool} (ho : isBin3Tok o = true) (hnl : st.nextLastLeft = none)
    {ug : Option Nat} (hug : underGroupOf st = .ok ug) (hadj : adjustLastLeft st ug = .ok st) (h : step st o il = .ok st1) :
    ∃ nodes' info,
      parseToken st.nodes.size (getDefinition o.type).1 st.lastLeft (if il then none else some (st.nodes.size + 1)) st.nodes ug
        ((getDefinition o.type).2 == .binaryRightToLeft) = .ok (nodes', info) ∧
      st1.nodes = nodes'.push ⟨(getDefinition o.type).1, (getDefinition o.type).2, info.parent, info.left, info.right, o⟩ ∧
      st1.lastLeft = some st.nodes.size ∧ st1.checkForList = false ∧ st1.nextLastLeft = none ∧
      st1.groupStack = st.groupStack ∧ st1.currentGroup = st.currentGroup ∧ st1.previousSecondDef = (getDefinition o.type).2 ∧
      st1.nextParent = some st.nodes.size := by
  obtain ⟨ug', sta, nodes', info, hug', hadj', hpt, h2, h3, h4, h5, h6, h7, h8, h9⟩ :=
    step_bin3_state st st1 o il ho hnl h
  rw [hug] at hug'; cases hug'
  rw [hadj] at hadj'; cases hadj'
  exact ⟨nodes', info, hpt, h2, h3, h4, h5, h6, h7, h8, h9⟩

theorem step_bin3_okG (st : PState) (o : PToken) (il : Bool) (ho : isBin3Tok o = true) (hnl : st.nextLastLeft = none)
    {ug : Option Nat} (hug : underGroupOf st = .ok ug) (hadj : adjustLastLeft st ug = .ok st)
    (hcomp : checkComposition st.previousSecondDef (getDefinition o.type).2 st.checkForList = true)
    {nodes' : Array ParseNode} {info : Info}
    (hpt : parseToken st.nodes.size (getDefinition o.type).1 st.lastLeft (if il then none else some (st.nodes.size + 1))
      st.nodes ug ((getDefinition o.type).2 == .binaryRightToLeft) = .ok (nodes', info)) :
    ∃ st1, step st o il = .ok st1 ∧
      st1.nodes = nodes'.push ⟨(getDefinition o.type).1, (getDefinition o.type).2, info.parent, info.left, info.right, o⟩ ∧
      st1.lastLeft = some st.nodes.size ∧ st1.checkForList = false ∧ st1.nextLastLeft = none ∧
      st1.groupStack = st.groupStack ∧ st1.currentGroup = st.currentGroup ∧ st1.previousSecondDef = (getDefinition o.type).2 ∧
      st1.nextParent = some st.nodes.size := by
  have hop : isOpSec (getDefinition o.type).2 = true := by
    unfold isBin3Tok at ho; unfold isOpSec; rw [ho]; rfl
  have hns : ((getDefinition o.type).2 == SecDef.unarySuffix) = false := by
    unfold isBin3Tok at ho
    simp only [Bool.or_eq_true, beq_iff_eq] at ho
    rcases ho with (ho | ho) | ho <;> rw [ho] <;> rfl
  obtain ⟨st1, h1⟩ : ∃ st1, step st o il = .ok st1 := by
    rw [step_op_eq st o il hop hug hadj, if_pos hcomp, hns]
    simp only [Bool.false_eq_true, if_false, hpt, Outcome.bind]
    exact ⟨_, rfl⟩
  obtain ⟨nodes1, info1, hpt1, r⟩ := step_bin3_stateG st st1 o ho hnl hug hadj h1
  rw [hpt] at hpt1; cases hpt1
  exact ⟨st1, h1, r⟩

theorem step_atom_specG (st st1 : PState) (a : PToken) (il : Bool)
    (hs : (getDefinition a.type).2 = .value ∨ (getDefinition a.type).2 = .identifier)
    (hd : ((getDefinition a.type).1 != Definition.drop) = true)
    (hc : st.checkForList = false) (hnl : st.nextLastLeft = none)
    {ug : Option Nat} (hug : underGroupOf st = .ok ug) (hadj : adjustLastLeft st ug = .ok st) (h : step st a il = .ok st1) :
    ∃ nodes' info,
      parseToken st.nodes.size (getDefinition a.type).1 st.lastLeft none st.nodes ug false = .ok (nodes', info) ∧
      st1.nodes = nodes'.push ⟨renameDef (getDefinition a.type).1 info.parent nodes', (getDefinition a.type).2,
        info.parent, info.left, info.right, a⟩ ∧
      st1.lastLeft = some st.nodes.size ∧ st1.checkForList = false ∧ st1.nextLastLeft = none ∧
      st1.groupStack = st.groupStack ∧ st1.currentGroup = st.currentGroup ∧ st1.previousSecondDef = (getDefinition a.type).2 := by
  rw [step_atom_eq st a il hs hc hug hadj] at h
  split at h
  · obtain ⟨⟨nodes', info⟩, hpt, h⟩ := Outcome.bind_eq_ok.1 h
    obtain ⟨hsz, hdef⟩ := parseToken_size_def hpt
    rw [stepEnd_push _ _ _ _ _ (by rw [hdef]; exact hd) (by exact hnl)] at h
    cases h
    exact ⟨nodes', info, hpt, by simp only [hdef], rfl, rfl, hnl, rfl, rfl, rfl⟩
  · cases h

end Garnish.Spec
