/-
Frame lemmas for the compaction / cloning model.  `Ext lo s s'`: cells are appended, cells below `lo` are kept, the frame
(`SameFrame`: retention count, block start, symbol table, heads) is unchanged.  Every step of `create_index_stack` and
`clone_index_stack` appends data cells or rewrites cells of the index list, so everything below the index list — in
particular the argument graph of `clone_data` (`cloneData_original_untouched`) — is left untouched.  The re-pointing loop
of `optimize` does rewrite retained cells (`repointLoop_ext` is `Ext 0`: sizes and frame only); it changes nothing under
`ValueLinksClosed` (`repointLoop_noop`).  The retained prefix of `optimize` itself: `optimize_retained_prefix_unchanged`,
Lemmas/OptimizePreserve.lean.
-/
import Garnish.Lemmas.ListFacts
import Garnish.Store.BasicOptimize
import Garnish.Lemmas.Outcome
namespace Garnish.BasicOpt
open Garnish

theorem size_extract_prefix {A : Array Cell} {r : Nat} (hr : r ≤ A.size) : (A.extract 0 r).size = r := by
  rw [Array.size_extract]; omega

theorem getElem?_extract_prefix (A : Array Cell) {r i : Nat} (hi : i < r) : (A.extract 0 r)[i]? = A[i]? := by
  rw [Array.getElem?_extract]
  by_cases h : i < A.size
  · rw [if_pos (by omega), Nat.zero_add]
  · rw [if_neg (by omega), Array.getElem?_eq_none (Nat.le_of_not_lt h)]

/-- the fields of a store other than the data cells and the allocated sizes -/
def SameFrame (s s' : Store) : Prop :=
  s'.retention = s.retention ∧ s'.start = s.start ∧ s'.symtab = s.symtab ∧ s'.currentValue = s.currentValue ∧
  s'.currentRegister = s.currentRegister ∧ s'.currentFrame = s.currentFrame

theorem SameFrame.rfl' (s : Store) : SameFrame s s := ⟨rfl, rfl, rfl, rfl, rfl, rfl⟩

theorem SameFrame.trans {s s' s'' : Store} (a : SameFrame s s') (b : SameFrame s' s'') : SameFrame s s'' := by
  obtain ⟨a1, a2, a3, a4, a5, a6⟩ := a
  obtain ⟨b1, b2, b3, b4, b5, b6⟩ := b
  exact ⟨b1.trans a1, b2.trans a2, b3.trans a3, b4.trans a4, b5.trans a5, b6.trans a6⟩

/-- `s'` is `s` with cells appended and cells at positions `≥ lo` possibly rewritten -/
structure Ext (lo : Nat) (s s' : Store) : Prop where
  mono : s.cells.size ≤ s'.cells.size
  keep : ∀ i, i < lo → i < s.cells.size → s'.cells[i]? = s.cells[i]?
  frame : SameFrame s s'

theorem Ext.refl (lo : Nat) (s : Store) : Ext lo s s := ⟨Nat.le_refl _, fun _ _ _ => rfl, SameFrame.rfl' s⟩

theorem Ext.trans {lo : Nat} {s s' s'' : Store} (a : Ext lo s s') (b : Ext lo s' s'') : Ext lo s s'' :=
  ⟨Nat.le_trans a.mono b.mono,
   fun i h1 h2 => (b.keep i h1 (Nat.lt_of_lt_of_le h2 a.mono)).trans (a.keep i h1 h2),
   a.frame.trans b.frame⟩

theorem Ext.weaken {lo lo' : Nat} {s s' : Store} (h : lo' ≤ lo) (a : Ext lo s s') : Ext lo' s s' :=
  ⟨a.mono, fun i h1 h2 => a.keep i (Nat.lt_of_lt_of_le h1 h) h2, a.frame⟩

theorem push_ok {s s' : Store} {c : Cell} {i : Nat} (h : s.push c = .ok (s', i)) :
    i = s.cells.size ∧ s'.cells = s.cells.push c ∧ SameFrame s s' := by
  unfold Store.push at h
  simp only at h
  split at h
  · split at h
    · simp at h
    · simp only [Outcome.ok.injEq, Prod.mk.injEq] at h
      obtain ⟨hs, hi⟩ := h
      subst hs
      exact ⟨hi.symm, rfl, rfl, rfl, rfl, rfl, rfl, rfl⟩
  · simp only [Outcome.ok.injEq, Prod.mk.injEq] at h
    obtain ⟨hs, hi⟩ := h
    subst hs
    exact ⟨hi.symm, rfl, rfl, rfl, rfl, rfl, rfl, rfl⟩

theorem push_ext (lo : Nat) {s s' : Store} {c : Cell} {i : Nat} (h : s.push c = .ok (s', i)) : Ext lo s s' := by
  obtain ⟨_, hc, hf⟩ := push_ok h
  refine ⟨?_, ?_, hf⟩
  · rw [hc]; simp
  · intro j _ hj
    rw [hc, Array.getElem?_push]
    have : j ≠ s.cells.size := Nat.ne_of_lt hj
    simp [this]

theorem push1_ext (lo : Nat) {s s' : Store} {a : Nat} (h : Store.push1 s a = .ok s') : Ext lo s s' := by
  simp only [Store.push1, Outcome.bind_eq_ok', Outcome.pure_eq_ok_iff] at h
  obtain ⟨⟨s1, i1⟩, h1, h2⟩ := h
  subst h2
  exact push_ext lo h1

theorem push2_ext (lo : Nat) {s s' : Store} {a b : Nat} (h : Store.push2 s a b = .ok s') : Ext lo s s' := by
  simp only [Store.push2, Outcome.bind_eq_ok', Outcome.pure_eq_ok_iff] at h
  obtain ⟨⟨s1, i1⟩, h1, ⟨s2, i2⟩, h2, h3⟩ := h
  subst h3
  exact (push_ext lo h1).trans (push_ext lo h2)

theorem pushListItems_ext (lo : Nat) : ∀ (n : Nat) (s s' : Store) (i : Nat),
    Store.pushListItems s i n = .ok s' → Ext lo s s'
  | 0, s, s', i, h => by
    simp only [Store.pushListItems, Outcome.ok.injEq] at h
    subst h; exact Ext.refl lo s
  | n + 1, s, s', i, h => by
    simp only [Store.pushListItems, Outcome.bind_eq_ok'] at h
    obtain ⟨c, _, h2⟩ := h
    split at h2
    · simp only [Outcome.bind_eq_ok'] at h2
      obtain ⟨⟨s1, i1⟩, h3, h4⟩ := h2
      exact (push_ext lo h3).trans (pushListItems_ext lo n s1 s' (i + 1) h4)
    · simp at h2

theorem pushUninitItems_ext (lo : Nat) : ∀ (n : Nat) (s s' : Store) (i : Nat),
    Store.pushUninitItems s i n = .ok s' → Ext lo s s'
  | 0, s, s', i, h => by
    simp only [Store.pushUninitItems, Outcome.ok.injEq] at h
    subst h; exact Ext.refl lo s
  | n + 1, s, s', i, h => by
    simp only [Store.pushUninitItems, Outcome.bind_eq_ok'] at h
    obtain ⟨c, _, h2⟩ := h
    split at h2
    · simp only [Outcome.bind_eq_ok'] at h2
      obtain ⟨⟨s1, i1⟩, h3, h4⟩ := h2
      exact (push_ext lo h3).trans (pushUninitItems_ext lo n s1 s' (i + 1) h4)
    · exact pushUninitItems_ext lo n s s' (i + 1) h2
    · simp at h2

theorem pushChildren_ext (lo : Nat) {s s' : Store} {index : Nat} {c : Cell}
    (h : Store.pushChildren s index c = .ok s') : Ext lo s s' := by
  unfold Store.pushChildren at h
  split at h
  all_goals first
    | exact push2_ext lo h
    | exact push1_ext lo h
    | exact pushListItems_ext lo _ _ _ _ h
    | exact pushUninitItems_ext lo _ _ _ _ h
    | (simp only [Outcome.ok.injEq] at h; subst h; exact Ext.refl lo s)

theorem indexLoop_ext (lo maxIter : Nat) : ∀ (fuel : Nat) (s s' : Store) (cur it : Nat),
    Store.indexLoop maxIter fuel s cur it = .ok s' → Ext lo s s'
  | 0, s, s', cur, it, h => by simp [Store.indexLoop] at h
  | fuel + 1, s, s', cur, it, h => by
    simp only [Store.indexLoop] at h
    split at h
    · simp only [Outcome.bind_eq_ok'] at h
      obtain ⟨ci, _, h2⟩ := h
      split at h2
      · simp only [Outcome.bind_eq_ok'] at h2
        obtain ⟨c, _, s1, h3, h4⟩ := h2
        split at h4
        · simp at h4
        · exact (pushChildren_ext lo h3).trans (indexLoop_ext lo maxIter fuel s1 s' _ _ h4)
      · simp at h2
    · simp only [Outcome.ok.injEq] at h
      subst h; exact Ext.refl lo s

theorem createIndexStack_ext (lo : Nat) {s s' : Store} {frm st : Nat}
    (h : Store.createIndexStack s frm = .ok (s', st)) : Ext lo s s' ∧ st = s.cells.size := by
  simp only [Store.createIndexStack, Outcome.bind_eq_ok', Outcome.pure_eq_ok_iff] at h
  obtain ⟨⟨s1, i1⟩, h1, s2, h2, h3⟩ := h
  simp only [Prod.mk.injEq] at h3
  obtain ⟨h3, h4⟩ := h3
  subst h3
  refine ⟨(push_ext lo h1).trans (indexLoop_ext lo _ _ _ _ _ _ h2), ?_⟩
  rw [← h4]; exact (push_ok h1).1

theorem createIndexStack_head {s s' : Store} {frm st : Nat} (h : Store.createIndexStack s frm = .ok (s', st)) :
    s'.cells[s.cells.size]? = some (.cloneItem frm) := by
  simp only [Store.createIndexStack, Outcome.bind_eq_ok', Outcome.pure_eq_ok_iff] at h
  obtain ⟨⟨sp, ip⟩, hp, sl, hl, h3⟩ := h
  simp only [Prod.mk.injEq] at h3
  obtain ⟨rfl, _⟩ := h3
  obtain ⟨_, hcells, _⟩ := push_ok hp
  rw [(indexLoop_ext (s.cells.size + 1) _ _ _ _ _ _ hl).keep s.cells.size (by omega) (by rw [hcells]; simp), hcells]
  simp

theorem copyCells_ext (lo : Nat) : ∀ (n : Nat) (s s' : Store) (i : Nat),
    Store.copyCells s i n = .ok s' → Ext lo s s'
  | 0, s, s', i, h => by
    simp only [Store.copyCells, Outcome.ok.injEq] at h
    subst h; exact Ext.refl lo s
  | n + 1, s, s', i, h => by
    simp only [Store.copyCells, Outcome.bind_eq_ok'] at h
    obtain ⟨c, _, ⟨s1, i1⟩, h3, h4⟩ := h
    exact (push_ext lo h3).trans (copyCells_ext lo n s1 s' (i + 1) h4)

theorem cloneSlots_ext (lo ls le : Nat) : ∀ (n : Nat) (s s' : Store) (i : Nat),
    Store.cloneSlots ls le s i n = .ok s' → Ext lo s s'
  | 0, s, s', i, h => by
    simp only [Store.cloneSlots, Outcome.ok.injEq] at h
    subst h; exact Ext.refl lo s
  | n + 1, s, s', i, h => by
    simp only [Store.cloneSlots, Outcome.bind_eq_ok'] at h
    obtain ⟨c, _, h2⟩ := h
    split at h2
    · simp only [Outcome.bind_eq_ok'] at h2
      obtain ⟨_, _, ⟨s1, i1⟩, h3, h4⟩ := h2
      exact (push_ext lo h3).trans (cloneSlots_ext lo ls le n s1 s' (i + 1) h4)
    · simp only [Outcome.bind_eq_ok'] at h2
      obtain ⟨_, _, ⟨s1, i1⟩, h3, h4⟩ := h2
      exact (push_ext lo h3).trans (cloneSlots_ext lo ls le n s1 s' (i + 1) h4)
    · simp only [Outcome.bind_eq_ok'] at h2
      obtain ⟨⟨s1, i1⟩, h3, h4⟩ := h2
      exact (push_ext lo h3).trans (cloneSlots_ext lo ls le n s1 s' (i + 1) h4)
    · simp at h2

theorem pushLast_ext (lo : Nat) : ∀ (cs : List Cell) (s s' : Store) (last r : Nat),
    Store.pushLast s cs last = .ok (s', r) → Ext lo s s'
  | [], s, s', last, r, h => by
    simp only [Store.pushLast, Outcome.ok.injEq, Prod.mk.injEq] at h
    obtain ⟨h, _⟩ := h
    subst h; exact Ext.refl lo s
  | c :: cs, s, s', last, r, h => by
    simp only [Store.pushLast, Outcome.bind_eq_ok'] at h
    obtain ⟨⟨s1, i1⟩, h3, h4⟩ := h
    exact (push_ext lo h3).trans (pushLast_ext lo cs s1 s' i1 r h4)

theorem cloneCell_ext (lo : Nat) {s s' : Store} {ls le index r : Nat} {c : Cell}
    (h : Store.cloneCell s ls le index c = .ok (s', r)) : Ext lo s s' := by
  unfold Store.cloneCell at h
  split at h
  all_goals first
    | exact push_ext lo h
    | (simp only [Outcome.bind_eq_ok', Outcome.pure_eq_ok_iff, Prod.mk.injEq] at h
       obtain ⟨⟨s1, i1⟩, h1, s2, h2, h3, _⟩ := h
       subst h3
       first
         | exact (push_ext lo h1).trans (copyCells_ext lo _ _ _ _ h2)
         | exact (push_ext lo h1).trans (cloneSlots_ext lo _ _ _ _ _ _ h2))
    | (simp at h; done)
    | (simp only [Outcome.bind_eq_ok'] at h
       obtain ⟨cells, _, h2⟩ := h
       exact pushLast_ext lo _ _ _ _ _ h2)

theorem setCell_ext {lo : Nat} {s s' : Store} {i : Nat} {c : Cell} (hlo : lo ≤ i)
    (h : Store.setCell s i c = .ok s') : Ext lo s s' := by
  unfold Store.setCell at h
  split at h
  · simp only [Outcome.ok.injEq] at h
    subst h
    refine ⟨by simp, ?_, SameFrame.rfl' _⟩
    intro j hj _
    have : i ≠ j := by omega
    simp [this]
  · simp at h

theorem cloneLoop_ext {lo : Nat} (offset lookupEnd top : Nat) (hlo : lo ≤ top) : ∀ (k : Nat) (s s' : Store),
    Store.cloneLoop offset lookupEnd top k s = .ok s' → Ext lo s s'
  | 0, s, s', h => by
    simp only [Store.cloneLoop, Outcome.ok.injEq] at h
    subst h; exact Ext.refl lo s
  | k + 1, s, s', h => by
    simp only [Store.cloneLoop, Outcome.bind_eq_ok'] at h
    obtain ⟨ci, _, h2⟩ := h
    split at h2
    · simp only [Outcome.bind_eq_ok'] at h2
      obtain ⟨existing, _, ⟨s1, ni⟩, h3, s2, h4, h5⟩ := h2
      have e1 : Ext lo s s1 := by
        split at h3
        · simp only [pure, Outcome.ok.injEq, Prod.mk.injEq] at h3
          obtain ⟨h3, _⟩ := h3
          subst h3; exact Ext.refl lo s
        · simp only [Outcome.bind_eq_ok'] at h3
          obtain ⟨c, _, ⟨s0, n0⟩, h6, h7⟩ := h3
          have e0 := cloneCell_ext lo h6
          split at h7
          · simp only [pure, Outcome.ok.injEq, Prod.mk.injEq] at h7
            obtain ⟨h7, _⟩ := h7
            subst h7; exact e0
          · split at h7
            · simp at h7
            · simp only [pure, Outcome.ok.injEq, Prod.mk.injEq] at h7
              obtain ⟨h7, _⟩ := h7
              subst h7; exact e0
      have e2 : Ext lo s1 s2 := setCell_ext (by omega) h4
      exact (e1.trans e2).trans (cloneLoop_ext offset lookupEnd top hlo k s2 s' h5)
    · simp at h2

theorem cloneIndexStack_ext {lo : Nat} {s s' : Store} {top offset r : Nat} (hlo : lo ≤ top)
    (h : Store.cloneIndexStack s top offset = .ok (s', r)) : Ext lo s s' := by
  simp only [Store.cloneIndexStack, Outcome.bind_eq_ok'] at h
  obtain ⟨s1, h1, c, _, h3⟩ := h
  split at h3
  · simp only [pure, Outcome.ok.injEq, Prod.mk.injEq] at h3
    obtain ⟨h3, _⟩ := h3
    subst h3
    exact cloneLoop_ext offset _ top hlo _ _ _ h1
  · simp at h3

theorem cloneData_original_untouched {s s' : Store} {a r : Nat} (h : Store.cloneData s a = .ok (s', r)) :
    Ext s.cells.size s s' := by
  simp only [Store.cloneData, Outcome.bind_eq_ok'] at h
  obtain ⟨⟨s1, st⟩, h1, h2⟩ := h
  obtain ⟨e1, hst⟩ := createIndexStack_ext s.cells.size h1
  have e2 : Ext s.cells.size s1 s' := cloneIndexStack_ext (by omega) h2
  exact e1.trans e2

theorem indexSymbols_ext (lo : Nat) : ∀ (n : Nat) (s s' : Store) (i : Nat),
    Store.indexSymbols s i n = .ok s' → Ext lo s s'
  | 0, s, s', i, h => by
    simp only [Store.indexSymbols, Outcome.ok.injEq] at h
    subst h; exact Ext.refl lo s
  | n + 1, s, s', i, h => by
    simp only [Store.indexSymbols, Outcome.bind_eq_ok'] at h
    obtain ⟨⟨sy, di⟩, _, ⟨s1, st⟩, h3, h4⟩ := h
    exact (createIndexStack_ext lo h3).1.trans (indexSymbols_ext lo n s1 s' (i + 1) h4)

theorem indexOpt_ext (lo : Nat) {s s' : Store} {o : Option Nat} (h : Store.indexOpt s o = .ok s') : Ext lo s s' := by
  cases o with
  | none =>
    simp only [Store.indexOpt, Outcome.ok.injEq] at h
    subst h; exact Ext.refl lo s
  | some i =>
    simp only [Store.indexOpt, Outcome.bind_eq_ok', Outcome.pure_eq_ok_iff] at h
    obtain ⟨⟨s1, st⟩, h1, h2⟩ := h
    subst h2
    exact (createIndexStack_ext lo h1).1

theorem indexRoots_ext (lo : Nat) : ∀ (rs : List Nat) (s s' : Store),
    Store.indexRoots s rs = .ok s' → Ext lo s s'
  | [], s, s', h => by
    simp only [Store.indexRoots, Outcome.ok.injEq] at h
    subst h; exact Ext.refl lo s
  | r :: rs, s, s', h => by
    simp only [Store.indexRoots, Outcome.bind_eq_ok'] at h
    obtain ⟨⟨s1, st⟩, h1, h2⟩ := h
    exact (createIndexStack_ext lo h1).1.trans (indexRoots_ext lo rs s1 s' h2)

theorem get_ok {s : Store} {i : Nat} {c : Cell} (h : s.get i = .ok c) : s.cells[i]? = some c := by
  unfold Store.get at h
  split at h
  · simp only [Outcome.ok.injEq] at h; subst h; assumption
  · simp at h

theorem repointStep_ext {ls le : Nat} {s s' : Store} {index : Nat} {nxt : Option (Option Nat)}
    (h : Store.repointStep ls le s index = .ok (s', nxt)) : Ext 0 s s' := by
  simp only [Store.repointStep, Outcome.bind_eq_ok'] at h
  obtain ⟨c, _, h2⟩ := h
  split at h2
  · split at h2
    · simp only [Outcome.bind_eq_ok', Outcome.pure_eq_ok_iff, Prod.mk.injEq] at h2
      obtain ⟨m, _, s1, h3, h4, _⟩ := h2
      subst h4; exact setCell_ext (Nat.zero_le _) h3
    · simp only [Outcome.pure_eq_ok_iff, Prod.mk.injEq] at h2
      obtain ⟨h4, _⟩ := h2
      subst h4; exact Ext.refl _ _
  · split at h2
    · simp only [Outcome.bind_eq_ok', Outcome.pure_eq_ok_iff, Prod.mk.injEq] at h2
      obtain ⟨m, _, s1, h3, h4, _⟩ := h2
      subst h4; exact setCell_ext (Nat.zero_le _) h3
    · simp only [Outcome.pure_eq_ok_iff, Prod.mk.injEq] at h2
      obtain ⟨h4, _⟩ := h2
      subst h4; exact Ext.refl _ _
  · simp only [Outcome.pure_eq_ok_iff, Prod.mk.injEq] at h2
    obtain ⟨h4, _⟩ := h2
    subst h4; exact Ext.refl _ _

theorem repointLoop_ext (ls le : Nat) : ∀ (n : Nat) (s s' : Store) (o : Option Nat),
    Store.repointLoop ls le n s o = .ok s' → Ext 0 s s'
  | n, s, s', none, h => by
    cases n <;> (simp only [Store.repointLoop, Outcome.ok.injEq] at h; subst h; exact Ext.refl _ _)
  | 0, s, s', some i, h => by
    simp only [Store.repointLoop, Outcome.bind_eq_ok', Outcome.pure_eq_ok_iff] at h
    obtain ⟨⟨s1, nx⟩, h1, h2⟩ := h
    subst h2; exact repointStep_ext h1
  | n + 1, s, s', some i, h => by
    simp only [Store.repointLoop, Outcome.bind_eq_ok'] at h
    obtain ⟨⟨s1, nx⟩, h1, h2⟩ := h
    have e1 := repointStep_ext h1
    cases nx with
    | none =>
      simp only [Outcome.pure_eq_ok_iff] at h2
      subst h2; exact e1
    | some prev => exact e1.trans (repointLoop_ext ls le n s1 s' prev h2)

/-- retained input-value cells refer below the retention count (true unless a retained `Value` cell was
updated in place after the count was taken) -/
def ValueLinksClosed (s : Store) : Prop :=
  ∀ (i p v : Nat), i < s.retention →
    (s.cells[i]? = some (.value p v) ∨ s.cells[i]? = some (.valueRoot v)) → v < s.retention

theorem repointStep_noop {ls le : Nat} {s s' : Store} {index : Nat} {nxt : Option (Option Nat)}
    (hc : ValueLinksClosed s) (h : Store.repointStep ls le s index = .ok (s', nxt)) : s' = s := by
  simp only [Store.repointStep, Outcome.bind_eq_ok'] at h
  obtain ⟨c, hg, h2⟩ := h
  have hcell := get_ok hg
  split at h2
  · rename_i previous value
    split at h2
    · rename_i hcond
      have := hc index previous value hcond.1 (Or.inl hcell)
      omega
    · simp only [Outcome.pure_eq_ok_iff, Prod.mk.injEq] at h2
      exact h2.1.symm
  · rename_i value
    split at h2
    · rename_i hcond
      have := hc index 0 value hcond.1 (Or.inr hcell)
      omega
    · simp only [Outcome.pure_eq_ok_iff, Prod.mk.injEq] at h2
      exact h2.1.symm
  · simp only [Outcome.pure_eq_ok_iff, Prod.mk.injEq] at h2
    exact h2.1.symm

theorem repointLoop_noop (ls le : Nat) : ∀ (n : Nat) (s s' : Store) (o : Option Nat),
    ValueLinksClosed s → Store.repointLoop ls le n s o = .ok s' → s' = s
  | n, s, s', none, _, h => by
    cases n <;> (simp only [Store.repointLoop, Outcome.ok.injEq] at h; exact h.symm)
  | 0, s, s', some i, hc, h => by
    simp only [Store.repointLoop, Outcome.bind_eq_ok', Outcome.pure_eq_ok_iff] at h
    obtain ⟨⟨s1, nx⟩, h1, h2⟩ := h
    subst h2; exact repointStep_noop hc h1
  | n + 1, s, s', some i, hc, h => by
    simp only [Store.repointLoop, Outcome.bind_eq_ok'] at h
    obtain ⟨⟨s1, nx⟩, h1, h2⟩ := h
    have e1 : s1 = s := repointStep_noop hc h1
    subst e1
    cases nx with
    | none =>
      simp only [Outcome.pure_eq_ok_iff] at h2
      exact h2.symm
    | some prev => exact repointLoop_noop ls le n s1 s' prev hc h2

theorem slide_size : ∀ (n : Nat) (cells : Array Cell) (dst src : Nat),
    (Store.slide cells dst src n).size = cells.size
  | 0, cells, dst, src => rfl
  | n + 1, cells, dst, src => by
    simp only [Store.slide]
    rw [slide_size n]; simp

theorem slide_below : ∀ (n : Nat) (cells : Array Cell) (dst src i : Nat), i < dst →
    (Store.slide cells dst src n)[i]? = cells[i]?
  | 0, cells, dst, src, i, _ => rfl
  | n + 1, cells, dst, src, i, hi => by
    simp only [Store.slide]
    rw [slide_below n _ (dst + 1) (src + 1) i (by omega)]
    have : dst ≠ i := by omega
    simp [this]

theorem slide_extract_prefix (cells : Array Cell) (r src n : Nat) (hr : r ≤ cells.size) :
    r ≤ ((Store.slide cells r src n).extract 0 (r + n)).size ∧
    ∀ i, i < r → ((Store.slide cells r src n).extract 0 (r + n))[i]? = cells[i]? := by
  constructor
  · simp [Array.size_extract, slide_size]; omega
  · intro i hi
    rw [Array.getElem?_extract]
    simp
    simp [slide_below n cells r src i hi, slide_size]
    omega

theorem lookup_retained {s : Store} {ls le r : Nat} (h : r < s.retention) : Store.lookup s ls le r = .ok r := by
  simp [Store.lookup, Store.lookupOpt, h, Bind.bind, Outcome.bind, pure]

theorem optimize_ok {s s' : Store} {roots m : List Nat} (h : Store.optimize s roots = .ok (s', m)) :
    s.retention ≤ s.cells.size ∧ Store.optimizeBody s roots = .ok (s', m) := by
  unfold Store.optimize at h
  split at h
  · simp at h
  · rename_i hgt
    exact ⟨by simpa [Store.cursor] using Nat.le_of_not_gt hgt, h⟩

theorem optimize_retention_beyond (s : Store) (roots : List Nat) (h : s.retention > s.cells.size) :
    Store.optimize s roots = .err .data := by
  simp [Store.optimize, Store.cursor, h]

end Garnish.BasicOpt
