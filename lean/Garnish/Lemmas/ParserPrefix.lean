/-
Prefix operators in operand position, model side: the state a prefix-operator token leaves (`step_prefix_eqG`, `stepP`), the
items `trivia* binop trivia* prefix* value` (`OItem`), and the decidable recogniser `frag2` of
  (prefix* value) (trivia* binop trivia* prefix* value)*
with its decomposition into items (`frag2_sound`).
-/
import Garnish.Lemmas.ListFacts
import Garnish.Lemmas.ParserAccept
import Garnish.Lemmas.ParserFrag4

namespace Garnish.Spec
open Garnish Garnish.Gen Garnish.Model.Parser

def isPrefixTok (t : PToken) : Bool := (getDefinition t.type).2 == .unaryPrefix

theorem prefix_def_facts (tt : TokenType) (h : (getDefinition tt).2 = SecDef.unaryPrefix) :
    ∃ q, priority (getDefinition tt).1 = some q ∧ 10 < q ∧ ((getDefinition tt).1 != Definition.drop) = true ∧
      (getDefinition tt).1 ≠ Definition.identifier ∧ (getDefinition tt).1 ≠ Definition.access ∧
      (getDefinition tt).1.isValueLike = false ∧ (getDefinition tt).1.isGroupLike = false := by
  revert tt; exact TokenType.forall_of_all (by decide +kernel)

/-- the state after a prefix-operator token -/
def stepP (st : PState) (p : PToken) : PState :=
  { st with nodes := st.nodes.push ⟨(getDefinition p.type).1, .unaryPrefix, st.nextParent, none, some (st.nodes.size + 1), p⟩,
            nextParent := some st.nodes.size, lastLeft := some st.nodes.size, previousSecondDef := .unaryPrefix,
            lastToken := p }

/-- **a prefix-operator token in operand position** (list flag clear, not the last token): it is pushed as the right child
    of `next_parent` with a dangling `right`, and becomes `next_parent` / `last_left` -/
theorem step_prefix_eqG (st : PState) (p : PToken) (hp : isPrefixTok p = true) (hc : st.checkForList = false)
    (hnl : st.nextLastLeft = none) {ug : Option Nat} (hug : underGroupOf st = .ok ug) (hadj : adjustLastLeft st ug = .ok st)
    (hcomp : checkComposition st.previousSecondDef .unaryPrefix false = true) :
    step st p false = .ok (stepP st p) := by
  unfold isPrefixTok at hp
  have hs : (getDefinition p.type).2 = .unaryPrefix := by simpa using hp
  obtain ⟨q, _, _, f1, f2, _, _, _⟩ := prefix_def_facts p.type hs
  rw [step_eq st p false hug hadj, hs, hc, if_pos hcomp]
  simp only [dispatch, armUnaryPrefix, Bool.false_eq_true, if_false, Outcome.bind]
  rw [stepEnd_push _ _ _ _ _ f1 (by exact hnl)]
  simp only [renameDef_of_ne f2, stepP, hc]

/-- `trivia* binop trivia* prefix* value` -/
structure OItem where
  ws1 : List PToken
  op : PToken
  ws2 : List PToken
  pre : List PToken
  atom : PToken

def OItem.dec (it : OItem) : List PToken := it.ws1 ++ it.op :: (it.ws2 ++ (it.pre ++ [it.atom]))
def OItem.ok (it : OItem) : Prop :=
  (∀ w ∈ it.ws1, isTriviaTok w = true) ∧ isBinopTok it.op = true ∧ (∀ w ∈ it.ws2, isTriviaTok w = true) ∧
    (∀ p ∈ it.pre, isPrefixTok p = true) ∧ isAtom10 it.atom = true

theorem underDef_prio {dAbove dA : Definition} (h : priority dA = some 10) : priority (underDef dAbove dA) = some 10 := by
  unfold underDef
  split
  · split
    · rfl
    · exact h
  · exact h

def flatDecO : List OItem → List PToken
  | [] => []
  | it :: rest => it.dec ++ flatDecO rest

theorem prefix_not_trimmable {p : PToken} (hp : isPrefixTok p = true) : isTrimmable p = false := by
  unfold isPrefixTok at hp
  unfold isTrimmable
  revert hp; generalize p.type = tt
  revert tt; exact TokenType.forall_of_all (by decide +kernel)

inductive Acc2 where
  | start (ws1 : List PToken)
  | afterOp (ws1 : List PToken) (o : PToken) (ws2 : List PToken)
  | inPre (ws1 : List PToken) (o : PToken) (ws2 pre : List PToken)

def splitO : Acc2 → List PToken → Option (List OItem)
  | .start [], [] => some []
  | .start (_ :: _), [] => none
  | .afterOp _ _ _, [] => none
  | .inPre _ _ _ _, [] => none
  | .start ws1, t :: rest =>
    if isTriviaTok t then splitO (.start (ws1 ++ [t])) rest
    else if isBinopTok t then splitO (.afterOp ws1 t []) rest else none
  | .afterOp ws1 o ws2, t :: rest =>
    if isTriviaTok t then splitO (.afterOp ws1 o (ws2 ++ [t])) rest
    else if isPrefixTok t then splitO (.inPre ws1 o ws2 [t]) rest
    else if isAtom10 t then (splitO (.start []) rest).map (fun items => ⟨ws1, o, ws2, [], t⟩ :: items) else none
  | .inPre ws1 o ws2 pre, t :: rest =>
    if isPrefixTok t then splitO (.inPre ws1 o ws2 (pre ++ [t])) rest
    else if isAtom10 t then (splitO (.start []) rest).map (fun items => ⟨ws1, o, ws2, pre, t⟩ :: items) else none

def Acc2.toks : Acc2 → List PToken
  | .start ws1 => ws1
  | .afterOp ws1 o ws2 => ws1 ++ o :: ws2
  | .inPre ws1 o ws2 pre => ws1 ++ o :: (ws2 ++ pre)

def Acc2.ok : Acc2 → Prop
  | .start ws1 => ∀ w ∈ ws1, isTriviaTok w = true
  | .afterOp ws1 o ws2 => (∀ w ∈ ws1, isTriviaTok w = true) ∧ isBinopTok o = true ∧ ∀ w ∈ ws2, isTriviaTok w = true
  | .inPre ws1 o ws2 pre =>
    (∀ w ∈ ws1, isTriviaTok w = true) ∧ isBinopTok o = true ∧ (∀ w ∈ ws2, isTriviaTok w = true) ∧
      ∀ p ∈ pre, isPrefixTok p = true

theorem splitO_sound : ∀ (toks : List PToken) (acc : Acc2) (items : List OItem), acc.ok →
    splitO acc toks = some items → acc.toks ++ toks = flatDecO items ∧ ∀ it ∈ items, it.ok := by
  intro toks
  induction toks with
  | nil =>
    intro acc items _ h
    cases acc with
    | start ws1 =>
      cases ws1 with
      | nil => simp only [splitO, Option.some.injEq] at h; subst h; simp [Acc2.toks, flatDecO]
      | cons w ws => simp [splitO] at h
    | afterOp ws1 o ws2 => simp [splitO] at h
    | inPre ws1 o ws2 pre => simp [splitO] at h
  | cons t rest ih =>
    intro acc items hacc h
    cases acc with
    | start ws1 =>
      simp only [splitO] at h
      split at h
      · rename_i ht
        obtain ⟨e, hok⟩ := ih (.start (ws1 ++ [t])) items (mem_snoc hacc ht) h
        exact ⟨by simpa [Acc2.toks] using e, hok⟩
      · split at h
        · rename_i hb
          obtain ⟨e, hok⟩ := ih (.afterOp ws1 t []) items ⟨hacc, hb, by simp⟩ h
          exact ⟨by simpa [Acc2.toks] using e, hok⟩
        · cases h
    | afterOp ws1 o ws2 =>
      obtain ⟨h1, h2, h3⟩ := hacc
      simp only [splitO] at h
      split at h
      · rename_i ht
        obtain ⟨e, hok⟩ := ih (.afterOp ws1 o (ws2 ++ [t])) items ⟨h1, h2, mem_snoc h3 ht⟩ h
        exact ⟨by simpa [Acc2.toks] using e, hok⟩
      · split at h
        · rename_i hp
          obtain ⟨e, hok⟩ := ih (.inPre ws1 o ws2 [t]) items ⟨h1, h2, h3, by simpa using hp⟩ h
          exact ⟨by simpa [Acc2.toks] using e, hok⟩
        · split at h
          · rename_i ha
            cases hrec : splitO (.start []) rest with
            | none => simp [hrec] at h
            | some items' =>
              simp only [hrec, Option.map_some, Option.some.injEq] at h
              subst h
              obtain ⟨e, hok⟩ := ih (.start []) items' (by simp [Acc2.ok]) hrec
              simp only [Acc2.toks, List.nil_append] at e
              refine ⟨by simp [Acc2.toks, flatDecO, OItem.dec, e], ?_⟩
              intro it hit
              rcases List.mem_cons.mp hit with rfl | hit
              · exact ⟨h1, h2, h3, by simp, ha⟩
              · exact hok it hit
          · cases h
    | inPre ws1 o ws2 pre =>
      obtain ⟨h1, h2, h3, h4⟩ := hacc
      simp only [splitO] at h
      split at h
      · rename_i hp
        obtain ⟨e, hok⟩ := ih (.inPre ws1 o ws2 (pre ++ [t])) items ⟨h1, h2, h3, mem_snoc h4 hp⟩ h
        exact ⟨by simpa [Acc2.toks] using e, hok⟩
      · split at h
        · rename_i ha
          cases hrec : splitO (.start []) rest with
          | none => simp [hrec] at h
          | some items' =>
            simp only [hrec, Option.map_some, Option.some.injEq] at h
            subst h
            obtain ⟨e, hok⟩ := ih (.start []) items' (by simp [Acc2.ok]) hrec
            simp only [Acc2.toks, List.nil_append] at e
            refine ⟨by simp [Acc2.toks, flatDecO, OItem.dec, e], ?_⟩
            intro it hit
            rcases List.mem_cons.mp hit with rfl | hit
            · exact ⟨h1, h2, h3, h4, ha⟩
            · exact hok it hit
        · cases h

/-- **the stage 2 fragment**: `(prefix* value) (trivia* binop trivia* prefix* value)*` -/
def frag2 (toks : List PToken) : Bool :=
  match toks.dropWhile isPrefixTok with
  | a :: rest => isAtom10 a && (splitO (.start []) rest).isSome
  | [] => false

theorem frag2_sound {toks : List PToken} (h : frag2 toks = true) :
    ∃ pre0 a0 items, toks = pre0 ++ a0 :: flatDecO items ∧ (∀ p ∈ pre0, isPrefixTok p = true) ∧ isAtom10 a0 = true ∧
      ∀ it ∈ items, it.ok := by
  unfold frag2 at h
  cases hd : toks.dropWhile isPrefixTok with
  | nil => simp [hd] at h
  | cons a rest =>
    simp only [hd, Bool.and_eq_true] at h
    obtain ⟨ha, hs⟩ := h
    obtain ⟨items, hitems⟩ := Option.isSome_iff_exists.mp hs
    obtain ⟨e, hok⟩ := splitO_sound rest (.start []) items (by simp [Acc2.ok]) hitems
    simp only [Acc2.toks, List.nil_append] at e
    refine ⟨toks.takeWhile isPrefixTok, a, items, ?_, ?_, ha, hok⟩
    · rw [← e, ← hd, List.takeWhile_append_dropWhile]
    · intro p hp; exact mem_takeWhile_imp _ _ p hp

end Garnish.Spec
