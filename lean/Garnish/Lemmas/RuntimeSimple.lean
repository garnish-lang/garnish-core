/-
`SimpleGarnishData` as a store (Model/Runtime/SimpleStore.lean).  The data list only grows (`Ext`); growing keeps every getter
answer, hence every `Decodes` fact (Lemmas/RuntimeMono.lean), and — for registers that are data addresses (`RegsOK`, part of the
invariant `SInv`) — the register and frame views.  `HitSound` is used in one place, `cache_adds`.
`cache_add` has two models: `Store.cacheAdd` (Store/SimpleCache.lean, property C15: keyed by the hash alone) and
`SimState.cacheAdd hit` here, with the hit decision as a parameter (`HitSound`: a hit holds the value — what the comparison of
/repo d7e2139 ensures).
-/
import Garnish.Model.Runtime.SimpleStore
import Garnish.Lemmas.RuntimeMono
import Garnish.Lemmas.EqualityRefine
namespace Garnish.Lemmas.Runtime.Simple
open Garnish Gen Garnish.Model.Equality Garnish.Model.Runtime Garnish.Lemmas.Runtime

section
variable {F : Type}

def Ext (c1 c2 : List (SimCell F)) : Prop := ∀ (a : Nat) (c : SimCell F), c1[a]? = some c → c2[a]? = some c

theorem ext_refl (c : List (SimCell F)) : Ext c c := fun _ _ h => h

theorem ext_append (cells : List (SimCell F)) (c : SimCell F) : Ext cells (cells ++ [c]) := by
  intro a x h
  rw [List.getElem?_append_left (List.getElem?_eq_some_iff.1 h).1]; exact h

theorem new_cell (cells : List (SimCell F)) (c : SimCell F) : (cells ++ [c])[cells.length]? = some c := by simp

theorem flatSim_ext {c1 c2 : List (SimCell F)} (h : Ext c1 c2) : ∀ (a : Nat) (xs : List Nat),
    flatSim c1 a = some xs → flatSim c2 a = some xs := by
  intro a
  induction a using Nat.strongRecOn with
  | _ a ih =>
    intro xs hx
    rw [flatSim] at hx ⊢
    cases hc : c1[a]? with
    | none => rw [hc] at hx; cases hx
    | some c =>
      rw [hc] at hx; rw [h a c hc]
      cases c <;> try exact hx
      case concat l r =>
        simp only at hx ⊢
        by_cases hlt : l < a ∧ r < a
        · rw [dif_pos hlt] at hx ⊢
          cases hl : flatSim c1 l with
          | none => rw [hl] at hx; cases hx
          | some il =>
            cases hr : flatSim c1 r with
            | none => rw [hl, hr] at hx; cases hx
            | some ir =>
              rw [hl, hr] at hx
              rw [ih l hlt.1 il hl, ih r hlt.2 ir hr]; exact hx
        · rw [dif_neg hlt] at hx; cases hx

theorem viewLe_ext {c1 c2 : List (SimCell F)} (h : Ext c1 c2) : ViewLe (simView c1) (simView c2) := by
  constructor
  all_goals (
    intro a x hx
    dsimp only [simView] at hx ⊢
    obtain ⟨c, hc⟩ : ∃ c, c1[a]? = some c := by
      cases hc : c1[a]? with
      | none => rw [hc] at hx; cases hx
      | some c => exact ⟨c, rfl⟩
    rw [hc] at hx; rw [h a c hc])
  case concatItems =>
    split at hx
    · exact flatSim_ext h a x hx
    · cases hx
  all_goals exact hx

theorem isFrame_ext {c1 c2 : List (SimCell F)} (h : Ext c1 c2) {a : Nat} (ha : a < c1.length) :
    isFrame c2 a = isFrame c1 a := by
  unfold isFrame
  have : c1[a]? = some c1[a] := List.getElem?_eq_getElem ha
  rw [h a _ this, this]

def RegsOK (cells : List (SimCell F)) (reg : List Nat) : Prop := ∀ a ∈ reg, a < cells.length

theorem flatRegs_ext {c1 c2 : List (SimCell F)} (h : Ext c1 c2) : ∀ {reg : List Nat}, RegsOK c1 reg →
    flatRegs c2 reg = flatRegs c1 reg := by
  intro reg
  induction reg with
  | nil => intro _; rfl
  | cons a rest ih =>
    intro hok
    have ha : a < c1.length := hok a (List.mem_cons_self ..)
    have hr : RegsOK c1 rest := fun b hb => hok b (List.mem_cons_of_mem _ hb)
    unfold flatRegs at ih ⊢
    rw [List.filter_cons, List.filter_cons, isFrame_ext h ha, ih hr]

theorem framesOf_ext {c1 c2 : List (SimCell F)} (h : Ext c1 c2) : ∀ {reg : List Nat}, RegsOK c1 reg →
    framesOf c2 reg = framesOf c1 reg := by
  intro reg
  induction reg with
  | nil => intro _; rfl
  | cons a rest ih =>
    intro hok
    have ha : a < c1.length := hok a (List.mem_cons_self ..)
    have hr : RegsOK c1 rest := fun b hb => hok b (List.mem_cons_of_mem _ hb)
    have h1 : c1[a]? = some c1[a] := List.getElem?_eq_getElem ha
    unfold framesOf
    rw [h a _ h1, h1, ih hr, flatRegs_ext h hr]

theorem regsOK_ext {c1 c2 : List (SimCell F)} (h : Ext c1 c2) {reg : List Nat} (hok : RegsOK c1 reg) :
    RegsOK c2 reg := by
  intro a ha
  have hlt := hok a ha
  exact (List.getElem?_eq_some_iff.1 (h a _ (List.getElem?_eq_getElem hlt))).1
end

section
variable {F : Type} {hit : List (SimCell F) → SimCell F → Option Nat} {h : SimHost F}

/-- what every state `SimpleGarnishData::new()` and the operations below produce satisfies -/
structure SInv (st : SimState F) : Prop where
  seeded : Seeded st
  regs : RegsOK st.cells st.register

theorem keeps_ext {st st' : SimState F} (hext : Ext st.cells st'.cells) (hj : st'.jumps = st.jumps)
    (hi : st'.instrs = st.instrs) (hc : st'.cursor = st.cursor) : Keeps (simpleRStore hit h) st st' where
  dec := fun _ _ hd => decodes_mono (viewLe_ext hext) hd
  jump := by funext j; simp only [simpleRStore, hj]
  ilen := by simp only [simpleRStore, hi]
  cur := hc
  instr := by funext j; simp only [simpleRStore, hi]

theorem eff_ext {st st' : SimState F} (hinv : SInv st) (hext : Ext st.cells st'.cells) (hj : st'.jumps = st.jumps)
    (hi : st'.instrs = st.instrs) (hc : st'.cursor = st.cursor) (hr : st'.register = st.register)
    (hv : st'.values = st.values) (ht : st'.trace = st.trace) :
    Eff (simpleRStore hit h) st st' ((simpleRStore hit h).regs st) ((simpleRStore hit h).vals st) where
  keeps := keeps_ext hext hj hi hc
  regs := by simp only [simpleRStore, hr]; exact flatRegs_ext hext hinv.regs
  vals := hv
  trace := ht
  frames := by simp only [simpleRStore, hr]; exact framesOf_ext hext hinv.regs

theorem sinv_ext {st st' : SimState F} (hinv : SInv st) (hext : Ext st.cells st'.cells)
    (hr : st'.register = st.register) : SInv st' where
  seeded := ⟨hext _ _ hinv.seeded.1, hext _ _ hinv.seeded.2.1, hext _ _ hinv.seeded.2.2⟩
  regs := by rw [hr]; exact regsOK_ext hext hinv.regs

def AddsI (hit : List (SimCell F) → SimCell F → Option Nat) (h : SimHost F) (m : RM (SimState F) Nat)
    (st : SimState F) (v : Val F) : Prop :=
  ∃ a st', m st = .ok (a, st') ∧ Decodes (simView st'.cells) a v ∧
    Eff (simpleRStore hit h) st st' ((simpleRStore hit h).regs st) ((simpleRStore hit h).vals st) ∧ SInv st' ∧
    st'.currentList = st.currentList

theorem AddsI.adds {m : RM (SimState F) Nat} {st : SimState F} {v : Val F} (ha : AddsI hit h m st v) :
    Adds (simpleRStore hit h) m st v := by
  obtain ⟨a, st', h1, h2, h3, _⟩ := ha; exact ⟨a, st', h1, h2, h3⟩

theorem same_adds {st : SimState F} (hinv : SInv st) {a : Nat} {v : Val F} (hd : Decodes (simView st.cells) a v)
    {m : RM (SimState F) Nat} (hm : m st = .ok (a, st)) : AddsI hit h m st v :=
  ⟨a, st, hm, hd, eff_ext hinv (ext_refl _) rfl rfl rfl rfl rfl rfl, hinv, rfl⟩

theorem push_adds {st : SimState F} (hinv : SInv st) (c : SimCell F) {v : Val F}
    (hd : Decodes (simView (st.cells ++ [c])) st.cells.length v) : AddsI hit h (SimState.push c) st v :=
  ⟨st.cells.length, { st with cells := st.cells ++ [c] }, rfl, hd,
    eff_ext hinv (ext_append _ _) rfl rfl rfl rfl rfl rfl, sinv_ext hinv (ext_append _ _) rfl, rfl⟩

theorem cache_adds (hs : HitSound hit) {st : SimState F} (hinv : SInv st) (c : SimCell F) {v : Val F}
    (hd : ∀ cells a, cells[a]? = some c → Decodes (simView cells) a v) :
    AddsI hit h (SimState.cacheAdd hit c) st v := by
  cases hh : hit st.cells c with
  | some a =>
    refine same_adds hinv (hd _ _ (hs _ _ _ hh)) ?_
    simp only [SimState.cacheAdd, hh]
  | none =>
    obtain ⟨a, st', h1, rest⟩ := push_adds (hit := hit) (h := h) hinv c (hd _ _ (new_cell st.cells c))
    refine ⟨a, st', ?_, rest⟩
    simp only [SimState.cacheAdd, hh]; exact h1

section leaf
variable {cells : List (SimCell F)} {a : Nat}

theorem typeOf_cell {c : SimCell F} (hc : cells[a]? = some c) : (simView cells).typeOf a = some c.ty := by
  dsimp only [simView]; rw [hc]

theorem dec_unit (hc : cells[a]? = some .unit) : Decodes (simView cells) a (.unit : Val F) :=
  .unit (typeOf_cell hc)
theorem dec_tru (hc : cells[a]? = some .tru) : Decodes (simView cells) a (.tru : Val F) :=
  .tru (typeOf_cell hc)
theorem dec_fls (hc : cells[a]? = some .fls) : Decodes (simView cells) a (.fls : Val F) :=
  .fls (typeOf_cell hc)
theorem dec_num {n : Number F} (hc : cells[a]? = some (.num n)) : Decodes (simView cells) a (.num n) :=
  .num (typeOf_cell hc) (by dsimp only [simView]; rw [hc])
theorem dec_type {t : Ty} (hc : cells[a]? = some (.type t)) : Decodes (simView cells) a (.type t : Val F) :=
  .type (typeOf_cell hc) (by dsimp only [simView]; rw [hc])
theorem dec_char {c : Nat} (hc : cells[a]? = some (.char c)) : Decodes (simView cells) a (.char c : Val F) :=
  .char (typeOf_cell hc) (by dsimp only [simView]; rw [hc])
theorem dec_byte {c : Nat} (hc : cells[a]? = some (.byte c)) : Decodes (simView cells) a (.byte c : Val F) :=
  .byte (typeOf_cell hc) (by dsimp only [simView]; rw [hc])
theorem dec_sym {c : Nat} (hc : cells[a]? = some (.sym c)) : Decodes (simView cells) a (.sym c : Val F) :=
  .sym (typeOf_cell hc) (by dsimp only [simView]; rw [hc])
theorem dec_symList {ss : List Nat} (hc : cells[a]? = some (.symList ss)) :
    Decodes (simView cells) a (.symList (ss.map SymPart.sym) : Val F) :=
  .symList (typeOf_cell hc) (by dsimp only [simView]; rw [hc])
end leaf

variable (hs : HitSound hit) {st : SimState F} (hinv : SInv st)
include hinv

theorem addUnit_law : AddsI hit h (simpleRStore hit h).addUnit st .unit :=
  same_adds hinv (dec_unit hinv.seeded.1) rfl
theorem addFalse_law : AddsI hit h (simpleRStore hit h).addFalse st .fls :=
  same_adds hinv (dec_fls hinv.seeded.2.1) rfl
theorem addTrue_law : AddsI hit h (simpleRStore hit h).addTrue st .tru :=
  same_adds hinv (dec_tru hinv.seeded.2.2) rfl

include hs
theorem addNumber_law (n : Number F) : AddsI hit h ((simpleRStore hit h).addNumber n) st (.num n) :=
  cache_adds hs hinv _ (fun _ _ hc => dec_num hc)
theorem addType_law (t : Ty) : AddsI hit h ((simpleRStore hit h).addType t) st (.type t) :=
  cache_adds hs hinv _ (fun _ _ hc => dec_type hc)
theorem addChar_law (c : Nat) : AddsI hit h ((simpleRStore hit h).addChar c) st (.char c) :=
  cache_adds hs hinv _ (fun _ _ hc => dec_char hc)
theorem addByte_law (c : Nat) : AddsI hit h ((simpleRStore hit h).addByte c) st (.byte c) :=
  cache_adds hs hinv _ (fun _ _ hc => dec_byte hc)
theorem addSymbol_law (c : Nat) : AddsI hit h ((simpleRStore hit h).addSymbol c) st (.sym c) :=
  cache_adds hs hinv _ (fun _ _ hc => dec_sym hc)
end

section
variable {F : Type} {hit : List (SimCell F) → SimCell F → Option Nat} {h : SimHost F}

theorem typeOf_inv {cells : List (SimCell F)} {a : Nat} {t : Ty} (ht : (simView cells).typeOf a = some t) :
    ∃ c, cells[a]? = some c ∧ c.ty = t := by
  simp only [simView] at ht
  cases hc : cells[a]? with
  | none => rw [hc] at ht; cases ht
  | some c => rw [hc] at ht; cases ht; exact ⟨c, rfl, rfl⟩


theorem cell_of_number {cells : List (SimCell F)} {a : Nat} {n : Number F} (h : (simView cells).number a = some n) :
    cells[a]? = some (.num n) := by
  dsimp only [simView] at h; split at h <;> cases h; assumption

theorem cell_of_symbol {cells : List (SimCell F)} {a k : Nat} (h : (simView cells).symbol a = some k) :
    cells[a]? = some (.sym k) := by
  dsimp only [simView] at h; split at h <;> cases h; assumption

theorem cell_of_pair {cells : List (SimCell F)} {a l r : Nat} (h : (simView cells).pair a = some (l, r)) :
    cells[a]? = some (.pair l r) := by
  dsimp only [simView] at h; split at h <;> cases h; assumption

theorem cell_of_range {cells : List (SimCell F)} {a : Nat} {p : Nat × Nat} (h : (simView cells).range a = some p) :
    cells[a]? = some (.range p.1 p.2) := by
  dsimp only [simView] at h; split at h <;> cases h; assumption

theorem cell_of_listItems {cells : List (SimCell F)} {a : Nat} {items : List Nat}
    (h : (simView cells).listItems a = some items) : cells[a]? = some (.list items) := by
  dsimp only [simView] at h; split at h <;> cases h; assumption

theorem cell_of_chars {cells : List (SimCell F)} {a : Nat} {cs : List Nat} (h : (simView cells).chars a = some cs) :
    cells[a]? = some (.chars cs) := by
  dsimp only [simView] at h; split at h <;> cases h; assumption

theorem cell_of_bytes {cells : List (SimCell F)} {a : Nat} {bs : List Nat} (h : (simView cells).bytes a = some bs) :
    cells[a]? = some (.bytes bs) := by
  dsimp only [simView] at h; split at h <;> cases h; assumption

theorem cell_of_symList {cells : List (SimCell F)} {a : Nat} {ps : List (SymPart F)}
    (h : (simView cells).symList a = some ps) : ∃ ss, cells[a]? = some (.symList ss) ∧ ps = ss.map SymPart.sym := by
  dsimp only [simView] at h; split at h <;> cases h; exact ⟨_, by assumption, rfl⟩

theorem dec_lt {cells : List (SimCell F)} {a : Nat} {v : Val F} (hd : Decodes (simView cells) a v) :
    a < cells.length := by
  obtain ⟨c, hc, _⟩ := typeOf_inv (EqualityRefine.decodes_typeOf hd)
  exact (List.getElem?_eq_some_iff.1 hc).1

theorem flatSim_other {cells : List (SimCell F)} {a : Nat} {c : SimCell F} (hc : cells[a]? = some c)
    (h1 : c.ty ≠ .list) (h2 : c.ty ≠ .concatenation) (h3 : c.ty ≠ .slice) : flatSim cells a = some [a] := by
  rw [flatSim, hc]
  cases c <;> first | rfl | (exfalso; first | exact h1 rfl | exact h2 rfl | exact h3 rfl)

theorem flat_of_dec {cells : List (SimCell F)} {a : Nat} {v : Val F} (hd : Decodes (simView cells) a v)
    (hns : ∀ x y, v ≠ .slice x y) : ∃ il, FlatOf (simView cells) a il ∧ flatSim cells a = some il := by
  have other : ∀ t, (simView cells).typeOf a = some t → t ≠ .list → t ≠ .concatenation → t ≠ .slice →
      ∃ il, FlatOf (simView cells) a il ∧ flatSim cells a = some il := by
    intro t ht h1 h2 h3
    obtain ⟨c, hc, hty⟩ := typeOf_inv ht
    exact ⟨[a], .other ht h1 h2, flatSim_other hc (hty ▸ h1) (hty ▸ h2) (hty ▸ h3)⟩
  have ht := EqualityRefine.decodes_typeOf hd
  cases hd with
  | list _ hi _ => exact ⟨_, .list ht hi, by rw [flatSim, cell_of_listItems hi]⟩
  | concat _ hc _ _ fl fr hci =>
    refine ⟨_, .concat ht hc fl fr, ?_⟩
    dsimp only [simView] at hci
    split at hci
    · exact hci
    · cases hci
  | slice => exact absurd rfl (hns _ _)
  | _ => exact other _ ht nofun nofun nofun

variable {st : SimState F} (hinv : SInv st) {l r : Nat} {vl vr : Val F}
  (hl : Decodes (simView st.cells) l vl) (hr : Decodes (simView st.cells) r vr)
include hinv hl hr

omit hinv hl hr in
theorem up' {cells : List (SimCell F)} {a : Nat} {v : Val F} (c : SimCell F) (hd : Decodes (simView cells) a v) :
    Decodes (simView (cells ++ [c])) a v := decodes_mono (viewLe_ext (ext_append _ _)) hd

theorem addPair_law : AddsI hit h ((simpleRStore hit h).addPair (l, r)) st (.pair vl vr) :=
  push_adds hinv _ (.pair (typeOf_cell (new_cell _ _)) (by dsimp only [simView]; rw [new_cell])
    (up' _ hl) (up' _ hr))
theorem addRange_law : AddsI hit h ((simpleRStore hit h).addRange l r) st (.range vl vr) :=
  push_adds hinv _ (.range (typeOf_cell (new_cell _ _)) (by dsimp only [simView]; rw [new_cell])
    (up' _ hl) (up' _ hr))
theorem addSlice_law : AddsI hit h ((simpleRStore hit h).addSlice l r) st (.slice vl vr) :=
  push_adds hinv _ (.slice (typeOf_cell (new_cell _ _)) (by dsimp only [simView]; rw [new_cell])
    (up' _ hl) (up' _ hr))
theorem addPartial_law : AddsI hit h ((simpleRStore hit h).addPartial l r) st (.part vl vr) :=
  push_adds hinv _ (.part (typeOf_cell (new_cell _ _)) (by dsimp only [simView]; rw [new_cell])
    (up' _ hl) (up' _ hr))

/-- `add_concatenation`, operands that are not slices (a slice operand is EXPANDED by Simple's iterator, which the
contract's `FlatOf` does not do) -/
theorem addConcatenation_law (nl : ∀ x y, vl ≠ .slice x y) (nr : ∀ x y, vr ≠ .slice x y) :
    AddsI hit h ((simpleRStore hit h).addConcatenation l r) st (.concat vl vr) := by
  obtain ⟨il, fl, sl⟩ := flat_of_dec (up' (.concat l r) hl) nl
  obtain ⟨ir, fr, sr⟩ := flat_of_dec (up' (.concat l r) hr) nr
  refine push_adds hinv _ (.concat (typeOf_cell (new_cell _ _)) (by dsimp only [simView]; rw [new_cell])
    (up' _ hl) (up' _ hr) fl fr ?_)
  simp only [simView, new_cell]
  rw [flatSim, new_cell]
  simp only
  rw [dif_pos ⟨dec_lt hl, dec_lt hr⟩, sl, sr]; rfl
end

end Garnish.Lemmas.Runtime.Simple
