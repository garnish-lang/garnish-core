/-
Monotonicity of decoding: if every getter of `v2` answers as `v1` wherever `v1` answers (`ViewLe`), every
`Decodes` / `DecodesList` / `FlatOf` fact of `v1` holds of `v2`. This is how a concrete store shows that its
adders keep all earlier `Decodes` facts (`Keeps` of Model/Runtime/Store.lean).
-/
import Garnish.Model.Equality
namespace Garnish.Lemmas.Runtime
open Garnish Gen Garnish.Model.Equality
variable {F : Type}

structure ViewLe (v1 v2 : StoreView F) : Prop where
  typeOf : ∀ a x, v1.typeOf a = some x → v2.typeOf a = some x
  number : ∀ a x, v1.number a = some x → v2.number a = some x
  char : ∀ a x, v1.char a = some x → v2.char a = some x
  byte : ∀ a x, v1.byte a = some x → v2.byte a = some x
  symbol : ∀ a x, v1.symbol a = some x → v2.symbol a = some x
  expression : ∀ a x, v1.expression a = some x → v2.expression a = some x
  external : ∀ a x, v1.external a = some x → v2.external a = some x
  type_ : ∀ a x, v1.type_ a = some x → v2.type_ a = some x
  pair : ∀ a x, v1.pair a = some x → v2.pair a = some x
  range : ∀ a x, v1.range a = some x → v2.range a = some x
  concatenation : ∀ a x, v1.concatenation a = some x → v2.concatenation a = some x
  slice : ∀ a x, v1.slice a = some x → v2.slice a = some x
  partial_ : ∀ a x, v1.partial_ a = some x → v2.partial_ a = some x
  listItems : ∀ a x, v1.listItems a = some x → v2.listItems a = some x
  concatItems : ∀ a x, v1.concatItems a = some x → v2.concatItems a = some x
  chars : ∀ a x, v1.chars a = some x → v2.chars a = some x
  bytes : ∀ a x, v1.bytes a = some x → v2.bytes a = some x
  symList : ∀ a x, v1.symList a = some x → v2.symList a = some x

theorem flatOf_mono {v1 v2 : StoreView F} (le : ViewLe v1 v2) {a : Nat} {items : List Nat}
    (h : FlatOf v1 a items) : FlatOf v2 a items := by
  induction h with
  | list ht hi => exact .list (le.typeOf _ _ ht) (le.listItems _ _ hi)
  | concat ht hc _ _ ihl ihr => exact .concat (le.typeOf _ _ ht) (le.concatenation _ _ hc) ihl ihr
  | other ht h1 h2 => exact .other (le.typeOf _ _ ht) h1 h2

mutual
theorem decodes_mono {v1 v2 : StoreView F} (le : ViewLe v1 v2) : ∀ {a : Nat} {v : Val F},
    Decodes v1 a v → Decodes v2 a v
  | _, _, .unit h => .unit (le.typeOf _ _ h)
  | _, _, .tru h => .tru (le.typeOf _ _ h)
  | _, _, .fls h => .fls (le.typeOf _ _ h)
  | _, _, .num h g => .num (le.typeOf _ _ h) (le.number _ _ g)
  | _, _, .char h g => .char (le.typeOf _ _ h) (le.char _ _ g)
  | _, _, .byte h g => .byte (le.typeOf _ _ h) (le.byte _ _ g)
  | _, _, .sym h g => .sym (le.typeOf _ _ h) (le.symbol _ _ g)
  | _, _, .expr h g => .expr (le.typeOf _ _ h) (le.expression _ _ g)
  | _, _, .ext h g => .ext (le.typeOf _ _ h) (le.external _ _ g)
  | _, _, .type h g => .type (le.typeOf _ _ h) (le.type_ _ _ g)
  | _, _, .chars h g => .chars (le.typeOf _ _ h) (le.chars _ _ g)
  | _, _, .bytes h g => .bytes (le.typeOf _ _ h) (le.bytes _ _ g)
  | _, _, .symList h g => .symList (le.typeOf _ _ h) (le.symList _ _ g)
  | _, _, .pair h g dl dr => .pair (le.typeOf _ _ h) (le.pair _ _ g) (decodes_mono le dl) (decodes_mono le dr)
  | _, _, .list h g dl => .list (le.typeOf _ _ h) (le.listItems _ _ g) (decodesList_mono le dl)
  | _, _, .concat h g dl dr fl fr ci => .concat (le.typeOf _ _ h) (le.concatenation _ _ g) (decodes_mono le dl)
      (decodes_mono le dr) (flatOf_mono le fl) (flatOf_mono le fr) (le.concatItems _ _ ci)
  | _, _, .range h g dl dr => .range (le.typeOf _ _ h) (le.range _ _ g) (decodes_mono le dl) (decodes_mono le dr)
  | _, _, .slice h g dl dr => .slice (le.typeOf _ _ h) (le.slice _ _ g) (decodes_mono le dl) (decodes_mono le dr)
  | _, _, .part h g dl dr => .part (le.typeOf _ _ h) (le.partial_ _ _ g) (decodes_mono le dl) (decodes_mono le dr)
  | _, _, .custom h => .custom (le.typeOf _ _ h)
theorem decodesList_mono {v1 v2 : StoreView F} (le : ViewLe v1 v2) : ∀ {as : List Nat} {vs : List (Val F)},
    DecodesList v1 as vs → DecodesList v2 as vs
  | _, _, .nil => .nil
  | _, _, .cons h t => .cons (decodes_mono le h) (decodesList_mono le t)
end

end Garnish.Lemmas.Runtime
