/-
The strict evaluator and `evalF`: they agree, or the strict one reports the state error (`strict_or`); and they agree
on programs in which every else-chain has its final arm (`wfE`: `strict_eq`). Both are read off one induction
(`strict_all`) over a relation with a parameter `W` that stands for "every else-chain in sight has its final arm".
-/
import Garnish.Lemmas.CompileStrict
import Garnish.Lemmas.CompileBase
namespace Garnish.Spec
open Garnish Gen Garnish.Abs

variable {F : Type} (fo : FloatOps F) (host : Host F)

/-- `a` is `b`, or — only when `W` fails — the state error -/
def SO (W : Prop) {α : Type} (a b : Out α) : Prop := a = b ∨ (¬ W ∧ a = .err .state)

variable {W : Prop}

theorem SO.refl {α : Type} (a : Out α) : SO W a a := .inl rfl

/-- an evaluation step that goes on with the value of a sub-evaluation and hands every other outcome through -/
theorem SO.val {a b : Out (Res F × St F)} {k k' : Val F → St F → Out (Res F × St F)} :
    SO W a b → (∀ v st, SO W (k v st) (k' v st)) →
    SO W (match a with | .ok (.val v, st1) => k v st1 | other => other)
       (match b with | .ok (.val v, st1) => k' v st1 | other => other) := by
  intro h hk
  rcases h with rfl | ⟨hW, rfl⟩
  · split
    · exact hk _ _
    · exact .inl rfl
  · exact .inr ⟨hW, rfl⟩

theorem SO.res {α : Type} {a b : Out (Res F × St F)} {k k' r r' : Val F → St F → Out α} :
    SO W a b → (∀ v st, SO W (k v st) (k' v st)) → (∀ v st, SO W (r v st) (r' v st)) →
    SO W (match a with
        | .ok (.val v, st1) => k v st1 | .ok (.restart v, st1) => r v st1 | .err e => .err e | .fuelOut => .fuelOut)
       (match b with
        | .ok (.val v, st1) => k' v st1 | .ok (.restart v, st1) => r' v st1 | .err e => .err e | .fuelOut => .fuelOut) := by
  intro h hk hr
  rcases h with rfl | ⟨hW, rfl⟩
  · split
    · exact hk _ _
    · exact hr _ _
    · exact .inl rfl
    · exact .inl rfl
  · exact .inr ⟨hW, rfl⟩

theorem SO.resolved {o : Out (Val F × St F)} {k k' : Val F → St F → Out (Res F × St F)}
    (hk : ∀ v st, SO W (k v st) (k' v st)) :
    SO W (match o with | .ok (v, st1) => k v st1 | .err e => .err e | .fuelOut => .fuelOut)
       (match o with | .ok (v, st1) => k' v st1 | .err e => .err e | .fuelOut => .fuelOut) := by
  split
  · exact hk _ _
  · exact .inl rfl
  · exact .inl rfl

variable (W) (bodies : List (Nat × Expr F))

/-- the five statements for one amount of fuel. With `W := False` nothing is asked of the expressions and the state
error is allowed (`strict_or`); with `W := True` they are `wfE` and what is left of `SO` is equality (`strict_eq`) -/
def Strict (fuel : Nat) : Prop :=
  (∀ cur e st, (W → wfE e = true) → SO W (evalFS fo host bodies cur fuel e st) (evalF fo host bodies cur fuel e st)) ∧
  (∀ cur items st acc, (W → wfEList items = true) →
      SO W (evalListS fo host bodies cur fuel items st acc) (evalList fo host bodies cur fuel items st acc)) ∧
  (∀ cur arms final st, (W → wfE (.chain arms final) = true) →
      SO W (evalChainS fo host bodies cur fuel arms final st) (evalChain fo host bodies cur fuel arms final st)) ∧
  (∀ cur instr useRight f x st,
      SO W (applyValsS fo host bodies cur fuel instr useRight f x st) (applyVals fo host bodies cur fuel instr useRight f x st)) ∧
  (∀ cur body st, (W → wfE body = true) →
      SO W (evalBodyS fo host bodies cur fuel body st) (evalBody fo host bodies cur fuel body st))

variable {fo host W bodies}

theorem strict_zero : Strict fo host W bodies 0 := by
  refine ⟨fun _ _ _ _ => .inl ?_, fun _ _ _ _ _ => .inl ?_, fun _ _ _ _ _ => .inl ?_, fun _ _ _ _ _ _ => .inl ?_,
    fun _ _ _ _ => .inl ?_⟩
  · simp only [evalFS, evalF]
  · simp only [evalListS, evalList]
  · simp only [evalChainS, evalChain]
  · simp only [applyValsS, applyVals]
  · simp only [evalBodyS, evalBody]

theorem strictF_step {fuel : Nat} (ih : Strict fo host W bodies fuel) (cur : Nat) (e : Expr F) (st : St F)
    (hw : W → wfE e = true) :
    SO W (evalFS fo host bodies cur (fuel + 1) e st) (evalF fo host bodies cur (fuel + 1) e st) := by
  obtain ⟨ihF, ihL, ihC, ihA, ihB⟩ := ih
  cases e <;> simp only [evalFS, evalF]
  case chain arms final => exact ihC _ _ _ _ hw
  all_goals try simp only [wfE, Bool.and_eq_true] at hw
  case lit | input | ident | nested | emptyNested => exact .refl _
  case unary op x =>
    refine .val (ihF _ _ _ fun h => (hw h).2) fun v st1 => ?_
    split
    · exact ihA ..
    · exact .refl _
  case binary op l r =>
    refine .val (ihF _ _ _ fun h => (hw h).1.2) fun vl st1 => .val (ihF _ _ _ fun h => (hw h).2) fun vr st2 => ?_
    split
    · exact ihA ..
    · exact .refl _
  case pair l r =>
    exact .val (ihF _ _ _ fun h => (hw h).2) fun vr st1 => .val (ihF _ _ _ fun h => (hw h).1) fun vl st2 => .refl _
  case applyTo x f =>
    exact .val (ihF _ _ _ fun h => (hw h).2) fun vf st1 => .val (ihF _ _ _ fun h => (hw h).1) fun vx st2 => ihA ..
  case list items =>
    rcases ihL cur items st [] hw with h | ⟨hW, h⟩ <;> rw [h]
    · exact .refl _
    · exact .inr ⟨hW, rfl⟩
  case cond onTrue c t =>
    refine .val (ihF _ _ _ fun h => (hw h).1) fun vc st1 => ?_
    split
    · exact ihF _ _ _ fun h => (hw h).2
    · exact .refl _
  case and l r =>
    refine .val (ihF _ _ _ fun h => (hw h).1) fun vl st1 => ?_
    split
    · exact .val (ihF _ _ _ fun h => (hw h).2) fun vr st2 => .refl _
    · exact .refl _
  case or l r =>
    refine .val (ihF _ _ _ fun h => (hw h).1) fun vl st1 => ?_
    split
    · exact .refl _
    · exact .val (ihF _ _ _ fun h => (hw h).2) fun vr st2 => .refl _
  case seq a b => exact .val (ihF _ _ _ fun h => (hw h).1) fun va st1 => ihF _ _ _ fun h => (hw h).2
  case sideAfter x body =>
    exact .val (ihF _ _ _ fun h => (hw h).1.1) fun vx st1 => .val (ihF _ _ _ fun h => (hw h).1.2) fun vb st2 => .refl _
  case reapply x => exact .val (ihF _ _ _ hw) fun v st1 => .refl _
  case prefixApply sym x => exact .resolved fun vf st1 => .val (ihF _ _ _ hw) fun vx st2 => ihA ..
  case suffixApply x sym => exact .resolved fun vf st1 => .val (ihF _ _ _ hw) fun vx st2 => ihA ..
  case infixApply a sym b =>
    exact .resolved fun vf st1 => .val (ihF _ _ _ fun h => (hw h).1) fun va st2 =>
      .val (ihF _ _ _ fun h => (hw h).2) fun vb st3 => ihA ..

theorem strict_step (hb : W → ∀ id b, lookupBody bodies id = some b → wfE b = true) {fuel : Nat}
    (ih : Strict fo host W bodies fuel) : Strict fo host W bodies (fuel + 1) := by
  refine ⟨strictF_step ih, ?_, ?_, ?_, ?_⟩
  all_goals obtain ⟨ihF, ihL, ihC, ihA, ihB⟩ := ih
  · intro cur items st acc hw
    cases items with
    | nil => exact .inl (by simp only [evalListS, evalList])
    | cons x xs =>
      simp only [wfEList, Bool.and_eq_true] at hw
      simp only [evalListS, evalList]
      exact .res (ihF _ _ _ fun h => (hw h).1) (fun v st1 => ihL _ _ _ _ fun h => (hw h).2) fun v st1 => .refl _
  · intro cur arms final st hw
    simp only [wfE_chain, Bool.and_eq_true] at hw
    cases arms with
    | nil =>
      cases final with
      | none => exact .inr ⟨fun h => by simpa using (hw h).2, by simp only [evalChainS]⟩
      | some e => simp only [evalChainS, evalChain]; exact ihF cur e st fun h => (hw h).2
    | cons a rest =>
      obtain ⟨onTrue, c, t⟩ := a
      simp only [wfEArms, Bool.and_eq_true] at hw
      simp only [evalChainS, evalChain]
      refine .val (ihF _ _ _ fun h => (hw h).1.1.1) fun vc st1 => ?_
      split
      · exact ihF _ _ _ fun h => (hw h).1.1.2
      · exact ihC _ _ _ _ fun h => by rw [wfE_chain, Bool.and_eq_true]; exact ⟨(hw h).1.2, (hw h).2⟩
  · intro cur instr useRight f x st
    simp only [applyValsS, applyVals]
    cases applyKind fo instr useRight f x with
    | enter j input =>
      dsimp only
      cases hl : lookupBody bodies j with
      | none => exact .refl _
      | some body =>
        dsimp only
        rcases ihB j body { st with inp := input } fun h => hb h j body hl with h | ⟨hW, h⟩ <;> rw [h]
        · exact .refl _
        · exact .inr ⟨hW, rfl⟩
    | external n arg => exact .refl _
    | out o => exact .refl _
  · intro cur body st hw
    simp only [evalBodyS, evalBody]
    exact .res (ihF _ _ _ hw) (fun v st1 => .refl _) fun v st1 => ihB _ _ _ hw

theorem strict_all (hb : W → ∀ id b, lookupBody bodies id = some b → wfE b = true) : ∀ fuel, Strict fo host W bodies fuel
  | 0 => strict_zero
  | fuel + 1 => strict_step hb (strict_all hb fuel)

variable (fo host)

theorem strict_or (bodies : List (Nat × Expr F)) (cur fuel : Nat) (body : Expr F) (st : St F) :
    evalBodyS fo host bodies cur fuel body st = evalBody fo host bodies cur fuel body st ∨
    evalBodyS fo host bodies cur fuel body st = .err .state :=
  ((strict_all (W := False) (fun h => h.elim) fuel).2.2.2.2 cur body st fun h => h.elim).imp_right (·.2)

theorem strict_refines {bodies : List (Nat × Expr F)} {cur fuel : Nat} {body : Expr F} {st : St F} {r : Val F × St F}
    (h : evalBodyS fo host bodies cur fuel body st = .ok r) : evalBody fo host bodies cur fuel body st = .ok r := by
  rcases strict_or fo host bodies cur fuel body st with h' | h'
  · rw [← h', h]
  · rw [h'] at h; cases h

/-- … and when `evalF` gives a value, the strict evaluator gives the same value unless the evaluation reaches a missing
fall-through (which is what `.err .state` says then: `evalF` itself did not fail) -/
theorem strict_of_noFall {bodies : List (Nat × Expr F)} {cur fuel : Nat} {body : Expr F} {st : St F} {r : Val F × St F}
    (h : evalBody fo host bodies cur fuel body st = .ok r) (hn : evalBodyS fo host bodies cur fuel body st ≠ .err .state) :
    evalBodyS fo host bodies cur fuel body st = .ok r := by
  rcases strict_or fo host bodies cur fuel body st with h' | h'
  · rw [h', h]
  · exact absurd h' hn

variable {fo host}

theorem strict_eq (hb : ∀ id b, lookupBody bodies id = some b → wfE b = true) (cur fuel : Nat) (body : Expr F) (st : St F)
    (hw : wfE body = true) : evalBodyS fo host bodies cur fuel body st = evalBody fo host bodies cur fuel body st :=
  ((strict_all (W := True) (fun _ => hb) fuel).2.2.2.2 cur body st fun _ => hw).resolve_right fun h => h.1 trivial

theorem strict_of_wf (hb : ∀ id b, lookupBody bodies id = some b → wfE b = true) {id : Nat} {main : Expr F}
    (hm : lookupBody bodies id = some main) {cur fuel : Nat} {st : St F} {r : Val F × St F}
    (h : evalBody fo host bodies cur fuel main st = .ok r) : evalBodyS fo host bodies cur fuel main st = .ok r := by
  rw [strict_eq hb cur fuel main st (hb _ _ hm)]; exact h

end Garnish.Spec
