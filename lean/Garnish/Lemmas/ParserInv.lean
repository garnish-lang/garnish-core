/-
Step-level facts about the parser model (Garnish/Model/Parser.lean) that the C18 (trivia insensitivity) and the C02/C04
fragment statements rest on.  One iteration of the token loop is written by its parts (`step_eq`: bracket lookup, `last_left`
adjustment, composition check, the arm of the token's class, `stepEnd`); on a value token (`step_atom_eq`) and on a binary- or
suffix-operator token (`step_op_eq`) it is one `parse_token`, then `stepEnd`.  The facts about single steps here and in
ParserSteps, ParserSuffix, ParserPrefix, ParserTrivia, ParserAccept, ParserBInv, ParserBSep, ParserBList are read off these
equations.  On a parent chain the capped walk of `parse_token` returns the bottom-up search `walkSpec` (`walkLoop_chain`).
-/
import Garnish.Model.Parser
import Garnish.Lemmas.EnumAll
import Garnish.Lemmas.Outcome

namespace Garnish.Model.Parser
open Garnish Garnish.Gen

theorem modifyNode?_size {nodes nodes' : Array ParseNode} {i : Nat} {f : ParseNode → ParseNode}
    (h : modifyNode? nodes i f = some nodes') : nodes'.size = nodes.size := by
  unfold modifyNode? at h
  split at h
  · injection h with h; subst h; simp
  · cases h

theorem parseToken_size_def {id : Nat} {d : Definition} {left right : Option Nat} {nodes nodes' : Array ParseNode}
    {ug : Option Nat} {rtl : Bool} {info : Info}
    (h : parseToken id d left right nodes ug rtl = .ok (nodes', info)) : nodes'.size = nodes.size ∧ info.definition = d := by
  unfold parseToken at h
  split at h
  · cases h
  · obtain ⟨⟨tl, par⟩, _, h⟩ := Outcome.bind_eq_ok.1 h
    simp only at h
    obtain ⟨nodes1, h1, h⟩ := Outcome.bind_eq_ok.1 h
    have hs1 : nodes1.size = nodes.size := by
      split at h1
      · injection h1 with h1; subst h1; rfl
      · split at h1
        · cases h1
        · rename_i hm; injection h1 with h1; subst h1; exact modifyNode?_size hm
    split at h
    · injection h with h; injection h with e1 e2; subst e1; subst e2; exact ⟨hs1, rfl⟩
    · split at h
      · cases h
      · split at h
        · cases h
        · rename_i nodes2 hm2
          have hs2 := modifyNode?_size hm2
          split at h
          · injection h with h; injection h with e1 e2; subst e1; subst e2; exact ⟨by omega, rfl⟩
          · split at h
            · injection h with h; injection h with e1 e2; subst e1; subst e2; exact ⟨by omega, rfl⟩
            · rename_i nodes3 hm3
              have hs3 := modifyNode?_size hm3
              injection h with h; injection h with e1 e2; subst e1; subst e2; exact ⟨by omega, rfl⟩

/-- the definition `pushNode` stores: an Identifier whose parent is an Access node becomes a Property -/
def renameDef (d : Definition) (parent : Option Nat) (nodes : Array ParseNode) : Definition :=
  match d with
  | .identifier =>
    match parent.bind (fun p => nodes[p]?) with
    | none => d
    | some p => if p.definition == .access then .property else d
  | d => d

theorem renameDef_of_ne {d : Definition} (h : d ≠ .identifier) (parent : Option Nat) (nodes : Array ParseNode) :
    renameDef d parent nodes = d := by
  cases d <;> first | rfl | exact absurd rfl h

/-- the end of one iteration (lines 1225–1251): push the node unless it is `Drop`, move `last_left`, remember the token -/
def stepEnd (st : PState) (info : Info) (sd : SecDef) (token : PToken) (currentId : Nat) : PState :=
  let st := pushNode st info sd token
  let st :=
    match st.nextLastLeft with
    | some i => { st with nextLastLeft := none, lastLeft := some i }
    | none => { st with lastLeft := if st.nodes.size == 0 then none else some currentId }
  { st with lastToken := token }

theorem step_eq (st : PState) (t : PToken) (il : Bool) {ug : Option Nat} {sta : PState} (hug : underGroupOf st = .ok ug)
    (hadj : adjustLastLeft st ug = .ok sta) :
    step st t il =
      if checkComposition sta.previousSecondDef (getDefinition t.type).2 sta.checkForList = true then
        Outcome.bind (dispatch { sta with previousSecondDef := (getDefinition t.type).2 } st.nodes.size t
            (getDefinition t.type).1 (getDefinition t.type).2 (if il then none else some (st.nodes.size + 1)) ug)
          fun r => .ok (stepEnd r.1 r.2 (getDefinition t.type).2 t st.nodes.size)
      else syntaxErr := by
  unfold step
  simp only [hug, hadj, Outcome.bind]
  cases checkComposition sta.previousSecondDef (getDefinition t.type).2 sta.checkForList
  · rfl
  · simp only [Bool.not_true, Bool.false_eq_true, if_false, if_true]
    cases dispatch { sta with previousSecondDef := (getDefinition t.type).2 } st.nodes.size t
        (getDefinition t.type).1 (getDefinition t.type).2 (if il then none else some (st.nodes.size + 1)) ug <;> rfl

theorem underGroupOf_cases (st : PState) : (∃ ug, underGroupOf st = .ok ug) ∨ underGroupOf st = implErr := by
  unfold underGroupOf
  repeat' split
  all_goals first | exact Or.inl ⟨_, rfl⟩ | exact Or.inr rfl

theorem step_underGroup_err {st : PState} {t : PToken} {il : Bool} {e : ErrClass} (hu : underGroupOf st = .err e) :
    step st t il = .err e := by
  unfold step; rw [hu]; rfl

theorem step_ok_pre {st st1 : PState} {t : PToken} {il : Bool} (h : step st t il = .ok st1) :
    ∃ ug sta, underGroupOf st = .ok ug ∧ adjustLastLeft st ug = .ok sta := by
  unfold step at h
  obtain ⟨ug, hug, h⟩ := Outcome.bind_eq_ok.1 h
  obtain ⟨sta, hadj, _⟩ := Outcome.bind_eq_ok.1 h
  exact ⟨ug, sta, hug, hadj⟩

theorem stepEnd_nextLastLeft (st : PState) (info : Info) (sd : SecDef) (t : PToken) (id : Nat) :
    (stepEnd st info sd t id).nextLastLeft = none := by
  unfold stepEnd
  dsimp only
  split
  · rfl
  · assumption

theorem stepEnd_lastToken (st : PState) (w : PToken) (info : Info) (sd : SecDef) (t : PToken) (id : Nat) :
    stepEnd { st with lastToken := w } info sd t id = stepEnd st info sd t id := by
  unfold stepEnd pushNode
  cases (info.definition != Definition.drop) <;> cases h : st.nextLastLeft <;> simp [h]

theorem stepEnd_push (st : PState) (info : Info) (sd : SecDef) (t : PToken) (id : Nat)
    (hd : (info.definition != Definition.drop) = true) (hnl : st.nextLastLeft = none) :
    stepEnd st info sd t id =
      { st with nodes := st.nodes.push ⟨renameDef info.definition info.parent st.nodes, sd, info.parent, info.left,
                  info.right, t⟩,
                lastLeft := some id, lastToken := t } := by
  unfold stepEnd pushNode
  simp only [hd, if_true, hnl]
  simp [renameDef]
  rfl

theorem stepEnd_push_to (st : PState) (info : Info) (sd : SecDef) (t : PToken) (id g : Nat)
    (hd : (info.definition != Definition.drop) = true) (hnl : st.nextLastLeft = some g) :
    stepEnd st info sd t id =
      { st with nodes := st.nodes.push ⟨renameDef info.definition info.parent st.nodes, sd, info.parent, info.left,
                  info.right, t⟩,
                nextLastLeft := none, lastLeft := some g, lastToken := t } := by
  unfold stepEnd pushNode
  simp only [hd, if_true, hnl]
  simp [renameDef]
  rfl

theorem stepEnd_drop (st : PState) (p l r : Option Nat) (sd : SecDef) (t : PToken) (id g : Nat)
    (hnl : st.nextLastLeft = some g) :
    stepEnd st ⟨.drop, p, l, r⟩ sd t id = { st with nextLastLeft := none, lastLeft := some g, lastToken := t } := by
  unfold stepEnd pushNode
  simp [hnl]

/-- the repeated block "list flag is set": one `parse_token` for the List node, which is pushed with the token before -/
theorem pushListNode_eq {st : PState} {id ourId : Nat} {ug : Option Nat} {nodes' : Array ParseNode} {info : Info}
    (hpt : parseToken id .list st.lastLeft (some ourId) st.nodes ug false = .ok (nodes', info)) :
    pushListNode st id ourId ug =
      .ok { st with nodes := nodes'.push ⟨.list, .startGrouping, info.parent, info.left, info.right, st.lastToken⟩,
                    checkForList := false } := by
  obtain ⟨_, hdef⟩ := parseToken_size_def hpt
  unfold pushListNode parseTokenLeftToRight parseTokenSt
  simp only [hpt, Outcome.bind, hdef]

/-- `adjustLastLeft` leaves the state alone unless `last_left` is a finished side-effect block that is not the open bracket -/
theorem adjust_noop (st : PState) (ug : Option Nat)
    (h : st.lastLeft = none ∨ ∃ i nd, st.lastLeft = some i ∧ st.nodes[i]? = some nd ∧
      ((nd.definition == Definition.sideEffect) = false ∨ st.lastLeft = ug)) : adjustLastLeft st ug = .ok st := by
  unfold adjustLastLeft
  rcases h with h | ⟨i, nd, hl, hn, hc⟩
  · simp [h]
  · rcases hc with hc | hc
    · simp [hl, hn, hc]
    · rw [hl] at hc; subst hc; simp [hl, hn]

/-- the node `last_left` points to is an operator-like node: neither value-like nor group-like
    (after it, whitespace cannot start an implicit list and no side-effect adjustment happens) -/
def TrivOK (st : PState) : Prop :=
  ∃ i n, st.lastLeft = some i ∧ st.nodes[i]? = some n ∧ n.definition.isValueLike = false ∧ n.definition.isGroupLike = false

theorem not_sideEffect_of_not_groupLike {d : Definition} (h : d.isGroupLike = false) : (d == Definition.sideEffect) = false := by
  revert h; generalize d = e
  revert e; exact Definition.forall_of_all (by decide +kernel)

theorem adjustLastLeft_trivOK {st : PState} (h : TrivOK st) (ug : Option Nat) : adjustLastLeft st ug = .ok st := by
  obtain ⟨i, n, hl, hn, _, hg⟩ := h
  exact adjust_noop st ug (Or.inr ⟨i, n, hl, hn, Or.inl (not_sideEffect_of_not_groupLike hg)⟩)

def isTriviaTok (t : PToken) : Bool := t.type == .whitespace || t.type == .annotation || t.type == .lineAnnotation
def isAtomTok (t : PToken) : Bool :=
  ((getDefinition t.type).2 == .value || (getDefinition t.type).2 == .identifier) &&
    (priority (getDefinition t.type).1).isSome
def isBinopTok (t : PToken) : Bool :=
  (getDefinition t.type).2 == .binaryLeftToRight || (getDefinition t.type).2 == .binaryRightToLeft

theorem binop_secdef {o : PToken} (ho : isBinopTok o = true) :
    (getDefinition o.type).2 = .binaryLeftToRight ∨ (getDefinition o.type).2 = .binaryRightToLeft := by
  unfold isBinopTok at ho; simpa [Bool.or_eq_true, beq_iff_eq] using ho

theorem trivia_types {w : PToken} (hw : isTriviaTok w = true) :
    w.type = .whitespace ∨ w.type = .annotation ∨ w.type = .lineAnnotation := by
  unfold isTriviaTok at hw
  simp only [Bool.or_eq_true, beq_iff_eq] at hw
  rcases hw with (h | h) | h
  · exact Or.inl h
  · exact Or.inr (Or.inl h)
  · exact Or.inr (Or.inr h)

theorem checkComposition_trivia (prev : SecDef) (cfl : Bool) :
    checkComposition prev .whitespace cfl = true ∧ checkComposition prev .annotation cfl = true := by
  revert prev; exact SecDef.forall_of_all (by cases cfl <;> decide +kernel)

theorem step_atom_eq (st : PState) (a : PToken) (il : Bool)
    (hs : (getDefinition a.type).2 = .value ∨ (getDefinition a.type).2 = .identifier) (hc : st.checkForList = false)
    {ug : Option Nat} (hug : underGroupOf st = .ok ug) (hadj : adjustLastLeft st ug = .ok st) :
    step st a il =
      if checkComposition st.previousSecondDef (getDefinition a.type).2 false = true then
        Outcome.bind (parseToken st.nodes.size (getDefinition a.type).1 st.lastLeft none st.nodes ug false) fun r =>
          .ok (stepEnd { st with nodes := r.1, checkForList := false, previousSecondDef := (getDefinition a.type).2 } r.2
            (getDefinition a.type).2 a st.nodes.size)
      else syntaxErr := by
  rw [step_eq st a il hug hadj]
  have hdisp : ∀ ar, dispatch { st with previousSecondDef := (getDefinition a.type).2 } st.nodes.size a
      (getDefinition a.type).1 (getDefinition a.type).2 ar ug =
        parseTokenSt { st with previousSecondDef := (getDefinition a.type).2 } st.nodes.size (getDefinition a.type).1
          st.lastLeft none ug false := by
    intro ar
    rcases hs with hs | hs <;> rw [hs] <;> simp [dispatch, parseValueLike, hc, parseTokenLeftToRight]
  rw [hdisp, hc]
  unfold parseTokenSt
  cases parseToken st.nodes.size (getDefinition a.type).1 st.lastLeft none st.nodes ug false <;> rfl

/-- the four classes whose arm is a single `parse_token` with `next_parent` set: the three binary classes and suffix -/
def isOpSec (s : SecDef) : Bool :=
  s == .binaryLeftToRight || s == .binaryRightToLeft || s == .optionalBinaryLeftToRight || s == .unarySuffix

/-- a suffix operator has no right operand -/
theorem step_op_eq (st : PState) (o : PToken) (il : Bool) (ho : isOpSec (getDefinition o.type).2 = true) {ug : Option Nat}
    {sta : PState} (hug : underGroupOf st = .ok ug) (hadj : adjustLastLeft st ug = .ok sta) :
    step st o il =
      if checkComposition sta.previousSecondDef (getDefinition o.type).2 sta.checkForList = true then
        Outcome.bind (parseToken st.nodes.size (getDefinition o.type).1 sta.lastLeft
            (if (getDefinition o.type).2 == .unarySuffix then none else if il then none else some (st.nodes.size + 1))
            sta.nodes ug ((getDefinition o.type).2 == .binaryRightToLeft)) fun r =>
          .ok (stepEnd { sta with nodes := r.1, nextParent := some st.nodes.size, checkForList := false,
                                  previousSecondDef := (getDefinition o.type).2 } r.2 (getDefinition o.type).2 o st.nodes.size)
      else syntaxErr := by
  rw [step_eq st o il hug hadj]
  have hdisp : ∀ ar, dispatch { sta with previousSecondDef := (getDefinition o.type).2 } st.nodes.size o
      (getDefinition o.type).1 (getDefinition o.type).2 ar ug =
        parseTokenSt { sta with previousSecondDef := (getDefinition o.type).2, nextParent := some st.nodes.size }
          st.nodes.size (getDefinition o.type).1 sta.lastLeft
          (if (getDefinition o.type).2 == .unarySuffix then none else ar) ug
          ((getDefinition o.type).2 == .binaryRightToLeft) := by
    intro ar
    unfold isOpSec at ho
    simp only [Bool.or_eq_true, beq_iff_eq] at ho
    rcases ho with ((ho | ho) | ho) | ho <;> rw [ho] <;> rfl
  rw [hdisp]
  unfold parseTokenSt
  cases parseToken st.nodes.size (getDefinition o.type).1 sta.lastLeft
      (if (getDefinition o.type).2 == .unarySuffix then none else if il then none else some (st.nodes.size + 1))
      sta.nodes ug ((getDefinition o.type).2 == .binaryRightToLeft) <;> rfl
/-- whitespace after the node `n = last_left` (index `i`) starts an implicit list: `n` is a value or a closed bracket -/
def listAfter (n : ParseNode) (i : Nat) (ug : Option Nat) : Bool :=
  n.definition.isValueLike || (n.definition.isGroupLike && some i != ug)

theorem step_trivia_node {st : PState} {ug : Option Nat} {i : Nat} {n : ParseNode} (w : PToken) (il : Bool)
    (hw : isTriviaTok w = true) (hug : underGroupOf st = .ok ug) (hadj : adjustLastLeft st ug = .ok st)
    (hnl : st.nextLastLeft = none) (hl : st.lastLeft = some i) (hn : st.nodes[i]? = some n) :
    step st w il = .ok { st with checkForList := (w.type == .whitespace && listAfter n i ug) || st.checkForList,
                                 previousSecondDef := (getDefinition w.type).2, lastToken := w } := by
  unfold step listAfter
  simp only [hug, Outcome.bind, hadj]
  rcases trivia_types hw with h | h | h
  · rw [h]
    cases hcnd : (n.definition.isValueLike || (n.definition.isGroupLike && some i != ug)) <;>
    · simp only [getDefinition, (checkComposition_trivia _ _).1, Bool.not_true, Bool.false_eq_true, if_false, dispatch,
        setupSpaceListCheck, hl, hn, hcnd, if_true, Outcome.bind, pushNode, bne_self_eq_false]
      simp [hnl]
  · rw [h]
    simp only [getDefinition, (checkComposition_trivia _ _).2, Bool.not_true, Bool.false_eq_true, if_false, dispatch,
      pushNode, bne_self_eq_false]
    simp [hl, hnl]
  · rw [h]
    simp only [getDefinition, (checkComposition_trivia _ _).2, Bool.not_true, Bool.false_eq_true, if_false, dispatch,
      pushNode, bne_self_eq_false]
    simp [hl, hnl]

theorem step_trivia_gen (st : PState) (w : PToken) (il : Bool) (hw : isTriviaTok w = true) {i : Nat} {n : ParseNode}
    (hl : st.lastLeft = some i) (hn : st.nodes[i]? = some n) (hs : (n.definition == Definition.sideEffect) = false)
    (hnl : st.nextLastLeft = none) :
    step st w il = Outcome.bind (underGroupOf st) fun ug =>
      .ok { st with
        checkForList := (if w.type == .whitespace &&
            (n.definition.isValueLike || (n.definition.isGroupLike && st.lastLeft != ug)) then true
          else st.checkForList),
        previousSecondDef := (getDefinition w.type).2, lastToken := w } := by
  cases hu : underGroupOf st with
  | ok ug =>
    rw [step_trivia_node w il hw hu (adjust_noop st ug (Or.inr ⟨i, n, hl, hn, Or.inl hs⟩)) hnl hl hn]
    simp only [Outcome.bind, listAfter, hl]
    cases w.type == TokenType.whitespace <;>
      cases (n.definition.isValueLike || (n.definition.isGroupLike && some i != ug)) <;> simp
  | _ => unfold step; rw [hu]; rfl

theorem step_trivia (st : PState) (w : PToken) (il : Bool) (hw : isTriviaTok w = true) (ht : TrivOK st)
    (hnl : st.nextLastLeft = none) :
    step st w il = Outcome.bind (underGroupOf st) fun _ =>
      .ok { st with previousSecondDef := (getDefinition w.type).2, lastToken := w } := by
  obtain ⟨i, n, hl, hn, hv, hg⟩ := ht
  rw [step_trivia_gen st w il hw hl hn (not_sideEffect_of_not_groupLike hg) hnl]
  simp [hv, hg]

theorem step_atom_indep (st : PState) (s : SecDef) (w a : PToken) (il : Bool) (ha : isAtomTok a = true)
    (ht : TrivOK st) (hc : st.checkForList = false)
    (hcomp : checkComposition s (getDefinition a.type).2 false =
      checkComposition st.previousSecondDef (getDefinition a.type).2 false) :
    step { st with previousSecondDef := s, lastToken := w } a il = step st a il := by
  unfold isAtomTok at ha
  simp only [Bool.and_eq_true, Bool.or_eq_true, beq_iff_eq] at ha
  rcases underGroupOf_cases st with ⟨ug, hu⟩ | hu
  · rw [step_atom_eq st a il ha.1 hc hu (adjustLastLeft_trivOK ht ug),
      step_atom_eq { st with previousSecondDef := s, lastToken := w } a il ha.1 hc hu
        (adjustLastLeft_trivOK (st := { st with previousSecondDef := s, lastToken := w }) ht ug), ← hcomp]
    congr 1
    exact Outcome.bind_congr fun r _ => congrArg Outcome.ok (stepEnd_lastToken
      { st with nodes := r.1, checkForList := false, previousSecondDef := (getDefinition a.type).2 } w r.2 _ a _)
  · rw [step_underGroup_err hu, step_underGroup_err (st := { st with previousSecondDef := s, lastToken := w }) hu]

theorem adjustLastLeft_keeps {st st' : PState} {ug : Option Nat} (h : adjustLastLeft st ug = .ok st') :
    st'.nextLastLeft = st.nextLastLeft ∧ st'.nodes = st.nodes ∧ st'.checkForList = st.checkForList := by
  unfold adjustLastLeft at h
  split at h
  · injection h with h; subst h; exact ⟨rfl, rfl, rfl⟩
  · split at h
    · cases h
    · split at h
      · dsimp only at h
        split at h <;> (injection h with h; subst h; exact ⟨rfl, rfl, rfl⟩)
      · injection h with h; subst h; exact ⟨rfl, rfl, rfl⟩

def isBin3Tok (t : PToken) : Bool :=
  (getDefinition t.type).2 == .binaryLeftToRight || (getDefinition t.type).2 == .binaryRightToLeft ||
    (getDefinition t.type).2 == .optionalBinaryLeftToRight

theorem bin3_def_facts (tt : TokenType)
    (h : ((getDefinition tt).2 == SecDef.binaryLeftToRight || (getDefinition tt).2 == SecDef.binaryRightToLeft ||
      (getDefinition tt).2 == SecDef.optionalBinaryLeftToRight) = true) :
    ((getDefinition tt).1 != Definition.drop) = true ∧ (getDefinition tt).1 ≠ Definition.identifier ∧
      (getDefinition tt).1.isValueLike = false ∧ (getDefinition tt).1.isGroupLike = false := by
  revert tt; exact TokenType.forall_of_all (by decide +kernel)

theorem bin3_of_binop {t : PToken} (h : isBinopTok t = true) : isBin3Tok t = true := by
  unfold isBinopTok at h; unfold isBin3Tok; simp [h]

theorem step_bin3_state (st st1 : PState) (o : PToken) (il : Bool) (ho : isBin3Tok o = true)
    (hnl : st.nextLastLeft = none) (h : step st o il = .ok st1) :
    ∃ ug sta nodes' info, underGroupOf st = .ok ug ∧ adjustLastLeft st ug = .ok sta ∧
      parseToken st.nodes.size (getDefinition o.type).1 sta.lastLeft (if il then none else some (st.nodes.size + 1))
        st.nodes ug ((getDefinition o.type).2 == .binaryRightToLeft) = .ok (nodes', info) ∧
      st1.nodes = nodes'.push ⟨(getDefinition o.type).1, (getDefinition o.type).2, info.parent, info.left, info.right, o⟩ ∧
      st1.lastLeft = some st.nodes.size ∧ st1.checkForList = false ∧ st1.nextLastLeft = none ∧
      st1.groupStack = sta.groupStack ∧ st1.currentGroup = sta.currentGroup ∧
      st1.previousSecondDef = (getDefinition o.type).2 ∧ st1.nextParent = some st.nodes.size := by
  obtain ⟨ug, sta, hug, hadj⟩ := step_ok_pre h
  obtain ⟨k1, k2, _⟩ := adjustLastLeft_keeps hadj
  have hop : isOpSec (getDefinition o.type).2 = true := by
    unfold isBin3Tok at ho; unfold isOpSec; rw [ho]; rfl
  obtain ⟨f1, f2, _, _⟩ := bin3_def_facts o.type ho
  have hns : ((getDefinition o.type).2 == SecDef.unarySuffix) = false := by
    unfold isBin3Tok at ho
    simp only [Bool.or_eq_true, beq_iff_eq] at ho
    rcases ho with (ho | ho) | ho <;> rw [ho] <;> rfl
  rw [step_op_eq st o il hop hug hadj, hns] at h
  split at h
  · obtain ⟨⟨nodes', info⟩, hpt, h⟩ := Outcome.bind_eq_ok.1 h
    obtain ⟨hsz, hdef⟩ := parseToken_size_def hpt
    rw [stepEnd_push _ _ _ _ _ (by rw [hdef]; exact f1) (by rw [← hnl, ← k1])] at h
    cases h
    refine ⟨ug, sta, nodes', info, hug, hadj, by simpa [k2] using hpt, ?_, rfl, rfl, by rw [← hnl, ← k1], rfl, rfl, rfl,
      rfl⟩
    simp only [hdef, renameDef_of_ne f2]
  · cases h

theorem step_binop_post (st st1 : PState) (o : PToken) (il : Bool) (ho : isBinopTok o = true)
    (hnl : st.nextLastLeft = none) (h : step st o il = .ok st1) :
    st1.checkForList = false ∧ st1.nextLastLeft = none ∧ TrivOK st1 ∧ st1.previousSecondDef = (getDefinition o.type).2 := by
  obtain ⟨ug, sta, nodes', info, _, _, hpt, hn, hl, hc, hnn, _, _, hp, _⟩ :=
    step_bin3_state st st1 o il (bin3_of_binop ho) hnl h
  unfold isBinopTok at ho
  obtain ⟨_, _, f3, f4⟩ := bin3_def_facts o.type (by rw [ho]; rfl)
  refine ⟨hc, hnn, ⟨st.nodes.size,
    ⟨(getDefinition o.type).1, (getDefinition o.type).2, info.parent, info.left, info.right, o⟩, hl, ?_, f3, f4⟩, hp⟩
  rw [hn, Array.getElem?_push, if_pos (parseToken_size_def hpt).1.symm]

theorem step_nextLastLeft (st st' : PState) (t : PToken) (il : Bool) (h : step st t il = .ok st') :
    st'.nextLastLeft = none := by
  obtain ⟨ug, sta, hug, hadj⟩ := step_ok_pre h
  rw [step_eq st t il hug hadj] at h
  split at h
  · obtain ⟨r, _, h⟩ := Outcome.bind_eq_ok.1 h
    cases h
    exact stepEnd_nextLastLeft ..
  · cases h

/-- `c` is a parent chain of `nodes` that ends below `p` (`none`: at the top; `some g`: below the open bracket node `g`), and
    every node on it has a priority -/
def Chain (nodes : Array ParseNode) (p : Option Nat) : List Nat → Prop
  | [] => True
  | x :: rest =>
    (∃ n q, nodes[x]? = some n ∧ priority n.definition = some q ∧ n.parent = (rest.head?).or p) ∧ p ≠ some x ∧
      Chain nodes p rest

def prioAt (nodes : Array ParseNode) (x : Nat) : Nat :=
  match nodes[x]? with
  | some n => (priority n.definition).getD 0
  | none => 0

/-- what the walk computes on a chain: `(true_left, parent)` — it stops below the first node that binds looser
    (or equally loose when the new operator is right-to-left), everything below becomes the left operand -/
def walkSpec (nodes : Array ParseNode) (q : Nat) (rtl : Bool) : Option Nat → List Nat → Option Nat × Option Nat
  | tl, [] => (tl, none)
  | tl, x :: rest =>
    if decide (q < prioAt nodes x) || (q == prioAt nodes x && rtl) then (tl, some x) else walkSpec nodes q rtl (some x) rest

/-- inside the open bracket `g` the walk stops at `g`, where `walkSpec` finds no node -/
theorem walkLoop_chain (nodes : Array ParseNode) (q : Nat) (rtl : Bool) (p : Option Nat)
    (hp : ∀ g, p = some g → ∃ G pg, nodes[g]? = some G ∧ G.definition.isGroupLike = true ∧ priority G.definition = some pg) :
    ∀ (c : List Nat) (fuel count : Nat) (tl : Option Nat), Chain nodes p c → count + c.length ≤ nodes.size →
      c.length + 1 ≤ fuel →
      walkLoop nodes q p rtl fuel count tl ((c.head?).or p) =
        .ok ((walkSpec nodes q rtl tl c).1, (walkSpec nodes q rtl tl c).2.or p) := by
  intro c
  induction c with
  | nil =>
    intro fuel count tl _ _ hfuel
    cases p with
    | none => unfold walkLoop; rfl
    | some g =>
      obtain ⟨G, pg, hG, hgl, hpg⟩ := hp g rfl
      cases fuel with
      | zero => simp at hfuel
      | succ fuel => unfold walkLoop; simp [hG, hpg, hgl, walkSpec]
  | cons x rest ih =>
    intro fuel count tl hc hcount hfuel
    obtain ⟨⟨n, pn, hn, hpn, hpar⟩, hxp, hrest⟩ := hc
    cases fuel with
    | zero => simp at hfuel
    | succ fuel =>
      simp only [List.length_cons] at hcount hfuel
      have hne : ∀ g, p = some g → (g == x) = false := fun g e => by
        rw [beq_eq_false_iff_ne]; exact fun e' => hxp (by rw [e, e'])
      unfold walkLoop
      cases p with
      | none =>
        simp only [List.head?_cons, Option.some_or, hn, hpn, walkSpec, prioAt, Option.getD_some, Bool.and_false,
          Bool.or_false]
        split
        · rfl
        · have hle : ¬ (count + 1 > nodes.size) := by omega
          simp only [hle, if_false, hpar]
          exact ih fuel (count + 1) (some x) hrest (by omega) (by omega)
      | some g =>
        simp only [List.head?_cons, Option.some_or, hn, hpn, walkSpec, prioAt, Option.getD_some, hne g rfl, Bool.and_false,
          Bool.or_false]
        split
        · rfl
        · have hle : ¬ (count + 1 > nodes.size) := by omega
          simp only [hle, if_false, hpar]
          exact ih fuel (count + 1) (some x) hrest (by omega) (by omega)

end Garnish.Model.Parser
