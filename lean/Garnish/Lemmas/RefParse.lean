/-
Facts about the core operations of the reference parser (Garnish/Spec/RefParse.lean): operator insertion (`absorb` / `attach`)
and operand placement (`plug`) keep the in-order token sequence (`inorderToks`; for `inorderSig`, the walk the rest of the
development uses, see Lemmas/RefParseInorder) and the precedence condition `PrecOK`.
One step of the pass is put in normal form first: the table turns the token into one of eight `Act`s, which is then carried out
on the open brackets (`refStep_eq`); the facts about `refStep`, here and in Lemmas/RefParseInorder, RefParseShift, RefSim and
RefRun, go by the eight acts.  The act of a token is read off its class in both directions (`act_sec`, `operand_act` and its
siblings), so a single-step lemma about a class of tokens is `refStep_eq`, the act, and `Act.run`.
`Built`: the trees the pass can have under construction, as an inductive predicate (`refParse_built`); a property of the result
that is kept by `attach` and `plug` is an induction over it (`refParse_precOK`; `refParse_nodes` in Lemmas/RefParseNodes).
-/
import Garnish.Spec.RefParse
import Garnish.Lemmas.Outcome

namespace Garnish.Spec
open Garnish Garnish.Gen Garnish.Model.Parser

/-- what a token does, as far as the table alone decides it: the syntactic classes of `refStep` with the classes that are
treated alike put together (`operand`: values, identifiers and prefix operators, `last` tells them apart; `operator`:
binary and suffix operators with their priority `q`) -/
inductive Act where
  | fail (e : ErrClass)
  | skip
  | space
  | operand (d : Definition) (last : Last)
  | opener (d : Definition)
  | closer
  | operator (d : Definition) (q : Nat) (rtl optional : Bool) (last : Last)
  | separator (d : Definition)

def Table.operatorAct (tbl : Table) (d : Definition) (rtl optional : Bool) (last : Last) : Act :=
  match tbl.prio d with
  | none => .fail .implementation
  | some q => .operator d q rtl optional last

def Table.act (tbl : Table) (tt : TokenType) : Act :=
  let d := (tbl.define tt).1
  match (tbl.define tt).2 with
  | .none => .fail .implementation
  | .annotation => .skip
  | .whitespace => .space
  | .value | .identifier => if d == .drop || d == .expressionTerminator then .fail .unsupported else .operand d .operand
  | .unaryPrefix => .operand d .op
  | .startGrouping => .opener d
  | .endGrouping => .closer
  | .startSideEffect | .endSideEffect => .fail .unsupported
  | .binaryLeftToRight => tbl.operatorAct d false false .op
  | .binaryRightToLeft => tbl.operatorAct d true false .op
  | .unarySuffix => tbl.operatorAct d false false .suffix
  | .optionalBinaryLeftToRight => tbl.operatorAct d false true .optOp
  | .subexpression => .separator d

/-- carrying out an `Act` on the open brackets -/
def Act.run (tbl : Table) (f : Frame) (stack : List Frame) (pos : Nat) (t : PToken) (rest : List PToken) :
    Act → Outcome (Frame × List Frame)
  | .fail e => .err e
  | .skip => .ok (f, stack)
  | .space => .ok ({ f with ws := true }, stack)
  | .operand d last =>
    Outcome.bind (beforeOperand tbl f pos) fun f =>
      .ok ({ f with cur := plug f.cur (.node .nil d pos .nil), last := last, ws := false, prevSep := false }, stack)
  | .opener d =>
    Outcome.bind (beforeOperand tbl f pos) fun f =>
      .ok ({ ctx := some (d, pos), cur := .nil, last := .start, ws := false, prevSep := d == .nestedExpression },
           { f with ws := false } :: stack)
  | .closer =>
    match f.ctx, stack with
    | some (gd, gpos), parent :: stack =>
      if closerFor gd != some t.type then .err .syntax
      else if f.last == .op || f.last == .sep then .err .syntax
      else .ok ({ parent with cur := plug parent.cur (.group gd gpos f.cur), last := .operand, ws := false,
                              prevSep := false }, stack)
    | _, _ => .err .syntax
  | .operator d q rtl optional last =>
    if !(f.last == .operand || f.last == .suffix || (optional && (f.last == .start || f.last == .sep))) then .err .syntax
    else .ok ({ f with cur := attach tbl q rtl d pos f.cur, last := last, ws := false, prevSep := false }, stack)
  | .separator d =>
    if f.inGroup then .ok ({ f with ws := true }, stack)
    else if f.prevSep || (t.type == .subexpression && closerFollows rest) then .ok ({ f with prevSep := true }, stack)
    else if f.last == .op then .err .syntax
    else
      match tbl.prio d with
      | none => .err .implementation
      | some q => .ok ({ f with cur := attach tbl q false d pos f.cur, last := .sep, ws := false, prevSep := true }, stack)

theorem refStep_eq (tbl : Table) (f : Frame) (stack : List Frame) (pos : Nat) (t : PToken) (rest : List PToken) :
    refStep tbl f stack pos t rest = (tbl.act t.type).run tbl f stack pos t rest := by
  unfold refStep Table.act
  generalize tbl.define t.type = ds
  obtain ⟨d, s⟩ := ds
  cases s <;> simp only [Act.run, Table.operatorAct]
  case value => split <;> rfl
  case identifier => split <;> rfl
  all_goals cases tbl.prio d <;> rfl

theorem Frame.inGroup_eq (f : Frame) : f.inGroup = (f.ctx.map (·.1) == some Definition.group) := by
  unfold Frame.inGroup
  split
  · rename_i k h; rw [h]; rfl
  · rename_i hng
    cases hc : f.ctx with
    | none => rfl
    | some c =>
      have : c.1 ≠ Definition.group := fun e => hng c.2 (by rw [hc, ← e])
      simp [this]

theorem absorb_inorder (tbl : Table) (q : Nat) (rtl : Bool) (d : Definition) (k : Nat) :
    ∀ (t t' : RTree), absorb tbl q rtl d k t = some t' → t'.inorderToks = t.inorderToks ++ [k] := by
  intro t
  induction t with
  | nil => intro t' h; simp [absorb] at h
  | group gd gk inner _ => intro t' h; simp [absorb] at h
  | node l a ka r _ ihr =>
    intro t' h
    simp only [absorb] at h
    cases hr : absorb tbl q rtl d k r with
    | some r' =>
      simp only [hr, Option.some.injEq] at h
      subst h
      simp [RTree.inorderToks, ihr r' hr]
    | none =>
      simp only [hr] at h
      cases hp : tbl.prio a with
      | none => simp [hp] at h
      | some pa =>
        simp only [hp] at h
        split at h
        · simp only [Option.some.injEq] at h
          subst h
          simp [RTree.inorderToks]
        · simp at h

theorem attach_inorder (tbl : Table) (q : Nat) (rtl : Bool) (d : Definition) (k : Nat) (t : RTree) :
    (attach tbl q rtl d k t).inorderToks = t.inorderToks ++ [k] := by
  unfold attach
  cases h : absorb tbl q rtl d k t with
  | some t' => exact absorb_inorder tbl q rtl d k t t' h
  | none => simp [RTree.inorderToks]

/-- the right spine of `t` ends in an open operand position -/
def openSpine : RTree → Bool
  | .nil => true
  | .group _ _ _ => false
  | .node _ _ _ r => if r.isNil then true else openSpine r

theorem asProperty_inorder (x : RTree) : (asProperty x).inorderToks = x.inorderToks := by
  unfold asProperty
  split <;> simp [RTree.inorderToks]

theorem plug_inorder : ∀ (t x : RTree), openSpine t = true → (plug t x).inorderToks = t.inorderToks ++ x.inorderToks := by
  intro t
  induction t with
  | nil => intro x _; simp [plug, RTree.inorderToks]
  | group gd gk inner _ => intro x h; simp [openSpine] at h
  | node l a ka r _ ihr =>
    intro x h
    simp only [plug]
    cases hr : r.isNil with
    | true =>
      have : r = .nil := by cases r <;> simp_all [RTree.isNil]
      subst this
      simp only [if_true, RTree.inorderToks]
      split <;> simp [asProperty_inorder]
    | false =>
      simp only [openSpine, hr] at h
      simp only [Bool.false_eq_true, if_false, RTree.inorderToks, ihr x h]
      simp

/-- `absorb` keeps the root and its left subtree: it only rewrites the right spine below the root -/
theorem absorb_node_shape (tbl : Table) (q : Nat) (rtl : Bool) (d : Definition) (k : Nat) (l : RTree) (a : Definition)
    (ka : Nat) (r t' : RTree) (h : absorb tbl q rtl d k (.node l a ka r) = some t') : ∃ r', t' = .node l a ka r' := by
  simp only [absorb] at h
  cases hr : absorb tbl q rtl d k r with
  | some r' => simp only [hr, Option.some.injEq] at h; exact ⟨r', h.symm⟩
  | none =>
    simp only [hr] at h
    cases hp : tbl.prio a with
    | none => simp [hp] at h
    | some pa =>
      simp only [hp] at h
      split at h
      · simp only [Option.some.injEq] at h; exact ⟨_, h.symm⟩
      · simp at h

/-- if the walk passes the whole tree, no node of its right spine stops the operator -/
theorem absorb_none_spine (tbl : Table) (q : Nat) (rtl : Bool) (d : Definition) (k : Nat) :
    ∀ t : RTree, absorb tbl q rtl d k t = none → ∀ pa ∈ spinePrios tbl t, stops q rtl pa = false := by
  intro t
  induction t with
  | nil => intro _ pa hpa; simp [spinePrios] at hpa
  | group gd gk inner _ => intro _ pa hpa; simp [spinePrios] at hpa
  | node l a ka r _ ihr =>
    intro h pa hpa
    simp only [absorb] at h
    cases hr : absorb tbl q rtl d k r with
    | some r' => simp [hr] at h
    | none =>
      simp only [hr] at h
      simp only [spinePrios, List.mem_append] at hpa
      rcases hpa with hpa | hpa
      · cases hp : tbl.prio a with
        | none => simp [hp] at hpa
        | some pa' =>
          simp only [hp, Option.toList, List.mem_singleton] at hpa
          subst hpa
          simp only [hp] at h
          split at h
          · simp at h
          · rename_i hs; simpa using hs
      · exact ihr hr pa hpa

theorem absorb_precOK (tbl : Table) (rtlf : Definition → Bool) (q : Nat) (d : Definition) (k : Nat)
    (hq : tbl.prio d = some q) :
    ∀ (t t' : RTree), PrecOK tbl rtlf t → absorb tbl q (rtlf d) d k t = some t' → PrecOK tbl rtlf t' := by
  intro t
  induction t with
  | nil => intro t' _ h; simp [absorb] at h
  | group gd gk inner _ => intro t' _ h; simp [absorb] at h
  | node l a ka r _ ihr =>
    intro t' hok h
    cases hok with
    | node _ _ _ _ hl hr hL hR =>
      simp only [absorb] at h
      cases hab : absorb tbl q (rtlf d) d k r with
      | some r' =>
        simp only [hab, Option.some.injEq] at h
        subst h
        refine PrecOK.node l a ka r' hl (ihr r' hr hab) hL ?_
        intro lc dc kc rc pc pn hr' hlc hpc hpn
        cases r with
        | nil => simp [absorb] at hab
        | group gd gk inner => simp [absorb] at hab
        | node lr ar kr rr =>
          obtain ⟨rr', hshape⟩ := absorb_node_shape tbl q (rtlf d) d k lr ar kr rr r' hab
          rw [hshape] at hr'
          injection hr' with h1 h2 h3 h4
          subst h1; subst h2
          exact hR lr ar kr rr pc pn rfl hlc hpc hpn
      | none =>
        simp only [hab] at h
        cases hp : tbl.prio a with
        | none => simp [hp] at h
        | some pa =>
          simp only [hp] at h
          split at h
          · rename_i hs
            simp only [Option.some.injEq] at h
            subst h
            have hN : PrecOK tbl rtlf (.node r d k .nil) := by
              refine PrecOK.node r d k .nil hr PrecOK.nil ?_ ?_
              · intro pn hpn pa' hpa'
                rw [hq] at hpn
                injection hpn with hpn
                subst hpn
                exact absorb_none_spine tbl q (rtlf d) d k r hab pa' hpa'
              · intro lc dc kc rc pc pn hc; cases hc
            refine PrecOK.node l a ka _ hl hN hL ?_
            intro lc dc kc rc pc pn hc hlc hpc hpn
            injection hc with h1 h2 h3 h4
            subst h1; subst h2
            rw [hq] at hpc; injection hpc with hpc; subst hpc
            rw [hp] at hpn; injection hpn with hpn; subst hpn
            exact hs
          · simp at h

theorem attach_precOK (tbl : Table) (rtlf : Definition → Bool) (q : Nat) (d : Definition) (k : Nat)
    (hq : tbl.prio d = some q) (t : RTree) (hok : PrecOK tbl rtlf t) :
    PrecOK tbl rtlf (attach tbl q (rtlf d) d k t) := by
  unfold attach
  cases h : absorb tbl q (rtlf d) d k t with
  | some t' => exact absorb_precOK tbl rtlf q d k hq t t' hok h
  | none =>
    refine PrecOK.node t d k .nil hok PrecOK.nil ?_ ?_
    · intro pn hpn pa hpa
      rw [hq] at hpn; injection hpn with hpn; subst hpn
      exact absorb_none_spine tbl q (rtlf d) d k t h pa hpa
    · intro lc dc kc rc pc pn hc; cases hc

/-- `x` is an operand: a value, a closed bracket, or a prefix operator (no left child) -/
def OperandLike (x : RTree) : Prop := ∀ lc dc kc rc, x = .node lc dc kc rc → lc.isNil = true

theorem asProperty_operandLike (x : RTree) (h : OperandLike x) : OperandLike (asProperty x) := by
  unfold asProperty
  split
  · intro lc dc kc rc hc; injection hc with h1; subst h1; rfl
  · exact h

theorem asProperty_precOK (tbl : Table) (rtlf : Definition → Bool) (x : RTree) (h : PrecOK tbl rtlf x) :
    PrecOK tbl rtlf (asProperty x) := by
  unfold asProperty
  split
  · refine PrecOK.node .nil _ _ .nil PrecOK.nil PrecOK.nil ?_ ?_
    · intro pn _ pa hpa; simp [spinePrios] at hpa
    · intro lc dc kc rc pc pn hc; cases hc
  · exact h

theorem plug_precOK (tbl : Table) (rtlf : Definition → Bool) :
    ∀ (t x : RTree), PrecOK tbl rtlf t → PrecOK tbl rtlf x → OperandLike x → PrecOK tbl rtlf (plug t x) := by
  intro t
  induction t with
  | nil => intro x _ hx _; simpa [plug] using hx
  | group gd gk inner _ => intro x ht _ _; simpa [plug] using ht
  | node l a ka r _ ihr =>
    intro x ht hx hop
    cases ht with
    | node _ _ _ _ hl hr hL hR =>
      simp only [plug]
      cases hrn : r.isNil with
      | true =>
        simp only [if_true]
        have hx' : PrecOK tbl rtlf (if a == .access then asProperty x else x) := by
          split
          · exact asProperty_precOK tbl rtlf x hx
          · exact hx
        have hop' : OperandLike (if a == .access then asProperty x else x) := by
          split
          · exact asProperty_operandLike x hop
          · exact hop
        refine PrecOK.node l a ka _ hl hx' hL ?_
        intro lc dc kc rc pc pn hc hlc _ _
        have := hop' lc dc kc rc hc
        rw [this] at hlc
        cases hlc
      | false =>
        simp only [Bool.false_eq_true, if_false]
        refine PrecOK.node l a ka _ hl (ihr x hr hx hop) hL ?_
        intro lc dc kc rc pc pn hc hlc hpc hpn
        cases r with
        | nil => simp [RTree.isNil] at hrn
        | group gd gk inner => simp [plug] at hc
        | node lr ar kr rr =>
          simp only [plug] at hc
          split at hc <;>
          · injection hc with h1 h2 h3 h4
            subst h1; subst h2
            exact hR lr ar kr rr pc pn rfl hlc hpc hpn

/-- the table's right-to-left flag agrees with the syntactic class of every token type, `List` is left-to-right -/
structure RtlAgrees (tbl : Table) (rtlf : Definition → Bool) : Prop where
  tokens : ∀ tt, rtlf (tbl.define tt).1 = ((tbl.define tt).2 == .binaryRightToLeft)
  list : rtlf .list = false

theorem leaf_precOK (tbl : Table) (rtlf : Definition → Bool) (d : Definition) (k : Nat) :
    PrecOK tbl rtlf (.node .nil d k .nil) := by
  refine PrecOK.node .nil d k .nil PrecOK.nil PrecOK.nil ?_ ?_
  · intro pn _ pa hpa; simp [spinePrios] at hpa
  · intro lc dc kc rc pc pn hc; cases hc

theorem leaf_operandLike (d : Definition) (k : Nat) : OperandLike (.node .nil d k .nil) := by
  intro lc dc kc rc hc; injection hc with h1; subst h1; rfl

theorem group_operandLike (d : Definition) (k : Nat) (inner : RTree) : OperandLike (.group d k inner) := by
  intro lc dc kc rc hc; cases hc

/-- what a successful step does, by the act of its token: the invariants of a run look at these nine cases only -/
inductive StepOk (tbl : Table) (f : Frame) (stack : List Frame) (pos : Nat) (t : PToken) : Act → Frame × List Frame → Prop
  | skip : StepOk tbl f stack pos t .skip (f, stack)
  | space : StepOk tbl f stack pos t .space ({ f with ws := true }, stack)
  | operand (d : Definition) (l : Last) (g : Frame) : beforeOperand tbl f pos = .ok g →
      StepOk tbl f stack pos t (.operand d l)
        ({ g with cur := plug g.cur (.node .nil d pos .nil), last := l, ws := false, prevSep := false }, stack)
  | opener (d : Definition) (g : Frame) : beforeOperand tbl f pos = .ok g →
      StepOk tbl f stack pos t (.opener d)
        ({ ctx := some (d, pos), cur := .nil, last := .start, ws := false, prevSep := d == .nestedExpression },
          { g with ws := false } :: stack)
  | closer (gd : Definition) (gpos : Nat) (parent : Frame) (below : List Frame) : f.ctx = some (gd, gpos) →
      stack = parent :: below → closerFor gd = some t.type → (f.last == .op || f.last == .sep) = false →
      StepOk tbl f stack pos t .closer
        ({ parent with cur := plug parent.cur (.group gd gpos f.cur), last := .operand, ws := false, prevSep := false }, below)
  | operator (d : Definition) (q : Nat) (rtl optional : Bool) (l : Last) :
      (f.last == .operand || f.last == .suffix || (optional && (f.last == .start || f.last == .sep))) = true →
      StepOk tbl f stack pos t (.operator d q rtl optional l)
        ({ f with cur := attach tbl q rtl d pos f.cur, last := l, ws := false, prevSep := false }, stack)
  | sepGroup (d : Definition) : f.inGroup = true → StepOk tbl f stack pos t (.separator d) ({ f with ws := true }, stack)
  | sepDrop (d : Definition) : f.inGroup = false → StepOk tbl f stack pos t (.separator d) ({ f with prevSep := true }, stack)
  | sepKeep (d : Definition) (q : Nat) : f.inGroup = false → f.prevSep = false → (f.last == .op) = false →
      tbl.prio d = some q →
      StepOk tbl f stack pos t (.separator d)
        ({ f with cur := attach tbl q false d pos f.cur, last := .sep, ws := false, prevSep := true }, stack)

theorem stepOk_of_refStep {tbl : Table} {f : Frame} {stack : List Frame} {pos : Nat} {t : PToken} {rest : List PToken}
    {r : Frame × List Frame} (h : refStep tbl f stack pos t rest = .ok r) : StepOk tbl f stack pos t (tbl.act t.type) r := by
  rw [refStep_eq] at h
  generalize tbl.act t.type = a at h
  cases a <;> simp only [Act.run] at h
  case fail => cases h
  case skip => cases h; exact .skip
  case space => cases h; exact .space
  case operand d l => obtain ⟨g, hb, h⟩ := Outcome.bind_eq_ok.1 h; cases h; exact .operand d l g hb
  case opener d => obtain ⟨g, hb, h⟩ := Outcome.bind_eq_ok.1 h; cases h; exact .opener d g hb
  case closer =>
    split at h
    · rename_i gd gpos parent below hctx
      split at h
      · cases h
      · rename_i h1
        split at h
        · cases h
        · rename_i h2
          cases h
          exact .closer gd gpos parent below hctx rfl (by simpa using h1) (by simpa using h2)
    · cases h
  case operator d q rtl optional l =>
    split at h
    · cases h
    · rename_i hc
      cases h
      refine .operator d q rtl optional l ?_
      revert hc
      generalize (f.last == Last.operand || f.last == Last.suffix || (optional && (f.last == Last.start || f.last == Last.sep))) = x
      cases x <;> simp
  case separator d =>
    split at h
    · rename_i hg; cases h; exact .sepGroup d hg
    · rename_i hg
      split at h
      · cases h; exact .sepDrop d (by simpa using hg)
      · rename_i hp
        split at h
        · cases h
        · rename_i hl
          cases hq : tbl.prio d with
          | none => rw [hq] at h; cases h
          | some q =>
            rw [hq] at h; cases h
            simp only [Bool.or_eq_true, not_or] at hp
            exact .sepKeep d q (by simpa using hg) (by simpa using hp.1) (by simpa using hl) hq

/-- the table entry behind an act: its definition, the syntactic classes it can have, and what the act records of it -/
def ActSec (tbl : Table) (ds : Definition × SecDef) : Act → Prop
  | .fail _ => True
  | .skip => ds.2 = .annotation
  | .space => ds.2 = .whitespace
  | .operand d l => d = ds.1 ∧ ((ds.2 = .value ∨ ds.2 = .identifier) ∧ l = .operand ∨ ds.2 = .unaryPrefix ∧ l = .op)
  | .opener d => d = ds.1 ∧ ds.2 = .startGrouping
  | .closer => ds.2 = .endGrouping
  | .operator d q rtl optional l => d = ds.1 ∧ tbl.prio ds.1 = some q ∧ rtl = (ds.2 == .binaryRightToLeft) ∧
      optional = (ds.2 == .optionalBinaryLeftToRight) ∧ l ≠ .operand ∧
      (ds.2 = .binaryLeftToRight ∨ ds.2 = .binaryRightToLeft ∨ ds.2 = .unarySuffix ∨ ds.2 = .optionalBinaryLeftToRight)
  | .separator d => d = ds.1 ∧ ds.2 = .subexpression

theorem act_sec (tbl : Table) (tt : TokenType) : ActSec tbl (tbl.define tt) (tbl.act tt) := by
  unfold Table.act
  generalize tbl.define tt = ds
  obtain ⟨d, s⟩ := ds
  cases s <;> simp only [Table.operatorAct] <;> (try split) <;> simp_all [ActSec]

/-! ### the act of a token from its table entry

The converse of `act_sec`: the syntactic class of the table entry decides the act.  The single-step lemmas of the simulation
(Lemmas/ParserBRef, ParserBSep, ParserBList, ParserBOpt) and of the layout rewrites (Lemmas/RefTrivia, RefWrap2, RefWrap3) are
`refStep_eq`, one of these, and `Act.run`.  A closer is named by its token type wherever it occurs, so its act is `rfl`. -/

theorem skip_act (tbl : Table) {tt : TokenType} (hs : (tbl.define tt).2 = .annotation) : tbl.act tt = .skip := by
  unfold Table.act; rw [hs]

theorem space_act (tbl : Table) {tt : TokenType} (hs : (tbl.define tt).2 = .whitespace) : tbl.act tt = .space := by
  unfold Table.act; rw [hs]

/-- a value or identifier (that is no `Drop` / terminator) is a complete operand; a prefix operator is an operand that asks
    for another -/
theorem operand_act (tbl : Table) {tt : TokenType} {l : Last}
    (h : ((tbl.define tt).2 = .value ∨ (tbl.define tt).2 = .identifier) ∧ l = .operand ∧
        ((tbl.define tt).1 == .drop || (tbl.define tt).1 == .expressionTerminator) = false ∨
      (tbl.define tt).2 = .unaryPrefix ∧ l = .op) :
    tbl.act tt = .operand (tbl.define tt).1 l := by
  unfold Table.act
  rcases h with ⟨hs, rfl, hn⟩ | ⟨hs, rfl⟩
  · rcases hs with hs | hs <;> rw [hs] <;> simp only [hn, Bool.false_eq_true, if_false]
  · rw [hs]

theorem opener_act (tbl : Table) {tt : TokenType} (hs : (tbl.define tt).2 = .startGrouping) :
    tbl.act tt = .opener (tbl.define tt).1 := by
  unfold Table.act; rw [hs]

/-- what the reference parser remembers after a binary operator: `optOp` for `,` and infix identifiers -/
def lastAfter (s : SecDef) : Last := if s == .optionalBinaryLeftToRight then .optOp else .op

theorem operator_act (tbl : Table) {tt : TokenType} {q : Nat}
    (hs : (tbl.define tt).2 = .binaryLeftToRight ∨ (tbl.define tt).2 = .binaryRightToLeft ∨
      (tbl.define tt).2 = .optionalBinaryLeftToRight)
    (hq : tbl.prio (tbl.define tt).1 = some q) :
    tbl.act tt = .operator (tbl.define tt).1 q ((tbl.define tt).2 == .binaryRightToLeft)
      ((tbl.define tt).2 == .optionalBinaryLeftToRight) (lastAfter (tbl.define tt).2) := by
  unfold Table.act
  rcases hs with hs | hs | hs <;> rw [hs] <;> simp only [Table.operatorAct, hq] <;> rfl

theorem suffix_act (tbl : Table) {tt : TokenType} {q : Nat} (hs : (tbl.define tt).2 = .unarySuffix)
    (hq : tbl.prio (tbl.define tt).1 = some q) : tbl.act tt = .operator (tbl.define tt).1 q false false .suffix := by
  unfold Table.act; rw [hs]; simp only [Table.operatorAct, hq]

theorem Act.run_operator (tbl : Table) {f : Frame} (hl : f.last = .operand ∨ f.last = .suffix) (d : Definition) (q : Nat)
    (rtl optional : Bool) (l : Last) (stack : List Frame) (pos : Nat) (t : PToken) (rest : List PToken) :
    (Act.operator d q rtl optional l).run tbl f stack pos t rest =
      .ok ({ f with cur := attach tbl q rtl d pos f.cur, last := l, ws := false, prevSep := false }, stack) := by
  have : (f.last == .operand || f.last == .suffix || (optional && (f.last == .start || f.last == .sep))) = true := by
    rcases hl with h | h <;> rw [h] <;> simp
  simp only [Act.run, this, Bool.not_true, Bool.false_eq_true, if_false]

theorem Act.run_closer (tbl : Table) {f : Frame} {gd : Definition} {gpos : Nat} {t : PToken} (hctx : f.ctx = some (gd, gpos))
    (hc : (closerFor gd != some t.type) = false) (hl : (f.last == .op || f.last == .sep) = false) (parent : Frame)
    (stack : List Frame) (pos : Nat) (rest : List PToken) :
    Act.closer.run tbl f (parent :: stack) pos t rest =
      .ok ({ parent with cur := plug parent.cur (.group gd gpos f.cur), last := .operand, ws := false, prevSep := false },
        stack) := by
  simp only [Act.run, hctx, hc, hl, Bool.false_eq_true, if_false]

theorem separator_act (tbl : Table) {tt : TokenType} (hs : (tbl.define tt).2 = .subexpression) :
    tbl.act tt = .separator (tbl.define tt).1 := by
  unfold Table.act; rw [hs]

/-- after a complete operand and whitespace the juxtaposition operator `List` is inserted -/
theorem beforeOperand_list (tbl : Table) {f : Frame} {q : Nat} (hl : f.last = .operand) (hw : f.ws = true)
    (hq : tbl.prio .list = some q) (pos : Nat) :
    beforeOperand tbl f pos = .ok { f with cur := attach tbl q false .list (pos - 1) f.cur, last := .op, ws := false } := by
  simp only [beforeOperand, hl, hw, hq, if_true]

theorem beforeOperand_idem (tbl : Table) {f g : Frame} {pos : Nat} (h : beforeOperand tbl f pos = .ok g) :
    beforeOperand tbl g pos = .ok g := by
  unfold beforeOperand at h
  split at h <;> first
    | (cases h; unfold beforeOperand; simp only [*]; done)
    | (cases h; done)
    | (split at h <;> first | (split at h <;> first | (cases h; rfl) | cases h) | cases h)

theorem refStep_before (tbl : Table) {f g : Frame} {pos : Nat} (hb : beforeOperand tbl f pos = .ok g) {t : PToken}
    (ha : (∃ d l, tbl.act t.type = .operand d l) ∨ ∃ d, tbl.act t.type = .opener d) (stack : List Frame)
    (rest : List PToken) : refStep tbl f stack pos t rest = refStep tbl g stack pos t rest := by
  rw [refStep_eq, refStep_eq]
  rcases ha with ⟨d, l, h⟩ | ⟨d, h⟩ <;> rw [h] <;> simp only [Act.run, hb, beforeOperand_idem tbl hb]

/-- the trees the reference parser can have under construction over `toks`: what the acts of the tokens build.  An invariant
    of the trees of the open brackets is a property closed under these six constructions (`Built.precOK`;
    `Built.treeOK` in Lemmas/RefParseNodes) -/
inductive Built (tbl : Table) (toks : List PToken) : RTree → Prop
  | nil : Built tbl toks .nil
  | list {t : RTree} {k q : Nat} : Built tbl toks t → tbl.prio .list = some q → Built tbl toks (attach tbl q false .list k t)
  | operator {t : RTree} {k : Nat} {tok : PToken} {d : Definition} {q : Nat} {rtl opt : Bool} {last : Last} :
      Built tbl toks t → toks[k]? = some tok → tbl.act tok.type = .operator d q rtl opt last →
      Built tbl toks (attach tbl q rtl d k t)
  | separator {t : RTree} {k : Nat} {tok : PToken} {d : Definition} {q : Nat} :
      Built tbl toks t → toks[k]? = some tok → tbl.act tok.type = .separator d → tbl.prio d = some q →
      Built tbl toks (attach tbl q false d k t)
  | operand {t : RTree} {k : Nat} {tok : PToken} {d : Definition} {last : Last} :
      Built tbl toks t → toks[k]? = some tok → tbl.act tok.type = .operand d last →
      Built tbl toks (plug t (.node .nil d k .nil))
  | group {t i : RTree} {k : Nat} {tok : PToken} {d : Definition} :
      Built tbl toks t → Built tbl toks i → toks[k]? = some tok → tbl.act tok.type = .opener d →
      Built tbl toks (plug t (.group d k i))

structure FBuilt (tbl : Table) (toks : List PToken) (f : Frame) : Prop where
  cur : Built tbl toks f.cur
  ctx : ∀ gd gp, f.ctx = some (gd, gp) → ∃ tok, toks[gp]? = some tok ∧ tbl.act tok.type = .opener gd

theorem beforeOperand_built {tbl : Table} {toks : List PToken} {f g : Frame} {pos : Nat} (hf : FBuilt tbl toks f)
    (h : beforeOperand tbl f pos = .ok g) : FBuilt tbl toks g := by
  unfold beforeOperand at h
  cases hl : f.last <;> simp only [hl] at h
  case suffix => cases h
  case operand =>
    split at h
    · split at h
      · rename_i q hq
        cases h
        exact ⟨.list hf.cur hq, hf.ctx⟩
      · cases h
    · cases h
  all_goals (cases h; exact hf)

theorem refStep_built {tbl : Table} {toks : List PToken} {f : Frame} {stack : List Frame} {pos : Nat} {t : PToken}
    {rest : List PToken} {r : Frame × List Frame} (hf : FBuilt tbl toks f) (hs : ∀ g ∈ stack, FBuilt tbl toks g)
    (ht : toks[pos]? = some t) (h : refStep tbl f stack pos t rest = .ok r) :
    FBuilt tbl toks r.1 ∧ ∀ g ∈ r.2, FBuilt tbl toks g := by
  have hstep := stepOk_of_refStep h
  generalize hact : tbl.act t.type = a at hstep
  cases hstep with
  | skip => exact ⟨hf, hs⟩
  | space => exact ⟨⟨hf.cur, hf.ctx⟩, hs⟩
  | operand d l g hb => exact ⟨⟨.operand (beforeOperand_built hf hb).cur ht hact, (beforeOperand_built hf hb).ctx⟩, hs⟩
  | opener d g hb =>
    refine ⟨⟨.nil, fun gd gp e => by cases e; exact ⟨t, ht, hact⟩⟩, fun x hx => ?_⟩
    rcases List.mem_cons.mp hx with e | e
    · subst e; exact ⟨(beforeOperand_built hf hb).cur, (beforeOperand_built hf hb).ctx⟩
    · exact hs x e
  | closer gd gpos parent below hctx hst _ _ =>
    subst hst
    obtain ⟨tok, htok, hop⟩ := hf.ctx gd gpos hctx
    have hp := hs parent (List.mem_cons_self ..)
    exact ⟨⟨.group hp.cur hf.cur htok hop, hp.ctx⟩, fun g hg => hs g (List.mem_cons_of_mem _ hg)⟩
  | operator d q rtl optional l _ => exact ⟨⟨.operator hf.cur ht hact, hf.ctx⟩, hs⟩
  | sepGroup d _ => exact ⟨⟨hf.cur, hf.ctx⟩, hs⟩
  | sepDrop d _ => exact ⟨⟨hf.cur, hf.ctx⟩, hs⟩
  | sepKeep d q _ _ _ hq => exact ⟨⟨.separator hf.cur ht hact hq, hf.ctx⟩, hs⟩

theorem refLoop_built {tbl : Table} {toks : List PToken} : ∀ (rest : List PToken) (f : Frame) (stack : List Frame) (pos : Nat)
    (T : RTree), FBuilt tbl toks f → (∀ g ∈ stack, FBuilt tbl toks g) → (∀ i t, rest[i]? = some t → toks[pos + i]? = some t) →
    refLoop tbl f stack pos rest = .ok T → Built tbl toks T
  | [], f, stack, pos, T, hf, _, _, h => by
    unfold refLoop at h
    split at h
    · cases h
    · split at h
      · cases h
      · cases h; exact hf.cur
  | t :: rest, f, stack, pos, T, hf, hs, hr, h => by
    unfold refLoop at h
    obtain ⟨r, hst, h⟩ := Outcome.bind_eq_ok.1 h
    obtain ⟨hf', hs'⟩ := refStep_built hf hs (by have := hr 0 t rfl; simpa using this) hst
    refine refLoop_built rest r.1 r.2 (pos + 1) T hf' hs' ?_ h
    intro i x hx
    have := hr (i + 1) x (by simpa using hx)
    have e : pos + 1 + i = pos + (i + 1) := by omega
    rw [e]; exact this

theorem refParse_built (tbl : Table) (toks : List PToken) (rt : RTree) (h : refParse tbl toks = .ok rt) : Built tbl toks rt := by
  unfold refParse at h
  simp only at h
  split at h
  · cases h; exact .nil
  · refine refLoop_built _ Frame.top [] _ rt ⟨.nil, fun gd gp e => by simp [Frame.top] at e⟩ (fun g hg => by cases hg) ?_ h
    intro i t hi
    rw [List.getElem?_take] at hi
    split at hi
    · rw [List.getElem?_drop] at hi; exact hi
    · cases hi

/-- every tree built over a table that agrees with `rtlf` satisfies the precedence condition: each operator is inserted with
    the flag `rtlf` gives it -/
theorem Built.precOK {tbl : Table} {rtlf : Definition → Bool} (hr : RtlAgrees tbl rtlf) {toks : List PToken} {t : RTree}
    (h : Built tbl toks t) : PrecOK tbl rtlf t := by
  induction h with
  | nil => exact .nil
  | @list t k q _ hq ih => have := attach_precOK tbl rtlf q .list k hq t ih; rwa [hr.list] at this
  | @operator t k tok d q rtl opt last _ _ hact ih =>
    have hsec := act_sec tbl tok.type
    rw [hact] at hsec
    obtain ⟨hd, hq, hrtl, _⟩ := hsec
    have h2 := attach_precOK tbl rtlf q d k (hd ▸ hq) t ih
    rwa [hd, hr.tokens tok.type, ← hrtl, ← hd] at h2
  | @separator t k tok d q _ _ hact hq ih =>
    have hsec := act_sec tbl tok.type
    rw [hact] at hsec
    have h2 := attach_precOK tbl rtlf q d k hq t ih
    rwa [hsec.1, hr.tokens tok.type, hsec.2, ← hsec.1] at h2
  | operand _ _ _ ih => exact plug_precOK tbl rtlf _ _ ih (leaf_precOK tbl rtlf _ _) (leaf_operandLike _ _)
  | group _ _ _ _ ih1 ih2 => exact plug_precOK tbl rtlf _ _ ih1 (.group _ _ _ ih2) (group_operandLike _ _ _)

theorem refParse_precOK (tbl : Table) (rtlf : Definition → Bool) (hr : RtlAgrees tbl rtlf) (toks : List PToken) (t : RTree)
    (h : refParse tbl toks = .ok t) : PrecOK tbl rtlf t := (refParse_built tbl toks t h).precOK hr

end Garnish.Spec
