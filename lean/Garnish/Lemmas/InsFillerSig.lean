/-
A filler token and the significant positions (C18; for Lemmas/InsFiller.lean and, the scan, for Lemmas/WrapSig.lean): the
list of SIGNIFICANT token positions (`Spec.significant`, which the in-order walk of the reference tree equals:
`refParse_inorder`) under the insertion of a filler token (Whitespace / Annotation) in the interior of a token list: the
positions behind the insertion shift by one (`significant_insert`).
-/
import Garnish.Lemmas.RefTrivia
import Garnish.Lemmas.RefParseInorder
namespace Garnish.Spec
open Garnish Garnish.Gen Garnish.Model.Parser

/-- one token of the scan: is its position significant, the bracket stack and the "previous token" afterwards -/
def stepE (ty : TokenType) (cf : Bool) (st : List Bracket) (prev : PrevTok) : Bool × List Bracket × PrevTok :=
  if isFiller ty then (false, st, prev)
  else if isCloser ty then (false, st.tail, .other)
  else match openerOf ty with
    | some b => (true, b :: st, if b == .expr then .openExpr else .other)
    | none =>
      if isSeparator ty then
        if st.head? == some .group then (false, st, prev)
        else if prev == .sep || prev == .openExpr || (ty == .subexpression && cf) then (false, st, .sep)
        else (true, st, .sep)
      else (true, st, .other)

theorem scan_cons (t : PToken) (rest : List PToken) (pos : Nat) (st : List Bracket) (prev : PrevTok) :
    significantScan (t :: rest) pos st prev =
      (if (stepE t.type (closerFollows rest) st prev).1 then [pos] else []) ++
        significantScan rest (pos + 1) (stepE t.type (closerFollows rest) st prev).2.1
          (stepE t.type (closerFollows rest) st prev).2.2 := by
  simp only [significantScan]
  unfold stepE
  by_cases h1 : isFiller t.type = true
  · simp [h1]
  · by_cases h2 : isCloser t.type = true
    · simp [h1, h2]
    · cases h3 : openerOf t.type with
      | some b => simp [h1, h2]
      | none =>
        by_cases h4 : isSeparator t.type = true
        · by_cases h5 : (st.head? == some Bracket.group) = true
          · simp [h1, h2, h4, h5]
          · by_cases h6 : (prev == PrevTok.sep || prev == PrevTok.openExpr ||
                (t.type == TokenType.subexpression && closerFollows rest)) = true
            · simp [h1, h2, h4, h5, h6]
            · simp [h1, h2, h4, h5, h6]
        · simp [h1, h2, h4]

theorem scan_types : ∀ (a b : List PToken) (pos : Nat) (st : List Bracket) (prev : PrevTok), SameTypes a b →
    significantScan a pos st prev = significantScan b pos st prev
  | [], [], _, _, _, _ => rfl
  | [], _ :: _, _, _, _, h => by simp [SameTypes] at h
  | _ :: _, [], _, _, _, h => by simp [SameTypes] at h
  | x :: a, y :: b, pos, st, prev, h => by
    simp only [SameTypes, List.map_cons, List.cons.injEq] at h
    rw [scan_cons, scan_cons, h.1, closerFollows_types (a := a) (b := b) h.2,
      scan_types a b _ _ _ h.2]

theorem scan_ge : ∀ (l : List PToken) (pos : Nat) (st : List Bracket) (prev : PrevTok),
    ∀ x ∈ significantScan l pos st prev, pos ≤ x
  | [], _, _, _, x, h => by simp [significantScan] at h
  | t :: rest, pos, st, prev, x, h => by
    rw [scan_cons] at h
    rcases List.mem_append.mp h with h | h
    · split at h
      · simp at h; omega
      · simp at h
    · have := scan_ge rest (pos + 1) _ _ x h
      omega

theorem scan_shift : ∀ (l : List PToken) (pos : Nat) (st : List Bracket) (prev : PrevTok),
    significantScan l (pos + 1) st prev = (significantScan l pos st prev).map (· + 1)
  | [], _, _, _ => rfl
  | t :: rest, pos, st, prev => by
    rw [scan_cons, scan_cons, scan_shift rest (pos + 1)]
    split <;> simp

def shiftAt (m k : Nat) : Nat := if k < m then k else k + 1

theorem shiftAt_inj (m : Nat) : ∀ x y, shiftAt m x = shiftAt m y → x = y := by
  intro x y h
  unfold shiftAt at h
  split at h <;> split at h <;> omega

theorem scan_insert {w : PToken} (hw : isFiller w.type = true) : ∀ (pre post : List PToken) (pos : Nat)
    (st : List Bracket) (prev : PrevTok),
    significantScan (pre ++ w :: post) pos st prev =
      (significantScan (pre ++ post) pos st prev).map (shiftAt (pos + pre.length))
  | [], post, pos, st, prev => by
    have h1 : significantScan (w :: post) pos st prev = significantScan post (pos + 1) st prev := by
      rw [scan_cons]; simp [stepE, hw]
    simp only [List.nil_append, h1, scan_shift, List.length_nil, Nat.add_zero]
    apply List.map_congr_left
    intro x hx
    have := scan_ge post pos st prev x hx
    unfold shiftAt
    rw [if_neg (by omega)]
  | x :: pre, post, pos, st, prev => by
    simp only [List.cons_append]
    rw [scan_cons, scan_cons, closerFollows_append_congr (closerFollows_filler hw post) pre, scan_insert hw pre post (pos + 1)]
    have e : pos + 1 + pre.length = pos + (x :: pre).length := by simp; omega
    rw [e, List.map_append]
    congr 1
    split
    · simp [shiftAt]
    · rfl

theorem significant_noTrim {toks : List PToken} (h : NoTrim toks) :
    significant toks = significantScan toks 0 [] .start := by
  obtain ⟨hne, h1, h2⟩ := h
  unfold significant
  simp only [h1, h2]
  have hlen : ¬ (0 ≥ toks.length) := by
    have := List.length_pos_iff.mpr hne; omega
  simp [hlen]

theorem significant_insert (pre post : List PToken) (w : PToken) (hw : isFiller w.type = true)
    (h : NoTrim (pre ++ post)) (h' : NoTrim (pre ++ w :: post)) :
    significant (pre ++ w :: post) = (significant (pre ++ post)).map (shiftAt pre.length) := by
  rw [significant_noTrim h, significant_noTrim h', scan_insert hw]
  simp

theorem significant_types {a b : List PToken} (hs : SameTypes a b) (ha : NoTrim a) :
    significant b = significant a := by
  rw [significant_noTrim ha, significant_noTrim (ha.types hs), scan_types a b _ _ _ hs]

end Garnish.Spec
