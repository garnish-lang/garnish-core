/-
The decidable recogniser for `v trivia* [ trivia* body trivia* ]` with `body` in `fragFN` (`valueBlockN`), the numbering
theorem for it (`parse_inorder_range_valueBlock`), and its invariance under maps that keep the token types (`valueBlockN_map`).
-/
import Garnish.Lemmas.ParserFragTypes
import Garnish.Lemmas.ParserBBlock

namespace Garnish.Spec
open Garnish Garnish.Gen Garnish.Model.Parser

/-- a value, trivia, and a side-effect block whose body is an expression of `frag8` without a trailing blank line before `}` -/
def valueBlockN (toks : List PToken) : Bool :=
  match toks with
  | [] => false
  | v :: r =>
    isAtom10 v &&
    match r.dropWhile isTriviaTok with
    | [] => false
    | o :: r2 =>
      o.type == .startSideEffect &&
      match r2.reverse with
      | [] => false
      | c :: r3 =>
        c.type == .endSideEffect &&
          fragFN ⟨true, true, true⟩ (((r3.dropWhile isTriviaTok).reverse).dropWhile isTriviaTok)

theorem mem_takeWhile_triv (l : List PToken) : ∀ w ∈ l.takeWhile isTriviaTok, isTriviaTok w = true :=
  fun w hw => mem_takeWhile_imp _ _ _ hw

theorem valueBlockN_sound {toks : List PToken} (h : valueBlockN toks = true) :
    ∃ (v o c : PToken) (ws wsA wsB : List PToken) (body : Ex), isAtom10 v = true ∧ o.type = .startSideEffect ∧
      c.type = .endSideEffect ∧ body.ok ⟨true, true, true⟩ false = true ∧ body.garb = 0 ∧
      (∀ w ∈ ws, isTriviaTok w = true) ∧ (∀ w ∈ wsA, isTriviaTok w = true) ∧ (∀ w ∈ wsB, isTriviaTok w = true) ∧
      toks = v :: (ws ++ (o :: (wsA ++ (body.toks ++ (wsB ++ [c]))))) := by
  unfold valueBlockN at h
  cases toks with
  | nil => cases h
  | cons v r =>
    simp only [Bool.and_eq_true] at h
    obtain ⟨hv, h⟩ := h
    cases hr1 : r.dropWhile isTriviaTok with
    | nil => rw [hr1] at h; cases h
    | cons o r2 =>
      rw [hr1] at h
      simp only [Bool.and_eq_true, beq_iff_eq] at h
      obtain ⟨ho, h⟩ := h
      cases hr2 : r2.reverse with
      | nil => rw [hr2] at h; cases h
      | cons c r3 =>
        rw [hr2] at h
        simp only [Bool.and_eq_true, beq_iff_eq] at h
        obtain ⟨hc, hb⟩ := h
        obtain ⟨body, hok, hbt, hg⟩ := fragFN_sound hb
        refine ⟨v, o, c, r.takeWhile isTriviaTok, ((r3.dropWhile isTriviaTok).reverse).takeWhile isTriviaTok,
          (r3.takeWhile isTriviaTok).reverse, body, hv, ho, hc, hok, hg, mem_takeWhile_triv _, mem_takeWhile_triv _, ?_, ?_⟩
        · intro w hw
          rw [List.mem_reverse] at hw
          exact mem_takeWhile_triv _ w hw
        · have e1 : r = r.takeWhile isTriviaTok ++ (o :: r2) := by
            rw [← hr1, List.takeWhile_append_dropWhile]
          have e2 : r2 = r3.reverse ++ [c] := by
            have := congrArg List.reverse hr2
            simpa using this
          have e3 : r3.reverse = (r3.dropWhile isTriviaTok).reverse ++ (r3.takeWhile isTriviaTok).reverse := by
            rw [← List.reverse_append, List.takeWhile_append_dropWhile]
          have e4 : (r3.dropWhile isTriviaTok).reverse =
              ((r3.dropWhile isTriviaTok).reverse).takeWhile isTriviaTok ++ body.toks := by
            rw [hbt, List.takeWhile_append_dropWhile]
          conv => lhs; rw [e1, e2, e3, e4]
          simp

theorem parse_inorder_range_valueBlock {toks : List PToken} (hf : valueBlockN toks = true) (hnum : NumberedFrom 0 toks)
    {r : ParseResult} {t : Tree} (hp : parse toks = .ok r) (ht : toTree r = some t) :
    t.inorder = List.range r.nodes.size := by
  obtain ⟨v, o, c, ws, wsA, wsB, body, hv, ho, hc, hok, hg, hws, hwA, hwB, rfl⟩ := valueBlockN_sound hf
  obtain ⟨r', t', h1, h2, _, _, _, h3, h4⟩ := parse_value_block_full v o c ws wsA wsB body hv ho hc hok hws hwA hwB hnum
  rw [hp] at h1; cases h1
  rw [ht] at h2; cases h2
  exact sortedIn_full h3 (by rw [hg] at h4; exact h4)

theorem valueBlockN_map {f : PToken → PToken} (hf : ∀ t, (f t).type = t.type) (toks : List PToken)
    (h : valueBlockN toks = true) : valueBlockN (toks.map f) = true := by
  unfold valueBlockN at h ⊢
  cases toks with
  | nil => cases h
  | cons v r =>
    simp only [List.map_cons, Bool.and_eq_true, tp_atom hf] at h ⊢
    refine ⟨h.1, ?_⟩
    have h := h.2
    rw [dropWhile_mapT _ (tp_trivia hf)]
    cases hr1 : r.dropWhile isTriviaTok with
    | nil => rw [hr1] at h; cases h
    | cons o r2 =>
      rw [hr1] at h
      simp only [List.map_cons, Bool.and_eq_true, hf] at h ⊢
      refine ⟨h.1, ?_⟩
      have h := h.2
      rw [← List.map_reverse]
      cases hr2 : r2.reverse with
      | nil => rw [hr2] at h; cases h
      | cons c r3 =>
        rw [hr2] at h
        simp only [List.map_cons, Bool.and_eq_true, hf] at h ⊢
        refine ⟨h.1, ?_⟩
        rw [dropWhile_mapT _ (tp_trivia hf), ← List.map_reverse, dropWhile_mapT _ (tp_trivia hf)]
        exact fragFN_map hf h.2

end Garnish.Spec
