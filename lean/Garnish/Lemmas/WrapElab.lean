/-
Parentheses and the elaboration. `ungroup` removes the `( )` nodes of a reference tree (positions kept); `safe` says of every
`( )` node that it is REDUNDANT for `Abs.Source.go` — its content is not a shape that the parent reads structurally:
  * not a list of the parent's own kind, as an operand of `,` / the space list (`(a, b), c` ≠ `a, b, c`);
  * not a conditional / else-chain, as the left operand of `&&` / `||` or the final arm of `|>` (there the parentheses are needed);
  * not the left operand of `|>` at all (`(c ?> t) |> e` is not an else-chain);
  * not a side-effect block directly after a value (`v ([b])`);
  * not empty.
On a safe tree `go` computes what it computes on the tree without its parentheses (`go_ungroup`). `go` depends on a tree only
through its shape, the token TEXT at its positions and the names of its nested bodies (`TextEq`, `go_textEq`), not on the
positions themselves; in flat form: two trees that are equal up to positions and `( )` nodes satisfy `TextEq`, parentheses
removed, as soon as the sequences of token texts (`texts`) and of body names (`names`) along them agree.
-/
import Garnish.Lemmas.ElabRelabel
namespace Garnish.Abs.Source
open Garnish Garnish.Gen Garnish.Spec Garnish.Abs Garnish.Abs.Tree Garnish.Model.Parser Garnish.Model.Literals

variable {F : Type}

/-- a `( )` node -/
def paren : RTree → Bool
  | .group d _ _ => d == .group
  | _ => false

def ungroup : RTree → RTree
  | .nil => .nil
  | .node l d k r => .node (ungroup l) d k (ungroup r)
  | .group d k i => if d == .group then ungroup i else .group d k (ungroup i)

def listD (d : Definition) : Bool := d == .list || d == .commaList

/-- the parentheses around the left operand `l` of a `d` node are redundant -/
def leftSafe (d : Definition) (l : RTree) : Bool :=
  !paren l || (!(listD d && rootIs (ungroup l) d) && !((d == .and || d == .or) && rootCond (ungroup l)) && d != .elseJump)

/-- the parentheses around the right operand `r` of a `d` node (left operand `l`) are redundant -/
def rightSafe (d : Definition) (l r : RTree) : Bool :=
  !paren r || (!(listD d && rootIs (ungroup r) d) && !(d == .elseJump && rootCond (ungroup r)) &&
    !((ungroup l).isNil && isSideNode (ungroup r)))

/-- every `( )` node of the tree is redundant (and not empty) -/
def safe : RTree → Bool
  | .nil => true
  | .node l d _ r => safe l && safe r && leftSafe d l && rightSafe d l r
  | .group d _ i => safe i && (!(d == .group) || !(ungroup i).isNil)

/-- what a `( )` node does to the result of its content: list items and conditional arms are reset -/
def fixP (t : RTree) (x : Res F) : Res F := if paren t then plain x.e x.bodies else x

theorem fixP_e (t : RTree) (x : Res F) : (fixP t x).e = x.e := by unfold fixP; split <;> rfl
theorem fixP_bodies (t : RTree) (x : Res F) : (fixP t x).bodies = x.bodies := by unfold fixP; split <;> rfl

theorem ungroup_nil_iff : ∀ (t : RTree), safe t = true → (ungroup t = .nil ↔ t = .nil)
  | .nil, _ => by simp [ungroup]
  | .node _ _ _ _, _ => by simp [ungroup]
  | .group d k i, h => by
    simp only [safe, Bool.and_eq_true, Bool.or_eq_true, Bool.not_eq_true'] at h
    simp only [ungroup]
    split
    · rename_i hd
      rcases h.2 with h2 | h2
      · rw [hd] at h2; cases h2
      · cases hu : ungroup i <;> simp_all [RTree.isNil]
    · simp

theorem rootDef_ungroup : ∀ (t : RTree), paren t = false → rootDef (ungroup t) = rootDef t
  | .nil, _ => rfl
  | .node _ _ _ _, _ => rfl
  | .group d k i, h => by
    simp only [paren] at h
    simp only [ungroup, h, Bool.false_eq_true, if_false, rootDef]

theorem rootIs_ungroup (t : RTree) (d : Definition) (h : paren t = false) : rootIs (ungroup t) d = rootIs t d := by
  simp only [rootIs, rootDef_ungroup t h]
theorem rootCond_ungroup (t : RTree) (h : paren t = false) : rootCond (ungroup t) = rootCond t := by
  simp only [rootCond, rootDef_ungroup t h]
theorem isJumpIf_ungroup (t : RTree) (h : paren t = false) : isJumpIf (ungroup t) = isJumpIf t := by
  simp only [isJumpIf, rootIs_ungroup t _ h]

theorem paren_rootDef {t : RTree} (h : paren t = true) : rootDef t = some .group := by
  cases t with
  | nil => cases h
  | node _ _ _ _ => cases h
  | group d k i => simp only [paren, beq_iff_eq] at h; simp [rootDef, h]

theorem paren_rootCond {t : RTree} (h : paren t = true) : rootCond t = false := by
  simp [rootCond, paren_rootDef h, condDef]
theorem paren_isJumpIf {t : RTree} (h : paren t = true) : isJumpIf t = false := by
  simp [isJumpIf, rootIs, paren_rootDef h]
theorem paren_rootIs {t : RTree} (h : paren t = true) (d : Definition) (hd : d ≠ .group) : rootIs t d = false := by
  simp only [rootIs, paren_rootDef h]
  simp only [beq_eq_false_iff_ne, ne_eq, Option.some.injEq]
  exact fun e => hd e.symm
theorem paren_isSideNode {t : RTree} (h : paren t = true) : isSideNode t = false := by
  cases t with
  | nil => cases h
  | node _ _ _ _ => cases h
  | group d k i => rfl

theorem isSideNode_ungroup : ∀ (t : RTree), safe t = true → paren t = false → isSideNode (ungroup t) = isSideNode t
  | .nil, _, _ => rfl
  | .group d k i, _, h => by
    simp only [paren] at h
    simp only [ungroup, h, Bool.false_eq_true, if_false, isSideNode]
  | .node l d k r, hs, _ => by
    simp only [safe, Bool.and_eq_true] at hs
    have := ungroup_nil_iff l hs.1.1.1
    cases l with
    | nil => rfl
    | node _ _ _ _ => rfl
    | group d' k' i' =>
      simp only [ungroup]
      cases hu : ungroup (.group d' k' i') with
      | nil => exact absurd (this.mp hu) (by simp)
      | node _ _ _ _ => simp only [ungroup] at hu; rw [hu]; rfl
      | group _ _ _ => simp only [ungroup] at hu; rw [hu]; rfl

end Garnish.Abs.Source

namespace Garnish.Abs.Source
open Garnish Garnish.Gen Garnish.Spec Garnish.Abs Garnish.Abs.Tree Garnish.Model.Parser Garnish.Model.Literals

variable {F : Type} (pf : List Char → Option F) (κ : Nat → Nat) (toks : List PToken)

theorem preE_fix (d : Definition) (tx : List Char) (t : RTree) (x : Res F) : preE d tx (fixP t x) = preE d tx x := by
  unfold fixP; split <;> rfl

theorem sufE_fix (d : Definition) (tx : List Char) (t : RTree) (x : Res F) : sufE d tx (fixP t x) = sufE d tx x := by
  unfold fixP; split <;> rfl

theorem binE_plain_left (d : Definition) (tx : List Char) (lIs rIs lC rC rJ : Bool) (a b : Res F)
    (h1 : listD d = true → lIs = false) (h2 : (d == .and || d == .or) = true → lC = false) (h3 : d ≠ .elseJump) :
    binE d tx false rIs false rC rJ (plain a.e a.bodies) b = binE d tx lIs rIs lC rC rJ a b := by
  unfold binE
  simp only [plain]
  split
  · rfl
  · split <;> first
      | rfl
      | (have := h1 (by simp [listD]); subst this; rfl)
      | (have := h2 (by simp); subst this; rfl)
      | exact absurd rfl h3

theorem binE_plain_right (d : Definition) (tx : List Char) (lIs rIs lC rC rJ : Bool) (a b : Res F)
    (h1 : listD d = true → rIs = false) (h2 : d = .elseJump → rC = false ∧ rJ = false) :
    binE d tx lIs false lC false false a (plain b.e b.bodies) = binE d tx lIs rIs lC rC rJ a b := by
  unfold binE
  simp only [plain]
  split
  · rfl
  · split <;> first
      | rfl
      | (have := h1 (by simp [listD]); subst this; rfl)
      | (obtain ⟨e1, e2⟩ := h2 rfl; subst e1; subst e2; rfl)

theorem isNil_iff (t : RTree) : t.isNil = true ↔ t = .nil := by cases t <;> simp [RTree.isNil]

theorem isNil_ungroup (t : RTree) (h : safe t = true) : (ungroup t).isNil = t.isNil := by
  have hnil := ungroup_nil_iff t h
  cases h1 : t.isNil <;> cases h2 : (ungroup t).isNil <;> try rfl
  · exact absurd (hnil.mp ((isNil_iff _).mp h2)) (fun e => by rw [e] at h1; cases h1)
  · have := (isNil_iff _).mp h1; subst this; cases h2

theorem paren_ne_nil {t : RTree} (h : paren t = true) : t ≠ .nil := by intro e; subst e; cases h

/-- the flags `go` passes to `binE` for a left operand in parentheses -/
theorem flags_left (d : Definition) (l : RTree) (hd : d ≠ .group) (hp : paren l = true) :
    rootIs l d = false ∧ rootCond l = false := ⟨paren_rootIs hp d hd, paren_rootCond hp⟩

theorem map_fix_node (l : RTree) (d : Definition) (k : Nat) (r : RTree) (o : Option (Res F)) :
    o.map (fixP (.node l d k r)) = o := by cases o <;> rfl

theorem go_ungroup : ∀ (t : RTree), safe t = true →
    go pf κ toks t = (go pf κ toks (ungroup t)).map (fixP t)
  | .nil, _ => by simp [ungroup, go.eq_1]
  | .group d k i, hs => by
    simp only [safe, Bool.and_eq_true] at hs
    have ih := go_ungroup i hs.1
    rw [go_grp]
    by_cases hd : (d == .group) = true
    · have hfg : ∀ x : Res F, fixP (.group d k i) x = plain x.e x.bodies := fun x => by simp [fixP, paren, hd]
      simp only [hd, if_true, ungroup, ih]
      cases go pf κ toks (ungroup i) with
      | none => rfl
      | some x => simp only [Option.map_some, Option.bind_some, fixP_e, fixP_bodies, hfg]
    · have hd' : (d == .group) = false := by simpa using hd
      simp only [hd', Bool.false_eq_true, if_false, ungroup]
      rw [go_grp]
      simp only [hd', Bool.false_eq_true, if_false]
      have hf : ∀ x : Res F, fixP (.group d k i) x = x := fun x => by simp [fixP, paren, hd']
      by_cases hn : (d == .nestedExpression) = true
      · simp only [hn, if_true]
        rw [isNil_ungroup i hs.1]
        cases hi : i.isNil
        · simp only [Bool.false_eq_true, if_false, ih]
          cases go pf κ toks (ungroup i) with
          | none => rfl
          | some x => simp [fixP_e, fixP_bodies, hf]
        · simp [hf]
      · have hn' : (d == .nestedExpression) = false := by simpa using hn
        simp [hn']
  | .node l d k r, hs => by
    -- `go` calls `binE` with flags read off the operands' roots (`rootIs`, `rootCond`, `isJumpIf`); parentheses around an
    -- operand clear its flags and reset its items / arms (`fixP`). `leftSafe` / `rightSafe` say that those flags were clear
    -- anyway, so `binE` returns the same with and without the parentheses (`binE_plain_left`, `binE_plain_right`)
    simp only [safe, Bool.and_eq_true] at hs
    obtain ⟨⟨⟨hsl, hsr⟩, hL⟩, hR⟩ := hs
    have ihl := go_ungroup l hsl
    have ihr := go_ungroup r hsr
    have hnl := ungroup_nil_iff l hsl
    have hnr := ungroup_nil_iff r hsr
    have hf : ∀ x : Res F, fixP (.node l d k r) x = x := fun x => rfl
    simp only [ungroup]
    by_cases hl : l = .nil
    · subst hl
      simp only [ungroup] at hR ⊢
      by_cases hr : r = .nil
      · subst hr
        simp only [ungroup]
        exact (map_fix_node _ _ _ _ _).symm
      · have hur : ungroup r ≠ .nil := fun e => hr (hnr.mp e)
        by_cases hside : isSideNode r = true
        · -- `v [ body ]`
          have hpr : paren r = false := by
            cases hp : paren r
            · rfl
            · rw [paren_isSideNode hp] at hside; cases hside
          cases r with
          | nil => exact absurd rfl hr
          | group _ _ _ => cases hside
          | node rl d2 k2 body =>
            cases rl with
            | node _ _ _ _ => cases hside
            | group _ _ _ => cases hside
            | nil =>
              simp only [isSideNode, beq_iff_eq] at hside
              subst hside
              simp only [safe, Bool.and_eq_true] at hsr
              have ihb := go_ungroup body hsr.1.1.2
              simp only [ungroup, go_side, ihb]
              cases leafE pf d (textAt toks k) with
              | none => rfl
              | some e =>
                cases go pf κ toks (ungroup body) with
                | none => rfl
                | some x =>
                  simp only [Option.map_some, Option.bind_some, fixP_e, fixP_bodies]
                  rfl
        · have hside' : isSideNode r = false := by simpa using hside
          have hus : isSideNode (ungroup r) = false := by
            cases hp : paren r
            · rw [isSideNode_ungroup r hsr hp]; exact hside'
            · simp only [rightSafe, hp, Bool.not_true, Bool.false_or, Bool.and_eq_true, Bool.not_eq_true'] at hR
              simpa [ungroup, RTree.isNil] using hR.2
          rw [go_pre _ _ _ _ _ _ hr hside', go_pre _ _ _ _ _ _ hur hus, ihr]
          cases go pf κ toks (ungroup r) with
          | none => rfl
          | some x =>
            simp only [Option.map_some, Option.bind_some, preE_fix]
            exact (map_fix_node _ _ _ _ _).symm
    · have hul : ungroup l ≠ .nil := fun e => hl (hnl.mp e)
      by_cases hr : r = .nil
      · subst hr
        simp only [ungroup]
        rw [go_suf _ _ _ _ _ _ hl, go_suf _ _ _ _ _ _ hul, ihl]
        cases go pf κ toks (ungroup l) with
        | none => rfl
        | some x =>
          simp only [Option.map_some, Option.bind_some, sufE_fix]
          exact (map_fix_node _ _ _ _ _).symm
      · have hur : ungroup r ≠ .nil := fun e => hr (hnr.mp e)
        rw [go_bin _ _ _ _ _ _ _ hl hr, go_bin _ _ _ _ _ _ _ hul hur, ihl, ihr]
        cases go pf κ toks (ungroup l) with
        | none => rfl
        | some a =>
          cases go pf κ toks (ungroup r) with
          | none => rfl
          | some b =>
            simp only [Option.map_some, Option.bind_some]
            have key : binE d (textAt toks k) (rootIs l d) (rootIs r d) (rootCond l) (rootCond r) (isJumpIf r) (fixP l a) (fixP r b) =
                binE d (textAt toks k) (rootIs (ungroup l) d) (rootIs (ungroup r) d) (rootCond (ungroup l)) (rootCond (ungroup r))
                  (isJumpIf (ungroup r)) a b := by
              by_cases hdg : d = .group
              · subst hdg; unfold binE; rfl
              · -- first the right operand, then the left one
                have step1 : binE d (textAt toks k) (rootIs l d) (rootIs r d) (rootCond l) (rootCond r) (isJumpIf r) (fixP l a) (fixP r b) =
                    binE d (textAt toks k) (rootIs l d) (rootIs (ungroup r) d) (rootCond l) (rootCond (ungroup r))
                      (isJumpIf (ungroup r)) (fixP l a) b := by
                  cases hp : paren r
                  · simp only [fixP, hp, Bool.false_eq_true, if_false, rootIs_ungroup r d hp, rootCond_ungroup r hp,
                      isJumpIf_ungroup r hp]
                  · simp only [rightSafe, hp, Bool.not_true, Bool.false_or, Bool.and_eq_true, Bool.not_eq_true',
                      Bool.and_eq_false_iff] at hR
                    simp only [fixP, hp, if_true, paren_rootIs hp d hdg, paren_rootCond hp, paren_isJumpIf hp]
                    refine binE_plain_right d _ _ _ _ _ _ _ _ (fun hld => ?_) (fun hde => ?_)
                    · rcases hR.1.1 with h | h
                      · rw [hld] at h; cases h
                      · exact h
                    · subst hde
                      rcases hR.1.2 with h | h
                      · cases h
                      · refine ⟨h, ?_⟩
                        simp only [rootCond] at h
                        simp only [isJumpIf, rootIs]
                        cases hrd : rootDef (ungroup r) with
                        | none => rfl
                        | some d' =>
                          rw [hrd] at h
                          simp only [condDef, Bool.or_eq_false_iff] at h
                          simp only [Option.some_beq_some, h.1.1, h.1.2, Bool.or_self]
                rw [step1]
                cases hp : paren l
                · simp only [fixP, hp, Bool.false_eq_true, if_false, rootIs_ungroup l d hp, rootCond_ungroup l hp]
                · simp only [leftSafe, hp, Bool.not_true, Bool.false_or, Bool.and_eq_true, Bool.not_eq_true',
                    Bool.and_eq_false_iff, bne_iff_ne] at hL
                  simp only [fixP, hp, if_true, paren_rootIs hp d hdg, paren_rootCond hp]
                  refine binE_plain_left d _ _ _ _ _ _ _ _ (fun hld => ?_) (fun hao => ?_) hL.2
                  · rcases hL.1.1 with h | h
                    · rw [hld] at h; cases h
                    · exact h
                  · rcases hL.1.2 with h | h
                    · rw [hao] at h; cases h
                    · exact h
            rw [key]
            exact (map_fix_node _ _ _ _ _).symm

end Garnish.Abs.Source

namespace Garnish.Abs.Source
open Garnish Garnish.Gen Garnish.Spec Garnish.Abs Garnish.Abs.Tree Garnish.Model.Parser Garnish.Model.Literals

variable {F : Type} (pf : List Char → Option F)

/-- same shape, same definitions, same token text at corresponding positions, same names for corresponding nested bodies -/
inductive TextEq (toks toks' : List PToken) (κ κ' : Nat → Nat) : RTree → RTree → Prop where
  | nil : TextEq toks toks' κ κ' .nil .nil
  | node {l l' r r' : RTree} {d : Definition} {k k' : Nat} : TextEq toks toks' κ κ' l l' → TextEq toks toks' κ κ' r r' →
      textAt toks k = textAt toks' k' → TextEq toks toks' κ κ' (.node l d k r) (.node l' d k' r')
  | group {i i' : RTree} {d : Definition} {k k' : Nat} : TextEq toks toks' κ κ' i i' → κ k = κ' k' →
      TextEq toks toks' κ κ' (.group d k i) (.group d k' i')

def textEqB (toks toks' : List PToken) (κ κ' : Nat → Nat) : RTree → RTree → Bool
  | .nil, .nil => true
  | .node l d k r, .node l' d' k' r' =>
    textEqB toks toks' κ κ' l l' && textEqB toks toks' κ κ' r r' && d == d' && textAt toks k == textAt toks' k'
  | .group d k i, .group d' k' i' => textEqB toks toks' κ κ' i i' && d == d' && κ k == κ' k'
  | _, _ => false

variable {toks toks' : List PToken} {κ κ' : Nat → Nat}

theorem textEqB_sound : ∀ (t t' : RTree), textEqB toks toks' κ κ' t t' = true → TextEq toks toks' κ κ' t t'
  | .nil, .nil, _ => .nil
  | .node l d k r, .node l' d' k' r', h => by
    simp only [textEqB, Bool.and_eq_true, beq_iff_eq] at h
    obtain ⟨⟨⟨h1, h2⟩, h3⟩, h4⟩ := h
    subst h3
    exact .node (textEqB_sound l l' h1) (textEqB_sound r r' h2) h4
  | .group d k i, .group d' k' i', h => by
    simp only [textEqB, Bool.and_eq_true, beq_iff_eq] at h
    obtain ⟨⟨h1, h2⟩, h3⟩ := h
    subst h2
    exact .group (textEqB_sound i i' h1) h3
  | .nil, .node _ _ _ _, h => by simp [textEqB] at h
  | .nil, .group _ _ _, h => by simp [textEqB] at h
  | .node _ _ _ _, .nil, h => by simp [textEqB] at h
  | .node _ _ _ _, .group _ _ _, h => by simp [textEqB] at h
  | .group _ _ _, .nil, h => by simp [textEqB] at h
  | .group _ _ _, .node _ _ _ _, h => by simp [textEqB] at h

theorem TextEq.map (f : Nat → Nat) : ∀ {t t' : RTree}, TextEq toks toks' κ κ' t t' →
    TextEq toks toks' (fun k => f (κ k)) (fun k => f (κ' k)) t t'
  | _, _, .nil => .nil
  | _, _, .node h1 h2 h3 => .node (h1.map f) (h2.map f) h3
  | _, _, .group h1 h2 => .group (h1.map f) (by simp only [h2])

theorem TextEq.readEq : ∀ {t t' : RTree}, TextEq toks toks' κ κ' t t' → ReadEq toks toks' κ κ' t t'
  | _, _, .nil => .nil
  | _, _, .node h1 h2 h3 => .node h1.readEq h2.readEq fun _ => h3
  | _, _, .group h1 h2 => .group h1.readEq fun _ => h2

theorem go_textEq : ∀ (t t' : RTree), TextEq toks toks' κ κ' t t' → go pf κ toks t = go pf κ' toks' t' :=
  fun t t' h => go_readEq pf t t' h.readEq

end Garnish.Abs.Source

namespace Garnish.Abs.Source
open Garnish Garnish.Gen Garnish.Spec Garnish.Abs Garnish.Abs.Tree Garnish.Model.Parser Garnish.Model.Literals

/-- the token texts of the value / operator nodes, in in-order -/
def texts (toks : List PToken) : RTree → List (List Char)
  | .nil => []
  | .node l _ k r => texts toks l ++ textAt toks k :: texts toks r
  | .group _ _ i => texts toks i

/-- the names of the bracket nodes, in source order -/
def names (κ : Nat → Nat) : RTree → List Nat
  | .nil => []
  | .node l _ _ r => names κ l ++ names κ r
  | .group _ k i => κ k :: names κ i

variable {toks toks' : List PToken} {κ κ' : Nat → Nat}

theorem SameShape.texts_length {t t' : RTree} (h : SameShape t t') :
    (texts toks t).length = (texts toks' t').length ∧ (names κ t).length = (names κ' t').length := by
  induction h with
  | nil => exact ⟨rfl, rfl⟩
  | node d k k' _ _ a b => simp only [texts, names, List.length_append, List.length_cons]; omega
  | group d k k' _ a => simp only [texts, names, List.length_cons]; omega

theorem SameShape.textEq {t t' : RTree} (h : SameShape t t') : texts toks t = texts toks' t' →
    names κ t = names κ' t' → TextEq toks toks' κ κ' t t' := by
  induction h with
  | nil => exact fun _ _ => .nil
  | node d k k' hl _ ih1 ih2 =>
    intro ht hn
    have a := hl.texts_length (toks := toks) (toks' := toks') (κ := κ) (κ' := κ')
    simp only [texts, names] at ht hn
    obtain ⟨t1, t2⟩ := List.append_inj ht a.1
    obtain ⟨n1, n2⟩ := List.append_inj hn a.2
    simp only [List.cons.injEq] at t2
    exact .node (ih1 t1 n1) (ih2 t2.2 n2) t2.1
  | group d k k' _ ih =>
    intro ht hn
    simp only [texts, names, List.cons.injEq] at ht hn
    exact .group (ih ht hn.2) hn.1

theorem textEq_of_flat (t t' : RTree) (h : t.eraseTok = t'.eraseTok) (ht : texts toks t = texts toks' t')
    (hn : names κ t = names κ' t') : TextEq toks toks' κ κ' t t' :=
  (sameShape_of_erase t t' h).textEq ht hn

theorem eraseTok_ungroup : ∀ t : RTree, (ungroup t).eraseTok = t.stripGroups
  | .nil => rfl
  | .node l d k r => by simp only [ungroup, RTree.eraseTok, RTree.stripGroups, eraseTok_ungroup l, eraseTok_ungroup r]
  | .group d k i => by
    simp only [ungroup, RTree.stripGroups]
    split
    · exact eraseTok_ungroup i
    · simp only [RTree.eraseTok, eraseTok_ungroup i]

end Garnish.Abs.Source
