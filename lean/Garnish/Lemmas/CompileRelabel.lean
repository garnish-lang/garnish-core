/-
Relabelling of body ids: values and the value-level operations.
`Val.rl ρ` renames the expression values inside a value. Every operation of Abs/Ops.lean treats an expression value
as an opaque name: for an INJECTIVE `ρ` (equality looks at the name) each operation commutes with `rl ρ`.
-/
import Garnish.Spec.Eval
import Garnish.Lemmas.Ops
namespace Garnish.Abs
open Garnish Gen

variable {F : Type} (fo : FloatOps F) (ρ : Nat → Nat)

mutual
def Val.rl : Val F → Val F
  | .expr j => .expr (ρ j)
  | .pair l r => .pair (Val.rl l) (Val.rl r)
  | .list items => .list (Val.rlList items)
  | .concat l r => .concat (Val.rl l) (Val.rl r)
  | .range s e => .range (Val.rl s) (Val.rl e)
  | .slice v r => .slice (Val.rl v) (Val.rl r)
  | .part f x => .part (Val.rl f) (Val.rl x)
  | .unit => .unit | .tru => .tru | .fls => .fls | .num n => .num n | .char c => .char c | .byte b => .byte b
  | .sym s => .sym s | .ext n => .ext n | .type t => .type t | .chars cs => .chars cs | .bytes bs => .bytes bs
  | .symList ps => .symList ps | .custom => .custom
def Val.rlList : List (Val F) → List (Val F)
  | [] => []
  | x :: xs => Val.rl x :: Val.rlList xs
end

theorem Val.rlList_eq : ∀ (l : List (Val F)), Val.rlList ρ l = l.map (Val.rl ρ)
  | [] => rfl
  | x :: xs => by simp [Val.rlList, Val.rlList_eq xs]

@[simp] theorem Val.rl_list (items : List (Val F)) : Val.rl ρ (.list items) = .list (items.map (Val.rl ρ)) := by
  simp [Val.rl, Val.rlList_eq]

@[simp] theorem Val.rl_typeOf (v : Val F) : (Val.rl ρ v).typeOf = v.typeOf := by cases v <;> rfl
@[simp] theorem Val.rl_truthy (v : Val F) : (Val.rl ρ v).truthy = v.truthy := by cases v <;> rfl
@[simp] theorem Val.rl_ofBool (b : Bool) : Val.rl ρ (Val.ofBool (F := F) b) = Val.ofBool b := by cases b <;> rfl
@[simp] theorem Val.rl_numResult (o : Option (Number F)) : Val.rl ρ (numResult o) = numResult o := by cases o <;> rfl

def OpOut.rl : OpOut F → OpOut F
  | .val v => .val (Val.rl ρ v)
  | .defer op l r => .defer op (Val.rl ρ l) (Val.rl ρ r)
  | .err e => .err e

def Acc.rl : Acc F → Acc F
  | .some v => .some (Val.rl ρ v)
  | .none => .none
  | .unsupported => .unsupported
  | .err e => .err e

def ApplyKind.rl : ApplyKind F → ApplyKind F
  | .enter j input => .enter (ρ j) (Val.rl ρ input)
  | .external n arg => .external n (Val.rl ρ arg)
  | .out o => .out (OpOut.rl ρ o)

/-! ### arithmetic, comparison

Every operation looks at the head of its operands only where an arm names a constructor; `rl` keeps the head, so each
proof goes through the arms that do something and the remaining constructors fall to the default arm on both sides. -/

theorem arithBinary_rl (op : Instruction) (nop : NumOp) (l r : Val F) :
    arithBinary fo op nop (Val.rl ρ l) (Val.rl ρ r) = OpOut.rl ρ (arithBinary fo op nop l r) := by
  cases l with
  | num a => cases r with
    | num b => simp only [arithBinary, Val.rl, OpOut.rl, Val.rl_numResult]
    | _ => rfl
  | _ => rfl

theorem arithUnary_rl (op : Instruction) (nop : NumOp) (v : Val F) :
    arithUnary fo op nop (Val.rl ρ v) = OpOut.rl ρ (arithUnary fo op nop v) := by
  cases v with
  | num a => simp only [arithUnary, Val.rl, OpOut.rl, Val.rl_numResult]
  | _ => rfl

theorem sliceStart_rl (r : Val F) : sliceStart (Val.rl ρ r) = sliceStart r := by
  cases r with
  | range s e => cases s with
    | num a => cases e with
      | num b => rfl
      | _ => simp only [sliceStart, Val.rl]
    | _ => simp only [sliceStart, Val.rl]
  | _ => rfl

theorem compareSlices_rl (lv lr rv rr : Val F) :
    compareSlices (Val.rl ρ lv) (Val.rl ρ lr) (Val.rl ρ rv) (Val.rl ρ rr) = compareSlices lv lr rv rr := by
  cases lv with
  | chars a => cases rv with
    | chars b => simp only [compareSlices, Val.rl, sliceStart_rl]
    | _ => rfl
  | bytes a => cases rv with
    | bytes b => simp only [compareSlices, Val.rl, sliceStart_rl]
    | _ => rfl
  | _ => rfl

theorem compareVals_rl (l r : Val F) : compareVals fo (Val.rl ρ l) (Val.rl ρ r) = compareVals fo l r := by
  cases l with
  | num a => cases r <;> rfl
  | char a => cases r <;> rfl
  | byte a => cases r <;> rfl
  | chars a => cases r <;> rfl
  | bytes a => cases r <;> rfl
  | slice lv lr => cases r with
    | slice rv rr => simp only [compareVals, Val.rl, compareSlices_rl]
    | _ => rfl
  | _ => rfl

theorem cmpOp_rl (acc : Ordering → Bool) (l r : Val F) :
    cmpOp fo acc (Val.rl ρ l) (Val.rl ρ r) = Val.rl ρ (cmpOp fo acc l r) := by
  simp only [cmpOp, compareVals_rl]
  split <;> simp [Val.rl]

mutual
def NVal.rl : NVal F → NVal F
  | .atom t n => .atom t (if t == .expression then ρ n else n)
  | .pair l r => .pair (NVal.rl l) (NVal.rl r)
  | .seq items => .seq (NVal.rlList items)
  | .range s e => .range (NVal.rl s) (NVal.rl e)
  | .num n => .num n | .text cs => .text cs | .blob bs => .blob bs | .symList ps => .symList ps | .opaque => .opaque
def NVal.rlList : List (NVal F) → List (NVal F)
  | [] => []
  | x :: xs => NVal.rl x :: NVal.rlList xs
end

theorem NVal.rlList_append : ∀ (a b : List (NVal F)), NVal.rlList ρ (a ++ b) = NVal.rlList ρ a ++ NVal.rlList ρ b
  | [], b => rfl
  | x :: xs, b => by simp [NVal.rlList, NVal.rlList_append xs b]

mutual
theorem norm_rl : ∀ (v : Val F), norm (Val.rl ρ v) = NVal.rl ρ (norm v)
  | .pair l r => by simp only [Val.rl, norm, NVal.rl, norm_rl l, norm_rl r]
  | .list items => by simp only [Val.rl, norm, NVal.rl, normList_rl items]
  | .concat l r => by simp only [Val.rl, norm, NVal.rl, normConcat_rl l, normConcat_rl r, NVal.rlList_append]
  | .range s e => by simp only [Val.rl, norm, NVal.rl, norm_rl s, norm_rl e]
  | .expr _ | .slice _ _ | .part _ _ | .unit | .tru | .fls | .num _ | .char _ | .byte _ | .sym _ | .ext _ | .type _
  | .chars _ | .bytes _ | .symList _ | .custom => by simp [Val.rl, norm, NVal.rl]
theorem normList_rl : ∀ (l : List (Val F)), normList (Val.rlList ρ l) = NVal.rlList ρ (normList l)
  | [] => by simp only [Val.rlList, normList, NVal.rlList]
  | x :: xs => by simp only [Val.rlList, normList, NVal.rlList, norm_rl x, normList_rl xs]
theorem normConcat_rl : ∀ (v : Val F), normConcat (Val.rl ρ v) = NVal.rlList ρ (normConcat v)
  | .list items => by simp only [Val.rl, normConcat, normList_rl items]
  | .concat l r => by simp only [Val.rl, normConcat, normConcat_rl l, normConcat_rl r, NVal.rlList_append]
  | .pair l r => by simp only [Val.rl, normConcat, norm, NVal.rl, NVal.rlList, norm_rl l, norm_rl r]
  | .range s e => by simp only [Val.rl, normConcat, norm, NVal.rl, NVal.rlList, norm_rl s, norm_rl e]
  | .expr _ | .slice _ _ | .part _ _ | .unit | .tru | .fls | .num _ | .char _ | .byte _ | .sym _ | .ext _ | .type _
  | .chars _ | .bytes _ | .symList _ | .custom => by simp [Val.rl, normConcat, norm, NVal.rl, NVal.rlList]
end

theorem rangeEndEq_rl (x y : NVal F) : rangeEndEq fo (NVal.rl ρ x) (NVal.rl ρ y) = rangeEndEq fo x y := by
  cases x with
  | atom t n => cases y <;> rfl
  | num a => cases y <;> rfl
  | _ => rfl

variable {ρ} in
mutual
/-- the recursion is on the left operand; on the right only the constructor of the same name is looked at -/
theorem nvalEq_rl (hρ : ∀ a b, ρ a = ρ b → a = b) : ∀ (x y : NVal F), nvalEq fo (NVal.rl ρ x) (NVal.rl ρ y) = nvalEq fo x y
  | .atom t n, y => by
    cases y with
    | atom t' n' =>
      simp only [NVal.rl, nvalEq]
      by_cases ht : t = t'
      · subst ht
        by_cases h : t = .expression
        · subst h
          simp only [beq_self_eq_true, if_true, Bool.true_and]
          by_cases hn : n = n'
          · subst hn; simp only [beq_self_eq_true]
          · rw [beq_eq_false_iff_ne.mpr fun e => hn (hρ _ _ e), beq_eq_false_iff_ne.mpr hn]
        · simp only [beq_iff_eq, h, if_false]
      · simp only [beq_eq_false_iff_ne.mpr ht, Bool.false_and]
    | _ => rfl
  | .pair l r, y => by
    cases y with
    | pair l' r' => simp only [NVal.rl, nvalEq, nvalEq_rl hρ l l', nvalEq_rl hρ r r']
    | _ => rfl
  | .seq a, y => by
    cases y with
    | seq b => simp only [NVal.rl, nvalEq, nvalsEq_rl hρ a b]
    | _ => rfl
  | .range s e, y => by
    cases y with
    | range s' e' => simp only [NVal.rl, nvalEq, rangeEndEq_rl]
    | _ => rfl
  | .num _, y | .text _, y | .blob _, y | .symList _, y | .opaque, y => by cases y <;> rfl
theorem nvalsEq_rl (hρ : ∀ a b, ρ a = ρ b → a = b) : ∀ (x y : List (NVal F)),
    nvalsEq fo (NVal.rlList ρ x) (NVal.rlList ρ y) = nvalsEq fo x y
  | [], [] => rfl
  | [], _ :: _ => rfl
  | _ :: _, [] => rfl
  | a :: as, b :: bs => by simp only [NVal.rlList, nvalsEq, nvalEq_rl hρ a b, nvalsEq_rl hρ as bs]
end

theorem valEq_rl {ρ : Nat → Nat} (hρ : ∀ a b, ρ a = ρ b → a = b) (l r : Val F) :
    valEq fo (Val.rl ρ l) (Val.rl ρ r) = valEq fo l r := by
  simp only [valEq, norm_rl, nvalEq_rl fo hρ]

theorem flatItems_rl : ∀ (v : Val F), flatItems (Val.rl ρ v) = (flatItems v).map (Val.rl ρ)
  | .list items => by simp only [Val.rl_list, flatItems]
  | .concat l r => by simp only [Val.rl, flatItems, flatItems_rl l, flatItems_rl r, List.map_append]
  | .expr _ | .pair _ _ | .range _ _ | .slice _ _ | .part _ _ | .unit | .tru | .fls | .num _ | .char _ | .byte _
  | .sym _ | .ext _ | .type _ | .chars _ | .bytes _ | .symList _ | .custom => rfl

theorem keyedVal_rl (s : Nat) (x : Val F) :
    Model.Runtime.keyedVal s (Val.rl ρ x) = (Model.Runtime.keyedVal s x).map (Val.rl ρ) := by
  cases x <;> try rfl
  rename_i l r
  cases l <;> try rfl
  simp only [Val.rl, Model.Runtime.keyedVal]; split <;> rfl

theorem lookupSym_rl (s : Nat) (l : List (Val F)) : lookupSym s (l.map (Val.rl ρ)) = (lookupSym s l).map (Val.rl ρ) := by
  simp only [lookupSym_eq_findSome, List.findSome?_map, List.map_findSome?]
  congr 1; funext x; exact keyedVal_rl ρ s x

theorem lookupRev_rl (s : Nat) : ∀ (v : Val F), lookupRev s (Val.rl ρ v) = (lookupRev s v).map (Val.rl ρ)
  | .concat l r => by
    simp only [Val.rl, lookupRev, lookupRev_rl s l, lookupRev_rl s r]
    cases lookupRev s r <;> rfl
  | .list items => by simp only [Val.rl_list, lookupRev, lookupSym_rl]
  | .pair k v => lookupSym_rl ρ s [Val.pair k v]
  | .expr _ | .range _ _ | .slice _ _ | .part _ _ | .unit | .tru | .fls | .num _ | .char _ | .byte _
  | .sym _ | .ext _ | .type _ | .chars _ | .bytes _ | .symList _ | .custom => rfl

@[simp] theorem Acc.rl_some (v : Val F) : Acc.rl ρ (.some v) = .some (Val.rl ρ v) := rfl
@[simp] theorem Acc.rl_none : Acc.rl ρ (.none : Acc F) = .none := rfl
@[simp] theorem Acc.rl_unsupported : Acc.rl ρ (.unsupported : Acc F) = .unsupported := rfl
@[simp] theorem Acc.rl_err (e : ErrClass) : Acc.rl ρ (.err e : Acc F) = .err e := rfl
@[simp] theorem OpOut.rl_val (v : Val F) : OpOut.rl ρ (.val v) = .val (Val.rl ρ v) := rfl
@[simp] theorem OpOut.rl_defer (op : Instruction) (l r : Val F) : OpOut.rl ρ (.defer op l r) = .defer op (Val.rl ρ l) (Val.rl ρ r) := rfl
@[simp] theorem OpOut.rl_err (e : ErrClass) : OpOut.rl ρ (.err e : OpOut F) = .err e := rfl

theorem accessInt_rl (idx : Number F) (v : Val F) : accessInt fo idx (Val.rl ρ v) = Acc.rl ρ (accessInt fo idx v) := by
  cases v with
  | pair k r => cases k with
    | sym k => simp only [Val.rl, accessInt]; split <;> rfl
    | _ => rfl
  | list items =>
    simp only [Val.rl_list, accessInt, List.length_map]
    split
    · rfl
    · cases idx with
      | int i =>
        simp only [List.getElem?_map]
        cases items[i.toNat]? <;> rfl
      | float f => rfl
  | chars cs =>
    simp only [Val.rl, accessInt]
    repeat' split
    all_goals rfl
  | bytes cs =>
    simp only [Val.rl, accessInt]
    repeat' split
    all_goals rfl
  | symList cs =>
    simp only [Val.rl, accessInt]
    repeat' split
    all_goals rfl
  | range s e => cases s with
    | num a => cases e with
      | num b =>
        simp only [Val.rl, accessInt]
        repeat' split
        all_goals rfl
      | _ => rfl
    | _ => rfl
  | concat l r =>
    simp only [Val.rl, accessInt, flatItems_rl, ← List.map_append]
    cases idx with
    | int i =>
      simp only [List.getElem?_map]
      split
      · rfl
      · cases (flatItems l ++ flatItems r)[i.toNat]? <;> rfl
    | float f => rfl
  | _ => rfl

theorem accessSym_rl (s : Nat) (v : Val F) : accessSym s (Val.rl ρ v) = Acc.rl ρ (accessSym s v) := by
  cases v with
  | pair k r => cases k with
    | sym k => simp only [Val.rl, accessSym]; split <;> rfl
    | _ => rfl
  | list items =>
    simp only [Val.rl_list, accessSym, lookupSym_rl]
    cases lookupSym s items <;> rfl
  | concat l r =>
    simp only [Val.rl, accessSym, lookupRev_rl]
    cases lookupRev s r <;> cases lookupRev s l <;> rfl
  | _ => rfl

theorem getAccess_rl (key v : Val F) : getAccess fo (Val.rl ρ key) (Val.rl ρ v) = Acc.rl ρ (getAccess fo key v) := by
  cases key with
  | num n => exact accessInt_rl fo ρ n v
  | sym s => exact accessSym_rl ρ s v
  | _ => rfl

theorem mergeSymList_rl (l r : Val F) : mergeSymList (Val.rl ρ l) (Val.rl ρ r) = (mergeSymList l r).map (Val.rl ρ) := by
  cases l with
  | sym s => cases r <;> rfl
  | num n => cases r <;> rfl
  | symList ps => cases r <;> rfl
  | _ => rfl

theorem access_rl (l r : Val F) : access fo (Val.rl ρ l) (Val.rl ρ r) = OpOut.rl ρ (access fo l r) := by
  have hm : ∀ m : Option (Val F), (match m.map (Val.rl ρ) with | some v => OpOut.val v | none => .err .data) =
      OpOut.rl ρ (match m with | some v => OpOut.val v | none => .err .data) := fun m => by cases m <;> rfl
  have hg : ∀ g : Acc F,
      (match Acc.rl ρ g with
        | .some v => OpOut.val v | .none => .val .unit
        | .unsupported => .defer .access (Val.rl ρ l) (Val.rl ρ r) | .err e => .err e) =
      OpOut.rl ρ (match g with
        | .some v => OpOut.val v | .none => .val .unit | .unsupported => .defer .access l r | .err e => .err e) :=
    fun g => by cases g <;> rfl
  simp only [access, Val.rl_typeOf, mergeSymList_rl, getAccess_rl]
  -- the arms of the type table: merged symbol lists, looked-up items, the offer to the host
  split <;> first | exact hm _ | exact hg _ | rfl

theorem accessLeftInternal_rl (v : Val F) : accessLeftInternal (Val.rl ρ v) = OpOut.rl ρ (accessLeftInternal v) := by
  cases v with
  | range s e => cases s <;> rfl
  | _ => rfl

theorem accessRightInternal_rl (v : Val F) : accessRightInternal (Val.rl ρ v) = OpOut.rl ρ (accessRightInternal v) := by
  cases v with
  | range s e => cases e <;> rfl
  | _ => rfl

theorem accessLengthInternal_rl (v : Val F) :
    accessLengthInternal fo (Val.rl ρ v) = OpOut.rl ρ (accessLengthInternal fo v) := by
  cases v with
  | pair k r => cases k <;> rfl
  | list items => rw [Val.rl_list]; simp only [accessLengthInternal, List.length_map, OpOut.rl_val, Val.rl]
  | range s e => cases s with
    | num a => cases e with
      | num b => simp only [Val.rl, accessLengthInternal]; split <;> rfl
      | _ => rfl
    | _ => rfl
  | slice x r => cases r with
    | range s e => cases s with
      | num a => cases e with
        | num b => simp only [Val.rl, accessLengthInternal]; split <;> rfl
        | _ => rfl
      | _ => rfl
    | _ => rfl
  | concat l r => simp [Val.rl, accessLengthInternal, flatItems_rl]
  | _ => rfl

theorem makeRange_rl (a b : Bool) (l r : Val F) : makeRange fo a b (Val.rl ρ l) (Val.rl ρ r) = OpOut.rl ρ (makeRange fo a b l r) := by
  cases l with
  | num x => cases r with
    | num y => simp only [Val.rl, makeRange]; split <;> rfl
    | _ => rfl
  | _ => rfl

theorem typeEqual_rl (l r : Val F) : typeEqual (Val.rl ρ l) (Val.rl ρ r) = Val.rl ρ (typeEqual l r) := by
  cases r <;> simp only [typeEqual, Val.rl, Val.rl_typeOf, Val.rl_ofBool] <;> rfl

theorem accessPath_rl : ∀ (ps : List (SymPart F)) (cur : Val F),
    accessPath fo ps (Val.rl ρ cur) = Acc.rl ρ (accessPath fo ps cur)
  | [], cur => rfl
  | p :: ps, cur => by
    cases p with
    | sym s =>
      simp only [accessPath, accessSym_rl]
      cases h : accessSym s cur <;> simp [accessPath_rl ps, Val.rl]
    | num n =>
      simp only [accessPath, accessInt_rl]
      cases h : accessInt fo n cur <;> simp [accessPath_rl ps, Val.rl]

def rlExcept : Except ErrClass (Val F) → Except ErrClass (Val F)
  | .ok v => .ok (Val.rl ρ v)
  | .error e => .error e

theorem narrowRange_rl (a b : Val F) : narrowRange fo (Val.rl ρ a) (Val.rl ρ b) = rlExcept ρ (narrowRange fo a b) := by
  cases b with
  | range s e => cases s with
    | num s1 => cases e with
      | num e1 => cases a with
        | range os oe => cases os with
          | num o1 =>
            simp only [Val.rl, narrowRange]
            repeat' split
            all_goals rfl
          | _ => rfl
        | _ => rfl
      | _ => rfl
    | _ => rfl
  | _ => rfl

@[simp] theorem ApplyKind.rl_enter (j : Nat) (v : Val F) : ApplyKind.rl ρ (.enter j v) = .enter (ρ j) (Val.rl ρ v) := rfl
@[simp] theorem ApplyKind.rl_external (j : Nat) (v : Val F) : ApplyKind.rl ρ (.external j v) = .external j (Val.rl ρ v) := rfl
@[simp] theorem ApplyKind.rl_out (o : OpOut F) : ApplyKind.rl ρ (.out o) = .out (OpOut.rl ρ o) := rfl

theorem rl_symList_back (l : List (SymPart F)) : Val.symList l = Val.rl ρ (.symList l) := by simp [Val.rl]
theorem rl_range_back (a b : Val F) : Val.range (Val.rl ρ a) (Val.rl ρ b) = Val.rl ρ (.range a b) := by simp [Val.rl]
theorem rl_sym_back (s : Nat) : Val.sym s = Val.rl ρ (.sym s : Val F) := by simp [Val.rl]

theorem applyKind_rl (instr : Instruction) (useRight : Bool) (l r : Val F) :
    applyKind fo instr useRight (Val.rl ρ l) (Val.rl ρ r) = ApplyKind.rl ρ (applyKind fo instr useRight l r) := by
  have hc := Lemmas.Runtime.applyArm_case fo instr useRight l r
  have hc' := Lemmas.Runtime.applyArm_case fo instr useRight (Val.rl ρ l) (Val.rl ρ r)
  rw [Val.rl_typeOf, Val.rl_typeOf] at hc'
  have accOut_rl : ∀ a : Acc F, ApplyKind.out (Model.Runtime.accOut (Acc.rl ρ a)) = ApplyKind.rl ρ (.out (Model.Runtime.accOut a)) := by
    intro a; cases a <;> rfl
  cases harm : Model.Runtime.applyArm l.typeOf r.typeOf <;> rw [harm] at hc hc'
  case expression => obtain ⟨j, rfl, e⟩ := hc; rfl
  case external => obtain ⟨j, rfl, e⟩ := hc; rfl
  case partial_ => obtain ⟨f, x, rfl, -⟩ := hc; cases f <;> first | rfl | (cases useRight <;> rfl)
  case merge => rw [hc.2, hc'.2, mergeSymList_rl]; cases mergeSymList l r <;> rfl
  case narrow =>
    obtain ⟨a, b, c, d, rfl, rfl, e⟩ := hc
    simp only [Val.rl, applyKind]
    rw [rl_range_back, rl_range_back, narrowRange_rl]
    cases narrowRange fo (.range a b) (.range c d) <;> rfl
  case sliceNarrow =>
    obtain ⟨a, b, c, d, rfl, rfl, e⟩ := hc
    simp only [Val.rl, applyKind]
    rw [rl_range_back, narrowRange_rl]
    cases narrowRange fo b (.range c d) <;> rfl
  case accInt =>
    obtain ⟨n, rfl, -, e⟩ := hc
    obtain ⟨n', e1, -, e'⟩ := hc'
    cases e1
    rw [e, e', accessInt_rl, accOut_rl]
  case accSym =>
    obtain ⟨n, rfl, -, e⟩ := hc
    obtain ⟨n', e1, -, e'⟩ := hc'
    cases e1
    rw [e, e', accessSym_rl, accOut_rl]
  case path =>
    obtain ⟨-, n, -, rfl, e⟩ := hc
    obtain ⟨-, n', -, e1, e'⟩ := hc'
    cases e1
    rw [e, e', accessPath_rl, accOut_rl]
  case mkSlice => rw [hc.2, hc'.2]; rfl
  case defer => rw [hc, hc']; rfl

theorem binaryOp_rl {ρ : Nat → Nat} (hρ : ∀ a b, ρ a = ρ b → a = b) (op : Instruction) (l r : Val F) :
    binaryOp fo op (Val.rl ρ l) (Val.rl ρ r) = (binaryOp fo op l r).map (OpOut.rl ρ) := by
  cases op <;>
    simp [binaryOp, numOpOf, arithBinary_rl, valEq_rl fo hρ, typeEqual_rl, access_rl, makeRange_rl, lessThan, lessThanOrEqual,
      greaterThan, greaterThanOrEqual, cmpOp_rl, Val.rl]

theorem unaryOp_rl (op : Instruction) (v : Val F) :
    unaryOp fo op (Val.rl ρ v) = (unaryOp fo op v).map (OpOut.rl ρ) := by
  cases op <;>
    simp [unaryOp, numOpOf, arithUnary_rl, accessLeftInternal_rl, accessRightInternal_rl, accessLengthInternal_rl, Val.rl]

end Garnish.Abs
