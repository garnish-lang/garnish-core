/-
Totality of `build`: the literal hypotheses follow from the shape the lexer gives to Symbol and ByteList
tokens (`LexShaped`): a Symbol text starts with `:`; a ByteList text is `q` quotes, a body that does not start with a
quote, `q` quotes.  Number and CharList texts need no hypothesis.
-/
import Garnish.Lemmas.BuildTotalLoops
import Garnish.Lemmas.Literals
namespace Garnish.Lemmas.BuildTotal
open Garnish Garnish.Gen Garnish.Model.Parser Garnish.Model.Literals Garnish.Model.Build Garnish.Lemmas.Build


-- the decision procedure of the character class must stay folded when `byteNumStep` is unfolded
attribute [local irreducible] Garnish.Gen.CharRanges.isAlphanumeric

theorem byteNumStep_good {F : Type} (pf : List Char → Option F) (st : ByteNumState) (c : Char) :
    Good (fun _ => True) (byteNumStep pf st c) := by
  unfold byteNumStep
  refine good_ite trivial (good_ite (good_bind (parseNumberInternal_good pf _ 10) fun n _ => ?_) trivial)
  cases n with
  | float f => exact trivial
  | int v => exact good_ite trivial trivial

theorem byteNumLoop_good {F : Type} (pf : List Char → Option F) : ∀ (l : List Char) (st : ByteNumState),
    Good (fun _ => True) (byteNumLoop pf st l) := by
  intro l
  induction l with
  | nil => intro st; exact trivial
  | cons c rest ih =>
    intro st
    rw [byteNumLoop]
    exact good_bind (byteNumStep_good pf st c) (fun st' _ => ih st')

theorem parseByteListNumbers_good {F : Type} (pf : List Char → Option F) (input : List Char) :
    Good (fun _ => True) (parseByteListNumbers pf input) := by
  unfold parseByteListNumbers
  exact good_bind (byteNumLoop_good pf _ _) (fun _ _ => trivial)

theorem byteListLoop_good : ∀ (l : List Char) (bytes : List Nat) (esc : Bool), Good (fun _ => True) (byteListLoop bytes esc l) := by
  intro l
  induction l with
  | nil => intro bytes esc; cases esc <;> exact trivial
  | cons c rest ih =>
    intro bytes esc
    cases esc
    · rw [byteListLoop]
      exact good_ite (ih _ _) (ih _ _)
    · rw [byteListLoop]
      exact good_ite (ih _ _) <| good_ite (ih _ _) <| good_ite (ih _ _) <| good_ite (ih _ _) <| good_ite (ih _ _) <|
        good_ite (ih _ _) trivial

theorem parseByteList_good_balanced {F : Type} (pf : List Char → Option F) (q : Nat) (body : List Char)
    (hbody : ∀ c, body.head? = some c → c ≠ '\'') :
    Good (fun _ => True) (parseByteList pf (List.replicate q '\'' ++ body ++ List.replicate q '\'')) := by
  change Good _ (parseByteList pf (Garnish.Spec.Spell.quoteByteList q body))
  rw [Garnish.Lemmas.Literals.parseByteList_quote pf q body (fun e => hbody _ e rfl)]
  refine good_ite trivial (good_ite (parseByteListNumbers_good pf body) ?_)
  have := byteListLoop_good body [] false
  rwa [Garnish.Lemmas.Literals.byteListLoop_unescBytes, List.reverse_nil, Garnish.Lemmas.Literals.appendOk_nil] at this


/-- the token texts as the lexer shapes them (checked against the implementation by the LEX suite) -/
structure LexShaped (pn : ParseNode) : Prop where
  symbol : pn.definition = .symbol → ∃ rest, pn.lexToken.text = ':' :: rest
  byteList : pn.definition = .byteList → ∃ (q : Nat) (body : List Char),
    pn.lexToken.text = List.replicate q '\'' ++ body ++ List.replicate q '\'' ∧ (∀ c, body.head? = some c → c ≠ '\'')

theorem dropFirstByte_colon (rest : List Char) : dropFirstByte (':' :: rest) ≠ none := by
  simp [dropFirstByte]
  decide

theorem litSafe_of_shaped {F : Type} (pf : List Char → Option F) {pn : ParseNode} (h : LexShaped pn) : LitSafe pf pn where
  symbol := fun hd => by
    obtain ⟨rest, hr⟩ := h.symbol hd
    rw [hr]; exact dropFirstByte_colon rest
  byteList := fun hd => by
    obtain ⟨q, body, ht, hb⟩ := h.byteList hd
    rw [ht]; exact parseByteList_good_balanced pf q body hb

theorem build_total_shaped {F : Type} (pf : List Char → Option F) (root : Nat) (tree : Array ParseNode)
    (hshape : ∀ (i : Nat) (pn : ParseNode), tree[i]? = some pn → LexShaped pn) (data : BState F) :
    Good (fun _ => True) (build pf (defaultFuel tree.size) root tree data) :=
  build_total pf (fun i pn h => litSafe_of_shaped pf (hshape i pn h)) data

end Garnish.Lemmas.BuildTotal
