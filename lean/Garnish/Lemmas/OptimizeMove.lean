/-
The last phases of `optimize_data_block_and_retain`: reading a block through the slide (`Shift`), what the
slide loop produces, what the remapping loops produce.
-/
import Garnish.Lemmas.OptimizeClone
namespace Garnish.BasicOpt
open Garnish

/-- `V` from `dst` on is `W` from `src` on -/
def Shift (W V : Array Cell) (src dst : Nat) : Prop := ∀ t, V[dst + t]? = W[src + t]?

theorem shape_shift {W V : Array Cell} {src dst : Nat} (hs : Shift W V src dst) (hno : framePoint W src = none)
    {u : Nat} {sh : Shape} (h : shape W (src + u) = some sh) : shape V (dst + u) = some sh :=
  shape_move (Q := fun _ => True) (fun t c hc _ => by rw [hs t]; exact hc) (fun _ _ => trivial) hno h (fun _ _ => trivial)

theorem slide_get : ∀ (n : Nat) (cells : Array Cell) (dst src : Nat), dst ≤ src → src + n ≤ cells.size →
    ∀ t, t < n → (Store.slide cells dst src n)[dst + t]? = cells[src + t]?
  | 0, _, _, _, _, _, t, ht => by omega
  | n + 1, cells, dst, src, hle, hsz, t, ht => by
    simp only [Store.slide]
    have hsrc : src < cells.size := by omega
    have hget : cells.getD src .empty = cells[src] := by simp [Array.getD, hsrc]
    cases t with
    | zero =>
      simp only [Nat.add_zero]
      rw [slide_below n _ (dst + 1) (src + 1) dst (by omega)]
      simp [hget, Nat.lt_of_le_of_lt hle hsrc]
    | succ t =>
      have e1 : dst + (t + 1) = (dst + 1) + t := by omega
      have e2 : src + (t + 1) = (src + 1) + t := by omega
      rw [e1, e2, slide_get n _ (dst + 1) (src + 1) (by omega) (by simp; omega) t (by omega)]
      have : dst ≠ src + 1 + t := by omega
      simp [this]

theorem slide_extract_spec (cells : Array Cell) (r src : Nat) (hr : r ≤ src) (hs : src ≤ cells.size) :
    let V := (Store.slide cells r src (cells.size - src)).extract 0 (r + (cells.size - src))
    V.size = r + (cells.size - src) ∧ (∀ i, i < r → V[i]? = cells[i]?) ∧ Shift cells V src r := by
  intro V
  have hsize : V.size = r + (cells.size - src) := by
    simp only [V, Array.size_extract, slide_size]; omega
  refine ⟨hsize, (slide_extract_prefix cells r src _ (by omega)).2, ?_⟩
  intro t
  by_cases ht : t < cells.size - src
  · have h1 : V[r + t]? = (Store.slide cells r src (cells.size - src))[r + t]? := by
      simp only [V]
      rw [Array.getElem?_extract]
      simp [slide_size]
      omega
    rw [h1, slide_get _ cells r src hr (by omega) t ht]
  · rw [Array.getElem?_eq_none (by omega), Array.getElem?_eq_none (by omega)]

/-- same data block, retention count and block start (symbol table and heads may differ) -/
structure SameData (a b : Store) : Prop where
  cells : b.cells = a.cells
  ret : b.retention = a.retention
  start : b.start = a.start

theorem SameData.refl (a : Store) : SameData a a := ⟨rfl, rfl, rfl⟩
theorem SameData.trans {a b c : Store} (h1 : SameData a b) (h2 : SameData b c) : SameData a c :=
  ⟨h2.cells.trans h1.cells, h2.ret.trans h1.ret, h2.start.trans h1.start⟩

theorem lookup_link_same {a st : Store} {lo hi x x' : Nat} (hsd : SameData a st)
    (h : Store.lookup st (a.start + lo) (a.start + hi) x = .ok x') : Link a lo hi x x' := by
  rw [← hsd.start] at h
  have hl := lookup_link h
  exact Link.mono (Nat.le_refl _) hsd.ret.symm (fun j _ _ => by rw [hsd.cells]) hl

theorem remapSymbols_spec (ls le : Nat) : ∀ (n : Nat) (s s' : Store) (i : Nat),
    Store.remapSymbols ls le s i n = .ok s' →
      SameData s s' ∧ s'.symtab.size = s.symtab.size ∧
      s'.currentRegister = s.currentRegister ∧ s'.currentValue = s.currentValue ∧ s'.currentFrame = s.currentFrame ∧
      (∀ j, j < i → s'.symtab[j]? = s.symtab[j]?) ∧ (∀ j, i + n ≤ j → s'.symtab[j]? = s.symtab[j]?) ∧
      ∀ j, i ≤ j → j < i + n → ∃ sym di di' st, s.symtab[j]? = some (.associativeItem sym di) ∧
        s'.symtab[j]? = some (.associativeItem sym di') ∧ SameData s st ∧ Store.lookup st ls le di = .ok di'
  | 0, s, s', i, h => by
    simp only [Store.remapSymbols, Outcome.ok.injEq] at h
    subst h
    exact ⟨SameData.refl _, rfl, rfl, rfl, rfl, fun _ _ => rfl, fun _ _ => rfl, fun j h1 h2 => by omega⟩
  | n + 1, s, s', i, h => by
    simp only [Store.remapSymbols, Outcome.bind_eq_ok'] at h
    obtain ⟨⟨sym, di⟩, hse, m, hl, hrest⟩ := h
    obtain ⟨hsd, hsz, hr, hv, hf, hlo, hhi, hmid⟩ := remapSymbols_spec ls le n _ s' (i + 1) hrest
    have hent : s.symtab[i]? = some (.associativeItem sym di) := by
      unfold Store.symEntry at hse
      split at hse
      · rename_i sy d heq
        simp only [Outcome.ok.injEq, Prod.mk.injEq] at hse
        rw [heq, hse.1, hse.2]
      · simp at hse
      · simp at hse
    have hi : i < s.symtab.size := lt_of_getElem? hent
    refine ⟨⟨hsd.cells, hsd.ret, hsd.start⟩, by simpa using hsz, hr, hv, hf, ?_, ?_, ?_⟩
    · intro j hj
      rw [hlo j (by omega)]
      simp [Array.getElem?_setIfInBounds]
      intro h; omega
    · intro j hj
      rw [hhi j (by omega)]
      simp [Array.getElem?_setIfInBounds]
      intro h; omega
    · intro j hj1 hj2
      by_cases hji : j = i
      · subst hji
        refine ⟨sym, di, m, s, hent, ?_, SameData.refl _, hl⟩
        rw [hlo j (by omega)]
        simp [Array.getElem?_setIfInBounds, hi]
      · obtain ⟨sy, d, d', st, h1, h2, h3, h4⟩ := hmid j (by omega) (by omega)
        refine ⟨sy, d, d', st, ?_, h2, ⟨h3.cells, h3.ret, h3.start⟩, h4⟩
        rw [← h1]
        simp [Array.getElem?_setIfInBounds]
        intro h; omega

theorem remapOpt_spec {st : Store} {ls le : Nat} {o r : Option Nat} (h : Store.remapOpt st ls le o = .ok r) :
    (o = none ∧ r = none) ∨ ∃ i m, o = some i ∧ r = some m ∧ Store.lookup st ls le i = .ok m := by
  cases o with
  | none =>
    simp only [Store.remapOpt, Outcome.ok.injEq] at h
    exact Or.inl ⟨rfl, h.symm⟩
  | some i =>
    simp only [Store.remapOpt, Outcome.bind_eq_ok', Outcome.pure_eq_ok_iff] at h
    obtain ⟨m, hm, hr⟩ := h
    exact Or.inr ⟨i, m, rfl, hr.symm, hm⟩

theorem remapRoots_spec (st : Store) (ls le : Nat) : ∀ (roots ms : List Nat),
    Store.remapRoots st ls le roots = .ok ms →
      ms.length = roots.length ∧ ∀ (k r : Nat), roots[k]? = some r → ∃ r', ms[k]? = some r' ∧
        Store.lookup st ls le r = .ok r'
  | [], ms, h => by
    simp only [Store.remapRoots, Outcome.ok.injEq] at h
    subst h; simp
  | r :: rs, ms, h => by
    simp only [Store.remapRoots, Outcome.bind_eq_ok', Outcome.pure_eq_ok_iff] at h
    obtain ⟨m, h1, ms', h2, h3⟩ := h
    subst h3
    obtain ⟨ih1, ih2⟩ := remapRoots_spec st ls le rs ms' h2
    refine ⟨by simp [ih1], ?_⟩
    intro k x hk
    cases k with
    | zero =>
      simp only [List.getElem?_cons_zero, Option.some.injEq] at hk
      subst hk
      exact ⟨m, by simp, h1⟩
    | succ k =>
      simp only [List.getElem?_cons_succ] at hk ⊢
      exact ih2 k x hk

end Garnish.BasicOpt
