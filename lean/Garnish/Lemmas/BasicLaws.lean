/-
The store contract of the runtime for `BasicGarnishData`, relative to the states its interface operations reach
(`StoreLawsOn`, Model/Runtime/StoreOn.lean): `BInv` = `WFq` (Lemmas/MutWF.lean) + room for one more cell under a growing
policy (`Fits`, Lemmas/OptimizeLimit.lean) + the typing of the register and frame chains.  The typing is said cell by cell
(`Typed`), the room as a variable (`Room`, `BInvP`).  Each clause is a `_law` lemma over `BInvP P`, here and in BasicStacks,
BasicFrames, BasicSymbolLists, BasicListLaws; which lemma answers which clause is read off the instance
`basicStore_lawsOn_noListP` (Props/C19StoreOn.lean).
-/
import Garnish.Lemmas.BasicChains
import Garnish.Lemmas.MutOps
import Garnish.Lemmas.OptimizeLimit
import Garnish.Lemmas.EqualityRefine
import Garnish.Model.Runtime.StoreOn
namespace Garnish.Lemmas.Runtime.Basic
open Garnish Gen Garnish.Model.Equality Garnish.Model.Runtime Garnish.Model.Runtime.Basic Garnish.BasicOpt
open Garnish.Lemmas.Runtime Garnish.Lemmas.EqualityRefine

variable {F : Type}

def isRegCell (cells : Array Cell) (a : Nat) : Bool :=
  match cells[a]? with
  | some (.register _ _) | some (.registerRoot _) => true
  | _ => false

def isFrameCell (cells : Array Cell) (a : Nat) : Bool :=
  match cells[a]? with
  | some (.frame _ _) | some (.frameIndex _) | some (.frameRegister _) | some .frameRoot => true
  | _ => false

def frameKind : Cell → Bool
  | .frame _ _ | .frameIndex _ | .frameRegister _ | .frameRoot => true
  | _ => false

structure FrameTyped (s : Store) : Prop where
  head : ∀ a, s.currentFrame = some a → isFrameCell s.cells a = true
  prev : ∀ (i p : Nat), ((∃ r, s.cells[i]? = some (Cell.frame p r)) ∨ s.cells[i]? = some (Cell.frameIndex p)) →
    isFrameCell s.cells p = true
  reg : ∀ (i r : Nat), ((∃ p, s.cells[i]? = some (Cell.frame p r)) ∨ s.cells[i]? = some (Cell.frameRegister r)) →
    isRegCell s.cells r = true

/-- the states the interface operations of `BasicGarnishData` reach -/
structure BInv (st : BState) : Prop where
  wfq : WFq st.store
  fits : Fits st.store
  regHead : ∀ a, st.store.currentRegister = some a → isRegCell st.store.cells a = true
  regPrev : ∀ (i p v : Nat), st.store.cells[i]? = some (Cell.register p v) → isRegCell st.store.cells p = true
  frameSaved : ∀ (i p r : Nat), (st.store.cells[i]? = some (Cell.frame p r) ∨
    st.store.cells[i]? = some (Cell.frameRegister r)) → r < st.store.cells.size
  ftyped : FrameTyped st.store

theorem binv_init : BInv BState.init := by
  refine ⟨WFq_fresh, by decide, ?_, ?_, ?_, ⟨?_, ?_, ?_⟩⟩
  · intro a h; cases h
  · intro i p v h; simp [BState.init, Store.fresh] at h
  · intro i p r h; simp [BState.init, Store.fresh] at h
  · intro a h; cases h
  · intro i p h; simp [BState.init, Store.fresh] at h
  · intro i r h; simp [BState.init, Store.fresh] at h

theorem isRegCell_sub {cells cells' : Array Cell} (h : Sub cells cells') {a : Nat} (ha : isRegCell cells a = true) :
    isRegCell cells' a = true := by
  unfold isRegCell at ha ⊢
  cases hc : cells[a]? with
  | none => simp [hc] at ha
  | some c => rw [h a c hc]; rw [hc] at ha; exact ha

theorem isFrameCell_sub {cells cells' : Array Cell} (h : Sub cells cells') {a : Nat} (ha : isFrameCell cells a = true) :
    isFrameCell cells' a = true := by
  unfold isFrameCell at ha ⊢
  cases hc : cells[a]? with
  | none => simp [hc] at ha
  | some c => rw [h a c hc]; rw [hc] at ha; exact ha

theorem isFrameCell_lt {cells : Array Cell} {a : Nat} (h : isFrameCell cells a = true) : a < cells.size := by
  unfold isFrameCell at h
  cases hc : cells[a]? with
  | none => simp [hc] at h
  | some c => exact lt_of_getElem? hc

theorem isRegCell_lt {cells : Array Cell} {a : Nat} (h : isRegCell cells a = true) : a < cells.size := by
  unfold isRegCell at h
  cases hc : cells[a]? with
  | none => simp [hc] at h
  | some c => exact lt_of_getElem? hc

/-! The typing fields of `BInv` say one thing: the two heads and every link of a register or frame cell lead to a cell of
the right chain.  Said of one cell (`LinkOK`) it survives appended cells and does not see input-value cells, so the
invariant after an operation is `Typed.grow` (a block of cells appended) or `Typed.updSV` (Lemmas/BasicFrames.lean: an
input-value cell overwritten). -/

def LinkOK (cells : Array Cell) : Cell → Prop
  | .register p _ => isRegCell cells p = true
  | .frame p r => isFrameCell cells p = true ∧ isRegCell cells r = true
  | .frameIndex p => isFrameCell cells p = true
  | .frameRegister r => isRegCell cells r = true
  | _ => True

structure Typed (s : Store) : Prop where
  reg : ∀ a, s.currentRegister = some a → isRegCell s.cells a = true
  frm : ∀ a, s.currentFrame = some a → isFrameCell s.cells a = true
  link : ∀ (i : Nat) (c : Cell), s.cells[i]? = some c → LinkOK s.cells c

theorem binv_iff {st : BState} : BInv st ↔ WFq st.store ∧ Fits st.store ∧ Typed st.store := by
  constructor
  · intro h
    refine ⟨h.wfq, h.fits, h.regHead, h.ftyped.head, ?_⟩
    intro i c hc
    cases c <;> try trivial
    · exact h.regPrev i _ _ hc
    · exact ⟨h.ftyped.prev i _ (.inl ⟨_, hc⟩), h.ftyped.reg i _ (.inl ⟨_, hc⟩)⟩
    · exact h.ftyped.prev i _ (.inr hc)
    · exact h.ftyped.reg i _ (.inr hc)
  · rintro ⟨hw, hf, ht⟩
    refine ⟨hw, hf, ht.reg, fun i p v hc => ht.link i _ hc, ?_, ht.frm, ?_, ?_⟩
    · rintro i p r (hc | hc)
      · exact isRegCell_lt (ht.link i _ hc).2
      · exact isRegCell_lt (ht.link i _ hc)
    · rintro i p (⟨r, hc⟩ | hc)
      · exact (ht.link i _ hc).1
      · exact ht.link i _ hc
    · rintro i r (⟨p, hc⟩ | hc)
      · exact (ht.link i _ hc).2
      · exact ht.link i _ hc

theorem BInv.typed {st : BState} (h : BInv st) : Typed st.store := (binv_iff.1 h).2.2

theorem LinkOK.sub {cells cells' : Array Cell} (h : Sub cells cells') {c : Cell} (hc : LinkOK cells c) :
    LinkOK cells' c := by
  cases c <;> try trivial
  · exact isRegCell_sub h hc
  · exact ⟨isFrameCell_sub h hc.1, isRegCell_sub h hc.2⟩
  · exact isFrameCell_sub h hc
  · exact isRegCell_sub h hc

theorem Typed.grow {s s' : Store} (ht : Typed s) {B : List Cell} (hcells : s'.cells.toList = s.cells.toList ++ B)
    (hB : ∀ c ∈ B, LinkOK s'.cells c)
    (hreg : ∀ a, s'.currentRegister = some a → s.currentRegister = some a ∨ isRegCell s'.cells a = true)
    (hfrm : ∀ a, s'.currentFrame = some a → s.currentFrame = some a ∨ isFrameCell s'.cells a = true) : Typed s' := by
  have hsub : Sub s.cells s'.cells := sub_of_toList hcells
  refine ⟨?_, ?_, ?_⟩
  · intro a ha
    rcases hreg a ha with h | h
    · exact isRegCell_sub hsub (ht.reg a h)
    · exact h
  · intro a ha
    rcases hfrm a ha with h | h
    · exact isFrameCell_sub hsub (ht.frm a h)
    · exact h
  · intro i c hc
    rw [← Array.getElem?_toList, hcells] at hc
    rcases Nat.lt_or_ge i s.cells.size with h | h
    · rw [List.getElem?_append_left (by simpa using h), Array.getElem?_toList] at hc
      exact (ht.link i c hc).sub hsub
    · rw [List.getElem?_append_right (by simpa using h)] at hc
      exact hB c (List.mem_of_getElem? hc)

theorem headOK_of_regCell {cells : Array Cell} {o : Option Nat} (h : ∀ a, o = some a → isRegCell cells a = true) :
    headOK cells o = true := by
  cases o with
  | none => rfl
  | some x =>
    have := h x rfl
    unfold isRegCell at this
    cases hc : cells[x]? with
    | none => simp [hc] at this
    | some c =>
      rw [hc] at this
      cases c <;> simp at this
      · exact (by simp [headOK, isNode, shape_of_solo hc (sh := ⟨.register 0 0, [], [_, _]⟩) rfl])
      · exact (by simp [headOK, isNode, shape_of_solo hc (sh := ⟨.registerRoot 0, [], [_]⟩) rfl])

/-! The laws use `Fits` in three ways only: a push succeeds and keeps it, rewriting cells in place keeps it, moving a head
keeps it (`Room`).  Proved for any such predicate they hold with `Fits` (the invariant `BInv`) and with `Fits` and
`LayoutOK` (`BInvL`, Props/C19ListOn.lean) alike. -/

structure Room (P : Store → Prop) : Prop where
  push : ∀ s c, P s → ∃ s', s.push c = .ok (s', s.cells.size) ∧ s'.cells = s.cells.push c ∧ SameFrame s s' ∧ P s'
  cells : ∀ (s : Store) (cells' : Array Cell), P s → cells'.size = s.cells.size → P { s with cells := cells' }
  heads : ∀ s r v f, P s → P { s with currentRegister := r, currentValue := v, currentFrame := f }

theorem room_fits : Room Fits where
  push s c h := by obtain ⟨s', hp, hc, hf⟩ := push_total c h; exact ⟨s', hp, hc, (push_ok hp).2.2, hf⟩
  cells _ _ h hs := ⟨by rw [hs]; exact h.1, h.2⟩
  heads _ _ _ _ h := h

section
variable {P : Store → Prop} (R : Room P) {s s' : Store}
include R

theorem Room.of_push {c : Cell} {i : Nat} (hf : P s) (h : s.push c = .ok (s', i)) : P s' := by
  obtain ⟨s2, h2, _, _, hf2⟩ := R.push s c hf
  rw [h] at h2
  simp only [Outcome.ok.injEq, Prod.mk.injEq] at h2
  rw [h2.1]; exact hf2

theorem Room.setCell {i : Nat} {c : Cell} (hf : P s) (h : Store.setCell s i c = .ok s') : P s' := by
  unfold Store.setCell at h
  split at h
  · simp only [Outcome.ok.injEq] at h
    subst h
    exact R.cells _ _ hf (by simp)
  · cases h

end

structure BInvP (P : Store → Prop) (st : BState) : Prop where
  wfq : WFq st.store
  room : P st.store
  typed : Typed st.store

theorem BInv.toP {st : BState} (h : BInv st) : BInvP Fits st := ⟨h.wfq, h.fits, h.typed⟩

theorem BInvP.inv {st : BState} (h : BInvP Fits st) : BInv st := binv_iff.2 ⟨h.wfq, h.room, h.typed⟩

theorem BInvP.of_store {P : Store → Prop} {st st' : BState} (h : BInvP P st) (e : st'.store = st.store) : BInvP P st' :=
  ⟨e ▸ h.wfq, e ▸ h.room, e ▸ h.typed⟩

theorem binvP_fits : BInvP Fits = BInv := funext fun _ => propext ⟨BInvP.inv, BInv.toP⟩

section
variable {P : Store → Prop} {st : BState} (hinv : BInvP P st)
include hinv

theorem BInvP.regLt {r : Nat} (hr : st.store.currentRegister = some r) : r < st.store.cells.size :=
  isRegCell_lt (hinv.typed.reg r hr)

theorem BInvP.frmLt {f : Nat} (hf : st.store.currentFrame = some f) : f < st.store.cells.size :=
  isFrameCell_lt (hinv.typed.frm f hf)

theorem BInvP.valLt {a : Nat} (ha : st.store.currentValue = some a) : a < st.store.cells.size := by
  have := hinv.wfq.val; rw [ha] at this; exact svAt_lt this

theorem BInvP.saved (i p r : Nat)
    (h : st.store.cells[i]? = some (Cell.frame p r) ∨ st.store.cells[i]? = some (Cell.frameRegister r)) :
    r < st.store.cells.size := by
  rcases h with h | h
  · exact isRegCell_lt (hinv.typed.link i _ h).2
  · exact isRegCell_lt (hinv.typed.link i _ h)

theorem BInvP.grow {s' : Store} {B : List Cell}
    (hcells : s'.cells.toList = st.store.cells.toList ++ B) (hw : WFq s') (hroom : P s')
    (hB : ∀ c ∈ B, LinkOK s'.cells c)
    (hreg : ∀ a, s'.currentRegister = some a → st.store.currentRegister = some a ∨ isRegCell s'.cells a = true)
    (hfrm : ∀ a, s'.currentFrame = some a → st.store.currentFrame = some a ∨ isFrameCell s'.cells a = true) :
    BInvP P { st with store := s' } :=
  ⟨hw, hroom, hinv.typed.grow hcells hB hreg hfrm⟩

theorem BInvP.append {s' : Store} {B : List Cell}
    (hcells : s'.cells.toList = st.store.cells.toList ++ B) (hf : SameFrame st.store s') (hw : WFq s') (hroom : P s')
    (hB : ∀ c ∈ B, LinkOK s'.cells c) : BInvP P { st with store := s' } :=
  hinv.grow hcells hw hroom hB (fun _ h => .inl (hf.2.2.2.2.1 ▸ h)) (fun _ h => .inl (hf.2.2.2.2.2 ▸ h))

theorem BInvP.heads (R : Room P) (ro vo fo : Option Nat)
    (hr : ∀ a, ro = some a → isRegCell st.store.cells a = true) (hv : headSV st.store.cells vo = true)
    (hf : ∀ a, fo = some a → isFrameCell st.store.cells a = true ∧ isNode st.store.cells a = true) :
    BInvP P { st with store := { st.store with currentRegister := ro, currentValue := vo, currentFrame := fo } } :=
  ⟨hinv.wfq.withHeads ro vo fo (headOK_of_regCell hr) hv (by
      cases fo with
      | none => rfl
      | some x => exact (hf x rfl).2), R.heads _ _ _ _ hinv.room, hr, fun a ha => (hf a ha).1, hinv.typed.link⟩

theorem BInvP.frmHead (a : Nat) (ha : st.store.currentFrame = some a) :
    isFrameCell st.store.cells a = true ∧ isNode st.store.cells a = true :=
  ⟨hinv.typed.frm a ha, by have := hinv.wfq.frm; rw [ha] at this; exact this⟩

end

theorem keeps_agree (nc : NumCode F) {st : BState} {s' : Store} (hag : AgreeNS st.store.cells s'.cells) :
    Keeps (basicRStore nc) st { st with store := s' } :=
  ⟨fun _ _ h => decodes_mono (basicView_le _ hag) h, rfl, rfl, rfl, rfl⟩

theorem keeps_sub (nc : NumCode F) {st : BState} {s' : Store} (hsub : Sub st.store.cells s'.cells) :
    Keeps (basicRStore nc) st { st with store := s' } :=
  keeps_agree nc hsub.agreeNS

theorem vals_sub {P : Store → Prop} {st : BState} {s' : Store} (hinv : BInvP P st) (hsub : Sub st.store.cells s'.cells)
    (hv : s'.currentValue = st.store.currentValue) :
    valsOf s'.cells s'.currentValue = valsOf st.store.cells st.store.currentValue := by
  rw [hv]
  exact valsOf_sub hsub (fun a ha => hinv.valLt ha)

theorem regs_sub {P : Store → Prop} {st : BState} {s' : Store} (hinv : BInvP P st) (hsub : Sub st.store.cells s'.cells)
    (hv : s'.currentRegister = st.store.currentRegister) :
    regsOf s'.cells s'.currentRegister = regsOf st.store.cells st.store.currentRegister := by
  rw [hv]
  exact regsOf_sub hsub (fun a ha => hinv.regLt ha)

theorem frames_sub {P : Store → Prop} {st : BState} {s' : Store} (hinv : BInvP P st) (hsub : Sub st.store.cells s'.cells)
    (hv : s'.currentFrame = st.store.currentFrame) :
    framesOf s'.cells s'.currentFrame = framesOf st.store.cells st.store.currentFrame := by
  rw [hv]
  exact framesOf_sub hsub hinv.saved (fun a ha => hinv.frmLt ha)

theorem eff_sub (nc : NumCode F) {P : Store → Prop} {st : BState} {s' : Store} (hinv : BInvP P st)
    (hsub : Sub st.store.cells s'.cells) (hf : SameFrame st.store s') :
    Eff (basicRStore nc) st { st with store := s' } ((basicRStore nc).regs st) ((basicRStore nc).vals st) :=
  ⟨keeps_sub nc hsub, regs_sub hinv hsub hf.2.2.2.2.1, vals_sub hinv hsub hf.2.2.2.1, rfl,
    frames_sub hinv hsub hf.2.2.2.2.2⟩

theorem decodes_node {numOf : Nat → Number F} {s : Store} (hwf : WFq s) {a : Nat} {v : Val F}
    (h : Decodes (basicView numOf s.cells) a v) : a < s.cells.size ∧ isNode s.cells a = true := by
  have ht := decodes_typeOf h
  rw [bv_typeOf] at ht
  cases hc : s.cells[a]? with
  | none => simp [hc] at ht
  | some c =>
    have hlt := lt_of_getElem? hc
    refine ⟨hlt, ?_⟩
    rw [hc] at ht
    simp only [Option.bind_some] at ht
    have hhd := hwf.headers a hlt
    simp only [headerOK, hc] at hhd
    cases c <;> simp only [cellTy] at ht <;> first
      | (cases ht; done)
      | exact hhd
      | (simp [isNode, shape_of_solo hc (sh := _) rfl])

theorem push_value_cell (nc : NumCode F) {P : Store → Prop} (R : Room P) {st : BState} (hinv : BInvP P st) {c : Cell}
    {t : Ty} {sh : Shape}
    (hty : cellTy c = some t) (hso : soloShape c = some sh)
    (hk : ∀ k ∈ sh.kids, k < st.store.cells.size ∧ isNode st.store.cells k = true) :
    ∃ s', st.store.push c = .ok (s', st.store.cells.size) ∧ s'.cells = st.store.cells.push c ∧
      BInvP P { st with store := s' } ∧
      Eff (basicRStore nc) st { st with store := s' } ((basicRStore nc).regs st) ((basicRStore nc).vals st) := by
  obtain ⟨s', hp, hcells, hf, hroom⟩ := R.push _ c hinv.room
  obtain ⟨hw, _, _⟩ := push_solo_wfq hinv.wfq hso (cellTy_nsv hty) hk hp
  have hl : s'.cells.toList = st.store.cells.toList ++ [c] := by rw [hcells]; simp
  refine ⟨s', hp, hcells, hinv.append hl hf hw hroom ?_, eff_sub nc hinv (sub_of_toList hl) hf⟩
  intro x hx
  rw [List.mem_singleton.1 hx]
  cases c <;> first | trivial | cases hty

theorem liftAdd_ok {f : Store → Outcome (Store × Nat)} {st : BState} {s' : Store} {a : Nat}
    (h : f st.store = .ok (s', a)) : liftAdd f st = .ok (a, { st with store := s' }) := by
  simp [liftAdd, h]

section
variable (nc : NumCode F) {st : BState} {s' : Store}

theorem startList_ok {n i : Nat} (h : st.store.startList n = .ok (s', i)) :
    (basicRStore nc).startList n st = .ok (i, { st with store := s', building := some (i, []) }) := by
  show (match st.store.startList n with | .ok (s', i) => _ | .err e => _ | .panic m => _ | .fuelOut => _) = _
  rw [h]

theorem addToList_ok {t a : Nat} (h : st.store.addToList t a = .ok s') :
    (basicRStore nc).addToList t a st =
      .ok (t, { st with store := s', building := st.building.map (fun b => (t, b.2 ++ [a])) }) := by
  show (match st.store.addToList t a with | .ok s' => _ | .err e => _ | .panic m => _ | .fuelOut => _) = _
  rw [h]

theorem endList_ok {t i : Nat} (h : st.store.endList t = .ok (s', i)) :
    (basicRStore nc).endList t st = .ok (i, { st with store := s', building := none }) := by
  show (match st.store.endList t with | .ok (s', i) => _ | .err e => _ | .panic m => _ | .fuelOut => _) = _
  rw [h]

theorem setCurrentValue_ok {r : Nat} (h : st.store.setCurrentValue r = .ok s') :
    (basicRStore nc).setCurrentValue r st = .ok (true, { st with store := s' }) := by
  show (match st.store.setCurrentValue r with | .ok s' => _ | .err _ => _ | .panic m => _ | .fuelOut => _) = _
  rw [h]

end

theorem adds_leaf (nc : NumCode F) {P : Store → Prop} (R : Room P) {st : BState} (hinv : BInvP P st) {c : Cell} {t : Ty}
    (hty : cellTy c = some t)
    (hso : soloShape c = some ⟨c, [], []⟩) {v : Val F}
    (hdec : ∀ cells : Array Cell, cells[st.store.cells.size]? = some c →
      Decodes (basicView nc.dec cells) st.store.cells.size v) :
    AddsOn (basicRStore nc) (BInvP P) (liftAdd (·.push c)) st v := by
  obtain ⟨s', hp, hcells, hi, he⟩ := push_value_cell nc R hinv hty hso (by intro k hk; simp at hk)
  exact ⟨_, _, liftAdd_ok hp, hdec s'.cells (by rw [hcells]; exact Array.getElem?_push_size), he, hi⟩

theorem adds_two (nc : NumCode F) {P : Store → Prop} (R : Room P) {st : BState} (hinv : BInvP P st) {c : Cell} {t : Ty}
    {lab : Cell} {l r : Nat}
    (hty : cellTy c = some t) (hso : soloShape c = some ⟨lab, [], [l, r]⟩) {vl vr v : Val F}
    (hl : Decodes (basicView nc.dec st.store.cells) l vl) (hr : Decodes (basicView nc.dec st.store.cells) r vr)
    (hdec : ∀ cells : Array Cell, cells[st.store.cells.size]? = some c → Decodes (basicView nc.dec cells) l vl →
      Decodes (basicView nc.dec cells) r vr → Decodes (basicView nc.dec cells) st.store.cells.size v) :
    AddsOn (basicRStore nc) (BInvP P) (liftAdd (·.push c)) st v := by
  obtain ⟨s', hp, hcells, hi, he⟩ := push_value_cell nc R hinv hty hso (by
    intro k hk
    simp at hk
    rcases hk with rfl | rfl
    · exact decodes_node hinv.wfq hl
    · exact decodes_node hinv.wfq hr)
  exact ⟨_, _, liftAdd_ok hp,
    hdec s'.cells (by rw [hcells]; exact Array.getElem?_push_size) (he.keeps.dec _ _ hl) (he.keeps.dec _ _ hr), he, hi⟩


theorem flatB_fuel (cells : Array Cell) : ∀ (f a : Nat), a < f → flatB cells f a = flatB cells (a + 1) a := by
  intro f
  induction f using Nat.strongRecOn with
  | _ f ih =>
    intro a ha
    cases f with
    | zero => omega
    | succ f =>
      simp only [flatB]
      cases cells[a]? with
      | none => rfl
      | some c =>
        cases c <;> try rfl
        rename_i l r
        simp only
        by_cases hlr : l < a ∧ r < a
        · simp only [hlr, and_self, if_true]
          rw [ih f (by omega) l (by omega), ih f (by omega) r (by omega), ih a (by omega) l hlr.1, ih a (by omega) r hlr.2]
        · simp [hlr]

theorem flatB_other {cells : Array Cell} {a fuel : Nat} {c : Cell} {t : Ty} (hc : cells[a]? = some c)
    (ht : cellTy c = some t) (hl : t ≠ .list) (hcat : t ≠ .concatenation) : flatB cells (fuel + 1) a = some [a] := by
  rw [flatB, hc]
  cases c <;> cases ht
  case list => exact absurd rfl hl
  case concatenation => exact absurd rfl hcat
  all_goals rfl

theorem flat_of_decodes {numOf : Nat → Number F} {cells : Array Cell} {a : Nat} {v : Val F}
    (h : Decodes (basicView numOf cells) a v) :
    ∃ il, FlatOf (basicView numOf cells) a il ∧ flatB cells (a + 1) a = some il := by
  have ht := decodes_typeOf h
  have htc := ht
  rw [bv_typeOf] at htc
  cases hc : cells[a]? with
  | none => simp [hc] at htc
  | some c =>
    rw [hc] at htc
    simp only [Option.bind_some] at htc
    cases h with
    | @list _ items vs h1 h2 _ =>
      refine ⟨items, .list h1 h2, ?_⟩
      rw [bv_listItems, hc] at h2
      cases c <;> simp only [] at h2 <;> try (cases h2; done)
      simp only [flatB, hc]; exact h2
    | @concat _ l r vl vr il ir h1 h2 _ _ f1 f2 h3 =>
      refine ⟨il ++ ir, .concat h1 h2 f1 f2, ?_⟩
      rw [bv_concatItems, hc] at h3
      cases c <;> simp only [] at h3 <;> try (cases h3; done)
      rename_i l' r'
      simp only [flatB, hc]
      split at h3
      · rename_i hlr
        rw [if_pos hlr]
        exact h3
      · cases h3
    | _ => exact ⟨[a], .other ht nofun nofun, flatB_other hc htc nofun nofun⟩


section adders
variable (nc : NumCode F) {P : Store → Prop} (R : Room P) {st : BState} (hinv : BInvP P st)
include R hinv

theorem addUnit_law : AddsOn (basicRStore nc) (BInvP P) (basicRStore nc).addUnit st .unit :=
  adds_leaf nc R hinv (c := .unit) rfl rfl (fun _ h => .unit (typeOf_cell h))

theorem addTrue_law : AddsOn (basicRStore nc) (BInvP P) (basicRStore nc).addTrue st .tru :=
  adds_leaf nc R hinv (c := .tru) rfl rfl (fun _ h => .tru (typeOf_cell h))

theorem addFalse_law : AddsOn (basicRStore nc) (BInvP P) (basicRStore nc).addFalse st .fls :=
  adds_leaf nc R hinv (c := .fls) rfl rfl (fun _ h => .fls (typeOf_cell h))

theorem addNumber_law (n : Number F) : AddsOn (basicRStore nc) (BInvP P) ((basicRStore nc).addNumber n) st (.num n) :=
  adds_leaf nc R hinv (c := .number (nc.enc n)) rfl rfl
    (fun cells h => .num (typeOf_cell h) (by simp only [bv_number, h, nc.dec_enc]))

theorem addType_law (t : Ty) : AddsOn (basicRStore nc) (BInvP P) ((basicRStore nc).addType t) st (.type t) :=
  adds_leaf nc R hinv (c := .type t) rfl rfl
    (fun cells h => .type (typeOf_cell h) (by rw [bv_type_, h]))

theorem addChar_law (c : Nat) : AddsOn (basicRStore nc) (BInvP P) ((basicRStore nc).addChar c) st (.char c) :=
  adds_leaf nc R hinv (c := .char c) rfl rfl
    (fun cells h => .char (typeOf_cell h) (by rw [bv_char, h]))

theorem addByte_law (b : Nat) : AddsOn (basicRStore nc) (BInvP P) ((basicRStore nc).addByte b) st (.byte b) :=
  adds_leaf nc R hinv (c := .byte b) rfl rfl
    (fun cells h => .byte (typeOf_cell h) (by rw [bv_byte, h]))

theorem addSymbol_law (y : Nat) : AddsOn (basicRStore nc) (BInvP P) ((basicRStore nc).addSymbol y) st (.sym y) :=
  adds_leaf nc R hinv (c := .symbol y) rfl rfl
    (fun cells h => .sym (typeOf_cell h) (by rw [bv_symbol, h]))

variable {l r : Nat} {vl vr : Val F}
  (hl : Decodes ((basicRStore nc).view st) l vl) (hr : Decodes ((basicRStore nc).view st) r vr)
include hl hr

theorem addPair_law : AddsOn (basicRStore nc) (BInvP P) ((basicRStore nc).addPair (l, r)) st (.pair vl vr) :=
  adds_two nc R hinv (c := .pair l r) rfl rfl hl hr
    (fun cells h d1 d2 => .pair (typeOf_cell h) (by rw [bv_pair, h]) d1 d2)

theorem addRange_law : AddsOn (basicRStore nc) (BInvP P) ((basicRStore nc).addRange l r) st (.range vl vr) :=
  adds_two nc R hinv (c := .range l r) rfl rfl hl hr
    (fun cells h d1 d2 => .range (typeOf_cell h) (by rw [bv_range, h]) d1 d2)

theorem addSlice_law : AddsOn (basicRStore nc) (BInvP P) ((basicRStore nc).addSlice l r) st (.slice vl vr) :=
  adds_two nc R hinv (c := .slice l r) rfl rfl hl hr
    (fun cells h d1 d2 => .slice (typeOf_cell h) (by rw [bv_slice, h]) d1 d2)

theorem addPartial_law : AddsOn (basicRStore nc) (BInvP P) ((basicRStore nc).addPartial l r) st (.part vl vr) :=
  adds_two nc R hinv (c := .partial_ l r) rfl rfl hl hr
    (fun cells h d1 d2 => .part (typeOf_cell h) (by rw [bv_partial_, h]) d1 d2)

theorem addConcatenation_law : AddsOn (basicRStore nc) (BInvP P) ((basicRStore nc).addConcatenation l r) st (.concat vl vr) := by
  have hln := (decodes_node hinv.wfq hl).1
  have hrn := (decodes_node hinv.wfq hr).1
  refine adds_two nc R hinv (c := .concatenation l r) rfl rfl hl hr (fun cells h d1 d2 => ?_)
  obtain ⟨il, f1, g1⟩ := flat_of_decodes d1
  obtain ⟨ir, f2, g2⟩ := flat_of_decodes d2
  refine .concat (typeOf_cell h) (by rw [bv_concatenation, h]) d1 d2 f1 f2 ?_
  rw [bv_concatItems, h]
  simp only
  rw [if_pos ⟨hln, hrn⟩, flatB_fuel cells _ l hln, flatB_fuel cells _ r hrn, g1, g2]

end adders


theorem rangeTyped_law (nc : NumCode F) (st : BState) (a : Nat) (p : Nat × Nat)
    (h : ((basicRStore nc).view st).range a = some p) : ((basicRStore nc).view st).typeOf a = some .range := by
  show (basicView nc.dec st.store.cells).typeOf a = some .range
  change (basicView nc.dec st.store.cells).range a = some p at h
  rw [bv_range] at h
  rw [bv_typeOf]
  cases hc : st.store.cells[a]? with
  | none => simp [hc] at h
  | some c => rw [hc] at h; cases c <;> simp at h <;> rfl

theorem seq_indexes {β : Type} (seq : Nat → Option (List β)) :
    Indexes (F := F) (fun a => seqLen (seq a)) (fun a i => seqItemB (seq a) i) seq := by
  intro a xs h
  refine ⟨by simp [seqLen, h], ?_⟩
  intro i hi
  simp [seqItemB, h]

theorem list_indexes (seq : Nat → Option (List Nat)) :
    Indexes (F := F) (fun a => seqLen (seq a)) (fun a i => listItemB (seq a) i) seq := by
  intro a xs h
  refine ⟨by simp [seqLen, h], ?_⟩
  intro i hi
  have h1 : ¬ ((i : Int) < 0) := by omega
  have h2 : ¬ ((i : Int).toNat ≥ xs.length) := by simp; omega
  simp [listItemB, h, h1]
  omega

theorem setCursor_law (nc : NumCode F) {P : Store → Prop} (n : Nat) (st : BState) :
    ∃ st', (basicRStore nc).setInstructionCursor n st = .ok ((), st') ∧ (basicRStore nc).cursor st' = n ∧
      (∀ a v, Decodes ((basicRStore nc).view st) a v → Decodes ((basicRStore nc).view st') a v) ∧
      (basicRStore nc).jumpTable st' = (basicRStore nc).jumpTable st ∧
      (basicRStore nc).instrLen st' = (basicRStore nc).instrLen st ∧
      (basicRStore nc).instruction st' = (basicRStore nc).instruction st ∧
      (basicRStore nc).dataLen st' = (basicRStore nc).dataLen st ∧
      (basicRStore nc).regs st' = (basicRStore nc).regs st ∧ (basicRStore nc).vals st' = (basicRStore nc).vals st ∧
      (basicRStore nc).trace st' = (basicRStore nc).trace st ∧ (basicRStore nc).frames st' = (basicRStore nc).frames st ∧
      (BInvP P st → BInvP P st') :=
  ⟨{ st with cursor := n }, rfl, rfl, fun _ _ h => h, rfl, rfl, rfl, rfl, rfl, rfl, rfl, rfl,
    fun h => ⟨h.wfq, h.room, h.typed⟩⟩

theorem records_law (nc : NumCode F) (c : HostCall) : Records (basicRStore nc) (recordHost c) c := by
  intro s b s' h
  simp only [recordHost, Outcome.ok.injEq, Prod.mk.injEq] at h
  rw [← h.2]; rfl

end Garnish.Lemmas.Runtime.Basic
