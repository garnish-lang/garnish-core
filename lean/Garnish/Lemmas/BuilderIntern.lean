/-
The addresses of the constants the builder adds to a fresh `SimpleGarnishData`.

The statement-level builder model (Model/Build.lean) keeps one entry per `add_*` / `parse_add_*` call in `consts` — the
VALUE — and uses the index of the entry as operand.  The Rust builder uses the address the data object returns:
`add_unit` / `add_false` / `add_true` answer 0 / 1 / 2 (the preallocated cells of `SimpleDataList::default()`), every
other constant goes through `cache_add` (Model/Runtime/SimpleStore.lean `SimState.cacheAdd`: a hit answers with a stored
address, a miss pushes).  `addAll` replays the calls in order on the data list, `builderData` / `builderAddr` are the
data list it leaves and the map "index of the model's constant ↦ address the data object returned" — so the program the
Rust builder leaves in a fresh `SimpleGarnishData` is `relocBy (builderAddr hit P) (builderData hit P) P`.

`builder_constsAgree`: for a sound hit decision (`HitSound`: a hit holds the value — /repo d7e2139 "cache_add confirms a cache
hit by comparing the stored value") and constants that are leaves (`isLeafS`: everything `build` adds) the map satisfies `ConstsAgree` — with
any amount of sharing the cache produces.
-/
import Garnish.Lemmas.RuntimeReloc
import Garnish.Props.C01TextStoreSimple
import Garnish.Lemmas.DecodesUnique
namespace Garnish.Lemmas.BuilderIntern
open Garnish Garnish.Gen Garnish.Abs Garnish.Model.Runtime Garnish.Props.C01TextStore
open Garnish.Lemmas.Runtime.On

variable {F : Type}

/-- `SimpleDataList::default()` -/
def seed : Array (Val F) := #[.unit, .fls, .tru]

/-- one `add_*` call of the builder on the data list `C` -/
def addConst (hit : List (SimCell F) → SimCell F → Option Nat) (C : Array (Val F)) (v : Val F) : Array (Val F) × Nat :=
  match v with
  | .unit => (C, 0)
  | .fls => (C, 1)
  | .tru => (C, 2)
  | v =>
    match hit (C.toList.map simCellOfVal) (simCellOfVal v) with
    | some a => (C, a)
    | none => (C.push v, C.size)

/-- the calls in order: the data list they leave and the addresses they returned -/
def addAll (hit : List (SimCell F) → SimCell F → Option Nat) : List (Val F) → Array (Val F) → Array (Val F) × List Nat
  | [], C => (C, [])
  | v :: vs, C => ((addAll hit vs (addConst hit C v).1).1, (addConst hit C v).2 :: (addAll hit vs (addConst hit C v).1).2)

def builderData (hit : List (SimCell F) → SimCell F → Option Nat) (P : Prog F) : Array (Val F) :=
  (addAll hit P.consts.toList seed).1

/-- index of the model's constant ↦ address the data object returned (past the data list where there is no constant) -/
def builderAddr (hit : List (SimCell F) → SimCell F → Option Nat) (P : Prog F) (k : Nat) : Nat :=
  ((addAll hit P.consts.toList seed).2[k]?).getD ((builderData hit P).size + k)

def SeededV (C : Array (Val F)) : Prop := C[0]? = some .unit ∧ C[1]? = some .fls ∧ C[2]? = some .tru

theorem simCellOfVal_inj {v w : Val F} (hv : isLeafS v = true) (hw : isLeafS w = true)
    (h : simCellOfVal v = simCellOfVal w) : v = w :=
  Runtime.decodes_unique (simLeaf_decodes (cells := [simCellOfVal v]) (k := 0) rfl hv)
    (simLeaf_decodes (by rw [h]; rfl) hw)

def Ext (C C' : Array (Val F)) : Prop := ∀ (a : Nat) (v : Val F), C[a]? = some v → C'[a]? = some v

theorem Ext.refl (C : Array (Val F)) : Ext C C := fun _ _ h => h
theorem Ext.trans {A B C : Array (Val F)} (h1 : Ext A B) (h2 : Ext B C) : Ext A C := fun a v h => h2 a v (h1 a v h)

theorem ext_push (C : Array (Val F)) (v : Val F) : Ext C (C.push v) := by
  intro a w h
  have hlt : a < C.size := by
    rcases Nat.lt_or_ge a C.size with h1 | h1
    · exact h1
    · rw [Array.getElem?_eq_none h1] at h; cases h
  rw [Array.getElem?_push, if_neg (by omega)]; exact h

theorem SeededV.ext {C C' : Array (Val F)} (h : SeededV C) (he : Ext C C') : SeededV C' :=
  ⟨he 0 _ h.1, he 1 _ h.2.1, he 2 _ h.2.2⟩

theorem addConst_spec {hit : List (SimCell F) → SimCell F → Option Nat} (hs : HitSound hit) {C : Array (Val F)} {v : Val F}
    (hseed : SeededV C) (hC : C.toList.all isLeafS = true) (hv : isLeafS v = true) :
    Ext C (addConst hit C v).1 ∧ (addConst hit C v).1.toList.all isLeafS = true ∧
      (addConst hit C v).1[(addConst hit C v).2]? = some v := by
  have hpush : Ext C (C.push v) ∧ (C.push v).toList.all isLeafS = true ∧ (C.push v)[C.size]? = some v :=
    ⟨ext_push C v, by simp [hC, hv], by simp⟩
  have hcache : ∀ (hnu : v ≠ .unit) (hnf : v ≠ .fls) (hnt : v ≠ .tru),
      addConst hit C v = (match hit (C.toList.map simCellOfVal) (simCellOfVal v) with
        | some a => (C, a) | none => (C.push v, C.size)) := by
    intro hnu hnf hnt
    cases v <;> first | rfl | exact absurd rfl hnu | exact absurd rfl hnf | exact absurd rfl hnt
  have key : ∀ (hnu : v ≠ .unit) (hnf : v ≠ .fls) (hnt : v ≠ .tru),
      Ext C (addConst hit C v).1 ∧ (addConst hit C v).1.toList.all isLeafS = true ∧
        (addConst hit C v).1[(addConst hit C v).2]? = some v := by
    intro hnu hnf hnt
    rw [hcache hnu hnf hnt]
    cases hh : hit (C.toList.map simCellOfVal) (simCellOfVal v) with
    | none => exact hpush
    | some a =>
      refine ⟨Ext.refl C, hC, ?_⟩
      have h1 := hs _ _ _ hh
      rw [List.getElem?_map] at h1
      cases hca : C.toList[a]? with
      | none => rw [hca] at h1; cases h1
      | some w =>
        rw [hca] at h1
        simp only [Option.map_some, Option.some.injEq] at h1
        have hwl : isLeafS w = true := by
          have := List.all_eq_true.1 hC w (List.mem_of_getElem? hca)
          exact this
        have := simCellOfVal_inj hwl hv h1
        subst this
        show C[a]? = some w
        simpa using hca
  cases v with
  | unit => exact ⟨Ext.refl C, hC, hseed.1⟩
  | fls => exact ⟨Ext.refl C, hC, hseed.2.1⟩
  | tru => exact ⟨Ext.refl C, hC, hseed.2.2⟩
  | _ => exact key (by intro h; cases h) (by intro h; cases h) (by intro h; cases h)

theorem addAll_spec {hit : List (SimCell F) → SimCell F → Option Nat} (hs : HitSound hit) :
    ∀ (vs : List (Val F)) (C : Array (Val F)), SeededV C → C.toList.all isLeafS = true → vs.all isLeafS = true →
      Ext C (addAll hit vs C).1 ∧ (addAll hit vs C).1.toList.all isLeafS = true ∧
        (addAll hit vs C).2.length = vs.length ∧
        ∀ (k : Nat) (v : Val F), vs[k]? = some v → ∃ a, (addAll hit vs C).2[k]? = some a ∧ (addAll hit vs C).1[a]? = some v := by
  intro vs
  induction vs with
  | nil => intro C _ hC _; exact ⟨Ext.refl C, hC, rfl, fun k v h => by cases h⟩
  | cons v vs ih =>
    intro C hseed hC hvs
    rw [List.all_cons, Bool.and_eq_true] at hvs
    obtain ⟨h1, h2, h3⟩ := addConst_spec hs hseed hC hvs.1
    obtain ⟨g1, g2, g3, g4⟩ := ih (addConst hit C v).1 (hseed.ext h1) h2 hvs.2
    refine ⟨h1.trans g1, g2, by simp [addAll, g3], fun k w hk => ?_⟩
    cases k with
    | zero =>
      simp only [List.getElem?_cons_zero, Option.some.injEq] at hk
      subst hk
      exact ⟨(addConst hit C v).2, rfl, g1 _ _ h3⟩
    | succ k =>
      simp only [List.getElem?_cons_succ] at hk
      obtain ⟨a, ha1, ha2⟩ := g4 k w hk
      exact ⟨a, by simpa [addAll] using ha1, ha2⟩

theorem seededV_seed : SeededV (seed : Array (Val F)) := ⟨rfl, rfl, rfl⟩

variable {hit : List (SimCell F) → SimCell F → Option Nat}

/-- **a replay whose returned addresses hold their values agrees with the constants**: `addrs` are the addresses the
data object answered, call by call, `data` the data list it leaves; past the constants the map points past the list -/
theorem constsAgree_of_replay {P : Prog F} {data : Array (Val F)} {addrs : List Nat}
    (hlen : addrs.length = P.consts.toList.length)
    (hget : ∀ (k : Nat) (v : Val F), P.consts.toList[k]? = some v → ∃ a, addrs[k]? = some a ∧ data[a]? = some v) :
    ConstsAgree (fun k => (addrs[k]?).getD (data.size + k)) data P := by
  intro k
  cases hk : P.consts[k]? with
  | some v =>
    obtain ⟨a, ha1, ha2⟩ := hget k v (by simpa using hk)
    show data[(addrs[k]?).getD _]? = some v
    rw [ha1]; exact ha2
  | none =>
    have hge : P.consts.size ≤ k := by
      rcases Nat.lt_or_ge k P.consts.size with h | h
      · rw [Array.getElem?_eq_getElem h] at hk; cases hk
      · exact h
    have hnone : addrs[k]? = none := by
      apply List.getElem?_eq_none; rw [hlen]; simpa using hge
    show data[(addrs[k]?).getD _]? = none
    rw [hnone]
    exact Array.getElem?_eq_none (by simp)

theorem builder_constsAgree (hs : HitSound hit) (P : Prog F) (hleaf : P.consts.toList.all isLeafS = true) :
    ConstsAgree (builderAddr hit P) (builderData hit P) P := by
  obtain ⟨_, _, hlen, hget⟩ := addAll_spec hs P.consts.toList seed seededV_seed (by rfl) hleaf
  exact constsAgree_of_replay hlen hget

theorem builder_seeded (hs : HitSound hit) (P : Prog F) (hleaf : P.consts.toList.all isLeafS = true) :
    (builderData hit P)[0]? = some .unit ∧ (builderData hit P)[1]? = some .fls ∧ (builderData hit P)[2]? = some .tru :=
  seededV_seed.ext (addAll_spec hs P.consts.toList seed seededV_seed (by rfl) hleaf).1

theorem builder_leaves (hs : HitSound hit) (P : Prog F) (hleaf : P.consts.toList.all isLeafS = true) :
    (builderData hit P).toList.all isLeafS = true :=
  (addAll_spec hs P.consts.toList seed seededV_seed (by rfl) hleaf).2.1

theorem addConst_is_cacheAdd (C : Array (Val F)) (v : Val F) (hnu : v ≠ .unit) (hnf : v ≠ .fls) (hnt : v ≠ .tru)
    (st : SimState F) (hst : st.cells = C.toList.map simCellOfVal) :
    ∃ st', SimState.cacheAdd hit (simCellOfVal v) st = .ok ((addConst hit C v).2, st') ∧
      st'.cells = (addConst hit C v).1.toList.map simCellOfVal := by
  have hcache : addConst hit C v = (match hit (C.toList.map simCellOfVal) (simCellOfVal v) with
      | some a => (C, a) | none => (C.push v, C.size)) := by
    cases v <;> first | rfl | exact absurd rfl hnu | exact absurd rfl hnf | exact absurd rfl hnt
  rw [hcache]
  unfold SimState.cacheAdd
  rw [hst]
  cases hit (C.toList.map simCellOfVal) (simCellOfVal v) with
  | some a => exact ⟨st, rfl, hst⟩
  | none => exact ⟨{ st with cells := C.toList.map simCellOfVal ++ [simCellOfVal v] }, by simp, by simp⟩

end Garnish.Lemmas.BuilderIntern
