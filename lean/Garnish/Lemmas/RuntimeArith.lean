/-
Refinement lemmas for arithmetic.rs / bitwise.rs: the defer idiom obeys the defer protocol; `perform_op` and
`perform_unary_op` against their value-level descriptions (`binNumOut`, `unNumOut`) for an arbitrary number operation
(`arithBinary_eq` / `arithUnary_eq`: Abs/Ops `arithBinary` / `arithUnary` are those descriptions at `Number.apply`).
-/
import Garnish.Lemmas.RuntimeLaws
import Garnish.Model.Runtime.Arithmetic
import Garnish.Lemmas.Ops
namespace Garnish.Lemmas.Runtime
open Garnish Gen Garnish.Abs Garnish.Model.Equality Garnish.Model.Runtime

variable {F σ : Type} {S : RStore F σ}

/-- value-level description of `perform_op` for an arbitrary number operation `op` -/
def binNumOut (opName : Instruction) (op : Number F → Number F → Option (Number F)) (vl vr : Val F) : OpOut F :=
  match vl, vr with
  | .num a, .num b => .val (numResult (op a b))
  | vl, vr => .defer opName vl vr

/-- value-level description of `perform_unary_op` for an arbitrary number operation `op` -/
def unNumOut (opName : Instruction) (op : Number F → Option (Number F)) (v : Val F) : OpOut F :=
  match v with
  | .num a => .val (numResult (op a))
  | v => .defer opName v .unit

namespace Core
open On

variable {Inv : σ → Prop} {Rd : σ → Nat → Prop} {K : Prop}

/-- the idiom `if !defer_op(..)? { push_unit()? }` followed by `Ok(next)` obeys the defer protocol -/
theorem deferOrUnit_spec {α} (L : LawsK S Inv Rd K) (s0 : σ) (op : Instruction) (lt rt : Ty × Nat) (next : α) :
    DeferProtocolI S Inv s0 ((deferOrUnit S op lt rt >>= fun _ => pure next) s0) next op lt rt := by
  unfold DeferProtocolI
  cases h : S.deferOp op lt rt s0 with
  | ok p =>
    obtain ⟨b, s1⟩ := p
    cases b with
    | true =>
      simp only []
      rw [deferOrUnit, bind_apply, bind_ok h]; rfl
    | false =>
      simp only []
      intro hi1
      obtain ⟨a, s2, h2, d2, e2⟩ := pushUnit_spec L s1
      refine ⟨a, s2, ?_, d2, e2⟩
      rw [deferOrUnit, bind_apply, bind_ok h]
      simp only [Bool.not_false, if_true]
      rw [h2]; rfl
  | err e => simp only []; rw [deferOrUnit, bind_apply, bind_err h]
  | panic p => simp only []; rw [deferOrUnit, bind_apply, bind_apply, h]
  | fuelOut => simp only []; rw [deferOrUnit, bind_apply, bind_apply, h]

theorem performOp_spec (L : LawsK S Inv Rd K) (opName : Instruction) (op : Number F → Number F → Option (Number F))
    {s : σ} {r l : Nat} {vr vl : Val F} {rest : List Nat}
    (hregs : S.regs s = r :: l :: rest) (hl : Decodes (S.view s) l vl) (hr : Decodes (S.view s) r vr)
    (hi : Inv s := by inv_tac) (hd : DeepK K S s rest := by deep_tac) :
    RefinesOutI S Inv s (performOp S opName op s) none rest l r
      (binNumOut opName op vl vr) := by
  obtain ⟨s0, h0, e0⟩ := nextTwoRawRef_cons L hregs
  have hl0 := e0.dec hl
  have hr0 := e0.dec hr
  rw [performOp, bind_ok h0]
  simp only []
  rw [bind_ok (getDataType_of hl0), bind_ok (getDataType_of hr0)]
  by_cases hn : vl.typeOf = .number ∧ vr.typeOf = .number
  · obtain ⟨a, rfl⟩ := typeOf_number hn.1
    obtain ⟨b, rfl⟩ := typeOf_number hn.2
    simp only [Val.typeOf]
    rw [bind_ok (getNumber_of hl0), bind_ok (getNumber_of hr0)]
    simp only [binNumOut]
    cases hop : op a b with
    | some n =>
      obtain ⟨x, s2, h2, d2, e2⟩ := pushNumber_spec L n s0
      rw [e0.regs, e0.vals] at e2
      exact ⟨x, s2, by simp only []; rw [bind_ok h2]; rfl, d2, e0.trans e2⟩
    | none =>
      obtain ⟨x, s2, h2, d2, e2⟩ := pushUnit_spec L s0
      rw [e0.regs, e0.vals] at e2
      exact ⟨x, s2, by simp only []; rw [bind_ok h2]; rfl, d2, e0.trans e2⟩
  · have hd : binNumOut opName op vl vr = .defer opName vl vr := by
      unfold binNumOut
      split
      · exact absurd ⟨rfl, rfl⟩ hn
      · rfl
    rw [hd]
    refine ⟨s0, e0, ?_⟩
    generalize vl.typeOf = tl at hn ⊢
    generalize vr.typeOf = tr at hn ⊢
    split
    · exact absurd ⟨rfl, rfl⟩ hn
    · exact deferOrUnit_spec L s0 opName _ _ none

theorem performUnaryOp_spec (L : LawsK S Inv Rd K) (opName : Instruction) (op : Number F → Option (Number F))
    {s : σ} {a : Nat} {v : Val F} {rest : List Nat}
    (hregs : S.regs s = a :: rest) (h : Decodes (S.view s) a v)
    (hi : Inv s := by inv_tac) (hd : DeepK K S s rest := by deep_tac) :
    RefinesOutI S Inv s (performUnaryOp S opName op s) none rest a 0 (unNumOut opName op v) := by
  obtain ⟨s0, h0, e0⟩ := nextRef_cons L hregs
  have h' := e0.dec h
  rw [performUnaryOp, bind_ok h0, bind_ok (getDataType_of h')]
  by_cases hn : v.typeOf = .number
  · obtain ⟨n, rfl⟩ := typeOf_number hn
    simp only [Val.typeOf]
    rw [bind_ok (getNumber_of h')]
    simp only [unNumOut]
    cases hop : op n with
    | some m =>
      obtain ⟨x, s2, h2, d2, e2⟩ := pushNumber_spec L m s0
      rw [e0.regs, e0.vals] at e2
      exact ⟨x, s2, by simp only []; rw [bind_ok h2]; rfl, d2, e0.trans e2⟩
    | none =>
      obtain ⟨x, s2, h2, d2, e2⟩ := pushUnit_spec L s0
      rw [e0.regs, e0.vals] at e2
      exact ⟨x, s2, by simp only []; rw [bind_ok h2]; rfl, d2, e0.trans e2⟩
  · have hd : unNumOut opName op v = .defer opName v .unit := by
      unfold unNumOut
      split
      · exact absurd rfl hn
      · rfl
    rw [hd]
    refine ⟨s0, e0, ?_⟩
    generalize v.typeOf = t at hn ⊢
    split
    · exact absurd rfl hn
    · exact deferOrUnit_spec L s0 opName _ _ none

end Core

theorem deferOrUnit_spec {α} (L : StoreLaws S) (s0 : σ) (op : Instruction) (lt rt : Ty × Nat) (next : α) :
    DeferProtocol S s0 ((deferOrUnit S op lt rt >>= fun _ => pure next) s0) next op lt rt :=
  (Core.deferOrUnit_spec L.toK s0 op lt rt next).plain

variable (fo : FloatOps F)

theorem arithBinary_eq (op : Instruction) (nop : NumOp) (vl vr : Val F) :
    arithBinary fo op nop vl vr = binNumOut op (Number.apply fo nop) vl vr := by
  unfold arithBinary binNumOut
  split
  · rfl
  · rename_i hn
    split
    · exact (hn _ _ rfl rfl).elim
    · rfl

theorem arithUnary_eq (op : Instruction) (nop : NumOp) (v : Val F) :
    arithUnary fo op nop v = unNumOut op (fun a => Number.apply fo nop a a) v := by
  cases v <;> rfl

end Garnish.Lemmas.Runtime
