/-
C06 static half on compiled code: `edges_of_out` — where the stretch `out cur e p` of a well-formed expression (with `^~` in
tail positions only, when it starts at depth 0) sits in the final layout state with its ghost depths (`HoldsD`), every
instruction of it is entered at its ghost depth with its operands present, each of its edges carries the ghost depth of
its target, and the roots it pushes return to joins of the right depth (`Edges`). Induction over the expression on the
final state; a stretch followed by another is `Edges.app`, one instruction is `Edges.instr`.
Then `HoldsD.final`: what `emit` wrote sits so in the final state; `emitList_edges`, `emitArms_edges` are the list and arm forms.
-/
import Garnish.Lemmas.CompileDepth
namespace Garnish.Abs
open Garnish Gen Garnish.Spec Garnish.Props.C06

variable {F : Type} {sF : LState F}

/-- the instruction at `q` — if there is one — is entered at the depth `q.dep` -/
def NextD (sF : LState F) (q : Pos) : Prop := sF.instrs.size ≤ q.ni ∨ sF.depths[q.ni]? = some q.dep

theorem NextD.of {q : Pos} {n k : Nat} (hn : q.ni = n) (hk : q.dep = k)
    (h : sF.instrs.size ≤ n ∨ sF.depths[n]? = some k) : NextD sF q := by subst hn hk; exact h

/-- the stretch `o`, entered at depth `p.dep`, is in the final state with its ghost depths, and its jump entries exist -/
structure HoldsD (sF : LState F) (p : Pos) (o : Out F) : Prop where
  h : Holds sF.toProg p o
  depths : ∀ i d, (scanD o.instrs p.dep)[i]? = some d → sF.depths[p.ni + i]? = some d
  jsize : (p.after o).nj ≤ sF.jumps.size

theorem HoldsD.left {p : Pos} {a b : Out F} (h : HoldsD sF p (a ++ b)) : HoldsD sF p a :=
  ⟨h.h.left, fun i d hd => h.depths i d (by
      rw [Out.append_instrs, scanD_append, List.getElem?_append_left (List.getElem?_eq_some_iff.1 hd).1]; exact hd),
    Nat.le_trans (by rw [Pos.after_app]; exact Pos.after_nj _ _) h.jsize⟩

theorem HoldsD.right {p : Pos} {a b : Out F} (h : HoldsD sF p (a ++ b)) : HoldsD sF (p.after a) b :=
  ⟨h.h.right, fun i d hd => by
      have := h.depths (a.instrs.length + i) d (by
        rw [Out.append_instrs, scanD_append, List.getElem?_append_right (by simp [scanD_length])]
        simpa [scanD_length, Pos.after] using hd)
      simpa [Pos.after, Nat.add_assoc] using this,
    by rw [← Pos.after_app]; exact h.jsize⟩

theorem HoldsD.first {p : Pos} {o : Out F} (h : HoldsD sF p o) (hpos : 0 < o.instrs.length) :
    sF.depths[p.ni]? = some p.dep := by
  cases hx : o.instrs with
  | nil => rw [hx] at hpos; cases hpos
  | cons x xs => simpa using h.depths 0 p.dep (by rw [hx]; rfl)

/-- the depth at which what follows `a` is entered: read off the stretch, or what follows the whole -/
theorem HoldsD.nextD {p : Pos} {a b : Out F} (h : HoldsD sF p (a ++ b)) (hn : NextD sF (p.after (a ++ b))) :
    NextD sF (p.after a) := by
  cases hb : b.instrs with
  | nil => simpa [NextD, Pos.after, hb] using hn
  | cons x xs => exact .inr (h.right.first (by rw [hb]; simp))

theorem HoldsD.instrI {q : Pos} {i : Instruction} {d : Option Nat} (h : HoldsD sF q (oI i d)) :
    sF.toProg.instrs[q.ni]? = some (i, d) := by simpa using h.h.instrs 0 (i, d) rfl

/-- every instruction of the stretch is `EdgeOK`, every root it pushes `TermOK` -/
def Edges (sF : LState F) (p : Pos) (o : Out F) : Prop :=
  (∀ pc, p.ni ≤ pc → pc < p.ni + o.instrs.length → EdgeOK sF pc) ∧ ∀ r ∈ o.roots, TermOK sF r.1 r.2

theorem Edges.app {p : Pos} {a b : Out F} (ha : Edges sF p a) (hb : Edges sF (p.after a) b) : Edges sF p (a ++ b) := by
  refine ⟨fun pc h1 h2 => ?_, fun r hr => ?_⟩
  · by_cases hlt : pc < p.ni + a.instrs.length
    · exact ha.1 pc h1 hlt
    · exact hb.1 pc (by simp only [Pos.after]; omega) (by simp only [Pos.after]; simp at h2; omega)
  · simp only [Out.append_roots, List.mem_append] at hr
    exact hr.elim (hb.2 r) (ha.2 r)

theorem Edges.nil {p : Pos} {o : Out F} (hi : o.instrs = []) (hr : o.roots = []) : Edges sF p o :=
  ⟨fun pc h1 h2 => by rw [hi] at h2; simp at h2; omega, fun r h => by rw [hr] at h; cases h⟩

theorem Edges.instr {q : Pos} {i : Instruction} {d : Option Nat} {k : Nat} {es : List (Nat × Nat)}
    (h : HoldsD sF q (oI i d)) (hk : q.dep = k) (hn : NextD sF (q.after (oI i d : Out F)))
    (he : edges sF.toProg q.ni k = some es) (hes : ∀ e ∈ es, e = (q.ni + 1, fall i d k)) : Edges sF q (oI i d) := by
  refine ⟨fun pc h1 h2 => ?_, fun r hr => by cases hr⟩
  obtain rfl : pc = q.ni := by simp at h2; omega
  refine .mk (hk ▸ h.first (by simp)) he (fun e hm => ?_)
  rw [hes e hm]
  simpa [NextD, Pos.after, endD, hk] using hn

theorem Edges.const {q : Pos} {i : Instruction} {v : Val F} (hi : i = .put ∨ i = .resolve)
    (h : HoldsD sF q (oC q i v)) (hn : NextD sF (q.after (oC q i v))) : Edges sF q (oC q i v) := by
  refine ⟨fun pc h1 h2 => ?_, fun r hr => by cases hr⟩
  obtain rfl : pc = q.ni := by simp at h2; omega
  have hf : fall i (some q.nc) q.dep = q.dep + 1 := by rcases hi with rfl | rfl <;> rfl
  refine .next (h.first (by simp)) (edges_push1 (by simpa using h.h.instrs 0 _ rfl) (hi.elim .inl (fun e => .inr (.inr e)))) ?_
  simpa [NextD, Pos.after, oC, endD, hf] using hn

/-- a pushed piece of code returns to a join entered one above the depth at which the piece starts -/
theorem TermOK.code {t : Expr F} {cur j join tj dr : Nat} {term : List Instr} (hj : sF.jumps[join]? = some tj)
    (hd : sF.instrs.size ≤ tj ∨ sF.depths[tj]? = some (dr + 1))
    (hterm : term = [(.jumpTo, some join)] ∨ term = [(.tis, none), (.jumpTo, some join)])
    (hcode : wfE t = true ∧ (noR t = true ∨ (tailR t = true ∧ dr = 0)) ∧ ContOK sF cur) :
    TermOK sF ⟨.code t, j, term, cur⟩ dr := by
  refine ⟨fun j' hj' => ?_, fun b hb => ?_, fun id hid => by cases hid⟩
  · have : j' = join := by rcases hterm with rfl | rfl <;> simpa using hj'
    subst this; exact ⟨tj, hj, hd⟩
  · cases hb
    exact ⟨hcode.1, hcode.2.1, hcode.2.2, hterm.imp (fun e => ⟨_, e⟩) (fun e => ⟨_, e⟩)⟩

section
variable {cur : Nat}

theorem condOut_edges {onTrue : Bool} {t : Expr F} {q : Pos} {k : Nat} (hk : q.dep = k + 1)
    (h : HoldsD sF q (condOut cur onTrue t q)) (hn : NextD sF (q.after (condOut cur onTrue t q)))
    (hroot : ∀ r ∈ (condOut cur onTrue t q).roots, RootD sF r.1 r.2)
    (hcode : wfE t = true ∧ (noR t = true ∨ (tailR t = true ∧ k = 0)) ∧ ContOK sF cur) :
    Edges sF q (condOut cur onTrue t q) := by
  have i1 := h.h.instrs 0 _ rfl
  have i2 := h.h.instrs 1 _ rfl
  have jj := h.h.jumps 1 _ rfl
  have d1 := h.depths 0 (k + 1) (by simp [condOut, scanD, hk])
  have d2 := h.depths 1 k (by simp [condOut, scanD, hk, fall_jumpIf])
  have hn' : sF.instrs.size ≤ q.ni + 2 ∨ sF.depths[q.ni + 2]? = some (k + 1) := by
    simpa [NextD, Pos.after, condOut, endD, hk, fall_jumpIf, fall_putValue] using hn
  have hR := hroot _ (List.mem_singleton.2 rfl)
  simp only [hk, Nat.add_sub_cancel] at hR
  obtain ⟨tb, htb⟩ := jumps_some (sF := sF) (j := q.nj) (by have := h.jsize; simp [Pos.after, condOut] at this; omega)
  simp only [Nat.add_zero] at i1 d1
  refine ⟨fun pc h1 h2 => ?_, fun r hr => ?_⟩
  · by_cases heq : pc = q.ni
    · subst heq
      refine .mk d1 (edges_jumpIf i1 htb) (fun e he => ?_)
      simp only [List.mem_cons, List.not_mem_nil, or_false] at he
      rcases he with rfl | rfl
      · exact hR tb htb
      · exact .inr d2
    · obtain rfl : pc = q.ni + 1 := by simp [condOut] at h2; omega
      exact .next d2 (edges_push1 i2 (.inr (.inl rfl))) hn'
  · simp only [condOut, List.mem_singleton] at hr
    subst hr
    simp only [hk, Nat.add_sub_cancel]
    exact .code jj hn' (.inl rfl) hcode

theorem logicalOut_edges {i : Instruction} (hi : i = .and ∨ i = .or) {x : Expr F} {q : Pos} {k : Nat} (hk : q.dep = k + 1)
    (h : HoldsD sF q (logicalOut cur i x q)) (hn : NextD sF (q.after (logicalOut cur i x q)))
    (hroot : ∀ r ∈ (logicalOut cur i x q).roots, RootD sF r.1 r.2)
    (hcode : wfE x = true ∧ (noR x = true ∨ (tailR x = true ∧ k = 0)) ∧ ContOK sF cur) :
    Edges sF q (logicalOut cur i x q) := by
  have hf : fall i (some q.nj) (k + 1) = k + 1 := by rcases hi with rfl | rfl <;> rfl
  have i1 := h.h.instrs 0 _ rfl
  have jj := h.h.jumps 1 _ rfl
  have d1 := h.depths 0 (k + 1) (by simp [logicalOut, scanD, hk])
  have hn' : sF.instrs.size ≤ q.ni + 1 ∨ sF.depths[q.ni + 1]? = some (k + 1) := by
    simpa [NextD, Pos.after, logicalOut, endD, hk, hf] using hn
  have hR := hroot _ (List.mem_singleton.2 rfl)
  simp only [hk, hf, Nat.add_sub_cancel] at hR
  obtain ⟨tb, htb⟩ := jumps_some (sF := sF) (j := q.nj) (by have := h.jsize; simp [Pos.after, logicalOut] at this; omega)
  simp only [Nat.add_zero] at i1 d1
  refine ⟨fun pc h1 h2 => ?_, fun r hr => ?_⟩
  · obtain rfl : pc = q.ni := by simp [logicalOut] at h2; omega
    refine .mk d1 (edges_logical i1 hi htb) (fun e he => ?_)
    simp only [List.mem_cons, List.not_mem_nil, or_false] at he
    rcases he with rfl | rfl
    · exact hR tb htb
    · exact hn'
  · simp only [logicalOut, List.mem_singleton] at hr
    subst hr
    simp only [hk, hf, Nat.add_sub_cancel]
    exact .code jj hn' (.inr rfl) hcode

/-- the arm bodies return to the join after the chain, entered one above the depth at which the chain started -/
theorem finishOut_edges {items : List (Expr F × Nat)} {q : Pos} {k : Nat} (hk : q.dep = k + 1)
    (h : HoldsD sF q (finishOut cur items q)) (hn : NextD sF (q.after (finishOut cur items q)))
    (hcode : ∀ it ∈ items, wfE it.1 = true ∧ (noR it.1 = true ∨ (tailR it.1 = true ∧ k = 0)) ∧ ContOK sF cur) :
    Edges sF q (finishOut cur items q) := by
  cases items with
  | nil => exact .nil rfl rfl
  | cons it0 its =>
    refine ⟨fun pc h1 h2 => by simp [finishOut] at h2; omega, fun r hr => ?_⟩
    simp only [finishOut, armRoots, List.mem_map, List.mem_reverse] at hr
    obtain ⟨_, ⟨it, hit, rfl⟩, rfl⟩ := hr
    simp only [hk, Nat.add_sub_cancel]
    have jj := h.h.jumps 0 _ rfl
    refine .code jj ?_ (.inl rfl) (hcode it hit)
    simpa [NextD, Pos.after, finishOut, endD, hk] using hn
end

/-- the conditions of an else-chain do not restart; an arm body may, in tail position -/
theorem arms_tail {d : Nat} : ∀ {arms : List (Bool × Expr F × Expr F)},
    (noRArms arms = true ∨ (tailRArms arms = true ∧ d = 0)) →
    ∀ arm ∈ arms, noR arm.2.1 = true ∧ (noR arm.2.2 = true ∨ (tailR arm.2.2 = true ∧ d = 0))
  | [], _, _, hm => by cases hm
  | (_, c, t) :: rest, h, arm, hm => by
    rcases List.mem_cons.1 hm with rfl | hm
    · rcases h with h | ⟨h, h0⟩
      · simp only [noRArms, Bool.and_eq_true] at h; exact ⟨h.1.1, .inl h.1.2⟩
      · simp only [tailRArms, Bool.and_eq_true] at h; exact ⟨h.1.1, .inr ⟨h.1.2, h0⟩⟩
    · refine arms_tail ?_ arm hm
      rcases h with h | ⟨h, h0⟩
      · simp only [noRArms, Bool.and_eq_true] at h; exact .inl h.2
      · simp only [tailRArms, Bool.and_eq_true] at h; exact .inr ⟨h.2, h0⟩

theorem outArms_items (cur : Nat) : ∀ (arms : List (Bool × Expr F × Expr F)) (p : Pos) (it : Expr F × Nat),
    it ∈ (outArms cur arms p).2 → ∃ arm ∈ arms, arm.2.2 = it.1
  | [], _, _, h => by cases h
  | (b, c, t) :: rest, p, it, h => by
    simp only [outArms, List.mem_cons] at h
    rcases h with rfl | h
    · exact ⟨_, List.mem_cons_self, rfl⟩
    · obtain ⟨arm, hm, e⟩ := outArms_items cur rest _ it h
      exact ⟨arm, List.mem_cons_of_mem _ hm, e⟩

section
variable {cur : Nat}

theorem after_dep (e : Expr F) (p : Pos) (hw : wfE e = true) : (p.after (out cur e p)).dep = p.dep + 1 :=
  out_endD cur e p p.dep hw

/-- two operands, then one instruction that takes both and leaves one value (or stops the machine) -/
theorem Edges.two {p : Pos} {A B : Out F} {op : Instruction} {k : Nat} (h : HoldsD sF p (A ++ B ++ oI op none))
    (hn : NextD sF (p.after (A ++ B ++ oI op none))) (hd : (p.after (A ++ B)).dep = k + 2)
    (eA : NextD sF (p.after A) → Edges sF p A) (eB : NextD sF (p.after (A ++ B)) → Edges sF (p.after A) B)
    (hop : ∀ {pc : Nat}, sF.toProg.instrs[pc]? = some (op, none) →
      edges sF.toProg pc (k + 2) = some [(pc + 1, k + 1)] ∨ edges sF.toProg pc (k + 2) = some [])
    (hf : fall op none (k + 2) = k + 1) : Edges sF p (A ++ B ++ oI op none) := by
  have hnAB := h.nextD hn
  refine ((eA (h.left.nextD hnAB)).app (eB hnAB)).app ?_
  rcases hop h.right.instrI with he | he
  · exact .instr h.right hd (Pos.after_app _ _ _ ▸ hn) he (fun e hm => by simpa [hf] using hm)
  · exact .instr h.right hd (Pos.after_app _ _ _ ▸ hn) he (fun e hm => by cases hm)

mutual
theorem edges_of_out : ∀ (e : Expr F) (p : Pos), cur < p.nj → HoldsD sF p (out cur e p) → wfE e = true →
    (noR e = true ∨ (tailR e = true ∧ p.dep = 0)) → ContOK sF cur → NextD sF (p.after (out cur e p)) →
    (∀ r ∈ (out cur e p).roots, RootD sF r.1 r.2) → Edges sF p (out cur e p)
  | .lit _, _, _, h, _, _, _, hn, _ | .emptyNested, _, _, h, _, _, _, hn, _ => .const (.inl rfl) h hn
  | .ident _, _, _, h, _, _, _, hn, _ => .const (.inr rfl) h hn
  | .input, p, _, h, _, _, _, hn, _ =>
    .instr h rfl hn (edges_push1 h.instrI (.inr (.inl rfl))) (fun e hm => by simpa [fall_putValue] using hm)
  | .nested id, p, _, h, _, _, _, hn, _ => by
    refine ⟨fun pc h1 h2 => ?_, fun r hr => ?_⟩
    · obtain rfl : pc = p.ni := by simp [out] at h2; omega
      refine .next (h.first (by simp [out])) (edges_push1 (by simpa using h.h.instrs 0 _ rfl) (.inl rfl)) ?_
      simpa [NextD, Pos.after, out, endD, fall] using hn
    · simp only [out, List.mem_singleton] at hr
      subst hr
      exact ⟨fun j hj => (by simp at hj), fun b hb => (by cases hb), fun _ _ => rfl⟩
  | .unary op x, p, hc, h, hw, htl, hcur, hn, hq => by
    simp only [out] at h hn hq ⊢
    simp only [wfE, Bool.and_eq_true] at hw
    have hnx : noR x = true := by simpa [noR] using tail_noR htl (by simp [tailR])
    refine (edges_of_out x p hc h.left hw.2 (.inl hnx) hcur (h.nextD hn) (fun r m => hq r (by simp [m]))).app ?_
    exact .instr h.right (after_dep x p hw.2) (Pos.after_app _ _ _ ▸ hn) (edges_un h.right.instrI hw.1)
      (fun e hm => by simpa [fall_un hw.1] using hm)
  | .binary op l r, p, hc, h, hw, htl, hcur, hn, hq => by
    simp only [out] at h hn hq ⊢
    simp only [wfE, Bool.and_eq_true] at hw
    have hnr : noR l = true ∧ noR r = true := by simpa [noR] using tail_noR htl (by simp [tailR])
    exact Edges.two (k := p.dep) h hn (by simp [Pos.after, Out.seq, endD_append, out_endD cur l p _ hw.1.2, out_endD cur r _ _ hw.2])
      (fun n => edges_of_out l p hc h.left.left hw.1.2 (.inl hnr.1) hcur n (fun q m => hq q (by simp [m])))
      (fun n => edges_of_out r _ (by simp [Pos.after]; omega) h.left.right hw.2 (.inl hnr.2) hcur
        (Pos.after_app _ _ _ ▸ n) (fun q m => hq q (by simp [m])))
      (fun hi => edges_bin hi hw.1.1) (fall_bin hw.1.1)
  | .pair l r, p, hc, h, hw, htl, hcur, hn, hq => by
    simp only [out] at h hn hq ⊢
    simp only [wfE, Bool.and_eq_true] at hw
    have hnr : noR l = true ∧ noR r = true := by simpa [noR] using tail_noR htl (by simp [tailR])
    exact Edges.two (k := p.dep) h hn (by simp [Pos.after, Out.seq, endD_append, out_endD cur r p _ hw.2, out_endD cur l _ _ hw.1])
      (fun n => edges_of_out r p hc h.left.left hw.2 (.inl hnr.2) hcur n (fun q m => hq q (by simp [m])))
      (fun n => edges_of_out l _ (by simp [Pos.after]; omega) h.left.right hw.1 (.inl hnr.1) hcur
        (Pos.after_app _ _ _ ▸ n) (fun q m => hq q (by simp [m])))
      (fun hi => .inl (edges_makePair hi)) rfl
  | .applyTo x f, p, hc, h, hw, htl, hcur, hn, hq => by
    simp only [out] at h hn hq ⊢
    simp only [wfE, Bool.and_eq_true] at hw
    have hnr : noR x = true ∧ noR f = true := by simpa [noR] using tail_noR htl (by simp [tailR])
    exact Edges.two (k := p.dep) h hn (by simp [Pos.after, Out.seq, endD_append, out_endD cur f p _ hw.2, out_endD cur x _ _ hw.1])
      (fun n => edges_of_out f p hc h.left.left hw.2 (.inl hnr.2) hcur n (fun q m => hq q (by simp [m])))
      (fun n => edges_of_out x _ (by simp [Pos.after]; omega) h.left.right hw.1 (.inl hnr.1) hcur
        (Pos.after_app _ _ _ ▸ n) (fun q m => hq q (by simp [m])))
      (fun hi => .inl (edges_apply hi)) rfl
  | .list items, p, hc, h, hw, htl, hcur, hn, hq => by
    simp only [out] at h hn hq ⊢
    simp only [wfE] at hw
    have hnl : noRList items = true := by simpa [noR] using tail_noR htl (by simp [tailR])
    refine (edgesList_of_out items p hc h.left hw hnl hcur (h.nextD hn) (fun r m => hq r (by simp [m]))).app ?_
    exact .instr h.right (outList_endD cur items p p.dep hw) (Pos.after_app _ _ _ ▸ hn)
      (edges_makeList (k := p.dep) h.right.instrI) (fun e hm => by simpa [fall] using hm)
  | .cond onTrue c t, p, hc, h, hw, htl, hcur, hn, hq => by
    simp only [out] at h hn hq ⊢
    simp only [wfE, Bool.and_eq_true] at hw
    have hnc : noR c = true := by
      rcases htl with h | ⟨h, _⟩
      · simp only [noR, Bool.and_eq_true] at h; exact h.1
      · simp only [tailR, Bool.and_eq_true] at h; exact h.1
    have htt : noR t = true ∨ (tailR t = true ∧ p.dep = 0) := by
      rcases htl with h | ⟨h, h0⟩
      · simp only [noR, Bool.and_eq_true] at h; exact .inl h.2
      · simp only [tailR, Bool.and_eq_true] at h; exact .inr ⟨h.2, h0⟩
    exact (edges_of_out c p hc h.left hw.1 (.inl hnc) hcur (h.nextD hn) (fun r m => hq r (by simp [m]))).app
      (condOut_edges (after_dep c p hw.1) h.right (Pos.after_seq _ _ _ ▸ hn) (fun r m => hq r (by simp [m])) ⟨hw.2, htt, hcur⟩)
  | .and l r, p, hc, h, hw, htl, hcur, hn, hq | .or l r, p, hc, h, hw, htl, hcur, hn, hq => by
    simp only [out] at h hn hq ⊢
    simp only [wfE, Bool.and_eq_true] at hw
    have hnl : noR l = true := by
      rcases htl with h | ⟨h, _⟩
      · simp only [noR, Bool.and_eq_true] at h; exact h.1
      · simp only [tailR, Bool.and_eq_true] at h; exact h.1
    have htr : noR r = true ∨ (tailR r = true ∧ p.dep = 0) := by
      rcases htl with h | ⟨h, h0⟩
      · simp only [noR, Bool.and_eq_true] at h; exact .inl h.2
      · simp only [tailR, Bool.and_eq_true] at h; exact .inr ⟨h.2, h0⟩
    exact (edges_of_out l p hc h.left hw.1 (.inl hnl) hcur (h.nextD hn) (fun r m => hq r (by simp [m]))).app
      (logicalOut_edges (by simp) (after_dep l p hw.1) h.right (Pos.after_seq _ _ _ ▸ hn) (fun r m => hq r (by simp [m]))
        ⟨hw.2, htr, hcur⟩)
  | .seq a b, p, hc, h, hw, htl, hcur, hn, hq => by
    simp only [out] at h hn hq ⊢
    simp only [wfE, Bool.and_eq_true] at hw
    have hna : noR a = true := by
      rcases htl with h | ⟨h, _⟩
      · simp only [noR, Bool.and_eq_true] at h; exact h.1
      · simp only [tailR, Bool.and_eq_true] at h; exact h.1
    have hdu : (p.after (out cur a p ++ oI .updateValue none)).dep = p.dep := by
      simp [Pos.after, endD_append, out_endD cur a p _ hw.1, oI, endD, fall]
    have htb : noR b = true ∨ (tailR b = true ∧ (p.after (out cur a p ++ oI .updateValue none)).dep = 0) := by
      rcases htl with h | ⟨h, h0⟩
      · simp only [noR, Bool.and_eq_true] at h; exact .inl h.2
      · simp only [tailR, Bool.and_eq_true] at h; exact .inr ⟨h.2, by rw [hdu]; exact h0⟩
    have hnU := h.nextD hn
    refine ((edges_of_out a p hc h.left.left hw.1 (.inl hna) hcur (h.left.nextD hnU) (fun r m => hq r (by simp [m]))).app ?_).app
      (edges_of_out b _ (by simp [Pos.after]; omega) h.right hw.2 htb hcur (Pos.after_seq _ _ _ ▸ hn) (fun r m => hq r (by simp [m])))
    exact .instr h.left.right (after_dep a p hw.1) (Pos.after_app _ _ _ ▸ hnU)
      (edges_pop1 h.left.right.instrI (.inl rfl)) (fun e hm => by simpa [fall] using hm)
  | .sideAfter x b, p, hc, h, hw, htl, hcur, hn, hq => by
    simp only [out] at h hn hq ⊢
    simp only [wfE, Bool.and_eq_true] at hw
    have hnx : noR x = true := by
      have := tail_noR htl (by simp [tailR]); simp only [noR, Bool.and_eq_true] at this; exact this.1
    have hds : (p.after (out cur x p ++ oI .startSideEffect none)).dep = p.dep + 1 := by
      simp [Pos.after, endD_append, out_endD cur x p _ hw.1.1, oI, endD, fall]
    have hnB := h.nextD hn
    have hnS := h.left.nextD hnB
    refine (((edges_of_out x p hc h.left.left.left hw.1.1 (.inl hnx) hcur (h.left.left.nextD hnS)
      (fun r m => hq r (by simp [m]))).app ?_).app
      (edges_of_out b _ (by simp [Pos.after]; omega) h.left.right hw.1.2 (.inl hw.2) hcur (Pos.after_seq _ _ _ ▸ hnB)
        (fun r m => hq r (by simp [m])))).app ?_
    · exact .instr h.left.left.right (after_dep x p hw.1.1) (Pos.after_app _ _ _ ▸ hnS)
        (edges_startSE h.left.left.right.instrI) (fun e hm => by simpa [fall] using hm)
    · refine .instr (k := p.dep + 1 + 1) h.right ?_ (Pos.after_app _ _ _ ▸ hn)
        (edges_pop1 h.right.instrI (.inr (.inl rfl))) (fun e hm => by simpa [fall] using hm)
      simp [Pos.after, Out.seq, endD_append, out_endD cur x p _ hw.1.1, out_endD cur b _ _ hw.1.2, oI, endD, fall]
  | .reapply x, p, hc, h, hw, htl, hcur, hn, hq => by
    simp only [out] at h hn hq ⊢
    simp only [wfE] at hw
    have ht : noR x = true ∧ p.dep = 0 := by
      rcases htl with h | ⟨h, h0⟩
      · simp [noR] at h
      · simp only [tailR] at h; exact ⟨h, h0⟩
    have hnJ := h.nextD hn
    have hdu : (p.after (out cur x p ++ oI .updateValue none)).dep = 0 := by
      simp [Pos.after, endD_append, out_endD cur x p _ hw, oI, endD, fall, ht.2]
    refine ((edges_of_out x p hc h.left.left hw (.inl ht.1) hcur (h.left.nextD hnJ) (fun r m => hq r (by simp [m]))).app ?_).app ?_
    · exact .instr h.left.right (after_dep x p hw) (Pos.after_app _ _ _ ▸ hnJ)
        (edges_pop1 h.left.right.instrI (.inl rfl)) (fun e hm => by simpa [fall] using hm)
    · -- the restart: `JumpTo cur`, entered at depth 0, to the entry of the body
      refine ⟨fun pc h1 h2 => ?_, fun r hr => by cases hr⟩
      obtain rfl : pc = (p.after (out cur x p ++ oI .updateValue none)).ni := by simp at h2; omega
      obtain ⟨t, ht'⟩ := jumps_some (sF := sF) (j := cur) (by
        have := h.jsize; simp only [Pos.after] at this; omega)
      refine .mk (hdu ▸ h.right.first (by simp)) (edges_jumpTo h.right.instrI ht') (fun e hm => ?_)
      simp only [List.mem_singleton] at hm
      subst hm
      exact hcur t ht'
  | .prefixApply sym x, p, hc, h, hw, htl, hcur, hn, hq | .suffixApply x sym, p, hc, h, hw, htl, hcur, hn, hq => by
    simp only [out] at h hn hq ⊢
    simp only [wfE] at hw
    have hnx : noR x = true := by simpa [noR] using tail_noR htl (by simp [tailR])
    have hnX := h.nextD hn
    refine ((Edges.const (.inr rfl) h.left.left (h.left.nextD hnX)).app
      (edges_of_out x _ (by simpa [Pos.after, oC] using hc) h.left.right hw (.inl hnx) hcur (Pos.after_seq _ _ _ ▸ hnX)
        (fun r m => hq r (by simp [m])))).app ?_
    refine .instr (k := p.dep + 2) h.right ?_ (Pos.after_app _ _ _ ▸ hn) (edges_apply (k := p.dep) h.right.instrI)
      (fun e hm => by simpa [fall] using hm)
    simp [Pos.after, Out.seq, endD_append, out_endD cur x _ _ hw, oC, endD, fall]
  | .infixApply a sym b, p, hc, h, hw, htl, hcur, hn, hq => by
    simp only [out] at h hn hq ⊢
    simp only [wfE, Bool.and_eq_true] at hw
    have hnab : noR a = true ∧ noR b = true := by simpa [noR] using tail_noR htl (by simp [tailR])
    have hnM := h.nextD hn
    have hnB := h.left.nextD hnM
    have hnA := h.left.left.nextD hnB
    have hdB : (p.after (((oC p .resolve (.sym sym)).seq p (out cur a)).seq p (out cur b))).dep = p.dep + 3 := by
      simp [Pos.after, Out.seq, endD_append, out_endD cur a _ _ hw.1, out_endD cur b _ _ hw.2, oC, endD, fall]
    refine (((((Edges.const (.inr rfl) h.left.left.left.left (h.left.left.left.nextD hnA)).app
      (edges_of_out a _ (by simpa [Pos.after, oC] using hc) h.left.left.left.right hw.1 (.inl hnab.1) hcur
        (Pos.after_seq _ _ _ ▸ hnA) (fun r m => hq r (by simp [m])))).app
      (edges_of_out b _ (by simp [Pos.after]; omega) h.left.left.right hw.2 (.inl hnab.2) hcur (Pos.after_seq _ _ _ ▸ hnB)
        (fun r m => hq r (by simp [Out.seq] at m ⊢; simp [m])))).app ?_).app ?_)
    · exact .instr h.left.right hdB (Pos.after_app _ _ _ ▸ hnM) (edges_makeList (n := 2) (k := p.dep + 1) h.left.right.instrI)
        (fun e hm => by simpa [fall] using hm)
    · refine .instr (k := p.dep + 2) h.right ?_ (Pos.after_app _ _ _ ▸ hn) (edges_apply (k := p.dep) h.right.instrI)
        (fun e hm => by simpa [fall] using hm)
      simp [Pos.after, Out.seq, endD_append, out_endD cur a _ _ hw.1, out_endD cur b _ _ hw.2, oC, oI, endD, fall]
  | .chain arms none, _, _, _, hw, _, _, _, _ => by simp [wfE_chain] at hw
  | .chain arms (some fe), p, hc, h, hw, htl, hcur, hn, hq => by
    simp only [out] at h hn hq ⊢
    simp only [wfE_chain, Bool.and_eq_true] at hw
    have hta : noRArms arms = true ∨ (tailRArms arms = true ∧ p.dep = 0) := by
      rcases htl with h | ⟨h, h0⟩
      · rw [noR_chain, Bool.and_eq_true] at h; exact .inl h.1
      · rw [tailR_chain, Bool.and_eq_true] at h; exact .inr ⟨h.1, h0⟩
    have hdA := outArms_endD cur arms p p.dep hw.1
    have htf : noR fe = true ∨ (tailR fe = true ∧ (p.after (outArms cur arms p).1).dep = 0) := by
      rcases htl with h | ⟨h, h0⟩
      · rw [noR_chain, Bool.and_eq_true] at h; exact .inl h.2
      · rw [tailR_chain, Bool.and_eq_true] at h; exact .inr ⟨h.2, by simp only [Pos.after, hdA]; exact h0⟩
    have hdE : (p.after ((outArms cur arms p).1.seq p (out cur fe))).dep = p.dep + 1 := by
      rw [Pos.after_seq, after_dep fe _ hw.2]; simp only [Pos.after, hdA]
    have hnE := h.nextD hn
    have hitems : ∀ it ∈ (outArms cur arms p).2,
        wfE it.1 = true ∧ (noR it.1 = true ∨ (tailR it.1 = true ∧ p.dep = 0)) ∧ ContOK sF cur := by
      intro it hit
      obtain ⟨arm, hm, e⟩ := outArms_items cur arms p it hit
      exact ⟨(outArms_wf cur arms p hw.1).2 it hit, e ▸ (arms_tail hta arm hm).2, hcur⟩
    refine ((edgesArms_of_out arms p (p.after ((outArms cur arms p).1.seq p (out cur fe))).nj hc h.left.left hw.1
        (fun arm hm => (arms_tail hta arm hm).1) hcur (h.left.nextD hnE) (fun r m => hq r (by simp [m])) ?_).app
      (edges_of_out fe _ (by simp [Pos.after]; omega) h.left.right hw.2 htf hcur (Pos.after_seq _ _ _ ▸ hnE)
        (fun r m => hq r (by simp [m])))).app
      (finishOut_edges hdE h.right (Pos.after_seq _ _ _ ▸ hn) hitems)
    -- the arm bodies start at the depth at which the chain started
    intro it hit
    have := hq (⟨.code it.1, it.2, [(.jumpTo, some (p.after ((outArms cur arms p).1.seq p (out cur fe))).nj)], cur⟩,
      (p.after ((outArms cur arms p).1.seq p (out cur fe))).dep - 1) (by
        cases hi : (outArms cur arms p).2 with
        | nil => rw [hi] at hit; cases hit
        | cons it0 its =>
          rw [hi] at hit
          simp only [Out.seq_roots, List.mem_append, finishOut, armRoots, List.mem_map, List.mem_reverse]
          exact .inl ⟨_, ⟨it, hit, rfl⟩, rfl⟩)
    simpa [hdE] using this

theorem edgesList_of_out : ∀ (items : List (Expr F)) (p : Pos), cur < p.nj → HoldsD sF p (outList cur items p) →
    wfEList items = true → noRList items = true → ContOK sF cur → NextD sF (p.after (outList cur items p)) →
    (∀ r ∈ (outList cur items p).roots, RootD sF r.1 r.2) → Edges sF p (outList cur items p)
  | [], _, _, _, _, _, _, _, _ => .nil rfl rfl
  | x :: xs, p, hc, h, hw, hnr, hcur, hn, hq => by
    simp only [outList] at h hn hq ⊢
    simp only [wfEList, Bool.and_eq_true] at hw
    simp only [noRList, Bool.and_eq_true] at hnr
    exact (edges_of_out x p hc h.left hw.1 (.inl hnr.1) hcur (h.nextD hn) (fun r m => hq r (by simp [m]))).app
      (edgesList_of_out xs _ (by simp [Pos.after]; omega) h.right hw.2 hnr.2 hcur (Pos.after_seq _ _ _ ▸ hn)
        (fun r m => hq r (by simp [m])))

/-- the conditions of the arms with their `JumpIf`s; the arm bodies, pushed when the chain is finished, start at the depth
at which the chain started -/
theorem edgesArms_of_out : ∀ (arms : List (Bool × Expr F × Expr F)) (p : Pos) (join : Nat), cur < p.nj →
    HoldsD sF p (outArms cur arms p).1 → wfEArms arms = true → (∀ arm ∈ arms, noR arm.2.1 = true) → ContOK sF cur →
    NextD sF (p.after (outArms cur arms p).1) → (∀ r ∈ (outArms cur arms p).1.roots, RootD sF r.1 r.2) →
    (∀ it ∈ (outArms cur arms p).2, RootD sF ⟨.code it.1, it.2, [(.jumpTo, some join)], cur⟩ p.dep) →
    Edges sF p (outArms cur arms p).1
  | [], _, _, _, _, _, _, _, _, _, _ => .nil rfl rfl
  | (b, c, t) :: rest, p, join, hc, h, hw, hnc, hcur, hn, hq, harm => by
    simp only [outArms] at h hn hq harm ⊢
    simp only [wfEArms, Bool.and_eq_true] at hw
    have hdc := after_dep (cur := cur) c p hw.1.1
    have hdj : (p.after ((out cur c p).seq p (armOut b))).dep = p.dep := by
      rw [Pos.after_seq, Pos.after]; simp [hdc, armOut, endD, fall_jumpIf]
    have hnJ := h.nextD hn
    have hnC := h.left.nextD hnJ
    refine ((edges_of_out c p hc h.left.left hw.1.1 (.inl (hnc _ List.mem_cons_self)) hcur hnC
      (fun r m => hq r (by simp [m]))).app ?_).app
      (edgesArms_of_out rest _ join (by simp [Pos.after]; omega) h.right hw.2
        (fun arm hm => hnc arm (List.mem_cons_of_mem _ hm)) hcur (Pos.after_app _ _ _ ▸ hn) (fun r m => hq r (by simp [Out.seq] at m ⊢; simp [m]))
        (fun it hit => (congrArg (RootD sF _) hdj).mpr (harm it (List.mem_cons_of_mem _ hit))))
    have hJ := h.left.right
    refine ⟨fun pc h1 h2 => ?_, fun r hr => by cases hr⟩
    obtain rfl : pc = (p.after (out cur c p)).ni := by simp [armOut] at h2; omega
    obtain ⟨tb, htb⟩ := jumps_some (sF := sF) (j := (p.after (out cur c p)).nj) (by
      have := hJ.jsize; simp [Pos.after, armOut] at this ⊢; omega)
    refine .mk (hdc ▸ hJ.first (by simp [armOut])) (edges_jumpIf (by simpa using hJ.h.instrs 0 _ rfl) htb) (fun e hm => ?_)
    simp only [List.mem_cons, List.not_mem_nil, or_false] at hm
    rcases hm with rfl | rfl
    · exact harm (t, (p.after (out cur c p)).nj) List.mem_cons_self tb htb
    · have := Pos.after_seq _ _ _ ▸ hnJ
      simpa [NextD, Pos.after, armOut, endD, out_endD cur c p p.dep hw.1.1, fall_jumpIf] using this
end
end

/-- statement of the lemma for the items of a list -/
def ListE (sF : LState F) (root cur : Nat) (items : List (Expr F)) (s : LState F) : Prop :=
  ∀ sM, cur < s.jumps.size → PendOK s → Al s → W2 s.jumps.size (emitList root cur items s) sM → Ev sM sF → AppD sM sF →
  (∀ p ∈ sM.pending.zip sM.pendDep, s.jumps.size ≤ p.1.patch → RootD sF p.1 p.2) →
  wfEList items = true → noRList items = true →
  (∀ t, sF.jumps[cur]? = some t → sF.instrs.size ≤ t ∨ sF.depths[t]? = some 0) →
  (sF.instrs.size ≤ s.instrs.size + lenList items ∨ sF.depths[s.instrs.size + lenList items]? = some (s.dep + items.length)) →
  (∀ pc, s.instrs.size ≤ pc → pc < s.instrs.size + lenList items → EdgeOK sF pc) ∧
  (∀ p ∈ (emitList root cur items s).pending.zip (emitList root cur items s).pendDep,
    p ∉ s.pending.zip s.pendDep → TermOK sF p.1 p.2)

/-- statement of the lemma for the conditions (with their `JumpIf`s) of the arms of an else-chain -/
def ArmsE (sF : LState F) (root cur : Nat) (arms : List (Bool × Expr F × Expr F)) (s : LState F) : Prop :=
  ∀ sM join, cur < s.jumps.size → PendOK s → Al s →
  Within s.jumps.size (emitArms root cur arms s).1 sM ((emitArms root cur arms s).2.map (·.2)) →
  AppD (emitArms root cur arms s).1 sM → Ev sM sF → AppD sM sF →
  (∀ p ∈ sM.pending.zip sM.pendDep, s.jumps.size ≤ p.1.patch → RootD sF p.1 p.2) →
  wfEArms arms = true → (∀ arm ∈ arms, noR arm.2.1 = true) →
  (∀ it ∈ (emitArms root cur arms s).2, RootD sF ⟨.code it.1, it.2, [(.jumpTo, some join)], cur⟩ s.dep) →
  (∀ t, sF.jumps[cur]? = some t → sF.instrs.size ≤ t ∨ sF.depths[t]? = some 0) →
  (sF.instrs.size ≤ s.instrs.size + lenArms arms ∨ sF.depths[s.instrs.size + lenArms arms]? = some s.dep) →
  (∀ pc, s.instrs.size ≤ pc → pc < s.instrs.size + lenArms arms → EdgeOK sF pc) ∧
  (∀ p ∈ (emitArms root cur arms s).1.pending.zip (emitArms root cur arms s).1.pendDep,
    p ∉ s.pending.zip s.pendDep → TermOK sF p.1 p.2)

theorem HoldsD.final {s t' sM : LState F} {o : Out F} {idx : List Nat} (hw : Wrote s t' o) (hp : PendOK s) (hal : Al s)
    (hslot : ∀ r ∈ o.roots, SlotAt s.pos o r.1.patch) (hidx : ∀ j ∈ idx, SlotAt s.pos o j)
    (hwi : Within s.jumps.size t' sM idx)
    (happ : (∀ i, i < t'.depths.size → sM.depths[i]? = t'.depths[i]?) ∧ t'.depths.size ≤ sM.depths.size) (hev : Ev sM sF)
    (had : (∀ i, i < sM.depths.size → sF.depths[i]? = sM.depths[i]?) ∧ sM.depths.size ≤ sF.depths.size) :
    HoldsD sF s.pos o where
  h := Holds.final hw hp hslot hidx hwi hev
  depths i d hd := by
    have hal' : s.depths.size = s.instrs.size := hal
    have hi := (List.getElem?_eq_some_iff.1 hd).1
    rw [scanD_length] at hi
    have h1 : s.depths.size + i < t'.depths.size := by rw [hw.depths]; simp [scanD_length]; omega
    have := happ.2
    show sF.depths[s.instrs.size + i]? = some d
    rw [← hal', had.1 _ (by omega), happ.1 _ h1, hw.depths, Array.getElem?_append_right (by omega)]
    simpa [LState.pos] using hd
  jsize := by
    rw [← hw.pos]
    exact Nat.le_trans hwi.1.jsize hev.jsize

theorem rootsD_final {s t' sM : LState F} {o : Out F} (hw : Wrote s t' o) (hslot : ∀ r ∈ o.roots, SlotAt s.pos o r.1.patch)
    (hk : ∀ p ∈ t'.pending.zip t'.pendDep, p ∈ sM.pending.zip sM.pendDep)
    (hroots : ∀ p ∈ sM.pending.zip sM.pendDep, s.jumps.size ≤ p.1.patch → RootD sF p.1 p.2) :
    ∀ r ∈ o.roots, RootD sF r.1 r.2 := fun r hr =>
  hroots r (hk r (by rw [hw.zip]; exact List.mem_append.2 (.inl hr))) (hslot r hr).lt.1

/-- `Edges` in the terms of the states: the instructions from `s.instrs.size` on, the roots that were not pending in `s` -/
theorem Edges.ofWrote {s t' : LState F} {o : Out F} {n : Nat} (hw : Wrote s t' o) (hn : o.instrs.length = n)
    (h : Edges sF s.pos o) :
    (∀ pc, s.instrs.size ≤ pc → pc < s.instrs.size + n → EdgeOK sF pc) ∧
    (∀ p ∈ t'.pending.zip t'.pendDep, p ∉ s.pending.zip s.pendDep → TermOK sF p.1 p.2) :=
  ⟨fun pc h1 h2 => h.1 pc h1 (hn ▸ h2), fun p hp hnp => by
    rw [hw.zip, List.mem_append] at hp
    exact hp.elim (h.2 p) (fun h' => absurd h' hnp)⟩

section
variable {root cur : Nat}

theorem emitList_edges : ∀ (items : List (Expr F)) (s : LState F), ListE sF root cur items s := by
  intro items s sM hc hp hal hw hev had hroots hwf hn hcur hnext
  have hwr := emitList_wrote root cur items s
  have hs := fun r hr => (outList_roots cur items s.pos r hr).1
  exact Edges.ofWrote hwr (outList_len cur items _)
    (edgesList_of_out items s.pos hc (.final hwr hp hal hs (fun _ h => by cases h) hw.w ⟨hw.app.depths, hw.app.dsize⟩ hev ⟨had.depths, had.dsize⟩)
      hwf hn hcur (.of (afterList_ni cur items _) (outList_endD cur items _ _ hwf) hnext) (rootsD_final hwr hs hw.app.keepZ hroots))

theorem emitArms_edges : ∀ (arms : List (Bool × Expr F × Expr F)) (s : LState F), ArmsE sF root cur arms s := by
  intro arms s sM join hc hp hal hwi happ hev had hroots hwf hnc harm hcur hnext
  obtain ⟨hwr, he⟩ := emitArms_wrote root cur arms s
  obtain ⟨hr, hi⟩ := outArms_roots cur arms s.pos
  rw [he] at hwi harm
  have hs := fun r hr' => (hr r hr').1
  exact Edges.ofWrote hwr (outArms_len cur arms _)
    (edgesArms_of_out arms s.pos join hc
      (.final hwr hp hal hs (fun j hj => by obtain ⟨it, hit, rfl⟩ := List.mem_map.1 hj; exact hi it hit) hwi ⟨happ.depths, happ.dsize⟩ hev
        ⟨had.depths, had.dsize⟩)
      hwf hnc hcur (.of (afterArms_ni cur arms _) (outArms_endD cur arms _ _ hwf) hnext) (rootsD_final hwr hs happ.keepZ hroots) harm)

end

end Garnish.Abs
