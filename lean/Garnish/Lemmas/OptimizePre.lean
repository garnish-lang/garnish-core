/-
What `optimize` and `clone_data` need of the store they start from (`OptPre`) to make well-formed copies: the index
phase names nodes only, and the heads, symbol names and roots reported along links are nodes again (`TailFacts.nodes`).
`WF.optPre` is here; `WFq.optPre` and `WFv.optPre` (the latter from `rootsOKv`) are in Lemmas/MutOptimize.lean.
-/
import Garnish.Lemmas.OptimizeList
namespace Garnish.BasicOpt
open Garnish

theorem prefix_append {A A' : Array Cell} (hle : A.size ≤ A'.size) (h : ∀ i, i < A.size → A'[i]? = A[i]?) :
    A' = A ++ A'.extract A.size A'.size := by
  apply Array.ext_getElem?
  intro i
  by_cases hi : i < A.size
  · rw [Array.getElem?_append_left hi, h i hi]
  · rw [Array.getElem?_append_right (by omega), Array.getElem?_extract]
    by_cases hi2 : i < A'.size
    · have : i - A.size < min A'.size A'.size - A.size := by simp; omega
      simp only [this, if_true]
      congr 1; omega
    · have : ¬ i - A.size < min A'.size A'.size - A.size := by simp; omega
      simp only [this, if_false]
      exact Array.getElem?_eq_none (by omega)

theorem headerOK_of {cells : Array Cell} {j : Nat} {c : Cell} (hc : cells[j]? = some c)
    (h : neverNode c = true ∨ isNode cells j = true) : headerOK cells j = true := by
  unfold headerOK
  rw [hc]
  rcases h with h | h
  · cases c <;> simp [neverNode] at h <;> rfl
  · cases c <;> first | rfl | exact h

theorem freshOK_local {cur : Store} {hi j : Nat} (hret : cur.retention ≤ hi) (hj : hi ≤ j) (h : FreshOK 0 cur hi j) :
    nodeOK cur.cells j = true ∧ listOK cur.cells j = true ∧ headerOK cur.cells j = true := by
  obtain ⟨c, hc, hl, hk⟩ := h
  have hlist : listOK cur.cells j = true := by
    unfold listOK; rw [hc]
    cases c <;> first | rfl | (simp only [decide_eq_true_eq]; exact hl _ _ rfl)
  rcases hk with hn | ⟨sh, hsh, hkids⟩
  · refine ⟨by simp [nodeOK, neverNode_shape hc hn], hlist, headerOK_of hc (Or.inl hn)⟩
  · refine ⟨?_, hlist, headerOK_of hc (Or.inr (by simp [isNode, hsh]))⟩
    simp only [nodeOK, hsh, List.all_eq_true, Bool.and_eq_true, decide_eq_true_eq]
    intro k' hk'
    rcases hkids k' hk' with ⟨h1, sh2, h2⟩ | ⟨h1, h2, sh2, h3⟩
    · exact ⟨by omega, by simp [isNode, h2]⟩
    · simp only [Nat.add_zero] at h1 h2 h3
      exact ⟨h2, by simp [isNode, h3]⟩

theorem indexSymbols_nodes {s0 : Array Cell} {top : Nat} (hk : KidsNodes s0) :
    ∀ (n : Nat) (cur cur' : Store) (i : Nat), ItemsNodes s0 top cur → top ≤ cur.cells.size →
      (∀ c ∈ cur.symtab.toList, ∀ sy d, c = Cell.associativeItem sy d → ∃ sh, shape s0 d = some sh) →
      Store.indexSymbols cur i n = .ok cur' → ItemsNodes s0 top cur' ∧ cur.cells.size ≤ cur'.cells.size
  | 0, cur, cur', i, hin, _, _, h => by
    simp only [Store.indexSymbols, Outcome.ok.injEq] at h
    subst h; exact ⟨hin, Nat.le_refl _⟩
  | n + 1, cur, cur', i, hin, hle, hsym, h => by
    simp only [Store.indexSymbols, Outcome.bind_eq_ok'] at h
    obtain ⟨⟨sy, di⟩, hse, ⟨s1, st⟩, h3, h4⟩ := h
    have hent : cur.symtab[i]? = some (.associativeItem sy di) := by
      unfold Store.symEntry at hse
      split at hse
      · rename_i sy' d' heq
        simp only [Outcome.ok.injEq, Prod.mk.injEq] at hse
        rw [heq, hse.1, hse.2]
      · simp at hse
      · simp at hse
    obtain ⟨sh, hsh⟩ := hsym _ (List.mem_of_getElem? (by rw [Array.getElem?_toList]; exact hent)) sy di rfl
    have g1 := createIndexStack_nodes hk hin hle hsh h3
    have g2 := (createIndexStack_ext 0 h3).1.mono
    have hst : s1.symtab = cur.symtab := (createIndexStack_ext 0 h3).1.frame.2.2.1
    obtain ⟨g3, g4⟩ := indexSymbols_nodes hk n s1 cur' (i + 1) g1 (by omega) (by rw [hst]; exact hsym) h4
    exact ⟨g3, by omega⟩

theorem indexOpt_nodes {s0 : Array Cell} {top : Nat} (hk : KidsNodes s0)
    {cur cur' : Store} {o : Option Nat} (hin : ItemsNodes s0 top cur) (hle : top ≤ cur.cells.size)
    (ho : ∀ i, o = some i → ∃ sh, shape s0 i = some sh) (h : Store.indexOpt cur o = .ok cur') :
    ItemsNodes s0 top cur' ∧ cur.cells.size ≤ cur'.cells.size := by
  cases o with
  | none =>
    simp only [Store.indexOpt, Outcome.ok.injEq] at h
    subst h; exact ⟨hin, Nat.le_refl _⟩
  | some i =>
    simp only [Store.indexOpt, Outcome.bind_eq_ok', Outcome.pure_eq_ok_iff] at h
    obtain ⟨⟨s1, st⟩, h1, h2⟩ := h
    subst h2
    obtain ⟨sh, hsh⟩ := ho i rfl
    exact ⟨createIndexStack_nodes hk hin hle hsh h1, (createIndexStack_ext 0 h1).1.mono⟩

theorem indexRoots_nodes {s0 : Array Cell} {top : Nat} (hk : KidsNodes s0) :
    ∀ (rs : List Nat) (cur cur' : Store), ItemsNodes s0 top cur → top ≤ cur.cells.size →
      (∀ r ∈ rs, ∃ sh, shape s0 r = some sh) → Store.indexRoots cur rs = .ok cur' →
      ItemsNodes s0 top cur' ∧ cur.cells.size ≤ cur'.cells.size
  | [], cur, cur', hin, _, _, h => by
    simp only [Store.indexRoots, Outcome.ok.injEq] at h
    subst h; exact ⟨hin, Nat.le_refl _⟩
  | r :: rs, cur, cur', hin, hle, hall, h => by
    simp only [Store.indexRoots, Outcome.bind_eq_ok'] at h
    obtain ⟨⟨s1, st⟩, h1, h2⟩ := h
    obtain ⟨sh, hsh⟩ := hall r (by simp)
    have g1 := createIndexStack_nodes hk hin hle hsh h1
    have g2 := (createIndexStack_ext 0 h1).1.mono
    obtain ⟨g3, g4⟩ := indexRoots_nodes hk rs s1 cur' g1 (by omega) (fun x hx => hall x (by simp [hx])) h2
    exact ⟨g3, by omega⟩

theorem head_shape {cells : Array Cell} {o : Option Nat} (h : headOK cells o = true) :
    ∀ i, o = some i → ∃ sh, shape cells i = some sh := by
  intro i hi; subst hi; exact node_shape h

theorem TailFacts.nodes {s s' : Store} {roots m : List Nat} {sR : Store} {c0 cA : Nat}
    (tf : TailFacts s s' roots m sR c0 cA)
    (hlink : ∀ x x', Link sR c0 cA x x' → isNode s.cells x = true → isNode s'.cells x' = true) :
    (∀ {o o' : Option Nat}, headOK s.cells o = true → HeadRel (Link sR c0 cA) o o' → headOK s'.cells o' = true) ∧
    ((∀ c ∈ s.symtab.toList, symOK s.cells c = true) → ∀ c ∈ s'.symtab.toList, symOK s'.cells c = true) ∧
    (rootsOK s roots = true → rootsOK s' m = true) := by
  refine ⟨fun {o o'} ho hrel => ?_, fun hsyms c hc => ?_, fun hroots => ?_⟩
  · rcases hrel with ⟨_, rfl⟩ | ⟨i, m', rfl, rfl, hl⟩
    · rfl
    · exact hlink i m' hl ho
  · obtain ⟨j, hj⟩ := List.getElem?_of_mem hc
    rw [Array.getElem?_toList] at hj
    have hjlt : j < s.symtab.size := by
      rw [← tf.symLen]
      exact lt_of_getElem? hj
    have hok := hsyms _ (by simp : s.symtab[j] ∈ s.symtab.toList)
    cases hcj : s.symtab[j] with
    | associativeItem sym di =>
      rw [hcj] at hok
      obtain ⟨di', h1, h2⟩ := tf.syms j sym di (by rw [Array.getElem?_eq_getElem hjlt, hcj])
      rw [hj] at h1
      cases h1
      exact hlink di di' h2 (by simpa [symOK] using hok)
    | _ => rw [hcj] at hok; simp [symOK] at hok
  · simp only [rootsOK, List.all_eq_true] at hroots ⊢
    intro r' hr'
    obtain ⟨k, hk⟩ := List.getElem?_of_mem hr'
    have hklt : k < roots.length := by
      rw [← tf.rootsLen]
      rcases Nat.lt_or_ge k m.length with h | h
      · exact h
      · rw [List.getElem?_eq_none h] at hk; cases hk
    obtain ⟨r'', g1, g2⟩ := tf.roots k roots[k] (by simp [hklt])
    rw [hk] at g1
    cases g1
    exact hlink _ _ g2 (hroots _ (List.getElem_mem hklt))

/-- what `optimize` needs of the store it starts from (`WF.optPre`, `WFq.optPre`, `WFv.optPre`) -/
structure OptPre (s : Store) (roots : List Nat) : Prop where
  base : Base s
  lists : ListsWF s.cells
  back : ∀ (i : Nat) (sh : Shape), shape s.cells i = some sh → svAt s.cells i = false → ∀ k ∈ sh.kids, k < i
  down : ChainDown s.cells
  extent : ∀ i, i < s.retention → extentOK s.cells s.retention i = true
  val : headOK s.cells s.currentValue = true
  syms : ∀ c ∈ s.symtab.toList, symOK s.cells c = true
  roots : rootsOK s roots = true

theorem WF.optPre {s : Store} {roots : List Nat} (hwf : WF s) (hroots : rootsOK s roots = true) : OptPre s roots :=
  ⟨hwf.base, hwf.optHyp.listsWF, fun i sh hsh _ => hwf.optHyp.nodeBack i sh hsh,
    fun i p v hc => hwf.optHyp.nodeBack i _ (shape_of_solo hc (sh := ⟨.value 0 0, [], [p, v]⟩) rfl) p (by simp),
    hwf.extent, hwf.val, hwf.syms, hroots⟩

theorem indexPhase_pre {s : Store} {roots : List Nat} {s5 : Store} (hp : OptPre s roots)
    (h : IndexPhase s roots s5) : FreshPre s.cells s5 s.cells.size s5.cells.size := by
  obtain ⟨s1, s2, s3, s4, h1, h2, h3, h4, h5⟩ := h
  have hkn : KidsNodes s.cells := fun i sh hsh k hk => node_shape (hp.base.kids hsh hk)
  have hin0 : ItemsNodes s.cells s.cells.size s := ⟨fun _ _ h => h, fun j h1 h2 => by omega⟩
  obtain ⟨i1, z1⟩ := indexSymbols_nodes hkn _ _ _ _ hin0 (Nat.le_refl _) (by
    intro c hc sy d hcd
    subst hcd
    have := hp.syms _ hc
    exact node_shape (by simpa [symOK] using this)) h1
  obtain ⟨i2, z2⟩ := indexOpt_nodes hkn i1 z1 (head_shape hp.base.reg) h2
  obtain ⟨i3, z3⟩ := indexOpt_nodes hkn i2 (by omega) (head_shape hp.val) h3
  obtain ⟨i4, z4⟩ := indexOpt_nodes hkn i3 (by omega) (head_shape hp.base.frm) h4
  obtain ⟨i5, z5⟩ := indexRoots_nodes hkn _ _ _ i4 (by omega) (by
    intro r hr
    have := hp.roots
    simp only [rootsOK, List.all_eq_true] at this
    exact node_shape (this r hr)) h5
  refine ⟨hkn, ?_⟩
  intro j hj1 hj2 o ho
  obtain ⟨o', sh, g1, g2⟩ := i5.items j hj1 hj2
  rw [ho] at g1
  simp only [Option.some.injEq, Cell.cloneItem.injEq] at g1
  subst g1; exact ⟨sh, g2⟩

end Garnish.BasicOpt
