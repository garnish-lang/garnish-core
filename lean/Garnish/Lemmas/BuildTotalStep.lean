/-
Totality of the emitting traversal of `build`: what one step of the two work-list loops does to the invariant.  `PhaseStep` says
what every handler call does to the ghost phases and which fields of `Inv` follow from that alone (the root pop, pr → p1, is not
one).  The kinds of step each come with an explicit new phase assignment, hence `_exp`: the visited node moves on and schedules children (`step_inv_exp`), an arm is recorded at
the head of its else-chain (`cond_inv_exp`: `handle_jump_if`, second visit, conditional parent), the head releases its arms
(`else_inv_exp`: `ElseJump`, second visit), the pops.
-/
import Garnish.Lemmas.BuildTotalBase
namespace Garnish.Lemmas.BuildTotal
open Garnish Garnish.Gen Garnish.Model.Parser Garnish.Model.Literals Garnish.Model.Build Garnish.Lemmas.Build
open Garnish.Lemmas.BuildPlan (armNode)

variable {F : Type} {root : Nat} {tree : Array ParseNode} {G : Nat → Prop}

theorem child_fresh (V : Validated root tree G) {ph : Nat → Phase} {ctx : Ctx F} (h : Inv root tree G ph ctx) {ni c : Nat}
    (hG : G ni) (hc : IsChild tree ni c) (hnot : ¬ SchedDone tree ph ni c) : ph c = .p0 ∧ G c := by
  have hcG := (child_facts V hG hc).1
  refine ⟨?_, hcG⟩
  rcases Classical.em (ph c = .p0) with h0 | h0
  · exact h0
  · rcases h.fresh c hcG h0 with h1 | ⟨p, hp, hpc, hs⟩
    · exact absurd h1 (child_ne_root V hG hc)
    · have := parent_unique V hp hG hpc hc
      subst this
      exact absurd hs hnot

theorem children_fresh (V : Validated root tree G) {ph : Nat → Phase} {ctx : Ctx F} (h : Inv root tree G ph ctx) {ni : Nat}
    (hG : G ni) (hph : ph ni = .p1 ∨ ph ni = .p2) {vni : Phase} (cs : List Nat)
    (hchild : ∀ c, c ∈ cs → IsChild tree ni c ∧ (LateRight tree ni c → vni = .p3) ∧ (ph ni = .p2 → LateRight tree ni c)) :
    ∀ c, c ∈ cs → ph c = .p0 ∧ G c ∧ c ≠ ni ∧ IsChild tree ni c := by
  intro c hc
  obtain ⟨hchild1, _, hchild3⟩ := hchild c hc
  have hnot : ¬ SchedDone tree ph ni c := by
    intro ⟨hs1, hs2⟩
    rcases hph with h1 | h2
    · rw [h1] at hs1; rcases hs1 with h | h <;> cases h
    · have := hs2 (hchild3 h2); rw [h2] at this; cases this
  obtain ⟨h0, hcG⟩ := child_fresh V h hG hchild1 hnot
  refine ⟨h0, hcG, fun hcn => ?_, hchild1⟩
  subst hcn
  rcases hph with h1 | h1 <;> rw [h1] at h0 <;> cases h0

theorem SchedDone.mono {ph ph' : Nat → Phase} (hdone : ∀ x, ph x = .p2 ∨ ph x = .p3 → ph' x = ph x ∨ ph' x = .p3) {p c : Nat}
    (hs : SchedDone tree ph p c) : SchedDone tree ph' p c := by
  rcases hdone p hs.1 with e | e
  · rw [SchedDone, e]; exact hs
  · exact ⟨Or.inr e, fun _ => e⟩

theorem fresh_advance {ph ph' : Nat → Phase} {ctx : Ctx F} (h : Inv root tree G ph ctx)
    (hdone : ∀ x, ph x = .p2 ∨ ph x = .p3 → ph' x = ph x ∨ ph' x = .p3)
    (hnew : ∀ c, G c → ph c = .p0 → ph' c ≠ .p0 → ∃ p, G p ∧ IsChild tree p c ∧ SchedDone tree ph' p c) :
    ∀ c, G c → ph' c ≠ .p0 → c = root ∨ ∃ p, G p ∧ IsChild tree p c ∧ SchedDone tree ph' p c := by
  intro c hcG hc0
  rcases Classical.em (ph c = .p0) with h0 | h0
  · exact Or.inr (hnew c hcG h0 hc0)
  · rcases h.fresh c hcG h0 with h1 | ⟨p, hp, hpc, hs⟩
    · exact Or.inl h1
    · exact Or.inr ⟨p, hp, hpc, hs.mono hdone⟩

/-- what every phase update of a handler call looks like: the visited node `ni` advances to p2 (from p1) or p3, the nodes `mv`
leave p0 / pc for a waiting or scheduled phase of smaller rank, nothing else changes -/
structure PhaseStep (ph ph' : Nat → Phase) (ni : Nat) (mv : List Nat) : Prop where
  act : ph ni = .p1 ∨ ph ni = .p2
  adv : (ph' ni = .p2 ∧ ph ni = .p1) ∨ ph' ni = .p3
  moved : ∀ x, x ∈ mv → x ≠ ni ∧ (ph x = .p0 ∨ ∃ o, ph x = .pc o) ∧ (ph' x).rank ≤ (ph x).rank ∧ ph' x ≠ .p2 ∧ ph' x ≠ .p3
  other : ∀ x, x ≠ ni → x ∉ mv → ph' x = ph x

namespace PhaseStep
variable {ph ph' : Nat → Phase} {ni : Nat} {mv : List Nat}

theorem same (ps : PhaseStep ph ph' ni mv) {x : Nat} (hx : ph x = .p1 ∨ ph x = .p2 ∨ ph x = .p3 ∨ ph x = .pr) (hxn : x ≠ ni) :
    ph' x = ph x := by
  refine ps.other x hxn fun hm => ?_
  rcases (ps.moved x hm).2.1 with a | ⟨o, a⟩ <;> rw [a] at hx <;> rcases hx with h | h | h | h <;> cases h

theorem p2' (ps : PhaseStep ph ph' ni mv) {x : Nat} (hxn : x ≠ ni) (h : ph' x = .p2) : ph x = .p2 := by
  rcases Classical.em (x ∈ mv) with hm | hm
  · exact absurd h (ps.moved x hm).2.2.2.1
  · rw [← ps.other x hxn hm]; exact h

theorem ne3 (ps : PhaseStep ph ph' ni mv) {x : Nat} (h : ph' x ≠ .p3) : ph x ≠ .p3 := by
  rcases Classical.em (x = ni) with e | e
  · subst e; rcases ps.act with a | a <;> rw [a] <;> nofun
  · rcases Classical.em (x ∈ mv) with hm | hm
    · rcases (ps.moved x hm).2.1 with a | ⟨o, a⟩ <;> rw [a] <;> nofun
    · rw [← ps.other x e hm]; exact h

theorem adv23 (ps : PhaseStep ph ph' ni mv) (x : Nat) (hx : ph x = .p2 ∨ ph x = .p3) : ph' x = ph x ∨ ph' x = .p3 := by
  rcases Classical.em (x = ni) with e | e
  · subst e
    rcases ps.adv with ⟨_, b⟩ | a
    · rw [b] at hx; rcases hx with h | h <;> cases h
    · exact Or.inr a
  · exact Or.inl (ps.same (hx.elim (fun h => Or.inr (Or.inl h)) fun h => Or.inr (Or.inr (Or.inl h))) e)

theorem keepPc (ps : PhaseStep ph ph' ni mv) {x o : Nat} (hmv : ∀ c, c ∈ mv → ph c ≠ .pc o) (hp : ph x = .pc o) : ph' x = .pc o := by
  have hn : x ≠ ni := fun e => by rw [e] at hp; rcases ps.act with a | a <;> rw [a] at hp <;> cases hp
  rw [ps.other x hn fun hm => hmv x hm hp]; exact hp

theorem total (ps : PhaseStep ph ph' ni mv) {n : Nat} (hni : ni < n) : BuildTotal.total ph' n < BuildTotal.total ph n := by
  have hlt : (ph' ni).rank < (ph ni).rank := by
    rcases ps.adv with ⟨a, b⟩ | a <;> rw [a]
    · rw [b]; decide
    · rcases ps.act with b | b <;> rw [b] <;> decide
  refine total_lt n (fun x _ => ?_) ⟨ni, hni, hlt⟩
  rcases Classical.em (x = ni) with e | e
  · subst e; exact Nat.le_of_lt hlt
  · rcases Classical.em (x ∈ mv) with hm | hm
    · exact (ps.moved x hm).2.2.1
    · rw [ps.other x e hm]; exact Nat.le_refl _

section inv
variable {ctx : Ctx F} (ps : PhaseStep ph ph' ni mv) (h : Inv root tree G ph ctx)
include ps h

theorem stackOld (hns : ni ∉ ctx.stack.toList) {x : Nat} (hx : x ∈ ctx.stack.toList) : G x ∧ (ph' x = .p1 ∨ ph' x = .p2) := by
  have hso := h.stackOk x hx
  rw [ps.same (hso.2.imp id Or.inl) fun e => hns (e ▸ hx)]; exact hso

theorem rootOld {x : Nat} (hx : x ∈ ctx.rootStack.toList) : G x ∧ ph' x = .pr := by
  have hro := h.rootOk x hx
  have hxn : x ≠ ni := fun e => by have := hro.2; rw [e] at this; rcases ps.act with a | a <;> rw [a] at this <;> cases this
  rw [ps.same (Or.inr (Or.inr (Or.inr hro.2))) hxn]; exact hro

theorem p2two (hni2 : ∀ pn : ParseNode, tree[ni]? = some pn → ph' ni = .p2 →
      pn.definition ≠ .group ∧ pn.definition ≠ .nestedExpression) :
    ∀ (x : Nat) (pn' : ParseNode), tree[x]? = some pn' → ph' x = .p2 →
      pn'.definition ≠ .group ∧ pn'.definition ≠ .nestedExpression := by
  intro x pn' hx hp2
  rcases Classical.em (x = ni) with e | e
  · subst e; exact hni2 pn' hx hp2
  · exact h.p2two x pn' hx (ps.p2' e hp2)

theorem fresh (hsched : ∀ c, c ∈ mv → ph c = .p0 → ∃ p, G p ∧ IsChild tree p c ∧ SchedDone tree ph' p c) :
    ∀ c, G c → ph' c ≠ .p0 → c = root ∨ ∃ p, G p ∧ IsChild tree p c ∧ SchedDone tree ph' p c := by
  refine fresh_advance h ps.adv23 fun c _ h0 hc0 => hsched c (Classical.byContradiction fun hm => hc0 ?_) h0
  have hcn : c ≠ ni := fun e => by rw [e] at h0; rcases ps.act with a | a <;> rw [a] at h0 <;> cases h0
  rw [ps.other c hcn hm]; exact h0

end inv
end PhaseStep

/-- the phase assignment after a step -/
def stepPhase (ph : Nat → Phase) (ni : Nat) (vni : Phase) (cs rs : List Nat) : Nat → Phase :=
  fun x => if x = ni then vni else if x ∈ cs then .p1 else if x ∈ rs then .pr else ph x

section stepPhase
variable {ph : Nat → Phase} {ni : Nat} {vni : Phase} {cs rs : List Nat}

theorem stepPhase_ni : stepPhase ph ni vni cs rs ni = vni := by simp [stepPhase]

theorem stepPhase_cs {c : Nat} (hc : c ∈ cs) (hn : c ≠ ni) : stepPhase ph ni vni cs rs c = .p1 := by simp [stepPhase, hn, hc]

theorem stepPhase_rs {c : Nat} (hc : c ∈ rs) (hcs : c ∉ cs) (hn : c ≠ ni) : stepPhase ph ni vni cs rs c = .pr := by
  simp [stepPhase, hn, hcs, hc]

theorem stepPhase_other {x : Nat} (hxn : x ≠ ni) (hx : x ∉ cs ++ rs) : stepPhase ph ni vni cs rs x = ph x := by
  simp only [List.mem_append, not_or] at hx
  simp [stepPhase, hxn, hx.1, hx.2]

theorem stepPhase_phaseStep (hph : ph ni = .p1 ∨ ph ni = .p2) (hv : vni = .p2 ∨ vni = .p3) (hv2 : vni = .p2 → ph ni = .p1)
    (hfresh : ∀ c, c ∈ cs ++ rs → ph c = .p0 ∧ c ≠ ni) (hdisj : ∀ c, c ∈ cs → c ∉ rs) :
    PhaseStep ph (stepPhase ph ni vni cs rs) ni (cs ++ rs) := by
  refine ⟨hph, ?_, fun x hx => ?_, fun x hxn hx => stepPhase_other hxn hx⟩
  · rw [stepPhase_ni]; exact hv.imp (fun e => ⟨e, hv2 e⟩) id
  · obtain ⟨h0, hn⟩ := hfresh x hx
    refine ⟨hn, Or.inl h0, ?_⟩
    rcases List.mem_append.1 hx with hc | hc
    · rw [stepPhase_cs hc hn, h0]; exact ⟨by decide, nofun, nofun⟩
    · rw [stepPhase_rs hc (fun h => hdisj x h hc) hn, h0]; exact ⟨by decide, nofun, nofun⟩

end stepPhase

theorem step_inv_exp (V : Validated root tree G) {ph : Nat → Phase} {ctx ctx' : Ctx F} (h : Inv root tree G ph ctx)
    {ni : Nat} (hG : G ni) (hph : ph ni = .p1 ∨ ph ni = .p2) (hns : ni ∉ ctx.stack.toList)
    {pn : ParseNode} (hpn : tree[ni]? = some pn)
    (vni : Phase) (hv : vni = .p2 ∨ vni = .p3)
    (hv2 : vni = .p2 → ph ni = .p1 ∧ pn.definition ≠ .group ∧ pn.definition ≠ .nestedExpression)
    (cs rs suf rsuf : List Nat) (asg : List (Nat × BuildNode))
    (hS : ctx'.stack.toList = ctx.stack.toList ++ suf)
    (hR : ctx'.rootStack.toList = ctx.rootStack.toList ++ rsuf)
    (hN : ctx'.nodes = assign ctx.nodes asg)
    (hsuf : ∀ x, x ∈ suf → (x = ni ∧ vni = .p2) ∨ x ∈ cs)
    (hsufN : ni ∉ cs → cs.Nodup → suf.Nodup)
    (hrsuf : ∀ x, x ∈ rsuf → x ∈ rs) (hrsufN : rs.Nodup → rsuf.Nodup)
    (hcr : (cs ++ rs).Nodup)
    (hchild : ∀ c, c ∈ cs ++ rs → IsChild tree ni c ∧ (LateRight tree ni c → vni = .p3) ∧ (ph ni = .p2 → LateRight tree ni c))
    (hasgp : ∀ p, p ∈ asg → p.2.parseNodeIndex = p.1)
    (hasg : ∀ p, p ∈ asg →
      (p.1 = ni ∧ (vni = .p2 → p.2.state = .initialized) ∧
        ∃ bn, ctx.nodes[ni]? = some (some bn) ∧ p.2.conditionalItems = bn.conditionalItems) ∨
      (p.1 ∈ cs ++ rs ∧ p.2.conditionalItems = #[]))
    (hasgni : vni = .p2 → ∃ b, (ni, b) ∈ asg) :
    Inv root tree G (stepPhase ph ni vni cs rs) ctx' ∧ total (stepPhase ph ni vni cs rs) tree.size < total ph tree.size := by
  have hfreshc : ∀ c, c ∈ cs ++ rs → ph c = .p0 ∧ G c ∧ c ≠ ni := fun c hc =>
    (children_fresh V h hG hph (cs ++ rs) hchild c hc).imp id fun h => ⟨h.1, h.2.1⟩
  have hdisj : ∀ c, c ∈ cs → c ∉ rs := fun c hc hr => (List.nodup_append.1 hcr).2.2 c hc c hr rfl
  have hcsN : cs.Nodup := (List.nodup_append.1 hcr).1
  have hrsN : rs.Nodup := (List.nodup_append.1 hcr).2.1
  have hnics : ni ∉ cs := fun hm => (hfreshc ni (List.mem_append_left _ hm)).2.2 rfl
  let ph' := stepPhase ph ni vni cs rs
  have hni' : ph' ni = vni := stepPhase_ni
  have hcs' : ∀ c, c ∈ cs → ph' c = .p1 := fun c hc => stepPhase_cs hc (hfreshc c (List.mem_append_left _ hc)).2.2
  have hrs' : ∀ c, c ∈ rs → ph' c = .pr := fun c hc =>
    stepPhase_rs hc (fun hcc => hdisj c hcc hc) (hfreshc c (List.mem_append_right _ hc)).2.2
  have ps : PhaseStep ph ph' ni (cs ++ rs) :=
    stepPhase_phaseStep hph hv (fun e => (hv2 e).1) (fun c hc => ⟨(hfreshc c hc).1, (hfreshc c hc).2.2⟩) hdisj
  have hget : ∀ (x : Nat) (bn' : BuildNode), ctx'.nodes[x]? = some (some bn') →
      (x = ni ∧ (vni = .p2 → bn'.state = .initialized) ∧
        ∃ bn, ctx.nodes[ni]? = some (some bn) ∧ bn'.conditionalItems = bn.conditionalItems) ∨
      (x ∈ cs ++ rs ∧ bn'.conditionalItems = #[]) ∨
      (ctx.nodes[x]? = some (some bn') ∧ (vni = .p2 → x ≠ ni)) := by
    intro x bn' hx
    rw [hN] at hx
    rcases assign_get asg ctx.nodes x _ hx with ⟨b, hb, hv'⟩ | ⟨hold, hno⟩
    · cases hv'
      rcases hasg _ hb with ⟨h1, h2, h3⟩ | ⟨h1, h2⟩
      · exact Or.inl ⟨h1, h2, h3⟩
      · exact Or.inr (Or.inl ⟨h1, h2⟩)
    · refine Or.inr (Or.inr ⟨hold, fun hv' hxn => ?_⟩)
      subst hxn
      obtain ⟨b, hb⟩ := hasgni hv'
      exact hno b hb
  change Inv root tree G ph' ctx' ∧ total ph' tree.size < total ph tree.size
  refine ⟨⟨?_, ?_, ?_, ?_, ?_, ?_, ?_, ?_, ?_, ?_, ?_⟩, ?_⟩
  · -- stackNodup
    rw [hS]
    refine List.nodup_append.2 ⟨h.stackNodup, hsufN hnics hcsN, fun a ha b hb hab => ?_⟩
    subst hab
    rcases hsuf a hb with ⟨h1, _⟩ | h1
    · exact hns (h1 ▸ ha)
    · have h0 := (hfreshc a (List.mem_append_left _ h1)).1
      rcases (h.stackOk a ha).2 with h2 | h2 <;> rw [h2] at h0 <;> cases h0
  · -- stackOk
    intro x hx
    rw [hS] at hx
    rcases List.mem_append.1 hx with h1 | h1
    · exact ps.stackOld h hns h1
    · rcases hsuf x h1 with ⟨h2, h3⟩ | h2
      · subst h2; exact ⟨hG, Or.inr (by rw [hni', h3])⟩
      · exact ⟨(hfreshc x (List.mem_append_left _ h2)).2.1, Or.inl (hcs' x h2)⟩
  · -- rootNodup
    rw [hR]
    refine List.nodup_append.2 ⟨h.rootNodup, hrsufN hrsN, fun a ha b hb hab => ?_⟩
    subst hab
    have h0 := (hfreshc a (List.mem_append_right _ (hrsuf a hb))).1
    have := (h.rootOk a ha).2
    rw [this] at h0; cases h0
  · -- rootOk
    intro x hx
    rw [hR] at hx
    rcases List.mem_append.1 hx with h1 | h1
    · exact ps.rootOld h h1
    · have := hrsuf x h1
      exact ⟨(hfreshc x (List.mem_append_right _ this)).2.1, hrs' x this⟩
  · -- size
    rw [hN, assign_size]; exact h.size
  · -- init
    intro x bn' hx hp2
    rcases hget x bn' hx with ⟨h1, h2, _⟩ | ⟨h1, _⟩ | ⟨h1, h2⟩
    · subst h1; rw [hni'] at hp2; exact h2 hp2
    · rcases List.mem_append.1 h1 with h3 | h3
      · rw [hcs' x h3] at hp2; cases hp2
      · rw [hrs' x h3] at hp2; cases hp2
    · have hxn : x ≠ ni := fun e => h2 (by rw [← hni', ← e]; exact hp2) e
      exact h.init x bn' h1 (ps.p2' hxn hp2)
  · -- items
    intro x bn' hx hp3 it hit
    have hx3 := ps.ne3 hp3
    -- an item of a node that is not finished keeps its phase
    have keep : ∀ bn : BuildNode, ctx.nodes[x]? = some (some bn) → it ∈ bn.conditionalItems.toList →
        G it.nodeIndex ∧ ph' it.nodeIndex = .pc x := fun bn hy hit =>
      (h.items x bn hy hx3 it hit).imp id (ps.keepPc fun c hc e => by rw [(hfreshc c hc).1] at e; cases e)
    rcases hget x bn' hx with ⟨h1, _, bn, hbn, heq⟩ | ⟨_, h2⟩ | ⟨h1, _⟩
    · subst h1; rw [heq] at hit; exact keep bn hbn hit
    · rw [h2] at hit; simp at hit
    · exact keep bn' h1 hit
  · -- itemsNodup
    intro x bn' hx hp3
    have hx3 := ps.ne3 hp3
    rcases hget x bn' hx with ⟨h1, _, bn, hbn, heq⟩ | ⟨_, h2⟩ | ⟨h1, _⟩
    · subst h1; rw [heq]; exact h.itemsNodup x bn hbn hx3
    · rw [h2]; simp
    · exact h.itemsNodup x bn' h1 hx3
  · -- fresh
    exact ps.fresh h fun c hm _ =>
      ⟨ni, hG, (hchild c hm).1, by rw [hni']; exact hv, fun hl => by rw [hni']; exact (hchild c hm).2.1 hl⟩
  · -- p2two
    exact ps.p2two h fun pn' hx h2 => by rw [hpn] at hx; cases hx; exact (hv2 (hni' ▸ h2)).2
  · -- pni
    intro x bn' hx
    rw [hN] at hx
    rcases assign_get asg ctx.nodes x _ hx with ⟨b, hb, hv'⟩ | ⟨hold, _⟩
    · cases hv'; exact hasgp _ hb
    · exact h.pni x bn' hold
  · -- the potential drops
    exact ps.total (G_lt V hG)

/-- the phases after `cond_inv_exp` -/
def condPhase (ph : Nat → Phase) (ni r cp : Nat) : Nat → Phase :=
  fun x => if x = ni then .p3 else if x = r then .pc cp else ph x

theorem condPhase_phaseStep {ph : Nat → Phase} {ni r cp : Nat} (hph : ph ni = .p1 ∨ ph ni = .p2) (hr0 : ph r = .p0) (hrn : r ≠ ni) :
    PhaseStep ph (condPhase ph ni r cp) ni [r] ∧ condPhase ph ni r cp ni = .p3 ∧ condPhase ph ni r cp r = .pc cp := by
  have hr' : condPhase ph ni r cp r = .pc cp := by simp [condPhase, hrn]
  refine ⟨⟨hph, Or.inr (by simp [condPhase]), List.forall_mem_singleton.2 ⟨hrn, Or.inl hr0, ?_, ?_, ?_⟩, fun x hxn hx => ?_⟩,
    by simp [condPhase], hr'⟩
  · rw [hr', hr0]; simp [Phase.rank]
  · rw [hr']; nofun
  · rw [hr']; nofun
  · simp [condPhase, hxn, (by simpa using hx : x ≠ r)]

theorem cond_inv_exp (V : Validated root tree G) {ph : Nat → Phase} {ctx ctx' : Ctx F} (h : Inv root tree G ph ctx)
    {ni : Nat} (hG : G ni) (hph : ph ni = .p1 ∨ ph ni = .p2) (hns : ni ∉ ctx.stack.toList)
    {pn : ParseNode} (hpn : tree[ni]? = some pn) {r : Nat} (hr : pn.right = some r) (hlate : isLate pn.definition = true)
    {cp : Nat} {parent : BuildNode} (hcp : ctx.nodes[cp]? = some (some parent)) (item : ConditionItem) (hitem : item.nodeIndex = r)
    (hS : ctx'.stack = ctx.stack) (hR : ctx'.rootStack = ctx.rootStack)
    (hN : ctx'.nodes = putNode ctx.nodes cp { parent with conditionalItems := parent.conditionalItems.push item }) :
    Inv root tree G (condPhase ph ni r cp) ctx' ∧ total (condPhase ph ni r cp) tree.size < total ph tree.size := by
  obtain ⟨hr0, hrG, hrn, hchild⟩ := children_fresh V h hG hph (vni := .p3) [r]
    (List.forall_mem_singleton.2 ⟨⟨pn, hpn, Or.inr hr⟩, fun _ => rfl, fun _ => ⟨pn, hpn, hr, hlate⟩⟩) r (List.mem_singleton_self r)
  let ph' : Nat → Phase := condPhase ph ni r cp
  obtain ⟨ps, hni', hr'⟩ : PhaseStep ph ph' ni [r] ∧ ph' ni = .p3 ∧ ph' r = .pc cp := condPhase_phaseStep hph hr0 hrn
  have hcpsz : cp < ctx.nodes.size := lt_of_getElem? hcp
  have hget : ∀ (x : Nat) (bn' : BuildNode), ctx'.nodes[x]? = some (some bn') →
      (x = cp ∧ bn' = { parent with conditionalItems := parent.conditionalItems.push item }) ∨
      (x ≠ cp ∧ ctx.nodes[x]? = some (some bn')) := fun x bn' hx => get_putNode_some (hN ▸ hx)
  -- an item of a node that is not finished keeps its phase
  have keep : ∀ (y : Nat) (bn : BuildNode), ctx.nodes[y]? = some (some bn) → ph y ≠ .p3 →
      ∀ it, it ∈ bn.conditionalItems.toList → G it.nodeIndex ∧ ph' it.nodeIndex = .pc y := fun y bn hy hy3 it hit =>
    (h.items y bn hy hy3 it hit).imp id (ps.keepPc (List.forall_mem_singleton.2 fun e => by rw [hr0] at e; cases e))
  -- a node in its second visit has been there before: it is neither the visited node nor the recorded child
  have hx2 : ∀ x, ph' x = .p2 → ph x = .p2 := fun x hp2 => ps.p2' (fun e => by rw [e, hni'] at hp2; cases hp2) hp2
  change Inv root tree G ph' ctx' ∧ total ph' tree.size < total ph tree.size
  refine ⟨⟨?_, ?_, ?_, ?_, ?_, ?_, ?_, ?_, ?_, ?_, ?_⟩, ps.total (G_lt V hG)⟩
  · rw [hS]; exact h.stackNodup
  · intro x hx; rw [hS] at hx; exact ps.stackOld h hns hx
  · rw [hR]; exact h.rootNodup
  · intro x hx; rw [hR] at hx; exact ps.rootOld h hx
  · rw [hN, size_putNode]; exact h.size
  · intro x bn' hx hp2
    rcases hget x bn' hx with ⟨h1, h2⟩ | ⟨_, h2⟩
    · subst h1; subst h2
      exact h.init x parent hcp (hx2 x hp2)
    · exact h.init x bn' h2 (hx2 x hp2)
  · intro x bn' hx hp3 it hit
    have hx3 := ps.ne3 hp3
    rcases hget x bn' hx with ⟨h1, h2⟩ | ⟨_, h2⟩
    · subst h1; subst h2
      simp only [Array.toList_push, List.mem_append, List.mem_singleton] at hit
      rcases hit with hit | hit
      · exact keep x parent hcp hx3 it hit
      · subst hit; rw [hitem]; exact ⟨hrG, hr'⟩
    · exact keep x bn' h2 hx3 it hit
  · intro x bn' hx hp3
    have hx3 := ps.ne3 hp3
    rcases hget x bn' hx with ⟨h1, h2⟩ | ⟨_, h2⟩
    · subst h1; subst h2
      simp only [Array.toList_push, List.map_append, List.map_cons, List.map_nil]
      refine List.nodup_append.2 ⟨h.itemsNodup x parent hcp hx3, by simp, fun a ha b hb hab => ?_⟩
      simp only [List.mem_singleton] at hb
      subst hab; subst hb
      obtain ⟨it, hit, hidx⟩ := List.mem_map.1 ha
      have := (h.items x parent hcp hx3 it hit).2
      rw [hidx, hitem, hr0] at this; cases this
    · exact h.itemsNodup x bn' h2 hx3
  · exact ps.fresh h (List.forall_mem_singleton.2 fun _ => ⟨ni, hG, hchild, Or.inr hni', fun _ => hni'⟩)
  · exact ps.p2two h fun _ _ h2 => by rw [hni'] at h2; cases h2
  · intro x bn' hx
    rcases hget x bn' hx with ⟨h1, h2⟩ | ⟨_, h2⟩
    · subst h1; subst h2; exact h.pni x parent hcp
    · exact h.pni x bn' h2

/-- the phases after `else_inv_exp` -/
def elsePhase (ph : Nat → Phase) (ni : Nat) (idxs : List Nat) : Nat → Phase :=
  fun x => if x = ni then .p3 else if x ∈ idxs then .pr else ph x

/-- the phases after `inv_pop_root_exp` -/
def popPhase (ph : Nat → Phase) (r : Nat) : Nat → Phase := fun x => if x = r then .p1 else ph x

theorem elsePhase_phaseStep {ph : Nat → Phase} {ni : Nat} {idxs : List Nat} (hph : ph ni = .p1 ∨ ph ni = .p2)
    (hidx : ∀ x, x ∈ idxs → ph x = .pc ni) :
    PhaseStep ph (elsePhase ph ni idxs) ni idxs ∧ elsePhase ph ni idxs ni = .p3 ∧ ∀ x, x ∈ idxs → elsePhase ph ni idxs x = .pr := by
  have hn : ∀ x, x ∈ idxs → x ≠ ni := fun x hx e => by
    have := hidx x hx; rw [e] at this; rcases hph with a | a <;> rw [a] at this <;> cases this
  have hpr : ∀ x, x ∈ idxs → elsePhase ph ni idxs x = .pr := fun x hx => by simp [elsePhase, hn x hx, hx]
  refine ⟨⟨hph, Or.inr (by simp [elsePhase]), fun x hx => ⟨hn x hx, Or.inr ⟨ni, hidx x hx⟩, ?_, ?_, ?_⟩, fun x h1 h2 => ?_⟩,
    by simp [elsePhase], hpr⟩
  · rw [hpr x hx, hidx x hx]; simp [Phase.rank]
  · rw [hpr x hx]; nofun
  · rw [hpr x hx]; nofun
  · simp [elsePhase, h1, h2]

theorem else_inv_exp (V : Validated root tree G) {ph : Nat → Phase} {ctx ctx' : Ctx F} (h : Inv root tree G ph ctx)
    {ni : Nat} (hG : G ni) (hph : ph ni = .p1 ∨ ph ni = .p2) (hns : ni ∉ ctx.stack.toList)
    {node : BuildNode} (hnode : ctx.nodes[ni]? = some (some node)) (containing jumpToIndex : Nat)
    (hS : ctx'.stack = ctx.stack)
    (hR : ctx'.rootStack.toList = ctx.rootStack.toList ++ node.conditionalItems.toList.map (·.nodeIndex))
    (hN : ctx'.nodes = assign ctx.nodes (node.conditionalItems.toList.map fun it => (it.nodeIndex, armNode containing jumpToIndex it))) :
    Inv root tree G (elsePhase ph ni (node.conditionalItems.toList.map (·.nodeIndex))) ctx' ∧
      total (elsePhase ph ni (node.conditionalItems.toList.map (·.nodeIndex))) tree.size < total ph tree.size := by
  have hni3 : ph ni ≠ .p3 := by rcases hph with h1 | h1 <;> rw [h1] <;> intro h <;> cases h
  let idxs := node.conditionalItems.toList.map (·.nodeIndex)
  have hidx : ∀ x, x ∈ idxs → G x ∧ ph x = .pc ni := by
    intro x hx
    obtain ⟨it, hit, hxe⟩ := List.mem_map.1 hx
    subst hxe
    exact h.items ni node hnode hni3 it hit
  have hidxN : idxs.Nodup := h.itemsNodup ni node hnode hni3
  let ph' : Nat → Phase := elsePhase ph ni idxs
  obtain ⟨ps, hni', hidx'⟩ : PhaseStep ph ph' ni idxs ∧ ph' ni = .p3 ∧ ∀ x, x ∈ idxs → ph' x = .pr :=
    elsePhase_phaseStep hph fun x hx => (hidx x hx).2
  have hkeys : ∀ (x : Nat) (b : BuildNode), (x, b) ∈ node.conditionalItems.toList.map (fun it => (it.nodeIndex, armNode containing jumpToIndex it)) →
      x ∈ idxs ∧ b.conditionalItems = #[] := by
    intro x b hm
    obtain ⟨it, hit, he⟩ := List.mem_map.1 hm
    simp only [Prod.mk.injEq] at he
    obtain ⟨h1, h2⟩ := he
    subst h1; subst h2
    exact ⟨List.mem_map.2 ⟨it, hit, rfl⟩, by simp [armNode, BuildNode.newWithJumpAndEnd, BuildNode.new]⟩
  have hget : ∀ (x : Nat) (bn' : BuildNode), ctx'.nodes[x]? = some (some bn') →
      (x ∈ idxs ∧ bn'.conditionalItems = #[]) ∨ ctx.nodes[x]? = some (some bn') := by
    intro x bn' hx
    rw [hN] at hx
    rcases assign_get _ ctx.nodes x _ hx with ⟨b, hb, hv⟩ | ⟨hold, _⟩
    · have hb' := hkeys x b hb
      cases hv; exact Or.inl hb'
    · exact Or.inr hold
  -- a node in its second visit has been there before: it is neither the visited node nor a released arm
  have hx2 : ∀ x, ph' x = .p2 → ph x = .p2 := fun x hp2 => ps.p2' (fun e => by rw [e, hni'] at hp2; cases hp2) hp2
  change Inv root tree G ph' ctx' ∧ total ph' tree.size < total ph tree.size
  refine ⟨⟨?_, ?_, ?_, ?_, ?_, ?_, ?_, ?_, ?_, ?_, ?_⟩, ps.total (G_lt V hG)⟩
  · rw [hS]; exact h.stackNodup
  · intro x hx; rw [hS] at hx; exact ps.stackOld h hns hx
  · rw [hR]
    refine List.nodup_append.2 ⟨h.rootNodup, hidxN, fun a ha b hb hab => ?_⟩
    subst hab
    have h1 := (h.rootOk a ha).2
    rw [(hidx a hb).2] at h1; cases h1
  · intro x hx
    rw [hR] at hx
    rcases List.mem_append.1 hx with h1 | h1
    · exact ps.rootOld h h1
    · exact ⟨(hidx x h1).1, hidx' x h1⟩
  · rw [hN, assign_size]; exact h.size
  · intro x bn' hx hp2
    rcases hget x bn' hx with ⟨h1, _⟩ | h1
    · rw [hidx' x h1] at hp2; cases hp2
    · exact h.init x bn' h1 (hx2 x hp2)
  · intro x bn' hx hp3 it hit
    have hxn : x ≠ ni := fun e => hp3 (e ▸ hni')
    rcases hget x bn' hx with ⟨_, h2⟩ | h1
    · rw [h2] at hit; simp at hit
    · -- an item of another node is recorded there, not at `ni`
      exact (h.items x bn' h1 (ps.ne3 hp3) it hit).imp id
        (ps.keepPc fun c hc e => by rw [(hidx c hc).2] at e; cases e; exact hxn rfl)
  · intro x bn' hx hp3
    rcases hget x bn' hx with ⟨_, h2⟩ | h1
    · rw [h2]; simp
    · exact h.itemsNodup x bn' h1 (ps.ne3 hp3)
  · exact ps.fresh h fun c hc h0 => by rw [(hidx c hc).2] at h0; cases h0
  · exact ps.p2two h fun _ _ h2 => by rw [hni'] at h2; cases h2
  · intro x bn' hx
    rw [hN] at hx
    rcases assign_get _ ctx.nodes x _ hx with ⟨b, hb, hv⟩ | ⟨hold, _⟩
    · obtain ⟨it, hit, he⟩ := List.mem_map.1 hb
      simp only [Prod.mk.injEq] at he
      obtain ⟨h1, h2⟩ := he
      cases hv
      rw [← h2, ← h1]; rfl
    · exact h.pni x bn' hold

/-- the invariant does not mention `data` -/
theorem inv_congr {ph : Nat → Phase} {ctx ctx' : Ctx F} (h : Inv root tree G ph ctx) (hS : ctx'.stack = ctx.stack)
    (hR : ctx'.rootStack = ctx.rootStack) (hN : ctx'.nodes = ctx.nodes) : Inv root tree G ph ctx' := by
  obtain ⟨h1, h2, h3, h4, h5, h6, h7, h8, h9, h10, h11⟩ := h
  exact ⟨hS ▸ h1, hS ▸ h2, hR ▸ h3, hR ▸ h4, hN ▸ h5, hN ▸ h6, hN ▸ h7, hN ▸ h8, h9, h10, hN ▸ h11⟩

theorem inv_putNode_same {ph : Nat → Phase} {ctx ctx' : Ctx F} (h : Inv root tree G ph ctx) {i : Nat} {bn bn' : BuildNode}
    (hb : ctx.nodes[i]? = some (some bn)) (hs : bn'.state = bn.state) (hi : bn'.conditionalItems = bn.conditionalItems)
    (hpi : bn'.parseNodeIndex = bn.parseNodeIndex) (hS : ctx'.stack = ctx.stack) (hR : ctx'.rootStack = ctx.rootStack) (hN : ctx'.nodes = putNode ctx.nodes i bn') :
    Inv root tree G ph ctx' := by
  have hget : ∀ (x : Nat) (b : BuildNode), ctx'.nodes[x]? = some (some b) →
      ∃ b0, ctx.nodes[x]? = some (some b0) ∧ b.state = b0.state ∧ b.conditionalItems = b0.conditionalItems ∧
        b.parseNodeIndex = b0.parseNodeIndex := by
    intro x b hx
    rcases get_putNode_some (hN ▸ hx) with ⟨rfl, rfl⟩ | ⟨_, hx⟩
    · exact ⟨bn, hb, hs, hi, hpi⟩
    · exact ⟨b, hx, rfl, rfl, rfl⟩
  obtain ⟨h1, h2, h3, h4, h5, h6, h7, h8, h9, h10, h11⟩ := h
  refine ⟨hS ▸ h1, hS ▸ h2, hR ▸ h3, hR ▸ h4, by rw [hN, size_putNode]; exact h5, ?_, ?_, ?_, h9, h10, ?_⟩
  · intro x b hx hp
    obtain ⟨b0, hb0, e1, _⟩ := hget x b hx
    rw [e1]; exact h6 x b0 hb0 hp
  · intro x b hx hp it hit
    obtain ⟨b0, hb0, _, e2, _⟩ := hget x b hx
    rw [e2] at hit; exact h7 x b0 hb0 hp it hit
  · intro x b hx hp
    obtain ⟨b0, hb0, _, e2, _⟩ := hget x b hx
    rw [e2]; exact h8 x b0 hb0 hp
  · intro x b hx
    obtain ⟨b0, hb0, _, _, e3⟩ := hget x b hx
    rw [e3]; exact h11 x b0 hb0

theorem inv_pop_stack {ph : Nat → Phase} {ctx : Ctx F} (h : Inv root tree G ph ctx) {ni : Nat}
    (hb : ctx.stack.back? = some ni) :
    Inv root tree G ph ({ ctx with stack := ctx.stack.pop } : Ctx F) ∧ ni ∉ ctx.stack.pop.toList ∧ G ni ∧
      (ph ni = .p1 ∨ ph ni = .p2) := by
  have hl := toList_of_back hb
  have hnd := h.stackNodup
  rw [hl] at hnd
  obtain ⟨n1, _, n3⟩ := List.nodup_append.1 hnd
  have hmem : ni ∈ ctx.stack.toList := by rw [hl]; simp
  obtain ⟨h1, h2, h3, h4, h5, h6, h7, h8, h9, h10, h11⟩ := h
  refine ⟨⟨n1, fun x hx => h2 x (by rw [hl]; exact List.mem_append_left _ hx), h3, h4, h5, h6, h7, h8, h9, h10, h11⟩, ?_, h2 ni hmem⟩
  intro hm
  exact n3 ni hm ni (by simp) rfl

theorem inv_pop_root_exp (V : Validated root tree G) {ph : Nat → Phase} {ctx ctx' : Ctx F} (h : Inv root tree G ph ctx) {r : Nat}
    (hb : ctx.rootStack.back? = some r) (hS : ctx'.stack = #[r]) (hR : ctx'.rootStack = ctx.rootStack.pop)
    (hN : ctx'.nodes = ctx.nodes) :
    Inv root tree G (popPhase ph r) ctx' ∧ total (popPhase ph r) tree.size < total ph tree.size := by
  have hl := toList_of_back hb
  have hnd := h.rootNodup
  rw [hl] at hnd
  obtain ⟨n1, _, n3⟩ := List.nodup_append.1 hnd
  have hmem : r ∈ ctx.rootStack.toList := by rw [hl]; simp
  obtain ⟨hrG, hrp⟩ := h.rootOk r hmem
  let ph' : Nat → Phase := popPhase ph r
  have hr' : ph' r = .p1 := by simp [ph', popPhase]
  have hother : ∀ x, x ≠ r → ph' x = ph x := by intro x hx; simp [ph', popPhase, hx]
  have hsame : ∀ x, ph x ≠ .pr → ph' x = ph x := fun x hx => hother x (fun hxr => hx (hxr ▸ hrp))
  change Inv root tree G ph' ctx' ∧ total ph' tree.size < total ph tree.size
  refine ⟨⟨?_, ?_, ?_, ?_, ?_, ?_, ?_, ?_, ?_, ?_, ?_⟩, ?_⟩
  · rw [hS]; simp
  · intro x hx
    rw [hS] at hx
    simp only [List.mem_singleton] at hx
    subst hx; exact ⟨hrG, Or.inl hr'⟩
  · rw [hR]; exact n1
  · intro x hx
    rw [hR] at hx
    have hxr : x ≠ r := fun hxr => n3 x hx r (by simp) hxr
    have := h.rootOk x (by rw [hl]; exact List.mem_append_left _ hx)
    rw [hother x hxr]; exact this
  · rw [hN]; exact h.size
  · intro x bn hx hp2
    rw [hN] at hx
    have hxr : x ≠ r := fun hxr => by subst hxr; rw [hr'] at hp2; cases hp2
    rw [hother x hxr] at hp2
    exact h.init x bn hx hp2
  · intro x bn hx hp3 it hit
    rw [hN] at hx
    have hx3 : ph x ≠ .p3 := by
      rcases Classical.em (x = r) with hxr | hxr
      · subst hxr; rw [hrp]; intro h; cases h
      · rw [← hother x hxr]; exact hp3
    obtain ⟨g, hp⟩ := h.items x bn hx hx3 it hit
    exact ⟨g, by rw [hsame _ (by rw [hp]; intro h; cases h)]; exact hp⟩
  · intro x bn hx hp3
    rw [hN] at hx
    have hx3 : ph x ≠ .p3 := by
      rcases Classical.em (x = r) with hxr | hxr
      · subst hxr; rw [hrp]; intro h; cases h
      · rw [← hother x hxr]; exact hp3
    exact h.itemsNodup x bn hx hx3
  · refine fresh_advance h (fun x hx => Or.inl (hsame x (by rcases hx with h1 | h1 <;> rw [h1] <;> intro h <;> cases h)))
      (fun c _ h0 hc0 => absurd (by rw [hsame c (by rw [h0]; intro h; cases h)]; exact h0) hc0)
  · intro x pn hx hp2
    have hxr : x ≠ r := fun hxr => by subst hxr; rw [hr'] at hp2; cases hp2
    rw [hother x hxr] at hp2
    exact h.p2two x pn hx hp2
  · intro x bn hx
    rw [hN] at hx; exact h.pni x bn hx
  · apply total_lt
    · intro x _
      rcases Classical.em (x = r) with hxr | hxr
      · subst hxr; rw [hr', hrp]; decide
      · rw [hother x hxr]; exact Nat.le_refl _
    · exact ⟨r, G_lt V hrG, by rw [hr', hrp]; decide⟩


end Garnish.Lemmas.BuildTotal
