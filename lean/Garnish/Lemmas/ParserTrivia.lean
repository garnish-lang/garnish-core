/-
Trivia (Whitespace / Annotation / LineAnnotation tokens) around binary operators is invisible to the parser model: any run of
trivia between an operator-like node and the value token that follows, inside or outside of a bracket (`loop_trivia_then_atom`),
and, outside of brackets, between a value node and the binary operator that follows (`loop_trivia_then_binop`: whitespace there
sets the list flag, which the operator's `parse_token` clears again).  Both are equalities of `loop` results for an arbitrary
continuation, for any state that satisfies the stated conditions.
-/
import Garnish.Lemmas.ParserSteps

namespace Garnish.Model.Parser
open Garnish Garnish.Gen

theorem trivia_secdef {w : PToken} (hw : isTriviaTok w = true) :
    (getDefinition w.type).2 = .whitespace ∨ (getDefinition w.type).2 = .annotation := by
  unfold isTriviaTok at hw
  simp only [Bool.or_eq_true, beq_iff_eq] at hw
  rcases hw with (h | h) | h <;> rw [h] <;> simp [getDefinition]

theorem loop_underGroup_err {st : PState} {t : PToken} {rest : List PToken} {e : ErrClass}
    (hu : underGroupOf st = .err e) : loop st (t :: rest) = .err e := by
  simp only [loop]; unfold step; rw [hu]; rfl

theorem atomTok_secdef {a : PToken} (ha : isAtomTok a = true) :
    (getDefinition a.type).2 = .value ∨ (getDefinition a.type).2 = .identifier := by
  unfold isAtomTok at ha
  simp only [Bool.and_eq_true, Bool.or_eq_true, beq_iff_eq] at ha
  exact ha.1

theorem composition_trivia_then_atom (sw sa : SecDef) (hw : sw = .whitespace ∨ sw = .annotation)
    (ha : sa = .value ∨ sa = .identifier) : checkComposition sw sa false = true := by
  rcases hw with rfl | rfl <;> rcases ha with rfl | rfl <;> rfl

theorem composition_binop_atom (so sa : SecDef) (ho : so = .binaryLeftToRight ∨ so = .binaryRightToLeft)
    (ha : sa = .value ∨ sa = .identifier) : checkComposition so sa false = true := by
  rcases ho with rfl | rfl <;> rcases ha with rfl | rfl <;> rfl

/-- the composition check of the value sees a trivia token where it saw the node's class before, and has to say the same -/
theorem loop_trivia_then_atom (a : PToken) (post : List PToken) (ha : isAtomTok a = true) :
    ∀ (ws : List PToken) (st : PState), (∀ w ∈ ws, isTriviaTok w = true) → TrivOK st → st.checkForList = false →
      st.nextLastLeft = none →
      (∀ sw, sw = .whitespace ∨ sw = .annotation → checkComposition sw (getDefinition a.type).2 false =
        checkComposition st.previousSecondDef (getDefinition a.type).2 false) →
      loop st (ws ++ a :: post) = loop st (a :: post) := by
  intro ws
  induction ws with
  | nil => intro st _ _ _ _ _; rfl
  | cons w ws ih =>
    intro st hws ht hc hnl hcomp
    have hw : isTriviaTok w = true := hws w (List.mem_cons_self ..)
    have he : (ws ++ a :: post).isEmpty = false := by cases ws <;> rfl
    rcases underGroupOf_cases st with ⟨ug, hu⟩ | hu
    · simp only [List.cons_append, loop]
      rw [he, step_trivia st w false hw ht hnl, hu]
      simp only [Outcome.bind]
      rw [ih { st with previousSecondDef := (getDefinition w.type).2, lastToken := w }
        (fun x hx => hws x (List.mem_cons_of_mem _ hx)) ht hc hnl
        (fun sw hsw => by rw [hcomp sw hsw, hcomp _ (trivia_secdef hw)])]
      simp only [loop]
      rw [step_atom_indep st _ w a _ ha ht hc (hcomp _ (trivia_secdef hw))]
      rfl
    · rw [List.cons_append, loop_underGroup_err hu, loop_underGroup_err hu]

theorem window_binop_trivia_atom (st : PState) (o w a : PToken) (post : List PToken) (ho : isBinopTok o = true)
    (hw : isTriviaTok w = true) (ha : isAtomTok a = true) (hnl : st.nextLastLeft = none) :
    loop st (o :: w :: a :: post) = loop st (o :: a :: post) := by
  have e1 : loop st (o :: w :: a :: post) = Outcome.bind (step st o false) fun st1 => loop st1 ([w] ++ a :: post) := rfl
  have e2 : loop st (o :: a :: post) = Outcome.bind (step st o false) fun st1 => loop st1 (a :: post) := rfl
  rw [e1, e2]
  refine Outcome.bind_congr fun st1 h1 => ?_
  obtain ⟨p1, p2, p3, p4⟩ := step_binop_post st st1 o false ho hnl h1
  exact loop_trivia_then_atom a post ha [w] st1 (by simpa using hw) p3 p1 p2 (fun sw hsw => by
    rw [p4, composition_trivia_then_atom _ _ hsw (atomTok_secdef ha),
      composition_binop_atom _ _ (binop_secdef ho) (atomTok_secdef ha)])

theorem loop_binop_trivia_atom (o w a : PToken) (post : List PToken) (ho : isBinopTok o = true)
    (hw : isTriviaTok w = true) (ha : isAtomTok a = true) :
    ∀ (pre : List PToken) (st : PState), st.nextLastLeft = none →
      loop st (pre ++ o :: w :: a :: post) = loop st (pre ++ o :: a :: post) := by
  intro pre
  induction pre with
  | nil => intro st hnl; exact window_binop_trivia_atom st o w a post ho hw ha hnl
  | cons x pre ih =>
    intro st hnl
    simp only [List.cons_append, loop]
    have e1 : (pre ++ o :: w :: a :: post).isEmpty = false := by cases pre <;> rfl
    have e2 : (pre ++ o :: a :: post).isEmpty = false := by cases pre <;> rfl
    rw [e1, e2]
    exact Outcome.bind_congr fun st' hs => ih st' (step_nextLastLeft st st' x false hs)

/-- `last_left` is a value node (value-like, hence not a side effect) -/
def AtomOK (st : PState) : Prop :=
  ∃ i n, st.lastLeft = some i ∧ st.nodes[i]? = some n ∧ n.definition.isValueLike = true ∧
    (n.definition == Definition.sideEffect) = false

theorem adjustLastLeft_atomOK {st : PState} (h : AtomOK st) (ug : Option Nat) : adjustLastLeft st ug = .ok st := by
  obtain ⟨i, n, hl, hn, _, hs⟩ := h
  exact adjust_noop st ug (Or.inr ⟨i, n, hl, hn, Or.inl hs⟩)

theorem step_trivia_atom (st : PState) (w : PToken) (il : Bool) (hw : isTriviaTok w = true) (ht : AtomOK st)
    (hnl : st.nextLastLeft = none) :
    step st w il = Outcome.bind (underGroupOf st) fun _ =>
      .ok { st with checkForList := (if w.type == .whitespace then true else st.checkForList),
                    previousSecondDef := (getDefinition w.type).2, lastToken := w } := by
  obtain ⟨i, n, hl, hn, hv, hs⟩ := ht
  rw [step_trivia_gen st w il hw hl hn hs hnl]
  simp [hv]

theorem step_binop_indep (st : PState) (c : Bool) (s : SecDef) (w o : PToken) (il : Bool) (ho : isBinopTok o = true)
    (ht : AtomOK st)
    (hcomp : checkComposition s (getDefinition o.type).2 c =
      checkComposition st.previousSecondDef (getDefinition o.type).2 st.checkForList) :
    step { st with checkForList := c, previousSecondDef := s, lastToken := w } o il = step st o il := by
  have hop : isOpSec (getDefinition o.type).2 = true := by
    unfold isBinopTok at ho; unfold isOpSec; rw [ho]; rfl
  rcases underGroupOf_cases st with ⟨ug, hu⟩ | hu
  · rw [step_op_eq st o il hop hu (adjustLastLeft_atomOK ht ug),
      step_op_eq { st with checkForList := c, previousSecondDef := s, lastToken := w } o il hop hu
        (adjustLastLeft_atomOK (st := { st with checkForList := c, previousSecondDef := s, lastToken := w }) ht ug), ← hcomp]
    congr 1
    exact Outcome.bind_congr fun r _ => congrArg Outcome.ok (stepEnd_lastToken
      { st with nodes := r.1, nextParent := some st.nodes.size, checkForList := false,
                previousSecondDef := (getDefinition o.type).2 } w r.2 _ o _)
  · rw [step_underGroup_err hu,
      step_underGroup_err (st := { st with checkForList := c, previousSecondDef := s, lastToken := w }) hu]

theorem composition_trivia_binop (sw so : SecDef) (c : Bool) (hw : sw = .whitespace ∨ sw = .annotation)
    (ho : so = .binaryLeftToRight ∨ so = .binaryRightToLeft) : checkComposition sw so c = true := by
  rcases hw with rfl | rfl <;> rcases ho with rfl | rfl <;> cases c <;> rfl

theorem loop_trivia_then_binop (o : PToken) (post : List PToken) (ho : isBinopTok o = true) :
    ∀ (ws : List PToken) (st : PState), (∀ w ∈ ws, isTriviaTok w = true) → AtomOK st → st.nextLastLeft = none →
      underGroupOf st = .ok none →
      checkComposition st.previousSecondDef (getDefinition o.type).2 st.checkForList = true →
      loop st (ws ++ o :: post) = loop st (o :: post) := by
  intro ws
  induction ws with
  | nil => intro st _ _ _ _ _; rfl
  | cons w ws ih =>
    intro st hws ht hnl hcg hcomp
    have hw : isTriviaTok w = true := hws w (List.mem_cons_self ..)
    have hso := binop_secdef ho
    simp only [List.cons_append, loop]
    have he : (ws ++ o :: post).isEmpty = false := by cases ws <;> rfl
    rw [he, step_trivia_atom st w false hw ht hnl, hcg]
    simp only [Outcome.bind]
    have hcw : ∀ c, checkComposition (getDefinition w.type).2 (getDefinition o.type).2 c = true :=
      fun c => composition_trivia_binop _ _ c (trivia_secdef hw) hso
    rw [ih { st with checkForList := (if w.type == .whitespace then true else st.checkForList),
                     previousSecondDef := (getDefinition w.type).2, lastToken := w }
      (fun x hx => hws x (List.mem_cons_of_mem _ hx)) ht hnl hcg (hcw _)]
    simp only [loop]
    rw [step_binop_indep st _ _ w o _ ho ht (by rw [hcw, hcomp])]
    rfl

end Garnish.Model.Parser
