/-
Every constant `build` adds to the data object is a leaf (`isLeafS`: Unit / True / False, numbers, char lists, byte lists,
symbols, expressions — never a pair, list, range, slice, concatenation or partial application): `build_consts_leaf`, for
every node vector, root, fuel and start state whose constants are leaves.  The constants a handler call adds are on the list of
pushes of its visit (Lemmas/BuildVisit.lean): the value of a literal, a symbol, or an expression reference (`Visit.cl`).
-/
import Garnish.Lemmas.Build
import Garnish.Props.C01TextStoreSimple
namespace Garnish.Lemmas.BuildConstsLeaf
open Garnish Garnish.Gen Garnish.Model.Parser Garnish.Model.Literals Garnish.Model.Build Garnish.Lemmas.Build
open Garnish.Props.C01TextStore (isLeafS)

variable {F : Type}

/-- the constants are leaves -/
def CL (d : BState F) : Prop := d.consts.toList.all isLeafS = true

theorem cl_push {d : BState F} (h : CL d) {v : Val F} (hv : isLeafS v = true) :
    CL ({ instrs := d.instrs, jumps := d.jumps, consts := d.consts.push v, metadata := d.metadata } : BState F) := by
  simp only [CL] at h ⊢
  simp [h, hv]

theorem cl_congr {d d' : BState F} (h : CL d) (hc : d'.consts = d.consts) : CL d' := by
  simp only [CL] at h ⊢; rw [hc]; exact h

open Garnish.Lemmas.BuildPlan

theorem cl_emitAll : ∀ (evs : List (Ev F)) {d : BState F}, CL d → (∀ v, Ev.const v ∈ evs → isLeafS v = true) → CL (emitAll d evs)
  | [], _, h, _ => h
  | .instr _ _ _ :: evs, _, h, hv => cl_emitAll evs (cl_congr h rfl) fun v hm => hv v (List.mem_cons_of_mem _ hm)
  | .hole :: evs, _, h, hv => cl_emitAll evs (cl_congr h rfl) fun v hm => hv v (List.mem_cons_of_mem _ hm)
  | .here :: evs, _, h, hv => cl_emitAll evs (cl_congr h rfl) fun v hm => hv v (List.mem_cons_of_mem _ hm)
  | .const v :: evs, _, h, hv =>
    cl_emitAll evs (cl_push h (hv v List.mem_cons_self)) fun v hm => hv v (List.mem_cons_of_mem _ hm)

theorem isLeafS_of_isLit {v : Val F} (h : isLit v = true) : isLeafS v = true := by
  cases v <;> first | rfl | cases h

section handlers
variable {ctx : Ctx F} {crj ni : Nat} {pn : ParseNode}

theorem _root_.Garnish.Lemmas.BuildPlan.Visit.cl {p : Plan F} (h : CL ctx.data) (v : Visit ctx crj ni pn p) : CL p.data := by
  cases v with
  | first _ _ _ hevs =>
    cases hevs with
    | resolve => exact cl_emitAll _ h fun v hv => by simp at hv; subst hv; rfl
    | _ => exact cl_emitAll _ h fun v hv => by simp at hv
  | emit _ _ _ _ hevs =>
    cases hevs with
    | value hlit => exact cl_emitAll _ h fun v hv => by simp at hv; subst hv; exact isLeafS_of_isLit hlit
    | _ => exact cl_emitAll _ h fun v hv => by simp at hv
  | nestedEmpty => exact cl_emitAll _ h fun v hv => by simp at hv; subst hv; rfl
  | nestedRoot => exact cl_emitAll _ h fun v hv => by simp at hv; subst hv; rfl
  | branch => exact cl_emitAll _ (cl_emitAll _ h fun v hv => by simp at hv) fun v hv => by simp at hv
  | _ => exact cl_emitAll _ h fun v hv => by simp at hv

variable (parseFloat : List Char → Option F)

theorem handleParseNode_cl (h : CL ctx.data) (crj : Nat) :
    Sat (fun c => CL c.data) (handleParseNode parseFloat ctx crj ni pn) := by
  obtain ⟨x, e, hv, _⟩ := handleParseNode_plan parseFloat ctx crj ni pn
  rw [e]
  exact sat_bind hv fun _ v => Plan.run_sat fun _ => v.cl h

theorem rootJump_cl (data : BState F) (nodes : Nodes) (rootIndex : Nat) (h : CL data) :
    Sat (fun r => CL r.1) (rootJump data nodes rootIndex) := by
  refine sat_mono (rootJump_cases data nodes rootIndex).sat fun r hr => ?_
  rcases hr with rfl | ⟨_, _, _, hset⟩
  · exact cl_congr h rfl
  · exact cl_congr h (setJump?_fields hset).2.1

theorem pushEndInstructions_cl (last : Option Instr) (rs : Nat) : ∀ (endL : List Instr) (data : BState F), CL data →
    CL (pushEndInstructions last rs data endL) := by
  intro endL data h
  obtain ⟨l', e⟩ := pushEndInstructions_emitAll last rs endL data
  rw [e]; exact cl_emitAll _ h fun v hv => by obtain ⟨_, _, h⟩ := List.mem_map.1 hv; cases h

theorem reach_cl {tree : Array ParseNode} {c0 : Ctx F} (h0 : CL c0.data) {loc : Loc} {ctx : Ctx F}
    (h : Reach parseFloat tree c0 loc ctx) : CL ctx.data := by
  induction h with
  | init => exact h0
  | enter _ _ hj ih => exact (rootJump_cl _ _ _ ih).of_eq hj
  | @step r crj rs ctx c1 ni pn N _ _ _ hh _ ih =>
    exact Sat.of_eq (P := fun c => CL c.data) (handleParseNode_cl parseFloat (ctx := { ctx with stack := ctx.stack.pop }) ih crj) hh
  | leave _ _ ih => exact pushEndInstructions_cl _ _ _ _ ih

theorem build_consts_leaf (fuel root : Nat) (tree : Array ParseNode) (data : BState F) (h : CL data) :
    Sat (fun r => CL r.1) (build parseFloat fuel root tree data) := by
  unfold build
  split
  · exact cl_congr h rfl
  · refine sat_bind (Q := fun _ => True) sat_true fun _ _ => sat_mono (buildCore_reach parseFloat fuel root tree data) ?_
    intro _ ⟨_, ctx, hr, _, _, e⟩
    subst e
    exact reach_cl parseFloat (c0 := startCtx root tree data) h hr

end handlers

end Garnish.Lemmas.BuildConstsLeaf
