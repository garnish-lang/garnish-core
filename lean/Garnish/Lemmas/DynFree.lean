/-
The instructions whose residual side condition `DynOK` is `True` (`dynFree`), and the trivial hosts: a host that declines
every call answers with nothing, hence with neither `custom` nor an unknown `Expression`. The declarations are in namespace
`Garnish.Lemmas.Runtime.On`, beside the coverage predicates.
-/
import Garnish.Lemmas.ExprsKnown
namespace Garnish.Lemmas.Runtime.On
open Garnish Gen Garnish.Abs Garnish.Model.Equality Garnish.Model.Runtime Garnish.Lemmas.Runtime
open Garnish.Lemmas.NoCustom Garnish.Lemmas.Her

variable {F σ : Type}

def dynFree : Instruction → Bool
  | .lessThan | .lessThanOrEqual | .greaterThan | .greaterThanOrEqual | .concat | .apply | .emptyApply | .access
  | .resolve | .equal | .notEqual | .accessLengthInternal => false
  | _ => true

theorem dynOK_of_dynFree (fo : FloatOps F) (S : RStore F σ) (Inv : σ → Prop) (P : Prog F) (fuel : Nat) (m : MState F)
    {i : Instruction} (o : Option Nat) (h : dynFree i = true) : DynOK fo S Inv P fuel m i o := by
  cases i <;> first | trivial | (cases h; done)

def progDynFree (P : Prog F) : Bool := P.instrs.toList.all (fun x => dynFree x.1)

theorem dynFree_at {P : Prog F} (h : progDynFree P = true) {pc : Nat} {i : Instruction} {o : Option Nat}
    (hi : P.instrs[pc]? = some (i, o)) : dynFree i = true := by
  have hm : (i, o) ∈ P.instrs.toList := List.mem_of_getElem? (by simpa using hi)
  exact (List.all_eq_true.mp h) _ hm

theorem hostNoCustom_declining : HostNoCustom (Host.declining : Host F) :=
  ⟨fun _ _ _ _ h => (by cases h), fun _ _ h => (by cases h), fun _ _ _ h => (by cases h)⟩

theorem hostHer_declining (q : Val F → Bool) : HostHer q (Host.declining : Host F) :=
  ⟨fun _ _ _ _ h => (by cases h), fun _ _ h => (by cases h), fun _ _ _ h => (by cases h)⟩

end Garnish.Lemmas.Runtime.On
