/-
The tie between the two builder models (1): which parse trees represent an expression.

`Rep tree bodies lo hi i e` — node `i` of the parse-node array `tree` is the root of a subtree that occupies exactly the
indices `[lo, hi)` (in-order numbering: left subtree below `i`, right subtree above — the numbering of the real parser,
whose nodes are numbered by token position) and represents the expression `e` of Spec/Eval.lean: a literal node whose
text parses to the literal, an operator node with the operands as `left` / `right`, a `List` / `CommaList` spine for a
list, `JumpIf…` / `ElseJump` / `And` / `Or` nodes for conditionals, else-chains and logic, `NestedExpression` with the body
as `right`, `Reapply`, the identifier-application nodes, `Group` nodes anywhere.  It is a RELATION: every array that
satisfies it is covered (the real parser's output for the printed program, or `treeOf` of Lemmas/CompileTreeOf.lean).
A side-effect block after a value (`v [b]`: the `SideEffect` node hangs off the `right` of the value node, the body off the
`right` of the `SideEffect` node) is `Rep.side`.
Not representable (so outside the tie): a side-effect block anywhere else (`[b] v`, `(e) [b]`, `v [b] [c]`: the builder
drops the content of the group / the first block — it never looks at the `left` of a `SideEffect` node), literal values other than unit / true / false / number / text / byte list / symbol, lists with fewer than two
items, and — without a `Group` node around them, as in the language — a conditional or else-chain as the direct left operand
of `&&` / `||` or as an arm / the final arm of an else-chain, a list as a direct item of a list of the same kind.
-/
import Garnish.Model.Build
import Garnish.Abs.Compile
namespace Garnish.Abs.Tree
open Garnish Garnish.Gen Garnish.Spec Garnish.Abs Garnish.Model.Parser Garnish.Model.Literals Garnish.Model.Build

variable {F : Type}

/-! ### the operator tables of `handle_parse_node` -/

def prefixOp : Definition → Option Instruction
  | .absoluteValue => some .absoluteValue | .opposite => some .opposite | .bitwiseNot => some .bitwiseNot
  | .not => some .not | .tis => some .tis | .typeOf => some .typeOf | .accessLeftInternal => some .accessLeftInternal
  | _ => none

def suffixOp : Definition → Option Instruction
  | .emptyApply => some .emptyApply | .accessRightInternal => some .accessRightInternal
  | .accessLengthInternal => some .accessLengthInternal
  | _ => none

def binOp : Definition → Option Instruction
  | .addition => some .add | .subtraction => some .subtract | .multiplicationSign => some .multiply
  | .division => some .divide | .access => some .access | .range => some .makeRange
  | .startExclusiveRange => some .makeStartExclusiveRange | .endExclusiveRange => some .makeEndExclusiveRange
  | .exclusiveRange => some .makeExclusiveRange | .exponentialSign => some .power | .remainder => some .remainder
  | .integerDivision => some .integerDivide | .bitwiseAnd => some .bitwiseAnd | .bitwiseOr => some .bitwiseOr
  | .bitwiseXor => some .bitwiseXor | .bitwiseRightShift => some .bitwiseShiftRight
  | .bitwiseLeftShift => some .bitwiseShiftLeft | .xor => some .xor | .typeEqual => some .typeEqual
  | .typeCast => some .applyType | .equality => some .equal | .inequality => some .notEqual
  | .lessThan => some .lessThan | .lessThanOrEqual => some .lessThanOrEqual | .greaterThan => some .greaterThan
  | .greaterThanOrEqual => some .greaterThanOrEqual | .apply => some .apply | .partialApply => some .partialApply
  | .concatenation => some .concat
  | _ => none

/-- nodes whose build node looks at `conditional_parent` -/
def condDef (d : Definition) : Bool := d == .jumpIfTrue || d == .jumpIfFalse || d == .elseJump

def jumpIfDef : Bool → Definition
  | true => .jumpIfTrue
  | false => .jumpIfFalse

variable (pf : List Char → Option F)

/-- the literal a value node stands for -/
inductive LitRep (pn : ParseNode) : Val F → Prop where
  | unit : pn.definition = .unit → LitRep pn .unit
  | tru : pn.definition = .true → LitRep pn .tru
  | fls : pn.definition = .false → LitRep pn .fls
  | num {n : Number F} : pn.definition = .number → parseSimpleNumber pf pn.lexToken.text = .ok n → LitRep pn (.num n)
  | chars {cs : List Char} : pn.definition = .charList → parseCharList pf pn.lexToken.text = .ok cs →
      LitRep pn (.chars (cs.map Char.toNat))
  | bytes {bs : List Nat} : pn.definition = .byteList → parseByteList pf pn.lexToken.text = .ok bs → LitRep pn (.bytes bs)
  | sym {rest : List Char} : pn.definition = .symbol → dropFirstByte pn.lexToken.text = some rest →
      LitRep pn (.sym (parseSymbol rest))
  | prop : pn.definition = .property → LitRep pn (.sym (parseSymbol pn.lexToken.text))

/-- the expression a value node stands for: a literal, `$`, an identifier -/
inductive LeafRep (pn : ParseNode) : Expr F → Prop where
  | lit {v : Val F} : LitRep pf pn v → LeafRep pn (.lit v)
  | input : pn.definition = .value → LeafRep pn .input
  | ident : pn.definition = .identifier → LeafRep pn (.ident (parseSymbol pn.lexToken.text))

variable (tree : Array ParseNode) (bodies : List (Nat × Expr F))

/-- the definition of node `i` is not `d` (an item of a `d`-list is not itself a `d`-list node) -/
def NotDef (i : Nat) (d : Definition) : Prop := ∀ pn, tree[i]? = some pn → pn.definition ≠ d

/-- node `i` does not look at `conditional_parent` -/
def NotCond (i : Nat) : Prop := ∀ pn, tree[i]? = some pn → condDef pn.definition = false

mutual
inductive Rep : Nat → Nat → Nat → Expr F → Prop where
  | group {hi i r : Nat} {e : Expr F} {pn : ParseNode} : tree[i]? = some pn → pn.definition = .group → pn.right = some r →
      Rep (i + 1) hi r e → Rep i hi i e
  | lit {i : Nat} {v : Val F} {pn : ParseNode} : tree[i]? = some pn → pn.left = none → pn.right = none → LitRep pf pn v →
      Rep i (i + 1) i (.lit v)
  | input {i : Nat} {pn : ParseNode} : tree[i]? = some pn → pn.definition = .value → pn.left = none → pn.right = none →
      Rep i (i + 1) i .input
  | ident {i : Nat} {pn : ParseNode} : tree[i]? = some pn → pn.definition = .identifier → pn.left = none → pn.right = none →
      Rep i (i + 1) i (.ident (parseSymbol pn.lexToken.text))
  | unaryPre {hi i r : Nat} {op : Instruction} {x : Expr F} {pn : ParseNode} : tree[i]? = some pn →
      prefixOp pn.definition = some op → pn.right = some r → Rep (i + 1) hi r x → Rep i hi i (.unary op x)
  | unarySuf {lo i l : Nat} {op : Instruction} {x : Expr F} {pn : ParseNode} : tree[i]? = some pn →
      suffixOp pn.definition = some op → pn.left = some l → Rep lo i l x → Rep lo (i + 1) i (.unary op x)
  | binary {lo hi i l r : Nat} {op : Instruction} {a b : Expr F} {pn : ParseNode} : tree[i]? = some pn →
      binOp pn.definition = some op → pn.left = some l → pn.right = some r → Rep lo i l a → Rep (i + 1) hi r b →
      Rep lo hi i (.binary op a b)
  | pair {lo hi i l r : Nat} {a b : Expr F} {pn : ParseNode} : tree[i]? = some pn → pn.definition = .pair →
      pn.left = some l → pn.right = some r → Rep lo i l a → Rep (i + 1) hi r b → Rep lo hi i (.pair a b)
  | applyTo {lo hi i l r : Nat} {x f : Expr F} {pn : ParseNode} : tree[i]? = some pn → pn.definition = .applyTo →
      pn.left = some l → pn.right = some r → Rep lo i l x → Rep (i + 1) hi r f → Rep lo hi i (.applyTo x f)
  | list {lo hi i : Nat} {d : Definition} {items : List (Expr F)} : (d = .list ∨ d = .commaList) →
      RepItems d lo hi i items → Rep lo hi i (.list items)
  | seq {lo hi i l r : Nat} {a b : Expr F} {pn : ParseNode} : tree[i]? = some pn →
      (pn.definition = .subexpression ∨ pn.definition = .expressionSeparator) →
      pn.left = some l → pn.right = some r → Rep lo i l a → Rep (i + 1) hi r b → Rep lo hi i (.seq a b)
  | reapply {hi i r : Nat} {x : Expr F} {pn : ParseNode} : tree[i]? = some pn → pn.definition = .reapply →
      pn.right = some r → Rep (i + 1) hi r x → Rep i hi i (.reapply x)
  | prefixApply {hi i r : Nat} {x : Expr F} {pn : ParseNode} : tree[i]? = some pn → pn.definition = .prefixApply →
      pn.right = some r → Rep (i + 1) hi r x →
      Rep i hi i (.prefixApply (parseSymbol (trimMatches '`' pn.lexToken.text)) x)
  | suffixApply {lo i l : Nat} {x : Expr F} {pn : ParseNode} : tree[i]? = some pn → pn.definition = .suffixApply →
      pn.left = some l → Rep lo i l x →
      Rep lo (i + 1) i (.suffixApply x (parseSymbol (trimMatches '`' pn.lexToken.text)))
  | infixApply {lo hi i l r : Nat} {a b : Expr F} {pn : ParseNode} : tree[i]? = some pn → pn.definition = .infixApply →
      pn.left = some l → pn.right = some r → Rep lo i l a → Rep (i + 1) hi r b →
      Rep lo hi i (.infixApply a (parseSymbol (trimMatches '`' pn.lexToken.text)) b)
  | side {hi i b : Nat} {x body : Expr F} {pn ps : ParseNode} : tree[i]? = some pn → pn.left = none →
      pn.right = some (i + 1) → LeafRep pf pn x → tree[i + 1]? = some ps → ps.definition = .sideEffect → ps.right = some b →
      Rep (i + 2) hi b body → Rep i hi i (.sideAfter x body)
  | nested {hi i r id : Nat} {b : Expr F} {pn : ParseNode} : tree[i]? = some pn → pn.definition = .nestedExpression →
      pn.right = some r → lookupBody bodies id = some b → Rep (i + 1) hi r b → Rep i hi i (.nested id)
  | emptyNested {i : Nat} {pn : ParseNode} : tree[i]? = some pn → pn.definition = .nestedExpression → pn.right = none →
      Rep i (i + 1) i .emptyNested
  | cond {lo hi i l r : Nat} {onTrue : Bool} {c t : Expr F} {pn : ParseNode} : tree[i]? = some pn →
      pn.definition = jumpIfDef onTrue → pn.left = some l → pn.right = some r → Rep lo i l c → Rep (i + 1) hi r t →
      Rep lo hi i (.cond onTrue c t)
  | and {lo hi i l r : Nat} {a b : Expr F} {pn : ParseNode} : tree[i]? = some pn → pn.definition = .and →
      pn.left = some l → pn.right = some r → NotCond tree l → Rep lo i l a → Rep (i + 1) hi r b → Rep lo hi i (.and a b)
  | or {lo hi i l r : Nat} {a b : Expr F} {pn : ParseNode} : tree[i]? = some pn → pn.definition = .or →
      pn.left = some l → pn.right = some r → NotCond tree l → Rep lo i l a → Rep (i + 1) hi r b → Rep lo hi i (.or a b)
  | chain {lo hi i l r : Nat} {arms : List (Bool × Expr F × Expr F)} {fe : Expr F} {pn : ParseNode} : tree[i]? = some pn →
      pn.definition = .elseJump → pn.left = some l → pn.right = some r → RepArms lo i l arms → NotCond tree r →
      Rep (i + 1) hi r fe → Rep lo hi i (.chain arms (some fe))
  | chainNoFinal {lo hi i l r : Nat} {arms : List (Bool × Expr F × Expr F)} {onTrue : Bool} {c t : Expr F}
      {pn : ParseNode} : tree[i]? = some pn →
      pn.definition = .elseJump → pn.left = some l → pn.right = some r → RepArms lo i l arms →
      RepArm (i + 1) hi r onTrue c t → Rep lo hi i (.chain (arms ++ [(onTrue, c, t)]) none)
/-- the spine of a list of definition `d`: the items in order, at least two -/
inductive RepItems : Definition → Nat → Nat → Nat → List (Expr F) → Prop where
  | two {d : Definition} {lo hi i l r : Nat} {a b : Expr F} {pn : ParseNode} : tree[i]? = some pn → pn.definition = d →
      pn.left = some l → pn.right = some r → NotDef tree l d → NotDef tree r d → Rep lo i l a → Rep (i + 1) hi r b →
      RepItems d lo hi i [a, b]
  | snoc {d : Definition} {lo hi i l r : Nat} {items : List (Expr F)} {b : Expr F} {pn : ParseNode} : tree[i]? = some pn →
      pn.definition = d → pn.left = some l → pn.right = some r → NotDef tree r d → RepItems d lo i l items →
      Rep (i + 1) hi r b → RepItems d lo hi i (items ++ [b])
/-- the left part of an else-chain: one conditional arm, or an `ElseJump` node over more arms -/
inductive RepArms : Nat → Nat → Nat → List (Bool × Expr F × Expr F) → Prop where
  | one {lo hi i : Nat} {onTrue : Bool} {c t : Expr F} : RepArm lo hi i onTrue c t → RepArms lo hi i [(onTrue, c, t)]
  | more {lo hi i l r : Nat} {arms : List (Bool × Expr F × Expr F)} {onTrue : Bool} {c t : Expr F} {pn : ParseNode} :
      tree[i]? = some pn → pn.definition = .elseJump → pn.left = some l → pn.right = some r → RepArms lo i l arms →
      RepArm (i + 1) hi r onTrue c t → RepArms lo hi i (arms ++ [(onTrue, c, t)])
/-- a conditional arm: a `JumpIf` node directly below an `ElseJump` -/
inductive RepArm : Nat → Nat → Nat → Bool → Expr F → Expr F → Prop where
  | mk {lo hi i l r : Nat} {onTrue : Bool} {c t : Expr F} {pn : ParseNode} : tree[i]? = some pn →
      pn.definition = jumpIfDef onTrue → pn.left = some l → pn.right = some r → Rep lo i l c → Rep (i + 1) hi r t →
      RepArm lo hi i onTrue c t
end

end Garnish.Abs.Tree
