/-
The tie between the two builder models: every represented expression is simulated (`Rep.sim`, `sim_of_rep`), one
pending root, the root loop, and `buildCore` on a tree that represents the program (`buildCore_refines`).
-/
import Garnish.Lemmas.ListFacts
import Garnish.Lemmas.CompileTreeChain
import Garnish.Lemmas.CompileTreeNodes
import Garnish.Lemmas.CompileDepthLoop
import Garnish.Lemmas.BuildReach
import Garnish.Lemmas.Outcome

namespace Garnish.Abs.Tree
open Garnish Garnish.Gen Garnish.Spec Garnish.Abs Garnish.Model.Parser Garnish.Model.Literals Garnish.Model.Build

variable {F : Type} {pf : List Char → Option F} {tree : Array ParseNode} {bodies : List (Nat × Expr F)}

theorem RepArms.ne_nil {lo hi i : Nat} {arms : List (Bool × Expr F × Expr F)} (h : RepArms pf tree bodies lo hi i arms) : arms ≠ [] := by
  cases h with
  | one _ => simp
  | more _ _ _ _ _ _ => simp

theorem emitArms_length (root cur : Nat) : ∀ (arms : List (Bool × Expr F × Expr F)) (s : LState F),
    (emitArms root cur arms s).2.length = arms.length
  | [], s => by simp [emitArms]
  | (b, c, t) :: rest, s => by simp [emitArms, emitArms_length root cur rest]

theorem SimArmsF.congr {lo hi c : Nat} {f g : Nat → Nat → LState F → LState F × List (Expr F × Nat)}
    (h : SimArmsF pf tree bodies lo hi c f) (e : ∀ root cur s, f root cur s = g root cur s) : SimArmsF pf tree bodies lo hi c g := by
  have : f = g := funext fun root => funext fun cur => funext fun s => e root cur s
  exact this ▸ h

theorem emitArms_mono (arms : List (Bool × Expr F × Expr F)) (root cur : Nat) (s : LState F) (h : cur < s.jumps.size) :
    cur < (emitArms root cur arms s).1.jumps.size := by
  have := (emitArms_wrote root cur arms s).1.jsize; omega

theorem sim_chain_arms {lo hi i l r : Nat} {e : Expr F} {arms : List (Bool × Expr F × Expr F)}
    {f2 : Nat → Nat → LState F → LState F × List (Expr F × Nat)} {pn : ParseNode} (h : tree[i]? = some pn)
    (hd : pn.definition = .elseJump) (hl : pn.left = some l) (hr : pn.right = some r) (harms : RepArms pf tree bodies lo i l arms)
    (s1 : Within tree lo i l ∧ SimArms pf tree bodies lo i l arms)
    (s2 : Within tree (i + 1) hi r ∧ SimArmsF pf tree bodies (i + 1) hi r f2)
    (he : ∀ root cur s, emit root cur e s =
      finishChain cur (f2 root cur (emitArms root cur arms s).1).1
        ((emitArms root cur arms s).2 ++ (f2 root cur (emitArms root cur arms s).1).2)) :
    SimAt pf tree bodies lo hi i e := by
  refine sim_chain_top (f1 := fun root cur s => emitArms root cur arms s) (f2 := f2) h hd hl hr s1 s2
    (fun root cur s hc => emitArms_mono arms root cur s hc) (fun root cur s hh => ?_) he
  have := emitArms_length root cur arms s
  rw [hh] at this
  exact harms.ne_nil (List.length_eq_zero_iff.1 this.symm)

/-- **every represented expression is simulated**, and with it the spine of a list (as an inner part, and as the list node at
the top), the conditional arms of a chain, one arm.  The induction carries the position of the node along, which every step
needs of its children. -/
theorem Rep.sim :
    (∀ {lo hi i : Nat} {e : Expr F}, Rep pf tree bodies lo hi i e → SimAt pf tree bodies lo hi i e) ∧
    (∀ {d : Definition} {lo hi i : Nat} {items : List (Expr F)}, RepItems pf tree bodies d lo hi i items →
      Within tree lo hi i ∧ ((d = .list ∨ d = .commaList) →
        SimPart pf tree bodies d lo hi i items ∧ SimT pf tree bodies lo hi i (.list items))) ∧
    (∀ {lo hi i : Nat} {arms : List (Bool × Expr F × Expr F)}, RepArms pf tree bodies lo hi i arms →
      Within tree lo hi i ∧ SimArms pf tree bodies lo hi i arms) ∧
    (∀ {lo hi i : Nat} {b : Bool} {c t : Expr F}, RepArm pf tree bodies lo hi i b c t →
      Within tree lo hi i ∧ SimArms pf tree bodies lo hi i [(b, c, t)]) := by
  let M1 := fun (lo hi i : Nat) (e : Expr F) (_ : Rep pf tree bodies lo hi i e) => SimAt pf tree bodies lo hi i e
  let M2 := fun (d : Definition) (lo hi i : Nat) (items : List (Expr F)) (_ : RepItems pf tree bodies d lo hi i items) =>
    Within tree lo hi i ∧ ((d = .list ∨ d = .commaList) →
      SimPart pf tree bodies d lo hi i items ∧ SimT pf tree bodies lo hi i (.list items))
  let M3 := fun (lo hi i : Nat) (arms : List (Bool × Expr F × Expr F)) (_ : RepArms pf tree bodies lo hi i arms) =>
    Within tree lo hi i ∧ SimArms pf tree bodies lo hi i arms
  let M4 := fun (lo hi i : Nat) (b : Bool) (c t : Expr F) (_ : RepArm pf tree bodies lo hi i b c t) =>
    Within tree lo hi i ∧ SimArms pf tree bodies lo hi i [(b, c, t)]
  -- The four recursors take the same 28 premises, one per constructor, shared here through the named holes. (As a `mutual`
  -- block by pattern matching this costs six times as much to check: what costs is Lean's compilation of structural recursion
  -- over the four mutually inductive predicates, not the cases.)
  refine ⟨@Rep.rec F pf tree bodies M1 M2 M3 M4 ?group ?lit ?input ?ident ?unaryPre ?unarySuf ?binary ?pair ?applyTo ?list ?seq ?reapply ?prefixApply
      ?suffixApply ?infixApply ?side ?nested ?emptyNested ?cond ?and ?or ?chain ?chainNoFinal ?two ?snoc ?one ?more ?mk,
    @RepItems.rec F pf tree bodies M1 M2 M3 M4 ?group ?lit ?input ?ident ?unaryPre ?unarySuf ?binary ?pair ?applyTo ?list ?seq ?reapply ?prefixApply
      ?suffixApply ?infixApply ?side ?nested ?emptyNested ?cond ?and ?or ?chain ?chainNoFinal ?two ?snoc ?one ?more ?mk,
    @RepArms.rec F pf tree bodies M1 M2 M3 M4 ?group ?lit ?input ?ident ?unaryPre ?unarySuf ?binary ?pair ?applyTo ?list ?seq ?reapply ?prefixApply
      ?suffixApply ?infixApply ?side ?nested ?emptyNested ?cond ?and ?or ?chain ?chainNoFinal ?two ?snoc ?one ?more ?mk,
    @RepArm.rec F pf tree bodies M1 M2 M3 M4 ?group ?lit ?input ?ident ?unaryPre ?unarySuf ?binary ?pair ?applyTo ?list ?seq ?reapply ?prefixApply
      ?suffixApply ?infixApply ?side ?nested ?emptyNested ?cond ?and ?or ?chain ?chainNoFinal ?two ?snoc ?one ?more ?mk⟩
  case group => exact fun h hd hr _ ih => sim_group h hd hr ih
  case lit => exact fun h hl hr hv => sim_leaf h hl hr (.lit hv)
  case input => exact fun h hd hl hr => sim_leaf h hl hr (.input hd)
  case ident => exact fun h hd hl hr => sim_leaf h hl hr (.ident hd)
  case unaryPre => exact fun h hop hr _ ih => sim_unaryPre h hop hr ih
  case unarySuf => exact fun h hop hl _ ih => sim_unarySuf h hop hl ih
  case binary => exact fun h hop hl hr _ _ ia ib => sim_binary h hop hl hr ia ib
  case pair => exact fun h hd hl hr _ _ ia ib => sim_pair h hd hl hr ia ib
  case applyTo => exact fun h hd hl hr _ _ ia ib => sim_applyTo h hd hl hr ia ib
  case list => exact fun hdl _ ih => ⟨ih.1, (ih.2 hdl).2⟩
  case seq => exact fun h hd hl hr _ _ ia ib => sim_seq h hd hl hr ia ib
  case reapply => exact fun h hd hr _ ih => sim_reapply h hd hr ih
  case prefixApply => exact fun h hd hr _ ih => sim_prefixApply h hd hr ih
  case suffixApply => exact fun h hd hl _ ih => sim_suffixApply h hd hl ih
  case infixApply => exact fun h hd hl hr _ _ ia ib => sim_infixApply h hd hl hr ia ib
  case side => exact fun h hl hr hx hps hd hrb _ ih => sim_sideAt h hl hr hx hps hd hrb ih
  case nested => exact fun h hd hr hbody hrep ih => sim_nested h hd hr ih.1 hbody hrep
  case emptyNested => exact fun h hd hr => sim_emptyNested h hd hr
  case cond => exact fun h hd hl hr _ ht ic it => sim_cond h hd hl hr it.1 ht ic
  case and => exact fun h hd hl hr hnc _ hb ia ib => sim_and h hd hl hr ib.1 hnc hb ia
  case or => exact fun h hd hl hr hnc _ hb ia ib => sim_or h hd hl hr ib.1 hnc hb ia
  case chain =>
    intro _ _ _ _ _ arms fe _ h hd hl hr harms hnc _ s1 s2
    exact sim_chain_arms (f2 := fun root cur s => (emit root cur fe s, [])) h hd hl hr harms s1 (SimArmsF.final hnc s2)
      (fun root cur s => by simp only [emit, List.append_nil])
  case chainNoFinal =>
    intro _ _ _ _ _ arms onTrue c t _ h hd hl hr harms _ s1 s2
    refine sim_chain_arms (f2 := fun root cur s => emitArms root cur [(onTrue, c, t)] s) h hd hl hr harms s1 s2
      (fun root cur s => ?_)
    simp only [emit]
    rw [emitArms_append]
    cases harr : arms ++ [(onTrue, c, t)] with
    | nil => simp at harr
    | cons a rest => simp only [Abs.chainNoFinal]
  case two =>
    exact fun h hd hl hr hnl hnr _ _ ia ib => ⟨.both h ia.1 ib.1, fun hdl =>
      ⟨(SimPart.spine (itemsL := [_]) h hd hdl hl hr (SimPart.item hnl ia) (SimPart.item hnr ib)).2,
       (sim_list (itemsL := [_]) h hd hdl hl hr (SimPart.item hnl ia) (SimPart.item hnr ib)).2⟩⟩
  case snoc =>
    exact fun h hd hl hr hnr _ _ is ib => ⟨.both h is.1 ib.1, fun hdl =>
      ⟨(SimPart.spine h hd hdl hl hr ⟨is.1, (is.2 hdl).1⟩ (SimPart.item hnr ib)).2,
       (sim_list h hd hdl hl hr ⟨is.1, (is.2 hdl).1⟩ (SimPart.item hnr ib)).2⟩⟩
  case one => exact fun _ ih => ih
  case more =>
    intro _ _ _ _ _ arms _ _ _ _ h hd hl hr _ _ s1 s2
    have := SimArmsF.inner h hd hl hr s1 s2 (fun root cur s hc => emitArms_mono arms root cur s hc)
    exact ⟨this.1, this.2.congr (fun root cur s => (emitArms_append root cur arms _ s).symm)⟩
  case mk => exact fun h hd hl hr _ ht ic it => sim_arm h hd hl hr it.1 ht ic

theorem Rep.bounds : ∀ {lo hi i : Nat} {e : Expr F}, Rep pf tree bodies lo hi i e → lo ≤ i ∧ i < hi ∧ i < tree.size :=
  fun h => let w := (Rep.sim.1 h).1; ⟨w.1.1, w.1.2, w.2⟩
theorem RepItems.bounds : ∀ {d : Definition} {lo hi i : Nat} {items : List (Expr F)}, RepItems pf tree bodies d lo hi i items →
    lo ≤ i ∧ i < hi ∧ i < tree.size :=
  fun h => let w := (Rep.sim.2.1 h).1; ⟨w.1.1, w.1.2, w.2⟩
theorem RepArms.bounds : ∀ {lo hi i : Nat} {arms : List (Bool × Expr F × Expr F)}, RepArms pf tree bodies lo hi i arms →
    lo ≤ i ∧ i < hi ∧ i < tree.size :=
  fun h => let w := (Rep.sim.2.2.1 h).1; ⟨w.1.1, w.1.2, w.2⟩
theorem RepArm.bounds : ∀ {lo hi i : Nat} {b : Bool} {c t : Expr F}, RepArm pf tree bodies lo hi i b c t →
    lo ≤ i ∧ i < hi ∧ i < tree.size :=
  fun h => let w := (Rep.sim.2.2.2 h).1; ⟨w.1.1, w.1.2, w.2⟩

theorem sim_of_rep : ∀ {lo hi i : Nat} {e : Expr F}, Rep pf tree bodies lo hi i e → SimT pf tree bodies lo hi i e :=
  fun h => (Rep.sim.1 h).2
theorem arms_of_rep : ∀ {lo hi i : Nat} {arms : List (Bool × Expr F × Expr F)}, RepArms pf tree bodies lo hi i arms →
    SimArms pf tree bodies lo hi i arms :=
  fun h => (Rep.sim.2.2.1 h).2
theorem arm_of_rep : ∀ {lo hi i : Nat} {b : Bool} {c t : Expr F}, RepArm pf tree bodies lo hi i b c t →
    SimArms pf tree bodies lo hi i [(b, c, t)] :=
  fun h => (Rep.sim.2.2.2 h).2
theorem sim_of_items : ∀ {d : Definition} {lo hi i : Nat} {items : List (Expr F)}, (d = .list ∨ d = .commaList) →
    RepItems pf tree bodies d lo hi i items → SimT pf tree bodies lo hi i (.list items) :=
  fun hdl h => ((Rep.sim.2.1 h).2 hdl).2
theorem part_of_items : ∀ {d : Definition} {lo hi i : Nat} {items : List (Expr F)}, (d = .list ∨ d = .commaList) →
    RepItems pf tree bodies d lo hi i items → SimPart pf tree bodies d lo hi i items :=
  fun hdl h => ((Rep.sim.2.1 h).2 hdl).1

theorem pushEnd_addTerms (start : Nat) (last : Option Instr) : ∀ (terms : List Instr) (data : BState F) (s : LState F),
    DataEq data s → DataEq (pushEndInstructions last start data terms) (addTerms start last terms s)
  | [], _, _, h => h
  | t :: ts, data, s, h => by
    simp only [pushEndInstructions, addTerms]
    cases last with
    | none =>
      have : ¬ ((none : Option Instr) = some t ∧ t.1 = .endExpression ∧ s.instrs.size > start) := fun x => by cases x.1
      rw [if_neg this]
      exact pushEnd_addTerms start none ts _ _ (h.push _ _ _)
    | some x =>
      simp only [getInstructionLen, h.instrs, Option.some.injEq]
      by_cases hc : x = t ∧ t.1 = .endExpression ∧ s.instrs.size > start
      · rw [if_pos hc, if_pos hc]; exact pushEnd_addTerms start (some x) ts _ _ h
      · rw [if_neg hc, if_neg hc]; exact pushEnd_addTerms start (some x) ts _ _ (h.push _ _ _)

theorem innerLoop_of_steps {crj k sf : Nat} {A B : Ctx F} (h : Steps pf tree crj k A B) (hB : B.stack = #[]) (hsf : k + 1 ≤ sf) :
    innerLoop pf tree crj sf A = .ok (B, sf - k) := by
  have e : sf = (sf - k - 1 + 1) + k := by omega
  rw [e, h]
  simp only [innerLoop, hB]
  have : (sf - k - 1 + 1 + k - k) = sf - k - 1 + 1 := by omega
  rw [this]
  rfl

theorem steps_pos {crj k i : Nat} {d d' : BState F} {n n' : Nodes} {RS RS' : Array Nat}
    (h : Steps pf tree crj k ⟨d, n, RS, #[i]⟩ ⟨d', n', RS', #[]⟩) : 1 ≤ k := by
  rcases Nat.eq_zero_or_pos k with hk | hk
  · subst hk
    have := h 1
    simp only [Nat.add_zero] at this
    have e1 : innerLoop pf tree crj 1 ⟨d', n', RS', #[]⟩ = .ok (⟨d', n', RS', #[]⟩, 1) := rfl
    rw [e1] at this
    simp only [innerLoop] at this
    have hb : (#[i] : Array Nat).back? = some i := rfl
    simp only [hb] at this
    cases htr : tree[i]? with
    | none => rw [htr] at this; cases this
    | some pn =>
      rw [htr] at this
      simp only at this
      obtain ⟨c, _, h2⟩ := Outcome.bind_eq_ok.1 this
      obtain ⟨nn, _, h3⟩ := Outcome.bind_eq_ok.1 h2
      cases h3
  · exact hk

/-- **one iteration of the root loop**, once the jump entry of the root is settled (`rootJump`): the inner loop emits the
root's main line, the terminator loop appends what `addTerms` appends -/
theorem root_iter {r lo hi cur crj rf sf : Nat} {b : Expr F} {ex : Ex} {ctx : Ctx F} {RSp : List Nat} {data1 : BState F}
    {s1 : LState F} (hrep : Rep pf tree bodies lo hi r b) (hex : ex.cond = none)
    (hrs : ctx.rootStack.toList = RSp ++ [r])
    (hj : rootJump ctx.data ctx.nodes r = .ok (data1, crj))
    (hsz : ctx.nodes.size = tree.size) (hnode : ctx.nodes[r]? = some (some (mkNode r cur none ex)))
    (hdat : DataEq data1 s1) (hcur : cur < s1.jumps.size) (hsf : 2 * (hi - lo) + 1 ≤ sf) (root : Nat) :
    ∃ (k : Nat) (data3 : BState F) (nodes2 : Nodes) (RS2 : Array Nat) (newR : List (RRec F)),
      Model.Build.rootLoop pf tree (rf + 1) sf ctx = Model.Build.rootLoop pf tree rf (sf - k) ⟨data3, nodes2, RS2, #[]⟩ ∧
      1 ≤ k ∧ k + wsum newR ≤ 2 * (hi - lo) ∧
      DataEq data3 (addTerms s1.instrs.size (emit root cur b s1).instrs.back? (ex.ends.getD [(.endExpression, none)])
        (emit root cur b s1)) ∧
      RS2.toList = RSp ++ (newR.map (·.idx)).reverse ∧
      (emit root cur b s1).pending = newR.map (·.root) ++ s1.pending ∧
      Done pf tree bodies (Ival lo hi) none (mkNode r cur none ex) 1 ctx.nodes nodes2 newR := by
  obtain ⟨hback, hpop⟩ := back_of_toList hrs
  have pre : Pre tree ctx.nodes lo hi r cur none ex (mkNode r cur none ex) :=
    ⟨hsz, hnode, fun _ _ h => (by cases h), fun ⟨c, h⟩ => (by rw [hex] at h; cases h)⟩
  obtain ⟨k, data2, nodes2, RS2, newR, st, hk, hd2, hrs2, hp2, done, bz, hbz, hbze⟩ :=
    sim_of_rep hrep crj root cur data1 ctx.nodes ctx.rootStack.pop #[] s1 none ex _ pre hdat hcur
  have hkpos := steps_pos st
  have hin := innerLoop_of_steps st rfl (by omega : k + 1 ≤ sf)
  refine ⟨k, pushEndInstructions (if data2.instrs.size == 0 then none else data2.instrs[data2.instrs.size - 1]?)
    (getInstructionLen data1) data2 (ex.ends.getD [(.endExpression, none)]), nodes2, RS2, newR, ?_, hkpos, hk, ?_, ?_, hp2, done⟩
  · simp only [Model.Build.rootLoop, hback, hj, Outcome.bind]
    have e : (#[r] : Array Nat) = (#[] : Array Nat).push r := rfl
    rw [e, hin]
    simp only [hbz]
    cases hends : ex.ends with
    | none => rw [hends] at hbze; simp only [hbze, Option.getD]
    | some t => rw [hends] at hbze; simp only [hbze, Option.getD]
  · rw [show (if data2.instrs.size == 0 then none else data2.instrs[data2.instrs.size - 1]?) = (emit root cur b s1).instrs.back? from
      (Lemmas.BuildPlan.lastInstr_eq_back data2).trans (by rw [hd2.instrs])]
    have := pushEnd_addTerms (getInstructionLen data1) (emit root cur b s1).instrs.back? (ex.ends.getD [(.endExpression, none)]) _ _ hd2
    simp only [getInstructionLen, hdat.instrs] at this ⊢
    exact this
  · rw [hrs2, hpop]

end Garnish.Abs.Tree

namespace Garnish.Abs.Tree
open Garnish Garnish.Gen Garnish.Spec Garnish.Abs Garnish.Model.Parser Garnish.Model.Literals Garnish.Model.Build

variable {F : Type} (pf : List Char → Option F) (tree : Array ParseNode) (bodies : List (Nat × Expr F))

/-- what holds between two iterations of the root loop: the data object is the state of the structured compiler, the root
stack is its list of pending roots, every node has a build node or lies in the subtree of a pending root -/
structure RInv (s : LState F) (ctx : Ctx F) (recs : List (RRec F)) : Prop where
  data : DataEq ctx.data s
  size : ctx.nodes.size = tree.size
  rs : ctx.rootStack.toList = (recs.map (·.idx)).reverse
  pend : s.pending = recs.map (·.root)
  roots : ∀ q ∈ recs, q.lo ≤ q.idx ∧ q.idx < q.hi ∧ q.hi ≤ tree.size ∧
    ctx.nodes[q.idx]? = some (some (bnOfRoot q.idx q.root)) ∧ RepRoot pf tree bodies q
  linv : Inv s
  disj : recs.Pairwise (fun a b => a.hi ≤ b.lo ∨ b.hi ≤ a.lo)
  cover : ∀ x, x < tree.size → (∃ b, ctx.nodes[x]? = some (some b)) ∨ ∃ q ∈ recs, q.lo ≤ x ∧ x < q.hi

variable {pf tree bodies}

/-- the fields a pending root's build node carries -/
def exOfRoot (R : Root F) : Ex :=
  match R.kind with
  | .code _ => ⟨none, some R.patch, some R.term⟩
  | .ref _ => ⟨none, some R.patch, none⟩

theorem RRec.facts {q : RRec F} (h : RepRoot pf tree bodies q) :
    ∃ b, rootBody bodies q.root = some b ∧ Rep pf tree bodies q.lo q.hi q.idx b ∧
      bnOfRoot q.idx q.root = mkNode q.idx q.root.containing none (exOfRoot q.root) ∧
      (exOfRoot q.root).cond = none ∧ (exOfRoot q.root).jump = some q.root.patch ∧
      (exOfRoot q.root).ends.getD [(.endExpression, none)] = q.root.term := by
  unfold RepRoot at h
  cases hk : q.root.kind with
  | code t =>
    rw [hk] at h
    exact ⟨t, by simp [rootBody, hk], h, by simp [bnOfRoot, exOfRoot, hk]; rfl, by simp [exOfRoot, hk], by simp [exOfRoot, hk],
      by simp [exOfRoot, hk]⟩
  | ref id =>
    rw [hk] at h
    obtain ⟨b, hb, hrep, hc, ht⟩ := h
    refine ⟨b, by simp [rootBody, hk, hb], hrep, ?_, by simp [exOfRoot, hk], by simp [exOfRoot, hk], by simp [exOfRoot, hk, ht]⟩
    simp only [bnOfRoot, exOfRoot, hk, hc]
    rfl

/-- **one pending root**: `build` does with it what `layoutRoot` does -/
theorem root_step {s : LState F} {ctx : Ctx F} {q : RRec F} {rest : List (RRec F)} {rf sf : Nat}
    (inv : RInv pf tree bodies s ctx (q :: rest)) (hsf : wsum (q :: rest) + 1 ≤ sf) :
    ∃ (k : Nat) (ctx' : Ctx F) (newR : List (RRec F)),
      Model.Build.rootLoop pf tree (rf + 1) sf ctx = Model.Build.rootLoop pf tree rf (sf - k) ctx' ∧ 1 ≤ k ∧
      k + wsum (newR ++ rest) ≤ wsum (q :: rest) ∧
      RInv pf tree bodies (layoutRoot bodies q.root { s with pending := rest.map (·.root) }) ctx' (newR ++ rest) := by
  obtain ⟨hq1, hq2, hq3, hqn, hqr⟩ := inv.roots q List.mem_cons_self
  obtain ⟨b, hbody, hrep, hbn, hex, hju, hends⟩ := RRec.facts hqr
  have hp : s.pending = q.root :: rest.map (·.root) := by rw [inv.pend]; rfl
  have hpatch : q.root.patch < s.jumps.size := inv.linv.pend q.root (by rw [hp]; exact List.mem_cons_self)
  have hcont : q.root.containing < s.jumps.size := inv.linv.cont q.root (by rw [hp]; exact List.mem_cons_self)
  obtain ⟨s1, s2, st, he⟩ := layoutRoot_anatomy bodies (rest := rest.map (·.root)) hcont
  rw [he]
  obtain rfl : s2 = emit q.root.patch q.root.containing b s1 := by rw [st.body, bodyState, hbody]
  have s1_instrs := st.instrs
  have s1_pending := st.pending
  have s1_jsize := st.jsize
  have hpd : q.root.patch < ctx.data.jumps.size := by rw [inv.data.jumps]; exact hpatch
  have hj : rootJump ctx.data ctx.nodes q.idx =
      .ok ({ ctx.data with jumps := ctx.data.jumps.set q.root.patch ctx.data.instrs.size hpd }, q.root.patch) := by
    simp only [rootJump, hqn, hbn, mkNode, hju, setJump?, hpd, dif_pos, getInstructionLen]
  have hd1 : DataEq ({ ctx.data with jumps := ctx.data.jumps.set q.root.patch ctx.data.instrs.size hpd } : BState F) s1 := by
    refine ⟨inv.data.instrs.trans st.instrs.symm, ?_, inv.data.consts.trans st.consts.symm⟩
    simp only [st.jumps, inv.data.jumps, inv.data.instrs, Array.setIfInBounds, hpatch, dif_pos]
  have hrs : ctx.rootStack.toList = (rest.map (·.idx)).reverse ++ [q.idx] := by rw [inv.rs]; simp
  obtain ⟨k, data3, nodes2, RS2, newR, hloop, hk1, hk2, hd3, hrs2, hp2, done⟩ :=
    root_iter (rf := rf) (sf := sf) hrep hex hrs hj inv.size (by rw [hqn, hbn]) hd1 (by rw [s1_jsize]; exact hcont)
      (by simp only [wsum_cons] at hsf; omega) q.root.patch
  refine ⟨k, ⟨data3, nodes2, RS2, #[]⟩, newR, hloop, hk1, by simp only [wsum_append, wsum_cons]; omega, ?_⟩
  rw [hends, s1_instrs] at hd3
  -- the interval of `q` is apart from the others
  have hapart : ∀ q' ∈ rest, q.hi ≤ q'.lo ∨ q'.hi ≤ q.lo := fun q' hq' => (List.pairwise_cons.1 inv.disj).1 q' hq'
  refine ⟨hd3, by rw [done.size]; exact inv.size, by rw [hrs2]; simp, ?_, ?_, (st.inv inv.linv hp).of_pre st.pre', ?_, ?_⟩
  · rw [(addTerms_pending _ _ _ _).1, hp2, s1_pending]; simp
  · intro q' hq'
    rcases List.mem_append.1 hq' with h | h
    · obtain ⟨a, b', c, d, e⟩ := done.roots q' h
      have h1 := a q'.lo (Nat.le_refl _) (by omega)
      have h2 := a (q'.hi - 1) (by omega) (by omega)
      exact ⟨b', c, by simp only [Ival] at h2; omega, d, e⟩
    · obtain ⟨a1, a2, a3, a4, a5⟩ := inv.roots q' (List.mem_cons_of_mem _ h)
      refine ⟨a1, a2, a3, ?_, a5⟩
      rw [done.frame q'.idx (fun hh => by have := hapart q' h; simp only [Ival] at hh; omega) (fun _ _ hh => by cases hh)]
      exact a4
  · rw [List.pairwise_append]
    refine ⟨done.disj, (List.pairwise_cons.1 inv.disj).2, fun a ha b' hb' => ?_⟩
    obtain ⟨a1, a2, a3, _⟩ := done.roots a ha
    have h1 := a1 a.lo (Nat.le_refl _) (by omega)
    have h2 := a1 (a.hi - 1) (by omega) (by omega)
    have := hapart b' hb'
    simp only [Ival] at h1 h2
    omega
  · intro x hx
    by_cases hin : Ival q.lo q.hi x
    · rcases done.cover x hin with h | ⟨q', hq', h⟩
      · exact .inl h
      · exact .inr ⟨q', List.mem_append_left _ hq', h⟩
    · rcases inv.cover x hx with ⟨b', hb'⟩ | ⟨q', hq', h⟩
      · exact .inl ⟨b', by rw [done.frame x hin (fun _ _ hh => by cases hh)]; exact hb'⟩
      · rcases List.mem_cons.1 hq' with rfl | hq''
        · exact absurd h hin
        · exact .inr ⟨q', List.mem_append_right _ hq'', h⟩

/-- **the root loop**: from a state that corresponds to a state of the structured compiler, `build` runs to the end and
its data object is what `layoutRoots` produces; every node has got a build node -/
theorem rootLoop_ok : ∀ (m : Nat) (recs : List (RRec F)) (s : LState F) (ctx : Ctx F) (rf sf fc : Nat),
    wsum recs ≤ m → RInv pf tree bodies s ctx recs → wsum recs + 1 ≤ rf → wsum recs + 1 ≤ sf →
    (layoutRoots bodies fc s).pending = [] →
    ∃ ctx', Model.Build.rootLoop pf tree rf sf ctx = .ok ctx' ∧ DataEq ctx'.data (layoutRoots bodies fc s) ∧
      ctx'.nodes.size = tree.size ∧ ∀ x, x < tree.size → ∃ b, ctx'.nodes[x]? = some (some b) := by
  have nilc : ∀ (s : LState F) (ctx : Ctx F) (rf sf fc : Nat), RInv pf tree bodies s ctx [] → 1 ≤ rf →
      ∃ ctx', Model.Build.rootLoop pf tree rf sf ctx = .ok ctx' ∧ DataEq ctx'.data (layoutRoots bodies fc s) ∧
        ctx'.nodes.size = tree.size ∧ ∀ x, x < tree.size → ∃ b, ctx'.nodes[x]? = some (some b) := by
    intro s ctx rf sf fc inv hrf
    have hrs : ctx.rootStack.toList = [] := by rw [inv.rs]; rfl
    have hb : ctx.rootStack.back? = none := by
      have : ctx.rootStack = #[] := by apply Array.ext'; simpa using hrs
      rw [this]; rfl
    obtain ⟨rf', rfl⟩ : ∃ rf', rf = rf' + 1 := ⟨rf - 1, by omega⟩
    refine ⟨ctx, by simp only [Model.Build.rootLoop, hb], ?_, inv.size, fun x hx => ?_⟩
    · rw [layoutRoots_nil fc (by rw [inv.pend]; rfl)]; exact inv.data
    · rcases inv.cover x hx with h | ⟨q, hq, _⟩
      · exact h
      · cases hq
  intro m
  induction m with
  | zero =>
    intro recs s ctx rf sf fc hm inv hrf hsf hc
    cases recs with
    | nil => exact nilc s ctx rf sf fc inv (by simpa using hrf)
    | cons q rest =>
      exfalso
      obtain ⟨h1, h2, _⟩ := inv.roots q List.mem_cons_self
      simp only [wsum_cons] at hm
      omega
  | succ m ih =>
    intro recs s ctx rf sf fc hm inv hrf hsf hc
    cases recs with
    | nil => exact nilc s ctx rf sf fc inv (by simpa using hrf)
    | cons q rest =>
      obtain ⟨rf', rfl⟩ : ∃ rf', rf = rf' + 1 := ⟨rf - 1, by omega⟩
      have hp : s.pending = q.root :: rest.map (·.root) := by rw [inv.pend]; rfl
      obtain ⟨fc', rfl⟩ : ∃ fc', fc = fc' + 1 := by
        cases fc with
        | zero => simp only [layoutRoots] at hc; rw [hp] at hc; cases hc
        | succ n => exact ⟨n, rfl⟩
      obtain ⟨k, ctx', newR, hloop, hk1, hk2, inv'⟩ := root_step (rf := rf') inv hsf
      rw [layoutRoots_step bodies fc' hp] at hc ⊢
      obtain ⟨ctx'', h1, h2, h3, h4⟩ := ih (newR ++ rest) _ ctx' rf' (sf - k) fc' (by omega) inv' (by omega) (by omega) hc
      exact ⟨ctx'', by rw [hloop]; exact h1, h2, h3, h4⟩

end Garnish.Abs.Tree

namespace Garnish.Abs.Tree
open Garnish Garnish.Gen Garnish.Spec Garnish.Abs Garnish.Model.Parser Garnish.Model.Literals Garnish.Model.Build

variable {F : Type} {pf : List Char → Option F} {tree : Array ParseNode}

/-- the object the structured compiler starts from: what the data object of `build` holds -/
def progOf (data : BState F) : Prog F := ⟨data.instrs, data.jumps, data.consts⟩

theorem allScheduled_of_all {nodes : Nodes} (hsz : nodes.size = tree.size)
    (h : ∀ x, x < tree.size → ∃ b, nodes[x]? = some (some b)) : allScheduled nodes tree = true := by
  simp only [allScheduled, List.all_eq_true]
  intro p hp
  obtain ⟨bn, pn⟩ := p
  obtain ⟨i, hi1, hi2⟩ := List.mem_iff_getElem.1 hp
  simp only [List.getElem_zip] at hi2
  have hlt : i < nodes.size := by simp at hi1; omega
  obtain ⟨b, hb⟩ := h i (by rw [← hsz]; exact hlt)
  have : bn = some b := by
    have h1 : nodes.toList[i]'(by simpa using hlt) = bn := (Prod.mk.inj hi2).1
    have h2 : nodes[i]? = some bn := by rw [← h1]; simp [hlt]
    rw [hb] at h2
    exact (Option.some.inj h2).symm
  simp [this]

theorem push_setIfInBounds (a : Array Nat) (v : Nat) : (a.push v).setIfInBounds a.size v = a.push v := by
  apply Array.ext
  · exact Array.size_setIfInBounds ..
  · intro i h1 h2
    rw [Array.getElem_setIfInBounds]
    split
    · rename_i h; subst h; simp
    · rfl

/-- **`buildCore` refines `compileInto`**: on a parse tree that represents the program (`Rep`, the whole array being the
subtree of `root`), started on a data object `data`, with enough fuel, the transliteration of `build` returns the entry
`data.jumps.size` and a data object whose instructions, jump table and constants are those of the structured compiler -/
theorem buildCore_refines (p : Program F) (data : BState F) (root fuel : Nat)
    (hrep : Rep pf tree p.bodies 0 tree.size root p.main)
    (hmain : lookupBody p.bodies data.jumps.size = some p.main)
    (hcomplete : (compileState (progOf data) p).pending = []) (hfuel : 2 * tree.size + 1 ≤ fuel) :
    ∃ d, buildCore pf fuel root tree data = .ok (d, data.jumps.size) ∧
      d.instrs = (compileInto (progOf data) p).1.instrs ∧ d.jumps = (compileInto (progOf data) p).1.jumps ∧
      d.consts = (compileInto (progOf data) p).1.consts := by
  have hb := hrep.bounds
  obtain ⟨rf, rfl⟩ : ∃ rf, fuel = rf + 1 := ⟨fuel - 1, by omega⟩
  -- the compile side: the first root
  generalize hR0 : (⟨.ref data.jumps.size, data.jumps.size, [(.endExpression, none)], data.jumps.size⟩ : Root F) = R0
  have hss : startState (progOf data) = LState.mk data.instrs (data.jumps.push data.instrs.size) data.consts
      [R0] [] (Array.replicate data.instrs.size 0) 0 [0] := by
    rw [← hR0]; rfl
  have inv0 : Inv (startState (progOf data)) := by
    rw [hss, ← hR0]
    refine ⟨fun r hr => ?_, fun r hr => ?_, fun r hr => ?_⟩ <;> simp only [List.mem_singleton] at hr <;> subst hr
    · simp
    · simp
    · intro id _; exact ⟨rfl, rfl⟩
  have hp0 : (startState (progOf data)).pending = R0 :: [] := by rw [hss]
  have hbody : rootBody p.bodies R0 = some p.main := by rw [← hR0]; simp [rootBody, hmain]
  have hcs : compileState (progOf data) p =
      layoutRoots p.bodies (bodiesSize p.bodies + 1) (layoutRoot p.bodies R0 { startState (progOf data) with pending := [] }) := by
    simp only [compileState, show bodiesSize p.bodies + 2 = (bodiesSize p.bodies + 1) + 1 from rfl, layoutRoots, hp0]
  obtain ⟨s1, s2, st, he⟩ := layoutRoot_anatomy p.bodies (s := startState (progOf data)) (r := R0) (rest := [])
    (by rw [hss, ← hR0]; simp)
  obtain rfl : s2 = emit R0.patch R0.containing p.main s1 := by rw [st.body, bodyState, hbody]
  have hlinv := (st.inv inv0 hp0).of_pre st.pre'
  rw [he] at hcs
  have hd1 : DataEq (pushToJumpTable data (getInstructionLen data)) s1 :=
    ⟨by rw [st.instrs, hss]; rfl,
     by rw [st.jumps, hss, ← hR0]; simp [pushToJumpTable, getInstructionLen, push_setIfInBounds], by rw [st.consts, hss]; rfl⟩
  have s1_instrs : s1.instrs = data.instrs := by rw [st.instrs, hss]
  have s1_pending : s1.pending = [] := st.pending
  have s1_jsize : s1.jumps.size = data.jumps.size + 1 := by rw [st.jsize, hss]; simp
  have hpatch : R0.patch = data.jumps.size := by rw [← hR0]
  have hcont : R0.containing = data.jumps.size := by rw [← hR0]
  have hterm : R0.term = [(.endExpression, none)] := by rw [← hR0]
  -- the build side: the first iteration
  generalize hn1 : putNode (Array.replicate tree.size none) root (BuildNode.new root (getJumpTableLen data)) = nodes1
  have hn1r : nodes1[root]? = some (some (mkNode root data.jumps.size none Ex.none)) := by
    rw [← hn1, get_putNode_same (by simpa using hb.2.2)]; rfl
  have hn1sz : nodes1.size = tree.size := by rw [← hn1]; simp
  have hj : rootJump data nodes1 root = .ok (pushToJumpTable data (getInstructionLen data), data.jumps.size) := by
    simp only [rootJump, hn1r, mkNode, BuildNode.new, Ex.none, Ex.ofCond, getJumpTableLen]
  obtain ⟨k, data3, nodes2, RS2, newR, hloop, hk1, hk2, hd3, hrs2, hp2, done⟩ :=
    root_iter (pf := pf) (bodies := p.bodies) (rf := rf) (sf := rf + 1) (ctx := ⟨data, nodes1, #[root], #[]⟩) (RSp := [])
      hrep (rfl : Ex.none.cond = none) rfl hj hn1sz hn1r hd1 (by rw [s1_jsize]; omega) (by omega) R0.patch
  rw [show Ex.none.ends.getD [(Instruction.endExpression, none)] = R0.term by rw [hterm]; rfl, s1_instrs, ← hcont] at hd3
  rw [hpatch, hcont] at hcs hlinv
  rw [hpatch, hcont] at hd3
  rw [hpatch] at hp2
  -- the invariant after it
  have inv1 : RInv pf tree p.bodies (addTerms data.instrs.size (emit data.jumps.size data.jumps.size p.main s1).instrs.back? R0.term
      (emit data.jumps.size data.jumps.size p.main s1)) ⟨data3, nodes2, RS2, #[]⟩ (newR ++ []) := by
    have hsi : (startState (progOf data)).instrs.size = data.instrs.size := by rw [hss]
    rw [hsi] at hlinv
    refine ⟨hd3, by rw [done.size]; exact hn1sz, by simp [hrs2], ?_, ?_, hlinv, by simpa using done.disj, ?_⟩
    · rw [(addTerms_pending _ _ _ _).1, hp2, s1_pending]; simp
    · intro q hq
      rw [List.append_nil] at hq
      obtain ⟨a, b', c, d, e⟩ := done.roots q hq
      have h2 := a (q.hi - 1) (by omega) (by omega)
      exact ⟨b', c, by simp only [Ival] at h2; omega, d, e⟩
    · intro x hx
      rcases done.cover x ⟨Nat.zero_le _, hx⟩ with h | ⟨q, hq, h⟩
      · exact .inl h
      · exact .inr ⟨q, by simpa using hq, h⟩
  have hsi : (startState (progOf data)).instrs.size = data.instrs.size := by rw [hss]
  rw [hsi] at hcs
  rw [hcs] at hcomplete
  obtain ⟨ctx', hl2, hd', hsz', hall⟩ := rootLoop_ok (2 * tree.size) (newR ++ []) _ _ rf (rf + 1 - k) (bodiesSize p.bodies + 1)
    (by simp only [List.append_nil]; omega) inv1 (by simp only [List.append_nil]; omega)
    (by simp only [List.append_nil]; omega) hcomplete
  refine ⟨ctx'.data, ?_, ?_, ?_, ?_⟩
  · simp only [buildCore]
    rw [Lemmas.BuildTotal.setNodeIdx_eq (by simpa using hb.2.2), hn1]
    simp only [Outcome.bind]
    rw [hloop, hl2]
    simp only [allScheduled_of_all hsz' hall, if_true, getJumpTableLen]
  · simp only [compileInto, LState.toProg]; rw [hcs]; exact hd'.instrs
  · simp only [compileInto, LState.toProg]; rw [hcs]; exact hd'.jumps
  · simp only [compileInto, LState.toProg]; rw [hcs]; exact hd'.consts

end Garnish.Abs.Tree
