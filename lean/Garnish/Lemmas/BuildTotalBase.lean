/-
Totality of the emitting traversal of `build` on validated trees: phases, the potential, the invariant.

Every node of the marked set `G` (Lemmas/Build.lean, `Validated`) goes through the phases
  p0 (not scheduled) → [pc h (recorded as an arm of the else-chain headed by h)] → [pr (pending root)] →
  p1 (on `stack`, first visit pending) → [p2 (on `stack`, second visit pending)] → p3 (done)
and never goes back: a node is scheduled only by its unique parent, in one fixed visit of that parent (`Inv.fresh`).
`total ph n = Σ_{i<n} rank (ph i)` drops by at least one in every iteration of either work-list loop and starts below
`5·n`, which bounds the iterations by `defaultFuel n = 20·n + 100`.  The phases are ghost state: `Inv ph ctx` ties them
to the real `stack` / `root_stack` / `nodes`.
-/
import Garnish.Lemmas.Build
namespace Garnish.Lemmas.BuildTotal
open Garnish Garnish.Gen Garnish.Model.Parser Garnish.Model.Literals Garnish.Model.Build Garnish.Lemmas.Build

inductive Phase where
  | p0
  | pc (owner : Nat)
  | pr
  | p1
  | p2
  | p3
deriving DecidableEq, Repr

def Phase.rank : Phase → Nat
  | .p0 => 5
  | .pc _ => 4
  | .pr => 3
  | .p1 => 2
  | .p2 => 1
  | .p3 => 0

def total (ph : Nat → Phase) : Nat → Nat
  | 0 => 0
  | n + 1 => total ph n + (ph n).rank

theorem total_le (ph : Nat → Phase) : ∀ n, total ph n ≤ 5 * n := by
  intro n
  induction n with
  | zero => simp [total]
  | succ k ih =>
    have : (ph k).rank ≤ 5 := by cases ph k <;> simp [Phase.rank]
    simp only [total]; omega

theorem total_mono {ph ph' : Nat → Phase} : ∀ n, (∀ x, x < n → (ph' x).rank ≤ (ph x).rank) → total ph' n ≤ total ph n := by
  intro n
  induction n with
  | zero => intro _; simp [total]
  | succ k ih =>
    intro h
    have := ih (fun x hx => h x (by omega))
    have := h k (by omega)
    simp only [total]; omega

theorem total_lt {ph ph' : Nat → Phase} : ∀ n, (∀ x, x < n → (ph' x).rank ≤ (ph x).rank) →
    (∃ x, x < n ∧ (ph' x).rank < (ph x).rank) → total ph' n < total ph n := by
  intro n
  induction n with
  | zero => intro _ ⟨x, hx, _⟩; omega
  | succ k ih =>
    intro h ⟨x, hx, hlt⟩
    simp only [total]
    have hk := h k (by omega)
    rcases Nat.lt_or_ge x k with h1 | h1
    · have := ih (fun y hy => h y (by omega)) ⟨x, h1, hlt⟩
      omega
    · have : x = k := by omega
      subst this
      have := total_mono (ph := ph) (ph' := ph') x (fun y hy => h y (by omega))
      omega

def IsChild (tree : Array ParseNode) (p c : Nat) : Prop :=
  ∃ pn, tree[p]? = some pn ∧ (pn.left = some c ∨ pn.right = some c)

def LateRight (tree : Array ParseNode) (p c : Nat) : Prop :=
  ∃ pn, tree[p]? = some pn ∧ pn.right = some c ∧ isLate pn.definition = true

section tree
variable {root : Nat} {tree : Array ParseNode} {G : Nat → Prop}

theorem G_lt (V : Validated root tree G) {i : Nat} (h : G i) : i < tree.size := by
  obtain ⟨pn, hpn, _⟩ := V.closed i h
  exact lt_of_getElem? hpn

theorem child_facts (V : Validated root tree G) {p c : Nat} (hp : G p) (hc : IsChild tree p c) :
    G c ∧ ∃ cn, tree[c]? = some cn ∧ cn.parent = some p := by
  obtain ⟨pn, hpn, hlr⟩ := hc
  obtain ⟨pn', hpn', hl, hr, _⟩ := V.closed p hp
  rw [hpn] at hpn'; cases hpn'
  rcases hlr with h | h
  · exact hl c h
  · exact hr c h

theorem parent_unique (V : Validated root tree G) {p p' c : Nat} (hp : G p) (hp' : G p')
    (hc : IsChild tree p c) (hc' : IsChild tree p' c) : p = p' := by
  obtain ⟨_, cn, h1, h2⟩ := child_facts V hp hc
  obtain ⟨_, cn', h1', h2'⟩ := child_facts V hp' hc'
  rw [h1] at h1'; cases h1'
  rw [h2] at h2'; cases h2'; rfl

theorem child_ne_root (V : Validated root tree G) {p c : Nat} (hp : G p) (hc : IsChild tree p c) : c ≠ root := by
  intro h; subst h
  obtain ⟨_, cn, h1, h2⟩ := child_facts V hp hc
  obtain ⟨rn, h3, h4⟩ := V.rootParent
  rw [h1] at h3; cases h3
  rw [h2] at h4; cases h4

theorem left_ne_right (V : Validated root tree G) {p : Nat} (hp : G p) {pn : ParseNode} (hpn : tree[p]? = some pn) {l r : Nat}
    (hl : pn.left = some l) (hr : pn.right = some r) : l ≠ r := by
  obtain ⟨pn', hpn', _, _, hd⟩ := V.closed p hp
  rw [hpn] at hpn'; cases hpn'
  exact hd l r hl hr
end tree

/-- the parent `p` has passed the visit in which it schedules its child `c` -/
def SchedDone (tree : Array ParseNode) (ph : Nat → Phase) (p c : Nat) : Prop :=
  (ph p = .p2 ∨ ph p = .p3) ∧ (LateRight tree p c → ph p = .p3)

/-- not `Garnish.Lemmas.Build.Inv` (the append-only invariant of Lemmas/Build.lean); the order files open both namespaces and
tell the two apart by their arguments -/
structure Inv {F : Type} (root : Nat) (tree : Array ParseNode) (G : Nat → Prop) (ph : Nat → Phase) (ctx : Ctx F) : Prop where
  stackNodup : ctx.stack.toList.Nodup
  stackOk : ∀ x, x ∈ ctx.stack.toList → G x ∧ (ph x = .p1 ∨ ph x = .p2)
  rootNodup : ctx.rootStack.toList.Nodup
  rootOk : ∀ x, x ∈ ctx.rootStack.toList → G x ∧ ph x = .pr
  size : ctx.nodes.size = tree.size
  init : ∀ (x : Nat) (bn : BuildNode), ctx.nodes[x]? = some (some bn) → ph x = .p2 → bn.state = .initialized
  items : ∀ (x : Nat) (bn : BuildNode), ctx.nodes[x]? = some (some bn) → ph x ≠ .p3 →
    ∀ it, it ∈ bn.conditionalItems.toList → G it.nodeIndex ∧ ph it.nodeIndex = .pc x
  itemsNodup : ∀ (x : Nat) (bn : BuildNode), ctx.nodes[x]? = some (some bn) → ph x ≠ .p3 →
    (bn.conditionalItems.toList.map (·.nodeIndex)).Nodup
  fresh : ∀ c, G c → ph c ≠ .p0 → c = root ∨ ∃ p, G p ∧ IsChild tree p c ∧ SchedDone tree ph p c
  p2two : ∀ (x : Nat) (pn : ParseNode), tree[x]? = some pn → ph x = .p2 →
    pn.definition ≠ .group ∧ pn.definition ≠ .nestedExpression
  pni : ∀ (x : Nat) (bn : BuildNode), ctx.nodes[x]? = some (some bn) → bn.parseNodeIndex = x

open Garnish.Lemmas.BuildPlan (startCtx startCtx_get) in
theorem inv_start {F : Type} {root : Nat} {tree : Array ParseNode} {G : Nat → Prop} (V : Validated root tree G) (data : BState F) :
    Inv root tree G (fun x => if x = root then .pr else .p0) (startCtx root tree data) := by
  have hget : ∀ (x : Nat) (bn : BuildNode), (startCtx root tree data).nodes[x]? = some (some bn) →
      x = root ∧ bn = BuildNode.new root (getJumpTableLen data) := fun _ _ => startCtx_get
  refine ⟨by simp [startCtx], fun x hx => by simp [startCtx] at hx, by simp [startCtx], fun x hx => ?_,
    by simp [startCtx, size_putNode], ?_, ?_, ?_, ?_, ?_, ?_⟩
  · have : x = root := by simpa [startCtx] using hx
    subst this; exact ⟨V.rootIn, by simp⟩
  · intro x bn _ hp2
    split at hp2 <;> cases hp2
  · intro x bn hx _ it hit
    obtain ⟨_, hb⟩ := hget x bn hx
    subst hb
    simp [BuildNode.new] at hit
  · intro x bn hx _
    obtain ⟨_, hb⟩ := hget x bn hx
    subst hb
    simp [BuildNode.new]
  · intro c _ hc0
    split at hc0
    · rename_i hcr; exact Or.inl hcr
    · exact absurd rfl hc0
  · intro x pn _ hp2
    split at hp2 <;> cases hp2
  · intro x bn hx
    obtain ⟨hxr, hb⟩ := hget x bn hx
    subst hb; subst hxr; rfl

end Garnish.Lemmas.BuildTotal
