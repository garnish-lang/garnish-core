/-
Refinement lemmas for range.rs / pair.rs / concat.rs / partial.rs over `LawsK` (`Core.C08_refine_make_range_internal`,
`Core.C06_refine_make_pair` / `_concat` / `_partial_apply`) and their statements over `StoreLawsOn` (`On.…`): the
incremented copy of a range end, and the common tail "adder, `push_register`, `Ok(None)`" (`addPushTail`).
-/
import Garnish.Lemmas.RuntimeArith
import Garnish.Model.Runtime.Range
import Garnish.Model.Runtime.Pair
import Garnish.Model.Runtime.Put
namespace Garnish.Lemmas.Runtime
open Garnish Gen Garnish.Abs Garnish.Model.Equality Garnish.Model.Runtime

variable {F σ : Type} {S : RStore F σ} (fo : FloatOps F)

theorem addIncremented_none {s0 : σ} {addr : Nat} {a : Number F}
    (hd : Decodes (S.view s0) addr (.num a)) (hi : Number.increment fo a = none) :
    addIncremented fo S addr s0 = .err .number := by
  rw [addIncremented, bind_ok (getNumber_of hd), hi, bind_err (orNumErr_none s0)]

theorem rangeInstruction_eq (a b : Bool) : rangeInstruction a b = rangeInstr a b := by
  cases a <;> cases b <;> rfl

namespace Core
open On

variable {Inv : σ → Prop} {Rd : σ → Nat → Prop} {K : Prop}

theorem addIncremented_some (L : LawsK S Inv Rd K) {s0 : σ} {addr : Nat} {a x : Number F}
    (hd : Decodes (S.view s0) addr (.num a)) (hi : Number.increment fo a = some x) (hi0 : Inv s0 := by inv_tac) :
    AddsI S Inv (addIncremented fo S addr) s0 (.num x) := by
  obtain ⟨la, s1, h1, d1, e1⟩ := adds_i (L.addNumber x s0 hi0)
  exact ⟨la, s1, by rw [addIncremented, bind_ok (getNumber_of hd), hi, bind_ok (orNumErr_some x s0), h1], d1, e1⟩

theorem rangeTail (L : LawsK S Inv Rd K) {s s1 : σ} {la ra : Nat} {x y : Number F} {rest : List Nat}
    (e1 : EffI S Inv s s1 rest (S.vals s)) (dl : Decodes (S.view s1) la (.num x)) (dr : Decodes (S.view s1) ra (.num y)) :
    PushedI S Inv s ((do let addr ← S.addRange la ra; S.pushRegister addr; pure none : RM σ (Option Nat)) s1) none rest
      (.range (.num x) (.num y)) := by
  obtain ⟨ad, s2, h2, d2, e2⟩ := adds_i (L.addRange la ra _ _ s1 e1.inv dl dr)
  obtain ⟨s3, h3, e3⟩ := pushReg L d2 (fun _ => nofun)
  rw [e2.regs, e2.vals, e1.regs, e1.vals] at e3
  exact ⟨ad, s3, by rw [bind_ok h2, bind_ok h3]; rfl, e3.dec d2, (e1.trans e2).trans e3⟩

theorem addPushTail (L : LawsK S Inv Rd K) {s s0 : σ} {rest : List Nat} {m : RM σ Nat} {v : Val F}
    (e0 : EffI S Inv s s0 rest (S.vals s)) (ha : AddsI S Inv m s0 v) (hv : K → v ≠ .custom) :
    PushedI S Inv s ((do let x ← m; S.pushRegister x; pure none : RM σ (Option Nat)) s0) none rest v := by
  obtain ⟨ad, s2, h2, d2, e2⟩ := ha
  obtain ⟨s3, h3, e3⟩ := pushReg L d2 hv
  rw [e2.regs, e2.vals, e0.regs, e0.vals] at e3
  exact ⟨ad, s3, by rw [bind_ok h2, bind_ok h3]; rfl, e3.dec d2, (e0.trans e2).trans e3⟩

theorem C08_refine_make_range_internal (L : LawsK S Inv Rd K) (startExcl endExcl : Bool)
    {s : σ} {r l : Nat} {vr vl : Val F} {rest : List Nat}
    (hregs : S.regs s = r :: l :: rest) (hl : Decodes (S.view s) l vl) (hr : Decodes (S.view s) r vr)
    (hi : Inv s := by inv_tac) (hd : DeepK K S s rest := by deep_tac) :
    RefinesOutI S Inv s (makeRangeInternal fo S startExcl endExcl s) none rest l r
      (Abs.makeRange fo startExcl endExcl vl vr) := by
  obtain ⟨s0, h0, e0⟩ := nextTwoRawRef_cons L hregs
  have hl0 := e0.dec hl
  have hr0 := e0.dec hr
  rw [makeRangeInternal, bind_ok h0]
  simp only []
  rw [bind_ok (getDataType_of hl0), bind_ok (getDataType_of hr0)]
  by_cases hn : vl.typeOf = .number ∧ vr.typeOf = .number
  · obtain ⟨a, rfl⟩ := typeOf_number hn.1
    obtain ⟨b, rfl⟩ := typeOf_number hn.2
    simp only [Val.typeOf, Abs.makeRange]
    cases startExcl <;> cases endExcl <;> simp only [if_true, if_false, Bool.false_eq_true]
    · -- inclusive..inclusive: the right end is incremented
      rw [bind_ok (pure_apply l s0)]
      cases hi : Number.increment fo b with
      | none => simp only []; exact bind_err (addIncremented_none fo hr0 hi)
      | some y =>
        obtain ⟨ra, s1, h1, d1, e1⟩ := addIncremented_some fo L hr0 hi
        rw [e0.regs, e0.vals] at e1
        simp only []
        rw [bind_ok h1]
        exact rangeTail L (e0.trans e1) (e1.dec hl0) d1
    · rw [bind_ok (pure_apply l s0), bind_ok (pure_apply r s0)]
      exact rangeTail L e0 hl0 hr0
    · cases hi : Number.increment fo a with
      | none => simp only []; exact bind_err (addIncremented_none fo hl0 hi)
      | some x =>
        obtain ⟨la, s1, h1, d1, e1⟩ := addIncremented_some fo L hl0 hi
        rw [e0.regs, e0.vals] at e1
        rw [bind_ok h1]
        cases hj : Number.increment fo b with
        | none => simp only []; exact bind_err (addIncremented_none fo (e1.dec hr0) hj)
        | some y =>
          obtain ⟨ra, s2, h2, d2, e2⟩ := addIncremented_some fo L (e1.dec hr0) hj
          rw [e1.regs, e1.vals] at e2
          simp only []
          rw [bind_ok h2]
          exact rangeTail L ((e0.trans e1).trans e2) (e2.dec d1) d2
    · cases hi : Number.increment fo a with
      | none => simp only []; exact bind_err (addIncremented_none fo hl0 hi)
      | some x =>
        obtain ⟨la, s1, h1, d1, e1⟩ := addIncremented_some fo L hl0 hi
        rw [e0.regs, e0.vals] at e1
        simp only []
        rw [bind_ok h1, bind_ok (pure_apply r s1)]
        exact rangeTail L (e0.trans e1) d1 (e1.dec hr0)
  · have hd : Abs.makeRange fo startExcl endExcl vl vr = .defer (rangeInstr startExcl endExcl) vl vr := by
      unfold Abs.makeRange
      split
      · exact absurd ⟨rfl, rfl⟩ hn
      · rfl
    rw [hd, ← rangeInstruction_eq]
    refine ⟨s0, e0, ?_⟩
    generalize vl.typeOf = tl at hn ⊢
    generalize vr.typeOf = tr at hn ⊢
    split
    · exact absurd ⟨rfl, rfl⟩ hn
    · exact deferOrUnit_spec L s0 _ _ _ none

/-- `make_pair` pops the LEFT component first: registers `l :: r :: rest` ↦ `(l = r)`, as Abs/Machine `.makePair` -/
theorem C06_refine_make_pair (L : LawsK S Inv Rd K) {s : σ} {r l : Nat} {vr vl : Val F} {rest : List Nat}
    (hregs : S.regs s = l :: r :: rest) (hl : Decodes (S.view s) l vl) (hr : Decodes (S.view s) r vr)
    (hi : Inv s := by inv_tac) (hd : DeepK K S s rest := by deep_tac) :
    PushedI S Inv s (makePair S s) none rest (.pair vl vr) := by
  obtain ⟨s0, h0, e0⟩ := nextTwoRawRef_cons L hregs
  obtain ⟨a, s1, h1, d1, e1⟩ := pushPair_spec L (e0.dec hl) (e0.dec hr)
  rw [e0.regs, e0.vals] at e1
  refine ⟨a, s1, ?_, d1, e0.trans e1⟩
  rw [makePair, bind_ok h0]
  simp only []
  rw [bind_ok h1]; rfl

theorem C06_refine_concat (L : LawsK S Inv Rd K) {s : σ} {r l : Nat} {vr vl : Val F} {rest : List Nat}
    (hregs : S.regs s = r :: l :: rest) (hl : Decodes (S.view s) l vl) (hr : Decodes (S.view s) r vr)
    (nl : K → ∀ x y, vl ≠ .slice x y) (nr : K → ∀ x y, vr ≠ .slice x y)
    (hi : Inv s := by inv_tac) (hd : DeepK K S s rest := by deep_tac) :
    PushedI S Inv s (Model.Runtime.concat S s) none rest (.concat vl vr) := by
  obtain ⟨s0, h0, e0⟩ := nextTwoRawRef_cons L hregs
  rw [Model.Runtime.concat, bind_ok h0]
  exact addPushTail L e0 (adds_i (L.addConcatenation l r vl vr s0 e0.inv (e0.dec hl) (e0.dec hr) nl nr)) (fun _ => nofun)

theorem C06_refine_partial_apply (L : LawsK S Inv Rd K) {s : σ} {r l : Nat} {vr vl : Val F} {rest : List Nat}
    (hregs : S.regs s = r :: l :: rest) (hl : Decodes (S.view s) l vl) (hr : Decodes (S.view s) r vr)
    (hi : Inv s := by inv_tac) (hd : DeepK K S s rest := by deep_tac) :
    PushedI S Inv s (partialApply S s) none rest (.part vl vr) := by
  obtain ⟨s0, h0, e0⟩ := nextTwoRawRef_cons L hregs
  rw [partialApply, bind_ok h0]
  exact addPushTail L e0 (adds_i (L.addPartial l r vl vr s0 e0.inv (e0.dec hl) (e0.dec hr))) (fun _ => nofun)

end Core

namespace On

variable {Inv : σ → Prop} {Rd : σ → Nat → Prop}

theorem C06_refine_make_pair (L : StoreLawsOn S Inv Rd) {s : σ} {r l : Nat} {vr vl : Val F} {rest : List Nat}
    (hregs : S.regs s = l :: r :: rest) (hl : Decodes (S.view s) l vl) (hr : Decodes (S.view s) r vr)
    (hi : Inv s := by inv_tac) (hd : Deep S s rest := by deep_tac) :
    PushedI S Inv s (makePair S s) none rest (.pair vl vr) :=
  Core.C06_refine_make_pair L.toK hregs hl hr hi fun _ => hd

theorem C06_refine_concat (L : StoreLawsOn S Inv Rd) {s : σ} {r l : Nat} {vr vl : Val F} {rest : List Nat}
    (hregs : S.regs s = r :: l :: rest) (hl : Decodes (S.view s) l vl) (hr : Decodes (S.view s) r vr)
    (nl : ∀ x y, vl ≠ .slice x y) (nr : ∀ x y, vr ≠ .slice x y)
    (hi : Inv s := by inv_tac) (hd : Deep S s rest := by deep_tac) :
    PushedI S Inv s (Model.Runtime.concat S s) none rest (.concat vl vr) :=
  Core.C06_refine_concat L.toK hregs hl hr (fun _ => nl) (fun _ => nr) hi fun _ => hd

theorem C06_refine_partial_apply (L : StoreLawsOn S Inv Rd) {s : σ} {r l : Nat} {vr vl : Val F} {rest : List Nat}
    (hregs : S.regs s = r :: l :: rest) (hl : Decodes (S.view s) l vl) (hr : Decodes (S.view s) r vr)
    (hi : Inv s := by inv_tac) (hd : Deep S s rest := by deep_tac) :
    PushedI S Inv s (partialApply S s) none rest (.part vl vr) :=
  Core.C06_refine_partial_apply L.toK hregs hl hr hi fun _ => hd

end On

end Garnish.Lemmas.Runtime
