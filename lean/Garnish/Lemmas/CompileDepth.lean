/-
C06 static half on compiled code: the ghost depths and the vocabulary for "they are a consistent assignment".
`LState.depths[i]` is the operand depth (relative to the frame base) at which instruction `i` is entered, `dep` the
depth at which the next instruction will be entered, `pendDep` the depth at which each pending root starts.
`emit` only appends depths (`AppD`, `DepStep`), keeps them aligned with the instructions (`Al`) and leaves the depth one
higher than it found it (`emit_dep`). `EdgeOK sF pc`: in the final layout state `sF` the instruction at `pc`, entered at its
ghost depth, finds its operands (`edges`, Props/C06Static.lean), and each of its edges leads beyond the last instruction
(where the machine stops) or to an instruction whose ghost depth is the one the edge carries; `RootD`, `JoinOK`, `ContOK`
allow the same way out. `TermOK`: what a pending root needs when it is laid out.
-/
import Garnish.Lemmas.CompileLoop
import Garnish.Lemmas.CompileDepthInfer
namespace Garnish.Abs
open Garnish Gen Garnish.Spec Garnish.Props.C06

variable {F : Type}

structure AppD (s s' : LState F) : Prop where
  depths : ∀ i, i < s.depths.size → s'.depths[i]? = s.depths[i]?
  dsize : s.depths.size ≤ s'.depths.size
  keepZ : ∀ p ∈ s.pending.zip s.pendDep, p ∈ s'.pending.zip s'.pendDep

theorem AppD.refl (s : LState F) : AppD s s := ⟨fun _ _ => rfl, Nat.le_refl _, fun _ h => h⟩

theorem AppD.trans {a b c : LState F} (h1 : AppD a b) (h2 : AppD b c) : AppD a c where
  depths i hi := by rw [h2.depths i (by have := h1.dsize; omega), h1.depths i hi]
  dsize := Nat.le_trans h1.dsize h2.dsize
  keepZ p hp := h2.keepZ p (h1.keepZ p hp)

theorem AppD.push (s : LState F) (i : Instruction) (d : Option Nat) : AppD s (s.push i d) :=
  ⟨fun k hk => by simp [LState.push, Array.getElem?_push, Nat.ne_of_lt hk], by simp [LState.push], fun _ h => h⟩

theorem AppD.pushConst (s : LState F) (i : Instruction) (v : Val F) : AppD s (s.pushConst i v) :=
  ⟨fun k hk => by simp [LState.pushConst, Array.getElem?_push, Nat.ne_of_lt hk], by simp [LState.pushConst], fun _ h => h⟩

@[simp] theorem push_dsize (s : LState F) (i : Instruction) (d : Option Nat) :
    (s.push i d).depths.size = s.depths.size + 1 := by simp [LState.push]
@[simp] theorem push_dep (s : LState F) (i : Instruction) (d : Option Nat) : (s.push i d).dep = fall i d s.dep := rfl
@[simp] theorem push_pendDep (s : LState F) (i : Instruction) (d : Option Nat) : (s.push i d).pendDep = s.pendDep := rfl
@[simp] theorem pushConst_dsize (s : LState F) (i : Instruction) (v : Val F) :
    (s.pushConst i v).depths.size = s.depths.size + 1 := by simp [LState.pushConst]
@[simp] theorem pushConst_dep (s : LState F) (i : Instruction) (v : Val F) : (s.pushConst i v).dep = s.dep + 1 := rfl
@[simp] theorem pushConst_pendDep (s : LState F) (i : Instruction) (v : Val F) : (s.pushConst i v).pendDep = s.pendDep := rfl
@[simp] theorem pushJump_depths (s : LState F) (t : Nat) : (s.pushJump t).depths = s.depths := rfl
@[simp] theorem pushJump_dep (s : LState F) (t : Nat) : (s.pushJump t).dep = s.dep := rfl
@[simp] theorem pushJump_pendDep (s : LState F) (t : Nat) : (s.pushJump t).pendDep = s.pendDep := rfl
@[simp] theorem pushRoot_depths (s : LState F) (r : Root F) : (s.pushRoot r).depths = s.depths := rfl
@[simp] theorem pushRoot_dep (s : LState F) (r : Root F) : (s.pushRoot r).dep = s.dep := rfl

/-- what one emission does to the ghost depth state: `n` depths appended, and as many depths of pending roots
as pending roots were added -/
structure DepStep (s s' : LState F) (n : Nat) : Prop where
  app : AppD s s'
  dsize : s'.depths.size = s.depths.size + n
  zlen : s'.pendDep.length + s.pending.length = s'.pending.length + s.pendDep.length

theorem DepStep.cast {a b : LState F} {n m : Nat} (h : DepStep a b n) (e : n = m) : DepStep a b m := e ▸ h

theorem Wrote.zip {s s' : LState F} {o : Out F} (h : Wrote s s' o) :
    s'.pending.zip s'.pendDep = o.roots ++ s.pending.zip s.pendDep := by
  rw [h.pending, h.pendDep, List.zip_append (by simp), ← List.zip_of_prod rfl rfl]

theorem Wrote.depStep {s s' : LState F} {o : Out F} (h : Wrote s s' o) : DepStep s s' o.instrs.length where
  app :=
    ⟨fun i hi => by rw [h.depths, Array.getElem?_append_left hi], by rw [h.depths]; simp, fun p hp => by
      rw [h.zip]; exact List.mem_append.2 (.inr hp)⟩
  dsize := by rw [h.depths]; simp [scanD_length]
  zlen := by rw [h.pending, h.pendDep]; simp; omega

theorem emit_dstep (root cur : Nat) (e : Expr F) (s : LState F) : DepStep s (emit root cur e s) (len e) :=
  (emit_wrote root cur e s).depStep.cast (out_len cur e _)

theorem emit_dep (root cur : Nat) (e : Expr F) (s : LState F) (hw : wfE e = true) :
    DepStep s (emit root cur e s) (len e) ∧ (emit root cur e s).dep = s.dep + 1 :=
  ⟨emit_dstep root cur e s, by rw [(emit_wrote root cur e s).dep]; exact out_endD cur e _ _ hw⟩

def EdgeOK (sF : LState F) (pc : Nat) : Prop :=
  ∃ k es, sF.depths[pc]? = some k ∧ edges sF.toProg pc k = some es ∧
    ∀ e ∈ es, sF.instrs.size ≤ e.1 ∨ sF.depths[e.1]? = some e.2

/-- the pending root `r` starts at depth `dr` -/
def RootD (sF : LState F) (r : Root F) (dr : Nat) : Prop :=
  ∀ tb, sF.jumps[r.patch]? = some tb → sF.instrs.size ≤ tb ∨ sF.depths[tb]? = some dr

def Al (s : LState F) : Prop := s.depths.size = s.instrs.size

theorem jumps_some {sF : LState F} {j : Nat} (h : j < sF.jumps.size) : ∃ tb, sF.jumps[j]? = some tb :=
  ⟨sF.jumps[j], Array.getElem?_eq_getElem h⟩

section edges
variable {P : Prog F} {pc k : Nat} {o : Option Nat}

theorem edges_push1 {i : Instruction} (hi : P.instrs[pc]? = some (i, o)) (h : i = .put ∨ i = .putValue ∨ i = .resolve) :
    edges P pc k = some [(pc + 1, k + 1)] := by
  rcases h with rfl | rfl | rfl <;> simp [edges, hi]

theorem unOK_cases {op : Instruction} (h : unOK op = true) : isUnaryOp op = true ∨ op = .emptyApply := by
  cases op <;> cases h <;> decide

theorem binOK_cases {op : Instruction} (h : binOK op = true) :
    (isUnaryOp op = false ∧ isBinaryOp op = true) ∨ op = .apply ∨ op = .applyType := by
  cases op <;> cases h <;> decide

theorem edges_un {op : Instruction} (hi : P.instrs[pc]? = some (op, o)) (hu : unOK op = true) :
    edges P pc (k + 1) = some [(pc + 1, k + 1)] := by
  rcases unOK_cases hu with h | rfl
  · rw [edges_generic hi (by rw [h]; rfl), h]; simp
  · simp [edges, hi]

theorem edges_bin {op : Instruction} (hi : P.instrs[pc]? = some (op, o)) (hb : binOK op = true) :
    edges P pc (k + 2) = some [(pc + 1, k + 1)] ∨ edges P pc (k + 2) = some [] := by
  rcases binOK_cases hb with ⟨hu, hbn⟩ | rfl | rfl
  · left; rw [edges_generic hi (by rw [hbn, Bool.or_true]), hu]; simp
  · left; simp [edges, hi]
  · right; simp [edges, hi]

theorem edges_makePair (hi : P.instrs[pc]? = some (.makePair, o)) : edges P pc (k + 2) = some [(pc + 1, k + 1)] := by
  simp [edges, hi]

theorem edges_apply (hi : P.instrs[pc]? = some (.apply, o)) : edges P pc (k + 2) = some [(pc + 1, k + 1)] := by
  simp [edges, hi]

theorem edges_pop1 {i : Instruction} (hi : P.instrs[pc]? = some (i, o))
    (h : i = .updateValue ∨ i = .endSideEffect ∨ i = .pushValue) : edges P pc (k + 1) = some [(pc + 1, k)] := by
  rcases h with rfl | rfl | rfl <;> simp [edges, hi]

theorem edges_startSE (hi : P.instrs[pc]? = some (.startSideEffect, o)) : edges P pc k = some [(pc + 1, k)] := by
  simp [edges, hi]

theorem edges_makeList {n : Nat} (hi : P.instrs[pc]? = some (.makeList, some n)) :
    edges P pc (k + n) = some [(pc + 1, k + 1)] := by
  simp [edges, hi]

theorem edges_jumpTo {j t : Nat} (hi : P.instrs[pc]? = some (.jumpTo, some j)) (hj : P.jumps[j]? = some t) :
    edges P pc k = some [(t, k)] := by
  simp [edges, hi, hj]

theorem edges_jumpIf {b : Bool} {j t : Nat} (hi : P.instrs[pc]? = some (jumpIf b, some j)) (hj : P.jumps[j]? = some t) :
    edges P pc (k + 1) = some [(t, k), (pc + 1, k)] := by
  cases b <;> simp [jumpIf] at hi <;> simp [edges, hi, hj]

theorem edges_logical {i : Instruction} {j t : Nat} (hi : P.instrs[pc]? = some (i, some j)) (h : i = .and ∨ i = .or)
    (hj : P.jumps[j]? = some t) : edges P pc (k + 1) = some [(t, k), (pc + 1, k + 1)] := by
  rcases h with rfl | rfl <;> simp [edges, hi, hj]

theorem edges_end (hi : P.instrs[pc]? = some (.endExpression, o)) : edges P pc 1 = some [] := by
  simp [edges, hi]

end edges

/-- both halves of "only appended": the layout facts (`Pre`) and the ghost depths (`AppD`) -/
structure Pre2 (s s' : LState F) : Prop where
  pre : Pre s s'
  app : AppD s s'

theorem Pre2.refl (s : LState F) : Pre2 s s := ⟨.refl s, .refl s⟩
theorem Pre2.pushConst (s : LState F) (i : Instruction) (v : Val F) : Pre2 s (s.pushConst i v) :=
  ⟨.pushConst s i v, .pushConst s i v⟩

/-- `sM` comes after the end `t'` of an emission (see `Within`), ghost depths included -/
structure W2 (lo : Nat) (t' sM : LState F) : Prop where
  w : Within lo t' sM []
  app : AppD t' sM

theorem Wrote.al {s s' : LState F} {o : Out F} (h : Wrote s s' o) (hal : Al s) : Al s' := by
  have hal' : s.depths.size = s.instrs.size := hal
  simp only [Al]
  rw [h.depths, h.instrs]; simp [scanD_length, hal']

theorem Wrote.first {s s' : LState F} {o : Out F} (h : Wrote s s' o) (hal : Al s) (hpos : 0 < o.instrs.length) :
    s'.depths[s.instrs.size]? = some s.dep := by
  have hal' : s.depths.size = s.instrs.size := hal
  rw [h.depths, ← hal', Array.getElem?_append_right (Nat.le_refl _)]
  cases hx : o.instrs with
  | nil => rw [hx] at hpos; cases hpos
  | cons x xs => simp [scanD]

theorem Al.push {s : LState F} (hal : Al s) (i : Instruction) (d : Option Nat) : Al (s.push i d) := by
  simp only [Al] at hal ⊢; simp [hal]

theorem first_push {s : LState F} (hal : Al s) (i : Instruction) (d : Option Nat) :
    (s.push i d).depths[s.instrs.size]? = some s.dep := by
  have hal' : s.depths.size = s.instrs.size := hal
  simp [LState.push, ← hal']

theorem first_app {s t t' : LState F} {k : Nat} (h : t.depths[s.instrs.size]? = some k) (a : AppD t t') :
    t'.depths[s.instrs.size]? = some k := by
  rw [a.depths _ (Array.getElem?_eq_some_iff.mp h).1]; exact h

theorem emit_first (root cur : Nat) (e : Expr F) (s : LState F) (hal : Al s) :
    (emit root cur e s).depths[s.instrs.size]? = some s.dep :=
  (emit_wrote root cur e s).first hal (by rw [out_len]; exact len_pos e)

/-- the terminators of the pending root `r` (which starts at depth `dr`, so ends at `dr + 1`) jump to a join
whose instruction is entered at depth `dr + 1` -/
def JoinOK (sF : LState F) (r : Root F) (dr : Nat) : Prop :=
  ∀ j, (Instruction.jumpTo, some j) ∈ r.term → ∃ tj, sF.jumps[j]? = some tj ∧
    (sF.instrs.size ≤ tj ∨ sF.depths[tj]? = some (dr + 1))

/-- the body `c` that `^~` jumps to starts at depth 0 -/
def ContOK (sF : LState F) (c : Nat) : Prop :=
  ∀ t, sF.jumps[c]? = some t → sF.instrs.size ≤ t ∨ sF.depths[t]? = some 0

/-- everything the layout of the pending root `r` (starting at depth `dr`) will need: its terminators return to a
join of the right depth; if it is a piece of the current body, that piece is well formed, has `^~` in tail
positions only (and then starts at depth 0) and its containing body starts at depth 0; a nested body starts at 0 -/
def TermOK (sF : LState F) (r : Root F) (dr : Nat) : Prop :=
  JoinOK sF r dr ∧
  (∀ b, r.kind = .code b → wfE b = true ∧ (noR b = true ∨ (tailR b = true ∧ dr = 0)) ∧ ContOK sF r.containing ∧
    ((∃ j, r.term = [(.jumpTo, some j)]) ∨ (∃ j, r.term = [(.tis, none), (.jumpTo, some j)]))) ∧
  (∀ id, r.kind = .ref id → dr = 0)

theorem EdgeOK.mk {sF : LState F} {pc k : Nat} {es : List (Nat × Nat)} (hd : sF.depths[pc]? = some k)
    (he : edges sF.toProg pc k = some es) (hes : ∀ e ∈ es, sF.instrs.size ≤ e.1 ∨ sF.depths[e.1]? = some e.2) :
    EdgeOK sF pc := ⟨k, es, hd, he, hes⟩

theorem EdgeOK.next {sF : LState F} {pc k k' : Nat} (hd : sF.depths[pc]? = some k)
    (he : edges sF.toProg pc k = some [(pc + 1, k')])
    (hn : sF.instrs.size ≤ pc + 1 ∨ sF.depths[pc + 1]? = some k') : EdgeOK sF pc :=
  .mk hd he (fun e hm => by simp only [List.mem_singleton] at hm; subst hm; exact hn)

theorem tail_noR {e : Expr F} {d : Nat} (h : noR e = true ∨ (tailR e = true ∧ d = 0)) (ht : tailR e = noR e) :
    noR e = true := by
  rcases h with h | ⟨h, _⟩
  · exact h
  · rw [← ht]; exact h

end Garnish.Abs
