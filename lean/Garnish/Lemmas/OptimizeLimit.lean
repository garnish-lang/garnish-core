/-
F-C19-3, stated precisely: `create_index_stack` lists a value once per path to it, so the number of loop iterations
is the size of the TREE unfolding of the graph below the argument (`TreeCount`), and it is compared with
`(data_block.size / 2)²` (`cloneLimit`).  `createIndexStack_ok_iff`: the call succeeds iff that size is within the limit;
beyond it `createIndexStack_limit` gives the failure (`CloneLimitReached` in the code, `.err .data` in the model) — also
on acyclic graphs, whose tree size is exponential in the depth of sharing.
The file also holds `Fits` (cursor within the allocated size, positive growth step) and `push_total`: on such a store no
push fails.  `Fits` is the `P` of the store interface's invariant (`binvP_fits`, Lemmas/BasicLaws.lean).
-/
import Garnish.Lemmas.Optimize
namespace Garnish.BasicOpt
open Garnish

/-- the addresses `create_index_stack` pushes for the cell at `index`, in push order (`none`: the arm fails, or the
cell is an unfinished list) -/
def pushedKids (cells : Array Cell) (index : Nat) : Option (List Nat) :=
  match cells[index]? with
  | none => none
  | some c =>
    match c with
    | .pair l r | .range l r | .slice l r | .partial_ l r | .concatenation l r => some [r, l]
    | .list n _ => listItems cells (index + 1) n
    | .uninitializedList _ _ => none
    | .value p v | .register p v | .frame p v => some [p, v]
    | .valueRoot v | .registerRoot v | .instructionWithData _ v | .frameIndex v | .frameRegister v => some [v]
    | _ => some []

mutual
/-- `TreeCount cells a n`: the tree unfolding of the graph below `a` (along `pushedKids`) has `n` nodes -/
inductive TreeCount (cells : Array Cell) : Nat → Nat → Prop where
  | node {a : Nat} {ks : List Nat} {n : Nat} : pushedKids cells a = some ks → TreeCounts cells ks n →
      TreeCount cells a (n + 1)
inductive TreeCounts (cells : Array Cell) : List Nat → Nat → Prop where
  | nil : TreeCounts cells [] 0
  | cons {a : Nat} {ks : List Nat} {n m : Nat} : TreeCount cells a n → TreeCounts cells ks m →
      TreeCounts cells (a :: ks) (n + m)
end

theorem TreeCounts.append {cells : Array Cell} : ∀ {l1 l2 : List Nat} {n m : Nat},
    TreeCounts cells l1 n → TreeCounts cells l2 m → TreeCounts cells (l1 ++ l2) (n + m)
  | [], _, _, _, .nil, h2 => by simpa using h2
  | _ :: _, _, _, _, .cons ha ht, h2 => by
    have := TreeCounts.append ht h2
    rw [Nat.add_assoc]
    exact .cons ha this

theorem TreeCount.pos {cells : Array Cell} {a n : Nat} (h : TreeCount cells a n) : 1 ≤ n := by
  cases h; omega

theorem TreeCounts.zero {cells : Array Cell} {q : List Nat} (h : TreeCounts cells q 0) : q = [] := by
  cases q with
  | nil => rfl
  | cons a ks =>
    exfalso
    generalize hz : (0 : Nat) = z at h
    cases h with
    | cons ha ht => have := ha.pos; omega

/-- the cursor is within the allocated size and the growth step is positive (every store built by the public
operations: `push_to_data_block` grows by a positive step exactly when the cursor reaches the size) -/
def Fits (s : Store) : Prop := s.cells.size ≤ s.size ∧ 1 ≤ s.grow

instance (s : Store) : Decidable (Fits s) := by unfold Fits; infer_instance

theorem push_total {s : Store} (c : Cell) (hf : Fits s) :
    ∃ s', s.push c = .ok (s', s.cells.size) ∧ s'.cells = s.cells.push c ∧ Fits s' := by
  obtain ⟨h1, h2⟩ := hf
  unfold Store.push
  simp only
  by_cases hge : s.cells.size ≥ s.size
  · simp only [hge, if_true]
    rw [if_neg (by simp; omega)]
    exact ⟨_, rfl, rfl, by simp [Fits]; omega⟩
  · simp only [hge, if_false]
    exact ⟨_, rfl, rfl, by simp [Fits]; omega⟩

theorem push1_total {s : Store} (a : Nat) (hf : Fits s) :
    ∃ s', Store.push1 s a = .ok s' ∧ s'.cells.toList = s.cells.toList ++ [Cell.cloneItem a] ∧ Fits s' := by
  obtain ⟨s1, h1, hc1, hg1⟩ := push_total (.cloneItem a) hf
  exact ⟨s1, by simp [Store.push1, h1, bind, Outcome.bind, pure], by rw [hc1]; simp, hg1⟩

theorem push2_total {s : Store} (a b : Nat) (hf : Fits s) :
    ∃ s', Store.push2 s a b = .ok s' ∧ s'.cells.toList = s.cells.toList ++ [Cell.cloneItem a, Cell.cloneItem b] ∧
      Fits s' := by
  obtain ⟨s1, h1, hc1, hg1⟩ := push_total (.cloneItem a) hf
  obtain ⟨s2, h2, hc2, hg2⟩ := push_total (s := s1) (.cloneItem b) hg1
  have e : s1.cells.size = s.cells.size + 1 := by rw [hc1]; simp
  exact ⟨s2, by simp [Store.push2, h1, h2, bind, Outcome.bind, pure], by rw [hc2, hc1]; simp, hg2⟩

theorem pushListItems_total {s0 : Array Cell} : ∀ (n : Nat) (s : Store) (i : Nat) (items : List Nat),
    (∀ j, j < s0.size → s.cells[j]? = s0[j]?) → Fits s → listItems s0 i n = some items →
    ∃ s', Store.pushListItems s i n = .ok s' ∧ s'.cells.toList = s.cells.toList ++ items.map .cloneItem ∧ Fits s'
  | 0, s, i, items, _, hf, h => by
    simp only [listItems, Option.some.injEq] at h
    subst h
    exact ⟨s, rfl, by simp, hf⟩
  | n + 1, s, i, items, hag, hf, h => by
    simp only [listItems] at h
    cases hc : s0[i]? with
    | none => simp [hc] at h
    | some c =>
      rw [hc] at h
      cases c <;> simp only [] at h <;> try (simp at h; done)
      rename_i item
      simp only [Option.map_eq_some_iff] at h
      obtain ⟨rest, hrest, rfl⟩ := h
      have hi : i < s0.size := lt_of_getElem? hc
      have hget : s.get i = .ok (.listItem item) := by
        unfold Store.get; rw [hag i hi, hc]
      obtain ⟨s1, h1, hc1, hg1⟩ := push_total (s := s) (.cloneItem item) hf
      obtain ⟨s2, h2, hc2, hg2⟩ := pushListItems_total n s1 (i + 1) rest (fun j hj => by
        have hj' : s.cells[j]? = s0[j]? := hag j hj
        have hjs : j < s.cells.size := by
          rcases Nat.lt_or_ge j s.cells.size with h | h
          · exact h
          · rw [Array.getElem?_eq_none h] at hj'
            have : s0[j]? = some s0[j] := by simp [hj]
            rw [this] at hj'; cases hj'
        rw [hc1, Array.getElem?_push]
        simp [Nat.ne_of_lt hjs, hj']) hg1 hrest
      refine ⟨s2, ?_, ?_, hg2⟩
      · simp only [Store.pushListItems, hget, h1, bind, Outcome.bind]
        exact h2
      · rw [hc2, hc1]; simp

theorem pushChildren_total {s0 : Array Cell} {s : Store} {a : Nat} {c : Cell} {ks : List Nat}
    (hag : ∀ j, j < s0.size → s.cells[j]? = s0[j]?) (hf : Fits s) (hc : s0[a]? = some c)
    (hk : pushedKids s0 a = some ks) :
    ∃ s', Store.pushChildren s a c = .ok s' ∧ s'.cells.toList = s.cells.toList ++ ks.map .cloneItem ∧ Fits s' := by
  unfold pushedKids at hk
  rw [hc] at hk
  cases c <;> simp only [Option.some.injEq] at hk <;> try (cases hk; done)
  all_goals first
    | (subst hk; exact ⟨s, rfl, by simp, hf⟩)
    | (subst hk; simpa [Store.pushChildren] using push2_total _ _ hf)
    | (subst hk; simpa [Store.pushChildren] using push1_total _ hf)
    | exact pushListItems_total _ _ _ _ hag hf hk

theorem getElem?_of_toList {A : Array Cell} {pre post : List Cell} {c : Cell} (h : A.toList = pre ++ c :: post) :
    A[pre.length]? = some c := by
  rw [← Array.getElem?_toList, h]; simp

/-- the `while current < cursor` loop with the queue `q` still to process (`done` already processed), `it`
iterations so far and `W` = the tree size of everything queued: it ends normally iff `it + W` stays within the limit,
and reports `CloneLimitReached` otherwise -/
theorem indexLoop_count {s0 : Array Cell} {maxIter : Nat} :
    ∀ (W : Nat) (q done : List Nat) (cur : Store) (fuel it : Nat),
      TreeCounts s0 q W → cur.cells.toList = s0.toList ++ done.map .cloneItem ++ q.map .cloneItem → Fits cur →
      maxIter + 2 ≤ fuel + it → it ≤ maxIter →
      (it + W ≤ maxIter → ∃ s', Store.indexLoop maxIter fuel cur (s0.size + done.length) it = .ok s') ∧
      (maxIter < it + W → Store.indexLoop maxIter fuel cur (s0.size + done.length) it = .err .data) := by
  intro W
  induction W with
  | zero =>
    intro q done cur fuel it hq hcells hf hfuel hit
    have hq0 := hq.zero
    subst hq0
    obtain ⟨f, rfl⟩ : ∃ f, fuel = f + 1 := ⟨fuel - 1, by omega⟩
    have hsz : cur.cells.size = s0.size + done.length := by
      have := congrArg List.length hcells
      simpa using this
    refine ⟨fun _ => ⟨cur, ?_⟩, fun h => by omega⟩
    simp [Store.indexLoop, Store.cursor, hsz]
  | succ W ih =>
    intro q done cur fuel it hq hcells hf hfuel hit
    obtain ⟨f, rfl⟩ : ∃ f, fuel = f + 1 := ⟨fuel - 1, by omega⟩
    generalize hWt : W + 1 = Wt at hq
    cases hq with
    | nil => omega
    | cons ha hrest =>
      rename_i a q' n m
      generalize hnn : n = nn at ha
      cases ha with
      | node hk hks =>
        rename_i ks n'
        -- the cell at `current` is `CloneItem a`
        have hcur : cur.cells[s0.size + done.length]? = some (.cloneItem a) := by
          have : cur.cells.toList = (s0.toList ++ done.map .cloneItem) ++ Cell.cloneItem a :: q'.map .cloneItem := by
            rw [hcells]; simp
          have := getElem?_of_toList this
          simpa using this
        have hlt : s0.size + done.length < cur.cells.size := by
          exact lt_of_getElem? hcur
        have hag : ∀ j, j < s0.size → cur.cells[j]? = s0[j]? := by
          intro j hj
          rw [← Array.getElem?_toList, hcells, List.append_assoc, List.getElem?_append_left (by simpa using hj)]
          simp
        obtain ⟨c, hc⟩ : ∃ c, s0[a]? = some c := by
          unfold pushedKids at hk
          cases hca : s0[a]? with
          | none => simp [hca] at hk
          | some c => exact ⟨c, rfl⟩
        have ha_lt : a < s0.size := lt_of_getElem? hc
        obtain ⟨cur2, hpc, hcells2, hf2⟩ := pushChildren_total hag hf hc hk
        have hget1 : cur.get (s0.size + done.length) = .ok (.cloneItem a) := by unfold Store.get; rw [hcur]
        have hget2 : cur.get a = .ok c := by unfold Store.get; rw [hag a ha_lt, hc]
        have hbody : Store.indexLoop maxIter (f + 1) cur (s0.size + done.length) it =
            (if it + 1 > maxIter then .err .data
             else Store.indexLoop maxIter f cur2 (s0.size + done.length + 1) (it + 1)) := by
          simp [Store.indexLoop, Store.cursor, hlt, hget1, hget2, hpc, bind, Outcome.bind]
        rw [hbody]
        by_cases hover : it + 1 > maxIter
        · simp only [hover, if_true]
          exact ⟨fun h => by omega, fun _ => trivial⟩
        · simp only [hover, if_false]
          have hq2 : TreeCounts s0 (q' ++ ks) W := by
            have := TreeCounts.append hrest hks
            have e : m + n' = W := by omega
            rw [e] at this; exact this
          have hcells3 : cur2.cells.toList = s0.toList ++ (done ++ [a]).map .cloneItem ++ (q' ++ ks).map .cloneItem := by
            rw [hcells2, hcells]; simp
          have := ih (q' ++ ks) (done ++ [a]) cur2 f (it + 1) hq2 hcells3 hf2 (by omega) (by omega)
          have e : s0.size + (done ++ [a]).length = s0.size + done.length + 1 := by simp; omega
          rw [e] at this
          obtain ⟨g1, g2⟩ := this
          exact ⟨fun h => g1 (by omega), fun h => g2 (by omega)⟩

/-- the limit `create_index_stack(from)` computes: `(data_block.size / 2)²` after its first push -/
def cloneLimit (s : Store) : Nat := ((if s.cells.size ≥ s.size then s.size + s.grow else s.size) / 2) ^ 2

theorem createIndexStack_limit {s : Store} {a T : Nat} (hf : Fits s) (hT : TreeCount s.cells a T) :
    (T ≤ cloneLimit s → ∃ s' st, Store.createIndexStack s a = .ok (s', st)) ∧
    (cloneLimit s < T → Store.createIndexStack s a = .err .data) := by
  obtain ⟨s1, hp, hc1, hf1⟩ := push_total (.cloneItem a) hf
  have hsize1 : s1.size = (if s.cells.size ≥ s.size then s.size + s.grow else s.size) := by
    unfold Store.push at hp
    simp only at hp
    by_cases hge : s.cells.size ≥ s.size
    · simp only [hge, if_true] at hp ⊢
      split at hp
      · simp at hp
      · simp only [Outcome.ok.injEq, Prod.mk.injEq] at hp
        rw [← hp.1]
    · simp only [hge, if_false] at hp ⊢
      simp only [Outcome.ok.injEq, Prod.mk.injEq] at hp
      rw [← hp.1]
  have hq : TreeCounts s.cells [a] (T + 0) := .cons hT .nil
  have hcells : s1.cells.toList = s.cells.toList ++ ([] : List Nat).map Cell.cloneItem ++ [a].map Cell.cloneItem := by
    rw [hc1]; simp
  have hmain := indexLoop_count (maxIter := (s1.size / 2) ^ 2) (T + 0) [a] [] s1 ((s1.size / 2) ^ 2 + 2) 0 hq hcells hf1
    (by omega) (Nat.zero_le _)
  simp only [List.length_nil, Nat.add_zero, Nat.zero_add] at hmain
  have hlim : cloneLimit s = (s1.size / 2) ^ 2 := by simp [cloneLimit, hsize1]
  rw [hlim]
  obtain ⟨g1, g2⟩ := hmain
  constructor
  · intro h
    obtain ⟨s', hs'⟩ := g1 h
    exact ⟨s', s.cells.size, by simp [Store.createIndexStack, hp, hs', bind, Outcome.bind, pure]⟩
  · intro h
    simp [Store.createIndexStack, hp, g2 h, bind, Outcome.bind]

theorem createIndexStack_ok_iff {s : Store} {a T : Nat} (hf : Fits s) (hT : TreeCount s.cells a T) :
    (∃ s' st, Store.createIndexStack s a = .ok (s', st)) ↔ T ≤ cloneLimit s := by
  obtain ⟨g1, g2⟩ := createIndexStack_limit hf hT
  constructor
  · rintro ⟨s', st, h⟩
    rcases Nat.lt_or_ge (cloneLimit s) T with hlt | hge
    · rw [g2 hlt] at h; cases h
    · exact hge
  · exact g1

theorem cloneData_limit {s : Store} {a T : Nat} (hf : Fits s) (hT : TreeCount s.cells a T)
    (h : cloneLimit s < T) : Store.cloneData s a = .err .data := by
  simp [Store.cloneData, (createIndexStack_limit hf hT).2 h, bind, Outcome.bind]

def sumOpt : List (Option Nat) → Option Nat
  | [] => some 0
  | none :: _ => none
  | some n :: rest => (sumOpt rest).map (n + ·)

/-- the tree size with fuel (`none`: cyclic, deeper than the fuel, or a malformed cell) -/
def treeCount (cells : Array Cell) : Nat → Nat → Option Nat
  | 0, _ => none
  | fuel + 1, a =>
    match pushedKids cells a with
    | none => none
    | some ks => (sumOpt (ks.map (treeCount cells fuel))).map (· + 1)

theorem treeCount_sound {cells : Array Cell} : ∀ (fuel a n : Nat), treeCount cells fuel a = some n → TreeCount cells a n
  | 0, _, _, h => by simp [treeCount] at h
  | fuel + 1, a, n, h => by
    simp only [treeCount] at h
    cases hk : pushedKids cells a with
    | none => simp [hk] at h
    | some ks =>
      rw [hk] at h
      simp only [Option.map_eq_some_iff] at h
      obtain ⟨m, hm, rfl⟩ := h
      have : ∀ (l : List Nat) (m : Nat), sumOpt (l.map (treeCount cells fuel)) = some m → TreeCounts cells l m := by
        intro l
        induction l with
        | nil => intro m hm; simp [sumOpt] at hm; subst hm; exact .nil
        | cons x xs ih =>
          intro m hm
          simp only [List.map_cons] at hm
          cases hx : treeCount cells fuel x with
          | none => simp [hx, sumOpt] at hm
          | some nx =>
            rw [hx] at hm
            simp only [sumOpt, Option.map_eq_some_iff] at hm
            obtain ⟨r, hr, rfl⟩ := hm
            exact .cons (treeCount_sound fuel x nx hx) (ih r hr)
      exact .node hk (this ks m hm)

end Garnish.BasicOpt
