/-
The fragment of the parser theorems (`Spec.Ex`: the syntax trees whose token lists the parser is proved correct on) is
closed under inserting ONE trivia token (Whitespace / Annotation) directly after a token `p` that is a trivia token, a
binary or optional-binary operator, or an opening bracket, when `p` is not the last token (`ex_insert`): every such `p`
is followed by a trivia slot of the syntax tree. (Not after a prefix operator — the operand must follow directly — and
not between an operand and a suffix operator; `Good` excludes both.)
Where `pre ++ p :: post` cuts the token list of a constructor is said once (`locate_open` for the bracket shapes,
`locate_mid` for slot - token - slot); one lemma per constructor (`ins_*`), then structural recursion.
-/
import Garnish.Lemmas.ParseNumbered
import Garnish.Lemmas.ParserBSyntax
namespace Garnish.Spec
open Garnish Garnish.Gen Garnish.Model.Parser

theorem split_app {α : Type} {L1 L2 pre post : List α} {p : α} (h : L1 ++ L2 = pre ++ p :: post) :
    (∃ post1, L1 = pre ++ p :: post1 ∧ post = post1 ++ L2) ∨ (∃ pre2, pre = L1 ++ pre2 ∧ L2 = pre2 ++ p :: post) := by
  rcases List.append_eq_append_iff.mp h with ⟨a, h1, h2⟩ | ⟨c, h1, h2⟩
  · exact Or.inr ⟨a, h1, h2⟩
  · cases c with
    | nil => exact Or.inr ⟨[], by simpa using h1.symm, by simpa using h2.symm⟩
    | cons x c =>
      simp only [List.cons_append, List.cons.injEq] at h2
      exact Or.inl ⟨c, by rw [h1, h2.1], h2.2⟩

theorem split_cons {α : Type} {x : α} {L pre post : List α} {p : α} (h : x :: L = pre ++ p :: post) :
    (pre = [] ∧ x = p ∧ L = post) ∨ (∃ pre2, pre = x :: pre2 ∧ L = pre2 ++ p :: post) := by
  cases pre with
  | nil => simp at h; exact Or.inl ⟨rfl, h.1, h.2⟩
  | cons y pre2 => simp at h; exact Or.inr ⟨pre2, by rw [h.1], h.2⟩

/-- token types after which a trivia token may be inserted -/
def goodTy (ty : TokenType) : Bool :=
  ty == .whitespace || ty == .annotation || ty == .lineAnnotation ||
  (getDefinition ty).2 == .binaryLeftToRight || (getDefinition ty).2 == .binaryRightToLeft ||
  (getDefinition ty).2 == .optionalBinaryLeftToRight || ty == .startGroup || ty == .startExpression

def Good (p : PToken) : Prop := goodTy p.type = true

theorem goodTy_facts : ∀ ty, goodTy ty = true → ((getDefinition ty).2 == SecDef.unaryPrefix) = false ∧
    ((getDefinition ty).2 == SecDef.unarySuffix) = false ∧
    ((getDefinition ty).2 == SecDef.value || (getDefinition ty).2 == SecDef.identifier) = false ∧
    ty ≠ .endGroup ∧ ty ≠ .endExpression := by
  intro ty; cases ty <;> decide

theorem good_not_prefix {p : PToken} (h : Good p) : isPrefixTok p = false := (goodTy_facts _ h).1
theorem good_not_suffix {p : PToken} (h : Good p) : isSuffixTok p = false := (goodTy_facts _ h).2.1
theorem good_not_atom {p : PToken} (h : Good p) : isAtom10 p = false := by
  unfold isAtom10; rw [(goodTy_facts _ h).2.2.1]; rfl
theorem good_not_close {o p : PToken} (h : Good p) : Ex.closeMatches o p = false := by
  obtain ⟨_, _, _, h1, h2⟩ := goodTy_facts _ h
  simp [Ex.closeMatches, h1, h2]

/-- `e'` is as good as `e` wherever `e` stands -/
def Like (e e' : Ex) : Prop :=
  (∀ F inG, e.ok F inG = true → e'.ok F inG = true) ∧ e'.garb = e.garb ∧ e'.isOpd = e.isOpd ∧
    e'.endsSuffix = e.endsSuffix

def Ex.lastTok : Ex → PToken
  | .atom _ a => a
  | .br _ _ _ _ _ c => c
  | .brT _ _ _ _ _ _ _ c => c
  | .bin _ _ _ _ x => x.lastTok
  | .suf _ s => s
  | .lst _ _ x => x.lastTok
  | .sep _ _ _ _ x => x.lastTok
  | .brC _ _ _ _ _ _ _ c => c
  | .lead _ _ x => x.lastTok

theorem Ex.toks_last : ∀ e : Ex, ∃ init, e.toks = init ++ [e.lastTok]
  | .atom pre a => ⟨pre, rfl⟩
  | .br pre o wsA e wsB c => ⟨pre ++ (o :: (wsA ++ (e.toks ++ wsB))), by simp [Ex.toks, Ex.lastTok]⟩
  | .brT pre o wsA e ws1 t ws2 c => ⟨pre ++ (o :: (wsA ++ (e.toks ++ (ws1 ++ (t :: ws2))))), by simp [Ex.toks, Ex.lastTok]⟩
  | .bin e ws1 op ws2 x => by
    obtain ⟨i, hi⟩ := Ex.toks_last x
    exact ⟨e.toks ++ (ws1 ++ (op :: (ws2 ++ i))), by simp [Ex.toks, Ex.lastTok, hi]⟩
  | .suf e s => ⟨e.toks, rfl⟩
  | .lst e ws x => by
    obtain ⟨i, hi⟩ := Ex.toks_last x
    exact ⟨e.toks ++ (ws ++ i), by simp [Ex.toks, Ex.lastTok, hi]⟩
  | .sep e ws1 t ws2 x => by
    obtain ⟨i, hi⟩ := Ex.toks_last x
    exact ⟨e.toks ++ (ws1 ++ (t :: (ws2 ++ i))), by simp [Ex.toks, Ex.lastTok, hi]⟩
  | .brC pre o wsA e ws1 k wsB c => ⟨pre ++ (o :: (wsA ++ (e.toks ++ (ws1 ++ (k :: wsB))))), by simp [Ex.toks, Ex.lastTok]⟩
  | .lead op ws x => by
    obtain ⟨i, hi⟩ := Ex.toks_last x
    exact ⟨op :: (ws ++ i), by simp [Ex.toks, Ex.lastTok, hi]⟩

theorem Ex.lastTok_not_good : ∀ (e : Ex) (F : Fl) (inG : Bool), e.ok F inG = true → ¬ Good e.lastTok
  | .atom pre a, F, inG, h, hg => by
    simp only [Ex.ok, Bool.and_eq_true] at h
    have := good_not_atom hg; simp only [Ex.lastTok] at this; rw [h.2] at this; cases this
  | .br pre o wsA e wsB c, F, inG, h, hg => by
    simp only [Ex.ok, Bool.and_eq_true] at h
    have := good_not_close (o := o) hg; simp only [Ex.lastTok] at this; simp_all
  | .brT pre o wsA e ws1 t ws2 c, F, inG, h, hg => by
    simp only [Ex.ok, Bool.and_eq_true] at h
    have := good_not_close (o := o) hg; simp only [Ex.lastTok] at this; simp_all
  | .bin e ws1 op ws2 x, F, inG, h, hg => by
    simp only [Ex.ok, Bool.and_eq_true] at h
    exact Ex.lastTok_not_good x F inG h.2 hg
  | .suf e s, F, inG, h, hg => by
    simp only [Ex.ok, Bool.and_eq_true] at h
    have := good_not_suffix hg; simp only [Ex.lastTok] at this; rw [h.2] at this; cases this
  | .lst e ws x, F, inG, h, hg => by
    simp only [Ex.ok, Bool.and_eq_true] at h
    exact Ex.lastTok_not_good x F inG h.2 hg
  | .sep e ws1 t ws2 x, F, inG, h, hg => by
    simp only [Ex.ok, Bool.and_eq_true] at h
    exact Ex.lastTok_not_good x F inG h.2 hg
  | .brC pre o wsA e ws1 k wsB c, F, inG, h, hg => by
    simp only [Ex.ok, Bool.and_eq_true] at h
    have := good_not_close (o := o) hg; simp only [Ex.lastTok] at this; simp_all
  | .lead op ws x, F, inG, h, hg => by
    simp only [Ex.ok, Bool.and_eq_true] at h
    exact Ex.lastTok_not_good x F inG h.2 hg

theorem not_last_of_good {e : Ex} {F : Fl} {inG : Bool} (hok : e.ok F inG = true) {pre : List PToken} {p : PToken}
    (h : e.toks = pre ++ [p]) (hg : Good p) : False := by
  obtain ⟨i, hi⟩ := Ex.toks_last e
  have := congrArg List.getLast? (h.symm.trans hi)
  simp at this
  rw [this] at hg
  exact Ex.lastTok_not_good e F inG hok hg

set_option linter.unusedSimpArgs false
set_option linter.unusedVariables false

/-- the statement for one syntax tree -/
def InsOK (w : PToken) (e : Ex) : Prop :=
  ∀ F inG, e.ok F inG = true → ∀ pre p post, e.toks = pre ++ p :: post → post ≠ [] → Good p →
    ∃ e', Like e e' ∧ e'.toks = pre ++ p :: w :: post

variable {w : PToken} (hw : isTriviaTok w = true)
include hw

theorem triv_fill : isFillTok w = true := by simp [isFillTok, hw]
theorem triv_gfill (b : Bool) : isGFill b w = true := by simp [isGFill, hw]

omit hw in
theorem locate_mid {ws1 ws2 R pre post : List PToken} {t p : PToken} (h : ws1 ++ (t :: (ws2 ++ R)) = pre ++ p :: post) :
    (∃ v, ws1 = pre ++ p :: v ∧ post = v ++ (t :: (ws2 ++ R))) ∨ (pre = ws1 ∧ p = t ∧ post = ws2 ++ R) ∨
    (∃ u, pre = ws1 ++ t :: u ∧ ws2 ++ R = u ++ p :: post) := by
  rcases split_app h with ⟨v, h1, h2⟩ | ⟨u, h1, h2⟩
  · exact Or.inl ⟨v, h1, h2⟩
  · rcases split_cons h2 with ⟨h3, h4, h5⟩ | ⟨u2, h3, h5⟩
    · subst h3; exact Or.inr (Or.inl ⟨by simpa using h1, h4.symm, h5.symm⟩)
    · subst h3; exact Or.inr (Or.inr ⟨u2, h1, h5⟩)

omit hw in
/-- where it cuts an opening `pre0 ++ o :: wsA ++ E ++ T`: not in `pre0` (no prefix operator is `Good`); at `o`; in the slot
`wsA`; in `E`; in the tail `T` -/
theorem locate_open {pre0 wsA E T pre post : List PToken} {o p : PToken}
    (h : pre0 ++ (o :: (wsA ++ (E ++ T))) = pre ++ p :: post) (hpre : pre0.all isPrefixTok = true) (hg : Good p) :
    (pre = pre0 ∧ p = o ∧ post = wsA ++ (E ++ T)) ∨
    (∃ u v, wsA = u ++ p :: v ∧ pre = pre0 ++ o :: u ∧ post = v ++ (E ++ T)) ∨
    (∃ u v, E = u ++ p :: v ∧ pre = pre0 ++ o :: (wsA ++ u) ∧ post = v ++ T) ∨
    (∃ u, pre = pre0 ++ o :: (wsA ++ (E ++ u)) ∧ T = u ++ p :: post) := by
  rcases split_app h with ⟨post1, h1, h2⟩ | ⟨pre2, h1, h2⟩
  · exfalso
    rw [h1, List.all_append, List.all_cons, good_not_prefix hg] at hpre
    simp at hpre
  · subst h1
    rcases split_cons h2 with ⟨h3, h4, h5⟩ | ⟨pre3, h3, h5⟩
    · subst h3 h4 h5; exact Or.inl ⟨by simp, rfl, rfl⟩
    · subst h3
      rcases split_app h5 with ⟨v, h6, h8⟩ | ⟨pre4, h6, h7⟩
      · exact Or.inr (Or.inl ⟨pre3, v, h6, rfl, h8⟩)
      · subst h6
        rcases split_app h7 with ⟨v, h8, h10⟩ | ⟨pre5, h8, h9⟩
        · exact Or.inr (Or.inr (Or.inl ⟨pre4, v, h8, rfl, h10⟩))
        · subst h8; exact Or.inr (Or.inr (Or.inr ⟨pre5, rfl, h9⟩))

omit hw in
theorem tail_ws_c {ws pre post : List PToken} {c p : PToken} (h : ws ++ [c] = pre ++ p :: post) (hpost : post ≠ []) :
    ∃ post1, ws = pre ++ p :: post1 ∧ post = post1 ++ [c] := by
  rcases split_app h with ⟨post1, h1, h2⟩ | ⟨pre2, h1, h2⟩
  · exact ⟨post1, h1, h2⟩
  · rcases split_cons h2 with ⟨_, _, h3⟩ | ⟨pre3, _, h3⟩
    · exact absurd h3.symm hpost
    · simp at h3

theorem ins_atom (pre0 : List PToken) (a : PToken) : InsOK w (.atom pre0 a) := by
  intro F inG hok pre p post h hpost hg
  simp only [Ex.toks] at h
  obtain ⟨post1, h1, -⟩ := tail_ws_c h hpost
  exfalso
  have hnp := good_not_prefix hg
  subst h1
  simp_all [Ex.ok, triv_fill hw, triv_gfill hw]

theorem ins_br (pre0 : List PToken) (o : PToken) (wsA : List PToken) (e : Ex) (wsB : List PToken) (c : PToken)
    (ih : InsOK w e) : InsOK w (.br pre0 o wsA e wsB c) := by
  intro F inG hok pre p post h hpost hg
  simp only [Ex.toks] at h
  simp only [Ex.ok, Bool.and_eq_true] at hok
  have k1 := hok.1.1.1.1.1
  have k5 := hok.1.2
  clear hok
  rcases locate_open h k1 hg with ⟨e1, e2, e3⟩ | ⟨u, v, rfl, rfl, rfl⟩ | ⟨u, v, hE, rfl, rfl⟩ | ⟨u, rfl, hT⟩
  · subst e1 e2 e3
    refine ⟨.br pre p (w :: wsA) e wsB c, ⟨fun F inG hk => ?_, rfl, rfl, rfl⟩, by simp [Ex.toks]⟩
    simp_all [Ex.ok, triv_fill hw, triv_gfill hw]
  · refine ⟨.br pre0 o (u ++ p :: w :: v) e wsB c, ⟨fun F inG hk => ?_, rfl, rfl, rfl⟩, by simp [Ex.toks]⟩
    simp_all [Ex.ok, triv_fill hw, triv_gfill hw]
  · by_cases hv : v = []
    · subst hv; exact (not_last_of_good k5 hE hg).elim
    · obtain ⟨e', hl, ht⟩ := ih F _ k5 u p v hE hv hg
      refine ⟨.br pre0 o wsA e' wsB c, ⟨fun F inG hk => ?_, by simp [Ex.garb, hl.2.1], rfl, rfl⟩, by simp [Ex.toks, ht]⟩
      have := hl.1 F (Ex.opensGroup o)
      simp_all [Ex.ok, triv_fill hw, triv_gfill hw]
  · obtain ⟨post1, rfl, rfl⟩ := tail_ws_c hT hpost
    refine ⟨.br pre0 o wsA e (u ++ p :: w :: post1) c, ⟨fun F inG hk => ?_, rfl, rfl, rfl⟩, by simp [Ex.toks]⟩
    simp_all [Ex.ok, triv_fill hw, triv_gfill hw]

/-- a bracketed tree with a separator / comma before the closing bracket: `brT` and `brC` have the same token layout -/
theorem ins_brT (pre0 : List PToken) (o : PToken) (wsA : List PToken) (e : Ex) (ws1 : List PToken) (t : PToken)
    (ws2 : List PToken) (c : PToken) (ih : InsOK w e) : InsOK w (.brT pre0 o wsA e ws1 t ws2 c) := by
  intro F inG hok pre p post h hpost hg
  simp only [Ex.toks] at h
  simp only [Ex.ok, Bool.and_eq_true] at hok
  have hk1 := hok.1.1.1.1.1.1.1.2
  have hk5 := hok.1.1.1.2
  clear hok
  rcases locate_open h hk1 hg with ⟨e1, e2, e3⟩ | ⟨u, v, rfl, rfl, rfl⟩ | ⟨u, v, hE, rfl, rfl⟩ | ⟨u, rfl, hT⟩
  · subst e1 e2 e3
    refine ⟨.brT pre p (w :: wsA) e ws1 t ws2 c, ⟨fun F inG hk => ?_, rfl, rfl, rfl⟩, by simp [Ex.toks]⟩
    simp_all [Ex.ok, triv_fill hw, triv_gfill hw]
  · refine ⟨.brT pre0 o (u ++ p :: w :: v) e ws1 t ws2 c, ⟨fun F inG hk => ?_, rfl, rfl, rfl⟩, by simp [Ex.toks]⟩
    simp_all [Ex.ok, triv_fill hw, triv_gfill hw]
  · by_cases hv : v = []
    · subst hv; exact (not_last_of_good hk5 hE hg).elim
    · obtain ⟨e', hl, ht⟩ := ih F _ hk5 u p v hE hv hg
      refine ⟨.brT pre0 o wsA e' ws1 t ws2 c, ⟨fun F inG hk => ?_, by simp [Ex.garb, hl.2.1], rfl, rfl⟩,
        by simp [Ex.toks, ht]⟩
      have := hl.1 F false
      simp_all [Ex.ok, triv_fill hw, triv_gfill hw]
  · rcases locate_mid hT with ⟨v, rfl, rfl⟩ | ⟨rfl, rfl, rfl⟩ | ⟨u2, rfl, hT2⟩
    · refine ⟨.brT pre0 o wsA e (u ++ p :: w :: v) t ws2 c, ⟨fun F inG hk => ?_, rfl, rfl, rfl⟩, by simp [Ex.toks]⟩
      simp_all [Ex.ok, triv_fill hw, triv_gfill hw]
    · refine ⟨.brT pre0 o wsA e u p (w :: ws2) c, ⟨fun F inG hk => ?_, rfl, rfl, rfl⟩, by simp [Ex.toks]⟩
      simp_all [Ex.ok, triv_fill hw, triv_gfill hw]
    · obtain ⟨post1, rfl, rfl⟩ := tail_ws_c hT2 hpost
      refine ⟨.brT pre0 o wsA e ws1 t (u2 ++ p :: w :: post1) c, ⟨fun F inG hk => ?_, rfl, rfl, rfl⟩, by simp [Ex.toks]⟩
      simp_all [Ex.ok, triv_fill hw, triv_gfill hw]

theorem ins_brC (pre0 : List PToken) (o : PToken) (wsA : List PToken) (e : Ex) (ws1 : List PToken) (k : PToken)
    (wsB : List PToken) (c : PToken) (ih : InsOK w e) : InsOK w (.brC pre0 o wsA e ws1 k wsB c) := by
  intro F inG hok pre p post h hpost hg
  simp only [Ex.toks] at h
  simp only [Ex.ok, Bool.and_eq_true] at hok
  have hk1 := hok.1.1.1.1.1.1.1.2
  have hk5 := hok.1.1.1.2
  clear hok
  rcases locate_open h hk1 hg with ⟨e1, e2, e3⟩ | ⟨u, v, rfl, rfl, rfl⟩ | ⟨u, v, hE, rfl, rfl⟩ | ⟨u, rfl, hT⟩
  · subst e1 e2 e3
    refine ⟨.brC pre p (w :: wsA) e ws1 k wsB c, ⟨fun F inG hk => ?_, rfl, rfl, rfl⟩, by simp [Ex.toks]⟩
    simp_all [Ex.ok, triv_fill hw, triv_gfill hw]
  · refine ⟨.brC pre0 o (u ++ p :: w :: v) e ws1 k wsB c, ⟨fun F inG hk => ?_, rfl, rfl, rfl⟩, by simp [Ex.toks]⟩
    simp_all [Ex.ok, triv_fill hw, triv_gfill hw]
  · by_cases hv : v = []
    · subst hv; exact (not_last_of_good hk5 hE hg).elim
    · obtain ⟨e', hl, ht⟩ := ih F _ hk5 u p v hE hv hg
      refine ⟨.brC pre0 o wsA e' ws1 k wsB c, ⟨fun F inG hk => ?_, by simp [Ex.garb, hl.2.1], rfl, rfl⟩,
        by simp [Ex.toks, ht]⟩
      have := hl.1 F (Ex.opensGroup o)
      simp_all [Ex.ok, triv_fill hw, triv_gfill hw]
  · rcases locate_mid hT with ⟨v, rfl, rfl⟩ | ⟨rfl, rfl, rfl⟩ | ⟨u2, rfl, hT2⟩
    · refine ⟨.brC pre0 o wsA e (u ++ p :: w :: v) k wsB c, ⟨fun F inG hk => ?_, rfl, rfl, rfl⟩, by simp [Ex.toks]⟩
      simp_all [Ex.ok, triv_fill hw, triv_gfill hw]
    · refine ⟨.brC pre0 o wsA e u p (w :: wsB) c, ⟨fun F inG hk => ?_, rfl, rfl, rfl⟩, by simp [Ex.toks]⟩
      simp_all [Ex.ok, triv_fill hw, triv_gfill hw]
    · obtain ⟨post1, rfl, rfl⟩ := tail_ws_c hT2 hpost
      refine ⟨.brC pre0 o wsA e ws1 k (u2 ++ p :: w :: post1) c, ⟨fun F inG hk => ?_, rfl, rfl, rfl⟩, by simp [Ex.toks]⟩
      simp_all [Ex.ok, triv_fill hw, triv_gfill hw]

theorem ins_bin (e1 : Ex) (ws1 : List PToken) (op : PToken) (ws2 : List PToken) (x : Ex) (ih1 : InsOK w e1)
    (ihx : InsOK w x) : InsOK w (.bin e1 ws1 op ws2 x) := by
  intro F inG hok pre p post h hpost hg
  simp only [Ex.toks] at h
  simp only [Ex.ok, Bool.and_eq_true] at hok
  have hke := hok.1.1.1.1.1
  have hkx := hok.2
  clear hok
  rcases split_app h with ⟨v, hE, rfl⟩ | ⟨u, rfl, hT⟩
  · by_cases hv : v = []
    · subst hv; exact (not_last_of_good hke hE hg).elim
    · obtain ⟨e', hl, ht⟩ := ih1 F inG hke pre p v hE hv hg
      refine ⟨.bin e' ws1 op ws2 x, ⟨fun F inG hk => ?_, by simp [Ex.garb, hl.2.1], rfl, rfl⟩, by simp [Ex.toks, ht]⟩
      have := hl.1 F inG
      simp_all [Ex.ok, triv_fill hw, triv_gfill hw]
  · rcases locate_mid hT with ⟨v, rfl, rfl⟩ | ⟨rfl, rfl, rfl⟩ | ⟨u2, rfl, hT2⟩
    · refine ⟨.bin e1 (u ++ p :: w :: v) op ws2 x, ⟨fun F inG hk => ?_, rfl, rfl, rfl⟩, by simp [Ex.toks]⟩
      simp_all [Ex.ok, triv_fill hw, triv_gfill hw]
    · refine ⟨.bin e1 u p (w :: ws2) x, ⟨fun F inG hk => ?_, rfl, rfl, rfl⟩, by simp [Ex.toks]⟩
      simp_all [Ex.ok, triv_fill hw, triv_gfill hw]
    · rcases split_app hT2 with ⟨v, rfl, rfl⟩ | ⟨u3, rfl, hX⟩
      · refine ⟨.bin e1 ws1 op (u2 ++ p :: w :: v) x, ⟨fun F inG hk => ?_, rfl, rfl, rfl⟩, by simp [Ex.toks]⟩
        simp_all [Ex.ok, triv_fill hw, triv_gfill hw]
      · obtain ⟨x', hl, ht⟩ := ihx F inG hkx u3 p post hX hpost hg
        refine ⟨.bin e1 ws1 op ws2 x', ⟨fun F inG hk => ?_, by simp [Ex.garb, hl.2.1], rfl, rfl⟩, by simp [Ex.toks, ht]⟩
        have := hl.1 F inG
        have := hl.2.2.1
        simp_all [Ex.ok, triv_fill hw, triv_gfill hw]

theorem ins_sep (e1 : Ex) (ws1 : List PToken) (t : PToken) (ws2 : List PToken) (x : Ex) (ih1 : InsOK w e1)
    (ihx : InsOK w x) : InsOK w (.sep e1 ws1 t ws2 x) := by
  intro F inG hok pre p post h hpost hg
  simp only [Ex.toks] at h
  simp only [Ex.ok, Bool.and_eq_true] at hok
  have hke := hok.1.1.1.1.1.2
  have hkx := hok.2
  clear hok
  rcases split_app h with ⟨v, hE, rfl⟩ | ⟨u, rfl, hT⟩
  · by_cases hv : v = []
    · subst hv; exact (not_last_of_good hke hE hg).elim
    · obtain ⟨e', hl, ht⟩ := ih1 F inG hke pre p v hE hv hg
      refine ⟨.sep e' ws1 t ws2 x, ⟨fun F inG hk => ?_, by simp [Ex.garb, hl.2.1], rfl, rfl⟩, by simp [Ex.toks, ht]⟩
      have := hl.1 F inG
      cases inG <;> simp_all [Ex.ok, triv_fill hw, triv_gfill hw]
  · rcases locate_mid hT with ⟨v, rfl, rfl⟩ | ⟨rfl, rfl, rfl⟩ | ⟨u2, rfl, hT2⟩
    · refine ⟨.sep e1 (u ++ p :: w :: v) t ws2 x, ⟨fun F inG hk => ?_, rfl, rfl, rfl⟩, by simp [Ex.toks]⟩
      cases inG <;> simp_all [Ex.ok, triv_fill hw, triv_gfill hw]
    · refine ⟨.sep e1 u p (w :: ws2) x, ⟨fun F inG hk => ?_, rfl, rfl, rfl⟩, by simp [Ex.toks]⟩
      cases inG <;> simp_all [Ex.ok, triv_fill hw, triv_gfill hw]
    · rcases split_app hT2 with ⟨v, rfl, rfl⟩ | ⟨u3, rfl, hX⟩
      · refine ⟨.sep e1 ws1 t (u2 ++ p :: w :: v) x, ⟨fun F inG hk => ?_, rfl, rfl, rfl⟩, by simp [Ex.toks]⟩
        cases inG <;> simp_all [Ex.ok, triv_fill hw, triv_gfill hw]
      · obtain ⟨x', hl, ht⟩ := ihx F inG hkx u3 p post hX hpost hg
        refine ⟨.sep e1 ws1 t ws2 x', ⟨fun F inG hk => ?_, by simp [Ex.garb, hl.2.1], rfl, rfl⟩, by simp [Ex.toks, ht]⟩
        have := hl.1 F inG
        have := hl.2.2.1
        cases inG <;> simp_all [Ex.ok, triv_fill hw, triv_gfill hw]

omit hw in
theorem any_insert (Q : PToken → Bool) (u v : List PToken) (p w : PToken) (h : (u ++ p :: v).any Q = true) :
    (u ++ p :: w :: v).any Q = true := by
  simp only [List.any_append, List.any_cons, Bool.or_eq_true] at h ⊢
  rcases h with h | h | h
  · exact Or.inl h
  · exact Or.inr (Or.inl h)
  · exact Or.inr (Or.inr (Or.inr h))

omit hw in
theorem all_insert (P : PToken → Bool) (u v : List PToken) (p w : PToken) (h : (u ++ p :: v).all P = true)
    (hw : P w = true) : (u ++ p :: w :: v).all P = true := by
  simp only [List.all_append, List.all_cons, Bool.and_eq_true] at h ⊢
  exact ⟨h.1, h.2.1, hw, h.2.2⟩

theorem ins_lst (e1 : Ex) (ws : List PToken) (x : Ex) (ih1 : InsOK w e1) (ihx : InsOK w x) : InsOK w (.lst e1 ws x) := by
  intro F inG hok pre p post h hpost hg
  simp only [Ex.toks] at h
  simp only [Ex.ok, Bool.and_eq_true] at hok
  have hke := hok.1.1.1.1.1.2
  have hkx := hok.2
  clear hok
  rcases split_app h with ⟨v, hE, rfl⟩ | ⟨u, rfl, hT⟩
  · by_cases hv : v = []
    · subst hv; exact (not_last_of_good hke hE hg).elim
    · obtain ⟨e', hl, ht⟩ := ih1 F inG hke pre p v hE hv hg
      refine ⟨.lst e' ws x, ⟨fun F inG hk => ?_, by simp [Ex.garb, hl.2.1], rfl, rfl⟩, by simp [Ex.toks, ht]⟩
      have := hl.1 F inG
      have := hl.2.2.2
      simp_all [Ex.ok, triv_fill hw, triv_gfill hw]
  · rcases split_app hT with ⟨v, rfl, rfl⟩ | ⟨u3, rfl, hX⟩
    · refine ⟨.lst e1 (u ++ p :: w :: v) x, ⟨fun F inG hk => ?_, rfl, rfl, rfl⟩, by simp [Ex.toks]⟩
      simp only [Ex.ok, Bool.and_eq_true] at hk ⊢
      obtain ⟨⟨⟨⟨⟨⟨a1, a2⟩, a3⟩, a4⟩, a5⟩, a6⟩, a7⟩ := hk
      exact ⟨⟨⟨⟨⟨⟨a1, a2⟩, a3⟩, all_insert _ _ _ _ _ a4 (triv_gfill hw _)⟩, any_insert _ _ _ _ _ a5⟩, a6⟩, a7⟩
    · obtain ⟨x', hl, ht⟩ := ihx F inG hkx u3 p post hX hpost hg
      refine ⟨.lst e1 ws x', ⟨fun F inG hk => ?_, by simp [Ex.garb, hl.2.1], rfl, rfl⟩, by simp [Ex.toks, ht]⟩
      have := hl.1 F inG
      have := hl.2.2.1
      simp_all [Ex.ok, triv_fill hw, triv_gfill hw]

theorem ins_suf (e1 : Ex) (s : PToken) (ih1 : InsOK w e1) : InsOK w (.suf e1 s) := by
  intro F inG hok pre p post h hpost hg
  simp only [Ex.toks] at h
  obtain ⟨post1, h1, h2⟩ := tail_ws_c h hpost
  subst h2
  have hke : e1.ok F inG = true := by simp_all [Ex.ok, triv_fill hw, triv_gfill hw]
  by_cases hp1 : post1 = []
  · subst hp1
    exact (not_last_of_good hke h1 hg).elim
  · obtain ⟨e', hl, ht⟩ := ih1 F inG hke pre p post1 h1 hp1 hg
    refine ⟨.suf e' s, ⟨fun F inG hk => ?_, by simp [Ex.garb, hl.2.1], rfl, rfl⟩, by simp [Ex.toks, ht]⟩
    have := hl.1 F inG
    simp_all [Ex.ok, triv_fill hw, triv_gfill hw]

theorem ins_lead (op : PToken) (ws : List PToken) (x : Ex) (ihx : InsOK w x) : InsOK w (.lead op ws x) := by
  intro F inG hok pre p post h hpost hg
  simp only [Ex.toks] at h
  rcases split_cons h with ⟨h1, h2, h3⟩ | ⟨pre2, h1, h3⟩
  · subst h1 h2 h3
    refine ⟨.lead op (w :: ws) x, ⟨fun F inG hk => ?_, rfl, rfl, rfl⟩, by simp [Ex.toks]⟩
    simp_all [Ex.ok, triv_fill hw, triv_gfill hw]
  · subst h1
    rcases split_app h3 with ⟨post1, h4, h5⟩ | ⟨pre3, h4, h5⟩
    · subst h4 h5
      refine ⟨.lead op (pre2 ++ p :: w :: post1) x, ⟨fun F inG hk => ?_, rfl, rfl, rfl⟩, by simp [Ex.toks]⟩
      simp_all [Ex.ok, triv_fill hw, triv_gfill hw]
    · subst h4
      have hkx : x.ok F inG = true := by simp_all [Ex.ok, triv_fill hw, triv_gfill hw]
      obtain ⟨x', hl, ht⟩ := ihx F inG hkx pre3 p post h5 hpost hg
      refine ⟨.lead op ws x', ⟨fun F inG hk => ?_, by simp [Ex.garb, hl.2.1], rfl, rfl⟩, by simp [Ex.toks, ht]⟩
      have := hl.1 F inG
      have := hl.2.2.1
      simp_all [Ex.ok, triv_fill hw, triv_gfill hw]

theorem ex_insert : ∀ e : Ex, InsOK w e
  | .atom pre a => ins_atom hw pre a
  | .br pre o wsA e wsB c => ins_br hw pre o wsA e wsB c (ex_insert e)
  | .brT pre o wsA e ws1 t ws2 c => ins_brT hw pre o wsA e ws1 t ws2 c (ex_insert e)
  | .bin e ws1 op ws2 x => ins_bin hw e ws1 op ws2 x (ex_insert e) (ex_insert x)
  | .suf e s => ins_suf hw e s (ex_insert e)
  | .lst e ws x => ins_lst hw e ws x (ex_insert e) (ex_insert x)
  | .sep e ws1 t ws2 x => ins_sep hw e ws1 t ws2 x (ex_insert e) (ex_insert x)
  | .brC pre o wsA e ws1 k wsB c => ins_brC hw pre o wsA e ws1 k wsB c (ex_insert e)
  | .lead op ws x => ins_lead hw op ws x (ex_insert x)

end Garnish.Spec
