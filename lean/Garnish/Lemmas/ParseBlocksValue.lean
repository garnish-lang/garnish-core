/-
`refParseB` on `v [ body ]`, reference side: block-free segments of `refLoopB` are `refRun` (`refLoopB_segment`), a
successful `refLoop` has met no block token (`refLoop_ok_noblock`), the run over an expression of the fragment from a fresh
frame (`expr_run`, read off the fragment induction `ex_ok`), and the value of `refParseB` on the whole list
(`refParseB_value_block`).
-/
import Garnish.Lemmas.RefParseB
import Garnish.Lemmas.RefWrap3
import Garnish.Lemmas.ParserBBlock
import Garnish.Lemmas.Outcome

namespace Garnish.Spec
open Garnish Garnish.Gen Garnish.Model.Parser

theorem refLoopB_segment : ∀ (seg : List PToken) (s : BSt) (pos : Nat) (rest : List PToken), s.pend = none →
    (∀ t ∈ seg, noBlockTok t = true) →
    refLoopB Table.gen s pos (seg ++ rest) =
      Outcome.bind (refRun Table.gen s.f s.stack pos seg rest) fun p =>
        refLoopB Table.gen { s with f := p.1, stack := p.2 } (pos + seg.length) rest
  | [], s, pos, rest, hp, _ => by
    simp only [List.nil_append, refRun, Outcome.bind, List.length_nil, Nat.add_zero]
  | t :: seg, s, pos, rest, hp, h => by
    simp only [List.cons_append, refRun]
    rw [refLoopB]
    rw [refStepB_noblock (h t (List.mem_cons_self ..)) s hp]
    cases hs : refStep Table.gen s.f s.stack pos t (seg ++ rest) with
    | ok fs =>
      simp only [liftStep, Outcome.bind]
      rw [refLoopB_segment seg _ (pos + 1) rest rfl (fun x hx => h x (List.mem_cons_of_mem _ hx))]
      have : pos + 1 + seg.length = pos + (seg.length + 1) := by omega
      simp only [List.length_cons, this]
      rw [hp]; rfl
    | _ => rfl

theorem refStep_block_err {t : PToken} (h : noBlockTok t = false) (f : Frame) (S : List Frame) (pos : Nat)
    (rest : List PToken) : refStep Table.gen f S pos t rest = .err .unsupported := by
  unfold noBlockTok at h
  unfold refStep
  simp only [Bool.not_eq_false', Bool.or_eq_true, beq_iff_eq] at h
  rcases h with h | h <;> rw [h] <;> rfl

theorem refLoop_ok_noblock : ∀ (toks : List PToken) (f : Frame) (S : List Frame) (pos : Nat) (T : RTree),
    refLoop Table.gen f S pos toks = .ok T → ∀ t ∈ toks, noBlockTok t = true
  | [], _, _, _, _, _, t, ht => by cases ht
  | x :: toks, f, S, pos, T, h, t, ht => by
    unfold refLoop at h
    cases hx : noBlockTok x with
    | false => rw [refStep_block_err hx] at h; cases h
    | true =>
      rcases List.mem_cons.mp ht with e | e
      · rw [e]; exact hx
      · obtain ⟨⟨f1, S1⟩, _, h'⟩ := Outcome.bind_eq_ok.1 h
        exact refLoop_ok_noblock toks f1 S1 (pos + 1) T h' t e

theorem trivia_noblock {ws : List PToken} (h : ∀ w ∈ ws, isTriviaTok w = true) : ∀ w ∈ ws, noBlockTok w = true := by
  intro w hw
  have := h w hw
  unfold isTriviaTok at this
  unfold noBlockTok
  simp only [Bool.or_eq_true, beq_iff_eq] at this
  rcases this with (e | e) | e <;> rw [e] <;> rfl

theorem unB_shift (k : Nat) : ∀ t : RTree, unB (t.shift k) = (unB t).shift k
  | .nil => rfl
  | .node l d p r => by simp only [RTree.shift, unB, unB_shift k l, unB_shift k r]
  | .group d p i => by
    simp only [RTree.shift, unB]
    split <;> simp only [RTree.shift, unB_shift k i]

/-- **the run over an expression of the fragment from a fresh frame** (the body of a block, or the whole input): the frame
    afterwards holds the reference tree of the expression, shifted to where it stands -/
theorem expr_run {F : Fl} (body : Ex) (hok : body.ok F false = true) (p : Nat) (hnum : NumberedFrom p body.toks)
    (tb : RTree) (href : refParse Table.gen body.toks = .ok tb) (f0 : Frame) (h0c : f0.cur = .nil) (h0l : f0.last = .start)
    (h0g : f0.inGroup = false) (S : List Frame) (rest : List PToken) :
    ∃ g, refRun Table.gen f0 S p body.toks rest = .ok (g, S) ∧ g.cur = tb.shift p ∧ g.ctx = f0.ctx ∧
      (g.last = .operand ∨ g.last = .suffix) ∧ ∀ t ∈ body.toks, noBlockTok t = true := by
  obtain ⟨st1, E, re, cb, _, _, _, _, _, hL⟩ := ex_run body hok []
  have hR := hL p hnum
  have h1 : refLoop Table.gen Frame.top [] p (body.toks ++ []) = .ok (toRG (dfOf st1.nodes) E) := by
    rw [(hR Frame.top rfl rfl rfl).loop [] []]; unfold refLoop; cases body.endsSuffix <;> simp
  rw [List.append_nil] at h1
  have hnb := refLoop_ok_noblock _ _ _ _ _ h1
  rw [refLoop_top_shift, ← refParse_ex body hok, href] at h1
  simp only [Outcome.mapT, Outcome.ok.injEq] at h1
  exact ⟨_, hR f0 h0c h0l h0g S rest, h1.symm, rfl, by cases body.endsSuffix <;> simp, hnb⟩

theorem atom10_valueTok {v : PToken} (hv : isAtom10 v = true) : isValueTok v = true := by
  obtain ⟨hs, hq⟩ := atom10_facts hv
  unfold isValueTok
  rw [prio10_not_special hq]
  rcases hs with h | h <;> rw [h] <;> rfl

theorem atom10_noblock {v : PToken} (hv : isAtom10 v = true) : noBlockTok v = true := by
  rcases (atom10_facts hv).1 with h | h <;> exact (noBlock_sec v).2 (by rw [h]; exact ⟨nofun, nofun⟩)

theorem refStepB_open_value {o : PToken} (ho : o.type = .startSideEffect) (s : BSt) (hp : s.pend = none)
    (hl : s.f.last = .operand) (hb : bottomKind s.f.cur = 1) (pos : Nat) (rest : List PToken) :
    refStepB Table.gen s pos o rest =
      .ok { f := blockFrame pos, stack := s.f :: s.stack, modes := .valueRight :: s.modes, pend := none } := by
  unfold refStepB
  rw [ho]
  have : Table.gen.define TokenType.startSideEffect = (Definition.sideEffect, SecDef.startSideEffect) := rfl
  simp only [this, hp, hl, hb]
  rfl

theorem refStepB_close_value {c : PToken} (hc : c.type = .endSideEffect) (s : BSt) (gp : Nat) (parent : Frame)
    (st : List Frame) (ms : List BMode) (hctx : s.f.ctx = some (.sideEffect, gp)) (hst : s.stack = parent :: st)
    (hm : s.modes = .valueRight :: ms) (hp : s.pend = none) (hl : (s.f.last == .op || s.f.last == .sep) = false)
    (pos : Nat) (rest : List PToken) :
    refStepB Table.gen s pos c rest =
      .ok { f := { parent with cur := setBottomRight parent.cur (.group .sideEffect gp s.f.cur), last := .operand,
                               ws := false, prevSep := false },
            stack := st, modes := ms, pend := none } := by
  unfold refStepB
  rw [hc]
  have : Table.gen.define TokenType.endSideEffect = (Definition.drop, SecDef.endSideEffect) := rfl
  simp only [this, hctx, hst, hm, hp, hl]
  rfl

theorem stage_seg_run (s : BSt) (hp : s.pend = none) (seg : List PToken) (hnb : ∀ t ∈ seg, noBlockTok t = true) (pos : Nat)
    (rest : List PToken) (g : Frame) (S' : List Frame) (hrun : refRun Table.gen s.f s.stack pos seg rest = .ok (g, S')) :
    refLoopB Table.gen s pos (seg ++ rest) = refLoopB Table.gen { s with f := g, stack := S' } (pos + seg.length) rest := by
  rw [refLoopB_segment seg s pos rest hp hnb, hrun]
  rfl

/-- a trivia token, with or without a pending block: only the `ws` flag may change -/
theorem refStepB_trivia {w : PToken} (hw : isTriviaTok w = true) (s : BSt) (pos : Nat) (rest : List PToken) :
    ∃ b, refStepB Table.gen s pos w rest = .ok { s with f := { s.f with ws := b } } := by
  unfold isTriviaTok at hw
  simp only [Bool.or_eq_true, beq_iff_eq] at hw
  unfold refStepB
  rcases hw with (hw | hw) | hw
  · refine ⟨true, ?_⟩
    have : Table.gen.define w.type = (Definition.drop, SecDef.whitespace) := by rw [hw]; rfl
    simp only [this]
    rw [refStep_whitespace (by simp [isWsTok, hw])]
    cases hpd : s.pend <;> simp only [liftStep, hpd] <;> rw [← hpd]
  · refine ⟨s.f.ws, ?_⟩
    have : Table.gen.define w.type = (Definition.drop, SecDef.annotation) := by rw [hw]; rfl
    simp only [this]
    rw [refStep_annotation (by simp [isAnnTok, hw])]
    cases hpd : s.pend <;> simp only [liftStep, hpd] <;> rw [← hpd]
  · refine ⟨s.f.ws, ?_⟩
    have : Table.gen.define w.type = (Definition.drop, SecDef.annotation) := by rw [hw]; rfl
    simp only [this]
    rw [refStep_annotation (by simp [isAnnTok, hw])]
    cases hpd : s.pend <;> simp only [liftStep, hpd] <;> rw [← hpd]

theorem stage_triv : ∀ (ws : List PToken), (∀ w ∈ ws, isTriviaTok w = true) → ∀ (s : BSt) (pos : Nat) (rest : List PToken),
    ∃ b, refLoopB Table.gen s pos (ws ++ rest) =
      refLoopB Table.gen { s with f := { s.f with ws := b } } (pos + ws.length) rest
  | [], _, s, pos, rest => ⟨s.f.ws, rfl⟩
  | w :: ws, h, s, pos, rest => by
    obtain ⟨b, hb⟩ := refStepB_trivia (h w (List.mem_cons_self ..)) s pos (ws ++ rest)
    obtain ⟨b', hb'⟩ := stage_triv ws (fun x hx => h x (List.mem_cons_of_mem _ hx))
      { s with f := { s.f with ws := b } } (pos + 1) rest
    refine ⟨b', ?_⟩
    rw [List.cons_append, refLoopB, hb]
    simp only [Outcome.bind]
    rw [hb']
    have : pos + 1 + ws.length = pos + (ws.length + 1) := by omega
    simp only [List.length_cons, this]

theorem stage_tok (s s' : BSt) (pos : Nat) (t : PToken) (rest : List PToken) (h : refStepB Table.gen s pos t rest = .ok s') :
    refLoopB Table.gen s pos (t :: rest) = refLoopB Table.gen s' (pos + 1) rest := by
  rw [refLoopB, h]; rfl

theorem refParseB_notrim (toks : List PToken) (hne : toks ≠ []) (hh : isTrimmable (toks.head hne) = false)
    (hl : isTrimmable (toks.getLast hne) = false) : refParseB Table.gen toks = refLoopB Table.gen BSt.top 0 toks := by
  obtain ⟨_, hts, htr⟩ := trim_id _ hne hh hl
  unfold refParseB
  simp only [hts, htr]
  have hlen : ¬ (0 ≥ toks.length) := by
    have := List.length_pos_iff.mpr hne; omega
  simp only [List.drop_zero, Nat.sub_zero, List.take_length, hlen, if_false]

theorem refParseB_value_block {F : Fl} (v o c : PToken) (ws wsA wsB : List PToken) (body : Ex) (hv : isAtom10 v = true)
    (ho : o.type = .startSideEffect) (hc : c.type = .endSideEffect) (hbody : body.ok F false = true)
    (hws : ∀ w ∈ ws, isTriviaTok w = true) (hwA : ∀ w ∈ wsA, isTriviaTok w = true) (hwB : ∀ w ∈ wsB, isTriviaTok w = true)
    (hnum : NumberedFrom 0 (v :: (ws ++ (o :: (wsA ++ (body.toks ++ (wsB ++ [c])))))))
    (tb : RTree) (href : refParse Table.gen body.toks = .ok tb) :
    refParseB Table.gen (v :: (ws ++ (o :: (wsA ++ (body.toks ++ (wsB ++ [c])))))) =
      .ok (.node .nil (getDefinition v.type).1 0
        (.node .nil .sideEffect (1 + ws.length) (tb.shift (1 + ws.length + 1 + wsA.length)))) := by
  have hne : v :: (ws ++ (o :: (wsA ++ (body.toks ++ (wsB ++ [c]))))) ≠ [] := by simp
  have hhead : isTrimmable ((v :: (ws ++ (o :: (wsA ++ (body.toks ++ (wsB ++ [c])))))).head hne) = false := by
    simp only [List.head_cons]; exact atom10_not_trimmable hv
  have hlast : isTrimmable ((v :: (ws ++ (o :: (wsA ++ (body.toks ++ (wsB ++ [c])))))).getLast hne) = false := by
    have e : v :: (ws ++ (o :: (wsA ++ (body.toks ++ (wsB ++ [c]))))) =
        (v :: (ws ++ (o :: (wsA ++ (body.toks ++ wsB))))) ++ [c] := by simp
    rw [getLast_of_eq_append hne e]; simp only [isTrimmable, hc]; rfl
  have hnumB : NumberedFrom (1 + ws.length + 1 + wsA.length) body.toks := by
    have hnum1 : NumberedFrom (0 + 1) (ws ++ (o :: (wsA ++ (body.toks ++ (wsB ++ [c]))))) := hnum.2
    have hnum2 := numbered_append ws _ _ hnum1
    have hnum3 := numbered_append wsA _ _ hnum2.2
    have := numbered_prefix body.toks _ _ hnum3
    rw [Nat.zero_add] at this; exact this
  rw [refParseB_notrim _ hne hhead hlast]
  let f1 : Frame := { ctx := none, cur := .node .nil (getDefinition v.type).1 0 .nil, last := .operand, ws := false,
                      prevSep := false }
  let s1 : BSt := { f := f1, stack := [], modes := [], pend := none }
  have e1 : refLoopB Table.gen BSt.top 0 (v :: (ws ++ (o :: (wsA ++ (body.toks ++ (wsB ++ [c])))))) =
      refLoopB Table.gen s1 1 (ws ++ (o :: (wsA ++ (body.toks ++ (wsB ++ [c]))))) := by
    apply stage_tok
    rw [refStepB_noblock (atom10_noblock hv) BSt.top rfl, refStep_value (atom10_valueTok hv)]
    rfl
  obtain ⟨b1, e2⟩ := stage_triv ws hws s1 1 (o :: (wsA ++ (body.toks ++ (wsB ++ [c]))))
  let s2 : BSt := { s1 with f := { f1 with ws := b1 } }
  let s3 : BSt := { f := blockFrame (1 + ws.length), stack := [{ f1 with ws := b1 }], modes := [.valueRight], pend := none }
  have e3 : refLoopB Table.gen s2 (1 + ws.length) (o :: (wsA ++ (body.toks ++ (wsB ++ [c])))) =
      refLoopB Table.gen s3 (1 + ws.length + 1) (wsA ++ (body.toks ++ (wsB ++ [c]))) :=
    stage_tok s2 s3 _ o _ (refStepB_open_value ho s2 rfl rfl rfl _ _)
  obtain ⟨b2, e4⟩ := stage_triv wsA hwA s3 (1 + ws.length + 1) (body.toks ++ (wsB ++ [c]))
  let s4 : BSt := { s3 with f := { blockFrame (1 + ws.length) with ws := b2 } }
  obtain ⟨g, hrun, hgcur, hgctx, hglast, hnb⟩ := expr_run body hbody (1 + ws.length + 1 + wsA.length) hnumB tb href
    { blockFrame (1 + ws.length) with ws := b2 } rfl rfl rfl [{ f1 with ws := b1 }] (wsB ++ [c])
  have e5 := stage_seg_run s4 rfl body.toks hnb (1 + ws.length + 1 + wsA.length) (wsB ++ [c]) g _ hrun
  let s5 : BSt := { s4 with f := g, stack := [{ f1 with ws := b1 }] }
  obtain ⟨b3, e6⟩ := stage_triv wsB hwB s5 (1 + ws.length + 1 + wsA.length + body.toks.length) [c]
  let s6 : BSt := { s5 with f := { g with ws := b3 } }
  have e7 := stage_tok s6 _ (1 + ws.length + 1 + wsA.length + body.toks.length + wsB.length) c []
    (refStepB_close_value hc s6 (1 + ws.length) { f1 with ws := b1 } [] [] hgctx rfl rfl rfl
      (by rcases hglast with h | h <;> (show (g.last == _ || g.last == _) = false; rw [h]; rfl)) _ _)
  rw [e1, e2, e3, e4, e5, e6, e7]
  have hunb : unB tb = tb := unB_id hnb tb (refParse_nodes body.toks tb href)
  simp only [refLoopB, List.isEmpty_nil, Bool.not_true, Bool.false_eq_true, if_false, f1, setBottomRight,
    RTree.isNil, if_true, unB]
  have hcur : unB s6.f.cur = tb.shift (1 + ws.length + 1 + wsA.length) := by
    show unB g.cur = _
    rw [hgcur, unB_shift, hunb]
  rw [hcur]
  rfl

end Garnish.Spec
