/-
Refinement lemmas for resolve.rs: the key is looked up in the current input value, then in the context (the host).
`resolve_spec` is stated over what the look-up `get_access_addr` established (`AccOutI`), whichever lemma gave it.
-/
import Garnish.Lemmas.RuntimeAccessHandler
namespace Garnish.Lemmas.Runtime.Core
open Garnish Gen Garnish.Abs Garnish.Model.Equality Garnish.Model.Runtime Garnish.Lemmas.Runtime Garnish.Lemmas.Runtime.On

variable {F σ : Type} {S : RStore F σ} {Inv : σ → Prop} {Rd : σ → Nat → Prop} {K : Prop} (fo : FloatOps F)

/-- the second half of `resolve` from a state that kept everything of `s` -/
theorem resolveContext_spec (L : LawsK S Inv Rd K) {s s0 : σ} {data : Nat} {key : Val F}
    (e0 : EffI S Inv s s0 (S.regs s) (S.vals s)) (hk : Decodes (S.view s0) data key) :
    ResolveContextI S Inv s (resolveContext S data s0) none key := by
  refine ⟨s0, e0, ?_⟩
  rw [resolveContext, bind_ok (getDataType_of hk)]
  cases key
  case sym sy =>
    simp only [Val.typeOf]
    rw [bind_apply, bind_ok (getSymbol_of hk)]
    unfold ResolveProtocolI
    cases hr : S.resolve sy s0 with
    | ok p =>
      obtain ⟨b, s1⟩ := p
      cases b with
      | true => rfl
      | false =>
        simp only [Bool.false_eq_true, if_false]
        intro hi1
        obtain ⟨a, s2, h2, d2, e2⟩ := pushUnit_spec L s1
        exact ⟨a, s2, by rw [bind_ok h2]; rfl, d2, e2⟩
    | err e => rfl
    | panic p => rfl
    | fuelOut => rfl
  all_goals
    simp only [Val.typeOf]
    obtain ⟨a, s2, h2, d2, e2⟩ := pushUnit_spec L s0
    exact ⟨a, s2, by rw [bind_ok (pure_apply false s0)]; simp only [Bool.false_eq_true, if_false]; rw [bind_ok h2]; rfl, d2, e2⟩

theorem resolve_no_input_spec (L : LawsK S Inv Rd K) (fuel : Nat) {s : σ} {data : Nat} {key : Val F}
    (hv : S.vals s = []) (hk : Decodes (S.view s) data key) (hinv : Inv s := by inv_tac) :
    ResolveContextI S Inv s (Model.Runtime.resolve fo S fuel data s) none key := by
  have hg : getCurrentValue S s = .ok (none, s) := by
    show Outcome.ok ((S.vals s).head?, s) = _
    rw [hv]; rfl
  rw [Model.Runtime.resolve, bind_ok hg]
  exact resolveContext_spec L (EffI.refl s hinv) hk

/-- `resolve` with an input value `cur` at `c`, given the outcome `ha` of the look-up of the key in it -/
theorem resolve_spec (L : LawsK S Inv Rd K) (fuel : Nat) {s : σ} {data c : Nat} {vs : List Nat} {key cur : Val F}
    (hv : S.vals s = c :: vs) (hk : Decodes (S.view s) data key)
    (ha : AccOutI S Inv s (getAccessAddr fo S fuel data c s) (getAccess fo key cur))
    (hres : ∀ v, getAccess fo key cur = .some v → K → v ≠ .custom) (hinv : Inv s := by inv_tac) :
    match getAccess fo key cur with
    | .some v => PushedI S Inv s (Model.Runtime.resolve fo S fuel data s) none (S.regs s) v
    | .none => ResolveContextI S Inv s (Model.Runtime.resolve fo S fuel data s) none key
    | .unsupported => ResolveContextI S Inv s (Model.Runtime.resolve fo S fuel data s) none key
    | .err e => e ≠ .unsupported → Model.Runtime.resolve fo S fuel data s = .err e := by
  have hg : getCurrentValue S s = .ok (some c, s) := by
    show Outcome.ok ((S.vals s).head?, s) = _
    rw [hv]; rfl
  rw [Model.Runtime.resolve, bind_ok hg]
  simp only []
  cases hga : getAccess fo key cur with
  | some v =>
    rw [hga] at ha
    obtain ⟨x, s1, h1, d1, e1⟩ := ha
    obtain ⟨s2, h2, e2⟩ := pushReg L d1 (hres v hga)
    rw [e1.regs, e1.vals] at e2
    simp only [h1]
    exact ⟨x, s2, by rw [bind_ok h2]; rfl, e2.dec d1, e1.trans e2⟩
  | none =>
    rw [hga] at ha
    obtain ⟨s1, h1, e1⟩ := ha
    simp only [h1]
    exact resolveContext_spec L e1 (e1.dec hk)
  | unsupported =>
    rw [hga] at ha
    simp only [AccOutI] at ha
    simp only [ha, beq_self_eq_true, if_true]
    exact resolveContext_spec L (EffI.refl s hinv) hk
  | err e =>
    rw [hga] at ha
    simp only [AccOutI] at ha
    intro hne
    have : (e == ErrClass.unsupported) = false := by simpa using hne
    simp only [ha, this, Bool.false_eq_true, if_false]

end Garnish.Lemmas.Runtime.Core
