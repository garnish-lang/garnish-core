/-
Lexing of SPELLED literals, part 5 (C14, lexer side): the spelling functions of Spec/Spell.lean (`spellNumber`,
`quoteCharList`, `quoteByteList`, `spellBytesNumeric`) are `TokSpelling`s, and the Rust character tables satisfy
`CharClass.Lit` (`rustTables_lit`).
-/
import Garnish.Lemmas.LexSpell4
import Garnish.Lemmas.Literals
namespace Garnish.Model.Lexer
open Garnish.Model Garnish.Model.Parser Garnish.Spec Garnish.Spec.Spell Garnish.Lemmas.Literals

theorem mem_insertSepsFrom (seps : List Nat) : ∀ (ds : List Char) (i : Nat) (x : Char),
    x ∈ insertSepsFrom seps i ds → x = '_' ∨ x ∈ ds
  | [], i, x, h => by simp [insertSepsFrom] at h
  | d :: ds, i, x, h => by
    simp only [insertSepsFrom, List.mem_cons, List.mem_append, List.mem_replicate] at h
    rcases h with h | h | h
    · exact Or.inr (by simp [h])
    · exact Or.inl h.2
    · rcases mem_insertSepsFrom seps ds (i + 1) x h with h | h
      · exact Or.inl h
      · exact Or.inr (by simp [h])

theorem spellNumber_shape (r n : Nat) (seps : List Nat) (hr2 : 2 ≤ r) (hr36 : r ≤ 36) :
    ∃ d rest, d < 10 ∧ spellNumber r n seps = digitChar d :: rest ∧
      ∀ x ∈ rest, x = '_' ∨ ∃ e, e < 36 ∧ x = digitChar e := by
  have hdig : ∀ (R : Nat), 0 < R → R ≤ 36 → ∀ m, ∀ c ∈ spellNat R m, ∃ e, e < 36 ∧ c = digitChar e := fun R h0 h36 m =>
    spellNat_chars R m h0 (fun c => ∃ e, e < 36 ∧ c = digitChar e) (fun e he => ⟨e, by omega, rfl⟩)
  unfold spellNumber
  split
  · rename_i h10
    obtain ⟨d, ds, hd, e⟩ := spellNat_eq_cons 10 n (by omega)
    refine ⟨d, _, hd, by rw [e]; rfl, ?_⟩
    intro x hx
    simp only [List.mem_append, List.mem_replicate] at hx
    rcases hx with hx | hx
    · exact Or.inl hx.2
    · rcases mem_insertSepsFrom seps ds _ x hx with h | h
      · exact Or.inl h
      · exact Or.inr (hdig 10 (by omega) (by omega) n x (by rw [e]; simp [h]))
  · refine ⟨0, _, by omega, rfl, ?_⟩
    intro x hx
    simp only [List.mem_append, List.mem_cons] at hx
    rcases hx with hx | hx | hx
    · exact Or.inr (hdig 10 (by omega) (by omega) r x hx)
    · exact Or.inl hx
    · rcases mem_insertSepsFrom seps _ _ x hx with h | h
      · exact Or.inl h
      · exact Or.inr (hdig r (by omega) hr36 n x h)

theorem tokSpelling_spellNumber (cc : CharClass) (hcc : cc.Lit) (r n : Nat) (seps : List Nat) (hr2 : 2 ≤ r)
    (hr36 : r ≤ 36) : TokSpelling cc (spellNumber r n seps) .number := by
  obtain ⟨d, rest, hd, e, hrest⟩ := spellNumber_shape r n seps hr2 hr36
  rw [e]
  refine tokSpelling_number cc hcc d hd rest ?_
  intro x hx
  rcases hrest x hx with h | ⟨k, hk, h⟩
  · subst h; simp
  · subst h
    have := hcc.digitA k hk
    cases h1 : cc.isNumeric (digitChar k) <;> simp_all

theorem tokSpelling_quoteCharList (cc : CharClass) (hcc : cc.Lit) (q : Nat) (body : List Char) (hq1 : 1 ≤ q) (hq2 : q ≠ 2)
    (hbody : '"' ∉ body) (hnon : body ≠ [] ∨ q = 1) : TokSpelling cc (quoteCharList q body) .charList := by
  obtain ⟨k, rfl⟩ : ∃ k, q = k + 1 := ⟨q - 1, by omega⟩
  unfold quoteCharList
  exact tokSpelling_quoted cc '"' .startCharList .charList .charList hcc.toSane (by unfold IsBlank; decide) (by decide)
    (by decide) (starts_quote cc hcc) (by decide) (by decide)
    (fun σ cs p0 p sq eq h => h.cont (.sclQuote h.state rfl) h.state h.type (congrArg (· ++ ['"']) h.chars) h.sq h.eq)
    (fun σ x cs p0 p sq eq h hx hl => h.cont (.sclBody h.state (by simpa using hx) (by rw [h.chars]; simpa using hl)
        (not_sentinel h.atEnd)) rfl h.type (congrArg (· ++ [x]) h.chars) (congrArg utf8Len h.chars) h.eq)
    (fun σ x cs p0 p sq eq h hx => h.cont (.clBody h.state (by simpa using hx)) h.state h.type (congrArg (· ++ [x]) h.chars)
        h.sq rfl)
    (fun σ cs p0 p sq eq h hne => h.cont (.clQuote h.state rfl (by rw [h.sq, h.eq]; simpa using hne)) h.state h.type
        (congrArg (· ++ ['"']) h.chars) h.sq (congrArg (· + 1) h.eq))
    (fun σ cs p0 p sq eq h he => close_charList cc σ h he (by decide))
    (ending_emptyCharList cc hcc.toSaneBlank .charList) k body hbody (by omega) (by rcases hnon with h | h; exact Or.inl h; exact Or.inr (by omega))

theorem tokSpelling_quoteByteList (cc : CharClass) (hcc : cc.Lit) (q : Nat) (body : List Char) (hq1 : 1 ≤ q) (hq2 : q ≠ 2)
    (hbody : '\'' ∉ body) (hnon : body ≠ [] ∨ q = 1) : TokSpelling cc (quoteByteList q body) .byteList := by
  obtain ⟨k, rfl⟩ : ∃ k, q = k + 1 := ⟨q - 1, by omega⟩
  unfold quoteByteList
  exact tokSpelling_quoted cc '\'' .startByteList .byteList .byteList hcc.toSane (by unfold IsBlank; decide) (by decide)
    (by decide) (starts_apos cc hcc) (by decide) (by decide)
    (fun σ cs p0 p sq eq h => h.cont (.sblQuote h.state rfl) h.state h.type (congrArg (· ++ ['\'']) h.chars) h.sq h.eq)
    (fun σ x cs p0 p sq eq h hx hl => h.cont (.sblBody h.state (by simpa using hx) (by rw [h.chars]; simpa using hl)
        (not_sentinel h.atEnd)) rfl h.type (congrArg (· ++ [x]) h.chars) (congrArg utf8Len h.chars) h.eq)
    (fun σ x cs p0 p sq eq h hx => h.cont (.blBody h.state (by simpa using hx)) h.state h.type (congrArg (· ++ [x]) h.chars)
        h.sq rfl)
    (fun σ cs p0 p sq eq h hne => h.cont (.blQuote h.state rfl (by rw [h.sq, h.eq]; simpa using hne)) h.state h.type
        (congrArg (· ++ ['\'']) h.chars) h.sq (congrArg (· + 1) h.eq))
    (fun σ cs p0 p sq eq h he => close_byteList cc σ h he (by decide))
    (ending_emptyByteList cc hcc.toSaneBlank .byteList) k body hbody (by omega) (by rcases hnon with h | h; exact Or.inl h; exact Or.inr (by omega))

theorem tokSpelling_escapeCharsU (cc : CharClass) (hcc : cc.Lit) (q : Nat) (cs : List Char) (hq1 : 1 ≤ q) (hq2 : q ≠ 2)
    (hnon : cs ≠ [] ∨ q = 1) : TokSpelling cc (quoteCharList q (escapeCharsU q cs)) .charList := by
  refine tokSpelling_quoteCharList cc hcc q _ hq1 hq2 (escapeCharsU_no_quote q cs) ?_
  rcases hnon with h | h
  · left
    cases cs with
    | nil => exact absurd rfl h
    | cons c r =>
      have hc : escapeCharU q c ≠ [] := by
        unfold escapeCharU escapeUnicode escapeChar
        repeat' split
        all_goals simp
      intro e
      simp only [escapeCharsU, List.flatMap_cons, List.append_eq_nil_iff] at e
      exact hc e.1
  · exact Or.inr h

theorem joinSpaces_ne_nil : ∀ (l : List (List Char)), l ≠ [] → (∀ w ∈ l, w ≠ []) → joinSpaces l ≠ []
  | [], h, _ => absurd rfl h
  | [w], _, hw => by simpa [joinSpaces] using hw w (by simp)
  | w :: y :: rest, _, hw => by simp [joinSpaces]

theorem apos_not_digit : ∀ d, d < 36 → digitChar d ≠ '\'' := by decide

theorem tokSpelling_spellBytesNumeric (cc : CharClass) (hcc : cc.Lit) (q : Nat) (bs : List Nat) (hq1 : 1 ≤ q) (hq2 : q ≠ 2)
    (hnon : bs ≠ [] ∨ q = 1) : TokSpelling cc (spellBytesNumeric q bs) .byteList := by
  unfold spellBytesNumeric spellBytesNumericWith
  refine tokSpelling_quoteByteList cc hcc q _ hq1 hq2 ?_ ?_
  · intro hm
    rcases Garnish.Lemmas.Literals.joinSpaces_mem _ _ hm with h | ⟨w, hw, hx⟩
    · exact absurd h (by decide)
    · obtain ⟨b, _, rfl⟩ := List.mem_map.mp hw
      obtain ⟨e, he, hc⟩ := spellNat_chars 10 b (by omega) (fun c => ∃ e, e < 36 ∧ c = digitChar e)
        (fun e he => ⟨e, by omega, rfl⟩) _ hx
      exact apos_not_digit e he hc.symm
  · rcases hnon with h | h
    · left
      refine joinSpaces_ne_nil _ (by simpa using h) ?_
      intro w hw
      obtain ⟨b, _, rfl⟩ := List.mem_map.mp hw
      exact spellNat_ne_nil 10 b
    · exact Or.inr h

theorem rustTables_lit : rustTables.Lit :=
  { rustTables_sane2.toSane with
    spaceA := by decide +kernel
    tabA := by decide +kernel
    spaceN := by decide +kernel
    tabN := by decide +kernel
    digitN := by decide +kernel
    digitA := by decide +kernel
    quoteN := by decide +kernel
    quoteA := by decide +kernel
    aposN := by decide +kernel
    aposA := by decide +kernel
    colonN := by decide +kernel }

end Garnish.Model.Lexer
