/-
The tie between the two builder models: the work-list loop of `build`, step by step (`Steps`), the simulation statement
(`SimT` / `SimF`, with `Pre` before and `Done` after a subtree; `SimAt`: with the position of the node, the form in which the
lemmas of the constructs take and give it), the two visits of a node with what the first one leaves
(`Opened`), and the value nodes.  What a handler does is read off its plan (the plan functions of Lemmas/BuildPlan.lean, through
`first_visit_plan` and `emit_visit_plan`); no handler is unfolded here.
-/
import Garnish.Lemmas.CompileTree
import Garnish.Lemmas.CompileLayout
import Garnish.Lemmas.BuildPlan

/-! `Steps crj k A B` — `k` iterations of the inner loop of `build` take the context `A` to `B`, whatever fuel is left. -/

namespace Garnish.Abs.Tree
open Garnish Garnish.Gen Garnish.Spec Garnish.Abs Garnish.Model.Parser Garnish.Model.Literals Garnish.Model.Build

variable {F : Type} (pf : List Char → Option F) (tree : Array ParseNode)

def Steps (crj k : Nat) (A B : Ctx F) : Prop :=
  ∀ n, innerLoop pf tree crj (n + k) A = innerLoop pf tree crj n B

variable {pf tree}

theorem Steps.refl (crj : Nat) (A : Ctx F) : Steps pf tree crj 0 A A := fun _ => rfl

theorem Steps.trans {crj k1 k2 : Nat} {A B C : Ctx F} (h1 : Steps pf tree crj k1 A B) (h2 : Steps pf tree crj k2 B C) :
    Steps pf tree crj (k1 + k2) A C := by
  intro n
  have : n + (k1 + k2) = (n + k2) + k1 := by omega
  rw [this, h1, h2]

theorem Steps.cast {crj k k' : Nat} {A B : Ctx F} (h : Steps pf tree crj k A B) (e : k = k') : Steps pf tree crj k' A B := e ▸ h

theorem Steps.one {crj i : Nat} {pn : ParseNode} {data : BState F} {nodes : Nodes} {RS S : Array Nat} {ctx1 : Ctx F}
    {nodes2 : Nodes} (hpn : tree[i]? = some pn)
    (hh : handleParseNode pf ⟨data, nodes, RS, S⟩ crj i pn = .ok ctx1) (ha : afterHandle ctx1.nodes i = .ok nodes2) :
    Steps pf tree crj 1 ⟨data, nodes, RS, S.push i⟩ { ctx1 with nodes := nodes2 } := by
  intro n
  simp only [innerLoop, Array.back?_push, Array.pop_push, hpn, hh, ha, Outcome.bind]

/-! ### the entry a parent writes for a child it schedules inline -/

/-- the fields a parent may set besides the list parent: the conditional parent, and — for a node that starts a root — the jump entry to
patch and the terminators -/
structure Ex where
  cond : Option Nat
  jump : Option Nat
  ends : Option (List Instr)

def Ex.ofCond (c : Option Nat) : Ex := ⟨c, none, none⟩
abbrev Ex.none : Ex := Ex.ofCond Option.none

def mkNode (i cur : Nat) (lp : Option (Nat × Definition)) (cp : Ex) : BuildNode :=
  { BuildNode.new i cur with listParent := lp, conditionalParent := cp.cond, jumpIndexToUpdate := cp.jump,
                             rootEndInstruction := cp.ends }

theorem mkNode_new (i cur : Nat) : BuildNode.new i cur = mkNode i cur none Ex.none := rfl
theorem mkNode_list (i cur p : Nat) (d : Definition) : BuildNode.newWithList i cur p d = mkNode i cur (some (p, d)) Ex.none := rfl
theorem mkNode_cond (i cur c : Nat) : BuildNode.newWithConditional i cur c = mkNode i cur none (Ex.ofCond (some c)) := rfl
theorem mkNode_jumpEnd (i cur j : Nat) (e : List Instr) :
    BuildNode.newWithJumpAndEnd i cur j e = mkNode i cur none ⟨none, some j, some e⟩ := rfl
theorem mkNode_jump (i cur j : Nat) : BuildNode.newWithJump i cur j = mkNode i cur none ⟨none, some j, none⟩ := rfl

/-- the node after its first visit (before `afterHandle`) -/
def visited (b : BuildNode) : BuildNode := { b with state := .initialized }

/-- `afterHandle` after the first visit of a node that was scheduled by `mkNode`: counted once for its list parent -/
def counted (nodes : Nodes) (i : Nat) (b : BuildNode) (lp : Option (Nat × Definition)) (pbn : BuildNode) : Nodes :=
  match lp with
  | none => nodes
  | some (par, _) => putNode (putNode nodes i { b with contributesToList := false }) par { pbn with childCount := pbn.childCount + 1 }

theorem afterHandle_counted {nodes : Nodes} {i : Nat} {b pbn : BuildNode} {lp : Option (Nat × Definition)}
    (hb : nodes[i]? = some (some b)) (hc : b.contributesToList = true) (hl : b.listParent = lp)
    (hp : ∀ par d, lp = some (par, d) → par ≠ i ∧ nodes[par]? = some (some pbn)) :
    afterHandle nodes i = .ok (counted nodes i b lp pbn) := by
  unfold afterHandle counted
  rw [hb]
  simp only [hc, if_true, hl]
  cases lp with
  | none => rfl
  | some pd =>
    obtain ⟨par, d⟩ := pd
    obtain ⟨hne, hpar⟩ := hp par d rfl
    have hlt : i < nodes.size := by
      rcases Nat.lt_or_ge i nodes.size with h | h
      · exact h
      · rw [Array.getElem?_eq_none h] at hb; cases hb
    simp only [getNode, putNode, Array.getElem?_setIfInBounds, Ne.symm hne, if_false, hpar, Outcome.bind]

theorem afterHandle_id {nodes : Nodes} {i : Nat} {b : BuildNode} (hb : nodes[i]? = some (some b))
    (h : b.contributesToList = false ∨ b.listParent = none) : afterHandle nodes i = .ok nodes := by
  unfold afterHandle
  rw [hb]
  rcases h with h | h
  · simp [h]
  · by_cases hc : b.contributesToList = true
    · simp [hc, h]
    · simp [hc]

end Garnish.Abs.Tree

namespace Garnish.Abs.Tree
open Garnish Garnish.Gen Garnish.Spec Garnish.Abs Garnish.Model.Parser Garnish.Model.Literals Garnish.Model.Build

variable {F : Type}

/-- the data object of `build` holds what the state of the structured compiler holds -/
structure DataEq (data : BState F) (s : LState F) : Prop where
  instrs : data.instrs = s.instrs
  jumps : data.jumps = s.jumps
  consts : data.consts = s.consts

theorem DataEq.push {data : BState F} {s : LState F} (h : DataEq data s) (i : Instruction) (d m : Option Nat) :
    DataEq (pushInstr data i d m) (s.push i d) :=
  ⟨by simp [pushInstr, LState.push, h.instrs], h.jumps, h.consts⟩

theorem DataEq.pushConst {data : BState F} {s : LState F} (h : DataEq data s) (i : Instruction) (v : Val F) (m : Option Nat) :
    DataEq (pushInstr (addConst data v).1 i (some (addConst data v).2) m) (s.pushConst i v) :=
  ⟨by simp [pushInstr, addConst, LState.pushConst, h.instrs, h.consts], h.jumps, by simp [pushInstr, addConst, LState.pushConst, h.consts]⟩

theorem DataEq.pushJump {data : BState F} {s : LState F} (h : DataEq data s) (t : Nat) :
    DataEq (pushToJumpTable data t) (s.pushJump t) :=
  ⟨h.instrs, by simp [pushToJumpTable, LState.pushJump, h.jumps], h.consts⟩

/-- a root that `build` has put on its root stack: node index, the interval of its subtree, the root of `compile` -/
structure RRec (F : Type) where
  idx : Nat
  lo : Nat
  hi : Nat
  root : Root F

/-- the build node of a pending root -/
def bnOfRoot (r : Nat) (R : Root F) : BuildNode :=
  match R.kind with
  | .code _ => BuildNode.newWithJumpAndEnd r R.containing R.patch R.term
  | .ref _ => BuildNode.newWithJump r R.patch R.patch

variable (pf : List Char → Option F) (tree : Array ParseNode) (bodies : List (Nat × Expr F))

/-- the subtree of a pending root represents the root's expression -/
def RepRoot (q : RRec F) : Prop :=
  match q.root.kind with
  | .code t => Rep pf tree bodies q.lo q.hi q.idx t
  | .ref id => ∃ b, lookupBody bodies id = some b ∧ Rep pf tree bodies q.lo q.hi q.idx b ∧
      q.root.containing = q.root.patch ∧ q.root.term = [(.endExpression, none)]

/-- twice the number of nodes in the subtrees of the pending roots (what the work-list loop will still need for them) -/
def wsum (R : List (RRec F)) : Nat := (R.map (fun q => 2 * (q.hi - q.lo))).sum

@[simp] theorem wsum_nil : wsum ([] : List (RRec F)) = 0 := rfl
@[simp] theorem wsum_cons (q : RRec F) (R : List (RRec F)) : wsum (q :: R) = 2 * (q.hi - q.lo) + wsum R := by simp [wsum]
@[simp] theorem wsum_append (R1 R2 : List (RRec F)) : wsum (R1 ++ R2) = wsum R1 + wsum R2 := by simp [wsum]

/-- what is known before node `i` (scheduled by its parent with `mkNode`) is popped -/
structure Pre (nodes : Nodes) (lo hi i cur : Nat) (lp : Option (Nat × Definition)) (cp : Ex) (pbn : BuildNode) : Prop where
  size : nodes.size = tree.size
  node : nodes[i]? = some (some (mkNode i cur lp cp))
  par : ∀ par d, lp = some (par, d) → (par < lo ∨ hi ≤ par) ∧ nodes[par]? = some (some pbn) ∧ NotDef tree i d
  cond : (∃ c, cp.cond = some c) → NotCond tree i

/-- what is known after the nodes `In` (a subtree, or several) have been worked off; `n` of them have counted themselves at the
list parent `lp`, whose entry was `pbn` -/
structure Done (In : Nat → Prop) (lp : Option (Nat × Definition)) (pbn : BuildNode) (n : Nat) (nodes nodes' : Nodes) (newR : List (RRec F)) : Prop where
  size : nodes'.size = nodes.size
  frame : ∀ x, ¬ In x → (∀ par d, lp = some (par, d) → x ≠ par) → nodes'[x]? = nodes[x]?
  parent : ∀ par d, lp = some (par, d) → nodes'[par]? = some (some { pbn with childCount := pbn.childCount + n })
  roots : ∀ q ∈ newR, (∀ x, q.lo ≤ x → x < q.hi → In x) ∧ q.lo ≤ q.idx ∧ q.idx < q.hi ∧
    nodes'[q.idx]? = some (some (bnOfRoot q.idx q.root)) ∧ RepRoot pf tree bodies q
  cover : ∀ x, In x → (∃ b, nodes'[x]? = some (some b)) ∨ ∃ q ∈ newR, q.lo ≤ x ∧ x < q.hi
  disj : newR.Pairwise (fun a b => a.hi ≤ b.lo ∨ b.hi ≤ a.lo)

/-- the indices of a subtree -/
def Ival (lo hi : Nat) : Nat → Prop := fun x => lo ≤ x ∧ x < hi

/-- **the simulation statement** for the subtree of node `i` representing `e` -/
def SimT (lo hi i : Nat) (e : Expr F) : Prop :=
  ∀ (crj root cur : Nat) (data : BState F) (nodes : Nodes) (RS S : Array Nat) (s : LState F)
    (lp : Option (Nat × Definition)) (cp : Ex) (pbn : BuildNode),
    Pre tree nodes lo hi i cur lp cp pbn → DataEq data s → cur < s.jumps.size →
    ∃ (k : Nat) (data' : BState F) (nodes' : Nodes) (RS' : Array Nat) (newR : List (RRec F)),
      Steps pf tree crj k ⟨data, nodes, RS, S.push i⟩ ⟨data', nodes', RS', S⟩ ∧ k + wsum newR ≤ 2 * (hi - lo) ∧
      DataEq data' (emit root cur e s) ∧
      RS'.toList = RS.toList ++ (newR.map (·.idx)).reverse ∧
      (emit root cur e s).pending = newR.map (·.root) ++ s.pending ∧
      Done pf tree bodies (Ival lo hi) lp pbn 1 nodes nodes' newR ∧
      ∃ b, nodes'[i]? = some (some b) ∧ b.rootEndInstruction = cp.ends

/-- the same for a subtree that is not an expression of its own (the `SideEffect` node with its body): `g root cur` is what it
appends to the layout state.  `SimT … e` is `SimF … (fun root cur s => emit root cur e s)` by `rfl`, and the lemmas of the
constructs pass from one to the other without saying so -/
def SimF (lo hi i : Nat) (g : Nat → Nat → LState F → LState F) : Prop :=
  ∀ (crj root cur : Nat) (data : BState F) (nodes : Nodes) (RS S : Array Nat) (s : LState F)
    (lp : Option (Nat × Definition)) (cp : Ex) (pbn : BuildNode),
    Pre tree nodes lo hi i cur lp cp pbn → DataEq data s → cur < s.jumps.size →
    ∃ (k : Nat) (data' : BState F) (nodes' : Nodes) (RS' : Array Nat) (newR : List (RRec F)),
      Steps pf tree crj k ⟨data, nodes, RS, S.push i⟩ ⟨data', nodes', RS', S⟩ ∧ k + wsum newR ≤ 2 * (hi - lo) ∧
      DataEq data' (g root cur s) ∧
      RS'.toList = RS.toList ++ (newR.map (·.idx)).reverse ∧
      (g root cur s).pending = newR.map (·.root) ++ s.pending ∧
      Done pf tree bodies (Ival lo hi) lp pbn 1 nodes nodes' newR ∧
      ∃ b, nodes'[i]? = some (some b) ∧ b.rootEndInstruction = cp.ends

def Within (tree : Array ParseNode) (lo hi i : Nat) : Prop := (lo ≤ i ∧ i < hi) ∧ i < tree.size

/-- **the simulation statement at its place**: with the position of the node, which every step needs of its children -/
def SimAt (lo hi i : Nat) (e : Expr F) : Prop := Within tree lo hi i ∧ SimT pf tree bodies lo hi i e

variable {pf tree bodies}

theorem Within.leaf {i : Nat} {pn : ParseNode} (h : tree[i]? = some pn) : Within tree i (i + 1) i :=
  ⟨⟨Nat.le_refl _, Nat.lt_succ_self _⟩, lt_of_getElem? h⟩

theorem Within.right {i k hi r : Nat} {pn : ParseNode} (h : tree[i]? = some pn) (b : Within tree (i + 1 + k) hi r) :
    Within tree i hi i := by
  have := b.1.1; have := b.1.2; exact ⟨⟨Nat.le_refl _, by omega⟩, lt_of_getElem? h⟩

theorem Within.both {lo hi i l r : Nat} {pn : ParseNode} (h : tree[i]? = some pn) (b1 : Within tree lo i l)
    (b2 : Within tree (i + 1) hi r) : Within tree lo hi i := by
  have := b1.1.1; have := b1.1.2; have := b2.1.1; have := b2.1.2
  exact ⟨⟨by omega, by omega⟩, lt_of_getElem? h⟩

theorem get_putNode_same {nodes : Nodes} {i : Nat} (h : i < nodes.size) (b : BuildNode) : (putNode nodes i b)[i]? = some (some b) := by
  simp [putNode, Array.getElem?_setIfInBounds, h]

theorem get_putNode_ne {nodes : Nodes} {i x : Nat} (h : i ≠ x) (b : BuildNode) : (putNode nodes i b)[x]? = nodes[x]? := by
  simp [putNode, Array.getElem?_setIfInBounds, h]

attribute [simp] Lemmas.BuildTotal.size_putNode

theorem Done.cong {In In' : Nat → Prop} {lp : Option (Nat × Definition)} {pbn : BuildNode} {n : Nat} {A B : Nodes} {R : List (RRec F)}
    (h : Done pf tree bodies In lp pbn n A B R) (e : ∀ x, In x ↔ In' x) : Done pf tree bodies In' lp pbn n A B R :=
  ⟨h.size, fun x hx hp => h.frame x (fun hi => hx ((e x).1 hi)) hp, h.parent,
   fun q hq => ⟨fun x h1 h2 => (e x).1 ((h.roots q hq).1 x h1 h2), (h.roots q hq).2⟩,
   fun x hx => h.cover x ((e x).2 hx), h.disj⟩

theorem Done.nil (p : BuildNode) (n : Nat) (A : Nodes) : Done pf tree bodies (fun _ => False) none p n A A [] :=
  ⟨rfl, fun _ _ _ => rfl, fun _ _ h => (by cases h), fun _ h => (by cases h), fun _ h => False.elim h, List.Pairwise.nil⟩

theorem intervals_apart {In1 In2 : Nat → Prop} {alo ahi blo bhi : Nat} (disj : ∀ x, In1 x → In2 x → False)
    (ha : ∀ x, alo ≤ x → x < ahi → In2 x) (hb : ∀ x, blo ≤ x → x < bhi → In1 x)
    (ha' : alo < ahi) (hb' : blo < bhi) : ahi ≤ blo ∨ bhi ≤ alo := by
  rcases Nat.lt_or_ge blo ahi with h1 | h1
  · rcases Nat.lt_or_ge alo bhi with h2 | h2
    · exfalso
      exact disj (max alo blo) (hb _ (by omega) (by omega)) (ha _ (by omega) (by omega))
    · exact .inr h2
  · exact .inl h1

theorem Done.addRoot {In : Nat → Prop} {p : BuildNode} {m r rlo rhi : Nat} {A C C' : Nodes} {R : List (RRec F)} {root : Root F}
    (h : Done pf tree bodies In none p m A C R) (hr : rlo ≤ r ∧ r < rhi) (hsz : C'.size = C.size)
    (hCr : C'[r]? = some (some (bnOfRoot r root))) (hCo : ∀ y, y ≠ r → C'[y]? = C[y]?)
    (hrep : RepRoot pf tree bodies ⟨r, rlo, rhi, root⟩) (hdisj : ∀ y, In y → ¬ Ival rlo rhi y) :
    Done pf tree bodies (fun x => In x ∨ Ival rlo rhi x) none p m A C' (⟨r, rlo, rhi, root⟩ :: R) where
  size := by rw [hsz, h.size]
  frame x hx _ := by
    rw [hCo x (fun e => hx (.inr (by subst e; exact hr))), h.frame x (fun hh => hx (.inl hh)) (fun _ _ hh => by cases hh)]
  parent _ _ hh := by cases hh
  roots q hq := by
    rcases List.mem_cons.1 hq with rfl | hq
    · exact ⟨fun x h1 h2 => .inr ⟨h1, h2⟩, hr.1, hr.2, hCr, hrep⟩
    · obtain ⟨a, b, c, d, e⟩ := h.roots q hq
      refine ⟨fun x h1 h2 => .inl (a x h1 h2), b, c, ?_, e⟩
      rw [hCo _ (fun e' => hdisj _ (a _ b c) (by rw [e']; exact hr))]
      exact d
  cover x hx := by
    rcases hx with hx | hx
    · rcases h.cover x hx with ⟨b, hb⟩ | ⟨q, hq, hh⟩
      · exact .inl ⟨b, by rw [hCo x (fun e => hdisj _ hx (by subst e; exact hr))]; exact hb⟩
      · exact .inr ⟨q, List.mem_cons_of_mem _ hq, hh⟩
    · exact .inr ⟨_, List.mem_cons_self, hx.1, hx.2⟩
  disj := by
    rw [List.pairwise_cons]
    refine ⟨fun q hq => ?_, h.disj⟩
    obtain ⟨a, b, c, _⟩ := h.roots q hq
    exact intervals_apart (In1 := In) (In2 := Ival rlo rhi) hdisj (fun x h1 h2 => ⟨h1, h2⟩) a (Nat.lt_of_le_of_lt hr.1 hr.2) (Nat.lt_of_le_of_lt b c)

theorem Done.transP {In1 In2 : Nat → Prop} {lp : Option (Nat × Definition)} {tb : BuildNode} {n1 n2 : Nat} {A B C : Nodes}
    {R1 R2 : List (RRec F)}
    (h1 : Done pf tree bodies In1 lp tb n1 A B R1)
    (h2 : Done pf tree bodies In2 lp { tb with childCount := tb.childCount + n1 } n2 B C R2)
    (disj : ∀ x, In1 x → In2 x → False) (ht : ∀ par d, lp = some (par, d) → ¬ In1 par) :
    Done pf tree bodies (fun x => In1 x ∨ In2 x) lp tb (n1 + n2) A C (R2 ++ R1) where
  size := by rw [h2.size, h1.size]
  frame x hx hp := by
    rw [h2.frame x (fun h => hx (.inr h)) hp, h1.frame x (fun h => hx (.inl h)) hp]
  parent par d' h := by
    have := h2.parent par d' h
    simp only [Nat.add_assoc] at this
    exact this
  roots q hq := by
    rcases List.mem_append.1 hq with hq | hq
    · obtain ⟨a, b, c, d', e⟩ := h2.roots q hq
      exact ⟨fun x h1 h2 => .inr (a x h1 h2), b, c, d', e⟩
    · obtain ⟨a, b, c, d', e⟩ := h1.roots q hq
      refine ⟨fun x h1 h2 => .inl (a x h1 h2), b, c, ?_, e⟩
      rw [h2.frame q.idx (fun h => disj _ (a _ b c) h) (fun par d'' h e => ht par d'' h (e ▸ a _ b c))]
      exact d'
  cover x hx := by
    rcases hx with hx | hx
    · rcases h1.cover x hx with ⟨b, hb⟩ | ⟨q, hq, h⟩
      · refine .inl ⟨b, ?_⟩
        rw [h2.frame x (fun h => disj _ hx h) (fun par d'' h e => ht par d'' h (e ▸ hx))]
        exact hb
      · exact .inr ⟨q, List.mem_append_right _ hq, h⟩
    · rcases h2.cover x hx with h | ⟨q, hq, h⟩
      · exact .inl h
      · exact .inr ⟨q, List.mem_append_left _ hq, h⟩
  disj := by
    rw [List.pairwise_append]
    refine ⟨h2.disj, h1.disj, fun a ha b hb => ?_⟩
    obtain ⟨a1, a2, a3, _⟩ := h2.roots a ha
    obtain ⟨b1, b2, b3, _⟩ := h1.roots b hb
    exact intervals_apart disj a1 b1 (Nat.lt_of_le_of_lt a2 a3) (Nat.lt_of_le_of_lt b2 b3)

theorem Done.ofNone {In : Nat → Prop} {p p' : BuildNode} {n n' : Nat} {A B : Nodes} {R : List (RRec F)}
    (h : Done pf tree bodies In none p n A B R) : Done pf tree bodies In none p' n' A B R :=
  ⟨h.size, h.frame, (fun _ _ e => by cases e), h.roots, h.cover, h.disj⟩

theorem Done.trans {In1 In2 : Nat → Prop} {p p2 : BuildNode} {n n2 n3 : Nat} {A B C : Nodes} {R1 R2 : List (RRec F)}
    (h1 : Done pf tree bodies In1 none p n A B R1) (h2 : Done pf tree bodies In2 none p2 n2 B C R2)
    (disj : ∀ x, In1 x → In2 x → False) : Done pf tree bodies (fun x => In1 x ∨ In2 x) none p n3 A C (R2 ++ R1) :=
  (h1.transP (n2 := 0) h2.ofNone disj (fun _ _ e => by cases e)).ofNone

/-- an inner node `m` of a list spine around what its children did: it does not count itself -/
theorem Done.wrapP {Inner : Nat → Prop} {m top : Nat} {d : Definition} {tb : BuildNode} {n : Nat} {N A C : Nodes}
    {R : List (RRec F)} (h : Done pf tree bodies Inner (some (top, d)) tb n A C R)
    (hsz : A.size = N.size)
    (hA : ∀ x, x ≠ m → ¬ Inner x → A[x]? = N[x]?)
    (hAm : ∃ b, A[m]? = some (some b)) (hm : ¬ Inner m) (hmt : m ≠ top) :
    Done pf tree bodies (fun x => x = m ∨ Inner x) (some (top, d)) tb n N C R where
  size := by rw [h.size, hsz]
  frame x hx hp := by
    rw [h.frame x (fun hh => hx (.inr hh)) hp]
    exact hA x (fun e => hx (.inl e)) (fun hh => hx (.inr hh))
  parent := h.parent
  roots q hq := by
    obtain ⟨a, b, c, d', e⟩ := h.roots q hq
    exact ⟨fun x h1 h2 => .inr (a x h1 h2), b, c, d', e⟩
  cover x hx := by
    rcases hx with rfl | hx
    · obtain ⟨b, hb⟩ := hAm
      refine .inl ⟨b, ?_⟩
      rw [h.frame _ hm (fun par d' hh => by cases hh; exact hmt)]
      exact hb
    · exact h.cover x hx
  disj := h.disj

/-- the entry of a node after its first visit and `afterHandle` -/
def node1 (i cur : Nat) (lp : Option (Nat × Definition)) (cp : Ex) : BuildNode :=
  { mkNode i cur lp cp with state := .initialized, contributesToList := lp.isNone }

theorem counted_self {nodesH : Nodes} {i : Nat} {lp : Option (Nat × Definition)} {b pbn : BuildNode}
    (hi : nodesH[i]? = some (some b)) (hc : b.contributesToList = true) (hne : ∀ par d, lp = some (par, d) → par ≠ i) :
    (counted nodesH i b lp pbn)[i]? = some (some { b with contributesToList := lp.isNone }) := by
  cases lp with
  | none => rw [show counted nodesH i b none pbn = nodesH from rfl, hi]; cases b; cases hc; rfl
  | some pd =>
    simp only [counted]
    rw [get_putNode_ne (hne pd.1 pd.2 rfl), get_putNode_same (lt_of_getElem? hi)]
    rfl

theorem counted_parent {nodesH : Nodes} {i par : Nat} {d : Definition} {b pbn : BuildNode}
    (hp : nodesH[par]? = some (some pbn)) :
    (counted nodesH i b (some (par, d)) pbn)[par]? = some (some { pbn with childCount := pbn.childCount + 1 }) := by
  simp only [counted]
  rw [get_putNode_same (by simpa using lt_of_getElem? hp)]

theorem counted_other {nodesH : Nodes} {i x : Nat} {lp : Option (Nat × Definition)} {b pbn : BuildNode}
    (hx : x ≠ i) (hp : ∀ par d, lp = some (par, d) → x ≠ par) : (counted nodesH i b lp pbn)[x]? = nodesH[x]? := by
  cases lp with
  | none => rfl
  | some pd =>
    obtain ⟨par, d⟩ := pd
    simp only [counted]
    rw [get_putNode_ne (Ne.symm (hp par d rfl)), get_putNode_ne (Ne.symm hx)]

@[simp] theorem counted_size (nodesH : Nodes) (i : Nat) (lp : Option (Nat × Definition)) (b pbn : BuildNode) :
    (counted nodesH i b lp pbn).size = nodesH.size := by
  cases lp with
  | none => rfl
  | some pd => simp [counted]

theorem second_visit {crj i : Nat} {lp : Option (Nat × Definition)}
    {pn : ParseNode} {data data1 : BState F} {nodes nodesH : Nodes} {RS RS1 S S1 : Array Nat} {b : BuildNode}
    (hpn : tree[i]? = some pn)
    (hh : handleParseNode pf ⟨data, nodes, RS, S⟩ crj i pn = .ok ⟨data1, nodesH, RS1, S1⟩)
    (hi' : nodesH[i]? = some (some b)) (hb : b.contributesToList = lp.isNone) (hl : b.listParent = lp) :
    Steps pf tree crj 1 ⟨data, nodes, RS, S.push i⟩ ⟨data1, nodesH, RS1, S1⟩ := by
  refine Steps.one hpn hh ?_
  refine afterHandle_id hi' ?_
  cases lp with
  | none => exact .inr hl
  | some pd => exact .inl (by simpa using hb)

/-- what is known after the first visit of node `i` (scheduled with `mkNode`), which left `b` as its entry and scheduled the
children `Cs` -/
structure Opened (nodes A : Nodes) (i : Nat) (b : BuildNode) (lp : Option (Nat × Definition)) (pbn : BuildNode)
    (Cs : Nat → Prop) : Prop where
  size : A.size = nodes.size
  self : A[i]? = some (some b)
  other : ∀ y, y ≠ i → ¬ Cs y → (∀ par d, lp = some (par, d) → y ≠ par) → A[y]? = nodes[y]?
  parent : ∀ par d, lp = some (par, d) → A[par]? = some (some { pbn with childCount := pbn.childCount + 1 })

theorem visit_open {crj lo hi i cur : Nat} {lp : Option (Nat × Definition)} {cp : Ex} {b pbn : BuildNode}
    {pn : ParseNode} {data data1 : BState F} {nodes nodesH : Nodes} {RS RS1 S S1 : Array Nat} {Cs : Nat → Prop}
    (pre : Pre tree nodes lo hi i cur lp cp pbn) (hin : lo ≤ i ∧ i < hi) (hpn : tree[i]? = some pn)
    (hh : handleParseNode pf ⟨data, nodes, RS, S⟩ crj i pn = .ok ⟨data1, nodesH, RS1, S1⟩)
    (hsz : nodesH.size = nodes.size) (hi' : nodesH[i]? = some (some b)) (hc : b.contributesToList = true)
    (hl : b.listParent = lp)
    (hHo : ∀ y, y ≠ i → ¬ Cs y → nodesH[y]? = nodes[y]?) (hCs : ∀ y, Cs y → lo ≤ y ∧ y < hi) :
    ∃ A, Steps pf tree crj 1 ⟨data, nodes, RS, S.push i⟩ ⟨data1, A, RS1, S1⟩ ∧
      Opened nodes A i { b with contributesToList := lp.isNone } lp pbn Cs ∧ ∀ y, y ≠ i → Cs y → A[y]? = nodesH[y]? := by
  have hne : ∀ par d, lp = some (par, d) → par ≠ i ∧ ¬ Cs par := fun par d h => by
    have := (pre.par par d h).1
    exact ⟨by omega, fun hc => by have := hCs par hc; omega⟩
  have hpar : ∀ par d, lp = some (par, d) → nodesH[par]? = some (some pbn) := fun par d h => by
    rw [hHo par (hne par d h).1 (hne par d h).2]; exact (pre.par par d h).2.1
  exact ⟨counted nodesH i b lp pbn,
    Steps.one hpn hh (afterHandle_counted hi' hc hl (fun par d h => ⟨(hne par d h).1, hpar par d h⟩)),
    ⟨by rw [counted_size, hsz], counted_self hi' hc (fun p d h => (hne p d h).1),
      fun y h1 h2 h3 => by rw [counted_other h1 h3, hHo y h1 h2],
      fun par d h => by subst h; exact counted_parent (hpar par d rfl)⟩,
    fun y h1 h2 => counted_other h1 (fun par d h e => (hne par d h).2 (e ▸ h2))⟩

/-- the node around what its children (`Inner`, which contains the scheduled ones) did. The children may report to the node
itself (`lpI`: a list node and its items), and the node's last visit may have rewritten its own entry (`Z` for `C`) -/
theorem Opened.closeTop {nodes A C Z : Nodes} {lo hi i cur m : Nat} {lp lpI : Option (Nat × Definition)} {cp : Ex}
    {b p pbn : BuildNode} {Cs Inner : Nat → Prop} {R : List (RRec F)} (o : Opened nodes A i b lp pbn Cs)
    (pre : Pre tree nodes lo hi i cur lp cp pbn) (h : Done pf tree bodies Inner lpI p m A C R)
    (hlp : ∀ par d, lpI = some (par, d) → par = i) (hZ : ∀ y, y ≠ i → Z[y]? = C[y]?) (hZi : ∃ bz, Z[i]? = some (some bz))
    (hZs : Z.size = C.size) (hsub : ∀ y, Cs y → Inner y) (hni : ¬ Inner i) (hin : ∀ y, Inner y → lo ≤ y ∧ y < hi)
    (hii : lo ≤ i ∧ i < hi) : Done pf tree bodies (fun x => x = i ∨ Inner x) lp pbn 1 nodes Z R := by
  have hfr : ∀ x, x ≠ i → ¬ Inner x → Z[x]? = A[x]? := fun x hxi hx => by
    rw [hZ x hxi, h.frame x hx (fun par d hh => hlp par d hh ▸ hxi)]
  refine ⟨by rw [hZs, h.size, o.size], fun x hx hp => ?_, fun par d hl => ?_, fun q hq => ?_, fun x hx => ?_, h.disj⟩
  · rw [hfr x (fun e => hx (.inl e)) (fun hh => hx (.inr hh))]
    exact o.other x (fun e => hx (.inl e)) (fun hc => hx (.inr (hsub x hc))) hp
  · have := (pre.par par d hl).1
    rw [hfr par (by omega) (fun hh => by have := hin par hh; omega)]
    exact o.parent par d hl
  · obtain ⟨a, b', c, d, e⟩ := h.roots q hq
    exact ⟨fun x h1 h2 => .inr (a x h1 h2), b', c, by rw [hZ _ (fun e' => hni (e' ▸ a _ b' c))]; exact d, e⟩
  · rcases hx with rfl | hx
    · exact .inl hZi
    · exact (h.cover x hx).imp (fun ⟨b', hb'⟩ => ⟨b', by rw [hZ x (fun e => hni (e ▸ hx))]; exact hb'⟩) id

theorem Opened.close {nodes A C : Nodes} {lo hi i cur : Nat} {lp : Option (Nat × Definition)} {cp : Ex} {b p pbn : BuildNode}
    {Cs Inner : Nat → Prop} {m : Nat} {R : List (RRec F)} (o : Opened nodes A i b lp pbn Cs)
    (pre : Pre tree nodes lo hi i cur lp cp pbn) (h : Done pf tree bodies Inner none p m A C R)
    (hsub : ∀ y, Cs y → Inner y) (hni : ¬ Inner i) (hin : ∀ y, Inner y → lo ≤ y ∧ y < hi) (hii : lo ≤ i ∧ i < hi) :
    Done pf tree bodies (fun x => x = i ∨ Inner x) lp pbn 1 nodes C R :=
  o.closeTop pre h (fun _ _ e => by cases e) (fun _ _ => rfl)
    ⟨_, by rw [h.frame _ hni (fun _ _ e => by cases e)]; exact o.self⟩ rfl hsub hni hin hii

open Garnish.Lemmas.BuildTotal (assign assign_size) in
theorem assign_spec : ∀ (asg : List (Nat × BuildNode)) (nodes : Nodes), (∀ q ∈ asg, q.1 < nodes.size) →
    asg.Pairwise (fun a b => a.1 ≠ b.1) →
    (∀ q ∈ asg, (assign nodes asg)[q.1]? = some (some q.2)) ∧ ∀ x, (∀ q ∈ asg, q.1 ≠ x) → (assign nodes asg)[x]? = nodes[x]?
  | [], _, _, _ => ⟨fun _ h => (by cases h), fun _ _ => rfl⟩
  | (i, b) :: rest, nodes, hlt, hpw => by
    obtain ⟨h1, h2⟩ := assign_spec rest (putNode nodes i b) (fun q hq => by simpa using hlt q (List.mem_cons_of_mem _ hq))
      (List.pairwise_cons.1 hpw).2
    refine ⟨fun q hq => ?_, fun x hx => ?_⟩
    · rcases List.mem_cons.1 hq with rfl | hq'
      · exact (h2 i (fun q' hq' => Ne.symm ((List.pairwise_cons.1 hpw).1 q' hq'))).trans
          (get_putNode_same (hlt _ List.mem_cons_self) b)
      · exact h1 q hq'
    · exact (h2 x (fun q hq => hx q (List.mem_cons_of_mem _ hq))).trans (get_putNode_ne (hx _ List.mem_cons_self) b)

open Garnish.Lemmas.BuildPlan hiding emit

theorem visit_ok {ctx : Ctx F} {ni : Nat} {plan : BuildNode → Outcome (Plan F)} {b : BuildNode} {p : Plan F}
    (hb : ctx.nodes[ni]? = some (some b)) (hp : plan b = .ok p) (hlt : ∀ q ∈ p.sets, q.1 < ctx.nodes.size) :
    visit ctx ni plan = .ok (p.apply ctx) := by
  simp only [visit, getNode, hb, Outcome.bind, hp]
  exact Plan.run_of_lt hlt

theorem firstVisit_nodes {ctx : Ctx F} {i : Nat} (data : BState F) (nb : BuildNode) {sets : List (Nat × BuildNode × String)}
    (W : List Nat) (hi : i < ctx.nodes.size) (hs : ∀ q ∈ sets, q.1 < ctx.nodes.size ∧ q.1 ≠ i)
    (hpw : sets.Pairwise (fun a b => a.1 ≠ b.1)) :
    ((firstVisit data i nb sets W).apply ctx).nodes.size = ctx.nodes.size ∧
    ((firstVisit data i nb sets W).apply ctx).nodes[i]? = some (some nb) ∧
    (∀ q ∈ sets, ((firstVisit data i nb sets W).apply ctx).nodes[q.1]? = some (some q.2.1)) ∧
    ∀ y, y ≠ i → (∀ q ∈ sets, q.1 ≠ y) → ((firstVisit data i nb sets W).apply ctx).nodes[y]? = ctx.nodes[y]? := by
  obtain ⟨g1, g2⟩ := assign_spec (sets.map fun q => (q.1, q.2.1)) (putNode ctx.nodes i nb)
    (fun q hq => by obtain ⟨q', hq', rfl⟩ := List.mem_map.1 hq; simpa using (hs q' hq').1)
    (by rw [List.pairwise_map]; exact hpw)
  have hm : ∀ y, (∀ q ∈ sets, q.1 ≠ y) → ∀ q ∈ sets.map (fun q => (q.1, q.2.1)), q.1 ≠ y := fun y h q hq => by
    obtain ⟨q', hq', rfl⟩ := List.mem_map.1 hq; exact h q' hq'
  refine ⟨Plan.apply_size _ _, (g2 i (hm i fun q hq => (hs q hq).2)).trans (get_putNode_same hi nb),
    fun q hq => g1 (q.1, q.2.1) (List.mem_map.2 ⟨q, hq, rfl⟩), fun y h1 h2 => (g2 y (hm y h2)).trans (get_putNode_ne (Ne.symm h1) nb)⟩

theorem first_visit_plan {crj lo hi i cur : Nat} {lp : Option (Nat × Definition)} {cp : Ex} {pbn : BuildNode}
    {pn : ParseNode} {data dataF : BState F} {nodes : Nodes} {RS S : Array Nat}
    {plan : BuildNode → Outcome (Plan F)} {sets : List (Nat × BuildNode × String)} {W : List Nat}
    (pre : Pre tree nodes lo hi i cur lp cp pbn) (hin : lo ≤ i ∧ i < hi) (hpn : tree[i]? = some pn)
    (hh : handleParseNode pf ⟨data, nodes, RS, S⟩ crj i pn = visit ⟨data, nodes, RS, S⟩ i plan)
    (hp : plan (mkNode i cur lp cp) = .ok (firstVisit dataF i (visited (mkNode i cur lp cp)) sets W))
    (hs : ∀ q ∈ sets, lo ≤ q.1 ∧ q.1 < hi ∧ q.1 ≠ i ∧ q.1 < tree.size)
    (hpw : sets.Pairwise (fun a b => a.1 ≠ b.1)) :
    ∃ A, Steps pf tree crj 1 ⟨data, nodes, RS, S.push i⟩ ⟨dataF, A, RS, W.foldl Array.push S⟩ ∧
      Opened nodes A i (node1 i cur lp cp) lp pbn (fun y => ∃ q ∈ sets, q.1 = y) ∧
      ∀ q ∈ sets, A[q.1]? = some (some q.2.1) := by
  have hlt : ∀ q ∈ sets, q.1 < nodes.size ∧ q.1 ≠ i := fun q hq => ⟨by rw [pre.size]; exact (hs q hq).2.2.2, (hs q hq).2.2.1⟩
  have hv := visit_ok (ctx := ⟨data, nodes, RS, S⟩) pre.node hp (fun q hq => (hlt q hq).1)
  rw [← hh] at hv
  obtain ⟨e1, e2, e3, e4⟩ := firstVisit_nodes (ctx := ⟨data, nodes, RS, S⟩) dataF (visited (mkNode i cur lp cp)) W
    (lt_of_getElem? pre.node) hlt hpw
  obtain ⟨A, st, op, hA⟩ := visit_open (Cs := fun y => ∃ q ∈ sets, q.1 = y) pre hin hpn hv e1 e2 rfl rfl
    (fun y h1 h2 => e4 y h1 (fun q hq e => h2 ⟨q, hq, e⟩)) (fun y ⟨q, hq, e⟩ => e ▸ ⟨(hs q hq).1, (hs q hq).2.1⟩)
  exact ⟨A, st, op, fun q hq => (hA q.1 (hs q hq).2.2.1 ⟨q, hq, rfl⟩).trans (e3 q hq)⟩

theorem first_step_plan {crj i : Nat} {pn : ParseNode} {data dataF : BState F} {nodes : Nodes} {RS S : Array Nat}
    {b nb : BuildNode} {plan : BuildNode → Outcome (Plan F)} {sets : List (Nat × BuildNode × String)} {W : List Nat}
    (hpn : tree[i]? = some pn) (hb : nodes[i]? = some (some b))
    (hh : handleParseNode pf ⟨data, nodes, RS, S⟩ crj i pn = visit ⟨data, nodes, RS, S⟩ i plan)
    (hp : plan b = .ok (firstVisit dataF i nb sets W)) (hs : ∀ q ∈ sets, q.1 < nodes.size ∧ q.1 ≠ i)
    (hpw : sets.Pairwise (fun a b => a.1 ≠ b.1)) (hnb : nb.contributesToList = false ∨ nb.listParent = none) :
    ∃ A, Steps pf tree crj 1 ⟨data, nodes, RS, S.push i⟩ ⟨dataF, A, RS, W.foldl Array.push S⟩ ∧ A.size = nodes.size ∧
      A[i]? = some (some nb) ∧ (∀ q ∈ sets, A[q.1]? = some (some q.2.1)) ∧
      ∀ y, y ≠ i → (∀ q ∈ sets, q.1 ≠ y) → A[y]? = nodes[y]? := by
  have hv := visit_ok (ctx := ⟨data, nodes, RS, S⟩) hb hp (fun q hq => (hs q hq).1)
  rw [← hh] at hv
  obtain ⟨e1, e2, e3, e4⟩ := firstVisit_nodes (ctx := ⟨data, nodes, RS, S⟩) dataF nb W (lt_of_getElem? hb) hs hpw
  exact ⟨_, Steps.one hpn hv (afterHandle_id e2 hnb), e1, e2, e3, e4⟩

theorem emit_step_plan {crj i : Nat} {pn : ParseNode} {data dataZ : BState F} {nodes : Nodes} {RS S : Array Nat}
    {b : BuildNode} {plan : BuildNode → Outcome (Plan F)} (hpn : tree[i]? = some pn) (hb : nodes[i]? = some (some b))
    (hh : handleParseNode pf ⟨data, nodes, RS, S⟩ crj i pn = visit ⟨data, nodes, RS, S⟩ i plan)
    (hp : plan b = .ok (Lemmas.BuildPlan.emit dataZ)) (hc : b.contributesToList = false ∨ b.listParent = none) :
    Steps pf tree crj 1 ⟨data, nodes, RS, S.push i⟩ ⟨dataZ, nodes, RS, S⟩ := by
  have hv := visit_ok (ctx := ⟨data, nodes, RS, S⟩) hb hp (fun _ h => by cases h)
  rw [← hh] at hv
  exact Steps.one hpn hv (afterHandle_id hb hc)

theorem emit_visit_plan {crj i : Nat} {lp : Option (Nat × Definition)} {pn : ParseNode} {data dataZ : BState F}
    {nodes : Nodes} {RS S : Array Nat} {b : BuildNode} {plan : BuildNode → Outcome (Plan F)}
    (hpn : tree[i]? = some pn) (hb : nodes[i]? = some (some b))
    (hh : handleParseNode pf ⟨data, nodes, RS, S⟩ crj i pn = visit ⟨data, nodes, RS, S⟩ i plan)
    (hp : plan b = .ok (Lemmas.BuildPlan.emit dataZ)) (hc : b.contributesToList = lp.isNone) (hl : b.listParent = lp) :
    Steps pf tree crj 1 ⟨data, nodes, RS, S.push i⟩ ⟨dataZ, nodes, RS, S⟩ :=
  emit_step_plan hpn hb hh hp (by cases lp <;> simp_all)

/-- the definitions handled by `handle_value_like`, with the instruction they emit -/
def valueInstr : Definition → Option Instruction
  | .unit | .false | .true | .number | .charList | .byteList | .symbol | .property => some .put
  | .value => some .putValue
  | .identifier => some .resolve
  | _ => none

theorem value_handler {pn : ParseNode} {ins : Instruction} (hd : valueInstr pn.definition = some ins) (crj i : Nat) :
    ∃ addFn : AddFn F, ∀ ctx : Ctx F, handleParseNode pf ctx crj i pn = visit ctx i (valueLikePlan ctx i pn · addFn ins) := by
  unfold valueInstr at hd
  split at hd <;> cases hd <;> rename_i h <;>
    exact ⟨_, fun ctx => by rw [← handleValueLike_eq]; simp only [handleParseNode, h]; rfl⟩

theorem leaf_sim {i : Nat} {pn : ParseNode} {ins : Instruction} {e : Expr F} (hpn : tree[i]? = some pn)
    (hd : valueInstr pn.definition = some ins) (hl : pn.left = none) (hr : pn.right = none)
    (h2 : ∀ (crj root cur : Nat) (data : BState F) (nodes : Nodes) (RS S : Array Nat) (s : LState F) (b : BuildNode),
      nodes[i]? = some (some b) → b.state = .initialized → DataEq data s →
      ∃ data', handleParseNode pf ⟨data, nodes, RS, S⟩ crj i pn = .ok ⟨data', nodes, RS, S⟩ ∧
        DataEq data' (emit root cur e s) ∧ (emit root cur e s).pending = s.pending) :
    SimT pf tree bodies i (i + 1) i e := by
  intro crj root cur data nodes RS S s lp cp pbn pre hdat _
  obtain ⟨addFn, hh⟩ := value_handler (pf := pf) hd crj i
  have hii : i ≤ i ∧ i < i + 1 := ⟨Nat.le_refl _, by omega⟩
  obtain ⟨A, st1, op, _⟩ := first_visit_plan (W := [i]) (sets := []) pre hii hpn (hh _)
    (by simp only [valueLikePlan, hl, hr]; rfl) (fun _ h => by cases h) List.Pairwise.nil
  obtain ⟨data', hh2, hd2, hp2⟩ := h2 crj root cur data A RS S s _ op.self rfl hdat
  have st2 := second_visit (lp := lp) hpn hh2 op.self rfl rfl
  exact ⟨2, data', _, RS, [], (st1.trans st2), (by simp only [wsum_nil]; omega), hd2, by simp, by simpa using hp2,
    (op.close pre (Done.nil pbn 0 A) (fun _ ⟨_, h, _⟩ => by cases h) id (fun _ h => h.elim) hii).cong
      (fun x => by simp only [or_false, Ival]; omega), ⟨_, op.self, rfl⟩⟩

end Garnish.Abs.Tree
