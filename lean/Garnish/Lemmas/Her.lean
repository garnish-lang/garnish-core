/-
Hereditary predicates on values: `her q v` = the leaf test `q` holds of every leaf of `v` (pairs, lists, concatenations, ranges, slices,
partial applications are descended into); `LeafOK q` = `q` accepts every leaf the operations of Abs/Ops create. Such a class is closed
under every operation of Abs/Ops (`her_closed`), so a machine step keeps it (`step_her`). Instances: the leaf tests `ncQ` of
Lemmas/NoCustom.lean ("not `custom`"; its hereditary class is `nc`) and `exprQ` of Lemmas/ExprsKnown.lean (known `Expression` values).
-/
import Garnish.Lemmas.ValClass
import Garnish.Lemmas.Ops
set_option linter.unusedVariables false
set_option linter.unusedSectionVars false
namespace Garnish.Lemmas.Her
open Garnish Gen Garnish.Abs Garnish.Lemmas.ValClass

variable {F : Type} {q : Val F → Bool}

mutual
def her (q : Val F → Bool) : Val F → Bool
  | .pair l r | .concat l r | .range l r | .slice l r | .part l r => her q l && her q r
  | .list items => herL q items
  | v => q v
def herL (q : Val F → Bool) : List (Val F) → Bool
  | [] => true
  | x :: xs => her q x && herL q xs
end

class LeafOK (q : Val F → Bool) : Prop where
  unit : q .unit = true
  tru : q .tru = true
  fls : q .fls = true
  num : ∀ n, q (.num n) = true
  char : ∀ c, q (.char c) = true
  byte : ∀ b, q (.byte b) = true
  sym : ∀ s, q (.sym s) = true
  type : ∀ t, q (.type t) = true
  symList : ∀ ps, q (.symList ps) = true

theorem herL_iff : ∀ (xs : List (Val F)), herL q xs = true ↔ ∀ x ∈ xs, her q x = true
  | [] => by simp [herL]
  | x :: xs => by simp [herL, herL_iff xs]

theorem herL_append (xs ys : List (Val F)) : herL q (xs ++ ys) = (herL q xs && herL q ys) := by
  induction xs with
  | nil => simp [herL]
  | cons x xs ih => simp [herL, ih, Bool.and_assoc]

theorem herL_get {xs : List (Val F)} (h : herL q xs = true) {i : Nat} {x : Val F} (hx : xs[i]? = some x) : her q x = true :=
  (herL_iff xs).mp h x (List.mem_of_getElem? hx)

theorem her_unit [hq : LeafOK q] : her q (.unit : Val F) = true := by simp [her, hq.unit]
theorem her_tru [hq : LeafOK q] : her q (.tru : Val F) = true := by simp [her, hq.tru]
theorem her_fls [hq : LeafOK q] : her q (.fls : Val F) = true := by simp [her, hq.fls]
theorem her_num [hq : LeafOK q] (n : Number F) : her q (.num n) = true := by simp [her, hq.num]
theorem her_char [hq : LeafOK q] (c : Nat) : her q (.char c : Val F) = true := by simp [her, hq.char]
theorem her_byte [hq : LeafOK q] (c : Nat) : her q (.byte c : Val F) = true := by simp [her, hq.byte]
theorem her_sym [hq : LeafOK q] (c : Nat) : her q (.sym c : Val F) = true := by simp [her, hq.sym]
theorem her_type [hq : LeafOK q] (t : Ty) : her q (.type t : Val F) = true := by simp [her, hq.type]
theorem her_symList [hq : LeafOK q] (ps : List (SymPart F)) : her q (.symList ps) = true := by simp [her, hq.symList]

theorem her_ofBool [hq : LeafOK q] (b : Bool) : her q (Val.ofBool b : Val F) = true := by
  cases b
  · exact her_fls
  · exact her_tru

theorem her_flatItems : ∀ (v : Val F), her q v = true → herL q (flatItems v) = true
  | .concat l r, h => by
    simp [her] at h
    rw [flatItems, herL_append, her_flatItems l h.1, her_flatItems r h.2]; rfl
  | .list items, h => by simpa [her, flatItems] using h
  | .unit, h | .tru, h | .fls, h | .num _, h | .char _, h | .byte _, h | .sym _, h | .expr _, h | .ext _, h
  | .type _, h | .chars _, h | .bytes _, h | .symList _, h | .custom, h => by simp [flatItems, herL]; exact h
  | .pair l r, h | .range l r, h | .slice l r, h | .part l r, h => by simp [flatItems, herL]; exact h

theorem her_lookupSym (s : Nat) (xs : List (Val F)) (hx : herL q xs = true) (v : Val F) (h : lookupSym s xs = some v) :
    her q v = true := by
  rw [lookupSym_eq_findSome] at h
  obtain ⟨x, hm, hk⟩ := List.exists_of_findSome?_eq_some h
  have := (herL_iff xs).1 hx x hm
  rw [keyedVal_some hk] at this
  simp [her] at this
  exact this.2

theorem her_lookupRev (s : Nat) : ∀ (c : Val F), her q c = true → ∀ v, lookupRev s c = some v → her q v = true
  | .concat l r, hc, v, h => by
    simp [her] at hc
    simp only [lookupRev] at h
    cases hr : lookupRev s r with
    | some x => rw [hr] at h; simp [Option.orElse] at h; subst h; exact her_lookupRev s r hc.2 x hr
    | none => rw [hr] at h; simp [Option.orElse] at h; exact her_lookupRev s l hc.1 v h
  | .list items, hc, v, h => by simp [her] at hc; exact her_lookupSym s items hc v (by simpa [lookupRev] using h)
  | .pair l r, hc, v, h => by
    have : lookupRev s (.pair l r) = lookupSym s [.pair l r] := rfl
    rw [this] at h; exact her_lookupSym s _ (by simp [herL]; exact hc) v h
  | .unit, _, v, h | .tru, _, v, h | .fls, _, v, h | .num _, _, v, h | .char _, _, v, h | .byte _, _, v, h
  | .sym _, _, v, h | .expr _, _, v, h | .ext _, _, v, h | .type _, _, v, h | .chars _, _, v, h | .bytes _, _, v, h
  | .symList _, _, v, h | .range _ _, _, v, h | .slice _ _, _, v, h | .part _ _, _, v, h | .custom, _, v, h => by
    simp [lookupRev, lookupSym] at h

section
variable {F : Type} {q : Val F → Bool} [hq : LeafOK q] (fo : FloatOps F)

theorem her_accessInt {idx : Number F} {v x : Val F} (hv : her q v = true) (h : accessInt fo idx v = .some x) :
    her q x = true := by
  unfold accessInt at h
  -- every arm answers with a component of `v` or with a fresh leaf `LeafOK` accepts
  split at h
  -- `.pair (.sym k) r`: the pair itself, at index 0
  · split at h
    · cases h; exact hv
    · cases h
  -- `.pair _ _`
  · cases h
  -- `.list items`: an item
  · rename_i items
    simp [her] at hv
    split at h
    · cases h
    · split at h
      · split at h
        · rename_i y hy; cases h; exact herL_get hv hy
        · cases h
      · cases h
  -- `.chars cs`: a character
  · split at h
    · cases h
    · split at h
      · split at h
        · cases h; exact her_char _
        · cases h
      · cases h
  -- `.bytes bs`: a byte
  · split at h
    · cases h
    · split at h
      · split at h
        · cases h; exact her_byte _
        · cases h
      · cases h
  -- `.symList ps`: a symbol or a number
  · split at h
    · cases h
    · split at h
      · split at h
        · cases h; exact her_sym _
        · cases h; exact her_num _
        · cases h
      · cases h
  -- `.range (.num s) (.num e)`: a number
  · split at h
    · cases h
    · split at h
      · split at h
        · cases h; exact her_num _
        · cases h
      · cases h
  -- `.range _ _`
  · cases h
  -- `.concat l r`: an item of `flatItems l ++ flatItems r`
  · rename_i l r
    simp [her] at hv
    split at h
    · split at h
      · cases h
      · split at h
        · rename_i y hy
          cases h
          refine herL_get ?_ hy
          rw [herL_append, her_flatItems l hv.1, her_flatItems r hv.2]; rfl
        · cases h
    · cases h
  -- `.slice _ _`
  · cases h
  -- every other value
  · cases h

theorem her_accessSym {s : Nat} {v x : Val F} (hv : her q v = true) (h : accessSym s v = .some x) : her q x = true := by
  unfold accessSym at h
  split at h
  · split at h
    · cases h; simp [her] at hv; exact hv.2
    · cases h
  · cases h
  · rename_i items
    simp [her] at hv
    split at h
    · rename_i y hy; cases h; exact her_lookupSym s items hv _ hy
    · cases h
  · rename_i l r
    simp [her] at hv
    split at h
    · rename_i y hy
      cases h
      cases hr : lookupRev s r with
      | some z => rw [hr] at hy; simp [Option.orElse] at hy; subst hy; exact her_lookupRev s r hv.2 z hr
      | none => rw [hr] at hy; simp [Option.orElse] at hy; exact her_lookupRev s l hv.1 _ hy
    · cases h
  · cases h
  · cases h

theorem her_getAccess {key v x : Val F} (hv : her q v = true) (h : getAccess fo key v = .some x) : her q x = true := by
  unfold getAccess at h
  split at h
  · exact her_accessInt fo hv h
  · exact her_accessSym hv h
  · cases h

theorem her_accessPath : ∀ (ps : List (SymPart F)) (cur x : Val F), her q cur = true → accessPath fo ps cur = .some x →
    her q x = true
  | [], cur, x, hc, h => by simp [accessPath] at h; subst h; exact hc
  | p :: ps, cur, x, hc, h => by
    simp only [accessPath] at h
    cases p with
    | sym s =>
      simp only at h
      cases hr : accessSym s cur with
      | some v => rw [hr] at h; exact her_accessPath ps v x (her_accessSym hc hr) h
      | none => rw [hr] at h; simp at h; subst h; exact her_unit
      | unsupported => rw [hr] at h; simp at h; subst h; exact her_unit
      | err e => rw [hr] at h; cases h
    | num n =>
      simp only at h
      cases hr : accessInt fo n cur with
      | some v => rw [hr] at h; exact her_accessPath ps v x (her_accessInt fo hc hr) h
      | none => rw [hr] at h; simp at h; subst h; exact her_unit
      | unsupported => rw [hr] at h; simp at h; subst h; exact her_unit
      | err e => rw [hr] at h; cases h


def OutHer (q : Val F → Bool) : OpOut F → Prop
  | .val v => her q v = true
  | _ => True

theorem her_numResult (o : Option (Number F)) : her q (numResult o) = true := by cases o <;> first | exact her_unit | exact her_num _

theorem outHer_arithBinary (op : Instruction) (nop : NumOp) (l r : Val F) : OutHer q (arithBinary fo op nop l r) := by
  unfold arithBinary
  split
  · exact her_numResult _
  · trivial

theorem outHer_arithUnary (op : Instruction) (nop : NumOp) (v : Val F) : OutHer q (arithUnary fo op nop v) := by
  unfold arithUnary
  split
  · exact her_numResult _
  · trivial

theorem her_cmpOp (accept : Ordering → Bool) (l r : Val F) : her q (cmpOp fo accept l r) = true := by
  unfold cmpOp
  split
  · exact her_fls
  · exact her_unit
  · exact her_ofBool _

theorem mergeSymList_symList {l r v : Val F} (h : mergeSymList l r = some v) : ∃ ps, v = .symList ps := by
  unfold mergeSymList at h
  simp only [] at h
  split at h
  · cases h; exact ⟨_, rfl⟩
  · cases h

theorem her_merge {l r v : Val F} (h : mergeSymList l r = some v) : her q v = true := by
  obtain ⟨ps, rfl⟩ := mergeSymList_symList h
  exact her_symList ps

theorem outHer_access {l r : Val F} (hl : her q l = true) (hr : her q r = true) : OutHer q (access fo l r) := by
  have hm : OutHer q (match mergeSymList l r with | some v => OpOut.val v | none => .err .data) := by
    cases h : mergeSymList l r with
    | none => trivial
    | some v => exact her_merge h
  have hg : OutHer q (match getAccess fo r l with
      | .some v => OpOut.val v | .none => .val .unit | .unsupported => .defer .access l r | .err e => .err e) := by
    cases h : getAccess fo r l with
    | some v => exact her_getAccess fo hl h
    | none => exact her_unit
    | unsupported => trivial
    | err e => trivial
  unfold access
  simp only []
  split <;> first | exact hm | exact hg | trivial

theorem outHer_left {v : Val F} (hv : her q v = true) : OutHer q (accessLeftInternal v) := by
  unfold accessLeftInternal
  split <;> first
    | trivial
    | exact her_num _
    | exact her_unit
    | (simp [her] at hv; exact hv.1)

theorem outHer_right {v : Val F} (hv : her q v = true) : OutHer q (accessRightInternal v) := by
  unfold accessRightInternal
  split <;> first
    | trivial
    | exact her_num _
    | exact her_unit
    | (simp [her] at hv; exact hv.2)

theorem outHer_length (v : Val F) : OutHer q (accessLengthInternal fo v) := by
  unfold accessLengthInternal
  split <;> first | exact her_num _ | exact her_unit (q := q) | trivial | (split <;> first | exact her_num _ | trivial)

theorem outHer_makeRange (a b : Bool) (l r : Val F) : OutHer q (makeRange fo a b l r) := by
  unfold makeRange
  split
  · simp only []
    split <;> first
      | trivial
      | (show (her q (.num _) && her q (.num _)) = true; rw [her_num, her_num]; rfl)
  · trivial

theorem outHer_unaryOp {op : Instruction} {v : Val F} {o : OpOut F} (hv : her q v = true) (h : unaryOp fo op v = some o) :
    OutHer q o := by
  unfold unaryOp at h
  split at h <;> cases h <;> first
    | exact outHer_arithUnary fo _ _ _
    | exact her_ofBool _
    | exact her_type _
    | exact outHer_left hv
    | exact outHer_right hv
    | exact outHer_length fo v

theorem outHer_binaryOp {op : Instruction} {l r : Val F} {o : OpOut F} (hl : her q l = true) (hr : her q r = true)
    (h : binaryOp fo op l r = some o) : OutHer q o := by
  unfold binaryOp at h
  split at h <;> cases h <;> first
    | exact outHer_arithBinary fo _ _ _ _
    | exact her_ofBool _
    | exact her_cmpOp fo _ _ _
    | (show her q (typeEqual l r) = true; unfold typeEqual; exact her_ofBool _)
    | (show (her q l && her q r) = true; rw [hl, hr]; rfl)
    | exact outHer_access fo hl hr
    | exact outHer_makeRange fo _ _ _ _


structure HostHer (q : Val F → Bool) (host : Host F) : Prop where
  defer : ∀ op l r v, host.defer op l r = some v → her q v = true
  resolve : ∀ y v, host.resolve y = some v → her q v = true
  apply : ∀ n a v, host.apply n a = some v → her q v = true

structure HerState (q : Val F → Bool) (m : MState F) : Prop where
  regs : herL q m.regs = true
  vals : herL q m.vals = true
  frames : ∀ fr ∈ m.frames, herL q fr.saved = true

def ConstsHer (q : Val F → Bool) (P : Prog F) : Prop := ∀ (k : Nat) (v : Val F), P.consts[k]? = some v → her q v = true

theorem her_narrowRange {a b v : Val F} (h : narrowRange fo a b = .ok v) : her q v = true := by
  unfold narrowRange at h
  split at h
  · split at h
    · split at h
      · cases h; show (her q (.num _) && her q (.num _)) = true; rw [her_num, her_num]; rfl
      · cases h
    · cases h
  · cases h

theorem outHer_acc {a : Acc F} (h : ∀ v, a = .some v → her q v = true) :
    OutHer q (match a with
      | .some v => OpOut.val v | .none => .val .unit | .unsupported => .err .unsupported | .err e => .err e) := by
  cases a with
  | some v => exact h v rfl
  | none => exact her_unit
  | unsupported => trivial
  | err e => trivial

theorem OutHer.in {o : OpOut F} (h : OutHer q o) : OutIn (her q · = true) o := by cases o <;> exact h

theorem accOut_her {a : Acc F} (h : ∀ v, a = .some v → her q v = true) :
    KindIn (her q · = true) (.out (Model.Runtime.accOut a)) := by
  cases a with
  | some v => exact h v rfl
  | none => exact her_unit
  | unsupported => trivial
  | err e => trivial

theorem applyKind_her (instr : Instruction) (ur : Bool) {l r : Val F} (hl : her q l = true) (hr : her q r = true) :
    KindIn (her q · = true) (applyKind fo instr ur l r) := by
  have hc := Runtime.applyArm_case fo instr ur l r
  cases harm : Model.Runtime.applyArm l.typeOf r.typeOf <;> rw [harm] at hc
  case expression => obtain ⟨j, rfl, e⟩ := hc; rw [e]; exact hr
  case external => obtain ⟨j, rfl, e⟩ := hc; rw [e]; exact hr
  case partial_ =>
    obtain ⟨f, x, rfl, ⟨j, rfl, e⟩ | ⟨_, e⟩⟩ := hc <;> rw [e]
    · simp [her] at hl
      cases ur
      · exact hl.2
      · show (her q _ && her q _) = true; rw [hl.2, hr]; rfl
    · exact her_unit
  case merge => rw [hc.2]; split <;> first | exact her_merge ‹_› | trivial
  case narrow => obtain ⟨a, b, c, d, rfl, rfl, e⟩ := hc; rw [e]; split <;> first | exact her_narrowRange fo ‹_› | trivial
  case sliceNarrow =>
    obtain ⟨a, b, c, d, rfl, rfl, e⟩ := hc; rw [e]; simp [her] at hl
    split
    · show (her q _ && her q _) = true; rw [hl.1, her_narrowRange fo ‹_›]; rfl
    · trivial
  case accInt => obtain ⟨n, rfl, _, e⟩ := hc; rw [e]; exact accOut_her fun v h => her_accessInt fo hl h
  case accSym => obtain ⟨n, rfl, _, e⟩ := hc; rw [e]; exact accOut_her fun v h => her_accessSym hl h
  case path => obtain ⟨_, n, rfl, rfl, e⟩ := hc; rw [e]; exact accOut_her fun v h => her_accessPath fo _ _ _ hl h
  case mkSlice => rw [hc.2]; show (her q _ && her q _) = true; rw [hl, hr]; rfl
  case defer => rw [hc]; trivial

end

section
variable {F : Type} {q : Val F → Bool} [hq : LeafOK q] {fo : FloatOps F} {host : Host F} {P : Prog F}

theorem HerState.mk' {m : MState F} {regs vals : List (Val F)} {frames : List (Frame F)} (hr : herL q regs = true)
    (hv : herL q vals = true) (hf : ∀ fr ∈ frames, herL q fr.saved = true) (pc : Nat) (tr : List (HostCall F)) :
    HerState q (⟨pc, regs, vals, frames, tr⟩ : MState F) := ⟨hr, hv, hf⟩

theorem herState_iff {m : MState F} : HerState q m ↔ StateIn (her q · = true) m :=
  ⟨fun h => ⟨(herL_iff _).1 h.regs, (herL_iff _).1 h.vals, fun fr hfr => (herL_iff _).1 (h.frames fr hfr)⟩,
   fun h => ⟨(herL_iff _).2 h.regs, (herL_iff _).2 h.vals, fun fr hfr => (herL_iff _).2 (h.frames fr hfr)⟩⟩

theorem her_closed (fo : FloatOps F) : Closed fo (her q · = true) (fun _ => True) where
  unit := her_unit
  tru := her_tru
  fls := her_fls
  unary _ hv h := (outHer_unaryOp fo hv h).in
  binary _ hl hr h := (outHer_binaryOp fo hl hr h).in
  kind instr ur _ _ hl hr := applyKind_her fo instr ur hl hr
  pair _ _ _ hl hr := by show (her q _ && her q _) = true; rw [hl, hr]; rfl
  list _ _ h := (herL_iff _).2 h
  lookup _ _ _ _ hc h := her_getAccess fo hc h

theorem HostHer.in (HN : HostHer q host) : HostIn (her q · = true) host := ⟨HN.defer, HN.resolve, HN.apply⟩

theorem step_her (HN : HostHer q host) (hc : ConstsHer q P) {s s' : MState F} (hs : HerState q s)
    (h : StepTo (Abs.step fo host P s) s') : HerState q s' :=
  herState_iff.2 (step_in (her_closed fo) HN.in hc (fun _ _ _ _ => trivial) (herState_iff.1 hs) h)
end

end Garnish.Lemmas.Her
