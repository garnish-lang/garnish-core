/-
C06 static half on compiled code: the ghost depths are a consistent assignment in the final state of the layout.
The `Expression` constants: every expression constant that `emit` allocates names either the body being compiled (`{ }`)
or a nested body it pushes as a pending root — so the entry of every expression constant is an instruction entered at depth 0.
`root_region`: one root and its terminators are `EdgeOK` in the final state, and the roots it pushes are `TermOK` there.
`loopEC`, the induction over the loop: when the layout loop has finished, every instruction laid out from a state on is
`EdgeOK` in the final state (by `root_region`, root by root), and every `Expression` constant allocated from it on names a
body whose first instruction is entered at depth 0, provided every pending root satisfies `TermOK` there.
-/
import Garnish.Lemmas.CompileDepthLoop
import Garnish.Lemmas.CompileLast
namespace Garnish.Abs
open Garnish Gen Garnish.Spec Garnish.Props.C06

variable {F : Type}

/-- the expression constant `j` is accounted for in state `s'` -/
def ConstAcc (cur : Nat) (s' : LState F) (j : Nat) : Prop :=
  j = cur ∨ ∃ p ∈ s'.pending.zip s'.pendDep, p.1.patch = j ∧ ∃ id, p.1.kind = .ref id

def ConstsOK (cur : Nat) (s s' : LState F) : Prop :=
  ∀ k j, s.consts.size ≤ k → s'.consts[k]? = some (.expr j) → ConstAcc cur s' j

theorem Wrote.constsOK {cur : Nat} {s s' : LState F} {o : Out F} (h : Wrote s s' o) (hc : ∀ v ∈ o.consts, ConstNew cur o v) :
    ConstsOK cur s s' := by
  intro k j hk hj
  rw [h.consts, Array.getElem?_append_right hk] at hj
  rcases hc _ (List.mem_of_getElem? (by simpa using hj)) j rfl with rfl | ⟨r, hr, hp, hid⟩
  · exact .inl rfl
  · refine .inr ⟨r, ?_, hp, hid⟩
    rw [h.pending, h.pendDep, List.zip_append (by simp), List.zip_map']
    exact List.mem_append.2 (.inl (List.mem_map.2 ⟨r, hr, rfl⟩))

theorem emit_consts (root cur : Nat) : ∀ (e : Expr F) (s : LState F), cur < s.jumps.size → wfE e = true →
    ConstsOK cur s (emit root cur e s) :=
  fun e s _ hw => (emit_wrote root cur e s).constsOK (out_wf cur e _ hw).consts

theorem emitList_consts (root cur : Nat) : ∀ (items : List (Expr F)) (s : LState F), cur < s.jumps.size →
    wfEList items = true → ConstsOK cur s (emitList root cur items s) :=
  fun items s _ hw => (emitList_wrote root cur items s).constsOK (outList_wf cur items _ hw).consts

theorem emitArms_consts (root cur : Nat) : ∀ (arms : List (Bool × Expr F × Expr F)) (s : LState F), cur < s.jumps.size →
    wfEArms arms = true → ConstsOK cur s (emitArms root cur arms s).1 :=
  fun arms s _ hw => (emitArms_wrote root cur arms s).1.constsOK (outArms_wf cur arms _ hw).1.consts

section loop
variable (bodies : List (Nat × Expr F))

theorem root_region {Fs s1 : LState F} {r : Root F} {b : Expr F} {dr : Nat}
    (hp1 : PendOK s1) (hc : r.containing < s1.jumps.size) (al1 : Al s1) (hdep : s1.dep = dr)
    (ev' : Ev (addTerms s1.instrs.size (emit r.patch r.containing b s1).instrs.back? r.term (emit r.patch r.containing b s1)) Fs)
    (dappF : DApp (addTerms s1.instrs.size (emit r.patch r.containing b s1).instrs.back? r.term
      (emit r.patch r.containing b s1)) Fs)
    (hrootsF : ∀ p ∈ (addTerms s1.instrs.size (emit r.patch r.containing b s1).instrs.back? r.term
        (emit r.patch r.containing b s1)).pending.zip
      (addTerms s1.instrs.size (emit r.patch r.containing b s1).instrs.back? r.term (emit r.patch r.containing b s1)).pendDep,
      RootD Fs p.1 p.2)
    (hwfb : wfE b = true) (htlb : noR b = true ∨ (tailR b = true ∧ dr = 0)) (hcurb : ContOK Fs r.containing)
    (hrT : TermOK Fs r dr) (hrRef : RefOK r)
    (hlocb : Located Fs.toProg r.patch r.containing s1.instrs.size b) :
    (∀ pc, s1.instrs.size ≤ pc →
      pc < (addTerms s1.instrs.size (emit r.patch r.containing b s1).instrs.back? r.term
        (emit r.patch r.containing b s1)).instrs.size → EdgeOK Fs pc) ∧
    (∀ p ∈ (emit r.patch r.containing b s1).pending.zip (emit r.patch r.containing b s1).pendDep,
      p ∉ s1.pending.zip s1.pendDep → TermOK Fs p.1 p.2) := by
  obtain ⟨p12, z2⟩ := emit_pre r.patch r.containing b s1 hc
  obtain ⟨d12, k2⟩ := emit_dep r.patch r.containing b s1 hwfb
  have hw := emit_wrote r.patch r.containing b s1
  have al2 : Al (emit r.patch r.containing b s1) := hw.al al1
  have hpos := len_pos b
  generalize hs2 : emit r.patch r.containing b s1 = s2 at *
  have pT := addTerms_pre s1.instrs.size s2.instrs.back? r.term s2
  have aT := addTerms_appD s1.instrs.size s2.instrs.back? r.term s2
  obtain ⟨pdT1, pdT2⟩ := addTerms_pending s1.instrs.size s2.instrs.back? r.term s2
  have hterms : (Fs.instrs.size ≤ s2.instrs.size ∨ Fs.depths[s2.instrs.size]? = some (dr + 1)) ∧
      (∀ pc, s2.instrs.size ≤ pc → pc < (addTerms s1.instrs.size s2.instrs.back? r.term s2).instrs.size → EdgeOK Fs pc) := by
    cases hk : r.kind with
    | ref id =>
      have ht := (hrRef id hk).2
      have hd0 := hrT.2.2 id hk
      -- the body does not end with `EndExpression`, so the terminator is pushed
      obtain ⟨i, d, hi, hcl⟩ := last_not_end hlocb (wfE_wfC b hwfb)
      have hlast : s2.instrs.back? = some (i, d) := by
        rw [Array.back?_eq_getElem?, z2, ← hi, toProg_instrs,
          ev'.instrs _ (by have := pT.isize; omega), pT.instrs _ (by omega)]
      have hns : ¬ (s2.instrs.back? = some (Instruction.endExpression, (none : Option Nat)) ∧
          (Instruction.endExpression, (none : Option Nat)).1 = .endExpression) := by
        intro hcon
        rw [hlast] at hcon
        simp only [Option.some.injEq, Prod.mk.injEq] at hcon
        exact hcl hcon.1.1
      rw [ht, addTerms_cons_push hns] at ev' dappF ⊢
      simp only [addTerms] at ev' dappF ⊢
      have dd : Fs.depths[s2.instrs.size]? = some (dr + 1) := by
        rw [dappF.1 _ (by simp; rw [al2]; omega)]
        have := first_push al2 .endExpression none
        rw [k2, hdep] at this
        exact this
      refine ⟨.inr dd, fun pc h1 h2 => ?_⟩
      obtain rfl : pc = s2.instrs.size := by simp at h2; omega
      rw [hd0] at dd
      exact .mk dd (edges_end (instr_at (.refl _) ev')) (by simp)
    | code e =>
      obtain ⟨_, _, _, hshape⟩ := hrT.2.1 e hk
      rcases hshape with ⟨j, ht⟩ | ⟨j, ht⟩
      · have hns : ¬ (s2.instrs.back? = some (Instruction.jumpTo, some j) ∧
            (Instruction.jumpTo, some j).1 = .endExpression) := by simp
        rw [ht, addTerms_cons_push hns] at ev' dappF ⊢
        simp only [addTerms] at ev' dappF ⊢
        have dd : Fs.depths[s2.instrs.size]? = some (dr + 1) := by
          rw [dappF.1 _ (by simp; rw [al2]; omega)]
          have := first_push al2 .jumpTo (some j)
          rw [k2, hdep] at this
          exact this
        refine ⟨.inr dd, fun pc h1 h2 => ?_⟩
        obtain rfl : pc = s2.instrs.size := by simp at h2; omega
        obtain ⟨tj, htj, hdj⟩ := hrT.1 j (by rw [ht]; simp)
        refine .mk dd (edges_jumpTo (instr_at (.refl _) ev') htj) (fun e hm => ?_)
        simp only [List.mem_singleton] at hm
        subst hm
        exact hdj
      · have hns1 : ¬ (s2.instrs.back? = some (Instruction.tis, (none : Option Nat)) ∧
            (Instruction.tis, (none : Option Nat)).1 = .endExpression) := by simp
        have hns2 : ¬ (s2.instrs.back? = some (Instruction.jumpTo, some j) ∧
            (Instruction.jumpTo, some j).1 = .endExpression) := by simp
        rw [ht, addTerms_cons_push hns1, addTerms_cons_push hns2] at ev' dappF ⊢
        simp only [addTerms] at ev' dappF ⊢
        have alt := al2.push .tis none
        have dd1 : Fs.depths[s2.instrs.size]? = some (dr + 1) := by
          rw [dappF.1 _ (by simp; rw [al2]; omega)]
          have := first_app (first_push al2 .tis none) (AppD.push _ .jumpTo (some j))
          rw [k2, hdep] at this
          exact this
        have dd2 : Fs.depths[s2.instrs.size + 1]? = some (dr + 1) := by
          have := first_push alt .jumpTo (some j)
          simp only [push_isize, push_dep, k2, hdep, fall] at this
          rw [dappF.1 _ (by simp; rw [al2]; omega)]
          exact this
        refine ⟨.inr dd1, fun pc h1 h2 => ?_⟩
        by_cases heq : pc = s2.instrs.size
        · subst heq
          have i1 := instr_at (t := s2) (i := .tis) (d := none) (App.push _ _ _) ev'
          exact .next dd1 (edges_un (k := dr) i1 rfl) (.inr dd2)
        · obtain rfl : pc = s2.instrs.size + 1 := by simp at h2; omega
          obtain ⟨tj, htj, hdj⟩ := hrT.1 j (by rw [ht]; simp)
          have i2 := instr_at (t := s2.push .tis none) (i := .jumpTo) (d := some j) (.refl _) ev'
          simp only [push_isize] at i2
          refine .mk dd2 (edges_jumpTo i2 htj) (fun e hm => ?_)
          simp only [List.mem_singleton] at hm
          subst hm
          exact hdj
  obtain ⟨hnext, htermE⟩ := hterms
  have hs := fun q hq => (out_roots r.containing b s1.pos q hq).1
  have hE := edges_of_out (sF := Fs) b s1.pos hc
    (.final hw hp1 al1 hs (fun _ h => by cases h) (pT.within _) ⟨aT.depths, aT.dsize⟩ ev' dappF) hwfb
    (by show _ ∨ (_ ∧ s1.dep = 0); rw [hdep]; exact htlb) hcurb
    (.of (after_ni _ b _) (out_endD _ b _ _ hwfb) (by
      show _ ≤ s1.instrs.size + _ ∨ _[s1.instrs.size + _]? = some (s1.dep + 1); rw [hdep, ← z2]; exact hnext))
    (rootsD_final hw hs aT.keepZ (fun p hp _ => hrootsF p hp))
  obtain ⟨hmain, hroots⟩ := Edges.ofWrote hw (out_len _ b _) hE
  refine ⟨fun pc h1 h2 => ?_, hroots⟩
  by_cases hlt : pc < s2.instrs.size
  · exact hmain pc h1 (by omega)
  · exact htermE pc (by omega) h2

theorem loopEC : ∀ (fuel : Nat) (s : LState F), Inv s → DInv s →
    (layoutRoots bodies fuel s).pending = [] →
    (∀ q ∈ (layoutRoots bodies fuel s).done, LabelOK q) →
    ((layoutRoots bodies fuel s).done.map (·.patch)).Nodup →
    (∀ id b, lookupBody bodies id = some b → wfE b = true ∧ tailR b = true) →
    (∀ q ∈ (layoutRoots bodies fuel s).done, ∀ id, q.kind = .ref id → ∃ b, lookupBody bodies id = some b) →
    (∀ p ∈ s.pending.zip s.pendDep, TermOK (layoutRoots bodies fuel s) p.1 p.2) →
    (∀ pc, s.instrs.size ≤ pc → pc < (layoutRoots bodies fuel s).instrs.size → EdgeOK (layoutRoots bodies fuel s) pc) ∧
    ∀ k j, s.consts.size ≤ k → (layoutRoots bodies fuel s).consts[k]? = some (.expr j) → ContOK (layoutRoots bodies fuel s) j
  | 0, s, _, _, _, _, _, _, _, _ => by
    simp only [layoutRoots]
    exact ⟨fun pc h1 h2 => by omega, fun k j h1 h2 => by rw [Array.getElem?_eq_none h1] at h2; cases h2⟩
  | fuel + 1, s, inv, dinv, hc, hlab, hnd, hprog, hfound, hyp => by
    cases hp : s.pending with
    | nil =>
      simp only [layoutRoots, hp]
      exact ⟨fun pc h1 h2 => by omega, fun k j h1 h2 => by rw [Array.getElem?_eq_none h1] at h2; cases h2⟩
    | cons r rest =>
      have hr_mem : r ∈ s.pending := by rw [hp]; exact List.mem_cons_self
      obtain ⟨dr, drest, hpd, dinv', _, _, hkeepZ⟩ := dinv.step bodies inv hp
      obtain ⟨_, hlocS, _, lS, hlS, hmemS⟩ := layoutRoots_located bodies (fuel + 1) s inv hc hlab hnd
      obtain ⟨_, _, hrootsS⟩ := monoD bodies (fuel + 1) s inv dinv hc hlab hnd
      have hj := head_jump bodies inv hp hc hlab hnd
      have hpair : (r, dr) ∈ s.pending.zip s.pendDep := by rw [hp, hpd]; simp
      have hrD := hrootsS _ hpair
      have hrT := hyp _ hpair
      obtain ⟨hrLab, hrLoc⟩ := (hlocS r hr_mem).1
      have hrRef := inv.ref r hr_mem
      have hr_done : r ∈ (layoutRoots bodies (fuel + 1) s).done := by
        rw [hlS]; exact List.mem_append.2 (.inl (hmemS r hr_mem))
      obtain ⟨inv', _, _, _, _, _, _, _⟩ := layoutRoot_facts bodies inv hp
      simp only [layoutRoots, hp] at hc hlab hnd hfound hyp hj hrD hrT hrLoc hr_done ⊢
      obtain ⟨ev', _, _, _⟩ := layoutRoots_located bodies fuel _ inv' hc hlab hnd
      obtain ⟨dappF, _, hrootsF⟩ := monoD bodies fuel _ inv' dinv' hc hlab hnd
      have hbody : ∃ b, rootBody bodies r = some b ∧ wfE b = true ∧ (noR b = true ∨ (tailR b = true ∧ dr = 0)) ∧
          ContOK (layoutRoots bodies fuel (layoutRoot bodies r { s with pending := rest })) r.containing := by
        cases hk : r.kind with
        | code b =>
          obtain ⟨h1, h2, h3, _⟩ := hrT.2.1 b hk
          exact ⟨b, by simp [rootBody, hk], h1, h2, h3⟩
        | ref id =>
          obtain ⟨b, hb⟩ := hfound r hr_done id hk
          have hd0 := hrT.2.2 id hk
          have hc0 := (hrRef id hk).1
          refine ⟨b, by simp [rootBody, hk, hb], (hprog id b hb).1, .inr ⟨(hprog id b hb).2, hd0⟩, ?_⟩
          rw [hc0]; rw [hd0] at hrD; exact hrD
      obtain ⟨b, hb, hwfb, htlb, hcurb⟩ := hbody
      obtain ⟨tb, htb, hlocb, _⟩ := hrLoc b hb
      have htbs : tb = s.instrs.size := by rw [toProg_jumps, hj] at htb; simpa using htb.symm
      subst htbs
      obtain ⟨s1, s2, st, hE⟩ := layoutRoot_anatomy bodies (rest := rest) (inv.cont r hr_mem)
      have hs2 : s2 = emit r.patch r.containing b s1 := by rw [st.body]; simp only [bodyState, hb]
      subst hs2
      generalize hS' : layoutRoot bodies r { s with pending := rest } = S' at *
      rw [← st.instrs] at hE
      subst hE
      have s1_pd : s1.pendDep = drest := by rw [st.pendDep, hpd]; rfl
      have s1_dep : s1.dep = dr := by rw [st.dep, hpd]; rfl
      have hp1 : PendOK s1 := (st.inv inv hp).pend
      have al1 : Al s1 := by simp only [Al, st.depths, st.instrs]; exact dinv.al
      have hreg := root_region (s1 := s1) (r := r) (b := b) (dr := dr) hp1
        (by rw [st.jsize]; exact inv.cont r hr_mem) al1 s1_dep ev' dappF
        (fun p hp' => hrootsF p hp') hwfb htlb hcurb hrT hrRef
        (by have e : s1.instrs.size = s.instrs.size := by rw [st.instrs]
            rw [← e] at hlocb; exact hlocb)
      have hyp' : ∀ p ∈ (addTerms s1.instrs.size (emit r.patch r.containing b s1).instrs.back? r.term
            (emit r.patch r.containing b s1)).pending.zip
          (addTerms s1.instrs.size (emit r.patch r.containing b s1).instrs.back? r.term
            (emit r.patch r.containing b s1)).pendDep,
          TermOK (layoutRoots bodies fuel (addTerms s1.instrs.size (emit r.patch r.containing b s1).instrs.back? r.term
            (emit r.patch r.containing b s1))) p.1 p.2 := by
        intro p hp'
        by_cases hin : p ∈ s1.pending.zip s1.pendDep
        · rw [st.pending, s1_pd] at hin
          exact hyp p (by rw [hpd]; simp only [List.zip_cons_cons, List.mem_cons]; exact .inr hin)
        · refine hreg.2 p ?_ hin
          obtain ⟨e1, e2⟩ := addTerms_pending s1.instrs.size (emit r.patch r.containing b s1).instrs.back? r.term
            (emit r.patch r.containing b s1)
          rw [e1, e2] at hp'
          exact hp'
      have ih := loopEC fuel _ inv' dinv' hc hlab hnd hprog hfound hyp'
      refine ⟨fun pc h1 h2 => ?_, fun k j h1 h2 => ?_⟩
      · by_cases hlt : pc < (addTerms s1.instrs.size (emit r.patch r.containing b s1).instrs.back? r.term
            (emit r.patch r.containing b s1)).instrs.size
        · exact hreg.1 pc (by rw [st.instrs]; exact h1) hlt
        · exact ih.1 pc (by omega) h2
      have hcs := emit_consts r.patch r.containing b s1 (by rw [st.jsize]; exact inv.cont r hr_mem) hwfb
      by_cases hlt : k < (addTerms s1.instrs.size (emit r.patch r.containing b s1).instrs.back? r.term
          (emit r.patch r.containing b s1)).consts.size
      · rw [ev'.consts k hlt, addTerms_consts] at h2
        rcases hcs k j (by rw [st.consts]; exact h1) h2 with rfl | ⟨p, hpz, hpj, id, hid⟩
        · exact hcurb
        · obtain ⟨e1, e2⟩ := addTerms_pending s1.instrs.size (emit r.patch r.containing b s1).instrs.back? r.term
            (emit r.patch r.containing b s1)
          have hpz' : p ∈ (addTerms s1.instrs.size (emit r.patch r.containing b s1).instrs.back? r.term
              (emit r.patch r.containing b s1)).pending.zip
            (addTerms s1.instrs.size (emit r.patch r.containing b s1).instrs.back? r.term
              (emit r.patch r.containing b s1)).pendDep := by rw [e1, e2]; exact hpz
          have h0 := (hyp' p hpz').2.2 id hid
          have hd := hrootsF p hpz'
          rw [h0] at hd
          intro t ht
          exact hd t (by rw [hpj]; exact ht)
      · exact ih.2 k j (by omega) h2

end loop

end Garnish.Abs
