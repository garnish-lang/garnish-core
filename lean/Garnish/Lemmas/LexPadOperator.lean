/-
Text-level rewrites, lexer side (C18): a blank inserted directly AFTER an operator token.
After the prefix `p` the lexer holds a complete spelling of the operator table (type `ty`, not one after which a `.5` is
an access: `blocksFloat`), and the next character `d` continues no spelling. Then `d` ends the operator token, and so does
the blank; after `d` the two lexers agree on everything except the position counters — in particular on `can_float`, which
is `!blocksFloat ty = true` on one side and `!blocksFloat Whitespace = true` on the other (`afterEmit_posEq_at`). Hence
(`lexLoop_padOperator`) the two texts lex to the same tokens with ONE Whitespace token inserted after the operator token.
-/
import Garnish.Lemmas.LexSpell4
import Garnish.Lemmas.LexTrailing
namespace Garnish.Model.Lexer
open Garnish.Model Garnish.Model.Parser Garnish.Spec

theorem afterEmit_posEq_at {e e' : Lexer} {st st' ty ty' cs cs' p0 p0' p p' sq sq' eq eq' ae}
    (he : At e st (some ty) cs p0 p sq eq ae) (he' : At e' st' (some ty') cs' p0' p' sq' eq' ae)
    (hb : blocksFloat (some ty) = blocksFloat (some ty')) : PosEq (afterEmit e) (afterEmit e') := by
  rw [posEq_iff]
  refine ⟨?_, rfl, rfl, ?_, rfl, ?_, rfl, rfl, rfl, rfl, ?_⟩
  · show e'.operatorTree = e.operatorTree
    rw [he.tree, he'.tree]
  · show e'.shouldCreate = e.shouldCreate
    rw [he.create, he'.create]
  · show (!blocksFloat e'.currentTokenType) = (!blocksFloat e.currentTokenType)
    rw [he.type, he'.type, hb]
  · show e'.atEnd = e.atEnd
    rw [he.atEnd, he'.atEnd]

theorem tableUnderscore : ∀ q ∈ Garnish.Gen.LexTables.operatorChars, startsWith q.1 '_' = true → '.' ∈ q.1 := by decide

theorem tableDot : ∀ q ∈ Garnish.Gen.LexTables.operatorChars, startsWith q.1 '.' = true →
    blocksFloat (some q.2) = false → 2 ≤ utf8Len q.1 := by decide

theorem startsWith_append (o : List Char) (d x : Char) (ho : o ≠ []) : startsWith (o ++ [d]) x = startsWith o x := by
  cases o with
  | nil => exact absurd rfl ho
  | cons a r => rfl

theorem arm_operator_end (cc : CharClass) (hcc2 : cc.Sane2) (τ : Lexer) (d : Char) {ty o p0 p sq eq ae}
    (h : At τ .operator (some ty) o p0 p sq eq ae) (htab : (o, ty) ∈ Garnish.Gen.LexTables.operatorChars)
    (hbf : blocksFloat (some ty) = false) (hw : walkOperator theTree (o ++ [d]) = none) :
    ArmStep cc τ d τ true := by
  have ho : o ≠ [] := tableNoEmpty _ htab
  have hid : (startsWith (τ.currentCharacters ++ [d]) '_' && isIdentifier cc (τ.currentCharacters ++ [d])) = false := by
    rw [h.chars, startsWith_append o d '_' ho]
    cases hs : startsWith o '_' with
    | false => rfl
    | true =>
      have hdot := tableUnderscore _ htab hs
      have : isIdentifier cc (o ++ [d]) = false := by
        unfold isIdentifier
        rw [Bool.eq_false_iff]
        intro hall
        rw [List.all_eq_true] at hall
        have := hall '.' (by simp [hdot])
        simp [isIdentifierChar, hcc2.dotAlphanumeric] at this
      simp [this]
  have hfl : (startsWith (τ.currentCharacters ++ [d]) '.' && utf8Len (τ.currentCharacters ++ [d]) == 2) = false := by
    rw [h.chars, startsWith_append o d '.' ho]
    cases hs : startsWith o '.' with
    | false => rfl
    | true =>
      have h2 : 2 ≤ utf8Len o := tableDot _ htab hs hbf
      have h3 : utf8Len (o ++ [d]) = utf8Len o + d.utf8Size := by rw [utf8Len_append]; simp [utf8Len]
      have h4 := Char.utf8Size_pos d
      have : utf8Len (o ++ [d]) ≠ 2 := by omega
      simp [this]
  have hw' : walkOperator τ.operatorTree (τ.currentCharacters ++ [d]) = none := by rw [h.tree, h.chars]; exact hw
  have := ArmStep.opDone (cc := cc) h.state hw' (by simp [push, hid]) (by simp [push, hfl])
  rwa [pop_push] at this

theorem lexLoop_padOperator (cc : CharClass) (hcc : cc.SaneBlank) (hcc2 : cc.Sane2) (p : List Char) (c d : Char)
    (b : List Char) (hc : IsBlank c) (σ : Lexer) (toks : List LexerToken) (ty : Gen.TokenType)
    (hrun : runChars cc p (Lexer.init theTree) [] = .ok (σ, toks)) (hok : σ.result = .ok) (hst : σ.state = .operator)
    (hty : σ.currentTokenType = some ty) (htab : (σ.currentCharacters, ty) ∈ Garnish.Gen.LexTables.operatorChars)
    (hbf : blocksFloat (some ty) = false) (hw : walkOperator theTree (σ.currentCharacters ++ [d]) = none)
    (hdb : ¬ IsBlank d) (hdn : d ≠ '\n') :
    OutSameExt (toks ++ [⟨σ.currentCharacters, ty, σ.tokenStartRow, σ.tokenStartColumn⟩])
      (toks ++ [⟨σ.currentCharacters, ty, σ.tokenStartRow, σ.tokenStartColumn⟩, ⟨[c], .whitespace, σ.textRow, σ.textColumn⟩])
      (lexLoop cc (d :: b) σ toks) (lexLoop cc (c :: d :: b) σ toks) := by
  obtain ⟨hcr, hinv, hat, htr⟩ := run_facts cc hcc2 p σ toks hrun hok
  have hne : ty ≠ .identifier := tableNoIdentifier _ htab
  have hA : At σ .operator (some ty) σ.currentCharacters (σ.tokenStartRow, σ.tokenStartColumn) (σ.textRow, σ.textColumn)
      σ.startQuoteCount σ.endQuoteCount false := ⟨hst, hty, rfl, rfl, rfl, rfl, rfl, hcr, hok, htr, hat, rfl, rfl⟩
  -- the text without the blank: `d` ends the operator token
  have hp1 := emit_any cc σ _ d (arm_operator_end cc hcc2 _ d (hA.lexed (σ.charactersLexed + 1)) htab hbf hw) (hA.lexed _) hne
  -- the text with the blank: the blank ends it, `d` ends the blank
  obtain ⟨σ2, hp2, h2⟩ := tail_blank cc σ c hc hA
    (ending_plain cc hcc .operator ty _ (Or.inr (Or.inr (Or.inr (Or.inr rfl)))) (by decide)) hne
  have hp3 := spaces_end cc σ2 d h2 hdb hdn
  have hpos := bumpColumn_congr d (startToken_congr cc d
    (afterEmit_posEq_at (hA.lexed (σ.charactersLexed + 1)) (h2.lexed (σ2.charactersLexed + 1)) (by rw [hbf]; rfl)))
  generalize bumpColumn (startToken cc (afterEmit { σ with charactersLexed := σ.charactersLexed + 1 }) d) d = a at hp1 hpos
  generalize bumpColumn (startToken cc (afterEmit { σ2 with charactersLexed := σ2.charactersLexed + 1 }) d) d = a' at hp3 hpos
  have hi1 := processChar_inv2 cc hcc.toSane _ _ _ _ hinv hp1
  have hi3 := processChar_inv2 cc hcc.toSane _ _ _ _ (processChar_inv2 cc hcc.toSane _ _ _ _ hinv hp2) hp3
  have e0 : LexResult.isErr .ok = false := rfl
  have hres : a'.result = a.result := ((posEq_iff _ _).mp hpos).2.2.2.2.2.2.2.2.2.1
  simp only [lexLoop, isErr_of_ok hok, hp1, hp2, hp3, h2.ok, Bool.false_eq_true, ↓reduceIte, hres, e0]
  cases hr : a.result with
  | err => simp [OutSameExt]
  | ok =>
    simp only []
    have := lexLoop_congr cc hcc.toSane
      (toks ++ [⟨σ.currentCharacters, ty, σ.tokenStartRow, σ.tokenStartColumn⟩])
      (toks ++ [⟨σ.currentCharacters, ty, σ.tokenStartRow, σ.tokenStartColumn⟩, ⟨[c], .whitespace, σ.textRow, σ.textColumn⟩])
      b a a' [] [] hpos hi1 hi3 (SameTT.refl [])
    simpa using this

/-- from the two `lexFull` outcomes to `lex` (the outcomes as variables: a statement about `lexFull cc s` itself would be
unfolded down to `Lexer.new` whenever it is applied) -/
theorem outSameExt_lex {cc : CharClass} {s s' : List Char} {A B : List LexerToken}
    {R R' : Outcome (List LexerToken × Lexer)} (h : OutSameExt A B R R') (e : lexFull cc s = R) (e' : lexFull cc s' = R') :
    (∀ T, lex cc s = .ok T → ∃ T' rest rest', lex cc s' = .ok T' ∧ T = A ++ rest ∧ T' = B ++ rest' ∧ SameTT rest rest') ∧
    (∀ T', lex cc s' = .ok T' → ∃ T rest rest', lex cc s = .ok T ∧ T = A ++ rest ∧ T' = B ++ rest' ∧ SameTT rest rest') := by
  unfold lex
  rw [e, e']
  cases R <;> cases R' <;> simp only [OutSameExt] at h
  all_goals first
    | exact False.elim h
    | (obtain ⟨rest, rest', e1, e2, hs⟩ := h
       refine ⟨fun T hT => ?_, fun T' hT' => ?_⟩
       · simp only [Outcome.ok.injEq] at hT; subst hT; exact ⟨_, rest, rest', rfl, e1, e2, hs⟩
       · simp only [Outcome.ok.injEq] at hT'; subst hT'; exact ⟨_, rest, rest', rfl, e1, e2, hs⟩)
    | exact ⟨fun T hT => (by cases hT), fun T' hT' => (by cases hT')⟩

end Garnish.Model.Lexer
