/-
Handler refinements over `StoreLawsOn`, as statements of their own (the step theorem, Lemmas/RuntimeStepAll.lean, uses the
lemmas over `LawsK` directly): comparison.rs (`C12_refine_cmp_list` …, and `C12_refine_perform_comparison`, stated with
`cmpFuel`), `resolve` (`C17_refine_resolve`: the instance at `K = True` of `Core.resolve_spec` with the look-up
`get_access_addr`), logical.rs and arithmetic.rs (`C10_refine_is_true_value`, `C08_refine_perform_op`: instances at
`K = True` of the lemmas of Lemmas/RuntimeLogic.lean and Lemmas/RuntimeArith.lean).
-/
import Garnish.Props.RuntimeRefineCompare
import Garnish.Lemmas.RuntimeResolve
import Garnish.Props.RuntimeRefineLogic
import Garnish.Props.RuntimeRefineArith

namespace Garnish.Lemmas.Runtime.On
open Garnish Gen Garnish.Abs Garnish.Model.Equality Garnish.Model.Runtime Garnish.Lemmas.Runtime
open Garnish.Props.RuntimeRefine

variable {F σ : Type} {S : RStore F σ} {Inv : σ → Prop} {Rd : σ → Nat → Prop}

section
variable (fo : FloatOps F)
theorem C12_refine_cmp_list (L : StoreLawsOn S Inv Rd) (s0 : σ) {left right : Nat} {a b : List Nat}
    (hl : Decodes (S.view s0) left (.chars a)) (hr : Decodes (S.view s0) right (.chars b))
    (ha : a.length ≤ 2147483647) (hb : b.length ≤ 2147483647) (i j fuel : Nat)
    (hf : min a.length b.length + 1 ≤ fuel) :
    Model.Runtime.cmpList fo fuel left right (.int i) (.int j) S.charItem S.charLen s0
      = .ok (some (cmpListFrom a b i j), s0) :=
  cmpList_spec fo S.charItem S.charLen _ s0 (L.charIdx s0) left right a b (chars_of hl) (chars_of hr) ha hb i j
    fuel hf

theorem C12_refine_cmp_list_bytes (L : StoreLawsOn S Inv Rd) (s0 : σ) {left right : Nat} {a b : List Nat}
    (hl : Decodes (S.view s0) left (.bytes a)) (hr : Decodes (S.view s0) right (.bytes b))
    (ha : a.length ≤ 2147483647) (hb : b.length ≤ 2147483647) (i j fuel : Nat)
    (hf : min a.length b.length + 1 ≤ fuel) :
    Model.Runtime.cmpList fo fuel left right (.int i) (.int j) S.byteItem S.byteLen s0
      = .ok (some (cmpListFrom a b i j), s0) :=
  cmpList_spec fo S.byteItem S.byteLen _ s0 (L.byteIdx s0) left right a b (bytes_of hl) (bytes_of hr) ha hb i j
    fuel hf

theorem C12_cmpListFrom_zero (a b : List Nat) : cmpListFrom a b 0 0 = Abs.cmpList a b := cmpListFrom_zero a b

theorem C12_refine_perform_comparison (L : StoreLawsOn S Inv Rd) (falseOrd : Ordering)
    {s : σ} {r l : Nat} {vr vl : Val F} {rest : List Nat}
    (hregs : S.regs s = r :: l :: rest) (hl : Decodes (S.view s) l vl) (hr : Decodes (S.view s) r vr)
    (ha : textLen vl ≤ 2147483647) (hb : textLen vr ≤ 2147483647) (fuel : Nat) (hf : cmpFuel vl vr ≤ fuel)
    (hi : Inv s := by inv_tac) (hd : Deep S s rest := by deep_tac) :
    match compareValsR fo vl vr with
    | some (.ok c) => PoppedI S Inv s (performComparison fo S fuel falseOrd s) (ordOf falseOrd c) rest
    | some (.error e) => performComparison fo S fuel falseOrd s = .err e
    | none => True :=
  Core.performComparison_spec fo L.toK falseOrd hregs hl hr ha hb fuel hf hi fun _ => hd

end

end Garnish.Lemmas.Runtime.On

namespace Garnish.Lemmas.Runtime.On
open Garnish Gen Garnish.Abs Garnish.Model.Equality Garnish.Model.Runtime Garnish.Lemmas.Runtime

variable {F σ : Type} {S : RStore F σ} {Inv : σ → Prop} {Rd : σ → Nat → Prop} {P : Prog F} {host : Host F}
  (fo : FloatOps F)

theorem C17_refine_resolve (L : StoreLawsOn S Inv Rd) (fuel : Nat) {s : σ} {data c : Nat} {vs : List Nat} {key cur : Val F}
    (hv : S.vals s = c :: vs) (hk : Decodes (S.view s) data key) (hc : Decodes (S.view s) c cur)
    (hd : AccessDomain cur) (hkey : ∀ n, key = .num n → (∃ i, n = .int i) ∧ RangeOrdered fo n cur)
    (hf : accessFuel cur ≤ fuel) (hnc : ncConcat cur)
    (hls : (∀ y, key = .sym y → ∀ vs, cur ≠ .list vs) ∨ ListSymOn S Inv)
    (hres : ∀ v, getAccess fo key cur = .some v → v ≠ .custom)
    (hinv : Inv s := by inv_tac) (hdp : Deep S s (S.regs s) := by deep_tac) :
    match getAccess fo key cur with
    | .some v => PushedI S Inv s (Model.Runtime.resolve fo S fuel data s) none (S.regs s) v
    | .none => ResolveContextI S Inv s (Model.Runtime.resolve fo S fuel data s) none key
    | .unsupported => ResolveContextI S Inv s (Model.Runtime.resolve fo S fuel data s) none key
    | .err e => e ≠ .unsupported → Model.Runtime.resolve fo S fuel data s = .err e :=
  Core.resolve_spec fo L.toK fuel hv hk (getAccessAddr_spec fo L fuel hk hc hd hkey hf hnc hls) (fun v hv _ => hres v hv) hinv

end Garnish.Lemmas.Runtime.On

namespace Garnish.Lemmas.Runtime.On
open Garnish Gen Garnish.Abs Garnish.Model.Equality Garnish.Model.Runtime Garnish.Lemmas.Runtime
open Garnish.Props.RuntimeRefine

variable {F σ : Type} {S : RStore F σ} {Inv : σ → Prop} {Rd : σ → Nat → Prop}

theorem C10_refine_is_true_value {s : σ} {a : Nat} {v : Val F} (h : Decodes (S.view s) a v) :
    isTrueValue S a s = .ok (v.truthy, s) := isTrueValue_of h

private theorem tester (L : StoreLawsOn S Inv Rd) {s : σ} {a : Nat} {v : Val F} {rest : List Nat} (f : Bool → Bool)
    (hregs : S.regs s = a :: rest) (h : Decodes (S.view s) a v)
    (hi : Inv s := by inv_tac) (hd : Deep S s rest := by deep_tac) :
    PushedI S Inv s ((do let addr ← nextRef S; let result ← isTrueValue S addr; pushBoolean S (f result); pure none :
      RM σ (Option Nat)) s) none rest (Val.ofBool (f v.truthy)) :=
  Core.tester L.toK f hregs h hi fun _ => hd

section
variable (fo : FloatOps F)

theorem C08_refine_perform_op (L : StoreLawsOn S Inv Rd) (op : Instruction) (nop : NumOp)
    {s : σ} {r l : Nat} {vr vl : Val F} {rest : List Nat}
    (hregs : S.regs s = r :: l :: rest) (hl : Decodes (S.view s) l vl) (hr : Decodes (S.view s) r vr)
    (hi : Inv s := by inv_tac) (hd : Deep S s rest := by deep_tac) :
    RefinesOutI S Inv s (performOp S op (Number.apply fo nop) s) none rest l r (arithBinary fo op nop vl vr) := by
  rw [arithBinary_eq]; exact Core.performOp_spec L.toK op _ hregs hl hr hi fun _ => hd

end

end Garnish.Lemmas.Runtime.On
