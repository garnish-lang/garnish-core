/-
C18, wrapping an operand. Two invariants of the reference parser`s run turn the run-based hypotheses `openB` / `acc` of
`WrapOK` (Lemmas/RefWrap2) into conditions on the tokens: after an operator / opener / separator the bottom of the right
spine is an open operand position (`openBottom`), and that position is the Property position of `.` only if the last token
that is not trivia / separator is a `.` (`prevAccess`). For a single value token `wrapValueOK pre v post` is a decidable
condition on the tokens that gives `WrapOK` (`wrapOK_value`). For `( inner )` with balanced `inner` (double parentheses) a
balanced segment is processed without looking at the stack below it and returns to the frame it started in
(`run_balanced`); hence the run over `( inner )` is one operand step (`wrapOK_group`).
-/
import Garnish.Lemmas.RefWrap2
namespace Garnish.Spec
open Garnish Garnish.Gen Garnish.Model.Parser

theorem accessBottom_absorb (tbl : Table) (q : Nat) (rtl : Bool) (d : Definition) (k : Nat) :
    ∀ (t t' : RTree), absorb tbl q rtl d k t = some t' → accessBottom t' = (d == .access)
  | .nil, _, h => by cases h
  | .group _ _ _, _, h => by cases h
  | .node l a ka r, t', h => by
    simp only [absorb] at h
    cases h1 : absorb tbl q rtl d k r with
    | some r' =>
      rw [h1] at h; cases h
      simp only [accessBottom, (absorb_inorderSig tbl q rtl d k r r' h1).2.2, Bool.false_eq_true, if_false]
      exact accessBottom_absorb tbl q rtl d k r r' h1
    | none =>
      rw [h1] at h
      cases hp : tbl.prio a with
      | none => rw [hp] at h; cases h
      | some pa =>
        rw [hp] at h
        simp only at h
        split at h
        · cases h
          simp [accessBottom, RTree.isNil]
        · cases h

theorem attach_bottom (tbl : Table) (q : Nat) (rtl : Bool) (d : Definition) (k : Nat) (t : RTree) :
    openBottom (attach tbl q rtl d k t) = true ∧ accessBottom (attach tbl q rtl d k t) = (d == .access) := by
  refine ⟨by rw [openBottom_eq]; exact (attach_inorderSig tbl q rtl d k t).2, ?_⟩
  unfold attach
  cases h : absorb tbl q rtl d k t with
  | some t' => exact accessBottom_absorb tbl q rtl d k t t' h
  | none => simp [accessBottom, RTree.isNil]

theorem plug_access : ∀ (R X : RTree), X.isNil = false → accessBottom (plug R X) = true →
    accessBottom X = true ∨ accessBottom (asProperty X) = true
  | .nil, X, _, h => Or.inl h
  | .group _ _ _, _, _, h => by simp [plug, accessBottom] at h
  | .node l a ka r, X, hX, h => by
    simp only [plug] at h
    split at h
    · split at h
      · have hn : (asProperty X).isNil = false := by
          unfold asProperty; split
          · rfl
          · exact hX
        simp only [accessBottom, hn, Bool.false_eq_true, if_false] at h
        exact Or.inr h
      · simp only [accessBottom, hX, Bool.false_eq_true, if_false] at h
        exact Or.inl h
    · rename_i hn
      have hn' : (plug r X).isNil = false := by
        cases r with
        | nil => simp [RTree.isNil] at hn
        | node _ _ _ _ => simp only [plug]; split <;> rfl
        | group _ _ _ => rfl
      simp only [accessBottom, hn', Bool.false_eq_true, if_false] at h
      exact plug_access r X hX h

def isSkipSec (s : SecDef) : Bool := s == .annotation || s == .whitespace || s == .subexpression

/-- one step of `prevAccess`: is the last token that is not trivia / separator a `.` -/
def accState (b : Bool) (t : PToken) : Bool :=
  if isSkipSec (getDefinition t.type).2 then b else (getDefinition t.type).1 == .access

def prevAccess (pre : List PToken) : Bool := pre.foldl accState false

structure RInv (b : Bool) (f : Frame) : Prop where
  opn : f.last = .operand ∨ f.last = .suffix ∨ openBottom f.cur = true
  acc : accessBottom f.cur = true → b = true

theorem sep_not_access : ∀ tt : TokenType, (getDefinition tt).2 = .subexpression →
    ((getDefinition tt).1 == Definition.access) = false :=
  TokenType.forall_of_all (by decide)

theorem beforeOperand_rinv {b : Bool} {f g : Frame} {pos : Nat} (hf : RInv b f)
    (h : beforeOperand Table.gen f pos = .ok g) : openBottom g.cur = true ∧ (accessBottom g.cur = true → b = true) := by
  unfold beforeOperand at h
  cases hl : f.last <;> rw [hl] at h <;> simp only at h
  · cases h
    rcases hf.opn with h1 | h1 | h1
    · rw [hl] at h1; cases h1
    · rw [hl] at h1; cases h1
    · exact ⟨h1, hf.acc⟩
  · split at h
    · cases hq : Table.gen.prio .list with
      | none => rw [hq] at h; cases h
      | some q =>
        rw [hq] at h; cases h
        have := attach_bottom Table.gen q false .list (pos - 1) f.cur
        exact ⟨this.1, fun ha => by rw [this.2] at ha; cases ha⟩
    · cases h
  · cases h
  all_goals
    cases h
    rcases hf.opn with h1 | h1 | h1
    · rw [hl] at h1; cases h1
    · rw [hl] at h1; cases h1
    · exact ⟨h1, hf.acc⟩

theorem refStep_rinv {b : Bool} {f f' : Frame} {stack stack' : List Frame} {pos : Nat} {t : PToken} {rest : List PToken}
    (hf : RInv b f) (h : refStep Table.gen f stack pos t rest = .ok (f', stack')) : RInv (accState b t) f' := by
  have hs := stepOk_of_refStep h
  have ha : ActSec Table.gen (getDefinition t.type) (Table.gen.act t.type) := act_sec Table.gen t.type
  unfold accState isSkipSec
  -- once a leaf is plugged in, the bottom is a Property position only if the leaf itself is a `.`; an operator that is
  -- attached leaves the open position it brings at the bottom (`attach_bottom`). The rest is one case per act of the token.
  have leafacc : ∀ (d : Definition) (R : RTree) (k : Nat), accessBottom (plug R (.node .nil d k .nil)) = true →
      (d == .access) = true := by
    intro d R k ha
    rcases plug_access R _ rfl ha with e | e
    · simpa [accessBottom, RTree.isNil] using e
    · unfold asProperty at e
      split at e
      · simp [accessBottom, RTree.isNil] at e
      · simpa [accessBottom, RTree.isNil] using e
  generalize Table.gen.act t.type = a at hs ha
  cases hs <;> simp only [ActSec] at ha
  case skip => simp only [ha]; exact hf
  case space => simp only [ha]; exact ⟨hf.opn, hf.acc⟩
  case operand d l g hb =>
    obtain ⟨rfl, hcl⟩ := ha
    have hsk : (((getDefinition t.type).2 == SecDef.annotation || (getDefinition t.type).2 == SecDef.whitespace ||
        (getDefinition t.type).2 == SecDef.subexpression)) = false := by
      rcases hcl with ⟨h | h, _⟩ | ⟨h, _⟩ <;> rw [h] <;> rfl
    simp only [hsk, Bool.false_eq_true, if_false]
    refine ⟨?_, leafacc _ _ _⟩
    rcases hcl with ⟨_, rfl⟩ | ⟨_, rfl⟩
    · exact Or.inl rfl
    · refine Or.inr (Or.inr ?_)
      rw [openBottom_eq]
      exact plug_leaf_open _ _ _ (by rw [← openBottom_eq]; exact (beforeOperand_rinv hf hb).1)
  case opener d g hb => exact ⟨Or.inr (Or.inr rfl), fun ha => by simp [accessBottom] at ha⟩
  case closer gd gpos parent below hctx hcl hl =>
    refine ⟨Or.inl rfl, fun ha => ?_⟩
    rcases plug_access parent.cur _ rfl ha with e | e <;> simp [accessBottom, asProperty] at e
  case operator d q rtl optional l hl =>
    obtain ⟨rfl, _, _, _, _, hcl⟩ := ha
    have hab := attach_bottom Table.gen q rtl (getDefinition t.type).1 pos f.cur
    have hsk : (((getDefinition t.type).2 == SecDef.annotation || (getDefinition t.type).2 == SecDef.whitespace ||
        (getDefinition t.type).2 == SecDef.subexpression)) = false := by
      rcases hcl with h | h | h | h <;> rw [h] <;> rfl
    simp only [hsk, Bool.false_eq_true, if_false]
    exact ⟨Or.inr (Or.inr hab.1), fun ha => by rw [hab.2] at ha; exact ha⟩
  case sepGroup d hg => simp only [ha.2]; exact ⟨hf.opn, hf.acc⟩
  case sepDrop d hg => simp only [ha.2]; exact ⟨hf.opn, hf.acc⟩
  case sepKeep d q hg hp hl hq =>
    obtain ⟨rfl, hsub⟩ := ha
    have := attach_bottom Table.gen q false (getDefinition t.type).1 pos f.cur
    simp only [hsub]
    refine ⟨Or.inr (Or.inr this.1), fun ha => ?_⟩
    rw [this.2, sep_not_access t.type hsub] at ha; cases ha

theorem refRun_rinv : ∀ (ts : List PToken) (b : Bool) (f : Frame) (stack : List Frame) (pos : Nat) (rest : List PToken)
    (f' : Frame) (stack' : List Frame), RInv b f → refRun Table.gen f stack pos ts rest = .ok (f', stack') →
    RInv (ts.foldl accState b) f'
  | [], _, _, _, _, _, _, _, hf, h => by simp only [refRun] at h; cases h; exact hf
  | t :: ts, b, f, stack, pos, rest, f', stack', hf, h => by
    simp only [refRun] at h
    obtain ⟨⟨f1, s1⟩, hs, h⟩ := Outcome.bind_eq_ok.1 h
    exact refRun_rinv ts _ f1 s1 (pos + 1) rest f' stack' (refStep_rinv hf hs) h

theorem rinv_top : RInv false Frame.top := ⟨Or.inr (Or.inr rfl), fun h => by simp [Frame.top, accessBottom] at h⟩

/-- a value / identifier token that the reference grammar accepts as an operand -/
def isValueTok (v : PToken) : Bool :=
  ((getDefinition v.type).2 == .value || (getDefinition v.type).2 == .identifier) &&
    !((getDefinition v.type).1 == .drop || (getDefinition v.type).1 == .expressionTerminator)

/-- `pre ( v ) post`: `v` is a value token; it is not an Identifier in the Property position of a `.`; the first operator
    after it walks over it (true for every operator of the table: a value binds tightest) -/
def wrapValueOK (pre : List PToken) (v : PToken) (post : List PToken) : Bool :=
  isValueTok v && (!prevAccess pre || !((getDefinition v.type).1 == .identifier)) &&
    NextPasses (.node .nil (getDefinition v.type).1 0 .nil) post

theorem valTok_act {v : PToken} (hv : isValueTok v = true) :
    Table.gen.act v.type = .operand (getDefinition v.type).1 .operand := by
  unfold isValueTok at hv
  simp only [Bool.and_eq_true, Bool.or_eq_true, beq_iff_eq, Bool.not_eq_true'] at hv
  exact operand_act Table.gen (Or.inl ⟨hv.1, rfl, hv.2⟩)

theorem refStep_value {v : PToken} (hv : isValueTok v = true) (f : Frame) (stack : List Frame) (pos : Nat)
    (rest : List PToken) :
    refStep Table.gen f stack pos v rest =
      Outcome.bind (beforeOperand Table.gen f pos) fun f1 =>
        .ok ({ f1 with cur := plug f1.cur (.node .nil (getDefinition v.type).1 pos .nil), last := .operand, ws := false,
                       prevSep := false }, stack) := by
  rw [refStep_eq, valTok_act hv]
  rfl

theorem value_scan {v : PToken} (hv : isValueTok v = true) :
    isFiller v.type = false ∧ isCloser v.type = false ∧ openerOf v.type = none ∧ isSeparator v.type = false := by
  have := gen_act v.type
  rw [valTok_act hv] at this
  exact ⟨this.1, this.2.1, this.2.2.1, this.2.2.2.1⟩

theorem value_head {v : PToken} (hv : isValueTok v = true) :
    (isFiller v.type || isSeparator v.type) = false ∧ isCloser v.type = false := by
  obtain ⟨h1, h2, _, h4⟩ := value_scan hv
  exact ⟨by rw [h1, h4]; rfl, h2⟩

theorem nextPasses_leaf_pos (d : Definition) (p : Nat) : ∀ post : List PToken,
    NextPasses (.node .nil d p .nil) post = NextPasses (.node .nil d 0 .nil) post
  | [] => rfl
  | t :: r => by
    simp only [NextPasses, nextPasses_leaf_pos d p r]
    rfl

theorem wrapOK_value {pre post : List PToken} {v : PToken} {T : RTree}
    (hrun : refLoop Table.gen Frame.top [] 0 (pre ++ ([v] ++ post)) = .ok T) (hs : wrapValueOK pre v post = true) :
    ∃ f stack f1 M M0, WrapOK pre [v] post f stack f1 M M0 := by
  unfold wrapValueOK at hs
  simp only [Bool.and_eq_true, Bool.or_eq_true, Bool.not_eq_true'] at hs
  obtain ⟨⟨hv, hacc⟩, hnext⟩ := hs
  rw [refLoop_append Table.gen pre ([v] ++ post)] at hrun
  obtain ⟨⟨f, stack⟩, hpre, hrun⟩ := Outcome.bind_eq_ok.1 hrun
  simp only [Nat.zero_add, List.cons_append, List.nil_append, refLoop, refStep_value hv] at hrun
  obtain ⟨_, hstep, _⟩ := Outcome.bind_eq_ok.1 hrun
  obtain ⟨f1, hb, _⟩ := Outcome.bind_eq_ok.1 hstep
  have hinv := refRun_rinv pre false Frame.top [] 0 _ f stack rinv_top hpre
  obtain ⟨hopen, hac⟩ := beforeOperand_rinv hinv hb
  have hhead := value_head hv
  refine ⟨f, stack, f1, .node .nil (getDefinition v.type).1 pre.length .nil, .node .nil (getDefinition v.type).1 1 .nil,
    ⟨hpre, hb, hopen, ?_, ?_, ?_, rfl, ⟨[], v, rfl, ?_⟩, ?_, ?_⟩⟩
  · simp [closerFollows, hhead.1, hhead.2]
  · simp only [refRun, List.nil_append, refStep_value hv, hb, Outcome.bind]
  · simp only [refRun, List.nil_append, refStep_value hv, Outcome.bind]
    rfl
  · unfold endsOperand
    unfold isValueTok at hv
    simp only [Bool.and_eq_true, Bool.or_eq_true] at hv
    simp only [Bool.and_eq_true, Bool.or_eq_true, hhead.1, Bool.not_false, and_true]
    rcases hv.1 with h | h
    · exact Or.inl (Or.inl h)
    · exact Or.inl (Or.inr h)
  · rcases hacc with h | h
    · left
      cases ha : accessBottom f1.cur with
      | false => rfl
      | true => have := hac ha; unfold prevAccess at h; rw [h] at this; cases this
    · right
      unfold asProperty
      split
      · rename_i k heq
        injection heq with _ e _ _
        rw [e] at h; simp at h
      · rfl
  · rw [nextPasses_leaf_pos]; exact hnext

def secOf (t : PToken) : SecDef := (getDefinition t.type).2

/-- brackets balanced, starting at depth `d` -/
def balancedFrom : Nat → List PToken → Bool
  | d, [] => d == 0
  | d, t :: r =>
    if secOf t == .startGrouping then balancedFrom (d + 1) r
    else if secOf t == .endGrouping then d != 0 && balancedFrom (d - 1) r
    else balancedFrom d r

theorem beforeOperand_ctx {f g : Frame} {pos : Nat} (h : beforeOperand Table.gen f pos = .ok g) : g.ctx = f.ctx := by
  unfold beforeOperand at h
  split at h
  all_goals first
    | (cases h; rfl)
    | cases h
    | skip
  split at h
  · cases hq : Table.gen.prio .list with
    | none => rw [hq] at h; cases h
    | some q => rw [hq] at h; cases h; rfl
  · cases h

theorem refStep_noclose {t : PToken} (ht : secOf t ≠ .endGrouping) (f : Frame) (X : List Frame) (pos : Nat)
    (rest : List PToken) :
    refStep Table.gen f X pos t rest = (refStep Table.gen f [] pos t rest).mapT (fun p => (p.1, p.2 ++ X)) :=
  refStep_frame Table.gen f [] X pos t rest (Or.inr fun e => by
    have ha := act_sec Table.gen t.type
    rw [e] at ha
    exact ht ha)

theorem refStep_noclose_shape {t : PToken} (ht : secOf t ≠ .endGrouping) {f f' : Frame} {Y : List Frame} {pos : Nat}
    {rest : List PToken} (h : refStep Table.gen f [] pos t rest = .ok (f', Y)) :
    (secOf t = .startGrouping ∧ ∃ g1, Y = [g1] ∧ g1.ctx = f.ctx) ∨ (secOf t ≠ .startGrouping ∧ Y = [] ∧ f'.ctx = f.ctx) := by
  have hs := stepOk_of_refStep h
  have ha : ActSec Table.gen (getDefinition t.type) (Table.gen.act t.type) := act_sec Table.gen t.type
  unfold secOf at ht ⊢
  generalize Table.gen.act t.type = a at hs ha
  cases hs <;> simp only [ActSec] at ha
  case closer => exact absurd ha ht
  case opener d g hb => exact Or.inl ⟨ha.2, _, rfl, (beforeOperand_ctx hb : g.ctx = f.ctx)⟩
  case operand d l g hb =>
    refine Or.inr ⟨?_, rfl, (beforeOperand_ctx hb : g.ctx = f.ctx)⟩
    rcases ha.2 with ⟨h1 | h1, _⟩ | ⟨h1, _⟩ <;> simp [h1]
  case operator => exact Or.inr ⟨by rcases ha.2.2.2.2.2 with h1 | h1 | h1 | h1 <;> simp [h1], rfl, rfl⟩
  all_goals first
    | exact Or.inr ⟨by simp [ha], rfl, rfl⟩
    | exact Or.inr ⟨by simp [ha.2], rfl, rfl⟩

theorem refStep_closer {t : PToken} (ht : secOf t = .endGrouping) {f f' : Frame} {parent : Frame} {X S' : List Frame}
    {pos : Nat} {rest : List PToken} (h : refStep Table.gen f (parent :: X) pos t rest = .ok (f', S')) :
    S' = X ∧ f'.ctx = parent.ctx ∧ ∀ X', refStep Table.gen f (parent :: X') pos t rest = .ok (f', X') := by
  have hs := stepOk_of_refStep h
  have ha : ActSec Table.gen (getDefinition t.type) (Table.gen.act t.type) := act_sec Table.gen t.type
  unfold secOf at ht
  have hrun : ∀ X', refStep Table.gen f (parent :: X') pos t rest =
      (Table.gen.act t.type).run Table.gen f (parent :: X') pos t rest := fun X' => refStep_eq ..
  generalize Table.gen.act t.type = a at hs ha hrun
  cases hs <;> simp only [ActSec, ht, reduceCtorEq, and_false, false_and, or_self] at ha
  case closer gd gpos parent' hctx hcl hl hst =>
    cases hst
    refine ⟨rfl, rfl, fun X' => ?_⟩
    rw [hrun]
    simp only [Act.run, hctx, hcl, hl, bne_self_eq_false, Bool.false_eq_true, if_false]

def bottomCtx (g : Frame) (S : List Frame) : Option (Definition × Nat) :=
  match S.getLast? with
  | none => g.ctx
  | some b => b.ctx

theorem bottomCtx_cons (f g a : Frame) (S : List Frame) (h : S = [] → a.ctx = g.ctx) :
    bottomCtx f (a :: S) = bottomCtx g S := by
  cases S with
  | nil => simp [bottomCtx, h rfl]
  | cons x xs =>
    simp only [bottomCtx, List.getLast?_cons_cons]
    rw [List.getLast?_eq_some_getLast (List.cons_ne_nil x xs)]

theorem run_balanced (base : List Frame) : ∀ (ts : List PToken) (d : Nat) (g : Frame) (S : List Frame) (pos : Nat)
    (rest : List PToken) (g' : Frame) (S' : List Frame), S.length = d → balancedFrom d ts = true →
    refRun Table.gen g (S ++ base) pos ts rest = .ok (g', S') →
    S' = base ∧ refRun Table.gen g S pos ts rest = .ok (g', []) ∧ g'.ctx = bottomCtx g S
  | [], d, g, S, pos, rest, g', S', hd, hb, h => by
    simp only [balancedFrom, beq_iff_eq] at hb
    subst hb
    have : S = [] := List.eq_nil_of_length_eq_zero hd
    subst this
    simp only [refRun, List.nil_append] at h ⊢
    cases h
    exact ⟨rfl, rfl, rfl⟩
  | t :: ts, d, g, S, pos, rest, g', S', hd, hb, h => by
    simp only [balancedFrom] at hb
    simp only [refRun] at h ⊢
    by_cases hc : secOf t = .endGrouping
    ·
      have hns : (secOf t == SecDef.startGrouping) = false := by rw [hc]; rfl
      rw [hns, if_neg (by simp), hc, if_pos (by rfl)] at hb
      rw [Bool.and_eq_true] at hb
      obtain ⟨hd0, hb⟩ := hb
      cases S with
      | nil => simp only [List.length_nil] at hd; subst hd; simp at hd0
      | cons parent S0 =>
        simp only [List.cons_append] at h
        obtain ⟨⟨f1, S1⟩, hs, h⟩ := Outcome.bind_eq_ok.1 h
        obtain ⟨e1, e2, e3⟩ := refStep_closer hc hs
        subst e1
        have ih := run_balanced base ts (d - 1) f1 S0 (pos + 1) rest g' S' (by rw [List.length_cons] at hd; omega) hb h
        rw [e3 S0]
        simp only [Outcome.bind]
        refine ⟨ih.1, ih.2.1, ?_⟩
        rw [ih.2.2]
        exact (bottomCtx_cons g f1 parent S0 (fun _ => e2.symm)).symm
    · have hce : (secOf t == SecDef.endGrouping) = false := by simpa using hc
      rw [refStep_noclose hc g (S ++ base)] at h
      rw [refStep_noclose hc g S]
      cases hs : refStep Table.gen g [] pos t (ts ++ rest) with
      | ok fs =>
        obtain ⟨f1, Y⟩ := fs
        rw [hs] at h
        simp only [Outcome.mapT, Outcome.bind] at h ⊢
        rcases refStep_noclose_shape hc hs with ⟨hop, g1, hY, hg1⟩ | ⟨hnop, hY, hctx⟩
        · subst hY
          simp only [hop, beq_self_eq_true, if_true] at hb
          have ih := run_balanced base ts (d + 1) f1 (g1 :: S) (pos + 1) rest g' S' (by simp [hd]) hb
            (by simpa using h)
          refine ⟨ih.1, by simpa using ih.2.1, ?_⟩
          rw [ih.2.2]
          exact bottomCtx_cons f1 g g1 S (fun _ => hg1)
        · subst hY
          have hns : (secOf t == SecDef.startGrouping) = false := by simpa using hnop
          simp only [hns, hce, Bool.false_eq_true, if_false] at hb
          have ih := run_balanced base ts d f1 S (pos + 1) rest g' S' hd hb (by simpa using h)
          refine ⟨ih.1, by simpa using ih.2.1, ?_⟩
          rw [ih.2.2]
          unfold bottomCtx
          cases S.getLast? with
          | none => exact hctx
          | some b => rfl
      | err _ => rw [hs] at h; cases h
      | panic _ => rw [hs] at h; cases h
      | fuelOut => rw [hs] at h; cases h

theorem refStep_close_inv {c : PToken} (hc : c.type = .endGroup) {g parent F : Frame} {stack S : List Frame} {pos gp : Nat}
    {rest : List PToken} (hctx : g.ctx = some (.group, gp))
    (h : refStep Table.gen g (parent :: stack) pos c rest = .ok (F, S)) :
    F = { parent with cur := plug parent.cur (.group .group gp g.cur), last := .operand, ws := false, prevSep := false } ∧
      S = stack ∧ (g.last == .op || g.last == .sep) = false := by
  have ha : Table.gen.act c.type = .closer := by rw [hc]; rfl
  rw [refStep_eq, ha] at h
  simp only [Act.run, hctx] at h
  split at h
  · cases h
  · split at h
    · cases h
    · rename_i h2
      cases h
      exact ⟨rfl, rfl, by simpa using h2⟩

theorem nextPasses_group (d : Definition) (k : Nat) (i : RTree) : ∀ post : List PToken,
    NextPasses (.group d k i) post = true
  | [] => rfl
  | t :: r => by
    have ht : tokPasses (.group d k i) t = true := by
      unfold tokPasses
      have hp : ∀ q rtl, passes Table.gen q rtl (.group d k i) = true := fun _ _ => rfl
      split <;> first | rfl | (split <;> first | exact hp _ _ | rfl)
    simp only [NextPasses, ht, nextPasses_group d k i r, Bool.true_and, ite_self]

theorem closerFollows_closeTok {c : PToken} (hc : c.type = .endGroup) (r : List PToken) : closerFollows (c :: r) = true := by
  simp [closerFollows, hc, isFiller, isSeparator, isCloser]

theorem wrapOK_group {pre post inner : List PToken} {o c : PToken} {T : RTree} (ho : o.type = .startGroup)
    (hc : c.type = .endGroup) (hbal : balancedFrom 0 inner = true)
    (hrun : refLoop Table.gen Frame.top [] 0 (pre ++ ((o :: (inner ++ [c])) ++ post)) = .ok T) :
    ∃ f stack f1 M M0, WrapOK pre (o :: (inner ++ [c])) post f stack f1 M M0 := by
  rw [refLoop_append Table.gen pre ((o :: (inner ++ [c])) ++ post)] at hrun
  obtain ⟨⟨f, stack⟩, hpre, hrun⟩ := Outcome.bind_eq_ok.1 hrun
  simp only [Nat.zero_add] at hrun
  rw [refLoop_append Table.gen (o :: (inner ++ [c])) post] at hrun
  obtain ⟨⟨F, S⟩, hmid, _⟩ := Outcome.bind_eq_ok.1 hrun
  -- the opener
  have hmid0 := hmid
  simp only [refRun, refStep_open ho] at hmid
  obtain ⟨_, hstep, hmid⟩ := Outcome.bind_eq_ok.1 hmid
  obtain ⟨f1, hb, hstep⟩ := Outcome.bind_eq_ok.1 hstep
  cases hstep
  -- the content
  rw [refRun_append Table.gen inner [c] _ _ _ post] at hmid
  obtain ⟨⟨g', S1⟩, hin, hmid⟩ := Outcome.bind_eq_ok.1 hmid
  simp only [refRun, List.nil_append] at hmid
  obtain ⟨hS1, hstrip, hgctx⟩ := run_balanced ({ f1 with ws := false } :: stack) inner 0 (groupFrame pre.length) []
    (pre.length + 1) ([c] ++ post) g' S1 rfl hbal (by simpa using hin)
  subst hS1
  have hgctx' : g'.ctx = some (.group, pre.length) := hgctx
  -- the closer
  obtain ⟨FS', hcl, hmid⟩ := Outcome.bind_eq_ok.1 hmid
  obtain ⟨hF, hS, hlast⟩ := refStep_close_inv hc hgctx' (F := FS'.1) (S := FS'.2) hcl
  -- the same content on its own
  have hcf : closerFollows ([c] ++ post) = closerFollows ([c] ++ []) := by
    simp only [List.cons_append, List.nil_append, closerFollows_closeTok hc]
  have hstrip' : refRun Table.gen (groupFrame pre.length) [] (pre.length + 1) inner ([c] ++ []) = .ok (g', []) := by
    rw [← refRun_rest_congr Table.gen inner _ _ _ hcf]; exact hstrip
  have hsim := refRun_sim eok_erase Table.gen inner (pre.length + 1) 2 ([c] ++ [])
    (show FSim EErase (groupFrame pre.length) (groupFrame 1) from ⟨rfl, .nil, rfl, rfl, rfl⟩) LSim.nil
  rw [hstrip'] at hsim
  obtain ⟨⟨g0, S0⟩, h0, hfs, hls⟩ := hsim.of_ok
  simp only at hfs hls
  cases hls
  obtain ⟨q, hg0ctx⟩ := hfs.ctx_of hgctx'
  have hl0 : (g0.last == .op || g0.last == .sep) = false := by rw [← hfs.last]; exact hlast
  have hbase0 := refRun_base Table.gen [{ groupFrame 0 with ws := false }] inner (groupFrame 1) [] 2 ([c] ++ []) h0
  simp only [List.nil_append] at hbase0
  have hinv := refRun_rinv pre false Frame.top [] 0 _ f stack rinv_top hpre
  obtain ⟨hopen, _⟩ := beforeOperand_rinv hinv hb
  refine ⟨f, stack, f1, .group .group pre.length g'.cur, .group .group q g0.cur,
    ⟨hpre, hb, hopen, ?_, ?_, ?_, ?_, ⟨o :: inner, c, by simp, ?_⟩, Or.inr rfl, nextPasses_group _ _ _ _⟩⟩
  · rw [List.cons_append]; exact closerFollows_open ho _
  · rw [hmid0, ← hmid]
    have e1 : FS' = (FS'.1, FS'.2) := rfl
    rw [e1, hF, hS]
  · simp only [refRun, refStep_open ho]
    have hb0 : beforeOperand Table.gen (groupFrame 0) 1 = .ok (groupFrame 0) := rfl
    rw [hb0]
    simp only [Outcome.bind]
    rw [refRun_append Table.gen inner [c] _ _ _ [], hbase0]
    simp only [Outcome.bind, refRun, List.nil_append]
    rw [refStep_close_of hc g0 _ [] _ q [] hg0ctx hl0]
    rfl
  · have := eok_erase.ofSim _ _ hfs.cur
    unfold EErase at this
    simp only [RTree.eraseTok, this]
  · unfold endsOperand
    rw [hc]
    rfl

end Garnish.Spec
