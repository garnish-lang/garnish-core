/-
Compile correctness, the layout, first half: `emit` only appends instructions, constants and jump entries; the layout
loop overwrites a jump entry only when it is the placeholder of a root that is still pending (`Ev`; for the loop itself
`layoutRoots_ev`, Lemmas/CompileLoop.lean). `Pre` is the relation between the states before and after emitting main-line code,
`Ev s sF` the weaker one that also holds across the laying out of roots: what `s` holds is still there in `sF`, except the
placeholders of the roots pending in `s`.
Second half: `Holds P p o` — the stretch `o` written at `p` is there in the program `P` — and `Holds.final`: what `emit` wrote is
still there in every later state of the layout (`Within`, `Ev`).
-/
import Garnish.Lemmas.CompileOut
namespace Garnish.Abs
open Garnish Gen Garnish.Spec

variable {F : Type}

/-- a root that stands for a nested `{}` body is terminated by `EndExpression` and is its own containing
expression -/
def RefOK (r : Root F) : Prop := ∀ id, r.kind = .ref id → r.containing = r.patch ∧ r.term = [(.endExpression, none)]

/-- `s'` comes after `s` by emitting main-line code: everything present stays, new pending roots have new
jump entries -/
structure Pre (s s' : LState F) : Prop where
  instrs : ∀ i, i < s.instrs.size → s'.instrs[i]? = s.instrs[i]?
  isize : s.instrs.size ≤ s'.instrs.size
  consts : ∀ i, i < s.consts.size → s'.consts[i]? = s.consts[i]?
  csize : s.consts.size ≤ s'.consts.size
  jumps : ∀ i, i < s.jumps.size → s'.jumps[i]? = s.jumps[i]?
  jsize : s.jumps.size ≤ s'.jumps.size
  pend : ∀ r ∈ s'.pending, r ∈ s.pending ∨
    (s.jumps.size ≤ r.patch ∧ r.patch < s'.jumps.size ∧ r.containing < s'.jumps.size ∧ RefOK r)
  keep : ∀ r ∈ s.pending, r ∈ s'.pending
  done : s'.done = s.done

theorem Pre.refl (s : LState F) : Pre s s :=
  ⟨fun _ _ => rfl, Nat.le_refl _, fun _ _ => rfl, Nat.le_refl _, fun _ _ => rfl, Nat.le_refl _,
   fun _ h => .inl h, fun _ h => h, rfl⟩

theorem Pre.trans {a b c : LState F} (h1 : Pre a b) (h2 : Pre b c) : Pre a c where
  instrs i hi := by rw [h2.instrs i (by have := h1.isize; omega), h1.instrs i hi]
  isize := Nat.le_trans h1.isize h2.isize
  consts i hi := by rw [h2.consts i (by have := h1.csize; omega), h1.consts i hi]
  csize := Nat.le_trans h1.csize h2.csize
  jumps i hi := by rw [h2.jumps i (by have := h1.jsize; omega), h1.jumps i hi]
  jsize := Nat.le_trans h1.jsize h2.jsize
  pend r hr := by
    have j1 := h1.jsize
    have j2 := h2.jsize
    rcases h2.pend r hr with h | ⟨ha, hb, hc, hd⟩
    · rcases h1.pend r h with h' | ⟨ha, hb, hc, hd⟩
      · exact .inl h'
      · exact .inr ⟨ha, by omega, by omega, hd⟩
    · exact .inr ⟨by omega, hb, hc, hd⟩
  keep r hr := h2.keep r (h1.keep r hr)
  done := by rw [h2.done, h1.done]

theorem Pre.push (s : LState F) (i : Instruction) (d : Option Nat) : Pre s (s.push i d) where
  instrs k hk := by simp [LState.push, Array.getElem?_push, Nat.ne_of_lt hk]
  isize := by simp [LState.push]
  consts _ _ := rfl
  csize := Nat.le_refl _
  jumps _ _ := rfl
  jsize := Nat.le_refl _
  pend _ h := .inl h
  keep _ h := h
  done := rfl

theorem Pre.pushConst (s : LState F) (i : Instruction) (v : Val F) : Pre s (s.pushConst i v) where
  instrs k hk := by simp [LState.pushConst, Array.getElem?_push, Nat.ne_of_lt hk]
  isize := by simp [LState.pushConst]
  consts k hk := by simp [LState.pushConst, Array.getElem?_push, Nat.ne_of_lt hk]
  csize := by simp [LState.pushConst]
  jumps _ _ := rfl
  jsize := Nat.le_refl _
  pend _ h := .inl h
  keep _ h := h
  done := rfl

/-- append-only part of `Pre` (no claim about which roots are new) -/
structure App (s s' : LState F) : Prop where
  instrs : ∀ i, i < s.instrs.size → s'.instrs[i]? = s.instrs[i]?
  isize : s.instrs.size ≤ s'.instrs.size
  consts : ∀ i, i < s.consts.size → s'.consts[i]? = s.consts[i]?
  csize : s.consts.size ≤ s'.consts.size
  jumps : ∀ i, i < s.jumps.size → s'.jumps[i]? = s.jumps[i]?
  jsize : s.jumps.size ≤ s'.jumps.size
  keep : ∀ r ∈ s.pending, r ∈ s'.pending

theorem Pre.toApp {s s' : LState F} (h : Pre s s') : App s s' :=
  ⟨h.instrs, h.isize, h.consts, h.csize, h.jumps, h.jsize, h.keep⟩

theorem App.refl (s : LState F) : App s s := (Pre.refl s).toApp

theorem App.push (s : LState F) (i : Instruction) (d : Option Nat) : App s (s.push i d) := (Pre.push s i d).toApp
theorem App.pushConst (s : LState F) (i : Instruction) (v : Val F) : App s (s.pushConst i v) := (Pre.pushConst s i v).toApp

@[simp] theorem push_isize (s : LState F) (i : Instruction) (d : Option Nat) :
    (s.push i d).instrs.size = s.instrs.size + 1 := by simp [LState.push]
@[simp] theorem push_jumps (s : LState F) (i : Instruction) (d : Option Nat) : (s.push i d).jumps = s.jumps := rfl
@[simp] theorem push_consts (s : LState F) (i : Instruction) (d : Option Nat) : (s.push i d).consts = s.consts := rfl
@[simp] theorem push_pending (s : LState F) (i : Instruction) (d : Option Nat) : (s.push i d).pending = s.pending := rfl
@[simp] theorem pushConst_isize (s : LState F) (i : Instruction) (v : Val F) :
    (s.pushConst i v).instrs.size = s.instrs.size + 1 := by simp [LState.pushConst]
@[simp] theorem pushConst_jumps (s : LState F) (i : Instruction) (v : Val F) : (s.pushConst i v).jumps = s.jumps := rfl
@[simp] theorem pushConst_pending (s : LState F) (i : Instruction) (v : Val F) : (s.pushConst i v).pending = s.pending := rfl
@[simp] theorem pushJump_instrs (s : LState F) (t : Nat) : (s.pushJump t).instrs = s.instrs := rfl
@[simp] theorem pushJump_jsize (s : LState F) (t : Nat) : (s.pushJump t).jumps.size = s.jumps.size + 1 := by
  simp [LState.pushJump]
@[simp] theorem pushJump_pending (s : LState F) (t : Nat) : (s.pushJump t).pending = s.pending := rfl
@[simp] theorem pushRoot_instrs (s : LState F) (r : Root F) : (s.pushRoot r).instrs = s.instrs := rfl
@[simp] theorem pushRoot_jumps (s : LState F) (r : Root F) : (s.pushRoot r).jumps = s.jumps := rfl
@[simp] theorem pushRoot_pending (s : LState F) (r : Root F) : (s.pushRoot r).pending = r :: s.pending := rfl

theorem Wrote.pre {cur : Nat} {s s' : LState F} {o : Out F} (h : Wrote s s' o) (hc : cur < s.jumps.size)
    (hr : RootsNew cur s.pos o) : Pre s s' where
  instrs i hi := by rw [h.instrs, Array.getElem?_append_left hi]
  isize := by rw [h.instrs]; simp
  consts i hi := by rw [h.consts, Array.getElem?_append_left hi]
  csize := by rw [h.consts]; simp
  jumps i hi := by rw [h.jumps, Array.getElem?_append_left hi]
  jsize := by rw [h.jumps]; simp
  pend r hm := by
    rw [h.pending, List.mem_append] at hm
    rcases hm with hm | hm
    · obtain ⟨q, hq, rfl⟩ := List.mem_map.1 hm
      obtain ⟨h1, h3⟩ := hr q hq
      have h2 := h1.lt
      rw [← h.pos] at h2
      refine .inr ⟨h2.1, h2.2, ?_, ?_⟩
      · rcases h3 with ⟨_, _, _, hc', _⟩ | ⟨_, _, hc', _⟩
        · rw [hc']; exact Nat.lt_of_lt_of_le hc (Nat.le_trans h2.1 (Nat.le_of_lt h2.2))
        · rw [hc']; exact h2.2
      · intro id hk
        rcases h3 with ⟨_, _, hk', _⟩ | ⟨_, _, hc', ht⟩
        · rw [hk'] at hk; cases hk
        · exact ⟨hc', ht⟩
    · exact .inl hm
  keep r hm := by rw [h.pending]; exact List.mem_append.2 (.inr hm)
  done := h.done

theorem Wrote.isize {s s' : LState F} {o : Out F} (h : Wrote s s' o) : s'.instrs.size = s.instrs.size + o.instrs.length := by
  rw [h.instrs]; simp

theorem Wrote.jsize {s s' : LState F} {o : Out F} (h : Wrote s s' o) : s.jumps.size ≤ s'.jumps.size := by
  rw [h.jumps]; simp

theorem emit_pre (root cur : Nat) (e : Expr F) (s : LState F) (hc : cur < s.jumps.size) :
    Pre s (emit root cur e s) ∧ (emit root cur e s).instrs.size = s.instrs.size + len e :=
  ⟨(emit_wrote root cur e s).pre hc (out_roots cur e _), by rw [(emit_wrote root cur e s).isize, out_len]⟩

def PendOK (s : LState F) : Prop := ∀ r ∈ s.pending, r.patch < s.jumps.size

theorem PendOK.of_pre {s t : LState F} (h : PendOK s) (p : Pre s t) : PendOK t := by
  intro r hr
  rcases p.pend r hr with h' | ⟨_, h2, _⟩
  · have := h r h'; have := p.jsize; omega
  · exact h2

structure Ev (s s' : LState F) : Prop where
  instrs : ∀ i, i < s.instrs.size → s'.instrs[i]? = s.instrs[i]?
  isize : s.instrs.size ≤ s'.instrs.size
  consts : ∀ i, i < s.consts.size → s'.consts[i]? = s.consts[i]?
  csize : s.consts.size ≤ s'.consts.size
  jumps : ∀ i, i < s.jumps.size → (∀ r ∈ s.pending, r.patch ≠ i) → s'.jumps[i]? = s.jumps[i]?
  jsize : s.jumps.size ≤ s'.jumps.size
  pend : ∀ r ∈ s'.pending, r ∈ s.pending ∨ s.jumps.size ≤ r.patch

theorem Ev.refl (s : LState F) : Ev s s :=
  ⟨fun _ _ => rfl, Nat.le_refl _, fun _ _ => rfl, Nat.le_refl _, fun _ _ _ => rfl, Nat.le_refl _, fun _ h => .inl h⟩

theorem Ev.trans {a b c : LState F} (h1 : Ev a b) (h2 : Ev b c) : Ev a c where
  instrs i hi := by rw [h2.instrs i (by have := h1.isize; omega), h1.instrs i hi]
  isize := Nat.le_trans h1.isize h2.isize
  consts i hi := by rw [h2.consts i (by have := h1.csize; omega), h1.consts i hi]
  csize := Nat.le_trans h1.csize h2.csize
  jumps i hi hn := by
    rw [h2.jumps i (by have := h1.jsize; omega) ?_, h1.jumps i hi hn]
    intro r hr
    rcases h1.pend r hr with h | h
    · exact hn r h
    · omega
  jsize := Nat.le_trans h1.jsize h2.jsize
  pend r hr := by
    rcases h2.pend r hr with h | h
    · exact h1.pend r h
    · have := h1.jsize; exact .inr (by omega)

theorem Pre.toEv {s s' : LState F} (h : Pre s s') : Ev s s' :=
  ⟨h.instrs, h.isize, h.consts, h.csize, fun i hi _ => h.jumps i hi, h.jsize,
   fun r hr => (h.pend r hr).imp id (·.1)⟩

@[simp] theorem toProg_instrs (s : LState F) : s.toProg.instrs = s.instrs := rfl
@[simp] theorem toProg_jumps (s : LState F) : s.toProg.jumps = s.jumps := rfl
@[simp] theorem toProg_consts (s : LState F) : s.toProg.consts = s.consts := rfl

def rootBody (bodies : List (Nat × Expr F)) (r : Root F) : Option (Expr F) :=
  match r.kind with
  | .code e => some e
  | .ref id => lookupBody bodies id

def LabelOK (r : Root F) : Prop := ∀ id, r.kind = .ref id → r.patch = id

/-- the root is laid out in `P`: its jump entry points at its main line, which is followed by its terminators
(and a nested body sits at the jump entry that is its id) -/
def RootLocated (bodies : List (Nat × Expr F)) (P : Prog F) (r : Root F) : Prop :=
  LabelOK r ∧ ∀ b, rootBody bodies r = some b →
    ∃ tb, P.jumps[r.patch]? = some tb ∧ Located P r.patch r.containing tb b ∧
      InstrsAt P (tb + len b) (termsAfter P (tb + len b) r.term)

theorem instr_at {t sM sF : LState F} {i : Instruction} {d : Option Nat} (h1 : App (t.push i d) sM) (h2 : Ev sM sF) :
    sF.toProg.instrs[t.instrs.size]? = some (i, d) := by
  have k : t.instrs.size < (t.push i d).instrs.size := by simp
  have := h1.isize
  rw [toProg_instrs, h2.instrs _ (by omega), h1.instrs _ k]
  simp [LState.push]

/-- `sM` comes after `t'`, the state in which the emission of an expression that started at jump-table size
`lo` ended: everything of `t'` is still there, and a root pending in `sM` that was not pending in `t'` has its
placeholder outside the jump entries `lo ..` allocated by that emission (or is one of the arm placeholders
`idx` of the else-chain being emitted) -/
def Within (lo : Nat) (t' sM : LState F) (idx : List Nat) : Prop :=
  App t' sM ∧ ∀ r ∈ sM.pending, r ∈ t'.pending ∨ r.patch < lo ∨ t'.jumps.size ≤ r.patch ∨ r.patch ∈ idx

theorem Pre.within {a b : LState F} (p : Pre a b) (lo : Nat) : Within lo a b [] :=
  ⟨p.toApp, fun r hr => by
    rcases p.pend r hr with h | ⟨h, _⟩
    · exact .inl h
    · exact .inr (.inr (.inl h))⟩

/-- the stretch `o`, written at `p`, is there in `P`: its instructions, its constants, its join entries (the
placeholders are patched when their roots are laid out) -/
structure Holds (P : Prog F) (p : Pos) (o : Out F) : Prop where
  instrs : ∀ i x, o.instrs[i]? = some x → P.instrs[p.ni + i]? = some x
  consts : ∀ i x, o.consts[i]? = some x → P.consts[p.nc + i]? = some x
  jumps : ∀ i t, o.jumps[i]? = some (some t) → P.jumps[p.nj + i]? = some t

theorem Holds.left {P : Prog F} {p : Pos} {a b : Out F} (h : Holds P p (a ++ b)) : Holds P p a :=
  ⟨fun i x hx => h.instrs i x (by simp [List.getElem?_append_left (List.getElem?_eq_some_iff.1 hx).1, hx]),
   fun i x hx => h.consts i x (by simp [List.getElem?_append_left (List.getElem?_eq_some_iff.1 hx).1, hx]),
   fun i x hx => h.jumps i x (by simp [List.getElem?_append_left (List.getElem?_eq_some_iff.1 hx).1, hx])⟩

theorem Holds.right {P : Prog F} {p : Pos} {a b : Out F} (h : Holds P p (a ++ b)) : Holds P (p.after a) b :=
  ⟨fun i x hx => by
     have := h.instrs (a.instrs.length + i) x (by simp [List.getElem?_append_right, hx])
     simpa [Pos.after, Nat.add_assoc] using this,
   fun i x hx => by
     have := h.consts (a.consts.length + i) x (by simp [List.getElem?_append_right, hx])
     simpa [Pos.after, Nat.add_assoc] using this,
   fun i x hx => by
     have := h.jumps (a.jumps.length + i) x (by simp [List.getElem?_append_right, hx])
     simpa [Pos.after, Nat.add_assoc] using this⟩

theorem Holds.lastI {P : Prog F} {p : Pos} {a : Out F} {i : Instruction} {d : Option Nat} (h : Holds P p (a ++ oI i d)) :
    P.instrs[(p.after a).ni]? = some (i, d) := by
  have := h.right.instrs 0 (i, d) rfl
  simpa using this

theorem Holds.constI {P : Prog F} {p : Pos} {i : Instruction} {v : Val F} (h : Holds P p (oC p i v)) :
    ∃ k, P.instrs[p.ni]? = some (i, some k) ∧ P.consts[k]? = some v :=
  ⟨p.nc, by simpa using h.instrs 0 _ rfl, by simpa using h.consts 0 _ rfl⟩

/-- a stretch written from `s` is still there at the end of the layout: a join entry is overwritten by no root, since the
roots pending later have their placeholders among the `none` slots or outside the stretch -/
theorem Holds.final {s t' sM sF : LState F} {o : Out F} {idx : List Nat} (hw : Wrote s t' o) (hp : PendOK s)
    (hslot : ∀ r ∈ o.roots, SlotAt s.pos o r.1.patch) (hidx : ∀ j ∈ idx, SlotAt s.pos o j)
    (hwi : Within s.jumps.size t' sM idx) (hev : Ev sM sF) : Holds sF.toProg s.pos o where
  instrs i x hx := by
    have hi := (List.getElem?_eq_some_iff.1 hx).1
    have h1 : s.instrs.size + i < t'.instrs.size := by rw [hw.instrs]; simp; omega
    have := hwi.1.isize
    show sF.instrs[s.instrs.size + i]? = some x
    rw [hev.instrs _ (by omega), hwi.1.instrs _ h1, hw.instrs, Array.getElem?_append_right (by omega)]
    simpa using hx
  consts i x hx := by
    have hi := (List.getElem?_eq_some_iff.1 hx).1
    have h1 : s.consts.size + i < t'.consts.size := by rw [hw.consts]; simp; omega
    have := hwi.1.csize
    show sF.consts[s.consts.size + i]? = some x
    rw [hev.consts _ (by omega), hwi.1.consts _ h1, hw.consts, Array.getElem?_append_right (by omega)]
    simpa using hx
  jumps i t hx := by
    have hi := (List.getElem?_eq_some_iff.1 hx).1
    have h1 : s.jumps.size + i < t'.jumps.size := by rw [hw.jumps]; simp; omega
    have := hwi.1.jsize
    have slot : ∀ j, SlotAt s.pos o j → j ≠ s.jumps.size + i := by
      rintro j ⟨i', h1', h2'⟩ e
      have : i' = i := by simp only [LState.pos] at h1'; omega
      subst this; rw [hx] at h2'; cases h2'
    show sF.jumps[s.jumps.size + i]? = some t
    rw [hev.jumps _ (by omega) ?_, hwi.1.jumps _ h1, hw.jumps, Array.getElem?_append_right (by omega)]
    · simp [hx]
    · intro r hr
      rcases hwi.2 r hr with h | h | h | h
      · rw [hw.pending, List.mem_append] at h
        rcases h with h | h
        · obtain ⟨q, hq, rfl⟩ := List.mem_map.1 h
          exact slot _ (hslot q hq)
        · have := hp r h; omega
      · omega
      · omega
      · exact slot _ (hidx _ h)

end Garnish.Abs
