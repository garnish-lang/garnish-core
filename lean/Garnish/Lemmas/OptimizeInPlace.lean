/-
Retained input-value cells (`isSV`, `svAt`) that were updated in place (`get_current_value_mut`: `update_value`, reapply,
the top-level `end_expression`) to refer to later data, and the re-pointing loop of `optimize` that repairs them: the
input-value chain (`OnChain`, `ChainWF`, `OnHead`), what the loop leaves in a retained chain cell (`Repointed`,
`repointLoop_spec`), and the hypotheses and the conclusion of the preservation theorem for such stores (`OptHypV`,
`HeadsV`, `LinksPreservedV`; proved in Lemmas/OptimizeLinks.lean).
-/
import Garnish.Lemmas.OptimizePreserve
namespace Garnish.BasicOpt
open Garnish

/-- a cell of the input-value stack -/
def isSV : Cell → Bool
  | .value _ _ => true
  | .valueRoot _ => true
  | _ => false

def svAt (cells : Array Cell) (i : Nat) : Bool :=
  match cells[i]? with
  | some c => isSV c
  | none => false

/-- every cell of `cells` other than an input-value cell is still there in `cells'` -/
def AgreeNS (cells cells' : Array Cell) : Prop :=
  ∀ (i : Nat) (c : Cell), cells[i]? = some c → isSV c = false → cells'[i]? = some c

theorem AgreeNS.exempt {c : Cell} (h : exempt c = false) : isSV c = false := by
  cases c <;> first | rfl | cases h

theorem inlineCells_agreeS {cells cells' : Array Cell} (hag : AgreeNS cells cells') (p : Cell → Bool)
    (hp : ∀ c, p c = true → isSV c = false) (n a : Nat) (l : List Cell) (h : inlineCells cells p a n = some l) :
    inlineCells cells' p a n = some l :=
  inlineCells_keep hag p hp n a l h

theorem listItems_agreeS {cells cells' : Array Cell} (hag : AgreeNS cells cells') (n a : Nat) (l : List Nat)
    (h : listItems cells a n = some l) : listItems cells' a n = some l :=
  listItems_keep hag (fun _ => AgreeNS.exempt) n a l h

theorem shape_agreeS {cells cells' : Array Cell} (hag : AgreeNS cells cells') {a : Nat} {sh : Shape}
    (h : shape cells a = some sh) (hns : svAt cells a = false) : shape cells' a = some sh :=
  shape_keep hag (fun _ => AgreeNS.exempt) h fun c hc => by simpa [svAt, hc] using hns

/-- `j` lies on the chain of input-value cells that starts at `i` and follows the `previous` links -/
inductive OnChain (cells : Array Cell) : Nat → Nat → Prop where
  | here {i} : svAt cells i = true → OnChain cells i i
  | there {i p v j} : cells[i]? = some (.value p v) → OnChain cells p j → OnChain cells i j

/-- input-value cells: `previous` is a lower input-value cell -/
def ChainWF (cells : Array Cell) : Prop :=
  ∀ (i p v : Nat), cells[i]? = some (.value p v) → p < i ∧ svAt cells p = true

def ChainDown (cells : Array Cell) : Prop := ∀ (i p v : Nat), cells[i]? = some (.value p v) → p < i

theorem ChainWF.down {cells : Array Cell} (h : ChainWF cells) : ChainDown cells := fun i p v hc => (h i p v hc).1

theorem OnChain.le {cells : Array Cell} (hw : ChainDown cells) {i j : Nat} (h : OnChain cells i j) : j ≤ i := by
  induction h with
  | here _ => exact Nat.le_refl _
  | there hc _ ih => have := hw _ _ _ hc; omega

theorem OnChain.head_sv {cells : Array Cell} {i j : Nat} (h : OnChain cells i j) : svAt cells i = true := by
  cases h with
  | here h => exact h
  | there hc _ => simp [svAt, hc, isSV]

theorem OnChain.sv {cells : Array Cell} {i j : Nat} (h : OnChain cells i j) : svAt cells j = true := by
  induction h with
  | here h => exact h
  | there _ _ ih => exact ih

theorem OnChain.snoc {cells : Array Cell} (hw : ChainWF cells) {i j p v : Nat} (h : OnChain cells i j)
    (hc : cells[j]? = some (.value p v)) : OnChain cells i p := by
  induction h with
  | here _ => exact .there hc (.here (hw _ _ _ hc).2)
  | there hc' _ ih => exact .there hc' (ih hc)

/-- what the re-pointing loop leaves in a retained chain cell: the same cell with its `value` link looked up; a link
below the retention count stays -/
def Repointed (s0 : Array Cell) (cur cur' : Store) (c0 cA j : Nat) : Prop :=
  (∃ p v v', s0[j]? = some (.value p v) ∧ cur'.cells[j]? = some (.value p v') ∧ Link cur c0 cA v v' ∧
    (v < cur.retention → v' = v)) ∨
  (∃ v v', s0[j]? = some (.valueRoot v) ∧ cur'.cells[j]? = some (.valueRoot v') ∧ Link cur c0 cA v v' ∧
    (v < cur.retention → v' = v))

theorem repointStep_spec {s0 : Array Cell} {c0 cA r : Nat} {cur s1 : Store} {i : Nat} {nx : Option (Option Nat)}
    (hsv : svAt s0 i = true) (hcell : cur.cells[i]? = s0[i]?) (hret : cur.retention = r)
    (h : Store.repointStep (cur.start + c0) (cur.start + cA) cur i = .ok (s1, nx)) :
    Ext 0 cur s1 ∧ s1.cells.size = cur.cells.size ∧ (∀ j, j ≠ i → s1.cells[j]? = cur.cells[j]?) ∧
    (r ≤ i → s1.cells[i]? = cur.cells[i]?) ∧ (i < r → Repointed s0 cur s1 c0 cA i) ∧
    ((∃ p v, s0[i]? = some (.value p v) ∧ nx = some (some p)) ∨ (∃ v, s0[i]? = some (.valueRoot v) ∧ nx = some none)) := by
  simp only [Store.repointStep, Outcome.bind_eq_ok'] at h
  obtain ⟨c, hg, h2⟩ := h
  have hc := get_ok hg
  rw [hcell] at hc
  have hsvc : isSV c = true := by simpa [svAt, hc] using hsv
  cases c <;> simp only [isSV] at hsvc <;> try (cases hsvc; done)
  · rename_i p v
    simp only at h2
    split at h2
    · rename_i hcond
      simp only [Outcome.bind_eq_ok', Outcome.pure_eq_ok_iff, Prod.mk.injEq] at h2
      obtain ⟨m, hm, s2, hset, hs2, hnx⟩ := h2
      subst hs2
      obtain ⟨hilt, hcells, hfr⟩ := setCell_cells hset
      have hl := lookup_link hm
      refine ⟨setCell_ext (Nat.zero_le _) hset, by rw [hcells]; simp, ?_, ?_, ?_, Or.inl ⟨p, v, hc, hnx.symm⟩⟩
      · intro j hj; rw [hcells]; simp [Ne.symm hj]
      · intro hri; rw [hret] at hcond; omega
      · intro _
        exact Or.inl ⟨p, v, m, hc, by rw [hcells]; simp [hilt], hl, fun h => absurd h (by omega)⟩
    · rename_i hcond
      simp only [Outcome.pure_eq_ok_iff, Prod.mk.injEq] at h2
      obtain ⟨hs2, hnx⟩ := h2
      subst hs2
      refine ⟨Ext.refl _ _, rfl, fun _ _ => rfl, fun _ => rfl, ?_, Or.inl ⟨p, v, hc, hnx.symm⟩⟩
      intro hir
      have hvr : v < cur.retention := by rw [hret] at hcond ⊢; omega
      exact Or.inl ⟨p, v, v, hc, by rw [hcell]; exact hc, Or.inl ⟨rfl, hvr⟩, fun _ => rfl⟩
  · rename_i v
    simp only at h2
    split at h2
    · rename_i hcond
      simp only [Outcome.bind_eq_ok', Outcome.pure_eq_ok_iff, Prod.mk.injEq] at h2
      obtain ⟨m, hm, s2, hset, hs2, hnx⟩ := h2
      subst hs2
      obtain ⟨hilt, hcells, hfr⟩ := setCell_cells hset
      have hl := lookup_link hm
      refine ⟨setCell_ext (Nat.zero_le _) hset, by rw [hcells]; simp, ?_, ?_, ?_, Or.inr ⟨v, hc, hnx.symm⟩⟩
      · intro j hj; rw [hcells]; simp [Ne.symm hj]
      · intro hri; rw [hret] at hcond; omega
      · intro _
        exact Or.inr ⟨v, m, hc, by rw [hcells]; simp [hilt], hl, fun h => absurd h (by omega)⟩
    · rename_i hcond
      simp only [Outcome.pure_eq_ok_iff, Prod.mk.injEq] at h2
      obtain ⟨hs2, hnx⟩ := h2
      subst hs2
      refine ⟨Ext.refl _ _, rfl, fun _ _ => rfl, fun _ => rfl, ?_, Or.inr ⟨v, hc, hnx.symm⟩⟩
      intro hir
      have hvr : v < cur.retention := by rw [hret] at hcond ⊢; omega
      exact Or.inr ⟨v, v, hc, by rw [hcell]; exact hc, Or.inl ⟨rfl, hvr⟩, fun _ => rfl⟩

theorem OnChain.root_only {cells : Array Cell} {i j v : Nat} (hc : cells[i]? = some (.valueRoot v))
    (h : OnChain cells i j) : j = i := by
  cases h with
  | here _ => rfl
  | there hc' _ => rw [hc] at hc'; cases hc'

theorem Repointed.mono {s0 : Array Cell} {cur cur1 cur' : Store} {c0 cA j : Nat}
    (hret : cur.retention = cur1.retention) (hcells : ∀ k, c0 ≤ k → k < cA → cur.cells[k]? = cur1.cells[k]?)
    (h : Repointed s0 cur1 cur' c0 cA j) : Repointed s0 cur cur' c0 cA j := by
  rcases h with ⟨p, v, v', h1, h2, h3, h4⟩ | ⟨v, v', h1, h2, h3, h4⟩
  · exact Or.inl ⟨p, v, v', h1, h2, Link.mono (Nat.le_refl _) hret (fun k a b => hcells k a b) h3, by rw [hret]; exact h4⟩
  · exact Or.inr ⟨v, v', h1, h2, Link.mono (Nat.le_refl _) hret (fun k a b => hcells k a b) h3, by rw [hret]; exact h4⟩

theorem Repointed.cell {s0 : Array Cell} {cur cur' cur'' : Store} {c0 cA j : Nat}
    (hsame : cur''.cells[j]? = cur'.cells[j]?) (h : Repointed s0 cur cur' c0 cA j) : Repointed s0 cur cur'' c0 cA j := by
  rcases h with ⟨p, v, v', h1, h2, h3, h4⟩ | ⟨v, v', h1, h2, h3, h4⟩
  · exact Or.inl ⟨p, v, v', h1, by rw [hsame]; exact h2, h3, h4⟩
  · exact Or.inr ⟨v, v', h1, by rw [hsame]; exact h2, h3, h4⟩

theorem repointStep_other {ls le : Nat} {cur s1 : Store} {i : Nat} {nx : Option (Option Nat)}
    (hsv : svAt cur.cells i = false) (h : Store.repointStep ls le cur i = .ok (s1, nx)) : s1 = cur ∧ nx = none := by
  simp only [Store.repointStep, Outcome.bind_eq_ok'] at h
  obtain ⟨c, hg, h2⟩ := h
  have hc := get_ok hg
  have hns : isSV c = false := by simpa [svAt, hc] using hsv
  cases c <;> simp only [isSV] at hns <;> try (cases hns; done)
  all_goals (simp only [Outcome.pure_eq_ok_iff, Prod.mk.injEq] at h2; exact ⟨h2.1.symm, h2.2.symm⟩)

/-- `i ≤ n` rounds suffice from cell `i` because `previous` links lead downwards (`ChainDown`): the counter of the loop
never ends the walk early -/
theorem repointLoop_spec {s0 : Array Cell} (hw : ChainDown s0) {c0 cA r : Nat} :
    ∀ (n : Nat) (cur cur' : Store) (i : Nat), i ≤ n → i < c0 →
      (∀ j, j ≤ i → cur.cells[j]? = s0[j]?) → cur.retention = r →
      Store.repointLoop (cur.start + c0) (cur.start + cA) n cur (some i) = .ok cur' →
        Ext 0 cur cur' ∧ cur'.cells.size = cur.cells.size ∧
        (∀ j, ¬ (OnChain s0 i j ∧ j < r) → cur'.cells[j]? = cur.cells[j]?) ∧
        (∀ j, OnChain s0 i j → j < r → Repointed s0 cur cur' c0 cA j) := by
  intro n
  induction n with
  -- the counter at 0 runs one more body (`i = 0`, so the chain from `i` is `i` alone)
  | zero =>
    intro cur cur' i hin hic0 hag hret h
    have hi0 : i = 0 := by omega
    subst hi0
    simp only [Store.repointLoop, Outcome.bind_eq_ok', Outcome.pure_eq_ok_iff] at h
    obtain ⟨⟨s1, nx⟩, hstep, hs1⟩ := h
    subst hs1
    cases hsv : svAt s0 0 with
    | false =>
      obtain ⟨rfl, _⟩ := repointStep_other (by simpa [svAt, hag 0 (Nat.le_refl _)] using hsv) hstep
      exact ⟨Ext.refl _ _, rfl, fun _ _ => rfl, fun j hj => by rw [hj.head_sv] at hsv; cases hsv⟩
    | true =>
    obtain ⟨hA, hB, hC, hD, hE, hF⟩ := repointStep_spec hsv (hag 0 (Nat.le_refl _)) hret hstep
    have honly : ∀ j, OnChain s0 0 j → j = 0 := by
      intro j hj
      have := hj.le hw; omega
    refine ⟨hA, hB, ?_, ?_⟩
    · intro j hj
      by_cases hj0 : j = 0
      · subst hj0
        exact hD (by
          rcases Nat.lt_or_ge 0 r with h | h
          · exact absurd ⟨OnChain.here hsv, h⟩ hj
          · exact h)
      · exact hC j hj0
    · intro j hj hjr
      have := honly j hj
      subst this
      exact hE hjr
  | succ n ih =>
    intro cur cur' i hin hic0 hag hret h
    simp only [Store.repointLoop, Outcome.bind_eq_ok'] at h
    obtain ⟨⟨s1, nx⟩, hstep, hrest⟩ := h
    cases hsv : svAt s0 i with
    | false =>
      obtain ⟨rfl, rfl⟩ := repointStep_other (by simpa [svAt, hag i (Nat.le_refl _)] using hsv) hstep
      simp only [Outcome.pure_eq_ok_iff] at hrest
      subst hrest
      exact ⟨Ext.refl _ _, rfl, fun _ _ => rfl, fun j hj => by rw [hj.head_sv] at hsv; cases hsv⟩
    | true =>
    obtain ⟨hA, hB, hC, hD, hE, hF⟩ := repointStep_spec hsv (hag i (Nat.le_refl _)) hret hstep
    rcases hF with ⟨p, v, hci, hnx⟩ | ⟨v, hci, hnx⟩
    -- `Value(p, v)`: the body rewrites cell `i` only (`hC`), the rest of the walk starts at `p < i` and never comes back
    -- to `i` (`hnotp`), so what the body left in `i` stands (`hkeepI`) and the hypothesis `cur = s0 up to i` holds up to `p`
    · subst hnx
      simp only at hrest
      have hpi := hw i p v hci
      have hstart : s1.start = cur.start := hA.frame.2.1
      rw [← hstart] at hrest
      obtain ⟨iA, iB, iC, iD⟩ := ih s1 cur' p (by omega) (by omega)
        (fun j hj => by rw [hC j (by omega)]; exact hag j (by omega)) (hA.frame.1.trans hret) hrest
      have hnotp : ¬ OnChain s0 p i := fun hpc => by have := hpc.le hw; omega
      have hkeepI : cur'.cells[i]? = s1.cells[i]? := iC i (fun ⟨h1, _⟩ => hnotp h1)
      refine ⟨hA.trans iA, iB.trans hB, ?_, ?_⟩
      · intro j hj
        by_cases hji : j = i
        · subst hji
          rw [hkeepI]
          exact hD (by
            rcases Nat.lt_or_ge j r with h | h
            · exact absurd ⟨OnChain.here hsv, h⟩ hj
            · exact h)
        · rw [iC j (fun ⟨h1, h2⟩ => hj ⟨OnChain.there hci h1, h2⟩)]
          exact hC j hji
      · intro j hj hjr
        cases hj with
        | here _ => exact (hE hjr).cell hkeepI
        | there hci' hpj =>
          rw [hci] at hci'
          simp only [Option.some.injEq, Cell.value.injEq] at hci'
          obtain ⟨hp, _⟩ := hci'
          subst hp
          exact (iD j hpj hjr).mono (hA.frame.1).symm
            (fun k hk1 hk2 => (hC k (by omega)).symm)
    · subst hnx
      have hs1 : s1 = cur' := by
        cases n <;> (simp only [Store.repointLoop, Outcome.ok.injEq] at hrest; exact hrest)
      subst hs1
      refine ⟨hA, hB, ?_, ?_⟩
      · intro j hj
        by_cases hji : j = i
        · subst hji
          exact hD (by
            rcases Nat.lt_or_ge j r with h | h
            · exact absurd ⟨OnChain.here hsv, h⟩ hj
            · exact h)
        · exact hC j hji
      · intro j hj hjr
        have := hj.root_only hci
        subst this
        exact hE hjr

/-- structural hypotheses that let input-value cells refer to later data -/
structure OptHypV (s : Store) : Prop where
  listsWF : ListsWF s.cells
  nodeBack : ∀ (i : Nat) (sh : Shape), shape s.cells i = some sh → svAt s.cells i = false →
    ∀ k ∈ sh.kids, k < i ∧ svAt s.cells k = false
  chain : ChainWF s.cells
  /-- the `value` of an input-value cell is not an input-value cell (it may lie anywhere: updated in place) -/
  valueData : ∀ (i p v : Nat), s.cells[i]? = some (.value p v) → svAt s.cells v = false
  rootData : ∀ (i v : Nat), s.cells[i]? = some (.valueRoot v) → svAt s.cells v = false
  extent : ∀ (i : Nat) (sh : Shape), i < s.retention → shape s.cells i = some sh →
    shape (s.cells.extract 0 s.retention) i = some sh

/-- on the chain below the current input-value head -/
def OnHead (cells : Array Cell) (head : Option Nat) (j : Nat) : Prop := ∃ h, head = some h ∧ OnChain cells h j

theorem sv_cell {cells : Array Cell} {x : Nat} (h : svAt cells x = true) :
    (∃ p v, cells[x]? = some (.value p v)) ∨ (∃ v, cells[x]? = some (.valueRoot v)) := by
  unfold svAt at h
  cases hc : cells[x]? with
  | none => simp [hc] at h
  | some c =>
    rw [hc] at h
    cases c <;> simp [isSV] at h
    · exact Or.inl ⟨_, _, rfl⟩
    · exact Or.inr ⟨_, rfl⟩

theorem kids_onHead {s : Store} (hy : OptHypV s) {head : Option Nat} {x : Nat} {sh : Shape}
    (hsh : shape s.cells x = some sh) (hx : svAt s.cells x = true → OnHead s.cells head x) :
    ∀ k ∈ sh.kids, svAt s.cells k = true → OnHead s.cells head k := by
  intro k hk hsvk
  cases hsx : svAt s.cells x with
  | false =>
    have := (hy.nodeBack x sh hsh hsx k hk).2
    rw [this] at hsvk; cases hsvk
  | true =>
    obtain ⟨h, hh, hch⟩ := hx hsx
    rcases sv_cell hsx with ⟨p, v, hc⟩ | ⟨v, hc⟩
    · have : sh = ⟨.value 0 0, [], [p, v]⟩ := solo_of_shape hc rfl hsh
      subst this
      simp at hk
      rcases hk with rfl | rfl
      · exact ⟨h, hh, hch.snoc hy.chain hc⟩
      · rw [hy.valueData x _ _ hc] at hsvk; cases hsvk
    · have : sh = ⟨.valueRoot 0, [], [v]⟩ := solo_of_shape hc rfl hsh
      subst this
      simp at hk
      subst hk
      rw [hy.rootData x _ hc] at hsvk; cases hsvk

/-- which addresses the heads, the roots and the symbol names may be: the input-value head is an input-value
cell, nothing else is -/
structure HeadsV (s : Store) (roots : List Nat) : Prop where
  reg : ∀ i, s.currentRegister = some i → svAt s.cells i = false
  val : ∀ i, s.currentValue = some i → svAt s.cells i = true
  frm : ∀ i, s.currentFrame = some i → svAt s.cells i = false
  roots : ∀ r ∈ roots, svAt s.cells r = false
  syms : ∀ (j sym di : Nat), s.symtab[j]? = some (.associativeItem sym di) → svAt s.cells di = false

/-- `LinksPreserved` when retained input-value cells may have been re-pointed -/
structure LinksPreservedV (s s' : Store) (roots m : List Nat) (L : Nat → Nat → Prop) : Prop where
  unfolds : ∀ x x', L x x' → Dec s.cells x → ∀ fuel, unfold s.cells fuel x = unfold s'.cells fuel x'
  register : HeadRel L s.currentRegister s'.currentRegister
  value : HeadRel L s.currentValue s'.currentValue
  frame : HeadRel L s.currentFrame s'.currentFrame
  rootsLen : m.length = roots.length
  roots : ∀ (k r : Nat), roots[k]? = some r → ∃ r', m[k]? = some r' ∧ L r r'
  symLen : s'.symtab.size = s.symtab.size
  syms : ∀ (j sym di : Nat), s.symtab[j]? = some (.associativeItem sym di) →
    ∃ di', s'.symtab[j]? = some (.associativeItem sym di') ∧ L di di'
  retention : s'.retention = s.retention
  retained : ∀ i, i < s.retention → ¬ OnHead s.cells s.currentValue i → s'.cells[i]? = s.cells[i]?
  repointed : ∀ i, i < s.retention → OnHead s.cells s.currentValue i →
    (∃ p v v', s.cells[i]? = some (.value p v) ∧ s'.cells[i]? = some (.value p v') ∧ L v v') ∨
    (∃ v v', s.cells[i]? = some (.valueRoot v) ∧ s'.cells[i]? = some (.valueRoot v') ∧ L v v')

theorem HeadRel.imp {L M : Nat → Nat → Prop} {o o' : Option Nat} (h : HeadRel L o o')
    (hi : ∀ i m, o = some i → L i m → M i m) : HeadRel M o o' := by
  rcases h with h | ⟨i, m, h1, h2, h3⟩
  · exact Or.inl h
  · exact Or.inr ⟨i, m, h1, h2, hi i m h1 h3⟩

end Garnish.BasicOpt
