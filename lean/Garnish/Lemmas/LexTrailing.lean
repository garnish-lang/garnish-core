/-
Text-level rewrites, lexer side (C18): blanks at the end of the text. A blank ends the pending token exactly as the
end-of-input sentinel does (`blank_vs_sentinel`, from `ender_step`), so `s ++ w` lexes to the tokens of `s` followed by one
Whitespace token spelling `w` (`lex_trailing`); `prefix_facts`: the lexer after a prefix of a text that lexes.
-/
import Garnish.Lemmas.LexEnder
namespace Garnish.Model.Lexer
open Garnish.Model Garnish.Model.Parser Garnish.Spec

theorem blank_vs_sentinel (cc : CharClass) (hcc : cc.SaneBlank) (σ : Lexer) (c : Char) (hc : IsBlank c)
    (hs : PlainState σ.state) (htr : σ.operatorTree = theTree) (hcr : σ.shouldCreate = true) :
    (∃ σ1 σ2, processChar cc { σ with atEnd := true } '\x00' = .ok (σ1, none) ∧ σ1.result = .err ∧
        processChar cc σ c = .ok (σ2, none) ∧ σ2.result = .err) ∨
    (∃ ty σ1 σ2, processChar cc { σ with atEnd := true } '\x00' = .ok (σ1, some (pendingTok σ ty)) ∧
        σ1.state = .noToken ∧ σ1.result = .ok ∧ σ1.operatorTree = theTree ∧
        processChar cc σ c = .ok (σ2, some (pendingTok σ ty)) ∧ InWhitespace σ2 [c] ∧ σ2.operatorTree = theTree ∧
        σ2.atEnd = σ.atEnd) := by
  have hsa := ender_step cc hcc { σ with atEnd := true } '\x00' (Or.inr (Or.inr (Or.inl rfl))) hs htr hcr
  have hsb := ender_step cc hcc σ c (by rcases hc with h | h; exact Or.inl h; exact Or.inr (Or.inl h)) hs htr hcr
  rw [pendingType_congr (σ := σ) (τ := { σ with atEnd := true }) rfl rfl rfl] at hsa
  cases h : pendingType σ with
  | none =>
    obtain ⟨σ1, h1, e1⟩ := hsa.1 h
    obtain ⟨σ2, h2, e2⟩ := hsb.1 h
    exact Or.inl ⟨σ1, σ2, h1, e1, h2, e2⟩
  | some ty =>
    obtain ⟨_, _, _, _, f5, f6, f7⟩ := endOf_fields { ({ σ with atEnd := true } : Lexer) with charactersLexed := σ.charactersLexed + 1 }
    obtain ⟨_, _, _, _, g5, g6, g7⟩ := endOf_fields { σ with charactersLexed := σ.charactersLexed + 1 }
    obtain ⟨s1, _, s3, s4⟩ := afterEmit_sentinel cc hcc.toSane _ (f6.trans htr) f7
    obtain ⟨w1, w2, w3⟩ := afterEmit_blank cc _ c hc (g6.trans htr) (g5.trans hcr)
    exact Or.inr ⟨ty, _, _, hsa.2 ty h, s1, s3, s4, hsb.2 ty h, w1, w2, w3.trans g7⟩

theorem lexEnd_inWhitespace (cc : CharClass) (hcc : cc.Sane) (fuel : Nat) (σ : Lexer) (cs : List Char)
    (toks : List LexerToken) (h : InWhitespace σ cs) (htr : σ.operatorTree = theTree) :
    ∃ σ', lexEnd cc (fuel + 2) σ toks =
      .ok (toks ++ [⟨cs, .whitespace, σ.tokenStartRow, σ.tokenStartColumn⟩], σ') := by
  obtain ⟨⟨h1, h2, h3, h4, h5⟩, hty⟩ := h
  let τ : Lexer := { ({ σ with atEnd := true } : Lexer) with charactersLexed := σ.charactersLexed + 1 }
  have ha : ArmStep cc τ '\x00' τ true := .spDone h1 (by decide) (by decide)
  have hcv : canCreateValidToken { τ with canFloat := !blocksFloat τ.currentTokenType } = .ok := by
    simp only [canCreateValidToken]
    rw [show τ.currentTokenType = some .whitespace from hty]
  obtain ⟨σ1, hf, hs1, _, hr1, ht1⟩ := finishChar_sentinel cc hcc τ (by rw [show τ.state = .spaces from h1]; decide)
    .whitespace hcv hty htr h4 rfl
  have hp : processChar cc { σ with atEnd := true } '\x00' =
      .ok (σ1, some ⟨cs, .whitespace, σ.tokenStartRow, σ.tokenStartColumn⟩) := by
    rw [processChar_arm (σ := { σ with atEnd := true }) ha, hf, show τ.currentCharacters = cs from h2]
  exact lexEnd_emit_done cc hcc fuel σ σ1 toks _ h5 hp hs1 hr1 ht1

theorem lexLoop_blanks_end (cc : CharClass) (hcc : cc.Sane) (r : List Char) (hr : ∀ x ∈ r, IsBlank x) (σ : Lexer)
    (cs : List Char) (T : List LexerToken) (h : InWhitespace σ cs) (htr : σ.operatorTree = theTree) :
    ∃ ws σ', lexLoop cc r σ T = .ok (T ++ [ws], σ') ∧ ws.tokenType = .whitespace ∧ ws.text = cs ++ r := by
  obtain ⟨σ3, hrun, hin3, _⟩ := inWhitespace_run cc r σ cs T h hr
  have htr3 : σ3.operatorTree = theTree := by rw [(runChars_frame cc r σ σ3 T T hrun).1]; exact htr
  have e := lexLoop_append cc r [] σ σ3 T T hrun
  rw [List.append_nil] at e
  obtain ⟨σ', hend⟩ := lexEnd_inWhitespace cc hcc 2 σ3 (cs ++ r) T hin3 htr3
  exact ⟨_, σ', by rw [e]; simpa [lexLoop, endFuel] using hend, rfl, rfl⟩

theorem noToken_blank (cc : CharClass) (σ : Lexer) (c : Char) (hc : IsBlank c) (hs : σ.state = .noToken)
    (htr : σ.operatorTree = theTree) (hcr : σ.shouldCreate = true) (hok : σ.result = .ok)
    (hcb : σ.couldBeSubExpression = false) :
    ∃ σ2, processChar cc σ c = .ok (σ2, none) ∧ InWhitespace σ2 [c] ∧ σ2.operatorTree = theTree := by
  obtain ⟨h1, h2, -⟩ := base_blank cc { σ with charactersLexed := σ.charactersLexed + 1 } c hc ⟨htr, hcr, hok, hcb⟩
  exact ⟨_, processChar_noToken cc σ c hs, h1, h2⟩

/-- the lexer states in which the input may end for trailing blanks to add exactly one Whitespace token -/
def TrailState (σ : Lexer) : Prop :=
  PlainState σ.state ∨ (σ.state = .noToken ∧ σ.couldBeSubExpression = false)

theorem lexFull_eq_lexEnd (cc : CharClass) (s : List Char) (σ : Lexer) (toks : List LexerToken)
    (hrun : runChars cc s (Lexer.init theTree) [] = .ok (σ, toks)) : lexFull cc s = lexEnd cc endFuel σ toks := by
  have e := lexFull_append cc s [] hrun
  rw [List.append_nil] at e
  rw [e]; rfl

theorem run_facts (cc : CharClass) (hcc2 : cc.Sane2) (p : List Char) (σ : Lexer) (toks : List LexerToken)
    (hrun : runChars cc p (Lexer.init theTree) [] = .ok (σ, toks)) (hok : σ.result = .ok) :
    σ.shouldCreate = true ∧ Inv σ ∧ σ.atEnd = false ∧ σ.operatorTree = theTree := by
  obtain ⟨hcore, hinv, hat, htr⟩ := (Core_init theTree).run hcc2 (Inv_init theTree) rfl hrun
  rcases hcore with h | h
  · rw [hok] at h; cases h
  · exact ⟨h.create, hinv, hat, htr.trans (init_operatorTree theTree)⟩

theorem prefix_facts (cc : CharClass) (hcc2 : cc.Sane2) (p x : List Char) (σ : Lexer) (toks : List LexerToken)
    (hrun : runChars cc p (Lexer.init theTree) [] = .ok (σ, toks)) (T : List LexerToken) (hl : lex cc (p ++ x) = .ok T) :
    σ.result = .ok ∧ σ.shouldCreate = true ∧ Inv σ ∧ σ.atEnd = false ∧ σ.operatorTree = theTree ∧
      ∃ σf, lexLoop cc x σ toks = .ok (T, σf) := by
  obtain ⟨σf, hfull⟩ := lex_of_lexFull hl
  rw [lexFull_append cc p x hrun] at hfull
  have hok : σ.result = .ok := by
    cases hres : σ.result with
    | ok => rfl
    | err => rw [lexLoop_err cc x σ toks hres] at hfull; cases hfull
  obtain ⟨h1, h2, h3, h4⟩ := run_facts cc hcc2 p σ toks hrun hok
  exact ⟨hok, h1, h2, h3, h4, σf, hfull⟩

theorem lex_trailing (cc : CharClass) (hcc : cc.SaneBlank) (hcc2 : cc.Sane2) (s : List Char) (c : Char) (r : List Char)
    (hc : IsBlank c) (hr : ∀ x ∈ r, IsBlank x) (σ : Lexer) (toks : List LexerToken)
    (hrun : runChars cc s (Lexer.init theTree) [] = .ok (σ, toks)) (hG : TrailState σ) (t : List LexerToken)
    (hl : lex cc s = .ok t) :
    ∃ ws, lex cc (s ++ c :: r) = .ok (t ++ [ws]) ∧ ws.tokenType = .whitespace ∧ ws.text = c :: r := by
  obtain ⟨hok, hcr, hinv, hat, htr, σf, hfull⟩ := prefix_facts cc hcc2 s [] σ toks hrun t (by rw [List.append_nil]; exact hl)
  have hfull : lexEnd cc endFuel σ toks = .ok (t, σf) := hfull
  have hfull' : lexFull cc (s ++ c :: r) = lexLoop cc (c :: r) σ toks := lexFull_append cc s _ hrun
  suffices hsuff : ∃ ws σ', lexLoop cc (c :: r) σ toks = .ok (t ++ [ws], σ') ∧ ws.tokenType = .whitespace ∧
      ws.text = c :: r by
    obtain ⟨ws, σ', h1, h2, h3⟩ := hsuff
    exact ⟨ws, lex_of_lexFull_eq (hfull'.trans h1), h2, h3⟩
  simp only [lexLoop, isErr_of_ok hok, Bool.false_eq_true, ↓reduceIte]
  rcases hG with hplain | ⟨hnt, hcb⟩
  · rcases blank_vs_sentinel cc hcc σ c hc hplain htr hcr with
      ⟨σ1, σ2, hp1, he1, _, _⟩ | ⟨ty, σ1, σ2, hp1, hs1, hr1, ht1, hp2, hw2, ht2, _⟩
    · -- the sentinel records an error: `s` would not lex
      exfalso
      rw [show endFuel = 3 + 1 from rfl, lexEnd] at hfull
      simp only [isErr_of_ok hok, Bool.false_eq_true, ↓reduceIte] at hfull
      rw [hp1] at hfull
      simp only [] at hfull
      have := (lexFinish_ok hfull).2
      split at this
      · simp at this
      · rw [he1] at this; cases this
    ·
      have ht : t = toks ++ [pendingTok σ ty] := by
        obtain ⟨σ', hd⟩ := lexEnd_emit_done cc hcc.toSane 2 σ σ1 toks _ hok hp1 hs1 hr1 ht1
        rw [show endFuel = 2 + 2 from rfl, hd] at hfull
        exact (Prod.mk.inj (Outcome.ok.inj hfull)).1.symm
      rw [hp2]
      simp only [hw2.wsA.ok]
      obtain ⟨ws, σ', h1, h2, h3⟩ := lexLoop_blanks_end cc hcc.toSane r hr σ2 [c] (toks ++ [pendingTok σ ty]) hw2 ht2
      exact ⟨ws, σ', by rw [ht]; exact h1, h2, by simpa using h3⟩
  ·
    have ht : t = toks := by
      obtain ⟨σ', hd⟩ := lexEnd_done cc hcc.toSane 3 σ toks hnt hok htr
      rw [show endFuel = 3 + 1 from rfl, hd] at hfull
      simp only [Outcome.ok.injEq, Prod.mk.injEq] at hfull
      exact hfull.1.symm
    obtain ⟨σ2, hp2, hw2, ht2⟩ := noToken_blank cc σ c hc hnt htr hcr hok hcb
    rw [hp2]
    simp only []
    obtain ⟨ws, σ', h1, h2, h3⟩ := lexLoop_blanks_end cc hcc.toSane r hr σ2 [c] toks hw2 ht2
    exact ⟨ws, σ', by rw [ht]; exact h1, h2, by simpa using h3⟩

end Garnish.Model.Lexer
