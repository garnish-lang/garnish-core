/-
Unfoldings of the data block: bisimulation principle, decodable addresses, stability of shapes, and what one
clone step of `clone_index_stack` produces for every kind of cell except lists: the copy (same label and inline cells,
links looked up) and, besides it, only cells that are leaves or never nodes (`SideCell`, `Others`).
-/
import Garnish.Lemmas.Optimize
namespace Garnish.BasicOpt
open Garnish

/-- pairwise relation of two lists (core has no `Forall₂`) -/
inductive AllRel {α β} (R : α → β → Prop) : List α → List β → Prop where
  | nil : AllRel R [] []
  | cons {a b l l'} : R a b → AllRel R l l' → AllRel R (a :: l) (b :: l')

theorem AllRel.imp_mem {α β} {R S : α → β → Prop} : ∀ {l : List α} {l' : List β},
    (∀ a b, a ∈ l → R a b → S a b) → AllRel R l l' → AllRel S l l'
  | _, _, _, .nil => .nil
  | _, _, h, .cons hab t =>
    .cons (h _ _ (by simp) hab) (AllRel.imp_mem (fun a b ha hr => h a b (by simp [ha]) hr) t)

theorem AllRel.imp {α β} {R S : α → β → Prop} (h : ∀ a b, R a b → S a b) {l : List α} {l' : List β}
    (t : AllRel R l l') : AllRel S l l' := t.imp_mem fun a b _ => h a b

theorem allRel_refl_of {α} {S : α → α → Prop} : ∀ (l : List α), (∀ a ∈ l, S a a) → AllRel S l l
  | [], _ => .nil
  | a :: l, h => .cons (h a (by simp)) (allRel_refl_of l fun b hb => h b (by simp [hb]))

theorem bisim_unfold (h h' : Array Cell) (R : Nat → Nat → Prop)
    (hR : ∀ a a', R a a' → ∃ s s', shape h a = some s ∧ shape h' a' = some s' ∧ s.label = s'.label ∧
      s.inl = s'.inl ∧ AllRel R s.kids s'.kids) :
    ∀ (fuel a a' : Nat), R a a' → unfold h fuel a = unfold h' fuel a' := by
  intro fuel
  induction fuel with
  | zero => intro a a' _; simp [unfold]
  | succ f ih =>
    intro a a' hr
    obtain ⟨s, s', hs, hs', hl, hi, hk⟩ := hR a a' hr
    have hkids : ∀ (l l' : List Nat), AllRel R l l' → allSome (unfold h f) l = allSome (unfold h' f) l' := by
      intro l l' hk
      induction hk with
      | nil => rfl
      | cons hab _ ih2 => simp [allSome, ih _ _ hab, ih2]
    have hkids := hkids _ _ hk
    simp [unfold, hs, hs', hkids, hl, hi]

/-- an address with an unfolding: the graph below it is acyclic and every node has a shape -/
def Dec (cells : Array Cell) (a : Nat) : Prop := ∃ fuel t, unfold cells fuel a = some t

theorem allSome_some_mem {α β} {f : α → Option β} : ∀ {l : List α} {r : List β}, allSome f l = some r →
    ∀ x ∈ l, ∃ y, f x = some y
  | [], _, _, x, hx => by simp at hx
  | a :: l, r, h, x, hx => by
    simp only [allSome] at h
    cases hfa : f a with
    | none => simp [hfa] at h
    | some y =>
      cases hl : allSome f l with
      | none => simp [hfa, hl] at h
      | some ys =>
        rcases List.mem_cons.mp hx with rfl | hm
        · exact ⟨y, hfa⟩
        · exact allSome_some_mem hl x hm

theorem Dec.shape {cells : Array Cell} {a : Nat} (h : Dec cells a) :
    ∃ sh, shape cells a = some sh ∧ ∀ k ∈ sh.kids, Dec cells k := by
  obtain ⟨fuel, t, ht⟩ := h
  cases fuel with
  | zero => simp [unfold] at ht
  | succ f =>
    simp only [unfold] at ht
    cases hs : BasicOpt.shape cells a with
    | none => simp [hs] at ht
    | some sh =>
      simp only [hs, Option.map_eq_some_iff] at ht
      obtain ⟨ts, hts, _⟩ := ht
      refine ⟨sh, rfl, ?_⟩
      intro k hk
      obtain ⟨y, hy⟩ := allSome_some_mem hts k hk
      exact ⟨f, y, hy⟩

/-- every cell of `cells` other than a `CloneItem` is still there in `cells'` -/
def AgreeNC (cells cells' : Array Cell) : Prop :=
  ∀ (i : Nat) (c : Cell), cells[i]? = some c → (∀ x, c ≠ .cloneItem x) → cells'[i]? = some c

/-! ### readings that survive a change or a move of other cells

`V` holds at `dst + t` every cell of a class `Q` that `W` holds at `src + t`, where `Q` contains everything but (some)
input-value cells and `CloneItem`s: then inline items, list items, key tables, return points and the shape at an address
of class `Q` read in `V`, moved by `dst - src`, as in `W`.  With `src = dst = 0` the cells of class `Q` are kept in
place (`_keep`): `AgreeNC` is the case `Q c := c` is no `CloneItem`, `AgreeNS` (Lemmas/OptimizeInPlace.lean) the case
`Q c := c` is no input-value cell.  With `Q` = everything a block of cells is moved (`shape_shift`,
Lemmas/OptimizeMove.lean).
The first sentence is the section variable `hmv` (`hag` in section `keep`), `include`d: it is the first explicit argument
of every `_move` / `_keep` lemma although the statements below do not show it; `hQ` (`Q` contains all cells that are not
`exempt`) is an argument of those that use it. -/

/-- input-value cells and the entries of an index list -/
def exempt : Cell → Bool
  | .value _ _ | .valueRoot _ | .cloneItem _ => true
  | _ => false

section move
variable {Q : Cell → Prop} {W V : Array Cell} {src dst : Nat}
  (hmv : ∀ (t : Nat) (c : Cell), W[src + t]? = some c → Q c → V[dst + t]? = some c) (hQ : ∀ c, exempt c = false → Q c)
include hmv

theorem inlineCells_move (p : Cell → Bool) (hp : ∀ c, p c = true → Q c) :
    ∀ (n u : Nat) (l : List Cell), inlineCells W p (src + u) n = some l → inlineCells V p (dst + u) n = some l
  | 0, u, l, h => by simpa [inlineCells] using h
  | n + 1, u, l, h => by
    simp only [inlineCells] at h ⊢
    cases hc : W[src + u]? with
    | none => simp [hc] at h
    | some c =>
      rw [hc] at h
      simp only at h
      split at h
      · rename_i hpc
        rw [hmv u c hc (hp c hpc)]
        simp only [hpc, if_true]
        simp only [Option.map_eq_some_iff] at h ⊢
        obtain ⟨t, ht, rfl⟩ := h
        exact ⟨t, inlineCells_move p hp n (u + 1) t ht, rfl⟩
      · simp at h

include hQ

theorem listItems_move :
    ∀ (n u : Nat) (l : List Nat), listItems W (src + u) n = some l → listItems V (dst + u) n = some l
  | 0, u, l, h => by simpa [listItems] using h
  | n + 1, u, l, h => by
    simp only [listItems] at h ⊢
    cases hc : W[src + u]? with
    | none => simp [hc] at h
    | some c =>
      rw [hc] at h
      cases c <;> simp only [] at h <;> try (simp at h; done)
      rw [hmv u _ hc (hQ _ rfl)]
      simp only [Option.map_eq_some_iff] at h ⊢
      obtain ⟨t, ht, rfl⟩ := h
      exact ⟨t, listItems_move n (u + 1) t ht, rfl⟩

theorem assocItems_move :
    ∀ (n u : Nat) (l : List Cell × List Nat), assocItems W (src + u) n = some l → assocItems V (dst + u) n = some l
  | 0, u, l, h => by simpa [assocItems] using h
  | n + 1, u, l, h => by
    simp only [assocItems] at h ⊢
    cases hc : W[src + u]? with
    | none => simp [hc] at h
    | some c =>
      rw [hc] at h
      cases c <;> simp only [] at h <;> try (simp at h; done)
      rw [hmv u _ hc (hQ _ rfl)]
      simp only [Option.map_eq_some_iff] at h ⊢
      obtain ⟨t, ht, rfl⟩ := h
      exact ⟨t, assocItems_move n (u + 1) t ht, rfl⟩

theorem framePoint_move (hno : framePoint W src = none) {u : Nat} {c : Cell}
    (h : framePoint W (src + u) = some c) : framePoint V (dst + u) = some c := by
  cases u with
  | zero => rw [Nat.add_zero] at h; rw [hno] at h; cases h
  | succ u =>
    have e1 : src + (u + 1) = (src + u) + 1 := by omega
    have e2 : dst + (u + 1) = (dst + u) + 1 := by omega
    rw [e1] at h; rw [e2]
    simp only [framePoint] at h ⊢
    cases hc : W[src + u]? with
    | none => simp [hc] at h
    | some d =>
      rw [hc] at h
      cases d <;> simp only [] at h <;> try (simp at h; done)
      rw [hmv u _ hc (hQ _ rfl)]
      exact h

theorem shape_move (hno : framePoint W src = none) {u : Nat} {sh : Shape} (h : shape W (src + u) = some sh)
    (ha : ∀ c, W[src + u]? = some c → Q c) : shape V (dst + u) = some sh := by
  have hp : ∀ (p : Cell → Bool), (∀ c, p c = true → exempt c = false) → ∀ c, p c = true → Q c :=
    fun p hp c hc => hQ c (hp c hc)
  unfold shape at h ⊢
  cases hc : W[src + u]? with
  | none => simp [hc] at h
  | some c =>
    rw [hc] at h
    rw [hmv u c hc (ha c hc)]
    have e1 : ∀ x, src + u + 1 + x = src + (u + 1 + x) := by intro x; omega
    have e2 : ∀ x, dst + u + 1 + x = dst + (u + 1 + x) := by intro x; omega
    have e1' : src + u + 1 = src + (u + 1) := by omega
    have e2' : dst + u + 1 = dst + (u + 1) := by omega
    cases c <;> simp only [] at h ⊢ <;> try (simp at h; done)
    all_goals first
      | exact h
      | (simp only [Option.map_eq_some_iff] at h ⊢
         obtain ⟨t, ht, rfl⟩ := h
         first
           | exact ⟨t, framePoint_move hmv hQ hno ht, rfl⟩
           | (rw [e1'] at ht; rw [e2']
              exact ⟨t, inlineCells_move hmv _ (hp _ (by intro c hc; cases c <;> first | rfl | cases hc)) _ _ _ ht, rfl⟩))
      | (split at h
         · rename_i items keys targets h1 h2
           rw [e1'] at h1; rw [e1] at h2
           rw [e2, e2', listItems_move hmv hQ _ _ _ h1, assocItems_move hmv hQ _ _ _ h2]
           exact h
         · simp at h)

end move


section keep
variable {Q : Cell → Prop} {cells cells' : Array Cell}
  (hag : ∀ (i : Nat) (c : Cell), cells[i]? = some c → Q c → cells'[i]? = some c) (hQ : ∀ c, exempt c = false → Q c)
include hag

theorem move_zero : ∀ (t : Nat) (c : Cell), cells[0 + t]? = some c → Q c → cells'[0 + t]? = some c :=
  fun t c hc hq => by rw [Nat.zero_add] at hc ⊢; exact hag t c hc hq

theorem inlineCells_keep (p : Cell → Bool) (hp : ∀ c, p c = true → Q c) (n a : Nat) (l : List Cell)
    (h : inlineCells cells p a n = some l) : inlineCells cells' p a n = some l := by
  simpa only [Nat.zero_add] using inlineCells_move (move_zero hag) p hp n a l (by rw [Nat.zero_add]; exact h)

include hQ

theorem listItems_keep (n a : Nat) (l : List Nat) (h : listItems cells a n = some l) : listItems cells' a n = some l := by
  simpa only [Nat.zero_add] using listItems_move (move_zero hag) hQ n a l (by rw [Nat.zero_add]; exact h)

theorem shape_keep {a : Nat} {sh : Shape} (h : shape cells a = some sh) (ha : ∀ c, cells[a]? = some c → Q c) :
    shape cells' a = some sh := by
  simpa only [Nat.zero_add] using shape_move (move_zero hag) hQ rfl (u := a) (by rw [Nat.zero_add]; exact h)
    (by rw [Nat.zero_add]; exact ha)

end keep

theorem AgreeNC.exempt {c : Cell} (h : exempt c = false) : ∀ x, c ≠ .cloneItem x := by
  intro x hx; subst hx; cases h

theorem inlineCells_agree {cells cells' : Array Cell} (hag : AgreeNC cells cells') (p : Cell → Bool)
    (hp : ∀ x, p (.cloneItem x) = false) (n a : Nat) (l : List Cell) (h : inlineCells cells p a n = some l) :
    inlineCells cells' p a n = some l :=
  inlineCells_keep hag p (fun c hpc x hx => by rw [hx, hp x] at hpc; exact Bool.false_ne_true hpc) n a l h

theorem shape_agree {cells cells' : Array Cell} (hag : AgreeNC cells cells') {a : Nat} {sh : Shape}
    (h : shape cells a = some sh) : shape cells' a = some sh :=
  shape_keep hag (fun _ => AgreeNC.exempt) h fun c hc x hx => by
    rw [shape, hc, hx] at h; cases h

theorem AgreeNC.refl (cells : Array Cell) : AgreeNC cells cells := fun _ _ h _ => h

theorem unfold_agree {cells cells' : Array Cell} (hag : AgreeNC cells cells') {a : Nat} (hd : Dec cells a) :
    ∀ fuel, unfold cells fuel a = unfold cells' fuel a := by
  intro fuel
  refine bisim_unfold cells cells' (fun x x' => x' = x ∧ Dec cells x) ?_ fuel a a ⟨rfl, hd⟩
  intro x x' ⟨hx, hdx⟩
  subst hx
  obtain ⟨sh, hsh, hk⟩ := hdx.shape
  refine ⟨sh, sh, hsh, shape_agree hag hsh, rfl, rfl, ?_⟩
  exact allRel_refl_of _ fun k hk' => ⟨rfl, hk k hk'⟩


/-- the shape of a cell that is read without its neighbours -/
def soloShape : Cell → Option Shape
  | .pair l r => some ⟨.pair 0 0, [], [l, r]⟩
  | .range l r => some ⟨.range 0 0, [], [l, r]⟩
  | .slice l r => some ⟨.slice 0 0, [], [l, r]⟩
  | .partial_ l r => some ⟨.partial_ 0 0, [], [l, r]⟩
  | .concatenation l r => some ⟨.concatenation 0 0, [], [l, r]⟩
  | .value p v => some ⟨.value 0 0, [], [p, v]⟩
  | .valueRoot v => some ⟨.valueRoot 0, [], [v]⟩
  | .register p v => some ⟨.register 0 0, [], [p, v]⟩
  | .registerRoot v => some ⟨.registerRoot 0, [], [v]⟩
  | .instructionWithData code d => some ⟨.instructionWithData code 0, [], [d]⟩
  | .unit => some ⟨.unit, [], []⟩ | .tru => some ⟨.tru, [], []⟩ | .fls => some ⟨.fls, [], []⟩
  | .type t => some ⟨.type t, [], []⟩ | .number n => some ⟨.number n, [], []⟩
  | .char n => some ⟨.char n, [], []⟩ | .byte n => some ⟨.byte n, [], []⟩ | .symbol n => some ⟨.symbol n, [], []⟩
  | .expression n => some ⟨.expression n, [], []⟩ | .external n => some ⟨.external n, [], []⟩
  | .custom => some ⟨.custom, [], []⟩ | .empty => some ⟨.empty, [], []⟩
  | .jumpPoint n => some ⟨.jumpPoint n, [], []⟩ | .instruction n => some ⟨.instruction n, [], []⟩
  | _ => none

/-- cells that no reader ever treats as a node, whatever surrounds them -/
def neverNode : Cell → Bool
  | .listItem _ | .associativeItem _ _ | .uninitializedList _ _ | .cloneItem _ | .cloneIndexMap _ _ => true
  | _ => false

theorem neverNode_shape {cells : Array Cell} {j : Nat} {c : Cell} (hc : cells[j]? = some c) (hn : neverNode c = true) :
    shape cells j = none := by
  unfold shape; rw [hc]
  cases c <;> simp [neverNode] at hn <;> rfl

/-- a cell that is a node without links, whatever surrounds it -/
abbrev isLeafCell (c : Cell) : Prop := soloShape c = some ⟨c, [], []⟩

/-- what a new cell other than the copy's own head is -/
def SideCell (c : Cell) : Prop := neverNode c = true ∨ isLeafCell c

theorem sideCell_of_pred {c : Cell} (h : isChar c = true ∨ isByte c = true ∨ isSymPart c = true) : SideCell c := by
  rcases h with h | h | h <;> cases c <;> simp [isChar, isByte, isSymPart] at h <;> exact Or.inr rfl

/-- the new cells of one clone step other than the head of the copy -/
def Others (cur cur2 : Store) (ni : Nat) : Prop :=
  ∀ j, cur.cells.size ≤ j → j < cur2.cells.size → j ≠ ni → ∃ d, cur2.cells[j]? = some d ∧ SideCell d

theorem Others.of_push {cur cur2 : Store} {d : Cell} {ni : Nat} (hc : cur2.cells = cur.cells.push d)
    (hi : ni = cur.cells.size) : Others cur cur2 ni := by
  intro j hj1 hj2 hj3
  rw [hc] at hj2; simp only [Array.size_push] at hj2; omega

theorem Others.of_push2 {cur cur2 : Store} {point : Nat} {d : Cell} {ni : Nat}
    (hc : cur2.cells = (cur.cells.push (.jumpPoint point)).push d) (hi : ni = cur.cells.size + 1) : Others cur cur2 ni := by
  intro j hj1 hj2 hj3
  have hsz : cur2.cells.size = cur.cells.size + 2 := by rw [hc]; simp
  obtain rfl : j = cur.cells.size := by omega
  refine ⟨.jumpPoint point, ?_, Or.inr rfl⟩
  rw [hc, Array.getElem?_push]
  simp

theorem Others.of_block {cur cur2 : Store} {hdr : Cell} {inl : List Cell} {ni : Nat}
    (hl : cur2.cells.toList = (cur.cells.toList ++ [hdr]) ++ inl) (hside : ∀ d ∈ inl, SideCell d)
    (hi : ni = cur.cells.size) : Others cur cur2 ni := by
  intro j hj1 hj2 hj3
  have hsz : cur2.cells.size = cur.cells.size + 1 + inl.length := by
    have := congrArg List.length hl
    simp at this; omega
  obtain ⟨t, rfl⟩ : ∃ t, j = cur.cells.size + 1 + t := ⟨j - (cur.cells.size + 1), by omega⟩
  obtain ⟨d, hd⟩ : ∃ d, inl[t]? = some d := ⟨inl[t]'(by omega), by simp⟩
  refine ⟨d, ?_, hside d (List.mem_of_getElem? hd)⟩
  rw [← Array.getElem?_toList, hl]
  have e : cur.cells.size + 1 + t = (cur.cells.toList ++ [hdr]).length + t := by simp
  rw [e, List.getElem?_append_right (Nat.le_add_right _ _)]
  simpa using hd



theorem shape_of_solo {cells : Array Cell} {a : Nat} {c : Cell} {sh : Shape}
    (hc : cells[a]? = some c) (hs : soloShape c = some sh) : shape cells a = some sh := by
  unfold shape
  rw [hc]
  cases c <;> simp only [soloShape] at hs ⊢ <;> first | exact hs | (simp at hs)

theorem shape_cell_kind {cells : Array Cell} {a : Nat} {c : Cell} {sh : Shape} (hc : cells[a]? = some c)
    (h : shape cells a = some sh) :
    (∃ x, soloShape c = some x) ∨ ((∃ n, c = .charList n) ∨ (∃ n, c = .byteList n) ∨ (∃ n, c = .symbolList n)) ∨
    (∃ n k, c = .list n k) ∨
    ((∃ p r, c = .frame p r) ∨ (∃ p, c = .frameIndex p) ∨ (∃ r, c = .frameRegister r) ∨ c = .frameRoot) := by
  unfold shape at h
  rw [hc] at h
  cases c <;> first
    | exact Or.inl ⟨_, rfl⟩
    | (cases h; done)
    | exact Or.inr (Or.inl (Or.inl ⟨_, rfl⟩))
    | exact Or.inr (Or.inl (Or.inr (Or.inl ⟨_, rfl⟩)))
    | exact Or.inr (Or.inl (Or.inr (Or.inr ⟨_, rfl⟩)))
    | exact Or.inr (Or.inr (Or.inl ⟨_, _, rfl⟩))
    | exact Or.inr (Or.inr (Or.inr (Or.inl ⟨_, _, rfl⟩)))
    | exact Or.inr (Or.inr (Or.inr (Or.inr (Or.inl ⟨_, rfl⟩))))
    | exact Or.inr (Or.inr (Or.inr (Or.inr (Or.inr (Or.inl ⟨_, rfl⟩)))))
    | exact Or.inr (Or.inr (Or.inr (Or.inr (Or.inr (Or.inr rfl)))))

/-- the label a cell gets in a shape: the cell without its links -/
def Cell.label : Cell → Cell
  | .pair _ _ => .pair 0 0 | .range _ _ => .range 0 0 | .slice _ _ => .slice 0 0 | .partial_ _ _ => .partial_ 0 0
  | .concatenation _ _ => .concatenation 0 0 | .value _ _ => .value 0 0 | .valueRoot _ => .valueRoot 0
  | .register _ _ => .register 0 0 | .registerRoot _ => .registerRoot 0
  | .instructionWithData code _ => .instructionWithData code 0
  | .frame _ _ => .frame 0 0 | .frameIndex _ => .frameIndex 0 | .frameRegister _ => .frameRegister 0
  | c => c

theorem shape_label {cells : Array Cell} {a : Nat} {sh : Shape} (h : shape cells a = some sh) :
    ∃ c, cells[a]? = some c ∧ sh.label = c.label := by
  unfold shape at h
  cases hc : cells[a]? with
  | none => simp [hc] at h
  | some c =>
    rw [hc] at h
    refine ⟨c, rfl, ?_⟩
    cases c <;> simp only [] at h <;> try (simp at h; done)
    all_goals first
      | (simp only [Option.some.injEq] at h; subst h; rfl)
      | (simp only [Option.map_eq_some_iff] at h; obtain ⟨t, _, rfl⟩ := h; rfl)
      | (split at h
         · simp only [Option.some.injEq] at h; subst h; rfl
         · simp at h)

theorem solo_of_shape {cells : Array Cell} {a : Nat} {c : Cell} {sh sh' : Shape}
    (hc : cells[a]? = some c) (hs : soloShape c = some sh') (h : shape cells a = some sh) : sh = sh' := by
  rw [shape_of_solo hc hs] at h
  exact (Option.some.inj h).symm

theorem pushLast_one {s s' : Store} {c : Cell} {r : Nat} (h : Store.pushLast s [c] 0 = .ok (s', r)) :
    r = s.cells.size ∧ s'.cells = s.cells.push c := by
  simp only [Store.pushLast, Outcome.bind_eq_ok'] at h
  obtain ⟨⟨s1, i1⟩, h1, h2⟩ := h
  simp only [Outcome.ok.injEq, Prod.mk.injEq] at h2
  obtain ⟨h3, h4⟩ := h2
  subst h3
  obtain ⟨hi, hc, _⟩ := push_ok h1
  exact ⟨by rw [← h4, hi], hc⟩

theorem pushLast_two {s s' : Store} {c d : Cell} {r : Nat} (h : Store.pushLast s [c, d] 0 = .ok (s', r)) :
    r = s.cells.size + 1 ∧ s'.cells = (s.cells.push c).push d := by
  simp only [Store.pushLast, Outcome.bind_eq_ok'] at h
  obtain ⟨⟨s1, i1⟩, h1, ⟨s2, i2⟩, h2, h3⟩ := h
  simp only [Outcome.ok.injEq, Prod.mk.injEq] at h3
  obtain ⟨h3, h4⟩ := h3
  subst h3
  obtain ⟨_, hc1, _⟩ := push_ok h1
  obtain ⟨hi2, hc2, _⟩ := push_ok h2
  refine ⟨by rw [← h4, hi2, hc1]; simp, by rw [hc2, hc1]⟩

theorem shape_push_solo (A : Array Cell) (c : Cell) (sh : Shape) (hs : soloShape c = some sh) :
    shape (A.push c) A.size = some sh := shape_of_solo (by simp) hs

theorem cloneCell_shape_solo {cur cur2 : Store} {ls le index ni : Nat} {c : Cell} {sh : Shape}
    (hs : soloShape c = some sh) (hclone : Store.cloneCell cur ls le index c = .ok (cur2, ni)) :
    (∃ sh', shape cur2.cells ni = some sh' ∧ sh'.label = sh.label ∧ sh'.inl = sh.inl ∧
      AllRel (fun x x' => Store.lookup cur ls le x = .ok x') sh.kids sh'.kids) ∧ Others cur cur2 ni := by
  cases c <;> simp only [soloShape, Option.some.injEq] at hs <;> try (simp at hs; done)
  all_goals subst hs
  all_goals simp only [Store.cloneCell, Store.relink, Outcome.bind_eq_ok', Outcome.pure_eq_ok_iff] at hclone
  all_goals first
    | (obtain ⟨hi, hc, _⟩ := push_ok hclone
       refine ⟨?_, Others.of_push hc hi⟩
       rw [hi, hc]
       exact ⟨_, shape_push_solo _ _ _ rfl, rfl, rfl, AllRel.nil⟩)
    | (obtain ⟨cells, ⟨l', hl, r', hr, hcs⟩, hp⟩ := hclone
       subst hcs
       obtain ⟨hi, hc⟩ := pushLast_one hp
       refine ⟨?_, Others.of_push hc hi⟩
       rw [hi, hc]
       exact ⟨_, shape_push_solo _ _ _ rfl, rfl, rfl, AllRel.cons hl (AllRel.cons hr AllRel.nil)⟩)
    | (obtain ⟨cells, ⟨l', hl, hcs⟩, hp⟩ := hclone
       subst hcs
       obtain ⟨hi, hc⟩ := pushLast_one hp
       refine ⟨?_, Others.of_push hc hi⟩
       rw [hi, hc]
       exact ⟨_, shape_push_solo _ _ _ rfl, rfl, rfl, AllRel.cons hl AllRel.nil⟩)

theorem jumpBefore_ok {s : Store} {index p : Nat} (h : Store.jumpBefore s index = .ok p) :
    ∃ i, index = i + 1 ∧ s.cells[i]? = some (.jumpPoint p) := by
  cases index with
  | zero => simp [Store.jumpBefore] at h
  | succ i =>
    simp only [Store.jumpBefore, Outcome.bind_eq_ok'] at h
    obtain ⟨c, hg, h2⟩ := h
    have hc := get_ok hg
    cases c <;> simp only [Outcome.pure_eq_ok_iff] at h2 <;> try (simp at h2; done)
    subst h2
    exact ⟨i, rfl, hc⟩

theorem framePoint_push2 (A : Array Cell) (p : Nat) (c : Cell) :
    framePoint ((A.push (.jumpPoint p)).push c) (A.size + 1) = some (.jumpPoint p) := by
  have : ((A.push (Cell.jumpPoint p)).push c)[A.size]? = some (Cell.jumpPoint p) := by
    rw [Array.getElem?_push]; simp
  simp [framePoint, this]

theorem get_push2 (A : Array Cell) (x c : Cell) : ((A.push x).push c)[A.size + 1]? = some c := by
  have : A.size + 1 = (A.push x).size := by simp
  rw [this, Array.getElem?_push]; simp

theorem framePoint_transfer {s0 : Array Cell} {cur : Store} {i point : Nat} {jp : Cell}
    (hA : ∀ (i : Nat) (c : Cell), s0[i]? = some c → cur.cells[i]? = some c)
    (hjp : framePoint s0 (i + 1) = some jp) (hcell : cur.cells[i]? = some (.jumpPoint point)) :
    jp = .jumpPoint point := by
  simp only [framePoint] at hjp
  cases hs0 : s0[i]? with
  | none => simp [hs0] at hjp
  | some d =>
    have := hA i d hs0
    rw [hcell] at this
    simp only [Option.some.injEq] at this
    subst this
    simpa [hs0] using hjp.symm

theorem cloneCell_shape_frame {s0 : Array Cell} {cur cur2 : Store} {ls le index ni : Nat} {c : Cell} {sh : Shape}
    (hA : ∀ (i : Nat) (c : Cell), s0[i]? = some c → cur.cells[i]? = some c)
    (hc : s0[index]? = some c) (hsh : shape s0 index = some sh)
    (hfr : (∃ p r, c = .frame p r) ∨ (∃ p, c = .frameIndex p) ∨ (∃ r, c = .frameRegister r) ∨ c = .frameRoot)
    (hclone : Store.cloneCell cur ls le index c = .ok (cur2, ni)) :
    (∃ sh', shape cur2.cells ni = some sh' ∧ sh'.label = sh.label ∧ sh'.inl = sh.inl ∧
      AllRel (fun x x' => Store.lookup cur ls le x = .ok x') sh.kids sh'.kids) ∧ Others cur cur2 ni := by
  unfold shape at hsh
  rw [hc] at hsh
  rcases hfr with ⟨p, r, rfl⟩ | ⟨p, rfl⟩ | ⟨r, rfl⟩ | rfl
  all_goals simp only [Option.map_eq_some_iff] at hsh
  all_goals obtain ⟨jp, hjp, rfl⟩ := hsh
  all_goals simp only [Store.cloneCell, Store.relink, Outcome.bind_eq_ok', Outcome.pure_eq_ok_iff] at hclone
  · obtain ⟨cells, ⟨point, hpt, p', hp', r', hr', hcs⟩, hpl⟩ := hclone
    subst hcs
    obtain ⟨hi, hcells⟩ := pushLast_two hpl
    obtain ⟨i, hidx, hcell⟩ := jumpBefore_ok hpt
    subst hidx
    have hjp' := framePoint_transfer hA hjp hcell
    subst hjp'
    refine ⟨?_, Others.of_push2 hcells hi⟩
    rw [hi, hcells]
    refine ⟨⟨.frame 0 0, [.jumpPoint point], [p', r']⟩, ?_, rfl, rfl, AllRel.cons hp' (AllRel.cons hr' AllRel.nil)⟩
    unfold shape
    rw [get_push2]
    simp [framePoint_push2]
  · obtain ⟨cells, ⟨point, hpt, p', hp', hcs⟩, hpl⟩ := hclone
    subst hcs
    obtain ⟨hi, hcells⟩ := pushLast_two hpl
    obtain ⟨i, hidx, hcell⟩ := jumpBefore_ok hpt
    subst hidx
    have hjp' := framePoint_transfer hA hjp hcell
    subst hjp'
    refine ⟨?_, Others.of_push2 hcells hi⟩
    rw [hi, hcells]
    refine ⟨⟨.frameIndex 0, [.jumpPoint point], [p']⟩, ?_, rfl, rfl, AllRel.cons hp' AllRel.nil⟩
    unfold shape
    rw [get_push2]
    simp [framePoint_push2]
  · obtain ⟨cells, ⟨point, hpt, p', hp', hcs⟩, hpl⟩ := hclone
    subst hcs
    obtain ⟨hi, hcells⟩ := pushLast_two hpl
    obtain ⟨i, hidx, hcell⟩ := jumpBefore_ok hpt
    subst hidx
    have hjp' := framePoint_transfer hA hjp hcell
    subst hjp'
    refine ⟨?_, Others.of_push2 hcells hi⟩
    rw [hi, hcells]
    refine ⟨⟨.frameRegister 0, [.jumpPoint point], [p']⟩, ?_, rfl, rfl, AllRel.cons hp' AllRel.nil⟩
    unfold shape
    rw [get_push2]
    simp [framePoint_push2]
  · obtain ⟨cells, ⟨point, hpt, hcs⟩, hpl⟩ := hclone
    subst hcs
    obtain ⟨hi, hcells⟩ := pushLast_two hpl
    obtain ⟨i, hidx, hcell⟩ := jumpBefore_ok hpt
    subst hidx
    have hjp' := framePoint_transfer hA hjp hcell
    subst hjp'
    refine ⟨?_, Others.of_push2 hcells hi⟩
    rw [hi, hcells]
    refine ⟨⟨.frameRoot, [.jumpPoint point], []⟩, ?_, rfl, rfl, AllRel.nil⟩
    unfold shape
    rw [get_push2]
    simp [framePoint_push2]


theorem inlineCells_props {cells : Array Cell} {p : Cell → Bool} :
    ∀ (n a : Nat) (l : List Cell), inlineCells cells p a n = some l → l.length = n ∧ ∀ c ∈ l, p c = true
  | 0, a, l, h => by
    simp only [inlineCells, Option.some.injEq] at h
    subst h; simp
  | n + 1, a, l, h => by
    simp only [inlineCells] at h
    cases hc : cells[a]? with
    | none => simp [hc] at h
    | some c =>
      rw [hc] at h
      simp only at h
      split at h
      · rename_i hpc
        simp only [Option.map_eq_some_iff] at h
        obtain ⟨t, ht, rfl⟩ := h
        obtain ⟨h1, h2⟩ := inlineCells_props n (a + 1) t ht
        refine ⟨by simp [h1], ?_⟩
        intro c' hc'
        rcases List.mem_cons.mp hc' with rfl | hm
        · exact hpc
        · exact h2 c' hm
      · simp at h

theorem inlineCells_suffix {p : Cell → Bool} : ∀ (l pre post : List Cell) (cells : Array Cell),
    (∀ c ∈ l, p c = true) → cells.toList = pre ++ l ++ post → inlineCells cells p pre.length l.length = some l
  | [], pre, post, cells, _, _ => by simp [inlineCells]
  | c :: l, pre, post, cells, hp, hcells => by
    simp only [List.length_cons, inlineCells]
    have hget : cells[pre.length]? = some c := by
      rw [← Array.getElem?_toList, hcells]
      simp
    rw [hget]
    simp only [hp c (by simp), if_true]
    have := inlineCells_suffix l (pre ++ [c]) post cells (fun c' hc' => hp c' (by simp [hc'])) (by simp [hcells])
    simp only [List.length_append, List.length_singleton] at this
    rw [this]; rfl

theorem pushAll_spec : ∀ (cs : List Cell) (s s' : Store), Store.pushAll s cs = .ok s' →
    s'.cells = s.cells ++ cs.toArray ∧ SameFrame s s'
  | [], s, s', h => by
    simp only [Store.pushAll, Outcome.ok.injEq] at h
    subst h; exact ⟨by simp, SameFrame.rfl' _⟩
  | c :: cs, s, s', h => by
    simp only [Store.pushAll, Outcome.bind_eq_ok'] at h
    obtain ⟨⟨s1, i⟩, hp, hrest⟩ := h
    obtain ⟨_, hc, hf⟩ := push_ok hp
    obtain ⟨h1, h2⟩ := pushAll_spec cs s1 s' hrest
    refine ⟨?_, hf.trans h2⟩
    rw [h1, hc]
    apply Array.ext'
    simp

theorem pushAll_append : ∀ (l1 l2 : List Cell) (s : Store),
    Store.pushAll s (l1 ++ l2) = (Store.pushAll s l1).bind fun s1 => Store.pushAll s1 l2
  | [], _, _ => rfl
  | c :: l1, l2, s => by
    simp only [List.cons_append, Store.pushAll]
    cases s.push c with
    | ok r => exact pushAll_append l1 l2 r.1
    | err e => rfl
    | panic m => rfl
    | fuelOut => rfl

/-- the same outcome, a failing `push` included: the cells read lie below the cells appended meanwhile -/
theorem copyCells_eq_pushAll {p : Cell → Bool} (hp : ∀ x, p (.cloneItem x) = false) :
    ∀ (n : Nat) (s : Store) (i : Nat) (l : List Cell), inlineCells s.cells p i n = some l →
      Store.copyCells s i n = Store.pushAll s l
  | 0, s, i, l, hl => by
    simp only [inlineCells, Option.some.injEq] at hl
    subst hl; rfl
  | n + 1, s, i, l, hl => by
    simp only [inlineCells] at hl
    cases hc : s.cells[i]? with
    | none => simp [hc] at hl
    | some c =>
      rw [hc] at hl
      simp only at hl
      split at hl
      · simp only [Option.map_eq_some_iff] at hl
        obtain ⟨t, ht, rfl⟩ := hl
        simp only [Store.copyCells, Store.pushAll, Store.get, hc, Outcome.ok_bind]
        cases hpush : s.push c with
        | ok r =>
          obtain ⟨s1, i1⟩ := r
          obtain ⟨_, hcells, _⟩ := push_ok hpush
          have hag : AgreeNC s.cells s1.cells := by
            intro j d hj _
            rw [hcells, Array.getElem?_push]
            have : j < s.cells.size := lt_of_getElem? hj
            simp [Nat.ne_of_lt this, hj]
          simp only [Outcome.ok_bind]
          exact copyCells_eq_pushAll hp n s1 (i + 1) t (inlineCells_agree hag p hp n (i + 1) t ht)
        | err e => rfl
        | panic m => rfl
        | fuelOut => rfl
      · cases hl

theorem copyCells_spec {p : Cell → Bool} (hp : ∀ x, p (.cloneItem x) = false) (n : Nat) (s s' : Store) (i : Nat)
    (l : List Cell) (hl : inlineCells s.cells p i n = some l) (h : Store.copyCells s i n = .ok s') :
    s'.cells.toList = s.cells.toList ++ l := by
  rw [copyCells_eq_pushAll hp n s i l hl] at h
  rw [(pushAll_spec l s s' h).1]; simp


theorem agreeNC_of_all {s0 cells : Array Cell}
    (hA : ∀ (i : Nat) (c : Cell), s0[i]? = some c → cells[i]? = some c) : AgreeNC s0 cells :=
  fun i c h _ => hA i c h

theorem inline_core {p : Cell → Bool} (hp : ∀ x, p (.cloneItem x) = false) {s0 : Array Cell} {cur s1 s2 : Store}
    {index li n : Nat} {hdr : Cell} {inl : List Cell}
    (hA : ∀ (i : Nat) (c : Cell), s0[i]? = some c → cur.cells[i]? = some c)
    (hinl : inlineCells s0 p (index + 1) n = some inl)
    (hpush : cur.push hdr = .ok (s1, li)) (hcopy : Store.copyCells s1 (index + 1) n = .ok s2)
    (hside : ∀ d, p d = true → SideCell d) :
    li = cur.cells.size ∧ s2.cells[li]? = some hdr ∧ inlineCells s2.cells p (li + 1) n = some inl ∧ Others cur s2 li := by
  obtain ⟨hi, hcells, _⟩ := push_ok hpush
  have hag1 : AgreeNC s0 s1.cells := by
    intro j d hj _
    have := hA j d hj
    rw [hcells, Array.getElem?_push]
    have hlt : j < cur.cells.size := lt_of_getElem? this
    simp [Nat.ne_of_lt hlt, this]
  have hinl1 := inlineCells_agree hag1 p hp _ _ _ hinl
  have hlist := copyCells_spec hp _ _ _ _ _ hinl1 hcopy
  obtain ⟨hlen, hall⟩ := inlineCells_props _ _ _ hinl
  have hl2 : s2.cells.toList = (cur.cells.toList ++ [hdr]) ++ inl ++ [] := by
    rw [hlist, hcells]; simp
  have hread := inlineCells_suffix inl _ [] s2.cells hall hl2
  have hhdr : s2.cells[li]? = some hdr := by
    rw [← Array.getElem?_toList, hl2, hi]; simp
  simp only [List.length_append, List.length_singleton, Array.length_toList, hlen] at hread
  rw [← hi] at hread
  exact ⟨hi, hhdr, hread, Others.of_block (by simpa using hl2) (fun d hd => hside d (hall d hd)) hi⟩

theorem cloneCell_shape_inline {s0 : Array Cell} {cur cur2 : Store} {ls le index ni : Nat} {c : Cell} {sh : Shape}
    (hA : ∀ (i : Nat) (c : Cell), s0[i]? = some c → cur.cells[i]? = some c)
    (hc : s0[index]? = some c) (hsh : shape s0 index = some sh)
    (hin : (∃ n, c = .charList n) ∨ (∃ n, c = .byteList n) ∨ (∃ n, c = .symbolList n))
    (hclone : Store.cloneCell cur ls le index c = .ok (cur2, ni)) :
    (∃ sh', shape cur2.cells ni = some sh' ∧ sh'.label = sh.label ∧ sh'.inl = sh.inl ∧
      AllRel (fun x x' => Store.lookup cur ls le x = .ok x') sh.kids sh'.kids) ∧ Others cur cur2 ni := by
  unfold shape at hsh
  rw [hc] at hsh
  rcases hin with ⟨n, rfl⟩ | ⟨n, rfl⟩ | ⟨n, rfl⟩
  all_goals simp only [Option.map_eq_some_iff] at hsh
  all_goals obtain ⟨inl, hinl, rfl⟩ := hsh
  all_goals simp only [Store.cloneCell, Outcome.bind_eq_ok', Outcome.pure_eq_ok_iff, Prod.mk.injEq] at hclone
  all_goals obtain ⟨⟨s1, li⟩, hpush, s2, hcopy, hs2, hli⟩ := hclone
  all_goals subst hs2
  all_goals subst hli
  all_goals obtain ⟨_, hhdr, hread, hoth⟩ := inline_core (by intro x; rfl) hA hinl hpush hcopy fun d hd =>
    sideCell_of_pred (by first | exact Or.inl hd | exact Or.inr (Or.inl hd) | exact Or.inr (Or.inr hd))
  all_goals refine ⟨⟨⟨_, inl, []⟩, ?_, rfl, rfl, AllRel.nil⟩, hoth⟩
  all_goals unfold shape
  all_goals rw [hhdr]
  all_goals simp only [hread, Option.map_some]

theorem shape_cell {cells : Array Cell} {a : Nat} {sh : Shape} (h : shape cells a = some sh) :
    ∃ c, cells[a]? = some c :=
  let ⟨c, hc, _⟩ := shape_label h; ⟨c, hc⟩

theorem shape_bound {cells : Array Cell} {a : Nat} {sh : Shape} (h : shape cells a = some sh) : a < cells.size := by
  obtain ⟨c, hc⟩ := shape_cell h
  exact lt_of_getElem? hc

theorem label_list {cells : Array Cell} {a n k : Nat} {sh : Shape} (h : shape cells a = some sh)
    (hl : sh.label = .list n k) : cells[a]? = some (.list n k) := by
  obtain ⟨c, hc, hl'⟩ := shape_label h
  rw [hl'] at hl
  cases c <;> first | cases hl | skip
  exact hc

theorem AllRel.right_mem {α β} {R : α → β → Prop} : ∀ {l : List α} {l' : List β}, AllRel R l l' →
    ∀ b ∈ l', ∃ a ∈ l, R a b
  | _, _, .nil, b, hb => by simp at hb
  | _, _, .cons hab t, b, hb => by
    rcases List.mem_cons.mp hb with rfl | hb
    · exact ⟨_, by simp, hab⟩
    · obtain ⟨a, ha, hr⟩ := AllRel.right_mem t b hb
      exact ⟨a, by simp [ha], hr⟩

end Garnish.BasicOpt
