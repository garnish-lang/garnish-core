/-
Refinement lemmas for traits/src/helpers/concatenation.rs, part 2: the clean-up loop, the whole
`iterate_concatenation_mut_with_method`, and its two uses in list.rs — `index_concatenation_for` (integer index:
Abs/Ops `accessInt` on a concatenation) and the reverse iteration of `access_with_symbol` (Abs/Ops `lookupRev`).
-/
import Garnish.Lemmas.RuntimeConcat
namespace Garnish.Lemmas.Runtime
open Garnish Gen Garnish.Abs Garnish.Model.Equality Garnish.Model.Runtime

variable {F σ : Type} {S : RStore F σ} (fo : FloatOps F)

theorem getPair_of {s : σ} {a x y : Nat} (h : (S.view s).pair a = some (x, y)) :
    getPair S a s = .ok ((x, y), s) := by
  simp [getPair, RM.lift, h, fetch, Outcome.ofOption, Outcome.bind]

theorem getSymbol_of {s : σ} {a y : Nat} (h : Decodes (S.view s) a (.sym y)) : getSymbol S a s = .ok (y, s) := by
  cases h with
  | sym _ hn => simp [getSymbol, RM.lift, hn, fetch, Outcome.ofOption, Outcome.bind]

theorem visit_false : ∀ (v : Val F), visit false v = flatItems v
  | .concat l r => by simp [visit, flatItems, visit_false l, visit_false r]
  | .list items => rfl
  | .unit | .tru | .fls | .num _ | .char _ | .byte _ | .sym _ | .expr _ | .ext _ | .type _ | .chars _
  | .bytes _ | .symList _ | .pair _ _ | .range _ _ | .slice _ _ | .part _ _ | .custom => rfl

theorem visit_length (rev : Bool) : ∀ (v : Val F), (visit rev v).length = (flatItems v).length
  | .concat l r => by
    cases rev <;> simp [visit, flatItems, visit_length _ l, visit_length _ r]; omega
  | .list items => rfl
  | .unit | .tru | .fls | .num _ | .char _ | .byte _ | .sym _ | .expr _ | .ext _ | .type _ | .chars _
  | .bytes _ | .symList _ | .pair _ _ | .range _ _ | .slice _ _ | .part _ _ | .custom => rfl

theorem firstHit_idx (i : Int) : ∀ (k : Nat) (xs : List (Val F)),
    firstHit (idxChk i) k xs = if (k : Int) ≤ i then xs[(i - k).toNat]? else none
  | k, [] => by simp [firstHit]
  | k, x :: xs => by
    simp only [firstHit, idxChk]
    by_cases h : (k : Int) = i
    · subst h; simp
    · simp only [h, if_false]
      rw [firstHit_idx i (k + 1) xs]
      by_cases h2 : (k : Int) ≤ i
      · have h3 : ((k + 1 : Nat) : Int) ≤ i := by omega
        have e : (i - (k : Int)).toNat = (i - ((k + 1 : Nat) : Int)).toNat + 1 := by omega
        simp only [h2, h3, if_true, e, List.getElem?_cons_succ]
      · have h3 : ¬ ((k + 1 : Nat) : Int) ≤ i := by omega
        simp only [h2, h3, if_false]

theorem firstHit_keyed (sym : Nat) : ∀ (k : Nat) (xs : List (Val F)),
    firstHit (fun _ v => keyedVal sym v) k xs = lookupSym sym xs
  | _, [] => rfl
  | k, x :: xs => by
    rw [lookupSym_eq_findSome, List.findSome?_cons, ← lookupSym_eq_findSome, firstHit, firstHit_keyed sym (k + 1) xs]
    cases keyedVal sym x <;> rfl

theorem firstHit_visit_rev (sym : Nat) : ∀ (v : Val F) (k : Nat),
    firstHit (fun _ v => keyedVal sym v) k (visit true v) = lookupRev sym v
  | .concat l r, k => by
    simp only [visit, if_true, firstHit_append, firstHit_visit_rev sym r k, firstHit_visit_rev sym l, lookupRev]
    cases lookupRev sym r <;> rfl
  | .list items, k => by simp only [visit, firstHit_keyed, lookupRev]
  | .pair l r, k => by simp only [visit, firstHit_keyed, lookupRev]
  | .unit, k | .tru, k | .fls, k | .num _, k | .char _, k | .byte _, k | .sym _, k | .expr _, k | .ext _, k
  | .type _, k | .chars _, k | .bytes _, k | .symList _, k | .range _ _, k | .slice _ _, k | .part _ _, k
  | .custom, k => by simp only [visit, firstHit_keyed, lookupRev]

theorem getValueIfAssociation_spec (sym : Nat) {s : σ} {addr : Nat} {v : Val F} (h : Decodes (S.view s) addr v) :
    ∃ o, getValueIfAssociation S addr sym s = .ok (o, s) ∧
      match keyedVal sym v with
      | some w => ∃ a, o = some a ∧ Decodes (S.view s) a w
      | none => o = none := by
  rw [getValueIfAssociation, bind_ok (getDataType_of h)]
  cases v
  case pair vl vr =>
    cases h with
    | pair _ hp dl dr =>
      simp only [Val.typeOf]
      rw [bind_ok (getPair_of hp)]
      simp only []
      rw [bind_ok (getDataType_of dl)]
      cases vl
      case sym k =>
        simp only [Val.typeOf, keyedVal]
        rw [bind_ok (getSymbol_of dl)]
        by_cases hk : k = sym
        · subst hk; simp only [beq_self_eq_true, if_true]; exact ⟨_, rfl, _, rfl, dr⟩
        · have : (k == sym) = false := by simpa using hk
          simp only [this, Bool.false_eq_true, if_false]; exact ⟨_, rfl, rfl⟩
      all_goals exact ⟨none, rfl, rfl⟩
  all_goals exact ⟨none, rfl, rfl⟩

namespace Core
open On

variable {Inv : σ → Prop} {Rd : σ → Nat → Prop} {K : Prop}

/-- the clean-up loop pops what the work-list left behind; what pops keep (`Qs`) is kept -/
theorem clearBorrowed_spec (L : LawsK S Inv Rd K) {Qs : σ → Prop}
    (hpop : ∀ s o s', Qs s → S.popRegister s = .ok (o, s') → Qs s') (base : List Nat) :
    ∀ (fuel : Nat) (extra : List Nat) (s : σ),
    Inv s → DeepK K S s base → S.regs s = extra ++ base → extra.length + 1 ≤ fuel → Qs s →
    ∃ s', clearBorrowed S base.length fuel s = .ok ((), s') ∧ EffI S Inv s s' base (S.vals s) ∧ Qs s' := by
  intro fuel
  induction fuel with
  | zero => intro extra s _ _ _ hf; omega
  | succ fuel ih =>
    intro extra s hinv hdb hregs hf hq
    have hlen : getRegisterLen S s = .ok ((extra ++ base).length, s) := by
      show Outcome.ok ((S.regs s).length, s) = _
      rw [hregs]
    rw [clearBorrowed, bind_ok hlen]
    cases extra with
    | nil =>
      simp only [List.nil_append, Nat.lt_irrefl, gt_iff_lt, if_false]
      exact ⟨s, rfl, ⟨⟨Keeps.refl S s, by simpa using hregs, rfl, rfl, rfl⟩, hinv⟩, hq⟩
    | cons x xs =>
      have hgt : (x :: xs ++ base).length > base.length := by simp; omega
      simp only [hgt, if_true]
      obtain ⟨s1, h1, e1⟩ := popReg L hregs hinv (hdb.app xs)
      obtain ⟨s2, h2, e2, q2⟩ := ih xs s1 e1.inv (e1.deepK hdb) e1.regs (by simp at hf; omega) (hpop s _ s1 hq h1)
      rw [e1.vals] at e2
      exact ⟨s2, by rw [bind_ok h1]; exact h2, e1.trans e2, q2⟩

/-- **`iterate_concatenation_mut_with_method` on a concatenation**, with a check that may carry state and change the
store (`WalkRefines`): the items it takes before its first hit, that hit — or none, with every item counted; the
registers the work-list borrowed are given back -/
theorem iterateConcatenation_walk (L : LawsK S Inv Rd K) (rev : Bool) {α : Type}
    {checkFn : α → Number F → Nat → RM σ (Option Nat × α)} {vchk : Nat → Val F → Option (Val F)}
    {take : Nat → Val F → Bool} {Q : α → List Nat → σ → Prop} (hp : WalkRefines S Inv checkFn vchk take Q)
    (fuel : Nat) {s : σ} {addr : Nat} {vl vr : Val F}
    (h : Decodes (S.view s) addr (.concat vl vr)) (hf : nodes vl + nodes vr + 1 ≤ fuel)
    (hb : (visit rev (.concat vl vr)).length ≤ 2147483647) (hnc : K → ncNodes (.concat vl vr))
    (acc : α) (built : List Nat) (hq : Q acc built s)
    (hinv : Inv s := by inv_tac) (hdp : DeepK K S s (S.regs s) := by deep_tac) :
    ∃ r idx' acc' s' new, iterateConcatenation fo S rev fuel addr checkFn acc s = .ok (((r, idx'), acc'), s') ∧
      EffI S Inv s s' (S.regs s) (S.vals s) ∧ Q acc' (built ++ new) s' ∧
      DecodesList (S.view s') new (taken vchk take 0 (visit rev (.concat vl vr))) ∧
      match firstHit vchk 0 (visit rev (.concat vl vr)) with
      | some w => ∃ a, r = some a ∧ Decodes (S.view s') a w
      | none => r = none ∧ idx' = (visit rev (.concat vl vr)).length := by
  obtain ⟨la, ra, hc, dl, dr⟩ := concat_of h
  have hlen : getRegisterLen S s = .ok ((S.regs s).length, s) := rfl
  rw [iterateConcatenation, bind_ok (getMethod_of rev hc)]
  -- the two pushes, in either order
  have pushes : ∀ (cur next : Nat) (vc vn : Val F), (K → ncNodes vc) → (K → ncNodes vn) →
      Decodes (S.view s) cur vc → Decodes (S.view s) next vn →
      nodes vc + nodes vn + 1 ≤ fuel → (visitAll rev [vc, vn]).length ≤ 2147483647 →
      ∃ r idx' acc' s' new, ((do
          let startRegister ← getRegisterLen S
          S.pushRegister next
          S.pushRegister cur
          let ((result, index), acc) ← iterLoop fo S rev checkFn startRegister fuel 0 acc
          clearBorrowed S startRegister fuel
          pure ((result, index), acc) : RM σ ((Option Nat × Nat) × α)) s = .ok (((r, idx'), acc'), s')) ∧
        EffI S Inv s s' (S.regs s) (S.vals s) ∧ Q acc' (built ++ new) s' ∧
        DecodesList (S.view s') new (taken vchk take 0 (visitAll rev [vc, vn])) ∧
        match firstHit vchk 0 (visitAll rev [vc, vn]) with
        | some w => ∃ a, r = some a ∧ Decodes (S.view s') a w
        | none => r = none ∧ idx' = (visitAll rev [vc, vn]).length := by
    intro cur next vc vn nc1 nc2 dc dn hfu hbb
    obtain ⟨s1, h1, e1⟩ := pushReg L dn (fun k => ncNodes_ne (nc2 k))
    have q1 := hp.push s acc built next _ s1 hq h1
    obtain ⟨s2, h2, e2⟩ := pushReg L (e1.dec dc) (fun k => ncNodes_ne (nc1 k))
    have q2 := hp.push s1 acc built cur _ s2 q1 h2
    rw [e1.regs, e1.vals] at e2
    have e02 := e1.trans e2
    obtain ⟨r, idx', acc', s3, extra, new, h3, e3, hx, q3, d3, hm⟩ :=
      iterLoop_walk fo L rev hp (S.regs s) fuel [cur, next] [vc, vn] 0 acc built s2 e2.inv (e02.deepK hdp)
        (fun k => ncAll_cons2 (nc1 k) (nc2 k) fun _ h => nomatch h)
        (by rw [e2.regs]; rfl) (.cons (e02.dec dc) (.cons (e02.dec dn) .nil))
        (by simp only [nodesAll]; omega) (by simpa using hbb) q2
    rw [e2.vals] at e3
    obtain ⟨s4, h4, e4, q4⟩ := clearBorrowed_spec L (Qs := Q acc' (built ++ new))
      (fun st o st' hqq hh => hp.pop st acc' (built ++ new) o st' hqq hh) (S.regs s) fuel extra s3 e3.inv
      ((e02.trans e3).deepK hdp) e3.regs (by simp only [nodesAll] at hx; omega) q3
    rw [e3.vals] at e4
    refine ⟨r, idx', acc', s4, new, ?_, (e02.trans e3).trans e4, q4, decodesList_keeps e4.keeps d3, ?_⟩
    · rw [bind_ok hlen, bind_ok h1, bind_ok h2, bind_ok h3]
      simp only []
      rw [bind_ok h4]; rfl
    · cases hfh : firstHit vchk 0 (visitAll rev [vc, vn]) with
      | some w =>
        rw [hfh] at hm
        obtain ⟨a, ha, da⟩ := hm
        exact ⟨a, ha, e4.dec da⟩
      | none => rw [hfh] at hm; exact ⟨hm.1, by simpa using hm.2.2⟩
  cases rev with
  | false =>
    simp only [Bool.false_eq_true, if_false]
    have := pushes la ra vl vr (fun k => (hnc k).1) (fun k => (hnc k).2) dl dr hf (by simpa [visitAll, visit] using hb)
    simpa [visitAll, visit] using this
  | true =>
    simp only [if_true]
    have := pushes ra la vr vl (fun k => (hnc k).2) (fun k => (hnc k).1) dr dl (by omega) (by simpa [visitAll, visit] using hb)
    simpa [visitAll, visit] using this

theorem iterateConcatenation_spec (L : LawsK S Inv Rd K) (rev : Bool)
    {checkFn : Unit → Number F → Nat → RM σ (Option Nat × Unit)} {vchk : Nat → Val F → Option (Val F)}
    (hchk : CheckRefines S checkFn vchk) (fuel : Nat) {s : σ} {addr : Nat} {vl vr : Val F}
    (h : Decodes (S.view s) addr (.concat vl vr)) (hf : nodes vl + nodes vr + 1 ≤ fuel)
    (hb : (visit rev (.concat vl vr)).length ≤ 2147483647) (hnc : K → ncNodes (.concat vl vr))
    (hinv : Inv s := by inv_tac) (hdp : DeepK K S s (S.regs s) := by deep_tac) :
    ∃ r idx' s', iterateConcatenation fo S rev fuel addr checkFn () s = .ok (((r, idx'), ()), s') ∧
      EffI S Inv s s' (S.regs s) (S.vals s) ∧
      match firstHit vchk 0 (visit rev (.concat vl vr)) with
      | some w => ∃ a, r = some a ∧ Decodes (S.view s') a w
      | none => r = none := by
  obtain ⟨r, idx', _, s', _, h1, e1, _, _, hm⟩ :=
    iterateConcatenation_walk fo L rev hchk.walk fuel h hf hb hnc () [] trivial
  refine ⟨r, idx', s', h1, e1, ?_⟩
  cases hfh : firstHit vchk 0 (visit rev (.concat vl vr)) with
  | some w => rw [hfh] at hm; exact hm
  | none => rw [hfh] at hm; exact hm.1

theorem indexConcatenationFor_spec (L : LawsK S Inv Rd K) (fuel : Nat) {s : σ} {addr : Nat} {vl vr : Val F} (i : Int)
    (h : Decodes (S.view s) addr (.concat vl vr)) (hf : nodes vl + nodes vr + 1 ≤ fuel)
    (hb : (flatItems vl ++ flatItems vr).length ≤ 2147483647)
    (hnc : K → ncNodes (.concat vl vr))
    (hinv : Inv s := by inv_tac) (hdp : DeepK K S s (S.regs s) := by deep_tac) :
    AccOutI S Inv s (indexConcatenationFor fo S fuel addr (.int i) s) (accessInt fo (.int i) (.concat vl vr)) := by
  have hchk : CheckRefines S (fun (_ : Unit) (currentIndex : Number F) (a : Nat) =>
      (pure (if Number.numEq fo currentIndex (.int i) then some a else none, ()) : RM σ (Option Nat × Unit)))
      (idxChk i) := by
    intro st k a v _ dv
    refine ⟨if (k : Int) = i then some a else none, ?_, ?_⟩
    · show Outcome.ok ((if Number.numEq fo (.int (k : Int)) (.int i) = true then some a else none, ()), st) = _
      rw [Number.numEq]
      by_cases hk : (k : Int) = i <;> simp [hk]
    · simp only [idxChk]
      by_cases hk : (k : Int) = i
      · simp only [hk, if_true]; exact ⟨a, rfl, dv⟩
      · simp only [hk, if_false]
  have hvis : visit false (.concat vl vr) = flatItems vl ++ flatItems vr := by
    rw [visit_false]; rfl
  obtain ⟨r, idx', s', h1, e1, hm⟩ := iterateConcatenation_spec fo L false hchk fuel h hf (by rw [hvis]; exact hb) hnc
  rw [hvis, firstHit_idx] at hm
  rw [indexConcatenationFor, bind_ok h1]
  simp only [accessInt]
  by_cases hneg : i < 0
  · have : ¬ ((0 : Nat) : Int) ≤ i := by omega
    simp only [this, if_false] at hm
    simp only [hneg, if_true]
    subst hm
    exact ⟨s', rfl, e1⟩
  · have h0 : (0 : Int) ≤ i := by omega
    simp only [Int.natCast_zero, h0, if_true, Int.sub_zero] at hm
    simp only [hneg, if_false]
    cases hx : (flatItems vl ++ flatItems vr)[i.toNat]? with
    | none => rw [hx] at hm; subst hm; exact ⟨s', rfl, e1⟩
    | some x =>
      rw [hx] at hm
      obtain ⟨a, rfl, da⟩ := hm
      exact ⟨a, s', rfl, da, e1⟩

theorem accessWithSymbol_concat_spec (L : LawsK S Inv Rd K) (fuel : Nat) {s : σ} {addr : Nat} {vl vr : Val F} (sym : Nat)
    (h : Decodes (S.view s) addr (.concat vl vr)) (hf : nodes vl + nodes vr + 1 ≤ fuel)
    (hb : (flatItems vl ++ flatItems vr).length ≤ 2147483647)
    (hnc : K → ncNodes (.concat vl vr))
    (hinv : Inv s := by inv_tac) (hdp : DeepK K S s (S.regs s) := by deep_tac) :
    AccOutI S Inv s (accessWithSymbol fo S fuel sym addr s) (accessSym sym (.concat vl vr)) := by
  have hchk : CheckRefines S (fun (_ : Unit) (_index : Number F) (a : Nat) =>
      (do pure (← getValueIfAssociation S a sym, ()) : RM σ (Option Nat × Unit)))
      (fun _ v => keyedVal sym v) := by
    intro st k a v _ dv
    obtain ⟨o, h1, hm⟩ := getValueIfAssociation_spec sym dv
    exact ⟨o, by show (getValueIfAssociation S a sym >>= fun x => pure (x, ())) st = _; rw [bind_ok h1]; rfl, hm⟩
  have hlen : (visit true (.concat vl vr)).length ≤ 2147483647 := by
    rw [visit_length]; simpa [flatItems] using hb
  obtain ⟨r, idx', s', h1, e1, hm⟩ := iterateConcatenation_spec fo L true hchk fuel h hf hlen hnc
  rw [firstHit_visit_rev] at hm
  rw [accessWithSymbol, bind_ok (getDataType_of h)]
  simp only [Val.typeOf]
  rw [bind_ok h1]
  simp only [accessSym]
  have e : lookupRev sym (.concat vl vr) = (lookupRev sym vr).orElse (fun _ => lookupRev sym vl) := rfl
  rw [e] at hm
  cases hx : (lookupRev sym vr).orElse (fun _ => lookupRev sym vl) with
  | none => rw [hx] at hm; subst hm; exact ⟨s', rfl, e1⟩
  | some x =>
    rw [hx] at hm
    obtain ⟨a, rfl, da⟩ := hm
    exact ⟨a, s', rfl, da, e1⟩

end Core

end Garnish.Lemmas.Runtime
