/-
For property C13: a whitespace run that contains a blank line becomes ONE Subexpression token (`WsA` / `WsB` / `WsC` follow the
run; `Boundary`, `lex_blank_line`), a character that can start no token makes `lex` fail (`lex_rejects`), and the operator
table against the operator tree.
-/
import Garnish.Lemmas.LexerC13Loop
set_option linter.unusedSimpArgs false
namespace Garnish.Model.Lexer

/-- in a run of horizontal whitespace, no newline seen yet -/
structure WsA (σ : Lexer) (cs : List Char) : Prop where
  state : σ.state = .spaces
  chars : σ.currentCharacters = cs
  couldBe : σ.couldBeSubExpression = false
  create : σ.shouldCreate = true
  ok : σ.result = .ok

/-- directly after the first newline of a whitespace run -/
structure WsB (σ : Lexer) (cs : List Char) : Prop where
  state : σ.state = .subexpression
  chars : σ.currentCharacters = cs
  create : σ.shouldCreate = true
  ok : σ.result = .ok

/-- spaces/tabs after the first newline of a whitespace run -/
structure WsC (σ : Lexer) (cs : List Char) : Prop where
  state : σ.state = .spaces
  chars : σ.currentCharacters = cs
  couldBe : σ.couldBeSubExpression = true
  create : σ.shouldCreate = true
  ok : σ.result = .ok

def IsBlank (c : Char) : Prop := c = ' ' ∨ c = '\t'

theorem blank_tests {c : Char} (hc : IsBlank c) : ¬(c == '\n') = true ∧ ¬(c != ' ' && c != '\t') = true ∧
    ¬(isAsciiWhitespace c && !(c == '\t' || c == ' ')) = true ∧ (c == '\t' || c == ' ') = true := by
  rcases hc with rfl | rfl <;> decide

theorem wsA_blank (cc : CharClass) (σ : Lexer) (cs : List Char) (c : Char) (h : WsA σ cs) (hc : IsBlank c) :
    ∃ σ1, processChar cc σ c = .ok (σ1, none) ∧ WsA σ1 (cs ++ [c]) := by
  refine ⟨_, processChar_cont (.spBlank h.state (blank_tests hc).1 (blank_tests hc).2.1), ?_⟩
  obtain ⟨h1, h2, h3, h4, h5⟩ := h
  constructor <;> simp [bumpColumn, push, h1, h2, h3, h4, h5] <;> (split <;> simp [h3, h4, h5])

theorem wsA_newline (cc : CharClass) (σ : Lexer) (cs : List Char) (h : WsA σ cs) :
    ∃ σ1, processChar cc σ '\n' = .ok (σ1, none) ∧ WsB σ1 (cs ++ ['\n']) := by
  refine ⟨_, processChar_cont (.spNewline h.state rfl h.couldBe), ?_⟩
  obtain ⟨h1, h2, h3, h4, h5⟩ := h
  constructor <;> simp [bumpColumn, push, h2, h4, h5]

theorem wsB_blank (cc : CharClass) (σ : Lexer) (cs : List Char) (c : Char) (h : WsB σ cs) (hc : IsBlank c) :
    ∃ σ1, processChar cc σ c = .ok (σ1, none) ∧ WsC σ1 (cs ++ [c]) := by
  refine ⟨_, processChar_cont (.subBlank h.state (blank_tests hc).2.2.1 (blank_tests hc).2.2.2), ?_⟩
  obtain ⟨h1, h2, h4, h5⟩ := h
  constructor <;> simp [bumpColumn, push, h2, h4, h5] <;> (split <;> simp [h4, h5])

theorem wsC_blank (cc : CharClass) (σ : Lexer) (cs : List Char) (c : Char) (h : WsC σ cs) (hc : IsBlank c) :
    ∃ σ1, processChar cc σ c = .ok (σ1, none) ∧ WsC σ1 (cs ++ [c]) := by
  refine ⟨_, processChar_cont (.spBlank h.state (blank_tests hc).1 (blank_tests hc).2.1), ?_⟩
  obtain ⟨h1, h2, h3, h4, h5⟩ := h
  constructor <;> simp [bumpColumn, push, h1, h2, h3, h4, h5] <;> (split <;> simp [h3, h4, h5])

/-- the second newline directly after the first: one Subexpression token with everything (repair patch lexfix-2, Model/Lexer.lean) -/
theorem wsB_newline (cc : CharClass) (σ : Lexer) (cs : List Char) (h : WsB σ cs) :
    ∃ σ1 t, processChar cc σ '\n' = .ok (σ1, some t) ∧ t.tokenType = .subexpression ∧ t.text = cs ++ ['\n'] ∧
      σ1.result = .ok :=
  ⟨_, _, processChar_emit (.subNewline h.state rfl) rfl rfl, rfl, by simp [pendingTok, push, h.chars],
    by simp [restart, afterEmit]⟩

theorem wsC_newline (cc : CharClass) (σ : Lexer) (cs : List Char) (h : WsC σ cs) :
    ∃ σ1 t, processChar cc σ '\n' = .ok (σ1, some t) ∧ t.tokenType = .subexpression ∧ t.text = cs ++ ['\n'] ∧
      σ1.result = .ok :=
  ⟨_, _, processChar_emit (.spBlankLine h.state rfl h.couldBe) rfl rfl, rfl, by simp [pendingTok, push, h.chars],
    by simp [restart, afterEmit]⟩

theorem runA (cc : CharClass) (ws : List Char) (σ : Lexer) (cs : List Char) (toks : List LexerToken)
    (h : WsA σ cs) (hb : ∀ c ∈ ws, IsBlank c) : ∃ σ1, runChars cc ws σ toks = .ok (σ1, toks) ∧ WsA σ1 (cs ++ ws) :=
  runChars_cont cc (fun cs σ => WsA σ cs) IsBlank (fun _ _ h => h.ok) (fun cs σ x h hx => wsA_blank cc σ cs x h hx)
    ws cs σ toks h hb

theorem runC (cc : CharClass) (ws : List Char) (σ : Lexer) (cs : List Char) (toks : List LexerToken)
    (h : WsC σ cs) (hb : ∀ c ∈ ws, IsBlank c) : ∃ σ1, runChars cc ws σ toks = .ok (σ1, toks) ∧ WsC σ1 (cs ++ ws) :=
  runChars_cont cc (fun cs σ => WsC σ cs) IsBlank (fun _ _ h => h.ok) (fun cs σ x h hx => wsC_blank cc σ cs x h hx)
    ws cs σ toks h hb

theorem runB_blank_line (cc : CharClass) (ws' : List Char) (σ : Lexer) (cs : List Char) (toks : List LexerToken)
    (h : WsB σ cs) (hb : ∀ c ∈ ws', IsBlank c) :
    ∃ σ1 t, runChars cc (ws' ++ ['\n']) σ toks = .ok (σ1, toks ++ [t]) ∧ t.tokenType = .subexpression ∧
      t.text = cs ++ ws' ++ ['\n'] := by
  cases ws' with
  | nil =>
    obtain ⟨σ1, t, hp, hty, htx, hok1⟩ := wsB_newline cc σ cs h
    refine ⟨σ1, t, ?_, hty, by simpa using htx⟩
    rw [List.nil_append, runChars_some cc '\n' [] σ σ1 toks t h.ok hp hok1]; rfl
  | cons c r =>
    obtain ⟨σ1, hp, h1⟩ := wsB_blank cc σ cs c h (hb c (by simp))
    obtain ⟨σ2, hr, h2⟩ := runC cc r σ1 (cs ++ [c]) toks h1 (fun x hx => hb x (by simp [hx]))
    obtain ⟨σ3, t, hp3, hty, htx, hok3⟩ := wsC_newline cc σ2 _ h2
    refine ⟨σ3, t, ?_, hty, by simpa using htx⟩
    rw [List.cons_append, runChars_none cc c _ σ σ1 toks h.ok hp, runChars_append cc r ['\n'] σ1 σ2 toks toks hr,
      runChars_some cc '\n' [] σ2 σ3 toks t h2.ok hp3 hok3]
    rfl

/-- a string after which whitespace starts a fresh whitespace token: running the lexer over `a` followed by a
space/tab (resp. a newline) emits tokens spelling `a` and leaves the lexer at the start of a whitespace run -/
structure Boundary (cc : CharClass) (σ0 : Lexer) (a : List Char) : Prop where
  blank : ∀ c, IsBlank c → ∃ σ toks, runChars cc (a ++ [c]) σ0 [] = .ok (σ, toks) ∧ WsA σ [c] ∧ textsOf toks = a
  newline : ∃ σ toks, runChars cc (a ++ ['\n']) σ0 [] = .ok (σ, toks) ∧ WsB σ ['\n'] ∧ textsOf toks = a

theorem run_blank_line (cc : CharClass) (σ0 : Lexer) (a ws ws' : List Char) (hbd : Boundary cc σ0 a)
    (hws : ∀ c ∈ ws, IsBlank c) (hws' : ∀ c ∈ ws', IsBlank c) :
    ∃ σ1 toks t, runChars cc (a ++ ws ++ ['\n'] ++ ws' ++ ['\n']) σ0 [] = .ok (σ1, toks ++ [t]) ∧
      textsOf toks = a ∧ t.tokenType = .subexpression ∧ t.text = ws ++ ['\n'] ++ ws' ++ ['\n'] := by
  cases ws with
  | nil =>
    obtain ⟨σ, toks, hr, hB, htx⟩ := hbd.newline
    obtain ⟨σ1, t, hr1, hty, htxt⟩ := runB_blank_line cc ws' σ ['\n'] toks hB hws'
    refine ⟨σ1, toks, t, ?_, htx, hty, by simpa using htxt⟩
    have := runChars_append cc (a ++ ['\n']) (ws' ++ ['\n']) σ0 σ [] toks hr
    simpa [List.append_assoc] using this.trans hr1
  | cons c r =>
    obtain ⟨σ, toks, hr, hA, htx⟩ := hbd.blank c (hws c (by simp))
    obtain ⟨σ2, hr2, hA2⟩ := runA cc r σ [c] toks hA (fun x hx => hws x (by simp [hx]))
    obtain ⟨σ3, hp3, hB3⟩ := wsA_newline cc σ2 _ hA2
    obtain ⟨σ4, t, hr4, hty, htxt⟩ := runB_blank_line cc ws' σ3 _ toks hB3 hws'
    refine ⟨σ4, toks, t, ?_, htx, hty, by simpa using htxt⟩
    have e1 := runChars_append cc (a ++ [c]) (r ++ ['\n'] ++ ws' ++ ['\n']) σ0 σ [] toks hr
    have e2 := runChars_append cc r (['\n'] ++ ws' ++ ['\n']) σ σ2 toks toks hr2
    have e3 : runChars cc (['\n'] ++ ws' ++ ['\n']) σ2 toks = runChars cc (ws' ++ ['\n']) σ3 toks := by
      simpa using runChars_none cc '\n' (ws' ++ ['\n']) σ2 σ3 toks hA2.ok hp3
    have : a ++ c :: r ++ ['\n'] ++ ws' ++ ['\n'] = (a ++ [c]) ++ (r ++ ['\n'] ++ ws' ++ ['\n']) := by simp
    rw [this, e1]
    have : r ++ ['\n'] ++ ws' ++ ['\n'] = r ++ (['\n'] ++ ws' ++ ['\n']) := by simp
    rw [this, e2, e3, hr4]

theorem lex_blank_line (cc : CharClass) (hcc : cc.Sane) (a ws ws' b : List Char)
    (hbd : Boundary cc (Lexer.init theTree) a)
    (hws : ∀ c ∈ ws, IsBlank c) (hws' : ∀ c ∈ ws', IsBlank c) (toks : List LexerToken)
    (h : lex cc (a ++ ws ++ ['\n'] ++ ws' ++ ['\n'] ++ b) = .ok toks) :
    ∃ pre t post, toks = pre ++ [t] ++ post ∧ textsOf pre = a ∧ t.tokenType = .subexpression ∧
      t.text = ws ++ ['\n'] ++ ws' ++ ['\n'] := by
  obtain ⟨σ', h⟩ := lexLoop_of_lex h
  obtain ⟨σ1, pre, t, hrun, hpre, hty, htx⟩ := run_blank_line cc (Lexer.init theTree) a ws ws' hbd hws hws'
  rw [lexLoop_append cc _ b (Lexer.init theTree) σ1 [] (pre ++ [t]) hrun] at h
  have htree : TreeOk σ1.operatorTree := by
    rw [(runChars_frame cc _ _ σ1 [] _ hrun).1]; exact init_treeOk
  obtain ⟨σ2, toks2, -, ot, hrun2, -, -, -, rfl, -⟩ := lexLoop_ok cc hcc htree h
  obtain ⟨post, rfl⟩ := runChars_prefix cc b σ1 σ2 _ toks2 hrun2
  exact ⟨pre, t, post ++ ot.toList, by simp, hpre, hty, htx⟩

/-! ### the family of identifier-like strings satisfies `Boundary` -/

structure Letter (cc : CharClass) (ch : Char) : Prop where
  alnum : cc.isAlphanumeric ch = true
  notNumeric : cc.isNumeric ch = false
  notWs : isAsciiWhitespace ch = false
  notUnderscore : ch ≠ '_'
  notColon : ch ≠ ':'
  notOperator : walkOperator theTree [ch] = none

/-- spaces, tabs and newlines are not alphanumeric -/
structure CharClass.SaneWs (cc : CharClass) : Prop where
  space : cc.isAlphanumeric ' ' = false
  tab : cc.isAlphanumeric '\t' = false
  newline : cc.isAlphanumeric '\n' = false

/-- an identifier under construction -/
structure InIdent (σ : Lexer) (cs : List Char) : Prop where
  state : σ.state = .identifier
  chars : σ.currentCharacters = cs
  type : σ.currentTokenType = some .identifier
  create : σ.shouldCreate = true
  ok : σ.result = .ok
  tree : σ.operatorTree = theTree

theorem treeWs : (walkOperator theTree [' ']).isNone = true ∧ (walkOperator theTree ['\t']).isNone = true ∧
    (walkOperator theTree ['\n']).isNone = true := by rw [theTree_eq]; decide

theorem letter_not_blank {cc : CharClass} {ch : Char} (h : Letter cc ch) :
    ch ≠ ' ' ∧ ch ≠ '\t' ∧ ch ≠ '\r' := by
  have := h.notWs
  refine ⟨?_, ?_, ?_⟩ <;> (rintro rfl; simp [isAsciiWhitespace] at this)

theorem startToken_letter (cc : CharClass) (σ : Lexer) (c : Char) (hl : Letter cc c)
    (htr : σ.operatorTree = theTree) :
    startToken cc σ c = { σ with currentCharacters := [c], currentTokenType := some .identifier, tokenStartRow := σ.textRow, tokenStartColumn := σ.textColumn, state := .identifier } := by
  have hnb := letter_not_blank hl
  have : startPlain cc σ.atEnd c = some (.identifier, some .identifier, [c]) := by
    simp [startPlain, hnb.1, hnb.2.1, hnb.2.2, hl.notWs, hl.notNumeric, isIdentifierChar, hl.alnum]
  rw [startToken_eq, htr, startKind_plain cc _ hl.notOperator, this]

theorem startToken_blank (cc : CharClass) (σ : Lexer) (c : Char) (hb : IsBlank c)
    (htr : σ.operatorTree = theTree) :
    startToken cc σ c = { σ with currentCharacters := [c], currentTokenType := some .whitespace, tokenStartRow := σ.textRow, tokenStartColumn := σ.textColumn, state := .spaces } := by
  have : startKind cc theTree σ.atEnd c = some (.spaces, some .whitespace, [c]) := by
    rcases hb with rfl | rfl
    · rw [startKind_plain cc _ (walk_none_of_isNone treeWs.1)]; rfl
    · rw [startKind_plain cc _ (walk_none_of_isNone treeWs.2.1)]; rfl
  rw [startToken_eq, htr, this]

theorem startToken_newline (cc : CharClass) (σ : Lexer) (htr : σ.operatorTree = theTree) :
    startToken cc σ '\n' = { σ with currentCharacters := ['\n'], currentTokenType := some .subexpression, tokenStartRow := σ.textRow, tokenStartColumn := σ.textColumn, state := .subexpression } := by
  rw [startToken_eq, htr, startKind_plain cc _ (walk_none_of_isNone treeWs.2.2)]
  rfl

theorem ident_start (cc : CharClass) (σ : Lexer) (c : Char) (hl : Letter cc c) (hs : σ.state = .noToken)
    (hcr : σ.shouldCreate = true) (hok : σ.result = .ok) (htr : σ.operatorTree = theTree) :
    ∃ σ1, processChar cc σ c = .ok (σ1, none) ∧ InIdent σ1 [c] := by
  refine ⟨_, processChar_noToken cc σ c hs, ?_⟩
  rw [startToken_letter cc _ c hl (by simpa using htr)]
  constructor <;> simp [bumpColumn, hcr, hok, htr] <;> (split <;> simp [hcr, hok, htr])

theorem ident_push (cc : CharClass) (σ : Lexer) (cs : List Char) (c : Char) (hl : Letter cc c)
    (h : InIdent σ cs) : ∃ σ1, processChar cc σ c = .ok (σ1, none) ∧ InIdent σ1 (cs ++ [c]) := by
  refine ⟨_, processChar_cont (.idCont h.state (by simp [isIdentifierChar, hl.alnum])), ?_⟩
  obtain ⟨h1, h2, h3, h4, h5, h6⟩ := h
  constructor <;> simp [bumpColumn, push, h1, h2, h3, h4, h5, h6] <;> (split <;> simp [h1, h2, h3, h4, h5, h6, push])

theorem ident_end (cc : CharClass) (σ : Lexer) (x : Char) (r : List Char) (c : Char) (hx : Letter cc x)
    (hid : isIdentifierChar cc c = false) (hbt : (c == '`') = false) (h : InIdent σ (x :: r)) :
    processChar cc σ c = .ok (bumpColumn (startToken cc (afterEmit { σ with charactersLexed := σ.charactersLexed + 1 }) c) c,
      some ⟨x :: r, .identifier, σ.tokenStartRow, σ.tokenStartColumn⟩) := by
  obtain ⟨h1, h2, h3, h4, h5, h6⟩ := h
  have hcol : ¬(startsWith σ.currentCharacters ':' && σ.currentCharacters[1]? != some ':') = true := by
    simp [h2, startsWith, hx.notColon]
  have hv : canCreateValidToken { σ with charactersLexed := σ.charactersLexed + 1 } = .ok := by
    have hv1 : (x :: r == ['_']) = false := by simpa using fun hh _ => hx.notUnderscore hh
    have hv2 : (x :: r == [':']) = false := by simpa using fun hh _ => hx.notColon hh
    simp [canCreateValidToken, h3, h2, hv1, hv2]
  rw [processChar_emit (.idDone h1 (by simp [hid]) (by simp [hbt]) hcol) hv h3, restart,
    if_pos (show ({ σ with charactersLexed := σ.charactersLexed + 1 } : Lexer).shouldCreate = true from h4)]
  simp only [pendingTok, h2]

theorem ident_end_blank (cc : CharClass) (hws : cc.SaneWs) (σ : Lexer) (x : Char) (r : List Char) (c : Char)
    (hx : Letter cc x) (hb : IsBlank c) (h : InIdent σ (x :: r)) :
    ∃ σ1 t, processChar cc σ c = .ok (σ1, some t) ∧ t.text = x :: r ∧ WsA σ1 [c] := by
  have hid : isIdentifierChar cc c = false := by
    rcases hb with rfl | rfl <;> simp [isIdentifierChar, hws.space, hws.tab]
  have hbt : (c == '`') = false := by rcases hb with rfl | rfl <;> decide
  refine ⟨_, _, ident_end cc σ x r c hx hid hbt h, rfl, ?_⟩
  rw [startToken_blank cc (afterEmit { σ with charactersLexed := σ.charactersLexed + 1 }) c hb h.tree]
  constructor <;> simp [bumpColumn, afterEmit, h.create] <;> (split <;> simp [h.create])

theorem ident_end_newline (cc : CharClass) (hws : cc.SaneWs) (σ : Lexer) (x : Char) (r : List Char)
    (hx : Letter cc x) (h : InIdent σ (x :: r)) :
    ∃ σ1 t, processChar cc σ '\n' = .ok (σ1, some t) ∧ t.text = x :: r ∧ WsB σ1 ['\n'] := by
  refine ⟨_, _, ident_end cc σ x r '\n' hx (by simp [isIdentifierChar, hws.newline]) (by decide) h, rfl, ?_⟩
  rw [startToken_newline cc (afterEmit { σ with charactersLexed := σ.charactersLexed + 1 }) h.tree]
  constructor <;> simp [bumpColumn, afterEmit, h.create]

theorem run_ident (cc : CharClass) (r : List Char) (σ : Lexer) (cs : List Char) (toks : List LexerToken)
    (h : InIdent σ cs) (hl : ∀ ch ∈ r, Letter cc ch) : ∃ σ1, runChars cc r σ toks = .ok (σ1, toks) ∧ InIdent σ1 (cs ++ r) :=
  runChars_cont cc (fun cs σ => InIdent σ cs) (Letter cc) (fun _ _ h => h.ok) (fun cs σ x h hx => ident_push cc σ cs x hx h)
    r cs σ toks h hl

theorem boundary_letters (cc : CharClass) (hws : cc.SaneWs) (x : Char) (r : List Char)
    (hl : ∀ ch ∈ x :: r, Letter cc ch) : Boundary cc (Lexer.init theTree) (x :: r) := by
  have hx := hl x (by simp)
  obtain ⟨σ1, hp1, hi1⟩ := ident_start cc (Lexer.init theTree) x hx rfl rfl rfl (init_operatorTree theTree)
  obtain ⟨σ2, hr2, hi2⟩ := run_ident cc r σ1 [x] [] hi1 (fun ch hch => hl ch (by simp [hch]))
  have hrun : runChars cc (x :: r) (Lexer.init theTree) [] = .ok (σ2, []) := by
    rw [runChars_none cc x r _ σ1 [] rfl hp1]; exact hr2
  constructor
  · intro c hb
    obtain ⟨σ3, t, hp3, htx, hA⟩ := ident_end_blank cc hws σ2 x r c hx hb (by simpa using hi2)
    refine ⟨σ3, [t], ?_, hA, by simp [textsOf, htx]⟩
    rw [runChars_append cc (x :: r) [c] _ σ2 [] [] hrun, runChars_some cc c [] σ2 σ3 [] t hi2.ok hp3 hA.ok]
    rfl
  · obtain ⟨σ3, t, hp3, htx, hB⟩ := ident_end_newline cc hws σ2 x r hx (by simpa using hi2)
    refine ⟨σ3, [t], ?_, hB, by simp [textsOf, htx]⟩
    rw [runChars_append cc (x :: r) ['\n'] _ σ2 [] [] hrun, runChars_some cc '\n' [] σ2 σ3 [] t hi2.ok hp3 hB.ok]
    rfl

/-- `c` can start a token: the disjunction of the branches of `start_token` (other than the end-of-input one) -/
def CanStart (cc : CharClass) (tree : LexerOperatorNode) (c : Char) : Prop :=
  (walkOperator tree [c]).isSome = true ∨ c = ' ' ∨ c = '\t' ∨ c = '\r' ∨ isAsciiWhitespace c = true ∨
  cc.isNumeric c = true ∨ isIdentifierChar cc c = true ∨ c = '`' ∨ c = '@' ∨ c = '"' ∨ c = '\''

theorem startToken_rejects (cc : CharClass) (σ : Lexer) (c : Char) (h : ¬CanStart cc σ.operatorTree c)
    (hns : ¬Sentinel σ c) : (startToken cc σ c).result = .err := by
  rcases startToken_cases cc σ c with ⟨st, ty, cs, hc, -, -⟩ | ⟨-, he⟩
  · refine absurd ?_ h
    unfold CanStart
    cases hc
    case sentinel h0 hat => exact absurd ⟨h0, hat⟩ hns
    case operator hw => simp [hw]
    case spaces hx => rcases hx with hx | hx | hx <;> simp [hx]
    all_goals (rename_i hx; simp [hx])
  · rw [he]

theorem lexLoop_rejects (cc : CharClass) (post : List Char) (c : Char) (σ : Lexer) (toks : List LexerToken)
    (hs : σ.state = .noToken) (hat : σ.atEnd = false) (hc : ¬CanStart cc σ.operatorTree c) :
    lexLoop cc (c :: post) σ toks = .err .syntax := by
  cases hr : σ.result with
  | err => exact lexLoop_err cc _ σ toks hr
  | ok =>
    have hns : ¬Sentinel { σ with charactersLexed := σ.charactersLexed + 1 } c := by
      intro hsn; have := hsn.2; simp [hat] at this
    have hrej := startToken_rejects cc { σ with charactersLexed := σ.charactersLexed + 1 } c hc hns
    simp only [lexLoop, isErr_of_ok hr, Bool.false_eq_true, ↓reduceIte, processChar_noToken cc σ c hs]
    rw [lexLoop_err cc post _ toks (by simpa using hrej)]

theorem lex_rejects (cc : CharClass) (pre post : List Char) (c : Char) (σ : Lexer) (toks : List LexerToken)
    (hrun : runChars cc pre (Lexer.init theTree) [] = .ok (σ, toks)) (hs : σ.state = .noToken)
    (hc : ¬CanStart cc theTree c) : lex cc (pre ++ c :: post) = .err .syntax := by
  have hfr := runChars_frame cc pre _ σ [] toks hrun
  have h1 : σ.operatorTree = theTree := hfr.1.trans (init_operatorTree theTree)
  have h2 : σ.atEnd = false := hfr.2
  rw [lex, lexFull_eq_lexLoop, lexLoop_append cc pre (c :: post) _ σ [] toks hrun,
    lexLoop_rejects cc post c σ toks hs h2 (by rw [h1]; exact hc)]

/-- every spelling of the regenerated table is recognised by the operator tree with its token type -/
def tableRecognised : Bool :=
  Garnish.Gen.LexTables.operatorChars.all fun p =>
    match walkOperator theTree p.1 with
    | some n => n.tokenType == some p.2
    | none => false

theorem tableRecognised_true : tableRecognised = true := by rw [tableRecognised, theTree_eq]; decide +kernel

/-- an operator token ends only when the next character continues no spelling (and no prefix of one) -/
theorem armOperator_maximal (cc : CharClass) (σ : Lexer) (c : Char) (h : (armOperator cc σ c).2 = true) :
    walkOperator σ.operatorTree (σ.currentCharacters ++ [c]) = none := by
  unfold armOperator at h
  simp only [] at h
  split at h
  · simp at h
  · rename_i hnone
    simpa [currentOperator, push] using hnone

theorem armOperator_type (cc : CharClass) (σ : Lexer) (c : Char) (node : LexerOperatorNode)
    (h : walkOperator σ.operatorTree (σ.currentCharacters ++ [c]) = some node) :
    (armOperator cc σ c).1.currentTokenType = node.tokenType ∧ (armOperator cc σ c).2 = false ∧
    (armOperator cc σ c).1.currentCharacters = σ.currentCharacters ++ [c] := by
  unfold armOperator
  simp [currentOperator, push, h]

end Garnish.Model.Lexer
