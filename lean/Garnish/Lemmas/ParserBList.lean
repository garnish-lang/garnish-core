/-
Implicit space lists.  Whitespace after a value or a closed bracket sets `check_for_list`; the first token of the next
operand (a value, a prefix operator or an opening bracket) then first inserts a `List` node (priority 220, token = the
token just before) exactly like a binary operator, and is itself processed as if that operator had just been read:
`listState` is the state "after the List operator".  For a prefix operator and an opening bracket the list-mode step is
the state of the ordinary step from `listState` (`step_list_prefix`: `stepP (listState ..) p`, `step_list_open`:
`stepO (listState ..) o`); for a value it is the state `listValue` (`step_list_value`), which has the value node below the
List node but keeps the `next_parent` of the state before the List node, where the ordinary step from `listState` would
have the List node.  The List operator on a state that satisfies `UInv` (`list_openU`), the
reference parser's list insertion (`ref_list_head`), operands in list mode on both sides (`ListOpdOK`), and `expr_list`:
an expression that ends with an operand, the whitespace of the frame (`isGFill`: inside a group separators too) with at
least one token that sets the list flag, and another operand.
-/
import Garnish.Lemmas.ParserBSep

namespace Garnish.Spec
open Garnish Garnish.Gen Garnish.Model.Parser

theorem UInv.kind {st : PState} {ug p : Option Nat} {base : Nat} {E : Tree} {re cb : Nat}
    (h : UInv st ug p base E re cb) : ∃ inG, KindOK st ug inG := by
  cases h.n.frame with
  | top re => exact ⟨false, rfl⟩
  | bracket g re G pg hG _ _ _ => exact ⟨_, G, hG, rfl⟩

/-- a run of trivia tokens with at least one whitespace token (or the list flag already set) after a value or a closed
    bracket: the list flag is set, `last_token` is the last token of the run -/
theorem trivia_runU_ws {ug p : Option Nat} {base : Nat} {E : Tree} {re cb : Nat} :
    ∀ (ws : List PToken) (st : PState) (rest : List PToken), UInv st ug p base E re cb → Ready st →
    (∀ w ∈ ws, isTriviaTok w = true) → (st.checkForList = true ∨ ∃ w ∈ ws, w.type = .whitespace) →
    ∃ st', loop st (ws ++ rest) = loop st' rest ∧ UInv st' ug p base E re cb ∧ st'.nodes = st.nodes ∧
      st'.groupStack = st.groupStack ∧ st'.currentGroup = st.currentGroup ∧ st'.checkForList = true ∧
      st'.lastLeft = st.lastLeft ∧ st'.lastToken = (ws.getLast?).getD st.lastToken ∧
      st'.previousSecondDef = ((ws.getLast?).map (fun w => (getDefinition w.type).2)).getD st.previousSecondDef := by
  intro ws st rest h hr hws hc
  obtain ⟨inG, hk⟩ := h.kind
  obtain ⟨st', h1, h2, h3, h4, h5, h6, _, h8, h9, h10⟩ := fill_runU inG ws st rest h.toF hk
    (fun w hw => by unfold isGFill; rw [hws w hw]; rfl)
  refine ⟨st', h1, ⟨h2.inv.n, h2.inv.nnl, h2.inv.hug, bot_congr h2.inv.bot rfl rfl, h2.inv.spine, ?_⟩, h3, h4, h5,
    h10 hr (hc.imp id fun ⟨w, hw, e⟩ => ⟨w, hw, by unfold setsList; rw [e]; rfl⟩), h6, h8, h9⟩
  rw [h9]
  cases hl : ws.getLast? with
  | none => exact h.prev
  | some w =>
    rcases trivia_secdef (hws w (List.mem_of_getLast? hl)) with e | e
    · exact Or.inr (Or.inr (Or.inr (Or.inr (Or.inl e))))
    · exact Or.inr (Or.inr (Or.inr (Or.inr (Or.inr e))))

/-- the state as if a binary operator `List` (token = the last token read) had just been processed -/
def listState (st : PState) (nodes' : Array ParseNode) (info : Info) : PState :=
  { st with nodes := nodes'.push ⟨.list, .startGrouping, info.parent, info.left, info.right, st.lastToken⟩,
            checkForList := false, nextParent := some st.nodes.size, lastLeft := some st.nodes.size,
            previousSecondDef := .binaryLeftToRight }

theorem comp_trivia_true (s : SecDef) (hs : s = .whitespace ∨ s = .annotation ∨ s = .subexpression) (x : SecDef)
    (hx : x = .unaryPrefix ∨ x = .startGrouping ∨ x = .value ∨ x = .identifier) : checkComposition s x true = true := by
  rcases hs with rfl | rfl | rfl <;> rcases hx with rfl | rfl | rfl | rfl <;> rfl

/-- list mode, first token of the operand is a prefix operator -/
theorem step_list_prefix (st : PState) (ug : Option Nat) (p : PToken) (hp : isPrefixTok p = true)
    (hug : underGroupOf st = .ok ug) (hadj : adjustLastLeft st ug = .ok st) (hnnl : st.nextLastLeft = none)
    (hcfl : st.checkForList = true)
    (hprev : st.previousSecondDef = .whitespace ∨ st.previousSecondDef = .annotation ∨
      st.previousSecondDef = .subexpression)
    {nodes' : Array ParseNode} {info : Info}
    (hpt : parseToken st.nodes.size .list st.lastLeft (some (st.nodes.size + 1)) st.nodes ug false = .ok (nodes', info)) :
    step st p false = .ok (stepP (listState st nodes' info) p) := by
  obtain ⟨hsz, hdef⟩ := parseToken_size_def hpt
  unfold isPrefixTok at hp
  have hs : (getDefinition p.type).2 = .unaryPrefix := by simpa using hp
  obtain ⟨q, _, _, f1, f2, _, _, _⟩ := prefix_def_facts p.type hs
  have hcomp := comp_trivia_true _ hprev .unaryPrefix (Or.inl rfl)
  have hc : (st.checkForList = true) = True := eq_true hcfl
  rw [step_eq st p false hug hadj, hs, if_pos (by rw [hcfl]; exact hcomp)]
  simp only [dispatch, armUnaryPrefix, hc, if_true,
    pushListNode_eq (st := { st with previousSecondDef := SecDef.unaryPrefix }) hpt, Outcome.bind]
  rw [stepEnd_push_to _ _ _ _ _ _ f1 rfl]
  simp only [renameDef_of_ne f2, stepP, listState, Array.size_push, hsz, hnnl]

/-- list mode, first token of the operand is an opening bracket -/
theorem step_list_open (st : PState) (ug : Option Nat) (o : PToken) (ho : isOpenTok o = true)
    (hug : underGroupOf st = .ok ug) (hadj : adjustLastLeft st ug = .ok st) (hnnl : st.nextLastLeft = none)
    (hcfl : st.checkForList = true)
    (hprev : st.previousSecondDef = .whitespace ∨ st.previousSecondDef = .annotation ∨
      st.previousSecondDef = .subexpression)
    {nodes' : Array ParseNode} {info : Info}
    (hpt : parseToken st.nodes.size .list st.lastLeft (some (st.nodes.size + 1)) st.nodes ug false = .ok (nodes', info)) :
    step st o false = .ok (stepO (listState st nodes' info) o) := by
  obtain ⟨hsz, hdef⟩ := parseToken_size_def hpt
  obtain ⟨hs, hd⟩ := open_def_facts ho
  have hne : (getDefinition o.type).1 ≠ .identifier := by rcases hd with hd | hd <;> rw [hd] <;> decide
  have hdr : ((getDefinition o.type).1 != Definition.drop) = true := by rcases hd with hd | hd <;> rw [hd] <;> rfl
  have hcomp := comp_trivia_true _ hprev .startGrouping (Or.inr (Or.inl rfl))
  have hc : (st.checkForList = true) = True := eq_true hcfl
  rw [step_eq st o false hug hadj, hs, if_pos (by rw [hcfl]; exact hcomp)]
  simp only [dispatch, armStartGrouping, hc, if_true,
    pushListNode_eq (st := { st with previousSecondDef := SecDef.startGrouping, currentGroup := some st.groupStack.size }) hpt,
    Outcome.bind]
  rw [stepEnd_push_to _ _ _ _ _ _ hdr rfl]
  simp only [renameDef_of_ne hne, stepO, listState, Array.size_push, hsz, hnnl]

/-- the state after a value in list mode -/
def listValue (st : PState) (nodes' : Array ParseNode) (info : Info) (a : PToken) : PState :=
  { st with nodes := (listState st nodes' info).nodes.push
              ⟨underDef .list (getDefinition a.type).1, (getDefinition a.type).2, some st.nodes.size, none, none, a⟩,
            checkForList := false, lastLeft := some (st.nodes.size + 1), previousSecondDef := (getDefinition a.type).2,
            lastToken := a }

/-- list mode, the operand is a value -/
theorem step_list_value (st : PState) (ug : Option Nat) (a : PToken) (il : Bool) (ha : isAtom10 a = true)
    (hug : underGroupOf st = .ok ug) (hadj : adjustLastLeft st ug = .ok st) (hnnl : st.nextLastLeft = none)
    (hcfl : st.checkForList = true)
    (hprev : st.previousSecondDef = .whitespace ∨ st.previousSecondDef = .annotation ∨
      st.previousSecondDef = .subexpression)
    {nodes' : Array ParseNode} {info : Info}
    (hpt : parseToken st.nodes.size .list st.lastLeft (some (st.nodes.size + 1)) st.nodes ug false = .ok (nodes', info))
    (hir : info.right = some (st.nodes.size + 1)) :
    step st a il = .ok (listValue st nodes' info a) := by
  obtain ⟨hsz, hdef⟩ := parseToken_size_def hpt
  obtain ⟨hsa, hqa⟩ := atom10_facts ha
  obtain ⟨_, a2, _⟩ := prio10_facts hqa
  have hcomp : checkComposition st.previousSecondDef (getDefinition a.type).2 true = true := by
    rcases hsa with h | h <;> rw [h]
    · exact comp_trivia_true _ hprev .value (Or.inr (Or.inr (Or.inl rfl)))
    · exact comp_trivia_true _ hprev .identifier (Or.inr (Or.inr (Or.inr rfl)))
  -- the value's own `parse_token`: it stops at the List node
  have hL : (nodes'.push ⟨.list, .startGrouping, info.parent, info.left, info.right, st.lastToken⟩)[st.nodes.size]? =
      some ⟨.list, .startGrouping, info.parent, info.left, info.right, st.lastToken⟩ := by
    rw [Array.getElem?_push, if_pos hsz.symm]
  have hpt2 : parseToken (st.nodes.size + 1) (getDefinition a.type).1 (some st.nodes.size) none
      (nodes'.push ⟨.list, .startGrouping, info.parent, info.left, info.right, st.lastToken⟩) ug false =
      .ok (nodes'.push ⟨.list, .startGrouping, info.parent, info.left, info.right, st.lastToken⟩,
        ⟨(getDefinition a.type).1, some st.nodes.size, none, none⟩) := by
    have hs' : (nodes'.push ⟨.list, .startGrouping, info.parent, info.left, info.right, st.lastToken⟩).size =
        st.nodes.size + 1 := by simp [hsz]
    have := parseToken_top (ug := ug) (right := none) (rtl := false) hqa hL
      (walk_top_stop (ug := ug) (qo := 220) false hL rfl (Or.inl (by omega))) (by rw [hs']; exact hir)
    rw [hs'] at this
    exact this
  have hc : (st.checkForList = true) = True := eq_true hcfl
  have hdisp : ∀ ar, dispatch { st with previousSecondDef := (getDefinition a.type).2 } st.nodes.size a
      (getDefinition a.type).1 (getDefinition a.type).2 ar ug =
        parseValueLike { st with previousSecondDef := (getDefinition a.type).2 } st.nodes.size (getDefinition a.type).1 ug := by
    intro ar; rcases hsa with h | h <;> rw [h] <;> rfl
  rw [step_eq st a il hug hadj, if_pos (by rw [hcfl]; exact hcomp), hdisp]
  simp only [parseValueLike, hc, if_true,
    pushListNode_eq (st := { st with previousSecondDef := (getDefinition a.type).2 }) hpt, Outcome.bind,
    parseTokenLeftToRight, parseTokenSt, Array.size_push, hsz, hpt2]
  rw [stepEnd_push_to _ _ _ _ _ _ a2 rfl]
  simp only [renameDef_eq_underDef hL, listValue, listState, hnnl]

theorem list_openU {st : PState} {ug p : Option Nat} {base : Nat} {E : Tree} {re cb : Nat}
    (hinv : UInv st ug p base E re cb) :
    ∃ (nodes' : Array ParseNode) (info : Info),
      parseToken st.nodes.size .list st.lastLeft (some (st.nodes.size + 1)) st.nodes ug false = .ok (nodes', info) ∧
      info.right = some (st.nodes.size + 1) ∧
      OpPos st ug p base E cb 220 false .list st.lastToken.col (listState st nodes' info) := by
  obtain ⟨nodes', info, hpt, hir, hI, _⟩ :=
    core_effectU hinv .list 220 false (some (st.nodes.size + 1)) rfl (by omega)
  have hsz' := hI.size
  have hL : (listState st nodes' info).nodes[st.nodes.size]? =
      some ⟨.list, .startGrouping, info.parent, info.left, info.right, st.lastToken⟩ := by
    simp only [listState]; rw [Array.getElem?_push, if_pos hsz'.symm]
  have hsL : (listState st nodes' info).nodes.size = st.nodes.size + 1 := by simp [listState, hsz']
  have hO : OpenB (listState st nodes' info) ug := by
    refine ⟨rfl, hinv.nnl, hinv.hug, rfl, adjust_noop _ _ (Or.inr ⟨_, _, rfl, hL, Or.inl rfl⟩), Or.inr ?_,
      Or.inr (Or.inl rfl)⟩
    refine ⟨_, 220, by omega, by rw [hsL]; rfl, by rw [hsL, Nat.add_sub_cancel]; exact hL, rfl, by rw [hsL]; exact hir,
      rfl, Or.inl ⟨by omega, rfl⟩⟩
  have hn1 : (listState st nodes' info).nodes =
      nodes'.push ⟨.list, .startGrouping, info.parent, info.left, some (st.nodes.size + 1), st.lastToken⟩ := by
    simp only [listState, hir]
  exact ⟨nodes', info, hpt, hir,
    operand_closeU hinv .list .startGrouping st.lastToken 220 false rfl rfl nodes' info hI _ hn1 hO rfl rfl⟩

/-- the first token of an operand after a complete operand and whitespace: the reference parser first inserts `List` -/
theorem ref_list_head (f : Frame) (stack : List Frame) (pos : Nat) (t : PToken) (rest : List PToken)
    (ht : isPrefixTok t = true ∨ isOpenTok t = true ∨ isAtom10 t = true) (hl : f.last = .operand) (hw : f.ws = true) :
    refStep Table.gen f stack pos t rest =
      refStep Table.gen { f with cur := attach Table.gen 220 false .list (pos - 1) f.cur, last := .op, ws := false }
        stack pos t rest := by
  refine refStep_before _ (beforeOperand_list _ hl hw rfl pos) ?_ stack rest
  rcases ht with ht | ht | ht
  · exact Or.inl ⟨_, _, operand_act Table.gen (Or.inr ⟨eq_of_beq ht, rfl⟩)⟩
  · exact Or.inr ⟨_, opener_act Table.gen (open_def_facts ht).1⟩
  · exact Or.inl ⟨_, _, operand_act Table.gen (Or.inl ⟨(atom10_facts ht).1, rfl, prio10_not_special (atom10_facts ht).2⟩)⟩

/-- the whitespace of the innermost frame (inside a group separators count) with at least one token that starts a list, or
    the `ws` flag already set: the flag is set afterwards -/
theorem refSeg_gfill_ws (inG : Bool) (ws : List PToken) (pos : Nat) (f : Frame) (hig : f.inGroup = inG)
    (hws : ∀ w ∈ ws, isGFill inG w = true) (hc : f.ws = true ∨ ∃ w ∈ ws, setsList w = true) :
    RefSeg pos ws f { f with ws := true } := by
  have hcl : ∀ w ∈ ws, isTriviaTok w = true ∨ (isSepTok w = true ∧ f.inGroup = true) := by
    intro w hw
    have := hws w hw
    unfold isGFill at this
    simp only [Bool.or_eq_true, Bool.and_eq_true] at this
    exact this.elim Or.inl fun h => Or.inr ⟨h.2, by rw [hig]; exact h.1⟩
  have hflag : (f.ws || ws.any (setsWs f)) = true := by
    rcases hc with hc | ⟨w, hw, hwt⟩
    · simp [hc]
    · rw [Bool.or_eq_true, List.any_eq_true]
      refine Or.inr ⟨w, hw, ?_⟩
      unfold setsList at hwt
      unfold setsWs
      simp only [Bool.or_eq_true, Bool.and_eq_true] at hwt ⊢
      rcases hwt with h | h
      · exact Or.inl h
      · rcases hcl w hw with htr | ⟨_, hg⟩
        · -- a separator is no trivia token
          exfalso
          unfold isSepTok at h
          rcases trivia_secdef htr with e | e <;> rw [e] at h <;> cases h
        · exact Or.inr ⟨hg, h⟩
  have := refSeg_fill ws pos f fun w hw => (hcl w hw).elim Or.inl fun h => Or.inr ⟨h.1, Or.inl h.2⟩
  rw [hflag] at this
  exact this

theorem ref_skipK_ws : ∀ (ws : List PToken) (f : Frame) (stack : List Frame) (pos : Nat) (rest : List PToken),
    (∀ w ∈ ws, isTriviaTok w = true) → (f.ws = true ∨ ∃ w ∈ ws, w.type = .whitespace) →
    refLoop Table.gen f stack pos (ws ++ rest) = refLoop Table.gen { f with ws := true } stack (pos + ws.length) rest := by
  intro ws f stack pos rest hws hc
  refine (refSeg_gfill_ws f.inGroup ws pos f rfl (fun w hw => ?_) (hc.imp id fun ⟨w, hw, h⟩ => ⟨w, hw, ?_⟩)).loop stack rest
  · unfold isGFill; rw [hws w hw]; rfl
  · unfold setsList; rw [h]; rfl

/-- **the tokens `x` form a complete operand in list mode** (the list flag is set, the first token inserts the List node) -/
def ListOpdOK (c : Nat) (x : List PToken) : Prop :=
  ∀ (st : PState) (ug : Option Nat) (nodes' : Array ParseNode) (info : Info),
    underGroupOf st = .ok ug → adjustLastLeft st ug = .ok st → st.nextLastLeft = none → st.checkForList = true →
    (st.previousSecondDef = .whitespace ∨ st.previousSecondDef = .annotation ∨ st.previousSecondDef = .subexpression) →
    parseToken st.nodes.size .list st.lastLeft (some (st.nodes.size + 1)) st.nodes ug false = .ok (nodes', info) →
    info.right = some (st.nodes.size + 1) →
    OpenB (listState st nodes' info) ug → AllPrio (listState st nodes' info).nodes → CGOK (listState st nodes' info) →
    aboveDef (listState st nodes' info) = .list → ∀ (rest : List PToken),
    ∃ (st2 : PState) (sub : Tree) (cb : Nat) (P : RTree → RTree),
      loop st (x ++ rest) = loop st2 rest ∧ OpdRes (listState st nodes' info) st2 sub cb ∧
      PlugFn (dfOf st2.nodes) .list sub P ∧
      sub.inorder.length + (listState st nodes' info).nodes.size + c = st2.nodes.size ∧
      ∀ (pos : Nat), NumberedFrom pos x → ∀ f : Frame, f.last = .operand → f.ws = true →
        RefSeg pos x f { f with cur := P (attach Table.gen 220 false .list (pos - 1) f.cur), last := .operand,
                                ws := false, prevSep := false }

theorem listOpd_po {c : Nat} {t : PToken} {r : List PToken} (hx : OpdOK c (t :: r)) (hr : r ≠ [])
    (ht : isPrefixTok t = true ∨ isOpenTok t = true) : ListOpdOK c (t :: r) := by
  intro st ug nodes' info hug hadj hnnl hcfl hprev hpt hir hO hprios hcg habove rest
  obtain ⟨st2, sub, cb, P, hloop, hres, hP, hcnt, href⟩ := hx (listState st nodes' info) ug hO hprios hcg rest
  refine ⟨st2, sub, cb, P, ?_, hres, by rw [← habove]; exact hP, hcnt, ?_⟩
  · rw [← hloop]
    simp only [List.cons_append, loop]
    have he : (r ++ rest).isEmpty = false := isEmpty_append_of_ne [] (List.append_ne_nil_of_left_ne_nil hr rest)
    rw [he]
    rcases ht with ht | ht
    · rw [step_list_prefix st ug t ht hug hadj hnnl hcfl hprev hpt,
        step_prefix_eqG _ t ht hO.cfl hO.nnl hO.hug hO.adj hO.comp_prefix]
    · rw [step_list_open st ug t ht hug hadj hnnl hcfl hprev hpt, step_openB _ ug t ht hO]
  · intro pos hnum f hl hw stack restR
    have := href pos hnum { f with cur := attach Table.gen 220 false .list (pos - 1) f.cur, last := .op, ws := false }
      (Or.inl rfl) stack restR
    simp only [refRun] at this ⊢
    rw [ref_list_head f stack pos t _ (by rcases ht with h | h; exact Or.inl h; exact Or.inr (Or.inl h)) hl hw]
    exact this

theorem listOpd_value (a : PToken) (ha : isAtom10 a = true) : ListOpdOK 0 [a] := by
  intro st ug nodes' info hug hadj hnnl hcfl hprev hpt hir hO hprios hcg habove rest
  obtain ⟨hsa, hqa⟩ := atom10_facts ha
  have hsz' : nodes'.size = st.nodes.size := (parseToken_size_def hpt).1
  have hstep := step_list_value st ug a rest.isEmpty ha hug hadj hnnl hcfl hprev hpt hir
  have hsL : (listState st nodes' info).nodes.size = st.nodes.size + 1 := by simp [listState, hsz']
  have hVprio : priority (underDef Definition.list (getDefinition a.type).1) = some 10 := underDef_prio hqa
  have hVn : (listValue st nodes' info a).nodes[st.nodes.size + 1]? =
      some ⟨underDef .list (getDefinition a.type).1, (getDefinition a.type).2, some st.nodes.size, none, none, a⟩ := by
    simp only [listValue]; rw [Array.getElem?_push, if_pos hsL.symm]
  have hs2 : (listValue st nodes' info a).nodes.size = st.nodes.size + 2 := by simp [listValue, hsL]
  have hlt2 : ∀ j, j < st.nodes.size + 1 → (listValue st nodes' info a).nodes[j]? = (listState st nodes' info).nodes[j]? := by
    intro j hj
    simp only [listValue]; rw [Array.getElem?_push, if_neg (by omega)]
  have hdfV : dfOf (listValue st nodes' info a).nodes (st.nodes.size + 1) = underDef .list (getDefinition a.type).1 := by
    simp [dfOf, hVn]
  refine ⟨listValue st nodes' info a, .node .nil (st.nodes.size + 1) a.col .nil, (listValue st nodes' info a).nodes.size,
    fun R => plug R (.node .nil (getDefinition a.type).1 a.col .nil), ?_, ?_, ?_,
    by simp only [Tree.inorder, List.nil_append, List.length_cons, List.length_nil]; omega, ?_⟩
  · simp only [List.cons_append, List.nil_append, loop, hstep, Outcome.bind]
  · refine ⟨fun j hj => hlt2 j (by omega), by omega, ?_, ?_, hnnl, rfl, rfl, ?_, ?_, ?_, ?_, ?_⟩
    · rw [hsL]
      exact isTreeAt_node _ hVn rfl (.nil _) (.nil _) rfl
    · rw [hsL, hs2]
      simp only [Tree.inorder, List.nil_append]
      exact sortedIn_range' (st.nodes.size + 1) 1 _ (by omega)
    · refine .plain (by rw [hs2]; rfl) ⟨_, by rw [hs2]; exact hVn, rfl, prio10_not_groupLike hVprio⟩ ?_ ?_
      · rw [hs2]; rfl
      · intro nd hnd
        rw [hs2] at hnd
        have e : st.nodes.size + 2 - 1 = st.nodes.size + 1 := by omega
        rw [e, hVn] at hnd
        injection hnd with hnd; rw [← hnd]
        rcases hsa with h | h <;> rw [h] <;> rfl
    · simp only [SpineG, if_neg (show st.nodes.size + 1 ≠ (listValue st nodes' info a).nodes.size by omega), hdfV]
      exact ⟨prio10_not_bracket hVprio, trivial⟩
    · intro i nd hi
      by_cases c1 : i < st.nodes.size + 1
      · rw [hlt2 i c1] at hi; exact hprios i nd hi
      · by_cases c2 : i = st.nodes.size + 1
        · subst c2; rw [hVn] at hi; injection hi with hi; subst hi; exact ⟨10, hVprio⟩
        · have : (listValue st nodes' info a).nodes[i]? = none := by apply Array.getElem?_eq_none; omega
          rw [this] at hi; cases hi
    · show (getDefinition a.type).2 = _ ∨ (getDefinition a.type).2 = _ ∨ _
      rcases hsa with h | h
      · exact Or.inl h
      · exact Or.inr (Or.inl h)
    · exact ⟨_, _, rfl, hVn, Or.inl (prio10_valueLike hVprio)⟩
  · exact plugFn_leaf _ _ _ _ _ hdfV (prio10_not_bracket hVprio)
  · intro pos hnum f hl hw
    rw [hnum.1]
    refine RefSeg.one fun stack restR => ?_
    rw [ref_list_head f stack pos a restR (Or.inr (Or.inr ha)) hl hw,
      ref_atom_stepK _ stack pos a restR ha (Or.inl rfl)]

theorem numbered_getLast (k : Nat) (l : List PToken) (hne : l ≠ []) (h : NumberedFrom k l) :
    (l.getLast hne).col = k + l.length - 1 := by
  have e : l = l.dropLast ++ [l.getLast hne] := (List.dropLast_concat_getLast hne).symm
  have h' : NumberedFrom k (l.dropLast ++ [l.getLast hne]) := by rw [← e]; exact h
  have := (numbered_append l.dropLast [l.getLast hne] k h').1
  rw [this, List.length_dropLast]
  have := List.length_pos_iff.mpr hne
  omega

/-- a token of the whitespace of a frame is of the class whitespace, annotation or subexpression -/
theorem gfill_secdef {inG : Bool} {w : PToken} (hw : isGFill inG w = true) :
    (getDefinition w.type).2 = .whitespace ∨ (getDefinition w.type).2 = .annotation ∨
      (getDefinition w.type).2 = .subexpression := by
  unfold isGFill at hw
  by_cases htr : isTriviaTok w = true
  · rcases trivia_secdef htr with h | h
    · exact Or.inl h
    · exact Or.inr (Or.inl h)
  · have hsp : inG = true ∧ isSepTok w = true := by simpa [htr] using hw
    have := hsp.2; unfold isSepTok at this
    exact Or.inr (Or.inr (by simpa using this))

/-- an expression, whitespace (inside a group: or separators), and one more operand: an implicit list -/
theorem expr_list {c1 c2 : Nat} {inG : Bool} {e x ws : List PToken} (he : ExprOK c1 inG e false) (hx : ListOpdOK c2 x)
    (hws : ∀ w ∈ ws, isGFill inG w = true) (hwsp : ∃ w ∈ ws, setsList w = true) :
    ExprOK (c1 + c2) inG (e ++ (ws ++ x)) false := by
  intro st0 ug p base hO hfs hprios hcg hk hsp rest
  have hwne : ws ≠ [] := by obtain ⟨w, hw, _⟩ := hwsp; exact List.ne_nil_of_mem hw
  obtain ⟨hbase, _⟩ := hfs.base_eq
  obtain ⟨stE, E, re, cb, hloopE, hE, hrefE⟩ :=
    he st0 ug p base hO hfs hprios hcg hk hsp ((ws ++ x) ++ rest)
  obtain ⟨hinvE, hgsE, hcgE, hOE, hrdE, hcntE⟩ := hE
  have hkE : KindOK stE ug inG := ExprRes.kind ⟨hinvE, hgsE, hcgE, hOE, hrdE, hcntE⟩ hfs hk
  obtain ⟨stE', hloopW, hinvE', hnE', hgsE', hcgE', hllE', hnnlE', hlt', hprev', hcflE'⟩ :=
    fill_runU inG ws stE (x ++ rest) hinvE.toF hkE hws
  have hcfl' : stE'.checkForList = true := hcflE' (hrdE rfl) (Or.inr hwsp)
  have hlast : ws.getLast? = some (ws.getLast hwne) := List.getLast?_eq_some_getLast hwne
  rw [hlast] at hlt' hprev'
  simp only [Option.getD_some, Option.map_some] at hlt' hprev'
  have hprevT : stE'.previousSecondDef = .whitespace ∨ stE'.previousSecondDef = .annotation ∨
      stE'.previousSecondDef = .subexpression := by
    rw [hprev']; exact gfill_secdef (hws _ (List.getLast_mem hwne))
  have hwpos := List.length_pos_iff.mpr hwne
  obtain ⟨nodes', info, hpt, hir, hL⟩ := list_openU hinvE'.inv
  have hOL := hL.openB
  have hcgL : CGOK (listState stE' nodes' info) := by
    unfold CGOK at hcg ⊢
    show stE'.currentGroup = if stE'.groupStack.isEmpty then none else some (stE'.groupStack.size - 1)
    rw [hcgE', hgsE', hcgE, hgsE]; exact hcg
  obtain ⟨st2, sub, cb', P, hloopX, hres, hP, hcntX, hrefX⟩ :=
    hx stE' ug nodes' info hinvE'.hug hinvE'.adjust' (hnnlE'.trans hinvE.nnl) hcfl' hprevT hpt hir hOL hL.prios hcgL
      hL.above rest
  obtain ⟨re', hinv2, hdefs2, hO2, hdn⟩ := hL.close st2 sub cb' hres
  have hnE'' : (normP stE').nodes = stE.nodes := hnE'
  have hLs : (listState stE' nodes' info).nodes.size = stE.nodes.size + 1 := by
    have h := hL.size; rw [hnE''] at h; exact h
  simp only [insU, hnE''] at hinv2 hdefs2 hO2 hdn
  have hcnt : (insertC cb (prioAt stE.nodes) 220 false stE.nodes.size (normP stE').lastToken.col sub E).inorder.length + base +
      (c1 + c2) = st2.nodes.size := by
    rw [insertC_inorder]
    simp only [List.length_append, List.length_cons]
    omega
  refine ⟨st2, _, re', cb', ?_, ⟨hinv2, ?_, ?_, hOE.trans hO2, fun _ => hres.ready, hcnt⟩, ?_⟩
  · have e1 : e ++ (ws ++ x) ++ rest = e ++ ((ws ++ x) ++ rest) := by simp
    have e2 : (ws ++ x) ++ rest = ws ++ (x ++ rest) := by simp
    rw [e1, hloopE, e2, hloopW, hloopX]
  · rw [hres.gs]; show stE'.groupStack = _; rw [hgsE', hgsE]
  · rw [hres.cg]; show stE'.currentGroup = _; rw [hcgE', hcgE]
  · intro pos hnum f hc hl hig stack restR
    have hnum1 := numbered_append e _ pos hnum
    have hltcol : (normP stE').lastToken.col = pos + e.length + ws.length - 1 := by
      show stE'.lastToken.col = _
      rw [hlt']; exact numbered_getLast _ ws hwne (numbered_prefix ws _ _ hnum1)
    let fE : Frame :=
      { f with cur := toRG (dfOf stE.nodes) E, last := (if false then Last.suffix else Last.operand), ws := false,
               prevSep := false }
    refine refRun_append_ok (hrefE pos (numbered_prefix e _ pos hnum) f hc hl hig stack _) ?_
    refine refRun_append_ok (refSeg_gfill_ws inG ws (pos + e.length) fE hig hws (Or.inr hwsp) stack _) ?_
    rw [hrefX _ (numbered_append ws x _ hnum1) _ rfl rfl stack restR]
    simp only
    rw [attach_toRG hinvE.n hinvE.spine hdefs2 hdn rfl 220 false (pos + e.length + ws.length - 1) sub P hP, hltcol]
    rfl

end Garnish.Spec
