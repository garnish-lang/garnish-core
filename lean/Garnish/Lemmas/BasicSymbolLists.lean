/-
Clauses of `StoreLawsOn` for `BasicGarnishData`: appending a block of value cells (`pushAll_total`, `adds_symList`), and
`merge_to_symbol_list` on symbols and symbol lists, through its normal form `mergeToSymbolList_eq` (Lemmas/OptimizeOps.lean).
-/
import Garnish.Lemmas.BasicFrames
namespace Garnish.Lemmas.Runtime.Basic
open Garnish Gen Garnish.Model.Equality Garnish.Model.Runtime Garnish.Model.Runtime.Basic Garnish.BasicOpt
open Garnish.Lemmas.Runtime Garnish.Lemmas.EqualityRefine

variable {F : Type}

section
variable {P : Store → Prop} (R : Room P)
include R

theorem pushAll_total : ∀ (cs : List Cell) (s : Store), P s →
    ∃ s', Store.pushAll s cs = .ok s' ∧ s'.cells = s.cells ++ cs.toArray ∧ SameFrame s s' ∧ P s'
  | [], s, hf => ⟨s, rfl, by simp, SameFrame.rfl' s, hf⟩
  | c :: cs, s, hf => by
    obtain ⟨s1, hp, hc, hfr1, hf1⟩ := R.push _ c hf
    obtain ⟨s2, h2, hc2, hfr2, hf2⟩ := pushAll_total cs s1 hf1
    refine ⟨s2, by simp [Store.pushAll, bind, Outcome.bind, hp, h2], ?_, hfr1.trans hfr2, hf2⟩
    rw [hc2, hc]; apply Array.ext'; simp

end

theorem adds_symList (nc : NumCode F) {P : Store → Prop} {st : BState} (hinv : BInvP P st) {s' : Store} {n : Nat} {items : List Cell}
    {m : RM BState Nat} (hm : m st = .ok (st.store.cells.size, { st with store := s' }))
    (hl : s'.cells.toList = st.store.cells.toList ++ (Cell.symbolList n :: items)) (hf : SameFrame st.store s')
    (hfit : P s') (hlen : items.length = n) (hall : ∀ c ∈ items, isSymPart c = true) :
    AddsOn (basicRStore nc) (BInvP P) m st (.symList (items.map (symPartOf nc.dec))) := by
  have hcells : s'.cells = st.store.cells ++ (#[Cell.symbolList n] ++ items.toArray) := by
    apply Array.ext'; rw [hl]; simp
  obtain ⟨hw, hn⟩ := inline_block_wfq hinv.wfq hcells hf (Or.inr (Or.inr ⟨by rw [hlen], hall⟩))
  have hsub : Sub st.store.cells s'.cells := sub_of_toList hl
  have hhdr : s'.cells[st.store.cells.size]? = some (Cell.symbolList n) := by
    rw [← Array.getElem?_toList, hl]; simp
  have hread : inlineCells s'.cells isSymPart (st.store.cells.size + 1) n = some items := by
    have := inlineCells_suffix (p := isSymPart) items (st.store.cells.toList ++ [Cell.symbolList n]) [] s'.cells hall
      (by rw [hl]; simp)
    simpa [hlen] using this
  refine ⟨_, _, hm, ?_, eff_sub nc hinv hsub hf, ?_⟩
  · exact .symList (by simp [basicRStore, bv_typeOf, hhdr, cellTy])
      (by simp [basicRStore, bv_symList, hhdr, hread])
  · refine hinv.append hl hf hw hfit ?_
    intro c hc
    rcases List.mem_cons.mp hc with rfl | h
    · trivial
    · have := hall c h
      cases c <;> first | trivial | cases this

theorem decodes_sym_cell {numOf : Nat → Number F} {cells : Array Cell} {a s : Nat}
    (h : Decodes (basicView numOf cells) a (.sym s)) : cells[a]? = some (Cell.symbol s) := by
  cases h with
  | sym _ hs =>
    rw [bv_symbol] at hs
    cases hc : cells[a]? with
    | none => simp [hc] at hs
    | some c => rw [hc] at hs; cases c <;> simp at hs; rw [hs]

theorem decodes_symList_cell {numOf : Nat → Number F} {cells : Array Cell} {a : Nat} {ps : List (SymPart F)}
    (h : Decodes (basicView numOf cells) a (.symList ps)) :
    ∃ n inl, cells[a]? = some (Cell.symbolList n) ∧ inlineCells cells isSymPart (a + 1) n = some inl ∧
      ps = inl.map (symPartOf numOf) := by
  cases h with
  | symList _ hs =>
    rw [bv_symList] at hs
    cases hc : cells[a]? with
    | none => simp [hc] at hs
    | some c =>
      rw [hc] at hs
      cases c <;> simp only [] at hs <;> try (cases hs; done)
      simp only [Option.map_eq_some_iff] at hs
      obtain ⟨inl, h1, h2⟩ := hs
      exact ⟨_, inl, rfl, h1, h2.symm⟩

/-- **`merge_to_symbol_list`** on symbols and symbol lists: both operands have parts (`SymParts`), so the call is `add` of
the header with the parts of both (`mergeToSymbolList_eq`), which is total when there is room -/
theorem mergeSome_law (nc : NumCode F) {P : Store → Prop} (R : Room P) {st : BState} (hinv : BInvP P st) {l r : Nat} {vl vr v : Val F}
    (hl : Decodes ((basicRStore nc).view st) l vl) (hr : Decodes ((basicRStore nc).view st) r vr)
    (hm : Abs.mergeSymList vl vr = some v) (hnl : ∀ n, vl ≠ .num n) (hnr : ∀ n, vr ≠ .num n) :
    AddsOn (basicRStore nc) (BInvP P) ((basicRStore nc).mergeToSymbolList l r) st v := by
  have hl' : Decodes (basicView nc.dec st.store.cells) l vl := hl
  have hr' : Decodes (basicView nc.dec st.store.cells) r vr := hr
  have fin : ∀ {p1 p2 : List Cell}, SymParts st.store.cells l p1 → SymParts st.store.cells r p2 →
      AddsOn (basicRStore nc) (BInvP P) ((basicRStore nc).mergeToSymbolList l r) st (.symList ((p1 ++ p2).map (symPartOf nc.dec))) := by
    intro p1 p2 h1 h2
    obtain ⟨t1, hp1, hq1, hfr1, hf1⟩ := R.push _ (.symbolList (p1.length + p2.length)) hinv.room
    obtain ⟨t2, hp2, hq2, hfr2, hf2⟩ := pushAll_total R (p1 ++ p2) t1 hf1
    have hop : st.store.mergeToSymbolList l r = .ok (t2, st.store.cells.size) := by
      rw [mergeToSymbolList_eq h1 h2]
      simp [Store.addInline, bind, Outcome.bind, hp1, hp2, pure]
    refine adds_symList nc hinv (n := p1.length + p2.length) (items := p1 ++ p2)
      (liftAdd_ok (f := fun s => s.mergeToSymbolList l r) hop) (by rw [hq2, hq1]; simp) (hfr1.trans hfr2) hf2
      (by simp) fun c hc => ?_
    rcases List.mem_append.mp hc with h | h
    · exact h1.all c h
    · exact h2.all c h
  -- an operand that decodes to a symbol or to a symbol list has parts that decode to the parts of its value
  have sym : ∀ {a s}, Decodes (basicView nc.dec st.store.cells) a (.sym s) → SymParts st.store.cells a [Cell.symbol s] :=
    fun h => .part (decodes_sym_cell h) rfl
  have lst : ∀ {a ps}, Decodes (basicView nc.dec st.store.cells) a (.symList ps) →
      ∃ inl, SymParts st.store.cells a inl ∧ ps = inl.map (symPartOf nc.dec) := fun h => by
    obtain ⟨n, inl, hc, hi, e⟩ := decodes_symList_cell h
    exact ⟨inl, .list hc hi, e⟩
  cases vl with
  | num n => exact absurd rfl (hnl n)
  | sym s1 =>
    cases vr with
    | num n => exact absurd rfl (hnr n)
    | sym s2 =>
      simp [Abs.mergeSymList] at hm; subst hm
      simpa [symPartOf] using fin (sym hl') (sym hr')
    | symList ps2 =>
      simp [Abs.mergeSymList] at hm; subst hm
      obtain ⟨p2, h2, rfl⟩ := lst hr'
      simpa [symPartOf] using fin (sym hl') h2
    | _ => cases hm
  | symList ps1 =>
    obtain ⟨p1, h1, rfl⟩ := lst hl'
    cases vr with
    | num n => exact absurd rfl (hnr n)
    | sym s2 =>
      simp [Abs.mergeSymList] at hm; subst hm
      simpa [symPartOf] using fin h1 (sym hr')
    | symList ps2 =>
      simp [Abs.mergeSymList] at hm; subst hm
      obtain ⟨p2, h2, rfl⟩ := lst hr'
      simpa using fin h1 h2
    | _ => cases hm
  | _ => cases hm

end Garnish.Lemmas.Runtime.Basic
