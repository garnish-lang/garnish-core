/-
C14: the spelling functions of Spec/Spell.lean against the parsers of Model/Literals.lean; the property statements are in Props/C14.lean.
Numbers: `parse_number_internal` is split into `radixSplit` and `readDigits`, and a spelling denotes `digitsDenote`. Texts: the loop of
`parse_char_list` is the escape processing `unesc` of Spec/Spell (`charListLoop_unesc`; `appendOk` / `consOk` are Spec/Spell's too), and
escaping is undone item by item (`decode_flatMap`). Byte lists: the quoted form (`parseByteList_quote`), UTF-8 (`utf8BytesOf_spec`), the
numeric form over any entry spelling (`ByteSpelling`). The end of the file feeds the lexer's `CharList` arm (`feedCharList`) for Props/C14.
-/
import Garnish.Spec.Spell
import Garnish.Model.Literals
import Garnish.Model.Lexer
set_option linter.unusedSimpArgs false
namespace Garnish.Lemmas.Literals
open Garnish Garnish.Spec.Spell Garnish.Model.Literals

theorem digitChar_toNat : ∀ d, d < 36 → (digitChar d).toNat = if d < 10 then 48 + d else 87 + d := by
  decide

theorem toDigit_digitChar (d r : Nat) (h : d < r) (hr : r ≤ 36) : toDigit (digitChar d) r = some d := by
  have hd : d < 36 := by omega
  unfold toDigit
  simp only [digitChar_toNat d hd]
  by_cases h10 : d < 10
  · have h1 : 48 ≤ 48 + d ∧ 48 + d ≤ 57 := by omega
    simp [h10, h1, h]
  · have h1 : ¬ (48 ≤ 87 + d ∧ 87 + d ≤ 57) := by omega
    have h2 : 97 ≤ 87 + d ∧ 87 + d ≤ 122 := by omega
    have h3 : 87 + d - 97 + 10 = d := by omega
    simp [h10, h1, h2, h3, h]

/-- the step of `digitsValue` -/
def dstep (r : Nat) : Option Nat → Char → Option Nat := fun acc c =>
  match acc, toDigit c r with
  | some a, some d => some (a * r + d)
  | _, _ => none

theorem digitsValue_cons (r : Nat) (c : Char) (cs : List Char) :
    digitsValue r (c :: cs) = (c :: cs).foldl (dstep r) (some 0) := rfl

theorem foldl_spellAux (r : Nat) (hr2 : 2 ≤ r) (hr : r ≤ 36) :
    ∀ fuel n acc, n < fuel →
      (spellAux r fuel n acc).foldl (dstep r) (some 0) = acc.foldl (dstep r) (some n) := by
  intro fuel
  induction fuel with
  | zero => intro n acc h; omega
  | succ fuel ih =>
    intro n acc h
    have hmod : n % r < r := Nat.mod_lt _ (by omega)
    simp only [spellAux]
    split
    · rename_i h0
      have hn : n < r := by
        rcases Nat.lt_or_ge n r with h | h
        · exact h
        · have := Nat.div_pos h (by omega : 0 < r); omega
      have : n % r = n := Nat.mod_eq_of_lt hn
      rw [this] at hmod
      simp [List.foldl, dstep, toDigit_digitChar _ _ hmod hr, this]
    · rename_i h0
      have hlt : n / r < n := Nat.div_lt_self (by
        rcases Nat.eq_zero_or_pos n with h | h
        · subst h; simp at h0
        · exact h) hr2
      rw [ih (n / r) _ (by omega)]
      simp only [List.foldl, dstep, toDigit_digitChar _ _ hmod hr]
      have : n / r * r + n % r = n := by rw [Nat.mul_comm]; exact Nat.div_add_mod n r
      rw [this]

theorem spellAux_ne_nil (r fuel n : Nat) (acc : List Char) : spellAux r (fuel + 1) n acc ≠ [] := by
  induction fuel generalizing n acc with
  | zero => simp [spellAux]
  | succ fuel ih =>
    rw [spellAux]
    split
    · simp
    · exact ih _ _

theorem spellNat_ne_nil (r n : Nat) : spellNat r n ≠ [] := spellAux_ne_nil r n n []

theorem digitsValue_spellNat (r n : Nat) (hr2 : 2 ≤ r) (hr : r ≤ 36) : digitsValue r (spellNat r n) = some n := by
  have h := foldl_spellAux r hr2 hr (n + 1) n [] (by omega)
  have hne := spellNat_ne_nil r n
  unfold spellNat at *
  match hs : spellAux r (n + 1) n [] with
  | [] => exact absurd hs hne
  | c :: cs =>
    rw [digitsValue_cons, ← hs, h]; rfl

theorem spellAux_chars (r : Nat) (hr : 0 < r) (P : Char → Prop) (hP : ∀ d, d < r → P (digitChar d)) :
    ∀ fuel n acc, (∀ c ∈ acc, P c) → ∀ c ∈ spellAux r fuel n acc, P c := by
  intro fuel
  induction fuel with
  | zero => intro n acc h; simpa [spellAux] using h
  | succ fuel ih =>
    intro n acc h
    have hmod : n % r < r := Nat.mod_lt _ hr
    have h' : ∀ c ∈ digitChar (n % r) :: acc, P c := by
      intro c hc
      rcases List.mem_cons.mp hc with h1 | h1
      · subst h1; exact hP _ hmod
      · exact h c h1
    simp only [spellAux]
    split
    · exact h'
    · exact ih _ _ h'

theorem spellNat_chars (r n : Nat) (hr : 0 < r) (P : Char → Prop) (hP : ∀ d, d < r → P (digitChar d)) :
    ∀ c ∈ spellNat r n, P c := spellAux_chars r hr P hP _ _ _ (by simp)

theorem spellAux_head (r : Nat) (hr2 : 2 ≤ r) :
    ∀ fuel n acc, n < fuel → 0 < n → ∃ d rest, 0 < d ∧ d < r ∧ spellAux r fuel n acc = digitChar d :: rest := by
  intro fuel
  induction fuel with
  | zero => intro n acc h; omega
  | succ fuel ih =>
    intro n acc h hn
    simp only [spellAux]
    split
    · rename_i h0
      have hlt : n < r := by
        rcases Nat.lt_or_ge n r with h | h
        · exact h
        · have := Nat.div_pos h (by omega : 0 < r); omega
      exact ⟨n % r, acc, by rw [Nat.mod_eq_of_lt hlt]; exact hn, Nat.mod_lt _ (by omega), rfl⟩
    · rename_i h0
      have hlt : n / r < n := Nat.div_lt_self hn hr2
      exact ih _ _ (by omega) (Nat.pos_of_ne_zero h0)

theorem spellNat_head (r n : Nat) (hr2 : 2 ≤ r) (hn : 0 < n) :
    ∃ d rest, 0 < d ∧ d < r ∧ spellNat r n = digitChar d :: rest :=
  spellAux_head r hr2 _ _ _ (by omega) hn

section
variable {F : Type} (pf : List Char → Option F)

/-- the first phase of `parse_number_internal`: radix and digits part -/
def radixSplit (input : List Char) (defaultRadix : Nat) : Outcome (Nat × List Char) :=
  match splitAtUnderscore input with
  | none => .ok (defaultRadix, input)
  | some (part, afterUnderscore) =>
    match part with
    | '0' :: _ =>
      let trimmed := trimStartMatches '0' part
      match u32FromStr trimmed with
      | none => dataErr
      | some v =>
        if v < 2 ∨ v > 36 then dataErr
        else .ok (v, afterUnderscore)
    | _ => .ok (defaultRadix, input)

/-- the second phase of `parse_number_internal`: strip the `_`, `i32::from_str_radix`, float fall-back in radix 10 -/
def readDigits (radix : Nat) (input : List Char) : Outcome (Number F) :=
  let stripped := input.filter (· != '_')
  match i32FromStrRadix stripped radix with
  | some v => .ok (.int v)
  | none =>
    if radix == 10 then
      match pf stripped with
      | some v => .ok (.float v)
      | none => dataErr
    else dataErr

theorem parseNumberInternal_eq (input : List Char) (d : Nat) :
    parseNumberInternal pf input d = Outcome.bind (radixSplit input d) fun p => readDigits pf p.1 p.2 := rfl

theorem splitAtUnderscore_none (s : List Char) (h : '_' ∉ s) : splitAtUnderscore s = none := by
  induction s with
  | nil => rfl
  | cons c rest ih =>
    have hc : c ≠ '_' := fun e => h (by simp [e])
    have hr : '_' ∉ rest := fun e => h (by simp [e])
    simp [splitAtUnderscore, hc, ih hr]

theorem splitAtUnderscore_append (p rest : List Char) (h : '_' ∉ p) :
    splitAtUnderscore (p ++ '_' :: rest) = some (p, rest) := by
  induction p with
  | nil => simp [splitAtUnderscore]
  | cons c p ih =>
    have hc : c ≠ '_' := fun e => h (by simp [e])
    have hr : '_' ∉ p := fun e => h (by simp [e])
    simp [splitAtUnderscore, hc, ih hr]

theorem splitAtUnderscore_cons_part (c : Char) (rest part after : List Char)
    (h : splitAtUnderscore (c :: rest) = some (part, after)) : part = [] ∨ ∃ p, part = c :: p := by
  simp only [splitAtUnderscore] at h
  split at h
  · simp at h; exact Or.inl h.1
  · split at h
    · simp at h
    · simp at h; exact Or.inr ⟨_, h.1.symm⟩

theorem radixSplit_noSplit (input : List Char) (d : Nat) (h : splitAtUnderscore input = none) :
    radixSplit input d = .ok (d, input) := by
  simp [radixSplit, h]

theorem radixSplit_plain (c : Char) (rest : List Char) (d : Nat) (h0 : c ≠ '0') :
    radixSplit (c :: rest) d = .ok (d, c :: rest) := by
  unfold radixSplit
  split
  · rfl
  · rename_i part after hs
    rcases splitAtUnderscore_cons_part _ _ _ _ hs with h | ⟨p, h⟩
    · subst h; rfl
    · subst h
      split
      · rename_i x heq
        simp at heq; exact absurd heq.1 h0
      · rfl

theorem radixSplit_prefix (p after : List Char) (d : Nat) (hp : '_' ∉ p) :
    radixSplit ('0' :: p ++ '_' :: after) d =
      match u32FromStr (trimStartMatches '0' ('0' :: p)) with
      | none => .err .data
      | some v => if v < 2 ∨ v > 36 then .err .data else .ok (v, after) := by
  have hs : splitAtUnderscore ('0' :: p ++ '_' :: after) = some ('0' :: p, after) :=
    splitAtUnderscore_append ('0' :: p) after (by simp [hp])
  unfold radixSplit
  rw [hs]
  rfl

end

theorem digitChar_ne (d : Nat) (hd : d < 36) (c : Char)
    (hc : c.toNat < 48 ∨ (57 < c.toNat ∧ c.toNat < 97) ∨ 122 < c.toNat) : digitChar d ≠ c := by
  intro e
  have := digitChar_toNat d hd
  rw [e] at this
  split at this <;> omega

theorem digitChar_ne_zero (d : Nat) (hd : d < 36) (h0 : 0 < d) : digitChar d ≠ '0' := by
  intro e
  have := digitChar_toNat d hd
  rw [e] at this
  have h48 : ('0' : Char).toNat = 48 := by decide
  split at this <;> omega

theorem i32FromStrRadix_head (c : Char) (rest : List Char) (r : Nat) (hp : c ≠ '+') (hm : c ≠ '-') :
    i32FromStrRadix (c :: rest) r =
      match digitsValue r (c :: rest) with
      | some v => if (v : Int) ≤ I32_MAX then some (v : Int) else none
      | none => none := by
  unfold i32FromStrRadix
  split <;> first | rfl | (simp_all; done) | (simp_all; rfl)

theorem u32FromStr_head (c : Char) (rest : List Char) (hp : c ≠ '+') (hm : c ≠ '-') :
    u32FromStr (c :: rest) =
      match digitsValue 10 (c :: rest) with
      | some v => if v ≤ 4294967295 then some v else none
      | none => none := by
  unfold u32FromStr
  split <;> first | rfl | (simp_all; done) | (simp_all; rfl)

theorem spellNat_eq_cons (r n : Nat) (hr : 0 < r) : ∃ d rest, d < r ∧ spellNat r n = digitChar d :: rest := by
  have hne := spellNat_ne_nil r n
  have hch := spellNat_chars r n hr (fun c => ∃ d, d < r ∧ c = digitChar d) (fun d h => ⟨d, h, rfl⟩)
  match hs : spellNat r n with
  | [] => exact absurd hs hne
  | c :: rest =>
    obtain ⟨d, hd, e⟩ := hch c (by simp [hs])
    exact ⟨d, rest, hd, by rw [e]⟩

theorem spellNat_not_mem (r n : Nat) (hr : 0 < r) (hr36 : r ≤ 36) (c : Char)
    (hc : c.toNat < 48 ∨ (57 < c.toNat ∧ c.toNat < 97) ∨ 122 < c.toNat) : c ∉ spellNat r n := by
  intro hm
  exact spellNat_chars r n hr (fun x => x ≠ c) (fun d h => digitChar_ne d (by omega) c hc) c hm rfl

theorem underscore_not_mem_spellNat (r n : Nat) (hr : 0 < r) (hr36 : r ≤ 36) : '_' ∉ spellNat r n :=
  spellNat_not_mem r n hr hr36 '_' (by decide)

theorem filter_insertSepsFrom (seps : List Nat) (i : Nat) (ds : List Char) (h : '_' ∉ ds) :
    (insertSepsFrom seps i ds).filter (· != '_') = ds := by
  induction ds generalizing i with
  | nil => rfl
  | cons d ds ih =>
    have hd : d ≠ '_' := fun e => h (by simp [e])
    have hr : '_' ∉ ds := fun e => h (by simp [e])
    simp [insertSepsFrom, List.filter_cons, hd, ih (i + 1) hr]

theorem i32FromStrRadix_spellNat (r n : Nat) (hr2 : 2 ≤ r) (hr : r ≤ 36) :
    i32FromStrRadix (spellNat r n) r = if n ≤ 2147483647 then some (n : Int) else none := by
  obtain ⟨d, rest, hd, hs⟩ := spellNat_eq_cons r n (by omega)
  have hv := digitsValue_spellNat r n hr2 hr
  rw [hs] at hv ⊢
  rw [i32FromStrRadix_head _ _ _ (digitChar_ne d (by omega) '+' (by decide)) (digitChar_ne d (by omega) '-' (by decide)), hv]
  simp only [I32_MAX]
  by_cases h : n ≤ 2147483647
  · have : (n : Int) ≤ 2147483647 := by omega
    simp [h, this]
  · have : ¬ (n : Int) ≤ 2147483647 := by omega
    simp [h, this]

theorem u32FromStr_spellNat (n : Nat) :
    u32FromStr (spellNat 10 n) = if n ≤ 4294967295 then some n else none := by
  obtain ⟨d, rest, hd, hs⟩ := spellNat_eq_cons 10 n (by omega)
  have hv := digitsValue_spellNat 10 n (by omega) (by omega)
  rw [hs] at hv ⊢
  rw [u32FromStr_head _ _ (digitChar_ne d (by omega) '+' (by decide)) (digitChar_ne d (by omega) '-' (by decide)), hv]

section
variable {F : Type} (pf : List Char → Option F)

/-- what the digits of `n` in radix `r` denote: the integer, or above `i32::MAX` whatever `f64::from_str` makes of the decimal
digits, an error in any other radix -/
def digitsDenote (r n : Nat) : Outcome (Number F) :=
  if n ≤ 2147483647 then .ok (.int n)
  else if r = 10 then (match pf (spellNat 10 n) with | some v => .ok (.float v) | none => .err .data)
  else .err .data

theorem readDigits_spell (r n : Nat) (seps : List Nat) (i : Nat) (hr2 : 2 ≤ r) (hr : r ≤ 36) :
    readDigits pf r (insertSepsFrom seps i (spellNat r n)) = digitsDenote pf r n := by
  unfold readDigits digitsDenote
  simp only [filter_insertSepsFrom seps i _ (underscore_not_mem_spellNat r n (by omega) hr),
    i32FromStrRadix_spellNat r n hr2 hr]
  by_cases h : n ≤ 2147483647
  · simp [h]
  · by_cases h10 : r = 10
    · subst h10; simp [h, dataErr] <;> rfl
    · simp [h, h10, dataErr]

theorem parse_plain (r n : Nat) (seps : List Nat) (hr2 : 2 ≤ r) (hr : r ≤ 36) (hv : n = 0 → 0 ∉ seps) :
    parseNumberInternal pf (insertSeps (spellNat r n) seps) r = readDigits pf r (insertSeps (spellNat r n) seps) := by
  rw [parseNumberInternal_eq]
  rcases Nat.eq_zero_or_pos n with h0 | hpos
  · subst h0
    have hz : spellNat r 0 = ['0'] := by
      simp [spellNat, spellAux, digitChar]
    have hc : seps.count 0 = 0 := List.count_eq_zero.mpr (hv rfl)
    have : insertSeps (spellNat r 0) seps = ['0'] := by
      simp [hz, insertSeps, insertSepsFrom, hc]
    rw [this, radixSplit_noSplit _ _ (by decide)]; rfl
  · obtain ⟨d, rest, hd0, hd, hs⟩ := spellNat_head r n hr2 hpos
    have : insertSeps (spellNat r n) seps = digitChar d :: (List.replicate (seps.count 0) '_' ++ insertSepsFrom seps 1 rest) := by
      simp [hs, insertSeps, insertSepsFrom]
    rw [this, radixSplit_plain _ _ _ (digitChar_ne_zero d (by omega) hd0)]; rfl

theorem radixSplit_spelled (R : Nat) (after : List Char) (d : Nat) :
    radixSplit ('0' :: (spellNat 10 R ++ '_' :: after)) d =
      if 2 ≤ R ∧ R ≤ 36 then .ok (R, after) else .err .data := by
  have hnm := underscore_not_mem_spellNat 10 R (by omega) (by omega)
  have happ : '0' :: (spellNat 10 R ++ '_' :: after) = '0' :: spellNat 10 R ++ '_' :: after := by simp
  rw [happ, radixSplit_prefix _ _ _ hnm]
  rcases Nat.eq_zero_or_pos R with h0 | hpos
  · subst h0
    have hz : spellNat 10 0 = ['0'] := by decide
    rw [hz]; simp [trimStartMatches, u32FromStr]
  · obtain ⟨dd, rest, hd0, hd, hs⟩ := spellNat_head 10 R (by omega) hpos
    have htrim : trimStartMatches '0' ('0' :: spellNat 10 R) = spellNat 10 R := by
      have := digitChar_ne_zero dd (by omega) hd0
      simp [trimStartMatches, hs, List.dropWhile, this]
    rw [htrim, u32FromStr_spellNat]
    by_cases hR : 2 ≤ R ∧ R ≤ 36
    · rw [if_pos (by omega : R ≤ 4294967295), if_pos hR]; exact if_neg (by omega)
    · rw [if_neg hR]
      by_cases h1 : R ≤ 4294967295
      · rw [if_pos h1]; exact if_pos (by omega)
      · rw [if_neg h1]

theorem parse_prefixed (r n d : Nat) (seps : List Nat) (hr2 : 2 ≤ r) (hr : r ≤ 36) :
    parseNumberInternal pf (spellPrefixed r n seps) d = digitsDenote pf r n := by
  unfold spellPrefixed
  rw [parseNumberInternal_eq, radixSplit_spelled, if_pos ⟨hr2, hr⟩]
  exact readDigits_spell pf r n seps 0 hr2 hr

theorem parse_unprefixed (r n : Nat) (seps : List Nat) (hr2 : 2 ≤ r) (hr : r ≤ 36) (hv : n = 0 → 0 ∉ seps) :
    parseNumberInternal pf (insertSeps (spellNat r n) seps) r = digitsDenote pf r n :=
  (parse_plain pf r n seps hr2 hr hv).trans (readDigits_spell pf r n seps 0 hr2 hr)

theorem parse_spellNumber (r n : Nat) (seps : List Nat) (hr2 : 2 ≤ r) (hr : r ≤ 36) (hv : ValidSeps r n seps) :
    parseSimpleNumber pf (spellNumber r n seps) = digitsDenote pf r n := by
  unfold parseSimpleNumber spellNumber
  split
  · next h => subst h; exact parse_unprefixed pf 10 n seps hr2 hr (hv rfl)
  · exact parse_prefixed pf r n 10 seps hr2 hr

end

theorem appendOk_consOk {α : Type} (a : List α) (c : α) (X : Outcome (List α)) :
    appendOk a (consOk c X) = appendOk (a ++ [c]) X := by
  cases X <;> simp [appendOk, consOk]

theorem appendOk_nil {α : Type} (X : Outcome (List α)) : appendOk [] X = X := by
  cases X <;> simp [appendOk]

theorem appendOk_appendOk {α : Type} (a b : List α) (X : Outcome (List α)) :
    appendOk a (appendOk b X) = appendOk (a ++ b) X := by
  cases X <;> simp [appendOk]

theorem decode_flatMap {α β : Type} {dec : List β → Outcome (List α)} {enc : α → List β} (as : List α)
    (h : ∀ a ∈ as, ∀ tail, dec (enc a ++ tail) = consOk a (dec tail)) (tail : List β) :
    dec (as.flatMap enc ++ tail) = appendOk as (dec tail) := by
  induction as with
  | nil => exact (appendOk_nil _).symm
  | cons a as ih =>
    rw [List.flatMap_cons, List.append_assoc, h a (by simp), ih fun b hb => h b (by simp [hb])]
    cases dec tail <;> rfl

theorem decode_flatMap_all {α β : Type} {dec : List β → Outcome (List α)} {enc : α → List β} (as : List α)
    (h : ∀ a ∈ as, ∀ tail, dec (enc a ++ tail) = consOk a (dec tail)) (h0 : dec [] = .ok []) :
    dec (as.flatMap enc) = .ok as := by
  have := decode_flatMap as h []
  rwa [List.append_nil, h0, appendOk, List.append_nil] at this

theorem flatMap_head_ne {α β : Type} {enc : α → List β} {x : β} (as : List α)
    (h : ∀ a, as.head? = some a → ∃ y rest, enc a = y :: rest ∧ y ≠ x) : (as.flatMap enc).head? ≠ some x := by
  cases as with
  | nil => simp
  | cons a as =>
    obtain ⟨y, rest, e, hy⟩ := h a rfl
    simp [List.flatMap_cons, e, hy]

section
variable {F : Type} (pf : List Char → Option F)

/-- the decoder of `\u{…}` in the code: `parse_number_internal(text, 16)` then `char::from_u32(v as u32)` -/
def uniModel (hex : List Char) : Outcome Char :=
  Outcome.bind (parseNumberInternal pf hex 16) fun n =>
    match n with
    | .float _ => dataErr
    | .int v =>
      match charFromI32 v with
      | none => dataErr
      | some ch => .ok ch

/-- `parse_char_list`'s loop followed by its `Ok(new)` -/
def loopResult (q : Nat) (st : CharListState) (body : List Char) : Outcome (List Char) :=
  Outcome.bind (charListLoop pf q st body) fun st => .ok st.new.reverse

theorem loopResult_nil (q : Nat) (st : CharListState) : loopResult pf q st [] = .ok st.new.reverse := rfl

theorem loopResult_cons (q : Nat) (st : CharListState) (c : Char) (rest : List Char) :
    loopResult pf q st (c :: rest) = Outcome.bind (charListStep pf q st c) fun st => loopResult pf q st rest := by
  unfold loopResult
  simp only [charListLoop]
  cases charListStep pf q st c <;> rfl

theorem charListLoop_unesc (q : Nat) : ∀ (body : List Char) (new hex : List Char),
    loopResult pf q ⟨new, false, false, []⟩ body
        = appendOk new.reverse (unesc (uniModel pf) (decide (q ≤ 1)) .normal body) ∧
    loopResult pf q ⟨new, true, false, []⟩ body
        = appendOk new.reverse (unesc (uniModel pf) (decide (q ≤ 1)) .esc body) ∧
    loopResult pf q ⟨new, false, true, hex⟩ body
        = appendOk new.reverse (unesc (uniModel pf) (decide (q ≤ 1)) (.uni hex) body) := by
  intro body
  induction body with
  | nil => intro new hex; simp [loopResult_nil, unesc, appendOk]
  | cons c rest ih =>
    intro new hex
    -- one conjunct per state of the loop, proved together because a step moves from one state to another
    refine ⟨?_, ?_, ?_⟩
    · -- normal
      rw [loopResult_cons]
      by_cases h1 : c = '\\'
      · simp [charListStep, h1, Outcome.bind, unesc]; exact (ih new []).2.1
      · by_cases h2 : (c = '\n' ∨ c = '\t') ∧ q ≤ 1
        · simp [charListStep, h1, h2, Outcome.bind, unesc]
          simpa [h2.2] using (ih new []).1
        · have h2' : ¬ ((c = '\n' ∨ c = '\t') ∧ decide (q ≤ 1) = true) := by simpa using h2
          simp only [unesc, h1, h2', if_false, appendOk_consOk]
          have := (ih (c :: new) []).1
          simp only [List.reverse_cons] at this
          rw [← this]
          simp [charListStep, h1, Outcome.bind, h2]
    · -- after a backslash
      rw [loopResult_cons]
      have key : ∀ ch : Char,
          loopResult pf q ⟨ch :: new, false, false, []⟩ rest
            = appendOk new.reverse (consOk ch (unesc (uniModel pf) (decide (q ≤ 1)) .normal rest)) := by
        intro ch
        rw [appendOk_consOk, ← List.reverse_cons]; exact (ih (ch :: new) []).1
      by_cases hn : c = 'n'
      · subst hn; simp [charListStep, Outcome.bind, unesc]; exact key _
      by_cases ht : c = 't'
      · subst ht; simp [charListStep, Outcome.bind, unesc]; exact key _
      by_cases hr : c = 'r'
      · subst hr; simp [charListStep, Outcome.bind, unesc]; exact key _
      by_cases h0 : c = '0'
      · subst h0; simp [charListStep, Outcome.bind, unesc]; exact key _
      by_cases hb : c = '\\'
      · subst hb; simp [charListStep, Outcome.bind, unesc]; exact key _
      by_cases hq : c = '"'
      · subst hq; simp [charListStep, Outcome.bind, unesc]; exact key _
      by_cases hu : c = 'u'
      · subst hu; simp [charListStep, Outcome.bind, unesc]; exact (ih new []).2.2
      · simp [charListStep, Outcome.bind, unesc, hn, ht, hr, h0, hb, hq, hu, dataErr, appendOk]
    · -- inside \u
      rw [loopResult_cons]
      by_cases hc : c = '}'
      · subst hc
        simp only [charListStep, unesc, uniModel, if_true, beq_self_eq_true]
        cases hp : parseNumberInternal pf hex.reverse 16 with
        | ok n =>
          cases n with
          | float f => simp [Outcome.bind, dataErr, appendOk]
          | int v =>
            cases hch : charFromI32 v with
            | none => simp [hch, Outcome.bind, dataErr, appendOk]
            | some ch =>
              simp only [hch, Outcome.bind]
              rw [appendOk_consOk, ← List.reverse_cons]; exact (ih (ch :: new) []).1
        | err e => simp [Outcome.bind, appendOk]
        | panic s => simp [Outcome.bind, appendOk]
        | fuelOut => simp [Outcome.bind, appendOk]
      · by_cases ho : c = '{'
        · subst ho; simp [charListStep, Outcome.bind, unesc]; exact (ih new hex).2.2
        · simp [charListStep, Outcome.bind, unesc, hc, ho]; exact (ih new (c :: hex)).2.2
end

theorem foldl_byte (cs : List Char) : ∀ acc : Nat,
    cs.foldl (fun n c => n + c.utf8Size) acc = acc + cs.foldl (fun n c => n + c.utf8Size) 0 := by
  induction cs with
  | nil => intro acc; simp
  | cons c rest ih => intro acc; simp only [List.foldl_cons]; rw [ih (acc + c.utf8Size), ih (0 + c.utf8Size)]; omega

theorem byteLen_cons (c : Char) (cs : List Char) : byteLen (c :: cs) = c.utf8Size + byteLen cs := by
  unfold byteLen
  simp only [List.foldl_cons]
  rw [foldl_byte]
  omega

theorem byteLen_append (a b : List Char) : byteLen (a ++ b) = byteLen a + byteLen b := by
  induction a with
  | nil => simp [byteLen]
  | cons c rest ih => simp only [List.cons_append, byteLen_cons, ih]; omega

theorem charIndexOfByte_prefix : ∀ (pre rest : List Char) (pos i : Nat),
    charIndexOfByte (pre ++ rest) pos i (pos + byteLen pre) = some (i + pre.length) := by
  intro pre
  induction pre with
  | nil => intro rest pos i; unfold charIndexOfByte; simp [byteLen]
  | cons c pre ih =>
    intro rest pos i
    have hpos := Char.utf8Size_pos c
    rw [byteLen_cons]
    simp only [List.cons_append]
    unfold charIndexOfByte
    have h1 : (pos == pos + (c.utf8Size + byteLen pre)) = false := by simp; omega
    have h2 : ¬ (pos > pos + (c.utf8Size + byteLen pre)) := by omega
    simp only [h1, h2, if_false, Bool.false_eq_true]
    have := ih rest (pos + c.utf8Size) (i + 1)
    rw [show pos + (c.utf8Size + byteLen pre) = pos + c.utf8Size + byteLen pre by omega, this]
    simp only [List.length_cons]
    congr 1; omega

theorem byteLen_quotes (q : Nat) : byteLen (List.replicate q '\'') = q := by
  induction q with
  | zero => simp [byteLen]
  | succ k ih =>
    rw [List.replicate_succ, byteLen_cons, ih]
    have : ('\'' : Char).utf8Size = 1 := by decide
    omega

theorem byteLen_cons_pos (c : Char) (cs : List Char) : 0 < byteLen (c :: cs) := by
  rw [byteLen_cons]; have := Char.utf8Size_pos c; omega

theorem sliceBytes_mid (a b c : List Char) :
    sliceBytes (a ++ b ++ c) (byteLen a) (byteLen a + byteLen b) = some b := by
  have h1 := charIndexOfByte_prefix a (b ++ c) 0 0
  have h2 := charIndexOfByte_prefix (a ++ b) c 0 0
  rw [byteLen_append] at h2
  simp only [Nat.zero_add, ← List.append_assoc] at h1 h2
  unfold sliceBytes
  rw [if_neg (by omega), h1, h2]
  simp

theorem sliceBytes_balanced (q : Nat) (body : List Char) :
    sliceBytes (List.replicate q '\'' ++ body ++ List.replicate q '\'') q
      (byteLen (List.replicate q '\'' ++ body ++ List.replicate q '\'') - q) = some body := by
  have := sliceBytes_mid (List.replicate q '\'') body (List.replicate q '\'')
  rw [byteLen_quotes] at this
  rw [byteLen_append, byteLen_append, byteLen_quotes, show q + byteLen body + q - q = q + byteLen body by omega, this]

/-- how the parsers take a literal apart: the opening run of `q` quotes is counted, and a body that starts with another
character is what lies between the two runs -/
theorem quoted_body (x c : Char) (q : Nat) (b : List Char) (hc : c ≠ x) :
    ((List.replicate q x ++ c :: b ++ List.replicate q x).takeWhile (· == x)).length = q ∧
    (List.replicate q x ++ c :: b ++ List.replicate q x).length - q * 2 = b.length + 1 ∧
    ¬ q * 2 ≥ (List.replicate q x ++ c :: b ++ List.replicate q x).length ∧
    ((List.replicate q x ++ c :: b ++ List.replicate q x).drop q).take (b.length + 1) = c :: b := by
  refine ⟨?_, by simp; omega, by simp; omega, ?_⟩
  · rw [List.append_assoc, List.cons_append, List.takeWhile_append_of_pos (by simp),
      List.takeWhile_cons_of_neg (by simpa using hc), List.append_nil, List.length_replicate]
  · rw [List.append_assoc, List.drop_left' (by simp), show b.length + 1 = (c :: b).length by simp, List.take_left']
    rfl

section
variable {F : Type} (pf : List Char → Option F)

theorem parseCharList_quote (q : Nat) (body : List Char) (h : body.head? ≠ some '"') :
    parseCharList pf (quoteCharList q body) = unescape (uniModel pf) q body := by
  unfold quoteCharList unescape
  cases body with
  | nil =>
    simp only [List.append_nil, unesc]
    unfold parseCharList
    split
    · rfl
    · have : (List.replicate q '"' ++ List.replicate q '"') = List.replicate (q + q) '"' := by
        rw [List.replicate_append_replicate]
      simp only [this, List.takeWhile_replicate, beq_self_eq_true, if_true, List.length_replicate]
      have : (q + q) * 2 ≥ q + q := by omega
      simp [this]
  | cons c b =>
    obtain ⟨h1, h2, h3, h4⟩ := quoted_body '"' c q b (by simpa using h)
    have hlen : byteLen (List.replicate q '"' ++ c :: b ++ List.replicate q '"') ≠ 0 := by
      cases q with
      | zero => simpa using Nat.ne_of_gt (byteLen_cons_pos c _)
      | succ q => simpa [List.replicate_succ] using Nat.ne_of_gt (byteLen_cons_pos '"' _)
    simp only [parseCharList, h1, h2, h3, h4, beq_iff_eq, hlen, if_false]
    have := (charListLoop_unesc pf q (c :: b) [] []).1
    simp only [loopResult, List.reverse_nil, appendOk_nil] at this
    exact this
end

section
variable (uni : List Char → Outcome Char)

theorem unesc_escapeChar (q : Nat) (c : Char) (tail : List Char) :
    unesc uni (decide (q ≤ 1)) .normal (escapeChar q c ++ tail)
      = consOk c (unesc uni (decide (q ≤ 1)) .normal tail) := by
  unfold escapeChar
  by_cases h1 : c = '\\'
  · subst h1; simp [unesc]
  by_cases h2 : c = '"'
  · subst h2; simp [unesc]
  by_cases h3 : c = '\n' ∧ q ≤ 1
  · obtain ⟨e, _⟩ := h3; subst e; simp [unesc, *]
  by_cases h4 : c = '\t' ∧ q ≤ 1
  · obtain ⟨e, _⟩ := h4; subst e; simp [unesc, *]
  by_cases h5 : c = Char.ofNat 0
  · subst h5; simp [unesc, *]
  · have hws : ¬ ((c = '\n' ∨ c = '\t') ∧ decide (q ≤ 1) = true) := by
      simp only [decide_eq_true_eq]
      rintro ⟨e | e, hq⟩
      · exact h3 ⟨e, hq⟩
      · exact h4 ⟨e, hq⟩
    simp only [h1, h2, h3, h4, h5, if_false, List.cons_append, List.nil_append, unesc, hws]

theorem unesc_escapeCharRaw (q : Nat) (c : Char) (tail : List Char) :
    unesc uni (decide (q ≤ 1)) .normal (escapeCharRaw q c ++ tail)
      = consOk c (unesc uni (decide (q ≤ 1)) .normal tail) := by
  unfold escapeCharRaw
  by_cases h2 : c = '"'
  · subst h2; simp [unesc]
  · simp only [h2, if_false]; exact unesc_escapeChar uni q c tail

theorem unesc_uni_collect (skip : Bool) (ds hex tail : List Char) (h : ∀ x ∈ ds, x ≠ '}' ∧ x ≠ '{') :
    unesc uni skip (.uni hex) (ds ++ '}' :: tail)
      = Outcome.bind (uni (hex.reverse ++ ds)) fun ch => consOk ch (unesc uni skip .normal tail) := by
  induction ds generalizing hex with
  | nil => simp [unesc]
  | cons d ds ih =>
    have hd := h d (by simp)
    have := ih (d :: hex) (fun x hx => h x (by simp [hx]))
    simp [unesc, hd.1, hd.2, this]

theorem unesc_escapeUnicode (skip : Bool) (c : Char) (tail : List Char) (hu : uni (spellNat 16 c.toNat) = .ok c) :
    unesc uni skip .normal (escapeUnicode c ++ tail) = consOk c (unesc uni skip .normal tail) := by
  have hmem : ∀ x ∈ spellNat 16 c.toNat, x ≠ '}' ∧ x ≠ '{' := by
    intro x hx
    constructor
    · intro e; subst e; exact spellNat_not_mem 16 _ (by omega) (by omega) '}' (by decide) hx
    · intro e; subst e; exact spellNat_not_mem 16 _ (by omega) (by omega) '{' (by decide) hx
  have := unesc_uni_collect uni skip (spellNat 16 c.toNat) [] tail hmem
  simp only [escapeUnicode, List.cons_append, List.append_assoc, List.nil_append]
  simp only [unesc]
  simp [this, hu, Outcome.bind]

end

theorem insertSepsFrom_nil (i : Nat) (ds : List Char) : insertSepsFrom [] i ds = ds := by
  induction ds generalizing i with
  | nil => rfl
  | cons d ds ih => simp [insertSepsFrom, ih]

theorem insertSeps_nil (ds : List Char) : insertSeps ds [] = ds := insertSepsFrom_nil 0 ds

theorem char_toNat_lt (c : Char) : c.toNat < 1114112 := by
  have := c.valid
  simp only [Char.toNat]
  rcases this with h | ⟨_, h⟩ <;> simp only [UInt32.toNat] at * <;> omega

theorem charFromI32_toNat (c : Char) : charFromI32 (c.toNat : Int) = some c := by
  unfold charFromI32
  have hlt := char_toNat_lt c
  have hu : ((c.toNat : Int) % 4294967296).toNat = c.toNat := by omega
  simp only [hu]
  have hv : c.toNat.isValidChar := c.valid
  simp only [hv, dite_true]
  congr 1

section
variable {F : Type} (pf : List Char → Option F)

theorem parseNumberInternal_spellNat (r n : Nat) (hr2 : 2 ≤ r) (hr : r ≤ 36) (hn : n ≤ 2147483647) :
    parseNumberInternal pf (spellNat r n) r = .ok (.int n) := by
  have h := parse_unprefixed pf r n [] hr2 hr (by simp)
  rw [insertSeps_nil] at h
  exact h.trans (if_pos hn)

theorem uniModel_spell (c : Char) : uniModel pf (spellNat 16 c.toNat) = .ok c := by
  have hlt : c.toNat ≤ 2147483647 := Nat.le_trans (Nat.le_of_lt (char_toNat_lt c)) (by decide)
  unfold uniModel
  rw [parseNumberInternal_spellNat pf 16 _ (by omega) (by omega) hlt]
  simp [Outcome.bind, charFromI32_toNat]

theorem unesc_escapeCharU (q : Nat) (c : Char) (tail : List Char) :
    unesc (uniModel pf) (decide (q ≤ 1)) .normal (escapeCharU q c ++ tail)
      = consOk c (unesc (uniModel pf) (decide (q ≤ 1)) .normal tail) := by
  unfold escapeCharU
  by_cases h2 : c = '"'
  · subst h2; simp only [if_true]; exact unesc_escapeUnicode _ _ _ _ (uniModel_spell pf '"')
  · simp only [h2, if_false]; exact unesc_escapeChar _ q c tail

end

theorem escapeChar_head (q : Nat) (c : Char) : ∃ x rest, escapeChar q c = x :: rest ∧ x ≠ '"' := by
  unfold escapeChar
  split
  · exact ⟨_, _, rfl, by decide⟩
  split
  · exact ⟨_, _, rfl, by decide⟩
  rename_i h2
  split
  · exact ⟨_, _, rfl, by decide⟩
  split
  · exact ⟨_, _, rfl, by decide⟩
  split
  · exact ⟨_, _, rfl, by decide⟩
  · exact ⟨c, [], rfl, h2⟩

theorem escapeCharRaw_head (q : Nat) (c : Char) (hc : c ≠ '"') : ∃ x rest, escapeCharRaw q c = x :: rest ∧ x ≠ '"' := by
  unfold escapeCharRaw
  rw [if_neg hc]; exact escapeChar_head q c

theorem toList_loop_eq (bs : ByteArray) : ∀ (k i : Nat) (r : List UInt8), bs.size - i = k →
    ByteArray.toList.loop bs i r = r.reverse ++ bs.data.toList.drop i := by
  intro k
  induction k with
  | zero =>
    intro i r h
    rw [ByteArray.toList.loop]
    have h1 : ¬ i < bs.size := by omega
    rw [if_neg h1]
    have h2 : bs.data.toList.length ≤ i := by
      have : bs.data.toList.length = bs.size := Array.length_toList
      omega
    rw [List.drop_eq_nil_of_le h2, List.append_nil]
  | succ k ih =>
    intro i r h
    rw [ByteArray.toList.loop]
    have hi : i < bs.size := by omega
    rw [if_pos hi, ih (i + 1) _ (by omega)]
    have hlen : i < bs.data.toList.length := by
      have : bs.data.toList.length = bs.size := Array.length_toList
      omega
    rw [List.drop_eq_getElem_cons hlen, List.reverse_cons, List.append_assoc]
    congr 2
    show [bs.get! i] ++ _ = _
    have : bs.get! i = bs.data.toList[i] := by
      simp only [ByteArray.get!, Array.getElem_toList]
      have hi' : i < bs.data.size := hi
      exact getElem!_pos bs.data i hi'
    rw [this]; rfl

theorem byteArray_toList (bs : ByteArray) : bs.toList = bs.data.toList := by
  have := toList_loop_eq bs _ 0 [] rfl
  rw [ByteArray.toList, this]; rfl

theorem utf8BytesOf_eq (c : Char) : utf8BytesOf c = (String.utf8EncodeChar c).map UInt8.toNat := by
  simp [utf8BytesOf, Garnish.Model.SipHash.utf8Bytes, String.toUTF8, String.ofList, List.utf8Encode,
    byteArray_toList]

/-- the code's `encode_utf8` is the UTF-8 encoding of the Unicode standard -/
theorem utf8BytesOf_spec (c : Char) : utf8BytesOf c = utf8Encode c := by
  rw [utf8BytesOf_eq]
  have hlt := char_toNat_lt c
  have hv : c.val.toNat = c.toNat := rfl
  simp only [String.utf8EncodeChar, utf8Encode, hv]
  generalize c.toNat = n at *
  by_cases h1 : n ≤ 127
  · have : n < 128 := by omega
    simp [h1, this, UInt8.toNat_ofNat']; omega
  by_cases h2 : n ≤ 2047
  · have a : ¬ n < 128 := by omega
    have b : n < 2048 := by omega
    simp [h1, h2, a, b, UInt8.toNat_ofNat']; omega
  by_cases h3 : n ≤ 65535
  · have a : ¬ n < 128 := by omega
    have b : ¬ n < 2048 := by omega
    have d : n < 65536 := by omega
    simp [h1, h2, h3, a, b, d, UInt8.toNat_ofNat']; omega
  · have a : ¬ n < 128 := by omega
    have b : ¬ n < 2048 := by omega
    have d : ¬ n < 65536 := by omega
    simp [h1, h2, h3, a, b, d, UInt8.toNat_ofNat']; omega


theorem byteListLoop_unescBytes : ∀ (body : List Char) (acc : List Nat) (esc : Bool),
    byteListLoop acc esc body = appendOk acc.reverse (unescBytes esc body) := by
  intro body
  induction body with
  | nil => intro acc esc; cases esc <;> simp [byteListLoop, unescBytes, appendOk]
  | cons c rest ih =>
    intro acc esc
    have key : ∀ b : Nat, byteListLoop (b :: acc) false rest = appendOk acc.reverse (consOk b (unescBytes false rest)) := by
      intro b; rw [ih, appendOk_consOk, List.reverse_cons]
    cases esc with
    | true =>
      by_cases hn : c = 'n'
      · subst hn; simp [byteListLoop, unescBytes]; exact key _
      by_cases ht : c = 't'
      · subst ht; simp [byteListLoop, unescBytes]; exact key _
      by_cases hr : c = 'r'
      · subst hr; simp [byteListLoop, unescBytes]; exact key _
      by_cases h0 : c = '0'
      · subst h0; simp [byteListLoop, unescBytes]; exact key _
      by_cases hb : c = '\\'
      · subst hb; simp [byteListLoop, unescBytes]; exact key _
      by_cases hq : c = '\''
      · subst hq; simp [byteListLoop, unescBytes]; exact key _
      · simp [byteListLoop, unescBytes, hn, ht, hr, h0, hb, hq, dataErr, appendOk]
    | false =>
      by_cases hb : c = '\\'
      · subst hb; simp [byteListLoop, unescBytes]; exact ih _ _
      · simp only [byteListLoop, unescBytes, hb, beq_iff_eq, if_false]
        rw [ih, appendOk_appendOk, utf8BytesOf_spec]; simp

section
variable {F : Type} (pf : List Char → Option F)

theorem parseByteList_quote_nil (q : Nat) : parseByteList pf (quoteByteList q []) = .ok [] := by
  unfold quoteByteList parseByteList
  simp only [List.append_nil, List.replicate_append_replicate, List.length_replicate]
  rw [List.takeWhile_replicate]; simp
  omega

theorem parseByteList_quote (q : Nat) (body : List Char) (h : body.head? ≠ some '\'') :
    parseByteList pf (quoteByteList q body) =
      if body = [] then .ok [] else if 2 ≤ q then parseByteListNumbers pf body else unescBytes false body := by
  cases body with
  | nil => simpa using parseByteList_quote_nil pf q
  | cons c b =>
    obtain ⟨h1, h2, h3, h4⟩ := quoted_body '\'' c q b (by simpa using h)
    by_cases hq : 2 ≤ q
    · simp only [quoteByteList, parseByteList, h1, h3, hq, if_false, if_true, sliceBytes_balanced, reduceCtorEq]
    · simp only [quoteByteList, parseByteList, h1, h2, h3, h4, hq, if_false, reduceCtorEq]
      rw [byteListLoop_unescBytes]; simp [appendOk_nil]

theorem parseByteList_quote1 (body : List Char) (h : body.head? ≠ some '\'') :
    parseByteList pf (quoteByteList 1 body) = unescBytes false body := by
  rw [parseByteList_quote pf 1 body h]
  cases body <;> simp [unescBytes]

end

theorem charOfNat_toNat (b : Nat) (h : b < 128) : (Char.ofNat b).toNat = b := by
  have : b.isValidChar := Or.inl (by omega)
  simp [Char.ofNat, this, Char.ofNatAux, Char.toNat]

theorem unescBytes_escapeByte (b : Nat) (hb : b < 128) (tail : List Char) :
    unescBytes false (escapeByte b ++ tail) = consOk b (unescBytes false tail) := by
  unfold escapeByte
  by_cases h1 : b = 92
  · subst h1; simp [unescBytes]
  by_cases h2 : b = 39
  · subst h2; simp [unescBytes]
  by_cases h3 : b = 10
  · subst h3; simp [unescBytes]
  by_cases h4 : b = 9
  · subst h4; simp [unescBytes]
  by_cases h5 : b = 13
  · subst h5; simp [unescBytes]
  by_cases h6 : b = 0
  · subst h6; simp [unescBytes]
  · have hne : Char.ofNat b ≠ '\\' := by
      intro e
      have := charOfNat_toNat b hb
      rw [e] at this
      have h92 : ('\\' : Char).toNat = 92 := by decide
      omega
    have henc : utf8Encode (Char.ofNat b) = [b] := by
      simp [utf8Encode, charOfNat_toNat b hb, hb]
    simp only [h1, h2, h3, h4, h5, h6, if_false, List.cons_append, List.nil_append, unescBytes, hne, henc]
    cases unescBytes false tail <;> simp [appendOk, consOk]

theorem escapeByte_head (b : Nat) (hb : b < 128) : ∃ x rest, escapeByte b = x :: rest ∧ x ≠ '\'' := by
  unfold escapeByte
  split
  · exact ⟨_, _, rfl, by decide⟩
  split
  · exact ⟨_, _, rfl, by decide⟩
  split
  · exact ⟨_, _, rfl, by decide⟩
  split
  · exact ⟨_, _, rfl, by decide⟩
  split
  · exact ⟨_, _, rfl, by decide⟩
  split
  · exact ⟨_, _, rfl, by decide⟩
  · refine ⟨_, _, rfl, ?_⟩
    intro e
    have := charOfNat_toNat b hb
    rw [e] at this
    have h39 : ('\'' : Char).toNat = 39 := by decide
    omega

theorem unescBytes_plain (cs : List Char) (h : '\\' ∉ cs) :
    unescBytes false cs = .ok (cs.flatMap utf8Encode) := by
  induction cs with
  | nil => simp [unescBytes]
  | cons c cs ih =>
    have hc : c ≠ '\\' := fun e => h (by simp [e])
    have hr : '\\' ∉ cs := fun e => h (by simp [e])
    simp [unescBytes, hc, ih hr, appendOk, List.flatMap_cons]

theorem isAlphanumeric_digitChar : ∀ d, d < 10 → Garnish.Gen.CharRanges.isAlphanumeric (digitChar d) = true := by
  decide +kernel

theorem isAlphanumeric_space : Garnish.Gen.CharRanges.isAlphanumeric ' ' = false := by decide +kernel

section
variable {F : Type} (pf : List Char → Option F)

/-- what an entry spelling must satisfy: non-empty, made of numeric characters and `_`, ASCII, denotes `b` -/
structure ByteSpelling (spell : Nat → List Char) (b : Nat) : Prop where
  ne : spell b ≠ []
  chars : ∀ c ∈ spell b, (Garnish.Gen.CharRanges.isAlphanumeric c = true ∨ c = '_') ∧ c.toNat < 128 ∧ c ≠ '\''
  value : parseSimpleNumber pf (spell b) = .ok (.int b)

theorem byteNumLoop_digits (ds : List Char) (h : ∀ c ∈ ds, Garnish.Gen.CharRanges.isAlphanumeric c = true ∨ c = '_')
    (cur : List Char) (acc : List Nat) (tail : List Char) :
    byteNumLoop pf ⟨cur, acc⟩ (ds ++ tail) = byteNumLoop pf ⟨ds.reverse ++ cur, acc⟩ tail := by
  induction ds generalizing cur with
  | nil => simp
  | cons d ds ih =>
    have hd := h d (by simp)
    have : (Garnish.Gen.CharRanges.isAlphanumeric d || d == '_') = true := by
      rcases hd with h | h <;> simp [h]
    simp only [List.cons_append, byteNumLoop, byteNumStep, this, if_true, Outcome.bind]
    rw [ih (fun x hx => h x (by simp [hx]))]; simp

theorem byteNumLoop_space (cur : List Char) (acc : List Nat) (tail : List Char) (b : Nat) (hb : b ≤ 255)
    (hne : cur ≠ []) (hv : parseSimpleNumber pf cur.reverse = .ok (.int b)) :
    byteNumLoop pf ⟨cur, acc⟩ (' ' :: tail) = byteNumLoop pf ⟨[], b :: acc⟩ tail := by
  have hlen : cur.length > 0 := List.length_pos_iff.mpr hne
  have h1 : ¬ ((b : Int) < 0 ∨ (b : Int) > 255) := by omega
  simp [byteNumLoop, byteNumStep, isAlphanumeric_space, hlen, hv, Outcome.bind, h1]

theorem byteNumLoop_entries (spell : Nat → List Char) (bs : List Nat) (hs : ∀ b ∈ bs, ByteSpelling pf spell b)
    (hb : ∀ b ∈ bs, b ≤ 255) (hne : bs ≠ []) (acc : List Nat) :
    byteNumLoop pf ⟨[], acc⟩ (joinSpaces (bs.map spell) ++ [' ']) = .ok ⟨[], bs.reverse ++ acc⟩ := by
  induction bs generalizing acc with
  | nil => exact absurd rfl hne
  | cons b bs ih =>
    have hsb := hs b (by simp)
    have hbb := hb b (by simp)
    have step : ∀ tail, byteNumLoop pf ⟨[], acc⟩ (spell b ++ ' ' :: tail) = byteNumLoop pf ⟨[], b :: acc⟩ tail := by
      intro tail
      rw [byteNumLoop_digits pf (spell b) (fun c hc => (hsb.chars c hc).1)]
      rw [byteNumLoop_space pf _ acc tail b hbb (by simpa using hsb.ne) (by simpa using hsb.value)]
    cases bs with
    | nil =>
      simp only [List.map, joinSpaces]
      rw [step]; simp [byteNumLoop]
    | cons b2 bs2 =>
      simp only [List.map, joinSpaces, List.append_assoc, List.cons_append]
      rw [step]
      have := ih (fun x hx => hs x (by simp [hx])) (fun x hx => hb x (by simp [hx])) (by simp) (b :: acc)
      simp only [List.map] at this
      rw [this]; simp

theorem parseByteListNumbers_entries (spell : Nat → List Char) (bs : List Nat)
    (hs : ∀ b ∈ bs, ByteSpelling pf spell b) (hb : ∀ b ∈ bs, b ≤ 255) (hne : bs ≠ []) :
    parseByteListNumbers pf (joinSpaces (bs.map spell)) = .ok bs := by
  unfold parseByteListNumbers
  rw [byteNumLoop_entries pf spell bs hs hb hne []]
  simp [Outcome.bind]

end

section
variable {F : Type} (pf : List Char → Option F)

theorem joinSpaces_mem (xs : List (List Char)) (c : Char) (h : c ∈ joinSpaces xs) : c = ' ' ∨ ∃ x ∈ xs, c ∈ x := by
  induction xs with
  | nil => simp [joinSpaces] at h
  | cons x rest ih =>
    cases rest with
    | nil => exact Or.inr ⟨x, by simp, by simpa [joinSpaces] using h⟩
    | cons y r =>
      simp only [joinSpaces, List.mem_append, List.mem_cons] at h
      rcases h with h | h | h
      · exact Or.inr ⟨x, by simp, h⟩
      · exact Or.inl h
      · rcases ih h with h | ⟨z, hz, hc⟩
        · exact Or.inl h
        · exact Or.inr ⟨z, by simp [hz], hc⟩

theorem joinSpaces_head (x : List Char) (rest : List (List Char)) (hx : x ≠ []) :
    (joinSpaces (x :: rest)).head? = x.head? := by
  cases x with
  | nil => exact absurd rfl hx
  | cons c cs => cases rest <;> simp [joinSpaces]

theorem parseByteList_numericWith (spell : Nat → List Char) (q : Nat) (hq : 2 ≤ q) (bs : List Nat)
    (hs : ∀ b ∈ bs, ByteSpelling pf spell b) (hb : ∀ b ∈ bs, b ≤ 255) :
    parseByteList pf (spellBytesNumericWith spell q bs) = .ok bs := by
  unfold spellBytesNumericWith
  cases bs with
  | nil => exact parseByteList_quote_nil pf q
  | cons b rest =>
    have hsb := hs b (by simp)
    obtain ⟨c, cs, hsp⟩ := List.exists_cons_of_ne_nil hsb.ne
    have hj : (joinSpaces (spell b :: rest.map spell)).head? = some c := by
      rw [joinSpaces_head _ _ hsb.ne, hsp]; rfl
    rw [List.map, parseByteList_quote pf q _ (by rw [hj]; simpa using (hsb.chars c (by simp [hsp])).2.2),
      if_neg (fun e => by rw [e] at hj; cases hj), if_pos hq]
    exact parseByteListNumbers_entries pf spell (b :: rest) hs hb (by simp)

theorem byteSpelling_decimal (b : Nat) (hb : b ≤ 255) : ByteSpelling pf (spellNat 10) b where
  ne := spellNat_ne_nil 10 b
  chars := by
    intro c hc
    exact spellNat_chars 10 b (by omega)
      (fun c => (Garnish.Gen.CharRanges.isAlphanumeric c = true ∨ c = '_') ∧ c.toNat < 128 ∧ c ≠ '\'')
      (fun d hd => ⟨Or.inl (isAlphanumeric_digitChar d hd), by rw [digitChar_toNat d (by omega)]; split <;> omega,
        digitChar_ne d (by omega) '\'' (by decide)⟩) c hc
  value := by
    unfold parseSimpleNumber
    exact parseNumberInternal_spellNat pf 10 b (by omega) (by omega) (by omega)

end

theorem foldl_dstep_none (r : Nat) (cs : List Char) : cs.foldl (dstep r) none = none := by
  induction cs with
  | nil => rfl
  | cons c cs ih => simpa [List.foldl, dstep] using ih

theorem foldl_dstep_bad (r : Nat) (cs : List Char) (x : Char) (hx : x ∈ cs) (hbad : toDigit x r = none)
    (a : Option Nat) : cs.foldl (dstep r) a = none := by
  induction cs generalizing a with
  | nil => simp at hx
  | cons c cs ih =>
    simp only [List.foldl]
    rcases List.mem_cons.mp hx with e | h
    · subst e
      have : dstep r a x = none := by cases a <;> simp [dstep, hbad]
      rw [this, foldl_dstep_none]
    · exact ih h _

theorem digitsValue_bad (r : Nat) (cs : List Char) (x : Char) (hx : x ∈ cs) (hbad : toDigit x r = none) :
    digitsValue r cs = none := by
  cases cs with
  | nil => rfl
  | cons c cs => rw [digitsValue_cons]; exact foldl_dstep_bad r _ x hx hbad _

section
variable {F : Type} (pf : List Char → Option F)

theorem parse_fraction (d : Nat) (hd : d < 10) (rest : List Char) (hdot : '.' ∈ rest)
    (hpre : d ≠ 0 ∨ '_' ∉ rest) :
    parseSimpleNumber pf (digitChar d :: rest) =
      match pf ((digitChar d :: rest).filter (· != '_')) with
      | some f => .ok (.float f)
      | none => .err .data := by
  unfold parseSimpleNumber
  rw [parseNumberInternal_eq]
  have hsplit : radixSplit (digitChar d :: rest) 10 = .ok (10, digitChar d :: rest) := by
    rcases hpre with h | h
    · exact radixSplit_plain _ _ _ (digitChar_ne_zero d (by omega) (by omega))
    · apply radixSplit_noSplit
      apply splitAtUnderscore_none
      intro hm
      rcases List.mem_cons.mp hm with e | e
      · exact digitChar_ne d (by omega) '_' (by decide) e.symm
      · exact h e
  rw [hsplit]
  simp only [Outcome.bind, readDigits]
  have hu : digitChar d ≠ '_' := digitChar_ne d (by omega) '_' (by decide)
  have hf : (digitChar d :: rest).filter (· != '_') = digitChar d :: rest.filter (· != '_') := by
    simp [List.filter_cons, hu]
  rw [hf, i32FromStrRadix_head _ _ _ (digitChar_ne d (by omega) '+' (by decide)) (digitChar_ne d (by omega) '-' (by decide))]
  have : digitsValue 10 (digitChar d :: rest.filter (· != '_')) = none := by
    apply digitsValue_bad 10 _ '.' _ (by decide)
    simp [List.mem_filter, hdot]
  simp only [this]
  cases pf (digitChar d :: List.filter (fun x => x != '_') rest) <;> rfl

end

theorem dropWhile_of_head_ne (c : Char) (s : List Char) (h : s.head? ≠ some c) : s.dropWhile (· == c) = s := by
  cases s with
  | nil => rfl
  | cons x xs =>
    have : x ≠ c := by simpa using h
    have hb : (x == c) = false := by simpa using this
    simp [List.dropWhile, hb]

theorem trimMatches_id (c : Char) (s : List Char) (h1 : s.head? ≠ some c) (h2 : s.getLast? ≠ some c) :
    trimMatches c s = s := by
  unfold trimMatches
  rw [dropWhile_of_head_ne c s h1, dropWhile_of_head_ne c s.reverse (by simpa using h2), List.reverse_reverse]

open Garnish.Model.Lexer (Lexer armCharList)

theorem escapeChar_no_quote (q : Nat) (c : Char) (hc : c ≠ '"') : '"' ∉ escapeChar q c := by
  unfold escapeChar
  split; · decide
  split; · decide
  split; · decide
  split; · decide
  · simp; exact fun e => hc e.symm

theorem escapeCharsU_no_quote (q : Nat) (cs : List Char) : '"' ∉ escapeCharsU q cs := by
  induction cs with
  | nil => simp [escapeCharsU]
  | cons c cs ih =>
    simp only [escapeCharsU, List.flatMap_cons, List.mem_append, not_or]
    refine ⟨?_, ih⟩
    unfold escapeCharU
    by_cases h : c = '"'
    · subst h; simp only [if_true]; decide
    · simp only [h, if_false]; exact escapeChar_no_quote q c h

/-- the lexer's `CharList` arm fed character by character until it asks for a new token (`start_new`):
the lexer at that point and the unconsumed input -/
def feedCharList (self : Lexer) : List Char → Option (Lexer × List Char)
  | [] => none
  | c :: rest =>
    let p := armCharList self c
    if p.2 then some (p.1, rest) else feedCharList p.1 rest

theorem armCharList_quote_more (self : Lexer) (h : ¬ self.startQuoteCount = self.endQuoteCount + 1) :
    (armCharList self '"').2 = false ∧ (armCharList self '"').1.startQuoteCount = self.startQuoteCount ∧
    (armCharList self '"').1.endQuoteCount = self.endQuoteCount + 1 ∧
    (armCharList self '"').1.currentCharacters = self.currentCharacters ++ ['"'] := by
  simp [armCharList, h, Garnish.Model.Lexer.push]

theorem armCharList_quote_last (self : Lexer) (h : self.startQuoteCount = self.endQuoteCount + 1) :
    (armCharList self '"').2 = true ∧
    (armCharList self '"').1.currentCharacters = self.currentCharacters ++ ['"'] := by
  simp [armCharList, h, Garnish.Model.Lexer.push]

theorem armCharList_other (self : Lexer) (c : Char) (hc : c ≠ '"') :
    (armCharList self c).2 = false ∧ (armCharList self c).1.startQuoteCount = self.startQuoteCount ∧
    (armCharList self c).1.endQuoteCount = 0 ∧
    (armCharList self c).1.currentCharacters = self.currentCharacters ++ [c] := by
  simp [armCharList, hc, Garnish.Model.Lexer.push]

theorem feedCharList_quotes (q : Nat) (rest : List Char) : ∀ (k : Nat) (self : Lexer),
    self.startQuoteCount = q → self.endQuoteCount + k = q → 0 < k →
    ∃ s, feedCharList self (List.replicate k '"' ++ rest) = some (s, rest) ∧
      s.currentCharacters = self.currentCharacters ++ List.replicate k '"' := by
  intro k
  induction k with
  | zero => intro self _ _ h; omega
  | succ k ih =>
    intro self hs he _
    by_cases hk : k = 0
    · subst hk
      obtain ⟨h1, h2⟩ := armCharList_quote_last self (by omega)
      exact ⟨(armCharList self '"').1, by simp [feedCharList, h1], by simpa using h2⟩
    · obtain ⟨h1, h2, h3, h4⟩ := armCharList_quote_more self (by omega)
      obtain ⟨s, g1, g2⟩ := ih (armCharList self '"').1 (by omega) (by omega) (by omega)
      refine ⟨s, ?_, ?_⟩
      · simp only [List.replicate_succ, List.cons_append, feedCharList, h1]
        simpa using g1
      · rw [g2, h4]; simp [List.replicate_succ]

/-- A body without any quote character followed by the `q` closing quotes is consumed by the lexer's `CharList` state as
ONE token text: the arm does not close early and closes exactly at the last quote. -/
theorem feedCharList_body (q : Nat) (hq : 0 < q) (body rest : List Char) (hb : '"' ∉ body) (self : Lexer)
    (hs : self.startQuoteCount = q) (he : body = [] → self.endQuoteCount = 0) :
    ∃ s, feedCharList self (body ++ List.replicate q '"' ++ rest) = some (s, rest) ∧
      s.currentCharacters = self.currentCharacters ++ body ++ List.replicate q '"' := by
  induction body generalizing self with
  | nil =>
    obtain ⟨s, h1, h2⟩ := feedCharList_quotes q rest q self hs (by rw [he rfl]; omega) hq
    exact ⟨s, by simpa using h1, by simpa using h2⟩
  | cons c body ih =>
    have hc : c ≠ '"' := fun e => hb (by simp [e])
    obtain ⟨h1, h2, h3, h4⟩ := armCharList_other self c hc
    obtain ⟨s, g1, g2⟩ := ih (fun e => hb (by simp [e])) (armCharList self c).1 (by omega) (fun _ => h3)
    refine ⟨s, ?_, ?_⟩
    · simp only [List.cons_append, feedCharList, h1]
      simpa using g1
    · rw [g2, h4]; simp

end Garnish.Lemmas.Literals
