/-
The last instruction of the main line of an expression (what `build`'s "append the terminator unless the
last instruction already equals it" looks at) is never `EndExpression`, so no terminator is ever skipped.
-/
import Garnish.Lemmas.CompileRestart
namespace Garnish.Abs
open Garnish Gen Garnish.Spec

variable {F : Type}

/-- the main line of a non-empty sequence of arms ends with the `JumpIf` of the last arm -/
theorem lastArm (P : Prog F) (root cur join : Nat) : ∀ (arms : List (Bool × Expr F × Expr F)) (pc : Nat), arms ≠ [] →
    LocatedArms P root cur join pc arms → ∃ b j, P.instrs[pc + lenArms arms - 1]? = some (jumpIf b, some j)
  | [], _, h, _ => absurd rfl h
  | (onTrue, c, t) :: rest, pc, _, h => by
    simp only [LocatedArms] at h
    obtain ⟨_, ⟨j, tb, hi, _⟩, hr⟩ := h
    cases rest with
    | nil => exact ⟨onTrue, j, by simpa [lenArms] using hi⟩
    | cons a rest' =>
      obtain ⟨b, j', hi'⟩ := lastArm P root cur join (a :: rest') (pc + len c + 1) (by simp) hr
      refine ⟨b, j', ?_⟩
      have : pc + lenArms ((onTrue, c, t) :: a :: rest') - 1 = pc + len c + 1 + lenArms (a :: rest') - 1 := by
        simp only [lenArms]; omega
      rw [this]; exact hi'

/-- `n` is the offset of the last instruction of the main line -/
theorem last_cases (P : Prog F) (root cur : Nat) : ∀ (e : Expr F) (pc : Nat),
    Located P root cur pc e → wfC e = true →
    ∃ i d n, len e = n + 1 ∧ P.instrs[pc + n]? = some (i, d) ∧ i ≠ .endExpression
  | .lit v, pc, h, _ => by
    unfold Located at h; obtain ⟨k, hi, _⟩ := h
    exact ⟨.put, some k, 0, rfl, hi, Instruction.noConfusion⟩
  | .input, pc, h, _ => by
    unfold Located at h
    exact ⟨.putValue, none, 0, rfl, h, Instruction.noConfusion⟩
  | .ident sym, pc, h, _ => by
    unfold Located at h; obtain ⟨k, hi, _⟩ := h
    exact ⟨.resolve, some k, 0, rfl, hi, Instruction.noConfusion⟩
  | .nested id, pc, h, _ => by
    unfold Located at h; obtain ⟨k, hi, _⟩ := h
    exact ⟨.put, some k, 0, rfl, hi, Instruction.noConfusion⟩
  | .emptyNested, pc, h, _ => by
    unfold Located at h; obtain ⟨k, hi, _⟩ := h
    exact ⟨.put, some k, 0, rfl, hi, Instruction.noConfusion⟩
  | .unary op x, pc, h, hw => by
    unfold Located at h
    simp only [wfC, Bool.and_eq_true] at hw
    exact ⟨op, none, len x, rfl, h.2, fun e => by rw [e] at hw; cases hw.1⟩
  | .binary op l r, pc, h, hw => by
    unfold Located at h
    simp only [wfC, Bool.and_eq_true] at hw
    exact ⟨op, none, len l + len r, rfl, (Nat.add_assoc ..).symm ▸ h.2.2, fun e => by rw [e] at hw; cases hw.1.1⟩
  | .pair l r, pc, h, _ => by
    unfold Located at h
    exact ⟨.makePair, none, len r + len l, congrArg (· + 1) (Nat.add_comm ..), (Nat.add_assoc ..).symm ▸ h.2.2,
      Instruction.noConfusion⟩
  | .applyTo x f, pc, h, _ => by
    unfold Located at h
    exact ⟨.apply, none, len f + len x, congrArg (· + 1) (Nat.add_comm ..), (Nat.add_assoc ..).symm ▸ h.2.2,
      Instruction.noConfusion⟩
  | .list items, pc, h, _ => by
    unfold Located at h
    exact ⟨.makeList, some items.length, lenList items, rfl, h.2, Instruction.noConfusion⟩
  | .cond onTrue c t, pc, h, _ => by
    unfold Located at h
    obtain ⟨_, j, join, tb, _, h2, _⟩ := h
    exact ⟨.putValue, none, len c + 1, rfl, h2, Instruction.noConfusion⟩
  | .chain arms none, pc, h, _ => by
    rw [Located_chain] at h
    obtain ⟨join, hla, hfin, _⟩ := h
    cases arms with
    | nil => exact ⟨.putValue, none, 0, by rw [len_chain]; rfl, hfin, Instruction.noConfusion⟩
    | cons a rest =>
      obtain ⟨b, j, hi⟩ := lastArm P root cur join (a :: rest) pc (by simp) hla
      have hpos : 0 < lenArms (a :: rest) := by obtain ⟨_, c, _⟩ := a; simp only [lenArms]; omega
      refine ⟨jumpIf b, some j, lenArms (a :: rest) - 1, by rw [len_chain]; simp only; omega, ?_, ?_⟩
      · rw [← Nat.add_sub_assoc hpos]; exact hi
      · cases b <;> exact Instruction.noConfusion
  | .chain arms (some fe), pc, h, hw => by
    rw [Located_chain] at h
    simp only [wfC_chain, Bool.and_eq_true] at hw
    obtain ⟨join, _, hfe, _⟩ := h
    obtain ⟨i, d, n, hn, hi, hc⟩ := last_cases P root cur fe (pc + lenArms arms) hfe hw.2
    exact ⟨i, d, lenArms arms + n, by rw [len_chain]; simp only [hn]; rfl, (Nat.add_assoc ..).symm ▸ hi, hc⟩
  | .and l r, pc, h, _ => by
    unfold Located at h
    obtain ⟨_, j, join, tb, h1, _⟩ := h
    exact ⟨.and, some j, len l, rfl, h1, Instruction.noConfusion⟩
  | .or l r, pc, h, _ => by
    unfold Located at h
    obtain ⟨_, j, join, tb, h1, _⟩ := h
    exact ⟨.or, some j, len l, rfl, h1, Instruction.noConfusion⟩
  | .seq a b, pc, h, hw => by
    unfold Located at h
    simp only [wfC, Bool.and_eq_true] at hw
    obtain ⟨i, d, n, hn, hi, hc⟩ := last_cases P root cur b (pc + len a + 1) h.2.2 hw.2
    exact ⟨i, d, len a + 1 + n, by simp only [len, hn]; rfl, by rw [← Nat.add_assoc, ← Nat.add_assoc]; exact hi, hc⟩
  | .sideAfter x b, pc, h, _ => by
    unfold Located at h
    exact ⟨.endSideEffect, none, len x + 1 + len b, rfl,
      by rw [← Nat.add_assoc, ← Nat.add_assoc]; exact h.2.2.2, Instruction.noConfusion⟩
  | .reapply x, pc, h, _ => by
    unfold Located at h
    exact ⟨.jumpTo, some cur, len x + 1, rfl, h.2.2, Instruction.noConfusion⟩
  | .prefixApply sym x, pc, h, _ => by
    unfold Located at h
    exact ⟨.apply, none, 1 + len x, rfl, (Nat.add_assoc ..).symm ▸ h.2.2, Instruction.noConfusion⟩
  | .suffixApply x sym, pc, h, _ => by
    unfold Located at h
    exact ⟨.apply, none, 1 + len x, rfl, (Nat.add_assoc ..).symm ▸ h.2.2, Instruction.noConfusion⟩
  | .infixApply a sym b, pc, h, _ => by
    unfold Located at h
    exact ⟨.apply, none, 1 + len a + len b + 1, rfl,
      by rw [← Nat.add_assoc, ← Nat.add_assoc, ← Nat.add_assoc]; exact h.2.2.2.2, Instruction.noConfusion⟩

theorem last_not_end {P : Prog F} {root cur pc : Nat} {e : Expr F} (h : Located P root cur pc e) (hw : wfC e = true) :
    ∃ i d, P.instrs[pc + len e - 1]? = some (i, d) ∧ i ≠ .endExpression := by
  obtain ⟨i, d, n, hn, hi, hc⟩ := last_cases P root cur e pc h hw
  exact ⟨i, d, by rw [hn]; exact hi, hc⟩

/-- only an `EndExpression` terminator can be skipped -/
theorem termsAfter_jump {P : Prog F} {pcEnd join : Nat} :
    termsAfter P pcEnd [(.jumpTo, some join)] = [(.jumpTo, some join)] := by
  simp [termsAfter]

theorem termsAfter_tis {P : Prog F} {pcEnd join : Nat} :
    termsAfter P pcEnd [(.tis, none), (.jumpTo, some join)] = [(.tis, none), (.jumpTo, some join)] := by
  simp [termsAfter]

theorem termsAfter_end {P : Prog F} {root cur pc : Nat} {e : Expr F}
    (h : Located P root cur pc e) (hw : wfC e = true) :
    termsAfter P (pc + len e) [(.endExpression, none)] = [(.endExpression, none)] := by
  obtain ⟨i, d, hi, hc⟩ := last_not_end h hw
  simp only [termsAfter, List.filter, hi]
  have : ¬ ((i, d) = (Instruction.endExpression, (none : Option Nat))) := by
    intro heq
    simp only [Prod.mk.injEq] at heq
    exact hc heq.1
  simp [this]

end Garnish.Abs
