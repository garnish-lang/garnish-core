/-
Relocation of a built program along an address map: `relocBy ρ C P` keeps instructions and jump table, maps the
constant operands of `Put` / `Resolve` by `ρ` and takes `C` as the constant table. If `C` holds at `ρ k` what `P`
holds at `k` (`ConstsAgree`), the value-level machine does not see it (`step_relocBy`, `run_relocBy`).
`reloc P` is the instance for a `SimpleGarnishData`, whose data list starts with Unit, False, True: the constants come
after them, `ρ k = k + 3`. On a real data object equal constants share a cell and `()` / `$!` / `$?` are the
preallocated cells 0 / 1 / 2, so the builder's map is in general not injective and not `k + 3`
(Props/C01BuilderAddresses.lean): `relocBy` with the map the data object produced covers that.
-/
import Garnish.Abs.Machine
namespace Garnish.Lemmas.Runtime.On
open Garnish Gen Garnish.Abs

variable {F : Type}

/-- constant operands moved past the three preallocated cells of `SimpleGarnishData` -/
def relocI : Instruction × Option Nat → Instruction × Option Nat
  | (.put, some k) => (.put, some (k + 3))
  | (.resolve, some k) => (.resolve, some (k + 3))
  | p => p

/-- the program as it sits in a `SimpleGarnishData`: Unit, False, True at 0, 1, 2, the constants after them -/
def reloc (P : Prog F) : Prog F :=
  { instrs := (P.instrs.toList.map relocI).toArray, jumps := P.jumps,
    consts := (.unit :: .fls :: .tru :: P.consts.toList).toArray }

theorem reloc_const (P : Prog F) (k : Nat) : (reloc P).consts[k + 3]? = P.consts[k]? := by
  simp [reloc]

def relocByI (ρ : Nat → Nat) : Instruction × Option Nat → Instruction × Option Nat
  | (.put, some k) => (.put, some (ρ k))
  | (.resolve, some k) => (.resolve, some (ρ k))
  | p => p

def relocBy (ρ : Nat → Nat) (C : Array (Val F)) (P : Prog F) : Prog F :=
  { instrs := (P.instrs.toList.map (relocByI ρ)).toArray, jumps := P.jumps, consts := C }

/-- the new table holds at `ρ k` exactly what the old one holds at `k` (nothing where the old one has nothing) -/
def ConstsAgree (ρ : Nat → Nat) (C : Array (Val F)) (P : Prog F) : Prop := ∀ k, C[ρ k]? = P.consts[k]?

variable {ρ : Nat → Nat} {C : Array (Val F)} {P : Prog F}

theorem relocBy_size : (relocBy ρ C P).instrs.size = P.instrs.size := by simp [relocBy]

theorem finish_relocBy (r : Except ErrClass (MState F × Nat)) : finish (relocBy ρ C P) r = finish P r := by
  unfold finish; rw [relocBy_size]

theorem seqNext_relocBy (s : MState F) (r : Except ErrClass (MState F)) :
    seqNext (relocBy ρ C P) s r = seqNext P s r := by
  unfold seqNext; cases r <;> simp only [finish_relocBy]

theorem jumpTarget_relocBy (j : Nat) : jumpTarget (relocBy ρ C P) j = jumpTarget P j := rfl

variable (fo : FloatOps F) (host : Host F)

theorem applyStep_relocBy (s : MState F) (instr : Instruction) (b : Bool) (l r : Val F) :
    applyStep fo host (relocBy ρ C P) s instr b l r = applyStep fo host P s instr b l r := by
  unfold applyStep; simp only [jumpTarget_relocBy]

theorem step_relocBy (h : ConstsAgree ρ C P) (m : MState F) :
    Abs.step fo host (relocBy ρ C P) m = Abs.step fo host P m := by
  have hfetch : (relocBy ρ C P).instrs[m.pc]? = (P.instrs[m.pc]?).map (relocByI ρ) := by simp [relocBy]
  have hc : ∀ k, (relocBy ρ C P).consts[ρ k]? = P.consts[k]? := h
  unfold Abs.step
  rw [hfetch]
  cases hp : P.instrs[m.pc]? with
  | none => rfl
  | some p =>
    obtain ⟨instr, operand⟩ := p
    simp only [Option.map, finish_relocBy, seqNext_relocBy, jumpTarget_relocBy, applyStep_relocBy, relocBy_size]
    -- only `Put` and `Resolve` with an operand are touched by the relocation
    cases instr <;> first | rfl | (cases operand <;> simp only [relocByI, hc])

theorem run_relocBy (h : ConstsAgree ρ C P) :
    ∀ (n : Nat) (m : MState F), Abs.run fo host (relocBy ρ C P) n m = Abs.run fo host P n m
  | 0, _ => rfl
  | n + 1, m => by
    rw [Abs.run, Abs.run, step_relocBy fo host h]
    cases Abs.step fo host P m <;> simp only [run_relocBy h n]

theorem reloc_eq_relocBy (P : Prog F) :
    reloc P = relocBy (· + 3) (.unit :: .fls :: .tru :: P.consts.toList).toArray P := by
  simp only [reloc, relocBy]
  have : (relocI : Instruction × Option Nat → _) = relocByI (· + 3) := by
    funext p
    obtain ⟨i, o⟩ := p
    cases i <;> cases o <;> rfl
  rw [this]

theorem reloc_constsAgree (P : Prog F) :
    ConstsAgree (· + 3) (.unit :: .fls :: .tru :: P.consts.toList).toArray P := by
  intro k; simp

theorem step_reloc (P : Prog F) (m : MState F) : Abs.step fo host (reloc P) m = Abs.step fo host P m := by
  rw [reloc_eq_relocBy]; exact step_relocBy fo host (reloc_constsAgree P) m

theorem run_reloc (P : Prog F) : ∀ (n : Nat) (m : MState F), Abs.run fo host (reloc P) n m = Abs.run fo host P n m := by
  rw [reloc_eq_relocBy]; exact run_relocBy fo host (reloc_constsAgree P)

theorem jumpTarget_reloc (P : Prog F) (j : Nat) : jumpTarget (reloc P) j = jumpTarget P j := rfl

end Garnish.Lemmas.Runtime.On
