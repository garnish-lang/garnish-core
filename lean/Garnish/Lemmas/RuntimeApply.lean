/-
Refinement lemmas for apply.rs, part 1: the arms of `apply_internal` by type pair (`applyArm`), the common prefix,
the `External` arm (host `apply` protocol), the catch-all (defer protocol), `narrow_range`.
-/
import Garnish.Lemmas.RuntimeAccessHandler
import Garnish.Model.Runtime.Apply
namespace Garnish.Lemmas.Runtime
open Garnish Gen Garnish.Abs Garnish.Model.Equality Garnish.Model.Runtime

variable {F σ : Type} {S : RStore F σ} (fo : FloatOps F)

theorem applyMatch_defer (fuel : Nat) (instr : Instruction) (ur : Bool) (l r next : Nat) (tl tr : Ty)
    (h : applyArm tl tr = .defer) :
    applyMatch fo S fuel instr ur l r next tl tr = (do deferOrUnit S instr (tl, l) (tr, r); pure next) := by
  unfold applyMatch
  split <;> first | (cases h; done) | rfl

theorem applyMatch_external (fuel : Nat) (instr : Instruction) (ur : Bool) (l r next : Nat) (tr : Ty) :
    applyMatch fo S fuel instr ur l r next .external tr = (do
      let externalValue ← getExternal S l
      match ← S.apply externalValue r with
      | true => pure ()
      | false => pushUnit S
      pure next) := by
  cases tr <;> rfl

theorem getExternal_of {s : σ} {a n : Nat} (h : Decodes (S.view s) a (.ext n)) : getExternal S a s = .ok (n, s) := by
  cases h with
  | ext _ hn => simp [getExternal, RM.lift, hn, fetch, Outcome.ofOption, Outcome.bind]

theorem range_of {s : σ} {a : Nat} {vs ve : Val F} (h : Decodes (S.view s) a (.range vs ve)) :
    ∃ x y, (S.view s).range a = some (x, y) ∧ Decodes (S.view s) x vs ∧ Decodes (S.view s) y ve := by
  cases h with
  | range _ hr ds de => exact ⟨_, _, hr, ds, de⟩

namespace Core
open On

variable {Inv : σ → Prop} {Rd : σ → Nat → Prop} {K : Prop}

/-- the prefix of `apply_internal`: both operands popped, the types read; what remains is `applyMatch` -/
theorem applyInternal_prefix (L : LawsK S Inv Rd K) (fuel : Nat) (instr : Instruction) (ur : Bool)
    {s : σ} {r l : Nat} {vr vl : Val F} {rest : List Nat}
    (hregs : S.regs s = r :: l :: rest) (hl : Decodes (S.view s) l vl) (hr : Decodes (S.view s) r vr)
    (hinv : Inv s := by inv_tac) (hdp : DeepK K S s rest := by deep_tac) :
    ∃ s0, EffI S Inv s s0 rest (S.vals s) ∧ Decodes (S.view s0) l vl ∧ Decodes (S.view s0) r vr ∧
      applyInternal fo S fuel instr ur s =
        (applyMatch fo S fuel instr ur l r (S.cursor s + 1) vl.typeOf vr.typeOf >>= fun n => pure (some n)) s0 := by
  obtain ⟨s1, h1, e1⟩ := nextRef_cons L hregs
  obtain ⟨s0, h2, e2⟩ := nextRef_cons L e1.regs
  rw [e1.vals] at e2
  have e0 := e1.trans e2
  refine ⟨s0, e0, e0.dec hl, e0.dec hr, ?_⟩
  rw [applyInternal, bind_ok h1, bind_ok h2, bind_ok (read_apply S.cursor s0), e0.keeps.cur,
    bind_ok (getDataType_of (e0.dec hl)), bind_ok (getDataType_of (e0.dec hr))]

/-- the `External` arm (C17): the host's `apply` is asked exactly once with the external's value and the address of
the argument; unit iff it declines; execution continues at `cursor + 1` -/
theorem apply_external_spec (L : LawsK S Inv Rd K) (fuel : Nat) (instr : Instruction) (ur : Bool)
    {s : σ} {r l n : Nat} {vr : Val F} {rest : List Nat}
    (hregs : S.regs s = r :: l :: rest) (hl : Decodes (S.view s) l (.ext n)) (hr : Decodes (S.view s) r vr)
    (hinv : Inv s := by inv_tac) (hdp : DeepK K S s rest := by deep_tac) :
    ∃ s0, EffI S Inv s s0 rest (S.vals s) ∧
      ApplyProtocolI S Inv s0 (applyInternal fo S fuel instr ur s) (some (S.cursor s + 1)) n r := by
  obtain ⟨s0, e0, hl0, hr0, hp⟩ := applyInternal_prefix fo L fuel instr ur hregs hl hr
  refine ⟨s0, e0, ?_⟩
  rw [hp]
  simp only [Val.typeOf]
  rw [applyMatch_external, bind_apply, bind_ok (getExternal_of hl0)]
  unfold ApplyProtocolI
  cases ha : S.apply n r s0 with
  | ok p =>
    obtain ⟨b, s1⟩ := p
    cases b with
    | true => simp only []; rw [bind_ok ha]; rfl
    | false =>
      simp only []
      intro hi1
      obtain ⟨a, s2, h2, d2, e2⟩ := pushUnit_spec L s1
      refine ⟨a, s2, ?_, d2, e2⟩
      rw [bind_ok ha]
      simp only []
      rw [bind_ok h2]; rfl
  | err e => simp only []; rw [bind_err ha]
  | panic p => simp only []; rw [bind_apply, ha]
  | fuelOut => simp only []; rw [bind_apply, ha]

theorem apply_defer_spec (L : LawsK S Inv Rd K) (fuel : Nat) (instr : Instruction) (ur : Bool)
    {s : σ} {r l : Nat} {vr vl : Val F} {rest : List Nat}
    (hregs : S.regs s = r :: l :: rest) (hl : Decodes (S.view s) l vl) (hr : Decodes (S.view s) r vr)
    (harm : applyArm vl.typeOf vr.typeOf = .defer)
    (hinv : Inv s := by inv_tac) (hdp : DeepK K S s rest := by deep_tac) :
    RefinesOutI S Inv s (applyInternal fo S fuel instr ur s) (some (S.cursor s + 1)) rest l r (.defer instr vl vr) := by
  obtain ⟨s0, e0, hl0, hr0, hp⟩ := applyInternal_prefix fo L fuel instr ur hregs hl hr
  refine ⟨s0, e0, ?_⟩
  rw [hp, applyMatch_defer fo fuel instr ur l r _ _ _ harm]
  have := deferOrUnit_spec L s0 instr (vl.typeOf, l) (vr.typeOf, r) (some (S.cursor s + 1))
  -- the handler has one more `pure` in the chain
  have heq : ∀ (x : RM σ Unit) (n : Nat),
      ((do x; pure n) >>= fun n => pure (some n)) s0 = (x >>= fun _ => pure (some n)) s0 := by
    intro x n
    rw [bind_apply, bind_apply, bind_apply]; cases x s0 <;> rfl
  rw [heq]; exact this

theorem narrowRange_spec (L : LawsK S Inv Rd K) {s : σ} {tn by_ : Nat} {os oe bs be : Val F}
    (ht : Decodes (S.view s) tn (.range os oe)) (hb : Decodes (S.view s) by_ (.range bs be))
    (hinv : Inv s := by inv_tac) :
    match Abs.narrowRange fo (.range os oe) (.range bs be) with
    | .ok v => ∃ a s', Model.Runtime.narrowRange fo S tn by_ s = .ok (a, s') ∧ Decodes (S.view s') a v ∧
        EffI S Inv s s' (S.regs s) (S.vals s)
    | .error e => Model.Runtime.narrowRange fo S tn by_ s = .err e := by
  obtain ⟨ba, bb, hbr, dbs, dbe⟩ := range_of hb
  obtain ⟨oa, ob, hor, dos, doe⟩ := range_of ht
  rw [Model.Runtime.narrowRange, bind_ok (getRangeRaw_of hbr)]
  simp only []
  rw [bind_ok (getRangeRaw_of hor)]
  simp only []
  rw [bind_ok (getDataType_of dbs), bind_ok (getDataType_of dbe), bind_ok (getDataType_of dos)]
  by_cases hn : bs.typeOf = .number ∧ be.typeOf = .number ∧ os.typeOf = .number
  · obtain ⟨x, rfl⟩ := typeOf_number hn.1
    obtain ⟨y, rfl⟩ := typeOf_number hn.2.1
    obtain ⟨z, rfl⟩ := typeOf_number hn.2.2
    simp only [Val.typeOf, Abs.narrowRange]
    rw [bind_ok (getNumber_of dbs), bind_ok (getNumber_of dbe), bind_ok (getNumber_of dos)]
    cases h1 : Number.plus fo z x with
    | none => rfl
    | some ns =>
      cases h2 : Number.subtract fo y x with
      | none => rfl
      | some adj =>
        simp only []
        cases h3 : Number.plus fo ns adj with
        | none => rfl
        | some ne =>
          simp only []
          obtain ⟨a1, s1, g1, d1, e1⟩ := adds_i (L.addNumber ns s (by inv_tac))
          obtain ⟨a2, s2, g2, d2, e2⟩ := adds_i (L.addNumber ne s1 (by inv_tac))
          obtain ⟨a3, s3, g3, d3, e3⟩ := adds_i (L.addRange a1 a2 _ _ s2 (by inv_tac) (e2.dec d1) d2)
          rw [e1.regs, e1.vals] at e2
          rw [e2.regs, e2.vals] at e3
          exact ⟨a3, s3, by rw [bind_ok g1, bind_ok g2]; exact g3, d3, (e1.trans e2).trans e3⟩
  · have e1 : Abs.narrowRange fo (.range os oe) (.range bs be) = .error .state := by
      cases bs <;> first | rfl | (cases be <;> first | rfl | (cases os <;> first | rfl | exact absurd ⟨rfl, rfl, rfl⟩ hn))
    rw [e1]
    simp only []
    generalize bs.typeOf = t1 at hn ⊢
    generalize be.typeOf = t2 at hn ⊢
    generalize os.typeOf = t3 at hn ⊢
    cases t1
    case number =>
      cases t2
      case number =>
        cases t3
        case number => exact absurd ⟨rfl, rfl, rfl⟩ hn
        all_goals rfl
      all_goals rfl
    all_goals rfl

end Core

end Garnish.Lemmas.Runtime
