/-
`get_list_item_with_symbol` of `SimpleGarnishData` (Model/Runtime/SimpleStore.lean leaves it unmodelled: `err`).  The association
table of a `List` cell is a function of its items — `end_list` fills it by modulo placement (`Store.Lists.endListSimple`, property
C16) and nothing writes it afterwards — so the look-up is `lookupSimple` on the table recomputed from the items (`simListSym`).
`simpleRStoreA` is `simpleRStore` with that getter; it meets `StoreLawsOn`, which does not mention the getter (`withSym`).
`ListSymOn` (the FIRST item keyed by the symbol, for every list) is false of it: the probe starts at `sym % len`, so among equal
keys it answers in probe order.  On lists with pairwise different symbol keys (the hypothesis of C16) the contract holds
(`ListSymDistinctOn`), and the two lemmas of the refinement chain that consume `ListSymOn` have versions from that (`…_spec_distinct`).
-/
import Garnish.Props.RuntimeRefineSimpleOn
import Garnish.Props.C16
import Garnish.Lemmas.RuntimeRun
import Garnish.Props.C19StoreOn
namespace Garnish.Lemmas.Runtime.SimpleSym

section
open Garnish Gen Garnish.Model.Equality Garnish.Model.Runtime Garnish.Store.Lists Garnish.Lemmas.EqualityRefine

variable {F : Type}

/-- what the list code sees of a payload cell (`Store.Lists.SCell`); a list cell gets the EMPTY association table: `simListSym`
recomputes the table from the items -/
def sview (cells : List (SimCell F)) : SView := fun a =>
  match cells[a]? with
  | some (.pair l r) => some (.pair l r)
  | some (.sym s) => some (.sym s)
  | some (.list items) => some (.list items #[])
  | some (.concat l r) => some (.concat l r)
  | some _ => some .other
  | none => none

/-- `get_list_item_with_symbol`: the table `end_list` stored for these items, probed from `sym % len` -/
def simListSym (cells : List (SimCell F)) (a sym : Nat) : Outcome (Option Nat) :=
  match cells[a]? with
  | some (.list items) =>
    match endListSimple items with
    | .ok p => lookupSimple (sview cells) p.2 sym
    | .err e => .err e
    | .panic m => .panic m
    | .fuelOut => .fuelOut
  | _ => .err .data

def simpleRStoreA (hit : List (SimCell F) → SimCell F → Option Nat) (h : SimHost F) : RStore F (SimState F) :=
  { simpleRStore hit h with listItemWithSymbol := fun st a sym => simListSym st.cells a sym }

def DistinctKeys (vs : List (Val F)) : Prop :=
  vs.Pairwise (fun x y => ∀ k v k' v', x = .pair (.sym k) v → y = .pair (.sym k') v' → k ≠ k')

theorem ty_sym {c : SimCell F} (h : c.ty = .symbol) : ∃ s, c = .sym s := by
  cases c <;> first | exact ⟨_, rfl⟩ | cases h

theorem ty_pair {c : SimCell F} (h : c.ty = .pair) : ∃ l r, c = .pair l r := by
  cases c <;> first | exact ⟨_, _, rfl⟩ | cases h

theorem keyedValue_pair {cells : List (SimCell F)} {a l r : Nat} (hc : cells[a]? = some (.pair l r)) :
    keyedValue (sview cells) a =
      match cells[l]? with
      | none => .err .data
      | some (.sym k) => .ok (some (k, r))
      | some _ => .ok none := by
  simp only [keyedValue, sview, hc]
  generalize cells[l]? = o
  cases o with
  | none => rfl
  | some c' => cases c' <;> rfl

theorem keyedValue_other {cells : List (SimCell F)} {a : Nat} {c : SimCell F} (hc : cells[a]? = some c)
    (hn : c.ty ≠ .pair) : keyedValue (sview cells) a = .ok none := by
  cases c <;> first | exact absurd rfl hn | simp only [keyedValue, sview, hc]

theorem keyed_pair {cells : List (SimCell F)} {a k : Nat} {v : Val F}
    (h : Decodes (simView cells) a (.pair (.sym k) v)) :
    ∃ r, keyedValue (sview cells) a = .ok (some (k, r)) ∧ Decodes (simView cells) r v := by
  cases h with
  | @pair _ l r _ _ _ hp dl dr =>
    cases dl with
    | sym _ hs => exact ⟨r, by rw [keyedValue_pair (Simple.cell_of_pair hp), Simple.cell_of_symbol hs], dr⟩

theorem keyed_other {cells : List (SimCell F)} {a : Nat} {v : Val F} (h : Decodes (simView cells) a v)
    (hv : ∀ k v', v ≠ .pair (.sym k) v') : keyedValue (sview cells) a = .ok none := by
  obtain ⟨c, hc, hty⟩ := Simple.typeOf_inv (decodes_typeOf h)
  cases h with
  | @pair _ l r vl _ _ hp dl _ =>
    obtain ⟨c', hc', hty'⟩ := Simple.typeOf_inv (decodes_typeOf dl)
    rw [keyedValue_pair (Simple.cell_of_pair hp), hc']
    cases c' <;> try rfl
    cases dl with
    | sym => exact absurd rfl (hv _ _)
    | _ => cases hty'
  | _ => exact keyedValue_other hc (by rw [hty]; nofun)

theorem keyed_or_not (v : Val F) : (∃ k v', v = .pair (.sym k) v') ∨ (∀ k v', v ≠ .pair (.sym k) v') := by
  cases v with
  | pair l r =>
    cases l with
    | sym k => exact .inl ⟨k, r, rfl⟩
    | _ => exact .inr (by intro k v' h; cases h)
  | _ => exact .inr (by intro k v' h; cases h)

open Garnish.Props.C16 in
theorem keyOfS_of {cells : List (SimCell F)} {a : Nat} {v : Val F} (h : Decodes (simView cells) a v) :
    (∃ k v' r, v = .pair (.sym k) v' ∧ keyOfS (sview cells) a = some (k, r) ∧ Decodes (simView cells) r v') ∨
    ((∀ k v', v ≠ .pair (.sym k) v') ∧ keyOfS (sview cells) a = none) := by
  rcases keyed_or_not v with ⟨k, v', rfl⟩ | hv
  · obtain ⟨r, hr, d⟩ := keyed_pair h
    exact .inl ⟨k, v', r, rfl, by simp [keyOfS, hr], d⟩
  · exact .inr ⟨hv, by simp [keyOfS, keyed_other h hv]⟩

open Garnish.Props.C16 in
theorem readable_of {cells : List (SimCell F)} : ∀ {items : List Nat} {vs : List (Val F)},
    DecodesList (simView cells) items vs → ReadableS (sview cells) items
  | _, _, .nil => by intro a ha; cases ha
  | _, _, .cons (a := a) (v := v) h rest => by
    intro b hb
    rcases List.mem_cons.mp hb with rfl | hb
    · rcases keyed_or_not v with ⟨k, v', hv⟩ | hv
      · subst hv; obtain ⟨r, hr, _⟩ := keyed_pair h; exact ⟨_, hr⟩
      · exact ⟨_, keyed_other h hv⟩
    · exact readable_of rest b hb

open Garnish.Props.C16 in
theorem lookup_of {cells : List (SimCell F)} (s : Nat) : ∀ {items : List Nat} {vs : List (Val F)},
    DecodesList (simView cells) items vs →
    match Abs.lookupSym s vs with
    | some v => ∃ r, Spec.lookup (keyOfS (sview cells)) s items = some r ∧ Decodes (simView cells) r v
    | none => Spec.lookup (keyOfS (sview cells)) s items = none
  | _, _, .nil => by simp [Abs.lookupSym, Spec.lookup]
  | _, _, .cons (a := a) (as := as) (v := v) (vs := vs) h rest => by
    have ih := lookup_of s rest
    rcases keyOfS_of h with ⟨k, v', r, rfl, hk, d⟩ | ⟨hv, hk⟩
    · by_cases hks : k = s
      · subst hks
        simp only [Abs.lookupSym, beq_self_eq_true, if_true, Spec.lookup, hk, keyMatch]
        exact ⟨r, rfl, d⟩
      · have hb : (k == s) = false := by simpa using hks
        simp only [Abs.lookupSym, hb, Bool.false_eq_true, if_false, Spec.lookup, hk, keyMatch, hks]
        exact ih
    · have hn : keyedVal s v = none := by
        cases hkv : keyedVal s v with
        | none => rfl
        | some w => exact absurd (Abs.keyedVal_some hkv) (hv _ _)
      rw [Abs.lookupSym_eq_findSome, List.findSome?_cons, hn, ← Abs.lookupSym_eq_findSome]
      simp only [Spec.lookup, hk, keyMatch]
      exact ih

open Garnish.Props.C16 in
theorem distinct_of {cells : List (SimCell F)} : ∀ {items : List Nat} {vs : List (Val F)},
    DecodesList (simView cells) items vs → DistinctKeys vs → KeysDistinct (keyOfS (sview cells)) items
  | _, _, .nil => by intro _; exact List.Pairwise.nil
  | _, _, .cons (a := a) h rest => by
    intro hd
    have hd' := List.pairwise_cons.mp hd
    refine List.pairwise_cons.mpr ⟨?_, distinct_of rest hd'.2⟩
    intro b hb k r k' r' hka hkb
    obtain ⟨w, hw, dw⟩ := decodesList_mem rest b hb
    rcases keyOfS_of h with ⟨k0, v0, r0, rfl, hk0, _⟩ | ⟨_, hk0⟩
    · rcases keyOfS_of dw with ⟨k1, v1, r1, rfl, hk1, _⟩ | ⟨_, hk1⟩
      · rw [hk0] at hka; rw [hk1] at hkb
        cases hka; cases hkb
        exact hd'.1 _ hw _ _ _ _ rfl rfl
      · rw [hk1] at hkb; cases hkb
    · rw [hk0] at hka; cases hka

theorem simListSym_spec {cells : List (SimCell F)} {a : Nat} {items : List Nat} {vs : List (Val F)} (sym : Nat)
    (hi : (simView cells).listItems a = some items) (hd : DecodesList (simView cells) items vs)
    (hk : DistinctKeys vs) :
    match Abs.lookupSym sym vs with
    | some v => ∃ r, simListSym cells a sym = .ok (some r) ∧ Decodes (simView cells) r v
    | none => simListSym cells a sym = .ok none := by
  have ha := Simple.cell_of_listItems hi
  obtain ⟨o, ho, hl⟩ := Garnish.Props.C16.simple_lookup_distinct (sview cells) items sym (readable_of hd) (distinct_of hd hk)
  have hs : simListSym cells a sym = .ok (Spec.lookup (Garnish.Props.C16.keyOfS (sview cells)) sym items) := by
    simp only [simListSym, ha, ho, hl]
  have := lookup_of sym hd
  cases hv : Abs.lookupSym sym vs with
  | none => rw [hv] at this; simp only [hs, this]
  | some v =>
    rw [hv] at this
    obtain ⟨r, h1, h2⟩ := this
    exact ⟨r, by rw [hs, h1], h2⟩
end

section
open Garnish Gen Garnish.Model.Equality Garnish.Model.Runtime Garnish.Store.Lists Garnish.Lemmas.EqualityRefine
open Garnish.Lemmas.Runtime.Simple Garnish.Props.RuntimeRefine

variable {F σ : Type}

def withSym (S : RStore F σ) (g : σ → Nat → Nat → Outcome (Option Nat)) : RStore F σ :=
  { S with listItemWithSymbol := g }

section
variable {S : RStore F σ} {g : σ → Nat → Nat → Outcome (Option Nat)} {Inv : σ → Prop} {Rd : σ → Nat → Prop}

theorem lawsOn_withSym (L : StoreLawsOn S Inv Rd) : StoreLawsOn (withSym S g) Inv Rd :=
  L.noList.override g S.addToList S.endList L.addToList L.endList

end

variable {hit : List (SimCell F) → SimCell F → Option Nat} {h : SimHost F}

theorem simpleA_lawsOn (hs : HitSound hit) : StoreLawsOn (simpleRStoreA hit h) SInv SReadable :=
  lawsOn_withSym (C01_simpleStore_lawsOn (h := h) hs)
end

section
open Garnish Gen Garnish.Abs Garnish.Model.Equality Garnish.Model.Runtime Garnish.Store.Lists
open Garnish.Lemmas.EqualityRefine Garnish.Lemmas.Runtime Garnish.Lemmas.Runtime.On
open Garnish.Lemmas.Runtime.Simple Garnish.Props.RuntimeRefine

variable {F σ : Type}

/-- `ListSymOn` on the lists with pairwise different symbol keys -/
def ListSymDistinctOn (S : RStore F σ) (Inv : σ → Prop) : Prop :=
  ∀ s a items vs sym, Inv s → (S.view s).listItems a = some items → DecodesList (S.view s) items vs →
    DistinctKeys vs →
    match Abs.lookupSym sym vs with
    | some v => ∃ r, S.listItemWithSymbol s a sym = .ok (some r) ∧ Decodes (S.view s) r v
    | none => S.listItemWithSymbol s a sym = .ok none

theorem ListSymOn.distinct {S : RStore F σ} {Inv : σ → Prop} (h : ListSymOn S Inv) : ListSymDistinctOn S Inv :=
  fun s a items vs sym hi hl hd _ => h s a items vs sym hi hl hd

section simple
variable {hit : List (SimCell F) → SimCell F → Option Nat} {h : SimHost F}

theorem simpleA_listSymDistinct (Inv : SimState F → Prop) : ListSymDistinctOn (simpleRStoreA hit h) Inv :=
  fun _ _ _ _ sym _ hi hd hk => simListSym_spec sym hi hd hk

/-- a state as `(:k = ()), (:k = $?)` with `k = 5` leaves it (written out, not derived from a run): two items keyed by the
same symbol -/
def dupState : SimState F :=
  { cells := [.unit, .fls, .tru, .sym 5, .pair 3 0, .pair 3 2, .list [4, 5]], register := [], values := [],
    currentList := none, instrs := [], jumps := [], cursor := 0, trace := [] }

theorem dupState_inv : SInv (dupState : SimState F) :=
  ⟨⟨rfl, rfl, rfl⟩, fun a ha => by cases ha⟩

/-- **`ListSymOn` is false of `SimpleGarnishData`**: item 5 sits in slot `5 % 2 = 1`, where the probe for symbol 5
starts, so the SECOND item's value (`$?`) is returned where the contract asks for the first (`()`) -/
theorem simpleA_not_listSymOn : ¬ ListSymOn (simpleRStoreA hit h) SInv := by
  intro hls
  have hd : DecodesList (simView (dupState : SimState F).cells) [4, 5]
      [.pair (.sym 5) .unit, .pair (.sym 5) .tru] :=
    .cons (.pair rfl rfl (.sym rfl rfl) (.unit rfl)) (.cons (.pair rfl rfl (.sym rfl rfl) (.tru rfl)) .nil)
  have := hls dupState 6 [4, 5] _ 5 dupState_inv rfl hd
  simp only [Abs.lookupSym, beq_self_eq_true, if_true] at this
  obtain ⟨r, h1, h2⟩ := this
  have hr : (simpleRStoreA hit h).listItemWithSymbol dupState 6 5 = .ok (some 2) := rfl
  rw [hr] at h1
  cases h1
  cases h2 with
  | unit ht =>
    have : (some Ty.true : Option Ty) = some Ty.unit := ht
    cases this

end simple

section chain
variable {S : RStore F σ} {Inv : σ → Prop} {Rd : σ → Nat → Prop} (fo : FloatOps F)

theorem accessWithSymbol_spec_distinct (L : StoreLawsOn S Inv Rd) (LS : ListSymDistinctOn S Inv) (fuel : Nat) {s : σ}
    {a : Nat} {v : Val F} (sym : Nat)
    (h : Decodes (S.view s) a v) (hd : AccessDomain v) (hf : accessFuel v ≤ fuel) (hnc : ncConcat v)
    (hk : ∀ vs, v = .list vs → DistinctKeys vs)
    (hinv : Inv s := by inv_tac) (hdp : Deep S s (S.regs s) := by deep_tac) :
    AccOutI S Inv s (accessWithSymbol fo S fuel sym a s) (accessSym sym v) := by
  by_cases hl : ∃ vs, v = .list vs
  · obtain ⟨vs, rfl⟩ := hl
    have ht := getDataType_of h
    rw [accessWithSymbol, bind_ok ht]
    simp only [Val.typeOf, accessSym]
    obtain ⟨items, hi, hdl⟩ := Runtime.listItems_of h
    have hl := LS s a items vs sym hinv hi hdl (hk vs rfl)
    cases hk' : Abs.lookupSym sym vs with
    | none =>
      rw [hk'] at hl
      exact ⟨s, readR_ok (g := fun st => S.listItemWithSymbol st a sym) hl, EffI.refl s (by inv_tac)⟩
    | some x =>
      rw [hk'] at hl
      obtain ⟨r, h1, d⟩ := hl
      exact ⟨r, s, readR_ok (g := fun st => S.listItemWithSymbol st a sym) h1, d, EffI.refl s (by inv_tac)⟩
  · exact On.accessWithSymbol_spec fo L fuel sym h hd hf hnc (.inl (fun vs hv => hl ⟨vs, hv⟩)) hinv hdp

theorem getAccessAddr_spec_distinct (L : StoreLawsOn S Inv Rd) (LS : ListSymDistinctOn S Inv) (fuel : Nat) {s : σ}
    {ka a : Nat} {key v : Val F}
    (hk : Decodes (S.view s) ka key) (h : Decodes (S.view s) a v) (hd : AccessDomain v)
    (hkey : ∀ n, key = .num n → (∃ i, n = .int i) ∧ RangeOrdered fo n v) (hf : accessFuel v ≤ fuel)
    (hnc : ncConcat v) (hdk : ∀ y, key = .sym y → ∀ vs, v = .list vs → DistinctKeys vs)
    (hinv : Inv s := by inv_tac) (hdp : Deep S s (S.regs s) := by deep_tac) :
    AccOutI S Inv s (getAccessAddr fo S fuel ka a s) (getAccess fo key v) := by
  by_cases hs : ∃ y, key = .sym y
  · obtain ⟨y, rfl⟩ := hs
    have ht := getDataType_of hk
    rw [getAccessAddr, bind_ok ht]
    simp only [Val.typeOf]
    rw [bind_ok (Runtime.getSymbol_of hk)]
    exact accessWithSymbol_spec_distinct fo L LS fuel y h hd hf hnc (hdk y rfl) hinv hdp
  · exact On.getAccessAddr_spec fo L fuel hk h hd hkey hf hnc (.inl (fun y hy => absurd ⟨y, hy⟩ hs)) hinv hdp

end chain
end

end Garnish.Lemmas.Runtime.SimpleSym
