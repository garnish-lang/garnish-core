/-
Relabelling of body ids: the reference evaluator. `evalF_relabel`: evaluation commutes with an injective
renaming `ρ` of the body ids — of the `nested` expressions, of the table of bodies, of the current body, of the
expression values in the input, in the results and in the host-call trace. The two hosts are related by `HostRel ρ`
(`HostRel.declining`: the host that declines everything is related to itself). Induction on the fuel.
-/
import Garnish.Lemmas.CompileRelabel
namespace Garnish.Spec
open Garnish Gen Garnish.Abs

variable {F : Type} (fo : FloatOps F) (ρ : Nat → Nat)

mutual
/-- rename the body ids in an expression -/
def rlE : Expr F → Expr F
  | .lit v => .lit (Val.rl ρ v)
  | .input => .input
  | .ident sym => .ident sym
  | .unary op x => .unary op (rlE x)
  | .binary op l r => .binary op (rlE l) (rlE r)
  | .pair l r => .pair (rlE l) (rlE r)
  | .applyTo l r => .applyTo (rlE l) (rlE r)
  | .list items => .list (rlEs items)
  | .cond b c t => .cond b (rlE c) (rlE t)
  | .chain arms none => .chain (rlArms arms) none
  | .chain arms (some e) => .chain (rlArms arms) (some (rlE e))
  | .and l r => .and (rlE l) (rlE r)
  | .or l r => .or (rlE l) (rlE r)
  | .seq l r => .seq (rlE l) (rlE r)
  | .sideAfter l r => .sideAfter (rlE l) (rlE r)
  | .nested id => .nested (ρ id)
  | .emptyNested => .emptyNested
  | .reapply x => .reapply (rlE x)
  | .prefixApply sy x => .prefixApply sy (rlE x)
  | .suffixApply x sy => .suffixApply (rlE x) sy
  | .infixApply a sy b => .infixApply (rlE a) sy (rlE b)
def rlEs : List (Expr F) → List (Expr F)
  | [] => []
  | x :: xs => rlE x :: rlEs xs
def rlArms : List (Bool × Expr F × Expr F) → List (Bool × Expr F × Expr F)
  | [] => []
  | (b, c, t) :: rest => (b, rlE c, rlE t) :: rlArms rest
end

def rlBodies : List (Nat × Expr F) → List (Nat × Expr F)
  | [] => []
  | (k, b) :: rest => (ρ k, rlE ρ b) :: rlBodies rest

def rlProgram (p : Program F) : Program F := { main := rlE ρ p.main, bodies := rlBodies ρ p.bodies }

def HostCall.rl : HostCall F → HostCall F
  | .defer op l r => .defer op (Val.rl ρ l) (Val.rl ρ r)
  | .resolve s => .resolve s
  | .apply n arg => .apply n (Val.rl ρ arg)

def St.rl (st : St F) : St F := { inp := Val.rl ρ st.inp, trace := st.trace.map (HostCall.rl ρ) }

def Res.rl : Res F → Res F
  | .val v => .val (Val.rl ρ v)
  | .restart v => .restart (Val.rl ρ v)

def Out.map {α β : Type} (f : α → β) : Out α → Out β
  | .ok a => .ok (f a)
  | .err e => .err e
  | .fuelOut => .fuelOut

@[simp] theorem Out.map_ok {α β : Type} (f : α → β) (a : α) : Out.map f (.ok a) = .ok (f a) := rfl
@[simp] theorem Out.map_err {α β : Type} (f : α → β) (e : ErrClass) : Out.map f (.err e : Out α) = .err e := rfl
@[simp] theorem Out.map_fuelOut {α β : Type} (f : α → β) : Out.map f (.fuelOut : Out α) = .fuelOut := rfl
@[simp] theorem Res.rl_val (v : Val F) : Res.rl ρ (.val v) = .val (Val.rl ρ v) := rfl
@[simp] theorem Res.rl_restart (v : Val F) : Res.rl ρ (.restart v) = .restart (Val.rl ρ v) := rfl
@[simp] theorem St.rl_inp (st : St F) : (St.rl ρ st).inp = Val.rl ρ st.inp := rfl
@[simp] theorem St.rl_trace (st : St F) : (St.rl ρ st).trace = st.trace.map (HostCall.rl ρ) := rfl

/-- the host of the renamed run answers the renamed question with the renamed answer -/
structure HostRel (h h' : Host F) : Prop where
  defer : ∀ op l r, h'.defer op (Val.rl ρ l) (Val.rl ρ r) = (h.defer op l r).map (Val.rl ρ)
  resolve : ∀ s, h'.resolve s = (h.resolve s).map (Val.rl ρ)
  apply : ∀ n a, h'.apply n (Val.rl ρ a) = (h.apply n a).map (Val.rl ρ)

theorem HostRel.declining : HostRel ρ (Host.declining (F := F)) Host.declining :=
  ⟨fun _ _ _ => rfl, fun _ => rfl, fun _ _ => rfl⟩

variable {ρ}

theorem lookupBody_rl (hρ : ∀ a b, ρ a = ρ b → a = b) : ∀ (bodies : List (Nat × Expr F)) (id : Nat),
    lookupBody (rlBodies ρ bodies) (ρ id) = (lookupBody bodies id).map (rlE ρ)
  | [], _ => rfl
  | (k, b) :: rest, id => by
    simp only [rlBodies, lookupBody]
    by_cases h : k = id
    · subst h; simp
    · have : ρ k ≠ ρ id := fun e => h (hρ _ _ e)
      rw [beq_eq_false_iff_ne.mpr this, beq_eq_false_iff_ne.mpr h]
      simpa using lookupBody_rl hρ rest id

variable {h h' : Host F}

theorem settle_rl (hh : HostRel ρ h h') (st : St F) (o : OpOut F) :
    settle h' (St.rl ρ st) (OpOut.rl ρ o) = Out.map (fun p => (Val.rl ρ p.1, St.rl ρ p.2)) (settle h st o) := by
  cases o with
  | val v => simp [settle]
  | defer op l r =>
    simp only [OpOut.rl_defer, settle, hh.defer]
    cases h.defer op l r <;> simp [St.rl, HostCall.rl, Val.rl]
  | err e => simp [settle]

theorem resolveVal_rl (hh : HostRel ρ h h') (st : St F) (sym : Nat) :
    resolveVal fo h' (St.rl ρ st) sym = Out.map (fun p => (Val.rl ρ p.1, St.rl ρ p.2)) (resolveVal fo h st sym) := by
  have hg := getAccess_rl fo ρ (.sym sym) st.inp
  simp only [Val.rl] at hg
  simp only [resolveVal, St.rl_inp, hg, hh.resolve]
  cases hga : getAccess fo (.sym sym) st.inp with
  | some v => simp
  | none => cases h.resolve sym <;> simp [St.rl, HostCall.rl, Val.rl]
  | unsupported => cases h.resolve sym <;> simp [St.rl, HostCall.rl, Val.rl]
  | err e => cases e <;> simp <;> cases h.resolve sym <;> simp [St.rl, HostCall.rl, Val.rl]

def rlSum : (List (Val F) ⊕ Val F) → (List (Val F) ⊕ Val F)
  | .inl vs => .inl (vs.map (Val.rl ρ))
  | .inr v => .inr (Val.rl ρ v)

theorem rlE_chain (arms : List (Bool × Expr F × Expr F)) (final : Option (Expr F)) :
    rlE ρ (.chain arms final) = .chain (rlArms ρ arms) (final.map (rlE ρ)) := by
  cases final <;> simp [rlE]

theorem St.rl_with (st : St F) (v : Val F) :
    ({ inp := Val.rl ρ v, trace := st.trace.map (HostCall.rl ρ) } : St F) = St.rl ρ { inp := v, trace := st.trace } := rfl

/-- the five statements, for one amount of fuel -/
def RelAll (h h' : Host F) (fuel : Nat) : Prop :=
  (∀ bodies cur e st, evalF fo h' (rlBodies ρ bodies) (ρ cur) fuel (rlE ρ e) (St.rl ρ st) =
      Out.map (fun p => (Res.rl ρ p.1, St.rl ρ p.2)) (evalF fo h bodies cur fuel e st)) ∧
  (∀ bodies cur items st acc, evalList fo h' (rlBodies ρ bodies) (ρ cur) fuel (rlEs ρ items) (St.rl ρ st) (acc.map (Val.rl ρ)) =
      Out.map (fun p => (rlSum (ρ := ρ) p.1, St.rl ρ p.2)) (evalList fo h bodies cur fuel items st acc)) ∧
  (∀ bodies cur arms final st, evalChain fo h' (rlBodies ρ bodies) (ρ cur) fuel (rlArms ρ arms) (final.map (rlE ρ)) (St.rl ρ st) =
      Out.map (fun p => (Res.rl ρ p.1, St.rl ρ p.2)) (evalChain fo h bodies cur fuel arms final st)) ∧
  (∀ bodies cur instr useRight f x st,
      applyVals fo h' (rlBodies ρ bodies) (ρ cur) fuel instr useRight (Val.rl ρ f) (Val.rl ρ x) (St.rl ρ st) =
      Out.map (fun p => (Res.rl ρ p.1, St.rl ρ p.2)) (applyVals fo h bodies cur fuel instr useRight f x st)) ∧
  (∀ bodies cur body st, evalBody fo h' (rlBodies ρ bodies) (ρ cur) fuel (rlE ρ body) (St.rl ρ st) =
      Out.map (fun p => (Val.rl ρ p.1, St.rl ρ p.2)) (evalBody fo h bodies cur fuel body st))

theorem relAll_zero : RelAll fo (ρ := ρ) h h' 0 := by
  refine ⟨fun _ _ _ _ => ?_, fun _ _ _ _ _ => ?_, fun _ _ _ _ _ => ?_, fun _ _ _ _ _ _ _ => ?_, fun _ _ _ _ => ?_⟩
  · simp [evalF]
  · simp [evalList]
  · simp [evalChain]
  · simp [applyVals]
  · simp [evalBody]

abbrev rlOut (ρ : Nat → Nat) : Out (Res F × St F) → Out (Res F × St F) := Out.map fun p => (Res.rl ρ p.1, St.rl ρ p.2)

/-! Renaming commutes with the sequencing steps of the evaluator, one lemma per shape of `match`. -/

theorem rl_val {a a' : Out (Res F × St F)} {k k' : Val F → St F → Out (Res F × St F)} :
    a' = rlOut ρ a → (∀ v st, k' (Val.rl ρ v) (St.rl ρ st) = rlOut ρ (k v st)) →
    (match a' with | .ok (.val v, st1) => k' v st1 | other => other) =
      rlOut ρ (match a with | .ok (.val v, st1) => k v st1 | other => other) := by
  rintro rfl hk
  rcases a with ⟨⟨v | v, st⟩⟩ | e | _
  · exact hk v st
  all_goals rfl

theorem rl_res {α : Type} {g : α → α} {a a' : Out (Res F × St F)} {k k' r r' : Val F → St F → Out α} :
    a' = rlOut ρ a → (∀ v st, k' (Val.rl ρ v) (St.rl ρ st) = Out.map g (k v st)) →
    (∀ v st, r' (Val.rl ρ v) (St.rl ρ st) = Out.map g (r v st)) →
    (match a' with
      | .ok (.val v, st1) => k' v st1 | .ok (.restart v, st1) => r' v st1 | .err e => .err e | .fuelOut => .fuelOut) =
      Out.map g (match a with
      | .ok (.val v, st1) => k v st1 | .ok (.restart v, st1) => r v st1 | .err e => .err e | .fuelOut => .fuelOut) := by
  rintro rfl hk hr
  rcases a with ⟨⟨v | v, st⟩⟩ | e | _
  · exact hk v st
  · exact hr v st
  all_goals rfl

theorem rl_resolved (hh : HostRel ρ h h') (st : St F) (sym : Nat) {k k' : Val F → St F → Out (Res F × St F)}
    (hk : ∀ v st, k' (Val.rl ρ v) (St.rl ρ st) = rlOut ρ (k v st)) :
    (match resolveVal fo h' (St.rl ρ st) sym with | .ok (v, st1) => k' v st1 | .err e => .err e | .fuelOut => .fuelOut) =
      rlOut ρ (match resolveVal fo h st sym with | .ok (v, st1) => k v st1 | .err e => .err e | .fuelOut => .fuelOut) := by
  rw [resolveVal_rl fo hh]
  rcases resolveVal fo h st sym with ⟨⟨v, st1⟩⟩ | e | _
  · exact hk v st1
  all_goals rfl

theorem rl_settled (hh : HostRel ρ h h') (st : St F) (o : Option (OpOut F)) :
    (match o.map (OpOut.rl ρ) with
      | some o => match settle h' (St.rl ρ st) o with
        | .ok (r, st2) => .ok (.val r, st2) | .err e => .err e | .fuelOut => .fuelOut
      | none => .err .implementation) =
    rlOut ρ (match o with
      | some o => match settle h st o with
        | .ok (r, st2) => .ok (.val r, st2) | .err e => .err e | .fuelOut => .fuelOut
      | none => .err .implementation) := by
  cases o with
  | none => rfl
  | some o =>
    simp only [Option.map_some, settle_rl hh]
    rcases settle h st o with ⟨⟨r, st2⟩⟩ | e | _ <;> rfl

theorem relF_step (hρ : ∀ a b, ρ a = ρ b → a = b) (hh : HostRel ρ h h') {fuel : Nat} (ih : RelAll fo (ρ := ρ) h h' fuel)
    (bodies : List (Nat × Expr F)) (cur : Nat) (e : Expr F) (st : St F) :
    evalF fo h' (rlBodies ρ bodies) (ρ cur) (fuel + 1) (rlE ρ e) (St.rl ρ st) =
      Out.map (fun p => (Res.rl ρ p.1, St.rl ρ p.2)) (evalF fo h bodies cur (fuel + 1) e st) := by
  obtain ⟨ihF, ihL, ihC, ihA, ihB⟩ := ih
  cases e with
  | lit v => simp [rlE, evalF]
  | input => simp [rlE, evalF]
  | nested id => simp [rlE, evalF, Val.rl]
  | emptyNested => simp [rlE, evalF, Val.rl]
  | ident sym =>
    simp only [rlE, evalF]
    exact rl_resolved fo hh st sym fun v st1 => rfl
  | unary op x =>
    simp only [rlE, evalF]
    refine rl_val (ihF ..) fun v st1 => ?_
    split
    · exact ihA bodies cur .emptyApply false v .unit st1
    · rw [unaryOp_rl]; exact rl_settled hh st1 _
  | binary op l r =>
    simp only [rlE, evalF]
    refine rl_val (ihF ..) fun vl st1 => rl_val (ihF ..) fun vr st2 => ?_
    split
    · exact ihA ..
    · rw [binaryOp_rl fo hρ]; exact rl_settled hh st2 _
  | pair l r =>
    simp only [rlE, evalF]
    exact rl_val (ihF ..) fun vr st1 => rl_val (ihF ..) fun vl st2 => rfl
  | applyTo x f =>
    simp only [rlE, evalF]
    exact rl_val (ihF ..) fun vf st1 => rl_val (ihF ..) fun vx st2 => ihA ..
  | list items =>
    have hl := ihL bodies cur items st []
    simp only [List.map_nil] at hl
    simp only [rlE, evalF, hl]
    rcases evalList fo h bodies cur fuel items st [] with ⟨⟨vs | v, st1⟩⟩ | e | _ <;> simp [rlSum]
  | cond onTrue c t =>
    simp only [rlE, evalF]
    refine rl_val (ihF ..) fun vc st1 => ?_
    rw [Val.rl_truthy]
    split
    · exact ihF ..
    · rfl
  | chain arms final =>
    rw [rlE_chain]
    simp only [evalF]
    exact ihC bodies cur arms final st
  | and l r =>
    simp only [rlE, evalF]
    refine rl_val (ihF ..) fun vl st1 => ?_
    rw [Val.rl_truthy]
    split
    · exact rl_val (ihF ..) fun vr st2 => by simp
    · rfl
  | or l r =>
    simp only [rlE, evalF]
    refine rl_val (ihF ..) fun vl st1 => ?_
    rw [Val.rl_truthy]
    split
    · rfl
    · exact rl_val (ihF ..) fun vr st2 => by simp
  | seq a b =>
    simp only [rlE, evalF]
    exact rl_val (ihF ..) fun va st1 => ihF bodies cur b { st1 with inp := va }
  | sideAfter x body =>
    simp only [rlE, evalF]
    exact rl_val (ihF ..) fun vx st1 => rl_val (ihF ..) fun vb st2 => rfl
  | reapply x =>
    simp only [rlE, evalF]
    exact rl_val (ihF ..) fun v st1 => rfl
  | prefixApply sym x =>
    simp only [rlE, evalF]
    exact rl_resolved fo hh st sym fun vf st1 => rl_val (ihF ..) fun vx st2 => ihA ..
  | suffixApply x sym =>
    simp only [rlE, evalF]
    exact rl_resolved fo hh st sym fun vf st1 => rl_val (ihF ..) fun vx st2 => ihA ..
  | infixApply a sym b =>
    simp only [rlE, evalF]
    exact rl_resolved fo hh st sym fun vf st1 => rl_val (ihF ..) fun va st2 => rl_val (ihF ..) fun vb st3 =>
      ihA bodies cur .apply true vf (.list [va, vb]) st3

theorem relAll_step (hρ : ∀ a b, ρ a = ρ b → a = b) (hh : HostRel ρ h h') {fuel : Nat} (ih : RelAll fo (ρ := ρ) h h' fuel) :
    RelAll fo (ρ := ρ) h h' (fuel + 1) := by
  refine ⟨relF_step fo hρ hh ih, ?_, ?_, ?_, ?_⟩
  all_goals obtain ⟨ihF, ihL, ihC, ihA, ihB⟩ := ih
  · intro bodies cur items st acc
    cases items with
    | nil => simp [rlEs, evalList, rlSum]
    | cons x xs =>
      simp only [rlEs, evalList]
      exact rl_res (ihF ..) (fun v st1 => ihL bodies cur xs st1 (v :: acc)) fun v st1 => rfl
  · intro bodies cur arms final st
    cases arms with
    | nil =>
      cases final with
      | none => simp [rlArms, evalChain]
      | some e => simp only [rlArms, Option.map_some, evalChain, ihF]
    | cons a rest =>
      obtain ⟨onTrue, c, t⟩ := a
      simp only [rlArms, evalChain]
      refine rl_val (ihF ..) fun vc st1 => ?_
      rw [Val.rl_truthy]
      split
      · exact ihF ..
      · exact ihC ..
  · intro bodies cur instr useRight f x st
    simp only [applyVals, applyKind_rl]
    cases applyKind fo instr useRight f x with
    | enter j input =>
      simp only [ApplyKind.rl_enter, lookupBody_rl hρ]
      cases lookupBody bodies j with
      | none => rfl
      | some body =>
        simp only [Option.map_some]
        have hb := ihB bodies j body { st with inp := input }
        have e1 : ({ inp := Val.rl ρ input, trace := (St.rl ρ st).trace } : St F) = St.rl ρ { st with inp := input } := rfl
        rw [e1, hb]
        rcases evalBody fo h bodies j fuel body { st with inp := input } with ⟨⟨v, st1⟩⟩ | e | _ <;> rfl
    | external n arg =>
      simp only [ApplyKind.rl_external, hh.apply]
      cases h.apply n arg <;> simp [St.rl, HostCall.rl, Val.rl]
    | out o =>
      simp only [ApplyKind.rl_out, settle_rl hh]
      rcases settle h st o with ⟨⟨r, st2⟩⟩ | e | _ <;> rfl
  · intro bodies cur body st
    simp only [evalBody]
    exact rl_res (ihF ..) (fun v st1 => rfl) fun v st1 => ihB bodies cur body { st1 with inp := v }

theorem relAll (hρ : ∀ a b, ρ a = ρ b → a = b) (hh : HostRel ρ h h') : ∀ fuel, RelAll fo (ρ := ρ) h h' fuel
  | 0 => relAll_zero fo
  | fuel + 1 => relAll_step fo hρ hh (relAll hρ hh fuel)

/-- nothing else changes: same outcome class, same errors, same fuel -/
theorem evalF_relabel (hρ : ∀ a b, ρ a = ρ b → a = b) (hh : HostRel ρ h h') (bodies : List (Nat × Expr F)) (cur fuel : Nat)
    (e : Expr F) (st : St F) :
    evalF fo h' (rlBodies ρ bodies) (ρ cur) fuel (rlE ρ e) (St.rl ρ st) =
      Out.map (fun p => (Res.rl ρ p.1, St.rl ρ p.2)) (evalF fo h bodies cur fuel e st) :=
  (relAll fo hρ hh fuel).1 bodies cur e st

theorem evalBody_relabel (hρ : ∀ a b, ρ a = ρ b → a = b) (hh : HostRel ρ h h') (bodies : List (Nat × Expr F)) (cur fuel : Nat)
    (body : Expr F) (st : St F) :
    evalBody fo h' (rlBodies ρ bodies) (ρ cur) fuel (rlE ρ body) (St.rl ρ st) =
      Out.map (fun p => (Val.rl ρ p.1, St.rl ρ p.2)) (evalBody fo h bodies cur fuel body st) :=
  (relAll fo hρ hh fuel).2.2.2.2 bodies cur body st

end Garnish.Spec
