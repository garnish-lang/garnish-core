/-
`optimize` phase by phase.  `optimizeBody_phases` takes `optimize_data_block_and_retain` apart statement by statement,
without hypotheses.  `optimizeBody_core` assembles the index phase, the reversed walk (with the slide offset), the
re-pointing loop, the remapping loops and the slide: the invariant of the finished walk, and heads, roots and symbol
names reported along links `old address ↦ reported address` (`TailFacts`).  `LinksPreserved`: what the preservation
theorem says in terms of such a link relation.
-/
import Garnish.Lemmas.OptimizeMove
namespace Garnish.BasicOpt
open Garnish

/-- structural hypotheses on the heap before compaction -/
structure OptHyp (s : Store) : Prop where
  listsWF : ListsWF s.cells
  /-- every link of a node points to a lower address (what the public `add_*` / push operations produce) -/
  nodeBack : ∀ (i : Nat) (sh : Shape), shape s.cells i = some sh → ∀ k ∈ sh.kids, k < i
  /-- a node below the retention count lies below it with all its inline cells (the count is a size observed at
  an operation boundary, it does not cut through a value) -/
  extent : ∀ (i : Nat) (sh : Shape), i < s.retention → shape s.cells i = some sh →
    shape (s.cells.extract 0 s.retention) i = some sh

/-- how a head is reported: absent before and after, or moved along a link -/
def HeadRel (L : Nat → Nat → Prop) (o o' : Option Nat) : Prop :=
  (o = none ∧ o' = none) ∨ ∃ i m, o = some i ∧ o' = some m ∧ L i m

/-- everything `optimize` reports, in terms of one link relation `L` under which unfoldings are preserved -/
structure LinksPreserved (s s' : Store) (roots m : List Nat) (L : Nat → Nat → Prop) : Prop where
  unfolds : ∀ x x', L x x' → Dec s.cells x → ∀ fuel, unfold s.cells fuel x = unfold s'.cells fuel x'
  register : HeadRel L s.currentRegister s'.currentRegister
  value : HeadRel L s.currentValue s'.currentValue
  frame : HeadRel L s.currentFrame s'.currentFrame
  rootsLen : m.length = roots.length
  roots : ∀ (k r : Nat), roots[k]? = some r → ∃ r', m[k]? = some r' ∧ L r r'
  symLen : s'.symtab.size = s.symtab.size
  syms : ∀ (j sym di : Nat), s.symtab[j]? = some (.associativeItem sym di) →
    ∃ di', s'.symtab[j]? = some (.associativeItem sym di') ∧ L di di'
  retention : s'.retention = s.retention
  retained : ∀ i, i < s.retention → s'.cells[i]? = s.cells[i]?

/-- what the phases after the re-pointing loop establish, in terms of the store `sR` that loop returns:
heads, roots and symbol names are reported along links of `sR`; the compacted block is the retained prefix of `sR`
followed by everything behind the index list -/
structure TailFacts (s s' : Store) (roots m : List Nat) (sR : Store) (c0 cA : Nat) : Prop where
  register : HeadRel (Link sR c0 cA) s.currentRegister s'.currentRegister
  value : HeadRel (Link sR c0 cA) s.currentValue s'.currentValue
  frame : HeadRel (Link sR c0 cA) s.currentFrame s'.currentFrame
  rootsLen : m.length = roots.length
  roots : ∀ (k r : Nat), roots[k]? = some r → ∃ r', m[k]? = some r' ∧ Link sR c0 cA r r'
  symLen : s'.symtab.size = s.symtab.size
  syms : ∀ (j sym di : Nat), s.symtab[j]? = some (.associativeItem sym di) →
    ∃ di', s'.symtab[j]? = some (.associativeItem sym di') ∧ Link sR c0 cA di di'
  retention : s'.retention = s.retention
  pre : ∀ i, i < s.retention → s'.cells[i]? = sR.cells[i]?
  shift : Shift sR.cells s'.cells cA s.retention

/-- the index phase: one `create_index_stack` per symbol name, head and extra root -/
def IndexPhase (s : Store) (roots : List Nat) (s5 : Store) : Prop :=
  ∃ s1 s2 s3 s4, Store.indexSymbols s 0 s.symtab.size = .ok s1 ∧ Store.indexOpt s1 s.currentRegister = .ok s2 ∧
    Store.indexOpt s2 s.currentValue = .ok s3 ∧ Store.indexOpt s3 s.currentFrame = .ok s4 ∧
    Store.indexRoots s4 roots = .ok s5

theorem headRel_of_remap {a st : Store} {lo hi : Nat} {o r : Option Nat} (hsd : SameData a st)
    (h : Store.remapOpt st (a.start + lo) (a.start + hi) o = .ok r) : HeadRel (Link a lo hi) o (r <|> o) := by
  rcases remapOpt_spec h with ⟨rfl, rfl⟩ | ⟨i, m, rfl, rfl, hl⟩
  · exact Or.inl ⟨rfl, rfl⟩
  · exact Or.inr ⟨i, m, rfl, rfl, lookup_link_same hsd hl⟩

theorem IndexPhase.ext {s s5 : Store} {roots : List Nat} (lo : Nat) (h : IndexPhase s roots s5) : Ext lo s s5 := by
  obtain ⟨s1, s2, s3, s4, h1, h2, h3, h4, h5⟩ := h
  exact ((((indexSymbols_ext _ _ _ _ _ h1).trans (indexOpt_ext _ h2)).trans (indexOpt_ext _ h3)).trans
    (indexOpt_ext _ h4)).trans (indexRoots_ext _ _ _ _ h5)

theorem optimizeBody_phases {s s' : Store} {roots m : List Nat} (h : Store.optimizeBody s roots = .ok (s', m)) :
    ∃ s5 s6 sR s7 s8 s9 s10 : Store, ∃ reg val fr : Option Nat,
      IndexPhase s roots s5 ∧ s.start + s.retention ≤ s5.start + s5.cursor ∧
      ((s5.start + s5.cursor ≠ s.start + s.cursor ∧ ∃ r, Store.cloneIndexStack s5 s.cursor
          (s5.start + s5.cursor - (s.start + s.retention)) = .ok (s6, r)) ∨
        (s5.start + s5.cursor = s.start + s.cursor ∧ s6 = s5)) ∧
      Store.repointLoop (s.start + s.cursor) (s5.start + s5.cursor) (s.start + s.cursor - s6.start) s6 s.currentValue =
        .ok sR ∧
      Store.remapSymbols (s.start + s.cursor) (s5.start + s5.cursor) sR 0 s.symtab.size = .ok s7 ∧
      Store.remapOpt s7 (s.start + s.cursor) (s5.start + s5.cursor) s.currentRegister = .ok reg ∧
      Store.remapOpt s8 (s.start + s.cursor) (s5.start + s5.cursor) s.currentValue = .ok val ∧
      Store.remapOpt s9 (s.start + s.cursor) (s5.start + s5.cursor) s.currentFrame = .ok fr ∧
      Store.remapRoots s10 (s.start + s.cursor) (s5.start + s5.cursor) roots = .ok m ∧
      SameData s7 s8 ∧ SameData s7 s9 ∧ SameData s7 s10 ∧ s8.currentValue = s7.currentValue ∧
      s9.currentFrame = s7.currentFrame ∧
      s'.currentRegister = (reg <|> s7.currentRegister) ∧ s'.currentValue = (val <|> s8.currentValue) ∧
      s'.currentFrame = (fr <|> s9.currentFrame) ∧ s'.symtab = s7.symtab ∧ s'.retention = s10.retention ∧
      s'.start = s10.start ∧
      s'.cells = (Store.slide s10.cells s10.retention (s5.start + s5.cursor - s10.start)
        (s10.start + s10.cursor - (s5.start + s5.cursor))).extract 0
        (s10.retention + (s10.start + s10.cursor - (s5.start + s5.cursor))) := by
  unfold Store.optimizeBody at h
  simp only [Outcome.bind_eq_ok'] at h
  obtain ⟨s1, h1, s2, h2, s3, h3, s4, h4, s5, h5, h6⟩ := h
  split at h6
  · simp at h6
  · rename_i hge
    simp only [Outcome.bind_eq_ok'] at h6
    obtain ⟨s6, h7, sR, hR, s7, h8, reg, hreg, val, hval, fr, hfr, mapped, hm, h9⟩ := h6
    have hwalk : (s5.start + s5.cursor ≠ s.start + s.cursor ∧ ∃ r, Store.cloneIndexStack s5 s.cursor
          (s5.start + s5.cursor - (s.start + s.retention)) = .ok (s6, r)) ∨
        (s5.start + s5.cursor = s.start + s.cursor ∧ s6 = s5) := by
      split at h7
      · rename_i hne
        simp only [Outcome.bind_eq_ok', Outcome.pure_eq_ok_iff] at h7
        obtain ⟨⟨sx, rx⟩, hx, rfl⟩ := h7
        exact Or.inl ⟨hne, rx, hx⟩
      · rename_i hne
        simp only [pure, Outcome.ok.injEq] at h7
        exact Or.inr ⟨Decidable.of_not_not hne, h7.symm⟩
    simp only [pure, Outcome.ok.injEq, Prod.mk.injEq] at h9
    obtain ⟨h9, rfl⟩ := h9
    refine ⟨s5, s6, sR, s7, ?_⟩
    cases reg <;> cases val <;> cases fr <;> simp only [] at hval hfr hm h9 <;> subst h9 <;>
      exact ⟨_, _, _, _, _, _, ⟨s1, s2, s3, s4, h1, h2, h3, h4, h5⟩, Nat.le_of_not_lt hge, hwalk, hR, h8, hreg, hval, hfr,
        hm,
        ⟨rfl, rfl, rfl⟩, ⟨rfl, rfl, rfl⟩, ⟨rfl, rfl, rfl⟩, rfl, rfl, rfl, rfl, rfl, rfl, rfl, rfl, rfl⟩

theorem phases_prefix {s s5 s6 : Store} {roots : List Nat} {lo : Nat} (hlo : lo ≤ s.cells.size)
    (hi : IndexPhase s roots s5)
    (hw : (∃ off r, Store.cloneIndexStack s5 s.cursor off = .ok (s6, r)) ∨ s6 = s5) : Ext lo s s6 := by
  rcases hw with ⟨off, r, hx⟩ | rfl
  · exact (hi.ext lo).trans (cloneIndexStack_ext (by simpa [Store.cursor] using hlo) hx)
  · exact hi.ext lo

theorem optimize_retained_prefix_unchanged {s s' : Store} {roots m : List Nat}
    (h : Store.optimize s roots = .ok (s', m)) (hvc : ValueLinksClosed s) :
    s'.retention = s.retention ∧ s'.start = s.start ∧ s.retention ≤ s'.cells.size ∧
      ∀ i, i < s.retention → s'.cells[i]? = s.cells[i]? := by
  obtain ⟨hr, h⟩ := optimize_ok h
  obtain ⟨s5, s6, sR, s7, s8, s9, s10, reg, val, fr, hi, _, hw, hR, h8, _, _, _, _, _, _, d10, _, _, _, _, _, _, hret,
    hst,    hcells⟩ := optimizeBody_phases h
  have e6 : Ext s.retention s s6 := phases_prefix hr hi (hw.imp (fun ⟨_, r, hx⟩ => ⟨_, r, hx⟩) And.right)
  have hvc' : ValueLinksClosed s6 := by
    intro i p v hi hcell
    rw [e6.frame.1] at hi ⊢
    rw [e6.keep i hi (by omega)] at hcell
    exact hvc i p v hi hcell
  obtain rfl : sR = s6 := repointLoop_noop _ _ _ _ _ _ hvc' hR
  have d := (remapSymbols_spec _ _ _ _ _ _ h8).1.trans d10
  have hret' : s10.retention = s.retention := d.ret.trans e6.frame.1
  have hsz : s.retention ≤ s10.cells.size := by rw [d.cells]; exact Nat.le_trans hr e6.mono
  refine ⟨hret.trans hret', hst.trans (d.start.trans e6.frame.2.1), ?_, ?_⟩
  · rw [hcells, hret']; exact (slide_extract_prefix s10.cells s.retention _ _ hsz).1
  · intro i hi
    rw [hcells, hret', (slide_extract_prefix s10.cells s.retention _ _ hsz).2 i hi, d.cells]
    exact e6.keep i hi (by omega)

theorem optimize_retained_roots_fixed {s s' : Store} {roots m : List Nat}
    (h : Store.optimize s roots = .ok (s', m)) :
    m.length = roots.length ∧ ∀ (k r : Nat), roots[k]? = some r → r < s.retention → m[k]? = some r := by
  obtain ⟨_, h⟩ := optimize_ok h
  obtain ⟨s5, s6, sR, s7, s8, s9, s10, reg, val, fr, hi, _, hw, hR, h8, _, _, _, hm, _, _, d10, _⟩ :=
    optimizeBody_phases h
  have e6 : Ext 0 s s6 := phases_prefix (Nat.zero_le _) hi (hw.imp (fun ⟨_, r, hx⟩ => ⟨_, r, hx⟩) And.right)
  have hret : s10.retention = s.retention :=
    (((remapSymbols_spec _ _ _ _ _ _ h8).1.trans d10).ret.trans (repointLoop_ext _ _ _ _ _ _ hR).frame.1).trans e6.frame.1
  obtain ⟨hlen, hall⟩ := remapRoots_spec _ _ _ _ _ hm
  refine ⟨hlen, fun k r hk hr => ?_⟩
  obtain ⟨r', hm', hl⟩ := hall k r hk
  rw [lookup_retained (by rw [hret]; exact hr)] at hl
  cases hl; exact hm'

theorem optimizeBody_core {s s' : Store} {roots m : List Nat}
    (h : Store.optimizeBody s roots = .ok (s', m)) (hr : s.retention ≤ s.cells.size) (hlw : ListsWF s.cells) :
    ∃ s5 s6 sR : Store,
      CInv (s5.cells.size - s.retention) s.cells s5 s.cells.size s5.cells.size 0 s6 ∧
      s.cells.size ≤ s5.cells.size ∧ s6.retention = s.retention ∧ s6.start = s.start ∧
      s6.currentValue = s.currentValue ∧
      Store.repointLoop (s6.start + s.cells.size) (s6.start + s5.cells.size) s.cells.size s6 s.currentValue = .ok sR ∧
      TailFacts s s' roots m sR s.cells.size s5.cells.size ∧ IndexPhase s roots s5 ∧
      (s5.cells.size = s.cells.size → s6.cells.size = s5.cells.size) ∧
      -- the reversed walk itself (for invariants other than `CInv`)
      (Store.cloneLoop (s5.cells.size - s.retention) (s5.start + s5.cells.size) s.cells.size
          (s5.cells.size - s.cells.size) s5 = .ok s6 ∨ (s6 = s5 ∧ s5.cells.size = s.cells.size)) ∧
      s5.retention = s.retention := by
  obtain ⟨s5, s6', s6, s7, s8, s9, s10, reg, val, fr, hidx, _, hw, hR, h8, hreg, hval, hfr, hm, d8, d9, d10, v8, f9, hreg',
    hval', hfr', hsym', hret', _, hcells'⟩ := optimizeBody_phases h
  have e15 : Ext s.cells.size s s5 := hidx.ext _
  have hstart5 : s5.start = s.start := e15.frame.2.1
  have hret5 : s5.retention = s.retention := e15.frame.1
  have hc0A : s.cells.size ≤ s5.cells.size := e15.mono
  have hoffv : s5.start + s5.cursor - (s.start + s.retention) = s5.cells.size - s.retention := by
    simp only [Store.cursor, hstart5]; omega
  have hinv0 : CInv (s5.cells.size - s.retention) s.cells s5 s.cells.size s5.cells.size
      (s5.cells.size - s.cells.size) s5 := CInv.init e15
  -- the walk runs when the index phase appended something
  have hwalk : (s5.cells.size ≠ s.cells.size ∧ SameFrame s5 s6' ∧
        Store.cloneLoop (s5.cells.size - s.retention) (s5.start + s5.cells.size) s.cells.size
          (s5.cells.size - s.cells.size) s5 = .ok s6') ∨ (s6' = s5 ∧ s5.cells.size = s.cells.size) := by
    rcases hw with ⟨hne, rx, hx⟩ | ⟨heq, rfl⟩
    · have e := (cloneIndexStack_ext (lo := 0) (Nat.zero_le _) hx).frame
      simp only [Store.cloneIndexStack, Outcome.bind_eq_ok'] at hx
      obtain ⟨s2', hloop, c, _, h3'⟩ := hx
      have hs2 : s2' = s6' := by
        split at h3'
        · simp only [pure, Outcome.ok.injEq, Prod.mk.injEq] at h3'; exact h3'.1
        · simp at h3'
      subst hs2
      rw [hoffv] at hloop
      exact Or.inl ⟨fun heq => hne (by simp only [Store.cursor, hstart5, heq]), e,
        by simpa [Store.cursor] using hloop⟩
    · refine Or.inr ⟨rfl, ?_⟩
      simp only [Store.cursor, hstart5] at heq; omega
  have hinv : CInv (s5.cells.size - s.retention) s.cells s5 s.cells.size s5.cells.size 0 s6' := by
    rcases hwalk with ⟨_, _, hloop⟩ | ⟨rfl, hEq⟩
    · exact cloneLoop_step_inv (Nat.le_refl _) hlw (Or.inr (by rw [hret5]; omega)) _ _ _ hinv0 hloop
    · rw [hEq, Nat.sub_self] at hinv0
      rw [hEq]
      exact hinv0
  have hloopX : Store.cloneLoop (s5.cells.size - s.retention) (s5.start + s5.cells.size) s.cells.size
      (s5.cells.size - s.cells.size) s5 = .ok s6' ∨ (s6' = s5 ∧ s5.cells.size = s.cells.size) :=
    hwalk.elim (fun h => Or.inl h.2.2) Or.inr
  have hframe6' : SameFrame s5 s6' := by
    rcases hwalk with ⟨_, e, _⟩ | ⟨rfl, _⟩
    · exact e
    · exact SameFrame.rfl' _
  have hheads6' : s6'.currentRegister = s.currentRegister ∧ s6'.currentValue = s.currentValue ∧
      s6'.currentFrame = s.currentFrame :=
    ⟨hframe6'.2.2.2.2.1.trans e15.frame.2.2.2.2.1, hframe6'.2.2.2.1.trans e15.frame.2.2.2.1,
      hframe6'.2.2.2.2.2.trans e15.frame.2.2.2.2.2⟩
  have hsym6' : s6'.symtab = s.symtab := hframe6'.2.2.1.trans e15.frame.2.2.1
  have eR := repointLoop_ext _ _ _ _ _ _ hR
  have hstart6' : s6'.start = s.start := hinv.start.trans hstart5
  have hret6' : s6'.retention = s.retention := hinv.ret.trans hret5
  obtain ⟨hsd7, hsz7, hr7, hv7, hf7, _, _, hmid7⟩ := remapSymbols_spec _ _ _ _ _ _ h8
  have hstart6 : s6.start = s.start := eR.frame.2.1.trans hstart6'
  have hret6 : s6.retention = s.retention := eR.frame.1.trans hret6'
  have hheads6 : s6.currentRegister = s.currentRegister ∧ s6.currentValue = s.currentValue ∧
      s6.currentFrame = s.currentFrame :=
    ⟨eR.frame.2.2.2.2.1.trans hheads6'.1, eR.frame.2.2.2.1.trans hheads6'.2.1, eR.frame.2.2.2.2.2.trans hheads6'.2.2⟩
  have hsym6 : s6.symtab = s.symtab := eR.frame.2.2.1.trans hsym6'
  -- the bounds handed to every lookup are `s6.start + c0` and `s6.start + cA`
  have hls : s.start + s.cursor = s6.start + s.cells.size := by simp [Store.cursor, hstart6]
  have hle : s5.start + s5.cursor = s6.start + s5.cells.size := by simp [Store.cursor, hstart6, hstart5]
  rw [hls, hle] at hreg hval hfr hm hmid7
  have hcA : s5.cells.size ≤ s6.cells.size := Nat.le_trans hinv.hiLe eR.mono
  obtain ⟨_, hpre, hshift⟩ := slide_extract_spec s6.cells s.retention s5.cells.size (by omega) hcA
  have hRnorm : Store.repointLoop (s6'.start + s.cells.size) (s6'.start + s5.cells.size) s.cells.size s6'
      s.currentValue = .ok s6 := by
    have e1 : s.start + s.cursor = s6'.start + s.cells.size := by simp [Store.cursor, hstart6']
    have e2 : s5.start + s5.cursor = s6'.start + s5.cells.size := by simp [Store.cursor, hstart6', hstart5]
    rw [e1, e2, Nat.add_sub_cancel_left] at hR
    exact hR
  have hnoidx : s5.cells.size = s.cells.size → s6'.cells.size = s5.cells.size := by
    intro heq
    rcases hwalk with ⟨hne, _, _⟩ | ⟨rfl, _⟩
    · exact absurd heq hne
    · rfl
  refine ⟨s5, s6', s6, hinv, hc0A, hret6', hstart6', hheads6'.2.1, hRnorm, ?_, hidx, hnoidx, hloopX, hret5⟩
  -- heads, roots and symbols are looked up in stores with the data of `s6`
  have hsd7 : SameData s6 s7 := hsd7
  have hsymsL : ∀ (j sym di : Nat), s.symtab[j]? = some (.associativeItem sym di) →
      ∃ di', s7.symtab[j]? = some (.associativeItem sym di') ∧ Link s6 s.cells.size s5.cells.size di di' := by
    intro j sym di hj
    have hjlt : j < s.symtab.size := lt_of_getElem? hj
    obtain ⟨sy, d, d', st, g1, g2, g3, g4⟩ := hmid7 j (Nat.zero_le _) (by omega)
    rw [hsym6, hj] at g1
    simp only [Option.some.injEq, Cell.associativeItem.injEq] at g1
    obtain ⟨e1, e2⟩ := g1
    subst e1; subst e2
    exact ⟨d', g2, lookup_link_same g3 g4⟩
  have hsd10 := hsd7.trans d10
  obtain ⟨hmlen, hmroots⟩ := remapRoots_spec _ _ _ _ _ hm
  refine ⟨?_, ?_, ?_, hmlen, ?_, ?_, ?_, ?_, ?_, ?_⟩
  · rw [hreg', hr7, hheads6.1]; exact headRel_of_remap hsd7 hreg
  · rw [hval', v8, hv7, hheads6.2.1]; exact headRel_of_remap (hsd7.trans d8) hval
  · rw [hfr', f9, hf7, hheads6.2.2]; exact headRel_of_remap (hsd7.trans d9) hfr
  · intro k r hk
    obtain ⟨r', g1, g2⟩ := hmroots k r hk
    exact ⟨r', g1, lookup_link_same hsd10 g2⟩
  · rw [hsym', hsz7, hsym6]
  · rw [hsym']; exact hsymsL
  · rw [hret', hsd10.ret, hret6]
  · intro i hi
    have h1 := hpre i hi
    rw [hcells']
    simp only [Store.cursor, hsd10.cells, hsd10.ret, hsd10.start, hret6, hstart6, hstart5, Nat.add_sub_add_left,
      Nat.add_sub_cancel_left]
    exact h1
  · have h2 := hshift
    unfold Shift
    rw [hcells']
    simpa [Shift, Store.cursor, hsd10.cells, hsd10.ret, hsd10.start, hret6, hstart6, hstart5, Nat.add_sub_add_left]
      using h2

end Garnish.BasicOpt
