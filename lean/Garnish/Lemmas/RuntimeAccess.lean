/-
Refinement lemmas for list.rs, part 1: `index_list`, `index_char_list`, `index_byte_list`, `index_symbol_list` against
the value-level indexing of Abs/Ops (integer indexes); the accessors built on them are in RuntimeAccess2.
-/
import Garnish.Lemmas.RuntimeCmp
import Garnish.Model.Runtime.Resolve
namespace Garnish.Lemmas.Runtime
open Garnish Gen Garnish.Abs Garnish.Model.Equality Garnish.Model.Runtime

variable {F σ : Type} {S : RStore F σ} (fo : FloatOps F)

theorem numGe_int (x y : Int) : numGe fo (.int x) (.int y) = decide (x ≥ y) := by
  rcases Lemmas.partialCmp_int_cases fo x y with ⟨h, e⟩ | ⟨h, e⟩ | ⟨h, e⟩ <;> simp [numGe, e] <;> omega

theorem sizeToNumber_small {n : Nat} (h : n ≤ 2147483647) : (sizeToNumber n : Number F) = .int n := by
  simp only [sizeToNumber]; rw [Lemmas.wrap_of_inRange (by unfold InRange; omega)]

/-- the bounds prefix the four `index_*` functions share: outside `0 ≤ i < n` nothing is found and nothing read -/
theorem indexBounds {g : σ → Outcome Nat} {s : σ} {n : Nat} (hg : g s = .ok n) (hn : n ≤ 2147483647) (i : Int)
    (rest : RM σ (Option Nat)) :
    (if Model.Runtime.numLt fo (.int i) (.int 0) then pure none else do
        let len ← RM.readR g
        if numGe fo (.int i) (sizeToNumber len) then pure none else rest : RM σ (Option Nat)) s =
      if 0 ≤ i ∧ i < n then rest s else .ok (none, s) := by
  simp only [numLt_int]
  by_cases hneg : i < 0
  · simp only [hneg, decide_true, if_true, show ¬ (0 ≤ i ∧ i < (n : Int)) by omega, if_false]; rfl
  · simp only [hneg, decide_false, Bool.false_eq_true, if_false]
    rw [bind_ok (readR_ok hg), sizeToNumber_small hn, numGe_int]
    by_cases hge : i ≥ (n : Int)
    · simp only [hge, decide_true, if_true, show ¬ (0 ≤ i ∧ i < (n : Int)) by omega, if_false]; rfl
    · simp only [hge, decide_false, Bool.false_eq_true, if_false, show (0 ≤ i ∧ i < (n : Int)) by omega, and_self, if_true]

theorem decodesList_getElem {view : StoreView F} : ∀ {as : List Nat} {vs : List (Val F)} (_ : DecodesList view as vs)
    (k : Nat) (hk : k < as.length), ∃ hv : k < vs.length, Decodes view as[k] vs[k]
  | _ :: _, _ :: _, .cons h t, 0, _ => ⟨by simp, h⟩
  | _ :: _, _ :: _, .cons h t, k + 1, hk => by
    obtain ⟨hv, d⟩ := decodesList_getElem t k (by simpa using hk)
    exact ⟨by simpa using hv, by simpa using d⟩

theorem listItems_of {s : σ} {a : Nat} {vs : List (Val F)} (h : Decodes (S.view s) a (.list vs)) :
    ∃ items, (S.view s).listItems a = some items ∧ DecodesList (S.view s) items vs := by
  cases h with
  | list _ hi hd => exact ⟨_, hi, hd⟩

theorem symList_of {s : σ} {a : Nat} {ps : List (SymPart F)} (h : Decodes (S.view s) a (.symList ps)) :
    (S.view s).symList a = some ps := by cases h; assumption

namespace Core
open On

variable {Inv : σ → Prop} {Rd : σ → Nat → Prop} {K : Prop}

theorem accOut_adds {s : σ} {m : RM σ Nat} {v : Val F} (h : AddsI S Inv m s v) :
    AccOutI S Inv s ((m >>= fun addr => pure (some addr)) s) (.some v) := by
  obtain ⟨x, s1, h1, d1, e1⟩ := h
  exact ⟨x, s1, by rw [bind_ok h1]; rfl, d1, e1⟩

theorem indexList_spec (L : LawsK S Inv Rd K) {s : σ} {a : Nat} {vs : List (Val F)} (i : Int)
    (h : Decodes (S.view s) a (.list vs)) (hlen : vs.length ≤ 2147483647)
    (hi : Inv s := by inv_tac) :
    AccOutI S Inv s (indexList fo S a (.int i) s) (accessInt fo (.int i) (.list vs)) := by
  obtain ⟨items, hit, hd⟩ := listItems_of h
  have hl := EqualityRefine.decodesList_length hd
  obtain ⟨hlen', hget⟩ := L.listIdx s a items hit
  simp only [accessInt, numLtZero, geLen_int, bounds_abs]
  rw [indexList, indexBounds fo (g := fun st => S.listLen st a) hlen' (hl ▸ hlen) i, hl]
  by_cases hin : 0 ≤ i ∧ i < (vs.length : Int)
  · have h1 : i.toNat < items.length := by omega
    have hg := hget i.toNat h1
    rw [show ((i.toNat : Nat) : Int) = i by omega] at hg
    simp only [hin, and_self, decide_true, Bool.not_true, Bool.false_eq_true, if_false, if_true]
    rw [bind_ok (readR_ok (g := fun st => S.listItem st a (.int i)) hg), List.getElem?_eq_getElem h1]
    obtain ⟨hv, d⟩ := decodesList_getElem hd i.toNat h1
    simp only [List.getElem?_eq_getElem hv]
    exact ⟨_, s, rfl, d, EffI.refl s hi⟩
  · simp only [hin, decide_false, Bool.not_false, if_true, if_false]
    exact ⟨s, rfl, EffI.refl s hi⟩

/-- one index function over the item getter's contract: the shared bounds prefix, then what follows the item read -/
theorem indexItem_spec {β : Type} {len : σ → Nat → Outcome Nat} {item : σ → Nat → Number F → Outcome (Option β)}
    {seq : Nat → Option (List β)} {s : σ} {a : Nat} {xs : List β} (hidx : Indexes (len s) (item s) seq) (hs : seq a = some xs)
    (hlen : xs.length ≤ 2147483647) (i : Int) {k : Option β → RM σ (Option Nat)} {mk : β → Val F}
    (hk : ∀ y, AccOutI S Inv s (k (some y) s) (.some (mk y))) (hi : Inv s) :
    AccOutI S Inv s
      ((if Model.Runtime.numLt fo (.int i) (.int 0) then pure none else do
          let n ← RM.readR (fun st => len st a)
          if numGe fo (.int i) (sizeToNumber n) then pure none else do
            let c ← RM.readR (fun st => item st a (.int i))
            k c : RM σ (Option Nat)) s)
      (itemAt mk xs i) := by
  obtain ⟨hlen', hget⟩ := hidx a xs hs
  rw [indexBounds fo (g := fun st => len st a) hlen' hlen i]
  unfold itemAt
  by_cases hin : 0 ≤ i ∧ i < (xs.length : Int)
  · have h1 : i.toNat < xs.length := by omega
    have hg := hget i.toNat h1
    rw [show ((i.toNat : Nat) : Int) = i by omega] at hg
    simp only [hin, and_self, if_true]
    rw [bind_ok (readR_ok (g := fun st => item st a (.int i)) hg), List.getElem?_eq_getElem h1]
    exact hk _
  · simp only [hin, if_false]
    exact ⟨s, rfl, EffI.refl s hi⟩

theorem indexCharList_spec (L : LawsK S Inv Rd K) {s : σ} {a : Nat} {cs : List Nat} (i : Int)
    (h : Decodes (S.view s) a (.chars cs)) (hlen : cs.length ≤ 2147483647)
    (hi : Inv s := by inv_tac) :
    AccOutI S Inv s (indexCharList fo S a (.int i) s) (accessInt fo (.int i) (.chars cs)) := by
  rw [accessInt_chars, indexCharList]
  exact indexItem_spec fo (len := S.charLen) (item := S.charItem) (L.charIdx s) (chars_of h) hlen i
    (fun y => accOut_adds (adds_i (L.addChar y s hi))) hi

theorem indexByteList_spec (L : LawsK S Inv Rd K) {s : σ} {a : Nat} {cs : List Nat} (i : Int)
    (h : Decodes (S.view s) a (.bytes cs)) (hlen : cs.length ≤ 2147483647)
    (hi : Inv s := by inv_tac) :
    AccOutI S Inv s (indexByteList fo S a (.int i) s) (accessInt fo (.int i) (.bytes cs)) := by
  rw [accessInt_bytes, indexByteList]
  exact indexItem_spec fo (len := S.byteLen) (item := S.byteItem) (L.byteIdx s) (bytes_of h) hlen i
    (fun y => accOut_adds (adds_i (L.addByte y s hi))) hi

theorem indexSymbolList_spec (L : LawsK S Inv Rd K) {s : σ} {a : Nat} {ps : List (SymPart F)} (i : Int)
    (h : Decodes (S.view s) a (.symList ps)) (hlen : ps.length ≤ 2147483647)
    (hi : Inv s := by inv_tac) :
    AccOutI S Inv s (indexSymbolList fo S a (.int i) s) (accessInt fo (.int i) (.symList ps)) := by
  rw [accessInt_symList, indexSymbolList]
  exact indexItem_spec fo (len := S.symLen) (item := S.symItem) (L.symIdx s) (symList_of h) hlen i
    (fun y => by
      cases y with
      | sym y => exact accOut_adds (adds_i (L.addSymbol y s hi))
      | num n => exact accOut_adds (adds_i (L.addNumber n s hi))) hi

end Core

end Garnish.Lemmas.Runtime
