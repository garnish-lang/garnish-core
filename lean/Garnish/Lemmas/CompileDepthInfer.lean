/-
C06 static half, completeness of the analysis: if SOME total assignment `D` of depths to the instructions of a
program is consistent (every instruction finds its operands at its depth, and each of its edges leads to an
instruction whose depth is the one the edge carries) and gives depth 0 to the entries, then the work-list search of
`absDepth` succeeds and its answer passes the consistency check. (Nothing here is about compiled code.)
-/
import Garnish.Props.C06Static
import Garnish.Lemmas.ListFacts
namespace Garnish.Props.C06
open Garnish Gen Garnish.Abs

variable {F : Type}

theorem needs_len {n k : Nat} {r es : List (Nat × Nat)} (h : (if n ≤ k then some r else none) = some es) :
    es.length = r.length := by
  obtain ⟨_, rfl⟩ := needs_some h; rfl

theorem edges_len {P : Prog F} {pc k : Nat} {es : List (Nat × Nat)} (h : edges P pc k = some es) : es.length ≤ 2 := by
  unfold edges at h
  split at h
  · simp only [Option.some.injEq] at h; subst h; simp
  · rename_i i o _
    have tgt : ∀ {r : Nat → List (Nat × Nat)} {n : Nat}, (∀ t, (r t).length ≤ 2) →
        ((o.bind (fun j => P.jumps[j]?)).bind (fun t => if n ≤ k then some (r t) else none)) = some es → es.length ≤ 2 := by
      intro r n hr hh
      cases ht : o.bind (fun j => P.jumps[j]?) with
      | none => simp [ht] at hh
      | some t =>
        rw [ht] at hh
        have hh' : (if n ≤ k then some (r t) else none) = some es := hh
        rw [needs_len hh']; exact hr t
    -- by the arms of `edges` in the order written there (9 `JumpTo`, 10-11 `JumpIf`, 12-13 `And`/`Or`, 14 `Reapply`,
    -- 15 `EndExpression`, 19 `MakeList`, 21 the operators, which share the default arm)
    split at h <;> dsimp only at h
    case h_9 =>
      cases ht : o.bind (fun j => P.jumps[j]?) with
      | none => simp [ht] at h
      | some t => simp only [ht, Option.map, Option.some.injEq] at h; subst h; simp
    case h_10 | h_11 => exact tgt (r := fun t => [(t, k - 1), (pc + 1, k - 1)]) (fun _ => by simp) h
    case h_12 | h_13 => exact tgt (r := fun t => [(t, k - 1), (pc + 1, k)]) (fun _ => by simp) h
    case h_14 => exact tgt (r := fun t => [(t, k - 1)]) (fun _ => by simp) h
    case h_15 => split at h <;> simp at h; subst h; simp
    case h_19 =>
      cases o with
      | none => simp at h
      | some n => simp only [Option.bind] at h; rw [needs_len h]; simp
    case h_21 =>
      split at h
      · rw [needs_len h]; simp
      · split at h
        · rw [needs_len h]; simp
        · cases h
    all_goals first
      | (simp only [Option.some.injEq] at h; subst h; simp; done)
      | (rw [needs_len h]; simp; done)

/-- a total, consistent assignment of depths -/
structure DOK (P : Prog F) (D : Array Nat) : Prop where
  size : D.size = P.instrs.size
  ok : ∀ pc k, D[pc]? = some k → ∃ es, edges P pc k = some es ∧ ∀ e ∈ es, P.instrs.size ≤ e.1 ∨ D[e.1]? = some e.2

section
variable {P : Prog F} {D : Array Nat}

/-- the state of the work-list search agrees with `D` and is closed up to the work that is left -/
structure InferInv (P : Prog F) (D : Array Nat) (entries : List Nat) (work : List (Nat × Nat)) (d : Array (Option Nat)) : Prop where
  size : d.size = P.instrs.size
  agree : ∀ (pc k : Nat), d[pc]? = some (some k) → D[pc]? = some k
  workOK : ∀ e ∈ work, P.instrs.size ≤ e.1 ∨ D[e.1]? = some e.2
  closed : ∀ (pc k : Nat), d[pc]? = some (some k) → ∃ es, edges P pc k = some es ∧
    ∀ e ∈ es, P.instrs.size ≤ e.1 ∨ d[e.1]? = some (some e.2) ∨ e ∈ work
  entriesOK : ∀ t ∈ entries, P.instrs.size ≤ t ∨ d[t]? = some (some 0) ∨ ((t, 0) : Nat × Nat) ∈ work

-- the measure: every step takes one item off the work list; only the step that gives a depth to a new instruction adds
-- items — its successors, at most two (`edges_len`) — and it uses up one `none` of `d`, which pays 3
theorem infer_ok (hD : DOK P D) (entries : List Nat) : ∀ (fuel : Nat) (work : List (Nat × Nat)) (d : Array (Option Nat)),
    InferInv P D entries work d → work.length + 3 * d.toList.count none ≤ fuel →
    ∃ d', infer P fuel work d = .ok d' ∧ InferInv P D entries [] d' := by
  intro fuel
  induction fuel with
  | zero =>
    intro work d inv hm
    have : work = [] := List.eq_nil_of_length_eq_zero (by omega)
    subst this
    exact ⟨d, rfl, inv⟩
  | succ fuel ih =>
    intro work d inv hm
    cases work with
    | nil => exact ⟨d, rfl, inv⟩
    | cons item work =>
      obtain ⟨pc, k⟩ := item
      simp only [infer]
      by_cases hpc : P.instrs.size ≤ pc
      · rw [if_pos hpc]
        refine ih work d ⟨inv.size, inv.agree, fun e he => inv.workOK e (List.mem_cons_of_mem _ he), ?_, ?_⟩
          (by simp only [List.length_cons] at hm; omega)
        · intro pc' k' h
          obtain ⟨es, he, hes⟩ := inv.closed pc' k' h
          refine ⟨es, he, fun e hm => ?_⟩
          rcases hes e hm with h1 | h1 | h1
          · exact .inl h1
          · exact .inr (.inl h1)
          · simp only [List.mem_cons] at h1
            rcases h1 with rfl | h1
            · exact .inl hpc
            · exact .inr (.inr h1)
        · intro t ht
          rcases inv.entriesOK t ht with h1 | h1 | h1
          · exact .inl h1
          · exact .inr (.inl h1)
          · simp only [List.mem_cons, Prod.mk.injEq] at h1
            rcases h1 with ⟨rfl, _⟩ | h1
            · exact .inl hpc
            · exact .inr (.inr h1)
      · rw [if_neg hpc]
        have hlt : pc < d.size := by rw [inv.size]; omega
        have hDk : D[pc]? = some k := by
          rcases inv.workOK (pc, k) (List.mem_cons_self) with h | h
          · exact absurd h hpc
          · exact h
        have hget : d[pc]? = some d[pc] := Array.getElem?_eq_getElem hlt
        cases hx : d[pc] with
        | some k' =>
          rw [hx] at hget
          simp only [hget]
          have hk' := inv.agree pc k' hget
          rw [hDk] at hk'
          simp only [Option.some.injEq] at hk'
          subst hk'
          simp only [if_true]
          refine ih work d ⟨inv.size, inv.agree, fun e he => inv.workOK e (List.mem_cons_of_mem _ he), ?_, ?_⟩
            (by simp only [List.length_cons] at hm; omega)
          · intro pc' k' h
            obtain ⟨es, he, hes⟩ := inv.closed pc' k' h
            refine ⟨es, he, fun e hm => ?_⟩
            rcases hes e hm with h1 | h1 | h1
            · exact .inl h1
            · exact .inr (.inl h1)
            · simp only [List.mem_cons] at h1
              rcases h1 with rfl | h1
              · exact .inr (.inl hget)
              · exact .inr (.inr h1)
          · intro t ht
            rcases inv.entriesOK t ht with h1 | h1 | h1
            · exact .inl h1
            · exact .inr (.inl h1)
            · simp only [List.mem_cons, Prod.mk.injEq] at h1
              rcases h1 with ⟨rfl, rfl⟩ | h1
              · exact .inr (.inl hget)
              · exact .inr (.inr h1)
        | none =>
          rw [hx] at hget
          simp only [hget]
          obtain ⟨es, he, hes⟩ := hD.ok pc k hDk
          simp only [he]
          have hset : ∀ q, (d.setIfInBounds pc (some k))[q]? = if q = pc then some (some k) else d[q]? := by
            intro q
            by_cases hq : q = pc
            · subst hq; simp [Array.getElem?_setIfInBounds, hlt]
            · simp [Array.getElem?_setIfInBounds, hq, Ne.symm hq]
          have hcount : (d.setIfInBounds pc (some k)).toList.count none + 1 = d.toList.count none := by
            rw [Array.toList_setIfInBounds]
            exact count_set_of_ne (by rw [Array.getElem?_toList]; exact hget) nofun
          have hlen := edges_len he
          refine ih (es ++ work) (d.setIfInBounds pc (some k)) ⟨by simp [inv.size], ?_, ?_, ?_, ?_⟩
            (by simp only [List.length_cons, List.length_append] at hm ⊢; omega)
          · intro q kq h
            rw [hset] at h
            split at h
            · rename_i hq; subst hq
              simp only [Option.some.injEq] at h; subst h; exact hDk
            · exact inv.agree q kq h
          · intro e hm
            simp only [List.mem_append] at hm
            rcases hm with hm | hm
            · exact hes e hm
            · exact inv.workOK e (List.mem_cons_of_mem _ hm)
          · intro q kq h
            rw [hset] at h
            split at h
            · rename_i hq; subst hq
              simp only [Option.some.injEq] at h; subst h
              exact ⟨es, he, fun e hm => .inr (.inr (List.mem_append.2 (.inl hm)))⟩
            · obtain ⟨es', he', hes'⟩ := inv.closed q kq h
              refine ⟨es', he', fun e hm => ?_⟩
              rcases hes' e hm with h1 | h1 | h1
              · exact .inl h1
              · right; left
                rw [hset]
                split
                · rename_i hq; rw [hq, hget] at h1; cases h1
                · exact h1
              · simp only [List.mem_cons] at h1
                rcases h1 with rfl | h1
                · right; left; rw [hset]; simp
                · exact .inr (.inr (List.mem_append.2 (.inr h1)))
          · intro t ht
            rcases inv.entriesOK t ht with h1 | h1 | h1
            · exact .inl h1
            · right; left
              rw [hset]
              split
              · rename_i hq; rw [hq, hget] at h1; cases h1
              · exact h1
            · simp only [List.mem_cons, Prod.mk.injEq] at h1
              rcases h1 with ⟨rfl, rfl⟩ | h1
              · right; left; rw [hset]; simp
              · exact .inr (.inr (List.mem_append.2 (.inr h1)))
end

theorem absDepth_complete {P : Prog F} {D : Array Nat} {entry : Nat} (hD : DOK P D)
    (hentries : ∀ t ∈ entry :: exprEntries P, P.instrs.size ≤ t ∨ D[t]? = some 0) :
    ∃ d, absDepth P entry = some d := by
  have inv0 : InferInv P D (entry :: exprEntries P) ((entry :: exprEntries P).map (fun t => (t, 0)))
      (Array.replicate P.instrs.size none) := by
    refine ⟨by simp, fun pc k h => ?_, fun e he => ?_, fun pc k h => ?_, fun t ht => ?_⟩
    · simp [Array.getElem?_replicate] at h
    · simp only [List.mem_map] at he
      obtain ⟨t, ht, rfl⟩ := he
      exact hentries t ht
    · simp [Array.getElem?_replicate] at h
    · exact .inr (.inr (List.mem_map.2 ⟨t, ht, rfl⟩))
  obtain ⟨d, hd, inv⟩ := infer_ok hD (entry :: exprEntries P) (3 * P.instrs.size + (entry :: exprEntries P).length + 1) _ _ inv0
    (by rw [Array.toList_replicate, List.count_replicate_self, List.length_map]; omega)
  have hcheck : checkDepth P (entry :: exprEntries P) d = true := by
    simp only [checkDepth, Bool.and_eq_true, beq_iff_eq, List.all_eq_true, List.mem_range]
    refine ⟨⟨inv.size, fun t ht => ?_⟩, fun pc hpc => ?_⟩
    · rcases inv.entriesOK t ht with h | h | h
      · simp [h]
      · simp [h]
      · simp at h
    · simp only [checkAt]
      split
      · rename_i k hk
        obtain ⟨es, he, hes⟩ := inv.closed pc k hk
        simp only [he, List.all_eq_true]
        intro e hm
        rcases hes e hm with h | h | h
        · simp [h]
        · simp [h]
        · simp at h
      · rfl
  refine ⟨d, ?_⟩
  simp only [absDepth, absDepthE]
  rw [hd]
  simp [hcheck]

end Garnish.Props.C06
