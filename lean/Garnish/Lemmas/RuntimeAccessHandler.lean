/-
Refinement lemmas for access.rs: the three arms of `access` (merge to a symbol list / look-up / defer) selected
by the same type pairs in the handler and in Abs/Ops `access`; the handler against Abs/Ops `access`.
-/
import Garnish.Lemmas.RuntimeAccess2
import Garnish.Lemmas.Ops
namespace Garnish.Lemmas.Runtime
open Garnish Gen Garnish.Abs Garnish.Model.Equality Garnish.Model.Runtime

variable {F σ : Type} {S : RStore F σ} (fo : FloatOps F)

theorem accessMatch_arm (fuel : Nat) (l r : Nat) (tl tr : Ty) :
    accessMatch fo S fuel l r tl tr = match accessArm tl tr with
      | .merge => (do let i ← S.mergeToSymbolList l r; S.pushRegister i)
      | .get => accessGet fo S fuel l r
      | .defer => deferOrUnit S .access (tl, l) (tr, r) := by
  cases tl <;> first | rfl | (cases tr <;> rfl)

/-- inside `AccessDomain` the value-level look-up never answers with Abs/Ops' "slices are not modelled" marker -/
theorem getAccess_ne_unsupportedErr {key v : Val F} (hd : AccessDomain v) :
    getAccess fo key v ≠ .err .unsupported := by
  unfold getAccess
  -- only the `.slice` arm answers `.err .unsupported` (`h_10` of `accessInt`, `h_5` of `accessSym`);
  -- there `AccessDomain` is `False`
  split
  · rename_i n
    unfold accessInt
    split
    -- the arm `.slice _ _` of `accessInt` is the only one that answers the marker; `AccessDomain` excludes it
    case h_10 => exact absurd hd id
    all_goals (repeat' split) <;> (intro h; cases h)
  · rename_i y
    unfold accessSym
    split
    -- likewise the arm `.slice _ _` of `accessSym`
    case h_5 => exact absurd hd id
    all_goals (repeat' split) <;> (intro h; cases h)
  · intro h; cases h

theorem merge_arm_some {vl vr : Val F} (h : accessArm vl.typeOf vr.typeOf = .merge) :
    ∃ v, mergeSymList vl vr = some v := by
  have ht : (vl.typeOf = .symbol ∨ vl.typeOf = .number ∨ vl.typeOf = .symbolList) ∧
      (vr.typeOf = .symbol ∨ vr.typeOf = .number ∨ vr.typeOf = .symbolList) := by
    revert h
    generalize vl.typeOf = tl
    generalize vr.typeOf = tr
    unfold accessArm
    split <;> simp
  cases vl <;> simp [Val.typeOf] at ht <;> cases vr <;> simp at ht <;> exact ⟨_, rfl⟩

theorem get_arm_key {vl vr : Val F} (h : accessArm vl.typeOf vr.typeOf = .get) :
    vr.typeOf = .number ∨ vr.typeOf = .symbol := by
  revert h
  generalize vl.typeOf = tl
  generalize vr.typeOf = tr
  unfold accessArm
  split <;> simp

namespace Core
open On

variable {Inv : σ → Prop} {Rd : σ → Nat → Prop} {K : Prop}

/-- `access` refines Abs/Ops `access`, given what the look-up of the get arm establishes from the state after the
two pops -/
theorem access_of_lookup (L : LawsK S Inv Rd K) (fuel : Nat) {s : σ} {r l : Nat} {vr vl : Val F} {rest : List Nat}
    (hregs : S.regs s = r :: l :: rest) (hl : Decodes (S.view s) l vl) (hr : Decodes (S.view s) r vr)
    (hdom : accessArm vl.typeOf vr.typeOf = .get → AccessDomain vl)
    (hga : accessArm vl.typeOf vr.typeOf = .get → ∀ s0, EffI S Inv s s0 rest (S.vals s) →
      AccOutI S Inv s0 (getAccessAddr fo S fuel r l s0) (getAccess fo vr vl))
    (hres : accessArm vl.typeOf vr.typeOf = .get → ∀ v, getAccess fo vr vl = .some v → K → v ≠ .custom)
    (hmg : accessArm vl.typeOf vr.typeOf = .merge → K → (∀ n, vl ≠ .num n) ∧ (∀ n, vr ≠ .num n))
    (hinv : Inv s := by inv_tac) (hdp : DeepK K S s rest := by deep_tac) :
    RefinesOutI S Inv s (Model.Runtime.access fo S fuel s) none rest l r (Abs.access fo vl vr) := by
  obtain ⟨s1, h1, e1⟩ := nextRef_cons L hregs
  obtain ⟨s0, h2, e2⟩ := nextRef_cons L e1.regs
  rw [e1.vals] at e2
  have e0 := e1.trans e2
  have hl0 := e0.dec hl
  have hr0 := e0.dec hr
  rw [Model.Runtime.access, bind_ok h1, bind_ok h2, bind_ok (getDataType_of hl0), bind_ok (getDataType_of hr0),
    accessMatch_arm, access_arm]
  cases harm : accessArm vl.typeOf vr.typeOf with
  | defer =>
    simp only []
    exact ⟨s0, e0, deferOrUnit_spec L s0 .access _ _ none⟩
  | merge =>
    simp only []
    obtain ⟨v, hv⟩ := merge_arm_some harm
    rw [hv]
    obtain ⟨x, s2, h3, d3, e3⟩ := adds_i (L.mergeSome l r vl vr v s0 e0.inv hl0 hr0 hv (fun k => (hmg harm k).1) (fun k => (hmg harm k).2))
    have hvc : v ≠ .custom := by
      unfold mergeSymList at hv
      simp only [] at hv
      split at hv <;> cases hv
      nofun
    obtain ⟨s3, h4, e4⟩ := pushReg L d3 fun _ => hvc
    rw [e3.regs, e3.vals, e0.regs, e0.vals] at e4
    exact ⟨x, s3, by rw [bind_apply, bind_ok h3, h4]; rfl, e4.dec d3, (e0.trans e3).trans e4⟩
  | get =>
    simp only []
    have ha := hga harm s0 e0
    have hne := getAccess_ne_unsupportedErr fo (key := vr) (hdom harm)
    rw [bind_apply, accessGet]
    cases hga : getAccess fo vr vl with
    | some v =>
      rw [hga] at ha
      obtain ⟨x, s2, h3, d3, e3⟩ := ha
      obtain ⟨s3, h4, e4⟩ := pushReg L d3 (hres harm v hga)
      rw [e3.regs, e3.vals, e0.regs, e0.vals] at e4
      simp only [h3, h4]
      exact ⟨x, s3, rfl, e4.dec d3, (e0.trans e3).trans e4⟩
    | none =>
      rw [hga] at ha
      obtain ⟨s2, h3, e3⟩ := ha
      obtain ⟨x, s3, h4, d4, e4⟩ := pushUnit_spec L s2
      rw [e3.regs, e3.vals, e0.regs, e0.vals] at e4
      simp only [h3, h4]
      exact ⟨x, s3, rfl, d4, (e0.trans e3).trans e4⟩
    | unsupported =>
      rw [hga] at ha
      simp only [AccOutI] at ha
      simp only [ha, beq_self_eq_true, if_true]
      refine ⟨s0, e0, ?_⟩
      rw [bind_ok (getDataType_of hl0), bind_ok (getDataType_of hr0)]
      exact deferOrUnit_spec L s0 .access _ _ none
    | err e =>
      rw [hga] at ha hne
      simp only [AccOutI] at ha
      have : (e == ErrClass.unsupported) = false := by
        cases e <;> first | rfl | exact absurd rfl hne
      simp only [ha, this, Bool.false_eq_true, if_false]
      rfl

theorem access_spec (L : LawsK S Inv Rd K) (fuel : Nat) {s : σ} {r l : Nat} {vr vl : Val F} {rest : List Nat}
    (hregs : S.regs s = r :: l :: rest) (hl : Decodes (S.view s) l vl) (hr : Decodes (S.view s) r vr)
    (hd : accessArm vl.typeOf vr.typeOf = .get → AccessDomain vl ∧ accessFuel vl ≤ fuel ∧
      ∀ n, vr = .num n → (∃ i, n = .int i) ∧ RangeOrdered fo n vl)
    (hx : accessArm vl.typeOf vr.typeOf = .get → (K → ncConcat vl) ∧
      ((∀ y, vr = .sym y → ∀ vs, vl ≠ .list vs) ∨ ListSymOn S Inv) ∧ ∀ v, getAccess fo vr vl = .some v → K → v ≠ .custom)
    (hmg : accessArm vl.typeOf vr.typeOf = .merge → K → (∀ n, vl ≠ .num n) ∧ (∀ n, vr ≠ .num n))
    (hinv : Inv s := by inv_tac) (hdp : DeepK K S s rest := by deep_tac) :
    RefinesOutI S Inv s (Model.Runtime.access fo S fuel s) none rest l r (Abs.access fo vl vr) :=
  access_of_lookup fo L fuel hregs hl hr (fun harm => (hd harm).1)
    (fun harm _ e0 => getAccessAddr_spec fo L fuel (e0.dec hr) (e0.dec hl) (hd harm).1 (hd harm).2.2 (hd harm).2.1
      (hx harm).1 (hx harm).2.1 e0.inv (deepK_regs_of e0 hdp))
    (fun harm => (hx harm).2.2) hmg hinv hdp

end Core

namespace On

variable {Inv : σ → Prop} {Rd : σ → Nat → Prop}

theorem get_arm_key {vl vr : Val F} (h : accessArm vl.typeOf vr.typeOf = .get) :
    vr.typeOf = .number ∨ vr.typeOf = .symbol :=
  Runtime.get_arm_key h

end On

end Garnish.Lemmas.Runtime
