/-
The store model of compaction (Store/BasicCells.lean, `WF` of Lemmas/OptimizeWF.lean) and the heap the accessor model
reads (Model/Access.lean, `Heap.WF` of Spec/AccessWF.lean): which heaps represent a store, and why a well-formed store
is represented by accessor-well-formed heaps only.
-/
import Garnish.Spec.AccessWF
import Garnish.Lemmas.OptimizeWF
import Garnish.Lemmas.Outcome
namespace Garnish.BasicOpt
open Garnish Garnish.Access

/-- `h` is a whole-allocation view of the store `s`: the data block of `h` starts where `s` says, ends at the cursor
of `s`, holds the cells of `s`, lies inside the allocation, and the allocation is a `Vec` (at most `usize::MAX`
cells).  The five other blocks are not constrained: the accessors that forget the block base read them. -/
structure Represents (s : Store) (h : Heap) : Prop where
  dstart : h.dstart = s.start
  cursor : h.cursor = s.cells.size
  cells : ∀ i, i < s.cells.size → h.heap[s.start + i]? = s.cells[i]?
  inside : h.dstart + h.cursor ≤ h.heap.size
  vec : h.heap.size ≤ USIZE_MAX

/-- an executable representative: the other blocks `Empty`, the data block padded to its allocated size -/
def toAccessHeap (s : Store) : Heap :=
  { heap := Array.replicate s.start Cell.empty ++ s.cells ++ Array.replicate (s.size - s.cells.size + s.custom.size) Cell.empty
    dstart := s.start
    cursor := s.cells.size }

theorem toAccessHeap_represents (s : Store)
    (hsz : s.start + s.cells.size + (s.size - s.cells.size + s.custom.size) ≤ USIZE_MAX) :
    Represents s (toAccessHeap s) := by
  refine ⟨rfl, rfl, ?_, ?_, ?_⟩
  · intro i hi
    simp only [toAccessHeap]
    rw [Array.getElem?_append_left (by simp; omega), Array.getElem?_append_right (by simp)]
    simp
  · simp [toAccessHeap] <;> omega
  · simp [toAccessHeap] <;> omega

theorem cellsAt_getElem? {s : Store} {h : Heap} (hr : Represents s h) (a n t : Nat) (han : a + n ≤ s.cells.size) :
    (h.cellsAt a n)[t]? = if t < n then s.cells[a + t]? else none := by
  unfold Heap.cellsAt
  simp only [List.extract_eq_take_drop, List.getElem?_take, List.getElem?_drop]
  have e : h.dstart + a + n - (h.dstart + a) = n := by omega
  rw [e]
  by_cases ht : t < n
  · simp only [ht, if_true]
    rw [Array.getElem?_toList, hr.dstart]
    have := hr.cells (a + t) (by omega)
    rw [← this]; congr 1; omega
  · simp [ht]

theorem inlineCells_getElem? {cells : Array Cell} {p : Cell → Bool} : ∀ (n a : Nat) (l : List Cell),
    inlineCells cells p a n = some l → a + n ≤ cells.size + (if n = 0 then a else 0) ∧
      ∀ t, t < n → cells[a + t]? = l[t]? ∧ ∃ c, l[t]? = some c ∧ p c = true
  | 0, a, l, h => by
    simp only [inlineCells, Option.some.injEq] at h
    subst h; exact ⟨by simp, fun t ht => by omega⟩
  | n + 1, a, l, h => by
    simp only [inlineCells] at h
    cases hc : cells[a]? with
    | none => simp [hc] at h
    | some c =>
      rw [hc] at h
      simp only at h
      split at h
      · rename_i hpc
        simp only [Option.map_eq_some_iff] at h
        obtain ⟨rest, hrest, rfl⟩ := h
        obtain ⟨h2, h3⟩ := inlineCells_getElem? n (a + 1) rest hrest
        have ha : a < cells.size := lt_of_getElem? hc
        refine ⟨?_, ?_⟩
        · simp only [Nat.add_one_ne_zero, if_false, Nat.add_zero]
          by_cases hn : n = 0
          · subst hn; omega
          · simp only [hn, if_false, Nat.add_zero] at h2; omega
        · intro t ht
          cases t with
          | zero => exact ⟨by simpa using hc, c, rfl, hpc⟩
          | succ t =>
            obtain ⟨g1, g2⟩ := h3 t (by omega)
            have e : a + (t + 1) = a + 1 + t := by omega
            rw [e]
            exact ⟨by simpa using g1, by simpa using g2⟩
      · simp at h

theorem collectWith_ok {β : Type} (proj : Cell → Option β) (bad : Outcome (List β)) :
    ∀ (l : List Cell), (∀ c ∈ l, (proj c).isSome = true) → isOk (collectWith proj bad l) = true
  | [], _ => rfl
  | c :: rest, h => by
    have hc := h c (by simp)
    simp only [collectWith]
    cases hp : proj c with
    | none => rw [hp] at hc; cases hc
    | some b =>
      have ih := collectWith_ok proj bad rest (fun x hx => h x (by simp [hx]))
      obtain ⟨bs, hr⟩ := Outcome.isOk_iff.1 ih
      rw [hr]; rfl

theorem cells_collect_ok {s : Store} {h : Heap} (hr : Represents s h) {β : Type} (proj : Cell → Option β)
    (bad : Outcome (List β)) {a n : Nat} (hb : a + n ≤ s.cells.size)
    (hk : ∀ t, t < n → ∃ c, s.cells[a + t]? = some c ∧ (proj c).isSome = true) :
    isOk (collectWith proj bad (h.cellsAt a n)) = true := by
  apply collectWith_ok
  intro c hc
  obtain ⟨t, ht⟩ := List.getElem?_of_mem hc
  rw [cellsAt_getElem? hr _ _ _ hb] at ht
  by_cases htn : t < n
  · simp only [htn, if_true] at ht
    obtain ⟨c', hc', hp⟩ := hk t htn
    rw [hc'] at ht; cases ht; exact hp
  · simp [htn] at ht

theorem inline_collect_ok {s : Store} {h : Heap} (hr : Represents s h) {β : Type} (proj : Cell → Option β)
    (bad : Outcome (List β)) {p : Cell → Bool} (hp : ∀ c, p c = true → (proj c).isSome = true) {i n : Nat} {l : List Cell}
    (hl : inlineCells s.cells p (i + 1) n = some l) (hi : i < s.cells.size) :
    i + n < s.cells.size ∧ isOk (collectWith proj bad (h.cellsAt (i + 1) n)) = true := by
  obtain ⟨h2, h3⟩ := inlineCells_getElem? _ _ _ hl
  have hb : i + 1 + n ≤ s.cells.size := by
    by_cases hn : n = 0
    · subst hn; omega
    · simp only [hn, if_false, Nat.add_zero] at h2; exact h2
  refine ⟨by omega, cells_collect_ok hr proj bad hb fun t ht => ?_⟩
  obtain ⟨g1, c, g2, hpc⟩ := h3 t ht
  exact ⟨c, g1.trans g2, hp c hpc⟩

theorem listItems_kind {cells : Array Cell} : ∀ (n a : Nat) (items : List Nat), listItems cells a n = some items →
    ∀ t, t < n → ∃ j, cells[a + t]? = some (.listItem j)
  | 0, _, _, _, t, ht => by omega
  | n + 1, a, items, h, t, ht => by
    simp only [listItems] at h
    cases hc : cells[a]? with
    | none => simp [hc] at h
    | some c =>
      rw [hc] at h
      cases c <;> simp only [] at h <;> try (simp at h; done)
      rename_i j
      simp only [Option.map_eq_some_iff] at h
      obtain ⟨rest, hrest, _⟩ := h
      cases t with
      | zero => exact ⟨j, by simpa using hc⟩
      | succ t =>
        obtain ⟨j', hj'⟩ := listItems_kind n (a + 1) rest hrest t (by omega)
        exact ⟨j', by have e : a + (t + 1) = a + 1 + t := by omega
                      rw [e]; exact hj'⟩

theorem list_collect_ok {s : Store} {h : Heap} (hr : Represents s h) {i n : Nat} {items : List Nat}
    (hl : listItems s.cells (i + 1) n = some items) (hi : i < s.cells.size) :
    i + n < s.cells.size ∧ isOk (collectItems (h.cellsAt (i + 1) n)) = true := by
  have hk := listItems_kind _ _ _ hl
  have hb : i + 1 + n ≤ s.cells.size := by
    by_cases hn : n = 0
    · subst hn; omega
    · obtain ⟨j, hj⟩ := hk (n - 1) (by omega)
      have := lt_of_getElem? hj; omega
  refine ⟨by omega, ?_⟩
  unfold collectItems
  exact cells_collect_ok hr _ _ hb fun t ht => by
    obtain ⟨j, hj⟩ := hk t ht
    exact ⟨_, hj, rfl⟩

theorem accessWF_of_headers {s : Store} {h : Heap} (hheaders : ∀ i, i < s.cells.size → headerOK s.cells i = true)
    (hcat : ∀ i l r, s.cells[i]? = some (Cell.concatenation l r) → l < i ∧ r < i) (hr : Represents s h) : h.WF := by
  refine ⟨hr.inside, hr.vec, ?_⟩
  intro i hi
  rw [hr.cursor] at hi
  unfold cellOKAt
  rw [hr.dstart, hr.cells i hi]
  obtain ⟨c, hc⟩ : ∃ c, s.cells[i]? = some c := ⟨s.cells[i], by simp [hi]⟩
  rw [hc]
  have hhd := hheaders i hi
  simp only [headerOK, hc] at hhd
  cases c <;> try rfl
  · -- SymbolList
    rename_i n
    simp only at hhd
    obtain ⟨sh, hsh⟩ := (by simpa [isNode, Option.isSome_iff_exists] using hhd : ∃ sh, shape s.cells i = some sh)
    unfold shape at hsh; rw [hc] at hsh
    simp only [Option.map_eq_some_iff] at hsh
    obtain ⟨l, hl, _⟩ := hsh
    obtain ⟨g1, g2⟩ := inline_collect_ok hr partOf (.err .data) (p := isSymPart)
      (by intro c hc; cases c <;> simp [isSymPart] at hc <;> rfl) hl hi
    simp only [cellOK, hr.cursor, Bool.and_eq_true, decide_eq_true_eq]
    exact ⟨g1, g2⟩
  · -- CharList
    rename_i n
    simp only at hhd
    obtain ⟨sh, hsh⟩ := (by simpa [isNode, Option.isSome_iff_exists] using hhd : ∃ sh, shape s.cells i = some sh)
    unfold shape at hsh; rw [hc] at hsh
    simp only [Option.map_eq_some_iff] at hsh
    obtain ⟨l, hl, _⟩ := hsh
    obtain ⟨g1, g2⟩ := inline_collect_ok hr charOf
      (.panic "garnish_impl.rs:get_char_list_iter: as_char().unwrap() on a cell that is not a Char") (p := isChar)
      (by intro c hc; cases c <;> simp [isChar] at hc <;> rfl) hl hi
    simp only [cellOK, hr.cursor, Bool.and_eq_true, decide_eq_true_eq]
    exact ⟨g1, g2⟩
  · -- ByteList
    rename_i n
    simp only at hhd
    obtain ⟨sh, hsh⟩ := (by simpa [isNode, Option.isSome_iff_exists] using hhd : ∃ sh, shape s.cells i = some sh)
    unfold shape at hsh; rw [hc] at hsh
    simp only [Option.map_eq_some_iff] at hsh
    obtain ⟨l, hl, _⟩ := hsh
    obtain ⟨g1, g2⟩ := inline_collect_ok hr byteOf
      (.panic "garnish_impl.rs:get_byte_list_iter: as_byte().unwrap() on a cell that is not a Byte") (p := isByte)
      (by intro c hc; cases c <;> simp [isByte] at hc <;> rfl) hl hi
    simp only [cellOK, hr.cursor, Bool.and_eq_true, decide_eq_true_eq]
    exact ⟨g1, g2⟩
  · -- List
    rename_i n k
    simp only at hhd
    obtain ⟨sh, hsh⟩ := (by simpa [isNode, Option.isSome_iff_exists] using hhd : ∃ sh, shape s.cells i = some sh)
    unfold shape at hsh; rw [hc] at hsh
    simp only at hsh
    split at hsh
    · rename_i items keys targets h1 h2
      obtain ⟨g1, g2⟩ := list_collect_ok hr h1 hi
      have hk : i + n + k < s.cells.size := by
        by_cases hk0 : k = 0
        · subst hk0; omega
        · obtain ⟨d, hd⟩ := assocItems_cell _ _ _ h2 (k - 1) (by omega)
          have := lt_of_getElem? hd; omega
      simp only [cellOK, hr.cursor, Bool.and_eq_true, decide_eq_true_eq]
      exact ⟨hk, g2⟩
    · simp at hsh
  · -- Concatenation
    rename_i l r
    simp only [cellOK, Bool.and_eq_true, decide_eq_true_eq]
    exact hcat i l r hc

theorem wf_implies_accessWF {s : Store} {h : Heap} (hwf : WF s) (hr : Represents s h) : h.WF := by
  refine accessWF_of_headers hwf.headers ?_ hr
  intro i l r hc
  have hi : i < s.cells.size := lt_of_getElem? hc
  have hsh : shape s.cells i = some ⟨.concatenation 0 0, [], [l, r]⟩ := shape_of_solo hc rfl
  have hn := hwf.nodes i hi
  simp only [nodeOK, hsh, List.all_eq_true, Bool.and_eq_true, decide_eq_true_eq] at hn
  exact ⟨(hn l (by simp)).1, (hn r (by simp)).1⟩

end Garnish.BasicOpt
