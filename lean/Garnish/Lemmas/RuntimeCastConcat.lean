/-
Refinement lemmas for casting.rs: the check functions `type_cast` hands to `iterate_concatenation_mut` CHANGE the store
and carry state (the closures of the `(Concatenation, List)` arm and of the concatenation sub-arm of `(Slice, List)` add
the visited item to the list under construction). Here such a check is described by a decision per running index
(`Pick`: skip the item, add it, or stop the walk) and an invariant `Q` relating the closure state to what has been
added (`PickRefines`); it is a walk in the sense of Lemmas/RuntimeConcat.lean (`PickRefines.walk`), which has the loops.
-/
import Garnish.Lemmas.RuntimeCast
import Garnish.Lemmas.RuntimeConcat2
namespace Garnish.Lemmas.Runtime
open Garnish Gen Garnish.Abs Garnish.Model.Equality Garnish.Model.Runtime
variable {F σ α : Type} {S : RStore F σ} (fo : FloatOps F)

inductive Pick where
  | skip | add | stop
deriving DecidableEq

/-- the items a walk with decisions `dec` adds, starting at running index `k` -/
def pickItems (dec : Nat → Pick) : Nat → List (Val F) → List (Val F)
  | _, [] => []
  | k, v :: vs =>
    match dec k with
    | .skip => pickItems dec (k + 1) vs
    | .add => v :: pickItems dec (k + 1) vs
    | .stop => []

/-- whether the walk stops inside the list -/
def pickStops (dec : Nat → Pick) : Nat → List (Val F) → Bool
  | _, [] => false
  | k, _ :: vs =>
    match dec k with
    | .stop => true
    | _ => pickStops dec (k + 1) vs

/-- the contract of a state-carrying check function: what it does for each decision, and that the work-list's own
register traffic does not disturb its invariant -/
structure PickRefines (S : RStore F σ) (checkFn : α → Number F → Nat → RM σ (Option Nat × α)) (dec : Nat → Pick)
    (Q : α → List Nat → σ → Prop) : Prop where
  skip : ∀ s acc built k addr, k ≤ 2147483647 → dec k = .skip → Q acc built s →
    checkFn acc (.int k) addr s = .ok ((none, acc), s)
  stop : ∀ s acc built k addr, k ≤ 2147483647 → dec k = .stop → Q acc built s →
    checkFn acc (.int k) addr s = .ok ((some addr, acc), s)
  add : ∀ s acc built k addr, k ≤ 2147483647 → dec k = .add → Q acc built s →
    ∃ acc' s', checkFn acc (.int k) addr s = .ok ((none, acc'), s') ∧ Eff S s s' (S.regs s) (S.vals s) ∧
      Q acc' (built ++ [addr]) s'
  pop : ∀ s acc built o s', Q acc built s → S.popRegister s = .ok (o, s') → Q acc built s'
  push : ∀ s acc built x u s', Q acc built s → S.pushRegister x s = .ok (u, s') → Q acc built s'

/-! A walk by decisions per index is a walk of Lemmas/RuntimeConcat.lean: it ends where the decision is `stop`, with the
item itself, and takes the items where it is `add`. -/

def pickChk (dec : Nat → Pick) (k : Nat) (v : Val F) : Option (Val F) :=
  match dec k with
  | .stop => some v
  | _ => none

def pickTake (dec : Nat → Pick) (k : Nat) (_ : Val F) : Bool :=
  match dec k with
  | .add => true
  | _ => false

theorem taken_pick (dec : Nat → Pick) : ∀ (k : Nat) (xs : List (Val F)),
    taken (pickChk dec) (pickTake dec) k xs = pickItems dec k xs
  | _, [] => rfl
  | k, x :: xs => by
    have ih := taken_pick dec (k + 1) xs
    rcases hd : dec k with _ | _ | _ <;> simp [taken, pickItems, pickChk, pickTake, hd, ih]

theorem firstHit_pick (dec : Nat → Pick) : ∀ (k : Nat) (xs : List (Val F)),
    (firstHit (pickChk dec) k xs).isSome = pickStops dec k xs
  | _, [] => rfl
  | k, x :: xs => by
    have ih := firstHit_pick dec (k + 1) xs
    rcases hd : dec k with _ | _ | _ <;> simp [firstHit, pickStops, pickChk, hd, ih]

theorem PickRefines.walk {checkFn : α → Number F → Nat → RM σ (Option Nat × α)} {dec : Nat → Pick}
    {Q : α → List Nat → σ → Prop} (hp : PickRefines S checkFn dec Q) :
    On.WalkRefines S (fun _ => True) checkFn (pickChk dec) (pickTake dec) Q where
  hit s acc built k addr v w hk dv hv hq := by
    cases hd : dec k <;> simp only [pickChk, hd, Option.some.injEq, reduceCtorEq] at hv
    exact ⟨addr, hp.stop s acc built k addr hk hd hq, hv ▸ dv⟩
  skip s acc built k addr v hk _ hv ht hq := by
    cases hd : dec k
    · exact hp.skip s acc built k addr hk hd hq
    · simp [pickTake, hd] at ht
    · simp [pickChk, hd] at hv
  add s acc built k addr v hk _ hv ht _ hq := by
    cases hd : dec k
    · simp [pickTake, hd] at ht
    · obtain ⟨acc', s', h1, e1, q1⟩ := hp.add s acc built k addr hk hd hq
      exact ⟨acc', s', h1, ⟨e1, trivial⟩, q1⟩
    · simp [pickChk, hd] at hv
  pop := hp.pop
  push := hp.push

end Garnish.Lemmas.Runtime
