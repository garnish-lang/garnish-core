/-
The list-backed reference store (Model/Runtime/RefStore.lean) satisfies the trait contract `StoreLaws`, for
every host and in every state (no well-formedness invariant is needed): `refStore_laws`.
-/
import Garnish.Model.Runtime.RefStore
import Garnish.Lemmas.RuntimeMono
import Garnish.Lemmas.RuntimeBase
namespace Garnish.Lemmas.Runtime
open Garnish Gen Garnish.Abs Garnish.Model.Equality Garnish.Model.Runtime

variable {F : Type}

/-! ### the getters of `refView`, unfolded one at a time (unfolding the whole structure is slow) -/

theorem rv_typeOf (cells : List (RCell F)) (a : Nat) :
    (refView cells).typeOf a = match cells[a]? with | some c => some c.ty | none => none := rfl
theorem rv_number (cells : List (RCell F)) (a : Nat) :
    (refView cells).number a = match cells[a]? with | some (.num n) => some n | _ => none := rfl
theorem rv_char (cells : List (RCell F)) (a : Nat) :
    (refView cells).char a = match cells[a]? with | some (.char c) => some c | _ => none := rfl
theorem rv_byte (cells : List (RCell F)) (a : Nat) :
    (refView cells).byte a = match cells[a]? with | some (.byte b) => some b | _ => none := rfl
theorem rv_symbol (cells : List (RCell F)) (a : Nat) :
    (refView cells).symbol a = match cells[a]? with | some (.sym s) => some s | _ => none := rfl
theorem rv_expression (cells : List (RCell F)) (a : Nat) :
    (refView cells).expression a = match cells[a]? with | some (.expr j) => some j | _ => none := rfl
theorem rv_external (cells : List (RCell F)) (a : Nat) :
    (refView cells).external a = match cells[a]? with | some (.ext n) => some n | _ => none := rfl
theorem rv_type_ (cells : List (RCell F)) (a : Nat) :
    (refView cells).type_ a = match cells[a]? with | some (.type t) => some t | _ => none := rfl
theorem rv_pair (cells : List (RCell F)) (a : Nat) :
    (refView cells).pair a = match cells[a]? with | some (.pair l r) => some (l, r) | _ => none := rfl
theorem rv_range (cells : List (RCell F)) (a : Nat) :
    (refView cells).range a = match cells[a]? with | some (.range s e) => some (s, e) | _ => none := rfl
theorem rv_concatenation (cells : List (RCell F)) (a : Nat) :
    (refView cells).concatenation a = match cells[a]? with | some (.concat l r _) => some (l, r) | _ => none := rfl
theorem rv_slice (cells : List (RCell F)) (a : Nat) :
    (refView cells).slice a = match cells[a]? with | some (.slice v r) => some (v, r) | _ => none := rfl
theorem rv_partial_ (cells : List (RCell F)) (a : Nat) :
    (refView cells).partial_ a = match cells[a]? with | some (.part f x) => some (f, x) | _ => none := rfl
theorem rv_listItems (cells : List (RCell F)) (a : Nat) :
    (refView cells).listItems a = match cells[a]? with | some (.list items) => some items | _ => none := rfl
theorem rv_concatItems (cells : List (RCell F)) (a : Nat) :
    (refView cells).concatItems a = match cells[a]? with | some (.concat _ _ items) => some items | _ => none := rfl
theorem rv_chars (cells : List (RCell F)) (a : Nat) :
    (refView cells).chars a = match cells[a]? with | some (.chars cs) => some cs | _ => none := rfl
theorem rv_bytes (cells : List (RCell F)) (a : Nat) :
    (refView cells).bytes a = match cells[a]? with | some (.bytes bs) => some bs | _ => none := rfl
theorem rv_symList (cells : List (RCell F)) (a : Nat) :
    (refView cells).symList a = match cells[a]? with | some (.symList ps) => some ps | _ => none := rfl

/-- rewrite every getter of `refView` to its `match` on the cell -/
local macro "rv" : tactic => `(tactic| simp only [rv_typeOf, rv_number, rv_char, rv_byte, rv_symbol, rv_expression, rv_external, rv_type_, rv_pair, rv_range, rv_concatenation, rv_slice, rv_partial_, rv_listItems, rv_concatItems, rv_chars, rv_bytes, rv_symList, List.getElem?_concat_length, RCell.ty])

theorem getElem?_append_of_ne {α} {l m : List α} {a : Nat} (h : l[a]? ≠ none) : (l ++ m)[a]? = l[a]? := by
  have : a < l.length := by
    apply Nat.lt_of_not_le
    intro hc
    exact h (List.getElem?_eq_none hc)
  exact List.getElem?_append_left this

theorem refView_le (cells more : List (RCell F)) : ViewLe (refView cells) (refView (cells ++ more)) := by
  constructor <;>
  · intro a x h
    simp only [rv_typeOf, rv_number, rv_char, rv_byte, rv_symbol, rv_expression, rv_external, rv_type_, rv_pair, rv_range,
      rv_concatenation, rv_slice, rv_partial_, rv_listItems, rv_concatItems, rv_chars, rv_bytes, rv_symList] at h ⊢
    have hh : cells[a]? ≠ none := by intro e; rw [e] at h; cases h
    rw [getElem?_append_of_ne hh]; exact h

theorem refView_new (cells : List (RCell F)) (c : RCell F) : (cells ++ [c])[cells.length]? = some c := by
  simp

theorem refView_typeOf {cells : List (RCell F)} {a : Nat} {c : RCell F} (hc : cells[a]? = some c) :
    (refView cells).typeOf a = some c.ty := by simp [rv_typeOf, hc]

theorem flatOf_flat {cells : List (RCell F)} {a : Nat} {v : Val F} (h : Decodes (refView cells) a v) :
    FlatOf (refView cells) a (flat cells a) := by
  have ht' := EqualityRefine.decodes_typeOf h
  cases hc : cells[a]? with
  | none => simp [rv_typeOf, hc] at ht'
  | some c =>
    have ht := refView_typeOf hc
    cases c with
    | list items =>
      have e : flat cells a = items := by simp [flat, hc]
      rw [e]; exact .list ht (by simp [rv_listItems, hc])
    | concat l r items =>
      have e : flat cells a = items := by simp [flat, hc]
      rw [e]
      rw [ht] at ht'
      cases h
      all_goals first
        | (exfalso; simp [Val.typeOf, RCell.ty] at ht'; done)
        | skip
      rename_i dl dr fl fr _ hcc ci
      have e1 : (refView cells).concatItems a = some items := by simp [rv_concatItems, hc]
      rw [e1] at ci
      cases ci
      exact .concat ht hcc fl fr
    | _ =>
      have e : flat cells a = [a] := by simp [flat, hc]
      rw [e]; exact .other ht (by simp [RCell.ty]) (by simp [RCell.ty])

variable (host : RefHost F)

theorem keeps_of_append {st st' : RefState F} (more : List (RCell F)) (hc : st'.cells = st.cells ++ more)
    (hj : st'.jumps = st.jumps) (hi : st'.instrLen = st.instrLen) (hu : st'.cursor = st.cursor)
    (hin : st'.instrs = st.instrs) :
    Keeps (refStore host) st st' := by
  refine ⟨fun a v h => ?_, ?_, hi, hu, ?_⟩
  · show Decodes (refView st'.cells) a v
    rw [hc]; exact decodes_mono (refView_le st.cells more) h
  · show (fun j => st'.jumps[j]?) = fun j => st.jumps[j]?
    rw [hj]
  · show (fun i => st'.instrs[i]?) = fun i => st.instrs[i]?
    rw [hin]

theorem keeps_same {st st' : RefState F} (hc : st'.cells = st.cells)
    (hj : st'.jumps = st.jumps) (hi : st'.instrLen = st.instrLen) (hu : st'.cursor = st.cursor)
    (hin : st'.instrs = st.instrs) :
    Keeps (refStore host) st st' := keeps_of_append host [] (by simp [hc]) hj hi hu hin

theorem adds_add (st : RefState F) (c : RCell F) (v : Val F)
    (hd : Decodes (refView (st.cells ++ [c])) st.cells.length v) :
    Adds (refStore host) (RefState.add c) st v :=
  ⟨st.cells.length, { st with cells := st.cells ++ [c] }, rfl, hd,
    ⟨keeps_of_append host [c] rfl rfl rfl rfl rfl, rfl, rfl, rfl, rfl⟩⟩

theorem dec_old {cells : List (RCell F)} (c : RCell F) {a : Nat} {v : Val F} (h : Decodes (refView cells) a v) :
    Decodes (refView (cells ++ [c])) a v := decodes_mono (refView_le cells [c]) h

theorem records_host (c : HostCall) : Records (refStore host) (RefState.host host c) c := by
  intro s b s' h
  simp only [RefState.host] at h
  cases hh : host c <;> rw [hh] at h <;> simp only [Outcome.ok.injEq, Prod.mk.injEq] at h <;>
    (obtain ⟨_, rfl⟩ := h; rfl)

/-- the `parts` of `Abs.mergeSymList` -/
def valParts : Val F → Option (List (SymPart F))
  | .sym s => some [.sym s]
  | .num n => some [.num n]
  | .symList ps => some ps
  | _ => none

theorem mergeSymList_eq (l r : Val F) : mergeSymList l r =
    match valParts l, valParts r with
    | some a, some b => some (.symList (a ++ b))
    | _, _ => none := by
  cases l <;> first | rfl | (cases r <;> rfl)

theorem symParts_of {cells : List (RCell F)} {a : Nat} {ps : List (SymPart F)} :
    ∀ {v : Val F}, valParts v = some ps → Decodes (refView cells) a v → symParts cells a = some ps := by
  intro v hp h
  unfold symParts
  cases v <;> cases hp
  · cases h with
    | num _ hg =>
      rw [rv_number] at hg
      split at hg
      · rename_i hc; cases hg; rw [hc]
      · cases hg
  · cases h with
    | sym _ hg =>
      rw [rv_symbol] at hg
      split at hg
      · rename_i hc; cases hg; rw [hc]
      · cases hg
  · cases h with
    | symList _ hg =>
      rw [rv_symList] at hg
      split at hg
      · rename_i hc; cases hg; rw [hc]
      · cases hg
/-- a cell that is a pair whose left cell is a symbol decodes to a pair keyed by that symbol -/
theorem keyed_of_cells {cells : List (RCell F)} {item l r k : Nat} {x : Val F}
    (hx : Decodes (refView cells) item x) (h1 : cells[item]? = some (.pair l r)) (h2 : cells[l]? = some (.sym k)) :
    ∃ v, x = .pair (.sym k) v ∧ Decodes (refView cells) r v := by
  have ht := EqualityRefine.decodes_typeOf hx
  rw [rv_typeOf, h1] at ht
  cases hx
  all_goals first
    | (exfalso; simp [Val.typeOf, RCell.ty] at ht; done)
    | skip
  rename_i l' r' vl vr dl dr _ hp
  rw [rv_pair, h1] at hp
  cases hp
  have htl := EqualityRefine.decodes_typeOf dl
  rw [rv_typeOf, h2] at htl
  cases dl
  all_goals first
    | (exfalso; simp [Val.typeOf, RCell.ty] at htl; done)
    | skip
  rename_i s' _ hs
  rw [rv_symbol, h2] at hs
  cases hs
  exact ⟨vr, rfl, dr⟩

/-- conversely, what the cells of a decoded keyed pair look like -/
theorem cells_of_keyed {cells : List (RCell F)} {item k : Nat} {v : Val F}
    (hx : Decodes (refView cells) item (.pair (.sym k) v)) :
    ∃ l r, cells[item]? = some (.pair l r) ∧ cells[l]? = some (.sym k) ∧ Decodes (refView cells) r v := by
  cases hx with
  | pair ht hp dl dr =>
    rename_i l r
    refine ⟨l, r, ?_, ?_, dr⟩
    · rw [rv_pair] at hp
      cases hc : cells[item]? with
      | none => rw [hc] at hp; cases hp
      | some c => rw [hc] at hp; cases c <;> cases hp <;> rfl
    · cases dl with
      | sym _ hs =>
        rw [rv_symbol] at hs
        cases hc : cells[l]? with
        | none => rw [hc] at hs; cases hs
        | some c => rw [hc] at hs; cases c <;> cases hs <;> rfl

theorem findKeyed_spec (cells : List (RCell F)) (sym : Nat) : ∀ (items : List Nat) (vs : List (Val F)),
    DecodesList (refView cells) items vs →
    match Abs.lookupSym sym vs with
    | some v => ∃ r, findKeyed cells sym items = some r ∧ Decodes (refView cells) r v
    | none => findKeyed cells sym items = none
  | [], _, .nil => rfl
  | item :: rest, x :: xs, .cons hx hrest => by
    have ih := findKeyed_spec cells sym rest xs hrest
    -- is the item a pair keyed by a symbol?
    by_cases hk : ∃ k v, x = .pair (.sym k) v
    · obtain ⟨k, v, rfl⟩ := hk
      obtain ⟨l, r, h1, h2, dr⟩ := cells_of_keyed hx
      simp only [Abs.lookupSym, findKeyed, h1, h2]
      by_cases hks : k = sym
      · subst hks; simp only [beq_self_eq_true, if_true]; exact ⟨r, rfl, dr⟩
      · have : (k == sym) = false := by simpa using hks
        simp only [this]; exact ih
    · have e1 : Abs.lookupSym sym (x :: xs) = Abs.lookupSym sym xs := by
        cases x <;> try rfl
        rename_i xl xr
        cases xl <;> try rfl
        exact absurd ⟨_, _, rfl⟩ hk
      have e2 : findKeyed cells sym (item :: rest) = findKeyed cells sym rest := by
        rw [findKeyed]
        cases h1 : cells[item]? with
        | none => rfl
        | some c =>
          cases c <;> try rfl
          rename_i l r
          simp only []
          cases h2 : cells[l]? with
          | none => rfl
          | some c2 =>
            cases c2 <;> try rfl
            rename_i k
            obtain ⟨v, rfl, _⟩ := keyed_of_cells hx h1 h2
            exact absurd ⟨_, _, rfl⟩ hk
      rw [e1, e2]; exact ih

theorem idx_laws {β : Type} (seq : Nat → Option (List β)) :
    Indexes (F := F) (fun a => idxLen (seq a)) (fun a i => idxItem (seq a) i) seq := by
  intro a xs h
  simp only [h, idxLen, idxItem]
  refine ⟨trivial, fun i hi => ?_⟩
  have : ¬ ((i : Int) < 0) := by omega
  simp [this]

theorem refStore_laws : StoreLaws (refStore host) where
  rangeTyped st a p h := by
    change (refView st.cells).range a = _ at h
    show (refView st.cells).typeOf a = _
    rw [rv_range] at h
    rw [rv_typeOf]
    generalize st.cells[a]? = oc at h ⊢
    cases oc with
    | none => cases h
    | some c => cases c <;> first | rfl | cases h
  listIdx st := idx_laws _
  charIdx st := idx_laws _
  byteIdx st := idx_laws _
  symIdx st := idx_laws _
  listSym st a items vs sym hi hd := by
    have h := findKeyed_spec st.cells sym items vs hd
    have e : (refStore host).listItemWithSymbol st a sym = .ok (findKeyed st.cells sym items) := by
      show (match (refView st.cells).listItems a with
        | some items => Outcome.ok (findKeyed st.cells sym items)
        | none => .err .data) = _
      rw [show (refView st.cells).listItems a = some items from hi]
    cases hl : Abs.lookupSym sym vs with
    | none => rw [hl] at h; simp only [] at h ⊢; rw [e, h]
    | some v =>
      rw [hl] at h
      obtain ⟨r, h1, d⟩ := h
      exact ⟨r, by rw [e, h1], d⟩
  addUnit st := adds_add host st .unit .unit (.unit (by rv))
  addTrue st := adds_add host st .tru .tru (.tru (by rv))
  addFalse st := adds_add host st .fls .fls (.fls (by rv))
  addNumber n st := adds_add host st (.num n) (.num n) (.num (by rv) (by rv))
  addType t st := adds_add host st (.type t) (.type t) (.type (by rv) (by rv))
  addChar c st := adds_add host st (.char c) (.char c) (.char (by rv) (by rv))
  addByte b st := adds_add host st (.byte b) (.byte b) (.byte (by rv) (by rv))
  addSymbol y st := adds_add host st (.sym y) (.sym y) (.sym (by rv) (by rv))
  addPair l r vl vr st hl hr := adds_add host st (.pair l r) (.pair vl vr)
    (.pair (by rv) (by rv) (dec_old _ hl) (dec_old _ hr))
  addConcatenation l r vl vr st hl hr :=
    adds_add host st (.concat l r (flat st.cells l ++ flat st.cells r)) (.concat vl vr)
      (.concat (by rv) (by rv) (dec_old _ hl) (dec_old _ hr)
        (flatOf_mono (refView_le _ _) (flatOf_flat hl)) (flatOf_mono (refView_le _ _) (flatOf_flat hr))
        (by rv))
  addRange l r vl vr st hl hr := adds_add host st (.range l r) (.range vl vr)
    (.range (by rv) (by rv) (dec_old _ hl) (dec_old _ hr))
  addSlice l r vl vr st hl hr := adds_add host st (.slice l r) (.slice vl vr)
    (.slice (by rv) (by rv) (dec_old _ hl) (dec_old _ hr))
  addPartial l r vl vr st hl hr := adds_add host st (.part l r) (.part vl vr)
    (.part (by rv) (by rv) (dec_old _ hl) (dec_old _ hr))
  mergeSome l r vl vr v st hl hr hm := by
    rw [mergeSymList_eq] at hm
    split at hm
    · rename_i a b ha hb
      cases hm
      have e1 := symParts_of ha hl
      have e2 := symParts_of hb hr
      have key : (refStore host).mergeToSymbolList l r st = RefState.add (.symList (a ++ b)) st := by
        show (match symParts st.cells l, symParts st.cells r with
          | some a, some b => RefState.add (.symList (a ++ b)) st
          | _, _ => .err .data) = _
        rw [e1, e2]
      obtain ⟨x, s', h1, d, e⟩ := adds_add host st (.symList (a ++ b)) (.symList (a ++ b))
        (.symList (by rv) (by rv))
      exact ⟨x, s', key.trans h1, d, e⟩
    · cases hm
  startList n st := ⟨0, { st with building := some (0, []) }, rfl,
    ⟨keeps_same host rfl rfl rfl rfl rfl, rfl, rfl, rfl, rfl⟩, rfl⟩
  addToList t items a st hb := by
    have hb' : st.building = some (t, items) := hb
    refine ⟨t + 1, { st with building := some (t + 1, items ++ [a]) }, ?_,
      ⟨keeps_same host rfl rfl rfl rfl rfl, rfl, rfl, rfl, rfl⟩, rfl⟩
    show (match st.building with
      | some (t0, items) =>
        if t0 == t then Outcome.ok (t + 1, { st with building := some (t + 1, items ++ [a]) }) else .err .data
      | none => .err .data) = _
    rw [hb']; simp
  endList t items vs st hb hd := by
    have hb' : st.building = some (t, items) := hb
    refine ⟨st.cells.length, { st with cells := st.cells ++ [.list items], building := none }, ?_, ?_,
      ⟨keeps_of_append host [.list items] rfl rfl rfl rfl rfl, rfl, rfl, rfl, rfl⟩⟩
    · show (match st.building with
        | some (t0, items) =>
          if t0 == t then
            Outcome.ok (st.cells.length, { st with cells := st.cells ++ [RCell.list items], building := none })
          else .err .data
        | none => .err .data) = _
      rw [hb']; simp
    · show Decodes (refView (st.cells ++ [RCell.list items])) st.cells.length (.list vs)
      exact Decodes.list (by rw [rv_typeOf, List.getElem?_concat_length]; rfl)
        (by rw [rv_listItems, List.getElem?_concat_length]) (decodesList_mono (refView_le _ _) hd)
  popRegisterBuilding st o st' h := by
    have h' : (match st.regs with
      | [] => Outcome.ok (none, st)
      | a :: rest => .ok (some a, { st with regs := rest })) = .ok (o, st') := h
    cases hr : st.regs with
    | nil => rw [hr] at h'; cases h'; rfl
    | cons a rest => rw [hr] at h'; cases h'; rfl
  pushRegister a st := ⟨{ st with regs := a :: st.regs }, rfl, keeps_same host rfl rfl rfl rfl rfl, rfl, rfl, rfl, rfl⟩
  popRegisterNil st h := ⟨st, by
    show (match st.regs with | [] => _ | a :: rest => _) = _
    rw [show st.regs = [] from h], keeps_same host rfl rfl rfl rfl rfl, h, rfl, rfl, rfl⟩
  popRegisterCons st a rest h := ⟨{ st with regs := rest }, by
    show (match st.regs with | [] => _ | a :: rest => _) = _
    rw [show st.regs = a :: rest from h], keeps_same host rfl rfl rfl rfl rfl, rfl, rfl, rfl, rfl⟩
  pushValueStack a st := ⟨{ st with vals := a :: st.vals }, rfl, keeps_same host rfl rfl rfl rfl rfl, rfl, rfl, rfl, rfl⟩
  popValueStackNil st h := ⟨st, by
    show (match st.vals with | [] => _ | a :: rest => _) = _
    rw [show st.vals = [] from h], keeps_same host rfl rfl rfl rfl rfl, rfl, h, rfl, rfl⟩
  popValueStackCons st a rest h := ⟨{ st with vals := rest }, by
    show (match st.vals with | [] => _ | a :: rest => _) = _
    rw [show st.vals = a :: rest from h], keeps_same host rfl rfl rfl rfl rfl, rfl, rfl, rfl, rfl⟩
  setCurrentNil r st h := ⟨st, by
    show (match st.vals with | [] => _ | _ :: rest => _) = _
    rw [show st.vals = [] from h], keeps_same host rfl rfl rfl rfl rfl, rfl, h, rfl, rfl⟩
  setCurrentCons r st a rest h := ⟨{ st with vals := r :: rest }, by
    show (match st.vals with | [] => _ | _ :: rest => _) = _
    rw [show st.vals = a :: rest from h], keeps_same host rfl rfl rfl rfl rfl, rfl, rfl, rfl, rfl⟩
  pushFrame j st := ⟨{ st with frames := (j, st.regs) :: st.frames }, rfl,
    ⟨keeps_same host rfl rfl rfl rfl rfl, rfl, rfl, rfl, rfl⟩⟩
  popFrameNil st hf := by
    refine ⟨st, ?_, keeps_same host rfl rfl rfl rfl rfl, rfl, rfl, rfl, rfl⟩
    show (match st.frames with | [] => _ | (ret, saved) :: fs => _) = _
    rw [show st.frames = [] from hf]
  popFrameCons st ret saved fs hf := by
    refine ⟨{ st with frames := fs, regs := saved }, ?_, ⟨keeps_same host rfl rfl rfl rfl rfl, rfl, rfl, rfl, rfl⟩⟩
    show (match st.frames with | [] => _ | (ret, saved) :: fs => _) = _
    rw [show st.frames = (ret, saved) :: fs from hf]
  setCursor n st := ⟨{ st with cursor := n }, rfl, rfl, fun _ _ h => h, rfl, rfl, rfl, rfl, rfl, rfl, rfl, rfl⟩
  deferOp op l r := records_host host _
  resolve y := records_host host _
  apply e a := records_host host _

end Garnish.Lemmas.Runtime
