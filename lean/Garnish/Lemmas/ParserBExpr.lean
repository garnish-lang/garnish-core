/-
Brackets: complete expressions of a frame, both sides.  `ExprOK toks ls`: from the start of a frame (the very beginning, or
right after an opening bracket) the tokens `toks` are processed to a state that satisfies `UInv` for a tree `E` (`ExprRes`), and the
reference parser's frame holds the reference tree of `E` (`ExprRef`, for numbered tokens; `ls`: the last item was a suffix
operator).  Constructors: the
first operand (`expr_first`), a suffix operator (`expr_suf`), an operator-like token with its right operand (`expr_op`
over an `OpStep`; `expr_bin` for a binary operator).
-/
import Garnish.Lemmas.ParserBRef

namespace Garnish.Spec
open Garnish Garnish.Gen Garnish.Model.Parser

/-- what may precede the first token of a frame's expression -/
def StartPrev (st : PState) : Prop :=
  st.previousSecondDef = .none ∨ st.previousSecondDef = .startGrouping ∨ st.previousSecondDef = .startSideEffect ∨
    st.previousSecondDef = .whitespace ∨ st.previousSecondDef = .annotation ∨ st.previousSecondDef = .subexpression

/-- reference side of a complete expression that starts a frame of kind `inG` at position `pos`: the frame's tree is `T` -/
def ExprRef (inG : Bool) (pos : Nat) (toks : List PToken) (T : RTree) (ls : Bool) : Prop :=
  ∀ f : Frame, f.cur = .nil → f.last = .start → f.inGroup = inG →
    RefSeg pos toks f { f with cur := T, last := if ls then .suffix else .operand, ws := false, prevSep := false }

/-- the state `st1` after a complete expression of a frame that started in `st0`: the invariant for its tree `E`, the frame
    rule, and the node count (`c` nodes stay unlinked) -/
structure ExprRes (st0 st1 : PState) (ug p : Option Nat) (base : Nat) (E : Tree) (re cb c : Nat) (ls : Bool) : Prop where
  inv : UInv st1 ug p base E re cb
  gs : st1.groupStack = st0.groupStack
  cg : st1.currentGroup = st0.currentGroup
  outer : Outer base st0.nodes st1.nodes
  ready : ls = false → Ready st1
  cnt : E.inorder.length + base + c = st1.nodes.size

def ExprOK (c : Nat) (inG : Bool) (toks : List PToken) (ls : Bool) : Prop :=
  ∀ (st0 : PState) (ug p : Option Nat) (base : Nat), OpenB st0 ug → FrameStart st0 ug p base → AllPrio st0.nodes →
    CGOK st0 → KindOK st0 ug inG → StartPrev st0 → ∀ (rest : List PToken),
    ∃ (st1 : PState) (E : Tree) (re cb : Nat),
      loop st0 (toks ++ rest) = loop st1 rest ∧ ExprRes st0 st1 ug p base E re cb c ls ∧
      ∀ (pos : Nat), NumberedFrom pos toks → ExprRef inG pos toks (toRG (dfOf st1.nodes) E) ls

theorem ExprRes.kind {st0 st1 : PState} {ug p : Option Nat} {base : Nat} {E : Tree} {re cb c : Nat} {ls inG : Bool}
    (h : ExprRes st0 st1 ug p base E re cb c ls) (hfs : FrameStart st0 ug p base) (hk : KindOK st0 ug inG) :
    KindOK st1 ug inG := by
  apply hk.transfer (base := base) _ h.outer.upto
  intro g hg
  cases hfs with
  | top _ _ => cases hg
  | bracket g' G pg h1 _ _ _ _ _ => injection hg with hg; omega

theorem prio_dfOf {nodes : Array ParseNode} (hp : AllPrio nodes) {i : Nat} (hi : i < nodes.size) :
    Table.gen.prio (dfOf nodes i) = some (prioAt nodes i) := by
  have hsome : ∃ nd, nodes[i]? = some nd := by
    cases hnd : nodes[i]? with
    | none => rw [Array.getElem?_eq_none_iff] at hnd; omega
    | some nd => exact ⟨nd, rfl⟩
  obtain ⟨nd, hnd⟩ := hsome
  obtain ⟨p, hp⟩ := hp i nd hnd
  show priority _ = _
  simp [dfOf, prioAt, hnd, hp]

/-- **`attach`, then the operand, is `insertC` with the operand's subtree**, the result read in any later array `arr` that
    kept the definitions of the frame's nodes and holds the new node `d` at index `nodes.size` -/
theorem attach_toRG {nodes arr : Array ParseNode} {ug p : Option Nat} {base : Nat} {E : Tree} {re cb : Nat}
    (hn : NInv nodes ug p base E re) (hs : SpineG (dfOf nodes) cb E)
    (hdefs : ∀ j, j < nodes.size → (arr[j]?).map (·.definition) = (nodes[j]?).map (·.definition))
    {d : Definition} (hdn : dfOf arr nodes.size = d) (hnb : isBracketDef d = false) (q : Nat) (rtl : Bool) (ko : Nat)
    (sub : Tree) (P : RTree → RTree) (hP : PlugFn (dfOf arr) d sub P) :
    P (attach Table.gen q rtl d ko (toRG (dfOf nodes) E)) =
      toRG (dfOf arr) (insertC cb (prioAt nodes) q rtl nodes.size ko sub E) := by
  have hcong : ∀ i ∈ E.inorder, dfOf nodes i = dfOf arr i := fun i hi => by simp only [dfOf, hdefs i (hn.mem i hi).2]
  subst hdn
  rw [toRG_congr _ _ E hcong]
  exact insertC_toRG (dfOf arr) (prioAt nodes) q rtl nodes.size ko sub cb P hP hnb E
    (fun i hi => by rw [← hcong i hi]; exact prio_dfOf hn.prios (hn.mem i hi).2) (hs.congr hcong)

theorem attach_toRG_nil {nodes arr : Array ParseNode} {ug p : Option Nat} {base : Nat} {E : Tree} {re cb : Nat}
    (hn : NInv nodes ug p base E re) (hs : SpineG (dfOf nodes) cb E)
    (hdefs : ∀ j, j < nodes.size → (arr[j]?).map (·.definition) = (nodes[j]?).map (·.definition))
    {d : Definition} (hdn : dfOf arr nodes.size = d) (hnb : isBracketDef d = false) (q : Nat) (rtl : Bool) (ko : Nat) :
    attach Table.gen q rtl d ko (toRG (dfOf nodes) E) =
      toRG (dfOf arr) (insertC cb (prioAt nodes) q rtl nodes.size ko .nil E) :=
  attach_toRG hn hs hdefs hdn hnb q rtl ko .nil id ⟨fun _ _ _ _ _ => rfl, fun _ _ => rfl, fun _ => rfl⟩

theorem FrameStart.above_ne {st0 : PState} {ug p : Option Nat} {base : Nat} (h : FrameStart st0 ug p base) :
    aboveDef st0 ≠ .access := by
  cases h with
  | top h1 _ => simp [aboveDef, h1]
  | bracket g G pg h1 _ hG hgl _ _ =>
    unfold aboveDef
    rw [h1, Nat.add_sub_cancel, hG]
    intro e
    simp only [Option.map_some, Option.getD_some] at e
    rw [e] at hgl; cases hgl

theorem expr_first {c : Nat} {inG : Bool} {x : List PToken} (hx : OpdOK c x) : ExprOK c inG x false := by
  intro st0 ug p base hO hfs hprios hcg _ _ rest
  obtain ⟨st2, sub, cb, P, hloop, hres, hP, hcnt, href⟩ := hx st0 ug hO hprios hcg rest
  obtain ⟨hb, _⟩ := hfs.base_eq
  refine ⟨st2, sub, base, cb, hloop, ⟨uinv_first hfs hO.hug hres, hres.gs, hres.cg,
    .of_below fun j hj => hres.below j (by omega), fun _ => hres.ready, by rw [hb]; exact hcnt⟩, ?_⟩
  intro pos hnum f hc hl _
  have := href pos hnum f (Or.inr (Or.inl hl))
  rw [hc, hP.nil hfs.above_ne] at this
  exact this

theorem expr_suf {c : Nat} {inG : Bool} {e : List PToken} {ls : Bool} (he : ExprOK c inG e ls) (s : PToken)
    (hs : isSuffixTok s = true) : ExprOK c inG (e ++ [s]) true := by
  intro st0 ug p base hO hfs hprios hcg hk hsp rest
  obtain ⟨stE, E, re, cb, hloopE, ⟨hinvE, hgsE, hcgE, hOE, hrdE, hcntE⟩, hrefE⟩ :=
    he st0 ug p base hO hfs hprios hcg hk hsp ([s] ++ rest)
  obtain ⟨q, st1, re', hq, h1, hinv1, hs1, hgs1, hcg1, hdefs1, hO1, hdn⟩ :=
    suffix_effectU hinvE s rest.isEmpty hs
  have hsd : (getDefinition s.type).2 = .unarySuffix := by unfold isSuffixTok at hs; simpa using hs
  obtain ⟨_, _, _, hnb⟩ := suffix_prio20 s.type hsd
  refine ⟨st1, _, re', st1.nodes.size, ?_, ⟨hinv1, by rw [hgs1, hgsE], by rw [hcg1, hcgE], hOE.trans hO1,
    (fun h => Bool.noConfusion h),
    by show (insertC _ _ _ _ _ _ _ _).inorder.length + _ + _ = _; rw [insertC_inorder]
       simp only [List.length_append, List.length_cons, Tree.inorder, List.length_nil]; omega⟩, ?_⟩
  · rw [List.append_assoc, hloopE]
    simp only [List.cons_append, List.nil_append, loop, h1, Outcome.bind]
  · intro pos hnum f hc hl hig
    have hscol : s.col = pos + e.length := (numbered_append e [s] pos hnum).1
    refine (hrefE pos (numbered_prefix e [s] pos hnum) f hc hl hig).append (RefSeg.one fun stack rest => ?_)
    rw [ref_suffix_stepK _ stack _ q s rest hs hq (by cases ls <;> simp)]
    simp only
    rw [attach_toRG_nil hinvE.n hinvE.spine hdefs1 hdn hnb q false (pos + e.length), hscol]
    rfl

/-- **an operator-like token `o` between an expression and the operand `x`**, in a frame of kind `inG`; `ws2` is what may
    stand between `o` and `x`.  `run`: from a state after an operand the parser processes `o ws2` to an open operand
    position, and a complete operand then gives the tree with `o` inserted; `ref`: the reference parser attaches `o` and
    skips `ws2` (what it does may depend on the tokens that follow: a separator before a closer is dropped). -/
structure OpStep (inG : Bool) (o : PToken) (ws2 x : List PToken) (rtl : Bool) : Prop where
  nb : isBracketDef (getDefinition o.type).1 = false
  run : ∀ {st : PState} {ug p : Option Nat} {base : Nat} {E : Tree} {re cb : Nat}, UInv st ug p base E re cb →
    KindOK st ug inG → ∀ rest : List PToken,
    ∃ (q : Nat) (s1 : PState), priority (getDefinition o.type).1 = some q ∧
      loop st (o :: (ws2 ++ (x ++ rest))) = loop s1 (x ++ rest) ∧
      OpPos st ug p base E cb q rtl (getDefinition o.type).1 o.col s1
  ref : ∀ (f : Frame) (stack : List Frame) (pos q : Nat) (restR : List PToken),
    priority (getDefinition o.type).1 = some q → f.inGroup = inG → f.prevSep = false →
    (f.last = .operand ∨ f.last = .suffix) →
    ∃ (l : Last) (b psep : Bool), OpenLast l ∧
      refRun Table.gen f stack pos (o :: ws2) (x ++ restR) =
        .ok ({ f with cur := attach Table.gen q rtl (getDefinition o.type).1 pos f.cur, last := l, ws := b,
                      prevSep := psep }, stack)

/-- an expression, trivia, an operator-like token, and its right operand -/
theorem expr_op {c1 c2 : Nat} {inG : Bool} {e x ws1 ws2 : List PToken} {ls rtl : Bool} {o : PToken}
    (he : ExprOK c1 inG e ls) (hx : OpdOK c2 x) (hw1 : ∀ w ∈ ws1, isTriviaTok w = true) (hS : OpStep inG o ws2 x rtl) :
    ExprOK (c1 + c2) inG (e ++ (ws1 ++ (o :: (ws2 ++ x)))) false := by
  intro st0 ug p base hO hfs hprios hcg hk hsp rest
  obtain ⟨stE, E, re, cb, hloopE, hE, hrefE⟩ :=
    he st0 ug p base hO hfs hprios hcg hk hsp (ws1 ++ (o :: (ws2 ++ x)) ++ rest)
  have hinvE := hE.inv
  obtain ⟨stE', hloopW1, hinvE', hnE', hgsE', hcgE'⟩ := trivia_runU ws1 stE ((o :: (ws2 ++ x)) ++ rest) hinvE hw1
  obtain ⟨q, s1, hq, hloopO, h1⟩ := hS.run hinvE' ((hE.kind hfs hk).congr (fun g _ => by rw [hnE'])) rest
  have hcg1ok : CGOK s1 := by
    unfold CGOK at hcg ⊢
    rw [h1.cg, h1.gs, hcgE', hgsE', hE.cg, hE.gs]; exact hcg
  obtain ⟨st2, sub, cb', P, hloopX, hres, hP, hcntX, hrefX⟩ := hx s1 ug h1.openB h1.prios hcg1ok rest
  obtain ⟨re', hinv2, hdefs2, hO2, hdn⟩ := h1.close st2 sub cb' hres
  have hs1 := h1.size
  have hcntE := hE.cnt
  simp only [insU, hnE'] at hinv2 hdefs2 hO2 hdn hs1
  refine ⟨st2, _, re', cb', ?_, ⟨hinv2, by rw [hres.gs, h1.gs, hgsE', hE.gs], by rw [hres.cg, h1.cg, hcgE', hE.cg],
    hE.outer.trans hO2, fun _ => hres.ready, ?_⟩, ?_⟩
  · have e1 : e ++ (ws1 ++ (o :: (ws2 ++ x))) ++ rest = e ++ (ws1 ++ (o :: (ws2 ++ x)) ++ rest) := by simp
    have e2 : ws1 ++ (o :: (ws2 ++ x)) ++ rest = ws1 ++ ((o :: (ws2 ++ x)) ++ rest) := by simp
    have e3 : (o :: (ws2 ++ x)) ++ rest = o :: (ws2 ++ (x ++ rest)) := by simp
    rw [e1, hloopE, e2, hloopW1, e3, hloopO, hloopX]
  · show (insertC _ _ _ _ _ _ _ _).inorder.length + _ + _ = _
    rw [insertC_inorder]
    simp only [List.length_append, List.length_cons]
    omega
  · -- the reference parser
    intro pos hnum f hc hl hig stack restR
    have hnum1 := numbered_append e _ pos hnum
    have hnum2 := numbered_append ws1 _ _ hnum1
    have hocol : o.col = pos + e.length + ws1.length := hnum2.1
    have hnum3 : NumberedFrom (pos + e.length + ws1.length + (o :: ws2).length) x := by
      have := numbered_append ws2 x _ hnum2.2
      simp only [List.length_cons]
      rw [show pos + e.length + ws1.length + (ws2.length + 1) = pos + e.length + ws1.length + 1 + ws2.length by omega]
      exact this
    obtain ⟨b1, hb1⟩ := refSeg_trivia ws1 hw1 (pos + e.length)
      { f with cur := toRG (dfOf stE.nodes) E, last := if ls then .suffix else .operand, ws := false, prevSep := false }
    obtain ⟨l, b, psep, hl', hstep⟩ := hS.ref
      { f with cur := toRG (dfOf stE.nodes) E, last := if ls then .suffix else .operand, ws := b1, prevSep := false }
      stack (pos + e.length + ws1.length) q restR hq hig rfl (by cases ls <;> simp)
    refine refRun_append_ok (hrefE pos (numbered_prefix e _ pos hnum) f hc hl hig stack _) ?_
    refine refRun_append_ok (hb1 stack _) ?_
    have e3 : o :: (ws2 ++ x) = (o :: ws2) ++ x := rfl
    rw [e3]
    refine refRun_append_ok hstep ?_
    rw [hrefX _ hnum3 _ hl' stack restR]
    simp only
    rw [attach_toRG hinvE.n hinvE.spine hdefs2 hdn hS.nb q rtl (pos + e.length + ws1.length) sub P
      (by rw [← h1.above]; exact hP), hocol]
    rfl

theorem opStep_bin {inG : Bool} {o : PToken} {ws2 x : List PToken} (ho : isBin3Tok o = true)
    (hw2 : ∀ w ∈ ws2, isTriviaTok w = true) (hxne : x ≠ []) :
    OpStep inG o ws2 x ((getDefinition o.type).2 == .binaryRightToLeft) := by
  refine ⟨(bin3_prio20 o.type (by unfold isBin3Tok at ho; exact ho)).choose_spec.2.2, ?_, ?_⟩
  · intro st ug p base E re cb hinv _ rest
    obtain ⟨q, st1, hq, h1, hpos⟩ := bin_stepU hinv ho
    obtain ⟨st1', hloopW2, hO1', hn1', hnp1', _, hgs1', hcg1'⟩ :=
      trivia_runB ws2 st1 ug (x ++ rest) hpos.openB (by have := hpos.size; omega) hw2
        (List.append_ne_nil_of_left_ne_nil hxne _)
    refine ⟨q, st1', hq, ?_, hpos.transfer hO1' hn1' hnp1' hgs1' hcg1'⟩
    simp only [loop]
    rw [isEmpty_append_of_ne ws2 (List.append_ne_nil_of_left_ne_nil hxne _), h1]
    simp only [Outcome.bind]
    exact hloopW2
  · intro f stack pos q restR hq _ _ hl
    obtain ⟨b2, hb2⟩ := refSeg_trivia ws2 hw2 (pos + 1)
      { f with cur := attach Table.gen q ((getDefinition o.type).2 == .binaryRightToLeft) (getDefinition o.type).1 pos f.cur,
               last := lastAfter (getDefinition o.type).2, ws := false, prevSep := false }
    exact ⟨lastAfter (getDefinition o.type).2, b2, false, lastAfter_open _,
      refRun_append_ok (a := [o]) (refRun_one (ref_op_stepK f stack pos q o _ ho hq hl)) (hb2 stack _)⟩

theorem expr_bin {c1 c2 : Nat} {inG : Bool} {e x ws1 ws2 : List PToken} {ls : Bool} {o : PToken} (he : ExprOK c1 inG e ls)
    (hx : OpdOK c2 x)
    (ho : isBin3Tok o = true) (hw1 : ∀ w ∈ ws1, isTriviaTok w = true) (hw2 : ∀ w ∈ ws2, isTriviaTok w = true)
    (hxne : x ≠ []) :
    ExprOK (c1 + c2) inG (e ++ (ws1 ++ (o :: (ws2 ++ x)))) false :=
  expr_op he hx hw1 (opStep_bin ho hw2 hxne)

theorem setRight_none_eq {a b : ParseNode} (h : setRight none a = setRight none b) :
    a.definition = b.definition ∧ a.parent = b.parent ∧ a.left = b.left ∧ a.lexToken = b.lexToken ∧
      a.secondaryDefinition = b.secondaryDefinition := by
  cases a; cases b
  simp only [setRight, ParseNode.mk.injEq] at h
  exact ⟨h.1, h.2.2.1, h.2.2.2.1, h.2.2.2.2.2, h.2.1⟩

theorem isCloseFor_closes {d : Definition} {c : PToken} (h : isCloseFor d c) : closes d c := by
  rcases h with h | h
  · exact Or.inl h
  · exact Or.inr (Or.inl h)

theorem isCloseFor_secdef {d : Definition} {c : PToken} (h : isCloseFor d c) : (getDefinition c.type).2 = .endGrouping := by
  rcases h with ⟨_, h⟩ | ⟨_, h⟩ <;> rw [h] <;> rfl

end Garnish.Spec
