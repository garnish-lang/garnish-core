/-
The tie between the two builder models: else-chains — what is known after the arms (`DoneA`, `SimArmsF`), one arm,
inner `ElseJump` nodes, and the `ElseJump` node at the top (`sim_chain_top`).
-/
import Garnish.Lemmas.CompileTreeNodes

/-! The conditions of the arms are emitted inline; each arm's `JumpIf` registers the arm body with the `ElseJump` node at the top
of the chain (`conditional_items`); the bodies become roots when the top node is visited the second time. -/

namespace Garnish.Abs.Tree
open Garnish Garnish.Gen Garnish.Spec Garnish.Abs Garnish.Model.Parser Garnish.Model.Literals Garnish.Model.Build
open Garnish.Lemmas.BuildPlan hiding emit

variable {F : Type}

/-- an arm body that has been registered with the top of its chain: node, interval, jump entry of its `JumpIf` -/
structure ArmRec (F : Type) where
  idx : Nat
  lo : Nat
  hi : Nat
  j : Nat
  t : Expr F

def ArmRec.item (a : ArmRec F) : ConditionItem := ⟨a.idx, a.j, (.invalid, none)⟩

def asum (A : List (ArmRec F)) : Nat := (A.map (fun a => 2 * (a.hi - a.lo))).sum

@[simp] theorem asum_nil : asum ([] : List (ArmRec F)) = 0 := rfl
@[simp] theorem asum_cons (a : ArmRec F) (A : List (ArmRec F)) : asum (a :: A) = 2 * (a.hi - a.lo) + asum A := by simp [asum]
@[simp] theorem asum_append (A B : List (ArmRec F)) : asum (A ++ B) = asum A + asum B := by simp [asum]

variable (pf : List Char → Option F) (tree : Array ParseNode) (bodies : List (Nat × Expr F))

/-- `Done` for a part of an else-chain: besides the pending roots `newR`, the arm bodies `recs` that have been registered with
the node `top` at the top of the chain, whose entry was `tb` -/
structure DoneA (In : Nat → Prop) (top : Nat) (tb : BuildNode) (nodes nodes' : Nodes) (newR : List (RRec F))
    (recs : List (ArmRec F)) : Prop where
  size : nodes'.size = nodes.size
  frame : ∀ x, ¬ In x → x ≠ top → nodes'[x]? = nodes[x]?
  top : nodes'[top]? = some (some { tb with conditionalItems := tb.conditionalItems ++ (recs.map ArmRec.item).toArray })
  roots : ∀ q ∈ newR, (∀ x, q.lo ≤ x → x < q.hi → In x) ∧ q.lo ≤ q.idx ∧ q.idx < q.hi ∧
    nodes'[q.idx]? = some (some (bnOfRoot q.idx q.root)) ∧ RepRoot pf tree bodies q
  arms : ∀ a ∈ recs, (∀ x, a.lo ≤ x → x < a.hi → In x) ∧ a.lo ≤ a.idx ∧ a.idx < a.hi ∧ a.idx < tree.size ∧
    Rep pf tree bodies a.lo a.hi a.idx a.t
  cover : ∀ x, In x → (∃ b, nodes'[x]? = some (some b)) ∨ (∃ q ∈ newR, q.lo ≤ x ∧ x < q.hi) ∨ ∃ a ∈ recs, a.lo ≤ x ∧ x < a.hi
  disjR : newR.Pairwise (fun a b => a.hi ≤ b.lo ∨ b.hi ≤ a.lo)
  disjA : recs.Pairwise (fun a b => a.hi ≤ b.lo ∨ b.hi ≤ a.lo)
  disjRA : ∀ q ∈ newR, ∀ a ∈ recs, q.hi ≤ a.lo ∨ a.hi ≤ q.lo

/-- a part of an else-chain below the top `ElseJump` (conditional arms, or the final arm): node `c` was scheduled with the
top node as conditional parent; `f root cur s` is what the structured compiler emits for the part, with the arm bodies it
collects -/
def SimArmsF (lo hi c : Nat) (f : Nat → Nat → LState F → LState F × List (Expr F × Nat)) : Prop :=
  ∀ (crj root cur top : Nat) (data : BState F) (nodes : Nodes) (RS S : Array Nat) (s : LState F) (tb : BuildNode),
    nodes.size = tree.size → nodes[c]? = some (some (mkNode c cur none (Ex.ofCond (some top)))) →
    (top < lo ∨ hi ≤ top) → nodes[top]? = some (some tb) → DataEq data s → cur < s.jumps.size →
    ∃ (k : Nat) (data' : BState F) (nodes' : Nodes) (RS' : Array Nat) (newR : List (RRec F)) (recs : List (ArmRec F)),
      Steps pf tree crj k ⟨data, nodes, RS, S.push c⟩ ⟨data', nodes', RS', S⟩ ∧ k + wsum newR + asum recs ≤ 2 * (hi - lo) ∧
      DataEq data' (f root cur s).1 ∧ (f root cur s).2 = recs.map (fun a => (a.t, a.j)) ∧
      RS'.toList = RS.toList ++ (newR.map (·.idx)).reverse ∧
      (f root cur s).1.pending = newR.map (·.root) ++ s.pending ∧
      DoneA pf tree bodies (Ival lo hi) top tb nodes nodes' newR recs

/-- the conditional arms of an else-chain -/
def SimArms (lo hi c : Nat) (arms : List (Bool × Expr F × Expr F)) : Prop :=
  SimArmsF pf tree bodies lo hi c (fun root cur s => emitArms root cur arms s)

variable {pf tree bodies}

/-- conditions and other inline parts do not register anything -/
theorem DoneA.ofDone {In : Nat → Prop} {top : Nat} {tb p : BuildNode} {n : Nat} {A B : Nodes} {R : List (RRec F)}
    (h : Done pf tree bodies In none p n A B R) (ht : ¬ In top) (hA : A[top]? = some (some tb)) :
    DoneA pf tree bodies In top tb A B R [] where
  size := h.size
  frame x hx _ := h.frame x hx (fun _ _ hh => by cases hh)
  top := by rw [h.frame top ht (fun _ _ hh => by cases hh), hA]; simp
  roots := h.roots
  arms _ ha := by cases ha
  cover x hx := (h.cover x hx).imp id (fun hh => .inl hh)
  disjR := h.disj
  disjA := List.Pairwise.nil
  disjRA _ _ _ ha := by cases ha

theorem DoneA.trans {In1 In2 : Nat → Prop} {top : Nat} {tb : BuildNode} {A B C : Nodes} {R1 R2 : List (RRec F)}
    {M1 M2 : List (ArmRec F)}
    (h1 : DoneA pf tree bodies In1 top tb A B R1 M1)
    (h2 : DoneA pf tree bodies In2 top { tb with conditionalItems := tb.conditionalItems ++ (M1.map ArmRec.item).toArray } B C R2 M2)
    (disj : ∀ x, In1 x → In2 x → False) (ht : ¬ In1 top ∧ ¬ In2 top) :
    DoneA pf tree bodies (fun x => In1 x ∨ In2 x) top tb A C (R2 ++ R1) (M1 ++ M2) where
  size := by rw [h2.size, h1.size]
  frame x hx hp := by rw [h2.frame x (fun h => hx (.inr h)) hp, h1.frame x (fun h => hx (.inl h)) hp]
  top := by
    rw [h2.top]
    simp [Array.append_assoc]
  roots q hq := by
    rcases List.mem_append.1 hq with hq | hq
    · obtain ⟨a, b, c, d, e⟩ := h2.roots q hq
      exact ⟨fun x h1 h2 => .inr (a x h1 h2), b, c, d, e⟩
    · obtain ⟨a, b, c, d, e⟩ := h1.roots q hq
      refine ⟨fun x h1 h2 => .inl (a x h1 h2), b, c, ?_, e⟩
      rw [h2.frame q.idx (fun h => disj _ (a _ b c) h) (fun e => ht.1 (e ▸ a _ b c))]
      exact d
  arms a ha := by
    rcases List.mem_append.1 ha with ha | ha
    · obtain ⟨x1, x2, x3, x4, x5⟩ := h1.arms a ha
      exact ⟨fun x h1 h2 => .inl (x1 x h1 h2), x2, x3, x4, x5⟩
    · obtain ⟨x1, x2, x3, x4, x5⟩ := h2.arms a ha
      exact ⟨fun x h1 h2 => .inr (x1 x h1 h2), x2, x3, x4, x5⟩
  cover x hx := by
    rcases hx with hx | hx
    · rcases h1.cover x hx with ⟨b, hb⟩ | ⟨q, hq, h⟩ | ⟨a, ha, h⟩
      · refine .inl ⟨b, ?_⟩
        rw [h2.frame x (fun h => disj _ hx h) (fun e => ht.1 (e ▸ hx))]
        exact hb
      · exact .inr (.inl ⟨q, List.mem_append_right _ hq, h⟩)
      · exact .inr (.inr ⟨a, List.mem_append_left _ ha, h⟩)
    · rcases h2.cover x hx with h | ⟨q, hq, h⟩ | ⟨a, ha, h⟩
      · exact .inl h
      · exact .inr (.inl ⟨q, List.mem_append_left _ hq, h⟩)
      · exact .inr (.inr ⟨a, List.mem_append_right _ ha, h⟩)
  disjR := by
    rw [List.pairwise_append]
    refine ⟨h2.disjR, h1.disjR, fun a ha b hb => ?_⟩
    obtain ⟨a1, a2, a3, _⟩ := h2.roots a ha
    obtain ⟨b1, b2, b3, _⟩ := h1.roots b hb
    exact intervals_apart disj a1 b1 (Nat.lt_of_le_of_lt a2 a3) (Nat.lt_of_le_of_lt b2 b3)
  disjA := by
    rw [List.pairwise_append]
    refine ⟨h1.disjA, h2.disjA, fun a ha b hb => ?_⟩
    obtain ⟨a1, a2, a3, _⟩ := h1.arms a ha
    obtain ⟨b1, b2, b3, _⟩ := h2.arms b hb
    exact intervals_apart (fun x hx1 hx2 => disj x hx2 hx1) a1 b1 (by omega) (by omega)
  disjRA q hq a ha := by
    rcases List.mem_append.1 hq with hq | hq <;> rcases List.mem_append.1 ha with ha | ha
    · obtain ⟨q1, q2, q3, _⟩ := h2.roots q hq
      obtain ⟨a1, a2, a3, _⟩ := h1.arms a ha
      exact intervals_apart disj q1 a1 (by omega) (by omega)
    · exact h2.disjRA q hq a ha
    · exact h1.disjRA q hq a ha
    · obtain ⟨q1, q2, q3, _⟩ := h1.roots q hq
      obtain ⟨a1, a2, a3, _⟩ := h2.arms a ha
      exact intervals_apart (fun x hx1 hx2 => disj x hx2 hx1) q1 a1 (by omega) (by omega)

/-- one conditional arm `a` around its condition (`[lo, a)`, worked off from `A` to `C`): the first visit wrote only `a` and
`l`, the second one registered the body `[a + 1, hi)` at the top of the chain (`Z` for `C`) -/
theorem DoneA.arm {nodes A C Z : Nodes} {lo hi a l r top j m : Nat} {t : Expr F} {tb p : BuildNode} {R : List (RRec F)}
    (h : Done pf tree bodies (Ival lo a) none p m A C R) (hAs : A.size = nodes.size)
    (hA : ∀ y, y ≠ a → y ≠ l → A[y]? = nodes[y]?) (hZs : Z.size = C.size) (hZ : ∀ y, y ≠ top → Z[y]? = C[y]?)
    (hZt : Z[top]? = some (some { tb with conditionalItems := tb.conditionalItems.push ⟨r, j, (.invalid, none)⟩ }))
    (hZa : ∃ b, Z[a]? = some (some b)) (hli : lo ≤ l ∧ l < a) (hri : a + 1 ≤ r ∧ r < hi) (hrt : r < tree.size)
    (htop : top < lo ∨ hi ≤ top) (hrep : Rep pf tree bodies (a + 1) hi r t) :
    DoneA pf tree bodies (Ival lo hi) top tb nodes Z R [⟨r, a + 1, hi, j, t⟩] := by
  refine ⟨by rw [hZs, h.size, hAs], fun x hx hxt => ?_, ?_, fun q hq => ?_, fun m hm => ?_, fun x hx => ?_, h.disj,
    List.pairwise_singleton _ _, fun q hq m hm => ?_⟩
  · rw [hZ x hxt, h.frame x (fun hh => hx (by simp only [Ival] at hh ⊢; omega)) (fun _ _ hh => by cases hh),
      hA x (fun e => hx (by subst e; exact ⟨by omega, by omega⟩)) (fun e => hx (by subst e; exact ⟨by omega, by omega⟩))]
  · rw [hZt]
    simp only [List.map_cons, List.map_nil, ArmRec.item, Array.push_eq_append_singleton]
  · obtain ⟨x1, x2, x3, x4, x5⟩ := h.roots q hq
    refine ⟨fun x h1 h2 => by have := x1 x h1 h2; simp only [Ival] at this ⊢; omega, x2, x3, ?_, x5⟩
    rw [hZ q.idx (by have := x1 _ x2 x3; simp only [Ival] at this; omega)]
    exact x4
  · simp only [List.mem_singleton] at hm
    subst hm
    exact ⟨fun x h1 h2 => ⟨by simp only at h1; omega, h2⟩, hri.1, hri.2, hrt, hrep⟩
  · by_cases hxa : x = a
    · subst hxa; exact .inl hZa
    · by_cases hxl : x < a
      · rcases h.cover x ⟨hx.1, hxl⟩ with ⟨b, hb⟩ | hh
        · exact .inl ⟨b, by rw [hZ x (by have := hx.1; have := hx.2; omega)]; exact hb⟩
        · exact .inr (.inl hh)
      · exact .inr (.inr ⟨_, List.mem_singleton.2 rfl, by simp only; omega, hx.2⟩)
  · simp only [List.mem_singleton] at hm
    subst hm
    obtain ⟨x1, x2, x3, _⟩ := h.roots q hq
    have := x1 (q.hi - 1) (by omega) (by omega)
    simp only [Ival] at this
    exact .inl (by simp only; omega)

theorem sim_arm {lo hi a l r : Nat} {onTrue : Bool} {c t : Expr F} {pn : ParseNode} (hpn : tree[a]? = some pn)
    (hd : pn.definition = jumpIfDef onTrue) (hl : pn.left = some l) (hr : pn.right = some r)
    (hw : Within tree (a + 1) hi r) (hrep : Rep pf tree bodies (a + 1) hi r t) (ih : SimAt pf tree bodies lo a l c) :
    Within tree lo hi a ∧ SimArms pf tree bodies lo hi a [(onTrue, c, t)] := by
  refine ⟨.both hpn ih.1 hw, ?_⟩
  obtain ⟨⟨hli, hlt⟩, ih⟩ := ih
  obtain ⟨hri, hrt⟩ := hw
  intro crj root cur top data nodes RS S s tb hsz ha htop htb hdat hcur
  have hb0l : (mkNode a cur none (Ex.ofCond (some top))).listParent = none := rfl
  obtain ⟨A, st1, hAsz, hAa, hAs, hAo⟩ := first_step_plan (pf := pf) (RS := RS) (S := S) (W := [a, l]) (dataF := data)
    (nb := visited (mkNode a cur none (Ex.ofCond (some top)))) (sets := [(l, mkNode l cur none Ex.none, "build.rs:699")])
    hpn ha (by rw [jumpIf_instr onTrue _ crj a pn hd, handleJumpIf_eq]) (by simp only [jumpIfPlan, unaryPlan, hl]; rfl)
    (fun q hq => by cases List.mem_singleton.1 hq; exact ⟨by rw [hsz]; exact hlt, by omega⟩) (List.pairwise_singleton _ _)
    (.inr hb0l)
  have hAl := hAs _ List.mem_cons_self
  have hAo : ∀ y, y ≠ a → y ≠ l → A[y]? = nodes[y]? := fun y h1 h2 =>
    hAo y h1 (fun q hq => by cases List.mem_singleton.1 hq; exact Ne.symm h2)
  have preC : Pre tree A lo a l cur none Ex.none tb :=
    Pre.child none tb (by rw [hAsz, hsz]) hAl (fun ⟨_, h⟩ => by cases h)
  obtain ⟨k1, data1, C, RS1, R1, stC, hk1, hd1, hrs1, hp1, done1, _⟩ :=
    ih crj root cur data A RS (S.push a) s none Ex.none tb preC hdat hcur
  have hCa : C[a]? = some (some (visited (mkNode a cur none (Ex.ofCond (some top))))) := by
    rw [done1.frame a (by simp only [Ival]; omega) (fun _ _ h => by cases h)]; exact hAa
  have hCtop : C[top]? = some (some tb) := by
    rw [done1.frame top (by simp only [Ival]; omega) (fun _ _ h => by cases h), hAo top (by omega) (by omega)]; exact htb
  have hCsz : C.size = nodes.size := by rw [done1.size, hAsz]
  have hj1 : data1.jumps.size = (emit root cur c s).jumps.size := by rw [hd1.jumps]
  generalize hZ : putNode C top { tb with conditionalItems := tb.conditionalItems.push ⟨r, (emit root cur c s).jumps.size, (.invalid, none)⟩ } = Z
  have hhZ : handleParseNode pf ⟨data1, C, RS1, S⟩ crj a pn =
      .ok ⟨pushInstr (pushToJumpTable data1 0) (jumpIf onTrue) (some (emit root cur c s).jumps.size) (some a), Z, RS1, S⟩ := by
    rw [jumpIf_instr onTrue _ crj a pn hd]
    simp only [handleJumpIf, getNode, hCa, Outcome.bind, hr]
    rw [show (visited (mkNode a cur none (Ex.ofCond (some top)))).state = .initialized from rfl,
      show (visited (mkNode a cur none (Ex.ofCond (some top)))).conditionalParent = some top from rfl]
    simp only [hCtop, getJumpTableLen, hj1, ← hZ]
  have hZa : Z[a]? = some (some (visited (mkNode a cur none (Ex.ofCond (some top))))) := by rw [← hZ, get_putNode_ne (by omega)]; exact hCa
  have st2 : Steps pf tree crj 1 ⟨data1, C, RS1, S.push a⟩ ⟨_, Z, RS1, S⟩ :=
    Steps.one hpn hhZ (afterHandle_id hZa (.inr hb0l))
  refine ⟨1 + k1 + 1, _, Z, RS1, R1, [⟨r, a + 1, hi, (emit root cur c s).jumps.size, t⟩], (st1.trans stC).trans st2,
    by simp only [asum_cons, asum_nil]; omega, ?_, by simp [emitArms], hrs1, by simp [emitArms, LState.push, LState.pushJump, hp1], ?_⟩
  · simp only [emitArms]
    exact (hd1.pushJump 0).push _ _ _
  · exact DoneA.arm done1 hAsz hAo (by rw [← hZ]; simp) (fun y h => by rw [← hZ, get_putNode_ne (Ne.symm h)])
      (by rw [← hZ, get_putNode_same (by rw [hCsz]; exact lt_of_getElem? htb)]) ⟨_, hZa⟩ hli hri hrt htop hrep

theorem emitArms_append (root cur : Nat) : ∀ (xs ys : List (Bool × Expr F × Expr F)) (s : LState F),
    emitArms root cur (xs ++ ys) s =
      ((emitArms root cur ys (emitArms root cur xs s).1).1, (emitArms root cur xs s).2 ++ (emitArms root cur ys (emitArms root cur xs s).1).2)
  | [], ys, s => by simp [emitArms]
  | (b, c, t) :: xs, ys, s => by
    simp only [List.cons_append, emitArms]
    rw [emitArms_append root cur xs ys]

/-- the final (unconditional) arm of a chain: an ordinary expression whose node does not look at the conditional parent -/
theorem SimArmsF.final {lo hi c : Nat} {fe : Expr F} (hnc : NotCond tree c) (ih : SimAt pf tree bodies lo hi c fe) :
    Within tree lo hi c ∧ SimArmsF pf tree bodies lo hi c (fun root cur s => (emit root cur fe s, [])) := by
  refine ⟨ih.1, ?_⟩
  obtain ⟨_, ih⟩ := ih
  intro crj root cur top data nodes RS S s tb hsz hc htop htb hdat hcur
  have pre : Pre tree nodes lo hi c cur none (Ex.ofCond (some top)) tb := Pre.child (some top) tb hsz hc (fun _ => hnc)
  obtain ⟨k, data', nodes', RS', newR, st, hk, hd, hrs, hp, done, _⟩ := ih crj root cur data nodes RS S s none _ tb pre hdat hcur
  exact ⟨k, data', nodes', RS', newR, [], st, by simp only [asum_nil]; omega, hd, rfl, hrs, hp,
    DoneA.ofDone done (by simp only [Ival]; omega) htb⟩

theorem chain_children {lo hi m l r : Nat} {f1 f2 : Nat → Nat → LState F → LState F × List (Expr F × Nat)}
    (hli : lo ≤ l ∧ l < m) (hri : m + 1 ≤ r ∧ r < hi)
    (ih1 : SimArmsF pf tree bodies lo m l f1) (ih2 : SimArmsF pf tree bodies (m + 1) hi r f2)
    (hmono : ∀ root cur s, cur < s.jumps.size → cur < (f1 root cur s).1.jumps.size)
    (crj root cur top : Nat) (data : BState F) (A : Nodes) (RS S' : Array Nat) (s : LState F) (tb : BuildNode)
    (hsz : A.size = tree.size) (hAl : A[l]? = some (some (mkNode l cur none (Ex.ofCond (some top)))))
    (hAr : A[r]? = some (some (mkNode r cur none (Ex.ofCond (some top)))))
    (htop : (top < lo ∨ hi ≤ top) ∨ top = m) (htb : A[top]? = some (some tb)) (hdat : DataEq data s) (hcur : cur < s.jumps.size) :
    ∃ (k : Nat) (data' : BState F) (C : Nodes) (RS' : Array Nat) (newR : List (RRec F)) (recs : List (ArmRec F)),
      Steps pf tree crj k ⟨data, A, RS, (S'.push r).push l⟩ ⟨data', C, RS', S'⟩ ∧
      k + wsum newR + asum recs ≤ 2 * ((m - lo) + (hi - (m + 1))) ∧
      DataEq data' (f2 root cur (f1 root cur s).1).1 ∧
      (f1 root cur s).2 ++ (f2 root cur (f1 root cur s).1).2 = recs.map (fun a => (a.t, a.j)) ∧
      RS'.toList = RS.toList ++ (newR.map (·.idx)).reverse ∧
      (f2 root cur (f1 root cur s).1).1.pending = newR.map (·.root) ++ s.pending ∧
      DoneA pf tree bodies (fun x => Ival lo m x ∨ Ival (m + 1) hi x) top tb A C newR recs := by
  have ht1 : top < lo ∨ m ≤ top := by omega
  have ht2 : top < m + 1 ∨ hi ≤ top := by omega
  obtain ⟨k1, data1, B, RS1, R1, M1, stB, hk1, hd1, hm1, hrs1, hp1, done1⟩ :=
    ih1 crj root cur top data A RS (S'.push r) s tb hsz hAl ht1 htb hdat hcur
  have hBr : B[r]? = some (some (mkNode r cur none (Ex.ofCond (some top)))) := by
    rw [done1.frame r (by simp only [Ival]; omega) (by omega)]; exact hAr
  obtain ⟨k2, data2, C, RS2, R2, M2, stC, hk2, hd2, hm2, hrs2, hp2, done2⟩ :=
    ih2 crj root cur top data1 B RS1 S' _ _ (by rw [done1.size, hsz]) hBr ht2 done1.top hd1 (hmono root cur s hcur)
  refine ⟨k1 + k2, data2, C, RS2, R2 ++ R1, M1 ++ M2, stB.trans stC,
    by simp only [wsum_append, asum_append]; omega, hd2, by rw [hm1, hm2]; simp, by rw [hrs2, hrs1]; simp,
    by rw [hp2, hp1]; simp, ?_⟩
  exact done1.trans done2 (fun y h1 h2 => by simp only [Ival] at h1 h2; omega)
    ⟨by simp only [Ival]; omega, by simp only [Ival]; omega⟩

theorem DoneA.wrapM {Inner : Nat → Prop} {m top : Nat} {tb : BuildNode} {N A C : Nodes} {R : List (RRec F)}
    {M : List (ArmRec F)} (h : DoneA pf tree bodies Inner top tb A C R M) (hsz : A.size = N.size)
    (hA : ∀ x, x ≠ m → ¬ Inner x → A[x]? = N[x]?) (hAm : ∃ b, A[m]? = some (some b)) (hm : ¬ Inner m) (hmt : m ≠ top) :
    DoneA pf tree bodies (fun x => x = m ∨ Inner x) top tb N C R M where
  size := by rw [h.size, hsz]
  frame x hx hp := by
    rw [h.frame x (fun hh => hx (.inr hh)) hp]
    exact hA x (fun e => hx (.inl e)) (fun hh => hx (.inr hh))
  top := h.top
  roots q hq := by
    obtain ⟨a, b, c, d, e⟩ := h.roots q hq
    exact ⟨fun x h1 h2 => .inr (a x h1 h2), b, c, d, e⟩
  arms a ha := by
    obtain ⟨x1, x2, x3, x4, x5⟩ := h.arms a ha
    exact ⟨fun x h1 h2 => .inr (x1 x h1 h2), x2, x3, x4, x5⟩
  cover x hx := by
    rcases hx with rfl | hx
    · obtain ⟨b, hb⟩ := hAm
      refine .inl ⟨b, ?_⟩
      rw [h.frame _ hm hmt]
      exact hb
    · exact h.cover x hx
  disjR := h.disjR
  disjA := h.disjA
  disjRA := h.disjRA

theorem DoneA.cong {In In' : Nat → Prop} {top : Nat} {tb : BuildNode} {A B : Nodes} {R : List (RRec F)} {M : List (ArmRec F)}
    (h : DoneA pf tree bodies In top tb A B R M) (e : ∀ x, In x ↔ In' x) : DoneA pf tree bodies In' top tb A B R M :=
  ⟨h.size, fun x hx hp => h.frame x (fun hi => hx ((e x).1 hi)) hp, h.top,
   fun q hq => ⟨fun x h1 h2 => (e x).1 ((h.roots q hq).1 x h1 h2), (h.roots q hq).2⟩,
   fun a ha => ⟨fun x h1 h2 => (e x).1 ((h.arms a ha).1 x h1 h2), (h.arms a ha).2⟩,
   fun x hx => h.cover x ((e x).2 hx), h.disjR, h.disjA, h.disjRA⟩

/-- an inner `ElseJump` node of a chain: passes the top of the chain on to its parts, emits nothing itself -/
theorem SimArmsF.inner {lo hi m l r : Nat} {f1 f2 : Nat → Nat → LState F → LState F × List (Expr F × Nat)} {pn : ParseNode}
    (hpn : tree[m]? = some pn) (hd : pn.definition = .elseJump) (hl : pn.left = some l) (hr : pn.right = some r)
    (ih1 : Within tree lo m l ∧ SimArmsF pf tree bodies lo m l f1)
    (ih2 : Within tree (m + 1) hi r ∧ SimArmsF pf tree bodies (m + 1) hi r f2)
    (hmono : ∀ root cur s, cur < s.jumps.size → cur < (f1 root cur s).1.jumps.size) :
    Within tree lo hi m ∧ SimArmsF pf tree bodies lo hi m (fun root cur s =>
      ((f2 root cur (f1 root cur s).1).1, (f1 root cur s).2 ++ (f2 root cur (f1 root cur s).1).2)) := by
  refine ⟨.both hpn ih1.1 ih2.1, ?_⟩
  obtain ⟨⟨hli, hlt⟩, ih1⟩ := ih1
  obtain ⟨⟨hri, hrt⟩, ih2⟩ := ih2
  intro crj root cur top data nodes RS S s tb hsz hm htop htb hdat hcur
  have hbl : (mkNode m cur none (Ex.ofCond (some top))).listParent = none := rfl
  have hh : ∀ ctx : Ctx F, handleParseNode pf ctx crj m pn = visit ctx m (elseJumpPlan ctx m pn) :=
    fun ctx => by simp only [handleParseNode, hd]; exact handleElseJump_eq
  obtain ⟨A, st1, e1, e2, eA, e5⟩ := first_step_plan (W := [m, r, l]) (dataF := data)
    (nb := visited (mkNode m cur none (Ex.ofCond (some top))))
    (sets := [(r, mkNode r cur none (Ex.ofCond (some top)), "build.rs:490/494"),
      (l, mkNode l cur none (Ex.ofCond (some top)), "build.rs:491/495")])
    hpn hm (hh _) (by simp only [elseJumpPlan, pairPlan, hl, hr]; rfl)
    (by simp only [List.mem_cons, List.not_mem_nil, or_false]; rintro q (rfl | rfl) <;> simp only [hsz] <;> omega)
    (by simp; omega) (.inr hbl)
  have e4 := eA _ List.mem_cons_self
  have e3 := eA _ (List.mem_cons_of_mem _ List.mem_cons_self)
  have e5 : ∀ y, y ≠ m → y ≠ l → y ≠ r → A[y]? = nodes[y]? := fun y h1 h2 h3 =>
    e5 y h1 (by simp only [List.mem_cons, List.not_mem_nil, or_false]; rintro q (rfl | rfl) <;> exact Ne.symm ‹_›)
  have hAtop : A[top]? = some (some tb) := by rw [e5 top (by omega) (by omega) (by omega)]; exact htb
  obtain ⟨k, data', C, RS', newR, recs, stC, hk, hd', hm', hrs, hp, done⟩ :=
    chain_children hli hri ih1 ih2 hmono crj root cur top data A RS (S.push m) s tb (by rw [e1, hsz]) e3 e4 (.inl htop) hAtop
      hdat hcur
  have hCm := (done.frame m (fun h => by simp only [Ival] at h; omega) (by omega)).trans e2
  have st2 := emit_step_plan (data := data') (dataZ := data') (RS := RS') (S := S) hpn hCm (hh _)
    (by simp only [elseJumpPlan, pairPlan]; rfl) (.inr hbl)
  refine ⟨1 + k + 1, data', C, RS', newR, recs, (st1.trans stC).trans st2, by omega, hd', hm', hrs, hp, ?_⟩
  exact (done.wrapM (m := m) (N := nodes) e1
    (fun x h1 h2 => e5 x h1 (fun e => h2 (.inl (by subst e; exact hli))) (fun e => h2 (.inr (by subst e; exact hri))))
    ⟨_, e2⟩ (fun h => by simp only [Ival] at h; omega) (by omega)).cong (ival_split lo hi m ⟨by omega, by omega⟩)

/-! ### the `ElseJump` node at the top of a chain — at its second visit
the join entry is created and the registered arm bodies become pending roots. -/

/-- the root an arm body becomes -/
def ArmRec.toRRec (cur join : Nat) (a : ArmRec F) : RRec F :=
  ⟨a.idx, a.lo, a.hi, ⟨.code a.t, a.j, [(.jumpTo, some join)], cur⟩⟩

theorem wsum_arms (cur join : Nat) : ∀ (M : List (ArmRec F)), wsum (M.map (ArmRec.toRRec cur join)) = asum M
  | [] => rfl
  | a :: M => by simp [ArmRec.toRRec, wsum_arms cur join M]

theorem wsum_reverse (R : List (RRec F)) : wsum R.reverse = wsum R := by
  simp [wsum, List.map_reverse, List.sum_reverse]

/-- the top of an else-chain around its parts, after the visit that turned the registered arm bodies into roots: `Z` is
`C` with the root entry of every arm written and the top node's entry as it is -/
theorem DoneA.release {nodes A C Z : Nodes} {lo hi i cur join : Nat} {lp : Option (Nat × Definition)} {cp : Ex}
    {b pbn : BuildNode} {Cs : Nat → Prop} {R : List (RRec F)} {M : List (ArmRec F)}
    (o : Opened nodes A i b lp pbn Cs) (pre : Pre tree nodes lo hi i cur lp cp pbn)
    (h : DoneA pf tree bodies (fun x => Ival lo i x ∨ Ival (i + 1) hi x) i b A C R M)
    (hCs : ∀ y, Cs y → Ival lo hi y) (hii : lo ≤ i ∧ i < hi)
    (hZs : Z.size = C.size) (hZo : ∀ x, (∀ a ∈ M, a.idx ≠ x) → Z[x]? = C[x]?)
    (hZa : ∀ a ∈ M, Z[a.idx]? = some (some (BuildNode.newWithJumpAndEnd a.idx cur a.j [(.jumpTo, some join)])))
    (hZi : ∃ bz, Z[i]? = some (some bz)) :
    Done pf tree bodies (Ival lo hi) lp pbn 1 nodes Z ((M.map (ArmRec.toRRec cur join)).reverse ++ R) := by
  have harm_in : ∀ a ∈ M, lo ≤ a.lo ∧ a.hi ≤ hi ∧ a.idx ≠ i ∧ Ival lo hi a.idx := fun a ha => by
    obtain ⟨x1, x2, x3, _⟩ := h.arms a ha
    have h1 := x1 a.lo (Nat.le_refl _) (by omega)
    have h2 := x1 (a.hi - 1) (by omega) (by omega)
    have h3 := x1 a.idx x2 x3
    simp only [Ival] at h1 h2 h3 ⊢
    omega
  refine ⟨by rw [hZs, h.size, o.size], fun x hx hpx => ?_, fun par d' hl => ?_, fun q hq => ?_, fun x hx => ?_, ?_⟩
  · have h1 : x ≠ i := fun e => hx (by subst e; exact hii)
    rw [hZo x (fun a ha e => hx (e ▸ (harm_in a ha).2.2.2)),
      h.frame x (fun hh => hx (by simp only [Ival] at hh ⊢; omega)) h1, o.other x h1 (fun hc => hx (hCs x hc)) hpx]
  · have hp1 := (pre.par par d' hl).1
    rw [hZo par (fun a ha e => by have := (harm_in a ha).2.2.2; simp only [Ival] at this; omega),
      h.frame par (fun hh => by simp only [Ival] at hh; omega) (by omega)]
    exact o.parent par d' hl
  · rcases List.mem_append.1 hq with hq | hq
    · obtain ⟨a, ha, rfl⟩ := List.mem_map.1 (List.mem_reverse.1 hq)
      obtain ⟨x1, x2, x3, x4, x5⟩ := h.arms a ha
      have hin := harm_in a ha
      refine ⟨fun x h1 h2 => by simp only [ArmRec.toRRec] at h1 h2; simp only [Ival]; omega, x2, x3, ?_, ?_⟩
      · simp only [ArmRec.toRRec, bnOfRoot]
        rw [hZa a ha]
      · simp only [RepRoot, ArmRec.toRRec]; exact x5
    · obtain ⟨x1, x2, x3, x4, x5⟩ := h.roots q hq
      refine ⟨fun x h1 h2 => by have := x1 x h1 h2; simp only [Ival] at this ⊢; omega, x2, x3, ?_, x5⟩
      rw [hZo q.idx (fun a ha e => ?_)]
      · exact x4
      · obtain ⟨_, y2, y3, _⟩ := h.arms a ha
        have := h.disjRA q hq a ha
        omega
  · by_cases hxi : x = i
    · subst hxi; exact .inl hZi
    · rcases h.cover x (by simp only [Ival] at hx ⊢; omega) with ⟨b', hb'⟩ | ⟨q, hq, hh⟩ | ⟨a, ha, hh⟩
      · by_cases hxa : ∃ a ∈ M, a.idx = x
        · obtain ⟨a, ha, rfl⟩ := hxa
          exact .inl ⟨_, hZa a ha⟩
        · exact .inl ⟨b', by rw [hZo x (fun a ha e => hxa ⟨a, ha, e⟩)]; exact hb'⟩
      · exact .inr ⟨q, List.mem_append_right _ hq, hh⟩
      · exact .inr ⟨ArmRec.toRRec cur join a,
          List.mem_append_left _ (List.mem_reverse.2 (List.mem_map.2 ⟨a, ha, rfl⟩)), hh⟩
  · rw [List.pairwise_append]
    refine ⟨?_, h.disjR, fun q hq q' hq' => ?_⟩
    · rw [List.pairwise_reverse, List.pairwise_map]
      exact h.disjA.imp (fun {x y} hh => by simp only [ArmRec.toRRec]; omega)
    · obtain ⟨a, ha, rfl⟩ := List.mem_map.1 (List.mem_reverse.1 hq)
      have := h.disjRA q' hq' a ha
      simp only [ArmRec.toRRec]
      omega

theorem sim_chain_top {lo hi i l r : Nat} {e : Expr F} {f1 f2 : Nat → Nat → LState F → LState F × List (Expr F × Nat)}
    {pn : ParseNode} (hpn : tree[i]? = some pn) (hd : pn.definition = .elseJump) (hl : pn.left = some l) (hr : pn.right = some r)
    (ih1 : Within tree lo i l ∧ SimArmsF pf tree bodies lo i l f1)
    (ih2 : Within tree (i + 1) hi r ∧ SimArmsF pf tree bodies (i + 1) hi r f2)
    (hmono : ∀ root cur s, cur < s.jumps.size → cur < (f1 root cur s).1.jumps.size)
    (hne : ∀ root cur s, (f1 root cur s).2 ≠ [])
    (hemit : ∀ root cur s, emit root cur e s =
      finishChain cur (f2 root cur (f1 root cur s).1).1 ((f1 root cur s).2 ++ (f2 root cur (f1 root cur s).1).2)) :
    SimAt pf tree bodies lo hi i e := by
  refine ⟨.both hpn ih1.1 ih2.1, ?_⟩
  obtain ⟨⟨hli, hlt⟩, ih1⟩ := ih1
  obtain ⟨⟨hri, hrt⟩, ih2⟩ := ih2
  intro crj root cur data nodes RS S s lp cp pbn pre hdat hcur
  have hh : ∀ ctx : Ctx F, handleParseNode pf ctx crj i pn = visit ctx i (elseJumpPlan ctx i pn) :=
    fun ctx => by simp only [handleParseNode, hd]; exact handleElseJump_eq
  have hcpn : cp.cond = none := by
    cases hc : cp.cond with
    | none => rfl
    | some x =>
      have := pre.cond ⟨x, hc⟩ pn hpn
      rw [hd] at this; cases this
  obtain ⟨A, st1, op, hA⟩ := first_visit_plan (W := [i, r, l]) (dataF := data)
    (sets := [(r, mkNode r cur none (Ex.ofCond (some i)), "build.rs:490/494"),
      (l, mkNode l cur none (Ex.ofCond (some i)), "build.rs:491/495")])
    pre ⟨by omega, by omega⟩ hpn (hh _) (by simp only [elseJumpPlan, pairPlan, mkNode, hcpn, hl, hr]; rfl)
    (by simp only [List.mem_cons, List.not_mem_nil, or_false]; rintro q (rfl | rfl) <;> simp only <;> omega)
    (by simp; omega)
  have hCs : ∀ y, (∃ q ∈ [(r, mkNode r cur none (Ex.ofCond (some i)), "build.rs:490/494"),
      (l, mkNode l cur none (Ex.ofCond (some i)), "build.rs:491/495")], q.1 = y) → Ival lo hi y := by
    simp only [List.mem_cons, List.not_mem_nil, or_false, Ival]
    rintro y ⟨q, rfl | rfl, rfl⟩ <;> simp only <;> omega
  obtain ⟨k, data', C, RS', newR, recs, stC, hk, hd', hm', hrs, hp, done⟩ :=
    chain_children hli hri ih1 ih2 hmono crj root cur i data A RS (S.push i) s (node1 i cur lp cp) (by rw [op.size, pre.size])
      (hA _ (List.mem_cons_of_mem _ List.mem_cons_self)) (hA _ List.mem_cons_self) (.inr rfl) op.self hdat hcur
  have hCsz : C.size = nodes.size := by rw [done.size, op.size]
  have hrecs : recs ≠ [] := by
    intro h
    rw [h] at hm'
    have := hne root cur s
    simp only [List.map_nil, List.append_eq_nil_iff] at hm'
    exact this hm'.1
  generalize hs2 : (f2 root cur (f1 root cur s).1).1 = s2 at hd' hp
  have hCi := done.top
  generalize hbz : ({ node1 i cur lp cp with conditionalItems := (node1 i cur lp cp).conditionalItems ++ (recs.map ArmRec.item).toArray } : BuildNode) = bz at hCi
  have hbzc : bz.conditionalParent = none := by rw [← hbz]; exact hcpn
  have hbzi : bz.conditionalItems = (recs.map ArmRec.item).toArray := by rw [← hbz]; simp [node1, mkNode, BuildNode.new]
  have hbze : bz.containingExpressionJump = cur := by rw [← hbz]; rfl
  have hpos : (recs.map ArmRec.item).toArray.size > 0 := by
    cases recs with
    | nil => exact absurd rfl hrecs
    | cons a M => simp
  have hplan : elseJumpPlan ⟨data', C, RS', S⟩ i pn bz = .ok ⟨pushToJumpTable data' (getInstructionLen data'), [],
      (recs.map ArmRec.item).map (fun c => (c.nodeIndex, armNode cur (getJumpTableLen data') c, "build.rs:518")), [],
      (recs.map ArmRec.item).map (·.nodeIndex)⟩ := by
    unfold elseJumpPlan pairPlan
    rw [show bz.state = .initialized by rw [← hbz]; rfl]
    simp only [hbzc, hbzi, hbze, if_pos hpos, List.toList_toArray]
  have harm : ∀ a ∈ recs, a.idx < C.size ∧ a.idx ≠ i := fun a ha => by
    obtain ⟨x1, x2, x3, x4, _⟩ := done.arms a ha
    have := x1 a.idx x2 x3
    simp only [Ival] at this
    exact ⟨by rw [hCsz, pre.size]; exact x4, by omega⟩
  have hv := visit_ok (ctx := ⟨data', C, RS', S⟩) hCi hplan (fun q hq => by
    obtain ⟨c, hc, rfl⟩ := List.mem_map.1 hq; obtain ⟨a, ha, rfl⟩ := List.mem_map.1 hc; exact (harm a ha).1)
  rw [← hh] at hv
  obtain ⟨g1, g2⟩ := assign_spec (recs.map fun a => (a.idx, armNode cur (getJumpTableLen data') a.item)) C
    (fun q hq => by obtain ⟨a, ha, rfl⟩ := List.mem_map.1 hq; exact (harm a ha).1)
    (by
      rw [List.pairwise_map]
      refine done.disjA.imp_of_mem (fun {x y} hx hy hxy => ?_)
      obtain ⟨_, x2, x3, _⟩ := done.arms x hx
      obtain ⟨_, y2, y3, _⟩ := done.arms y hy
      simp only
      omega)
  generalize hZ : Garnish.Lemmas.BuildTotal.assign C (recs.map fun a => (a.idx, armNode cur (getJumpTableLen data') a.item)) = Z
    at g1 g2
  have hhZ : handleParseNode pf ⟨data', C, RS', S⟩ crj i pn =
      .ok ⟨pushToJumpTable data' (getInstructionLen data'), Z, (recs.map (·.idx)).foldl Array.push RS', S⟩ := by
    rw [hv, ← hZ]
    simp only [Plan.apply, Plan.finish, List.map_map, Function.comp_def, ArmRec.item]
    rfl
  have hZo : ∀ x, (∀ a ∈ recs, a.idx ≠ x) → Z[x]? = C[x]? := fun x hx =>
    g2 x (fun q hq => by obtain ⟨a, ha, rfl⟩ := List.mem_map.1 hq; exact hx a ha)
  have hZi : Z[i]? = some (some bz) := (hZo i (fun a ha => (harm a ha).2)).trans hCi
  have st2 := second_visit (lp := lp) (crj := crj) hpn hhZ hZi (by rw [← hbz]; rfl) (by rw [← hbz]; rfl)
  have hjoin : getJumpTableLen data' = s2.jumps.size := by simp only [getJumpTableLen, hd'.jumps]
  refine ⟨1 + k + 1, _, Z, _, (recs.map (ArmRec.toRRec cur s2.jumps.size)).reverse ++ newR, (st1.trans stC).trans st2, ?_, ?_, ?_, ?_, ?_,
    ⟨_, hZi, by rw [← hbz]; rfl⟩⟩
  · simp only [wsum_append, wsum_reverse, wsum_arms]; omega
  · rw [hemit, hs2, hm']
    cases hrm : recs.map (fun a => (a.t, a.j)) with
    | nil => exact absurd (List.map_eq_nil_iff.1 hrm) hrecs
    | cons it its =>
      simp only [finishChain]
      have := hd'.pushJump s2.instrs.size
      exact ⟨by simpa [getInstructionLen, hd'.instrs] using this.instrs,
        by simpa [getInstructionLen, hd'.instrs, pushToJumpTable, LState.pushJump] using this.jumps,
        this.consts⟩
  · rw [toList_foldl_push, hrs]
    simp [List.map_reverse, ArmRec.toRRec, Function.comp]
  · rw [hemit, hs2, hm']
    cases hrm : recs.map (fun a => (a.t, a.j)) with
    | nil => exact absurd (List.map_eq_nil_iff.1 hrm) hrecs
    | cons it its =>
      simp only [finishChain]
      rw [← hrm, hp]
      simp [armRoots, List.map_reverse, ArmRec.toRRec, Function.comp]
  · refine DoneA.release (join := s2.jumps.size) op pre done hCs ⟨by omega, by omega⟩ (by rw [← hZ, Garnish.Lemmas.BuildTotal.assign_size])
      hZo (fun a ha => ?_) ⟨_, hZi⟩
    rw [← hjoin]
    exact g1 (a.idx, _) (List.mem_map.2 ⟨a, ha, rfl⟩)

end Garnish.Abs.Tree
