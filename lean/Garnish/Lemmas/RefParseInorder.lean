/-
The in-order walk of the reference tree is exactly the significant tokens, in source order, for every table whose acts read
the token types as the scan of `significant` does (`ScanAs`; the generated table: `gen_act`).
-/
import Garnish.Lemmas.RefParse
import Garnish.Lemmas.EnumAll

namespace Garnish.Spec
open Garnish Garnish.Gen Garnish.Model.Parser

theorem absorb_inorderSig (tbl : Table) (q : Nat) (rtl : Bool) (d : Definition) (k : Nat) :
    ∀ (t t' : RTree), absorb tbl q rtl d k t = some t' →
      t'.inorderSig = t.inorderSig ++ (if d == .list then [] else [k]) ∧ openSpine t' = true ∧ t'.isNil = false := by
  intro t
  induction t with
  | nil => intro t' h; simp [absorb] at h
  | group gd gk inner _ => intro t' h; simp [absorb] at h
  | node l a ka r _ ihr =>
    intro t' h
    simp only [absorb] at h
    cases hr : absorb tbl q rtl d k r with
    | some r' =>
      simp only [hr, Option.some.injEq] at h
      subst h
      obtain ⟨h1, h2, h3⟩ := ihr r' hr
      refine ⟨by simp [RTree.inorderSig, h1], ?_, rfl⟩
      simp [openSpine, h3, h2]
    | none =>
      simp only [hr] at h
      cases hp : tbl.prio a with
      | none => simp [hp] at h
      | some pa =>
        simp only [hp] at h
        split at h
        · simp only [Option.some.injEq] at h
          subst h
          exact ⟨by simp [RTree.inorderSig], by simp [openSpine, RTree.isNil], rfl⟩
        · simp at h

theorem attach_inorderSig (tbl : Table) (q : Nat) (rtl : Bool) (d : Definition) (k : Nat) (t : RTree) :
    (attach tbl q rtl d k t).inorderSig = t.inorderSig ++ (if d == .list then [] else [k]) ∧
      openSpine (attach tbl q rtl d k t) = true := by
  unfold attach
  cases h : absorb tbl q rtl d k t with
  | some t' => exact ⟨(absorb_inorderSig tbl q rtl d k t t' h).1, (absorb_inorderSig tbl q rtl d k t t' h).2.1⟩
  | none => exact ⟨by simp [RTree.inorderSig], by simp [openSpine, RTree.isNil]⟩

theorem asProperty_inorderSig (x : RTree) : (asProperty x).inorderSig = x.inorderSig := by
  unfold asProperty
  split <;> simp [RTree.inorderSig]

theorem plug_inorderSig : ∀ (t x : RTree), openSpine t = true → (plug t x).inorderSig = t.inorderSig ++ x.inorderSig := by
  intro t
  induction t with
  | nil => intro x _; simp [plug, RTree.inorderSig]
  | group gd gk inner _ => intro x h; simp [openSpine] at h
  | node l a ka r _ ihr =>
    intro x h
    simp only [plug]
    cases hr : r.isNil with
    | true =>
      have : r = .nil := by cases r <;> simp_all [RTree.isNil]
      subst this
      have hx : (if a == Definition.access then asProperty x else x).inorderSig = x.inorderSig := by
        split <;> simp [asProperty_inorderSig]
      simp only [if_true, RTree.inorderSig, hx]
      simp
    | false =>
      simp only [openSpine, hr] at h
      simp only [Bool.false_eq_true, if_false, RTree.inorderSig, ihr x h]
      simp

theorem plug_leaf_open : ∀ (t : RTree) (d : Definition) (k : Nat), openSpine t = true →
    openSpine (plug t (.node .nil d k .nil)) = true := by
  intro t
  induction t with
  | nil => intro d k _; simp [plug, openSpine, RTree.isNil]
  | group gd gk inner _ => intro d k h; simp [openSpine] at h
  | node l a ka r _ ihr =>
    intro d k h
    simp only [plug]
    cases hr : r.isNil with
    | true =>
      simp only [if_true]
      split
      · unfold asProperty; split <;> simp [openSpine, RTree.isNil]
      · simp [openSpine, RTree.isNil]
    | false =>
      simp only [openSpine, hr] at h
      simp only [Bool.false_eq_true, if_false, openSpine, ihr d k h]
      simp

/-- the scan of `significant` treats a token of type `tt` as the reference parser does when the table says `a` -/
def ScanAs (tt : TokenType) : Act → Prop
  | .skip | .space => isFiller tt = true
  | .operand d _ | .operator d _ _ _ _ =>
    isFiller tt = false ∧ isCloser tt = false ∧ openerOf tt = none ∧ isSeparator tt = false ∧ (d == Definition.list) = false
  | .opener d =>
    isFiller tt = false ∧ isCloser tt = false ∧
      ((d = .group ∧ openerOf tt = some .group) ∨ (d = .nestedExpression ∧ openerOf tt = some .expr))
  | .closer => isFiller tt = false ∧ isCloser tt = true
  | .separator d =>
    isFiller tt = false ∧ isCloser tt = false ∧ openerOf tt = none ∧ isSeparator tt = true ∧ (d == Definition.list) = false
  | .fail _ => True

instance (tt : TokenType) (a : Act) : Decidable (ScanAs tt a) := by
  cases a <;> unfold ScanAs <;> infer_instance

theorem gen_act (tt : TokenType) : ScanAs tt (Table.gen.act tt) := by
  revert tt
  exact TokenType.forall_of_all (by decide +kernel)

def bracketOfDef (d : Definition) : Bracket := if d == .group then .group else .expr

/-- the bracket stack of the scan that corresponds to the open frames -/
def brackets (ctx : Option (Definition × Nat)) : List Frame → List Bracket
  | [] => (ctx.map (fun c => bracketOfDef c.1)).toList
  | g :: rest => (ctx.map (fun c => bracketOfDef c.1)).toList ++ brackets g.ctx rest

/-- token positions collected so far, outermost bracket first -/
def pending (ctx : Option (Definition × Nat)) (cur : RTree) : List Frame → List Nat
  | [] => cur.inorderSig
  | g :: rest => pending g.ctx g.cur rest ++ (ctx.map (fun c => c.2)).toList ++ cur.inorderSig

def StackOK (ctx : Option (Definition × Nat)) : List Frame → Prop
  | [] => True
  | g :: rest => ctx.isSome = true ∧ openSpine g.cur = true ∧ StackOK g.ctx rest

def needOpen (f : Frame) : Prop := f.last = .operand ∨ f.last = .suffix ∨ openSpine f.cur = true

def red (p : PrevTok) : Bool := p == .sep || p == .openExpr

theorem pending_append (ctx : Option (Definition × Nat)) (cur cur' : RTree) (extra : List Nat) (stack : List Frame)
    (h : cur'.inorderSig = cur.inorderSig ++ extra) : pending ctx cur' stack = pending ctx cur stack ++ extra := by
  cases stack <;> simp [pending, h, List.append_assoc]

theorem beforeOperand_sig (tbl : Table) (f f1 : Frame) (pos : Nat) (h : beforeOperand tbl f pos = .ok f1) (hn : needOpen f) :
    f1.ctx = f.ctx ∧ f1.cur.inorderSig = f.cur.inorderSig ∧ openSpine f1.cur = true := by
  unfold beforeOperand at h
  cases hl : f.last <;> simp only [hl] at h
  case suffix => cases h
  case operand =>
    split at h
    · split at h
      · rename_i q hq
        injection h with h; subst h
        have := attach_inorderSig tbl q false .list (pos - 1) f.cur
        exact ⟨rfl, by simpa using this.1, this.2⟩
      · cases h
    · cases h
  all_goals
    injection h with h; subst h
    refine ⟨rfl, rfl, ?_⟩
    rcases hn with hn | hn | hn
    · rw [hl] at hn; cases hn
    · rw [hl] at hn; cases hn
    · exact hn

theorem head_brackets (ctx : Option (Definition × Nat)) (stack : List Frame) (h : StackOK ctx stack) (f : Frame)
    (hf : f.ctx = ctx) : ((brackets ctx stack).head? == some Bracket.group) = f.inGroup := by
  unfold Frame.inGroup
  rw [hf]
  split
  · cases stack <;> rfl
  · rename_i hng
    cases ctx with
    | none =>
      cases stack with
      | nil => rfl
      | cons g rest => simp [StackOK] at h
    | some c =>
      obtain ⟨d, k⟩ := c
      have hd : d ≠ Definition.group := fun e => hng k (by rw [e])
      cases stack <;> simp [brackets, bracketOfDef, hd]

/-- the invariant of the pass: the positions already in the trees of the open frames (`pending`, outermost first) followed by
    what the scan of `significant` yields from the current token on is the same list before and after a step.  `needOpen f`:
    the frame can take what comes next (a complete operand, or an open operand position on the spine); `red prev`: the scan's
    `prev` is a separator or `{` exactly when the frame's `prevSep` is set; `StackOK`: a frame above another belongs to a
    bracket, and the tree below has the open operand position that bracket goes into -/
theorem refStep_sig (tbl : Table) (hsc : ∀ tt, ScanAs tt (tbl.act tt)) (f : Frame) (stack : List Frame) (pos : Nat) (t : PToken) (rest : List PToken) (f' : Frame)
    (stack' : List Frame) (prev : PrevTok)
    (h : refStep tbl f stack pos t rest = .ok (f', stack')) (hn : needOpen f) (hs : StackOK f.ctx stack)
    (hp : red prev = f.prevSep) :
    ∃ prev', needOpen f' ∧ StackOK f'.ctx stack' ∧ red prev' = f'.prevSep ∧
      pending f.ctx f.cur stack ++ significantScan (t :: rest) pos (brackets f.ctx stack) prev =
        pending f'.ctx f'.cur stack' ++ significantScan rest (pos + 1) (brackets f'.ctx stack') prev' := by
  rw [refStep_eq] at h
  have hc := hsc t.type
  cases hact : tbl.act t.type <;> rw [hact] at h hc <;> simp only [Act.run, ScanAs] at h hc
  case fail => cases h
  case skip => cases h; exact ⟨prev, hn, hs, hp, by simp [significantScan, hc]⟩
  case space => cases h; exact ⟨prev, hn, hs, hp, by simp [significantScan, hc]⟩
  case operand d last =>
    obtain ⟨c1, c2, c3, c4, c5⟩ := hc
    obtain ⟨f1, hb, h⟩ := Outcome.bind_eq_ok.1 h
    cases h
    obtain ⟨e1, e2, e3⟩ := beforeOperand_sig tbl f f1 pos hb hn
    refine ⟨.other, Or.inr (Or.inr (plug_leaf_open _ _ _ e3)), by simpa [e1] using hs, rfl, ?_⟩
    have hsig : (plug f1.cur (RTree.node .nil d pos .nil)).inorderSig = f.cur.inorderSig ++ [pos] := by
      rw [plug_inorderSig _ _ e3, e2]; simp [RTree.inorderSig, c5]
    simp only [e1]
    rw [pending_append f.ctx f.cur _ [pos] stack hsig]
    simp [significantScan, c1, c2, c3, c4]
  case opener d =>
    obtain ⟨c1, c2, c3⟩ := hc
    obtain ⟨f1, hb, h⟩ := Outcome.bind_eq_ok.1 h
    cases h
    obtain ⟨e1, e2, e3⟩ := beforeOperand_sig tbl f f1 pos hb hn
    have this : pending f.ctx f1.cur stack = pending f.ctx f.cur stack :=
      (pending_append f.ctx f.cur f1.cur [] stack (by simp [e2])).trans (by simp)
    rcases c3 with ⟨hd, ho⟩ | ⟨hd, ho⟩ <;> subst hd
    · refine ⟨.other, Or.inr (Or.inr rfl), ⟨rfl, e3, by simpa [e1] using hs⟩, rfl, ?_⟩
      simp [significantScan, c1, c2, ho, pending, brackets, this, e1, bracketOfDef, RTree.inorderSig]
    · refine ⟨.openExpr, Or.inr (Or.inr rfl), ⟨rfl, e3, by simpa [e1] using hs⟩, rfl, ?_⟩
      simp [significantScan, c1, c2, ho, pending, brackets, this, e1, bracketOfDef, RTree.inorderSig]
  case closer =>
    obtain ⟨c1, c2⟩ := hc
    split at h
    · rename_i gd gpos parent stack2 hctx
      split at h
      · cases h
      · split at h
        · cases h
        · cases h
          obtain ⟨_, hop, hrest⟩ := hs
          refine ⟨.other, Or.inl rfl, hrest, rfl, ?_⟩
          have hsig : (plug parent.cur (RTree.group gd gpos f.cur)).inorderSig
              = parent.cur.inorderSig ++ (gpos :: f.cur.inorderSig) := by
            rw [plug_inorderSig _ _ hop]; simp [RTree.inorderSig]
          simp only
          rw [pending_append parent.ctx parent.cur _ _ stack' hsig, hctx]
          cases stack' <;> simp [significantScan, c1, c2, pending, brackets, List.append_assoc]
    · cases h
  case operator d q rtl optional last =>
    obtain ⟨c1, c2, c3, c4, c5⟩ := hc
    split at h
    · cases h
    · cases h
      have hat := attach_inorderSig tbl q rtl d pos f.cur
      refine ⟨.other, Or.inr (Or.inr hat.2), hs, rfl, ?_⟩
      have hsig : (attach tbl q rtl d pos f.cur).inorderSig = f.cur.inorderSig ++ [pos] := by
        rw [hat.1]; simp [c5]
      simp only
      rw [pending_append f.ctx f.cur _ [pos] stack hsig]
      simp [significantScan, c1, c2, c3, c4]
  case separator d =>
    obtain ⟨c1, c2, c3, c4, c5⟩ := hc
    have hhead := head_brackets f.ctx stack hs f rfl
    have hred : red prev = (prev == PrevTok.sep || prev == PrevTok.openExpr) := rfl
    split at h
    · rename_i hg
      cases h
      exact ⟨prev, hn, hs, hp, by simp [significantScan, c1, c2, c3, c4, hhead, hg]⟩
    · rename_i hg
      split at h
      · rename_i hr
        cases h
        refine ⟨.sep, hn, hs, rfl, ?_⟩
        have hred' : (prev == PrevTok.sep || prev == PrevTok.openExpr ||
            (t.type == TokenType.subexpression && closerFollows rest)) = true := by
          rw [← hred, hp]; exact hr
        simp [significantScan, c1, c2, c3, c4, hhead, hg, hred']
      · rename_i hr
        split at h
        · cases h
        · split at h
          · cases h
          · rename_i q hq
            cases h
            have hat := attach_inorderSig tbl q false d pos f.cur
            refine ⟨.sep, Or.inr (Or.inr hat.2), hs, rfl, ?_⟩
            have hred' : (prev == PrevTok.sep || prev == PrevTok.openExpr ||
                (t.type == TokenType.subexpression && closerFollows rest)) = false := by
              rw [← hred, hp]; simpa using hr
            have hsig : (attach tbl q false d pos f.cur).inorderSig = f.cur.inorderSig ++ [pos] := by
              rw [hat.1]; simp [c5]
            simp only
            rw [pending_append f.ctx f.cur _ [pos] stack hsig]
            simp [significantScan, c1, c2, c3, c4, hhead, hg, hred']

theorem refLoop_sig (tbl : Table) (hsc : ∀ tt, ScanAs tt (tbl.act tt)) : ∀ (toks : List PToken) (f : Frame) (stack : List Frame) (pos : Nat) (t : RTree) (prev : PrevTok),
    needOpen f → StackOK f.ctx stack → red prev = f.prevSep → refLoop tbl f stack pos toks = .ok t →
      t.inorderSig = pending f.ctx f.cur stack ++ significantScan toks pos (brackets f.ctx stack) prev := by
  intro toks
  induction toks with
  | nil =>
    intro f stack pos t prev _ _ _ h
    unfold refLoop at h
    split at h
    · cases h
    · rename_i hst
      split at h
      · cases h
      · injection h with h; subst h
        have : stack = [] := by cases stack <;> simp_all
        subst this
        simp [pending, significantScan]
  | cons tk rest ih =>
    intro f stack pos t prev hn hs hp h
    unfold refLoop at h
    obtain ⟨⟨f', stack'⟩, hstep, h⟩ := Outcome.bind_eq_ok.1 h
    obtain ⟨prev', hn', hs', hp', heq⟩ := refStep_sig tbl hsc f stack pos tk rest f' stack' prev hstep hn hs hp
    rw [heq]
    exact ih f' stack' (pos + 1) t prev' hn' hs' hp' h

theorem refParse_inorder_of (tbl : Table) (hsc : ∀ tt, ScanAs tt (tbl.act tt)) (toks : List PToken) (t : RTree)
    (h : refParse tbl toks = .ok t) : t.inorderSig = significant toks := by
  unfold refParse at h
  unfold significant
  simp only at h ⊢
  split at h
  · rename_i hge
    injection h with h; subst h
    simp [hge, RTree.inorderSig]
  · rename_i hge
    simp only [hge, if_false]
    have := refLoop_sig tbl hsc _ Frame.top [] _ t .start (Or.inr (Or.inr rfl)) trivial rfl h
    simpa [pending, brackets, Frame.top, RTree.inorderSig] using this

theorem refParse_inorder (toks : List PToken) (t : RTree) (h : refParse Table.gen toks = .ok t) :
    t.inorderSig = significant toks := refParse_inorder_of Table.gen gen_act toks t h

end Garnish.Spec
