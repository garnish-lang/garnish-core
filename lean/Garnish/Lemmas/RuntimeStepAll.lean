/-
ONE STEP for the whole instruction set, once: `Core.handle_sim` dispatches every instruction to its lemma
`Core.handle_X` or, for the operator instructions, through the operator table `Core.dispatch_refines_binary/unary` to
its handler's lemma, over the guarded contract `LawsK`; `Core.refine_step` is the step theorem (`StepSimI`: data,
invariant, host trace). Its side conditions are `StepOKF` (the domains of the handlers' refinement theorems) and, under
`K`, `MachOKOn4`: what the relativised contract adds — `MDeepN` at the pops, no `custom` value pushed, `LookupOn`,
`ApplyDomainOn`. The step theorems over `StoreLawsOn` (`refine_step_on`, `refine_step_on1` … `refine_step_on4`, with the
coverage predicates `MachOKOn` … `MachOKOn4` that grow group by group) are the instances at `K = True`, those over
`StoreLaws` (Props/RuntimeRefineStep, …StepFull) the instances at `K = False`. The dispatcher
(Model/Runtime/Execute.lean) takes the handlers of eight instructions (`isOther`) as a parameter `H : OtherHandlers σ`;
`fullHandlers fo S fuel cast` (Model/Runtime/Internals.lean) fills it with the modelled ones and leaves `type_cast` as the
parameter `cast`. `StepOK`, `StepOKF`, `MachOK`, `Loaded` and the domains they name are in Model/Runtime/StepDomain.lean,
StepDomainFull.lean, Run.lean.
-/
import Garnish.Lemmas.RuntimeStepApply
import Garnish.Props.RuntimeRefineLogic
import Garnish.Props.RuntimeRefineArith
import Garnish.Props.RuntimeRefineCompare
import Garnish.Props.RuntimeRefineData
import Garnish.Props.RuntimeRefineAccess
import Garnish.Lemmas.RuntimeInternals
import Garnish.Model.Runtime.Run
import Garnish.Props.C06Static
namespace Garnish.Lemmas.Runtime.On
open Garnish Gen Garnish.Abs Garnish.Model.Equality Garnish.Model.Runtime Garnish.Lemmas.Runtime

variable {F σ : Type} {S : RStore F σ} {Inv : σ → Prop} {Rd : σ → Nat → Prop} {P : Prog F} {host : Host F}
  (fo : FloatOps F)

/-- the side condition of one instruction of the fragment, on the machine state only; `False` = outside this first group
(`MachOKOn1..4` below extend it group by group) -/
def MachOKOn (P : Prog F) (m : MState F) (instr : Instruction) (operand : Option Nat) : Prop :=
  match instr with
  | .invalid | .jumpTo => True
  | .put => ∀ k v, operand = some k → P.consts[k]? = some v → v ≠ .custom
  | .putValue => ∀ v vs, m.vals = v :: vs → v ≠ .custom
  | .pushValue | .updateValue => ∀ r rs, m.regs = r :: rs → r ≠ .custom ∧ MDeep m rs
  | .jumpIfTrue | .jumpIfFalse => ∀ r rs, m.regs = r :: rs → MDeep m rs
  | .endExpression => ∀ r rs, m.regs = r :: rs → r ≠ .custom ∧ MDeep m rs ∧ (m.frames = [] → rs = [])
  | _ => False

def MachOKOn1 (P : Prog F) (m : MState F) (instr : Instruction) (operand : Option Nat) : Prop :=
  match instr with
  | .add | .subtract | .multiply | .divide | .integerDivide | .power | .remainder | .bitwiseAnd | .bitwiseOr
  | .bitwiseXor | .bitwiseShiftLeft | .bitwiseShiftRight | .xor => MDeepN m 2
  | .opposite | .absoluteValue | .bitwiseNot | .not | .tis | .and | .or => MDeepN m 1
  | _ => MachOKOn P m instr operand

def MachOKOn2 (P : Prog F) (fuel : Nat) (m : MState F) (instr : Instruction) (operand : Option Nat) : Prop :=
  match instr with
  | .lessThan | .lessThanOrEqual | .greaterThan | .greaterThanOrEqual =>
    MDeepN m 2 ∧ ∀ vr vl rs, m.regs = vr :: vl :: rs → CompareDomain fo fuel vl vr
  | .makePair | .partialApply | .makeRange | .makeStartExclusiveRange | .makeEndExclusiveRange
  | .makeExclusiveRange => MDeepN m 2
  | .concat => MDeepN m 2 ∧ ∀ vr vl rs, m.regs = vr :: vl :: rs →
      (∀ x y, vl ≠ .slice x y) ∧ (∀ x y, vr ≠ .slice x y)
  | .makeList => ∀ n, operand = some n → MDeepN m n
  | _ => MachOKOn1 P m instr operand

/-- what the relativised contract adds to `ApplyDomain`, arm by arm: values that end on a stack are not `custom`; a
symbol look-up into a list needs `ListSymOn`; the concatenation `input <> argument` of a partial application has no
slice operand -/
def ApplyDomainOn (S : RStore F σ) (Inv : σ → Prop) (ur : Bool) (vl vr : Val F) : Prop :=
  match applyArm vl.typeOf vr.typeOf with
  | .accInt => ∀ i, vr = .num (.int i) → ∀ v, accessInt fo (.int i) vl = .some v → v ≠ .custom
  | .accSym => ((∀ vs, vl ≠ .list vs) ∨ ListSymOn S Inv) ∧ ∀ y, vr = .sym y → ∀ v, accessSym y vl = .some v → v ≠ .custom
  | .path => ∀ items ps, vl = .list items → vr = .symList ps → PathOn fo S Inv ps (.list items) ∧
      ∀ v, accessPath fo ps (.list items) = .some v → v ≠ .custom
  | .expression => vr ≠ .custom
  | .partial_ => ∀ j input, vl = .part (.expr j) input → (if ur then Val.concat input vr else input) ≠ .custom ∧
      (ur = true → (∀ x y, input ≠ .slice x y) ∧ (∀ x y, vr ≠ .slice x y))
  | _ => True

def MachOKOn3 (S : RStore F σ) (Inv : σ → Prop) (P : Prog F) (fuel : Nat) (m : MState F) (instr : Instruction)
    (operand : Option Nat) : Prop :=
  match instr with
  | .apply => MDeepN m 2 ∧ ∀ vr vl rs, m.regs = vr :: vl :: rs →
      ApplyDomain fo fuel vl vr ∧ ApplyDomainOn fo S Inv true vl vr
  | .emptyApply => MDeepN m 1 ∧ ∀ vl rs, m.regs = vl :: rs →
      ApplyDomain fo fuel vl .unit ∧ ApplyDomainOn fo S Inv false vl .unit
  | .reapply => MDeepN m 1 ∧ ∀ v rs, m.regs = v :: rs → v ≠ .custom
  | .startSideEffect => ∀ v vs, m.vals = v :: vs → v ≠ .custom
  | .endSideEffect => MDeepN m 1
  | _ => MachOKOn2 fo P fuel m instr operand

/-- what the relativised contract adds to `AccessOK` / `ResolveOK` for the look-up of `key` in `cur` -/
def LookupOn (S : RStore F σ) (Inv : σ → Prop) (key cur : Val F) : Prop :=
  ncConcat cur ∧ ((∀ y, key = .sym y → ∀ vs, cur ≠ .list vs) ∨ ListSymOn S Inv) ∧
    ∀ v, getAccess fo key cur = .some v → v ≠ .custom

/-- `ApplyType`: the value-level machine answers `unsupported`, nothing is claimed -/
def MachOKOn4 (S : RStore F σ) (Inv : σ → Prop) (P : Prog F) (fuel : Nat) (m : MState F) (instr : Instruction)
    (operand : Option Nat) : Prop :=
  match instr with
  | .access => MDeepN m 2 ∧ ∀ vr vl rs, m.regs = vr :: vl :: rs → AccessOK fo fuel vl vr ∧
      (accessArm vl.typeOf vr.typeOf = .get → LookupOn fo S Inv vr vl) ∧
      (accessArm vl.typeOf vr.typeOf = .merge → (∀ n, vl ≠ .num n) ∧ (∀ n, vr ≠ .num n))
  | .resolve => MDeepN m 0 ∧ ∀ k key, operand = some k → P.consts[k]? = some key →
      ∀ cur vs, m.vals = cur :: vs → (AccessDomain cur ∧ accessFuel cur ≤ fuel ∧
        ∀ n, key = .num n → (∃ i, n = .int i) ∧ RangeOrdered fo n cur) ∧ LookupOn fo S Inv key cur
  | .typeOf => MDeepN m 1
  | .typeEqual => MDeepN m 2
  | .equal | .notEqual => MDeepN m 2 ∧ ∀ vr vl rs, m.regs = vr :: vl :: rs → EqualDomain fuel vl vr
  | .accessLeftInternal => MDeepN m 1 ∧ ∀ v rs, m.regs = v :: rs → ∀ x, Abs.accessLeftInternal v = .val x → x ≠ .custom
  | .accessRightInternal => MDeepN m 1 ∧
      ∀ v rs, m.regs = v :: rs → ∀ x, Abs.accessRightInternal v = .val x → x ≠ .custom
  | .accessLengthInternal => MDeepN m 1 ∧ ∀ v rs, m.regs = v :: rs → LengthDomain v ∧ accessFuel v ≤ fuel ∧ ncConcat v
  | .applyType => True
  | _ => MachOKOn3 fo S Inv P fuel m instr operand

variable {fo}

theorem ApplyDomainOn.toK {K : Prop} {ur : Bool} {vl vr : Val F} (h : ApplyDomainOn fo S Inv ur vl vr) :
    ApplyDomainK fo K S Inv ur vl vr := by
  unfold ApplyDomainOn at h; unfold ApplyDomainK
  split <;> simp only [*] at h ⊢
  · exact fun i hi v hv _ => h i hi v hv
  · exact ⟨h.1, fun y hy v hv _ => h.2 y hy v hv⟩
  · exact fun items ps h1 h2 => ⟨(h items ps h1 h2).1.toK, fun v hv _ => (h items ps h1 h2).2 v hv⟩
  · exact fun _ => h
  · exact fun j input hj => ⟨fun _ => (h j input hj).1, fun hu _ => (h j input hj).2 hu⟩

variable {fuel : Nat} {m : MState F} {instr : Instruction} {operand : Option Nat}

theorem machOKOn1_of_0 (h : MachOKOn P m instr operand) : MachOKOn1 P m instr operand := by
  cases instr <;> first | exact h | exact False.elim h

theorem machOKOn2_of_1 (h : MachOKOn1 P m instr operand) : MachOKOn2 fo P fuel m instr operand := by
  cases instr <;> first | exact h | exact False.elim h

theorem machOKOn3_of_2 (h : MachOKOn2 fo P fuel m instr operand) : MachOKOn3 fo S Inv P fuel m instr operand := by
  cases instr <;> first | exact h | exact False.elim h

theorem machOKOn4_of_3 (h : MachOKOn3 fo S Inv P fuel m instr operand) : MachOKOn4 fo S Inv P fuel m instr operand := by
  cases instr <;> first | exact h | exact False.elim h

/-- the instructions whose handlers are the dispatcher's parameter `OtherHandlers` -/
def isOther : Instruction → Bool
  | .typeOf | .applyType | .typeEqual | .equal | .notEqual | .accessLeftInternal | .accessRightInternal
  | .accessLengthInternal => true
  | _ => false

theorem isOther_of_machOKOn3 (h : MachOKOn3 fo S Inv P fuel m instr operand) : isOther instr = false := by
  cases instr <;> first | rfl | exact False.elim h

/-- the instructions that never reach the host -/
def isQuiet : Instruction → Bool
  | .invalid | .put | .putValue | .pushValue | .updateValue | .startSideEffect | .endSideEffect | .jumpTo
  | .jumpIfTrue | .jumpIfFalse | .and | .or | .endExpression | .reapply | .makeList | .makePair => true
  | _ => false

theorem isQuiet_of_machOKOn (h : MachOKOn P m instr operand) : isQuiet instr = true := by
  cases instr <;> first | rfl | exact False.elim h

theorem stepOKF_of_machOKOn4 (L : StoreLawsOn S Inv Rd) {s : σ} (hl : Loaded S P s)
    (h : MachOKOn4 fo S Inv P fuel m instr operand) : StepOKF fo S P fuel s m instr operand := by
  cases instr <;> first
    | trivial
    | exact h.2
    | exact fun vr vl rs hr => (h.2 vr vl rs hr).1
    | exact fun vl rs hr => (h.2 vl rs hr).1
    | exact fun v rs hr => ⟨(h.2 v rs hr).1, (h.2 v rs hr).2.1⟩
    | exact fun k hk v hv => ⟨L.dataBound s k v (hl k v hv), hl k v hv⟩
    | exact fun k hk key hc => ⟨hl k key hc, fun cur vs hv => (h.2 k key hk hc cur vs hv).1⟩

end Garnish.Lemmas.Runtime.On

/-! ### which handler the dispatcher runs for an arithmetic / bitwise instruction -/

namespace Garnish.Lemmas.Runtime
open Garnish Gen Garnish.Abs Garnish.Model.Equality Garnish.Model.Runtime Garnish.Props.RuntimeRefine

variable {F σ : Type} {S : RStore F σ} {P : Prog F} {host : Host F} (fo : FloatOps F)

theorem arith_facts_binary {op : Instruction} {nop : NumOp} (hop : numOpOf op = some nop) (hbin : nop.isUnary = false)
    (fuel : Nat) (H : OtherHandlers σ) (operand : Option Nat) (vl vr : Val F) :
    isGeneric op = true ∧ unaryOp fo op vr = none ∧ binaryOp fo op vl vr = some (arithBinary fo op nop vl vr) ∧
    dispatch fo S fuel H op operand = performOp S op (Number.apply fo nop) := by
  cases op <;> cases hop <;> first | (cases hbin; done) | exact ⟨rfl, rfl, rfl, rfl⟩

theorem arith_facts_unary {op : Instruction} {nop : NumOp} (hop : numOpOf op = some nop) (hun : nop.isUnary = true)
    (fuel : Nat) (H : OtherHandlers σ) (operand : Option Nat) (v : Val F) :
    isGeneric op = true ∧ unaryOp fo op v = some (arithUnary fo op nop v) ∧
    dispatch fo S fuel H op operand = performUnaryOp S op (fun x => Number.apply fo nop x x) := by
  cases op <;> cases hop <;> first | (cases hun; done) | exact ⟨rfl, rfl, rfl⟩

end Garnish.Lemmas.Runtime

namespace Garnish.Lemmas.Runtime.Core
open Garnish Gen Garnish.Abs Garnish.Model.Equality Garnish.Model.Runtime Garnish.Lemmas.Runtime Garnish.Lemmas.Runtime.On

variable {F σ : Type} {S : RStore F σ} {Inv : σ → Prop} {Rd : σ → Nat → Prop} {K : Prop} {P : Prog F} {host : Host F}
  (fo : FloatOps F)

/-- the K-guarded premises of a look-up: from `LookupOn` under `K`, from the store's symbol clause otherwise -/
theorem lookupK_of {key cur : Val F} (hk : K → LookupOn fo S Inv key cur) (hn : ¬ K → ListSymOn S Inv) :
    (K → ncConcat cur) ∧ ((∀ y, key = .sym y → ∀ vs, cur ≠ .list vs) ∨ ListSymOn S Inv) ∧
      ∀ v, getAccess fo key cur = .some v → K → v ≠ .custom := by
  by_cases k : K
  · exact ⟨fun _ => (hk k).1, (hk k).2.1, fun v hv _ => (hk k).2.2 v hv⟩
  · exact ⟨fun k' => absurd k' k, .inr (hn k), fun _ _ k' => absurd k' k⟩

theorem applyDomainK_of {ur : Bool} {vl vr : Val F} (hk : K → ApplyDomainOn fo S Inv ur vl vr)
    (hn : ¬ K → ListSymOn S Inv) : ApplyDomainK fo K S Inv ur vl vr := by
  by_cases k : K
  · exact (hk k).toK
  · exact applyDomainK_of_not fo k (hn k) ur vl vr

theorem dispatch_other (fuel : Nat) (H H' : OtherHandlers σ) {instr : Instruction} (operand : Option Nat)
    (h : isOther instr = false) : dispatch fo S fuel H instr operand = dispatch fo S fuel H' instr operand := by
  cases instr <;> first | rfl | (cases h; done)

-- the operator instructions with one operand and what `unaryOp` answers for them: Props/C06Static.lean
open Garnish.Props.C06 (isUnaryOp unary_table)

section
variable (L : LawsK S Inv Rd K) (fuel : Nat) {s : σ} {m : MState F} (hi : Inv s) {instr : Instruction}
  {operand : Option Nat}
include L hi

/-- THE OPERATOR TABLE, two operands: the handler the dispatcher runs for a binary operator instruction refines
Abs/Ops `binaryOp` at the two top registers' values; `StepOKF` / `MachOKOn4` are the
instruction's own side conditions. One line per instruction: its handler's lemma over `LawsK`. -/
theorem dispatch_refines_binary (cast : RM σ (Option Nat)) (hgen : isGeneric instr = true)
    (hbin : isUnaryOp instr = false) {vr vl : Val F} {rs : List (Val F)} (hregs : m.regs = vr :: vl :: rs)
    (hok : StepOKF fo S P fuel s m instr operand) (hk : K → MachOKOn4 fo S Inv P fuel m instr operand)
    (hn : ¬ K → ListSymOn S Inv) :
    ∃ o, binaryOp fo instr vl vr = some o ∧
      (∀ r l rest, S.regs s = r :: l :: rest → DeepK K S s rest → Decodes (S.view s) l vl → Decodes (S.view s) r vr →
        RefinesOutI S Inv s (dispatch fo S fuel (fullHandlers fo S fuel cast) instr operand s) none rest l r o) ∧
      (K → MDeep m rs) := by
  have arith : ∀ nop : NumOp, numOpOf instr = some nop → nop.isUnary = false → (K → MDeepN m 2) →
      ∃ o, binaryOp fo instr vl vr = some o ∧
        (∀ r l rest, S.regs s = r :: l :: rest → DeepK K S s rest → Decodes (S.view s) l vl → Decodes (S.view s) r vr →
          RefinesOutI S Inv s (dispatch fo S fuel (fullHandlers fo S fuel cast) instr operand s) none rest l r o) ∧
        (K → MDeep m rs) := by
    intro nop h1 h2 hm
    obtain ⟨_, _, hb, hdisp⟩ := arith_facts_binary (S := S) fo h1 h2 fuel (fullHandlers fo S fuel cast) operand vl vr
    exact ⟨_, hb,
      fun r l rest hr hdp dl dr => by rw [hdisp, arithBinary_eq]; exact performOp_spec L instr _ hr dl dr hi hdp,
      fun k => (hm k).two hregs⟩
  have cmp : ∀ (test : Ordering → Bool) (falseOrd : Ordering), test falseOrd = false → ∀ r l rest,
      S.regs s = r :: l :: rest → DeepK K S s rest → Decodes (S.view s) l vl → Decodes (S.view s) r vr →
      CompareDomain fo fuel vl vr →
      PushedI S Inv s ((do pushComparison S test (← performComparison fo S fuel falseOrd) : RM σ (Option Nat)) s)
        none rest (cmpOp fo test vl vr) := by
    intro test falseOrd ht r l rest hr hdp dl dr ⟨ha, hb, hf, hagree⟩
    have h := comparisonHandler_spec fo L test falseOrd ht hr dl dr ha hb fuel hf hi hdp
    simp only [hagree, Garnish.Props.RuntimeRefine.C12_cmpValOf_compareVals] at h
    exact h
  have rng : ∀ se ee, instr = rangeInstr se ee → (K → MDeepN m 2) →
      ∃ o, binaryOp fo instr vl vr = some o ∧
        (∀ r l rest, S.regs s = r :: l :: rest → DeepK K S s rest → Decodes (S.view s) l vl → Decodes (S.view s) r vr →
          RefinesOutI S Inv s (dispatch fo S fuel (fullHandlers fo S fuel cast) instr operand s) none rest l r o) ∧
        (K → MDeep m rs) := by
    rintro se ee rfl hm
    have hb : binaryOp fo (rangeInstr se ee) vl vr = some (Abs.makeRange fo se ee vl vr) := by cases se <;> cases ee <;> rfl
    have hdisp : dispatch fo S fuel (fullHandlers fo S fuel cast) (rangeInstr se ee) operand = makeRangeInternal fo S se ee := by
      cases se <;> cases ee <;> rfl
    exact ⟨_, hb, fun r l rest hr hdp dl dr => by rw [hdisp]; exact C08_refine_make_range_internal fo L se ee hr dl dr hi hdp,
      fun k => (hm k).two hregs⟩
  cases instr <;> first | exact Bool.noConfusion hgen | exact Bool.noConfusion hbin | skip
  case add => exact arith .plus rfl rfl hk
  case subtract => exact arith .subtract rfl rfl hk
  case multiply => exact arith .multiply rfl rfl hk
  case divide => exact arith .divide rfl rfl hk
  case integerDivide => exact arith .integerDivide rfl rfl hk
  case power => exact arith .power rfl rfl hk
  case remainder => exact arith .remainder rfl rfl hk
  case bitwiseAnd => exact arith .bitwiseAnd rfl rfl hk
  case bitwiseOr => exact arith .bitwiseOr rfl rfl hk
  case bitwiseXor => exact arith .bitwiseXor rfl rfl hk
  case bitwiseShiftLeft => exact arith .bitwiseShiftLeft rfl rfl hk
  case bitwiseShiftRight => exact arith .bitwiseShiftRight rfl rfl hk
  case xor =>
    exact ⟨_, rfl, fun r l rest hr hdp dl dr => xor_spec L hr dl dr hi hdp, fun k => (hk k).two hregs⟩
  case typeEqual =>
    exact ⟨_, rfl, fun r l rest hr hdp dl dr => typeEqualH_spec L hr dl dr hi hdp, fun k => (hk k).two hregs⟩
  case equal =>
    obtain ⟨nl, nr, hf⟩ := hok vr vl rs hregs
    exact ⟨_, rfl, fun r l rest hr hdp dl dr => equalH_spec fo L fuel false hr dl dr nl nr hf hi hdp,
      fun k => (hk k).1.two hregs⟩
  case notEqual =>
    obtain ⟨nl, nr, hf⟩ := hok vr vl rs hregs
    exact ⟨_, rfl, fun r l rest hr hdp dl dr => equalH_spec fo L fuel true hr dl dr nl nr hf hi hdp,
      fun k => (hk k).1.two hregs⟩
  case lessThan =>
    exact ⟨_, rfl, fun r l rest hr hdp dl dr => cmp (fun o => o == .lt) .gt rfl r l rest hr hdp dl dr
      (hok vr vl rs hregs), fun k => (hk k).1.two hregs⟩
  case lessThanOrEqual =>
    exact ⟨_, rfl, fun r l rest hr hdp dl dr => cmp (fun o => o != .gt) .gt rfl r l rest hr hdp dl dr
      (hok vr vl rs hregs), fun k => (hk k).1.two hregs⟩
  case greaterThan =>
    exact ⟨_, rfl, fun r l rest hr hdp dl dr => cmp (fun o => o == .gt) .lt rfl r l rest hr hdp dl dr
      (hok vr vl rs hregs), fun k => (hk k).1.two hregs⟩
  case greaterThanOrEqual =>
    exact ⟨_, rfl, fun r l rest hr hdp dl dr => cmp (fun o => o != .lt) .lt rfl r l rest hr hdp dl dr
      (hok vr vl rs hregs), fun k => (hk k).1.two hregs⟩
  case partialApply =>
    exact ⟨_, rfl, fun r l rest hr hdp dl dr => C06_refine_partial_apply L hr dl dr hi hdp,
      fun k => (hk k).two hregs⟩
  case concat =>
    exact ⟨_, rfl, fun r l rest hr hdp dl dr => C06_refine_concat L hr dl dr
      (fun k => ((hk k).2 vr vl rs hregs).1) (fun k => ((hk k).2 vr vl rs hregs).2) hi hdp,
      fun k => (hk k).1.two hregs⟩
  case access =>
    exact ⟨_, rfl, fun r l rest hr hdp dl dr => access_spec fo L fuel hr dl dr (hok vr vl rs hregs)
      (fun harm => lookupK_of fo (fun k => ((hk k).2 vr vl rs hregs).2.1 harm) hn)
      (fun harm k => ((hk k).2 vr vl rs hregs).2.2 harm) hi hdp,
      fun k => (hk k).1.two hregs⟩
  case makeRange => exact rng false false rfl hk
  case makeStartExclusiveRange => exact rng true false rfl hk
  case makeEndExclusiveRange => exact rng false true rfl hk
  case makeExclusiveRange => exact rng true true rfl hk

/-- THE OPERATOR TABLE, one operand: … refines Abs/Ops `unaryOp` at the top register's value; the host sees the
filler `(Unit, 0)` as the right operand -/
theorem dispatch_refines_unary (cast : RM σ (Option Nat)) (hgen : isGeneric instr = true)
    (hun : isUnaryOp instr = true) {v : Val F} {rs : List (Val F)} (hregs : m.regs = v :: rs)
    (hok : StepOKF fo S P fuel s m instr operand) (hk : K → MachOKOn4 fo S Inv P fuel m instr operand) :
    ∃ o, unaryOp fo instr v = some o ∧
      (∀ a rest, S.regs s = a :: rest → DeepK K S s rest → Decodes (S.view s) a v →
        RefinesOutI S Inv s (dispatch fo S fuel (fullHandlers fo S fuel cast) instr operand s) none rest a 0 o) ∧
      (K → MDeep m rs) := by
  have arith : ∀ nop : NumOp, numOpOf instr = some nop → nop.isUnary = true → (K → MDeepN m 1) →
      ∃ o, unaryOp fo instr v = some o ∧
        (∀ a rest, S.regs s = a :: rest → DeepK K S s rest → Decodes (S.view s) a v →
          RefinesOutI S Inv s (dispatch fo S fuel (fullHandlers fo S fuel cast) instr operand s) none rest a 0 o) ∧
        (K → MDeep m rs) := by
    intro nop h1 h2 hm
    obtain ⟨_, hu, hdisp⟩ := arith_facts_unary (S := S) fo h1 h2 fuel (fullHandlers fo S fuel cast) operand v
    exact ⟨_, hu, fun a rest hr hdp da => by rw [hdisp, arithUnary_eq]; exact performUnaryOp_spec L instr _ hr da hi hdp,
      fun k => (hm k).one hregs⟩
  cases instr <;> first | exact Bool.noConfusion hgen | exact Bool.noConfusion hun | skip
  case opposite => exact arith .opposite rfl rfl hk
  case absoluteValue => exact arith .absoluteValue rfl rfl hk
  case bitwiseNot => exact arith .bitwiseNot rfl rfl hk
  case not =>
    exact ⟨_, rfl, fun a rest hr hdp da => not_spec L hr da hi hdp, fun k => (hk k).one hregs⟩
  case tis =>
    exact ⟨_, rfl, fun a rest hr hdp da => tis_spec L hr da hi hdp, fun k => (hk k).one hregs⟩
  case typeOf =>
    exact ⟨_, rfl, fun a rest hr hdp da => typeOfH_spec L hr da hi hdp, fun k => (hk k).one hregs⟩
  case accessLeftInternal =>
    exact ⟨_, rfl, fun a rest hr hdp da => accessLeftInternalH_spec L hr da (fun x hx k => (hk k).2 v rs hregs x hx) hi hdp,
      fun k => (hk k).1.one hregs⟩
  case accessRightInternal =>
    exact ⟨_, rfl, fun a rest hr hdp da => accessRightInternalH_spec L hr da (fun x hx k => (hk k).2 v rs hregs x hx) hi hdp,
      fun k => (hk k).1.one hregs⟩
  case accessLengthInternal =>
    exact ⟨_, rfl, fun a rest hr hdp da => accessLengthInternalH_spec fo L fuel hr da (hok v rs hregs).1 (hok v rs hregs).2
      (fun k => ((hk k).2 v rs hregs).2.2) hi hdp, fun k => (hk k).1.one hregs⟩

end

section
variable (L : LawsK S Inv Rd K) (fuel : Nat) {s : σ} {m : MState F} (hsim : Sim S P s m) (hi : Inv s)
  {instr : Instruction} {operand : Option Nat}
include L hsim hi

/-- the instructions that never reach the host: no host contract is needed, and any dispatcher parameter will do
(`refine_step_on` has neither) -/
theorem handle_sim_quiet (H : OtherHandlers σ) (hq : isQuiet instr = true) (hok : StepOKF fo S P fuel s m instr operand)
    (hk : K → MachOKOn4 fo S Inv P fuel m instr operand) :
    HandlerSimI S Inv P s (dispatch fo S fuel H instr operand s) m (handle fo host P m instr operand) := by
  cases instr <;> first | (cases hq; done) | skip
  case invalid => exact handle_invalid fo fuel H hsim hi operand
  case put => exact handle_put fo L fuel H hsim hi operand hok (fun k kk v hk' hc => hk k kk v hk' hc)
  case putValue => exact handle_putValue fo L fuel H hsim hi operand hk
  case pushValue => exact handle_pushValue fo L fuel H hsim hi operand hk
  case updateValue => exact handle_updateValue fo L fuel H hsim hi operand hk
  case startSideEffect => exact handle_startSideEffect fo L fuel H hsim hi operand hk
  case endSideEffect => exact handle_endSideEffect fo L fuel H hsim hi operand hk
  case jumpTo => exact handle_jumpTo fo fuel H hsim hi operand
  case jumpIfTrue => exact handle_jumpIfTrue fo L fuel H hsim hi operand hk
  case jumpIfFalse => exact handle_jumpIfFalse fo L fuel H hsim hi operand hk
  case and => exact handle_and fo L fuel H hsim hi operand hk
  case or => exact handle_or fo L fuel H hsim hi operand hk
  case endExpression => exact handle_endExpression fo L fuel H hsim hi operand hk
  case reapply => exact handle_reapply fo L fuel H hsim hi operand hk
  case makeList => exact handle_makeList fo L fuel H hsim hi operand hk
  case makePair => exact handle_makePair fo L fuel H hsim hi operand hk

theorem handle_sim (HR : HostRefinesI S Inv host) (cast : RM σ (Option Nat))
    (hok : StepOKF fo S P fuel s m instr operand) (hk : K → MachOKOn4 fo S Inv P fuel m instr operand)
    (hn : ¬ K → ListSymOn S Inv) :
    HandlerSimI S Inv P s (dispatch fo S fuel (fullHandlers fo S fuel cast) instr operand s) m
      (handle fo host P m instr operand) := by
  by_cases hq : isQuiet instr = true
  · exact handle_sim_quiet fo L fuel hsim hi _ hq hok hk
  by_cases hg : isGeneric instr = true
  · cases hun : isUnaryOp instr
    · exact handle_total_binary fo operand hg ((unary_table (fo := fo)).2 hun) (fun _ => trivial) fun vr vl rs hr => by
        obtain ⟨o, hb, href, hm⟩ := dispatch_refines_binary fo L fuel hi cast hg hun hr hok hk hn
        exact handle_binary fo L HR fuel _ hsim operand hg hr ((unary_table (fo := fo)).2 hun vr) hb href hm
    · exact handle_total_unary fo operand hg (fun _ => trivial) fun v rs hr => by
        obtain ⟨o, hu, href, hm⟩ := dispatch_refines_unary fo L fuel hi cast hg hun hr hok hk
        exact handle_unary fo L HR fuel _ hsim operand hg hr hu href hm
  cases instr <;> first | (exact absurd rfl hq) | (exact absurd rfl hg) | skip
  case applyType => trivial
  case apply =>
    exact handle_apply fo L HR fuel _ hsim hi operand
      (fun vr vl rs hr => ⟨hok vr vl rs hr, applyDomainK_of fo (fun k => ((hk k).2 vr vl rs hr).2) hn⟩) (fun k => (hk k).1)
  case emptyApply =>
    exact handle_emptyApply fo L HR fuel _ hsim hi operand
      (fun vl rs hr => ⟨hok vl rs hr, applyDomainK_of fo (fun k => ((hk k).2 vl rs hr).2) hn⟩) (fun k => (hk k).1)
  case resolve =>
    exact handle_resolve fo L HR fuel _ hsim hi operand hok
      (fun k key hk' hc cur vs hv => lookupK_of fo (fun kk => ((hk kk).2 k key hk' hc cur vs hv).2) hn) (fun k => (hk k).1)

/-- ONE STEP over the guarded contract: `StepSimOn`, `StepSim` and `StepTrace` are its projections. An instruction whose
handler is not the dispatcher's parameter may be run with any `H` (`hH`). `hn`: `LawsK` has no clause for the look-up by
symbol; under `K` the instruction's own condition (`LookupOn`, `ApplyDomainOn`) carries `ListSymOn`, otherwise the
caller gives it (`StoreLaws.listSymOn`). -/
theorem refine_step (HR : HostRefinesI S Inv host) (cast : RM σ (Option Nat)) (H : OtherHandlers σ)
    (hH : isOther instr = true → H = fullHandlers fo S fuel cast)
    (hfetch : P.instrs[m.pc]? = some (instr, operand)) (hok : StepOKF fo S P fuel s m instr operand)
    (hk : K → MachOKOn4 fo S Inv P fuel m instr operand) (hn : ¬ K → ListSymOn S Inv) :
    StepSimI fo host S Inv P fuel H s m := by
  refine step_of_handle L.setCursor fo fuel H hsim hfetch ?_
  have h := handle_sim fo L fuel hsim hi HR cast hok hk hn
  cases ho : isOther instr
  · rw [dispatch_other fo fuel H _ operand ho]; exact h
  · rw [hH ho]; exact h

end
end Garnish.Lemmas.Runtime.Core

namespace Garnish.Lemmas.Runtime.On
open Garnish Gen Garnish.Abs Garnish.Model.Equality Garnish.Model.Runtime Garnish.Lemmas.Runtime

variable {F σ : Type} {S : RStore F σ} {Inv : σ → Prop} {Rd : σ → Nat → Prop} {P : Prog F} {host : Host F}
  (fo : FloatOps F)

theorem refine_step_on (L : StoreLawsOn S Inv Rd) (fuel : Nat) (H : OtherHandlers σ) {s : σ} {m : MState F}
    (hsim : Sim S P s m) (hi : Inv s) (hl : Loaded S P s) {instr : Instruction} {operand : Option Nat}
    (hfetch : P.instrs[m.pc]? = some (instr, operand)) (hok : MachOKOn P m instr operand) :
    StepSimOn fo host S Inv P fuel H s m :=
  have hok4 : MachOKOn4 fo S Inv P fuel m instr operand :=
    machOKOn4_of_3 (machOKOn3_of_2 (machOKOn2_of_1 (machOKOn1_of_0 hok)))
  (Core.step_of_handle L.setCursor fo fuel H hsim hfetch (Core.handle_sim_quiet fo L.toK fuel hsim hi H
    (isQuiet_of_machOKOn hok) (stepOKF_of_machOKOn4 L hl hok4) fun _ => hok4)).on

theorem refine_step_on3 (L : StoreLawsOn S Inv Rd) (HR : HostRefinesI S Inv host) (fuel : Nat) (H : OtherHandlers σ)
    {s : σ} {m : MState F} (hsim : Sim S P s m) (hi : Inv s) (hl : Loaded S P s) {instr : Instruction}
    {operand : Option Nat} (hfetch : P.instrs[m.pc]? = some (instr, operand))
    (hok : MachOKOn3 fo S Inv P fuel m instr operand) : StepSimOn fo host S Inv P fuel H s m :=
  (Core.refine_step fo L.toK fuel hsim hi HR (pure none) H
    (fun h => by rw [isOther_of_machOKOn3 hok] at h; cases h) hfetch
    (stepOKF_of_machOKOn4 L hl (machOKOn4_of_3 hok)) (fun _ => machOKOn4_of_3 hok) (fun k => absurd trivial k)).on

theorem refine_step_on2 (L : StoreLawsOn S Inv Rd) (HR : HostRefinesI S Inv host) (fuel : Nat) (H : OtherHandlers σ)
    {s : σ} {m : MState F} (hsim : Sim S P s m) (hi : Inv s) (hl : Loaded S P s) {instr : Instruction}
    {operand : Option Nat} (hfetch : P.instrs[m.pc]? = some (instr, operand))
    (hok : MachOKOn2 fo P fuel m instr operand) : StepSimOn fo host S Inv P fuel H s m :=
  refine_step_on3 fo L HR fuel H hsim hi hl hfetch (machOKOn3_of_2 hok)

theorem refine_step_on1 (L : StoreLawsOn S Inv Rd) (HR : HostRefinesI S Inv host) (fuel : Nat) (H : OtherHandlers σ)
    {s : σ} {m : MState F} (hsim : Sim S P s m) (hi : Inv s) (hl : Loaded S P s) {instr : Instruction}
    {operand : Option Nat} (hfetch : P.instrs[m.pc]? = some (instr, operand)) (hok : MachOKOn1 P m instr operand) :
    StepSimOn fo host S Inv P fuel H s m :=
  refine_step_on2 fo L HR fuel H hsim hi hl hfetch (machOKOn2_of_1 hok)

theorem refine_step_on4 (L : StoreLawsOn S Inv Rd) (HR : HostRefinesI S Inv host) (fuel : Nat)
    (cast : RM σ (Option Nat)) {s : σ} {m : MState F} (hsim : Sim S P s m) (hi : Inv s) (hl : Loaded S P s)
    {instr : Instruction} {operand : Option Nat} (hfetch : P.instrs[m.pc]? = some (instr, operand))
    (hok : MachOKOn4 fo S Inv P fuel m instr operand) :
    StepSimOn fo host S Inv P fuel (fullHandlers fo S fuel cast) s m :=
  (Core.refine_step fo L.toK fuel hsim hi HR cast _ (fun _ => rfl) hfetch (stepOKF_of_machOKOn4 L hl hok) (fun _ => hok)
    (fun k => absurd trivial k)).on

end Garnish.Lemmas.Runtime.On
