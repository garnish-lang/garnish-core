/-
Source texts and the objects built from them: the hypotheses of `C01_text_build` about the text as one predicate (`Src`), the built object
as `compile` of the elaborated program (`Src.built`), and a text built into an object that already holds other programs
(`buildTextInto`, `Src.into`: there it is `compileInto` of the program with its bodies renamed to the jump entries they
get there).  At the end the two source strings the non-vacuity examples of Props/SourceProps*.lean and
Props/C01TextStore*.lean stand on, each as ONE `Src` fact (`srcCond`, `srcNested`).
-/
import Garnish.Props.C01Text
import Garnish.Lemmas.CompileTreeRelabel
import Garnish.Props.C20Compile
namespace Garnish.Abs.Source
open Garnish Garnish.Gen Garnish.Spec Garnish.Abs Garnish.Abs.Tree Garnish.Model Garnish.Model.Parser
open Garnish.Model.Lexer Garnish.Model.Literals Garnish.Model.Build Garnish.Props.C01Build Garnish.Props.C01Source
open Garnish.Props.C02Numbered Garnish.Props.C01Text Garnish.Props.C20

variable {F : Type} (pf : List Char → Option F) (cc : CharClass)

/-- **the pipeline of the models into an existing object**: `build(parse(lex(source)))` on `data` -/
def buildTextInto (data : BState F) (s : List Char) : Outcome (BState F × Nat) :=
  Outcome.bind (lex cc s) fun toks =>
    Outcome.bind (parse (toP toks)) fun r => build pf (defaultFuel r.nodes.size) r.root r.nodes data

theorem buildText_eq_into (s : List Char) : buildText pf cc s = buildTextInto pf cc BState.empty s := rfl

/-- **`s` is a source text of the program `p`**: the lexer model accepts it, the token list is in the fragment `frag9'`, and
its reference tree elaborates to `p` (the hypotheses of `C01_text_build` but `hcomplete`, which `Src.built` takes) -/
def Src (s : List Char) (p : Program F) : Prop :=
  ∃ toks rt, lex cc s = .ok toks ∧ frag9' (toP toks) = true ∧ refParse Table.gen (toP toks) = .ok rt ∧
    elaborate pf (toP toks) rt = some p

variable {pf cc}

theorem Src.rep {s : List Char} {p : Program F} (h : Src pf cc s p) :
    ∃ toks r, lex cc s = .ok toks ∧ frag9' (toP toks) = true ∧ parse (toP toks) = .ok r ∧
      Rep pf r.nodes p.bodies 0 r.nodes.size r.root p.main ∧
      lookupBody p.bodies 0 = some p.main ∧ validateParseTree r.root r.nodes = .ok () := by
  obtain ⟨toks, rt, hlex, hf, href, hel⟩ := h
  obtain ⟨r, t, h1, h2, rfl⟩ := frag9_parse (toP toks) (frag9'_sub hf) (toP_numbered toks) rt href
  have hwn := C02_parse_wellNumbered (toP toks) hf (toP_numbered toks) r t h1 h2
  exact ⟨toks, r, hlex, hf, h1, parse_rep_elaborate pf (toP toks) r t p h2 hwn hel⟩

theorem Src.built {s : List Char} {p : Program F} (h : Src pf cc s p)
    (hcomplete : (compileState Prog.empty p).pending = []) :
    ∃ d, buildText pf cc s = .ok (d, 0) ∧ progOf d = compile p := by
  obtain ⟨toks, rt, hlex, hf, href, hel⟩ := h
  obtain ⟨d, hb, h1, h2, h3⟩ := C01_text_build pf cc s toks hlex hf rt href p hel hcomplete
  refine ⟨d, hb, ?_⟩
  simp only [progOf, h1, h2, h3]

theorem Src.into {s : List Char} {p : Program F} (h : Src pf cc s p) (hwf : Garnish.Props.C01.WFProgram p) (data : BState F) :
    ∃ d, buildTextInto pf cc data s = .ok (d, data.jumps.size) ∧
      progOf d = (compileInto (progOf data) (rlProgram (shJ (progOf data)) p)).1 := by
  obtain ⟨toks, r, hlex, _, hp, hrep, hmain, hval⟩ := h.rep
  have hwfAt := WFProgramAt_shift (progOf data) p hwf
  have hrep' : Rep pf r.nodes (rlProgram (shJ (progOf data)) p).bodies 0 r.nodes.size r.root
      (rlProgram (shJ (progOf data)) p).main := Rep.rl (shJ_inj (progOf data)) hrep
  obtain ⟨d, hb, h1, h2, h3⟩ := build_refines_compileInto pf r.nodes (rlProgram (shJ (progOf data)) p) data r.root
    (defaultFuel r.nodes.size) hrep' hwfAt.main0 hval (compile_complete_at _ _ hwfAt.labels)
    (by simp only [defaultFuel]; omega)
  refine ⟨d, by rw [buildTextInto, hlex, Outcome.bind, hp, Outcome.bind, hb], ?_⟩
  simp only [progOf, h1, h2, h3]

end Garnish.Abs.Source

namespace Garnish.Props.SourceProps
open Garnish Garnish.Spec Garnish.Abs Garnish.Abs.Source Garnish.Model Garnish.Model.Parser Garnish.Model.Lexer
open Garnish.Model.Literals Garnish.Props.C01Build Garnish.Props.C01Source Garnish.Props.C02Numbered Garnish.Props.C01Text

/-- a string is a source text of `p`: the lexer is evaluated once (`h1`); the fragment test, the reference parser and the
elaboration are evaluated on its tokens -/
theorem src_of_eval (s : String) (p : Program Float) (toks : List PToken) (h1 : toP (lexed s) = toks) (hne : toks ≠ [])
    (h2 : frag9' toks = true)
    (h3 : (match refParse Table.gen toks with
      | .ok rt => elaborate noFloat toks rt
      | _ => none) = some p) : Src noFloat asciiCC s.toList p := by
  subst h1
  cases hr : refParse Table.gen (toP (lexed s)) with
  | ok rt => rw [hr] at h3; exact ⟨_, rt, lex_lexed rfl hne, h2, hr, h3⟩
  | err _ => rw [hr] at h3; cases h3
  | panic _ => rw [hr] at h3; cases h3
  | fuelOut => rw [hr] at h3; cases h3

def sCond : String := "$ ?> 1 |> 2"
theorem srcCond : Src noFloat asciiCC sCond.toList progCond :=
  src_of_eval sCond progCond exCond text_cond_toks (List.cons_ne_nil _ _) exCond_frag' (by rw [exCond_ref]; exact exCond_elab)

open Garnish.Abs.Tree Garnish.Model.Build in
theorem srcCond_built : ∃ d, buildText noFloat asciiCC sCond.toList = .ok (d, 0) ∧ progOf d = compile progCond :=
  srcCond.built (C01.compile_complete _ progCond_wf.labels)

theorem srcNested : Src noFloat asciiCC "{ $ + 1 } <~ 5".toList progNested :=
  src_of_eval _ progNested exNested text_nested_toks (List.cons_ne_nil _ _) exNested_frag'
    (by rw [exNested_ref]; exact exNested_elab)

end Garnish.Props.SourceProps
