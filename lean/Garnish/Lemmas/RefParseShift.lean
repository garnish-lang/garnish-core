/-
The reference parser only uses its position counter to label the nodes it creates: starting the count at `k` instead of
`0` shifts all positions in the result by `k` (`refLoop_top_shift`).  Used to state the block-body theorems of C02 against
`refParse` of the body.
-/
import Garnish.Lemmas.RefParse

namespace Garnish.Spec
open Garnish Garnish.Gen Garnish.Model.Parser

/-- add `k` to every token position -/
def RTree.shift (k : Nat) : RTree → RTree
  | .nil => .nil
  | .node l d p r => .node (l.shift k) d (p + k) (r.shift k)
  | .group d p inner => .group d (p + k) (inner.shift k)

def Frame.shift (k : Nat) (f : Frame) : Frame :=
  { f with ctx := f.ctx.map (fun dp => (dp.1, dp.2 + k)), cur := f.cur.shift k }

def _root_.Garnish.Outcome.mapT {α β : Type} (g : α → β) : Outcome α → Outcome β
  | .ok a => .ok (g a)
  | .err e => .err e
  | .panic s => .panic s
  | .fuelOut => .fuelOut

theorem shift_isNil (k : Nat) (t : RTree) : (t.shift k).isNil = t.isNil := by cases t <;> rfl

theorem asProperty_shift (k : Nat) (t : RTree) : asProperty (t.shift k) = (asProperty t).shift k := by
  unfold asProperty
  split
  · rename_i kk heq
    cases t with
    | nil => simp [RTree.shift] at heq
    | group _ _ _ => simp [RTree.shift] at heq
    | node l d p r =>
      simp only [RTree.shift, RTree.node.injEq] at heq
      obtain ⟨h1, h2, h3, h4⟩ := heq
      cases l <;> cases r <;> simp_all [RTree.shift]
  · rename_i hne
    split
    · rename_i kk
      exfalso
      exact hne (kk + k) rfl
    · rfl

theorem plug_shift (k : Nat) : ∀ (R x : RTree), plug (R.shift k) (x.shift k) = (plug R x).shift k
  | .nil, x => rfl
  | .group _ _ _, _ => rfl
  | .node l d p r, x => by
    simp only [RTree.shift, plug, shift_isNil]
    split
    · split
      · simp only [RTree.shift, asProperty_shift]
      · rfl
    · simp only [RTree.shift, plug_shift k r x]

theorem absorb_shift (tbl : Table) (q : Nat) (rtl : Bool) (d : Definition) (p k : Nat) :
    ∀ t : RTree, absorb tbl q rtl d (p + k) (t.shift k) = (absorb tbl q rtl d p t).map (RTree.shift k)
  | .nil => rfl
  | .group _ _ _ => rfl
  | .node l a ka r => by
    simp only [RTree.shift, absorb, absorb_shift tbl q rtl d p k r]
    cases absorb tbl q rtl d p r with
    | some r' => rfl
    | none =>
      simp only [Option.map_none]
      cases tbl.prio a with
      | none => rfl
      | some pa => simp only; split <;> rfl

theorem attach_shift (tbl : Table) (q : Nat) (rtl : Bool) (d : Definition) (p k : Nat) (t : RTree) :
    attach tbl q rtl d (p + k) (t.shift k) = (attach tbl q rtl d p t).shift k := by
  unfold attach
  rw [absorb_shift]
  cases absorb tbl q rtl d p t <;> rfl

theorem frame_shift_fields (k : Nat) (f : Frame) :
    (f.shift k).last = f.last ∧ (f.shift k).ws = f.ws ∧ (f.shift k).prevSep = f.prevSep ∧
      (f.shift k).inGroup = f.inGroup ∧ (f.shift k).cur = f.cur.shift k := by
  refine ⟨rfl, rfl, rfl, ?_, rfl⟩
  rw [Frame.inGroup_eq, Frame.inGroup_eq]
  show ((f.ctx.map fun dp => (dp.1, dp.2 + k)).map (·.1) == _) = _
  rw [Option.map_map]
  rfl

theorem beforeOperand_shift (tbl : Table) (k : Nat) (f : Frame) (pos : Nat) (hpos : f.last = .operand → 0 < pos) :
    beforeOperand tbl (f.shift k) (pos + k) = (beforeOperand tbl f pos).mapT (Frame.shift k) := by
  unfold beforeOperand
  have hl : (f.shift k).last = f.last := rfl
  have hw : (f.shift k).ws = f.ws := rfl
  rw [hl, hw]
  cases hlast : f.last <;> simp only [Outcome.mapT]
  cases f.ws with
  | false => rfl
  | true =>
    simp only [if_true]
    cases tbl.prio .list with
    | none => rfl
    | some q =>
      simp only [Outcome.mapT]
      have h0 := hpos hlast
      have e : pos + k - 1 = (pos - 1) + k := by omega
      have hc : (f.shift k).cur = f.cur.shift k := rfl
      rw [e, hc, attach_shift]
      rfl

theorem refStep_shift (tbl : Table) (k : Nat) (f : Frame) (stack : List Frame) (pos : Nat) (t : PToken)
    (rest : List PToken) (hpos : f.last = .operand → 0 < pos) :
    refStep tbl (f.shift k) (stack.map (Frame.shift k)) (pos + k) t rest =
      (refStep tbl f stack pos t rest).mapT (fun fs => (fs.1.shift k, fs.2.map (Frame.shift k))) := by
  obtain ⟨hl, hw, hps, hig, hc⟩ := frame_shift_fields k f
  rw [refStep_eq, refStep_eq]
  cases tbl.act t.type <;> simp only [Act.run]
  case fail => rfl
  case skip => rfl
  case space => rfl
  case operand d last =>
    rw [beforeOperand_shift tbl k f pos hpos]
    cases hb : beforeOperand tbl f pos <;> simp only [Outcome.bind, Outcome.mapT]
    rename_i f'
    have hc' : (f'.shift k).cur = f'.cur.shift k := rfl
    have : plug (f'.shift k).cur (RTree.node .nil d (pos + k) .nil) = (plug f'.cur (RTree.node .nil d pos .nil)).shift k := by
      rw [hc', ← plug_shift]; rfl
    simp only [this]
    rfl
  case opener d =>
    rw [beforeOperand_shift tbl k f pos hpos]
    cases hb : beforeOperand tbl f pos <;> simp only [Outcome.bind, Outcome.mapT]
    rfl
  case closer =>
    cases hctx : f.ctx with
    | none =>
      have : (f.shift k).ctx = none := by simp [Frame.shift, hctx]
      simp only [this]
      rfl
    | some gp =>
      obtain ⟨gd, gpos⟩ := gp
      have : (f.shift k).ctx = some (gd, gpos + k) := by simp [Frame.shift, hctx]
      simp only [this]
      cases stack with
      | nil => rfl
      | cons parent stack' =>
        simp only [List.map_cons, hl]
        split
        · rfl
        · split
          · rfl
          · simp only [Outcome.mapT]
            have hpc : (parent.shift k).cur = parent.cur.shift k := rfl
            have : plug (parent.shift k).cur (RTree.group gd (gpos + k) (f.shift k).cur) =
                (plug parent.cur (RTree.group gd gpos f.cur)).shift k := by
              rw [hpc, hc, ← plug_shift]; rfl
            simp only [this]
            rfl
  case operator d q rtl optional last =>
    simp only [hl]
    split
    · rfl
    · simp only [Outcome.mapT, hc, attach_shift]; rfl
  case separator d =>
    simp only [hig, hps, hl]
    split
    · rfl
    · split
      · rfl
      · split
        · rfl
        · cases tbl.prio d with
          | none => rfl
          | some q => simp only [Outcome.mapT, hc, attach_shift]; rfl

theorem refStep_last_pos (tbl : Table) (f f' : Frame) (stack stack' : List Frame) (pos : Nat) (t : PToken)
    (rest : List PToken) (_ : refStep tbl f stack pos t rest = .ok (f', stack')) : f'.last = .operand → 0 < pos + 1 :=
  fun _ => Nat.succ_pos _

theorem refLoop_shift (tbl : Table) (k : Nat) : ∀ (toks : List PToken) (f : Frame) (stack : List Frame) (pos : Nat),
    (f.last = .operand → 0 < pos) →
    refLoop tbl (f.shift k) (stack.map (Frame.shift k)) (pos + k) toks =
      (refLoop tbl f stack pos toks).mapT (RTree.shift k)
  | [], f, stack, pos, _ => by
    unfold refLoop
    have hl : (f.shift k).last = f.last := rfl
    rw [hl]
    cases stack with
    | nil =>
      simp only [List.map_nil, List.isEmpty_nil, Bool.not_true, Bool.false_eq_true, if_false]
      split <;> rfl
    | cons s ss => rfl
  | t :: rest, f, stack, pos, hpos => by
    unfold refLoop
    rw [refStep_shift tbl k f stack pos t rest hpos]
    cases hs : refStep tbl f stack pos t rest with
    | ok fs =>
      obtain ⟨f', stack'⟩ := fs
      simp only [Outcome.mapT, Outcome.bind]
      have e : pos + k + 1 = (pos + 1) + k := by omega
      rw [e]
      exact refLoop_shift tbl k rest f' stack' (pos + 1) (fun _ => Nat.succ_pos _)
    | err e => rfl
    | panic s => rfl
    | fuelOut => rfl

theorem refLoop_top_shift (tbl : Table) (k : Nat) (toks : List PToken) :
    refLoop tbl Frame.top [] k toks = (refLoop tbl Frame.top [] 0 toks).mapT (RTree.shift k) := by
  have := refLoop_shift tbl k toks Frame.top [] 0 (fun h => by cases h)
  simpa [Frame.shift, Frame.top, RTree.shift] using this

end Garnish.Spec
