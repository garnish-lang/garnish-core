/-
Correctness of the proper-tree checker of Garnish/Spec/Tree.lean (for ALL parse results, no bound).
-/
import Garnish.Spec.Tree

namespace Garnish.Spec
open Garnish Garnish.Gen Garnish.Model.Parser

theorem Tree.depth_le_size : ∀ t : Tree, t.depth ≤ t.size
  | .nil => Nat.le_refl _
  | .node l _ _ r => by
    have hl := Tree.depth_le_size l
    have hr := Tree.depth_le_size r
    simp only [Tree.depth, Tree.size]
    omega

theorem Tree.length_inorder : ∀ t : Tree, t.inorder.length = t.size
  | .nil => rfl
  | .node l _ _ r => by
    simp only [Tree.inorder, Tree.size, List.length_append, List.length_cons, Tree.length_inorder l, Tree.length_inorder r]
    omega

theorem Tree.length_inorderToks : ∀ t : Tree, t.inorderToks.length = t.size
  | .nil => rfl
  | .node l _ _ r => by
    simp only [Tree.inorderToks, Tree.size, List.length_append, List.length_cons, Tree.length_inorderToks l,
      Tree.length_inorderToks r]
    omega

theorem IsTreeAt.inorder_lt {nodes : Array ParseNode} {p link : Option Nat} {t : Tree} (h : IsTreeAt nodes p link t) :
    ∀ i ∈ t.inorder, i < nodes.size := by
  induction h with
  | nil p => intro i hi; simp [Tree.inorder] at hi
  | node p i n l r hn hp _ _ ihl ihr =>
    intro j hj
    simp only [Tree.inorder, List.mem_append, List.mem_cons] at hj
    rcases hj with hj | hj | hj
    · exact ihl j hj
    · subst hj
      have := Array.getElem?_eq_some_iff.mp hn
      exact this.1
    · exact ihr j hj

theorem IsTreeAt.unique {nodes : Array ParseNode} {p link : Option Nat} {t t' : Tree}
    (h : IsTreeAt nodes p link t) (h' : IsTreeAt nodes p link t') : t = t' := by
  induction h generalizing t' with
  | nil p => cases h'; rfl
  | node p i n l r hn hp _ _ ihl ihr =>
    cases h' with
    | node _ _ n' l' r' hn' hp' hl' hr' =>
      have : n = n' := by rw [hn] at hn'; exact Option.some.inj hn'
      subst this
      rw [ihl hl', ihr hr']

/-- a proper tree over `nodes` has at most `nodes.size` nodes (pigeonhole) -/
theorem IsTreeAt.size_le {nodes : Array ParseNode} {p link : Option Nat} {t : Tree} (h : IsTreeAt nodes p link t)
    (hnd : t.inorder.Nodup) : t.size ≤ nodes.size := by
  have hsub : t.inorder ⊆ List.range nodes.size := by
    intro i hi
    exact List.mem_range.mpr (h.inorder_lt i hi)
  have := hnd.length_le_of_subset hsub
  rw [Tree.length_inorder, List.length_range] at this
  exact this

theorem buildTree_sound (nodes : Array ParseNode) :
    ∀ (fuel : Nat) (p link : Option Nat) (v : List Nat) (t : Tree) (v' : List Nat),
      buildTree nodes fuel p link v = some (t, v') →
      IsTreeAt nodes p link t ∧ t.inorder.Nodup ∧ (∀ x ∈ t.inorder, x ∉ v) ∧ (∀ x, x ∈ v' ↔ x ∈ v ∨ x ∈ t.inorder) := by
  intro fuel
  induction fuel with
  | zero =>
    intro p link v t v' h
    cases link with
    | none =>
      simp only [buildTree, Option.some.injEq, Prod.mk.injEq] at h
      obtain ⟨rfl, rfl⟩ := h
      exact ⟨.nil p, by simp [Tree.inorder], by simp [Tree.inorder], by simp [Tree.inorder]⟩
    | some i => simp [buildTree] at h
  | succ fuel ih =>
    intro p link v t v' h
    cases link with
    | none =>
      simp only [buildTree, Option.some.injEq, Prod.mk.injEq] at h
      obtain ⟨rfl, rfl⟩ := h
      exact ⟨.nil p, by simp [Tree.inorder], by simp [Tree.inorder], by simp [Tree.inorder]⟩
    | some i =>
      simp only [buildTree] at h
      cases hn : nodes[i]? with
      | none => simp [hn] at h
      | some n =>
        simp only [hn] at h
        cases hp : (n.parent != p) with
        | true => rw [hp] at h; simp at h
        | false =>
          rw [hp] at h
          simp only [Bool.false_eq_true, if_false] at h
          cases hv : v.contains i with
          | true => rw [hv] at h; simp at h
          | false =>
            rw [hv] at h
            simp only [Bool.false_eq_true, if_false] at h
            cases h1 : buildTree nodes fuel (some i) n.left (i :: v) with
            | none => simp [h1] at h
            | some res1 =>
              obtain ⟨l, v1⟩ := res1
              simp only [h1] at h
              cases h2 : buildTree nodes fuel (some i) n.right v1 with
              | none => simp [h2] at h
              | some res2 =>
                obtain ⟨r, v2⟩ := res2
                simp only [h2, Option.some.injEq, Prod.mk.injEq] at h
                obtain ⟨rfl, rfl⟩ := h
                obtain ⟨tl, ndl, disjl, meml⟩ := ih _ _ _ _ _ h1
                obtain ⟨tr, ndr, disjr, memr⟩ := ih _ _ _ _ _ h2
                have hpar : n.parent = p := by
                  simpa using hp
                have hiv : i ∉ v := by
                  simpa using hv
                refine ⟨.node p i n l r hn hpar tl tr, ?_, ?_, ?_⟩
                · -- Nodup (l.inorder ++ i :: r.inorder)
                  simp only [Tree.inorder]
                  rw [List.nodup_append]
                  refine ⟨ndl, ?_, ?_⟩
                  · rw [List.nodup_cons]
                    refine ⟨?_, ndr⟩
                    intro hir
                    exact disjr i hir ((meml i).mpr (Or.inl (List.mem_cons_self ..)))
                  · intro a ha b hb hab
                    subst hab
                    rcases List.mem_cons.mp hb with hb | hb
                    · subst hb
                      exact disjl a ha (List.mem_cons_self ..)
                    · exact disjr a hb ((meml a).mpr (Or.inr ha))
                · intro x hx hxv
                  simp only [Tree.inorder, List.mem_append, List.mem_cons] at hx
                  rcases hx with hx | hx | hx
                  · exact disjl x hx (List.mem_cons_of_mem _ hxv)
                  · subst hx; exact hiv hxv
                  · exact disjr x hx ((meml x).mpr (Or.inl (List.mem_cons_of_mem _ hxv)))
                · intro x
                  simp only [Tree.inorder, List.mem_append, List.mem_cons]
                  rw [memr x, meml x]
                  simp only [List.mem_cons]
                  constructor
                  · rintro ((( h | h) | h) | h)
                    · exact Or.inr (Or.inr (Or.inl h))
                    · exact Or.inl h
                    · exact Or.inr (Or.inl h)
                    · exact Or.inr (Or.inr (Or.inr h))
                  · rintro (h | h | h | h)
                    · exact Or.inl (Or.inl (Or.inr h))
                    · exact Or.inl (Or.inr h)
                    · exact Or.inl (Or.inl (Or.inl h))
                    · exact Or.inr h

theorem buildTree_complete (nodes : Array ParseNode) {p link : Option Nat} {t : Tree} (h : IsTreeAt nodes p link t) :
    ∀ (fuel : Nat) (v : List Nat), t.depth ≤ fuel → t.inorder.Nodup → (∀ x ∈ t.inorder, x ∉ v) →
      ∃ v', buildTree nodes fuel p link v = some (t, v') := by
  induction h with
  | nil p =>
    intro fuel v _ _ _
    cases fuel <;> exact ⟨v, by simp [buildTree]⟩
  | node p i n l r hn hp hl hr ihl ihr =>
    intro fuel v hd hnd hdis
    cases fuel with
    | zero => simp [Tree.depth] at hd
    | succ fuel =>
      simp only [Tree.depth] at hd
      simp only [Tree.inorder] at hnd hdis
      rw [List.nodup_append] at hnd
      obtain ⟨ndl, ndir, hlr⟩ := hnd
      rw [List.nodup_cons] at ndir
      obtain ⟨hir, ndr⟩ := ndir
      have hil : i ∉ l.inorder := fun hi => hlr i hi i (List.mem_cons_self ..) rfl
      have hiv : i ∉ v := hdis i (by simp)
      obtain ⟨v1, h1⟩ := ihl fuel (i :: v) (by omega) ndl (by
        intro x hx hxv
        rcases List.mem_cons.mp hxv with hxi | hxv
        · subst hxi; exact hil hx
        · exact hdis x (by simp [hx]) hxv)
      obtain ⟨_, _, _, mem1⟩ := buildTree_sound nodes _ _ _ _ _ _ h1
      obtain ⟨v2, h2⟩ := ihr fuel v1 (by omega) ndr (by
        intro x hx hxv
        rcases (mem1 x).mp hxv with hxv | hxl
        · rcases List.mem_cons.mp hxv with hxi | hxv
          · subst hxi; exact hir hx
          · exact hdis x (by simp [hx]) hxv
        · exact hlr x hxl x (List.mem_cons_of_mem _ hx) rfl)
      refine ⟨v2, ?_⟩
      have hp' : (n.parent != p) = false := by simp [hp]
      have hv' : v.contains i = false := by simpa using hiv
      simp only [buildTree, hn, hp', hv', h1, h2, Bool.false_eq_true, if_false]

theorem toTree_some_iff (r : ParseResult) (t : Tree) :
    toTree r = some t ↔ IsTreeAt r.nodes none (rootLink r) t ∧ t.inorder.Nodup := by
  constructor
  · intro h
    unfold toTree at h
    cases hb : buildTree r.nodes r.nodes.size none (rootLink r) [] with
    | none => simp [hb] at h
    | some res =>
      obtain ⟨t', v'⟩ := res
      simp only [hb, Option.some.injEq] at h
      subst h
      obtain ⟨ht, hnd, _, _⟩ := buildTree_sound _ _ _ _ _ _ _ hb
      exact ⟨ht, hnd⟩
  · rintro ⟨ht, hnd⟩
    have hdepth : t.depth ≤ r.nodes.size := Nat.le_trans (Tree.depth_le_size t) (ht.size_le hnd)
    obtain ⟨v', hb⟩ := buildTree_complete r.nodes ht r.nodes.size [] hdepth hnd (by simp)
    simp [toTree, hb]

theorem properTree_sound (r : ParseResult) (h : properTree r = true) : ProperTree r := by
  unfold properTree at h
  cases ht : toTree r with
  | none => simp [ht] at h
  | some t => exact ⟨t, (toTree_some_iff r t).mp ht⟩

theorem properTree_complete (r : ParseResult) (h : ProperTree r) : properTree r = true := by
  obtain ⟨t, ht⟩ := h
  have := (toTree_some_iff r t).mpr ht
  simp [properTree, this]

theorem properTree_iff (r : ParseResult) : properTree r = true ↔ ProperTree r :=
  ⟨properTree_sound r, properTree_complete r⟩

theorem IsTreeAt.root_mem {nodes : Array ParseNode} {p : Option Nat} {i : Nat} {t : Tree}
    (h : IsTreeAt nodes p (some i) t) : i ∈ t.inorder := by
  cases h with
  | node _ _ n l r => simp [Tree.inorder]

theorem IsTreeAt.child_mem {nodes : Array ParseNode} {p link : Option Nat} {t : Tree} (h : IsTreeAt nodes p link t)
    {j i : Nat} {n : ParseNode} (hj : j ∈ t.inorder) (hn : nodes[j]? = some n) (hc : n.left = some i ∨ n.right = some i) :
    i ∈ t.inorder := by
  induction h with
  | nil p => simp [Tree.inorder] at hj
  | node p i0 n0 l r hn0 hp hl hr ihl ihr =>
    simp only [Tree.inorder, List.mem_append, List.mem_cons] at hj ⊢
    rcases hj with hj | hj | hj
    · exact Or.inl (ihl hj)
    · subst hj
      have : n = n0 := by rw [hn] at hn0; exact Option.some.inj hn0
      subst this
      rcases hc with hc | hc
      · rw [hc] at hl; exact Or.inl hl.root_mem
      · rw [hc] at hr; exact Or.inr (Or.inr hr.root_mem)
    · exact Or.inr (Or.inr (ihr hj))

theorem IsTreeAt.reachable {r : ParseResult} {p link : Option Nat} {t : Tree} (h : IsTreeAt r.nodes p link t)
    (hlink : ∀ j, link = some j → Reachable r j) : ∀ i ∈ t.inorder, Reachable r i := by
  induction h with
  | nil p => intro i hi; simp [Tree.inorder] at hi
  | node p i0 n l rr hn hp hl hr ihl ihr =>
    have h0 : Reachable r i0 := hlink i0 rfl
    intro i hi
    simp only [Tree.inorder, List.mem_append, List.mem_cons] at hi
    rcases hi with hi | hi | hi
    · exact ihl (fun j hj => Reachable.left i0 j n h0 hn hj) i hi
    · subst hi; exact h0
    · exact ihr (fun j hj => Reachable.right i0 j n h0 hn hj) i hi

theorem inorder_visits_all (r : ParseResult) (t : Tree) (h : toTree r = some t) :
    t.inorder.Nodup ∧ ∀ i, i ∈ t.inorder ↔ Reachable r i := by
  obtain ⟨ht, hnd⟩ := (toTree_some_iff r t).mp h
  refine ⟨hnd, fun i => ⟨ht.reachable (fun j hj => Reachable.root j hj) i, ?_⟩⟩
  intro hr
  induction hr with
  | root i hi => rw [hi] at ht; exact ht.root_mem
  | left j i n _ hn hl ih => exact ht.child_mem ih hn (Or.inl hl)
  | right j i n _ hn hl ih => exact ht.child_mem ih hn (Or.inr hl)

theorem strictlyIncreasing_iff : ∀ l : List Nat, strictlyIncreasing l = true ↔ l.Pairwise (· < ·)
  | [] => by simp [strictlyIncreasing]
  | [a] => by simp [strictlyIncreasing]
  | a :: b :: rest => by
    have ih := strictlyIncreasing_iff (b :: rest)
    simp only [strictlyIncreasing, Bool.and_eq_true, decide_eq_true_eq, ih]
    constructor
    · rintro ⟨hab, hp⟩
      rw [List.pairwise_cons]
      refine ⟨?_, hp⟩
      intro x hx
      rcases List.mem_cons.mp hx with hx | hx
      · subst hx; exact hab
      · exact Nat.lt_trans hab ((List.pairwise_cons.mp hp).1 x hx)
    · intro hp
      rw [List.pairwise_cons] at hp
      exact ⟨hp.1 b (List.mem_cons_self ..), hp.2⟩

theorem inorderSorted_iff (t : Tree) : inorderSorted t = true ↔ t.inorderToks.Pairwise (· < ·) :=
  strictlyIncreasing_iff _

end Garnish.Spec
