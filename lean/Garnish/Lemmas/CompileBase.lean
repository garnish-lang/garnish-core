/-
Compile correctness, vocabulary: the length of the main line of an expression, the predicate
`Located P root cur pc e` ("the main line of `e` sits at `pc` in the final program `P`, and each of its
out-of-line bodies is laid out somewhere with its jump entry patched and its terminator returning to the
join"), the shape predicates (`wfE` of `WFProgram`, its variant `wfC`, `noR`, `tailR`, `enFree`), reachability of the flat
machine, and the execution lemmas `step_*` for the instructions `emit` writes, in the form the simulation proof uses.
-/
import Garnish.Abs.Compile
import Garnish.Props.C01
namespace Garnish.Abs
open Garnish Gen Garnish.Spec

variable {F : Type}

mutual
def len : Expr F → Nat
  | .lit _ | .input | .ident _ | .nested _ | .emptyNested => 1
  | .unary _ x => len x + 1
  | .binary _ l r | .pair l r | .applyTo l r => len l + len r + 1
  | .list items => lenList items + 1
  | .cond _ c _ => len c + 2
  | .chain arms final => lenArms arms + (match final with
      | some e => len e
      | none => match arms with
        | [] => 1
        | _ :: _ => 0)
  | .and l _ | .or l _ => len l + 1
  | .seq a b => len a + 1 + len b
  | .sideAfter x b => len x + 1 + len b + 1
  | .reapply x => len x + 2
  | .prefixApply _ x | .suffixApply x _ => 1 + len x + 1
  | .infixApply a _ b => 1 + len a + len b + 2
def lenList : List (Expr F) → Nat
  | [] => 0
  | x :: xs => len x + lenList xs
def lenArms : List (Bool × Expr F × Expr F) → Nat
  | [] => 0
  | (_, c, _) :: rest => len c + 1 + lenArms rest
end

mutual
theorem len_pos : ∀ e : Expr F, 0 < len e
  | .lit _ | .input | .ident _ | .nested _ | .emptyNested => by simp [len]
  | .unary _ _ | .binary _ _ _ | .pair _ _ | .applyTo _ _ | .list _ | .cond _ _ _ | .and _ _ | .or _ _
  | .seq _ _ | .sideAfter _ _ | .reapply _ | .prefixApply _ _ | .suffixApply _ _ | .infixApply _ _ _ => by
    simp [len]; try omega
  | .chain [] none => by simp [len]
  | .chain [] (some e) => by have := len_pos e; simp [len, lenArms]; omega
  | .chain ((_, _, _) :: _) (some _) => by simp [len, lenArms]; omega
  | .chain ((_, _, _) :: _) none => by simp [len, lenArms]; omega
end

def InstrsAt (P : Prog F) : Nat → List Instr → Prop
  | _, [] => True
  | pc, t :: ts => P.instrs[pc]? = some t ∧ InstrsAt P (pc + 1) ts

/-- the terminators that follow a root whose code ends at `pcEnd`: all of them, except an `EndExpression`
equal to the root's own last instruction (`build`'s rule) -/
def termsAfter (P : Prog F) (pcEnd : Nat) (term : List Instr) : List Instr :=
  term.filter (fun t => !(decide (P.instrs[pcEnd - 1]? = some t) && decide (t.1 = .endExpression)))

mutual
/-- `root` is the jump entry of the root the code belongs to. No clause reads it (`{ }` names `cur`, as build.rs does with
`containing_expression_jump`); it is a parameter because `emit` has it, and the layout lemmas carry it along -/
def Located (P : Prog F) (root cur : Nat) : Nat → Expr F → Prop
  | pc, .lit v => ∃ k, P.instrs[pc]? = some (.put, some k) ∧ P.consts[k]? = some v
  | pc, .input => P.instrs[pc]? = some (.putValue, none)
  | pc, .ident sym => ∃ k, P.instrs[pc]? = some (.resolve, some k) ∧ P.consts[k]? = some (.sym sym)
  | pc, .unary op x => Located P root cur pc x ∧ P.instrs[pc + len x]? = some (op, none)
  | pc, .binary op l r =>
    Located P root cur pc l ∧ Located P root cur (pc + len l) r ∧ P.instrs[pc + len l + len r]? = some (op, none)
  | pc, .pair l r =>
    Located P root cur pc r ∧ Located P root cur (pc + len r) l ∧ P.instrs[pc + len r + len l]? = some (.makePair, none)
  | pc, .applyTo x f =>
    Located P root cur pc f ∧ Located P root cur (pc + len f) x ∧ P.instrs[pc + len f + len x]? = some (.apply, none)
  | pc, .list items =>
    LocatedList P root cur pc items ∧ P.instrs[pc + lenList items]? = some (.makeList, some items.length)
  | pc, .cond onTrue c t =>
    Located P root cur pc c ∧ ∃ j join tb,
      P.instrs[pc + len c]? = some (jumpIf onTrue, some j) ∧ P.instrs[pc + len c + 1]? = some (.putValue, none) ∧
      P.jumps[j]? = some tb ∧ P.jumps[join]? = some (pc + len c + 2) ∧ join ≠ cur ∧
      Located P j cur tb t ∧ InstrsAt P (tb + len t) (termsAfter P (tb + len t) [(.jumpTo, some join)])
  | pc, .chain arms final =>
    ∃ join, LocatedArms P root cur join pc arms ∧
      (match final with
        | some e => Located P root cur (pc + lenArms arms) e
        | none => match arms with
          | [] => P.instrs[pc]? = some (.putValue, none)
          | _ :: _ => True) ∧
      (arms ≠ [] → P.jumps[join]? = some (pc + len (.chain arms final)) ∧ join ≠ cur)
  | pc, .and l r =>
    Located P root cur pc l ∧ ∃ j join tb,
      P.instrs[pc + len l]? = some (.and, some j) ∧
      P.jumps[j]? = some tb ∧ P.jumps[join]? = some (pc + len l + 1) ∧ join ≠ cur ∧
      Located P j cur tb r ∧ InstrsAt P (tb + len r) (termsAfter P (tb + len r) [(.tis, none), (.jumpTo, some join)])
  | pc, .or l r =>
    Located P root cur pc l ∧ ∃ j join tb,
      P.instrs[pc + len l]? = some (.or, some j) ∧
      P.jumps[j]? = some tb ∧ P.jumps[join]? = some (pc + len l + 1) ∧ join ≠ cur ∧
      Located P j cur tb r ∧ InstrsAt P (tb + len r) (termsAfter P (tb + len r) [(.tis, none), (.jumpTo, some join)])
  | pc, .seq a b =>
    Located P root cur pc a ∧ P.instrs[pc + len a]? = some (.updateValue, none) ∧ Located P root cur (pc + len a + 1) b
  | pc, .sideAfter x b =>
    Located P root cur pc x ∧ P.instrs[pc + len x]? = some (.startSideEffect, none) ∧
    Located P root cur (pc + len x + 1) b ∧ P.instrs[pc + len x + 1 + len b]? = some (.endSideEffect, none)
  | pc, .nested id => ∃ k, P.instrs[pc]? = some (.put, some k) ∧ P.consts[k]? = some (.expr id)
  | pc, .emptyNested => ∃ k, P.instrs[pc]? = some (.put, some k) ∧ P.consts[k]? = some (.expr cur)
  | pc, .reapply x =>
    Located P root cur pc x ∧ P.instrs[pc + len x]? = some (.updateValue, none) ∧
    P.instrs[pc + len x + 1]? = some (.jumpTo, some cur)
  | pc, .prefixApply sym x =>
    (∃ k, P.instrs[pc]? = some (.resolve, some k) ∧ P.consts[k]? = some (.sym sym)) ∧
    Located P root cur (pc + 1) x ∧ P.instrs[pc + 1 + len x]? = some (.apply, none)
  | pc, .suffixApply x sym =>
    (∃ k, P.instrs[pc]? = some (.resolve, some k) ∧ P.consts[k]? = some (.sym sym)) ∧
    Located P root cur (pc + 1) x ∧ P.instrs[pc + 1 + len x]? = some (.apply, none)
  | pc, .infixApply a sym b =>
    (∃ k, P.instrs[pc]? = some (.resolve, some k) ∧ P.consts[k]? = some (.sym sym)) ∧
    Located P root cur (pc + 1) a ∧ Located P root cur (pc + 1 + len a) b ∧
    P.instrs[pc + 1 + len a + len b]? = some (.makeList, some 2) ∧
    P.instrs[pc + 1 + len a + len b + 1]? = some (.apply, none)
def LocatedList (P : Prog F) (root cur : Nat) : Nat → List (Expr F) → Prop
  | _, [] => True
  | pc, x :: xs => Located P root cur pc x ∧ LocatedList P root cur (pc + len x) xs
/-- the conditions of the arms of an else-chain with their `JumpIf`s, the arm bodies out of line, each
returning to `join` -/
def LocatedArms (P : Prog F) (root cur join : Nat) : Nat → List (Bool × Expr F × Expr F) → Prop
  | _, [] => True
  | pc, (onTrue, c, t) :: rest =>
    Located P root cur pc c ∧ (∃ j tb,
      P.instrs[pc + len c]? = some (jumpIf onTrue, some j) ∧ P.jumps[j]? = some tb ∧
      Located P j cur tb t ∧ InstrsAt P (tb + len t) (termsAfter P (tb + len t) [(.jumpTo, some join)])) ∧
    LocatedArms P root cur join (pc + len c + 1) rest
end

/-- unary operators of the language (prefix/suffix operators and `~~`) -/
def unOK : Instruction → Bool
  | .opposite | .absoluteValue | .bitwiseNot | .not | .tis | .typeOf | .accessLeftInternal
  | .accessRightInternal | .accessLengthInternal | .emptyApply => true
  | _ => false

/-- binary operators of the language whose operands are evaluated left first (`=` and `~>` have their own
constructors) -/
def binOK : Instruction → Bool
  | .add | .subtract | .multiply | .divide | .integerDivide | .power | .remainder
  | .bitwiseAnd | .bitwiseOr | .bitwiseXor | .bitwiseShiftLeft | .bitwiseShiftRight
  | .xor | .typeEqual | .equal | .notEqual | .lessThan | .lessThanOrEqual | .greaterThan | .greaterThanOrEqual
  | .access | .makeRange | .makeStartExclusiveRange | .makeEndExclusiveRange | .makeExclusiveRange
  | .concat | .partialApply | .apply | .applyType => true
  | _ => false

mutual
/-- no `^~` that can restart the body `e` belongs to (`{}` bodies are separate bodies) -/
def noR : Expr F → Bool
  | .lit _ | .input | .ident _ | .nested _ | .emptyNested => true
  | .reapply _ => false
  | .unary _ x | .prefixApply _ x | .suffixApply x _ => noR x
  | .binary _ l r | .pair l r | .applyTo l r | .cond _ l r | .and l r | .or l r | .seq l r
  | .sideAfter l r | .infixApply l _ r => noR l && noR r
  | .list items => noRList items
  | .chain arms final => noRArms arms && (match final with | some e => noR e | none => true)
def noRList : List (Expr F) → Bool
  | [] => true
  | x :: xs => noR x && noRList xs
def noRArms : List (Bool × Expr F × Expr F) → Bool
  | [] => true
  | (_, c, t) :: rest => noR c && noR t && noRArms rest
end

mutual
/-- `^~` only where no operand of an enclosing operator is pending: the tail of a body, of a conditional
arm, of the right operand of `&&`/`||` -/
def tailR : Expr F → Bool
  | .reapply x => noR x
  | .seq a b => noR a && tailR b
  | .cond _ c t => noR c && tailR t
  | .and l r | .or l r => noR l && tailR r
  | .chain arms final => tailRArms arms && (match final with | some e => tailR e | none => true)
  | e => noR e
def tailRArms : List (Bool × Expr F × Expr F) → Bool
  | [] => true
  | (_, c, t) :: rest => noR c && tailR t && tailRArms rest
end

mutual
/-- no `{ }` (empty nested expression); not a clause of `wfE`; CompileOccur and CompileShift state facts about it -/
def enFree : Expr F → Bool
  | .emptyNested => false
  | .lit _ | .input | .ident _ | .nested _ => true
  | .unary _ x | .prefixApply _ x | .suffixApply x _ | .reapply x => enFree x
  | .binary _ l r | .pair l r | .applyTo l r | .cond _ l r | .and l r | .or l r | .seq l r
  | .sideAfter l r | .infixApply l _ r => enFree l && enFree r
  | .list items => enFreeList items
  | .chain arms final => enFreeArms arms && (match final with | some e => enFree e | none => true)
def enFreeList : List (Expr F) → Bool
  | [] => true
  | x :: xs => enFree x && enFreeList xs
def enFreeArms : List (Bool × Expr F × Expr F) → Bool
  | [] => true
  | (_, c, t) :: rest => enFree c && enFree t && enFreeArms rest
end

mutual
/-- expressions the language can produce and on which `build` and the meaning of the source agree -/
def wfE : Expr F → Bool
  -- a literal is a number, text, symbol, …: never an expression value (those come from `{}` only)
  | .lit (.expr _) => false
  | .lit _ | .input | .ident _ | .nested _ | .emptyNested => true
  | .unary op x => unOK op && wfE x
  | .binary op l r => binOK op && wfE l && wfE r
  | .pair l r | .applyTo l r | .seq l r | .infixApply l _ r => wfE l && wfE r
  | .reapply x | .prefixApply _ x | .suffixApply x _ => wfE x
  | .list items => wfEList items
  | .cond _ c t => wfE c && wfE t
  | .and l r | .or l r => wfE l && wfE r
  -- an else-chain has a final (non-conditional) arm: without one no value is pushed when no arm matches (finding #6)
  | .chain arms final => wfEArms arms && (match final with | some e => wfE e | none => false)
  -- a restart from inside a side-effect block would leave the block's copy of `$` on the value stack
  | .sideAfter x b => wfE x && wfE b && noR b
def wfEList : List (Expr F) → Bool
  | [] => true
  | x :: xs => wfE x && wfEList xs
def wfEArms : List (Bool × Expr F × Expr F) → Bool
  | [] => true
  | (_, c, t) :: rest => wfE c && wfE t && wfEArms rest
end

mutual
/-- `wfE` without the requirement that an else-chain has its final arm: the shapes on which `build` and the STRICT
evaluator (Lemmas/CompileStrict.lean: reaching a missing fall-through is an error) agree -/
def wfC : Expr F → Bool
  | .lit (.expr _) => false
  | .lit _ | .input | .ident _ | .nested _ | .emptyNested => true
  | .unary op x => unOK op && wfC x
  | .binary op l r => binOK op && wfC l && wfC r
  | .pair l r | .applyTo l r | .seq l r | .infixApply l _ r => wfC l && wfC r
  | .reapply x | .prefixApply _ x | .suffixApply x _ => wfC x
  | .list items => wfCList items
  | .cond _ c t => wfC c && wfC t
  | .and l r | .or l r => wfC l && wfC r
  | .chain arms final => wfCArms arms && (match final with | some e => wfC e | none => true)
  | .sideAfter x b => wfC x && wfC b && noR b
def wfCList : List (Expr F) → Bool
  | [] => true
  | x :: xs => wfC x && wfCList xs
def wfCArms : List (Bool × Expr F × Expr F) → Bool
  | [] => true
  | (_, c, t) :: rest => wfC c && wfC t && wfCArms rest
end

/-! ### unfolding lemmas for the else-chain (its equations are split by the shape of the final arm) -/

theorem len_chain (arms : List (Bool × Expr F × Expr F)) (final : Option (Expr F)) :
    len (.chain arms final) = lenArms arms + (match final with
      | some e => len e
      | none => match arms with
        | [] => 1
        | _ :: _ => 0) := by rw [len.eq_def]
theorem noR_chain (arms : List (Bool × Expr F × Expr F)) (final : Option (Expr F)) :
    noR (.chain arms final) = (noRArms arms && (match final with | some e => noR e | none => true)) := by
  rw [noR.eq_def]
theorem tailR_chain (arms : List (Bool × Expr F × Expr F)) (final : Option (Expr F)) :
    tailR (.chain arms final) = (tailRArms arms && (match final with | some e => tailR e | none => true)) := by
  rw [tailR.eq_def]
theorem enFree_chain (arms : List (Bool × Expr F × Expr F)) (final : Option (Expr F)) :
    enFree (.chain arms final) = (enFreeArms arms && (match final with | some e => enFree e | none => true)) := by
  rw [enFree.eq_def]
theorem wfE_chain (arms : List (Bool × Expr F × Expr F)) (final : Option (Expr F)) :
    wfE (.chain arms final) = (wfEArms arms && (match final with | some e => wfE e | none => false)) := by
  rw [wfE.eq_def]
theorem wfC_chain (arms : List (Bool × Expr F × Expr F)) (final : Option (Expr F)) :
    wfC (.chain arms final) = (wfCArms arms && (match final with | some e => wfC e | none => true)) := by
  rw [wfC.eq_def]
theorem Located_chain (P : Prog F) (root cur pc : Nat) (arms : List (Bool × Expr F × Expr F)) (final : Option (Expr F)) :
    Located P root cur pc (.chain arms final) =
    ∃ join, LocatedArms P root cur join pc arms ∧
      (match final with
        | some e => Located P root cur (pc + lenArms arms) e
        | none => match arms with
          | [] => P.instrs[pc]? = some (.putValue, none)
          | _ :: _ => True) ∧
      (arms ≠ [] → P.jumps[join]? = some (pc + len (.chain arms final)) ∧ join ≠ cur) := by
  rw [Located.eq_def]

mutual
theorem wfE_wfC : ∀ (e : Expr F), wfE e = true → wfC e = true
  | .lit v, h => by cases v <;> simp_all [wfE, wfC]
  | .input, _ | .ident _, _ | .nested _, _ | .emptyNested, _ => by simp [wfC]
  | .unary _ x, h | .reapply x, h | .prefixApply _ x, h | .suffixApply x _, h => by
    simp only [wfE, wfC, Bool.and_eq_true] at h ⊢
    first | exact wfE_wfC x h | exact ⟨h.1, wfE_wfC x h.2⟩
  | .binary _ l r, h => by
    simp only [wfE, wfC, Bool.and_eq_true] at h ⊢
    exact ⟨⟨h.1.1, wfE_wfC l h.1.2⟩, wfE_wfC r h.2⟩
  | .pair l r, h | .applyTo l r, h | .seq l r, h | .infixApply l _ r, h => by
    simp only [wfE, wfC, Bool.and_eq_true] at h ⊢
    exact ⟨wfE_wfC l h.1, wfE_wfC r h.2⟩
  | .cond _ l r, h | .and l r, h | .or l r, h => by
    simp only [wfE, wfC, Bool.and_eq_true] at h ⊢
    exact ⟨wfE_wfC l h.1, wfE_wfC r h.2⟩
  | .sideAfter l r, h => by
    simp only [wfE, wfC, Bool.and_eq_true] at h ⊢
    exact ⟨⟨wfE_wfC l h.1.1, wfE_wfC r h.1.2⟩, h.2⟩
  | .list items, h => by
    simp only [wfE, wfC] at h ⊢
    exact wfEList_wfC items h
  | .chain arms none, h => by simp [wfE_chain] at h
  | .chain arms (some e), h => by
    simp only [wfE_chain, wfC_chain, Bool.and_eq_true] at h ⊢
    exact ⟨wfEArms_wfC arms h.1, wfE_wfC e h.2⟩
theorem wfEList_wfC : ∀ (l : List (Expr F)), wfEList l = true → wfCList l = true
  | [], _ => rfl
  | x :: xs, h => by
    simp only [wfEList, wfCList, Bool.and_eq_true] at h ⊢
    exact ⟨wfE_wfC x h.1, wfEList_wfC xs h.2⟩
theorem wfEArms_wfC : ∀ (l : List (Bool × Expr F × Expr F)), wfEArms l = true → wfCArms l = true
  | [], _ => rfl
  | (_, c, t) :: rest, h => by
    simp only [wfEArms, wfCArms, Bool.and_eq_true] at h ⊢
    exact ⟨⟨wfE_wfC c h.1.1, wfE_wfC t h.1.2⟩, wfEArms_wfC rest h.2⟩
end

variable (fo : FloatOps F) (host : Host F)

inductive Reach (P : Prog F) : MState F → MState F → Prop where
  | refl (s : MState F) : Reach P s s
  | next {s s' s'' : MState F} : step fo host P s = .running s' → Reach P s' s'' → Reach P s s''

variable {fo host}

theorem Reach.trans {P : Prog F} {a b c : MState F} (h1 : Reach fo host P a b) (h2 : Reach fo host P b c) :
    Reach fo host P a c := by
  induction h1 with
  | refl => exact h2
  | next hs _ ih => exact .next hs (ih h2)

theorem Reach.single {P : Prog F} {a b : MState F} (h : step fo host P a = .running b) : Reach fo host P a b :=
  .next h (.refl _)

theorem Reach.snoc {P : Prog F} {a b c : MState F} (h1 : Reach fo host P a b) (h : step fo host P b = .running c) :
    Reach fo host P a c := h1.trans (.single h)

theorem Reach.run_halts {P : Prog F} {a b h : MState F} (h1 : Reach fo host P a b) (hh : step fo host P b = .halted h) :
    ∃ n, run fo host P n a = (.halted h, n) := by
  induction h1 with
  | refl s => exact ⟨1, by simp [run, hh]⟩
  | next hs _ ih =>
    obtain ⟨n, hn⟩ := ih hh
    exact ⟨n + 1, by simp [run, hs, hn]⟩

section steps
variable {P : Prog F} {pc : Nat} {rs vs : List (Val F)} {fr : List (Frame F)} {tr : List (HostCall F)}

theorem step_put {k : Nat} {v : Val F} (hi : P.instrs[pc]? = some (.put, some k)) (hc : P.consts[k]? = some v)
    (hlt : pc + 1 < P.instrs.size) :
    step fo host P ⟨pc, rs, vs, fr, tr⟩ = .running ⟨pc + 1, v :: rs, vs, fr, tr⟩ := by
  have : ¬ (P.instrs.size ≤ pc + 1) := by omega
  simp [step, hi, hc, seqNext, finish, this]

theorem step_putValue {x : Val F} (hi : P.instrs[pc]? = some (.putValue, none)) (hlt : pc + 1 < P.instrs.size) :
    step fo host P ⟨pc, rs, x :: vs, fr, tr⟩ = .running ⟨pc + 1, x :: rs, x :: vs, fr, tr⟩ := by
  have : ¬ (P.instrs.size ≤ pc + 1) := by omega
  simp [step, hi, seqNext, finish, this]

theorem step_resolve {k sym : Nat} {x v : Val F} {st st' : St F}
    (hi : P.instrs[pc]? = some (.resolve, some k)) (hc : P.consts[k]? = some (.sym sym))
    (hlt : pc + 1 < P.instrs.size) (hin : st.inp = x) (htr : st.trace = tr)
    (hr : resolveVal fo host st sym = .ok (v, st')) :
    step fo host P ⟨pc, rs, x :: vs, fr, tr⟩ = .running ⟨pc + 1, v :: rs, x :: vs, fr, st'.trace⟩ := by
  have : ¬ (P.instrs.size ≤ pc + 1) := by omega
  have h := Props.C01.C01_resolve_agrees fo host ⟨pc, rs, x :: vs, fr, tr⟩ st sym x vs rfl hin htr
  rw [hr] at h
  simp only at h
  simp [step, hi, hc, h, seqNext, finish, this]

theorem pushOut_of_settle {s : MState F} {st st' : St F} {o : OpOut F} {v : Val F}
    (htr : st.trace = s.trace) (h : settle host st o = .ok (v, st')) :
    pushOut host s o = .ok { s with regs := v :: s.regs, trace := st'.trace } :=
  Props.C01.C01_settle_is_pushOut host s st o v st' htr h

theorem settle_inp {st st' : St F} {o : OpOut F} {v : Val F} (h : settle host st o = .ok (v, st')) : st'.inp = st.inp := by
  cases o with
  | val x => simp [settle] at h; obtain ⟨_, rfl⟩ := h; rfl
  | defer op l r =>
    simp only [settle] at h
    cases hd : host.defer op l r <;> simp [hd] at h <;> obtain ⟨_, rfl⟩ := h <;> rfl
  | err e => simp [settle] at h

theorem resolveVal_inp {st st' : St F} {sym : Nat} {v : Val F} (h : resolveVal fo host st sym = .ok (v, st')) :
    st'.inp = st.inp := by
  simp only [resolveVal] at h
  split at h
  · simp at h
  · simp at h
  · simp at h; obtain ⟨_, rfl⟩ := h; rfl
  · cases hh : host.resolve sym <;> simp [hh] at h <;> obtain ⟨_, rfl⟩ := h <;> rfl

theorem step_unary {op : Instruction} {x v : Val F} {o : OpOut F} {st st' : St F}
    (hi : P.instrs[pc]? = some (op, none)) (hlt : pc + 1 < P.instrs.size)
    (hu : unaryOp fo op x = some o) (htr : st.trace = tr) (hs : settle host st o = .ok (v, st')) :
    step fo host P ⟨pc, x :: rs, vs, fr, tr⟩ = .running ⟨pc + 1, v :: rs, vs, fr, st'.trace⟩ := by
  have hlt' : ¬ (P.instrs.size ≤ pc + 1) := by omega
  have hp := pushOut_of_settle (host := host) (s := ⟨pc, rs, vs, fr, tr⟩) htr hs
  cases op <;> first
    | (simp [unaryOp] at hu; done)
    | (simp only [step, hi, hu]; simp [hp, seqNext, finish, hlt'])

theorem unary_none_of_binary {op : Instruction} {l r x : Val F} {o : OpOut F} (hb : binaryOp fo op l r = some o) :
    unaryOp fo op x = none := by
  cases op <;> simp [binaryOp] at hb <;> simp [unaryOp]

theorem step_binary {op : Instruction} {l r v : Val F} {o : OpOut F} {st st' : St F}
    (hi : P.instrs[pc]? = some (op, none)) (hlt : pc + 1 < P.instrs.size)
    (hb : binaryOp fo op l r = some o) (hop : op ≠ .apply) (hmp : op ≠ .makePair)
    (htr : st.trace = tr) (hs : settle host st o = .ok (v, st')) :
    step fo host P ⟨pc, r :: l :: rs, vs, fr, tr⟩ = .running ⟨pc + 1, v :: rs, vs, fr, st'.trace⟩ := by
  have hlt' : ¬ (P.instrs.size ≤ pc + 1) := by omega
  have hat : op ≠ .applyType := by intro h; subst h; simp [binaryOp] at hb
  have h := Props.C01.C01_binary fo host P ⟨pc, r :: l :: rs, vs, fr, tr⟩ op none l r rs o hi rfl
    (unary_none_of_binary hb) hb ⟨hop, hmp, hat⟩
  have hp := pushOut_of_settle (host := host) (s := ⟨pc, rs, vs, fr, tr⟩) htr hs
  rw [h]
  simp [hp, seqNext, finish, hlt']

theorem step_makePair {l r : Val F} (hi : P.instrs[pc]? = some (.makePair, none)) (hlt : pc + 1 < P.instrs.size) :
    step fo host P ⟨pc, l :: r :: rs, vs, fr, tr⟩ = .running ⟨pc + 1, .pair l r :: rs, vs, fr, tr⟩ := by
  have : ¬ (P.instrs.size ≤ pc + 1) := by omega
  simp [step, hi, seqNext, finish, this]

theorem step_makeList {n : Nat} {regs : List (Val F)} (hi : P.instrs[pc]? = some (.makeList, some n))
    (hlt : pc + 1 < P.instrs.size) (hn : n ≤ regs.length) :
    step fo host P ⟨pc, regs, vs, fr, tr⟩ =
      .running ⟨pc + 1, .list (regs.take n).reverse :: regs.drop n, vs, fr, tr⟩ := by
  have : ¬ (P.instrs.size ≤ pc + 1) := by omega
  have h2 : ¬ (regs.length < n) := by omega
  simp [step, hi, seqNext, finish, this, h2]

theorem step_updateValue {r x : Val F} (hi : P.instrs[pc]? = some (.updateValue, none)) (hlt : pc + 1 < P.instrs.size) :
    step fo host P ⟨pc, r :: rs, x :: vs, fr, tr⟩ = .running ⟨pc + 1, rs, r :: vs, fr, tr⟩ := by
  have : ¬ (P.instrs.size ≤ pc + 1) := by omega
  simp [step, hi, seqNext, finish, this]

theorem step_startSideEffect {x : Val F} (hi : P.instrs[pc]? = some (.startSideEffect, none)) (hlt : pc + 1 < P.instrs.size) :
    step fo host P ⟨pc, rs, x :: vs, fr, tr⟩ = .running ⟨pc + 1, rs, x :: x :: vs, fr, tr⟩ := by
  have : ¬ (P.instrs.size ≤ pc + 1) := by omega
  simp [step, hi, seqNext, finish, this]

theorem step_endSideEffect {r x : Val F} (hi : P.instrs[pc]? = some (.endSideEffect, none)) (hlt : pc + 1 < P.instrs.size) :
    step fo host P ⟨pc, r :: rs, x :: vs, fr, tr⟩ = .running ⟨pc + 1, rs, vs, fr, tr⟩ := by
  have : ¬ (P.instrs.size ≤ pc + 1) := by omega
  simp [step, hi, seqNext, finish, this]

theorem step_jumpTo {j t : Nat} (hi : P.instrs[pc]? = some (.jumpTo, some j)) (hj : P.jumps[j]? = some t)
    (hlt : t < P.instrs.size) :
    step fo host P ⟨pc, rs, vs, fr, tr⟩ = .running ⟨t, rs, vs, fr, tr⟩ := by
  have : ¬ (P.instrs.size ≤ t) := by omega
  simp [step, hi, jumpTarget, hj, Except.map, finish, this]

theorem step_jumpIf {onTrue : Bool} {j t : Nat} {d : Val F} (hi : P.instrs[pc]? = some (jumpIf onTrue, some j))
    (hj : P.jumps[j]? = some t) (hlt : t < P.instrs.size) (hlt2 : pc + 1 < P.instrs.size) :
    step fo host P ⟨pc, d :: rs, vs, fr, tr⟩ =
      .running ⟨if d.truthy == onTrue then t else pc + 1, rs, vs, fr, tr⟩ := by
  have h1 : ¬ (P.instrs.size ≤ t) := by omega
  have h2 : ¬ (P.instrs.size ≤ pc + 1) := by omega
  cases onTrue <;> cases hd : d.truthy <;> simp [jumpIf] at hi <;> simp [step, hi, jumpTarget, hj, finish, hd, h1, h2]

theorem step_and {j t : Nat} {d : Val F} (hi : P.instrs[pc]? = some (.and, some j))
    (hj : P.jumps[j]? = some t) (hlt : t < P.instrs.size) (hlt2 : pc + 1 < P.instrs.size) :
    step fo host P ⟨pc, d :: rs, vs, fr, tr⟩ =
      (if d.truthy then .running ⟨t, rs, vs, fr, tr⟩ else .running ⟨pc + 1, .fls :: rs, vs, fr, tr⟩) := by
  have h1 : ¬ (P.instrs.size ≤ t) := by omega
  have h2 : ¬ (P.instrs.size ≤ pc + 1) := by omega
  cases hd : d.truthy <;> simp [step, hi, jumpTarget, hj, finish, seqNext, Except.map, hd, h1, h2]

theorem step_or {j t : Nat} {d : Val F} (hi : P.instrs[pc]? = some (.or, some j))
    (hj : P.jumps[j]? = some t) (hlt : t < P.instrs.size) (hlt2 : pc + 1 < P.instrs.size) :
    step fo host P ⟨pc, d :: rs, vs, fr, tr⟩ =
      (if d.truthy then .running ⟨pc + 1, .tru :: rs, vs, fr, tr⟩ else .running ⟨t, rs, vs, fr, tr⟩) := by
  have h1 : ¬ (P.instrs.size ≤ t) := by omega
  have h2 : ¬ (P.instrs.size ≤ pc + 1) := by omega
  cases hd : d.truthy <;> simp [step, hi, jumpTarget, hj, finish, seqNext, Except.map, hd, h1, h2]

theorem step_endExpression_return {r : Val F} {x : Val F} {ret : Nat} {saved : List (Val F)}
    (hi : P.instrs[pc]? = some (.endExpression, none)) (hlt : ret < P.instrs.size) :
    step fo host P ⟨pc, r :: rs, x :: vs, ⟨ret, saved⟩ :: fr, tr⟩ = .running ⟨ret, r :: saved, vs, fr, tr⟩ := by
  have : ¬ (P.instrs.size ≤ ret) := by omega
  simp [step, hi, finish, this]

theorem step_endExpression_halt {r x : Val F}
    (hi : P.instrs[pc]? = some (.endExpression, none)) :
    step fo host P ⟨pc, r :: rs, x :: vs, [], tr⟩ = .halted ⟨P.instrs.size, rs, r :: vs, [], tr⟩ := by
  simp [step, hi]

theorem step_apply {l r : Val F} (hi : P.instrs[pc]? = some (.apply, none)) :
    step fo host P ⟨pc, r :: l :: rs, vs, fr, tr⟩ =
      finish P (applyStep fo host P ⟨pc, rs, vs, fr, tr⟩ .apply true l r) := by
  simp [step, hi]

theorem step_emptyApply {l : Val F} (hi : P.instrs[pc]? = some (.emptyApply, none)) :
    step fo host P ⟨pc, l :: rs, vs, fr, tr⟩ =
      finish P (applyStep fo host P ⟨pc, rs, vs, fr, tr⟩ .emptyApply false l .unit) := by
  simp [step, hi]

end steps

end Garnish.Abs
