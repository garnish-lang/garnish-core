/-
`treeOf`: a parse tree for an expression, structurally — skeletons and their in-order numbering, from expressions to
skeletons, that the numbered skeleton represents the expression (`Rep`), and the tree of a program.
-/
import Garnish.Lemmas.CompileTreeV

/-! The expression is first turned into a skeleton (`Sk`: leaf, prefix node, suffix node, binary node — with the node's
definition and token text), every compound operand wrapped in a group node `( … )` as a cautious printer would parenthesise it;
the skeleton is then numbered in-order, which is how the real parser numbers its nodes (by token position). -/

namespace Garnish.Abs.Tree
open Garnish Garnish.Gen Garnish.Spec Garnish.Abs Garnish.Model.Parser Garnish.Model.Literals Garnish.Model.Build

/-- definition and token text of a node -/
abbrev Lab := Definition × List Char

inductive Sk where
  | leaf (d : Lab)
  | pre (d : Lab) (c : Sk)
  | suf (c : Sk) (d : Lab)
  | bin (l : Sk) (d : Lab) (r : Sk)

namespace Sk

def size : Sk → Nat
  | leaf _ => 1
  | pre _ c => 1 + c.size
  | suf c _ => c.size + 1
  | bin l _ r => l.size + 1 + r.size

/-- offset of the root within the interval of the skeleton -/
def root : Sk → Nat
  | leaf _ => 0
  | pre _ _ => 0
  | suf c _ => c.size
  | bin l _ _ => l.size

def lab : Sk → Lab
  | leaf d => d
  | pre d _ => d
  | suf _ d => d
  | bin _ d _ => d

theorem size_pos : ∀ sk : Sk, 0 < sk.size
  | leaf _ => by simp [size]
  | pre _ _ => by simp [size]; omega
  | suf _ _ => by simp [size]
  | bin _ _ _ => by simp [size]; omega

theorem root_lt : ∀ sk : Sk, sk.root < sk.size
  | leaf _ => by simp [size, root]
  | pre _ _ => by simp [size, root]; omega
  | suf _ _ => by simp [size, root]
  | bin _ _ _ => by simp [size, root]; omega

def mkPN (d : Lab) (parent left right : Option Nat) : ParseNode :=
  ⟨d.1, .none, parent, left, right, ⟨d.2, .unknown, 0, 0⟩⟩

/-- the node with number `k` when the skeleton occupies the numbers from `lo` on and hangs below `par` -/
def nodeAt : Sk → Nat → Option Nat → Nat → Option ParseNode
  | leaf d, lo, par, k => if k = lo then some (mkPN d par none none) else none
  | pre d c, lo, par, k =>
    if k = lo then some (mkPN d par none (some (lo + 1 + c.root))) else nodeAt c (lo + 1) (some lo) k
  | suf c d, lo, par, k =>
    if k = lo + c.size then some (mkPN d par (some (lo + c.root)) none) else nodeAt c lo (some (lo + c.size)) k
  | bin l d r, lo, par, k =>
    if k < lo + l.size then nodeAt l lo (some (lo + l.size)) k
    else if k = lo + l.size then some (mkPN d par (some (lo + l.root)) (some (lo + l.size + 1 + r.root)))
    else nodeAt r (lo + l.size + 1) (some (lo + l.size)) k

theorem nodeAt_some : ∀ (sk : Sk) (lo : Nat) (par : Option Nat) (k : Nat), lo ≤ k → k < lo + sk.size →
    ∃ pn, nodeAt sk lo par k = some pn
  | leaf d, lo, par, k, h1, h2 => by
    simp only [size] at h2
    exact ⟨mkPN d par none none, by simp [nodeAt, show k = lo by omega]⟩
  | pre d c, lo, par, k, h1, h2 => by
    simp only [size] at h2
    simp only [nodeAt]
    split
    · exact ⟨_, rfl⟩
    · exact nodeAt_some c (lo + 1) _ k (by omega) (by omega)
  | suf c d, lo, par, k, h1, h2 => by
    simp only [size] at h2
    simp only [nodeAt]
    split
    · exact ⟨_, rfl⟩
    · exact nodeAt_some c lo _ k h1 (by omega)
  | bin l d r, lo, par, k, h1, h2 => by
    simp only [size] at h2
    simp only [nodeAt]
    split
    · exact nodeAt_some l lo _ k h1 (by omega)
    · split
      · exact ⟨_, rfl⟩
      · exact nodeAt_some r (lo + l.size + 1) _ k (by omega) (by omega)

end Sk

open Sk

/-- the array agrees with the numbered skeleton on its interval -/
def Agree (tree : Array ParseNode) (sk : Sk) (lo : Nat) (par : Option Nat) : Prop :=
  ∀ k, lo ≤ k → k < lo + sk.size → tree[k]? = nodeAt sk lo par k

variable {tree : Array ParseNode}

theorem Agree.rootNode {sk : Sk} {lo : Nat} {par : Option Nat} (h : Agree tree sk lo par) :
    ∃ pn, tree[lo + sk.root]? = some pn ∧ pn.definition = sk.lab.1 ∧ pn.lexToken.text = sk.lab.2 ∧ pn.parent = par := by
  have := h (lo + sk.root) (by omega) (by have := root_lt sk; omega)
  cases sk with
  | leaf d => exact ⟨mkPN d par none none, by rw [this]; simp [nodeAt, root], rfl, rfl, rfl⟩
  | pre d c => exact ⟨mkPN d par none (some (lo + 1 + c.root)), by rw [this]; simp [nodeAt, root], rfl, rfl, rfl⟩
  | suf c d => exact ⟨mkPN d par (some (lo + c.root)) none, by rw [this]; simp [nodeAt, root], rfl, rfl, rfl⟩
  | bin l d r =>
    exact ⟨mkPN d par (some (lo + l.root)) (some (lo + l.size + 1 + r.root)), by rw [this]; simp [nodeAt, root], rfl, rfl, rfl⟩

theorem Agree.leaf {d : Lab} {lo : Nat} {par : Option Nat} (h : Agree tree (.leaf d) lo par) :
    tree[lo]? = some (mkPN d par none none) := by
  rw [h lo (Nat.le_refl _) (by simp [size])]; simp [nodeAt]

theorem Agree.pre {d : Lab} {c : Sk} {lo : Nat} {par : Option Nat} (h : Agree tree (.pre d c) lo par) :
    tree[lo]? = some (mkPN d par none (some (lo + 1 + c.root))) ∧ Agree tree c (lo + 1) (some lo) := by
  refine ⟨by rw [h lo (Nat.le_refl _) (by simp [size]; omega)]; simp [nodeAt], fun k h1 h2 => ?_⟩
  rw [h k (by omega) (by simp only [size]; omega)]
  simp only [nodeAt, if_neg (show ¬ k = lo by omega)]

theorem Agree.suf {d : Lab} {c : Sk} {lo : Nat} {par : Option Nat} (h : Agree tree (.suf c d) lo par) :
    tree[lo + c.size]? = some (mkPN d par (some (lo + c.root)) none) ∧ Agree tree c lo (some (lo + c.size)) := by
  refine ⟨by rw [h (lo + c.size) (by omega) (by simp [size])]; simp [nodeAt], fun k h1 h2 => ?_⟩
  rw [h k h1 (by simp only [size]; omega)]
  simp only [nodeAt, if_neg (show ¬ k = lo + c.size by omega)]

theorem Agree.bin {d : Lab} {l r : Sk} {lo : Nat} {par : Option Nat} (h : Agree tree (.bin l d r) lo par) :
    tree[lo + l.size]? = some (mkPN d par (some (lo + l.root)) (some (lo + l.size + 1 + r.root))) ∧
    Agree tree l lo (some (lo + l.size)) ∧ Agree tree r (lo + l.size + 1) (some (lo + l.size)) := by
  refine ⟨by rw [h (lo + l.size) (by omega) (by simp [size]; omega)]; simp [nodeAt], fun k h1 h2 => ?_, fun k h1 h2 => ?_⟩
  · rw [h k h1 (by simp only [size]; omega)]
    simp only [nodeAt, if_pos h2]
  · rw [h k (by omega) (by simp only [size]; omega)]
    simp only [nodeAt, if_neg (show ¬ k < lo + l.size by omega), if_neg (show ¬ k = lo + l.size by omega)]

theorem shape_of_agree : ∀ (sk : Sk) (lo : Nat) (par : Option Nat), Agree tree sk lo par →
    Shape tree lo (lo + sk.size) (lo + sk.root)
  | .leaf d, lo, par, h => by
    simpa [size, root] using Shape.leaf (tree := tree) h.leaf rfl rfl
  | .pre d c, lo, par, h => by
    obtain ⟨h1, h2⟩ := h.pre
    obtain ⟨pc, hc1, _, _, hc4⟩ := h2.rootNode
    have := Shape.right (tree := tree) h1 rfl rfl ⟨pc, hc1, hc4⟩ (by
      have := shape_of_agree c (lo + 1) _ h2
      simpa [Nat.add_assoc] using this)
    simpa [size, root, Nat.add_assoc] using this
  | .suf c d, lo, par, h => by
    obtain ⟨h1, h2⟩ := h.suf
    obtain ⟨pc, hc1, _, _, hc4⟩ := h2.rootNode
    have := Shape.left (tree := tree) h1 rfl rfl ⟨pc, hc1, hc4⟩ (shape_of_agree c lo _ h2)
    simpa [size, root, Nat.add_assoc] using this
  | .bin l d r, lo, par, h => by
    obtain ⟨h1, h2, h3⟩ := h.bin
    obtain ⟨pl, hl1, _, _, hl4⟩ := h2.rootNode
    obtain ⟨pr, hr1, _, _, hr4⟩ := h3.rootNode
    have := Shape.both (tree := tree) h1 rfl rfl ⟨pl, hl1, hl4⟩ ⟨pr, by simpa [Nat.add_assoc] using hr1, hr4⟩
      (shape_of_agree l lo _ h2) (by
        have := shape_of_agree r (lo + l.size + 1) _ h3
        simpa [Nat.add_assoc] using this)
    simpa [size, root, Nat.add_assoc] using this

def Sk.toArray (sk : Sk) : Array ParseNode :=
  Array.ofFn (n := sk.size) (fun k => (nodeAt sk 0 none k.val).getD default)

theorem Sk.toArray_size (sk : Sk) : sk.toArray.size = sk.size := by simp [Sk.toArray]

theorem Sk.toArray_agree (sk : Sk) : Agree sk.toArray sk 0 none := by
  intro k _ h2
  have hk : k < sk.size := by omega
  obtain ⟨pn, hpn⟩ := nodeAt_some sk 0 none k (Nat.zero_le _) h2
  simp [Sk.toArray, hk, hpn]

end Garnish.Abs.Tree

/-! ### from expressions to skeletons.  Operands that are not a single token are wrapped in a group node; a list is a
left-nested `CommaList` spine, an else-chain a left-nested `ElseJump` spine over its `JumpIf` arms, `{ body }` a
`NestedExpression` node over the skeleton of the body (`nb`: the skeletons of the bodies, by id).  The printer supplies the
token text of literals and names.  A side-effect block after a value, `v [ body ]`, is the value node over a `SideEffect`
node over the body.  Not produced (the skeleton is the placeholder `bad`, and `fragE` is false): side-effect blocks after
anything but a literal / `$` / identifier, lists with fewer than two items, an else-chain without arms or with a single conditional arm and no final arm,
operators outside the tables of `handle_parse_node`. -/

namespace Garnish.Abs.Tree
open Garnish Garnish.Gen Garnish.Spec Garnish.Abs Garnish.Model.Parser Garnish.Model.Literals Garnish.Model.Build
open Sk

variable {F : Type}

structure Printer (F : Type) where
  lit : Val F → Lab
  name : Nat → List Char

/-- the node of a unary operator, and whether it is a prefix operator -/
def unDef : Instruction → Option (Definition × Bool)
  | .absoluteValue => some (.absoluteValue, true) | .opposite => some (.opposite, true)
  | .bitwiseNot => some (.bitwiseNot, true) | .not => some (.not, true) | .tis => some (.tis, true)
  | .typeOf => some (.typeOf, true) | .accessLeftInternal => some (.accessLeftInternal, true)
  | .emptyApply => some (.emptyApply, false) | .accessRightInternal => some (.accessRightInternal, false)
  | .accessLengthInternal => some (.accessLengthInternal, false)
  | _ => none

def binDef : Instruction → Option Definition
  | .add => some .addition | .subtract => some .subtraction | .multiply => some .multiplicationSign
  | .divide => some .division | .access => some .access | .makeRange => some .range
  | .makeStartExclusiveRange => some .startExclusiveRange | .makeEndExclusiveRange => some .endExclusiveRange
  | .makeExclusiveRange => some .exclusiveRange | .power => some .exponentialSign | .remainder => some .remainder
  | .integerDivide => some .integerDivision | .bitwiseAnd => some .bitwiseAnd | .bitwiseOr => some .bitwiseOr
  | .bitwiseXor => some .bitwiseXor | .bitwiseShiftRight => some .bitwiseRightShift
  | .bitwiseShiftLeft => some .bitwiseLeftShift | .xor => some .xor | .typeEqual => some .typeEqual
  | .applyType => some .typeCast | .equal => some .equality | .notEqual => some .inequality
  | .lessThan => some .lessThan | .lessThanOrEqual => some .lessThanOrEqual | .greaterThan => some .greaterThan
  | .greaterThanOrEqual => some .greaterThanOrEqual | .apply => some .apply | .partialApply => some .partialApply
  | .concat => some .concatenation
  | _ => none

theorem unDef_pre {op : Instruction} {d : Definition} (h : unDef op = some (d, true)) : prefixOp d = some op := by
  unfold unDef at h
  split at h <;> cases h <;> rfl

theorem unDef_suf {op : Instruction} {d : Definition} (h : unDef op = some (d, false)) : suffixOp d = some op := by
  unfold unDef at h
  split at h <;> cases h <;> rfl

theorem binDef_op {op : Instruction} {d : Definition} (h : binDef op = some d) : binOp d = some op := by
  unfold binDef at h
  split at h <;> cases h <;> rfl

def isLeafE : Expr F → Bool
  | .lit _ | .input | .ident _ | .emptyNested => true
  | _ => false

/-- the expressions a value node stands for -/
def isValE : Expr F → Bool
  | .lit _ | .input | .ident _ => true
  | _ => false

def sideLab : Lab := (.sideEffect, ['['])
def grp : Lab := (.group, ['('])
def comma : Lab := (.commaList, [','])
def ej : Lab := (.elseJump, ['|', '>'])
def bad : Sk := .leaf (.unit, [])

/-- an operand: as it is when it is a single token, in a group otherwise -/
def wrap (leaf : Bool) (s : Sk) : Sk := if leaf then s else .pre grp s

def spine (d : Lab) (acc : Sk) (rest : List Sk) : Sk := rest.foldl (fun a x => .bin a d x) acc

variable (pr : Printer F) (nb : Nat → Option Sk)

mutual
def skel : Expr F → Sk
  | .lit v => .leaf (pr.lit v)
  | .input => .leaf (.value, ['$'])
  | .ident s => .leaf (.identifier, pr.name s)
  | .emptyNested => .leaf (.nestedExpression, ['{'])
  | .unary op x =>
    match unDef op with
    | some (d, true) => .pre (d, []) (wrap (isLeafE x) (skel x))
    | some (d, false) => .suf (wrap (isLeafE x) (skel x)) (d, [])
    | none => bad
  | .binary op a b =>
    match binDef op with
    | some d => .bin (wrap (isLeafE a) (skel a)) (d, []) (wrap (isLeafE b) (skel b))
    | none => bad
  | .pair a b => .bin (wrap (isLeafE a) (skel a)) (.pair, ['=']) (wrap (isLeafE b) (skel b))
  | .applyTo a b => .bin (wrap (isLeafE a) (skel a)) (.applyTo, ['~', '>']) (wrap (isLeafE b) (skel b))
  | .list items =>
    match skelItems items with
    | a :: b :: rest => spine comma (.bin a comma b) rest
    | _ => bad
  | .cond t c e => .bin (wrap (isLeafE c) (skel c)) (jumpIfDef t, []) (wrap (isLeafE e) (skel e))
  | .chain arms (some fe) =>
    match skelArms arms with
    | a :: rest => .bin (spine ej a rest) ej (wrap (isLeafE fe) (skel fe))
    | [] => bad
  | .chain arms none =>
    match skelArms arms with
    | a :: b :: rest => spine ej (.bin a ej b) rest
    | _ => bad
  | .and a b => .bin (wrap (isLeafE a) (skel a)) (.and, ['&', '&']) (wrap (isLeafE b) (skel b))
  | .or a b => .bin (wrap (isLeafE a) (skel a)) (.or, ['|', '|']) (wrap (isLeafE b) (skel b))
  | .seq a b => .bin (wrap (isLeafE a) (skel a)) (.expressionSeparator, [';']) (wrap (isLeafE b) (skel b))
  | .sideAfter x b =>
    if isValE x then .pre (skel x).lab (.pre sideLab (skel b)) else bad
  | .nested id =>
    match nb id with
    | some s => .pre (.nestedExpression, ['{']) s
    | none => bad
  | .reapply x => .pre (.reapply, ['^', '~']) (wrap (isLeafE x) (skel x))
  | .prefixApply s x => .pre (.prefixApply, pr.name s ++ ['`']) (wrap (isLeafE x) (skel x))
  | .suffixApply x s => .suf (wrap (isLeafE x) (skel x)) (.suffixApply, '`' :: pr.name s)
  | .infixApply a s b =>
    .bin (wrap (isLeafE a) (skel a)) (.infixApply, '`' :: (pr.name s ++ ['`'])) (wrap (isLeafE b) (skel b))
def skelItems : List (Expr F) → List Sk
  | [] => []
  | x :: xs => wrap (isLeafE x) (skel x) :: skelItems xs
def skelArms : List (Bool × Expr F × Expr F) → List Sk
  | [] => []
  | (t, c, e) :: xs =>
    .bin (wrap (isLeafE c) (skel c)) (jumpIfDef t, []) (wrap (isLeafE e) (skel e)) :: skelArms xs
end

variable (pf : List Char → Option F) (okb : Nat → Prop)

/- `fragE`: the expressions `skel` renders faithfully (`okb`: the nested ids whose bodies it renders faithfully) -/
mutual
def fragE : Expr F → Prop
  | .lit v => LitRep pf (mkPN (pr.lit v) none none none) v
  | .input => True
  | .ident s => parseSymbol (pr.name s) = s
  | .emptyNested => True
  | .unary op x => (unDef op).isSome ∧ fragE x
  | .binary op a b => (binDef op).isSome ∧ fragE a ∧ fragE b
  | .pair a b => fragE a ∧ fragE b
  | .applyTo a b => fragE a ∧ fragE b
  | .list items => 2 ≤ items.length ∧ fragItems items
  | .cond _ c e => fragE c ∧ fragE e
  | .chain arms (some fe) => 1 ≤ arms.length ∧ fragArms arms ∧ fragE fe
  | .chain arms none => 2 ≤ arms.length ∧ fragArms arms
  | .and a b => fragE a ∧ fragE b
  | .or a b => fragE a ∧ fragE b
  | .seq a b => fragE a ∧ fragE b
  | .sideAfter x b => isValE x = true ∧ fragE x ∧ fragE b
  | .nested id => okb id
  | .reapply x => fragE x
  | .prefixApply s x => parseSymbol (trimMatches '`' (pr.name s ++ ['`'])) = s ∧ fragE x
  | .suffixApply x s => parseSymbol (trimMatches '`' ('`' :: pr.name s)) = s ∧ fragE x
  | .infixApply a s b => parseSymbol (trimMatches '`' ('`' :: (pr.name s ++ ['`']))) = s ∧ fragE a ∧ fragE b
def fragItems : List (Expr F) → Prop
  | [] => True
  | x :: xs => fragE x ∧ fragItems xs
def fragArms : List (Bool × Expr F × Expr F) → Prop
  | [] => True
  | (_, c, e) :: xs => fragE c ∧ fragE e ∧ fragArms xs
end

/-- the skeletons of the bodies, to nesting depth `n` -/
def nbOf (bodies : List (Nat × Expr F)) : Nat → Nat → Option Sk
  | 0 => fun _ => none
  | n + 1 => fun id => (lookupBody bodies id).map (skel pr (nbOf bodies n))

def okOf (bodies : List (Nat × Expr F)) : Nat → Nat → Prop
  | 0 => fun _ => False
  | n + 1 => fun id => ∃ b, lookupBody bodies id = some b ∧ fragE pr pf (okOf bodies n) b

end Garnish.Abs.Tree

namespace Garnish.Abs.Tree
open Garnish Garnish.Gen Garnish.Spec Garnish.Abs Garnish.Model.Parser Garnish.Model.Literals Garnish.Model.Build
open Sk

variable {F : Type} (pf : List Char → Option F) (bodies : List (Nat × Expr F))

/-- wherever the skeleton `s` is numbered into an array, its interval represents `e` -/
def Good (s : Sk) (e : Expr F) : Prop :=
  ∀ (tree : Array ParseNode) (lo : Nat) (par : Option Nat), Agree tree s lo par →
    Rep pf tree bodies lo (lo + s.size) (lo + s.root) e

/-- the definition of an operand's root: does not look at `conditional_parent`, and is not a list node -/
def okLab (d : Definition) : Prop := condDef d = false ∧ d ≠ .commaList

def GoodW (s : Sk) (e : Expr F) : Prop := Good pf bodies s e ∧ okLab s.lab.1

def GoodArm (s : Sk) (a : Bool × Expr F × Expr F) : Prop :=
  ∀ (tree : Array ParseNode) (lo : Nat) (par : Option Nat), Agree tree s lo par →
    RepArm pf tree bodies lo (lo + s.size) (lo + s.root) a.1 a.2.1 a.2.2

def GoodArms (s : Sk) (arms : List (Bool × Expr F × Expr F)) : Prop :=
  ∀ (tree : Array ParseNode) (lo : Nat) (par : Option Nat), Agree tree s lo par →
    RepArms pf tree bodies lo (lo + s.size) (lo + s.root) arms

def GoodItems (s : Sk) (items : List (Expr F)) : Prop :=
  ∀ (tree : Array ParseNode) (lo : Nat) (par : Option Nat), Agree tree s lo par →
    RepItems pf tree bodies .commaList lo (lo + s.size) (lo + s.root) items

theorem size_pre (lo : Nat) (d : Lab) (c : Sk) : lo + (Sk.pre d c).size = lo + 1 + c.size := by simp [size]; omega
theorem root_pre (lo : Nat) (d : Lab) (c : Sk) : lo + (Sk.pre d c).root = lo := by simp [root]
theorem size_suf (lo : Nat) (d : Lab) (c : Sk) : lo + (Sk.suf c d).size = lo + c.size + 1 := by simp [size]; omega
theorem root_suf (lo : Nat) (d : Lab) (c : Sk) : lo + (Sk.suf c d).root = lo + c.size := by simp [root]
theorem size_bin (lo : Nat) (d : Lab) (l r : Sk) : lo + (Sk.bin l d r).size = lo + l.size + 1 + r.size := by
  simp [size]; omega
theorem root_bin (lo : Nat) (d : Lab) (l r : Sk) : lo + (Sk.bin l d r).root = lo + l.size := by simp [root]

variable {pf bodies}

theorem LitRep.okLab {d : Lab} {v : Val F} (h : LitRep pf (mkPN d none none none) v) : okLab d.1 := by
  have hd : (mkPN d none none none).definition = d.1 := rfl
  cases h <;> rename_i h1 <;> first
    | (rw [hd] at h1; rw [h1]; exact ⟨rfl, by decide⟩)
    | (rename_i h0; rw [hd] at h0; rw [h0]; exact ⟨rfl, by decide⟩)

theorem LitRep.moveR {d : Lab} {v : Val F} (par r : Option Nat) (h : LitRep pf (mkPN d none none none) v) :
    LitRep pf (mkPN d par none r) v := by
  cases h with
  | unit h => exact .unit h
  | tru h => exact .tru h
  | fls h => exact .fls h
  | num h1 h2 => exact .num h1 h2
  | chars h1 h2 => exact .chars h1 h2
  | bytes h1 h2 => exact .bytes h1 h2
  | sym h1 h2 => exact .sym h1 h2
  | prop h => exact .prop (pn := mkPN d par none r) h

theorem LitRep.move {d : Lab} {v : Val F} (par : Option Nat) (h : LitRep pf (mkPN d none none none) v) :
    LitRep pf (mkPN d par none none) v := h.moveR par none

theorem root_def {tree : Array ParseNode} {s : Sk} {lo : Nat} {par : Option Nat} (h : Agree tree s lo par) (ho : okLab s.lab.1) :
    NotCond tree (lo + s.root) ∧ NotDef tree (lo + s.root) .commaList := by
  obtain ⟨pn, h1, h2, _, _⟩ := h.rootNode
  refine ⟨fun q hq => ?_, fun q hq => ?_⟩
  · rw [h1] at hq; cases hq; rw [h2]; exact ho.1
  · rw [h1] at hq; cases hq; rw [h2]; exact ho.2

theorem good_wrap {s : Sk} {e : Expr F} (hg : Good pf bodies s e) (hl : isLeafE e = true → okLab s.lab.1) :
    GoodW pf bodies (wrap (isLeafE e) s) e := by
  cases hleaf : isLeafE e with
  | true => exact ⟨by simpa [wrap] using hg, by simpa [wrap] using hl hleaf⟩
  | false =>
    refine ⟨?_, show okLab Definition.group from ⟨rfl, by decide⟩⟩
    intro tree lo par h
    simp only [wrap, Bool.false_eq_true, if_false] at h ⊢
    obtain ⟨h1, h2⟩ := h.pre
    rw [size_pre, root_pre]
    exact Rep.group h1 rfl rfl (hg _ _ _ h2)

inductive All2 {α β : Type} (R : α → β → Prop) : List α → List β → Prop where
  | nil : All2 R [] []
  | cons {a b as bs} : R a b → All2 R as bs → All2 R (a :: as) (b :: bs)

theorem spine_rule {α : Type} {d : Lab} {P : Sk → List α → Prop} {G : Sk → α → Prop}
    (step : ∀ {acc x A a}, P acc A → G x a → P (.bin acc d x) (A ++ [a])) :
    ∀ (rest : List Sk) (R : List α) (acc : Sk) (A : List α), P acc A → All2 G rest R → P (spine d acc rest) (A ++ R)
  | [], _, acc, A, h1, h2 => by cases h2; simpa [spine] using h1
  | x :: rest, _, acc, A, h1, h2 => by
    cases h2 with
    | cons hx hr =>
      rename_i a R
      have := spine_rule step rest R (.bin acc d x) (A ++ [a]) (step h1 hx) hr
      simpa [spine] using this

theorem arm_one {s : Sk} {a : Bool × Expr F × Expr F} (h : GoodArm pf bodies s a) : GoodArms pf bodies s [a] :=
  fun tree lo par ha => RepArms.one (h tree lo par ha)

theorem arms_step {acc x : Sk} {A : List (Bool × Expr F × Expr F)} {a : Bool × Expr F × Expr F}
    (h1 : GoodArms pf bodies acc A) (h2 : GoodArm pf bodies x a) :
    GoodArms pf bodies (.bin acc ej x) (A ++ [a]) ∧ Good pf bodies (.bin acc ej x) (.chain (A ++ [a]) none) := by
  refine ⟨fun tree lo par h => ?_, fun tree lo par h => ?_⟩
  · obtain ⟨hn, ha, hb⟩ := h.bin
    rw [size_bin, root_bin]
    exact RepArms.more hn rfl rfl rfl (h1 _ _ _ ha) (h2 _ _ _ hb)
  · obtain ⟨hn, ha, hb⟩ := h.bin
    rw [size_bin, root_bin]
    exact Rep.chainNoFinal hn rfl rfl rfl (h1 _ _ _ ha) (h2 _ _ _ hb)

theorem items_two {a b : Sk} {ea eb : Expr F} (h1 : GoodW pf bodies a ea) (h2 : GoodW pf bodies b eb) :
    GoodItems pf bodies (.bin a comma b) [ea, eb] := by
  intro tree lo par h
  obtain ⟨hn, ha, hb⟩ := h.bin
  rw [size_bin, root_bin]
  exact RepItems.two hn rfl rfl rfl (root_def ha h1.2).2 (root_def hb h2.2).2 (h1.1 _ _ _ ha) (h2.1 _ _ _ hb)

theorem items_step {acc x : Sk} {A : List (Expr F)} {b : Expr F} (h1 : GoodItems pf bodies acc A) (h2 : GoodW pf bodies x b) :
    GoodItems pf bodies (.bin acc comma x) (A ++ [b]) := by
  intro tree lo par h
  obtain ⟨hn, ha, hb⟩ := h.bin
  rw [size_bin, root_bin]
  exact RepItems.snoc hn rfl rfl rfl (root_def hb h2.2).2 (h1 _ _ _ ha) (h2.1 _ _ _ hb)

theorem good_bin {l r : Sk} {d : Lab} {a b e : Expr F}
    (mk : ∀ (tree : Array ParseNode) (lo hi i l r : Nat) (pn : ParseNode), tree[i]? = some pn → pn.definition = d.1 →
      pn.lexToken.text = d.2 → pn.left = some l → pn.right = some r → NotCond tree l → NotCond tree r →
      Rep pf tree bodies lo i l a → Rep pf tree bodies (i + 1) hi r b → Rep pf tree bodies lo hi i e)
    (h1 : GoodW pf bodies l a) (h2 : GoodW pf bodies r b) : Good pf bodies (.bin l d r) e := by
  intro tree lo par h
  obtain ⟨hn, ha, hb⟩ := h.bin
  rw [size_bin, root_bin]
  exact mk tree _ _ _ _ _ _ hn rfl rfl rfl rfl (root_def ha h1.2).1 (root_def hb h2.2).1 (h1.1 _ _ _ ha) (h2.1 _ _ _ hb)

theorem good_pre {c : Sk} {d : Lab} {x e : Expr F}
    (mk : ∀ (tree : Array ParseNode) (hi i r : Nat) (pn : ParseNode), tree[i]? = some pn → pn.definition = d.1 →
      pn.lexToken.text = d.2 → pn.right = some r → Rep pf tree bodies (i + 1) hi r x → Rep pf tree bodies i hi i e)
    (h1 : Good pf bodies c x) : Good pf bodies (.pre d c) e := by
  intro tree lo par h
  obtain ⟨hn, ha⟩ := h.pre
  rw [size_pre, root_pre]
  exact mk tree _ _ _ _ hn rfl rfl rfl (h1 _ _ _ ha)

theorem good_suf {c : Sk} {d : Lab} {x e : Expr F}
    (mk : ∀ (tree : Array ParseNode) (lo i l : Nat) (pn : ParseNode), tree[i]? = some pn → pn.definition = d.1 →
      pn.lexToken.text = d.2 → pn.left = some l → Rep pf tree bodies lo i l x → Rep pf tree bodies lo (i + 1) i e)
    (h1 : Good pf bodies c x) : Good pf bodies (.suf c d) e := by
  intro tree lo par h
  obtain ⟨hn, ha⟩ := h.suf
  rw [size_suf, root_suf]
  exact mk tree _ _ _ _ hn rfl rfl rfl (h1 _ _ _ ha)

theorem good_arm {l r : Sk} {t : Bool} {c e : Expr F} (h1 : GoodW pf bodies l c) (h2 : GoodW pf bodies r e) :
    GoodArm pf bodies (.bin l (jumpIfDef t, []) r) (t, c, e) := by
  intro tree lo par h
  obtain ⟨hn, ha, hb⟩ := h.bin
  rw [size_bin, root_bin]
  exact RepArm.mk hn rfl rfl rfl (h1.1 _ _ _ ha) (h2.1 _ _ _ hb)

variable {pr : Printer F} {nb : Nat → Option Sk} {okb : Nat → Prop}

mutual
/-- by structural recursion, one case per constructor: every operand goes through `good_wrap` — as it is when it is a single token
(what the second conjunct is carried for), in a group otherwise — and the node is closed by `good_pre` / `good_suf` / `good_bin`
around the constructor of `Rep`; lists and else-chains by `spine_rule` over `rep_items` / `rep_arms` -/
theorem rep_skel (hnb : ∀ id, okb id → ∃ b s, lookupBody bodies id = some b ∧ nb id = some s ∧ Good pf bodies s b) :
    ∀ e : Expr F, fragE pr pf okb e →
      Good pf bodies (skel pr nb e) e ∧ (isLeafE e = true → okLab (skel pr nb e).lab.1)
  | .lit v, hf => by
    simp only [fragE] at hf
    refine ⟨fun tree lo par h => ?_, fun _ => by simp only [skel, Sk.lab]; exact LitRep.okLab hf⟩
    simp only [skel] at h ⊢
    exact Rep.lit h.leaf rfl rfl (LitRep.move par hf)
  | .input, _ => by
    refine ⟨fun tree lo par h => ?_, fun _ => by simp only [skel, Sk.lab]; exact ⟨rfl, by decide⟩⟩
    simp only [skel] at h ⊢
    exact Rep.input h.leaf rfl rfl rfl
  | .ident s, hf => by
    simp only [fragE] at hf
    refine ⟨fun tree lo par h => ?_, fun _ => by simp only [skel, Sk.lab]; exact ⟨rfl, by decide⟩⟩
    simp only [skel] at h ⊢
    have key := Rep.ident (pf := pf) (bodies := bodies) h.leaf rfl rfl rfl
    simp only [mkPN] at key
    rw [hf] at key
    exact key
  | .emptyNested, _ => by
    refine ⟨fun tree lo par h => ?_, fun _ => by simp only [skel, Sk.lab]; exact ⟨rfl, by decide⟩⟩
    simp only [skel] at h ⊢
    exact Rep.emptyNested h.leaf rfl rfl
  | .unary op x, hf => by
    simp only [fragE] at hf
    have hw := good_wrap (rep_skel hnb x hf.2).1 (rep_skel hnb x hf.2).2
    refine ⟨?_, fun h => by simp [isLeafE] at h⟩
    cases hop : unDef op with
    | none => rw [hop] at hf; exact absurd hf.1 (by simp)
    | some db =>
      obtain ⟨d, b⟩ := db
      cases b with
      | true =>
        simp only [skel, hop]
        exact good_pre (fun _ _ _ _ _ h1 hd _ hr hx => Rep.unaryPre h1 (by rw [hd]; exact unDef_pre hop) hr hx) hw.1
      | false =>
        simp only [skel, hop]
        exact good_suf (fun _ _ _ _ _ h1 hd _ hl hx => Rep.unarySuf h1 (by rw [hd]; exact unDef_suf hop) hl hx) hw.1
  | .binary op a b, hf => by
    simp only [fragE] at hf
    have ha := good_wrap (rep_skel hnb a hf.2.1).1 (rep_skel hnb a hf.2.1).2
    have hb := good_wrap (rep_skel hnb b hf.2.2).1 (rep_skel hnb b hf.2.2).2
    refine ⟨?_, fun h => by simp [isLeafE] at h⟩
    cases hop : binDef op with
    | none => rw [hop] at hf; exact absurd hf.1 (by simp)
    | some d =>
      simp only [skel, hop]
      exact good_bin (fun _ _ _ _ _ _ _ h1 hd _ hl hr _ _ hx hy =>
        Rep.binary h1 (by rw [hd]; exact binDef_op hop) hl hr hx hy) ha hb
  | .pair a b, hf => by
    simp only [fragE] at hf
    have ha := good_wrap (rep_skel hnb a hf.1).1 (rep_skel hnb a hf.1).2
    have hb := good_wrap (rep_skel hnb b hf.2).1 (rep_skel hnb b hf.2).2
    refine ⟨?_, fun h => by simp [isLeafE] at h⟩
    simp only [skel]
    exact good_bin (fun _ _ _ _ _ _ _ h1 hd _ hl hr _ _ hx hy => Rep.pair h1 hd hl hr hx hy) ha hb
  | .applyTo a b, hf => by
    simp only [fragE] at hf
    have ha := good_wrap (rep_skel hnb a hf.1).1 (rep_skel hnb a hf.1).2
    have hb := good_wrap (rep_skel hnb b hf.2).1 (rep_skel hnb b hf.2).2
    refine ⟨?_, fun h => by simp [isLeafE] at h⟩
    simp only [skel]
    exact good_bin (fun _ _ _ _ _ _ _ h1 hd _ hl hr _ _ hx hy => Rep.applyTo h1 hd hl hr hx hy) ha hb
  | .list items, hf => by
    simp only [fragE] at hf
    obtain ⟨hlen, hfi⟩ := hf
    have hall := rep_items hnb items hfi
    refine ⟨?_, fun h => by simp [isLeafE] at h⟩
    clear hfi
    rcases items with _ | ⟨a, _ | ⟨b, rest⟩⟩
    · simp at hlen
    · simp at hlen
    · simp only [skelItems] at hall
      cases hall with
      | cons h1 hall =>
        cases hall with
        | cons h2 hall =>
          simp only [skel, skelItems]
          exact fun tree lo par h => Rep.list (Or.inr rfl)
            (spine_rule (P := GoodItems pf bodies) items_step _ _ _ [a, b] (items_two h1 h2) hall tree lo par h)
  | .cond t c e, hf => by
    simp only [fragE] at hf
    have ha := good_wrap (rep_skel hnb c hf.1).1 (rep_skel hnb c hf.1).2
    have hb := good_wrap (rep_skel hnb e hf.2).1 (rep_skel hnb e hf.2).2
    refine ⟨?_, fun h => by simp [isLeafE] at h⟩
    simp only [skel]
    exact good_bin (fun _ _ _ _ _ _ _ h1 hd _ hl hr _ _ hx hy => Rep.cond h1 hd hl hr hx hy) ha hb
  | .chain arms (some fe), hf => by
    simp only [fragE] at hf
    obtain ⟨hlen, hfa, hff⟩ := hf
    have hall := rep_arms hnb arms hfa
    have hb := good_wrap (rep_skel hnb fe hff).1 (rep_skel hnb fe hff).2
    refine ⟨?_, fun h => by simp [isLeafE] at h⟩
    clear hfa hff
    rcases arms with _ | ⟨⟨t, c, e⟩, rest⟩
    · simp at hlen
    · simp only [skelArms] at hall
      cases hall with
      | cons h1 hall =>
        simp only [skel, skelArms]
        intro tree lo par h
        obtain ⟨hn, hl, hr⟩ := h.bin
        rw [size_bin, root_bin]
        exact Rep.chain hn rfl rfl rfl (spine_rule (P := GoodArms pf bodies) (fun h1 h2 => (arms_step h1 h2).1) _ _ _ [(t, c, e)]
          (arm_one h1) hall _ _ _ hl) (root_def hr hb.2).1
          (hb.1 _ _ _ hr)
  | .chain arms none, hf => by
    simp only [fragE] at hf
    obtain ⟨hlen, hfa⟩ := hf
    have hall := rep_arms hnb arms hfa
    refine ⟨?_, fun h => by simp [isLeafE] at h⟩
    clear hfa
    rcases arms with _ | ⟨⟨t, c, e⟩, _ | ⟨⟨t2, c2, e2⟩, rest⟩⟩
    · simp at hlen
    · simp at hlen
    · simp only [skelArms] at hall
      cases hall with
      | cons h1 hall =>
        cases hall with
        | cons h2 hall =>
          simp only [skel, skelArms]
          have st := arms_step (arm_one h1) h2
          exact (spine_rule (P := fun s A => GoodArms pf bodies s A ∧ Good pf bodies s (.chain A none))
            (fun h1 h2 => arms_step h1.1 h2) _ _ _ [(t, c, e), (t2, c2, e2)] st hall).2
  | .and a b, hf => by
    simp only [fragE] at hf
    have ha := good_wrap (rep_skel hnb a hf.1).1 (rep_skel hnb a hf.1).2
    have hb := good_wrap (rep_skel hnb b hf.2).1 (rep_skel hnb b hf.2).2
    refine ⟨?_, fun h => by simp [isLeafE] at h⟩
    simp only [skel]
    exact good_bin (fun _ _ _ _ _ _ _ h1 hd _ hl hr nl _ hx hy => Rep.and h1 hd hl hr nl hx hy) ha hb
  | .or a b, hf => by
    simp only [fragE] at hf
    have ha := good_wrap (rep_skel hnb a hf.1).1 (rep_skel hnb a hf.1).2
    have hb := good_wrap (rep_skel hnb b hf.2).1 (rep_skel hnb b hf.2).2
    refine ⟨?_, fun h => by simp [isLeafE] at h⟩
    simp only [skel]
    exact good_bin (fun _ _ _ _ _ _ _ h1 hd _ hl hr nl _ hx hy => Rep.or h1 hd hl hr nl hx hy) ha hb
  | .seq a b, hf => by
    simp only [fragE] at hf
    have ha := good_wrap (rep_skel hnb a hf.1).1 (rep_skel hnb a hf.1).2
    have hb := good_wrap (rep_skel hnb b hf.2).1 (rep_skel hnb b hf.2).2
    refine ⟨?_, fun h => by simp [isLeafE] at h⟩
    simp only [skel]
    exact good_bin (fun _ _ _ _ _ _ _ h1 hd _ hl hr _ _ hx hy => Rep.seq h1 (Or.inr hd) hl hr hx hy) ha hb
  | .sideAfter x b, hf => by
    simp only [fragE] at hf
    obtain ⟨hv, hfx, hfb⟩ := hf
    have hb := (rep_skel hnb b hfb).1
    refine ⟨?_, fun h => by simp [isLeafE] at h⟩
    simp only [skel, hv, if_true]
    intro tree lo par h
    obtain ⟨h1, h2⟩ := h.pre
    obtain ⟨h3, h4⟩ := h2.pre
    rw [size_pre, root_pre, size_pre]
    have hx : LeafRep pf (mkPN (skel pr nb x).lab par none (some (lo + 1 + (Sk.pre sideLab (skel pr nb b)).root))) x := by
      cases x with
      | lit v => simp only [fragE] at hfx; simp only [skel, Sk.lab]; exact .lit (hfx.moveR par _)
      | input => simp only [skel, Sk.lab]; exact .input rfl
      | ident s =>
        simp only [fragE] at hfx
        simp only [skel, Sk.lab]
        have := LeafRep.ident (pf := pf)
          (pn := mkPN (Definition.identifier, pr.name s) par none (some (lo + 1 + (Sk.pre sideLab (skel pr nb b)).root))) rfl
        simp only [mkPN] at this
        rw [hfx] at this
        exact this
      | _ => simp [isValE] at hv
    have := hb _ _ _ h4
    exact Rep.side h1 rfl rfl hx h3 rfl rfl (by simpa [Nat.add_assoc] using this)
  | .nested id, hf => by
    simp only [fragE] at hf
    obtain ⟨b, s, hb, hs, hg⟩ := hnb id hf
    refine ⟨?_, fun h => by simp [isLeafE] at h⟩
    simp only [skel, hs]
    exact good_pre (fun _ _ _ _ _ h1 hd _ hr hx => Rep.nested h1 hd hr hb hx) hg
  | .reapply x, hf => by
    simp only [fragE] at hf
    have hw := good_wrap (rep_skel hnb x hf).1 (rep_skel hnb x hf).2
    refine ⟨?_, fun h => by simp [isLeafE] at h⟩
    simp only [skel]
    exact good_pre (fun _ _ _ _ _ h1 hd _ hr hx => Rep.reapply h1 hd hr hx) hw.1
  | .prefixApply s x, hf => by
    simp only [fragE] at hf
    have hw := good_wrap (rep_skel hnb x hf.2).1 (rep_skel hnb x hf.2).2
    refine ⟨?_, fun h => by simp [isLeafE] at h⟩
    simp only [skel]
    refine good_pre (fun _ _ _ _ _ h1 hd ht hr hx => ?_) hw.1
    have := Rep.prefixApply h1 hd hr hx
    rw [ht] at this
    simp only [hf.1] at this
    exact this
  | .suffixApply x s, hf => by
    simp only [fragE] at hf
    have hw := good_wrap (rep_skel hnb x hf.2).1 (rep_skel hnb x hf.2).2
    refine ⟨?_, fun h => by simp [isLeafE] at h⟩
    simp only [skel]
    refine good_suf (fun _ _ _ _ _ h1 hd ht hl hx => ?_) hw.1
    have := Rep.suffixApply h1 hd hl hx
    rw [ht] at this
    simp only [hf.1] at this
    exact this
  | .infixApply a s b, hf => by
    simp only [fragE] at hf
    have ha := good_wrap (rep_skel hnb a hf.2.1).1 (rep_skel hnb a hf.2.1).2
    have hb := good_wrap (rep_skel hnb b hf.2.2).1 (rep_skel hnb b hf.2.2).2
    refine ⟨?_, fun h => by simp [isLeafE] at h⟩
    simp only [skel]
    refine good_bin (fun _ _ _ _ _ _ _ h1 hd ht hl hr _ _ hx hy => ?_) ha hb
    have := Rep.infixApply h1 hd hl hr hx hy
    rw [ht] at this
    simp only [hf.1] at this
    exact this
theorem rep_items (hnb : ∀ id, okb id → ∃ b s, lookupBody bodies id = some b ∧ nb id = some s ∧ Good pf bodies s b) :
    ∀ items : List (Expr F), fragItems pr pf okb items → All2 (GoodW pf bodies) (skelItems pr nb items) items
  | [], _ => by simp only [skelItems]; exact .nil
  | x :: xs, hf => by
    simp only [fragItems] at hf
    simp only [skelItems]
    exact .cons (good_wrap (rep_skel hnb x hf.1).1 (rep_skel hnb x hf.1).2) (rep_items hnb xs hf.2)
theorem rep_arms (hnb : ∀ id, okb id → ∃ b s, lookupBody bodies id = some b ∧ nb id = some s ∧ Good pf bodies s b) :
    ∀ arms : List (Bool × Expr F × Expr F), fragArms pr pf okb arms →
      All2 (GoodArm pf bodies) (skelArms pr nb arms) arms
  | [], _ => by simp only [skelArms]; exact .nil
  | (t, c, e) :: xs, hf => by
    simp only [fragArms] at hf
    simp only [skelArms]
    exact .cons (good_arm (good_wrap (rep_skel hnb c hf.1).1 (rep_skel hnb c hf.1).2)
      (good_wrap (rep_skel hnb e hf.2.1).1 (rep_skel hnb e hf.2.1).2)) (rep_arms hnb xs hf.2.2)
end

end Garnish.Abs.Tree

namespace Garnish.Abs.Tree
open Garnish Garnish.Gen Garnish.Spec Garnish.Abs Garnish.Model.Parser Garnish.Model.Literals Garnish.Model.Build
open Sk

variable {F : Type} (pr : Printer F) (pf : List Char → Option F)

theorem nbOf_good (bodies : List (Nat × Expr F)) : ∀ (n id : Nat), okOf pr pf bodies n id →
    ∃ b s, lookupBody bodies id = some b ∧ nbOf pr bodies n id = some s ∧ Good pf bodies s b
  | 0, _, h => by simp only [okOf] at h
  | n + 1, id, h => by
    simp only [okOf] at h
    obtain ⟨b, hb, hf⟩ := h
    exact ⟨b, skel pr (nbOf pr bodies n) b, hb, by simp [nbOf, hb], (rep_skel (nbOf_good bodies n) b hf).1⟩

/-- the skeleton of a program: nested bodies rendered to depth `depth` -/
def skelOf (p : Program F) (depth : Nat) : Sk := skel pr (nbOf pr p.bodies depth) p.main

/-- **`treeOf`**: the parse tree of a program (node array and root), every compound operand in a group -/
def treeOf (p : Program F) (depth : Nat) : Array ParseNode × Nat := ((skelOf pr p depth).toArray, (skelOf pr p depth).root)

/-- the programs `treeOf` renders faithfully: the constructs of `fragE`, nested to depth at most `depth` -/
def InFrag (p : Program F) (depth : Nat) : Prop := fragE pr pf (okOf pr pf p.bodies depth) p.main

theorem treeOf_size (p : Program F) (depth : Nat) : (treeOf pr p depth).1.size = (skelOf pr p depth).size :=
  Sk.toArray_size _

theorem treeOf_rep (p : Program F) (depth : Nat) (h : InFrag pr pf p depth) :
    Rep pf (treeOf pr p depth).1 p.bodies 0 (treeOf pr p depth).1.size (treeOf pr p depth).2 p.main := by
  have := (rep_skel (nbOf_good pr pf p.bodies depth) p.main h).1 _ 0 none (Sk.toArray_agree (skelOf pr p depth))
  rw [treeOf_size]
  simpa [treeOf, skelOf] using this

theorem treeOf_shape (p : Program F) (depth : Nat) :
    Shape (treeOf pr p depth).1 0 (treeOf pr p depth).1.size (treeOf pr p depth).2 := by
  have := shape_of_agree _ 0 none (Sk.toArray_agree (skelOf pr p depth))
  rw [treeOf_size]
  simpa [treeOf] using this

theorem treeOf_valid (p : Program F) (depth : Nat) :
    validateParseTree (treeOf pr p depth).2 (treeOf pr p depth).1 = .ok () := by
  obtain ⟨pn, h1, _, _, h4⟩ := (Sk.toArray_agree (skelOf pr p depth)).rootNode
  exact validate_ok (treeOf_shape pr p depth) (by simpa [treeOf] using h1) h4

end Garnish.Abs.Tree
