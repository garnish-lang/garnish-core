/-
Panic / fuel freedom of the parser model (`Garnish.Model.Parser.parse`).

`Safe o` : the outcome is `ok` or `err`, i.e. neither `panic` (a Rust panic site was hit) nor `fuelOut`
(the model's recursion fuel ran out before the Rust `count > nodes.len()` cap fired).

Potential panic sites of parser.rs (non-test code, lines 1–1312) and their status
  780   `end -= 1` in `trim_tokens` (usize subtraction)      modelled as `Outcome.panic`; unreachable: `trimEnd_ok`
  790   `&tokens[start..end]` (slice)                         modelled as `Outcome.panic`; unreachable: `trimTokens_sub`
                                                              (`start <= end` by the test on line 786, `end <= len` by `trimEnd_ok`)
  1099  `group_stack.len() - 1` (usize subtraction)           under `!group_stack.is_empty()`: `groupStack_len_sub_one_guarded`
  1292  `unreachable!()`                                      `match node.get_parent() { None => .. }` inside
                                                              `while !node.parent.is_none()`: same field, no mutation in between
  535, 640, 772, 859, 862, 933, 937, 995, 1021, 1304  `+ 1` / `+= 1` on usize: overflow needs ~2^64 nodes (not modelled, `Nat`)
  every `nodes.get(..)`, `nodes.get_mut(..)`, `group_stack.get(..)`, `group_stack.pop()`, `priority_map.get(..)` has an explicit
  `None` arm (returns `Err` or `()`); there is no `nodes[i]`, `unwrap`, `expect`, `panic!`, `assert!` in the non-test code.
The two loops that are not `for` loops (lines 491–539 and 1290–1308) are capped by `count > nodes.len()`:
`walkLoop_safe`, `rootLoop_safe` show that the model's fuel `nodes.size + 1` is never exhausted before that cap fires.
`Safe`, these lemmas and the pass through all functions of the model (`SPost`, `parse_ngood`) are in Lemmas/ParserTokens.lean;
the theorems here are that pass for the specification that asks nothing of the nodes.
-/
import Garnish.Lemmas.ParserTokens

namespace Garnish.Model.Parser
open Garnish Garnish.Gen

/-- line 1099 `group_stack.len() - 1` is evaluated only under `!group_stack.is_empty()`, so the `usize` subtraction
    cannot underflow (the model writes the truncated `Nat` subtraction under the same guard) -/
theorem groupStack_len_sub_one_guarded {α : Type} (groupStack : Array α) (h : groupStack.isEmpty = false) :
    groupStack.size - 1 + 1 = groupStack.size := by
  have : groupStack.size ≠ 0 := by
    intro h0
    simp [Array.isEmpty, h0] at h
  omega

theorem parse_safe (tokens : List PToken) : Safe (parse tokens) :=
  (parse_ngood NodeSpec.any tokens (fun _ _ => trivial)).safe

theorem parse_ne_panic (tokens : List PToken) (site : String) : parse tokens ≠ .panic site :=
  (parse_safe tokens).ne_panic site

theorem parse_ne_fuelOut (tokens : List PToken) : parse tokens ≠ .fuelOut :=
  (parse_safe tokens).ne_fuelOut

end Garnish.Model.Parser
