/-
The same accessors on SimpleGarnishData (`Access.Simple`): item getters, slice counts, the concatenation iterator; no panic on
well-formed lists (`Access.Simple.WF`).
-/
import Garnish.Lemmas.Access
import Garnish.Spec.AccessWF
namespace Garnish.Access.Simple
open Garnish Garnish.Access

theorem sliceCount_ok {s e : Int} (hs : InRange s) (he : InRange e) :
    sliceCount s e = .ok (if e < s then 0 else (e - s + 1).toNat) := by
  unfold InRange at hs he
  unfold sliceCount
  by_cases hlt : e < s
  · simp [hlt]
  · simp only [hlt, if_false]
    have h1 : I64_MIN ≤ e - s ∧ e - s ≤ I64_MAX := by unfold I64_MIN I64_MAX; omega
    have h2 : I64_MIN ≤ e - s + 1 ∧ e - s + 1 ≤ I64_MAX := by unfold I64_MIN I64_MAX; omega
    simp only [i64sub, h1, and_self, if_true, bind_ok, i64add, h2, i64AsUsize]
    congr 1
    omega

/-- the expression before fix fbec859, `(end - start) as usize + 1`: it panicked exactly for a stored extent with
`end - start = -1` (`usize::MAX + 1`) and for a difference outside `i32` -/
theorem sliceCountOld_panics_iff {s e : Int} (hs : InRange s) (he : InRange e) :
    (∃ m, sliceCountOld s e = .panic m) ↔ (e - s = -1 ∨ ¬ InRange (e - s)) := by
  unfold InRange at hs he
  unfold sliceCountOld
  by_cases hr : InRange (e - s)
  · simp only [hr, if_true, not_true_eq_false, or_false]
    rw [uadd_panics_iff]
    unfold InRange at hr
    unfold asUsize USIZE_MAX
    omega
  · simp [hr]

theorem get_safe (d : SData) (i : Nat) : Safe (get d i) := by
  unfold get; split
  · exact safe_ok _
  · exact safe_err _

theorem nthOrErr_safe (xs : List Nat) (v : Int) : Safe (nthOrErr xs v) := by
  unfold nthOrErr; split
  · exact safe_ok _
  · exact safe_err _

theorem getListItem_safe (d : SData) (a : Nat) (ix : Num) : Safe (getListItem d a ix) := by
  cases ix with
  | int v =>
    unfold getListItem
    apply safe_bind (get_safe d a); intro c _
    apply safe_bind; · cases c <;> simp [asList, safe_ok, safe_err]
    intro _ _; exact safe_ok _
  | float _ _ => exact safe_err _

theorem getCharListItem_safe (d : SData) (a : Nat) (ix : Num) : Safe (getCharListItem d a ix) := by
  cases ix with
  | int v =>
    unfold getCharListItem
    apply safe_bind (get_safe d a); intro c _
    apply safe_bind; · cases c <;> simp [asChars, safe_ok, safe_err]
    intro _ _; exact nthOrErr_safe _ _
  | float _ _ => exact safe_err _

theorem getByteListItem_safe (d : SData) (a : Nat) (ix : Num) : Safe (getByteListItem d a ix) := by
  cases ix with
  | int v =>
    unfold getByteListItem
    apply safe_bind (get_safe d a); intro c _
    apply safe_bind; · cases c <;> simp [asBytes, safe_ok, safe_err]
    intro _ _; exact nthOrErr_safe _ _
  | float _ _ => exact safe_err _

theorem getSymbolListItem_safe (d : SData) (a : Nat) (ix : Num) : Safe (getSymbolListItem d a ix) := by
  cases ix with
  | int v =>
    unfold getSymbolListItem
    apply safe_bind (get_safe d a); intro c _
    apply safe_bind; · cases c <;> simp [asSyms, safe_ok, safe_err]
    intro _ _; exact nthOrErr_safe _ _
  | float _ _ => exact safe_err _

/-- the extents are ignored -/
theorem flatIters_ok (d : SData) (a : Nat) :
    (∃ xs, getCharListIter d a = .ok xs) ∧ (∃ xs, getByteListIter d a = .ok xs) ∧
    (∃ xs, getSymbolListIter d a = .ok xs) ∧ (∃ xs, getListItemIter d a = .ok xs) := by
  refine ⟨?_, ?_, ?_, ?_⟩
  · unfold getCharListIter; split <;> exact ⟨_, rfl⟩
  · unfold getByteListIter; split <;> exact ⟨_, rfl⟩
  · unfold getSymbolListIter; split <;> exact ⟨_, rfl⟩
  · unfold getListItemIter; split <;> exact ⟨_, rfl⟩

theorem WF.int {d : SData} (wf : WF d) {i : Nat} {v : Int} (h : d[i]? = some (.int v)) : InRange v := by
  have hm : SCell.int v ∈ d.toList := by
    rw [← Array.getElem?_toList] at h
    exact List.mem_of_getElem? h
  simpa [cellOK] using wf _ hm

theorem nestedLoop_noPanic (d : SData) : ∀ fuel stack top outer, NoPanic (nestedLoop d fuel stack top outer) := by
  intro fuel
  induction fuel with
  | zero => intro stack top outer; cases stack <;> simp [nestedLoop, noPanic_ok, noPanic_fuelOut]
  | succ fuel ih =>
    intro stack top outer
    cases stack with
    | nil => simp [nestedLoop, noPanic_ok]
    | cons item stack =>
      unfold nestedLoop
      split <;> exact ih _ _ _

theorem collectLoop_noPanic {d : SData} (wf : WF d) : ∀ fuel stack acc, NoPanic (collectLoop d fuel stack acc) := by
  intro fuel
  induction fuel with
  | zero => intro stack acc; cases stack <;> simp [collectLoop, noPanic_ok, noPanic_fuelOut]
  | succ fuel ih =>
    intro stack acc
    cases stack with
    | nil => simp [collectLoop, noPanic_ok]
    | cons item stack =>
      unfold collectLoop
      split
      · exact ih _ _
      · exact ih _ _
      · exact ih _ _
      · split
        · split
          any_goals exact ih _ _
          exact noPanic_err _
        · split
          · rename_i sv ev hs he
            apply noPanic_bind (nestedLoop_noPanic d _ _ _ _); intro p _
            rw [sliceCount_ok (wf.int hs) (wf.int he)]
            simp only [bind_ok]
            exact ih _ _
          · exact ih _ _
        · exact ih _ _
      · exact ih _ _

theorem getConcatenationIter_noPanic {d : SData} (wf : WF d) (fuel a : Nat) : NoPanic (getConcatenationIter d fuel a) := by
  unfold getConcatenationIter
  split
  · exact collectLoop_noPanic wf _ _ _
  · exact noPanic_ok _

end Garnish.Access.Simple
