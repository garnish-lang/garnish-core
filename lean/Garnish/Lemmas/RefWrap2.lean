/-
C18, reference-grammar level: `refParse_wrapOperand` — parentheses around a token range that the reference parser parses
as a complete operand subtree leave the tree unchanged up to the added group node (and token positions).

`WrapOK pre mid post f stack f1 M M0` says, in terms of the reference parser`s own run, that `mid` is a complete operand:
after `pre` an operand may start (`beforeOperand` gives `f1`, with the implicit `List` operator if `mid` follows a complete
operand and whitespace) at an open operand position; running over `mid` plugs exactly one subtree `M` there; `mid` alone,
as the content of a group, parses to the same subtree up to positions (`M0`); `M` is not an Identifier in the Property
position of `.` (there parentheses change Property into Identifier); and the first operator after `mid` walks over the
whole of `M` (`NextPasses`), so that `M` stays a subtree of the final tree.
-/
import Garnish.Lemmas.RefWrap

namespace Garnish.Spec
open Garnish Garnish.Gen Garnish.Model.Parser

/-- the frame a `(` at position `p` opens -/
def groupFrame (p : Nat) : Frame := { ctx := some (.group, p), cur := .nil, last := .start, ws := false, prevSep := false }

structure WrapOK (pre mid post : List PToken) (f : Frame) (stack : List Frame) (f1 : Frame) (M M0 : RTree) : Prop where
  runPre : refRun Table.gen Frame.top [] 0 pre (mid ++ post) = .ok (f, stack)
  before : beforeOperand Table.gen f pre.length = .ok f1
  openB : openBottom f1.cur = true
  head : closerFollows (mid ++ post) = false
  runMid : refRun Table.gen f stack pre.length mid post =
    .ok ({ f1 with cur := plug f1.cur M, last := .operand, ws := false, prevSep := false }, stack)
  alone : refRun Table.gen (groupFrame 0) [] 1 mid [] =
    .ok ({ groupFrame 0 with cur := M0, last := .operand, ws := false, prevSep := false }, [])
  same : M0.eraseTok = M.eraseTok
  ends : ∃ ms z, mid = ms ++ [z] ∧ endsOperand z = true
  acc : accessBottom f1.cur = false ∨ asProperty M = M
  next : NextPasses M post = true

theorem refStep_open {o : PToken} (ho : o.type = .startGroup) (f : Frame) (stack : List Frame) (pos : Nat)
    (rest : List PToken) :
    refStep Table.gen f stack pos o rest =
      Outcome.bind (beforeOperand Table.gen f pos) fun f => .ok (groupFrame pos, { f with ws := false } :: stack) := by
  rw [refStep_eq, ho]
  rfl

theorem refStep_close_of {c : PToken} (hc : c.type = .endGroup) (g parent : Frame) (stack : List Frame) (pos gp : Nat)
    (rest : List PToken) (hctx : g.ctx = some (.group, gp)) (hl : (g.last == .op || g.last == .sep) = false) :
    refStep Table.gen g (parent :: stack) pos c rest =
      .ok ({ parent with cur := plug parent.cur (.group .group gp g.cur), last := .operand, ws := false,
                         prevSep := false }, stack) := by
  have ha : Table.gen.act c.type = .closer ∧ (closerFor .group != some c.type) = false := by rw [hc]; exact ⟨rfl, rfl⟩
  rw [refStep_eq, ha.1]
  exact Act.run_closer _ hctx ha.2 hl ..

theorem closerFollows_open {o : PToken} (ho : o.type = .startGroup) (rest : List PToken) :
    closerFollows (o :: rest) = false := by
  simp [closerFollows, ho, isFiller, isSeparator, isCloser]

theorem refLoop_wrapOperand {pre mid post : List PToken} {f : Frame} {stack : List Frame} {f1 : Frame} {M M0 : RTree}
    (h : WrapOK pre mid post f stack f1 M M0) {o c : PToken} (ho : o.type = .startGroup) (hc : c.type = .endGroup) :
    (refLoop Table.gen Frame.top [] 0 (pre ++ (mid ++ post))).mapT RTree.stripGroups =
      (refLoop Table.gen Frame.top [] 0 (pre ++ o :: (mid ++ c :: post))).mapT RTree.stripGroups := by
  obtain ⟨ms, z, hmid, hz⟩ := h.ends
  -- the original list
  rw [refLoop_append Table.gen pre (mid ++ post), h.runPre]
  simp only [Outcome.bind, Nat.zero_add]
  rw [refLoop_append Table.gen mid post, h.runMid]
  simp only [Outcome.bind]
  -- the wrapped list: the prefix
  rw [refLoop_append Table.gen pre (o :: (mid ++ c :: post)),
    refRun_rest_congr Table.gen pre Frame.top [] 0 (r := o :: (mid ++ c :: post)) (r' := mid ++ post)
      (by rw [closerFollows_open ho, h.head]), h.runPre]
  simp only [Outcome.bind, Nat.zero_add, refLoop, refStep_open ho, h.before]
  -- the content of the group
  have hsimG : FSim EStrip (groupFrame 0) (groupFrame (pre.length)) := ⟨rfl, .nil, rfl, rfl, rfl⟩
  have hrun := refRun_sim eok_strip Table.gen mid 1 (pre.length + 1) (c :: post) hsimG (LSim.nil)
  have halone : refRun Table.gen (groupFrame 0) [] 1 mid (c :: post) =
      .ok ({ groupFrame 0 with cur := M0, last := .operand, ws := false, prevSep := false }, []) := by
    rw [← h.alone, hmid]
    exact refRun_ends hz ms _ _ _ _ _
  rw [halone] at hrun
  obtain ⟨⟨g, sg⟩, hG, hfg, hsg⟩ := hrun.of_ok
  simp only at hfg hsg
  cases hsg
  have hbase := refRun_base Table.gen ({ f1 with ws := false } :: stack) mid _ [] _ (c :: post) hG
  simp only [List.nil_append] at hbase
  rw [refLoop_append Table.gen mid (c :: post), hbase]
  simp only [Outcome.bind, refLoop]
  -- the closer
  obtain ⟨gp, hgctx⟩ := hfg.ctx_of (p := 0) rfl
  have hgl : g.last = .operand := hfg.last.symm
  rw [refStep_close_of hc g _ stack _ gp post hgctx (by rw [hgl]; rfl)]
  simp only [Outcome.bind]
  -- after the operand
  have hMG : EStrip M (.group .group gp g.cur) := by
    unfold EStrip
    have h1 : M0.stripGroups = g.cur.stripGroups := eok_strip.ofSim _ _ hfg.cur
    have h2 : M0.stripGroups = M.stripGroups := by
      rw [← stripGroups_eraseTok M0, ← stripGroups_eraseTok M, h.same]
    simp only [RTree.stripGroups, beq_self_eq_true, if_true]
    rw [← h2, h1]
  refine refLoop_b hMG ⟨_, _, _, rfl⟩ post _ _ ?_ (LSim.rfl' eok_strip stack) h.next
  exact ⟨rfl, plug_bsim rfl (Sim.rfl' eok_strip _) h.openB h.acc, rfl, rfl, rfl, rfl⟩

theorem refParse_wrapOperand {pre mid post : List PToken} {f : Frame} {stack : List Frame} {f1 : Frame} {M M0 : RTree}
    (h : WrapOK pre mid post f stack f1 M M0) {o c : PToken} (ho : o.type = .startGroup) (hc : c.type = .endGroup)
    (hn : NoTrim (pre ++ (mid ++ post))) (hn' : NoTrim (pre ++ o :: (mid ++ c :: post))) :
    (refParse Table.gen (pre ++ (mid ++ post))).mapT RTree.stripGroups =
      (refParse Table.gen (pre ++ o :: (mid ++ c :: post))).mapT RTree.stripGroups := by
  rw [refParse_noTrim Table.gen hn, refParse_noTrim Table.gen hn']
  exact refLoop_wrapOperand h ho hc

end Garnish.Spec
