/-
The reference parser run over a prefix of the tokens (`refRun`): `refLoop` over `a ++ b` is the run over `a` followed by
`refLoop` over `b`.  The run preserves the simulation of Lemmas/RefSim, does not depend on the tokens after the segment
when the segment ends with a value or a closer, and never looks below the stack it started with.
-/
import Garnish.Lemmas.RefTrivia
import Garnish.Lemmas.RefParseInorder

namespace Garnish.Spec
open Garnish Garnish.Gen Garnish.Model.Parser

/-- run over the segment `ts`; `rest` = the tokens after the segment -/
def refRun (tbl : Table) : Frame → List Frame → Nat → List PToken → List PToken → Outcome (Frame × List Frame)
  | f, stack, _, [], _ => .ok (f, stack)
  | f, stack, pos, t :: ts, rest =>
    Outcome.bind (refStep tbl f stack pos t (ts ++ rest)) fun (f, stack) => refRun tbl f stack (pos + 1) ts rest

theorem refLoop_append (tbl : Table) : ∀ (a b : List PToken) (f : Frame) (stack : List Frame) (pos : Nat),
    refLoop tbl f stack pos (a ++ b) =
      Outcome.bind (refRun tbl f stack pos a b) fun (f, stack) => refLoop tbl f stack (pos + a.length) b
  | [], b, f, stack, pos => rfl
  | t :: a, b, f, stack, pos => by
    simp only [List.cons_append, refLoop, refRun]
    cases refStep tbl f stack pos t (a ++ b) with
    | ok fs =>
      obtain ⟨f', stack'⟩ := fs
      simp only [Outcome.bind]
      rw [refLoop_append tbl a b f' stack' (pos + 1)]
      have : pos + 1 + a.length = pos + (a.length + 1) := by omega
      simp only [List.length_cons, this]
      rfl
    | err e => rfl
    | panic s => rfl
    | fuelOut => rfl

theorem refRun_append (tbl : Table) : ∀ (a b : List PToken) (f : Frame) (S : List Frame) (pos : Nat) (rest : List PToken),
    refRun tbl f S pos (a ++ b) rest =
      Outcome.bind (refRun tbl f S pos a (b ++ rest)) fun p => refRun tbl p.1 p.2 (pos + a.length) b rest
  | [], b, f, S, pos, rest => rfl
  | t :: a, b, f, S, pos, rest => by
    simp only [List.cons_append, refRun, List.append_assoc]
    cases refStep tbl f S pos t (a ++ (b ++ rest)) with
    | ok fs =>
      simp only [Outcome.bind]
      rw [refRun_append tbl a b fs.1 fs.2 (pos + 1) rest]
      have : pos + 1 + a.length = pos + (a.length + 1) := by omega
      simp only [List.length_cons, this]
      rfl
    | _ => rfl

theorem refRun_sim {E : RTree → RTree → Prop} (hE : EOK E) (tbl : Table) : ∀ (ts : List PToken) {f f' : Frame}
    {stack stack' : List Frame} (pos pos' : Nat) (rest : List PToken), FSim E f f' → LSim E stack stack' →
    ORel (SSim E) (refRun tbl f stack pos ts rest) (refRun tbl f' stack' pos' ts rest)
  | [], _, _, _, _, _, _, _, h, hs => ⟨h, hs⟩
  | t :: ts, f, f', stack, stack', pos, pos', rest, h, hs => by
    simp only [refRun]
    have hst := refStep_sim hE tbl h hs pos pos' t (ts ++ rest)
    cases h1 : refStep tbl f stack pos t (ts ++ rest) <;> cases h2 : refStep tbl f' stack' pos' t (ts ++ rest) <;>
      rw [h1, h2] at hst <;> simp only [ORel] at hst <;> simp only [Outcome.bind, ORel] <;> try exact hst
    exact refRun_sim hE tbl ts (pos + 1) (pos' + 1) rest hst.1 hst.2

theorem refRun_rest_congr (tbl : Table) : ∀ (ts : List PToken) (f : Frame) (stack : List Frame) (pos : Nat)
    {r r' : List PToken}, closerFollows r = closerFollows r' → refRun tbl f stack pos ts r = refRun tbl f stack pos ts r'
  | [], _, _, _, _, _, _ => rfl
  | t :: ts, f, stack, pos, r, r', h => by
    simp only [refRun]
    rw [refStep_rest_congr tbl f stack pos t (closerFollows_append_congr h ts)]
    exact Outcome.bind_congr fun fs _ => refRun_rest_congr tbl ts fs.1 fs.2 (pos + 1) h

/-- the last token of a complete operand: a value or a closer -/
def endsOperand (z : PToken) : Bool :=
  ((getDefinition z.type).2 == .value || (getDefinition z.type).2 == .identifier || (getDefinition z.type).2 == .endGrouping) &&
    !(isFiller z.type || isSeparator z.type)

theorem refStep_rest_irrelevant {z : PToken} (hz : endsOperand z = true) (f : Frame) (stack : List Frame) (pos : Nat)
    (r r' : List PToken) : refStep Table.gen f stack pos z r = refStep Table.gen f stack pos z r' := by
  rw [refStep_eq, refStep_eq]
  -- only a separator looks at what follows
  have hns : ∀ d, Table.gen.act z.type ≠ .separator d := by
    intro d h
    have hc := gen_act z.type
    rw [h] at hc
    unfold endsOperand at hz
    simp only [Bool.and_eq_true, Bool.not_eq_true', Bool.or_eq_false_iff] at hz
    rw [hc.2.2.2.1] at hz
    cases hz.2.2
  cases h : Table.gen.act z.type <;> first | rfl | exact absurd h (hns _)

theorem refRun_ends {z : PToken} (hz : endsOperand z = true) : ∀ (ms : List PToken) (f : Frame) (stack : List Frame)
    (pos : Nat) (r r' : List PToken),
    refRun Table.gen f stack pos (ms ++ [z]) r = refRun Table.gen f stack pos (ms ++ [z]) r' := by
  intro ms f stack pos r r'
  have hz' : (isFiller z.type || isSeparator z.type) = false := by
    unfold endsOperand at hz
    simp only [Bool.and_eq_true, Bool.not_eq_true'] at hz
    exact hz.2
  have hc : closerFollows ([z] ++ r) = closerFollows ([z] ++ r') := by simp [closerFollows, hz']
  rw [refRun_append, refRun_append, refRun_rest_congr Table.gen ms f stack pos hc]
  refine Outcome.bind_congr fun p _ => ?_
  simp only [refRun, List.nil_append, refStep_rest_irrelevant hz p.1 p.2 _ r r']

theorem refStep_base (tbl : Table) (f : Frame) (stack base : List Frame) (pos : Nat) (t : PToken) (rest : List PToken)
    {f' : Frame} {stack' : List Frame} (h : refStep tbl f stack pos t rest = .ok (f', stack')) :
    refStep tbl f (stack ++ base) pos t rest = .ok (f', stack' ++ base) := by
  by_cases hc : stack ≠ [] ∨ tbl.act t.type ≠ .closer
  · rw [refStep_frame tbl f stack base pos t rest hc, h]; rfl
  · -- a closer on the empty stack fails
    have hs : stack = [] := Classical.byContradiction fun e => hc (Or.inl e)
    have hact : tbl.act t.type = .closer := Classical.byContradiction fun e => hc (Or.inr e)
    subst hs
    rw [refStep_eq, hact] at h
    simp only [Act.run] at h
    cases hctx : f.ctx <;> rw [hctx] at h <;> cases h

theorem refRun_base (tbl : Table) (base : List Frame) : ∀ (ts : List PToken) (f : Frame) (stack : List Frame) (pos : Nat)
    (rest : List PToken) {f' : Frame} {stack' : List Frame}, refRun tbl f stack pos ts rest = .ok (f', stack') →
    refRun tbl f (stack ++ base) pos ts rest = .ok (f', stack' ++ base)
  | [], f, stack, pos, rest, f', stack', h => by
    simp only [refRun] at h ⊢
    injection h with h; injection h with e1 e2; rw [e1, e2]
  | t :: ts, f, stack, pos, rest, f', stack', h => by
    simp only [refRun] at h ⊢
    obtain ⟨⟨f1, stack1⟩, hs, h⟩ := Outcome.bind_eq_ok.1 h
    rw [refStep_base tbl f stack base pos t _ hs]
    exact refRun_base tbl base ts f1 stack1 (pos + 1) rest h

end Garnish.Spec
