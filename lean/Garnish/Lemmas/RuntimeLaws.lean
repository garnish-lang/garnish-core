/-
One contract for the handler proofs. `StoreLaws` (Model/Runtime/Store.lean: every state) and `StoreLawsOn`
(Model/Runtime/StoreOn.lean: the states of an invariant) differ in the premises `StoreLawsOn` adds (six, listed at
`LawsK`; the one at a push is `Readable`, with the clause `readable`), in `dataBound` (only `StoreLawsOn`) and in the
clause for the look-up by symbol, `listSym` (only `StoreLaws`; for `StoreLawsOn` it is the separate `ListSymOn`).
`LawsK S Inv Rd K` has the clauses of `StoreLawsOn` with each added premise guarded by the proposition `K`, and neither
`dataBound` nor `listSym`: `K = True` gives it from `StoreLawsOn` (`StoreLawsOn.toK`), `K = False` with the trivial
invariant from `StoreLaws` (`StoreLaws.toK`); where a look-up by symbol needs `ListSymOn` the lemmas take it as a
hypothesis. The handler lemmas are proved once from `LawsK` (namespace `…Runtime.Core`), in the vocabulary that carries
the invariant (`EffI`, `PushedI`, `RefinesOutI`, …, namespace `…Runtime.On`); with the trivial invariant that vocabulary
is the one of Model/Runtime/Refines.lean (`….plain`). The lemma of a handler `x` is `Core.x_spec` in the file of its Rust
module (`Core.xH_spec` for the handlers of Model/Runtime/Internals.lean; under the name of its property,
`Core.C0n_refine_x`, in Lemmas/RuntimeData.lean); the handlers that only move addresses (put.rs, sideeffect.rs, `reapply`,
`end_expression`) have theirs in Lemmas/RuntimeStepStack.lean and RuntimeStepControl.lean.
-/
import Garnish.Lemmas.RuntimeBase
import Garnish.Model.Runtime.StoreOn
import Garnish.Model.Runtime.RefinesApply
namespace Garnish.Lemmas.Runtime.On
open Garnish Gen Garnish.Abs Garnish.Model.Equality Garnish.Model.Runtime Garnish.Lemmas.Runtime

variable {F σ : Type} {S : RStore F σ} {Inv : σ → Prop} {Rd : σ → Nat → Prop} {K : Prop}

theorem deep_kept {s s' : σ} {rest : List Nat} (hf : S.frames s' = S.frames s) (hd : Deep S s rest) : Deep S s' rest :=
  fun ret saved fs h => hd ret saved fs (hf ▸ h)

theorem deep_cons {s : σ} {b : Nat} {rest : List Nat} (hd : Deep S s rest) : Deep S s (b :: rest) :=
  fun ret saved fs h => Nat.le_succ_of_le (hd ret saved fs h)

/-- `Deep`, demanded only under `K` -/
def DeepK (K : Prop) (S : RStore F σ) (s : σ) (rest : List Nat) : Prop := K → Deep S s rest

theorem DeepK.cons {s : σ} {b : Nat} {rest : List Nat} (hd : DeepK K S s rest) : DeepK K S s (b :: rest) :=
  fun k => deep_cons (hd k)

theorem deep_app {s : σ} {base : List Nat} (hd : Deep S s base) (xs : List Nat) : Deep S s (xs ++ base) :=
  fun ret saved fs h => by have := hd ret saved fs h; simp; omega

theorem DeepK.app {s : σ} {base : List Nat} (hd : DeepK K S s base) (xs : List Nat) : DeepK K S s (xs ++ base) :=
  fun k => deep_app (hd k) xs

/-- `Eff` with the invariant re-established -/
structure EffI (S : RStore F σ) (Inv : σ → Prop) (s s' : σ) (regs' vals' : List Nat) : Prop
    extends Eff S s s' regs' vals' where
  inv : Inv s'

structure FEffI (S : RStore F σ) (Inv : σ → Prop) (s s' : σ) (regs' vals' : List Nat)
    (frames' : List (Nat × List Nat)) : Prop extends FEff S s s' regs' vals' frames' where
  inv : Inv s'

structure HEffI (S : RStore F σ) (Inv : σ → Prop) (s s' : σ) (regs' : List Nat) : Prop extends HEff S s s' regs' where
  inv : Inv s'

theorem EffI.refl (s : σ) (hi : Inv s) : EffI S Inv s s (S.regs s) (S.vals s) := ⟨Eff.refl S s, hi⟩

theorem EffI.trans {s s1 s2 : σ} {R1 V1 R2 V2 : List Nat} (h1 : EffI S Inv s s1 R1 V1) (h2 : EffI S Inv s1 s2 R2 V2) :
    EffI S Inv s s2 R2 V2 := ⟨h1.toEff.trans h2.toEff, h2.inv⟩

theorem EffI.toF {s s' : σ} {R V : List Nat} (h : EffI S Inv s s' R V) : FEffI S Inv s s' R V (S.frames s) :=
  ⟨h.toEff.toF, h.inv⟩

theorem FEffI.trans {s s1 s2 : σ} {R1 V1 R2 V2 : List Nat} {Fr1 Fr2 : List (Nat × List Nat)}
    (h1 : FEffI S Inv s s1 R1 V1 Fr1) (h2 : FEffI S Inv s1 s2 R2 V2 Fr2) : FEffI S Inv s s2 R2 V2 Fr2 :=
  ⟨h1.toFEff.trans h2.toFEff, h2.inv⟩

theorem FEffI.thenEff {s s1 s2 : σ} {R1 V1 R2 V2 : List Nat} {Fr1 : List (Nat × List Nat)}
    (h1 : FEffI S Inv s s1 R1 V1 Fr1) (h2 : EffI S Inv s1 s2 R2 V2) : FEffI S Inv s s2 R2 V2 Fr1 :=
  ⟨h1.toFEff.thenEff h2.toEff, h2.inv⟩

theorem EffI.after {s s1 s2 : σ} {R1 V1 : List Nat} (h1 : EffI S Inv s s1 R1 V1)
    {R2 V2 : List Nat → List Nat} (h2 : EffI S Inv s1 s2 (R2 (S.regs s1)) (V2 (S.vals s1))) :
    EffI S Inv s s2 (R2 R1) (V2 V1) := ⟨h1.toEff.after h2.toEff, h2.inv⟩

theorem EffI.dec {s s' : σ} {R V : List Nat} (h : EffI S Inv s s' R V) {a : Nat} {v : Val F}
    (d : Decodes (S.view s) a v) : Decodes (S.view s') a v := h.keeps.dec a v d

theorem FEffI.dec {s s' : σ} {R V : List Nat} {Fr : List (Nat × List Nat)} (h : FEffI S Inv s s' R V Fr) {a : Nat}
    {v : Val F} (d : Decodes (S.view s) a v) : Decodes (S.view s') a v := h.keeps.dec a v d

theorem EffI.deep {s s' : σ} {R V : List Nat} (h : EffI S Inv s s' R V) {rest : List Nat} (hd : Deep S s rest) :
    Deep S s' rest := deep_kept h.frames hd

theorem EffI.deepK {s s' : σ} {R V : List Nat} (h : EffI S Inv s s' R V) {rest : List Nat} (hd : DeepK K S s rest) :
    DeepK K S s' rest := fun k => h.deep (hd k)

theorem deep_regs_of {s s' : σ} {R V : List Nat} (e : EffI S Inv s s' R V) (hd : Deep S s R) : Deep S s' (S.regs s') := by
  rw [e.regs]; exact e.deep hd

theorem deepK_regs_of {s s' : σ} {R V : List Nat} (e : EffI S Inv s s' R V) (hd : DeepK K S s R) :
    DeepK K S s' (S.regs s') := fun k => deep_regs_of e (hd k)

/-- find the invariant of a state: an assumption, or the end of an effect at hand -/
macro "inv_tac" : tactic =>
  `(tactic| first
    | assumption
    | (apply EffI.inv; assumption)
    | (apply FEffI.inv; assumption)
    | (apply HEffI.inv; assumption))

/-- find `Deep`: an assumption, or one carried along an effect -/
macro "deep_tac" : tactic =>
  `(tactic| first
    | assumption
    | (apply deep_cons; assumption)
    | (apply EffI.deep <;> assumption)
    | (apply deep_regs_of <;> assumption)
    | (apply DeepK.cons; assumption)
    | (apply EffI.deepK <;> assumption)
    | (apply deepK_regs_of <;> assumption)
    | (intro _; assumption))

/-! ### the refinement vocabulary (Model/Runtime/Refines.lean) with the invariant -/

def PushedI {α : Type} (S : RStore F σ) (Inv : σ → Prop) (s : σ) (res : Outcome (α × σ)) (next : α)
    (rest : List Nat) (v : Val F) : Prop :=
  ∃ a s', res = .ok (next, s') ∧ Decodes (S.view s') a v ∧ EffI S Inv s s' (a :: rest) (S.vals s)

def PoppedI {α : Type} (S : RStore F σ) (Inv : σ → Prop) (s : σ) (res : Outcome (α × σ)) (next : α)
    (rest : List Nat) : Prop :=
  ∃ s', res = .ok (next, s') ∧ EffI S Inv s s' rest (S.vals s)

/-- the defer protocol; the host's state must satisfy the invariant for the `false` branch to go on -/
def DeferProtocolI {α : Type} (S : RStore F σ) (Inv : σ → Prop) (s0 : σ) (res : Outcome (α × σ)) (next : α)
    (op : Instruction) (l r : Ty × Nat) : Prop :=
  match S.deferOp op l r s0 with
  | .ok (true, s1) => res = .ok (next, s1)
  | .ok (false, s1) => Inv s1 → PushedI S Inv s1 res next (S.regs s1) .unit
  | .err e => res = .err e
  | .panic p => res = .panic p
  | .fuelOut => res = .fuelOut

def RefinesOutI {α : Type} (S : RStore F σ) (Inv : σ → Prop) (s : σ) (res : Outcome (α × σ)) (next : α)
    (rest : List Nat) (la ra : Nat) (o : OpOut F) : Prop :=
  match o with
  | .val v => PushedI S Inv s res next rest v
  | .defer op vl vr => ∃ s0, EffI S Inv s s0 rest (S.vals s) ∧
      DeferProtocolI S Inv s0 res next op (vl.typeOf, la) (vr.typeOf, ra)
  | .err e => res = .err e

theorem PushedI.plain {α : Type} {s : σ} {res : Outcome (α × σ)} {next : α} {rest : List Nat} {v : Val F}
    (h : PushedI S (fun _ => True) s res next rest v) : Pushed S s res next rest v := by
  obtain ⟨a, s', h1, d, e⟩ := h; exact ⟨a, s', h1, d, e.toEff⟩

theorem PoppedI.plain {α : Type} {s : σ} {res : Outcome (α × σ)} {next : α} {rest : List Nat}
    (h : PoppedI S (fun _ => True) s res next rest) : Popped S s res next rest := by
  obtain ⟨s', h1, e⟩ := h; exact ⟨s', h1, e.toEff⟩

/-- the three host protocols (`DeferProtocolI`, `ResolveProtocolI`, `ApplyProtocolI`) are this one, at their call -/
def HostProtocolI {α : Type} (S : RStore F σ) (Inv : σ → Prop) (call : RM σ Bool) (s0 : σ) (res : Outcome (α × σ))
    (next : α) : Prop :=
  match call s0 with
  | .ok (true, s1) => res = .ok (next, s1)
  | .ok (false, s1) => Inv s1 → PushedI S Inv s1 res next (S.regs s1) .unit
  | .err e => res = .err e
  | .panic p => res = .panic p
  | .fuelOut => res = .fuelOut

/-- `DeferProtocol`, `ResolveProtocol`, `ApplyProtocol` at their call -/
def _root_.Garnish.Lemmas.Runtime.HostProtocol {α : Type} (S : RStore F σ) (call : RM σ Bool) (s0 : σ) (res : Outcome (α × σ)) (next : α) : Prop :=
  match call s0 with
  | .ok (true, s1) => res = .ok (next, s1)
  | .ok (false, s1) => Pushed S s1 res next (S.regs s1) .unit
  | .err e => res = .err e
  | .panic p => res = .panic p
  | .fuelOut => res = .fuelOut

theorem HostProtocolI.plain {α : Type} {call : RM σ Bool} {s0 : σ} {res : Outcome (α × σ)} {next : α}
    (h : HostProtocolI S (fun _ => True) call s0 res next) : HostProtocol S call s0 res next := by
  unfold HostProtocolI at h
  unfold HostProtocol
  split <;> simp_all only []
  exact (h trivial).plain

theorem DeferProtocolI.plain {α : Type} {s0 : σ} {res : Outcome (α × σ)} {next : α} {op : Instruction} {l r : Ty × Nat}
    (h : DeferProtocolI S (fun _ => True) s0 res next op l r) : DeferProtocol S s0 res next op l r :=
  HostProtocolI.plain (call := S.deferOp op l r) h

theorem RefinesOutI.plain {α : Type} {s : σ} {res : Outcome (α × σ)} {next : α} {rest : List Nat} {la ra : Nat}
    {o : OpOut F} (h : RefinesOutI S (fun _ => True) s res next rest la ra o) : RefinesOut S s res next rest la ra o := by
  cases o with
  | val v => exact PushedI.plain h
  | defer op vl vr => obtain ⟨s0, e, d⟩ := h; exact ⟨s0, e.toEff, d.plain⟩
  | err e => exact h

/-- an adder's contract as an effect that carries the invariant -/
def AddsI (S : RStore F σ) (Inv : σ → Prop) (m : RM σ Nat) (s : σ) (v : Val F) : Prop :=
  ∃ a s', m s = .ok (a, s') ∧ Decodes (S.view s') a v ∧ EffI S Inv s s' (S.regs s) (S.vals s)

def AccOutI (S : RStore F σ) (Inv : σ → Prop) (s : σ) (res : Outcome (Option Nat × σ)) (a : Acc F) : Prop :=
  match a with
  | .some v => ∃ x s', res = .ok (some x, s') ∧ Decodes (S.view s') x v ∧ EffI S Inv s s' (S.regs s) (S.vals s)
  | .none => ∃ s', res = .ok (none, s') ∧ EffI S Inv s s' (S.regs s) (S.vals s)
  | .unsupported => res = .err .unsupported
  | .err e => res = .err e

def ResolveProtocolI {α : Type} (S : RStore F σ) (Inv : σ → Prop) (s0 : σ) (res : Outcome (α × σ)) (next : α)
    (sym : Nat) : Prop :=
  match S.resolve sym s0 with
  | .ok (true, s1) => res = .ok (next, s1)
  | .ok (false, s1) => Inv s1 → PushedI S Inv s1 res next (S.regs s1) .unit
  | .err e => res = .err e
  | .panic p => res = .panic p
  | .fuelOut => res = .fuelOut

def ResolveContextI {α : Type} (S : RStore F σ) (Inv : σ → Prop) (s : σ) (res : Outcome (α × σ)) (next : α)
    (key : Val F) : Prop :=
  ∃ s0, EffI S Inv s s0 (S.regs s) (S.vals s) ∧
    match key with
    | .sym sy => ResolveProtocolI S Inv s0 res next sy
    | _ => PushedI S Inv s0 res next (S.regs s0) .unit

def ApplyProtocolI {α : Type} (S : RStore F σ) (Inv : σ → Prop) (s0 : σ) (res : Outcome (α × σ)) (next : α)
    (ext arg : Nat) : Prop :=
  match S.apply ext arg s0 with
  | .ok (true, s1) => res = .ok (next, s1)
  | .ok (false, s1) => Inv s1 → PushedI S Inv s1 res next (S.regs s1) .unit
  | .err e => res = .err e
  | .panic p => res = .panic p
  | .fuelOut => res = .fuelOut

def EnteredI (S : RStore F σ) (Inv : σ → Prop) (s : σ) (res : Outcome (Option Nat × σ)) (rest : List Nat) (j : Nat)
    (input : Val F) : Prop :=
  match S.jumpTable s j with
  | none => res = .err .state
  | some t => ∃ ia s', res = .ok (some t, s') ∧ Decodes (S.view s') ia input ∧
      FEffI S Inv s s' rest (ia :: S.vals s) ((S.cursor s + 1, rest) :: S.frames s)

theorem AccOutI.plain {s : σ} {res : Outcome (Option Nat × σ)} {a : Acc F} (h : AccOutI S (fun _ => True) s res a) :
    AccOut S s res a := by
  cases a with
  | some v => obtain ⟨x, s', h1, d, e⟩ := h; exact ⟨x, s', h1, d, e.toEff⟩
  | none => obtain ⟨s', h1, e⟩ := h; exact ⟨s', h1, e.toEff⟩
  | unsupported => exact h
  | err e => exact h

theorem ResolveProtocolI.plain {α : Type} {s0 : σ} {res : Outcome (α × σ)} {next : α} {sym : Nat}
    (h : ResolveProtocolI S (fun _ => True) s0 res next sym) : ResolveProtocol S s0 res next sym :=
  HostProtocolI.plain (call := S.resolve sym) h

theorem ResolveContextI.plain {α : Type} {s : σ} {res : Outcome (α × σ)} {next : α} {key : Val F}
    (h : ResolveContextI S (fun _ => True) s res next key) : ResolveContext S s res next key := by
  obtain ⟨s0, e, h⟩ := h
  refine ⟨s0, e.toEff, ?_⟩
  split <;> simp_all only []
  · exact h.plain
  · exact h.plain

theorem ApplyProtocolI.plain {α : Type} {s0 : σ} {res : Outcome (α × σ)} {next : α} {ext arg : Nat}
    (h : ApplyProtocolI S (fun _ => True) s0 res next ext arg) : ApplyProtocol S s0 res next ext arg :=
  HostProtocolI.plain (call := S.apply ext arg) h

theorem EnteredI.plain {s : σ} {res : Outcome (Option Nat × σ)} {rest : List Nat} {j : Nat} {input : Val F}
    (h : EnteredI S (fun _ => True) s res rest j input) : Entered S s res rest j input := by
  unfold EnteredI at h
  unfold Entered
  split <;> simp_all only []
  obtain ⟨ia, s', h1, d, e⟩ := h
  exact ⟨ia, s', h1, d, e.toFEff⟩

def HostAnswerI (S : RStore F σ) (Inv : σ → Prop) (call : RM σ Bool) (s : σ) (answer : Option (Val F)) : Prop :=
  match answer with
  | some v => ∃ a s1, call s = .ok (true, s1) ∧ Decodes (S.view s1) a v ∧ HEffI S Inv s s1 (a :: S.regs s)
  | none => ∃ s1, call s = .ok (false, s1) ∧ HEffI S Inv s s1 (S.regs s)

/-- `HostRefines` (Model/Runtime/Sim.lean) from invariant states, the invariant re-established by the host -/
structure HostRefinesI (S : RStore F σ) (Inv : σ → Prop) (host : Host F) : Prop where
  defer : ∀ op l r vl vr s, Inv s → Decodes (S.view s) l vl → Decodes (S.view s) r vr →
    HostAnswerI S Inv (S.deferOp op (vl.typeOf, l) (vr.typeOf, r)) s (host.defer op vl vr)
  deferUnary : ∀ op a v s, Inv s → Decodes (S.view s) a v →
    HostAnswerI S Inv (S.deferOp op (v.typeOf, a) (.unit, 0)) s (host.defer op v .unit)
  resolve : ∀ y s, Inv s → HostAnswerI S Inv (S.resolve y) s (host.resolve y)
  apply : ∀ n r vr s, Inv s → Decodes (S.view s) r vr → HostAnswerI S Inv (S.apply n r) s (host.apply n vr)

/-- `StepSim` (Model/Runtime/Sim.lean) with the invariant re-established -/
def StepSimOn (fo : FloatOps F) (host : Host F) (S : RStore F σ) (Inv : σ → Prop) (P : Prog F) (fuel : Nat) (H : OtherHandlers σ)
    (s : σ) (m : MState F) : Prop :=
  match Abs.step fo host P m with
  | .running m' => ∃ s', executeCurrentInstruction fo S fuel H s = .ok (.running, s') ∧ Sim S P s' m' ∧
      DecKept S s s' ∧ Inv s'
  | .halted m' => ∃ s', executeCurrentInstruction fo S fuel H s = .ok (.end_, s') ∧
      SimD S P s' m'.regs m'.vals m'.frames ∧ DecKept S s s' ∧ Inv s'
  | .err _ => True

/-- the machine's newest frame saves no more registers than `rs` has -/
def MDeep (m : MState F) (rs : List (Val F)) : Prop :=
  ∀ fr frs, m.frames = fr :: frs → fr.saved.length ≤ rs.length

/-- the instruction pops `k` registers and stays above what the newest frame saved -/
def MDeepN (m : MState F) (k : Nat) : Prop := ∀ fr frs, m.frames = fr :: frs → fr.saved.length + k ≤ m.regs.length

theorem MDeepN.one {m : MState F} (h : MDeepN m 1) {v : Val F} {rs : List (Val F)} (hr : m.regs = v :: rs) : MDeep m rs :=
  fun fr frs hf => by have := h fr frs hf; rw [hr] at this; simp at this; omega

theorem MDeepN.two {m : MState F} (h : MDeepN m 2) {a b : Val F} {rs : List (Val F)} (hr : m.regs = a :: b :: rs) :
    MDeep m rs :=
  fun fr frs hf => by have := h fr frs hf; rw [hr] at this; simp at this; omega

theorem MDeepN.drop {m : MState F} {n : Nat} (h : MDeepN m n) (hn : n ≤ m.regs.length) : MDeep m (m.regs.drop n) :=
  fun fr frs hf => by have := h fr frs hf; simp; omega

/-- the one clause of the contract the tail of `execute_current_instruction` uses: `set_instruction_cursor` sets the
cursor and keeps everything else (`LawsK.setCursor`, `StoreLawsOn.setCursor` are this) -/
def SetCursorLaw (S : RStore F σ) (Inv : σ → Prop) : Prop :=
  ∀ n s, ∃ s', S.setInstructionCursor n s = .ok ((), s') ∧ S.cursor s' = n ∧
    (∀ a v, Decodes (S.view s) a v → Decodes (S.view s') a v) ∧ S.jumpTable s' = S.jumpTable s ∧
    S.instrLen s' = S.instrLen s ∧ S.instruction s' = S.instruction s ∧ S.dataLen s' = S.dataLen s ∧
    S.regs s' = S.regs s ∧ S.vals s' = S.vals s ∧ S.trace s' = S.trace s ∧ S.frames s' = S.frames s ∧
    (Inv s → Inv s')

/-- `StoreLawsOn` without `dataBound` (and, like it, without `StoreLaws.listSym`); `K` guards the premises `StoreLaws`
does not have: `Deep` at a pop, a value that is not `custom` at a push, no slice operand of `add_concatenation`, no
number operand of `merge_to_symbol_list`, no frame when the empty register stack is popped, and the emptied registers of
`pop_frame`. The two instances are `StoreLaws.toK` (`K = False`) and `StoreLawsOn.toK` (`K = True`). -/
structure LawsK (S : RStore F σ) (Inv : σ → Prop) (Readable : σ → Nat → Prop) (K : Prop) : Prop where
  rangeTyped : ∀ s a p, (S.view s).range a = some p → (S.view s).typeOf a = some .range
  listIdx : ∀ s, Indexes (S.listLen s) (S.listItem s) (S.view s).listItems
  charIdx : ∀ s, Indexes (S.charLen s) (S.charItem s) (S.view s).chars
  byteIdx : ∀ s, Indexes (S.byteLen s) (S.byteItem s) (S.view s).bytes
  symIdx : ∀ s, Indexes (S.symLen s) (S.symItem s) (S.view s).symList
  addUnit : ∀ s, Inv s → AddsOn S Inv S.addUnit s .unit
  addTrue : ∀ s, Inv s → AddsOn S Inv S.addTrue s .tru
  addFalse : ∀ s, Inv s → AddsOn S Inv S.addFalse s .fls
  addNumber : ∀ n s, Inv s → AddsOn S Inv (S.addNumber n) s (.num n)
  addType : ∀ t s, Inv s → AddsOn S Inv (S.addType t) s (.type t)
  addChar : ∀ c s, Inv s → AddsOn S Inv (S.addChar c) s (.char c)
  addByte : ∀ b s, Inv s → AddsOn S Inv (S.addByte b) s (.byte b)
  addSymbol : ∀ y s, Inv s → AddsOn S Inv (S.addSymbol y) s (.sym y)
  addPair : ∀ l r vl vr s, Inv s → Decodes (S.view s) l vl → Decodes (S.view s) r vr →
    AddsOn S Inv (S.addPair (l, r)) s (.pair vl vr)
  addConcatenation : ∀ l r vl vr s, Inv s → Decodes (S.view s) l vl → Decodes (S.view s) r vr →
    (K → ∀ x y, vl ≠ .slice x y) → (K → ∀ x y, vr ≠ .slice x y) → AddsOn S Inv (S.addConcatenation l r) s (.concat vl vr)
  addRange : ∀ l r vl vr s, Inv s → Decodes (S.view s) l vl → Decodes (S.view s) r vr →
    AddsOn S Inv (S.addRange l r) s (.range vl vr)
  addSlice : ∀ l r vl vr s, Inv s → Decodes (S.view s) l vl → Decodes (S.view s) r vr →
    AddsOn S Inv (S.addSlice l r) s (.slice vl vr)
  addPartial : ∀ l r vl vr s, Inv s → Decodes (S.view s) l vl → Decodes (S.view s) r vr →
    AddsOn S Inv (S.addPartial l r) s (.part vl vr)
  mergeSome : ∀ l r vl vr v s, Inv s → Decodes (S.view s) l vl → Decodes (S.view s) r vr →
    Abs.mergeSymList vl vr = some v → (K → ∀ n, vl ≠ .num n) → (K → ∀ n, vr ≠ .num n) →
    AddsOn S Inv (S.mergeToSymbolList l r) s v
  startList : ∀ n s, Inv s → ∃ t s', S.startList n s = .ok (t, s') ∧ Eff S s s' (S.regs s) (S.vals s) ∧
    S.building s' = some (t, []) ∧ Inv s'
  addToList : ∀ t items a s, Inv s → S.building s = some (t, items) →
    ∃ t' s', S.addToList t a s = .ok (t', s') ∧ Eff S s s' (S.regs s) (S.vals s) ∧
      S.building s' = some (t', items ++ [a]) ∧ Inv s'
  endList : ∀ t items vs s, Inv s → S.building s = some (t, items) → DecodesList (S.view s) items vs →
    AddsOn S Inv (S.endList t) s (.list vs)
  popRegisterBuilding : ∀ s o s', S.popRegister s = .ok (o, s') → S.building s' = S.building s
  readable : ∀ s a v, Inv s → Decodes (S.view s) a v → (K → v ≠ .custom) → Readable s a
  pushRegister : ∀ a s, Inv s → Readable s a →
    ∃ s', S.pushRegister a s = .ok ((), s') ∧ Eff S s s' (a :: S.regs s) (S.vals s) ∧ Inv s'
  popRegisterNil : ∀ s, Inv s → S.regs s = [] → (K → S.frames s = []) →
    ∃ s', S.popRegister s = .ok (none, s') ∧ Eff S s s' [] (S.vals s) ∧ Inv s'
  popRegisterCons : ∀ s a rest, Inv s → S.regs s = a :: rest → (K → Deep S s rest) →
    ∃ s', S.popRegister s = .ok (some a, s') ∧ Eff S s s' rest (S.vals s) ∧ Inv s'
  pushValueStack : ∀ a s, Inv s → Readable s a →
    ∃ s', S.pushValueStack a s = .ok ((), s') ∧ Eff S s s' (S.regs s) (a :: S.vals s) ∧ Inv s'
  popValueStackNil : ∀ s, Inv s → S.vals s = [] →
    ∃ s', S.popValueStack s = .ok (none, s') ∧ Eff S s s' (S.regs s) [] ∧ Inv s'
  popValueStackCons : ∀ s a rest, Inv s → S.vals s = a :: rest →
    ∃ s', S.popValueStack s = .ok (some a, s') ∧ Eff S s s' (S.regs s) rest ∧ Inv s'
  setCurrentNil : ∀ r s, Inv s → S.vals s = [] →
    ∃ s', S.setCurrentValue r s = .ok (false, s') ∧ Eff S s s' (S.regs s) [] ∧ Inv s'
  setCurrentCons : ∀ r s a rest, Inv s → Readable s r → S.vals s = a :: rest →
    ∃ s', S.setCurrentValue r s = .ok (true, s') ∧ Eff S s s' (S.regs s) (r :: rest) ∧ Inv s'
  pushFrame : ∀ j s, Inv s → ∃ s', S.pushFrame j s = .ok ((), s') ∧
    FEff S s s' (S.regs s) (S.vals s) ((j, S.regs s) :: S.frames s) ∧ Inv s'
  popFrameNil : ∀ s, Inv s → S.frames s = [] →
    ∃ s' R, S.popFrame s = .ok (none, s') ∧ Eff S s s' R (S.vals s) ∧ (R = S.regs s ∨ K ∧ R = []) ∧ Inv s'
  popFrameCons : ∀ s ret saved fs, Inv s → S.frames s = (ret, saved) :: fs →
    ∃ s', S.popFrame s = .ok (some ret, s') ∧ FEff S s s' saved (S.vals s) fs ∧ Inv s'
  setCursor : SetCursorLaw S Inv
  deferOp : ∀ op l r, Records S (S.deferOp op l r) (.defer op l r)
  resolve : ∀ y, Records S (S.resolve y) (.resolve y)
  apply : ∀ e a, Records S (S.apply e a) (.apply e a)

end Garnish.Lemmas.Runtime.On

namespace Garnish.Model.Runtime
open Garnish Gen Garnish.Abs Garnish.Model.Equality Garnish.Lemmas.Runtime.On

variable {F σ : Type} {S : RStore F σ} {Inv : σ → Prop} {Rd : σ → Nat → Prop}

theorem StoreLawsOn.toK (L : StoreLawsOn S Inv Rd) : LawsK S Inv Rd True :=
  { L with
    addConcatenation := fun l r vl vr s hi hl hr h1 h2 =>
      L.addConcatenation l r vl vr s hi hl hr (h1 trivial) (h2 trivial)
    mergeSome := fun l r vl vr v s hi hl hr hm h1 h2 => L.mergeSome l r vl vr v s hi hl hr hm (h1 trivial) (h2 trivial)
    readable := fun s a v hi hd hv => L.readable s a v hi hd (hv trivial)
    popRegisterNil := fun s hi hr hf => L.popRegisterNil s hi hr (hf trivial)
    popRegisterCons := fun s a rest hi hr hd => L.popRegisterCons s a rest hi hr (hd trivial)
    popFrameNil := fun s hi hf => by
      obtain ⟨s', R, h1, h2, h3, h4⟩ := L.popFrameNil s hi hf
      exact ⟨s', R, h1, h2, h3.imp_right fun h => ⟨trivial, h⟩, h4⟩ }

theorem StoreLaws.toK (L : StoreLaws S) : LawsK S (fun _ => True) (fun _ _ => True) False where
  rangeTyped := L.rangeTyped
  listIdx := L.listIdx
  charIdx := L.charIdx
  byteIdx := L.byteIdx
  symIdx := L.symIdx
  addUnit := fun s _ => (L.addUnit s).on
  addTrue := fun s _ => (L.addTrue s).on
  addFalse := fun s _ => (L.addFalse s).on
  addNumber := fun n s _ => (L.addNumber n s).on
  addType := fun t s _ => (L.addType t s).on
  addChar := fun c s _ => (L.addChar c s).on
  addByte := fun b s _ => (L.addByte b s).on
  addSymbol := fun y s _ => (L.addSymbol y s).on
  addPair := fun l r vl vr s _ hl hr => (L.addPair l r vl vr s hl hr).on
  addConcatenation := fun l r vl vr s _ hl hr _ _ => (L.addConcatenation l r vl vr s hl hr).on
  addRange := fun l r vl vr s _ hl hr => (L.addRange l r vl vr s hl hr).on
  addSlice := fun l r vl vr s _ hl hr => (L.addSlice l r vl vr s hl hr).on
  addPartial := fun l r vl vr s _ hl hr => (L.addPartial l r vl vr s hl hr).on
  mergeSome := fun l r vl vr v s _ hl hr hm _ _ => (L.mergeSome l r vl vr v s hl hr hm).on
  startList := fun n s _ => by
    obtain ⟨t, s', h1, h2, h3⟩ := L.startList n s; exact ⟨t, s', h1, h2, h3, trivial⟩
  addToList := fun t items a s _ hb => by
    obtain ⟨t', s', h1, h2, h3⟩ := L.addToList t items a s hb; exact ⟨t', s', h1, h2, h3, trivial⟩
  endList := fun t items vs s _ hb hd => (L.endList t items vs s hb hd).on
  popRegisterBuilding := L.popRegisterBuilding
  readable := fun _ _ _ _ _ _ => trivial
  pushRegister := fun a s _ _ => by
    obtain ⟨s', h1, h2⟩ := L.pushRegister a s; exact ⟨s', h1, h2, trivial⟩
  popRegisterNil := fun s _ hr _ => by
    obtain ⟨s', h1, h2⟩ := L.popRegisterNil s hr; exact ⟨s', h1, h2, trivial⟩
  popRegisterCons := fun s a rest _ hr _ => by
    obtain ⟨s', h1, h2⟩ := L.popRegisterCons s a rest hr; exact ⟨s', h1, h2, trivial⟩
  pushValueStack := fun a s _ _ => by
    obtain ⟨s', h1, h2⟩ := L.pushValueStack a s; exact ⟨s', h1, h2, trivial⟩
  popValueStackNil := fun s _ hv => by
    obtain ⟨s', h1, h2⟩ := L.popValueStackNil s hv; exact ⟨s', h1, h2, trivial⟩
  popValueStackCons := fun s a rest _ hv => by
    obtain ⟨s', h1, h2⟩ := L.popValueStackCons s a rest hv; exact ⟨s', h1, h2, trivial⟩
  setCurrentNil := fun r s _ hv => by
    obtain ⟨s', h1, h2⟩ := L.setCurrentNil r s hv; exact ⟨s', h1, h2, trivial⟩
  setCurrentCons := fun r s a rest _ _ hv => by
    obtain ⟨s', h1, h2⟩ := L.setCurrentCons r s a rest hv; exact ⟨s', h1, h2, trivial⟩
  pushFrame := fun j s _ => by
    obtain ⟨s', h1, h2⟩ := L.pushFrame j s; exact ⟨s', h1, h2, trivial⟩
  popFrameNil := fun s _ hf => by
    obtain ⟨s', h1, h2⟩ := L.popFrameNil s hf; exact ⟨s', _, h1, h2, .inl rfl, trivial⟩
  popFrameCons := fun s ret saved fs _ hf => by
    obtain ⟨s', h1, h2⟩ := L.popFrameCons s ret saved fs hf; exact ⟨s', h1, h2, trivial⟩
  setCursor := fun n s => by
    obtain ⟨s', h1, h2, h3, h4, h5, h6, h7, h8, h9, h10, h11⟩ := L.setCursor n s
    exact ⟨s', h1, h2, h3, h4, h5, h6, h7, h8, h9, h10, h11, fun _ => trivial⟩
  deferOp := L.deferOp
  resolve := L.resolve
  apply := L.apply

end Garnish.Model.Runtime

/-! ### utilities.rs -/

namespace Garnish.Lemmas.Runtime.Core
open Garnish Gen Garnish.Abs Garnish.Model.Equality Garnish.Model.Runtime Garnish.Lemmas.Runtime Garnish.Lemmas.Runtime.On

variable {F σ : Type} {S : RStore F σ} {Inv : σ → Prop} {Rd : σ → Nat → Prop} {K : Prop}

section
variable (L : LawsK S Inv Rd K)
include L

theorem nextRef_cons {s : σ} {a : Nat} {rest : List Nat} (h : S.regs s = a :: rest)
    (hi : Inv s := by inv_tac) (hd : DeepK K S s rest := by deep_tac) :
    ∃ s', nextRef S s = .ok (a, s') ∧ EffI S Inv s s' rest (S.vals s) := by
  obtain ⟨s', h1, e, i⟩ := L.popRegisterCons s a rest hi h hd
  exact ⟨s', by simp [nextRef, bind_ok h1], e, i⟩

theorem nextRef_nil {s : σ} (h : S.regs s = []) (hf : K → S.frames s = []) (hi : Inv s := by inv_tac) :
    nextRef S s = .err .state := by
  obtain ⟨s', h1, _⟩ := L.popRegisterNil s hi h hf
  simp [nextRef, bind_ok h1]

theorem nextTwoRawRef_cons {s : σ} {a b : Nat} {rest : List Nat} (h : S.regs s = a :: b :: rest)
    (hi : Inv s := by inv_tac) (hd : DeepK K S s rest := by deep_tac) :
    ∃ s', nextTwoRawRef S s = .ok ((a, b), s') ∧ EffI S Inv s s' rest (S.vals s) := by
  obtain ⟨s1, h1, e1⟩ := nextRef_cons L h hi hd.cons
  obtain ⟨s2, h2, e2⟩ := nextRef_cons L e1.regs e1.inv (e1.deepK hd)
  rw [e1.vals] at e2
  exact ⟨s2, by simp [nextTwoRawRef, bind_ok h1, bind_ok h2], e1.trans e2⟩

omit L in
theorem adds_i {m : RM σ Nat} {s : σ} {v : Val F} (h : AddsOn S Inv m s v) :
    ∃ a s', m s = .ok (a, s') ∧ Decodes (S.view s') a v ∧ EffI S Inv s s' (S.regs s) (S.vals s) := by
  obtain ⟨a, s', h1, h2, h3, h4⟩ := h; exact ⟨a, s', h1, h2, h3, h4⟩

theorem push_of_adds {m : RM σ Nat} {s : σ} {v : Val F} (h : AddsOn S Inv m s v) (hv : K → v ≠ .custom) :
    PushedI S Inv s ((m >>= fun a => S.pushRegister a) s) () (S.regs s) v := by
  obtain ⟨a, s1, h1, d, e1, i1⟩ := h
  obtain ⟨s2, h2, e2, i2⟩ := L.pushRegister a s1 i1 (L.readable s1 a v i1 d hv)
  rw [e1.regs, e1.vals] at e2
  exact ⟨a, s2, by rw [bind_ok h1, h2], e2.dec d, e1.trans e2, i2⟩

theorem pushUnit_spec (s : σ) (hi : Inv s := by inv_tac) : PushedI S Inv s (pushUnit S s) () (S.regs s) .unit :=
  push_of_adds L (L.addUnit s hi) (fun _ => nofun)

theorem pushNumber_spec (n : Number F) (s : σ) (hi : Inv s := by inv_tac) :
    PushedI S Inv s (pushNumber S n s) () (S.regs s) (.num n) :=
  push_of_adds L (L.addNumber n s hi) (fun _ => nofun)

theorem pushBoolean_spec (b : Bool) (s : σ) (hi : Inv s := by inv_tac) :
    PushedI S Inv s (pushBoolean S b s) () (S.regs s) (Val.ofBool b) := by
  cases b
  · exact push_of_adds L (L.addFalse s hi) (fun _ => nofun)
  · exact push_of_adds L (L.addTrue s hi) (fun _ => nofun)

theorem pushPair_spec {l r : Nat} {vl vr : Val F} {s : σ}
    (hl : Decodes (S.view s) l vl) (hr : Decodes (S.view s) r vr) (hi : Inv s := by inv_tac) :
    PushedI S Inv s (pushPair S l r s) () (S.regs s) (.pair vl vr) :=
  push_of_adds L (L.addPair l r vl vr s hi hl hr) (fun _ => nofun)

theorem pushReg {s : σ} {a : Nat} {v : Val F} (hd : Decodes (S.view s) a v) (hv : K → v ≠ .custom)
    (hi : Inv s := by inv_tac) :
    ∃ s', S.pushRegister a s = .ok ((), s') ∧ EffI S Inv s s' (a :: S.regs s) (S.vals s) := by
  obtain ⟨s', h1, e, i⟩ := L.pushRegister a s hi (L.readable s a v hi hd hv)
  exact ⟨s', h1, e, i⟩

theorem pushVal {s : σ} {a : Nat} {v : Val F} (hd : Decodes (S.view s) a v) (hv : K → v ≠ .custom)
    (hinv : Inv s := by inv_tac) :
    ∃ s', S.pushValueStack a s = .ok ((), s') ∧ EffI S Inv s s' (S.regs s) (a :: S.vals s) := by
  obtain ⟨s', h1, e, i⟩ := L.pushValueStack a s hinv (L.readable s a v hinv hd hv)
  exact ⟨s', h1, e, i⟩

theorem pushFrm (j : Nat) (s : σ) (hinv : Inv s := by inv_tac) :
    ∃ s', S.pushFrame j s = .ok ((), s') ∧
      FEffI S Inv s s' (S.regs s) (S.vals s) ((j, S.regs s) :: S.frames s) := by
  obtain ⟨s', h1, e, i⟩ := L.pushFrame j s hinv
  exact ⟨s', h1, e, i⟩

theorem popValNil {s : σ} (hv : S.vals s = []) (hinv : Inv s := by inv_tac) :
    ∃ s', S.popValueStack s = .ok (none, s') ∧ EffI S Inv s s' (S.regs s) [] := by
  obtain ⟨s', h1, e, i⟩ := L.popValueStackNil s hinv hv
  exact ⟨s', h1, e, i⟩

theorem popValCons {s : σ} {a : Nat} {rest : List Nat} (hv : S.vals s = a :: rest) (hinv : Inv s := by inv_tac) :
    ∃ s', S.popValueStack s = .ok (some a, s') ∧ EffI S Inv s s' (S.regs s) rest := by
  obtain ⟨s', h1, e, i⟩ := L.popValueStackCons s a rest hinv hv
  exact ⟨s', h1, e, i⟩

theorem popReg {s : σ} {a : Nat} {rest : List Nat} (h : S.regs s = a :: rest)
    (hinv : Inv s := by inv_tac) (hdp : DeepK K S s rest := by deep_tac) :
    ∃ s', S.popRegister s = .ok (some a, s') ∧ EffI S Inv s s' rest (S.vals s) := by
  obtain ⟨s', h1, e, i⟩ := L.popRegisterCons s a rest hinv h hdp
  exact ⟨s', h1, e, i⟩

end
end Garnish.Lemmas.Runtime.Core

namespace Garnish.Lemmas.Runtime.On
open Garnish Gen Garnish.Abs Garnish.Model.Equality Garnish.Model.Runtime Garnish.Lemmas.Runtime

variable {F σ : Type} {S : RStore F σ} {Inv : σ → Prop} {Rd : σ → Nat → Prop}

section
variable (L : StoreLawsOn S Inv Rd)
include L

theorem popValNil {s : σ} (hv : S.vals s = []) (hinv : Inv s := by inv_tac) :
    ∃ s', S.popValueStack s = .ok (none, s') ∧ EffI S Inv s s' (S.regs s) [] :=
  Core.popValNil L.toK hv hinv

end
end Garnish.Lemmas.Runtime.On

namespace Garnish.Lemmas.Runtime
open Garnish Gen Garnish.Abs Garnish.Model.Equality Garnish.Model.Runtime Garnish.Lemmas.Runtime.On

variable {F σ : Type} {S : RStore F σ}

theorem nextRef_cons (L : StoreLaws S) {s : σ} {a : Nat} {rest : List Nat} (h : S.regs s = a :: rest) :
    ∃ s', nextRef S s = .ok (a, s') ∧ Eff S s s' rest (S.vals s) := by
  obtain ⟨s', h1, e⟩ := Core.nextRef_cons L.toK h trivial nofun
  exact ⟨s', h1, e.toEff⟩

theorem nextRef_nil (L : StoreLaws S) {s : σ} (h : S.regs s = []) : nextRef S s = .err .state :=
  Core.nextRef_nil L.toK h nofun trivial

theorem nextTwoRawRef_cons (L : StoreLaws S) {s : σ} {a b : Nat} {rest : List Nat}
    (h : S.regs s = a :: b :: rest) :
    ∃ s', nextTwoRawRef S s = .ok ((a, b), s') ∧ Eff S s s' rest (S.vals s) := by
  obtain ⟨s', h1, e⟩ := Core.nextTwoRawRef_cons L.toK h trivial nofun
  exact ⟨s', h1, e.toEff⟩

theorem pushUnit_spec (L : StoreLaws S) (s : σ) : Pushed S s (pushUnit S s) () (S.regs s) .unit :=
  (Core.pushUnit_spec L.toK s trivial).plain

theorem pushNumber_spec (L : StoreLaws S) (n : Number F) (s : σ) :
    Pushed S s (pushNumber S n s) () (S.regs s) (.num n) :=
  (Core.pushNumber_spec L.toK n s trivial).plain

theorem pushBoolean_spec (L : StoreLaws S) (b : Bool) (s : σ) :
    Pushed S s (pushBoolean S b s) () (S.regs s) (Val.ofBool b) :=
  (Core.pushBoolean_spec L.toK b s trivial).plain

theorem pushPair_spec (L : StoreLaws S) {l r : Nat} {vl vr : Val F} {s : σ}
    (hl : Decodes (S.view s) l vl) (hr : Decodes (S.view s) r vr) :
    Pushed S s (pushPair S l r s) () (S.regs s) (.pair vl vr) :=
  (Core.pushPair_spec L.toK hl hr trivial).plain

theorem _root_.Garnish.Model.Runtime.Pushed.toI {α : Type} {s : σ} {res : Outcome (α × σ)} {next : α} {rest : List Nat}
    {v : Val F} (h : Pushed S s res next rest v) : PushedI S (fun _ => True) s res next rest v := by
  obtain ⟨a, s', h1, d, e⟩ := h; exact ⟨a, s', h1, d, e, trivial⟩

theorem _root_.Garnish.Model.Runtime.DeferProtocol.toI {α : Type} {s0 : σ} {res : Outcome (α × σ)} {next : α}
    {op : Instruction} {l r : Ty × Nat} (h : DeferProtocol S s0 res next op l r) :
    HostProtocolI S (fun _ => True) (S.deferOp op l r) s0 res next := by
  unfold DeferProtocol at h
  unfold HostProtocolI
  split <;> simp_all only []
  exact fun _ => h.toI

theorem _root_.Garnish.Model.Runtime.HostAnswer.toI {call : RM σ Bool} {s : σ} {ans : Option (Val F)}
    (h : HostAnswer S call s ans) : HostAnswerI S (fun _ => True) call s ans := by
  cases ans with
  | some v => obtain ⟨a, s1, h1, d1, he⟩ := h; exact ⟨a, s1, h1, d1, ⟨he, trivial⟩⟩
  | none => obtain ⟨s1, h1, he⟩ := h; exact ⟨s1, h1, ⟨he, trivial⟩⟩

/-- "exactly once": after the protocol the trace is the old one plus the call -/
theorem hostProtocol_once {α : Type} {call : RM σ Bool} {c : HostCall} (hrec : Records S call c) {s0 : σ}
    {res : Outcome (α × σ)} {next : α} (h : HostProtocol S call s0 res next) {x : α} {s' : σ}
    (hres : res = .ok (x, s')) : S.trace s' = c :: S.trace s0 := by
  unfold HostProtocol at h
  cases hd : call s0 with
  | ok p =>
    obtain ⟨b, s1⟩ := p
    rw [hd] at h
    have ht := hrec s0 b s1 hd
    cases b with
    | true => rw [h] at hres; cases hres; exact ht
    | false =>
      obtain ⟨a, s2, h2, _, e2⟩ := h
      rw [h2] at hres; cases hres
      rw [e2.trace, ht]
  | err e => rw [hd] at h; rw [h] at hres; cases hres
  | panic e => rw [hd] at h; rw [h] at hres; cases hres
  | fuelOut => rw [hd] at h; rw [h] at hres; cases hres

end Garnish.Lemmas.Runtime
