/-
Refinement lemmas for list.rs, part 2: `access_with_integer`, `access_with_symbol`, `get_access_addr` against
Abs/Ops `accessInt`, `accessSym`, `getAccess` (integer indexes; values in `AccessDomain`, concatenations included).
-/
import Garnish.Lemmas.RuntimeConcat2
namespace Garnish.Lemmas.Runtime
open Garnish Gen Garnish.Abs Garnish.Model.Equality Garnish.Model.Runtime

variable {F σ : Type} {S : RStore F σ} (fo : FloatOps F)

namespace On

variable {Inv : σ → Prop}

/-- the operands of a concatenation that is looked into have no `custom` node -/
def ncConcat : Val F → Prop
  | .concat l r => ncNodes l ∧ ncNodes r
  | _ => True

end On

namespace Core
open On

variable {Inv : σ → Prop} {Rd : σ → Nat → Prop} {K : Prop}

theorem accessWithInteger_spec (L : LawsK S Inv Rd K) (fuel : Nat) {s : σ} {a : Nat} {v : Val F} (i : Int)
    (h : Decodes (S.view s) a v) (hd : AccessDomain v) (hro : RangeOrdered fo (.int i) v)
    (hf : accessFuel v ≤ fuel) (hnc : K → ncConcat v)
    (hinv : Inv s := by inv_tac) (hdp : DeepK K S s (S.regs s) := by deep_tac) :
    AccOutI S Inv s (accessWithInteger fo S fuel (.int i) a s) (accessInt fo (.int i) v) := by
  have ht := getDataType_of h
  cases v
  case slice => exact absurd hd id
  case concat vl vr =>
    rw [accessWithInteger, bind_ok ht]
    exact indexConcatenationFor_spec fo L fuel i h hf hd hnc
  case list vs => rw [accessWithInteger, bind_ok ht]; exact indexList_spec fo L i h hd
  case chars cs => rw [accessWithInteger, bind_ok ht]; exact indexCharList_spec fo L i h hd
  case bytes cs => rw [accessWithInteger, bind_ok ht]; exact indexByteList_spec fo L i h hd
  case symList ps => rw [accessWithInteger, bind_ok ht]; exact indexSymbolList_spec fo L i h hd
  case pair vl vr =>
    rw [accessWithInteger, bind_ok ht]
    simp only [Val.typeOf]
    cases h with
    | pair _ hp dl dr =>
      by_cases h0 : Number.numEq fo (.int i) (.int 0) = true
      · simp only [h0, if_true]
        rw [bind_ok (getPair_of hp)]
        simp only []
        rw [bind_ok (getDataType_of dl)]
        cases vl
        case sym k => simp only [accessInt, h0, if_true]; exact ⟨a, s, rfl, .pair ‹_› hp dl dr, EffI.refl s (by inv_tac)⟩
        all_goals exact ⟨s, rfl, EffI.refl s (by inv_tac)⟩
      · have h0' : Number.numEq fo (.int i) (.int 0) = false := by simpa using h0
        simp only [h0', Bool.false_eq_true, if_false]
        cases vl
        case sym k => simp only [accessInt, h0', Bool.false_eq_true, if_false]; exact ⟨s, rfl, EffI.refl s (by inv_tac)⟩
        all_goals exact ⟨s, rfl, EffI.refl s (by inv_tac)⟩
  case range vs ve =>
    rw [accessWithInteger, bind_ok ht]
    simp only [Val.typeOf]
    cases h with
    | range _ hrg ds de =>
      rw [bind_ok (getRangeRaw_of hrg)]
      simp only []
      rw [bind_ok (getDataType_of ds), bind_ok (getDataType_of de)]
      by_cases hn : vs.typeOf = .number ∧ ve.typeOf = .number
      · obtain ⟨x, rfl⟩ := typeOf_number hn.1
        obtain ⟨y, rfl⟩ := typeOf_number hn.2
        simp only [Val.typeOf, accessInt]
        rw [bind_ok (getNumber_of ds), bind_ok (getNumber_of de), bind_apply, rangeLen_rm]
        cases hl : Abs.rangeLen fo x y with
        | none => rfl
        | some len =>
          simp only []
          have hcmp := hro x y len rfl hl
          cases hc : Number.partialCmp fo (.int i) len with
          | none => rw [hc] at hcmp; cases hcmp
          | some o =>
            cases o
            case lt =>
              have : numGe fo (.int i) len = false := by simp [numGe, hc]
              simp only [this, Bool.false_eq_true, if_false]
              cases hp : Number.plus fo x (.int i) with
              | none => simp only []; exact bind_err (orNumErr_none s)
              | some r =>
                simp only []
                rw [bind_ok (orNumErr_some r s)]
                exact accOut_adds (adds_i (L.addNumber r s (by inv_tac)))
            all_goals
              have : numGe fo (.int i) len = true := by simp [numGe, hc]
              simp only [this, if_true]
              exact ⟨s, rfl, EffI.refl s (by inv_tac)⟩
      · have e1 : accessInt fo (.int i) (.range vs ve) = .none := by
          cases vs <;> first | rfl | (cases ve <;> first | rfl | exact absurd ⟨rfl, rfl⟩ hn)
        rw [e1]
        generalize vs.typeOf = t1 at hn ⊢
        generalize ve.typeOf = t2 at hn ⊢
        split
        · exact absurd ⟨rfl, rfl⟩ hn
        · exact ⟨s, rfl, EffI.refl s (by inv_tac)⟩
  all_goals (rw [accessWithInteger, bind_ok ht]; rfl)

theorem accessWithSymbol_spec (L : LawsK S Inv Rd K) (fuel : Nat) {s : σ} {a : Nat} {v : Val F} (sym : Nat)
    (h : Decodes (S.view s) a v) (hd : AccessDomain v) (hf : accessFuel v ≤ fuel) (hnc : K → ncConcat v)
    (hls : (∀ vs, v ≠ .list vs) ∨ ListSymOn S Inv)
    (hinv : Inv s := by inv_tac) (hdp : DeepK K S s (S.regs s) := by deep_tac) :
    AccOutI S Inv s (accessWithSymbol fo S fuel sym a s) (accessSym sym v) := by
  have ht := getDataType_of h
  cases v
  case slice => exact absurd hd id
  case concat vl vr => exact accessWithSymbol_concat_spec fo L fuel sym h hf hd hnc
  case list vs =>
    rw [accessWithSymbol, bind_ok ht]
    simp only [Val.typeOf, accessSym]
    obtain ⟨items, hi, hdl⟩ := listItems_of h
    have LS : ListSymOn S Inv := by
      rcases hls with hls | hls
      · exact absurd rfl (hls vs)
      · exact hls
    have hl := LS s a items vs sym hinv hi hdl
    cases hk : Abs.lookupSym sym vs with
    | none =>
      rw [hk] at hl
      exact ⟨s, readR_ok (g := fun st => S.listItemWithSymbol st a sym) hl, EffI.refl s (by inv_tac)⟩
    | some x =>
      rw [hk] at hl
      obtain ⟨r, h1, d⟩ := hl
      exact ⟨r, s, readR_ok (g := fun st => S.listItemWithSymbol st a sym) h1, d, EffI.refl s (by inv_tac)⟩
  case pair vl vr =>
    rw [accessWithSymbol, bind_ok ht]
    simp only [Val.typeOf]
    cases h with
    | pair _ hp dl dr =>
      rw [bind_ok (getPair_of hp)]
      simp only []
      rw [bind_ok (getDataType_of dl)]
      cases vl
      case sym k =>
        simp only [Val.typeOf, accessSym]
        rw [bind_ok (getSymbol_of dl)]
        by_cases hk : k = sym
        · subst hk; simp only [beq_self_eq_true, if_true]; exact ⟨_, s, rfl, dr, EffI.refl s (by inv_tac)⟩
        · have : (k == sym) = false := by simpa using hk
          simp only [this, Bool.false_eq_true, if_false]; exact ⟨s, rfl, EffI.refl s (by inv_tac)⟩
      all_goals exact ⟨s, rfl, EffI.refl s (by inv_tac)⟩
  all_goals (rw [accessWithSymbol, bind_ok ht]; rfl)

/-- `get_access_addr` with an integer or symbol key refines Abs/Ops `getAccess`; any other key is the
`UnsupportedOpTypes` error, before anything is touched -/
theorem getAccessAddr_spec (L : LawsK S Inv Rd K) (fuel : Nat) {s : σ} {ka a : Nat} {key v : Val F}
    (hk : Decodes (S.view s) ka key) (h : Decodes (S.view s) a v) (hd : AccessDomain v)
    (hkey : ∀ n, key = .num n → (∃ i, n = .int i) ∧ RangeOrdered fo n v) (hf : accessFuel v ≤ fuel)
    (hnc : K → ncConcat v) (hls : (∀ y, key = .sym y → ∀ vs, v ≠ .list vs) ∨ ListSymOn S Inv)
    (hinv : Inv s := by inv_tac) (hdp : DeepK K S s (S.regs s) := by deep_tac) :
    AccOutI S Inv s (getAccessAddr fo S fuel ka a s) (getAccess fo key v) := by
  have ht := getDataType_of hk
  cases key
  case num n =>
    obtain ⟨⟨i, rfl⟩, hro⟩ := hkey n rfl
    rw [getAccessAddr, bind_ok ht]
    simp only [Val.typeOf]
    rw [bind_ok (getNumber_of hk)]
    exact accessWithInteger_spec fo L fuel i h hd hro hf hnc
  case sym y =>
    rw [getAccessAddr, bind_ok ht]
    simp only [Val.typeOf]
    rw [bind_ok (getSymbol_of hk)]
    exact accessWithSymbol_spec fo L fuel y h hd hf hnc (hls.imp (fun f => f y rfl) id)
  all_goals (rw [getAccessAddr, bind_ok ht]; rfl)

end Core

namespace On

variable {Inv : σ → Prop} {Rd : σ → Nat → Prop}

theorem accessWithSymbol_spec (L : StoreLawsOn S Inv Rd) (fuel : Nat) {s : σ} {a : Nat} {v : Val F} (sym : Nat)
    (h : Decodes (S.view s) a v) (hd : AccessDomain v) (hf : accessFuel v ≤ fuel) (hnc : ncConcat v)
    (hls : (∀ vs, v ≠ .list vs) ∨ ListSymOn S Inv)
    (hinv : Inv s := by inv_tac) (hdp : Deep S s (S.regs s) := by deep_tac) :
    AccOutI S Inv s (accessWithSymbol fo S fuel sym a s) (accessSym sym v) :=
  Core.accessWithSymbol_spec fo L.toK fuel sym h hd hf (fun _ => hnc) hls hinv fun _ => hdp

theorem getAccessAddr_spec (L : StoreLawsOn S Inv Rd) (fuel : Nat) {s : σ} {ka a : Nat} {key v : Val F}
    (hk : Decodes (S.view s) ka key) (h : Decodes (S.view s) a v) (hd : AccessDomain v)
    (hkey : ∀ n, key = .num n → (∃ i, n = .int i) ∧ RangeOrdered fo n v) (hf : accessFuel v ≤ fuel)
    (hnc : ncConcat v) (hls : (∀ y, key = .sym y → ∀ vs, v ≠ .list vs) ∨ ListSymOn S Inv)
    (hinv : Inv s := by inv_tac) (hdp : Deep S s (S.regs s) := by deep_tac) :
    AccOutI S Inv s (getAccessAddr fo S fuel ka a s) (getAccess fo key v) :=
  Core.getAccessAddr_spec fo L.toK fuel hk h hd hkey hf (fun _ => hnc) hls hinv fun _ => hdp

end On

end Garnish.Lemmas.Runtime
