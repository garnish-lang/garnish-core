/-
The value-level cast (Abs/Casts.lean). The counting loops of casting.rs on i32 visit exactly the integers `intsFrom` lists and stop
by themselves, except that a range ending at i32::MAX overflows on the final increment. The handler's `match` in source order
(`castArm`) agrees with `castCore` (by target, then by operand) and with the declarative table `Spec.castDefined`: facts about the
21 × 21 type pairs, evaluated.
-/
import Garnish.Abs.Casts
import Garnish.Lemmas.Num
import Garnish.Model.Runtime.CastLaws
set_option linter.unusedSimpArgs false
set_option linter.unusedVariables false

namespace Garnish.Spec
open Garnish Gen

/-- the type pairs (type of the value, target type) for which `~#` is defined.  Written down from the
language's point of view, independently of `castOp`:
* a value of the target type is left alone; unit converts to nothing but itself (the answer is unit) —
  except for the targets of the next line, which accept everything;
* every value has a text, a byte list, a symbol and a truth value: targets CharList, ByteList, Symbol,
  True, False accept every source;
* numbers, characters and bytes convert into each other, a text converts to a number and (if it has exactly
  one character) to a character;
* the sequence-like types (symbol list, range, text, byte list, concatenation, slice) convert to a list. -/
def castDefined (lt rt : Ty) : Bool :=
  lt == rt || lt == .unit ||
  match rt with
  | .charList | .byteList | .symbol | .true | .false => true
  | .number => lt == .charList || lt == .char || lt == .byte
  | .char => lt == .number || lt == .byte || lt == .charList
  | .byte => lt == .number || lt == .char
  | .list => lt == .symbolList || lt == .range || lt == .charList || lt == .byteList ||
             lt == .concatenation || lt == .slice
  | _ => false

end Garnish.Spec

namespace Garnish.Gen

theorem Ty.mem_all (t : Ty) : t ∈ Ty.all :=
  List.mem_of_getElem? (by cases t <;> decide +kernel : Ty.all[t.ctorIdx]? = some t)

theorem Ty.forall_of_all {P : Ty → Prop} (h : ∀ t ∈ Ty.all, P t) (t : Ty) : P t := h t (Ty.mem_all t)

end Garnish.Gen

namespace Garnish.Lemmas
open Garnish Gen Garnish.Abs

variable {F : Type} (fo : FloatOps F)

theorem digitsVal_append (xs ys : Txt) (acc : Nat) :
    digitsVal (xs ++ ys) acc = (digitsVal xs acc).bind (digitsVal ys) := by
  induction xs generalizing acc with
  | nil => simp [digitsVal]
  | cons c cs ih =>
    simp only [List.cons_append, digitsVal]
    split <;> simp [ih]

theorem digitsVal_natDigitsAux (fuel n : Nat) (h : n < fuel) :
    digitsVal (natDigitsAux fuel n) 0 = some n := by
  induction fuel generalizing n with
  | zero => omega
  | succ fuel ih =>
    unfold natDigitsAux
    by_cases h10 : n < 10
    · have h1 : 48 ≤ 48 + n ∧ 48 + n ≤ 57 := by omega
      simp [h10, digitsVal, h1]
    · have hq : n / 10 < fuel := by omega
      have h1 : 48 ≤ 48 + n % 10 ∧ 48 + n % 10 ≤ 57 := by omega
      simp only [h10, if_false, digitsVal_append, ih _ hq, Option.bind_some, digitsVal, h1, and_self, if_true]
      congr 1; omega

theorem digitsVal_natDigits (n : Nat) : digitsVal (natDigits n) 0 = some n :=
  digitsVal_natDigitsAux (n + 1) n (by omega)

theorem natDigitsAux_head (fuel n : Nat) (h : n < fuel) :
    ∃ d ds, natDigitsAux fuel n = d :: ds ∧ 48 ≤ d ∧ d ≤ 57 := by
  induction fuel generalizing n with
  | zero => omega
  | succ fuel ih =>
    unfold natDigitsAux
    by_cases h10 : n < 10
    · exact ⟨48 + n, [], by simp [h10], by omega, by omega⟩
    · obtain ⟨d, ds, hd, h1, h2⟩ := ih (n / 10) (by omega)
      exact ⟨d, ds ++ [48 + n % 10], by simp [h10, hd], h1, h2⟩

theorem natDigits_head (n : Nat) : ∃ d ds, natDigits n = d :: ds ∧ 48 ≤ d ∧ d ≤ 57 :=
  natDigitsAux_head (n + 1) n (by omega)

theorem parseI32_showInt (v : Int) (h : InRange v) : parseI32 (showInt v) = some v := by
  unfold InRange at h
  by_cases hneg : v < 0
  · obtain ⟨d, ds, hd, h1, h2⟩ := natDigits_head v.natAbs
    have hv := digitsVal_natDigits v.natAbs
    rw [hd] at hv
    simp only [showInt, hneg, if_true, hd, parseI32, List.isEmpty_cons, Bool.false_eq_true, if_false, hv]
    have : I32_MIN ≤ -((v.natAbs : Nat) : Int) := by unfold I32_MIN; omega
    simp only [this, if_true]
    congr 1; omega
  · obtain ⟨d, ds, hd, h1, h2⟩ := natDigits_head v.toNat
    have hv := digitsVal_natDigits v.toNat
    rw [hd] at hv
    simp only [showInt, hneg, if_false, hd]
    unfold parseI32
    split
    · simp at *
    · rename_i heq; simp at heq; omega
    · rename_i heq; simp at heq; omega
    · simp only [hv]
      have : ((v.toNat : Nat) : Int) ≤ I32_MAX := by unfold I32_MAX; omega
      simp only [this, if_true]
      congr 1; omega

theorem numLe_int (a b : Int) : numLe fo (.int a) (.int b) = decide (a ≤ b) := by
  rcases partialCmp_int_cases fo a b with ⟨h, e⟩ | ⟨h, e⟩ | ⟨h, e⟩ <;> simp [numLe, e] <;> omega

theorem numLt_int (a b : Int) : numLt fo (.int a) (.int b) = decide (a < b) := by
  rcases partialCmp_int_cases fo a b with ⟨h, e⟩ | ⟨h, e⟩ | ⟨h, e⟩ <;> simp [numLt, e] <;> omega

theorem cast_increment_int (c : Int) (h1 : -2147483649 ≤ c) (h2 : c < 2147483647) :
    Number.increment fo (.int c) = some (.int (c + 1)) :=
  increment_of_inRange fo (by unfold InRange; omega)

def intsFrom (s : Int) : Nat → List Int
  | 0 => []
  | n + 1 => s :: intsFrom (s + 1) n

theorem intsFrom_length (s : Int) (n : Nat) : (intsFrom s n).length = n := by
  induction n generalizing s with
  | zero => rfl
  | succ n ih => simp [intsFrom, ih]

theorem intsFrom_get (s : Int) (n i : Nat) (h : i < n) : (intsFrom s n)[i]? = some (s + i) := by
  induction n generalizing s i with
  | zero => omega
  | succ n ih =>
    cases i with
    | zero => simp [intsFrom]
    | succ i =>
      simp only [intsFrom, List.getElem?_cons_succ]
      rw [ih (s + 1) i (by omega)]
      congr 1; push_cast; omega

/-- `while count <= end` on i32 (the slice loops; range → list is `rangeItems_int`) visits exactly `max 0 (end - start + 1)` integers
and stops by itself, provided `end` is not i32::MAX -/
theorem countLoop_int (fuel : Nat) (s e : Int) (hs : -2147483648 ≤ s) (he : e < 2147483647)
    (hf : (e - s + 1).toNat ≤ fuel) :
    countLoop fo false fuel (.int s) (.int e) = .ok ((intsFrom s (e - s + 1).toNat).map .int, false) := by
  induction fuel generalizing s with
  | zero =>
    have h0 : (e - s + 1).toNat = 0 := by omega
    have : ¬ s ≤ e := by omega
    simp [countLoop, numLe_int, h0, intsFrom, this]
  | succ fuel ih =>
    unfold countLoop
    by_cases hle : s ≤ e
    · have hn : (e - s + 1).toNat = (e - (s + 1) + 1).toNat + 1 := by omega
      simp only [Bool.false_eq_true, if_false, numLe_int, hle, decide_true, if_true,
        cast_increment_int fo s (by omega) (by omega), ih (s + 1) (by omega) (by omega), hn, intsFrom, List.map_cons]
    · have h0 : (e - s + 1).toNat = 0 := by omega
      simp [numLe_int, hle, h0, intsFrom]

/-- `while count < end` on i32 (text / byte-list slices, `end` already incremented) -/
theorem countLoop_int_strict (fuel : Nat) (s e : Int) (hs : -2147483648 ≤ s) (he : e ≤ 2147483647)
    (hf : (e - s).toNat ≤ fuel) :
    countLoop fo true fuel (.int s) (.int e) = .ok ((intsFrom s (e - s).toNat).map .int, false) := by
  induction fuel generalizing s with
  | zero =>
    have h0 : (e - s).toNat = 0 := by omega
    have : ¬ s < e := by omega
    simp [countLoop, numLt_int, h0, intsFrom, this]
  | succ fuel ih =>
    unfold countLoop
    by_cases hlt : s < e
    · have hn : (e - s).toNat = (e - (s + 1)).toNat + 1 := by omega
      simp only [if_true, numLt_int, hlt, decide_true,
        cast_increment_int fo s (by omega) (by omega), ih (s + 1) (by omega) (by omega), hn, intsFrom, List.map_cons]
    · have h0 : (e - s).toNat = 0 := by omega
      simp [numLt_int, hlt, h0, intsFrom]

/-- when the range ends at i32::MAX the loop's last `increment` overflows: a number error -/
theorem countLoop_int_max (fuel : Nat) (s : Int) (hs : -2147483648 ≤ s) (hs2 : s ≤ 2147483647)
    (hf : (2147483647 - s + 1).toNat ≤ fuel) :
    countLoop fo false fuel (.int s) (.int 2147483647) = .error .number := by
  induction fuel generalizing s with
  | zero => omega
  | succ fuel ih =>
    unfold countLoop
    by_cases hmax : s = 2147483647
    · subst hmax
      simp [numLe_int, Number.increment, Number.overflowingAdd, Number.ovf, InRange]
    · simp only [Bool.false_eq_true, if_false, numLe_int, hs2, decide_true, if_true,
        cast_increment_int fo s (by omega) (by omega), ih (s + 1) (by omega) (by omega) (by omega)]

/-- the range → list loop on i32 pushes exactly `max 0 (end - start + 1)` integers, for every i32 end
(no increment follows the last item) -/
theorem rangeItems_int (n : Nat) (s e : Int) (hs : -2147483648 ≤ s) (he : e ≤ 2147483647)
    (hn : n = (e - s + 1).toNat) :
    rangeItems fo n (.int s) (.int e) = .ok ((intsFrom s n).map .int) := by
  induction n generalizing s with
  | zero => rfl
  | succ n ih =>
    have hle : s ≤ e := by omega
    cases n with
    | zero => simp [rangeItems, numLe_int, hle, intsFrom]
    | succ n =>
      simp only [rangeItems, numLe_int, hle, decide_true, if_true,
        cast_increment_int fo s (by omega) (by omega), ih (s + 1) (by omega) (by omega), intsFrom, List.map_cons]

theorem rangeLen_int_overflow (s e : Int) (h : 2147483647 < e - s + 1) :
    rangeLen fo (.int s) (.int e) = none := by
  by_cases h1 : InRange (e - s)
  · have hw1 : wrap (e - s) = e - s := by unfold InRange at h1; unfold wrap; omega
    have h2 : ¬ InRange (e - s + 1) := by unfold InRange; omega
    simp [rangeLen, Number.subtract, Number.doOp, Number.overflowingSub, Number.ovf, h1, hw1,
      Number.increment, Number.overflowingAdd, h2]
  · simp [rangeLen, Number.subtract, Number.doOp, Number.overflowingSub, Number.ovf, h1]

theorem mapItems_ok (get : Number F → Except ErrClass (Val F)) (f : Number F → Val F) (idx : List (Number F))
    (h : ∀ i ∈ idx, get i = .ok (f i)) : mapItems get idx = .ok (idx.map f) := by
  induction idx with
  | nil => rfl
  | cons i is ih =>
    have h1 := h i (by simp)
    have h2 := ih (fun j hj => h j (by simp [hj]))
    simp [mapItems, h1, h2]

theorem Runtime.sliceLoop_simple_int (strict : Bool) (n declared : Nat) (a e : Int)
    (get : Number F → Except ErrClass (Val F)) (f : Int → Val F)
    (hcount : countLoop fo strict (n + 1) (.int a) (.int e) = .ok ((intsFrom a n).map .int, false))
    (hget : ∀ j ∈ intsFrom a n, get (.int j) = .ok (f j)) :
    sliceLoop fo .simple strict n declared (.int a) (.int e) get = .val (.list ((intsFrom a n).map f)) := by
  have hm : mapItems get ((intsFrom a n).map (Number.int (F := F))) =
      .ok (((intsFrom a n).map (Number.int (F := F))).map
        (fun idx : Number F => match idx with | .int k => f k | .float _ => Val.unit)) := by
    apply mapItems_ok
    intro i hi
    simp only [List.mem_map] at hi
    obtain ⟨k, hk, rfl⟩ := hi
    exact hget k hk
  simp only [sliceLoop, loopFuel, hcount, Bool.false_eq_true, if_false, hm, buildList, List.map_map]
  congr 2

theorem mem_intsFrom (s : Int) (n : Nat) (i : Int) (h : i ∈ intsFrom s n) : s ≤ i ∧ i < s + n := by
  induction n generalizing s with
  | zero => simp [intsFrom] at h
  | succ n ih =>
    simp only [intsFrom, List.mem_cons] at h
    rcases h with h | h
    · subst h; omega
    · have := ih (s + 1) h; omega

theorem rangeLen_int (s e : Int) (h1 : InRange (e - s)) (h2 : InRange (e - s + 1)) :
    rangeLen fo (.int s) (.int e) = some (.int (e - s + 1)) := by
  unfold InRange at h1 h2
  have hr1 : InRange (e - s) := by unfold InRange; omega
  have hr2 : InRange (e - s + 1) := by unfold InRange; omega
  have hw1 : wrap (e - s) = e - s := by unfold wrap; omega
  have hw2 : wrap (e - s + 1) = e - s + 1 := by unfold wrap; omega
  simp [rangeLen, Number.subtract, Number.doOp, Number.overflowingSub, Number.ovf, hr1, hw1,
    Number.increment, Number.overflowingAdd, hr2, hw2]

def isDefer : OpOut F → Bool
  | .defer _ _ _ => true
  | _ => false

theorem buildList_not_defer (st : StoreKind) (d : Nat) (items : List (Val F)) :
    isDefer (buildList st d items) = false := by
  cases st <;> simp only [buildList] <;> (try split) <;> rfl

theorem overrun_not_defer (st : StoreKind) : isDefer (overrun (F := F) st) = false := by
  cases st <;> rfl

theorem sliceLoop_not_defer (st : StoreKind) (strict : Bool) (n d : Nat) (s e : Number F)
    (get : Number F → Except ErrClass (Val F)) : isDefer (sliceLoop fo st strict n d s e get) = false := by
  unfold sliceLoop
  split
  · rfl
  · split
    · exact overrun_not_defer st
    · split
      · exact buildList_not_defer _ _ _
      · rfl

theorem rangeToList_not_defer (st : StoreKind) (s e : Val F) : isDefer (rangeToList fo st s e) = false := by
  unfold rangeToList
  split
  · split
    · rfl
    · simp only []
      split
      · rfl
      · exact buildList_not_defer _ _ _
  · rfl

theorem sliceToList_not_defer (st : StoreKind) (x rng : Val F) : isDefer (sliceToList fo st x rng) = false := by
  unfold sliceToList
  split
  · split
    · rfl
    · simp only []
      split
      · exact sliceLoop_not_defer fo _ _ _ _ _ _ _
      · split
        · exact sliceLoop_not_defer fo _ _ _ _ _ _ _
        · rfl
      · split
        · exact sliceLoop_not_defer fo _ _ _ _ _ _ _
        · rfl
      · exact buildList_not_defer _ _ _
      · rfl
  · rfl
  · rfl

theorem symbolFrom_not_defer (env : CastEnv F) (v : Val F) : isDefer (symbolFrom env v) = false := by
  unfold symbolFrom
  split
  · rfl
  · split <;> rfl

theorem byteListFrom_not_defer (env : CastEnv F) (v : Val F) : isDefer (byteListFrom env v) = false := by
  unfold byteListFrom
  split
  · split <;> rfl
  · rfl

end Garnish.Lemmas

namespace Garnish.Lemmas.Runtime
open Garnish Gen Garnish.Abs Garnish.Model.Runtime

variable {F : Type} (fo : FloatOps F)

theorem castArm_of_eq {l r : Ty} (h : l = r) : castArm l r = .noop := if_pos h

theorem castOp_of_ne (env : CastEnv F) {vl vr : Val F} (h : vl.typeOf ≠ castTarget vr) :
    castOp fo env vl vr = castCore fo env vl vr (castTarget vr) := if_neg h

/-- what the choice of an arm says: the outcome `o` of `castCore` where the arm does not look into the operand, its shape where it does -/
def ArmCase (env : CastEnv F) (vl vr : Val F) (rt : Ty) (o : OpOut F) : CastArm → Prop
  | .noop => vl.typeOf = rt
  | .falseOut => o = .val .fls
  | .trueOut => o = .val .tru
  | .unitOut => o = .val .unit
  | .deferOp => o = .defer .applyType vl vr
  | .toCharList => o = textOut env vl
  | .toByteList => o = byteListFrom env vl
  | .toSymbol => o = symbolFrom env vl
  | .charListNumber => rt = .number ∧ ∃ cs, vl = .chars cs
  | .numberChar => rt = .char ∧ ∃ n, vl = .num n
  | .numberByte => rt = .byte ∧ ∃ n, vl = .num n
  | .charNumber => rt = .number ∧ ∃ c, vl = .char c
  | .charByte => rt = .byte ∧ ∃ c, vl = .char c
  | .byteNumber => rt = .number ∧ ∃ b, vl = .byte b
  | .byteChar => rt = .char ∧ ∃ b, vl = .byte b
  | .charListChar => rt = .char ∧ ∃ cs, vl = .chars cs
  | .symbolListList => rt = .list ∧ ∃ ps, vl = .symList ps
  | .rangeList => rt = .list ∧ ∃ a b, vl = .range a b
  | .charListList => rt = .list ∧ ∃ cs, vl = .chars cs
  | .byteListList => rt = .list ∧ ∃ bs, vl = .bytes bs
  | .concatenationList => rt = .list ∧ ∃ a b, vl = .concat a b
  | .sliceList => rt = .list ∧ ∃ x rng, vl = .slice x rng

/-- The two tables agree: `castArm` (the `match` of casting.rs in source order) against `castCore` (by target, then
by operand), pair by pair. Every entry of `ArmCase` is an equation, a shape with one field or a shape with two;
`exact rfl` because the `rfl` tactic is several times slower to evaluate the two tables. -/
theorem castArm_case (env : CastEnv F) (vl vr : Val F) (rt : Ty) :
    ArmCase env vl vr rt (castCore fo env vl vr rt) (castArm vl.typeOf rt) := by
  cases vl <;> cases rt <;> first | exact rfl | exact ⟨rfl, _, rfl⟩ | exact ⟨rfl, _, _, rfl⟩

end Garnish.Lemmas.Runtime

namespace Garnish.Lemmas
open Garnish Gen Garnish.Abs Garnish.Model.Runtime

variable {F : Type}

theorem textOut_not_defer (env : CastEnv F) (v : Val F) : isDefer (textOut env v) = false := by
  unfold textOut; split <;> rfl

/-- The declarative table is the handler's table: a pair is outside `castDefined` exactly when the `match` of
`type_cast` falls through to its last arm, the offer to the host. A fact about the 21 × 21 type pairs, evaluated. -/
theorem castDefined_eq_arm (l r : Ty) : Spec.castDefined l r = (castArm l r != .deferOp) := by
  revert l r
  exact Ty.forall_of_all fun l _ => Ty.forall_of_all (by revert l; decide +kernel)

end Garnish.Lemmas
