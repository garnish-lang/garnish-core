/-
The tie between the two builder models: `validate_parse_tree` accepts every tree that has the shape `Rep` describes and
whose parent links mirror the child links.
`Shape tree lo hi i` — node `i` with its subtree occupying exactly `[lo, hi)` in in-order numbering, every child naming its
parent.  The validation loop (a depth-first walk with a visited array) marks exactly the interval.
-/
import Garnish.Lemmas.ListFacts
import Garnish.Lemmas.CompileTreeBuild
namespace Garnish.Abs.Tree
open Garnish Garnish.Gen Garnish.Spec Garnish.Abs Garnish.Model.Parser Garnish.Model.Literals Garnish.Model.Build

variable (tree : Array ParseNode)

def ChildOf (i c : Nat) : Prop := ∃ pc, tree[c]? = some pc ∧ pc.parent = some i

inductive Shape : Nat → Nat → Nat → Prop where
  | leaf {i : Nat} {pn : ParseNode} : tree[i]? = some pn → pn.left = none → pn.right = none → Shape i (i + 1) i
  | right {hi i r : Nat} {pn : ParseNode} : tree[i]? = some pn → pn.left = none → pn.right = some r → ChildOf tree i r →
      Shape (i + 1) hi r → Shape i hi i
  | left {lo i l : Nat} {pn : ParseNode} : tree[i]? = some pn → pn.left = some l → pn.right = none → ChildOf tree i l →
      Shape lo i l → Shape lo (i + 1) i
  | both {lo hi i l r : Nat} {pn : ParseNode} : tree[i]? = some pn → pn.left = some l → pn.right = some r →
      ChildOf tree i l → ChildOf tree i r → Shape lo i l → Shape (i + 1) hi r → Shape lo hi i

variable {tree}

theorem Shape.bounds : ∀ {lo hi i : Nat}, Shape tree lo hi i → lo ≤ i ∧ i < hi ∧ hi ≤ tree.size
  | _, _, _, .leaf h _ _ => ⟨Nat.le_refl _, by omega, by have := lt_of_getElem? h; omega⟩
  | _, _, _, .right h _ _ _ hr => by have := hr.bounds; exact ⟨Nat.le_refl _, by omega, by omega⟩
  | _, _, _, .left h _ _ _ hl => by have := hl.bounds; have := lt_of_getElem? h; exact ⟨by omega, by omega, by omega⟩
  | _, _, _, .both h _ _ _ _ hl hr => by have := hl.bounds; have := hr.bounds; exact ⟨by omega, by omega, by omega⟩

/-- all of `[lo, hi)` marked, the rest as before -/
def Marked (lo hi : Nat) (v v' : Array Bool) : Prop :=
  v'.size = v.size ∧ (∀ x, lo ≤ x → x < hi → v'[x]? = some true) ∧ (∀ x, (x < lo ∨ hi ≤ x) → v'[x]? = v[x]?)

theorem validateChild_ok {i c : Nat} {visited : Array Bool} {stack : Array Nat} (hc : ChildOf tree i c)
    (hv : visited[c]? = some false) :
    validateChild tree i visited stack c = .ok (visited.setIfInBounds c true, stack.push c) := by
  obtain ⟨pc, hpc, hpar⟩ := hc
  simp only [validateChild, hpc, hv, hpar]
  simp

theorem validate_pop {i : Nat} {pn : ParseNode} (hpn : tree[i]? = some pn) (n : Nat) (visited : Array Bool) (S : Array Nat)
    (hl : ∀ l, pn.left = some l → ChildOf tree i l ∧ visited[l]? = some false)
    (hr : ∀ r, pn.right = some r → ChildOf tree i r ∧ visited[r]? = some false ∧ pn.left ≠ some r) :
    validateLoop tree (n + 1) visited (S.push i) =
      validateLoop tree n
        (match pn.right with
          | none => (match pn.left with | none => visited | some l => visited.setIfInBounds l true)
          | some r => (match pn.left with | none => visited | some l => visited.setIfInBounds l true).setIfInBounds r true)
        (match pn.right with
          | none => (match pn.left with | none => S | some l => S.push l)
          | some r => (match pn.left with | none => S | some l => S.push l).push r) := by
  simp only [validateLoop, Array.back?_push, Array.pop_push, hpn]
  cases hL : pn.left with
  | none =>
    cases hR : pn.right with
    | none => simp [Outcome.bind]
    | some r =>
      obtain ⟨c, hv, _⟩ := hr r hR
      simp [Outcome.bind, validateChild_ok c hv]
  | some l =>
    obtain ⟨cl, hvl⟩ := hl l hL
    cases hR : pn.right with
    | none => simp [Outcome.bind, validateChild_ok cl hvl]
    | some r =>
      obtain ⟨cr, hvr, hne⟩ := hr r hR
      have hlr : l ≠ r := fun e => hne (by rw [hL, e])
      have hlsz : l < visited.size := lt_of_getElem? hvl
      have hvr' : (visited.setIfInBounds l true)[r]? = some false := by rw [getElem?_setIfInBounds_lt _ _ hlsz, if_neg hlr]; exact hvr
      simp [Outcome.bind, validateChild_ok cl hvl, validateChild_ok cr hvr']

theorem validate_shape : ∀ {lo hi i : Nat}, Shape tree lo hi i → ∀ (n : Nat) (visited : Array Bool) (S : Array Nat),
    visited.size = tree.size → visited[i]? = some true → (∀ x, lo ≤ x → x < hi → x ≠ i → visited[x]? = some false) →
    ∃ v', Marked lo hi visited v' ∧
      validateLoop tree (n + (hi - lo)) visited (S.push i) = validateLoop tree n v' S
  | _, _, _, .leaf (i := i) h hl hr, n, visited, S, hsz, hi', hfalse => by
    refine ⟨visited, ⟨rfl, fun x h1 h2 => ?_, fun _ _ => rfl⟩, ?_⟩
    · have : x = i := by omega
      subst this; exact hi'
    · have e : n + (i + 1 - i) = n + 1 := by omega
      rw [e, validate_pop h n visited S (fun l h' => by rw [hl] at h'; cases h') (fun r h' => by rw [hr] at h'; cases h')]
      simp only [hl, hr]
  | _, _, _, .right (hi := hi) (i := i) (r := r) h hl hr hc hs, n, visited, S, hsz, hi', hfalse => by
    have hb := hs.bounds
    have hvr : visited[r]? = some false := hfalse r (by omega) (by omega) (by omega)
    have e : n + (hi - i) = (n + (hi - (i + 1))) + 1 := by omega
    rw [e, validate_pop h _ visited S (fun l h' => by rw [hl] at h'; cases h')
      (fun r' h' => by rw [hr] at h'; cases h'; exact ⟨hc, hvr, by rw [hl]; simp⟩)]
    simp only [hl, hr]
    have hrsz : r < visited.size := lt_of_getElem? hvr
    obtain ⟨v', hm, hloop⟩ := validate_shape hs n (visited.setIfInBounds r true) S (by simpa using hsz)
      (by rw [getElem?_setIfInBounds_lt _ _ hrsz]; simp)
      (fun x h1 h2 h3 => by rw [getElem?_setIfInBounds_lt _ _ hrsz, if_neg (Ne.symm h3)]; exact hfalse x (by omega) h2 (by omega))
    refine ⟨v', ⟨by rw [hm.1]; simp, fun x h1 h2 => ?_, fun x hx => ?_⟩, hloop⟩
    · by_cases hxi : x = i
      · subst hxi
        rw [hm.2.2 x (by omega), getElem?_setIfInBounds_lt _ _ hrsz, if_neg (by omega)]; exact hi'
      · exact hm.2.1 x (by omega) h2
    · rw [hm.2.2 x (by omega), getElem?_setIfInBounds_lt _ _ hrsz, if_neg (by omega)]
  | _, _, _, .left (lo := lo) (i := i) (l := l) h hl hr hc hs, n, visited, S, hsz, hi', hfalse => by
    have hb := hs.bounds
    have hvl : visited[l]? = some false := hfalse l (by omega) (by omega) (by omega)
    have e : n + (i + 1 - lo) = (n + (i - lo)) + 1 := by omega
    rw [e, validate_pop h _ visited S (fun l' h' => by rw [hl] at h'; cases h'; exact ⟨hc, hvl⟩)
      (fun r' h' => by rw [hr] at h'; cases h')]
    simp only [hl, hr]
    have hlsz : l < visited.size := lt_of_getElem? hvl
    obtain ⟨v', hm, hloop⟩ := validate_shape hs n (visited.setIfInBounds l true) S (by simpa using hsz)
      (by rw [getElem?_setIfInBounds_lt _ _ hlsz]; simp)
      (fun x h1 h2 h3 => by rw [getElem?_setIfInBounds_lt _ _ hlsz, if_neg (Ne.symm h3)]; exact hfalse x h1 (by omega) (by omega))
    refine ⟨v', ⟨by rw [hm.1]; simp, fun x h1 h2 => ?_, fun x hx => ?_⟩, hloop⟩
    · by_cases hxi : x = i
      · subst hxi
        rw [hm.2.2 x (by omega), getElem?_setIfInBounds_lt _ _ hlsz, if_neg (by omega)]; exact hi'
      · exact hm.2.1 x h1 (by omega)
    · rw [hm.2.2 x (by omega), getElem?_setIfInBounds_lt _ _ hlsz, if_neg (by omega)]
  | _, _, _, .both (lo := lo) (hi := hi) (i := i) (l := l) (r := r) h hl hr hcl hcr hsl hsr, n, visited, S, hsz, hi', hfalse => by
    have hbl := hsl.bounds
    have hbr := hsr.bounds
    have hvl : visited[l]? = some false := hfalse l (by omega) (by omega) (by omega)
    have hvr : visited[r]? = some false := hfalse r (by omega) (by omega) (by omega)
    have e : n + (hi - lo) = ((n + (i - lo)) + (hi - (i + 1))) + 1 := by omega
    rw [e, validate_pop h _ visited S (fun l' h' => by rw [hl] at h'; cases h'; exact ⟨hcl, hvl⟩)
      (fun r' h' => by rw [hr] at h'; cases h'; exact ⟨hcr, hvr, by rw [hl]; simp; omega⟩)]
    simp only [hl, hr]
    have hlsz : l < visited.size := lt_of_getElem? hvl
    have hrsz : r < (visited.setIfInBounds l true).size := by simpa using lt_of_getElem? hvr
    generalize hv2 : (visited.setIfInBounds l true).setIfInBounds r true = v2
    have hv2g : ∀ x, v2[x]? = if r = x then some true else if l = x then some true else visited[x]? := fun x => by
      rw [← hv2, getElem?_setIfInBounds_lt _ _ hrsz, getElem?_setIfInBounds_lt _ _ hlsz]
    have hv2sz : v2.size = tree.size := by rw [← hv2]; simpa using hsz
    obtain ⟨v3, hm3, hloop3⟩ := validate_shape hsr (n + (i - lo)) v2 (S.push l) hv2sz (by rw [hv2g]; simp)
      (fun x h1 h2 h3 => by
        rw [hv2g, if_neg (Ne.symm h3), if_neg (by omega)]; exact hfalse x (by omega) h2 (by omega))
    rw [hloop3]
    obtain ⟨v4, hm4, hloop4⟩ := validate_shape hsl n v3 S (by rw [hm3.1]; exact hv2sz)
      (by rw [hm3.2.2 l (by omega), hv2g, if_neg (by omega)]; simp)
      (fun x h1 h2 h3 => by
        rw [hm3.2.2 x (by omega), hv2g, if_neg (by omega), if_neg (Ne.symm h3)]; exact hfalse x h1 (by omega) (by omega))
    refine ⟨v4, ⟨by rw [hm4.1, hm3.1, hv2sz, hsz], fun x h1 h2 => ?_, fun x hx => ?_⟩, hloop4⟩
    · by_cases hxl : x < i
      · exact hm4.2.1 x h1 hxl
      · rw [hm4.2.2 x (by omega)]
        by_cases hxi : x = i
        · subst hxi
          rw [hm3.2.2 x (by omega), hv2g, if_neg (by omega), if_neg (by omega)]; exact hi'
        · exact hm3.2.1 x (by omega) h2
    · rw [hm4.2.2 x (by omega), hm3.2.2 x (by omega), hv2g, if_neg (by omega), if_neg (by omega)]

theorem validate_ok {root : Nat} {pn : ParseNode} (hs : Shape tree 0 tree.size root) (hroot : tree[root]? = some pn)
    (hpar : pn.parent = none) : validateParseTree root tree = .ok () := by
  have hb := hs.bounds
  simp only [validateParseTree, hroot, hpar]
  generalize hv0 : (Array.replicate tree.size false).setIfInBounds root true = v0
  have hv0sz : v0.size = tree.size := by rw [← hv0]; simp
  have hv0g : ∀ x, x < tree.size → v0[x]? = if root = x then some true else some false := fun x hx => by
    rw [← hv0, getElem?_setIfInBounds_lt _ _ (by simpa using hb.2.1)]
    split
    · rfl
    · simp [hx]
  obtain ⟨v', hm, hloop⟩ := validate_shape hs 1 v0 #[] hv0sz (by rw [hv0g root hb.2.1]; simp)
    (fun x h1 h2 h3 => by rw [hv0g x h2, if_neg (Ne.symm h3)])
  have e : tree.size + 1 = 1 + (tree.size - 0) := by omega
  have hpush : (#[root] : Array Nat) = (#[] : Array Nat).push root := rfl
  rw [e, hpush, hloop]
  simp only [validateLoop, Outcome.bind]
  have hall : ((tree.toList.zip v'.toList).all fun x => x.2 || x.1.definition == Definition.subexpression) = true := by
    rw [List.all_eq_true]
    intro p hp
    obtain ⟨k, hk1, hk2⟩ := List.mem_iff_getElem.1 hp
    simp only [List.getElem_zip] at hk2
    have hklt : k < tree.size := by simp at hk1; omega
    have h1 := hm.2.1 k (Nat.zero_le _) hklt
    have hkv : k < v'.size := by rw [hm.1, hv0sz]; exact hklt
    have : v'.toList[k]'(by simpa using hkv) = true := by
      have h2 : v'[k]? = some (v'.toList[k]'(by simpa using hkv)) := by simp [hkv]
      rw [h1] at h2
      exact (Option.some.inj h2).symm
    rw [← hk2]
    simp [this]
  have hback : (#[] : Array Nat).back? = none := rfl
  simp only [hback, hall, if_true]

end Garnish.Abs.Tree
