/-
The getters of `basicView` one at a time, their monotonicity (every answer survives when the cells that are not
input-value cells are kept: appending cells, overwriting an input-value cell), and the stack readers under appended
cells (`Sub`).  `BasicGarnishData` has three models, one per group of properties and not related by a theorem: `Store.Heap`
(six blocks; Lemmas/Heap.lean, C15), `Store.Lists.BHeap` (Lemmas/Lists.lean, C16) and `BasicOpt.Store` (Store/BasicCells.lean,
Store/BasicOptimize.lean) — the one of the `Optimize*`, `Mut*` and `Basic*` files, of C19 and C07Reach, and the one read here.
-/
import Garnish.Model.Runtime.BasicStore
import Garnish.Lemmas.RuntimeMono
import Garnish.Lemmas.MutWF
namespace Garnish.Lemmas.Runtime.Basic
open Garnish Gen Garnish.Model.Equality Garnish.Model.Runtime Garnish.Model.Runtime.Basic Garnish.BasicOpt
open Garnish.Lemmas.Runtime

variable {F : Type} (numOf : Nat → Number F)

theorem bv_typeOf (cells : Array Cell) (a : Nat) : (basicView numOf cells).typeOf a = (cells[a]?).bind cellTy := rfl
theorem bv_number (cells : Array Cell) (a : Nat) :
    (basicView numOf cells).number a = match cells[a]? with | some (.number n) => some (numOf n) | _ => none := rfl
theorem bv_char (cells : Array Cell) (a : Nat) :
    (basicView numOf cells).char a = match cells[a]? with | some (.char c) => some c | _ => none := rfl
theorem bv_byte (cells : Array Cell) (a : Nat) :
    (basicView numOf cells).byte a = match cells[a]? with | some (.byte b) => some b | _ => none := rfl
theorem bv_symbol (cells : Array Cell) (a : Nat) :
    (basicView numOf cells).symbol a = match cells[a]? with | some (.symbol s) => some s | _ => none := rfl
theorem bv_expression (cells : Array Cell) (a : Nat) :
    (basicView numOf cells).expression a = match cells[a]? with | some (.expression e) => some e | _ => none := rfl
theorem bv_external (cells : Array Cell) (a : Nat) :
    (basicView numOf cells).external a = match cells[a]? with | some (.external e) => some e | _ => none := rfl
theorem bv_type_ (cells : Array Cell) (a : Nat) :
    (basicView numOf cells).type_ a = match cells[a]? with | some (.type t) => some t | _ => none := rfl
theorem bv_pair (cells : Array Cell) (a : Nat) :
    (basicView numOf cells).pair a = match cells[a]? with | some (.pair l r) => some (l, r) | _ => none := rfl
theorem bv_range (cells : Array Cell) (a : Nat) :
    (basicView numOf cells).range a = match cells[a]? with | some (.range l r) => some (l, r) | _ => none := rfl
theorem bv_concatenation (cells : Array Cell) (a : Nat) :
    (basicView numOf cells).concatenation a = match cells[a]? with | some (.concatenation l r) => some (l, r) | _ => none := rfl
theorem bv_slice (cells : Array Cell) (a : Nat) :
    (basicView numOf cells).slice a = match cells[a]? with | some (.slice l r) => some (l, r) | _ => none := rfl
theorem bv_partial_ (cells : Array Cell) (a : Nat) :
    (basicView numOf cells).partial_ a = match cells[a]? with | some (.partial_ l r) => some (l, r) | _ => none := rfl
theorem bv_listItems (cells : Array Cell) (a : Nat) :
    (basicView numOf cells).listItems a = match cells[a]? with | some (.list n _) => listItems cells (a + 1) n | _ => none := rfl
theorem bv_concatItems (cells : Array Cell) (a : Nat) :
    (basicView numOf cells).concatItems a =
      match cells[a]? with
      | some (.concatenation l r) =>
        if l < a ∧ r < a then
          match flatB cells a l, flatB cells a r with
          | some x, some y => some (x ++ y)
          | _, _ => none
        else none
      | _ => none := rfl
theorem bv_chars (cells : Array Cell) (a : Nat) :
    (basicView numOf cells).chars a = match cells[a]? with
      | some (.charList n) => (inlineCells cells isChar (a + 1) n).map (·.map charCode) | _ => none := rfl
theorem bv_bytes (cells : Array Cell) (a : Nat) :
    (basicView numOf cells).bytes a = match cells[a]? with
      | some (.byteList n) => (inlineCells cells isByte (a + 1) n).map (·.map charCode) | _ => none := rfl
theorem bv_symList (cells : Array Cell) (a : Nat) :
    (basicView numOf cells).symList a = match cells[a]? with
      | some (.symbolList n) => (inlineCells cells isSymPart (a + 1) n).map (·.map (symPartOf numOf)) | _ => none := rfl

theorem typeOf_cell {numOf : Nat → Number F} {cells : Array Cell} {a : Nat} {c : Cell} (hc : cells[a]? = some c) :
    (basicView numOf cells).typeOf a = cellTy c := by
  rw [bv_typeOf, hc]; rfl

theorem cellTy_nsv {c : Cell} {t : Ty} (h : cellTy c = some t) : isSV c = false := by
  cases c <;> first | rfl | cases h

theorem agreeNS_cases {cells cells' : Array Cell} (hag : AgreeNS cells cells') (a : Nat) :
    cells[a]? = none ∨ (∃ p v, cells[a]? = some (.value p v)) ∨ (∃ v, cells[a]? = some (.valueRoot v)) ∨
      cells'[a]? = cells[a]? := by
  cases hc : cells[a]? with
  | none => exact .inl rfl
  | some c =>
    cases c
    case value p v => exact .inr (.inl ⟨p, v, rfl⟩)
    case valueRoot v => exact .inr (.inr (.inl ⟨v, rfl⟩))
    all_goals exact .inr (.inr (.inr (hag a _ hc rfl)))

theorem flatB_agree {cells cells' : Array Cell} (hag : AgreeNS cells cells') :
    ∀ (fuel a : Nat) (x : List Nat), flatB cells fuel a = some x → flatB cells' fuel a = some x
  | 0, _, _, h => by cases h
  | fuel + 1, a, x, h => by
    simp only [flatB] at h ⊢
    rcases agreeNS_cases hag a with h0 | ⟨p, v, hv⟩ | ⟨v, hv⟩ | hk
    · rw [h0] at h; cases h
    · rw [hv] at h; cases h
    · rw [hv] at h; cases h
    rw [hk]
    split at h
    · exact listItems_agreeS hag _ _ _ h
    · split at h <;> try cases h
      rename_i hlt
      rw [if_pos hlt]
      rename_i l r _
      cases h1 : flatB cells fuel l with
      | none => simp [h1] at h
      | some x1 =>
        cases h2 : flatB cells fuel r with
        | none => simp [h1, h2] at h
        | some x2 =>
          rw [flatB_agree hag fuel l x1 h1, flatB_agree hag fuel r x2 h2]
          simpa [h1, h2] using h
    · exact h
    · cases h

/-- **every answer of every getter is kept** when the cells that are not input-value cells are kept: a getter
answers by the cell at its address, never on an input-value cell, and what it reads beyond that cell (items, inline
cells, flattened operands) is kept as well -/
theorem basicView_le {cells cells' : Array Cell} (hag : AgreeNS cells cells') :
    ViewLe (basicView numOf cells) (basicView numOf cells') := by
  have inl : ∀ {p : Cell → Bool}, (∀ c, p c = true → isSV c = false) → ∀ {a n l},
      inlineCells cells p a n = some l → inlineCells cells' p a n = some l :=
    fun hp _ _ _ hl => inlineCells_agreeS hag _ hp _ _ _ hl
  constructor
  all_goals (
    intro a x h
    dsimp only [basicView] at h ⊢
    rcases agreeNS_cases hag a with h0 | ⟨p, v, hv⟩ | ⟨v, hv⟩ | hk
    · rw [h0] at h; cases h
    · rw [hv] at h; cases h
    · rw [hv] at h; cases h
    rw [hk])
  case listItems =>
    split at h
    · exact listItems_agreeS hag _ _ _ h
    · cases h
  case concatItems =>
    split at h <;> try cases h
    split at h <;> try cases h
    rename_i l r _ hlt
    rw [if_pos hlt]
    cases h1 : flatB cells a l with
    | none => simp [h1] at h
    | some x1 =>
      cases h2 : flatB cells a r with
      | none => simp [h1, h2] at h
      | some x2 =>
        rw [flatB_agree hag a l x1 h1, flatB_agree hag a r x2 h2]
        simpa [h1, h2] using h
  case chars | bytes | symList =>
    split at h <;> try cases h
    simp only [Option.map_eq_some_iff] at h ⊢
    obtain ⟨l, hl, rfl⟩ := h
    exact ⟨l, inl (by intro c hc; cases c <;> first | rfl | cases hc) hl, rfl⟩
  all_goals exact h

/-- keeping every cell (appending) -/
def Sub (cells cells' : Array Cell) : Prop := ∀ (i : Nat) (c : Cell), cells[i]? = some c → cells'[i]? = some c

theorem Sub.agreeNS {cells cells' : Array Cell} (h : Sub cells cells') : AgreeNS cells cells' :=
  fun i c hc _ => h i c hc

theorem sub_append (A B : Array Cell) : Sub A (A ++ B) := getElem?_append_of_some A B

theorem sub_of_toList {A B : Array Cell} {l : List Cell} (h : B.toList = A.toList ++ l) : Sub A B := by
  intro i c hc
  have hi := lt_of_getElem? hc
  rw [← Array.getElem?_toList, h, List.getElem?_append_left (by simpa using hi), Array.getElem?_toList]
  exact hc

theorem Sub.get {cells cells' : Array Cell} (h : Sub cells cells') {a : Nat} (ha : a < cells.size) :
    cells'[a]? = cells[a]? := by
  obtain ⟨c, hc⟩ : ∃ c, cells[a]? = some c := ⟨cells[a], by simp [ha]⟩
  rw [hc]; exact h a c hc

/-! The chains walk downwards: they read only the cells at and below their start. -/

theorem regChain_congr {cells cells' : Array Cell} :
    ∀ (fuel a : Nat), (∀ j, j ≤ a → cells'[j]? = cells[j]?) → regChain cells' fuel a = regChain cells fuel a
  | 0, _, _ => rfl
  | fuel + 1, a, h => by
    simp only [regChain, h a (Nat.le_refl a)]
    cases cells[a]? with
    | none => rfl
    | some c =>
      cases c <;> try rfl
      rename_i p v
      by_cases hp : p < a
      · simp only [hp, if_true]; rw [regChain_congr fuel p (fun j hj => h j (by omega))]
      · simp only [hp, if_false]

theorem valChain_congr {cells cells' : Array Cell} :
    ∀ (fuel a : Nat), (∀ j, j ≤ a → cells'[j]? = cells[j]?) → valChain cells' fuel a = valChain cells fuel a
  | 0, _, _ => rfl
  | fuel + 1, a, h => by
    simp only [valChain, h a (Nat.le_refl a)]
    cases cells[a]? with
    | none => rfl
    | some c =>
      cases c <;> try rfl
      rename_i p v
      by_cases hp : p < a
      · simp only [hp, if_true]; rw [valChain_congr fuel p (fun j hj => h j (by omega))]
      · simp only [hp, if_false]

theorem head_lt_of_headOK {cells : Array Cell} {a : Nat} (h : headOK cells (some a) = true) : a < cells.size :=
  node_lt h

theorem regsOf_sub {cells cells' : Array Cell} (h : Sub cells cells') {o : Option Nat}
    (ho : ∀ a, o = some a → a < cells.size) : regsOf cells' o = regsOf cells o := by
  cases o with
  | none => rfl
  | some a => exact regChain_congr _ a (fun _ hj => h.get (Nat.lt_of_le_of_lt hj (ho a rfl)))

theorem valsOf_sub {cells cells' : Array Cell} (h : Sub cells cells') {o : Option Nat}
    (ho : ∀ a, o = some a → a < cells.size) : valsOf cells' o = valsOf cells o := by
  cases o with
  | none => rfl
  | some a => exact valChain_congr _ a (fun _ hj => h.get (Nat.lt_of_le_of_lt hj (ho a rfl)))

theorem retOf_sub {cells cells' : Array Cell} (h : Sub cells cells') {a : Nat} (ha : a < cells.size) :
    retOf cells' a = retOf cells a := by
  cases a with
  | zero => rfl
  | succ i => simp only [retOf, h.get (by omega : i < cells.size)]

end Garnish.Lemmas.Runtime.Basic
