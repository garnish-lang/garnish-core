/-
`optimize` preserves unfoldings: the link relation of the anatomy (`Compacted`, Lemmas/MutOptimize.lean) is a
bisimulation between the block before and the compacted block on every set of addresses that is closed under links and
holds no stale cell (`Compacted.unfold_on`).  Its two uses: stores whose links all lead downwards (`WF`), and stores whose
input-value cells were updated in place (`WFv`).
-/
import Garnish.Lemmas.MutOptimize
namespace Garnish.BasicOpt
open Garnish

def ValueLink (cells : Array Cell) (i v : Nat) : Prop :=
  (∃ p, cells[i]? = some (.value p v)) ∨ cells[i]? = some (.valueRoot v)

/-- `S` = everything when nothing is stale (`WF`: `optimize_links`); `S` = the addresses that are no input-value cells off
the current chain when data never refers to input-value cells (`WFv`: `optimize_links_v`) -/
theorem Compacted.unfold_on {s s' : Store} {roots m : List Nat} {s5 s6 sR : Store} (C : Compacted s s' roots m s5 s6 sR)
    {S : Nat → Prop}
    (hS : ∀ x sh, S x → shape s.cells x = some sh → ∀ k ∈ sh.kids, S k)
    (hstale : ∀ i v, S i → i < s.retention → ValueLink s.cells i v →
      v < s.retention ∨ OnHead s.cells s.currentValue i) :
    ∀ x x', Link s6 s.cells.size s5.cells.size x x' → Dec s.cells x → S x →
      ∀ fuel, unfold s.cells fuel x = unfold s'.cells fuel x' := by
  intro x x' hl hd hsx fuel
  refine bisim_unfold s.cells s'.cells (fun x x' => Dec s.cells x ∧ Link s6 s.cells.size s5.cells.size x x' ∧ S x)
    ?_ fuel x x' ⟨hd, hl, hsx⟩
  clear hl hd hsx x x'
  intro x x' ⟨hdx, hlx, hsx⟩
  obtain ⟨sh, hsh, hk⟩ := hdx.shape
  have hSk := hS x sh hsx hsh
  have below : ∀ k, k < s.retention → Link s6 s.cells.size s5.cells.size k k := fun k hk => Or.inl ⟨rfl, by rw [C.ret6]; exact hk⟩
  rcases C.inv.good_of_link hlx with ⟨e, hxr⟩ | ⟨ni, hni1, hni2, hg⟩
  · -- a retained address
    rw [C.ret6] at hxr
    rw [e]
    by_cases hon : OnHead s.cells s.currentValue x
    · rcases C.repointed x hxr hon with ⟨p, v, v', h1, h2, h3, _⟩ | ⟨v, v', h1, h2, h3, _⟩
      · have e : sh = ⟨.value 0 0, [], [p, v]⟩ := solo_of_shape h1 rfl hsh
        subst e
        have hpx := C.pre.down x p v h1
        exact ⟨_, ⟨.value 0 0, [], [p, v']⟩, hsh, shape_of_solo h2 rfl, rfl, rfl,
          .cons ⟨hk p (by simp), below p (by omega), hSk p (by simp)⟩ (.cons ⟨hk v (by simp), h3, hSk v (by simp)⟩ .nil)⟩
      · have e : sh = ⟨.valueRoot 0, [], [v]⟩ := solo_of_shape h1 rfl hsh
        subst e
        exact ⟨_, ⟨.valueRoot 0, [], [v']⟩, hsh, shape_of_solo h2 rfl, rfl, rfl,
          .cons ⟨hk v (by simp), h3, hSk v (by simp)⟩ .nil⟩
    · -- unchanged, and all its links stay below the retention count
      have hsame := C.keepCell x hxr hon
      refine ⟨sh, sh, hsh, by rw [C.shapeOld hxr hsame]; exact hsh, rfl, rfl,
        allRel_refl_of _ fun k hkm => ⟨hk k hkm, below k ?_, hSk k hkm⟩⟩
      cases hsv : svAt s.cells x with
      | false => have := C.pre.back x sh hsh hsv k hkm; omega
      | true =>
        rcases sv_cell hsv with ⟨p, v, hc⟩ | ⟨v, hc⟩
        · have e : sh = ⟨.value 0 0, [], [p, v]⟩ := solo_of_shape hc rfl hsh
          subst e
          have hpx := C.pre.down x p v hc
          simp at hkm
          rcases hkm with rfl | rfl
          · omega
          · exact (hstale x k hsx hxr (Or.inl ⟨p, hc⟩)).resolve_right hon
        · have e : sh = ⟨.valueRoot 0, [], [v]⟩ := solo_of_shape hc rfl hsh
          subst e
          simp at hkm
          subst hkm
          exact (hstale x k hsx hxr (Or.inr hc)).resolve_right hon
  · -- a copy
    obtain ⟨sh', g1, g2, g3, g4⟩ := hg sh hsh
    have hb := shape_bound g1
    have e1 : ni = s5.cells.size + (ni - s5.cells.size) := by omega
    have e2 : x' = s.retention + (ni - s5.cells.size) := by have := C.sizeGe; have := C.inv.hiLe; have := C.retLe; omega
    rw [e1] at g1 hb
    have g1' := C.shapeNew hb g1
    rw [← e2] at g1'
    exact ⟨sh, sh', hsh, g1', g2.symm, g3.symm, AllRel.imp_mem (fun k k' hkm hl => ⟨hk k hkm, hl, hSk k hkm⟩) g4⟩

theorem optimize_links {s s' : Store} {roots m : List Nat} (hwf : WF s) (hroots : rootsOK s roots = true)
    (h : Store.optimize s roots = .ok (s', m)) : ∃ L, LinksPreserved s s' roots m L := by
  obtain ⟨s5, s6, sR, C⟩ := optimize_compacted (hwf.optPre hroots) h
  have hy := hwf.optHyp
  have hvl : ∀ i v, ValueLink s.cells i v → v < i := by
    rintro i v (⟨p, hc⟩ | hc)
    · exact hy.nodeBack i _ (shape_of_solo hc (sh := ⟨.value 0 0, [], [p, v]⟩) rfl) v (by simp)
    · exact hy.nodeBack i _ (shape_of_solo hc (sh := ⟨.valueRoot 0, [], [v]⟩) rfl) v (by simp)
  have hunf := C.unfold_on (S := fun _ => True) (fun _ _ _ _ _ _ => trivial) (fun i v _ hi hv => Or.inl (by have := hvl i v hv; omega))
  have lk := fun x x' hl => C.linkR x x' hl
  refine ⟨Link s6 s.cells.size s5.cells.size, fun x x' hl hd => hunf x x' hl hd trivial,
    C.tail.register.imp fun _ _ _ => lk _ _, C.tail.value.imp fun _ _ _ => lk _ _, C.tail.frame.imp fun _ _ _ => lk _ _,
    C.tail.rootsLen, fun k r hk => (C.tail.roots k r hk).imp fun r' hr' => ⟨hr'.1, lk _ _ hr'.2⟩, C.tail.symLen,
    fun j sym di hj => (C.tail.syms j sym di hj).imp fun d' hd' => ⟨hd'.1, lk _ _ hd'.2⟩, C.tail.retention, ?_⟩
  intro i hi
  by_cases hon : OnHead s.cells s.currentValue i
  · rcases C.repointed i hi hon with ⟨p, v, v', h1, h2, _, h4⟩ | ⟨v, v', h1, h2, _, h4⟩
    · rw [h1, h2, h4 (by have := hvl i v (Or.inl ⟨p, h1⟩); omega)]
    · rw [h1, h2, h4 (by have := hvl i v (Or.inr h1); omega)]
  · exact C.keepCell i hi hon


theorem optimize_links_v {s s' : Store} {roots m : List Nat} (hwf : WFv s) (hroots : rootsOKv s roots = true)
    (h : Store.optimize s roots = .ok (s', m)) : ∃ L, LinksPreservedV s s' roots m L := by
  obtain ⟨s5, s6, sR, C⟩ := optimize_compacted (hwf.optPre hroots) h
  have hy := hwf.optHypV
  have hh := hwf.headsV hroots
  have hvsv : ∀ i v, ValueLink s.cells i v → svAt s.cells i = true ∧ svAt s.cells v = false := by
    rintro i v (⟨p, hc⟩ | hc)
    · exact ⟨by simp [svAt, hc, isSV], hy.valueData i p v hc⟩
    · exact ⟨by simp [svAt, hc, isSV], hy.rootData i v hc⟩
  have hunf := C.unfold_on (S := fun x => svAt s.cells x = true → OnHead s.cells s.currentValue x)
    (fun x sh hx hsh => kids_onHead hy hsh hx) (fun i v hSi _ hv => Or.inr (hSi (hvsv i v hv).1))
  have lk := fun x x' hl => C.linkR x x' hl
  have nsv : ∀ {x : Nat}, svAt s.cells x = false → svAt s.cells x = true → OnHead s.cells s.currentValue x :=
    fun h1 h2 => by rw [h1] at h2; cases h2
  refine ⟨fun x x' => Link s6 s.cells.size s5.cells.size x x' ∧
    (svAt s.cells x = true → OnHead s.cells s.currentValue x), ?_⟩
  refine ⟨fun x x' ⟨h1, h2⟩ hd fuel => hunf x x' h1 hd h2 fuel, ?_, ?_, ?_, C.tail.rootsLen, ?_, C.tail.symLen, ?_,
    C.tail.retention, C.keepCell, ?_⟩
  · exact C.tail.register.imp (fun i m hi hl => ⟨lk _ _ hl, nsv (hh.reg i hi)⟩)
  · exact C.tail.value.imp (fun i m hi hl => ⟨lk _ _ hl, fun _ => ⟨i, hi, OnChain.here (hh.val i hi)⟩⟩)
  · exact C.tail.frame.imp (fun i m hi hl => ⟨lk _ _ hl, nsv (hh.frm i hi)⟩)
  · intro k r hk
    obtain ⟨r', g1, g2⟩ := C.tail.roots k r hk
    exact ⟨r', g1, lk _ _ g2, nsv (hh.roots r (List.mem_of_getElem? hk))⟩
  · intro j sym di hj
    obtain ⟨di', g1, g2⟩ := C.tail.syms j sym di hj
    exact ⟨di', g1, lk _ _ g2, nsv (hh.syms j sym di hj)⟩
  · intro i hi hon
    rcases C.repointed i hi hon with ⟨p, v, v', h1, h2, h3, _⟩ | ⟨v, v', h1, h2, h3, _⟩
    · exact Or.inl ⟨p, v, v', h1, h2, h3, nsv (hvsv i v (Or.inl ⟨p, h1⟩)).2⟩
    · exact Or.inr ⟨v, v', h1, h2, h3, nsv (hvsv i v (Or.inr h1)).2⟩


end Garnish.BasicOpt
