/-
Lexing of SPELLED literals, part 4 (C14, lexer side): what the spellings need of the character classes (`CharClass.Lit`),
how each kind of token starts (`starts_*`), and `TokSpelling` for numbers, symbols, operators and quoted texts
(`tokSpelling_quoted`: stated once for both kinds of quote; instances in LexSpell5).
-/
import Garnish.Lemmas.LexSpell3
import Garnish.Spec.Spell
namespace Garnish.Model.Lexer
open Garnish.Model Garnish.Model.Parser Garnish.Spec Garnish.Spec.Spell

/-- what the spellings need of the two Unicode predicates (`is_numeric`, `is_alphanumeric`) beyond `SaneBlank` -/
structure CharClass.Lit (cc : CharClass) : Prop extends cc.SaneBlank where
  digitN : ∀ d, d < 10 → cc.isNumeric (digitChar d) = true
  digitA : ∀ d, d < 36 → (cc.isNumeric (digitChar d) || cc.isAlphanumeric (digitChar d)) = true
  quoteN : cc.isNumeric '"' = false
  quoteA : cc.isAlphanumeric '"' = false
  aposN : cc.isNumeric '\'' = false
  aposA : cc.isAlphanumeric '\'' = false
  colonN : cc.isNumeric ':' = false

theorem digitFacts : ∀ d, d < 10 → walkOperator theTree [digitChar d] = none ∧
    isAsciiWhitespace (digitChar d) = false ∧ digitChar d ≠ '\r' ∧ digitChar d ≠ ' ' ∧ digitChar d ≠ '\t' ∧
    digitChar d ≠ '\n' := by
  have h : ∀ d, d < 10 → digitChar d ∉ opChars ∧ isAsciiWhitespace (digitChar d) = false ∧ digitChar d ≠ '\r' ∧
      digitChar d ≠ ' ' ∧ digitChar d ≠ '\t' ∧ digitChar d ≠ '\n' := by decide +kernel
  exact fun d hd => ⟨walk_none_of_not_mem [] _ (h d hd).1, (h d hd).2⟩

theorem starts_digit (cc : CharClass) (hcc : cc.Lit) (d : Nat) (hd : d < 10) :
    Starts cc (digitChar d) .number (some .number) := by
  obtain ⟨hw, h2, g1, g2, g3, _⟩ := digitFacts d hd
  exact .of_plain hw fun _ => by simp [startPlain, g1, g2, g3, h2, hcc.digitN d hd]

theorem quoteFacts : walkOperator theTree ['"'] = none ∧ walkOperator theTree ['\''] = none ∧
    walkOperator theTree [':'] = none :=
  ⟨walk_none_of_not_mem [] _ (by decide), walk_none_of_not_mem [] _ (by decide), walk_none_of_not_mem [] _ (by decide)⟩

theorem starts_quote (cc : CharClass) (hcc : cc.Lit) : Starts cc '"' .startCharList (some .charList) := by
  exact .of_plain quoteFacts.1 fun _ => by
    simp [startPlain, isAsciiWhitespace, isIdentifierChar, hcc.quoteN, hcc.quoteA]

theorem starts_apos (cc : CharClass) (hcc : cc.Lit) : Starts cc '\'' .startByteList (some .byteList) := by
  exact .of_plain quoteFacts.2.1 fun _ => by
    simp [startPlain, isAsciiWhitespace, isIdentifierChar, hcc.aposN, hcc.aposA]

theorem starts_colon (cc : CharClass) (hcc : cc.Lit) : Starts cc ':' .identifier (some .identifier) := by
  exact .of_plain quoteFacts.2.2 fun _ => by simp [startPlain, isAsciiWhitespace, isIdentifierChar, hcc.colonN]

theorem starts_op (cc : CharClass) (x : Char) (n : LexerOperatorNode) (hw : walkOperator theTree [x] = some n) :
    Starts cc x .operator n.tokenType := by
  intro σ htr
  rw [startToken_eq, htr, startKind_operator cc _ hw]

theorem tokSpelling_number (cc : CharClass) (hcc : cc.Lit) (d : Nat) (hd : d < 10) (r : List Char)
    (hr : ∀ x ∈ r, (cc.isNumeric x || x == '_' || cc.isAlphanumeric x) = true) :
    TokSpelling cc (digitChar d :: r) .number := by
  obtain ⟨_, _, _, f1, f2, f3⟩ := digitFacts d hd
  refine TokSpelling.ofPending cc hcc.toSane (digitChar d) r .number .number (some .number) (some .number) .number
    (fun h => by rcases h with h | h; exact f1 h; exact f2 h) f3 (starts_digit cc hcc d hd) (by decide) (by decide)
    (ending_plain cc hcc.toSaneBlank .number .number _ (Or.inl rfl) (by decide)) ?_
  intro σ P toks h
  obtain ⟨σ', hr', hI⟩ := run_ind cc (fun cs p σ => At σ .number (some .number) cs P p 0 0 false)
    (fun _ x => (cc.isNumeric x || x == '_' || cc.isAlphanumeric x) = true) (fun _ _ _ h => h.ok)
    (fun cs p σ x h hx => h.cont (.numCont h.state hx) h.state h.type (congrArg (· ++ [x]) h.chars) h.sq h.eq)
    r [digitChar d] (adv P (digitChar d)) σ toks h (fun u x v e => hr x (by simp [e]))
  exact ⟨σ', hr', 0, 0, by simpa [advs_cons] using hI⟩

theorem tokSpelling_spellSymbol (cc : CharClass) (hcc : cc.Lit) (name : List Char) (hn : name.head? ≠ some ':')
    (hid : ∀ x ∈ name, isIdentifierChar cc x = true) : TokSpelling cc (spellSymbol name) .symbol := by
  refine TokSpelling.ofPending cc hcc.toSane ':' name .identifier .identifier (some .identifier) (some .identifier) .symbol
    (by unfold IsBlank; decide) (by decide) (starts_colon cc hcc) (by decide) (by decide)
    (ending_symbol cc hcc.toSaneBlank name hn _) ?_
  intro σ P toks h
  obtain ⟨σ', hr', hI⟩ := run_ind cc (fun cs p σ => At σ .identifier (some .identifier) cs P p 0 0 false)
    (fun _ x => isIdentifierChar cc x = true) (fun _ _ _ h => h.ok)
    (fun cs p σ x h hx => h.cont (.idCont h.state hx) h.state h.type (congrArg (· ++ [x]) h.chars) h.sq h.eq)
    name [':'] (adv P ':') σ toks h (fun u x v e => hid x (by simp [e]))
  exact ⟨σ', hr', 0, 0, by simpa [advs_cons] using hI⟩

theorem tableNoIdentifier : ∀ p ∈ Garnish.Gen.LexTables.operatorChars, p.2 ≠ Gen.TokenType.identifier := by decide

theorem tableNoEmpty : ∀ p ∈ Garnish.Gen.LexTables.operatorChars, p.1 ≠ [] := by decide

theorem tokSpelling_operator (cc : CharClass) (hcc : cc.Lit) (op : List Char) (oty : Gen.TokenType)
    (h : (op, oty) ∈ Garnish.Gen.LexTables.operatorChars) : TokSpelling cc op oty := by
  have hne : oty ≠ .identifier := tableNoIdentifier _ h
  obtain ⟨nf, hwf, hty⟩ := tree_complete h
  cases op with
  | nil =>
    exfalso
    exact tableNoEmpty _ h rfl
  | cons x r =>
    obtain ⟨n1, hn1, _⟩ := walk_append [x] r theTree nf hwf
    have hxb : ¬ IsBlank x := by
      intro hb
      have := walk_ender_none [] x (ender_of_blank hb)
      rw [List.nil_append, hn1] at this; cases this
    have hxn : x ≠ '\n' := by
      intro e
      have := walk_ender_none [] x (.inr (.inr (.inr e)))
      rw [List.nil_append, hn1] at this; cases this
    refine TokSpelling.ofPending cc hcc.toSane x r .operator .operator n1.tokenType (some oty) oty hxb hxn
      (starts_op cc x n1 hn1) (by decide) hne
      (ending_plain cc hcc.toSaneBlank .operator oty _ (Or.inr (Or.inr (Or.inr (Or.inr rfl)))) (by decide)) ?_
    intro σ P toks hA
    obtain ⟨σ', hr', n, hwn, hI⟩ := run_ind cc
      (fun cs p σ => ∃ n, walkOperator theTree cs = some n ∧ At σ .operator n.tokenType cs P p 0 0 false)
      (fun cs x => (walkOperator theTree (cs ++ [x])).isSome = true)
      (fun _ _ _ h => by obtain ⟨_, _, hA⟩ := h; exact hA.ok)
      (fun cs p σ x h hx => by
        obtain ⟨n, _, hA⟩ := h
        cases hw' : walkOperator theTree (cs ++ [x]) with
        | none => rw [hw'] at hx; cases hx
        | some n' =>
          obtain ⟨σ', hp, h'⟩ := hA.cont (cc := cc) (.opPath hA.state (by rw [hA.tree, hA.chars]; exact hw')) hA.state rfl
            (congrArg (· ++ [x]) hA.chars) hA.sq hA.eq
          exact ⟨σ', hp, n', rfl, h'⟩)
      r [x] (adv P x) σ toks ⟨n1, hn1, hA⟩
      (fun u y v e => by
        have e2 : x :: r = ([x] ++ u ++ [y]) ++ v := by simp [e]
        rw [e2] at hwf
        obtain ⟨m, hm, _⟩ := walk_append _ v theTree nf hwf
        rw [hm]; rfl)
    have : n = nf := by
      have e3 : [x] ++ r = x :: r := rfl
      rw [e3, hwf] at hwn
      exact (Option.some.inj hwn).symm
    subst this
    rw [hty] at hI
    exact ⟨σ', hr', 0, 0, by simpa [advs_cons] using hI⟩

section quoted
variable (cc : CharClass) (Q : Char) (stS stB : LexingState) (t : Gen.TokenType)

/-- the closing quotes: `m + 1` of them, the last one closes the token -/
theorem run_closing
    (hB_quote : ∀ (σ : Lexer) (cs : List Char) (p0 p : Nat × Nat) (sq eq : Nat), At σ stB (some t) cs p0 p sq eq false →
      sq ≠ eq + 1 → ∃ σ', processChar cc σ Q = .ok (σ', none) ∧ At σ' stB (some t) (cs ++ [Q]) p0 (adv p Q) sq (eq + 1) false)
    (hB_close : ∀ (σ : Lexer) (cs : List Char) (p0 p : Nat × Nat) (sq eq : Nat), At σ stB (some t) cs p0 p sq eq false →
      sq = eq + 1 → ∃ σ', processChar cc σ Q = .ok (σ', some ⟨cs ++ [Q], t, p0.1, p0.2⟩) ∧
        At σ' .noToken none [] p0 (adv p Q) 0 0 false) :
    ∀ (m eq sq : Nat) (cs : List Char) (p0 p : Nat × Nat) (σ : Lexer) (toks : List LexerToken),
      sq = eq + m + 1 → At σ stB (some t) cs p0 p sq eq false →
      ∃ σ', runChars cc (List.replicate (m + 1) Q) σ toks =
          .ok (σ', toks ++ [⟨cs ++ List.replicate (m + 1) Q, t, p0.1, p0.2⟩]) ∧
        At σ' .noToken none [] p0 (advs p (List.replicate (m + 1) Q)) 0 0 false
  | 0, eq, sq, cs, p0, p, σ, toks, hsq, h => by
    obtain ⟨σ', hp, h'⟩ := hB_close σ cs p0 p sq eq h (by omega)
    refine ⟨σ', ?_, h'⟩
    show runChars cc [Q] σ toks = _
    rw [runChars_some cc Q [] σ σ' toks _ h.ok hp h'.ok]; rfl
  | m + 1, eq, sq, cs, p0, p, σ, toks, hsq, h => by
    obtain ⟨σ1, hp, h1⟩ := hB_quote σ cs p0 p sq eq h (by omega)
    obtain ⟨σ', hr, h'⟩ := run_closing hB_quote hB_close m (eq + 1) sq (cs ++ [Q]) p0 (adv p Q) σ1 toks (by omega) h1
    refine ⟨σ', ?_, ?_⟩
    · rw [List.replicate_succ, runChars_none cc Q _ σ σ1 toks h.ok hp, hr]
      simp [List.replicate_succ]
    · rw [List.replicate_succ, advs_cons]; exact h'

/-- `k+1` quotes, a body without the quote, `k+1` quotes: one token — for `k ≠ 1` (two quotes are the empty literal),
and a non-empty body unless `k = 0` (with three or more quotes and an empty body the opening run never ends) -/
theorem tokSpelling_quoted (hcc : cc.Sane) (hQb : ¬ IsBlank Q) (hQn : Q ≠ '\n') (hQ1 : Q.utf8Size = 1)
    (hstart : Starts cc Q stS (some t)) (hne : t ≠ .identifier) (hstS : stS ≠ .noToken)
    (hS_quote : ∀ (σ : Lexer) (cs : List Char) (p0 p : Nat × Nat) (sq eq : Nat), At σ stS (some t) cs p0 p sq eq false →
      ∃ σ', processChar cc σ Q = .ok (σ', none) ∧ At σ' stS (some t) (cs ++ [Q]) p0 (adv p Q) sq eq false)
    (hS_body : ∀ (σ : Lexer) (x : Char) (cs : List Char) (p0 p : Nat × Nat) (sq eq : Nat),
      At σ stS (some t) cs p0 p sq eq false → x ≠ Q → utf8Len cs ≠ 2 →
      ∃ σ', processChar cc σ x = .ok (σ', none) ∧ At σ' stB (some t) (cs ++ [x]) p0 (adv p x) (utf8Len cs) eq false)
    (hB_body : ∀ (σ : Lexer) (x : Char) (cs : List Char) (p0 p : Nat × Nat) (sq eq : Nat),
      At σ stB (some t) cs p0 p sq eq false → x ≠ Q →
      ∃ σ', processChar cc σ x = .ok (σ', none) ∧ At σ' stB (some t) (cs ++ [x]) p0 (adv p x) sq 0 false)
    (hB_quote : ∀ (σ : Lexer) (cs : List Char) (p0 p : Nat × Nat) (sq eq : Nat), At σ stB (some t) cs p0 p sq eq false →
      sq ≠ eq + 1 → ∃ σ', processChar cc σ Q = .ok (σ', none) ∧ At σ' stB (some t) (cs ++ [Q]) p0 (adv p Q) sq (eq + 1) false)
    (hB_close : ∀ (σ : Lexer) (cs : List Char) (p0 p : Nat × Nat) (sq eq : Nat), At σ stB (some t) cs p0 p sq eq false →
      sq = eq + 1 → ∃ σ', processChar cc σ Q = .ok (σ', some ⟨cs ++ [Q], t, p0.1, p0.2⟩) ∧
        At σ' .noToken none [] p0 (adv p Q) 0 0 false)
    (hEmpty : Ending cc stS (some t) [Q, Q] t)
    (k : Nat) (body : List Char) (hbody : Q ∉ body) (hk : k ≠ 1) (hnon : body ≠ [] ∨ k = 0) :
    TokSpelling cc (List.replicate (k + 1) Q ++ body ++ List.replicate (k + 1) Q) t := by
  cases body with
  | nil =>
    have hk0 : k = 0 := by rcases hnon with h | h; exact absurd rfl h; exact h
    subst hk0
    show TokSpelling cc (Q :: [Q]) t
    refine TokSpelling.ofPending cc hcc Q [Q] stS stS (some t) (some t) t hQb hQn hstart hstS hne hEmpty ?_
    intro σ P toks h
    obtain ⟨σ1, hp, h1⟩ := hS_quote σ [Q] P (adv P Q) 0 0 h
    exact ⟨σ1, by rw [runChars_none cc Q [] σ σ1 toks h.ok hp]; rfl, 0, 0, h1⟩
  | cons b0 bs =>
    have hb0 : b0 ≠ Q := fun e => hbody (by simp [e])
    have hbs : ∀ x ∈ bs, x ≠ Q := fun x hx e => hbody (by simp [← e, hx])
    have etext : List.replicate (k + 1) Q ++ (b0 :: bs) ++ List.replicate (k + 1) Q =
        Q :: (List.replicate k Q ++ ([b0] ++ (bs ++ List.replicate (k + 1) Q))) := by
      simp [List.replicate_succ]
    rw [etext]
    refine TokSpelling.ofClosed cc hcc Q _ stS (some t) t hQb hQn hstart ?_
    intro σ P toks h
    -- the other opening quotes
    obtain ⟨σ1, r1, h1⟩ := run_ind cc (fun cs p σ => At σ stS (some t) cs P p 0 0 false) (fun _ x => x = Q)
      (fun _ _ _ h => h.ok) (fun cs p σ x h hx => by rw [hx]; exact hS_quote σ cs P p 0 0 h)
      (List.replicate k Q) [Q] (adv P Q) σ toks h (fun u x v e => by
        have : x ∈ List.replicate k Q := by rw [e]; simp
        exact (List.mem_replicate.mp this).2)
    have elen : utf8Len ([Q] ++ List.replicate k Q) = k + 1 := by
      have := utf8Len_replicate Q hQ1 (k + 1)
      rwa [List.replicate_succ] at this
    -- the first character of the body
    obtain ⟨σ2, hp2, h2⟩ := hS_body σ1 b0 _ P _ 0 0 h1 hb0 (by rw [elen]; omega)
    rw [elen] at h2
    -- the rest of the body
    obtain ⟨σ3, r3, h3⟩ := run_ind cc (fun cs p σ => At σ stB (some t) cs P p (k + 1) 0 false) (fun _ x => x ≠ Q)
      (fun _ _ _ h => h.ok) (fun cs p σ x h hx => hB_body σ x cs P p (k + 1) 0 h hx)
      bs _ _ σ2 toks h2 (fun u x v e => hbs x (by simp [e]))
    -- the closing quotes
    obtain ⟨σ4, r4, h4⟩ := run_closing cc Q stB t hB_quote hB_close k 0 (k + 1) _ P _ σ3 toks (by omega) h3
    refine ⟨σ4, P, ?_, ?_⟩
    · rw [runChars_append cc _ _ σ σ1 toks toks r1, runChars_append cc [b0] _ σ1 σ2 toks toks
        (by rw [runChars_none cc b0 [] σ1 σ2 toks h1.ok hp2]; rfl), runChars_append cc bs _ σ2 σ3 toks toks r3, r4]
      simp [List.replicate_succ]
    · simpa [advs_append, advs_cons] using h4

end quoted

end Garnish.Model.Lexer
