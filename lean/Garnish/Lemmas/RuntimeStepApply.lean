/-
The step simulation, `apply_internal` against Abs/Machine `applyStep` (`Apply`, `EmptyApply`): by the kind of
application (`Core.applyInternal_refines`), an outcome goes through `pushOut`, the `External` arm through the host's
`apply`, entering an expression through `EnteredI`.
-/
import Garnish.Lemmas.RuntimeStepResolve
import Garnish.Lemmas.RuntimeApply4
import Garnish.Model.Runtime.StepDomain
import Garnish.Lemmas.Ops
namespace Garnish.Lemmas.Runtime
open Garnish Gen Garnish.Abs Garnish.Model.Equality Garnish.Model.Runtime Garnish.Props.RuntimeRefine

variable {F σ : Type} {S : RStore F σ} {P : Prog F} {host : Host F}

namespace Core
open On
variable {Inv : σ → Prop} {Rd : σ → Nat → Prop} {K : Prop}

section
variable (fo : FloatOps F)

theorem applyInternal_sim (L : LawsK S Inv Rd K) (HR : HostRefinesI S Inv host) {s : σ} {m : MState F}
    (hpc : S.cursor s = m.pc) {r l : Nat} {rest : List Nat} {vr vl : Val F}
    (dl : Decodes (S.view s) l vl) (dr : Decodes (S.view s) r vr)
    {regs0 : List (Val F)} (hd : SimD S P s regs0 m.vals m.frames) {mrest : List (Val F)} (hrest : DecodesList (S.view s) rest mrest)
    {instr : Instruction} {ur : Bool} {res : Outcome (Option Nat × σ)}
    (href : ApplyOutI S Inv s res rest l r vl vr (applyKind fo instr ur vl vr)) :
    HandlerSimI S Inv P s res m (applyStep fo host P { m with regs := mrest } instr ur vl vr) := by
  unfold applyStep
  cases hk : applyKind fo instr ur vl vr with
  | out o =>
    rw [hk] at href
    have := handlerSimI_of_refines (m := m) L HR hd hrest (by simp [hpc]) href.1
      (fun op a b ho => by obtain ⟨rfl, rfl⟩ := href.2 op a b ho; exact ⟨dl, Or.inl dr⟩)
    simp only []
    cases hx : pushOut host { m with regs := mrest } o <;> rw [hx] at this <;> exact this
  | external n arg =>
    rw [hk] at href
    obtain ⟨rfl, s0, e0, hprot⟩ := href
    obtain ⟨s1, h1, hc1, hd1, hk1, i1, ht1⟩ := hostCall_sim (P := P) (c' := .apply n arg) (L.apply n r)
      (HR.apply n r arg s0 e0.inv (e0.dec dr)) hprot
      (SimD.ofEff hd e0.toEff (decodesList_keeps e0.keeps hrest) (decodesList_keeps e0.keeps hd.vals))
      ⟨rfl, e0.dec dr⟩
    simp only []
    have : ∀ X : Except ErrClass (MState F × Nat),
        X = .ok (({ m with regs := ((host.apply n arg).getD .unit) :: mrest
                           trace := (Abs.HostCall.apply n arg) :: m.trace } : MState F), m.pc + 1) →
        HandlerSimI S Inv P s res m X := by
      rintro _ rfl
      exact ⟨_, s1, h1, by simp [hpc], hc1.trans e0.keeps.cur, hd1, fun x v h => hk1 x v (e0.dec h), i1,
        fun h => ht1 _ (by rw [e0.trace]; exact traceRel_mapDec e0.keeps.dec h)⟩
    apply this
    cases host.apply n arg <;> rfl
  | enter j input =>
    rw [hk] at href
    replace href : EnteredI S Inv s res rest j input := href
    simp only []
    unfold EnteredI at href
    rw [hd.jumps] at href
    cases hj : P.jumps[j]? with
    | none => simp [jumpTarget, hj]; trivial
    | some t =>
      rw [hj] at href
      obtain ⟨ia, s1, h1, dia, e1⟩ := href
      have : jumpTarget P j = .ok t := by simp [jumpTarget, hj]
      rw [this]
      refine ⟨some t, s1, h1, rfl, e1.keeps.cur, ?_, e1.keeps.dec, e1.inv,
        fun h => by rw [e1.trace]; exact traceRel_mapDec e1.keeps.dec h⟩
      exact SimD.ofFEff hd e1.toFEff (decodesList_keeps e1.keeps hrest) (.cons dia (decodesList_keeps e1.keeps hd.vals))
        (.cons (by simp [hpc]) (decodesList_keeps e1.keeps hrest) (framesRel_keeps e1.keeps hd.frames))

theorem handle_apply (L : LawsK S Inv Rd K) (HR : HostRefinesI S Inv host) (fuel : Nat) (H : OtherHandlers σ) {s : σ}
    {m : MState F} (hsim : Sim S P s m) (hi : Inv s) (operand : Option Nat)
    (hdom : ∀ vr vl rs, m.regs = vr :: vl :: rs → ApplyDomain fo fuel vl vr ∧ ApplyDomainK fo K S Inv true vl vr)
    (hm : K → MDeepN m 2) :
    HandlerSimI S Inv P s (dispatch fo S fuel H .apply operand s) m (handle fo host P m .apply operand) := by
  simp only [handle]
  split
  · rename_i vr vl rs hregs
    have hdr := hsim.2.regs
    rw [hregs] at hdr
    obtain ⟨r, as1, e1, dr, t1⟩ := decodesList_cons_inv hdr
    obtain ⟨l, rest, rfl, dl, t2⟩ := decodesList_cons_inv t1
    exact applyInternal_sim fo L HR hsim.1 dl dr hsim.2 t2
      (applyInternal_refines fo L fuel .apply true e1 dl dr (hdom vr vl rs hregs).1 (hdom vr vl rs hregs).2 hi
        (deepK_of_sim hsim.2 t2 fun k => (hm k).two hregs))
  · trivial

theorem handle_emptyApply (L : LawsK S Inv Rd K) (HR : HostRefinesI S Inv host) (fuel : Nat) (H : OtherHandlers σ)
    {s : σ} {m : MState F} (hsim : Sim S P s m) (hi : Inv s) (operand : Option Nat)
    (hdom : ∀ vl rs, m.regs = vl :: rs → ApplyDomain fo fuel vl .unit ∧ ApplyDomainK fo K S Inv false vl .unit)
    (hm : K → MDeepN m 1) :
    HandlerSimI S Inv P s (dispatch fo S fuel H .emptyApply operand s) m (handle fo host P m .emptyApply operand) := by
  simp only [handle]
  split
  · rename_i vl rs hregs
    have hdr := hsim.2.regs
    rw [hregs] at hdr
    obtain ⟨l, rest, e1, dl, t1⟩ := decodesList_cons_inv hdr
    obtain ⟨u, s1, h1u, du, eu⟩ := pushUnit_spec L s hi
    rw [e1] at eu
    have hd1 : SimD S P s1 (.unit :: m.regs) m.vals m.frames :=
      SimD.ofEff hsim.2 eu.toEff (.cons du (decodesList_keeps eu.keeps (e1 ▸ hsim.2.regs))) (decodesList_keeps eu.keeps hsim.2.vals)
    refine HandlerSimI.afterEff eu ?_
    show HandlerSimI S Inv P s1 (emptyApply fo S fuel s) m _
    rw [show emptyApply fo S fuel s = applyInternal fo S fuel .emptyApply false s1 by rw [emptyApply, bind_ok h1u]]
    exact applyInternal_sim fo L HR (eu.keeps.cur.trans hsim.1) (eu.dec dl) du hd1 (decodesList_keeps eu.keeps t1)
      (applyInternal_refines fo L fuel .emptyApply false eu.regs (eu.dec dl) du (hdom vl rs hregs).1 (hdom vl rs hregs).2
        eu.inv (eu.deepK (deepK_of_sim hsim.2 t1 fun k => (hm k).one hregs)))
  · trivial

end
end Core

end Garnish.Lemmas.Runtime
