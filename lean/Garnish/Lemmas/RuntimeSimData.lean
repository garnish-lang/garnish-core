/-
Related data for the step simulation: `SimD` and `FramesRel` stay related over the effects of the contract
(`SimD.ofParts`, `SimD.ofEff` …), and `DecodesList` at a cons gives the head and the tail (`decodesList_cons_inv` …).
-/
import Garnish.Model.Runtime.Sim
import Garnish.Lemmas.RuntimeConcat
namespace Garnish.Lemmas.Runtime
open Garnish Gen Garnish.Abs Garnish.Model.Equality Garnish.Model.Runtime

variable {F σ : Type} {S : RStore F σ} {P : Prog F}

theorem framesRel_mapDec {v1 v2 : StoreView F} (hdec : ∀ a v, Decodes v1 a v → Decodes v2 a v) :
    ∀ {fs : List (Nat × List Nat)} {frs : List (Frame F)}, FramesRel v1 fs frs → FramesRel v2 fs frs
  | _, _, .nil => .nil
  | _, _, .cons h d t => .cons h (decodesList_mapDec hdec d) (framesRel_mapDec hdec t)

theorem framesRel_keeps {s s' : σ} (k : Keeps S s s') {fs : List (Nat × List Nat)} {frs : List (Frame F)}
    (h : FramesRel (S.view s) fs frs) : FramesRel (S.view s') fs frs := framesRel_mapDec k.dec h

theorem SimD.ofParts {s s' : σ} {regs' vals' : List (Val F)} {frames : List (Frame F)} {R V : List Nat}
    (hf : FramesRel (S.view s) (S.frames s) frames)
    (hp : (∀ i, S.instruction s i = P.instrs[i]?) ∧ (∀ j, S.jumpTable s j = P.jumps[j]?) ∧ S.instrLen s = P.instrs.size)
    (e : Eff S s s' R V) (hr : DecodesList (S.view s') R regs') (hv : DecodesList (S.view s') V vals') :
    SimD S P s' regs' vals' frames :=
  ⟨e.regs ▸ hr, e.vals ▸ hv, e.frames ▸ framesRel_keeps e.keeps hf,
    fun i => by rw [e.keeps.instr]; exact hp.1 i, fun j => by rw [e.keeps.jump]; exact hp.2.1 j,
    by rw [e.keeps.ilen]; exact hp.2.2⟩

theorem SimD.ofEff {s s' : σ} {regs vals regs' vals' : List (Val F)} {frames : List (Frame F)} {R V : List Nat}
    (h : SimD S P s regs vals frames) (e : Eff S s s' R V)
    (hr : DecodesList (S.view s') R regs') (hv : DecodesList (S.view s') V vals') :
    SimD S P s' regs' vals' frames :=
  SimD.ofParts h.frames ⟨h.instrs, h.jumps, h.ilen⟩ e hr hv

theorem SimD.ofFEff {s s' : σ} {regs vals regs' vals' : List (Val F)} {frames frames' : List (Frame F)}
    {R V : List Nat} {Fr : List (Nat × List Nat)}
    (h : SimD S P s regs vals frames) (e : FEff S s s' R V Fr)
    (hr : DecodesList (S.view s') R regs') (hv : DecodesList (S.view s') V vals')
    (hf : FramesRel (S.view s') Fr frames') :
    SimD S P s' regs' vals' frames' :=
  ⟨e.regs ▸ hr, e.vals ▸ hv, e.frames ▸ hf,
    fun i => by rw [e.keeps.instr]; exact h.instrs i, fun j => by rw [e.keeps.jump]; exact h.jumps j,
    by rw [e.keeps.ilen]; exact h.ilen⟩

theorem SimD.ofHEff {s s' : σ} {regs vals regs' : List (Val F)} {frames : List (Frame F)} {R : List Nat}
    (h : SimD S P s regs vals frames) (e : HEff S s s' R) (hr : DecodesList (S.view s') R regs') :
    SimD S P s' regs' vals frames :=
  ⟨e.regs ▸ hr, e.vals ▸ decodesList_keeps e.keeps h.vals, e.frames ▸ framesRel_keeps e.keeps h.frames,
    fun i => by rw [e.keeps.instr]; exact h.instrs i, fun j => by rw [e.keeps.jump]; exact h.jumps j,
    by rw [e.keeps.ilen]; exact h.ilen⟩

theorem decodesList_tail2 {view : StoreView F} {a b : Nat} {as : List Nat} {x y : Val F} {xs : List (Val F)}
    (h : DecodesList view (a :: b :: as) (x :: y :: xs)) : Decodes view a x ∧ Decodes view b y ∧ DecodesList view as xs := by
  cases h with
  | cons h1 t => cases t with
    | cons h2 t2 => exact ⟨h1, h2, t2⟩

theorem decodesList_tail1 {view : StoreView F} {a : Nat} {as : List Nat} {x : Val F} {xs : List (Val F)}
    (h : DecodesList view (a :: as) (x :: xs)) : Decodes view a x ∧ DecodesList view as xs := by
  cases h with
  | cons h1 t => exact ⟨h1, t⟩

theorem decodesList_cons_inv {view : StoreView F} {as : List Nat} {x : Val F} {xs : List (Val F)}
    (h : DecodesList view as (x :: xs)) : ∃ a as', as = a :: as' ∧ Decodes view a x ∧ DecodesList view as' xs := by
  cases h with
  | cons h1 t => exact ⟨_, _, rfl, h1, t⟩

end Garnish.Lemmas.Runtime
