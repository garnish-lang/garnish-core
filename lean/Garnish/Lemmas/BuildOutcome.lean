/-
Readings of an `Outcome` used by the builder proofs, each with its rule for `Outcome.bind`: `Sat P x` (if `ok a` then `P a`,
whatever else may happen), `SatNP P x` (and `x` is no panic), `Good P x` (neither panic nor out of fuel: `x` returns).
`Good` implies the other two, so a fact about a computation that cannot run out of fuel is proved for `Good` only: here for the
number and char-list parsers of the literal layer, in Lemmas/Build.lean for the validation pass.  `SatNP` is for the half of
totality that holds under weaker hypotheses (no panic: links in range, any fuel).  `Sat` and `SatNP` are in the namespace
`Garnish.Lemmas.Build`, `Good` in `Garnish.Lemmas.BuildTotal`.
-/
import Garnish.Model.Build
namespace Garnish.Lemmas.Build
open Garnish Garnish.Gen Garnish.Model.Parser Garnish.Model.Literals Garnish.Model.Build

def Sat {α : Type} (P : α → Prop) : Outcome α → Prop
  | .ok a => P a
  | _ => True

section
variable {α β : Type} {P : α → Prop}
@[simp] theorem sat_ok {a : α} : Sat P (.ok a) ↔ P a := Iff.rfl
@[simp] theorem sat_err {e : ErrClass} : Sat P (.err e : Outcome α) := trivial
@[simp] theorem sat_panic {s : String} : Sat P (.panic s : Outcome α) := trivial
@[simp] theorem sat_fuelOut : Sat P (.fuelOut : Outcome α) := trivial
@[simp] theorem sat_buildErr : Sat P (buildErr : Outcome α) := trivial
@[simp] theorem sat_dataErr : Sat P (dataErr : Outcome α) := trivial

theorem sat_bind {x : Outcome α} {f : α → Outcome β} {Q : α → Prop} {R : β → Prop}
    (hx : Sat Q x) (hf : ∀ a, Q a → Sat R (f a)) : Sat R (Outcome.bind x f) := by
  cases x <;> simp_all [Outcome.bind, Sat]

@[simp] theorem bind_ok {a : α} {f : α → Outcome β} : Outcome.bind (.ok a) f = f a := rfl
theorem bind_assoc {γ : Type} {x : Outcome α} {g : α → Outcome β} {f : β → Outcome γ} :
    Outcome.bind (Outcome.bind x g) f = Outcome.bind x (fun a => Outcome.bind (g a) f) := by
  cases x <;> rfl

theorem sat_mono {x : Outcome α} {Q : α → Prop} (hx : Sat Q x) (h : ∀ a, Q a → P a) : Sat P x := by
  cases x <;> simp_all [Sat]

theorem sat_true {x : Outcome α} : Sat (fun _ => True) x := by
  cases x <;> simp [Sat]
end

def SatNP {α : Type} (P : α → Prop) : Outcome α → Prop
  | .ok a => P a
  | .panic _ => False
  | _ => True

section
variable {α β : Type} {P : α → Prop}
@[simp] theorem satNP_ok {a : α} : SatNP P (.ok a) ↔ P a := Iff.rfl
@[simp] theorem satNP_err {e : ErrClass} : SatNP P (.err e : Outcome α) := trivial
@[simp] theorem satNP_fuelOut : SatNP P (.fuelOut : Outcome α) := trivial
@[simp] theorem satNP_buildErr : SatNP P (buildErr : Outcome α) := trivial
@[simp] theorem satNP_dataErr : SatNP P (dataErr : Outcome α) := trivial

theorem satNP_bind {x : Outcome α} {f : α → Outcome β} {Q : α → Prop} {R : β → Prop}
    (hx : SatNP Q x) (hf : ∀ a, Q a → SatNP R (f a)) : SatNP R (Outcome.bind x f) := by
  cases x <;> simp_all [Outcome.bind, SatNP]

theorem satNP_mono {x : Outcome α} {Q : α → Prop} (hx : SatNP Q x) (h : ∀ a, Q a → P a) : SatNP P x := by
  cases x <;> simp_all [SatNP]

theorem satNP_of_sat {x : Outcome α} (h : Sat P x) (hn : SatNP (fun _ => True) x) : SatNP P x := by
  cases x <;> first | exact h | exact hn

theorem satNP_noPanic {x : Outcome α} (h : SatNP P x) (s : String) : x ≠ .panic s := by
  intro hx; subst hx; exact h

theorem satNP_of_noPanic {x : Outcome α} (h : ∀ s, x ≠ .panic s) : SatNP (fun _ => True) x := by
  cases x <;> simp_all [SatNP]
end

end Garnish.Lemmas.Build

namespace Garnish.Lemmas.BuildTotal
open Garnish Garnish.Gen Garnish.Model.Parser Garnish.Model.Literals Garnish.Model.Build Garnish.Lemmas.Build

def Good {α : Type} (P : α → Prop) : Outcome α → Prop
  | .ok a => P a
  | .err _ => True
  | .panic _ => False
  | .fuelOut => False

section
variable {α β : Type} {P : α → Prop}
@[simp] theorem good_ok {a : α} : Good P (.ok a) ↔ P a := Iff.rfl
@[simp] theorem good_err {e : ErrClass} : Good P (.err e : Outcome α) := trivial
@[simp] theorem good_buildErr : Good P (buildErr : Outcome α) := trivial
@[simp] theorem good_dataErr : Good P (dataErr : Outcome α) := trivial

theorem good_bind {x : Outcome α} {f : α → Outcome β} {Q : α → Prop} {R : β → Prop}
    (hx : Good Q x) (hf : ∀ a, Q a → Good R (f a)) : Good R (Outcome.bind x f) := by
  cases x <;> simp_all [Outcome.bind, Good]

theorem good_ite {c : Prop} [Decidable c] {x y : Outcome α} (hx : Good P x) (hy : Good P y) :
    Good P (if c then x else y) := by
  split <;> assumption

theorem good_mono {x : Outcome α} {Q : α → Prop} (hx : Good Q x) (h : ∀ a, Q a → P a) : Good P x := by
  cases x <;> simp_all [Good]

theorem Good.satNP {x : Outcome α} (h : Good P x) : SatNP P x := by
  cases x <;> first | exact h | trivial

theorem Good.sat {x : Outcome α} (h : Good P x) : Sat P x := by
  cases x <;> first | exact h | trivial

theorem good_of_sat {x : Outcome α} (h : Sat P x) (hg : Good (fun _ => True) x) : Good P x := by
  cases x <;> first | exact h | exact hg

theorem good_of_satNP {x : Outcome α} (h : SatNP P x) (hf : x ≠ .fuelOut) : Good P x := by
  cases x <;> simp_all [Good, SatNP]

theorem good_returns {x : Outcome α} (h : Good P x) : (∃ a, x = .ok a) ∨ (∃ e, x = .err e) := by
  cases x with
  | ok a => exact Or.inl ⟨a, rfl⟩
  | err e => exact Or.inr ⟨e, rfl⟩
  | panic s => exact absurd h id
  | fuelOut => exact absurd h id
end

section literals
variable {F : Type} (parseFloat : List Char → Option F)

theorem parseNumberInternal_good (input : List Char) (radix : Nat) :
    Good (fun _ => True) (parseNumberInternal parseFloat input radix) := by
  unfold parseNumberInternal
  dsimp only
  refine good_bind (Q := fun _ => True) ?_ (fun r _ => ?_)
  · repeat' (first | exact good_dataErr | exact trivial | split)
  · obtain ⟨radix, input⟩ := r
    dsimp only
    repeat' (first | exact good_dataErr | exact trivial | split)

/-- every leaf of the three `if` chains is `ok` or a data error -/
theorem charListStep_good (q : Nat) (st : CharListState) (c : Char) : Good (fun _ => True) (charListStep parseFloat q st c) := by
  unfold charListStep
  refine good_ite
    (good_ite (good_bind (parseNumberInternal_good parseFloat _ _) fun n _ => ?_) (good_ite trivial trivial))
    (good_ite
      (good_ite trivial <| good_ite trivial <| good_ite trivial <| good_ite trivial <| good_ite trivial <|
        good_ite trivial <| good_ite trivial trivial)
      (good_ite trivial (good_ite trivial trivial)))
  cases n with
  | float _ => exact trivial
  | int v => dsimp only; cases charFromI32 v <;> exact trivial

theorem charListLoop_good (q : Nat) : ∀ (l : List Char) (st : CharListState), Good (fun _ => True) (charListLoop parseFloat q st l) := by
  intro l
  induction l with
  | nil => intro st; exact trivial
  | cons c rest ih =>
    intro st
    simp only [charListLoop]
    exact good_bind (charListStep_good parseFloat q st c) (fun st' _ => ih st')

theorem parseCharList_good (input : List Char) : Good (fun _ => True) (parseCharList parseFloat input) := by
  unfold parseCharList
  exact good_ite trivial (good_ite trivial (good_bind (charListLoop_good parseFloat _ _ _) fun _ _ => trivial))

end literals

end Garnish.Lemmas.BuildTotal
