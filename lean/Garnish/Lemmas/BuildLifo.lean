/-
C04, builder half — the order of the out-of-line parts: the static description of `conditional_parent`, of the
moment at which an out-of-line child is pushed on `root_stack` (`Sched`), and the relation `Rel r1 r2`: "`r1` is pushed
before `r2` while one root is built" — so `r2`, with its whole subtree, is emitted first.

`conditional_parent` of the build node of `x` (`CP x cp` / `NCP x`):
  * the left child of And / Or gets `Some(the And / Or node)`;
  * both children of an ElseJump get the ElseJump's own conditional parent, or the ElseJump itself when it has none
    (the head of the else-chain);
  * every other node gets `None`.
An out-of-line child `r` (right child of `k`) is pushed (`Sched r s k`)
  * in the last visit of its owner `k` (`s = k`) when `k` is And / Or / NestedExpression, or a JumpIf… without
    conditional parent;
  * in the last visit of the chain head `s` when `k` is a JumpIf… whose conditional parent `s` is an ElseJump: the head
    collects the arms in the order in which their owners finish and pushes them together, in that order.
(A JumpIf… whose conditional parent is an And / Or node records its arm there, and nobody pushes it: such a build fails
the final check unless everything below the arm is a Subexpression.)
The second half: the reachable part of a validated node vector is a tree (`Depth`), and the facts about paths in it that
Props/C04Eval*.lean read (`root_above`, `path_decomp`).
-/
import Garnish.Lemmas.BuildSeqRun
namespace Garnish.Lemmas.BuildSeq
open Garnish Garnish.Gen Garnish.Model.Parser Garnish.Model.Literals Garnish.Model.Build Garnish.Lemmas.Build
open Garnish.Lemmas.BuildTotal

section
theorem oolR_iff (d : Definition) : oolR d = true ↔ isDirect d = true ∨ isJumpIf d = true := by
  simp [oolR, isLate, isDirect, isLogical, isJumpIf, or_comm, or_left_comm]

theorem logical_isLate {d : Definition} (h : isLogical d = true) : isLate d = true := by
  simp only [isLogical, Bool.or_eq_true, beq_iff_eq] at h
  rcases h with h | h <;> subst h <;> rfl

theorem late_layout {d : Definition} (h : isLate d = true) : layout d = .ln ∧ d ≠ .group ∧ d ≠ .nestedExpression := by
  simp only [isLate, Bool.or_eq_true, beq_iff_eq] at h
  rcases h with ((h | h) | h) | h <;> subst h <;> exact ⟨rfl, nofun, nofun⟩

theorem jumpIf_not_logical {d : Definition} (h : isJumpIf d = true) : isLogical d = false := by
  simp only [isJumpIf, Bool.or_eq_true, beq_iff_eq] at h
  rcases h with h | h <;> subst h <;> rfl

theorem jumpIf_not_direct {d : Definition} (h : isJumpIf d = true) : isDirect d = false := by
  simp only [isJumpIf, Bool.or_eq_true, beq_iff_eq] at h
  rcases h with h | h <;> subst h <;> rfl

mutual
/-- the build node of `x` gets `conditional_parent = Some(cp)`; `P` says which indices are nodes of the tree -/
inductive CP (tree : Array ParseNode) (P : Nat → Prop) (root : Nat) : Nat → Nat → Prop
  | logical {y x : Nat} {pn : ParseNode} : tree[y]? = some pn → isLogical pn.definition = true → pn.left = some x →
      CP tree P root x y
  | inherit {e x cp : Nat} {pn : ParseNode} : tree[e]? = some pn → pn.definition = .elseJump →
      (pn.left = some x ∨ pn.right = some x) → CP tree P root e cp → CP tree P root x cp
  | top {e x : Nat} {pn : ParseNode} : tree[e]? = some pn → pn.definition = .elseJump →
      (pn.left = some x ∨ pn.right = some x) → NCP tree P root e → CP tree P root x e
/-- the build node of `x` gets `conditional_parent = None` -/
inductive NCP (tree : Array ParseNode) (P : Nat → Prop) (root : Nat) : Nat → Prop
  | root : NCP tree P root root
  | other {y x : Nat} {pn : ParseNode} : P y → tree[y]? = some pn → (pn.left = some x ∨ pn.right = some x) →
      pn.definition ≠ .elseJump → ¬ (isLogical pn.definition = true ∧ pn.left = some x) → NCP tree P root x
end

/-- what the field `conditional_parent` of a build node says -/
def CPdyn (tree : Array ParseNode) (P : Nat → Prop) (root x : Nat) : Option Nat → Prop
  | some cp => CP tree P root x cp
  | none => NCP tree P root x

/-- `r`, the out-of-line child of `k`, is pushed on `root_stack` in the last visit of `s` -/
def Sched (tree : Array ParseNode) (P : Nat → Prop) (root r s k : Nat) : Prop :=
  ∃ pn, tree[k]? = some pn ∧ pn.right = some r ∧
    ((s = k ∧ (isDirect pn.definition = true ∨ (isJumpIf pn.definition = true ∧ NCP tree P root k))) ∨
     (isJumpIf pn.definition = true ∧ CP tree P root k s ∧ ∃ sn, tree[s]? = some sn ∧ sn.definition = .elseJump))

/-- the last visit of `y1` comes before the last visit of `y2` (two nodes of one root) -/
def LastB (tree : Array ParseNode) (P : Nat → Prop) (y1 y2 : Nat) : Prop :=
  (∃ w a b, P w ∧ Ord tree w a b ∧ IDesc tree a y1 ∧ IDesc tree b y2) ∨ (∃ c, PreC tree y2 c ∧ IDesc tree c y1) ∨
  (∃ c, PostC tree y1 c ∧ IDesc tree c y2)

/-- `r1` is pushed on `root_stack` before `r2`, while the root that contains both schedulers is built -/
def Rel (tree : Array ParseNode) (P : Nat → Prop) (root r1 r2 : Nat) : Prop :=
  ∃ ρ s1 k1 s2 k2, P ρ ∧ IDesc tree ρ s1 ∧ IDesc tree ρ s2 ∧ Sched tree P root r1 s1 k1 ∧ Sched tree P root r2 s2 k2 ∧
    (LastB tree P s1 s2 ∨ (s1 = s2 ∧ LastB tree P k1 k2))

/-- everything below `r2` precedes everything below `r1` -/
def PrecL (tree : Array ParseNode) (P : Nat → Prop) (root x z : Nat) : Prop :=
  ∃ r1 r2, Rel tree P root r1 r2 ∧ Sub tree r2 x ∧ Sub tree r1 z

section statics
variable {tree : Array ParseNode} {P Q : Nat → Prop} {root : Nat}

mutual
theorem CP.mono (h : ∀ y, P y → Q y) : ∀ {x cp : Nat}, CP tree P root x cp → CP tree Q root x cp
  | _, _, .logical h1 h2 h3 => .logical h1 h2 h3
  | _, _, .inherit h1 h2 h3 h4 => .inherit h1 h2 h3 (CP.mono h h4)
  | _, _, .top h1 h2 h3 h4 => .top h1 h2 h3 (NCP.mono h h4)
theorem NCP.mono (h : ∀ y, P y → Q y) : ∀ {x : Nat}, NCP tree P root x → NCP tree Q root x
  | _, .root => .root
  | _, .other h0 h1 h2 h3 h4 => .other (h _ h0) h1 h2 h3 h4
end

theorem Sched.mono (h : ∀ y, P y → Q y) {r s k : Nat} (hs : Sched tree P root r s k) : Sched tree Q root r s k := by
  obtain ⟨pn, h1, h2, h3⟩ := hs
  refine ⟨pn, h1, h2, ?_⟩
  rcases h3 with ⟨e, h4 | ⟨h4, h5⟩⟩ | ⟨h4, h5, h6⟩
  · exact Or.inl ⟨e, Or.inl h4⟩
  · exact Or.inl ⟨e, Or.inr ⟨h4, NCP.mono h h5⟩⟩
  · exact Or.inr ⟨h4, CP.mono h h5, h6⟩

theorem LastB.mono (h : ∀ y, P y → Q y) {y1 y2 : Nat} (hl : LastB tree P y1 y2) : LastB tree Q y1 y2 := by
  rcases hl with ⟨w, a, b, h0, h1⟩ | h1 | h1
  · exact Or.inl ⟨w, a, b, h _ h0, h1⟩
  · exact Or.inr (Or.inl h1)
  · exact Or.inr (Or.inr h1)

theorem Rel.mono (h : ∀ y, P y → Q y) {r1 r2 : Nat} (hr : Rel tree P root r1 r2) : Rel tree Q root r1 r2 := by
  obtain ⟨ρ, s1, k1, s2, k2, h0, h1, h2, h3, h4, h5⟩ := hr
  refine ⟨ρ, s1, k1, s2, k2, h _ h0, h1, h2, h3.mono h, h4.mono h, ?_⟩
  rcases h5 with h5 | ⟨e, h5⟩
  · exact Or.inl (h5.mono h)
  · exact Or.inr ⟨e, h5.mono h⟩

theorem Sched.ool {r s k : Nat} (hs : Sched tree P root r s k) : OolChild tree k r := by
  obtain ⟨pn, h1, h2, h3⟩ := hs
  refine ⟨pn, h1, h2, (oolR_iff _).2 ?_⟩
  rcases h3 with ⟨_, h4 | ⟨h4, _⟩⟩ | ⟨h4, _, _⟩
  · exact Or.inl h4
  · exact Or.inr h4
  · exact Or.inr h4

end statics
end

section
variable {root : Nat} {tree : Array ParseNode} {G : Nat → Prop}

theorem logical_G (V : Validated root tree G) {y : Nat} {pn : ParseNode} (hy : tree[y]? = some pn)
    (hd : isLogical pn.definition = true) : G y :=
  def_G V hy (by intro e; rw [e] at hd; simp [isLogical] at hd)

theorem jumpIf_G (V : Validated root tree G) {y : Nat} {pn : ParseNode} (hy : tree[y]? = some pn)
    (hd : isJumpIf pn.definition = true) : G y :=
  def_G V hy (by intro e; rw [e] at hd; simp [isJumpIf] at hd)

theorem else_G (V : Validated root tree G) {y : Nat} {pn : ParseNode} (hy : tree[y]? = some pn)
    (hd : pn.definition = .elseJump) : G y :=
  def_G V hy (by rw [hd]; intro e; cases e)

theorem else_ilink {e x : Nat} {pn : ParseNode} (h1 : tree[e]? = some pn) (h2 : pn.definition = .elseJump)
    (h3 : pn.left = some x ∨ pn.right = some x) : ILink tree e x := by
  refine ⟨pn, h1, ?_⟩
  rcases h3 with h | h
  · exact Or.inl ⟨h, by rw [h2]; rfl⟩
  · exact Or.inr ⟨h, by rw [h2]; rfl⟩

theorem logical_ilink {y x : Nat} {pn : ParseNode} (h1 : tree[y]? = some pn) (h2 : isLogical pn.definition = true)
    (h3 : pn.left = some x) : ILink tree y x := by
  exact ⟨pn, h1, Or.inl ⟨h3, by rw [(late_layout (logical_isLate h2)).1]; rfl⟩⟩

theorem CP.parent (V : Validated root tree G) : ∀ {x cp : Nat}, CP tree G root x cp → ∃ w, G w ∧ ILink tree w x
  | _, _, .logical h1 h2 h3 => ⟨_, logical_G V h1 h2, logical_ilink h1 h2 h3⟩
  | _, _, .inherit h1 h2 h3 _ => ⟨_, else_G V h1 h2, else_ilink h1 h2 h3⟩
  | _, _, .top h1 h2 h3 _ => ⟨_, else_G V h1 h2, else_ilink h1 h2 h3⟩

/-- the conditional parent is an in-line ancestor, reached through ElseJump nodes (and possibly one And / Or at the top) -/
theorem CP.idesc : ∀ {x cp : Nat}, CP tree G root x cp → IDesc tree cp x
  | _, _, .logical h1 h2 h3 => IDesc.step (IDesc.refl _) (logical_ilink h1 h2 h3)
  | _, _, .inherit h1 h2 h3 h4 => IDesc.step (CP.idesc h4) (else_ilink h1 h2 h3)
  | _, _, .top h1 h2 h3 _ => IDesc.step (IDesc.refl _) (else_ilink h1 h2 h3)

theorem CP.inG (V : Validated root tree G) : ∀ {x cp : Nat}, CP tree G root x cp → G cp
  | _, _, .logical h1 h2 _ => logical_G V h1 h2
  | _, _, .inherit _ _ _ h4 => CP.inG V h4
  | _, _, .top h1 h2 _ _ => else_G V h1 h2

theorem CP.excl (V : Validated root tree G) {x cp : Nat} (h : CP tree G root x cp) (hn : NCP tree G root x) : False := by
  obtain ⟨w, hw, hl⟩ := h.parent V
  cases hn with
  | root => exact child_ne_root V hw hl.isChild rfl
  | @other y _ pn hy hpn hc hne hnl =>
    have hyw := parent_unique V hy hw ⟨pn, hpn, hc⟩ hl.isChild
    subst hyw
    cases h with
    | logical h1 h2 h3 =>
      have := parent_unique V hy (logical_G V h1 h2) ⟨pn, hpn, hc⟩ ⟨_, h1, Or.inl h3⟩
      subst this
      rw [hpn] at h1; cases h1
      exact hnl ⟨h2, h3⟩
    | inherit h1 h2 h3 _ =>
      have := parent_unique V hy (else_G V h1 h2) ⟨pn, hpn, hc⟩ ⟨_, h1, h3⟩
      subst this
      rw [hpn] at h1; cases h1
      exact hne h2
    | top h1 h2 h3 _ =>
      have := parent_unique V hy (else_G V h1 h2) ⟨pn, hpn, hc⟩ ⟨_, h1, h3⟩
      subst this
      rw [hpn] at h1; cases h1
      exact hne h2

theorem CP.unique (V : Validated root tree G) : ∀ {x a b : Nat}, CP tree G root x a → CP tree G root x b → a = b
  | _, _, _, .logical (y := y) (pn := pn) h1 h2 h3, hb => by
    have hy := logical_G V h1 h2
    cases hb with
    | logical h1' h2' h3' => exact parent_unique V hy (logical_G V h1' h2') ⟨_, h1, Or.inl h3⟩ ⟨_, h1', Or.inl h3'⟩
    | inherit h1' h2' h3' _ =>
      have := parent_unique V hy (else_G V h1' h2') ⟨_, h1, Or.inl h3⟩ ⟨_, h1', h3'⟩
      subst this
      rw [h1] at h1'; cases h1'
      rw [h2'] at h2; exact absurd h2 (by simp [isLogical])
    | top h1' h2' h3' _ => exact parent_unique V hy (else_G V h1' h2') ⟨_, h1, Or.inl h3⟩ ⟨_, h1', h3'⟩
  | _, _, _, .inherit (e := e) h1 h2 h3 h4, hb => by
    have he := else_G V h1 h2
    cases hb with
    | logical h1' h2' h3' =>
      have := parent_unique V he (logical_G V h1' h2') ⟨_, h1, h3⟩ ⟨_, h1', Or.inl h3'⟩
      subst this
      rw [h1] at h1'; cases h1'
      rw [h2] at h2'; exact absurd h2' (by simp [isLogical])
    | inherit h1' h2' h3' h4' =>
      have := parent_unique V he (else_G V h1' h2') ⟨_, h1, h3⟩ ⟨_, h1', h3'⟩
      subst this
      exact CP.unique V h4 h4'
    | top h1' h2' h3' h4' =>
      have := parent_unique V he (else_G V h1' h2') ⟨_, h1, h3⟩ ⟨_, h1', h3'⟩
      subst this
      exact absurd h4' (fun hn => CP.excl V h4 hn)
  | _, _, _, .top (e := e) h1 h2 h3 h4, hb => by
    have he := else_G V h1 h2
    cases hb with
    | logical h1' h2' h3' => exact parent_unique V he (logical_G V h1' h2') ⟨_, h1, h3⟩ ⟨_, h1', Or.inl h3'⟩
    | inherit h1' h2' h3' h4' =>
      have := parent_unique V he (else_G V h1' h2') ⟨_, h1, h3⟩ ⟨_, h1', h3'⟩
      subst this
      exact absurd h4 (fun hn => CP.excl V h4' hn)
    | top h1' h2' h3' _ => exact parent_unique V he (else_G V h1' h2') ⟨_, h1, h3⟩ ⟨_, h1', h3'⟩

theorem sub_parent (V : Validated root tree G) {r x w : Nat} (hr : G r) (h : Sub tree r x) (hne : x ≠ r) (hw : G w)
    (hc : IsChild tree w x) : Sub tree r w := by
  cases h with
  | refl => exact absurd rfl hne
  | @step w' _ h1 h2 =>
    have := parent_unique V (sub_G V hr h1) hw h2 hc
    subst this
    exact h1

theorem sub_of_idesc (V : Validated root tree G) {a y r : Nat} (ha : G a) (hr : G r) (hnl : ∀ w, G w → ¬ ILink tree w r)
    (hd : IDesc tree a y) (hs : Sub tree r y) : Sub tree r a := by
  induction hd with
  | refl => exact hs
  | @step w x hw hl ih =>
    rcases Classical.em (x = r) with e | e
    · subst e; exact absurd hl (hnl w (idesc_G V ha hw))
    · exact ih (sub_parent V hr hs e (idesc_G V ha hw) hl.isChild)
end

/-! ## the reachable part of a validated node vector is a tree (`Depth`): unique ancestors per depth, `LastB` irreflexive -/

section
variable {root : Nat} {tree : Array ParseNode} {G : Nat → Prop}

/-- `x` is reachable from the root by `n` links -/
inductive Depth (tree : Array ParseNode) (root : Nat) : Nat → Nat → Prop
  | root : Depth tree root root 0
  | step {w x n : Nat} : Depth tree root w n → IsChild tree w x → Depth tree root x (n + 1)

theorem Depth.inG (V : Validated root tree G) {x n : Nat} (h : Depth tree root x n) : G x := by
  induction h with
  | root => exact V.rootIn
  | step _ hc ih => exact (child_facts V ih hc).1

theorem depth_of_sub {x : Nat} (h : Sub tree root x) : ∃ n, Depth tree root x n := by
  induction h with
  | refl => exact ⟨0, .root⟩
  | step _ hc ih => obtain ⟨n, hn⟩ := ih; exact ⟨n + 1, .step hn hc⟩

theorem Depth.sub {x n : Nat} (h : Depth tree root x n) : Sub tree root x := by
  induction h with
  | root => exact Sub.refl _
  | step _ hc ih => exact Sub.step ih hc

theorem depth_fun (V : Validated root tree G) {x n m : Nat} (h1 : Depth tree root x n) (h2 : Depth tree root x m) : n = m := by
  induction h1 generalizing m with
  | root =>
    cases h2 with
    | root => rfl
    | step hw hc => exact absurd rfl (child_ne_root V (hw.inG V) hc)
  | @step w x n hw hc ih =>
    cases h2 with
    | root => exact absurd rfl (child_ne_root V (hw.inG V) hc)
    | @step w' _ m' hw' hc' =>
      have := parent_unique V (hw.inG V) (hw'.inG V) hc hc'
      subst this
      rw [ih hw']

theorem sub_depth {a x n : Nat} (ha : Depth tree root a n) (h : Sub tree a x) :
    ∃ m, Depth tree root x m ∧ n ≤ m ∧ (m = n → x = a) := by
  induction h with
  | refl => exact ⟨n, ha, Nat.le_refl _, fun _ => rfl⟩
  | @step w x _ hc ih =>
    obtain ⟨m, hm, hle, _⟩ := ih
    exact ⟨m + 1, .step hm hc, by omega, fun e => by omega⟩

theorem anc_unique (V : Validated root tree G) {a b k n : Nat} (ha : Depth tree root a n) (hb : Depth tree root b n)
    (h1 : Sub tree a k) (h2 : Sub tree b k) : a = b := by
  induction h1 with
  | refl =>
    obtain ⟨m, hm, _, he⟩ := sub_depth hb h2
    exact he (depth_fun V hm ha)
  | @step w x hw hc ih =>
    rcases Classical.em (x = b) with e | e
    · subst e
      obtain ⟨m, hm, hle, _⟩ := sub_depth ha hw
      have := depth_fun V (Depth.step hm hc) hb
      omega
    · obtain ⟨m, hm, _, _⟩ := sub_depth ha hw
      exact ih (sub_parent V (hb.inG V) h2 e (hm.inG V) hc)

theorem children_disjoint (V : Validated root tree G) {w a b k : Nat} (hw : Sub tree root w) (ha : IsChild tree w a)
    (hb : IsChild tree w b) (hab : a ≠ b) (h1 : Sub tree a k) (h2 : Sub tree b k) : False := by
  obtain ⟨n, hn⟩ := depth_of_sub hw
  exact hab (anc_unique V (.step hn ha) (.step hn hb) h1 h2)

theorem not_below_self (V : Validated root tree G) {w c : Nat} (hw : Sub tree root w) (hc : IsChild tree w c)
    (h : Sub tree c w) : False := by
  obtain ⟨n, hn⟩ := depth_of_sub hw
  obtain ⟨m, hm, hle, _⟩ := sub_depth (Depth.step hn hc) h
  have := depth_fun V hm hn
  omega

theorem anc_reachable (V : Validated root tree G) {w k : Nat} (hw : G w) (hk : Sub tree root k) (h : Sub tree w k) :
    Sub tree root w := by
  induction hk with
  | refl =>
    -- k = root: w is an ancestor of the root, so w = root
    cases h with
    | refl => exact Sub.refl _
    | step h1 h2 => exact absurd rfl (child_ne_root V (sub_G V hw h1) h2)
  | @step u x hu hc ih =>
    rcases Classical.em (x = w) with e | e
    · subst e; exact Sub.step hu hc
    · exact ih (sub_parent V hw h e (sub_G V V.rootIn hu) hc)

theorem Ord.ne (V : Validated root tree G) {y a b : Nat} (hy : G y) (h : Ord tree y a b) : a ≠ b := by
  obtain ⟨pn, l, r, h1, hl, hr, h3⟩ := h
  rcases h3 with ⟨_, ha, hb⟩ | ⟨_, ha, hb⟩
  · subst ha; subst hb; exact fun e => left_ne_right V hy h1 hl hr e.symm
  · subst ha; subst hb; exact left_ne_right V hy h1 hl hr

theorem lastB_irrefl (V : Validated root tree G) {k : Nat} (hk : Sub tree root k) (h : LastB tree G k k) : False := by
  rcases h with ⟨w, a, b, hw, hord, h1, h2⟩ | ⟨c, hc, h1⟩ | ⟨c, hc, h1⟩
  · have hwr := anc_reachable V hw hk (Sub.trans (Sub.step (Sub.refl w) hord.left.isChild) h1.sub)
    exact children_disjoint V hwr hord.left.isChild hord.right.isChild (hord.ne V hw) h1.sub h2.sub
  · exact not_below_self V hk hc.ilink.isChild h1.sub
  · exact not_below_self V hk hc.ilink.isChild h1.sub
theorem idesc_comparable (V : Validated root tree G) {a b k : Nat} (ha : G a) (hb : G b) (h1 : IDesc tree a k)
    (h2 : IDesc tree b k) : IDesc tree a b ∨ IDesc tree b a := by
  induction h1 with
  | refl => exact Or.inr h2
  | @step w k hw hl ih =>
    rcases Classical.em (k = b) with e | e
    · subst e; exact Or.inl (IDesc.step hw hl)
    · exact ih (idesc_parent V hb h2 e (idesc_G V ha hw) hl.isChild).1

/-- the root that contains a reachable node: the topmost in-line ancestor -/
theorem root_above (V : Validated root tree G) {y : Nat} (hy : Sub tree root y)
    (hgood : ∀ w c, Sub tree root w → IsChild tree w c → Sub tree c y → ILink tree w c ∨ OolChild tree w c) :
    ∃ ρ, Sub tree root ρ ∧ IDesc tree ρ y ∧ ∀ w, G w → ¬ ILink tree w ρ := by
  induction hy with
  | refl => exact ⟨root, Sub.refl _, IDesc.refl _, fun w hw hl => child_ne_root V hw hl.isChild rfl⟩
  | @step w y hw hl ih =>
    have hwG := sub_G V V.rootIn hw
    rcases hgood w y hw hl (Sub.refl y) with h | h
    · obtain ⟨ρ, h1, h2, h3⟩ := ih (fun w' c hw' hc hs => hgood w' c hw' hc (Sub.step hs hl))
      exact ⟨ρ, h1, IDesc.step h2 h, h3⟩
    · refine ⟨y, Sub.step hw hl, IDesc.refl y, fun w' hw' hl' => ?_⟩
      have := parent_unique V hw' hwG hl'.isChild hl
      subst this
      exact ool_not_ilink V hw' h hl'

/-- a path of scheduled links: in line all the way, or in line up to an owner whose out-of-line child leads on -/
theorem path_decomp {P : Nat → Prop} {c xf : Nat} (hc : Sub tree root c)
    (hgood : ∀ y c', Sub tree root y → IsChild tree y c' → Sub tree c' xf →
      ILink tree y c' ∨ (OolChild tree y c' ∧ ∃ s, Sched tree P root c' s y)) :
    ∀ w, Sub tree c w → Sub tree w xf →
      IDesc tree c w ∨ ∃ k r s, IDesc tree c k ∧ OolChild tree k r ∧ Sched tree P root r s k ∧ Sub tree r w := by
  intro w hw
  induction hw with
  | refl => intro _; exact Or.inl (IDesc.refl c)
  | @step u w hu hl ih =>
    intro hwx
    rcases ih (Sub.trans (Sub.step (Sub.refl u) hl) hwx) with h | ⟨k, r, s, h1, h2, h3, h4⟩
    · rcases hgood u w (Sub.trans hc hu) hl hwx with hg | ⟨hg, s, hs⟩
      · exact Or.inl (IDesc.step h hg)
      · exact Or.inr ⟨u, w, s, h, hg, hs, Sub.refl w⟩
    · exact Or.inr ⟨k, r, s, h1, h2, h3, Sub.step h4 hl⟩

end

end Garnish.Lemmas.BuildSeq
