/-
What `Heap.WF` gives the accessors: the bounds-checked getter is exact, computed ranges stay inside the allocation, the
cells a header announces are there.  Then reading those cells (`cellsAt`, `collect_items`): when the announced cells are
there (`Announced`) every read of an item succeeds or answers `Err`; a cell of the wrong kind is an `Err`, never a panic
(C07, BasicGarnishData).
-/
import Garnish.Lemmas.Access
import Garnish.Spec.AccessWF
namespace Garnish.Access
open Garnish
open Garnish.BasicOpt (Cell)

/-- the cell at data address `i` (the data block of a well-formed heap lies inside the allocation) -/
def Heap.cell (h : Heap) (i : Nat) : Option Cell := h.heap[h.dstart + i]?

theorem getData_ge (h : Heap) {i : Nat} (hi : h.cursor ≤ i) : h.getData i = .err .data := by
  simp [Heap.getData, hi]

theorem Heap.WF.cell_some {h : Heap} (wf : h.WF) {i : Nat} (hi : i < h.cursor) : ∃ c, h.cell i = some c := by
  have : h.dstart + i < h.heap.size := by have := wf.1; omega
  exact ⟨h.heap[h.dstart + i], by simp [Heap.cell, this]⟩

theorem getData_lt {h : Heap} (wf : h.WF) {i : Nat} (hi : i < h.cursor) {c : Cell} (hc : h.cell i = some c) :
    h.getData i = .ok c := by
  have h1 := wf.1; have h2 := wf.2.1
  have : ¬ (i ≥ h.cursor) := by omega
  simp only [Heap.getData, this, if_false]
  rw [uadd_ok (by omega)]
  simp only [bind_ok, Heap.raw]
  unfold Heap.cell at hc
  rw [hc]

theorem getData_cases {h : Heap} (wf : h.WF) (i : Nat) :
    (h.cursor ≤ i ∧ h.getData i = .err .data) ∨ (i < h.cursor ∧ ∃ c, h.cell i = some c ∧ h.getData i = .ok c) := by
  by_cases hi : i < h.cursor
  · obtain ⟨c, hc⟩ := wf.cell_some hi
    exact .inr ⟨hi, c, hc, getData_lt wf hi hc⟩
  · exact .inl ⟨by omega, getData_ge h (by omega)⟩

theorem getData_safe {h : Heap} (wf : h.WF) (i : Nat) : Safe (h.getData i) := by
  rcases getData_cases wf i with ⟨_, h1⟩ | ⟨_, c, _, h1⟩ <;> rw [h1]
  · exact safe_err _
  · exact safe_ok _

theorem Heap.WF.cellOK {h : Heap} (wf : h.WF) {i : Nat} (hi : i < h.cursor) {c : Cell} (hc : h.cell i = some c) :
    cellOK h i c = true := by
  have := wf.2.2 i hi
  unfold cellOKAt at this
  unfold Heap.cell at hc
  rw [hc] at this
  exact this

theorem rawSlice_ok (h : Heap) {a b : Nat} (site : String) (h1 : a ≤ b) (h2 : b ≤ h.heap.size) :
    h.rawSlice a b site = .ok (h.heap.toList.extract a b) := by
  have n1 : ¬ a > b := by omega
  have n2 : ¬ b > h.heap.size := by omega
  simp [Heap.rawSlice, n1, n2, Array.toList_extract]

theorem rawSlice_panics_iff (h : Heap) (a b : Nat) (site : String) :
    (∃ m, h.rawSlice a b site = .panic m) ↔ (b < a ∨ h.heap.size < b) := by
  unfold Heap.rawSlice
  split
  · simp; omega
  · split <;> simp <;> omega

theorem cellsAt_sub (h : Heap) (a n s e : Nat) (hen : e ≤ n) :
    h.heap.toList.extract (h.dstart + a + s) (h.dstart + a + e) = (h.cellsAt a n).extract s e := by
  unfold Heap.cellsAt
  rw [extract_sub h.heap.toList (a := h.dstart + a) (b := h.dstart + a + n) (by omega) (by omega)]
  congr 1 <;> omega

theorem cellsAt_length (h : Heap) {a n : Nat} (hb : h.dstart + a + n ≤ h.heap.size) : (h.cellsAt a n).length = n := by
  unfold Heap.cellsAt
  rw [length_extract _ (by simpa using hb)]; omega

theorem cellsAt_getElem? (h : Heap) (a n j : Nat) (hj : j < n) : (h.cellsAt a n)[j]? = h.cell (a + j) := by
  unfold Heap.cellsAt Heap.cell
  rw [List.extract_eq_take_drop, List.getElem?_take]
  have : j < h.dstart + a + n - (h.dstart + a) := by omega
  simp only [this, if_true, List.getElem?_drop, Array.getElem?_toList]
  congr 1; omega

section
variable {β : Type} {proj : Cell → Option β} {bad : Outcome (List β)}

theorem collect_items (hbad : ∀ ys, bad ≠ .ok ys) {h : Heap} {a n : Nat} {ys : List β}
    (hb : h.dstart + a + n ≤ h.heap.size) (hc : collectWith proj bad (h.cellsAt a n) = .ok ys) :
    ys.length = n ∧ ∀ j, j < n → ∃ c y, h.cell (a + j) = some c ∧ proj c = some y ∧ ys[j]? = some y := by
  rw [collectWith_ok_iff proj bad hbad] at hc
  have hl : ys.length = n := by
    have := congrArg List.length hc
    simp only [List.length_map] at this
    rw [cellsAt_length h hb] at this; omega
  refine ⟨hl, fun j hj => ?_⟩
  have hj' := congrArg (fun l => l[j]?) hc
  simp only [List.getElem?_map, cellsAt_getElem? h a n j hj] at hj'
  have hy : j < ys.length := by omega
  rw [List.getElem?_eq_getElem hy] at hj' ⊢
  cases hcell : h.cell (a + j) with
  | none => rw [hcell] at hj'; simp at hj'
  | some c =>
    rw [hcell] at hj'
    simp only [Option.map_some] at hj'
    exact ⟨c, ys[j], rfl, by simpa using hj', rfl⟩
end

theorem bad_panic {β} (m : String) : ∀ ys : List β, (Outcome.panic m : Outcome (List β)) ≠ .ok ys := by intro ys h; cases h
theorem bad_err {β} (e : ErrClass) : ∀ ys : List β, (Outcome.err e : Outcome (List β)) ≠ .ok ys := by intro ys h; cases h

theorem asChar_of {c : Cell} {x : Nat} (h : charOf c = some x) : asChar c = .ok x := by
  cases c <;> simp [charOf] at h; subst h; rfl
theorem asByte_of {c : Cell} {x : Nat} (h : byteOf c = some x) : asByte c = .ok x := by
  cases c <;> simp [byteOf] at h; subst h; rfl
theorem asPart_of {c : Cell} {x : Part} (h : partOf c = some x) : asPart c = .ok x := by
  cases c <;> simp [partOf] at h <;> (subst h; rfl)
theorem asListItem_of {c : Cell} {x : Nat} (h : itemOf c = some x) : asListItem c = .ok x := by
  cases c <;> simp [itemOf] at h; subst h; rfl

theorem itemAddr_ok {la index : Nat} (h : la + 1 + index ≤ USIZE_MAX) : itemAddr la index = .ok (la + 1 + index) := by
  unfold itemAddr
  rw [uadd_ok (by omega)]; simp only [bind_ok]; rw [uadd_ok h]

/-- a header cell that is well-formed and what it announces -/
structure Announced {β : Type} (h : Heap) (i n : Nat) (ys : List β) (proj : Cell → Option β) : Prop where
  below : i + n < h.cursor
  length : ys.length = n
  item : ∀ j, j < n → ∃ c y, h.cell (i + 1 + j) = some c ∧ proj c = some y ∧ ys[j]? = some y

theorem announced_of {β} {proj : Cell → Option β} {bad : Outcome (List β)} (hbad : ∀ ys, bad ≠ .ok ys)
    {h : Heap} (wf : h.WF) {i n : Nat} (hlt : i + n < h.cursor)
    (hok : isOk (collectWith proj bad (h.cellsAt (i + 1) n)) = true) :
    ∃ ys, collectWith proj bad (h.cellsAt (i + 1) n) = .ok ys ∧ Announced h i n ys proj := by
  obtain ⟨ys, hys⟩ := Outcome.isOk_iff.1 hok
  have hb : h.dstart + (i + 1) + n ≤ h.heap.size := by have := wf.1; omega
  obtain ⟨hl, hit⟩ := collect_items hbad hb hys
  exact ⟨ys, hys, hlt, hl, hit⟩

theorem Announced.read {β} {proj : Cell → Option β} {h : Heap} (wf : h.WF) {i n : Nat} {ys : List β}
    (an : Announced h i n ys proj) {j : Nat} (hj : j < n) :
    ∃ c y, (itemAddr i j).bind (fun a => h.getData a) = .ok c ∧ proj c = some y ∧ ys[j]? = some y := by
  obtain ⟨c, y, hc, hp, hy⟩ := an.item j hj
  have hlt : i + 1 + j < h.cursor := by have := an.below; omega
  have : i + 1 + j ≤ USIZE_MAX := by have := wf.1; have := wf.2.1; omega
  refine ⟨c, y, ?_, hp, hy⟩
  rw [itemAddr_ok this]; simp only [bind_ok]
  exact getData_lt wf hlt hc

end Garnish.Access
