/-
What the fragment proofs share: definitions and priorities looked up in a node array (`dfOf`, `AllPrio`), value tokens of priority 10 (`isAtom10`), the
stage 1 recogniser `frag1` for `value (binop value)*`, token positions (`NumberedFrom`) and trimming (`trim_id`).
-/
import Garnish.Lemmas.ParserTree

namespace Garnish.Spec
open Garnish Garnish.Gen Garnish.Model.Parser

def AllPrio (nodes : Array ParseNode) : Prop := ∀ (i : Nat) nd, nodes[i]? = some nd → ∃ p, priority nd.definition = some p

/-- definition of node `i` (what `toRd` needs) -/
def dfOf (nodes : Array ParseNode) (i : Nat) : Definition := ((nodes[i]?).map (·.definition)).getD .drop

theorem renameDef_eq_underDef {nodes : Array ParseNode} {p : Nat} {n : ParseNode} (h : nodes[p]? = some n) (d : Definition) :
    renameDef d (some p) nodes = underDef n.definition d := by
  unfold renameDef underDef
  cases d <;> simp [h]

theorem prioAt_eq_of_def {a b : Array ParseNode} {i : Nat}
    (h : (a[i]?).map (·.definition) = (b[i]?).map (·.definition)) : prioAt a i = prioAt b i := by
  unfold prioAt
  cases ha : a[i]? <;> cases hb : b[i]? <;> simp_all

theorem absorbI_congr (pr pr' : Nat → Nat) (q : Nat) (rtl : Bool) (n ko ka : Nat) :
    ∀ t : Tree, (∀ i ∈ t.inorder, pr i = pr' i) → absorbI pr q rtl n ko ka t = absorbI pr' q rtl n ko ka t := by
  intro t
  induction t with
  | nil => intro _; rfl
  | node l i k r _ ihr =>
    intro h
    simp only [absorbI, ihr (fun j hj => h j (by simp [Tree.inorder, hj])), h i (by simp [Tree.inorder])]

/-- value / identifier token whose definition has the value priority 10 (excludes Unknown and the expression terminator) -/
def isAtom10 (t : PToken) : Bool :=
  ((getDefinition t.type).2 == .value || (getDefinition t.type).2 == .identifier) &&
    priority (getDefinition t.type).1 == some 10

theorem prio10_facts {d : Definition} (h : priority d = some 10) :
    (d == Definition.sideEffect) = false ∧ (d != Definition.drop) = true ∧
      (d = .identifier ∨ priority (match d with | .identifier => Definition.property | d => d) = some 10) := by
  revert h; generalize d = e
  revert e; exact Definition.forall_of_all (by decide +kernel)

theorem map_def_setParent (v : Option Nat) (o : Option ParseNode) :
    (o.map (setParent v)).map (·.definition) = o.map (·.definition) := by cases o <;> rfl
theorem map_def_setRight (v : Option Nat) (o : Option ParseNode) :
    (o.map (setRight v)).map (·.definition) = o.map (·.definition) := by cases o <;> rfl

/-- `(binop value)*` -/
def opAtoms : List PToken → Bool
  | [] => true
  | o :: a :: rest => isBinopTok o && isAtom10 a && opAtoms rest
  | [_] => false

/-- stage 1 fragment: `value (binop value)*` -/
def frag1 : List PToken → Bool
  | a :: rest => isAtom10 a && opAtoms rest
  | [] => false

/-- token `i` of the list carries position `k + i` in its `col` field (what the harness' `!tokidx` mode does) -/
def NumberedFrom : Nat → List PToken → Prop
  | _, [] => True
  | k, t :: rest => t.col = k ∧ NumberedFrom (k + 1) rest

instance NumberedFrom.decidable : ∀ (k : Nat) (l : List PToken), Decidable (NumberedFrom k l)
  | _, [] => isTrue trivial
  | k, _ :: rest => @instDecidableAnd _ _ inferInstance (NumberedFrom.decidable (k + 1) rest)

theorem atom10_facts {a : PToken} (ha : isAtom10 a = true) :
    ((getDefinition a.type).2 = .value ∨ (getDefinition a.type).2 = .identifier) ∧
      priority (getDefinition a.type).1 = some 10 := by
  unfold isAtom10 at ha
  simpa [Bool.and_eq_true, Bool.or_eq_true, beq_iff_eq] using ha

theorem prio10_not_special {d : Definition} (h : priority d = some 10) :
    (d == Definition.drop || d == Definition.expressionTerminator) = false := by
  revert h; generalize d = e
  revert e; exact Definition.forall_of_all (by decide +kernel)

theorem atom10_not_trimmable {a : PToken} (ha : isAtom10 a = true) : isTrimmable a = false := by
  obtain ⟨hsa, _⟩ := atom10_facts ha
  unfold isTrimmable
  revert hsa; generalize a.type = tt
  revert tt; exact TokenType.forall_of_all (by decide +kernel)

theorem trim_id (l : List PToken) (hne : l ≠ []) (hh : isTrimmable (l.head hne) = false)
    (hl : isTrimmable (l.getLast hne) = false) : trimTokens l = .ok l ∧ trimStart l = 0 ∧ trimStart l.reverse = 0 := by
  have hs : trimStart l = 0 := by
    cases l with
    | nil => exact absurd rfl hne
    | cons x xs => simp only [List.head_cons] at hh; simp [trimStart, hh]
  have hrev : ∃ ys, l.reverse = l.getLast hne :: ys := by
    refine ⟨l.dropLast.reverse, ?_⟩
    conv => lhs; rw [← List.dropLast_concat_getLast hne]
    simp
  obtain ⟨ys, hys⟩ := hrev
  have hr : trimStart l.reverse = 0 := by rw [hys]; simp [trimStart, hl]
  refine ⟨?_, hs, hr⟩
  unfold trimTokens
  rw [hs, hys]
  simp [trimEnd, hl, Outcome.bind]

end Garnish.Spec
