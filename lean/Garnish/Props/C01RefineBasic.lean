/-
The relativised step theorem on BasicGarnishData (`basicRStore nc`, invariant `BInvL`, `BReadable`).
`basic_shadow_laws`: the shadow of the Basic store whose `add_to_list` only extends the ghost field `building` and
whose `end_list` issues the announced-length sequence `makeListRM` on the items collected there has the FULL contract
`StoreLawsOn` — from `basicStore_lawsOnL_noList` and `basic_makeList_law` (Props/C19StoreOnL, Props/C19ListOn).  Hence
`C01_refine_step_on_basic`: for every covered instruction the REAL Basic store simulates the machine step;
`C01_refine_step_on_basic_makeList`: the `MakeList` step from the list law `ListPopLawOn (basicRStore nc) BInvL`
(a hypothesis here; proved as `basic_listPopLaw`, Props/C01RefineBasicList.lean).
-/
import Garnish.Lemmas.RuntimeOnL2
import Garnish.Props.C19MakeList
namespace Garnish.Props.RuntimeRefine
open Garnish Gen Garnish.Abs Garnish.Model.Equality Garnish.Model.Runtime Garnish.Model.Runtime.Basic Garnish.BasicOpt
open Garnish.Lemmas.Runtime Garnish.Lemmas.Runtime.Basic Garnish.Lemmas.Runtime.On Garnish.Lemmas.Runtime.OnL
open Garnish.Props.C19StoreOn Garnish.Props.C19ListOn Garnish.Props.C19StoreOnL

variable {F : Type}

/-- idealised `add_to_list`: only the ghost field records the item -/
def ghostAdd : Nat → Nat → RM BState Nat := fun t a st =>
  .ok (t, { st with building := st.building.map (fun b => (b.1, b.2 ++ [a])) })

/-- idealised `end_list`: the announced-length sequence on the items recorded -/
def ghostEnd (nc : NumCode F) : Nat → RM BState Nat := fun _ st =>
  match st.building with
  | some (_, items) => makeListRM (basicRStore nc) items st
  | none => .err .state

theorem binvL_ghost {st : BState} (hi : BInvL st) (b : Option (Nat × List Nat)) : BInvL { st with building := b } :=
  ⟨⟨hi.1.wfq, hi.1.fits, hi.1.regHead, hi.1.regPrev, hi.1.frameSaved, hi.1.ftyped⟩, hi.2⟩

/-- **basic_shadow_laws** -/
theorem basic_shadow_laws (nc : NumCode F) :
    StoreLawsOn (shadow (basicRStore nc) ghostAdd (ghostEnd nc)) BInvL BReadable := by
  refine storeLawsOn_shadow _ _ (basicStore_lawsOnL_noList nc) ?_ ?_
  · intro t items a st hi hb
    have hb' : st.building = some (t, items) := hb
    refine ⟨t, { st with building := st.building.map (fun b => (b.1, b.2 ++ [a])) }, rfl,
      ⟨⟨fun _ _ h => h, rfl, rfl, rfl, rfl⟩, rfl, rfl, rfl, rfl⟩, ?_, binvL_ghost hi _⟩
    show st.building.map _ = _
    rw [hb']; rfl
  · intro t items vs st hi hb hd
    have hb' : st.building = some (t, items) := hb
    have h := basic_makeList_law nc items vs st hi hd
    unfold AddsOn at h ⊢
    have : ghostEnd nc t st = makeListRM (basicRStore nc) items st := by
      unfold ghostEnd; rw [hb']
    rw [this]; exact h

variable (fo : FloatOps F) {P : Prog F} {host : Host F}

/-- **C01_refine_step_on_basic**: one step of the real Basic store, every covered instruction -/
theorem C01_refine_step_on_basic (nc : NumCode F) (HR : HostRefinesI (basicRStore nc) BInvL host) (fuel : Nat)
    (cast : RM BState (Option Nat)) {s : BState} {m : MState F} (hsim : Sim (basicRStore nc) P s m) (hi : BInvL s)
    (hl : Loaded (basicRStore nc) P s) {instr : Instruction} {operand : Option Nat}
    (hfetch : P.instrs[m.pc]? = some (instr, operand)) (hc : shadowCovered instr = true)
    (hok : MachOKOn4 fo (basicRStore nc) BInvL P fuel m instr operand) :
    StepSimOn fo host (basicRStore nc) BInvL P fuel (fullHandlers fo (basicRStore nc) fuel cast) s m :=
  refine_step_on_shadow fo (basic_shadow_laws nc) HR fuel cast hsim hi hl hfetch hc hok

/-- the `MakeList` step of the real Basic store from the list law in `make_list`'s shape -/
theorem C01_refine_step_on_basic_makeList (nc : NumCode F) (LP : ListPopLawOn (basicRStore nc) BInvL) (fuel : Nat)
    (H : OtherHandlers BState) {s : BState} {m : MState F} (hsim : Sim (basicRStore nc) P s m) (hi : BInvL s)
    {operand : Option Nat} (hfetch : P.instrs[m.pc]? = some (.makeList, operand))
    (hok : ∀ n, operand = some n → MDeepN m n) : StepSimOn fo host (basicRStore nc) BInvL P fuel H s m :=
  refine_step_makeListL fo (basicStore_lawsOnL_noList nc) LP fuel H hsim hi hfetch hok

/-- the contract on the Basic store, given the list law -/
theorem basic_storeLawsOnL (nc : NumCode F) (LP : ListPopLawOn (basicRStore nc) BInvL) :
    StoreLawsOnL (basicRStore nc) BInvL BReadable :=
  ⟨basicStore_lawsOnL_noList nc, ⟨ghostAdd, ghostEnd nc, basic_shadow_laws nc⟩, LP⟩

end Garnish.Props.RuntimeRefine
