/-
**characters → `SimpleGarnishData` with its symbol look-up** (`simpleRStoreA`), the whole instruction set, coverage
`MachOKOn4D`: `C01_text_to_simple_store_full` (Props/RuntimeRefineOn4.lean) on the store that models
`get_list_item_with_symbol`, with symbol look-ups into lists of pairwise different keys COVERED and no `ListSymOn`
hypothesis.  `Sim` / `Loaded` / the loaded state carry over from `simpleRStore` (they do not mention the getter).
-/
import Garnish.Props.ListSymRun
import Garnish.Props.C01TextStoreOnG
namespace Garnish.Props.ListSymText
open Garnish Garnish.Gen Garnish.Spec Garnish.Abs Garnish.Abs.Tree Garnish.Abs.Source Garnish.Model Garnish.Model.Parser
open Garnish.Model.Lexer Garnish.Model.Literals Garnish.Model.Build Garnish.Props.C01Build Garnish.Props.C01Source
open Garnish.Props.C02Numbered Garnish.Props.C01Text Garnish.Props.C01TextStore
open Garnish.Model.Equality Garnish.Model.Runtime Garnish.Lemmas.Runtime Garnish.Props.RuntimeRefine
open Garnish.Lemmas.Runtime.On Garnish.Lemmas.Runtime.Simple Garnish.Lemmas.Runtime.SimpleSym

variable {F σ : Type}

theorem sim_withSym {S : RStore F σ} {g : σ → Nat → Nat → Outcome (Option Nat)} {P : Prog F} {s : σ} {m : MState F}
    (h : Sim S P s m) : Sim (withSym S g) P s m :=
  ⟨h.1, ⟨h.2.regs, h.2.vals, h.2.frames, h.2.instrs, h.2.jumps, h.2.ilen⟩⟩

variable (pf : List Char → Option F) (cc : CharClass)

/-- **ListSym_text_to_simple_store** -/
theorem ListSym_text_to_simple_store {hit : List (SimCell F) → SimCell F → Option Nat} (hs : HitSound hit)
    (hh : SimHost F) (fo : FloatOps F) (host : Host F) (HR : HostRefinesI (simpleRStoreA hit hh) SInv host)
    (loopFuel : Nat) (cast : RM (SimState F) (Option Nat)) (s : List Char) (toks : List LexerToken)
    (hlex : lex cc s = .ok toks) (hf : frag9' (toP toks) = true) (rt : RTree)
    (href : refParse Table.gen (toP toks) = .ok rt) (p : Program F) (hel : elaborate pf (toP toks) rt = some p)
    (hwf : C01.WFProgram p) (input : Val F) (fuel : Nat) (v : Val F) (st : St F)
    (h : evalProgram fo host fuel p input = .ok (v, st)) :
    ∃ d entry n, buildText pf cc s = .ok (d, entry) ∧
      ((progOf d).consts.toList.all isLeafS = true → isLeafS input = true →
        RunOKG fo (MachOKOn4D fo (simpleRStoreA hit hh) SInv (reloc (progOf d)) loopFuel) host (reloc (progOf d)) n
          { pc := (progOf d).jumps[entry]?.getD 0, regs := [], vals := [input], frames := [], trace := [] } →
        ∃ s' a, executeLoop fo (simpleRStoreA hit hh) loopFuel (fullHandlers fo (simpleRStoreA hit hh) loopFuel cast) n
            (loadSimple (reloc (progOf d)) ((progOf d).jumps[entry]?.getD 0) input) = .ok ((.end_, n), s') ∧
          s'.values = [a] ∧ Decodes (simView s'.cells) a v ∧ (simpleRStoreA hit hh).regs s' = [] ∧
          (simpleRStoreA hit hh).frames s' = [] ∧ SInv s') := by
  obtain ⟨d, entry, hb, n, m, hrun, hv, hr, hfr, _⟩ :=
    C01_text_correct pf cc fo host s toks hlex hf rt href p hel hwf input fuel v st h
  refine ⟨d, entry, n, hb, fun hleaf hin hok => ?_⟩
  obtain ⟨hload, hinv⟩ := C01TextStore.loadSimple_reloc hit hh ((progOf d).jumps[entry]?.getD 0) hleaf hin
  rw [← run_reloc] at hrun
  exact refine_run_value_gen (S := simpleRStoreA hit hh) fo host
    (MachOKOn4D fo (simpleRStoreA hit hh) SInv (reloc (progOf d)) loopFuel) loopFuel _
    (fun s m instr operand hsim hi hl hf hk =>
      refine_step_on4D fo (simpleA_lawsOn hs) (simpleA_listSymDistinct SInv) HR loopFuel cast hsim hi hl hf hk)
    n (sim_withSym hload.sim) hinv hload.consts hok hrun hv hr hfr

end Garnish.Props.ListSymText
