/-
Property C18, TEXT level: rewrites of the source characters, transferred through the lexer model to the token-level
theorems of Props/C18Parse.lean and to the source-to-machine theorem of Props/C01Text.lean.

Proved here for `TextAddSpace` (spaces/tabs inserted into, or removed from, a run of spaces/tabs that the lexer reads as
whitespace): `lex` of the rewritten text succeeds iff `lex` of the original does, the token lists differ in the TEXT of one
whitespace token only (`C18_text_addSpace_lex`), hence the parser's inputs have the same types and numbering, the
reference parser returns the SAME tree for every input (`C18_text_addSpace_refParse`), the real parser returns the same
tree up to stored positions on `frag9` (`C18_text_addSpace`), the elaborated program is the same
(`C18_text_addSpace_elaborate`, under `TextNodesOnTokens`) and so is the machine result on `frag9'`
(`C18_text_addSpace_result`). The primed forms `C18_text_addSpace'`, `C18_text_addSpace_result'`, with hypotheses about the
original text only, are in Props/C02Support.lean (they need `frag9_of_sameTypes`, proved there).
The other text rewrites (`TextTrailing`, `TextPadOperator`, `TextAnnotation`) are DEFINED here with their guards; their
lexer-level transfer is proved in Props/C18Text2.lean (trailing, for the state form `TextTrailingAt`) and Props/C18Text4.lean
(`TextPadOperatorAt`, `TextAnnotation`); witnesses show that the guards are needed.
-/
import Garnish.Lemmas.LexRewrite
import Garnish.Lemmas.ElabReads
import Garnish.Props.C18Lex
import Garnish.Props.C18Parse
import Garnish.Props.C01Text
namespace Garnish.Props.C18Text
open Garnish Garnish.Gen Garnish.Spec Garnish.Model Garnish.Model.Lexer Garnish.Model.Parser
open Garnish.Abs Garnish.Abs.Source Garnish.Props.C02Parse Garnish.Props.C18Parse
open Garnish.Abs.Tree Garnish.Model.Literals Garnish.Model.Build Garnish.Props.C01Build Garnish.Props.C01Source
open Garnish.Props.C02Numbered

/-! ### the text rewrites -/

/-- a run of spaces/tabs -/
def Blanks (r : List Char) : Prop := ∀ c ∈ r, c = ' ' ∨ c = '\t'

/-- **adding / removing spaces and tabs where whitespace already is**: `Lexer.TextAddSpace cc s s'` —
`s = p ++ r ++ b`, `s' = p ++ r' ++ b`, `r`, `r'` runs of spaces/tabs, and after `p` the lexer is inside a Whitespace
token (`InWsAfter`, decided by `inWsAfterB`; a blank inside a char list is not whitespace). One blank inserted next to an
existing blank is the case `r' = c :: r` or `r = []`, `r' = [c]`. -/
abbrev TextAddSpace := @Lexer.TextAddSpace

/-- **trailing whitespace**: spaces/tabs appended at the very end of the input. Transfer to `TrailingSpace (toP t) (toP t')`
is proved for the guarded form `C18Text2.TextTrailingAt` (the input ends with a pending Number / Float / Identifier / Operator /
Annotation or between tokens: there a blank ends the pending token exactly as the end-of-input sentinel does). When the input
already ends in whitespace this is `TextAddSpace` with `b = []`. -/
def TextTrailing (s s' : List Char) : Prop := ∃ w, w ≠ [] ∧ Blanks w ∧ s' = s ++ w

/-- **padding an operator**: one blank inserted directly after the token that ends at offset `p.length`, where no
whitespace was. Guards (each needed, see the witnesses below): the token before the blank does not block floats
(`blocksFloat`: after Value, CharList, ByteList, Identifier, Period, Number a following `.5` is an access, after whitespace
it is a float); the next character `d` does not continue a spelling of the operator table with the token's text
(`C13_longest_match`: otherwise `- -` and `--` differ), and `d` is not a blank / newline. Transfer proved for the state form
`C18Text4.TextPadOperatorAt` (`C18_text_padOperator_lex`). -/
def TextPadOperator (cc : CharClass) (s s' : List Char) : Prop :=
  ∃ p d b c toks t, (c = ' ' ∨ c = '\t') ∧ s = p ++ d :: b ∧ s' = p ++ c :: d :: b ∧
    lex cc p = .ok (toks ++ [t]) ∧ isOpType t.tokenType = true ∧ blocksFloat (some t.tokenType) = false ∧
    walkOperator theTree (t.text ++ [d]) = none ∧ d ≠ ' ' ∧ d ≠ '\t' ∧ d ≠ '\n'

/-- **inserting an annotation where whitespace is**: ` @name` inserted inside a whitespace run (`name` alphanumeric /
underscore, followed by the rest of the run, which must be non-empty so that the annotation ends). Transfer:
`C18Text4.C18_text_annotation_lex`. -/
def TextAnnotation (cc : CharClass) (s s' : List Char) : Prop :=
  ∃ p cs name c b, InWsAfter cc p cs ∧ (∀ x ∈ name, cc.isAlphanumeric x = true ∨ x = '_') ∧ (c = ' ' ∨ c = '\t') ∧
    s = p ++ c :: b ∧ s' = p ++ ('@' :: name) ++ c :: b

/-! ### `TextAddSpace`: through the lexer -/

/-- the rewritten text lexes, to the same tokens except for the text of ONE whitespace token (rows / columns behind it
shift); hypothesis on the tables: `cc.Sane` -/
theorem C18_text_addSpace_lex (cc : CharClass) (hcc : cc.Sane) (s s' : List Char) (t : List LexerToken)
    (hl : lex cc s = .ok t) (h : TextAddSpace cc s s') : ∃ t', lex cc s' = .ok t' ∧ OneWsChanged t t' :=
  lex_textAddSpace cc hcc hl h

/-- the parser's inputs: numbered by position, same token types (the closure condition `SameTypes` of Lemmas/RefTrivia), equal
except for the text of one token of whitespace type -/
theorem C18_text_addSpace_tokens (t t' : List LexerToken) (h : OneWsChanged t t') :
    NumberedFrom 0 (toP t) ∧ NumberedFrom 0 (toP t') ∧ SameTypes (toP t) (toP t') ∧
    ∃ pre x x' rest, toP t = pre ++ x :: rest ∧ toP t' = pre ++ x' :: rest ∧ x.type = x'.type ∧
      (x.type = .whitespace ∨ x.type = .subexpression) :=
  ⟨toP_numbered t, toP_numbered t', h.sameTypes,
    let ⟨pre, x, x', rest, h1, h2, h3, _, h5⟩ := h.parserInput; ⟨pre, x, x', rest, h1, h2, h3, h5⟩⟩

/-- **every input**: the reference parser returns the same tree (positions included) for the two texts -/
theorem C18_text_addSpace_refParse (cc : CharClass) (hcc : cc.Sane) (s s' : List Char) (t : List LexerToken)
    (hl : lex cc s = .ok t) (h : TextAddSpace cc s s') :
    ∃ t', lex cc s' = .ok t' ∧ refParse Table.gen (toP t') = refParse Table.gen (toP t) := by
  obtain ⟨t', hl', hc⟩ := C18_text_addSpace_lex cc hcc s s' t hl h
  exact ⟨t', hl', (refParse_types Table.gen hc.sameTypes).symm⟩

/-- **the real parser on `frag9`**: both token lists parse, to proper trees that are equal up to the positions stored in
the nodes (`TreeEqTrivia`); in fact the two reference trees are identical -/
theorem C18_text_addSpace (cc : CharClass) (hcc : cc.Sane) (s s' : List Char) (t : List LexerToken)
    (hl : lex cc s = .ok t) (h : TextAddSpace cc s s') (hf : frag9 (toP t) = true)
    (hf' : ∀ t', lex cc s' = .ok t' → frag9 (toP t') = true) :
    ∃ t' r tr r' tr', lex cc s' = .ok t' ∧ parse (toP t) = .ok r ∧ toTree r = some tr ∧ parse (toP t') = .ok r' ∧
      toTree r' = some tr' ∧ treeToRG r tr = treeToRG r' tr' ∧ TreeEqTrivia (treeToRG r tr) (treeToRG r' tr') := by
  obtain ⟨t', hl', href⟩ := C18_text_addSpace_refParse cc hcc s s' t hl h
  obtain ⟨r, tr, h1, h2, h3⟩ := C02_parse_correct_fragment_optional (toP t) hf (toP_numbered t)
  obtain ⟨r', tr', h1', h2', h3'⟩ := C02_parse_correct_fragment_optional (toP t') (hf' t' hl') (toP_numbered t')
  have heq : treeToRG r tr = treeToRG r' tr' := Outcome.ok.inj (h3.symm.trans (href.symm.trans h3'))
  exact ⟨t', r, tr, r', tr', hl', h1, h2, h1', h2', heq, by rw [TreeEqTrivia, heq]⟩

/-! ### `TextAddSpace`: elaboration and machine result -/

/-- the nodes whose elaboration reads the token text (literals, identifiers, properties, backtick applications) sit on
tokens that are not Whitespace / Subexpression tokens -/
def TextNodesOnTokens (toks : List PToken) (rt : RTree) : Prop :=
  ∀ d k, (d, k) ∈ nodeDefs rt → readsText d = true →
    ∀ tok, toks[k]? = some tok → tok.type ≠ .whitespace ∧ tok.type ≠ .subexpression

theorem textAt_oneChanged {pre rest : List PToken} {x x' : PToken} (k : Nat) (hk : k ≠ pre.length) :
    textAt (pre ++ x :: rest) k = textAt (pre ++ x' :: rest) k := by
  unfold textAt
  rcases Nat.lt_or_ge k pre.length with hlt | hge
  · rw [List.getElem?_append_left hlt, List.getElem?_append_left hlt]
  · rw [List.getElem?_append_right hge, List.getElem?_append_right hge]
    have : k - pre.length ≠ 0 := by omega
    cases hkk : k - pre.length with
    | zero => exact absurd hkk this
    | succ n => simp

/-- the elaborated program is the same (the elaboration reads token texts only at text-reading nodes, `elaborate_congr`,
and those are not the changed whitespace token) -/
theorem C18_text_addSpace_elaborate {F : Type} (pf : List Char → Option F) (t t' : List LexerToken)
    (h : OneWsChanged t t') (rt : RTree) (hn : TextNodesOnTokens (toP t) rt) :
    elaborate pf (toP t') rt = elaborate pf (toP t) rt := by
  obtain ⟨pre, x, x', rest, h1, h2, _, _, hws⟩ := h.parserInput
  apply elaborate_congr
  intro d k hm hr
  rw [h1, h2]
  by_cases hk : k = pre.length
  · exfalso
    have := hn d k hm hr x (by rw [h1, hk]; simp)
    rcases hws with hw | hw
    · exact this.1 hw
    · exact this.2 hw
  · exact (textAt_oneChanged k hk).symm

/-- **result half on `frag9'`**: if the original text lexes, is in the fragment, has the reference tree `rt`, elaborates to
a well-formed program `p` and `p` evaluates to `v` with trace `st.trace`, then BOTH texts are built into objects on which
the machine halts with exactly that value and host-call trace -/
theorem C18_text_addSpace_result {F : Type} (pf : List Char → Option F) (cc : CharClass) (hcc : cc.Sane)
    (fo : FloatOps F) (host : Host F) (s s' : List Char) (t : List LexerToken) (hl : lex cc s = .ok t)
    (h : TextAddSpace cc s s') (hf : frag9' (toP t) = true) (hf' : ∀ t', lex cc s' = .ok t' → frag9' (toP t') = true)
    (rt : RTree) (href : refParse Table.gen (toP t) = .ok rt) (hn : TextNodesOnTokens (toP t) rt)
    (p : Program F) (hel : elaborate pf (toP t) rt = some p) (hwf : C01.WFProgram p)
    (input : Val F) (fuel : Nat) (v : Val F) (st : St F) (he : evalProgram fo host fuel p input = .ok (v, st)) :
    ∀ src ∈ [s, s'], ∃ d entry, C01Text.buildText pf cc src = .ok (d, entry) ∧
      ∃ n m, run fo host (progOf d) n
          { pc := (progOf d).jumps[entry]?.getD 0, regs := [], vals := [input], frames := [], trace := [] } = (.halted m, n) ∧
        m.vals = [v] ∧ m.regs = [] ∧ m.frames = [] ∧ m.trace = st.trace := by
  obtain ⟨t', hl', hc⟩ := C18_text_addSpace_lex cc hcc s s' t hl h
  have href' : refParse Table.gen (toP t') = .ok rt := by
    rw [← refParse_types Table.gen hc.sameTypes]; exact href
  have hel' : elaborate pf (toP t') rt = some p := by rw [C18_text_addSpace_elaborate pf t t' hc rt hn]; exact hel
  exact forall_mem_pair (C01Text.C01_text_correct pf cc fo host _ t hl hf rt href p hel hwf input fuel v st he)
    (C01Text.C01_text_correct pf cc fo host _ t' hl' (hf' t' hl') rt href' p hel' hwf input fuel v st he)

/-! ### non-vacuity and witnesses (Rust tables) -/

deriving instance DecidableEq for Outcome

/-- `x + y` -/
def exS : List Char := ['x', ' ', '+', ' ', 'y']
/-- `x  \t+ y`: two blanks inserted into the first whitespace run -/
def exS' : List Char := ['x', ' ', ' ', '\t', '+', ' ', 'y']

def exT : List LexerToken :=
  [⟨['x'], .identifier, 0, 0⟩, ⟨[' '], .whitespace, 0, 1⟩, ⟨['+'], .plusSign, 0, 2⟩, ⟨[' '], .whitespace, 0, 3⟩,
   ⟨['y'], .identifier, 0, 4⟩]
def exT' : List LexerToken :=
  [⟨['x'], .identifier, 0, 0⟩, ⟨[' ', ' ', '\t'], .whitespace, 0, 1⟩, ⟨['+'], .plusSign, 0, 4⟩, ⟨[' '], .whitespace, 0, 5⟩,
   ⟨['y'], .identifier, 0, 6⟩]

theorem exS_lex : lex rustTables exS = .ok exT ∧ lex rustTables exS' = .ok exT' := by
  simp only [lex_eq]; decide +kernel

/-- the rewrite is licensed: after `x ` the lexer is inside a Whitespace token -/
theorem exS_add : TextAddSpace rustTables exS exS' :=
  ⟨['x', ' '], [' '], [], [' ', '\t'], ['+', ' ', 'y'], inWsAfter_of_check (by rw [inWsAfterB, theTree_eq]; decide +kernel),
    by simp, by simp, rfl, rfl⟩

theorem exS_frag : frag9 (toP exT) = true ∧ frag9 (toP exT') = true := by decide +kernel

/-- the composed theorem applies: both texts parse, to the same tree -/
example : ∃ t' r tr r' tr', lex rustTables exS' = .ok t' ∧ parse (toP exT) = .ok r ∧ toTree r = some tr ∧
    parse (toP t') = .ok r' ∧ toTree r' = some tr' ∧ treeToRG r tr = treeToRG r' tr' ∧
    TreeEqTrivia (treeToRG r tr) (treeToRG r' tr') :=
  C18_text_addSpace rustTables rustTables_sane2.toSane exS exS' exT exS_lex.1 exS_add exS_frag.1
    (fun t' h => by
      have e : (Outcome.ok t' : Outcome (List LexerToken)) = .ok exT' := h.symm.trans exS_lex.2
      cases e
      exact exS_frag.2)

/-- a blank inside a char list is not whitespace: the guard fails for `"a b"` at the blank -/
example : inWsAfterB rustTables ['"', 'a', ' '] [' '] = false := by rw [inWsAfterB, theTree_eq]; decide +kernel

/-- **not licensed: a space where none was** (guard of `TextPadOperator`: the token before blocks floats) —
`a.5` is Identifier, Period, Number, but `a .5` is Identifier, Whitespace, Number `.5`; likewise `"s"1.5` / `"s" 1.5` -/
theorem C18_text_space_before_float_differs :
    C18Lex.typesTexts (lex rustTables ['a', '.', '5']) = [(.identifier, ['a']), (.period, ['.']), (.number, ['5'])] ∧
    C18Lex.typesTexts (lex rustTables ['a', ' ', '.', '5']) =
      [(.identifier, ['a']), (.whitespace, [' ']), (.number, ['.', '5'])] ∧
    C18Lex.typesTexts (lex rustTables ['"', 's', '"', '1', '.', '5']) =
      [(.charList, ['"', 's', '"']), (.number, ['1']), (.period, ['.']), (.number, ['5'])] ∧
    C18Lex.typesTexts (lex rustTables ['"', 's', '"', ' ', '1', '.', '5']) =
      [(.charList, ['"', 's', '"']), (.whitespace, [' ']), (.number, ['1', '.', '5'])] := by
  exact ⟨C18Lex.C18_lex_insert_space_counterexample.1, C18Lex.C18_lex_insert_space_counterexample.2,
    by simp only [lex_eq]; decide +kernel⟩

/-- **not licensed: removing the space between two operator characters that form a longer spelling** (guard of
`TextPadOperator`: `walkOperator theTree (text ++ [d]) = none`) — `- -` is Subtraction, Whitespace, Subtraction but `--` is
one Opposite token; `< <` / `<<` likewise -/
theorem C18_text_operator_merge_differs :
    C18Lex.typesTexts (lex rustTables ['-', ' ', '-']) = [(.subtraction, ['-']), (.whitespace, [' ']), (.subtraction, ['-'])] ∧
    C18Lex.typesTexts (lex rustTables ['-', '-']) = [(.opposite, ['-', '-'])] ∧
    C18Lex.typesTexts (lex rustTables ['<', ' ', '<']) = [(.lessThan, ['<']), (.whitespace, [' ']), (.lessThan, ['<'])] ∧
    C18Lex.typesTexts (lex rustTables ['<', '<']) = [(.bitwiseLeftShift, ['<', '<'])] := by
  simp only [lex_eq]; decide +kernel

end Garnish.Props.C18Text
