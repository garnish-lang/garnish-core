/-
C04, builder half — `C04_evaluation_order`: the rules of Props/C04Order.lean as one relation, and the proof that they
decide the order of any two nodes of one root.

`EmitBefore nodes root x z`: every instruction attributed to `x` precedes every instruction attributed to `z`:
  operands   left subtree before right subtree (in line)                          — the order of the source tokens
  swapped    Pair / ApplyTo: right subtree before left subtree                    — the documented swap
  childFirst an operand before the own instruction of its operator                — postfix: differs from token order for
             (binary, unary, list, And / Or / JumpIf… for the left operand)         a right operand, which is written after
  nodeFirst  separators and value-like nodes: own instruction before the right    — the order of the source tokens
  outOfLine  the whole root of the owner before the out-of-line subtree
For the nodes of one root in-line (`IDesc ρ x`, `IDesc ρ z`, `x ≠ z`) one of `EmitBefore x z`, `EmitBefore z x` holds
unless one of them is a `Group` (emits nothing) or a `SideEffect` (brackets its body: `C04_side_effect_brackets`) and the
other one lies in line below it (`C04_evaluation_order_total`).  So within a root the instruction order IS the order of
the source tokens, with two systematic differences: an operator is emitted after its operands, and Pair / ApplyTo emit
their right operand first; the out-of-line roots follow the root of their owner.
-/
import Garnish.Props.C04Order
namespace Garnish.Props.C04Order
open Garnish Garnish.Gen Garnish.Model.Parser Garnish.Model.Build Garnish.Lemmas.Build
open Garnish.Lemmas.BuildSeq

variable {F : Type}

inductive EmitBefore (nodes : Array ParseNode) (root : Nat) : Nat → Nat → Prop
  | operands {x z : Nat} (p l r : Nat) (pn : ParseNode) : nodes[p]? = some pn → InTree nodes root p → pn.left = some l →
      pn.right = some r → (layout pn.definition = .lrn ∨ layout pn.definition = .lnr) → IDesc nodes l x → IDesc nodes r z →
      EmitBefore nodes root x z
  | swapped {x z : Nat} (p l r : Nat) (pn : ParseNode) : nodes[p]? = some pn → InTree nodes root p → pn.left = some l →
      pn.right = some r → layout pn.definition = .rln → IDesc nodes r x → IDesc nodes l z → EmitBefore nodes root x z
  | childFirst {x : Nat} (p c : Nat) (pn : ParseNode) : nodes[p]? = some pn → InTree nodes root p →
      ((pn.left = some c ∧ inlL (layout pn.definition) = true) ∨ (pn.right = some c ∧ preR (layout pn.definition) = true)) →
      pn.definition ≠ .sideEffect → IDesc nodes c x → EmitBefore nodes root x p
  | nodeFirst {z : Nat} (p r : Nat) (pn : ParseNode) : nodes[p]? = some pn → InTree nodes root p → pn.right = some r →
      layout pn.definition = .lnr → IDesc nodes r z → EmitBefore nodes root p z
  | outOfLine {x z : Nat} (ρ y r : Nat) (yn : ParseNode) : InTree nodes root ρ → IDesc nodes ρ y → nodes[y]? = some yn →
      yn.right = some r → oolR yn.definition = true → IDesc nodes ρ x → Sub nodes r z → EmitBefore nodes root x z

/-- C04, builder half, evaluation order: for EVERY node vector, root, fuel and start state, after a successful `build`
the metadata puts every instruction attributed to `x` before every instruction attributed to `z` whenever
`EmitBefore nodes root x z` -/
theorem C04_evaluation_order (parseFloat : List Char → Option F) (fuel root : Nat) (nodes : Array ParseNode) (d d' : BState F)
    (entry : Nat) (h : build parseFloat fuel root nodes d = .ok (d', entry)) (x z : Nat) (he : EmitBefore nodes root x z)
    (kx kz : Nat) (hkx : d.metadata.size ≤ kx) (hkz : d.metadata.size ≤ kz)
    (hmx : d'.metadata[kx]? = some (some x)) (hmz : d'.metadata[kz]? = some (some z)) : kx < kz := by
  have b : Built parseFloat fuel root nodes d d' x z kx kz := ⟨⟨entry, h⟩, hkx, hkz, hmx, hmz⟩
  cases he with
  | operands p l r pn hp ht hl hr hk hx hz => exact C04_children_in_order b p l r pn hp ht hl hr hk hx hz
  | swapped p l r pn hp ht hl hr hk hx hz => exact C04_children_swapped b p l r pn hp ht hl hr hk hx hz
  | childFirst p c pn hp ht hc hnse hx => exact C04_child_before_node b c pn hp ht hc hnse hx
  | nodeFirst p r pn hp ht hr hk hz => exact C04_node_before_right b r pn hp ht hr hk hz
  | outOfLine ρ y r yn ht hy hyn hr hool hx hz => exact C04_out_of_line_after_root b ρ y r yn ht hy hyn hr hool hx hz

/-! ### the rules decide the order inside a root -/

/-- the first of two operands before the second -/
theorem EmitBefore.ofOrd {nodes : Array ParseNode} {root y a b x z : Nat} (ht : InTree nodes root y) (h : Ord nodes y a b)
    (hx : IDesc nodes a x) (hz : IDesc nodes b z) : EmitBefore nodes root x z := by
  obtain ⟨yn, l, r, hyn, hl, hr, h⟩ := h
  rcases h with ⟨hk, ha, hb⟩ | ⟨hk, ha, hb⟩ <;> subst ha hb
  · exact .swapped y b a yn hyn ht hl hr hk hx hz
  · exact .operands y a b yn hyn ht hl hr hk hx hz

/-- `z` lies in line strictly below `x`: the rule that applies, or `x` is a Group / SideEffect -/
theorem emit_below {nodes : Array ParseNode} {root x z : Nat} (ht : InTree nodes root x) (h : IDesc nodes x z) (hne : z ≠ x) :
    EmitBefore nodes root x z ∨ EmitBefore nodes root z x ∨
    ∃ xn, nodes[x]? = some xn ∧ (xn.definition = .group ∨ xn.definition = .sideEffect) := by
  obtain ⟨c, hc, hd⟩ := (idesc_head h).resolve_left hne
  obtain ⟨xn, hxn, _⟩ := id hc
  rcases Classical.em (xn.definition = .sideEffect) with hse | hse
  · exact Or.inr (Or.inr ⟨xn, hxn, Or.inr hse⟩)
  rcases ilink_pre_post hc with ⟨xn', hxn', h⟩ | ⟨xn', hxn', hr, hk⟩ | ⟨xn', hxn', hk⟩ <;> (rw [hxn] at hxn'; cases hxn')
  · exact Or.inr (Or.inl (.childFirst x c xn hxn ht h hse hd))
  · exact Or.inl (.nodeFirst x c xn hxn ht hr hk hd)
  · exact Or.inr (Or.inr ⟨xn, hxn, Or.inl (layout_gr hk)⟩)

/-- the rules decide the order of two nodes of one root, except below a Group (which emits nothing) or a SideEffect
(which brackets its body) -/
theorem C04_evaluation_order_total (nodes : Array ParseNode) (root ρ x z : Nat) (hρ : Sub nodes root ρ)
    (hx : IDesc nodes ρ x) (hz : IDesc nodes ρ z) (hne : x ≠ z) :
    EmitBefore nodes root x z ∨ EmitBefore nodes root z x ∨
    ∃ a an, (a = x ∨ a = z) ∧ nodes[a]? = some an ∧ (an.definition = .group ∨ an.definition = .sideEffect) ∧
      IDesc nodes a x ∧ IDesc nodes a z := by
  have hin : ∀ {y}, IDesc nodes ρ y → InTree nodes root y := fun hy => Or.inl (Sub.trans hρ hy.sub)
  rcases idesc_order hx hz hne with ⟨y, a, b, hy, ho, h | h⟩ | ⟨c, hc, hd⟩ | ⟨c, hc, hd⟩
  · exact Or.inl (.ofOrd (hin hy) ho h.1 h.2)
  · exact Or.inr (Or.inl (.ofOrd (hin hy) ho h.1 h.2))
  · have hxz := (IDesc.step (.refl x) hc).trans hd
    rcases emit_below (hin hx) hxz (fun e => hne e.symm) with h1 | h1 | ⟨xn, h2, h3⟩
    · exact Or.inl h1
    · exact Or.inr (Or.inl h1)
    · exact Or.inr (Or.inr ⟨x, xn, Or.inl rfl, h2, h3, .refl x, hxz⟩)
  · have hzx := (IDesc.step (.refl z) hc).trans hd
    rcases emit_below (hin hz) hzx hne with h1 | h1 | ⟨zn, h2, h3⟩
    · exact Or.inr (Or.inl h1)
    · exact Or.inl h1
    · exact Or.inr (Or.inr ⟨z, zn, Or.inr rfl, h2, h3, hzx, .refl z⟩)

/-! ### the mutual order of two out-of-line parts (proved in Props/C04Eval2.lean) -/

/-- the last visit of `y1` comes before the last visit of `y2` (two nodes of one root); `w` has to be a node of the tree
(an unlinked Subexpression node may carry stale links) -/
def LastBefore (nodes : Array ParseNode) (root y1 y2 : Nat) : Prop :=
  (∃ w a b, InTree nodes root w ∧ Ord nodes w a b ∧ IDesc nodes a y1 ∧ IDesc nodes b y2) ∨
  (∃ c, PreC nodes y2 c ∧ IDesc nodes c y1) ∨ (∃ c, PostC nodes y1 c ∧ IDesc nodes c y2)

/-- `root_stack` is a stack: of two out-of-line children scheduled while one root is built, the one scheduled later is
emitted first, with its whole subtree — stated here for the owners that always schedule in their own last visit (And, Or,
NestedExpression).  Proved in Props/C04Eval2.lean (`C04_out_of_line_lifo_direct`), together with the general form that
covers the arms of conditionals (`C04_out_of_line_lifo`): when the JumpIf… sits in an else-chain the chain head collects
the arms (in source order) and pushes them together in its own last visit, so they are emitted in reverse source order
after everything that was scheduled before the head finished (`exElse` in Props/C04OrderEx.lean). -/
def C04_out_of_line_lifo_statement (F : Type) : Prop :=
  ∀ (parseFloat : List Char → Option F) (fuel root : Nat) (nodes : Array ParseNode) (d d' : BState F) (entry : Nat),
    build parseFloat fuel root nodes d = .ok (d', entry) →
    ∀ (ρ y1 y2 r1 r2 : Nat) (n1 n2 : ParseNode), Sub nodes root ρ → IDesc nodes ρ y1 → IDesc nodes ρ y2 →
      nodes[y1]? = some n1 → nodes[y2]? = some n2 → n1.right = some r1 → n2.right = some r2 →
      (n1.definition = .and ∨ n1.definition = .or ∨ n1.definition = .nestedExpression) →
      (n2.definition = .and ∨ n2.definition = .or ∨ n2.definition = .nestedExpression) →
      LastBefore nodes root y1 y2 →
      ∀ x z kx kz : Nat, Sub nodes r2 x → Sub nodes r1 z → d.metadata.size ≤ kx → d.metadata.size ≤ kz →
        d'.metadata[kx]? = some (some x) → d'.metadata[kz]? = some (some z) → kx < kz

end Garnish.Props.C04Order
