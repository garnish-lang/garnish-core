/-
`BInvL` = `BInv` + `LayoutOK` as THE invariant of the Basic store interface: the laws are proved for any room predicate
(Lemmas/BasicLaws.lean `Room`), `Fits` with `LayoutOK` is one (`room_fitsL`), hence `basicStore_lawsOnL_noList`; and the
announced-length list contract holds under it (`basic_makeList_law`, Props/C19ListOn.lean).  Together (`basicStore_contract`): everything
`StoreLawsOn` asks for, with the two unrestricted list clauses replaced by the law of the sequence
`start_list(n)`, exactly `n` × `add_to_list`, `end_list`.
-/
import Garnish.Props.C19ListOn
namespace Garnish.Props.C19StoreOnL
open Garnish Gen Garnish.Model.Equality Garnish.Model.Runtime Garnish.Model.Runtime.Basic Garnish.BasicOpt
open Garnish.Lemmas.Runtime.Basic Garnish.Props.C19StoreOn Garnish.Props.C19ListOn

variable {F : Type}

/-- **basicStore_lawsOnL_noList**: every clause of `StoreLawsOn` except `addToList` / `endList`, with `BInvL` -/
theorem basicStore_lawsOnL_noList (nc : NumCode F) : StoreLawsOnNoList (basicRStore nc) BInvL BReadable :=
  binvP_fitsL ▸ basicStore_lawsOn_noListP nc room_fitsL

/-- **basicStore_contract**: the store contract of the runtime on BasicGarnishData, from `BasicGarnishData::new()`:
the invariant holds initially, every clause of `StoreLawsOn` other than the two unrestricted list clauses holds, and
list construction that respects the announced length satisfies the list law -/
theorem basicStore_contract (nc : NumCode F) :
    BInvL BState.init ∧ StoreLawsOnNoList (basicRStore nc) BInvL BReadable ∧ ListLawOn (basicRStore nc) BInvL :=
  ⟨binvL_init, basicStore_lawsOnL_noList nc, basic_makeList_law nc⟩

end Garnish.Props.C19StoreOnL
