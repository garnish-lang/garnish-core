/-
Runtime refinement, part 2a (C08 / C09 anchors): the statement-level models of runtime/src/runtime/arithmetic.rs
and bitwise.rs (Model/Runtime/Arithmetic.lean) refine `arithBinary` / `arithUnary` of Abs/Ops.lean.

For ALL operand values: two numbers ↦ the registers end with `a :: rest` where `a` decodes to the result of the
`GarnishNumber` operation, or to unit when it answers `None` (C09: exact or unit, nothing else); any other pair
↦ both operands popped, `defer_op` called exactly once with (instruction, (type, address) of the left operand,
(type, address) of the right operand — `(Unit, 0)` for a unary operation), unit pushed iff the host declined.
Hypotheses: `StoreLaws S`, the register shape, `Decodes` of the operands.
-/
import Garnish.Lemmas.RuntimeArith
import Garnish.Lemmas.RuntimeRefStore
namespace Garnish.Props.RuntimeRefine
open Garnish Gen Garnish.Abs Garnish.Model.Equality Garnish.Model.Runtime Garnish.Lemmas.Runtime

variable {F σ : Type} {S : RStore F σ} (fo : FloatOps F)

/-- `perform_op` with the `GarnishNumber` method of `nop` refines `arithBinary` -/
theorem C08_refine_perform_op (L : StoreLaws S) (op : Instruction) (nop : NumOp)
    {s : σ} {r l : Nat} {vr vl : Val F} {rest : List Nat}
    (hregs : S.regs s = r :: l :: rest) (hl : Decodes (S.view s) l vl) (hr : Decodes (S.view s) r vr) :
    RefinesOut S s (performOp S op (Number.apply fo nop) s) none rest l r (arithBinary fo op nop vl vr) := by
  rw [arithBinary_eq]; exact (Core.performOp_spec L.toK op _ hregs hl hr trivial nofun).plain

/-- `perform_unary_op` refines `arithUnary`; the host sees `(Unit, 0)` as the right operand -/
theorem C08_refine_perform_unary_op (L : StoreLaws S) (op : Instruction) (nop : NumOp)
    {s : σ} {a : Nat} {v : Val F} {rest : List Nat}
    (hregs : S.regs s = a :: rest) (h : Decodes (S.view s) a v) :
    RefinesOut S s (performUnaryOp S op (fun x => Number.apply fo nop x x) s) none rest a 0
      (arithUnary fo op nop v) := by
  rw [arithUnary_eq]; exact (Core.performUnaryOp_spec L.toK op _ hregs h trivial nofun).plain

/-- every handler of arithmetic.rs / bitwise.rs is `perform_op` / `perform_unary_op` at the instruction's own
number operation (`numOpOf`, the table Abs/Ops `binaryOp` / `unaryOp` use) -/
theorem C08_refine_handlers_binary :
    add fo S = performOp S .add (Number.apply fo .plus) ∧
    subtract fo S = performOp S .subtract (Number.apply fo .subtract) ∧
    multiply fo S = performOp S .multiply (Number.apply fo .multiply) ∧
    power fo S = performOp S .power (Number.apply fo .power) ∧
    divide fo S = performOp S .divide (Number.apply fo .divide) ∧
    integerDivide fo S = performOp S .integerDivide (Number.apply fo .integerDivide) ∧
    remainder fo S = performOp S .remainder (Number.apply fo .remainder) ∧
    bitwiseAnd S = performOp S .bitwiseAnd (Number.apply fo .bitwiseAnd) ∧
    bitwiseOr S = performOp S .bitwiseOr (Number.apply fo .bitwiseOr) ∧
    bitwiseXor S = performOp S .bitwiseXor (Number.apply fo .bitwiseXor) ∧
    bitwiseLeftShift S = performOp S .bitwiseShiftLeft (Number.apply fo .bitwiseShiftLeft) ∧
    bitwiseRightShift S = performOp S .bitwiseShiftRight (Number.apply fo .bitwiseShiftRight) :=
  ⟨rfl, rfl, rfl, rfl, rfl, rfl, rfl, rfl, rfl, rfl, rfl, rfl⟩

theorem C08_refine_handlers_unary :
    absoluteValue fo S = performUnaryOp S .absoluteValue (fun x => Number.apply fo .absoluteValue x x) ∧
    opposite fo S = performUnaryOp S .opposite (fun x => Number.apply fo .opposite x x) ∧
    bitwiseNot S = performUnaryOp S .bitwiseNot (fun x => Number.apply fo .bitwiseNot x x) :=
  ⟨rfl, rfl, rfl⟩

/-- `add` (one instance spelled out; the others are the same statement through `C08_refine_handlers_*`) -/
theorem C08_refine_add (L : StoreLaws S) {s : σ} {r l : Nat} {vr vl : Val F} {rest : List Nat}
    (hregs : S.regs s = r :: l :: rest) (hl : Decodes (S.view s) l vl) (hr : Decodes (S.view s) r vr) :
    ∃ o, binaryOp fo .add vl vr = some o ∧ RefinesOut S s (add fo S s) none rest l r o :=
  ⟨_, rfl, C08_refine_perform_op fo L .add .plus hregs hl hr⟩

/-- for every binary arithmetic / bitwise instruction `perform_op` at its number operation refines Abs/Ops
`binaryOp` -/
theorem C08_refine_binary_instruction (L : StoreLaws S) (op : Instruction) (nop : NumOp)
    (hop : numOpOf op = some nop) (hb : nop.isUnary = false)
    {s : σ} {r l : Nat} {vr vl : Val F} {rest : List Nat}
    (hregs : S.regs s = r :: l :: rest) (hl : Decodes (S.view s) l vl) (hr : Decodes (S.view s) r vr) :
    ∃ o, binaryOp fo op vl vr = some o ∧
      RefinesOut S s (performOp S op (Number.apply fo nop) s) none rest l r o := by
  refine ⟨arithBinary fo op nop vl vr, ?_, C08_refine_perform_op fo L op nop hregs hl hr⟩
  cases op <;> simp [numOpOf] at hop <;> subst hop <;> simp [NumOp.isUnary] at hb <;> rfl

/-- likewise the three unary instructions and `unaryOp` -/
theorem C08_refine_unary_instruction (L : StoreLaws S) (op : Instruction) (nop : NumOp)
    (hop : numOpOf op = some nop) (hb : nop.isUnary = true)
    {s : σ} {a : Nat} {v : Val F} {rest : List Nat}
    (hregs : S.regs s = a :: rest) (h : Decodes (S.view s) a v) :
    ∃ o, unaryOp fo op v = some o ∧
      RefinesOut S s (performUnaryOp S op (fun x => Number.apply fo nop x x) s) none rest a 0 o := by
  refine ⟨arithUnary fo op nop v, ?_, C08_refine_perform_unary_op fo L op nop hregs h⟩
  cases op <;> simp [numOpOf] at hop <;> subst hop <;> simp [NumOp.isUnary] at hb <;> rfl

/-- C09 at the handler: two numbers never reach the host; the register gets the number the operation returns,
or unit when it returns `None` -/
theorem C09_refine_numbers (L : StoreLaws S) (op : Instruction) (nop : NumOp)
    {s : σ} {r l : Nat} {a b : Number F} {rest : List Nat}
    (hregs : S.regs s = r :: l :: rest) (hl : Decodes (S.view s) l (.num a)) (hr : Decodes (S.view s) r (.num b)) :
    Pushed S s (performOp S op (Number.apply fo nop) s) none rest (numResult (Number.apply fo nop a b)) :=
  C08_refine_perform_op fo L op nop hregs hl hr

/-- "exactly once": after a deferred operation the host trace is the old trace plus this one call -/
theorem C08_refine_defer_once (L : StoreLaws S) {α : Type} {s0 : σ} {res : Outcome (α × σ)} {next : α}
    {op : Instruction} {lt rt : Ty × Nat} (h : DeferProtocol S s0 res next op lt rt)
    {x : α} {s' : σ} (hres : res = .ok (x, s')) : S.trace s' = .defer op lt rt :: S.trace s0 :=
  hostProtocol_once (L.deferOp op lt rt) h hres

/-! ### non-vacuity -/

/-- `0: 5   1: 7   2: "a"` -/
def arithCells : List (RCell F) := [.num (.int 5), .num (.int 7), .chars [97]]

/-- `5 + 7` on the reference store: the theorem applies … -/
example : Pushed (refStore (fun _ => none)) (RefState.init (arithCells (F := F)) [1, 0, 9])
    (add fo (refStore (fun _ => none)) (RefState.init arithCells [1, 0, 9])) none [9]
    (numResult (Number.apply fo .plus (.int 5) (.int 7))) :=
  C08_refine_perform_op fo (refStore_laws _) .add .plus (vl := .num (.int 5)) (vr := .num (.int 7)) rfl
    (.num rfl rfl) (.num rfl rfl)

/-- … and the model run gives the new cell `12` at address 3 -/
example : ∃ s', add fo (refStore (fun _ => none)) (RefState.init (arithCells (F := F)) [1, 0, 9]) = .ok (none, s') ∧
    s'.regs = [3, 9] ∧ s'.cells = arithCells ++ [.num (.int 12)] ∧ s'.trace = [] := ⟨_, rfl, rfl, rfl, rfl⟩

/-- `5 + "a"` with a declining host: one `defer` call recorded, unit pushed -/
example : ∃ s', add fo (refStore (fun _ => none)) (RefState.init (arithCells (F := F)) [2, 0, 9]) = .ok (none, s') ∧
    s'.regs = [3, 9] ∧ s'.cells = arithCells ++ [.unit] ∧
    s'.trace = [.defer .add (.number, 0) (.charList, 2)] := ⟨_, rfl, rfl, rfl, rfl⟩

/-- with an accepting host (answers `true`): the host's value is on the registers, nothing pushed by the handler -/
example : ∃ s', add fo (refStore (fun _ => some .tru)) (RefState.init (arithCells (F := F)) [2, 0, 9]) = .ok (none, s') ∧
    s'.regs = [3, 9] ∧ s'.cells = arithCells ++ [.tru] ∧
    s'.trace = [.defer .add (.number, 0) (.charList, 2)] := ⟨_, rfl, rfl, rfl, rfl⟩

end Garnish.Props.RuntimeRefine
