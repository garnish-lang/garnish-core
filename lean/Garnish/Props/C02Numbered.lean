/-
C02 / C01: the numbering of the parser's result, and the source theorems of C01 without the `WellNumbered` hypothesis.

`WellNumbered toks r t` (Lemmas/SourceRepTree.lean) = (inord) the in-order walk of the tree is `0, 1, …, nodes.size - 1`,
(linked) every node carries the text of the token at its position, (brackets) a `( )` / `{ }` node has no left child.

  C02_parse_linked / C02_parse_brackets   hold for EVERY token list (`parse` ok, positions numbered): general invariants of
                                          the parser model (`Num.parse_lgood`, Lemmas/ParserTokens.lean).
  C02_parse_inorder_range                 holds on `frag9'` = the lists of `frag9` without a trailing blank line before a
                                          `}` (`Spec.frag9N`: decided on the syntax tree of the recogniser, `Ex.garb = 0`).
                                          In general `t.inorder.length + garb = nodes.size` where `garb` counts those blank
                                          lines (`Spec.parse_ex_full`): the parser pushes a Subexpression node for each
                                          and unlinks it again at the `}`; the node stays in the array.
  C02_parse_wellNumbered                  the three together on `frag9'`.
  C02_trailing_blank_not_numbered         the witness for the excluded shape: `{ a <blank line> }` is in `frag9`, parses to a
                                          proper tree with 2 nodes, and the node array has 3 entries.
  C01_source_build / C01_source_correct   tokens → parser → builder (→ machine) for the lists of `frag9'`, no hypothesis
                                          about the parser's result left.
-/
import Garnish.Lemmas.ParseNumbered
import Garnish.Props.C01Source
namespace Garnish.Props.C02Numbered
open Garnish Garnish.Gen Garnish.Spec Garnish.Abs Garnish.Abs.Tree Garnish.Abs.Source Garnish.Model.Parser
open Garnish.Model.Literals Garnish.Model.Build Garnish.Props.C01Build Garnish.Props.C01Source

/-- `frag9` without a trailing blank line before a `}` -/
def frag9' (toks : List PToken) : Bool := Spec.frag9N toks

theorem frag9'_sub {toks : List PToken} (h : frag9' toks = true) : C02Parse.frag9 toks = true := by
  unfold frag9' Spec.frag9N at h
  unfold C02Parse.frag9 frag8
  rcases Bool.or_eq_true _ _ |>.mp h with h | h
  · rw [fragFN_sub h]; rfl
  · rw [fragTCN_sub h]; simp

/-- **every token list**: a node carries the text of the token at its position -/
theorem C02_parse_linked (toks : List PToken) (hnum : NumberedFrom 0 toks) (r : ParseResult) (hp : parse toks = .ok r) :
    Linked toks r.nodes := by
  intro i n hn
  have := (parse_nodes_facts hnum hp i n hn).1
  simp only [textAt, tokPos, this]

theorem bracketsOK_of_nodes {nodes : Array ParseNode}
    (hb : ∀ (i : Nat) (n : ParseNode), nodes[i]? = some n → Num.isBr n.definition = true → n.left = none)
    {p link : Option Nat} {t : Spec.Tree} (h : IsTreeAt nodes p link t) : bracketsOK (dfOf nodes) t = true := by
  induction h with
  | nil => rfl
  | node p i n l rt hn hp' hl hr ihl ihr =>
    simp only [bracketsOK, ihl, ihr, Bool.and_true]
    split
    · rename_i hbr
      rw [bracket_left_nil hb (.node p i n l rt hn hp' hl hr) l i _ rt rfl hbr]
    · rfl

/-- **every token list**: in the tree of the result a `( )` / `{ }` node has no left child -/
theorem C02_parse_brackets (toks : List PToken) (hnum : NumberedFrom 0 toks) (r : ParseResult) (t : Spec.Tree)
    (hp : parse toks = .ok r) (ht : toTree r = some t) : bracketsOK (dfOf r.nodes) t = true :=
  bracketsOK_of_nodes (fun i n hn => (parse_nodes_facts hnum hp i n hn).2) ((toTree_some_iff r t).mp ht).1

/-- **`frag9'`**: the nodes are numbered in in-order and all of them are in the tree -/
theorem C02_parse_inorder_range (toks : List PToken) (hf : frag9' toks = true) (hnum : NumberedFrom 0 toks)
    (r : ParseResult) (t : Spec.Tree) (hp : parse toks = .ok r) (ht : toTree r = some t) :
    t.inorder = List.range r.nodes.size := parse_inorder_range hf hnum hp ht

/-- **the parser's result is well numbered** on `frag9'` -/
theorem C02_parse_wellNumbered (toks : List PToken) (hf : frag9' toks = true) (hnum : NumberedFrom 0 toks)
    (r : ParseResult) (t : Spec.Tree) (hp : parse toks = .ok r) (ht : toTree r = some t) : WellNumbered toks r t :=
  ⟨C02_parse_inorder_range toks hf hnum r t hp ht, C02_parse_linked toks hnum r hp, C02_parse_brackets toks hnum r t hp ht⟩

/-! ### the excluded shape -/

open Garnish.Props.C02Parse (tk)

/-- `{ a <blank line> }` -/
def exTrailBlank : List PToken :=
  [tk .startExpression "{" 0, tk .identifier "a" 1, tk .subexpression "\n\n" 2, tk .endExpression "}" 3]

/-- the list is in `frag9` (not in `frag9'`), the parser accepts it and its result is a proper tree with 2 nodes — but the
    node array has 3 entries: the unlinked Subexpression node (index 2) stays behind -/
theorem C02_trailing_blank_not_numbered :
    C02Parse.frag9 exTrailBlank = true ∧ frag9' exTrailBlank = false ∧
    (match parse exTrailBlank with
     | .ok r => ((toTree r).map (·.inorder), r.nodes.size, r.nodes[2]?.map (fun (n : ParseNode) => n.definition))
     | _ => (none, 0, none)) = (some [0, 1], 3, some Definition.subexpression) := by
  refine ⟨by decide, by decide, by decide⟩

/-! ### C01 from the source, unconditional on `frag9'` -/

variable {F : Type} (pf : List Char → Option F)

/-- **tokens → builder**: for every token list of `frag9'` whose reference tree elaborates to the program `p`, `build` on
    the parser's output produces exactly `compile p` -/
theorem C01_source_build (toks : List PToken) (hf : frag9' toks = true) (hnum : NumberedFrom 0 toks)
    (rt : RTree) (href : refParse Table.gen toks = .ok rt) (p : Program F) (hel : elaborate pf toks rt = some p)
    (hcomplete : (compileState Prog.empty p).pending = []) :
    ∃ r d, parse toks = .ok r ∧ build pf (defaultFuel r.nodes.size) r.root r.nodes BState.empty = .ok (d, 0) ∧
      d.instrs = (compile p).instrs ∧ d.jumps = (compile p).jumps ∧ d.consts = (compile p).consts :=
  C01_source_build_partial pf toks (frag9'_sub hf) hnum rt href p hel hcomplete
    (fun r t hp ht => C02_parse_wellNumbered toks hf hnum r t hp ht)

/-- **tokens → machine**: … and the built object, run on the value-level machine, computes what the elaborated program
    means -/
theorem C01_source_correct (fo : FloatOps F) (host : Host F) (toks : List PToken) (hf : frag9' toks = true)
    (hnum : NumberedFrom 0 toks) (rt : RTree) (href : refParse Table.gen toks = .ok rt)
    (p : Program F) (hel : elaborate pf toks rt = some p) (hwf : C01.WFProgram p)
    (input : Val F) (fuel : Nat) (v : Val F) (st : St F) (h : evalProgram fo host fuel p input = .ok (v, st)) :
    ∃ r d entry, parse toks = .ok r ∧ build pf (defaultFuel r.nodes.size) r.root r.nodes BState.empty = .ok (d, entry) ∧
      ∃ n s, run fo host (progOf d) n
          { pc := (progOf d).jumps[entry]?.getD 0, regs := [], vals := [input], frames := [], trace := [] } = (.halted s, n) ∧
        s.vals = [v] ∧ s.regs = [] ∧ s.frames = [] ∧ s.trace = st.trace :=
  C01_source_correct_partial pf fo host toks (frag9'_sub hf) hnum rt href p hel hwf
    (fun r t hp ht => C02_parse_wellNumbered toks hf hnum r t hp ht) input fuel v st h

/-! ### non-vacuity: the examples of Props/C01Source.lean, without evaluating `wellNumbered` -/

theorem exCond_frag' : frag9' exCond = true := by decide +kernel
theorem exNested_frag' : frag9' exNested = true := by decide +kernel
theorem exItems_frag' : frag9' exItems = true := by decide +kernel

example : ∃ r d, parse exCond = .ok r ∧ build noFloat (defaultFuel r.nodes.size) r.root r.nodes BState.empty = .ok (d, 0) ∧
    d.instrs = (compile progCond).instrs ∧ d.jumps = (compile progCond).jumps ∧ d.consts = (compile progCond).consts :=
  C01_source_build noFloat exCond exCond_frag' exCond_num _ exCond_ref progCond exCond_elab progCond_pending

example (fo : FloatOps Float) (host : Host Float) :
    ∃ r d entry, parse exCond = .ok r ∧
      build noFloat (defaultFuel r.nodes.size) r.root r.nodes BState.empty = .ok (d, entry) ∧
      ∃ n s, run fo host (progOf d) n
          { pc := (progOf d).jumps[entry]?.getD 0, regs := [], vals := [.tru], frames := [], trace := [] } = (.halted s, n) ∧
        s.vals = [.num (.int 1)] ∧ s.regs = [] ∧ s.frames = [] ∧ s.trace = [] :=
  C01_source_correct noFloat fo host exCond exCond_frag' exCond_num _ exCond_ref progCond exCond_elab progCond_wf
    .tru 5 _ _ (progCond_meaning fo host)

example : ∃ r d, parse exNested = .ok r ∧
    build noFloat (defaultFuel r.nodes.size) r.root r.nodes BState.empty = .ok (d, 0) ∧
    d.instrs = (compile progNested).instrs ∧ d.jumps = (compile progNested).jumps ∧ d.consts = (compile progNested).consts :=
  C01_source_build noFloat exNested exNested_frag' exNested_num _ exNested_ref progNested exNested_elab progNested_pending

example : ∃ r d, parse exItems = .ok r ∧
    build noFloat (defaultFuel r.nodes.size) r.root r.nodes BState.empty = .ok (d, 0) ∧
    d.instrs = (compile progItems).instrs ∧ d.jumps = (compile progItems).jumps ∧ d.consts = (compile progItems).consts :=
  C01_source_build noFloat exItems exItems_frag' exItems_num _ exItems_ref progItems exItems_elab progItems_pending

/-- the well-numbering theorem itself on a list with every feature of the fragment except the excluded one
    (`C02Parse.ex9`: leading / trailing commas, infix identifier, list, group, nested expression) -/
example : ∀ r t, parse C02Parse.ex9 = .ok r → toTree r = some t → WellNumbered C02Parse.ex9 r t :=
  fun r t => C02_parse_wellNumbered C02Parse.ex9 (by decide) C02Parse.ex9_numbered r t

end Garnish.Props.C02Numbered
