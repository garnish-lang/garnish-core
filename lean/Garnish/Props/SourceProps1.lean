/-
The program-level properties FROM THE SOURCE TEXT — corollaries of `C01_text_build` / `C01_text_correct` (Props/C01Text.lean)
and of the build tie `build_refines_compileInto` (Props/C01Build.lean): what the theorems about `Abs.compile` say, said of the
object that the models of the lexer, the parser and the builder make of the characters.

`Src pf cc s p` (Lemmas/SourceText.lean) = the hypotheses of `C01_text_build` about the text: the lexer model accepts `s`, the token list is in
`frag9'`, its reference tree elaborates to the program `p`.  `buildText pf cc s` = `build (parse (toP (lex s)))` on the empty
object; `buildTextInto pf cc data s` = the same into an existing object.

  C06_text_balanced          the verified depth analysis succeeds on the BUILT program; hence along every run the operand depth
                             is a function of the program counter, never negative, exactly 1 at every `EndExpression`
                             (`balancedB p`: what `WFBalanced` asks of the elaborated program, as an executable check)
  C05_text_wf                the built object of EVERY text on which the pipeline succeeds is well formed (`wfProg`) — no fragment
  C10_text_*                 `&&` / `||` / conditionals: the skipped operand is not executed — result, host-call trace, and the
                             program-counter statement in any context
  C17_text_trace             the host calls recorded by the built program's run are exactly those of the reference evaluator
  (Props/SourceProps.lean, which imports this file)
  C04_text_attribution       every non-structural token has an instruction; instruction order follows token order
  C20_text_shared            texts built one after the other into one object
  (Props/SourcePropsEx.lean) the non-vacuity examples
-/
import Garnish.Lemmas.SourceText
import Garnish.Lemmas.Outcome
import Garnish.Props.C05
import Garnish.Props.C10Compile
import Garnish.Props.C04Source
namespace Garnish.Props.SourceProps
open Garnish Garnish.Gen Garnish.Spec Garnish.Abs Garnish.Abs.Tree Garnish.Abs.Source Garnish.Model Garnish.Model.Parser
open Garnish.Model.Lexer Garnish.Model.Literals Garnish.Model.Build Garnish.Props.C01Build Garnish.Props.C01Source
open Garnish.Props.C02Numbered Garnish.Props.C01Text

variable {F : Type} (pf : List Char → Option F) (cc : CharClass) (fo : FloatOps F) (host : Host F)

/-! ### C06 -/

/-- what `C06.WFBalanced` asks of the elaborated program, executable: every body is well formed with `^~` in tail positions
only; every nested id that `compile` lays out has a body and is named by its jump entry -/
def balancedB (p : Program F) : Bool :=
  C06.tailAll p && (compileState Prog.empty p).done.all (fun r =>
    match r.kind with
    | .ref id => (lookupBody p.bodies id).isSome && r.patch == id
    | .code _ => true)

theorem balancedB_sound {p : Program F} (h : balancedB p = true) : C06.WFBalanced p := by
  simp only [balancedB, Bool.and_eq_true, List.all_eq_true] at h
  refine ⟨h.1, fun r hr id hk => ?_, fun r hr id hk => ?_⟩
  · have := h.2 r hr
    rw [hk] at this
    simp only [Bool.and_eq_true] at this
    exact Option.isSome_iff_exists.mp this.1
  · have := h.2 r hr
    rw [hk] at this
    simp only [Bool.and_eq_true, beq_iff_eq] at this
    exact this.2

/-- **C06 from the source text**: the verified analysis `absDepth` succeeds on the program BUILT from the text, and every
state a run reaches from its entry has the analysed depth (`Good`: a function of the program counter, relative to the frame
base, never negative); at every `EndExpression` that is reached exactly one operand is on the stack -/
theorem C06_text_balanced (s : List Char) (p : Program F) (h : Src pf cc s p) (hb : balancedB p = true) :
    ∃ d dep, buildText pf cc s = .ok (d, 0) ∧
      C06.absDepth (progOf d) ((progOf d).jumps[0]?.getD 0) = some dep ∧
      ∀ (vals : List (Val F)) (tr : List (HostCall F)) (st : MState F),
        (progOf d).jumps[0]?.getD 0 < (progOf d).instrs.size →
        C06.ReachK fo host (progOf d) ((progOf d).jumps[0]?.getD 0 :: C06.exprEntries (progOf d))
          ⟨(progOf d).jumps[0]?.getD 0, [], vals, [], tr⟩ st →
        C06.Good (progOf d) dep st ∧
        (∀ o, (progOf d).instrs[st.pc]? = some (.endExpression, o) → st.regs.length = C06.base st.frames + 1) := by
  have hwb := balancedB_sound hb
  obtain ⟨d, hbt, hd⟩ := h.built (C01.compile_complete p hwb.labels)
  obtain ⟨dep, h1, h2⟩ := C06.C06_compile_balanced_sound fo host p hwb
  refine ⟨d, dep, hbt, ?_, ?_⟩
  · rw [hd]; exact h1
  · rw [hd]; exact h2

/-! ### C05 -/

/-- a text built into an object whose metadata is in step with its instructions leaves it so -/
theorem C05_text_wf_into (data : BState F) (hs0 : WFState data) (s : List Char) (d : BState F) (entry : Nat)
    (h : buildTextInto pf cc data s = .ok (d, entry)) :
    ∃ toks r, lex cc s = .ok toks ∧ parse (toP toks) = .ok r ∧
      wfProg r.nodes.size data d = true ∧ (r.nodes.size ≠ 0 → entry < d.jumps.size) := by
  rw [buildTextInto] at h
  obtain ⟨toks, hl, h⟩ := Outcome.bind_eq_ok.1 h
  obtain ⟨r, hp, h⟩ := Outcome.bind_eq_ok.1 h
  exact ⟨toks, r, hl, hp, C05.C05_build_wf pf _ _ _ _ _ _ h hs0⟩

/-- **C05 from the source text, every text**: whenever the pipeline succeeds — no fragment, no hypothesis on the program —
the object it returns is well formed (`wfProg`: every jump-table entry and every `JumpTo` / `JumpIf*` / `And` / `Or` operand
inside the instruction stream, every `Put` / `Resolve` operand a constant, metadata in step with the instructions), and the
entry names a jump entry -/
theorem C05_text_wf (s : List Char) (d : BState F) (entry : Nat) (h : buildText pf cc s = .ok (d, entry)) :
    ∃ toks r, lex cc s = .ok toks ∧ parse (toP toks) = .ok r ∧
      wfProg r.nodes.size BState.empty d = true ∧ (r.nodes.size ≠ 0 → entry < d.jumps.size) :=
  C05_text_wf_into pf cc BState.empty rfl s d entry h

/-! ### C17 -/

/-- **C17 from the source text**: the host calls recorded during the run of the program built from the text are exactly the
calls the reference evaluator makes for the elaborated program — kind, arguments and order -/
theorem C17_text_trace (s : List Char) (p : Program F) (h : Src pf cc s p) (hwf : C01.WFProgram p)
    (input : Val F) (fuel : Nat) (v : Val F) (st : St F) (he : evalProgram fo host fuel p input = .ok (v, st)) :
    ∃ d entry, buildText pf cc s = .ok (d, entry) ∧
      ∃ n m, run fo host (progOf d) n
          { pc := (progOf d).jumps[entry]?.getD 0, regs := [], vals := [input], frames := [], trace := [] } = (.halted m, n) ∧
        m.trace = st.trace := by
  obtain ⟨d, hb, hd⟩ := h.built (C01.compile_complete p hwf.labels)
  exact ⟨d, 0, hb, by rw [hd]; exact C01.C17_trace_transfer fo host p input fuel v st hwf he⟩

/-- an identifier found in the input value never reaches the host: the text is a single identifier, the input has the key —
the built program halts with the value found and an EMPTY trace -/
theorem C17_text_resolve_found_no_call (s : List Char) (p : Program F) (h : Src pf cc s p) (hwf : C01.WFProgram p)
    (sym : Nat) (hm : p.main = .ident sym) (input v : Val F) (hfound : getAccess fo (.sym sym) input = .some v) :
    ∃ d entry, buildText pf cc s = .ok (d, entry) ∧
      ∃ n m, run fo host (progOf d) n
          { pc := (progOf d).jumps[entry]?.getD 0, regs := [], vals := [input], frames := [], trace := [] } = (.halted m, n) ∧
        m.vals = [v] ∧ m.trace = [] := by
  have he : evalProgram fo host 2 p input = .ok (v, ⟨input, []⟩) := by
    simp [evalProgram, evalBody, hm, evalF, resolveVal, hfound]
  obtain ⟨d, hb, hd⟩ := h.built (C01.compile_complete p hwf.labels)
  obtain ⟨n, m, hr, hv, _, _, ht⟩ := C01.C01_compile_correct fo host p input 2 _ _ hwf he
  exact ⟨d, 0, hb, n, m, by rw [hd]; exact hr, hv, ht⟩

/-! ### C10 -/

/-- **C10 from the source text, `&&`**: the text elaborates to `l && r`; when `l` evaluates to a false value the built program
halts with `$!` and its recorded host calls are those of `l` alone — nothing of `r` is executed -/
theorem C10_text_and_short_circuits (s : List Char) (p : Program F) (h : Src pf cc s p) (hwf : C01.WFProgram p)
    (l r : Expr F) (hm : p.main = .and l r) (input : Val F) (fuel : Nat) (vl : Val F) (st1 : St F)
    (hl : evalF fo host p.bodies 0 fuel l ⟨input, []⟩ = .ok (.val vl, st1)) (hf : vl.truthy = false) :
    ∃ d, buildText pf cc s = .ok (d, 0) ∧
      ∃ n m, run fo host (progOf d) n
          { pc := (progOf d).jumps[0]?.getD 0, regs := [], vals := [input], frames := [], trace := [] } = (.halted m, n) ∧
        m.vals = [.fls] ∧ m.trace = st1.trace := by
  obtain ⟨d, hb, hd⟩ := h.built (C01.compile_complete p hwf.labels)
  exact ⟨d, hb, by rw [hd]; exact C01.C10_and_short_circuits fo host p l r hm hwf input fuel vl st1 hl hf⟩

/-- **`||`** with a true left operand: `$?`, and the host calls of `l` alone -/
theorem C10_text_or_short_circuits (s : List Char) (p : Program F) (h : Src pf cc s p) (hwf : C01.WFProgram p)
    (l r : Expr F) (hm : p.main = .or l r) (input : Val F) (fuel : Nat) (vl : Val F) (st1 : St F)
    (hl : evalF fo host p.bodies 0 fuel l ⟨input, []⟩ = .ok (.val vl, st1)) (hf : vl.truthy = true) :
    ∃ d, buildText pf cc s = .ok (d, 0) ∧
      ∃ n m, run fo host (progOf d) n
          { pc := (progOf d).jumps[0]?.getD 0, regs := [], vals := [input], frames := [], trace := [] } = (.halted m, n) ∧
        m.vals = [.tru] ∧ m.trace = st1.trace := by
  obtain ⟨d, hb, hd⟩ := h.built (C01.compile_complete p hwf.labels)
  exact ⟨d, hb, by rw [hd]; exact C01.C10_or_short_circuits fo host p l r hm hwf input fuel vl st1 hl hf⟩

/-- **conditionals** `c ?> t` / `c !> t` whose test fails: the value is `$` after the test, the host calls are those of `c`
alone — the arm `t` is not executed -/
theorem C10_text_cond_selected_arm (s : List Char) (p : Program F) (h : Src pf cc s p) (hwf : C01.WFProgram p)
    (onTrue : Bool) (c t : Expr F) (hm : p.main = .cond onTrue c t) (input : Val F) (fuel : Nat) (vc : Val F) (st1 : St F)
    (hc : evalF fo host p.bodies 0 fuel c ⟨input, []⟩ = .ok (.val vc, st1)) (hf : (vc.truthy == onTrue) = false) :
    ∃ d, buildText pf cc s = .ok (d, 0) ∧
      ∃ n m, run fo host (progOf d) n
          { pc := (progOf d).jumps[0]?.getD 0, regs := [], vals := [input], frames := [], trace := [] } = (.halted m, n) ∧
        m.vals = [st1.inp] ∧ m.trace = st1.trace := by
  obtain ⟨d, hb, hd⟩ := h.built (C01.compile_complete p hwf.labels)
  exact ⟨d, hb, by rw [hd]; exact C01.C10_cond_evaluates_selected_arm fo host p onTrue c t hm hwf input fuel vc st1 hc hf⟩

/-- **C10 in any context, at the level of the program counter**: `l && r` occurring ANYWHERE in a body of the elaborated
program: in the BUILT program `l` is laid out at `pc`, `And j` at `pc + len l`, `r` out of line at `tb = jumps[j]` with
`pc + len l + 1 < tb`; whenever `l` evaluates to a false value the machine, started at `pc` in any surrounding state, reaches the
`And` with that value and its next step lands on `pc + len l + 1` with `$!` pushed: no instruction of `r` (all at addresses
`≥ tb`) is executed in between -/
theorem C10_text_and_in_context (s : List Char) (p : Program F) (h : Src pf cc s p) (hwf : C01.WFProgramC p)
    {id : Nat} {b l r : Expr F} (hb : lookupBody p.bodies id = some b) (hs : Sub (.and l r) b) :
    ∃ d, buildText pf cc s = .ok (d, 0) ∧
      ∃ root pc j tb, Located (progOf d) root id pc (.and l r) ∧
        (progOf d).instrs[pc + len l]? = some (.and, some j) ∧ (progOf d).jumps[j]? = some tb ∧
        Located (progOf d) j id tb r ∧ pc + len l + 1 < tb ∧
        ∀ (fuel : Nat) (st st1 : St F) (vl : Val F),
          evalFS fo host p.bodies id fuel l st = .ok (.val vl, st1) → vl.truthy = false →
          ∀ (rs vs : List (Val F)) (fr : List (Frame F)),
            Reach fo host (progOf d) ⟨pc, rs, st.inp :: vs, fr, st.trace⟩ ⟨pc + len l, vl :: rs, st1.inp :: vs, fr, st1.trace⟩ ∧
            step fo host (progOf d) ⟨pc + len l, vl :: rs, st1.inp :: vs, fr, st1.trace⟩ =
              .running ⟨pc + len l + 1, .fls :: rs, st1.inp :: vs, fr, st1.trace⟩ := by
  obtain ⟨d, hbt, hd⟩ := h.built (C01.compile_complete p hwf.labels)
  exact ⟨d, hbt, by rw [hd]; exact C10.C10_short_circuit_in_context fo host p hwf hb hs⟩

theorem C10_text_or_in_context (s : List Char) (p : Program F) (h : Src pf cc s p) (hwf : C01.WFProgramC p)
    {id : Nat} {b l r : Expr F} (hb : lookupBody p.bodies id = some b) (hs : Sub (.or l r) b) :
    ∃ d, buildText pf cc s = .ok (d, 0) ∧
      ∃ root pc j tb, Located (progOf d) root id pc (.or l r) ∧
        (progOf d).instrs[pc + len l]? = some (.or, some j) ∧ (progOf d).jumps[j]? = some tb ∧
        Located (progOf d) j id tb r ∧ pc + len l + 1 < tb ∧
        ∀ (fuel : Nat) (st st1 : St F) (vl : Val F),
          evalFS fo host p.bodies id fuel l st = .ok (.val vl, st1) → vl.truthy = true →
          ∀ (rs vs : List (Val F)) (fr : List (Frame F)),
            Reach fo host (progOf d) ⟨pc, rs, st.inp :: vs, fr, st.trace⟩ ⟨pc + len l, vl :: rs, st1.inp :: vs, fr, st1.trace⟩ ∧
            step fo host (progOf d) ⟨pc + len l, vl :: rs, st1.inp :: vs, fr, st1.trace⟩ =
              .running ⟨pc + len l + 1, .tru :: rs, st1.inp :: vs, fr, st1.trace⟩ := by
  obtain ⟨d, hbt, hd⟩ := h.built (C01.compile_complete p hwf.labels)
  exact ⟨d, hbt, by rw [hd]; exact C10.C10_short_circuit_in_context_or fo host p hwf hb hs⟩

theorem C10_text_cond_in_context (s : List Char) (p : Program F) (h : Src pf cc s p) (hwf : C01.WFProgramC p)
    {id : Nat} {b c t : Expr F} {onTrue : Bool} (hb : lookupBody p.bodies id = some b) (hs : Sub (.cond onTrue c t) b) :
    ∃ d, buildText pf cc s = .ok (d, 0) ∧
      ∃ root pc j tb, Located (progOf d) root id pc (.cond onTrue c t) ∧
        (progOf d).instrs[pc + len c]? = some (jumpIf onTrue, some j) ∧ (progOf d).jumps[j]? = some tb ∧
        Located (progOf d) j id tb t ∧ pc + len c + 2 < tb ∧
        ∀ (fuel : Nat) (st st1 : St F) (vc : Val F),
          evalFS fo host p.bodies id fuel c st = .ok (.val vc, st1) → (vc.truthy == onTrue) = false →
          ∀ (rs vs : List (Val F)) (fr : List (Frame F)),
            Reach fo host (progOf d) ⟨pc, rs, st.inp :: vs, fr, st.trace⟩ ⟨pc + len c, vc :: rs, st1.inp :: vs, fr, st1.trace⟩ ∧
            step fo host (progOf d) ⟨pc + len c, vc :: rs, st1.inp :: vs, fr, st1.trace⟩ =
              .running ⟨pc + len c + 1, rs, st1.inp :: vs, fr, st1.trace⟩ ∧
            step fo host (progOf d) ⟨pc + len c + 1, rs, st1.inp :: vs, fr, st1.trace⟩ =
              .running ⟨pc + len c + 2, st1.inp :: rs, st1.inp :: vs, fr, st1.trace⟩ := by
  obtain ⟨d, hbt, hd⟩ := h.built (C01.compile_complete p hwf.labels)
  exact ⟨d, hbt, by rw [hd]; exact C10.C10_cond_in_context fo host p hwf hb hs⟩

end Garnish.Props.SourceProps
