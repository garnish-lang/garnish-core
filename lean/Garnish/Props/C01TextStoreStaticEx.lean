/-
Non-vacuity of `C01_text_to_simple_store_static_declining`: the source text `$ ?> 1 |> 2` is in the class
`staticOKSimple` (checked by evaluation), so on the payload model of `SimpleGarnishData` (cache that never hits,
declining host) the loop ends with ONE input-value address that decodes to `1` for the input `true` — with no run-time
hypothesis at all.
-/
import Garnish.Props.C01TextStoreStatic
import Garnish.Props.RuntimeRefineSimple2
namespace Garnish.Props.C01TextStore
open Garnish Garnish.Gen Garnish.Spec Garnish.Abs Garnish.Abs.Tree Garnish.Abs.Source Garnish.Model Garnish.Model.Parser
open Garnish.Model.Lexer Garnish.Model.Literals Garnish.Model.Build Garnish.Props.C01Build Garnish.Props.C01Source
open Garnish.Props.C02Numbered Garnish.Props.C01Text
open Garnish.Model.Equality Garnish.Model.Runtime Garnish.Lemmas.Runtime Garnish.Props.RuntimeRefine
open Garnish.Lemmas.Runtime.On Garnish.Lemmas.Runtime.Simple

/-- the text is in the class -/
theorem cond_static : staticOKSimple progCond (.tru : Val Float) = true := by rfl

example (fo : FloatOps Float) :
    ∃ d n, buildText noFloat asciiCC "$ ?> 1 |> 2".toList = .ok (d, 0) ∧ progOf d = compile progCond ∧
      ∃ s' a, executeLoop fo (simpleRStore (fun _ _ => none) (fun _ st => (false, st))) 0
          (fullHandlers fo (simpleRStore (fun _ _ => none) (fun _ st => (false, st))) 0 (RM.fail .unsupported)) n
          (loadSimple (reloc (progOf d)) ((progOf d).jumps[0]?.getD 0) .tru) = .ok ((.end_, n), s') ∧
        s'.values = [a] ∧ Decodes (simView s'.cells) a (.num (.int 1)) ∧
        (simpleRStore (fun _ _ => none) (fun _ st => (false, st))).regs s' = [] ∧
        (simpleRStore (fun _ _ => none) (fun _ st => (false, st))).frames s' = [] ∧ SInv s' := by
  obtain ⟨toks, rt, hlex, hf, href, hel⟩ := SourceProps.srcCond
  exact C01_text_to_simple_store_static_declining (hit := fun _ _ => none) noFloat asciiCC C15_hitSound_never fo 0
    (RM.fail .unsupported) _ _ hlex hf _ href hel progCond_wf .tru cond_static 5 _ _ (progCond_meaning fo Host.declining)

end Garnish.Props.C01TextStore
