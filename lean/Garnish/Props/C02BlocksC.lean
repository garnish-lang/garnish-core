/-
C02 with side-effect blocks, a ∀-theorem against `refParseB`: a block as the operand of a binary operator, taken over
by the value that follows it.

  C02_parse_correct_opBlockValueB   for EVERY token list `e trivia* op trivia* [ trivia* body trivia* ] trivia* v`
                                    (`e`, `body` arbitrary expressions of the fragment `frag8` without a trailing blank line
                                    before `}`, given as syntax trees `Ex`; `op` any binary operator, `,` or infix identifier;
                                    `v` a value token): `parse` accepts, the result is a proper tree, it is the tree
                                    `refParseB` computes — `op (e, v)` with the block as the LEFT child of `v` — and the result
                                    is well numbered.
  ex1p23                            `1 + [2] 3` through the theorem.
Syntax form: the hypotheses are `Ex.ok` / `Ex.garb = 0` of the two syntax trees (decidable); a recogniser on raw token lists
for this shape is not written.  Both results are `parse_op_block_tail` (Lemmas/ParseBlocksOp) at its two tails:
`op_block_both` (parser and `refLoopB` after `e op [ body ]`, followed by anything), then the end of the input or the value.
-/
import Garnish.Lemmas.ParseBlocksOp
import Garnish.Props.C02BlocksB
namespace Garnish.Props.C02BlocksC
open Garnish Garnish.Gen Garnish.Spec Garnish.Model.Parser Garnish.Props.C02Parse Garnish.Abs.Source
open Garnish.Props.C01Blocks

/-- **`e op [ body ] v`: parse = refParseB, well numbered** -/
theorem C02_parse_correct_opBlockValueB {F : Fl} (e body : Ex) (op o c v : PToken) (ws1 ws2 wsA wsB ws3 : List PToken)
    (he : e.ok F false = true) (hbody : body.ok F false = true) (hge : e.garb = 0) (hgb : body.garb = 0)
    (hop : isBin3Tok op = true) (ho : o.type = .startSideEffect) (hc : c.type = .endSideEffect) (hv : isAtom10 v = true)
    (hw1 : ∀ w ∈ ws1, isTriviaTok w = true) (hw2 : ∀ w ∈ ws2, isTriviaTok w = true)
    (hwA : ∀ w ∈ wsA, isTriviaTok w = true) (hwB : ∀ w ∈ wsB, isTriviaTok w = true)
    (hw3 : ∀ w ∈ ws3, isTriviaTok w = true)
    (hnum : NumberedFrom 0
      (e.toks ++ (ws1 ++ (op :: (ws2 ++ (o :: (wsA ++ (body.toks ++ (wsB ++ (c :: (ws3 ++ [v]))))))))))) :
    ∃ r t,
      parse (e.toks ++ (ws1 ++ (op :: (ws2 ++ (o :: (wsA ++ (body.toks ++ (wsB ++ (c :: (ws3 ++ [v])))))))))) = .ok r ∧
      toTree r = some t ∧
      refParseB Table.gen (e.toks ++ (ws1 ++ (op :: (ws2 ++ (o :: (wsA ++ (body.toks ++ (wsB ++ (c :: (ws3 ++ [v])))))))))) =
        .ok (treeToRG r t) ∧
      WellNumbered (e.toks ++ (ws1 ++ (op :: (ws2 ++ (o :: (wsA ++ (body.toks ++ (wsB ++ (c :: (ws3 ++ [v])))))))))) r t := by
  obtain ⟨r, t, te, tb, q, h1, h2, _, _, _, h6, h7, g3, g4⟩ :=
    parse_op_block_tail ⟨he, hbody, hop, ho, hc, hw1, hw2, hwA, hwB⟩ (.value ws3 v) ⟨hw3, hv⟩ hnum
  refine ⟨r, t, h1, h2, ?_, wellNumbered_of_inorder _ hnum r t h1 h2 (sortedIn_full g3 (by rw [hge, hgb] at g4; exact g4))⟩
  rw [← C02_toRG_eq_treeToRG, h6]
  exact h7

/-- **`e op [ body ]` (the block ends the input): parse = refParseB** (tree only; that the result is
    well numbered is not proved for this shape) -/
theorem C02_parse_correct_opBlockB {F : Fl} (e body : Ex) (op o c : PToken) (ws1 ws2 wsA wsB : List PToken)
    (he : e.ok F false = true) (hbody : body.ok F false = true) (hop : isBin3Tok op = true)
    (ho : o.type = .startSideEffect) (hc : c.type = .endSideEffect)
    (hw1 : ∀ w ∈ ws1, isTriviaTok w = true) (hw2 : ∀ w ∈ ws2, isTriviaTok w = true)
    (hwA : ∀ w ∈ wsA, isTriviaTok w = true) (hwB : ∀ w ∈ wsB, isTriviaTok w = true)
    (hnum : NumberedFrom 0 (e.toks ++ (ws1 ++ (op :: (ws2 ++ (o :: (wsA ++ (body.toks ++ (wsB ++ [c]))))))))) :
    ∃ r t, parse (e.toks ++ (ws1 ++ (op :: (ws2 ++ (o :: (wsA ++ (body.toks ++ (wsB ++ [c])))))))) = .ok r ∧
      toTree r = some t ∧
      refParseB Table.gen (e.toks ++ (ws1 ++ (op :: (ws2 ++ (o :: (wsA ++ (body.toks ++ (wsB ++ [c])))))))) =
        .ok (treeToRG r t) := by
  obtain ⟨r, t, te, tb, q, h1, h2, _, _, _, h6, h7, _⟩ :=
    parse_op_block_tail ⟨he, hbody, hop, ho, hc, hw1, hw2, hwA, hwB⟩ .fin trivial hnum
  refine ⟨r, t, h1, h2, ?_⟩
  rw [← C02_toRG_eq_treeToRG, h6]
  exact h7

/-! ### non-vacuity: `1 + [2] 3` -/

def ex1p23 : List PToken :=
  [tk .number "1" 0, tk .whitespace " " 1, tk .plusSign "+" 2, tk .whitespace " " 3, tk .startSideEffect "[" 4,
   tk .number "2" 5, tk .endSideEffect "]" 6, tk .whitespace " " 7, tk .number "3" 8]

theorem ex1p23_correct : ∃ r t, parse ex1p23 = .ok r ∧ toTree r = some t ∧ refParseB Table.gen ex1p23 = .ok (treeToRG r t) ∧
    WellNumbered ex1p23 r t :=
  C02_parse_correct_opBlockValueB (F := ⟨true, true, true⟩) (.atom [] (tk .number "1" 0)) (.atom [] (tk .number "2" 5))
    (tk .plusSign "+" 2) (tk .startSideEffect "[" 4) (tk .endSideEffect "]" 6) (tk .number "3" 8)
    [tk .whitespace " " 1] [tk .whitespace " " 3] [] [] [tk .whitespace " " 7]
    (by decide) (by decide) rfl rfl (by decide) rfl rfl (by decide) (by decide) (by decide) (by simp) (by simp) (by decide)
    (by simp [Ex.toks, NumberedFrom, tk])

/-- the tree: `+ (1, 3)` with the block `[2]` as the left child of `3` -/
theorem ex1p23_tree : refParseB Table.gen ex1p23 =
    .ok (.node (.node .nil .number 0 .nil) .addition 2
      (.node (.node .nil .sideEffect 4 (.node .nil .number 5 .nil)) .number 8 .nil)) := by rfl

end Garnish.Props.C02BlocksC
