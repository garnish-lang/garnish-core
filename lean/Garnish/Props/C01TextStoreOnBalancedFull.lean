/-
`C01_text_to_simple_store_balanced_full`: the source-text theorem on `SimpleGarnishData` for the WHOLE instruction set,
with the run-level side condition discharged as far as it can be statically: stack balance (`balancedB p`) gives the
depth conditions, the `NoCustom` invariant gives every "no custom" condition. Hypotheses left: the source-side ones;
`HitSound`, `HostRefinesI`, `HostNoCustom`; static checks of `compile p` (entry inside, constants leaves Simple
holds and custom-free); a custom-free leaf input; `DynOK` in the reachable states (Lemmas/DynOK.lean says what it demands); and
that calls enter bodies the analysis knows (`hcalls`).
-/
import Garnish.Props.RuntimeRefineNoCustom
namespace Garnish.Props.C01TextStore
open Garnish Garnish.Gen Garnish.Spec Garnish.Abs Garnish.Abs.Tree Garnish.Abs.Source Garnish.Model Garnish.Model.Parser
open Garnish.Model.Lexer Garnish.Model.Literals Garnish.Model.Build Garnish.Props.C01Build Garnish.Props.C01Source
open Garnish.Props.C02Numbered Garnish.Props.C01Text
open Garnish.Model.Equality Garnish.Model.Runtime Garnish.Lemmas.Runtime Garnish.Props.RuntimeRefine
open Garnish.Lemmas.Runtime.On Garnish.Lemmas.Runtime.Simple Garnish.Props.SourceProps Garnish.Lemmas.NoCustom

variable {F : Type} (pf : List Char → Option F) (cc : CharClass)

theorem C01_text_to_simple_store_balanced_full {hit : List (SimCell F) → SimCell F → Option Nat} (hs : HitSound hit)
    (hh : SimHost F) (fo : FloatOps F) (host : Host F) (HR : HostRefinesI (simpleRStore hit hh) SInv host)
    (HN : HostNoCustom host) (loopFuel : Nat) (cast : RM (SimState F) (Option Nat)) (s : List Char)
    (toks : List LexerToken) (hlex : lex cc s = .ok toks) (hf : frag9' (toP toks) = true) (rt : RTree)
    (href : refParse Table.gen (toP toks) = .ok rt) (p : Program F) (hel : elaborate pf (toP toks) rt = some p)
    (hwf : C01.WFProgram p) (hbal : balancedB p = true) (input : Val F) (fuel : Nat) (v : Val F) (st : St F)
    (h : evalProgram fo host fuel p input = .ok (v, st))
    (hentry : (compile p).jumps[0]?.getD 0 < (compile p).instrs.size)
    (hleaf : (compile p).consts.toList.all isLeafS = true) (hin : isLeafS input = true)
    (hc : ConstsNC (compile p)) (hinc : nc input = true)
    (hdyn : ∀ m, C06.ReachK fo host (compile p) ((compile p).jumps[0]?.getD 0 :: C06.exprEntries (compile p))
      ⟨(compile p).jumps[0]?.getD 0, [], [input], [], []⟩ m → ∀ i o, (compile p).instrs[m.pc]? = some (i, o) →
      DynOK fo (simpleRStore hit hh) SInv (compile p) loopFuel m i o)
    (hcalls : ∀ m m', C06.ReachK fo host (compile p) ((compile p).jumps[0]?.getD 0 :: C06.exprEntries (compile p))
      ⟨(compile p).jumps[0]?.getD 0, [], [input], [], []⟩ m → Abs.step fo host (compile p) m = .running m' →
      m'.frames.length = m.frames.length + 1 →
      m'.pc ∈ (compile p).jumps[0]?.getD 0 :: C06.exprEntries (compile p)) :
    ∃ d n, buildText pf cc s = .ok (d, 0) ∧ progOf d = compile p ∧
      ∃ s' a, executeLoop fo (simpleRStore hit hh) loopFuel (fullHandlers fo (simpleRStore hit hh) loopFuel cast) n
          (loadSimple (reloc (progOf d)) ((progOf d).jumps[0]?.getD 0) input) = .ok ((.end_, n), s') ∧
        s'.values = [a] ∧ Decodes (simView s'.cells) a v ∧ (simpleRStore hit hh).regs s' = [] ∧
        (simpleRStore hit hh).frames s' = [] ∧ SInv s' := by
  obtain ⟨dep, hdep, _⟩ := C06.C06_compile_balanced_sound fo host p (balancedB_sound hbal)
  obtain ⟨d, n, hb, hd, hgen⟩ := C01_text_to_store_gen pf cc fo host loopFuel _
    (fun P => MachOKOn4 fo (simpleRStore hit hh) SInv P loopFuel)
    (fun _ _ _ _ _ hsim hi hl hf hk => refine_step_on4 fo (C01_simpleStore_lawsOn hs) HR loopFuel cast hsim hi hl hf hk)
    ⟨toks, rt, hlex, hf, href, hel⟩ hwf input fuel v st h
  refine ⟨d, n, hb, hd, ?_⟩
  rw [hd]
  obtain ⟨hload, hinv⟩ := loadSimple_reloc hit hh ((compile p).jumps[0]?.getD 0) hleaf hin
  refine hgen _ _ (run_reloc fo host _) hload hinv ?_
  refine runOKG_reloc (MachOKOn4 fo (simpleRStore hit hh) SInv (reloc (compile p)) loopFuel)
    (MachOKOn4 fo (simpleRStore hit hh) SInv (compile p) loopFuel) (fun _ _ _ _ hk => machOKOn4_reloc hk) n _ ?_
  exact C01_runOKOn_full_of_balanced hdep hentry [input] [] loopFuel HN hc (by simp [ncL, hinc]) hdyn hcalls n

end Garnish.Props.C01TextStore
