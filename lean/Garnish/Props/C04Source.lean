/-
C04 — `C04_source_attribution`: the parser half and the builder half together, directly about token lists.

For every token list of `frag9'` (Props/C02Numbered.lean: the lists of `frag9` without a trailing blank line before a `}`)
that the parser accepts, and every successful `build` of the parser's output:
  * the node array is the sequence of the significant tokens: the nodes are numbered in in-order (`x < z` in the array ⟺
    the token of `x` is written before the token of `z`), every node is in the tree, every node carries the text of the
    token at its position (`C02_parse_wellNumbered`);
  * every node — every significant token — whose definition is attributable (not Group, List, CommaList, ElseJump,
    Subexpression: the structural ones) has an instruction attributed to it (`C04_build_attributes_every_node`);
  * inside one root the instruction order follows the token order of the operands: for a node `p` with both children in
    line, everything in line below the left child is written before `p`, everything in line below the right child after
    `p`, and the instructions of the former precede those of the latter — except for Pair / ApplyTo, where they follow them;
  * a separator or value-like node (layout lnr) emits between the two; every other node after the operands that are
    scheduled above it (`C04_child_before_node`, stated with the token order in `C04_source_operand_first`);
  * the subtree of an out-of-line child is written after its owner and emitted after the whole root of its owner.
-/
import Garnish.Props.C04Eval
import Garnish.Props.C04Build
import Garnish.Props.C02Numbered
import Garnish.Lemmas.TreeOrder
namespace Garnish.Props.C04Source
open Garnish Garnish.Gen Garnish.Spec Garnish.Model.Parser Garnish.Model.Build Garnish.Lemmas.Build
open Garnish.Lemmas.BuildSeq Garnish.Lemmas.TreeOrder Garnish.Props.C04Order Garnish.Props.C02Numbered
open Garnish.Abs.Source (textAt)

variable {F : Type}

/-- what the numbering of the parser's result says about the descendants of a node -/
theorem numbered_sides (toks : List PToken) (hf : frag9' toks = true) (hnum : NumberedFrom 0 toks) (r : ParseResult) (t : Spec.Tree)
    (hp : parse toks = .ok r) (ht : toTree r = some t) (y : Nat) (yn : ParseNode) (hy : r.nodes[y]? = some yn) :
    Sub r.nodes r.root y ∧ (∀ c x, yn.left = some c → Sub r.nodes c x → x < y) ∧
      (∀ c z, yn.right = some c → Sub r.nodes c z → y < z) := by
  have hwn := C02_parse_wellNumbered toks hf hnum r t hp ht
  obtain ⟨htree, _⟩ := (Garnish.Spec.toTree_some_iff r t).mp ht
  have hylt : y < r.nodes.size := Garnish.lt_of_getElem? hy
  have hmem : y ∈ t.inorder := by rw [hwn.inord]; simpa using hylt
  have hne : r.nodes.isEmpty = false := by
    cases hb : r.nodes.isEmpty
    · rfl
    · have : r.nodes.size = 0 := by simpa [Array.isEmpty] using hb
      omega
  have hroot : rootLink r = some r.root := by simp [rootLink, hne]
  have hpw : t.inorder.Pairwise (· < ·) := by rw [hwn.inord]; exact List.pairwise_lt_range
  exact ⟨mem_sub htree r.root hroot y hmem, inorder_sides htree hpw y hmem yn hy⟩

/-- C04, tokens → instructions -/
theorem C04_source_attribution (parseFloat : List Char → Option F) (toks : List PToken) (hf : frag9' toks = true)
    (hnum : NumberedFrom 0 toks) (r : ParseResult) (t : Spec.Tree) (hp : parse toks = .ok r) (ht : toTree r = some t)
    (fuel : Nat) (d d' : BState F) (entry : Nat) (hb : build parseFloat fuel r.root r.nodes d = .ok (d', entry)) :
    -- the node array is the sequence of the significant tokens
    (t.inorder = List.range r.nodes.size ∧
      ∀ (i : Nat) (n : ParseNode), r.nodes[i]? = some n → textAt toks (tokPos n) = n.lexToken.text) ∧
    -- every token that is not structural gets an instruction
    (∀ (i : Nat) (n : ParseNode), r.nodes[i]? = some n → Garnish.Lemmas.BuildAttr.attributable n.definition = true →
      ∃ k, d.metadata.size ≤ k ∧ d'.metadata[k]? = some (some i)) ∧
    -- operands: token order and instruction order
    (∀ (p l rt : Nat) (pn : ParseNode), r.nodes[p]? = some pn → pn.left = some l → pn.right = some rt →
      inlL (layout pn.definition) = true → inlR (layout pn.definition) = true →
      ∀ x z, IDesc r.nodes l x → IDesc r.nodes rt z → (x < p ∧ p < z) ∧
        ∀ kx kz, d.metadata.size ≤ kx → d.metadata.size ≤ kz → d'.metadata[kx]? = some (some x) →
          d'.metadata[kz]? = some (some z) → if layout pn.definition = .rln then kz < kx else kx < kz) ∧
    -- out of line: written after the owner, emitted after the owner's root
    (∀ (ρ y rt : Nat) (yn : ParseNode), IDesc r.nodes ρ y → r.nodes[y]? = some yn → yn.right = some rt →
      oolR yn.definition = true → r.nodes[ρ]? ≠ none → ∀ x z, IDesc r.nodes ρ x → Sub r.nodes rt z → y < z ∧
        ∀ kx kz, d.metadata.size ≤ kx → d.metadata.size ≤ kz → d'.metadata[kx]? = some (some x) →
          d'.metadata[kz]? = some (some z) → kx < kz) := by
  have hwn := C02_parse_wellNumbered toks hf hnum r t hp ht
  refine ⟨⟨hwn.inord, hwn.linked⟩, ?_, ?_, ?_⟩
  · intro i n hi ha
    exact Garnish.Props.C04Build.C04_build_attributes_every_node parseFloat fuel r.root r.nodes d d' entry hb i n hi ha
  · intro p l rt pn hpn hl hr hil hir x z hx hz
    obtain ⟨hsub, hleft, hright⟩ := numbered_sides toks hf hnum r t hp ht p pn hpn
    refine ⟨⟨hleft l x hl hx.sub, hright rt z hr hz.sub⟩, ?_⟩
    intro kx kz hkx hkz hmx hmz
    have ht' : InTree r.nodes r.root p := Or.inl hsub
    cases hlay : layout pn.definition with
    | rln =>
      simp only [if_true]
      exact C04_children_swapped ⟨⟨entry, hb⟩, hkz, hkx, hmz, hmx⟩ p l rt pn hpn ht' hl hr hlay hz hx
    | lrn =>
      simp only [reduceCtorEq, if_false]
      exact C04_children_in_order ⟨⟨entry, hb⟩, hkx, hkz, hmx, hmz⟩ p l rt pn hpn ht' hl hr (Or.inl hlay) hx hz
    | lnr =>
      simp only [reduceCtorEq, if_false]
      exact C04_children_in_order ⟨⟨entry, hb⟩, hkx, hkz, hmx, hmz⟩ p l rt pn hpn ht' hl hr (Or.inr hlay) hx hz
    | ln => rw [hlay] at hir; cases hir
    | rn => rw [hlay] at hil; cases hil
    | gr => rw [hlay] at hil; cases hil
    | none => rw [hlay] at hil; cases hil
  · intro ρ y rt yn hy hyn hr hool hρ x z hx hz
    obtain ⟨_, _, hright⟩ := numbered_sides toks hf hnum r t hp ht y yn hyn
    refine ⟨hright rt z hr hz, ?_⟩
    intro kx kz hkx hkz hmx hmz
    cases hρn : r.nodes[ρ]? with
    | none => exact absurd hρn hρ
    | some ρn =>
      obtain ⟨hsub, _, _⟩ := numbered_sides toks hf hnum r t hp ht ρ ρn hρn
      exact C04_out_of_line_after_root ⟨⟨entry, hb⟩, hkx, hkz, hmx, hmz⟩ ρ y rt yn (Or.inl hsub) hy hyn hr hool hx hz

/-- an operand that is scheduled above its operator: written before (left) or after (right) the operator, emitted before it -/
theorem C04_source_operand_first (parseFloat : List Char → Option F) (toks : List PToken) (hf : frag9' toks = true)
    (hnum : NumberedFrom 0 toks) (r : ParseResult) (t : Spec.Tree) (hp : parse toks = .ok r) (ht : toTree r = some t)
    (fuel : Nat) (d d' : BState F) (entry : Nat) (hb : build parseFloat fuel r.root r.nodes d = .ok (d', entry))
    (p c x : Nat) (pn : ParseNode) (hpn : r.nodes[p]? = some pn)
    (hc : (pn.left = some c ∧ inlL (layout pn.definition) = true) ∨ (pn.right = some c ∧ preR (layout pn.definition) = true))
    (hnse : pn.definition ≠ .sideEffect) (hx : IDesc r.nodes c x) :
    (pn.left = some c → x < p) ∧ (pn.right = some c → p < x) ∧
    ∀ kx kp, d.metadata.size ≤ kx → d.metadata.size ≤ kp → d'.metadata[kx]? = some (some x) →
      d'.metadata[kp]? = some (some p) → kx < kp := by
  obtain ⟨hsub, hleft, hright⟩ := numbered_sides toks hf hnum r t hp ht p pn hpn
  refine ⟨fun h => hleft c x h hx.sub, fun h => hright c x h hx.sub, ?_⟩
  intro kx kp hkx hkp hmx hmp
  exact C04_child_before_node ⟨⟨entry, hb⟩, hkx, hkp, hmx, hmp⟩ c pn hpn (Or.inl hsub) hc hnse hx

/-! ### non-vacuity -/

open Garnish.Props.C01Source Garnish.Props.C01Build in
/-- the hypotheses are satisfiable: `exCond` of Props/C01Source.lean (a conditional) is in `frag9'`, the parser accepts it, its
result is a proper tree and `build` succeeds — so every non-structural token of it has an instruction -/
example : ∃ r d, parse exCond = .ok r ∧ build noFloat (defaultFuel r.nodes.size) r.root r.nodes BState.empty = .ok (d, 0) ∧
    ∀ (i : Nat) (n : ParseNode), r.nodes[i]? = some n → Garnish.Lemmas.BuildAttr.attributable n.definition = true →
      ∃ k : Nat, d.metadata[k]? = some (some i) := by
  obtain ⟨r, d, hp, hb, _⟩ := C01_source_build noFloat exCond exCond_frag' exCond_num _ exCond_ref progCond exCond_elab progCond_pending
  obtain ⟨r', t, hp', _, _, ht, _⟩ := C02Parse.C04_parse_proper_refgrammar9 exCond (frag9'_sub exCond_frag') exCond_num
  rw [hp] at hp'; cases hp'
  refine ⟨r, d, hp, hb, fun i n hi ha => ?_⟩
  obtain ⟨k, _, hk⟩ := (C04_source_attribution noFloat exCond exCond_frag' exCond_num r t hp ht _ _ d 0 hb).2.1 i n hi ha
  exact ⟨k, hk⟩

end Garnish.Props.C04Source
