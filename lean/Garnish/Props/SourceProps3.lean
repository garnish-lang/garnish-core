/-
Value-level properties from the source text, continued (Props/SourceProps2.lean: C14, C09):
  C12_text_int_order / C12_text_charlist_order   `<  >  <=  >=` on two integer / two text literals: the natural order, the
                                                 lexicographic order of the code points
  C11_text_equal / C11_text_int_equal / …        `==` / `!=` on ANY two literals: `valEq` of the values they spell; for integers
                                                 equality of the numbers, for texts / byte lists element-wise equality
In Props/SourceProps4.lean: the WFProgram exclusions of `C01_compile_correct` justified theorem by theorem (witnesses by evaluation):
  C01_else_chain_no_final_arm_deviates    (F1, finding F-C06-else-chain-last-arm-conditional) no arm matches: the source means `$`,
                                          the compiled program ends in an error: `EndExpression` finds no operand
  C01_toplevel_operand_restart_deviates   `^~` in operand position at top level (`tail`): the value is right, an operand stays
                                          on the operand stack for good
  C01_restart_out_of_block_deviates       `^~` out of a side-effect block (`wfE`, 2d): the block's copy of `$` stays on the
                                          input-value stack, and the pending operand too
  (`{ }` in an out-of-line root, F2, is not an exclusion: `C01.exF2_wf` / `exF2_meaning`.)
  (`main0`, `labels`, `covered`, `unOK` / `binOK` / `lit (.expr _)` are conventions of the AST type, not shapes of the language.)
`C01_halt_unique`: a run that stops stops in one way only — so each witness refutes the CONCLUSION of `C01_compile_correct`.
Non-vacuity of C14 / C09 / C12 / C11, source strings by evaluation: Props/SourceProps5.lean.
-/
import Garnish.Props.SourceProps2
import Garnish.Props.C12
import Garnish.Props.C11
namespace Garnish.Props.SourceProps
open Garnish Garnish.Gen Garnish.Spec Garnish.Spec.Spell Garnish.Abs Garnish.Abs.Tree Garnish.Abs.Source Garnish.Model
open Garnish.Model.Parser Garnish.Model.Lexer Garnish.Model.Literals Garnish.Model.Build Garnish.Props.C01Build
open Garnish.Props.C01Source Garnish.Props.C02Numbered Garnish.Props.C01Text Garnish.Props.C01Blocks
open Garnish.Lemmas.Literals

variable {F : Type} (pf : List Char → Option F) (cc : CharClass) (fo : FloatOps F) (host : Host F)

/-! ### C12 -/

theorem order_value (op : Instruction) (l r : Val F) :
    (op = .lessThan → binaryOp fo op l r = some (.val (lessThan fo l r))) ∧
    (op = .greaterThan → binaryOp fo op l r = some (.val (greaterThan fo l r))) ∧
    (op = .lessThanOrEqual → binaryOp fo op l r = some (.val (lessThanOrEqual fo l r))) ∧
    (op = .greaterThanOrEqual → binaryOp fo op l r = some (.val (greaterThanOrEqual fo l r))) :=
  ⟨fun h => by subst h; rfl, fun h => by subst h; rfl, fun h => by subst h; rfl, fun h => by subst h; rfl⟩

/-- the four comparison operators and what they decide on integers -/
def intOrder : Instruction → Option (Int → Int → Bool)
  | .lessThan => some (fun a b => decide (a < b))
  | .greaterThan => some (fun a b => decide (b < a))
  | .lessThanOrEqual => some (fun a b => decide (a ≤ b))
  | .greaterThanOrEqual => some (fun a b => decide (b ≤ a))
  | _ => none

/-- **C12 from the source text, integers**: `a < b`, `a > b`, `a <= b`, `a >= b` on two integer literals run to `$?` / `$!`
according to the order of the integers -/
theorem C12_text_int_order (ra na rb nb : Nat) (sa sb : List Nat) (hra : 2 ≤ ra ∧ ra ≤ 36) (hrb : 2 ≤ rb ∧ rb ≤ 36)
    (hna : na ≤ 2147483647) (hnb : nb ≤ 2147483647) (hva : ValidSeps ra na sa) (hvb : ValidSeps rb nb sb)
    (oty : TokenType) (dop : Definition) (op : Instruction) (f : Int → Int → Bool) (hop : opTok oty = some (dop, op))
    (hf : intOrder op = some f) (s : List Char) (toks : List LexerToken) (hlex : lex cc s = .ok toks) (w1 to w2 : List Char)
    (htoks : toP toks = fiveToks (spellNumber ra na sa) w1 to w2 (spellNumber rb nb sb) .number oty .number) (input : Val F) :
    ∃ dd entry, buildText pf cc s = .ok (dd, entry) ∧ RunsTo fo host dd entry input (Val.ofBool (f na nb)) := by
  obtain ⟨h1, h2, h3, h4⟩ := C12.C12_int_order fo (na : Int) (nb : Int)
  refine text_binop pf cc fo host s toks hlex _ w1 to w2 _ .number oty .number htoks .number dop .number op rfl rfl hop
    (.num (.int na)) (.num (.int nb))
    (leafE_spellNumber pf ra na sa hra.1 hra.2 hna hva)
    (leafE_spellNumber pf rb nb sb hrb.1 hrb.2 hnb hvb) _ ?_ ?_ input
  · unfold intOrder at hf
    split at hf <;> cases hf
    · simp only [binaryOp, h1]
    · simp only [binaryOp, h2]
    · simp only [binaryOp, h3]
    · simp only [binaryOp, h4]
  · unfold intOrder at hf
    split at hf <;> first | rfl | cases hf

/-- … and what they decide on texts: the lexicographic order of the code points, the shorter prefix first -/
def listOrder : Instruction → Option (List Nat → List Nat → Bool)
  | .lessThan => some (fun a b => decide (a < b))
  | .greaterThan => some (fun a b => decide (b < a))
  | .lessThanOrEqual => some (fun a b => !decide (b < a))
  | .greaterThanOrEqual => some (fun a b => !decide (a < b))
  | _ => none

/-- **C12 from the source text, texts**: two char-list literals (any quote counts, any escapes) -/
theorem C12_text_charlist_order (qa qb : Nat) (ba bb : List Char) (hha : ba.head? ≠ some '"') (hhb : bb.head? ≠ some '"')
    (ca cb : List Char) (hua : unescape (uniModel pf) qa ba = .ok ca) (hub : unescape (uniModel pf) qb bb = .ok cb)
    (oty : TokenType) (dop : Definition) (op : Instruction) (f : List Nat → List Nat → Bool)
    (hop : opTok oty = some (dop, op)) (hf : listOrder op = some f) (s : List Char) (toks : List LexerToken)
    (hlex : lex cc s = .ok toks) (w1 to w2 : List Char)
    (htoks : toP toks = fiveToks (quoteCharList qa ba) w1 to w2 (quoteCharList qb bb) .charList oty .charList) (input : Val F) :
    ∃ dd entry, buildText pf cc s = .ok (dd, entry) ∧
      RunsTo fo host dd entry input (Val.ofBool (f (ca.map Char.toNat) (cb.map Char.toNat))) := by
  obtain ⟨h1, h2, h3, h4⟩ := C12.C12_charList_order fo (ca.map Char.toNat) (cb.map Char.toNat)
  refine text_binop pf cc fo host s toks hlex _ w1 to w2 _ .charList oty .charList htoks .charList dop .charList op rfl rfl hop
    (.chars (ca.map Char.toNat)) (.chars (cb.map Char.toNat))
    (leafE_quoteCharList pf qa ba _ hha hua)
    (leafE_quoteCharList pf qb bb _ hhb hub) _ ?_ ?_ input
  · unfold listOrder at hf
    split at hf <;> cases hf
    · simp only [binaryOp, h1]
    · simp only [binaryOp, h2]
    · simp only [binaryOp, h3]
    · simp only [binaryOp, h4]
  · unfold listOrder at hf
    split at hf <;> first | rfl | cases hf

/-! ### C11 -/

/-- **C11 from the source text**: `a == b` / `a != b` on ANY two literals (numbers, texts, byte lists, symbols, in any
combination): the built program runs to `$?` / `$!` according to `valEq` — structural equality — of the values they spell -/
theorem C11_text_equal (s : List Char) (toks : List LexerToken) (hlex : lex cc s = .ok toks) (ta w1 to w2 tb : List Char)
    (tya tyb : TokenType) (da db : Definition) (hda : litDef4 tya = some da) (hdb : litDef4 tyb = some db)
    (va vb : Val F) (ha : leafE pf da ta = some (.lit va)) (hb : leafE pf db tb = some (.lit vb)) (input : Val F) :
    (toP toks = fiveToks ta w1 to w2 tb tya .equality tyb →
      ∃ dd entry, buildText pf cc s = .ok (dd, entry) ∧ RunsTo fo host dd entry input (Val.ofBool (valEq fo va vb))) ∧
    (toP toks = fiveToks ta w1 to w2 tb tya .inequality tyb →
      ∃ dd entry, buildText pf cc s = .ok (dd, entry) ∧ RunsTo fo host dd entry input (Val.ofBool (!valEq fo va vb))) :=
  ⟨fun htoks => text_binop pf cc fo host s toks hlex ta w1 to w2 tb tya .equality tyb htoks da .equality db .equal hda hdb rfl
      va vb ha hb _ rfl rfl input,
   fun htoks => text_binop pf cc fo host s toks hlex ta w1 to w2 tb tya .inequality tyb htoks da .inequality db .notEqual hda hdb
      rfl va vb ha hb _ rfl rfl input⟩

/-- integers: `a == b` is equality of the numbers, whatever radix and separators they are written with -/
theorem C11_text_int_equal (ra na rb nb : Nat) (sa sb : List Nat) (hra : 2 ≤ ra ∧ ra ≤ 36) (hrb : 2 ≤ rb ∧ rb ≤ 36)
    (hna : na ≤ 2147483647) (hnb : nb ≤ 2147483647) (hva : ValidSeps ra na sa) (hvb : ValidSeps rb nb sb)
    (s : List Char) (toks : List LexerToken) (hlex : lex cc s = .ok toks) (w1 to w2 : List Char)
    (htoks : toP toks = fiveToks (spellNumber ra na sa) w1 to w2 (spellNumber rb nb sb) .number .equality .number)
    (input : Val F) :
    ∃ dd entry, buildText pf cc s = .ok (dd, entry) ∧ RunsTo fo host dd entry input (Val.ofBool (decide (na = nb))) := by
  have h := (C11_text_equal pf cc fo host s toks hlex _ w1 to w2 _ .number .number .number .number rfl rfl
    (.num (.int na)) (.num (.int nb))
    (leafE_spellNumber pf ra na sa hra.1 hra.2 hna hva)
    (leafE_spellNumber pf rb nb sb hrb.1 hrb.2 hnb hvb) input).1 htoks
  have e : valEq fo (.num (.int (na : Int))) (.num (.int (nb : Int))) = decide (na = nb) := by
    rw [C11.C11_numbers_numeric]
    simp only [Number.numEq]
    by_cases hh : na = nb
    · subst hh; simp
    · have : ¬ (na : Int) = (nb : Int) := by omega
      simp [hh, this]
  rw [e] at h
  exact h

/-- texts: `a == b` is element-wise equality of the code points the two literals spell -/
theorem C11_text_charlist_equal (qa qb : Nat) (ba bb : List Char) (hha : ba.head? ≠ some '"') (hhb : bb.head? ≠ some '"')
    (ca cb : List Char) (hua : unescape (uniModel pf) qa ba = .ok ca) (hub : unescape (uniModel pf) qb bb = .ok cb)
    (s : List Char) (toks : List LexerToken) (hlex : lex cc s = .ok toks) (w1 to w2 : List Char)
    (htoks : toP toks = fiveToks (quoteCharList qa ba) w1 to w2 (quoteCharList qb bb) .charList .equality .charList)
    (input : Val F) :
    ∃ dd entry, buildText pf cc s = .ok (dd, entry) ∧
      RunsTo fo host dd entry input (Val.ofBool (ca.map Char.toNat == cb.map Char.toNat)) := by
  have h := (C11_text_equal pf cc fo host s toks hlex _ w1 to w2 _ .charList .charList .charList .charList rfl rfl
    (.chars (ca.map Char.toNat)) (.chars (cb.map Char.toNat))
    (leafE_quoteCharList pf qa ba _ hha hua)
    (leafE_quoteCharList pf qb bb _ hhb hub) input).1 htoks
  rw [C11.C11_text_elementwise] at h
  exact h

end Garnish.Props.SourceProps
