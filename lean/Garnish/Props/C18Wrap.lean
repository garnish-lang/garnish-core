/-
C18, "wrapping a complete operand in parentheses": decidable syntactic conditions.

`WrapOK` (Lemmas/RefWrap2) states through the reference parser`s own run that `mid` is a complete operand.  Here: conditions
on the token lists alone, for the two common shapes of `mid`:
  * `wrapValueOK pre v post`   — `mid = [v]`, a value token (number, identifier, symbol, char list, …): `v` is not an
                                 Identifier whose last non-trivia predecessor is `.` (the Property position: witness
                                 `C18_wrap_property_differs`); the first operator after it walks over it (`NextPasses`,
                                 always true for a value).  No condition about space lists is needed: `a x` and `a (x)` are
                                 both lists.
  * `balancedFrom 0 inner`     — `mid = ( inner )` with balanced `inner` (double parentheses): no further condition
                                 (`wrapOK_group`).
`C18_refParse_wrapValue` / `C18_refParse_wrapGroup`: if the reference parser accepts the original list, both lists have the
same reference tree up to positions and `( )` nodes — for ALL token lists.  `C18_parse_wrapValue_syntactic` /
`C18_parse_wrapGroup_syntactic`: the real algorithm on `frag9`, with decidable hypotheses only.
-/
import Garnish.Lemmas.RefWrap3
import Garnish.Props.C01Source
import Garnish.Props.C18Parse
namespace Garnish.Props.C18Wrap
open Garnish Garnish.Gen Garnish.Spec Garnish.Model.Parser Garnish.Props.C02Parse Garnish.Props.C18Parse

/-- **a value token in parentheses, reference parser, every token list** -/
theorem C18_refParse_wrapValue {pre post : List PToken} {v o c : PToken} {T : RTree}
    (hs : wrapValueOK pre v post = true) (ho : o.type = .startGroup) (hc : c.type = .endGroup)
    (hn : NoTrim (pre ++ ([v] ++ post))) (hn' : NoTrim (pre ++ o :: ([v] ++ c :: post)))
    (href : refParse Table.gen (pre ++ ([v] ++ post)) = .ok T) :
    OutcomeEq TreeEqGroups (refParse Table.gen (pre ++ ([v] ++ post))) (refParse Table.gen (pre ++ o :: ([v] ++ c :: post))) := by
  rw [refParse_noTrim Table.gen hn] at href
  obtain ⟨f, stack, f1, M, M0, hw⟩ := wrapOK_value href hs
  exact C18_refParse_wrapOperand hw ho hc hn hn'

/-- **a value token in parentheses, the real algorithm on `frag9`**: decidable hypotheses only -/
theorem C18_parse_wrapValue_syntactic {pre post b : List PToken} {v o c : PToken}
    (hs : wrapValueOK pre v post = true) (ho : o.type = .startGroup) (hc : c.type = .endGroup)
    (hb : SameTypes (pre ++ o :: ([v] ++ c :: post)) b) (fa : frag9 (pre ++ ([v] ++ post)) = true) (fb : frag9 b = true)
    (na : NumberedFrom 0 (pre ++ ([v] ++ post))) (nb : NumberedFrom 0 b) :
    ∃ r t r' t', parse (pre ++ ([v] ++ post)) = .ok r ∧ toTree r = some t ∧ parse b = .ok r' ∧ toTree r' = some t' ∧
      TreeEqGroups (treeToRG r t) (treeToRG r' t') := by
  obtain ⟨r, t, _, _, h3⟩ := C02_parse_correct_fragment_optional _ fa na
  rw [refParse_noTrim Table.gen (frag9_noTrim fa)] at h3
  obtain ⟨f, stack, f1, M, M0, hw⟩ := wrapOK_value h3 hs
  exact C18_parse_wrapOperand hw ho hc hb fa fb na nb

/-! ### non-vacuity -/

/-- `a + b` ↦ `a + (b)` -/
def exV : List PToken := [tk .identifier "a" 0, tk .plusSign "+" 1, tk .identifier "b" 2]
def exV' : List PToken :=
  [tk .identifier "a" 0, tk .plusSign "+" 1, tk .startGroup "(" 2, tk .identifier "b" 3, tk .endGroup ")" 4]

theorem exV_cond : wrapValueOK [tk .identifier "a" 0, tk .plusSign "+" 1] (tk .identifier "b" 2) [] = true := by decide

theorem exV_parse : ∃ r t r' t', parse exV = .ok r ∧ toTree r = some t ∧ parse exV' = .ok r' ∧ toTree r' = some t' ∧
    TreeEqGroups (treeToRG r t) (treeToRG r' t') :=
  C18_parse_wrapValue_syntactic (pre := [tk .identifier "a" 0, tk .plusSign "+" 1]) (post := [])
    (o := tk .startGroup "(" 2) (c := tk .endGroup ")" 3) exV_cond rfl rfl rfl (by decide) (by decide)
    (by simp [NumberedFrom, tk]) (by simp [exV', NumberedFrom, tk])

/-- the guard: an Identifier after `.` (cf. `C18_wrap_property_differs`) -/
theorem exV_guard : wrapValueOK [tk .identifier "a" 0, tk .period "." 1] (tk .identifier "b" 2) [] = false := by decide

/-! ### double parentheses -/

/-- **a balanced `( … )` group in parentheses, reference parser, every token list** -/
theorem C18_refParse_wrapGroup {pre post inner : List PToken} {o1 c1 o c : PToken} {T : RTree}
    (hbal : balancedFrom 0 inner = true) (ho1 : o1.type = .startGroup) (hc1 : c1.type = .endGroup)
    (ho : o.type = .startGroup) (hc : c.type = .endGroup)
    (hn : NoTrim (pre ++ ((o1 :: (inner ++ [c1])) ++ post)))
    (hn' : NoTrim (pre ++ o :: ((o1 :: (inner ++ [c1])) ++ c :: post)))
    (href : refParse Table.gen (pre ++ ((o1 :: (inner ++ [c1])) ++ post)) = .ok T) :
    OutcomeEq TreeEqGroups (refParse Table.gen (pre ++ ((o1 :: (inner ++ [c1])) ++ post)))
      (refParse Table.gen (pre ++ o :: ((o1 :: (inner ++ [c1])) ++ c :: post))) := by
  rw [refParse_noTrim Table.gen hn] at href
  obtain ⟨f, stack, f1, M, M0, hw⟩ := wrapOK_group ho1 hc1 hbal href
  exact C18_refParse_wrapOperand hw ho hc hn hn'

/-- **double parentheses, the real algorithm on `frag9`**: decidable hypotheses only -/
theorem C18_parse_wrapGroup_syntactic {pre post inner b : List PToken} {o1 c1 o c : PToken}
    (hbal : balancedFrom 0 inner = true) (ho1 : o1.type = .startGroup) (hc1 : c1.type = .endGroup)
    (ho : o.type = .startGroup) (hc : c.type = .endGroup)
    (hb : SameTypes (pre ++ o :: ((o1 :: (inner ++ [c1])) ++ c :: post)) b)
    (fa : frag9 (pre ++ ((o1 :: (inner ++ [c1])) ++ post)) = true) (fb : frag9 b = true)
    (na : NumberedFrom 0 (pre ++ ((o1 :: (inner ++ [c1])) ++ post))) (nb : NumberedFrom 0 b) :
    ∃ r t r' t', parse (pre ++ ((o1 :: (inner ++ [c1])) ++ post)) = .ok r ∧ toTree r = some t ∧ parse b = .ok r' ∧
      toTree r' = some t' ∧ TreeEqGroups (treeToRG r t) (treeToRG r' t') := by
  obtain ⟨r, t, _, _, h3⟩ := C02_parse_correct_fragment_optional _ fa na
  rw [refParse_noTrim Table.gen (frag9_noTrim fa)] at h3
  obtain ⟨f, stack, f1, M, M0, hw⟩ := wrapOK_group ho1 hc1 hbal h3
  exact C18_parse_wrapOperand hw ho hc hb fa fb na nb

/-- `(x)` ↦ `((x))` and `a * (b + c)` ↦ `a * ((b + c))` -/
def exG : List PToken := [tk .startGroup "(" 0, tk .identifier "x" 1, tk .endGroup ")" 2]
def exG' : List PToken :=
  [tk .startGroup "(" 0, tk .startGroup "(" 1, tk .identifier "x" 2, tk .endGroup ")" 3, tk .endGroup ")" 4]

theorem exG_parse : ∃ r t r' t', parse exG = .ok r ∧ toTree r = some t ∧ parse exG' = .ok r' ∧ toTree r' = some t' ∧
    TreeEqGroups (treeToRG r t) (treeToRG r' t') :=
  C18_parse_wrapGroup_syntactic (pre := []) (post := []) (inner := [tk .identifier "x" 1]) (o1 := tk .startGroup "(" 0)
    (c1 := tk .endGroup ")" 2) (o := tk .startGroup "(" 0) (c := tk .endGroup ")" 3) (by decide) rfl rfl rfl rfl rfl
    (by decide) (by decide) (by simp [NumberedFrom, tk]) (by simp [exG', NumberedFrom, tk])

def exG2 : List PToken :=
  [tk .identifier "a" 0, tk .multiplicationSign "*" 1, tk .startGroup "(" 2, tk .identifier "b" 3, tk .plusSign "+" 4,
   tk .identifier "c" 5, tk .endGroup ")" 6]
def exG2' : List PToken :=
  [tk .identifier "a" 0, tk .multiplicationSign "*" 1, tk .startGroup "(" 2, tk .startGroup "(" 3, tk .identifier "b" 4,
   tk .plusSign "+" 5, tk .identifier "c" 6, tk .endGroup ")" 7, tk .endGroup ")" 8]

theorem exG2_parse : ∃ r t r' t', parse exG2 = .ok r ∧ toTree r = some t ∧ parse exG2' = .ok r' ∧ toTree r' = some t' ∧
    TreeEqGroups (treeToRG r t) (treeToRG r' t') :=
  C18_parse_wrapGroup_syntactic (pre := [tk .identifier "a" 0, tk .multiplicationSign "*" 1]) (post := [])
    (inner := [tk .identifier "b" 3, tk .plusSign "+" 4, tk .identifier "c" 5]) (o1 := tk .startGroup "(" 2)
    (c1 := tk .endGroup ")" 6) (o := tk .startGroup "(" 2) (c := tk .endGroup ")" 7) (by decide) rfl rfl rfl rfl rfl
    (by decide) (by decide) (by simp [NumberedFrom, tk]) (by simp [exG2', NumberedFrom, tk])

/-! ### the result half: parentheses are NOT transparent for the elaboration in general

`Abs.Source.go` reads a `( )` node as its content with the list items / conditional arms RESET (`plain`): a group ends a
comma list, a space list and a `?> … |> …` chain.  So two trees that are equal up to `( )` nodes (`TreeEqGroups`) may
elaborate to different programs — and do, for a licensed wrap of a "complete operand" in the sense of `WrapOK`: in
`a, b, c` the tokens `a, b` are the left operand of the second comma, `(a, b), c` has the same tree up to the group node,
but the first is the list of three items and the second a list whose first item is a list. -/

open Garnish.Abs Garnish.Abs.Source Garnish.Props.C01Source Garnish.Props.C01Build

def exL : List PToken :=
  [tk .number "1" 0, tk .comma "," 1, tk .number "2" 2, tk .comma "," 3, tk .number "3" 4]
def exL' : List PToken :=
  [tk .startGroup "(" 0, tk .number "1" 1, tk .comma "," 2, tk .number "2" 3, tk .endGroup ")" 4, tk .comma "," 5,
   tk .number "3" 6]

/-- **witness for the result half**: same tree up to the group node, different programs (`[1, 2, 3]` vs `[[1, 2], 3]`) -/
theorem C18_wrap_list_prefix_result_differs :
    ∃ T T' p p', refParse Table.gen exL = .ok T ∧ refParse Table.gen exL' = .ok T' ∧ TreeEqGroups T T' ∧
      elaborate noFloat exL T = some p ∧ elaborate noFloat exL' T' = some p' ∧
      p.main = .list [int 1, int 2, int 3] ∧ p'.main = .list [.list [int 1, int 2], int 3] :=
  ⟨_, _, _, _, rfl, rfl, by unfold TreeEqGroups; decide, rfl, rfl, rfl, rfl⟩

/-- … and the rewrite IS a wrap of a complete operand in the sense of `WrapOK` (all run conditions hold) -/
theorem exL_wrapOK : WrapOK [] [tk .number "1" 0, tk .comma "," 1, tk .number "2" 2] [tk .comma "," 3, tk .number "3" 4]
    Frame.top [] Frame.top
    (.node (.node .nil .number 0 .nil) .commaList 1 (.node .nil .number 2 .nil))
    (.node (.node .nil .number 1 .nil) .commaList 2 (.node .nil .number 3 .nil)) where
  runPre := rfl
  before := rfl
  openB := rfl
  head := rfl
  runMid := rfl
  alone := rfl
  same := rfl
  ends := ⟨[tk .number "1" 0, tk .comma "," 1], tk .number "2" 2, rfl, rfl⟩
  acc := Or.inl rfl
  next := rfl

end Garnish.Props.C18Wrap
