/-
C10 in context — conditionals and logic evaluate only what they must, for an occurrence ANYWHERE inside a well-formed
program (in the main line of any body, in an arm, in the right operand of another `&&`, …), stated on the machine run.

For `l && r` (resp. `l || r`, `c ?> t`) occurring in body `id` of `p` (`Sub (.and l r) b`, Lemmas/CompileOccur.lean) the
compiled program has the occurrence laid out (`Located`): `l`'s main line at `pc`, the instruction `And j` at
`pc + len l`, `r`'s code out of line at `tb = jumps[j]`. When the evaluation of `l` — in whatever state the machine
reaches `pc` with — gives a value that decides the outcome:
  * the machine reaches the `And` with that value on the operand stack,
  * ONE step later it is at `pc + len l + 1`, the continuation, with `$!` pushed,
  * and `pc + len l + 1 < tb`: neither the `And` nor the continuation belongs to `r`'s code, which begins at `tb` and
    is laid out after everything of the root that contains the `And` (`compile_branchFwd`, Lemmas/CompileForward.lean):
    between the decision and the continuation the pc does not enter `r`'s address range `[tb, tb + len r + 2)`.
What is NOT claimed: that no instruction of `r` is executed while `l` itself is being evaluated — `l` may call (apply)
an expression value that re-enters this very body with another input, and that activation may well evaluate its own `r`.
-/
import Garnish.Lemmas.CompileOccur
import Garnish.Lemmas.CompileForward
import Garnish.Props.C01Compile
namespace Garnish.Props.C10
open Garnish Gen Garnish.Abs Garnish.Spec

variable {F : Type} (fo : FloatOps F) (host : Host F)

/-- `l && r` (`go = true`) and `l || r` (`go = false`) as one construct `e`: after the left operand comes `instr j`, which
goes on to the out-of-line right operand at `tb = jumps[j]` when the left value's truth is `go`. When it is not, the
outcome is decided: `Val.ofBool (!go)` after one step from `instr`, and `r`'s code lies ahead of both addresses -/
theorem C10_logical_decides {P : Prog F} {bodies : List (Nat × Expr F)} (env : Env P bodies) (fwd : BranchFwd P)
    {e l r : Expr F} {instr : Instruction} {go : Bool}
    (hform : (e = .and l r ∧ instr = .and ∧ go = true) ∨ (e = .or l r ∧ instr = .or ∧ go = false))
    {root cur pc entry : Nat} (hloc : Located P root cur pc e) (hwf : wfC e = true)
    (hj : P.jumps[cur]? = some entry) (hent : entry < P.instrs.size) :
    ∃ j tb, P.instrs[pc + len l]? = some (instr, some j) ∧ P.jumps[j]? = some tb ∧ Located P j cur tb r ∧
      pc + len l + 1 < tb ∧
      ∀ (fuel : Nat) (st st1 : St F) (vl : Val F),
        evalFS fo host bodies cur fuel l st = .ok (.val vl, st1) → vl.truthy = !go →
        ∀ (rs vs : List (Val F)) (fr : List (Frame F)),
          Reach fo host P ⟨pc, rs, st.inp :: vs, fr, st.trace⟩ ⟨pc + len l, vl :: rs, st1.inp :: vs, fr, st1.trace⟩ ∧
          step fo host P ⟨pc + len l, vl :: rs, st1.inp :: vs, fr, st1.trace⟩ =
            .running ⟨pc + len l + 1, Val.ofBool (!go) :: rs, st1.inp :: vs, fr, st1.trace⟩ := by
  -- what the two constructs share: the layout, well-formedness of `l`, and the step of `instr`
  obtain ⟨⟨hll, j, join, tb, hi1, hjj, _, _, hlr, hterm⟩, hwl, hbr, hstep⟩ :
      (Located P root cur pc l ∧ ∃ j join tb, P.instrs[pc + len l]? = some (instr, some j) ∧
        P.jumps[j]? = some tb ∧ P.jumps[join]? = some (pc + len l + 1) ∧ join ≠ cur ∧ Located P j cur tb r ∧
        InstrsAt P (tb + len r) (termsAfter P (tb + len r) [(.tis, none), (.jumpTo, some join)])) ∧
      wfC l = true ∧ isBranch instr = true ∧
      ∀ {pc j t : Nat} {d : Val F} {rs vs : List (Val F)} {fr : List (Frame F)} {tr : List (HostCall F)},
        P.instrs[pc]? = some (instr, some j) → P.jumps[j]? = some t → t < P.instrs.size → pc + 1 < P.instrs.size →
        d.truthy = !go →
        step fo host P ⟨pc, d :: rs, vs, fr, tr⟩ = .running ⟨pc + 1, Val.ofBool (!go) :: rs, vs, fr, tr⟩ := by
    rcases hform with ⟨rfl, rfl, rfl⟩ | ⟨rfl, rfl, rfl⟩ <;>
      simp only [wfC, Bool.and_eq_true] at hwf <;> unfold Located at hloc
    · exact ⟨hloc, hwf.1, rfl, fun h1 h2 h3 h4 hd => by rw [step_and h1 h2 h3 h4, hd]; rfl⟩
    · exact ⟨hloc, hwf.1, rfl, fun h1 h2 h3 h4 hd => by rw [step_or h1 h2 h3 h4, hd]; rfl⟩
  obtain ⟨t, ht, hlt1, _, _⟩ := fwd (pc + len l) instr j hi1 hbr
  rw [hjj] at ht
  cases ht
  rw [termsAfter_tis] at hterm
  simp only [InstrsAt, and_true] at hterm
  have htb : tb < P.instrs.size := by have := lt_of_getElem? hterm.1; have := len_pos r; omega
  exact ⟨j, tb, hi1, hjj, hlr, hlt1, fun fuel st st1 vl hl hf rs vs fr =>
    ⟨(sim_all fo host env fuel).1 l cur st (.val vl) st1 hl root pc rs vs fr entry hll hwl hj hent (lt_of_getElem? hi1),
      hstep hi1 hjj htb (by omega) hf⟩⟩

/-- `c ?> t` / `c !> t`: `t`'s code lies ahead of the conditional; when the test fails the `JumpIf` falls through,
`PutValue` pushes `$`, and the conditional is complete at `pc + len c + 2` — two steps, all three addresses before `tb` -/
theorem C10_cond_skips {P : Prog F} {bodies : List (Nat × Expr F)} (env : Env P bodies) (fwd : BranchFwd P)
    {root cur pc entry : Nat} {onTrue : Bool} {c t : Expr F}
    (hloc : Located P root cur pc (.cond onTrue c t)) (hwf : wfC (.cond onTrue c t) = true)
    (hj : P.jumps[cur]? = some entry) (hent : entry < P.instrs.size) (hlt : pc + len (.cond onTrue c t) < P.instrs.size) :
    ∃ j tb, P.instrs[pc + len c]? = some (jumpIf onTrue, some j) ∧ P.jumps[j]? = some tb ∧ Located P j cur tb t ∧
      pc + len c + 2 < tb ∧
      ∀ (fuel : Nat) (st st1 : St F) (vc : Val F),
        evalFS fo host bodies cur fuel c st = .ok (.val vc, st1) → (vc.truthy == onTrue) = false →
        ∀ (rs vs : List (Val F)) (fr : List (Frame F)),
          Reach fo host P ⟨pc, rs, st.inp :: vs, fr, st.trace⟩ ⟨pc + len c, vc :: rs, st1.inp :: vs, fr, st1.trace⟩ ∧
          step fo host P ⟨pc + len c, vc :: rs, st1.inp :: vs, fr, st1.trace⟩ =
            .running ⟨pc + len c + 1, rs, st1.inp :: vs, fr, st1.trace⟩ ∧
          step fo host P ⟨pc + len c + 1, rs, st1.inp :: vs, fr, st1.trace⟩ =
            .running ⟨pc + len c + 2, st1.inp :: rs, st1.inp :: vs, fr, st1.trace⟩ := by
  simp only [Located] at hloc
  obtain ⟨hlc, j, join, tb, hi1, hi2, hjj, _, _, hlt', hterm⟩ := hloc
  simp only [wfC, Bool.and_eq_true] at hwf
  obtain ⟨t', ht, _, _, hpv⟩ := fwd (pc + len c) (jumpIf onTrue) j hi1 (isBranch_jumpIf onTrue)
  rw [hjj] at ht
  cases ht
  have hend : pc + len (.cond onTrue c t) = pc + len c + 2 := by simp only [len]; omega
  rw [hend] at hlt
  rw [termsAfter_jump] at hterm
  simp only [InstrsAt, and_true] at hterm
  have htb : tb < P.instrs.size := by have := lt_of_getElem? hterm; have := len_pos t; omega
  refine ⟨j, tb, hi1, hjj, hlt', hpv hi2, fun fuel st st1 vc hc hf rs vs fr => ?_⟩
  have hstep := step_jumpIf (fo := fo) (host := host) (rs := rs) (vs := st1.inp :: vs) (fr := fr) (tr := st1.trace)
    (d := vc) hi1 hjj htb (by omega)
  simp only [hf, Bool.false_eq_true, if_false] at hstep
  exact ⟨(sim_all fo host env fuel).1 c cur st (.val vc) st1 hc root pc rs vs fr entry hlc hwf.1 hj hent (lt_of_getElem? hi1),
    hstep, step_putValue hi2 (by omega)⟩

/-! ### … for every occurrence in a well-formed program -/

/-- in a compiled well-formed program branch targets lie ahead -/
theorem compile_fwd (p : Program F) (hwf : C01.WFProgramC p) : BranchFwd (compile p) :=
  compile_branchFwd Prog.empty p
    (fun i op j hx _ => by simp [Prog.empty] at hx) (C01.compile_complete p hwf.labels)

/-- an occurrence `x` in body `id` of a well-formed program is laid out in the compiled program, inside the text, and
the body has an entry -/
theorem occurrence (p : Program F) (hwf : C01.WFProgramC p) {id : Nat} {b x : Expr F}
    (hb : lookupBody p.bodies id = some b) (hs : Sub x b) :
    ∃ root pc entry, Located (compile p) root id pc x ∧ wfC x = true ∧ pc + len x < (compile p).instrs.size ∧
      (compile p).jumps[id]? = some entry ∧ entry < (compile p).instrs.size := by
  have env := C01.compile_env p hwf
  obtain ⟨root, pc, hloc, hw, hlt⟩ := Located_sub hs (Occ.ofEnv env hb)
  obtain ⟨t, hjt, _, _, hend⟩ := env.body id b hb
  exact ⟨root, pc, t, hloc, hw, hlt, hjt, by have := lt_of_getElem? hend; omega⟩

/-- `C10_logical_decides` for an occurrence of `l && r` / `l || r` anywhere in body `id` of a well-formed program -/
theorem C10_logical_in_context (p : Program F) (hwf : C01.WFProgramC p) {id : Nat} {b e l r : Expr F}
    {instr : Instruction} {go : Bool}
    (hform : (e = .and l r ∧ instr = .and ∧ go = true) ∨ (e = .or l r ∧ instr = .or ∧ go = false))
    (hb : lookupBody p.bodies id = some b) (hs : Sub e b) :
    ∃ root pc j tb, Located (compile p) root id pc e ∧
      (compile p).instrs[pc + len l]? = some (instr, some j) ∧ (compile p).jumps[j]? = some tb ∧
      Located (compile p) j id tb r ∧ pc + len l + 1 < tb ∧
      ∀ (fuel : Nat) (st st1 : St F) (vl : Val F),
        evalFS fo host p.bodies id fuel l st = .ok (.val vl, st1) → vl.truthy = !go →
        ∀ (rs vs : List (Val F)) (fr : List (Frame F)),
          Reach fo host (compile p) ⟨pc, rs, st.inp :: vs, fr, st.trace⟩ ⟨pc + len l, vl :: rs, st1.inp :: vs, fr, st1.trace⟩ ∧
          step fo host (compile p) ⟨pc + len l, vl :: rs, st1.inp :: vs, fr, st1.trace⟩ =
            .running ⟨pc + len l + 1, Val.ofBool (!go) :: rs, st1.inp :: vs, fr, st1.trace⟩ := by
  obtain ⟨root, pc, entry, hloc, hw, _, hj, hent⟩ := occurrence p hwf hb hs
  obtain ⟨j, tb, h⟩ := C10_logical_decides fo host (C01.compile_env p hwf) (compile_fwd p hwf) hform hloc hw hj hent
  exact ⟨root, pc, j, tb, hloc, h⟩

/-- **C10 in context, `&&`**: for `l && r` occurring anywhere in body `id` of a well-formed program, in the compiled
program: the occurrence is laid out — `l` at `pc`, `And j` at `pc + len l`, `r` out of line at `tb = jumps[j]`, and
`pc + len l + 1 < tb` — and whenever the evaluation of `l` (in any state `st`, with any operands `rs`, input values `vs`
and frames `fr` around it) yields a false value, the machine started at `pc` reaches the `And` with that value and its
next step lands on the continuation `pc + len l + 1` with `$!` pushed: between the decision and the continuation no
instruction of `r` (addresses `≥ tb`) is executed. -/
theorem C10_short_circuit_in_context (p : Program F) (hwf : C01.WFProgramC p) {id : Nat} {b l r : Expr F}
    (hb : lookupBody p.bodies id = some b) (hs : Sub (.and l r) b) :
    ∃ root pc j tb, Located (compile p) root id pc (.and l r) ∧
      (compile p).instrs[pc + len l]? = some (.and, some j) ∧ (compile p).jumps[j]? = some tb ∧
      Located (compile p) j id tb r ∧ pc + len l + 1 < tb ∧
      ∀ (fuel : Nat) (st st1 : St F) (vl : Val F),
        evalFS fo host p.bodies id fuel l st = .ok (.val vl, st1) → vl.truthy = false →
        ∀ (rs vs : List (Val F)) (fr : List (Frame F)),
          Reach fo host (compile p) ⟨pc, rs, st.inp :: vs, fr, st.trace⟩ ⟨pc + len l, vl :: rs, st1.inp :: vs, fr, st1.trace⟩ ∧
          step fo host (compile p) ⟨pc + len l, vl :: rs, st1.inp :: vs, fr, st1.trace⟩ =
            .running ⟨pc + len l + 1, .fls :: rs, st1.inp :: vs, fr, st1.trace⟩ :=
  C10_logical_in_context fo host p hwf (.inl ⟨rfl, rfl, rfl⟩) hb hs

/-- **C10 in context, `||`**: the same for `l || r` with a true left operand (`$?` is pushed) -/
theorem C10_short_circuit_in_context_or (p : Program F) (hwf : C01.WFProgramC p) {id : Nat} {b l r : Expr F}
    (hb : lookupBody p.bodies id = some b) (hs : Sub (.or l r) b) :
    ∃ root pc j tb, Located (compile p) root id pc (.or l r) ∧
      (compile p).instrs[pc + len l]? = some (.or, some j) ∧ (compile p).jumps[j]? = some tb ∧
      Located (compile p) j id tb r ∧ pc + len l + 1 < tb ∧
      ∀ (fuel : Nat) (st st1 : St F) (vl : Val F),
        evalFS fo host p.bodies id fuel l st = .ok (.val vl, st1) → vl.truthy = true →
        ∀ (rs vs : List (Val F)) (fr : List (Frame F)),
          Reach fo host (compile p) ⟨pc, rs, st.inp :: vs, fr, st.trace⟩ ⟨pc + len l, vl :: rs, st1.inp :: vs, fr, st1.trace⟩ ∧
          step fo host (compile p) ⟨pc + len l, vl :: rs, st1.inp :: vs, fr, st1.trace⟩ =
            .running ⟨pc + len l + 1, .tru :: rs, st1.inp :: vs, fr, st1.trace⟩ :=
  C10_logical_in_context fo host p hwf (.inr ⟨rfl, rfl, rfl⟩) hb hs

/-- **C10 in context, conditionals**: for `c ?> t` / `c !> t` occurring anywhere (not as an arm of an else-chain: those
are `chain`s), when the test fails the two instructions after the test — the `JumpIf`, which falls through, and the
`PutValue` that pushes `$` — take the machine to `pc + len c + 2`, the end of the conditional; `t`'s code begins at
`tb > pc + len c + 2` and is not entered. -/
theorem C10_cond_in_context (p : Program F) (hwf : C01.WFProgramC p) {id : Nat} {b c t : Expr F} {onTrue : Bool}
    (hb : lookupBody p.bodies id = some b) (hs : Sub (.cond onTrue c t) b) :
    ∃ root pc j tb, Located (compile p) root id pc (.cond onTrue c t) ∧
      (compile p).instrs[pc + len c]? = some (jumpIf onTrue, some j) ∧ (compile p).jumps[j]? = some tb ∧
      Located (compile p) j id tb t ∧ pc + len c + 2 < tb ∧
      ∀ (fuel : Nat) (st st1 : St F) (vc : Val F),
        evalFS fo host p.bodies id fuel c st = .ok (.val vc, st1) → (vc.truthy == onTrue) = false →
        ∀ (rs vs : List (Val F)) (fr : List (Frame F)),
          Reach fo host (compile p) ⟨pc, rs, st.inp :: vs, fr, st.trace⟩ ⟨pc + len c, vc :: rs, st1.inp :: vs, fr, st1.trace⟩ ∧
          step fo host (compile p) ⟨pc + len c, vc :: rs, st1.inp :: vs, fr, st1.trace⟩ =
            .running ⟨pc + len c + 1, rs, st1.inp :: vs, fr, st1.trace⟩ ∧
          step fo host (compile p) ⟨pc + len c + 1, rs, st1.inp :: vs, fr, st1.trace⟩ =
            .running ⟨pc + len c + 2, st1.inp :: rs, st1.inp :: vs, fr, st1.trace⟩ := by
  obtain ⟨root, pc, entry, hloc, hw, hlt, hj, hent⟩ := occurrence p hwf hb hs
  obtain ⟨j, tb, h⟩ := C10_cond_skips fo host (C01.compile_env p hwf) (compile_fwd p hwf) hloc hw hj hent hlt
  exact ⟨root, pc, j, tb, hloc, h⟩

/-! ### non-vacuity: `&&` inside the arm of a conditional inside a list -/

/-- `(1, $ ?> ($ && 7))`: the `&&` occurs in an out-of-line root of the top-level body -/
def exCtx : Program Float :=
  { main := .list [.lit (.num (.int 1)), .cond true .input (.and .input (.lit (.num (.int 7))))],
    bodies := [(0, .list [.lit (.num (.int 1)), .cond true .input (.and .input (.lit (.num (.int 7))))])] }

example : Sub (.and .input (.lit (.num (.int 7)))) exCtx.main :=
  .list (a := .cond true .input (.and .input (.lit (.num (.int 7))))) (by simp) (.condT _ _ (.refl _))

example : (compile exCtx).instrs =
    #[(.put, some 0), (.putValue, none), (.jumpIfTrue, some 1), (.putValue, none), (.makeList, some 2), (.endExpression, none),
      (.putValue, none), (.and, some 3), (.jumpTo, some 2), (.put, some 1), (.tis, none), (.jumpTo, some 4)] ∧
    (compile exCtx).jumps = #[0, 6, 4, 9, 8] := by
  constructor <;> decide

theorem exCtx_wf : C01.WFProgramC exCtx := .ofCheck rfl rfl (by rfl)

/-- the theorem applies to this occurrence: `And 3` sits at address 7, the right operand `7` at address 9 = `jumps[3]`,
and `7 + 1 < 9` -/
example (fo : FloatOps Float) (host : Host Float) :=
  C10_short_circuit_in_context fo host exCtx exCtx_wf (id := 0) rfl
    (.list (a := .cond true .input (.and .input (.lit (.num (.int 7))))) (by simp [exCtx]) (.condT _ _ (.refl _)))

end Garnish.Props.C10
