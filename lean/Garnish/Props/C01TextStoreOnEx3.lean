/-
Non-vacuity of `C01_text_to_simple_store3` WITH A CALL: the source text `{ $ + 1 } <~ 5` on the payload model of
`SimpleGarnishData`. `progNested_wf`, `progNested_meaning`: the source-side hypotheses; `nestedSimple`: the built program
as it sits in Simple (`reloc`); `nested_r0`: the coverage / side conditions (`RunOKG`, `MDeepN` included)
along the eight machine steps, for every step count.
-/
import Garnish.Props.RuntimeRefineOn3
import Garnish.Props.RuntimeRefineSimple2
namespace Garnish.Props.C01TextStore
open Garnish Garnish.Gen Garnish.Spec Garnish.Abs Garnish.Abs.Tree Garnish.Abs.Source Garnish.Model Garnish.Model.Parser
open Garnish.Model.Lexer Garnish.Model.Literals Garnish.Model.Build Garnish.Props.C01Build Garnish.Props.C01Source
open Garnish.Props.C02Numbered Garnish.Props.C01Text
open Garnish.Model.Equality Garnish.Model.Runtime Garnish.Lemmas.Runtime Garnish.Props.RuntimeRefine
open Garnish.Lemmas.Runtime.On Garnish.Lemmas.Runtime.Simple

theorem progNested_wf : C01.WFProgram progNested := .ofCheck rfl rfl (by rfl)

theorem progNested_meaning (fo : FloatOps Float) (host : Host Float) :
    evalProgram fo host 10 progNested .unit = .ok (.num (.int 6), ⟨.unit, []⟩) := by
  simp [evalProgram, evalBody, evalF, lookupBody, progNested, mainNested, int, applyVals,
    applyKind, binaryOp, arithBinary, numOpOf, Number.apply, Number.plus, Number.doOp, Number.overflowingAdd, numResult, settle, Number.ovf]
  have h1 : InRange 6 := by unfold InRange; omega
  have h2 : wrap 6 = 6 := by decide
  simp [h1, h2]


/-- `{ $ + 1 } <~ 5` as it sits in a `SimpleGarnishData` -/
def nestedSimple : Prog Float := reloc (compile progNested)


/-- a cache that never hits, a host that declines -/
abbrev exStore3 : RStore Float (SimState Float) := simpleRStore (fun _ _ => none) (fun _ st => (false, st))

def nm (pc : Nat) (regs vals : List (Val Float)) (frames : List (Frame Float)) : MState Float :=
  { pc := pc, regs := regs, vals := vals, frames := frames, trace := [] }

variable (fo : FloatOps Float)

abbrev okN := MachOKOn3 fo exStore3 SInv nestedSimple 0

abbrev five : Val Float := .num (.int 5)
abbrev one : Val Float := .num (.int 1)
abbrev six : Val Float := .num (.int 6)


theorem okN_put {m : MState Float} {k : Nat} {v : Val Float} (hc : nestedSimple.consts[k]? = some v)
    (hv : v ≠ .custom) : okN fo m .put (some k) :=
  fun _ _ hk hc' => by cases hk; rw [hc] at hc'; cases hc'; exact hv

theorem nested_r0 : ∀ k, RunOKG fo (okN fo) Host.declining nestedSimple k (nm 0 [] [.unit] []) := by
  -- `Put`, `Put`, `Apply` (enters the body), `PutValue`, `Put`, `Add`, `EndExpression` (returns), `EndExpression` (halts)
  refine .step (i := .put) (o := some 3) (m' := nm 1 [.expr 1] [.unit] []) rfl (okN_put fo (v := .expr 1) rfl nofun) rfl ?_
  refine .step (i := .put) (o := some 4) (m' := nm 2 [five, .expr 1] [.unit] []) rfl (okN_put fo (v := five) rfl nofun)
    rfl ?_
  refine .step (i := .apply) (o := none) (m' := nm 4 [] [five, .unit] [⟨3, []⟩]) rfl
    ⟨(fun _ _ h => by cases h), fun vr vl rs h => by cases h; exact ⟨trivial, nofun⟩⟩ rfl ?_
  refine .step (i := .putValue) (o := none) (m' := nm 5 [five] [five, .unit] [⟨3, []⟩]) rfl
    (fun v vs h => by cases h; exact nofun) rfl ?_
  refine .step (i := .put) (o := some 5) (m' := nm 6 [one, five] [five, .unit] [⟨3, []⟩]) rfl
    (okN_put fo (v := one) rfl nofun) rfl ?_
  refine .step (i := .add) (o := none) (m' := nm 7 [six] [five, .unit] [⟨3, []⟩]) rfl
    (fun _ _ h => by cases h; exact Nat.le_refl 2) rfl ?_
  refine .step (i := .endExpression) (o := none) (m' := nm 3 [six] [.unit] []) rfl
    (fun r rs h => by cases h; exact ⟨nofun, (fun _ _ h => by cases h; exact Nat.zero_le _), nofun⟩) rfl ?_
  exact .halt (i := .endExpression) (o := none) (m' := nm 8 [] [six] []) rfl
    (fun r rs h => by cases h; exact ⟨nofun, (fun _ _ h => by cases h), fun _ => rfl⟩) rfl


/-- **non-vacuity with a call**: the text `{ $ + 1 } <~ 5` — `Put`, `Put`, `Apply` (a frame is pushed: a `StackFrame`
cell on Simple's register `Vec`), `PutValue`, `Put`, `Add`, `EndExpression` (the frame is popped), `EndExpression` — on
the payload model of `SimpleGarnishData` with a cache that never hits and a declining host: the loop ends (`End`) with
ONE input-value address, which decodes to `6`; no register, no frame, the invariant holds. Every hypothesis of
`C01_text_to_simple_store3` is discharged (`nested_r0`: the side conditions, `MDeepN` included, along the
eight machine steps). -/
example (fo : FloatOps Float) :
    ∃ d entry n, buildText noFloat asciiCC "{ $ + 1 } <~ 5".toList = .ok (d, entry) ∧
      ∃ s' a, executeLoop fo exStore3 0 (fullHandlers fo exStore3 0 (RM.fail .unsupported)) n
          (loadSimple (reloc (progOf d)) ((progOf d).jumps[entry]?.getD 0) .unit) = .ok ((.end_, n), s') ∧
        s'.values = [a] ∧ Decodes (simView s'.cells) a (.num (.int 6)) ∧ exStore3.regs s' = [] ∧
        exStore3.frames s' = [] ∧ SInv s' := by
  obtain ⟨toks, rt, hlex, hf, href, hel⟩ := SourceProps.srcNested
  obtain ⟨d, entry, n, hb, hrun⟩ :=
    C01_text_to_simple_store3 (hit := fun _ _ => none) noFloat asciiCC C15_hitSound_never (fun _ st => (false, st))
      fo Host.declining C01_simple_host_declines 0 (fullHandlers fo exStore3 0 (RM.fail .unsupported)) _ _ hlex hf _ href
      progNested hel progNested_wf .unit 10 _ _ (progNested_meaning fo Host.declining)
  obtain ⟨d', hb', hprog⟩ := SourceProps.srcNested.built (C01.compile_complete _ progNested_wf.labels)
  cases hb.symm.trans hb'
  have hleaf : (progOf d).consts.toList.all isLeafS = true := by rw [hprog]; rfl
  have hok := nested_r0 fo n
  rw [hprog] at hrun
  obtain ⟨s', a, h1, h2, h3, h4, h5, h6⟩ := hrun (by rw [← hprog]; exact hleaf) rfl hok
  refine ⟨d, 0, n, hb, s', a, ?_, h2, h3, h4, h5, h6⟩
  rw [hprog]; exact h1

end Garnish.Props.C01TextStore
