/-
Runtime refinement, part 2b (C12 anchors): the statement-level model of runtime/src/runtime/comparison.rs
(Model/Runtime/Comparison.lean: the four handlers, `perform_comparison` with all its arms in source order,
`cmp_list` with its index loop) refines the value-level comparison.

* `C12_refine_cmp_list`: the index loop returns Abs/Ops `cmpListFrom a b i j` (`cmpTail` from the two starts, the
  FULL lengths deciding a tie) for integer starts `i`, `j`, with fuel `min |a| |b| + 1`.
* `C12_refine_perform_comparison` / `C12_refine_{less_than,…}`: for ALL operand values the handler computes
  `compareValsR` (Model/Runtime/CompareSpec.lean) and pushes `cmpValOf accept` of it, or fails with its error.
* `C12_compareValsR_agrees`: `compareValsR` IS Abs/Ops `compareVals` unless both operands are slices over two
  texts / two byte lists with a range that `sliceStart` rejects; `C12_refine_*_abs` restate the refinement
  against `Abs.lessThan` … under that condition.
* DISAGREEMENT with Abs/Ops (witnesses `C12_slice_range_overflow_disagrees`, `C12_slice_range_unit_disagrees`):
  where `sliceStart` rejects the range because its length overflows or an end is not a number, Abs/Ops says
  "not ordered, all four operators false" while the code fails the instruction (number error / state error).

Hypotheses besides `StoreLaws`, the register shape and `Decodes`: `textLen v ≤ i32::MAX` for both operands
(`DataFactory::size_to_number` is the cast `as i32`; on longer texts the loop bound itself wraps) and the fuel
bound.
-/
import Garnish.Lemmas.RuntimeCmp
import Garnish.Lemmas.RuntimeRefStore
namespace Garnish.Props.RuntimeRefine
open Garnish Gen Garnish.Abs Garnish.Model.Equality Garnish.Model.Runtime Garnish.Lemmas.Runtime

variable {F σ : Type} {S : RStore F σ} (fo : FloatOps F)

/-- fuel that always suffices for `perform_comparison` on `vl`, `vr` -/
def cmpFuel (vl vr : Val F) : Nat := min (textLen vl) (textLen vr) + 1

/-- `cmp_list` on two char lists from integer starts: Abs/Ops `cmpListFrom`; the store is only read -/
theorem C12_refine_cmp_list (L : StoreLaws S) (s0 : σ) {left right : Nat} {a b : List Nat}
    (hl : Decodes (S.view s0) left (.chars a)) (hr : Decodes (S.view s0) right (.chars b))
    (ha : a.length ≤ 2147483647) (hb : b.length ≤ 2147483647) (i j fuel : Nat)
    (hf : min a.length b.length + 1 ≤ fuel) :
    Model.Runtime.cmpList fo fuel left right (.int i) (.int j) S.charItem S.charLen s0
      = .ok (some (cmpListFrom a b i j), s0) :=
  cmpList_spec fo S.charItem S.charLen _ s0 (L.charIdx s0) left right a b (chars_of hl) (chars_of hr) ha hb i j
    fuel hf

/-- the same loop on byte lists -/
theorem C12_refine_cmp_list_bytes (L : StoreLaws S) (s0 : σ) {left right : Nat} {a b : List Nat}
    (hl : Decodes (S.view s0) left (.bytes a)) (hr : Decodes (S.view s0) right (.bytes b))
    (ha : a.length ≤ 2147483647) (hb : b.length ≤ 2147483647) (i j fuel : Nat)
    (hf : min a.length b.length + 1 ≤ fuel) :
    Model.Runtime.cmpList fo fuel left right (.int i) (.int j) S.byteItem S.byteLen s0
      = .ok (some (cmpListFrom a b i j), s0) :=
  cmpList_spec fo S.byteItem S.byteLen _ s0 (L.byteIdx s0) left right a b (bytes_of hl) (bytes_of hr) ha hb i j
    fuel hf

/-- without integer starts at 0, `cmp_list` is the natural order of Abs/Ops `cmpList` -/
theorem C12_cmpListFrom_zero (a b : List Nat) : cmpListFrom a b 0 0 = Abs.cmpList a b := cmpListFrom_zero a b

/-- `perform_comparison`: both operands popped, nothing else touched, and the `Option<Ordering>` is the one of
the value-level comparison (`foreign` ↦ the caller's `false_ord`, `unordered` ↦ `None`), or its error -/
theorem C12_refine_perform_comparison (L : StoreLaws S) (falseOrd : Ordering)
    {s : σ} {r l : Nat} {vr vl : Val F} {rest : List Nat}
    (hregs : S.regs s = r :: l :: rest) (hl : Decodes (S.view s) l vl) (hr : Decodes (S.view s) r vr)
    (ha : textLen vl ≤ 2147483647) (hb : textLen vr ≤ 2147483647) (fuel : Nat) (hf : cmpFuel vl vr ≤ fuel) :
    match compareValsR fo vl vr with
    | some (.ok c) => Popped S s (performComparison fo S fuel falseOrd s) (ordOf falseOrd c) rest
    | some (.error e) => performComparison fo S fuel falseOrd s = .err e
    | none => True := by
  have h := Core.performComparison_spec fo L.toK falseOrd hregs hl hr ha hb fuel hf trivial nofun
  cases hc : compareValsR fo vl vr with
  | none => trivial
  | some x =>
    rw [hc] at h
    cases x with
    | ok c => exact h.plain
    | error e => exact h

/-- a comparison handler: `perform_comparison(false_ord)` then `push_boolean(test(result))` / `push_unit`, for a
`test` that rejects `false_ord` -/
theorem C12_refine_handler (L : StoreLaws S) (test : Ordering → Bool) (falseOrd : Ordering)
    (htest : test falseOrd = false)
    {s : σ} {r l : Nat} {vr vl : Val F} {rest : List Nat}
    (hregs : S.regs s = r :: l :: rest) (hl : Decodes (S.view s) l vl) (hr : Decodes (S.view s) r vr)
    (ha : textLen vl ≤ 2147483647) (hb : textLen vr ≤ 2147483647) (fuel : Nat) (hf : cmpFuel vl vr ≤ fuel) :
    let handler : RM σ (Option Nat) := do pushComparison S test (← performComparison fo S fuel falseOrd)
    match compareValsR fo vl vr with
    | some (.ok c) => Pushed S s (handler s) none rest (cmpValOf test c)
    | some (.error e) => handler s = .err e
    | none => True := by
  intro handler
  have h := Core.comparisonHandler_spec fo L.toK test falseOrd htest hregs hl hr ha hb fuel hf trivial nofun
  cases hc : compareValsR fo vl vr with
  | none => trivial
  | some x =>
    rw [hc] at h
    cases x with
    | ok c => exact h.plain
    | error e => exact h

/-- the four handlers are that shape, with the tests and false-orderings of Abs/Ops `lessThan` … -/
theorem C12_refine_handlers (fuel : Nat) :
    Model.Runtime.lessThan fo S fuel
      = (do pushComparison S (fun o => o == .lt) (← performComparison fo S fuel .gt)) ∧
    Model.Runtime.lessThanOrEqual fo S fuel
      = (do pushComparison S (fun o => o != .gt) (← performComparison fo S fuel .gt)) ∧
    Model.Runtime.greaterThan fo S fuel
      = (do pushComparison S (fun o => o == .gt) (← performComparison fo S fuel .lt)) ∧
    Model.Runtime.greaterThanOrEqual fo S fuel
      = (do pushComparison S (fun o => o != .lt) (← performComparison fo S fuel .lt)) := ⟨rfl, rfl, rfl, rfl⟩

/-- `cmpValOf` of `compareVals` is Abs/Ops `cmpOp` -/
theorem C12_cmpValOf_compareVals (accept : Ordering → Bool) (vl vr : Val F) :
    cmpValOf accept (compareVals fo vl vr) = cmpOp fo accept vl vr := by
  unfold cmpOp cmpValOf
  cases compareVals fo vl vr <;> rfl

/-- where the code and Abs/Ops agree: everywhere except two slices of text / of bytes whose ranges `sliceStart`
rejects -/
theorem C12_compareValsR_agrees (vl vr : Val F)
    (h : ∀ lv lr rv rr, vl = .slice lv lr → vr = .slice rv rr →
      (lv.typeOf = .charList ∧ rv.typeOf = .charList) ∨ (lv.typeOf = .byteList ∧ rv.typeOf = .byteList) →
      (sliceStart lr).isSome ∧ (sliceStart rr).isSome) :
    compareValsR fo vl vr = some (.ok (compareVals fo vl vr)) := by
  have start_ok : ∀ (x : Val F) (i : Nat), sliceStart x = some i →
      rangeStartR fo x = .ok (.int i) ∧ (0 : Int) ≤ i := by
    intro x i hx
    unfold sliceStart at hx
    split at hx
    · rename_i sI eI
      split at hx
      · rename_i hc
        obtain ⟨h0, h1, h2⟩ := hc
        cases hx
        refine ⟨?_, by omega⟩
        simp only [rangeStartR, Lemmas.rangeLen_int fo sI eI h1 h2]
        congr 2; omega
      · cases hx
    · cases hx
  have key : ∀ (a b : List Nat) (lr rr : Val F) (i j : Nat), sliceStart lr = some i → sliceStart rr = some j →
      sliceGoR fo a b lr rr = some (.ok (.ord (cmpListFrom a b i j))) := by
    intro a b lr rr i j hi hj
    obtain ⟨r1, p1⟩ := start_ok lr i hi
    obtain ⟨r2, p2⟩ := start_ok rr j hj
    simp [sliceGoR, r1, r2, cmpFromR, p1, p2]
  unfold compareValsR
  split
  · rename_i lv lr rv rr
    have h' := h lv lr rv rr rfl rfl
    cases lv with
    | chars a =>
      cases rv with
      | chars b =>
        obtain ⟨h1, h2⟩ := h' (Or.inl ⟨rfl, rfl⟩)
        obtain ⟨i, hi⟩ := Option.isSome_iff_exists.mp h1
        obtain ⟨j, hj⟩ := Option.isSome_iff_exists.mp h2
        simp only [compareSlicesR, compareVals, compareSlices, key a b lr rr i j hi hj, hi, hj]
      | _ => rfl
    | bytes a =>
      cases rv with
      | bytes b =>
        obtain ⟨h1, h2⟩ := h' (Or.inr ⟨rfl, rfl⟩)
        obtain ⟨i, hi⟩ := Option.isSome_iff_exists.mp h1
        obtain ⟨j, hj⟩ := Option.isSome_iff_exists.mp h2
        simp only [compareSlicesR, compareVals, compareSlices, key a b lr rr i j hi hj, hi, hj]
      | _ => rfl
    | _ => rfl
  · rfl

/-- the refinement against Abs/Ops itself: wherever `compareValsR` agrees with `compareVals` (see
`C12_compareValsR_agrees`) the four handlers push exactly `Abs.lessThan` / … of the decoded operands -/
theorem C12_refine_less_than_abs (L : StoreLaws S)
    {s : σ} {r l : Nat} {vr vl : Val F} {rest : List Nat}
    (hregs : S.regs s = r :: l :: rest) (hl : Decodes (S.view s) l vl) (hr : Decodes (S.view s) r vr)
    (ha : textLen vl ≤ 2147483647) (hb : textLen vr ≤ 2147483647) (fuel : Nat) (hf : cmpFuel vl vr ≤ fuel)
    (hagree : compareValsR fo vl vr = some (.ok (compareVals fo vl vr))) :
    Pushed S s (Model.Runtime.lessThan fo S fuel s) none rest (Abs.lessThan fo vl vr) ∧
    Pushed S s (Model.Runtime.lessThanOrEqual fo S fuel s) none rest (Abs.lessThanOrEqual fo vl vr) ∧
    Pushed S s (Model.Runtime.greaterThan fo S fuel s) none rest (Abs.greaterThan fo vl vr) ∧
    Pushed S s (Model.Runtime.greaterThanOrEqual fo S fuel s) none rest (Abs.greaterThanOrEqual fo vl vr) := by
  have h1 := C12_refine_handler fo L (fun o => o == .lt) .gt rfl hregs hl hr ha hb fuel hf
  have h2 := C12_refine_handler fo L (fun o => o != .gt) .gt rfl hregs hl hr ha hb fuel hf
  have h3 := C12_refine_handler fo L (fun o => o == .gt) .lt rfl hregs hl hr ha hb fuel hf
  have h4 := C12_refine_handler fo L (fun o => o != .lt) .lt rfl hregs hl hr ha hb fuel hf
  simp only [hagree, C12_cmpValOf_compareVals] at h1 h2 h3 h4
  exact ⟨h1, h2, h3, h4⟩

/-! ### the disagreement with Abs/Ops, as theorems about the two value-level functions -/

/-- a slice of text whose range length overflows (`0..i32::MAX`): the code fails with the number error of
`range_len`; Abs/Ops `compareVals` says "not ordered" (all four operators false) -/
theorem C12_slice_range_overflow_disagrees :
    let a : Val F := .slice (.chars [97, 98, 99]) (.range (.num (.int 0)) (.num (.int 2147483647)))
    let b : Val F := .slice (.chars [97, 98, 99]) (.range (.num (.int 0)) (.num (.int 2)))
    compareValsR fo a b = some (.error .number) ∧ Abs.lessThan fo a b = .fls := by
  refine ⟨?_, ?_⟩
  · simp [compareValsR, compareSlicesR, sliceGoR, rangeStartR, Abs.rangeLen, Number.subtract, Number.doOp,
      Number.overflowingSub, Number.increment, Number.overflowingAdd, Lemmas.ovf_eq, InRange]
  · simp [Abs.lessThan, cmpOp, compareVals, compareSlices, sliceStart, InRange]

/-- a slice whose range has a unit end: the code fails with the state error "Invalid range values" of
`get_range`; Abs/Ops says "not ordered" -/
theorem C12_slice_range_unit_disagrees :
    let a : Val F := .slice (.chars [97, 98, 99]) (.range .unit (.num (.int 2)))
    let b : Val F := .slice (.chars [97, 98, 99]) (.range (.num (.int 0)) (.num (.int 2)))
    compareValsR fo a b = some (.error .state) ∧ Abs.lessThan fo a b = .fls := by
  refine ⟨?_, ?_⟩
  · simp [compareValsR, compareSlicesR, sliceGoR, rangeStartR]
  · simp [Abs.lessThan, cmpOp, compareVals, compareSlices, sliceStart]

/-! ### non-vacuity -/

/-- `0: "abd"   1: "abc"   2: 0   3: 2   4: 1   5: 0..2   6: 1..2   7: slice 0 (0..2)   8: slice 1 (1..2)` -/
def cmpCells : List (RCell F) :=
  [.chars [97, 98, 100], .chars [97, 98, 99], .num (.int 0), .num (.int 2), .num (.int 1), .range 2 3, .range 4 3,
   .slice 0 5, .slice 1 6]

/-- `"abd" < "abc"` on the reference store: hypotheses hold, the handler pushes Abs/Ops' answer -/
example : Pushed (refStore (fun _ => none)) (RefState.init (cmpCells (F := F)) [1, 0, 9])
    (Model.Runtime.lessThan fo (refStore (fun _ => none)) 4 (RefState.init cmpCells [1, 0, 9])) none [9]
    (Abs.lessThan fo (.chars [97, 98, 100]) (.chars [97, 98, 99])) :=
  (C12_refine_less_than_abs fo (refStore_laws _) (vl := .chars [97, 98, 100]) (vr := .chars [97, 98, 99]) rfl
    (.chars rfl rfl) (.chars rfl rfl) (by simp [textLen]) (by simp [textLen]) 4 (by simp [cmpFuel, textLen])
    (C12_compareValsR_agrees fo _ _ (by intro _ _ _ _ h; cases h))).1

/-- the model run: three loop rounds, `false` pushed (address 9) -/
example : ∃ s', Model.Runtime.lessThan fo (refStore (fun _ => none)) 4 (RefState.init (cmpCells (F := F)) [1, 0, 9])
    = .ok (none, s') ∧ s'.regs = [9, 9] ∧ s'.cells = cmpCells ++ [.fls] := ⟨_, rfl, rfl, rfl⟩

/-- too little fuel is reported as such, not as an answer -/
example : Model.Runtime.lessThan fo (refStore (fun _ => none)) 2 (RefState.init (cmpCells (F := F)) [1, 0, 9])
    = .fuelOut := rfl

/-- two slices: `"abd"[0..]` against `"abc"[1..]` compares `a` with `b` first: less -/
example : ∃ s', Model.Runtime.lessThan fo (refStore (fun _ => none)) 4 (RefState.init (cmpCells (F := F)) [8, 7, 9])
    = .ok (none, s') ∧ s'.regs = [9, 9] ∧ s'.cells = cmpCells ++ [.tru] := ⟨_, rfl, rfl, rfl⟩

end Garnish.Props.RuntimeRefine
