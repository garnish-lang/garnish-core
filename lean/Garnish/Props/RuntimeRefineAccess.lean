/-
Runtime refinement, part 3 (C17 / C16 / C08 anchors): resolve.rs, access.rs and the look-up functions of list.rs
(Model/Runtime/{Resolve,List,Concatenation}.lean) against Abs/Machine `resolveStep` and Abs/Ops `getAccess`,
`accessInt`, `accessSym`, `access`.

* `C17_refine_resolve(_no_input)`: the key is looked up in the current input value first; found ↦ pushed, host not
  asked; otherwise a symbol key is offered to the host exactly once with that symbol (`ResolveProtocol`,
  `C17_refine_resolve_once`), unit iff it declines; a non-symbol key gives unit without a host call.
* `C16_refine_get_access_addr` / `_access_with_integer` / `_access_with_symbol` / `_index_*`: the look-ups return
  the address of (or freshly add) exactly the item Abs/Ops names — lists keep their order, the first pair keyed by
  the symbol is found.
* `C08_refine_access`: the `access` handler refines Abs/Ops `access` (merge / look-up / defer protocol; a look-up
  that answers `UnsupportedOpTypes` is offered to the host like any undefined combination).

Domain (`AccessDomain`, Model/Runtime/Refines.lean): the looked-into value is not a slice (Abs/Ops does not model
look-ups in slices); its sequences — the flattened items of a concatenation included — are no longer than
`i32::MAX`; a number key is an INTEGER (the item getters' contract says nothing about fractional indexes, and on a
concatenation the code compares with the mixed `==`, see the recorded disagreement) and comparable with a range's
length (`RangeOrdered`: fails only for NaN). Look-ups into a concatenation run the register work-list
`iterate_concatenation_mut` (Props/RuntimeRefineConcat.lean): `accessFuel v ≤ fuel` is the fuel bound.
-/
import Garnish.Lemmas.RuntimeResolve
import Garnish.Lemmas.RuntimeRefStore
namespace Garnish.Props.RuntimeRefine
open Garnish Gen Garnish.Abs Garnish.Model.Equality Garnish.Model.Runtime Garnish.Lemmas.Runtime

variable {F σ : Type} {S : RStore F σ} (fo : FloatOps F)

/-- `resolve` with no input value: straight to the context -/
theorem C17_refine_resolve_no_input (L : StoreLaws S) (fuel : Nat) {s : σ} {data : Nat} {key : Val F}
    (hv : S.vals s = []) (hk : Decodes (S.view s) data key) :
    ResolveContext S s (Model.Runtime.resolve fo S fuel data s) none key := by
  exact (Core.resolve_no_input_spec fo L.toK fuel hv hk trivial).plain

/-- `resolve` (C17): the key is looked up in the current input value first (`get_access_addr`, Abs/Ops
`getAccess`). Found ↦ the value's address is pushed and the host is NOT asked. Not found, or the input value
cannot be looked into with this kind of key ↦ the context: a symbol key is offered to the host exactly once with
that symbol (`ResolveProtocol`), unit is pushed iff it declines; any other key gives unit without a host call.
Another error of the lookup is the instruction's error. -/
theorem C17_refine_resolve (L : StoreLaws S) (fuel : Nat) {s : σ} {data c : Nat} {vs : List Nat} {key cur : Val F}
    (hv : S.vals s = c :: vs) (hk : Decodes (S.view s) data key) (hc : Decodes (S.view s) c cur)
    (hd : AccessDomain cur) (hkey : ∀ n, key = .num n → (∃ i, n = .int i) ∧ RangeOrdered fo n cur)
    (hf : accessFuel cur ≤ fuel) :
    match getAccess fo key cur with
    | .some v => Pushed S s (Model.Runtime.resolve fo S fuel data s) none (S.regs s) v
    | .none => ResolveContext S s (Model.Runtime.resolve fo S fuel data s) none key
    | .unsupported => ResolveContext S s (Model.Runtime.resolve fo S fuel data s) none key
    | .err e => e ≠ .unsupported → Model.Runtime.resolve fo S fuel data s = .err e := by
  have h := Core.resolve_spec fo L.toK fuel hv hk
    (Core.getAccessAddr_spec fo L.toK fuel hk hc hd hkey hf nofun (.inr L.listSymOn) trivial nofun) (fun _ _ => nofun) trivial
  cases hga : getAccess fo key cur with
  | some v => rw [hga] at h; exact h.plain
  | none => rw [hga] at h; exact h.plain
  | unsupported => rw [hga] at h; exact h.plain
  | err e => rw [hga] at h; exact h

/-- "exactly once, with the symbol": after `resolve` has gone to the context with a symbol key the trace is the
old trace plus the one call `resolve sy` -/
theorem C17_refine_resolve_once (L : StoreLaws S) {α : Type} {s0 : σ} {res : Outcome (α × σ)} {next : α} {sy : Nat}
    (h : ResolveProtocol S s0 res next sy) {x : α} {s' : σ} (hres : res = .ok (x, s')) :
    S.trace s' = .resolve sy :: S.trace s0 :=
  hostProtocol_once (L.resolve sy) h hres

/-- and when the key is found in the input value the host trace is untouched -/
theorem C17_refine_resolve_found_no_call {s : σ} {res : Outcome (Option Nat × σ)} {v : Val F} {rest : List Nat}
    (h : Pushed S s res none rest v) : ∃ s', res = .ok (none, s') ∧ S.trace s' = S.trace s := by
  obtain ⟨_, s', h1, _, e⟩ := h
  exact ⟨s', h1, e.trace⟩

/-! ### list.rs -/

/-- `get_access_addr` refines Abs/Ops `getAccess` -/
theorem C16_refine_get_access_addr (L : StoreLaws S) (fuel : Nat) {s : σ} {ka a : Nat} {key v : Val F}
    (hk : Decodes (S.view s) ka key) (h : Decodes (S.view s) a v) (hd : AccessDomain v)
    (hkey : ∀ n, key = .num n → (∃ i, n = .int i) ∧ RangeOrdered fo n v) (hf : accessFuel v ≤ fuel) :
    AccOut S s (getAccessAddr fo S fuel ka a s) (getAccess fo key v) :=
  (Core.getAccessAddr_spec fo L.toK fuel hk h hd hkey hf nofun (.inr L.listSymOn) trivial nofun).plain

/-- `access_with_integer` refines Abs/Ops `accessInt` -/
theorem C16_refine_access_with_integer (L : StoreLaws S) (fuel : Nat) {s : σ} {a : Nat} {v : Val F} (i : Int)
    (h : Decodes (S.view s) a v) (hd : AccessDomain v) (hro : RangeOrdered fo (.int i) v)
    (hf : accessFuel v ≤ fuel) :
    AccOut S s (accessWithInteger fo S fuel (.int i) a s) (accessInt fo (.int i) v) :=
  (Core.accessWithInteger_spec fo L.toK fuel i h hd hro hf nofun trivial nofun).plain

/-- `access_with_symbol` refines Abs/Ops `accessSym`: the first item keyed by the symbol, or nothing -/
theorem C16_refine_access_with_symbol (L : StoreLaws S) (fuel : Nat) {s : σ} {a : Nat} {v : Val F} (sym : Nat)
    (h : Decodes (S.view s) a v) (hd : AccessDomain v) (hf : accessFuel v ≤ fuel) :
    AccOut S s (accessWithSymbol fo S fuel sym a s) (accessSym sym v) :=
  (Core.accessWithSymbol_spec fo L.toK fuel sym h hd hf nofun (.inr L.listSymOn) trivial nofun).plain

/-- `index_list`: the `i`-th item's own address (order kept), nothing outside `0..len` -/
theorem C16_refine_index_list (L : StoreLaws S) {s : σ} {a : Nat} {vs : List (Val F)} (i : Int)
    (h : Decodes (S.view s) a (.list vs)) (hlen : vs.length ≤ 2147483647) :
    AccOut S s (indexList fo S a (.int i) s) (accessInt fo (.int i) (.list vs)) :=
  (Core.indexList_spec fo L.toK i h hlen trivial).plain

/-- `index_char_list` / `index_byte_list` / `index_symbol_list`: a freshly added char / byte / symbol-or-number -/
theorem C16_refine_index_char_list (L : StoreLaws S) {s : σ} {a : Nat} {cs : List Nat} (i : Int)
    (h : Decodes (S.view s) a (.chars cs)) (hlen : cs.length ≤ 2147483647) :
    AccOut S s (indexCharList fo S a (.int i) s) (accessInt fo (.int i) (.chars cs)) :=
  (Core.indexCharList_spec fo L.toK i h hlen trivial).plain

theorem C16_refine_index_byte_list (L : StoreLaws S) {s : σ} {a : Nat} {cs : List Nat} (i : Int)
    (h : Decodes (S.view s) a (.bytes cs)) (hlen : cs.length ≤ 2147483647) :
    AccOut S s (indexByteList fo S a (.int i) s) (accessInt fo (.int i) (.bytes cs)) :=
  (Core.indexByteList_spec fo L.toK i h hlen trivial).plain

theorem C16_refine_index_symbol_list (L : StoreLaws S) {s : σ} {a : Nat} {ps : List (SymPart F)} (i : Int)
    (h : Decodes (S.view s) a (.symList ps)) (hlen : ps.length ≤ 2147483647) :
    AccOut S s (indexSymbolList fo S a (.int i) s) (accessInt fo (.int i) (.symList ps)) :=
  (Core.indexSymbolList_spec fo L.toK i h hlen trivial).plain

/-! ### access.rs -/

/-- the `access` handler refines Abs/Ops `access` -/
theorem C08_refine_access (L : StoreLaws S) (fuel : Nat) {s : σ} {r l : Nat} {vr vl : Val F} {rest : List Nat}
    (hregs : S.regs s = r :: l :: rest) (hl : Decodes (S.view s) l vl) (hr : Decodes (S.view s) r vr)
    (hd : accessArm vl.typeOf vr.typeOf = .get → AccessDomain vl ∧ accessFuel vl ≤ fuel ∧
      ∀ n, vr = .num n → (∃ i, n = .int i) ∧ RangeOrdered fo n vl) :
    RefinesOut S s (Model.Runtime.access fo S fuel s) none rest l r (Abs.access fo vl vr) :=
  (Core.access_spec fo L.toK fuel hregs hl hr hd (fun _ => ⟨nofun, .inr L.listSymOn, fun _ _ => nofun⟩) (fun _ => nofun)
    trivial nofun).plain

/-- outside the look-up arm (every pair that is not (pair|list|text|bytes|range|concatenation|slice) × (number|symbol))
no domain condition is needed -/
theorem C08_refine_access_undefined (L : StoreLaws S) (fuel : Nat) {s : σ} {r l : Nat} {vr vl : Val F}
    {rest : List Nat} (hregs : S.regs s = r :: l :: rest) (hl : Decodes (S.view s) l vl)
    (hr : Decodes (S.view s) r vr) (harm : accessArm vl.typeOf vr.typeOf ≠ .get) :
    RefinesOut S s (Model.Runtime.access fo S fuel s) none rest l r (Abs.access fo vl vr) :=
  (Core.access_spec fo L.toK fuel hregs hl hr (fun h => absurd h harm) (fun h => absurd h harm) (fun _ => nofun)
    trivial nofun).plain

/-! ### non-vacuity -/

/-- `0: :k (symbol 7)   1: 40   2: :k = 40   3: 50   4: [2, 3]   5: 1 (index)   6: :z (symbol 8)   7: "ab"` -/
def accCells : List (RCell F) :=
  [.sym 7, .num (.int 40), .pair 0 1, .num (.int 50), .list [2, 3], .num (.int 1), .sym 8, .chars [97, 98]]

def accList : Val F := .list [.pair (.sym 7) (.num (.int 40)), .num (.int 50)]

theorem accList_dec : Decodes (refView (accCells (F := F))) 4 accList :=
  .list rfl rfl (.cons (.pair rfl rfl (.sym rfl rfl) (.num rfl rfl)) (.cons (.num rfl rfl) .nil))

/-- `resolve :k` with the list as input value: the theorem applies (found: `40`, the host is not asked) … -/
example : Pushed (refStore (fun _ => none)) { RefState.init (accCells (F := F)) [9] with vals := [4] }
    (Model.Runtime.resolve fo (refStore (fun _ => none)) 5 0 { RefState.init accCells [9] with vals := [4] })
    none [9] (.num (.int 40)) := by
  have h := C17_refine_resolve fo (refStore_laws (fun _ => none)) 5
    (s := { RefState.init (accCells (F := F)) [9] with vals := [4] }) (data := 0) (key := .sym 7) rfl
    (.sym rfl rfl) accList_dec (by simp [accList, AccessDomain]) (by intro n h; cases h) (Nat.zero_le _)
  have e : getAccess fo (.sym 7) (accList (F := F)) = .some (.num (.int 40)) := by
    simp [getAccess, accessSym, accList, lookupSym]
  rw [e] at h; exact h

/-- … and the model run: the value's own address is pushed, no host call -/
example : ∃ s', Model.Runtime.resolve fo (refStore (fun _ => none)) 5 0
      { RefState.init (accCells (F := F)) [9] with vals := [4] } = .ok (none, s') ∧
    s'.regs = [1, 9] ∧ s'.trace = [] := ⟨_, rfl, rfl, rfl⟩

/-- `resolve :z`: not in the input value ↦ the host is asked once with symbol 8; it declines ↦ unit -/
example : ∃ s', Model.Runtime.resolve fo (refStore (fun _ => none)) 5 6
      { RefState.init (accCells (F := F)) [9] with vals := [4] } = .ok (none, s') ∧
    s'.regs = [8, 9] ∧ s'.cells = accCells ++ [.unit] ∧ s'.trace = [.resolve 8] := ⟨_, rfl, rfl, rfl, rfl⟩

/-- `[…] . 1` and `"ab" . :k` (undefined: offered to the host as `Access`) -/
example : ∃ s', Model.Runtime.access fo (refStore (fun _ => none)) 5 (RefState.init (accCells (F := F)) [5, 4, 9])
      = .ok (none, s') ∧ s'.regs = [3, 9] ∧ s'.trace = [] := ⟨_, rfl, rfl, rfl⟩
example : ∃ s', Model.Runtime.access fo (refStore (fun _ => none)) 5 (RefState.init (accCells (F := F)) [0, 7, 9])
      = .ok (none, s') ∧ s'.regs = [8, 9] ∧ s'.trace = [.defer .access (.charList, 7) (.symbol, 0)] :=
  ⟨_, rfl, rfl, rfl⟩

end Garnish.Props.RuntimeRefine
