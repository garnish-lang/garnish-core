/-
The call condition of `ReachK` (`hcalls` of `C01_runOKOn_full_of_balanced` / `C01_text_to_simple_store_balanced_full`)
DISCHARGED by a second machine invariant, the hereditary class of a leaf test (Lemmas/Her.lean, Lemmas/ExprsKnown.lean):
* `ExprsKnown P m`: every `Expression j` value occurring — hereditarily — in registers, input values and the registers
  saved by frames has its jump-table entry among `C06.exprEntries P`;
* `C01_step_exprsKnown`: kept by every step of Abs/Machine when the constants satisfy it (`C01_consts_exprsKnown`: leaf
  constants always do, by the definition of `exprEntries`) and the host never answers with an unknown `Expression`
  (`HostExprsKnown`) — no operation of Abs/Ops creates an `Expression`;
* `C01_hcalls_of_exprsKnown`: in a state a balanced program reaches, a step that pushes a frame is an `Apply` /
  `EmptyApply` that enters the body of its `Expression` operand: the new cursor is in `exprEntries P`;
* `C01_runOKOn_full_of_balanced_noHcalls`, `C01_text_to_simple_store_balanced_full_noHcalls`: the theorems without `hcalls` (the latter in namespace
  `Garnish.Props.C01TextStore`, with the text theorems of Props/C01TextStore*.lean).
-/
import Garnish.Lemmas.ExprsKnown
import Garnish.Props.C01TextStoreOnBalancedFull
namespace Garnish.Props.RuntimeRefine
open Garnish Gen Garnish.Abs Garnish.Model.Equality Garnish.Model.Runtime Garnish.Lemmas.Runtime
open Garnish.Lemmas.Runtime.On Garnish.Props.C06 Garnish.Lemmas.NoCustom Garnish.Lemmas.Her

variable {F σ : Type} {fo : FloatOps F} {host : Host F} {S : RStore F σ} {Inv : σ → Prop} {P : Prog F}

theorem C01_consts_exprsKnown (hleaf : ∀ (k : Nat) (v : Val F), P.consts[k]? = some v → leafV v = true) :
    ConstsHer (exprQ P) P := consts_exprsKnown hleaf

theorem C01_step_exprsKnown (HE : HostExprsKnown P host) (hce : ConstsHer (exprQ P) P) {s s' : MState F}
    (hs : ExprsKnown P s) (h : Abs.step fo host P s = .running s' ∨ Abs.step fo host P s = .halted s') :
    ExprsKnown P s' := step_exprsKnown HE hce hs h

-- the balance and reachability hypotheses are not needed: `calls_known` holds in every state
set_option linter.unusedVariables false in
theorem C01_hcalls_of_exprsKnown {entry : Nat} {d : Array (Option Nat)} (hbal : absDepth P entry = some d)
    (hentry : entry < P.instrs.size) (vals : List (Val F)) (tr : List (HostCall F)) {s s' : MState F}
    (hr : ReachK fo host P (entry :: exprEntries P) ⟨entry, [], vals, [], tr⟩ s) (hk : ExprsKnown P s)
    (hs : Abs.step fo host P s = .running s') (hgrow : s'.frames.length = s.frames.length + 1) :
    s'.pc ∈ entry :: exprEntries P := List.mem_cons_of_mem _ (calls_known hk hs hgrow)

theorem C01_runOKOn_full_of_balanced_noHcalls {entry : Nat} {d : Array (Option Nat)} (h : absDepth P entry = some d)
    (hentry : entry < P.instrs.size) (vals : List (Val F)) (tr : List (HostCall F)) (fuel : Nat)
    (HN : HostNoCustom host) (HE : HostExprsKnown P host) (hc : ConstsNC P) (hce : ConstsHer (exprQ P) P)
    (hv : ncL vals = true) (hve : herL (exprQ P) vals = true)
    (hdyn : ∀ s, ReachK fo host P (entry :: exprEntries P) ⟨entry, [], vals, [], tr⟩ s → ∀ i o,
      P.instrs[s.pc]? = some (i, o) → DynOK fo S Inv P fuel s i o)
    (n : Nat) : RunOKG fo (MachOKOn4 fo S Inv P fuel) host P n ⟨entry, [], vals, [], tr⟩ :=
  runOKOn4_of_balanced h hentry vals tr fuel HN hc hv hdyn
    (fun _ _ hr hst hg => List.mem_cons_of_mem _ (calls_known
      (exprsKnown_reach HE hce (s0 := ⟨entry, [], vals, [], tr⟩) ⟨rfl, hve, fun _ hf => by cases hf⟩ hr) hst hg)) n

end Garnish.Props.RuntimeRefine

namespace Garnish.Props.C01TextStore
open Garnish Garnish.Gen Garnish.Spec Garnish.Abs Garnish.Abs.Tree Garnish.Abs.Source Garnish.Model Garnish.Model.Parser
open Garnish.Model.Lexer Garnish.Model.Literals Garnish.Model.Build Garnish.Props.C01Build Garnish.Props.C01Source
open Garnish.Props.C02Numbered Garnish.Props.C01Text
open Garnish.Model.Equality Garnish.Model.Runtime Garnish.Lemmas.Runtime Garnish.Props.RuntimeRefine
open Garnish.Lemmas.Runtime.On Garnish.Lemmas.Runtime.Simple Garnish.Props.SourceProps Garnish.Lemmas.NoCustom
open Garnish.Lemmas.Her

variable {F : Type} (pf : List Char → Option F) (cc : CharClass)

theorem leafV_of_isLeafS {v : Val F} (h : isLeafS v = true) : leafV v = true := by
  cases v <;> first | rfl | (cases h; done)

/-- the text theorem on `SimpleGarnishData`, whole instruction set, WITHOUT the call hypothesis -/
theorem C01_text_to_simple_store_balanced_full_noHcalls {hit : List (SimCell F) → SimCell F → Option Nat}
    (hs : HitSound hit) (hh : SimHost F) (fo : FloatOps F) (host : Host F)
    (HR : HostRefinesI (simpleRStore hit hh) SInv host) (HN : HostNoCustom host)
    (HE : HostExprsKnown (compile p) host) (loopFuel : Nat) (cast : RM (SimState F) (Option Nat)) (s : List Char)
    (toks : List LexerToken) (hlex : lex cc s = .ok toks) (hf : frag9' (toP toks) = true) (rt : RTree)
    (href : refParse Table.gen (toP toks) = .ok rt) (hel : elaborate pf (toP toks) rt = some p)
    (hwf : C01.WFProgram p) (hbal : balancedB p = true) (input : Val F) (fuel : Nat) (v : Val F) (st : St F)
    (h : evalProgram fo host fuel p input = .ok (v, st))
    (hentry : (compile p).jumps[0]?.getD 0 < (compile p).instrs.size)
    (hleaf : (compile p).consts.toList.all isLeafS = true) (hin : isLeafS input = true)
    (hc : ConstsNC (compile p)) (hinc : nc input = true) (hine : her (exprQ (compile p)) input = true)
    (hdyn : ∀ m, C06.ReachK fo host (compile p) ((compile p).jumps[0]?.getD 0 :: C06.exprEntries (compile p))
      ⟨(compile p).jumps[0]?.getD 0, [], [input], [], []⟩ m → ∀ i o, (compile p).instrs[m.pc]? = some (i, o) →
      DynOK fo (simpleRStore hit hh) SInv (compile p) loopFuel m i o) :
    ∃ d n, buildText pf cc s = .ok (d, 0) ∧ progOf d = compile p ∧
      ∃ s' a, executeLoop fo (simpleRStore hit hh) loopFuel (fullHandlers fo (simpleRStore hit hh) loopFuel cast) n
          (loadSimple (reloc (progOf d)) ((progOf d).jumps[0]?.getD 0) input) = .ok ((.end_, n), s') ∧
        s'.values = [a] ∧ Decodes (simView s'.cells) a v ∧ (simpleRStore hit hh).regs s' = [] ∧
        (simpleRStore hit hh).frames s' = [] ∧ SInv s' := by
  have hce : ConstsHer (exprQ (compile p)) (compile p) := consts_exprsKnown (fun k c hk =>
    leafV_of_isLeafS ((List.all_eq_true.mp hleaf) c (List.mem_of_getElem? (by simpa using hk))))
  have HEs : HostExprsKnown (compile p) host := HE
  refine C01_text_to_simple_store_balanced_full pf cc hs hh fo host HR HN loopFuel cast s toks hlex hf rt href p hel hwf
    hbal input fuel v st h hentry hleaf hin hc hinc hdyn (fun m m' hr hst hg => List.mem_cons_of_mem _ (calls_known ?_ hst hg))
  exact exprsKnown_reach HEs hce (s0 := ⟨_, [], [input], [], []⟩) ⟨rfl, by simp [herL, hine], fun _ hf => by cases hf⟩ hr

end Garnish.Props.C01TextStore
