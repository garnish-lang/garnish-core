/-
C04, builder half — evaluation order: non-vacuity.  Four concrete node vectors (an else-chain, a `;` sequence, a value with a
side-effect block, a nested body): the build succeeds (`decide`), and the order theorems of Props/C04Order.lean /
Props/C04Eval.lean apply to them.
-/
import Garnish.Props.C04Eval
namespace Garnish.Props.C04Order
open Garnish Garnish.Gen Garnish.Model.Parser Garnish.Model.Build Garnish.Lemmas.Build
open Garnish.Lemmas.BuildSeq

/-- the metadata of a build into the empty state -/
def metaOf (fuel root : Nat) (t : Array ParseNode) : List (Option Nat) :=
  match build (F := Unit) (fun _ => none) fuel root t BState.empty with
  | .ok (d', _) => d'.metadata.toList
  | _ => []

def num (p l r : Option Nat) (s : Char) (i : Nat) : ParseNode := ⟨.number, .value, p, l, r, ⟨[s], .number, 0, i⟩⟩

/-- `1 ?> 2 |> 3 !> 4`: ElseJump(JumpIfTrue(1, 2), JumpIfFalse(3, 4)), root 3 -/
def exElse : Array ParseNode := #[
  num (some 1) none none '1' 0,
  ⟨.jumpIfTrue, .binaryLeftToRight, some 3, some 0, some 2, ⟨['?', '>'], .jumpIfTrue, 0, 1⟩⟩,
  num (some 1) none none '2' 2,
  ⟨.elseJump, .binaryLeftToRight, none, some 1, some 5, ⟨['|', '>'], .elseJump, 0, 3⟩⟩,
  num (some 5) none none '3' 4,
  ⟨.jumpIfFalse, .binaryLeftToRight, some 3, some 4, some 6, ⟨['!', '>'], .jumpIfFalse, 0, 5⟩⟩,
  num (some 5) none none '4' 6]

theorem exElse_meta : metaOf (defaultFuel 7) 3 exElse = [some 0, some 1, some 4, some 5, none, some 6, none, some 2, none] := by
  decide

/-- tests in source order (0, 1; 4, 5), then the root's terminator, then the arms out of line — last scheduled first -/
example : metaOf (defaultFuel 7) 3 exElse = [some 0, some 1, some 4, some 5, none, some 6, none, some 2, none] := exElse_meta

/-- the first arm's test (node 1, with its operand 0) precedes the second arm's test (5, with 4) -/
example (d' : BState Unit) (entry : Nat)
    (h : build (fun _ => none) (defaultFuel 7) 3 exElse BState.empty = .ok (d', entry))
    (k0 k5 : Nat) (h0 : d'.metadata[k0]? = some (some 0)) (h5 : d'.metadata[k5]? = some (some 5)) : k0 < k5 :=
  C04_children_in_order ⟨⟨entry, h⟩, Nat.zero_le _, Nat.zero_le _, h0, h5⟩ 3 1 5 _ rfl (Or.inl (Sub.refl 3)) rfl rfl (Or.inl rfl)
    (IDesc.step (IDesc.refl 1) ⟨_, (rfl : exElse[1]? = some _), Or.inl ⟨rfl, rfl⟩⟩) (IDesc.refl 5)

/-- the arm `2` is out of line: everything of the main line (here the second test, node 5) precedes it -/
example (d' : BState Unit) (entry : Nat)
    (h : build (fun _ => none) (defaultFuel 7) 3 exElse BState.empty = .ok (d', entry))
    (k5 k2 : Nat) (h5 : d'.metadata[k5]? = some (some 5)) (h2 : d'.metadata[k2]? = some (some 2)) : k5 < k2 :=
  C04_out_of_line_after_root ⟨⟨entry, h⟩, Nat.zero_le _, Nat.zero_le _, h5, h2⟩ 3 1 2 _ (Or.inl (Sub.refl 3))
    (IDesc.step (IDesc.refl 3) ⟨_, (rfl : exElse[3]? = some _), Or.inl ⟨rfl, rfl⟩⟩) rfl rfl rfl
    (IDesc.step (IDesc.refl 3) ⟨_, (rfl : exElse[3]? = some _), Or.inr ⟨rfl, rfl⟩⟩) (Sub.refl 2)

/-- `1 ; 2` -/
def exSeq : Array ParseNode := #[
  num (some 1) none none '1' 0,
  ⟨.expressionSeparator, .binaryLeftToRight, none, some 0, some 2, ⟨[';'], .expressionSeparator, 0, 1⟩⟩,
  num (some 1) none none '2' 2]

example : metaOf (defaultFuel 3) 1 exSeq = [some 0, some 1, some 2, none] := by decide

/-- left statement, `UpdateValue`, right statement (`C04_sibling_order_rest`) -/
example (d' : BState Unit) (entry : Nat)
    (h : build (fun _ => none) (defaultFuel 3) 1 exSeq BState.empty = .ok (d', entry))
    (kl kr kp : Nat) (hl : d'.metadata[kl]? = some (some 0)) (hr : d'.metadata[kr]? = some (some 2))
    (hp : d'.metadata[kp]? = some (some 1)) : kl < kr ∧ kl < kp ∧ kp < kr := by
  have := C04_sibling_order_rest Unit (fun _ => none) _ 1 exSeq BState.empty d' entry h 1 0 2 _ true rfl rfl rfl
    (Or.inr (Or.inl ⟨Or.inr rfl, rfl⟩)) kl kr kp (Nat.zero_le _) (Nat.zero_le _) (Nat.zero_le _) hl hr hp
  simpa using this

/-- `[ 1 ] 5`: the value 5 (root, node 2) with a side-effect block (node 0, body 1) on its left -/
def exBlock : Array ParseNode := #[
  ⟨.sideEffect, .startSideEffect, some 2, none, some 1, ⟨['['], .startSideEffect, 0, 0⟩⟩,
  num (some 0) none none '1' 1,
  num none (some 0) none '5' 2]

example : metaOf (defaultFuel 3) 2 exBlock = [some 0, some 1, some 0, some 2, none] := by decide

/-- the block (with its body) precedes the value it is written in front of -/
example (d' : BState Unit) (entry : Nat)
    (h : build (fun _ => none) (defaultFuel 3) 2 exBlock BState.empty = .ok (d', entry))
    (k1 k2 : Nat) (h1 : d'.metadata[k1]? = some (some 1)) (h2 : d'.metadata[k2]? = some (some 2)) : k1 < k2 :=
  C04_child_before_node ⟨⟨entry, h⟩, Nat.zero_le _, Nat.zero_le _, h1, h2⟩ 0 _ rfl (Or.inl (Sub.refl 2)) (Or.inl ⟨rfl, rfl⟩)
    (by decide) (IDesc.step (IDesc.refl 0) ⟨_, (rfl : exBlock[0]? = some _), Or.inr ⟨rfl, rfl⟩⟩)

/-- the body lies between `StartSideEffect` and `EndSideEffect` -/
example (d' : BState Unit) (entry : Nat)
    (h : build (fun _ => none) (defaultFuel 3) 2 exBlock BState.empty = .ok (d', entry))
    (k1 : Nat) (h1 : d'.metadata[k1]? = some (some 1)) :
    (∃ k, k < k1 ∧ d'.metadata[k]? = some (some 0)) ∧ (∃ k, k1 < k ∧ d'.metadata[k]? = some (some 0)) := by
  obtain ⟨⟨ka, _, h2, h3⟩, hb⟩ := C04_side_effect_brackets (fun _ => none) _ 2 exBlock BState.empty d' entry h 0 1 1 k1 _ rfl
    (Or.inr ⟨_, rfl, by decide⟩) rfl rfl (IDesc.refl 1) (Nat.zero_le _) h1
  exact ⟨⟨ka, h2, h3⟩, hb⟩

/-- `{ 5 }`: a nested expression (root, node 0) with the body 1 -/
def exNested : Array ParseNode := #[
  ⟨.nestedExpression, .startGrouping, none, none, some 1, ⟨['{'], .startExpression, 0, 0⟩⟩,
  num (some 0) none none '5' 1]

example : metaOf (defaultFuel 2) 0 exNested = [some 0, none, some 1, none] := by decide

/-- the body is a separate root, after the root that contains the `Put` of the nested expression -/
example (d' : BState Unit) (entry : Nat)
    (h : build (fun _ => none) (defaultFuel 2) 0 exNested BState.empty = .ok (d', entry))
    (k0 k1 : Nat) (h0 : d'.metadata[k0]? = some (some 0)) (h1 : d'.metadata[k1]? = some (some 1)) : k0 < k1 :=
  C04_evaluation_order (fun _ => none) _ 0 exNested BState.empty d' entry h 0 1
    (EmitBefore.outOfLine 0 0 1 _ (Or.inl (Sub.refl 0)) (IDesc.refl 0) rfl rfl rfl (IDesc.refl 0) (Sub.refl 1))
    k0 k1 (Nat.zero_le _) (Nat.zero_le _) h0 h1

end Garnish.Props.C04Order
