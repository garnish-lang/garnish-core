/-
C19, "nothing stale after `optimize`": after a compaction no cell of the data block, no stack head and no symbol-name
entry holds an address that refers to a dropped location, and every kind of root — register stack, input-value stack,
FRAME chain (the cells `push_frame` writes at a call), extra roots, symbol names — has been re-pointed to the copy of
what it referred to.

Three groups of statements, all corollaries of theorems that exist:
* STRUCTURE (`optimize_no_dangling`, from `optimize_wfq`, Lemmas/MutOptimize.lean — hence on every `BInv` / `BInvL`
  state, in-place updates of the input value included): in the compacted block every link of every readable cell
  — `Register`, `RegisterRoot`, `Value`, `ValueRoot`, `Frame`, `FrameIndex`, `FrameRegister`, pairs, lists with their key
  tables, … — is a readable address BELOW THE NEW CURSOR; a frame cell has its return point in front of it; every link of
  a cell that is not an input-value cell leads downwards; the three heads, the returned roots and the symbol-name entries
  are readable addresses.  A location dropped by the compaction lies at or above the new cursor, so nothing refers to it.
  Side condition `NoStale` (decidable `noStale`; automatic on stores without in-place updates, `noStale_of_wf`): a
  retained input-value cell that refers behind the retention count is on the current chain — a popped cell that was
  updated in place is garbage the compaction never reads, and keeps its old address.
* KIND (`optimize_repoints_kinds`, Lemmas/MutTyping.lean): the register head and the `previous` link of every
  register cell lead to register cells, the frame head and the `previous` link of every (readable) frame cell lead to
  frame cells, the registers a frame saved are register cells — after the compaction as before it (the copies carry the
  labels of their originals, the heads are looked up in the map of the copies).  With `optimize_wfq`:
  `optimize_keeps_binv_shape` — from a `BInv` state the compacted store is `WFq` and `ChainTyped`.  This is NOT `BInv` again:
  `BInv` types the links of every frame cell, `ChainTyped` those of readable ones only, and `Fits` (room for the next push)
  is not addressed; no theorem says that the store interface goes on after a compaction.
* MEANING, per root kind (`optimize_repoints_registers` / `_values` / `_frames` / `_roots` / `_symbols`, from
  `C19_optimize_preserves`; `…_inplace` versions from `C19_optimize_preserves_inplace`): what each root reads back —
  the whole unfolding, for a frame: its return point, the registers it saved and the frames below it — is the same
  before and after, for every fuel.  A root that was not re-pointed, or re-pointed to the wrong copy, reads back
  differently: the frame-chain clause is the one the seeded changes C01-h / C06-h violate.
-/
import Garnish.Props.C19StoreOnL
import Garnish.Props.C19
import Garnish.Lemmas.MutOptimize
import Garnish.Props.C07Reach
import Garnish.Lemmas.MutTyping
namespace Garnish.Props.C19NoStale
open Garnish Garnish.BasicOpt Garnish.Props.C19 Garnish.Model.Runtime.Basic Garnish.Lemmas.Runtime.Basic

/-- no address stored anywhere refers outside the readable cells of the block -/
structure NoDangling (s : Store) : Prop where
  register : ∀ a, s.currentRegister = some a → a < s.cells.size ∧ isNode s.cells a = true
  value : ∀ a, s.currentValue = some a → a < s.cells.size ∧ svAt s.cells a = true
  frame : ∀ a, s.currentFrame = some a → a < s.cells.size ∧ isNode s.cells a = true
  /-- every link of every readable cell is a readable address below the cursor -/
  links : ∀ i sh, shape s.cells i = some sh → ∀ k ∈ sh.kids, k < s.cells.size ∧ isNode s.cells k = true
  /-- links of cells other than input-value cells lead downwards -/
  down : ∀ i sh, shape s.cells i = some sh → svAt s.cells i = false → ∀ k ∈ sh.kids, k < i
  symbols : ∀ c ∈ s.symtab.toList, ∃ sym d, c = .associativeItem sym d ∧ d < s.cells.size ∧ isNode s.cells d = true

theorem noDangling_of_wfq {s : Store} (h : WFq s) : NoDangling s where
  register := fun a ha => by have := h.reg; rw [ha] at this; exact ⟨node_lt this, this⟩
  value := fun a ha => by have := h.val; rw [ha] at this; exact ⟨svAt_lt this, this⟩
  frame := fun a ha => by have := h.frm; rw [ha] at this; exact ⟨node_lt this, this⟩
  links := fun i sh hsh k hk => ⟨node_lt (h.kid_node hsh hk), h.kid_node hsh hk⟩
  down := fun i sh hsh hns k hk => h.kid_lt hsh hns hk
  symbols := fun c hc => by
    have := h.syms c hc
    cases c <;> simp only [symOK] at this <;> try (cases this; done)
    exact ⟨_, _, rfl, node_lt this, this⟩

/-- what `NoDangling` says about a frame cell: both links readable and below it, return point in front -/
theorem NoDangling.frameCell {s : Store} (h : NoDangling s) {i p r : Nat}
    (hc : s.cells[i]? = some (Cell.frame p r)) (hn : isNode s.cells i = true) :
    p < i ∧ r < i ∧ isNode s.cells p = true ∧ isNode s.cells r = true ∧
      ∃ k ret, i = k + 1 ∧ s.cells[k]? = some (Cell.jumpPoint ret) := by
  obtain ⟨sh, hsh⟩ := node_shape hn
  have hsh' := hsh
  unfold shape at hsh'
  rw [hc] at hsh'
  simp only [Option.map_eq_some_iff] at hsh'
  obtain ⟨jp, _, rfl⟩ := hsh'
  have hns : svAt s.cells i = false := by simp [svAt, hc, isSV]
  refine ⟨h.down i _ hsh hns p (by simp), h.down i _ hsh hns r (by simp), (h.links i _ hsh p (by simp)).2,
    (h.links i _ hsh r (by simp)).2, ?_⟩
  exact frame_point (by simp [isFrameCell, hc]) hn

/-- **optimize_no_dangling**: the compacted block refers to nothing that was dropped -/
theorem optimize_no_dangling {s s' : Store} {roots m : List Nat} (hwf : WFq s) (hroots : rootsOK s roots = true)
    (hns : NoStale s) (h : Store.optimize s roots = .ok (s', m)) :
    NoDangling s' ∧ ∀ r ∈ m, r < s'.cells.size ∧ isNode s'.cells r = true := by
  obtain ⟨hw, hr⟩ := optimize_wfq hwf hroots hns h
  refine ⟨noDangling_of_wfq hw, ?_⟩
  intro r hrm
  simp only [rootsOK, List.all_eq_true] at hr
  exact ⟨node_lt (hr r hrm), hr r hrm⟩

/-- on the states of the store interface -/
theorem optimize_no_dangling_binv {st : BState} {s' : Store} {roots m : List Nat} (hinv : BInv st)
    (hroots : rootsOK st.store roots = true) (hns : noStale st.store = true)
    (h : Store.optimize st.store roots = .ok (s', m)) :
    NoDangling s' ∧ ∀ r ∈ m, r < s'.cells.size ∧ isNode s'.cells r = true :=
  optimize_no_dangling hinv.wfq hroots (noStale_sound hns) h

/-- **optimize_repoints_kinds**: every chain root and chain link is re-pointed to a cell of its own kind -/
theorem optimize_repoints_kinds {s s' : Store} {roots m : List Nat} (hwf : WFq s) (hroots : rootsOK s roots = true)
    (hns : NoStale s) (hty : ChainTyped s) (h : Store.optimize s roots = .ok (s', m)) : ChainTyped s' :=
  optimize_chainTyped hwf hroots hns hty h

/-- on the states of the store interface: after `optimize` the store is `WFq` again, its chains are typed, nothing
dangles, the returned roots are readable -/
theorem optimize_keeps_binv_shape {st : BState} {s' : Store} {roots m : List Nat} (hinv : BInv st)
    (hroots : rootsOK st.store roots = true) (hns : noStale st.store = true)
    (h : Store.optimize st.store roots = .ok (s', m)) :
    WFq s' ∧ ChainTyped s' ∧ NoDangling s' ∧ rootsOK s' m = true := by
  obtain ⟨hw, hr⟩ := optimize_wfq hinv.wfq hroots (noStale_sound hns) h
  exact ⟨hw, optimize_chainTyped hinv.wfq hroots (noStale_sound hns) (chainTyped_of_binv hinv) h,
    noDangling_of_wfq hw, hr⟩

/-! ### every kind of root reads back the same -/

section meaning
variable {s s' : Store} {roots m : List Nat} (hwf : WF s) (hroots : rootsOK s roots = true)
  (h : Store.optimize s roots = .ok (s', m))
include hwf hroots h

theorem optimize_repoints_registers :
    ∀ fuel, decodeStack s.cells fuel s.currentRegister = decodeStack s'.cells fuel s'.currentRegister :=
  (C19_optimize_preserves hwf hroots h).registers

theorem optimize_repoints_values :
    ∀ fuel, decodeStack s.cells fuel s.currentValue = decodeStack s'.cells fuel s'.currentValue :=
  (C19_optimize_preserves hwf hroots h).values

/-- the frame chain: every frame cell pushed by a call, its return point, the registers it saved, the frames below -/
theorem optimize_repoints_frames :
    ∀ fuel, decodeStack s.cells fuel s.currentFrame = decodeStack s'.cells fuel s'.currentFrame :=
  (C19_optimize_preserves hwf hroots h).frames

theorem optimize_repoints_roots : m.length = roots.length ∧ ∀ (k r : Nat), roots[k]? = some r →
    ∃ r', m[k]? = some r' ∧ ∀ fuel, unfold s.cells fuel r = unfold s'.cells fuel r' :=
  ⟨(C19_optimize_preserves hwf hroots h).rootsLen, (C19_optimize_preserves hwf hroots h).roots⟩

theorem optimize_repoints_symbols : ∀ (j sym di : Nat), s.symtab[j]? = some (.associativeItem sym di) →
    ∃ di', s'.symtab[j]? = some (.associativeItem sym di') ∧ ∀ fuel, unfold s.cells fuel di = unfold s'.cells fuel di' :=
  (C19_optimize_preserves hwf hroots h).symbols

/-- and nothing dangles (stores without in-place updates need no side condition) -/
theorem optimize_no_dangling_wf :
    (∀ i sh, shape s'.cells i = some sh → ∀ k ∈ sh.kids, k < i ∧ isNode s'.cells k = true) ∧
    headOK s'.cells s'.currentRegister = true ∧ headOK s'.cells s'.currentValue = true ∧
    headOK s'.cells s'.currentFrame = true ∧ rootsOK s' m = true := by
  obtain ⟨hw, hr⟩ := optimize_wf hwf hroots h
  refine ⟨?_, hw.reg, hw.val, hw.frm, hr⟩
  intro i sh hsh k hk
  have := hw.nodes i (shape_bound hsh)
  simp only [nodeOK, hsh, List.all_eq_true, Bool.and_eq_true, decide_eq_true_eq] at this
  exact this k hk

end meaning

/-- with in-place updates of the input value (`WFv`): the frame chain again -/
theorem optimize_repoints_frames_inplace {s s' : Store} {roots m : List Nat} (hwf : WFv s)
    (hroots : rootsOKv s roots = true) (h : Store.optimize s roots = .ok (s', m)) :
    ∀ fuel, decodeStack s.cells fuel s.currentFrame = decodeStack s'.cells fuel s'.currentFrame :=
  (C19_optimize_preserves_inplace hwf hroots h).frames

/-! ### non-vacuity: a frame on the stack, a garbage cell below it -/

open Garnish.Props.C07Reach in
/-- `1`, a cell that becomes garbage, a register holding `1`, a call frame returning to `7` (cells: return point at 3,
`FrameRegister(2)` at 4), compaction -/
def exFrameOps : List Garnish.Props.C07Reach.Op :=
  [.addValue (.number 1), .addValue (.number 5), .pushRegister 0, .pushFrame 7, .optimize []]

/-- the store `exFrameOps` builds, written out (the kernel runs the sequence once) -/
def exFrameRun : Store :=
  { Store.fresh with
    cells := #[.number 1, .registerRoot 0, .jumpPoint 7, .frameRegister 1]
    size := 20, custom := ⟨60, 0, 10⟩, currentRegister := some 1, currentFrame := some 3 }

open Garnish.Props.C07Reach in
theorem exFrameOps_run : run exFrameOps Store.fresh = .ok exFrameRun := by
  rw [run_eq]; exact ok_of_check (sameStore · exFrameRun) (fun _ => sameStore_eq) (by decide +kernel)

open Garnish.Props.C07Reach in
/-- the compaction drops the garbage cell: the register moves 2 ↦ 1, the frame cell 4 ↦ 3 and its saved-register link is
re-pointed 2 ↦ 1, the frame head is re-pointed 4 ↦ 3, and the interface reads the same frame `(7, [0])` -/
example : (match run (exFrameOps.take 4) Store.fresh, run exFrameOps Store.fresh with
    | .ok s, .ok s' =>
      decide (s.currentFrame = some 4 ∧ s.cells[4]? = some (.frameRegister 2) ∧ s.cells.size = 5) &&
      decide (s'.currentFrame = some 3 ∧ s'.cells[3]? = some (.frameRegister 1) ∧ s'.cells[2]? = some (.jumpPoint 7) ∧
        s'.cells[1]? = some (.registerRoot 0) ∧ s'.currentRegister = some 1 ∧ s'.cells.size = 4) &&
      decide (framesOf s.cells s.currentFrame = [(7, [0])] ∧ framesOf s'.cells s'.currentFrame = [(7, [0])])
    | _, _ => false) = true := by rw [exFrameOps_run, run_eq]; decide +kernel

open Garnish.Props.C07Reach in
/-- the theorems apply to it: the store before the compaction is reachable, hence `WF` -/
example : ∀ s s' m, run (exFrameOps.take 4) Store.fresh = .ok s → Store.optimize s [] = .ok (s', m) →
    (∀ fuel, decodeStack s.cells fuel s.currentFrame = decodeStack s'.cells fuel s'.currentFrame) ∧
    headOK s'.cells s'.currentFrame = true :=
  fun s s' m hrun hopt =>
    have hwf := WF_reachable (run_reachable _ .init hrun)
    ⟨optimize_repoints_frames hwf rfl hopt, (optimize_no_dangling_wf hwf rfl hopt).2.2.2.1⟩

open Garnish.Props.C07Reach in
/-- after the compaction of the example the frame head is a frame cell and the register it saved a register cell
(checked by evaluation; `optimize_repoints_kinds` says so for every store) -/
example : (match run exFrameOps Store.fresh with
    | .ok s' => (match s'.currentFrame with
        | some f => isFrameCell s'.cells f && (match s'.cells[f]? with
            | some (.frameRegister r) => isRegCell s'.cells r
            | _ => false)
        | none => false)
    | _ => false) = true := by rw [exFrameOps_run]; decide

end Garnish.Props.C19NoStale
