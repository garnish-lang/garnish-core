/-
C01 over `StoreLawsOnL` (Lemmas/RuntimeOnL2.lean): one step and the run, and the run on BasicGarnishData for
programs of covered instructions and `MakeList` (the latter from the list law `ListPopLawOn`, a hypothesis on Basic).
-/
import Garnish.Props.C01RefineBasic
set_option linter.unusedVariables false
namespace Garnish.Props.RuntimeRefine
open Garnish Gen Garnish.Abs Garnish.Model.Equality Garnish.Model.Runtime Garnish.Model.Runtime.Basic
open Garnish.Lemmas.Runtime Garnish.Lemmas.Runtime.On Garnish.Lemmas.Runtime.OnL
open Garnish.Props.C19StoreOn Garnish.Props.C19ListOn

variable {F σ : Type} {S : RStore F σ} {Inv : σ → Prop} {Rd : σ → Nat → Prop} {P : Prog F} {host : Host F}
  (fo : FloatOps F)

/-- ONE STEP over `StoreLawsOnL` -/
theorem C01_refine_step_onL (C : StoreLawsOnL S Inv Rd) (HR : HostRefinesI S Inv host) (fuel : Nat)
    (cast : RM σ (Option Nat)) {s : σ} {m : MState F} (hsim : Sim S P s m) (hi : Inv s) (hl : Loaded S P s)
    {instr : Instruction} {operand : Option Nat} (hfetch : P.instrs[m.pc]? = some (instr, operand))
    (hok : MachOKOnL fo S Inv P fuel m instr operand) :
    StepSimOn fo host S Inv P fuel (fullHandlers fo S fuel cast) s m := by
  obtain ⟨hcov, hok⟩ := hok
  by_cases hml : instr = .makeList
  · subst hml
    exact refine_step_makeListL fo C.noList C.listPop fuel _ hsim hi hfetch hok
  · obtain ⟨X, Y, L₂⟩ := C.shadow
    exact refine_step_on_shadow fo L₂ HR fuel cast hsim hi hl hfetch (hcov.resolve_right hml) hok

/-- MULTI-STEP over `StoreLawsOnL` -/
theorem C01_refine_run_onL (C : StoreLawsOnL S Inv Rd) (HR : HostRefinesI S Inv host) (fuel : Nat)
    (cast : RM σ (Option Nat)) (n : Nat) {s : σ} {m : MState F} (hsim : Sim S P s m) (hi : Inv s)
    (hl : Loaded S P s) (hok : RunOKG fo (MachOKOnL fo S Inv P fuel) host P n m) {m' : MState F} {k : Nat}
    (hrun : Abs.run fo host P n m = (.halted m', k)) :
    ∃ s', executeLoop fo S fuel (fullHandlers fo S fuel cast) n s = .ok ((.end_, k), s') ∧
      SimD S P s' m'.regs m'.vals m'.frames ∧ DecKept S s s' ∧ Inv s' :=
  executeLoop_spec_gen fo (MachOKOnL fo S Inv P fuel) fuel _
    (fun _ _ _ _ hs hi hl hf hk => C01_refine_step_onL fo C HR fuel cast hs hi hl hf hk) n s m hsim hi hl hok m' k
    hrun

/-- the run on BasicGarnishData -/
theorem C01_refine_run_on_basic (nc : NumCode F) (LP : ListPopLawOn (basicRStore nc) BInvL)
    (HR : HostRefinesI (basicRStore nc) BInvL host) (fuel : Nat) (cast : RM BState (Option Nat)) (n : Nat)
    {s : BState} {m : MState F} (hsim : Sim (basicRStore nc) P s m) (hi : BInvL s)
    (hl : Loaded (basicRStore nc) P s)
    (hok : RunOKG fo (MachOKOnL fo (basicRStore nc) BInvL P fuel) host P n m) {m' : MState F} {k : Nat}
    (hrun : Abs.run fo host P n m = (.halted m', k)) :
    ∃ s', executeLoop fo (basicRStore nc) fuel (fullHandlers fo (basicRStore nc) fuel cast) n s = .ok ((.end_, k), s') ∧
      SimD (basicRStore nc) P s' m'.regs m'.vals m'.frames ∧ DecKept (basicRStore nc) s s' ∧ BInvL s' :=
  C01_refine_run_onL fo (basic_storeLawsOnL nc LP) HR fuel cast n hsim hi hl hok hrun

end Garnish.Props.RuntimeRefine
