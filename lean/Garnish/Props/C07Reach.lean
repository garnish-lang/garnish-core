/-
C07 on every reachable heap: the well-formedness that Props/C07Access.lean assumes (`Heap.WF`) is a THEOREM for the
heaps `BasicGarnishData` can hold after any sequence of store-constructor operations.

* `Op` / `step` / `run`: the op language of the OPT / CLONE / LIST scripts as an executable function on the store
  model of Store/BasicOptimize.lean (tied cell by cell to the Rust by the OPT and CLONE suites).  An operation is
  guarded by what the scripts guarantee about its arguments: addresses are addresses of existing values (results of
  earlier operations), a numeric retention count does not cut through a value.  A guard that fails is `Err`.
* `run_reachable`: every store `run` produces is `Reachable` (Props/C19.lean), hence `WF` (`WF_reachable`).
* `wf_implies_accessWF` (Lemmas/AccessReach.lean): every heap that `Represents` a `WF` store — whatever the other five
  blocks hold — satisfies `Heap.WF`.
* `C07_reachable_no_panic`: after ANY op sequence, on ANY representing heap, EVERY accessor / iterator / conversion
  call with ANY address, index and extent answers `Ok` / `Err`, never panics.

Modelled constructors: `add_unit/true/false/type/number/char/byte/symbol/expression/external`,
`add_pair/range/slice/partial/concatenation` (`addValue`), `add_string`-style text and `add_byte_slice` (`addChars`,
`addBytes`), `start_list` + `add_to_list`* + `end_list` (`buildList`), `merge_to_symbol_list`, `parse_add_symbol`,
`push_register` / `push_value_stack` / `push_frame` and their pops, `retain_all_current_data`,
`set_data_retention_count`, `optimize`, `clone_data`.
Not modelled: custom data (`Custom(T)` cells and the custom block), the instruction / jump-table / expression-symbol
blocks (their contents are unconstrained in `Represents`), `get_current_value_mut` (in-place update of the input value:
`Heap.WF` does not depend on value links, but `Reachable` does not include it; Props/C07ReachV.lean does), growth policies other than the
default `FixedSize`, a list under construction interleaved with other operations.
Size assumption: the allocation is a `Vec` (`heap.size ≤ usize::MAX`, part of `Represents`); only
`access_with_integer` needs more: fewer than `2^31` data cells.
-/
import Garnish.Props.C07Access
import Garnish.Props.C19
import Garnish.Lemmas.AccessReach
import Garnish.Lemmas.BuildListK
namespace Garnish.Props.C07Reach
open Garnish Garnish.Access Garnish.Access.Runtime Garnish.BasicOpt Garnish.Props.C19 Garnish.Props.C07Access

/-- the cells the public `add_*` value constructors push -/
def publicValue : Cell → Bool
  | .unit | .tru | .fls | .type _ | .number _ | .char _ | .byte _ | .symbol _ | .expression _ | .external _
  | .pair _ _ | .range _ _ | .slice _ _ | .partial_ _ _ | .concatenation _ _ => true
  | _ => false

/-- one store-constructor operation -/
inductive Op where
  | addValue (c : Cell)
  | addChars (cs : List Nat)
  | addBytes (bs : List Nat)
  | buildList (items : List Nat)
  | mergeSymbolList (first second : Nat)
  | addSymbol (sym : Nat) (name : List Nat)
  | pushRegister (v : Nat)
  | pushValue (v : Nat)
  | pushFrame (ret : Nat)
  | popRegister
  | popValue
  | popFrame
  | retainAll
  | setRetention (n : Nat)
  | optimize (roots : List Nat)
  | cloneData (a : Nat)
deriving Repr

def guard (b : Bool) (k : Outcome Store) : Outcome Store := if b then k else .err .other

/-- the operation on the store model; a call the scripts never make (an argument that is not the address of a value)
is `Err` -/
def step (s : Store) : Op → Outcome Store
  | .addValue c =>
    match soloShape c with
    | some sh =>
      guard (publicValue c && sh.kids.all (fun k => decide (k < s.cells.size) && isNode s.cells k))
        ((s.push c).bind fun p => .ok p.1)
    | none => .err .other
  | .addChars cs => (s.addInline (.charList (cs.map Cell.char).length) (cs.map Cell.char)).bind fun p => .ok p.1
  | .addBytes bs => (s.addInline (.byteList (bs.map Cell.byte).length) (bs.map Cell.byte)).bind fun p => .ok p.1
  | .buildList items => guard (items.all (isNode s.cells)) ((s.buildList items).bind fun p => .ok p.1)
  | .mergeSymbolList a b =>
    guard (isNode s.cells a && isNode s.cells b) ((s.mergeToSymbolList a b).bind fun p => .ok p.1)
  | .addSymbol sym name => (s.parseAddSymbol sym name).bind fun p => .ok p.1
  | .pushRegister v => guard (isNode s.cells v) (s.pushRegister v)
  | .pushValue v => guard (isNode s.cells v) (s.pushValue v)
  | .pushFrame ret => s.pushFrame ret
  | .popRegister => s.popRegister.bind fun p => .ok p.1
  | .popValue => .ok s.popValue.1
  | .popFrame => s.popFrame.bind fun p => .ok p.1
  | .retainAll => .ok s.retainAll
  | .setRetention n =>
    guard (decide (n ≤ s.cells.size) && (List.range n).all (extentOK s.cells n)) (.ok (s.setRetention n))
  | .optimize roots => guard (rootsOK s roots) ((s.optimize roots).bind fun p => .ok p.1)
  | .cloneData a => guard (isNode s.cells a) ((s.cloneData a).bind fun p => .ok p.1)

/-- a sequence of operations -/
def run : List Op → Store → Outcome Store
  | [], s => .ok s
  | op :: ops, s => (step s op).bind (run ops)

theorem guard_ok {b : Bool} {k : Outcome Store} {s' : Store} (h : guard b k = .ok s') : b = true ∧ k = .ok s' := by
  unfold guard at h
  cases b
  · simp at h
  · exact ⟨rfl, by simpa using h⟩

theorem bind_fst_ok {α : Type} {o : Outcome (Store × α)} {s' : Store} (h : (o.bind fun p => .ok p.1) = .ok s') :
    ∃ a, o = .ok (s', a) := by
  cases o with
  | ok p => simp only [Outcome.bind, Outcome.ok.injEq] at h; exact ⟨p.2, by rw [← h]⟩
  | err e => simp [Outcome.bind] at h
  | panic m => simp [Outcome.bind] at h
  | fuelOut => simp [Outcome.bind] at h

theorem step_reachable {s s' : Store} {op : Op} (hs : Reachable s) (h : step s op = .ok s') : Reachable s' := by
  cases op with
  | addValue c =>
    simp only [step] at h
    cases hso : soloShape c with
    | none => rw [hso] at h; simp at h
    | some sh =>
      rw [hso] at h
      obtain ⟨hb, hk⟩ := guard_ok h
      obtain ⟨i, hp⟩ := bind_fst_ok hk
      simp only [Bool.and_eq_true, List.all_eq_true, decide_eq_true_eq] at hb
      exact .addSolo hs hso (fun k hkm => hb.2 k hkm) hp
  | addChars cs =>
    obtain ⟨a, hp⟩ := bind_fst_ok h
    exact .addText hs (Or.inl ⟨rfl, by intro c hc; simp only [List.mem_map] at hc; obtain ⟨x, _, rfl⟩ := hc; rfl⟩) hp
  | addBytes bs =>
    obtain ⟨a, hp⟩ := bind_fst_ok h
    exact .addText hs (Or.inr ⟨rfl, by intro c hc; simp only [List.mem_map] at hc; obtain ⟨x, _, rfl⟩ := hc; rfl⟩) hp
  | buildList items =>
    obtain ⟨hb, hk⟩ := guard_ok h
    obtain ⟨li, hp⟩ := bind_fst_ok hk
    simp only [List.all_eq_true] at hb
    exact .buildList hs hb hp
  | mergeSymbolList a b =>
    obtain ⟨hb, hk⟩ := guard_ok h
    obtain ⟨i, hp⟩ := bind_fst_ok hk
    simp only [Bool.and_eq_true] at hb
    exact .mergeSymbolList hs hb.1 hb.2 hp
  | addSymbol sym name =>
    obtain ⟨a, hp⟩ := bind_fst_ok h
    exact .addSymbol hs hp
  | pushRegister v => obtain ⟨hb, hk⟩ := guard_ok h; exact .pushRegister hs hb hk
  | pushValue v => obtain ⟨hb, hk⟩ := guard_ok h; exact .pushValue hs hb hk
  | pushFrame ret => exact .pushFrame hs h
  | popRegister => obtain ⟨r, hp⟩ := bind_fst_ok h; exact .popRegister hs hp
  | popValue =>
    simp only [step, Outcome.ok.injEq] at h
    rw [← h]; exact .popValue hs
  | popFrame => obtain ⟨r, hp⟩ := bind_fst_ok h; exact .popFrame hs hp
  | retainAll =>
    simp only [step, Outcome.ok.injEq] at h
    rw [← h]; exact .retainAll hs
  | setRetention n =>
    obtain ⟨hb, hk⟩ := guard_ok h
    simp only [Outcome.ok.injEq] at hk
    simp only [Bool.and_eq_true, decide_eq_true_eq, List.all_eq_true, List.mem_range] at hb
    rw [← hk]; exact .setRetention hs hb.1 hb.2
  | optimize roots =>
    obtain ⟨hb, hk⟩ := guard_ok h
    obtain ⟨m, hp⟩ := bind_fst_ok hk
    exact .optimize hs hb hp
  | cloneData a =>
    obtain ⟨hb, hk⟩ := guard_ok h
    obtain ⟨r, hp⟩ := bind_fst_ok hk
    exact .cloneData hs hb hp

/-- every store an op sequence produces from a reachable store is reachable -/
theorem run_reachable : ∀ (ops : List Op) {s s' : Store}, Reachable s → run ops s = .ok s' → Reachable s'
  | [], s, s', hs, h => by simp only [run, Outcome.ok.injEq] at h; rw [← h]; exact hs
  | op :: ops, s, s', hs, h => by
    simp only [run] at h
    cases hst : step s op with
    | ok s1 => rw [hst] at h; exact run_reachable ops (step_reachable hs hst) h
    | err e => rw [hst] at h; simp [Outcome.bind] at h
    | panic m => rw [hst] at h; simp [Outcome.bind] at h
    | fuelOut => rw [hst] at h; simp [Outcome.bind] at h

/-- after any op sequence from the empty store, every representing heap is well formed for the accessors -/
theorem run_accessWF {ops : List Op} {s : Store} {h : Heap} (hrun : run ops Store.fresh = .ok s)
    (hr : Represents s h) : h.WF :=
  wf_implies_accessWF (WF_reachable (run_reachable ops .init hrun)) hr

/-- every accessor, iterator constructor and slicing conversion of the data block answers `Ok` or `Err` -/
structure AccessSafe (h : Heap) : Prop where
  ensureIndex : ∀ i, Safe (h.getData i)
  itemGetters : ∀ la ix, Safe (getListItem h la ix) ∧ Safe (getCharListItem h la ix) ∧ Safe (getByteListItem h la ix) ∧
    Safe (getSymbolListItem h la ix)
  iterators : ∀ li s e, Safe (getListItemIter h li s e) ∧ Safe (getCharListIter h li s e) ∧
    Safe (getByteListIter h li s e) ∧ Safe (getSymbolListIter h li s e)
  concatenation : ∀ fuel index s e, NoPanic (getConcatenationIter h fuel index s e) ∧
    (3 ^ index ≤ fuel → Safe (getConcatenationIter h fuel index s e))
  conversions : ∀ a, Safe (getAssociationSlice h a) ∧ Safe (convertBytesSlice h a) ∧
    (∀ n, a + n < h.cursor → Safe (inlineCellsAt h a n)) ∧ (∀ bytes, Safe (bytesToI32 bytes)) ∧
    (∀ len i, a + 1 + len ≤ USIZE_MAX → Safe (separatorAfter a len i))
  /-- the runtime's `access_with_integer`, on data blocks of fewer than `2^31` cells -/
  accessWithInteger : ∀ (intOf : Nat → Option Int), (∀ n v, intOf n = some v → InRange v) → h.cursor ≤ 2147483647 →
    1 ≤ h.cursor → ∀ fuel, fuel * h.cursor ≤ USIZE_MAX → ∀ ix value,
    NoPanic (accessWithInteger (basicIface h intOf) fuel ix value)

theorem accessSafe_of_wf {h : Heap} (wf : h.WF) : AccessSafe h where
  ensureIndex := fun i => by
    rcases C07_ensure_index_total wf i with ⟨_, h1⟩ | ⟨_, c, _, h1⟩
    · rw [h1]; exact safe_err _
    · rw [h1]; exact safe_ok _
  itemGetters := fun la ix => C07_item_getters_total wf la ix
  iterators := fun li s e => C07_iterators_total wf li s e
  concatenation := fun fuel index s e =>
    ⟨(C07_concatenation_iter_total wf fuel index s e).1, (C07_concatenation_iter_total wf fuel index s e).2.1⟩
  conversions := fun a => C07_slicing_conversions_total wf a
  accessWithInteger := fun intOf hint hsmall hpos _ hf ix value =>
    C07_access_with_integer_basic wf intOf hint hsmall hpos hf ix value

/-- **C07_reachable_no_panic**: for every sequence of store-constructor operations from the empty store and every heap
that represents the resulting store, every accessor / iterator / conversion call — any address, any index, any
extent — answers `Ok` / `Err` and never panics -/
theorem C07_reachable_no_panic {ops : List Op} {s : Store} {h : Heap} (hrun : run ops Store.fresh = .ok s)
    (hr : Represents s h) : AccessSafe h :=
  accessSafe_of_wf (run_accessWF hrun hr)

/-- the same for any `Reachable` store (Props/C19.lean) -/
theorem C07_reachable_store_no_panic {s : Store} {h : Heap} (hs : Reachable s) (hr : Represents s h) : AccessSafe h :=
  accessSafe_of_wf (wf_implies_accessWF (WF_reachable hs) hr)

/-! ### non-vacuity: a nested list with text, then an out-of-range extent -/

/-- `"ab"`, `1`, `:5`, `(:5 = 1)`, `("ab", :5 = 1)`, `(("ab", :5 = 1), 1)`, a register, retain, compact -/
def exOps : List Op :=
  [.addChars [97, 98], .addValue (.number 1), .addValue (.symbol 5), .addValue (.pair 4 3), .buildList [0, 5],
   .buildList [6, 3], .pushRegister 11, .retainAll, .addValue (.number 9), .optimize [11]]

/-- `run` with the fuelled sort of Lemmas/BuildListK.lean (the kernel does not unfold `List.mergeSort`) -/
def stepK (s : Store) : Op → Outcome Store
  | .buildList items => guard (items.all (isNode s.cells)) ((s.buildListK items).bind fun p => .ok p.1)
  | op => step s op

def runK : List Op → Store → Outcome Store
  | [], s => .ok s
  | op :: ops, s => (stepK s op).bind (runK ops)

theorem step_eq (s : Store) (op : Op) : step s op = stepK s op := by
  unfold stepK
  split
  · simp only [step, Store.buildList_eq]
  · rfl

theorem run_eq : ∀ (ops : List Op) (s : Store), run ops s = runK ops s
  | [], _ => rfl
  | op :: ops, s => by
    simp only [run, runK, step_eq]
    congr 1
    funext s1
    exact run_eq ops s1

/-- the store `exOps` builds, written out: the examples below rewrite with `exOps_run` instead of running the sequence
again (the kernel evaluates it once) -/
def exRun : Store :=
  { Store.fresh with
    cells := #[.charList 2, .char 97, .char 98, .number 1, .symbol 5, .pair 4 3, .list 2 1, .listItem 0, .listItem 5,
               .associativeItem 5 3, .empty, .list 2 0, .listItem 6, .listItem 3, .empty, .empty, .registerRoot 11]
    size := 40, custom := ⟨80, 0, 10⟩, currentRegister := some 16, retention := 17 }

theorem exOps_run : run exOps Store.fresh = .ok exRun := by
  rw [run_eq]; exact ok_of_check (sameStore · exRun) (fun _ => sameStore_eq) (by decide +kernel)

/-- the sequence runs, the inner list keeps its key table (`L:2,1`), and the heap view is well formed -/
example : (match run exOps Store.fresh with
    | .ok s => decide (s.cells.size = 17 ∧ s.cells[6]? = some (.list 2 1) ∧ s.cells[11]? = some (.list 2 0)) &&
        decide (toAccessHeap s).WF
    | _ => false) = true := by rw [exOps_run]; decide +kernel

/-- `get_char_list_iter(0, 1 .. 100)` on it: the extent is clamped, the answer is `"b"` -/
example : (match run exOps Store.fresh with
    | .ok s => (match getCharListIter (toAccessHeap s) 0 (.int 1) (.int 100) with
        | .ok l => decide (l = [98])
        | _ => false)
    | _ => false) = true := by rw [exOps_run]; decide +kernel

/-- a descending extent and `i32::MIN .. i32::MAX` on the nested list -/
example : (match run exOps Store.fresh with
    | .ok s => (match getListItemIter (toAccessHeap s) 11 (.int 5) (.int (-3)),
                      getListItemIter (toAccessHeap s) 11 (.int (-2147483648)) (.int 2147483647) with
        | .ok l1, .ok l2 => decide (l1 = [] ∧ l2 = [6, 3])
        | _, _ => false)
    | _ => false) = true := by rw [exOps_run]; decide +kernel

/-- and the theorem applies to it -/
example : ∀ s, run exOps Store.fresh = .ok s →
    s.start + s.cells.size + (s.size - s.cells.size + s.custom.size) ≤ USIZE_MAX → AccessSafe (toAccessHeap s) :=
  fun s hrun hsz => C07_reachable_no_panic hrun (toAccessHeap_represents s hsz)

end Garnish.Props.C07Reach
