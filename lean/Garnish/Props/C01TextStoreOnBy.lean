/-
`C01_text_to_simple_store_of` (Props/C01TextStoreOn.lean) for an ARBITRARY address map: the built program relocated
along any `ρ` into any data list `C` that agrees with its constants (`ConstsAgree`), starts with Unit, False, True and
holds leaves only — the shape of what the real builder leaves in a `SimpleGarnishData`, equal constants shared and
`()` / `$!` / `$?` at 0 / 1 / 2 (Props/C01BuilderAddresses.lean). `reloc` is the instance `ρ k = k + 3`.
-/
import Garnish.Props.C01TextStoreOnG
import Garnish.Lemmas.RuntimeReloc
namespace Garnish.Props.C01TextStore
open Garnish Garnish.Gen Garnish.Spec Garnish.Abs Garnish.Abs.Tree Garnish.Abs.Source Garnish.Model Garnish.Model.Parser
open Garnish.Model.Lexer Garnish.Model.Literals Garnish.Model.Build Garnish.Props.C01Build Garnish.Props.C01Source
open Garnish.Props.C02Numbered Garnish.Props.C01Text
open Garnish.Model.Equality Garnish.Model.Runtime Garnish.Lemmas.Runtime Garnish.Props.RuntimeRefine
open Garnish.Lemmas.Runtime.On Garnish.Lemmas.Runtime.Simple

variable {F : Type}
variable (pf : List Char → Option F) (cc : CharClass)

theorem C01_text_to_simple_store_by {hit : List (SimCell F) → SimCell F → Option Nat} (hh : SimHost F)
    (fo : FloatOps F) (host : Host F) (loopFuel : Nat) (H : OtherHandlers (SimState F))
    (ok : Prog F → MState F → Instruction → Option Nat → Prop)
    (hstep : ∀ (P : Prog F) (s : SimState F) (m : MState F) instr operand, Sim (simpleRStore hit hh) P s m → SInv s →
      Loaded (simpleRStore hit hh) P s → P.instrs[m.pc]? = some (instr, operand) → ok P m instr operand →
      StepSimOn fo host (simpleRStore hit hh) SInv P loopFuel H s m)
    (s : List Char) (toks : List LexerToken)
    (hlex : lex cc s = .ok toks) (hf : frag9' (toP toks) = true) (rt : RTree)
    (href : refParse Table.gen (toP toks) = .ok rt) (p : Program F) (hel : elaborate pf (toP toks) rt = some p)
    (hwf : C01.WFProgram p) (input : Val F) (fuel : Nat) (v : Val F) (st : St F)
    (h : evalProgram fo host fuel p input = .ok (v, st)) :
    ∃ d entry n, buildText pf cc s = .ok (d, entry) ∧
      ∀ (ρ : Nat → Nat) (C : Array (Val F)), ConstsAgree ρ C (progOf d) →
        C[0]? = some .unit → C[1]? = some .fls → C[2]? = some .tru → C.toList.all isLeafS = true →
        isLeafS input = true →
        RunOKG fo (ok (relocBy ρ C (progOf d))) host (relocBy ρ C (progOf d)) n
          { pc := (progOf d).jumps[entry]?.getD 0, regs := [], vals := [input], frames := [], trace := [] } →
        ∃ s' a, executeLoop fo (simpleRStore hit hh) loopFuel H n
            (loadSimple (relocBy ρ C (progOf d)) ((progOf d).jumps[entry]?.getD 0) input) = .ok ((.end_, n), s') ∧
          s'.values = [a] ∧ Decodes (simView s'.cells) a v ∧ (simpleRStore hit hh).regs s' = [] ∧
          (simpleRStore hit hh).frames s' = [] ∧ SInv s' := by
  obtain ⟨d, n, hb, hd, hgen⟩ :=
    C01_text_to_store_gen pf cc fo host loopFuel H ok hstep ⟨toks, rt, hlex, hf, href, hel⟩ hwf input fuel v st h
  refine ⟨d, 0, n, hb, ?_⟩
  rw [hd]
  exact fun ρ C hag h0 h1 h2 hleaf hin hok =>
    hgen _ _ (run_relocBy fo host hag) (C01_loadSimple_loaded hit hh _ _ input hleaf hin)
      (C01_loadSimple_inv _ _ _ h0 h1 h2) hok

end Garnish.Props.C01TextStore
