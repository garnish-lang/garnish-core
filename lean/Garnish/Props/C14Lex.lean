/-
C14 / C09 / C12 / C11 from the source text WITHOUT the lexing hypothesis.

Props/SourceProps2.lean and Props/SourceProps3.lean prove, for every operand, that a literal spelling (Spec/Spell.lean) and
`a op b` on two literal spellings are built into programs that run to exactly the value they spell — given that the lexer
turns the spelling into the expected token(s) (`hlex`, `htoks`).  Here that hypothesis is PROVED for the lexer model, for
every character-class pair with `CharClass.Lit` (ASCII digits numeric, ASCII digits and lower-case letters numeric or
alphanumeric, quotes neither, colon not numeric, blanks / NUL / newline neither) — the Rust tables (`rustTables_lit`) and the
ASCII classes of the examples (`asciiCC_lit`) are instances:

  lex_spellNumber          every `spellNumber r n seps`, 2 ≤ r ≤ 36, ANY separators: one Number token at (0,0)
  lex_quoteCharList_body   `q` quotes, body without `"`, `q` quotes: one CharList token — for q ≥ 1, q ≠ 2, body ≠ [] unless q = 1
  lex_quoteCharList        … the body `escapeCharsU q cs` (quotes written `\u{22}`), cs ≠ [] unless q = 1
  lex_quoteByteList_body   the same with `'`
  lex_spellBytesNumeric    `spellBytesNumeric q bs`: one ByteList token — for q ≥ 1, q ≠ 2, bs ≠ [] unless q = 1
  lex_spellSymbol          `:name`, name of identifier characters not starting with `:`: one Symbol token
  lex_operator             every spelling of the operator table: one token of its type
  lex_binop_spelling       `a ++ " " ++ op ++ " " ++ b` for any three such spellings: the five tokens, with their positions
and the primed corollaries `C14_text_number'` … `C11_text_int_equal'`, `C12_text_charlist_order'` carry no hypothesis about the lexer.

NOT covered, and why (witnesses below, by evaluation on the Rust tables):
  * q = 2 quotes (`""x""`, `''1 2''`): two quotes followed by anything else are the EMPTY literal — three or more tokens
    (`two_quotes_split`, `two_apostrophes_split`); so `SourceProps.C14_text_bytelist_numeric` is vacuous at q = 2.
  * q ≥ 3 quotes and an empty body (`""""""`): the opening run never ends — a lexing error (`three_quotes_empty_fails`).
  * a raw quote inside the body: the lexer knows nothing of escapes and closes at the first run of q quotes; in particular
    `spellBytesQuoted` of a vector containing the byte 39 (`'\''`) does not lex (`escaped_apostrophe_fails`).
  * symbol names starting with `:` (`::a` is an Identifier), names with a non-identifier character; names ending in `:`
    DO lex as one Symbol (`lex_spellSymbol` does not exclude them) — `C14_text_symbol'` excludes them for the reason given at
    `C14.C14_symbol_keeps_name` (the value, not the token).
  * `ValidSeps` is not needed for lexing (`0_` is one Number token); it stays in `C14_text_number'` for the value.
-/
import Garnish.Props.SourceProps5
import Garnish.Lemmas.LexSpell5
namespace Garnish.Props.C14Lex
open Garnish Garnish.Gen Garnish.Spec Garnish.Spec.Spell Garnish.Abs Garnish.Abs.Tree Garnish.Abs.Source Garnish.Model
open Garnish.Model.Parser Garnish.Model.Lexer Garnish.Model.Literals Garnish.Model.Build Garnish.Props.C01Build
open Garnish.Props.C01Source Garnish.Props.C02Numbered Garnish.Props.C01Text Garnish.Props.C01Blocks
open Garnish.Props.SourceProps Garnish.Lemmas.Literals

/-! ## the lexer on spellings -/

section lexer
variable (cc : CharClass) (hcc : cc.Lit)
include hcc

/-- every number spelling is one Number token -/
theorem lex_spellNumber (r n : Nat) (seps : List Nat) (hr2 : 2 ≤ r) (hr36 : r ≤ 36) :
    lex cc (spellNumber r n seps) = .ok [⟨spellNumber r n seps, .number, 0, 0⟩] :=
  lex_one cc _ _ (tokSpelling_spellNumber cc hcc r n seps hr2 hr36)

/-- `q` quotes, a body without quotes, `q` quotes is one CharList token -/
theorem lex_quoteCharList_body (q : Nat) (body : List Char) (hq1 : 1 ≤ q) (hq2 : q ≠ 2) (hbody : '"' ∉ body)
    (hnon : body ≠ [] ∨ q = 1) : lex cc (quoteCharList q body) = .ok [⟨quoteCharList q body, .charList, 0, 0⟩] :=
  lex_one cc _ _ (tokSpelling_quoteCharList cc hcc q body hq1 hq2 hbody hnon)

/-- the lexable spelling of ANY string (quotes written `\u{22}`) is one CharList token -/
theorem lex_quoteCharList (q : Nat) (cs : List Char) (hq1 : 1 ≤ q) (hq2 : q ≠ 2) (hnon : cs ≠ [] ∨ q = 1) :
    lex cc (quoteCharList q (escapeCharsU q cs)) = .ok [⟨quoteCharList q (escapeCharsU q cs), .charList, 0, 0⟩] :=
  lex_one cc _ _ (tokSpelling_escapeCharsU cc hcc q cs hq1 hq2 hnon)

/-- `q` apostrophes, a body without apostrophes, `q` apostrophes is one ByteList token -/
theorem lex_quoteByteList_body (q : Nat) (body : List Char) (hq1 : 1 ≤ q) (hq2 : q ≠ 2) (hbody : '\'' ∉ body)
    (hnon : body ≠ [] ∨ q = 1) : lex cc (quoteByteList q body) = .ok [⟨quoteByteList q body, .byteList, 0, 0⟩] :=
  lex_one cc _ _ (tokSpelling_quoteByteList cc hcc q body hq1 hq2 hbody hnon)

/-- the numeric byte-list form is one ByteList token -/
theorem lex_spellBytesNumeric (q : Nat) (bs : List Nat) (hq1 : 1 ≤ q) (hq2 : q ≠ 2) (hnon : bs ≠ [] ∨ q = 1) :
    lex cc (spellBytesNumeric q bs) = .ok [⟨spellBytesNumeric q bs, .byteList, 0, 0⟩] :=
  lex_one cc _ _ (tokSpelling_spellBytesNumeric cc hcc q bs hq1 hq2 hnon)

/-- `:name` is one Symbol token -/
theorem lex_spellSymbol (name : List Char) (hn : name.head? ≠ some ':') (hid : ∀ x ∈ name, isIdentifierChar cc x = true) :
    lex cc (spellSymbol name) = .ok [⟨spellSymbol name, .symbol, 0, 0⟩] :=
  lex_one cc _ _ (tokSpelling_spellSymbol cc hcc name hn hid)

/-- every spelling of the operator table is one token of its type -/
theorem lex_operator (op : List Char) (oty : TokenType) (h : (op, oty) ∈ Garnish.Gen.LexTables.operatorChars) :
    lex cc op = .ok [⟨op, oty, 0, 0⟩] :=
  lex_one cc _ _ (tokSpelling_operator cc hcc op oty h)

omit hcc in
/-- two spelled tokens around a spelled operator, single spaces between them: five tokens; without newlines in `a`
(and `op`) all in row 0 at the offsets of their first characters -/
theorem lex_binop_spelling (a op b : List Char) (tya oty tyb : TokenType) (ha : TokSpelling cc a tya)
    (ho : TokSpelling cc op oty) (hb : TokSpelling cc b tyb) (hna : '\n' ∉ a) (hno : '\n' ∉ op) :
    lex cc (a ++ ' ' :: op ++ ' ' :: b) =
      .ok [⟨a, tya, 0, 0⟩, ⟨[' '], .whitespace, 0, a.length⟩, ⟨op, oty, 0, a.length + 1⟩,
           ⟨[' '], .whitespace, 0, a.length + 1 + op.length⟩, ⟨b, tyb, 0, a.length + 1 + op.length + 1⟩] :=
  lex_binop_cols cc a op b tya oty tyb ha ho hb hna hno

omit hcc in
/-- … what the parser is handed -/
theorem toP_binop_spelling (a op b : List Char) (tya oty tyb : TokenType) (ha : TokSpelling cc a tya)
    (ho : TokSpelling cc op oty) (hb : TokSpelling cc b tyb) :
    ∃ toks, lex cc (a ++ ' ' :: op ++ ' ' :: b) = .ok toks ∧ toP toks = fiveToks a [' '] op [' '] b tya oty tyb :=
  ⟨_, lex_binop cc a op b tya oty tyb ha ho hb, rfl⟩

end lexer

/-! ## instances -/

theorem asciiCC_lit : asciiCC.Lit :=
  { nulNumeric := by decide
    nulAlphanumeric := by decide
    nlNumeric := by decide
    nlAlphanumeric := by decide
    spaceA := by decide
    tabA := by decide
    spaceN := by decide
    tabN := by decide
    digitN := by decide
    digitA := by decide
    quoteN := by decide
    quoteA := by decide
    aposN := by decide
    aposA := by decide
    colonN := by decide }

/-- every operator token type of `opTok` has a spelling in the table -/
theorem opTok_spelled {oty : TokenType} {p : Definition × Instruction} (h : opTok oty = some p) :
    ∃ to, (to, oty) ∈ Garnish.Gen.LexTables.operatorChars := by
  have key : Garnish.Gen.LexTables.operatorChars.any (fun q => q.2 == oty) = true := by
    cases oty <;> first | (simp [opTok] at h; done) | decide
  obtain ⟨q, hq, he⟩ := List.any_eq_true.mp key
  exact ⟨q.1, by have : q.2 = oty := by simpa using he
                 rw [← this]; exact hq⟩

/-! ## what is not covered: witnesses on the Rust tables -/

deriving instance DecidableEq for Outcome

/-- `""a""` is three tokens: the empty literal, an identifier, the empty literal -/
theorem two_quotes_split : lex rustTables (quoteCharList 2 ['a']) =
    .ok [⟨['"', '"'], .charList, 0, 0⟩, ⟨['a'], .identifier, 0, 2⟩, ⟨['"', '"'], .charList, 0, 3⟩] := by rw [lex_eq]; decide +kernel

/-- `''1''` (the numeric byte-list form with two apostrophes) is three tokens -/
theorem two_apostrophes_split : lex rustTables (spellBytesNumeric 2 [1]) =
    .ok [⟨['\'', '\''], .byteList, 0, 0⟩, ⟨['1'], .number, 0, 2⟩, ⟨['\'', '\''], .byteList, 0, 3⟩] := by rw [lex_eq]; decide +kernel

/-- six quotes: the opening run never ends -/
theorem three_quotes_empty_fails : lex rustTables (quoteCharList 3 []) = .err .syntax := by rw [lex_eq]; decide +kernel

/-- `'\''`: the escaped apostrophe closes the literal for the lexer, the last one starts a literal that never ends -/
theorem escaped_apostrophe_fails : lex rustTables (spellBytesQuoted [39]) = .err .syntax := by
  rw [lex_eq]; decide +kernel

/-- `::a` is an Identifier, not a Symbol -/
theorem double_colon_identifier : lex rustTables (spellSymbol [':', 'a']) = .ok [⟨[':', ':', 'a'], .identifier, 0, 0⟩] := by
  rw [lex_eq]; decide +kernel

/-- a name ending in `:` still is one Symbol token -/
theorem trailing_colon_symbol : lex rustTables (spellSymbol ['a', ':']) = .ok [⟨[':', 'a', ':'], .symbol, 0, 0⟩] := by
  rw [lex_eq]; decide +kernel

/-! ## the source-text theorems without the lexing hypothesis -/

section text
variable {F : Type} (pf : List Char → Option F) (cc : CharClass) (hcc : cc.Lit) (fo : FloatOps F) (host : Host F)
include hcc

/-- **C14, numbers**: every radix 2..36, every valid separator placement, every `n ≤ i32::MAX`: the source text
`spellNumber r n seps` is compiled to a program that runs to the integer `n` -/
theorem C14_text_number' (r n : Nat) (seps : List Nat) (hr2 : 2 ≤ r) (hr36 : r ≤ 36) (hn : n ≤ 2147483647)
    (hvs : ValidSeps r n seps) (input : Val F) :
    ∃ dd entry, buildText pf cc (spellNumber r n seps) = .ok (dd, entry) ∧ RunsTo fo host dd entry input (.num (.int n)) :=
  C14_text_number pf cc fo host r n seps hr2 hr36 hn hvs 0 0 (lex_spellNumber cc hcc r n seps hr2 hr36) input

/-- **C14, round trip**: print `n` in any radix, lex, parse, build, run: `n` -/
theorem C14_text_roundtrip' (r n : Nat) (hr2 : 2 ≤ r) (hr36 : r ≤ 36) (hn : n ≤ 2147483647) (input : Val F) :
    ∃ dd entry, buildText pf cc (spellNumber r n []) = .ok (dd, entry) ∧ RunsTo fo host dd entry input (.num (.int n)) :=
  C14_text_roundtrip pf cc fo host r n hr2 hr36 hn 0 0 (lex_spellNumber cc hcc r n [] hr2 hr36) input

omit hcc in
theorem head_of_not_mem {c : Char} {body : List Char} (h : c ∉ body) : body.head? ≠ some c :=
  fun e => h (List.mem_of_mem_head? (e ▸ rfl))

/-- **C14, char lists**: `q` quotes, a body without quotes, `q` quotes runs to the escape processing of the body -/
theorem C14_text_charlist' (q : Nat) (body : List Char) (hq1 : 1 ≤ q) (hq2 : q ≠ 2) (hbody : '"' ∉ body)
    (hnon : body ≠ [] ∨ q = 1) (cs : List Char) (hu : unescape (uniModel pf) q body = .ok cs) (input : Val F) :
    ∃ dd entry, buildText pf cc (quoteCharList q body) = .ok (dd, entry) ∧
      RunsTo fo host dd entry input (.chars (cs.map Char.toNat)) :=
  C14_text_charlist pf cc fo host q body (head_of_not_mem hbody) cs hu 0 0
    (lex_quoteCharList_body cc hcc q body hq1 hq2 hbody hnon) input

/-- **C14, char lists, round trip**: EVERY string `cs`, written between `q` quotes with its quotes as `\u{22}`, runs to
`cs` — for `q = 1` and `q ≥ 3` (`cs` non-empty unless `q = 1`) -/
theorem C14_text_charlist_roundtrip' (q : Nat) (cs : List Char) (hq1 : 1 ≤ q) (hq2 : q ≠ 2) (hnon : cs ≠ [] ∨ q = 1)
    (input : Val F) :
    ∃ dd entry, buildText pf cc (quoteCharList q (escapeCharsU q cs)) = .ok (dd, entry) ∧
      RunsTo fo host dd entry input (.chars (cs.map Char.toNat)) :=
  C14_text_charlist_roundtrip pf cc fo host q cs 0 0 (lex_quoteCharList cc hcc q cs hq1 hq2 hnon) input

/-- **C14, byte lists, quoted form**: `'body'` (no apostrophe in the body) runs to the escape processing of the body -/
theorem C14_text_bytelist' (body : List Char) (hbody : '\'' ∉ body) (bs : List Nat) (hu : unescBytes false body = .ok bs)
    (input : Val F) :
    ∃ dd entry, buildText pf cc (quoteByteList 1 body) = .ok (dd, entry) ∧ RunsTo fo host dd entry input (.bytes bs) :=
  C14_text_bytelist pf cc fo host body (head_of_not_mem hbody) bs hu 0 0
    (lex_quoteByteList_body cc hcc 1 body (by omega) (by omega) hbody (Or.inr rfl)) input

/-- **C14, byte lists, numeric form** (round trip): every non-empty byte vector, `q ≥ 3` apostrophes -/
theorem C14_text_bytelist_numeric' (q : Nat) (hq : 3 ≤ q) (bs : List Nat) (hne : bs ≠ []) (hb : ∀ b ∈ bs, b ≤ 255)
    (input : Val F) :
    ∃ dd entry, buildText pf cc (spellBytesNumeric q bs) = .ok (dd, entry) ∧ RunsTo fo host dd entry input (.bytes bs) :=
  C14_text_bytelist_numeric pf cc fo host q (by omega) bs hb 0 0
    (lex_spellBytesNumeric cc hcc q bs (by omega) (by omega) (Or.inl hne)) input

/-- **C14, symbols**: `:name` (identifier characters, no `:` at either end) runs to SipHash-1-3 of the name as written -/
theorem C14_text_symbol' (name : List Char) (h1 : name.head? ≠ some ':') (h2 : name.getLast? ≠ some ':')
    (hid : ∀ x ∈ name, isIdentifierChar cc x = true) (input : Val F) :
    ∃ dd entry, buildText pf cc (spellSymbol name) = .ok (dd, entry) ∧
      RunsTo fo host dd entry input (.sym (Garnish.Model.SipHash.symbolValue name).toNat) :=
  C14_text_symbol pf cc fo host name h1 h2 0 0 (lex_spellSymbol cc hcc name h1 hid) input

/-- the source text `a op b` of two number spellings and an operator spelling of the table -/
def intBinopText (ra na : Nat) (sa : List Nat) (to : List Char) (rb nb : Nat) (sb : List Nat) : List Char :=
  spellNumber ra na sa ++ ' ' :: to ++ ' ' :: spellNumber rb nb sb

omit hcc in
theorem intBinop_lexed (hcc : cc.Lit) (ra na rb nb : Nat) (sa sb : List Nat) (hra : 2 ≤ ra ∧ ra ≤ 36) (hrb : 2 ≤ rb ∧ rb ≤ 36)
    (to : List Char) (oty : TokenType) (hto : (to, oty) ∈ Garnish.Gen.LexTables.operatorChars) :
    ∃ toks, lex cc (intBinopText ra na sa to rb nb sb) = .ok toks ∧
      toP toks = fiveToks (spellNumber ra na sa) [' '] to [' '] (spellNumber rb nb sb) .number oty .number :=
  toP_binop_spelling cc _ to _ .number oty .number (tokSpelling_spellNumber cc hcc ra na sa hra.1 hra.2)
    (tokSpelling_operator cc hcc to oty hto) (tokSpelling_spellNumber cc hcc rb nb sb hrb.1 hrb.2)

/-- **C09 from the source text, integer arithmetic**: `a op b` for two integer spellings and `op` one of
`+ - * / // % ** << >>` as spelled in the operator table runs to the EXACT result of Spec/Num.lean when that is
representable in an `i32`, and to unit when it is not — never to a wrapped value -/
theorem C09_text_int_arith' (ra na rb nb : Nat) (sa sb : List Nat) (hra : 2 ≤ ra ∧ ra ≤ 36) (hrb : 2 ≤ rb ∧ rb ≤ 36)
    (hna : na ≤ 2147483647) (hnb : nb ≤ 2147483647) (hva : ValidSeps ra na sa) (hvb : ValidSeps rb nb sb)
    (oty : TokenType) (dop : Definition) (op : Instruction) (f : Int → Int → Option Int) (hop : opTok oty = some (dop, op))
    (hf : arithSpec op = some f) (to : List Char) (hto : (to, oty) ∈ Garnish.Gen.LexTables.operatorChars) (input : Val F) :
    ∃ dd entry, buildText pf cc (intBinopText ra na sa to rb nb sb) = .ok (dd, entry) ∧
      RunsTo fo host dd entry input (numResult ((f na nb).map .int)) := by
  obtain ⟨toks, hlex, htoks⟩ := intBinop_lexed cc hcc ra na rb nb sa sb hra hrb to oty hto
  exact C09_text_int_arith pf cc fo host ra na rb nb sa sb hra hrb hna hnb hva hvb oty dop op f hop hf _ toks hlex _ to _ htoks
    input

/-- **C09 from the source text, `& | ^`**: bit by bit -/
theorem C09_text_int_bitwise' (ra na rb nb : Nat) (sa sb : List Nat) (hra : 2 ≤ ra ∧ ra ≤ 36) (hrb : 2 ≤ rb ∧ rb ≤ 36)
    (hna : na ≤ 2147483647) (hnb : nb ≤ 2147483647) (hva : ValidSeps ra na sa) (hvb : ValidSeps rb nb sb)
    (oty : TokenType) (dop : Definition) (op : Instruction) (g : Bool → Bool → Bool) (hop : opTok oty = some (dop, op))
    (hg : (op = .bitwiseAnd ∧ g = and) ∨ (op = .bitwiseOr ∧ g = or) ∨ (op = .bitwiseXor ∧ g = xor))
    (to : List Char) (hto : (to, oty) ∈ Garnish.Gen.LexTables.operatorChars) (input : Val F) :
    ∃ r : Int, InRange r ∧ (∀ i, Spec.bit r i = g (Spec.bit na i) (Spec.bit nb i)) ∧
      ∃ dd entry, buildText pf cc (intBinopText ra na sa to rb nb sb) = .ok (dd, entry) ∧
        RunsTo fo host dd entry input (.num (.int r)) := by
  obtain ⟨toks, hlex, htoks⟩ := intBinop_lexed cc hcc ra na rb nb sa sb hra hrb to oty hto
  exact C09_text_int_bitwise pf cc fo host ra na rb nb sa sb hra hrb hna hnb hva hvb oty dop op g hop hg _ toks hlex _ to _ htoks
    input

/-- **C12 from the source text, integers**: `a < b`, `a > b`, `a <= b`, `a >= b` run to `$?` / `$!` according to the order
of the integers -/
theorem C12_text_int_order' (ra na rb nb : Nat) (sa sb : List Nat) (hra : 2 ≤ ra ∧ ra ≤ 36) (hrb : 2 ≤ rb ∧ rb ≤ 36)
    (hna : na ≤ 2147483647) (hnb : nb ≤ 2147483647) (hva : ValidSeps ra na sa) (hvb : ValidSeps rb nb sb)
    (oty : TokenType) (dop : Definition) (op : Instruction) (f : Int → Int → Bool) (hop : opTok oty = some (dop, op))
    (hf : intOrder op = some f) (to : List Char) (hto : (to, oty) ∈ Garnish.Gen.LexTables.operatorChars) (input : Val F) :
    ∃ dd entry, buildText pf cc (intBinopText ra na sa to rb nb sb) = .ok (dd, entry) ∧
      RunsTo fo host dd entry input (Val.ofBool (f na nb)) := by
  obtain ⟨toks, hlex, htoks⟩ := intBinop_lexed cc hcc ra na rb nb sa sb hra hrb to oty hto
  exact C12_text_int_order pf cc fo host ra na rb nb sa sb hra hrb hna hnb hva hvb oty dop op f hop hf _ toks hlex _ to _ htoks
    input

/-- **C11 from the source text, integers**: `a == b` is equality of the numbers, whatever radix and separators they are
written with -/
theorem C11_text_int_equal' (ra na rb nb : Nat) (sa sb : List Nat) (hra : 2 ≤ ra ∧ ra ≤ 36) (hrb : 2 ≤ rb ∧ rb ≤ 36)
    (hna : na ≤ 2147483647) (hnb : nb ≤ 2147483647) (hva : ValidSeps ra na sa) (hvb : ValidSeps rb nb sb) (input : Val F) :
    ∃ dd entry, buildText pf cc (intBinopText ra na sa ['=', '='] rb nb sb) = .ok (dd, entry) ∧
      RunsTo fo host dd entry input (Val.ofBool (decide (na = nb))) := by
  obtain ⟨toks, hlex, htoks⟩ := intBinop_lexed cc hcc ra na rb nb sa sb hra hrb ['=', '='] .equality (by decide)
  exact C11_text_int_equal pf cc fo host ra na rb nb sa sb hra hrb hna hnb hva hvb _ toks hlex _ _ _ htoks input

/-- **C12 from the source text, char lists**: `"…" op "…"` for the four comparison operators runs to `$?` / `$!` according to the
lexicographic order of the two strings the literals spell -/
theorem C12_text_charlist_order' (qa qb : Nat) (ba bb : List Char) (hqa : 1 ≤ qa ∧ qa ≠ 2) (hqb : 1 ≤ qb ∧ qb ≠ 2)
    (hba : '"' ∉ ba) (hbb : '"' ∉ bb) (hna : ba ≠ [] ∨ qa = 1) (hnb : bb ≠ [] ∨ qb = 1) (ca cb : List Char)
    (hua : unescape (uniModel pf) qa ba = .ok ca) (hub : unescape (uniModel pf) qb bb = .ok cb)
    (oty : TokenType) (dop : Definition) (op : Instruction) (f : List Nat → List Nat → Bool)
    (hop : opTok oty = some (dop, op)) (hf : listOrder op = some f) (to : List Char)
    (hto : (to, oty) ∈ Garnish.Gen.LexTables.operatorChars) (input : Val F) :
    ∃ dd entry, buildText pf cc (quoteCharList qa ba ++ ' ' :: to ++ ' ' :: quoteCharList qb bb) = .ok (dd, entry) ∧
      RunsTo fo host dd entry input (Val.ofBool (f (ca.map Char.toNat) (cb.map Char.toNat))) := by
  obtain ⟨toks, hlex, htoks⟩ := toP_binop_spelling cc _ to _ .charList oty .charList
    (tokSpelling_quoteCharList cc hcc qa ba hqa.1 hqa.2 hba hna) (tokSpelling_operator cc hcc to oty hto)
    (tokSpelling_quoteCharList cc hcc qb bb hqb.1 hqb.2 hbb hnb)
  exact C12_text_charlist_order pf cc fo host qa qb ba bb (head_of_not_mem hba) (head_of_not_mem hbb) ca cb hua hub oty dop op f
    hop hf _ toks hlex _ to _ htoks input

end text

/-! ## non-vacuity on the Rust tables: the hypotheses hold, the text is the expected one -/

example : intBinopText 16 255 [] ['*', '*'] 10 2 [0] = "016_ff ** 2_".toList := by decide

example {F : Type} (pf : List Char → Option F) (fo : FloatOps F) (host : Host F) (input : Val F) :
    ∃ dd entry, buildText pf rustTables "016_ff == 25_5".toList = .ok (dd, entry) ∧
      RunsTo fo host dd entry input (Val.ofBool true) :=
  C11_text_int_equal' pf rustTables rustTables_lit fo host 16 255 10 255 [] [1] (by omega) (by omega) (by omega) (by omega)
    (by intro h; cases h) (by intro _ h; cases h) input

end Garnish.Props.C14Lex
