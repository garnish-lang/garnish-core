/-
`BasicGarnishData` and the relativised store contract `StoreLawsOn` (Model/Runtime/StoreOn.lean).

`basicStore_lawsOn_noList`: every clause of `StoreLawsOn (basicRStore nc) BInv BReadable` EXCEPT `addToList` and
`endList` — the structure `StoreLawsOnNoList` is `StoreLawsOn` without these two fields, copied clause by clause.
The two clauses are FALSE of BasicGarnishData as stated (`basic_addToList_clause_false`): `start_list(n)` announces
the length, `add_to_list` answers `Err` once `n` items are there and `end_list` answers `Err` before that.  What
holds instead is the law of the whole protocol — `start_list(n)`, exactly `n` × `add_to_list`, `end_list` —
`basic_buildList_law` (when the protocol answers `Ok`; that it does, under `Fits` and `LayoutOK`, is
`buildList_total`, Lemmas/BasicList.lean, and the law of the `RM` sequence Props/C19ListOn.lean).
`StoreLawsOnNoList.toOn`: the two clauses are all that separates `basicStore_lawsOn_noList` from `StoreLawsOn`; with a
length parameter in the contract (`building : σ → Option (Nat × Nat × List Nat)`: token, announced length, items;
`addToList` with the premise `items.length < n`, `endList` with `items.length = n`) they become provable.

`BInv` (Lemmas/BasicLaws.lean): `WFq` + `Fits` + typed register chain + typed frame chain; `BReadable st a` = `a` is a
readable address (`isNode`).  The run on the Basic store goes through the contract `StoreLawsOnL`
(Props/C01RefineBasic.lean, Props/C01RefineBasicList.lean); a loader bridge from source text to a Basic store is not
stated.  Note for a loader: `BState.init` has an EMPTY data block — Basic preallocates nothing (no Unit / False / True
cells), so the builder's constant addresses need no relocation by 3.
-/
import Garnish.Lemmas.BasicListLaws
import Garnish.Model.Runtime.StoreOn
namespace Garnish.Props.C19StoreOn
open Garnish Gen Garnish.Model.Equality Garnish.Model.Runtime Garnish.Model.Runtime.Basic Garnish.BasicOpt
open Garnish.Lemmas.Runtime.Basic

variable {F σ : Type}

/-- `StoreLawsOn` without the clauses `addToList` and `endList` -/
structure StoreLawsOnNoList (S : RStore F σ) (Inv : σ → Prop) (Readable : σ → Nat → Prop) : Prop where
  rangeTyped : ∀ s a p, (S.view s).range a = some p → (S.view s).typeOf a = some .range
  listIdx : ∀ s, Indexes (S.listLen s) (S.listItem s) (S.view s).listItems
  charIdx : ∀ s, Indexes (S.charLen s) (S.charItem s) (S.view s).chars
  byteIdx : ∀ s, Indexes (S.byteLen s) (S.byteItem s) (S.view s).bytes
  symIdx : ∀ s, Indexes (S.symLen s) (S.symItem s) (S.view s).symList
  addUnit : ∀ s, Inv s → AddsOn S Inv S.addUnit s .unit
  addTrue : ∀ s, Inv s → AddsOn S Inv S.addTrue s .tru
  addFalse : ∀ s, Inv s → AddsOn S Inv S.addFalse s .fls
  addNumber : ∀ n s, Inv s → AddsOn S Inv (S.addNumber n) s (.num n)
  addType : ∀ t s, Inv s → AddsOn S Inv (S.addType t) s (.type t)
  addChar : ∀ c s, Inv s → AddsOn S Inv (S.addChar c) s (.char c)
  addByte : ∀ b s, Inv s → AddsOn S Inv (S.addByte b) s (.byte b)
  addSymbol : ∀ y s, Inv s → AddsOn S Inv (S.addSymbol y) s (.sym y)
  addPair : ∀ l r vl vr s, Inv s → Decodes (S.view s) l vl → Decodes (S.view s) r vr →
    AddsOn S Inv (S.addPair (l, r)) s (.pair vl vr)
  addConcatenation : ∀ l r vl vr s, Inv s → Decodes (S.view s) l vl → Decodes (S.view s) r vr →
    (∀ x y, vl ≠ .slice x y) → (∀ x y, vr ≠ .slice x y) → AddsOn S Inv (S.addConcatenation l r) s (.concat vl vr)
  addRange : ∀ l r vl vr s, Inv s → Decodes (S.view s) l vl → Decodes (S.view s) r vr →
    AddsOn S Inv (S.addRange l r) s (.range vl vr)
  addSlice : ∀ l r vl vr s, Inv s → Decodes (S.view s) l vl → Decodes (S.view s) r vr →
    AddsOn S Inv (S.addSlice l r) s (.slice vl vr)
  addPartial : ∀ l r vl vr s, Inv s → Decodes (S.view s) l vl → Decodes (S.view s) r vr →
    AddsOn S Inv (S.addPartial l r) s (.part vl vr)
  mergeSome : ∀ l r vl vr v s, Inv s → Decodes (S.view s) l vl → Decodes (S.view s) r vr →
    Abs.mergeSymList vl vr = some v → (∀ n, vl ≠ .num n) → (∀ n, vr ≠ .num n) →
    AddsOn S Inv (S.mergeToSymbolList l r) s v
  startList : ∀ n s, Inv s → ∃ t s', S.startList n s = .ok (t, s') ∧ Eff S s s' (S.regs s) (S.vals s) ∧
    S.building s' = some (t, []) ∧ Inv s'
  popRegisterBuilding : ∀ s o s', S.popRegister s = .ok (o, s') → S.building s' = S.building s
  readable : ∀ s a v, Inv s → Decodes (S.view s) a v → v ≠ .custom → Readable s a
  pushRegister : ∀ a s, Inv s → Readable s a →
    ∃ s', S.pushRegister a s = .ok ((), s') ∧ Eff S s s' (a :: S.regs s) (S.vals s) ∧ Inv s'
  popRegisterNil : ∀ s, Inv s → S.regs s = [] → S.frames s = [] →
    ∃ s', S.popRegister s = .ok (none, s') ∧ Eff S s s' [] (S.vals s) ∧ Inv s'
  popRegisterCons : ∀ s a rest, Inv s → S.regs s = a :: rest → Deep S s rest →
    ∃ s', S.popRegister s = .ok (some a, s') ∧ Eff S s s' rest (S.vals s) ∧ Inv s'
  pushValueStack : ∀ a s, Inv s → Readable s a →
    ∃ s', S.pushValueStack a s = .ok ((), s') ∧ Eff S s s' (S.regs s) (a :: S.vals s) ∧ Inv s'
  popValueStackNil : ∀ s, Inv s → S.vals s = [] →
    ∃ s', S.popValueStack s = .ok (none, s') ∧ Eff S s s' (S.regs s) [] ∧ Inv s'
  popValueStackCons : ∀ s a rest, Inv s → S.vals s = a :: rest →
    ∃ s', S.popValueStack s = .ok (some a, s') ∧ Eff S s s' (S.regs s) rest ∧ Inv s'
  setCurrentNil : ∀ r s, Inv s → S.vals s = [] →
    ∃ s', S.setCurrentValue r s = .ok (false, s') ∧ Eff S s s' (S.regs s) [] ∧ Inv s'
  setCurrentCons : ∀ r s a rest, Inv s → Readable s r → S.vals s = a :: rest →
    ∃ s', S.setCurrentValue r s = .ok (true, s') ∧ Eff S s s' (S.regs s) (r :: rest) ∧ Inv s'
  pushFrame : ∀ j s, Inv s → ∃ s', S.pushFrame j s = .ok ((), s') ∧
    FEff S s s' (S.regs s) (S.vals s) ((j, S.regs s) :: S.frames s) ∧ Inv s'
  /-- `pop_frame` with no frame: `None`; the registers stay or are all gone -/
  popFrameNil : ∀ s, Inv s → S.frames s = [] →
    ∃ s' R, S.popFrame s = .ok (none, s') ∧ Eff S s s' R (S.vals s) ∧ (R = S.regs s ∨ R = []) ∧ Inv s'
  popFrameCons : ∀ s ret saved fs, Inv s → S.frames s = (ret, saved) :: fs →
    ∃ s', S.popFrame s = .ok (some ret, s') ∧ FEff S s s' saved (S.vals s) fs ∧ Inv s'
  setCursor : ∀ n s, ∃ s', S.setInstructionCursor n s = .ok ((), s') ∧ S.cursor s' = n ∧
    (∀ a v, Decodes (S.view s) a v → Decodes (S.view s') a v) ∧ S.jumpTable s' = S.jumpTable s ∧
    S.instrLen s' = S.instrLen s ∧ S.instruction s' = S.instruction s ∧ S.dataLen s' = S.dataLen s ∧
    S.regs s' = S.regs s ∧ S.vals s' = S.vals s ∧ S.trace s' = S.trace s ∧ S.frames s' = S.frames s ∧
    (Inv s → Inv s')
  deferOp : ∀ op l r, Records S (S.deferOp op l r) (.defer op l r)
  resolve : ∀ y, Records S (S.resolve y) (.resolve y)
  apply : ∀ e a, Records S (S.apply e a) (.apply e a)
  dataBound : ∀ s a v, Decodes (S.view s) a v → a < S.dataLen s

/-- the two list clauses are all that is missing -/
theorem StoreLawsOnNoList.toOn {S : RStore F σ} {Inv : σ → Prop} {Readable : σ → Nat → Prop}
    (L : StoreLawsOnNoList S Inv Readable)
    (hadd : ∀ t items a s, Inv s → S.building s = some (t, items) →
      ∃ t' s', S.addToList t a s = .ok (t', s') ∧ Eff S s s' (S.regs s) (S.vals s) ∧
        S.building s' = some (t', items ++ [a]) ∧ Inv s')
    (hend : ∀ t items vs s, Inv s → S.building s = some (t, items) → DecodesList (S.view s) items vs →
      Garnish.Model.Runtime.AddsOn S Inv (S.endList t) s (.list vs)) : StoreLawsOn S Inv Readable :=
  { L with addToList := hadd, endList := hend }

/-! ### overriding what the contract does not mention

`StoreLawsOn` speaks of `get_list_item_with_symbol` nowhere, and of `add_to_list` / `end_list` in two clauses only: a
store with other such operations has the contract as soon as the two clauses hold of the new ones. -/

section
variable {S : RStore F σ} {Inv : σ → Prop} {Readable : σ → Nat → Prop}
  (g : σ → Nat → Nat → Outcome (Option Nat)) (X : Nat → Nat → RM σ Nat) (Y : Nat → RM σ Nat)

@[reducible] def over (S : RStore F σ) (g : σ → Nat → Nat → Outcome (Option Nat)) (X : Nat → Nat → RM σ Nat)
    (Y : Nat → RM σ Nat) : RStore F σ :=
  { S with listItemWithSymbol := g, addToList := X, endList := Y }

theorem keeps_over : Keeps (over S g X Y) = Keeps S := by
  funext s s'
  exact propext ⟨fun h => ⟨h.dec, h.jump, h.ilen, h.cur, h.instr⟩, fun h => ⟨h.dec, h.jump, h.ilen, h.cur, h.instr⟩⟩

theorem eff_over : Eff (over S g X Y) = Eff S := by
  funext s s' r v
  exact propext ⟨fun h => ⟨keeps_over g X Y ▸ h.keeps, h.regs, h.vals, h.trace, h.frames⟩,
    fun h => ⟨(keeps_over g X Y).symm ▸ h.keeps, h.regs, h.vals, h.trace, h.frames⟩⟩

theorem feff_over : FEff (over S g X Y) = FEff S := by
  funext s s' r v f
  exact propext ⟨fun h => ⟨keeps_over g X Y ▸ h.keeps, h.regs, h.vals, h.trace, h.frames⟩,
    fun h => ⟨(keeps_over g X Y).symm ▸ h.keeps, h.regs, h.vals, h.trace, h.frames⟩⟩

theorem addsOn_over : Garnish.Model.Runtime.AddsOn (over S g X Y) Inv = Garnish.Model.Runtime.AddsOn S Inv := by
  funext m s v
  unfold Garnish.Model.Runtime.AddsOn
  rw [eff_over]

theorem StoreLawsOnNoList.override (N : StoreLawsOnNoList S Inv Readable)
    (hadd : ∀ t items a s, Inv s → S.building s = some (t, items) →
      ∃ t' s', X t a s = .ok (t', s') ∧ Eff S s s' (S.regs s) (S.vals s) ∧
        S.building s' = some (t', items ++ [a]) ∧ Inv s')
    (hend : ∀ t items vs s, Inv s → S.building s = some (t, items) → DecodesList (S.view s) items vs →
      Garnish.Model.Runtime.AddsOn S Inv (Y t) s (.list vs)) : StoreLawsOn (over S g X Y) Inv Readable where
  addToList := by simpa only [eff_over] using hadd
  endList := by simpa only [addsOn_over] using hend
  rangeTyped := by simpa only [eff_over, feff_over, addsOn_over] using N.rangeTyped
  listIdx := by simpa only [eff_over, feff_over, addsOn_over] using N.listIdx
  charIdx := by simpa only [eff_over, feff_over, addsOn_over] using N.charIdx
  byteIdx := by simpa only [eff_over, feff_over, addsOn_over] using N.byteIdx
  symIdx := by simpa only [eff_over, feff_over, addsOn_over] using N.symIdx
  addUnit := by simpa only [eff_over, feff_over, addsOn_over] using N.addUnit
  addTrue := by simpa only [eff_over, feff_over, addsOn_over] using N.addTrue
  addFalse := by simpa only [eff_over, feff_over, addsOn_over] using N.addFalse
  addNumber := by simpa only [eff_over, feff_over, addsOn_over] using N.addNumber
  addType := by simpa only [eff_over, feff_over, addsOn_over] using N.addType
  addChar := by simpa only [eff_over, feff_over, addsOn_over] using N.addChar
  addByte := by simpa only [eff_over, feff_over, addsOn_over] using N.addByte
  addSymbol := by simpa only [eff_over, feff_over, addsOn_over] using N.addSymbol
  addPair := by simpa only [eff_over, feff_over, addsOn_over] using N.addPair
  addConcatenation := by simpa only [eff_over, feff_over, addsOn_over] using N.addConcatenation
  addRange := by simpa only [eff_over, feff_over, addsOn_over] using N.addRange
  addSlice := by simpa only [eff_over, feff_over, addsOn_over] using N.addSlice
  addPartial := by simpa only [eff_over, feff_over, addsOn_over] using N.addPartial
  mergeSome := by simpa only [eff_over, feff_over, addsOn_over] using N.mergeSome
  startList := by simpa only [eff_over, feff_over, addsOn_over] using N.startList
  popRegisterBuilding := by simpa only [eff_over, feff_over, addsOn_over] using N.popRegisterBuilding
  readable := by simpa only [eff_over, feff_over, addsOn_over] using N.readable
  pushRegister := by simpa only [eff_over, feff_over, addsOn_over] using N.pushRegister
  popRegisterNil := by simpa only [eff_over, feff_over, addsOn_over] using N.popRegisterNil
  pushValueStack := by simpa only [eff_over, feff_over, addsOn_over] using N.pushValueStack
  popValueStackNil := by simpa only [eff_over, feff_over, addsOn_over] using N.popValueStackNil
  popValueStackCons := by simpa only [eff_over, feff_over, addsOn_over] using N.popValueStackCons
  setCurrentNil := by simpa only [eff_over, feff_over, addsOn_over] using N.setCurrentNil
  setCurrentCons := by simpa only [eff_over, feff_over, addsOn_over] using N.setCurrentCons
  pushFrame := by simpa only [eff_over, feff_over, addsOn_over] using N.pushFrame
  popFrameNil := by simpa only [eff_over, feff_over, addsOn_over] using N.popFrameNil
  popFrameCons := by simpa only [eff_over, feff_over, addsOn_over] using N.popFrameCons
  setCursor := by simpa only [eff_over, feff_over, addsOn_over] using N.setCursor
  dataBound := by simpa only [eff_over, feff_over, addsOn_over] using N.dataBound
  popRegisterCons := fun s a rest hi hr hd => by simpa only [eff_over] using N.popRegisterCons s a rest hi hr hd
  deferOp := N.deferOp
  resolve := N.resolve
  apply := N.apply

theorem _root_.Garnish.Model.Runtime.StoreLawsOn.noList (L : StoreLawsOn S Inv Readable) :
    StoreLawsOnNoList S Inv Readable := { L with }

end

/-- what may be pushed on a stack of `BasicGarnishData`: a readable address -/
def BReadable (st : BState) (a : Nat) : Prop := isNode st.store.cells a = true

/-- every clause but the two list clauses, for any room predicate (Lemmas/BasicLaws.lean `Room`) -/
theorem basicStore_lawsOn_noListP (nc : NumCode F) {P : Store → Prop} (R : Room P) :
    StoreLawsOnNoList (basicRStore nc) (BInvP P) BReadable where
  rangeTyped := fun st a p h => rangeTyped_law nc st a p h
  listIdx := fun st => list_indexes _
  charIdx := fun st => seq_indexes _
  byteIdx := fun st => seq_indexes _
  symIdx := fun st => seq_indexes _
  addUnit := fun _ h => addUnit_law nc R h
  addTrue := fun _ h => addTrue_law nc R h
  addFalse := fun _ h => addFalse_law nc R h
  addNumber := fun n _ h => addNumber_law nc R h n
  addType := fun t _ h => addType_law nc R h t
  addChar := fun c _ h => addChar_law nc R h c
  addByte := fun b _ h => addByte_law nc R h b
  addSymbol := fun y _ h => addSymbol_law nc R h y
  addPair := fun _ _ _ _ _ h hl hr => addPair_law nc R h hl hr
  addConcatenation := fun _ _ _ _ _ h hl hr _ _ => addConcatenation_law nc R h hl hr
  addRange := fun _ _ _ _ _ h hl hr => addRange_law nc R h hl hr
  addSlice := fun _ _ _ _ _ h hl hr => addSlice_law nc R h hl hr
  addPartial := fun _ _ _ _ _ h hl hr => addPartial_law nc R h hl hr
  mergeSome := fun _ _ _ _ _ _ h hl hr hm h1 h2 => mergeSome_law nc R h hl hr hm h1 h2
  startList := fun n _ h => startList_law nc R h n
  popRegisterBuilding := fun st o st' h => by
    change liftPop (fun s => s.popRegister) st = .ok (o, st') at h
    unfold liftPop at h
    split at h
    · simp only [Outcome.ok.injEq, Prod.mk.injEq] at h
      rw [← h.2]; rfl
    all_goals cases h
  readable := fun _ _ _ h hd _ => (decodes_node h.wfq hd).2
  pushRegister := fun _ _ h ha => pushRegister_law nc R h ha
  popRegisterNil := fun _ h hn _ => (popRegister_law nc R h).1 hn
  popRegisterCons := fun _ a rest h hc _ => (popRegister_law nc R h).2 a rest hc
  pushValueStack := fun _ _ h ha => pushValue_law nc R h ha
  popValueStackNil := fun _ h hn => (popValue_law nc R h).1 hn
  popValueStackCons := fun _ a rest h hc => (popValue_law nc R h).2 a rest hc
  setCurrentNil := fun r _ h hv => (setCurrent_law nc R h r).1 hv
  setCurrentCons := fun r _ a rest h hr hv => (setCurrent_law nc R h r).2 a rest hr hv
  pushFrame := fun j _ h => pushFrame_law nc R h j
  popFrameNil := fun _ h hn => by
    obtain ⟨st', h1, h2, h3⟩ := (popFrame_law nc R h).1 hn
    exact ⟨st', _, h1, h2, Or.inl rfl, h3⟩
  popFrameCons := fun _ ret saved fs h hf => (popFrame_law nc R h).2 ret saved fs hf
  setCursor := fun n st => setCursor_law nc n st
  deferOp := fun op l r => records_law nc _
  resolve := fun y => records_law nc _
  apply := fun e a => records_law nc _
  dataBound := fun st a v hd => by
    have ht := Garnish.Lemmas.EqualityRefine.decodes_typeOf hd
    change (basicView nc.dec st.store.cells).typeOf a = _ at ht
    rw [bv_typeOf] at ht
    cases hc : st.store.cells[a]? with
    | none => simp [hc] at ht
    | some c => exact Garnish.lt_of_getElem? hc

/-- **basicStore_lawsOn_noList** -/
theorem basicStore_lawsOn_noList (nc : NumCode F) : StoreLawsOnNoList (basicRStore nc) BInv BReadable :=
  binvP_fits ▸ basicStore_lawsOn_noListP nc room_fits

/-- `StoreLawsOn.addToList` is false of `BasicGarnishData` -/
theorem basic_addToList_clause_false (nc : NumCode F) :
    ¬ (∀ t items a st, BInv st → (basicRStore nc).building st = some (t, items) →
        ∃ t' st', (basicRStore nc).addToList t a st = .ok (t', st') ∧
          Eff (basicRStore nc) st st' ((basicRStore nc).regs st) ((basicRStore nc).vals st) ∧
          (basicRStore nc).building st' = some (t', items ++ [a]) ∧ BInv st') :=
  addToList_clause_false nc

/-- hence `StoreLawsOn (basicRStore nc) BInv BReadable` itself does not hold -/
theorem basic_not_lawsOn (nc : NumCode F) : ¬ StoreLawsOn (basicRStore nc) BInv BReadable :=
  fun L => basic_addToList_clause_false nc L.addToList

/-- **the Basic list law**: the whole protocol with exactly the announced number of items -/
theorem basic_buildList_law (nc : NumCode F) {st : BState} (hinv : BInv st) {items : List Nat} {vs : List (Val F)}
    (hd : DecodesList ((basicRStore nc).view st) items vs) {s' : Store} {li : Nat}
    (h : st.store.buildList items = .ok (s', li)) :
    li = st.store.cells.size ∧ Decodes (basicView nc.dec s'.cells) li (.list vs) ∧
      Eff (basicRStore nc) st { st with store := s' } ((basicRStore nc).regs st) ((basicRStore nc).vals st) ∧
      BInv { st with store := s' } :=
  (buildList_law nc room_fits hinv.toP hd h).imp id (.imp id (.imp id BInvP.inv))

end Garnish.Props.C19StoreOn
