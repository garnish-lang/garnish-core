/-
C06 — evaluation is stack-balanced on every path: the static half.

`absDepth P entry` is an abstract interpreter over the instruction stream: it assigns to every reachable
instruction the operand depth relative to the base of the current frame, following both edges of conditional
jumps and of `And`/`Or`, treating a call (`Apply`, `EmptyApply`) by its net effect and starting every expression
body (the program's entry and the target of every `Expression` constant) at depth 0. It answers `some d` only
when the assignment is consistent: every instruction finds the operands it pops, the depth at a join is the same
on all incoming edges, and the depth is exactly 1 at every `EndExpression`.

The answer is validated by `checkDepth` (a local consistency check per instruction), so soundness does not
depend on the work-list search: `absDepth_sound` — if `absDepth P entry = some d` then along every execution of
`Abs.step` from the entry (operands empty, no frames) in which the expressions entered are expression bodies
known to the analysis, the frame-relative operand depth at `pc` is `d[pc]`, is never negative, and is 1 at every
`EndExpression`; in particular no instruction ever finds too few operands.
-/
import Garnish.Lemmas.MachineExec
import Garnish.Props.C06
namespace Garnish.Props.C06
open Garnish Gen Garnish.Abs

variable {F : Type}

/-- instructions of the generic operator arm of `step` that pop one operand and push one -/
def isUnaryOp : Instruction → Bool
  | .opposite | .absoluteValue | .bitwiseNot | .not | .tis | .typeOf | .accessLeftInternal
  | .accessRightInternal | .accessLengthInternal => true
  | _ => false

/-- instructions of the generic operator arm of `step` that pop two operands and push one -/
def isBinaryOp : Instruction → Bool
  | .add | .subtract | .multiply | .divide | .integerDivide | .power | .remainder
  | .bitwiseAnd | .bitwiseOr | .bitwiseXor | .bitwiseShiftLeft | .bitwiseShiftRight
  | .xor | .typeEqual | .equal | .notEqual | .lessThan | .lessThanOrEqual | .greaterThan | .greaterThanOrEqual
  | .access | .makeRange | .makeStartExclusiveRange | .makeEndExclusiveRange | .makeExclusiveRange
  | .concat | .partialApply => true
  | _ => false

/-- successors of the instruction at `pc` entered with relative depth `k`, with the depth they are entered with;
`none`: the instruction cannot execute at this depth (too few operands, missing operand, `EndExpression` at a
depth other than 1) -/
def edges (P : Prog F) (pc : Nat) (k : Nat) : Option (List (Nat × Nat)) :=
  match P.instrs[pc]? with
  | none => some []
  | some (i, o) =>
    let needs (n : Nat) (r : List (Nat × Nat)) : Option (List (Nat × Nat)) := if n ≤ k then some r else none
    let target : Option Nat := o.bind (fun j => P.jumps[j]?)
    match i with
    | .put | .putValue | .resolve => some [(pc + 1, k + 1)]
    | .invalid | .startSideEffect => some [(pc + 1, k)]
    | .pushValue | .updateValue | .endSideEffect => needs 1 [(pc + 1, k - 1)]
    | .jumpTo => target.map (fun t => [(t, k)])
    | .jumpIfTrue | .jumpIfFalse => target.bind (fun t => needs 1 [(t, k - 1), (pc + 1, k - 1)])
    | .and | .or => target.bind (fun t => needs 1 [(t, k - 1), (pc + 1, k)])
    | .reapply => target.bind (fun t => needs 1 [(t, k - 1)])
    | .endExpression => if k = 1 then some [] else none
    | .apply => needs 2 [(pc + 1, k - 1)]
    | .emptyApply => needs 1 [(pc + 1, k)]
    | .makePair => needs 2 [(pc + 1, k - 1)]
    | .makeList => o.bind (fun n => needs n [(pc + 1, k - n + 1)])
    | .applyType => some []                     -- the machine stops with an error: no successor
    | op =>
      if isUnaryOp op then needs 1 [(pc + 1, k)]
      else if isBinaryOp op then needs 2 [(pc + 1, k - 1)]
      else none

/-- entries of expression bodies: the targets of the `Expression` constants -/
def exprEntries (P : Prog F) : List Nat :=
  P.consts.toList.filterMap (fun v => match v with
    | .expr j => P.jumps[j]?
    | _ => none)

/-- local consistency of an assignment -/
def checkAt (P : Prog F) (d : Array (Option Nat)) (pc : Nat) : Bool :=
  match d[pc]? with
  | some (some k) =>
    match edges P pc k with
    | none => false
    | some es => es.all (fun e => decide (P.instrs.size ≤ e.1) || d[e.1]? == some (some e.2))
  | _ => true

def checkDepth (P : Prog F) (entries : List Nat) (d : Array (Option Nat)) : Bool :=
  d.size == P.instrs.size &&
  entries.all (fun t => decide (P.instrs.size ≤ t) || d[t]? == some (some 0)) &&
  (List.range P.instrs.size).all (checkAt P d)

/-- work-list search; `Except.error pc` = the program counter at which an inconsistency was found -/
def infer (P : Prog F) : Nat → List (Nat × Nat) → Array (Option Nat) → Except Nat (Array (Option Nat))
  | 0, [], d => .ok d
  | 0, (pc, _) :: _, _ => .error pc
  | _ + 1, [], d => .ok d
  | fuel + 1, (pc, k) :: work, d =>
    if P.instrs.size ≤ pc then infer P fuel work d else
    match d[pc]? with
    | some (some k') => if k = k' then infer P fuel work d else .error pc
    | _ =>
      match edges P pc k with
      | none => .error pc
      | some es => infer P fuel (es ++ work) (d.setIfInBounds pc (some k))

def absDepthE (P : Prog F) (entry : Nat) : Except Nat (Array (Option Nat)) :=
  let entries := entry :: exprEntries P
  match infer P (3 * P.instrs.size + entries.length + 1) (entries.map (fun t => (t, 0)))
      (Array.replicate P.instrs.size none) with
  | .error pc => .error pc
  | .ok d => if checkDepth P entries d then .ok d else .error P.instrs.size

/-- the abstract depth of every reachable instruction, if the program is balanced -/
def absDepth (P : Prog F) (entry : Nat) : Option (Array (Option Nat)) :=
  match absDepthE P entry with
  | .ok d => some d
  | .error _ => none

theorem absDepth_checked {P : Prog F} {entry : Nat} {d : Array (Option Nat)} (h : absDepth P entry = some d) :
    checkDepth P (entry :: exprEntries P) d = true := by
  simp only [absDepth, absDepthE] at h
  split at h
  · rename_i d' hd
    split at hd
    · simp at hd
    · split at hd
      · rename_i hc
        simp only [Except.ok.injEq] at hd
        simp only [Option.some.injEq] at h
        subst hd; subst h
        exact hc
      · simp at hd
  · simp at h

/-! ### arity of `step` -/

variable {fo : FloatOps F} {host : Host F}

theorem pushOut_len {s s' : MState F} {o : OpOut F} (h : pushOut host s o = .ok s') :
    s'.regs.length = s.regs.length + 1 ∧ s'.frames = s.frames ∧ s'.pc = s.pc :=
  have h4 := C06_pushOut_one host s s' o h
  ⟨h4.1, h4.2.2.1, h4.2.2.2⟩

def Plain (P : Prog F) (s s' : MState F) (b : Nat) (es : List (Nat × Nat)) : Prop :=
  s'.pc < P.instrs.size ∧ s'.frames = s.frames ∧ ∃ e ∈ es, s'.pc = e.1 ∧ s'.regs.length = b + e.2

theorem edges_generic {P : Prog F} {pc k : Nat} {op : Instruction} {o : Option Nat}
    (hi : P.instrs[pc]? = some (op, o)) (hg : (isUnaryOp op || isBinaryOp op) = true) :
    edges P pc k = (if isUnaryOp op then (if 1 ≤ k then some [(pc + 1, k)] else none)
      else (if 2 ≤ k then some [(pc + 1, k - 1)] else none)) := by
  unfold edges
  simp only [hi]
  cases op <;> first | rfl | cases hg

theorem needs_some {n k : Nat} {r es : List (Nat × Nat)} (h : (if n ≤ k then some r else none) = some es) :
    n ≤ k ∧ es = r := by
  split at h
  · simp only [Option.some.injEq] at h; exact ⟨by assumption, h.symm⟩
  · cases h

theorem unary_table {op : Instruction} : (isUnaryOp op = true → ∀ v : Val F, (unaryOp fo op v).isSome) ∧
    (isUnaryOp op = false → ∀ v : Val F, unaryOp fo op v = none) := by
  cases op <;> exact ⟨fun h v => by cases h <;> rfl, fun h v => by cases h <;> rfl⟩

theorem op_arity {i : Instruction} (h : Lemmas.Runtime.isGeneric i = true) : (isUnaryOp i || isBinaryOp i) = true := by
  cases i <;> first | rfl | cases h

/-- an executed instruction other than a call or a return keeps the frames and leaves the registers at the depth of one
of its edges: it consumes and produces exactly the operands of its fixed arity -/
theorem exec_arity {P : Prog F} {s s1 : MState F} {i : Instruction} {o : Option Nat} {n k b : Nat} {es : List (Nat × Nat)}
    (hx : Exec fo host P s i o s1 n) (hi : P.instrs[s.pc]? = some (i, o)) (hk : s.regs.length = b + k)
    (he : edges P s.pc k = some es) (h1 : i ≠ .apply) (h2 : i ≠ .emptyApply) (h3 : i ≠ .endExpression) :
    s1.frames = s.frames ∧ ∃ k', (n, k') ∈ es ∧ s1.regs.length = b + k' := by
  have he0 := he
  unfold edges at he
  simp only [hi] at he
  cases hx with
  | apply | emptyApply | ret | top => contradiction
  | invalid | startNil | start => cases he; exact ⟨rfl, k, by simp, hk⟩
  | put | putValueNil | putValue => cases he; exact ⟨rfl, k + 1, by simp, by simp [hk]; omega⟩
  | resolve _ h => cases he; exact ⟨(resolveStep_len h).2, k + 1, by simp, by rw [(resolveStep_len h).1, hk]; omega⟩
  | pushValue hr | updateValue hr | endSide _ hr | makePair hr =>
    obtain ⟨_, rfl⟩ := needs_some he; exact ⟨rfl, k - 1, by simp, by simp [hr] at hk; simp; omega⟩
  | jumpTo hj => simp only [Option.bind, jumpTarget_ok hj, Option.map] at he; cases he; exact ⟨rfl, k, by simp, hk⟩
  | jumpIfTrue hj hr | jumpIfFalse hj hr =>
    simp only [Option.bind, jumpTarget_ok hj] at he
    obtain ⟨_, rfl⟩ := needs_some he
    exact ⟨rfl, k - 1, by split <;> simp, by simp [hr] at hk; simp; omega⟩
  | andJump hr _ hj | orJump hr _ hj | reapply hr hj =>
    simp only [Option.bind, jumpTarget_ok hj] at he
    obtain ⟨_, rfl⟩ := needs_some he
    exact ⟨rfl, k - 1, by simp, by simp [hr] at hk; simp; omega⟩
  | @andFalse j _ _ hr | @orTrue j _ _ hr =>
    -- the branch is not taken, but `edges` asks for the target all the same
    simp only [Option.bind] at he
    cases ht : P.jumps[j]? with
    | none => rw [ht] at he; cases he
    | some t =>
      rw [ht] at he
      obtain ⟨_, rfl⟩ := needs_some he
      exact ⟨rfl, k, by simp, by simp [hr] at hk; simp; omega⟩
  | @makeList m hn =>
    simp only [Option.bind] at he
    obtain ⟨_, rfl⟩ := needs_some he
    exact ⟨rfl, k - m + 1, by simp, by simp [List.length_drop]; omega⟩
  | unary hg hr hu hp =>
    have hun : isUnaryOp i = true := by
      cases hb : isUnaryOp i with
      | true => rfl
      | false => rw [unary_table.2 hb] at hu; cases hu
    obtain ⟨l1, l2, _⟩ := pushOut_len hp
    rw [edges_generic hi (op_arity hg), if_pos hun] at he0
    obtain ⟨_, rfl⟩ := needs_some he0
    exact ⟨l2, k, by simp, by rw [l1]; simp [hr] at hk; simp; omega⟩
  | @binary _ _ top _ _ _ _ hg hr hu hb hp =>
    have hun : isUnaryOp i = false := by
      cases hb : isUnaryOp i with
      | false => rfl
      | true => have := (unary_table (fo := fo)).1 hb top; rw [hu] at this; cases this
    obtain ⟨l1, l2, _⟩ := pushOut_len hp
    rw [edges_generic hi (op_arity hg), hun] at he0
    obtain ⟨_, rfl⟩ := needs_some he0
    exact ⟨l2, k - 1, by simp, by rw [l1]; simp [hr] at hk; simp; omega⟩

/-- `step_arity`: every instruction other than a call or a return keeps the frames and moves along one of its
edges, consuming and producing exactly the operands of its fixed arity -/
theorem step_arity {P : Prog F} {s s' : MState F} {i : Instruction} {o : Option Nat} {k b : Nat} {es : List (Nat × Nat)}
    (hi : P.instrs[s.pc]? = some (i, o)) (hk : s.regs.length = b + k) (he : edges P s.pc k = some es)
    (hs : step fo host P s = .running s') (h1 : i ≠ .apply) (h2 : i ≠ .emptyApply) (h3 : i ≠ .endExpression) :
    Plain P s s' b es := by
  obtain ⟨i', o', s1, n, hf, hx, hlt, rfl⟩ := exec_of_running hs
  rw [hi] at hf
  cases hf
  obtain ⟨hfr, k', hm, hl⟩ := exec_arity hx hi hk he h1 h2 h3
  exact ⟨hlt, hfr, _, hm, rfl, hl⟩

/-! ### the invariant and its preservation -/

def base : List (Frame F) → Nat
  | [] => 0
  | fr :: _ => fr.saved.length

/-- every frame's return point expects the caller's operands plus the result of the call -/
def FramesOK (P : Prog F) (d : Array (Option Nat)) : List (Frame F) → Prop
  | [] => True
  | fr :: rest => base rest ≤ fr.saved.length ∧
      (P.instrs.size ≤ fr.ret ∨ d[fr.ret]? = some (some (fr.saved.length - base rest + 1))) ∧ FramesOK P d rest

/-- the frame-relative operand depth at `pc` is the abstract depth (in particular it is not negative) -/
def Good (P : Prog F) (d : Array (Option Nat)) (s : MState F) : Prop :=
  base s.frames ≤ s.regs.length ∧ d[s.pc]? = some (some (s.regs.length - base s.frames)) ∧ FramesOK P d s.frames

theorem check_at {P : Prog F} {entries : List Nat} {d : Array (Option Nat)} (hc : checkDepth P entries d = true)
    {pc k : Nat} (hd : d[pc]? = some (some k)) :
    ∃ es, edges P pc k = some es ∧ ∀ e ∈ es, P.instrs.size ≤ e.1 ∨ d[e.1]? = some (some e.2) := by
  simp only [checkDepth, Bool.and_eq_true, beq_iff_eq, List.all_eq_true, List.mem_range] at hc
  obtain ⟨⟨hsz, _⟩, hall⟩ := hc
  have hpc : pc < P.instrs.size := by
    rw [← hsz]
    exact (Array.getElem?_eq_some_iff.mp hd).1
  have := hall pc hpc
  simp only [checkAt, hd] at this
  split at this
  · simp at this
  · rename_i es he
    refine ⟨es, he, fun e hm => ?_⟩
    have := List.all_eq_true.1 this e hm
    simpa using this

theorem check_entry {P : Prog F} {entries : List Nat} {d : Array (Option Nat)} (hc : checkDepth P entries d = true)
    {t : Nat} (ht : t ∈ entries) : P.instrs.size ≤ t ∨ d[t]? = some (some 0) := by
  simp only [checkDepth, Bool.and_eq_true, beq_iff_eq, List.all_eq_true] at hc
  have := hc.1.2 t ht
  simpa using this

/-- what `apply_internal` leaves of `Good`: `rs` are the registers under the operands of the call, the depth at the
instruction after it is theirs plus the result -/
theorem good_applyStep {P : Prog F} {entries : List Nat} {d : Array (Option Nat)} (hc : checkDepth P entries d = true)
    {s s1 : MState F} {rs : List (Val F)} {instr : Instruction} {ur : Bool} {l r : Val F} {n : Nat}
    (ha : applyStep fo host P { s with regs := rs } instr ur l r = .ok (s1, n)) (hlt : n < P.instrs.size)
    (hb : base s.frames ≤ rs.length) (hf : FramesOK P d s.frames)
    (hedge : P.instrs.size ≤ s.pc + 1 ∨ d[s.pc + 1]? = some (some (rs.length - base s.frames + 1)))
    (henter : s1.frames.length = s.frames.length + 1 → n ∈ entries) : Good P d { s1 with pc := n } := by
  rcases applyStep_shape ha with ⟨e1, e2⟩ | ⟨l1, l2, hn⟩
  · -- a body is entered: depth 0 there, the frame returns to the instruction after the call
    have e1 : s1.regs = rs := e1
    have e2 : s1.frames = ⟨s.pc + 1, rs⟩ :: s.frames := e2
    rcases check_entry hc (henter (by rw [e2]; rfl)) with h0 | h0
    · omega
    · refine ⟨?_, ?_, ?_⟩
      · show base s1.frames ≤ s1.regs.length
        rw [e1, e2]; exact Nat.le_refl _
      · show d[n]? = some (some (s1.regs.length - base s1.frames))
        rw [e1, e2, h0]; simp [base]
      · show FramesOK P d s1.frames
        rw [e2]; exact ⟨hb, hedge, hf⟩
  · have l1 : s1.regs.length = rs.length + 1 := l1
    have l2 : s1.frames = s.frames := l2
    have hn : n = s.pc + 1 := hn
    subst hn
    rcases hedge with h | h
    · omega
    · refine ⟨?_, ?_, ?_⟩
      · show base s1.frames ≤ s1.regs.length
        rw [l1, l2]; omega
      · show d[s.pc + 1]? = some (some (s1.regs.length - base s1.frames))
        rw [h, l1, l2]; congr 2; omega
      · show FramesOK P d s1.frames
        rw [l2]; exact hf

/-- one step of the machine preserves the invariant, provided a call enters an expression body known to the
analysis (an entry in `entries`) -/
theorem good_step {P : Prog F} {entries : List Nat} {d : Array (Option Nat)} (hc : checkDepth P entries d = true)
    {s s' : MState F} (hg : Good P d s) (hs : step fo host P s = .running s')
    (henter : s'.frames.length = s.frames.length + 1 → s'.pc ∈ entries) : Good P d s' := by
  obtain ⟨hb, hd, hf⟩ := hg
  obtain ⟨es, he, hes⟩ := check_at hc hd
  have hk : s.regs.length = base s.frames + (s.regs.length - base s.frames) := by omega
  obtain ⟨i, o, s1, n, hi, hx, hlt, rfl⟩ := exec_of_running hs
  -- an instruction that is neither a call nor a return moves along an edge the analysis has checked
  have plain : i ≠ .apply → i ≠ .emptyApply → i ≠ .endExpression → Good P d { s1 with pc := n } := by
    intro h1 h2 h3
    obtain ⟨pf, k', hm, hl⟩ := exec_arity hx hi hk he h1 h2 h3
    rcases hes _ hm with h | h
    · exact absurd hlt (Nat.not_lt.2 h)
    · exact ⟨by rw [pf, hl]; omega, by rw [h, pf, hl]; congr 2; omega, by rw [pf]; exact hf⟩
  cases hx with
  | apply hr ha =>
    simp only [edges, hi] at he
    obtain ⟨hk2, rfl⟩ := needs_some he
    have hedge := hes (s.pc + 1, s.regs.length - base s.frames - 1) (by simp)
    rw [hr] at hb hk2 hedge
    simp only [List.length_cons] at hb hk2 hedge
    exact good_applyStep hc ha hlt (by omega) hf (hedge.imp id fun h => by rw [h]; congr 2; omega) henter
  | emptyApply hr ha =>
    simp only [edges, hi] at he
    obtain ⟨hk2, rfl⟩ := needs_some he
    have hedge := hes (s.pc + 1, s.regs.length - base s.frames) (by simp)
    rw [hr] at hb hk2 hedge
    simp only [List.length_cons] at hb hk2 hedge
    exact good_applyStep hc ha hlt (by omega) hf (hedge.imp id fun h => by rw [h]; congr 2; omega) henter
  | ret hr hfr =>
    rw [hfr] at hf
    obtain ⟨f1, f2, f3⟩ := hf
    rcases f2 with h | h
    · omega
    · refine ⟨?_, ?_, f3⟩
      · show base _ ≤ (_ :: _).length
        simp only [List.length_cons]; omega
      · show d[_]? = some (some ((_ :: _).length - base _))
        rw [h]; simp only [List.length_cons]; congr 2; omega
  | top => omega
  | unary hg | binary hg => exact plain (by rintro rfl; cases hg) (by rintro rfl; cases hg) (by rintro rfl; cases hg)
  | _ => exact plain nofun nofun nofun

/-! ### soundness -/

/-- executions of the machine in which every call enters an expression body known to the analysis -/
inductive ReachK (fo : FloatOps F) (host : Host F) (P : Prog F) (entries : List Nat) : MState F → MState F → Prop where
  | refl (s : MState F) : ReachK fo host P entries s s
  | snoc {s s' s'' : MState F} : ReachK fo host P entries s s' → step fo host P s' = .running s'' →
      (s''.frames.length = s'.frames.length + 1 → s''.pc ∈ entries) → ReachK fo host P entries s s''

/-- **absDepth_sound**: if the analysis returns an assignment `d`, then in every state reached from the entry (no
operands, no frames) the operand depth relative to the current frame is `d[pc]` — a natural number, so never
negative — and every frame's return point is consistent with it -/
theorem absDepth_sound {P : Prog F} {entry : Nat} {d : Array (Option Nat)} (h : absDepth P entry = some d)
    (hentry : entry < P.instrs.size) (vals : List (Val F)) (tr : List (HostCall F)) {s : MState F}
    (hr : ReachK fo host P (entry :: exprEntries P) ⟨entry, [], vals, [], tr⟩ s) : Good P d s := by
  have hc := absDepth_checked h
  induction hr with
  | refl =>
    rcases check_entry hc (List.mem_cons_self) with h0 | h0
    · omega
    · exact ⟨Nat.le_refl _, by simpa [base] using h0, trivial⟩
  | snoc _ hs hen ih => exact good_step hc ih hs hen

/-- … in particular the depth is exactly 1 at every `EndExpression` that is reached, and every reached
instruction finds the operands of its arity (`edges` is defined at the abstract depth) -/
theorem absDepth_endExpression_one {P : Prog F} {entry : Nat} {d : Array (Option Nat)} (h : absDepth P entry = some d)
    (hentry : entry < P.instrs.size) (vals : List (Val F)) (tr : List (HostCall F)) {s : MState F}
    (hr : ReachK fo host P (entry :: exprEntries P) ⟨entry, [], vals, [], tr⟩ s)
    {o : Option Nat} (hi : P.instrs[s.pc]? = some (.endExpression, o)) :
    s.regs.length = base s.frames + 1 := by
  obtain ⟨hb, hd, _⟩ := absDepth_sound (fo := fo) (host := host) h hentry vals tr hr
  obtain ⟨es, he, _⟩ := check_at (absDepth_checked h) hd
  simp only [edges, hi] at he
  split at he
  · omega
  · cases he

theorem absDepth_operands_present {P : Prog F} {entry : Nat} {d : Array (Option Nat)} (h : absDepth P entry = some d)
    (hentry : entry < P.instrs.size) (vals : List (Val F)) (tr : List (HostCall F)) {s : MState F}
    (hr : ReachK fo host P (entry :: exprEntries P) ⟨entry, [], vals, [], tr⟩ s) :
    ∃ es, edges P s.pc (s.regs.length - base s.frames) = some es := by
  obtain ⟨_, hd, _⟩ := absDepth_sound (fo := fo) (host := host) h hentry vals tr hr
  obtain ⟨es, he, _⟩ := check_at (absDepth_checked h) hd
  exact ⟨es, he⟩

/-- The completeness statement for compiled code, as a predicate on a compiler and a well-formedness condition.
It is PROVED for `Abs.compile` and `WFBalanced` in Props/C01Compile.lean (`C06.C06_compile_balanced`, with
`C06_compile_balanced_sound`): every compiled program whose bodies are well formed and contain `^~` in tail positions
only — in every body, not just the top-level one — is balanced. Operand-position `^~` (`{ 1 + (^~ 2) }`) is rejected by
the analysis by design: the depth at the body's entry then differs by path (DESIGN §6 C06 "Decision recorded here");
an else-chain without a final arm is rejected with depth 0 at `EndExpression` (finding #6). -/
def C06_compile_balanced_statement {Prg : Type} (compile : Prg → Prog F) (WF : Prg → Prop) : Prop :=
  ∀ p, WF p → ∃ d, absDepth (compile p) ((compile p).jumps[0]?.getD 0) = some d

end Garnish.Props.C06
