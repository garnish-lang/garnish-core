/-
C04, builder half — towards the total order: the last visits of two different nodes of one root are ordered (`lastB_total`),
hence so are the moments at which two out-of-line children of one root are pushed (`pushed_total`, Props/C04Eval4.lean).
The facts about paths that the total order rests on (`sub_split`, `root_above`, `path_decomp`) stand beside `Sub` and `IDesc`
in Lemmas/BuildSeq.lean and Lemmas/BuildLifo.lean.
-/
import Garnish.Props.C04Eval2
namespace Garnish.Props.C04Order
open Garnish Garnish.Gen Garnish.Model.Parser Garnish.Model.Build Garnish.Lemmas.Build
open Garnish.Lemmas.BuildSeq

variable {nodes : Array ParseNode} {root : Nat} {G : Nat → Prop}

/-- a link that `build` follows: in line, or out of line with a scheduler -/
def GoodLink (nodes : Array ParseNode) (root y c : Nat) : Prop :=
  ILink nodes y c ∨ (OolChild nodes y c ∧ ∃ s, Scheduled nodes root c s y)

/-- the last visits of two different nodes of one root are ordered (neither is a Group) -/
theorem lastB_total {ρ s1 s2 : Nat} {n1 n2 : ParseNode} (hρ : Sub nodes root ρ)
    (h1 : IDesc nodes ρ s1) (h2 : IDesc nodes ρ s2) (hne : s1 ≠ s2) (hn1 : nodes[s1]? = some n1) (hn2 : nodes[s2]? = some n2)
    (hg1 : layout n1.definition ≠ .gr) (hg2 : layout n2.definition ≠ .gr) :
    LastB nodes (InTree nodes root) s1 s2 ∨ LastB nodes (InTree nodes root) s2 s1 := by
  -- `b` lies in line below the child `c` of `a`, which is not a Group
  have below : ∀ {a b c : Nat} {an : ParseNode}, nodes[a]? = some an → layout an.definition ≠ .gr → ILink nodes a c →
      IDesc nodes c b → LastB nodes (InTree nodes root) a b ∨ LastB nodes (InTree nodes root) b a := by
    intro a b c an han hga hc hd
    rcases ilink_pre_post hc with h | h | ⟨an', han', hk⟩
    · exact Or.inr (Or.inr (Or.inl ⟨c, h, hd⟩))
    · exact Or.inl (Or.inr (Or.inr ⟨c, h, hd⟩))
    · rw [han] at han'; cases han'; exact absurd hk hga
  rcases idesc_order h1 h2 hne with ⟨y, a, b, hy, ho, h | h⟩ | ⟨c, hc, hd⟩ | ⟨c, hc, hd⟩
  · exact Or.inl (Or.inl ⟨y, a, b, Or.inl (Sub.trans hρ hy.sub), ho, h.1, h.2⟩)
  · exact Or.inr (Or.inl ⟨y, a, b, Or.inl (Sub.trans hρ hy.sub), ho, h.1, h.2⟩)
  · exact below hn1 hg1 hc hd
  · exact (below hn2 hg2 hc hd).symm

end Garnish.Props.C04Order
