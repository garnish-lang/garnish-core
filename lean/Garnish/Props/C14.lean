/-
C14 — literals denote exactly what they spell.
Property theorems only; the spelling functions and the escape-processing specifications are in Garnish/Spec/Spell.lean,
helper lemmas in Garnish/Lemmas/Literals.lean. The code model is Garnish/Model/Literals.lean (parsing.rs as it is now).

`pf` is Rust's `f64::from_str` (abstract: Rust `std` is trusted). Texts are `List Char`.
All theorems are unbounded: every `n`, every radix 2..36, every separator placement, every `List Char`
(all Unicode scalar values), every byte vector.
-/
import Garnish.Spec.Spell
import Garnish.Lemmas.Literals
namespace Garnish.Props.C14
open Garnish Garnish.Spec.Spell Garnish.Model.Literals Garnish.Lemmas.Literals

variable {F : Type} (pf : List Char → Option F)

/-! ### numbers -/

/-- what a digit string denotes = the round trip: the spelling of `n` in radix `r` (plain decimal for `r = 10`,
`0R_digits` otherwise) with `_` separators after any digits, repeated or trailing, evaluates to the integer `n`.
`ValidSeps` excludes only `0_…` in the plain decimal form (see `C14_zero_underscore_rejected`). -/
theorem C14_number_value (r n : Nat) (seps : List Nat) (hr2 : 2 ≤ r) (hr36 : r ≤ 36) (hn : n ≤ 2147483647)
    (hv : ValidSeps r n seps) :
    parseSimpleNumber pf (spellNumber r n seps) = .ok (.int n) :=
  (parse_spellNumber pf r n seps hr2 hr36 hv).trans (if_pos hn)

/-- the prefixed form works for every radix, 10 included (`010_5` = 5), whatever the default radix of the caller -/
theorem C14_number_value_prefixed (r n d : Nat) (seps : List Nat) (hr2 : 2 ≤ r) (hr36 : r ≤ 36) (hn : n ≤ 2147483647) :
    parseNumberInternal pf (spellPrefixed r n seps) d = .ok (.int n) :=
  (parse_prefixed pf r n d seps hr2 hr36).trans (if_pos hn)

theorem C14_number_roundtrip (r n : Nat) (hr2 : 2 ≤ r) (hr36 : r ≤ 36) (hn : n ≤ 2147483647) :
    parseSimpleNumber pf (spellNumber r n []) = .ok (.int n) :=
  C14_number_value pf r n [] hr2 hr36 hn (by intro _ _; simp)

/-- plain decimal digits above `i32::MAX` are handed to `f64::from_str` (the digits, separators removed) -/
theorem C14_number_overflow_is_float (n : Nat) (seps : List Nat) (hn : 2147483647 < n) :
    parseSimpleNumber pf (spellNumber 10 n seps) =
      match pf (spellNat 10 n) with
      | some f => .ok (.float f)
      | none => .err .data :=
  (parse_spellNumber pf 10 n seps (by omega) (by omega) (fun _ h => by omega)).trans
    ((if_neg (by omega)).trans (if_pos rfl))

/-- in another radix an out-of-range digit string is an error, never a wrapped or wrong number -/
theorem C14_number_overflow_radix_rejected (r n : Nat) (seps : List Nat) (hr2 : 2 ≤ r) (hr36 : r ≤ 36) (h10 : r ≠ 10)
    (hn : 2147483647 < n) : parseSimpleNumber pf (spellNumber r n seps) = .err .data :=
  (parse_spellNumber pf r n seps hr2 hr36 (fun h => absurd h h10)).trans
    ((if_neg (by omega)).trans (if_neg h10))

/-- the prefix `0R_` with `R` written in decimal selects radix `R` for whatever follows — including `R` = 10, 20, 30
(the trailing zero of the radix is kept: the repaired `trim_matches('0')` defect) -/
theorem C14_radix_prefix (R : Nat) (hR2 : 2 ≤ R) (hR36 : R ≤ 36) (body : List Char) (d : Nat) :
    parseNumberInternal pf ('0' :: (spellNat 10 R ++ '_' :: body)) d = readDigits pf R body := by
  rw [parseNumberInternal_eq, radixSplit_spelled]
  have : 2 ≤ R ∧ R ≤ 36 := ⟨hR2, hR36⟩
  simp [this, Outcome.bind]

/-- a radix outside 2..36 (any `R` at all, also beyond `u32`) is an error, not a wrong number -/
theorem C14_bad_radix_rejected (R : Nat) (hR : R < 2 ∨ 36 < R) (body : List Char) (d : Nat) :
    parseNumberInternal pf ('0' :: (spellNat 10 R ++ '_' :: body)) d = .err .data := by
  rw [parseNumberInternal_eq, radixSplit_spelled]
  have : ¬ (2 ≤ R ∧ R ≤ 36) := by omega
  simp [this, Outcome.bind]

/-- a decimal fraction (first character a decimal digit, a `.` somewhere) goes to `f64::from_str` unchanged apart from
the removed `_`; precondition: the text does not start with `0` when it contains a `_` (see the finding below) -/
theorem C14_fraction_routed_to_float (d : Nat) (hd : d < 10) (rest : List Char) (hdot : '.' ∈ rest)
    (hpre : d ≠ 0 ∨ '_' ∉ rest) :
    parseSimpleNumber pf (digitChar d :: rest) =
      match pf ((digitChar d :: rest).filter (· != '_')) with
      | some f => .ok (.float f)
      | none => .err .data := parse_fraction pf d hd rest hdot hpre

/-- Float round trip over an abstract `showFloat`/`parseFloat` pair: if `showFloat f` is a positional decimal
(starts with a digit, has a `.`, no `_`) and Rust's `from_str` inverts it (std, trusted; sampled by the LIT/RUN suites),
the literal evaluates to `f`. -/
theorem C14_float_roundtrip_statement (showFloat : F → List Char) (f : F)
    (hshape : ∃ d rest, d < 10 ∧ '.' ∈ rest ∧ '_' ∉ rest ∧ showFloat f = digitChar d :: rest)
    (hstd : pf (showFloat f) = some f) :
    parseSimpleNumber pf (showFloat f) = .ok (.float f) := by
  obtain ⟨d, rest, hd, hdot, hus, hs⟩ := hshape
  have hnu : (digitChar d :: rest).filter (· != '_') = digitChar d :: rest := by
    apply List.filter_eq_self.mpr
    intro x hx
    rcases List.mem_cons.mp hx with e | e
    · subst e; simpa using digitChar_ne d (by omega) '_' (by decide)
    · have : x ≠ '_' := fun e' => hus (e' ▸ e)
      simpa using this
  rw [hs, parse_fraction pf d hd rest hdot (Or.inr hus), hnu, ← hs, hstd]

/-! ### character lists -/

/-- EXACTNESS: a char-list literal `q` quotes, body, `q` quotes (body not starting with a quote, else the opening run
is longer) denotes the escape processing `unescape` of exactly the body: no closing quote leaks in, no character is
lost, whatever the byte lengths of the characters (the repaired `"é"` defect). Holds for every `q`. -/
theorem C14_charlist_exact (q : Nat) (body : List Char) (h : body.head? ≠ some '"') :
    parseCharList pf (quoteCharList q body) = unescape (uniModel pf) q body :=
  parseCharList_quote pf q body h

/-- a body without backslash (and, with at most one quote, without raw newline/tab) denotes itself -/
theorem C14_charlist_plain (q : Nat) (cs : List Char) (h : cs.head? ≠ some '"') (hb : '\\' ∉ cs)
    (hws : q ≤ 1 → '\n' ∉ cs ∧ '\t' ∉ cs) :
    parseCharList pf (quoteCharList q cs) = .ok cs := by
  rw [parseCharList_quote pf q cs h]
  unfold unescape
  clear h
  induction cs with
  | nil => simp [unesc]
  | cons c cs ih =>
    have hc : c ≠ '\\' := fun e => hb (by simp [e])
    have hws' : ¬ ((c = '\n' ∨ c = '\t') ∧ decide (q ≤ 1) = true) := by
      simp only [decide_eq_true_eq]
      rintro ⟨e | e, hq⟩
      · exact (hws hq).1 (by simp [e])
      · exact (hws hq).2 (by simp [e])
    have := ih (fun e => hb (by simp [e])) (fun hq => ⟨fun e => (hws hq).1 (by simp [e]), fun e => (hws hq).2 (by simp [e])⟩)
    simp only [unesc, hc, hws', if_false, this, consOk]

/-- ROUND TRIP, every string, every quote form (`q ≥ 1`; the theorem also holds for 0 and 2, which the lexer never
produces): quotes written `\"`. Parser level (`\"` is not lexable: the lexer closes at the quote). -/
theorem C14_charlist_roundtrip (q : Nat) (cs : List Char) :
    parseCharList pf (quoteCharList q (escapeChars q cs)) = .ok cs := by
  rw [parseCharList_quote pf q (escapeChars q cs) (flatMap_head_ne cs fun c _ => escapeChar_head q c)]
  exact decode_flatMap_all cs (fun c _ => unesc_escapeChar _ q c) rfl

/-- ROUND TRIP, every string, every quote form, LEXABLE spelling: quotes written `\u{22}`, so the body contains no
quote character at all (`escapeCharsU_no_quote`) and the lexer's closing-run counter only sees the real delimiter. -/
theorem C14_charlist_roundtrip_lexable (q : Nat) (cs : List Char) :
    parseCharList pf (quoteCharList q (escapeCharsU q cs)) = .ok cs := by
  rw [parseCharList_quote pf q (escapeCharsU q cs) (fun e => escapeCharsU_no_quote q cs (List.mem_of_mem_head? e))]
  exact decode_flatMap_all cs (fun c _ => unesc_escapeCharU pf q c) rfl

/-- … and the LEXER keeps that spelling in one token: from the `CharList` state entered after the `q ≥ 1` opening quotes
(`start_quote_count = q`), the `CharList` arm fed with the body, the `q` closing quotes and any following input asks
for a new token exactly after the last closing quote, having appended body and quotes to the token text.
(Arm level: `feedCharList` iterates `armCharList`; the whole `lex` loop on these inputs is exercised by the RUN suite.) -/
theorem C14_charlist_lexable_one_token (q : Nat) (hq : 0 < q) (cs rest : List Char) (self : Garnish.Model.Lexer.Lexer)
    (hs : self.startQuoteCount = q) (he : self.endQuoteCount = 0) :
    ∃ s, feedCharList self (escapeCharsU q cs ++ List.replicate q '"' ++ rest) = some (s, rest) ∧
      s.currentCharacters = self.currentCharacters ++ escapeCharsU q cs ++ List.replicate q '"' :=
  feedCharList_body q hq _ rest (escapeCharsU_no_quote q cs) self hs (fun _ => he)

/-- ROUND TRIP with raw inner quotes (the `q ≥ 3` forms): precondition at parser level — the string does not START
with a quote (the opening run would be longer). At lexer level additionally: it does not END with a quote and has no
run of `q` quotes (the lexer closes at the first run of `q` quotes); that part is exercised by the RUN suite. -/
theorem C14_charlist_roundtrip_raw (q : Nat) (cs : List Char) (h : cs.head? ≠ some '"') :
    parseCharList pf (quoteCharList q (escapeCharsRaw q cs)) = .ok cs := by
  rw [parseCharList_quote pf q (escapeCharsRaw q cs) (flatMap_head_ne cs fun c hc => escapeCharRaw_head q c fun e => h (e ▸ hc))]
  exact decode_flatMap_all cs (fun c _ => unesc_escapeCharRaw _ q c) rfl

/-- every Unicode scalar value can be written `\u{hex}` -/
theorem C14_charlist_unicode_escape (q : Nat) (c : Char) :
    parseCharList pf (quoteCharList q (escapeUnicode c)) = .ok [c] := by
  rw [parseCharList_quote pf q _ (by simp [escapeUnicode])]
  have := unesc_escapeUnicode (uniModel pf) (decide (q ≤ 1)) c [] (uniModel_spell pf c)
  simp only [List.append_nil, unesc] at this
  unfold unescape
  rw [this]; simp [consOk]

/-! ### byte lists -/

/-- EXACTNESS of the quoted form: `'body'` denotes the escape processing of exactly the body, every character
contributing its UTF-8 bytes -/
theorem C14_bytelist_exact (body : List Char) (h : body.head? ≠ some '\'') :
    parseByteList pf (quoteByteList 1 body) = unescBytes false body := parseByteList_quote1 pf body h

/-- the code's `encode_utf8` is UTF-8 as the Unicode standard defines it, for every scalar value -/
theorem C14_utf8 (c : Char) : utf8BytesOf c = utf8Encode c := utf8BytesOf_spec c

/-- a quoted byte list without backslash denotes the concatenated UTF-8 encodings of its characters: a non-ASCII
character contributes exactly its 2, 3 or 4 bytes (the repaired `'é'` defect) -/
theorem C14_bytelist_multibyte (cs : List Char) (h : cs.head? ≠ some '\'') (hb : '\\' ∉ cs) :
    parseByteList pf (quoteByteList 1 cs) = .ok (cs.flatMap utf8Encode) := by
  rw [parseByteList_quote1 pf cs h, unescBytes_plain cs hb]

/-- ROUND TRIP, quoted form: every ASCII byte vector (bytes ≥ 128 have no single-character spelling; `\'` is accepted
by the parser but not lexable — byte 39 needs the numeric form in a program) -/
theorem C14_bytelist_roundtrip_quoted (bs : List Nat) (hb : ∀ b ∈ bs, b < 128) :
    parseByteList pf (spellBytesQuoted bs) = .ok bs := by
  unfold spellBytesQuoted
  rw [parseByteList_quote1 pf _ (flatMap_head_ne bs fun b hh => escapeByte_head b (hb b (List.mem_of_mem_head? hh)))]
  exact decode_flatMap_all bs (fun b h => unescBytes_escapeByte b (hb b h)) rfl

/-- ROUND TRIP, numeric form: every byte vector, every `q ≥ 2` (in a program `q ≥ 3`: the lexer reserves two quotes
for the empty literal) -/
theorem C14_bytelist_roundtrip (q : Nat) (hq : 2 ≤ q) (bs : List Nat) (hb : ∀ b ∈ bs, b ≤ 255) :
    parseByteList pf (spellBytesNumeric q bs) = .ok bs :=
  parseByteList_numericWith pf (spellNat 10) q hq bs (fun b h => byteSpelling_decimal pf b (hb b h)) hb

/-- the same with any entry spelling that is made of numeric characters and `_` and denotes the byte
(e.g. `02_101`, `2_5_5`) -/
theorem C14_bytelist_roundtrip_with (spell : Nat → List Char) (q : Nat) (hq : 2 ≤ q) (bs : List Nat)
    (hs : ∀ b ∈ bs, ByteSpelling pf spell b) (hb : ∀ b ∈ bs, b ≤ 255) :
    parseByteList pf (spellBytesNumericWith spell q bs) = .ok bs :=
  parseByteList_numericWith pf spell q hq bs hs hb

/-! ### symbols -/

/-- the Symbol arm of the builder hashes the text after the first byte (`&text[1..]`, `dropFirstByte`) through
`parse_symbol`: for `:name` with a name that neither starts nor ends with `:` the value is `symbol_value(name)` for
the name as written — two names get the same value only if SipHash-1-3 collides. -/
theorem C14_symbol_keeps_name (name : List Char) (h1 : name.head? ≠ some ':') (h2 : name.getLast? ≠ some ':') :
    dropFirstByte (spellSymbol name) = some name ∧
    parseSymbol name = (Garnish.Model.SipHash.symbolValue name).toNat := by
  refine ⟨by simp [spellSymbol, dropFirstByte]; decide, ?_⟩
  unfold parseSymbol
  rw [trimMatches_id ':' name h1 h2]

/-- FINDING F-C14-2 (witness): the precondition `h2` is needed — a trailing colon is part of the Symbol token
(`:a:` is one token) but is trimmed before hashing, so `:a:` and `:a` are the same symbol although written with
different names. -/
theorem C14_symbol_trailing_colon_dropped : parseSymbol ['a', ':'] = parseSymbol ['a'] := by
  unfold parseSymbol
  have : trimMatches ':' ['a', ':'] = trimMatches ':' ['a'] := by decide
  rw [this]

/-! ### findings: spellings the property covers that the code rejects, and one it rejected until its repair -/

/-- FINDING F-C14-1 (witness): a decimal fraction whose text starts with `0` and contains a `_` separator is rejected
(`0.5_1`, while `1.5_1` is 1.51): the text before the first `_` is taken for a radix prefix. Holds for every `pf`. -/
theorem C14_fraction_sep_after_zero_rejected :
    parseSimpleNumber pf ['0', '.', '5', '_', '1'] = .err .data := by rfl

/-- `ValidSeps` is needed: `0_` / `0_5` are read as a radix prefix with an empty radix -/
theorem C14_zero_underscore_rejected :
    parseSimpleNumber pf (spellNumber 10 0 [0]) = .err .data ∧ parseSimpleNumber pf ['0', '_', '5'] = .err .data :=
  ⟨by rfl, by rfl⟩

/-- was defect F-C14-3 (repaired by fix commit f762fcf in /repo): inside the numeric byte-list form only numeric
characters and `_` were accepted, so an entry in a radix above 10 with a letter digit was rejected (`''016_ff''`) although
`016_ff` alone is 255. Now the entry denotes the byte it spells. -/
theorem C14_bytelist_letter_digit_accepted :
    parseByteList pf ['\'', '\'', '0', '1', '6', '_', 'f', 'f', '\'', '\''] = .ok [255] ∧
    parseSimpleNumber pf ['0', '1', '6', '_', 'f', 'f'] = .ok (.int 255) :=
  have hv : parseSimpleNumber pf ['0', '1', '6', '_', 'f', 'f'] = .ok (.int 255) := by rfl
  -- the numeric form with this one entry as the spelling of 255 (`parseByteList_numericWith`)
  ⟨parseByteList_numericWith pf (fun _ => ['0', '1', '6', '_', 'f', 'f']) 2 (by decide) [255]
      (fun b hb => by obtain rfl : b = 255 := by simpa using hb
                      exact ⟨by decide, by decide +kernel, hv⟩) (by decide), hv⟩

/-! ### non-vacuity and the previously defective inputs -/

example : spellNumber 20 21 [] = ['0', '2', '0', '_', '1', '1'] := by decide
example : spellNumber 10 1000000 [0, 3, 3, 6] = "1_000__000_".toList := by decide
example : spellNumber 36 2147483647 [] = "036_zik0zj".toList := by decide
example : ValidSeps 10 0 [1] ∧ ¬ ValidSeps 10 0 [0] ∧ ValidSeps 16 0 [0] := by decide
/-- `020_11` = 21 (was 3), `010_5` = 5 (was an error), `030_11` = 31 -/
example : parseSimpleNumber pf ['0', '2', '0', '_', '1', '1'] = .ok (.int 21) := by rfl
example : parseSimpleNumber pf ['0', '1', '0', '_', '5'] = .ok (.int 5) := by rfl
example : parseSimpleNumber pf ['0', '3', '0', '_', '1', '1'] = .ok (.int 31) := by rfl
example : parseSimpleNumber pf ['0', '1', '6', '_', 'f', '_', 'F'] = .ok (.int 255) := by rfl
example : parseSimpleNumber pf ['0', '3', '7', '_', '1'] = .err .data := by rfl
example : parseSimpleNumber pf ['0', '1', '_', '1'] = .err .data := by rfl
/-- `"é"` = `é` (was `é"`), also in the triple-quote form and next to 3- and 4-byte characters -/
example : parseCharList pf ['"', 'é', '"'] = .ok ['é'] := by rfl
example : parseCharList pf ['"', '"', '"', 'é', '€', '😀', '"', '"', '"'] = .ok ['é', '€', '😀'] := by rfl
example : quoteCharList 1 (escapeChars 1 ['a', '"', '\\', '\n', 'é']) =
    ['"', 'a', '\\', '"', '\\', '\\', '\\', 'n', 'é', '"'] := by decide
example : quoteCharList 3 (escapeCharsU 3 ['"', '\n']) =
    ['"', '"', '"', '\\', 'u', '{', '2', '2', '}', '\n', '"', '"', '"'] := by decide
example : parseCharList pf ['"', '\\', 'u', '{', '1', 'F', '6', '0', '0', '}', '"'] = .ok ['😀'] := by rfl
example : parseCharList pf ['"', 'a', '\n', 'b', '"'] = .ok ['a', 'b'] ∧
    parseCharList pf ['"', '"', '"', 'a', '\n', 'b', '"', '"', '"'] = .ok ['a', '\n', 'b'] := ⟨by rfl, by rfl⟩
/-- `'é'` = bytes 195 169 (was one truncated byte), `''` = empty (was a panic), `''1 2 255''` -/
example : utf8Encode 'é' = [195, 169] ∧ utf8Encode '€' = [226, 130, 172] ∧ utf8Encode '😀' = [240, 159, 152, 128] := by
  decide
example : parseByteList pf ['\'', '\''] = .ok [] := by rfl
example : spellBytesNumeric 2 [1, 2, 255] = "''1 2 255''".toList := by decide
example : spellBytesQuoted [97, 39, 92, 10] = ['\'', 'a', '\\', '\'', '\\', '\\', '\\', 'n', '\''] := by decide
example : trimMatches ':' ['a', ':', 'b'] = ['a', ':', 'b'] := by decide

end Garnish.Props.C14
