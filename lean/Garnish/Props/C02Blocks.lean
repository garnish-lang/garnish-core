/-
C02 with side-effect blocks: `refParseB` (Spec/RefParseB.lean) — the reference grammar extended with `[ body ]` as the
parser treats it — is a conservative extension of `refParse` (`C02_refParseB_conservative`), and agrees with the parser
model on a grid of inputs that covers every rule of the extension (`C02_refParseB_grid`, by evaluation):
  (A) `v [b]` right child of the value, also inside larger expressions (`5 [6], 1`, `a + v [b] * d`, nested blocks);
  (B) `e + [b]`, `e + [b] v`, `e, [b] v`, `e <blank> [b] v`, `([b] v)`, `{[b] v}`, `a . [b] c` (Property);
  (C) `[b]`, `[b] v`, `[b] v` after whitespace (a list), `[b] + c`, `[ ]`, separators inside a block;
  (D) `(e) [b]`: FINDING F-C18-side-effect-after-group mirrored — the block is spliced inside the group;
  and the syntax errors `v [a]c` after whitespace before `[`, `a + [b] + c`, `(a + [b])`.
Shapes where the parser accepts and `refParseB` answers `unsupported` (NOT mirrored: the parser silently drops or rearranges
nodes there) are listed in `C02_refParseB_unsupported`.
PARTIAL: the agreement is per input.  A theorem "for every token list of a fragment `toTree (parse toks) = refParseB toks`"
would need the induction of Lemmas/ParserBRef … ParserBOpt re-targeted from `refLoop` to `refLoopB` (its statements `OpdOK` / `ExprOK` /
`ListOpdOK` name `refLoop Table.gen` explicitly), i.e. edits of the existing lemma files.
-/
import Garnish.Lemmas.RefParseB
import Garnish.Lemmas.KernelRfl
import Garnish.Props.C02Parse
namespace Garnish.Props.C02Blocks
open Garnish Garnish.Gen Garnish.Spec Garnish.Model.Parser Garnish.Props.C02Parse

/-- **conservative extension**: without `[` / `]` tokens `refParseB` is `refParse` -/
theorem C02_refParseB_conservative (toks : List PToken) (hn : ∀ t ∈ toks, noBlockTok t = true) :
    refParseB Table.gen toks = refParse Table.gen toks := refParseB_conservative toks hn

/-- the tree of the parser model, read as a reference tree -/
def parseTree (toks : List PToken) : Outcome RTree :=
  match parse toks with
  | .ok r =>
    match toTree r with
    | some t => .ok (treeToRG r t)
    | none => .err .other
  | .err e => .err e
  | .panic s => .panic s
  | .fuelOut => .fuelOut

def agree (toks : List PToken) : Bool :=
  match parseTree toks, refParseB Table.gen toks with
  | .ok a, .ok b => decide (a = b)
  | .err e, .err e' => decide (e = e')
  | _, _ => false

def mk (l : List (TokenType × String)) : List PToken := l.zipIdx.map (fun x => tk x.1.1 x.1.2 x.2)

def I (s : String) : TokenType × String := (.identifier, s)
def N (s : String) : TokenType × String := (.number, s)
def W : TokenType × String := (.whitespace, " ")
def BL : TokenType × String := (.subexpression, "\n\n")
def LP : TokenType × String := (.startGroup, "(")
def RP : TokenType × String := (.endGroup, ")")
def LB : TokenType × String := (.startExpression, "{")
def RB : TokenType × String := (.endExpression, "}")
def LS : TokenType × String := (.startSideEffect, "[")
def RS : TokenType × String := (.endSideEffect, "]")
def PL : TokenType × String := (.plusSign, "+")
def ML : TokenType × String := (.multiplicationSign, "*")
def CM : TokenType × String := (.comma, ",")
def DOT : TokenType × String := (.period, ".")

def grid : List (List PToken) :=
  [ -- (A)
    mk [N "5", W, LS, N "6", RS], mk [N "5", LS, N "6", RS, CM, W, N "1"], mk [I "v", LS, I "a", RS, W, I "c"],
    mk [I "v", W, LS, I "a", RS, W, I "c"], mk [I "a", PL, I "v", LS, I "b", RS, ML, I "d"],
    mk [I "v", LS, I "a", LS, I "b", RS, RS], mk [I "v", LS, I "a", PL, I "b", RS, ML, I "c"],
    mk [I "x", (.pair, "="), I "v", LS, I "a", RS], mk [LP, I "v", LS, I "a", RS, RP],
    mk [LB, I "v", LS, I "a", RS, BL, I "w", RB], mk [(.opposite, "--"), I "v", LS, I "a", RS],
    mk [I "v", LS, I "a", RS, W, PL, W, I "c"],
    -- (B)
    mk [I "a", PL, LS, I "b", RS], mk [I "a", PL, LS, I "b", RS, W, I "c"], mk [I "a", PL, LS, I "b", RS, I "c"],
    mk [I "a", PL, LS, I "b", RS, W, I "c", ML, I "d"], mk [I "a", CM, LS, I "b", RS, I "c"],
    mk [I "a", BL, LS, I "b", RS, I "c"], mk [LP, LS, I "b", RS, W, I "c", RP], mk [LB, LS, I "b", RS, W, I "c", RB],
    mk [I "a", DOT, LS, I "b", RS, I "c"],
    -- (C)
    mk [LS, I "b", RS], mk [LS, I "b", RS, I "c"], mk [LS, I "b", RS, W, I "c"], mk [LS, I "b", RS, PL, I "c"],
    mk [LS, RS], mk [LS, BL, I "a", RS], mk [LS, I "a", BL, I "b", RS], mk [LS, I "a", BL, RS],
    -- (D) the finding
    mk [LP, I "a", RP, LS, I "b", RS], mk [LP, I "a", PL, I "x", RP, W, LS, I "b", RS],
    -- syntax errors
    mk [I "v", W, LS, I "a", RS, I "c"], mk [I "a", PL, LS, I "b", RS, PL, I "c"],
    mk [LP, I "a", PL, LS, I "b", RS, RP, ML, I "c"],
    mk [LP, I "a", RP, LS, I "b", RS, PL, I "c"] ]

/-- **the extension mirrors the parser** on the grid -/
theorem C02_refParseB_grid : grid.all agree = true := by decide +kernel

/-- two entries spelled out: `5 [6], 1` and the finding `(a) [b]` -/
theorem C02_refParseB_examples :
    refParseB Table.gen (mk [N "5", LS, N "6", RS, CM, W, N "1"]) =
      .ok (.node (.node .nil .number 0 (.node .nil .sideEffect 1 (.node .nil .number 2 .nil))) .commaList 4
        (.node .nil .number 6 .nil)) ∧
    parseTree (mk [N "5", LS, N "6", RS, CM, W, N "1"]) = refParseB Table.gen (mk [N "5", LS, N "6", RS, CM, W, N "1"]) ∧
    refParseB Table.gen (mk [LP, I "a", RP, LS, I "b", RS]) =
      .ok (.group .group 0 (.node (.node .nil .identifier 1 .nil) .sideEffect 3 (.node .nil .identifier 4 .nil))) ∧
    parseTree (mk [LP, I "a", RP, LS, I "b", RS]) = refParseB Table.gen (mk [LP, I "a", RP, LS, I "b", RS]) := by
  open Garnish.Lemmas in exact ⟨by kernel_rfl, by kernel_rfl, by kernel_rfl, by kernel_rfl⟩

/-- accepted by the parser, `unsupported` in `refParseB` (not mirrored): a block after a suffix operator (`a~~ [b]`),
    a second block (`v [a] [b]`, `[a] [b]`), a pending block directly before a closer (`([b])`: the parser drops it) -/
theorem C02_refParseB_unsupported :
    ([mk [I "a", (.emptyApply, "~~"), LS, I "b", RS], mk [I "v", LS, I "a", RS, LS, I "b", RS],
      mk [LS, I "a", RS, W, LS, I "b", RS], mk [LP, LS, I "b", RS, RP]].all
        (fun l => (parse l).isOk && (match refParseB Table.gen l with | .err .unsupported => true | _ => false))) = true := by decide +kernel

end Garnish.Props.C02Blocks
