/-
Runtime refinement, part 7 (C01 anchor): ONE STEP for the whole instruction set. The dispatcher of execute.rs with
`fullHandlers` (Model/Runtime/Internals.lean: `type_of`, `type_equal`, the `equal` / `not_equal` wrappers, internals.rs)
simulates `Abs.Machine.step` for every instruction: the 48 of `C01_refine_step` plus TypeOf, TypeEqual, Equal, NotEqual,
AccessLeftInternal, AccessRightInternal, AccessLengthInternal. For `ApplyType` the value-level machine answers
`unsupported` (casts are outside Abs/Machine: Abs/Casts.lean + Props/C08Casts cover them), so the step relation claims
nothing there and `type_cast` stays the parameter `cast` of the dispatcher.
-/
import Garnish.Props.RuntimeRefineStep
namespace Garnish.Props.RuntimeRefine
open Garnish Gen Garnish.Abs Garnish.Model.Equality Garnish.Model.Runtime Garnish.Lemmas.Runtime

variable {F σ : Type} {S : RStore F σ} {P : Prog F} {host : Host F} (fo : FloatOps F)

/-- one step of the whole instruction set, data and host trace together -/
theorem refine_step_full_both (L : StoreLaws S) (HR : HostRefines S host) (fuel : Nat) (cast : RM σ (Option Nat))
    {s : σ} {m : MState F} (hsim : Sim S P s m) {instr : Instruction} {operand : Option Nat}
    (hfetch : P.instrs[m.pc]? = some (instr, operand)) (hok : StepOKF fo S P fuel s m instr operand) :
    StepBoth fo host S P fuel (fullHandlers fo S fuel cast) s m :=
  (Core.refine_step fo L.toK fuel hsim trivial HR.toI cast _ (fun _ => rfl) hfetch hok nofun (fun _ => L.listSymOn)).both

theorem C01_refine_step_full (L : StoreLaws S) (HR : HostRefines S host) (fuel : Nat) (cast : RM σ (Option Nat))
    {s : σ} {m : MState F} (hsim : Sim S P s m) {instr : Instruction} {operand : Option Nat}
    (hfetch : P.instrs[m.pc]? = some (instr, operand)) (hok : StepOKF fo S P fuel s m instr operand) :
    StepSim fo host S P fuel (fullHandlers fo S fuel cast) s m :=
  (refine_step_full_both fo L HR fuel cast hsim hfetch hok).1

end Garnish.Props.RuntimeRefine
