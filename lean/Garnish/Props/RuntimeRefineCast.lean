/-
Runtime refinement (C08 / C01 anchors): casting.rs `type_cast` (Model/Runtime/Casting.lean, instruction
`ApplyType`) against the value-level cast `castOp` (Abs/Casts.lean).

`C08_refine_type_cast`: with the two operands on top of the registers (right = target on top), `type_cast` refines
`castOp fo env vl vr` in the sense of `RefinesCast` (Model/Runtime/CastLaws.lean):
  * `castOp = val v`   — the operands are popped, ONE address denoting `v` is pushed, the host is not called, every
                          earlier `Decodes` fact, the input values and the frames are as before, `Ok(None)`;
  * `castOp = defer ApplyType vl vr` (exactly the type pairs outside `Spec.castDefined`) — the operands are popped, then
    the defer protocol: ONE call `defer_op(ApplyType, (type of vl, left), (TARGET type, right))`; accepted ↦ the host's
    state is returned untouched, declined ↦ unit is pushed;
  * `castOp = err e`   — the handler fails with that error class.
Hypotheses: `StoreLawsC S C env` (the trait contract + the contract of the four delegated conversions for the data
implementation `env.store`), the register shape, `Decodes` of both operands, `CastDomain` (Lemmas/RuntimeCastArms.lean: fuel
for the loops, sizes below i32::MAX, integer slice extents inside a sliced list / text / byte list, `store = simple`
where the number of items can differ from the announced length — the list contract of `StoreLaws` is the lenient one).
Every arm of the `match` is covered.
`C08_refine_type_cast_undefined` / `_defined`: the two halves in the words of C08, the first with no side condition.
`C01_refine_step_applyType`: ONE STEP of `execute_current_instruction` at an `ApplyType` instruction simulates the
value-level machine step extended with `castOp` (`stepC`; Abs/Machine `step` itself answers `err unsupported` there).
-/
import Garnish.Lemmas.RuntimeCastArms
import Garnish.Lemmas.RuntimeCastRef
import Garnish.Lemmas.RuntimeSimData
import Garnish.Lemmas.RuntimeRefStore
import Garnish.Props.C08Casts
import Garnish.Props.RuntimeRefineArith
import Garnish.Props.RuntimeRefineStep
namespace Garnish.Props.RuntimeRefine
open Garnish Gen Garnish.Abs Garnish.Model.Equality Garnish.Model.Runtime Garnish.Lemmas.Runtime

variable {F σ : Type} {S : RStore F σ} {C : CastOps σ} {env : CastEnv F} (fo : FloatOps F)

/-- `type_cast` refines `castOp` -/
theorem C08_refine_type_cast (L : StoreLawsC S C env) (fuel : Nat) {s : σ} {r l : Nat} {vr vl : Val F}
    {rest : List Nat} (hregs : S.regs s = r :: l :: rest) (hl : Decodes (S.view s) l vl)
    (hr : Decodes (S.view s) r vr) (hdom : CastDomain fo env fuel vl vr) :
    RefinesCast S s (typeCast fo S C fuel s) none rest l r (castOp fo env vl vr) :=
  typeCast_refines fo L fuel hregs hl hr hdom

/-- an undefined pair selects the last arm of the `match` -/
theorem C08_refine_type_cast_arm_undefined {lt rt : Ty} (h : Spec.castDefined lt rt = false) :
    castArm lt rt = .deferOp := by
  cases lt <;> cases rt <;> first | exact rfl | cases h

/-- C08 for casts at the address level: a type pair outside `Spec.castDefined` is popped and offered to the host by ONE
`defer_op(ApplyType, (left type, left), (target type, right))`; accepted ↦ the host's state, declined ↦ unit is
pushed; no side condition -/
theorem C08_refine_type_cast_undefined (L : StoreLawsC S C env) (fuel : Nat) {s : σ} {r l : Nat} {vr vl : Val F}
    {rest : List Nat} (hregs : S.regs s = r :: l :: rest) (hl : Decodes (S.view s) l vl)
    (hr : Decodes (S.view s) r vr) (hund : Spec.castDefined vl.typeOf (castTarget vr) = false) :
    ∃ s0, Eff S s s0 rest (S.vals s) ∧
      DeferProtocol S s0 (typeCast fo S C fuel s) none .applyType (vl.typeOf, l) (castTarget vr, r) := by
  have hdom : CastDomain fo env fuel vl vr := by
    unfold CastDomain; rw [C08_refine_type_cast_arm_undefined hund]; trivial
  have h := C08_refine_type_cast fo L fuel hregs hl hr hdom
  rw [C08Casts.cast_undefined_deferred fo env vl vr hund] at h
  exact h

/-- "exactly once": after an undefined cast that returns, the host trace is the old trace plus this one call -/
theorem C08_refine_type_cast_once (L : StoreLawsC S C env) (fuel : Nat) {s : σ} {r l : Nat} {vr vl : Val F}
    {rest : List Nat} (hregs : S.regs s = r :: l :: rest) (hl : Decodes (S.view s) l vl)
    (hr : Decodes (S.view s) r vr) (hund : Spec.castDefined vl.typeOf (castTarget vr) = false)
    {x : Option Nat} {s' : σ} (hres : typeCast fo S C fuel s = .ok (x, s')) :
    S.trace s' = .defer .applyType (vl.typeOf, l) (castTarget vr, r) :: S.trace s := by
  obtain ⟨s0, e0, hp⟩ := C08_refine_type_cast_undefined fo L fuel hregs hl hr hund
  rw [C08_refine_defer_once L.toStoreLaws hp hres, e0.trace]

/-- a defined cast never reaches the host: whatever it returns, the trace is unchanged -/
theorem C08_refine_type_cast_defined (L : StoreLawsC S C env) (fuel : Nat) {s : σ} {r l : Nat} {vr vl : Val F}
    {rest : List Nat} (hregs : S.regs s = r :: l :: rest) (hl : Decodes (S.view s) l vl)
    (hr : Decodes (S.view s) r vr) (hdom : CastDomain fo env fuel vl vr)
    (hdef : Spec.castDefined vl.typeOf (castTarget vr) = true)
    {x : Option Nat} {s' : σ} (hres : typeCast fo S C fuel s = .ok (x, s')) :
    S.trace s' = S.trace s ∧ ∃ a v, castOp fo env vl vr = .val v ∧ S.regs s' = a :: rest ∧ Decodes (S.view s') a v := by
  have h := C08_refine_type_cast fo L fuel hregs hl hr hdom
  have hnd := C08Casts.cast_defined_not_deferred fo env vl vr hdef
  cases hc : castOp fo env vl vr with
  | val v =>
    rw [hc] at h
    obtain ⟨a, s1, h1, d1, e1⟩ := h
    rw [hres] at h1
    cases h1
    exact ⟨e1.trace, a, v, rfl, e1.regs, d1⟩
  | defer op a b => rw [hc] at hnd; simp [Lemmas.isDefer] at hnd
  | err e =>
    rw [hc] at h
    have h' : typeCast fo S C fuel s = .err e := h
    rw [hres] at h'; cases h'

/-! ### one step -/

section step
variable {P : Prog F} {host : Host F}

/-- Abs/Machine `step` with the arm it lacks: `ApplyType` pops (right, left) and pushes the outcome of `castOp` the way
`step` does for every other binary instruction -/
def stepC (env : CastEnv F) (host : Host F) (P : Prog F) (m : MState F) : StepRes F :=
  match P.instrs[m.pc]? with
  | some (.applyType, _) =>
    match m.regs with
    | r :: l :: rs => seqNext P m (pushOut host { m with regs := rs } (castOp fo env l r))
    | _ => .err .state
  | _ => Abs.step fo host P m

/-- the host's `defer_op` answers an offered cast as the value-level host does. (`HostRefines.defer` says this for a
right operand offered with its OWN type; `type_cast` offers the corrected target type.) -/
def HostRefinesCast (S : RStore F σ) (host : Host F) : Prop :=
  ∀ l r vl vr s, Decodes (S.view s) l vl → Decodes (S.view s) r vr →
    HostAnswer S (S.deferOp .applyType (vl.typeOf, l) (castTarget vr, r)) s (host.defer .applyType vl vr)

/-- a handler that refines `castOp` (`RefinesCast`) simulates `pushOut`: the data half of `Core.handlerSimI_of_refines`, with the
offer answered through `HostRefinesCast` -/
theorem handlerSim_of_refinesCast (HRC : HostRefinesCast S host) {s : σ} {m : MState F}
    (hpc : S.cursor s = m.pc) {rest : List Nat} {mrest : List (Val F)} (hrest : DecodesList (S.view s) rest mrest)
    (hvals : DecodesList (S.view s) (S.vals s) m.vals) (hfr : FramesRel (S.view s) (S.frames s) m.frames)
    (hprog : (∀ i, S.instruction s i = P.instrs[i]?) ∧ (∀ j, S.jumpTable s j = P.jumps[j]?) ∧
      S.instrLen s = P.instrs.size)
    {la ra : Nat} {vl vr : Val F} (dl : Decodes (S.view s) la vl) (dr : Decodes (S.view s) ra vr)
    {res : Outcome (Option Nat × σ)}
    (href : RefinesCast S s res none rest la ra (castOp fo env vl vr)) :
    HandlerSim S P s res (seqR m (pushOut host { m with regs := mrest } (castOp fo env vl vr))) := by
  have hnext : (none : Option Nat).getD (S.cursor s + 1) = m.pc + 1 := by simp [hpc]
  cases hc : castOp fo env vl vr with
  | val v =>
    rw [hc] at href
    obtain ⟨a, s1, h1, d1, e1⟩ := href
    exact ⟨none, s1, h1, hnext, e1.keeps.cur,
      SimD.ofParts hfr hprog e1 (.cons d1 (decodesList_keeps e1.keeps hrest)) (decodesList_keeps e1.keeps hvals),
      e1.keeps.dec⟩
  | err e => trivial
  | defer op a b =>
    -- an offer is `defer ApplyType vl vr`
    have hund : Spec.castDefined vl.typeOf (castTarget vr) = false := by
      cases hd : Spec.castDefined vl.typeOf (castTarget vr) with
      | false => rfl
      | true =>
        have := C08Casts.cast_defined_not_deferred fo env vl vr hd
        rw [hc] at this; simp [Lemmas.isDefer] at this
    have hop := C08Casts.cast_undefined_deferred fo env vl vr hund
    rw [hc] at hop
    cases hop
    rw [hc] at href
    obtain ⟨s0, e0, hprot⟩ := href
    obtain ⟨s1, h1, hc1, hd1, hk1, _⟩ := Core.hostCall_data (P := P) (HRC la ra vl vr s0 (e0.dec dl) (e0.dec dr)).toI
      hprot.toI
      (SimD.ofParts hfr hprog e0 (decodesList_keeps e0.keeps hrest) (decodesList_keeps e0.keeps hvals))
    rw [Core.pushOut_defer]
    exact ⟨none, s1, h1, hnext, hc1.trans e0.keeps.cur, hd1, fun x v h => hk1 x v (e0.dec h)⟩

/-- the `HandlerSim` instance for `ApplyType`: `type_cast` against `pushOut … (castOp …)` -/
theorem C01_refine_handler_applyType (L : StoreLawsC S C env)
    (HRC : HostRefinesCast S host) (fuel : Nat) {s : σ} {m : MState F} (hsim : Sim S P s m)
    {vr vl : Val F} {rs : List (Val F)} (hregs : m.regs = vr :: vl :: rs) (hdom : CastDomain fo env fuel vl vr) :
    HandlerSim S P s (typeCast fo S C fuel s)
      (seqR m (pushOut host { m with regs := rs } (castOp fo env vl vr))) := by
  obtain ⟨hpc, hd⟩ := hsim
  have hdr := hd.regs
  rw [hregs] at hdr
  obtain ⟨r, as1, e1, dr, t1⟩ := decodesList_cons_inv hdr
  obtain ⟨l, rest, e2, dl, t2⟩ := decodesList_cons_inv t1
  subst e2
  exact handlerSim_of_refinesCast fo HRC hpc t2 hd.vals hd.frames ⟨hd.instrs, hd.jumps, hd.ilen⟩ dl dr
    (C08_refine_type_cast fo L fuel e1 dl dr hdom)

/-- ONE STEP at an `ApplyType` instruction: `execute_current_instruction` with `type_cast` as the `typeCast` handler of
`OtherHandlers` simulates the machine step extended with `castOp` -/
theorem C01_refine_step_applyType (L : StoreLawsC S C env) (HR : HostRefines S host) (HRC : HostRefinesCast S host)
    (fuel : Nat) (H : OtherHandlers σ) (hH : H.typeCast = typeCast fo S C fuel) {s : σ} {m : MState F}
    (hsim : Sim S P s m) {operand : Option Nat} (hfetch : P.instrs[m.pc]? = some (.applyType, operand))
    (hok : ∀ vr vl rs, m.regs = vr :: vl :: rs → CastDomain fo env fuel vl vr) :
    match stepC fo env host P m with
    | .running m' => ∃ s', executeCurrentInstruction fo S fuel H s = .ok (.running, s') ∧ Sim S P s' m' ∧
        DecKept S s s'
    | .halted m' => ∃ s', executeCurrentInstruction fo S fuel H s = .ok (.end_, s') ∧
        SimD S P s' m'.regs m'.vals m'.frames ∧ DecKept S s s'
    | .err _ => True := by
  unfold stepC
  rw [hfetch]
  simp only []
  cases hr : m.regs with
  | nil => trivial
  | cons vr t =>
    cases t with
    | nil => trivial
    | cons vl rs =>
      simp only []
      rw [seqNext_eq]
      have hh := C01_refine_handler_applyType fo L HRC fuel hsim hr (hok vr vl rs hr)
      have hd : dispatch fo S fuel H .applyType operand s = typeCast fo S C fuel s := by
        show H.typeCast s = _; rw [hH]
      rw [← hd] at hh
      exact step_of_handler L.toStoreLaws fo fuel H hsim hfetch hh

end step

/-! ### non-vacuity: the reference store satisfies every hypothesis (`refStore_lawsC`), and the model runs -/

/-- the declining reference host answers an offered cast as the value-level declining host does -/
theorem refStore_hostRefinesCast : HostRefinesCast (refStore (fun _ => none : RefHost F)) Host.declining :=
  fun _ _ _ _ st _ _ =>
    ⟨{ st with trace := _ :: st.trace }, rfl, keeps_same _ rfl rfl rfl rfl rfl, rfl, rfl, rfl⟩

def simpleEnv : CastEnv F := ⟨.simple, fun _ => []⟩

/-- `0: 5   1: CharList (a Type value)   2: :sym   3: 2   4: 4   5: 2..4   6: List   7: "ab"` -/
def castCells : List (RCell F) :=
  [.num (.int 5), .type .charList, .sym 7, .num (.int 2), .num (.int 4), .range 3 4, .type .list, .chars [97, 98]]

/-- `5 ~# CharList` on the reference store (registers: target on top): the theorem applies — ONE new register
denoting the text "5", no host call … -/
example : RefinesCast (refStore (fun _ => none)) (RefState.init (castCells (F := F)) [1, 0, 9])
    (typeCast fo (refStore (fun _ => none)) (refCastOps simpleEnv) 0 (RefState.init castCells [1, 0, 9])) none [9] 0 1
    (castOp fo simpleEnv (.num (.int 5)) (.type .charList)) :=
  C08_refine_type_cast fo (refStore_lawsC _ simpleEnv) 0 rfl (.num rfl rfl) (.type rfl rfl) trivial

/-- … and `castOp` says which text -/
example : castOp fo (simpleEnv (F := F)) (.num (.int 5)) (.type .charList) = .val (.chars [53]) := by
  rw [C08Casts.cast_int_to_text fo _ _ _ rfl, show showInt 5 = [53] from by decide]

/-- `:sym ~# 5` is undefined: exactly one offer `defer_op(ApplyType, (Symbol, 2), (Number, 0))`, unit when declined -/
example : ∃ s0, Eff (refStore (fun _ => none)) (RefState.init (castCells (F := F)) [0, 2, 9]) s0 [9] [] ∧
    DeferProtocol (refStore (fun _ => none)) s0
      (typeCast fo (refStore (fun _ => none)) (refCastOps simpleEnv) 0 (RefState.init castCells [0, 2, 9])) none
      .applyType (.symbol, 2) (.number, 0) :=
  C08_refine_type_cast_undefined fo (refStore_lawsC _ simpleEnv) 0 (vl := .sym 7) (vr := .num (.int 5)) rfl
    (.sym rfl rfl) (.num rfl rfl) rfl

/-- `(2..4 as stored) ~# List` satisfies `CastDomain` with fuel 4 … -/
example : CastDomain fo (simpleEnv (F := F)) 4 (.range (.num (.int 2)) (.num (.int 4))) (.type .list) := by
  refine ⟨rfl, fun x y len h hlen => ?_⟩
  cases h
  rw [Lemmas.rangeLen_int fo 2 4 (by decide) (by decide)] at hlen
  cases hlen
  show (4 - 2 + 1 : Int).toNat + 1 ≤ 4
  decide

/-- the conversions that are not needed by a run are never called: a store without them -/
def noCastOps : CastOps (RefState Unit) :=
  ⟨fun _ => RM.fail .unsupported, fun _ => RM.fail .unsupported, fun _ => RM.fail .unsupported,
    fun _ => RM.fail .unsupported⟩

/-- registers and the items of the list cell at address `a` after a run (kernel-evaluable) -/
def castRun (a : Nat) (res : Outcome (Option Nat × RefState Unit)) :
    Option (Option Nat × List Nat × Option (List Nat) × List HostCall) :=
  match res with
  | .ok (r, s') => some (r, s'.regs, (refView s'.cells).listItems a, s'.trace)
  | _ => none

/-- … and the model run of `type_cast` (kernel): three new number cells 8, 9, 10 (2, 3, 4), the list cell 11 holding
them in order, one register, no host call -/
example : castRun 11 (typeCast noFloats (refStore (fun _ => none)) noCastOps 4 (RefState.init castCells [6, 5, 9]))
    = some (none, [11, 9], some [8, 9, 10], []) := by decide +kernel

/-- `"ab" ~# List`: the characters, in order -/
example : castRun 10 (typeCast noFloats (refStore (fun _ => none)) noCastOps 3 (RefState.init castCells [6, 7, 9]))
    = some (none, [10, 9], some [8, 9], []) := by decide +kernel

/-- `0: 1   1: 2   2: [0, 1]   3: 3   4: 2 <> 3   5: List   6: 1   7: 2   8: 1..2   9: (2 <> 3) sliced by 1..2` -/
def castCatCells : List (RCell Unit) :=
  [.num (.int 1), .num (.int 2), .list [0, 1], .num (.int 3), .concat 2 3 [0, 1, 3], .type .list,
   .num (.int 1), .num (.int 2), .range 6 7, .slice 4 8]

/-- `((1, 2) <> 3) ~# List`: the flat items, in order (the new list cell is 10), the borrowed registers given back -/
example : castRun 10 (typeCast noFloats (refStore (fun _ => none)) noCastOps 4 (RefState.init castCatCells [5, 4, 77]))
    = some (none, [10, 77], some [0, 1, 3], []) := by decide +kernel

/-- the slice `1..2` of it: items 1 and 2 of the flat sequence -/
example : castRun 10 (typeCast noFloats (refStore (fun _ => none)) noCastOps 4 (RefState.init castCatCells [5, 9, 77]))
    = some (none, [10, 77], some [1, 3], []) := by decide +kernel

/-- `:sym ~# 5` with the declining host: unit pushed, exactly one host call recorded -/
example : castRun 0 (typeCast noFloats (refStore (fun _ => none)) noCastOps 0 (RefState.init castCells [0, 2, 9]))
    = some (none, [8, 9], none, [.defer .applyType (.symbol, 2) (.number, 0)]) := by decide +kernel

/-- `ApplyType` as the program: the hypotheses of `C01_refine_step_applyType` hold on the reference store -/
def castProg : Prog F := { instrs := #[(.applyType, none)], jumps := #[], consts := #[] }

def castStore : RefState F :=
  { RefState.init castCells [1, 0] with instrs := [(.applyType, none)], instrLen := 1 }

def castMachine : MState F :=
  { pc := 0, regs := [.type .charList, .num (.int 5)], vals := [], frames := [], trace := [] }

theorem castSim0 : Sim (refStore (fun _ => none)) (castProg (F := F)) castStore castMachine :=
  ⟨rfl, .cons (.type rfl rfl) (.cons (.num rfl rfl) .nil), .nil, .nil,
    fun i => by simp [refStore, castStore, castProg], fun j => by simp [refStore, castStore, castProg, RefState.init],
    rfl⟩

example : match stepC fo simpleEnv Host.declining (castProg (F := F)) castMachine with
    | .running m' => ∃ s', executeCurrentInstruction fo (refStore (fun _ => none)) 0
        { noHandlers with typeCast := typeCast fo (refStore (fun _ => none)) (refCastOps simpleEnv) 0 } castStore =
          .ok (.running, s') ∧ Sim (refStore (fun _ => none)) castProg s' m' ∧ DecKept (refStore (fun _ => none)) castStore s'
    | .halted m' => ∃ s', executeCurrentInstruction fo (refStore (fun _ => none)) 0
        { noHandlers with typeCast := typeCast fo (refStore (fun _ => none)) (refCastOps simpleEnv) 0 } castStore =
          .ok (.end_, s') ∧ SimD (refStore (fun _ => none)) castProg s' m'.regs m'.vals m'.frames ∧
          DecKept (refStore (fun _ => none)) castStore s'
    | .err _ => True :=
  C01_refine_step_applyType fo (refStore_lawsC _ simpleEnv) refStore_hostRefines refStore_hostRefinesCast 0 _ rfl
    castSim0 (operand := none) rfl (by
      intro vr vl rs h
      cases h
      trivial)

end Garnish.Props.RuntimeRefine
