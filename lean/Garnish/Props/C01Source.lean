/-
C01 from the source: tokens → parser → builder → machine in one theorem.

  parse_rep            the node array `parse` returns REPRESENTS (`Abs.Tree.Rep`) the program that its reference tree
                       elaborates to (`Abs.Source.elabWith`, Lemmas/SourceRep.lean: one bottom-up pass over the `RTree` of
                       Spec/RefParse.lean — literals through Model/Literals with the float parser `pf` of `build`, operators
                       by definition, `List` / `CommaList` spines as lists, `?>` / `!>` / `|>` spines as conditionals and
                       else-chains, `&&` / `||`, `( )` transparent, `{ }` bodies, `^~`, identifier application);
                       the program is body 0 of its table and `build`'s own check of the tree succeeds.
  C01_parse_build      hence (`build_refines_compile`, Props/C01Build.lean) the statement-level model of `build.rs` run on
                       the parser's output produces exactly `compile` of the elaborated program — for EVERY token list, not
                       only those of a fragment;
  C01_parse_correct    hence (`C01_compile_correct`) the built object, run on the value-level machine, computes what the
                       elaborated program means (`evalProgram`): value and host-call trace.
  C01_source_build_partial / C01_source_correct_partial
                       the same from the token list alone for the lists of `frag9` (Props/C02Parse.lean: the parser accepts,
                       its result is a proper tree, the tree is the reference tree `refParse` computes) — the program is
                       `elaborate (refParse toks)`.
What the elaboration does not cover (it returns `none`) is listed at the head of Lemmas/SourceRep.lean: side-effect blocks,
operators with a missing operand, literal text that does not parse, the shapes that need a group to be representable.

`WellNumbered toks r t` (Lemmas/SourceRepTree.lean) is a hypothesis of the theorems of this file — the nodes are numbered in
in-order and all of them are in the tree, a node carries the text of the token at its position, a bracket node has no left
child.  It is decidable (`wellNumbered`), and checked by evaluation in the examples below.  Props/C02Numbered.lean proves it
for the lists of `frag9'` = `frag9` without a trailing blank line before `}` (`C02_parse_wellNumbered`; after such a blank line
an unlinked separator node stays in the array, and the simulation behind `build_refines_compile` does not cover node arrays
with unreachable entries) and states the source theorems without the hypothesis (`C01_source_build`, `C01_source_correct`).
The tie of the elaboration to the language: suite ELAB (Driver/ElabDrv.lean, tools/props/c01.py) — on every generated program
`elabSrc (refParse (lex source))` is the generator's AST (up to the association of `;` sequences) or undefined, and undefined
only for programs with side-effect blocks.
-/
import Garnish.Lemmas.SourceRepTree
import Garnish.Props.C01Build
import Garnish.Props.C02Parse
namespace Garnish.Props.C01Source
open Garnish Garnish.Gen Garnish.Spec Garnish.Abs Garnish.Abs.Tree Garnish.Abs.Source Garnish.Model.Parser
open Garnish.Model.Literals Garnish.Model.Build Garnish.Props.C01Build

variable {F : Type} (pf : List Char → Option F)

/-- the reference tree read off a parse result -/
abbrev refTreeOf (r : ParseResult) (t : Spec.Tree) : RTree := toRG (dfOf r.nodes) t

/-- **`parse_rep`** (for every naming `κ` of the nested bodies) -/
theorem parse_rep (toks : List PToken) (κ : Nat → Nat) (r : ParseResult) (t : Spec.Tree) (p : Program F)
    (ht : toTree r = some t) (hwn : WellNumbered toks r t) (hel : elabWith pf κ toks (refTreeOf r t) = some p) :
    Rep pf r.nodes p.bodies 0 r.nodes.size r.root p.main ∧ lookupBody p.bodies 0 = some p.main ∧
      validateParseTree r.root r.nodes = .ok () :=
  Source.parse_rep r t p ht hwn hel

/-- `elaborate` is `elabWith` for the names `compile` gives -/
theorem elaborate_eq (toks : List PToken) (rt : RTree) (p : Program F) (h : elaborate pf toks rt = some p) :
    ∃ κ, elabWith pf κ toks rt = some p := by
  unfold elaborate at h
  split at h
  · exact ⟨_, h⟩
  · cases h

theorem parse_rep_elaborate (toks : List PToken) (r : ParseResult) (t : Spec.Tree) (p : Program F)
    (ht : toTree r = some t) (hwn : WellNumbered toks r t) (hel : elaborate pf toks (refTreeOf r t) = some p) :
    Rep pf r.nodes p.bodies 0 r.nodes.size r.root p.main ∧ lookupBody p.bodies 0 = some p.main ∧
      validateParseTree r.root r.nodes = .ok () := by
  obtain ⟨κ, h⟩ := elaborate_eq pf toks _ p hel
  exact parse_rep pf toks κ r t p ht hwn h

/-- **parser → builder**: `build` on the parser's output is `compile` of the elaborated program (any naming of the bodies;
`hcomplete`: the layout loop of `compile` finishes — `C01.compile_complete` for canonical names) -/
theorem C01_parse_build (toks : List PToken) (κ : Nat → Nat) (r : ParseResult) (t : Spec.Tree) (p : Program F)
    (ht : toTree r = some t) (hwn : WellNumbered toks r t) (hel : elabWith pf κ toks (refTreeOf r t) = some p)
    (hcomplete : (compileState Prog.empty p).pending = []) :
    ∃ d, build pf (defaultFuel r.nodes.size) r.root r.nodes BState.empty = .ok (d, 0) ∧
      d.instrs = (compile p).instrs ∧ d.jumps = (compile p).jumps ∧ d.consts = (compile p).consts := by
  obtain ⟨hrep, hmain, hval⟩ := parse_rep pf toks κ r t p ht hwn hel
  exact build_refines_compile pf r.nodes p r.root _ hrep hmain hval hcomplete (by simp only [defaultFuel]; omega)

/-- **parser → builder → machine**: if the elaborated program is well formed (`C01.WFProgram`: its bodies are named by
their jump entries, as `elaborate` names them) and means `(v, st)`, the object `build` produces from the parser's output
halts with `v` and the same host-call trace -/
theorem C01_parse_correct (fo : FloatOps F) (host : Host F) (toks : List PToken) (r : ParseResult) (t : Spec.Tree)
    (p : Program F) (input : Val F) (fuel : Nat) (v : Val F) (st : St F)
    (ht : toTree r = some t) (hwn : WellNumbered toks r t) (hel : elaborate pf toks (refTreeOf r t) = some p)
    (hwf : C01.WFProgram p) (h : evalProgram fo host fuel p input = .ok (v, st)) :
    ∃ d entry, build pf (defaultFuel r.nodes.size) r.root r.nodes BState.empty = .ok (d, entry) ∧
      ∃ n s, run fo host (progOf d) n
          { pc := (progOf d).jumps[entry]?.getD 0, regs := [], vals := [input], frames := [], trace := [] } = (.halted s, n) ∧
        s.vals = [v] ∧ s.regs = [] ∧ s.frames = [] ∧ s.trace = st.trace := by
  obtain ⟨hrep, _, hval⟩ := parse_rep_elaborate pf toks r t p ht hwn hel
  exact C01_build_correct pf fo host r.nodes p r.root input fuel v st hwf hrep hval h

/-! ### from the token list alone (the lists of `frag9`) -/

theorem frag9_parse (toks : List PToken) (hf : C02Parse.frag9 toks = true) (hnum : NumberedFrom 0 toks) (rt : RTree)
    (href : refParse Table.gen toks = .ok rt) : ∃ r t, parse toks = .ok r ∧ toTree r = some t ∧ rt = refTreeOf r t := by
  obtain ⟨r, t, h1, h2, h3⟩ := C02Parse.C02_parse_correct_fragment_optional toks hf hnum
  rw [← C02Parse.C02_toRG_eq_treeToRG, href] at h3
  cases h3
  exact ⟨r, t, h1, h2, rfl⟩

/-- **tokens → builder** — partial: `WellNumbered` of the parser's result is a hypothesis (see the header) -/
theorem C01_source_build_partial (toks : List PToken) (hf : C02Parse.frag9 toks = true) (hnum : NumberedFrom 0 toks)
    (rt : RTree) (href : refParse Table.gen toks = .ok rt) (p : Program F) (hel : elaborate pf toks rt = some p)
    (hcomplete : (compileState Prog.empty p).pending = [])
    (hwn : ∀ r t, parse toks = .ok r → toTree r = some t → WellNumbered toks r t) :
    ∃ r d, parse toks = .ok r ∧ build pf (defaultFuel r.nodes.size) r.root r.nodes BState.empty = .ok (d, 0) ∧
      d.instrs = (compile p).instrs ∧ d.jumps = (compile p).jumps ∧ d.consts = (compile p).consts := by
  obtain ⟨r, t, h1, h2, rfl⟩ := frag9_parse toks hf hnum rt href
  obtain ⟨κ, hk⟩ := elaborate_eq pf toks _ p hel
  obtain ⟨d, hd⟩ := C01_parse_build pf toks κ r t p h2 (hwn r t h1 h2) hk hcomplete
  exact ⟨r, d, h1, hd⟩

/-- **tokens → machine** — partial in the same respect -/
theorem C01_source_correct_partial (fo : FloatOps F) (host : Host F) (toks : List PToken)
    (hf : C02Parse.frag9 toks = true) (hnum : NumberedFrom 0 toks) (rt : RTree) (href : refParse Table.gen toks = .ok rt)
    (p : Program F) (hel : elaborate pf toks rt = some p) (hwf : C01.WFProgram p)
    (hwn : ∀ r t, parse toks = .ok r → toTree r = some t → WellNumbered toks r t)
    (input : Val F) (fuel : Nat) (v : Val F) (st : St F) (h : evalProgram fo host fuel p input = .ok (v, st)) :
    ∃ r d entry, parse toks = .ok r ∧ build pf (defaultFuel r.nodes.size) r.root r.nodes BState.empty = .ok (d, entry) ∧
      ∃ n s, run fo host (progOf d) n
          { pc := (progOf d).jumps[entry]?.getD 0, regs := [], vals := [input], frames := [], trace := [] } = (.halted s, n) ∧
        s.vals = [v] ∧ s.regs = [] ∧ s.frames = [] ∧ s.trace = st.trace := by
  obtain ⟨r, t, h1, h2, rfl⟩ := frag9_parse toks hf hnum rt href
  obtain ⟨d, entry, hd⟩ := C01_parse_correct pf fo host toks r t p input fuel v st h2 (hwn r t h1 h2) hel hwf h
  exact ⟨r, d, entry, h1, hd⟩

/-! ### non-vacuity: concrete token lists, everything checked by evaluation -/

open Garnish.Props.C02Parse (tk frag9)

def resultOf (toks : List PToken) : ParseResult :=
  match parse toks with
  | .ok r => r
  | _ => ⟨0, #[]⟩

def treeOfResult (toks : List PToken) : Spec.Tree := (toTree (resultOf toks)).getD .nil

/-- `resultOf` answers the empty result when the parser fails, so a result with nodes is the parser's -/
theorem parse_resultOf {toks : List PToken} (h : (resultOf toks).nodes.size ≠ 0) : parse toks = .ok (resultOf toks) := by
  rw [resultOf] at h ⊢
  generalize parse toks = x at h ⊢
  cases x with
  | ok r => rfl
  | _ => exact absurd rfl h

/-- the hypotheses of the source theorems for a concrete list, from one evaluation (a single `decide +kernel` parses once:
the kernel remembers what `resultOf toks` reduces to) -/
theorem wn_of_eval (toks : List PToken)
    (h : (resultOf toks).nodes.size ≠ 0 ∧ toTree (resultOf toks) = some (treeOfResult toks) ∧
      wellNumbered toks (resultOf toks) (treeOfResult toks) = true) :
    ∀ r t, parse toks = .ok r → toTree r = some t → WellNumbered toks r t := by
  intro r t h1 h2
  rw [parse_resultOf h.1] at h1; cases h1
  rw [h.2.1] at h2; cases h2
  exact wellNumbered_sound h.2.2

/-- a conditional with an else arm: `$ ?> 1 |> 2` -/
def exCond : List PToken :=
  [tk .value "$" 0, tk .whitespace " " 1, tk .jumpIfTrue "?>" 2, tk .whitespace " " 3, tk .number "1" 4,
   tk .whitespace " " 5, tk .elseJump "|>" 6, tk .whitespace " " 7, tk .number "2" 8]
def mainCond : Expr Float := .chain [(true, .input, int 1)] (some (int 2))
def progCond : Program Float := { main := mainCond, bodies := [(0, mainCond)] }

theorem exCond_frag : frag9 exCond = true := by decide +kernel
theorem exCond_num : NumberedFrom 0 exCond := by simp [exCond, NumberedFrom, tk]
theorem progCond_pending : (compileState Prog.empty progCond).pending = [] := by decide +kernel
theorem exCond_ref : refParse Table.gen exCond = .ok (.node (.node (.node .nil .value 0 .nil) .jumpIfTrue 2
    (.node .nil .number 4 .nil)) .elseJump 6 (.node .nil .number 8 .nil)) := by rfl
theorem exCond_elab : elaborate noFloat exCond (.node (.node (.node .nil .value 0 .nil) .jumpIfTrue 2
    (.node .nil .number 4 .nil)) .elseJump 6 (.node .nil .number 8 .nil)) = some progCond := by rfl
theorem exCond_wn : ∀ r t, parse exCond = .ok r → toTree r = some t → WellNumbered exCond r t :=
  wn_of_eval exCond (by decide +kernel)

example : ∃ r d, parse exCond = .ok r ∧ build noFloat (defaultFuel r.nodes.size) r.root r.nodes BState.empty = .ok (d, 0) ∧
    d.instrs = (compile progCond).instrs ∧ d.jumps = (compile progCond).jumps ∧ d.consts = (compile progCond).consts :=
  C01_source_build_partial noFloat exCond exCond_frag exCond_num _ exCond_ref progCond exCond_elab progCond_pending exCond_wn

/-- … and to the machine: on input `true` the source means `1`, and that is what the built object computes -/
theorem progCond_wf : C01.WFProgram progCond := .ofCheck rfl rfl (by rfl)

theorem progCond_meaning (fo : FloatOps Float) (host : Host Float) :
    evalProgram fo host 5 progCond .tru = .ok (.num (.int 1), ⟨.tru, []⟩) := by
  simp [evalProgram, evalBody, evalF, evalChain, lookupBody, progCond, mainCond, int, Val.truthy]

example (fo : FloatOps Float) (host : Host Float) :
    ∃ r d entry, parse exCond = .ok r ∧
      build noFloat (defaultFuel r.nodes.size) r.root r.nodes BState.empty = .ok (d, entry) ∧
      ∃ n s, run fo host (progOf d) n
          { pc := (progOf d).jumps[entry]?.getD 0, regs := [], vals := [.tru], frames := [], trace := [] } = (.halted s, n) ∧
        s.vals = [.num (.int 1)] ∧ s.regs = [] ∧ s.frames = [] ∧ s.trace = [] :=
  C01_source_correct_partial noFloat fo host exCond exCond_frag exCond_num _ exCond_ref progCond exCond_elab progCond_wf
    exCond_wn .tru 5 _ _ (progCond_meaning fo host)

/-- a nested body, applied: `{ $ + 1 } <~ 5` — the body is named `1`, its jump entry -/
def exNested : List PToken :=
  [tk .startExpression "{" 0, tk .whitespace " " 1, tk .value "$" 2, tk .whitespace " " 3, tk .plusSign "+" 4,
   tk .whitespace " " 5, tk .number "1" 6, tk .whitespace " " 7, tk .endExpression "}" 8, tk .whitespace " " 9,
   tk .apply "<~" 10, tk .whitespace " " 11, tk .number "5" 12]
def mainNested : Expr Float := .binary .apply (.nested 1) (int 5)
def progNested : Program Float := { main := mainNested, bodies := [(0, mainNested), (1, .binary .add .input (int 1))] }

theorem exNested_num : NumberedFrom 0 exNested := by simp [exNested, NumberedFrom, tk]
theorem progNested_pending : (compileState Prog.empty progNested).pending = [] := by decide +kernel
theorem exNested_ref : refParse Table.gen exNested = .ok (.node (.group .nestedExpression 0
    (.node (.node .nil .value 2 .nil) .addition 4 (.node .nil .number 6 .nil))) .apply 10 (.node .nil .number 12 .nil)) := by rfl
theorem exNested_elab : elaborate noFloat exNested (.node (.group .nestedExpression 0
    (.node (.node .nil .value 2 .nil) .addition 4 (.node .nil .number 6 .nil))) .apply 10 (.node .nil .number 12 .nil)) =
    some progNested := by rfl

example : ∃ r d, parse exNested = .ok r ∧
    build noFloat (defaultFuel r.nodes.size) r.root r.nodes BState.empty = .ok (d, 0) ∧
    d.instrs = (compile progNested).instrs ∧ d.jumps = (compile progNested).jumps ∧ d.consts = (compile progNested).consts :=
  C01_source_build_partial noFloat exNested (by decide +kernel) exNested_num _ exNested_ref progNested
    exNested_elab progNested_pending (wn_of_eval exNested (by decide +kernel))

example : (compile progNested).instrs = #[(.put, some 0), (.put, some 1), (.apply, none), (.endExpression, none),
    (.putValue, none), (.put, some 2), (.add, none), (.endExpression, none)] ∧ (compile progNested).jumps = #[0, 4] := by
  constructor <;> decide

/-- lists: `1, $ 3, (4, 5)` — a comma list whose second item is a space list and whose third is a comma list in a group -/
def exItems : List PToken :=
  [tk .number "1" 0, tk .comma "," 1, tk .whitespace " " 2, tk .value "$" 3, tk .whitespace " " 4, tk .number "3" 5,
   tk .comma "," 6, tk .whitespace " " 7, tk .startGroup "(" 8, tk .number "4" 9, tk .comma "," 10, tk .number "5" 11,
   tk .endGroup ")" 12]
def mainItems : Expr Float := .list [int 1, .list [.input, int 3], .list [int 4, int 5]]
def progItems : Program Float := { main := mainItems, bodies := [(0, mainItems)] }

def treeItems : RTree :=
  .node (.node (.node .nil .number 0 .nil) .commaList 1 (.node (.node .nil .value 3 .nil) .list 4 (.node .nil .number 5 .nil)))
    .commaList 6 (.group .group 8 (.node (.node .nil .number 9 .nil) .commaList 10 (.node .nil .number 11 .nil)))
theorem exItems_num : NumberedFrom 0 exItems := by simp [exItems, NumberedFrom, tk]
theorem progItems_pending : (compileState Prog.empty progItems).pending = [] := by decide +kernel
theorem exItems_ref : refParse Table.gen exItems = .ok treeItems := by rfl
theorem exItems_elab : elaborate noFloat exItems treeItems = some progItems := by rfl

example : ∃ r d, parse exItems = .ok r ∧
    build noFloat (defaultFuel r.nodes.size) r.root r.nodes BState.empty = .ok (d, 0) ∧
    d.instrs = (compile progItems).instrs ∧ d.jumps = (compile progItems).jumps ∧ d.consts = (compile progItems).consts :=
  C01_source_build_partial noFloat exItems (by decide +kernel) exItems_num _ exItems_ref progItems exItems_elab
    progItems_pending (wn_of_eval exItems (by decide +kernel))

end Garnish.Props.C01Source
