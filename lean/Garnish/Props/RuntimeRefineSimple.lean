/-
`SimpleGarnishData` against the store contract `StoreLaws` (Model/Runtime/Store.lean), clause by clause, on the model
`simpleRStore hit h` of Model/Runtime/SimpleStore.lean (cells WITH payloads, register `Vec` with `StackFrame` entries,
the cache decision `hit` and the host `h` as parameters).

`StoreLaws` quantifies over ALL states and ALL addresses; Simple meets its clauses on the states satisfying `SInv`
(the three preallocated cells exist; every register is a data address — `C01_simpleStore_init`, and every law
re-establishes it), with these differences, each a field of `SimpleLaws` or a theorem of
Props/RuntimeRefineSimple2.lean:
* constants (`add_number`, `add_type`, `add_char`, `add_byte`, `add_symbol`): exactly the laws that need `HitSound hit`
  — a hit must hold the value (/repo d7e2139: `cache_add` confirms a hit by comparison); `C15_unsound_hit_breaks`: an
  unsound hit breaks the law. `add_unit` / `add_true` / `add_false` need the preallocated cells (`Seeded`).
* `push_register a`: `a` must be a data address that is not a `StackFrame` (every decodable address that does not
  decode to `custom` is one); `C01_simple_pop_dangling`: otherwise the matching `pop_register` is an `Err`.
* `pop_register`: the top of the register `Vec` must not be a `StackFrame` (`TopOpen`). The contract lets a callee
  pop its caller's registers (`push_frame` leaves `regs` alone); Simple answers `Err` (`C01_simple_pop_under_frame`).
* `pop_frame` without a frame DRAINS the register `Vec` (`C01_simple_popFrame_drains`); the contract's `popFrameNil`
  ("nothing changes") holds only with no register (`C01_simple_popFrameNil_fails`).
* `add_concatenation`: operands that are not slices (Simple's iterator expands a slice operand, `FlatOf` keeps it).
* `merge_to_symbol_list`: symbols and symbol lists; a number operand is an `Err` (`C06_simple_merge_number_errs`)
  where `Abs.mergeSymList` merges.
Consequently `¬ StoreLaws (simpleRStore hit h)` (`C01_simpleStore_not_laws`): the run-level theorems
(`C01_refine_run`, `C01_text_to_store`) apply to Simple only after the contract is relativised as in `SimpleLaws`.
`TopOpen` follows from the premises of the relativised contract (`Deep`, resp. "no frame": Props/RuntimeRefineSimpleOn.lean);
`get_list_item_with_symbol` (`StoreLaws.listSym`; the association table of a list cell is not modelled here) is
Lemmas/SimpleListSym.lean: the look-up contract holds on lists with distinct keys and is false in general.
OPEN: slice operands of concatenations (`collectLoop` of Model/AccessSimple.lean).
-/
import Garnish.Lemmas.RuntimeSimpleLaws
import Garnish.Lemmas.EqualityRefine
namespace Garnish.Props.RuntimeRefine
open Garnish Gen Garnish.Model.Equality Garnish.Model.Runtime Garnish.Lemmas.Runtime.Simple

variable {F : Type}

/-- an adder's contract with the invariant before and after; the list under construction is untouched -/
def AddsS (S : RStore F (SimState F)) (m : RM (SimState F) Nat) (s : SimState F) (v : Val F) : Prop :=
  ∃ a s', m s = .ok (a, s') ∧ Decodes (S.view s') a v ∧ Eff S s s' (S.regs s) (S.vals s) ∧ SInv s' ∧
    S.building s' = S.building s

/-- `StoreLaws`, clause by clause, as `SimpleGarnishData` meets it -/
structure SimpleLaws (S : RStore F (SimState F)) : Prop where
  rangeTyped : ∀ s a p, (S.view s).range a = some p → (S.view s).typeOf a = some .range
  listIdx : ∀ s, Indexes (S.listLen s) (S.listItem s) (S.view s).listItems
  charIdx : ∀ s, Indexes (S.charLen s) (S.charItem s) (S.view s).chars
  byteIdx : ∀ s, Indexes (S.byteLen s) (S.byteItem s) (S.view s).bytes
  symIdx : ∀ s, Indexes (S.symLen s) (S.symItem s) (S.view s).symList
  addUnit : ∀ s, SInv s → AddsS S S.addUnit s .unit
  addTrue : ∀ s, SInv s → AddsS S S.addTrue s .tru
  addFalse : ∀ s, SInv s → AddsS S S.addFalse s .fls
  addNumber : ∀ n s, SInv s → AddsS S (S.addNumber n) s (.num n)
  addType : ∀ t s, SInv s → AddsS S (S.addType t) s (.type t)
  addChar : ∀ c s, SInv s → AddsS S (S.addChar c) s (.char c)
  addByte : ∀ b s, SInv s → AddsS S (S.addByte b) s (.byte b)
  addSymbol : ∀ y s, SInv s → AddsS S (S.addSymbol y) s (.sym y)
  addPair : ∀ l r vl vr s, SInv s → Decodes (S.view s) l vl → Decodes (S.view s) r vr →
    AddsS S (S.addPair (l, r)) s (.pair vl vr)
  /-- operands that are not slices -/
  addConcatenation : ∀ l r vl vr s, SInv s → Decodes (S.view s) l vl → Decodes (S.view s) r vr →
    (∀ x y, vl ≠ .slice x y) → (∀ x y, vr ≠ .slice x y) → AddsS S (S.addConcatenation l r) s (.concat vl vr)
  addRange : ∀ l r vl vr s, SInv s → Decodes (S.view s) l vl → Decodes (S.view s) r vr →
    AddsS S (S.addRange l r) s (.range vl vr)
  addSlice : ∀ l r vl vr s, SInv s → Decodes (S.view s) l vl → Decodes (S.view s) r vr →
    AddsS S (S.addSlice l r) s (.slice vl vr)
  addPartial : ∀ l r vl vr s, SInv s → Decodes (S.view s) l vl → Decodes (S.view s) r vr →
    AddsS S (S.addPartial l r) s (.part vl vr)
  /-- no number operand -/
  mergeSome : ∀ l r vl vr v s, SInv s → Decodes (S.view s) l vl → Decodes (S.view s) r vr →
    Abs.mergeSymList vl vr = some v → (∀ n, vl ≠ .num n) → (∀ n, vr ≠ .num n) → AddsS S (S.mergeToSymbolList l r) s v
  startList : ∀ n s, SInv s → ∃ t s', S.startList n s = .ok (t, s') ∧ Eff S s s' (S.regs s) (S.vals s) ∧
    S.building s' = some (t, []) ∧ SInv s'
  addToList : ∀ t items a s, SInv s → S.building s = some (t, items) →
    ∃ t' s', S.addToList t a s = .ok (t', s') ∧ Eff S s s' (S.regs s) (S.vals s) ∧
      S.building s' = some (t', items ++ [a]) ∧ SInv s'
  endList : ∀ t items vs s, SInv s → S.building s = some (t, items) → DecodesList (S.view s) items vs →
    AddsS S (S.endList t) s (.list vs)
  popRegisterBuilding : ∀ s o s', S.popRegister s = .ok (o, s') → S.building s' = S.building s
  /-- what may be pushed: a decodable address that is not a `StackFrame` (which decodes to `custom`) -/
  readable : ∀ s a v, Decodes (S.view s) a v → v ≠ .custom → a < s.cells.length ∧ isFrame s.cells a = false
  pushRegister : ∀ a s, SInv s → a < s.cells.length → isFrame s.cells a = false →
    ∃ s', S.pushRegister a s = .ok ((), s') ∧ Eff S s s' (a :: S.regs s) (S.vals s) ∧ SInv s' ∧ TopOpen s'
  popRegisterNil : ∀ s, TopOpen s → S.regs s = [] →
    ∃ s', S.popRegister s = .ok (none, s') ∧ Eff S s s' [] (S.vals s) ∧ s' = s
  popRegisterCons : ∀ s a rest, SInv s → TopOpen s → S.regs s = a :: rest →
    ∃ s', S.popRegister s = .ok (some a, s') ∧ Eff S s s' rest (S.vals s) ∧ SInv s'
  pushValueStack : ∀ a s, ∃ s', S.pushValueStack a s = .ok ((), s') ∧ Eff S s s' (S.regs s) (a :: S.vals s) ∧
    (SInv s → SInv s')
  popValueStackNil : ∀ s, S.vals s = [] →
    ∃ s', S.popValueStack s = .ok (none, s') ∧ Eff S s s' (S.regs s) [] ∧ s' = s
  popValueStackCons : ∀ s a rest, S.vals s = a :: rest →
    ∃ s', S.popValueStack s = .ok (some a, s') ∧ Eff S s s' (S.regs s) rest ∧ (SInv s → SInv s')
  setCurrentNil : ∀ r s, S.vals s = [] →
    ∃ s', S.setCurrentValue r s = .ok (false, s') ∧ Eff S s s' (S.regs s) [] ∧ s' = s
  setCurrentCons : ∀ r s a rest, S.vals s = a :: rest →
    ∃ s', S.setCurrentValue r s = .ok (true, s') ∧ Eff S s s' (S.regs s) (r :: rest) ∧ (SInv s → SInv s')
  pushFrame : ∀ j s, SInv s → ∃ s', S.pushFrame j s = .ok ((), s') ∧
    FEff S s s' (S.regs s) (S.vals s) ((j, S.regs s) :: S.frames s) ∧ SInv s'
  /-- only with no register left -/
  popFrameNil : ∀ s, SInv s → S.frames s = [] → S.regs s = [] →
    ∃ s', S.popFrame s = .ok (none, s') ∧ Eff S s s' (S.regs s) (S.vals s) ∧ SInv s'
  popFrameCons : ∀ s ret saved fs, SInv s → S.frames s = (ret, saved) :: fs →
    ∃ s', S.popFrame s = .ok (some ret, s') ∧ FEff S s s' saved (S.vals s) fs ∧ SInv s'
  setCursor : ∀ n s, ∃ s', S.setInstructionCursor n s = .ok ((), s') ∧ S.cursor s' = n ∧
    (∀ a v, Decodes (S.view s) a v → Decodes (S.view s') a v) ∧ S.jumpTable s' = S.jumpTable s ∧
    S.instrLen s' = S.instrLen s ∧ S.instruction s' = S.instruction s ∧ S.dataLen s' = S.dataLen s ∧
    S.regs s' = S.regs s ∧ S.vals s' = S.vals s ∧ S.trace s' = S.trace s ∧ S.frames s' = S.frames s
  deferOp : ∀ op l r, Records S (S.deferOp op l r) (.defer op l r)
  resolve : ∀ y, Records S (S.resolve y) (.resolve y)
  apply : ∀ e a, Records S (S.apply e a) (.apply e a)
  /-- `StoreLawsRun.dataBound` -/
  dataBound : ∀ s a v, Decodes (S.view s) a v → a < S.dataLen s

variable {hit : List (SimCell F) → SimCell F → Option Nat} {h : SimHost F}

theorem addsS_of {m : RM (SimState F) Nat} {s : SimState F} {v : Val F} (ha : AddsI hit h m s v) :
    AddsS (simpleRStore hit h) m s v := by
  obtain ⟨a, s', h1, h2, h3, h4, h5⟩ := ha
  refine ⟨a, s', h1, h2, h3, h4, ?_⟩
  show s'.currentList.map _ = s.currentList.map _
  rw [h5]

theorem readable_law {cells : List (SimCell F)} {a : Nat} {v : Val F} (hd : Decodes (simView cells) a v)
    (hv : v ≠ .custom) : a < cells.length ∧ isFrame cells a = false := by
  refine ⟨dec_lt hd, ?_⟩
  unfold isFrame
  cases hc : cells[a]? with
  | none => rfl
  | some c =>
    cases c <;> try rfl
    case stackFrame j =>
      exfalso
      have ht : (simView cells).typeOf a = some .custom := by simp only [simView, hc, SimCell.ty]
      have h2 := Garnish.Lemmas.EqualityRefine.decodes_typeOf hd
      rw [ht] at h2
      cases v <;> first | exact hv rfl | cases h2

/-- **C01_simpleStore_laws_core**: with a cache that confirms its hits, `SimpleGarnishData` meets every clause of the
store contract in the relativised form `SimpleLaws` -/
theorem C01_simpleStore_laws_core (hs : HitSound hit) : SimpleLaws (simpleRStore hit h) where
  rangeTyped := rangeTyped_law
  listIdx := listIdx_law
  charIdx := charIdx_law
  byteIdx := byteIdx_law
  symIdx := symIdx_law
  addUnit := fun _ hi => addsS_of (addUnit_law hi)
  addTrue := fun _ hi => addsS_of (addTrue_law hi)
  addFalse := fun _ hi => addsS_of (addFalse_law hi)
  addNumber := fun n _ hi => addsS_of (addNumber_law hs hi n)
  addType := fun t _ hi => addsS_of (addType_law hs hi t)
  addChar := fun c _ hi => addsS_of (addChar_law hs hi c)
  addByte := fun b _ hi => addsS_of (addByte_law hs hi b)
  addSymbol := fun y _ hi => addsS_of (addSymbol_law hs hi y)
  addPair := fun _ _ _ _ _ hi hl hr => addsS_of (addPair_law hi hl hr)
  addConcatenation := fun _ _ _ _ _ hi hl hr nl nr => addsS_of (addConcatenation_law hi hl hr nl nr)
  addRange := fun _ _ _ _ _ hi hl hr => addsS_of (addRange_law hi hl hr)
  addSlice := fun _ _ _ _ _ hi hl hr => addsS_of (addSlice_law hi hl hr)
  addPartial := fun _ _ _ _ _ hi hl hr => addsS_of (addPartial_law hi hl hr)
  mergeSome := fun _ _ _ _ _ _ hi hl hr hm nl nr => addsS_of (merge_law hi hl hr hm nl nr)
  startList := fun n _ hi => startList_law hi n
  addToList := fun _ _ a _ hi hb => addToList_law hi a hb
  endList := fun _ _ _ _ hi hb hd => addsS_of (endList_law hi hb hd)
  popRegisterBuilding := fun _ _ _ hp => popRegisterBuilding_law hp
  readable := fun _ _ _ hd hv => readable_law hd hv
  pushRegister := fun _ _ hi ha hf => pushRegister_law hi ha hf
  popRegisterNil := fun _ ho hr => popRegisterNil_law ho hr
  popRegisterCons := fun _ _ _ hi ho hr => popRegisterCons_law hi ho hr
  pushValueStack := fun a s => ⟨{ s with values := a :: s.values }, rfl, ⟨keeps_same rfl rfl rfl rfl, rfl, rfl, rfl, rfl⟩,
    fun hi => ⟨hi.seeded, hi.regs⟩⟩
  popValueStackNil := fun s hv => by
    have hv' : s.values = [] := hv
    exact ⟨s, by simp only [simpleRStore, hv'], ⟨keeps_same rfl rfl rfl rfl, rfl, hv, rfl, rfl⟩, rfl⟩
  popValueStackCons := fun s a rest hv => by
    have hv' : s.values = a :: rest := hv
    exact ⟨{ s with values := rest }, by simp only [simpleRStore, hv'], ⟨keeps_same rfl rfl rfl rfl, rfl, rfl, rfl, rfl⟩,
      fun hi => ⟨hi.seeded, hi.regs⟩⟩
  setCurrentNil := fun r s hv => by
    have hv' : s.values = [] := hv
    exact ⟨s, by simp only [simpleRStore, hv'], ⟨keeps_same rfl rfl rfl rfl, rfl, hv, rfl, rfl⟩, rfl⟩
  setCurrentCons := fun r s a rest hv => by
    have hv' : s.values = a :: rest := hv
    exact ⟨{ s with values := r :: rest }, by simp only [simpleRStore, hv'], ⟨keeps_same rfl rfl rfl rfl, rfl, rfl, rfl, rfl⟩,
      fun hi => ⟨hi.seeded, hi.regs⟩⟩
  pushFrame := fun j _ hi => by
    obtain ⟨s', h1, h2, h3, _⟩ := pushFrame_law (hit := hit) (h := h) hi j; exact ⟨s', h1, h2, h3⟩
  popFrameNil := fun _ hi hf hr => popFrameNil_law hi hf hr
  popFrameCons := fun _ _ _ _ hi hf => by
    obtain ⟨s', h1, h2, h3, _⟩ := popFrameCons_law (hit := hit) (h := h) hi hf; exact ⟨s', h1, h2, h3⟩
  setCursor := setCursor_law
  deferOp := fun _ _ _ => records_law _
  resolve := fun _ => records_law _
  apply := fun _ _ => records_law _
  dataBound := dataBound_law

/-- the invariant holds of `SimpleGarnishData::new()` -/
theorem C01_simpleStore_init : SInv (SimState.init : SimState F) := sinv_init

end Garnish.Props.RuntimeRefine
