/-
Property C13 (lexer), proved on the model Garnish.Model.Lexer = compiler/src/lex/lexer.rs with the repair patches
lexfix-1..5 applied. Helper lemmas: Garnish/Lemmas/LexerC13.lean.

"Whenever `lex` succeeds, the token texts concatenated in order reproduce the input exactly, no token is empty, each
token's line and column are those of its first character, and operators and literals are classified by longest
match against the language's token table. A character that cannot start or continue any token makes `lex` fail; it
is never silently dropped, and a blank line separates sub-expressions whether or not spaces or tabs trail the line
before it."

All theorems are for every input `s : List Char` and every character-class table `cc` satisfying `cc.Sane2`:
`'\0'`, `'\n'` and `'.'` are neither numeric nor alphanumeric (`rustTables_sane2` proves it for the tables of the
Rust std the lexer is compiled against).
-/
import Garnish.Lemmas.LexerC13
namespace Garnish.Props.C13
open Garnish Garnish.Model.Lexer

/-- 1. the token texts concatenated in order reproduce the input exactly -/
theorem C13_lossless (cc : CharClass) (hcc : cc.Sane2) (s : List Char) (toks : List LexerToken)
    (h : lex cc s = .ok toks) : (toks.map (·.text)).flatten = s :=
  (lex_final cc hcc s toks h).lossless

/-- 2. no token is empty -/
theorem C13_nonempty (cc : CharClass) (hcc : cc.Sane2) (s : List Char) (toks : List LexerToken)
    (h : lex cc s = .ok toks) : ∀ t ∈ toks, t.text ≠ [] :=
  (lex_final cc hcc s toks h).nonempty

/-- offset of token `i` in the input: total length of the texts of the tokens before it -/
def tokenOffset (toks : List LexerToken) (i : Nat) : Nat := ((toks.take i).map (·.text)).flatten.length

/-- 3. each token's line and column are those of its first character: `posOf` of the input before the token
(with the patched line accounting this holds for every input, carriage returns included: a `'\r'` counts as one
column like any other character) -/
theorem C13_positions_all (cc : CharClass) (hcc : cc.Sane2) (s : List Char) (toks : List LexerToken)
    (h : lex cc s = .ok toks) (i : Nat) (hi : i < toks.length) :
    (toks[i].row, toks[i].column) = posOf (s.take (tokenOffset toks i)) := by
  have hf := lex_final cc hcc s toks h
  have := TokPosFrom_get [] toks hf.tokPos i hi
  rw [List.nil_append, textsOf_take_prefix toks s hf.lossless i] at this
  exact this

/-- 3. in the form asked for (inputs without carriage returns) -/
theorem C13_positions (cc : CharClass) (hcc : cc.Sane2) (s : List Char) (toks : List LexerToken)
    (_hcr : '\r' ∉ s) (h : lex cc s = .ok toks) (i : Nat) (hi : i < toks.length) :
    (toks[i].row, toks[i].column) = posOf (s.take (tokenOffset toks i)) :=
  C13_positions_all cc hcc s toks h i hi

/-- summary of a lexer result for the examples: type, row, column, text of every token (`none` on failure) -/
def summary (r : Outcome (List LexerToken)) : Option (List (Gen.TokenType × Nat × Nat × List Char)) :=
  match r with
  | .ok toks => some (toks.map fun t => (t.tokenType, t.row, t.column, t.text))
  | _ => none

/-- the hypotheses of 1–3 are satisfiable: `5 \n\n"a\nb" c` lexes; the blank line after the trailing space is one
Subexpression token, the newline inside the literal advances the row of `c` -/
example : summary (lex rustTables ['5', ' ', '\n', '\n', '"', 'a', '\n', 'b', '"', ' ', 'c']) =
    some [(.number, 0, 0, ['5']), (.subexpression, 0, 1, [' ', '\n', '\n']),
          (.charList, 2, 0, ['"', 'a', '\n', 'b', '"']), (.whitespace, 3, 2, [' ']), (.identifier, 3, 3, ['c'])] := by
  rw [lex_eq]; decide +kernel

/-! ### 4. characters that cannot start a token -/

/-- 4a. `start_token` records an error for every character that is not the start of some token
(`CanStart` is the disjunction of the branches of `start_token`: first character of an operator spelling of the
regenerated table, space/tab/CR, other ASCII whitespace, numeric, alphanumeric / `_` / `:`, backtick, `@`, `"`, `'`) -/
theorem C13_start_token_rejects (cc : CharClass) (σ : Lexer) (c : Char)
    (h : ¬CanStart cc σ.operatorTree c) (hns : ¬(c = '\x00' ∧ σ.atEnd = true)) :
    (startToken cc σ c).result = .err :=
  startToken_rejects cc σ c h hns

/-- 4b. a character that cannot start a token and is reached between tokens (the lexer is in `NoToken` after
`pre`) makes `lex` fail, whatever follows; with `pre = []` this is: the first character of the input.
(Inside a char list, byte list or line annotation any character is content, which is correct; inside other tokens
a character that cannot continue the token ends it and is then "reached between tokens".) -/
theorem C13_rejects_foreign (cc : CharClass) (pre post : List Char) (c : Char) (σ : Lexer) (toks : List LexerToken)
    (hrun : runChars cc pre (Lexer.init theTree) [] = .ok (σ, toks)) (hs : σ.state = .noToken)
    (hc : ¬CanStart cc theTree c) : lex cc (pre ++ c :: post) = .err .syntax :=
  lex_rejects cc pre post c σ toks hrun hs hc

/-- 4c. corollary: an input whose first character cannot start a token is rejected -/
theorem C13_rejects_foreign_head (cc : CharClass) (c : Char) (post : List Char) (hc : ¬CanStart cc theTree c) :
    lex cc (c :: post) = .err .syntax :=
  lex_rejects cc [] post c (Lexer.init theTree) [] rfl rfl hc

/-- once an error is recorded `lex` returns `Err` (the first error is kept, repair patch lexfix-1) -/
theorem C13_error_sticky (cc : CharClass) (input : List Char) (σ : Lexer) (toks : List LexerToken)
    (h : σ.result = .err) : lexLoop cc input σ toks = .err .syntax :=
  lexLoop_err cc input σ toks h

/-- the euro sign cannot start a token (Rust tables, regenerated operator table) … -/
example : ¬CanStart rustTables theTree (Char.ofNat 0x20ac) := by
  rw [theTree_eq]; unfold CanStart isIdentifierChar rustTables
  decide +kernel

/-- … so `€1 ` (which the unpatched lexer accepted, dropping the `€`) is rejected, and so is `1 €` -/
example : lex rustTables [Char.ofNat 0x20ac, '1', ' '] = .err .syntax :=
  C13_rejects_foreign_head rustTables _ _ (by rw [theTree_eq]; unfold CanStart isIdentifierChar rustTables; decide +kernel)
example : summary (lex rustTables ['1', ' ', Char.ofNat 0x20ac]) = none := by rw [lex_eq]; decide +kernel

/-- 4d (global form). In a successful lex, a character that cannot start or continue any token
(`CanStartOrContinue`: alphanumeric, numeric, ASCII whitespace, one of ``_ : . ` @ " '``, or a character of an
operator spelling) never appears outside a char list, a byte list or a line annotation (Annotation tokens `@word`
are NOT exempt: they contain only `@`, alphanumerics and `_`). Together with `C13_lossless` (nothing is dropped):
every such character of the input lies inside a literal or a comment line. -/
theorem C13_no_foreign_outside_literals (cc : CharClass) (hcc : cc.Sane2) (s : List Char) (toks : List LexerToken)
    (h : lex cc s = .ok toks) (t : LexerToken) (ht : t ∈ toks)
    (hlit : t.tokenType ≠ .charList ∧ t.tokenType ≠ .byteList ∧ t.tokenType ≠ .lineAnnotation) :
    ∀ c ∈ t.text, CanStartOrContinue cc c := by
  apply ((lex_final2 cc hcc s toks h).toksOk t ht).chars
  simp [isLitType, hlit.1, hlit.2.1, hlit.2.2]

/-- corollary: an input without quotes and without `@` that contains a character that can neither start nor continue
a token is rejected -/
theorem C13_rejects_foreign_anywhere (cc : CharClass) (hcc : cc.Sane2) (s : List Char) (c : Char) (hc : c ∈ s)
    (hforeign : ¬CanStartOrContinue cc c) (toks : List LexerToken) (h : lex cc s = .ok toks) :
    ∃ t ∈ toks, c ∈ t.text ∧
      (t.tokenType = .charList ∨ t.tokenType = .byteList ∨ t.tokenType = .lineAnnotation) := by
  have hl := C13_lossless cc hcc s toks h
  rw [← hl] at hc
  simp only [List.mem_flatten, List.mem_map] at hc
  obtain ⟨l, ⟨t, ht, rfl⟩, hcl⟩ := hc
  refine ⟨t, ht, hcl, ?_⟩
  by_cases h1 : t.tokenType = .charList
  · exact Or.inl h1
  · by_cases h2 : t.tokenType = .byteList
    · exact Or.inr (Or.inl h2)
    · by_cases h3 : t.tokenType = .lineAnnotation
      · exact Or.inr (Or.inr h3)
      · exact absurd (C13_no_foreign_outside_literals cc hcc s toks h t ht ⟨h1, h2, h3⟩ c hcl) hforeign

/-! ### 4e. whitespace that is not ASCII whitespace -/

/-- the characters for which Rust's `char::is_whitespace` holds but `char::is_ascii_whitespace` does not
(VT, NEL, NBSP, OGHAM SPACE MARK, U+2000–U+200A, LS, PS, NNBSP, MMSP, IDEOGRAPHIC SPACE) -/
def nonAsciiWhitespace : List Char :=
  [0x0b, 0x85, 0xa0, 0x1680, 0x2000, 0x2001, 0x2002, 0x2003, 0x2004, 0x2005, 0x2006, 0x2007, 0x2008, 0x2009, 0x200a,
   0x2028, 0x2029, 0x202f, 0x205f, 0x3000].map Char.ofNat

/-- the list is exactly the difference of the two generated range tables (`whitespaceRanges` minus
`asciiWhitespaceRanges`, Garnish/Gen/CharRanges.lean, dumped from the Rust std by the harness suite CHARCLASS) -/
theorem nonAsciiWhitespace_complete :
    ((Gen.CharRanges.whitespaceRanges.toList.flatMap fun ab => List.range' ab.1 (ab.2 - ab.1 + 1)).filter
      fun n => !Gen.CharRanges.inRanges Gen.CharRanges.asciiWhitespaceRanges n) =
    nonAsciiWhitespace.map Char.toNat := by decide +kernel

/-- each of them is whitespace for `char::is_whitespace`, is not ASCII whitespace for the model, and cannot start a
token (`start_token` tests `is_ascii_whitespace`, not `is_whitespace`) -/
theorem nonAsciiWhitespace_cannot_start :
    ∀ c ∈ nonAsciiWhitespace, Gen.CharRanges.isWhitespace c = true ∧ isAsciiWhitespace c = false ∧
      ¬CanStart rustTables theTree c := by
  rw [theTree_eq]; unfold CanStart isIdentifierChar rustTables nonAsciiWhitespace
  decide +kernel

/-- 4e. a whitespace character that is not ASCII whitespace (e.g. U+00A0, U+2003, U+3000, U+0085), reached between
tokens (the lexer is in `NoToken` after `pre`), is a lex error — it neither starts a Whitespace token nor is skipped -/
theorem C13_rejects_non_ascii_whitespace (pre post : List Char) (c : Char) (hc : c ∈ nonAsciiWhitespace)
    (σ : Lexer) (toks : List LexerToken)
    (hrun : runChars rustTables pre (Lexer.init theTree) [] = .ok (σ, toks)) (hs : σ.state = .noToken) :
    lex rustTables (pre ++ c :: post) = .err .syntax :=
  lex_rejects rustTables pre post c σ toks hrun hs (nonAsciiWhitespace_cannot_start c hc).2.2

/-- `a` NBSP `b`, `1 + ` IDEOGRAPHIC SPACE and a leading EM SPACE are rejected; inside a char list NBSP is content -/
example : summary (lex rustTables ['a', Char.ofNat 0xa0, 'b']) = none ∧
    summary (lex rustTables ['1', ' ', '+', ' ', Char.ofNat 0x3000]) = none ∧
    summary (lex rustTables [Char.ofNat 0x2003, 'a']) = none ∧
    summary (lex rustTables ['"', Char.ofNat 0xa0, '"']) =
      some [(.charList, 0, 0, ['"', Char.ofNat 0xa0, '"'])] := by simp only [lex_eq]; decide +kernel

/-! ### 3'. columns count characters, not bytes -/

/-- `C13_positions_all` is about `List Char`: `posOf` counts characters. Example with multi-byte characters
(é is 2 bytes, 中 3 bytes, 😀 4 bytes in UTF-8): in `é中 "😀" x` the char list starts at column 3 and `x` at column 7,
i.e. character counts (byte offsets would be 6 and 13) -/
example : summary (lex rustTables [Char.ofNat 0xe9, Char.ofNat 0x4e2d, ' ', '"', Char.ofNat 0x1f600, '"', ' ', 'x']) =
    some [(.identifier, 0, 0, [Char.ofNat 0xe9, Char.ofNat 0x4e2d]), (.whitespace, 0, 2, [' ']),
          (.charList, 0, 3, ['"', Char.ofNat 0x1f600, '"']), (.whitespace, 0, 6, [' ']), (.identifier, 0, 7, ['x'])] := by
  rw [lex_eq]; decide +kernel

/-- 3'. the column of a token on the first line is the NUMBER OF CHARACTERS before it (not their UTF-8 length) -/
theorem C13_columns_count_characters (cc : CharClass) (hcc : cc.Sane2) (s : List Char) (toks : List LexerToken)
    (h : lex cc s = .ok toks) (i : Nat) (hi : i < toks.length) (hnl : '\n' ∉ s.take (tokenOffset toks i)) :
    toks[i].row = 0 ∧ toks[i].column = tokenOffset toks i := by
  have hp := C13_positions_all cc hcc s toks h i hi
  have hoff : (s.take (tokenOffset toks i)).length = tokenOffset toks i := by
    have hl := C13_lossless cc hcc s toks h
    have hpre := textsOf_take_prefix toks s hl i
    have e : tokenOffset toks i = (textsOf (toks.take i)).length := rfl
    rw [e, ← hpre]
  generalize s.take (tokenOffset toks i) = pfx at hp hnl hoff
  have hpos : posOf pfx = (0, pfx.length) := by
    unfold posOf
    have h1 : pfx.count '\n' = 0 := List.count_eq_zero.mpr hnl
    have tw : ∀ l : List Char, (∀ x ∈ l, x ≠ '\n') → l.takeWhile (· != '\n') = l := by
      intro l
      induction l with
      | nil => intro _; rfl
      | cons x r ih =>
        intro hx
        have hx1 : (x != '\n') = true := by simpa using hx x (by simp)
        simp only [List.takeWhile, hx1]
        rw [ih (fun y hy => hx y (by simp [hy]))]
    have h2 : pfx.reverse.takeWhile (· != '\n') = pfx.reverse := by
      apply tw
      intro x hx hxe
      subst hxe
      exact hnl (by simpa using hx)
    rw [h1, h2]; simp
  rw [hpos, hoff] at hp
  exact ⟨congrArg Prod.fst hp, congrArg Prod.snd hp⟩

/-! ### 5. a blank line separates sub-expressions, with or without trailing spaces/tabs -/

/-- 5 (general form). `a` is any string after which whitespace starts a fresh whitespace token (`Boundary`: the
lexer, run over `a` followed by a space/tab/newline, has emitted tokens spelling `a` and is at the start of a
whitespace run); `ws`, `ws'` are runs of spaces/tabs; `b` is arbitrary. If `lex` succeeds, the token list is
`pre ++ [t] ++ post` with `pre` spelling `a`, `post` spelling `b`, and `t` ONE token of type Subexpression spelling
the whole whitespace run. -/
theorem C13_blank_line_separates_general (cc : CharClass) (hcc : cc.Sane2) (a ws ws' b : List Char)
    (hbd : Boundary cc (Lexer.init theTree) a)
    (hws : ∀ c ∈ ws, c = ' ' ∨ c = '\t') (hws' : ∀ c ∈ ws', c = ' ' ∨ c = '\t') (toks : List LexerToken)
    (h : lex cc (a ++ ws ++ ['\n'] ++ ws' ++ ['\n'] ++ b) = .ok toks) :
    ∃ pre t post, toks = pre ++ [t] ++ post ∧ (pre.map (·.text)).flatten = a ∧
      t.tokenType = .subexpression ∧ t.text = ws ++ ['\n'] ++ ws' ++ ['\n'] ∧ (post.map (·.text)).flatten = b := by
  obtain ⟨pre, t, post, htoks, hpre, hty, htx⟩ := lex_blank_line cc hcc.toSane a ws ws' b hbd hws hws' toks h
  refine ⟨pre, t, post, htoks, hpre, hty, htx, ?_⟩
  have hl := C13_lossless cc hcc _ toks h
  rw [htoks] at hl
  simp only [List.map_append, List.flatten_append, List.map_cons, List.map_nil, List.flatten_cons,
    List.flatten_nil, List.append_nil] at hl
  have hpre' : (pre.map (·.text)).flatten = a := hpre
  rw [hpre', htx] at hl
  simp only [List.append_assoc] at hl
  have := List.append_cancel_left hl
  have := List.append_cancel_left this
  simpa using this

/-- 5 (identifier family). `a` is any non-empty string of letters (`Letter`: alphanumeric, not numeric, not
whitespace, not `_`/`:`, not the first character of an operator); hypothesis on the tables: space, tab, newline are
not alphanumeric (`SaneWs`). -/
theorem C13_blank_line_separates (cc : CharClass) (hcc : cc.Sane2) (hws0 : cc.SaneWs) (x : Char) (r ws ws' b : List Char)
    (hl : ∀ ch ∈ x :: r, Letter cc ch)
    (hws : ∀ c ∈ ws, c = ' ' ∨ c = '\t') (hws' : ∀ c ∈ ws', c = ' ' ∨ c = '\t') (toks : List LexerToken)
    (h : lex cc ((x :: r) ++ ws ++ ['\n'] ++ ws' ++ ['\n'] ++ b) = .ok toks) :
    ∃ pre t post, toks = pre ++ [t] ++ post ∧ (pre.map (·.text)).flatten = x :: r ∧
      t.tokenType = .subexpression ∧ t.text = ws ++ ['\n'] ++ ws' ++ ['\n'] ∧ (post.map (·.text)).flatten = b :=
  C13_blank_line_separates_general cc hcc (x :: r) ws ws' b (boundary_letters cc hws0 x r hl) hws hws' toks h

theorem rustTables_saneWs : rustTables.SaneWs where
  space := by decide +kernel
  tab := by decide +kernel
  newline := by decide +kernel

/-- the hypotheses are satisfiable: `a`, `b` are letters for the Rust tables … -/
example : Letter rustTables 'a' ∧ Letter rustTables 'b' :=
  ⟨⟨by decide +kernel, by decide +kernel, by decide, by decide, by decide, by rw [theTree_eq]; decide⟩,
   ⟨by decide +kernel, by decide +kernel, by decide, by decide, by decide, by rw [theTree_eq]; decide⟩⟩

/-- … and `ab \t\n \ncd` lexes to identifier, ONE Subexpression token (the defect `5 \n\n6` of the unpatched
lexer: the trailing space was lost and the token typed Whitespace), identifier -/
example : summary (lex rustTables ['a', 'b', ' ', '\t', '\n', ' ', '\n', 'c', 'd']) =
    some [(.identifier, 0, 0, ['a', 'b']), (.subexpression, 0, 2, [' ', '\t', '\n', ' ', '\n']),
          (.identifier, 2, 0, ['c', 'd'])] := by
  rw [lex_eq]; decide +kernel

/-! ### 6. operators are classified by longest match against the token table -/

/-- 6. longest match. For every token of `lex cc s = .ok toks` whose type is a type of the regenerated operator
table (`isOpType`): its text is a spelling of the table with exactly that type, and no strictly longer spelling of
the table is a prefix of the input from the token's start.
The documented exceptions are not exceptions to this statement, they are about which tokens exist at all:
* `_`-prefixed identifiers and `.digit` floats (when `can_float`) yield Identifier / Number tokens, not operator
  tokens (`armOperator` switches state), so e.g. `.5` is one Number although `.` is a spelling;
* greedy without backtracking: see `C13_no_backtracking` — if the characters read are a path of the tree without a
  type and the next character continues nothing, `lex` FAILS ("No token") instead of emitting a shorter spelling;
  hence the theorem is about successful runs only. -/
theorem C13_longest_match (cc : CharClass) (hcc : cc.Sane2) (s : List Char) (toks : List LexerToken)
    (h : lex cc s = .ok toks) (i : Nat) (hi : i < toks.length) (hop : isOpType toks[i].tokenType = true) :
    (toks[i].text, toks[i].tokenType) ∈ Gen.LexTables.operatorChars ∧
    ∀ sp ty, (sp, ty) ∈ Gen.LexTables.operatorChars → toks[i].text.length < sp.length →
      ¬ sp <+: s.drop (tokenOffset toks i) :=
  lex_longest_match cc hcc s toks h i hi hop

/-- 6, the other direction of the table: a token type is an operator type iff it occurs in the table; every other
token type is one of the twelve lexical types -/
theorem C13_token_types (ty : Gen.TokenType) :
    isOpType ty = true ∨ ty ∈ [Gen.TokenType.whitespace, .subexpression, .number, .identifier, .symbol,
      .suffixIdentifier, .prefixIdentifier, .infixIdentifier, .annotation, .lineAnnotation, .charList, .byteList,
      .unknown] := by
  cases ty <;> decide

/-- 6, greedy without backtracking, characterised exactly (one step of the Operator state) -/
theorem C13_no_backtracking (cc : CharClass) (σ : Lexer) (c : Char) (hs : σ.state = .operator)
    (hty : σ.currentTokenType = none)
    (hpath : walkOperator σ.operatorTree (σ.currentCharacters ++ [c]) = none)
    (hident : ¬(startsWith (σ.currentCharacters ++ [c]) '_' = true ∧ isIdentifier cc (σ.currentCharacters ++ [c]) = true))
    (hfloat : ¬(startsWith (σ.currentCharacters ++ [c]) '.' = true ∧ utf8Len (σ.currentCharacters ++ [c]) = 2 ∧
                cc.isNumeric c = true ∧ σ.canFloat = true)) :
    ∃ σ1, processChar cc σ c = .ok (σ1, none) ∧ σ1.result = .err :=
  processChar_no_backtracking cc σ c hs hty hpath hident hfloat

/-- the tree recognises exactly the table: soundness (completeness is `C13_longest_match_partial_table`) -/
theorem C13_tree_sound (cs : List Char) (n : LexerOperatorNode) (ty : Gen.TokenType)
    (h : walkOperator theTree cs = some n) (hty : n.tokenType = some ty) :
    (cs, ty) ∈ Gen.LexTables.operatorChars :=
  tree_sound cs n ty h hty

/-- 6 (partial, table side). every spelling of the regenerated table is recognised by the operator tree of
`Lexer::new` with exactly its token type -/
theorem C13_longest_match_partial_table :
    ∀ p ∈ Gen.LexTables.operatorChars, ∃ n, walkOperator theTree p.1 = some n ∧ n.tokenType = some p.2 :=
  fun _ hp => tree_complete hp

/-- 6 (partial, lexer side). while an operator is being read its token type is the one the tree stores for the
characters read so far, and the operator token is ended only by a character that continues no path of the tree,
i.e. no spelling of the table and no prefix of one (greedy = longest match; there is no backtracking: `>.5`
reads the prefix `>.` of `>..` and then fails with "No token" instead of falling back to `>` `.5`) -/
theorem C13_longest_match_partial_step (cc : CharClass) (σ : Lexer) (c : Char) :
    (∀ node, walkOperator σ.operatorTree (σ.currentCharacters ++ [c]) = some node →
      (armOperator cc σ c).1.currentTokenType = node.tokenType ∧ (armOperator cc σ c).2 = false ∧
      (armOperator cc σ c).1.currentCharacters = σ.currentCharacters ++ [c]) ∧
    ((armOperator cc σ c).2 = true → walkOperator σ.operatorTree (σ.currentCharacters ++ [c]) = none) :=
  ⟨fun node h => armOperator_type cc σ c node h, armOperator_maximal cc σ c⟩

/-- longest match at work: `>..<` is one ExclusiveRange token, `>..` `>` splits after the longest spelling, and
`>.5` is rejected (no backtracking) -/
example : summary (lex rustTables ['>', '.', '.', '<', ' ', '>', '.', '.', '>']) =
    some [(.exclusiveRange, 0, 0, ['>', '.', '.', '<']), (.whitespace, 0, 4, [' ']),
          (.startExclusiveRange, 0, 5, ['>', '.', '.']), (.greaterThan, 0, 8, ['>'])] := by rw [lex_eq]; decide +kernel
example : summary (lex rustTables ['>', '.', '5']) = none := by rw [lex_eq]; decide +kernel

end Garnish.Props.C13
