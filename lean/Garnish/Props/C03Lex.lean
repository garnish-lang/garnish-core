/-
Property C03, front-end half: the Symbol / ByteList tokens the lexer returns have the shape the builder relies on
(`C03_lex_tokens_shaped`, Lemmas/LexerShape.lean), the parser copies tokens into nodes unchanged
(`C03_parse_copies_tokens`, Lemmas/ParserTokens.lean); together `C03_front_end_shape`, which discharges the side
condition `NodesShaped` of `C03_build_total` and gives the unconditional `C03_pipeline_total_unconditional`.
-/
import Garnish.Props.C03
import Garnish.Lemmas.LexerShape
import Garnish.Lemmas.ParserTokens
namespace Garnish.Props.C03Lex
open Garnish Garnish.Model.Lexer Garnish.Model.Parser Garnish.Props.C03

/-- lexer half: for every input and every sane character classification, a token of type Symbol has a text
`':' :: rest`, and a token of type ByteList has a text `q` quotes ++ body ++ `q` quotes with `1 ≤ q` and a body that
does not start with a quote -/
theorem C03_lex_tokens_shaped (cc : CharClass) (hcc : cc.Sane) (s : List Char) (toks : List LexerToken)
    (h : lex cc s = .ok toks) (t : LexerToken) (ht : t ∈ toks) :
    (t.tokenType = .symbol → ∃ rest, t.text = ':' :: rest) ∧
    (t.tokenType = .byteList → ∃ (q : Nat) (body : List Char), 1 ≤ q ∧
      t.text = List.replicate q '\'' ++ body ++ List.replicate q '\'' ∧ ∀ c, body.head? = some c → c ≠ '\'') :=
  lex_tokens_shaped cc hcc s toks h t ht

/-- parser half: for arbitrary properties `S`, `B` of tokens — if every input token of type Symbol has `S` and every
input token of type ByteList has `B`, then in the parse result every node with definition Symbol carries a token with
`S` and every node with definition ByteList a token with `B` (nodes get their token from `pushNode`, with a definition
derived from the token type; all later writes touch only `parent` / `left` / `right`) -/
theorem C03_parse_copies_tokens (S B : PToken → Prop) (tokens : List PToken)
    (ht : ∀ t ∈ tokens, (t.type = .symbol → S t) ∧ (t.type = .byteList → B t)) (r : ParseResult)
    (h : parse tokens = .ok r) (i : Nat) (pn : ParseNode) (hpn : r.nodes[i]? = some pn) :
    (pn.definition = .symbol → S pn.lexToken) ∧ (pn.definition = .byteList → B pn.lexToken) := by
  have := parse_good S B tokens ht
  rw [h] at this
  exact this i pn hpn

/-- the front-end shape fact that `C03_pipeline_total` assumes -/
theorem C03_front_end_shape : C03_front_end_shape_statement := by
  intro cc hcc s toks r hlex hparse i pn hpn
  have hgood := C03_parse_copies_tokens
    (fun t => ∃ rest, t.text = ':' :: rest)
    (fun t => ∃ (q : Nat) (body : List Char),
      t.text = List.replicate q '\'' ++ body ++ List.replicate q '\'' ∧ (∀ c, body.head? = some c → c ≠ '\''))
    (toks.map toPToken)
    (by
      intro pt hpt
      simp only [List.mem_map] at hpt
      obtain ⟨t, ht, rfl⟩ := hpt
      have hs := C03_lex_tokens_shaped cc hcc s toks hlex t ht
      refine ⟨fun h => hs.1 h, fun h => ?_⟩
      obtain ⟨q, body, _, h1, h2⟩ := hs.2 h
      exact ⟨q, body, h1, h2⟩)
    r hparse i pn hpn
  exact ⟨hgood.1, hgood.2⟩

/-- C03 on the models without any side condition: for every string each of `lex`, `parse`, `build` returns `ok` or
`err` (never `panic`, never `fuelOut`) -/
theorem C03_pipeline_total_unconditional {F : Type} : C03_pipeline_total_statement F :=
  C03_pipeline_total_of_shape C03_front_end_shape

/-- non-vacuity: `:ab '1 2' '''x'y'''` lexes, and its Symbol / ByteList tokens have the stated shapes -/
example : (match lex rustTables [':', 'a', 'b', ' ', '\'', '1', ' ', '2', '\'', ' ', '\'', '\'', '\'', 'x', '\'', 'y', '\'', '\'', '\''] with
    | .ok toks => toks.map (fun t => (t.tokenType, t.text))
    | _ => []) =
    [(.symbol, [':', 'a', 'b']), (.whitespace, [' ']), (.byteList, ['\'', '1', ' ', '2', '\'']), (.whitespace, [' ']),
     (.byteList, ['\'', '\'', '\'', 'x', '\'', 'y', '\'', '\'', '\''])] := by
  rw [lex_eq]; decide +kernel

end Garnish.Props.C03Lex
