/-
The announced-length list contract and `BasicGarnishData`.

`StoreLawsOn.addToList` / `endList` (Model/Runtime/StoreOn.lean) let any number of items follow `start_list(n)`; they
are false of BasicGarnishData (`basic_not_lawsOn`, Props/C19StoreOn.lean), whose `start_list(n)` ANNOUNCES the
length.  The contract that respects the announcement is a law about the operation SEQUENCE
`makeListRM S items` = `start_list(items.length)`, one `add_to_list` per item, `end_list` — what `values::build` and
the runtime's `make_list` always issue:

  `ListLawOn S Inv`:  on a state satisfying `Inv`, if the items decode to `vs` then the sequence answers `Ok` with an
  address that decodes to `.list vs`, disturbs nothing else (`Eff`) and re-establishes `Inv`.

* `basic_makeList_law`: BasicGarnishData satisfies it for EVERY announced length, with `Inv` = `BInvL` = `BInv` + the
  data block ends inside the heap (`LayoutOK`: what `end_list`'s slice `&mut data[start .. start + len]` needs;
  it holds of `BasicGarnishData::new()` and every push keeps it).  The proof (`basic_listPhases`): the sequence is
  `Store.buildList` phase by phase, which answers `Ok` (`buildList_total`: `add_to_list` cannot fail before the announced
  length is reached, `end_list` cannot fail once it is) and whose result is characterised by `basic_buildList_law`;
  register pops before `end_list` only move a head (`basic_listRun`: the sequence of the runtime's `make_list`, of which
  this law is the case without pops and Props/C19MakeList.lean, Props/C01RefineBasicList.lean the general one).
* `StoreLawsOn.listLaw`: the Simple-shaped clauses imply `ListLawOn` — so a development that asks for `ListLawOn`
  instead of the two clauses loses nothing on the stores that have them (reference store, SimpleGarnishData).
-/
import Garnish.Props.C19StoreOn
import Garnish.Lemmas.BasicMakeList
import Garnish.Lemmas.RuntimeBase
namespace Garnish.Props.C19ListOn
open Garnish Gen Garnish.Model.Equality Garnish.Model.Runtime Garnish.Model.Runtime.Basic Garnish.BasicOpt
open Garnish.Lemmas.Runtime.Basic Garnish.Props.C19StoreOn

variable {F σ : Type}

/-- the announced-length list contract -/
def ListLawOn (S : RStore F σ) (Inv : σ → Prop) : Prop :=
  ∀ items vs s, Inv s → DecodesList (S.view s) items vs →
    Garnish.Model.Runtime.AddsOn S Inv (makeListRM S items) s (.list vs)

/-- the invariant of the Basic store with the heap-layout condition of `end_list` -/
def BInvL (st : BState) : Prop := BInv st ∧ LayoutOK st.store

theorem binvL_init : BInvL BState.init := ⟨binv_init, layout_fresh⟩

/-- `BInvL` is the invariant of Lemmas/BasicLaws.lean with "room" read as `Fits` and `LayoutOK` -/
theorem binvP_fitsL : BInvP (fun s => Fits s ∧ LayoutOK s) = BInvL :=
  funext fun _ => propext ⟨fun h => ⟨binv_iff.2 ⟨h.wfq, h.room.1, h.typed⟩, h.room.2⟩,
    fun h => ⟨h.1.wfq, ⟨h.1.fits, h.2⟩, h.1.typed⟩⟩

/-- **the list protocol on the heap model, with `k` register pops before `end_list`**: `start_list`, the adds and
`end_list` answer `Ok` — `end_list` reads no head, so it does the same after the pops — and the state they leave -/
theorem basic_listPhases (nc : NumCode F) {st : BState} (hI : BInvL st) {items : List Nat} {vs : List (Val F)}
    (hd : DecodesList ((basicRStore nc).view st) items vs) (k : Nat) (bl : Option (Nat × List Nat)) :
    ∃ (s1 s2 s4 : Store) (li : Nat) (o' : Option Nat),
      st.store.startList items.length = .ok (s1, st.store.cells.size) ∧
      items.foldlM (fun s a => s.addToList st.store.cells.size a) s1 = .ok s2 ∧
      (∀ a ∈ items, a < st.store.cells.size) ∧
      headAfter s2.cells k s2.currentRegister = some o' ∧
      Store.endList { s2 with currentRegister := o' } st.store.cells.size = .ok ({ s4 with currentRegister := o' }, li) ∧
      Decodes (basicView nc.dec s4.cells) li (.list vs) ∧
      Eff (basicRStore nc) st { st with store := { s4 with currentRegister := o' }, building := bl }
        (((basicRStore nc).regs st).drop k) ((basicRStore nc).vals st) ∧
      BInvL { st with store := { s4 with currentRegister := o' }, building := bl } := by
  obtain ⟨hinv, hlay⟩ := hI
  have hd' : DecodesList (basicView nc.dec st.store.cells) items vs := hd
  have hnode : ∀ a ∈ items, isNode st.store.cells a = true := by
    intro a ha
    obtain ⟨v, _, hv⟩ := Lemmas.EqualityRefine.decodesList_mem hd' a ha
    exact (decodes_node hinv.wfq hv).2
  have hlt : ∀ a ∈ items, a < st.store.cells.size := fun a ha => node_lt (hnode a ha)
  have hpair : ∀ a ∈ items, ∀ l r, st.store.cells[a]? = some (Cell.pair l r) → l < st.store.cells.size := by
    intro a ha l r hc
    have hsh : shape st.store.cells a = some ⟨.pair 0 0, [], [l, r]⟩ := shape_of_solo hc rfl
    have := hinv.wfq.kid_lt hsh (by simp [svAt, hc, isSV]) (k := l) (by simp)
    have := hlt a ha
    omega
  obtain ⟨s4, li, hok, hlay'⟩ := buildList_total hinv.fits hlay hlt hpair
  obtain ⟨_, hdec, he, hb⟩ := basic_buildList_law nc hinv hd hok
  obtain ⟨_, hcells4, hf4⟩ := buildList_spec hlt hok
  have hsub4 : Sub st.store.cells s4.cells := by rw [hcells4]; exact sub_append _ _
  -- the three phases
  have hsplit := hok
  simp only [Store.buildList, Outcome.bind_eq_ok'] at hsplit
  obtain ⟨⟨s1, li1⟩, hstart, s2, hfold, hend⟩ := hsplit
  obtain ⟨hli1, _, f1⟩ := startList_spec hstart
  subst hli1
  obtain ⟨hinv2, f2⟩ := addAll_exp items 0 s1 s2 (by simp) (startList_exp hstart) hlt hfold
  have hsub2 : Sub st.store.cells s2.cells := by
    intro p c hc
    rw [hinv2 p, expCell_base (lt_of_getElem? hc)]; exact hc
  have hreg2 : s2.currentRegister = st.store.currentRegister := (f1.trans f2).2.2.2.2.1
  -- the pops
  obtain ⟨o', hh, htyped, hregs⟩ := headAfter_total hinv.wfq hinv.typed k st.store.currentRegister hinv.regHead
  have hh2 : headAfter s2.cells k s2.currentRegister = some o' := by
    rw [hreg2]; exact headAfter_sub hsub2 k _ _ hh
  have hotlt : ∀ a, o' = some a → a < st.store.cells.size := fun a ha => isRegCell_lt (htyped a ha)
  have hb' : BInv { st with store := { s4 with currentRegister := o' }, building := bl } :=
    BInvP.inv (BInvP.of_store (st' := { st with store := { s4 with currentRegister := o' }, building := bl })
      (hb.toP.heads room_fits o' s4.currentValue s4.currentFrame
        (fun a ha => isRegCell_sub hsub4 (htyped a ha)) hb.wfq.val hb.toP.frmHead) rfl)
  refine ⟨s1, s2, s4, li, o', hstart, hfold, hlt, hh2, endList_reg o' hend, hdec,
    ⟨⟨he.keeps.dec, rfl, rfl, rfl, rfl⟩, ?_, he.vals, rfl, he.frames⟩, hb', hlay'⟩
  show regsOf s4.cells o' = _
  rw [regsOf_sub hsub4 hotlt, hregs]; rfl

/-- the sequence of the runtime's `make_list` — `start_list(n)`, `n` × `add_to_list`, `k` × `pop_register`, `end_list`
(`makeListPopRM`, Lemmas/BasicMakeList.lean) — on every `BInvL` state -/
theorem basic_listRun (nc : NumCode F) {st : BState} (hI : BInvL st) {items : List Nat} {vs : List (Val F)}
    (hd : DecodesList ((basicRStore nc).view st) items vs) (k : Nat) :
    ∃ a st', makeListPopRM (basicRStore nc) items k st = .ok (a, st') ∧
      Decodes ((basicRStore nc).view st') a (.list vs) ∧
      Eff (basicRStore nc) st st' (((basicRStore nc).regs st).drop k) ((basicRStore nc).vals st) ∧ BInvL st' := by
  obtain ⟨s1, s2, s4, li, o', hstart, hfold, _, hh2, hend, hdec, he, hi⟩ := basic_listPhases nc hI hd k none
  have h1 := startList_ok nc hstart
  obtain ⟨bl, h2⟩ := addAllRM_basic nc st.store.cells.size items
    { st with store := s1, building := some (st.store.cells.size, []) } s2 hfold
  have h3 := popsRM_basic nc k { st with store := s2, building := bl } o' hh2
  refine ⟨li, { st with store := { s4 with currentRegister := o' }, building := none }, ?_, hdec, he, hi⟩
  simp only [makeListPopRM, RM.bind, h1, h2, h3]
  exact endList_ok nc (st := { st with store := { s2 with currentRegister := o' }, building := bl }) hend

/-- **basic_makeList_law**: BasicGarnishData satisfies the announced-length list contract, for every length — the
sequence without pops -/
theorem basic_makeList_law (nc : NumCode F) : ListLawOn (basicRStore nc) BInvL :=
  fun _ _ _ hI hd => basic_listRun nc hI hd 0

/-! ### the Simple-shaped clauses imply the announced-length contract -/

theorem addAll_of_clauses {S : RStore F σ} {Inv : σ → Prop} {R : σ → Nat → Prop} (L : StoreLawsOn S Inv R) :
    ∀ (rest done : List Nat) (t : Nat) (s : σ), Inv s → S.building s = some (t, done) →
      ∃ t' s', addAllRM S rest t s = .ok (t', s') ∧ Eff S s s' (S.regs s) (S.vals s) ∧
        S.building s' = some (t', done ++ rest) ∧ Inv s'
  | [], done, t, s, hi, hb => ⟨t, s, rfl, Eff.refl S s, by simpa using hb, hi⟩
  | a :: rest, done, t, s, hi, hb => by
    obtain ⟨t1, s1, h1, e1, b1, i1⟩ := L.addToList t done a s hi hb
    obtain ⟨t2, s2, h2, e2, b2, i2⟩ := addAll_of_clauses L rest (done ++ [a]) t1 s1 i1 b1
    refine ⟨t2, s2, by simp only [addAllRM, RM.bind, h1]; exact h2, ?_, by simpa using b2, i2⟩
    have := e1.trans (by rw [e1.regs, e1.vals] at e2; exact e2)
    exact this

/-- **StoreLawsOn.listLaw**: a store with the unrestricted list clauses satisfies the announced-length contract -/
theorem StoreLawsOn.listLaw {S : RStore F σ} {Inv : σ → Prop} {R : σ → Nat → Prop} (L : StoreLawsOn S Inv R) :
    ListLawOn S Inv := by
  intro items vs s hi hd
  obtain ⟨t, s1, h1, e1, b1, i1⟩ := L.startList items.length s hi
  obtain ⟨t2, s2, h2, e2, b2, i2⟩ := addAll_of_clauses L items [] t s1 i1 b1
  have e12 : Eff S s s2 (S.regs s) (S.vals s) := e1.trans (by rw [e1.regs, e1.vals] at e2; exact e2)
  have hd2 : DecodesList (S.view s2) items vs :=
    Garnish.Lemmas.Runtime.decodesList_keeps e12.keeps hd
  obtain ⟨a, s3, h3, d3, e3, i3⟩ := L.endList t2 items vs s2 i2 (by simpa using b2) hd2
  refine ⟨a, s3, by simp only [makeListRM, RM.bind, h1, h2]; exact h3, d3, ?_, i3⟩
  exact e12.trans (by rw [e12.regs, e12.vals] at e3; exact e3)

end Garnish.Props.C19ListOn
