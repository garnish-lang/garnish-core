/-
Runtime refinement, part 9 (C17 anchor): the host TRACE, one step. `StepTrace` (Model/Runtime/SimT.lean) is the trace
half of `StepSim`: if the store's recorded host calls decode, call for call, to the machine's trace before the step
(`TraceRel`), they do so after it — every `defer_op` / `resolve` / `apply` the store records is recorded by the
machine at the same step with the same instruction / symbol / external value and the operands the addresses denote,
and conversely. Same hypotheses as `C01_refine_step_full`.
-/
import Garnish.Props.RuntimeRefineStepFull
namespace Garnish.Props.RuntimeRefine
open Garnish Gen Garnish.Abs Garnish.Model.Equality Garnish.Model.Runtime Garnish.Lemmas.Runtime

variable {F σ : Type} {S : RStore F σ} {P : Prog F} {host : Host F} (fo : FloatOps F)

/-- trace half of `C01_refine_step` (the 48 instructions with transliterated handlers, any `OtherHandlers`) -/
theorem C17_refine_step_trace48 (L : StoreLaws S) (HR : HostRefines S host) (fuel : Nat) (H : OtherHandlers σ)
    {s : σ} {m : MState F} (hsim : Sim S P s m) {instr : Instruction} {operand : Option Nat}
    (hfetch : P.instrs[m.pc]? = some (instr, operand)) (hok : StepOK fo S P fuel s m instr operand) :
    StepTrace fo host S P fuel H s m :=
  (refine_step_both fo L HR fuel H hsim hfetch hok).2

/-- trace half of `C01_refine_step_full`: ONE STEP keeps the store's recorded host calls and the machine's trace
related, for every instruction -/
theorem C17_refine_step_trace (L : StoreLaws S) (HR : HostRefines S host) (fuel : Nat) (cast : RM σ (Option Nat))
    {s : σ} {m : MState F} (hsim : Sim S P s m) {instr : Instruction} {operand : Option Nat}
    (hfetch : P.instrs[m.pc]? = some (instr, operand)) (hok : StepOKF fo S P fuel s m instr operand) :
    StepTrace fo host S P fuel (fullHandlers fo S fuel cast) s m :=
  (refine_step_full_both fo L HR fuel cast hsim hfetch hok).2

/-- no instruction at the cursor: nothing is recorded on either side -/
theorem C17_refine_step_trace_end (fuel : Nat) (H : OtherHandlers σ) {s : σ} {m : MState F} (hsim : Sim S P s m)
    (hfetch : P.instrs[m.pc]? = none) : StepTrace fo host S P fuel H s m :=
  (Core.step_end (Inv := fun _ => True) fo fuel H hsim trivial hfetch).trace

end Garnish.Props.RuntimeRefine
