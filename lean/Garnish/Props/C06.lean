/-
C06 — evaluation is stack-balanced on every path.
This file: the fixed operand arity of the instruction families, call/return balance and the constant
depth of a reapply loop, on the abstract machine, for all states. The all-paths statement over built
programs (`C06_balanced_statement`) needs the structured compile model and is stated, not yet proved;
the RUN suite monitors the depth at every executed step of every generated program on both stores.
-/
import Garnish.Props.C01
namespace Garnish.Props.C06
open Garnish Gen Garnish.Abs Garnish.Spec

variable {F : Type} (fo : FloatOps F) (host : Host F)

/-- whatever an operation's outcome (value, deferred, accepted by the host), exactly one operand is pushed -/
theorem C06_pushOut_one (s s' : MState F) (o : OpOut F) (h : pushOut host s o = .ok s') :
    s'.regs.length = s.regs.length + 1 ∧ s'.vals = s.vals ∧ s'.frames = s.frames ∧ s'.pc = s.pc := by
  cases o with
  | val v => simp [pushOut] at h; subst h; simp
  | defer op l r =>
    simp only [pushOut] at h
    cases hd : host.defer op l r <;> simp [hd] at h <;> subst h <;> simp
  | err e => simp [pushOut] at h

/-- a binary operator consumes two operands and leaves one: net −1, on every outcome -/
theorem C06_binary_arity (P : Prog F) (s s' : MState F) (op : Instruction) (d : Option Nat) (l r : Val F) (rs : List (Val F))
    (o : OpOut F) (hi : P.instrs[s.pc]? = some (op, d)) (hr : s.regs = r :: l :: rs)
    (hu : unaryOp fo op r = none) (hb : binaryOp fo op l r = some o)
    (hop : op ≠ .apply ∧ op ≠ .makePair ∧ op ≠ .applyType)
    (hs : pushOut host { s with regs := rs } o = .ok s') :
    s'.regs.length + 1 = s.regs.length ∧ s'.vals = s.vals ∧ s'.frames = s.frames := by
  obtain ⟨h1, h2, h3, _⟩ := C06_pushOut_one host _ _ o hs
  exact ⟨by rw [h1, hr]; rfl, h2, h3⟩

/-- calling an expression value and returning from it restores all three stacks: the two operands of
the apply are replaced by the one result, the argument pushed on the input-value stack is popped, the
frame is gone — whatever the body left on the operand stack above the frame -/
theorem C06_call_return_balance (P : Prog F) (s : MState F) (d d' : Option Nat) (j t : Nat) (x res : Val F)
    (rs leftover : List (Val F)) (pcEnd : Nat) (vals' : List (Val F)) (tr' : List (HostCall F))
    (hi : P.instrs[s.pc]? = some (.apply, d)) (hr : s.regs = x :: .expr j :: rs) (hj : P.jumps[j]? = some t)
    (he : P.instrs[pcEnd]? = some (.endExpression, d')) :
    -- state in which the body reaches its EndExpression: result on top of arbitrary leftovers, the
    -- body's input value still on the input-value stack, the call's frame on top of the frame chain
    let sBody : MState F := { pc := pcEnd, regs := res :: leftover, vals := vals' , frames := ⟨s.pc + 1, rs⟩ :: s.frames, trace := tr' }
    step fo host P s = finish P (.ok ({ s with regs := rs, vals := x :: s.vals, frames := ⟨s.pc + 1, rs⟩ :: s.frames }, t)) ∧
    step fo host P sBody = finish P (.ok ({ sBody with regs := res :: rs, vals := vals'.tail, frames := s.frames }, s.pc + 1)) := by
  refine ⟨C01.C01_apply_expression fo host P s d j t x rs hi hr hj, ?_⟩
  simp [step, he]

/-- a reapply loop runs in constant stack depth: each iteration replaces the input value in place,
creates no frame, and leaves the operand stack one shorter than before the `^~` operand was pushed -/
theorem C06_reapply_constant_depth (P : Prog F) (s : MState F) (j t : Nat) (v w : Val F) (rs vs : List (Val F))
    (hi : P.instrs[s.pc]? = some (.reapply, some j)) (hr : s.regs = v :: rs) (hv : s.vals = w :: vs) (hj : P.jumps[j]? = some t) :
    ∃ s', step fo host P s = finish P (.ok (s', t)) ∧
      s'.vals.length = s.vals.length ∧ s'.frames = s.frames ∧ s'.regs = rs := by
  refine ⟨_, C01.C01_reapply fo host P s j t v w rs vs hi hr hv hj, ?_, rfl, rfl⟩
  simp [hv]

/-- a side-effect block is balanced: `StartSideEffect … EndSideEffect` pushes and pops one input value
and discards exactly the block's one result -/
theorem C06_sideEffect_balance (P : Prog F) (s : MState F) (d d' : Option Nat) (cur : Val F) (vs : List (Val F))
    (pcEnd : Nat) (blockResult : Val F) (regs0 : List (Val F)) (inBlock : Val F) (tr' : List (HostCall F))
    (hi : P.instrs[s.pc]? = some (.startSideEffect, d)) (hv : s.vals = cur :: vs)
    (he : P.instrs[pcEnd]? = some (.endSideEffect, d')) :
    let sEnd : MState F := { pc := pcEnd, regs := blockResult :: regs0, vals := inBlock :: s.vals, frames := s.frames, trace := tr' }
    step fo host P s = seqNext P s (.ok { s with vals := cur :: cur :: vs }) ∧
    step fo host P sEnd = seqNext P sEnd (.ok { sEnd with vals := s.vals, regs := regs0 }) := by
  constructor
  · simp [step, hi, hv]
  · simp [step, he]

/-- The all-paths statement (not yet proved): in every built program the operand depth relative to the
frame base is a function of the program counter alone, never negative, and 1 at every EndExpression. -/
def C06_balanced_statement (compile : Program F → Prog F) (reachable : Prog F → MState F → Prop)
    (relDepth : MState F → Int) : Prop :=
  ∀ (p : Program F), ∃ depthAt : Nat → Int, ∀ s, reachable (compile p) s →
    relDepth s = depthAt s.pc ∧ 0 ≤ relDepth s ∧
    ((compile p).instrs[s.pc]?.map (·.1) = some .endExpression → relDepth s = 1)

end Garnish.Props.C06
