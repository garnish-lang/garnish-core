/-
Runtime refinement, part 4 (C17 / C08 anchors): runtime/src/runtime/apply.rs (Model/Runtime/Apply.lean) against Abs/Ops
`applyKind` and Abs/Machine `applyStep`, arm by arm (`applyArm` names the arm a type pair selects; the arms of the
model's `applyMatch` are in source order).

* `C17_refine_apply_external`: an `External` on the left ↦ both operands popped, the host's `apply` asked EXACTLY ONCE
  with (the external's value, the address of the argument) (`ApplyProtocol`, `C17_refine_apply_once`), unit pushed iff
  it declines, next instruction `cursor + 1`.
* `C08_refine_apply_defer`: a pair no arm lists ↦ the defer protocol with the instruction (`Apply` / `EmptyApply`).
* `C17_refine_apply_expression`, `C17_refine_apply_partial_expression`: entering an expression (`Entered`: input value
  pushed on the value stack — for a partial application the stored input, concatenated with the argument when
  `use_right` —, `push_frame(cursor + 1)`, continue at the jump-table entry; state error when there is none).
* the data arms: merge to a symbol list, slice creation, range narrowing, slice narrowing, look-up by integer / by
  symbol / along a symbol-list path (`accessPath`), partial over a non-expression (unit).
* `C17_refine_empty_apply`: `empty_apply` is `apply_internal(EmptyApply, false)` after one pushed unit;
  `C17_refine_reapply`.
Hypotheses: `StoreLaws S`, register shape, `Decodes`; for the look-up arms the domain of Props/RuntimeRefineAccess.
-/
import Garnish.Lemmas.RuntimeApply4
import Garnish.Lemmas.RuntimeRefStore
namespace Garnish.Props.RuntimeRefine
open Garnish Gen Garnish.Abs Garnish.Model.Equality Garnish.Model.Runtime Garnish.Lemmas.Runtime

variable {F σ : Type} {S : RStore F σ} (fo : FloatOps F)

/-- the `External` arm: Abs/Ops says `.external n arg`, the handler runs the host protocol -/
theorem C17_refine_apply_external (L : StoreLaws S) (fuel : Nat) (instr : Instruction) (ur : Bool)
    {s : σ} {r l n : Nat} {vr : Val F} {rest : List Nat}
    (hregs : S.regs s = r :: l :: rest) (hl : Decodes (S.view s) l (.ext n)) (hr : Decodes (S.view s) r vr) :
    applyKind fo instr ur (.ext n) vr = .external n vr ∧
    ∃ s0, Eff S s s0 rest (S.vals s) ∧
      ApplyProtocol S s0 (applyInternal fo S fuel instr ur s) (some (S.cursor s + 1)) n r :=
  ⟨rfl, by
    obtain ⟨s0, e, h⟩ := Core.apply_external_spec fo L.toK fuel instr ur hregs hl hr trivial nofun
    exact ⟨s0, e.toEff, h.plain⟩⟩

/-- "exactly once": the trace after an external application is the old trace plus the one call `apply n r` -/
theorem C17_refine_apply_once (L : StoreLaws S) {α : Type} {s0 : σ} {res : Outcome (α × σ)} {next : α} {n r : Nat}
    (h : ApplyProtocol S s0 res next n r) {x : α} {s' : σ} (hres : res = .ok (x, s')) :
    S.trace s' = .apply n r :: S.trace s0 :=
  hostProtocol_once (L.apply n r) h hres

/-- the catch-all arm: one offer to the host with the instruction `apply_internal` was called for -/
theorem C08_refine_apply_defer (L : StoreLaws S) (fuel : Nat) (instr : Instruction) (ur : Bool)
    {s : σ} {r l : Nat} {vr vl : Val F} {rest : List Nat}
    (hregs : S.regs s = r :: l :: rest) (hl : Decodes (S.view s) l vl) (hr : Decodes (S.view s) r vr)
    (harm : applyArm vl.typeOf vr.typeOf = .defer) :
    applyKind fo instr ur vl vr = .out (.defer instr vl vr) ∧
    RefinesOut S s (applyInternal fo S fuel instr ur s) (some (S.cursor s + 1)) rest l r (.defer instr vl vr) :=
  ⟨applyKind_defer fo instr ur vl vr harm, (Core.apply_defer_spec fo L.toK fuel instr ur hregs hl hr harm trivial nofun).plain⟩

/-- the `Expression` arm: Abs/Ops `.enter j r` -/
theorem C17_refine_apply_expression (L : StoreLaws S) (fuel : Nat) (instr : Instruction) (ur : Bool)
    {s : σ} {r l j : Nat} {vr : Val F} {rest : List Nat}
    (hregs : S.regs s = r :: l :: rest) (hl : Decodes (S.view s) l (.expr j)) (hr : Decodes (S.view s) r vr) :
    applyKind fo instr ur (.expr j) vr = .enter j vr ∧
    Entered S s (applyInternal fo S fuel instr ur s) rest j vr :=
  ⟨rfl, (Core.apply_expression_spec fo L.toK fuel instr ur hregs hl hr nofun trivial nofun).plain⟩

/-- the `Partial` arm over an expression: Abs/Ops `.enter j (input <> r)` resp. `.enter j input` -/
theorem C17_refine_apply_partial_expression (L : StoreLaws S) (fuel : Nat) (instr : Instruction) (ur : Bool)
    {s : σ} {r l j : Nat} {vr input : Val F} {rest : List Nat}
    (hregs : S.regs s = r :: l :: rest) (hl : Decodes (S.view s) l (.part (.expr j) input))
    (hr : Decodes (S.view s) r vr) :
    applyKind fo instr ur (.part (.expr j) input) vr = .enter j (if ur then .concat input vr else input) ∧
    Entered S s (applyInternal fo S fuel instr ur s) rest j (if ur then .concat input vr else input) :=
  ⟨rfl, (Core.apply_partial_expression_spec fo L.toK fuel instr ur hregs hl hr nofun (fun _ => nofun) trivial nofun).plain⟩

/-- the `Partial` arm over anything else: unit -/
theorem C17_refine_apply_partial_other (L : StoreLaws S) (fuel : Nat) (instr : Instruction) (ur : Bool)
    {s : σ} {r l : Nat} {vr vf input : Val F} {rest : List Nat}
    (hregs : S.regs s = r :: l :: rest) (hl : Decodes (S.view s) l (.part vf input))
    (hr : Decodes (S.view s) r vr) (hne : vf.typeOf ≠ .expression) :
    applyKind fo instr ur (.part vf input) vr = .out (.val .unit) ∧
    Pushed S s (applyInternal fo S fuel instr ur s) (some (S.cursor s + 1)) rest .unit :=
  (Core.apply_partial_other_spec fo L.toK fuel instr ur hregs hl hr hne trivial nofun).imp_right (·.plain)

/-- symbols / symbol lists merge -/
theorem C17_refine_apply_merge (L : StoreLaws S) (fuel : Nat) (instr : Instruction) (ur : Bool)
    {s : σ} {r l : Nat} {vr vl : Val F} {rest : List Nat}
    (hregs : S.regs s = r :: l :: rest) (hl : Decodes (S.view s) l vl) (hr : Decodes (S.view s) r vr)
    (harm : applyArm vl.typeOf vr.typeOf = .merge) :
    ∃ v, applyKind fo instr ur vl vr = .out (.val v) ∧
      Pushed S s (applyInternal fo S fuel instr ur s) (some (S.cursor s + 1)) rest v :=
  (Core.apply_merge_spec fo L.toK fuel instr ur hregs hl hr harm trivial nofun).imp fun _ h => h.imp_right (·.plain)

/-- list / concatenation / text / bytes / symbol list applied to a range: a slice -/
theorem C17_refine_apply_mk_slice (L : StoreLaws S) (fuel : Nat) (instr : Instruction) (ur : Bool)
    {s : σ} {r l : Nat} {vr vl : Val F} {rest : List Nat}
    (hregs : S.regs s = r :: l :: rest) (hl : Decodes (S.view s) l vl) (hr : Decodes (S.view s) r vr)
    (harm : applyArm vl.typeOf vr.typeOf = .mkSlice) :
    applyKind fo instr ur vl vr = .out (.val (.slice vl vr)) ∧
      Pushed S s (applyInternal fo S fuel instr ur s) (some (S.cursor s + 1)) rest (.slice vl vr) :=
  (Core.apply_mkSlice_spec fo L.toK fuel instr ur hregs hl hr harm trivial nofun).imp_right (·.plain)

/-- a range applied to a range: Abs/Ops `narrowRange` (two fresh numbers and a fresh range, or the state error) -/
theorem C17_refine_apply_narrow (L : StoreLaws S) (fuel : Nat) (instr : Instruction) (ur : Bool)
    {s : σ} {r l : Nat} {os oe bs be : Val F} {rest : List Nat}
    (hregs : S.regs s = r :: l :: rest) (hl : Decodes (S.view s) l (.range os oe))
    (hr : Decodes (S.view s) r (.range bs be)) :
    ∃ o, applyKind fo instr ur (.range os oe) (.range bs be) = .out o ∧
      RefinesOut S s (applyInternal fo S fuel instr ur s) (some (S.cursor s + 1)) rest l r o := by
  refine ⟨_, ?_, (Core.apply_narrow_spec fo L.toK fuel instr ur hregs hl hr trivial nofun).plain⟩
  simp only [applyKind]
  cases Abs.narrowRange fo (.range os oe) (.range bs be) <;> rfl

/-- a slice (over a range) applied to a range: the same value under the narrowed range -/
theorem C17_refine_apply_slice_narrow (L : StoreLaws S) (fuel : Nat) (instr : Instruction) (ur : Bool)
    {s : σ} {r l : Nat} {v os oe bs be : Val F} {rest : List Nat}
    (hregs : S.regs s = r :: l :: rest) (hl : Decodes (S.view s) l (.slice v (.range os oe)))
    (hr : Decodes (S.view s) r (.range bs be)) :
    ∃ o, applyKind fo instr ur (.slice v (.range os oe)) (.range bs be) = .out o ∧
      RefinesOut S s (applyInternal fo S fuel instr ur s) (some (S.cursor s + 1)) rest l r o := by
  refine ⟨_, ?_, (Core.apply_sliceNarrow_spec fo L.toK fuel instr ur hregs hl hr trivial nofun).plain⟩
  simp only [applyKind]
  cases Abs.narrowRange fo (.range os oe) (.range bs be) <;> rfl

/-- symbol list / list / pair applied to an integer: `accessInt`; its `UnsupportedOpTypes` is the instruction's error -/
theorem C17_refine_apply_access_integer (L : StoreLaws S) (fuel : Nat) (instr : Instruction) (ur : Bool)
    {s : σ} {r l : Nat} {vl : Val F} {i : Int} {rest : List Nat}
    (hregs : S.regs s = r :: l :: rest) (hl : Decodes (S.view s) l vl) (hr : Decodes (S.view s) r (.num (.int i)))
    (harm : applyArm vl.typeOf .number = .accInt) (hd : AccessDomain vl) :
    applyKind fo instr ur vl (.num (.int i)) = .out (accOut (accessInt fo (.int i) vl)) ∧
    RefinesOut S s (applyInternal fo S fuel instr ur s) (some (S.cursor s + 1)) rest l r
      (accOut (accessInt fo (.int i) vl)) :=
  (Core.apply_accInt_spec fo L.toK fuel instr ur hregs hl hr harm hd (fun _ _ => nofun) trivial nofun).imp_right (·.plain)

/-- pair / list applied to a symbol: `accessSym` -/
theorem C17_refine_apply_access_symbol (L : StoreLaws S) (fuel : Nat) (instr : Instruction) (ur : Bool)
    {s : σ} {r l y : Nat} {vl : Val F} {rest : List Nat}
    (hregs : S.regs s = r :: l :: rest) (hl : Decodes (S.view s) l vl) (hr : Decodes (S.view s) r (.sym y))
    (harm : applyArm vl.typeOf .symbol = .accSym) (hd : AccessDomain vl) :
    applyKind fo instr ur vl (.sym y) = .out (accOut (accessSym y vl)) ∧
    RefinesOut S s (applyInternal fo S fuel instr ur s) (some (S.cursor s + 1)) rest l r
      (accOut (accessSym y vl)) :=
  (Core.apply_accSym_spec fo L.toK fuel instr ur hregs hl hr harm hd (.inr L.listSymOn) (fun _ _ => nofun) trivial
    nofun).imp_right (·.plain)

/-- a list applied to a symbol list: the path of Abs/Ops `accessPath`; a step that finds nothing, or reaches a
value that cannot be looked into with this kind of key, ends the path with a fresh unit -/
theorem C17_refine_apply_path (L : StoreLaws S) (fuel : Nat) (instr : Instruction) (ur : Bool)
    {s : σ} {r l : Nat} {items : List (Val F)} {ps : List (SymPart F)} {rest : List Nat}
    (hregs : S.regs s = r :: l :: rest) (hl : Decodes (S.view s) l (.list items))
    (hr : Decodes (S.view s) r (.symList ps)) (hd : PathDomain fo fuel ps (.list items)) :
    applyKind fo instr ur (.list items) (.symList ps) = .out (accOut (accessPath fo ps (.list items))) ∧
    RefinesOut S s (applyInternal fo S fuel instr ur s) (some (S.cursor s + 1)) rest l r
      (accOut (accessPath fo ps (.list items))) :=
  (Core.apply_path_spec fo L.toK fuel instr ur hregs hl hr hd (On.pathK_of_not fo id L.listSymOn _ _) (fun _ _ => nofun) trivial
    nofun).imp_right (·.plain)

/-- `empty_apply` = one unit pushed, then `apply_internal(EmptyApply, false)` — Abs/Machine `.emptyApply` applies the
left operand to unit -/
theorem C17_refine_empty_apply (L : StoreLaws S) (fuel : Nat) (s : σ) :
    ∃ u s1, Decodes (S.view s1) u .unit ∧ Eff S s s1 (u :: S.regs s) (S.vals s) ∧
      emptyApply fo S fuel s = applyInternal fo S fuel .emptyApply false s1 := by
  obtain ⟨u, s1, h1, d1, e1⟩ := pushUnit_spec L s
  exact ⟨u, s1, d1, e1, by rw [emptyApply, bind_ok h1]⟩

/-- `reapply`: the top register replaces the current input value and execution continues at the jump-table entry
(Abs/Machine `.reapply`); state errors: no such entry, no input value -/
theorem C17_refine_reapply (L : StoreLaws S) (j : Nat) {s : σ} {v : Nat} {rest : List Nat}
    (hregs : S.regs s = v :: rest) :
    match S.jumpTable s j, S.vals s with
    | some t, _ :: vs => ∃ s', reapply S j s = .ok (some t, s') ∧ Eff S s s' rest (v :: vs)
    | _, _ => reapply S j s = .err .state := by
  obtain ⟨s0, h0, e0⟩ := nextRef_cons L hregs
  rw [reapply, bind_ok h0, bind_apply, jumpPoint_apply, e0.keeps.jump]
  cases hj : S.jumpTable s j with
  | none => rfl
  | some t =>
    simp only []
    cases hv : S.vals s with
    | nil =>
      obtain ⟨s1, h1, e1⟩ := L.popValueStackNil s0 (by rw [e0.vals, hv])
      simp only []
      rw [bind_ok h1]; rfl
    | cons x vs =>
      obtain ⟨s1, h1, e1⟩ := L.popValueStackCons s0 x vs (by rw [e0.vals, hv])
      obtain ⟨s2, h2, e2⟩ := L.pushValueStack v s1
      rw [e1.regs, e1.vals, e0.regs] at e2
      refine ⟨s2, ?_, (e0.trans e1).trans e2⟩
      rw [bind_ok h1]
      simp only []
      rw [bind_ok h2]; rfl

/-! ### non-vacuity -/

/-- `0: external 3   1: 5   2: "ab"   3: expression 0   4: partial (3, 1)` -/
def appCells : List (RCell F) := [.ext 3, .num (.int 5), .chars [97, 98], .expr 0, .part 3 1]

/-- `external ~ 5` on the reference store with a declining host: theorem instantiated … -/
example : ∃ s0, Eff (refStore (fun _ => none)) (RefState.init (appCells (F := F)) [1, 0, 9]) s0 [9] [] ∧
    ApplyProtocol (refStore (fun _ => none)) s0
      (Model.Runtime.apply fo (refStore (fun _ => none)) 5 (RefState.init appCells [1, 0, 9])) (some 1) 3 1 :=
  (C17_refine_apply_external fo (refStore_laws (fun _ => none)) 5 .apply true
    (s := RefState.init (appCells (F := F)) [1, 0, 9]) (vr := .num (.int 5)) rfl (.ext rfl rfl) (.num rfl rfl)).2

/-- … and the model run: one `apply 3 1` call, unit pushed, next instruction `cursor + 1 = 1` -/
example : ∃ s', Model.Runtime.apply fo (refStore (fun _ => none)) 5 (RefState.init (appCells (F := F)) [1, 0, 9])
      = .ok (some 1, s') ∧ s'.regs = [5, 9] ∧ s'.cells = appCells ++ [.unit] ∧ s'.trace = [.apply 3 1] :=
  ⟨_, rfl, rfl, rfl, rfl⟩

/-- `"ab" ~ 5`: no arm ↦ `defer Apply`; an accepting host: nothing pushed by the handler -/
example : ∃ s', Model.Runtime.apply fo (refStore (fun _ => some .tru)) 5 (RefState.init (appCells (F := F)) [1, 2, 9])
      = .ok (some 1, s') ∧ s'.regs = [5, 9] ∧ s'.cells = appCells ++ [.tru] ∧
        s'.trace = [.defer .apply (.charList, 2) (.number, 1)] := ⟨_, rfl, rfl, rfl, rfl⟩

/-- `partial(expression 0, 5) ~ "ab"` with jump table `[40]`: the input value is the new concatenation `5 <> "ab"`,
a frame returning to 1 is pushed, execution continues at 40 -/
example : ∃ s', Model.Runtime.apply fo (refStore (fun _ => none)) 5
      { RefState.init (appCells (F := F)) [2, 4, 9] with jumps := [40] } = .ok (some 40, s') ∧
    s'.regs = [9] ∧ s'.vals = [5] ∧ s'.cells = appCells ++ [.concat 1 2 [1, 2]] ∧ s'.frames = [(1, [9])] :=
  ⟨_, rfl, rfl, rfl, rfl, rfl⟩

end Garnish.Props.RuntimeRefine
