/-
`SimpleGarnishData` (the payload model `simpleRStore hit h`, Model/Runtime/SimpleStore.lean) is an instance of the
relativised store contract `StoreLawsOn` (Model/Runtime/StoreOn.lean), with the invariant `SInv` and
`Readable` = "a data address that is no `StackFrame`" — given a cache that confirms its hits (`HitSound`).
`TopOpen` (what `pop_register` needs) follows from the contract's premise `Deep` / from "no frame".
-/
import Garnish.Props.RuntimeRefineSimple
import Garnish.Model.Runtime.StoreOn
namespace Garnish.Props.RuntimeRefine
open Garnish Gen Garnish.Model.Equality Garnish.Model.Runtime Garnish.Lemmas.Runtime.Simple

variable {F : Type} {hit : List (SimCell F) → SimCell F → Option Nat} {h : SimHost F}

/-- what may be pushed on Simple's stacks -/
def SReadable (st : SimState F) (a : Nat) : Prop := a < st.cells.length ∧ isFrame st.cells a = false

theorem topOpen_of_frames_nil {st : SimState F} (hf : (simpleRStore hit h).frames st = []) : TopOpen st := by
  unfold TopOpen
  cases hr : st.register with
  | nil => trivial
  | cons x xs =>
    cases hx : isFrame st.cells x with
    | false => exact hx
    | true =>
      obtain ⟨ret, hfr⟩ := framesOf_cons_frame (rest := xs) hx
      have hf' : framesOf st.cells st.register = [] := hf
      rw [hr, hfr] at hf'
      cases hf'

theorem topOpen_of_deep {st : SimState F} {a : Nat} {rest : List Nat}
    (hr : (simpleRStore hit h).regs st = a :: rest) (hd : Deep (simpleRStore hit h) st rest) : TopOpen st := by
  unfold TopOpen
  cases hreg : st.register with
  | nil => trivial
  | cons x xs =>
    cases hx : isFrame st.cells x with
    | false => exact hx
    | true =>
      exfalso
      have hflat : flatRegs st.cells st.register = a :: rest := hr
      rw [hreg, flatRegs_cons_frame hx] at hflat
      obtain ⟨ret, hfr⟩ := framesOf_cons_frame (rest := xs) hx
      have := hd ret _ _ (show framesOf st.cells st.register = _ by rw [hreg]; exact hfr)
      rw [hflat] at this
      simp at this
      omega

theorem addsOn_of {m : RM (SimState F) Nat} {s : SimState F} {v : Val F} (ha : AddsS (simpleRStore hit h) m s v) :
    AddsOn (simpleRStore hit h) SInv m s v := by
  obtain ⟨a, s', h1, h2, h3, h4, _⟩ := ha; exact ⟨a, s', h1, h2, h3, h4⟩

/-- **C01_simpleStore_lawsOn**: with a cache that confirms its hits, `SimpleGarnishData` meets the relativised contract -/
theorem C01_simpleStore_lawsOn (hs : HitSound hit) : StoreLawsOn (simpleRStore hit h) SInv SReadable := by
  have L := C01_simpleStore_laws_core (h := h) hs
  exact {
    rangeTyped := L.rangeTyped, listIdx := L.listIdx, charIdx := L.charIdx, byteIdx := L.byteIdx, symIdx := L.symIdx
    addUnit := fun s hi => addsOn_of (L.addUnit s hi)
    addTrue := fun s hi => addsOn_of (L.addTrue s hi)
    addFalse := fun s hi => addsOn_of (L.addFalse s hi)
    addNumber := fun n s hi => addsOn_of (L.addNumber n s hi)
    addType := fun t s hi => addsOn_of (L.addType t s hi)
    addChar := fun c s hi => addsOn_of (L.addChar c s hi)
    addByte := fun b s hi => addsOn_of (L.addByte b s hi)
    addSymbol := fun y s hi => addsOn_of (L.addSymbol y s hi)
    addPair := fun l r vl vr s hi hl hr => addsOn_of (L.addPair l r vl vr s hi hl hr)
    addConcatenation := fun l r vl vr s hi hl hr nl nr => addsOn_of (L.addConcatenation l r vl vr s hi hl hr nl nr)
    addRange := fun l r vl vr s hi hl hr => addsOn_of (L.addRange l r vl vr s hi hl hr)
    addSlice := fun l r vl vr s hi hl hr => addsOn_of (L.addSlice l r vl vr s hi hl hr)
    addPartial := fun l r vl vr s hi hl hr => addsOn_of (L.addPartial l r vl vr s hi hl hr)
    mergeSome := fun l r vl vr v s hi hl hr hm nl nr => addsOn_of (L.mergeSome l r vl vr v s hi hl hr hm nl nr)
    startList := fun n s hi => L.startList n s hi
    addToList := fun t items a s hi hb => L.addToList t items a s hi hb
    endList := fun t items vs s hi hb hd => addsOn_of (L.endList t items vs s hi hb hd)
    popRegisterBuilding := L.popRegisterBuilding
    readable := fun s a v _ hd hv => L.readable s a v hd hv
    pushRegister := fun a s hi hr => by
      obtain ⟨s', h1, h2, h3, _⟩ := L.pushRegister a s hi hr.1 hr.2; exact ⟨s', h1, h2, h3⟩
    popRegisterNil := fun s hi hr hf => by
      obtain ⟨s', h1, h2, h3⟩ := L.popRegisterNil s (topOpen_of_frames_nil hf) hr
      exact ⟨s', h1, h2, h3 ▸ hi⟩
    popRegisterCons := fun s a rest hi hr hd => L.popRegisterCons s a rest hi (topOpen_of_deep hr hd) hr
    pushValueStack := fun a s hi _ => by
      obtain ⟨s', h1, h2, h3⟩ := L.pushValueStack a s; exact ⟨s', h1, h2, h3 hi⟩
    popValueStackNil := fun s hi hv => by
      obtain ⟨s', h1, h2, h3⟩ := L.popValueStackNil s hv; exact ⟨s', h1, h2, h3 ▸ hi⟩
    popValueStackCons := fun s a rest hi hv => by
      obtain ⟨s', h1, h2, h3⟩ := L.popValueStackCons s a rest hv; exact ⟨s', h1, h2, h3 hi⟩
    setCurrentNil := fun r s hi hv => by
      obtain ⟨s', h1, h2, h3⟩ := L.setCurrentNil r s hv; exact ⟨s', h1, h2, h3 ▸ hi⟩
    setCurrentCons := fun r s a rest hi _ hv => by
      obtain ⟨s', h1, h2, h3⟩ := L.setCurrentCons r s a rest hv; exact ⟨s', h1, h2, h3 hi⟩
    pushFrame := L.pushFrame
    popFrameNil := fun s hi hf => by
      refine ⟨{ s with register := [] }, [], popFrame_drains hi hf,
        ⟨keeps_same rfl rfl rfl rfl, rfl, rfl, rfl, hf.symm⟩, .inr rfl, ⟨hi.seeded, fun _ hb => by cases hb⟩⟩
    popFrameCons := L.popFrameCons
    setCursor := fun n s => by
      refine ⟨{ s with cursor := n }, rfl, rfl, fun _ _ hd => hd, rfl, rfl, rfl, rfl, rfl, rfl, rfl, rfl,
        fun hi => ⟨hi.seeded, hi.regs⟩⟩
    deferOp := L.deferOp, resolve := L.resolve, apply := L.apply
    dataBound := L.dataBound }

end Garnish.Props.RuntimeRefine
