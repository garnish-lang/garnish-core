/-
The VALUE side conditions of the relativised refinement, discharged by a machine invariant.

* `C01_step_noCustom`: `NoCustom m` (no `custom` anywhere — hereditarily — in registers, input values and the registers
  saved by frames) is kept by every step of Abs/Machine, for a program with custom-free constants (`ConstsNC`) and a host
  that never answers with `custom` (`HostNoCustom`). Hence it holds in every reachable state (`C01_noCustom_reach`).
* From it: every "≠ custom" / `ncNodes` / `ncConcat` / `NoCustomTop` conjunct of `MachOKOn … MachOKOn4`.
* `DynOK` (Lemmas/DynOK.lean) is the ONE residual predicate; it demands: `CompareDomain` (comparisons), no slice
  operand (`Concat`, `input <> argument` of a partial application), `ApplyDomain` + no symbol look-up into a list without
  `ListSymOn` (apply arms, path), `AccessOK` + `ListSymAlt` + no number operand in the merge arm (`Access`), the look-up
  domain of `Resolve`, `EqualDomain`, `LengthDomain`; nothing for the other 40 instructions.
* `C01_runOKOn_full_of_balanced`: `RunOKG (MachOKOn4 …)` for EVERY run of a program the depth analysis accepts, from
  `ConstsNC`, `HostNoCustom`, a custom-free input, `DynOK` in the reachable states and `hcalls`.
* `C01_text_to_simple_store_balanced_full` (Props/C01TextStoreOnBalancedFull.lean): the text theorem on `SimpleGarnishData`
  for the whole instruction set with these hypotheses in place of `RunOKG`.
-/
import Garnish.Lemmas.DynOK
import Garnish.Props.C01TextStoreOnBalanced
namespace Garnish.Props.RuntimeRefine
open Garnish Gen Garnish.Abs Garnish.Model.Equality Garnish.Model.Runtime Garnish.Lemmas.Runtime
open Garnish.Lemmas.Runtime.On Garnish.Props.C06 Garnish.Lemmas.NoCustom

variable {F σ : Type} {fo : FloatOps F} {host : Host F} {S : RStore F σ} {Inv : σ → Prop} {P : Prog F}

theorem C01_step_noCustom (HN : HostNoCustom host) (hc : ConstsNC P) {s s' : MState F} (hs : NoCustom s)
    (h : Abs.step fo host P s = .running s' ∨ Abs.step fo host P s = .halted s') : NoCustom s' :=
  step_nc HN hc hs h

theorem C01_noCustom_reach (HN : HostNoCustom host) (hc : ConstsNC P) {entries : List Nat} {s0 s : MState F}
    (h0 : NoCustom s0) (hr : ReachK fo host P entries s0 s) : NoCustom s := noCustom_reach HN hc h0 hr

theorem C01_runOKOn_full_of_balanced {entry : Nat} {d : Array (Option Nat)} (h : absDepth P entry = some d)
    (hentry : entry < P.instrs.size) (vals : List (Val F)) (tr : List (HostCall F)) (fuel : Nat)
    (HN : HostNoCustom host) (hc : ConstsNC P) (hv : ncL vals = true)
    (hdyn : ∀ s, ReachK fo host P (entry :: exprEntries P) ⟨entry, [], vals, [], tr⟩ s → ∀ i o,
      P.instrs[s.pc]? = some (i, o) → DynOK fo S Inv P fuel s i o)
    (hcalls : ∀ s s', ReachK fo host P (entry :: exprEntries P) ⟨entry, [], vals, [], tr⟩ s →
      Abs.step fo host P s = .running s' → s'.frames.length = s.frames.length + 1 → s'.pc ∈ entry :: exprEntries P)
    (n : Nat) : RunOKG fo (MachOKOn4 fo S Inv P fuel) host P n ⟨entry, [], vals, [], tr⟩ :=
  runOKOn4_of_balanced h hentry vals tr fuel HN hc hv hdyn hcalls n

end Garnish.Props.RuntimeRefine
