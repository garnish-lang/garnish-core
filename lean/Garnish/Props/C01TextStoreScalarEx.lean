/-
Non-vacuity of `C01_text_to_simple_store_scalar_declining`: the source text `{ $ + 1 } <~ 5` — a CALL (`Apply` pushes a
`StackFrame` on Simple's register `Vec`, `EndExpression` pops it) — is in the class `staticOKScalar` (checked by
evaluation), so on the payload model of `SimpleGarnishData` (cache that never hits, declining host, loop fuel 3) the loop
ends with ONE input-value address that decodes to `6`, with no run-time hypothesis at all. Also `$ ?> 1 |> 2` is in this
class.
-/
import Garnish.Props.C01TextStoreScalar
import Garnish.Props.C01TextStoreOnEx3
namespace Garnish.Props.C01TextStore
open Garnish Garnish.Gen Garnish.Spec Garnish.Abs Garnish.Abs.Tree Garnish.Abs.Source Garnish.Model Garnish.Model.Parser
open Garnish.Model.Lexer Garnish.Model.Literals Garnish.Model.Build Garnish.Props.C01Build Garnish.Props.C01Source
open Garnish.Props.C02Numbered Garnish.Props.C01Text
open Garnish.Model.Equality Garnish.Model.Runtime Garnish.Lemmas.Runtime Garnish.Props.RuntimeRefine
open Garnish.Lemmas.Runtime.On Garnish.Lemmas.Runtime.Simple

theorem nested_static : staticOKScalar progNested (.unit : Val Float) = true := by rfl

theorem cond_static_scalar : staticOKScalar progCond (.tru : Val Float) = true := by rfl

example (fo : FloatOps Float) :
    ∃ d n, buildText noFloat asciiCC "{ $ + 1 } <~ 5".toList = .ok (d, 0) ∧ progOf d = compile progNested ∧
      ∃ s' a, executeLoop fo (simpleRStore (fun _ _ => none) (fun _ st => (false, st))) 3
          (fullHandlers fo (simpleRStore (fun _ _ => none) (fun _ st => (false, st))) 3 (RM.fail .unsupported)) n
          (loadSimple (reloc (progOf d)) ((progOf d).jumps[0]?.getD 0) .unit) = .ok ((.end_, n), s') ∧
        s'.values = [a] ∧ Decodes (simView s'.cells) a (.num (.int 6)) ∧
        (simpleRStore (fun _ _ => none) (fun _ st => (false, st))).regs s' = [] ∧
        (simpleRStore (fun _ _ => none) (fun _ st => (false, st))).frames s' = [] ∧ SInv s' := by
  obtain ⟨toks, rt, hlex, hf, href, hel⟩ := SourceProps.srcNested
  exact C01_text_to_simple_store_scalar_declining (hit := fun _ _ => none) noFloat asciiCC C15_hitSound_never fo 3
    (Nat.le_refl _) (RM.fail .unsupported) _ _ hlex hf _ href hel progNested_wf .unit nested_static 10 _ _
    (progNested_meaning fo Host.declining)

end Garnish.Props.C01TextStore
