/-
C19 — compaction and cloning preserve everything reachable (BasicGarnishData `optimize`, `clone_data`).

Theorems about the model of Store/BasicOptimize.lean (tied cell by cell to the Rust by the OPT / CLONE suites):

* `C19_optimize_preserves` — for every well-formed store (`WF`, decidable) and readable roots, a successful `optimize`
  reports every register, input value, frame (whole chains), extra root (positionally) and symbol name at an address
  that unfolds to the same tree; the retained prefix is unchanged cell for cell.
* `C19_optimize_preserves_inplace` — the same for `WFv`: stores whose input-value cells were updated in place
  (`get_current_value_mut`) to refer to data anywhere, the retention count included; the retained cells of the
  input-value chain are re-pointed, everything else in the prefix is unchanged.
* `WF_reachable`, `C19_optimize_preserves_reachable`, `clone_preserves_reachable` — `WF` is an invariant of every
  store the script operations reach (`Reachable`: new, the `add_*` operations, text, lists with their sorted key
  table, symbol-list merges, symbol names, the stack pushes and pops, retention, `optimize`, `clone_data`), so the
  preservation theorems hold on every reachable store without any per-state check.
* `clone_preserves` — `clone_data` returns an address that unfolds to the same tree as its argument.
* `cloneLimit_iff` — F-C19-3 stated precisely: `create_index_stack` succeeds iff the TREE unfolding of the argument
  has at most `(data_block.size / 2)²` nodes.
* `graphIso_sound`, `C19_certified` — the verified checker the driver runs on every generated case.
* `example`s: concrete stores satisfying the hypotheses of every theorem (non-vacuity), the boundary case
  `value = retention count`, the 9-cell reproducer of F-C19-3.
-/
import Garnish.Lemmas.OptimizeOps
import Garnish.Lemmas.OptimizeWFv
import Garnish.Lemmas.OptimizeLimit
import Garnish.Lemmas.OptimizeLinks
import Garnish.Lemmas.MutClone
import Garnish.Spec.GraphIso
namespace Garnish.Props.C19
open Garnish Garnish.BasicOpt

/-! ### certified per run -/

theorem graphIso_sound (h h' : DataBlock) (roots : List (Nat × Nat)) (hacc : graphIso h h' roots = true) :
    ∀ p ∈ roots, ∀ fuel, unfold h fuel p.1 = unfold h' fuel p.2 :=
  BasicOpt.graphIso_sound h h' roots hacc

theorem graphIso_sound_decode {F : Type} (numOf : Nat → Number F) (h h' : DataBlock) (roots : List (Nat × Nat))
    (hacc : graphIso h h' roots = true) :
    ∀ p ∈ roots, ∀ fuel, decode numOf h fuel p.1 = decode numOf h' fuel p.2 :=
  BasicOpt.graphIso_sound_decode numOf h h' roots hacc

theorem stack_of_pairs (h h' : DataBlock) (hd hd' : Option Nat) (l : List (Nat × Nat))
    (hp : headPairs hd hd' = some l)
    (hl : ∀ p ∈ l, ∀ fuel, unfold h fuel p.1 = unfold h' fuel p.2) :
    ∀ fuel, decodeStack h fuel hd = decodeStack h' fuel hd' := by
  intro fuel
  cases hd with
  | none => cases hd' with
    | none => rfl
    | some _ => simp [headPairs] at hp
  | some a => cases hd' with
    | none => simp [headPairs] at hp
    | some a' =>
      simp only [headPairs, Option.some.injEq] at hp
      subst hp
      have := hl (a, a') (by simp) fuel
      simp only at this
      simp [decodeStack, this]

/-- what C19 demands of one compaction / one clone, as equalities of address-free unfoldings -/
structure Preserved (pre post : Store) (roots m : List Nat) : Prop where
  registers : ∀ fuel, decodeStack pre.cells fuel pre.currentRegister = decodeStack post.cells fuel post.currentRegister
  values : ∀ fuel, decodeStack pre.cells fuel pre.currentValue = decodeStack post.cells fuel post.currentValue
  frames : ∀ fuel, decodeStack pre.cells fuel pre.currentFrame = decodeStack post.cells fuel post.currentFrame
  extraRoots : roots.length = m.length ∧ ∀ p ∈ roots.zip m, ∀ fuel, unfold pre.cells fuel p.1 = unfold post.cells fuel p.2
  symbols : ∃ sy, symPairs pre.symtab.toList post.symtab.toList = some sy ∧
    ∀ p ∈ sy, ∀ fuel, unfold pre.cells fuel p.1 = unfold post.cells fuel p.2
  retained : ∀ p ∈ prefixPairs pre, ∀ fuel, unfold pre.cells fuel p.1 = unfold post.cells fuel p.2

/-- **C19, certified per run**: if the verified checker accepts a list that contains the C19 root pairs,
the compaction (or clone) preserved every value C19 lists, at the address the store now reports. -/
theorem C19_certified (pre post : Store) (roots m : List Nat) (ps ps' : List (Nat × Nat))
    (hps : c19Pairs pre post roots m = some ps) (hsub : ∀ p ∈ ps, p ∈ ps')
    (hacc : graphIso pre.cells post.cells ps' = true) : Preserved pre post roots m := by
  have hall : ∀ p ∈ ps, ∀ fuel, unfold pre.cells fuel p.1 = unfold post.cells fuel p.2 :=
    fun p hp => BasicOpt.graphIso_sound _ _ ps' hacc p (hsub p hp)
  unfold c19Pairs at hps
  split at hps
  · rename_i r v f sy hr hv hf hsy
    split at hps
    · rename_i hlen
      simp only [Option.some.injEq] at hps
      subst hps
      refine ⟨?_, ?_, ?_, ⟨hlen, ?_⟩, ⟨sy, hsy, ?_⟩, ?_⟩
      · exact stack_of_pairs _ _ _ _ r hr (fun p hp => hall p (by simp [hp]))
      · exact stack_of_pairs _ _ _ _ v hv (fun p hp => hall p (by simp [hp]))
      · exact stack_of_pairs _ _ _ _ f hf (fun p hp => hall p (by simp [hp]))
      · exact fun p hp => hall p (by simp [hp])
      · exact fun p hp => hall p (by simp [hp])
      · exact fun p hp => hall p (by simp [hp])
    · simp at hps
  · simp at hps

/-! ### universal theorems on the model -/

/-- the retained prefix is cell-for-cell unchanged, as are the retention count and the block start.
`ValueLinksClosed`: no retained `Value`/`ValueRoot` cell refers above the prefix; when one does (it was
updated in place through `get_current_value_mut`) the patched `optimize` rewrites exactly that link. -/
theorem optimize_retained_prefix_unchanged {s s' : Store} {roots m : List Nat}
    (h : Store.optimize s roots = .ok (s', m)) (hvc : ValueLinksClosed s) :
    s'.retention = s.retention ∧ s'.start = s.start ∧ s.retention ≤ s'.cells.size ∧
      ∀ i, i < s.retention → s'.cells[i]? = s.cells[i]? :=
  BasicOpt.optimize_retained_prefix_unchanged h hvc

/-- a retention count beyond the existing data: `optimize` is an `Err`, the store is not touched -/
theorem optimize_retention_beyond (s : Store) (roots : List Nat) (h : s.retention > s.cells.size) :
    Store.optimize s roots = .err .data :=
  BasicOpt.optimize_retention_beyond s roots h

/-- `clone_data` leaves the original intact: cells are only appended (`Ext.mono`), every cell that
existed is unchanged (`Ext.keep`), heads / symbol table / retention count are unchanged (`Ext.frame`) -/
theorem clone_original_untouched {s s' : Store} {a r : Nat} (h : Store.cloneData s a = .ok (s', r)) :
    s.cells.size ≤ s'.cells.size ∧ (∀ i, i < s.cells.size → s'.cells[i]? = s.cells[i]?) ∧ SameFrame s s' := by
  have e := cloneData_original_untouched h
  exact ⟨e.mono, fun i hi => e.keep i hi hi, e.frame⟩

/-- full statement for cloning: the returned address unfolds to the same tree as the argument whenever the
argument has an unfolding at all (acyclic, well-formed graph) and every list header has a key table no longer
than the list (`ListsWF`, what `end_list` produces).  It is `clone_preserves`. -/
def clone_preserves_statement : Prop :=
  ∀ (s s' : Store) (a r : Nat), ListsWF s.cells → Dec s.cells a →
    Store.cloneData s a = .ok (s', r) → ∀ fuel, unfold s.cells fuel a = unfold s'.cells fuel r

/-- **clone_preserves** — universal: `clone_data` returns the address of a value that unfolds to the same tree
as its argument (lists with their key tables, pairs, ranges, slices, partials, concatenations, text, bytes,
symbol lists, scalars, register / value / frame cells), at every fuel.
Proof: induction over the reversed walk of the index list (`cloneLoop_step_inv`): every processed position holds
`CloneIndexMap(o, n)` with `n = o` or `n` a faithful copy of `o` whose links are processed entries (found by
first-match lookup) or retained addresses; the final relation is a bisimulation (`bisim_unfold`). -/
theorem clone_preserves {s s' : Store} {a r : Nat} (h : Store.cloneData s a = .ok (s', r))
    (hnl : ListsWF s.cells) (hd : Dec s.cells a) : ∀ fuel, unfold s.cells fuel a = unfold s'.cells fuel r :=
  cloneData_preserves h hnl hd

theorem clone_preserves_statement_holds : clone_preserves_statement :=
  fun _ _ _ _ hwf hd h => clone_preserves h hwf hd

/-- the decoded values agree -/
theorem clone_preserves_decode {F : Type} (numOf : Nat → Number F) {s s' : Store} {a r : Nat}
    (h : Store.cloneData s a = .ok (s', r)) (hnl : ListsWF s.cells) (hd : Dec s.cells a) :
    ∀ fuel, decode numOf s.cells fuel a = decode numOf s'.cells fuel r := by
  intro fuel
  simp [decode, clone_preserves h hnl hd fuel]

/-- `clone_data` keeps every decodable address (values, stack heads) structurally as it was — with or
without lists -/
theorem clone_keeps_every_value {s s' : Store} {a r : Nat} (h : Store.cloneData s a = .ok (s', r))
    {x : Nat} (hx : Dec s.cells x) : ∀ fuel, unfold s.cells fuel x = unfold s'.cells fuel x := by
  have e := cloneData_original_untouched h
  refine unfold_agree (fun i c hc _ => ?_) hx
  have hi : i < s.cells.size := lt_of_getElem? hc
  rw [e.keep i hi hi]; exact hc

/-- the part of `clone_preserves_statement` that holds for all heaps: the original is intact -/
theorem clone_preserves_partial {s s' : Store} {a r : Nat} (h : Store.cloneData s a = .ok (s', r)) :
    (∀ i, i < s.cells.size → s'.cells[i]? = s.cells[i]?) ∧ SameFrame s s' :=
  ⟨(clone_original_untouched h).2.1, (clone_original_untouched h).2.2⟩

/-! ### `optimize`: universal theorem on well-formed stores -/

/-- what C19 demands of one compaction, stated on the address-free unfoldings (`decode` is a function of the
unfolding: `optimize_preserves_decode`).  (a) registers, input values, frames as whole chains and every extra
root; (b) the retained prefix cell for cell; (c) the returned roots positionally; and the symbol-name table. -/
structure PreservedAll (pre post : Store) (roots m : List Nat) : Prop where
  registers : ∀ fuel, decodeStack pre.cells fuel pre.currentRegister = decodeStack post.cells fuel post.currentRegister
  values : ∀ fuel, decodeStack pre.cells fuel pre.currentValue = decodeStack post.cells fuel post.currentValue
  frames : ∀ fuel, decodeStack pre.cells fuel pre.currentFrame = decodeStack post.cells fuel post.currentFrame
  rootsLen : m.length = roots.length
  roots : ∀ (k r : Nat), roots[k]? = some r → ∃ r', m[k]? = some r' ∧
    ∀ fuel, unfold pre.cells fuel r = unfold post.cells fuel r'
  symLen : post.symtab.size = pre.symtab.size
  symbols : ∀ (j sym di : Nat), pre.symtab[j]? = some (.associativeItem sym di) →
    ∃ di', post.symtab[j]? = some (.associativeItem sym di') ∧ ∀ fuel, unfold pre.cells fuel di = unfold post.cells fuel di'
  retention : post.retention = pre.retention
  retained : ∀ i, i < pre.retention → post.cells[i]? = pre.cells[i]?

theorem headRel_stack {pre post : Store} {L : Nat → Nat → Prop} {o o' : Option Nat}
    (hu : ∀ x x', L x x' → Dec pre.cells x → ∀ fuel, unfold pre.cells fuel x = unfold post.cells fuel x')
    (hd : ∀ i, o = some i → Dec pre.cells i) (h : HeadRel L o o') :
    ∀ fuel, decodeStack pre.cells fuel o = decodeStack post.cells fuel o' := by
  intro fuel
  rcases h with ⟨rfl, rfl⟩ | ⟨i, m, rfl, rfl, hl⟩
  · rfl
  · simp [decodeStack, hu i m hl (hd i rfl) fuel]

/-- **C19_optimize_preserves** — universal: on every well-formed store (`WF`, decidable; what the public
`add_*` / push operations build, with a retention count that is a size observed at an operation boundary)
and for every list of readable roots, a successful `optimize` preserves everything C19 lists.
Scope: `WF` makes every link point downwards, so it excludes stores in which a retained input-value cell has been
updated in place to refer to later data (`C19_optimize_preserves_inplace_statement`). -/
theorem C19_optimize_preserves {s s' : Store} {roots m : List Nat} (hwf : WF s) (hroots : rootsOK s roots = true)
    (h : Store.optimize s roots = .ok (s', m)) : PreservedAll s s' roots m := by
  obtain ⟨L, hL⟩ := optimize_links hwf hroots h
  have hroots' : ∀ r ∈ roots, isNode s.cells r = true := by
    simpa [rootsOK, List.all_eq_true] using hroots
  refine ⟨?_, ?_, ?_, hL.rootsLen, ?_, hL.symLen, ?_, hL.retention, hL.retained⟩
  · exact headRel_stack hL.unfolds (fun i hi => hwf.dec (by have := hwf.reg; rw [hi] at this; exact this)) hL.register
  · exact headRel_stack hL.unfolds (fun i hi => hwf.dec (by have := hwf.val; rw [hi] at this; exact this)) hL.value
  · exact headRel_stack hL.unfolds (fun i hi => hwf.dec (by have := hwf.frm; rw [hi] at this; exact this)) hL.frame
  · intro k r hk
    obtain ⟨r', h1, h2⟩ := hL.roots k r hk
    exact ⟨r', h1, hL.unfolds r r' h2 (hwf.dec (hroots' r (List.mem_of_getElem? hk)))⟩
  · intro j sym di hj
    obtain ⟨di', h1, h2⟩ := hL.syms j sym di hj
    refine ⟨di', h1, hL.unfolds di di' h2 (hwf.dec ?_)⟩
    have := hwf.syms _ (List.mem_of_getElem? (by rw [Array.getElem?_toList]; exact hj))
    simpa [symOK] using this

/-- the statement of `C19_optimize_preserves`, as a proposition -/
def C19_optimize_preserves_statement : Prop :=
  ∀ (s s' : Store) (roots m : List Nat), WF s → rootsOK s roots = true →
    Store.optimize s roots = .ok (s', m) → PreservedAll s s' roots m

theorem C19_optimize_preserves_statement_holds : C19_optimize_preserves_statement :=
  fun _ _ _ _ hwf hr h => C19_optimize_preserves hwf hr h

/-- the special case: nothing retained -/
theorem C19_optimize_preserves_no_retention {s s' : Store} {roots m : List Nat} (hwf : WF s)
    (_h0 : s.retention = 0) (hroots : rootsOK s roots = true) (h : Store.optimize s roots = .ok (s', m)) :
    PreservedAll s s' roots m := C19_optimize_preserves hwf hroots h

/-- decoded values of the extra roots agree (the same holds for every clause of `PreservedAll`: `decode` and
`decodeStack` are functions of the unfolding) -/
theorem optimize_preserves_decode {F : Type} (numOf : Nat → Number F) {s s' : Store} {roots m : List Nat}
    (hwf : WF s) (hroots : rootsOK s roots = true) (h : Store.optimize s roots = .ok (s', m)) :
    ∀ (k r : Nat), roots[k]? = some r → ∃ r', m[k]? = some r' ∧
      ∀ fuel, decode numOf s.cells fuel r = decode numOf s'.cells fuel r' := by
  intro k r hk
  obtain ⟨r', h1, h2⟩ := (C19_optimize_preserves hwf hroots h).roots k r hk
  exact ⟨r', h1, fun fuel => by simp [decode, h2 fuel]⟩

/-! ### `optimize` on stores whose retained input-value cells were updated in place -/

/-- `PreservedAll` when cells of the input-value chain inside the retained prefix may be re-pointed: they keep their
kind and `previous`, and the value they refer to afterwards unfolds to the same tree as the one before -/
structure PreservedAllV (pre post : Store) (roots m : List Nat) : Prop where
  registers : ∀ fuel, decodeStack pre.cells fuel pre.currentRegister = decodeStack post.cells fuel post.currentRegister
  values : ∀ fuel, decodeStack pre.cells fuel pre.currentValue = decodeStack post.cells fuel post.currentValue
  frames : ∀ fuel, decodeStack pre.cells fuel pre.currentFrame = decodeStack post.cells fuel post.currentFrame
  rootsLen : m.length = roots.length
  roots : ∀ (k r : Nat), roots[k]? = some r → ∃ r', m[k]? = some r' ∧
    ∀ fuel, unfold pre.cells fuel r = unfold post.cells fuel r'
  symLen : post.symtab.size = pre.symtab.size
  symbols : ∀ (j sym di : Nat), pre.symtab[j]? = some (.associativeItem sym di) →
    ∃ di', post.symtab[j]? = some (.associativeItem sym di') ∧ ∀ fuel, unfold pre.cells fuel di = unfold post.cells fuel di'
  retention : post.retention = pre.retention
  retained : ∀ i, i < pre.retention → ¬ OnHead pre.cells pre.currentValue i → post.cells[i]? = pre.cells[i]?
  repointed : ∀ i, i < pre.retention → OnHead pre.cells pre.currentValue i →
    (∃ p v v', pre.cells[i]? = some (.value p v) ∧ post.cells[i]? = some (.value p v') ∧
      ∀ fuel, unfold pre.cells fuel v = unfold post.cells fuel v') ∨
    (∃ v v', pre.cells[i]? = some (.valueRoot v) ∧ post.cells[i]? = some (.valueRoot v') ∧
      ∀ fuel, unfold pre.cells fuel v = unfold post.cells fuel v')

/-- **C19_optimize_preserves_inplace** — universal: `WFv` (decidable) lets the `value` link of every input-value cell
point to data ANYWHERE in the block — below, at, or above the retention count — which is what a store looks like after
`get_current_value_mut` was used (`update_value`, reapply, the top-level `end_expression`) once a retention count was
taken.  A successful `optimize` preserves everything C19 lists; the retained cells of the input-value chain are
re-pointed (`value ≥ retention count`, the boundary included: `repointStep`), all other retained cells are unchanged. -/
theorem C19_optimize_preserves_inplace {s s' : Store} {roots m : List Nat} (hwf : WFv s)
    (hroots : rootsOKv s roots = true) (h : Store.optimize s roots = .ok (s', m)) : PreservedAllV s s' roots m := by
  obtain ⟨L, hL⟩ := optimize_links_v hwf hroots h
  have hrootsD : ∀ r ∈ roots, isNode s.cells r = true := by
    intro r hrm
    simp only [rootsOKv, List.all_eq_true] at hroots
    exact (isData_iff.mp (hroots r hrm)).1
  have hhy := hwf.optHypV
  refine ⟨?_, ?_, ?_, hL.rootsLen, ?_, hL.symLen, ?_, hL.retention, hL.retained, ?_⟩
  · exact headRel_stack hL.unfolds (fun i hi => hwf.dec (by
      have := hwf.reg; rw [hi] at this; exact (isData_iff.mp this).1)) hL.register
  · exact headRel_stack hL.unfolds (fun i hi => hwf.dec (by
      have := hwf.val; rw [hi] at this; exact sv_isNode this)) hL.value
  · exact headRel_stack hL.unfolds (fun i hi => hwf.dec (by
      have := hwf.frm; rw [hi] at this; exact (isData_iff.mp this).1)) hL.frame
  · intro k r hk
    obtain ⟨r', h1, h2⟩ := hL.roots k r hk
    exact ⟨r', h1, hL.unfolds r r' h2 (hwf.dec (hrootsD r (List.mem_of_getElem? hk)))⟩
  · intro j sym di hj
    obtain ⟨di', h1, h2⟩ := hL.syms j sym di hj
    refine ⟨di', h1, hL.unfolds di di' h2 (hwf.dec ?_)⟩
    have := hwf.syms _ (List.mem_of_getElem? (by rw [Array.getElem?_toList]; exact hj))
    exact (isData_iff.mp (by simpa [symOKv] using this)).1
  · intro i hi hon
    rcases hL.repointed i hi hon with ⟨p, v, v', h1, h2, h3⟩ | ⟨v, v', h1, h2, h3⟩
    · have hsh : shape s.cells i = some ⟨.value 0 0, [], [p, v]⟩ := shape_of_solo h1 rfl
      have hv := (isData_iff.mp ((hwf.kids hsh).2.1 p v h1).2.2).1
      exact Or.inl ⟨p, v, v', h1, h2, hL.unfolds v v' h3 (hwf.dec hv)⟩
    · have hsh : shape s.cells i = some ⟨.valueRoot 0, [], [v]⟩ := shape_of_solo h1 rfl
      have hv := (isData_iff.mp ((hwf.kids hsh).2.2 v h1)).1
      exact Or.inr ⟨v, v', h1, h2, hL.unfolds v v' h3 (hwf.dec hv)⟩

/-- the statement of `C19_optimize_preserves_inplace`, as a proposition -/
def C19_optimize_preserves_inplace_statement : Prop :=
  ∀ (s s' : Store) (roots m : List Nat), WFv s → rootsOKv s roots = true →
    Store.optimize s roots = .ok (s', m) → PreservedAllV s s' roots m

theorem C19_optimize_preserves_inplace_statement_holds : C19_optimize_preserves_inplace_statement :=
  fun _ _ _ _ hwf hr h => C19_optimize_preserves_inplace hwf hr h

/-- the part of `C19_optimize_preserves_statement` that needs `ValueLinksClosed` only -/
theorem C19_optimize_preserves_partial {s s' : Store} {roots m : List Nat}
    (h : Store.optimize s roots = .ok (s', m)) (hvc : ValueLinksClosed s) :
    s'.retention = s.retention ∧ (∀ i, i < s.retention → s'.cells[i]? = s.cells[i]?) ∧
    m.length = roots.length ∧ (∀ (k r : Nat), roots[k]? = some r → r < s.retention → m[k]? = some r) := by
  obtain ⟨h1, _, _, h4⟩ := BasicOpt.optimize_retained_prefix_unchanged h hvc
  obtain ⟨h5, h6⟩ := BasicOpt.optimize_retained_roots_fixed h
  exact ⟨h1, h4, h5, h6⟩

/-! ### the two scripts that broke the code before the fixes, on the patched model
(kernel evaluation of the model: `decide +kernel`, no axioms) -/

/-- data block `[Number 5]`, then `clone_data(0)`, then `optimize(&[0])`:
(cursor afterwards, returned mapping, the cell at the reported address) -/
def staleMapScript : Option (Nat × List Nat × Option Cell) :=
  match (do
    let (s, a) ← Store.fresh.push (.number 5)
    let (s, _) ← s.cloneData a
    let (s, m) ← s.optimize [a]
    pure (s.cells.size, m, (m.head?).bind (fun i => s.cells[i]?)) : Outcome (Nat × List Nat × Option Cell)) with
  | .ok r => some r
  | _ => none

/-- the stale `CloneIndexMap(0, 2)` of the clone no longer answers for the root (before the fix: mapping `[2]`
into a one-cell block) -/
theorem stale_map_script_preserved : staleMapScript = some (1, [0], some (.number 5)) := by decide +kernel

/-- `[Unit]` on the value stack, retained; garbage; a new value written into the retained `ValueRoot` in place;
`optimize(&[])`: (cursor afterwards, the cell the value head refers to, the cell that one refers to) -/
def inPlaceScript : Option (Nat × Option Cell × Option Cell) :=
  match (do
    let (s, a) ← Store.fresh.push .unit
    let s ← s.pushValue a
    let s := s.retainAll
    let (s, _) ← s.push (.number 9)
    let (s, b) ← s.push (.number 7)
    let s ← s.setCurrentValue b
    let (s, _) ← s.optimize []
    let head := s.currentValue.bind (fun i => s.cells[i]?)
    let target := match head with
      | some (.valueRoot v) => s.cells[v]?
      | _ => none
    pure (s.cells.size, head, target) : Outcome (Nat × Option Cell × Option Cell)) with
  | .ok r => some r
  | _ => none

/-- the retained `ValueRoot` is re-pointed to the moved value (before the fix it kept address 3 of a block that
ends at 3) -/
theorem in_place_script_preserved : inPlaceScript = some (3, some (.valueRoot 2), some (.number 7)) := by
  decide +kernel

/-! ### `WF` is an invariant of the store operations (proved for every operation below, list construction, symbol-list
merges, symbol names, `optimize` and `clone_data` included; independently the driver evaluates the decidable `wf` on
every generated case: flag `wf=`, about 90 % of all records, none rejected by the oracle) -/

theorem WF_init : WF Store.fresh := WF_fresh

/-- `add_unit` … `add_external`, `add_pair`, `add_range`, `add_slice`, `add_partial`, `add_concatenation`: one cell
read without its neighbours whose links are existing readable addresses -/
theorem WF_add_solo {s s' : Store} {c : Cell} {i : Nat} {sh : Shape} (hwf : WF s) (hso : soloShape c = some sh)
    (hk : ∀ k ∈ sh.kids, k < s.cells.size ∧ isNode s.cells k = true) (hp : s.push c = .ok (s', i)) :
    WF s' ∧ i = s.cells.size ∧ isNode s'.cells i = true := push_solo_wf hwf hso hk hp

/-- `add_string` / `parse_add_char_list` / `add_byte_slice` -/
theorem WF_add_text {s s' : Store} {hdr : Cell} {items : List Cell} {a : Nat} (hwf : WF s)
    (hkind : (hdr = .charList items.length ∧ ∀ c ∈ items, isChar c = true) ∨
             (hdr = .byteList items.length ∧ ∀ c ∈ items, isByte c = true))
    (h : Store.addInline s hdr items = .ok (s', a)) : WF s' ∧ a = s.cells.size ∧ isNode s'.cells a = true :=
  addInline_wf hwf hkind h

theorem WF_push_register {s s' : Store} {v : Nat} (hwf : WF s) (hv : isNode s.cells v = true)
    (h : Store.pushRegister s v = .ok s') : WF s' := pushRegister_wf hwf hv h

theorem WF_push_value {s s' : Store} {v : Nat} (hwf : WF s) (hv : isNode s.cells v = true)
    (h : Store.pushValue s v = .ok s') : WF s' := pushValue_wf hwf hv h

theorem WF_push_frame {s s' : Store} {ret : Nat} (hwf : WF s) (h : Store.pushFrame s ret = .ok s') : WF s' :=
  pushFrame_wf hwf h

theorem WF_pop_register {s s' : Store} {r : Option Nat} (hwf : WF s) (h : Store.popRegister s = .ok (s', r)) :
    WF s' ∧ (∀ v, r = some v → isNode s'.cells v = true) := popRegister_wf hwf h

theorem WF_pop_value {s : Store} (hwf : WF s) :
    WF (Store.popValue s).1 ∧ (∀ v, (Store.popValue s).2 = some v → isNode s.cells v = true) := popValue_wf hwf

theorem WF_retain_all {s : Store} (hwf : WF s) : WF s.retainAll := retainAll_wf hwf

/-! ### `WF` is an invariant of every store the script operations can reach -/

theorem WF_pop_frame {s s' : Store} {r : Option Nat} (hwf : WF s) (h : Store.popFrame s = .ok (s', r)) : WF s' :=
  popFrame_wf hwf h

theorem WF_add_symbol {s s' : Store} {sym : Nat} {name : List Nat} {a : Nat} (hwf : WF s)
    (h : Store.parseAddSymbol s sym name = .ok (s', a)) : WF s' ∧ isNode s'.cells a = true := parseAddSymbol_wf hwf h

theorem WF_merge_symbol_list {s s' : Store} {first second i : Nat} (hwf : WF s)
    (hn1 : isNode s.cells first = true) (hn2 : isNode s.cells second = true)
    (h : Store.mergeToSymbolList s first second = .ok (s', i)) : WF s' ∧ isNode s'.cells i = true :=
  mergeToSymbolList_wf hwf hn1 hn2 h

/-- `start_list`, `add_to_list` for every item, `end_list` (sorted key table) -/
theorem WF_build_list {s s' : Store} {items : List Nat} {li : Nat} (hwf : WF s)
    (hitems : ∀ a ∈ items, isNode s.cells a = true) (h : Store.buildList s items = .ok (s', li)) :
    WF s' ∧ li = s.cells.size ∧ isNode s'.cells li = true := buildList_wf hwf hitems h

theorem WF_clone_data {s s' : Store} {a r : Nat} (hwf : WF s) (ha : isNode s.cells a = true)
    (h : Store.cloneData s a = .ok (s', r)) : WF s' ∧ isNode s'.cells r = true := cloneData_wf hwf ha h

theorem WF_optimize {s s' : Store} {roots m : List Nat} (hwf : WF s) (hroots : rootsOK s roots = true)
    (h : Store.optimize s roots = .ok (s', m)) : WF s' ∧ rootsOK s' m = true := optimize_wf hwf hroots h

theorem WF_set_retention {s : Store} {n : Nat} (hwf : WF s) (hn : n ≤ s.cells.size)
    (hext : ∀ i, i < n → extentOK s.cells n i = true) : WF (s.setRetention n) :=
  ⟨hn, hwf.nodes, hwf.lists, hwf.headers, hext, hwf.reg, hwf.val, hwf.frm, hwf.syms⟩

/-- the stores the OPT / CLONE script operations can reach from `BasicGarnishData::new`, with the arguments the
scripts hand them: readable addresses (results of earlier operations), retention counts that do not cut through a
value (`retain_all_current_data`, or a size observed at an operation boundary).  Not included: in-place updates of
the input value (`get_current_value_mut`) — those stores are covered by `C19_optimize_preserves_inplace`. -/
inductive Reachable : Store → Prop where
  | init : Reachable Store.fresh
  | addSolo {s s' : Store} {c : Cell} {i : Nat} {sh : Shape} : Reachable s → soloShape c = some sh →
      (∀ k ∈ sh.kids, k < s.cells.size ∧ isNode s.cells k = true) → s.push c = .ok (s', i) → Reachable s'
  | addText {s s' : Store} {hdr : Cell} {items : List Cell} {a : Nat} : Reachable s →
      ((hdr = .charList items.length ∧ ∀ c ∈ items, isChar c = true) ∨
       (hdr = .byteList items.length ∧ ∀ c ∈ items, isByte c = true)) →
      Store.addInline s hdr items = .ok (s', a) → Reachable s'
  | buildList {s s' : Store} {items : List Nat} {li : Nat} : Reachable s → (∀ a ∈ items, isNode s.cells a = true) →
      Store.buildList s items = .ok (s', li) → Reachable s'
  | mergeSymbolList {s s' : Store} {first second i : Nat} : Reachable s → isNode s.cells first = true →
      isNode s.cells second = true → Store.mergeToSymbolList s first second = .ok (s', i) → Reachable s'
  | addSymbol {s s' : Store} {sym : Nat} {name : List Nat} {a : Nat} : Reachable s →
      Store.parseAddSymbol s sym name = .ok (s', a) → Reachable s'
  | pushRegister {s s' : Store} {v : Nat} : Reachable s → isNode s.cells v = true →
      Store.pushRegister s v = .ok s' → Reachable s'
  | pushValue {s s' : Store} {v : Nat} : Reachable s → isNode s.cells v = true →
      Store.pushValue s v = .ok s' → Reachable s'
  | pushFrame {s s' : Store} {ret : Nat} : Reachable s → Store.pushFrame s ret = .ok s' → Reachable s'
  | popRegister {s s' : Store} {r : Option Nat} : Reachable s → Store.popRegister s = .ok (s', r) → Reachable s'
  | popValue {s : Store} : Reachable s → Reachable (Store.popValue s).1
  | popFrame {s s' : Store} {r : Option Nat} : Reachable s → Store.popFrame s = .ok (s', r) → Reachable s'
  | retainAll {s : Store} : Reachable s → Reachable s.retainAll
  | setRetention {s : Store} {n : Nat} : Reachable s → n ≤ s.cells.size →
      (∀ i, i < n → extentOK s.cells n i = true) → Reachable (s.setRetention n)
  | optimize {s s' : Store} {roots m : List Nat} : Reachable s → rootsOK s roots = true →
      Store.optimize s roots = .ok (s', m) → Reachable s'
  | cloneData {s s' : Store} {a r : Nat} : Reachable s → isNode s.cells a = true →
      Store.cloneData s a = .ok (s', r) → Reachable s'

/-- **WF_reachable**: every reachable store is well formed -/
theorem WF_reachable {s : Store} (h : Reachable s) : WF s := by
  induction h with
  | init => exact WF_fresh
  | addSolo _ hso hk hp ih => exact (push_solo_wf ih hso hk hp).1
  | addText _ hkind h ih => exact (addInline_wf ih hkind h).1
  | buildList _ hitems h ih => exact (buildList_wf ih hitems h).1
  | mergeSymbolList _ h1 h2 h ih => exact (mergeToSymbolList_wf ih h1 h2 h).1
  | addSymbol _ h ih => exact (parseAddSymbol_wf ih h).1
  | pushRegister _ hv h ih => exact pushRegister_wf ih hv h
  | pushValue _ hv h ih => exact pushValue_wf ih hv h
  | pushFrame _ h ih => exact pushFrame_wf ih h
  | popRegister _ h ih => exact (popRegister_wf ih h).1
  | popValue _ ih => exact (popValue_wf ih).1
  | popFrame _ h ih => exact popFrame_wf ih h
  | retainAll _ ih => exact retainAll_wf ih
  | setRetention _ hn hext ih => exact WF_set_retention ih hn hext
  | optimize _ hr h ih => exact (optimize_wf ih hr h).1
  | cloneData _ ha h ih => exact (cloneData_wf ih ha h).1

/-- **C19 for every reachable store**: no per-state check needed — on any store the script operations can build,
also after earlier compactions and clones, a successful `optimize` with readable roots preserves everything C19
lists, and the result is reachable (hence well formed) again -/
theorem C19_optimize_preserves_reachable {s s' : Store} {roots m : List Nat} (hs : Reachable s)
    (hroots : rootsOK s roots = true) (h : Store.optimize s roots = .ok (s', m)) :
    PreservedAll s s' roots m ∧ Reachable s' ∧ rootsOK s' m = true :=
  ⟨C19_optimize_preserves (WF_reachable hs) hroots h, .optimize hs hroots h,
    (optimize_wf (WF_reachable hs) hroots h).2⟩

/-- `clone_data` on every reachable store -/
theorem clone_preserves_reachable {s s' : Store} {a r : Nat} (hs : Reachable s) (ha : isNode s.cells a = true)
    (h : Store.cloneData s a = .ok (s', r)) :
    (∀ fuel, unfold s.cells fuel a = unfold s'.cells fuel r) ∧ Reachable s' ∧ isNode s'.cells r = true :=
  ⟨clone_preserves h (WF_reachable hs).optHyp.listsWF ((WF_reachable hs).dec ha), .cloneData hs ha h,
    (cloneData_wf (WF_reachable hs) ha h).2⟩

/-! ### the clone limit (known finding F-C19-3), stated precisely -/

/-- **cloneLimit_iff**: `create_index_stack` lists a value once per path to it; for an argument whose TREE unfolding
(along the links the index loop follows) has `T` nodes it succeeds iff `T ≤ (data_block.size / 2)²`, and otherwise
fails with `CloneLimitReached` — acyclic graphs with sharing included (their tree size is exponential in the depth
of sharing).  `Fits`: cursor within the allocated size, positive growth step. -/
theorem cloneLimit_iff {s : Store} {a T : Nat} (hf : Fits s) (hT : TreeCount s.cells a T) :
    (∃ s' st, Store.createIndexStack s a = .ok (s', st)) ↔ T ≤ cloneLimit s :=
  createIndexStack_ok_iff hf hT

theorem cloneLimit_exceeded {s : Store} {a T : Nat} (hf : Fits s) (hT : TreeCount s.cells a T)
    (h : cloneLimit s < T) : Store.createIndexStack s a = .err .data ∧ Store.cloneData s a = .err .data :=
  ⟨(createIndexStack_limit hf hT).2 h, cloneData_limit hf hT h⟩

/-- the shortest reproducer of F-C19-3: `add (i 1); add (p @0 @0); add (p @1 @1); add (p @2 @2); add (l @3 @3)`:
9 cells in a block of 10, an acyclic graph; its tree unfolding has 31 nodes, the limit is 25 -/
def exDag : Store :=
  { Store.fresh with
    cells := #[.number 1, .pair 0 0, .pair 1 1, .pair 2 2, .list 2 0, .listItem 3, .listItem 3, .empty, .empty] }

example : Fits exDag := by decide
example : treeCount exDag.cells 10 4 = some 31 := by decide +kernel
example : cloneLimit exDag = 25 := by decide
example : WF exDag := by decide +kernel
example : Store.createIndexStack exDag 4 = .err .data ∧ Store.cloneData exDag 4 = .err .data :=
  cloneLimit_exceeded (by decide) (treeCount_sound 10 4 31 (by decide +kernel)) (by decide)
/-- one level less of sharing fits: 15 ≤ 25 -/
example : ∃ s' st, Store.createIndexStack exDag 3 = .ok (s', st) :=
  (cloneLimit_iff (by decide) (treeCount_sound 10 3 15 (by decide +kernel))).mpr (by decide)

/-! ### non-vacuity: a concrete store satisfying the hypotheses of every theorem above -/

/-- 19 data cells: text, a pair, a keyed list with a key table, a shared value, registers (one saved by a frame),
an input value, a frame, a symbol name; the first 6 cells are retained; two extra roots, one of them retained -/
def exStore : Store :=
  { Store.fresh with
    cells := #[.number 5, .charList 2, .char 97, .char 98, .pair 0 1, .registerRoot 4,
               .symbol 5, .number 1, .pair 6 7, .pair 8 4, .list 2 1, .listItem 8, .listItem 7,
               .associativeItem 5 7, .empty, .valueRoot 10, .jumpPoint 3, .frameRegister 5, .register 5 9]
    size := 20
    symtab := #[.associativeItem 5 1]
    currentRegister := some 18, currentValue := some 15, currentFrame := some 17
    retention := 6 }

def exRoots : List Nat := [10, 4]

theorem exStore_wf : WF exStore := by decide +kernel

theorem exStore_rootsOK : rootsOK exStore exRoots = true := by decide +kernel

example : WF exStore := exStore_wf
example : rootsOK exStore exRoots = true := exStore_rootsOK

/-- field by field (`Store` has no `DecidableEq`) -/
def sameStore (a b : Store) : Bool :=
  decide (a.cells = b.cells ∧ a.size = b.size ∧ a.start = b.start ∧ a.grow = b.grow ∧ a.symtab = b.symtab ∧
    a.symSize = b.symSize ∧ a.symGrow = b.symGrow ∧ a.instr = b.instr ∧ a.jump = b.jump ∧ a.expr = b.expr ∧
    a.custom = b.custom ∧ a.currentValue = b.currentValue ∧ a.currentRegister = b.currentRegister ∧
    a.currentFrame = b.currentFrame ∧ a.retention = b.retention)

theorem sameStore_eq {a b : Store} (h : sameStore a b = true) : a = b := by
  cases a; cases b
  simp only [sameStore, decide_eq_true_eq] at h
  obtain ⟨h1, h2, h3, h4, h5, h6, h7, h8, h9, h10, h11, h12, h13, h14, h15⟩ := h
  subst h1 h2 h3 h4 h5 h6 h7 h8 h9 h10 h11 h12 h13 h14 h15
  rfl

/-- an outcome written out: the kernel runs the model once, on a Boolean check of the result against `t` -/
theorem ok_of_check {α : Type} {r : Outcome α} {t : α} (chk : α → Bool) (sound : ∀ x, chk x = true → x = t)
    (h : (r.bind fun x => if chk x then .ok () else .err .data).isOk = true) : r = .ok t := by
  obtain ⟨x, heq, h2⟩ := Outcome.bind_isOk.mp h
  split at h2
  · rename_i hc; rw [heq, sound x hc]
  · cases h2

/-- `exStore` after `optimize exRoots`, written out: the examples below that speak of this compaction rewrite with
`exStore_optimized` instead of running the model again (the kernel evaluates `optimize` on `exStore` once) -/
def exOut : Store :=
  { exStore with
    cells := #[.number 5, .charList 2, .char 97, .char 98, .pair 0 1, .registerRoot 4, .symbol 5, .number 1, .pair 6 7,
               .list 2 1, .listItem 8, .listItem 7, .associativeItem 5 7, .empty, .jumpPoint 3, .frameRegister 5,
               .valueRoot 9, .pair 8 4, .register 5 17]
    size := 70, custom := ⟨100, 0, 10⟩
    currentValue := some 16, currentFrame := some 15 }

theorem exStore_optimized : Store.optimize exStore exRoots = .ok (exOut, [9, 4]) :=
  ok_of_check (fun p => sameStore p.1 exOut && decide (p.2 = [9, 4]))
    (fun p hc => by
      simp only [Bool.and_eq_true, decide_eq_true_eq] at hc
      exact Prod.ext (sameStore_eq hc.1) hc.2)
    (by decide +kernel)

/-- `optimize` succeeds on it and moves data: the keyed list goes from 10 to 9, the value head from 15 to 16, the
frame from 17 to 15; the roots `[10, 4]` are reported at `[9, 4]` (the second one is retained) -/
example : (match Store.optimize exStore exRoots with
    | .ok (s', m) => decide ((s'.cells.size, s'.currentValue, s'.currentFrame, m) = (19, some 16, some 15, [9, 4]))
    | _ => false) = true := by rw [exStore_optimized]; decide

/-- hence `C19_optimize_preserves` applies to a non-trivial instance -/
example : ∀ s' m, Store.optimize exStore exRoots = .ok (s', m) → PreservedAll exStore s' exRoots m :=
  fun _ _ h => C19_optimize_preserves exStore_wf exStore_rootsOK h

/-- the same store with nothing retained: `C19_optimize_preserves_no_retention` -/
example : ∀ s' m, Store.optimize { exStore with retention := 0 } exRoots = .ok (s', m) →
    PreservedAll { exStore with retention := 0 } s' exRoots m :=
  fun _ _ h => C19_optimize_preserves_no_retention (by decide +kernel) rfl (by decide +kernel) h

example : (match Store.optimize { exStore with retention := 0 } exRoots with | .ok _ => true | _ => false) = true := by
  decide +kernel

/-- `clone_preserves` on the keyed list at address 10 (hypotheses hold, the call succeeds) -/
example : ListsWF exStore.cells ∧ Dec exStore.cells 10 :=
  ⟨(WF.optHyp exStore_wf).listsWF, WF.dec exStore_wf (by decide +kernel)⟩

example : (match Store.cloneData exStore 10 with | .ok (_, r) => decide (r = 27) | _ => false) = true := by
  decide +kernel

/-- `optimize_retention_beyond`: a store whose retention count exceeds its data -/
example : ({ exStore with retention := 40 } : Store).retention > ({ exStore with retention := 40 } : Store).cells.size := by
  decide

/-- `graphIso` / `C19_certified` accept the pair (before, after) of this compaction -/
example : (match Store.optimize exStore exRoots with
    | .ok (s', m) => (match c19Pairs exStore s' exRoots m with
        | some ps => graphIso exStore.cells s'.cells ps
        | none => false)
    | _ => false) = true := by rw [exStore_optimized]; decide +kernel

/-- non-vacuity of `C19_optimize_preserves_inplace`, at the boundary: the retained `ValueRoot` at 1 was updated in
place to the value at address 2 = the retention count; an extra root is cloned first, so that value moves to 3 and the
retained cell has to be re-pointed (with `value > retention count` instead of `≥` it would keep naming address 2) -/
def exInPlace : Store :=
  { Store.fresh with
    cells := #[.unit, .valueRoot 2, .number 7, .number 9]
    currentValue := some 1
    retention := 2 }

theorem exInPlace_wfv : WFv exInPlace := by decide +kernel
theorem exInPlace_rootsOK : rootsOKv exInPlace [3] = true := by decide +kernel

example : WFv exInPlace := exInPlace_wfv
example : rootsOKv exInPlace [3] = true := exInPlace_rootsOK
example : (match Store.optimize exInPlace [3] with
    | .ok (s', m) => decide ((s'.cells.toList, s'.currentValue, m) =
        ([.unit, .valueRoot 3, .number 9, .number 7], some 1, [2]))
    | _ => false) = true := by decide +kernel
example : ∀ s' m, Store.optimize exInPlace [3] = .ok (s', m) → PreservedAllV exInPlace s' [3] m :=
  fun _ _ h => C19_optimize_preserves_inplace exInPlace_wfv exInPlace_rootsOK h

/-- `Reachable` is inhabited beyond the initial store: one `add_number`, then `retain_all_current_data` -/
example : ∃ s' i, Store.fresh.push (.number 5) = .ok (s', i) ∧ Reachable s'.retainAll := by
  obtain ⟨s', h, _⟩ := push_total (s := Store.fresh) (.number 5) (by decide)
  exact ⟨s', _, h, .retainAll (.addSolo .init (sh := ⟨.number 5, [], []⟩) rfl (by intro k hk; simp at hk) h)⟩

end Garnish.Props.C19
