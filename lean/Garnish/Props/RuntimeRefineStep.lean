/-
Runtime refinement, part 5 (C01 anchor): ONE STEP. runtime/src/execute.rs `execute_current_instruction`
(Model/Runtime/Execute.lean: fetch at the cursor, the `match instruction` in source order, `Some(next)` or `cursor + 1`,
end or `set_instruction_cursor`) simulates `Abs.Machine.step` for every instruction whose handler is transliterated.

`C01_refine_step`: let the address-level state `s` and the machine state `m` be related (`Sim`: cursor = pc, the
register and input-value stacks decode pointwise to the machine's, the frame chains correspond, the store holds the
program `P`), let the store's extension points answer as the value-level host does (`HostRefines`), and let the
instruction at the cursor satisfy its side condition (`StepOK`, Model/Runtime/StepDomain.lean). Then (`StepSim`):
  * every `Decodes` fact of `s` still holds afterwards (`DecKept`: in particular the program's constants stay loaded);
  * if the machine step is `running m'`, the address-level step returns `Running` in a state related to `m'`;
  * if it is `halted m'`, the address-level step returns `End` with data related to `m'` (the Rust does not move the
    cursor when it ends);
  * if the machine errs, nothing is claimed (the handlers' error theorems are in the other Props files).
COVERED (48 of 56 instructions): Invalid, Put, PutValue, PushValue, UpdateValue, StartSideEffect, EndSideEffect,
JumpTo, JumpIfTrue, JumpIfFalse, And, Or, EndExpression, Add … Remainder, Opposite, AbsoluteValue, BitwiseNot …
BitwiseShiftRight, Xor, Not, Tis, LessThan … GreaterThanOrEqual, MakePair, MakeList, Apply, PartialApply, EmptyApply,
Reapply, Access, Resolve, MakeRange … MakeExclusiveRange, Concat.
NOT COVERED (`StepOK` is `False`): TypeOf, ApplyType (casting.rs), TypeEqual, Equal, NotEqual (equality.rs is modelled
read-only over `StoreView` in Model/Equality.lean with `C11_equalInstr_refines`; it is not an `RM` handler, so it is a
parameter `OtherHandlers` of the dispatcher here), AccessLeftInternal, AccessRightInternal, AccessLengthInternal.
The host TRACE is not part of `Sim`; "exactly once" is `C08_refine_defer_once`, `C17_refine_resolve_once`,
`C17_refine_apply_once`; the trace half of the step is `refine_step_both` here and Props/RuntimeRefineTrace.lean.
-/
import Garnish.Lemmas.RuntimeStepAll
import Garnish.Props.RuntimeRefineConcat
import Garnish.Lemmas.RuntimeRefStore
namespace Garnish.Props.RuntimeRefine
open Garnish Gen Garnish.Abs Garnish.Model.Equality Garnish.Model.Runtime Garnish.Lemmas.Runtime

variable {F σ : Type} {S : RStore F σ} {P : Prog F} {host : Host F} (fo : FloatOps F)

/-- no instruction at the cursor: both sides end, nothing changes -/
theorem C01_refine_step_end (fuel : Nat) (H : OtherHandlers σ) {s : σ} {m : MState F} (hsim : Sim S P s m)
    (hfetch : P.instrs[m.pc]? = none) : StepSim fo host S P fuel H s m :=
  (Core.step_end (Inv := fun _ => True) fo fuel H hsim trivial hfetch).sim

/-- one step, data and host trace together: `Core.refine_step` at the unguarded contract, any `OtherHandlers` -/
theorem refine_step_both (L : StoreLaws S) (HR : HostRefines S host) (fuel : Nat) (H : OtherHandlers σ)
    {s : σ} {m : MState F} (hsim : Sim S P s m) {instr : Instruction} {operand : Option Nat}
    (hfetch : P.instrs[m.pc]? = some (instr, operand)) (hok : StepOK fo S P fuel s m instr operand) :
    StepBoth fo host S P fuel H s m := by
  have ho : On.isOther instr = false := by cases instr <;> first | rfl | exact absurd hok id
  have hokF : StepOKF fo S P fuel s m instr operand := by cases instr <;> first | exact hok | exact absurd hok id
  exact (Core.refine_step fo L.toK fuel hsim trivial HR.toI (pure none) H (fun h => by rw [ho] at h; cases h) hfetch
    hokF nofun (fun _ => L.listSymOn)).both

/-- ONE STEP of the address-level runtime simulates one step of Abs/Machine -/
theorem C01_refine_step (L : StoreLaws S) (HR : HostRefines S host) (fuel : Nat) (H : OtherHandlers σ)
    {s : σ} {m : MState F} (hsim : Sim S P s m) {instr : Instruction} {operand : Option Nat}
    (hfetch : P.instrs[m.pc]? = some (instr, operand)) (hok : StepOK fo S P fuel s m instr operand) :
    StepSim fo host S P fuel H s m :=
  (refine_step_both fo L HR fuel H hsim hfetch hok).1

/-! ### non-vacuity: the reference store, a declining host, the program `5 + 7` -/

/-- the reference store with the host that declines everything refines the value-level declining host -/
theorem refStore_hostRefines : HostRefines (refStore (fun _ => none : RefHost F)) Host.declining := by
  have ans : ∀ (c : HostCall) (st : RefState F),
      HostAnswer (refStore (fun _ => none : RefHost F)) (RefState.host (fun _ => none) c) st none :=
    fun c st => ⟨{ st with trace := c :: st.trace }, rfl, keeps_same _ rfl rfl rfl rfl rfl, rfl, rfl, rfl⟩
  exact ⟨fun op l r vl vr st _ _ => ans _ st, fun op a v st _ => ans _ st, fun y st => ans _ st,
    fun n r vr st _ => ans _ st⟩

/-- `Put 0; Put 1; Add` over the constants `5`, `7` -/
def stepProg : Prog F :=
  { instrs := #[(.put, some 0), (.put, some 1), (.add, none)], jumps := #[], consts := #[.num (.int 5), .num (.int 7)] }

def stepStore : RefState F :=
  { RefState.init [.num (.int 5), .num (.int 7)] [] with
    instrs := [(.put, some 0), (.put, some 1), (.add, none)], instrLen := 3 }

def stepMachine : MState F := { pc := 0, regs := [], vals := [], frames := [], trace := [] }

theorem stepSim0 : Sim (refStore (fun _ => none)) (stepProg (F := F)) stepStore stepMachine :=
  ⟨rfl, .nil, .nil, .nil, fun i => by simp [refStore, stepStore, stepProg], fun j => by simp [refStore, stepStore, stepProg, RefState.init],
    rfl⟩

def noHandlers : OtherHandlers (RefState F) :=
  ⟨RM.fail .unsupported, RM.fail .unsupported, RM.fail .unsupported, RM.fail .unsupported, RM.fail .unsupported,
    RM.fail .unsupported, RM.fail .unsupported, RM.fail .unsupported⟩

/-- the first step (`Put 0`): the hypotheses of `C01_refine_step` hold and it yields the step simulation -/
example : StepSim fo Host.declining (refStore (fun _ => none)) (stepProg (F := F)) 1 noHandlers stepStore
    stepMachine :=
  C01_refine_step fo (refStore_laws _) refStore_hostRefines 1 noHandlers stepSim0 (instr := .put) (operand := some 0)
    rfl (by
      intro k hk v hv
      cases hk
      have : v = .num (.int 5) := by simpa [stepProg] using hv.symm
      subst this
      exact ⟨by show 0 < 2; omega, .num rfl rfl⟩)

/-- three address-level steps of the same program, run by the kernel: `Running`, `Running`, `End`; one register
holding the address of the new cell `12`; the cursor stays at the last instruction -/
def threeSteps : Option (List RuntimeState × List Nat × Nat × Option Int) :=
  let exec := executeCurrentInstruction noFloats (refStore (fun _ => none)) 1 noHandlers
  match exec stepStore with
  | .ok (r1, s1) => match exec s1 with
    | .ok (r2, s2) => match exec s2 with
      | .ok (r3, s3) => some ([r1, r2, r3], s3.regs, s3.cursor,
          match (refView s3.cells).number 2 with | some (.int v) => some v | _ => none)
      | _ => none
    | _ => none
  | _ => none

example : threeSteps = some ([.running, .running, .end_], [2], 2, some 12) := by decide +kernel

end Garnish.Props.RuntimeRefine
