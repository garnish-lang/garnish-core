/-
The distinct-keys look-up contract threaded to the step and run theorems of the relativised refinement
(`Access` and `Resolve` with a symbol key into a LIST are covered on SimpleGarnishData without any `ListSymOn`
hypothesis), and the Basic counterpart of `ListSym_simple_not_general`.

* `ListSymRun_step` / `ListSymRun_run`: ONE STEP / MULTI-STEP for the whole instruction set over `StoreLawsOn` +
  `ListSymDistinctOn`, coverage predicate `MachOKOn4D` = `MachOKOn4` with `LookupOnD` (the list looked into has pairwise
  different symbol keys) in place of `LookupOn` (`… ≠ .list _ ∨ ListSymOn S Inv`) for `Access` and `Resolve`.
* `ListSymRun_simple_step` / `ListSymRun_simple_run`: the same on `simpleRStoreA` (SimpleGarnishData with its real
  `get_list_item_with_symbol`), from `HitSound` and the host contract alone — no look-up hypothesis left.
* `ListSymRun_basic_not_general`: `ListSymOn` is false of BasicGarnishData too (the binary search ends on the LAST of
  equal keys; the real store answers the same on `(l (p (s 5) U) (p (s 5) T))`, `sym:5` = `T`, LIST suite).
* non-vacuity: `(:a = 1, :b = 2) . :b` (symbols 5 and 6) satisfies `MachOKOn4D` at an `Access` instruction, and the
  value-level machine finds `2`.
-/
import Garnish.Lemmas.RuntimeOnDistinct
import Garnish.Lemmas.BasicListSym
namespace Garnish.Props.ListSymRun
open Garnish Gen Garnish.Abs Garnish.Model.Equality Garnish.Model.Runtime Garnish.Lemmas.Runtime
open Garnish.Lemmas.Runtime.On Garnish.Lemmas.Runtime.Simple Garnish.Lemmas.Runtime.SimpleSym
open Garnish.Props.RuntimeRefine

variable {F σ : Type} {S : RStore F σ} {Inv : σ → Prop} {Rd : σ → Nat → Prop} {P : Prog F} {host : Host F}
  (fo : FloatOps F)

/-- ONE STEP, whole instruction set, look-up contract on distinct keys -/
theorem ListSymRun_step (L : StoreLawsOn S Inv Rd) (LS : ListSymDistinctOn S Inv) (HR : HostRefinesI S Inv host)
    (fuel : Nat) (cast : RM σ (Option Nat)) {s : σ} {m : MState F} (hsim : Sim S P s m) (hi : Inv s)
    (hl : Loaded S P s) {instr : Instruction} {operand : Option Nat}
    (hfetch : P.instrs[m.pc]? = some (instr, operand)) (hok : MachOKOn4D fo S Inv P fuel m instr operand) :
    StepSimOn fo host S Inv P fuel (fullHandlers fo S fuel cast) s m :=
  refine_step_on4D fo L LS HR fuel cast hsim hi hl hfetch hok

/-- MULTI-STEP -/
theorem ListSymRun_run (L : StoreLawsOn S Inv Rd) (LS : ListSymDistinctOn S Inv) (HR : HostRefinesI S Inv host)
    (fuel : Nat) (cast : RM σ (Option Nat)) (n : Nat) {s : σ} {m : MState F} (hsim : Sim S P s m) (hi : Inv s)
    (hl : Loaded S P s) (hok : RunOKG fo (MachOKOn4D fo S Inv P fuel) host P n m) {m' : MState F} {k : Nat}
    (hrun : Abs.run fo host P n m = (.halted m', k)) :
    ∃ s', executeLoop fo S fuel (fullHandlers fo S fuel cast) n s = .ok ((.end_, k), s') ∧
      SimD S P s' m'.regs m'.vals m'.frames ∧ DecKept S s s' ∧ Inv s' :=
  executeLoop_spec_gen fo (MachOKOn4D fo S Inv P fuel) fuel _
    (fun _ _ _ _ hs hi hl hf hk => refine_step_on4D fo L LS HR fuel cast hs hi hl hf hk) n s m hsim hi hl
    hok m' k hrun

section simple
variable {hit : List (SimCell F) → SimCell F → Option Nat} {h : SimHost F}

/-- **ONE STEP on SimpleGarnishData, symbol look-ups into lists included, no `ListSym` hypothesis** -/
theorem ListSymRun_simple_step (hs : HitSound hit) (HR : HostRefinesI (simpleRStoreA hit h) SInv host) (fuel : Nat)
    (cast : RM (SimState F) (Option Nat)) {s : SimState F} {m : MState F} (hsim : Sim (simpleRStoreA hit h) P s m)
    (hi : SInv s) (hl : Loaded (simpleRStoreA hit h) P s) {instr : Instruction} {operand : Option Nat}
    (hfetch : P.instrs[m.pc]? = some (instr, operand))
    (hok : MachOKOn4D fo (simpleRStoreA hit h) SInv P fuel m instr operand) :
    StepSimOn fo host (simpleRStoreA hit h) SInv P fuel (fullHandlers fo (simpleRStoreA hit h) fuel cast) s m :=
  refine_step_on4D fo (simpleA_lawsOn hs) (simpleA_listSymDistinct SInv) HR fuel cast hsim hi hl hfetch hok

/-- **MULTI-STEP on SimpleGarnishData** -/
theorem ListSymRun_simple_run (hs : HitSound hit) (HR : HostRefinesI (simpleRStoreA hit h) SInv host) (fuel : Nat)
    (cast : RM (SimState F) (Option Nat)) (n : Nat) {s : SimState F} {m : MState F}
    (hsim : Sim (simpleRStoreA hit h) P s m) (hi : SInv s) (hl : Loaded (simpleRStoreA hit h) P s)
    (hok : RunOKG fo (MachOKOn4D fo (simpleRStoreA hit h) SInv P fuel) host P n m) {m' : MState F} {k : Nat}
    (hrun : Abs.run fo host P n m = (.halted m', k)) :
    ∃ s', executeLoop fo (simpleRStoreA hit h) fuel (fullHandlers fo (simpleRStoreA hit h) fuel cast) n s
        = .ok ((.end_, k), s') ∧
      SimD (simpleRStoreA hit h) P s' m'.regs m'.vals m'.frames ∧ DecKept (simpleRStoreA hit h) s s' ∧ SInv s' :=
  ListSymRun_run fo (simpleA_lawsOn hs) (simpleA_listSymDistinct SInv) HR fuel cast n hsim hi hl hok hrun

end simple

/-- `ListSymOn` is false of BasicGarnishData as well -/
theorem ListSymRun_basic_not_general (nc : Basic.NumCode F) :
    ¬ ListSymOn (Basic.basicRStore nc) Garnish.Lemmas.Runtime.Basic.BInv :=
  Garnish.Lemmas.Runtime.BasicSym.basic_not_listSymOn nc

/-! ### non-vacuity: `(:a = 1, :b = 2) . :b` -/

/-- the list `(:a = 1, :b = 2)` with `:a` = 5, `:b` = 6 -/
def exList : Val F := .list [.pair (.sym 5) (.num (.int 1)), .pair (.sym 6) (.num (.int 2))]

theorem exList_distinct : DistinctKeys [(.pair (.sym 5) (.num (.int 1)) : Val F), .pair (.sym 6) (.num (.int 2))] := by
  unfold DistinctKeys
  refine List.pairwise_cons.mpr ⟨?_, List.pairwise_cons.mpr ⟨(by intro _ h; cases h), List.Pairwise.nil⟩⟩
  intro y hy k v k' v' h1 h2
  simp only [List.mem_singleton] at hy
  subst hy
  cases h1; cases h2
  decide

example : getAccess fo (.sym 6) (exList : Val F) = .some (.num (.int 2)) := by rfl

/-- the machine state just before the `Access` of `(:a = 1, :b = 2) . :b` meets the coverage predicate -/
example (S : RStore F σ) (Inv : σ → Prop) (P : Prog F) :
    MachOKOn4D fo S Inv P 0 { pc := 0, regs := [.sym 6, exList], vals := [], frames := [], trace := [] } .access none := by
  refine ⟨(fun fr frs hf => by cases hf), ?_⟩
  intro vr vl rs hr
  simp only [List.cons.injEq] at hr
  obtain ⟨rfl, rfl, rfl⟩ := hr
  refine ⟨fun _ => ⟨by simp [exList, AccessDomain], by simp [exList, accessFuel], (fun n hn => by cases hn)⟩, ?_, ?_⟩
  · intro _
    refine ⟨by simp [exList, ncConcat], ?_, ?_⟩
    · intro y _ vs hvs
      simp only [exList, Val.list.injEq] at hvs
      subst hvs
      exact exList_distinct
    · intro v hv
      have : getAccess fo (.sym 6) (exList : Val F) = .some (.num (.int 2)) := rfl
      rw [this] at hv
      cases hv
      intro hc; cases hc
  · intro hm; cases hm

end Garnish.Props.ListSymRun
