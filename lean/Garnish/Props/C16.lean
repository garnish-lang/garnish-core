/-
C16 — lists keep their order and find every key.

Theorems about the store models of `Garnish.Store.Lists` (transliterations of the list code of
SimpleGarnishData and BasicGarnishData and of the runtime's `index_list`), for ALL item lists and ALL symbols.
The last section is at the value level: the symbol look-up in a concatenation (Abs/Ops `lookupRev`).
-/
import Garnish.Lemmas.Lists
import Garnish.Lemmas.Ops
namespace Garnish.Props.C16
open Garnish Garnish.Store.Lists

/-! ## SimpleGarnishData -/

/-- `(symbol, value)` of an address that holds a pair keyed by a symbol (what `keyedValue` reads) -/
def keyOfS (view : SView) (a : Nat) : Option (Nat × Nat) :=
  match keyedValue view a with
  | .ok kv => kv
  | _ => none

/-- every item is a readable address, and so is the left of every item that is a pair -/
def ReadableS (view : SView) (items : List Nat) : Prop :=
  ∀ a ∈ items, ∃ kv, keyedValue view a = .ok kv

theorem keyedValue_eq {view : SView} {a : Nat} (h : ∃ kv, keyedValue view a = .ok kv) :
    keyedValue view a = .ok (keyOfS view a) := by
  obtain ⟨kv, h⟩ := h
  simp [keyOfS, h]

/-- `end_list` is total: the placement loop always finds a slot — the `count > len` guard
("Could not place associative value") never fires and no index is out of bounds — for every item list,
including lists that contain address 0 (unit), repeated addresses and addresses congruent modulo the length. -/
theorem simple_end_list_total (items : List Nat) :
    ∃ o, endListSimple items = .ok (items, o) ∧ o.size = items.length ∧
      (∀ (j v : Nat), o[j]? = some v → v ∈ items) ∧
      (∀ a ∈ items, a ≠ 0 → ∃ j : Nat, o[j]? = some a) := by
  obtain ⟨o, ho, inv⟩ := endListSimple_ok items
  exact ⟨o, ho, inv.size, inv.slot_mem rfl, inv.complete⟩

/-- **simple_lookup.**  For every item list (any mix of keyed and unkeyed items, address 0 included) whose
symbol keys determine their values, and every symbol: looking the symbol up in the list that `end_list` stores
returns the value of the pair keyed by that symbol, or "absent" — never an error. -/
theorem simple_lookup (view : SView) (items : List Nat) (s : Nat)
    (hread : ReadableS view items) (hf : KeysFunctional (keyOfS view) items) :
    ∃ o, endListSimple items = .ok (items, o) ∧
      lookupSimple view o s = .ok (Spec.lookup (keyOfS view) s items) := by
  obtain ⟨o, ho, inv⟩ := endListSimple_ok items
  refine ⟨o, ho, ?_⟩
  have hmem := inv.slot_mem rfl
  have hk : ∀ (j a : Nat), o[j]? = some a → keyedValue view a = .ok (keyOfS view a) :=
    fun j a h => keyedValue_eq (hread a (hmem j a h))
  unfold lookupSimple
  by_cases hn : o.size = 0
  · -- the empty list
    have : items = [] := List.eq_nil_of_length_eq_zero (by rw [← inv.size]; exact hn)
    subst this
    simp [hn, Spec.lookup]
  · simp only [hn, if_false]
    have hpos : 0 < o.size := Nat.pos_of_ne_zero hn
    have hi : s % o.size < o.size := Nat.mod_lt _ hpos
    cases hl : Spec.lookup (keyOfS view) s items with
    | none =>
      have hnone := Spec.lookup_none.mp hl
      exact lookupLoop_absent rfl hk (fun j a h => hnone a (hmem j a h)) _ _ hi
    | some r =>
      obtain ⟨a, ha, hka⟩ := Spec.lookup_some hl
      -- the keyed item sits in some slot (address 0 could only be found through a zero slot, which exists then)
      have hslot : ∃ z : Nat, o[z]? = some a := by
        by_cases h0 : a = 0
        · subst h0
          have hc : 0 < o.count 0 := by
            have := inv.room
            have : 0 < items.count 0 := List.count_pos_iff.mpr ha
            omega
          exact Array.mem_iff_getElem?.mp (Array.count_pos_iff.mp hc)
        · exact inv.complete a ha h0
      obtain ⟨z, hz⟩ := hslot
      have hzn : z < o.size := by
        by_cases h : z < o.size
        · exact h
        · rw [Array.getElem?_eq_none (by omega)] at hz; cases hz
      refine lookupLoop_present rfl hk hzn ⟨a, hz, keyMatch_some.mpr hka⟩ ?_ _ _ hi
        (Nat.le_of_lt (dist_lt hzn))
      intro j a' r' hj hm
      exact hf a' a s r' r (hmem j a' hj) ha (keyMatch_some.mp hm) hka

/-- the same for items whose symbol keys are pairwise distinct (the hypothesis of the property) -/
theorem simple_lookup_distinct (view : SView) (items : List Nat) (s : Nat)
    (hread : ReadableS view items) (hd : KeysDistinct (keyOfS view) items) :
    ∃ o, endListSimple items = .ok (items, o) ∧
      lookupSimple view o s = .ok (Spec.lookup (keyOfS view) s items) :=
  simple_lookup view items s hread hd.functional

/-- duplicate keys are outside the property, and there the stores differ from the specification: Simple answers
in probe order.  Items 4 and 7 are both keyed by symbol 5; the scan for 5 starts at slot 5 % 2 = 1, which holds
item 7 (7 % 2 = 1), so the later item's value 11 is returned although item 4 (value 10) was inserted first. -/
theorem simple_duplicate_keys_probe_order :
    let view : SView := fun a =>
      if a = 3 then some (.sym 5) else if a = 4 then some (.pair 3 10) else if a = 7 then some (.pair 3 11)
      else if a ≤ 11 then some .other else none
    ∃ o, endListSimple [4, 7] = .ok ([4, 7], o) ∧ lookupSimple view o 5 = .ok (some 11) ∧
      Spec.lookup (keyOfS view) 5 [4, 7] = some 10 := by
  exact ⟨#[4, 7], rfl, rfl, rfl⟩

/-! ### length, indexing, iteration on Simple -/

variable {view : SView} {addr : Nat} {items : List Nat} {assoc : Array Nat}

theorem simple_len (h : view addr = some (.list items assoc)) : listLenSimple view addr = .ok items.length := by
  simp [listLenSimple, h]

theorem asUsize_nonneg {k : Nat} (hk : k < 2 ^ 64) : asUsize (k : Int) = k := by
  unfold asUsize
  have : ((k : Int) % (2 ^ 64 : Int)) = (k : Int) := Int.emod_eq_of_lt (by omega) (by exact_mod_cast hk)
  rw [this]; simp

/-- data level, Simple: `get_list_item` yields the k-th item inside the range … -/
theorem simple_nth_in_range (h : view addr = some (.list items assoc)) (k : Nat) (hk : k < items.length)
    (hsmall : items.length < 2 ^ 64) :
    listItemSimple view addr (k : Int) = .ok (some items[k]) := by
  simp [listItemSimple, h, asUsize_nonneg (Nat.lt_trans hk hsmall), hk]

/-- … and no item — not an error — outside it, negative indices included (`i32 as usize` is huge) -/
theorem simple_nth_out_of_range (h : view addr = some (.list items assoc)) (i : Int)
    (hi : i < 0 ∨ (items.length : Int) ≤ i) (hi32 : -(2 ^ 31 : Int) ≤ i ∧ i < 2 ^ 31)
    (hsmall : items.length < 2 ^ 63) :
    listItemSimple view addr i = .ok none := by
  simp only [listItemSimple, h]
  congr 1
  apply List.getElem?_eq_none
  unfold asUsize
  rcases hi with hneg | hge
  · have : i % (2 ^ 64 : Int) = i + 2 ^ 64 := by
      rw [← Int.add_emod_right]
      exact Int.emod_eq_of_lt (by omega) (by omega)
    rw [this]; omega
  · have : i % (2 ^ 64 : Int) = i := Int.emod_eq_of_lt (by omega) (by omega)
    rw [this]; omega

theorem simple_iter_is_items (h : view addr = some (.list items assoc)) :
    listIterSimple view addr = .ok items := by
  simp [listIterSimple, h]

/-! ## runtime level: `index_list` (both stores go through it) -/

/-- **nth_out_of_range.**  Whatever the data implementation answers outside the range (Simple: `None`, Basic: an
error beyond the end and item 0 for a negative index), `index_list` reports no item — not an error. -/
theorem nth_out_of_range (n : Nat) (item : Int → Outcome (Option Nat)) (i : Int)
    (hi : i < 0 ∨ (n : Int) ≤ i) : indexList (.ok n) item i = .ok .none := by
  unfold indexList
  rcases hi with h | h
  · simp [h]
  · by_cases hneg : i < 0
    · simp [hneg]
    · simp [hneg, h]

/-- **nth_in_range.**  Inside the range `index_list` hands back what `get_list_item` returns. -/
theorem nth_in_range (n : Nat) (item : Int → Outcome (Option Nat)) (k : Nat) (a : Nat) (hk : k < n)
    (hitem : item (k : Int) = .ok (some a)) : indexList (.ok n) item (k : Int) = .ok (.item a) := by
  unfold indexList
  have h1 : ¬ ((k : Int) < 0) := by omega
  have h2 : ¬ ((k : Int) ≥ (n : Int)) := by omega
  simp [h1, h2, hitem]

/-- `index_list` over a getter that yields the k-th item inside the range -/
theorem indexList_items (items : List Nat) (item : Int → Outcome (Option Nat))
    (hin : ∀ k (hk : k < items.length), item (k : Int) = .ok (some items[k])) (i : Int) :
    indexList (.ok items.length) item i =
      .ok (if 0 ≤ i then (items[i.toNat]?.map Nth.item).getD .none else .none) := by
  by_cases hneg : i < 0
  · rw [nth_out_of_range _ _ _ (Or.inl hneg)]
    simp [show ¬ (0 ≤ i) by omega]
  · have h0 : 0 ≤ i := by omega
    simp only [h0, if_true]
    by_cases hge : (items.length : Int) ≤ i
    · rw [nth_out_of_range _ _ _ (Or.inr hge)]
      rw [List.getElem?_eq_none (by omega)]; rfl
    · have hk : i.toNat < items.length := by omega
      have := nth_in_range items.length item i.toNat items[i.toNat] hk (hin i.toNat hk)
      rw [Int.toNat_of_nonneg h0] at this
      rw [this, List.getElem?_eq_getElem hk]; rfl

-- `hi32` plays no part
set_option linter.unusedVariables false in
/-- Simple through `index_list` -/
theorem simple_index_list (h : view addr = some (.list items assoc)) (hsmall : items.length < 2 ^ 63) (i : Int)
    (hi32 : -(2 ^ 31 : Int) ≤ i ∧ i < 2 ^ 31) :
    indexList (listLenSimple view addr) (listItemSimple view addr) i =
      .ok (if 0 ≤ i then match items[i.toNat]? with | some a => .item a | none => .none else .none) := by
  rw [simple_len h, indexList_items items _ (fun k hk => simple_nth_in_range h k hk (by omega))]
  cases items[i.toNat]? <;> rfl

/-! ## BasicGarnishData: the binary search -/

/-- the symbol of an associative item (0 for anything else) -/
def keyAt (arr : Array BCell) (j : Nat) : Nat :=
  match arr[j]? with
  | some (.assoc k _) => k
  | _ => 0

def AllAssoc (arr : Array BCell) : Prop := ∀ j, j < arr.size → ∃ k v, arr[j]? = some (.assoc k v)

/-- ordered by symbol (not necessarily strictly) -/
def SortedKeys (arr : Array BCell) : Prop := ∀ i j, i ≤ j → j < arr.size → keyAt arr i ≤ keyAt arr j

theorem searchLoop_spec (arr : Array BCell) (s : Nat) (hall : AllAssoc arr) (hs : SortedKeys arr) :
    ∀ size base, 1 ≤ size → base + size ≤ arr.size → (base = 0 ∨ keyAt arr base ≤ s) →
      (∀ j, base + size ≤ j → j < arr.size → s < keyAt arr j) →
      ∃ b, searchLoop arr s base size = .ok b ∧ b < arr.size ∧ (b = 0 ∨ keyAt arr b ≤ s) ∧
        (∀ j, b < j → j < arr.size → s < keyAt arr j) := by
  intro size
  induction size using Nat.strongRecOn with
  | ind size ih =>
    intro base h1 hb hlow hhigh
    rw [searchLoop]
    by_cases hgt : size > 1
    · simp only [hgt, dite_true]
      have hmid : base + size / 2 < arr.size := by omega
      obtain ⟨k, v, hkv⟩ := hall (base + size / 2) hmid
      simp only [hkv]
      have hk : keyAt arr (base + size / 2) = k := by simp [keyAt, hkv]
      by_cases hc : compare k s = .gt
      · simp only [hc, if_true]
        apply ih (size - size / 2) (by omega) base (by omega) (by omega) hlow
        intro j hj hjs
        have h2 := hs (base + size / 2) j (by omega) hjs
        rw [hk] at h2
        have : s < k := Nat.compare_eq_gt.mp hc
        omega
      · simp only [hc, if_false]
        have hks : k ≤ s := by
          rcases Nat.lt_or_ge s k with h | h
          · exact absurd (Nat.compare_eq_gt.mpr h) hc
          · exact h
        apply ih (size - size / 2) (by omega) (base + size / 2) (by omega) (by omega) (Or.inr (by rw [hk]; exact hks))
        intro j hj hjs
        exact hhigh j (by omega) hjs
    · simp only [hgt, dite_false]
      exact ⟨base, rfl, by omega, hlow, fun j hj hjs => hhigh j (by omega) hjs⟩

/-- **binsearch_correct.**  On associative items ordered by symbol the search (`while size > 1` with `half`, then
one final comparison) never errs or panics; it returns an index holding the symbol when the symbol is present
and "absent" exactly when no item carries it. -/
theorem binsearch_correct (arr : Array BCell) (s : Nat) (hall : AllAssoc arr) (hs : SortedKeys arr) :
    (∃ idx, searchAssoc arr s = .ok (some idx) ∧ idx < arr.size ∧ keyAt arr idx = s) ∨
    (searchAssoc arr s = .ok none ∧ ∀ j, j < arr.size → keyAt arr j ≠ s) := by
  unfold searchAssoc
  by_cases h0 : arr.size = 0
  · right
    simp only [h0, if_true, true_and]
    intro j hj; omega
  · simp only [h0, if_false]
    obtain ⟨b, hb, hbs, hlow, hhigh⟩ := searchLoop_spec arr s hall hs arr.size 0 (by omega) (by omega) (Or.inl rfl)
      (fun j hj hjs => by omega)
    rw [hb]
    obtain ⟨k, v, hkv⟩ := hall b hbs
    have hk : keyAt arr b = k := by simp [keyAt, hkv]
    simp only [hkv]
    by_cases hks : k = s
    · left
      exact ⟨b, by simp [hks], hbs, by rw [hk]; exact hks⟩
    · right
      simp only [hks, if_false, true_and]
      intro j hj heq
      rcases Nat.lt_or_ge b j with h | h
      · have := hhigh j h hj; omega
      · have h2 := hs j b h hbs
        rcases hlow with hb0 | hle
        · have : j = b := by omega
          subst this; rw [hk] at heq; exact hks heq
        · rw [hk] at hle h2; omega

/-- with strictly increasing symbols the index found is the only one -/
theorem binsearch_unique (arr : Array BCell) (s : Nat)
    (hstrict : ∀ i j, i < j → j < arr.size → keyAt arr i < keyAt arr j)
    (i j : Nat) (hi : i < arr.size) (hj : j < arr.size) (h1 : keyAt arr i = s) (h2 : keyAt arr j = s) : i = j := by
  rcases Nat.lt_trichotomy i j with h | h | h
  · have := hstrict i j h hj; omega
  · exact h
  · have := hstrict j i h hi; omega

/-! ## BasicGarnishData: what `end_list`'s sort establishes -/

def isAssoc : BCell → Bool
  | .assoc _ _ => true
  | _ => false

/-- association slots hold associative items or nothing -/
def IsSlot (c : BCell) : Prop := isAssoc c = true ∨ c = .empty

/-- a sorted slot list is its associative items followed by its empty slots -/
theorem sorted_slots_split : ∀ (l : List BCell), (∀ c ∈ l, IsSlot c) → l.Pairwise cellLe →
    l = l.filter isAssoc ++ l.filter (fun c => !isAssoc c)
  | [], _, _ => by simp
  | x :: xs, hsl, hp => by
    have hp' := List.pairwise_cons.mp hp
    have ih := sorted_slots_split xs (fun c hc => hsl c (List.mem_cons_of_mem _ hc)) hp'.2
    by_cases hx : isAssoc x = true
    · simp only [List.filter_cons, hx, if_true, Bool.not_true, Bool.false_eq_true, if_false, List.cons_append]
      rw [← ih]
    · have hxe : x = .empty := by
        rcases hsl x List.mem_cons_self with h | h
        · exact absurd h hx
        · exact h
      -- everything behind an empty slot is empty
      have hall : ∀ y ∈ xs, isAssoc y = false := by
        intro y hy
        have hle := hp'.1 y hy
        rw [hxe] at hle
        cases y with
        | assoc s v => exact (hle rfl).elim
        | _ => rfl
      have h1 : xs.filter isAssoc = [] := List.filter_eq_nil_iff.mpr (fun y hy => by simp [hall y hy])
      have h2 : xs.filter (fun c => !isAssoc c) = xs := List.filter_eq_self.mpr (fun y hy => by simp [hall y hy])
      have hx' : isAssoc x = false := by simpa using hx
      simp [hx', h1, h2]

/-- **sort_puts_assoc_first.**  The ordering `end_list` establishes on the association slots, which the binary
search relies on: the sorted slots are a permutation of the slots written by `add_to_list`; the `k`
associative items (`k` = number of non-empty slots, the count stored in the header) come first, in
non-decreasing symbol order; only empty slots follow. -/
theorem sort_puts_assoc_first (slots : List BCell) (hsl : ∀ c ∈ slots, IsSlot c) :
    let sorted := sortStable slots
    let k := slots.countP (fun c => c != .empty)
    sorted.Perm slots ∧
    sorted = sorted.filter isAssoc ++ List.replicate (slots.length - k) .empty ∧
    (sorted.filter isAssoc).length = k ∧
    (sorted.filter isAssoc).Pairwise cellLe := by
  intro sorted k
  have hperm : sorted.Perm slots := sortStable_perm slots
  have hsorted : sorted.Pairwise cellLe := sortStable_sorted slots
  have hsl' : ∀ c ∈ sorted, IsSlot c := fun c hc => hsl c (hperm.mem_iff.mp hc)
  have hsplit := sorted_slots_split sorted hsl' hsorted
  -- on slots "not empty" and "associative" coincide
  have hcnt : ∀ l : List BCell, (∀ c ∈ l, IsSlot c) → l.countP (fun c => c != .empty) = (l.filter isAssoc).length := by
    intro l hl
    rw [List.countP_eq_length_filter]
    congr 1
    apply List.filter_congr
    intro c hc
    rcases hl c hc with h | h
    · cases c with
      | assoc s v => simp [isAssoc]
      | _ => simp [isAssoc] at h
    · subst h; simp [isAssoc]
  have hk : (sorted.filter isAssoc).length = k := by
    have h1 := hcnt sorted hsl'
    have h2 : sorted.countP (fun c => c != .empty) = k := hperm.countP_eq _
    omega
  have hempties : sorted.filter (fun c => !isAssoc c) = List.replicate (slots.length - k) .empty := by
    apply List.eq_replicate_iff.mpr
    constructor
    · have hl : sorted.length = slots.length := hperm.length_eq
      have := congrArg List.length hsplit
      simp only [List.length_append] at this
      omega
    · intro c hc
      have hc' := List.mem_filter.mp hc
      rcases hsl' c hc'.1 with h | h
      · simp [h] at hc'
      · exact h
  refine ⟨hperm, ?_, hk, List.Pairwise.filter _ hsorted⟩
  rw [← hempties]
  exact hsplit

/-! ## BasicGarnishData: symbol look-up in a built list -/

/-- what `end_list` leaves in the heap for the list of `items` built over heap `h` -/
structure ListAt (h : BHeap) (items : List Nat) (g : BHeap) (li : Nat) : Prop where
  hdr : g[li]? = some (.list items.length ((items.map (slotOf h)).countP (fun c => c != .empty)))
  bound : li + 1 + 2 * items.length ≤ g.size
  itm : ∀ (i a : Nat), items[i]? = some a → g[li + 1 + i]? = some (.listItem a)
  slt : ∀ j, j < items.length → g[li + 1 + items.length + j]? = (sortStable (items.map (slotOf h)))[j]?

theorem slotOf_isSlot (h : BHeap) (a : Nat) : IsSlot (slotOf h a) := by
  unfold slotOf IsSlot
  cases keyOfB h a with
  | none => right; rfl
  | some p => left; rfl

theorem slotOf_assoc {h : BHeap} {a s r : Nat} : slotOf h a = .assoc s r ↔ keyOfB h a = some (s, r) := by
  unfold slotOf
  cases keyOfB h a with
  | none => simp
  | some p => obtain ⟨s', r'⟩ := p; simp

/-- **basic_lookup (layout form).**  In a heap that holds the list of `items` as `end_list` leaves it, for every
item list whose symbol keys determine their values and every symbol, `get_list_item_with_symbol` returns the
value of the pair keyed by that symbol, or "absent" — never an error, never a panic. -/
theorem basic_lookup_at (h g : BHeap) (items : List Nat) (li s : Nat) (L : ListAt h items g li)
    (hf : KeysFunctional (keyOfB h) items) :
    lookupBasic g li s = .ok (Spec.lookup (keyOfB h) s items) := by
  have hsl : ∀ c ∈ items.map (slotOf h), IsSlot c := by
    intro c hc
    obtain ⟨a, _, rfl⟩ := List.mem_map.mp hc
    exact slotOf_isSlot h a
  obtain ⟨hperm, hsplit, hk, hpw⟩ := sort_puts_assoc_first (items.map (slotOf h)) hsl
  generalize hA : (sortStable (items.map (slotOf h))).filter isAssoc = A at hsplit hk hpw
  generalize hkk : (items.map (slotOf h)).countP (fun c => c != .empty) = k at hk hsplit
  have hkn : k ≤ items.length := by
    rw [← hkk]; have := List.countP_le_length (p := fun c => c != BCell.empty) (l := items.map (slotOf h)); simpa using this
  -- the slice the search runs on is exactly the associative items
  have hslice : g.extract (li + items.length + 1) (li + items.length + 1 + k) = A.toArray := by
    apply Array.ext_getElem?
    intro j
    rw [Array.getElem?_extract]
    by_cases hj : j < k
    · have h1 : j < min (li + items.length + 1 + k) g.size - (li + items.length + 1) := by
        have := L.bound; omega
      rw [if_pos h1]
      have := L.slt j (by omega)
      rw [show li + items.length + 1 + j = li + 1 + items.length + j by omega, this, hsplit]
      rw [List.getElem?_append_left (by omega)]
      simp
    · have h1 : ¬ (j < min (li + items.length + 1 + k) g.size - (li + items.length + 1)) := by omega
      rw [if_neg h1]
      simp; omega
  have hmemA : ∀ c, c ∈ A ↔ (c ∈ items.map (slotOf h) ∧ isAssoc c = true) := by
    intro c
    rw [← hA, List.mem_filter, hperm.mem_iff]
  have hallA : AllAssoc A.toArray := by
    intro j hj
    have hj' : j < A.length := by simpa using hj
    have hm : A[j] ∈ A := List.getElem_mem hj'
    have := ((hmemA _).mp hm).2
    cases hc : A[j] with
    | assoc k' v' => exact ⟨k', v', by simp [hj', hc]⟩
    | _ => rw [hc] at this; simp [isAssoc] at this
  have hkeyA : ∀ j (hj : j < A.length) k' v', A[j] = .assoc k' v' → keyAt A.toArray j = k' := by
    intro j hj k' v' hc
    simp [keyAt, hj, hc]
  have hsortA : SortedKeys A.toArray := by
    intro i j hij hj
    have hj' : j < A.length := by simpa using hj
    rcases Nat.lt_or_ge i j with hlt | hge
    · have hi' : i < A.length := by omega
      have hle := (List.pairwise_iff_getElem.mp hpw) i j hi' hj' hlt
      obtain ⟨k1, v1, h1⟩ := hallA i (by simpa using hi')
      obtain ⟨k2, v2, h2⟩ := hallA j hj
      have e1 : A[i] = .assoc k1 v1 := by simpa [hi'] using h1
      have e2 : A[j] = .assoc k2 v2 := by simpa [hj'] using h2
      rw [hkeyA i hi' k1 v1 e1, hkeyA j hj' k2 v2 e2]
      rw [e1, e2] at hle
      unfold cellLe cmpCell at hle
      rcases Nat.lt_or_ge k2 k1 with h' | h'
      · exact absurd (Nat.compare_eq_gt.mpr h') hle
      · exact h'
    · have : i = j := by omega
      subst this; exact Nat.le_refl _
  unfold lookupBasic
  rw [L.hdr]
  simp only [hkk]
  have hb : ¬ (li + items.length + 1 + k > g.size) := by have := L.bound; omega
  simp only [hb, if_false, hslice]
  rcases binsearch_correct A.toArray s hallA hsortA with ⟨idx, hfound, hidx, hkey⟩ | ⟨hnone, hno⟩
  · rw [hfound]
    obtain ⟨k', v', hcell⟩ := hallA idx hidx
    simp only [hcell]
    have hidx' : idx < A.length := by simpa using hidx
    have e : A[idx] = .assoc k' v' := by simpa [hidx'] using hcell
    have hk' : k' = s := by rw [← hkey, hkeyA idx hidx' k' v' e]
    subst hk'
    have hm : BCell.assoc k' v' ∈ A := e ▸ List.getElem_mem hidx'
    obtain ⟨a, ha, hsa⟩ := List.mem_map.mp ((hmemA _).mp hm).1
    rw [Spec.lookup_of_mem hf ha (slotOf_assoc.mp hsa)]
  · rw [hnone]
    simp only []
    symm
    congr 1
    apply Spec.lookup_none.mpr
    intro a ha
    cases hm : keyMatch (keyOfB h a) s with
    | none => rfl
    | some r =>
      exfalso
      have hka := keyMatch_some.mp hm
      have hmem : BCell.assoc s r ∈ A := (hmemA _).mpr ⟨List.mem_map.mpr ⟨a, ha, slotOf_assoc.mpr hka⟩, rfl⟩
      obtain ⟨j, hj, hcj⟩ := List.getElem_of_mem hmem
      exact hno j (by simpa using hj) (hkeyA j hj s r hcj)


/-- reads of a heap whose middle part has been replaced -/
theorem getElem?_replaced (g post : BHeap) (start : Nat) (mid : List BCell) (hs : start ≤ g.size) (i : Nat) :
    (g.extract 0 start ++ mid.toArray ++ post)[i]? =
      if i < start then g[i]? else if i < start + mid.length then mid[i - start]? else post[i - (start + mid.length)]? := by
  have hpre : (g.extract 0 start).size = start := by simp; omega
  rw [Array.getElem?_append, Array.getElem?_append]
  simp only [Array.size_append, hpre, List.size_toArray]
  by_cases h1 : i < start
  · rw [if_pos (by omega), if_pos h1, if_pos h1, Array.getElem?_extract, if_pos (by omega)]; simp
  · rw [if_neg h1, if_neg h1]
    by_cases h2 : i < start + mid.length
    · rw [if_pos h2, if_pos h2]; simp
    · rw [if_neg h2, if_neg h2]

theorem endListBasic_layout {h g : BHeap} {items : List Nat} (inv : AddInv h items.length items g) :
    ∃ g', endListBasic g h.size = .ok (g', h.size) ∧ ListAt h items g' h.size ∧
      (∀ i, i < h.size → g'[i]? = h[i]?) := by
  have hsz := inv.size
  have hslots : (g.extract (h.size + 1 + items.length) (h.size + 1 + items.length + items.length)).toList
      = items.map (slotOf h) := by
    apply List.ext_getElem?
    intro j
    rw [Array.getElem?_toList, Array.getElem?_extract, List.getElem?_map]
    by_cases hj : j < items.length
    · rw [if_pos (by omega), inv.slt j items[j] (List.getElem?_eq_getElem hj), List.getElem?_eq_getElem hj]; rfl
    · rw [if_neg (by omega), List.getElem?_eq_none (by omega)]; rfl
  have hlen : (sortStable (items.map (slotOf h))).length = items.length := by
    simpa using (sortStable_perm (items.map (slotOf h))).length_eq
  unfold endListBasic
  rw [inv.hdr]
  simp only [show ¬ (items.length < items.length) by omega, if_false,
    show ¬ (h.size + 1 + items.length + items.length > g.size) by omega, hslots]
  refine ⟨_, rfl, ?_, ?_⟩
  · have hget := getElem?_replaced g (g.extract (h.size + 1 + items.length + items.length) g.size)
      (h.size + 1 + items.length) (sortStable (items.map (slotOf h))) (by omega)
    have hbound : h.size < (g.extract 0 (h.size + 1 + items.length) ++ (sortStable (items.map (slotOf h))).toArray ++
        g.extract (h.size + 1 + items.length + items.length) g.size).size := by simp; omega
    constructor
    · rw [getElem?_setIfInBounds_lt _ _ hbound, if_pos rfl]
    · simp; omega
    · intro i a hia
      have hi : i < items.length := (List.getElem?_eq_some_iff.mp hia).1
      rw [getElem?_setIfInBounds_lt _ _ hbound, if_neg (by omega), hget, if_pos (by omega)]
      exact inv.itm i a hia
    · intro j hj
      rw [getElem?_setIfInBounds_lt _ _ hbound, if_neg (by omega), hget, if_neg (by omega), if_pos (by omega)]
      congr 1; omega
  · intro i hi
    rw [Array.getElem?_setIfInBounds, if_neg (by omega), getElem?_replaced _ _ _ _ (by omega), if_pos (by omega)]
    exact inv.old i hi
/-- **basic_lookup.**  `start_list; add_to_list…; end_list` on any heap whose item addresses are earlier cells
succeeds (no error, no panic) and leaves the heap untouched below the new list; looking any symbol up in the
new list returns the value of the pair keyed by that symbol or "absent". -/
theorem basic_lookup (h : BHeap) (items : List Nat) (s : Nat) (hread : ReadableB h items)
    (hf : KeysFunctional (keyOfB h) items) :
    ∃ g, buildListBasic h items = .ok (g, h.size) ∧ (∀ i, i < h.size → g[i]? = h[i]?) ∧
      lookupBasic g h.size s = .ok (Spec.lookup (keyOfB h) s items) := by
  obtain ⟨g1, hg1, inv⟩ := addAll_inv items [] (startList h items.length).1 (startList_inv h items.length)
    (by simp) hread
  simp only [List.nil_append] at inv
  obtain ⟨g, hg, L, hold⟩ := endListBasic_layout inv
  refine ⟨g, ?_, hold, basic_lookup_at h g items h.size s L hf⟩
  unfold buildListBasic
  rw [hg1]
  exact hg


/-! ### length, indexing, iteration on Basic -/

section basicNth
variable {h g : BHeap} {items : List Nat} {li : Nat}

theorem basic_len (L : ListAt h items g li) : listLenBasic g li = .ok items.length := by
  simp [listLenBasic, L.hdr]

/-- data level, Basic: inside the range `get_list_item` yields the k-th item -/
theorem basic_nth_in_range (L : ListAt h items g li) (k : Nat) (hk : k < items.length) :
    listItemBasic g li (k : Int) = .ok (some items[k]) := by
  unfold listItemBasic
  rw [L.hdr]
  have hm : (max (k : Int) 0).toNat = k := by omega
  have hneg : ¬ ((k : Int) < 0) := by omega
  simp only [hneg, hm, show ¬ (k ≥ items.length) by omega, if_false]
  rw [L.itm k items[k] (List.getElem?_eq_getElem hk)]

/-- FINDING (data level, Basic): beyond the end `get_list_item` is an error, not "no item"
(pinned by the repository test `get_list_item_invalid_index`; masked by `index_list` at the runtime level) -/
theorem basic_nth_beyond_is_error (L : ListAt h items g li) (i : Int) (hi : (items.length : Int) ≤ i) :
    listItemBasic g li i = .err .data := by
  unfold listItemBasic
  rw [L.hdr]
  have : (max i 0).toNat ≥ items.length := by omega
  have hneg : ¬ (i < 0) := by omega
  simp only [hneg, this, if_true, if_false]

/-- data level, Basic: a negative index is no item (repaired: it used to be clamped to the first item) -/
theorem basic_nth_negative_is_none (L : ListAt h items g li) (i : Int) (hi : i < 0) :
    listItemBasic g li i = .ok none := by
  unfold listItemBasic
  rw [L.hdr]
  simp [hi]

/-- Basic through `index_list`: the item inside the range, no item — not an error — outside it -/
theorem basic_index_list (L : ListAt h items g li) (i : Int) :
    indexList (listLenBasic g li) (listItemBasic g li) i =
      .ok (if 0 ≤ i then match items[i.toNat]? with | some a => .item a | none => .none else .none) := by
  rw [basic_len L, indexList_items items _ (fun k hk => basic_nth_in_range L k hk)]
  cases items[i.toNat]? <;> rfl

theorem listItemsOf_map (xs : List Nat) : listItemsOf (xs.map BCell.listItem) = .ok xs := by
  induction xs with
  | nil => rfl
  | cons x xs ih => simp [listItemsOf, ih]

/-- **iter_is_items** (Basic): iteration yields the items in insertion order -/
theorem basic_iter_is_items (L : ListAt h items g li) : listIterBasic g li = .ok items := by
  unfold listIterBasic
  rw [L.hdr]
  have hb := L.bound
  simp only [show ¬ (li + 1 + items.length > g.size) by omega, if_false]
  have : (g.extract (li + 1) (li + 1 + items.length)).toList = items.map BCell.listItem := by
    apply List.ext_getElem?
    intro j
    rw [Array.getElem?_toList, Array.getElem?_extract, List.getElem?_map]
    by_cases hj : j < items.length
    · rw [if_pos (by omega), L.itm j items[j] (List.getElem?_eq_getElem hj), List.getElem?_eq_getElem hj]; rfl
    · rw [if_neg (by omega), List.getElem?_eq_none (by omega)]; rfl
  rw [this, listItemsOf_map]

end basicNth


/-! ## concatenations (value level): look-up = look-up in the flattened sequence -/

section concat
variable {F : Type}
open Garnish.Abs

theorem lookupSym_append (s : Nat) (a b : List (Val F)) :
    lookupSym s (a ++ b) = (lookupSym s a).orElse (fun _ => lookupSym s b) := by
  simp only [lookupSym_eq_findSome, List.findSome?_append]
  cases List.findSome? (Garnish.Model.Runtime.keyedVal s) a <;> rfl

/-- symbol `s` keys items of at most one operand of every concatenation node -/
def KeyOnce (s : Nat) : Val F → Prop
  | .concat l r => KeyOnce s l ∧ KeyOnce s r ∧ (lookupSym s (flatItems l) = none ∨ lookupSym s (flatItems r) = none)
  | _ => True

/-- **concat_lookup.**  When a symbol keys items of at most one operand (in particular when the symbol keys of the
flattened sequence are distinct), the reverse traversal of `access_with_symbol` finds exactly what a look-up in
the flattened item sequence finds. -/
theorem concat_lookup (s : Nat) : (v : Val F) → KeyOnce s v → lookupRev s v = lookupSym s (flatItems v)
  | .concat l r, h => by
    have hl := concat_lookup s l h.1
    have hr := concat_lookup s r h.2.1
    simp only [lookupRev, flatItems, lookupSym_append, hl, hr]
    rcases h.2.2 with h0 | h0 <;> rw [h0] <;> cases lookupSym s (flatItems r) <;> cases lookupSym s (flatItems l) <;> simp_all
  | .list items, _ => by simp [lookupRev, flatItems]
  | .unit, _ | .tru, _ | .fls, _ | .num _, _ | .char _, _ | .byte _, _ | .sym _, _ | .expr _, _ | .ext _, _
  | .type _, _ | .chars _, _ | .bytes _, _ | .symList _, _ | .pair _ _, _ | .range _ _, _ | .slice _ _, _
  | .part _ _, _ | .custom, _ => by simp [lookupRev, flatItems]

end concat

end Garnish.Props.C16
