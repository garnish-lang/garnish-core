/-
The list interface as the runtime's `make_list` uses it, on BasicGarnishData: `start_list(n)`, `n` × `add_to_list`,
`k` × `pop_register`, `end_list` (`makeListPopRM`, Lemmas/BasicMakeList.lean) — the construction respects the announced
length and the pops happen while the list is under construction.
`basic_makeListPop_law`: on every `BInvL` state, if the items decode to `vs` the sequence answers `Ok` with an address
that decodes to `.list vs`; the registers are the old ones without the first `k`, the input values, frames and every
earlier `Decodes` fact are untouched, and `BInvL` holds again.  For `k = 0` this is `basic_makeList_law`.
-/
import Garnish.Props.C19StoreOnL
namespace Garnish.Props.C19MakeList
open Garnish Gen Garnish.Model.Equality Garnish.Model.Runtime Garnish.Model.Runtime.Basic Garnish.BasicOpt
open Garnish.Lemmas.Runtime.Basic Garnish.Lemmas.Runtime Garnish.Props.C19StoreOn Garnish.Props.C19ListOn

variable {F : Type}

theorem regCell_node {cells : Array Cell} {o : Option Nat} (h : ∀ a, o = some a → isRegCell cells a = true) :
    headOK cells o = true := headOK_of_regCell h

/-- **basic_makeListPop_law** -/
theorem basic_makeListPop_law (nc : NumCode F) {st : BState} (hI : BInvL st) {items : List Nat} {vs : List (Val F)}
    (hd : DecodesList ((basicRStore nc).view st) items vs) (k : Nat) :
    ∃ a st', makeListPopRM (basicRStore nc) items k st = .ok (a, st') ∧
      Decodes ((basicRStore nc).view st') a (.list vs) ∧
      Eff (basicRStore nc) st st' (((basicRStore nc).regs st).drop k) ((basicRStore nc).vals st) ∧ BInvL st' :=
  basic_listRun nc hI hd k

/-! ### non-vacuity: `7`, `:3`, two registers, then the list `(7 :3)` built while both registers are popped -/

example (nc : NumCode F) : ∃ st1 st2 st3 st4 st5 a b l,
    (basicRStore nc).addNumber (.int 7) BState.init = .ok (a, st1) ∧
    (basicRStore nc).addSymbol 3 st1 = .ok (b, st2) ∧
    (basicRStore nc).pushRegister a st2 = .ok ((), st3) ∧ (basicRStore nc).pushRegister b st3 = .ok ((), st4) ∧
    makeListPopRM (basicRStore nc) [a, b] 2 st4 = .ok (l, st5) ∧
    Decodes ((basicRStore nc).view st5) l (.list [.num (.int 7), .sym 3]) ∧
    (basicRStore nc).regs st5 = [] ∧ BInvL st5 := by
  have L := Garnish.Props.C19StoreOnL.basicStore_lawsOnL_noList nc
  obtain ⟨a, st1, h1, d1, e1, i1⟩ := L.addNumber (.int 7) _ binvL_init
  obtain ⟨b, st2, h2, d2, e2, i2⟩ := L.addSymbol 3 _ i1
  have d1' := e2.keeps.dec _ _ d1
  obtain ⟨st3, h3, e3, i3⟩ := L.pushRegister a _ i2 (L.readable _ _ _ i2 d1' (by simp))
  obtain ⟨st4, h4, e4, i4⟩ := L.pushRegister b _ i3 (L.readable _ _ _ i3 (e3.keeps.dec _ _ d2) (by simp))
  have dl : DecodesList ((basicRStore nc).view st4) [a, b] [.num (.int 7), .sym 3] :=
    .cons (e4.keeps.dec _ _ (e3.keeps.dec _ _ d1')) (.cons (e4.keeps.dec _ _ (e3.keeps.dec _ _ d2)) .nil)
  obtain ⟨l, st5, h5, d5, e5, i5⟩ := basic_makeListPop_law nc i4 dl 2
  refine ⟨st1, st2, st3, st4, st5, a, b, l, h1, h2, h3, h4, h5, d5, ?_, i5⟩
  rw [e5.regs, e4.regs, e3.regs, e2.regs, e1.regs]; rfl

end Garnish.Props.C19MakeList
