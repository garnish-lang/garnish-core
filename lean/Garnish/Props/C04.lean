/-
C04 — an accepted parse result is a proper binary tree whose in-order walk meets every significant token once, in
source order.

What is proved here (property theorems only; proofs in Garnish/Lemmas/Tree.lean) is the correctness of the CHECKER that
the TREECHK suite runs on the node dump of the real implementation, for ALL parse results (no size bound):
  * `properTree` decides `ProperTree` (links in range, child/parent links agree, no index twice: no sharing, no cycle),
  * `toTree` returns exactly the tree that follows the links,
  * its in-order walk is duplicate free and visits exactly the nodes reachable from the root,
  * `inorderSorted` decides "token positions strictly increase along the in-order walk".
The universal statement about `parse` itself is FALSE for the code as it is (witnesses: `5 + + 5`,
`5 + @a`, `!! ,`, `5 ~~ -- 3`, ...); it is stated as `C04_parse_proper` / `C04_parse_proper_partial` below and left
unproved.  The repaired pipeline rejects improper trees in `build` (patch .work/buildvalidate.diff).
-/
import Garnish.Spec.Tree
import Garnish.Lemmas.Tree
import Garnish.Lemmas.Parser
namespace Garnish.Props.C04
open Garnish Garnish.Gen Garnish.Model.Parser Garnish.Spec

/-- the executable checker is sound: an accepted node array is a proper tree -/
theorem C04_properTree_sound (r : ParseResult) (h : properTree r = true) : ProperTree r :=
  properTree_sound r h

/-- the executable checker is complete: it accepts every proper tree (the traversal fuel `nodes.size` always suffices) -/
theorem C04_properTree_complete (r : ParseResult) (h : ProperTree r) : properTree r = true :=
  properTree_complete r h

/-- `toTree` returns `t` iff `t` is the tree obtained by following the links from the root, with every index at most once -/
theorem C04_toTree_some_iff (r : ParseResult) (t : Tree) :
    toTree r = some t ↔ IsTreeAt r.nodes none (rootLink r) t ∧ t.inorder.Nodup :=
  toTree_some_iff r t

/-- the tree that follows the links is unique -/
theorem C04_tree_unique (nodes : Array ParseNode) (p link : Option Nat) (t t' : Tree)
    (h : IsTreeAt nodes p link t) (h' : IsTreeAt nodes p link t') : t = t' :=
  h.unique h'

/-- the in-order walk has no duplicates and visits exactly the nodes reachable from the root through left/right links -/
theorem C04_inorder_visits_all (r : ParseResult) (t : Tree) (h : toTree r = some t) :
    t.inorder.Nodup ∧ ∀ i, i ∈ t.inorder ↔ Reachable r i :=
  inorder_visits_all r t h

/-- `inorderSorted` decides: along the in-order walk the token positions strictly increase (source order; in particular no
    token is met twice) -/
theorem C04_inorderSorted_iff (t : Tree) : inorderSorted t = true ↔ t.inorderToks.Pairwise (· < ·) :=
  inorderSorted_iff t

/-- the model of `parse` always returns (`ok` or `err`): no panic site is reachable, the capped walks end (C03 for parse) -/
theorem C04_parse_returns (tokens : List PToken) : Safe (parse tokens) := parse_safe tokens

/-- token k carries position k (what the harness' `!tokidx` mode does) -/
def numbered : List PToken → Nat → List PToken
  | [], _ => []
  | t :: rest, k => { t with col := k } :: numbered rest (k + 1)

/-- C04 for a token list: if `parse` accepts, the result is a proper tree, in source order, covering exactly the significant
    tokens (synthesized `List` nodes aside) -/
def C04_holds_on (toks : List PToken) : Prop :=
  ∀ r, parse (numbered toks 0) = .ok r →
    ∃ t, toTree r = some t ∧ inorderSorted t = true ∧ coverage r t.inorder (significant toks) = ([], [])

/-- the full claim: NOT a theorem of the code as it is (e.g. `Number Whitespace PlusSign Whitespace PlusSign Whitespace Number`) -/
def C04_parse_proper : Prop := ∀ toks, C04_holds_on toks

def isAtomTok (t : PToken) : Bool :=
  match getDefinition t.type with
  | (d, .value) => d != .drop && d != .expressionTerminator
  | (_, .identifier) => true
  | _ => false

def isBinOpTok (t : PToken) : Bool := (getDefinition t.type).2 == .binaryLeftToRight
def isWsTok (t : PToken) : Bool := t.type == .whitespace

/-- token lists of the shape `atom (ws? binop ws? atom)*` -/
def atomOpShape : List PToken → Bool
  | [a] => isAtomTok a
  | a :: rest =>
    isAtomTok a &&
      (match rest with
       | w1 :: o :: w2 :: rest' => (isWsTok w1 && isBinOpTok o && isWsTok w2 && atomOpShape rest')
                                    || (isWsTok w1 && isBinOpTok o && atomOpShape (w2 :: rest'))
                                    || (isBinOpTok w1 && isWsTok o && atomOpShape (w2 :: rest'))
                                    || (isBinOpTok w1 && atomOpShape (o :: w2 :: rest'))
       | [o, b] => isBinOpTok o && isAtomTok b
       | _ => false)
  | [] => false

/-- (see `Garnish.Props.C02Parse.C04_parse_proper_fragment` / `C02_parse_fragment_precOK_inorder` for what is proved on the
    fragment `value (trivia* binop trivia* value)*`: an accepted list yields a proper tree whose in-order walk is the
    significant tokens.)
    the partial claim asked for (binary operators of any priorities between atoms): stated, NOT proved end to end — it needs
    the array-level right-spine simulation; proved pieces are in Garnish/Lemmas/ParserInv.lean (`walkLoop_chain`: on a parent
    chain the capped walk never hits its cap and computes the bottom-up search; `step_binop_post`; trivia invisibility).
    The correspondence suite and TREECHK check the claim on every generated instance instead. -/
def C04_parse_proper_partial : Prop := ∀ toks, atomOpShape toks = true → C04_holds_on toks

end Garnish.Props.C04
