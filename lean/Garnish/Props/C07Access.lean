/-
C07 — executing a built program never panics the host: the index / extent arithmetic.

The models (Model/Access.lean, Model/AccessSimple.lean, Model/AccessRuntime.lean) transliterate, statement by
statement, every place where the two data objects and the runtime's access path compute an index, cast a number to
`usize`, slice the heap `Vec` by a computed range, index a `Vec`, or `unwrap` — with each Rust panic condition
(out-of-bounds index, reversed or overlong slice range, `usize` / `i64` overflow under overflow-checks, `unwrap` on
`Err`, `unimplemented!`) as an explicit `Outcome.panic`.  The theorems say that `panic` is unreachable, for EVERY
`i32` or float index, EVERY extent (negative, reversed, beyond the end, `i32::MIN` / `i32::MAX`, NaN, ±∞) and EVERY
well-formed heap (`Heap.WF`, decidable: Spec/AccessWF.lean), and give the results the accessors compute.
`Safe o` = `o` is `ok _` or `err _`; `NoPanic o` = `o` is not `panic _` (a fuel-bounded model loop may answer
`fuelOut`).  Tie to the code: the ACCESS suite (harness/src/access.rs, Driver/AccessDrv.lean, tools/gen/accessgen.py)
runs the real accessors and these models on the same boundary-heavy cases in `./check C07`.
-/
import Garnish.Lemmas.AccessRuntime
namespace Garnish.Props.C07Access
open Garnish Garnish.Access Garnish.Access.Runtime
open Garnish.BasicOpt (Cell)

/-! ## BasicGarnishData, data level -/

/-- `get_from_data_block_ensure_index`: `Err` from the cursor on, the cell below it; the `Vec` index cannot be out of bounds -/
theorem C07_ensure_index_total {h : Heap} (wf : h.WF) (i : Nat) :
    (h.cursor ≤ i ∧ h.getData i = .err .data) ∨ (i < h.cursor ∧ ∃ c, h.cell i = some c ∧ h.getData i = .ok c) :=
  getData_cases wf i

/-- the four item getters return `Ok` or `Err` for every address, every integer index and every float index -/
theorem C07_item_getters_total {h : Heap} (wf : h.WF) (la : Nat) (ix : Num) :
    Safe (getListItem h la ix) ∧ Safe (getCharListItem h la ix) ∧ Safe (getByteListItem h la ix) ∧
    Safe (getSymbolListItem h la ix) := by
  refine ⟨(getListItem_spec wf la ix).1, ?_, ?_, ?_⟩
  · rw [getCharListItem_eq]; exact (genItem_spec wf (fits_chars wf) (fun _ _ => asChar_of) la ix).1
  · rw [getByteListItem_eq]; exact (genItem_spec wf (fits_bytes wf) (fun _ _ => asByte_of) la ix).1
  · rw [getSymbolListItem_eq]; exact (genItem_spec wf (fits_parts wf) (fun _ _ => asPart_of) la ix).1

/-- `get_list_item` on a list of `n` items: no item for a negative index, `Err(InvalidListItemIndex)` from `n` on, the
item's address in between — for every index, `i32::MIN` and `i32::MAX` and floats included -/
theorem C07_list_item_exact {h : Heap} (wf : h.WF) {la n k : Nat} (hla : la < h.cursor)
    (hc : h.cell la = some (.list n k)) (ix : Num) :
    ∃ items, collectItems (h.cellsAt (la + 1) n) = .ok items ∧ items.length = n ∧
      getListItem h la ix =
        if ix.ltZero then .ok none else if usizeFrom ix ≥ n then .err .data else .ok items[usizeFrom ix]? :=
  (getListItem_spec wf la ix).2 n k hla hc

/-- `get_char_list_item` on a text of `n` characters: the `max(index, 0)`-th character, `None` from `n` on -/
theorem C07_char_list_item_exact {h : Heap} (wf : h.WF) {la n : Nat} (hla : la < h.cursor)
    (hc : h.cell la = some (.charList n)) (ix : Num) :
    ∃ cs, unwrapChars (h.cellsAt (la + 1) n) = .ok cs ∧ cs.length = n ∧ getCharListItem h la ix = .ok cs[usizeFrom ix]? := by
  rw [getCharListItem_eq]
  exact (genItem_spec wf (fits_chars wf) (fun _ _ => asChar_of) la ix).2 _ n hla hc rfl

theorem C07_byte_list_item_exact {h : Heap} (wf : h.WF) {la n : Nat} (hla : la < h.cursor)
    (hc : h.cell la = some (.byteList n)) (ix : Num) :
    ∃ bs, unwrapBytes (h.cellsAt (la + 1) n) = .ok bs ∧ bs.length = n ∧ getByteListItem h la ix = .ok bs[usizeFrom ix]? := by
  rw [getByteListItem_eq]
  exact (genItem_spec wf (fits_bytes wf) (fun _ _ => asByte_of) la ix).2 _ n hla hc rfl

theorem C07_symbol_list_item_exact {h : Heap} (wf : h.WF) {la n : Nat} (hla : la < h.cursor)
    (hc : h.cell la = some (.symbolList n)) (ix : Num) :
    ∃ ps, collectParts (h.cellsAt (la + 1) n) = .ok ps ∧ ps.length = n ∧ getSymbolListItem h la ix = .ok ps[usizeFrom ix]? := by
  rw [getSymbolListItem_eq]
  exact (genItem_spec wf (fits_parts wf) (fun _ _ => asPart_of) la ix).2 _ n hla hc rfl

/-- `extents_to_start_end` overflows `usize` only if the announced cells themselves lie beyond `usize::MAX`: the cast
extents are `min`-ed with the length before anything is added, so no extent — however large — can overflow it -/
theorem C07_extents_overflow_iff (s e : Num) (base len : Nat) :
    (∃ m, extentsToStartEnd s e base len = .panic m) ↔
      USIZE_MAX < base + 1 + max (min (usizeFrom s) len) (min (usizeFrom e) len) :=
  extentsToStartEnd_panics_iff s e base len

/-- slicing the heap panics exactly for a reversed range or one that ends past the allocation (what the guards must,
and do, exclude) -/
theorem C07_raw_slice_panics_iff (h : Heap) (a b : Nat) (site : String) :
    (∃ m, h.rawSlice a b site = .panic m) ↔ (b < a ∨ h.heap.size < b) :=
  rawSlice_panics_iff h a b site

/-- the four iterator constructors of the data block return `Ok` or `Err` for every address and every extent -/
theorem C07_iterators_total {h : Heap} (wf : h.WF) (li : Nat) (s e : Num) :
    Safe (getListItemIter h li s e) ∧ Safe (getCharListIter h li s e) ∧ Safe (getByteListIter h li s e) ∧
    Safe (getSymbolListIter h li s e) := by
  refine ⟨getListItemIter_safe wf li s e, ?_, ?_, ?_⟩
  · rw [getCharListIter_eq]; exact (genIter_spec wf (bad_panic _) (fits_chars wf) _ li s e).1
  · rw [getByteListIter_eq]; exact (genIter_spec wf (bad_panic _) (fits_bytes wf) _ li s e).1
  · rw [getSymbolListIter_eq]; exact (genIter_spec wf (bad_err _) (fits_parts wf) _ li s e).1

/-- `get_char_list_iter` yields exactly the characters from `min(start, n)` up to `min(end, n)` -/
theorem C07_char_list_iter_yields {h : Heap} (wf : h.WF) {li n : Nat} (hli : li < h.cursor)
    (hc : h.cell li = some (.charList n)) (s e : Num) :
    ∃ cs, unwrapChars (h.cellsAt (li + 1) n) = .ok cs ∧ cs.length = n ∧
      getCharListIter h li s e = .ok (cs.extract (extentLo s n) (extentHi s e n)) := by
  rw [getCharListIter_eq]
  exact (genIter_spec wf (bad_panic _) (fits_chars wf) _ li s e).2 _ n hli hc rfl

theorem C07_byte_list_iter_yields {h : Heap} (wf : h.WF) {li n : Nat} (hli : li < h.cursor)
    (hc : h.cell li = some (.byteList n)) (s e : Num) :
    ∃ bs, unwrapBytes (h.cellsAt (li + 1) n) = .ok bs ∧ bs.length = n ∧
      getByteListIter h li s e = .ok (bs.extract (extentLo s n) (extentHi s e n)) := by
  rw [getByteListIter_eq]
  exact (genIter_spec wf (bad_panic _) (fits_bytes wf) _ li s e).2 _ n hli hc rfl

theorem C07_symbol_list_iter_yields {h : Heap} (wf : h.WF) {li n : Nat} (hli : li < h.cursor)
    (hc : h.cell li = some (.symbolList n)) (s e : Num) :
    ∃ ps, collectParts (h.cellsAt (li + 1) n) = .ok ps ∧ ps.length = n ∧
      getSymbolListIter h li s e = .ok (ps.extract (extentLo s n) (extentHi s e n)) := by
  rw [getSymbolListIter_eq]
  exact (genIter_spec wf (bad_err _) (fits_parts wf) _ li s e).2 _ n hli hc rfl

theorem C07_list_item_iter_yields {h : Heap} (wf : h.WF) {li n k : Nat} (hli : li < h.cursor)
    (hc : h.cell li = some (.list n k)) (s e : Num) :
    ∃ items, collectItems (h.cellsAt (li + 1) n) = .ok items ∧ items.length = n ∧
      getListItemIter h li s e = .ok (items.extract (extentLo s n) (extentHi s e n)) := by
  rw [getListItemIter_eq]
  exact (genIter_spec wf (bad_err _) (fits_items wf) _ li s e).2 _ n hli hc (by simp [asListLen, asList])

/-- a descending extent (after clamping) selects nothing, in every sequence -/
theorem C07_descending_extent_empty {α} (xs : List α) (s e : Num) (n : Nat)
    (h : min (usizeFrom e) n ≤ min (usizeFrom s) n) : xs.extract (extentLo s n) (extentHi s e n) = [] :=
  extract_descending xs s e n h

/-- the bounds an extent is clamped to: `start ≤ end ≤ len` whatever the two numbers are -/
theorem C07_extent_bounds (s e : Num) (n : Nat) : extentLo s n ≤ extentHi s e n ∧ extentHi s e n ≤ n :=
  ⟨extentLo_le_hi s e n, extentHi_le_len s e n⟩

/-- `get_concatenation_iter`: no panic whatever the model's fuel; with fuel `3^index` (the loop's potential: a
concatenation refers to two earlier cells) it returns `Ok` or `Err`, and what it yields is the clamped slice of the
flattened items -/
theorem C07_concatenation_iter_total {h : Heap} (wf : h.WF) (fuel index : Nat) (s e : Num) :
    NoPanic (getConcatenationIter h fuel index s e) ∧
    (3 ^ index ≤ fuel → Safe (getConcatenationIter h fuel index s e)) ∧
    (3 ^ index ≤ fuel → ∀ items, concatLoop h fuel [index] [] = .ok items →
      (∃ l r, h.cell index = some (.concatenation l r)) → index < h.cursor →
      getConcatenationIter h fuel index s e = .ok (items.extract (extentLo s items.length) (extentHi s e items.length))) :=
  ⟨getConcatenationIter_noPanic wf fuel index s e,
   fun hf => (getConcatenationIter_safe wf hf s e).1,
   fun hf => (getConcatenationIter_safe wf hf s e).2⟩

/-- the association slice of `get_list_item_with_symbol` and the conversions that slice by a computed range
(`conversions/bytes.rs` — which forgets the block base —, the `for i in from+1..from+1+len` loops, the index into
`[0; 4]` of `conversions/number.rs`, `end - 1` of `conversions/string.rs`) never panic -/
theorem C07_slicing_conversions_total {h : Heap} (wf : h.WF) (a : Nat) :
    Safe (getAssociationSlice h a) ∧ Safe (convertBytesSlice h a) ∧
    (∀ n, a + n < h.cursor → Safe (inlineCellsAt h a n)) ∧
    (∀ bytes, Safe (bytesToI32 bytes)) ∧
    (∀ len i, a + 1 + len ≤ USIZE_MAX → Safe (separatorAfter a len i)) :=
  ⟨getAssociationSlice_safe wf a, convertBytesSlice_safe wf a, inlineCellsAt_safe wf a,
   bytesToI32_safe, fun _ i hb => separatorAfter_safe i hb⟩

/-! ## SimpleGarnishData -/

/-- every item getter answers `Ok` or `Err` for every index (`item_index as usize` of a negative index is a huge
index, `Vec::get` / `nth` answer `None`); the flat iterator constructors never fail -/
theorem C07_simple_accessors_total (d : Simple.SData) (a : Nat) (ix : Num) :
    Safe (Simple.getListItem d a ix) ∧ Safe (Simple.getCharListItem d a ix) ∧ Safe (Simple.getByteListItem d a ix) ∧
    Safe (Simple.getSymbolListItem d a ix) ∧
    (∃ xs, Simple.getCharListIter d a = .ok xs) ∧ (∃ xs, Simple.getByteListIter d a = .ok xs) ∧
    (∃ xs, Simple.getSymbolListIter d a = .ok xs) ∧ (∃ xs, Simple.getListItemIter d a = .ok xs) :=
  ⟨Simple.getListItem_safe d a ix, Simple.getCharListItem_safe d a ix, Simple.getByteListItem_safe d a ix,
   Simple.getSymbolListItem_safe d a ix, Simple.flatIters_ok d a⟩

/-- the item count of a slice of a concatenation inside a concatenation (`collect_concatenation_indices`, after fix
fbec859): a value for ALL `i32` bounds — 0 for a descending extent, `end - start + 1` otherwise -/
theorem C07_simple_slice_count_total {s e : Int} (hs : InRange s) (he : InRange e) :
    Simple.sliceCount s e = .ok (if e < s then 0 else (e - s + 1).toNat) :=
  Simple.sliceCount_ok hs he

/-- the expression it replaced, `(end - start) as usize + 1`, panicked exactly when `end - start = -1` or the
difference left `i32` (the finding: `(((1 <> 2) <~ (5..3)) <> 3) == (4 <> 5)` on SimpleGarnishData) -/
theorem C07_simple_old_slice_count_panics_iff {s e : Int} (hs : InRange s) (he : InRange e) :
    (∃ m, Simple.sliceCountOld s e = .panic m) ↔ (e - s = -1 ∨ ¬ InRange (e - s)) :=
  Simple.sliceCountOld_panics_iff hs he

/-- `get_concatenation_iter` / `collect_concatenation_indices` never panics: any nesting, any ranges stored in the
slices it meets, any fuel of the model -/
theorem C07_simple_concatenation_no_panic {d : Simple.SData} (wf : Simple.WF d) (fuel a : Nat) :
    NoPanic (Simple.getConcatenationIter d fuel a) :=
  Simple.getConcatenationIter_noPanic wf fuel a

/-! ## the runtime's arithmetic on `Data::Number` -/

/-- `range_len` fails (with a number error, not a panic) exactly when `end - start` or `end - start + 1` leaves `i32` -/
theorem C07_range_len (s e : Int) :
    rangeLen s e = if InRange (e - s) ∧ InRange (e - s + 1) then .ok (e - s + 1) else .err .number :=
  rangeLen_eq s e

/-- the index of a slice access, `start.plus(index).or_num_err()?`: a number error exactly on `i32` overflow -/
theorem C07_slice_index (start ix : Int) :
    numPlus start ix = if InRange (start + ix) then .ok (start + ix) else .err .number :=
  rfl

/-- `access_with_integer` over BasicGarnishData: no panic for every value, every `i32` index, every range stored in a
slice; `fuel` bounds the concatenation walk of the model and `fuel * cursor ≤ usize::MAX` keeps its running index a
`usize`; the data block has fewer than `2^31` cells (so that `size_to_number` is exact — with more, the `unimplemented!`
of `iterate_concatenation_mut` would be reachable) -/
theorem C07_access_with_integer_basic {h : Heap} (wf : h.WF) (intOf : Nat → Option Int)
    (hint : ∀ n v, intOf n = some v → InRange v) (hsmall : h.cursor ≤ 2147483647) (hpos : 1 ≤ h.cursor)
    {fuel : Nat} (hf : fuel * h.cursor ≤ USIZE_MAX) (ix : Int) (value : Nat) :
    NoPanic (accessWithInteger (basicIface h intOf) fuel ix value) :=
  accessWithInteger_noPanic (basicIface_ok wf intOf hint) (basic_listsTotal wf intOf hsmall) hpos
    (basic_listLen_le wf intOf) hf ix value

/-- the same over SimpleGarnishData (lists shorter than `2^31`, bound `M` on their lengths) -/
theorem C07_access_with_integer_simple {d : Simple.SData} (wf : Simple.WF d) (hs : Simple.ShortLists d)
    {M : Nat} (hM1 : 1 ≤ M) (hM : ∀ r len, (simpleIface d).listLen r = .ok len → len ≤ M)
    {fuel : Nat} (hf : fuel * M ≤ USIZE_MAX) (ix : Int) (value : Nat) :
    NoPanic (accessWithInteger (simpleIface d) fuel ix value) :=
  accessWithInteger_noPanic (simpleIface_ok wf) (simple_listsTotal hs) hM1 hM hf ix value

/-- `index_list` over a Basic list answers `Ok` for every `i32` index: the guard `index < 0 || index >= len` keeps
`get_list_item`'s own `Err(InvalidListItemIndex)` unreachable -/
theorem C07_index_list_basic_exact {h : Heap} (wf : h.WF) (intOf : Nat → Option Int) {list n k : Nat}
    (hl : list < h.cursor) (hc : h.cell list = some (.list n k)) (ix : Int) :
    ∃ items, collectItems (h.cellsAt (list + 1) n) = .ok items ∧
      indexList (basicIface h intOf) list ix =
        .ok (if ix < 0 ∨ ix ≥ sizeToNumber n then .none
             else match items[ix.toNat]? with | some a => .addr a | none => .unit) :=
  indexList_basic wf intOf hl hc ix

/-- the slice scan of `access_with_symbol` (`while i <= end`, end clamped below the length): over any total data
object it ends with `Ok` or `Err` — the increment cannot fail, the clamped end being below `i32::MAX` -/
theorem C07_slice_scan_total {d : Iface} (ok : d.OK) (value range sym : Nat) :
    Safe (accessSliceListSymbol d value range sym) :=
  accessSliceListSymbol_safe ok value range sym

/-- … and it performs exactly one iteration per index from `start` to the clamped end: with that much fuel it
finishes, and a run that finishes has used at least that much.  For `start` near `i32::MIN` that is 2·10⁹ iterations
inside ONE step (`(((:a = 1), 2) <~ (0 - 2000000000 .. 1)) . :a`: 134 s in the harness build) — slow, not a panic;
recorded next to F-C07-range-cast-unbounded -/
theorem C07_slice_scan_steps {d : Iface} (ok : d.OK) (value sym : Nat) {start end_ : Int} (hs : InRange start)
    (he : end_ < 2147483647) (item : Option Nat) :
    Safe (sliceScan d value sym end_ (sliceScanSteps start end_) start item) ∧
    ∀ fuel r, sliceScan d value sym end_ fuel start item = .ok r → sliceScanSteps start end_ ≤ fuel :=
  ⟨sliceScan_safe ok value sym he _ _ _ hs (Nat.le_refl _), fun fuel r h => sliceScan_ok_fuel value sym end_ fuel start item r h⟩

/-! ## non-vacuity -/

/-- a well-formed heap with a text, a list, a concatenation, a symbol list and an empty byte list (data block at
offset 2 of the allocation) -/
def exHeap : Heap :=
  { heap := #[.empty, .empty,
              .charList 2, .char 104, .char 233,
              .number 7,
              .list 2 0, .listItem 3, .listItem 0, .empty, .empty,
              .concatenation 4 3,
              .symbolList 2, .symbol 5, .number 9,
              .byteList 0,
              .empty, .empty],
    dstart := 2, cursor := 14 }

example : exHeap.WF := by decide
example : getCharListIter exHeap 0 (.int (-3)) Num.maxValue = .ok [104, 233] := by rfl
example : getCharListIter exHeap 0 (.int 2147483647) (.int (-2147483648)) = .ok [] := by rfl
example : getListItem exHeap 4 (.int 1) = .ok (some 0) := by rfl
example : getConcatenationIter exHeap (3 ^ 9) 9 (.int 1) (.int 2147483647) = .ok [0, 3] := by rfl

/-- the hypothesis is needed, and the model's panics are real: a header that announces five characters with two cells
behind it makes the iterator constructor slice past the allocation -/
def badHeap : Heap := { heap := #[.charList 5, .char 104, .char 233], dstart := 0, cursor := 3 }
def isPanic {α : Type} : Outcome α → Bool | .panic _ => true | _ => false
example : ¬ badHeap.WF := by decide
example : isPanic (getCharListIter badHeap 0 (.int 0) (.int 9)) = true := by decide

/-- a SimpleGarnishData with a slice of a concatenation inside a concatenation whose stored extent is `(5, 4)` -/
def exSimple : Simple.SData :=
  #[.leaf .unit, .leaf .false, .leaf .true, .int 1, .int 2, .concat 3 4, .int 5, .int 4, .range 6 7, .slice 5 8, .int 3, .concat 9 10]

example : Simple.WF exSimple := by decide
example : Simple.ShortLists exSimple := by decide
example : Simple.getConcatenationIter exSimple 100 11 = .ok [10] := by rfl
/-- the witness of the finding, on the previous expression -/
example : isPanic (Simple.sliceCountOld 5 4) = true := by decide
example : isPanic (Simple.sliceCountOld (-2147483647) 2147483646) = true := by decide
example : Simple.sliceCount 5 4 = .ok 0 := by rfl

end Garnish.Props.C07Access
