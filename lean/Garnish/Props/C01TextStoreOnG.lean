/-
The declining host on Simple meets `HostRefinesI`.
-/
import Garnish.Props.C01TextStoreOn
import Garnish.Lemmas.RuntimeRun
namespace Garnish.Props.C01TextStore
open Garnish Garnish.Gen Garnish.Spec Garnish.Abs Garnish.Abs.Tree Garnish.Abs.Source Garnish.Model Garnish.Model.Parser
open Garnish.Model.Lexer Garnish.Model.Literals Garnish.Model.Build Garnish.Props.C01Build Garnish.Props.C01Source
open Garnish.Props.C02Numbered Garnish.Props.C01Text
open Garnish.Model.Equality Garnish.Model.Runtime Garnish.Lemmas.Runtime Garnish.Props.RuntimeRefine
open Garnish.Lemmas.Runtime.On Garnish.Lemmas.Runtime.Simple

variable {F : Type}
variable (pf : List Char → Option F) (cc : CharClass)

/-- a host model that declines every call (records it, answers `false`) meets the host contract on Simple -/
theorem C01_simple_host_declines {hit : List (SimCell F) → SimCell F → Option Nat} :
    HostRefinesI (simpleRStore hit (fun _ st => (false, st))) SInv (Host.declining : Host F) := by
  have key : ∀ (c : HostCall) (s : SimState F), SInv s →
      HostAnswerI (simpleRStore hit (fun _ st => (false, st))) SInv (SimState.hostCall (fun _ st => (false, st)) c) s
        (none : Option (Val F)) := by
    intro c s hi
    exact ⟨{ s with trace := c :: s.trace }, rfl, ⟨⟨keeps_same rfl rfl rfl rfl, rfl, rfl, rfl⟩, ⟨hi.seeded, hi.regs⟩⟩⟩
  exact ⟨fun op l r vl vr s hi _ _ => key _ s hi, fun op a v s hi _ => key _ s hi, fun y s hi => key _ s hi,
    fun n r vr s hi _ => key _ s hi⟩

end Garnish.Props.C01TextStore
