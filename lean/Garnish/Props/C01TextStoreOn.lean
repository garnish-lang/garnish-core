/-
C01 from the source TEXT to a store that meets the RELATIVISED contract, and to `SimpleGarnishData`.

`C01_text_to_store_on`: `C01_text_to_store` (Props/C01TextStore.lean) with `StoreLawsOn S Inv Readable` in place of
`StoreLawsRun S`, `Inv` of the start state as an extra hypothesis and `Inv` of the end state as an extra conclusion,
for the instructions `C01_refine_step_on` covers (`RunOKOn`; any other instruction makes `RunOKOn` false).

`C01_text_to_simple_store`: the instance for the payload model of `SimpleGarnishData` (`simpleRStore hit h`) with a
cache that confirms its hits (`HitSound`) and ANY host model `h`: the text's program, relocated past the three
preallocated cells (`reloc`: the builder model's constant table is 0-based), loaded by `loadSimple` together with the
input value, run by the address-level loop, ends (`End`) after exactly the machine's number of steps with ONE
input-value address, which decodes to the value `evalProgram` assigns to the text; no register, no frame, `SInv`.
There is NO loading hypothesis and no store-law hypothesis left; what remains: the source-side hypotheses of
`C01_text_correct`, "the built constants and the input are leaves Simple holds" (`isLeafS`, decidable) and
`RunOKOn` along the run (in particular: only covered instructions are executed).

`C01_text_to_simple_store_of`: the same GENERIC in the covered instruction set: from any coverage predicate `ok` on
(program, machine state, instruction, operand) that comes with a relativised step theorem on `simpleRStore`, the text
theorem for the runs `ok` allows (`RunOKG`). Each coverage group instantiates it in one line
(`C01_text_to_simple_store`, `C01_text_to_simple_store1`, …).
-/
import Garnish.Props.C01TextStoreSimple
import Garnish.Props.RuntimeRefineSimpleOn
import Garnish.Props.RuntimeRefineOn
import Garnish.Lemmas.RuntimeReloc
namespace Garnish.Props.C01TextStore
open Garnish Garnish.Gen Garnish.Spec Garnish.Abs Garnish.Abs.Tree Garnish.Abs.Source Garnish.Model Garnish.Model.Parser
open Garnish.Model.Lexer Garnish.Model.Literals Garnish.Model.Build Garnish.Props.C01Build Garnish.Props.C01Source
open Garnish.Props.C02Numbered Garnish.Props.C01Text
open Garnish.Model.Equality Garnish.Model.Runtime Garnish.Lemmas.Runtime Garnish.Props.RuntimeRefine
open Garnish.Lemmas.Runtime.On Garnish.Lemmas.Runtime.Simple

variable {F σ : Type}
variable (pf : List Char → Option F) (cc : CharClass)

/-- **characters → store, relativised contract** -/
theorem C01_text_to_store_on {S : RStore F σ} {Inv : σ → Prop} {Rd : σ → Nat → Prop} (L : StoreLawsOn S Inv Rd)
    (fo : FloatOps F) (host : Host F) (loopFuel : Nat) (H : OtherHandlers σ)
    (s : List Char) (toks : List LexerToken)
    (hlex : lex cc s = .ok toks) (hf : frag9' (toP toks) = true) (rt : RTree)
    (href : refParse Table.gen (toP toks) = .ok rt) (p : Program F) (hel : elaborate pf (toP toks) rt = some p)
    (hwf : C01.WFProgram p) (input : Val F) (fuel : Nat) (v : Val F) (st : St F)
    (h : evalProgram fo host fuel p input = .ok (v, st)) :
    ∃ d entry n, buildText pf cc s = .ok (d, entry) ∧
      ∀ s0 : σ, ProgramLoaded S (progOf d) ((progOf d).jumps[entry]?.getD 0) s0 input → Inv s0 →
        RunOKOn fo host (progOf d) n
          { pc := (progOf d).jumps[entry]?.getD 0, regs := [], vals := [input], frames := [], trace := [] } →
        ∃ s' a, executeLoop fo S loopFuel H n s0 = .ok ((.end_, n), s') ∧
          S.vals s' = [a] ∧ Decodes (S.view s') a v ∧ S.regs s' = [] ∧ S.frames s' = [] ∧ Inv s' := by
  obtain ⟨d, n, hb, hd, hgen⟩ := C01_text_to_store_gen pf cc fo host loopFuel H (fun P => MachOKOn P)
    (fun _ _ _ _ _ hs hi hl hf hk => refine_step_on fo L loopFuel H hs hi hl hf hk) ⟨toks, rt, hlex, hf, href, hel⟩ hwf
    input fuel v st h
  refine ⟨d, 0, n, hb, ?_⟩
  rw [hd]
  exact fun s0 hload hi hok => hgen _ s0 (fun _ _ => rfl) hload hi (runOKG_of_runOKOn fo n _ hok)

/-- a program relocated past the three preallocated cells, loaded into Simple with a leaf input: it is loaded, and the
invariant holds -/
theorem loadSimple_reloc (hit : List (SimCell F) → SimCell F → Option Nat) (hh : SimHost F) {P : Prog F} (pc : Nat)
    {input : Val F} (hleaf : P.consts.toList.all isLeafS = true) (hin : isLeafS input = true) :
    ProgramLoaded (simpleRStore hit hh) (reloc P) pc (loadSimple (reloc P) pc input) input ∧
      SInv (loadSimple (reloc P) pc input) := by
  refine ⟨C01_loadSimple_loaded hit hh _ _ input ?_ hin,
    C01_loadSimple_inv _ _ _ (by simp [reloc]) (by simp [reloc]) (by simp [reloc])⟩
  show (Val.unit :: .fls :: .tru :: P.consts.toList).all isLeafS = true
  simp only [List.all_cons, hleaf, Bool.and_true]
  rfl

/-- **characters → `SimpleGarnishData`**, for the runs a coverage predicate with a step theorem allows -/
theorem C01_text_to_simple_store_of {hit : List (SimCell F) → SimCell F → Option Nat} (hh : SimHost F)
    (fo : FloatOps F) (host : Host F) (loopFuel : Nat) (H : OtherHandlers (SimState F))
    (ok : Prog F → MState F → Instruction → Option Nat → Prop)
    (hstep : ∀ (P : Prog F) (s : SimState F) (m : MState F) instr operand, Sim (simpleRStore hit hh) P s m → SInv s →
      Loaded (simpleRStore hit hh) P s → P.instrs[m.pc]? = some (instr, operand) → ok P m instr operand →
      StepSimOn fo host (simpleRStore hit hh) SInv P loopFuel H s m)
    (s : List Char) (toks : List LexerToken)
    (hlex : lex cc s = .ok toks) (hf : frag9' (toP toks) = true) (rt : RTree)
    (href : refParse Table.gen (toP toks) = .ok rt) (p : Program F) (hel : elaborate pf (toP toks) rt = some p)
    (hwf : C01.WFProgram p) (input : Val F) (fuel : Nat) (v : Val F) (st : St F)
    (h : evalProgram fo host fuel p input = .ok (v, st)) :
    ∃ d entry n, buildText pf cc s = .ok (d, entry) ∧
      ((progOf d).consts.toList.all isLeafS = true → isLeafS input = true →
        RunOKG fo (ok (reloc (progOf d))) host (reloc (progOf d)) n
          { pc := (progOf d).jumps[entry]?.getD 0, regs := [], vals := [input], frames := [], trace := [] } →
        ∃ s' a, executeLoop fo (simpleRStore hit hh) loopFuel H n
            (loadSimple (reloc (progOf d)) ((progOf d).jumps[entry]?.getD 0) input) = .ok ((.end_, n), s') ∧
          s'.values = [a] ∧ Decodes (simView s'.cells) a v ∧ (simpleRStore hit hh).regs s' = [] ∧
          (simpleRStore hit hh).frames s' = [] ∧ SInv s') := by
  obtain ⟨d, n, hb, hd, hgen⟩ :=
    C01_text_to_store_gen pf cc fo host loopFuel H ok hstep ⟨toks, rt, hlex, hf, href, hel⟩ hwf input fuel v st h
  refine ⟨d, 0, n, hb, ?_⟩
  rw [hd]
  intro hleaf hin hok
  obtain ⟨hload, hinv⟩ := loadSimple_reloc hit hh ((compile p).jumps[0]?.getD 0) hleaf hin
  exact hgen _ _ (run_reloc fo host _) hload hinv hok

/-- **characters → `SimpleGarnishData`** -/
theorem C01_text_to_simple_store {hit : List (SimCell F) → SimCell F → Option Nat} (hs : HitSound hit)
    (hh : SimHost F) (fo : FloatOps F) (host : Host F) (loopFuel : Nat) (H : OtherHandlers (SimState F))
    (s : List Char) (toks : List LexerToken)
    (hlex : lex cc s = .ok toks) (hf : frag9' (toP toks) = true) (rt : RTree)
    (href : refParse Table.gen (toP toks) = .ok rt) (p : Program F) (hel : elaborate pf (toP toks) rt = some p)
    (hwf : C01.WFProgram p) (input : Val F) (fuel : Nat) (v : Val F) (st : St F)
    (h : evalProgram fo host fuel p input = .ok (v, st)) :
    ∃ d entry n, buildText pf cc s = .ok (d, entry) ∧
      ((progOf d).consts.toList.all isLeafS = true → isLeafS input = true →
        RunOKOn fo host (reloc (progOf d)) n
          { pc := (progOf d).jumps[entry]?.getD 0, regs := [], vals := [input], frames := [], trace := [] } →
        ∃ s' a, executeLoop fo (simpleRStore hit hh) loopFuel H n
            (loadSimple (reloc (progOf d)) ((progOf d).jumps[entry]?.getD 0) input) = .ok ((.end_, n), s') ∧
          s'.values = [a] ∧ Decodes (simView s'.cells) a v ∧ (simpleRStore hit hh).regs s' = [] ∧
          (simpleRStore hit hh).frames s' = [] ∧ SInv s') := by
  obtain ⟨d, entry, n, hb, hgen⟩ := C01_text_to_simple_store_of pf cc hh fo host loopFuel H (fun P => MachOKOn P)
    (fun _ _ _ _ _ hsim hi hl hf hk => refine_step_on fo (C01_simpleStore_lawsOn hs) loopFuel H hsim hi hl hf hk)
    s toks hlex hf rt href p hel hwf input fuel v st h
  exact ⟨d, entry, n, hb, fun hleaf hin hok => hgen hleaf hin (runOKG_of_runOKOn fo n _ hok)⟩

end Garnish.Props.C01TextStore
