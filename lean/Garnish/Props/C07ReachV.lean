/-
C07 on stores on which programs have RUN: `C07_reachable_no_panic` (Props/C07Reach.lean) extended by the in-place
update of the input value — `*get_current_value_mut() = v`, what the runtime's `update_value`, `end_expression` and
reapply do.  After such an update an input-value cell may refer to data at a HIGHER address, so the invariant `WF`
(Lemmas/OptimizeWF.lean; used by Props/C19.lean) does not hold there; `WFq` (Lemmas/MutWF.lean) lets input-value cells link anywhere, keeps the
input-value stack a chain, and is proved to be kept by every operation:

* appending constructors, lists, stacks, retention, symbol names: Lemmas/MutOps.lean
* `set_current_value`: Lemmas/MutSet.lean
* `clone_data`: Lemmas/MutClone.lean (with the provenance invariant of the reversed walk, Lemmas/MutProv.lean)
* `optimize`: Lemmas/MutOptimize.lean — the retained cells of the chain are re-pointed by the re-pointing loop.
  One side condition (`noStale`, decidable, part of the guard of the `optimize` step): a retained input-value cell that
  refers to data behind the retention count is still on the current chain.  A cell that was updated in place, then
  popped, keeps a stale address which the implementation never reads; the heap stays well formed for the accessors
  (observed by the REACH tie) but the proof does not follow such cells.

`OpV` = `Op` + `setCurrentValue`; `runV` from the empty store; `C07_reachable_no_panic_mut`.
Stores without in-place updates satisfy `noStale` (`noStale_of_wf`), so `runV` extends `run`: `run_runV`.
-/
import Garnish.Props.C07Reach
import Garnish.Lemmas.MutOptimize
import Garnish.Lemmas.MutOps
import Garnish.Lemmas.MutClone
namespace Garnish.Props.C07ReachV
open Garnish Garnish.Access Garnish.Access.Runtime Garnish.BasicOpt Garnish.Props.C19 Garnish.Props.C07Access
open Garnish.Props.C07Reach

/-- a store-constructor operation or the in-place update of the current input value -/
inductive OpV where
  | op (o : Op)
  | setCurrentValue (v : Nat)
deriving Repr

/-- the operation on the store model; `optimize` additionally checks `noStale` -/
def stepV (s : Store) : OpV → Outcome Store
  | .op (.optimize roots) => guard (rootsOK s roots && noStale s) ((s.optimize roots).bind fun p => .ok p.1)
  | .op o => step s o
  | .setCurrentValue v => guard (isNode s.cells v) (s.setCurrentValue v)

def runV : List OpV → Store → Outcome Store
  | [], s => .ok s
  | op :: ops, s => (stepV s op).bind (runV ops)

theorem publicValue_nsv {c : Cell} (h : publicValue c = true) : isSV c = false := by
  cases c <;> simp [publicValue] at h <;> rfl

/-- **every operation keeps `WFq`** -/
theorem stepV_wfq {s s' : Store} {op : OpV} (hs : WFq s) (h : stepV s op = .ok s') : WFq s' := by
  cases op with
  | setCurrentValue v =>
    obtain ⟨hb, hk⟩ := guard_ok h
    exact setCurrentValue_wfq hs hb hk
  | op o =>
    cases o with
    | addValue c =>
      simp only [stepV, step] at h
      cases hso : soloShape c with
      | none => rw [hso] at h; simp at h
      | some sh =>
        rw [hso] at h
        obtain ⟨hb, hk⟩ := guard_ok h
        obtain ⟨i, hp⟩ := bind_fst_ok hk
        simp only [Bool.and_eq_true, List.all_eq_true, decide_eq_true_eq] at hb
        exact (push_solo_wfq hs hso (publicValue_nsv hb.1) (fun k hkm => hb.2 k hkm) hp).1
    | addChars cs =>
      obtain ⟨a, hp⟩ := bind_fst_ok h
      exact (addInline_wfq hs (Or.inl ⟨rfl, by
        intro c hc; simp only [List.mem_map] at hc; obtain ⟨x, _, rfl⟩ := hc; rfl⟩) hp).1
    | addBytes bs =>
      obtain ⟨a, hp⟩ := bind_fst_ok h
      exact (addInline_wfq hs (Or.inr ⟨rfl, by
        intro c hc; simp only [List.mem_map] at hc; obtain ⟨x, _, rfl⟩ := hc; rfl⟩) hp).1
    | buildList items =>
      obtain ⟨hb, hk⟩ := guard_ok h
      obtain ⟨li, hp⟩ := bind_fst_ok hk
      simp only [List.all_eq_true] at hb
      exact (buildList_wfq hs hb hp).1
    | mergeSymbolList a b =>
      obtain ⟨hb, hk⟩ := guard_ok h
      obtain ⟨i, hp⟩ := bind_fst_ok hk
      simp only [Bool.and_eq_true] at hb
      exact (mergeToSymbolList_wfq hs hb.1 hb.2 hp).1
    | addSymbol sym name =>
      obtain ⟨a, hp⟩ := bind_fst_ok h
      exact (parseAddSymbol_wfq hs hp).1
    | pushRegister v => obtain ⟨hb, hk⟩ := guard_ok h; exact pushRegister_wfq hs hb hk
    | pushValue v => obtain ⟨hb, hk⟩ := guard_ok h; exact pushValue_wfq hs hb hk
    | pushFrame ret => exact pushFrame_wfq hs h
    | popRegister => obtain ⟨r, hp⟩ := bind_fst_ok h; exact (popRegister_wfq hs hp).1
    | popValue =>
      simp only [stepV, step, Outcome.ok.injEq] at h
      rw [← h]; exact (popValue_wfq hs).1
    | popFrame => obtain ⟨r, hp⟩ := bind_fst_ok h; exact popFrame_wfq hs hp
    | retainAll =>
      simp only [stepV, step, Outcome.ok.injEq] at h
      rw [← h]; exact retainAll_wfq hs
    | setRetention n =>
      obtain ⟨hb, hk⟩ := guard_ok h
      simp only [Outcome.ok.injEq] at hk
      simp only [Bool.and_eq_true, decide_eq_true_eq, List.all_eq_true, List.mem_range] at hb
      rw [← hk]; exact setRetention_wfq hs hb.1 hb.2
    | optimize roots =>
      obtain ⟨hb, hk⟩ := guard_ok h
      obtain ⟨m, hp⟩ := bind_fst_ok hk
      simp only [Bool.and_eq_true] at hb
      exact (optimize_wfq hs hb.1 (noStale_sound hb.2) hp).1
    | cloneData a =>
      obtain ⟨hb, hk⟩ := guard_ok h
      obtain ⟨r, hp⟩ := bind_fst_ok hk
      exact (cloneData_wfq hs hb hp).1

theorem runV_wfq : ∀ (ops : List OpV) {s s' : Store}, WFq s → runV ops s = .ok s' → WFq s'
  | [], s, s', hs, h => by simp only [runV, Outcome.ok.injEq] at h; rw [← h]; exact hs
  | op :: ops, s, s', hs, h => by
    simp only [runV] at h
    cases hst : stepV s op with
    | ok s1 => rw [hst] at h; exact runV_wfq ops (stepV_wfq hs hst) h
    | err e => rw [hst] at h; simp [Outcome.bind] at h
    | panic m => rw [hst] at h; simp [Outcome.bind] at h
    | fuelOut => rw [hst] at h; simp [Outcome.bind] at h

/-- the stores reachable by constructor operations and in-place updates of the input value -/
def ReachableV (s : Store) : Prop := ∃ ops, runV ops Store.fresh = .ok s

theorem WFq_reachableV {s : Store} (h : ReachableV s) : WFq s := by
  obtain ⟨ops, hrun⟩ := h
  exact runV_wfq ops WFq_fresh hrun

/-- **C07_reachable_no_panic_mut**: after any sequence of store-constructor operations AND in-place updates of the
current input value from the empty store, on every heap that represents the resulting store, every accessor /
iterator constructor / slicing conversion — any address, any index, any extent — answers `Ok` / `Err`, never panics -/
theorem C07_reachable_no_panic_mut {ops : List OpV} {s : Store} {h : Heap} (hrun : runV ops Store.fresh = .ok s)
    (hr : Represents s h) : AccessSafe h :=
  accessSafe_of_wf (wfq_implies_accessWF (runV_wfq ops WFq_fresh hrun) hr)

/-- on the stores of Props/C07Reach.lean `stepV` is `step` -/
theorem step_stepV {s s' : Store} {o : Op} (hs : Reachable s) (h : step s o = .ok s') : stepV s (.op o) = .ok s' := by
  cases o with
  | optimize roots =>
    obtain ⟨hb, hk⟩ := guard_ok h
    simp only [stepV, C07Reach.guard, hb, noStale_of_wf (WF_reachable hs), Bool.and_self, if_true]
    exact hk
  | _ => exact h

/-- `runV` extends `run`: every op sequence of `C07_reachable_no_panic` is an op sequence of `C07_reachable_no_panic_mut` -/
theorem run_runV : ∀ (ops : List Op) {s s' : Store}, Reachable s → run ops s = .ok s' →
    runV (ops.map .op) s = .ok s'
  | [], _, _, _, h => h
  | o :: ops, s, s', hs, h => by
    simp only [run] at h
    simp only [List.map_cons, runV]
    cases hst : step s o with
    | ok s1 =>
      rw [hst] at h
      rw [step_stepV hs hst]
      exact run_runV ops (step_reachable hs hst) h
    | err e => rw [hst] at h; simp [Outcome.bind] at h
    | panic m => rw [hst] at h; simp [Outcome.bind] at h
    | fuelOut => rw [hst] at h; simp [Outcome.bind] at h

/-! ### non-vacuity: a run-time update to data created later, compaction, then out-of-range extents -/

/-- `runV` with the fuelled sort (see `stepK`) -/
def stepVK (s : Store) : OpV → Outcome Store
  | .op (.optimize roots) => guard (rootsOK s roots && noStale s) ((s.optimize roots).bind fun p => .ok p.1)
  | .op o => stepK s o
  | .setCurrentValue v => guard (isNode s.cells v) (s.setCurrentValue v)

def runVK : List OpV → Store → Outcome Store
  | [], s => .ok s
  | op :: ops, s => (stepVK s op).bind (runVK ops)

theorem stepV_eq (s : Store) (op : OpV) : stepV s op = stepVK s op := by
  unfold stepV stepVK
  split
  · rfl
  · exact step_eq s _
  · rfl

theorem runV_eq : ∀ (ops : List OpV) (s : Store), runV ops s = runVK ops s
  | [], _ => rfl
  | op :: ops, s => by
    simp only [runV, runVK, stepV_eq]
    congr 1
    funext s1
    exact runV_eq ops s1

/-- `"ab"`, `1`, an input value `1` (cell 4), retain; then — at run time — a cell that becomes garbage, `"cd"`, the
list `("ab", "cd")` at 9, the input value updated in place to that list (9 > 4), compaction -/
def exOpsV : List OpV :=
  [.op (.addChars [97, 98]), .op (.addValue (.number 1)), .op (.pushValue 3), .op .retainAll,
   .op (.addValue (.number 7)), .op (.addChars [99, 100]), .op (.buildList [0, 6]), .setCurrentValue 9,
   .op (.optimize [])]

/-- before the compaction the input-value cell links upwards: `WF` fails, `WFq` holds -/
example : (match runV (exOpsV.take 8) Store.fresh with
    | .ok s => decide (s.cells[4]? = some (.valueRoot 9) ∧ s.cells.size = 14) && !decide (WF s) && decide (WFq s)
    | _ => false) = true := by rw [runV_eq]; decide +kernel

/-- the store `exOpsV` builds, written out: the two examples below rewrite with `exOpsV_run` instead of running the
sequence again (the kernel evaluates it once) -/
def exRunV : Store :=
  { Store.fresh with
    cells := #[.charList 2, .char 97, .char 98, .number 1, .valueRoot 8, .charList 2, .char 99, .char 100, .list 2 0,
               .listItem 0, .listItem 5, .empty, .empty]
    size := 30, custom := ⟨70, 0, 10⟩, currentValue := some 4, retention := 5 }

theorem exOpsV_run : runV exOpsV Store.fresh = .ok exRunV := by
  rw [runV_eq]; exact ok_of_check (sameStore · exRunV) (fun _ => sameStore_eq) (by decide +kernel)

/-- the compaction drops the garbage cell, moves the list from 9 to 8 and re-points the retained input-value cell;
the result is `WFq` and its heap view is well formed for the accessors -/
example : (match runV exOpsV Store.fresh with
    | .ok s => decide (s.cells[4]? = some (.valueRoot 8) ∧ s.cells[8]? = some (.list 2 0) ∧ s.cells.size = 13) &&
        decide (WFq s) && decide (toAccessHeap s).WF
    | _ => false) = true := by rw [exOpsV_run]; decide +kernel

/-- accessors on it with out-of-range extents -/
example : (match runV exOpsV Store.fresh with
    | .ok s =>
      (match getListItemIter (toAccessHeap s) 8 (.int (-5)) (.int 2147483647),
             getCharListIter (toAccessHeap s) 5 (.int 1) (.int 100) with
        | .ok l1, .ok l2 => decide (l1 = [0, 5] ∧ l2 = [100])
        | _, _ => false)
    | _ => false) = true := by rw [exOpsV_run]; decide +kernel

example : ∀ s, runV exOpsV Store.fresh = .ok s →
    s.start + s.cells.size + (s.size - s.cells.size + s.custom.size) ≤ USIZE_MAX → AccessSafe (toAccessHeap s) :=
  fun s hrun hsz => C07_reachable_no_panic_mut hrun (toAccessHeap_represents s hsz)

end Garnish.Props.C07ReachV
