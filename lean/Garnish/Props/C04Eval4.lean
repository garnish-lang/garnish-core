/-
C04, builder half — `C04_evaluation_order_total_all` (proved in Props/C04Eval5.lean): the rules of Props/C04Eval.lean together
with the stack rule of Props/C04Eval2.lean decide the order of ANY two different attributed nodes of a build — in one root or not.

`EmitBefore2 nodes root x z` = `EmitBefore nodes root x z` (in line, or a root before the out-of-line parts it owns) or
the stack rule (`x` below the out-of-line child that was pushed later, `z` below one that was pushed earlier).  For every
successful build and any two different nodes `x`, `z` that have an instruction of this build attributed to them, one of
`EmitBefore2 x z`, `EmitBefore2 z x` holds — so `C04_evaluation_order2` fixes the order of all their instructions — unless
one of them is a SideEffect node and the other lies in line below it: then the two instructions of the SideEffect node
bracket the other node's instructions (`C04_side_effect_brackets`).
-/
import Garnish.Props.C04Eval3
namespace Garnish.Props.C04Order
open Garnish Garnish.Gen Garnish.Model.Parser Garnish.Model.Build Garnish.Lemmas.Build
open Garnish.Lemmas.BuildTotal (IsChild child_facts parent_unique child_ne_root)
open Garnish.Lemmas.BuildSeq

variable {F : Type} {nodes : Array ParseNode} {root : Nat} {G : Nat → Prop}

def EmitBefore2 (nodes : Array ParseNode) (root x z : Nat) : Prop :=
  EmitBefore nodes root x z ∨ ∃ r1 r2, PushedBefore nodes root r1 r2 ∧ Sub nodes r2 x ∧ Sub nodes r1 z

/-- C04, builder half, evaluation order with the stack rule -/
theorem C04_evaluation_order2 (parseFloat : List Char → Option F) (fuel root : Nat) (nodes : Array ParseNode) (d d' : BState F)
    (entry : Nat) (h : build parseFloat fuel root nodes d = .ok (d', entry)) (x z : Nat) (he : EmitBefore2 nodes root x z)
    (kx kz : Nat) (hkx : d.metadata.size ≤ kx) (hkz : d.metadata.size ≤ kz)
    (hmx : d'.metadata[kx]? = some (some x)) (hmz : d'.metadata[kz]? = some (some z)) : kx < kz := by
  rcases he with he | ⟨r1, r2, hrel, hx, hz⟩
  · exact C04_evaluation_order parseFloat fuel root nodes d d' entry h x z he kx kz hkx hkz hmx hmz
  · exact C04_out_of_line_lifo ⟨⟨entry, h⟩, hkx, hkz, hmx, hmz⟩ r1 r2 hrel hx hz

theorem sched_layout {r s k : Nat} (h : Scheduled nodes root r s k) :
    ∃ sn, nodes[s]? = some sn ∧ layout sn.definition ≠ .gr ∧ sn.definition ≠ .subexpression := by
  rcases h.cases with ⟨e, kn, h1, _, h3⟩ | ⟨kn, _, _, _, _, sn, h5, h6⟩
  · subst e
    exact ⟨kn, h1, oolR_layout ((oolR_iff _).2 (h3.imp id And.left))⟩
  · exact ⟨sn, h5, by rw [h6]; simp [layout], by rw [h6]; simp⟩

/-- two out-of-line children of one root with different owners: one of them is pushed first -/
theorem pushed_total (V : Validated root nodes G) {ρ k1 k2 r1 r2 s1 s2 : Nat} (hρ : Sub nodes root ρ)
    (hρtop : ∀ w, G w → ¬ ILink nodes w ρ) (hk1 : IDesc nodes ρ k1) (hk2 : IDesc nodes ρ k2)
    (hs1 : Scheduled nodes root r1 s1 k1) (hs2 : Scheduled nodes root r2 s2 k2) (hk : k1 ≠ k2) :
    PushedBefore nodes root r1 r2 ∨ PushedBefore nodes root r2 r1 := by
  have hρG := sub_G V V.rootIn hρ
  have hρT : InTree nodes root ρ := Or.inl hρ
  -- the schedulers lie in line below ρ
  have hsρ : ∀ {r s k : Nat}, IDesc nodes ρ k → Scheduled nodes root r s k → IDesc nodes ρ s := by
    intro r s k hkρ hs
    obtain ⟨sn, hsn, _, hsd⟩ := sched_layout hs
    have hsG : G s := def_G V hsn hsd
    rcases idesc_comparable V hρG hsG hkρ hs.idesc with h | h
    · exact h
    · cases h with
      | refl => exact IDesc.refl _
      | step hw hl => exact absurd hl (hρtop _ (idesc_G V hsG hw))
  have h1 := hsρ hk1 hs1
  have h2 := hsρ hk2 hs2
  obtain ⟨sn1, hsn1, hg1, _⟩ := sched_layout hs1
  obtain ⟨sn2, hsn2, hg2, _⟩ := sched_layout hs2
  rcases Classical.em (s1 = s2) with e | e
  · subst e
    -- one scheduler: both are arms of the else-chain with head s1
    rcases hs1.cases with ⟨e1, kn1, g1, _, g3⟩ | ⟨kn1, g1, _, g3, _, sn, g5, g6⟩
    · rcases hs2.cases with ⟨e2, _⟩ | ⟨_, _, _, _, _, sn, q5, q6⟩
      · exact absurd (e1.symm.trans e2) hk
      · exfalso
        subst e1
        rw [g1] at q5; cases q5
        rcases g3 with g3 | ⟨g3, _⟩ <;> rw [q6] at g3 <;> simp [isDirect, isLogical, isJumpIf] at g3
    · rcases hs2.cases with ⟨e2, kn2, q1, _, q3⟩ | ⟨kn2, q1, _, q3, _, _, _, _⟩
      · exfalso
        subst e2
        rw [q1] at g5; cases g5
        rcases q3 with q3 | ⟨q3, _⟩ <;> rw [g6] at q3 <;> simp [isDirect, isLogical, isJumpIf] at q3
      · have hl1 := (oolR_layout ((oolR_iff _).2 (Or.inr g3))).1
        have hl2 := (oolR_layout ((oolR_iff _).2 (Or.inr q3))).1
        rcases lastB_total hρ hk1 hk2 hk g1 q1 hl1 hl2 with hl | hl
        · exact Or.inl ⟨ρ, s1, k1, s1, k2, hρT, h1, h2, hs1, hs2, Or.inr ⟨rfl, hl⟩⟩
        · exact Or.inr ⟨ρ, s1, k2, s1, k1, hρT, h2, h1, hs2, hs1, Or.inr ⟨rfl, hl⟩⟩
  · rcases lastB_total hρ h1 h2 e hsn1 hsn2 hg1 hg2 with hl | hl
    · exact Or.inl ⟨ρ, s1, k1, s2, k2, hρT, h1, h2, hs1, hs2, Or.inl hl⟩
    · exact Or.inr ⟨ρ, s2, k2, s1, k1, hρT, h2, h1, hs2, hs1, Or.inl hl⟩

end Garnish.Props.C04Order
