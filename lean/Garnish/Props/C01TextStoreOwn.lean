/-
`C01_text_to_simple_store_by` (Props/C01TextStoreOnBy.lean) with the address map instantiated by the builder's own output:
the data list and the addresses that `SimpleGarnishData`'s `add_*` calls produce while `build` runs on a fresh data object
(`Garnish.Lemmas.BuilderIntern.builderData` / `builderAddr`: Unit / False / True at the preallocated cells 0 / 1 / 2,
every other constant through `cache_add` with the hit decision `hit` of the data-object model — equal constants shared
whenever the cache says so).  No hypothesis about addresses is left: `ConstsAgree`, the three preallocated cells and
"leaves only" are theorems (`builder_constsAgree`, `builder_seeded`, `builder_leaves`) for a sound hit decision (`HitSound`,
repo fix "cache_add confirms hits by comparison") and constants that are leaves.

`realProg hit P` = the program the Rust builder leaves in the data object (`relocBy` along its own map);
`C01_builder_run_agrees`: the value-level machine runs it exactly like the model builder's 0-based program;
`C01_text_to_simple_store_own`: characters → address-level loop on the real program;
`buildText_consts_leaf` (Lemmas/BuildConstsLeaf.lean `build_consts_leaf`): every constant `build` adds is a leaf, so
`C01_text_to_simple_store_own_leaf` assumes nothing about the constants of the built program either;
`real_equal_literals_own`, `real_unit_literal_own`: on `1 + 1` and `$ ?> () |> 1` the map is the one observed on the crate
(Props/C01BuilderAddresses.lean) when the cache hits on equal cells.
-/
import Garnish.Lemmas.Outcome
import Garnish.Lemmas.BuilderIntern
import Garnish.Lemmas.BuildConstsLeaf
import Garnish.Props.C01TextStoreOnBy
import Garnish.Props.C01BuilderAddresses
namespace Garnish.Props.C01TextStore
open Garnish Garnish.Gen Garnish.Spec Garnish.Abs Garnish.Abs.Tree Garnish.Abs.Source Garnish.Model Garnish.Model.Parser
open Garnish.Model.Lexer Garnish.Model.Literals Garnish.Model.Build Garnish.Props.C01Build Garnish.Props.C01Source
open Garnish.Props.C02Numbered Garnish.Props.C01Text
open Garnish.Model.Equality Garnish.Model.Runtime Garnish.Lemmas.Runtime Garnish.Props.RuntimeRefine
open Garnish.Lemmas.Runtime.On Garnish.Lemmas.Runtime.Simple Garnish.Lemmas.BuilderIntern

variable {F : Type}

/-- the program the Rust builder leaves in a fresh `SimpleGarnishData` whose cache decides by `hit` -/
def realProg (hit : List (SimCell F) → SimCell F → Option Nat) (P : Prog F) : Prog F :=
  relocBy (builderAddr hit P) (builderData hit P) P

/-- the value-level machine does not see the difference -/
theorem C01_builder_run_agrees {hit : List (SimCell F) → SimCell F → Option Nat} (hs : HitSound hit) (fo : FloatOps F)
    (host : Host F) (P : Prog F) (hleaf : P.consts.toList.all isLeafS = true) (n : Nat) (m : MState F) :
    Abs.run fo host (realProg hit P) n m = Abs.run fo host P n m :=
  run_relocBy fo host (builder_constsAgree hs P hleaf) n m

variable (pf : List Char → Option F) (cc : CharClass)

/-- **characters → `SimpleGarnishData`, with the builder's own addresses** -/
theorem C01_text_to_simple_store_own {hit : List (SimCell F) → SimCell F → Option Nat} (hs : HitSound hit) (hh : SimHost F)
    (fo : FloatOps F) (host : Host F) (loopFuel : Nat) (H : OtherHandlers (SimState F))
    (ok : Prog F → MState F → Instruction → Option Nat → Prop)
    (hstep : ∀ (P : Prog F) (s : SimState F) (m : MState F) instr operand, Sim (simpleRStore hit hh) P s m → SInv s →
      Loaded (simpleRStore hit hh) P s → P.instrs[m.pc]? = some (instr, operand) → ok P m instr operand →
      StepSimOn fo host (simpleRStore hit hh) SInv P loopFuel H s m)
    (s : List Char) (toks : List LexerToken)
    (hlex : lex cc s = .ok toks) (hf : frag9' (toP toks) = true) (rt : RTree)
    (href : refParse Table.gen (toP toks) = .ok rt) (p : Program F) (hel : elaborate pf (toP toks) rt = some p)
    (hwf : C01.WFProgram p) (input : Val F) (fuel : Nat) (v : Val F) (st : St F)
    (h : evalProgram fo host fuel p input = .ok (v, st)) :
    ∃ d entry n, buildText pf cc s = .ok (d, entry) ∧
      ((progOf d).consts.toList.all isLeafS = true → isLeafS input = true →
        RunOKG fo (ok (realProg hit (progOf d))) host (realProg hit (progOf d)) n
          { pc := (progOf d).jumps[entry]?.getD 0, regs := [], vals := [input], frames := [], trace := [] } →
        ∃ s' a, executeLoop fo (simpleRStore hit hh) loopFuel H n
            (loadSimple (realProg hit (progOf d)) ((progOf d).jumps[entry]?.getD 0) input) = .ok ((.end_, n), s') ∧
          s'.values = [a] ∧ Decodes (simView s'.cells) a v ∧ (simpleRStore hit hh).regs s' = [] ∧
          (simpleRStore hit hh).frames s' = [] ∧ SInv s') := by
  obtain ⟨d, entry, n, hb, hby⟩ :=
    C01_text_to_simple_store_by pf cc hh fo host loopFuel H ok hstep s toks hlex hf rt href p hel hwf input fuel v st h
  refine ⟨d, entry, n, hb, fun hleaf hin hok => ?_⟩
  obtain ⟨h0, h1, h2⟩ := builder_seeded hs (progOf d) hleaf
  exact hby (builderAddr hit (progOf d)) (builderData hit (progOf d)) (builder_constsAgree hs (progOf d) hleaf) h0 h1 h2
    (builder_leaves hs (progOf d) hleaf) hin hok

/-- the constants of a built text are leaves -/
theorem buildText_consts_leaf (s : List Char) (d : BState F) (entry : Nat) (h : buildText pf cc s = .ok (d, entry)) :
    (progOf d).consts.toList.all isLeafS = true := by
  unfold buildText at h
  obtain ⟨toks, _, h⟩ := Outcome.bind_eq_ok.1 h
  obtain ⟨r, _, h⟩ := Outcome.bind_eq_ok.1 h
  have := Garnish.Lemmas.BuildConstsLeaf.build_consts_leaf pf (defaultFuel r.nodes.size) r.root r.nodes BState.empty (by rfl)
  rw [h] at this
  exact this

/-- **characters → `SimpleGarnishData`, with the builder's own addresses, nothing assumed about the constants**: what is
left are the source-side hypotheses, `HitSound`, a leaf input and the coverage predicate of the run -/
theorem C01_text_to_simple_store_own_leaf {hit : List (SimCell F) → SimCell F → Option Nat} (hs : HitSound hit) (hh : SimHost F)
    (fo : FloatOps F) (host : Host F) (loopFuel : Nat) (H : OtherHandlers (SimState F))
    (ok : Prog F → MState F → Instruction → Option Nat → Prop)
    (hstep : ∀ (P : Prog F) (s : SimState F) (m : MState F) instr operand, Sim (simpleRStore hit hh) P s m → SInv s →
      Loaded (simpleRStore hit hh) P s → P.instrs[m.pc]? = some (instr, operand) → ok P m instr operand →
      StepSimOn fo host (simpleRStore hit hh) SInv P loopFuel H s m)
    (s : List Char) (toks : List LexerToken)
    (hlex : lex cc s = .ok toks) (hf : frag9' (toP toks) = true) (rt : RTree)
    (href : refParse Table.gen (toP toks) = .ok rt) (p : Program F) (hel : elaborate pf (toP toks) rt = some p)
    (hwf : C01.WFProgram p) (input : Val F) (hin : isLeafS input = true) (fuel : Nat) (v : Val F) (st : St F)
    (h : evalProgram fo host fuel p input = .ok (v, st)) :
    ∃ d entry n, buildText pf cc s = .ok (d, entry) ∧
      ConstsAgree (builderAddr hit (progOf d)) (builderData hit (progOf d)) (progOf d) ∧
      (RunOKG fo (ok (realProg hit (progOf d))) host (realProg hit (progOf d)) n
          { pc := (progOf d).jumps[entry]?.getD 0, regs := [], vals := [input], frames := [], trace := [] } →
        ∃ s' a, executeLoop fo (simpleRStore hit hh) loopFuel H n
            (loadSimple (realProg hit (progOf d)) ((progOf d).jumps[entry]?.getD 0) input) = .ok ((.end_, n), s') ∧
          s'.values = [a] ∧ Decodes (simView s'.cells) a v ∧ (simpleRStore hit hh).regs s' = [] ∧
          (simpleRStore hit hh).frames s' = [] ∧ SInv s') := by
  obtain ⟨d, entry, n, hb, hown⟩ :=
    C01_text_to_simple_store_own pf cc hs hh fo host loopFuel H ok hstep s toks hlex hf rt href p hel hwf input fuel v st h
  have hleaf := buildText_consts_leaf pf cc s d entry hb
  exact ⟨d, entry, n, hb, builder_constsAgree hs (progOf d) hleaf, fun hok => hown hleaf hin hok⟩

/-! ### the map on the two observed programs -/

/-- equality of the cells a builder adds, floats never equal (a cache that misses on floats is sound) -/
def cellEqB : SimCell F → SimCell F → Bool
  | .num (.int a), .num (.int b) => a == b
  | .sym a, .sym b => a == b
  | .expr a, .expr b => a == b
  | .chars a, .chars b => a == b
  | .bytes a, .bytes b => a == b
  | .char a, .char b => a == b
  | .byte a, .byte b => a == b
  | _, _ => false

theorem cellEqB_eq {c c' : SimCell F} (h : cellEqB c c' = true) : c = c' := by
  unfold cellEqB at h
  split at h <;> first | (cases h; done) | rw [eq_of_beq h]

/-- a cache that hits exactly on the first stored equal cell — what the fixed `cache_add` does when no two different
values collide in the hash -/
def hitEq : List (SimCell F) → SimCell F → Option Nat := fun cells c =>
  if cells.findIdx (fun c' => cellEqB c' c) < cells.length then some (cells.findIdx (fun c' => cellEqB c' c)) else none

theorem hitEq_sound : HitSound (hitEq : List (SimCell F) → SimCell F → Option Nat) := by
  intro cells c a h
  unfold hitEq at h
  split at h
  · rename_i hlt
    cases h
    have := List.findIdx_getElem (w := hlt)
    rw [List.getElem?_eq_getElem hlt]
    exact congrArg some (cellEqB_eq this)
  · cases h

/-- `1 + 1`: the builder's own map is the one observed on the crate (both literals at address 3, four cells) -/
theorem real_equal_literals_own :
    (builtProg "1 + 1").map (fun P => ((realProg hitEq P).instrs.toList, (realProg hitEq P).consts.size)) =
      some ([(.put, some 3), (.put, some 3), (.add, none), (.endExpression, none)], 4) := by
  rw [builtProg_equal_literals]; rfl

/-- `$ ?> () |> 1`: the `()` literal is the preallocated cell 0 -/
theorem real_unit_literal_own :
    (builtProg "$ ?> () |> 1").map (fun P => ((realProg hitEq P).instrs.toList, (realProg hitEq P).consts.size)) =
      some ([(.putValue, none), (.jumpIfTrue, some 1), (.put, some 3), (.endExpression, none), (.put, some 0),
        (.jumpTo, some 2)], 4) := by
  rw [builtProg_unit_literal]; rfl

end Garnish.Props.C01TextStore
