/-
Runtime refinement, part 3b (C16 anchors): look-ups INTO a concatenation. traits/src/helpers/concatenation.rs
(`iterate_concatenation_mut_with_method`, Model/Runtime/Concatenation.lean) is a register work-list like
`perform_equality_check`: operands are pushed on the register stack, popped, expanded (a nested concatenation pushes
its two operands, a list is scanned by an inner index loop, anything else is one item), with a running index, until
the check function answers or the borrowed registers are used up; then the remaining borrowed registers are popped.

* `C16_refine_iterate_concatenation`: for ANY check function that refines a value-level check (`CheckRefines`), any
  nesting of concatenations and lists, forwards or reversed: the result is the first item in visiting order
  (`visit`, `firstHit`) that the check accepts, with its running index; every borrowed register is given back and
  nothing else changes (`Eff`); fuel `nodes vl + nodes vr + 1` suffices.
* `C16_refine_index_concatenation`: `index_concatenation_for` at an integer index is Abs/Ops `accessInt` on a
  concatenation — the `i`-th of the flattened items in order, nothing outside.
* `C16_refine_concat_symbol`: `access_with_symbol` on a concatenation is Abs/Ops `accessSym` (`lookupRev`: operands
  right to left, items of a list operand forward, the first pair keyed by the symbol wins).
Hypotheses: `StoreLaws`, `Decodes`, the fuel bound, the flattened length ≤ `i32::MAX` (the running index is a
`Data::Number`).
-/
import Garnish.Lemmas.RuntimeConcat2
import Garnish.Lemmas.RuntimeRefStore
namespace Garnish.Props.RuntimeRefine
open Garnish Gen Garnish.Abs Garnish.Model.Equality Garnish.Model.Runtime Garnish.Lemmas.Runtime

variable {F σ : Type} {S : RStore F σ} (fo : FloatOps F)

/-- the work-list, for any check function -/
theorem C16_refine_iterate_concatenation (L : StoreLaws S) (rev : Bool)
    {checkFn : Unit → Number F → Nat → RM σ (Option Nat × Unit)} {vchk : Nat → Val F → Option (Val F)}
    (hchk : CheckRefines S checkFn vchk) (fuel : Nat) {s : σ} {addr : Nat} {vl vr : Val F}
    (h : Decodes (S.view s) addr (.concat vl vr)) (hf : nodes vl + nodes vr + 1 ≤ fuel)
    (hb : (visit rev (.concat vl vr)).length ≤ 2147483647) :
    ∃ r idx' s', iterateConcatenation fo S rev fuel addr checkFn () s = .ok (((r, idx'), ()), s') ∧
      Eff S s s' (S.regs s) (S.vals s) ∧
      match firstHit vchk 0 (visit rev (.concat vl vr)) with
      | some w => ∃ a, r = some a ∧ Decodes (S.view s') a w
      | none => r = none := by
  obtain ⟨r, idx', s', h1, e, hm⟩ := Core.iterateConcatenation_spec fo L.toK rev hchk fuel h hf hb nofun trivial nofun
  exact ⟨r, idx', s', h1, e.toEff, hm⟩

/-- forwards, the items visited are Abs/Ops `flatItems`; reversed, as many -/
theorem C16_visit_forward (v : Val F) : visit false v = flatItems v := visit_false v
theorem C16_visit_length (rev : Bool) (v : Val F) : (visit rev v).length = (flatItems v).length := visit_length rev v

/-- `index_concatenation_for` -/
theorem C16_refine_index_concatenation (L : StoreLaws S) (fuel : Nat) {s : σ} {addr : Nat} {vl vr : Val F} (i : Int)
    (h : Decodes (S.view s) addr (.concat vl vr)) (hf : nodes vl + nodes vr + 1 ≤ fuel)
    (hb : (flatItems vl ++ flatItems vr).length ≤ 2147483647) :
    AccOut S s (indexConcatenationFor fo S fuel addr (.int i) s) (accessInt fo (.int i) (.concat vl vr)) :=
  (Core.indexConcatenationFor_spec fo L.toK fuel i h hf hb nofun trivial nofun).plain

/-- `access_with_symbol` on a concatenation -/
theorem C16_refine_concat_symbol (L : StoreLaws S) (fuel : Nat) {s : σ} {addr : Nat} {vl vr : Val F} (sym : Nat)
    (h : Decodes (S.view s) addr (.concat vl vr)) (hf : nodes vl + nodes vr + 1 ≤ fuel)
    (hb : (flatItems vl ++ flatItems vr).length ≤ 2147483647) :
    AccOut S s (accessWithSymbol fo S fuel sym addr s) (accessSym sym (.concat vl vr)) :=
  (Core.accessWithSymbol_concat_spec fo L.toK fuel sym h hf hb nofun trivial nofun).plain

/-- what the reverse visit finds is Abs/Ops `lookupRev` -/
theorem C16_firstHit_lookupRev (sym : Nat) (v : Val F) (k : Nat) :
    firstHit (fun _ v => keyedVal sym v) k (visit true v) = lookupRev sym v := firstHit_visit_rev sym v k

/-! ### non-vacuity: a nested concatenation with a list operand and a shadowed key -/

/--
```
0: :k (symbol 7)   1: 10   2: :k = 10   3: 20   4: :k = 20   5: 30
6: [2, 5]          7: 6 <> 4      = (:k = 10), 30, (:k = 20)
8: 5 <> 7          = 30, (:k = 10), 30, (:k = 20)
```
-/
def catCells : List (RCell F) :=
  [.sym 7, .num (.int 10), .pair 0 1, .num (.int 20), .pair 0 3, .num (.int 30), .list [2, 5],
   .concat 6 4 [2, 5, 4], .concat 5 7 [5, 2, 5, 4]]

def k10 : Val F := .pair (.sym 7) (.num (.int 10))
def k20 : Val F := .pair (.sym 7) (.num (.int 20))
def n30 : Val F := .num (.int 30)
def cat7 : Val F := .concat (.list [k10, n30]) k20

theorem dec2 : Decodes (refView (catCells (F := F))) 2 k10 := .pair rfl rfl (.sym rfl rfl) (.num rfl rfl)
theorem dec4 : Decodes (refView (catCells (F := F))) 4 k20 := .pair rfl rfl (.sym rfl rfl) (.num rfl rfl)
theorem dec5 : Decodes (refView (catCells (F := F))) 5 n30 := .num rfl rfl
theorem dec6 : Decodes (refView (catCells (F := F))) 6 (.list [k10, n30]) :=
  .list rfl rfl (.cons dec2 (.cons dec5 .nil))
theorem dec7 : Decodes (refView (catCells (F := F))) 7 cat7 :=
  .concat rfl rfl dec6 dec4 (.list rfl rfl) (.other (t := .pair) rfl (by decide) (by decide)) rfl
theorem dec8 : Decodes (refView (catCells (F := F))) 8 (.concat n30 cat7) :=
  .concat rfl rfl dec5 dec7 (.other (t := .number) rfl (by decide) (by decide))
    (.concat rfl rfl (.list rfl rfl) (.other (t := .pair) rfl (by decide) (by decide))) rfl

/-- item 3 of `30 <> ([:k = 10, 30] <> (:k = 20))` is `:k = 20`: the theorem applies (registers `[77]` untouched) … -/
example : AccOut (refStore (fun _ => none)) (RefState.init (catCells (F := F)) [77])
    (indexConcatenationFor fo (refStore (fun _ => none)) 5 8 (.int 3) (RefState.init catCells [77]))
    (.some k20) := by
  have h := C16_refine_index_concatenation fo (refStore_laws (fun _ => none)) 5
    (s := RefState.init (catCells (F := F)) [77]) 3 dec8 (by simp [nodes, cat7, n30, k20])
    (by simp [flatItems, cat7, n30, k20])
  have e : accessInt fo (.int 3) (.concat n30 (cat7 (F := F))) = .some k20 := by
    simp [accessInt, flatItems, cat7, n30, k20, k10]
  rw [e] at h; exact h

/-- a trivial float implementation, to run the model on integers by kernel evaluation -/
def noFloats : FloatOps Unit where
  add _ _ := () ; sub _ _ := () ; mul _ _ := () ; div _ _ := () ; rem _ _ := () ; powf _ _ := ()
  neg _ := () ; abs _ := () ; ofInt _ := () ; one := ()
  isFinite _ := true ; isInfinite _ := false ; isNaN _ := false ; isZero _ := true ; ltZero _ := false
  trunc _ := () ; toI32? _ := some 0 ; toI32Sat _ := 0
  feq _ _ := true ; flt _ _ := false ; fle _ _ := true

/-- what a look-up returned and the registers it left (for the model runs below) -/
def lookupResult (res : Outcome (Option Nat × RefState F)) : Option (Option Nat × List Nat) :=
  match res with
  | .ok (r, s') => some (r, s'.regs)
  | _ => none

/-- … and the model run with fuel 5: address 4 (`:k = 20`), registers as before -/
example : lookupResult (indexConcatenationFor noFloats (refStore (fun _ => none)) 5 8 (.int 3)
    (RefState.init catCells [77])) = some (some 4, [77]) := by decide +kernel

/-- by symbol the RIGHTMOST operand wins: the value `20` of `:k = 20` (address 3), found first — the two borrowed
registers still pending are cleaned up -/
example : lookupResult (accessWithSymbol noFloats (refStore (fun _ => none)) 5 7 8
    (RefState.init catCells [77])) = some (some 3, [77]) := by decide +kernel

/-- too little fuel is reported (`fuelOut`), not answered -/
example : lookupResult (indexConcatenationFor noFloats (refStore (fun _ => none)) 2 8 (.int 3)
    (RefState.init catCells [77])) = none := by decide +kernel

end Garnish.Props.RuntimeRefine
