/-
Value-level properties from the source text (the namespace of Props/SourceProps.lean; that file is not imported here).

C14 — a one-literal source: the pipeline of the models succeeds and the machine run of the built program ends with exactly the
value that Spec/Spell.lean says the literal spells.  `C14_text_literal` is the general form (any literal token, the value that
`Model.Literals` computes from its text); the named corollaries compose it with the theorems of Props/C14.lean:
  C14_text_number / C14_text_roundtrip   every radix 2..36, every separator placement, every n ≤ i32::MAX:  value n
  C14_text_charlist / _roundtrip         every quote count, every body:  the escape processing `unescape` of the body / cs itself
  C14_text_bytelist / _numeric           the quoted form: `unescBytes` of the body;  the numeric form: the byte vector itself
  C14_text_symbol                        `:name`:  SipHash-1-3 of the name as written
C09 — `a op b` with integer literals: `C09_text_int_arith` (+ - * / // % ** << >>: the exact i32 result, or unit where
Spec/Num says there is none), `C09_text_int_bitwise` (& | ^: bit by bit).  C12 / C11: Props/SourceProps3.lean.

PARTIAL in one respect: that the lexer model turns the SPELLING into the expected token(s) — one literal token, or literal
whitespace operator whitespace literal — is a hypothesis (`hlex`, `htoks`); it is decidable on every concrete text and discharged
by evaluation in the examples (Props/SourceProps5.lean).  MISSING: a lexer theorem `lex (spellNumber r n seps) = [one Number
token]` for all `n` (Props/C14 has the arm-level statement for char lists, `C14_charlist_lexable_one_token`).  Everything
behind the tokens — parser, builder, machine, literal parsing, arithmetic — is proved for ALL operands.
-/
import Garnish.Lemmas.SourceLit
import Garnish.Props.C14
import Garnish.Props.C09
namespace Garnish.Props.SourceProps
open Garnish Garnish.Gen Garnish.Spec Garnish.Spec.Spell Garnish.Abs Garnish.Abs.Tree Garnish.Abs.Source Garnish.Model
open Garnish.Model.Parser Garnish.Model.Lexer Garnish.Model.Literals Garnish.Model.Build Garnish.Props.C01Build
open Garnish.Props.C01Source Garnish.Props.C02Numbered Garnish.Props.C01Text Garnish.Props.C01Blocks
open Garnish.Lemmas.Literals

variable {F : Type} (pf : List Char → Option F) (cc : CharClass) (fo : FloatOps F) (host : Host F)

/-- the machine run of the object `dd` from `entry` on `input` halts with the value `v`, nothing else on the stacks, and no
host call -/
def RunsTo (dd : BState F) (entry : Nat) (input v : Val F) : Prop :=
  ∃ n m, run fo host (progOf dd) n
      { pc := (progOf dd).jumps[entry]?.getD 0, regs := [], vals := [input], frames := [], trace := [] } = (.halted m, n) ∧
    m.vals = [v] ∧ m.regs = [] ∧ m.frames = [] ∧ m.trace = []

/-! ### C14 -/

/-- **C14 from the source text, general form**: a text that the lexer turns into ONE literal token whose text parses
(Model/Literals) to the value `v` is built into a program that computes exactly `v` -/
theorem C14_text_literal (s : List Char) (tok : LexerToken) (hlex : lex cc s = .ok [tok]) (d : Definition)
    (hd : litDef tok.tokenType = some d) (v : Val F) (hv : leafE pf d tok.text = some (.lit v)) (input : Val F) :
    ∃ dd entry, buildText pf cc s = .ok (dd, entry) ∧ RunsTo fo host dd entry input v := by
  obtain ⟨r, t, hp, ht, hin, hel⟩ := one_token tok.text tok.tokenType d hd v hv
  have he : evalProgram fo host 2 (litProg v) input = .ok (v, ⟨input, []⟩) := by
    simp [evalProgram, evalBody, evalF, litProg]
  obtain ⟨dd, entry, hb, n, m, hr, h1, h2, h3, h4⟩ :=
    C01_text_correct_blocks pf cc fo host s [tok] hlex _ _ hp ht hin (litProg v) hel (litProg_wf v (leafE_lit_wf hv)) input 2 v
      ⟨input, []⟩ he
  exact ⟨dd, entry, hb, n, m, hr, h1, h2, h3, h4⟩

/-- **numbers**: the spelling of `n` in radix `r` (plain decimal for `r = 10`, `0R_digits` otherwise) with `_` separators
anywhere runs to the integer `n` -/
theorem C14_text_number (r n : Nat) (seps : List Nat) (hr2 : 2 ≤ r) (hr36 : r ≤ 36) (hn : n ≤ 2147483647)
    (hvs : ValidSeps r n seps) (row col : Nat)
    (hlex : lex cc (spellNumber r n seps) = .ok [⟨spellNumber r n seps, .number, row, col⟩]) (input : Val F) :
    ∃ dd entry, buildText pf cc (spellNumber r n seps) = .ok (dd, entry) ∧ RunsTo fo host dd entry input (.num (.int n)) :=
  C14_text_literal pf cc fo host _ _ hlex .number rfl _
    (leafE_spellNumber pf r n seps hr2 hr36 hn hvs) input

/-- **round trip**: print `n` in any radix, lex, parse, build, run: `n` -/
theorem C14_text_roundtrip (r n : Nat) (hr2 : 2 ≤ r) (hr36 : r ≤ 36) (hn : n ≤ 2147483647) (row col : Nat)
    (hlex : lex cc (spellNumber r n []) = .ok [⟨spellNumber r n [], .number, row, col⟩]) (input : Val F) :
    ∃ dd entry, buildText pf cc (spellNumber r n []) = .ok (dd, entry) ∧ RunsTo fo host dd entry input (.num (.int n)) :=
  C14_text_number pf cc fo host r n [] hr2 hr36 hn (by intro _ _; simp) row col hlex input

/-- **char lists**: `q` quotes, body, `q` quotes runs to the escape processing of exactly the body -/
theorem C14_text_charlist (q : Nat) (body : List Char) (h : body.head? ≠ some '"') (cs : List Char)
    (hu : unescape (uniModel pf) q body = .ok cs) (row col : Nat)
    (hlex : lex cc (quoteCharList q body) = .ok [⟨quoteCharList q body, .charList, row, col⟩]) (input : Val F) :
    ∃ dd entry, buildText pf cc (quoteCharList q body) = .ok (dd, entry) ∧
      RunsTo fo host dd entry input (.chars (cs.map Char.toNat)) :=
  C14_text_literal pf cc fo host _ _ hlex .charList rfl _
    (leafE_quoteCharList pf q body _ h hu) input

/-- round trip, the lexable spelling (quotes written `\u{22}`): every string, every quote count -/
theorem C14_text_charlist_roundtrip (q : Nat) (cs : List Char) (row col : Nat)
    (hlex : lex cc (quoteCharList q (escapeCharsU q cs)) = .ok [⟨quoteCharList q (escapeCharsU q cs), .charList, row, col⟩])
    (input : Val F) :
    ∃ dd entry, buildText pf cc (quoteCharList q (escapeCharsU q cs)) = .ok (dd, entry) ∧
      RunsTo fo host dd entry input (.chars (cs.map Char.toNat)) :=
  C14_text_literal pf cc fo host _ _ hlex .charList rfl _
    (by simp only [leafE, C14.C14_charlist_roundtrip_lexable pf q cs]) input

/-- **byte lists, quoted form**: `'body'` runs to the escape processing of the body, every character its UTF-8 bytes -/
theorem C14_text_bytelist (body : List Char) (h : body.head? ≠ some '\'') (bs : List Nat)
    (hu : unescBytes false body = .ok bs) (row col : Nat)
    (hlex : lex cc (quoteByteList 1 body) = .ok [⟨quoteByteList 1 body, .byteList, row, col⟩]) (input : Val F) :
    ∃ dd entry, buildText pf cc (quoteByteList 1 body) = .ok (dd, entry) ∧ RunsTo fo host dd entry input (.bytes bs) :=
  C14_text_literal pf cc fo host _ _ hlex .byteList rfl _
    (by simp only [leafE, C14.C14_bytelist_exact pf body h, hu]) input

/-- **byte lists, numeric form** (round trip): every byte vector, `q ≥ 2` quotes -/
theorem C14_text_bytelist_numeric (q : Nat) (hq : 2 ≤ q) (bs : List Nat) (hb : ∀ b ∈ bs, b ≤ 255) (row col : Nat)
    (hlex : lex cc (spellBytesNumeric q bs) = .ok [⟨spellBytesNumeric q bs, .byteList, row, col⟩]) (input : Val F) :
    ∃ dd entry, buildText pf cc (spellBytesNumeric q bs) = .ok (dd, entry) ∧ RunsTo fo host dd entry input (.bytes bs) :=
  C14_text_literal pf cc fo host _ _ hlex .byteList rfl _
    (by simp only [leafE, C14.C14_bytelist_roundtrip pf q hq bs hb]) input

/-- **symbols**: `:name` runs to the symbol whose value is SipHash-1-3 of the name as written -/
theorem C14_text_symbol (name : List Char) (h1 : name.head? ≠ some ':') (h2 : name.getLast? ≠ some ':') (row col : Nat)
    (hlex : lex cc (spellSymbol name) = .ok [⟨spellSymbol name, .symbol, row, col⟩]) (input : Val F) :
    ∃ dd entry, buildText pf cc (spellSymbol name) = .ok (dd, entry) ∧
      RunsTo fo host dd entry input (.sym (Garnish.Model.SipHash.symbolValue name).toNat) := by
  obtain ⟨e1, e2⟩ := C14.C14_symbol_keeps_name name h1 h2
  exact C14_text_literal pf cc fo host _ _ hlex .symbol rfl _ (by simp only [leafE, e1, e2]) input

/-! ### `a op b` on two literals -/

/-- **a binary operator on two literal operands**: the text lexes to literal, whitespace, operator, whitespace, literal; the
operand texts parse to `va`, `vb`; the operation on them is defined with value `v` — the built program computes `v`.  The
operands may be any literal of `litDef`: numbers, texts, byte lists, symbols, `()`, `$?`, `$!` -/
theorem text_binop_lit (s : List Char) (toks : List LexerToken) (hlex : lex cc s = .ok toks) (ta w1 to w2 tb : List Char)
    (tya oty tyb : TokenType) (htoks : toP toks = fiveToks ta w1 to w2 tb tya oty tyb) (da dop db : Definition)
    (op : Instruction) (hda : litDef tya = some da) (hdb : litDef tyb = some db) (hop : opTok oty = some (dop, op))
    (va vb : Val F) (ha : leafE pf da ta = some (.lit va)) (hb : leafE pf db tb = some (.lit vb)) (v : Val F)
    (hv : binaryOp fo op va vb = some (.val v)) (hne : (op == .apply) = false) (input : Val F) :
    ∃ dd entry, buildText pf cc s = .ok (dd, entry) ∧ RunsTo fo host dd entry input v := by
  obtain ⟨r, t, hp, ht, hin, href⟩ := five_tokens ta w1 to w2 tb tya oty tyb da dop db op hda hdb hop
  obtain ⟨hbo, hok⟩ := opTok_binOp hop
  have hel := five_elab (pf := pf) ta w1 to w2 tb tya oty tyb da dop db op hbo va vb ha hb
  rw [← href, ← htoks] at hel
  rw [← htoks] at hp
  have he : evalProgram fo host 3 (binProg op va vb) input = .ok (v, ⟨input, []⟩) := by
    simp [evalProgram, evalBody, evalF, binProg, hv, hne, settle]
  obtain ⟨dd, entry, hbt, n, m, hr, h1, h2, h3, h4⟩ :=
    C01_text_correct_blocks pf cc fo host s toks hlex _ _ hp ht hin (binProg op va vb) hel
      (binProg_wf op va vb hok (leafE_lit_wf ha) (leafE_lit_wf hb)) input 3 v ⟨input, []⟩ he
  exact ⟨dd, entry, hbt, n, m, hr, h1, h2, h3, h4⟩

/-- the same for the four literal kinds that carry a text -/
theorem text_binop (s : List Char) (toks : List LexerToken) (hlex : lex cc s = .ok toks) (ta w1 to w2 tb : List Char)
    (tya oty tyb : TokenType) (htoks : toP toks = fiveToks ta w1 to w2 tb tya oty tyb) (da dop db : Definition)
    (op : Instruction) (hda : litDef4 tya = some da) (hdb : litDef4 tyb = some db) (hop : opTok oty = some (dop, op))
    (va vb : Val F) (ha : leafE pf da ta = some (.lit va)) (hb : leafE pf db tb = some (.lit vb)) (v : Val F)
    (hv : binaryOp fo op va vb = some (.val v)) (hne : (op == .apply) = false) (input : Val F) :
    ∃ dd entry, buildText pf cc s = .ok (dd, entry) ∧ RunsTo fo host dd entry input v :=
  text_binop_lit pf cc fo host s toks hlex ta w1 to w2 tb tya oty tyb htoks da dop db op (litDef4_litDef hda)
    (litDef4_litDef hdb) hop va vb ha hb v hv hne input

/-! ### C09 -/

/-- the exact specification (Spec/Num.lean) of the binary arithmetic operators of the language -/
def arithSpec : Instruction → Option (Int → Int → Option Int)
  | .add => some Spec.add
  | .subtract => some Spec.sub
  | .multiply => some Spec.mul
  | .divide => some Spec.div
  | .integerDivide => some Spec.div
  | .remainder => some Spec.rem
  | .power => some Spec.pow
  | .bitwiseShiftLeft => some Spec.shl
  | .bitwiseShiftRight => some Spec.shr
  | _ => none

theorem int_arith_value (op : Instruction) (f : Int → Int → Option Int) (hf : arithSpec op = some f) (a b : Int)
    (ha : InRange a) (hb : InRange b) :
    binaryOp fo op (.num (.int a)) (.num (.int b)) = some (.val (numResult ((f a b).map .int))) := by
  unfold arithSpec at hf
  split at hf <;> cases hf <;>
    exact congrArg (fun o => some (OpOut.val (numResult o))) (Lemmas.apply_int fo _ a b ha hb)

theorem inRange_nat (n : Nat) (h : n ≤ 2147483647) : InRange (n : Int) := by
  unfold InRange; omega

/-- **C09 from the source text**: `a op b` for two integer literals (any radix, any separators) and `op` one of
`+ - * / // % ** << >>`: the built program runs to the EXACT result of Spec/Num.lean when that is representable in an `i32`,
and to unit when it is not (overflow, division by zero, negative exponent, shift out of range) — never to a wrapped value -/
theorem C09_text_int_arith (ra na rb nb : Nat) (sa sb : List Nat) (hra : 2 ≤ ra ∧ ra ≤ 36) (hrb : 2 ≤ rb ∧ rb ≤ 36)
    (hna : na ≤ 2147483647) (hnb : nb ≤ 2147483647) (hva : ValidSeps ra na sa) (hvb : ValidSeps rb nb sb)
    (oty : TokenType) (dop : Definition) (op : Instruction) (f : Int → Int → Option Int) (hop : opTok oty = some (dop, op))
    (hf : arithSpec op = some f) (s : List Char) (toks : List LexerToken) (hlex : lex cc s = .ok toks) (w1 to w2 : List Char)
    (htoks : toP toks = fiveToks (spellNumber ra na sa) w1 to w2 (spellNumber rb nb sb) .number oty .number) (input : Val F) :
    ∃ dd entry, buildText pf cc s = .ok (dd, entry) ∧
      RunsTo fo host dd entry input (numResult ((f na nb).map .int)) := by
  refine text_binop pf cc fo host s toks hlex _ w1 to w2 _ .number oty .number htoks .number dop .number op rfl rfl hop
    (.num (.int na)) (.num (.int nb))
    (leafE_spellNumber pf ra na sa hra.1 hra.2 hna hva)
    (leafE_spellNumber pf rb nb sb hrb.1 hrb.2 hnb hvb) _
    (int_arith_value fo op f hf na nb (inRange_nat na hna) (inRange_nat nb hnb)) ?_ input
  unfold arithSpec at hf
  split at hf <;> first | rfl | cases hf

/-- `& | ^` on two integer literals: the result is the i32 whose every bit is the bit operation of the operands' bits -/
theorem C09_text_int_bitwise (ra na rb nb : Nat) (sa sb : List Nat) (hra : 2 ≤ ra ∧ ra ≤ 36) (hrb : 2 ≤ rb ∧ rb ≤ 36)
    (hna : na ≤ 2147483647) (hnb : nb ≤ 2147483647) (hva : ValidSeps ra na sa) (hvb : ValidSeps rb nb sb)
    (oty : TokenType) (dop : Definition) (op : Instruction) (g : Bool → Bool → Bool) (hop : opTok oty = some (dop, op))
    (hg : (op = .bitwiseAnd ∧ g = and) ∨ (op = .bitwiseOr ∧ g = or) ∨ (op = .bitwiseXor ∧ g = xor))
    (s : List Char) (toks : List LexerToken) (hlex : lex cc s = .ok toks) (w1 to w2 : List Char)
    (htoks : toP toks = fiveToks (spellNumber ra na sa) w1 to w2 (spellNumber rb nb sb) .number oty .number) (input : Val F) :
    ∃ r : Int, InRange r ∧ (∀ i, Spec.bit r i = g (Spec.bit na i) (Spec.bit nb i)) ∧
      ∃ dd entry, buildText pf cc s = .ok (dd, entry) ∧ RunsTo fo host dd entry input (.num (.int r)) := by
  have key : ∀ r : Int, binaryOp fo op (.num (.int na)) (.num (.int nb)) = some (.val (.num (.int r))) → (op == .apply) = false →
      ∃ dd entry, buildText pf cc s = .ok (dd, entry) ∧ RunsTo fo host dd entry input (.num (.int r)) := fun r hr hne =>
    text_binop pf cc fo host s toks hlex _ w1 to w2 _ .number oty .number htoks .number dop .number op rfl rfl hop
      (.num (.int na)) (.num (.int nb))
      (leafE_spellNumber pf ra na sa hra.1 hra.2 hna hva)
      (leafE_spellNumber pf rb nb sb hrb.1 hrb.2 hnb hvb) _ hr hne input
  rcases hg with ⟨rfl, rfl⟩ | ⟨rfl, rfl⟩ | ⟨rfl, rfl⟩
  · obtain ⟨r, h1, h2, h3⟩ := C09.C09_int_bitwiseAnd (F := F) na nb
    exact ⟨r, h2, h3, key r (by simp [binaryOp, numOpOf, arithBinary, Number.apply, h1, numResult]) rfl⟩
  · obtain ⟨r, h1, h2, h3⟩ := C09.C09_int_bitwiseOr (F := F) na nb
    exact ⟨r, h2, h3, key r (by simp [binaryOp, numOpOf, arithBinary, Number.apply, h1, numResult]) rfl⟩
  · obtain ⟨r, h1, h2, h3⟩ := C09.C09_int_bitwiseXor (F := F) na nb
    exact ⟨r, h2, h3, key r (by simp [binaryOp, numOpOf, arithBinary, Number.apply, h1, numResult]) rfl⟩

end Garnish.Props.SourceProps
