/-
Non-vacuity of Props/SourceProps2/3.lean: source STRINGS, the lexing hypotheses by evaluation (ASCII character classes;
`noFloat`: none of the literals is a float).
-/
import Garnish.Props.SourceProps4
namespace Garnish.Props.SourceProps
open Garnish Garnish.Gen Garnish.Spec Garnish.Spec.Spell Garnish.Abs Garnish.Abs.Tree Garnish.Abs.Source Garnish.Model
open Garnish.Model.Parser Garnish.Model.Lexer Garnish.Model.Literals Garnish.Model.Build Garnish.Props.C01Build
open Garnish.Props.C01Source Garnish.Props.C02Numbered Garnish.Props.C01Text Garnish.Props.C01Blocks
open Garnish.Lemmas.Literals Garnish.Lemmas

variable (fo : FloatOps Float) (host : Host Float)

/-- C14: `016_ff` (255 in radix 16) runs to 255 -/
example : (spellNumber 16 255 [] = "016_ff".toList) ∧
    ∃ dd entry, buildText noFloat asciiCC "016_ff".toList = .ok (dd, entry) ∧ RunsTo fo host dd entry .unit (.num (.int 255)) :=
  ⟨by rfl, C14_text_roundtrip noFloat asciiCC fo host 16 255 (by omega) (by omega) (by omega) 0 0 (by kernel_rfl) .unit⟩

/-- C14: `"a\nb"` runs to the three characters `a`, newline, `b` -/
example : ∃ dd entry, buildText noFloat asciiCC (quoteCharList 1 "a\\nb".toList) = .ok (dd, entry) ∧
    RunsTo fo host dd entry .unit (.chars [97, 10, 98]) :=
  C14_text_charlist noFloat asciiCC fo host 1 "a\\nb".toList (by decide) ['a', '\n', 'b'] (by kernel_rfl) 0 0 (by kernel_rfl) .unit

/-- C14: `'''1 255'''` (numeric form) runs to the bytes 1, 255 -/
example : ∃ dd entry, buildText noFloat asciiCC (spellBytesNumeric 3 [1, 255]) = .ok (dd, entry) ∧
    RunsTo fo host dd entry .unit (.bytes [1, 255]) :=
  C14_text_bytelist_numeric noFloat asciiCC fo host 3 (by omega) [1, 255] (by decide) 0 0 (by kernel_rfl) .unit

/-- C14: `:abc` runs to the symbol SipHash-1-3("abc") -/
example : ∃ dd entry, buildText noFloat asciiCC ":abc".toList = .ok (dd, entry) ∧
    RunsTo fo host dd entry .unit (.sym (Garnish.Model.SipHash.symbolValue "abc".toList).toNat) :=
  C14_text_symbol noFloat asciiCC fo host "abc".toList (by decide) (by decide) 0 0 (by kernel_rfl) .unit

/-- C09: `12 + 30` runs to 42; `12 ** 30` overflows an `i32` and runs to unit — never to a wrapped value -/
example : (∃ dd entry, buildText noFloat asciiCC "12 + 30".toList = .ok (dd, entry) ∧ RunsTo fo host dd entry .unit (.num (.int 42))) ∧
    (∃ dd entry, buildText noFloat asciiCC "12 ** 30".toList = .ok (dd, entry) ∧ RunsTo fo host dd entry .unit .unit) := by
  have t1 : toP (lexed "12 + 30") = fiveToks "12".toList " ".toList "+".toList " ".toList "30".toList .number .plusSign .number := by
    decide +kernel
  have t2 : toP (lexed "12 ** 30") =
      fiveToks "12".toList " ".toList "**".toList " ".toList "30".toList .number .exponentialSign .number := by decide +kernel
  have h1 := C09_text_int_arith noFloat asciiCC fo host 10 12 10 30 [] [] (by omega) (by omega) (by omega) (by omega)
    (by intro _ h; cases h) (by intro _ h; cases h) .plusSign .addition .add Spec.add rfl rfl "12 + 30".toList
    (lexed "12 + 30") (lex_lexed t1 (List.cons_ne_nil _ _)) " ".toList "+".toList " ".toList t1 .unit
  have h2 := C09_text_int_arith noFloat asciiCC fo host 10 12 10 30 [] [] (by omega) (by omega) (by omega) (by omega)
    (by intro _ h; cases h) (by intro _ h; cases h) .exponentialSign .exponentialSign .power Spec.pow rfl rfl "12 ** 30".toList
    (lexed "12 ** 30") (lex_lexed t2 (List.cons_ne_nil _ _)) " ".toList "**".toList " ".toList t2 .unit
  have e1 : numResult ((Spec.add ((12 : Nat) : Int) ((30 : Nat) : Int)).map Number.int) = (.num (.int 42) : Val Float) := by rfl
  have e2 : numResult ((Spec.pow ((12 : Nat) : Int) ((30 : Nat) : Int)).map Number.int) = (.unit : Val Float) := by rfl
  rw [e1] at h1
  rw [e2] at h2
  exact ⟨h1, h2⟩

/-- C12: `"ab" < "b"` runs to `$?` -/
example : ∃ dd entry, buildText noFloat asciiCC "\"ab\" < \"b\"".toList = .ok (dd, entry) ∧ RunsTo fo host dd entry .unit .tru := by
  have t : toP (lexed "\"ab\" < \"b\"") =
      fiveToks "\"ab\"".toList " ".toList "<".toList " ".toList "\"b\"".toList .charList .lessThan .charList := by decide +kernel
  exact C12_text_charlist_order noFloat asciiCC fo host 1 1 "ab".toList "b".toList (by decide) (by decide) "ab".toList
    "b".toList (by kernel_rfl) (by kernel_rfl) .lessThan .lessThan .lessThan _ rfl rfl "\"ab\" < \"b\"".toList (lexed "\"ab\" < \"b\"")
    (lex_lexed t (List.cons_ne_nil _ _)) " ".toList "<".toList " ".toList t .unit

/-- C11: `016_7 == 7` — the same number written in two radices — runs to `$?` -/
example : ∃ dd entry, buildText noFloat asciiCC "016_7 == 7".toList = .ok (dd, entry) ∧ RunsTo fo host dd entry .unit .tru := by
  have t : toP (lexed "016_7 == 7") =
      fiveToks "016_7".toList " ".toList "==".toList " ".toList "7".toList .number .equality .number := by decide +kernel
  exact C11_text_int_equal noFloat asciiCC fo host 16 7 10 7 [] [] (by omega) (by omega) (by omega) (by omega)
    (by intro h; cases h) (by intro _ h; cases h) "016_7 == 7".toList (lexed "016_7 == 7") (lex_lexed t (List.cons_ne_nil _ _))
    " ".toList "==".toList " ".toList t .unit

end Garnish.Props.SourceProps
