/-
C04, builder half — `C04_evaluation_order_total_all` (see Props/C04Eval4.lean for the statement in words).
-/
import Garnish.Props.C04Eval4
import Garnish.Props.C04Build
namespace Garnish.Props.C04Order
open Garnish Garnish.Gen Garnish.Model.Parser Garnish.Model.Build Garnish.Lemmas.Build
open Garnish.Lemmas.BuildTotal (IsChild child_facts parent_unique child_ne_root)
open Garnish.Lemmas.BuildSeq

variable {F : Type} {nodes : Array ParseNode} {root : Nat} {G : Nat → Prop}

/-- what a build says about a node that has an instruction attributed to it -/
structure Reached (nodes : Array ParseNode) (root x : Nat) : Prop where
  sub : Sub nodes root x
  good : ∀ y c, Sub nodes root y → IsChild nodes y c → Sub nodes c x → GoodLink nodes root y c
  notGroup : ∀ pn, nodes[x]? = some pn → pn.definition ≠ .group

/-- the exception: a SideEffect node brackets what lies in line below it -/
def Bracketed (nodes : Array ParseNode) (x z : Nat) : Prop :=
  ∃ a an, (a = x ∨ a = z) ∧ nodes[a]? = some an ∧ an.definition = .sideEffect ∧ IDesc nodes a x ∧ IDesc nodes a z

/-- the whole root of an owner precedes the subtree of its out-of-line child -/
theorem EmitBefore.ofOol {ρ y r x z : Nat} (ht : InTree nodes root ρ) (hy : IDesc nodes ρ y) (ho : OolChild nodes y r)
    (hx : IDesc nodes ρ x) (hz : Sub nodes r z) : EmitBefore nodes root x z := by
  obtain ⟨yn, hyn, hr, hool⟩ := ho
  exact .outOfLine ρ y r yn ht hy hyn hr hool hx hz

/-- a reached node `x` below the child `c` of `y`: in line below `y`, or below the out-of-line child `r` of an owner `k` that is
`y` itself (then `r = c`) or lies in line below `y`, through `c` -/
theorem reach_side {x y c : Nat} (hx : Reached nodes root x) (hy : Sub nodes root y) (hc : IsChild nodes y c) (hcx : Sub nodes c x) :
    IDesc nodes y x ∨ ∃ k r s, IDesc nodes y k ∧ OolChild nodes k r ∧ Scheduled nodes root r s k ∧ Sub nodes r x ∧
      (Sub nodes c k ∨ (k = y ∧ r = c)) := by
  rcases hx.good y c hy hc hcx with hil | ⟨hool, s, hs⟩
  · have hyc := IDesc.step (IDesc.refl y) hil
    rcases path_decomp (Sub.step hy hc) hx.good x hcx (Sub.refl x) with hd | ⟨k, r, s, hdk, hool, hs, hrx⟩
    · exact Or.inl (hyc.trans hd)
    · exact Or.inr ⟨k, r, s, hyc.trans hdk, hool, hs, hrx, Or.inl hdk.sub⟩
  · exact Or.inr ⟨y, c, s, IDesc.refl y, hool, hs, hcx, Or.inr ⟨rfl, rfl⟩⟩

/-- `z` lies strictly below `x` -/
theorem below_case {x z : Nat} (hx : Reached nodes root x) (hz : Reached nodes root z) (h : Sub nodes x z) (hne : z ≠ x) :
    EmitBefore nodes root x z ∨ EmitBefore nodes root z x ∨
      ∃ xn, nodes[x]? = some xn ∧ xn.definition = .sideEffect ∧ IDesc nodes x z := by
  have htx : InTree nodes root x := Or.inl hx.sub
  obtain ⟨c, hc, hcz⟩ := (sub_head h).resolve_left hne
  rcases reach_side hz hx.sub hc hcz with hxz | ⟨k, r, _, hdk, ho, _, hrz, _⟩
  · rcases emit_below htx hxz hne with h1 | h1 | ⟨xn, hxn, hd | hd⟩
    · exact Or.inl h1
    · exact Or.inr (Or.inl h1)
    · exact absurd hd (hx.notGroup xn hxn)
    · exact Or.inr (Or.inr ⟨xn, hxn, hd, hxz⟩)
  · exact Or.inl (.ofOol htx hdk ho (IDesc.refl x) hrz)

theorem total_core (V : Validated root nodes G) {x z : Nat} (hx : Reached nodes root x) (hz : Reached nodes root z)
    (hne : x ≠ z) : EmitBefore2 nodes root x z ∨ EmitBefore2 nodes root z x ∨ Bracketed nodes x z := by
  rcases sub_split hx.sub hz.sub with h | h | ⟨y, c1, c2, hy, hc1, hc2, hne12, h1x, h2z⟩
  · rcases below_case hx hz h (fun e => hne e.symm) with h1 | h1 | ⟨xn, hxn, hd, hxz⟩
    · exact Or.inl (Or.inl h1)
    · exact Or.inr (Or.inl (Or.inl h1))
    · exact Or.inr (Or.inr ⟨x, xn, Or.inl rfl, hxn, hd, IDesc.refl x, hxz⟩)
  · rcases below_case hz hx h hne with h1 | h1 | ⟨zn, hzn, hd, hzx⟩
    · exact Or.inr (Or.inl (Or.inl h1))
    · exact Or.inl (Or.inl h1)
    · exact Or.inr (Or.inr ⟨z, zn, Or.inr rfl, hzn, hd, hzx, IDesc.refl z⟩)
  · have hty : InTree nodes root y := Or.inl hy
    rcases reach_side hx hy hc1 h1x with hyx | ⟨k1, r1, s1, hdk1, ho1, hs1, hr1x, hk1⟩
    · rcases reach_side hz hy hc2 h2z with hyz | ⟨k2, r2, _, hdk2, ho2, _, hr2z, _⟩
      · -- both in line below y
        rcases C04_evaluation_order_total nodes root y x z hy hyx hyz hne with h1 | h1 | ⟨a, an, ha, han, hd | hd, hax, haz⟩
        · exact Or.inl (Or.inl h1)
        · exact Or.inr (Or.inl (Or.inl h1))
        · rcases ha with e | e <;> subst e
          · exact absurd hd (hx.notGroup an han)
          · exact absurd hd (hz.notGroup an han)
        · exact Or.inr (Or.inr ⟨a, an, ha, han, hd, hax, haz⟩)
      · exact Or.inl (Or.inl (.ofOol hty hdk2 ho2 hyx hr2z))
    · rcases reach_side hz hy hc2 h2z with hyz | ⟨k2, r2, s2, hdk2, ho2, hs2, hr2z, hk2⟩
      · exact Or.inr (Or.inl (Or.inl (.ofOol hty hdk1 ho1 hyz hr1x)))
      · -- two out-of-line parts of the root that contains y: the stack rule; their owners differ
        have hk : k1 ≠ k2 := by
          intro e; subst e
          rcases hk1 with h1 | ⟨e1, f1⟩ <;> rcases hk2 with h2 | ⟨e2, f2⟩
          · exact children_disjoint V hy hc1 hc2 hne12 h1 h2
          · subst e2; exact not_below_self V hy hc1 h1
          · subst e1; exact not_below_self V hy hc2 h2
          · obtain ⟨kn, g1, g2, _⟩ := ho1
            obtain ⟨kn', g1', g2', _⟩ := ho2
            rw [g1] at g1'; cases g1'
            rw [g2] at g2'; cases g2'
            exact hne12 (f1.symm.trans f2)
        obtain ⟨ρ, hρ, hρy, hρtop⟩ := root_above V hy (fun w c hw hc hs => by
          rcases hx.good w c hw hc (Sub.trans hs (Sub.trans (Sub.step (Sub.refl y) hc1) h1x)) with h | ⟨h, _⟩
          · exact Or.inl h
          · exact Or.inr h)
        rcases pushed_total V hρ hρtop (hρy.trans hdk1) (hρy.trans hdk2) hs1 hs2 hk with hp | hp
        · exact Or.inr (Or.inl (Or.inr ⟨r1, r2, hp, hr2z, hr1x⟩))
        · exact Or.inl (Or.inr ⟨r2, r1, hp, hr1x, hr2z⟩)

/-- C04, builder half, the total order: for EVERY node vector, root, fuel and start state, after a successful `build` any
two different nodes that have an instruction of this build attributed to them are ordered by the rules — `EmitBefore2`
one way or the other, so that `C04_evaluation_order2` fixes the order of all their instructions — or one of them is a
SideEffect node whose two instructions bracket the other one (`C04_side_effect_brackets`) -/
theorem C04_evaluation_order_total_all (parseFloat : List Char → Option F) (fuel root : Nat) (nodes : Array ParseNode)
    (d d' : BState F) (entry : Nat) (h : build parseFloat fuel root nodes d = .ok (d', entry))
    (x z kx kz : Nat) (hkx : d.metadata.size ≤ kx) (hkz : d.metadata.size ≤ kz)
    (hmx : d'.metadata[kx]? = some (some x)) (hmz : d'.metadata[kz]? = some (some z)) (hne : x ≠ z) :
    EmitBefore2 nodes root x z ∨ EmitBefore2 nodes root z x ∨ Bracketed nodes x z := by
  obtain ⟨_, hreach, hgood, hngr, hex⟩ := C04_lifo_core parseFloat fuel root nodes d d' entry h
  obtain ⟨xn, hxn⟩ := hex x kx hkx hmx
  have hsz : nodes.size ≠ 0 := by
    intro e
    rw [Array.getElem?_eq_none (by omega)] at hxn; cases hxn
  obtain ⟨G, V⟩ := Garnish.Props.C04Build.C04_build_validated parseFloat fuel root nodes d d' entry h hsz
  have rx : Reached nodes root x := ⟨hreach x kx hkx hmx, fun y c hy hc hs => hgood x kx y c hkx hmx hy hc hs,
    fun pn hpn => hngr x kx pn hkx hmx hpn⟩
  have rz : Reached nodes root z := ⟨hreach z kz hkz hmz, fun y c hy hc hs => hgood z kz y c hkz hmz hy hc hs,
    fun pn hpn => hngr z kz pn hkz hmz hpn⟩
  exact total_core V rx rz hne

/-! ### non-vacuity: the else-chain `1 ?> 2 |> 3 !> 4` (Props/C04OrderEx.lean), metadata `[0,1,4,5,-,6,-,2,-]` -/

/-- every node of the else-chain except the ElseJump itself is attributed, so any two of them are ordered by the rules -/
example (d' : BState Unit) (entry : Nat)
    (h : build (fun _ => none) (defaultFuel 7) 3 exElse BState.empty = .ok (d', entry))
    (x z kx kz : Nat) (hmx : d'.metadata[kx]? = some (some x)) (hmz : d'.metadata[kz]? = some (some z)) (hne : x ≠ z) :
    EmitBefore2 exElse 3 x z ∨ EmitBefore2 exElse 3 z x ∨ Bracketed exElse x z :=
  C04_evaluation_order_total_all (fun _ => none) _ 3 exElse BState.empty d' entry h x z kx kz (Nat.zero_le _) (Nat.zero_le _)
    hmx hmz hne

/-- and the rules give the order that was computed: e.g. the arm `6` precedes the arm `2` by the stack rule, and both
follow the main line (`C04_out_of_line_after_root`) -/
example : metaOf (defaultFuel 7) 3 exElse = [some 0, some 1, some 4, some 5, none, some 6, none, some 2, none] := exElse_meta

end Garnish.Props.C04Order
