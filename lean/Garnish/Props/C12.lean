/-
C12 — ordering comparisons agree with the natural order.
`cmpList_spec`: the loop-then-length routine `cmpList` is the lexicographic order; `cmpOps_of_ord` reads the four operators off the
verdict of the comparison. Numbers of mixed representation need order laws of doubles, assumed as `FloatOrderLaws` (a bundle of
hypotheses defined here; `C12_number_lt_gt_swap` is its one user). Two slices are compared as the code compares them (`cmpListFrom`)
and stay outside the order laws.
-/
import Garnish.Abs.Machine
namespace Garnish.Props.C12
open Garnish Gen Garnish.Abs

variable {F : Type} (fo : FloatOps F)

/-! ### lists: the loop-then-length routine is the lexicographic order, shorter prefix first -/

-- `Lemmas.Runtime.cmpList_spec` (Lemmas/RuntimeCmpList) is another statement: the runtime's `cmp_list` loop over a store is `cmpListFrom`
theorem cmpList_spec (xs ys : List Nat) :
    (cmpList xs ys = .lt ↔ xs < ys) ∧ (cmpList xs ys = .eq ↔ xs = ys) ∧ (cmpList xs ys = .gt ↔ ys < xs) := by
  induction xs generalizing ys with
  | nil => cases ys <;> simp [cmpList]
  | cons x xs ih =>
    cases ys with
    | nil => simp [cmpList]
    | cons y ys =>
      simp only [cmpList, List.cons_lt_cons_iff, List.cons.injEq]
      rcases Nat.lt_trichotomy x y with h | rfl | h
      · have h1 : ¬ y < x := by omega
        have h2 : x ≠ y := by omega
        have h3 : y ≠ x := by omega
        simp [h, h1, h2, h3]
      · simpa using ih ys
      · have h1 : ¬ x < y := by omega
        have h2 : x ≠ y := by omega
        have h3 : y ≠ x := by omega
        simp [h, h1, h2, h3]

theorem cmpList_lt_iff (xs ys : List Nat) : cmpList xs ys = .lt ↔ xs < ys := (cmpList_spec xs ys).1

theorem cmpList_eq_iff (xs ys : List Nat) : cmpList xs ys = .eq ↔ xs = ys := (cmpList_spec xs ys).2.1

theorem cmpList_gt_iff (xs ys : List Nat) : cmpList xs ys = .gt ↔ ys < xs := (cmpList_spec xs ys).2.2

/-- the four operators on an ordered pair, read off the two strict verdicts of the comparison -/
theorem cmpOps_of_ord {l r : Val F} {o : Ordering} {lt gt : Prop} [Decidable lt] [Decidable gt]
    (h : compareVals fo l r = .ord o) (h1 : o = .lt ↔ lt) (h2 : o = .gt ↔ gt) :
    lessThan fo l r = Val.ofBool (decide lt) ∧ greaterThan fo l r = Val.ofBool (decide gt) ∧
    lessThanOrEqual fo l r = Val.ofBool (!decide gt) ∧ greaterThanOrEqual fo l r = Val.ofBool (!decide lt) := by
  simp only [lessThan, greaterThan, lessThanOrEqual, greaterThanOrEqual, cmpOp, h]
  cases o <;> simp_all <;> first | rfl | exact ⟨rfl, rfl⟩

/-- all four operators on two char lists (likewise byte lists) decide the lexicographic order of the
code points, the shorter prefix first -/
theorem C12_charList_order (a b : List Nat) :
    lessThan fo (.chars a) (.chars b) = Val.ofBool (decide (a < b)) ∧
    greaterThan fo (.chars a) (.chars b) = Val.ofBool (decide (b < a)) ∧
    lessThanOrEqual fo (.chars a) (.chars b) = Val.ofBool (!decide (b < a)) ∧
    greaterThanOrEqual fo (.chars a) (.chars b) = Val.ofBool (!decide (a < b)) :=
  cmpOps_of_ord fo rfl (cmpList_lt_iff a b) (cmpList_gt_iff a b)

theorem C12_byteList_order (a b : List Nat) :
    lessThan fo (.bytes a) (.bytes b) = Val.ofBool (decide (a < b)) ∧
    greaterThan fo (.bytes a) (.bytes b) = Val.ofBool (decide (b < a)) ∧
    lessThanOrEqual fo (.bytes a) (.bytes b) = Val.ofBool (!decide (b < a)) ∧
    greaterThanOrEqual fo (.bytes a) (.bytes b) = Val.ofBool (!decide (a < b)) :=
  cmpOps_of_ord fo rfl (cmpList_lt_iff a b) (cmpList_gt_iff a b)

/-! ### integers, characters, bytes: the natural order -/

theorem compare_int_cases (a b : Int) :
    (compare a b = .lt ↔ a < b) ∧ (compare a b = .eq ↔ a = b) ∧ (compare a b = .gt ↔ b < a) :=
  ⟨Int.compare_eq_lt, Int.compare_eq_eq, Int.compare_eq_gt⟩

theorem C12_int_order (a b : Int) :
    lessThan fo (.num (.int a)) (.num (.int b)) = Val.ofBool (decide (a < b)) ∧
    greaterThan fo (.num (.int a)) (.num (.int b)) = Val.ofBool (decide (b < a)) ∧
    lessThanOrEqual fo (.num (.int a)) (.num (.int b)) = Val.ofBool (decide (a ≤ b)) ∧
    greaterThanOrEqual fo (.num (.int a)) (.num (.int b)) = Val.ofBool (decide (b ≤ a)) := by
  have := cmpOps_of_ord fo (l := .num (.int a)) (r := .num (.int b)) rfl Int.compare_eq_lt Int.compare_eq_gt
  simpa [← Int.not_lt] using this

theorem C12_char_order (a b : Nat) :
    lessThan fo (.char a) (.char b) = Val.ofBool (decide (a < b)) ∧
    greaterThan fo (.char a) (.char b) = Val.ofBool (decide (b < a)) ∧
    lessThanOrEqual fo (.char a) (.char b) = Val.ofBool (decide (a ≤ b)) ∧
    greaterThanOrEqual fo (.char a) (.char b) = Val.ofBool (decide (b ≤ a)) := by
  have := cmpOps_of_ord fo (l := .char a) (r := .char b) rfl Nat.compare_eq_lt Nat.compare_eq_gt
  simpa [← Nat.not_lt] using this

theorem C12_byte_order (a b : Nat) :
    lessThan fo (.byte a) (.byte b) = Val.ofBool (decide (a < b)) ∧
    greaterThan fo (.byte a) (.byte b) = Val.ofBool (decide (b < a)) ∧
    lessThanOrEqual fo (.byte a) (.byte b) = Val.ofBool (decide (a ≤ b)) ∧
    greaterThanOrEqual fo (.byte a) (.byte b) = Val.ofBool (decide (b ≤ a)) := by
  have := cmpOps_of_ord fo (l := .byte a) (r := .byte b) rfl Nat.compare_eq_lt Nat.compare_eq_gt
  simpa [← Nat.not_lt] using this

/-! ### the laws the property names, for every comparable pair -/

/-- on every ordered pair `<=` is the negation of `>` and `>=` the negation of `<` -/
theorem C12_le_is_not_gt (l r : Val F) (o : Ordering) (h : compareVals fo l r = .ord o) :
    (lessThanOrEqual fo l r = .tru ↔ greaterThan fo l r = .fls) ∧
    (lessThanOrEqual fo l r = .fls ↔ greaterThan fo l r = .tru) ∧
    (greaterThanOrEqual fo l r = .tru ↔ lessThan fo l r = .fls) ∧
    (greaterThanOrEqual fo l r = .fls ↔ lessThan fo l r = .tru) := by
  simp only [lessThan, greaterThan, lessThanOrEqual, greaterThanOrEqual, cmpOp, h]
  cases o <;> simp [Val.ofBool]

/-- exactly one of `<`, `==`-ordering, `>` holds on an ordered pair -/
theorem C12_trichotomy (l r : Val F) (o : Ordering) (h : compareVals fo l r = .ord o) :
    (lessThan fo l r = .tru ∧ greaterThan fo l r = .fls ∧ o = .lt) ∨
    (lessThan fo l r = .fls ∧ greaterThan fo l r = .fls ∧ o = .eq) ∨
    (lessThan fo l r = .fls ∧ greaterThan fo l r = .tru ∧ o = .gt) := by
  simp only [lessThan, greaterThan, cmpOp, h]
  cases o <;> simp [Val.ofBool]

/-- order laws of IEEE doubles the mixed comparisons rely on (a hypothesis, not an axiom) -/
structure FloatOrderLaws (fo : FloatOps F) : Prop where
  lt_asymm : ∀ a b, fo.flt a b = true → fo.flt b a = false
  lt_not_eq : ∀ a b, fo.flt a b = true → fo.feq a b = false
  eq_symm : ∀ a b, fo.feq a b = fo.feq b a
  lt_irrefl_of_eq : ∀ a b, fo.feq a b = true → fo.flt a b = false ∧ fo.flt b a = false

theorem partialCmp_swap (h : FloatOrderLaws fo) (a b : Number F) :
    Number.partialCmp fo a b = (Number.partialCmp fo b a).map Ordering.swap := by
  have key : ∀ x y : F,
      (if fo.flt x y then some Ordering.lt else if fo.feq x y then some .eq else if fo.flt y x then some .gt else none) =
      ((if fo.flt y x then some Ordering.lt else if fo.feq y x then some .eq else if fo.flt x y then some .gt else none).map
        Ordering.swap) := by
    intro x y
    by_cases h1 : fo.flt x y = true
    · have := h.lt_asymm x y h1
      have h3 := h.lt_not_eq x y h1
      have h4 : fo.feq y x = false := by rw [h.eq_symm]; exact h3
      simp [h1, this, h4]
    · by_cases h2 : fo.feq x y = true
      · have ⟨h5, h6⟩ := h.lt_irrefl_of_eq x y h2
        have h4 : fo.feq y x = true := by rw [h.eq_symm]; exact h2
        simp [h5, h6, h2, h4]
      · have h4 : fo.feq y x = false := by rw [h.eq_symm]; simpa using h2
        by_cases h3 : fo.flt y x = true
        · simp [h1, h2, h3]
        · simp [h1, h2, h3, h4]
  cases a <;> cases b <;> simp only [Number.partialCmp]
  · rename_i x y
    obtain ⟨a1, a2, a3⟩ := compare_int_cases x y
    obtain ⟨b1, b2, b3⟩ := compare_int_cases y x
    cases h2 : compare y x
    · have : compare x y = .gt := a3.mpr (b1.mp h2)
      simp [this]
    · have : compare x y = .eq := a2.mpr (b2.mp h2).symm
      simp [this]
    · have : compare x y = .lt := a1.mpr (b3.mp h2)
      simp [this]
  all_goals exact key _ _

/-- numbers of either representation: `a < b` holds iff `b > a` (both are unit when a float operand is
not a number) -/
theorem C12_number_lt_gt_swap (h : FloatOrderLaws fo) (a b : Number F) :
    lessThan fo (.num a) (.num b) = greaterThan fo (.num b) (.num a) ∧
    lessThanOrEqual fo (.num a) (.num b) = greaterThanOrEqual fo (.num b) (.num a) := by
  simp only [lessThan, greaterThan, lessThanOrEqual, greaterThanOrEqual, cmpOp, compareVals]
  rw [partialCmp_swap fo h a b]
  cases Number.partialCmp fo b a with
  | none => exact ⟨rfl, rfl⟩
  | some o => cases o <;> exact ⟨rfl, rfl⟩

/-- operands that are not two numbers, two characters, two bytes, two char lists, two byte lists or two slices
are not ordered -/
theorem compareVals_foreign (l r : Val F)
    (h : ¬ (l.typeOf = r.typeOf ∧ (l.typeOf = .number ∨ l.typeOf = .char ∨ l.typeOf = .byte ∨
             l.typeOf = .charList ∨ l.typeOf = .byteList)))
    (hs : ¬ (l.typeOf = .slice ∧ r.typeOf = .slice)) : compareVals fo l r = .foreign := by
  unfold compareVals
  split
  · exact absurd ⟨rfl, .inl rfl⟩ h
  · exact absurd ⟨rfl, .inr (.inl rfl)⟩ h
  · exact absurd ⟨rfl, .inr (.inr (.inl rfl))⟩ h
  · exact absurd ⟨rfl, .inr (.inr (.inr (.inl rfl)))⟩ h
  · exact absurd ⟨rfl, .inr (.inr (.inr (.inr rfl)))⟩ h
  · exact absurd ⟨rfl, rfl⟩ hs
  · rfl

/-- all four operators yield false on operands that are not ordered — never an error -/
theorem cmpOps_foreign {l r : Val F} (h : compareVals fo l r = .foreign) :
    lessThan fo l r = .fls ∧ lessThanOrEqual fo l r = .fls ∧
    greaterThan fo l r = .fls ∧ greaterThanOrEqual fo l r = .fls := by
  simp [lessThan, lessThanOrEqual, greaterThan, greaterThanOrEqual, cmpOp, h]

/-- on any combination of operands that is not two numbers, two characters, two bytes, two char lists
or two byte lists, all four operators yield false — never an error (two slices: `C12_slices_*` below) -/
theorem C12_foreign_false (l r : Val F)
    (h : ¬ (l.typeOf = r.typeOf ∧ (l.typeOf = .number ∨ l.typeOf = .char ∨ l.typeOf = .byte ∨
             l.typeOf = .charList ∨ l.typeOf = .byteList)))
    (hs : ¬ (l.typeOf = .slice ∧ r.typeOf = .slice)) :
    lessThan fo l r = .fls ∧ lessThanOrEqual fo l r = .fls ∧
    greaterThan fo l r = .fls ∧ greaterThanOrEqual fo l r = .fls :=
  cmpOps_foreign fo (compareVals_foreign fo l r h hs)

/-! ### two slices (the Slice/Slice arm of `perform_comparison`)

The code orders two slices of text, or two slices of bytes, by running `cmp_list` from the two START offsets to the end of the
underlying lists and breaking a tie by the FULL lengths of the underlying lists; the ends of the ranges do not take part. This is
what the code does, modelled as it is (`cmpListFrom`); it is NOT the order of the selected texts (a witness below), which is why
slices stay outside the order laws of this property. Slices over any other kind of value, and over two different kinds, are not
ordered: all four operators yield false. -/

/-- slices over different kinds of value (or over values that are neither text nor bytes) are not ordered -/
theorem C12_slices_foreign_false (lv lr rv rr : Val F)
    (h : ¬ (lv.typeOf = rv.typeOf ∧ (lv.typeOf = .charList ∨ lv.typeOf = .byteList))) :
    lessThan fo (.slice lv lr) (.slice rv rr) = .fls ∧ lessThanOrEqual fo (.slice lv lr) (.slice rv rr) = .fls ∧
    greaterThan fo (.slice lv lr) (.slice rv rr) = .fls ∧ greaterThanOrEqual fo (.slice lv lr) (.slice rv rr) = .fls := by
  apply cmpOps_foreign
  show compareSlices lv lr rv rr = .foreign
  unfold compareSlices
  split
  · exact absurd ⟨rfl, .inl rfl⟩ h
  · exact absurd ⟨rfl, .inr rfl⟩ h
  · rfl

/-- two slices of text with integer ranges and non-negative starts: the answer is `cmp_list` from the start offsets, whatever
the ends are — and the four operators are then consistent with each other (`C12_le_is_not_gt`, `C12_trichotomy` apply) -/
theorem C12_slices_of_text (a b : List Nat) (s1 e1 s2 e2 : Int) (h1 : 0 ≤ s1) (h2 : 0 ≤ s2)
    (hl1 : InRange (e1 - s1) ∧ InRange (e1 - s1 + 1)) (hl2 : InRange (e2 - s2) ∧ InRange (e2 - s2 + 1)) :
    compareVals fo (.slice (.chars a) (.range (.num (.int s1)) (.num (.int e1))))
                   (.slice (.chars b) (.range (.num (.int s2)) (.num (.int e2)))) =
      .ord (cmpListFrom a b s1.toNat s2.toNat) := by
  simp [compareVals, compareSlices, sliceStart, h1, h2, hl1, hl2]

/-- the same slice against itself is "equal" under all four operators (`<=`, `>=` true; `<`, `>` false) -/
theorem cmpTail_self (xs : List Nat) (n : Nat) : cmpTail xs xs n n = .eq := by
  induction xs with
  | nil => simp [cmpTail]
  | cons x xs ih => simp [cmpTail, ih]

theorem C12_slice_self (a : List Nat) (i : Nat) : cmpListFrom a a i i = .eq := by
  simp [cmpListFrom, cmpTail_self]

/-- witness that the code's order on slices is not the order of the selected texts: `"abcd"` from 1 and `"bcd"` from 0 select
the same text to the end, yet the first is "greater" because the underlying list is longer -/
example : cmpListFrom [97, 98, 99, 100] [98, 99, 100] 1 0 = .gt := by decide
/-- two different selections of one text are told apart by their start offsets -/
example : cmpListFrom [97, 98, 99, 100, 101, 102] [97, 98, 99, 100, 101, 102] 0 1 = .lt := by decide

/-- a float operand that is not a number makes the comparison unit -/
theorem C12_unordered_unit (a b : Number F) (h : Number.partialCmp fo a b = none) :
    lessThan fo (.num a) (.num b) = .unit ∧ lessThanOrEqual fo (.num a) (.num b) = .unit ∧
    greaterThan fo (.num a) (.num b) = .unit ∧ greaterThanOrEqual fo (.num a) (.num b) = .unit := by
  simp [lessThan, lessThanOrEqual, greaterThan, greaterThanOrEqual, cmpOp, compareVals, h]

/-! ### non-vacuity -/
example : cmpList [97] [97, 98] = .lt ∧ cmpList [98] [97, 98] = .gt ∧ cmpList [] [] = .eq := by decide
example : ([97] : List Nat) < [97, 98] := by decide

end Garnish.Props.C12
