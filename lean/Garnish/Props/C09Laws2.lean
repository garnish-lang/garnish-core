/-
C09 — division laws for the 32-bit integer fragment (corollaries of the exactness theorems):
truncation toward zero stated as the quotient/remainder identity, the remainder bound and its sign.
-/
import Garnish.Props.C09
namespace Garnish.Props.C09Laws
open Garnish Garnish.Number Garnish.Props.C09

variable {F : Type} (fo : FloatOps F)

/-- Whenever `/` and `%` both give numbers, `q * b + r = a`, `|r| < |b|` and `r` has the sign of
the dividend: the pair is the truncated (toward zero) division, never the floored or Euclidean one. -/
theorem C09_int_div_rem_identity (a b q r : Int) (ha : InRange a) (hb : InRange b)
    (hq : divide fo (.int a) (.int b) = some (.int q))
    (hr : remainder fo (.int a) (.int b) = some (.int r)) :
    q * b + r = a ∧ r.natAbs < b.natAbs ∧ (0 ≤ a → 0 ≤ r) ∧ (a ≤ 0 → r ≤ 0) := by
  rw [C09_int_divide fo a b ha hb, Lemmas.map_int_eq_some, Spec.div] at hq
  rw [C09_int_remainder fo a b ha hb, Lemmas.map_int_eq_some, Spec.rem] at hr
  split at hq
  · cases hq
  rename_i hb0
  rw [Lemmas.exact_eq_some] at hq
  rw [if_neg hb0, if_pos (hq.1 ▸ hq.2)] at hr
  obtain ⟨rfl, _⟩ := hq
  cases hr
  refine ⟨?_, ?_, fun h => Int.tmod_nonneg b h, fun h => ?_⟩
  · rw [Int.mul_comm]; exact Int.mul_tdiv_add_tmod a b
  · rw [Int.natAbs_tmod]; exact Nat.mod_lt _ (by omega)
  · have := Int.tmod_nonneg b (a := -a) (by omega)
    rw [Int.neg_tmod] at this; omega

/-- `/` and `//` agree on integers. -/
theorem C09_int_divide_eq_integerDivide (a b : Int) (ha : InRange a) (hb : InRange b) :
    divide fo (.int a) (.int b) = integerDivide fo (.int a) (.int b) := by
  rw [C09_int_divide fo a b ha hb, C09_int_integerDivide fo a b ha hb]

/-- Division by zero and remainder by zero give unit for every dividend. -/
theorem C09_int_div_zero (a : Int) (ha : InRange a) :
    divide fo (.int a) (.int 0) = none ∧ remainder fo (.int a) (.int 0) = none := by
  have h0 : InRange 0 := by decide
  rw [C09_int_divide fo a 0 ha h0, C09_int_remainder fo a 0 ha h0]
  simp [Spec.div, Spec.rem]

/-- `a * 0 = 0` and `a - a = 0` always (no spurious unit). -/
theorem C09_int_multiply_zero (a : Int) (ha : InRange a) :
    multiply fo (.int a) (.int 0) = some (.int 0) := by
  have h0 : InRange 0 := by decide
  rw [C09_int_multiply fo a 0 ha h0]; simp [Spec.mul, Spec.exact, h0]

theorem C09_int_subtract_self (a : Int) (ha : InRange a) :
    subtract fo (.int a) (.int a) = some (.int 0) := by
  have h0 : InRange 0 := by decide
  rw [C09_int_subtract fo a a ha ha]; simp [Spec.sub, Spec.exact, h0]

example : Spec.div (-7) 2 = some (-3) ∧ Spec.rem (-7) 2 = some (-1) ∧ (-3) * 2 + (-1) = (-7 : Int) := by decide

end Garnish.Props.C09Laws
