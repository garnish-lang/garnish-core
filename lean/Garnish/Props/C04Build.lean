/-
C04, builder half — "an accepted program accounts for every token, in order": what `build` guarantees about the
parse nodes it was given (model Garnish.Model.Build = build.rs with the commits 467354e `validate_parse_tree` and
85b4b67 `allScheduled`, which exist for this property).

Proved, for EVERY node vector, root index, fuel and start state (from `build_facts`, Garnish/Lemmas/BuildLifoRun.lean):
  * `C04_build_attributes_every_node` — after a successful `build` every node of the vector whose definition is
    `attributable` has at least one instruction, appended by this build, whose metadata names it.
    `attributable d` = `d ∉ {Group, ElseJump, List, CommaList, Subexpression}` — exactly `STRUCTURAL` of tools/treesuite.py:
      Group      `handle_parse_node` only forwards to the right child, no instruction;
      ElseJump   both visits only schedule (children; later the recorded arms), no instruction;
      List / CommaList  emit `MakeList` only when the enclosing list is of another kind: a forwarded list node adds its
                 items to the enclosing list and emits nothing (a non-forwarded one IS attributed, not claimed here);
      Subexpression  the only definition `validate_parse_tree` and `allScheduled` allow to stay outside the tree (the parser
                 unlinks redundant separators); a Subexpression node that is in the tree does get its `UpdateValue`.
    Every other definition is attributed by its handler: value-like nodes (Unit, True, False, Number, CharList, ByteList,
    Symbol, Value, Identifier, Property, ExpressionTerminator) by their `Put`/`PutValue`/`Resolve`/`EndExpression`; unary,
    binary, pair, apply-to by their operator; And/Or and JumpIfTrue/JumpIfFalse by the jump instruction; SideEffect by
    `StartSideEffect` and `EndSideEffect`; NestedExpression by its `Put`; Reapply by `UpdateValue` and `JumpTo`;
    ExpressionSeparator by `UpdateValue`; Prefix/Suffix/InfixApply by `Apply`.  (`Drop` makes `build` fail.)
    Proof idea: the last visit of a node whose definition emits appends an instruction naming it, so a finished node is
    attributed (`ADone`, carried by the order invariant `FInv`); both work lists are empty at the end and `allScheduled`
    says every non-Subexpression node has a build node, so every such node is finished (`attr_final`).
  * `C04_build_validated` — a successful `build` of a non-empty vector means `validate_parse_tree` accepted it: there is a
    set `G` of nodes containing the root, closed under `left`/`right` with in-range links and matching parent links,
    distinct children, and every node outside `G` is a `Subexpression` (`Validated`).  So "every node in the validated
    tree" = every node of the vector except unlinked `Subexpression`s, which is what the first theorem quantifies over.
  * `C04_metadata_names_nodes` — conversely every metadata record appended by the build names an existing node or none
    (from C05).
Order (from the general order facts `SeqFacts` of Garnish/Lemmas/BuildSeq*.lean, `build_seq`), again for EVERY node vector,
root index, fuel and start state:
  * `C04_sibling_order` — for a node `p` with `inlineBinary p.definition = some swapped` (the binary operators whose
    handler schedules both operands in one visit; `swapped` for Pair / ApplyTo) and operands `l`, `r`: every instruction
    attributed to `l`, or to a node below `l` through inline nodes (`InlineDesc`), precedes every instruction attributed
    to `r` or below it — reversed when `swapped` — and both precede every instruction attributed to `p`.
  * `C04_list_items_in_order` — the same for `List` / `CommaList`: left before right before the node's own `MakeList`;
    with `InlineDesc` through nested list nodes this is "the items of a list are emitted left to right".
  * `C04_inline_child_before_parent` — any single operand of an inline node comes before the node's own instruction.
  * `C04_sibling_order_statement_proved` — `C04_sibling_order_statement` is the `x = l`, `z = r` instance.
    Proof idea: an inline node is a node whose handler schedules both children in line, in the arrangement `lrn` (`rln`
    for Pair / ApplyTo: `isB_layout`), so `InlineDesc` is a special case of the in-line descendants `IDesc` and the three
    statements are the rules "first operand before second" and "child before node" of `SeqFacts`.
The other node kinds and the out-of-line parts: Props/C04Order.lean (`C04_sibling_order_rest`, `C04_children_in_order`, …) and
Props/C04Eval.lean (`C04_evaluation_order`).
-/
import Garnish.Lemmas.Outcome
import Garnish.Lemmas.BuildLifoRun
import Garnish.Props.C05
import Garnish.Props.C04Order
namespace Garnish.Props.C04Build
open Garnish Garnish.Gen Garnish.Model.Parser Garnish.Model.Build Garnish.Lemmas.Build Garnish.Lemmas.BuildAttr Garnish.Spec

variable {F : Type}

/-- the structural definitions of tools/treesuite.py -/
theorem attributable_iff (d : Definition) :
    attributable d = true ↔ d ≠ .group ∧ d ≠ .elseJump ∧ d ≠ .list ∧ d ≠ .commaList ∧ d ≠ .subexpression := by
  simp [attributable, emits, and_assoc]

/-- C04, builder half: every attributable node of the vector has an instruction of this build attributed to it -/
theorem C04_build_attributes_every_node (parseFloat : List Char → Option F) (fuel root : Nat) (nodes : Array ParseNode)
    (d d' : BState F) (entry : Nat) (h : build parseFloat fuel root nodes d = .ok (d', entry))
    (i : Nat) (pn : ParseNode) (hi : nodes[i]? = some pn) (hd : attributable pn.definition = true) :
    ∃ k, d.metadata.size ≤ k ∧ d'.metadata[k]? = some (some i) := by
  have := Garnish.Lemmas.BuildSeq.build_attr (tree := nodes) parseFloat fuel root d
  rw [h] at this
  exact this i pn hi hd

/-- a successful build of a non-empty vector went through the validation -/
theorem C04_build_validated (parseFloat : List Char → Option F) (fuel root : Nat) (nodes : Array ParseNode)
    (d d' : BState F) (entry : Nat) (h : build parseFloat fuel root nodes d = .ok (d', entry)) (hne : nodes.size ≠ 0) :
    ∃ G : Nat → Prop, Validated root nodes G := by
  unfold build at h
  split at h
  · rename_i hempty
    have : nodes.size = 0 := by simpa [Array.isEmpty] using hempty
    exact absurd this hne
  · obtain ⟨u, hv, _⟩ := Garnish.Outcome.bind_eq_ok.1 h
    exact validateParseTree_ok hv

/-- every attributable node is inside the validated tree -/
theorem C04_attributable_in_tree {root : Nat} {nodes : Array ParseNode} {G : Nat → Prop} (V : Validated root nodes G)
    (i : Nat) (pn : ParseNode) (hi : nodes[i]? = some pn) (hd : attributable pn.definition = true) : G i := by
  exact Garnish.Lemmas.BuildSeq.def_G V hi fun e => by rw [e] at hd; cases hd

/-- conversely: a metadata record appended by the build names an existing node, or none -/
theorem C04_metadata_names_nodes (parseFloat : List Char → Option F) (fuel root : Nat) (nodes : Array ParseNode)
    (d d' : BState F) (entry : Nat) (h : build parseFloat fuel root nodes d = .ok (d', entry)) (hd : WFState d)
    (k i : Nat) (hk : d.metadata.size ≤ k) (hm : d'.metadata[k]? = some (some i)) : ∃ pn, nodes[i]? = some pn := by
  have hwf := Garnish.Props.C05.C05_build_WFProg parseFloat fuel root nodes d d' entry h hd
  have := hwf.metaNodes k (some i) hk hm
  simp only [metaOk, decide_eq_true_eq] at this
  exact ⟨nodes[i], by simp [this]⟩

/-! ### order -/

/-- definitions whose handler schedules both operands on `stack` in one visit and emits its own instruction last, and
whether the right operand is emitted first (`Pair`, `ApplyTo`) — `Garnish.Lemmas.BuildOrder.inlineBinary`:
`some true` for Pair and ApplyTo; `some false` for Addition, Subtraction, MultiplicationSign, Division, Access, the four
ranges, ExponentialSign, Remainder, IntegerDivision, the bitwise operators and shifts, Xor, TypeEqual, TypeCast, the six
comparisons, Apply, PartialApply, Concatenation, InfixApply; `none` otherwise -/
abbrev inlineBinary (d : Definition) : Option Bool := Garnish.Lemmas.BuildOrder.inlineBinary d

/-- `x` is `a` or is reached from `a` by going down through inline nodes only — inline binary operators and
List / CommaList nodes — one `left`/`right` link at a time (`Garnish.Lemmas.BuildOrder.Desc`).  These are the nodes whose
instructions are emitted in line with `a`'s: going down stops at a node of any other kind (its own instructions are still
covered, the parts it emits out of line are not). -/
abbrev InlineDesc (nodes : Array ParseNode) (a x : Nat) : Prop := Garnish.Lemmas.BuildOrder.Desc nodes a x

theorem InlineDesc.refl (nodes : Array ParseNode) (a : Nat) : InlineDesc nodes a a := Garnish.Lemmas.BuildOrder.Desc.refl a

theorem isB_of {d : Definition} (hd : (inlineBinary d).isSome = true ∨ d = .list ∨ d = .commaList) :
    Garnish.Lemmas.BuildOrder.isB d = true := by
  unfold Garnish.Lemmas.BuildOrder.isB
  rcases hd with h1 | h1 | h1 <;> simp [h1]

/-- one step down: `w` is an inline node (inline binary operator or list) and `x` is its left or right child -/
theorem InlineDesc.step {nodes : Array ParseNode} {a w x : Nat} {pw : ParseNode} (h : InlineDesc nodes a w)
    (hw : nodes[w]? = some pw)
    (hd : (inlineBinary pw.definition).isSome = true ∨ pw.definition = .list ∨ pw.definition = .commaList)
    (hc : pw.left = some x ∨ pw.right = some x) : InlineDesc nodes a x := by
  exact Garnish.Lemmas.BuildOrder.Desc.step h ⟨pw, hw, isB_of hd, hc⟩

open Garnish.Lemmas.BuildSeq Garnish.Props.C04Order in
/-- everything in line below an operand of the inline node `p` comes before `p`'s own instructions -/
theorem inline_child_first (parseFloat : List Char → Option F) (fuel root : Nat) (nodes : Array ParseNode) (d d' : BState F)
    (entry : Nat) (h : build parseFloat fuel root nodes d = .ok (d', entry))
    (p c : Nat) (pn : ParseNode) (hp : nodes[p]? = some pn) (hB : Garnish.Lemmas.BuildOrder.isB pn.definition = true)
    (hc : pn.left = some c ∨ pn.right = some c) (x : Nat) (hx : InlineDesc nodes c x)
    (kx kp : Nat) (hkx : d.metadata.size ≤ kx) (hkp : d.metadata.size ≤ kp)
    (hmx : d'.metadata[kx]? = some (some x)) (hmp : d'.metadata[kp]? = some (some p)) : kx < kp := by
  obtain ⟨pn', hp', hc'⟩ := bchild_preC ⟨pn, hp, hB, hc⟩
  rw [hp] at hp'; cases hp'
  exact C04_child_before_node ⟨⟨entry, h⟩, hkx, hkp, hmx, hmp⟩ c pn hp (Or.inr ⟨pn, hp, fun e => by rw [e] at hB; cases hB⟩) hc'
    (fun e => by rw [e] at hB; cases hB) (desc_idesc hx)

open Garnish.Lemmas.BuildSeq Garnish.Props.C04Order in
/-- the two operand sides of the inline node `p`: left before right, the other way round for the layout `rln` -/
theorem inline_operands (parseFloat : List Char → Option F) (fuel root : Nat) (nodes : Array ParseNode) (d d' : BState F)
    (entry : Nat) (h : build parseFloat fuel root nodes d = .ok (d', entry))
    (p l r : Nat) (pn : ParseNode) (hp : nodes[p]? = some pn) (hB : Garnish.Lemmas.BuildOrder.isB pn.definition = true)
    (hl : pn.left = some l) (hr : pn.right = some r) (x z : Nat) (hx : InlineDesc nodes l x) (hz : InlineDesc nodes r z)
    (kx kz : Nat) (hkx : d.metadata.size ≤ kx) (hkz : d.metadata.size ≤ kz)
    (hmx : d'.metadata[kx]? = some (some x)) (hmz : d'.metadata[kz]? = some (some z)) :
    if inlineBinary pn.definition = some true then kz < kx else kx < kz := by
  have ht : InTree nodes root p := Or.inr ⟨pn, hp, fun e => by rw [e] at hB; cases hB⟩
  rcases isB_layout hB with ⟨hs, hk⟩ | ⟨hs, hk⟩
  · rw [if_pos hs]
    exact C04_children_swapped ⟨⟨entry, h⟩, hkz, hkx, hmz, hmx⟩ p l r pn hp ht hl hr hk (desc_idesc hz) (desc_idesc hx)
  · rw [if_neg hs]
    exact C04_children_in_order ⟨⟨entry, h⟩, hkx, hkz, hmx, hmz⟩ p l r pn hp ht hl hr (Or.inl hk) (desc_idesc hx) (desc_idesc hz)

/-- C04, builder half, order of operands — inline binary operators.  For EVERY node vector, root, fuel and start state:
after a successful `build`, for a node `p` with `inlineBinary p.definition = some swapped` and operands `l`, `r`, every
instruction of this build attributed to `l` — or to a node reached from `l` through inline nodes — lies before every
instruction attributed to `r` (or to a node reached from `r` through inline nodes); the other way round when `swapped`
(Pair, ApplyTo: right operand first); and both lie before every instruction attributed to `p` itself. -/
theorem C04_sibling_order (parseFloat : List Char → Option F) (fuel root : Nat) (nodes : Array ParseNode) (d d' : BState F)
    (entry : Nat) (h : build parseFloat fuel root nodes d = .ok (d', entry))
    (p l r : Nat) (pn : ParseNode) (swapped : Bool) (hp : nodes[p]? = some pn) (hl : pn.left = some l) (hr : pn.right = some r)
    (hib : inlineBinary pn.definition = some swapped)
    (x z : Nat) (hx : InlineDesc nodes l x) (hz : InlineDesc nodes r z)
    (kx kz kp : Nat) (hkx : d.metadata.size ≤ kx) (hkz : d.metadata.size ≤ kz) (hkp : d.metadata.size ≤ kp)
    (hmx : d'.metadata[kx]? = some (some x)) (hmz : d'.metadata[kz]? = some (some z))
    (hmp : d'.metadata[kp]? = some (some p)) :
    (if swapped then kz < kx else kx < kz) ∧ kx < kp ∧ kz < kp := by
  have hB := isB_of (d := pn.definition) (Or.inl (by rw [hib]; rfl))
  have h1 := inline_operands parseFloat fuel root nodes d d' entry h p l r pn hp hB hl hr x z hx hz kx kz hkx hkz hmx hmz
  refine ⟨?_, inline_child_first parseFloat fuel root nodes d d' entry h p l pn hp hB (Or.inl hl) x hx kx kp hkx hkp hmx hmp,
    inline_child_first parseFloat fuel root nodes d d' entry h p r pn hp hB (Or.inr hr) z hz kz kp hkz hkp hmz hmp⟩
  rw [hib] at h1
  cases swapped <;> simpa using h1

/-- C04, builder half, order of operands — lists.  After a successful `build`, for a `List` / `CommaList` node `p` with
children `l`, `r`: everything attributed to `l` or below it through inline nodes (in particular through nested list nodes
of the same kind, which is how `a b c` is represented: the items of one list) lies before everything attributed to `r`
or below it — the items are emitted left to right — and both lie before `p`'s own `MakeList`, if it emits one. -/
theorem C04_list_items_in_order (parseFloat : List Char → Option F) (fuel root : Nat) (nodes : Array ParseNode) (d d' : BState F)
    (entry : Nat) (h : build parseFloat fuel root nodes d = .ok (d', entry))
    (p l r : Nat) (pn : ParseNode) (hp : nodes[p]? = some pn) (hl : pn.left = some l) (hr : pn.right = some r)
    (hdef : pn.definition = .list ∨ pn.definition = .commaList)
    (x z : Nat) (hx : InlineDesc nodes l x) (hz : InlineDesc nodes r z)
    (kx kz kp : Nat) (hkx : d.metadata.size ≤ kx) (hkz : d.metadata.size ≤ kz) (hkp : d.metadata.size ≤ kp)
    (hmx : d'.metadata[kx]? = some (some x)) (hmz : d'.metadata[kz]? = some (some z))
    (hmp : d'.metadata[kp]? = some (some p)) : kx < kz ∧ kx < kp ∧ kz < kp := by
  have hB := isB_of (d := pn.definition) (Or.inr hdef)
  have h1 := inline_operands parseFloat fuel root nodes d d' entry h p l r pn hp hB hl hr x z hx hz kx kz hkx hkz hmx hmz
  refine ⟨?_, inline_child_first parseFloat fuel root nodes d d' entry h p l pn hp hB (Or.inl hl) x hx kx kp hkx hkp hmx hmp,
    inline_child_first parseFloat fuel root nodes d d' entry h p r pn hp hB (Or.inr hr) z hz kz kp hkz hkp hmz hmp⟩
  rw [if_neg (by rcases hdef with e | e <;> rw [e] <;> nofun)] at h1
  exact h1

/-- the operand of a list node that has only one child comes before the list's own `MakeList` -/
theorem C04_inline_child_before_parent (parseFloat : List Char → Option F) (fuel root : Nat) (nodes : Array ParseNode)
    (d d' : BState F) (entry : Nat) (h : build parseFloat fuel root nodes d = .ok (d', entry))
    (p c : Nat) (pn : ParseNode) (hp : nodes[p]? = some pn) (hc : pn.left = some c ∨ pn.right = some c)
    (hd : (inlineBinary pn.definition).isSome = true ∨ pn.definition = .list ∨ pn.definition = .commaList)
    (x : Nat) (hx : InlineDesc nodes c x) (kx kp : Nat) (hkx : d.metadata.size ≤ kx) (hkp : d.metadata.size ≤ kp)
    (hmx : d'.metadata[kx]? = some (some x)) (hmp : d'.metadata[kp]? = some (some p)) : kx < kp :=
  inline_child_first parseFloat fuel root nodes d d' entry h p c pn hp (isB_of hd) hc x hx kx kp hkx hkp hmx hmp

/-- The order of the instructions attributed to the two operands of an inline binary operator and to the operator: the
`x = l`, `z = r` instance of `C04_sibling_order`. -/
def C04_sibling_order_statement (F : Type) : Prop :=
  ∀ (parseFloat : List Char → Option F) (fuel root : Nat) (nodes : Array ParseNode) (d d' : BState F) (entry : Nat),
    build parseFloat fuel root nodes d = .ok (d', entry) →
    ∀ (p l r : Nat) (pn : ParseNode) (swapped : Bool), nodes[p]? = some pn → pn.left = some l → pn.right = some r →
      inlineBinary pn.definition = some swapped →
      ∀ kl kr kp : Nat, d.metadata.size ≤ kl → d.metadata.size ≤ kr → d.metadata.size ≤ kp →
        d'.metadata[kl]? = some (some l) → d'.metadata[kr]? = some (some r) → d'.metadata[kp]? = some (some p) →
        (if swapped then kr < kl else kl < kr) ∧ kl < kp ∧ kr < kp

theorem C04_sibling_order_statement_proved (F : Type) : C04_sibling_order_statement F := by
  intro parseFloat fuel root nodes d d' entry h p l r pn swapped hp hl hr hib kl kr kp hkl hkr hkp hml hmr hmp
  exact C04_sibling_order parseFloat fuel root nodes d d' entry h p l r pn swapped hp hl hr hib l r
    (InlineDesc.refl nodes l) (InlineDesc.refl nodes r) kl kr kp hkl hkr hkp hml hmr hmp

/-! The remaining in-line cases (ElseJump, Subexpression / ExpressionSeparator, value-like nodes with side-effect blocks,
one-operand nodes, SideEffect brackets) and the out-of-line parts are proved in Props/C04Order.lean / Props/C04Eval.lean with
the general invariant of Lemmas/BuildSeq*.lean: `C04Order.C04_sibling_order_rest` proves `C04_sibling_order_rest_statement`, in
which a `Subexpression` node has to be reachable from the root (the validation lets `Subexpression` nodes stay outside the tree;
the stale links of such a node say nothing about the order). -/

/-! ### non-vacuity -/

/-- `5 + 5` as a node vector -/
def exampleTree : Array ParseNode := #[
  ⟨.number, .value, some 1, none, none, ⟨['5'], .number, 0, 0⟩⟩,
  ⟨.addition, .binaryLeftToRight, none, some 0, some 2, ⟨['+'], .plusSign, 0, 0⟩⟩,
  ⟨.number, .value, some 1, none, none, ⟨['5'], .number, 0, 1⟩⟩]

/-- the build succeeds and attributes an instruction to each of the three nodes, operands before the operator -/
example : (match build (F := Unit) (fun _ => none) (defaultFuel 3) 1 exampleTree BState.empty with
    | .ok (d', _) => d'.metadata.toList
    | _ => []) = [some 0, some 2, some 1, none] := by decide

example (d' : BState Unit) (entry : Nat)
    (h : build (fun _ => none) (defaultFuel 3) 1 exampleTree BState.empty = .ok (d', entry)) :
    ∃ k : Nat, d'.metadata[k]? = some (some 1) := by
  obtain ⟨k, _, hk⟩ := C04_build_attributes_every_node (fun _ => none) _ 1 exampleTree BState.empty d' entry h 1 _ rfl rfl
  exact ⟨k, hk⟩

/-- the order theorem applied to `5 + 5`: left operand, right operand, operator -/
example (d' : BState Unit) (entry : Nat)
    (h : build (fun _ => none) (defaultFuel 3) 1 exampleTree BState.empty = .ok (d', entry))
    (kl kr kp : Nat) (hl : d'.metadata[kl]? = some (some 0)) (hr : d'.metadata[kr]? = some (some 2))
    (hp : d'.metadata[kp]? = some (some 1)) : kl < kr ∧ kl < kp ∧ kr < kp := by
  have := C04_sibling_order (fun _ => none) _ 1 exampleTree BState.empty d' entry h 1 0 2 _ false rfl rfl rfl rfl 0 2
    (InlineDesc.refl _ _) (InlineDesc.refl _ _) kl kr kp (Nat.zero_le _) (Nat.zero_le _) (Nat.zero_le _) hl hr hp
  simpa using this

/-- `1 = 2` (Pair): the right operand is emitted first -/
def examplePair : Array ParseNode := #[
  ⟨.number, .value, some 1, none, none, ⟨['1'], .number, 0, 0⟩⟩,
  ⟨.pair, .binaryLeftToRight, none, some 0, some 2, ⟨['='], .pair, 0, 0⟩⟩,
  ⟨.number, .value, some 1, none, none, ⟨['2'], .number, 0, 1⟩⟩]

example : (match build (F := Unit) (fun _ => none) (defaultFuel 3) 1 examplePair BState.empty with
    | .ok (d', _) => d'.metadata.toList
    | _ => []) = [some 2, some 0, some 1, none] := by decide

example (d' : BState Unit) (entry : Nat)
    (h : build (fun _ => none) (defaultFuel 3) 1 examplePair BState.empty = .ok (d', entry))
    (kl kr kp : Nat) (hl : d'.metadata[kl]? = some (some 0)) (hr : d'.metadata[kr]? = some (some 2))
    (hp : d'.metadata[kp]? = some (some 1)) : kr < kl ∧ kl < kp ∧ kr < kp := by
  have := C04_sibling_order (fun _ => none) _ 1 examplePair BState.empty d' entry h 1 0 2 _ true rfl rfl rfl rfl 0 2
    (InlineDesc.refl _ _) (InlineDesc.refl _ _) kl kr kp (Nat.zero_le _) (Nat.zero_le _) (Nat.zero_le _) hl hr hp
  simpa using this

/-- `1 2 3` : `List(List(1, 2), 3)`, root 3; the inner list node forwards its items to the outer one -/
def exampleList : Array ParseNode := #[
  ⟨.number, .value, some 1, none, none, ⟨['1'], .number, 0, 0⟩⟩,
  ⟨.list, .binaryLeftToRight, some 3, some 0, some 2, ⟨[' '], .whitespace, 0, 1⟩⟩,
  ⟨.number, .value, some 1, none, none, ⟨['2'], .number, 0, 2⟩⟩,
  ⟨.list, .binaryLeftToRight, none, some 1, some 4, ⟨[' '], .whitespace, 0, 3⟩⟩,
  ⟨.number, .value, some 3, none, none, ⟨['3'], .number, 0, 4⟩⟩]

example : (match build (F := Unit) (fun _ => none) (defaultFuel 5) 3 exampleList BState.empty with
    | .ok (d', _) => d'.metadata.toList
    | _ => []) = [some 0, some 2, some 4, some 3, none] := by decide

/-- the second item (node 2, below the inner list node 1) comes before the third item (node 4) and before `MakeList` -/
example (d' : BState Unit) (entry : Nat)
    (h : build (fun _ => none) (defaultFuel 5) 3 exampleList BState.empty = .ok (d', entry))
    (k2 k4 kp : Nat) (h2 : d'.metadata[k2]? = some (some 2)) (h4 : d'.metadata[k4]? = some (some 4))
    (hp : d'.metadata[kp]? = some (some 3)) : k2 < k4 ∧ k2 < kp ∧ k4 < kp :=
  C04_list_items_in_order (fun _ => none) _ 3 exampleList BState.empty d' entry h 3 1 4 _ rfl rfl rfl (Or.inl rfl) 2 4
    (InlineDesc.step (pw := exampleList[1]) (InlineDesc.refl _ _) rfl (Or.inr (Or.inl rfl)) (Or.inr rfl)) (InlineDesc.refl _ _)
    k2 k4 kp (Nat.zero_le _) (Nat.zero_le _) (Nat.zero_le _) h2 h4 hp

end Garnish.Props.C04Build
