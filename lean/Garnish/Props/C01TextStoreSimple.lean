/-
`ProgramLoaded` (Props/C01TextStore.lean) for the model of `SimpleGarnishData` (Model/Runtime/SimpleStore.lean): the
state `loadSimple P pc input` — the constants of the built program at their own addresses, then the input value, the
instruction and jump tables, the cursor — has the program loaded and satisfies the invariant `SInv` of
Props/RuntimeRefineSimple.lean, provided the constants are leaves Simple can hold (a symbol list has symbol parts
only) and the first three are Unit, False, True (the builder works on a `SimpleGarnishData`, which preallocates them).
Since `simpleRStore` meets the store contract only in the relativised form `SimpleLaws` (`C01_simpleStore_not_laws`),
`C01_text_to_store` does not apply to it as it stands; this file discharges its LOADING hypothesis only.
-/
import Garnish.Props.C01TextStore
import Garnish.Props.RuntimeRefineSimple
namespace Garnish.Props.C01TextStore
open Garnish Garnish.Gen Garnish.Abs
open Garnish.Model.Equality Garnish.Model.Runtime Garnish.Lemmas.Runtime Garnish.Lemmas.Runtime.Simple
open Garnish.Props.RuntimeRefine

variable {F : Type}

def symOf : SymPart F → Nat
  | .sym s => s
  | .num _ => 0

/-- the cell of a constant -/
def simCellOfVal : Val F → SimCell F
  | .unit => .unit | .tru => .tru | .fls => .fls | .num n => .num n | .char c => .char c | .byte b => .byte b
  | .sym y => .sym y | .expr j => .expr j | .ext n => .ext n | .type t => .type t | .chars cs => .chars cs
  | .bytes bs => .bytes bs | .symList ps => .symList (ps.map symOf) | _ => .custom

/-- a leaf Simple can hold -/
def isLeafS : Val F → Bool
  | .pair _ _ | .list _ | .concat _ _ | .range _ _ | .slice _ _ | .part _ _ => false
  | .symList ps => ps.all (fun p => match p with | .sym _ => true | .num _ => false)
  | _ => true

theorem symOf_map : ∀ (ps : List (SymPart F)), ps.all (fun p => match p with | .sym _ => true | .num _ => false) = true →
    (ps.map symOf).map SymPart.sym = ps
  | [], _ => rfl
  | p :: ps, hp => by
    rw [List.all_cons, Bool.and_eq_true] at hp
    rw [List.map_cons, List.map_cons, symOf_map ps hp.2]
    cases p with
    | sym s => rfl
    | num n => cases hp.1

theorem simLeaf_decodes {cells : List (SimCell F)} {k : Nat} {v : Val F} (hc : cells[k]? = some (simCellOfVal v))
    (hl : isLeafS v = true) : Decodes (simView cells) k v := by
  cases v <;> try (cases hl; done)
  case unit => exact dec_unit hc
  case tru => exact dec_tru hc
  case fls => exact dec_fls hc
  case num n => exact dec_num hc
  case char c => exact dec_char hc
  case byte b => exact dec_byte hc
  case sym y => exact dec_sym hc
  case type t => exact dec_type hc
  case expr j =>
    have hc : cells[k]? = some (.expr j) := hc
    exact .expr (typeOf_cell hc) (by simp only [simView, hc])
  case ext n =>
    have hc : cells[k]? = some (.ext n) := hc
    exact .ext (typeOf_cell hc) (by simp only [simView, hc])
  case chars cs =>
    have hc : cells[k]? = some (.chars cs) := hc
    exact .chars (typeOf_cell hc) (by simp only [simView, hc])
  case bytes bs =>
    have hc : cells[k]? = some (.bytes bs) := hc
    exact .bytes (typeOf_cell hc) (by simp only [simView, hc])
  case symList ps =>
    have := dec_symList (F := F) hc
    rw [symOf_map ps hl] at this; exact this
  case custom =>
    have hc : cells[k]? = some .custom := hc
    exact .custom (typeOf_cell hc)

/-- `SimpleGarnishData` with `P` loaded: the constants at their own addresses, then the input value -/
def loadSimple (P : Prog F) (pc : Nat) (input : Val F) : SimState F :=
  { cells := P.consts.toList.map simCellOfVal ++ [simCellOfVal input], register := [], values := [P.consts.size],
    currentList := none, instrs := P.instrs.toList, jumps := P.jumps.toList, cursor := pc, trace := [] }

theorem C01_loadSimple_loaded (hit : List (SimCell F) → SimCell F → Option Nat) (h : SimHost F) (P : Prog F) (pc : Nat)
    (input : Val F) (hc : P.consts.toList.all isLeafS = true) (hi : isLeafS input = true) :
    ProgramLoaded (simpleRStore hit h) P pc (loadSimple P pc input) input where
  cursor := rfl
  regs := rfl
  frames := rfl
  vals := ⟨P.consts.size, rfl, by
    show Decodes (simView (P.consts.toList.map simCellOfVal ++ [simCellOfVal input])) P.consts.size input
    exact simLeaf_decodes (by simp) hi⟩
  instrs i := by show P.instrs.toList[i]? = P.instrs[i]?; simp
  jumps j := by show P.jumps.toList[j]? = P.jumps[j]?; simp
  ilen := by show P.instrs.toList.length = P.instrs.size; simp
  consts k v hk := by
    show Decodes (simView (P.consts.toList.map simCellOfVal ++ [simCellOfVal input])) k v
    exact simLeaf_decodes (load_cells_get simCellOfVal input hk)
      ((List.all_eq_true.mp hc) v (Array.mem_toList_iff.2 (Array.mem_of_getElem? hk)))

/-- the loaded state satisfies the invariant of the relativised contract -/
theorem C01_loadSimple_inv (P : Prog F) (pc : Nat) (input : Val F) (h0 : P.consts[0]? = some .unit)
    (h1 : P.consts[1]? = some .fls) (h2 : P.consts[2]? = some .tru) : SInv (loadSimple P pc input) := by
  exact ⟨⟨load_cells_get simCellOfVal input h0, load_cells_get simCellOfVal input h1, load_cells_get simCellOfVal input h2⟩,
    fun _ hb => by cases hb⟩

end Garnish.Props.C01TextStore
