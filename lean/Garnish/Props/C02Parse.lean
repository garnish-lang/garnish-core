/-
C02 / C04 / C18 for the statement-level model of the real parser (`Garnish.Model.Parser.parse`), on an operator fragment,
for ALL token lists of the fragment (no length bound).

Fragment (decidable recogniser `Spec.frag4`):   value (trivia* binop trivia* value)*
  value  = a token of class Value / Identifier whose definition has priority 10 (numbers, identifiers, symbols, unit, `$`,
           char / byte lists, true / false, ...; not `;;`, not Unknown)
  binop  = any BinaryLeftToRight / BinaryRightToLeft token: all binary operators of every priority, the conditionals,
           apply forms, access `.`, ranges, ..., and the right-to-left pair `=`
  trivia = Whitespace, Annotation, LineAnnotation tokens, any number of them, between any two tokens
`Spec.frag1` is the sub-fragment without trivia.

Proved (Garnish/Lemmas/ParserFlat: the bracket-free stages are instances of the theorem about syntax trees,
`parse_ex_full` of Lemmas/ParserBSyntax, which also gives acceptance whatever positions the tokens carry; trivia
insensitivity: ParserTrivia, ParserFrag4):
  whenever the model of `parse` accepts such a list, its node array is a proper tree (`toTree r = some t`) and this tree
  IS the tree the reference parser returns — hence it satisfies the precedence condition of the table, its in-order walk
  is exactly the significant tokens in source order, and (uniqueness) it is the only such tree;
  and the result of `parse` does not depend on the trivia at all.
Token positions: the theorems assume that token `i` of the list carries `i` in its `col` field (`NumberedFrom 0 toks`,
what the harness' `!tokidx` mode and `numbered` do), because the tree records the positions of its tokens.
Acceptance (`parse` returns `Ok` on every list of the fragment) is `C02_parse_accepts_fragment`; `C02_modelParse_binary`
is the unconditional form.  Stage 2 (prefix operators in operand position, fragment `Spec.frag2`) is
`C02_parse_correct_fragment_prefix`, stage 3 (suffix operators, fragment `Spec.frag3`) is
`C02_parse_correct_fragment_suffix`; both unconditional as well.  Stage 5 (groups `( .. )` and nested expressions
`{ .. }` as operands, to any depth, fragment `Spec.frag5`) is `C02_parse_correct_fragment_groups`; side-effect blocks
`[ body ]` and `v [ body ]` with a body of that fragment are `C02_parse_block_body` / `C02_parse_block_body_after_value`
(the subtree under the SideEffect node is the reference tree of the body).  Stage 6a (implicit space lists `a b`,
`f (x) y`, `a -- b`, fragment `Spec.frag6`) is `C02_parse_correct_fragment_lists`; stage 6b (`,` and infix identifiers
between two operands, fragment `Spec.frag7`) is `C02_parse_correct_fragment_commas`; stage 7 (separators, fragment
`Spec.frag8`) is `C02_parse_correct_fragment_separators`; stage 8 (commas / infix identifiers with a missing operand,
`frag9`) is `C02_parse_correct_fragment_optional`; `C04_parse_proper_refgrammar` / `C04_parse_proper_refgrammar9`
are the C04 parser half on the final fragment.  Side-effect blocks as the right operand of an operator:
`C02_parse_block_as_operand` (`e op [ body ]`) and `C02_parse_block_then_value` (`e op [ body ] v`, the `last_left` jump:
the block ends up as the LEFT child of `v`).
-/
import Garnish.Lemmas.ParserFrag4
import Garnish.Lemmas.ParserPrefix
import Garnish.Lemmas.ParserSuffix
import Garnish.Lemmas.ParserFlat
import Garnish.Lemmas.ParserBBlock
import Garnish.Lemmas.ParseBlocksOp
import Garnish.Lemmas.RefParseShift
import Garnish.Lemmas.ParserBSyntax
import Garnish.Lemmas.RefParseInorder
import Garnish.Lemmas.RefParseUnique
import Garnish.Props.C02
namespace Garnish.Props.C02Parse
open Garnish Garnish.Gen Garnish.Model.Parser Garnish.Spec

/-- the reference-tree image used in the statements is `Props.C02.treeToR` -/
theorem C02_toRd_eq_treeToR (r : ParseResult) : ∀ t : Tree, toRd (dfOf r.nodes) t = Garnish.Props.C02.treeToR r t
  | .nil => rfl
  | .node l i k rt => by
    simp only [toRd, Garnish.Props.C02.treeToR, C02_toRd_eq_treeToR r l, C02_toRd_eq_treeToR r rt]
    rfl

/-- **stage 1** — `value (binop value)*`: the model of `parse` computes the reference tree -/
theorem C02_parse_correct_frag1 (toks : List PToken) (hf : frag1 toks = true) (hnum : NumberedFrom 0 toks)
    (r : ParseResult) (h : parse toks = .ok r) :
    ∃ t, toTree r = some t ∧ refParse Table.gen toks = .ok (Garnish.Props.C02.treeToR r t) := by
  obtain ⟨t, h1, h2⟩ := parse_flat_of_ok (frag1_flat hf) hnum r h
  exact ⟨t, h1, by rw [← C02_toRd_eq_treeToR]; exact h2⟩

/-- **stage 1 + 4** — `value (trivia* binop trivia* value)*`: the model of `parse` computes the reference tree -/
theorem C02_parse_correct_fragment (toks : List PToken) (hf : frag4 toks = true) (hnum : NumberedFrom 0 toks)
    (r : ParseResult) (h : parse toks = .ok r) :
    ∃ t, toTree r = some t ∧ refParse Table.gen toks = .ok (Garnish.Props.C02.treeToR r t) := by
  obtain ⟨t, h1, h2⟩ := parse_flat_of_ok (frag4_flat hf) hnum r h
  exact ⟨t, h1, by rw [← C02_toRd_eq_treeToR]; exact h2⟩

/-- the same with the committed language table -/
theorem C02_parse_correct_fragment_spec (toks : List PToken) (hf : frag4 toks = true) (hnum : NumberedFrom 0 toks)
    (r : ParseResult) (h : parse toks = .ok r) :
    ∃ t, toTree r = some t ∧ refParse Table.spec toks = .ok (Garnish.Props.C02.treeToR r t) := by
  rw [← Garnish.Props.C02.C02_bridge_table]; exact C02_parse_correct_fragment toks hf hnum r h

/-- what agreement with the reference parser gives in the declarative vocabulary: proper tree, precedence condition,
    in-order = significant tokens -/
theorem precOK_inorder_of_ref {toks : List PToken} {r : ParseResult} {t : Tree} {rt : RTree} (h1 : toTree r = some t)
    (h2 : refParse Table.gen toks = .ok rt) :
    ProperTree r ∧ PrecOK Table.gen Table.gen.rtl rt ∧ rt.inorderSig = significant toks :=
  ⟨⟨t, (toTree_some_iff r t).mp h1⟩, Garnish.Props.C02.C02_refParse_precOK_gen toks _ h2, refParse_inorder toks _ h2⟩

/-- consequences in the declarative vocabulary: proper tree, precedence condition, in-order = significant tokens -/
theorem C02_parse_fragment_precOK_inorder (toks : List PToken) (hf : frag4 toks = true) (hnum : NumberedFrom 0 toks)
    (r : ParseResult) (h : parse toks = .ok r) :
    ∃ t, toTree r = some t ∧ ProperTree r ∧ PrecOK Table.gen Table.gen.rtl (Garnish.Props.C02.treeToR r t) ∧
      (Garnish.Props.C02.treeToR r t).inorderSig = significant toks := by
  obtain ⟨t, h1, h2⟩ := C02_parse_correct_fragment toks hf hnum r h
  exact ⟨t, h1, precOK_inorder_of_ref h1 h2⟩

/-- C04 on the fragment: an accepted list yields a proper tree -/
theorem C04_parse_proper_fragment (toks : List PToken) (hf : frag4 toks = true) (hnum : NumberedFrom 0 toks)
    (r : ParseResult) (h : parse toks = .ok r) : properTree r = true := by
  obtain ⟨t, h1, _⟩ := parse_flat_of_ok (frag4_flat hf) hnum r h
  simp [properTree, h1]

/-- **C18 on the fragment**: Whitespace / Annotation / LineAnnotation tokens between the tokens do not change the result
    of `parse` in any way (same `Ok` with the same root and node array, or the same `Err`) -/
theorem C18_parse_whitespace_insensitive_fragment (toks : List PToken) (hf : frag4 toks = true) :
    parse toks = parse (stripTrivia toks) :=
  parse_frag4_strip toks hf

/-- two lists of the fragment with the same non-trivia tokens parse to the same result -/
theorem C18_parse_same_tokens_same_result (toks toks' : List PToken) (hf : frag4 toks = true) (hf' : frag4 toks' = true)
    (hs : stripTrivia toks = stripTrivia toks') : parse toks = parse toks' := by
  rw [parse_frag4_strip toks hf, parse_frag4_strip toks' hf', hs]

/-- **acceptance**: the model of `parse` returns `Ok` for EVERY token list of the fragment -/
theorem C02_parse_accepts_fragment (toks : List PToken) (hf : frag4 toks = true) : ∃ r, parse toks = .ok r :=
  parse_frag4_ok toks hf

/-- **unconditional form** (what `Props.C02.C02_modelParse_binary_partial` asked for, on the larger fragment with trivia):
    for every token list `value (trivia* binop trivia* value)*` whose tokens carry their positions, the model of `parse`
    accepts, the result is a proper tree, and that tree is the reference tree -/
theorem C02_modelParse_binary (toks : List PToken) (hf : frag4 toks = true) (hnum : NumberedFrom 0 toks) :
    ∃ r t, parse toks = .ok r ∧ toTree r = some t ∧ refParse Table.gen toks = .ok (Garnish.Props.C02.treeToR r t) := by
  obtain ⟨r, hr⟩ := parse_frag4_ok toks hf
  obtain ⟨t, h1, h2⟩ := C02_parse_correct_fragment toks hf hnum r hr
  exact ⟨r, t, hr, h1, h2⟩

/-! ### non-vacuity: concrete lists of the fragment that the model accepts -/

def tk (t : TokenType) (s : String) (k : Nat) : PToken := { text := s.toList, type := t, row := 0, col := k }

/-- `a + 2 * 3 = b = 4 == 5` (five operators, four priorities, right-to-left `=`) -/
def ex1 : List PToken :=
  [tk .identifier "a" 0, tk .plusSign "+" 1, tk .number "2" 2, tk .multiplicationSign "*" 3, tk .number "3" 4,
   tk .pair "=" 5, tk .identifier "b" 6, tk .pair "=" 7, tk .number "4" 8, tk .equality "==" 9, tk .number "5" 10]

/-- `a  + 2*3 @x ** b .c  ?> 4` with whitespace / annotation tokens in all positions -/
def ex2 : List PToken :=
  [tk .identifier "a" 0, tk .whitespace "  " 1, tk .plusSign "+" 2, tk .whitespace " " 3, tk .number "2" 4,
   tk .multiplicationSign "*" 5, tk .number "3" 6, tk .whitespace " " 7, tk .annotation "@x" 8, tk .whitespace " " 9,
   tk .exponentialSign "**" 10, tk .whitespace " " 11, tk .identifier "b" 12, tk .whitespace " " 13, tk .period "." 14,
   tk .identifier "c" 15, tk .whitespace "  " 16, tk .jumpIfTrue "?>" 17, tk .whitespace " " 18, tk .number "4" 19]

theorem ex1_in_fragment : frag1 ex1 = true ∧ frag4 ex1 = true := by decide +kernel
theorem ex1_numbered : NumberedFrom 0 ex1 := by decide +kernel
theorem ex1_accepted : (parse ex1).isOk = true :=
  let ⟨_, h⟩ := C02_parse_accepts_fragment ex1 ex1_in_fragment.2; Outcome.isOk_iff.mpr ⟨_, h⟩
theorem ex2_in_fragment : frag4 ex2 = true := by decide +kernel
theorem ex2_numbered : NumberedFrom 0 ex2 := by decide +kernel
theorem ex2_accepted : (parse ex2).isOk = true :=
  let ⟨_, h⟩ := C02_parse_accepts_fragment ex2 ex2_in_fragment; Outcome.isOk_iff.mpr ⟨_, h⟩

/-! ### stage 2: prefix operators

Fragment `Spec.frag2` (decidable):   (prefix* value) (trivia* binop trivia* prefix* value)*
with prefix = any UnaryPrefix token (`--`, `++`, `!`, `!!`, `??`, `#`, `_.`, `^~`, prefix identifiers). -/

/-- **stage 2, unconditional**: for every token list of the fragment whose tokens carry their positions, the model of `parse`
    accepts, its node array is a proper tree, and that tree is the reference tree.  In particular the equal-priority tie
    between the prefix operators Not / Tis (priority 400) and `==` `!=` `#=` (priority 400, left-to-right) is resolved as
    the table says: `!! a == b` is `(!! a) == b`, see `ex3`. -/
theorem C02_parse_correct_fragment_prefix (toks : List PToken) (hf : frag2 toks = true) (hnum : NumberedFrom 0 toks) :
    ∃ r t, parse toks = .ok r ∧ toTree r = some t ∧ refParse Table.gen toks = .ok (Garnish.Props.C02.treeToR r t) := by
  obtain ⟨r, t, h1, h2, h3⟩ := parse_flat (frag2_flat hf) hnum
  exact ⟨r, t, h1, h2, by rw [← C02_toRd_eq_treeToR]; exact h3⟩

theorem C02_parse_accepts_fragment_prefix (toks : List PToken) (hf : frag2 toks = true) (hnum : NumberedFrom 0 toks) :
    ∃ r, parse toks = .ok r := by
  obtain ⟨r, _, h1, _⟩ := parse_flat (frag2_flat hf) hnum
  exact ⟨r, h1⟩

theorem C02_parse_fragment_prefix_precOK_inorder (toks : List PToken) (hf : frag2 toks = true) (hnum : NumberedFrom 0 toks) :
    ∃ r t, parse toks = .ok r ∧ toTree r = some t ∧ ProperTree r ∧
      PrecOK Table.gen Table.gen.rtl (Garnish.Props.C02.treeToR r t) ∧
      (Garnish.Props.C02.treeToR r t).inorderSig = significant toks := by
  obtain ⟨r, t, h0, h1, h2⟩ := C02_parse_correct_fragment_prefix toks hf hnum
  exact ⟨r, t, h0, h1, precOK_inorder_of_ref h1 h2⟩

/-- `!!a == b + --c * 2 ** ?? d`: four binary operators of four priorities, three prefix operators, and the tie
    Not (400) against Equality (400) -/
def ex3 : List PToken :=
  [tk .not "!!" 0, tk .identifier "a" 1, tk .whitespace " " 2, tk .equality "==" 3, tk .whitespace " " 4,
   tk .identifier "b" 5, tk .whitespace " " 6, tk .plusSign "+" 7, tk .whitespace " " 8, tk .opposite "--" 9,
   tk .identifier "c" 10, tk .whitespace " " 11, tk .multiplicationSign "*" 12, tk .whitespace " " 13, tk .number "2" 14,
   tk .whitespace " " 15, tk .exponentialSign "**" 16, tk .whitespace " " 17, tk .tis "??" 18, tk .identifier "d" 19]

theorem ex3_in_fragment : frag2 ex3 = true := by decide +kernel
theorem ex3_numbered : NumberedFrom 0 ex3 := by decide +kernel
theorem ex3_accepted : (parse ex3).isOk = true :=
  let ⟨_, _, h, _⟩ := C02_parse_correct_fragment_prefix ex3 ex3_in_fragment ex3_numbered; Outcome.isOk_iff.mpr ⟨_, h⟩

/-- the tie `!! a == b`: the reference tree (hence, by `C02_parse_correct_fragment_prefix`, the tree of the model) is
    `(!! a) == b` -/
def exTie : List PToken := [tk .not "!!" 0, tk .identifier "a" 1, tk .equality "==" 2, tk .identifier "b" 3]
theorem exTie_in_fragment : frag2 exTie = true := by decide +kernel
theorem exTie_tree : refParse Table.gen exTie =
    .ok (.node (.node .nil .not 0 (.node .nil .identifier 1 .nil)) .equality 2 (.node .nil .identifier 3 .nil)) := by
  rfl

/-! ### stage 3: suffix operators

Fragment `Spec.frag3` (decidable):   (prefix* value suffix*) (trivia* binop trivia* prefix* value suffix*)*
with suffix = any UnarySuffix token (`~~`, `._`, `.|`, suffix identifiers).  The node at the bottom of the right spine can
be a suffix operator, which may stop the next operator (`a ~~ . b`: Access 30 < EmptyApply 40): then `parse_token`
takes its `parent == true_left` branch and the new operator gets no left operand — the reference parser does the same. -/

/-- **stage 3, unconditional** -/
theorem C02_parse_correct_fragment_suffix (toks : List PToken) (hf : frag3 toks = true) (hnum : NumberedFrom 0 toks) :
    ∃ r t, parse toks = .ok r ∧ toTree r = some t ∧ refParse Table.gen toks = .ok (Garnish.Props.C02.treeToR r t) := by
  obtain ⟨r, t, h1, h2, h3⟩ := parse_flat (frag3_flat hf) hnum
  exact ⟨r, t, h1, h2, by rw [← C02_toRd_eq_treeToR]; exact h3⟩

theorem C02_parse_fragment_suffix_precOK_inorder (toks : List PToken) (hf : frag3 toks = true) (hnum : NumberedFrom 0 toks) :
    ∃ r t, parse toks = .ok r ∧ toTree r = some t ∧ ProperTree r ∧
      PrecOK Table.gen Table.gen.rtl (Garnish.Props.C02.treeToR r t) ∧
      (Garnish.Props.C02.treeToR r t).inorderSig = significant toks := by
  obtain ⟨r, t, h0, h1, h2⟩ := C02_parse_correct_fragment_suffix toks hf hnum
  exact ⟨r, t, h0, h1, precOK_inorder_of_ref h1 h2⟩

/-- `a~~ + b._ * --c.| == !!d~~ . e`: four binary operators of four priorities, two prefix and four suffix operators, the
    tie Not (400) / Equality (400), and a suffix node that stops the next operator (`~~` 40 against `.` 30) -/
def ex4 : List PToken :=
  [tk .identifier "a" 0, tk .emptyApply "~~" 1, tk .whitespace " " 2, tk .plusSign "+" 3, tk .whitespace " " 4,
   tk .identifier "b" 5, tk .rightInternal "._" 6, tk .whitespace " " 7, tk .multiplicationSign "*" 8, tk .whitespace " " 9,
   tk .opposite "--" 10, tk .identifier "c" 11, tk .lengthInternal ".|" 12, tk .whitespace " " 13, tk .equality "==" 14,
   tk .whitespace " " 15, tk .not "!!" 16, tk .identifier "d" 17, tk .emptyApply "~~" 18, tk .whitespace " " 19,
   tk .period "." 20, tk .whitespace " " 21, tk .identifier "e" 22]

theorem ex4_in_fragment : frag3 ex4 = true := by decide +kernel
theorem ex4_numbered : NumberedFrom 0 ex4 := by decide +kernel
theorem ex4_accepted : (parse ex4).isOk = true :=
  let ⟨_, _, h, _⟩ := C02_parse_correct_fragment_suffix ex4 ex4_in_fragment ex4_numbered; Outcome.isOk_iff.mpr ⟨_, h⟩

/-! ### stage 5: groups and nested expressions

Fragment `Spec.frag5` (decidable; syntax trees `Spec.Ex`):
  operand ::= prefix* value | prefix* `(` trivia* expr trivia* `)` | prefix* `{` trivia* expr trivia* `}`
  expr    ::= operand | expr trivia* binop trivia* operand | expr suffix
to any nesting depth.  The reference parser returns a closed bracket as an opaque `group` node, so the implementation-side
tree is read the same way (`treeToRG`: a node whose definition is Group / NestedExpression becomes `group d k content`).
Proofs: Garnish/Lemmas/ParserBFrame .. ParserBSyntax — one partial tree per open bracket (`NInv` / `UInv`: the frame of the
innermost open bracket; the outer frames are only known to be untouched), the parent walk stopping at the open bracket
(`walkLoop_chain`, `is_our_group`), the walk starting at a closed bracket (`walk_insertC`), the opening bracket
(`step_openB`: pushed like a prefix operator with a dangling `right`, becomes `next_parent` and the current group),
the closing bracket (`step_closeU`: group stack popped, list flag restored, `last_left` := the bracket node), and the
induction over the syntax (`ex_ok`). -/

/-- implementation-side tree as a reference tree, closed brackets as `group` nodes -/
def treeToRG (r : ParseResult) : Tree → RTree
  | .nil => .nil
  | .node l i k rt =>
    if isBracketDef ((r.nodes[i]?).map (·.definition) |>.getD .drop) then
      .group ((r.nodes[i]?).map (·.definition) |>.getD .drop) k (treeToRG r rt)
    else .node (treeToRG r l) ((r.nodes[i]?).map (·.definition) |>.getD .drop) k (treeToRG r rt)

theorem C02_toRG_eq_treeToRG (r : ParseResult) : ∀ t : Tree, toRG (dfOf r.nodes) t = treeToRG r t
  | .nil => rfl
  | .node l i k rt => by
    simp only [toRG, treeToRG, C02_toRG_eq_treeToRG r l, C02_toRG_eq_treeToRG r rt]
    rfl

/-- without brackets `treeToRG` is `treeToR` -/
theorem C02_treeToRG_eq_treeToR (r : ParseResult) (t : Tree)
    (h : ∀ i ∈ t.inorder, isBracketDef (dfOf r.nodes i) = false) : treeToRG r t = Garnish.Props.C02.treeToR r t := by
  rw [← C02_toRG_eq_treeToRG, ← C02_toRd_eq_treeToR, toRG_eq_toRd _ _ h]

/-- **the bracket stages for any feature set** (`frag5` .. `frag8` are `fragF F` for four values of `F`) -/
theorem C02_parse_correct_fragF {F : Fl} (toks : List PToken) (hf : fragF F toks = true) (hnum : NumberedFrom 0 toks) :
    ∃ r t, parse toks = .ok r ∧ toTree r = some t ∧ refParse Table.gen toks = .ok (treeToRG r t) := by
  obtain ⟨r, t, h1, h2, h3⟩ := parse_fragF toks hf hnum
  exact ⟨r, t, h1, h2, by rw [← C02_toRG_eq_treeToRG]; exact h3⟩

/-- **stage 5, unconditional**: for every token list of the fragment with groups and nested expressions whose tokens
    carry their positions, the model of `parse` accepts, its node array is a proper tree, and that tree is the reference
    tree -/
theorem C02_parse_correct_fragment_groups (toks : List PToken) (hf : frag5 toks = true) (hnum : NumberedFrom 0 toks) :
    ∃ r t, parse toks = .ok r ∧ toTree r = some t ∧ refParse Table.gen toks = .ok (treeToRG r t) :=
  C02_parse_correct_fragF toks hf hnum

theorem C02_parse_fragment_groups_precOK_inorder (toks : List PToken) (hf : frag5 toks = true)
    (hnum : NumberedFrom 0 toks) :
    ∃ r t, parse toks = .ok r ∧ toTree r = some t ∧ ProperTree r ∧ PrecOK Table.gen Table.gen.rtl (treeToRG r t) ∧
      (treeToRG r t).inorderSig = significant toks := by
  obtain ⟨r, t, h0, h1, h2⟩ := C02_parse_correct_fragment_groups toks hf hnum
  exact ⟨r, t, h0, h1, precOK_inorder_of_ref h1 h2⟩

/-- `( a + 2 ) * --{ b**(c-1)~~ } == !!(d) . e`: five binary operators of five priorities, two prefix operators in front of
    brackets, a suffix operator after a closed bracket, brackets nested three deep, trivia next to the brackets, and the
    tie Not (400) / Equality (400) with a bracket as the operand of `!!` -/
def ex5 : List PToken :=
  [tk .startGroup "(" 0, tk .identifier "a" 1, tk .whitespace " " 2, tk .plusSign "+" 3, tk .whitespace " " 4,
   tk .number "2" 5, tk .endGroup ")" 6, tk .whitespace " " 7, tk .multiplicationSign "*" 8, tk .whitespace " " 9,
   tk .opposite "--" 10, tk .startExpression "{" 11, tk .whitespace " " 12, tk .identifier "b" 13,
   tk .exponentialSign "**" 14, tk .startGroup "(" 15, tk .identifier "c" 16, tk .subtraction "-" 17, tk .number "1" 18,
   tk .endGroup ")" 19, tk .emptyApply "~~" 20, tk .whitespace " " 21, tk .endExpression "}" 22, tk .whitespace " " 23,
   tk .equality "==" 24, tk .whitespace " " 25, tk .not "!!" 26, tk .startGroup "(" 27, tk .identifier "d" 28,
   tk .endGroup ")" 29, tk .period "." 30, tk .identifier "e" 31]

theorem ex5_in_fragment : frag5 ex5 = true := by decide +kernel
theorem ex5_numbered : NumberedFrom 0 ex5 := by decide +kernel
theorem ex5_accepted : (parse ex5).isOk = true :=
  let ⟨_, _, h, _⟩ := C02_parse_correct_fragment_groups ex5 ex5_in_fragment ex5_numbered; Outcome.isOk_iff.mpr ⟨_, h⟩
/-- the earlier fragments are part of this one -/
theorem ex4_in_frag5 : frag5 ex4 = true ∧ frag5 ex3 = true ∧ frag5 ex2 = true ∧ frag5 ex1 = true := by decide +kernel

/-- the tie with a bracket: `!! ( a ) == b` is `(!! (a)) == b`, and a suffix operator takes the closed bracket as its
    operand: `( a ) ~~` -/
def exTieG : List PToken :=
  [tk .not "!!" 0, tk .startGroup "(" 1, tk .identifier "a" 2, tk .endGroup ")" 3, tk .equality "==" 4,
   tk .identifier "b" 5]
theorem exTieG_in_fragment : frag5 exTieG = true := by decide +kernel
theorem exTieG_tree : refParse Table.gen exTieG =
    .ok (.node (.node .nil .not 0 (.group .group 1 (.node .nil .identifier 2 .nil))) .equality 4
      (.node .nil .identifier 5 .nil)) := by
  rfl

/-! ### side-effect blocks

`[ body ]` and `v [ body ]` are outside of the reference grammar, but the body is an expression like any other: the subtree
the parser builds under the SideEffect node is the reference tree of the body.  The reference parser is run on the body
tokens alone, counting positions from where the body starts in the program (`refLoop Table.gen Frame.top [] k body`; for
`k = 0` this is `refParse` of the body) — this is what the block-body check of tools/props/c02.py compares per input.
`[` goes through `parse_token` with priority 5 (`step_sideOpen`); its `next_parent = Some(current_id)` is what makes the
first token of the body the child of the SideEffect node (`openB_stepSE`: `next_parent = last_left`); `]` restores the list
flag saved on the group stack (`side_body`: `check_for_list` after the block = before the block). -/

/-- **`[ body ]`** with a body of the fragment (`fragF F` for any feature set `F`: frag5 .. frag8): accepted, the root is the SideEffect node (token 0) without left child,
    and the subtree under it is the reference tree of the body -/
theorem C02_parse_block_body (o c : PToken) (wsA wsB body : List PToken) (ho : o.type = .startSideEffect)
    (hc : c.type = .endSideEffect) {F : Fl} (hbody : fragF F body = true) (hwA : ∀ w ∈ wsA, isTriviaTok w = true)
    (hwB : ∀ w ∈ wsB, isTriviaTok w = true) (hnum : NumberedFrom 0 (o :: (wsA ++ (body ++ (wsB ++ [c]))))) :
    ∃ r t, parse (o :: (wsA ++ (body ++ (wsB ++ [c])))) = .ok r ∧ toTree r = some (.node .nil 0 o.col t) ∧
      dfOf r.nodes 0 = .sideEffect ∧
      refLoop Table.gen Frame.top [] (1 + wsA.length) body = .ok (treeToRG r t) := by
  obtain ⟨e, hok, rfl⟩ := fragF_sound hbody
  obtain ⟨r, t, h1, h2, h3, h4⟩ := parse_block o c wsA wsB e ho hc hok hwA hwB hnum
  exact ⟨r, t, h1, h2, h3, by rw [← C02_toRG_eq_treeToRG]; exact h4⟩

/-- **`v [ body ]`** (a value, optional trivia, a block): accepted, the root is the value node (token 0), its right child is
    the SideEffect node (node 1) without left child, and the subtree under that is the reference tree of the body -/
theorem C02_parse_block_body_after_value (v o c : PToken) (ws wsA wsB body : List PToken) (hv : isAtom10 v = true)
    (ho : o.type = .startSideEffect) (hc : c.type = .endSideEffect) {F : Fl} (hbody : fragF F body = true)
    (hws : ∀ w ∈ ws, isTriviaTok w = true) (hwA : ∀ w ∈ wsA, isTriviaTok w = true)
    (hwB : ∀ w ∈ wsB, isTriviaTok w = true)
    (hnum : NumberedFrom 0 (v :: (ws ++ (o :: (wsA ++ (body ++ (wsB ++ [c]))))))) :
    ∃ r t, parse (v :: (ws ++ (o :: (wsA ++ (body ++ (wsB ++ [c])))))) = .ok r ∧
      toTree r = some (.node .nil 0 v.col (.node .nil 1 o.col t)) ∧ dfOf r.nodes 1 = .sideEffect ∧
      refLoop Table.gen Frame.top [] (1 + ws.length + 1 + wsA.length) body = .ok (treeToRG r t) := by
  obtain ⟨e, hok, rfl⟩ := fragF_sound hbody
  obtain ⟨r, t, h1, h2, h3, _, h4, _⟩ := parse_value_block_full v o c ws wsA wsB e hv ho hc hok hws hwA hwB hnum
  exact ⟨r, t, h1, h2, h3, by rw [← C02_toRG_eq_treeToRG]; exact h4⟩

/-- the reference parser run on a body of the fragment from position `k` returns the reference tree of the body shifted
    by `k` -/
theorem refLoop_body_shift {F : Fl} {body : List PToken} {k : Nat} {x : RTree} (hbody : fragF F body = true)
    (h : refLoop Table.gen Frame.top [] k body = .ok x) : ∃ rt, refParse Table.gen body = .ok rt ∧ x = rt.shift k := by
  obtain ⟨e, hok, rfl⟩ := fragF_sound hbody
  exact ex_refLoop_shift e hok h

/-- the same against `refParse` of the body: the subtree under the SideEffect node is the reference tree of the body with
    all positions shifted by the offset of the body in the program (the `shift` of the block-body check) -/
theorem C02_parse_block_body_refParse (o c : PToken) (wsA wsB body : List PToken) (ho : o.type = .startSideEffect)
    (hc : c.type = .endSideEffect) {F : Fl} (hbody : fragF F body = true) (hwA : ∀ w ∈ wsA, isTriviaTok w = true)
    (hwB : ∀ w ∈ wsB, isTriviaTok w = true) (hnum : NumberedFrom 0 (o :: (wsA ++ (body ++ (wsB ++ [c]))))) :
    ∃ r t rt, parse (o :: (wsA ++ (body ++ (wsB ++ [c])))) = .ok r ∧ toTree r = some (.node .nil 0 o.col t) ∧
      dfOf r.nodes 0 = .sideEffect ∧ refParse Table.gen body = .ok rt ∧ treeToRG r t = rt.shift (1 + wsA.length) := by
  obtain ⟨r, t, h1, h2, h3, h4⟩ := C02_parse_block_body o c wsA wsB body ho hc hbody hwA hwB hnum
  obtain ⟨rt, h5, h6⟩ := refLoop_body_shift hbody h4
  exact ⟨r, t, rt, h1, h2, h3, h5, h6⟩

theorem C02_parse_block_body_after_value_refParse (v o c : PToken) (ws wsA wsB body : List PToken)
    (hv : isAtom10 v = true) (ho : o.type = .startSideEffect) (hc : c.type = .endSideEffect) {F : Fl}
    (hbody : fragF F body = true) (hws : ∀ w ∈ ws, isTriviaTok w = true) (hwA : ∀ w ∈ wsA, isTriviaTok w = true)
    (hwB : ∀ w ∈ wsB, isTriviaTok w = true)
    (hnum : NumberedFrom 0 (v :: (ws ++ (o :: (wsA ++ (body ++ (wsB ++ [c]))))))) :
    ∃ r t rt, parse (v :: (ws ++ (o :: (wsA ++ (body ++ (wsB ++ [c])))))) = .ok r ∧
      toTree r = some (.node .nil 0 v.col (.node .nil 1 o.col t)) ∧ dfOf r.nodes 1 = .sideEffect ∧
      refParse Table.gen body = .ok rt ∧ treeToRG r t = rt.shift (1 + ws.length + 1 + wsA.length) := by
  obtain ⟨r, t, h1, h2, h3, h4⟩ := C02_parse_block_body_after_value v o c ws wsA wsB body hv ho hc hbody hws hwA hwB hnum
  obtain ⟨rt, h5, h6⟩ := refLoop_body_shift hbody h4
  exact ⟨r, t, rt, h1, h2, h3, h5, h6⟩

/-- `[ a + (b) * 2 ]` and `7 [ a + (b) * 2 ]` (the two shapes the block-body check wraps every expression in) -/
def exBody : List PToken :=
  [tk .identifier "a" 1, tk .whitespace " " 2, tk .plusSign "+" 3, tk .whitespace " " 4, tk .startGroup "(" 5,
   tk .identifier "b" 6, tk .endGroup ")" 7, tk .multiplicationSign "*" 8, tk .number "2" 9]
def exBlock : List PToken := tk .startSideEffect "[" 0 :: ([] ++ (exBody ++ ([] ++ [tk .endSideEffect "]" 10])))
theorem exBody_in_fragment : frag5 exBody = true := by decide +kernel
theorem exBlock_numbered : NumberedFrom 0 exBlock := by decide +kernel
theorem exBlock_accepted : (parse exBlock).isOk = true :=
  let ⟨_, _, h, _⟩ := C02_parse_block_body (tk .startSideEffect "[" 0) (tk .endSideEffect "]" 10) [] [] exBody rfl rfl
    exBody_in_fragment (by simp) (by simp) exBlock_numbered
  Outcome.isOk_iff.mpr ⟨_, h⟩
theorem exBlock_body_tree : refLoop Table.gen Frame.top [] 1 exBody =
    .ok (.node (.node .nil .identifier 1 .nil) .addition 3
      (.node (.group .group 5 (.node .nil .identifier 6 .nil)) .multiplicationSign 8 (.node .nil .number 9 .nil))) := by
  rfl

/-! ### stage 6a: implicit space lists

Fragment `Spec.frag6` (decidable) = frag5 plus
  expr ::= expr trivia+ operand        (the trivia contains at least one Whitespace token; expr ends with an operand)
at every nesting depth.  Whitespace after a value or a closed bracket sets `check_for_list` (`step_trivia_node`); the first
token of the next operand — value, prefix operator or opening bracket, the three places where parser.rs repeats its
"List flag is set, creating list node before current node" block — inserts a `List` node (priority 220, token = the token
just before) through `parse_token` exactly like a binary operator and is then processed as if that operator had just been
read (`step_list_prefix`, `step_list_open`: the list-mode step yields the state of the ordinary step from `listState`;
`step_list_value`: it yields `listValue`, the value node below the List node, with `next_parent` left as it was before the
List node).
The reference parser does the same in `beforeOperand` (`ref_list_head`).  Proofs: Lemmas/ParserBList. -/

/-- **stage 6a, unconditional**: groups, nested expressions and implicit space lists -/
theorem C02_parse_correct_fragment_lists (toks : List PToken) (hf : frag6 toks = true) (hnum : NumberedFrom 0 toks) :
    ∃ r t, parse toks = .ok r ∧ toTree r = some t ∧ refParse Table.gen toks = .ok (treeToRG r t) :=
  C02_parse_correct_fragF toks hf hnum

theorem C02_parse_fragment_lists_precOK_inorder (toks : List PToken) (hf : frag6 toks = true)
    (hnum : NumberedFrom 0 toks) :
    ∃ r t, parse toks = .ok r ∧ toTree r = some t ∧ ProperTree r ∧ PrecOK Table.gen Table.gen.rtl (treeToRG r t) ∧
      (treeToRG r t).inorderSig = significant toks := by
  obtain ⟨r, t, h0, h1, h2⟩ := C02_parse_correct_fragment_lists toks hf hnum
  exact ⟨r, t, h0, h1, precOK_inorder_of_ref h1 h2⟩

/-- `f (x + 1) --y z = a b * 2`: list items that start with an opening bracket, a prefix operator and a value; the list
    (priority 220) binds looser than `*` (90) and tighter than nothing here but `=` (210, right-to-left): the tie-free
    mix List 220 / Pair 210 / MultiplicationSign 90 / Addition 100 -/
def ex6 : List PToken :=
  [tk .identifier "f" 0, tk .whitespace " " 1, tk .startGroup "(" 2, tk .identifier "x" 3, tk .whitespace " " 4,
   tk .plusSign "+" 5, tk .whitespace " " 6, tk .number "1" 7, tk .endGroup ")" 8, tk .whitespace " " 9,
   tk .opposite "--" 10, tk .identifier "y" 11, tk .annotation "@n" 12, tk .whitespace " " 13, tk .identifier "z" 14,
   tk .whitespace " " 15, tk .pair "=" 16, tk .whitespace " " 17, tk .identifier "a" 18, tk .whitespace " " 19,
   tk .identifier "b" 20, tk .whitespace " " 21, tk .multiplicationSign "*" 22, tk .whitespace " " 23, tk .number "2" 24]

theorem ex6_in_fragment : frag6 ex6 = true ∧ frag5 ex6 = false := by decide +kernel
theorem ex6_numbered : NumberedFrom 0 ex6 := by decide +kernel
theorem ex6_accepted : (parse ex6).isOk = true :=
  let ⟨_, _, h, _⟩ := C02_parse_correct_fragment_lists ex6 ex6_in_fragment.1 ex6_numbered; Outcome.isOk_iff.mpr ⟨_, h⟩
theorem ex5_in_frag6 : frag6 ex5 = true := by decide +kernel

/-- `a b * 2`: the list is looser than `*`: `a (b * 2)`; the List node carries the position of the whitespace token -/
def exList : List PToken :=
  [tk .identifier "a" 0, tk .whitespace " " 1, tk .identifier "b" 2, tk .multiplicationSign "*" 3, tk .number "2" 4]
theorem exList_in_fragment : frag6 exList = true := by decide +kernel
theorem exList_tree : refParse Table.gen exList =
    .ok (.node (.node .nil .identifier 0 .nil) .list 1
      (.node (.node .nil .identifier 2 .nil) .multiplicationSign 3 (.node .nil .number 4 .nil))) := by
  rfl

/-! ### stage 6b: `,` and infix identifiers between two operands

Fragment `Spec.frag7` (decidable) = frag6 plus the tokens of class OptionalBinaryLeftToRight (`,` → CommaList, priority 900;
infix identifiers → InfixApply, priority 152) in binary-operator position with BOTH operands present.  The parser handles
them in the same arm as left-to-right binary operators; the reference parser remembers `optOp` instead of `op`
(`lastAfter`), which makes no difference when an operand follows.  A missing operand (leading / trailing comma, the
`is_optional` reset in the EndGrouping arm) is outside this fragment. -/

/-- **stage 6b, unconditional** -/
theorem C02_parse_correct_fragment_commas (toks : List PToken) (hf : frag7 toks = true) (hnum : NumberedFrom 0 toks) :
    ∃ r t, parse toks = .ok r ∧ toTree r = some t ∧ refParse Table.gen toks = .ok (treeToRG r t) :=
  C02_parse_correct_fragF toks hf hnum

theorem C02_parse_fragment_commas_precOK_inorder (toks : List PToken) (hf : frag7 toks = true)
    (hnum : NumberedFrom 0 toks) :
    ∃ r t, parse toks = .ok r ∧ toTree r = some t ∧ ProperTree r ∧ PrecOK Table.gen Table.gen.rtl (treeToRG r t) ∧
      (treeToRG r t).inorderSig = significant toks := by
  obtain ⟨r, t, h0, h1, h2⟩ := C02_parse_correct_fragment_commas toks hf hnum
  exact ⟨r, t, h0, h1, precOK_inorder_of_ref h1 h2⟩

/-- `(a b, c + 1, --d) `f` {x, y} == z`: commas (900) inside brackets with a space list (220), `+` (100) and a prefix
    operator as items, an infix identifier (152) between two brackets, and `==` (400) -/
def ex7 : List PToken :=
  [tk .startGroup "(" 0, tk .identifier "a" 1, tk .whitespace " " 2, tk .identifier "b" 3, tk .comma "," 4,
   tk .whitespace " " 5, tk .identifier "c" 6, tk .whitespace " " 7, tk .plusSign "+" 8, tk .whitespace " " 9,
   tk .number "1" 10, tk .comma "," 11, tk .whitespace " " 12, tk .opposite "--" 13, tk .identifier "d" 14,
   tk .endGroup ")" 15, tk .whitespace " " 16, tk .infixIdentifier "`f`" 17, tk .whitespace " " 18,
   tk .startExpression "{" 19, tk .identifier "x" 20, tk .comma "," 21, tk .whitespace " " 22, tk .identifier "y" 23,
   tk .endExpression "}" 24, tk .whitespace " " 25, tk .equality "==" 26, tk .whitespace " " 27, tk .identifier "z" 28]

theorem ex7_in_fragment : frag7 ex7 = true ∧ frag6 ex7 = false := by decide +kernel
theorem ex7_numbered : NumberedFrom 0 ex7 := by decide +kernel
theorem ex7_accepted : (parse ex7).isOk = true :=
  let ⟨_, _, h, _⟩ := C02_parse_correct_fragment_commas ex7 ex7_in_fragment.1 ex7_numbered; Outcome.isOk_iff.mpr ⟨_, h⟩
theorem ex6_in_frag7 : frag7 ex6 = true ∧ frag7 ex5 = true := by decide +kernel

/-! ### stage 7: separators

Fragment `Spec.frag8` (decidable) = frag7 plus blank-line `Subexpression` tokens and `;`:
  * between two expressions at top level and inside `{ }`:  `expr trivia* separator (trivia | separator)* operand ..` — the
    first separator is a binary operator of priority 1000 / 990 (`step_sep_op`), further separators are dropped
    (`step_sep_skipB`: `last_left` is a separator node);
  * directly after `{`: dropped (`last_left` is the bracket that opened the frame), directly after `(`: whitespace;
  * inside `( )`: whitespace — `setup_space_list_check(.., under_group)`: after an operand it starts an implicit list,
    before `)` it does nothing (`step_fillU`, `fill_runU`);
  * a blank line before `}`: the separator node is inserted and unlinked again by the EndGrouping arm
    (`step_close_unlink`; the node stays in the array, unreachable — the invariants tolerate such ids, `SortedIn`).
The reference parser has all of this (`ref_sep_stepK`, `ref_sep_trailK`).  Trailing `;` before a closer
or at the end, separators after an operator, and separators inside `[ ]` directly after `[` are outside the reference
grammar.  Proofs: Lemmas/ParserBSep, ParserBBracket. -/

/-- **stage 7, unconditional** -/
theorem C02_parse_correct_fragment_separators (toks : List PToken) (hf : frag8 toks = true)
    (hnum : NumberedFrom 0 toks) :
    ∃ r t, parse toks = .ok r ∧ toTree r = some t ∧ refParse Table.gen toks = .ok (treeToRG r t) :=
  C02_parse_correct_fragF toks hf hnum

theorem C02_parse_fragment_separators_precOK_inorder (toks : List PToken) (hf : frag8 toks = true)
    (hnum : NumberedFrom 0 toks) :
    ∃ r t, parse toks = .ok r ∧ toTree r = some t ∧ ProperTree r ∧ PrecOK Table.gen Table.gen.rtl (treeToRG r t) ∧
      (treeToRG r t).inorderSig = significant toks := by
  obtain ⟨r, t, h0, h1, h2⟩ := C02_parse_correct_fragment_separators toks hf hnum
  exact ⟨r, t, h0, h1, precOK_inorder_of_ref h1 h2⟩

/-- **C04, parser half, for every token list of the final fragment** (a corollary of the stage theorems): `parse` returns
    a proper tree whose in-order walk is exactly the significant tokens in source order -/
theorem C04_parse_proper_refgrammar (toks : List PToken) (hf : frag8 toks = true) (hnum : NumberedFrom 0 toks) :
    ∃ r t, parse toks = .ok r ∧ properTree r = true ∧ ProperTree r ∧ toTree r = some t ∧
      (treeToRG r t).inorderSig = significant toks := by
  obtain ⟨r, t, h0, h1, h2, _, h4⟩ := C02_parse_fragment_separators_precOK_inorder toks hf hnum
  exact ⟨r, t, h0, properTree_complete r h2, h2, h1, h4⟩

/-- two expressions and a nested expression with leading, doubled and trailing separators, a group with a line break used
    as list whitespace, `;` against blank line (990 / 1000):

      a + 1 <blank> b = { <blank> x <blank> <blank> y ; z <blank> } ; (f <blank> 2) -/
def ex8 : List PToken :=
  [tk .identifier "a" 0, tk .plusSign "+" 1, tk .number "1" 2, tk .subexpression "\n\n" 3, tk .identifier "b" 4,
   tk .whitespace " " 5, tk .pair "=" 6, tk .whitespace " " 7, tk .startExpression "{" 8, tk .subexpression "\n\n" 9,
   tk .identifier "x" 10, tk .subexpression "\n\n" 11, tk .subexpression "\n\n" 12, tk .identifier "y" 13,
   tk .whitespace " " 14, tk .expressionSeparator ";" 15, tk .whitespace " " 16, tk .identifier "z" 17,
   tk .subexpression "\n\n" 18, tk .endExpression "}" 19, tk .whitespace " " 20, tk .expressionSeparator ";" 21,
   tk .whitespace " " 22, tk .startGroup "(" 23, tk .identifier "f" 24, tk .subexpression "\n\n" 25, tk .number "2" 26,
   tk .endGroup ")" 27]

theorem ex8_in_fragment : frag8 ex8 = true ∧ frag7 ex8 = false := by decide +kernel
theorem ex8_numbered : NumberedFrom 0 ex8 := by decide +kernel
theorem ex8_accepted : (parse ex8).isOk = true :=
  let ⟨_, _, h, _⟩ := C02_parse_correct_fragment_separators ex8 ex8_in_fragment.1 ex8_numbered
  Outcome.isOk_iff.mpr ⟨_, h⟩
theorem ex7_in_frag8 : frag8 ex7 = true ∧ frag8 ex6 = true ∧ frag8 ex5 = true := by decide +kernel

/-- `{ a <blank> }`: the trailing blank line leaves no node in the tree, `a <blank> b`: the blank line is the root -/
def exTrail : List PToken :=
  [tk .startExpression "{" 0, tk .identifier "a" 1, tk .subexpression "\n\n" 2, tk .endExpression "}" 3]
theorem exTrail_in_fragment : frag8 exTrail = true := by decide +kernel
theorem exTrail_tree : refParse Table.gen exTrail = .ok (.group .nestedExpression 0 (.node .nil .identifier 1 .nil)) := by
  rfl

/-! ### stage 8: `,` and infix identifiers with a missing operand

`frag9 toks` = `frag8 toks` (which also contains the two bracket-level forms) or `expr trivia* ,` at the very end:
  * **leading** `,` / infix identifier as the first token of a frame's expression (top level, after `(` / `{` and the
    trivia / separators that may follow it): `parse_token` starts at the bracket that opened the frame, stops there at
    once (`is_our_group`), `parent == true_left` unsets the left operand — the node is pushed like a prefix operator
    (`expr_lead`);
  * **trailing** `,` before `)` / `}`: the comma is processed like a binary operator, its `right` points to the next id;
    the EndGrouping arm finds `last_left` to be `is_optional` and resets `right` (`step_close_opt`, `opd_bracket_comma`);
  * **trailing** `,` as the very last token: `assumed_right = None` (`parse_ex_comma`).
An infix identifier without right operand is NOT in the fragment: it is not `is_optional`, so its `right` stays dangling
(the reference grammar accepts it; this is outside what `parse` handles properly).  Comma directly before a separator
and a leading comma after a separator are not covered.  Proofs: Lemmas/ParserBOpt, ParserBSyntax. -/

/-- the final fragment -/
def frag9 (toks : List PToken) : Bool := frag8 toks || fragTC ⟨true, true, true⟩ toks

/-- **stage 8, unconditional** -/
theorem C02_parse_correct_fragment_optional (toks : List PToken) (hf : frag9 toks = true) (hnum : NumberedFrom 0 toks) :
    ∃ r t, parse toks = .ok r ∧ toTree r = some t ∧ refParse Table.gen toks = .ok (treeToRG r t) := by
  unfold frag9 at hf
  rcases Bool.or_eq_true _ _ |>.mp hf with h | h
  · exact C02_parse_correct_fragment_separators toks h hnum
  · obtain ⟨e, ws1, k, hok, hw1, hk, rfl⟩ := fragTC_sound h
    obtain ⟨r, t, h1, h2, h3⟩ := parse_ex_comma e hok ws1 k hw1 hk hnum
    exact ⟨r, t, h1, h2, by rw [← C02_toRG_eq_treeToRG]; exact h3⟩

theorem C02_parse_fragment_optional_precOK_inorder (toks : List PToken) (hf : frag9 toks = true)
    (hnum : NumberedFrom 0 toks) :
    ∃ r t, parse toks = .ok r ∧ toTree r = some t ∧ ProperTree r ∧ PrecOK Table.gen Table.gen.rtl (treeToRG r t) ∧
      (treeToRG r t).inorderSig = significant toks := by
  obtain ⟨r, t, h0, h1, h2⟩ := C02_parse_correct_fragment_optional toks hf hnum
  exact ⟨r, t, h0, h1, precOK_inorder_of_ref h1 h2⟩

/-- **C04, parser half, on the final fragment** -/
theorem C04_parse_proper_refgrammar9 (toks : List PToken) (hf : frag9 toks = true) (hnum : NumberedFrom 0 toks) :
    ∃ r t, parse toks = .ok r ∧ properTree r = true ∧ ProperTree r ∧ toTree r = some t ∧
      (treeToRG r t).inorderSig = significant toks := by
  obtain ⟨r, t, h0, h1, h2, _, h4⟩ := C02_parse_fragment_optional_precOK_inorder toks hf hnum
  exact ⟨r, t, h0, properTree_complete r h2, h2, h1, h4⟩

/-- `(, a b, c,) + {`f` x} ,`: a leading comma, a trailing comma before `)`, a leading infix identifier, and a trailing
    comma at the very end -/
def ex9 : List PToken :=
  [tk .startGroup "(" 0, tk .comma "," 1, tk .whitespace " " 2, tk .identifier "a" 3, tk .whitespace " " 4,
   tk .identifier "b" 5, tk .comma "," 6, tk .whitespace " " 7, tk .identifier "c" 8, tk .comma "," 9, tk .endGroup ")" 10,
   tk .whitespace " " 11, tk .plusSign "+" 12, tk .whitespace " " 13, tk .startExpression "{" 14,
   tk .infixIdentifier "`f`" 15, tk .whitespace " " 16, tk .identifier "x" 17, tk .endExpression "}" 18,
   tk .whitespace " " 19, tk .comma "," 20]

theorem ex9_in_fragment : frag9 ex9 = true ∧ frag8 ex9 = false := by decide +kernel
theorem ex9_numbered : NumberedFrom 0 ex9 := by decide +kernel
theorem ex9_accepted : (parse ex9).isOk = true :=
  let ⟨_, _, h, _⟩ := C02_parse_correct_fragment_optional ex9 ex9_in_fragment.1 ex9_numbered
  Outcome.isOk_iff.mpr ⟨_, h⟩
theorem ex8_in_frag9 : frag9 ex8 = true := by decide +kernel

/-- `( a , )`: the comma has a left operand only -/
def exTrailComma : List PToken :=
  [tk .startGroup "(" 0, tk .identifier "a" 1, tk .whitespace " " 2, tk .comma "," 3, tk .whitespace " " 4,
   tk .endGroup ")" 5]
theorem exTrailComma_in_fragment : frag8 exTrailComma = true := by decide +kernel
theorem exTrailComma_tree : refParse Table.gen exTrailComma =
    .ok (.group .group 0 (.node (.node .nil .identifier 1 .nil) .commaList 3 .nil)) := by
  rfl

/-! ### side-effect blocks in operand position

`e op [ body ]`: the block is the right operand of a binary operator.  `[` goes through `parse_token` with priority 5
and `left = last_left` = the operator node; every operator binds looser than 5, so the walk stops at once: the
SideEffect node becomes the operator's right child and has no left operand (`parse_op_block_tail`).  Side effects are outside
the reference grammar, so the statement composes the reference trees of `e` and of the body: the result is
`attach op (tree of e)` with the block `(SideEffect k - body)` plugged in as the operand. -/

theorem C02_parse_block_as_operand {F : Fl} (etoks body : List PToken) (op o c : PToken)
    (ws1 ws2 wsA wsB : List PToken) (he : fragF F etoks = true) (hb : fragF F body = true) (hop : isBin3Tok op = true)
    (ho : o.type = .startSideEffect) (hc : c.type = .endSideEffect) (hw1 : ∀ w ∈ ws1, isTriviaTok w = true)
    (hw2 : ∀ w ∈ ws2, isTriviaTok w = true) (hwA : ∀ w ∈ wsA, isTriviaTok w = true)
    (hwB : ∀ w ∈ wsB, isTriviaTok w = true)
    (hnum : NumberedFrom 0 (etoks ++ (ws1 ++ (op :: (ws2 ++ (o :: (wsA ++ (body ++ (wsB ++ [c]))))))))) :
    ∃ r t te tb q, parse (etoks ++ (ws1 ++ (op :: (ws2 ++ (o :: (wsA ++ (body ++ (wsB ++ [c])))))))) = .ok r ∧
      toTree r = some t ∧ refParse Table.gen etoks = .ok te ∧ refParse Table.gen body = .ok tb ∧
      priority (getDefinition op.type).1 = some q ∧
      treeToRG r t =
        plug (attach Table.gen q ((getDefinition op.type).2 == .binaryRightToLeft) (getDefinition op.type).1
            (etoks.length + ws1.length) te)
          (.node .nil .sideEffect (etoks.length + ws1.length + 1 + ws2.length)
            (tb.shift (etoks.length + ws1.length + 1 + ws2.length + 1 + wsA.length))) := by
  obtain ⟨e, hok, rfl⟩ := fragF_sound he
  obtain ⟨bd, hbok, rfl⟩ := fragF_sound hb
  obtain ⟨r, t, te, tb, q, h1, h2, h3, h4, h5, h6, _⟩ :=
    parse_op_block_tail ⟨hok, hbok, hop, ho, hc, hw1, hw2, hwA, hwB⟩ .fin trivial hnum
  exact ⟨r, t, te, tb, q, h1, h2, h3, h4, h5, by rw [← C02_toRG_eq_treeToRG]; exact h6⟩

/-- `a * 2 + [b c]` -/
def exOpBlock : List PToken :=
  [tk .identifier "a" 0, tk .multiplicationSign "*" 1, tk .number "2" 2] ++
    ([tk .whitespace " " 3] ++ (tk .plusSign "+" 4 :: ([tk .whitespace " " 5] ++ (tk .startSideEffect "[" 6 ::
      ([] ++ ([tk .identifier "b" 7, tk .whitespace " " 8, tk .identifier "c" 9] ++ ([] ++ [tk .endSideEffect "]" 10])))))))
theorem exOpBlock_parts : frag8 [tk .identifier "a" 0, tk .multiplicationSign "*" 1, tk .number "2" 2] = true ∧
    frag8 [tk .identifier "b" 7, tk .whitespace " " 8, tk .identifier "c" 9] = true := by decide +kernel
theorem exOpBlock_numbered : NumberedFrom 0 exOpBlock := by decide +kernel
theorem exOpBlock_accepted : (parse exOpBlock).isOk = true :=
  let ⟨_, _, _, _, _, h, _⟩ := C02_parse_block_as_operand _ _ (tk .plusSign "+" 4) (tk .startSideEffect "[" 6)
    (tk .endSideEffect "]" 10) [tk .whitespace " " 3] [tk .whitespace " " 5] [] [] exOpBlock_parts.1 exOpBlock_parts.2 rfl
    rfl rfl (by simp [isTriviaTok, tk]) (by simp [isTriviaTok, tk]) (by simp) (by simp) exOpBlock_numbered
  Outcome.isOk_iff.mpr ⟨_, h⟩

/-! ### `e op [ body ] v` — the `last_left` jump

After `]` the parser's `last_left` is the SideEffect node; on the next token it jumps to that node's parent (the
operator).  The value `v` is then attached as the operator's right child and the block — the operator's previous right
child — is handed to `v` as its LEFT operand.  Statement: the tree is `attach op (tree of e)` with the operand
`v`-node-with-left-child-block plugged in; `dv` is the definition stored for `v` (Property after `.`). -/

theorem C02_parse_block_then_value {F : Fl} (etoks body : List PToken) (op o c v : PToken)
    (ws1 ws2 wsA wsB ws3 : List PToken) (he : fragF F etoks = true) (hb : fragF F body = true)
    (hop : isBin3Tok op = true) (ho : o.type = .startSideEffect) (hc : c.type = .endSideEffect)
    (hv : isAtom10 v = true) (hw1 : ∀ w ∈ ws1, isTriviaTok w = true)
    (hw2 : ∀ w ∈ ws2, isTriviaTok w = true) (hwA : ∀ w ∈ wsA, isTriviaTok w = true)
    (hwB : ∀ w ∈ wsB, isTriviaTok w = true) (hw3 : ∀ w ∈ ws3, isTriviaTok w = true)
    (hnum : NumberedFrom 0
      (etoks ++ (ws1 ++ (op :: (ws2 ++ (o :: (wsA ++ (body ++ (wsB ++ (c :: (ws3 ++ [v]))))))))))) :
    ∃ r t te tb q,
      parse (etoks ++ (ws1 ++ (op :: (ws2 ++ (o :: (wsA ++ (body ++ (wsB ++ (c :: (ws3 ++ [v])))))))))) = .ok r ∧
      toTree r = some t ∧ refParse Table.gen etoks = .ok te ∧ refParse Table.gen body = .ok tb ∧
      priority (getDefinition op.type).1 = some q ∧
      treeToRG r t =
        plug (attach Table.gen q ((getDefinition op.type).2 == .binaryRightToLeft) (getDefinition op.type).1
            (etoks.length + ws1.length) te)
          (.node
            (.node .nil .sideEffect (etoks.length + ws1.length + 1 + ws2.length)
              (tb.shift (etoks.length + ws1.length + 1 + ws2.length + 1 + wsA.length)))
            (underDef (getDefinition op.type).1 (getDefinition v.type).1)
            (etoks.length + ws1.length + 1 + ws2.length + 1 + wsA.length + body.length + wsB.length + 1 + ws3.length)
            .nil) := by
  obtain ⟨e, hok, rfl⟩ := fragF_sound he
  obtain ⟨bd, hbok, rfl⟩ := fragF_sound hb
  obtain ⟨r, t, te, tb, q, h1, h2, h3, h4, h5, h6, _⟩ :=
    parse_op_block_tail ⟨hok, hbok, hop, ho, hc, hw1, hw2, hwA, hwB⟩ (.value ws3 v) ⟨hw3, hv⟩ hnum
  exact ⟨r, t, te, tb, q, h1, h2, h3, h4, h5, by rw [← C02_toRG_eq_treeToRG]; exact h6⟩

/-- `a + [b c] d` -/
def exBlockVal : List PToken :=
  [tk .identifier "a" 0] ++
    ([tk .whitespace " " 1] ++ (tk .plusSign "+" 2 :: ([tk .whitespace " " 3] ++ (tk .startSideEffect "[" 4 ::
      ([] ++ ([tk .identifier "b" 5, tk .whitespace " " 6, tk .identifier "c" 7] ++ ([] ++ (tk .endSideEffect "]" 8 ::
        ([tk .whitespace " " 9] ++ [tk .identifier "d" 10])))))))))
theorem exBlockVal_parts : frag8 [tk .identifier "a" 0] = true ∧
    frag8 [tk .identifier "b" 5, tk .whitespace " " 6, tk .identifier "c" 7] = true ∧
    isBin3Tok (tk .plusSign "+" 2) = true ∧ isAtom10 (tk .identifier "d" 10) = true := by decide +kernel
theorem exBlockVal_numbered : NumberedFrom 0 exBlockVal := by decide +kernel
theorem exBlockVal_accepted : (parse exBlockVal).isOk = true :=
  let ⟨_, _, _, _, _, h, _⟩ := C02_parse_block_then_value _ _ (tk .plusSign "+" 2) (tk .startSideEffect "[" 4)
    (tk .endSideEffect "]" 8) (tk .identifier "d" 10) [tk .whitespace " " 1] [tk .whitespace " " 3] [] []
    [tk .whitespace " " 9] exBlockVal_parts.1 exBlockVal_parts.2.1 exBlockVal_parts.2.2.1 rfl rfl exBlockVal_parts.2.2.2
    (by simp [isTriviaTok, tk]) (by simp [isTriviaTok, tk]) (by simp) (by simp) (by simp [isTriviaTok, tk])
    exBlockVal_numbered
  Outcome.isOk_iff.mpr ⟨_, h⟩
/-- node ids (trivia make no nodes): `a`=0, `+`=1, `[`=2, `b`=3, list=4, `c`=5, `d`=6.  The value `d` is the right child of
    `+` and the SideEffect node is the LEFT child of `d`. -/
theorem exBlockVal_shape :
    (match parse exBlockVal with
     | .ok r => (r.nodes[1]?.map (fun (n : ParseNode) => n.right),
                 r.nodes[6]?.map (fun (n : ParseNode) => (n.parent, n.left)),
                 r.nodes[2]?.map (fun (n : ParseNode) => (n.definition, n.parent)))
     | _ => (none, none, none)) =
    (some (some 6), some (some 1, some 2), some (Definition.sideEffect, some 6)) := by decide +kernel

end Garnish.Props.C02Parse
