/-
C01 over the relativised contract, coverage group 3: `Apply`, `EmptyApply`, `Reapply` (frames: this is where `Deep` /
`MDeepN` matter — the callee's pops must stay above the registers the frame saved) and `StartSideEffect` /
`EndSideEffect`. Side conditions of the instructions of this group (`MachOKOn3`): `MDeepN`; `ApplyDomain` as in `C01_refine_step`
plus `ApplyDomainOn`: the argument that becomes the input value / the value a look-up arm pushes is not `custom`; a symbol
look-up into a LIST needs the store's `ListSymOn` (Simple: not available, so that arm is excluded there); the
concatenation `input <> argument` of a partial application has no slice operand; `Reapply` / `StartSideEffect`: the value
moved to the value stack is not `custom`.
Covered with this group: 9 + 20 + 12 + 5 = 46 instructions.
The text theorem `C01_text_to_simple_store3` is in namespace `Garnish.Props.C01TextStore`, with those of Props/C01TextStore*.lean.
-/
import Garnish.Props.RuntimeRefineOn2
import Garnish.Lemmas.RuntimeRun
namespace Garnish.Props.RuntimeRefine
open Garnish Gen Garnish.Abs Garnish.Model.Equality Garnish.Model.Runtime Garnish.Lemmas.Runtime
open Garnish.Lemmas.Runtime.On

variable {F σ : Type} {S : RStore F σ} {Inv : σ → Prop} {Rd : σ → Nat → Prop} {P : Prog F} {host : Host F}
  (fo : FloatOps F)

theorem C01_refine_step_on3 (L : StoreLawsOn S Inv Rd) (HR : HostRefinesI S Inv host) (fuel : Nat)
    (H : OtherHandlers σ) {s : σ} {m : MState F} (hsim : Sim S P s m) (hi : Inv s) (hl : Loaded S P s)
    {instr : Instruction} {operand : Option Nat} (hfetch : P.instrs[m.pc]? = some (instr, operand))
    (hok : MachOKOn3 fo S Inv P fuel m instr operand) : StepSimOn fo host S Inv P fuel H s m :=
  refine_step_on3 fo L HR fuel H hsim hi hl hfetch hok

theorem C01_refine_run_on3 (L : StoreLawsOn S Inv Rd) (HR : HostRefinesI S Inv host) (fuel : Nat)
    (H : OtherHandlers σ) (n : Nat) {s : σ} {m : MState F} (hsim : Sim S P s m) (hi : Inv s) (hl : Loaded S P s)
    (hok : RunOKG fo (MachOKOn3 fo S Inv P fuel) host P n m) {m' : MState F} {k : Nat}
    (hrun : Abs.run fo host P n m = (.halted m', k)) :
    ∃ s', executeLoop fo S fuel H n s = .ok ((.end_, k), s') ∧ SimD S P s' m'.regs m'.vals m'.frames ∧
      DecKept S s s' ∧ Inv s' :=
  executeLoop_spec_gen fo (MachOKOn3 fo S Inv P fuel) fuel H
    (fun s m instr operand hs hi hl hf hk => refine_step_on3 fo L HR fuel H hs hi hl hf hk) n s m hsim hi hl hok m' k hrun

end Garnish.Props.RuntimeRefine

namespace Garnish.Props.C01TextStore
open Garnish Garnish.Gen Garnish.Spec Garnish.Abs Garnish.Abs.Tree Garnish.Abs.Source Garnish.Model Garnish.Model.Parser
open Garnish.Model.Lexer Garnish.Model.Literals Garnish.Model.Build Garnish.Props.C01Build Garnish.Props.C01Source
open Garnish.Props.C02Numbered Garnish.Props.C01Text
open Garnish.Model.Equality Garnish.Model.Runtime Garnish.Lemmas.Runtime Garnish.Props.RuntimeRefine
open Garnish.Lemmas.Runtime.On Garnish.Lemmas.Runtime.Simple

variable {F : Type} (pf : List Char → Option F) (cc : CharClass)

/-- **characters → `SimpleGarnishData`**, coverage groups 1–3 -/
theorem C01_text_to_simple_store3 {hit : List (SimCell F) → SimCell F → Option Nat} (hs : HitSound hit)
    (hh : SimHost F) (fo : FloatOps F) (host : Host F) (HR : HostRefinesI (simpleRStore hit hh) SInv host)
    (loopFuel : Nat) (H : OtherHandlers (SimState F)) (s : List Char) (toks : List LexerToken)
    (hlex : lex cc s = .ok toks) (hf : frag9' (toP toks) = true) (rt : RTree)
    (href : refParse Table.gen (toP toks) = .ok rt) (p : Program F) (hel : elaborate pf (toP toks) rt = some p)
    (hwf : C01.WFProgram p) (input : Val F) (fuel : Nat) (v : Val F) (st : St F)
    (h : evalProgram fo host fuel p input = .ok (v, st)) :
    ∃ d entry n, buildText pf cc s = .ok (d, entry) ∧
      ((progOf d).consts.toList.all isLeafS = true → isLeafS input = true →
        RunOKG fo (MachOKOn3 fo (simpleRStore hit hh) SInv (reloc (progOf d)) loopFuel) host (reloc (progOf d)) n
          { pc := (progOf d).jumps[entry]?.getD 0, regs := [], vals := [input], frames := [], trace := [] } →
        ∃ s' a, executeLoop fo (simpleRStore hit hh) loopFuel H n
            (loadSimple (reloc (progOf d)) ((progOf d).jumps[entry]?.getD 0) input) = .ok ((.end_, n), s') ∧
          s'.values = [a] ∧ Decodes (simView s'.cells) a v ∧ (simpleRStore hit hh).regs s' = [] ∧
          (simpleRStore hit hh).frames s' = [] ∧ SInv s') :=
  C01_text_to_simple_store_of pf cc hh fo host loopFuel H (fun P => MachOKOn3 fo (simpleRStore hit hh) SInv P loopFuel)
    (fun P s m instr operand hsim hi hl hf hk =>
      refine_step_on3 fo (C01_simpleStore_lawsOn hs) HR loopFuel H hsim hi hl hf hk)
    s toks hlex hf rt href p hel hwf input fuel v st h

end Garnish.Props.C01TextStore
