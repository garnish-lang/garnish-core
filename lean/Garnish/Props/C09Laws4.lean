/-
C09 — absolute value laws for the 32-bit integer fragment (corollaries of exactness).
-/
import Garnish.Props.C09
namespace Garnish.Props.C09Laws
open Garnish Garnish.Number Garnish.Props.C09

variable {F : Type} (fo : FloatOps F)

/-- The absolute value is unit only for the most negative integer. -/
theorem C09_int_absoluteValue_none_iff (a : Int) (ha : InRange a) :
    absoluteValue fo (.int a) = none ↔ a = -2147483648 := by
  rw [C09_int_absoluteValue fo a ha, Option.map_eq_none_iff, Spec.abs, Lemmas.exact_eq_none]
  unfold InRange at *; omega

/-- A defined absolute value is non-negative, equals `a` or `-a`, and is a fixed point. -/
theorem C09_int_absoluteValue_some (a r : Int) (ha : InRange a)
    (h : absoluteValue fo (.int a) = some (.int r)) :
    0 ≤ r ∧ (r = a ∨ r = -a) ∧ absoluteValue fo (.int r) = some (.int r) := by
  rw [C09_int_absoluteValue fo a ha, Lemmas.map_int_eq_some, Spec.abs, Lemmas.exact_eq_some] at h
  refine ⟨by omega, by omega, ?_⟩
  rw [C09_int_absoluteValue fo r h.2, Lemmas.map_int_eq_some, Spec.abs, Lemmas.exact_eq_some]
  exact ⟨by omega, h.2⟩

example : Spec.abs (-2147483648) = none ∧ Spec.abs (-2147483647) = some 2147483647 := by decide

end Garnish.Props.C09Laws
