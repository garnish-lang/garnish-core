/-
Runtime refinement, part 2c: range.rs (C08 anchors), pair.rs, concat.rs, partial.rs, put.rs, sideeffect.rs
(C06 anchors: the register / input-value effects of Abs/Machine `step`).

`C08_refine_make_range_internal`: for ALL operand values `make_range_internal` refines Abs/Ops `makeRange`
(two numbers ↦ a range of the — possibly incremented, freshly added — ends, the number error when an increment
overflows; anything else ↦ the defer protocol with the instruction Abs/Ops names). The other theorems state the
exact register / value-stack effect of each handler, with `Decodes` of whatever is pushed.
Hypotheses: `StoreLaws S`, the stack shapes, `Decodes` of the operands.
-/
import Garnish.Lemmas.RuntimeData
import Garnish.Lemmas.RuntimeCmp
import Garnish.Lemmas.RuntimeRefStore
import Garnish.Model.Runtime.Range
import Garnish.Model.Runtime.Pair
import Garnish.Model.Runtime.Put
namespace Garnish.Props.RuntimeRefine
open Garnish Gen Garnish.Abs Garnish.Model.Equality Garnish.Model.Runtime Garnish.Lemmas.Runtime

variable {F σ : Type} {S : RStore F σ} (fo : FloatOps F)

/-- the instruction named to the host is the one of Abs/Ops -/
theorem C08_refine_range_instruction (a b : Bool) : rangeInstruction a b = rangeInstr a b :=
  rangeInstruction_eq a b

/-- `make_range_internal` refines Abs/Ops `makeRange` -/
theorem C08_refine_make_range_internal (L : StoreLaws S) (startExcl endExcl : Bool)
    {s : σ} {r l : Nat} {vr vl : Val F} {rest : List Nat}
    (hregs : S.regs s = r :: l :: rest) (hl : Decodes (S.view s) l vl) (hr : Decodes (S.view s) r vr) :
    RefinesOut S s (makeRangeInternal fo S startExcl endExcl s) none rest l r
      (Abs.makeRange fo startExcl endExcl vl vr) :=
  (Core.C08_refine_make_range_internal fo L.toK startExcl endExcl hregs hl hr trivial nofun).plain

/-- `range_len` is Abs/Ops `rangeLen`; a `None` is the number error -/
theorem C08_refine_range_len (a b : Number F) (s0 : σ) :
    (Model.Runtime.rangeLen fo a b : RM σ (Number F)) s0 = match Abs.rangeLen fo a b with
      | some len => .ok (len, s0)
      | none => .err .number := rangeLen_rm fo a b s0

/-! ### pair.rs, concat.rs, partial.rs -/

/-- `make_pair` pops the LEFT component first: registers `l :: r :: rest` ↦ `(l = r)`, as Abs/Machine `.makePair` -/
theorem C06_refine_make_pair (L : StoreLaws S) {s : σ} {r l : Nat} {vr vl : Val F} {rest : List Nat}
    (hregs : S.regs s = l :: r :: rest) (hl : Decodes (S.view s) l vl) (hr : Decodes (S.view s) r vr) :
    Pushed S s (makePair S s) none rest (.pair vl vr) :=
  (Core.C06_refine_make_pair L.toK hregs hl hr trivial nofun).plain

/-- `concat`: Abs/Ops `binaryOp .concat` -/
theorem C06_refine_concat (L : StoreLaws S) {s : σ} {r l : Nat} {vr vl : Val F} {rest : List Nat}
    (hregs : S.regs s = r :: l :: rest) (hl : Decodes (S.view s) l vl) (hr : Decodes (S.view s) r vr) :
    Pushed S s (Model.Runtime.concat S s) none rest (.concat vl vr) :=
  (Core.C06_refine_concat L.toK hregs hl hr nofun nofun trivial nofun).plain

/-- `partial_apply`: Abs/Ops `binaryOp .partialApply` -/
theorem C06_refine_partial_apply (L : StoreLaws S) {s : σ} {r l : Nat} {vr vl : Val F} {rest : List Nat}
    (hregs : S.regs s = r :: l :: rest) (hl : Decodes (S.view s) l vl) (hr : Decodes (S.view s) r vr) :
    Pushed S s (partialApply S s) none rest (.part vl vr) :=
  (Core.C06_refine_partial_apply L.toK hregs hl hr trivial nofun).plain

/-! ### put.rs -/

/-- `put i`: the address itself is pushed when it lies inside the data, else the state error -/
theorem C06_refine_put (L : StoreLaws S) (i : Nat) (s : σ) :
    if i < S.dataLen s then ∃ s', put S i s = .ok (none, s') ∧ Eff S s s' (i :: S.regs s) (S.vals s)
    else put S i s = .err .state := by
  rw [put, bind_ok (read_apply S.dataLen s)]
  by_cases h : i < S.dataLen s
  · have hd : decide (i ≥ S.dataLen s) = false := by simp; omega
    obtain ⟨s1, h1, e1⟩ := L.pushRegister i s
    simp only [h, if_true, hd]
    exact ⟨s1, by rw [bind_ok h1]; rfl, e1⟩
  · have hd : decide (i ≥ S.dataLen s) = true := by simp; omega
    simp only [h, if_false, hd]; rfl

/-- `put_value`: the current input value, or a fresh unit when there is none (Abs/Machine `.putValue`) -/
theorem C06_refine_put_value (L : StoreLaws S) (s : σ) :
    match S.vals s with
    | [] => Pushed S s (putValue S s) none (S.regs s) .unit
    | v :: _ => ∃ s', putValue S s = .ok (none, s') ∧ Eff S s s' (v :: S.regs s) (S.vals s) := by
  have hg : getCurrentValue S s = .ok ((S.vals s).head?, s) := rfl
  rw [putValue, bind_ok hg]
  cases hv : S.vals s with
  | nil =>
    obtain ⟨a, s1, h1, d1, e1⟩ := pushUnit_spec L s
    exact ⟨a, s1, by simp only [List.head?_nil]; rw [bind_ok h1]; rfl, d1, e1⟩
  | cons v vs =>
    obtain ⟨s1, h1, e1⟩ := L.pushRegister v s
    exact ⟨s1, by simp only [List.head?_cons]; rw [bind_ok h1]; rfl, hv ▸ e1⟩

/-- `push_value`: the top register becomes the current input value -/
theorem C06_refine_push_value (L : StoreLaws S) {s : σ} {r : Nat} {rest : List Nat} (hregs : S.regs s = r :: rest) :
    ∃ s', pushValue S s = .ok (none, s') ∧ Eff S s s' rest (r :: S.vals s) := by
  obtain ⟨s0, h0, e0⟩ := nextRef_cons L hregs
  obtain ⟨s1, h1, e1⟩ := L.pushValueStack r s0
  rw [e0.regs, e0.vals] at e1
  exact ⟨s1, by rw [pushValue, bind_ok h0, bind_ok h1]; rfl, e0.trans e1⟩

/-- `update_value`: the top register replaces the current input value; the state error when there is none -/
theorem C06_refine_update_value (L : StoreLaws S) {s : σ} {r : Nat} {rest : List Nat} (hregs : S.regs s = r :: rest) :
    match S.vals s with
    | [] => updateValue S s = .err .state
    | _ :: vs => ∃ s', updateValue S s = .ok (none, s') ∧ Eff S s s' rest (r :: vs) := by
  obtain ⟨s0, h0, e0⟩ := nextRef_cons L hregs
  cases hv : S.vals s with
  | nil =>
    obtain ⟨s1, h1, e1⟩ := L.setCurrentNil r s0 (by rw [e0.vals, hv])
    simp only []
    rw [updateValue, bind_ok h0, bind_ok h1]; rfl
  | cons v vs =>
    obtain ⟨s1, h1, e1⟩ := L.setCurrentCons r s0 v vs (by rw [e0.vals, hv])
    rw [e0.regs] at e1
    refine ⟨s1, ?_, e0.trans e1⟩
    rw [updateValue, bind_ok h0, bind_ok h1]; rfl

/-! ### sideeffect.rs -/

/-- `start_side_effect`: the current input value is duplicated (a fresh unit when there is none) -/
theorem C06_refine_start_side_effect (L : StoreLaws S) (s : σ) :
    match S.vals s with
    | [] => ∃ a s', startSideEffect S s = .ok (none, s') ∧ Decodes (S.view s') a .unit ∧ Eff S s s' (S.regs s) [a]
    | v :: vs => ∃ s', startSideEffect S s = .ok (none, s') ∧ Eff S s s' (S.regs s) (v :: v :: vs) := by
  have hg : getCurrentValue S s = .ok ((S.vals s).head?, s) := rfl
  rw [startSideEffect, bind_ok hg]
  cases hv : S.vals s with
  | nil =>
    obtain ⟨a, s1, h1, d1, e1⟩ := L.addUnit s
    obtain ⟨s2, h2, e2⟩ := L.pushValueStack a s1
    rw [e1.regs, e1.vals, hv] at e2
    exact ⟨a, s2, by simp only [List.head?_nil]; rw [bind_ok h1, bind_ok h2]; rfl, e2.dec d1, e1.trans e2⟩
  | cons v vs =>
    obtain ⟨s1, h1, e1⟩ := L.pushValueStack v s
    rw [hv] at e1
    exact ⟨s1, by simp only [List.head?_cons]; rw [bind_ok h1]; rfl, e1⟩

/-- `end_side_effect`: one input value and one register are dropped (Abs/Machine `.endSideEffect`); the state
error when either is missing -/
theorem C06_refine_end_side_effect (L : StoreLaws S) (s : σ) :
    match S.vals s, S.regs s with
    | _ :: vs, _ :: rs => ∃ s', endSideEffect S s = .ok (none, s') ∧ Eff S s s' rs vs
    | _, _ => endSideEffect S s = .err .state := by
  cases hv : S.vals s with
  | nil =>
    obtain ⟨s1, h1, e1⟩ := L.popValueStackNil s hv
    simp only []
    rw [endSideEffect, bind_ok h1]; rfl
  | cons v vs =>
    obtain ⟨s1, h1, e1⟩ := L.popValueStackCons s v vs hv
    cases hr : S.regs s with
    | nil =>
      obtain ⟨s2, h2, e2⟩ := L.popRegisterNil s1 (by rw [e1.regs, hr])
      simp only []
      rw [endSideEffect, bind_ok h1]
      simp only []
      rw [bind_ok h2]; rfl
    | cons r rs =>
      obtain ⟨s2, h2, e2⟩ := L.popRegisterCons s1 r rs (by rw [e1.regs, hr])
      rw [e1.vals] at e2
      refine ⟨s2, ?_, e1.trans e2⟩
      rw [endSideEffect, bind_ok h1]
      simp only []
      rw [bind_ok h2]; rfl

/-! ### non-vacuity -/

/-- `0: 1   1: 5   2: ()` -/
def dataCells : List (RCell F) := [.num (.int 1), .num (.int 5), .unit]

/-- `1..5` (both ends inclusive): the theorem applies to the reference store … -/
example : Pushed (refStore (fun _ => none)) (RefState.init (dataCells (F := F)) [1, 0, 9])
    (makeRange fo (refStore (fun _ => none)) (RefState.init dataCells [1, 0, 9])) none [9]
    (.range (.num (.int 1)) (.num (.int 6))) := by
  have h := C08_refine_make_range_internal fo (refStore_laws (fun _ => none)) false false
    (s := RefState.init (dataCells (F := F)) [1, 0, 9]) (vl := .num (.int 1)) (vr := .num (.int 5)) rfl
    (.num rfl rfl) (.num rfl rfl)
  have e : Abs.makeRange fo false false (.num (.int 1)) (.num (.int 5) : Val F)
      = .val (.range (.num (.int 1)) (.num (.int 6))) := by
    simp [Abs.makeRange, Number.increment, Number.overflowingAdd, Lemmas.ovf_eq, InRange]
  rw [e] at h; exact h

/-- … and the model run: the end `6` is a new cell, the range cell points at the old start and the new end -/
example : ∃ s', makeRange fo (refStore (fun _ => none)) (RefState.init (dataCells (F := F)) [1, 0, 9]) = .ok (none, s') ∧
    s'.regs = [4, 9] ∧ s'.cells = dataCells ++ [.num (.int 6), .range 0 3] := ⟨_, rfl, rfl, rfl⟩

/-- `() .. 5`: offered to the host as `MakeRange`, unit pushed when it declines -/
example : ∃ s', makeRange fo (refStore (fun _ => none)) (RefState.init (dataCells (F := F)) [1, 2, 9]) = .ok (none, s') ∧
    s'.regs = [3, 9] ∧ s'.trace = [.defer .makeRange (.unit, 2) (.number, 1)] := ⟨_, rfl, rfl, rfl⟩

/-- `make_pair` with registers `l :: r :: rest` -/
example : ∃ s', makePair (refStore (fun _ => none)) (RefState.init (dataCells (F := F)) [0, 1, 9]) = .ok (none, s') ∧
    s'.regs = [3, 9] ∧ s'.cells = dataCells ++ [.pair 0 1] := ⟨_, rfl, rfl, rfl⟩

end Garnish.Props.RuntimeRefine
