/-
Runtime refinement, part 1 (C10 anchors): the statement-level models of runtime/src/runtime/utilities.rs,
logical.rs and jumps.rs (Model/Runtime/{Utilities,Logical,Jumps}.lean, over the abstract store `RStore` with
the trait contract `StoreLaws`) compute on ADDRESSES what Abs/Machine.lean computes on VALUES: for every store
satisfying the contract, every register stack and every operand value.

Hypotheses: `StoreLaws S`, the shape of the register stack, `Decodes` of the operands. Nothing else.
-/
import Garnish.Lemmas.RuntimeLogic
import Garnish.Model.Runtime.Refines
import Garnish.Model.Runtime.Logical
import Garnish.Model.Runtime.Jumps
import Garnish.Lemmas.RuntimeRefStore
namespace Garnish.Props.RuntimeRefine
open Garnish Gen Garnish.Abs Garnish.Model.Equality Garnish.Model.Runtime Garnish.Lemmas.Runtime

variable {F σ : Type} {S : RStore F σ}

/-! ### utilities.rs -/

/-- `next_ref` pops the top register -/
theorem C10_refine_next_ref (L : StoreLaws S) {s : σ} {a : Nat} {rest : List Nat} (h : S.regs s = a :: rest) :
    Popped S s (nextRef S s) a rest := nextRef_cons L h

/-- `next_ref` on an empty register stack is the state error "No references in register." -/
theorem C10_refine_next_ref_empty (L : StoreLaws S) {s : σ} (h : S.regs s = []) :
    nextRef S s = .err .state := nextRef_nil L h

/-- `next_two_raw_ref` returns (top, second) and removes both -/
theorem C10_refine_next_two_raw_ref (L : StoreLaws S) {s : σ} {r l : Nat} {rest : List Nat}
    (h : S.regs s = r :: l :: rest) : Popped S s (nextTwoRawRef S s) (r, l) rest := nextTwoRawRef_cons L h

theorem C10_refine_push_unit (L : StoreLaws S) (s : σ) : Pushed S s (pushUnit S s) () (S.regs s) .unit :=
  pushUnit_spec L s

theorem C10_refine_push_number (L : StoreLaws S) (n : Number F) (s : σ) :
    Pushed S s (pushNumber S n s) () (S.regs s) (.num n) := pushNumber_spec L n s

theorem C10_refine_push_boolean (L : StoreLaws S) (b : Bool) (s : σ) :
    Pushed S s (pushBoolean S b s) () (S.regs s) (Val.ofBool b) := pushBoolean_spec L b s

theorem C10_refine_push_pair (L : StoreLaws S) {l r : Nat} {vl vr : Val F} {s : σ}
    (hl : Decodes (S.view s) l vl) (hr : Decodes (S.view s) r vr) :
    Pushed S s (pushPair S l r s) () (S.regs s) (.pair vl vr) := pushPair_spec L hl hr

/-! ### logical.rs -/

/-- `is_true_value` is the language's one notion of truth, read off the address, and touches nothing -/
theorem C10_refine_is_true_value {s : σ} {a : Nat} {v : Val F} (h : Decodes (S.view s) a v) :
    isTrueValue S a s = .ok (v.truthy, s) :=
  isTrueValue_of h

/-- a unary tester: pop the operand, push the boolean `f (truthy v)` -/
private theorem tester (L : StoreLaws S) {s : σ} {a : Nat} {v : Val F} {rest : List Nat} (f : Bool → Bool)
    (hregs : S.regs s = a :: rest) (h : Decodes (S.view s) a v) :
    Pushed S s ((do let addr ← nextRef S; let result ← isTrueValue S addr; pushBoolean S (f result); pure none :
      RM σ (Option Nat)) s) none rest (Val.ofBool (f v.truthy)) :=
  (Core.tester L.toK f hregs h trivial nofun).plain

/-- `not` = Abs/Ops `unaryOp .not` -/
theorem C10_refine_not (L : StoreLaws S) {s : σ} {a : Nat} {v : Val F} {rest : List Nat}
    (hregs : S.regs s = a :: rest) (h : Decodes (S.view s) a v) :
    Pushed S s (Model.Runtime.not S s) none rest (Val.ofBool (!v.truthy)) :=
  (Core.not_spec L.toK hregs h trivial nofun).plain

/-- `tis` = Abs/Ops `unaryOp .tis` -/
theorem C10_refine_tis (L : StoreLaws S) {s : σ} {a : Nat} {v : Val F} {rest : List Nat}
    (hregs : S.regs s = a :: rest) (h : Decodes (S.view s) a v) :
    Pushed S s (tis S s) none rest (Val.ofBool v.truthy) :=
  (Core.tis_spec L.toK hregs h trivial nofun).plain

/-- `xor` = Abs/Ops `binaryOp .xor`: true iff exactly one operand is true -/
theorem C10_refine_xor (L : StoreLaws S) {s : σ} {r l : Nat} {vr vl : Val F} {rest : List Nat}
    (hregs : S.regs s = r :: l :: rest) (hl : Decodes (S.view s) l vl) (hr : Decodes (S.view s) r vr) :
    Pushed S s (Model.Runtime.xor S s) none rest (Val.ofBool (vl.truthy != vr.truthy)) :=
  (Core.xor_spec L.toK hregs hl hr trivial nofun).plain

/-- `and`: a true operand is consumed and the handler jumps to the right operand's code (state error when
the jump table has no such entry); a false operand is replaced by `false` and execution continues -/
theorem C10_refine_and (L : StoreLaws S) {s : σ} {a : Nat} {v : Val F} {rest : List Nat} (j : Nat)
    (hregs : S.regs s = a :: rest) (h : Decodes (S.view s) a v) :
    if v.truthy then
      match S.jumpTable s j with
      | some t => Popped S s (Model.Runtime.and S j s) (some t) rest
      | none => Model.Runtime.and S j s = .err .state
    else Pushed S s (Model.Runtime.and S j s) none rest .fls := by
  have h := Core.and_spec L.toK j hregs h trivial nofun
  cases hv : v.truthy <;> rw [hv] at h
  · exact h.plain
  · simp only [if_true] at h ⊢
    cases hj : S.jumpTable s j <;> rw [hj] at h
    · exact h
    · exact h.plain

/-- `or`: a true operand is replaced by `true`; a false operand is consumed and the handler jumps -/
theorem C10_refine_or (L : StoreLaws S) {s : σ} {a : Nat} {v : Val F} {rest : List Nat} (j : Nat)
    (hregs : S.regs s = a :: rest) (h : Decodes (S.view s) a v) :
    if v.truthy then Pushed S s (Model.Runtime.or S j s) none rest .tru
    else
      match S.jumpTable s j with
      | some t => Popped S s (Model.Runtime.or S j s) (some t) rest
      | none => Model.Runtime.or S j s = .err .state := by
  have h := Core.or_spec L.toK j hregs h trivial nofun
  cases hv : v.truthy <;> rw [hv] at h
  · simp only [Bool.false_eq_true, if_false] at h ⊢
    cases hj : S.jumpTable s j <;> rw [hj] at h
    · exact h
    · exact h.plain
  · exact h.plain

/-! ### jumps.rs -/

/-- `jump` -/
theorem C10_refine_jump (j : Nat) (s : σ) :
    jump S j s = match S.jumpTable s j with
      | some t => .ok (some t, s)
      | none => .err .state := by
  rw [jump, bind_ok (getFromJumpTable_apply j s)]
  cases S.jumpTable s j <;> rfl

/-- `jump_if_true`: the operand is consumed; the jump is taken iff it is true (Abs/Machine `.jumpIfTrue`) -/
theorem C10_refine_jump_if_true (L : StoreLaws S) {s : σ} {a : Nat} {v : Val F} {rest : List Nat} {j t : Nat}
    (hj : S.jumpTable s j = some t) (hregs : S.regs s = a :: rest) (h : Decodes (S.view s) a v) :
    Popped S s (jumpIfTrue S j s) (if v.truthy then some t else none) rest :=
  (Core.jumpIfTrue_spec L.toK hj hregs h trivial nofun).plain

/-- `jump_if_false`: the jump is taken iff the operand is false or unit -/
theorem C10_refine_jump_if_false (L : StoreLaws S) {s : σ} {a : Nat} {v : Val F} {rest : List Nat} {j t : Nat}
    (hj : S.jumpTable s j = some t) (hregs : S.regs s = a :: rest) (h : Decodes (S.view s) a v) :
    Popped S s (jumpIfFalse S j s) (if v.truthy then none else some t) rest :=
  (Core.jumpIfFalse_spec L.toK hj hregs h trivial nofun).plain

/-- both conditional jumps fail with the state error BEFORE touching the registers when the jump table has
no entry `j` -/
theorem C10_refine_jump_if_no_point {s : σ} {j : Nat} (hj : S.jumpTable s j = none) :
    jumpIfTrue S j s = .err .state ∧ jumpIfFalse S j s = .err .state := by
  constructor
  · rw [jumpIfTrue, bind_ok (getFromJumpTable_apply j s), hj]; rfl
  · rw [jumpIfFalse, bind_ok (getFromJumpTable_apply j s), hj]; rfl

/-- `end_expression` (Abs/Machine `.endExpression`): the result `r` is popped and `pop_frame` asked once. With no frame
left `r` replaces the current input value (state error if there is none) and execution ends at the instruction
length. Otherwise execution returns to the frame's address: the registers are the caller's with `r` on top, the
callee's input value is popped, the frame is gone. -/
theorem C10_refine_end_expression (L : StoreLaws S) {s : σ} {r : Nat} {rest : List Nat}
    (hregs : S.regs s = r :: rest) :
    match S.frames s with
    | [] =>
      (match S.vals s with
       | [] => endExpression S s = .err .state
       | _ :: vs => ∃ s', endExpression S s = .ok (some (S.instrLen s), s') ∧ Eff S s s' rest (r :: vs))
    | (ret, saved) :: fs =>
      ∃ s', endExpression S s = .ok (some ret, s') ∧ FEff S s s' (r :: saved) (S.vals s).tail fs := by
  obtain ⟨s0, h0, e0⟩ := nextRef_cons L hregs
  cases hf : S.frames s with
  | nil =>
    obtain ⟨s1, h1, e1⟩ := L.popFrameNil s0 (by rw [e0.frames, hf])
    rw [e0.regs, e0.vals] at e1
    have e01 := e0.trans e1
    simp only []
    cases hv : S.vals s with
    | nil =>
      obtain ⟨s2, h2, e2⟩ := L.setCurrentNil r s1 (by rw [e1.vals, hv])
      simp only []
      rw [endExpression, bind_ok h0, bind_ok h1]
      simp only []
      rw [bind_ok h2]; rfl
    | cons v vs =>
      obtain ⟨s2, h2, e2⟩ := L.setCurrentCons r s1 v vs (by rw [e1.vals, hv])
      rw [e1.regs] at e2
      refine ⟨s2, ?_, e01.trans e2⟩
      rw [endExpression, bind_ok h0, bind_ok h1]
      simp only []
      rw [bind_ok h2]
      simp only []
      rw [bind_ok (read_apply S.instrLen s2), (e01.trans e2).keeps.ilen]; rfl
  | cons fr fs =>
    obtain ⟨ret, saved⟩ := fr
    obtain ⟨s1, h1, e1⟩ := L.popFrameCons s0 ret saved fs (by rw [e0.frames, hf])
    rw [e0.vals] at e1
    have e01 := e0.toF.trans e1
    simp only []
    have hpv : ∃ o2 s2, S.popValueStack s1 = .ok (o2, s2) ∧ Eff S s1 s2 saved (S.vals s).tail := by
      cases hv : S.vals s with
      | nil =>
        obtain ⟨s2, h2, e2⟩ := L.popValueStackNil s1 (by rw [e1.vals, hv])
        rw [e1.regs] at e2
        exact ⟨none, s2, h2, e2⟩
      | cons v vs =>
        obtain ⟨s2, h2, e2⟩ := L.popValueStackCons s1 v vs (by rw [e1.vals, hv])
        rw [e1.regs] at e2
        exact ⟨some v, s2, h2, e2⟩
    obtain ⟨o2, s2, h2, e2⟩ := hpv
    obtain ⟨s3, h3, e3⟩ := L.pushRegister r s2
    rw [e2.regs, e2.vals] at e3
    refine ⟨s3, ?_, (e01.thenEff e2).thenEff e3⟩
    rw [endExpression, bind_ok h0, bind_ok h1]
    simp only []
    rw [bind_ok h2, bind_ok h3]; rfl

/-! ### non-vacuity: the reference store satisfies `StoreLaws`; concrete operands -/

/-- `0: ()  1: 5  2: $!  3: "a"` -/
def exCells : List (RCell F) := [.unit, .num (.int 5), .fls, .chars [97]]

/-- a host that declines everything -/
def declining : RefHost F := fun _ => none

/-- the hypotheses of `C10_refine_not` hold for the reference store with `5` on top of the registers -/
example : Pushed (refStore declining) (RefState.init (exCells (F := F)) [1, 7])
    (Model.Runtime.not (refStore declining) (RefState.init exCells [1, 7])) none [7] .fls :=
  C10_refine_not (refStore_laws declining) (v := .num (.int 5)) rfl (.num rfl rfl)

/-- the model itself, run: `!5` pushes a new `false` cell (address 4) on the remaining register -/
example : ∃ s', Model.Runtime.not (refStore declining) (RefState.init (exCells (F := F)) [1, 7]) = .ok (none, s') ∧
    s'.regs = [4, 7] ∧ s'.cells = exCells ++ [.fls] := ⟨_, rfl, rfl, rfl⟩

/-- `$! && …` with jump table `[40]`: no jump, `false` pushed; `5 && …`: the operand is consumed, jump to 40 -/
example : ∃ s', Model.Runtime.and (refStore declining) 0 { RefState.init (exCells (F := F)) [2, 7] with jumps := [40] }
    = .ok (none, s') ∧ s'.regs = [4, 7] := ⟨_, rfl, rfl⟩
example : ∃ s', Model.Runtime.and (refStore declining) 0 { RefState.init (exCells (F := F)) [1, 7] with jumps := [40] }
    = .ok (some 40, s') ∧ s'.regs = [7] := ⟨_, rfl, rfl⟩

/-- `"a" ^^ ()` is true; `jump_if_false` on unit jumps -/
example : ∃ s', Model.Runtime.xor (refStore declining) (RefState.init (exCells (F := F)) [0, 3, 7]) = .ok (none, s') ∧
    s'.regs = [4, 7] ∧ s'.cells = exCells ++ [.tru] := ⟨_, rfl, rfl, rfl⟩
example : ∃ s', jumpIfFalse (refStore declining) 0 { RefState.init (exCells (F := F)) [0, 7] with jumps := [40] }
    = .ok (some 40, s') ∧ s'.regs = [7] := ⟨_, rfl, rfl⟩

end Garnish.Props.RuntimeRefine
