/-
C01 from the source TEXT to the STORE: `C01_text_correct` (Props/C01Text.lean: characters → lexer → parser → builder →
value-level machine) chained with `C01_refine_run` (Props/RuntimeRefineRun.lean: value-level machine → address-level
loop over an abstract store).

`C01_text_to_store_gen`: the chain in general — any store, any invariant, any coverage predicate that comes with a step theorem,
any program that runs like the built one; every text theorem of Props/C01TextStore*.lean is an instance.

`C01_text_to_store`: take a source text the models of the lexer, parser and builder accept (hypotheses of
`C01_text_correct`: `lex` succeeds, the tokens are in `frag9'`, the reference tree elaborates to a well-formed program
`p`), and let `evalProgram … p input = ok (v, st)`. Then there are a built object `d`, its entry and a step count `n`
such that on ANY store `S` with `StoreLawsRun` whose extension points refine the host (`HostRefines`), from ANY state
`s0` in which the built program is loaded (`ProgramLoaded`: instructions, jump table, instruction length, constants at
their own addresses, cursor at the entry, no registers, no frames, one input-value address denoting `input`), provided
the dynamic side conditions hold along the run (`RunOK`; automatically for a static program, `C01_runOK_of_static`),
the loop `executeLoop` answers `End` after exactly `n` steps with ONE input-value address, which decodes to `v`.
What remains as hypotheses: the source-side hypotheses of `C01_text_correct`; `StoreLawsRun`, `HostRefines`;
`ProgramLoaded` (the link between the builder model's `BState` and the store — on the reference store it is met by
construction, `loadRef_loaded`); `RunOK` for programs that use Resolve, comparisons, Access, Apply, EmptyApply, Equal,
NotEqual or AccessLengthInternal.
-/
import Garnish.Lemmas.SourceText
import Garnish.Props.RuntimeRefineRun
namespace Garnish.Props.C01TextStore
open Garnish Garnish.Gen Garnish.Spec Garnish.Abs Garnish.Abs.Tree Garnish.Abs.Source Garnish.Model Garnish.Model.Parser
open Garnish.Model.Lexer Garnish.Model.Literals Garnish.Model.Build Garnish.Props.C01Build Garnish.Props.C01Source
open Garnish.Props.C02Numbered Garnish.Props.C01Text
open Garnish.Model.Equality Garnish.Model.Runtime Garnish.Lemmas.Runtime Garnish.Props.RuntimeRefine

variable {F σ : Type}

/-- the program `P` is loaded in the store, the store stands at `pc` with `input` as its only input value -/
structure ProgramLoaded (S : RStore F σ) (P : Prog F) (pc : Nat) (s : σ) (input : Val F) : Prop where
  cursor : S.cursor s = pc
  regs : S.regs s = []
  frames : S.frames s = []
  vals : ∃ ia, S.vals s = [ia] ∧ Decodes (S.view s) ia input
  instrs : ∀ i, S.instruction s i = P.instrs[i]?
  jumps : ∀ j, S.jumpTable s j = P.jumps[j]?
  ilen : S.instrLen s = P.instrs.size
  consts : Loaded S P s

theorem ProgramLoaded.sim {S : RStore F σ} {P : Prog F} {pc : Nat} {s : σ} {input : Val F}
    (h : ProgramLoaded S P pc s input) :
    Sim S P s { pc := pc, regs := [], vals := [input], frames := [], trace := [] } := by
  obtain ⟨ia, hv, dia⟩ := h.vals
  exact ⟨h.cursor, by rw [h.regs]; exact .nil, by rw [hv]; exact .cons dia .nil, by rw [h.frames]; exact .nil,
    h.instrs, h.jumps, h.ilen⟩

/-- the value at the end of a run the predicate `ok` allows, on any store with a step theorem for `ok` -/
theorem refine_run_value_gen {S : RStore F σ} {Inv : σ → Prop} {P : Prog F} (fo : FloatOps F) (host : Host F)
    (ok : MState F → Instruction → Option Nat → Prop) (fuel : Nat) (H : OtherHandlers σ)
    (hstep : ∀ (s : σ) (m : MState F) instr operand, Sim S P s m → Inv s → Loaded S P s →
      P.instrs[m.pc]? = some (instr, operand) → ok m instr operand → On.StepSimOn fo host S Inv P fuel H s m)
    (n : Nat) {s : σ} {m : MState F} (hsim : Sim S P s m) (hi : Inv s) (hl : Loaded S P s)
    (hok : On.RunOKG fo ok host P n m) {m' : MState F} {k : Nat} (hrun : Abs.run fo host P n m = (.halted m', k))
    {v : Val F} (hv : m'.vals = [v]) (hr : m'.regs = []) (hf : m'.frames = []) :
    ∃ s' a, executeLoop fo S fuel H n s = .ok ((.end_, k), s') ∧
      S.vals s' = [a] ∧ Decodes (S.view s') a v ∧ S.regs s' = [] ∧ S.frames s' = [] ∧ Inv s' := by
  obtain ⟨s', h1, hd, _, i'⟩ := On.executeLoop_spec_gen fo ok fuel H hstep n s m hsim hi hl hok m' k hrun
  obtain ⟨a, h2, h3, h4, h5⟩ := On.simD_final hd hv hr hf
  exact ⟨s', a, h1, h2, h3, h4, h5, i'⟩

variable (pf : List Char → Option F) (cc : CharClass)

/-- **characters → store, in general**: a source text of a well-formed program `p` builds `compile p` with entry 0, and on any
store `S` with any invariant `Inv` and any coverage predicate `ok` that comes with a step theorem, for any program `P'` that
runs like `compile p` (itself, or a relocation of it) loaded in a state that satisfies `Inv`, a run `ok` allows ends with one
input-value address that decodes to the value `evalProgram` assigns to the text. The text theorems of Props/C01TextStore*.lean
and Props/RuntimeRefineOn*.lean are its instances. -/
theorem C01_text_to_store_gen {S : RStore F σ} {Inv : σ → Prop} (fo : FloatOps F) (host : Host F) (loopFuel : Nat)
    (H : OtherHandlers σ) (ok : Prog F → MState F → Instruction → Option Nat → Prop)
    (hstep : ∀ (P : Prog F) (s : σ) (m : MState F) instr operand, Sim S P s m → Inv s → Loaded S P s →
      P.instrs[m.pc]? = some (instr, operand) → ok P m instr operand → On.StepSimOn fo host S Inv P loopFuel H s m)
    {s : List Char} {p : Program F} (hsrc : Src pf cc s p) (hwf : C01.WFProgram p) (input : Val F) (fuel : Nat) (v : Val F)
    (st : St F) (h : evalProgram fo host fuel p input = .ok (v, st)) :
    ∃ d n, buildText pf cc s = .ok (d, 0) ∧ progOf d = compile p ∧
      ∀ (P' : Prog F) (s0 : σ), (∀ n m, Abs.run fo host P' n m = Abs.run fo host (compile p) n m) →
        ProgramLoaded S P' ((compile p).jumps[0]?.getD 0) s0 input → Inv s0 →
        On.RunOKG fo (ok P') host P' n ⟨(compile p).jumps[0]?.getD 0, [], [input], [], []⟩ →
        ∃ s' a, executeLoop fo S loopFuel H n s0 = .ok ((.end_, n), s') ∧
          S.vals s' = [a] ∧ Decodes (S.view s') a v ∧ S.regs s' = [] ∧ S.frames s' = [] ∧ Inv s' := by
  obtain ⟨d, hb, hd⟩ := hsrc.built (C01.compile_complete p hwf.labels)
  obtain ⟨toks, rt, hlex, hf, href, hel⟩ := hsrc
  obtain ⟨d', entry, hb', n, m, hrun, hv, hr, hfr, _⟩ :=
    C01_text_correct pf cc fo host s toks hlex hf rt href p hel hwf input fuel v st h
  rw [hb] at hb'
  cases hb'
  rw [hd] at hrun
  refine ⟨d, n, hb, hd, fun P' s0 hP hload hi hok => ?_⟩
  rw [← hP] at hrun
  exact refine_run_value_gen fo host (ok P') loopFuel H (hstep P') n hload.sim hi hload.consts hok hrun hv hr hfr

/-- **characters → store**: the source text, taken through the models of the lexer, parser and builder, and then run
by the address-level loop on ANY store that satisfies the contract and has the built program loaded, ends with one
input-value address that decodes to the value `evalProgram` assigns to the text's program -/
theorem C01_text_to_store {S : RStore F σ} (L : StoreLawsRun S) (fo : FloatOps F) (host : Host F)
    (HR : HostRefines S host) (loopFuel : Nat) (cast : RM σ (Option Nat))
    (s : List Char) (toks : List LexerToken)
    (hlex : lex cc s = .ok toks) (hf : frag9' (toP toks) = true) (rt : RTree)
    (href : refParse Table.gen (toP toks) = .ok rt) (p : Program F) (hel : elaborate pf (toP toks) rt = some p)
    (hwf : C01.WFProgram p) (input : Val F) (fuel : Nat) (v : Val F) (st : St F)
    (h : evalProgram fo host fuel p input = .ok (v, st)) :
    ∃ d entry n, buildText pf cc s = .ok (d, entry) ∧
      ∀ s0 : σ, ProgramLoaded S (progOf d) ((progOf d).jumps[entry]?.getD 0) s0 input →
        RunOK fo host (progOf d) loopFuel n
          { pc := (progOf d).jumps[entry]?.getD 0, regs := [], vals := [input], frames := [], trace := [] } →
        ∃ s' a, executeLoop fo S loopFuel (fullHandlers fo S loopFuel cast) n s0 = .ok ((.end_, n), s') ∧
          S.vals s' = [a] ∧ Decodes (S.view s') a v ∧ S.regs s' = [] ∧ S.frames s' = [] := by
  -- the trivial invariant, the side conditions `MachOK`
  obtain ⟨d, n, hb, hd, hgen⟩ := C01_text_to_store_gen (Inv := fun _ => True) pf cc fo host loopFuel _
    (fun P => MachOK fo P loopFuel)
    (fun _ _ _ _ _ hs _ hl hf hk => stepSimOn_of_stepSim fo
      (refine_step_full_both fo L.toStoreLaws HR loopFuel cast hs hf (stepOKF_of_machOK fo L hl hk)).1)
    ⟨toks, rt, hlex, hf, href, hel⟩ hwf input fuel v st h
  refine ⟨d, 0, n, hb, ?_⟩
  rw [hd]
  intro s0 hload hok
  obtain ⟨s', a, h1, h2, h3, h4, h5, _⟩ :=
    hgen _ s0 (fun _ _ => rfl) hload trivial (On.runOKG_of_runOK fo loopFuel n _ hok)
  exact ⟨s', a, h1, h2, h3, h4, h5⟩

/-! ### loading a built program into the reference store -/

/-- the cell of a constant (constants are leaves: numbers, characters, symbols, texts, expressions …) -/
def cellOfVal : Val F → RCell F
  | .unit => .unit | .tru => .tru | .fls => .fls | .num n => .num n | .char c => .char c | .byte b => .byte b
  | .sym y => .sym y | .expr j => .expr j | .ext n => .ext n | .type t => .type t | .chars cs => .chars cs
  | .bytes bs => .bytes bs | .symList ps => .symList ps | _ => .custom

def isLeaf : Val F → Bool
  | .pair _ _ | .list _ | .concat _ _ | .range _ _ | .slice _ _ | .part _ _ => false
  | _ => true

theorem leaf_decodes {cells : List (RCell F)} {k : Nat} {v : Val F} (hc : cells[k]? = some (cellOfVal v))
    (hl : isLeaf v = true) : Decodes (refView cells) k v := by
  cases v <;> simp [isLeaf] at hl
  case unit => exact .unit (by rw [rv_typeOf, hc]; rfl)
  case tru => exact .tru (by rw [rv_typeOf, hc]; rfl)
  case fls => exact .fls (by rw [rv_typeOf, hc]; rfl)
  case num n => exact .num (by rw [rv_typeOf, hc]; rfl) (by rw [rv_number, hc]; rfl)
  case char c => exact .char (by rw [rv_typeOf, hc]; rfl) (by rw [rv_char, hc]; rfl)
  case byte b => exact .byte (by rw [rv_typeOf, hc]; rfl) (by rw [rv_byte, hc]; rfl)
  case sym y => exact .sym (by rw [rv_typeOf, hc]; rfl) (by rw [rv_symbol, hc]; rfl)
  case expr j => exact .expr (by rw [rv_typeOf, hc]; rfl) (by rw [rv_expression, hc]; rfl)
  case ext n => exact .ext (by rw [rv_typeOf, hc]; rfl) (by rw [rv_external, hc]; rfl)
  case type t => exact .type (by rw [rv_typeOf, hc]; rfl) (by rw [rv_type_, hc]; rfl)
  case chars cs => exact .chars (by rw [rv_typeOf, hc]; rfl) (by rw [rv_chars, hc]; rfl)
  case bytes bs => exact .bytes (by rw [rv_typeOf, hc]; rfl) (by rw [rv_bytes, hc]; rfl)
  case symList ps => exact .symList (by rw [rv_typeOf, hc]; rfl) (by rw [rv_symList, hc]; rfl)
  case custom => exact .custom (by rw [rv_typeOf, hc]; rfl)

/-- the reference store with `P` loaded: the constants at their own addresses, then the input value -/
def loadRef (P : Prog F) (pc : Nat) (input : Val F) : RefState F :=
  { cells := P.consts.toList.map cellOfVal ++ [cellOfVal input], regs := [], vals := [P.consts.size], frames := [],
    trace := [], building := none, jumps := P.jumps.toList, instrs := P.instrs.toList, instrLen := P.instrs.size,
    cursor := pc }

/-- the cells of a loaded program: the constants at their own addresses -/
theorem load_cells_get {α : Type} (f : Val F → α) {P : Prog F} (input : Val F) {k : Nat} {v : Val F}
    (hk : P.consts[k]? = some v) : (P.consts.toList.map f ++ [f input])[k]? = some (f v) := by
  have hlt : k < P.consts.size := by
    apply Nat.lt_of_not_le; intro hle
    rw [Array.getElem?_eq_none hle] at hk; cases hk
  have hv : P.consts.toList[k]? = some v := by simpa using hk
  rw [List.getElem?_append_left (by simpa using hlt), List.getElem?_map, hv]; rfl

theorem loadRef_loaded (h : RefHost F) (P : Prog F) (pc : Nat) (input : Val F)
    (hc : P.consts.toList.all isLeaf = true) (hi : isLeaf input = true) :
    ProgramLoaded (refStore h) P pc (loadRef P pc input) input where
  cursor := rfl
  regs := rfl
  frames := rfl
  vals := ⟨P.consts.size, rfl, by
    show Decodes (refView (P.consts.toList.map cellOfVal ++ [cellOfVal input])) P.consts.size input
    exact leaf_decodes (by simp) hi⟩
  instrs i := by show P.instrs.toList[i]? = P.instrs[i]?; simp
  jumps j := by show P.jumps.toList[j]? = P.jumps[j]?; simp
  ilen := rfl
  consts k v hk := by
    show Decodes (refView (P.consts.toList.map cellOfVal ++ [cellOfVal input])) k v
    exact leaf_decodes (load_cells_get cellOfVal input hk)
      ((List.all_eq_true.mp hc) v (Array.mem_toList_iff.2 (Array.mem_of_getElem? hk)))

theorem staticOK_of_all (P : Prog F) (h : P.instrs.toList.all (fun p => !isDynamic p.1) = true) : StaticOK P := by
  intro i instr operand hi
  have hm : (instr, operand) ∈ P.instrs.toList := List.mem_of_getElem? (by simpa using hi)
  have := (List.all_eq_true.mp h) _ hm
  simpa using this

/-! ### non-vacuity: the text `$ ?> 1 |> 2` on the reference store, input `true` -/

/-- the source text `$ ?> 1 |> 2`, lexed, parsed and built by the models, loaded into the reference store with the
input value `true` and a declining host, and run by the address-level loop: it ends (`End`) with ONE input-value
address, and that address decodes to `1` — the value `evalProgram` assigns to the text's program on input `true`.
All hypotheses of `C01_text_to_store` are discharged: the store laws (`refStore_lawsRun`), the host
(`refStore_hostRefines`), the loading (`loadRef_loaded`: the built constants are leaves) and `RunOK` (the built
program is static: `staticOK_of_all`). -/
example (fo : FloatOps Float) :
    ∃ d entry n, buildText noFloat asciiCC "$ ?> 1 |> 2".toList = .ok (d, entry) ∧
      ∃ s' a, executeLoop fo (refStore (fun _ => none)) 0 (fullHandlers fo (refStore (fun _ => none)) 0 (RM.fail .unsupported)) n
          (loadRef (progOf d) ((progOf d).jumps[entry]?.getD 0) .tru) = .ok ((.end_, n), s') ∧
        s'.vals = [a] ∧ Decodes (refView s'.cells) a (.num (.int 1)) ∧ s'.regs = [] ∧ s'.frames = [] := by
  obtain ⟨toks, rt, hlex, hf, href, hel⟩ := SourceProps.srcCond
  obtain ⟨d, entry, n, hb, hrun⟩ :=
    C01_text_to_store (S := refStore (fun _ => none)) noFloat asciiCC (refStore_lawsRun _) fo Host.declining
      refStore_hostRefines 0 (RM.fail .unsupported) _ _ hlex hf _ href progCond hel progCond_wf
      .tru 5 _ _ (progCond_meaning fo Host.declining)
  obtain ⟨d', hb', hprog⟩ := SourceProps.srcCond_built
  cases hb.symm.trans hb'
  have hleaf : (progOf d).consts.toList.all isLeaf = true := by rw [hprog]; rfl
  have hstatic : StaticOK (progOf d) := staticOK_of_all _ (by rw [hprog]; rfl)
  obtain ⟨s', a, h1, h2, h3, h4, h5⟩ := hrun _ (loadRef_loaded _ (progOf d) _ .tru hleaf rfl)
    (C01_runOK_of_static fo 0 hstatic n _)
  exact ⟨d, 0, n, hb, s', a, h1, h2, h3, h4, h5⟩

end Garnish.Props.C01TextStore
