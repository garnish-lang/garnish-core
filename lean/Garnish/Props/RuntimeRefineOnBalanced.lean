/-
Static discharge of the run-level side conditions of the relativised refinement (`RunOKG`) from STACK BALANCE
(Props/C06Static.lean: `absDepth`, `Good`; every `balancedB` source program compiles to a program the analysis accepts,
`C06_compile_balanced_sound` / `C06_text_balanced`).

* `C06_deep_of_balanced`: in every state a balanced program reaches (`ReachK`: calls enter expression bodies the analysis
  knows), the instruction at the cursor has `MDeepN` at its arity — its pops stay above the registers the newest frame
  saved, which is what Simple's `pop_register` needs — and an `EndExpression` with no frame left has exactly one register
  (so Simple's draining `pop_frame` loses nothing). This covers EVERY `MDeepN` / "no other register" conjunct of
  `MachOKOn … MachOKOn4`.
* `C01_runOKG_of_reach`: any coverage predicate that holds in every reachable state holds along every run.
* `C01_runOKOn_of_balanced`: for the instructions of groups 0–1 (29 instructions: no call, no look-up, no comparison)
  the ONLY remaining side condition is "no `custom` value on top level of the stacks / among the constants".
* `C01_text_to_simple_store_balanced` (Props/C01TextStoreOnBalanced.lean): `C01_text_to_simple_store1` with `RunOKG`
  replaced by: `balancedB p`, the compiled program uses groups 0–1 only, no `custom` constant, no `custom` on the stacks
  along the run, calls enter known bodies.
What is NOT discharged statically: the value conditions (`≠ custom`, the domains of comparisons / look-ups / apply,
non-slice / non-number operands) — they speak about run-time values; and `ReachK`'s condition on calls (it holds when
every `Expression` value comes from the constants: not proved here).
-/
import Garnish.Lemmas.RuntimeOnBalanced
import Garnish.Props.RuntimeRefineOn4
import Garnish.Props.SourceProps1
namespace Garnish.Props.RuntimeRefine
open Garnish Gen Garnish.Abs Garnish.Model.Equality Garnish.Model.Runtime Garnish.Lemmas.Runtime
open Garnish.Lemmas.Runtime.On Garnish.Props.C06

variable {F : Type} {P : Prog F} {host : Host F} {fo : FloatOps F}

theorem C06_deep_of_balanced {entry : Nat} {d : Array (Option Nat)} (h : absDepth P entry = some d)
    (hentry : entry < P.instrs.size) (vals : List (Val F)) (tr : List (HostCall F)) {s : MState F}
    (hr : ReachK fo host P (entry :: exprEntries P) ⟨entry, [], vals, [], tr⟩ s)
    {i : Instruction} {o : Option Nat} (hi : P.instrs[s.pc]? = some (i, o)) :
    MDeepN s (arityOf i o) ∧ (i = .endExpression → s.frames = [] → ∃ r, s.regs = [r]) :=
  deep_of_balanced h hentry vals tr hr hi

theorem C01_runOKG_of_reach (ok : MState F → Instruction → Option Nat → Prop) (entries : List Nat) (s0 : MState F)
    (hok : ∀ s, ReachK fo host P entries s0 s → ∀ i o, P.instrs[s.pc]? = some (i, o) → ok s i o)
    (hcalls : ∀ s s', ReachK fo host P entries s0 s → Abs.step fo host P s = .running s' →
      s'.frames.length = s.frames.length + 1 → s'.pc ∈ entries) (n : Nat) :
    RunOKG fo ok host P n s0 := runOKG_of_reach ok entries s0 hok hcalls n s0 (.refl _)

/-- groups 0–1: `RunOKG` from stack balance and "no `custom`" -/
theorem C01_runOKOn_of_balanced {entry : Nat} {d : Array (Option Nat)} (h : absDepth P entry = some d)
    (hentry : entry < P.instrs.size) (vals : List (Val F)) (tr : List (HostCall F))
    (hinstr : ∀ (pc : Nat) (i : Instruction) (o : Option Nat), P.instrs[pc]? = some (i, o) → inG1 i = true)
    (hconst : ∀ (k : Nat) (v : Val F), P.consts[k]? = some v → v ≠ Val.custom)
    (hnc : ∀ s, ReachK fo host P (entry :: exprEntries P) ⟨entry, [], vals, [], tr⟩ s → NoCustomTop s)
    (hcalls : ∀ s s', ReachK fo host P (entry :: exprEntries P) ⟨entry, [], vals, [], tr⟩ s →
      Abs.step fo host P s = .running s' → s'.frames.length = s.frames.length + 1 → s'.pc ∈ entry :: exprEntries P)
    (n : Nat) : RunOKG fo (MachOKOn1 P) host P n ⟨entry, [], vals, [], tr⟩ :=
  runOKG_of_reach (MachOKOn1 P) (entry :: exprEntries P) _
    (fun s hr i o hf => by
      obtain ⟨hd, he⟩ := deep_of_balanced (fo := fo) (host := host) h hentry vals tr hr hf
      exact machOKOn1_of (hinstr _ i o hf) hconst (hnc s hr) hd he)
    hcalls n _ (.refl _)

end Garnish.Props.RuntimeRefine
