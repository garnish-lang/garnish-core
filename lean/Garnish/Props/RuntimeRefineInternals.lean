/-
Runtime refinement, part 6: the remaining handlers (Model/Runtime/Internals.lean) — `type_of` (casting.rs),
`type_equal` (equality.rs), internals.rs (`access_left_internal`, `access_right_internal`, `access_length_internal`,
`concatenation_len`) — and the `equal` / `not_equal` handlers obtained by wrapping the read-only model of
`perform_equality_check` (Model/Equality.lean, `C11_equal_refines_fuel`): run on the current view and registers, pop the
two registers it consumed, `push_boolean`. No new store law is needed for "registers can be set back": the verdict
comes with the registers `rest` below the operands, and popping `|regs| − |rest|` registers with the existing
`pop_register` contract restores exactly them.
Hypotheses: `StoreLaws`, register shape, `Decodes`; `Equal`: C11's `NoSlice` and `eqFuel`; `AccessLengthInternal`:
`LengthDomain` (lengths ≤ `i32::MAX`, a slice holds a range value) and `accessFuel`.
-/
import Garnish.Lemmas.RuntimeInternals
import Garnish.Lemmas.RuntimeRefStore
namespace Garnish.Props.RuntimeRefine
open Garnish Gen Garnish.Abs Garnish.Model.Equality Garnish.Model.Runtime Garnish.Lemmas.Runtime

variable {F σ : Type} {S : RStore F σ} (fo : FloatOps F)

/-- `type_of`: Abs/Ops `unaryOp .typeOf` -/
theorem C08_refine_type_of (L : StoreLaws S) {s : σ} {a : Nat} {v : Val F} {rest : List Nat}
    (hregs : S.regs s = a :: rest) (h : Decodes (S.view s) a v) :
    Pushed S s (typeOfH S s) none rest (.type v.typeOf) := (Core.typeOfH_spec L.toK hregs h trivial nofun).plain

/-- `type_equal`: Abs/Ops `typeEqual` (a type VALUE on the right is compared by the type it names) -/
theorem C08_refine_type_equal (L : StoreLaws S) {s : σ} {r l : Nat} {vr vl : Val F} {rest : List Nat}
    (hregs : S.regs s = r :: l :: rest) (hl : Decodes (S.view s) l vl) (hr : Decodes (S.view s) r vr) :
    Pushed S s (typeEqualH S s) none rest (Abs.typeEqual vl vr) := (Core.typeEqualH_spec L.toK hregs hl hr trivial nofun).plain

/-- `equal` as a handler: Abs/Ops `binaryOp .equal` = structural equality of the decoded operands -/
theorem C11_refine_equal_handler (L : StoreLaws S) (fuel : Nat) {s : σ} {r l : Nat} {vr vl : Val F}
    {rest : List Nat} (hregs : S.regs s = r :: l :: rest) (hl : Decodes (S.view s) l vl)
    (hr : Decodes (S.view s) r vr) (nl : NoSlice vl) (nr : NoSlice vr) (hf : eqFuel vl vr ≤ fuel) :
    Pushed S s (equalH fo S fuel false s) none rest (Val.ofBool (valEq fo vl vr)) :=
  (Core.equalH_spec fo L.toK fuel false hregs hl hr nl nr hf trivial nofun).plain

/-- `not_equal` as a handler -/
theorem C11_refine_not_equal_handler (L : StoreLaws S) (fuel : Nat) {s : σ} {r l : Nat} {vr vl : Val F}
    {rest : List Nat} (hregs : S.regs s = r :: l :: rest) (hl : Decodes (S.view s) l vl)
    (hr : Decodes (S.view s) r vr) (nl : NoSlice vl) (nr : NoSlice vr) (hf : eqFuel vl vr ≤ fuel) :
    Pushed S s (equalH fo S fuel true s) none rest (Val.ofBool (!valEq fo vl vr)) :=
  (Core.equalH_spec fo L.toK fuel true hregs hl hr nl nr hf trivial nofun).plain

/-- `access_left_internal` / `access_right_internal`: the component's OWN address, or the defer protocol with the
filler `(Unit, 0)` -/
theorem C08_refine_access_left_internal (L : StoreLaws S) {s : σ} {a : Nat} {v : Val F} {rest : List Nat}
    (hregs : S.regs s = a :: rest) (h : Decodes (S.view s) a v) :
    RefinesOut S s (accessLeftInternalH S s) none rest a 0 (Abs.accessLeftInternal v) :=
  (Core.accessLeftInternalH_spec L.toK hregs h (fun _ _ => nofun) trivial nofun).plain

theorem C08_refine_access_right_internal (L : StoreLaws S) {s : σ} {a : Nat} {v : Val F} {rest : List Nat}
    (hregs : S.regs s = a :: rest) (h : Decodes (S.view s) a v) :
    RefinesOut S s (accessRightInternalH S s) none rest a 0 (Abs.accessRightInternal v) :=
  (Core.accessRightInternalH_spec L.toK hregs h (fun _ _ => nofun) trivial nofun).plain

/-- `concatenation_len`: the number of flattened items; every borrowed register is given back -/
theorem C16_refine_concatenation_len (L : StoreLaws S) (fuel : Nat) {s : σ} {addr : Nat} {vl vr : Val F}
    (h : Decodes (S.view s) addr (.concat vl vr)) (hf : nodes vl + nodes vr + 1 ≤ fuel)
    (hb : (flatItems vl ++ flatItems vr).length ≤ 2147483647) :
    ∃ s', concatenationLen fo S fuel addr s = .ok ((flatItems vl ++ flatItems vr).length, s') ∧
      Eff S s s' (S.regs s) (S.vals s) := by
  obtain ⟨s', h1, e⟩ := Core.concatenationLen_spec fo L.toK fuel h hf hb nofun trivial nofun
  exact ⟨s', h1, e.toEff⟩

/-- `access_length_internal` -/
theorem C08_refine_access_length_internal (L : StoreLaws S) (fuel : Nat) {s : σ} {a : Nat} {v : Val F}
    {rest : List Nat} (hregs : S.regs s = a :: rest) (h : Decodes (S.view s) a v) (hd : LengthDomain v)
    (hf : accessFuel v ≤ fuel) :
    RefinesOut S s (accessLengthInternalH fo S fuel s) none rest a 0 (Abs.accessLengthInternal fo v) :=
  (Core.accessLengthInternalH_spec fo L.toK fuel hregs h hd hf nofun trivial nofun).plain

/-! ### non-vacuity -/

/-- `0: 1   1: 2   2: (1 = 2)   3: 1 (another cell)   4: (1 = 2) again   5: 2 <> 2 … -/
def intCells : List (RCell F) :=
  [.num (.int 1), .num (.int 2), .pair 0 1, .num (.int 1), .pair 3 1]

/-- two pairs at different addresses, with equal components at different addresses, are equal: theorem instantiated -/
example : Pushed (refStore (fun _ => none)) (RefState.init (intCells (F := F)) [4, 2, 9])
    (equalH fo (refStore (fun _ => none)) 10 false (RefState.init intCells [4, 2, 9])) none [9]
    (Val.ofBool (valEq fo (.pair (.num (.int 1)) (.num (.int 2))) (.pair (.num (.int 1)) (.num (.int 2))))) :=
  C11_refine_equal_handler fo (refStore_laws _) 10 rfl (.pair rfl rfl (.num rfl rfl) (.num rfl rfl))
    (.pair rfl rfl (.num rfl rfl) (.num rfl rfl)) rfl rfl (by simp [eqFuel, vsize])

/-- `access_left_internal` of the pair pushes the component's own address -/
example : ∃ s', accessLeftInternalH (refStore (fun _ => none)) (RefState.init (intCells (F := F)) [2, 9]) = .ok (none, s') ∧
    s'.regs = [0, 9] := ⟨_, rfl, rfl⟩

end Garnish.Props.RuntimeRefine
