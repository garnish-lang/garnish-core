/-
C01 — compiled programs compute what the source means.
The reference evaluator `Spec.evalF` (Spec/Eval.lean) is the meaning of a program; the abstract machine
`Abs.step` (Abs/Machine.lean) is the value-level model of `execute_current_instruction`.
This file: the per-construct execution lemmas of the machine that the compile-correctness proof is built
from (each is also what the corresponding evalF clause says), for all values, stacks and hosts.
`C01_compile_correct_statement` (all programs) is stated below as a `def … : Prop`; the part proved so far is
listed in the theorems; the PROG suite compares the real pipeline with `evalF` program by program.
-/
import Garnish.Spec.Eval
namespace Garnish.Props.C01
open Garnish Gen Garnish.Abs Garnish.Spec

variable {F : Type} (fo : FloatOps F) (host : Host F)

/-- a literal: `Put k` pushes the constant -/
theorem C01_put (P : Prog F) (s : MState F) (k : Nat) (v : Val F)
    (hi : P.instrs[s.pc]? = some (.put, some k)) (hc : P.consts[k]? = some v) :
    step fo host P s = seqNext P s (.ok { s with regs := v :: s.regs }) := by
  simp [step, hi, hc]

/-- `$`: `PutValue` pushes the current input value (unit when there is none) -/
theorem C01_putValue (P : Prog F) (s : MState F) (d : Option Nat) (hi : P.instrs[s.pc]? = some (.putValue, d)) :
    step fo host P s = seqNext P s (.ok { s with regs := (s.vals.head?.getD .unit) :: s.regs }) := by
  simp only [step, hi]
  cases h : s.vals <;> simp

/-- a binary operator whose operands were pushed left then right: exactly what `evalF (.binary …)` does
after evaluating the operands — `settle` there is `pushOut` here -/
theorem C01_binary (P : Prog F) (s : MState F) (op : Instruction) (d : Option Nat) (l r : Val F) (rs : List (Val F))
    (o : OpOut F) (hi : P.instrs[s.pc]? = some (op, d)) (hr : s.regs = r :: l :: rs)
    (hu : unaryOp fo op r = none) (hb : binaryOp fo op l r = some o)
    (hop : op ≠ .apply ∧ op ≠ .makePair ∧ op ≠ .applyType) :
    step fo host P s = seqNext P s (pushOut host { s with regs := rs } o) := by
  obtain ⟨h1, h2, h3⟩ := hop
  unfold step
  simp only [hi, hr]
  cases op <;> first
    | (exfalso; exact h1 rfl) | (exfalso; exact h2 rfl) | (exfalso; exact h3 rfl)
    | (simp [binaryOp] at hb; done) | (simp [unaryOp] at hu; done) | (simp only [hu, hb]; done)

/-- what `settle` does in the evaluator is what `pushOut` does in the machine -/
theorem C01_settle_is_pushOut (s : MState F) (st : St F) (o : OpOut F) (v : Val F) (st' : St F)
    (htr : st.trace = s.trace) (h : settle host st o = .ok (v, st')) :
    pushOut host s o = .ok { s with regs := v :: s.regs, trace := st'.trace } := by
  cases o with
  | val x => simp [settle] at h; obtain ⟨rfl, rfl⟩ := h; simp [pushOut, htr]
  | defer op l r =>
    simp only [settle] at h
    simp only [pushOut]
    cases hd : host.defer op l r <;> simp [hd] at h ⊢ <;> obtain ⟨rfl, rfl⟩ := h <;> simp [htr]
  | err e => simp [settle] at h

/-- pair: the builder pushes right then left, `MakePair` pops the left one first -/
theorem C01_makePair (P : Prog F) (s : MState F) (d : Option Nat) (l r : Val F) (rs : List (Val F))
    (hi : P.instrs[s.pc]? = some (.makePair, d)) (hr : s.regs = l :: r :: rs) :
    step fo host P s = seqNext P s (.ok { s with regs := .pair l r :: rs }) := by
  simp [step, hi, hr]

/-- a list of `n` items pushed in order -/
theorem C01_makeList (P : Prog F) (s : MState F) (n : Nat) (hi : P.instrs[s.pc]? = some (.makeList, some n))
    (hn : n ≤ s.regs.length) :
    step fo host P s = seqNext P s (.ok { s with regs := .list (s.regs.take n).reverse :: s.regs.drop n }) := by
  have : ¬ n > s.regs.length := by omega
  simp [step, hi, this]

/-- `a ; b`: the left result becomes the input value -/
theorem C01_updateValue (P : Prog F) (s : MState F) (d : Option Nat) (r v : Val F) (rs vs : List (Val F))
    (hi : P.instrs[s.pc]? = some (.updateValue, d)) (hr : s.regs = r :: rs) (hv : s.vals = v :: vs) :
    step fo host P s = seqNext P s (.ok { s with regs := rs, vals := r :: vs }) := by
  simp [step, hi, hr, hv]

/-- identifier: looked up in the current input value, then offered to the host once, then unit —
the machine's `resolveStep` is the evaluator's `resolveVal` -/
theorem C01_resolve_agrees (s : MState F) (st : St F) (sym : Nat) (cur : Val F) (vs : List (Val F))
    (hv : s.vals = cur :: vs) (hin : st.inp = cur) (htr : st.trace = s.trace) :
    (match resolveVal fo host st sym with
     | .ok (v, st') => resolveStep fo host s (.sym sym) = .ok { s with regs := v :: s.regs, trace := st'.trace }
     | .err e => resolveStep fo host s (.sym sym) = .error e
     | .fuelOut => False) := by
  simp only [resolveVal, resolveStep, hv, hin]
  cases hg : getAccess fo (.sym sym) cur with
  | some v => simp [htr]
  | none => cases hh : host.resolve sym <;> simp [hh, htr]
  | unsupported => cases hh : host.resolve sym <;> simp [hh, htr]
  | err e => cases e <;> simp <;> (cases hh : host.resolve sym <;> simp [hh, htr])

/-- apply of an expression value: a frame with the return point and the caller's operands, the
argument as the new input value, control at the body's entry -/
theorem C01_apply_expression (P : Prog F) (s : MState F) (d : Option Nat) (j t : Nat) (x : Val F) (rs : List (Val F))
    (hi : P.instrs[s.pc]? = some (.apply, d)) (hr : s.regs = x :: .expr j :: rs) (hj : P.jumps[j]? = some t) :
    step fo host P s = finish P (.ok ({ s with regs := rs, vals := x :: s.vals, frames := ⟨s.pc + 1, rs⟩ :: s.frames }, t)) := by
  simp [step, hi, hr, applyStep, applyKind, jumpTarget, hj, bind, Except.bind]

/-- end of a called expression: the result replaces whatever the body left, the argument is popped,
control returns after the call -/
theorem C01_endExpression_return (P : Prog F) (s : MState F) (d : Option Nat) (r : Val F) (rs : List (Val F))
    (fr : Frame F) (frs : List (Frame F))
    (hi : P.instrs[s.pc]? = some (.endExpression, d)) (hr : s.regs = r :: rs) (hf : s.frames = fr :: frs) :
    step fo host P s = finish P (.ok ({ s with regs := r :: fr.saved, vals := s.vals.tail, frames := frs }, fr.ret)) := by
  simp [step, hi, hr, hf]

/-- end of the program: the result becomes the current value and execution stops -/
theorem C01_endExpression_halt (P : Prog F) (s : MState F) (d : Option Nat) (r v : Val F) (rs vs : List (Val F))
    (hi : P.instrs[s.pc]? = some (.endExpression, d)) (hr : s.regs = r :: rs) (hf : s.frames = []) (hv : s.vals = v :: vs) :
    step fo host P s = .halted { s with regs := rs, vals := r :: vs, pc := P.instrs.size } := by
  simp [step, hi, hr, hf, hv]

/-- `^~`: the input value is replaced, not pushed; no frame is created; control goes to the entry -/
theorem C01_reapply (P : Prog F) (s : MState F) (j t : Nat) (v w : Val F) (rs vs : List (Val F))
    (hi : P.instrs[s.pc]? = some (.reapply, some j)) (hr : s.regs = v :: rs) (hv : s.vals = w :: vs) (hj : P.jumps[j]? = some t) :
    step fo host P s = finish P (.ok ({ s with regs := rs, vals := v :: vs }, t)) := by
  simp [step, hi, hr, hv, jumpTarget, hj]

/-- The statement for a builder model `compile`: for every program of the core language, every input and every
host, if the reference evaluator assigns value `v` with host-call trace `tr`, then the machine loaded with
the compiled program halts with current value `v`, the same trace, no pending operands, the input-value
stack at its initial depth and no frames. It is proved for `Abs.compile` on the programs that satisfy `WFProgram`
(`C01_compile_correct` and `C01_compile_correct_statement_wf` in Props/C01Compile.lean, whose header lists the
shapes `WFProgram` excludes and why). -/
def C01_compile_correct_statement (compile : Program F → Prog F) : Prop :=
  ∀ (p : Program F) (input : Val F) (fuel : Nat) (v : Val F) (st : St F),
    evalProgram fo host fuel p input = .ok (v, st) →
    ∃ n s, run fo host (compile p) n { pc := (compile p).jumps[0]?.getD 0, regs := [], vals := [input], frames := [], trace := [] }
            = (.halted s, n) ∧ s.vals = [v] ∧ s.regs = [] ∧ s.frames = [] ∧ s.trace = st.trace

/-! ### non-vacuity: the evaluator computes on a concrete program -/
example : (match evalProgram (F := F) fo Host.declining 10
    { main := .binary .makePair (.lit (.num (.int 1))) .input, bodies := [] } (.num (.int 5)) with
    | .ok (v, _) => v.typeOf == .pair | _ => false) = true := by
  simp [evalProgram, evalBody, evalF, binaryOp, settle, Val.typeOf]

end Garnish.Props.C01
