/-
`C01_text_to_simple_store_static`: the source-text theorem on `SimpleGarnishData` with NO run-time hypothesis, for the
syntactic class `staticOKSimple p input`:
* `balancedB p` (the executable form of `WFBalanced`: `^~` in tail positions only),
* the entry of `compile p` lies inside the program,
* every instruction of `compile p` is DYN-FREE (`progDynFree`: no comparison, `Concat`, `Apply`, `EmptyApply`,
  `Access`, `Resolve`, `Equal`, `NotEqual`, `AccessLengthInternal` — the twelve instructions whose residual side
  condition `DynOK` speaks about run-time values; the other 44, in particular all arithmetic / bitwise / logic
  instructions, jumps, `MakePair`, `MakeList`, the ranges, `PartialApply`, `TypeOf`, `TypeEqual`, the side-effect
  brackets and `Reapply`, are allowed),
* the constants and the input are leaves `SimpleGarnishData` holds, custom-free, and an `Expression` input is known.
All of it is decidable by evaluation on the source program and the input. Remaining hypotheses are about the source text
(`C01_text_correct`'s), the cache (`HitSound`) and the host (`HostRefinesI`, `HostNoCustom`, `HostExprsKnown`);
`C01_text_to_simple_store_static_declining` discharges the host ones for the declining host. Non-vacuity:
`$ ?> 1 |> 2` (Props/C01TextStoreStaticEx.lean).
-/
import Garnish.Props.RuntimeRefineNoHcalls
import Garnish.Lemmas.DynFree
namespace Garnish.Props.C01TextStore
open Garnish Garnish.Gen Garnish.Spec Garnish.Abs Garnish.Abs.Tree Garnish.Abs.Source Garnish.Model Garnish.Model.Parser
open Garnish.Model.Lexer Garnish.Model.Literals Garnish.Model.Build Garnish.Props.C01Build Garnish.Props.C01Source
open Garnish.Props.C02Numbered Garnish.Props.C01Text
open Garnish.Model.Equality Garnish.Model.Runtime Garnish.Lemmas.Runtime Garnish.Props.RuntimeRefine
open Garnish.Lemmas.Runtime.On Garnish.Lemmas.Runtime.Simple Garnish.Props.SourceProps Garnish.Lemmas.NoCustom
open Garnish.Lemmas.Her

variable {F : Type} (pf : List Char → Option F) (cc : CharClass)

/-- the syntactic class: everything is checked on the source program and the input by evaluation -/
def staticOKSimple (p : Program F) (input : Val F) : Bool :=
  balancedB p &&
  decide ((compile p).jumps[0]?.getD 0 < (compile p).instrs.size) &&
  progDynFree (compile p) &&
  (compile p).consts.toList.all (fun c => isLeafS c && nc c) &&
  isLeafS input && nc input && her (exprQ (compile p)) input

/-- **no run-time hypothesis**: for a program in the class, on the payload model of `SimpleGarnishData` with a cache
that confirms its hits, the address-level loop ends with one input-value address that decodes to the value
`evalProgram` assigns to the text -/
theorem C01_text_to_simple_store_static {p : Program F} {hit : List (SimCell F) → SimCell F → Option Nat}
    (hs : HitSound hit) (hh : SimHost F) (fo : FloatOps F) (host : Host F)
    (HR : HostRefinesI (simpleRStore hit hh) SInv host) (HN : HostNoCustom host)
    (HE : HostExprsKnown (compile p) host) (loopFuel : Nat) (cast : RM (SimState F) (Option Nat)) (s : List Char)
    (toks : List LexerToken) (hlex : lex cc s = .ok toks) (hf : frag9' (toP toks) = true) (rt : RTree)
    (href : refParse Table.gen (toP toks) = .ok rt) (hel : elaborate pf (toP toks) rt = some p)
    (hwf : C01.WFProgram p) (input : Val F) (hstatic : staticOKSimple p input = true) (fuel : Nat) (v : Val F)
    (st : St F) (h : evalProgram fo host fuel p input = .ok (v, st)) :
    ∃ d n, buildText pf cc s = .ok (d, 0) ∧ progOf d = compile p ∧
      ∃ s' a, executeLoop fo (simpleRStore hit hh) loopFuel (fullHandlers fo (simpleRStore hit hh) loopFuel cast) n
          (loadSimple (reloc (progOf d)) ((progOf d).jumps[0]?.getD 0) input) = .ok ((.end_, n), s') ∧
        s'.values = [a] ∧ Decodes (simView s'.cells) a v ∧ (simpleRStore hit hh).regs s' = [] ∧
        (simpleRStore hit hh).frames s' = [] ∧ SInv s' := by
  simp only [staticOKSimple, Bool.and_eq_true, decide_eq_true_eq] at hstatic
  obtain ⟨⟨⟨⟨⟨⟨hbal, hentry⟩, hdf⟩, hconsts⟩, hin⟩, hinc⟩, hine⟩ := hstatic
  have hleaf : (compile p).consts.toList.all isLeafS = true :=
    List.all_eq_true.mpr fun c hc => by
      have := (List.all_eq_true.mp hconsts) c hc
      simp only [Bool.and_eq_true] at this
      exact this.1
  have hcnc : ConstsNC (compile p) := fun k c hk => by
    have := (List.all_eq_true.mp hconsts) c (List.mem_of_getElem? (by simpa using hk))
    simp only [Bool.and_eq_true] at this
    exact this.2
  exact C01_text_to_simple_store_balanced_full_noHcalls pf cc hs hh fo host HR HN HE loopFuel cast s toks hlex hf rt href
    hel hwf hbal input fuel v st h hentry hleaf hin hcnc hinc hine
    (fun m _ i o hi => dynOK_of_dynFree fo _ _ _ _ m o (dynFree_at hdf hi))

/-- … and with the declining host (every host hypothesis discharged): only the source-side hypotheses, `HitSound` and
the static check remain -/
theorem C01_text_to_simple_store_static_declining {p : Program F} {hit : List (SimCell F) → SimCell F → Option Nat}
    (hs : HitSound hit) (fo : FloatOps F) (loopFuel : Nat) (cast : RM (SimState F) (Option Nat)) (s : List Char)
    (toks : List LexerToken) (hlex : lex cc s = .ok toks) (hf : frag9' (toP toks) = true) (rt : RTree)
    (href : refParse Table.gen (toP toks) = .ok rt) (hel : elaborate pf (toP toks) rt = some p)
    (hwf : C01.WFProgram p) (input : Val F) (hstatic : staticOKSimple p input = true) (fuel : Nat) (v : Val F)
    (st : St F) (h : evalProgram fo Host.declining fuel p input = .ok (v, st)) :
    ∃ d n, buildText pf cc s = .ok (d, 0) ∧ progOf d = compile p ∧
      ∃ s' a, executeLoop fo (simpleRStore hit (fun _ st => (false, st))) loopFuel
          (fullHandlers fo (simpleRStore hit (fun _ st => (false, st))) loopFuel cast) n
          (loadSimple (reloc (progOf d)) ((progOf d).jumps[0]?.getD 0) input) = .ok ((.end_, n), s') ∧
        s'.values = [a] ∧ Decodes (simView s'.cells) a v ∧
        (simpleRStore hit (fun _ st => (false, st))).regs s' = [] ∧
        (simpleRStore hit (fun _ st => (false, st))).frames s' = [] ∧ SInv s' :=
  C01_text_to_simple_store_static pf cc hs (fun _ st => (false, st)) fo Host.declining C01_simple_host_declines
    hostNoCustom_declining (hostHer_declining _) loopFuel cast s toks hlex hf rt href hel hwf input hstatic fuel v st h

end Garnish.Props.C01TextStore
