/-
C01 — compiled programs compute what the source means: the central theorem.

`Abs.compile` (Abs/Compile.lean) is the structured model of `build`; suite COMPILE ties it to the real
`build` (instruction stream, jump table and constants identical on every generated program).
`Spec.evalProgram` is the meaning of a program, `Abs.run` the value-level machine.

  C01_compile_correct :
    WFProgram p → evalProgram fo host fuel p input = .ok (v, st) →
    ∃ n s, run fo host (compile p) n ⟨entry, [], [input], [], []⟩ = (.halted s, n) ∧
           s.vals = [v] ∧ s.regs = [] ∧ s.frames = [] ∧ s.trace = st.trace

for every float type, host, input, fuel: no bound on program size, nesting depth, recursion or iterations.
Proof: `run_located` (Lemmas/CompileRun*.lean, induction on the evaluator's fuel) relative to
`Env` = "every body is laid out at the jump entry that is its id"; `layoutRoots_located`
(Lemmas/CompileLoop.lean) establishes `Env` for `compile p`.

`WFProgram` — every exclusion (all are language-level or labelling conditions; that the layout loop finishes and that
the roots get distinct jump entries are theorems: `compile_complete`, `compile_distinct`):
  language-level (shapes the AST type admits and the language cannot produce)
   1. `main0`    body 0 of the table is the program itself (the convention of `evalProgram`).
   2. `wf` → `wfE` on every body:
      a. `unary op`: `op` is a prefix/suffix operator or `~~` (`unOK`); `binary op`: `op` is a binary operator whose
         operands are evaluated left first (`binOK`; `=` and `~>` have their own constructors: `binary makePair`
         would evaluate left first, which no instruction sequence of the builder does);
         a literal is not an expression value (`lit (.expr j)`: expression values come from `{}` only).
      b. an else-chain has its final arm … see (F1): `WFProgramC` / `C01_compile_correct_chain` drop this.
      c. (`{ }` inside an out-of-line root is NOT excluded — see (F2).)
      d. the body of a side-effect block contains no `^~` of the enclosing body: a restart from inside the block
         leaves the block's copy of `$` on the input-value stack, so after the restarted body returns the caller's
         `$` is wrong — the compiled program and the meaning of the source differ here, this cannot be relaxed by
         weakening the conclusion (C06's decision on non-tail `^~`; `10 [^~ 7]` is also rejected by `absDepth`).
   3. `tail`     in the TOP-LEVEL body `^~` occurs only in tail positions (end of the body, of a conditional arm, of
                 the right operand of `&&`/`||`): an operand pending at a top-level restart stays on the operand stack
                 for good, so `s.regs = []` would fail. Nested bodies are NOT restricted — operand-position `^~` inside
                 `{ … }` is covered by the theorem: the frame pop discards the surplus (what remains excluded is
                 exactly: operand-position `^~` at top level, and any `^~` inside a side-effect block).
  labelling (the ids of `nested` are names; the theorem compares values, so the names must be the jump entries)
   4. `labels`   the id of every nested body is the jump entry `compile` allocates for it (this also rules out
                 shared or cyclic references to a body);
      `covered`  every body of the table is referenced by a `nested id` that is laid out (no dead table entries,
                 which a value `.expr id` coming from the input could enter).
      `CompileAux.canonical` (Driver/CompileDrv.lean) renames any tree-shaped program accordingly.
  findings (language CAN produce them; `build` and the meaning of the source differ):
   (F1) else-chain whose last arm is conditional and fails: no value is pushed (DESIGN finding #6).
        Not excluded by shape: `WFProgramC` (= `WFProgram` with `wfC` for `wfE`) admits else-chains without a final
        arm, and `C01_compile_correct_chain` proves the conclusion of C01 for them under the condition that the evaluation
        never reaches a missing fall-through — in every such chain that is evaluated, in every iteration and call, some
        arm matches. The condition is stated with the strict evaluator `evalProgramS` (Lemmas/CompileStrict.lean:
        `evalProgram` with that one outcome turned into `.err .state`): `evalProgramS … ≠ .err .state`;
        `strict_or`: `evalBodyS = evalBody ∨ evalBodyS = .err .state`; `strict_eq`: they coincide when every chain has its
        final arm. The simulation (Lemmas/CompileRun*.lean) is proved for the strict evaluator; `C01_compile_correct`
        follows by `strict_eq`.
   (F2) `$ ?> { }`: before repository commit df89d39 the empty nested expression inside an out-of-line root referred to
        that root's jump entry, not to the containing expression — a genuine defect (reproducer
        `({ $ == 1 ?> { } } <~ 1) <~ 0`: `Expression(2)` where the source means `0`). Since that commit `{ }` takes the
        node's `containing_expression_jump`, as `^~` does; `emit` has `.emptyNested ↦ Put (.expr cur)`, `wfE`/`wfC` admit
        `{ }` everywhere, and the reproducer is a regression example below (`exF2`: well formed, meaning `0`, compiled
        program computes `0`).
-/
import Garnish.Lemmas.CompileInto
import Garnish.Lemmas.CompileStrictAgree
import Garnish.Props.C06Static
import Garnish.Lemmas.CompileDepthFinal
namespace Garnish.Props.C01
open Garnish Gen Garnish.Abs Garnish.Spec

variable {F : Type} (fo : FloatOps F) (host : Host F)

structure WFProgram (p : Program F) : Prop where
  main0 : lookupBody p.bodies 0 = some p.main
  wf : ∀ id b, lookupBody p.bodies id = some b → wfE b = true
  tail : tailR p.main = true
  labels : ∀ r ∈ (compileState Prog.empty p).done, ∀ id, r.kind = .ref id → r.patch = id
  covered : ∀ id b, lookupBody p.bodies id = some b → ∃ r ∈ (compileState Prog.empty p).done, r.kind = .ref id

/-- `WFProgram` without exclusion (F1): an else-chain need not have a final arm (`wfC` instead of `wfE`). What replaces
the syntactic exclusion is a condition on the evaluation: it never reaches a missing fall-through — see
`C01_compile_correct_chain`. -/
structure WFProgramC (p : Program F) : Prop where
  main0 : lookupBody p.bodies 0 = some p.main
  wf : ∀ id b, lookupBody p.bodies id = some b → wfC b = true
  tail : tailR p.main = true
  labels : ∀ r ∈ (compileState Prog.empty p).done, ∀ id, r.kind = .ref id → r.patch = id
  covered : ∀ id b, lookupBody p.bodies id = some b → ∃ r ∈ (compileState Prog.empty p).done, r.kind = .ref id

theorem WFProgram.toC {p : Program F} (h : WFProgram p) : WFProgramC p :=
  ⟨h.main0, fun id b hb => wfE_wfC b (h.wf id b hb), h.tail, h.labels, h.covered⟩

theorem lookupBody_mem {bodies : List (Nat × Expr F)} {id : Nat} {b : Expr F} (h : lookupBody bodies id = some b) :
    (id, b) ∈ bodies := by
  induction bodies with
  | nil => simp [lookupBody] at h
  | cons x xs ih =>
    obtain ⟨k, e⟩ := x
    simp only [lookupBody] at h
    split at h
    · rename_i hk
      simp only [Option.some.injEq] at h
      have : k = id := by simpa using hk
      subst this; subst h
      exact List.mem_cons_self
    · exact List.mem_cons_of_mem _ (ih h)

/-- what `WFProgram` / `WFProgramC` ask beyond `main0`, as a check on the table of bodies and the list of roots laid out -/
def wfCheck (W : Expr F → Bool) (p : Program F) (done : List (Root F)) : Bool :=
  p.bodies.all (fun ib => W ib.2) && tailR p.main &&
  done.all (fun r => match r.kind with | .ref id => r.patch == id | .code _ => true) &&
  p.bodies.all (fun ib => done.any (fun r => match r.kind with | .ref id => id == ib.1 | .code _ => false))

theorem wfCheck_sound {W : Expr F → Bool} {p : Program F} {done : List (Root F)} (hc : wfCheck W p done = true) :
    (∀ id b, lookupBody p.bodies id = some b → W b = true) ∧ tailR p.main = true ∧
    (∀ r ∈ done, ∀ id, r.kind = .ref id → r.patch = id) ∧
    (∀ id b, lookupBody p.bodies id = some b → ∃ r ∈ done, r.kind = .ref id) := by
  simp only [wfCheck, Bool.and_eq_true, List.all_eq_true, List.any_eq_true] at hc
  obtain ⟨⟨⟨h1, h2⟩, h3⟩, h4⟩ := hc
  refine ⟨fun id b h => h1 _ (lookupBody_mem h), h2, fun r hr id hk => ?_, fun id b h => ?_⟩
  · have := h3 r hr; rw [hk] at this; simpa using this
  · obtain ⟨r, hr, h⟩ := h4 _ (lookupBody_mem h)
    refine ⟨r, hr, ?_⟩
    split at h
    · rename_i id' hk; rw [hk]; simp only at h; rw [show id' = id by simpa using h]
    · cases h

theorem WFProgram.ofCheck {p : Program F} {done : List (Root F)} (hm : lookupBody p.bodies 0 = some p.main)
    (hd : (compileState Prog.empty p).done = done) (hc : wfCheck wfE p done = true) : WFProgram p := by
  obtain ⟨h1, h2, h3, h4⟩ := wfCheck_sound hc
  exact ⟨hm, h1, h2, hd ▸ h3, hd ▸ h4⟩

theorem WFProgramC.ofCheck {p : Program F} {done : List (Root F)} (hm : lookupBody p.bodies 0 = some p.main)
    (hd : (compileState Prog.empty p).done = done) (hc : wfCheck wfC p done = true) : WFProgramC p := by
  obtain ⟨h1, h2, h3, h4⟩ := wfCheck_sound hc
  exact ⟨hm, h1, h2, hd ▸ h3, hd ▸ h4⟩

theorem compile_eq (p : Program F) : compile p = (compileState Prog.empty p).toProg := rfl

theorem startState_inv : Inv (startState (F := F) Prog.empty) := Abs.startState_inv _

/-- the roots laid out have pairwise distinct jump entries — for every program -/
theorem compile_distinct (p : Program F) : ((compileState Prog.empty p).done.map (·.patch)).Nodup :=
  compileState_distinct _ p

theorem refIds_nodup : ∀ (l : List (Root F)), (∀ r ∈ l, ∀ id, r.kind = .ref id → r.patch = id) →
    (l.map (·.patch)).Nodup → (l.filterMap refId).Nodup :=
  Abs.refIds_nodup

/-- the layout loop finishes within its fuel when the nested bodies are named by their jump entries -/
theorem compile_complete (p : Program F)
    (hlab : ∀ r ∈ (compileState Prog.empty p).done, ∀ id, r.kind = .ref id → r.patch = id) :
    (compileState Prog.empty p).pending = [] :=
  compileState_complete _ p hlab

/-- (iii) `layoutRoots_located` for whole programs: in `compile p` every body of the table is laid out at the
jump entry that is its id and is followed by `EndExpression` -/
theorem compile_env (p : Program F) (hwf : WFProgramC p) : Env (compile p) p.bodies :=
  compileInto_env Prog.empty p hwf.wf hwf.labels hwf.covered

/-- **C01, the central theorem**: a program that the reference evaluator gives a value to runs, compiled, to
completion with that value as the current value, the same host-call trace, no pending operands, the
input-value stack at its initial depth and no frames -/
theorem C01_compile_correct_strict (p : Program F) (input : Val F) (fuel : Nat) (v : Val F) (st : St F)
    (hwf : WFProgramC p) (h : evalProgramS fo host fuel p input = .ok (v, st)) :
    ∃ n s, run fo host (compile p) n
        { pc := (compile p).jumps[0]?.getD 0, regs := [], vals := [input], frames := [], trace := [] } = (.halted s, n) ∧
      s.vals = [v] ∧ s.regs = [] ∧ s.frames = [] ∧ s.trace = st.trace :=
  run_body fo host (compile_env p hwf) hwf.main0 hwf.tail h

/-- the strict evaluator only adds the side condition: a value it gives is the value `evalProgram` gives -/
theorem evalProgramS_refines {p : Program F} {input : Val F} {fuel : Nat} {r : Val F × St F}
    (h : evalProgramS fo host fuel p input = .ok r) : evalProgram fo host fuel p input = .ok r :=
  strict_refines fo host h

/-- **C01 with else-chains that have no final arm** (exclusion F1 as a condition on the evaluation instead of on the
syntax): for a program whose else-chains may lack the final arm, if the meaning of the source is `(v, trace)` and the
evaluation never reaches a missing fall-through — in every else-chain without a final arm that is evaluated, in every
iteration and every call, some arm matches: `evalProgramS ≠ .err .state`, where `evalProgramS` is `evalProgram` with
exactly that one outcome turned into an error (`strict_or`) — the compiled program computes `(v, trace)`. -/
theorem C01_compile_correct_chain (p : Program F) (input : Val F) (fuel : Nat) (v : Val F) (st : St F)
    (hwf : WFProgramC p) (h : evalProgram fo host fuel p input = .ok (v, st))
    (hnf : evalProgramS fo host fuel p input ≠ .err .state) :
    ∃ n s, run fo host (compile p) n
        { pc := (compile p).jumps[0]?.getD 0, regs := [], vals := [input], frames := [], trace := [] } = (.halted s, n) ∧
      s.vals = [v] ∧ s.regs = [] ∧ s.frames = [] ∧ s.trace = st.trace :=
  C01_compile_correct_strict fo host p input fuel v st hwf (strict_of_noFall fo host h hnf)

theorem C01_compile_correct (p : Program F) (input : Val F) (fuel : Nat) (v : Val F) (st : St F)
    (hwf : WFProgram p) (h : evalProgram fo host fuel p input = .ok (v, st)) :
    ∃ n s, run fo host (compile p) n
        { pc := (compile p).jumps[0]?.getD 0, regs := [], vals := [input], frames := [], trace := [] } = (.halted s, n) ∧
      s.vals = [v] ∧ s.regs = [] ∧ s.frames = [] ∧ s.trace = st.trace :=
  C01_compile_correct_strict fo host p input fuel v st hwf.toC (strict_of_wf hwf.wf hwf.main0 h)

/-- the statement of Props/C01.lean (`C01_compile_correct_statement`) holds for `compile` on well-formed programs -/
theorem C01_compile_correct_statement_wf :
    ∀ (p : Program F) (input : Val F) (fuel : Nat) (v : Val F) (st : St F), WFProgram p →
      evalProgram fo host fuel p input = .ok (v, st) →
      ∃ n s, run fo host (compile p) n
          { pc := (compile p).jumps[0]?.getD 0, regs := [], vals := [input], frames := [], trace := [] } = (.halted s, n) ∧
        s.vals = [v] ∧ s.regs = [] ∧ s.frames = [] ∧ s.trace = st.trace :=
  fun p input fuel v st hwf h => C01_compile_correct fo host p input fuel v st hwf h

/-! ### the stages (each is the central theorem on a class of programs) -/

mutual
/-- literals, `$`, identifiers, operators, pairs, lists, `;`, side-effect blocks -/
def straightE : Expr F → Bool
  | .lit _ | .input | .ident _ => true
  | .unary op x => op != .emptyApply && straightE x
  | .binary op l r => op != .apply && straightE l && straightE r
  | .pair l r | .seq l r | .sideAfter l r => straightE l && straightE r
  | .list items => straightL items
  | _ => false
def straightL : List (Expr F) → Bool
  | [] => true
  | x :: xs => straightE x && straightL xs
end

mutual
/-- … plus conditionals, else-chains, `&&`, `||` -/
def branchE : Expr F → Bool
  | .lit _ | .input | .ident _ => true
  | .unary op x => op != .emptyApply && branchE x
  | .binary op l r => op != .apply && branchE l && branchE r
  | .pair l r | .seq l r | .sideAfter l r | .cond _ l r | .and l r | .or l r => branchE l && branchE r
  | .list items => branchL items
  | .chain arms (some fe) => branchA arms && branchE fe
  | _ => false
def branchL : List (Expr F) → Bool
  | [] => true
  | x :: xs => branchE x && branchL xs
def branchA : List (Bool × Expr F × Expr F) → Bool
  | [] => true
  | (_, c, t) :: rest => branchE c && branchE t && branchA rest
end

/-- … plus nested expressions and every form of application: everything except `^~` -/
def callsP (p : Program F) : Prop := ∀ id b, lookupBody p.bodies id = some b → noR b = true

/-- stage 1: programs without jumps -/
theorem C01_compile_correct_straightline (p : Program F) (input : Val F) (fuel : Nat) (v : Val F) (st : St F)
    (_hs : straightE p.main = true) (hwf : WFProgram p) (h : evalProgram fo host fuel p input = .ok (v, st)) :
    ∃ n s, run fo host (compile p) n
        { pc := (compile p).jumps[0]?.getD 0, regs := [], vals := [input], frames := [], trace := [] } = (.halted s, n) ∧
      s.vals = [v] ∧ s.regs = [] ∧ s.frames = [] ∧ s.trace = st.trace :=
  C01_compile_correct fo host p input fuel v st hwf h

/-- stage 2: conditionals, else-chains with a final arm, `&&`/`||` -/
theorem C01_compile_correct_branches (p : Program F) (input : Val F) (fuel : Nat) (v : Val F) (st : St F)
    (_hs : branchE p.main = true) (hwf : WFProgram p) (h : evalProgram fo host fuel p input = .ok (v, st)) :
    ∃ n s, run fo host (compile p) n
        { pc := (compile p).jumps[0]?.getD 0, regs := [], vals := [input], frames := [], trace := [] } = (.halted s, n) ∧
      s.vals = [v] ∧ s.regs = [] ∧ s.frames = [] ∧ s.trace = st.trace :=
  C01_compile_correct fo host p input fuel v st hwf h

/-- stage 3: nested expressions, apply / apply-to / empty apply, identifier application (frames) -/
theorem C01_compile_correct_calls (p : Program F) (input : Val F) (fuel : Nat) (v : Val F) (st : St F)
    (_hs : callsP p) (hwf : WFProgram p) (h : evalProgram fo host fuel p input = .ok (v, st)) :
    ∃ n s, run fo host (compile p) n
        { pc := (compile p).jumps[0]?.getD 0, regs := [], vals := [input], frames := [], trace := [] } = (.halted s, n) ∧
      s.vals = [v] ∧ s.regs = [] ∧ s.frames = [] ∧ s.trace = st.trace :=
  C01_compile_correct fo host p input fuel v st hwf h

/-- stage 4: `^~` loops — any number of iterations, in constant stack depth -/
theorem C01_compile_correct_loops (p : Program F) (input : Val F) (fuel : Nat) (v : Val F) (st : St F)
    (hwf : WFProgram p) (h : evalProgram fo host fuel p input = .ok (v, st)) :
    ∃ n s, run fo host (compile p) n
        { pc := (compile p).jumps[0]?.getD 0, regs := [], vals := [input], frames := [], trace := [] } = (.halted s, n) ∧
      s.vals = [v] ∧ s.regs = [] ∧ s.frames = [] ∧ s.trace = st.trace :=
  C01_compile_correct fo host p input fuel v st hwf h

/-! ### corollaries: what is evaluated (C10) and which host calls are made (C17) -/

/-- C17: the host calls of the compiled program are exactly those of the source's meaning, in order -/
theorem C17_trace_transfer (p : Program F) (input : Val F) (fuel : Nat) (v : Val F) (st : St F)
    (hwf : WFProgram p) (h : evalProgram fo host fuel p input = .ok (v, st)) :
    ∃ n s, run fo host (compile p) n
        { pc := (compile p).jumps[0]?.getD 0, regs := [], vals := [input], frames := [], trace := [] } = (.halted s, n) ∧
      s.trace = st.trace := by
  obtain ⟨n, s, hr, _, _, _, ht⟩ := C01_compile_correct fo host p input fuel v st hwf h
  exact ⟨n, s, hr, ht⟩

/-- C10: `l && r` with a false left operand: the compiled program's result is `$!` and its host calls are those of
`l` alone — nothing of `r` is executed -/
theorem C10_and_short_circuits (p : Program F) (l r : Expr F) (hm : p.main = .and l r) (hwf : WFProgram p)
    (input : Val F) (fuel : Nat) (vl : Val F) (st1 : St F)
    (hl : evalF fo host p.bodies 0 fuel l ⟨input, []⟩ = .ok (.val vl, st1)) (hf : vl.truthy = false) :
    ∃ n s, run fo host (compile p) n
        { pc := (compile p).jumps[0]?.getD 0, regs := [], vals := [input], frames := [], trace := [] } = (.halted s, n) ∧
      s.vals = [.fls] ∧ s.trace = st1.trace := by
  have h : evalProgram fo host (fuel + 2) p input = .ok (.fls, st1) := by
    simp [evalProgram, evalBody, hm, evalF, hl, hf]
  obtain ⟨n, s, hr, hv, _, _, ht⟩ := C01_compile_correct fo host p input (fuel + 2) _ _ hwf h
  exact ⟨n, s, hr, hv, ht⟩

/-- C10: `l || r` with a true left operand: result `$?`, host calls of `l` alone -/
theorem C10_or_short_circuits (p : Program F) (l r : Expr F) (hm : p.main = .or l r) (hwf : WFProgram p)
    (input : Val F) (fuel : Nat) (vl : Val F) (st1 : St F)
    (hl : evalF fo host p.bodies 0 fuel l ⟨input, []⟩ = .ok (.val vl, st1)) (hf : vl.truthy = true) :
    ∃ n s, run fo host (compile p) n
        { pc := (compile p).jumps[0]?.getD 0, regs := [], vals := [input], frames := [], trace := [] } = (.halted s, n) ∧
      s.vals = [.tru] ∧ s.trace = st1.trace := by
  have h : evalProgram fo host (fuel + 2) p input = .ok (.tru, st1) := by
    simp [evalProgram, evalBody, hm, evalF, hl, hf]
  obtain ⟨n, s, hr, hv, _, _, ht⟩ := C01_compile_correct fo host p input (fuel + 2) _ _ hwf h
  exact ⟨n, s, hr, hv, ht⟩

/-- C10: a conditional whose test fails: the value is `$` and the host calls are those of the test alone — the
unselected arm is not executed -/
theorem C10_cond_evaluates_selected_arm (p : Program F) (onTrue : Bool) (c t : Expr F) (hm : p.main = .cond onTrue c t)
    (hwf : WFProgram p) (input : Val F) (fuel : Nat) (vc : Val F) (st1 : St F)
    (hc : evalF fo host p.bodies 0 fuel c ⟨input, []⟩ = .ok (.val vc, st1)) (hf : (vc.truthy == onTrue) = false) :
    ∃ n s, run fo host (compile p) n
        { pc := (compile p).jumps[0]?.getD 0, regs := [], vals := [input], frames := [], trace := [] } = (.halted s, n) ∧
      s.vals = [st1.inp] ∧ s.trace = st1.trace := by
  have h : evalProgram fo host (fuel + 2) p input = .ok (st1.inp, st1) := by
    simp [evalProgram, evalBody, hm, evalF, hc, hf]
  obtain ⟨n, s, hr, hv, _, _, ht⟩ := C01_compile_correct fo host p input (fuel + 2) _ _ hwf h
  exact ⟨n, s, hr, hv, ht⟩

/-! ### non-vacuity: a concrete well-formed program with a conditional, and its compiled form -/

/-- `$ ?> 1` -/
def exProg : Program F := { main := .cond true .input (.lit (.num (.int 1))), bodies := [(0, .cond true .input (.lit (.num (.int 1))))] }

/-- the two roots of `exProg` laid out one after the other, each from an explicit state (evaluating the whole
layout in one step is far slower to check) -/
theorem exProg_state : compileState Prog.empty (exProg (F := F)) =
    { instrs := #[(.putValue, none), (.jumpIfTrue, some 1), (.putValue, none), (.endExpression, none), (.put, some 0), (.jumpTo, some 2)],
      jumps := #[0, 4, 3], consts := #[.num (.int 1)], pending := [],
      done := [⟨.code (.lit (.num (.int 1))), 1, [(.jumpTo, some 2)], 0⟩, ⟨.ref 0, 0, [(.endExpression, none)], 0⟩],
      depths := #[0, 1, 0, 1, 0, 1], dep := 2, pendDep := [] } := by
  have h0 : compileState Prog.empty (exProg (F := F)) = layoutRoots (exProg (F := F)).bodies 6
      { instrs := #[], jumps := #[0], consts := #[], pending := [⟨.ref 0, 0, [(.endExpression, none)], 0⟩], done := [],
        depths := #[], dep := 0, pendDep := [0] } := by rfl
  have h1 : layoutRoot (exProg (F := F)).bodies ⟨.ref 0, 0, [(.endExpression, none)], 0⟩
      { instrs := #[], jumps := #[0], consts := #[], pending := [], done := [], depths := #[], dep := 0, pendDep := [0] } =
      { instrs := #[(.putValue, none), (.jumpIfTrue, some 1), (.putValue, none), (.endExpression, none)],
        jumps := #[0, 0, 3], consts := #[], pending := [⟨.code (.lit (.num (.int 1))), 1, [(.jumpTo, some 2)], 0⟩],
        done := [⟨.ref 0, 0, [(.endExpression, none)], 0⟩], depths := #[0, 1, 0, 1], dep := 1, pendDep := [0] } := by rfl
  have h2 : layoutRoot (exProg (F := F)).bodies ⟨.code (.lit (.num (.int 1))), 1, [(.jumpTo, some 2)], 0⟩
      { instrs := #[(.putValue, none), (.jumpIfTrue, some 1), (.putValue, none), (.endExpression, none)],
        jumps := #[0, 0, 3], consts := #[], pending := [],
        done := [⟨.ref 0, 0, [(.endExpression, none)], 0⟩], depths := #[0, 1, 0, 1], dep := 1, pendDep := [0] } =
      { instrs := #[(.putValue, none), (.jumpIfTrue, some 1), (.putValue, none), (.endExpression, none), (.put, some 0), (.jumpTo, some 2)],
        jumps := #[0, 4, 3], consts := #[.num (.int 1)], pending := [],
        done := [⟨.code (.lit (.num (.int 1))), 1, [(.jumpTo, some 2)], 0⟩, ⟨.ref 0, 0, [(.endExpression, none)], 0⟩],
        depths := #[0, 1, 0, 1, 0, 1], dep := 2, pendDep := [] } := by rfl
  rw [h0, layoutRoots_step _ 5 rfl, h1, layoutRoots_step _ 4 rfl, h2]
  rfl
example : (compile (exProg (F := F))).instrs =
    #[(.putValue, none), (.jumpIfTrue, some 1), (.putValue, none), (.endExpression, none), (.put, some 0), (.jumpTo, some 2)] ∧
    (compile (exProg (F := F))).jumps = #[0, 4, 3] := by
  rw [show compile (exProg (F := F)) = (compileState Prog.empty exProg).toProg from rfl, exProg_state]
  exact ⟨rfl, rfl⟩

example : WFProgram (exProg (F := F)) := .ofCheck rfl (congrArg LState.done exProg_state) (by rfl)

/-! ### non-vacuity for (F1): an else-chain without a final arm -/

/-- `$ ?> 5 |> $ == 1 ?> 7`: two conditional arms, no final arm -/
def exChain : Program Float :=
  { main := .chain [(true, .input, .lit (.num (.int 5))), (true, .binary .equal .input (.lit (.num (.int 1))), .lit (.num (.int 7)))] none,
    bodies := [(0, .chain [(true, .input, .lit (.num (.int 5))), (true, .binary .equal .input (.lit (.num (.int 1))), .lit (.num (.int 7)))] none)] }

theorem exChain_wf : WFProgramC exChain := .ofCheck rfl rfl (by rfl)

/-- on a truthy input the first arm matches: the strict evaluator gives `5`, and so does the compiled program … -/
example (fo : FloatOps Float) (host : Host Float) :
    ∃ n s, run fo host (compile exChain) n
        { pc := (compile exChain).jumps[0]?.getD 0, regs := [], vals := [.num (.int 3)], frames := [], trace := [] } = (.halted s, n) ∧
      s.vals = [.num (.int 5)] ∧ s.regs = [] ∧ s.frames = [] ∧ s.trace = [] :=
  C01_compile_correct_strict fo host exChain (.num (.int 3)) 5 (.num (.int 5)) ⟨.num (.int 3), []⟩ exChain_wf
    (by simp [evalProgramS, evalBodyS, evalFS, evalChainS, exChain, Val.truthy])

/-- … on `()` no arm matches: `evalProgram` says `()` (the current `$`), the strict evaluator reports the missing
fall-through — the side condition of `C01_compile_correct_chain` fails, and rightly so: the compiled code pushes nothing -/
example (fo : FloatOps Float) (host : Host Float) :
    evalProgram fo host 6 exChain .unit = .ok (.unit, ⟨.unit, []⟩) ∧
    evalProgramS fo host 6 exChain .unit = .err .state := by
  constructor <;>
    simp [evalProgram, evalProgramS, evalBody, evalBodyS, evalF, evalFS, evalChain, evalChainS, exChain, Val.truthy, binaryOp,
      valEq, norm, nvalEq, Val.ofBool, settle]

/-! ### regression for finding (F2): `{ }` inside a conditional arm

Before repo commit df89d39 `({ $ == 1 ?> { } } <~ 1) <~ 0` gave `Expression(2)` (the arm's own jump entry) on the real
pipeline where the meaning of the source is `0`; since that commit `{ }` names the containing expression everywhere, as
`emit` does (`.emptyNested ↦ Put (.expr cur)`), and the program is an ordinary well-formed one. -/

def exF2body : Expr Float := .cond true (.binary .equal .input (.lit (.num (.int 1)))) .emptyNested
def exF2main : Expr Float :=
  .binary .apply (.binary .apply (.nested 1) (.lit (.num (.int 1)))) (.lit (.num (.int 0)))
def exF2 : Program Float := { main := exF2main, bodies := [(0, exF2main), (1, exF2body)] }

/-- the arm (root 2, laid out at 12) holds `Put (e 1)`: the nested body, not the arm -/
example : (compile exF2).instrs =
    #[(.put, some 0), (.put, some 1), (.apply, none), (.put, some 2), (.apply, none), (.endExpression, none),
      (.putValue, none), (.put, some 3), (.equal, none), (.jumpIfTrue, some 2), (.putValue, none), (.endExpression, none),
      (.put, some 4), (.jumpTo, some 3)] ∧
    (compile exF2).jumps = #[0, 6, 12, 11] := by
  constructor <;> decide

example : (compile exF2).consts[4]? = some (.expr 1) := by rfl

theorem exF2_wf : WFProgram exF2 := .ofCheck rfl rfl (by rfl)

/-- the meaning of the source: `0` -/
theorem exF2_meaning (fo : FloatOps Float) (host : Host Float) :
    evalProgram fo host 12 exF2 .unit = .ok (.num (.int 0), ⟨.unit, []⟩) := by
  simp [evalProgram, evalBody, evalF, applyVals, applyKind, lookupBody, exF2, exF2main, exF2body, binaryOp, valEq, norm,
    nvalEq, Number.numEq, Val.ofBool, Val.truthy, settle]

/-- … and that is what the compiled program computes -/
example (fo : FloatOps Float) (host : Host Float) :
    ∃ n s, run fo host (compile exF2) n
        { pc := (compile exF2).jumps[0]?.getD 0, regs := [], vals := [.unit], frames := [], trace := [] } = (.halted s, n) ∧
      s.vals = [.num (.int 0)] ∧ s.regs = [] ∧ s.frames = [] ∧ s.trace = [] :=
  C01_compile_correct fo host exF2 .unit 12 _ _ exF2_wf (exF2_meaning fo host)

/-- the verified depth analysis accepts the compiled example (C06 static half, non-vacuity) -/
example : (C06.absDepth (compile (exProg (F := Float))) 0).isSome = true := by decide

end Garnish.Props.C01

/-! ## C06, static half: every compiled program is balanced

`C06_compile_balanced`: for every program whose bodies are well formed (`wfE`) and contain `^~` in tail positions
only (`tailAll` — in EVERY body, not only the top-level one: an operand pending at a restart makes the depth at the
body's entry depend on the path) the verified analysis `absDepth` succeeds on `compile p`. With `absDepth_sound`
(Props/C06Static.lean): along every execution the operand depth relative to the frame base is a function of the
program counter alone, never negative, and 1 at every `EndExpression` — for all compiled programs, all inputs, all
hosts, all paths, any number of iterations (`C06_compile_balanced_sound`).
Proof: `emit` carries a ghost depth for every instruction (`LState.depths`); Lemmas/CompileDepth*.lean and Lemmas/CompileEdges.lean show that this
assignment is consistent in the final program (`loopEC`: every instruction is `EdgeOK`, and the entry of every
`Expression` constant has depth 0); Lemmas/CompileDepthInfer.lean shows that the work-list search succeeds whenever a
consistent assignment exists. -/
namespace Garnish.Props.C06
open Garnish Gen Garnish.Abs Garnish.Spec

variable {F : Type} (fo : FloatOps F) (host : Host F)

/-- `^~` in tail positions only, and well-formedness, in every body of the table -/
def tailAll (p : Program F) : Bool := p.bodies.all (fun ib => wfE ib.2 && tailR ib.2)

/-- what `C06_compile_balanced` asks of a program -/
structure WFBalanced (p : Program F) : Prop where
  /-- every body is well formed and has `^~` in tail positions only -/
  tail : tailAll p = true
  /-- every nested id that is laid out has a body in the table -/
  closed : ∀ r ∈ (compileState Prog.empty p).done, ∀ id, r.kind = .ref id → ∃ b, lookupBody p.bodies id = some b
  labels : ∀ r ∈ (compileState Prog.empty p).done, ∀ id, r.kind = .ref id → r.patch = id

theorem startState_inv' : Inv (startState (F := F) Prog.empty) := startState_inv _

/-- **C06_compile_balanced**: the verified depth analysis succeeds on every compiled program -/
theorem C06_compile_balanced (p : Program F) (h : WFBalanced p) :
    ∃ d, absDepth (compile p) ((compile p).jumps[0]?.getD 0) = some d := by
  have inv0 := C01.startState_inv (F := F)
  have hdist := C01.compile_distinct p
  have hcomplete := C01.compile_complete p h.labels
  have dinv0 : DInv (startState (F := F) Prog.empty) := ⟨by simp [Al, startState, Prog.empty], by simp [startState]⟩
  have hprog : ∀ id b, lookupBody p.bodies id = some b → wfE b = true ∧ tailR b = true := by
    intro id b hb
    have := List.all_eq_true.1 h.tail (id, b) (C01.lookupBody_mem hb)
    simpa using this
  have hyp0 : ∀ q ∈ (startState (F := F) Prog.empty).pending.zip (startState (F := F) Prog.empty).pendDep,
      TermOK (compileState Prog.empty p) q.1 q.2 := by
    intro q hq
    simp only [startState, List.zip_cons_cons, List.zip_nil_right, List.mem_singleton] at hq
    subst hq
    exact ⟨fun j hj => by simp at hj, fun b hb => by simp at hb, fun _ _ => rfl⟩
  -- `loopEC`: every instruction is `EdgeOK` at its ghost depth and every `Expression` constant names an entry of depth 0;
  -- `monoD`: the ghost depths are aligned with the instructions, and body 0 starts at depth 0 at `jumps[0]` (`head_jump`)
  obtain ⟨hE, hC⟩ := loopEC p.bodies (bodiesSize p.bodies + 2) (startState Prog.empty) inv0 dinv0 hcomplete
    (fun r hr => h.labels r hr) hdist hprog h.closed hyp0
  obtain ⟨_, alF, hroots⟩ := monoD p.bodies (bodiesSize p.bodies + 2) (startState Prog.empty) inv0 dinv0 hcomplete
    (fun r hr => h.labels r hr) hdist
  have hD : DOK (compile p) (compileState Prog.empty p).depths := by
    refine ⟨alF, fun pc k hk => ?_⟩
    have hlt : pc < (compileState Prog.empty p).instrs.size := by
      have := (Array.getElem?_eq_some_iff.mp hk).1
      have e : (compileState Prog.empty p).depths.size = (compileState Prog.empty p).instrs.size := alF
      omega
    obtain ⟨k', es, hd, he, hes⟩ := hE pc (by simp [startState, Prog.empty]) hlt
    have hd : (compileState Prog.empty p).depths[pc]? = some k' := hd
    rw [hk] at hd
    simp only [Option.some.injEq] at hd
    subst hd
    exact ⟨es, he, hes⟩
  -- so the ghost depths are a consistent total assignment (`DOK`), and the search of `absDepth` finds one whenever there is one
  refine absDepth_complete hD (fun t ht => ?_)
  simp only [List.mem_cons] at ht
  rcases ht with rfl | ht
  · have hr0 := hroots (⟨.ref 0, 0, [(.endExpression, none)], 0⟩, 0) (by simp [startState, Prog.empty])
    cases hj : (compile p).jumps[0]? with
    | none =>
      simp only [Option.getD_none]
      have hj0 := head_jump p.bodies (fuel := bodiesSize p.bodies + 1) (s := startState Prog.empty) inv0
        (r := ⟨.ref 0, 0, [(.endExpression, none)], 0⟩) (rest := []) (by simp [startState, Prog.empty]) hcomplete
        (fun r hr => h.labels r hr) hdist
      have : (compile p).jumps[0]? = some 0 := hj0
      rw [hj] at this; cases this
    | some t =>
      simp only [Option.getD_some]
      exact hr0 t hj
  · simp only [exprEntries, List.mem_filterMap] at ht
    obtain ⟨v, hv, hvt⟩ := ht
    cases v with
    | expr j =>
      simp only at hvt
      obtain ⟨k, hk, hkv⟩ := List.getElem_of_mem hv
      have hck : (compile p).consts[k]? = some (.expr j) := by
        rw [← Array.getElem?_toList]
        rw [List.getElem?_eq_getElem hk, hkv]
      exact hC k j (Nat.zero_le _) hck t hvt
    | _ => simp at hvt

/-- the static half of C06 for all compiled programs: the analysis succeeds, and therefore along every execution
(in which the expressions entered are bodies known to the analysis) the frame-relative operand depth is the one
the analysis assigns to the program counter — path-independent and never negative — and it is exactly 1 at every
`EndExpression` -/
theorem C06_compile_balanced_sound (p : Program F) (h : WFBalanced p) :
    ∃ d, absDepth (compile p) ((compile p).jumps[0]?.getD 0) = some d ∧
      ∀ (vals : List (Val F)) (tr : List (HostCall F)) (s : MState F),
        (compile p).jumps[0]?.getD 0 < (compile p).instrs.size →
        ReachK fo host (compile p) ((compile p).jumps[0]?.getD 0 :: exprEntries (compile p))
          ⟨(compile p).jumps[0]?.getD 0, [], vals, [], tr⟩ s →
        Good (compile p) d s ∧
        (∀ o, (compile p).instrs[s.pc]? = some (.endExpression, o) → s.regs.length = base s.frames + 1) := by
  obtain ⟨d, hd⟩ := C06_compile_balanced p h
  refine ⟨d, hd, fun vals tr s hentry hr => ⟨absDepth_sound (fo := fo) (host := host) hd hentry vals tr hr, fun o hi => ?_⟩⟩
  exact absDepth_endExpression_one (fo := fo) (host := host) hd hentry vals tr hr hi

end Garnish.Props.C06
