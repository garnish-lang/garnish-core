/-
The program-level properties from the source text, continued (Props/SourceProps1.lean: C06, C05, C17, C10):

  C04_text_attribution   `C04_source_attribution` (Props/C04Source) from the characters: the parser's node array is the sequence of
                         the significant tokens; every non-structural token gets an instruction; instruction order follows token
                         order inside a root (reversed for Pair / ApplyTo); out-of-line subtrees come after their owner's root
  C20_text_shared        two texts built one after the other into ONE object: the second build changes nothing of the first
                         program (`Extends`: every instruction, jump entry and constant stays), the first program, run from its
                         entry in the final object, still gives its stand-alone result, and the second, run from ITS entry, gives
                         its stand-alone result up to the names of its nested bodies (`Val.rl (shJ P0)`: expression values are
                         jump-table indices, shifted by the size of the table they are built into)
  C20_text_into          the one-step form for an object that holds anything: this is what iterates
  C20_text_shared_all    any number of texts: `buildTextsInto`; every program, in the final object, runs as its source means
The non-vacuity examples, source strings by evaluation: Props/SourcePropsEx.lean.
-/
import Garnish.Props.SourceProps1
namespace Garnish.Props.SourceProps
open Garnish Garnish.Gen Garnish.Spec Garnish.Abs Garnish.Abs.Tree Garnish.Abs.Source Garnish.Model Garnish.Model.Parser
open Garnish.Model.Lexer Garnish.Model.Literals Garnish.Model.Build Garnish.Props.C01Build Garnish.Props.C01Source
open Garnish.Props.C02Numbered Garnish.Props.C01Text Garnish.Props.C20
open Garnish.Lemmas.BuildSeq Garnish.Lemmas.TreeOrder Garnish.Props.C04Order

variable {F : Type} (pf : List Char → Option F) (cc : CharClass) (fo : FloatOps F) (host : Host F)

/-! ### C04 -/

/-- **C04 from the source text**: for every text whose token list is in `frag9'` and on which the pipeline succeeds — -/
theorem C04_text_attribution (s : List Char) (toks : List LexerToken) (hlex : lex cc s = .ok toks)
    (hf : frag9' (toP toks) = true) (d' : BState F) (entry : Nat) (hb : buildText pf cc s = .ok (d', entry)) :
    ∃ r t, parse (toP toks) = .ok r ∧ toTree r = some t ∧
    -- the node array is the sequence of the significant tokens
    (t.inorder = List.range r.nodes.size ∧
      ∀ (i : Nat) (n : ParseNode), r.nodes[i]? = some n → textAt (toP toks) (tokPos n) = n.lexToken.text) ∧
    -- every token that is not structural gets an instruction
    (∀ (i : Nat) (n : ParseNode), r.nodes[i]? = some n → Garnish.Lemmas.BuildAttr.attributable n.definition = true →
      ∃ k : Nat, d'.metadata[k]? = some (some i)) ∧
    -- operands: token order and instruction order
    (∀ (p l rt : Nat) (pn : ParseNode), r.nodes[p]? = some pn → pn.left = some l → pn.right = some rt →
      inlL (layout pn.definition) = true → inlR (layout pn.definition) = true →
      ∀ x z, IDesc r.nodes l x → IDesc r.nodes rt z → (x < p ∧ p < z) ∧
        ∀ kx kz : Nat, d'.metadata[kx]? = some (some x) →
          d'.metadata[kz]? = some (some z) → if layout pn.definition = .rln then kz < kx else kx < kz) ∧
    -- out of line: written after the owner, emitted after the owner's root
    (∀ (ρ y rt : Nat) (yn : ParseNode), IDesc r.nodes ρ y → r.nodes[y]? = some yn → yn.right = some rt →
      oolR yn.definition = true → r.nodes[ρ]? ≠ none → ∀ x z, IDesc r.nodes ρ x → Sub r.nodes rt z → y < z ∧
        ∀ kx kz : Nat, d'.metadata[kx]? = some (some x) → d'.metadata[kz]? = some (some z) → kx < kz) := by
  obtain ⟨r, t, hp, ht, _⟩ :=
    Garnish.Props.C02Parse.C02_parse_correct_fragment_optional (toP toks) (frag9'_sub hf) (toP_numbered toks)
  rw [buildText_of pf cc hlex hp] at hb
  obtain ⟨h1, h2, h3, h4⟩ :=
    Garnish.Props.C04Source.C04_source_attribution pf (toP toks) hf (toP_numbered toks) r t hp ht _ _ d' entry hb
  have h0 : ∀ k : Nat, (BState.empty (F := F)).metadata.size ≤ k := fun k => Nat.zero_le k
  refine ⟨r, t, hp, ht, h1, ?_, ?_, ?_⟩
  · intro i n hi ha
    obtain ⟨k, _, hk⟩ := h2 i n hi ha
    exact ⟨k, hk⟩
  · intro p l rt pn hpn hl hr hil hir x z hx hz
    obtain ⟨ha, hb'⟩ := h3 p l rt pn hpn hl hr hil hir x z hx hz
    exact ⟨ha, fun kx kz hmx hmz => hb' kx kz (h0 kx) (h0 kz) hmx hmz⟩
  · intro ρ y rt yn hy hyn hr hool hρ x z hx hz
    obtain ⟨ha, hb'⟩ := h4 ρ y rt yn hy hyn hr hool hρ x z hx hz
    exact ⟨ha, fun kx kz hmx hmz => hb' kx kz (h0 kx) (h0 kz) hmx hmz⟩

/-! ### C20 -/

/-- **C20, one step**: a text built into an object that holds ANY `P0 = progOf data`: the entry is the next jump entry, nothing
that was in the object is changed, and the program, run from its entry, gives its stand-alone result — value and host-call trace —
with the names of nested bodies shifted by the size of the jump table it is built into -/
theorem C20_text_into (data : BState F) (s : List Char) (p : Program F) (h : Src pf cc s p) (hwf : C01.WFProgram p) :
    ∃ d, buildTextInto pf cc data s = .ok (d, data.jumps.size) ∧ Extends (progOf data) (progOf d) ∧
      ∀ (host' : Host F), HostRel (shJ (progOf data)) host host' →
      ∀ (input : Val F) (fuel : Nat) (v : Val F) (st : St F), evalProgram fo host fuel p input = .ok (v, st) →
        ∃ n m, run fo host' (progOf d) n
            { pc := (progOf d).jumps[data.jumps.size]?.getD 0, regs := [], vals := [Val.rl (shJ (progOf data)) input],
              frames := [], trace := [] } = (.halted m, n) ∧
          m.vals = [Val.rl (shJ (progOf data)) v] ∧ m.regs = [] ∧ m.frames = [] ∧
          m.trace = st.trace.map (HostCall.rl (shJ (progOf data))) := by
  obtain ⟨d, hb, hd⟩ := h.into hwf data
  refine ⟨d, hb, by rw [hd]; exact C20_compileInto_extends _ _, fun host' hh input fuel v st he => ?_⟩
  have := (C20_same_as_alone fo host host' (progOf data) p input fuel v st hwf hh he).2
  rw [hd]
  exact this

/-- **C20 from the source text**: two texts built one after the other into one object -/
theorem C20_text_shared (s1 s2 : List Char) (p1 p2 : Program F) (h1 : Src pf cc s1 p1) (h2 : Src pf cc s2 p2)
    (w1 : C01.WFProgram p1) (w2 : C01.WFProgram p2) :
    ∃ d1 d2, buildText pf cc s1 = .ok (d1, 0) ∧ buildTextInto pf cc d1 s2 = .ok (d2, d1.jumps.size) ∧
      -- the second build leaves the first program's instructions, jump entries and constants unchanged
      Extends (progOf d1) (progOf d2) ∧
      -- the first program, run from its entry in the final object, gives its stand-alone result
      (∀ (input : Val F) (fuel : Nat) (v : Val F) (st : St F), evalProgram fo host fuel p1 input = .ok (v, st) →
        ∃ n m, run fo host (progOf d2) n
            { pc := (progOf d2).jumps[0]?.getD 0, regs := [], vals := [input], frames := [], trace := [] } = (.halted m, n) ∧
          m.vals = [v] ∧ m.regs = [] ∧ m.frames = [] ∧ m.trace = st.trace) ∧
      -- the second program, run from ITS entry, gives its stand-alone result (bodies named by their entries in the shared table)
      (∀ (host' : Host F), HostRel (shJ (progOf d1)) host host' →
        ∀ (input : Val F) (fuel : Nat) (v : Val F) (st : St F), evalProgram fo host fuel p2 input = .ok (v, st) →
        ∃ n m, run fo host' (progOf d2) n
            { pc := (progOf d2).jumps[d1.jumps.size]?.getD 0, regs := [], vals := [Val.rl (shJ (progOf d1)) input],
              frames := [], trace := [] } = (.halted m, n) ∧
          m.vals = [Val.rl (shJ (progOf d1)) v] ∧ m.regs = [] ∧ m.frames = [] ∧
          m.trace = st.trace.map (HostCall.rl (shJ (progOf d1)))) := by
  obtain ⟨d1, hb1, hd1⟩ := h1.built (C01.compile_complete p1 w1.labels)
  obtain ⟨d2, hb2, hext, hrun2⟩ := C20_text_into pf cc fo host d1 s2 p2 h2 w2
  refine ⟨d1, d2, hb1, hb2, hext, fun input fuel v st he => ?_, hrun2⟩
  have env := compile_env_at Prog.empty p1 (wfAt_empty w1)
  have hc : (compileInto Prog.empty p1).1 = progOf d1 := by rw [hd1]; rfl
  rw [hc] at env
  have hS := evalBody_toS fo host (wfAt_empty w1) (e := 0) (fuel := fuel) (st0 := ⟨input, []⟩) (r := (v, st))
    (by simpa [evalProgram] using he)
  exact C20_correct_of_extends fo host hext env w1.main0 w1.tail hS

/-! ### any number of texts -/

/-- the texts built one after the other into the object; returns the object and the entries, in order -/
def buildTextsInto (data : BState F) : List (List Char) → Outcome (BState F × List Nat)
  | [] => .ok (data, [])
  | s :: ss =>
    Outcome.bind (buildTextInto pf cc data s) fun de =>
      Outcome.bind (buildTextsInto de.1 ss) fun r => .ok (r.1, de.2 :: r.2)

/-- the programs as they are named in the shared object: each with its bodies renamed to the jump entries they get where it is
built (`C20_same_as_alone`: renaming changes the meaning by nothing but that renaming) -/
def placeAll (P0 : Prog F) : List (Program F) → List (Program F)
  | [] => []
  | p :: ps => rlProgram (shJ P0) p :: placeAll (compileInto P0 (rlProgram (shJ P0) p)).1 ps

theorem placeAll_length : ∀ (ps : List (Program F)) (P0 : Prog F), (placeAll P0 ps).length = ps.length
  | [], _ => rfl
  | _ :: ps, _ => by simp [placeAll, placeAll_length ps]

theorem wfAll_place : ∀ (ps : List (Program F)) (P0 : Prog F), (∀ p ∈ ps, C01.WFProgram p) → WFAll P0 (placeAll P0 ps)
  | [], _, _ => trivial
  | p :: ps, P0, h =>
    ⟨WFProgramAt_shift P0 p (h p (List.mem_cons_self ..)), wfAll_place ps _ (fun q hq => h q (List.mem_cons_of_mem _ hq))⟩

variable {pf cc}

theorem texts_into : ∀ (sps : List (List Char × Program F)) (data : BState F),
    (∀ sp ∈ sps, Src pf cc sp.1 sp.2 ∧ C01.WFProgram sp.2) →
    ∃ d, buildTextsInto pf cc data (sps.map (·.1)) =
        .ok (d, (compileAll (progOf data) (placeAll (progOf data) (sps.map (·.2)))).2) ∧
      progOf d = (compileAll (progOf data) (placeAll (progOf data) (sps.map (·.2)))).1
  | [], data, _ => ⟨data, rfl, rfl⟩
  | (s, p) :: rest, data, h => by
    obtain ⟨hs, hw⟩ := h (s, p) (List.mem_cons_self ..)
    obtain ⟨d1, hb1, hd1⟩ := hs.into hw data
    obtain ⟨d, hb, hd⟩ := texts_into rest d1 (fun sp hsp => h sp (List.mem_cons_of_mem _ hsp))
    rw [hd1] at hb hd
    refine ⟨d, ?_, ?_⟩
    · rw [List.map_cons, buildTextsInto, hb1, Outcome.bind, hb]
      rfl
    · simp only [List.map_cons, placeAll, compileAll]
      exact hd

variable (pf cc)

/-- **C20 from the source texts, any number of them**: built one after the other into an object that holds anything, nothing
that was in the object is changed, and every program — as it is named in the shared object — started from its own entry in the
FINAL object computes the value and the host-call trace its source means: none is disturbed by the ones before or after it -/
theorem C20_text_shared_all (sps : List (List Char × Program F)) (data : BState F)
    (h : ∀ sp ∈ sps, Src pf cc sp.1 sp.2 ∧ C01.WFProgram sp.2) :
    ∃ d entries, buildTextsInto pf cc data (sps.map (·.1)) = .ok (d, entries) ∧ Extends (progOf data) (progOf d) ∧
      entries.length = sps.length ∧
      ∀ pe ∈ (placeAll (progOf data) (sps.map (·.2))).zip entries, RunsIn fo host (progOf d) pe.1 pe.2 := by
  obtain ⟨d, hb, hd⟩ := texts_into sps data h
  have hwf := wfAll_place (sps.map (·.2)) (progOf data) (fun p hp => by
    obtain ⟨sp, hsp, rfl⟩ := List.mem_map.mp hp
    exact (h sp hsp).2)
  refine ⟨d, _, hb, by rw [hd]; exact C20_compileAll_extends _ _, ?_, ?_⟩
  · rw [compileAll_length, placeAll_length]; simp
  · rw [hd]
    exact C20_compileAll_correct fo host _ _ hwf

end Garnish.Props.SourceProps
