/-
`BasicGarnishData` satisfies the runtime's store contract (`StoreLaws`, Model/Runtime/Store.lean) on the states its
interface operations reach — the core part: read-only getters, value adders, instruction cursor, host extension
points, register stack, input-value stack.

`StoreLaws` quantifies over ALL states of the abstract store; a `BasicGarnishData` heap satisfies the contract only
where its layout invariant holds, so the laws are stated relative to an invariant `Inv` that every law also
re-establishes (`CoreLawsOn`): `BInv` = `WFq` (Lemmas/MutWF.lean) + `Fits` (a cell of room under a growing policy)
+ typed register chain + saved registers of frames exist; `binv_init` holds of the fresh store.

Where the Basic law differs from `StoreLaws`:
* `push_register` / `push_value_stack`: the address pushed must be readable (`isNode`); `StoreLaws` allows any number.
  Every address the handlers push is the result of an adder or a getter, hence readable.
* every adder is stated with `Inv` before and after (allocation cannot fail under `Fits`; `StoreLaws` assumes it).
Not in the core: `set_current_value`, `push_frame` / `pop_frame`, `merge_to_symbol_list`, `start_list` and the data bound
(Props/C19StoreOn.lean, `basicStore_lawsOn_noList`); the list protocol `start_list(n)` / `add_to_list` / `end_list` —
Basic's announced-length protocol cannot satisfy `StoreLaws.addToList`, which lets any number of items follow
`start_list`; the law of the whole sequence is Props/C19ListOn.lean; `get_list_item_with_symbol` (Basic searches the
sorted key table and answers with the LAST of equal keys: `StoreLaws.listSym` is false of it, Lemmas/BasicListSym.lean);
and the converse of `decodes_of_unfold` (a `Decodes` fact does not say that the key table of a list is complete and
that its targets are values: it needs `headerOK` and an invariant on the targets).
-/
import Garnish.Lemmas.BasicStacks
import Garnish.Lemmas.BasicDecode
namespace Garnish.Props.C19Store
open Garnish Gen Garnish.Model.Equality Garnish.Model.Runtime Garnish.Model.Runtime.Basic Garnish.BasicOpt
open Garnish.Lemmas.Runtime.Basic

variable {F σ : Type}

/-- contract of an adder relative to an invariant -/
def AddsOn (S : RStore F σ) (Inv : σ → Prop) (m : RM σ Nat) (s : σ) (v : Val F) : Prop :=
  ∃ a s', m s = .ok (a, s') ∧ Decodes (S.view s') a v ∧ Eff S s s' (S.regs s) (S.vals s) ∧ Inv s'

/-- the core of `StoreLaws`, on the states satisfying `Inv`; `Readable s a` = what may be pushed on a stack -/
structure CoreLawsOn (S : RStore F σ) (Inv : σ → Prop) (Readable : σ → Nat → Prop) : Prop where
  rangeTyped : ∀ s a p, (S.view s).range a = some p → (S.view s).typeOf a = some .range
  listIdx : ∀ s, Indexes (S.listLen s) (S.listItem s) (S.view s).listItems
  charIdx : ∀ s, Indexes (S.charLen s) (S.charItem s) (S.view s).chars
  byteIdx : ∀ s, Indexes (S.byteLen s) (S.byteItem s) (S.view s).bytes
  symIdx : ∀ s, Indexes (S.symLen s) (S.symItem s) (S.view s).symList
  addUnit : ∀ s, Inv s → AddsOn S Inv S.addUnit s .unit
  addTrue : ∀ s, Inv s → AddsOn S Inv S.addTrue s .tru
  addFalse : ∀ s, Inv s → AddsOn S Inv S.addFalse s .fls
  addNumber : ∀ n s, Inv s → AddsOn S Inv (S.addNumber n) s (.num n)
  addType : ∀ t s, Inv s → AddsOn S Inv (S.addType t) s (.type t)
  addChar : ∀ c s, Inv s → AddsOn S Inv (S.addChar c) s (.char c)
  addByte : ∀ b s, Inv s → AddsOn S Inv (S.addByte b) s (.byte b)
  addSymbol : ∀ y s, Inv s → AddsOn S Inv (S.addSymbol y) s (.sym y)
  addPair : ∀ l r vl vr s, Inv s → Decodes (S.view s) l vl → Decodes (S.view s) r vr →
    AddsOn S Inv (S.addPair (l, r)) s (.pair vl vr)
  addConcatenation : ∀ l r vl vr s, Inv s → Decodes (S.view s) l vl → Decodes (S.view s) r vr →
    AddsOn S Inv (S.addConcatenation l r) s (.concat vl vr)
  addRange : ∀ l r vl vr s, Inv s → Decodes (S.view s) l vl → Decodes (S.view s) r vr →
    AddsOn S Inv (S.addRange l r) s (.range vl vr)
  addSlice : ∀ l r vl vr s, Inv s → Decodes (S.view s) l vl → Decodes (S.view s) r vr →
    AddsOn S Inv (S.addSlice l r) s (.slice vl vr)
  addPartial : ∀ l r vl vr s, Inv s → Decodes (S.view s) l vl → Decodes (S.view s) r vr →
    AddsOn S Inv (S.addPartial l r) s (.part vl vr)
  /-- a decodable address may be pushed -/
  readable : ∀ s a v, Inv s → Decodes (S.view s) a v → Readable s a
  pushRegister : ∀ a s, Inv s → Readable s a →
    ∃ s', S.pushRegister a s = .ok ((), s') ∧ Eff S s s' (a :: S.regs s) (S.vals s) ∧ Inv s'
  popRegisterNil : ∀ s, Inv s → S.regs s = [] →
    ∃ s', S.popRegister s = .ok (none, s') ∧ Eff S s s' [] (S.vals s) ∧ Inv s'
  popRegisterCons : ∀ s a rest, Inv s → S.regs s = a :: rest →
    ∃ s', S.popRegister s = .ok (some a, s') ∧ Eff S s s' rest (S.vals s) ∧ Inv s'
  pushValueStack : ∀ a s, Inv s → Readable s a →
    ∃ s', S.pushValueStack a s = .ok ((), s') ∧ Eff S s s' (S.regs s) (a :: S.vals s) ∧ Inv s'
  popValueStackNil : ∀ s, Inv s → S.vals s = [] →
    ∃ s', S.popValueStack s = .ok (none, s') ∧ Eff S s s' (S.regs s) [] ∧ Inv s'
  popValueStackCons : ∀ s a rest, Inv s → S.vals s = a :: rest →
    ∃ s', S.popValueStack s = .ok (some a, s') ∧ Eff S s s' (S.regs s) rest ∧ Inv s'
  setCursor : ∀ n s, ∃ s', S.setInstructionCursor n s = .ok ((), s') ∧ S.cursor s' = n ∧
    (∀ a v, Decodes (S.view s) a v → Decodes (S.view s') a v) ∧ S.jumpTable s' = S.jumpTable s ∧
    S.instrLen s' = S.instrLen s ∧ S.instruction s' = S.instruction s ∧ S.dataLen s' = S.dataLen s ∧
    S.regs s' = S.regs s ∧ S.vals s' = S.vals s ∧ S.trace s' = S.trace s ∧ S.frames s' = S.frames s ∧
    (Inv s → Inv s')
  deferOp : ∀ op l r, Records S (S.deferOp op l r) (.defer op l r)
  resolve : ∀ y, Records S (S.resolve y) (.resolve y)
  apply : ∀ e a, Records S (S.apply e a) (.apply e a)

/-- the core of the contract on the Basic store, for any room predicate (Lemmas/BasicLaws.lean `Room`) -/
theorem basicStore_laws_coreP (nc : NumCode F) {P : Store → Prop} (R : Room P) :
    CoreLawsOn (basicRStore nc) (BInvP P) (fun st a => isNode st.store.cells a = true) where
  rangeTyped := fun st a p h => rangeTyped_law nc st a p h
  listIdx := fun st => list_indexes _
  charIdx := fun st => seq_indexes _
  byteIdx := fun st => seq_indexes _
  symIdx := fun st => seq_indexes _
  addUnit := fun _ h => addUnit_law nc R h
  addTrue := fun _ h => addTrue_law nc R h
  addFalse := fun _ h => addFalse_law nc R h
  addNumber := fun n _ h => addNumber_law nc R h n
  addType := fun t _ h => addType_law nc R h t
  addChar := fun c _ h => addChar_law nc R h c
  addByte := fun b _ h => addByte_law nc R h b
  addSymbol := fun y _ h => addSymbol_law nc R h y
  addPair := fun _ _ _ _ _ h hl hr => addPair_law nc R h hl hr
  addConcatenation := fun _ _ _ _ _ h hl hr => addConcatenation_law nc R h hl hr
  addRange := fun _ _ _ _ _ h hl hr => addRange_law nc R h hl hr
  addSlice := fun _ _ _ _ _ h hl hr => addSlice_law nc R h hl hr
  addPartial := fun _ _ _ _ _ h hl hr => addPartial_law nc R h hl hr
  readable := fun _ _ _ h hd => (decodes_node h.wfq hd).2
  pushRegister := fun _ _ h ha => pushRegister_law nc R h ha
  popRegisterNil := fun _ h hn => (popRegister_law nc R h).1 hn
  popRegisterCons := fun _ a rest h hc => (popRegister_law nc R h).2 a rest hc
  pushValueStack := fun _ _ h ha => pushValue_law nc R h ha
  popValueStackNil := fun _ h hn => (popValue_law nc R h).1 hn
  popValueStackCons := fun _ a rest h hc => (popValue_law nc R h).2 a rest hc
  setCursor := fun n st => setCursor_law nc n st
  deferOp := fun op l r => records_law nc _
  resolve := fun y => records_law nc _
  apply := fun e a => records_law nc _

/-- **basicStore_laws_core**: `BasicGarnishData` satisfies the core of the store contract on `BInv` states -/
theorem basicStore_laws_core (nc : NumCode F) :
    CoreLawsOn (basicRStore nc) BInv (fun st a => isNode st.store.cells a = true) :=
  binvP_fits ▸ basicStore_laws_coreP nc room_fits

/-- **decodes_of_unfold**: on every `WFq` store (in particular every `Reachable` / `ReachableV` store of Props/C19 and
Props/C07ReachV), whatever the structural read-back `decode` of Store/BasicCells.lean — the function the C19 theorems
are about — yields at an address, the address `Decodes` to it in the sense of Model/Equality.lean -/
theorem decodes_of_unfold (numOf : Nat → Number F) {s : Store} (hwf : WFq s) (fuel a : Nat) (v : Val F)
    (h : decode numOf s.cells fuel a = some v) : Decodes (basicView numOf s.cells) a v :=
  decodes_of_decode_wfq numOf hwf fuel a v h

/-- the invariant holds of `BasicGarnishData::new()` -/
theorem basicStore_init : BInv BState.init := binv_init

/-! ### non-vacuity: a pair of a number and a symbol, pushed on the registers and popped again -/

example (nc : NumCode F) : ∃ st1 st2 st3 st4 a b p, 
    (basicRStore nc).addNumber (.int 7) BState.init = .ok (a, st1) ∧
    (basicRStore nc).addSymbol 3 st1 = .ok (b, st2) ∧
    (basicRStore nc).addPair (b, a) st2 = .ok (p, st3) ∧
    Decodes ((basicRStore nc).view st3) p (.pair (.sym 3) (.num (.int 7))) ∧
    (basicRStore nc).pushRegister p st3 = .ok ((), st4) ∧ (basicRStore nc).regs st4 = [p] ∧ BInv st4 := by
  obtain ⟨a, st1, h1, d1, e1, i1⟩ := (basicStore_laws_core nc).addNumber (.int 7) _ basicStore_init
  obtain ⟨b, st2, h2, d2, e2, i2⟩ := (basicStore_laws_core nc).addSymbol 3 _ i1
  obtain ⟨p, st3, h3, d3, e3, i3⟩ := (basicStore_laws_core nc).addPair b a _ _ _ i2 d2 (e2.keeps.dec _ _ d1)
  obtain ⟨st4, h4, e4, i4⟩ := (basicStore_laws_core nc).pushRegister p _ i3
    ((basicStore_laws_core nc).readable _ _ _ i3 d3)
  refine ⟨st1, st2, st3, st4, a, b, p, h1, h2, h3, d3, h4, ?_, i4⟩
  rw [e4.regs, e3.regs, e2.regs, e1.regs]; rfl

end Garnish.Props.C19Store
