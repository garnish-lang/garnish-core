/-
C11 (L2 refinement) — the register work-list algorithm `perform_equality_check` of
runtime/src/runtime/equality.rs (Model/Equality.lean) computes exactly the value-level equality `valEq`
(Abs/Ops.lean: structural equality of normal forms) of the values its two operands denote, for ALL value
graphs (unbounded depth and width, shared sub-values, equal values at different addresses), and leaves the
register stack exactly as it was below the two operands — whether it runs to the end or decides early.

Hypotheses: the operands decode (`Decodes`, structural; no well-foundedness or freshness assumption on
addresses) and contain no slice at a position `data_equal` reaches (`NoSlice`; the slice arms are outside
C11's domain and return `unsupported` in the model). No hypothesis on numbers (NaN included: the verdict is
still `valEq`, which uses the same IEEE comparison).

Every arm of `data_equal`'s dispatch agrees with `valEq` (lemma `dataEqual_step`, all 20 × 20 kind pairs).
-/
import Garnish.Lemmas.EqualityRefine
import Garnish.Props.C11
namespace Garnish.Props.C11Refine
open Garnish Gen Garnish.Abs Garnish.Model.Equality Garnish.Lemmas Garnish.Lemmas.EqualityRefine

variable {F : Type} (fo : FloatOps F)

/-- THE THEOREM, with explicit fuel: any fuel ≥ `eqFuel vl vr = vsize vl + vsize vr + 1` suffices -/
theorem C11_equal_refines_fuel (view : StoreView F) (l r : Nat) (vl vr : Val F) (rest : List Nat)
    (hl : Decodes view l vl) (hr : Decodes view r vr) (nl : NoSlice vl) (nr : NoSlice vr)
    (fuel : Nat) (hf : eqFuel vl vr ≤ fuel) :
    performEqualityCheck fo fuel view (r :: l :: rest) = .ok (valEq fo vl vr, rest) := by
  have h := eqLoop_spec fo rest fuel [⟨l, r, vl, vr⟩]
    (by intro p hp; simp only [List.mem_singleton] at hp; subst hp; exact ⟨hl, hr, nl, nr⟩)
    (by simp only [pendSize, eqFuel] at hf ⊢; omega)
  have hlen : ¬ (r :: l :: rest).length < 2 := by simp
  have hstart : (r :: l :: rest).length - 2 = rest.length := by simp
  simp only [performEqualityCheck, hlen, if_false, hstart]
  simpa [flat, pendAll] using h

/-- THE THEOREM: for all decodable slice-free operands the work-list algorithm returns the value-level
verdict and restores the register stack to `rest` -/
theorem C11_equal_refines (view : StoreView F) (l r : Nat) (vl vr : Val F) (rest : List Nat)
    (hl : Decodes view l vl) (hr : Decodes view r vr) (nl : NoSlice vl) (nr : NoSlice vr) :
    ∃ fuel, performEqualityCheck fo fuel view (r :: l :: rest) = .ok (valEq fo vl vr, rest) :=
  ⟨eqFuel vl vr, C11_equal_refines_fuel fo view l r vl vr rest hl hr nl nr _ (Nat.le_refl _)⟩

/-- it never runs out of fuel, errs or panics above the bound: termination is part of the statement -/
theorem C11_equal_terminates (view : StoreView F) (l r : Nat) (vl vr : Val F) (rest : List Nat)
    (hl : Decodes view l vl) (hr : Decodes view r vr) (nl : NoSlice vl) (nr : NoSlice vr)
    (fuel : Nat) (hf : eqFuel vl vr ≤ fuel) :
    (performEqualityCheck fo fuel view (r :: l :: rest)).isOk = true := by
  rw [C11_equal_refines_fuel fo view l r vl vr rest hl hr nl nr fuel hf]; rfl

/-- `equal` hands `valEq` to `push_boolean` -/
theorem C11_equalInstr_refines (view : StoreView F) (l r : Nat) (vl vr : Val F) (rest : List Nat)
    (hl : Decodes view l vl) (hr : Decodes view r vr) (nl : NoSlice vl) (nr : NoSlice vr) :
    ∃ fuel, equal fo fuel view (r :: l :: rest) = .ok (valEq fo vl vr, rest) :=
  ⟨eqFuel vl vr, by
    simp [equal, C11_equal_refines_fuel fo view l r vl vr rest hl hr nl nr _ (Nat.le_refl _)]⟩

/-- `!=` is the negation of the same verdict, with the same register effect -/
theorem C11_notEqual_refines (view : StoreView F) (l r : Nat) (vl vr : Val F) (rest : List Nat)
    (hl : Decodes view l vl) (hr : Decodes view r vr) (nl : NoSlice vl) (nr : NoSlice vr) :
    ∃ fuel, notEqual fo fuel view (r :: l :: rest) = .ok (!valEq fo vl vr, rest) :=
  ⟨eqFuel vl vr, by
    simp [notEqual, C11_equal_refines_fuel fo view l r vl vr rest hl hr nl nr _ (Nat.le_refl _)]⟩

/-- "a comparison leaves nothing behind on the operand stack however early it decides": whatever the
verdict, the registers afterwards are exactly those below the two operands -/
theorem C11_register_balance (view : StoreView F) (l r : Nat) (vl vr : Val F) (rest : List Nat)
    (hl : Decodes view l vl) (hr : Decodes view r vr) (nl : NoSlice vl) (nr : NoSlice vr)
    (fuel : Nat) (hf : eqFuel vl vr ≤ fuel) :
    ∃ b, performEqualityCheck fo fuel view (r :: l :: rest) = .ok (b, rest) :=
  ⟨_, C11_equal_refines_fuel fo view l r vl vr rest hl hr nl nr fuel hf⟩

/-- "regardless of how, where or in which order the values were created": two pairs of addresses (even in
two different stores, above different registers) that denote the same values get the same verdict -/
theorem C11_independent_of_addresses (view view' : StoreView F) (l r l' r' : Nat) (vl vr : Val F)
    (rest rest' : List Nat)
    (hl : Decodes view l vl) (hr : Decodes view r vr) (hl' : Decodes view' l' vl) (hr' : Decodes view' r' vr)
    (nl : NoSlice vl) (nr : NoSlice vr) :
    ∃ fuel b, performEqualityCheck fo fuel view (r :: l :: rest) = .ok (b, rest) ∧
              performEqualityCheck fo fuel view' (r' :: l' :: rest') = .ok (b, rest') :=
  ⟨eqFuel vl vr, valEq fo vl vr,
    C11_equal_refines_fuel fo view l r vl vr rest hl hr nl nr _ (Nat.le_refl _),
    C11_equal_refines_fuel fo view' l' r' vl vr rest' hl' hr' nl nr _ (Nat.le_refl _)⟩

/-! ### the equivalence laws, transported to the code -/

/-- symmetry of the code's verdict -/
theorem C11_code_symm (h : FloatEqLaws fo) (view : StoreView F) (l r : Nat) (vl vr : Val F) (rest : List Nat)
    (hl : Decodes view l vl) (hr : Decodes view r vr) (nl : NoSlice vl) (nr : NoSlice vr) :
    ∃ fuel, performEqualityCheck fo fuel view (r :: l :: rest)
      = (performEqualityCheck fo fuel view (l :: r :: rest)) := by
  refine ⟨eqFuel vl vr, ?_⟩
  rw [C11_equal_refines_fuel fo view l r vl vr rest hl hr nl nr _ (Nat.le_refl _),
    C11_equal_refines_fuel fo view r l vr vl rest hr hl nr nl _ (by simp [eqFuel]; omega),
    C11.C11_eq_symm fo h]

/-- reflexivity: a clean value equals itself, also when read from two different addresses -/
theorem C11_code_refl (h : FloatEqLaws fo) (view : StoreView F) (a a' : Nat) (v : Val F) (rest : List Nat)
    (ha : Decodes view a v) (ha' : Decodes view a' v) (hc : C11.Clean fo v) (n : NoSlice v) :
    ∃ fuel, performEqualityCheck fo fuel view (a' :: a :: rest) = .ok (true, rest) := by
  refine ⟨eqFuel v v, ?_⟩
  rw [C11_equal_refines_fuel fo view a a' v v rest ha ha' n n _ (Nat.le_refl _), C11.C11_eq_refl fo h v hc]

/-- transitivity of the code's verdicts -/
theorem C11_code_trans (h : FloatEqLaws fo) (view : StoreView F) (a b c : Nat) (va vb vc : Val F) (rest : List Nat)
    (ha : Decodes view a va) (hb : Decodes view b vb) (hc : Decodes view c vc)
    (ca : C11.Clean fo va) (cc : C11.Clean fo vc) (na : NoSlice va) (nb : NoSlice vb) (nc : NoSlice vc)
    (f1 f2 : Nat) (hf1 : eqFuel va vb ≤ f1) (hf2 : eqFuel vb vc ≤ f2)
    (h1 : performEqualityCheck fo f1 view (b :: a :: rest) = .ok (true, rest))
    (h2 : performEqualityCheck fo f2 view (c :: b :: rest) = .ok (true, rest)) :
    ∃ fuel, performEqualityCheck fo fuel view (c :: a :: rest) = .ok (true, rest) := by
  rw [C11_equal_refines_fuel fo view a b va vb rest ha hb na nb f1 hf1] at h1
  rw [C11_equal_refines_fuel fo view b c vb vc rest hb hc nb nc f2 hf2] at h2
  have e1 : valEq fo va vb = true := by simpa using h1
  have e2 : valEq fo vb vc = true := by simpa using h2
  refine ⟨eqFuel va vc, ?_⟩
  rw [C11_equal_refines_fuel fo view a c va vc rest ha hc na nc _ (Nat.le_refl _),
    C11.C11_eq_trans fo h va vb vc ca cc e1 e2]

/-! ### non-vacuity: a concrete store with sharing, equal values at different addresses, nested
lists against nested concatenations, and an early exit with pending work on the stack -/

/--
```
 0 ()            1 1             2 2            3 'a'          4 "a"          10 1 (second copy)
 5 (1 = 'a')                     9 (10 = "a")                   -- equal pairs at different addresses
 6 [1, 5, 5]     (item 5 shared)  7 [1]          8 [5, 9]
11 7 <> 8        = 1, 5, 9
12 11 <> 2       = 1, 5, 9, 2     (nested concatenation)
13 [1, 5, 5, 2]                  16 [1, 5, 5, 10]
14 [6, 12]                       15 [11, 13]
```
-/
def exView : StoreView F where
  typeOf a := match a with
    | 0 => some .unit | 1 => some .number | 2 => some .number | 3 => some .char | 4 => some .charList
    | 5 => some .pair | 6 => some .list | 7 => some .list | 8 => some .list | 9 => some .pair
    | 10 => some .number | 11 => some .concatenation | 12 => some .concatenation | 13 => some .list
    | 14 => some .list | 15 => some .list | 16 => some .list
    | _ => none
  number a := match a with
    | 1 => some (.int 1) | 2 => some (.int 2) | 10 => some (.int 1) | _ => none
  char a := match a with | 3 => some 97 | _ => none
  byte _ := none
  symbol _ := none
  expression _ := none
  external _ := none
  type_ _ := none
  pair a := match a with | 5 => some (1, 3) | 9 => some (10, 4) | _ => none
  range _ := none
  concatenation a := match a with | 11 => some (7, 8) | 12 => some (11, 2) | _ => none
  slice _ := none
  partial_ _ := none
  listItems a := match a with
    | 6 => some [1, 5, 5] | 7 => some [1] | 8 => some [5, 9] | 13 => some [1, 5, 5, 2]
    | 14 => some [6, 12] | 15 => some [11, 13] | 16 => some [1, 5, 5, 10] | _ => none
  concatItems a := match a with | 11 => some [1, 5, 9] | 12 => some [1, 5, 9, 2] | _ => none
  chars a := match a with | 4 => some [97] | _ => none
  bytes _ := none
  symList _ := none

def one : Val F := .num (.int 1)
def two : Val F := .num (.int 2)
def p5 : Val F := .pair one (.char 97)
def p9 : Val F := .pair one (.chars [97])
def v6 : Val F := .list [one, p5, p5]
def v11 : Val F := .concat (.list [one]) (.list [p5, p9])
def v12 : Val F := .concat v11 two
def v13 : Val F := .list [one, p5, p5, two]
def v14 : Val F := .list [v6, v12]
def v15 : Val F := .list [v11, v13]
def v16 : Val F := .list [one, p5, p5, one]

theorem d1 : Decodes (exView (F := F)) 1 one := .num rfl rfl
theorem d2 : Decodes (exView (F := F)) 2 two := .num rfl rfl
theorem d10 : Decodes (exView (F := F)) 10 one := .num rfl rfl
theorem d5 : Decodes (exView (F := F)) 5 p5 := .pair rfl rfl d1 (.char rfl rfl)
theorem d9 : Decodes (exView (F := F)) 9 p9 := .pair rfl rfl d10 (.chars rfl rfl)
theorem d6 : Decodes (exView (F := F)) 6 v6 := .list rfl rfl (.cons d1 (.cons d5 (.cons d5 .nil)))
theorem d7 : Decodes (exView (F := F)) 7 (.list [one]) := .list rfl rfl (.cons d1 .nil)
theorem d8 : Decodes (exView (F := F)) 8 (.list [p5, p9]) := .list rfl rfl (.cons d5 (.cons d9 .nil))
theorem f7 : FlatOf (exView (F := F)) 7 [1] := .list rfl rfl
theorem f8 : FlatOf (exView (F := F)) 8 [5, 9] := .list rfl rfl
theorem f11 : FlatOf (exView (F := F)) 11 ([1] ++ [5, 9]) := .concat rfl rfl f7 f8
theorem f2 : FlatOf (exView (F := F)) 2 [2] := .other (t := .number) rfl (by decide) (by decide)
theorem d11 : Decodes (exView (F := F)) 11 v11 := .concat rfl rfl d7 d8 f7 f8 rfl
theorem d12 : Decodes (exView (F := F)) 12 v12 := .concat rfl rfl d11 d2 f11 f2 rfl
theorem d13 : Decodes (exView (F := F)) 13 v13 :=
  .list rfl rfl (.cons d1 (.cons d5 (.cons d5 (.cons d2 .nil))))
theorem d14 : Decodes (exView (F := F)) 14 v14 := .list rfl rfl (.cons d6 (.cons d12 .nil))
theorem d15 : Decodes (exView (F := F)) 15 v15 := .list rfl rfl (.cons d11 (.cons d13 .nil))
theorem d16 : Decodes (exView (F := F)) 16 v16 :=
  .list rfl rfl (.cons d1 (.cons d5 (.cons d5 (.cons d10 .nil))))

/-- the hypotheses of the theorem are satisfiable on a nested, shared graph, and the verdict is `true`:
`[[1, p, p], (([1] <> [p, p']) <> 2)] == [[1] <> [p, p'], [1, p, p, 2]]` with `p = (1 = 'a')`, `p' = (1 = "a")` -/
example : ∃ fuel, performEqualityCheck fo fuel exView [15, 14, 77, 88] = .ok (true, [77, 88]) := by
  have h := C11_equal_refines fo exView 14 15 v14 v15 [77, 88] d14 d15 rfl rfl
  have e : valEq fo (v14 : Val F) v15 = true := by
    simp [valEq, v14, v15, v6, v11, v12, v13, p5, p9, one, two, norm, normList, normConcat, nvalEq, nvalsEq,
      Number.numEq]
  rwa [e] at h

/-- early exit: `[1, p, p, 2] != [1, p, p, 1]` is decided by the first pair popped (the LAST items) while
three item pairs are still pending; the six registers are removed and `[77, 88]` is what remains -/
example : ∃ fuel, performEqualityCheck fo fuel exView [16, 13, 77, 88] = .ok (false, [77, 88]) := by
  have h := C11_equal_refines fo exView 13 16 v13 v16 [77, 88] d13 d16 rfl rfl
  have e : valEq fo (v13 : Val F) v16 = false := by
    simp [valEq, v13, v16, p5, one, two, norm, normList, nvalEq, nvalsEq, Number.numEq]
  rwa [e] at h

/-- the model itself, run on the same registers (no theorem involved): same answers with fuel 40 -/
example : performEqualityCheck fo 40 exView [15, 14, 77, 88] = .ok (true, [77, 88]) := rfl

example : performEqualityCheck fo 40 exView [16, 13, 77, 88] = .ok (false, [77, 88]) := rfl

end Garnish.Props.C11Refine
