/-
C04, builder half — the mutual order of the out-of-line parts (`root_stack` is a stack), for EVERY node vector, root, fuel
and start state (helpers: Garnish/Lemmas/BuildLifo*.lean).

An out-of-line child `r` (right child of its owner `k`) is pushed on `root_stack` by its SCHEDULER `s` in the scheduler's
last visit (`Sched nodes root r s k`):
  owner `k`                                                     scheduler `s`
  And, Or, NestedExpression                                     `k` itself
  JumpIfTrue / JumpIfFalse without conditional parent           `k` itself
  JumpIfTrue / JumpIfFalse whose conditional parent is the      the head: it collects the arms in the order in which
    head `s` of an else-chain (an ElseJump without                their owners finish and pushes them together, in
    conditional parent)                                           that order, in its own last visit
(`conditional_parent`, statically: `CondParent` / `NoCondParent` — the left child of And / Or gets the And / Or node, the
children of an ElseJump get the ElseJump's conditional parent or the ElseJump itself, everything else gets none.)
`PushedBefore nodes root r1 r2`: the schedulers lie in line in one root and the scheduler of `r1` finishes first, or they
coincide (an else-chain head) and the owner of `r1` finishes first.  Then EVERYTHING below `r2` is emitted before ANYTHING
below `r1` (`C04_out_of_line_lifo`).  Instances: `C04_out_of_line_lifo_direct` (`C04_out_of_line_lifo_statement` of
Props/C04Eval.lean) and `C04_else_arms_reverse` (the arms of one else-chain are emitted in reverse source order).
-/
import Garnish.Lemmas.BuildLifoRun
import Garnish.Props.C04OrderEx
namespace Garnish.Props.C04Order
open Garnish Garnish.Gen Garnish.Model.Parser Garnish.Model.Build Garnish.Lemmas.Build
open Garnish.Lemmas.BuildSeq

variable {F : Type}

/-- the build node of `x` gets `conditional_parent = Some(cp)` -/
abbrev CondParent (nodes : Array ParseNode) (root x cp : Nat) : Prop := CP nodes (InTree nodes root) root x cp
/-- the build node of `x` gets `conditional_parent = None` -/
abbrev NoCondParent (nodes : Array ParseNode) (root x : Nat) : Prop := NCP nodes (InTree nodes root) root x
/-- `r`, the out-of-line child of `k`, is pushed on `root_stack` in the last visit of `s` -/
abbrev Scheduled (nodes : Array ParseNode) (root r s k : Nat) : Prop := Sched nodes (InTree nodes root) root r s k
/-- `r1` is pushed on `root_stack` before `r2`, while the root that contains both schedulers is built -/
abbrev PushedBefore (nodes : Array ParseNode) (root r1 r2 : Nat) : Prop := Rel nodes (InTree nodes root) root r1 r2

theorem C04_lifo_core (parseFloat : List Char → Option F) (fuel root : Nat) (nodes : Array ParseNode) (d d' : BState F)
    (entry : Nat) (h : build parseFloat fuel root nodes d = .ok (d', entry)) :
    LFacts nodes root d.metadata.size d'.metadata := by
  have key := build_lifo (tree := nodes) parseFloat fuel root d
  rw [h] at key
  exact key

/-- C04, builder half, `root_stack` is a stack: everything below the out-of-line child that is pushed later is emitted
before anything below the one that was pushed earlier -/
theorem C04_out_of_line_lifo {parseFloat : List Char → Option F} {fuel root : Nat} {nodes : Array ParseNode} {d d' : BState F}
    {x z kx kz : Nat} (b : Built parseFloat fuel root nodes d d' x z kx kz) (r1 r2 : Nat)
    (hrel : PushedBefore nodes root r1 r2) (hx : Sub nodes r2 x) (hz : Sub nodes r1 z) : kx < kz := by
  obtain ⟨entry, h⟩ := b.ok
  exact (C04_lifo_core parseFloat fuel root nodes d d' entry h).1 x z ⟨r1, r2, hrel, hx, hz⟩ kx kz b.hkx b.hkz b.hmx b.hmz

theorem lastBefore_lastB {nodes : Array ParseNode} {root y1 y2 : Nat} (h : LastBefore nodes root y1 y2) :
    LastB nodes (InTree nodes root) y1 y2 := h

/-- `C04_out_of_line_lifo_statement` of Props/C04Eval.lean: owners that always schedule in their own last visit -/
theorem C04_out_of_line_lifo_direct (F : Type) : C04_out_of_line_lifo_statement F := by
  intro parseFloat fuel root nodes d d' entry h ρ y1 y2 r1 r2 n1 n2 hρ hd1 hd2 hn1 hn2 hr1 hr2 hdef1 hdef2 hlb x z kx kz hx hz
    hkx hkz hmx hmz
  have hdir : ∀ n : ParseNode, (n.definition = .and ∨ n.definition = .or ∨ n.definition = .nestedExpression) →
      isDirect n.definition = true := by
    intro n hn; rcases hn with e | e | e <;> rw [e] <;> rfl
  refine C04_out_of_line_lifo ⟨⟨entry, h⟩, hkx, hkz, hmx, hmz⟩ r1 r2 ?_ hx hz
  exact ⟨ρ, y1, y1, y2, y2, Or.inl hρ, hd1, hd2, ⟨n1, hn1, hr1, Or.inl ⟨rfl, Or.inl (hdir n1 hdef1)⟩⟩,
    ⟨n2, hn2, hr2, Or.inl ⟨rfl, Or.inl (hdir n2 hdef2)⟩⟩, Or.inl hlb⟩

/-- the arms of one else-chain: the head `e` (an ElseJump that is the conditional parent of both owners) pushes them in
the order in which their owners finish — the source order of the tests — so the arm of the later test is emitted first -/
theorem C04_else_arms_reverse {parseFloat : List Char → Option F} {fuel root : Nat} {nodes : Array ParseNode} {d d' : BState F}
    {x z kx kz : Nat} (b : Built parseFloat fuel root nodes d d' x z kx kz) (ρ e k1 k2 r1 r2 : Nat) (en n1 n2 : ParseNode)
    (hρ : Sub nodes root ρ) (he : IDesc nodes ρ e) (hen : nodes[e]? = some en) (hed : en.definition = .elseJump)
    (hn1 : nodes[k1]? = some n1) (hn2 : nodes[k2]? = some n2) (hj1 : isJumpIf n1.definition = true)
    (hj2 : isJumpIf n2.definition = true) (hr1 : n1.right = some r1) (hr2 : n2.right = some r2)
    (hc1 : CondParent nodes root k1 e) (hc2 : CondParent nodes root k2 e) (hlb : LastBefore nodes root k1 k2)
    (hx : Sub nodes r2 x) (hz : Sub nodes r1 z) : kx < kz :=
  C04_out_of_line_lifo b r1 r2 ⟨ρ, e, k1, e, k2, Or.inl hρ, he, he, ⟨n1, hn1, hr1, Or.inr ⟨hj1, hc1, en, hen, hed⟩⟩,
    ⟨n2, hn2, hr2, Or.inr ⟨hj2, hc2, en, hen, hed⟩⟩, Or.inr ⟨rfl, hlb⟩⟩ hx hz

/-! ### non-vacuity: the else-chain `1 ?> 2 |> 3 !> 4` of Props/C04OrderEx.lean, metadata `[0,1,4,5,-,6,-,2,-]` -/

/-- the arm of the second test (node 6) is emitted before the arm of the first test (node 2) -/
example (d' : BState Unit) (entry : Nat)
    (h : build (fun _ => none) (defaultFuel 7) 3 exElse BState.empty = .ok (d', entry))
    (k6 k2 : Nat) (h6 : d'.metadata[k6]? = some (some 6)) (h2 : d'.metadata[k2]? = some (some 2)) : k6 < k2 := by
  have hroot : NoCondParent exElse 3 3 := NCP.root
  refine C04_else_arms_reverse ⟨⟨entry, h⟩, Nat.zero_le _, Nat.zero_le _, h6, h2⟩ 3 3 1 5 2 6 _ _ _ (Sub.refl 3) (IDesc.refl 3)
    rfl rfl rfl rfl rfl rfl rfl rfl
    (CP.top (e := 3) (pn := exElse[3]) rfl rfl (Or.inl rfl) hroot)
    (CP.top (e := 3) (pn := exElse[3]) rfl rfl (Or.inr rfl) hroot)
    (Or.inl ⟨3, 1, 5, Or.inl (Sub.refl 3), ⟨_, 1, 5, (rfl : exElse[3]? = some _), rfl, rfl, Or.inr ⟨Or.inl rfl, rfl, rfl⟩⟩,
      IDesc.refl 1, IDesc.refl 5⟩)
    (Sub.refl 6) (Sub.refl 2)

end Garnish.Props.C04Order
