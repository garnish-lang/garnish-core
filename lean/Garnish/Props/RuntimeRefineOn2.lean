/-
C01 over the relativised contract, coverage group 2: the four comparisons, `MakePair`, `MakeList`, `Concat`, the four
range instructions, `PartialApply`. Side conditions of the instructions of this group (`MachOKOn2`): `MDeepN m k` (k = 2; for
`MakeList n`: k = n); comparisons: `CompareDomain` as in `C01_refine_step`; `Concat`: neither operand is a slice
(`StoreLawsOn.addConcatenation` — Simple's concatenation iterator expands a slice operand).
Covered with this group: 9 + 20 + 12 = 41 instructions.
The text theorem `C01_text_to_simple_store2` is in namespace `Garnish.Props.C01TextStore`, with those of Props/C01TextStore*.lean.
-/
import Garnish.Props.RuntimeRefineOn1
import Garnish.Lemmas.RuntimeRun
namespace Garnish.Props.RuntimeRefine
open Garnish Gen Garnish.Abs Garnish.Model.Equality Garnish.Model.Runtime Garnish.Lemmas.Runtime
open Garnish.Lemmas.Runtime.On

variable {F σ : Type} {S : RStore F σ} {Inv : σ → Prop} {Rd : σ → Nat → Prop} {P : Prog F} {host : Host F}
  (fo : FloatOps F)

theorem C01_refine_step_on2 (L : StoreLawsOn S Inv Rd) (HR : HostRefinesI S Inv host) (fuel : Nat)
    (H : OtherHandlers σ) {s : σ} {m : MState F} (hsim : Sim S P s m) (hi : Inv s) (hl : Loaded S P s)
    {instr : Instruction} {operand : Option Nat} (hfetch : P.instrs[m.pc]? = some (instr, operand))
    (hok : MachOKOn2 fo P fuel m instr operand) : StepSimOn fo host S Inv P fuel H s m :=
  refine_step_on2 fo L HR fuel H hsim hi hl hfetch hok

theorem C01_refine_run_on2 (L : StoreLawsOn S Inv Rd) (HR : HostRefinesI S Inv host) (fuel : Nat)
    (H : OtherHandlers σ) (n : Nat) {s : σ} {m : MState F} (hsim : Sim S P s m) (hi : Inv s) (hl : Loaded S P s)
    (hok : RunOKG fo (MachOKOn2 fo P fuel) host P n m) {m' : MState F} {k : Nat}
    (hrun : Abs.run fo host P n m = (.halted m', k)) :
    ∃ s', executeLoop fo S fuel H n s = .ok ((.end_, k), s') ∧ SimD S P s' m'.regs m'.vals m'.frames ∧
      DecKept S s s' ∧ Inv s' :=
  executeLoop_spec_gen fo (MachOKOn2 fo P fuel) fuel H
    (fun s m instr operand hs hi hl hf hk => refine_step_on2 fo L HR fuel H hs hi hl hf hk) n s m hsim hi hl hok m' k hrun

end Garnish.Props.RuntimeRefine

namespace Garnish.Props.C01TextStore
open Garnish Garnish.Gen Garnish.Spec Garnish.Abs Garnish.Abs.Tree Garnish.Abs.Source Garnish.Model Garnish.Model.Parser
open Garnish.Model.Lexer Garnish.Model.Literals Garnish.Model.Build Garnish.Props.C01Build Garnish.Props.C01Source
open Garnish.Props.C02Numbered Garnish.Props.C01Text
open Garnish.Model.Equality Garnish.Model.Runtime Garnish.Lemmas.Runtime Garnish.Props.RuntimeRefine
open Garnish.Lemmas.Runtime.On Garnish.Lemmas.Runtime.Simple

variable {F : Type} (pf : List Char → Option F) (cc : CharClass)

/-- **characters → `SimpleGarnishData`**, coverage groups 1–2 -/
theorem C01_text_to_simple_store2 {hit : List (SimCell F) → SimCell F → Option Nat} (hs : HitSound hit)
    (hh : SimHost F) (fo : FloatOps F) (host : Host F) (HR : HostRefinesI (simpleRStore hit hh) SInv host)
    (loopFuel : Nat) (H : OtherHandlers (SimState F)) (s : List Char) (toks : List LexerToken)
    (hlex : lex cc s = .ok toks) (hf : frag9' (toP toks) = true) (rt : RTree)
    (href : refParse Table.gen (toP toks) = .ok rt) (p : Program F) (hel : elaborate pf (toP toks) rt = some p)
    (hwf : C01.WFProgram p) (input : Val F) (fuel : Nat) (v : Val F) (st : St F)
    (h : evalProgram fo host fuel p input = .ok (v, st)) :
    ∃ d entry n, buildText pf cc s = .ok (d, entry) ∧
      ((progOf d).consts.toList.all isLeafS = true → isLeafS input = true →
        RunOKG fo (MachOKOn2 fo (reloc (progOf d)) loopFuel) host (reloc (progOf d)) n
          { pc := (progOf d).jumps[entry]?.getD 0, regs := [], vals := [input], frames := [], trace := [] } →
        ∃ s' a, executeLoop fo (simpleRStore hit hh) loopFuel H n
            (loadSimple (reloc (progOf d)) ((progOf d).jumps[entry]?.getD 0) input) = .ok ((.end_, n), s') ∧
          s'.values = [a] ∧ Decodes (simView s'.cells) a v ∧ (simpleRStore hit hh).regs s' = [] ∧
          (simpleRStore hit hh).frames s' = [] ∧ SInv s') :=
  C01_text_to_simple_store_of pf cc hh fo host loopFuel H (fun P => MachOKOn2 fo P loopFuel)
    (fun P s m instr operand hsim hi hl hf hk =>
      refine_step_on2 fo (C01_simpleStore_lawsOn hs) HR loopFuel H hsim hi hl hf hk)
    s toks hlex hf rt href p hel hwf input fuel v st h

end Garnish.Props.C01TextStore
