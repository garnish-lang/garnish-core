/-
C02 with side-effect blocks, a ∀-theorem against `refParseB` (Spec/RefParseB.lean):

  C02_parse_correct_valueBlockB   for EVERY token list `v trivia* [ trivia* body trivia* ]` (`v` a value token, `body` any
                                  `frag8` expression without a trailing blank line before `}` — `Spec.valueBlockN`):
                                  `parse` accepts, the result is a proper tree, it is the tree `refParseB` computes, and the
                                  result is well numbered;
  C02_parse_correct_fragBlocksB   the same on `fragBlocks` = `frag9'` ∪ that shape (on `frag9'` `refParseB = refParse`).
One operator level only: the block is the right child of ONE value and that value is the whole program.  Blocks as operands
inside larger expressions (`1 + [2] 3 * [4 5] 6`) agree with `refParseB` per input (`exNested_agree`, and the grid of
Props/C02Blocks.lean); the ∀-statement needs the fragment induction re-targeted from `refLoop` to `refLoopB` (its
statements `OpdOK` / `ExprOK` / `ListOpdOK` in Lemmas/ParserBRef, ParserBExpr, ParserBList name `refLoop Table.gen`), a bottom-of-spine case
for a value node with a right child / the pending `last_left` jump after `]`, and an `Ex` constructor for blocks.
Reference side of the proof: Lemmas/ParseBlocksValue (`refLoopB_segment`, `expr_run`, `refParseB_value_block`).
-/
import Garnish.Lemmas.ParseBlocksValue
import Garnish.Props.C02Support
import Garnish.Props.C02Blocks
namespace Garnish.Props.C02BlocksB
open Garnish Garnish.Gen Garnish.Spec Garnish.Model.Parser Garnish.Props.C02Parse Garnish.Abs.Source
open Garnish.Props.C02Support Garnish.Props.C02Numbered

/-- **`v [ body ]`: parse = refParseB, well numbered** -/
theorem C02_parse_correct_valueBlockB (toks : List PToken) (hf : Spec.valueBlockN toks = true)
    (hnum : NumberedFrom 0 toks) :
    ∃ r t, parse toks = .ok r ∧ toTree r = some t ∧ refParseB Table.gen toks = .ok (treeToRG r t) ∧
      WellNumbered toks r t := by
  have hfb : fragBlocks toks = true := by unfold fragBlocks; rw [hf]; simp
  obtain ⟨v, o, c, ws, wsA, wsB, body, hv, ho, hc, hok, hg, hws, hwA, hwB, rfl⟩ := valueBlockN_sound hf
  obtain ⟨r, t', h1, h2, h3, h4, h5, _⟩ := parse_value_block_full v o c ws wsA wsB body hv ho hc hok hws hwA hwB hnum
  refine ⟨r, _, h1, h2, ?_, C02_parse_wellNumbered_blocks _ hfb hnum r _ h1 h2⟩
  -- the reference tree of the body
  obtain ⟨tb, hr, h5⟩ := ex_refLoop_shift body hok h5
  rw [refParseB_value_block v o c ws wsA wsB body hv ho hc hok hws hwA hwB hnum tb hr, ← C02_toRG_eq_treeToRG]
  have hvcol : v.col = 0 := hnum.1
  have hocol : o.col = 1 + ws.length := by
    have hnum1 : NumberedFrom (0 + 1) (ws ++ (o :: (wsA ++ (body.toks ++ (wsB ++ [c]))))) := hnum.2
    have := (numbered_append ws _ _ hnum1).1
    omega
  have hnb0 : isBracketDef (getDefinition v.type).1 = false := prio10_not_bracket (atom10_facts hv).2
  simp only [toRG, h4, h3, hnb0, Bool.false_eq_true, if_false, hvcol, hocol, h5]
  rfl

/-- **`fragBlocks`** (`frag9'` or `v [ body ]`): parse = refParseB, well numbered -/
theorem C02_parse_correct_fragBlocksB (toks : List PToken) (hf : fragBlocks toks = true) (hnum : NumberedFrom 0 toks) :
    ∃ r t, parse toks = .ok r ∧ toTree r = some t ∧ refParseB Table.gen toks = .ok (treeToRG r t) ∧
      WellNumbered toks r t := by
  have hf0 := hf
  unfold fragBlocks at hf
  rcases Bool.or_eq_true _ _ |>.mp hf with h | h
  · obtain ⟨r, t, h1, h2, h3⟩ := C02_parse_correct_fragment_optional toks (frag9'_sub h) hnum
    refine ⟨r, t, h1, h2, ?_, C02_parse_wellNumbered_blocks toks hf0 hnum r t h1 h2⟩
    have hn := C18Parse.frag9_noTrim (frag9'_sub h)
    have hl := h3
    rw [refParse_noTrim Table.gen hn] at hl
    rw [refParseB_conservative toks (refLoop_ok_noblock _ _ _ _ _ hl), h3]
  · exact C02_parse_correct_valueBlockB toks h hnum

/-! ### non-vacuity -/

/-- `"5 [6 + 1]"` (tokens of Props/C02Support.lean) -/
example : ∃ r t, parse toksVB = .ok r ∧ toTree r = some t ∧ refParseB Table.gen toksVB = .ok (treeToRG r t) ∧
    WellNumbered toksVB r t :=
  C02_parse_correct_fragBlocksB toksVB vb_frag.1 (Garnish.Model.Lexer.toP_numbered _)

open Garnish.Props.C02Blocks in
/-- `1 + [2] 3 * [4 5] 6`: blocks as left children of the operands of two operators, a space list inside a block — agrees
    with `refParseB` (per input; outside the ∀-theorem) and the parser`s result is well numbered -/
def exNested : List PToken :=
  mk [N "1", W, PL, W, LS, N "2", RS, W, N "3", W, ML, W, LS, N "4", W, N "5", RS, W, N "6"]

open Garnish.Props.C02Blocks in
theorem exNested_agree : agree exNested = true ∧
    refParseB Table.gen exNested =
      .ok (.node (.node .nil .number 0 .nil) .addition 2
        (.node (.node (.node .nil .sideEffect 4 (.node .nil .number 5 .nil)) .number 8 .nil) .multiplicationSign 10
          (.node (.node .nil .sideEffect 12 (.node (.node .nil .number 13 .nil) .list 14 (.node .nil .number 15 .nil)))
            .number 18 .nil))) := by
  exact ⟨by decide +kernel, by open Garnish.Lemmas in kernel_rfl⟩

end Garnish.Props.C02BlocksB
