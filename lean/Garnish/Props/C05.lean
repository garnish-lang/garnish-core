/-
Property C05 — built instruction streams are well-formed (builder model Garnish.Model.Build, checker Garnish.Spec.WFProg).

Main theorem (end of file): `C05_build_wf : build pf fuel root tree s0 = .ok (s, entry) → WFState s0 →
  wfProg tree.size s0 s = true ∧ (tree.size ≠ 0 → entry < s.jumps.size)`, for every node vector, fuel and start state.
Proof: an invariant of the inner loop (`InvH`) and one of the outer loop (`InvR`), carried along the states the loops pass
through (`reach_wf`, Lemmas/BuildReach.lean).  A handler call carries out a plan that is one of the visits of
Lemmas/BuildVisit.lean; `PlanWF` says what a plan must satisfy for `InvH` to survive it (`plan_wf`), and `Visit.wf` checks
it visit by visit.  The data object of a plan is described by `Grows`: it is reached from the current one by pushes each of
which is fine when it is made, so nothing already emitted has to be looked at again.
  * `DataOk`   every instruction / expression constant appended so far is fine w.r.t. the current tables (monotone in
               the tables, so it is enough to check each push against the state it is pushed into), metadata and
               instructions grow in lock-step and metadata names nodes below `tree.size`;
  * `JOk`      every jump entry written by this build is ≤ the instruction count, and equal to it only while more
               instructions are guaranteed: a root is pending on `root_stack`, or the current root has emitted nothing
               yet (commit 3cee692 then forces its terminator);
  * `NodesWF`  every build node names a parse node, an existing containing jump entry, and a terminator list that is
               non-empty, fine as it stands and ends in `EndExpression`/`JumpTo` (`EndShape`);
  * `EndsInTerm` after each root the stream ends in a terminator (commit 7afc7c5: only an `EndExpression` may be skipped).
-/
import Garnish.Lemmas.ListFacts
import Garnish.Lemmas.Build
import Garnish.Spec.WFProg
namespace Garnish.Props.C05
open Garnish Garnish.Gen Garnish.Model.Parser Garnish.Model.Literals Garnish.Model.Build Garnish.Lemmas.Build Garnish.Spec

variable {F : Type}

/-! ### monotonicity of the per-element checks -/

theorem instrOk_mono {jb jb' : Nat} {C C' : Array (Val F)} (hj : jb ≤ jb') (hs : C.size ≤ C'.size)
    (hc : ∀ (k : Nat) (v : Val F), C[k]? = some v → C'[k]? = some v) {i : Instr} (h : instrOk jb C i = true) :
    instrOk jb' C' i = true := by
  unfold instrOk at *
  cases hk : opKind i.1 <;> cases ho : i.2 <;> simp only [hk, ho] at h ⊢
  case data.some k => simp only [decide_eq_true_eq] at h ⊢; omega
  case sym.some k =>
    cases hck : C[k]? with
    | none => simp [hck] at h
    | some v =>
      rw [hc k v hck]
      rw [hck] at h
      exact h
  case jump.some j => simp only [decide_eq_true_eq] at h ⊢; omega
  all_goals exact h

theorem constOk_mono {jb jb' : Nat} (hj : jb ≤ jb') {v : Val F} (h : constOk jb v = true) : constOk jb' v = true := by
  unfold constOk at *
  split at h
  · simp only [decide_eq_true_eq] at h ⊢; omega
  · rfl

/-- an instruction that is fine without any constant is fine with every constant table -/
theorem instrOk_of_empty {G : Type} {jb : Nat} {i : Instr} (C : Array (Val F)) (h : instrOk jb (#[] : Array (Val G)) i = true) :
    instrOk jb C i = true := by
  unfold instrOk at *
  cases hk : opKind i.1 <;> cases ho : i.2 <;> simp only [hk, ho] at h ⊢
  case data.some k => simp at h
  case sym.some k => simp at h
  case jump.some j => exact h
  all_goals exact h

theorem allFrom_push {α : Type} {lo : Nat} {a : Array α} {P : α → Prop} (h : AllFrom lo a P) {x : α} (hx : P x) :
    AllFrom lo (a.push x) P := by
  intro i y hlo hy
  rw [Array.getElem?_push] at hy
  split at hy
  · cases hy; exact hx
  · exact h i y hlo hy

theorem allFrom_imp {α : Type} {lo : Nat} {a : Array α} {P Q : α → Prop} (h : AllFrom lo a P) (hpq : ∀ x, P x → Q x) :
    AllFrom lo a Q := fun i x hlo hx => hpq x (h i x hlo hx)

/-! ### the data part of the invariant, stated on the four arrays of the state -/

/-- the fixed quantities: sizes of the start state and the number of parse nodes -/
structure Base where
  i0 : Nat
  c0 : Nat
  j0 : Nat
  m0 : Nat
  n : Nat

structure DataOk (b : Base) (I : Array Instr) (J : Array Nat) (C : Array (Val F)) (M : Array (Option Nat)) : Prop where
  operands : AllFrom b.i0 I (fun i => instrOk J.size C i = true)
  exprConsts : AllFrom b.c0 C (fun v => constOk J.size v = true)
  metaCount : M.size + b.i0 = I.size + b.m0
  metaNodes : AllFrom b.m0 M (fun m => metaOk b.n m = true)

theorem DataOk.pushI {b : Base} {I : Array Instr} {J : Array Nat} {C : Array (Val F)} {M : Array (Option Nat)}
    (h : DataOk b I J C M) {x : Instr} {m : Option Nat} (hx : instrOk J.size C x = true) (hm : metaOk b.n m = true) :
    DataOk b (I.push x) J C (M.push m) :=
  ⟨allFrom_push h.operands hx, h.exprConsts, by have := h.metaCount; simp only [Array.size_push]; omega,
   allFrom_push h.metaNodes hm⟩

theorem DataOk.pushJ {b : Base} {I : Array Instr} {J : Array Nat} {C : Array (Val F)} {M : Array (Option Nat)}
    (h : DataOk b I J C M) (v : Nat) : DataOk b I (J.push v) C M :=
  ⟨allFrom_imp h.operands (fun _ hx => instrOk_mono (by simp) (Nat.le_refl _) (fun _ _ h => h) hx),
   allFrom_imp h.exprConsts (fun _ hx => constOk_mono (by simp) hx), h.metaCount, h.metaNodes⟩

theorem DataOk.pushC {b : Base} {I : Array Instr} {J : Array Nat} {C : Array (Val F)} {M : Array (Option Nat)}
    (h : DataOk b I J C M) {v : Val F} (hv : constOk J.size v = true) : DataOk b I J (C.push v) M :=
  ⟨allFrom_imp h.operands (fun _ hx => instrOk_mono (Nat.le_refl _) (by simp) (fun k w hk => by rw [Array.push_eq_append]; exact getElem?_append_of_some _ _ k w hk) hx),
   allFrom_push h.exprConsts hv, h.metaCount, h.metaNodes⟩

theorem DataOk.setJ {b : Base} {I : Array Instr} {J : Array Nat} {C : Array (Val F)} {M : Array (Option Nat)}
    (h : DataOk b I J C M) (i v : Nat) (hi : i < J.size) : DataOk b I (J.set i v hi) C M :=
  ⟨by simpa using h.operands, by simpa using h.exprConsts, h.metaCount, h.metaNodes⟩

/-! ### jump entries: every new entry is at most the instruction count, and may equal it only while more
instructions are guaranteed to come (`p`) -/

def JOk (lo L : Nat) (p : Prop) (J : Array Nat) : Prop := AllFrom lo J (fun v => v ≤ L ∧ (v = L → p))

theorem jOk_push {lo L : Nat} {p : Prop} {J : Array Nat} (h : JOk lo L p J) {v : Nat} (hv : v ≤ L) (hp : v = L → p) :
    JOk lo L p (J.push v) := allFrom_push h ⟨hv, hp⟩

theorem jOk_mono {lo L L' : Nat} {p p' : Prop} {J : Array Nat} (h : JOk lo L p J) (hL : L ≤ L') (hp : L' = L → p → p') :
    JOk lo L' p' J := by
  intro i v hlo hv
  obtain ⟨h1, h2⟩ := h i v hlo hv
  refine ⟨by omega, fun hvl => ?_⟩
  have : L' = L := by omega
  exact hp this (h2 (by omega))

theorem jOk_set {lo L : Nat} {p : Prop} {J : Array Nat} (h : JOk lo L p J) (i : Nat) (hi : i < J.size) (hp : p) :
    JOk lo L p (J.set i L hi) := by
  intro k v hlo hv
  rw [Array.getElem?_set] at hv
  split at hv
  · cases hv; exact ⟨Nat.le_refl _, fun _ => hp⟩
  · exact h k v hlo hv

/-! ### build nodes -/

/-- the shape of a terminator list: `[EndExpression]`, or a list ending in a `JumpTo` -/
def EndShape (l : List Instr) : Prop :=
  l = [(.endExpression, none)] ∨ ∃ (init : List Instr) (j : Nat), l = init ++ [(.jumpTo, some j)]

/-- a build node refers to an existing parse node, an existing jump entry, and its terminator list is a non-empty
list of instructions that are fine as they stand and ends in a terminator -/
def BnWF (jb n : Nat) (bn : BuildNode) : Prop :=
  bn.parseNodeIndex < n ∧ bn.containingExpressionJump < jb ∧
  ∀ l, bn.rootEndInstruction = some l → l ≠ [] ∧ (∀ e, e ∈ l → instrOk jb (#[] : Array (Val Unit)) e = true) ∧ EndShape l

def NodesWF (jb n : Nat) (nodes : Nodes) : Prop := nodes.size = n ∧ Garnish.Lemmas.BuildTotal.AllNodes (BnWF jb n) nodes

theorem bnWF_mono {jb jb' n : Nat} (hj : jb ≤ jb') {bn : BuildNode} (h : BnWF jb n bn) : BnWF jb' n bn :=
  ⟨h.1, by have := h.2.1; omega, fun l hl => ⟨(h.2.2 l hl).1, fun e he =>
    instrOk_mono hj (Nat.le_refl _) (fun _ _ h => h) ((h.2.2 l hl).2.1 e he), (h.2.2 l hl).2.2⟩⟩

theorem nodesWF_mono {jb jb' n : Nat} (hj : jb ≤ jb') {nodes : Nodes} (h : NodesWF jb n nodes) : NodesWF jb' n nodes :=
  ⟨h.1, fun i bn hb => bnWF_mono hj (h.2 i bn hb)⟩

theorem bnWF_congr {jb n : Nat} {b b' : BuildNode} (h : BnWF jb n b) (h1 : b'.parseNodeIndex = b.parseNodeIndex)
    (h2 : b'.containingExpressionJump = b.containingExpressionJump) (h3 : b'.rootEndInstruction = b.rootEndInstruction) :
    BnWF jb n b' := by
  unfold BnWF at *; rw [h1, h2, h3]; exact h

theorem bnWF_of_ends_none {jb n : Nat} {bn : BuildNode} (ha : bn.parseNodeIndex < n) (hc : bn.containingExpressionJump < jb)
    (he : bn.rootEndInstruction = none) : BnWF jb n bn :=
  ⟨ha, hc, fun l hl => by rw [he] at hl; cases hl⟩
theorem bnWF_newWithJumpAndEnd {jb n a c : Nat} (ju : Nat) {init : List Instr} {j : Nat} (ha : a < n) (hc : c < jb)
    (hinit : ∀ e, e ∈ init → opKind e.1 = .free) (hj : j < jb) :
    BnWF jb n (BuildNode.newWithJumpAndEnd a c ju (init ++ [(.jumpTo, some j)])) :=
  ⟨ha, hc, fun l hl => by
    simp only [BuildNode.newWithJumpAndEnd, BuildNode.new, Option.some.injEq] at hl
    subst hl
    refine ⟨by simp, fun x hx => ?_, Or.inr ⟨init, j, rfl⟩⟩
    rcases List.mem_append.1 hx with hx | hx
    · simp [instrOk, hinit x hx]
    · rw [List.mem_singleton.1 hx]; simpa [instrOk, opKind] using hj⟩

/-! ### the invariant of the inner loop (one root being emitted; `rs` = instruction count when the root started) -/

/-- `jlo` is a lower bound of the jump-table length that holds throughout the root (`jLe`): the jump entry of the root
being emitted lies below it, which is what an empty nested expression needs of `currentRootJump` -/
structure InvH (b : Base) (rs jlo : Nat) (ctx : Ctx F) : Prop where
  data : DataOk b ctx.data.instrs ctx.data.jumps ctx.data.consts ctx.data.metadata
  jok : JOk b.j0 ctx.data.instrs.size (0 < ctx.rootStack.size ∨ ctx.data.instrs.size = rs) ctx.data.jumps
  nodes : NodesWF ctx.data.jumps.size b.n ctx.nodes
  rsLe : rs ≤ ctx.data.instrs.size
  jLe : jlo ≤ ctx.data.jumps.size

/-- `d` is reached from `d0` by pushes each of which is fine when it is made; a jump entry may equal the instruction
count only if more instructions are certain to follow (`pend`: a root is pending once the handler is done) -/
inductive Grows (b : Base) (rs : Nat) (pend : Prop) (d0 : BState F) : BState F → Prop
  | refl : Grows b rs pend d0 d0
  | instr {d : BState F} (i : Instruction) (o m : Option Nat) : Grows b rs pend d0 d →
      instrOk d.jumps.size d.consts (i, o) = true → metaOk b.n m = true → Grows b rs pend d0 (pushInstr d i o m)
  | jump {d : BState F} (v : Nat) : Grows b rs pend d0 d → v ≤ d.instrs.size →
      (v = d.instrs.size → pend ∨ d.instrs.size = rs) → Grows b rs pend d0 (pushToJumpTable d v)
  | const {d : BState F} (v : Val F) : Grows b rs pend d0 d → constOk d.jumps.size v = true →
      Grows b rs pend d0 (addConst d v).1

theorem Grows.ok {b : Base} {rs : Nat} {pend : Prop} {d0 d : BState F} (g : Grows b rs pend d0 d)
    (hd : DataOk b d0.instrs d0.jumps d0.consts d0.metadata)
    (hj : JOk b.j0 d0.instrs.size (pend ∨ d0.instrs.size = rs) d0.jumps) (hr : rs ≤ d0.instrs.size) :
    DataOk b d.instrs d.jumps d.consts d.metadata ∧ JOk b.j0 d.instrs.size (pend ∨ d.instrs.size = rs) d.jumps ∧
      d0.jumps.size ≤ d.jumps.size ∧ rs ≤ d.instrs.size := by
  induction g with
  | refl => exact ⟨hd, hj, Nat.le_refl _, hr⟩
  | instr i o m _ hi hm ih =>
    obtain ⟨h1, h2, h3, h4⟩ := ih
    exact ⟨h1.pushI hi hm, jOk_mono h2 (by simp [pushInstr]) (fun e _ => by simp [pushInstr] at e), h3,
      by simp only [pushInstr, Array.size_push]; omega⟩
  | jump v _ hv hp ih =>
    obtain ⟨h1, h2, h3, h4⟩ := ih
    exact ⟨h1.pushJ v, jOk_push h2 hv hp, by simp only [pushToJumpTable, Array.size_push]; omega, h4⟩
  | const v _ hv ih =>
    obtain ⟨h1, h2, h3, h4⟩ := ih
    exact ⟨h1.pushC hv, h2, h3, h4⟩

section handlersWF
open Garnish.Lemmas.BuildPlan Garnish.Lemmas.BuildTotal

/-- what a plan has to satisfy for `InvH` to survive it -/
structure PlanWF (b : Base) (rs : Nat) (ctx : Ctx F) (p : Plan F) : Prop where
  data : Grows b rs (0 < ctx.rootStack.size + p.roots.length) ctx.data p.data
  puts : ∀ q, q ∈ p.puts → BnWF p.data.jumps.size b.n q.2
  sets : ∀ q, q ∈ p.sets → q.1 < b.n → BnWF p.data.jumps.size b.n q.2.1

theorem jumps_size_pushToJumpTable (d : BState F) (v : Nat) : (pushToJumpTable d v).jumps.size = d.jumps.size + 1 :=
  Array.size_push _

theorem size_foldl_push {α : Type} (l : List α) (a : Array α) : (l.foldl Array.push a).size = a.size + l.length := by
  rw [← Array.length_toList, toList_foldl_push, List.length_append, Array.length_toList]

variable {b : Base} {rs jlo : Nat} {ctx : Ctx F} {ni : Nat} {pn : ParseNode} {node : BuildNode}

theorem plan_wf (h : InvH b rs jlo ctx) {x : Outcome (Plan F)} (hx : Sat (PlanWF b rs ctx) x) :
    Sat (InvH b rs jlo) (Outcome.bind x (·.run ctx)) := by
  refine sat_bind hx fun p hp => Plan.run_sat fun hlt => ?_
  obtain ⟨h1, h2, h3, h4⟩ := hp.data.ok h.data
    (jOk_mono h.jok (Nat.le_refl _) fun _ hp => hp.imp_left fun h0 => Nat.lt_of_lt_of_le h0 (Nat.le_add_right _ _)) h.rsLe
  refine ⟨h1, ?_, ⟨(p.apply_size ctx).trans h.nodes.1, ?_⟩, h4, Nat.le_trans h.jLe h3⟩
  · show JOk _ _ (0 < (p.roots.foldl Array.push ctx.rootStack).size ∨ _) _
    rw [size_foldl_push]; exact h2
  · exact Plan.apply_all (fun i bn hb => bnWF_mono h3 (h.nodes.2 i bn hb)) hp.puts
      fun q hq => hp.sets q hq (h.nodes.1 ▸ hlt q hq)

/-- an instruction without a reference, attributed to a parse node -/
theorem Grows.free {pend : Prop} {d : BState F} (g : Grows b rs pend ctx.data d) {ins : Instruction} (hk : opKind ins = .free)
    (o : Option Nat) {m : Nat} (hm : m < b.n) : Grows b rs pend ctx.data (pushInstr d ins o (some m)) :=
  g.instr _ _ _ (by simp [instrOk, hk]) (by simpa [metaOk] using hm)

theorem constOk_of_isLit {jb : Nat} {v : Val F} (h : isLit v = true) : constOk jb v = true := by
  cases v <;> first | rfl | cases h

/-- every push of a visit is fine when it is made, and every build node it writes names a parse node, an existing containing
jump entry and well-formed terminators.  A jump entry may point at the end of the stream because a root is pushed by the same
visit (`branch`, `nestedRoot`, `elseRelease`) or because the root has emitted nothing yet -/
theorem _root_.Garnish.Lemmas.BuildPlan.Visit.wf {crj : Nat} {p : Plan F} (h : InvH b rs jlo ctx) (hni : ni < b.n) (hcrj : crj < ctx.data.jumps.size)
    (v : Visit ctx crj ni pn p) : PlanWF b rs ctx p := by
  have hole : ∀ pend : Prop, Grows b rs pend ctx.data (pushToJumpTable ctx.data 0) :=
    fun _ => .jump 0 .refl (Nat.zero_le _) fun e => Or.inr (by have := h.rsLe; omega)
  cases v with
  | @first node hnode hst hk evs hevs ctl sets hkeys hkid x hx stack hstack =>
    have hn := h.nodes.2 _ _ hnode
    have key : Grows b rs (0 < ctx.rootStack.size) ctx.data (emitAll ctx.data evs) ∧
        (emitAll ctx.data evs).jumps.size = ctx.data.jumps.size := by
      cases hevs with
      | none => exact ⟨.refl, rfl⟩
      | sideEffect => exact ⟨Grows.free .refl rfl _ hni, rfl⟩
      | resolve s => exact ⟨.instr _ _ _ (.const _ .refl rfl) (by simp [instrOk, opKind, addConst, Ev.apply]) rfl, rfl⟩
    refine ⟨key.1, List.forall_mem_singleton.2 ?_, fun q hq hlt => ?_⟩
    · exact bnWF_congr (bnWF_mono (Nat.le_of_eq key.2.symm) hn) (by rfl) (by rfl) (by rfl)
    · exact bnWF_of_ends_none ((hkid q hq).pni ▸ hlt) ((hkid q hq).containing ▸ (bnWF_mono (Nat.le_of_eq key.2.symm) hn).2.1) (hkid q hq).ends
  | @emit node hnode hst hool hne evs hevs =>
    have hn := h.nodes.2 _ _ hnode
    refine ⟨?_, (fun _ hq => nomatch hq), (fun _ hq => nomatch hq)⟩
    cases hevs with
    | op hfree hx => exact Grows.free .refl hfree _ (hx.elim (fun e => e ▸ hni) (fun e => e ▸ hn.1))
    | reapply =>
      exact .instr _ _ _ (Grows.free .refl rfl _ hni)
        (by simp only [instrOk, opKind]; exact decide_eq_true hn.2.1) (by simpa [metaOk] using hni)
    | infixApply => exact Grows.free (.instr _ _ _ .refl (by simp [instrOk, opKind]) rfl) rfl _ hni
    | @value v hv ins hins =>
      refine .instr _ _ _ (.const v .refl (constOk_of_isLit hv)) ?_ (by simpa [metaOk] using hni)
      rcases hins with rfl | ⟨rfl, s, rfl⟩ <;> simp [instrOk, opKind, addConst, Ev.apply]
    | forwarded => exact .refl
  | @listItem node hnode =>
    have hn := h.nodes.2 _ _ hnode
    exact ⟨Grows.free .refl rfl _ hn.1, List.forall_mem_singleton.2 (bnWF_congr hn rfl rfl rfl), (fun _ hq => nomatch hq)⟩
  | groupSkip => exact ⟨.refl, (fun _ hq => nomatch hq), (fun _ hq => nomatch hq)⟩
  | groupChild hnode =>
    exact ⟨.refl, (fun _ hq => nomatch hq), List.forall_mem_singleton.2 fun hc => bnWF_of_ends_none hc (h.nodes.2 _ _ hnode).2.1 rfl⟩
  | nestedEmpty _ _ hc =>
    refine ⟨.instr _ _ _ (.const _ .refl ?_) (by simp [instrOk, opKind, addConst, Ev.apply]) (by simpa [metaOk] using hni),
      (fun _ hq => nomatch hq), (fun _ hq => nomatch hq)⟩
    simp only [constOk, decide_eq_true_eq]
    rcases hc with ⟨node, hnode, rfl⟩ | ⟨_, rfl⟩
    · exact (h.nodes.2 ni node hnode).2.1
    · exact hcrj
  | nestedRoot =>
    exact ⟨.instr _ _ _ (.const _ (.jump 0 .refl (Nat.zero_le _) fun _ => Or.inl (Nat.succ_pos _))
        (by simp [constOk, pushToJumpTable, Ev.apply])) (by simp [instrOk, opKind, addConst, Ev.apply, pushToJumpTable]) (by simpa [metaOk] using hni),
      (fun _ hq => nomatch hq),
      List.forall_mem_singleton.2 fun hc => bnWF_of_ends_none hc (by simp [emitAll, Ev.apply, pushInstr, addConst, pushToJumpTable, BuildNode.newWithJump, BuildNode.new]) rfl⟩
  | @branch node hnode hst hlate hcp r hr ins hjump extra endBefore hx he site =>
    have hn := h.nodes.2 _ _ hnode
    -- the new root's own jump entry is a placeholder below the instruction count, the entry its terminator jumps to is the
    -- instruction count itself: the root is pending
    have g1 : Grows b rs (0 < ctx.rootStack.size + 1) ctx.data
        (pushInstr (pushToJumpTable ctx.data 0) ins (some ctx.data.jumps.size) (some ni)) :=
      .instr _ _ _ (hole _) (by simp [instrOk, hjump, pushToJumpTable]) (by simpa [metaOk] using hni)
    have g2 : ∀ (l : List Instr) {d : BState F}, (∀ e, e ∈ l → opKind e.1 = .free) →
        Grows b rs (0 < ctx.rootStack.size + 1) ctx.data d → d.jumps.size = ctx.data.jumps.size + 1 →
        Grows b rs (0 < ctx.rootStack.size + 1) ctx.data (emitAll d (l.map fun e => .instr e.1 e.2 none)) ∧
          (emitAll d (l.map fun e => .instr e.1 e.2 none)).jumps.size = ctx.data.jumps.size + 1 := by
      intro l
      induction l with
      | nil => exact fun _ g e => ⟨g, e⟩
      | cons x rest ih =>
        exact fun hl g e => ih (fun y hy => hl y (List.mem_cons_of_mem _ hy))
          (.instr _ _ _ g (by simp [instrOk, hl x List.mem_cons_self]) rfl) e
    obtain ⟨g3, e3⟩ := g2 extra hx g1 (by simp [pushInstr, pushToJumpTable])
    refine ⟨.jump _ g3 (Nat.le_refl _) fun _ => Or.inl (Nat.succ_pos _), (fun _ hq => nomatch hq), List.forall_mem_singleton.2 fun hc => ?_⟩
    have e3' : (emitAll ctx.data (.hole :: .instr ins (some ctx.data.jumps.size) (some ni) ::
        extra.map fun e => .instr e.1 e.2 none)).jumps.size = ctx.data.jumps.size + 1 := e3
    have hc' := hn.2.1
    refine bnWF_newWithJumpAndEnd _ hc ?_ he ?_ <;> show _ < (pushToJumpTable _ _).jumps.size <;>
      rw [jumps_size_pushToJumpTable, e3'] <;> omega
  | @arm node hnode hst hj r hr cp hcp parent hparent ins hjump =>
    have hp : BnWF ctx.data.jumps.size b.n parent := h.nodes.2 _ _ hparent
    exact ⟨.instr _ _ _ (hole _) (by simp [instrOk, hjump, pushToJumpTable, Ev.apply]) (by simpa [metaOk] using hni),
      List.forall_mem_singleton.2 (bnWF_congr (bnWF_mono (by simp [emitAll, Ev.apply, pushInstr, pushToJumpTable]) hp) rfl rfl rfl),
      (fun _ hq => nomatch hq)⟩
  | armDropped => exact ⟨hole _, (fun _ hq => nomatch hq), (fun _ hq => nomatch hq)⟩
  | elseNoop => exact ⟨.refl, (fun _ hq => nomatch hq), (fun _ hq => nomatch hq)⟩
  | @elseRelease node hnode hst hdef hcp hpos =>
    have hn := h.nodes.2 _ _ hnode
    -- the released arms are pending roots, so the entry their terminators jump to may be the instruction count
    refine ⟨.jump _ .refl (Nat.le_refl _) fun _ => Or.inl ?_, (fun _ hq => nomatch hq), fun q hq hlt => ?_⟩
    · simp only [List.length_map, Array.length_toList]; omega
    · obtain ⟨c, _, rfl⟩ := List.mem_map.1 hq
      have hc := hn.2.1
      refine bnWF_newWithJumpAndEnd (init := []) _ hlt ?_ (fun _ hx => nomatch hx) ?_ <;>
        show _ < (pushToJumpTable _ _).jumps.size <;> rw [jumps_size_pushToJumpTable] <;> omega

variable (parseFloat : List Char → Option F)

theorem handleParseNode_wf (h : InvH b rs jlo ctx) {ni : Nat} (hni : ni < b.n) {crj : Nat} (hcrj : crj < ctx.data.jumps.size)
    (pn : ParseNode) : Sat (InvH b rs jlo) (handleParseNode parseFloat ctx crj ni pn) := by
  obtain ⟨x, e, hv, _⟩ := handleParseNode_plan parseFloat ctx crj ni pn
  rw [e]
  exact plan_wf h (sat_mono hv fun _ v => v.wf h hni hcrj)


/-! ### the loops -/

/-- the stream ends in `EndExpression` or `JumpTo` -/
def EndsInTerm (d : BState F) : Prop := ∃ i, d.instrs.back? = some i ∧ isTerminator i = true

/-- the invariant at the head of the outer loop -/
structure InvR (b : Base) (ctx : Ctx F) : Prop where
  data : DataOk b ctx.data.instrs ctx.data.jumps ctx.data.consts ctx.data.metadata
  jok : JOk b.j0 ctx.data.instrs.size (0 < ctx.rootStack.size) ctx.data.jumps
  nodes : NodesWF (max ctx.data.jumps.size (b.j0 + 1)) b.n ctx.nodes
  first : b.j0 < ctx.data.jumps.size ∨
    ∃ r bn, ctx.rootStack.back? = some r ∧ ctx.nodes[r]? = some (some bn) ∧ bn.jumpIndexToUpdate = none
  jlo : b.j0 ≤ ctx.data.jumps.size
  term : EndsInTerm ctx.data ∨ ∃ r, ctx.rootStack.back? = some r

/-- what `rootJump` establishes -/
structure RootJumpPost (b : Base) (d0 : BState F) (r : BState F × Nat) : Prop where
  dataOk : DataOk b r.1.instrs r.1.jumps r.1.consts r.1.metadata
  jok : JOk b.j0 r.1.instrs.size True r.1.jumps
  crj : r.2 < r.1.jumps.size
  j0 : b.j0 < r.1.jumps.size
  instrsEq : r.1.instrs = d0.instrs
  mono : d0.jumps.size ≤ r.1.jumps.size

theorem rootJump_wf {data : BState F} {nodes : Nodes} {p : Prop}
    (hd : DataOk b data.instrs data.jumps data.consts data.metadata) (hj : JOk b.j0 data.instrs.size p data.jumps)
    (hjlo : b.j0 ≤ data.jumps.size) (rootIndex : Nat)
    (hfirst : b.j0 < data.jumps.size ∨ ∃ bn, nodes[rootIndex]? = some (some bn) ∧ bn.jumpIndexToUpdate = none) :
    Sat (RootJumpPost b data) (rootJump data nodes rootIndex) := by
  have hj' : JOk b.j0 data.instrs.size True data.jumps := jOk_mono hj (Nat.le_refl _) (fun _ _ => trivial)
  refine sat_mono (rootJump_cases data nodes rootIndex).sat fun r h => ?_
  rcases h with rfl | ⟨node, hnode, hidx, hset⟩
  · simp only [pushToJumpTable, getInstructionLen, getJumpTableLen]
    exact ⟨hd.pushJ _, jOk_push hj' (Nat.le_refl _) (fun _ => trivial), by simp, by simp only [Array.size_push]; omega, rfl,
      by simp⟩
  · obtain ⟨d', i⟩ := r
    dsimp only at hidx hset ⊢
    unfold setJump? at hset
    split at hset
    · rename_i hlt
      cases hset
      refine ⟨hd.setJ _ _ hlt, jOk_set hj' _ hlt trivial, by simpa using hlt, ?_, rfl, by simp⟩
      rcases hfirst with h1 | ⟨bn, h1, h2⟩
      · simpa using h1
      · rw [hnode] at h1; cases h1; rw [hidx] at h2; cases h2
    · cases hset

/-- one element of the `for end_instruction in end_instructions` loop -/
def peStep (last : Option Instr) (rs : Nat) (d : BState F) (e : Instr) : BState F :=
  match last with
  | some instruction =>
    if instruction = e ∧ e.1 = .endExpression ∧ getInstructionLen d > rs then d
    else pushInstr d e.1 e.2 none
  | none => pushInstr d e.1 e.2 none

theorem pushEndInstructions_cons (last : Option Instr) (rs : Nat) (d : BState F) (e : Instr) (rest : List Instr) :
    pushEndInstructions last rs d (e :: rest) = pushEndInstructions last rs (peStep last rs d e) rest := rfl

theorem peStep_cases (last : Option Instr) (rs : Nat) (d : BState F) (e : Instr) :
    peStep last rs d e = pushInstr d e.1 e.2 none ∨
    (peStep last rs d e = d ∧ last = some e ∧ e.1 = .endExpression ∧ rs < d.instrs.size) := by
  unfold peStep
  split
  · split
    · rename_i hc; exact Or.inr ⟨rfl, by rw [hc.1], hc.2.1, hc.2.2⟩
    · exact Or.inl rfl
  · exact Or.inl rfl

/-- `pushEndInstructions`: only instructions (with `None` metadata) are appended; at least one instruction exists
    after `rootStart` afterwards (commit 3cee692) -/
theorem pushEndInstructions_wf (last : Option Instr) (rs : Nat) : ∀ (l : List Instr) (d : BState F),
    DataOk b d.instrs d.jumps d.consts d.metadata → (∀ e, e ∈ l → instrOk d.jumps.size d.consts e = true) →
    DataOk b (pushEndInstructions last rs d l).instrs (pushEndInstructions last rs d l).jumps
      (pushEndInstructions last rs d l).consts (pushEndInstructions last rs d l).metadata ∧
    (pushEndInstructions last rs d l).jumps = d.jumps ∧
    d.instrs.size ≤ (pushEndInstructions last rs d l).instrs.size ∧
    (l ≠ [] → rs ≤ d.instrs.size → rs < (pushEndInstructions last rs d l).instrs.size) := by
  intro l
  induction l with
  | nil => intro d hd _; exact ⟨hd, rfl, Nat.le_refl _, fun h => absurd rfl h⟩
  | cons e rest ih =>
    intro d hd he
    have hrest : ∀ x, x ∈ rest → instrOk d.jumps.size d.consts x = true := fun x hx => he x (List.mem_cons_of_mem _ hx)
    rw [pushEndInstructions_cons]
    rcases peStep_cases last rs d e with h | ⟨h, _, _, hlt⟩ <;> rw [h]
    · obtain ⟨i1, i2, i3, _⟩ := ih (pushInstr d e.1 e.2 none) (hd.pushI (he e List.mem_cons_self) rfl) hrest
      have i3' : d.instrs.size + 1 ≤ (pushEndInstructions last rs (pushInstr d e.1 e.2 none) rest).instrs.size := by
        simpa [pushInstr] using i3
      exact ⟨i1, i2, by omega, fun _ _ => by omega⟩
    · obtain ⟨i1, i2, i3, _⟩ := ih d hd hrest
      exact ⟨i1, i2, i3, fun _ _ => by omega⟩

theorem term_pushInstr (d : BState F) (e : Instr) (he : isTerminator e = true) : EndsInTerm (pushInstr d e.1 e.2 none) :=
  ⟨e, by simp [pushInstr], he⟩

theorem pushEndInstructions_append (last : Option Instr) (rs : Nat) : ∀ (init : List Instr) (d : BState F) (e : Instr),
    pushEndInstructions last rs d (init ++ [e]) = peStep last rs (pushEndInstructions last rs d init) e := by
  intro init
  induction init with
  | nil => intro d e; rfl
  | cons x rest ih => intro d e; simp only [List.cons_append, pushEndInstructions_cons]; exact ih _ e

/-- commit 7afc7c5: only an `EndExpression` already at the end may stand in for the terminator, so after the loop
over a well-shaped terminator list the stream ends in a terminator -/
theorem pushEndInstructions_term (rs : Nat) (d : BState F) {l : List Instr} (hl : EndShape l) :
    EndsInTerm (pushEndInstructions d.instrs.back? rs d l) := by
  rcases hl with rfl | ⟨init, j, rfl⟩
  · show EndsInTerm (peStep d.instrs.back? rs d (.endExpression, none))
    rcases peStep_cases d.instrs.back? rs d (.endExpression, none) with h | ⟨h, hlast, _, _⟩ <;> rw [h]
    · exact term_pushInstr d _ rfl
    · exact ⟨_, hlast, rfl⟩
  · rw [pushEndInstructions_append]
    rcases peStep_cases d.instrs.back? rs (pushEndInstructions d.instrs.back? rs d init) (.jumpTo, some j) with
      h | ⟨h, _, he, _⟩ <;> rw [h]
    · exact term_pushInstr _ _ rfl
    · cases he

/-- the invariant at the two loop heads; inside a root the jump-table length stays above the root's own entry -/
def WFAt (b : Base) : Loc → Ctx F → Prop
  | .head, ctx => InvR b ctx
  | .inner _ crj rs, ctx => InvH b rs (max crj b.j0 + 1) ctx

theorem reach_wf {tree : Array ParseNode} (hb : b.n = tree.size) {c0 : Ctx F} (h0 : InvR b c0) {loc : Loc} {ctx : Ctx F}
    (h : Reach parseFloat tree c0 loc ctx) : WFAt b loc ctx := by
  induction h with
  | init => exact h0
  | @enter ctx rootIndex data crj _ hback hj h =>
    have hfirst : b.j0 < ctx.data.jumps.size ∨ ∃ bn, ctx.nodes[rootIndex]? = some (some bn) ∧ bn.jumpIndexToUpdate = none := by
      rcases h.first with h1 | ⟨r, bn, h1, h2, h3⟩
      · exact Or.inl h1
      · rw [hback] at h1; cases h1; exact Or.inr ⟨bn, h2, h3⟩
    obtain ⟨r1, r2, r3, r4, r5, r6⟩ := (rootJump_wf h.data h.jok h.jlo rootIndex hfirst).of_eq hj
    dsimp only at r1 r2 r3 r4 r5 r6
    have hmax : max ctx.data.jumps.size (b.j0 + 1) ≤ data.jumps.size := by omega
    exact ⟨r1, jOk_mono r2 (Nat.le_refl _) (fun _ _ => Or.inr rfl), nodesWF_mono hmax h.nodes, Nat.le_refl _, by
      show max crj b.j0 + 1 ≤ data.jumps.size
      omega⟩
  | @step r crj rs ctx c1 ni pn N _ _ hpn hh ha h =>
    have h' : InvH b rs (max crj b.j0 + 1) ({ ctx with stack := ctx.stack.pop } : Ctx F) := ⟨h.data, h.jok, h.nodes, h.rsLe, h.jLe⟩
    have hni := hb ▸ Garnish.lt_of_getElem? hpn
    have hc : crj < ({ ctx with stack := ctx.stack.pop } : Ctx F).data.jumps.size :=
      Nat.lt_of_lt_of_le (by omega) h.jLe
    have h1 := (handleParseNode_wf parseFloat h' hni hc pn).of_eq hh
    have hnodes := (afterHandle_all h1.nodes.2 (fun _ _ hb => bnWF_congr hb rfl rfl rfl)
      (fun _ _ hb => bnWF_congr hb rfl rfl rfl) ni).sat.of_eq ha
    exact ⟨h1.data, h1.jok, ⟨hnodes.1.trans h1.nodes.1, hnodes.2⟩, h1.rsLe, h1.jLe⟩
  | @leave r crj rs ctx2 _ _ h2 =>
    -- the terminators
    have dflt : EndShape [((.endExpression, none) : Instr)] ∧
        (∀ e, e ∈ [((.endExpression, none) : Instr)] → instrOk ctx2.data.jumps.size ctx2.data.consts e = true) ∧
        [((.endExpression, none) : Instr)] ≠ [] :=
      ⟨Or.inl rfl, fun e he => by rw [List.mem_singleton.1 he]; simp [instrOk, opKind], by simp⟩
    obtain ⟨hshape, hend, hne⟩ : EndShape (endOf ctx2.nodes r) ∧
        (∀ e, e ∈ endOf ctx2.nodes r → instrOk ctx2.data.jumps.size ctx2.data.consts e = true) ∧ endOf ctx2.nodes r ≠ [] := by
      unfold endOf
      split
      · rename_i node hnode
        split
        · rename_i l hl
          obtain ⟨h1, h2', h3⟩ := (h2.nodes.2 _ _ hnode).2.2 l hl
          exact ⟨h3, fun e he => instrOk_of_empty _ (h2' e he), h1⟩
        · exact dflt
      · exact dflt
    have hterm : EndsInTerm (pushEndInstructions (lastInstr ctx2.data) rs ctx2.data (endOf ctx2.nodes r)) := by
      rw [lastInstr_eq_back]; exact pushEndInstructions_term _ _ hshape
    obtain ⟨p1, p2, p3, p4⟩ := pushEndInstructions_wf (b := b) (lastInstr ctx2.data) rs (endOf ctx2.nodes r) ctx2.data h2.data hend
    have p4' := p4 hne h2.rsLe
    have hj0 : b.j0 < ctx2.data.jumps.size := by
      have := h2.jLe
      omega
    refine ⟨p1, ?_, ?_, Or.inl (by dsimp only; rw [p2]; exact hj0), by dsimp only; rw [p2]; omega, Or.inl hterm⟩
    · dsimp only
      rw [p2]
      refine jOk_mono h2.jok p3 (fun heq hp => ?_)
      rcases hp with hp | hp
      · exact hp
      · omega
    · dsimp only
      rw [p2]
      exact nodesWF_mono (by omega) h2.nodes


theorem allFrom_of_size_le {α : Type} {lo : Nat} {a : Array α} {P : α → Prop} (h : a.size ≤ lo) : AllFrom lo a P :=
  fun i x hlo hx => absurd (Garnish.lt_of_getElem? hx) (by omega)

/-- the sizes of the start state and the number of parse nodes -/
def baseOf (s0 : BState F) (n : Nat) : Base := ⟨s0.instrs.size, s0.consts.size, s0.jumps.size, s0.metadata.size, n⟩

theorem buildCore_wf (fuel parseRoot : Nat) (parseTree : Array ParseNode) (s0 : BState F) :
    Sat (fun r => (WFState s0 → WFCore parseTree.size s0 r.1) ∧ r.2 < r.1.jumps.size ∧ EndsInTerm r.1 ∧
      r.1.metadata.size + s0.instrs.size = r.1.instrs.size + s0.metadata.size)
      (buildCore parseFloat fuel parseRoot parseTree s0) := by
  refine sat_mono (buildCore_reach parseFloat fuel parseRoot parseTree s0) fun q ⟨hlt, ctx, hr, hnone, _, e⟩ => ?_
  subst e
  show (WFState s0 → WFCore parseTree.size s0 ctx.data) ∧ s0.jumps.size < ctx.data.jumps.size ∧ EndsInTerm ctx.data ∧
    ctx.data.metadata.size + s0.instrs.size = ctx.data.instrs.size + s0.metadata.size
  have hinv : InvR (baseOf s0 parseTree.size) (startCtx parseRoot parseTree s0) := by
    refine ⟨⟨allFrom_of_size_le (Nat.le_refl _), allFrom_of_size_le (Nat.le_refl _), Nat.add_comm _ _, allFrom_of_size_le (Nat.le_refl _)⟩,
      allFrom_of_size_le (Nat.le_refl _), ⟨by simp [baseOf, startCtx, Garnish.Lemmas.BuildTotal.size_putNode], ?_⟩, ?_, Nat.le_refl _,
      Or.inr ⟨parseRoot, by simp [startCtx]⟩⟩
    · intro i bn hi
      obtain ⟨rfl, rfl⟩ := startCtx_get hi
      exact bnWF_of_ends_none hlt (by show s0.jumps.size < max s0.jumps.size (s0.jumps.size + 1); omega) rfl
    · -- the root has no jump entry of its own yet
      exact Or.inr ⟨parseRoot, BuildNode.new parseRoot s0.jumps.size, by simp [startCtx],
        by simp [startCtx, Garnish.Lemmas.BuildTotal.getElem?_putNode, hlt], rfl⟩
  have hR : InvR (baseOf s0 parseTree.size) ctx := reach_wf parseFloat rfl hinv hr
  have hsz := back_none_size hnone
  have hj0 : s0.jumps.size < ctx.data.jumps.size := by
    rcases hR.first with h1 | ⟨r, bn, h1, _, _⟩
    · exact h1
    · rw [hnone] at h1; cases h1
  have hterm : EndsInTerm ctx.data := by
    rcases hR.term with h1 | ⟨r, h1⟩
    · exact h1
    · rw [hnone] at h1; cases h1
  have hmc : ctx.data.metadata.size + s0.instrs.size = ctx.data.instrs.size + s0.metadata.size := hR.data.metaCount
  refine ⟨fun hs0 => ⟨hR.data.operands, hR.data.exprConsts, ?_, by unfold WFState at hs0; omega, hR.data.metaNodes⟩, hj0, hterm, hmc⟩
  intro i v hlo hv
  obtain ⟨h1, h2⟩ := hR.jok i v hlo hv
  rcases Nat.lt_or_ge v ctx.data.instrs.size with h3 | h3
  · exact h3
  · have := h2 (by omega)
    omega

theorem build_wfCore (fuel parseRoot : Nat) (parseTree : Array ParseNode) (s0 : BState F) :
    Sat (fun r => (WFState s0 → WFCore parseTree.size s0 r.1) ∧ (parseTree.size ≠ 0 → r.2 < r.1.jumps.size) ∧ EndsInTerm r.1 ∧
      r.1.metadata.size + s0.instrs.size = r.1.instrs.size + s0.metadata.size)
      (build parseFloat fuel parseRoot parseTree s0) := by
  unfold build
  split
  · rename_i hempty
    simp only [sat_ok, pushInstr, pushToJumpTable, getInstructionLen, getJumpTableLen]
    refine ⟨fun hs0 => ⟨allFrom_push (allFrom_of_size_le (Nat.le_refl _)) (by simp [instrOk, opKind]), allFrom_of_size_le (Nat.le_refl _),
      allFrom_push (allFrom_of_size_le (Nat.le_refl _)) (by simp), by simp [show s0.metadata.size = s0.instrs.size from hs0],
      allFrom_push (allFrom_of_size_le (Nat.le_refl _)) rfl⟩, fun _ => by simp, ⟨(.endExpression, none), by simp, rfl⟩,
      by simp only [Array.size_push]; omega⟩
  · refine sat_bind (Q := fun _ => True) sat_true (fun _ _ => ?_)
    exact sat_mono (buildCore_wf parseFloat fuel parseRoot parseTree s0) (fun r hr => ⟨hr.1, fun _ => hr.2.1, hr.2.2⟩)

end handlersWF

/-! ## C05 -/

/-- "After a successful `build`, every data operand names an existing value of the kind its instruction expects, every
jump operand and every expression value names an existing jump-table entry, every jump-table entry written by the build
points at an existing instruction (no unpatched placeholder survives), and every straight-line run of instructions ends
in an end-of-expression or an unconditional jump.  There is exactly one metadata record per emitted instruction and it
names an existing parse node."

`wfProg` (Spec/WFProg.lean) is the executable form of these clauses for the part of `s` appended to `s0`; the theorem
holds for EVERY node vector, every fuel and every start state whose metadata is in step with its instructions
(`WFState s0`), on the builder model that follows build.rs up to commit 7afc7c5.  The returned entry names an existing
jump entry; the statement says so for a non-empty node vector only, although an empty one gets an entry of its own as well
(Model/Build.lean, `build`: the entry is pushed before the `EndExpression`). -/
theorem C05_build_wf (parseFloat : List Char → Option F) (fuel root : Nat) (tree : Array ParseNode) (s0 s : BState F)
    (entry : Nat) (h : build parseFloat fuel root tree s0 = .ok (s, entry)) (hs0 : WFState s0) :
    wfProg tree.size s0 s = true ∧ (tree.size ≠ 0 → entry < s.jumps.size) := by
  have := build_wfCore parseFloat fuel root tree s0
  rw [h] at this
  obtain ⟨h1, h2, h3, _⟩ := this
  exact ⟨(wfProg_iff _ _ _).2 ⟨h1 hs0, h3⟩, h2⟩

/-- the declarative form -/
theorem C05_build_WFProg (parseFloat : List Char → Option F) (fuel root : Nat) (tree : Array ParseNode) (s0 s : BState F)
    (entry : Nat) (h : build parseFloat fuel root tree s0 = .ok (s, entry)) (hs0 : WFState s0) :
    WFProg tree.size s0 s :=
  (wfProg_iff _ _ _).1 (C05_build_wf parseFloat fuel root tree s0 s entry h hs0).1

/-- a build leaves the object in a state another build may start from -/
theorem C05_wfState_preserved (parseFloat : List Char → Option F) (fuel root : Nat) (tree : Array ParseNode) (s0 s : BState F)
    (entry : Nat) (h : build parseFloat fuel root tree s0 = .ok (s, entry)) (hs0 : WFState s0) : WFState s :=
  (C05_build_WFProg parseFloat fuel root tree s0 s entry h hs0).metaCount

/-- "There is exactly one metadata record per emitted instruction": the number of metadata records appended by an accepted
build equals the number of instructions it appended — for EVERY start state (no `WFState` needed; with `WFState s0` this
is also the `metaCount` clause of `wfProg`: `s.metadata.size = s.instrs.size`).  A handler that pushes two
instructions and one record (or the reverse) breaks this theorem. -/
theorem C05_metadata_one_per_instruction (parseFloat : List Char → Option F) (fuel root : Nat) (tree : Array ParseNode)
    (s0 s : BState F) (entry : Nat) (h : build parseFloat fuel root tree s0 = .ok (s, entry)) :
    s.metadata.size - s0.metadata.size = s.instrs.size - s0.instrs.size ∧
    s0.metadata.size ≤ s.metadata.size ∧ s0.instrs.size ≤ s.instrs.size := by
  have := build_wfCore parseFloat fuel root tree s0
  rw [h] at this
  obtain ⟨_, _, _, h4⟩ := this
  have hap := Garnish.Lemmas.Build.build_appends_only parseFloat fuel root tree s0 s entry h
  obtain ⟨⟨l1, h1⟩, _, ⟨l3, h3⟩, _, _⟩ := hap
  have e1 := congrArg List.length h1
  have e3 := congrArg List.length h3
  simp only [List.length_append, Array.length_toList] at e1 e3
  dsimp only at h4
  omega

/-- an EMPTY node vector builds (what `build` pushes then: docstring of `C05_build_wf`) -/
example : (build (F := Unit) (fun _ => none) 0 0 #[] BState.empty).isOk = true := by decide

end Garnish.Props.C05
