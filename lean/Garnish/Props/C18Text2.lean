/-
Property C18, TEXT level, part 2: trailing whitespace.

`TextTrailingAt cc s s'`: `s' = s ++ w` for a non-empty run `w` of spaces/tabs, where the lexer ends `s` with a pending
number / float / identifier / annotation / operator or between tokens (`TrailGuard`, decided by `trailGuardB`; excluded:
inputs that end inside whitespace — covered by `TextAddSpace` — and inside a line annotation, where the blanks become
part of the comment). Proved:
  * `C18_text_trailing_lex` — `s'` lexes to the tokens of `s` followed by ONE Whitespace token spelling `w`; the core is
    `blank_vs_sentinel`: a blank ends the pending token exactly as the end-of-input sentinel does;
  * `C18_text_trailing_tokens` — `TrailingSpace (toP t) (toP t')` (the relation of Lemmas/RefTrivia);
  * `C18_text_trailing` — for EVERY such input `parse (toP t') = parse (toP t)` and the reference trees are equal;
  * `C18_text_trailing_result` — on `frag9'` both texts are built into objects on which the machine halts with the same
    value and trace (under `TextNodesInRange`: text-reading nodes sit on existing tokens).
Not proved here: blanks inserted directly before a newline; `TextPadOperator`; `TextAnnotation` (see the report).
-/
import Garnish.Lemmas.LexTrailing
import Garnish.Lemmas.LexSpell5
import Garnish.Props.C18Text
namespace Garnish.Props.C18Text2
open Garnish Garnish.Gen Garnish.Spec Garnish.Model Garnish.Model.Lexer Garnish.Model.Parser
open Garnish.Abs Garnish.Abs.Source Garnish.Props.C02Parse Garnish.Props.C18Parse Garnish.Props.C18Text
open Garnish.Abs.Tree Garnish.Model.Literals Garnish.Model.Build Garnish.Props.C01Build Garnish.Props.C01Source
open Garnish.Props.C02Numbered

/-- the lexer ends `s` in a state where trailing blanks add exactly one Whitespace token -/
def TrailGuard (cc : CharClass) (s : List Char) : Prop :=
  ∃ σ toks, runChars cc s (Lexer.init theTree) [] = .ok (σ, toks) ∧ TrailState σ

/-- executable form of `TrailGuard` -/
def trailGuardB (cc : CharClass) (s : List Char) : Bool :=
  match runChars cc s (Lexer.init theTree) [] with
  | .ok (σ, _) =>
    σ.state == .number || σ.state == .float || σ.state == .identifier || σ.state == .annotation ||
    σ.state == .operator || (σ.state == .noToken && σ.couldBeSubExpression == false)
  | _ => false

theorem trailGuard_of_check {cc : CharClass} {s : List Char} (h : trailGuardB cc s = true) : TrailGuard cc s := by
  unfold trailGuardB at h
  cases hr : runChars cc s (Lexer.init theTree) [] with
  | ok r =>
    obtain ⟨σ, toks⟩ := r
    rw [hr] at h
    refine ⟨σ, toks, hr, ?_⟩
    simp only [Bool.or_eq_true, Bool.and_eq_true, beq_iff_eq] at h
    unfold TrailState PlainState
    rcases h with ((((h | h) | h) | h) | h) | h
    · exact Or.inl (Or.inl h)
    · exact Or.inl (Or.inr (Or.inl h))
    · exact Or.inl (Or.inr (Or.inr (Or.inl h)))
    · exact Or.inl (Or.inr (Or.inr (Or.inr (Or.inl h))))
    · exact Or.inl (Or.inr (Or.inr (Or.inr (Or.inr h))))
    · exact Or.inr h
  | err e => rw [hr] at h; cases h
  | panic m => rw [hr] at h; cases h
  | fuelOut => rw [hr] at h; cases h

/-- **trailing whitespace at the end of the input** -/
def TextTrailingAt (cc : CharClass) (s s' : List Char) : Prop :=
  ∃ c r, (c = ' ' ∨ c = '\t') ∧ (∀ x ∈ r, x = ' ' ∨ x = '\t') ∧ s' = s ++ c :: r ∧ TrailGuard cc s

/-- it is an instance of the unguarded text rewrite of Props/C18Text -/
theorem TextTrailingAt.toTrailing {cc : CharClass} {s s' : List Char} (h : TextTrailingAt cc s s') : TextTrailing s s' := by
  obtain ⟨c, r, hc, hr, rfl, _⟩ := h
  exact ⟨c :: r, by simp, List.forall_mem_cons.2 ⟨hc, hr⟩, rfl⟩

/-- **through the lexer**: the tokens of `s` followed by one Whitespace token spelling the appended blanks.
Hypotheses on the tables: `cc.SaneBlank` (space, tab, NUL, newline neither alphanumeric nor numeric) and `cc.Sane2`. -/
theorem C18_text_trailing_lex (cc : CharClass) (hcc : cc.SaneBlank) (hcc2 : cc.Sane2) (s s' : List Char)
    (t : List LexerToken) (hl : lex cc s = .ok t) (h : TextTrailingAt cc s s') :
    ∃ ws, lex cc s' = .ok (t ++ [ws]) ∧ ws.tokenType = .whitespace ∧ s' = s ++ ws.text := by
  obtain ⟨c, r, hc, hr, rfl, σ, toks, hrun, hG⟩ := h
  obtain ⟨ws, h1, h2, h3⟩ := lex_trailing cc hcc hcc2 s c r hc hr σ toks hrun hG t hl
  exact ⟨ws, h1, h2, by rw [h3]⟩

/-- the parser's inputs are related by `TrailingSpace` -/
theorem C18_text_trailing_tokens (t : List LexerToken) (ws : LexerToken) (hw : ws.tokenType = .whitespace) :
    TrailingSpace (toP t) (toP (t ++ [ws])) := by
  have e : toP (t ++ [ws]) = toP t ++ toPFrom (0 + t.length) [ws] := toPFrom_append 0 t [ws]
  rw [e]
  refine .mk _ _ ?_
  intro w hwm
  simp only [toPFrom, List.mem_singleton] at hwm
  subst hwm
  simp [isTrimmable, hw]

/-- **every input** (no fragment): the parser returns exactly the same result, and so does the reference parser -/
theorem C18_text_trailing (cc : CharClass) (hcc : cc.SaneBlank) (hcc2 : cc.Sane2) (s s' : List Char)
    (t : List LexerToken) (hl : lex cc s = .ok t) (h : TextTrailingAt cc s s') :
    ∃ t', lex cc s' = .ok t' ∧ parse (toP t') = parse (toP t) ∧
      refParse Table.gen (toP t') = refParse Table.gen (toP t) := by
  obtain ⟨ws, h1, h2, _⟩ := C18_text_trailing_lex cc hcc hcc2 s s' t hl h
  have hts := C18_text_trailing_tokens t ws h2
  exact ⟨_, h1, C18_parse_trailingSpace hts, C18_refParse_trailingSpace Table.gen hts⟩

/-- text-reading nodes of the tree sit on tokens of the list -/
def TextNodesInRange (toks : List PToken) (rt : RTree) : Prop :=
  ∀ d k, (d, k) ∈ nodeDefs rt → readsText d = true → k < toks.length

theorem textAt_append_left (a b : List PToken) (k : Nat) (hk : k < a.length) : textAt (a ++ b) k = textAt a k := by
  unfold textAt
  rw [List.getElem?_append_left hk]

/-- **result half on `frag9'`**: if `s` lexes, is in the fragment, has the reference tree `rt`, elaborates to a well-formed
program `p` that evaluates to `v`, then BOTH texts are built into objects on which the machine halts with `v` and the
same host-call trace -/
theorem C18_text_trailing_result {F : Type} (pf : List Char → Option F) (cc : CharClass) (hcc : cc.SaneBlank)
    (hcc2 : cc.Sane2) (fo : FloatOps F) (host : Host F) (s s' : List Char) (t : List LexerToken) (hl : lex cc s = .ok t)
    (h : TextTrailingAt cc s s') (hf : frag9' (toP t) = true) (hf' : ∀ t', lex cc s' = .ok t' → frag9' (toP t') = true)
    (rt : RTree) (href : refParse Table.gen (toP t) = .ok rt) (hn : TextNodesInRange (toP t) rt)
    (p : Program F) (hel : elaborate pf (toP t) rt = some p) (hwf : C01.WFProgram p)
    (input : Val F) (fuel : Nat) (v : Val F) (st : St F) (he : evalProgram fo host fuel p input = .ok (v, st)) :
    ∀ src ∈ [s, s'], ∃ d entry, C01Text.buildText pf cc src = .ok (d, entry) ∧
      ∃ n m, run fo host (progOf d) n
          { pc := (progOf d).jumps[entry]?.getD 0, regs := [], vals := [input], frames := [], trace := [] } = (.halted m, n) ∧
        m.vals = [v] ∧ m.regs = [] ∧ m.frames = [] ∧ m.trace = st.trace := by
  obtain ⟨ws, hl', hw, _⟩ := C18_text_trailing_lex cc hcc hcc2 s s' t hl h
  have hts := C18_text_trailing_tokens t ws hw
  have href' : refParse Table.gen (toP (t ++ [ws])) = .ok rt := by
    rw [C18_refParse_trailingSpace Table.gen hts]; exact href
  have hel' : elaborate pf (toP (t ++ [ws])) rt = some p := by
    have e : toP (t ++ [ws]) = toP t ++ toPFrom (0 + t.length) [ws] := toPFrom_append 0 t [ws]
    rw [e, elaborate_congr pf (toP t ++ toPFrom (0 + t.length) [ws]) (toP t) rt
      (fun d k hm hr => textAt_append_left _ _ k (hn d k hm hr))]
    exact hel
  exact forall_mem_pair (C01Text.C01_text_correct pf cc fo host _ t hl hf rt href p hel hwf input fuel v st he)
    (C01Text.C01_text_correct pf cc fo host _ _ hl' (hf' _ hl') rt href' p hel' hwf input fuel v st he)

/-! ### the Rust tables; non-vacuity -/

theorem rustTables_saneBlank : rustTables.SaneBlank := rustTables_lit.toSaneBlank

/-- `x + y` followed by two blanks and a tab: licensed … -/
theorem exTrail : TextTrailingAt rustTables exS (exS ++ [' ', ' ', '\t']) :=
  ⟨' ', [' ', '\t'], Or.inl rfl, by simp, rfl, trailGuard_of_check (by rw [trailGuardB, theTree_eq]; decide +kernel)⟩

/-- … so the rewritten text lexes and parses to exactly the same result -/
example : ∃ t', lex rustTables (exS ++ [' ', ' ', '\t']) = .ok t' ∧ parse (toP t') = parse (toP exT) ∧
    refParse Table.gen (toP t') = refParse Table.gen (toP exT) :=
  C18_text_trailing rustTables rustTables_saneBlank rustTables_sane2 exS _ exT exS_lex.1 exTrail

/-- also after an operator, a closing bracket, a number with a pending period: `f(1.` -/
example : trailGuardB rustTables ['f', '(', ')'] = true ∧ trailGuardB rustTables ['1', '.'] = true ∧
    trailGuardB rustTables ['"', 's', '"'] = true := by
  refine ⟨?_, ?_, ?_⟩ <;> (rw [trailGuardB, theTree_eq]; decide +kernel)

/-- the guard excludes a line annotation (the blanks would join the comment) and an open char list -/
example : trailGuardB rustTables ['@', '@', 'n', 'o', 't', 'e'] = false ∧
    trailGuardB rustTables ['"', 'a'] = false := by
  refine ⟨?_, ?_⟩ <;> (rw [trailGuardB, theTree_eq]; decide +kernel)

end Garnish.Props.C18Text2
