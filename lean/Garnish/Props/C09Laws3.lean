/-
C09 — power, shift and increment laws for the 32-bit integer fragment (corollaries of exactness).
-/
import Garnish.Props.C09
namespace Garnish.Props.C09Laws
open Garnish Garnish.Number Garnish.Props.C09

variable {F : Type} (fo : FloatOps F)

/-- `a ** 0 = 1` and `a ** 1 = a` for every integer (including 0 and MIN). -/
theorem C09_int_power_zero (a : Int) (ha : InRange a) :
    power fo (.int a) (.int 0) = some (.int 1) := by
  have h0 : InRange 0 := by decide
  have h1 : InRange 1 := by decide
  rw [C09_int_power fo a 0 ha h0]; simp [Spec.pow, Spec.exact, h1]

theorem C09_int_power_one (a : Int) (ha : InRange a) :
    power fo (.int a) (.int 1) = some (.int a) := by
  have h1 : InRange 1 := by decide
  rw [C09_int_power fo a 1 ha h1]
  have e : a ^ (1:Int).toNat = a := by
    show a ^ (0 + 1) = a
    rw [Int.pow_succ, Int.pow_zero, Int.one_mul]
  simp only [Spec.pow, Spec.exact, e]; simp [ha]

/-- A defined power is the mathematical power; unit exactly on a negative exponent or an
unrepresentable result. -/
theorem C09_int_power_some (a b r : Int) (ha : InRange a) (hb : InRange b)
    (h : power fo (.int a) (.int b) = some (.int r)) : 0 ≤ b ∧ r = a ^ b.toNat ∧ InRange r := by
  rw [C09_int_power fo a b ha hb, Lemmas.map_int_eq_some, Spec.pow] at h
  split at h
  · cases h
  · rw [Lemmas.exact_eq_some] at h; exact ⟨by omega, h.1.symm, h.2⟩

/-- Shifting by zero is the identity; a count outside 0..31 gives unit in both directions. -/
theorem C09_int_shift_zero (a : Int) (ha : InRange a) :
    bitwiseShiftLeft (F := F) (.int a) (.int 0) = some (.int a) ∧
    bitwiseShiftRight (F := F) (.int a) (.int 0) = some (.int a) := by
  have h0 : InRange 0 := by decide
  rw [C09_int_shl a 0 ha h0, C09_int_shr a 0 ha h0]
  unfold InRange at ha
  refine ⟨?_, ?_⟩
  · simp [Spec.shl, wrap]; omega
  · simp [Spec.shr]

theorem C09_int_shift_count_out_of_range (a b : Int) (ha : InRange a) (hb : InRange b)
    (h : b < 0 ∨ 31 < b) :
    bitwiseShiftLeft (F := F) (.int a) (.int b) = none ∧
    bitwiseShiftRight (F := F) (.int a) (.int b) = none := by
  rw [C09_int_shl a b ha hb, C09_int_shr a b ha hb]
  have : ¬ (0 ≤ b ∧ b ≤ 31) := by omega
  simp [Spec.shl, Spec.shr, this]

/-- `++` then `--` returns the operand whenever the increment is representable (everything but MAX). -/
theorem C09_int_increment_decrement (a : Int) (ha : InRange a) (hmax : a ≠ 2147483647) :
    increment fo (.int a) = some (.int (a + 1)) ∧ decrement fo (.int (a + 1)) = some (.int a) := by
  have h1 : InRange (a + 1) := by unfold InRange at *; omega
  rw [C09_int_increment fo a ha, C09_int_decrement fo (a + 1) h1]
  have e : a + 1 - 1 = a := by omega
  simp [Spec.inc, Spec.dec, Spec.exact, h1, e, ha]

example : Spec.pow 2 31 = none ∧ Spec.pow 2 30 = some 1073741824 ∧ Spec.pow (-2) 31 = some (-2147483648) := by decide

end Garnish.Props.C09Laws
