/-
C01 over the RELATIVISED store contract `StoreLawsOn S Inv Readable` (Model/Runtime/StoreOn.lean) — the contract the
two concrete data objects can meet (`C01_simpleStore_lawsOn` for `SimpleGarnishData`).

`C01_refine_step_on`: one step of `execute_current_instruction` from an `Inv`-state simulates one step of Abs/Machine
and re-establishes `Inv`; `C01_refine_run_on` / `C01_refine_run_value_on`: the loop follows the machine's run.
COVERED instructions (`MachOKOn ≠ False`): Invalid, Put, PutValue, PushValue, UpdateValue, JumpTo, JumpIfTrue,
JumpIfFalse, EndExpression. Their side conditions (machine state only) are what the relativisation costs:
* a value that is pushed on a stack is not `custom` (`readable`: in Simple a `StackFrame` cell also has type Custom);
* a pop stays above the registers the newest frame saved (`MDeep`; holds for code that pops only what it pushed);
* the outermost `EndExpression` leaves no other register (Simple's `pop_frame` empties the registers there, so the
  halted state's registers are related only in this case; compiled programs end so: `C01_text_correct` gives
  `m.regs = []`).
NOT covered here (`MachOKOn` is `False` for them): every other instruction. The coverage predicates `MachOKOn1..4` add them group
by group, each with its side conditions (Props/RuntimeRefineOn1..4 say which): besides the above, for Concat / Access-with-merge /
symbol look-up in lists the premises of `addConcatenation` / `mergeSome` / `ListSymOn`, and for the host calls an
`Inv`-preservation clause for `HostRefines` (`HostRefinesI`). All of them are instances of ONE step theorem over the guarded
contract (`Core.refine_step`, Lemmas/RuntimeStepAll.lean).
`StoreLawsRun.toOn`: every store with the unrelativised contract is an instance (`Inv = Readable = True`).
-/
import Garnish.Lemmas.RuntimeRun
import Garnish.Lemmas.RuntimeOnHandlers
namespace Garnish.Props.RuntimeRefine
open Garnish Gen Garnish.Abs Garnish.Model.Equality Garnish.Model.Runtime Garnish.Lemmas.Runtime
open Garnish.Lemmas.Runtime.On

variable {F σ : Type} {S : RStore F σ} {Inv : σ → Prop} {Rd : σ → Nat → Prop} {P : Prog F} {host : Host F}
  (fo : FloatOps F)

/-- ONE STEP over the relativised contract -/
theorem C01_refine_step_on (L : StoreLawsOn S Inv Rd) (fuel : Nat) (H : OtherHandlers σ) {s : σ} {m : MState F}
    (hsim : Sim S P s m) (hi : Inv s) (hl : Loaded S P s) {instr : Instruction} {operand : Option Nat}
    (hfetch : P.instrs[m.pc]? = some (instr, operand)) (hok : MachOKOn P m instr operand) :
    StepSimOn fo host S Inv P fuel H s m := refine_step_on fo L fuel H hsim hi hl hfetch hok

/-- MULTI-STEP over the relativised contract: `Sim` and `Inv` are kept along the run -/
theorem C01_refine_run_on (L : StoreLawsOn S Inv Rd) (fuel : Nat) (H : OtherHandlers σ) (n : Nat) {s : σ}
    {m : MState F} (hsim : Sim S P s m) (hi : Inv s) (hl : Loaded S P s) (hok : RunOKOn fo host P n m)
    {m' : MState F} {k : Nat} (hrun : Abs.run fo host P n m = (.halted m', k)) :
    ∃ s', executeLoop fo S fuel H n s = .ok ((.end_, k), s') ∧ SimD S P s' m'.regs m'.vals m'.frames ∧
      DecKept S s s' ∧ Inv s' := executeLoop_spec_on fo L fuel H n s m hsim hi hl hok m' k hrun

/-- the final value -/
theorem C01_refine_run_value_on (L : StoreLawsOn S Inv Rd) (fuel : Nat) (H : OtherHandlers σ) (n : Nat) {s : σ}
    {m : MState F} (hsim : Sim S P s m) (hi : Inv s) (hl : Loaded S P s) (hok : RunOKOn fo host P n m)
    {m' : MState F} {k : Nat} (hrun : Abs.run fo host P n m = (.halted m', k)) {v : Val F}
    (hv : m'.vals = [v]) (hr : m'.regs = []) (hf : m'.frames = []) :
    ∃ s' a, executeLoop fo S fuel H n s = .ok ((.end_, k), s') ∧
      S.vals s' = [a] ∧ Decodes (S.view s') a v ∧ S.regs s' = [] ∧ S.frames s' = [] ∧ Inv s' := by
  obtain ⟨s', h1, hd, _, i'⟩ := C01_refine_run_on fo L fuel H n hsim hi hl hok hrun
  obtain ⟨a, h2, h3, h4, h5⟩ := simD_final hd hv hr hf
  exact ⟨s', a, h1, h2, h3, h4, h5, i'⟩

end Garnish.Props.RuntimeRefine
