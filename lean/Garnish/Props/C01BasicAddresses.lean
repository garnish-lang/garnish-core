/-
The addresses the REAL builder emits into a fresh `BasicGarnishData` (observed on the crate: lex → parse → build into
`BasicGarnishData::new(NoOpCompanion)`, instruction operands and data block printed)
against `relocBy` along Basic's own address map (Lemmas/BasicBuilderIntern.lean):
* `1 + 1`           real: `Put 0; Put 1; Add; EndExpression`, data `[Number 1, Number 1]` — no sharing (Simple: `Put 3; Put 3`)
* `$ ?> () |> 1`    real: `PutValue; JumpIfTrue 1; Put 0; EndExpression; Put 1; JumpTo 2`, jumps `[0,4,3]`,
                    data `[Number 1, Unit]` — the `()` literal is pushed like any constant (Simple: preallocated cell 0)
* `{ $ + 1 } <~ 5`  real: `Put 0; Put 1; Apply; EndExpression; PutValue; Put 2; Add; EndExpression`, jumps `[0,4]`,
                    data `[Expression 1, Number 5, Number 1]`
* `"ab" + 1`        real: `Put 0; Put 3; Add; EndExpression`, data `[CharList 2, Char a, Char b, Number 1]` — a char
                    list occupies `1 + n` cells
* `"ab" + x`        real: `Put 0; Resolve 3; Add; EndExpression`,
                    data `[CharList 2, Char a, Char b, Symbol _, CharList 1, Char x]` — a symbol is followed by its text
                    (these two are checked on the written-out programs `progCharList` / `progSymbol`: evaluating the
                    lexer on a string literal / the symbol hash in the kernel is out of reach)
So Basic's builder path differs from Simple's in kind, not in the cache decision: nothing is shared, nothing preallocated,
constants have a footprint; for programs without char lists, byte lists and symbols the addresses are the model
builder's own 0-based indexes (`basicBuilderAddr_single`).
-/
import Garnish.Lemmas.BasicBuilderIntern
import Garnish.Props.C01BuilderAddresses
namespace Garnish.Props.C01TextStore
open Garnish Garnish.Gen Garnish.Abs Garnish.Abs.Tree Garnish.Model Garnish.Model.Build Garnish.Props.C01Build Garnish.Props.C01Text
open Garnish.Lemmas.Runtime.On Garnish.Lemmas.BasicBuilderIntern

variable {F : Type}

/-- the program the Rust builder leaves in a fresh `BasicGarnishData`; `symText k` = the text of the `k`-th constant when
it is a symbol -/
def basicRealProg (symText : Nat → List Nat) (P : Prog F) : Prog F :=
  relocBy (basicBuilderAddr symText P) (basicBuilderData symText P) P

/-- the value-level machine does not see the difference -/
theorem C01_basic_builder_run_agrees (symText : Nat → List Nat) (fo : FloatOps F) (host : Host F) (P : Prog F) (n : Nat)
    (m : MState F) : Abs.run fo host (basicRealProg symText P) n m = Abs.run fo host P n m :=
  run_relocBy fo host (basic_builder_constsAgree symText P) n m

/-- `1 + 1`: two cells, `Put 0; Put 1` -/
theorem basic_real_equal_literals :
    (builtProg "1 + 1").map (fun P => ((basicRealProg (fun _ => []) P).instrs.toList, (basicRealProg (fun _ => []) P).consts.toList)) =
      some ([(.put, some 0), (.put, some 1), (.add, none), (.endExpression, none)], [.num (.int 1), .num (.int 1)]) := by
  rw [builtProg_equal_literals]; rfl

/-- `$ ?> () |> 1`: the `()` literal is a pushed cell -/
theorem basic_real_unit_literal :
    (builtProg "$ ?> () |> 1").map (fun P =>
        ((basicRealProg (fun _ => []) P).instrs.toList, (basicRealProg (fun _ => []) P).consts.toList)) =
      some ([(.putValue, none), (.jumpIfTrue, some 1), (.put, some 0), (.endExpression, none), (.put, some 1),
        (.jumpTo, some 2)], [.num (.int 1), .unit]) := by
  rw [builtProg_unit_literal]; rfl

/-- `{ $ + 1 } <~ 5` -/
theorem basic_real_nested :
    (builtProg "{ $ + 1 } <~ 5").map (fun P =>
        ((basicRealProg (fun _ => []) P).instrs.toList, (basicRealProg (fun _ => []) P).consts.toList)) =
      some ([(.put, some 0), (.put, some 1), (.apply, none), (.endExpression, none), (.putValue, none),
        (.put, some 2), (.add, none), (.endExpression, none)], [.expr 1, .num (.int 5), .num (.int 1)]) := by
  rw [builtProg_nested]; rfl

/-- the program the model builder makes of `"ab" + 1` (constants `"ab"`, `1`; evaluating the lexer on the string literal in
the kernel is out of reach, so the program is written out): the char list occupies three cells, the number sits at 3 -/
def progCharList : Prog Float :=
  { instrs := #[(.put, some 0), (.put, some 1), (.add, none), (.endExpression, none)], jumps := #[0],
    consts := #[.chars [97, 98], .num (.int 1)] }

theorem basic_real_footprints :
    ((basicRealProg (fun _ => []) progCharList).instrs.toList, (basicRealProg (fun _ => []) progCharList).consts.toList) =
      ([(.put, some 0), (.put, some 3), (.add, none), (.endExpression, none)],
        [.chars [97, 98], .char 97, .char 98, .num (.int 1)]) := by rfl

/-- a symbol constant is followed by its text: `x` (text `[120]`) after `"ab"` sits at 3 and the block has six cells -/
def progSymbol : Prog Float :=
  { instrs := #[(.put, some 0), (.resolve, some 1), (.add, none), (.endExpression, none)], jumps := #[0],
    consts := #[.chars [97, 98], .sym 7] }

theorem basic_real_symbol_text :
    ((basicRealProg (fun k => if k = 1 then [120] else []) progSymbol).instrs.toList,
      (basicRealProg (fun k => if k = 1 then [120] else []) progSymbol).consts.toList) =
      ([(.put, some 0), (.resolve, some 3), (.add, none), (.endExpression, none)],
        [.chars [97, 98], .char 97, .char 98, .sym 7, .chars [120], .char 120]) := by rfl

end Garnish.Props.C01TextStore
