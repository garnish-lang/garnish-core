/-
C18, the RESULT half of "wrapping a sub-expression in parentheses" — the positive, guarded theorem.

Props/C18Wrap.lean shows that a licensed wrap keeps the reference tree up to `( )` nodes (`TreeEqGroups`) and that this is NOT
enough for the result: `C18_wrap_list_prefix_result_differs` (`1, 2, 3` vs `(1, 2), 3`).  Here: the exact guard under which it is.

`safe T` (Lemmas/WrapElab.lean, executable): every `( )` node of the tree is REDUNDANT for the elaboration — its content is
  (L) not a list of the parent's own kind, when it is an operand of `,` / of the space list   [`(a, b), c` ≠ `a, b, c`: the witness]
  (C) not a conditional / else-chain, when it is the left operand of `&&` / `||` or the final arm of `|>`   [parentheses needed]
  (E) not the left operand of `|>` at all   [`(c ?> t) |> e` is not an else-chain: elaboration undefined]
  (S) not a side-effect block directly after a value   [`v ([b])`]
  and not empty.  In every other position — operand of any unary / binary operator, of `=`, `~>`, `;`, of a conditional, item of a
  list of the other kind, body of `{ }` or of `[ ]`, inside other parentheses, the whole program — parentheses are transparent.
`TextEq` (Lemmas/WrapElab.lean, executable `textEqB`): two trees have the same shape and definitions, the same token text at
corresponding positions, the same names for corresponding nested bodies.

  C18_wrap_go_same          `go` (the elaboration pass) computes the same expression and bodies on a safe tree and on the tree
                            without its parentheses (`go_ungroup`), for EVERY tree: all operator classes, lists, conditionals,
                            else-chains, nested bodies, side-effect blocks
  C18_wrap_elabWith_same    two safe trees that agree, parentheses removed, up to positions elaborate to the same program
  C18_wrap_result_same      … stated for `refParse` / `elaborate` / `evalProgram`: same program, hence the same evaluated result
                            (value and host-call trace), for every input, host and fuel
  C18_wrap_result_same_of_treeEq / C18_wrapValue_result_same
                            the same from `TreeEqGroups` — the conclusion of the tree half (Props/C18Wrap.lean) — plus the flat
                            condition "same sequence of token texts and body names along the two trees"
  C18_wrap_guard_tight      the guard is tight: the tree of `(1, 2), 3` violates exactly (L), everything else of the hypotheses
                            holds, and the results differ (`C18_wrap_list_prefix_result_differs`)
What remains (hypotheses here, decidable, `by decide` on concrete lists): (i) that the token texts along the two trees agree
(`TextEq`, or its flat form `texts a (ungroup T) = texts b (ungroup T')`) is not derived from the token-level rewrite
`pre ++ mid ++ post ↦ pre ++ ( :: mid ++ ) :: post`: `C18_refParse_wrapOperand` gives equality up to positions (`TreeEqGroups`) but
does not export which position of the one list corresponds to which of the other; (ii) `safe` is a condition on the reference
TREE, not yet on the token list (for `wrapValueOK` / `wrapOK_group` wraps clause (L)/(C)/(E) would read: the wrapped tokens are not
a comma / space list next to a `,` / list whitespace, not a conditional next to `&&` `||` `|>`).
-/
import Garnish.Lemmas.WrapElab
import Garnish.Props.C18Wrap
namespace Garnish.Props.C18WrapResult
open Garnish Garnish.Gen Garnish.Spec Garnish.Abs Garnish.Abs.Source Garnish.Model.Parser Garnish.Props.C02Parse
open Garnish.Props.C18Parse Garnish.Props.C18Wrap Garnish.Props.C01Source Garnish.Props.C01Build

variable {F : Type} (pf : List Char → Option F)

/-- **parentheses that are redundant do not change what the elaboration pass computes**: expression and bodies of a safe tree are
those of the tree without its `( )` nodes -/
theorem C18_wrap_go_same (κ : Nat → Nat) (toks : List PToken) (T : RTree) (hs : safe T = true) :
    (go pf κ toks T).map (fun x => (x.e, x.bodies)) = (go pf κ toks (ungroup T)).map (fun x => (x.e, x.bodies)) := by
  rw [go_ungroup pf κ toks T hs]
  cases go pf κ toks (ungroup T) with
  | none => rfl
  | some x => simp [fixP_e, fixP_bodies]

/-- **the guarded theorem, any naming of the bodies** -/
theorem C18_wrap_elabWith_same (toks toks' : List PToken) (κ κ' : Nat → Nat) (T T' : RTree) (hs : safe T = true)
    (hs' : safe T' = true) (he : TextEq toks toks' κ κ' (ungroup T) (ungroup T')) :
    elabWith pf κ toks T = elabWith pf κ' toks' T' := by
  unfold elabWith
  rw [go_ungroup pf κ toks T hs, go_ungroup pf κ' toks' T' hs', go_textEq pf _ _ he]
  cases go pf κ' toks' (ungroup T') with
  | none => rfl
  | some x => simp [fixP_e, fixP_bodies]

/-- … with the bodies named in source order, and by their jump entries -/
theorem C18_wrap_elaborate_same (toks toks' : List PToken) (T T' : RTree) (hs : safe T = true) (hs' : safe T' = true)
    (he : TextEq toks toks' (srcName T) (srcName T') (ungroup T) (ungroup T')) :
    elabSrc pf toks T = elabSrc pf toks' T' ∧ elaborate pf toks T = elaborate pf toks' T' := by
  have h1 : elabSrc pf toks T = elabSrc pf toks' T' := C18_wrap_elabWith_same pf toks toks' _ _ T T' hs hs' he
  refine ⟨h1, ?_⟩
  unfold elaborate
  rw [h1]
  cases elabSrc pf toks' T' with
  | none => rfl
  | some p0 => exact C18_wrap_elabWith_same pf toks toks' _ _ T T' hs hs' (he.map (canonName p0))

/-- **C18, wrapping in parentheses leaves the evaluated result unchanged — under the guard**: two token lists whose reference
trees have only redundant parentheses and agree, parentheses removed, up to positions (the wrapped list and the original: `T'` is
`T` with `( )` nodes added) elaborate to the SAME program; hence the reference evaluator gives the same outcome — value, final
input value and host-call trace, or the same error — for every input, host and fuel -/
theorem C18_wrap_result_same (fo : FloatOps F) (host : Host F) (a b : List PToken) (T T' : RTree)
    (_ha : refParse Table.gen a = .ok T) (_hb : refParse Table.gen b = .ok T') (hs : safe T = true) (hs' : safe T' = true)
    (he : TextEq a b (srcName T) (srcName T') (ungroup T) (ungroup T')) :
    elaborate pf a T = elaborate pf b T' ∧
    ∀ (fuel : Nat) (input : Val F),
      (elaborate pf a T).map (fun p => evalProgram fo host fuel p input) =
        (elaborate pf b T').map (fun p => evalProgram fo host fuel p input) := by
  have h := (C18_wrap_elaborate_same pf a b T T' hs hs' he).2
  exact ⟨h, fun fuel input => by rw [h]⟩

/-! ### from `TreeEqGroups` (what the tree half of C18 proves) -/

/-- the hypothesis `TextEq` in flat form: the trees are equal up to positions and `( )` nodes (`TreeEqGroups`: the conclusion of
`C18_refParse_wrapValue` / `C18_refParse_wrapGroup` / `C18_refParse_wrapOperand`), and the SEQUENCES of token texts and of body
names along the trees agree — wrapping changes neither -/
theorem C18_wrap_result_same_of_treeEq (fo : FloatOps F) (host : Host F) (a b : List PToken) (T T' : RTree)
    (hT : TreeEqGroups T T') (hs : safe T = true) (hs' : safe T' = true)
    (ht : texts a (ungroup T) = texts b (ungroup T'))
    (hn : names (srcName T) (ungroup T) = names (srcName T') (ungroup T')) :
    elaborate pf a T = elaborate pf b T' ∧
    ∀ (fuel : Nat) (input : Val F),
      (elaborate pf a T).map (fun p => evalProgram fo host fuel p input) =
        (elaborate pf b T').map (fun p => evalProgram fo host fuel p input) := by
  have he : TextEq a b (srcName T) (srcName T') (ungroup T) (ungroup T') :=
    textEq_of_flat _ _ (by rw [eraseTok_ungroup, eraseTok_ungroup]; exact hT) ht hn
  have h := (C18_wrap_elaborate_same pf a b T T' hs hs' he).2
  exact ⟨h, fun fuel input => by rw [h]⟩

/-- **a value token in parentheses: tree half and result half together** — under the syntactic condition `wrapValueOK` of
Props/C18Wrap.lean the two lists have the same reference tree up to `( )` nodes; if that tree's parentheses are redundant
(`safe`: a value is never a list or a conditional, so the new pair passes every clause but (S); the other parentheses of the
list have to be redundant too) and the token texts agree along the trees, the programs and the results are the same -/
theorem C18_wrapValue_result_same (fo : FloatOps F) (host : Host F) {pre post : List PToken} {v o c : PToken} {T T' : RTree}
    (hw : wrapValueOK pre v post = true) (ho : o.type = .startGroup) (hc : c.type = .endGroup)
    (hn : NoTrim (pre ++ ([v] ++ post))) (hn' : NoTrim (pre ++ o :: ([v] ++ c :: post)))
    (href : refParse Table.gen (pre ++ ([v] ++ post)) = .ok T)
    (href' : refParse Table.gen (pre ++ o :: ([v] ++ c :: post)) = .ok T')
    (hs : safe T = true) (hs' : safe T' = true)
    (ht : texts (pre ++ ([v] ++ post)) (ungroup T) = texts (pre ++ o :: ([v] ++ c :: post)) (ungroup T'))
    (hnm : names (srcName T) (ungroup T) = names (srcName T') (ungroup T')) :
    elaborate pf (pre ++ ([v] ++ post)) T = elaborate pf (pre ++ o :: ([v] ++ c :: post)) T' ∧
    ∀ (fuel : Nat) (input : Val F),
      (elaborate pf (pre ++ ([v] ++ post)) T).map (fun p => evalProgram fo host fuel p input) =
        (elaborate pf (pre ++ o :: ([v] ++ c :: post)) T').map (fun p => evalProgram fo host fuel p input) := by
  have h := C18_refParse_wrapValue hw ho hc hn hn' href
  rw [href, href'] at h
  exact C18_wrap_result_same_of_treeEq pf fo host _ _ T T' h hs hs' ht hnm

/-! ### non-vacuity -/

/-- `1 + 2, 3` and `(1 + (2)), 3`: parentheses around an operand of `+` and around an item that is not a comma list -/
def exW : List PToken :=
  [tk .number "1" 0, tk .plusSign "+" 1, tk .number "2" 2, tk .comma "," 3, tk .number "3" 4]
def exW' : List PToken :=
  [tk .startGroup "(" 0, tk .number "1" 1, tk .plusSign "+" 2, tk .startGroup "(" 3, tk .number "2" 4, tk .endGroup ")" 5,
   tk .endGroup ")" 6, tk .comma "," 7, tk .number "3" 8]

def treeW : RTree :=
  .node (.node (.node .nil .number 0 .nil) .addition 1 (.node .nil .number 2 .nil)) .commaList 3 (.node .nil .number 4 .nil)
def treeW' : RTree :=
  .node (.group .group 0 (.node (.node .nil .number 1 .nil) .addition 2 (.group .group 3 (.node .nil .number 4 .nil))))
    .commaList 7 (.node .nil .number 8 .nil)

theorem exW_ref : refParse Table.gen exW = .ok treeW ∧ refParse Table.gen exW' = .ok treeW' := ⟨rfl, rfl⟩
theorem exW_safe : safe treeW = true ∧ safe treeW' = true := by decide
theorem exW_text : TextEq exW exW' (srcName treeW) (srcName treeW') (ungroup treeW) (ungroup treeW') :=
  textEqB_sound _ _ (by decide)

/-- the same program — `[1 + 2, 3]` — and therefore the same result -/
example : elaborate noFloat exW treeW = elaborate noFloat exW' treeW' ∧
    (elaborate noFloat exW' treeW').map (·.main) = some (.list [.binary .add (int 1) (int 2), int 3]) :=
  ⟨(C18_wrap_elaborate_same noFloat exW exW' treeW treeW' exW_safe.1 exW_safe.2 exW_text).2, rfl⟩

example (fo : FloatOps Float) (host : Host Float) (fuel : Nat) (input : Val Float) :
    (elaborate noFloat exW treeW).map (fun p => evalProgram fo host fuel p input) =
      (elaborate noFloat exW' treeW').map (fun p => evalProgram fo host fuel p input) :=
  (C18_wrap_result_same noFloat fo host exW exW' treeW treeW' exW_ref.1 exW_ref.2 exW_safe.1 exW_safe.2 exW_text).2 fuel input

/-! ### the guard is tight -/

def treeL : RTree :=
  .node (.node (.node .nil .number 0 .nil) .commaList 1 (.node .nil .number 2 .nil)) .commaList 3 (.node .nil .number 4 .nil)
def treeL' : RTree :=
  .node (.group .group 0 (.node (.node .nil .number 1 .nil) .commaList 2 (.node .nil .number 3 .nil))) .commaList 5
    (.node .nil .number 6 .nil)

/-- **tightness**: for `1, 2, 3` ↦ `(1, 2), 3` (the witness `C18_wrap_list_prefix_result_differs`) every hypothesis of
`C18_wrap_result_same` holds except clause (L) of the guard — the wrapped expression is a comma list and sits as the left
operand of a comma — and the elaborated programs differ -/
theorem C18_wrap_guard_tight :
    refParse Table.gen exL = .ok treeL ∧ refParse Table.gen exL' = .ok treeL' ∧ safe treeL = true ∧
    TextEq exL exL' (srcName treeL) (srcName treeL') (ungroup treeL) (ungroup treeL') ∧
    safe treeL' = false ∧
    leftSafe .commaList (.group .group 0 (.node (.node .nil .number 1 .nil) .commaList 2 (.node .nil .number 3 .nil))) = false ∧
    (elaborate noFloat exL treeL).map (·.main) ≠ (elaborate noFloat exL' treeL').map (·.main) := by
  refine ⟨rfl, rfl, by decide, textEqB_sound _ _ (by decide), by decide, by decide, ?_⟩
  have h1 : (elaborate noFloat exL treeL).map (·.main) = some (.list [int 1, int 2, int 3]) := rfl
  have h2 : (elaborate noFloat exL' treeL').map (·.main) = some (.list [.list [int 1, int 2], int 3]) := rfl
  rw [h1, h2]
  intro h
  injection h with h
  injection h with h
  have := congrArg List.length h
  simp at this

end Garnish.Props.C18WrapResult
