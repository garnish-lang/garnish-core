/-
Property C03 — the compile pipeline is total.

"For every input string, `lex`, then `parse` on its tokens, then `build` on the parse result (into either data
implementation) each return promptly - in time polynomial in the input length - with either Ok or an Err value.
None of them panics, overflows the stack, or fails to terminate, whatever the text contains."

Models: Garnish.Model.Lexer (lexer.rs), Garnish.Model.Parser (parser.rs), Garnish.Model.Build (build.rs, value-level data
object: the statement does not depend on which of the two data implementations is written into).  The models are
structurally recursive functions (no `partial`), so "overflows the stack / fails to terminate" is `Outcome.fuelOut`
(a loop of the Rust that is still running when the model's fuel is used up) and "panics" is `Outcome.panic`.

Proved:
  * `C03_lex_total`, `C03_lex_cost`: `lex` returns `ok` or `err` for every input, stepping its state machine at most
    `|s| + 2` times;
  * `C03_parse_total`: `parse` returns `ok` or `err` for every token list (its parent walks are capped by the node count);
  * `C03_build_total`: `build`, run with the explicit step bound `defaultFuel n = 20·n + 100` for each of its two
    work-list loops, returns `ok` or `err` for EVERY node vector and root index (proper tree or not — the validation
    pass `validate_parse_tree` rejects everything else) whose Symbol and ByteList token texts have the shape the lexer
    gives them (`LexShaped`); in particular it never panics and never runs out of fuel:
    `C03_build_no_panic`, `C03_build_terminates`.  Proof (Lemmas/BuildTotal*.lean): `validate_parse_tree = ok` establishes
    a tree (`validateParseTree_ok`); on it every node goes through the phases unscheduled → [arm of an else-chain] →
    [pending root] → first visit pending → [second visit pending] → done and is scheduled only by its unique parent in
    one fixed visit; the potential `Σ rank(phase)` starts below `5·n` and drops in every iteration of either loop;
    every index the traversal touches is a marked node, hence in range.
  * `C03_pipeline_total`: the three stages composed.
The literal hypothesis is exact: `build` DOES panic on a Symbol token whose text is empty or starts with a multi-byte
character (`&text[1..]`) and on a multi-quote ByteList token whose closing quotes are unbalanced around a multi-byte
character (`&input[q..len-q]`); the lexer never produces such tokens (an unterminated literal is a lex error), which the
LEX suite checks against the implementation.  Number and CharList texts need no hypothesis.
Cost: lexing is linear, parsing at most quadratic in the number of tokens (two capped walks per token), building linear
in the number of nodes (at most `5·n` loop iterations in total, `validate_parse_tree` at most `n + 1`).
-/
import Garnish.Lemmas.Lexer
import Garnish.Lemmas.Parser
import Garnish.Lemmas.BuildTotalLits
namespace Garnish.Props.C03
open Garnish Garnish.Gen Garnish.Model.Lexer Garnish.Model.Parser Garnish.Model.Build Garnish.Model.Literals Garnish.Lemmas.Build
open Garnish.Lemmas.BuildTotal

/-- the outcome is a value or an error value: no panic, no non-termination -/
def Returns {α : Type} (o : Outcome α) : Prop := (∃ a, o = .ok a) ∨ (∃ e, o = .err e)

theorem returns_of_safe {α : Type} {o : Outcome α} (h : Garnish.Model.Parser.Safe o) : Returns o := by
  cases o with
  | ok a => exact Or.inl ⟨a, rfl⟩
  | err e => exact Or.inr ⟨e, rfl⟩
  | panic s => exact absurd h (by simp)
  | fuelOut => exact absurd h (by simp)

theorem Returns.ne_panic {α : Type} {o : Outcome α} (h : Returns o) (s : String) : o ≠ .panic s := by
  rcases h with ⟨a, h⟩ | ⟨e, h⟩ <;> rw [h] <;> intro h' <;> cases h'

theorem Returns.ne_fuelOut {α : Type} {o : Outcome α} (h : Returns o) : o ≠ .fuelOut := by
  rcases h with ⟨a, h⟩ | ⟨e, h⟩ <;> rw [h] <;> intro h' <;> cases h'

/-- `LexerToken` of the lexer model as the token type of the parser model -/
def toPToken (t : LexerToken) : PToken := ⟨t.text, t.tokenType, t.row, t.column⟩

/-! ### lexer and parser (re-exports) -/

/-- lexing is total (Lemmas/Lexer.lean) -/
theorem C03_lex_total (cc : CharClass) (hcc : cc.Sane) (input : List Char) : Returns (lex cc input) := by
  rcases lex_total cc hcc input with h | ⟨toks, h⟩
  · exact Or.inr ⟨_, h⟩
  · exact Or.inl ⟨_, h⟩

/-- cost of lexing: the state machine is stepped once per input character plus at most two end-of-input steps -/
theorem C03_lex_cost (cc : CharClass) (hcc : cc.Sane) (input : List Char) :
    lexFull cc input = .err .syntax ∨
    ∃ toks s', lexFull cc input = .ok (toks, s') ∧
      (s'.charactersLexed = input.length + 1 ∨ s'.charactersLexed = input.length + 2) :=
  lexFull_total cc hcc input

/-- parsing is total (Lemmas/Parser.lean); per token the two parent walks are capped by `nodes.size + 1` iterations -/
theorem C03_parse_total (tokens : List PToken) : Returns (parse tokens) := returns_of_safe (parse_safe tokens)

/-! ### the builder -/

/-- the validation prefix of `build` is total: at most `nodes.size + 1` iterations, no panic -/
theorem C03_validate_total (root : Nat) (nodes : Array ParseNode) : Returns (validateParseTree root nodes) :=
  good_returns (validateParseTree_good root nodes)

/-- what a successful validation establishes, in the form of in-range links -/
theorem C03_validated_links {root : Nat} {tree : Array ParseNode} (h : validateParseTree root tree = .ok ()) :
    root < tree.size ∧ ∃ G : Nat → Prop, G root ∧
      ∀ i, G i → ∃ pn, tree[i]? = some pn ∧ (∀ c, pn.left = some c → c < tree.size ∧ G c) ∧
        (∀ c, pn.right = some c → c < tree.size ∧ G c) :=
  validateParseTree_links h

/-- every node of the vector carries a lexer-shaped token text (only Symbol and ByteList nodes are constrained) -/
def NodesShaped (nodes : Array ParseNode) : Prop :=
  ∀ (i : Nat) (pn : ParseNode), nodes[i]? = some pn → LexShaped pn

variable {F : Type}

/-- C03 for the builder: for every node vector and root index whose Symbol / ByteList texts are lexer-shaped, `build`
with the step bound `defaultFuel n = 20·n + 100` returns `ok` or `err` -/
theorem C03_build_total (parseFloat : List Char → Option F) (root : Nat) (nodes : Array ParseNode) (d : BState F)
    (hshape : NodesShaped nodes) : Returns (build parseFloat (defaultFuel nodes.size) root nodes d) :=
  good_returns (build_total_shaped parseFloat root nodes hshape d)

theorem C03_build_no_panic (parseFloat : List Char → Option F) (root : Nat) (nodes : Array ParseNode) (d : BState F)
    (hshape : NodesShaped nodes) (site : String) : build parseFloat (defaultFuel nodes.size) root nodes d ≠ .panic site :=
  (C03_build_total parseFloat root nodes d hshape).ne_panic site

theorem C03_build_terminates (parseFloat : List Char → Option F) (root : Nat) (nodes : Array ParseNode) (d : BState F)
    (hshape : NodesShaped nodes) : build parseFloat (defaultFuel nodes.size) root nodes d ≠ .fuelOut :=
  (C03_build_total parseFloat root nodes d hshape).ne_fuelOut

/-- the same with the semantic literal condition instead of the syntactic shape: the two slicing operations of the
literal layer succeed on the texts of Symbol and ByteList nodes -/
theorem C03_build_total_litSafe (parseFloat : List Char → Option F) (root : Nat) (nodes : Array ParseNode) (d : BState F)
    (hlit : ∀ (i : Nat) (pn : ParseNode), nodes[i]? = some pn → LitSafe parseFloat pn) :
    Returns (build parseFloat (defaultFuel nodes.size) root nodes d) :=
  good_returns (build_total parseFloat hlit d)

/-! ### the pipeline -/

/-- C03 on the models: for every string each stage returns `ok` or `err`; for the builder under the hypothesis that
the Symbol / ByteList nodes of the parse result carry lexer-shaped texts -/
theorem C03_pipeline_total (cc : CharClass) (hcc : cc.Sane) (parseFloat : List Char → Option F) (s : List Char) (d : BState F) :
    Returns (lex cc s) ∧
    ∀ toks, lex cc s = .ok toks →
      Returns (parse (toks.map toPToken)) ∧
      ∀ r, parse (toks.map toPToken) = .ok r → NodesShaped r.nodes →
        Returns (build parseFloat (defaultFuel r.nodes.size) r.root r.nodes d) :=
  ⟨C03_lex_total cc hcc s, fun toks _ => ⟨C03_parse_total _, fun r _ hsh => C03_build_total parseFloat r.root r.nodes d hsh⟩⟩

/-- what is still assumed rather than proved about the front end: the parser copies token texts into nodes unchanged and
the lexer gives Symbol / ByteList tokens the shape `LexShaped` asks for -/
def C03_front_end_shape_statement : Prop :=
  ∀ (cc : CharClass), cc.Sane → ∀ (s : List Char) toks r, lex cc s = .ok toks → parse (toks.map toPToken) = .ok r →
    NodesShaped r.nodes

/-! ### the stage statements as propositions; evidence/C03.json lists them -/

abbrev LexerShaped := LexShaped

/-- the `build` stage alone, for arbitrary node vectors -/
def C03_build_total_statement (F : Type) : Prop :=
  ∀ (parseFloat : List Char → Option F) (root : Nat) (nodes : Array ParseNode) (d : BState F),
    (∀ (i : Nat) (pn : ParseNode), nodes[i]? = some pn → LexerShaped pn) →
    Returns (build parseFloat (defaultFuel nodes.size) root nodes d)

theorem C03_build_total_statement_proved : C03_build_total_statement F :=
  fun parseFloat root nodes d h => C03_build_total parseFloat root nodes d h

/-- C03 on the models without any side condition -/
def C03_pipeline_total_statement (F : Type) : Prop :=
  ∀ (cc : CharClass), cc.Sane → ∀ (parseFloat : List Char → Option F) (s : List Char) (d : BState F),
    Returns (lex cc s) ∧
    ∀ toks, lex cc s = .ok toks →
      Returns (parse (toks.map toPToken)) ∧
      ∀ r, parse (toks.map toPToken) = .ok r →
        Returns (build parseFloat (defaultFuel r.nodes.size) r.root r.nodes d)

/-- the unconditional pipeline statement follows from the front-end shape fact (the only part not proved in Lean) -/
theorem C03_pipeline_total_of_shape (hshape : C03_front_end_shape_statement) : C03_pipeline_total_statement F := by
  intro cc hcc parseFloat s d
  refine ⟨C03_lex_total cc hcc s, fun toks ht => ⟨C03_parse_total _, fun r hr => ?_⟩⟩
  exact C03_build_total parseFloat r.root r.nodes d (hshape cc hcc s toks r ht hr)

theorem C03_pipeline_total_partial (cc : CharClass) (hcc : cc.Sane) (parseFloat : List Char → Option F) (s : List Char)
    (d : BState F) :
    Returns (lex cc s) ∧
    ∀ toks, lex cc s = .ok toks →
      Returns (parse (toks.map toPToken)) ∧
      ∀ r, parse (toks.map toPToken) = .ok r → NodesShaped r.nodes →
        Returns (build parseFloat (defaultFuel r.nodes.size) r.root r.nodes d) :=
  C03_pipeline_total cc hcc parseFloat s d

theorem build_no_panic_shaped (parseFloat : List Char → Option F) (root : Nat) (nodes : Array ParseNode) (d : BState F)
    (hshape : NodesShaped nodes) (site : String) : build parseFloat (defaultFuel nodes.size) root nodes d ≠ .panic site :=
  C03_build_no_panic parseFloat root nodes d hshape site

/-! ### non-vacuity -/

/-- a node vector for `:a + 'x'` -/
def exampleTree : Array ParseNode := #[
  ⟨.symbol, .value, some 1, none, none, ⟨[':', 'a'], .symbol, 0, 0⟩⟩,
  ⟨.addition, .binaryLeftToRight, none, some 0, some 2, ⟨['+'], .plusSign, 0, 0⟩⟩,
  ⟨.byteList, .value, some 1, none, none, ⟨['\'', 'x', '\''], .byteList, 0, 0⟩⟩]

theorem exampleTree_shaped : NodesShaped exampleTree := by
  intro i pn h
  have hi : i < 3 := by
    rcases Nat.lt_or_ge i 3 with h1 | h1
    · exact h1
    · rw [Array.getElem?_eq_none (by simpa [exampleTree] using h1)] at h; cases h
  have h0 : i = 0 ∨ i = 1 ∨ i = 2 := by omega
  rcases h0 with rfl | rfl | rfl
  · simp [exampleTree] at h; subst h
    exact ⟨fun _ => ⟨['a'], rfl⟩, (fun hd => by cases hd)⟩
  · simp [exampleTree] at h; subst h
    exact ⟨(fun hd => by cases hd), (fun hd => by cases hd)⟩
  · simp [exampleTree] at h; subst h
    exact ⟨(fun hd => by cases hd), fun _ => ⟨1, ['x'], rfl, fun c hc => by simp at hc; subst hc; decide⟩⟩

/-- the hypotheses of `C03_build_total` are satisfiable, and the theorem applies to a tree with both constrained kinds -/
example (parseFloat : List Char → Option F) (d : BState F) :
    Returns (build parseFloat (defaultFuel exampleTree.size) 1 exampleTree d) :=
  C03_build_total parseFloat 1 exampleTree d exampleTree_shaped

/-- both outcomes occur: a one-node tree builds, a cyclic vector is rejected by the validation (and does not hang) -/
example : (build (F := Unit) (fun _ => none) (defaultFuel 1) 0
    #[⟨.number, .value, none, none, none, ⟨['5'], .number, 0, 0⟩⟩] BState.empty).isOk = true := by decide
example : (build (F := Unit) (fun _ => none) (defaultFuel 1) 0
    #[⟨.addition, .binaryLeftToRight, none, some 0, some 0, ⟨['+'], .plusSign, 0, 0⟩⟩] BState.empty).isOk = false := by decide

end Garnish.Props.C03
