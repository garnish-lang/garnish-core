/-
C01 over the relativised contract, coverage group 4 = THE WHOLE INSTRUCTION SET with `fullHandlers`: `Access`,
`Resolve`, `Equal`, `NotEqual`, `TypeOf`, `TypeEqual`, `AccessLeftInternal`, `AccessRightInternal`,
`AccessLengthInternal`; for `ApplyType` the value-level machine answers `unsupported` and nothing is claimed (as in
`C01_refine_step_full`). `C01_refine_step_on_full` is `C01_refine_step_full` over `StoreLawsOn` + `HostRefinesI`, with
`Inv` kept; `C01_refine_run_on_full`, `C01_text_to_simple_store_full` follow.
Side conditions of the instructions of this group (`MachOKOn4`): `MDeepN`; `AccessOK` / the `Resolve` domain / `EqualDomain` /
`LengthDomain` as in `StepOKF`; plus `LookupOn` for a look-up of `key` in `cur`: no `custom` node in a concatenation
that is iterated, a symbol key into a LIST needs `ListSymOn` (else excluded), the value found is not `custom`;
`Access` merge arm: no number operand (Simple's `merge_to_symbol_list` answers `Err`); left / right internal: the
component pushed is not `custom`.
The text theorem `C01_text_to_simple_store_full` is in namespace `Garnish.Props.C01TextStore`, with those of Props/C01TextStore*.lean.
-/
import Garnish.Props.RuntimeRefineOn3
import Garnish.Lemmas.RuntimeRun
namespace Garnish.Props.RuntimeRefine
open Garnish Gen Garnish.Abs Garnish.Model.Equality Garnish.Model.Runtime Garnish.Lemmas.Runtime
open Garnish.Lemmas.Runtime.On

variable {F σ : Type} {S : RStore F σ} {Inv : σ → Prop} {Rd : σ → Nat → Prop} {P : Prog F} {host : Host F}
  (fo : FloatOps F)

/-- ONE STEP for the whole instruction set over the relativised contract -/
theorem C01_refine_step_on_full (L : StoreLawsOn S Inv Rd) (HR : HostRefinesI S Inv host) (fuel : Nat)
    (cast : RM σ (Option Nat)) {s : σ} {m : MState F} (hsim : Sim S P s m) (hi : Inv s) (hl : Loaded S P s)
    {instr : Instruction} {operand : Option Nat} (hfetch : P.instrs[m.pc]? = some (instr, operand))
    (hok : MachOKOn4 fo S Inv P fuel m instr operand) :
    StepSimOn fo host S Inv P fuel (fullHandlers fo S fuel cast) s m :=
  refine_step_on4 fo L HR fuel cast hsim hi hl hfetch hok

/-- MULTI-STEP for the whole instruction set over the relativised contract -/
theorem C01_refine_run_on_full (L : StoreLawsOn S Inv Rd) (HR : HostRefinesI S Inv host) (fuel : Nat)
    (cast : RM σ (Option Nat)) (n : Nat) {s : σ} {m : MState F} (hsim : Sim S P s m) (hi : Inv s)
    (hl : Loaded S P s) (hok : RunOKG fo (MachOKOn4 fo S Inv P fuel) host P n m) {m' : MState F} {k : Nat}
    (hrun : Abs.run fo host P n m = (.halted m', k)) :
    ∃ s', executeLoop fo S fuel (fullHandlers fo S fuel cast) n s = .ok ((.end_, k), s') ∧
      SimD S P s' m'.regs m'.vals m'.frames ∧ DecKept S s s' ∧ Inv s' :=
  executeLoop_spec_gen fo (MachOKOn4 fo S Inv P fuel) fuel _
    (fun s m instr operand hs hi hl hf hk => refine_step_on4 fo L HR fuel cast hs hi hl hf hk) n s m hsim hi hl hok m' k
    hrun

/-- with the trivial invariant the host contract is the unrelativised one: together with `StoreLawsRun.toOn` every store that
meets the unrelativised contract (the reference store) is an instance of the theorems above -/
theorem C01_hostRefines_toI (HR : HostRefines S host) : HostRefinesI S (fun _ => True) host := HR.toI

end Garnish.Props.RuntimeRefine

namespace Garnish.Props.C01TextStore
open Garnish Garnish.Gen Garnish.Spec Garnish.Abs Garnish.Abs.Tree Garnish.Abs.Source Garnish.Model Garnish.Model.Parser
open Garnish.Model.Lexer Garnish.Model.Literals Garnish.Model.Build Garnish.Props.C01Build Garnish.Props.C01Source
open Garnish.Props.C02Numbered Garnish.Props.C01Text
open Garnish.Model.Equality Garnish.Model.Runtime Garnish.Lemmas.Runtime Garnish.Props.RuntimeRefine
open Garnish.Lemmas.Runtime.On Garnish.Lemmas.Runtime.Simple

variable {F : Type} (pf : List Char → Option F) (cc : CharClass)

/-- **characters → `SimpleGarnishData`**, the whole instruction set -/
theorem C01_text_to_simple_store_full {hit : List (SimCell F) → SimCell F → Option Nat} (hs : HitSound hit)
    (hh : SimHost F) (fo : FloatOps F) (host : Host F) (HR : HostRefinesI (simpleRStore hit hh) SInv host)
    (loopFuel : Nat) (cast : RM (SimState F) (Option Nat)) (s : List Char) (toks : List LexerToken)
    (hlex : lex cc s = .ok toks) (hf : frag9' (toP toks) = true) (rt : RTree)
    (href : refParse Table.gen (toP toks) = .ok rt) (p : Program F) (hel : elaborate pf (toP toks) rt = some p)
    (hwf : C01.WFProgram p) (input : Val F) (fuel : Nat) (v : Val F) (st : St F)
    (h : evalProgram fo host fuel p input = .ok (v, st)) :
    ∃ d entry n, buildText pf cc s = .ok (d, entry) ∧
      ((progOf d).consts.toList.all isLeafS = true → isLeafS input = true →
        RunOKG fo (MachOKOn4 fo (simpleRStore hit hh) SInv (reloc (progOf d)) loopFuel) host (reloc (progOf d)) n
          { pc := (progOf d).jumps[entry]?.getD 0, regs := [], vals := [input], frames := [], trace := [] } →
        ∃ s' a, executeLoop fo (simpleRStore hit hh) loopFuel (fullHandlers fo (simpleRStore hit hh) loopFuel cast) n
            (loadSimple (reloc (progOf d)) ((progOf d).jumps[entry]?.getD 0) input) = .ok ((.end_, n), s') ∧
          s'.values = [a] ∧ Decodes (simView s'.cells) a v ∧ (simpleRStore hit hh).regs s' = [] ∧
          (simpleRStore hit hh).frames s' = [] ∧ SInv s') :=
  C01_text_to_simple_store_of pf cc hh fo host loopFuel (fullHandlers fo (simpleRStore hit hh) loopFuel cast)
    (fun P => MachOKOn4 fo (simpleRStore hit hh) SInv P loopFuel)
    (fun P s m instr operand hsim hi hl hf hk =>
      refine_step_on4 fo (C01_simpleStore_lawsOn hs) HR loopFuel cast hsim hi hl hf hk)
    s toks hlex hf rt href p hel hwf input fuel v st h

end Garnish.Props.C01TextStore
