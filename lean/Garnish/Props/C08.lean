/-
C08 — undefined operand combinations yield unit, after offering them to the host.
`Spec.definedBinary / definedUnary / definedApply / definedAccess` (Spec/Defined.lean) say which
combinations the language defines; everything else must be offered to the host exactly once, with the
operation and both operands in source order, and yield unit if the host declines.
-/
import Garnish.Lemmas.Ops
import Garnish.Lemmas.MachineTable
namespace Garnish.Props.C08
open Garnish Gen Garnish.Abs

variable {F : Type} (fo : FloatOps F) (host : Host F)

/-- every binary operation of the table other than apply: an undefined pair of operand types is offered to the host -/
theorem binaryOp_undefined (op : Instruction) (l r : Val F) (hop : op ≠ .apply)
    (h : Spec.definedBinary op l.typeOf r.typeOf = false) : binaryOp fo op l r = some (.defer op l r) := by
  have hn : (l.typeOf == .number && r.typeOf == .number) = false → ¬ (l.typeOf = .number ∧ r.typeOf = .number) :=
    fun h ⟨h1, h2⟩ => by simp [h1, h2] at h
  unfold Spec.definedBinary at h
  split at h
  · next ha =>
    cases op <;> first | (cases ha; done) | simp [binaryOp, numOpOf, Lemmas.arithBinary_defer fo _ _ l r (hn h)]
  split at h
  · next hr =>
    cases op <;> first | (cases hr; done) | simp [binaryOp, Lemmas.makeRange_defer fo _ _ l r (hn h), rangeInstr]
  split at h
  · cases h
  split at h
  · simp [binaryOp, Lemmas.access_undefined fo l r h]
  · exact absurd rfl hop
  · cases h

/-- arithmetic and bitwise operations on anything but two numbers are offered to the host -/
theorem C08_undefined_arith (op : Instruction) (l r : Val F) (hop : Spec.isArith op = true)
    (h : Spec.definedBinary op l.typeOf r.typeOf = false) :
    binaryOp fo op l r = some (.defer op l r) :=
  binaryOp_undefined fo op l r (by rintro rfl; cases hop) h

/-- range construction on anything but two numbers is offered to the host -/
theorem C08_undefined_range (op : Instruction) (l r : Val F) (hop : Spec.isRangeOp op = true)
    (h : Spec.definedBinary op l.typeOf r.typeOf = false) :
    binaryOp fo op l r = some (.defer op l r) :=
  binaryOp_undefined fo op l r (by rintro rfl; cases hop) h

/-- access on an undefined pair — including text, bytes and ranges by symbol, whose look-up reports
"unsupported" from the inside — is offered to the host -/
theorem C08_undefined_access (l r : Val F) (h : Spec.definedBinary .access l.typeOf r.typeOf = false) :
    binaryOp fo .access l r = some (.defer .access l r) :=
  binaryOp_undefined fo .access l r nofun h

/-- apply / empty apply on an undefined pair -/
theorem C08_undefined_apply (l r : Val F) (h : Spec.definedBinary .apply l.typeOf r.typeOf = false) :
    applyKind fo .apply true l r = .out (.defer .apply l r) := by
  have : Spec.definedApply l.typeOf r.typeOf = false := by
    simpa [Spec.definedBinary, Spec.isArith, Spec.isRangeOp, Spec.isTotalBinary] using h
  exact Lemmas.apply_undefined fo true .apply l r this

theorem C08_undefined_emptyApply (l : Val F) (h : Spec.definedUnary .emptyApply l.typeOf = false) :
    applyKind fo .emptyApply false l .unit = .out (.defer .emptyApply l .unit) := by
  apply Lemmas.apply_undefined
  cases l <;> simp [Spec.definedUnary, Val.typeOf] at h <;> simp [Spec.definedApply, Val.typeOf]

/-- unary operations: the host sees the documented unit filler as the right operand -/
theorem C08_undefined_unary (op : Instruction) (v : Val F)
    (hop : op = .opposite ∨ op = .absoluteValue ∨ op = .bitwiseNot ∨ op = .accessLeftInternal ∨
           op = .accessRightInternal ∨ op = .accessLengthInternal)
    (h : Spec.definedUnary op v.typeOf = false) :
    unaryOp fo op v = some (.defer op v .unit) := by
  rcases hop with rfl | rfl | rfl | rfl | rfl | rfl
  · have : v.typeOf ≠ .number := by intro hv; simp [Spec.definedUnary, hv] at h
    simp [unaryOp, numOpOf, Lemmas.arithUnary_defer fo _ _ v this]
  · have : v.typeOf ≠ .number := by intro hv; simp [Spec.definedUnary, hv] at h
    simp [unaryOp, numOpOf, Lemmas.arithUnary_defer fo _ _ v this]
  · have : v.typeOf ≠ .number := by intro hv; simp [Spec.definedUnary, hv] at h
    simp [unaryOp, numOpOf, Lemmas.arithUnary_defer fo _ _ v this]
  · simp [unaryOp, Lemmas.leftInternal_undefined v h]
  · simp [unaryOp, Lemmas.rightInternal_undefined v h]
  · simp [unaryOp, Lemmas.lengthInternal_undefined fo v h]

/-- the protocol of an offer: exactly one host call with (op, left, right); if the host declines
exactly one unit is pushed, if it accepts its value is pushed unchanged; nothing else changes -/
theorem C08_defer_protocol (s : MState F) (op : Instruction) (l r : Val F) :
    pushOut host s (.defer op l r) = .ok { s with
      regs := (match host.defer op l r with | some v => v | none => .unit) :: s.regs,
      trace := HostCall.defer op l r :: s.trace } := by
  simp only [pushOut]; split <;> simp_all

/-- machine level: executing an arithmetic / bitwise / range / access instruction whose operands are an
undefined combination never fails: it performs exactly one offer (recorded in the trace), replaces the
two operands by exactly one result — the host's value unchanged, or unit if it declines — leaves the
input-value stack and the frames alone, and continues with the next instruction -/
theorem C08_step_undefined_binary (P : Prog F) (s : MState F) (op : Instruction) (d : Option Nat)
    (l r : Val F) (rs : List (Val F))
    (hop : Spec.isArith op = true ∨ Spec.isRangeOp op = true ∨ op = .access)
    (hi : P.instrs[s.pc]? = some (op, d)) (hregs : s.regs = r :: l :: rs)
    (h : Spec.definedBinary op l.typeOf r.typeOf = false) :
    step fo host P s = seqNext P s (.ok { s with
      regs := (match host.defer op l r with | some v => v | none => .unit) :: rs,
      trace := HostCall.defer op l r :: s.trace }) := by
  have hb := binaryOp_undefined fo op l r (by rintro rfl; rcases hop with h1 | h1 | h1 <;> cases h1) h
  -- `op` is handled by the operators' arm of `step` and is not a unary operation
  have hg : Lemmas.Runtime.isGeneric op = true ∧ unaryOp fo op r = none := by
    rcases hop with h1 | h1 | h1 <;>
      first | (subst h1; exact ⟨rfl, rfl⟩) | (cases op <;> first | (cases h1; done) | exact ⟨rfl, rfl⟩)
  rw [Lemmas.Runtime.step_generic_binary fo hi hg.1 hregs hg.2 hb, C08_defer_protocol]

/-! ### non-vacuity: undefined combinations exist and defined ones are not deferred -/
example : Spec.definedBinary .add Ty.number Ty.charList = false := by decide
example : Spec.definedBinary .access Ty.charList Ty.symbol = false := by decide
example : Spec.definedBinary .add Ty.number Ty.number = true := by decide
example : binaryOp (F := F) fo .add (.num (.int 1)) (.chars [97]) = some (.defer .add (.num (.int 1)) (.chars [97])) := rfl

end Garnish.Props.C08
