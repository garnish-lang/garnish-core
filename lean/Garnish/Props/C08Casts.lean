/-
C08 / C07 for casts (`~#`, instruction ApplyType), on the value-level model `castOp` (Abs/Casts.lean), which the
OP correspondence suite ties to the real `type_cast` on both data implementations (tools/gen/castgen.py).

* `cast_defined_or_deferred`: for ALL operand values, a type pair outside the declarative table
  `Spec.castDefined` is exactly one offer `defer ApplyType left right` (so, by `C08.C08_defer_protocol`, the
  host is asked exactly once with both operands in source order; unit if it declines, its value unchanged
  if it accepts; exactly one result) and a pair inside the table is never offered.
* `C07_cast_*`: `OpOut` has no panic constructor, so totality is by construction (`C07_cast_total`, for the
  record); what is proved are the guards that stand where the Rust code indexes, counts or converts.
* exact results users can rely on, each with a non-vacuity example.
All statements hold for both data implementations unless they name one.
-/
import Garnish.Lemmas.Casts
import Garnish.Props.C08
set_option linter.unusedVariables false

namespace Garnish.Props.C08Casts
open Garnish Gen Garnish.Abs Garnish.Lemmas

variable {F : Type} (fo : FloatOps F) (host : Host F) (env : CastEnv F)

/-! ### the target type -/

/-- a right operand that is not a `Type` value stands for its own type -/
theorem castTarget_of_value (r : Val F) (h : r.typeOf ≠ .type_) : castTarget r = r.typeOf := by
  cases r <;> simp [castTarget, Val.typeOf] at h ⊢

theorem castTarget_of_type (t : Ty) : castTarget (F := F) (.type t) = t := rfl

/-! ### C08: undefined pairs are offered to the host, defined pairs never are -/

/-- outside the table the cast is exactly one offer, with the operation and both operands in source order -/
theorem cast_undefined_deferred (l r : Val F) (h : Spec.castDefined l.typeOf (castTarget r) = false) :
    castOp fo env l r = .defer .applyType l r := by
  have hne : l.typeOf ≠ castTarget r := fun e => by simp [Spec.castDefined, e] at h
  -- the pair selects the last arm of `type_cast`
  have ha : Model.Runtime.castArm l.typeOf (castTarget r) = .deferOp := by simpa [castDefined_eq_arm] using h
  have := Runtime.castArm_case fo env l r (castTarget r)
  rw [ha] at this
  rw [Runtime.castOp_of_ne fo env hne]; exact this

/-- inside the table the cast is never handed to the host: it is a value or a runtime error -/
theorem cast_defined_not_deferred (l r : Val F) (h : Spec.castDefined l.typeOf (castTarget r) = true) :
    isDefer (castOp fo env l r) = false := by
  unfold castOp
  split
  · rfl
  -- the pair selects one of the other arms of `type_cast`; `ArmCase` says what each of them does
  have ha : Model.Runtime.castArm l.typeOf (castTarget r) ≠ .deferOp := by simpa [castDefined_eq_arm] using h
  have hc := Runtime.castArm_case fo env l r (castTarget r)
  generalize castTarget r = rt at *
  generalize Model.Runtime.castArm l.typeOf rt = arm at *
  cases arm <;> simp only [Runtime.ArmCase] at hc
  case deferOp => exact absurd rfl ha
  case noop => contradiction
  case falseOut | trueOut | unitOut => rw [hc]; rfl
  case toCharList => rw [hc]; exact textOut_not_defer env l
  case toByteList => rw [hc]; exact byteListFrom_not_defer env l
  case toSymbol => rw [hc]; exact symbolFrom_not_defer env l
  case symbolListList | charListList | byteListList =>
    obtain ⟨rfl, _, rfl⟩ := hc; exact buildList_not_defer _ _ _
  case concatenationList => obtain ⟨rfl, _, _, rfl⟩ := hc; exact buildList_not_defer _ _ _
  case rangeList => obtain ⟨rfl, _, _, rfl⟩ := hc; exact rangeToList_not_defer fo _ _ _
  case sliceList => obtain ⟨rfl, _, _, rfl⟩ := hc; exact sliceToList_not_defer fo _ _ _
  case charListChar => obtain ⟨rfl, cs, rfl⟩ := hc; cases cs with | nil => rfl | cons c cs => cases cs <;> rfl
  all_goals
    obtain ⟨rfl, x, rfl⟩ := hc
    first | rfl | (cases x <;> rfl)

/-- both directions in one statement, for all values `l`, `r` (not only representatives) -/
theorem cast_defined_or_deferred (l r : Val F) :
    (Spec.castDefined l.typeOf (castTarget r) = false → castOp fo env l r = .defer .applyType l r) ∧
    (Spec.castDefined l.typeOf (castTarget r) = true → ∀ op a b, castOp fo env l r ≠ .defer op a b) := by
  refine ⟨cast_undefined_deferred fo env l r, ?_⟩
  intro h op a b hc
  have := cast_defined_not_deferred fo env l r h
  rw [hc] at this
  simp [isDefer] at this

/-- the same for a right operand that is an ordinary value: the pair of the operands' own types decides -/
theorem cast_defined_or_deferred_value (l r : Val F) (hr : r.typeOf ≠ .type_) :
    (Spec.castDefined l.typeOf r.typeOf = false → castOp fo env l r = .defer .applyType l r) ∧
    (Spec.castDefined l.typeOf r.typeOf = true → ∀ op a b, castOp fo env l r ≠ .defer op a b) := by
  have := cast_defined_or_deferred fo env l r
  rwa [castTarget_of_value r hr] at this

/-- machine level (statement shape of `C08.C08_defer_protocol` / `C08_step_undefined_binary`): pushing the
outcome of an undefined cast performs exactly one host call `defer ApplyType l r` (recorded in the trace),
pushes exactly one result — the host's value unchanged, or unit if it declines — never fails, and changes
nothing else -/
theorem cast_undefined_protocol (s : MState F) (l r : Val F)
    (h : Spec.castDefined l.typeOf (castTarget r) = false) :
    pushOut host s (castOp fo env l r) = .ok { s with
      regs := (match host.defer .applyType l r with | some v => v | none => .unit) :: s.regs,
      trace := HostCall.defer .applyType l r :: s.trace } := by
  rw [cast_undefined_deferred fo env l r h]
  exact C08.C08_defer_protocol host s .applyType l r

/-- a defined cast never reaches the host: the trace is unchanged whatever the outcome -/
theorem cast_defined_no_host_call (s s' : MState F) (l r : Val F)
    (h : Spec.castDefined l.typeOf (castTarget r) = true)
    (hp : pushOut host s (castOp fo env l r) = .ok s') : s'.trace = s.trace := by
  have hd := cast_defined_not_deferred fo env l r h
  cases hc : castOp fo env l r with
  | val v => rw [hc] at hp; simp [pushOut] at hp; subst hp; rfl
  | defer op a b => rw [hc] at hd; simp [isDefer] at hd
  | err e => rw [hc] at hp; simp [pushOut] at hp

/-! non-vacuity: both sides of the table are inhabited, on concrete operands -/
example : Spec.castDefined Ty.symbol Ty.number = false := by decide
example : Spec.castDefined Ty.charList Ty.number = true := by decide
example : castOp fo env (.sym 5) (.num (.int 1)) = .defer .applyType (.sym 5) (.num (.int 1)) :=
  cast_undefined_deferred fo env _ _ rfl
example : castOp fo env (.pair (.num (.int 1)) .unit) (.type .list) = .defer .applyType (.pair (.num (.int 1)) .unit) (.type .list) :=
  cast_undefined_deferred fo env _ _ rfl
example : isDefer (castOp fo env (.chars [49, 50]) (.type .number)) = false :=
  cast_defined_not_deferred fo env _ _ rfl
example : castTarget (F := F) (.chars [97]) = .charList := castTarget_of_value _ (by simp [Val.typeOf])
example : castOp fo env (.part .unit .unit) (.type .number) = .defer .applyType (.part .unit .unit) (.type .number) :=
  (cast_defined_or_deferred fo env _ _).1 rfl
example : ∀ op a b, castOp fo env (.byte 7) (.num (.int 0)) ≠ .defer op a b :=
  (cast_defined_or_deferred_value fo env _ _ (by simp [Val.typeOf])).2 rfl
example (s : MState F) : pushOut host s (castOp fo env (.byte 7) (.type .number)) = .ok { s with regs := .num (.int 7) :: s.regs } ∧
    ({ s with regs := Val.num (.int 7) :: s.regs } : MState F).trace = s.trace :=
  ⟨by simp [castOp, castCore, castTarget, Val.typeOf, pushOut], rfl⟩
example (s : MState F) : pushOut Host.declining s (castOp fo env (.sym 5) (.num (.int 1))) =
    .ok { s with regs := .unit :: s.regs, trace := HostCall.defer .applyType (.sym 5) (.num (.int 1)) :: s.trace } :=
  cast_undefined_protocol fo Host.declining env s _ _ rfl

/-! ### C07: totality and the guards at the Rust panic sites -/

/-- a cast is a value, an offer or a runtime error value — nothing else (by construction of `OpOut`; for the record) -/
theorem C07_cast_total (l r : Val F) :
    (∃ v, castOp fo env l r = .val v) ∨ (∃ op a b, castOp fo env l r = .defer op a b) ∨ (∃ e, castOp fo env l r = .err e) := by
  cases h : castOp fo env l r with
  | val v => exact .inl ⟨v, rfl⟩
  | defer op a b => exact .inr (.inl ⟨op, a, b, rfl⟩)
  | err e => exact .inr (.inr ⟨e, rfl⟩)

/-- range → list on i32: the list has exactly `max 0 (end − start + 1)` items, item `i` is `start + i`; a
descending range is the empty list.  The announced length equals the number of items pushed, so neither
data implementation refuses it, and no increment follows the last item (/repo 5455df2), so every i32 end —
i32::MAX included — is fine.  (Hypotheses: the ends are i32, `end − start` and the length fit i32 — otherwise
`range_len` is a number error, `C07_cast_range_len_overflow`.) -/
theorem C07_cast_range_length (s e : Int) (r : Val F) (hr : castTarget r = .list)
    (hs : InRange s) (he : InRange e) (hl1 : InRange (e - s)) (hl2 : InRange (e - s + 1)) :
    castOp fo env (.range (.num (.int s)) (.num (.int e))) r =
      .val (.list ((intsFrom s (e - s + 1).toNat).map (fun i => .num (.int i)))) ∧
    (intsFrom s (e - s + 1).toNat).length = (e - s + 1).toNat ∧
    (e < s → (intsFrom s (e - s + 1).toNat) = []) := by
  unfold InRange at hs he
  refine ⟨?_, intsFrom_length _ _, ?_⟩
  · simp only [castOp, hr, Val.typeOf, castCore, rangeToList, rangeLen_int fo s e hl1 hl2, numToSize,
      rangeItems_int fo _ s e (by omega) (by omega) rfl]
    simp only [reduceCtorEq, if_false, List.map_map]
    cases env.store <;> simp [buildList, intsFrom_length, Function.comp_def]
  · intro h
    have : (e - s + 1).toNat = 0 := by omega
    simp [this, intsFrom]

/-- a range whose stored end is i32::MAX converts like any other (before /repo 5455df2 the increment after the
last item overflowed and the cast failed): the items `s … i32::MAX` -/
theorem C07_cast_range_max (s : Int) (r : Val F) (hr : castTarget r = .list) (hs : 1 ≤ s) (hs2 : s ≤ 2147483647) :
    castOp fo env (.range (.num (.int s)) (.num (.int 2147483647))) r =
      .val (.list ((intsFrom s (2147483647 - s + 1).toNat).map (fun i => .num (.int i)))) :=
  (C07_cast_range_length fo env s 2147483647 r hr (by unfold InRange; omega) (by unfold InRange; omega)
    (by unfold InRange; omega) (by unfold InRange; omega)).1

/-- a range whose length does not fit i32 (e.g. `0 … i32::MAX` as stored) is a number error, before anything is
allocated -/
theorem C07_cast_range_len_overflow (s e : Int) (r : Val F) (hr : castTarget r = .list)
    (hs : InRange s) (he : InRange e) (h : 2147483647 < e - s + 1) :
    castOp fo env (.range (.num (.int s)) (.num (.int e))) r = .err .number := by
  simp [castOp, hr, Val.typeOf, castCore, rangeToList, rangeLen_int_overflow fo s e h]

/-- the text / byte-list getter of the slice loops never leaves the sequence: the answer is an element that
IS in the sequence, "no item" (unit), or a data error -/
theorem C07_cast_slice_index_guarded (st : StoreKind) (mk : Nat → Val F) (xs : List Nat) (i : Number F) :
    (∃ (k : Nat) (c : Nat), xs[k]? = some c ∧ sliceSeqItem fo st mk xs i = .ok (mk c)) ∨
    sliceSeqItem fo st mk xs i = .ok .unit ∨ sliceSeqItem fo st mk xs i = .error .data := by
  cases st
  · cases i with
    | int k =>
      by_cases hk : k < 0
      · simp [sliceSeqItem, hk]
      · cases hx : xs[k.toNat]? with
        | none => simp [sliceSeqItem, hk, hx]
        | some c => exact .inl ⟨k.toNat, c, hx, by simp [sliceSeqItem, hk, hx]⟩
    | float f => simp [sliceSeqItem]
  · cases hx : xs[numToSize fo i]? with
    | none => simp [sliceSeqItem, hx]
    | some c => exact .inl ⟨_, c, hx, by simp [sliceSeqItem, hx]⟩

/-- the same for slices of lists -/
theorem C07_cast_slice_item_guarded (st : StoreKind) (items : List (Val F)) (i : Number F) :
    (∃ (k : Nat) (x : Val F), items[k]? = some x ∧ sliceListItem fo st items i = .ok x) ∨
    sliceListItem fo st items i = .ok .unit ∨ sliceListItem fo st items i = .error .data := by
  cases st
  · cases i with
    | int k =>
      by_cases hk : k < 0
      · simp [sliceListItem, hk]
      · cases hx : items[k.toNat]? with
        | none => simp [sliceListItem, hk, hx]
        | some x => exact .inl ⟨k.toNat, x, hx, by simp [sliceListItem, hk, hx]⟩
    | float f => simp [sliceListItem]
  · by_cases hz : numLtZero fo i = true
    · simp [sliceListItem, hz]
    · cases hx : items[numToSize fo i]? with
      | none => simp [sliceListItem, hz, hx]
      | some x => exact .inl ⟨_, x, hx, by simp [sliceListItem, hz, hx]⟩

/-- SimpleGarnishData, slice of a list with i32 range ends: `end − start + 1` items; positions outside the
list are unit — the extent is not an index into the list -/
theorem C07_cast_slice_list_simple (showF : F → Txt) (items : List (Val F)) (s e : Int) (r : Val F)
    (hr : castTarget r = .list) (hs : InRange s) (he : InRange e) (hmax : e < 2147483647)
    (hl1 : InRange (e - s)) (hl2 : InRange (e - s + 1)) :
    castOp fo ⟨.simple, showF⟩ (.slice (.list items) (.range (.num (.int s)) (.num (.int e)))) r =
      .val (.list ((intsFrom s (e - s + 1).toNat).map
        (fun i => if i < 0 then .unit else items[i.toNat]?.getD .unit))) := by
  unfold InRange at hs he
  have hget : ∀ k ∈ intsFrom s (e - s + 1).toNat,
      sliceListItem fo .simple items (.int k) =
        .ok ((fun k : Int => if k < 0 then Val.unit else items[k.toNat]?.getD .unit) k) := by
    intro k _
    by_cases hk : k < 0 <;> simp [sliceListItem, hk]
  simp only [castOp, hr, Val.typeOf, castCore, sliceToList, rangeLen_int fo s e hl1 hl2, numToSize, reduceCtorEq, if_false,
    Runtime.sliceLoop_simple_int fo false _ _ s e _ _ (countLoop_int fo _ s e (by omega) hmax (Nat.le_succ _)) hget]

/-- SimpleGarnishData, slice of a text that lies inside the text: exactly the characters `start … end` -/
theorem C07_cast_slice_chars_simple (showF : F → Txt) (cs : List Nat) (s e : Int) (r : Val F)
    (hr : castTarget r = .list) (hs : 0 ≤ s) (hse : s ≤ e + 1) (he : e < cs.length) (hlen : (cs.length : Int) < 2147483647) :
    castOp fo ⟨.simple, showF⟩ (.slice (.chars cs) (.range (.num (.int s)) (.num (.int e)))) r =
      .val (.list ((intsFrom s (e - s + 1).toNat).map (fun i => .char (cs[i.toNat]?.getD 0)))) := by
  have hl1 : InRange (e - s) := by unfold InRange; omega
  have hl2 : InRange (e - s + 1) := by unfold InRange; omega
  have hn : (e + 1 - s).toNat = (e - s + 1).toNat := by omega
  have hget : ∀ k ∈ intsFrom s (e - s + 1).toNat,
      sliceSeqItem fo .simple .char cs (.int k) = .ok ((fun k : Int => Val.char (cs[k.toNat]?.getD 0)) k) := by
    intro k hk
    have hb := mem_intsFrom _ _ _ hk
    have hk0 : ¬ k < 0 := by omega
    have hlt : k.toNat < cs.length := by omega
    simp [sliceSeqItem, hk0, List.getElem?_eq_getElem hlt]
  have hcl := countLoop_int_strict fo ((e - s + 1).toNat + 1) s (e + 1) (by omega) (by omega) (by omega)
  rw [hn] at hcl
  simp only [castOp, hr, Val.typeOf, castCore, sliceToList, rangeLen_int fo s e hl1 hl2, numToSize, reduceCtorEq, if_false,
    cast_increment_int fo e (by omega) (by omega), Runtime.sliceLoop_simple_int fo true _ _ s (e + 1) _ _ hcl hget]

/-- the primitive conversions are guarded: a number becomes a character / byte only inside 0..255
(`(v as u8)` for characters: the value modulo 256 — `char::from(u8)` cannot fail), a character becomes a byte
modulo 256, fractions have no character or byte; nothing here can panic -/
theorem C07_cast_primitive_guards (v : Int) (c b : Nat) (f : F) (rc rb rn : Val F)
    (hc : castTarget rc = .char) (hb : castTarget rb = .byte) (hn : castTarget rn = .number) :
    castOp fo env (.num (.int v)) rc = .val (.char (v % 256).toNat) ∧ (v % 256).toNat < 256 ∧
    castOp fo env (.num (.int v)) rb = .val (if 0 ≤ v ∧ v ≤ 255 then .byte v.toNat else .unit) ∧
    castOp fo env (.num (.float f)) rc = .val .unit ∧ castOp fo env (.num (.float f)) rb = .val .unit ∧
    castOp fo env (.char c) rb = .val (.byte (c % 256)) ∧ c % 256 < 256 ∧
    castOp fo env (.char c) rn = .val (.num (.int c)) ∧
    castOp fo env (.byte b) rn = .val (.num (.int b)) ∧
    castOp fo env (.byte b) rc = .val (.char b) := by
  refine ⟨?_, by omega, ?_, ?_, ?_, ?_, by omega, ?_, ?_, ?_⟩ <;>
    simp [castOp, castCore, hc, hb, hn, Val.typeOf]

/-! non-vacuity of the guards -/
example : ∃ v, castOp fo env (.byte 7) (.type .number) = .val v :=
  ⟨.num (.int 7), by simp [castOp, castCore, castTarget, Val.typeOf]⟩
example : sliceSeqItem fo .simple .char [97] (.int 0) = .ok (.char 97) := rfl
example : sliceSeqItem fo .simple .char [97] (.int 5) = .error .data := rfl
example : sliceSeqItem fo .simple .char [97] (.int (-1)) = .error .data := rfl
example : sliceSeqItem fo .basic .byte [97] (.int 5) = .ok .unit := rfl
example : sliceListItem fo .simple [Val.tru] (.int 5) = .ok .unit := rfl
example : sliceListItem fo .basic [Val.tru] (.int 0) = .ok .tru := by simp [sliceListItem, numLtZero, numToSize]
example : sliceListItem fo .basic [Val.tru] (.int 5) = .error .data := by simp [sliceListItem, numLtZero, numToSize]
example : castOp fo env (.range (.num (.int 2)) (.num (.int 6))) (.type .list) =
    .val (.list [.num (.int 2), .num (.int 3), .num (.int 4), .num (.int 5), .num (.int 6)]) :=
  (C07_cast_range_length fo env 2 6 _ rfl (by decide) (by decide) (by decide) (by decide)).1
example : castOp fo env (.range (.num (.int 5)) (.num (.int 2))) (.type .list) = .val (.list []) :=
  (C07_cast_range_length fo env 5 2 _ rfl (by decide) (by decide) (by decide) (by decide)).1
example : castOp fo env (.range (.num (.int 2147483645)) (.num (.int 2147483647))) (.list []) =
    .val (.list [.num (.int 2147483645), .num (.int 2147483646), .num (.int 2147483647)]) :=
  C07_cast_range_max fo env _ _ rfl (by decide) (by decide)
example : castOp fo env (.range (.num (.int 0)) (.num (.int 2147483647))) (.type .list) = .err .number :=
  C07_cast_range_len_overflow fo env _ _ _ rfl (by decide) (by decide) (by decide)
example (showF : F → Txt) :
    castOp fo ⟨.simple, showF⟩ (.slice (.list [.tru, .fls]) (.range (.num (.int (-1))) (.num (.int 2)))) (.type .list) =
      .val (.list [.unit, .tru, .fls, .unit]) :=
  C07_cast_slice_list_simple fo showF _ (-1) 2 _ rfl (by decide) (by decide) (by decide) (by decide) (by decide)
example (showF : F → Txt) :
    castOp fo ⟨.simple, showF⟩ (.slice (.chars [97, 98, 99]) (.range (.num (.int 1)) (.num (.int 2)))) (.type .list) =
      .val (.list [.char 98, .char 99]) :=
  C07_cast_slice_chars_simple fo showF _ 1 2 _ rfl (by decide) (by decide) (by decide) (by decide)
example : castOp fo env (.num (.int 353)) (.type .char) = .val (.char 97) :=
  (C07_cast_primitive_guards fo env 353 0 0 fo.one _ (.type .byte) (.type .number) rfl rfl rfl).1
example : castOp fo env (.num (.int 300)) (.type .byte) = .val .unit :=
  (C07_cast_primitive_guards fo env 300 0 0 fo.one (.type .char) _ (.type .number) rfl rfl rfl).2.2.1

/-! ### exact results -/

/-- a value of the target type is left alone -/
theorem cast_same_type (l r : Val F) (h : l.typeOf = castTarget r) : castOp fo env l r = .val l := by
  simp [castOp, h]

/-- list → list is the identity on the items -/
theorem cast_list_identity (items : List (Val F)) (r : Val F) (hr : castTarget r = .list) :
    castOp fo env (.list items) r = .val (.list items) :=
  cast_same_type fo env _ _ (by simp [Val.typeOf, hr])

/-- a text converts to the list of its characters, in order — for every text -/
theorem cast_chars_to_list (cs : List Nat) (r : Val F) (hr : castTarget r = .list) :
    castOp fo env (.chars cs) r = .val (.list (cs.map .char)) := by
  simp only [castOp, hr, Val.typeOf, castCore]
  cases env.store <;> simp [buildList]

/-- a byte list converts to the list of its bytes, in order -/
theorem cast_bytes_to_list (bs : List Nat) (r : Val F) (hr : castTarget r = .list) :
    castOp fo env (.bytes bs) r = .val (.list (bs.map .byte)) := by
  simp only [castOp, hr, Val.typeOf, castCore]
  cases env.store <;> simp [buildList]

/-- a concatenation converts to the flat list of its items, in iteration order -/
theorem cast_concat_to_list (a b r : Val F) (hr : castTarget r = .list) :
    castOp fo env (.concat a b) r = .val (.list (flatItems a ++ flatItems b)) := by
  simp only [castOp, hr, Val.typeOf, castCore]
  cases env.store <;> simp [buildList]

/-- an integer converts to its decimal text (both data implementations) -/
theorem cast_int_to_text (v : Int) (r : Val F) (hr : castTarget r = .charList) :
    castOp fo env (.num (.int v)) r = .val (.chars (showInt v)) := by
  simp only [castOp, hr, Val.typeOf, castCore, textOf]
  cases env.store
  · show (match simpleText env.showF (999 + 1) 0 (.num (.int v)) [] with
        | .ok t => OpOut.val (.chars t) | .error e => .err e) = _
    simp [simpleText, showNumber]
  · simp [basicText, showNumber]

/-- a text converts to the number `str::parse::<i32>` reads, unit when it reads none -/
theorem cast_text_to_int (cs : List Nat) (r : Val F) (hr : castTarget r = .number) :
    castOp fo env (.chars cs) r = .val (match parseI32 cs with | some v => .num (.int v) | none => .unit) := by
  simp only [castOp, hr, Val.typeOf, castCore, reduceCtorEq, if_false]
  cases parseI32 cs <;> rfl

/-- number → text → number is the identity for every i32 -/
theorem cast_number_text_roundtrip (v : Int) (hv : InRange v) (rt rn : Val F)
    (ht : castTarget rt = .charList) (hn : castTarget rn = .number) :
    ∃ t, castOp fo env (.num (.int v)) rt = .val (.chars t) ∧ castOp fo env (.chars t) rn = .val (.num (.int v)) := by
  refine ⟨showInt v, cast_int_to_text fo env v rt ht, ?_⟩
  rw [cast_text_to_int fo env _ rn hn, parseI32_showInt v hv]

/-- `() ~# T` is unit for every target that is not one of the five that accept everything -/
theorem cast_unit_source (r : Val F) (h1 : castTarget r ≠ .charList) (h2 : castTarget r ≠ .byteList)
    (h3 : castTarget r ≠ .symbol) (h4 : castTarget r ≠ .true) (h5 : castTarget r ≠ .false) :
    castOp fo env .unit r = .val .unit := by
  unfold castOp
  generalize castTarget r = rt at *
  cases rt <;> simp_all [castCore, Val.typeOf]

/-- `x ~# True`: false for unit and false, true for everything else -/
theorem cast_to_true (l r : Val F) (hr : castTarget r = .true) :
    castOp fo env l r = .val (match l with | .unit => .fls | .fls => .fls | _ => .tru) := by
  cases l <;> simp [castOp, hr, Val.typeOf, castCore]

/-- `x ~# False`: true for unit, false for everything else -/
theorem cast_to_false (l r : Val F) (hr : castTarget r = .false) :
    castOp fo env l r = .val (match l with | .unit => .tru | _ => .fls) := by
  cases l <;> simp [castOp, hr, Val.typeOf, castCore]

/-- a text of exactly one character converts to that character, any other text to unit -/
theorem cast_text_to_char (cs : List Nat) (r : Val F) (hr : castTarget r = .char) :
    castOp fo env (.chars cs) r = .val (match cs with | [c] => .char c | _ => .unit) := by
  cases cs with
  | nil => simp [castOp, hr, Val.typeOf, castCore]
  | cons c cs => cases cs <;> simp [castOp, hr, Val.typeOf, castCore]

/-! non-vacuity of the exact results -/
example : castOp fo env (.chars [104, 233, 8364]) (.list []) = .val (.list [.char 104, .char 233, .char 8364]) :=
  cast_chars_to_list fo env _ _ rfl
example : castOp fo env (.sym 5) (.sym 9) = .val (.sym 5) := cast_same_type fo env _ _ rfl
example : castOp fo env (.bytes [1, 255]) (.type .list) = .val (.list [.byte 1, .byte 255]) :=
  cast_bytes_to_list fo env _ _ rfl
example : castOp fo env (.list [.tru, .unit]) (.type .list) = .val (.list [.tru, .unit]) :=
  cast_list_identity fo env _ _ rfl
example : castOp fo env (.concat (.list [.tru]) (.concat .unit (.list []))) (.type .list) = .val (.list [.tru, .unit]) :=
  cast_concat_to_list fo env _ _ _ rfl
example : showInt (-2147483648) = [45, 50, 49, 52, 55, 52, 56, 51, 54, 52, 56] := by decide
example : castOp fo env (.num (.int (-12))) (.chars []) = .val (.chars [45, 49, 50]) := by
  rw [cast_int_to_text fo env _ _ rfl, show showInt (-12) = [45, 49, 50] from by decide]
example : castOp fo env (.chars [45, 49, 50]) (.type .number) = .val (.num (.int (-12))) := by
  rw [cast_text_to_int fo env _ _ rfl, show parseI32 [45, 49, 50] = some (-12) from by decide]
example : castOp fo env (.chars [49, 32]) (.type .number) = .val .unit := by
  rw [cast_text_to_int fo env _ _ rfl, show parseI32 [49, 32] = none from by decide]
example : ∃ t, castOp fo env (.num (.int 2147483647)) (.type .charList) = .val (.chars t) ∧
    castOp fo env (.chars t) (.type .number) = .val (.num (.int 2147483647)) :=
  cast_number_text_roundtrip fo env _ (by decide) _ _ rfl rfl
example : castOp fo env .unit (.type .list) = .val .unit :=
  cast_unit_source fo env _ (by simp [castTarget]) (by simp [castTarget]) (by simp [castTarget]) (by simp [castTarget])
    (by simp [castTarget])
example : castOp fo env (.num (.int 0)) .tru = .val .tru := cast_to_true fo env _ _ rfl
example : castOp fo env .fls (.type .true) = .val .fls := cast_to_true fo env _ _ rfl
example : castOp fo env .unit .fls = .val .tru := cast_to_false fo env _ _ rfl
example : castOp fo env (.chars [97]) (.char 0) = .val (.char 97) := cast_text_to_char fo env _ _ rfl
example : castOp fo env (.chars [97, 98]) (.char 0) = .val .unit := cast_text_to_char fo env _ _ rfl

end Garnish.Props.C08Casts
