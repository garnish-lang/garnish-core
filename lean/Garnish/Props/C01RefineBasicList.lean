/-
`ListPopLawOn (basicRStore nc) BInvL`: the list law in the shape of the runtime's `make_list` on BasicGarnishData —
`start_list(len)` keeps the register chain, the add loop reads register `rest.length + j` (unchanged by the adds:
`addToList_exp` keeps the frame and every old cell) and adds it, `len` × `pop_register` move the head
(`popsRM_basic`), `end_list` converts the block (`endList_reg`).  Corollaries: the `MakeList` step and the run of the
real Basic store without the list-law hypothesis.
-/
import Garnish.Props.RuntimeRefineOnL
namespace Garnish.Props.RuntimeRefine
open Garnish Gen Garnish.Abs Garnish.Model.Equality Garnish.Model.Runtime Garnish.Model.Runtime.Basic Garnish.BasicOpt
open Garnish.Lemmas.Runtime Garnish.Lemmas.Runtime.Basic Garnish.Lemmas.Runtime.On Garnish.Lemmas.Runtime.OnL
open Garnish.Props.C19StoreOn Garnish.Props.C19ListOn Garnish.Props.C19StoreOnL Garnish.Props.C19MakeList

variable {F σ : Type}

/-- the add loop of `make_list` on the Basic store is the fold of the heap model's `add_to_list` -/
theorem makeListAdd_basic (nc : NumCode F) {base : Array Cell} {items R : List Nat} (cr : Option Nat)
    (hcr : ∀ a, cr = some a → a < base.size) (hR : regsOf base cr = R) (off : Nat)
    (hoff : ∀ j, R.reverse[off + j]? = items[j]?) :
    ∀ (r : List Nat) (j : Nat) (cur : BState) (s' : Store), items.drop j = r →
      (∀ p, cur.store.cells[p]? = expCell base items j p) → cur.store.currentRegister = cr →
      (∀ a ∈ r, a < base.size) →
      r.foldlM (fun s a => Store.addToList s base.size a) cur.store = .ok s' →
      ∃ bl, makeListAdd (basicRStore nc) r.length (off + j) base.size cur =
        .ok (base.size, { cur with store := s', building := bl })
  | [], j, cur, s', _, _, _, _, h => by
    simp only [List.foldlM, Outcome.pure_eq_ok_iff] at h
    subst h
    exact ⟨cur.building, rfl⟩
  | a :: r, j, cur, s', hdrop, hinv, hc, hlt, h => by
    simp only [List.foldlM_cons, Outcome.bind_eq_ok'] at h
    obtain ⟨c1, h1, h2⟩ := h
    have hj : items[j]? = some a := by
      have := congrArg (fun l => l[0]?) hdrop
      simpa using this
    have hdrop' : items.drop (j + 1) = r := by
      have := congrArg List.tail hdrop
      simpa using this
    obtain ⟨g1, f1⟩ := addToList_exp hinv hj (hlt a (by simp)) h1
    have hsub : Sub base cur.store.cells := by
      intro p c hpc
      rw [hinv p, expCell_base (lt_of_getElem? hpc)]; exact hpc
    have hget : getRegister (basicRStore nc) (off + j) cur = .ok (some a, cur) := by
      show Outcome.ok ((regsOf cur.store.cells cur.store.currentRegister).reverse[off + j]?, cur) = _
      rw [hc, regsOf_sub hsub hcr, hR, hoff j, hj]
    have hstep := addToList_ok nc h1
    obtain ⟨bl, ih⟩ := makeListAdd_basic nc cr hcr hR off hoff r (j + 1)
      { cur with store := c1, building := cur.building.map (fun b => (base.size, b.2 ++ [a])) } s' hdrop' g1
      (f1.2.2.2.2.1.trans hc) (fun x hx => hlt x (by simp [hx])) h2
    refine ⟨bl, ?_⟩
    show makeListAdd (basicRStore nc) (r.length + 1) (off + j) base.size cur = _
    rw [makeListAdd, bind_ok hget]
    simp only []
    rw [bind_ok (pure_apply _ cur), bind_ok hstep]
    exact ih

/-- **basic_listPopLaw** -/
theorem basic_listPopLaw (nc : NumCode F) : ListPopLawOn (basicRStore nc) BInvL := by
  intro top rest tvs st hI hregs hdp hdl
  have hregs' : regsOf st.store.cells st.store.currentRegister = top ++ rest := hregs
  obtain ⟨s1, s2, s4, li, o', hstart, hfold, hlt, hh2, hend, hdec, he, hi⟩ :=
    basic_listPhases nc hI (decodesList_reverse hdl) top.reverse.length none
  obtain ⟨_, hc1, f1⟩ := startList_spec hstart
  have hsub1 : Sub st.store.cells s1.cells := by rw [hc1]; exact sub_append _ _
  have hcrlt : ∀ a, st.store.currentRegister = some a → a < st.store.cells.size :=
    fun a ha => isRegCell_lt (hI.1.regHead a ha)
  have h1 := startList_ok nc hstart
  have hr1 : (basicRStore nc).regs { st with store := s1, building := some (st.store.cells.size, []) } = top ++ rest := by
    show regsOf s1.cells s1.currentRegister = _
    rw [f1.2.2.2.2.1, regsOf_sub hsub1 hcrlt, hregs']
  obtain ⟨bl, h2⟩ := makeListAdd_basic nc (base := st.store.cells) (items := top.reverse) (R := top ++ rest)
    st.store.currentRegister hcrlt hregs' rest.length
    (by intro j; rw [List.reverse_append, List.getElem?_append_right (by simp)]; simp)
    top.reverse 0 { st with store := s1, building := some (st.store.cells.size, []) } s2 (by simp)
    (startList_exp hstart) f1.2.2.2.2.1 hlt hfold
  have h3 := popsRM_basic nc top.reverse.length { st with store := s2, building := bl } o' hh2
  rw [← popRegisters_eq_popsRM] at h3
  have h4 := endList_ok nc (st := { st with store := { s2 with currentRegister := o' }, building := bl }) hend
  have hdrop : ((basicRStore nc).regs st).drop top.reverse.length = rest := by rw [hregs]; simp
  rw [hdrop] at he
  rw [List.length_reverse] at h1 h2 h3
  exact ⟨_, _, _, _, _, li, _, h1, hr1, h2, h3, h4, hdec, he, hi⟩

variable (fo : FloatOps F) {P : Prog F} {host : Host F}

/-- the contract `StoreLawsOnL` holds of BasicGarnishData -/
theorem C01_basic_storeLawsOnL (nc : NumCode F) : StoreLawsOnL (basicRStore nc) BInvL BReadable :=
  basic_storeLawsOnL nc (basic_listPopLaw nc)

/-- the `MakeList` step of the real Basic store, no list-law hypothesis -/
theorem C01_refine_step_on_basic_makeList' (nc : NumCode F) (fuel : Nat)
    (H : OtherHandlers BState) {s : BState} {m : MState F} (hsim : Sim (basicRStore nc) P s m) (hi : BInvL s)
    {operand : Option Nat} (hfetch : P.instrs[m.pc]? = some (.makeList, operand))
    (hok : ∀ n, operand = some n → MDeepN m n) : StepSimOn fo host (basicRStore nc) BInvL P fuel H s m :=
  C01_refine_step_on_basic_makeList fo nc (basic_listPopLaw nc) fuel H hsim hi hfetch hok

/-- the run on BasicGarnishData, no list-law hypothesis -/
theorem C01_refine_run_on_basic' (nc : NumCode F)
    (HR : HostRefinesI (basicRStore nc) BInvL host) (fuel : Nat) (cast : RM BState (Option Nat)) (n : Nat)
    {s : BState} {m : MState F} (hsim : Sim (basicRStore nc) P s m) (hi : BInvL s)
    (hl : Loaded (basicRStore nc) P s)
    (hok : RunOKG fo (MachOKOnL fo (basicRStore nc) BInvL P fuel) host P n m) {m' : MState F} {k : Nat}
    (hrun : Abs.run fo host P n m = (.halted m', k)) :
    ∃ s', executeLoop fo (basicRStore nc) fuel (fullHandlers fo (basicRStore nc) fuel cast) n s = .ok ((.end_, k), s') ∧
      SimD (basicRStore nc) P s' m'.regs m'.vals m'.frames ∧ DecKept (basicRStore nc) s s' ∧ BInvL s' :=
  C01_refine_run_on_basic fo nc (basic_listPopLaw nc) HR fuel cast n hsim hi hl hok hrun

end Garnish.Props.RuntimeRefine
