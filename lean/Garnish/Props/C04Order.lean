/-
C04, builder half — evaluation order: where `build` puts the instructions of a node relative to those of its children,
for EVERY node vector, root index, fuel and start state (helpers: Garnish/Lemmas/BuildSeq*.lean).

The instruction stream is read through the metadata (`d'.metadata[k] = some (some x)`: instruction `k` is attributed to
node `x`; `C05_metadata_one_per_instruction`: one record per instruction).  Every handler that schedules children on
`stack` does so in the node's first visit, in a fixed arrangement `layout d`; `x` is an IN-LINE descendant of `a`
(`IDesc nodes a x`) when it is reached from `a` through children scheduled on `stack` only; everything else below a node
is emitted OUT OF LINE, in a later root.

  definition                                  layout  in-line order                         proved by
  ------------------------------------------  ------  ------------------------------------  ---------------------------------
  binary operators, InfixApply                lrn     left, right, own instruction          C04_children_in_order, C04_child_before_node
  Pair, ApplyTo                               rln     right, left, own instruction          (same; the documented swap)
  List, CommaList                             lrn     left, right, own MakeList (if any)    (same)
  ElseJump                                    lrn     left arm, right arm (no own instr.)   C04_children_in_order
  Subexpression, ExpressionSeparator          lnr     left, own UpdateValue, right          C04_children_in_order, C04_child_before_node,
  Unit … ExpressionTerminator (value-like)    lnr     left block, own instruction, right      C04_node_before_right
  unary suffix, SuffixApply                   ln      left, own instruction                 C04_child_before_node
  unary prefix, PrefixApply, Reapply          rn      right, own instruction(s)             C04_child_before_node
  SideEffect                                  rn      Start…, right (the body), End…        C04_side_effect_brackets
  And, Or, JumpIfTrue, JumpIfFalse            ln      left, own jump — right OUT OF LINE    C04_child_before_node, C04_out_of_line_after_root
  Group                                       gr      right (no own instruction)            (descent only)
  NestedExpression                            none    own Put — right OUT OF LINE           C04_out_of_line_after_root

Out of line (`C04_out_of_line_after_root`): the right child `r` of And / Or / JumpIf… / NestedExpression is pushed on
`root_stack`; EVERY instruction of the root that contains the owner (every in-line descendant of any `ρ` that has the
owner among its in-line descendants) precedes EVERY instruction of the whole subtree of `r`.  The mutual order of two
out-of-line parts (last pushed first; the arms of an else-chain are pushed together by the chain head, in source order):
Props/C04Eval2.lean (`C04_out_of_line_lifo`); the total order of all attributed nodes: Props/C04Eval5.lean
(`C04_evaluation_order_total_all`).

`C04_evaluation_order` (Props/C04Eval.lean) collects the rules as one relation `EmitBefore` and `C04_evaluation_order_total`
shows that they decide the order of any two nodes of one root (up to Group / SideEffect ancestors, which emit nothing / bracket).
-/
import Garnish.Lemmas.BuildLifoRun
namespace Garnish.Props.C04Order
open Garnish Garnish.Gen Garnish.Model.Parser Garnish.Model.Build Garnish.Lemmas.Build
open Garnish.Lemmas.BuildSeq

variable {F : Type}

/-- the raw statement: all order facts of a successful build -/
theorem C04_order_core (parseFloat : List Char → Option F) (fuel root : Nat) (nodes : Array ParseNode) (d d' : BState F)
    (entry : Nat) (h : build parseFloat fuel root nodes d = .ok (d', entry)) :
    SeqFacts nodes root d.metadata.size d'.metadata := by
  have key := build_seq (tree := nodes) parseFloat fuel root d
  rw [h] at key
  exact key

/-- the hypotheses shared by the theorems below: a successful build, and two attributed instructions -/
structure Built (parseFloat : List Char → Option F) (fuel root : Nat) (nodes : Array ParseNode) (d d' : BState F) (x z kx kz : Nat) :
    Prop where
  ok : ∃ entry, build parseFloat fuel root nodes d = .ok (d', entry)
  hkx : d.metadata.size ≤ kx
  hkz : d.metadata.size ≤ kz
  hmx : d'.metadata[kx]? = some (some x)
  hmz : d'.metadata[kz]? = some (some z)

variable {parseFloat : List Char → Option F} {fuel root : Nat} {nodes : Array ParseNode} {d d' : BState F}

theorem Built.prec {x z kx kz : Nat} (b : Built parseFloat fuel root nodes d d' x z kx kz) (hp : Prec nodes (InTree nodes root) x z) : kx < kz := by
  obtain ⟨entry, h⟩ := b.ok
  exact (C04_order_core parseFloat fuel root nodes d d' entry h).1 x z hp kx kz b.hkx b.hkz b.hmx b.hmz

/-- two in-line children: everything in line below the one that is emitted first precedes everything in line below the
other one — left before right, except for `Pair` / `ApplyTo` (layout `rln`) -/
theorem C04_children_in_order {x z kx kz : Nat} (b : Built parseFloat fuel root nodes d d' x z kx kz)
    (p l r : Nat) (pn : ParseNode) (hp : nodes[p]? = some pn) (ht : InTree nodes root p) (hl : pn.left = some l)
    (hr : pn.right = some r)
    (hk : layout pn.definition = .lrn ∨ layout pn.definition = .lnr)
    (hx : IDesc nodes l x) (hz : IDesc nodes r z) : kx < kz :=
  b.prec (Or.inl ⟨p, l, r, ht, ⟨pn, l, r, hp, hl, hr, Or.inr ⟨hk, rfl, rfl⟩⟩, hx, hz⟩)

/-- the documented swap: `Pair`, `ApplyTo` emit the right operand first -/
theorem C04_children_swapped {x z kx kz : Nat} (b : Built parseFloat fuel root nodes d d' x z kx kz)
    (p l r : Nat) (pn : ParseNode) (hp : nodes[p]? = some pn) (ht : InTree nodes root p) (hl : pn.left = some l)
    (hr : pn.right = some r) (hk : layout pn.definition = .rln)
    (hx : IDesc nodes r x) (hz : IDesc nodes l z) : kx < kz :=
  b.prec (Or.inl ⟨p, r, l, ht, ⟨pn, l, r, hp, hl, hr, Or.inl ⟨hk, rfl, rfl⟩⟩, hx, hz⟩)

/-- a child that is scheduled above its parent — any in-line left child; the right child for the layouts lrn, rln, rn —
is finished, with everything in line below it, before the parent emits (the parent is not a SideEffect) -/
theorem C04_child_before_node {x p kx kp : Nat} (b : Built parseFloat fuel root nodes d d' x p kx kp)
    (c : Nat) (pn : ParseNode) (hp : nodes[p]? = some pn) (ht : InTree nodes root p)
    (hc : (pn.left = some c ∧ inlL (layout pn.definition) = true) ∨ (pn.right = some c ∧ preR (layout pn.definition) = true))
    (hnse : pn.definition ≠ .sideEffect) (hx : IDesc nodes c x) : kx < kp :=
  b.prec (Or.inr (Or.inl ⟨p, c, pn, ht, ⟨pn, hp, hc⟩, hp, hnse, hx, rfl⟩))

/-- layout lnr (separators, value-like nodes): the node's own instruction precedes everything in line below its right child -/
theorem C04_node_before_right {p z kp kz : Nat} (b : Built parseFloat fuel root nodes d d' p z kp kz)
    (r : Nat) (pn : ParseNode) (hp : nodes[p]? = some pn) (ht : InTree nodes root p) (hr : pn.right = some r)
    (hk : layout pn.definition = .lnr) (hz : IDesc nodes r z) : kp < kz :=
  b.prec (Or.inr (Or.inr (Or.inl ⟨p, r, ht, ⟨pn, hp, hr, hk⟩, hz, rfl⟩)))

/-- out of line: every instruction of the root that contains the owner `y` precedes every instruction of the subtree of
the out-of-line child `r` (right child of And / Or / JumpIfTrue / JumpIfFalse / NestedExpression) -/
theorem C04_out_of_line_after_root {x z kx kz : Nat} (b : Built parseFloat fuel root nodes d d' x z kx kz)
    (ρ y r : Nat) (yn : ParseNode) (ht : InTree nodes root ρ) (hy : IDesc nodes ρ y) (hyn : nodes[y]? = some yn)
    (hr : yn.right = some r) (hool : oolR yn.definition = true) (hx : IDesc nodes ρ x) (hz : Sub nodes r z) : kx < kz :=
  b.prec (Or.inr (Or.inr (Or.inr ⟨ρ, y, r, ht, hy, ⟨yn, hyn, hr, hool⟩, hx, hz⟩)))

/-- a SideEffect node brackets its body: every instruction in line below the body lies strictly between two instructions
attributed to the block node (`StartSideEffect` is emitted in the first visit, `EndSideEffect` in the second) -/
theorem C04_side_effect_brackets (parseFloat : List Char → Option F) (fuel root : Nat) (nodes : Array ParseNode) (d d' : BState F)
    (entry : Nat) (h : build parseFloat fuel root nodes d = .ok (d', entry))
    (p c x kx : Nat) (pn : ParseNode) (hp : nodes[p]? = some pn) (ht : InTree nodes root p) (hd : pn.definition = .sideEffect)
    (hc : pn.right = some c) (hx : IDesc nodes c x) (hkx : d.metadata.size ≤ kx) (hmx : d'.metadata[kx]? = some (some x)) :
    (∃ k1, d.metadata.size ≤ k1 ∧ k1 < kx ∧ d'.metadata[k1]? = some (some p)) ∧
    (∃ k2, kx < k2 ∧ d'.metadata[k2]? = some (some p)) :=
  (C04_order_core parseFloat fuel root nodes d d' entry h).2 p pn c x kx ht hp hd
    ⟨pn, hp, Or.inr ⟨hc, by rw [hd]; rfl⟩⟩ hx hkx hmx

/-! ### the sibling order for the node kinds that Props/C04Build.lean does not cover -/

/-- ElseJump: left arm, right arm (nothing is attributed to the node).  Subexpression / ExpressionSeparator and value-like
nodes with side-effect blocks: left, the node's own instruction, right (`mid`).  The `Subexpression` case carries
`Sub nodes root p` — `p` is reachable from the root: the validation lets `Subexpression` nodes stay outside the tree, and the
stale links of such a node say nothing about the order. -/
def C04_sibling_order_rest_statement (F : Type) : Prop :=
  ∀ (parseFloat : List Char → Option F) (fuel root : Nat) (nodes : Array ParseNode) (d d' : BState F) (entry : Nat),
    build parseFloat fuel root nodes d = .ok (d', entry) →
    ∀ (p l r : Nat) (pn : ParseNode) (mid : Bool), nodes[p]? = some pn → pn.left = some l → pn.right = some r →
      ((pn.definition = .elseJump ∧ mid = false) ∨
       (((pn.definition = .subexpression ∧ Sub nodes root p) ∨ pn.definition = .expressionSeparator) ∧ mid = true) ∨
       (pn.definition ∈ [Definition.unit, .true, .false, .number, .charList, .byteList, .symbol, .value, .identifier,
          .property, .expressionTerminator] ∧ mid = true)) →
      ∀ kl kr kp : Nat, d.metadata.size ≤ kl → d.metadata.size ≤ kr → d.metadata.size ≤ kp →
        d'.metadata[kl]? = some (some l) → d'.metadata[kr]? = some (some r) → d'.metadata[kp]? = some (some p) →
        kl < kr ∧ kl < kp ∧ (if mid then kp < kr else kr < kp)

theorem C04_sibling_order_rest (F : Type) : C04_sibling_order_rest_statement F := by
  intro parseFloat fuel root nodes d d' entry h p l r pn mid hp hl hr hcase kl kr kp hkl hkr hkp hml hmr hmp
  have blr : Built parseFloat fuel root nodes d d' l r kl kr := ⟨⟨entry, h⟩, hkl, hkr, hml, hmr⟩
  have blp : Built parseFloat fuel root nodes d d' l p kl kp := ⟨⟨entry, h⟩, hkl, hkp, hml, hmp⟩
  have bpr : Built parseFloat fuel root nodes d d' p r kp kr := ⟨⟨entry, h⟩, hkp, hkr, hmp, hmr⟩
  have brp : Built parseFloat fuel root nodes d d' r p kr kp := ⟨⟨entry, h⟩, hkr, hkp, hmr, hmp⟩
  -- the three groups: the layout, membership in the tree, not a SideEffect
  have hfacts : InTree nodes root p ∧ pn.definition ≠ .sideEffect ∧
      ((layout pn.definition = .lrn ∧ mid = false) ∨ (layout pn.definition = .lnr ∧ mid = true)) := by
    rcases hcase with ⟨hd, hm⟩ | ⟨hd, hm⟩ | ⟨hd, hm⟩
    · exact ⟨Or.inr ⟨pn, hp, by rw [hd]; decide⟩, by rw [hd]; decide, Or.inl ⟨by rw [hd]; rfl, hm⟩⟩
    · rcases hd with ⟨hd, hs⟩ | hd
      · exact ⟨Or.inl hs, by rw [hd]; decide, Or.inr ⟨by rw [hd]; rfl, hm⟩⟩
      · exact ⟨Or.inr ⟨pn, hp, by rw [hd]; decide⟩, by rw [hd]; decide, Or.inr ⟨by rw [hd]; rfl, hm⟩⟩
    · simp only [List.mem_cons, List.mem_nil_iff, or_false] at hd
      refine ⟨Or.inr ⟨pn, hp, ?_⟩, ?_, Or.inr ⟨?_, hm⟩⟩ <;>
        rcases hd with hd | hd | hd | hd | hd | hd | hd | hd | hd | hd | hd <;> rw [hd] <;> first | decide | rfl
  obtain ⟨ht, hnse, hk⟩ := hfacts
  rcases hk with ⟨hk, hm⟩ | ⟨hk, hm⟩
  · subst hm
    exact ⟨C04_children_in_order blr p l r pn hp ht hl hr (Or.inl hk) (IDesc.refl l) (IDesc.refl r),
      C04_child_before_node blp l pn hp ht (Or.inl ⟨hl, by rw [hk]; rfl⟩) hnse (IDesc.refl l),
      C04_child_before_node brp r pn hp ht (Or.inr ⟨hr, by rw [hk]; rfl⟩) hnse (IDesc.refl r)⟩
  · subst hm
    exact ⟨C04_children_in_order blr p l r pn hp ht hl hr (Or.inr hk) (IDesc.refl l) (IDesc.refl r),
      C04_child_before_node blp l pn hp ht (Or.inl ⟨hl, by rw [hk]; rfl⟩) hnse (IDesc.refl l),
      C04_node_before_right bpr r pn hp ht hr hk (IDesc.refl r)⟩

end Garnish.Props.C04Order
