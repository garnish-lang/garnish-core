/-
`C01_text_to_simple_store_scalar`: a second syntactic class with NO run-time hypothesis, containing calls, comparisons
and equality: `staticOKScalar p input` —
* `balancedB p`, the entry of `compile p` inside the program,
* every instruction of `compile p` in the SCALAR class (`scalarInstr`: everything except `MakePair`, `MakeList`, `Concat`,
  `PartialApply`, the four ranges, `Access`, `Resolve`, `AccessLengthInternal` — so `Apply`, `EmptyApply`, `Reapply`, the
  comparisons, `Equal` / `NotEqual`, all arithmetic / logic, `TypeOf`, `TypeEqual` are allowed),
* the constants and the input are scalars (`scalar`: unit, booleans, numbers, characters, bytes, symbols, expressions,
  externals, types — no text, no symbol list, no container, no `custom`), an `Expression` input is known.
Then every value the machine computes is a scalar (`ScalarState`, kept by every step: Lemmas/Scalar.lean), and on
scalars the residual side condition `DynOK` holds with loop fuel ≥ 3 (`dynOK_of_scalar`). The host must answer with
scalars (`HostScalar`) besides `HostRefinesI` / `HostExprsKnown`; `…_declining` discharges all of it. Non-vacuity:
`{ $ + 1 } <~ 5` — a call (Props/C01TextStoreScalarEx.lean).
-/
import Garnish.Lemmas.Scalar
import Garnish.Props.C01TextStoreStatic
namespace Garnish.Props.C01TextStore
open Garnish Garnish.Gen Garnish.Spec Garnish.Abs Garnish.Abs.Tree Garnish.Abs.Source Garnish.Model Garnish.Model.Parser
open Garnish.Model.Lexer Garnish.Model.Literals Garnish.Model.Build Garnish.Props.C01Build Garnish.Props.C01Source
open Garnish.Props.C02Numbered Garnish.Props.C01Text
open Garnish.Model.Equality Garnish.Model.Runtime Garnish.Lemmas.Runtime Garnish.Props.RuntimeRefine
open Garnish.Lemmas.Runtime.On Garnish.Lemmas.Runtime.Simple Garnish.Props.SourceProps Garnish.Lemmas.NoCustom
open Garnish.Lemmas.Her Garnish.Lemmas.Scalar

variable {F : Type} (pf : List Char → Option F) (cc : CharClass)

def staticOKScalar (p : Program F) (input : Val F) : Bool :=
  balancedB p &&
  decide ((compile p).jumps[0]?.getD 0 < (compile p).instrs.size) &&
  (compile p).instrs.toList.all (fun x => scalarInstr x.1) &&
  (compile p).consts.toList.all scalar &&
  scalar input && her (exprQ (compile p)) input

theorem isLeafS_of_scalar {v : Val F} (h : scalar v = true) : isLeafS v = true := by
  cases v <;> first | rfl | (cases h; done)

/-- **no run-time hypothesis, calls and comparisons included** -/
theorem C01_text_to_simple_store_scalar {p : Program F} {hit : List (SimCell F) → SimCell F → Option Nat}
    (hs : HitSound hit) (hh : SimHost F) (fo : FloatOps F) (host : Host F)
    (HR : HostRefinesI (simpleRStore hit hh) SInv host) (HS : HostScalar host)
    (HE : HostExprsKnown (compile p) host) (loopFuel : Nat) (hfuel : 3 ≤ loopFuel)
    (cast : RM (SimState F) (Option Nat)) (s : List Char)
    (toks : List LexerToken) (hlex : lex cc s = .ok toks) (hf : frag9' (toP toks) = true) (rt : RTree)
    (href : refParse Table.gen (toP toks) = .ok rt) (hel : elaborate pf (toP toks) rt = some p)
    (hwf : C01.WFProgram p) (input : Val F) (hstatic : staticOKScalar p input = true) (fuel : Nat) (v : Val F)
    (st : St F) (h : evalProgram fo host fuel p input = .ok (v, st)) :
    ∃ d n, buildText pf cc s = .ok (d, 0) ∧ progOf d = compile p ∧
      ∃ s' a, executeLoop fo (simpleRStore hit hh) loopFuel (fullHandlers fo (simpleRStore hit hh) loopFuel cast) n
          (loadSimple (reloc (progOf d)) ((progOf d).jumps[0]?.getD 0) input) = .ok ((.end_, n), s') ∧
        s'.values = [a] ∧ Decodes (simView s'.cells) a v ∧ (simpleRStore hit hh).regs s' = [] ∧
        (simpleRStore hit hh).frames s' = [] ∧ SInv s' := by
  simp only [staticOKScalar, Bool.and_eq_true, decide_eq_true_eq] at hstatic
  obtain ⟨⟨⟨⟨⟨hbal, hentry⟩, hinstr⟩, hconsts⟩, hin⟩, hine⟩ := hstatic
  have hcs : ∀ (k : Nat) (c : Val F), (compile p).consts[k]? = some c → scalar c = true := fun k c hk =>
    (List.all_eq_true.mp hconsts) c (List.mem_of_getElem? (by simpa using hk))
  have hsi : ∀ (pc : Nat) (i : Instruction) (o : Option Nat), (compile p).instrs[pc]? = some (i, o) →
      scalarInstr i = true := fun pc i o hi =>
    (List.all_eq_true.mp hinstr) (i, o) (List.mem_of_getElem? (by simpa using hi))
  have hleaf : (compile p).consts.toList.all isLeafS = true :=
    List.all_eq_true.mpr fun c hc => isLeafS_of_scalar ((List.all_eq_true.mp hconsts) c hc)
  have reach : ∀ m, C06.ReachK fo host (compile p) ((compile p).jumps[0]?.getD 0 :: C06.exprEntries (compile p))
      ⟨(compile p).jumps[0]?.getD 0, [], [input], [], []⟩ m → ScalarState m := by
    intro m hr
    induction hr with
    | refl => exact ⟨rfl, by simp [scalarL, hin], fun _ hfr => by cases hfr⟩
    | snoc _ hst _ ih => exact step_scalar HS hcs hsi ih (Or.inl hst)
  exact C01_text_to_simple_store_balanced_full_noHcalls pf cc hs hh fo host HR (hostNoCustom_of_scalar HS) HE loopFuel
    cast s toks hlex hf rt href hel hwf hbal input fuel v st h hentry hleaf (isLeafS_of_scalar hin)
    (fun k c hk => nc_of_scalar (hcs k c hk)) (nc_of_scalar hin) hine
    (fun m hr i o hi => dynOK_of_scalar fo _ _ _ hfuel (reach m hr) o (hsi _ i o hi))

theorem C01_text_to_simple_store_scalar_declining {p : Program F} {hit : List (SimCell F) → SimCell F → Option Nat}
    (hs : HitSound hit) (fo : FloatOps F) (loopFuel : Nat) (hfuel : 3 ≤ loopFuel)
    (cast : RM (SimState F) (Option Nat)) (s : List Char)
    (toks : List LexerToken) (hlex : lex cc s = .ok toks) (hf : frag9' (toP toks) = true) (rt : RTree)
    (href : refParse Table.gen (toP toks) = .ok rt) (hel : elaborate pf (toP toks) rt = some p)
    (hwf : C01.WFProgram p) (input : Val F) (hstatic : staticOKScalar p input = true) (fuel : Nat) (v : Val F)
    (st : St F) (h : evalProgram fo Host.declining fuel p input = .ok (v, st)) :
    ∃ d n, buildText pf cc s = .ok (d, 0) ∧ progOf d = compile p ∧
      ∃ s' a, executeLoop fo (simpleRStore hit (fun _ st => (false, st))) loopFuel
          (fullHandlers fo (simpleRStore hit (fun _ st => (false, st))) loopFuel cast) n
          (loadSimple (reloc (progOf d)) ((progOf d).jumps[0]?.getD 0) input) = .ok ((.end_, n), s') ∧
        s'.values = [a] ∧ Decodes (simView s'.cells) a v ∧
        (simpleRStore hit (fun _ st => (false, st))).regs s' = [] ∧
        (simpleRStore hit (fun _ st => (false, st))).frames s' = [] ∧ SInv s' :=
  C01_text_to_simple_store_scalar pf cc hs (fun _ st => (false, st)) fo Host.declining C01_simple_host_declines
    hostScalar_declining (hostHer_declining _) loopFuel hfuel cast s toks hlex hf rt href hel hwf input hstatic fuel v st h

end Garnish.Props.C01TextStore
