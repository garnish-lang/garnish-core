/-
Property C18, TEXT level, part 7: the result corollary for an annotation inserted inside a run of blanks WITHOUT any
hypothesis about the rewritten text (companion of Props/C18Text6.lean): the second part of the split Whitespace token and the
Annotation token are put in one after the other, each behind a trivia token (`exFrag_annotation`).
-/
import Garnish.Props.C18Text6
namespace Garnish.Props.C18Text7
open Garnish Garnish.Gen Garnish.Spec Garnish.Model Garnish.Model.Lexer Garnish.Model.Parser
open Garnish.Abs Garnish.Abs.Source Garnish.Props.C02Parse Garnish.Props.C18Parse Garnish.Props.C18Text
open Garnish.Props.C18Text4 Garnish.Props.C18Text5 Garnish.Props.C18Text6
open Garnish.Abs.Tree Garnish.Model.Literals Garnish.Model.Build Garnish.Props.C01Build Garnish.Props.C01Source
open Garnish.Props.C02Numbered

theorem exFrag_annotation (A rest rest' : List LexerToken) (W W1 ann W2 : LexerToken)
    (hW1 : W1.tokenType = .whitespace) (hann : ann.tokenType = .annotation) (hW2 : W2.tokenType = W.tokenType)
    (hWs : W.tokenType = .whitespace) (hs : SameTT rest rest') (hR : rest ≠ [])
    (h : ExFrag (toP (A ++ W :: rest))) : ExFrag (toP (A ++ W1 :: ann :: W2 :: rest')) := by
  obtain ⟨h1, h2⟩ := annotation_insFiller A rest rest' W W1 ann W2 hW1 hann hW2 hWs hs
  have hg : Good { text := W1.text, type := W1.tokenType, row := 0, col := 0 + A.length } := by
    show goodTy W1.tokenType = true; rw [hW1]; rfl
  exact h2.exFrag (by simp [toPFrom]) hg (Lexer.toP_numbered _)
    (h1.exFrag (toPFrom_ne_nil (sameTT_ne_nil hs hR)) hg (Lexer.toP_numbered _) h)

variable {F : Type} (pf : List Char → Option F)

/-- **an annotation inside a run of blanks, result**: hypotheses about the ORIGINAL text only (and that the run is a
Whitespace token) -/
theorem C18_text_annotation_result'' (cc : CharClass) (hcc : cc.SaneBlank)
    (hcc2 : cc.Sane2) (hat : cc.SaneAt) (fo : FloatOps F) (host : Host F) (s s' : List Char) (T : List LexerToken)
    (hl : lex cc s = .ok T) (h : TextAnnotation cc s s') (hf : frag9' (toP T) = true)
    (hWs : ∀ T' W, lex cc s' = .ok T' → AnnInserted W T T' → W.tokenType = .whitespace)
    (rt : RTree) (href : refParse Table.gen (toP T) = .ok rt) (p : Program F) (hel : elaborate pf (toP T) rt = some p)
    (hwf : C01.WFProgram p) (input : Val F) (fuel : Nat) (v : Val F) (st : St F)
    (he : evalProgram fo host fuel p input = .ok (v, st)) :
    ∀ src ∈ [s, s'], ∃ d entry, C01Text.buildText pf cc src = .ok (d, entry) ∧
      ∃ n m, run fo host (progOf d) n
          { pc := (progOf d).jumps[entry]?.getD 0, regs := [], vals := [input], frames := [], trace := [] } = (.halted m, n) ∧
        m.vals = [v] ∧ m.regs = [] ∧ m.frames = [] ∧ m.trace = st.trace := by
  have hn : NoTrim (toP T) := frag9_noTrim (frag9'_sub hf)
  obtain ⟨T', W, hl', hins, hsp⟩ := C18_text_annotation_sameProg cc hcc hcc2 hat s s' T hl h hn
  have hW := hWs T' W hl' hins
  obtain ⟨A, rest, W1, ann, W2, rest', rfl, rfl, hW1, hann, hW2, _, _, hs⟩ := hins
  have hx := exFrag_of_frag9' hf
  exact result_pair pf cc fo host hl hl' hx
    (exFrag_annotation A rest rest' W W1 ann W2 hW1 hann hW2 hW hs (annotation_rest_ne hW hn) hx) (hsp hW) hn rt href p hel
    hwf input fuel v st he

end Garnish.Props.C18Text7
