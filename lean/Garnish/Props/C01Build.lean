/-
C01, the tie between the two models of `build`.

`Model.Build.build` (Model/Build.lean) is the statement-by-statement transliteration of compiler/src/build/build.rs — node
array, work list, root stack, two visits per node, `child_count`, `conditional_items`, the terminator loop — tied to the
code by the BUILD suite. `Abs.compile` (Abs/Compile.lean) is the structured compiler about which `C01_compile_correct`
speaks, tied to the code by the COMPILE suite. This file proves that the first refines the second:

  build_refines_compile : on every parse tree that REPRESENTS the program (`Abs.Tree.Rep`, Lemmas/CompileTree.lean: the
    in-order numbered node array with value / operator / list / conditional / else-chain / logic / nested / reapply /
    identifier-application / group nodes linked as the parser links them), `build` returns the program's entry and a
    data object whose instructions, jump table and constants are exactly those of `compile` — for every program, every
    object already in the data object (`compileInto`), and all sufficient fuel (`2 * nodes + 1`; `defaultFuel` suffices).

Stages (each an instance of the same simulation, Lemmas/CompileTree*.lean):
  1 straight line   literals, `$`, identifiers, prefix / suffix / binary operators, pairs, apply-to, lists (the `List` /
                    `CommaList` spine with `child_count`), `;`, identifier application, groups        — `sim_of_rep`
  2 branches        conditionals, `&&` / `||`, else-chains with and without final arm: the second visit that creates
                    the jump / join entries and schedules the out-of-line roots; the root loop, `rootJump`, the
                    terminator loop (`pushEndInstructions` = `addTerms`)                             — `root_step`, `rootLoop_ok`
  3 bodies          nested expressions `{ … }` (a root of its own, `EndExpression` as default terminator), `{ }`, `^~`
  4 blocks          a side-effect block after a value, `v [ body ]` (`Rep.side`; `sim_side`, Lemmas/CompileTreeNodes.lean)
What the theorem assumes beyond `Rep`:
  * `validateParseTree root tree = .ok ()` — `build`'s own check of the parent links, which `Rep` does not mention;
    `validate_ok` (Lemmas/CompileTreeV.lean) proves it from the `Shape` of the tree: in-order intervals with parent
    links (`build_refines_compile_shape`);
  * `(compileState … p).pending = []` — the layout loop of `compile` finishes (`compile_complete` for `WFProgram`s).
`treeOf` (Lemmas/CompileTreeOf.lean) builds a tree for a program structurally: the expression becomes a skeleton of
leaf / prefix / suffix / binary nodes (operands that are not a single token in a group node, lists as left-nested
`CommaList` spines, else-chains as left-nested `ElseJump` spines over `JumpIf` arms, `{ body }` as a `NestedExpression`
node over the body), numbered in-order as the parser numbers by token position; the token text of literals and names
comes from a `Printer`. `treeOf_rep` / `treeOf_valid`: it represents the program and passes `build`'s check, so
`build_refines_compile_treeOf` has no hypothesis about the tree; `stage1_straight_line` / `stage2_branches` /
`stage3_bodies` state it for stages 1 to 3; where no group is needed `treeOf` is literally the PARSE dump (`$ && 5` below).
That the node array `Model.Parser.parse` returns satisfies `Rep` (for the program its reference tree elaborates to) is
`parse_rep`, Props/C01Source.lean; from tokens and from the source text: Props/C02Numbered.lean, Props/C01Text.lean.
The fragment `InFrag` of `treeOf` asks of the printer
that literal text parses back to the literal (`LitRep`) and name text hashes to the symbol.
Not representable (`Rep` has no constructor), hence outside the tie: side-effect blocks anywhere but directly after a
literal / `$` / identifier (`[b] v`; `(e) [b]`, `v [b] [c]`: there the builder drops the group content / the first block);
literal values other than
unit / true / false / number / text / byte list / symbol; lists with fewer than two items; and, WITHOUT a group node
around them, a conditional or else-chain as direct left operand of `&&` / `||` or as final arm of an else-chain, a list as
direct item of a list of the same kind (the parser cannot produce these shapes without parentheses either).
-/
import Garnish.Lemmas.CompileTreeBuild
import Garnish.Lemmas.CompileTreeOf
import Garnish.Props.C01Compile
namespace Garnish.Props.C01Build
open Garnish Garnish.Gen Garnish.Spec Garnish.Abs Garnish.Abs.Tree Garnish.Model.Parser Garnish.Model.Literals Garnish.Model.Build

variable {F : Type} (pf : List Char → Option F)

/-- **`build` refines `compileInto`** — the general form: any data object to start from -/
theorem build_refines_compileInto (tree : Array ParseNode) (p : Program F) (data : BState F) (root fuel : Nat)
    (hrep : Rep pf tree p.bodies 0 tree.size root p.main)
    (hmain : lookupBody p.bodies data.jumps.size = some p.main)
    (hval : validateParseTree root tree = .ok ())
    (hcomplete : (compileState (progOf data) p).pending = []) (hfuel : 2 * tree.size + 1 ≤ fuel) :
    ∃ d, build pf fuel root tree data = .ok (d, data.jumps.size) ∧
      d.instrs = (compileInto (progOf data) p).1.instrs ∧ d.jumps = (compileInto (progOf data) p).1.jumps ∧
      d.consts = (compileInto (progOf data) p).1.consts := by
  obtain ⟨d, h1, h2, h3, h4⟩ := buildCore_refines (pf := pf) p data root fuel hrep hmain hcomplete hfuel
  refine ⟨d, ?_, h2, h3, h4⟩
  have hne : tree.isEmpty = false := by
    have := hrep.bounds.2.2
    cases hte : tree.isEmpty with
    | false => rfl
    | true => rw [Array.isEmpty_iff_size_eq_zero] at hte; omega
  simp only [build, hne, Bool.false_eq_true, if_false, hval, Outcome.bind]
  exact h1

/-- **`build` refines `compile`**: on a parse tree that represents the program, the transliteration of `build` started on
the empty data object returns entry `0` and exactly the instructions, jump table and constants of `compile p` -/
theorem build_refines_compile (tree : Array ParseNode) (p : Program F) (root fuel : Nat)
    (hrep : Rep pf tree p.bodies 0 tree.size root p.main)
    (hmain : lookupBody p.bodies 0 = some p.main)
    (hval : validateParseTree root tree = .ok ())
    (hcomplete : (compileState Prog.empty p).pending = []) (hfuel : 2 * tree.size + 1 ≤ fuel) :
    ∃ d, build pf fuel root tree BState.empty = .ok (d, 0) ∧
      d.instrs = (compile p).instrs ∧ d.jumps = (compile p).jumps ∧ d.consts = (compile p).consts :=
  build_refines_compileInto pf tree p BState.empty root fuel hrep hmain hval hcomplete hfuel

/-- … for well-formed programs (the hypotheses of `C01_compile_correct`), with the fuel `build`'s callers use -/
theorem build_refines_compile_wf (tree : Array ParseNode) (p : Program F) (root : Nat) (hwf : C01.WFProgramC p)
    (hrep : Rep pf tree p.bodies 0 tree.size root p.main) (hval : validateParseTree root tree = .ok ()) :
    ∃ d, build pf (defaultFuel tree.size) root tree BState.empty = .ok (d, 0) ∧
      d.instrs = (compile p).instrs ∧ d.jumps = (compile p).jumps ∧ d.consts = (compile p).consts :=
  build_refines_compile pf tree p root _ hrep hwf.main0 hval (C01.compile_complete p hwf.labels)
    (by simp only [defaultFuel]; omega)

/-- **C01 for the transliteration of `build.rs`**: the data object that `Model.Build.build` produces from a parse tree
representing a well-formed program, run on the value-level machine from the entry that `build` returns, computes the value
and the host-call trace that the source means -/
theorem C01_build_correct (fo : FloatOps F) (host : Host F) (tree : Array ParseNode) (p : Program F) (root : Nat)
    (input : Val F) (fuel : Nat) (v : Val F) (st : St F) (hwf : C01.WFProgram p)
    (hrep : Rep pf tree p.bodies 0 tree.size root p.main) (hval : validateParseTree root tree = .ok ())
    (h : evalProgram fo host fuel p input = .ok (v, st)) :
    ∃ d entry, build pf (defaultFuel tree.size) root tree BState.empty = .ok (d, entry) ∧
      ∃ n s, run fo host (progOf d) n
          { pc := (progOf d).jumps[entry]?.getD 0, regs := [], vals := [input], frames := [], trace := [] } = (.halted s, n) ∧
        s.vals = [v] ∧ s.regs = [] ∧ s.frames = [] ∧ s.trace = st.trace := by
  obtain ⟨d, hb, h1, h2, h3⟩ := build_refines_compile_wf pf tree p root hwf.toC hrep hval
  refine ⟨d, 0, hb, ?_⟩
  have e : progOf d = compile p := by
    simp only [progOf, h1, h2, h3]
  rw [e]
  exact C01.C01_compile_correct fo host p input fuel v st hwf h

/-! ### non-vacuity: the trees the real parser produces (PARSE dumps), one per stage -/

def nd (d : Definition) (parent left right : Option Nat) (text : String) : ParseNode :=
  ⟨d, .none, parent, left, right, ⟨text.toList, .unknown, 0, 0⟩⟩

def noFloat : List Char → Option Float := fun _ => none

def int (n : Int) : Expr Float := .lit (.num (.int n))

theorem lit_int (i : Nat) (tree : Array ParseNode) (pn : ParseNode) (n : Nat) (bodies : List (Nat × Expr Float))
    (h : tree[i]? = some pn) (hd : pn.definition = .number) (hl : pn.left = none) (hr : pn.right = none)
    (ht : parseSimpleNumber noFloat pn.lexToken.text = .ok (.int n)) : Rep noFloat tree bodies i (i + 1) i (int n) :=
  .lit h hl hr (.num hd ht)

/-- stage 1: `1 + 2 * 3` -/
def tree1 : Array ParseNode := #[
  nd .number (some 1) none none "1", nd .addition none (some 0) (some 3) "+", nd .number (some 3) none none "2",
  nd .multiplicationSign (some 1) (some 2) (some 4) "*", nd .number (some 3) none none "3"]
def main1 : Expr Float := .binary .add (int 1) (.binary .multiply (int 2) (int 3))
def prog1 : Program Float := { main := main1, bodies := [(0, main1)] }

theorem rep1 : Rep noFloat tree1 prog1.bodies 0 tree1.size 1 prog1.main :=
  .binary (pn := tree1[1]) rfl rfl rfl rfl (lit_int 0 tree1 _ 1 _ rfl rfl rfl rfl (by rfl))
    (.binary (pn := tree1[3]) rfl rfl rfl rfl (lit_int 2 tree1 _ 2 _ rfl rfl rfl rfl (by rfl))
      (lit_int 4 tree1 _ 3 _ rfl rfl rfl rfl (by rfl)))

example : ∃ d, build noFloat 11 1 tree1 BState.empty = .ok (d, 0) ∧
    d.instrs = (compile prog1).instrs ∧ d.jumps = (compile prog1).jumps ∧ d.consts = (compile prog1).consts :=
  build_refines_compile noFloat tree1 prog1 1 11 rep1 rfl (by rfl) (by rfl) (by decide)

/-- … and this is what both produce -/
example : (compile prog1).instrs = #[(.put, some 0), (.put, some 1), (.put, some 2), (.multiply, none), (.add, none),
    (.endExpression, none)] ∧ (compile prog1).jumps = #[0] := by
  constructor <;> decide

theorem notCond_of {tree : Array ParseNode} {i : Nat} {pn0 : ParseNode} (h0 : tree[i]? = some pn0)
    (hc : condDef pn0.definition = false) : NotCond tree i := fun pn h => by rw [h0] at h; cases h; exact hc

/-- stage 2: `$ ?> 1 |> 2 ?> 3 |> 4` (an else-chain with two conditional arms and a final arm) -/
def tree2 : Array ParseNode := #[
  nd .value (some 1) none none "$", nd .jumpIfTrue (some 3) (some 0) (some 2) "?>", nd .number (some 1) none none "1",
  nd .elseJump (some 7) (some 1) (some 5) "|>",
  nd .number (some 5) none none "2", nd .jumpIfTrue (some 3) (some 4) (some 6) "?>", nd .number (some 5) none none "3",
  nd .elseJump none (some 3) (some 8) "|>", nd .number (some 7) none none "4"]
def main2 : Expr Float := .chain [(true, .input, int 1), (true, int 2, int 3)] (some (int 4))
def prog2 : Program Float := { main := main2, bodies := [(0, main2)] }

theorem rep2 : Rep noFloat tree2 prog2.bodies 0 tree2.size 7 prog2.main :=
  .chain (arms := [(true, .input, int 1)] ++ [(true, int 2, int 3)]) (pn := tree2[7]) rfl rfl rfl rfl
    (.more (arms := [(true, .input, int 1)]) (pn := tree2[3]) rfl rfl rfl rfl
      (.one (.mk (pn := tree2[1]) rfl rfl rfl rfl (.input (pn := tree2[0]) rfl rfl rfl rfl)
        (lit_int 2 tree2 _ 1 _ rfl rfl rfl rfl (by rfl))))
      (.mk (pn := tree2[5]) rfl rfl rfl rfl (lit_int 4 tree2 _ 2 _ rfl rfl rfl rfl (by rfl))
        (lit_int 6 tree2 _ 3 _ rfl rfl rfl rfl (by rfl))))
    (notCond_of (pn0 := tree2[8]) rfl rfl) (lit_int 8 tree2 _ 4 _ rfl rfl rfl rfl (by rfl))

example : ∃ d, build noFloat (defaultFuel tree2.size) 7 tree2 BState.empty = .ok (d, 0) ∧
    d.instrs = (compile prog2).instrs ∧ d.jumps = (compile prog2).jumps ∧ d.consts = (compile prog2).consts :=
  build_refines_compile noFloat tree2 prog2 7 _ rep2 rfl (by rfl) (by rfl) (by decide)

example : (compile prog2).instrs = #[(.putValue, none), (.jumpIfTrue, some 1), (.put, some 0), (.jumpIfTrue, some 2),
    (.put, some 1), (.endExpression, none), (.put, some 2), (.jumpTo, some 3), (.put, some 3), (.jumpTo, some 3)] ∧
    (compile prog2).jumps = #[0, 8, 6, 5] := by
  constructor <;> decide

/-- stage 2, logic: `$ && 5` -/
def tree2b : Array ParseNode := #[nd .value (some 1) none none "$", nd .and none (some 0) (some 2) "&&", nd .number (some 1) none none "5"]
def main2b : Expr Float := .and .input (int 5)
def prog2b : Program Float := { main := main2b, bodies := [(0, main2b)] }

theorem rep2b : Rep noFloat tree2b prog2b.bodies 0 tree2b.size 1 prog2b.main :=
  .and (pn := tree2b[1]) rfl rfl rfl rfl (notCond_of (pn0 := tree2b[0]) rfl rfl) (.input (pn := tree2b[0]) rfl rfl rfl rfl)
    (lit_int 2 tree2b _ 5 _ rfl rfl rfl rfl (by rfl))

example : ∃ d, build noFloat (defaultFuel tree2b.size) 1 tree2b BState.empty = .ok (d, 0) ∧
    d.instrs = (compile prog2b).instrs ∧ d.jumps = (compile prog2b).jumps ∧ d.consts = (compile prog2b).consts :=
  build_refines_compile noFloat tree2b prog2b 1 _ rep2b rfl (by rfl) (by rfl) (by decide)

/-- stage 3: `{ ^~ 7 } ~~` (a nested expression with a reapply, applied) -/
def tree3 : Array ParseNode := #[
  nd .nestedExpression (some 3) none (some 1) "{", nd .reapply (some 0) none (some 2) "^~", nd .number (some 1) none none "7",
  nd .emptyApply none (some 0) none "~~"]
def main3 : Expr Float := .unary .emptyApply (.nested 1)
def prog3 : Program Float := { main := main3, bodies := [(0, main3), (1, .reapply (int 7))] }

theorem rep3 : Rep noFloat tree3 prog3.bodies 0 tree3.size 3 prog3.main :=
  .unarySuf (pn := tree3[3]) rfl rfl rfl
    (.nested (pn := tree3[0]) (b := .reapply (int 7)) rfl rfl rfl rfl
      (.reapply (pn := tree3[1]) rfl rfl rfl (lit_int 2 tree3 _ 7 _ rfl rfl rfl rfl (by rfl))))

example : ∃ d, build noFloat (defaultFuel tree3.size) 3 tree3 BState.empty = .ok (d, 0) ∧
    d.instrs = (compile prog3).instrs ∧ d.jumps = (compile prog3).jumps ∧ d.consts = (compile prog3).consts :=
  build_refines_compile noFloat tree3 prog3 3 _ rep3 rfl (by rfl) (by rfl) (by decide)

example : (compile prog3).instrs = #[(.put, some 0), (.emptyApply, none), (.endExpression, none), (.put, some 1),
    (.updateValue, none), (.jumpTo, some 1), (.endExpression, none)] ∧ (compile prog3).jumps = #[0, 3] := by
  constructor <;> decide

/-- stage 4, a side-effect block after a value: `5 [6]` (the `SideEffect` node hangs off the `right` of the value node) -/
def tree4 : Array ParseNode := #[
  nd .number none none (some 1) "5", nd .sideEffect (some 0) none (some 2) "[", nd .number (some 1) none none "6"]
def main4 : Expr Float := .sideAfter (int 5) (int 6)
def prog4 : Program Float := { main := main4, bodies := [(0, main4)] }

theorem rep4 : Rep noFloat tree4 prog4.bodies 0 tree4.size 0 prog4.main :=
  .side (pn := tree4[0]) (ps := tree4[1]) rfl rfl rfl (.lit (.num rfl (by rfl))) rfl rfl rfl
    (lit_int 2 tree4 _ 6 _ rfl rfl rfl rfl (by rfl))

example : ∃ d, build noFloat (defaultFuel tree4.size) 0 tree4 BState.empty = .ok (d, 0) ∧
    d.instrs = (compile prog4).instrs ∧ d.jumps = (compile prog4).jumps ∧ d.consts = (compile prog4).consts :=
  build_refines_compile noFloat tree4 prog4 0 _ rep4 rfl (by rfl) (by rfl) (by decide)

example : (compile prog4).instrs = #[(.put, some 0), (.startSideEffect, none), (.put, some 1), (.endSideEffect, none),
    (.endExpression, none)] := by decide

/-! ### `treeOf`: a tree for every program of the fragment, and the tie on it -/

/-- … with `build`'s own check discharged from the shape of the tree (`validate_ok`, Lemmas/CompileTreeV.lean) -/
theorem build_refines_compile_shape (tree : Array ParseNode) (p : Program F) (root fuel : Nat) (pn : ParseNode)
    (hrep : Rep pf tree p.bodies 0 tree.size root p.main) (hshape : Shape tree 0 tree.size root)
    (hroot : tree[root]? = some pn) (hpar : pn.parent = none)
    (hmain : lookupBody p.bodies 0 = some p.main)
    (hcomplete : (compileState Prog.empty p).pending = []) (hfuel : 2 * tree.size + 1 ≤ fuel) :
    ∃ d, build pf fuel root tree BState.empty = .ok (d, 0) ∧
      d.instrs = (compile p).instrs ∧ d.jumps = (compile p).jumps ∧ d.consts = (compile p).consts :=
  build_refines_compile pf tree p root fuel hrep hmain (validate_ok hshape hroot hpar) hcomplete hfuel

variable (pr : Printer F)

/-- **the tie on `treeOf`** (all stages): for every program in the fragment that `treeOf` renders (`InFrag`: every construct
(side-effect blocks after a value only); lists of at least two items; nesting depth at most `depth`), `build` run on `treeOf p` returns the
entry `0` and the instructions, jump table and constants of `compile p` — no hypothesis about the tree is left -/
theorem build_refines_compile_treeOf (p : Program F) (depth fuel : Nat) (hfrag : InFrag pr pf p depth)
    (hmain : lookupBody p.bodies 0 = some p.main) (hcomplete : (compileState Prog.empty p).pending = [])
    (hfuel : 2 * (treeOf pr p depth).1.size + 1 ≤ fuel) :
    ∃ d, build pf fuel (treeOf pr p depth).2 (treeOf pr p depth).1 BState.empty = .ok (d, 0) ∧
      d.instrs = (compile p).instrs ∧ d.jumps = (compile p).jumps ∧ d.consts = (compile p).consts :=
  build_refines_compile pf _ p _ fuel (treeOf_rep pr pf p depth hfrag) hmain (treeOf_valid pr p depth) hcomplete hfuel

theorem build_refines_compile_treeOf_wf (p : Program F) (depth : Nat) (hwf : C01.WFProgramC p)
    (hfrag : InFrag pr pf p depth) :
    ∃ d, build pf (defaultFuel (treeOf pr p depth).1.size) (treeOf pr p depth).2 (treeOf pr p depth).1 BState.empty = .ok (d, 0) ∧
      d.instrs = (compile p).instrs ∧ d.jumps = (compile p).jumps ∧ d.consts = (compile p).consts :=
  build_refines_compile_treeOf pf pr p depth _ hfrag hwf.main0 (C01.compile_complete p hwf.labels)
    (by simp only [defaultFuel]; omega)

/- `stageOf`: the stage an expression belongs to: 1 straight line, 2 conditionals / logic / else-chains, 3 nested
expressions and `^~`, 4 side-effect blocks after a value -/
mutual
def stageOf : Expr F → Nat
  | .lit _ | .input | .ident _ => 1
  | .unary _ x => stageOf x
  | .binary _ a b | .pair a b | .applyTo a b | .seq a b | .infixApply a _ b => max (stageOf a) (stageOf b)
  | .prefixApply _ x | .suffixApply x _ => stageOf x
  | .list items => max 1 (stageItems items)
  | .cond _ a b | .and a b | .or a b => max 2 (max (stageOf a) (stageOf b))
  | .chain arms (some fe) => max 2 (max (stageArms arms) (stageOf fe))
  | .chain arms none => max 2 (stageArms arms)
  | .nested _ | .emptyNested => 3
  | .reapply x => max 3 (stageOf x)
  | .sideAfter x b => max 4 (max (stageOf x) (stageOf b))
def stageItems : List (Expr F) → Nat
  | [] => 0
  | x :: xs => max (stageOf x) (stageItems xs)
def stageArms : List (Bool × Expr F × Expr F) → Nat
  | [] => 0
  | (_, c, e) :: xs => max (max (stageOf c) (stageOf e)) (stageArms xs)
end

/-- **stage 1**, straight-line programs: literals, `$`, identifiers, operators, pairs, lists, `;`, identifier application -/
theorem stage1_straight_line (p : Program F) (_hs : stageOf p.main ≤ 1) (hwf : C01.WFProgramC p)
    (hfrag : InFrag pr pf p 0) :
    ∃ d, build pf (defaultFuel (treeOf pr p 0).1.size) (treeOf pr p 0).2 (treeOf pr p 0).1 BState.empty = .ok (d, 0) ∧
      d.instrs = (compile p).instrs ∧ d.jumps = (compile p).jumps ∧ d.consts = (compile p).consts :=
  build_refines_compile_treeOf_wf pf pr p 0 hwf hfrag

/-- **stage 2**, … and conditionals, `&&` / `||`, else-chains (out-of-line roots, `rootJump`, the terminator loop) -/
theorem stage2_branches (p : Program F) (_hs : stageOf p.main ≤ 2) (hwf : C01.WFProgramC p) (hfrag : InFrag pr pf p 0) :
    ∃ d, build pf (defaultFuel (treeOf pr p 0).1.size) (treeOf pr p 0).2 (treeOf pr p 0).1 BState.empty = .ok (d, 0) ∧
      d.instrs = (compile p).instrs ∧ d.jumps = (compile p).jumps ∧ d.consts = (compile p).consts :=
  build_refines_compile_treeOf_wf pf pr p 0 hwf hfrag

/-- **stage 3**, … and nested expressions (to any depth), `{ }`, `^~` -/
theorem stage3_bodies (p : Program F) (depth : Nat) (hwf : C01.WFProgramC p) (hfrag : InFrag pr pf p depth) :
    ∃ d, build pf (defaultFuel (treeOf pr p depth).1.size) (treeOf pr p depth).2 (treeOf pr p depth).1 BState.empty = .ok (d, 0) ∧
      d.instrs = (compile p).instrs ∧ d.jumps = (compile p).jumps ∧ d.consts = (compile p).consts :=
  build_refines_compile_treeOf_wf pf pr p depth hwf hfrag

/-- **C01 on `treeOf`**: `build` on the tree of a well-formed program in the fragment produces a data object that computes
what the source means -/
theorem C01_build_correct_treeOf (fo : FloatOps F) (host : Host F) (p : Program F) (depth : Nat) (input : Val F)
    (fuel : Nat) (v : Val F) (st : St F) (hwf : C01.WFProgram p) (hfrag : InFrag pr pf p depth)
    (h : evalProgram fo host fuel p input = .ok (v, st)) :
    ∃ d entry, build pf (defaultFuel (treeOf pr p depth).1.size) (treeOf pr p depth).2 (treeOf pr p depth).1 BState.empty
        = .ok (d, entry) ∧
      ∃ n s, run fo host (progOf d) n
          { pc := (progOf d).jumps[entry]?.getD 0, regs := [], vals := [input], frames := [], trace := [] } = (.halted s, n) ∧
        s.vals = [v] ∧ s.regs = [] ∧ s.frames = [] ∧ s.trace = st.trace :=
  C01_build_correct pf fo host _ p _ input fuel v st hwf (treeOf_rep pr pf p depth hfrag) (treeOf_valid pr p depth) h

/-! ### non-vacuity on `treeOf` -/

/-- a printer for the examples: natural numbers in decimal -/
def prF : Printer Float where
  lit := fun v => match v with
    | .num (.int (.ofNat n)) => (.number, Nat.toDigits 10 n)
    | _ => (.unit, [])
  name := fun _ => []

theorem lit_ok (n : Nat) (h : parseSimpleNumber noFloat (Nat.toDigits 10 n) = .ok (.int n)) :
    LitRep noFloat (Sk.mkPN (prF.lit (.num (.int n))) none none none) (.num (.int n)) := .num rfl h

/-- stage 1: `1 + (2 * 3)` — six nodes, the group included -/
theorem frag1 : InFrag prF noFloat prog1 0 := by
  simp only [InFrag, prog1, main1, int, fragE]
  exact ⟨by decide, lit_ok 1 (by rfl), by decide, lit_ok 2 (by rfl), lit_ok 3 (by rfl)⟩

example : (treeOf prF prog1 0).1.size = 6 ∧ (treeOf prF prog1 0).2 = 1 := by constructor <;> rfl

example : ∃ d, build noFloat (defaultFuel 6) 1 (treeOf prF prog1 0).1 BState.empty = .ok (d, 0) ∧
    d.instrs = (compile prog1).instrs ∧ d.jumps = (compile prog1).jumps ∧ d.consts = (compile prog1).consts :=
  build_refines_compile_treeOf noFloat prF prog1 0 _ frag1 rfl (by rfl) (by decide)

/-- stage 2: the else-chain `$ ?> 1 |> 2 ?> 3 |> 4`, and `$ && 5` -/
theorem frag2 : InFrag prF noFloat prog2 0 := by
  simp only [InFrag, prog2, main2, int, fragE, fragArms]
  exact ⟨by decide, ⟨trivial, lit_ok 1 (by rfl), lit_ok 2 (by rfl), lit_ok 3 (by rfl), trivial⟩, lit_ok 4 (by rfl)⟩

example : stageOf prog2.main = 2 := by decide

example : ∃ d, build noFloat 100 (treeOf prF prog2 0).2 (treeOf prF prog2 0).1 BState.empty = .ok (d, 0) ∧
    d.instrs = (compile prog2).instrs ∧ d.jumps = (compile prog2).jumps ∧ d.consts = (compile prog2).consts :=
  build_refines_compile_treeOf noFloat prF prog2 0 _ frag2 rfl (by rfl) (by decide)

theorem frag2b : InFrag prF noFloat prog2b 0 := by
  simp only [InFrag, prog2b, main2b, int, fragE]
  exact ⟨trivial, lit_ok 5 (by rfl)⟩

/-- where no group is needed `treeOf` IS the tree of the real parser (the PARSE dump of `$ && 5`, token text included) -/
example : treeOf prF prog2b 0 = (tree2b, 1) := by rfl

/-- stage 3: `{ ^~ 7 } ~~`, nesting depth 1 -/
theorem frag3 : InFrag prF noFloat prog3 1 := by
  simp only [InFrag, prog3, main3, int, fragE, okOf]
  exact ⟨by decide, _, rfl, by simp only [fragE]; exact lit_ok 7 (by rfl)⟩

example : stageOf prog3.main = 3 := by decide

example : ∃ d, build noFloat 100 (treeOf prF prog3 1).2 (treeOf prF prog3 1).1 BState.empty = .ok (d, 0) ∧
    d.instrs = (compile prog3).instrs ∧ d.jumps = (compile prog3).jumps ∧ d.consts = (compile prog3).consts :=
  build_refines_compile_treeOf noFloat prF prog3 1 _ frag3 rfl (by rfl) (by decide)

end Garnish.Props.C01Build
