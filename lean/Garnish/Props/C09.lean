/-
C09 — number arithmetic is exact or unit, never wrapped.
Of the seventeen `C09_int_<op>` the eleven arithmetic ones are instances of the one exactness theorem `Lemmas.apply_int` over the
table `Lemmas.intSpec` (Garnish/Lemmas/Num.lean); the two shifts are `Lemmas.shl_int` / `shr_int`, and the four bitwise ones are stated
bit by bit (`Spec.bit`), not through `intSpec`.
-/
import Garnish.Spec.Num
import Garnish.Lemmas.Num
namespace Garnish.Props.C09
open Garnish Garnish.Number

variable {F : Type} (fo : FloatOps F)

/-! ### integers: every operation equals the exact specification, for all i32 operands -/

theorem C09_int_plus (a b : Int) (ha : InRange a) (hb : InRange b) :
    plus fo (.int a) (.int b) = (Spec.add a b).map .int := Lemmas.apply_int fo .plus a b ha hb
theorem C09_int_subtract (a b : Int) (ha : InRange a) (hb : InRange b) :
    subtract fo (.int a) (.int b) = (Spec.sub a b).map .int := Lemmas.apply_int fo .subtract a b ha hb
theorem C09_int_multiply (a b : Int) (ha : InRange a) (hb : InRange b) :
    multiply fo (.int a) (.int b) = (Spec.mul a b).map .int := Lemmas.apply_int fo .multiply a b ha hb
theorem C09_int_divide (a b : Int) (ha : InRange a) (hb : InRange b) :
    divide fo (.int a) (.int b) = (Spec.div a b).map .int := Lemmas.apply_int fo .divide a b ha hb
theorem C09_int_integerDivide (a b : Int) (ha : InRange a) (hb : InRange b) :
    integerDivide fo (.int a) (.int b) = (Spec.div a b).map .int := Lemmas.apply_int fo .integerDivide a b ha hb
theorem C09_int_remainder (a b : Int) (ha : InRange a) (hb : InRange b) :
    remainder fo (.int a) (.int b) = (Spec.rem a b).map .int := Lemmas.apply_int fo .remainder a b ha hb
theorem C09_int_power (a b : Int) (ha : InRange a) (hb : InRange b) :
    power fo (.int a) (.int b) = (Spec.pow a b).map .int := Lemmas.apply_int fo .power a b ha hb
theorem C09_int_opposite (a : Int) (ha : InRange a) :
    opposite fo (.int a) = (Spec.neg a).map .int := Lemmas.apply_int fo .opposite a a ha ha
theorem C09_int_absoluteValue (a : Int) (ha : InRange a) :
    absoluteValue fo (.int a) = (Spec.abs a).map .int := Lemmas.apply_int fo .absoluteValue a a ha ha
theorem C09_int_increment (a : Int) (ha : InRange a) :
    increment fo (.int a) = (Spec.inc a).map .int := Lemmas.apply_int fo .increment a a ha ha
theorem C09_int_decrement (a : Int) (ha : InRange a) :
    decrement fo (.int a) = (Spec.dec a).map .int := Lemmas.apply_int fo .decrement a a ha ha
theorem C09_int_shl (a b : Int) (ha : InRange a) (hb : InRange b) :
    bitwiseShiftLeft (F := F) (.int a) (.int b) = (Spec.shl a b).map .int := Lemmas.shl_int a b ha hb
theorem C09_int_shr (a b : Int) (ha : InRange a) (hb : InRange b) :
    bitwiseShiftRight (F := F) (.int a) (.int b) = (Spec.shr a b).map .int := Lemmas.shr_int a b ha hb

/-- and / or / xor / not: the result is an i32 whose every bit is the bit operation of the operands' bits -/
theorem C09_int_bitwiseAnd (a b : Int) :
    ∃ r, bitwiseAnd (F := F) (.int a) (.int b) = some (.int r) ∧ InRange r ∧
      ∀ i, Spec.bit r i = (Spec.bit a i && Spec.bit b i) :=
  ⟨_, rfl, Lemmas.bv_toInt_inRange _, fun i => by simp only [Spec.bit, BitVec.ofInt_toInt, BitVec.getLsbD_and]⟩
theorem C09_int_bitwiseOr (a b : Int) :
    ∃ r, bitwiseOr (F := F) (.int a) (.int b) = some (.int r) ∧ InRange r ∧
      ∀ i, Spec.bit r i = (Spec.bit a i || Spec.bit b i) :=
  ⟨_, rfl, Lemmas.bv_toInt_inRange _, fun i => by simp only [Spec.bit, BitVec.ofInt_toInt, BitVec.getLsbD_or]⟩
theorem C09_int_bitwiseXor (a b : Int) :
    ∃ r, bitwiseXor (F := F) (.int a) (.int b) = some (.int r) ∧ InRange r ∧
      ∀ i, Spec.bit r i = (Spec.bit a i ^^ Spec.bit b i) :=
  ⟨_, rfl, Lemmas.bv_toInt_inRange _, fun i => by simp only [Spec.bit, BitVec.ofInt_toInt, BitVec.getLsbD_xor]⟩
theorem C09_int_bitwiseNot (a : Int) :
    ∃ r, bitwiseNot (F := F) (.int a) = some (.int r) ∧ InRange r ∧
      ∀ i, i < 32 → Spec.bit r i = !Spec.bit a i :=
  ⟨_, rfl, Lemmas.bv_toInt_inRange _, fun i hi => by simp only [Spec.bit, BitVec.ofInt_toInt, BitVec.getLsbD_not]; simp [hi]⟩

/-- every integer result is representable: nothing wrapped ever escapes -/
theorem C09_int_results_in_range (op : NumOp) (a b r : Int) (ha : InRange a) (hb : InRange b)
    (h : Number.apply fo op (.int a) (.int b) = some (.int r)) : InRange r := by
  rw [Lemmas.apply_int fo op a b ha hb, Lemmas.map_int_eq_some] at h
  exact Lemmas.intSpec_inRange ha hb h

/-- integer operands never produce a float -/
theorem C09_int_closed (op : NumOp) (a b : Int) (f : F) :
    Number.apply fo op (.int a) (.int b) ≠ some (.float f) := by
  cases op <;> simp only [Number.apply, plus, subtract, multiply, divide, remainder, integerDivide, power,
    Lemmas.doOp_int, isZeroNum, absoluteValue, opposite, increment, decrement, bitwiseNot, bitwiseAnd, bitwiseOr,
    bitwiseXor, bitwiseShiftLeft, bitwiseShiftRight] <;>
  (repeat' split) <;> simp_all

/-! ### floats and mixed operands: decision logic over an abstract IEEE type -/

/-- the binary arithmetic operations on at least one float return the float result when it is finite
and none otherwise (NaN and infinities alike), with the integer operand promoted by `ofInt` -/
theorem C09_float_logic (l r : Number F) (hmixed : ¬ (∃ a b, l = .int a ∧ r = .int b)) :
    let lf := match l with | .int a => fo.ofInt a | .float x => x
    let rf := match r with | .int b => fo.ofInt b | .float y => y
    let fin := fun (f : F) => if fo.isFinite f then some (Number.float f) else none
    plus fo l r = fin (fo.add lf rf) ∧ subtract fo l r = fin (fo.sub lf rf) ∧
    multiply fo l r = fin (fo.mul lf rf) ∧
    divide fo l r = (if isZeroNum fo r then none else fin (fo.div lf rf)) ∧
    remainder fo l r = (if isZeroNum fo r then none else fin (fo.rem lf rf)) := by
  cases l <;> cases r
  · exact absurd ⟨_, _, rfl, rfl⟩ hmixed
  all_goals
    simp only [plus, subtract, multiply, divide, remainder, doOp, Bool.not_eq_true', ← Bool.not_eq_true, ite_not, and_self]

/-- a float result is never non-finite -/
theorem C09_float_results_finite (op : NumOp) (l r : Number F) (f : F)
    (hop : op = .plus ∨ op = .subtract ∨ op = .multiply ∨ op = .divide ∨ op = .remainder ∨ op = .power)
    (h : Number.apply fo op l r = some (.float f)) : fo.isFinite f = true := by
  rcases hop with rfl | rfl | rfl | rfl | rfl | rfl
  · exact Lemmas.doOp_finite fo (intOp := overflowingAdd) (floatOp := fo.add) h
  · exact Lemmas.doOp_finite fo (intOp := overflowingSub) (floatOp := fo.sub) h
  · exact Lemmas.doOp_finite fo (intOp := overflowingMul) (floatOp := fo.mul) h
  · simp only [Number.apply, divide] at h
    split at h
    · cases h
    · exact Lemmas.doOp_finite fo h
  · simp only [Number.apply, remainder] at h
    split at h
    · cases h
    · exact Lemmas.doOp_finite fo h
  · cases l <;> cases r <;> simp only [Number.apply, power] at h <;> (repeat' split at h) <;> simp_all

/-- bitwise operations on a float operand have no result -/
theorem C09_bitwise_float_none (op : NumOp) (l r : Number F)
    (hop : op = .bitwiseAnd ∨ op = .bitwiseOr ∨ op = .bitwiseXor ∨ op = .bitwiseShiftLeft ∨ op = .bitwiseShiftRight)
    (hf : (∃ x, l = .float x) ∨ (∃ y, r = .float y)) : Number.apply fo op l r = none := by
  rcases hop with rfl | rfl | rfl | rfl | rfl <;>
  rcases hf with ⟨x, rfl⟩ | ⟨y, rfl⟩ <;> (try cases l) <;> (try cases r) <;>
  simp [Number.apply, bitwiseAnd, bitwiseOr, bitwiseXor, bitwiseShiftLeft, bitwiseShiftRight]

theorem C09_bitwiseNot_float_none (x : F) : bitwiseNot (.float x) = none := rfl

/-- negative exponents have no result, whatever the representation -/
theorem C09_power_negative_exponent (l : Number F) (b : Int) (hb : b < 0) :
    power fo l (.int b) = none := by
  cases l <;> simp [power, hb]

/-- What C09 asks of `//` with a float operand: the truncated quotient when it is an i32, none otherwise.
    NOT proved — it is false of the code: `as i32` saturates (`1e300 // 1.0` is 2147483647), and the
    repository's own test `integer_division_overflow` pins that behaviour, so it is recorded as
    known finding F-C09-1 instead of being repaired. What is proved is the `_partial` statement below. -/
def C09_integerDivide_float_full_statement : Prop :=
  ∀ (l r : Number F), ¬ (∃ a b, l = .int a ∧ r = .int b) →
    let lf := match l with | .int a => fo.ofInt a | .float x => x
    let rf := match r with | .int b => fo.ofInt b | .float y => y
    integerDivide fo l r = (if isZeroNum fo r then none else (fo.toI32? (fo.div lf rf)).map .int)

/-- `//` with a float operand: zero divisor has no result; otherwise the code returns the *saturating*
    conversion of the quotient, which is the exact truncated quotient whenever that is an i32
    (hypothesis `hsat`, the defining law of Rust's `as i32`). -/
theorem C09_integerDivide_float_partial (l r : Number F) (hmixed : ¬ (∃ a b, l = .int a ∧ r = .int b))
    (hsat : ∀ q v, fo.toI32? q = some v → fo.toI32Sat q = v) :
    let lf := match l with | .int a => fo.ofInt a | .float x => x
    let rf := match r with | .int b => fo.ofInt b | .float y => y
    (isZeroNum fo r = true → integerDivide fo l r = none) ∧
    (isZeroNum fo r = false → ∀ v, fo.toI32? (fo.div lf rf) = some v → integerDivide fo l r = some (.int v)) := by
  cases l <;> cases r
  · exact absurd ⟨_, _, rfl, rfl⟩ hmixed
  all_goals
    simp only [integerDivide]
    refine ⟨fun hz => by simp [hz], fun hz v hv => ?_⟩
    simp [hz, hsat _ _ hv]

/-! ### non-vacuity -/
example : InRange 2147483647 ∧ InRange (-2147483648) := by decide
example : Spec.add 2147483647 1 = none ∧ Spec.add 2147483646 1 = some 2147483647 := by decide
example : Spec.rem (-2147483648) (-1) = none ∧ Spec.div 7 (-2) = some (-3) ∧ Spec.rem (-7) 2 = some (-1) := by decide

end Garnish.Props.C09
