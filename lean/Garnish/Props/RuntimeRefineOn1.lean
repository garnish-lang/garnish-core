/-
C01 over the relativised contract, coverage group 1: logic (`And`, `Or`, `Not`, `Tis`, `Xor`) and the fifteen
arithmetic / bitwise instructions INCLUDING the defer protocol. The host enters through `HostRefinesI`: the data
object's `defer_op` / `resolve` / `apply`, called from a state satisfying the invariant, answer as the value-level host
does AND re-establish the invariant (for `simpleRStore hit h`: a condition on the host model `h`; the declining host
meets it, `C01_simple_host_declines`).
Side conditions of the instructions of this group (`MachOKOn1`): `MDeepN m k` only — the `k` registers the instruction pops lie
above what the newest frame saved (k = 2 for the binary ones and `Xor`, 1 for the unary ones, `Not`, `Tis`, `And`,
`Or`). Covered with this group: the 9 instructions of Props/RuntimeRefineOn.lean + these 20.
The text theorem `C01_text_to_simple_store1` is in namespace `Garnish.Props.C01TextStore`, with those of Props/C01TextStore*.lean.
-/
import Garnish.Props.C01TextStoreOnG
import Garnish.Lemmas.RuntimeOnHandlers
namespace Garnish.Props.RuntimeRefine
open Garnish Gen Garnish.Abs Garnish.Model.Equality Garnish.Model.Runtime Garnish.Lemmas.Runtime
open Garnish.Lemmas.Runtime.On

variable {F σ : Type} {S : RStore F σ} {Inv : σ → Prop} {Rd : σ → Nat → Prop} {P : Prog F} {host : Host F}
  (fo : FloatOps F)

theorem C01_refine_step_on1 (L : StoreLawsOn S Inv Rd) (HR : HostRefinesI S Inv host) (fuel : Nat)
    (H : OtherHandlers σ) {s : σ} {m : MState F} (hsim : Sim S P s m) (hi : Inv s) (hl : Loaded S P s)
    {instr : Instruction} {operand : Option Nat} (hfetch : P.instrs[m.pc]? = some (instr, operand))
    (hok : MachOKOn1 P m instr operand) : StepSimOn fo host S Inv P fuel H s m :=
  refine_step_on1 fo L HR fuel H hsim hi hl hfetch hok

theorem C01_refine_run_on1 (L : StoreLawsOn S Inv Rd) (HR : HostRefinesI S Inv host) (fuel : Nat)
    (H : OtherHandlers σ) (n : Nat) {s : σ} {m : MState F} (hsim : Sim S P s m) (hi : Inv s) (hl : Loaded S P s)
    (hok : RunOKG fo (MachOKOn1 P) host P n m) {m' : MState F} {k : Nat}
    (hrun : Abs.run fo host P n m = (.halted m', k)) :
    ∃ s', executeLoop fo S fuel H n s = .ok ((.end_, k), s') ∧ SimD S P s' m'.regs m'.vals m'.frames ∧
      DecKept S s s' ∧ Inv s' :=
  executeLoop_spec_gen fo (MachOKOn1 P) fuel H
    (fun s m instr operand hs hi hl hf hk => refine_step_on1 fo L HR fuel H hs hi hl hf hk) n s m hsim hi hl hok m' k hrun

end Garnish.Props.RuntimeRefine

namespace Garnish.Props.C01TextStore
open Garnish Garnish.Gen Garnish.Spec Garnish.Abs Garnish.Abs.Tree Garnish.Abs.Source Garnish.Model Garnish.Model.Parser
open Garnish.Model.Lexer Garnish.Model.Literals Garnish.Model.Build Garnish.Props.C01Build Garnish.Props.C01Source
open Garnish.Props.C02Numbered Garnish.Props.C01Text
open Garnish.Model.Equality Garnish.Model.Runtime Garnish.Lemmas.Runtime Garnish.Props.RuntimeRefine
open Garnish.Lemmas.Runtime.On Garnish.Lemmas.Runtime.Simple

variable {F : Type} (pf : List Char → Option F) (cc : CharClass)

/-- **characters → `SimpleGarnishData`**, coverage group 1 -/
theorem C01_text_to_simple_store1 {hit : List (SimCell F) → SimCell F → Option Nat} (hs : HitSound hit)
    (hh : SimHost F) (fo : FloatOps F) (host : Host F) (HR : HostRefinesI (simpleRStore hit hh) SInv host)
    (loopFuel : Nat) (H : OtherHandlers (SimState F)) (s : List Char) (toks : List LexerToken)
    (hlex : lex cc s = .ok toks) (hf : frag9' (toP toks) = true) (rt : RTree)
    (href : refParse Table.gen (toP toks) = .ok rt) (p : Program F) (hel : elaborate pf (toP toks) rt = some p)
    (hwf : C01.WFProgram p) (input : Val F) (fuel : Nat) (v : Val F) (st : St F)
    (h : evalProgram fo host fuel p input = .ok (v, st)) :
    ∃ d entry n, buildText pf cc s = .ok (d, entry) ∧
      ((progOf d).consts.toList.all isLeafS = true → isLeafS input = true →
        RunOKG fo (MachOKOn1 (reloc (progOf d))) host (reloc (progOf d)) n
          { pc := (progOf d).jumps[entry]?.getD 0, regs := [], vals := [input], frames := [], trace := [] } →
        ∃ s' a, executeLoop fo (simpleRStore hit hh) loopFuel H n
            (loadSimple (reloc (progOf d)) ((progOf d).jumps[entry]?.getD 0) input) = .ok ((.end_, n), s') ∧
          s'.values = [a] ∧ Decodes (simView s'.cells) a v ∧ (simpleRStore hit hh).regs s' = [] ∧
          (simpleRStore hit hh).frames s' = [] ∧ SInv s') :=
  C01_text_to_simple_store_of pf cc hh fo host loopFuel H MachOKOn1
    (fun P s m instr operand hsim hi hl hf hk =>
      refine_step_on1 fo (C01_simpleStore_lawsOn hs) HR loopFuel H hsim hi hl hf hk)
    s toks hlex hf rt href p hel hwf input fuel v st h

end Garnish.Props.C01TextStore
