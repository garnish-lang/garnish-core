/-
The symbol look-up contract of list access (`ListSymOn`, Model/Runtime/StoreOn.lean) on `SimpleGarnishData`.

The payload model `simpleRStore` leaves `get_list_item_with_symbol` unmodelled (`err`), which is why the refinement
theorems over `StoreLawsOn` exclude the arm "symbol key into a LIST" for Simple or take `ListSymOn` as a hypothesis.
Here the getter is modelled (`simpleRStoreA`: the association table `end_list` fills by modulo placement is a function
of the items and is never written again, so the look-up is `Store.Lists.lookupSimple` on the recomputed table — the
transliteration property C16 is about, tied to the code by the LIST suite) and the contract is decided:

* `ListSym_simple_lawsOn`: the store with the getter still meets `StoreLawsOn` (the contract does not mention it).
* `ListSym_simple_distinct`: for EVERY state, every list cell built by `start_list` / `add_to_list` / `end_list` whose
  items decode to values with pairwise different symbol keys, and every symbol, the look-up returns the value of the
  item keyed by it, or "absent" — never an error (`ListSymDistinctOn`).
* `ListSym_simple_not_general`: `ListSymOn` itself is FALSE of Simple — two items keyed by the same symbol are found in
  probe order, not in list order — so the hypothesis cannot be dropped as it stands; it can be replaced:
* `ListSym_access_distinct` / `ListSym_getAccess_distinct`: the two lemmas of the refinement chain that consume
  `ListSymOn`, from `ListSymDistinctOn` plus "the list looked into has distinct keys".
-/
import Garnish.Lemmas.SimpleListSym
namespace Garnish.Props.ListSymSimple
open Garnish Gen Garnish.Abs Garnish.Model.Equality Garnish.Model.Runtime
open Garnish.Lemmas.Runtime Garnish.Lemmas.Runtime.On Garnish.Lemmas.Runtime.Simple Garnish.Lemmas.Runtime.SimpleSym
open Garnish.Props.RuntimeRefine

variable {F σ : Type} {hit : List (SimCell F) → SimCell F → Option Nat} {h : SimHost F}

theorem ListSym_simple_lawsOn (hs : HitSound hit) : StoreLawsOn (simpleRStoreA hit h) SInv SReadable :=
  simpleA_lawsOn hs

theorem ListSym_simple_distinct (Inv : SimState F → Prop) : ListSymDistinctOn (simpleRStoreA hit h) Inv :=
  simpleA_listSymDistinct Inv

/-- the same, spelled out on the cells -/
theorem ListSym_simple_lookup {cells : List (SimCell F)} {a : Nat} {items : List Nat} {vs : List (Val F)} (sym : Nat)
    (hi : (simView cells).listItems a = some items) (hd : DecodesList (simView cells) items vs)
    (hk : DistinctKeys vs) :
    match Abs.lookupSym sym vs with
    | some v => ∃ r, simListSym cells a sym = .ok (some r) ∧ Decodes (simView cells) r v
    | none => simListSym cells a sym = .ok none :=
  simListSym_spec sym hi hd hk

theorem ListSym_simple_not_general : ¬ ListSymOn (simpleRStoreA hit h) SInv := simpleA_not_listSymOn

theorem ListSym_general_implies_distinct {S : RStore F σ} {Inv : σ → Prop} (hl : ListSymOn S Inv) :
    ListSymDistinctOn S Inv := ListSymOn.distinct hl

theorem ListSym_access_distinct {S : RStore F σ} {Inv : σ → Prop} {Rd : σ → Nat → Prop} (fo : FloatOps F)
    (L : StoreLawsOn S Inv Rd) (LS : ListSymDistinctOn S Inv) (fuel : Nat) {s : σ} {a : Nat} {v : Val F} (sym : Nat)
    (hd0 : Decodes (S.view s) a v) (hd : AccessDomain v) (hf : accessFuel v ≤ fuel) (hnc : ncConcat v)
    (hk : ∀ vs, v = .list vs → DistinctKeys vs) (hinv : Inv s) (hdp : Deep S s (S.regs s)) :
    AccOutI S Inv s (accessWithSymbol fo S fuel sym a s) (accessSym sym v) :=
  accessWithSymbol_spec_distinct fo L LS fuel sym hd0 hd hf hnc hk hinv hdp

theorem ListSym_getAccess_distinct {S : RStore F σ} {Inv : σ → Prop} {Rd : σ → Nat → Prop} (fo : FloatOps F)
    (L : StoreLawsOn S Inv Rd) (LS : ListSymDistinctOn S Inv) (fuel : Nat) {s : σ} {ka a : Nat} {key v : Val F}
    (hk : Decodes (S.view s) ka key) (hd0 : Decodes (S.view s) a v) (hd : AccessDomain v)
    (hkey : ∀ n, key = .num n → (∃ i, n = .int i) ∧ RangeOrdered fo n v) (hf : accessFuel v ≤ fuel)
    (hnc : ncConcat v) (hdk : ∀ y, key = .sym y → ∀ vs, v = .list vs → DistinctKeys vs)
    (hinv : Inv s) (hdp : Deep S s (S.regs s)) :
    AccOutI S Inv s (getAccessAddr fo S fuel ka a s) (getAccess fo key v) :=
  getAccessAddr_spec_distinct fo L LS fuel hk hd0 hd hkey hf hnc hdk hinv hdp

/-- non-vacuity: a list with two different keys is looked up as the contract says -/
example : simListSym ([.unit, .fls, .tru, .sym 5, .sym 6, .pair 3 0, .pair 4 2, .list [5, 6]] : List (SimCell Unit)) 7 6
    = .ok (some 2) := by rfl

end Garnish.Props.ListSymSimple
