/-
`SimpleGarnishData` against `StoreLaws`, the negative half: the clauses of the contract that Simple does NOT meet as
stated (each with the state that shows it), why the cache must confirm its hits, and a run of the positive laws
(`SimpleLaws`, Props/RuntimeRefineSimple.lean) from `SimpleGarnishData::new()`.
-/
import Garnish.Props.RuntimeRefineSimple
namespace Garnish.Props.RuntimeRefine
open Garnish Gen Garnish.Model.Equality Garnish.Model.Runtime Garnish.Lemmas.Runtime.Simple

variable {F : Type} {hit : List (SimCell F) → SimCell F → Option Nat} {h : SimHost F}

/-- `push_register(a)` with `a` not a data address, then `pop_register`: `Err("Register address … has no data")` -/
theorem C01_simple_pop_dangling (st : SimState F) {a : Nat} (ha : st.cells.length ≤ a) :
    ∃ st', (simpleRStore hit h).pushRegister a st = .ok ((), st') ∧
      (simpleRStore hit h).popRegister st' = .err .data := pop_dangling_errs st ha

/-- `push_frame(j)`, then `pop_register`: `Err("Popped StackFrame from registers …")`, whatever registers the caller
left — the contract (and the reference store, and the abstract machine) pops the caller's top register -/
theorem C01_simple_pop_under_frame (st : SimState F) (j : Nat) :
    ∃ st', (simpleRStore hit h).pushFrame j st = .ok ((), st') ∧
      (simpleRStore hit h).popRegister st' = .err .data := pop_under_frame_errs j

/-- `pop_frame` with no frame left (the outermost `EndExpression`): `None`, and every register is gone -/
theorem C01_simple_popFrame_drains {st : SimState F} (hinv : SInv st) (hf : (simpleRStore hit h).frames st = []) :
    (simpleRStore hit h).popFrame st = .ok (none, { st with register := [] }) := popFrame_drains hinv hf

/-- hence `StoreLaws.popFrameNil` fails in a state reachable from `new()` (one register, no frame) -/
theorem C01_simple_popFrameNil_fails :
    ∃ st : SimState F, SInv st ∧ (simpleRStore hit h).frames st = [] ∧
      ¬ ∃ st', (simpleRStore hit h).popFrame st = .ok (none, st') ∧
        Eff (simpleRStore hit h) st st' ((simpleRStore hit h).regs st) ((simpleRStore hit h).vals st) :=
  popFrameNil_fails

/-- `SimpleGarnishData` does not satisfy `StoreLaws` as stated — for any cache decision and any host -/
theorem C01_simpleStore_not_laws : ¬ StoreLaws (simpleRStore hit h) := by
  intro L
  obtain ⟨s1, hp, he⟩ := L.pushRegister 3 (SimState.init : SimState F)
  obtain ⟨s2, hp', herr⟩ := pop_dangling_errs (hit := hit) (h := h) (SimState.init : SimState F) (a := 3)
    (Nat.le_refl _)
  rw [hp] at hp'
  cases hp'
  obtain ⟨s3, hpop, _⟩ := L.popRegisterCons s1 3 _ he.regs
  rw [herr] at hpop
  cases hpop

/-- `merge_to_symbol_list` with a number operand: `Err("Cannot create symbol list from types …")`, where the contract
(`StoreLaws.mergeSome` with `Abs.mergeSymList`) asks for a symbol list with a number part -/
theorem C06_simple_merge_number_errs {st : SimState F} {l r : Nat} {n : Number F}
    (hl : Decodes ((simpleRStore hit h).view st) l (.num n)) :
    (simpleRStore hit h).mergeToSymbolList l r st = .err .data := merge_number_left_errs hl

/-- why `cache_add` must confirm a hit by comparison: a hit on an address that does not hold the number breaks
`StoreLaws.addNumber` at that state (before /repo d7e2139: two numbers with colliding hashes) -/
theorem C15_unsound_hit_breaks {st : SimState F} {n : Number F} {a : Nat} (hh : hit st.cells (.num n) = some a)
    (hbad : st.cells[a]? ≠ some (.num n)) :
    ¬ Adds (simpleRStore hit h) ((simpleRStore hit h).addNumber n) st (.num n) := by
  rintro ⟨b, s', hadd, hd, _⟩
  have : (simpleRStore hit h).addNumber n st = .ok (a, st) := by
    show SimState.cacheAdd hit (.num n) st = _
    simp only [SimState.cacheAdd, hh]
  rw [this] at hadd
  cases hadd
  exact hbad (num_inv hd)

/-- a cache that never hits is sound (so is one that compares: `HitSound` is what the comparison establishes) -/
theorem C15_hitSound_never : HitSound (fun (_ : List (SimCell F)) _ => none) := by
  intro _ _ _ hh; cases hh

/-! ### non-vacuity: from `new()`: a number, a symbol, their pair, on the registers, a frame, back -/

example (hs : HitSound hit) : ∃ st3 st4 st5 st6 p,
    Decodes ((simpleRStore hit h).view st3) p (.pair (.sym 3) (.num (.int 7))) ∧
    (simpleRStore hit h).pushRegister p st3 = .ok ((), st4) ∧ (simpleRStore hit h).regs st4 = [p] ∧
    (simpleRStore hit h).pushFrame 9 st4 = .ok ((), st5) ∧ (simpleRStore hit h).regs st5 = [p] ∧
    (simpleRStore hit h).frames st5 = [(9, [p])] ∧
    (simpleRStore hit h).popFrame st5 = .ok (some 9, st6) ∧ (simpleRStore hit h).regs st6 = [p] ∧
    (simpleRStore hit h).frames st6 = [] ∧ SInv st6 := by
  have L := C01_simpleStore_laws_core (h := h) hs
  obtain ⟨a, st1, _, d1, e1, i1, _⟩ := L.addNumber (.int 7) _ C01_simpleStore_init
  obtain ⟨b, st2, _, d2, e2, i2, _⟩ := L.addSymbol 3 _ i1
  obtain ⟨p, st3, _, d3, e3, i3, _⟩ := L.addPair b a _ _ _ i2 d2 (e2.keeps.dec _ _ d1)
  obtain ⟨hlt, hnf⟩ := L.readable _ _ _ d3 (by intro hc; cases hc)
  obtain ⟨st4, h4, e4, i4, _⟩ := L.pushRegister p _ i3 hlt hnf
  obtain ⟨st5, h5, e5, i5⟩ := L.pushFrame 9 _ i4
  have r4 : (simpleRStore hit h).regs st4 = [p] := by rw [e4.regs, e3.regs, e2.regs, e1.regs]; rfl
  have f4 : (simpleRStore hit h).frames st4 = [] := by rw [e4.frames, e3.frames, e2.frames, e1.frames]; rfl
  have f5 : (simpleRStore hit h).frames st5 = [(9, [p])] := by rw [e5.frames, r4, f4]
  obtain ⟨st6, h6, e6, i6⟩ := L.popFrameCons _ _ _ _ i5 f5
  exact ⟨st3, st4, st5, st6, p, d3, h4, r4, h5, by rw [e5.regs, r4], f5, h6, e6.regs, e6.frames, i6⟩

end Garnish.Props.RuntimeRefine
