/-
C01 from the source TEXT: characters → lexer → parser → builder → machine in one theorem.

  toP                 (Model/Tokens.lean) lexer tokens → parser tokens: same text and type, `col` = position in the list
  toP_numbered        (Lemmas/LexRewrite.lean) `NumberedFrom 0 (toP toks)` for every token list
  buildText           the pipeline of the models: `lex`, `parse ∘ toP`, `build` on the empty data object
  C01_text_build      if the lexed source is in `frag9'` and its reference tree elaborates to `p`, `buildText` returns entry 0
                      and exactly the instructions, jump table and constants of `compile p`
  C01_text_correct    … and if `p` is well formed and means `(v, st)`, the built object run on the value-level machine halts
                      with `v` and the host-call trace of `st`.
Hypotheses that remain, all about the source and decidable on a concrete string: the lexer model accepts (`lex cc s = .ok`),
the token list is in the fragment `frag9'` of Props/C02Numbered.lean, its reference tree (`refParse`) elaborates
(`elaborate`, Lemmas/SourceRep.lean), the program is a `C01.WFProgram`.  `cc` = the character classes of the lexer (any).
-/
import Garnish.Lemmas.LexRewrite
import Garnish.Props.C02Numbered
namespace Garnish.Props.C01Text
open Garnish Garnish.Gen Garnish.Spec Garnish.Abs Garnish.Abs.Tree Garnish.Abs.Source Garnish.Model Garnish.Model.Parser
open Garnish.Model.Lexer Garnish.Model.Literals Garnish.Model.Build Garnish.Props.C01Build Garnish.Props.C01Source
open Garnish.Props.C02Numbered

protected theorem toP_numbered (toks : List LexerToken) : NumberedFrom 0 (toP toks) := Lexer.toP_numbered toks

variable {F : Type} (pf : List Char → Option F) (cc : CharClass)

/-- **the pipeline of the models**: `build(parse(lex(source)))` on the empty data object -/
def buildText (s : List Char) : Outcome (BState F × Nat) :=
  Outcome.bind (lex cc s) fun toks =>
    Outcome.bind (parse (toP toks)) fun r => build pf (defaultFuel r.nodes.size) r.root r.nodes BState.empty

/-- `buildText` once the lexer's and the parser's answers are known -/
theorem buildText_of {s : List Char} {toks : List LexerToken} {r : ParseResult} (hlex : lex cc s = .ok toks)
    (hp : parse (toP toks) = .ok r) :
    buildText pf cc s = build pf (defaultFuel r.nodes.size) r.root r.nodes BState.empty := by
  rw [buildText, hlex, Outcome.bind, hp, Outcome.bind]

/-- **characters → builder** -/
theorem C01_text_build (s : List Char) (toks : List LexerToken) (hlex : lex cc s = .ok toks)
    (hf : frag9' (toP toks) = true) (rt : RTree) (href : refParse Table.gen (toP toks) = .ok rt)
    (p : Program F) (hel : elaborate pf (toP toks) rt = some p) (hcomplete : (compileState Prog.empty p).pending = []) :
    ∃ d, buildText pf cc s = .ok (d, 0) ∧
      d.instrs = (compile p).instrs ∧ d.jumps = (compile p).jumps ∧ d.consts = (compile p).consts := by
  obtain ⟨r, d, h1, h2, h3⟩ := C01_source_build pf (toP toks) hf (toP_numbered toks) rt href p hel hcomplete
  exact ⟨d, (buildText_of pf cc hlex h1).trans h2, h3⟩

/-- **characters → machine result**: one theorem from the source text to the value and host-call trace the machine
produces on the object that the (models of the) lexer, parser and builder make of it -/
theorem C01_text_correct (fo : FloatOps F) (host : Host F) (s : List Char) (toks : List LexerToken)
    (hlex : lex cc s = .ok toks) (hf : frag9' (toP toks) = true) (rt : RTree)
    (href : refParse Table.gen (toP toks) = .ok rt) (p : Program F) (hel : elaborate pf (toP toks) rt = some p)
    (hwf : C01.WFProgram p) (input : Val F) (fuel : Nat) (v : Val F) (st : St F)
    (h : evalProgram fo host fuel p input = .ok (v, st)) :
    ∃ d entry, buildText pf cc s = .ok (d, entry) ∧
      ∃ n m, run fo host (progOf d) n
          { pc := (progOf d).jumps[entry]?.getD 0, regs := [], vals := [input], frames := [], trace := [] } = (.halted m, n) ∧
        m.vals = [v] ∧ m.regs = [] ∧ m.frames = [] ∧ m.trace = st.trace := by
  obtain ⟨r, d, entry, h1, h2, h3⟩ :=
    C01_source_correct pf fo host (toP toks) hf (toP_numbered toks) rt href p hel hwf input fuel v st h
  exact ⟨d, entry, (buildText_of pf cc hlex h1).trans h2, h3⟩

/-! ### non-vacuity: source strings, everything by evaluation -/

/-- character classes for the examples (ASCII; the theorems hold for every `CharClass`) -/
def asciiCC : CharClass where
  isAlphanumeric := fun c => c.isAlphanum
  isNumeric := fun c => c.isDigit

def lexed (s : String) : List LexerToken :=
  match lex asciiCC s.toList with
  | .ok toks => toks
  | _ => []

/-- `lexed` answers `[]` when the lexer fails, so a non-empty answer is the lexer's: one evaluation, of the token list, also
shows that the lexer accepts -/
theorem lex_lexed {s : String} {toks : List PToken} (h : toP (lexed s) = toks) (hne : toks ≠ []) :
    lex asciiCC s.toList = .ok (lexed s) := by
  have hl : lexed s ≠ [] := by rintro e; rw [e] at h; exact hne h.symm
  -- `rw`, not `unfold`: any definitional unfolding next to `lex asciiCC s.toList` makes Lean reduce the lexer on the open `s`
  rw [lexed] at hl ⊢
  generalize lex asciiCC s.toList = x at hl ⊢
  cases x with
  | ok toks => rfl
  | _ => exact absurd rfl hl

/-- `"$ ?> 1 |> 2"`: the token list of Props/C01Source.lean `exCond` -/
theorem text_cond_toks : toP (lexed "$ ?> 1 |> 2") = exCond := by decide +kernel
theorem text_cond_lex : lex asciiCC "$ ?> 1 |> 2".toList = .ok (lexed "$ ?> 1 |> 2") :=
  lex_lexed text_cond_toks (List.cons_ne_nil _ _)

example : ∃ d, buildText noFloat asciiCC "$ ?> 1 |> 2".toList = .ok (d, 0) ∧
    d.instrs = (compile progCond).instrs ∧ d.jumps = (compile progCond).jumps ∧ d.consts = (compile progCond).consts :=
  C01_text_build noFloat asciiCC _ _ text_cond_lex (by rw [text_cond_toks]; exact exCond_frag') _
    (by rw [text_cond_toks]; exact exCond_ref) progCond (by rw [text_cond_toks]; exact exCond_elab) progCond_pending

/-- on input `true` the text `$ ?> 1 |> 2` means `1`, and that is what the machine computes on the object built from it -/
example (fo : FloatOps Float) (host : Host Float) :
    ∃ d entry, buildText noFloat asciiCC "$ ?> 1 |> 2".toList = .ok (d, entry) ∧
      ∃ n m, run fo host (progOf d) n
          { pc := (progOf d).jumps[entry]?.getD 0, regs := [], vals := [.tru], frames := [], trace := [] } = (.halted m, n) ∧
        m.vals = [.num (.int 1)] ∧ m.regs = [] ∧ m.frames = [] ∧ m.trace = [] :=
  C01_text_correct noFloat asciiCC fo host _ _ text_cond_lex (by rw [text_cond_toks]; exact exCond_frag') _
    (by rw [text_cond_toks]; exact exCond_ref) progCond (by rw [text_cond_toks]; exact exCond_elab) progCond_wf
    .tru 5 _ _ (progCond_meaning fo host)

/-- `"{ $ + 1 } <~ 5"` -/
theorem text_nested_toks : toP (lexed "{ $ + 1 } <~ 5") = exNested := by decide +kernel
theorem text_nested_lex : lex asciiCC "{ $ + 1 } <~ 5".toList = .ok (lexed "{ $ + 1 } <~ 5") :=
  lex_lexed text_nested_toks (List.cons_ne_nil _ _)

example : ∃ d, buildText noFloat asciiCC "{ $ + 1 } <~ 5".toList = .ok (d, 0) ∧
    d.instrs = (compile progNested).instrs ∧ d.jumps = (compile progNested).jumps ∧ d.consts = (compile progNested).consts :=
  C01_text_build noFloat asciiCC _ _ text_nested_lex (by rw [text_nested_toks]; exact exNested_frag') _
    (by rw [text_nested_toks]; exact exNested_ref) progNested (by rw [text_nested_toks]; exact exNested_elab)
    progNested_pending

/-- `"1, $ 3, (4,5)"` -/
theorem text_items_toks : toP (lexed "1, $ 3, (4,5)") = exItems := by decide +kernel
theorem text_items_lex : lex asciiCC "1, $ 3, (4,5)".toList = .ok (lexed "1, $ 3, (4,5)") :=
  lex_lexed text_items_toks (List.cons_ne_nil _ _)

example : ∃ d, buildText noFloat asciiCC "1, $ 3, (4,5)".toList = .ok (d, 0) ∧
    d.instrs = (compile progItems).instrs ∧ d.jumps = (compile progItems).jumps ∧ d.consts = (compile progItems).consts :=
  C01_text_build noFloat asciiCC _ _ text_items_lex (by rw [text_items_toks]; exact exItems_frag') _
    (by rw [text_items_toks]; exact exItems_ref) progItems (by rw [text_items_toks]; exact exItems_elab) progItems_pending

end Garnish.Props.C01Text
