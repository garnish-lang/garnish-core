/-
C11 — equality is structural and an equivalence relation.
`valEq` (Abs/Ops.lean) compares normal forms: integers and floats numerically, a char as the
one-element text, a byte as the one-element byte list, pairs component-wise, lists and concatenations
as the flat sequence of their items. The OP.Equal/NotEqual suites tie it to both data implementations.
Domain (`Clean`): no NaN (unreachable since the C09 fix), integers in the i32 range, no
slice / partial / custom values, range end points unit or number.
-/
import Garnish.Lemmas.Eq
import Garnish.Abs.Machine
import Garnish.Lemmas.MachineTable
namespace Garnish.Props.C11
open Garnish Gen Garnish.Abs Garnish.Lemmas

variable {F : Type} (fo : FloatOps F) (host : Host F)

def Clean (v : Val F) : Prop := NVal.clean fo (norm v) = true

theorem C11_eq_refl (h : FloatEqLaws fo) (v : Val F) (hc : Clean fo v) : valEq fo v v = true :=
  nvalEq_refl fo h _ hc

theorem C11_eq_symm (h : FloatEqLaws fo) (a b : Val F) : valEq fo a b = valEq fo b a :=
  nvalEq_symm fo h _ _

theorem C11_eq_trans (h : FloatEqLaws fo) (a b c : Val F) (ha : Clean fo a) (hc : Clean fo c)
    (h1 : valEq fo a b = true) (h2 : valEq fo b c = true) : valEq fo a c = true :=
  nvalEq_trans fo h _ _ _ ha hc h1 h2

/-- `!=` is always the negation of `==` -/
theorem C11_ne_is_negation (l r : Val F) :
    binaryOp fo .equal l r = some (.val (Val.ofBool (valEq fo l r))) ∧
    binaryOp fo .notEqual l r = some (.val (Val.ofBool (!valEq fo l r))) := ⟨rfl, rfl⟩

/-! ### what "structurally identical" means, case by case -/

theorem C11_numbers_numeric (a b : Number F) : valEq fo (.num a) (.num b) = Number.numEq fo a b := by simp [valEq, norm, nvalEq]
theorem C11_int_float (a : Int) (f : F) : valEq fo (.num (.int a)) (.num (.float f)) = fo.feq (fo.ofInt a) f := by simp [valEq, norm, nvalEq, Number.numEq]
theorem C11_text_elementwise (a b : List Nat) : valEq fo (.chars a) (.chars b) = (a == b) := by simp [valEq, norm, nvalEq]
theorem C11_bytes_elementwise (a b : List Nat) : valEq fo (.bytes a) (.bytes b) = (a == b) := by simp [valEq, norm, nvalEq]
theorem C11_char_is_one_element_text (c : Nat) (cs : List Nat) :
    valEq fo (.char c) (.chars cs) = ([c] == cs) ∧ valEq fo (.chars cs) (.char c) = (cs == [c]) := by simp [valEq, norm, nvalEq]
theorem C11_byte_is_one_element_list (b : Nat) (bs : List Nat) :
    valEq fo (.byte b) (.bytes bs) = ([b] == bs) ∧ valEq fo (.bytes bs) (.byte b) = (bs == [b]) := by simp [valEq, norm, nvalEq]
theorem C11_pairs_componentwise (a b c d : Val F) :
    valEq fo (.pair a b) (.pair c d) = (valEq fo a c && valEq fo b d) := by
  simp [valEq, norm, nvalEq]

/-- a list equals the concatenation of its parts: both are the same flat sequence of items -/
theorem C11_concat_is_flat_sequence (xs ys : List (Val F)) (a : Val F) :
    valEq fo (.concat (.list xs) (.list ys)) a = valEq fo (.list (xs ++ ys)) a := by
  simp [valEq, norm, normConcat, normList_append]

/-- a non-list operand of a concatenation is one item -/
theorem C11_concat_single_items (x y : Val F) (a : Val F)
    (hx : ∀ items, x ≠ .list items) (hx' : ∀ l r, x ≠ .concat l r)
    (hy : ∀ items, y ≠ .list items) (hy' : ∀ l r, y ≠ .concat l r) :
    valEq fo (.concat x y) a = valEq fo (.list [x, y]) a := by
  have single : ∀ v : Val F, (∀ items, v ≠ .list items) → (∀ l r, v ≠ .concat l r) → normConcat v = [norm v] := by
    intro v h h'
    cases v <;> first | exact absurd rfl (h _) | exact absurd rfl (h' _ _) | simp only [normConcat]
  simp [valEq, norm, normList, single x hx hx', single y hy hy']

/-- different kinds of value are never equal (a sample of the `_ => false` arm) -/
theorem C11_kinds_differ (n : Number F) (cs : List Nat) (s : Nat) (xs : List (Val F)) :
    valEq fo (.num n) (.chars cs) = false ∧ valEq fo (.sym s) (.chars cs) = false ∧
    valEq fo (.list xs) (.chars cs) = false ∧ valEq fo .unit .fls = false ∧ valEq fo (.char 97) (.byte 97) = false := by
  simp [valEq, norm, nvalEq]

/-- executing `==` replaces exactly the two operands by one boolean — nothing is left behind on the
operand stack, the input-value stack and the frames are untouched, the host is not consulted -/
theorem C11_step_equal (P : Prog F) (s : MState F) (d : Option Nat) (l r : Val F) (rs : List (Val F))
    (hi : P.instrs[s.pc]? = some (.equal, d)) (hr : s.regs = r :: l :: rs) :
    step fo host P s = seqNext P s (.ok { s with regs := Val.ofBool (valEq fo l r) :: rs }) :=
  Runtime.step_generic_binary fo hi rfl hr rfl rfl

theorem C11_step_notEqual (P : Prog F) (s : MState F) (d : Option Nat) (l r : Val F) (rs : List (Val F))
    (hi : P.instrs[s.pc]? = some (.notEqual, d)) (hr : s.regs = r :: l :: rs) :
    step fo host P s = seqNext P s (.ok { s with regs := Val.ofBool (!valEq fo l r) :: rs }) :=
  Runtime.step_generic_binary fo hi rfl hr rfl rfl

/-! ### non-vacuity: the domain is inhabited by nested values -/
example : NVal.clean fo (norm (Val.list [.num (.int 1), .pair (.sym 5) (.chars [97]), .concat (.byte 1) (.list [])])) = true := by
  simp [norm, normList, normConcat, NVal.clean, NVal.cleanList, numClean, InRange]

end Garnish.Props.C11
