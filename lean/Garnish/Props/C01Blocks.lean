/-
C01 with side-effect blocks `v [ body ]`, from tokens and from the source text.

The chain itself covers them: `Rep.side` (Lemmas/CompileTree.lean), its simulation `sim_side` (Lemmas/CompileTreeNodes.lean:
value node, `StartSideEffect`, body, `EndSideEffect`), hence `build_refines_compile` / `C01_build_correct`; `elabWith` reads
a value node over a `SideEffect` node as `.sideAfter v body` and `parse_rep` has the case; `C01_compile_correct` always
covered them (`wfE (.sideAfter x b) = wfE x && wfE b && noR b`: no `^~` out of a block).
What is different from Props/C01Text.lean: `[` is outside the reference grammar (`refParse` answers `unsupported`) and
outside `frag9'`, so the reference tree is the one read off the parser model's own result (`refTreeOf r t`), and of
`WellNumbered` only the two node-local parts hold for every token list (`C02_parse_linked`, `C02_parse_brackets`) —
  PARTIAL: `t.inorder = List.range r.nodes.size` (the nodes are numbered in in-order and all in the tree) is a hypothesis;
  it is decidable and checked by evaluation below.  MISSING: the numbering theorem of Props/C02Numbered.lean for token lists
  with blocks (`C02_parse_block_*` of Props/C02Parse describe the node shapes of `[ body ]`, `v [ body ]`, `e op [ body ]` and
  `e op [ body ] v`, not the numbering).
Not elaborated (`none`), because the builder itself drops code there or there is no AST for it: `[b] v` (block before a value,
the LEFT child of the value node), `(e) [b]` and `v [b] [c]` (`handle_side_effect` never looks at the `left` of the node: the
group content / the first block is not compiled), `[ ]`.
Suite ELAB: no generated program is `none` (the programs with blocks are `same-p`: elaborated from the
parser model's tree).
-/
import Garnish.Props.C01Text
namespace Garnish.Props.C01Blocks
open Garnish Garnish.Gen Garnish.Spec Garnish.Abs Garnish.Abs.Tree Garnish.Abs.Source Garnish.Model Garnish.Model.Parser
open Garnish.Model.Lexer Garnish.Model.Literals Garnish.Model.Build Garnish.Props.C01Build Garnish.Props.C01Source
open Garnish.Props.C02Numbered Garnish.Props.C01Text

variable {F : Type} (pf : List Char → Option F) (cc : CharClass)

/-- for EVERY token list: the parser's result is well numbered as soon as its in-order walk is `0 … size-1` -/
theorem wellNumbered_of_inorder (toks : List PToken) (hnum : NumberedFrom 0 toks) (r : ParseResult) (t : Spec.Tree)
    (hp : parse toks = .ok r) (ht : toTree r = some t) (hin : t.inorder = List.range r.nodes.size) : WellNumbered toks r t :=
  ⟨hin, C02_parse_linked toks hnum r hp, C02_parse_brackets toks hnum r t hp ht⟩

/-- **tokens → builder, every token list** (blocks included) -/
theorem C01_tokens_build (toks : List PToken) (hnum : NumberedFrom 0 toks) (r : ParseResult) (t : Spec.Tree)
    (hp : parse toks = .ok r) (ht : toTree r = some t) (hin : t.inorder = List.range r.nodes.size)
    (p : Program F) (hel : elaborate pf toks (refTreeOf r t) = some p)
    (hcomplete : (compileState Prog.empty p).pending = []) :
    ∃ d, build pf (defaultFuel r.nodes.size) r.root r.nodes BState.empty = .ok (d, 0) ∧
      d.instrs = (compile p).instrs ∧ d.jumps = (compile p).jumps ∧ d.consts = (compile p).consts := by
  obtain ⟨κ, hk⟩ := elaborate_eq pf toks _ p hel
  exact C01_parse_build pf toks κ r t p ht (wellNumbered_of_inorder toks hnum r t hp ht hin) hk hcomplete

/-- **characters → machine result, every source text** whose parse result is numbered in in-order (blocks included) -/
theorem C01_text_correct_blocks (fo : FloatOps F) (host : Host F) (s : List Char) (toks : List LexerToken)
    (hlex : lex cc s = .ok toks) (r : ParseResult) (t : Spec.Tree) (hp : parse (toP toks) = .ok r) (ht : toTree r = some t)
    (hin : t.inorder = List.range r.nodes.size) (p : Program F) (hel : elaborate pf (toP toks) (refTreeOf r t) = some p)
    (hwf : C01.WFProgram p) (input : Val F) (fuel : Nat) (v : Val F) (st : St F)
    (h : evalProgram fo host fuel p input = .ok (v, st)) :
    ∃ d entry, buildText pf cc s = .ok (d, entry) ∧
      ∃ n m, run fo host (progOf d) n
          { pc := (progOf d).jumps[entry]?.getD 0, regs := [], vals := [input], frames := [], trace := [] } = (.halted m, n) ∧
        m.vals = [v] ∧ m.regs = [] ∧ m.frames = [] ∧ m.trace = st.trace := by
  obtain ⟨d, entry, h1, h2⟩ := C01_parse_correct pf fo host (toP toks) r t p input fuel v st ht
    (wellNumbered_of_inorder (toP toks) (toP_numbered toks) r t hp ht hin) hel hwf h
  exact ⟨d, entry, (buildText_of pf cc hlex hp).trans h1, h2⟩

/-! ### non-vacuity: `"5 [6], 1"` -/

def srcBlock : String := "5 [6], 1"
def mainBlock : Expr Float := .list [.sideAfter (int 5) (int 6), int 1]
def progBlock : Program Float := { main := mainBlock, bodies := [(0, mainBlock)] }

def toksBlock : List PToken := toP (lexed srcBlock)

/-- the one evaluation of the lexer on the text; what follows computes on these tokens -/
theorem toksBlock_eq : toksBlock =
    [⟨['5'], .number, 0, 0⟩, ⟨[' '], .whitespace, 0, 1⟩, ⟨['['], .startSideEffect, 0, 2⟩, ⟨['6'], .number, 0, 3⟩,
     ⟨[']'], .endSideEffect, 0, 4⟩, ⟨[','], .comma, 0, 5⟩, ⟨[' '], .whitespace, 0, 6⟩, ⟨['1'], .number, 0, 7⟩] := by
  decide +kernel

theorem block_lex : lex asciiCC srcBlock.toList = .ok (lexed srcBlock) :=
  lex_lexed toksBlock_eq (List.cons_ne_nil _ _)
theorem block_parse : parse toksBlock = .ok (resultOf toksBlock) :=
  parse_resultOf (by rw [toksBlock_eq]; decide +kernel)
theorem block_tree : toTree (resultOf toksBlock) = some (treeOfResult toksBlock) := by rw [toksBlock_eq]; decide +kernel
theorem block_inorder : (treeOfResult toksBlock).inorder = List.range (resultOf toksBlock).nodes.size := by
  rw [toksBlock_eq]; decide +kernel
/-- the reference parser does not know blocks … -/
example : (match refParse Table.gen toksBlock with | .ok _ => true | _ => false) = false := by
  rw [toksBlock_eq]; decide +kernel
/-- … the tree of the parser model elaborates to the program -/
theorem block_elab : elaborate noFloat toksBlock (refTreeOf (resultOf toksBlock) (treeOfResult toksBlock)) = some progBlock := by
  rw [toksBlock_eq]; rfl

theorem progBlock_wf : C01.WFProgram progBlock := .ofCheck rfl rfl (by rfl)

example : ∃ d, build noFloat (defaultFuel (resultOf toksBlock).nodes.size) (resultOf toksBlock).root
      (resultOf toksBlock).nodes BState.empty = .ok (d, 0) ∧
    d.instrs = (compile progBlock).instrs ∧ d.jumps = (compile progBlock).jumps ∧ d.consts = (compile progBlock).consts :=
  -- `@`: a plain application has its expected type `NumberedFrom 0 toksBlock` reduced first, which runs the lexer
  C01_tokens_build noFloat toksBlock (@toP_numbered _) _ _ block_parse block_tree block_inorder progBlock block_elab (by decide +kernel)

example : (compile progBlock).instrs = #[(.put, some 0), (.startSideEffect, none), (.put, some 1), (.endSideEffect, none),
    (.put, some 2), (.makeList, some 2), (.endExpression, none)] := by decide

/-- the source means the list `5, 1` (the block's value is dropped), and that is what the machine computes on the object built from the
text -/
theorem progBlock_meaning (fo : FloatOps Float) (host : Host Float) :
    evalProgram fo host 6 progBlock .unit = .ok (.list [.num (.int 5), .num (.int 1)], ⟨.unit, []⟩) := by
  simp [evalProgram, evalBody, evalF, evalList, lookupBody, progBlock, mainBlock, int]

example (fo : FloatOps Float) (host : Host Float) :
    ∃ d entry, buildText noFloat asciiCC srcBlock.toList = .ok (d, entry) ∧
      ∃ n m, run fo host (progOf d) n
          { pc := (progOf d).jumps[entry]?.getD 0, regs := [], vals := [.unit], frames := [], trace := [] } = (.halted m, n) ∧
        m.vals = [.list [.num (.int 5), .num (.int 1)]] ∧ m.regs = [] ∧ m.frames = [] ∧ m.trace = [] :=
  C01_text_correct_blocks noFloat asciiCC fo host _ _ block_lex _ _ block_parse block_tree block_inorder progBlock block_elab
    progBlock_wf .unit 6 _ _ (progBlock_meaning fo host)

end Garnish.Props.C01Blocks
