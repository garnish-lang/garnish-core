/-
C18, the result half for the VALUE wrap `pre ++ [v] ++ post ↦ pre ++ ( :: v :: ) :: post`, with the text agreement DERIVED from the
rewrite (`C18WrapResult.C18_wrapValue_result_same` has it as a hypothesis).

  C18_wrapValue_texts_agree      the two reference trees, parentheses removed, are relabellings of each other (`wrapPos`: positions
                                 before the `(` stay, `v` moves by one, the rest by two) that read the same token texts, and they
                                 elaborate to the same program.  Proof: the in-order walk of a reference tree is the list of the
                                 significant positions (`refParse_inorder`), those of the wrapped list are computed from the
                                 original ones (`significant_wrapValue`), the `( )` nodes are exactly the positions that carry a
                                 `(` (`kindOK_of`, from `refParse_nodes`), `relabel_of_erase_sig`, `elaborate_relabel` — put together in
                                 `elaborate_wrapValue_ungroup` (Lemmas/WrapSig.lean), which the theorem cites.
  C18_wrapValue_result_same'     hypotheses on the ORIGINAL list: `wrapValueOK pre v post` (decidable, tokens), `NoTrim`, its
                                 reference tree `T` has only redundant parentheses (`safe T`) and sane node kinds
                                 (`strippedOK`, true of every tree that elaborates); on the wrapped side ONE hypothesis is left:
                                 `safe T'`.  Conclusion: the wrapped list has a reference tree, and it elaborates to the same
                                 program — same value, trace or error of `evalProgram` for every input, host and fuel.
WHY `safe T'` stays: from what the tree half exports — `TreeEqGroups T T'`, the in-order walks, the node
kinds — the PLACE of the new `( )` node in `T'` is not determined: `(a) + b` and `(a + b)` have the same tree up to `( )` nodes
and the same in-order walk (a closing parenthesis leaves no node).  A token-level guard would need the exact statement
`T' = T with the leaf of v replaced by ( leaf )`, i.e. the simulation of Lemmas/RefWrap.lean (`refLoop_b`) with equality instead of
`EStrip` off the spine.  With that, `safe T'` follows from `safe T` alone: a value is never a list, a conditional or a block, so
the new pair passes every clause of the guard.
-/
import Garnish.Lemmas.WrapSig
import Garnish.Props.C18WrapResult
namespace Garnish.Props.C18WrapResult
open Garnish Garnish.Gen Garnish.Spec Garnish.Abs Garnish.Abs.Source Garnish.Model.Parser Garnish.Props.C02Parse
open Garnish.Props.C18Parse Garnish.Props.C18Wrap Garnish.Props.C01Source Garnish.Props.C01Build

variable {F : Type} (pf : List Char → Option F)

/-- the wrapped list needs no trimming either -/
theorem noTrim_wrapValue {pre post : List PToken} {o v c : PToken} (ho : o.type = .startGroup) (hc : c.type = .endGroup)
    (h : NoTrim (pre ++ v :: post)) : NoTrim (pre ++ o :: v :: c :: post) := by
  obtain ⟨_, h1, h2⟩ := h
  have to : isTrimmable o = false := by simp [isTrimmable, ho]
  have tc : isTrimmable c = false := by simp [isTrimmable, hc]
  refine ⟨by simp, ?_, ?_⟩
  · cases pre with
    | nil => exact (trimStart_head _ _).mpr to
    | cons x pre' => exact (trimStart_head _ _).mpr ((trimStart_head _ _).mp h1)
  · have e : (pre ++ o :: v :: c :: post).reverse = post.reverse ++ c :: v :: o :: pre.reverse := by simp
    have e0 : (pre ++ v :: post).reverse = post.reverse ++ v :: pre.reverse := by simp
    rw [e]; rw [e0] at h2
    cases hr : post.reverse with
    | nil => exact (trimStart_head _ _).mpr tc
    | cons y r => rw [hr] at h2; exact (trimStart_head _ _).mpr ((trimStart_head _ _).mp h2)

/-- **text agreement, derived**: the wrapped list has a reference tree, equal to the original one up to `( )` nodes, and the two
trees without their parentheses elaborate to the same program -/
theorem C18_wrapValue_texts_agree {pre post : List PToken} {v o c : PToken} {T : RTree}
    (hw : wrapValueOK pre v post = true) (ho : o.type = .startGroup) (hc : c.type = .endGroup)
    (hn : NoTrim (pre ++ ([v] ++ post))) (href : refParse Table.gen (pre ++ ([v] ++ post)) = .ok T)
    (hQ : strippedOK T.stripGroups = true) :
    ∃ T', refParse Table.gen (pre ++ o :: ([v] ++ c :: post)) = .ok T' ∧ TreeEqGroups T T' ∧
      elaborate pf (pre ++ o :: ([v] ++ c :: post)) (ungroup T') = elaborate pf (pre ++ ([v] ++ post)) (ungroup T) := by
  have hn' := noTrim_wrapValue ho hc (by simpa using hn)
  have h := C18_refParse_wrapValue hw ho hc hn (by simpa using hn') href
  rw [href] at h
  obtain ⟨T', hT', hE⟩ := ORel.of_ok h
  have hv : isValueTok v = true := by
    simp only [wrapValueOK, Bool.and_eq_true] at hw
    exact hw.1.1
  refine ⟨T', hT', hE, ?_⟩
  exact elaborate_wrapValue_ungroup pf ho hc hv (by simpa using hn) hn' (by simpa using href) (by simpa using hT') hE hQ

/-- **C18, a value token in parentheses: the same program and the same result** -/
theorem C18_wrapValue_result_same' (fo : FloatOps F) (host : Host F) {pre post : List PToken} {v o c : PToken} {T : RTree}
    (hw : wrapValueOK pre v post = true) (ho : o.type = .startGroup) (hc : c.type = .endGroup)
    (hn : NoTrim (pre ++ ([v] ++ post))) (href : refParse Table.gen (pre ++ ([v] ++ post)) = .ok T)
    (hQ : strippedOK T.stripGroups = true) (hs : safe T = true) :
    ∃ T', refParse Table.gen (pre ++ o :: ([v] ++ c :: post)) = .ok T' ∧ TreeEqGroups T T' ∧
      (safe T' = true →
        elaborate pf (pre ++ o :: ([v] ++ c :: post)) T' = elaborate pf (pre ++ ([v] ++ post)) T ∧
        ∀ (fuel : Nat) (input : Val F),
          (elaborate pf (pre ++ o :: ([v] ++ c :: post)) T').map (fun p => evalProgram fo host fuel p input) =
            (elaborate pf (pre ++ ([v] ++ post)) T).map (fun p => evalProgram fo host fuel p input)) := by
  obtain ⟨T', hT', hE, hel⟩ := C18_wrapValue_texts_agree pf hw ho hc hn href hQ
  refine ⟨T', hT', hE, fun hs' => ?_⟩
  have h : elaborate pf (pre ++ o :: ([v] ++ c :: post)) T' = elaborate pf (pre ++ ([v] ++ post)) T := by
    rw [elaborate_ungroup pf _ T' hs', elaborate_ungroup pf _ T hs, hel]
  exact ⟨h, fun fuel input => by rw [h]⟩

/-! ### non-vacuity: `a + b, 3` ↦ `a + (b), 3` -/

def exV2 : List PToken :=
  [tk .identifier "a" 0, tk .plusSign "+" 1, tk .identifier "b" 2, tk .comma "," 3, tk .number "3" 4]

theorem exV2_cond : wrapValueOK [tk .identifier "a" 0, tk .plusSign "+" 1] (tk .identifier "b" 2)
    [tk .comma "," 3, tk .number "3" 4] = true := by decide

def treeV2 : RTree :=
  .node (.node (.node .nil .identifier 0 .nil) .addition 1 (.node .nil .identifier 2 .nil)) .commaList 3 (.node .nil .number 4 .nil)

theorem exV2_ref : refParse Table.gen exV2 = .ok treeV2 := rfl

/-- every hypothesis about the original list holds (by evaluation), the wrapped list `a + (b), 3` has a reference tree, that tree
is safe too, and the two lists elaborate to the same program -/
example (fo : FloatOps Float) : ∃ T', refParse Table.gen ([tk .identifier "a" 0, tk .plusSign "+" 1] ++ tk .startGroup "(" 2 ::
      ([tk .identifier "b" 2] ++ tk .endGroup ")" 3 :: [tk .comma "," 3, tk .number "3" 4])) = .ok T' ∧ safe T' = true ∧
    elaborate noFloat ([tk .identifier "a" 0, tk .plusSign "+" 1] ++ tk .startGroup "(" 2 ::
      ([tk .identifier "b" 2] ++ tk .endGroup ")" 3 :: [tk .comma "," 3, tk .number "3" 4])) T' = elaborate noFloat exV2 treeV2 := by
  obtain ⟨T', h1, _, h3⟩ := C18_wrapValue_result_same' noFloat fo Host.declining
    (pre := [tk .identifier "a" 0, tk .plusSign "+" 1]) (post := [tk .comma "," 3, tk .number "3" 4]) (v := tk .identifier "b" 2)
    (o := tk .startGroup "(" 2) (c := tk .endGroup ")" 3) (T := treeV2) exV2_cond rfl rfl
    (by refine ⟨by simp, rfl, rfl⟩) exV2_ref (by decide) (by decide)
  have hT : T' = .node (.node (.node .nil .identifier 0 .nil) .addition 1 (.group .group 2 (.node .nil .identifier 3 .nil)))
      .commaList 5 (.node .nil .number 6 .nil) := by
    have : refParse Table.gen ([tk .identifier "a" 0, tk .plusSign "+" 1] ++ tk .startGroup "(" 2 ::
      ([tk .identifier "b" 2] ++ tk .endGroup ")" 3 :: [tk .comma "," 3, tk .number "3" 4])) = .ok _ := rfl
    rw [h1] at this
    exact (Outcome.ok.inj this)
  have hs : safe T' = true := by rw [hT]; decide
  exact ⟨T', h1, hs, (h3 hs).1⟩

end Garnish.Props.C18WrapResult
