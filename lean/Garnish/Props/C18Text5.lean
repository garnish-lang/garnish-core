/-
Property C18, TEXT level, part 5: the two rewrites that change the number of tokens, WITHOUT hypotheses about the
rewritten side at the level of the reference parser.

Both rewrites put filler tokens into the interior of the parser's input (`Spec.InsFiller`, Lemmas/InsFiller.lean, through
`C18Text4.insFiller_toP`): one Whitespace token behind the operator token — the rest of the text still produces a token
(`C13_lossless`) —, resp. the second half of the split whitespace token behind the first and then the annotation between
them — the whitespace token has neighbours on both sides (`Spec.noTrim_sides`). Hence (`Spec.SameProg`): `NoTrim` of the
ORIGINAL token list implies it for the rewritten list, the reference trees are equal up to positions, and the elaborated
PROGRAM is the same (the significant positions behind an inserted filler token shift by one, `Spec.significant_insert`; the
elaboration does not depend on the stored positions, `elaborate_relabel`).
  C18_text_padOperator_refParse', C18_text_padOperator_sameProg     a blank after an `opLikeBefore` operator
  C18_text_annotation_refParse', C18_text_annotation_sameProg       `@name` inside a run of blanks (Whitespace token)
(the primed ones: `NoTrim` and the outcome of the reference parser, failures included; `_sameProg`: also the same program)
  C18_text_padOperator_elaborate, C18_text_annotation_elaborate   the same program, given the two reference trees
Result level (`C18_text_padOperator_result'`, `C18_text_annotation_result'`): both texts are built into objects on which the
machine halts with the same value and trace; the ONLY hypothesis about the rewritten text is fragment membership (`frag9'`,
decided by a recogniser for which only soundness is proved). Props/C18Text6.lean and Props/C18Text7.lean remove it: the syntax
trees behind the fragment are closed under inserting a trivia token (`Spec.ex_insert`).
-/
import Garnish.Props.C18Text4
import Garnish.Props.C13
namespace Garnish.Props.C18Text5
open Garnish Garnish.Gen Garnish.Spec Garnish.Model Garnish.Model.Lexer Garnish.Model.Parser
open Garnish.Abs Garnish.Abs.Source Garnish.Props.C02Parse Garnish.Props.C18Parse Garnish.Props.C18Text
open Garnish.Props.C18Text4 Garnish.Props.C13

/-- the padded text: explicit form of the token lists, and the rest after the operator token is not empty -/
theorem C18_text_padOperator_lex' (cc : CharClass) (hcc : cc.SaneBlank) (hcc2 : cc.Sane2) (s s' : List Char)
    (toks : List LexerToken) (t : LexerToken) (h : TextPadOperatorAt cc s s' toks t) (T : List LexerToken)
    (hl : lex cc s = .ok T) :
    ∃ T' w B B', lex cc s' = .ok T' ∧ T = toks ++ t :: B ∧ T' = toks ++ t :: w :: B' ∧ w.tokenType = .whitespace ∧
      SameTT B B' ∧ B ≠ [] := by
  obtain ⟨p, d, b, c, hc, rfl, rfl, hg⟩ := h
  obtain ⟨w, hw, k1, _⟩ := hg.lexBoth hcc hcc2 c hc b
  obtain ⟨T', B, B', hl', h2, h3, hs⟩ := k1 T hl
  refine ⟨T', w, B, B', hl', h2, h3, hw, hs, ?_⟩
  -- the text of `p` is the text of `toks ++ [t]`, so the rest spells `d :: b`
  have e1 := C13_lossless cc hcc2 _ _ (hg.lex_prefix hcc hcc2)
  have e2 := C13_lossless cc hcc2 _ _ hl
  intro hr
  rw [h2, hr, e1] at e2
  have := congrArg List.length e2
  simp at this

/-! ### a blank after an operator token -/

theorem padOperator_sameProg (toks B B' : List LexerToken) (t w : LexerToken) (hw : w.tokenType = .whitespace)
    (hs : SameTT B B') (hB : B ≠ [])
    (hop : opLikeBefore { text := t.text, type := t.tokenType, row := 0, col := 0 } = true) :
    SameProg (toP (toks ++ t :: B)) (toP (toks ++ t :: w :: B')) :=
  (insFiller_toP toks B B' t t w rfl (by simp [isFiller, hw]) hs (fun _ => rfl)).sameProg
    (toPFrom_ne_nil (sameTT_ne_nil hs hB)) (Or.inr ⟨by simp [isWsTok, hw], Or.inr hop⟩)

/-- **a blank after an operator token, every input**: hypotheses on the ORIGINAL text only — it lexes, its tokens have no
trivia at the ends; then the padded text lexes, its tokens have no trivia at the ends, and the reference parser returns
the same tree up to token positions -/
theorem C18_text_padOperator_refParse' (cc : CharClass) (hcc : cc.SaneBlank) (hcc2 : cc.Sane2) (s s' : List Char)
    (toks : List LexerToken) (t : LexerToken) (h : TextPadOperatorAt cc s s' toks t)
    (hop : opLikeBefore { text := t.text, type := t.tokenType, row := 0, col := 0 } = true)
    (T : List LexerToken) (hl : lex cc s = .ok T) (hn : NoTrim (toP T)) :
    ∃ T', lex cc s' = .ok T' ∧ NoTrim (toP T') ∧
      OutcomeEq TreeEqTrivia (refParse Table.gen (toP T)) (refParse Table.gen (toP T')) := by
  obtain ⟨T', w, B, B', hl', rfl, rfl, hw, hs, hB⟩ := C18_text_padOperator_lex' cc hcc hcc2 s s' toks t h T hl
  have hins := insFiller_toP toks B B' t t w rfl (by simp [isFiller, hw]) hs (fun _ => rfl)
  have hn' := hins.noTrim (toPFrom_ne_nil (sameTT_ne_nil hs hB)) hn
  exact ⟨_, hl', hn', C18_refParse_addSpace (hins.addSpace (by simp [isWsTok, hw]) (Or.inr hop)) hn hn'⟩

theorem C18_text_padOperator_sameProg (cc : CharClass) (hcc : cc.SaneBlank) (hcc2 : cc.Sane2) (s s' : List Char)
    (toks : List LexerToken) (t : LexerToken) (h : TextPadOperatorAt cc s s' toks t)
    (hop : opLikeBefore { text := t.text, type := t.tokenType, row := 0, col := 0 } = true)
    (T : List LexerToken) (hl : lex cc s = .ok T) : ∃ T', lex cc s' = .ok T' ∧ SameProg (toP T) (toP T') := by
  obtain ⟨T', w, B, B', hl', rfl, rfl, hw, hs, hB⟩ := C18_text_padOperator_lex' cc hcc hcc2 s s' toks t h T hl
  exact ⟨_, hl', padOperator_sameProg toks B B' t w hw hs hB hop⟩

/-- in a list without trivia at its ends a Whitespace token is not the last one -/
theorem annotation_rest_ne {A rest : List LexerToken} {W : LexerToken} (hWs : W.tokenType = .whitespace)
    (hn : NoTrim (toP (A ++ W :: rest))) : rest ≠ [] := by
  rintro rfl
  rw [toP_split] at hn
  exact (noTrim_sides _ _ _ (by simp [isTrimmable, hWs]) hn).2 rfl

/-- **a blank after an operator token: the same program** -/
theorem C18_text_padOperator_elaborate {F : Type} (pf : List Char → Option F) (toks B B' : List LexerToken)
    (t w : LexerToken) (hw : w.tokenType = .whitespace) (hs : SameTT B B') (rt rt' : RTree)
    (href : refParse Table.gen (toP (toks ++ t :: B)) = .ok rt)
    (href' : refParse Table.gen (toP (toks ++ t :: w :: B')) = .ok rt') (herase : rt.eraseTok = rt'.eraseTok)
    (hn : NoTrim (toP (toks ++ t :: B))) (hn' : NoTrim (toP (toks ++ t :: w :: B'))) :
    elaborate pf (toP (toks ++ t :: w :: B')) rt' = elaborate pf (toP (toks ++ t :: B)) rt :=
  (insFiller_toP toks B B' t t w rfl (by simp [isFiller, hw]) hs (fun _ => rfl)).elaborate pf
    (toPFrom_ne_nil (annotation_rest_ne (A := toks ++ [t]) hw (by simpa using hn'))) hn href href' herase

/-! ### an annotation inside a run of blanks -/

theorem annotation_sameProg (A rest rest' : List LexerToken) (W W1 ann W2 : LexerToken)
    (hW1 : W1.tokenType = .whitespace) (hann : ann.tokenType = .annotation) (hW2 : W2.tokenType = W.tokenType)
    (hWs : W.tokenType = .whitespace) (hs : SameTT rest rest') (hR : rest ≠ []) :
    SameProg (toP (A ++ W :: rest)) (toP (A ++ W1 :: ann :: W2 :: rest')) := by
  obtain ⟨h1, h2⟩ := annotation_insFiller A rest rest' W W1 ann W2 hW1 hann hW2 hWs hs
  exact (h1.sameProg (toPFrom_ne_nil (sameTT_ne_nil hs hR))
      (Or.inr ⟨by simp [isWsTok, hW2, hWs], Or.inl (by simp [isWsTok, hW1])⟩)).trans
    (h2.sameProg (by simp [toPFrom]) (Or.inl (by simp [isAnnTok, hann])))

/-- **an annotation inside a run of blanks, every input**: hypotheses on the ORIGINAL text only (it lexes, no trivia at
the ends of its token list; the run is a Whitespace token) -/
theorem C18_text_annotation_refParse' (cc : CharClass) (hcc : cc.SaneBlank) (hcc2 : cc.Sane2) (hat : cc.SaneAt)
    (s s' : List Char) (T : List LexerToken) (hl : lex cc s = .ok T) (h : TextAnnotation cc s s') (hn : NoTrim (toP T)) :
    ∃ T' W, lex cc s' = .ok T' ∧ AnnInserted W T T' ∧ (W.tokenType = .whitespace → NoTrim (toP T') ∧
      OutcomeEq TreeEqTrivia (refParse Table.gen (toP T)) (refParse Table.gen (toP T'))) := by
  obtain ⟨T', W, hl', hins⟩ := C18_text_annotation_lex cc hcc hcc2 hat s s' T hl h
  refine ⟨T', W, hl', hins, fun hWs => ?_⟩
  obtain ⟨A, rest, W1, ann, W2, rest', rfl, rfl, hW1, hann, hW2, _, _, hs⟩ := hins
  obtain ⟨h1, h2⟩ := annotation_insFiller A rest rest' W W1 ann W2 hW1 hann hW2 hWs hs
  have hn1 := h1.noTrim (toPFrom_ne_nil (sameTT_ne_nil hs (annotation_rest_ne hWs hn))) hn
  have hn2 := h2.noTrim (by simp [toPFrom]) hn1
  exact ⟨hn2, outcomeEq_of_mapT
    ((refParse_addSpace (h1.addSpace (by simp [isWsTok, hW2, hWs]) (Or.inl (by simp [isWsTok, hW1]))) hn hn1).trans
      (refParse_addAnnotation (h2.addAnnotation (by simp [isAnnTok, hann])) hn1 hn2))⟩

theorem C18_text_annotation_sameProg (cc : CharClass) (hcc : cc.SaneBlank) (hcc2 : cc.Sane2) (hat : cc.SaneAt)
    (s s' : List Char) (T : List LexerToken) (hl : lex cc s = .ok T) (h : TextAnnotation cc s s') (hn : NoTrim (toP T)) :
    ∃ T' W, lex cc s' = .ok T' ∧ AnnInserted W T T' ∧ (W.tokenType = .whitespace → SameProg (toP T) (toP T')) := by
  obtain ⟨T', W, hl', hins⟩ := C18_text_annotation_lex cc hcc hcc2 hat s s' T hl h
  refine ⟨T', W, hl', hins, fun hWs => ?_⟩
  obtain ⟨A, rest, W1, ann, W2, rest', rfl, rfl, hW1, hann, hW2, _, _, hs⟩ := hins
  exact annotation_sameProg A rest rest' W W1 ann W2 hW1 hann hW2 hWs hs (annotation_rest_ne hWs hn)

/-- **an annotation inside a run of blanks: the same program** -/
theorem C18_text_annotation_elaborate {F : Type} (pf : List Char → Option F) (A rest rest' : List LexerToken)
    (W W1 ann W2 : LexerToken) (hW1 : W1.tokenType = .whitespace) (hann : ann.tokenType = .annotation)
    (hW2 : W2.tokenType = W.tokenType) (hWs : W.tokenType = .whitespace) (hs : SameTT rest rest') (rt rt' : RTree)
    (href : refParse Table.gen (toP (A ++ W :: rest)) = .ok rt)
    (href' : refParse Table.gen (toP (A ++ W1 :: ann :: W2 :: rest')) = .ok rt') (herase : rt.eraseTok = rt'.eraseTok)
    (hn : NoTrim (toP (A ++ W :: rest))) :
    elaborate pf (toP (A ++ W1 :: ann :: W2 :: rest')) rt' = elaborate pf (toP (A ++ W :: rest)) rt := by
  obtain ⟨rt'', href'', _, hel⟩ :=
    (annotation_sameProg A rest rest' W W1 ann W2 hW1 hann hW2 hWs hs (annotation_rest_ne hWs hn) hn).2 rt href
  rw [href'] at href''
  cases href''
  exact hel pf

/-! ### result level: hypotheses about the rewritten text reduced to fragment membership -/

theorem ok_of_outcomeEq {rt : RTree} {o : Outcome RTree} (h : OutcomeEq TreeEqTrivia (.ok rt) o) :
    ∃ rt', o = .ok rt' ∧ rt.eraseTok = rt'.eraseTok :=
  ORel.of_ok h

open Garnish.Abs.Tree Garnish.Model.Literals Garnish.Model.Build Garnish.Props.C01Build Garnish.Props.C01Source
open Garnish.Props.C02Numbered

/-- **a blank after an operator token, result**: the padded text is built into an object on which the machine halts with
the same value and trace. The only hypothesis about the padded text: its token list is in the fragment of `C01_text_correct` -/
theorem C18_text_padOperator_result' {F : Type} (pf : List Char → Option F) (cc : CharClass) (hcc : cc.SaneBlank)
    (hcc2 : cc.Sane2) (fo : FloatOps F) (host : Host F) (s s' : List Char) (toks : List LexerToken) (t : LexerToken)
    (h : TextPadOperatorAt cc s s' toks t)
    (hop : opLikeBefore { text := t.text, type := t.tokenType, row := 0, col := 0 } = true)
    (T : List LexerToken) (hl : lex cc s = .ok T) (hf : frag9' (toP T) = true)
    (rt : RTree) (href : refParse Table.gen (toP T) = .ok rt) (p : Program F) (hel : elaborate pf (toP T) rt = some p)
    (hwf : C01.WFProgram p) (input : Val F) (fuel : Nat) (v : Val F) (st : St F)
    (he : evalProgram fo host fuel p input = .ok (v, st))
    (hf' : ∀ T', lex cc s' = .ok T' → frag9' (toP T') = true) :
    ∀ src ∈ [s, s'], ∃ d entry, C01Text.buildText pf cc src = .ok (d, entry) ∧
      ∃ n m, run fo host (progOf d) n
          { pc := (progOf d).jumps[entry]?.getD 0, regs := [], vals := [input], frames := [], trace := [] } = (.halted m, n) ∧
        m.vals = [v] ∧ m.regs = [] ∧ m.frames = [] ∧ m.trace = st.trace := by
  obtain ⟨T', hl', hsp⟩ := C18_text_padOperator_sameProg cc hcc hcc2 s s' toks t h hop T hl
  obtain ⟨rt', href', _, hel'⟩ := (hsp (frag9_noTrim (frag9'_sub hf))).2 rt href
  exact forall_mem_pair (C01Text.C01_text_correct pf cc fo host _ _ hl hf rt href p hel hwf input fuel v st he)
    (C01Text.C01_text_correct pf cc fo host _ _ hl' (hf' _ hl') rt' href' p (by rw [hel' pf]; exact hel) hwf input fuel v st he)

/-- **an annotation inside a run of blanks, result** (the run is a Whitespace token) -/
theorem C18_text_annotation_result' {F : Type} (pf : List Char → Option F) (cc : CharClass) (hcc : cc.SaneBlank)
    (hcc2 : cc.Sane2) (hat : cc.SaneAt) (fo : FloatOps F) (host : Host F) (s s' : List Char) (T : List LexerToken)
    (hl : lex cc s = .ok T) (h : TextAnnotation cc s s') (hf : frag9' (toP T) = true)
    (hWs : ∀ T' W, lex cc s' = .ok T' → AnnInserted W T T' → W.tokenType = .whitespace)
    (rt : RTree) (href : refParse Table.gen (toP T) = .ok rt) (p : Program F) (hel : elaborate pf (toP T) rt = some p)
    (hwf : C01.WFProgram p) (input : Val F) (fuel : Nat) (v : Val F) (st : St F)
    (he : evalProgram fo host fuel p input = .ok (v, st))
    (hf' : ∀ T', lex cc s' = .ok T' → frag9' (toP T') = true) :
    ∀ src ∈ [s, s'], ∃ d entry, C01Text.buildText pf cc src = .ok (d, entry) ∧
      ∃ n m, run fo host (progOf d) n
          { pc := (progOf d).jumps[entry]?.getD 0, regs := [], vals := [input], frames := [], trace := [] } = (.halted m, n) ∧
        m.vals = [v] ∧ m.regs = [] ∧ m.frames = [] ∧ m.trace = st.trace := by
  have hn : NoTrim (toP T) := frag9_noTrim (frag9'_sub hf)
  obtain ⟨T', W, hl', hins, hsp⟩ := C18_text_annotation_sameProg cc hcc hcc2 hat s s' T hl h hn
  obtain ⟨rt', href', _, hel'⟩ := (hsp (hWs T' W hl' hins) hn).2 rt href
  exact forall_mem_pair (C01Text.C01_text_correct pf cc fo host _ _ hl hf rt href p hel hwf input fuel v st he)
    (C01Text.C01_text_correct pf cc fo host _ _ hl' (hf' _ hl') rt' href' p (by rw [hel' pf]; exact hel) hwf input fuel v st he)

/-! ### non-vacuity (Rust tables): `x+y` → `x+ y` through the theorems without hypotheses on the padded side -/

example : ∃ T', lex rustTables ['x', '+', ' ', 'y'] = .ok T' ∧ NoTrim (toP T') ∧
    OutcomeEq TreeEqTrivia
      (refParse Table.gen (toP [⟨['x'], .identifier, 0, 0⟩, ⟨['+'], .plusSign, 0, 1⟩, ⟨['y'], .identifier, 0, 2⟩]))
      (refParse Table.gen (toP T')) :=
  C18_text_padOperator_refParse' rustTables C18Text2.rustTables_saneBlank rustTables_sane2 _ _ _ _ exPad (by decide) _
    exPad_lex.1 ⟨by simp [toP, toPFrom], by rfl, by rfl⟩

/-- the two reference trees of that example -/
example : refParse Table.gen (toP [⟨['x'], .identifier, 0, 0⟩, ⟨['+'], .plusSign, 0, 1⟩, ⟨['y'], .identifier, 0, 2⟩]) =
      .ok (.node (.node .nil .identifier 0 .nil) .addition 1 (.node .nil .identifier 2 .nil)) ∧
    refParse Table.gen (toP [⟨['x'], .identifier, 0, 0⟩, ⟨['+'], .plusSign, 0, 1⟩, ⟨[' '], .whitespace, 0, 2⟩,
      ⟨['y'], .identifier, 0, 3⟩]) =
      .ok (.node (.node .nil .identifier 0 .nil) .addition 1 (.node .nil .identifier 3 .nil)) := by
  constructor <;> rfl

end Garnish.Props.C18Text5
