/-
C15 — a value added through the data interface reads back unchanged for as long as the data object lives.

BasicGarnishData: `Garnish.Store.BasicHeap` models the six-block heap as the code is written (one growth step, unchecked
write). The theorems below say: under the layout invariant `Inv` and growth settings that make progress
(`AllProgress`: additive step ≥ 1; multiplicative factor ≥ 2 from a non-zero size) a push never panics, keeps the
invariant, and the heap refines six independent tables (`Garnish.Spec.Tables6`) over ANY history; hence every
index handed out reads back the same cell after any later history. `no_progress_*` are concrete histories showing
what the code does when a policy makes no progress (silent overwrite of the neighbouring block, or a panic).

SimpleGarnishData: `Garnish.Store.SimpleCache` models `cache_add` as it is written (keyed by a 64-bit hash, no
comparison on a hit). `simple_intern` needs the hash to be injective on the constants added;
`hash_collision_breaks_intern` shows that for the hash the code computes this is false for
`Float 1.5` / `Integer -13291983`, whatever `DefaultHasher` does with the bytes.
-/
import Garnish.Lemmas.Heap
import Garnish.Store.SimpleCache
set_option linter.unusedVariables false
namespace Garnish.Props.C15
open Garnish Garnish.Store Garnish.Spec

/-- layout invariant: six blocks tiling the heap in order, no cursor past its block (so Σ size = cells.size) -/
def Inv (h : Heap) : Prop := h.blocks.length = 6 ∧ Contig 0 h.blocks h.cells.size

/-- every block's growth setting makes progress: `fixed n` with `n ≥ 1`, `mult n` with `n ≥ 2` and a non-zero size -/
def AllProgress (h : Heap) : Prop := ∀ b ∈ h.blocks, b.Progress

instance (h : Heap) : Decidable (AllProgress h) := by unfold AllProgress; infer_instance

theorem progress_iff (b : Block) : b.Progress ↔
    match b.policy with
    | .fixed n => 1 ≤ n
    | .mult n => 2 ≤ n ∧ 1 ≤ b.size := Iff.rfl

/-! ### construction -/

theorem init_inv {sizes : List Nat} {pols : List Policy} {maxes : List (Option Nat)} {h : Heap}
    (h1 : sizes.length = 6) (h2 : pols.length = 6) (h3 : maxes.length = 6) (hi : init sizes pols maxes = .ok h) :
    Inv h ∧ abs h = Tables.init := by
  have hl : (initBlocks sizes pols maxes).length = sizes.length := by simp [initBlocks, h1, h2, h3]
  obtain ⟨hb, hc, ha⟩ := init_eq hl hi
  exact ⟨⟨by rw [hb, length_layout]; simp [hl, h1], hc⟩, by rw [ha, h1]; rfl⟩

/-! ### one push -/

/-- under the invariant and progress a push cannot panic: it either reports `max_items` or succeeds, returns the old
cursor as index, keeps the invariant and progress, and appends to exactly one table -/
theorem push_total {h : Heap} (which : Fin 6) (c : Cell) (hinv : Inv h) (hp : AllProgress h) :
    (pushToBlock h which c = .err .data ∧ ¬ NoMax h) ∨
    ∃ h' idx, pushToBlock h which c = .ok (h', idx) ∧ Inv h' ∧ AllProgress h' ∧
      Tables.get (abs h) which.val idx = none ∧ abs h' = (abs h).modify which.val (· ++ [c]) ∧
      Tables.get (abs h') which.val idx = some c := by
  obtain ⟨b, hk⟩ := get_of_lt (bs := h.blocks) (k := which.val) (by rw [hinv.1]; exact which.isLt)
  rcases pushToBlockN_spec c hinv.2 hk (hp b (List.mem_of_getElem? hk)) with ⟨he, b', hb', hm⟩ | ⟨h', hr, hc, habs, hlen, hprog, _⟩
  · exact Or.inl ⟨he, fun hno => hm (hno b' hb')⟩
  · refine Or.inr ⟨h', b.cursor, hr, ⟨by rw [hlen, hinv.1], hc⟩, hprog hp, ?_, habs, ?_⟩
    · have hg := Contig.get hinv.2 hk
      unfold Tables.get abs
      rw [List.getElem?_map, hk]
      simp only [Option.map_some, Option.bind_some]
      rw [List.getElem?_eq_none]; rw [length_blockCells (by omega)]; exact Nat.le_refl _
    · have hg := Contig.get hinv.2 hk
      unfold Tables.get
      rw [habs, List.getElem?_modify]
      unfold abs
      rw [List.getElem?_map, hk]
      simp only [Option.map_some, Functor.map, if_true, Option.bind_some]
      rw [List.getElem?_append_right (by rw [length_blockCells (by omega)]; exact Nat.le_refl _),
        length_blockCells (by omega)]
      simp

theorem push_inv {h h' : Heap} {idx : Nat} (which : Fin 6) (c : Cell) (hinv : Inv h) (hp : AllProgress h)
    (hr : pushToBlock h which c = .ok (h', idx)) : Inv h' ∧ AllProgress h' := by
  rcases push_total which c hinv hp with ⟨he, _⟩ | ⟨h2, idx2, hr2, hi2, hp2, _⟩
  · rw [hr] at he; cases he
  · rw [hr] at hr2; cases hr2; exact ⟨hi2, hp2⟩

theorem push_no_panic {h : Heap} (which : Fin 6) (c : Cell) (hinv : Inv h) (hp : AllProgress h) :
    (∀ site, pushToBlock h which c ≠ .panic site) ∧ pushToBlock h which c ≠ .fuelOut ∧
    (NoMax h → ∃ r, pushToBlock h which c = .ok r) := by
  rcases push_total which c hinv hp with ⟨he, hm⟩ | ⟨h2, idx2, hr2, _⟩
  · rw [he]; exact ⟨fun _ => by simp, by simp, fun hno => absurd hno hm⟩
  · rw [hr2]; exact ⟨fun _ => by simp, by simp, fun _ => ⟨_, rfl⟩⟩

/-! ### histories -/

/-- the heap after ANY history of pushes is the six tables of the specification after the same history -/
theorem heap_refines (ops : List Op) {h0 h : Heap} (hinv : Inv h0) (hp : AllProgress h0) (hr : run ops h0 = .ok h) :
    abs h = Tables.run ops (abs h0) ∧ Inv h ∧ AllProgress h := by
  obtain ⟨hg, habs, hlen⟩ := run_ok_spec ops ⟨hinv.2, hp⟩ hr
  exact ⟨habs, ⟨by rw [hlen, hinv.1], hg.contig⟩, hg.progress⟩

/-- from construction: any history on a freshly built store whose settings make progress -/
theorem heap_refines_init {sizes : List Nat} {pols : List Policy} {maxes : List (Option Nat)} (ops : List Op) {h0 h : Heap}
    (h1 : sizes.length = 6) (h2 : pols.length = 6) (h3 : maxes.length = 6) (hi : init sizes pols maxes = .ok h0)
    (hp : AllProgress h0) (hr : run ops h0 = .ok h) : abs h = Tables.run ops Tables.init := by
  obtain ⟨hinv, habs⟩ := init_inv h1 h2 h3 hi
  rw [(heap_refines ops hinv hp hr).1, habs]

/-- no history panics or runs out of fuel; without `max_items` limits every history runs to the end -/
theorem run_total (ops : List Op) {h0 : Heap} (hinv : Inv h0) (hp : AllProgress h0) (hw : ∀ op ∈ ops, op.which < 6) :
    (run ops h0 = .err .data ∧ ¬ NoMax h0) ∨ ∃ h, run ops h0 = .ok h := by
  rcases run_spec ops ⟨hinv.2, hp⟩ (fun op ho => by rw [hinv.1]; exact hw op ho) with h | ⟨h, hr, _⟩
  · exact Or.inl h
  · exact Or.inr ⟨h, hr⟩

/-- C15 on the append-only tables (instructions, jump table, data, custom): the index returned by a push reads back
the cell that was pushed after ANY later history on any of the six tables -/
theorem C15_read_back {h0 h1 h2 h3 : Heap} {k idx : Nat} {c : Cell} (ops1 ops2 : List Op)
    (hinv : Inv h0) (hp : AllProgress h0) (hk : sortedTable k = false)
    (hr1 : run ops1 h0 = .ok h1) (hpush : pushToBlockN h1 k c = .ok (h2, idx)) (hr2 : run ops2 h2 = .ok h3) :
    getN h3 k idx = .ok c := by
  obtain ⟨_, hinv1, hp1⟩ := heap_refines ops1 hinv hp hr1
  have hklt : k < h1.blocks.length := by
    apply Classical.byContradiction; intro hn
    have : h1.blocks[k]? = none := List.getElem?_eq_none (by omega)
    unfold pushToBlockN at hpush; simp [this] at hpush
  obtain ⟨b, hb⟩ := get_of_lt hklt
  rcases pushToBlockN_spec c hinv1.2 hb (hp1 b (List.mem_of_getElem? hb)) with ⟨he, _⟩ | ⟨h2', hr, hc2, habs2, hlen2, hprog2, _⟩
  · rw [hpush] at he; cases he
  · rw [hpush] at hr
    simp only [Outcome.ok.injEq, Prod.mk.injEq] at hr
    obtain ⟨rfl, rfl⟩ := hr
    obtain ⟨habs3, hinv3, _⟩ := heap_refines ops2 ⟨by rw [hlen2, hinv1.1], hc2⟩ (hprog2 hp1) hr2
    have hg := Contig.get hinv1.2 hb
    have ht2 : (abs h2)[k]? = some (blockCells h1.cells b ++ [c]) := by
      rw [habs2, List.getElem?_modify]; unfold abs; rw [List.getElem?_map, hb]; simp [Functor.map]
    obtain ⟨t', ht'⟩ := Tables.run_prefix hk ops2 ht2
    rw [← habs3] at ht'
    apply getN_of_abs ht'
    rw [List.append_assoc, List.getElem?_append_right (by rw [length_blockCells (by omega)]; exact Nat.le_refl _),
      length_blockCells (by omega)]
    simp

/-- C15 on the sorted tables (symbol table, expression symbols): an entry, once added, is in the table after ANY later
history (its position moves: the table is re-sorted on every push) -/
theorem C15_read_back_sorted {h0 h1 h2 h3 : Heap} {k : Nat} {c : Cell} (ops1 ops2 : List Op)
    (hinv : Inv h0) (hp : AllProgress h0)
    (hr1 : run ops1 h0 = .ok h1) (hpush : step h1 ⟨k, c⟩ = .ok h2) (hr2 : run ops2 h2 = .ok h3) :
    ∃ i, getN h3 k i = .ok c := by
  obtain ⟨habs1, hinv1, hp1⟩ := heap_refines ops1 hinv hp hr1
  obtain ⟨habs2, hinv2, hp2⟩ := heap_refines [⟨k, c⟩] hinv1 hp1 (show run [⟨k, c⟩] h1 = .ok h2 by simp [run, hpush])
  obtain ⟨habs3, hinv3, _⟩ := heap_refines ops2 hinv2 hp2 hr2
  have hklt : k < (abs h1).length := by
    have := step_ok_which hpush
    unfold abs; simpa using this
  obtain ⟨t, ht⟩ : ∃ t, (abs h1)[k]? = some t := ⟨_, List.getElem?_eq_getElem hklt⟩
  have ht2 : (abs h2)[k]? = some (Tables.pushTable k c t) := by
    rw [habs2]; simp only [Tables.run, Tables.step, Tables.push]
    rw [List.getElem?_modify, ht]; simp [Functor.map]
  obtain ⟨t3, ht3, hmem⟩ := Tables.run_mem ops2 ht2 (Tables.pushTable_self k c t)
  rw [← habs3] at ht3
  obtain ⟨i, hi⟩ := List.mem_iff_getElem?.mp hmem
  exact ⟨i, getN_of_abs ht3 hi⟩

/-- the register / value / frame stacks and multi-cell values are pushes into the data block: whatever the machine-level
operations of the HEAP suite do to the heap is a history of `Op`s (so everything above applies to them) -/
theorem mstep_is_history {m m' : MStore} (op : MOp) (h : mstep m op = .ok m') :
    run (op.lower m) m.heap = .ok m'.heap := by
  unfold mstep at h
  cases hr : run (op.lower m) m.heap with
  | ok h1 =>
    rw [hr] at h
    cases op <;> simp at h <;> (subst h; rfl)
  | err e => rw [hr] at h; cases h
  | panic s => rw [hr] at h; cases h
  | fuelOut => rw [hr] at h; cases h

/-! ### why the progress hypothesis is there: what the code does without it -/

/-- all blocks `FixedSize(0)`; jump table of size 1, everything else empty -/
def cfgF0 : Outcome Heap :=
  init [0, 1, 0, 0, 0, 0] (List.replicate 6 (.fixed 0)) (List.replicate 6 none)

/-- `push_to_jump_table(7); push_instruction(Put, 9)`: the instruction block (size 0, step 0) "grows" to size 0 and
the unchecked write lands in the jump table's cell — silently: both pushes return Ok, the jump entry is gone -/
theorem no_progress_corrupts :
    (do let h0 ← cfgF0
        let (h1, j) ← pushToBlock h0 bJump (.jump 7)
        let (h2, _) ← pushToBlock h1 bInstr (.instr 9)
        pure (get h1 bJump j, get h2 bJump j)) = .ok (.ok (.jump 7), .ok (.instr 9)) := by
  rfl

/-- the same settings with every block empty: the write is out of bounds — `push_instruction` panics -/
theorem no_progress_panics :
    (do let h0 ← init [0, 0, 0, 0, 0, 0] (List.replicate 6 (.fixed 0)) (List.replicate 6 none)
        pushToBlock h0 bInstr (.instr 0)) = .panic "internal.rs:push_to_block" := by
  rfl

/-- `Multiplicative(2)` from size 0 is the same: 0 * 2 = 0 -/
theorem no_progress_mult_zero :
    (do let h0 ← init [0, 1, 0, 0, 0, 0] (List.replicate 6 (.mult 2)) (List.replicate 6 none)
        let (h1, j) ← pushToBlock h0 bJump (.jump 7)
        let (h2, _) ← pushToBlock h1 bInstr (.instr 9)
        pure (get h2 bJump j)) = .ok (.ok (.instr 9)) := by
  rfl

/-- `Multiplicative(1)` from size 1: the data block overflows into the custom block -/
theorem no_progress_mult_one :
    (do let h0 ← init [1, 1, 1, 1, 1, 1] (List.replicate 6 (.mult 1)) (List.replicate 6 none)
        let (h1, _) ← pushToBlock h0 bData (.num 0)
        let (h2, c) ← pushToBlock h1 bCustom (.custom 1)
        let (h3, _) ← pushToBlock h2 bData (.num 2)
        pure (get h2 bCustom c, get h3 bCustom c)) = .ok (.ok (.custom 1), .ok (.num 2)) := by
  rfl

/-! ### non-vacuity -/

/-- executable check of the hypotheses on a freshly constructed store -/
def checkInit (sizes : List Nat) (pols : List Policy) (maxes : List (Option Nat)) : Bool :=
  match init sizes pols maxes with
  | .ok h => decide (AllProgress h) && decide (NoMax h)
  | _ => false

theorem checkInit_sound {sizes : List Nat} {pols : List Policy} {maxes : List (Option Nat)}
    (h1 : sizes.length = 6) (h2 : pols.length = 6) (h3 : maxes.length = 6) (hc : checkInit sizes pols maxes = true) :
    ∃ h0, init sizes pols maxes = .ok h0 ∧ Inv h0 ∧ AllProgress h0 ∧ NoMax h0 := by
  unfold checkInit at hc
  split at hc
  · rename_i h hi
    simp only [Bool.and_eq_true, decide_eq_true_eq] at hc
    exact ⟨h, hi, (init_inv h1 h2 h3 hi).1, hc.1, hc.2⟩
  · cases hc

/-- the default settings (`FixedSize(10)` from 10) satisfy the hypotheses -/
example : ∃ h0, init (List.replicate 6 10) (List.replicate 6 (.fixed 10)) (List.replicate 6 none) = .ok h0 ∧
    Inv h0 ∧ AllProgress h0 ∧ NoMax h0 := checkInit_sound rfl rfl rfl (by rfl)

/-- so do size 0 with `FixedSize(1)` and size 1 with `Multiplicative(2)` -/
example : ∃ h0, init (List.replicate 6 0) (List.replicate 6 (.fixed 1)) (List.replicate 6 none) = .ok h0 ∧
    Inv h0 ∧ AllProgress h0 ∧ NoMax h0 := checkInit_sound rfl rfl rfl (by rfl)

example : ∃ h0, init (List.replicate 6 1) (List.replicate 6 (.mult 2)) (List.replicate 6 none) = .ok h0 ∧
    Inv h0 ∧ AllProgress h0 ∧ NoMax h0 := checkInit_sound rfl rfl rfl (by rfl)

/-- `Multiplicative(2)` from size 0 does not -/
example : checkInit (List.replicate 6 0) (List.replicate 6 (.mult 2)) (List.replicate 6 none) = false := by rfl

/-- the smallest progressing settings: size 0, `FixedSize(1)`; three pushes read back -/
example :
    (do let h0 ← init [0, 0, 0, 0, 0, 0] (List.replicate 6 (.fixed 1)) (List.replicate 6 none)
        let (h1, a) ← pushToBlock h0 bData (.num 5)
        let (h2, b) ← pushToBlock h1 bInstr (.instr 6)
        let (h3, c) ← pushToBlock h2 bData (.num 7)
        pure [get h3 bData a, get h3 bInstr b, get h3 bData c]) = .ok [.ok (.num 5), .ok (.instr 6), .ok (.num 7)] := by
  rfl

/-! ## SimpleGarnishData: the intern cache (`cache_add`) -/

section cache
variable (hash : Const → UInt64)

/-- cache and data agree: every constant cell is registered under its own hash, every cache entry points at a
constant cell with that hash. `S` = the constants that may be added. -/
structure CInv (S : Const → Prop) (s : SimpleStore) : Prop where
  k1 : ∀ (a : Nat) (c : Const), s.data[a]? = some (SCell.const c) → S c ∧ cacheLookup s.cache (hash c) = some a
  k2 : ∀ (hv : UInt64) (a : Nat), cacheLookup s.cache hv = some a → ∃ c, s.data[a]? = some (SCell.const c) ∧ hash c = hv

theorem cinv_init (S : Const → Prop) : CInv hash S {} := by
  constructor
  · intro a c h
    match a with
    | 0 | 1 | 2 => simp at h
    | a + 3 => simp at h
  · intro hv a h; simp [cacheLookup] at h

/-- one `cache_add` when the hash is injective on the admissible constants: the returned address holds the constant,
nothing already stored changes, an equal constant already present is reused (the store is unchanged), otherwise
the address is fresh -/
theorem cacheAdd_spec {S : Const → Prop} (hinj : ∀ c1 c2, S c1 → S c2 → hash c1 = hash c2 → c1 = c2)
    {s : SimpleStore} (hs : CInv hash S s) {c : Const} (hc : S c) :
    CInv hash S (cacheAdd hash s c).1 ∧ (cacheAdd hash s c).1.data[(cacheAdd hash s c).2]? = some (SCell.const c) ∧
    (∀ (a : Nat) (x : SCell), s.data[a]? = some x → (cacheAdd hash s c).1.data[a]? = some x) ∧
    ((∃ a : Nat, s.data[a]? = some (SCell.const c)) → (cacheAdd hash s c).1 = s) ∧
    ((¬ ∃ a : Nat, s.data[a]? = some (SCell.const c)) → (cacheAdd hash s c).2 = s.data.size) := by
  rw [cacheAdd_eq]
  cases hl : cacheLookup s.cache (hash c) with
  | some addr =>
    simp only
    obtain ⟨c', hd, hh⟩ := hs.k2 _ _ hl
    have : c' = c := hinj _ _ (hs.k1 _ _ hd).1 hc hh
    subst this
    exact ⟨hs, hd, fun _ _ h => h, fun _ => by first | rfl | trivial, fun hn => absurd ⟨addr, hd⟩ hn⟩
  | none =>
    simp only
    have hnot : ¬ ∃ a : Nat, s.data[a]? = some (SCell.const c) := by
      rintro ⟨a, ha⟩
      have := (hs.k1 _ _ ha).2
      rw [hl] at this; cases this
    refine ⟨⟨?_, ?_⟩, by simp, ?_, fun h => absurd h hnot, fun _ => by first | rfl | trivial⟩
    · intro a c' h
      rw [Array.getElem?_push] at h
      by_cases ha : a = s.data.size
      · simp only [ha, if_true, Option.some.injEq, SCell.const.injEq] at h
        subst h
        exact ⟨hc, by simp [cacheLookup, ha]⟩
      · simp only [ha, if_false] at h
        obtain ⟨hS, hlk⟩ := hs.k1 _ _ h
        refine ⟨hS, ?_⟩
        unfold cacheLookup
        by_cases hh : hash c = hash c'
        · have := hinj _ _ hc hS hh
          subst this
          rw [hl] at hlk; cases hlk
        · simp [hh, hlk]
    · intro hv a h
      unfold cacheLookup at h
      by_cases hh : hash c = hv
      · simp only [hh, if_true, Option.some.injEq] at h
        subst h
        exact ⟨c, by simp, hh⟩
      · simp only [hh, if_false] at h
        obtain ⟨c', hd, hh'⟩ := hs.k2 _ _ h
        refine ⟨c', ?_, hh'⟩
        rw [Array.getElem?_push]
        have : a ≠ s.data.size := by
          intro he; subst he; simp at hd
        simp [this, hd]
    · intro a x h
      rw [Array.getElem?_push]
      have : a ≠ s.data.size := by
        intro he; subst he; simp at h
      simp [this, h]

theorem addAll_cons (c : Const) (cs : List Const) (s : SimpleStore) :
    addAll hash (c :: cs) s = ((addAll hash cs (cacheAdd hash s c).1).1,
      (cacheAdd hash s c).2 :: (addAll hash cs (cacheAdd hash s c).1).2) := rfl

theorem addAll_spec {S : Const → Prop} (hinj : ∀ c1 c2, S c1 → S c2 → hash c1 = hash c2 → c1 = c2) :
    ∀ (cs : List Const) (s : SimpleStore), CInv hash S s → (∀ c ∈ cs, S c) →
    CInv hash S (addAll hash cs s).1 ∧ (∀ (a : Nat) (x : SCell), s.data[a]? = some x → (addAll hash cs s).1.data[a]? = some x) ∧
    (∀ (i : Nat) (c : Const) (a : Nat), cs[i]? = some c → (addAll hash cs s).2[i]? = some a → (addAll hash cs s).1.data[a]? = some (SCell.const c))
  | [], s, hs, _ => ⟨hs, fun _ _ h => h, fun i c a h => by simp at h⟩
  | c :: cs, s, hs, hS => by
    obtain ⟨hs1, hget1, hkeep1, _, _⟩ := cacheAdd_spec hash hinj hs (hS c (by simp))
    obtain ⟨hs2, hkeep2, hall2⟩ := addAll_spec hinj cs (cacheAdd hash s c).1 hs1 (fun c' h => hS c' (by simp [h]))
    rw [addAll_cons]
    refine ⟨hs2, fun a x h => hkeep2 a x (hkeep1 a x h), ?_⟩
    intro i c' a hc ha
    match i with
    | 0 =>
      simp only [List.getElem?_cons_zero, Option.some.injEq] at hc ha
      subst hc; subst ha
      exact hkeep2 _ _ hget1
    | i + 1 =>
      simp only [List.getElem?_cons_succ] at hc ha
      exact hall2 i c' a hc ha

/-- C15 for SimpleGarnishData, for the code as written, UNDER the hypothesis that the hash separates the constants
added: every returned address reads back the constant added there (same type and content, after all later adds);
an equal constant gets the same address, a different constant a different one -/
theorem simple_intern (cs : List Const) (hinj : ∀ c1 ∈ cs, ∀ c2 ∈ cs, hash c1 = hash c2 → c1 = c2) :
    (∀ (i : Nat) (c : Const) (a : Nat), cs[i]? = some c → (addAll hash cs {}).2[i]? = some a → (addAll hash cs {}).1.data[a]? = some (SCell.const c)) ∧
    (∀ (i j : Nat) (ci cj : Const) (ai aj : Nat), cs[i]? = some ci → cs[j]? = some cj →
      (addAll hash cs {}).2[i]? = some ai → (addAll hash cs {}).2[j]? = some aj → (ci = cj ↔ ai = aj)) := by
  obtain ⟨hs, _, hall⟩ := addAll_spec hash (S := (· ∈ cs)) (fun c1 c2 h1 h2 => hinj c1 h1 c2 h2) cs {}
    (cinv_init hash _) (fun c h => h)
  refine ⟨hall, ?_⟩
  intro i j ci cj ai aj hi hj hai haj
  have di := hall i ci ai hi hai
  have dj := hall j cj aj hj haj
  constructor
  · intro h; subst h
    have h1 := (hs.k1 _ _ di).2
    have h2 := (hs.k1 _ _ dj).2
    rw [h1] at h2; exact Option.some.inj h2
  · intro h; subst h
    rw [di] at dj
    simpa using dj

/-- a later `cache_add` never changes a cell that exists (with or without collisions: the code only ever pushes) -/
theorem cacheAdd_keeps (s : SimpleStore) (c : Const) (a : Nat) (x : SCell) (h : s.data[a]? = some x) :
    (cacheAdd hash s c).1.data[a]? = some x := by
  rw [cacheAdd_eq]
  split
  · exact h
  · simp only
    rw [Array.getElem?_push]
    have : a ≠ s.data.size := by intro he; subst he; simp at h
    simp [this, h]

/-- without the hypothesis: two constants with the same 64-bit key share one cell, the second one reads back as the first -/
theorem collision_breaks_intern (c1 c2 : Const) (h : hash c1 = hash c2) :
    (addAll hash [c1, c2] {}).2 = [3, 3] ∧ (addAll hash [c1, c2] {}).1.data[3]? = some (SCell.const c1) := by
  simp [addAll, cacheAdd_eq, cacheLookup, h]

end cache

/-- the byte streams `cache_add` hashes for `Float(1.5)` and `Integer(-13291983)` are IDENTICAL (the hand-written
`Hash for SimpleNumber` hashes a float as its `Display` string "1.5" (code points 49 46 53) = bytes 31 2e 35 + the 0xff terminator, and an integer
as its 4 little-endian bytes 31 2e 35 ff; both carry the same enum discriminant and type tag) -/
theorem hashBytes_collision (display : UInt64 → List Nat) (hd : display 0x3ff8000000000000 = [49, 46, 53]) :
    hashBytes display (Const.float 0x3ff8000000000000) = hashBytes display (Const.int (-13291983)) := by
  simp only [hashBytes, hd]
  decide

/-- so the cache key is the same whatever the hasher does, and `Integer(-13291983)` added after `Float(1.5)` gets the
float's address and reads back as `1.5` -/
theorem hash_collision_breaks_intern (display : UInt64 → List Nat) (hd : display 0x3ff8000000000000 = [49, 46, 53]) :
    (addAll (rustHash display) [Const.float 0x3ff8000000000000, Const.int (-13291983)] {}).2 = [3, 3] ∧
    (addAll (rustHash display) [Const.float 0x3ff8000000000000, Const.int (-13291983)] {}).1.data[3]? =
      some (SCell.const (Const.float 0x3ff8000000000000)) :=
  collision_breaks_intern _ _ _ (by unfold rustHash; rw [hashBytes_collision display hd])

/-- non-vacuity of `simple_intern`: an injective "hash" exists on small sets, e.g. distinct integers under the real hash
input bytes are distinct -/
example : hashBytes (fun _ => []) (Const.int 5) ≠ hashBytes (fun _ => []) (Const.int 6) := by decide

end Garnish.Props.C15
