/-
The addresses the REAL builder emits into a fresh `SimpleGarnishData` (observed on the crate: lex → parse → build into
`SimpleGarnishData::new()`, instruction operands and data list printed) against the relocations of
the model builder's 0-based program:
* `$ ?> 1 |> 2`     real: `PutValue; JumpIfTrue 1; Put 3; EndExpression; Put 4; JumpTo 2`, jumps `[0,4,3]`,
                    data `[Unit, False, True, 2, 1]`                      = `reloc` of the built program
* `{ $ + 1 } <~ 5`  real: `Put 3; Put 4; Apply; EndExpression; PutValue; Put 5; Add; EndExpression`, jumps `[0,4]`,
                    data `[Unit, False, True, Expression 1, 5, 1]`        = `reloc` of the built program
* `1 + 1`           real: `Put 3; Put 3; Add; EndExpression`, data `[Unit, False, True, 1]` — the two equal literals
                    share ONE cell (`cache_add`); the model builder keeps two constants: `reloc` is NOT the real program
                    (`reloc_wrong_on_equal_literals`), `relocBy` with the non-injective map `0, 1 ↦ 3` is
* `$ ?> () |> 1`    real: `…; Put 3; …; Put 0; …`, data `[Unit, False, True, 1]` — a `()` literal is the preallocated
                    cell 0: again not `reloc`, but `relocBy` with `0 ↦ 3, 1 ↦ 0`
So in general the real program is `relocBy ρ C` for the address map `ρ` the data object produced while the builder ran
(`C` its data list), and `run_relocBy` (Lemmas/RuntimeReloc.lean) applies whenever `ConstsAgree ρ C P`; `reloc` is the
special case without equal constants and without `()` / `$!` / `$?` literals. That the Rust builder's `ρ` satisfies
`ConstsAgree` in general (= `add_*` returns an address holding the value: `HitSound` + the preallocated cells) is not
proved here: `builder_constsAgree` (Lemmas/BuilderIntern.lean) proves it of the replay of the builder's calls.
-/
import Garnish.Lemmas.RuntimeReloc
import Garnish.Props.C01TextStore
namespace Garnish.Props.C01TextStore
open Garnish Garnish.Gen Garnish.Abs Garnish.Abs.Tree Garnish.Model Garnish.Model.Build Garnish.Props.C01Build Garnish.Props.C01Text
open Garnish.Lemmas.Runtime.On

/-- the program the models of lexer, parser and builder make of a source text -/
def builtProg (s : String) : Option (Prog Float) :=
  match buildText noFloat asciiCC s.toList with
  | .ok (d, _) => some (progOf d)
  | _ => none

/-- instructions, jump table and constants of a program, for comparison with an observation -/
def observe (P : Prog Float) : List (Instruction × Option Nat) × List Nat × Nat := (P.instrs.toList, P.jumps.toList, P.consts.size)

/-! The four built programs, evaluated once each (the first two from their token lists, Props/C01Text.lean); every
observation below is read off the written-out program. -/

theorem builtProg_cond : builtProg "$ ?> 1 |> 2" = some
    { instrs := #[(.putValue, none), (.jumpIfTrue, some 1), (.put, some 0), (.endExpression, none), (.put, some 1),
        (.jumpTo, some 2)], jumps := #[0, 4, 3], consts := #[.num (.int 2), .num (.int 1)] } := by
  rw [builtProg, buildText, text_cond_lex, Outcome.bind, text_cond_toks]; rfl

theorem builtProg_nested : builtProg "{ $ + 1 } <~ 5" = some
    { instrs := #[(.put, some 0), (.put, some 1), (.apply, none), (.endExpression, none), (.putValue, none),
        (.put, some 2), (.add, none), (.endExpression, none)], jumps := #[0, 4],
      consts := #[.expr 1, .num (.int 5), .num (.int 1)] } := by
  rw [builtProg, buildText, text_nested_lex, Outcome.bind, text_nested_toks]; rfl

theorem builtProg_equal_literals : builtProg "1 + 1" = some
    { instrs := #[(.put, some 0), (.put, some 1), (.add, none), (.endExpression, none)], jumps := #[0],
      consts := #[.num (.int 1), .num (.int 1)] } := by rfl

theorem builtProg_unit_literal : builtProg "$ ?> () |> 1" = some
    { instrs := #[(.putValue, none), (.jumpIfTrue, some 1), (.put, some 0), (.endExpression, none), (.put, some 1),
        (.jumpTo, some 2)], jumps := #[0, 4, 3], consts := #[.num (.int 1), .unit] } := by rfl

/-- `$ ?> 1 |> 2`: the real builder's operands (3 and 4) and data list are `reloc`'s -/
theorem real_cond_is_reloc :
    (builtProg "$ ?> 1 |> 2").map (fun P => ((reloc P).instrs.toList, (reloc P).jumps.toList)) =
      some ([(.putValue, none), (.jumpIfTrue, some 1), (.put, some 3), (.endExpression, none), (.put, some 4),
        (.jumpTo, some 2)], [0, 4, 3]) ∧
    (builtProg "$ ?> 1 |> 2").map (fun P => (reloc P).consts.toList.map Val.typeOf) =
      some [.unit, .false, .true, .number, .number] ∧
    (builtProg "$ ?> 1 |> 2").bind (fun P => (reloc P).consts[3]?) = some (.num (.int 2)) ∧
    (builtProg "$ ?> 1 |> 2").bind (fun P => (reloc P).consts[4]?) = some (.num (.int 1)) := by
  rw [builtProg_cond]
  exact ⟨rfl, rfl, rfl, rfl⟩

/-- `{ $ + 1 } <~ 5`: likewise (3, 4, 5; `Expression 1`, `5`, `1`) -/
theorem real_nested_is_reloc :
    (builtProg "{ $ + 1 } <~ 5").map (fun P => ((reloc P).instrs.toList, (reloc P).jumps.toList)) =
      some ([(.put, some 3), (.put, some 4), (.apply, none), (.endExpression, none), (.putValue, none),
        (.put, some 5), (.add, none), (.endExpression, none)], [0, 4]) ∧
    (builtProg "{ $ + 1 } <~ 5").bind (fun P => (reloc P).consts[3]?) = some (.expr 1) ∧
    (builtProg "{ $ + 1 } <~ 5").bind (fun P => (reloc P).consts[4]?) = some (.num (.int 5)) ∧
    (builtProg "{ $ + 1 } <~ 5").bind (fun P => (reloc P).consts[5]?) = some (.num (.int 1)) := by
  rw [builtProg_nested]
  exact ⟨rfl, rfl, rfl, rfl⟩

/-- the real data list for `1 + 1` and for `$ ?> () |> 1` -/
def realDataOne : Array (Val Float) := #[.unit, .fls, .tru, .num (.int 1)]

/-- `1 + 1`: the real builder emits `Put 3; Put 3` over FOUR cells; `reloc` gives `Put 3; Put 4` over five -/
theorem reloc_wrong_on_equal_literals :
    (builtProg "1 + 1").map (fun P => ((reloc P).instrs.toList, (reloc P).consts.size)) =
      some ([(.put, some 3), (.put, some 4), (.add, none), (.endExpression, none)], 5) := by
  rw [builtProg_equal_literals]; rfl

/-- … and the real program is `relocBy` along the non-injective map the cache produced -/
theorem real_equal_literals_is_relocBy :
    (builtProg "1 + 1").map (fun P => (relocBy (fun k => if k < 2 then 3 else k + 4) realDataOne P).instrs.toList) =
      some [(.put, some 3), (.put, some 3), (.add, none), (.endExpression, none)] ∧
    ∀ P, builtProg "1 + 1" = some P → ConstsAgree (fun k => if k < 2 then 3 else k + 4) realDataOne P := by
  rw [builtProg_equal_literals]
  refine ⟨rfl, fun P hP k => ?_⟩
  cases hP
  match k with
  | 0 => rfl
  | 1 => rfl
  | k + 2 => rfl

/-- `$ ?> () |> 1`: the `()` literal is the preallocated cell 0 -/
theorem real_unit_literal_is_relocBy :
    (builtProg "$ ?> () |> 1").map (fun P =>
        (relocBy (fun k => if k = 0 then 3 else if k = 1 then 0 else k + 4) realDataOne P).instrs.toList) =
      some [(.putValue, none), (.jumpIfTrue, some 1), (.put, some 3), (.endExpression, none), (.put, some 0),
        (.jumpTo, some 2)] := by
  rw [builtProg_unit_literal]; rfl

end Garnish.Props.C01TextStore
