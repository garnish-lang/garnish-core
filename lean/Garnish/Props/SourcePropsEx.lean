/-
Non-vacuity of Props/SourceProps.lean: source STRINGS, every hypothesis by evaluation.
  "$ ?> 1 |> 2"   C06 (balanced), C05 (well formed), C17 (trace), C04 (attribution)
  "$ && 5"        C10 (`&&` with a false left operand: `$!`, no host call, the right operand not entered)
  "$ ?> 1"        C10 (conditional whose test fails)
  both            C20 (two texts in one object)
-/
import Garnish.Props.SourceProps
namespace Garnish.Props.SourceProps
open Garnish Garnish.Gen Garnish.Spec Garnish.Abs Garnish.Abs.Tree Garnish.Abs.Source Garnish.Model Garnish.Model.Parser
open Garnish.Model.Lexer Garnish.Model.Literals Garnish.Model.Build Garnish.Props.C01Build Garnish.Props.C01Source
open Garnish.Props.C02Numbered Garnish.Props.C01Text Garnish.Props.C20
open Garnish.Props.C02Parse (tk)

/-- C06: the analysis succeeds on the program built from `"$ ?> 1 |> 2"` -/
example (fo : FloatOps Float) (host : Host Float) : ∃ d dep, buildText noFloat asciiCC sCond.toList = .ok (d, 0) ∧
    C06.absDepth (progOf d) ((progOf d).jumps[0]?.getD 0) = some dep := by
  obtain ⟨d, dep, h1, h2, _⟩ := C06_text_balanced noFloat asciiCC fo host _ progCond srcCond (by rfl)
  exact ⟨d, dep, h1, h2⟩

/-- C05: … and the built object is well formed -/
example : ∃ (d : BState Float) (r : ParseResult), buildText noFloat asciiCC sCond.toList = .ok (d, 0) ∧
    wfProg r.nodes.size BState.empty d = true := by
  obtain ⟨d, hb, _⟩ := srcCond_built
  obtain ⟨_, r, _, _, hw, _⟩ := C05_text_wf noFloat asciiCC _ d 0 hb
  exact ⟨d, r, hb, hw⟩

/-- C17: on input `true` the run records exactly the (no) host calls of the evaluation -/
example (fo : FloatOps Float) (host : Host Float) : ∃ d entry, buildText noFloat asciiCC sCond.toList = .ok (d, entry) ∧
    ∃ n m, run fo host (progOf d) n
        { pc := (progOf d).jumps[entry]?.getD 0, regs := [], vals := [.tru], frames := [], trace := [] } = (.halted m, n) ∧
      m.trace = [] :=
  C17_text_trace noFloat asciiCC fo host _ progCond srcCond progCond_wf .tru 5 _ _ (progCond_meaning fo host)

/-- C04: every non-structural token of the text has an instruction -/
example : ∃ d r, buildText noFloat asciiCC sCond.toList = .ok (d, 0) ∧ parse (toP (lexed sCond)) = .ok r ∧
    ∀ (i : Nat) (n : ParseNode), r.nodes[i]? = some n → Garnish.Lemmas.BuildAttr.attributable n.definition = true →
      ∃ k : Nat, d.metadata[k]? = some (some i) := by
  obtain ⟨d, hb, _⟩ := srcCond_built
  obtain ⟨r, t, hp, _, _, h2, _⟩ := C04_text_attribution noFloat asciiCC sCond.toList (lexed sCond) text_cond_lex
    (by rw [show lexed sCond = lexed "$ ?> 1 |> 2" from rfl, text_cond_toks]; exact exCond_frag') d 0 hb
  exact ⟨d, r, hb, hp, h2⟩

/-! `"$ && 5"` -/

def sAnd : String := "$ && 5"
theorem srcAnd : Src noFloat asciiCC sAnd.toList prog2b :=
  src_of_eval sAnd prog2b [tk .value "$" 0, tk .whitespace " " 1, tk .and "&&" 2, tk .whitespace " " 3, tk .number "5" 4]
    (by decide +kernel) (List.cons_ne_nil _ _) (by decide +kernel) (by rfl)

theorem prog2b_wf : C01.WFProgram prog2b := .ofCheck rfl rfl (by rfl)

/-- C10: on input `false` the program built from `"$ && 5"` halts with `$!` and an empty trace: the right operand is not run -/
example (fo : FloatOps Float) (host : Host Float) : ∃ d, buildText noFloat asciiCC sAnd.toList = .ok (d, 0) ∧
    ∃ n m, run fo host (progOf d) n
        { pc := (progOf d).jumps[0]?.getD 0, regs := [], vals := [.fls], frames := [], trace := [] } = (.halted m, n) ∧
      m.vals = [.fls] ∧ m.trace = [] :=
  C10_text_and_short_circuits noFloat asciiCC fo host _ prog2b srcAnd prog2b_wf .input (int 5) rfl .fls 1 .fls ⟨.fls, []⟩
    (by simp [evalF]) rfl

/-- C10 at the program counter: in the built program the `And` sits at `pc + 1` and the right operand strictly behind the
continuation -/
example (fo : FloatOps Float) (host : Host Float) : ∃ d, buildText noFloat asciiCC sAnd.toList = .ok (d, 0) ∧
    ∃ pc j tb, (progOf d).instrs[pc + len (Expr.input : Expr Float)]? = some (.and, some j) ∧
      (progOf d).jumps[j]? = some tb ∧ pc + len (Expr.input : Expr Float) + 1 < tb := by
  obtain ⟨d, hb, _, pc, j, tb, _, h1, h2, _, h3, _⟩ :=
    C10_text_and_in_context noFloat asciiCC fo host _ prog2b srcAnd prog2b_wf.toC (id := 0) (b := main2b) rfl (Sub.refl _)
  exact ⟨d, hb, pc, j, tb, h1, h2, h3⟩

/-! two texts in one object -/

/-- C20: `"$ ?> 1 |> 2"` and then `"$ && 5"` built into one object: the first program is untouched and still computes `1` on
input `true` in the final object; the second one, from its entry (jump entry 3), computes `$!` on input `false` -/
example (fo : FloatOps Float) :
    ∃ d1 d2, buildText noFloat asciiCC sCond.toList = .ok (d1, 0) ∧
      buildTextInto noFloat asciiCC d1 sAnd.toList = .ok (d2, d1.jumps.size) ∧ Extends (progOf d1) (progOf d2) ∧
      (∃ n m, run fo Host.declining (progOf d2) n
          { pc := (progOf d2).jumps[0]?.getD 0, regs := [], vals := [.tru], frames := [], trace := [] } = (.halted m, n) ∧
        m.vals = [.num (.int 1)]) ∧
      (∃ n m, run fo Host.declining (progOf d2) n
          { pc := (progOf d2).jumps[d1.jumps.size]?.getD 0, regs := [], vals := [.fls], frames := [], trace := [] } = (.halted m, n) ∧
        m.vals = [.fls]) := by
  obtain ⟨d1, d2, h1, h2, h3, h4, h5⟩ :=
    C20_text_shared noFloat asciiCC fo Host.declining _ _ progCond prog2b srcCond srcAnd progCond_wf prog2b_wf
  refine ⟨d1, d2, h1, h2, h3, ?_, ?_⟩
  · obtain ⟨n, m, hr, hv, _⟩ := h4 .tru 5 _ _ (progCond_meaning fo Host.declining)
    exact ⟨n, m, hr, hv⟩
  · obtain ⟨n, m, hr, hv, _⟩ := h5 Host.declining (HostRel.declining _) .fls 3 .fls ⟨.fls, []⟩
      (by simp [evalProgram, evalBody, evalF, prog2b, main2b, Val.truthy])
    exact ⟨n, m, hr, hv⟩

end Garnish.Props.SourceProps
