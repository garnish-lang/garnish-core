/-
C09 — algebraic corollaries of the exactness theorems for the 32-bit integer fragment:
laws a script author relies on and that a wrapping or trapping implementation breaks.
Every statement is about the model of `SimpleNumber`'s operations (Model/Number.lean),
for all i32 operands.
-/
import Garnish.Props.C09
namespace Garnish.Props.C09Laws
open Garnish Garnish.Number Garnish.Props.C09

variable {F : Type} (fo : FloatOps F)

/-- `+` on integers is commutative, including on which pairs give unit. -/
theorem C09_int_plus_comm (a b : Int) (ha : InRange a) (hb : InRange b) :
    plus fo (.int a) (.int b) = plus fo (.int b) (.int a) := by
  rw [C09_int_plus fo a b ha hb, C09_int_plus fo b a hb ha]; simp [Spec.add, Int.add_comm]

/-- `*` on integers is commutative, including on which pairs give unit. -/
theorem C09_int_multiply_comm (a b : Int) (ha : InRange a) (hb : InRange b) :
    multiply fo (.int a) (.int b) = multiply fo (.int b) (.int a) := by
  rw [C09_int_multiply fo a b ha hb, C09_int_multiply fo b a hb ha]; simp [Spec.mul, Int.mul_comm]

/-- A defined sum is the mathematical sum and lies in range: no wrapped value is ever returned. -/
theorem C09_int_plus_some (a b r : Int) (ha : InRange a) (hb : InRange b)
    (h : plus fo (.int a) (.int b) = some (.int r)) : r = a + b ∧ InRange r := by
  rw [C09_int_plus fo a b ha hb, Lemmas.map_int_eq_some, Spec.add, Lemmas.exact_eq_some] at h
  exact ⟨h.1.symm, h.2⟩

/-- Unit is returned exactly when the mathematical sum is not representable. -/
theorem C09_int_plus_none_iff (a b : Int) (ha : InRange a) (hb : InRange b) :
    plus fo (.int a) (.int b) = none ↔ ¬ InRange (a + b) := by
  rw [C09_int_plus fo a b ha hb, Option.map_eq_none_iff, Spec.add, Lemmas.exact_eq_none]

/-- `0` is a two-sided identity of `+`; `1` of `*`. -/
theorem C09_int_plus_zero (a : Int) (ha : InRange a) :
    plus fo (.int a) (.int 0) = some (.int a) ∧ plus fo (.int 0) (.int a) = some (.int a) := by
  have h0 : InRange 0 := by decide
  rw [C09_int_plus fo a 0 ha h0, C09_int_plus fo 0 a h0 ha]
  simp [Spec.add, Spec.exact, ha]

theorem C09_int_multiply_one (a : Int) (ha : InRange a) :
    multiply fo (.int a) (.int 1) = some (.int a) ∧ multiply fo (.int 1) (.int a) = some (.int a) := by
  have h1 : InRange 1 := by decide
  rw [C09_int_multiply fo a 1 ha h1, C09_int_multiply fo 1 a h1 ha]
  simp [Spec.mul, Spec.exact, ha]

/-- Subtraction undoes addition whenever the sum is representable. -/
theorem C09_int_plus_subtract_cancel (a b r : Int) (ha : InRange a) (hb : InRange b)
    (h : plus fo (.int a) (.int b) = some (.int r)) :
    subtract fo (.int r) (.int b) = some (.int a) := by
  obtain ⟨hr, hin⟩ := C09_int_plus_some fo a b r ha hb h
  rw [C09_int_subtract fo r b hin hb, Lemmas.map_int_eq_some, Spec.sub, Lemmas.exact_eq_some]
  exact ⟨by omega, ha⟩

/-- The only integer whose opposite is unit is the most negative one; otherwise `-` is an involution. -/
theorem C09_int_opposite_none_iff (a : Int) (ha : InRange a) :
    opposite fo (.int a) = none ↔ a = -2147483648 := by
  rw [C09_int_opposite fo a ha, Option.map_eq_none_iff, Spec.neg, Lemmas.exact_eq_none]
  unfold InRange at *; omega

theorem C09_int_opposite_involutive (a r : Int) (ha : InRange a)
    (h : opposite fo (.int a) = some (.int r)) : opposite fo (.int r) = some (.int a) := by
  rw [C09_int_opposite fo a ha, Lemmas.map_int_eq_some, Spec.neg, Lemmas.exact_eq_some] at h
  rw [C09_int_opposite fo r h.2, Lemmas.map_int_eq_some, Spec.neg, Lemmas.exact_eq_some]
  exact ⟨by omega, ha⟩

example : InRange 2147483647 ∧ InRange 1 ∧ ¬ InRange (2147483647 + 1) := by decide

end Garnish.Props.C09Laws
