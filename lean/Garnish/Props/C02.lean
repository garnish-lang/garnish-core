/-
C02 — `parse` returns the tree the operator table dictates.

The oracle is `Spec.refParse` (Garnish/Spec/RefParse.lean), parameterised by a `Table`; the precedence condition is
`Spec.PrecOK` (walk-based form of: tighter below looser, equal priority left-to-right unless right-to-left, prefix
operators and brackets in operand position).  Proved here (proofs in Garnish/Lemmas/RefParse.lean):
  * `C02_refParse_precOK`: every tree `refParse` returns satisfies `PrecOK` — for the WHOLE reference grammar
    (values, prefix / suffix / binary / optional-binary operators, implicit space lists, groups, nested expressions,
    separators), for any table whose right-to-left flag agrees with its token classes; `C02_gen_rtlAgrees` discharges
    that hypothesis for the generated table;
  * the core operations keep the in-order token sequence (`C02_attach_inorder`, `C02_plug_inorder`);
  * `C02_refParse_inorder`: the in-order walk of the reference tree = the significant tokens in source order;
  * `C02_precOK_unique`: in the atoms + brackets + binary operators fragment `PrecOK` and the item sequence determine the tree.
Agreement of the real parser with `refParse` is checked by the REFPARSE/TREECHK suites on every accepted generated input
(and proved for a fragment: Props/C02Parse.lean, proofs in Lemmas/ParserFlat.lean and Lemmas/ParserBSyntax.lean).
-/
import Garnish.Spec.RefParse
import Garnish.Lemmas.RefParse
import Garnish.Lemmas.RefParseUnique
import Garnish.Lemmas.RefParseInorder
namespace Garnish.Props.C02
open Garnish Garnish.Gen Garnish.Model.Parser Garnish.Spec

/-! ### bridge: the table the code has (regenerated) = the language's table (committed) -/
theorem C02_bridge_priority : ∀ d : Definition, Garnish.Gen.priority d = Spec.Lang.priority d := by
  intro d; cases d <;> rfl
theorem C02_bridge_definition : ∀ t : TokenType, Garnish.Gen.getDefinition t = Spec.Lang.getDefinition t := by
  intro t; cases t <;> rfl
theorem C02_bridge_table : Table.gen = Table.spec := by
  have h1 : Garnish.Gen.getDefinition = Spec.Lang.getDefinition := funext C02_bridge_definition
  have h2 : Garnish.Gen.priority = Spec.Lang.priority := funext C02_bridge_priority
  simp [Table.gen, Table.spec, h1, h2]

/-- `Pair` is the only right-to-left definition of the generated table -/
theorem rtl_gen (d : Definition) : Table.gen.rtl d = (d == Definition.pair) := by
  have h : Table.gen.rtlDefs = [Definition.pair] := rfl
  rw [Table.rtl, h]; cases d <;> rfl

/-- in the generated table the right-to-left flag (`Pair` only) agrees with the syntactic class of every token type -/
theorem C02_gen_rtlAgrees : RtlAgrees Table.gen Table.gen.rtl where
  tokens := by intro tt; rw [rtl_gen]; cases tt <;> rfl
  list := rtl_gen _

/-- every tree the reference parser returns satisfies the precedence condition (whole reference grammar, any table) -/
theorem C02_refParse_precOK (tbl : Table) (rtlf : Definition → Bool) (hr : RtlAgrees tbl rtlf) (toks : List PToken)
    (t : RTree) (h : refParse tbl toks = .ok t) : PrecOK tbl rtlf t :=
  refParse_precOK tbl rtlf hr toks t h

/-- instance for the table regenerated from parser.rs -/
theorem C02_refParse_precOK_gen (toks : List PToken) (t : RTree) (h : refParse Table.gen toks = .ok t) :
    PrecOK Table.gen Table.gen.rtl t :=
  refParse_precOK Table.gen Table.gen.rtl C02_gen_rtlAgrees toks t h

/-- inserting an operator appends its token to the in-order sequence -/
theorem C02_attach_inorder (tbl : Table) (q : Nat) (rtl : Bool) (d : Definition) (k : Nat) (t : RTree) :
    (attach tbl q rtl d k t).inorderToks = t.inorderToks ++ [k] :=
  attach_inorder tbl q rtl d k t

/-- placing an operand appends its tokens to the in-order sequence -/
theorem C02_plug_inorder (t x : RTree) (h : openSpine t = true) :
    (plug t x).inorderToks = t.inorderToks ++ x.inorderToks :=
  plug_inorder t x h

/-- inserting an operator / placing an operand keep the precedence condition -/
theorem C02_attach_precOK (tbl : Table) (rtlf : Definition → Bool) (q : Nat) (d : Definition) (k : Nat)
    (hq : tbl.prio d = some q) (t : RTree) (hok : PrecOK tbl rtlf t) : PrecOK tbl rtlf (attach tbl q (rtlf d) d k t) :=
  attach_precOK tbl rtlf q d k hq t hok

theorem C02_plug_precOK (tbl : Table) (rtlf : Definition → Bool) (t x : RTree) (ht : PrecOK tbl rtlf t)
    (hx : PrecOK tbl rtlf x) (hop : OperandLike x) : PrecOK tbl rtlf (plug t x) :=
  plug_precOK tbl rtlf t x ht hx hop

/-- **the in-order walk of the reference tree is exactly the significant tokens, in source order**: every token that is not
    whitespace, an annotation, a closer or a redundant separator (`Spec.significant`) stands for exactly one node, the
    synthesized `List` nodes aside; nothing is dropped, duplicated or reordered -/
theorem C02_refParse_inorder (toks : List PToken) (t : RTree) (h : refParse Table.gen toks = .ok t) :
    t.inorderSig = significant toks :=
  refParse_inorder toks t h

theorem C02_refParse_inorder_spec (toks : List PToken) (t : RTree) (h : refParse Table.spec toks = .ok t) :
    t.inorderSig = significant toks := by
  rw [← C02_bridge_table] at h; exact refParse_inorder toks t h

/-- in the generated table only `Pair` groups right-to-left and it is alone at its priority -/
theorem C02_gen_consistent : Consistent Table.gen Table.gen.rtl := by
  have hpair : ∀ d, Table.gen.prio d = Table.gen.prio Definition.pair → d = Definition.pair := by
    intro d; cases d <;> simp [Table.gen, priority]
  intro d1 d2 p h1 h2
  rw [rtl_gen, rtl_gen]
  by_cases e1 : d1 = Definition.pair
  · subst e1
    have : d2 = Definition.pair := hpair d2 (by rw [h2, h1])
    subst this; rfl
  · by_cases e2 : d2 = Definition.pair
    · subst e2
      exact absurd (hpair d1 (by rw [h1, h2])) e1
    · rw [beq_eq_false_iff_ne.mpr e1, beq_eq_false_iff_ne.mpr e2]

/-- **the precedence condition determines the tree** (atoms, closed brackets as atoms, binary operators): two trees with the
    same in-order item sequence that both satisfy `PrecOK` are equal — "the tree the table dictates" is well defined -/
theorem C02_precOK_unique (tbl : Table) (rtlf : Definition → Bool) (hc : Consistent tbl rtlf) (t1 t2 : RTree)
    (hb1 : binFrag t1 = true) (hb2 : binFrag t2 = true) (ha1 : allPrio tbl t1 = true) (ha2 : allPrio tbl t2 = true)
    (h1 : PrecOK tbl rtlf t1) (h2 : PrecOK tbl rtlf t2) (hi : items t1 = items t2) : t1 = t2 :=
  precOK_unique tbl rtlf hc t1 t2 hb1 hb2 ha1 ha2 h1 h2 hi

/-- instance for the generated table -/
theorem C02_precOK_unique_gen (t1 t2 : RTree) (hb1 : binFrag t1 = true) (hb2 : binFrag t2 = true)
    (ha1 : allPrio Table.gen t1 = true) (ha2 : allPrio Table.gen t2 = true)
    (h1 : PrecOK Table.gen Table.gen.rtl t1) (h2 : PrecOK Table.gen Table.gen.rtl t2) (hi : items t1 = items t2) : t1 = t2 :=
  precOK_unique Table.gen Table.gen.rtl C02_gen_consistent t1 t2 hb1 hb2 ha1 ha2 h1 h2 hi

/-- consequence: in the fragment the reference tree is THE tree with that item sequence that satisfies the table -/
theorem C02_refParse_is_the_tree (toks : List PToken) (t t' : RTree) (h : refParse Table.gen toks = .ok t)
    (hb : binFrag t = true) (hb' : binFrag t' = true) (ha : allPrio Table.gen t = true) (ha' : allPrio Table.gen t' = true)
    (hok' : PrecOK Table.gen Table.gen.rtl t') (hi : items t' = items t) : t' = t :=
  precOK_unique Table.gen Table.gen.rtl C02_gen_consistent t' t hb' hb ha' ha hok' (C02_refParse_precOK_gen toks t h) hi

/-! ### the transliterated parser on the binary-operator fragment (statement; what is proved of it: Props/C02Parse.lean) -/

/-- the implementation-side tree as a reference tree (definitions looked up in the node array; brackets do not occur
    in the fragment) -/
def treeToR (r : ParseResult) : Tree → RTree
  | .nil => .nil
  | .node l i k rt =>
    .node (treeToR r l) ((r.nodes[i]?).map (·.definition) |>.getD .drop) k (treeToR r rt)

def isAtomTok (t : PToken) : Bool :=
  ((getDefinition t.type).2 == .value || (getDefinition t.type).2 == .identifier) &&
    (getDefinition t.type).1 != .drop && (getDefinition t.type).1 != .expressionTerminator
def isBinTok (t : PToken) : Bool :=
  (getDefinition t.type).2 == .binaryLeftToRight || (getDefinition t.type).2 == .binaryRightToLeft
def isWsTok (t : PToken) : Bool := t.type == .whitespace

/-- `atom (ws? binop ws? atom)*` -/
def binShape : List PToken → Bool
  | [] => false
  | [a] => isAtomTok a
  | a :: rest =>
    isAtomTok a &&
      (match rest with
       | w1 :: o :: w2 :: rest' =>
         (isWsTok w1 && isBinTok o && isWsTok w2 && binShape rest') || (isWsTok w1 && isBinTok o && binShape (w2 :: rest'))
           || (isBinTok w1 && isWsTok o && binShape (w2 :: rest')) || (isBinTok w1 && binShape (o :: w2 :: rest'))
       | [o, b] => isBinTok o && isAtomTok b
       | _ => false)

def numbered : List PToken → Nat → List PToken
  | [], _ => []
  | t :: rest, k => { t with col := k } :: numbered rest (k + 1)

/-- the fragment claim INCLUDING acceptance (`parse` returns `ok`): proved, on the larger fragment with trivia and with the
    positions stated as `NumberedFrom 0 toks`, as `Garnish.Props.C02Parse.C02_modelParse_binary` (and with prefix operators
    as `C02_parse_correct_fragment_prefix`); this `def` with `binShape` / `numbered` is kept for reference only.  What IS proved, for all token
    lists `value (trivia* binop trivia* value)*` without length bound, is the conditional form "whenever `parse` accepts,
    the node array is a proper tree and it is the reference tree": `Garnish.Props.C02Parse.C02_parse_correct_fragment`
    (Garnish/Props/C02Parse.lean).  Original note:
    the fragment claim for the transliterated parser (NOT proved end to end): on `atom (ws? binop ws? atom)*` over binary
    operators of any priorities, `parse` accepts, the result is a proper tree and it is the reference tree.
    Proved pieces (Garnish/Lemmas/ParserInv.lean, ParserTrivia.lean): `walkLoop_chain` (on a parent chain the capped walk of `parse_token`
    never hits its cap and returns exactly the bottom-up search `walkSpec` that `Spec.absorb` performs),
    `parseToken_size_def`, `step_binop_post` (state after an operator token), `step_trivia` / `step_atom_indep` /
    `loop_binop_trivia_atom` (whitespace between operator and atom is invisible); missing: the array-level simulation
    "nodes represent the tree `T` with right spine `c`" ⇒ "after `parse_token` they represent `attach T`". -/
def C02_modelParse_binary_partial : Prop :=
  ∀ toks, binShape toks = true →
    ∃ r t, parse (numbered toks 0) = .ok r ∧ toTree r = some t ∧ refParse Table.gen toks = .ok (treeToR r t)

end Garnish.Props.C02
