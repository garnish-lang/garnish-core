/-
Runtime refinement, part 8 (C01 anchor): THE RUN. The address-level loop `executeLoop` (repeat
`execute_current_instruction` until `End`, Model/Runtime/Run.lean) follows `Abs.Machine.run`:

`C01_refine_run`: for any store with `StoreLawsRun` (the trait contract plus "a decodable address lies inside the
data"), any host refined by the store's extension points (`HostRefines`), related start states (`Sim`), the program's
constants stored at their own addresses (`Loaded`: static — every step keeps it, `DecKept`) and the machine-only side
conditions along the machine's run (`RunOK`): if the machine halts in `m'` after `k` steps, the loop answers `End` after
the SAME `k` steps in a state whose registers, input values and frames decode to those of `m'`.
`C01_refine_run_value`: in particular, when the machine ends with the single input value `v`, the store ends with a
single input-value address, and it decodes to `v`.
`C01_runOK_of_static`: `RunOK` holds for every run of a program that contains none of Resolve, the comparisons, Access,
Apply, EmptyApply, Equal, NotEqual, AccessLengthInternal (the instructions with a dynamic side condition); for other
programs `RunOK` is the hypothesis that remains (sizes ≤ i32::MAX, loop fuel, integer keys, no slices in look-ups,
agreement of the slice comparison — see Model/Runtime/StepDomain*.lean).
-/
import Garnish.Lemmas.RuntimeRun
import Garnish.Lemmas.RuntimeRefStore
namespace Garnish.Props.RuntimeRefine
open Garnish Gen Garnish.Abs Garnish.Model.Equality Garnish.Model.Runtime Garnish.Lemmas.Runtime

variable {F σ : Type} {S : RStore F σ} {P : Prog F} {host : Host F} (fo : FloatOps F)

theorem C01_refine_run (L : StoreLawsRun S) (HR : HostRefines S host) (fuel : Nat) (cast : RM σ (Option Nat))
    (n : Nat) {s : σ} {m : MState F} (hsim : Sim S P s m) (hl : Loaded S P s) (hok : RunOK fo host P fuel n m)
    {m' : MState F} {k : Nat} (hrun : Abs.run fo host P n m = (.halted m', k)) :
    ∃ s', executeLoop fo S fuel (fullHandlers fo S fuel cast) n s = .ok ((.end_, k), s') ∧
      SimD S P s' m'.regs m'.vals m'.frames ∧ DecKept S s s' :=
  executeLoop_spec fo L HR fuel cast n s m hsim hl hok m' k hrun

/-- the final value: the machine's result is what the address left on the input-value stack denotes -/
theorem C01_refine_run_value (L : StoreLawsRun S) (HR : HostRefines S host) (fuel : Nat) (cast : RM σ (Option Nat))
    (n : Nat) {s : σ} {m : MState F} (hsim : Sim S P s m) (hl : Loaded S P s) (hok : RunOK fo host P fuel n m)
    {m' : MState F} {k : Nat} (hrun : Abs.run fo host P n m = (.halted m', k)) {v : Val F}
    (hv : m'.vals = [v]) (hr : m'.regs = []) (hf : m'.frames = []) :
    ∃ s' a, executeLoop fo S fuel (fullHandlers fo S fuel cast) n s = .ok ((.end_, k), s') ∧
      S.vals s' = [a] ∧ Decodes (S.view s') a v ∧ S.regs s' = [] ∧ S.frames s' = [] := by
  obtain ⟨s', h1, hd, _⟩ := C01_refine_run fo L HR fuel cast n hsim hl hok hrun
  obtain ⟨a, h2⟩ := On.simD_final hd hv hr hf
  exact ⟨s', a, h1, h2⟩

/-- programs without instructions that have a dynamic side condition -/
theorem C01_runOK_of_static (fuel : Nat) (hs : StaticOK P) (n : Nat) (m : MState F) : RunOK fo host P fuel n m :=
  runOK_of_static fo fuel hs n m

/-- every step keeps the constants loaded -/
theorem C01_loaded_kept {s s' : σ} (hl : Loaded S P s) (hk : DecKept S s s') : Loaded S P s' := loaded_kept hl hk

/-- the reference store satisfies the extended contract -/
theorem refStore_lawsRun (h : RefHost F) : StoreLawsRun (refStore h) where
  toStoreLaws := refStore_laws h
  dataBound st a v hd := by
    have ht := Garnish.Lemmas.EqualityRefine.decodes_typeOf hd
    change (refView st.cells).typeOf a = _ at ht
    rw [rv_typeOf] at ht
    show a < st.cells.length
    cases hc : st.cells[a]? with
    | none => rw [hc] at ht; cases ht
    | some c =>
      apply Nat.lt_of_not_le
      intro hle
      rw [List.getElem?_eq_none hle] at hc
      cases hc

end Garnish.Props.RuntimeRefine
