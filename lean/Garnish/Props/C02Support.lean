/-
Support lemmas that discharge hypotheses of other end-to-end theorems.

 (1) Fragment membership depends on the token TYPES only: `frag9_of_sameTypes`, `frag9'_of_sameTypes` (for numbered lists —
     the parser's inputs `toP t` are numbered): the recogniser `parseG` commutes with every type-preserving map of tokens
     (Lemmas/ParserFragTypes), and two numbered lists with the same types are such maps of each other.
     Corollaries: `C18_text_addSpace'`, `C18_text_addSpace_result'` (Props/C18Text.lean without the hypothesis that the
     rewritten token list is in the fragment).
 (2) `refParse_textNodesOnTokens`: every node of the reference tree whose definition reads its token's text sits on a token
     that is not Whitespace / Subexpression (Lemmas/RefParseNodes: a node `(d, k)` of `refParse toks` is a `List` node or `d`
     is the definition of the type of `toks[k]`, Property for an Identifier after `.`).
     Corollaries: `C18_text_addSpace_elaborate'`, and `C18_text_addSpace_result'` also loses `TextNodesOnTokens`.
 (3) Numbering with a side-effect block: `fragBlocks` = `frag9'` or `v trivia* [ trivia* body trivia* ]` with `v` a value
     token and `body` in `frag8` without a trailing blank line before `}` (`Spec.valueBlockN`).
     `C02_parse_inorder_range_blocks`: on `fragBlocks` the in-order walk of the parser's tree is `0 … nodes.size - 1`;
     `C01_tokens_build'` / `C01_text_correct_blocks'`: Props/C01Blocks.lean without the hypothesis `hin`.
     NOT covered: a block inside a larger expression (`5 [6], 1`), after a group, nested `v [b]` operands.
     The induction behind `frag9` is two-sided (every step also states the reference parser's step), and the reference
     grammar has no rule for `[ ]`; covering those shapes needs a reference semantics for blocks or a parser-only version of
     that induction, plus a bottom-of-spine invariant for "value node with a right child".
-/
import Garnish.Lemmas.ParserFragTypes
import Garnish.Lemmas.RefParseNodes
import Garnish.Props.C18Text
import Garnish.Lemmas.ParserFragValueBlock
import Garnish.Props.C01Blocks
namespace Garnish.Props.C02Support
open Garnish Garnish.Gen Garnish.Spec Garnish.Model Garnish.Model.Lexer Garnish.Model.Parser
open Garnish.Abs Garnish.Abs.Source Garnish.Props.C02Parse Garnish.Props.C18Parse Garnish.Props.C18Text
open Garnish.Abs.Tree Garnish.Model.Literals Garnish.Model.Build Garnish.Props.C01Build Garnish.Props.C01Source
open Garnish.Props.C02Numbered

/-! ### (1) token types only -/

theorem frag9_map {f : PToken → PToken} (hf : ∀ t, (f t).type = t.type) (toks : List PToken)
    (h : frag9 toks = true) : frag9 (toks.map f) = true := by
  unfold frag9 frag8 at h ⊢
  rcases Bool.or_eq_true _ _ |>.mp h with h | h
  · rw [fragF_map hf h]; rfl
  · rw [fragTC_map hf h]; simp

/-- **`frag9` depends on the token types only** -/
theorem frag9_of_sameTypes {a b : List PToken} (ha : NumberedFrom 0 a) (hb : NumberedFrom 0 b) (h : SameTypes a b) :
    frag9 a = frag9 b :=
  frag_of_sameTypes (P := frag9) (fun _ hf toks => frag9_map hf toks) ha hb h

/-- **`frag9'` depends on the token types only** -/
theorem frag9'_of_sameTypes {a b : List PToken} (ha : NumberedFrom 0 a) (hb : NumberedFrom 0 b) (h : SameTypes a b) :
    frag9' a = frag9' b :=
  frag_of_sameTypes (P := frag9') (fun _ hf toks => frag9N_map hf toks) ha hb h

/-- the same for the parser inputs of two lexer token lists -/
theorem frag9_toP {t t' : List LexerToken} (h : SameTypes (toP t) (toP t')) : frag9 (toP t) = frag9 (toP t') :=
  frag9_of_sameTypes (toP_numbered t) (toP_numbered t') h

theorem frag9'_toP {t t' : List LexerToken} (h : SameTypes (toP t) (toP t')) : frag9' (toP t) = frag9' (toP t') :=
  frag9'_of_sameTypes (toP_numbered t) (toP_numbered t') h

/-! ### (2) text-reading nodes sit on tokens -/

theorem refParse_textNodesOnTokens (toks : List PToken) (rt : RTree) (h : refParse Table.gen toks = .ok rt)
    (_hnum : NumberedFrom 0 toks) : TextNodesOnTokens toks rt :=
  refParse_text_nodes toks rt h

/-! ### the text-level theorems of Props/C18Text.lean without those hypotheses -/

/-- `C18_text_addSpace` with one fragment hypothesis: the original token list is in `frag9` -/
theorem C18_text_addSpace' (cc : CharClass) (hcc : cc.Sane) (s s' : List Char) (t : List LexerToken)
    (hl : lex cc s = .ok t) (h : C18Text.TextAddSpace cc s s') (hf : frag9 (toP t) = true) :
    ∃ t' r tr r' tr', lex cc s' = .ok t' ∧ parse (toP t) = .ok r ∧ toTree r = some tr ∧ parse (toP t') = .ok r' ∧
      toTree r' = some tr' ∧ treeToRG r tr = treeToRG r' tr' ∧ TreeEqTrivia (treeToRG r tr) (treeToRG r' tr') := by
  obtain ⟨t1, hl1, hc⟩ := C18_text_addSpace_lex cc hcc s s' t hl h
  refine C18_text_addSpace cc hcc s s' t hl h hf (fun t' hl' => ?_)
  rw [hl1] at hl'; cases hl'
  rw [← frag9_toP hc.sameTypes]; exact hf

/-- `C18_text_addSpace_elaborate` without `TextNodesOnTokens`: `rt` is the reference tree of the original tokens -/
theorem C18_text_addSpace_elaborate' {F : Type} (pf : List Char → Option F) (t t' : List LexerToken)
    (h : OneWsChanged t t') (rt : RTree) (href : refParse Table.gen (toP t) = .ok rt) :
    elaborate pf (toP t') rt = elaborate pf (toP t) rt :=
  C18_text_addSpace_elaborate pf t t' h rt (refParse_textNodesOnTokens _ rt href (toP_numbered t))

/-- **result half on `frag9'`**, hypotheses about the ORIGINAL text only -/
theorem C18_text_addSpace_result' {F : Type} (pf : List Char → Option F) (cc : CharClass) (hcc : cc.Sane)
    (fo : FloatOps F) (host : Host F) (s s' : List Char) (t : List LexerToken) (hl : lex cc s = .ok t)
    (h : C18Text.TextAddSpace cc s s') (hf : frag9' (toP t) = true)
    (rt : RTree) (href : refParse Table.gen (toP t) = .ok rt)
    (p : Program F) (hel : elaborate pf (toP t) rt = some p) (hwf : C01.WFProgram p)
    (input : Val F) (fuel : Nat) (v : Val F) (st : St F) (he : evalProgram fo host fuel p input = .ok (v, st)) :
    ∀ src ∈ [s, s'], ∃ d entry, C01Text.buildText pf cc src = .ok (d, entry) ∧
      ∃ n m, run fo host (progOf d) n
          { pc := (progOf d).jumps[entry]?.getD 0, regs := [], vals := [input], frames := [], trace := [] } = (.halted m, n) ∧
        m.vals = [v] ∧ m.regs = [] ∧ m.frames = [] ∧ m.trace = st.trace := by
  obtain ⟨t1, hl1, hc⟩ := C18_text_addSpace_lex cc hcc s s' t hl h
  refine C18_text_addSpace_result pf cc hcc fo host s s' t hl h hf (fun t' hl' => ?_) rt href
    (refParse_textNodesOnTokens _ rt href (toP_numbered t)) p hel hwf input fuel v st he
  rw [hl1] at hl'; cases hl'
  rw [← frag9'_toP hc.sameTypes]; exact hf

/-! ### non-vacuity -/

/-- the example of Props/C18Text.lean (`x + y` / `x  \t+ y`) through the theorem with the single fragment hypothesis -/
example : ∃ t' r tr r' tr', lex rustTables exS' = .ok t' ∧ parse (toP exT) = .ok r ∧ toTree r = some tr ∧
    parse (toP t') = .ok r' ∧ toTree r' = some tr' ∧ treeToRG r tr = treeToRG r' tr' ∧
    TreeEqTrivia (treeToRG r tr) (treeToRG r' tr') :=
  C18_text_addSpace' rustTables rustTables_sane2.toSane exS exS' exT exS_lex.1 exS_add exS_frag.1

/-- membership transfers between the two token lists of that example -/
example : frag9 (toP exT') = frag9 (toP exT) := by
  obtain ⟨t', hl', hc⟩ := C18_text_addSpace_lex rustTables rustTables_sane2.toSane exS exS' exT exS_lex.1 exS_add
  have e : (Outcome.ok t' : Outcome (List LexerToken)) = .ok exT' := hl'.symm.trans exS_lex.2
  cases e
  exact (frag9_toP hc.sameTypes).symm

/-! ### (3) numbering with a side-effect block -/

open Garnish.Props.C01Blocks Garnish.Props.C01Text

/-- `frag9'`, or a value followed by one side-effect block whose body is in `frag8` (no trailing blank line before `}`) -/
def fragBlocks (toks : List PToken) : Bool := frag9' toks || Spec.valueBlockN toks

theorem fragBlocks_of_sameTypes {a b : List PToken} (ha : NumberedFrom 0 a) (hb : NumberedFrom 0 b) (h : SameTypes a b) :
    fragBlocks a = fragBlocks b :=
  frag_of_sameTypes (P := fragBlocks) (fun f hf toks hP => by
    unfold fragBlocks at hP ⊢
    rcases Bool.or_eq_true _ _ |>.mp hP with hP | hP
    · rw [show frag9' (toks.map f) = true from frag9N_map hf toks hP]; rfl
    · rw [valueBlockN_map hf toks hP]; simp) ha hb h

/-- **numbering on `fragBlocks`**: the nodes are numbered in in-order and all of them are in the tree -/
theorem C02_parse_inorder_range_blocks (toks : List PToken) (hf : fragBlocks toks = true) (hnum : NumberedFrom 0 toks)
    (r : ParseResult) (t : Spec.Tree) (hp : parse toks = .ok r) (ht : toTree r = some t) :
    t.inorder = List.range r.nodes.size := by
  unfold fragBlocks at hf
  rcases Bool.or_eq_true _ _ |>.mp hf with h | h
  · exact C02_parse_inorder_range toks h hnum r t hp ht
  · exact parse_inorder_range_valueBlock h hnum hp ht

/-- `WellNumbered` on `fragBlocks` -/
theorem C02_parse_wellNumbered_blocks (toks : List PToken) (hf : fragBlocks toks = true) (hnum : NumberedFrom 0 toks)
    (r : ParseResult) (t : Spec.Tree) (hp : parse toks = .ok r) (ht : toTree r = some t) : WellNumbered toks r t :=
  wellNumbered_of_inorder toks hnum r t hp ht (C02_parse_inorder_range_blocks toks hf hnum r t hp ht)

variable {F : Type} (pf : List Char → Option F) (cc : CharClass)

/-- **tokens → builder** on `fragBlocks` (no hypothesis about the numbering) -/
theorem C01_tokens_build' (toks : List PToken) (hf : fragBlocks toks = true) (hnum : NumberedFrom 0 toks) (r : ParseResult)
    (t : Spec.Tree) (hp : parse toks = .ok r) (ht : toTree r = some t)
    (p : Program F) (hel : elaborate pf toks (refTreeOf r t) = some p)
    (hcomplete : (compileState Prog.empty p).pending = []) :
    ∃ d, build pf (defaultFuel r.nodes.size) r.root r.nodes BState.empty = .ok (d, 0) ∧
      d.instrs = (compile p).instrs ∧ d.jumps = (compile p).jumps ∧ d.consts = (compile p).consts :=
  C01_tokens_build pf toks hnum r t hp ht (C02_parse_inorder_range_blocks toks hf hnum r t hp ht) p hel hcomplete

/-- **characters → machine result** on `fragBlocks` (no hypothesis about the numbering) -/
theorem C01_text_correct_blocks' (fo : FloatOps F) (host : Host F) (s : List Char) (toks : List LexerToken)
    (hlex : lex cc s = .ok toks) (hf : fragBlocks (toP toks) = true) (r : ParseResult) (t : Spec.Tree)
    (hp : parse (toP toks) = .ok r) (ht : toTree r = some t)
    (p : Program F) (hel : elaborate pf (toP toks) (refTreeOf r t) = some p)
    (hwf : C01.WFProgram p) (input : Val F) (fuel : Nat) (v : Val F) (st : St F)
    (h : evalProgram fo host fuel p input = .ok (v, st)) :
    ∃ d entry, buildText pf cc s = .ok (d, entry) ∧
      ∃ n m, run fo host (progOf d) n
          { pc := (progOf d).jumps[entry]?.getD 0, regs := [], vals := [input], frames := [], trace := [] } = (.halted m, n) ∧
        m.vals = [v] ∧ m.regs = [] ∧ m.frames = [] ∧ m.trace = st.trace :=
  C01_text_correct_blocks pf cc fo host s toks hlex r t hp ht
    (C02_parse_inorder_range_blocks (toP toks) hf (Lexer.toP_numbered toks) r t hp ht) p hel hwf input fuel v st h

/-! ### non-vacuity: `"5 [6 + 1]"` -/

def srcVB : String := "5 [6 + 1]"
def mainVB : Expr Float := .sideAfter (int 5) (.binary .add (int 6) (int 1))
def progVB : Program Float := { main := mainVB, bodies := [(0, mainVB)] }
def toksVB : List PToken := toP (lexed srcVB)

/-- the token list written out: lexing is evaluated once, the facts below start from the literal -/
theorem toksVB_eq : toksVB = [tk .number "5" 0, tk .whitespace " " 1, tk .startSideEffect "[" 2, tk .number "6" 3,
    tk .whitespace " " 4, tk .plusSign "+" 5, tk .whitespace " " 6, tk .number "1" 7, tk .endSideEffect "]" 8] := by
  rw [toksVB, C01Text.lexed, lex_eq]; decide +kernel

theorem vb_lex : lex asciiCC srcVB.toList = .ok (lexed srcVB) := C01Text.lex_lexed toksVB_eq (by simp)
theorem vb_frag : fragBlocks toksVB = true ∧ frag9' toksVB = false := by rw [toksVB_eq]; decide +kernel
theorem vb_parse : parse toksVB = .ok (resultOf toksVB) := by rw [toksVB_eq]; decide +kernel
theorem vb_tree : toTree (resultOf toksVB) = some (treeOfResult toksVB) := by rw [toksVB_eq]; decide +kernel
theorem vb_elab : elaborate noFloat toksVB (refTreeOf (resultOf toksVB) (treeOfResult toksVB)) = some progVB := by
  rw [toksVB_eq]; rfl

/-- the numbering theorem on the example (the hypothesis that Props/C01Blocks.lean checks by evaluation).
    `(e :)` elaborates `e` without its expected type `NumberedFrom 0 toksVB`, which the elaborator would otherwise
    bring to weak head normal form by lexing the source. -/
example : (treeOfResult toksVB).inorder = List.range (resultOf toksVB).nodes.size :=
  C02_parse_inorder_range_blocks toksVB vb_frag.1 (Lexer.toP_numbered _ :) _ _ vb_parse vb_tree

example : ∃ d, build noFloat (defaultFuel (resultOf toksVB).nodes.size) (resultOf toksVB).root
      (resultOf toksVB).nodes BState.empty = .ok (d, 0) ∧
    d.instrs = (compile progVB).instrs ∧ d.jumps = (compile progVB).jumps ∧ d.consts = (compile progVB).consts :=
  C01_tokens_build' noFloat toksVB vb_frag.1 (Lexer.toP_numbered _ :) _ _ vb_parse vb_tree progVB vb_elab (by rfl)

/-- … and down to the machine: `"5 [6]"` -/
def srcVB2 : String := "5 [6]"
def mainVB2 : Expr Float := .sideAfter (int 5) (int 6)
def progVB2 : Program Float := { main := mainVB2, bodies := [(0, mainVB2)] }
def toksVB2 : List PToken := toP (lexed srcVB2)
theorem toksVB2_eq : toksVB2 = [tk .number "5" 0, tk .whitespace " " 1, tk .startSideEffect "[" 2, tk .number "6" 3,
    tk .endSideEffect "]" 4] := by
  rw [toksVB2, C01Text.lexed, lex_eq]; decide +kernel

theorem vb2_lex : lex asciiCC srcVB2.toList = .ok (lexed srcVB2) := C01Text.lex_lexed toksVB2_eq (by simp)
theorem vb2_frag : fragBlocks toksVB2 = true ∧ frag9' toksVB2 = false := by rw [toksVB2_eq]; decide +kernel
theorem vb2_parse : parse toksVB2 = .ok (resultOf toksVB2) := by rw [toksVB2_eq]; decide +kernel
theorem vb2_tree : toTree (resultOf toksVB2) = some (treeOfResult toksVB2) := by rw [toksVB2_eq]; decide +kernel
theorem vb2_elab : elaborate noFloat toksVB2 (refTreeOf (resultOf toksVB2) (treeOfResult toksVB2)) = some progVB2 := by
  rw [toksVB2_eq]; rfl

theorem progVB2_wf : C01.WFProgram progVB2 := .ofCheck rfl rfl (by rfl)

/-- the source means `5` (the value of the block is dropped) -/
theorem progVB2_meaning (fo : FloatOps Float) (host : Host Float) :
    evalProgram fo host 6 progVB2 .unit = .ok (.num (.int 5), ⟨.unit, []⟩) := by
  simp [evalProgram, evalBody, evalF, lookupBody, progVB2, mainVB2, int]

example (fo : FloatOps Float) (host : Host Float) :
    ∃ d entry, buildText noFloat asciiCC srcVB2.toList = .ok (d, entry) ∧
      ∃ n m, run fo host (progOf d) n
          { pc := (progOf d).jumps[entry]?.getD 0, regs := [], vals := [.unit], frames := [], trace := [] } = (.halted m, n) ∧
        m.vals = [.num (.int 5)] ∧ m.regs = [] ∧ m.frames = [] ∧ m.trace = [] := by
  exact C01_text_correct_blocks' noFloat asciiCC fo host _ _ vb2_lex vb2_frag.1 _ _ vb2_parse vb2_tree progVB2 vb2_elab
    progVB2_wf .unit 6 _ _ (progVB2_meaning fo host)

end Garnish.Props.C02Support
