/-
C20 — programs built into a shared data object do not disturb each other: the compile-level theorems, for all
programs. `Abs.compileInto P0 p` is the structured model of `build` on a data object that already holds `P0`
(suite COMPILE2 ties it to the real `build` applied to one object several times).

  C20_compileInto_extends        every instruction, jump entry and constant of `P0` is unchanged (for EVERY program `p`)
  C20_roots_in_own_range         every root of `p` (its entry, its nested bodies, its out-of-line branch bodies) has a
                                 jump entry of its own (`≥ P0.jumps.size`) that points into `p`'s own instructions
  C20_own_pieces                 every jump operand / `Expression` constant / constant index that `p`'s compilation writes
                                 is `≥ P0`'s sizes: `p`'s instructions name only `p`'s pieces
  C20_compile_correct_shared     a program compiled after anything computes what its source means, started from its entry
  C20_earlier_program_undisturbed  … and still does after anything else is compiled into the same object
  C20_compileAll_correct         … for every program of an arbitrary finite sequence `compileAll P0 [p1, …, pn]`

Bodies are named by their jump entries (as in `WFProgram`), so a program compiled into an object that holds `P0` has
its top-level body named `P0.jumps.size` (`WFProgramAt`); the meaning of the source is `evalBody … (cur := entry)`.
Why the earlier program is not disturbed: `Located` — the relation between a body and the program text on which the
whole of `run_located` rests — only mentions instructions, jump entries and constants that the body names, and
`Extends` keeps those (`Located_extends`, `Env_extends`).
-/
import Garnish.Lemmas.CompileShared
import Garnish.Lemmas.CompileRange
import Garnish.Lemmas.CompileShift
import Garnish.Props.C01Compile
namespace Garnish.Props.C20
open Garnish Gen Garnish.Abs Garnish.Spec

variable {F : Type} (fo : FloatOps F) (host : Host F)

/-- **C20**: building a program into a data object leaves every instruction, jump entry and constant that the object
already holds unchanged — for every program, well formed or not -/
theorem C20_compileInto_extends (P0 : Prog F) (p : Program F) : Extends P0 (compileInto P0 p).1 := by
  have ev := layoutRoots_ev p.bodies (bodiesSize p.bodies + 2) (startState P0) (startState_inv P0)
  have lt : ∀ {α : Type} {a : Array α} {i : Nat} {x : α}, a[i]? = some x → i < a.size :=
    fun h => (Array.getElem?_eq_some_iff.mp h).1
  refine ⟨fun i x hx => ?_, fun j t hx => ?_, fun k v hx => ?_⟩
  · have := ev.instrs i (by simpa [startState] using lt hx)
    simp only [compileInto, compileState, LState.toProg]
    rw [this]; simpa [startState] using hx
  · have hj := lt hx
    have := ev.jumps j (by simp [startState]; omega) (fun r hr => by
      simp only [startState, List.mem_singleton] at hr; subst hr; simp; omega)
    simp only [compileInto, compileState, LState.toProg]
    rw [this]
    simp [startState, Array.getElem?_push, Nat.ne_of_lt hj, hx]
  · have := ev.consts k (by simpa [startState] using lt hx)
    simp only [compileInto, compileState, LState.toProg]
    rw [this]; simpa [startState] using hx

theorem C20_compileInto_entry (P0 : Prog F) (p : Program F) : (compileInto P0 p).2 = P0.jumps.size := rfl

/-! ### well-formed programs at a position -/

/-- `WFProgram` for a program that is built into an object holding `P0`: the same conditions, bodies named by the
jump entries they get there, the top-level body named by the program's entry `P0.jumps.size` -/
structure WFProgramAt (P0 : Prog F) (p : Program F) : Prop where
  main0 : lookupBody p.bodies P0.jumps.size = some p.main
  wf : ∀ id b, lookupBody p.bodies id = some b → wfE b = true
  tail : tailR p.main = true
  labels : ∀ r ∈ (compileState P0 p).done, ∀ id, r.kind = .ref id → r.patch = id
  covered : ∀ id b, lookupBody p.bodies id = some b → ∃ r ∈ (compileState P0 p).done, r.kind = .ref id

theorem WFProgramAt.ofCheck {P0 : Prog F} {p : Program F} {done : List (Root F)}
    (hm : lookupBody p.bodies P0.jumps.size = some p.main) (hd : (compileState P0 p).done = done)
    (hc : C01.wfCheck wfE p done = true) : WFProgramAt P0 p := by
  obtain ⟨h1, h2, h3, h4⟩ := C01.wfCheck_sound hc
  exact ⟨hm, h1, h2, hd ▸ h3, hd ▸ h4⟩

theorem wfAt_empty {p : Program F} (hwf : C01.WFProgram p) : WFProgramAt Prog.empty p :=
  ⟨hwf.main0, hwf.wf, hwf.tail, hwf.labels, hwf.covered⟩

theorem compile_complete_at (P0 : Prog F) (p : Program F)
    (hlab : ∀ r ∈ (compileState P0 p).done, ∀ id, r.kind = .ref id → r.patch = id) :
    (compileState P0 p).pending = [] :=
  compileState_complete P0 p hlab

/-- every body of a well-formed program is laid out, in the shared object, at the jump entry that is its id -/
theorem compile_env_at (P0 : Prog F) (p : Program F) (hwf : WFProgramAt P0 p) : Env (compileInto P0 p).1 p.bodies :=
  compileInto_env P0 p (fun id b hb => wfE_wfC b (hwf.wf id b hb)) hwf.labels hwf.covered

/-- **C20, own pieces**: every root of `p` — its entry, its nested bodies, the out-of-line bodies of its conditionals
and logical operators — has a jump entry of its own (not one of `P0`'s) that points into `p`'s own instructions -/
theorem C20_roots_in_own_range (P0 : Prog F) (p : Program F) (hwf : WFProgramAt P0 p) :
    ∀ r ∈ (compileState P0 p).done, P0.jumps.size ≤ r.patch ∧
      ∃ t, (compileInto P0 p).1.jumps[r.patch]? = some t ∧ P0.instrs.size ≤ t := by
  intro r hr
  have := roots_range p.bodies P0.jumps.size (bodiesSize p.bodies + 2) (startState P0) (startState_inv P0)
    (compile_complete_at P0 p hwf.labels) (fun q hq => hwf.labels q hq) (compileState_distinct P0 p)
    (fun q hq => by simp only [startState, List.mem_singleton] at hq; subst hq; exact Nat.le_refl _)
    (by simp [startState]) r hr
  rcases this with h | h
  · simp [startState] at h
  · exact h

/-- **C20, own pieces (2)**: everything `p`'s compilation writes names only `p`'s own pieces — every jump operand
(`JumpTo`, `JumpIfTrue`, `JumpIfFalse`, `And`, `Or`, `Reapply` … see `jumpOperand`) of an instruction after `P0`'s is a
jump entry after `P0`'s; every `Expression` constant added is a jump entry after `P0`'s; every `Put`/`Resolve` added reads
a constant after `P0`'s. Needs only that the bodies are in the fragment (`wfE`). -/
theorem C20_own_pieces (P0 : Prog F) (p : Program F) (hwf : ∀ id b, lookupBody p.bodies id = some b → wfE b = true) :
    (∀ i x j, P0.instrs.size ≤ i → (compileInto P0 p).1.instrs[i]? = some x → jumpOperand x = some j → P0.jumps.size ≤ j) ∧
    (∀ k j, P0.consts.size ≤ k → (compileInto P0 p).1.consts[k]? = some (.expr j) → P0.jumps.size ≤ j) ∧
    (∀ i ins k, P0.instrs.size ≤ i → (compileInto P0 p).1.instrs[i]? = some (ins, some k) →
      (ins = .put ∨ ins = .resolve) → P0.consts.size ≤ k) := by
  have h := layoutRoots_own p.bodies (lo := P0.jumps.size) (bodiesSize p.bodies + 2) (startState P0) (startState_inv P0)
    (fun q hq => by
      simp only [startState, List.mem_singleton] at hq; subst hq
      exact ⟨Nat.le_refl _, Nat.le_refl _, fun j hj => (by simp at hj), fun b hb => (by cases hb),
        fun t ht => by simp at ht; exact .inr (.inr ht)⟩)
    (by simp [startState]) hwf
  exact ⟨h.ops, h.exprs, h.cidx⟩

theorem evalBody_toS {P0 : Prog F} {p : Program F} (hwf : WFProgramAt P0 p) {e fuel : Nat} {st0 : St F} {r : Val F × St F}
    (h : evalBody fo host p.bodies e fuel p.main st0 = .ok r) : evalBodyS fo host p.bodies e fuel p.main st0 = .ok r :=
  strict_of_wf hwf.wf hwf.main0 h

/-- **C20 / C01 in a shared object**: a well-formed program built into an object that already holds anything computes,
started from ITS entry, the value and the host-call trace that its source means — exactly the conclusion of
`C01_compile_correct` -/
theorem C20_compile_correct_shared (P0 : Prog F) (p : Program F) (input : Val F) (fuel : Nat) (v : Val F) (st : St F)
    (hwf : WFProgramAt P0 p)
    (h : evalBody fo host p.bodies (compileInto P0 p).2 fuel p.main ⟨input, []⟩ = .ok (v, st)) :
    ∃ n s, run fo host (compileInto P0 p).1 n
        { pc := (compileInto P0 p).1.jumps[(compileInto P0 p).2]?.getD 0, regs := [], vals := [input], frames := [],
          trace := [] } = (.halted s, n) ∧
      s.vals = [v] ∧ s.regs = [] ∧ s.frames = [] ∧ s.trace = st.trace :=
  run_body fo host (compile_env_at P0 p hwf) hwf.main0 hwf.tail (evalBody_toS fo host hwf h)

/-- whatever is built into the object afterwards, a program that was correct in it stays correct: it is started from
the same entry and computes the same value and trace -/
theorem C20_correct_of_extends {P P' : Prog F} (hext : Extends P P') {bodies : List (Nat × Expr F)} (env : Env P bodies)
    {e : Nat} {main : Expr F} (hmain : lookupBody bodies e = some main) (htail : tailR main = true)
    {fuel : Nat} {input v : Val F} {st : St F}
    (h : evalBodyS fo host bodies e fuel main ⟨input, []⟩ = .ok (v, st)) :
    ∃ n s, run fo host P' n { pc := P'.jumps[e]?.getD 0, regs := [], vals := [input], frames := [], trace := [] } = (.halted s, n) ∧
      s.vals = [v] ∧ s.regs = [] ∧ s.frames = [] ∧ s.trace = st.trace :=
  run_body fo host (Env_extends hext env) hmain htail h

/-- **C20, the earlier program**: `q` was built into `P0`, then `p` — any program at all, well formed or not — is
built into the same object; `q`, started from its entry, still computes what its source means -/
theorem C20_earlier_program_undisturbed (P0 : Prog F) (q p : Program F) (input : Val F) (fuel : Nat) (v : Val F) (st : St F)
    (hwf : WFProgramAt P0 q)
    (h : evalBody fo host q.bodies (compileInto P0 q).2 fuel q.main ⟨input, []⟩ = .ok (v, st)) :
    ∃ n s, run fo host (compileInto (compileInto P0 q).1 p).1 n
        { pc := (compileInto (compileInto P0 q).1 p).1.jumps[(compileInto P0 q).2]?.getD 0, regs := [], vals := [input],
          frames := [], trace := [] } = (.halted s, n) ∧
      s.vals = [v] ∧ s.regs = [] ∧ s.frames = [] ∧ s.trace = st.trace :=
  C20_correct_of_extends fo host (C20_compileInto_extends _ p) (compile_env_at P0 q hwf) hwf.main0 hwf.tail
    (evalBody_toS fo host hwf h)

/-! ### any finite sequence of programs -/

/-- build the programs one after the other into the object; returns the object and the entries, in order -/
def compileAll (P0 : Prog F) : List (Program F) → Prog F × List Nat
  | [] => (P0, [])
  | p :: ps =>
    let r := compileAll (compileInto P0 p).1 ps
    (r.1, (compileInto P0 p).2 :: r.2)

theorem compileAll_length : ∀ (ps : List (Program F)) (P0 : Prog F), (compileAll P0 ps).2.length = ps.length
  | [], _ => rfl
  | _ :: ps, _ => by simp [compileAll, compileAll_length ps]

/-- every program of the sequence is well formed at the position it is built at -/
def WFAll (P0 : Prog F) : List (Program F) → Prop
  | [] => True
  | p :: ps => WFProgramAt P0 p ∧ WFAll (compileInto P0 p).1 ps

/-- nothing that was in the object before is changed by the whole sequence -/
theorem C20_compileAll_extends (ps : List (Program F)) (P0 : Prog F) : Extends P0 (compileAll P0 ps).1 :=
  match ps with
  | [] => .refl P0
  | p :: ps => (C20_compileInto_extends P0 p).trans (C20_compileAll_extends ps _)

/-- the program `p` with entry `e` runs correctly in the object `P` -/
def RunsIn (P : Prog F) (p : Program F) (e : Nat) : Prop :=
  ∀ (input : Val F) (fuel : Nat) (v : Val F) (st : St F),
    evalBody fo host p.bodies e fuel p.main ⟨input, []⟩ = .ok (v, st) →
    ∃ n s, run fo host P n { pc := P.jumps[e]?.getD 0, regs := [], vals := [input], frames := [], trace := [] } = (.halted s, n) ∧
      s.vals = [v] ∧ s.regs = [] ∧ s.frames = [] ∧ s.trace = st.trace

/-- **C20 for any number of programs**: in the object that holds `P0` and then `p1, …, pn`, every `pi`, started from its
own entry, computes the value and the trace its source means — none is disturbed by the ones before or after it -/
theorem C20_compileAll_correct : ∀ (ps : List (Program F)) (P0 : Prog F), WFAll P0 ps →
    ∀ pe ∈ ps.zip (compileAll P0 ps).2, RunsIn fo host (compileAll P0 ps).1 pe.1 pe.2
  | [], _, _ => by intro pe h; simp [compileAll] at h
  | p :: ps, P0, hwf => by
    intro pe hpe
    simp only [compileAll, List.zip_cons_cons, List.mem_cons] at hpe
    rcases hpe with rfl | hpe
    · intro input fuel v st h
      exact C20_correct_of_extends fo host (C20_compileAll_extends ps _) (compile_env_at P0 p hwf.1) hwf.1.main0 hwf.1.tail
        (evalBody_toS fo host hwf.1 h)
    · exact C20_compileAll_correct ps _ hwf.2 pe hpe

/-! ### "the same as when compiled alone" as a theorem

A program compiled alone has its bodies named `0, 1, 2, …` (its jump entries); built into an object that holds `P0` the
same source has them named `P0.jumps.size + 0, + 1, …`: it is the renamed program `rlProgram (shJ P0) p`.
`evalF_relabel` (Lemmas/CompileRelabelEval.lean) says what renaming does to the meaning: nothing but renaming the
expression values in the result and in the trace. -/

/-- **position independence of well-formedness**: a program that is well formed alone is well formed, renamed, at
every position. (Proof: the shared build goes through the shifted states of the build alone, `layoutRoots_sh`.) -/
theorem WFProgramAt_shift (P0 : Prog F) (p : Program F) (hwf : C01.WFProgram p) :
    WFProgramAt P0 (rlProgram (shJ P0) p) := by
  have h0 : Sh P0 (startState (F := F) Prog.empty) (startState P0) :=
    ⟨by simp [startState, Prog.empty], by simp [startState, Prog.empty, shJ], by simp [startState, Prog.empty],
     by simp [startState, Prog.empty, shRoot, shKind, shJ, shI], by simp [startState]⟩
  have hsh : Sh P0 (compileState Prog.empty p) (compileState P0 (rlProgram (shJ P0) p)) := by
    simp only [compileState, rlProgram, bodiesSize_rl]
    exact layoutRoots_sh p.bodies _ _ _ h0 C01.startState_inv
  have hz : shJ P0 0 = P0.jumps.size := by simp [shJ]
  refine ⟨?_, ?_, ?_, ?_, ?_⟩
  · have := lookupBody_rl (shJ_inj P0) p.bodies 0
    rw [hz, hwf.main0] at this
    simpa [rlProgram] using this
  · intro id' b' h
    obtain ⟨id, b, _, rfl, hb⟩ := lookupBody_rl_inv (shJ P0) p.bodies id' b' h
    rw [wfE_rl]; exact hwf.wf id b hb
  · simp only [rlProgram, tailR_rl]; exact hwf.tail
  · intro r' hr' id' hk
    rw [hsh.done, List.mem_map] at hr'
    obtain ⟨r, hr, rfl⟩ := hr'
    simp only [shRoot, shKind] at hk ⊢
    cases hkr : r.kind with
    | code e => rw [hkr] at hk; cases hk
    | ref id =>
      rw [hkr] at hk
      simp only [RootKind.ref.injEq] at hk
      rw [← hk, hwf.labels r hr id hkr]
  · intro id' b' h
    obtain ⟨id, b, rfl, rfl, hb⟩ := lookupBody_rl_inv (shJ P0) p.bodies id' b' h
    obtain ⟨r, hr, hk⟩ := hwf.covered id b hb
    refine ⟨shRoot P0 r, by rw [hsh.done]; exact List.mem_map_of_mem hr, ?_⟩
    simp only [shRoot, shKind, hk]

/-- **C20: a program computes in a shared object the same as when compiled alone** — up to the names of the bodies.
For a well-formed `p` that means `(v, trace)` on `input`: compiled alone it halts with `v` and `trace` (this is
`C01_compile_correct`); built into an object that holds ANY `P0` — where the same source is `rlProgram ρ p`,
`ρ = shJ P0` = "shift the jump entries by `P0.jumps.size`" — it halts, started from its entry on the renamed input,
with `ρ v` and `ρ trace`: the expression values inside the result and inside the recorded host calls are shifted, nothing
else differs. `host'` answers the renamed questions with the renamed answers (`HostRel`); for a host that does not
look inside expression values `host' = host`. -/
theorem C20_same_as_alone (host' : Host F) (P0 : Prog F) (p : Program F) (input : Val F) (fuel : Nat) (v : Val F) (st : St F)
    (hwf : C01.WFProgram p) (hh : HostRel (shJ P0) host host')
    (h : evalProgram fo host fuel p input = .ok (v, st)) :
    (∃ n s, run fo host (compile p) n
        { pc := (compile p).jumps[0]?.getD 0, regs := [], vals := [input], frames := [], trace := [] } = (.halted s, n) ∧
      s.vals = [v] ∧ s.regs = [] ∧ s.frames = [] ∧ s.trace = st.trace) ∧
    (∃ n s, run fo host' (compileInto P0 (rlProgram (shJ P0) p)).1 n
        { pc := (compileInto P0 (rlProgram (shJ P0) p)).1.jumps[(compileInto P0 (rlProgram (shJ P0) p)).2]?.getD 0,
          regs := [], vals := [Val.rl (shJ P0) input], frames := [], trace := [] } = (.halted s, n) ∧
      s.vals = [Val.rl (shJ P0) v] ∧ s.regs = [] ∧ s.frames = [] ∧ s.trace = st.trace.map (HostCall.rl (shJ P0))) := by
  refine ⟨C01.C01_compile_correct fo host p input fuel v st hwf h, ?_⟩
  have hr := evalBody_relabel fo (shJ_inj P0) hh p.bodies 0 fuel p.main ⟨input, []⟩
  simp only [evalProgram] at h
  rw [h] at hr
  have hz : shJ P0 0 = (compileInto P0 (rlProgram (shJ P0) p)).2 := by simp [shJ, compileInto]
  rw [hz] at hr
  exact C20_compile_correct_shared fo host' P0 (rlProgram (shJ P0) p) (Val.rl (shJ P0) input) fuel _ _
    (WFProgramAt_shift P0 p hwf) hr

/-! ### non-vacuity: two programs in one object, the second with a top-level `^~` and a nested body -/

/-- first program: `$ ?> 1` (entry 0) -/
def ex1 : Prog Float := compile (C01.exProg (F := Float))

/-- second program: `$ ?> { 7 } |> ^~ 1`, built after the first one: its entry is jump entry 3, the nested body is
jump entry 6 -/
def ex2main : Expr Float := .chain [(true, .input, .nested 6)] (some (.reapply (.lit (.num (.int 1)))))
def ex2 : Program Float := { main := ex2main, bodies := [(3, ex2main), (6, .lit (.num (.int 7)))] }

/-- the compiled object: the first program untouched, the second one after it; the `^~` of the second program is
`JumpTo 3` — its OWN entry, not entry 0 of the first program -/
example : (compileInto ex1 ex2).1.instrs =
    #[(.putValue, none), (.jumpIfTrue, some 1), (.putValue, none), (.endExpression, none), (.put, some 0), (.jumpTo, some 2),
      (.putValue, none), (.jumpIfTrue, some 4), (.put, some 1), (.updateValue, none), (.jumpTo, some 3), (.endExpression, none),
      (.put, some 2), (.jumpTo, some 5), (.put, some 3), (.endExpression, none)] ∧
    (compileInto ex1 ex2).1.jumps = #[0, 4, 3, 6, 12, 11, 14] ∧ (compileInto ex1 ex2).2 = 3 := by
  refine ⟨by decide, by decide, rfl⟩

theorem ex2_done : (compileState ex1 ex2).done =
    [⟨.ref 6, 6, [(.endExpression, none)], 6⟩, ⟨.code (.nested 6), 4, [(.jumpTo, some 5)], 3⟩,
     ⟨.ref 3, 3, [(.endExpression, none)], 3⟩] := by rfl

example : WFProgramAt ex1 ex2 := .ofCheck rfl ex2_done (by rfl)

/-- the second program means: on `()` the test fails, `^~ 1` restarts its body with `$ = 1`, the test succeeds and the
value is the nested expression (jump entry 6) — one iteration of the loop -/
theorem ex2_meaning (fo : FloatOps Float) (host : Host Float) :
    evalBody fo host ex2.bodies 3 6 ex2.main ⟨.unit, []⟩ = .ok (.expr 6, ⟨.num (.int 1), []⟩) := by
  simp [evalBody, evalF, evalChain, ex2, ex2main, Val.truthy]

/-- … and so does the compiled object, started at entry 3: it halts with that value — the restart went to the second
program's own entry -/
example (fo : FloatOps Float) (host : Host Float) (hwf : WFProgramAt ex1 ex2) :
    ∃ n s, run fo host (compileInto ex1 ex2).1 n
        { pc := (compileInto ex1 ex2).1.jumps[3]?.getD 0, regs := [], vals := [.unit], frames := [], trace := [] } = (.halted s, n) ∧
      s.vals = [.expr 6] ∧ s.regs = [] ∧ s.frames = [] ∧ s.trace = [] :=
  C20_compile_correct_shared fo host ex1 ex2 .unit 6 _ _ hwf (ex2_meaning fo host)

/-- the first program holds jump entries 0, 1, 2; by `C20_own_pieces` no jump operand the second program's compilation
writes is one of them (the seeded change that made `^~` jump to entry 0 contradicts this) -/
example : ∀ i x j, ex1.instrs.size ≤ i → (compileInto ex1 ex2).1.instrs[i]? = some x → jumpOperand x = some j → 3 ≤ j :=
  (C20_own_pieces ex1 ex2 (by
    intro id b h
    simp only [ex2, lookupBody] at h
    split at h
    · cases h; rfl
    · split at h
      · cases h; rfl
      · cases h)).1

/-- the second program as it is when compiled alone (entry 0, nested body 3) … -/
def ex2alone : Program Float :=
  { main := .chain [(true, .input, .nested 3)] (some (.reapply (.lit (.num (.int 1))))),
    bodies := [(0, .chain [(true, .input, .nested 3)] (some (.reapply (.lit (.num (.int 1)))))), (3, .lit (.num (.int 7)))] }

/-- … renamed to its position after the first program is `ex2` -/
example : rlProgram (shJ ex1) ex2alone = ex2 := by
  have : ex1.jumps.size = 3 := by decide
  simp [rlProgram, ex2alone, ex2, ex2main, rlE, rlArms, rlBodies, shJ, this, Val.rl]

end Garnish.Props.C20

