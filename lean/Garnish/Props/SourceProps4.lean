/-
The WFProgram exclusions of `C01_compile_correct`, justified by witnesses (see the head of Props/SourceProps3.lean).
-/
import Garnish.Props.SourceProps3
import Garnish.Lemmas.KernelRfl
namespace Garnish.Props.SourceProps
open Garnish Garnish.Gen Garnish.Spec Garnish.Spec.Spell Garnish.Abs Garnish.Abs.Tree Garnish.Abs.Source Garnish.Model
open Garnish.Model.Parser Garnish.Model.Lexer Garnish.Model.Literals Garnish.Model.Build Garnish.Props.C01Build
open Garnish.Props.C01Source Garnish.Props.C02Numbered Garnish.Props.C01Text Garnish.Props.C01Blocks Garnish.Lemmas

variable {F : Type} (fo : FloatOps F) (host : Host F)

/-- a run that stops stops in one way only: if `k` steps end in the non-running result `r`, every run that halts halts in `r` -/
theorem C01_halt_unique {P : Prog F} : ∀ (k : Nat) (s0 : MState F) (r : StepRes F) (j : Nat),
    run fo host P k s0 = (r, j) → (∀ s', r ≠ .running s') →
    ∀ (n : Nat) (s'' : MState F), run fo host P n s0 = (.halted s'', n) → r = .halted s''
  | 0, s0, r, j, h, hr, _, _, _ => by
    simp only [run, Prod.mk.injEq] at h
    exact absurd h.1.symm (hr s0)
  | k + 1, s0, r, j, h, hr, n, s'', hn => by
    cases n with
    | zero => simp [run] at hn
    | succ n' =>
      simp only [run] at h hn
      cases hs : step fo host P s0 with
      | running s1 =>
        rw [hs] at h hn
        simp only [Prod.mk.injEq] at h hn
        exact C01_halt_unique k s1 r (run fo host P k s1).2 (Prod.ext h.1 rfl) hr n' s''
          (Prod.ext hn.1 (by have := hn.2; omega))
      | halted s1 =>
        rw [hs] at h hn
        simp only [Prod.mk.injEq] at h hn
        rw [← h.1]; exact hn.1
      | err e =>
        rw [hs] at hn
        simp only [Prod.mk.injEq] at hn
        exact absurd hn.1 (by simp)

def i32 (n : Int) : Expr F := .lit (.num (.int n))
def single (m : Expr F) : Program F := ⟨m, [(0, m)]⟩
def start (P : Prog F) (input : Val F) : MState F :=
  { pc := P.jumps[0]?.getD 0, regs := [], vals := [input], frames := [], trace := [] }

/-- `$ ?> 1 |> $ ?> 2`: an else-chain whose last arm is conditional -/
def devChain : Program F := single (.chain [(true, .input, i32 1), (true, .input, i32 2)] none)

/-- **(F1) the else-chain without a final arm deviates**: on input `$!` no arm matches; the source means `$` (= `$!`), the
compiled program executes `EndExpression` with an empty operand stack and ends in an error — it never halts. The shape is
excluded by `wfE` (and admitted by `WFProgramC` under the condition that some arm matches) -/
theorem C01_else_chain_no_final_arm_deviates :
    wfE (devChain (F := F)).main = false ∧
    evalProgram fo host 5 devChain .fls = .ok (.fls, ⟨.fls, []⟩) ∧
    (∃ e, run fo host (compile devChain) 5 (start (compile devChain) .fls) = (.err e, 5)) ∧
    ¬ ∃ n s, run fo host (compile (devChain (F := F))) n (start (compile devChain) .fls) = (.halted s, n) := by
  have hrun : run fo host (compile devChain) 5 (start (compile (devChain (F := F))) .fls) = (.err .state, 5) := by kernel_rfl
  refine ⟨rfl, by simp [evalProgram, evalBody, evalF, evalChain, devChain, single, i32, Val.truthy], ⟨_, hrun⟩, ?_⟩
  rintro ⟨n, s, h⟩
  have := C01_halt_unique fo host 5 _ _ _ hrun (by intro s' h'; cases h') n s h
  cases this

/-- `$ ?> (1, ^~ $!) |> 7`: a restart in operand position at top level -/
def devOperand : Program F := single (.chain [(true, .input, .list [i32 1, .reapply (.lit .fls)])] (some (i32 7)))

/-- **top-level `^~` in operand position deviates**: on input `$?` the source means `7` and the compiled program halts with
`7` (state: pc, regs, vals, frames, trace) — but the operand `1` that was pending at the restart is still on the operand
stack: `regs = []` fails. Excluded by `tail` -/
theorem C01_toplevel_operand_restart_deviates :
    tailR (devOperand (F := F)).main = false ∧
    evalProgram fo host 9 devOperand .tru = .ok (.num (.int 7), ⟨.fls, []⟩) ∧
    run fo host (compile devOperand) 10 (start (compile (devOperand (F := F))) .tru) =
      (.halted ⟨(compile (devOperand (F := F))).instrs.size, [.num (.int 1)], [.num (.int 7)], [], []⟩, 10) ∧
    ¬ ∃ n s, run fo host (compile (devOperand (F := F))) n (start (compile devOperand) .tru) = (.halted s, n) ∧ s.regs = [] := by
  have hrun : run fo host (compile devOperand) 10 (start (compile (devOperand (F := F))) .tru) =
      (.halted ⟨(compile (devOperand (F := F))).instrs.size, [.num (.int 1)], [.num (.int 7)], [], []⟩, 10) := by kernel_rfl
  refine ⟨by kernel_rfl, by kernel_rfl, hrun, ?_⟩
  rintro ⟨n, s, h, hregs⟩
  have := C01_halt_unique fo host 10 _ _ _ hrun (by intro s' h'; cases h') n s h
  have hs := StepRes.halted.inj this
  rw [← hs] at hregs
  exact absurd hregs (by simp)

/-- `$ ?> 10 [^~ $!] |> 5`: a restart out of a side-effect block -/
def devBlock : Program F := single (.chain [(true, .input, .sideAfter (i32 10) (.reapply (.lit .fls)))] (some (i32 5)))

/-- **`^~` out of a side-effect block deviates**: the source means `5`; the compiled program halts with `5` on top of the
input-value stack, the block's copy of `$` still below it (and the pending operand `10` on the operand stack): `vals = [v]`
fails. Excluded by `wfE` (clause `noR` of `sideAfter`) -/
theorem C01_restart_out_of_block_deviates :
    wfE (devBlock (F := F)).main = false ∧
    evalProgram fo host 9 devBlock .tru = .ok (.num (.int 5), ⟨.fls, []⟩) ∧
    run fo host (compile devBlock) 11 (start (compile (devBlock (F := F))) .tru) =
      (.halted ⟨(compile (devBlock (F := F))).instrs.size, [.num (.int 10)], [.num (.int 5), .tru], [], []⟩, 11) ∧
    ¬ ∃ n s, run fo host (compile (devBlock (F := F))) n (start (compile devBlock) .tru) = (.halted s, n) ∧
      s.vals = [.num (.int 5)] := by
  have hrun : run fo host (compile devBlock) 11 (start (compile (devBlock (F := F))) .tru) =
      (.halted ⟨(compile (devBlock (F := F))).instrs.size, [.num (.int 10)], [.num (.int 5), .tru], [], []⟩, 11) := by kernel_rfl
  refine ⟨by kernel_rfl, by kernel_rfl, hrun, ?_⟩
  rintro ⟨n, s, h, hv⟩
  have := C01_halt_unique fo host 11 _ _ _ hrun (by intro s' h'; cases h') n s h
  have hs := StepRes.halted.inj this
  rw [← hs] at hv
  exact absurd hv (by simp)

end Garnish.Props.SourceProps
