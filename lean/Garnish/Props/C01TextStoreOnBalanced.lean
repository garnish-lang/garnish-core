/-
`C01_text_to_simple_store_balanced`: the source-text theorem on `SimpleGarnishData` for programs of coverage groups 0–1
with the run-level side condition `RunOKG` DISCHARGED from stack balance (Props/RuntimeRefineOnBalanced.lean): what
remains are a static check of the compiled program (`balancedB p`, instructions of groups 0–1 only, constants that are
leaves Simple holds and not `custom`, the entry inside the program) and two conditions on the machine run (no `custom`
value on top level of the stacks; calls enter bodies the analysis knows — no instruction of groups 0–1 makes a call, but
that no frame is pushed then is not proved here).
-/
import Garnish.Props.RuntimeRefineOnBalanced
namespace Garnish.Props.C01TextStore
open Garnish Garnish.Gen Garnish.Spec Garnish.Abs Garnish.Abs.Tree Garnish.Abs.Source Garnish.Model Garnish.Model.Parser
open Garnish.Model.Lexer Garnish.Model.Literals Garnish.Model.Build Garnish.Props.C01Build Garnish.Props.C01Source
open Garnish.Props.C02Numbered Garnish.Props.C01Text
open Garnish.Model.Equality Garnish.Model.Runtime Garnish.Lemmas.Runtime Garnish.Props.RuntimeRefine
open Garnish.Lemmas.Runtime.On Garnish.Lemmas.Runtime.Simple Garnish.Props.SourceProps

variable {F : Type} (pf : List Char → Option F) (cc : CharClass)

theorem C01_text_to_simple_store_balanced {hit : List (SimCell F) → SimCell F → Option Nat} (hs : HitSound hit)
    (hh : SimHost F) (fo : FloatOps F) (host : Host F) (HR : HostRefinesI (simpleRStore hit hh) SInv host)
    (loopFuel : Nat) (H : OtherHandlers (SimState F)) (s : List Char) (toks : List LexerToken)
    (hlex : lex cc s = .ok toks) (hf : frag9' (toP toks) = true) (rt : RTree)
    (href : refParse Table.gen (toP toks) = .ok rt) (p : Program F) (hel : elaborate pf (toP toks) rt = some p)
    (hwf : C01.WFProgram p) (hbal : balancedB p = true) (input : Val F) (fuel : Nat) (v : Val F) (st : St F)
    (h : evalProgram fo host fuel p input = .ok (v, st))
    (hentry : (compile p).jumps[0]?.getD 0 < (compile p).instrs.size)
    (hinstr : ∀ (pc : Nat) (i : Instruction) (o : Option Nat), (compile p).instrs[pc]? = some (i, o) → inG1 i = true)
    (hleaf : (compile p).consts.toList.all isLeafS = true) (hin : isLeafS input = true)
    (hconst : ∀ (k : Nat) (c : Val F), (compile p).consts[k]? = some c → c ≠ Val.custom)
    (hnc : ∀ m, C06.ReachK fo host (compile p) ((compile p).jumps[0]?.getD 0 :: C06.exprEntries (compile p))
      ⟨(compile p).jumps[0]?.getD 0, [], [input], [], []⟩ m → NoCustomTop m)
    (hcalls : ∀ m m', C06.ReachK fo host (compile p) ((compile p).jumps[0]?.getD 0 :: C06.exprEntries (compile p))
      ⟨(compile p).jumps[0]?.getD 0, [], [input], [], []⟩ m → Abs.step fo host (compile p) m = .running m' →
      m'.frames.length = m.frames.length + 1 →
      m'.pc ∈ (compile p).jumps[0]?.getD 0 :: C06.exprEntries (compile p)) :
    ∃ d n, buildText pf cc s = .ok (d, 0) ∧ progOf d = compile p ∧
      ∃ s' a, executeLoop fo (simpleRStore hit hh) loopFuel H n
          (loadSimple (reloc (progOf d)) ((progOf d).jumps[0]?.getD 0) input) = .ok ((.end_, n), s') ∧
        s'.values = [a] ∧ Decodes (simView s'.cells) a v ∧ (simpleRStore hit hh).regs s' = [] ∧
        (simpleRStore hit hh).frames s' = [] ∧ SInv s' := by
  obtain ⟨dep, hdep, _⟩ := C06.C06_compile_balanced_sound fo host p (balancedB_sound hbal)
  obtain ⟨d, n, hb, hd, hgen⟩ := C01_text_to_store_gen pf cc fo host loopFuel H MachOKOn1
    (fun _ _ _ _ _ hsim hi hl hf hk => refine_step_on1 fo (C01_simpleStore_lawsOn hs) HR loopFuel H hsim hi hl hf hk)
    ⟨toks, rt, hlex, hf, href, hel⟩ hwf input fuel v st h
  refine ⟨d, n, hb, hd, ?_⟩
  rw [hd]
  obtain ⟨hload, hinv⟩ := loadSimple_reloc hit hh ((compile p).jumps[0]?.getD 0) hleaf hin
  refine hgen _ _ (run_reloc fo host _) hload hinv ?_
  refine runOKG_reloc (MachOKOn1 (reloc (compile p))) (MachOKOn1 (compile p)) (fun _ _ _ _ hk => machOKOn1_reloc hk) n _ ?_
  exact C01_runOKOn_of_balanced hdep hentry [input] [] hinstr hconst hnc hcalls n

end Garnish.Props.C01TextStore
