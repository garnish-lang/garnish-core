/-
Non-vacuity of `C01_text_to_simple_store` (Props/C01TextStoreOn.lean): the source text `$ ?> 1 |> 2` on the payload
model of `SimpleGarnishData`, every hypothesis discharged. `condSimple` is the built program as it sits in Simple
(`reloc`); `cond_r0` establishes the run-level side condition `RunOKOn` along the five machine steps
(PutValue, JumpIfTrue, Put, JumpTo, EndExpression) for every step count.
-/
import Garnish.Props.C01TextStoreOn
import Garnish.Props.RuntimeRefineSimple2
import Garnish.Lemmas.RuntimeRun
namespace Garnish.Props.C01TextStore
open Garnish Garnish.Gen Garnish.Spec Garnish.Abs Garnish.Abs.Tree Garnish.Abs.Source Garnish.Model Garnish.Model.Parser
open Garnish.Model.Lexer Garnish.Model.Literals Garnish.Model.Build Garnish.Props.C01Build Garnish.Props.C01Source
open Garnish.Props.C02Numbered Garnish.Props.C01Text
open Garnish.Model.Equality Garnish.Model.Runtime Garnish.Lemmas.Runtime Garnish.Props.RuntimeRefine
open Garnish.Lemmas.Runtime.On Garnish.Lemmas.Runtime.Simple

/-- `$ ?> 1 |> 2` as it sits in a `SimpleGarnishData` -/
def condSimple : Prog Float := reloc (compile progCond)


def cm (pc : Nat) (regs : List (Val Float)) : MState Float :=
  { pc := pc, regs := regs, vals := [.tru], frames := [], trace := [] }

variable (fo : FloatOps Float) (host : Host Float)

theorem cond_r0 : ∀ k, RunOKOn fo host condSimple k (cm 0 []) := by
  -- `PutValue`, `JumpIfTrue` (taken), `Put`, `JumpTo`, `EndExpression` (halts)
  suffices h : ∀ k, RunOKG fo (MachOKOn condSimple) host condSimple k (cm 0 []) from
    fun k => runOKOn_of_runOKG fo k _ (h k)
  refine .step (i := .putValue) (o := none) (m' := cm 1 [.tru]) rfl (fun v vs h => by cases h; exact nofun) rfl ?_
  refine .step (i := .jumpIfTrue) (o := some 1) (m' := cm 4 []) rfl (fun _ _ _ _ _ h => by cases h) rfl ?_
  refine .step (i := .put) (o := some 4) (m' := cm 5 [.num (.int 1)]) rfl
    (fun k v hk hc => by
      cases hk
      have : condSimple.consts[4]? = some (.num (.int 1)) := rfl
      rw [this] at hc; cases hc; exact nofun) rfl ?_
  refine .step (i := .jumpTo) (o := some 2) (m' := cm 3 [.num (.int 1)]) rfl trivial rfl ?_
  exact .halt (i := .endExpression) (o := none) (m' := { cm 3 [] with vals := [.num (.int 1)], pc := 6 }) rfl
    (fun r rs h => by cases h; exact ⟨nofun, (fun _ _ h => by cases h), fun _ => rfl⟩) rfl


/-- a cache that never hits, a host that declines -/
abbrev exStore : RStore Float (SimState Float) := simpleRStore (fun _ _ => none) (fun _ st => (false, st))

/-- **non-vacuity**: the text `$ ?> 1 |> 2`, lexed, parsed and built by the models, relocated into a
`SimpleGarnishData` (payload model, cache that never hits) with the input value `true`, run by the address-level
loop: it ends (`End`) with ONE input-value address, and that address decodes to `1` — the value `evalProgram` assigns
to the text on input `true`; no register and no frame are left and the invariant holds. All hypotheses of
`C01_text_to_simple_store` are discharged (`RunOKOn` step by step along the five machine steps). -/
example (fo : FloatOps Float) :
    ∃ d entry n, buildText noFloat asciiCC "$ ?> 1 |> 2".toList = .ok (d, entry) ∧
      ∃ s' a, executeLoop fo exStore 0 (fullHandlers fo exStore 0 (RM.fail .unsupported)) n
          (loadSimple (reloc (progOf d)) ((progOf d).jumps[entry]?.getD 0) .tru) = .ok ((.end_, n), s') ∧
        s'.values = [a] ∧ Decodes (simView s'.cells) a (.num (.int 1)) ∧ exStore.regs s' = [] ∧
        exStore.frames s' = [] ∧ SInv s' := by
  obtain ⟨toks, rt, hlex, hf, href, hel⟩ := SourceProps.srcCond
  obtain ⟨d, entry, n, hb, hrun⟩ :=
    C01_text_to_simple_store (hit := fun _ _ => none) noFloat asciiCC C15_hitSound_never (fun _ st => (false, st))
      fo Host.declining 0 (fullHandlers fo exStore 0 (RM.fail .unsupported)) _ _ hlex hf _ href progCond hel progCond_wf
      .tru 5 _ _ (progCond_meaning fo Host.declining)
  obtain ⟨d', hb', hprog⟩ := SourceProps.srcCond_built
  cases hb.symm.trans hb'
  have hleaf : (progOf d).consts.toList.all isLeafS = true := by rw [hprog]; rfl
  have hok := cond_r0 fo Host.declining n
  rw [hprog] at hrun
  obtain ⟨s', a, h1, h2, h3, h4, h5, h6⟩ := hrun (by rw [← hprog]; exact hleaf) rfl hok
  refine ⟨d, 0, n, hb, s', a, ?_, h2, h3, h4, h5, h6⟩
  rw [hprog]; exact h1

end Garnish.Props.C01TextStore
