/-
`simpleRStore` and the payload-free model of the `SimpleDataList` (Model/SimpleBuild.lean, Model/AccessSimple.lean)
describe the same data list: every adder of the store is the corresponding constructor step on the erased list.
-/
import Garnish.Lemmas.RuntimeSimpleErase
namespace Garnish.Props.RuntimeRefine
open Garnish Gen Garnish.Model.Equality Garnish.Model.Runtime Garnish.Lemmas.Runtime.Simple
open Garnish.Access.Simple (SData SCell SOp step)

variable {F : Type}

/-- adder by adder: the call on the store is the step `op` on the erased list -/
structure AddersErase (S : RStore F (SimState F)) (hit' : SData → SCell → Option Nat) : Prop where
  unit : ∀ st a st', S.addUnit st = .ok (a, st') → step hit' (eraseD st.cells) .unit = .ok (eraseD st'.cells, a)
  tru : ∀ st a st', S.addTrue st = .ok (a, st') → step hit' (eraseD st.cells) .tru = .ok (eraseD st'.cells, a)
  fls : ∀ st a st', S.addFalse st = .ok (a, st') → step hit' (eraseD st.cells) .fls = .ok (eraseD st'.cells, a)
  int : ∀ (v : Int32) st a st', S.addNumber (.int v.toInt) st = .ok (a, st') →
    step hit' (eraseD st.cells) (.number v) = .ok (eraseD st'.cells, a)
  float : ∀ (f : F) st a st', S.addNumber (.float f) st = .ok (a, st') →
    step hit' (eraseD st.cells) .float = .ok (eraseD st'.cells, a)
  type : ∀ t st a st', S.addType t st = .ok (a, st') →
    step hit' (eraseD st.cells) (.leafConst .type_) = .ok (eraseD st'.cells, a)
  char : ∀ c st a st', S.addChar c st = .ok (a, st') →
    step hit' (eraseD st.cells) (.leafConst .char) = .ok (eraseD st'.cells, a)
  byte : ∀ b st a st', S.addByte b st = .ok (a, st') →
    step hit' (eraseD st.cells) (.leafConst .byte) = .ok (eraseD st'.cells, a)
  symbol : ∀ y st a st', S.addSymbol y st = .ok (a, st') →
    step hit' (eraseD st.cells) (.symbol y) = .ok (eraseD st'.cells, a)
  pair : ∀ l r st a st', S.addPair (l, r) st = .ok (a, st') →
    step hit' (eraseD st.cells) (.pair l r) = .ok (eraseD st'.cells, a)
  range : ∀ l r st a st', S.addRange l r st = .ok (a, st') →
    step hit' (eraseD st.cells) (.range l r) = .ok (eraseD st'.cells, a)
  slice : ∀ l r st a st', S.addSlice l r st = .ok (a, st') →
    step hit' (eraseD st.cells) (.slice l r) = .ok (eraseD st'.cells, a)
  concat : ∀ l r st a st', S.addConcatenation l r st = .ok (a, st') →
    step hit' (eraseD st.cells) (.concat l r) = .ok (eraseD st'.cells, a)
  part : ∀ l r st a st', S.addPartial l r st = .ok (a, st') →
    step hit' (eraseD st.cells) (.partial_ l r) = .ok (eraseD st'.cells, a)
  list : ∀ t items st a st', st.currentList = some items → S.endList t st = .ok (a, st') →
    step hit' (eraseD st.cells) (.list items) = .ok (eraseD st'.cells, a)
  frame : ∀ j st st', S.pushFrame j st = .ok ((), st') →
    step hit' (eraseD st.cells) .stackFrame = .ok (eraseD st'.cells, st.cells.length)

theorem C15_simple_adders_erase {hit : List (SimCell F) → SimCell F → Option Nat} {h : SimHost F}
    {hit' : SData → SCell → Option Nat} (he : HitErases hit hit') : AddersErase (simpleRStore hit h) hit' where
  unit := fun _ _ _ hp => by cases hp; rfl
  tru := fun _ _ _ hp => by cases hp; rfl
  fls := fun _ _ _ hp => by cases hp; rfl
  int := fun _ _ _ _ hp => by simp only [step]; exact congrArg _ (cacheAdd_erases he hp)
  float := fun _ _ _ _ hp => by simp only [step]; exact congrArg _ (cacheAdd_erases he hp)
  type := fun _ _ _ _ hp => by simp only [step]; exact congrArg _ (cacheAdd_erases he hp)
  char := fun _ _ _ _ hp => by simp only [step]; exact congrArg _ (cacheAdd_erases he hp)
  byte := fun _ _ _ _ hp => by simp only [step]; exact congrArg _ (cacheAdd_erases he hp)
  symbol := fun _ _ _ _ hp => by simp only [step]; exact congrArg _ (cacheAdd_erases he hp)
  pair := fun _ _ _ _ _ hp => by simp only [step]; exact congrArg _ (push_erases hp)
  range := fun _ _ _ _ _ hp => by simp only [step]; exact congrArg _ (push_erases hp)
  slice := fun _ _ _ _ _ hp => by simp only [step]; exact congrArg _ (push_erases hp)
  concat := fun _ _ _ _ _ hp => by simp only [step]; exact congrArg _ (push_erases hp)
  part := fun _ _ _ _ _ hp => by simp only [step]; exact congrArg _ (push_erases hp)
  list := fun _ _ _ _ _ hb hp => by
    simp only [simpleRStore, hb] at hp
    cases hp
    simp only [step, Access.Simple.pushCell, eraseD_push, eraseD_size]; rfl
  frame := fun _ _ _ hp => by
    cases hp
    simp only [step, Access.Simple.pushCell, eraseD_push, eraseD_size]; rfl

end Garnish.Props.RuntimeRefine
