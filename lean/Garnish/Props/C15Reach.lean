/-
C15 for every store reachable through the HEAP-suite operations, under every growth setting that can make progress.

Props/C15.lean proves read-back under two hypotheses on the store the history starts from: the layout invariant
`Inv h0` and `AllProgress h0`.  Here both are discharged:

* `progressSettings sizes pols` is a condition on the SETTINGS ALONE (initial size and `ReallocationStrategy` of each of
  the six blocks: `FixedSize(n)` with `n ≥ 1`; `Multiplicative(n)` with `n ≥ 2` from a non-zero initial size), and it
  is EXACTLY `AllProgress` of the freshly constructed store (`init_progress_iff`);
* `Inv` and `AllProgress` hold after every history (`heap_refines`), so they are invariants of the reachable stores:
  `Reachable` = construction with progressing settings followed by any sequence of the HEAP-suite operations `MOp`
  (instructions, jump table, symbol table, expression symbols, data, custom data, register / value / frame stacks,
  text), each of which is a history of pushes (`mstep_is_history`).

`C15_read_back_reachable`: on a reachable store, the index returned by a push into an append-only table reads back the
pushed cell after ANY later sequence of HEAP-suite operations; `C15_read_back_sorted_reachable` for the two sorted
tables; `reachable_no_panic`: no operation on a reachable store panics.
-/
import Garnish.Props.C15
namespace Garnish.Props.C15Reach
open Garnish Garnish.Store Garnish.Spec Garnish.Props.C15

/-- a growth setting that makes progress from initial size `z` -/
def settingOK (z : Nat) : Policy → Bool
  | .fixed n => decide (1 ≤ n)
  | .mult n => decide (2 ≤ n) && decide (1 ≤ z)

/-- the condition on the settings alone: every block's setting makes progress -/
def progressSettings (sizes : List Nat) (pols : List Policy) : Bool :=
  (sizes.zip pols).all (fun zp => settingOK zp.1 zp.2)

theorem progress_settingOK (b : Garnish.Store.Block) : b.Progress ↔ settingOK b.size b.policy = true := by
  unfold Block.Progress settingOK
  cases b.policy <;> simp

/-- the blocks of a freshly constructed store: block `k` has the `k`-th initial size and setting -/
theorem init_blocks {sizes : List Nat} {pols : List Policy} {maxes : List (Option Nat)} {h : Heap}
    (h1 : sizes.length = 6) (h2 : pols.length = 6) (h3 : maxes.length = 6) (hi : init sizes pols maxes = .ok h) :
    h.blocks.length = 6 ∧ ∀ (k z : Nat) (p : Policy), sizes[k]? = some z → pols[k]? = some p →
      ∃ b, h.blocks[k]? = some b ∧ b.size = z ∧ b.policy = p := by
  have hl : (initBlocks sizes pols maxes).length = sizes.length := by simp [initBlocks, h1, h2, h3]
  obtain ⟨hbl, _, _⟩ := init_eq hl hi
  refine ⟨by rw [hbl, length_layout]; simp [hl, h1], ?_⟩
  intro k z p hz hp
  have hk : k < 6 := by
    rcases Nat.lt_or_ge k 6 with h | h
    · exact h
    · rw [List.getElem?_eq_none (by omega)] at hz; cases hz
  obtain ⟨m, hm⟩ : ∃ m, maxes[k]? = some m := ⟨maxes[k]'(by omega), by simp [h3, hk]⟩
  have hpm : (pols.zip maxes)[k]? = some (p, m) := List.getElem?_zip_eq_some.mpr ⟨hp, hm⟩
  have hzpm : (sizes.zip (pols.zip maxes))[k]? = some (z, p, m) := List.getElem?_zip_eq_some.mpr ⟨hz, hpm⟩
  have hb : (initBlocks sizes pols maxes)[k]? = some { start := 0, cursor := 0, size := z, policy := p, maxItems := m } := by
    simp only [initBlocks, List.getElem?_map, hzpm, Option.map_some]
  have hbz : ((initBlocks sizes pols maxes).zip sizes)[k]? =
      some ({ start := 0, cursor := 0, size := z, policy := p, maxItems := m }, z) := List.getElem?_zip_eq_some.mpr ⟨hb, hz⟩
  obtain ⟨s, hs⟩ := layout_get (cur := 0) hbz
  exact ⟨_, hbl ▸ hs, rfl, rfl⟩

/-- **the settings condition is exactly `AllProgress` of the constructed store** -/
theorem init_progress_iff {sizes : List Nat} {pols : List Policy} {maxes : List (Option Nat)} {h : Heap}
    (h1 : sizes.length = 6) (h2 : pols.length = 6) (h3 : maxes.length = 6) (hi : init sizes pols maxes = .ok h) :
    AllProgress h ↔ progressSettings sizes pols = true := by
  obtain ⟨hlen, hget⟩ := init_blocks h1 h2 h3 hi
  simp only [progressSettings, List.all_eq_true]
  constructor
  · intro hp zp hzp
    obtain ⟨k, hk⟩ := List.getElem?_of_mem hzp
    obtain ⟨hz, hpk⟩ := List.getElem?_zip_eq_some.mp hk
    obtain ⟨b, hb, e1, e2⟩ := hget k zp.1 zp.2 hz hpk
    have := (progress_settingOK b).mp (hp b (List.mem_of_getElem? hb))
    rw [e1, e2] at this; exact this
  · intro hs b hb
    obtain ⟨k, hk⟩ := List.getElem?_of_mem hb
    have hk6 : k < 6 := by
      rcases Nat.lt_or_ge k 6 with h | h
      · exact h
      · rw [List.getElem?_eq_none (by omega)] at hk; cases hk
    obtain ⟨z, hz⟩ : ∃ z, sizes[k]? = some z := ⟨sizes[k]'(by omega), by simp [h1, hk6]⟩
    obtain ⟨p, hp⟩ : ∃ p, pols[k]? = some p := ⟨pols[k]'(by omega), by simp [h2, hk6]⟩
    obtain ⟨b', hb', e1, e2⟩ := hget k z p hz hp
    rw [hk] at hb'
    simp only [Option.some.injEq] at hb'
    subst hb'
    rw [progress_settingOK, e1, e2]
    exact hs (z, p) (List.mem_of_getElem? (List.getElem?_zip_eq_some.mpr ⟨hz, hp⟩))

/-! ### histories of HEAP-suite operations -/

/-- every sequence of HEAP-suite operations is a history of pushes -/
theorem mrun_is_history : ∀ (mops : List MOp) {m m' : MStore}, mrun mops m = .ok m' →
    ∃ ops, run ops m.heap = .ok m'.heap
  | [], m, m', h => by cases h; exact ⟨[], rfl⟩
  | op :: mops, m, m', h => by
    obtain ⟨m1, hs, h⟩ := mrun_ok_cons h
    obtain ⟨ops, hr⟩ := mrun_is_history mops h
    exact ⟨op.lower m ++ ops, run_append _ (mstep_is_history op hs) hr⟩

/-- the stores of the HEAP suite: construction with settings that can make progress, then any operations -/
def Reachable (m : MStore) : Prop :=
  ∃ sizes pols maxes h0 mops, sizes.length = 6 ∧ pols.length = 6 ∧ maxes.length = 6 ∧
    progressSettings sizes pols = true ∧ init sizes pols maxes = .ok h0 ∧ mrun mops { heap := h0 } = .ok m

/-- **`Inv` and `AllProgress` are invariants of the reachable stores** -/
theorem reachable_inv {m : MStore} (h : Reachable m) : Inv m.heap ∧ AllProgress m.heap := by
  obtain ⟨sizes, pols, maxes, h0, mops, h1, h2, h3, hset, hi, hr⟩ := h
  obtain ⟨hinv, _⟩ := init_inv h1 h2 h3 hi
  have hp := (init_progress_iff h1 h2 h3 hi).mpr hset
  obtain ⟨ops, hrun⟩ := mrun_is_history mops hr
  exact (heap_refines ops hinv hp hrun).2

theorem reachable_step {m m' : MStore} {op : MOp} (h : Reachable m) (hs : mstep m op = .ok m') : Reachable m' := by
  obtain ⟨sizes, pols, maxes, h0, mops, h1, h2, h3, hset, hi, hr⟩ := h
  exact ⟨sizes, pols, maxes, h0, mops ++ [op], h1, h2, h3, hset, hi,
    mrun_append mops hr (by rw [mrun_cons, hs]; rfl)⟩

/-- **C15_read_back_reachable**: on ANY store reachable through the HEAP-suite operations from a construction whose
growth settings can make progress, the index a push into an append-only table (instructions, jump table, data, custom
data) returns reads back the pushed cell after ANY later sequence of HEAP-suite operations on any table -/
theorem C15_read_back_reachable {m1 m3 : MStore} {h2 : Heap} {k idx : Nat} {c : Cell} (mops : List MOp)
    (hreach : Reachable m1) (hk : sortedTable k = false) (hpush : pushToBlockN m1.heap k c = .ok (h2, idx))
    (hr : mrun mops { m1 with heap := h2 } = .ok m3) : getN m3.heap k idx = .ok c := by
  obtain ⟨hinv, hp⟩ := reachable_inv hreach
  obtain ⟨ops, hrun⟩ := mrun_is_history mops hr
  exact C15_read_back [] ops hinv hp hk rfl hpush hrun

/-- the same for the two sorted tables (symbol table, expression symbols): the entry stays in the table -/
theorem C15_read_back_sorted_reachable {m1 m3 : MStore} {h2 : Heap} {k : Nat} {c : Cell} (mops : List MOp)
    (hreach : Reachable m1) (hpush : step m1.heap ⟨k, c⟩ = .ok h2)
    (hr : mrun mops { m1 with heap := h2 } = .ok m3) : ∃ i, getN m3.heap k i = .ok c := by
  obtain ⟨hinv, hp⟩ := reachable_inv hreach
  obtain ⟨ops, hrun⟩ := mrun_is_history mops hr
  exact C15_read_back_sorted [] ops hinv hp rfl hpush hrun

/-- no push on a reachable store panics or runs out of fuel; without `max_items` limits it succeeds -/
theorem reachable_no_panic {m : MStore} (hreach : Reachable m) (which : Fin 6) (c : Cell) :
    (∀ site, pushToBlock m.heap which c ≠ .panic site) ∧ pushToBlock m.heap which c ≠ .fuelOut ∧
    (NoMax m.heap → ∃ r, pushToBlock m.heap which c = .ok r) :=
  push_no_panic which c (reachable_inv hreach).1 (reachable_inv hreach).2

/-! ### non-vacuity -/

/-- mixed settings: `FixedSize(1)` from size 0, `Multiplicative(2)` from size 1, `FixedSize(3)` from size 2 -/
example : progressSettings [0, 1, 2, 0, 1, 2] [.fixed 1, .mult 2, .fixed 3, .fixed 1, .mult 3, .fixed 2] = true := by decide

/-- `Multiplicative(2)` from size 0 and `FixedSize(0)` are rejected by the settings condition -/
example : progressSettings [0, 1, 2, 0, 1, 2] [.mult 2, .mult 2, .fixed 3, .fixed 1, .mult 3, .fixed 2] = false := by decide
example : progressSettings (List.replicate 6 10) (List.replicate 6 (.fixed 0)) = false := by decide

/-- a reachable store: mixed settings, then stacks, text and table pushes that make every block grow -/
def exOps : List MOp :=
  [.data 7, .pushRegister 0, .text 3 1, .pushFrame 9, .sym 5 1, .sym 2 0, .instr 4, .instr 5, .jump 1, .jump 2, .custom 3,
   .pushValue 1, .expr 8 2]

example : ∃ h0 m, init [0, 1, 2, 0, 1, 2] [.fixed 1, .mult 2, .fixed 3, .fixed 1, .mult 3, .fixed 2] (List.replicate 6 none) = .ok h0 ∧
    mrun exOps { heap := h0 } = .ok m ∧ Reachable m ∧
    -- a push into the data block, more operations, and the read-back
    ∃ h2 idx m3, pushToBlockN m.heap 4 (.num 42) = .ok (h2, idx) ∧
      mrun [.text 5 2, .instr 1, .pushFrame 3, .data 8] { m with heap := h2 } = .ok m3 ∧ getN m3.heap 4 idx = .ok (.num 42) := by
  refine ⟨_, _, rfl, rfl, ⟨[0, 1, 2, 0, 1, 2], [.fixed 1, .mult 2, .fixed 3, .fixed 1, .mult 3, .fixed 2],
    List.replicate 6 none, _, exOps, rfl, rfl, rfl, by decide, rfl, rfl⟩, _, _, _, rfl, rfl, rfl⟩

end Garnish.Props.C15Reach
