/-
Property C18, TEXT level, part 6: the result corollary for a blank inserted after an operator token WITHOUT any hypothesis
about the rewritten text.

The fragment hypothesis of `C01_text_correct` is only used through the syntax tree (`Spec.Ex`) that the recogniser's
soundness provides; `ExFrag` states that directly ("the token list is the token list of a well-formed syntax tree without
a trailing blank line before `}`", possibly followed by trivia and a comma), `C01_text_correct_ex` is `C01_text_correct` from
`ExFrag`, and `ExFrag` looks at the token types only (`exFrag_map`, `exFrag_types`) and is closed under inserting a trivia token after a
`Good` token (`exFrag_insert`, from `Spec.ex_insert`; `InsFiller.exFrag`). The operator must be `goodTy`: a binary /
optional-binary operator or an opening bracket — after a prefix operator or between an operand and a suffix operator the
fragment has no trivia slot. `result_pair`: two texts whose token lists are in the fragment and related by `Spec.SameProg` are
built into objects on which the machine halts alike.
-/
import Garnish.Lemmas.ExInsert
import Garnish.Lemmas.ParserFragTypes
import Garnish.Props.C18Text5
namespace Garnish.Props.C18Text6
open Garnish Garnish.Gen Garnish.Spec Garnish.Model Garnish.Model.Lexer Garnish.Model.Parser
open Garnish.Abs Garnish.Abs.Source Garnish.Props.C02Parse Garnish.Props.C18Parse Garnish.Props.C18Text
open Garnish.Props.C18Text4 Garnish.Props.C18Text5
open Garnish.Abs.Tree Garnish.Model.Literals Garnish.Model.Build Garnish.Props.C01Build Garnish.Props.C01Source
open Garnish.Props.C02Numbered

/-- the token list of a well-formed syntax tree (all features) without a trailing blank line before `}`, possibly followed
by trivia and a comma: what `frag9'` recognises (`exFrag_of_frag9'`) -/
def ExFrag (toks : List PToken) : Prop :=
  (∃ e : Spec.Ex, e.ok ⟨true, true, true⟩ false = true ∧ e.garb = 0 ∧ e.toks = toks) ∨
  (∃ (e : Spec.Ex) (ws1 : List PToken) (k : PToken), e.ok ⟨true, true, true⟩ false = true ∧ e.garb = 0 ∧
    (∀ w ∈ ws1, isTriviaTok w = true) ∧ isCommaTok k = true ∧ toks = e.toks ++ (ws1 ++ [k]))

theorem exFrag_of_frag9' {toks : List PToken} (h : frag9' toks = true) : ExFrag toks := by
  unfold frag9' frag9N at h
  rcases Bool.or_eq_true _ _ |>.mp h with h | h
  · obtain ⟨e, hok, he, hg⟩ := fragFN_sound h
    exact Or.inl ⟨e, hok, hg, he⟩
  · obtain ⟨e, ws1, k, hok, hg, hw, hk, he⟩ := fragTCN_sound h
    exact Or.inr ⟨e, ws1, k, hok, hg, hw, hk, he⟩

theorem exFrag_map {a : List PToken} (h : ExFrag a) {f : PToken → PToken} (hf : ∀ t, (f t).type = t.type) :
    ExFrag (a.map f) := by
  rcases h with ⟨e, hok, hg, he⟩ | ⟨e, ws1, k, hok, hg, hw, hk, he⟩
  · exact Or.inl ⟨e.map f, by rw [Ex.ok_map hf]; exact hok, by rw [Ex.garb_map]; exact hg, by rw [Ex.toks_map, he]⟩
  · refine Or.inr ⟨e.map f, ws1.map f, f k, by rw [Ex.ok_map hf]; exact hok, by rw [Ex.garb_map]; exact hg, ?_, ?_, ?_⟩
    · intro x hx
      obtain ⟨y, hy, rfl⟩ := List.mem_map.mp hx
      rw [tp_trivia hf]; exact hw y hy
    · rw [tp_comma hf]; exact hk
    · rw [he, Ex.toks_map]; simp

theorem exFrag_insert {pre post : List PToken} {p w : PToken} (h : ExFrag (pre ++ p :: post)) (hpost : post ≠ [])
    (hg : Good p) (hw : isTriviaTok w = true) : ExFrag (pre ++ p :: w :: post) := by
  rcases h with ⟨e, hok, hgb, he⟩ | ⟨e, ws1, k, hok, hgb, hws, hk, he⟩
  · obtain ⟨e', hl, ht⟩ := ex_insert hw e _ _ hok pre p post he hpost hg
    exact Or.inl ⟨e', hl.1 _ _ hok, by rw [hl.2.1]; exact hgb, ht⟩
  · rcases split_app he.symm with ⟨post1, h1, h2⟩ | ⟨pre2, h1, h2⟩
    · subst h2
      by_cases hp1 : post1 = []
      · subst hp1
        refine Or.inr ⟨e, w :: ws1, k, hok, hgb, ?_, hk, by simp [h1]⟩
        intro x hx
        rcases List.mem_cons.mp hx with rfl | hx
        · exact hw
        · exact hws x hx
      · obtain ⟨e', hl, ht⟩ := ex_insert hw e _ _ hok pre p post1 h1 hp1 hg
        exact Or.inr ⟨e', ws1, k, hl.1 _ _ hok, by rw [hl.2.1]; exact hgb, hws, hk, by simp [ht]⟩
    · subst h1
      obtain ⟨post1, h3, h4⟩ := tail_ws_c h2 hpost
      subst h3 h4
      refine Or.inr ⟨e, pre2 ++ p :: w :: post1, k, hok, hgb, ?_, hk, by simp⟩
      intro x hx
      simp only [List.mem_append, List.mem_cons] at hx
      rcases hx with hx | rfl | rfl | hx
      · exact hws x (by simp [hx])
      · exact hws x (by simp)
      · exact hw
      · exact hws x (by simp [hx])

variable {F : Type} (pf : List Char → Option F)

/-- **`C01_text_correct` from the syntax tree instead of the recogniser** -/
theorem C01_text_correct_ex (cc : CharClass) (fo : FloatOps F) (host : Host F) (s : List Char) (toks : List LexerToken)
    (hlex : lex cc s = .ok toks) (hf : ExFrag (toP toks)) (rt : RTree)
    (href : refParse Table.gen (toP toks) = .ok rt) (p : Program F) (hel : elaborate pf (toP toks) rt = some p)
    (hwf : C01.WFProgram p) (input : Val F) (fuel : Nat) (v : Val F) (st : St F)
    (h : evalProgram fo host fuel p input = .ok (v, st)) :
    ∃ d entry, C01Text.buildText pf cc s = .ok (d, entry) ∧
      ∃ n m, run fo host (progOf d) n
          { pc := (progOf d).jumps[entry]?.getD 0, regs := [], vals := [input], frames := [], trace := [] } = (.halted m, n) ∧
        m.vals = [v] ∧ m.regs = [] ∧ m.frames = [] ∧ m.trace = st.trace := by
  have hnum : NumberedFrom 0 (toP toks) := Lexer.toP_numbered toks
  have key : ∃ r t, parse (toP toks) = .ok r ∧ toTree r = some t ∧
      refParse Table.gen (toP toks) = .ok (toRG (dfOf r.nodes) t) ∧ t.inorder = List.range r.nodes.size := by
    rcases hf with ⟨e, hok, hg, he⟩ | ⟨e, ws1, k, hok, hg, hw, hk, he⟩
    · rw [← he] at hnum ⊢
      obtain ⟨r, t, h1, h2, h3, h4⟩ := parse_ex_range e hok hg hnum
      exact ⟨r, t, h1, h2, h4, h3⟩
    · rw [he] at hnum ⊢
      obtain ⟨r, t, h1, h2, h3, g3, g4⟩ := parse_ex_comma_full e hok ws1 k hw hk hnum
      exact ⟨r, t, h1, h2, h3, sortedIn_full g3 (by rw [hg] at g4; exact g4)⟩
  obtain ⟨r, t, h1, h2, h3, h4⟩ := key
  rw [href] at h3
  cases h3
  exact C01Blocks.C01_text_correct_blocks pf cc fo host s toks hlex r t h1 h2 h4 p hel hwf input fuel v st h

/-! ### the rewritten token list is in the fragment -/

theorem exFrag_types {a b : List PToken} (hnum : NumberedFrom 0 a) (hs : SameTypes a b) (h : ExFrag a) : ExFrag b := by
  rw [← map_retok a b [] hnum hs]
  exact exFrag_map h (retok_type b)

theorem _root_.Garnish.Spec.InsFiller.exFrag {a b X Y : List PToken} {p w : PToken} (h : InsFiller a b X p w Y) (hY : Y ≠ [])
    (hg : Good p) (hnum : NumberedFrom 0 a) (hf : ExFrag a) : ExFrag b := by
  rw [h.eq]
  exact exFrag_insert (exFrag_types hnum h.types hf) hY hg (by simpa [isTriviaTok, isFiller] using h.filler)

theorem result_pair (cc : CharClass) (fo : FloatOps F) (host : Host F) {s s' : List Char} {T T' : List LexerToken}
    (hl : lex cc s = .ok T) (hl' : lex cc s' = .ok T') (hf : ExFrag (toP T)) (hf' : ExFrag (toP T'))
    (hsp : SameProg (toP T) (toP T')) (hn : NoTrim (toP T))
    (rt : RTree) (href : refParse Table.gen (toP T) = .ok rt) (p : Program F) (hel : elaborate pf (toP T) rt = some p)
    (hwf : C01.WFProgram p) (input : Val F) (fuel : Nat) (v : Val F) (st : St F)
    (he : evalProgram fo host fuel p input = .ok (v, st)) :
    ∀ src ∈ [s, s'], ∃ d entry, C01Text.buildText pf cc src = .ok (d, entry) ∧
      ∃ n m, run fo host (progOf d) n
          { pc := (progOf d).jumps[entry]?.getD 0, regs := [], vals := [input], frames := [], trace := [] } = (.halted m, n) ∧
        m.vals = [v] ∧ m.regs = [] ∧ m.frames = [] ∧ m.trace = st.trace := by
  obtain ⟨rt', href', _, hel'⟩ := (hsp hn).2 rt href
  exact forall_mem_pair (C01_text_correct_ex pf cc fo host _ _ hl hf rt href p hel hwf input fuel v st he)
    (C01_text_correct_ex pf cc fo host _ _ hl' hf' rt' href' p (by rw [hel' pf]; exact hel) hwf input fuel v st he)

/-- **a blank after a binary operator / opening bracket, result**: hypotheses about the ORIGINAL text only — both texts are
built into objects on which the machine halts with the same value and trace -/
theorem C18_text_padOperator_result'' (cc : CharClass) (hcc : cc.SaneBlank)
    (hcc2 : cc.Sane2) (fo : FloatOps F) (host : Host F) (s s' : List Char) (toks : List LexerToken) (t : LexerToken)
    (h : TextPadOperatorAt cc s s' toks t) (hgood : goodTy t.tokenType = true)
    (hop : opLikeBefore { text := t.text, type := t.tokenType, row := 0, col := 0 } = true)
    (T : List LexerToken) (hl : lex cc s = .ok T) (hf : frag9' (toP T) = true)
    (rt : RTree) (href : refParse Table.gen (toP T) = .ok rt) (p : Program F) (hel : elaborate pf (toP T) rt = some p)
    (hwf : C01.WFProgram p) (input : Val F) (fuel : Nat) (v : Val F) (st : St F)
    (he : evalProgram fo host fuel p input = .ok (v, st)) :
    ∀ src ∈ [s, s'], ∃ d entry, C01Text.buildText pf cc src = .ok (d, entry) ∧
      ∃ n m, run fo host (progOf d) n
          { pc := (progOf d).jumps[entry]?.getD 0, regs := [], vals := [input], frames := [], trace := [] } = (.halted m, n) ∧
        m.vals = [v] ∧ m.regs = [] ∧ m.frames = [] ∧ m.trace = st.trace := by
  obtain ⟨T', w, B, B', hl', rfl, rfl, hw, hs, hB⟩ := C18_text_padOperator_lex' cc hcc hcc2 s s' toks t h T hl
  have hx := exFrag_of_frag9' hf
  exact result_pair pf cc fo host hl hl' hx
    ((insFiller_toP toks B B' t t w rfl (by simp [isFiller, hw]) hs (fun _ => rfl)).exFrag
      (toPFrom_ne_nil (sameTT_ne_nil hs hB)) hgood (Lexer.toP_numbered _) hx)
    (padOperator_sameProg toks B B' t w hw hs hB hop) (frag9_noTrim (frag9'_sub hf)) rt href p hel hwf input fuel v st he

end Garnish.Props.C18Text6
