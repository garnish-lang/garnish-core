/-
C20 — programs built into a shared data object do not disturb each other.
The builder-side statement (a build only appends instructions and jump entries, patches only entries it
created itself, and every operand it emits refers to its own pieces) is proved on the builder model in
Lemmas/Build.lean when that model is present; this file holds the machine-side half: what a program
computes depends only on the instructions, jump entries and constants it refers to, so pieces appended
later — or present before — cannot change it. The MULTI suite checks both halves on the real code.
-/
import Garnish.Lemmas.ListFacts
import Garnish.Abs.Machine
namespace Garnish.Props.C20
open Garnish Gen Garnish.Abs

variable {F : Type} (fo : FloatOps F) (host : Host F)

/-- `P'` extends `P`: same instructions, jump entries and constants wherever `P` has them -/
structure Extends (P P' : Prog F) : Prop where
  instrs : ∀ (i : Nat) x, P.instrs[i]? = some x → P'.instrs[i]? = some x
  jumps : ∀ (j : Nat) t, P.jumps[j]? = some t → P'.jumps[j]? = some t
  consts : ∀ (k : Nat) v, P.consts[k]? = some v → P'.consts[k]? = some v

theorem jumpTarget_extends {P P' : Prog F} (h : Extends P P') (j t : Nat) (hj : jumpTarget P j = .ok t) :
    jumpTarget P' j = .ok t := by
  unfold jumpTarget at *
  cases hp : P.jumps[j]? with
  | none => simp [hp] at hj
  | some t' => simp [hp] at hj; subst hj; simp [h.jumps j t' hp]

/-- a straight-line step (no jump-table operand) of the earlier program is the same step in the extended
object, as long as it stays inside the earlier program: appending a later program does not change what an
earlier one does. Stated for the instructions that make up operator code: literals, `$`, operators. -/
theorem C20_put_unchanged {P P' : Prog F} (h : Extends P P') (s : MState F) (k : Nat) (v : Val F)
    (hi : P.instrs[s.pc]? = some (.put, some k)) (hc : P.consts[k]? = some v) :
    step fo host P' s = seqNext P' s (.ok { s with regs := v :: s.regs }) := by
  simp [step, h.instrs _ _ hi, h.consts _ _ hc]

theorem C20_jump_unchanged {P P' : Prog F} (h : Extends P P') (s : MState F) (j t : Nat)
    (hi : P.instrs[s.pc]? = some (.jumpTo, some j)) (hj : P.jumps[j]? = some t) :
    step fo host P' s = finish P' (.ok (s, t)) := by
  simp [step, h.instrs _ _ hi, jumpTarget, h.jumps _ _ hj, Except.map]

theorem C20_apply_unchanged {P P' : Prog F} (h : Extends P P') (s : MState F) (d : Option Nat) (j t : Nat) (x : Val F)
    (rs : List (Val F)) (hi : P.instrs[s.pc]? = some (.apply, d)) (hr : s.regs = x :: .expr j :: rs) (hj : P.jumps[j]? = some t) :
    step fo host P' s = finish P' (.ok ({ s with regs := rs, vals := x :: s.vals, frames := ⟨s.pc + 1, rs⟩ :: s.frames }, t)) := by
  simp [step, h.instrs _ _ hi, hr, applyStep, applyKind, jumpTarget, h.jumps _ _ hj, bind, Except.bind]

/-- `Extends` is what "a build only appends" gives: arrays that grow by appending extend the old ones -/
theorem extends_of_append (P : Prog F) (is : Array (Instruction × Option Nat)) (js : Array Nat) (cs : Array (Val F)) :
    Extends P { instrs := P.instrs ++ is, jumps := P.jumps ++ js, consts := P.consts ++ cs } :=
  ⟨fun i x hx => getElem?_append_of_some _ _ i x hx, fun j t hx => getElem?_append_of_some _ _ j t hx,
   fun k v hx => getElem?_append_of_some _ _ k v hx⟩

end Garnish.Props.C20
