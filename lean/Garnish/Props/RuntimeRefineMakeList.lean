/-
Runtime refinement, part 3c (C16 / C06 anchor): `make_list` (runtime/src/runtime/list.rs, Model/Runtime/MakeList.lean).

The data object's list builder is specified once in `StoreLaws` through a ghost "list under construction"
(`S.building`): `start_list` opens it empty, `add_to_list` appends one item, `end_list` returns the address of a list
of exactly the added items in the order they were added; popping registers does not disturb it.
`C16_refine_make_list`: with `len` registers `top` on the stack (top at the head) denoting `tvs`, the handler pops
exactly those, pushes ONE address denoting `.list tvs.reverse` — the items in register order, bottom-most first,
which is Abs/Machine `.makeList`: `.list (regs.take n).reverse :: regs.drop n` — and touches nothing else.
`C16_refine_make_list_short`: with fewer registers, the state error before anything is touched.
-/
import Garnish.Lemmas.RuntimeMakeList
import Garnish.Lemmas.RuntimeRefStore
namespace Garnish.Props.RuntimeRefine
open Garnish Gen Garnish.Abs Garnish.Model.Equality Garnish.Model.Runtime Garnish.Lemmas.Runtime

variable {F σ : Type} {S : RStore F σ}

theorem C16_refine_make_list (L : StoreLaws S) {s : σ} (top rest : List Nat) (tvs : List (Val F))
    (hregs : S.regs s = top ++ rest) (hd : DecodesList (S.view s) top tvs) :
    Pushed S s (makeList S top.length s) none rest (.list tvs.reverse) :=
  (Core.makeList_spec L.toK top rest tvs hregs hd trivial nofun).plain

/-- the same, in the words of Abs/Machine: `n ≤ regs.length`, the new list holds `(regs.take n).reverse` -/
theorem C16_refine_make_list_machine (L : StoreLaws S) {s : σ} (n : Nat) (vs : List (Val F))
    (hn : n ≤ (S.regs s).length) (hd : DecodesList (S.view s) ((S.regs s).take n) vs) :
    Pushed S s (makeList S n s) none ((S.regs s).drop n) (.list vs.reverse) := by
  have h := (Core.makeList_spec L.toK ((S.regs s).take n) ((S.regs s).drop n) vs (List.take_append_drop n _).symm hd
    trivial nofun).plain
  rwa [List.length_take, Nat.min_eq_left hn] at h

theorem C16_refine_make_list_short {s : σ} {len : Nat} (h : len > (S.regs s).length) :
    makeList S len s = .err .state := makeList_short h

/-- the add loop alone: after it the construction holds the top registers bottom-most first -/
theorem C16_refine_make_list_add (L : StoreLaws S) (top rest : List Nat) (t : Nat) (s : σ)
    (hregs : S.regs s = top ++ rest) (hb : S.building s = some (t, [])) :
    ∃ t' s', makeListAdd S top.length rest.length t s = .ok (t', s') ∧ Eff S s s' (top ++ rest) (S.vals s) ∧
      S.building s' = some (t', top.reverse) := by
  obtain ⟨t', s', h1, e, hb'⟩ :=
    Core.makeListAdd_spec L.toK top rest top.length 0 t s trivial (by omega) hregs (by rw [hb]; rfl)
  exact ⟨t', s', by simpa using h1, e.toEff, hb'⟩

/-! ### non-vacuity -/

/-- `0: 10   1: 20   2: 30` -/
def mlCells : List (RCell F) := [.num (.int 10), .num (.int 20), .num (.int 30)]

/-- registers `[2, 1, 0, 9]` (30 on top): `make_list 3` builds `[10, 20, 30]` — theorem instantiated … -/
example : Pushed (refStore (fun _ => none)) (RefState.init (mlCells (F := F)) [2, 1, 0, 9])
    (makeList (refStore (fun _ => none)) 3 (RefState.init mlCells [2, 1, 0, 9])) none [9]
    (.list [.num (.int 10), .num (.int 20), .num (.int 30)]) :=
  C16_refine_make_list (refStore_laws (fun _ => none)) [2, 1, 0] [9]
    [.num (.int 30), .num (.int 20), .num (.int 10)] rfl
    (.cons (.num rfl rfl) (.cons (.num rfl rfl) (.cons (.num rfl rfl) .nil)))

/-- registers, the items of the cell at address 3 and the construction state after a run (kernel-evaluable) -/
def mlResult (res : Outcome (Option Nat × RefState Unit)) :
    Option (Option Nat × List Nat × Option (List Nat) × Option (Nat × List Nat)) :=
  match res with
  | .ok (r, s') => some (r, s'.regs, (refView s'.cells).listItems 3, s'.building)
  | _ => none

/-- … and the model run: one new list cell with the item addresses bottom-most first, one register, the
construction closed -/
example : mlResult (makeList (refStore (fun _ => none)) 3 (RefState.init mlCells [2, 1, 0, 9]))
    = some (none, [3, 9], some [0, 1, 2], none) := by decide +kernel

/-- too few registers -/
example : makeList (refStore (fun _ => none)) 5 (RefState.init (mlCells (F := F)) [2, 1, 0, 9]) = .err .state := rfl

end Garnish.Props.RuntimeRefine
