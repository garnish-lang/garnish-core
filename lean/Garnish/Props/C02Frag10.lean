/-
C02: the shapes that lie outside `frag9` — where the real parser and the reference grammar DISAGREE, and where they agree
in rejecting.  Each statement is about concrete token lists and is proved by evaluation; they delimit the fragment: an
extension of `frag9` with `toTree (parse toks) = refParse toks` is impossible for these shapes.

  C02_trailing_semicolon_in_braces   `{a;}`  : `parse` returns `Ok` with an IMPROPER tree — the `;` node keeps the dangling
                                               `right = 3` (no node 3 exists; only a trailing BLANK LINE is unlinked at a
                                               closer) — the reference grammar says syntax error;
  C02_trailing_semicolon_at_end      `a ;`   : `parse` returns the tree `(; a -)`, a separator without right operand; the
                                               reference grammar says syntax error (a `;` is never redundant);
  C02_blank_line_after_operator_in_group `(a + <blank> b)` : `parse` says syntax error (an operator may not be followed by
                                               a separator token), the reference grammar reads a blank line inside `( )` as
                                               whitespace: `(a + b)`;
  C02_suffix_then_operand            `a~~ b` : `parse` gives the SUFFIX operator a right operand: `(~~ a b)` (no `List` node);
                                               the reference grammar has no rule for an operand after a suffix operator
                                               (`unsupported`);
  C02_separator_after_operator_rejected  `a + <blank> b`, `a + ; b`, `{a + <blank> b}` : both say syntax error.
-/
import Garnish.Props.C02Parse
namespace Garnish.Props.C02Frag10
open Garnish Garnish.Gen Garnish.Spec Garnish.Model.Parser Garnish.Props.C02Parse

def shape (n : ParseNode) : Definition × Option Nat × Option Nat × Option Nat := (n.definition, n.parent, n.left, n.right)

def nodesOf (toks : List PToken) : Option (Nat × List (Definition × Option Nat × Option Nat × Option Nat)) :=
  match parse toks with
  | .ok r => some (r.root, r.nodes.toList.map shape)
  | _ => none

def properOf (toks : List PToken) : Option Bool :=
  match parse toks with
  | .ok r => some (toTree r).isSome
  | _ => none

def exBraceSemi : List PToken :=
  [tk .startExpression "{" 0, tk .identifier "a" 1, tk .expressionSeparator ";" 2, tk .endExpression "}" 3]

theorem C02_trailing_semicolon_in_braces :
    nodesOf exBraceSemi = some (0, [(.nestedExpression, none, none, some 2), (.identifier, some 2, none, none),
      (.expressionSeparator, some 0, some 1, some 3)]) ∧
    properOf exBraceSemi = some false ∧ refParse Table.gen exBraceSemi = .err .syntax := by
  refine ⟨by rfl, by decide +kernel, rfl⟩

def exSemiEnd : List PToken := [tk .identifier "a" 0, tk .whitespace " " 1, tk .expressionSeparator ";" 2]

theorem C02_trailing_semicolon_at_end :
    nodesOf exSemiEnd = some (1, [(.identifier, some 1, none, none), (.expressionSeparator, none, some 0, none)]) ∧
    properOf exSemiEnd = some true ∧ refParse Table.gen exSemiEnd = .err .syntax := by
  refine ⟨by rfl, by decide +kernel, rfl⟩

def exGroupBlank : List PToken :=
  [tk .startGroup "(" 0, tk .identifier "a" 1, tk .plusSign "+" 2, tk .subexpression "\n\n" 3, tk .identifier "b" 4,
   tk .endGroup ")" 5]

theorem C02_blank_line_after_operator_in_group :
    nodesOf exGroupBlank = none ∧ (parse exGroupBlank).isOk = false ∧
    refParse Table.gen exGroupBlank =
      .ok (.group .group 0 (.node (.node .nil .identifier 1 .nil) .addition 2 (.node .nil .identifier 4 .nil))) := by
  refine ⟨by rfl, by decide +kernel, rfl⟩

def exSuffixOperand : List PToken :=
  [tk .identifier "a" 0, tk .emptyApply "~~" 1, tk .whitespace " " 2, tk .identifier "b" 3]

theorem C02_suffix_then_operand :
    nodesOf exSuffixOperand = some (1, [(.identifier, some 1, none, none), (.emptyApply, none, some 0, some 2),
      (.identifier, some 1, none, none)]) ∧
    properOf exSuffixOperand = some true ∧ refParse Table.gen exSuffixOperand = .err .unsupported := by
  refine ⟨by rfl, by decide +kernel, rfl⟩

theorem C02_separator_after_operator_rejected :
    (parse [tk .identifier "a" 0, tk .plusSign "+" 1, tk .subexpression "\n\n" 2, tk .identifier "b" 3]).isOk = false ∧
    refParse Table.gen [tk .identifier "a" 0, tk .plusSign "+" 1, tk .subexpression "\n\n" 2, tk .identifier "b" 3] =
      .err .syntax ∧
    (parse [tk .identifier "a" 0, tk .plusSign "+" 1, tk .expressionSeparator ";" 2, tk .identifier "b" 3]).isOk = false ∧
    refParse Table.gen [tk .identifier "a" 0, tk .plusSign "+" 1, tk .expressionSeparator ";" 2, tk .identifier "b" 3] =
      .err .syntax ∧
    (parse [tk .startExpression "{" 0, tk .identifier "a" 1, tk .plusSign "+" 2, tk .subexpression "\n\n" 3,
      tk .identifier "b" 4, tk .endExpression "}" 5]).isOk = false ∧
    refParse Table.gen [tk .startExpression "{" 0, tk .identifier "a" 1, tk .plusSign "+" 2, tk .subexpression "\n\n" 3,
      tk .identifier "b" 4, tk .endExpression "}" 5] = .err .syntax := by
  refine ⟨by decide +kernel, rfl, by decide +kernel, rfl, by decide +kernel, rfl⟩

end Garnish.Props.C02Frag10
