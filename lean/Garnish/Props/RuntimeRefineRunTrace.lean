/-
Runtime refinement, part 10 (C17 anchor): the host TRACE along the RUN and from the source TEXT.

`C17_refine_run_trace`: under the hypotheses of `C01_refine_run` and with related traces at the start (`SimT`), the
state in which the address-level loop ends has recorded exactly the machine's trace, call for call (`TraceRel`: same
instruction / symbol / external value, operand types, operand addresses decoding to the machine's operand values):
each `defer_op` / `resolve` / `apply` happens exactly where the machine records one — no more, no fewer, in order.
`C17_text_to_store_trace`: on top of `C01_text_to_store` — from the source text, on any store with the built program
loaded and an empty record, the host calls the STORE records decode to `evalProgram`'s `st.trace`.
-/
import Garnish.Props.RuntimeRefineTrace
import Garnish.Props.RuntimeRefineRun
import Garnish.Props.C01TextStore
namespace Garnish.Props.RuntimeRefine
open Garnish Gen Garnish.Abs Garnish.Model.Equality Garnish.Model.Runtime Garnish.Lemmas.Runtime

variable {F σ : Type} {S : RStore F σ} {P : Prog F} {host : Host F} (fo : FloatOps F)

/-- the run, with the trace -/
theorem C17_refine_run_trace (L : StoreLawsRun S) (HR : HostRefines S host) (fuel : Nat) (cast : RM σ (Option Nat)) :
    ∀ (n : Nat) (s : σ) (m : MState F), SimT S P s m → Loaded S P s → RunOK fo host P fuel n m →
      ∀ (m' : MState F) (k : Nat), Abs.run fo host P n m = (.halted m', k) →
        ∃ s', executeLoop fo S fuel (fullHandlers fo S fuel cast) n s = .ok ((.end_, k), s') ∧
          SimD S P s' m'.regs m'.vals m'.frames ∧ TraceRel (S.view s') (S.trace s') m'.trace := by
  intro n s m hsimt hl hok m' k hrun
  refine run_follows fo (R := fun s1 m1 => SimT S P s1 m1 ∧ Loaded S P s1)
    (D := fun s1 m1 => SimD S P s1 m1.regs m1.vals m1.frames ∧ TraceRel (S.view s1) (S.trace s1) m1.trace)
    (ok := RunOK fo host P fuel) fuel _ (fun _ _ m1 h hst => h.2 m1 hst) (fun _ s1 m1 ⟨⟨hs1, htr1⟩, hl1⟩ h => ?_)
    n s m ⟨hsimt, hl⟩ hok m' k hrun
  obtain ⟨hss, hst⟩ := step_both_loaded fo L HR fuel cast hs1 hl1 h.1
  have hst := hst htr1
  unfold StepSim at hss
  revert hss hst
  cases Abs.step fo host P m1 with
  | running m2 =>
    intro ⟨s2, h2, hs2, hk2⟩ hst
    exact ⟨s2, h2, ⟨hs2, hst _ s2 h2⟩, loaded_kept hl1 hk2⟩
  | halted m2 =>
    intro ⟨s2, h2, hd2, _⟩ hst
    exact ⟨s2, h2, hd2, hst _ s2 h2⟩
  | err e => intro _ _; trivial

/-- how many calls, and which: the two traces have the same length, and an empty machine trace means the store
recorded nothing -/
theorem C17_traceRel_length {view : StoreView F} {t : List HostCall} {t' : List (Abs.HostCall F)}
    (h : TraceRel view t t') : t.length = t'.length := by
  induction h with
  | nil => rfl
  | cons _ _ ih => simp [ih]

/-! ### non-vacuity: `5 + "a"` on the reference store with a declining host — one `defer Add` call on both sides -/

def traceProg : Prog F :=
  { instrs := #[(.put, some 0), (.put, some 1), (.add, none)], jumps := #[],
    consts := #[.num (.int 5), .chars [97]] }

def traceStore : RefState F :=
  { RefState.init [.num (.int 5), .chars [97]] [] with
    instrs := [(.put, some 0), (.put, some 1), (.add, none)], instrLen := 3 }

theorem traceSim0 : SimT (refStore (fun _ => none)) (traceProg (F := F)) traceStore
    { pc := 0, regs := [], vals := [], frames := [], trace := [] } :=
  ⟨⟨rfl, .nil, .nil, .nil, fun i => by simp [refStore, traceStore, traceProg],
    fun j => by simp [refStore, traceStore, traceProg, RefState.init], rfl⟩, .nil⟩

theorem traceLoaded : Loaded (refStore (fun _ => none)) (traceProg (F := F)) traceStore := by
  intro k v hk
  match k with
  | 0 => simp [traceProg] at hk; subst hk; exact .num rfl rfl
  | 1 => simp [traceProg] at hk; subst hk; exact .chars rfl rfl
  | k + 2 => simp [traceProg] at hk

/-- the loop ends after the machine's 3 steps, and the store's record is the machine's trace: ONE call
`defer(Add, (Number, address 0), (CharList, address 1))` against `defer Add 5 "a"` -/
example : ∃ s', executeLoop fo (refStore (fun _ => none)) 0
      (fullHandlers fo (refStore (fun _ => none)) 0 (RM.fail .unsupported)) 3 (traceStore (F := F)) = .ok ((.end_, 3), s') ∧
    TraceRel (refView s'.cells) s'.trace [Abs.HostCall.defer .add (.num (.int 5)) (.chars [97])] := by
  obtain ⟨s', h1, _, htr⟩ := C17_refine_run_trace fo (refStore_lawsRun _) refStore_hostRefines 0 (RM.fail .unsupported) 3
    _ _ traceSim0 traceLoaded
    (C01_runOK_of_static fo 0 (by
      intro i instr operand hi
      match i with
      | 0 => simp [traceProg] at hi; rw [← hi.1]; rfl
      | 1 => simp [traceProg] at hi; rw [← hi.1]; rfl
      | 2 => simp [traceProg] at hi; rw [← hi.1]; rfl
      | i + 3 => simp [traceProg] at hi) 3 _)
    { pc := 3, regs := [.unit], vals := [], frames := [],
      trace := [Abs.HostCall.defer .add (.num (.int 5)) (.chars [97])] } 3 (by rfl)
  exact ⟨s', h1, htr⟩

end Garnish.Props.RuntimeRefine

namespace Garnish.Props.C01TextStore
open Garnish Garnish.Gen Garnish.Spec Garnish.Abs Garnish.Abs.Tree Garnish.Abs.Source Garnish.Model Garnish.Model.Parser
open Garnish.Model.Lexer Garnish.Model.Literals Garnish.Model.Build Garnish.Props.C01Build Garnish.Props.C01Source
open Garnish.Props.C02Numbered Garnish.Props.C01Text
open Garnish.Model.Equality Garnish.Model.Runtime Garnish.Lemmas.Runtime Garnish.Props.RuntimeRefine

variable {F σ : Type} (pf : List Char → Option F) (cc : CharClass)

/-- **characters → store, with the host calls**: as `C01_text_to_store`, and the calls the store has recorded at the
end decode, call for call and in order, to the trace `evalProgram` assigns to the text's program -/
theorem C17_text_to_store_trace {S : RStore F σ} (L : StoreLawsRun S) (fo : FloatOps F) (host : Host F)
    (HR : HostRefines S host) (loopFuel : Nat) (cast : RM σ (Option Nat))
    (s : List Char) (toks : List LexerToken)
    (hlex : lex cc s = .ok toks) (hf : frag9' (toP toks) = true) (rt : RTree)
    (href : refParse Table.gen (toP toks) = .ok rt) (p : Program F) (hel : elaborate pf (toP toks) rt = some p)
    (hwf : C01.WFProgram p) (input : Val F) (fuel : Nat) (v : Val F) (st : St F)
    (h : evalProgram fo host fuel p input = .ok (v, st)) :
    ∃ d entry n, buildText pf cc s = .ok (d, entry) ∧
      ∀ s0 : σ, ProgramLoaded S (progOf d) ((progOf d).jumps[entry]?.getD 0) s0 input → S.trace s0 = [] →
        RunOK fo host (progOf d) loopFuel n
          { pc := (progOf d).jumps[entry]?.getD 0, regs := [], vals := [input], frames := [], trace := [] } →
        ∃ s' a, executeLoop fo S loopFuel (fullHandlers fo S loopFuel cast) n s0 = .ok ((.end_, n), s') ∧
          S.vals s' = [a] ∧ Decodes (S.view s') a v ∧ TraceRel (S.view s') (S.trace s') st.trace := by
  obtain ⟨d, entry, hb, n, m, hrun, hv, hr, hfr, htrace⟩ :=
    C01_text_correct pf cc fo host s toks hlex hf rt href p hel hwf input fuel v st h
  refine ⟨d, entry, n, hb, fun s0 hload ht0 hok => ?_⟩
  obtain ⟨s', h1, hd, htr⟩ := C17_refine_run_trace fo L HR loopFuel cast n s0 _
    ⟨hload.sim, by rw [ht0]; exact .nil⟩ hload.consts hok m n hrun
  have hvals := hd.vals
  rw [hv] at hvals
  obtain ⟨a, as, e1, da, t⟩ := decodesList_cons_inv hvals
  have has : as = [] := by cases t; rfl
  exact ⟨s', a, h1, by rw [e1, has], da, htrace ▸ htr⟩

end Garnish.Props.C01TextStore
