/-
Property C18, TEXT level, part 3.

(1) Trailing whitespace at the end of the input, result half without hypotheses on the rewritten text.
`frag9'` (and `frag9`) REJECT a token list that ends with a Whitespace token (`frag9'_append_trivia_false`: the fragments
describe trimmed lists), so `C01_text_correct` cannot be applied to the rewritten text, and the hypothesis `hf'` of
`C18Text2.C18_text_trailing_result` is unsatisfiable for it. The right statement needs no fragment for the rewritten text:
the parser returns EXACTLY the same result, hence the whole pipeline does (`C18_text_trailing_build`, every input), and
the machine result follows from `C01_text_correct` for the ORIGINAL text alone (`C18_text_trailing_result'`).

(2) Trailing whitespace on a line (`TextTrailingLine`): see the second half of this file.
-/
import Garnish.Props.C18Text2
import Garnish.Lemmas.LexTrailingLine
import Garnish.Props.C02Support
namespace Garnish.Props.C18Text3
open Garnish Garnish.Gen Garnish.Spec Garnish.Model Garnish.Model.Lexer Garnish.Model.Parser
open Garnish.Abs Garnish.Abs.Source Garnish.Props.C02Parse Garnish.Props.C18Parse Garnish.Props.C18Text
open Garnish.Abs.Tree Garnish.Model.Literals Garnish.Model.Build Garnish.Props.C01Build Garnish.Props.C01Source
open Garnish.Props.C02Numbered Garnish.Props.C18Text2

/-! ### (1) trailing whitespace at the end of the input -/

/-- `frag9' (a ++ [ws]) = frag9' a` does NOT hold for a Whitespace token: a list that ends with a trimmable token is in
neither fragment (they describe what `trim_tokens` leaves) -/
theorem frag9'_append_trivia_false (a : List PToken) (ws : PToken) (hw : isTrimmable ws = true) :
    frag9' (a ++ [ws]) = false ∧ frag9 (a ++ [ws]) = false := by
  have key : frag9 (a ++ [ws]) = false := by
    cases h : frag9 (a ++ [ws]) with
    | false => rfl
    | true =>
      exfalso
      have hn := (frag9_noTrim h).2.2
      simp [trimStart, hw] at hn
  refine ⟨?_, key⟩
  cases h : frag9' (a ++ [ws]) with
  | false => rfl
  | true => rw [frag9'_sub h] at key; cases key

/-- **every input**: the whole pipeline `build(parse(lex(·)))` returns the same result for the two texts -/
theorem C18_text_trailing_build {F : Type} (pf : List Char → Option F) (cc : CharClass) (hcc : cc.SaneBlank)
    (hcc2 : cc.Sane2) (s s' : List Char) (t : List LexerToken) (hl : lex cc s = .ok t) (h : TextTrailingAt cc s s') :
    C01Text.buildText pf cc s' = C01Text.buildText pf cc s := by
  obtain ⟨t', hl', hp, _⟩ := C18_text_trailing cc hcc hcc2 s s' t hl h
  rw [C01Text.buildText, C01Text.buildText, hl, hl', Outcome.bind, Outcome.bind, hp]

/-- **result half**, hypotheses about the ORIGINAL text only: if `s` lexes into `frag9'`, has the reference tree `rt`,
elaborates to a well-formed program `p` and `p` evaluates to `v` with trace `st.trace`, then both `s` and `s'` are built
into the same object, on which the machine halts with exactly that value and trace -/
theorem C18_text_trailing_result' {F : Type} (pf : List Char → Option F) (cc : CharClass) (hcc : cc.SaneBlank)
    (hcc2 : cc.Sane2) (fo : FloatOps F) (host : Host F) (s s' : List Char) (t : List LexerToken) (hl : lex cc s = .ok t)
    (h : TextTrailingAt cc s s') (hf : frag9' (toP t) = true)
    (rt : RTree) (href : refParse Table.gen (toP t) = .ok rt)
    (p : Program F) (hel : elaborate pf (toP t) rt = some p) (hwf : C01.WFProgram p)
    (input : Val F) (fuel : Nat) (v : Val F) (st : St F) (he : evalProgram fo host fuel p input = .ok (v, st)) :
    ∃ d entry, C01Text.buildText pf cc s = .ok (d, entry) ∧ C01Text.buildText pf cc s' = .ok (d, entry) ∧
      ∃ n m, run fo host (progOf d) n
          { pc := (progOf d).jumps[entry]?.getD 0, regs := [], vals := [input], frames := [], trace := [] } = (.halted m, n) ∧
        m.vals = [v] ∧ m.regs = [] ∧ m.frames = [] ∧ m.trace = st.trace := by
  obtain ⟨d, entry, hb, hrun⟩ := C01Text.C01_text_correct pf cc fo host s t hl hf rt href p hel hwf input fuel v st he
  exact ⟨d, entry, hb, by rw [C18_text_trailing_build pf cc hcc hcc2 s s' t hl h]; exact hb, hrun⟩

/-! ### (2) trailing whitespace on a line -/

/-- **blanks inserted directly before a newline**: `s = p ++ "\n" ++ b`, `s' = p ++ w ++ "\n" ++ b`, `w` a non-empty run of
spaces/tabs, where the lexer ends `p` with a pending number / float / identifier / annotation / operator or between tokens
(`TrailGuard`; when `p` already ends in whitespace the rewrite is an instance of `TextAddSpace`) -/
def TextTrailingLine (cc : CharClass) (s s' : List Char) : Prop :=
  ∃ p c r b, (c = ' ' ∨ c = '\t') ∧ (∀ x ∈ r, x = ' ' ∨ x = '\t') ∧ s = p ++ '\n' :: b ∧ s' = p ++ c :: (r ++ '\n' :: b) ∧
    TrailGuard cc p

/-- **through the lexer**: the same tokens except for the text of ONE whitespace token (the run that contains the
newline); its type is the same on both sides — Whitespace when a single newline follows, Subexpression when the run
contains a blank line (see the examples below) -/
theorem C18_text_trailing_line_lex (cc : CharClass) (hcc : cc.SaneBlank) (hcc2 : cc.Sane2) (s s' : List Char)
    (t : List LexerToken) (hl : lex cc s = .ok t) (h : TextTrailingLine cc s s') :
    ∃ t', lex cc s' = .ok t' ∧ OneWsChanged t t' := by
  obtain ⟨p, c, r, b, hc, hr, rfl, rfl, σ, toks, hrun, hG⟩ := h
  exact lex_trailing_line cc hcc hcc2 p c r b hc hr σ toks hrun hG t hl

/-! everything else is inherited from the chain for one changed whitespace token -/

/-- **the real parser on `frag9`** (hypothesis on the original tokens only): both parse, to the same tree -/
theorem C18_oneWsChanged_parse (t t' : List LexerToken) (h : OneWsChanged t t') (hf : frag9 (toP t) = true) :
    ∃ r tr r' tr', parse (toP t) = .ok r ∧ toTree r = some tr ∧ parse (toP t') = .ok r' ∧ toTree r' = some tr' ∧
      treeToRG r tr = treeToRG r' tr' ∧ TreeEqTrivia (treeToRG r tr) (treeToRG r' tr') := by
  have hf' : frag9 (toP t') = true := by rw [← C02Support.frag9_toP h.sameTypes]; exact hf
  obtain ⟨r, tr, h1, h2, h3⟩ := C02_parse_correct_fragment_optional (toP t) hf (toP_numbered t)
  obtain ⟨r', tr', h1', h2', h3'⟩ := C02_parse_correct_fragment_optional (toP t') hf' (toP_numbered t')
  have heq : treeToRG r tr = treeToRG r' tr' :=
    Outcome.ok.inj (h3.symm.trans ((refParse_types Table.gen h.sameTypes).trans h3'))
  exact ⟨r, tr, r', tr', h1, h2, h1', h2', heq, by rw [TreeEqTrivia, heq]⟩

theorem C18_text_trailing_line (cc : CharClass) (hcc : cc.SaneBlank) (hcc2 : cc.Sane2) (s s' : List Char)
    (t : List LexerToken) (hl : lex cc s = .ok t) (h : TextTrailingLine cc s s') (hf : frag9 (toP t) = true) :
    ∃ t' r tr r' tr', lex cc s' = .ok t' ∧ parse (toP t) = .ok r ∧ toTree r = some tr ∧ parse (toP t') = .ok r' ∧
      toTree r' = some tr' ∧ treeToRG r tr = treeToRG r' tr' ∧ TreeEqTrivia (treeToRG r tr) (treeToRG r' tr') := by
  obtain ⟨t', hl', hc⟩ := C18_text_trailing_line_lex cc hcc hcc2 s s' t hl h
  obtain ⟨r, tr, r', tr', h1, h2, h3, h4, h5, h6⟩ := C18_oneWsChanged_parse t t' hc hf
  exact ⟨t', r, tr, r', tr', hl', h1, h2, h3, h4, h5, h6⟩

/-- **result half on `frag9'`**, hypotheses about the ORIGINAL text only -/
theorem C18_text_trailing_line_result {F : Type} (pf : List Char → Option F) (cc : CharClass) (hcc : cc.SaneBlank)
    (hcc2 : cc.Sane2) (fo : FloatOps F) (host : Host F) (s s' : List Char) (t : List LexerToken) (hl : lex cc s = .ok t)
    (h : TextTrailingLine cc s s') (hf : frag9' (toP t) = true)
    (rt : RTree) (href : refParse Table.gen (toP t) = .ok rt)
    (p : Program F) (hel : elaborate pf (toP t) rt = some p) (hwf : C01.WFProgram p)
    (input : Val F) (fuel : Nat) (v : Val F) (st : St F) (he : evalProgram fo host fuel p input = .ok (v, st)) :
    ∀ src ∈ [s, s'], ∃ d entry, C01Text.buildText pf cc src = .ok (d, entry) ∧
      ∃ n m, run fo host (progOf d) n
          { pc := (progOf d).jumps[entry]?.getD 0, regs := [], vals := [input], frames := [], trace := [] } = (.halted m, n) ∧
        m.vals = [v] ∧ m.regs = [] ∧ m.frames = [] ∧ m.trace = st.trace := by
  obtain ⟨t', hl', hc⟩ := C18_text_trailing_line_lex cc hcc hcc2 s s' t hl h
  have href' : refParse Table.gen (toP t') = .ok rt := by rw [← refParse_types Table.gen hc.sameTypes]; exact href
  have hel' : elaborate pf (toP t') rt = some p := by
    rw [C02Support.C18_text_addSpace_elaborate' pf t t' hc rt href]; exact hel
  have hf' : frag9' (toP t') = true := by rw [← C02Support.frag9'_toP hc.sameTypes]; exact hf
  exact forall_mem_pair (C01Text.C01_text_correct pf cc fo host _ t hl hf rt href p hel hwf input fuel v st he)
    (C01Text.C01_text_correct pf cc fo host _ t' hl' hf' rt href' p hel' hwf input fuel v st he)

/-! ### non-vacuity (Rust tables) -/

/-- `x +` newline `y`  →  `x + \t` newline `y` : licensed (the lexer ends `x +` with the pending operator) -/
theorem exLine : TextTrailingLine rustTables ['x', ' ', '+', '\n', 'y'] ['x', ' ', '+', ' ', '\t', '\n', 'y'] :=
  ⟨['x', ' ', '+'], ' ', ['\t'], ['y'], Or.inl rfl, by simp, rfl, rfl,
    trailGuard_of_check (by rw [trailGuardB, theTree_eq]; decide +kernel)⟩

/-- **a single newline**: the run stays ONE Whitespace token, with or without the trailing blanks -/
theorem exLine_single :
    C18Lex.typesTexts (lex rustTables ['x', ' ', '+', '\n', 'y']) =
      [(.identifier, ['x']), (.whitespace, [' ']), (.plusSign, ['+']), (.whitespace, ['\n']), (.identifier, ['y'])] ∧
    C18Lex.typesTexts (lex rustTables ['x', ' ', '+', ' ', '\t', '\n', 'y']) =
      [(.identifier, ['x']), (.whitespace, [' ']), (.plusSign, ['+']), (.whitespace, [' ', '\t', '\n']),
       (.identifier, ['y'])] := by simp only [lex_eq]; decide +kernel

/-- **a blank line**: the run is ONE Subexpression token either way (the repaired behaviour) -/
theorem exLine_blank :
    C18Lex.typesTexts (lex rustTables ['x', '\n', '\n', 'y']) =
      [(.identifier, ['x']), (.subexpression, ['\n', '\n']), (.identifier, ['y'])] ∧
    C18Lex.typesTexts (lex rustTables ['x', ' ', ' ', '\n', '\n', 'y']) =
      [(.identifier, ['x']), (.subexpression, [' ', ' ', '\n', '\n']), (.identifier, ['y'])] ∧
    C18Lex.typesTexts (lex rustTables ['x', '\n', ' ', '\n', 'y']) =
      [(.identifier, ['x']), (.subexpression, ['\n', ' ', '\n']), (.identifier, ['y'])] := by
  simp only [lex_eq]; decide +kernel

end Garnish.Props.C18Text3
