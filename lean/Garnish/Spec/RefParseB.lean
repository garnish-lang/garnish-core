/-
The reference grammar extended with side-effect blocks `[ body ]`, AS THE PARSER TREATS THEM (a description of the
implementation, validated per input against the parser model in Props/C02Blocks.lean — not a language definition):

  (A) after a value        `v [b]`       the block becomes the RIGHT child of the value node; the list flag is cleared;
  (B) at an operand position after an operator / `,` / separator, or directly after `(` `{` `[`
                           `e + [b]`     the block is plugged in as the operand and stays PENDING: a value that follows
                           `e + [b] v`   (with or without whitespace) takes it as its LEFT child; a closer / the end
                                         accepts it as the operand; an operator is a syntax error;
  (C) at the very start    `[b]`         as (B), but the block counts as a complete operand: an operator may follow,
                           `[b] v`       a value directly behind it takes it as LEFT child, after whitespace it is a list item;
  (D) after a closed group `(e) [b]`     FINDING F-C18-side-effect-after-group, mirrored here: the block is spliced INSIDE
                                         the group, as a SideEffect node whose LEFT child is the content of the group.
Everything else around a block (`v [b] [c]`, a bracket after a pending block, a block after a suffix operator, …) is
`unsupported`.  All other tokens are handled by `refStep` of Spec/RefParse.lean; `refParseB_conservative`
(Lemmas/RefParseB.lean): without `[` / `]` tokens `refParseB = refParse`.
-/
import Garnish.Spec.RefParse

namespace Garnish.Spec
open Garnish Garnish.Gen Garnish.Model.Parser

inductive BMode where
  | valueRight
  | groupSplice
  | pending (soft : Bool)
deriving Repr, DecidableEq

/-- state of the extended pass: `pend = some (C, SE, soft)`: the block `SE` has just been plugged into the tree `C` -/
structure BSt where
  f : Frame
  stack : List Frame
  modes : List BMode
  pend : Option (RTree × RTree × Bool)

/-- what the bottom of the right spine is: 0 nothing, 1 a node without right child, 2 a closed `( )` / `{ }`,
    3 a block (a closed block is kept as an opaque `group .sideEffect` node while the pass runs: no later operator may walk
    into it; `unB` turns it into the parser`s SideEffect node at the end) -/
def bottomKind : RTree → Nat
  | .nil => 0
  | .group d _ _ => if d == .sideEffect then 3 else 2
  | .node _ _ _ r => if r.isNil then 1 else bottomKind r

/-- the parser`s shape of a block: a SideEffect node without left child -/
def unB : RTree → RTree
  | .nil => .nil
  | .node l d k r => .node (unB l) d k (unB r)
  | .group d k i => if d == .sideEffect then .node .nil .sideEffect k (unB i) else .group d k (unB i)

def setBottomRight : RTree → RTree → RTree
  | .nil, x => x
  | .group d k i, _ => .group d k i
  | .node l d k r, x => if r.isNil then .node l d k x else .node l d k (setBottomRight r x)

def spliceGroup : RTree → Nat → RTree → RTree
  | .nil, _, _ => .nil
  | .group d k i, pos, body => .group d k (.node i .sideEffect pos body)
  | .node l d k r, pos, body => .node l d k (spliceGroup r pos body)

def bottomIsAccess : RTree → Bool
  | .nil => false
  | .group _ _ _ => false
  | .node _ d _ r => if r.isNil then d == .access else bottomIsAccess r

def blockFrame (pos : Nat) : Frame := { ctx := some (.sideEffect, pos), cur := .nil, last := .start, ws := false, prevSep := false }

def liftStep (s : BSt) (pend : Option (RTree × RTree × Bool)) (r : Outcome (Frame × List Frame)) : Outcome BSt :=
  match r with
  | .ok (f, stack) => .ok { s with f := f, stack := stack, pend := pend }
  | .err e => .err e
  | .panic m => .panic m
  | .fuelOut => .fuelOut

def refStepB (tbl : Table) (s : BSt) (pos : Nat) (t : PToken) (rest : List PToken) : Outcome BSt :=
  let (d, sd) := tbl.define t.type
  match sd with
  | .startSideEffect =>
    if s.pend.isSome then .err .unsupported
    else
      let opened (m : BMode) : Outcome BSt :=
        .ok { f := blockFrame pos, stack := s.f :: s.stack, modes := m :: s.modes, pend := none }
      match s.f.last with
      | .operand =>
        if bottomKind s.f.cur == 1 then opened .valueRight
        else if bottomKind s.f.cur == 2 then opened .groupSplice
        else .err .unsupported
      | .op | .optOp | .sep => opened (.pending false)
      | .start => opened (.pending s.f.ctx.isNone)
      | .suffix => .err .unsupported
  | .endSideEffect =>
    match s.f.ctx, s.stack, s.modes with
    | some (.sideEffect, gp), parent :: stack, m :: modes =>
      -- a pending block directly before `]` (the parser: syntax error, or the block is dropped): not mirrored
      if s.pend.isSome then .err .unsupported
      else if s.f.last == .op || s.f.last == .sep then .err .syntax
      else
        let se : RTree := .group .sideEffect gp s.f.cur
        match m with
        | .valueRight =>
          .ok { f := { parent with cur := setBottomRight parent.cur se, last := .operand, ws := false, prevSep := false },
                stack := stack, modes := modes, pend := none }
        | .groupSplice =>
          .ok { f := { parent with cur := spliceGroup parent.cur gp s.f.cur, last := .operand, ws := false, prevSep := false },
                stack := stack, modes := modes, pend := some (.nil, .nil, false) }
        | .pending soft =>
          .ok { f := { parent with cur := plug parent.cur se, last := if soft then .operand else parent.last, ws := false,
                                   prevSep := false },
                stack := stack, modes := modes, pend := some (parent.cur, se, soft) }
    | _, _, _ => .err .syntax
  | _ =>
    match s.pend with
    | none => liftStep s none (refStep tbl s.f s.stack pos t rest)
    | some (c, se, soft) =>
      match sd with
      | .annotation | .whitespace => liftStep s s.pend (refStep tbl s.f s.stack pos t rest)
      | .value | .identifier =>
        if d == .drop || d == .expressionTerminator then .err .unsupported
        else if se.isNil then .err .unsupported    -- after a block spliced into a group
        else if soft && s.f.ws then liftStep s none (refStep tbl s.f s.stack pos t rest)
        else
          let d' := if bottomIsAccess c && d == .identifier then .property else d
          .ok { s with f := { s.f with cur := plug c (.node se d' pos .nil), last := .operand, ws := false, prevSep := false },
                       pend := none }
      | .endGrouping =>
        -- the parser: after an operator a syntax error; directly after the opener the block is dropped (not mirrored)
        if c.isNil && !se.isNil then .err .unsupported else .err .syntax
      | .binaryLeftToRight | .binaryRightToLeft | .unarySuffix | .optionalBinaryLeftToRight | .subexpression =>
        if soft then liftStep s none (refStep tbl s.f s.stack pos t rest) else .err .syntax
      | _ => .err .unsupported

def refLoopB (tbl : Table) : BSt → Nat → List PToken → Outcome RTree
  | s, _, [] =>
    if !s.stack.isEmpty then .err .syntax
    else if s.pend.isNone && (s.f.last == .op || s.f.last == .sep) then .err .syntax
    else .ok (unB s.f.cur)
  | s, pos, t :: rest => Outcome.bind (refStepB tbl s pos t rest) fun s' => refLoopB tbl s' (pos + 1) rest

def BSt.top : BSt := { f := Frame.top, stack := [], modes := [], pend := none }

/-- reference parse with side-effect blocks (same trimming as `refParse`) -/
def refParseB (tbl : Table) (toks : List PToken) : Outcome RTree :=
  let start := trimStart toks
  let stop := toks.length - trimStart toks.reverse
  if start ≥ stop then .ok .nil
  else refLoopB tbl BSt.top start ((toks.drop start).take (stop - start))

end Garnish.Spec
